/-!
# Facts about lists and `if` that several parts of the development use

Nothing here mentions the model; the file imports nothing.  Each fact is stated once, about variables; where a part keeps a
lemma of its own under a name that a check's entry or a document mentions, that lemma is an application of the one here.
-/
namespace Neatvi.Basics

/-- peel an `if` off a hypothesis by unifying at its head (`split at h` goes through all of `h`, which is slow when
    `h` holds an unfolded model function) -/
theorem ite_eq_cases {α : Type} {c : Prop} [Decidable c] {a b x : α} (h : (if c then a else b) = x) :
    c ∧ a = x ∨ ¬c ∧ b = x := by
  by_cases hc : c
  · exact Or.inl ⟨hc, (if_pos hc).symm.trans h⟩
  · exact Or.inr ⟨hc, (if_neg hc).symm.trans h⟩

theorem ite_elim {α : Type} {c : Prop} [Decidable c] {a b : α} {P : α → Prop} (ha : c → P a) (hb : ¬ c → P b) :
    P (if c then a else b) := by
  by_cases hc : c
  · rw [if_pos hc]; exact ha hc
  · rw [if_neg hc]; exact hb hc

/-- `ite_elim` when neither branch needs its condition: on a goal `P (if c then a else b)` with a long `a`, `b` it takes
    the test off the goal, where `split` would abstract it in the whole body -/
theorem ite_both {α : Type} {c : Prop} [Decidable c] {a b : α} {P : α → Prop} (ha : P a) (hb : P b) :
    P (if c then a else b) := ite_elim (fun _ => ha) (fun _ => hb)

theorem foldl_inv {α β} (P : β → Prop) (F : β → α → β) (hF : ∀ s a, P s → P (F s a)) :
    ∀ (l : List α) (s : β), P s → P (l.foldl F s) :=
  fun l _ hs => List.foldlRecOn l F hs fun b hb a _ => hF b a hb

theorem foldl_max_length_ge {α : Type} (ls : List (List α)) : ∀ init : Nat,
    init ≤ ls.foldl (fun m l => max m l.length) init ∧
    ∀ l ∈ ls, l.length ≤ ls.foldl (fun m l => max m l.length) init := by
  induction ls with
  | nil => intro init; simp
  | cons x ls ih =>
    intro init
    obtain ⟨h1, h2⟩ := ih (max init x.length)
    simp only [List.foldl_cons, List.mem_cons]
    refine ⟨by omega, ?_⟩
    intro l hl
    rcases hl with rfl | hl
    · omega
    · exact h2 l hl

theorem getD_set {α : Type} (l : List α) (i j : Nat) (a d : α) :
    (l.set i a).getD j d = if i = j ∧ i < l.length then a else l.getD j d := by
  rw [List.getD_eq_getElem?_getD, List.getD_eq_getElem?_getD, List.getElem?_set]
  by_cases h : i = j
  · subst h
    by_cases h2 : i < l.length <;> simp [h2]
  · simp [h]

theorem take_getElem_drop {α : Type} (l : List α) (i : Nat) (x : α) (h : l[i]? = some x) :
    l.take i ++ [x] ++ l.drop (i + 1) = l := by
  obtain ⟨hi, rfl⟩ := List.getElem?_eq_some_iff.mp h
  rw [List.append_assoc, List.singleton_append, ← List.drop_eq_getElem_cons hi, List.take_append_drop]

theorem mem_splice {α : Type} {x : α} {t ins : List α} {i j : Nat} (h : x ∈ t.take i ++ ins ++ t.drop j) :
    x ∈ t ∨ x ∈ ins := by
  simp only [List.mem_append] at h
  rcases h with (h | h) | h
  · exact Or.inl (List.mem_of_mem_take h)
  · exact Or.inr h
  · exact Or.inl (List.mem_of_mem_drop h)

theorem rotate_perm {α : Type} (L : List α) (d : α) (idx : Nat) (h : idx < L.length) :
    ([L.getD idx d] ++ L.take idx ++ L.drop (idx + 1)).Perm L := by
  have h1 : L.getD idx d = L[idx] := by simp [List.getD, h]
  have h2 : L = L.take idx ++ L[idx] :: L.drop (idx + 1) := by
    rw [← List.drop_eq_getElem_cons h, List.take_append_drop]
  rw [h1]
  conv => rhs; rw [h2]
  simp only [List.cons_append, List.nil_append]
  exact List.perm_middle.symm

theorem mem_of_getD_some {α : Type} (L : List (Option α)) (i : Nat) (x : α) (h : L.getD i none = some x) :
    some x ∈ L ∧ i < L.length := by
  rw [List.getD_eq_getElem?_getD] at h
  cases hi : L[i]? with
  | none => rw [hi] at h; cases h
  | some y =>
    rw [hi] at h
    simp only [Option.getD_some] at h
    subst h
    exact ⟨List.mem_of_getElem? hi, (List.getElem?_eq_some_iff.mp hi).1⟩

theorem takeWhile_pre {α : Type} (p : α → Bool) (pre : List α) (x : α) (rest : List α) (hpre : ∀ b ∈ pre, p b = true)
    (hx : p x = false) : (pre ++ x :: rest).takeWhile p = pre := by
  rw [List.takeWhile_append_of_pos hpre, List.takeWhile_cons_of_neg (by simp [hx]), List.append_nil]

theorem mem_takeWhile {α : Type} {p : α → Bool} {l : List α} {c : α} (h : c ∈ l.takeWhile p) : p c = true :=
  List.all_eq_true.mp List.all_takeWhile c h

theorem takeWhile_all {α : Type} (p : α → Bool) (l : List α) (h : ∀ x ∈ l, p x = true) : l.takeWhile p = l := by
  induction l with
  | nil => rfl
  | cons a t ih =>
    simp only [List.takeWhile_cons, h a (by simp), if_true]
    rw [ih (fun x hx => h x (by simp [hx]))]

theorem drop_takeWhile_length {α : Type} (p : α → Bool) : ∀ (l : List α),
    l.drop (l.takeWhile p).length = l.dropWhile p := by
  intro l
  induction l with
  | nil => rfl
  | cons x t ih =>
    by_cases hx : p x = true
    · simp only [List.takeWhile_cons, hx, if_true, List.length_cons, List.drop_succ_cons, List.dropWhile_cons, ih]
    · simp only [List.takeWhile_cons, hx, if_false, List.length_nil, List.drop_zero, List.dropWhile_cons,
        Bool.false_eq_true]

theorem takeWhile_ne (a r : List Nat) (x : Nat) (ha : x ∉ a) : (a ++ x :: r).takeWhile (· != x) = a :=
  takeWhile_pre (· != x) a x r (fun b hb => bne_iff_ne.mpr fun h => ha (h ▸ hb)) (by simp)

theorem getD_mem {α : Type} {l : List α} {i : Nat} (d : α) (h : i < l.length) : l.getD i d ∈ l := by
  rw [List.getD_eq_getElem?_getD, List.getElem?_eq_getElem h]; exact List.getElem_mem _

theorem getD_append_left {α : Type} {a : List α} (b : List α) {i : Nat} (d : α) (h : i < a.length) :
    (a ++ b).getD i d = a.getD i d := by
  simp [List.getD_eq_getElem?_getD, List.getElem?_append_left h]

theorem getD_drop {α : Type} (l : List α) (k i : Nat) (d : α) : (l.drop k).getD i d = l.getD (k + i) d := by
  rw [List.getD_eq_getElem?_getD, List.getD_eq_getElem?_getD, List.getElem?_drop]

end Neatvi.Basics
