import NeatviVerif.Lemmas.C20Dispatch
import NeatviVerif.Props.C20
import NeatviVerif.Lemmas.C06bRead
import NeatviVerif.Spec.Zipper
/-!
# C02 lemmas, part 5: the ex layer — `bufs_modified`, buffer switching, the loop of `ec_quit`, `ec_write`

Also what the helpers of the command handlers may change in the editor state, each said once as
"`ed'` is `ed` up to these fields": `IoEq` for `lbuf_save` (file system, clock, call counters), `C06.AddrOnly`
for address evaluation (search keyword, its direction, current row: `exRegion_addr`), `modifiedAt_fields` for
`lbuf_modified` (the buffer table; `modifiedAt_cases` is the two-case eliminator).  That a field outside the list is
kept then follows by `rfl`.  `bufs_modified` on an occupied slot has one equation (`bufsModified_eq`) and, for any preorder
that the bump, the save and the message are in, one composition lemma (`bufsModified_rel`), and so has the loop of `ec_quit` over the table
(`C02b.each_rel`: guard, switch, save of the slot's buffer, message); the end of `ec_write` returns as `writeFinish_cases` says.
-/
namespace Neatvi.Lemmas.C02Ex
open Neatvi Neatvi.Ex Neatvi.Lbuf Neatvi.Spec

/-- slot `idx` (holding `b`) with its sequence counter bumped: all `lbuf_modified` changes -/
def bumpAt (ed : Ed) (idx : Nat) (b : Buf) : Ed :=
  { ed with bufs := ed.bufs.set idx (some { b with lb := (modified b.lb).2 }) }

theorem modifiedAt_eq (ed : Ed) (i : Nat) :
    (ed.modifiedAt i).2 = match ed.bufs.getD i none with | some b => bumpAt ed i b | none => ed := by
  unfold Ed.modifiedAt
  cases ed.bufs.getD i none <;> rfl

theorem modifiedAt_fields (ed : Ed) (idx : Nat) :
    (ed.modifiedAt idx).2 = { ed with bufs := (ed.modifiedAt idx).2.bufs } := by
  rw [modifiedAt_eq]
  split <;> rfl

theorem modifiedAt_cases {P : Ed → Prop} (ed : Ed) (i : Nat) (h0 : P ed)
    (h1 : ∀ b, ed.bufs.getD i none = some b → P (bumpAt ed i b)) : P (ed.modifiedAt i).2 := by
  rw [modifiedAt_eq]
  cases hb : ed.bufs.getD i none with
  | none => exact h0
  | some b => exact h1 b hb

def showOpt (ed : Ed) : Option Bytes → Ed
  | some m => ed.show m
  | none => ed

theorem getD_some {α} {l : List (Option α)} {i : Nat} {b : α} (h : l.getD i none = some b) :
    i < l.length ∧ l[i]? = some (some b) := by
  rw [List.getD_eq_getElem?_getD] at h
  cases hx : l[i]? with
  | none => rw [hx] at h; cases h
  | some x =>
    rw [hx] at h
    simp only [Option.getD_some] at h
    subst h
    exact ⟨(List.getElem?_eq_some_iff.1 hx).1, rfl⟩

theorem getD_set_self {α} (l : List (Option α)) (i : Nat) (x : Option α) (h : i < l.length) :
    (l.set i x).getD i none = x := by
  simp [List.getD_eq_getElem?_getD, h]

theorem getD_set_ne {α} (l : List (Option α)) (i j : Nat) (x : Option α) (h : i ≠ j) :
    (l.set i x).getD j none = l.getD j none := by
  simp [List.getD_eq_getElem?_getD, List.getElem?_set_ne h]

/-! ### `bufs_modified` -/

theorem bufsModified_eq (ed : Ed) (idx : Nat) (msg : Option Bytes) (b : Buf) (hb : ed.bufs.getD idx none = some b) :
    bufsModified ed idx msg =
      if (modified b.lb).1 = false then some (false, bumpAt ed idx b)
      else if (ed.xaw != 0 && !b.path.isEmpty) = true then
        (lbufSave (bumpAt ed idx b) (modified b.lb).2 0 (-1) b.path false b.mtime).map (fun p => (p.1.isSome, p.2))
      else some (true, showOpt (bumpAt ed idx b) msg) := by
  have hget := getD_set_self ed.bufs idx (some { b with lb := (modified b.lb).2 }) (getD_some hb).1
  unfold bufsModified bumpAt
  simp only [hb, Ed.modifiedAt]
  by_cases hm : (modified b.lb).1 = false
  · rw [if_pos hm]
    simp only [hm, Bool.not_false, if_true]
  · rw [if_neg hm]
    have hm' : (modified b.lb).1 = true := by simpa using hm
    simp only [hm', Bool.not_true, Bool.false_eq_true, if_false, hget]
    split
    · cases lbufSave _ _ 0 (-1) b.path false b.mtime with
      | none => rfl
      | some p => rfl
    · cases msg <;> rfl

/-- a dirty slot without autowrite: refused; the state differs only by the bump and the message -/
theorem guard_refuses_at (ed : Ed) (idx : Nat) (b : Buf) (msg : Option Bytes)
    (hb : ed.bufs.getD idx none = some b) (hd : (modified b.lb).1 = true) (haw : ed.xaw = 0) :
    bufsModified ed idx msg = some (true, showOpt (bumpAt ed idx b) msg) := by
  rw [bufsModified_eq ed idx msg b hb, if_neg (by simp [hd]), if_neg (by simp [haw])]

/-- a clean slot: allowed; the state differs only by the bump -/
theorem guard_passes_at (ed : Ed) (idx : Nat) (b : Buf) (msg : Option Bytes)
    (hb : ed.bufs.getD idx none = some b) (hd : (modified b.lb).1 = false) :
    bufsModified ed idx msg = some (false, bumpAt ed idx b) := by
  rw [bufsModified_eq ed idx msg b hb, if_pos hd]

theorem bufsModified_rel {Rel : Ed → Ed → Prop} {idx : Nat} (refl : ∀ ed, Rel ed ed)
    (trans : ∀ {a b c}, Rel a b → Rel b c → Rel a c)
    (hsave : ∀ {ed ed' : Ed} {b : Buf} {r}, ed.bufs.getD idx none = some b →
      lbufSave ed b.lb 0 (-1) b.path false b.mtime = some (r, ed') → Rel ed ed')
    (hshow : ∀ ed m, Rel ed (ed.show m)) {ed ed' : Ed} (hbump : ∀ ed, Rel ed (ed.modifiedAt idx).2)
    {msg : Option Bytes} {r : Bool} (hm : bufsModified ed idx msg = some (r, ed')) : Rel ed ed' := by
  unfold bufsModified at hm
  have h1 := hbump ed
  generalize ed.modifiedAt idx = p at hm h1
  obtain ⟨m, ed1⟩ := p
  simp only [] at hm h1
  split at hm
  · cases hm; exact refl _
  · split at hm
    · cases hm; exact h1
    · split at hm
      · cases hm
      · rename_i b hb
        split at hm
        · split at hm
          · cases hm
          · rename_i hs
            cases hm
            exact trans h1 (hsave hb hs)
        · cases hm
          split
          · exact trans h1 (hshow _ _)
          · exact h1

/-! ### nothing is discarded -/

/-- what must survive of a buffer: its path and its text -/
def bufKey (b : Option Buf) : Option (Bytes × Text) := b.map (fun b => (b.path, b.lb.lines))

/-- `ed'` holds the same files, the same quit flag and (up to order) the same buffers as `ed` -/
structure Keeps (ed ed' : Ed) : Prop where
  files : ed'.files = ed.files
  xquit : ed'.xquit = ed.xquit
  bufs : (ed'.bufs.map bufKey).Perm (ed.bufs.map bufKey)

theorem Keeps.refl (ed : Ed) : Keeps ed ed := ⟨rfl, rfl, List.Perm.refl _⟩

theorem Keeps.trans {a b c : Ed} (h1 : Keeps a b) (h2 : Keeps b c) : Keeps a c :=
  ⟨h2.files.trans h1.files, h2.xquit.trans h1.xquit, h2.bufs.trans h1.bufs⟩

theorem map_key_set (l : List (Option Buf)) (i : Nat) (b b' : Buf) (hb : l.getD i none = some b)
    (hk : bufKey (some b') = bufKey (some b)) : (l.set i (some b')).map bufKey = l.map bufKey := by
  obtain ⟨hlt, hget⟩ := getD_some hb
  apply List.ext_getElem?
  intro n
  by_cases hn : i = n
  · subst hn
    obtain ⟨_, hgi⟩ := List.getElem?_eq_some_iff.1 hget
    simp [hlt, hk, hgi]
  · simp [List.getElem?_set_ne hn]

theorem keeps_set (ed : Ed) (i : Nat) (b b' : Buf) (hb : ed.bufs.getD i none = some b)
    (hk : bufKey (some b') = bufKey (some b)) : Keeps ed { ed with bufs := ed.bufs.set i (some b') } :=
  ⟨rfl, rfl, by rw [map_key_set _ _ _ _ hb hk]⟩

theorem keeps_bumpAt (ed : Ed) (i : Nat) (b : Buf) (hb : ed.bufs.getD i none = some b) :
    Keeps ed (bumpAt ed i b) := keeps_set ed i b _ hb rfl

theorem keeps_show (ed : Ed) (m : Bytes) : Keeps ed (ed.show m) := ⟨rfl, rfl, List.Perm.refl _⟩

theorem keeps_showOpt (ed : Ed) (m : Option Bytes) : Keeps ed (showOpt ed m) := by
  cases m
  · exact Keeps.refl _
  · exact keeps_show _ _

theorem keeps_bufsLoad (ed : Ed) : Keeps ed ed.bufsLoad ∧ ed.bufsLoad.bufs = ed.bufs := by
  unfold Ed.bufsLoad
  split <;> exact ⟨⟨rfl, rfl, List.Perm.refl _⟩, rfl⟩

/-- the bump `bufs_switch` gives the buffer being left -/
def leave (e1 : Ed) : Ed :=
  match e1.bufs.getD 0 none with
  | some b => { e1 with bufs := e1.bufs.set 0 (some { b with lb := (Lbuf.modified b.lb).2 }) }
  | none => e1

theorem bufsSwitch_eq (ed : Ed) (i : Nat) :
    ed.bufsSwitch i =
      ({ leave ed.bufsSave with
          bufs := [(leave ed.bufsSave).bufs.getD i none] ++ (leave ed.bufsSave).bufs.take i ++
            (leave ed.bufsSave).bufs.drop (i + 1) }).bufsLoad := rfl

theorem keeps_bufsSwitch (ed : Ed) (i : Nat) (h : i < ed.bufs.length) : Keeps ed (ed.bufsSwitch i) := by
  have hk : (Props.C20.leftBufs ed).map bufKey = ed.bufs.map bufKey := by
    unfold Props.C20.leftBufs
    split
    · next b hb => exact map_key_set _ 0 b _ hb rfl
    · rfl
  rw [Props.C20.switch_eq]
  refine Keeps.trans ?_ (keeps_bufsLoad _).1
  refine ⟨rfl, rfl, ?_⟩
  rw [← hk]
  exact (Basics.rotate_perm _ none i (by rw [Props.C20.leftBufs_length]; exact h)).map bufKey

/-! ### the loop of `ec_quit` -/

/-- without `!` and without `a`: if some slot at or after `i` (within the fuel) is dirty, the loop
    stops without quitting, and nothing is discarded -/
theorem each_refuses (cmd : Bytes) (hbang : hasBang cmd = false) : ∀ (g i : Nat) (ed : Ed), ed.xaw = 0 →
    (∃ j b, i ≤ j ∧ j < i + g ∧ ed.bufs.getD j none = some b ∧ (modified b.lb).1 = true) →
    ∃ ed', runCmd.each cmd false g i ed = some (true, ed') ∧ Keeps ed ed' := by
  intro g
  induction g with
  | zero => intro i ed _ ⟨j, b, h1, h2, _⟩; omega
  | succ g ih =>
    intro i ed haw ⟨j, bj, hij, hjg, hbj, hdj⟩
    obtain ⟨hjlt, _⟩ := getD_some hbj
    rw [runCmd.each.eq_2]
    have hi : ¬ i ≥ ed.bufs.length := by omega
    simp only [hi, if_false]
    cases hbi : ed.bufs.getD i none with
    | none =>
      have hne : i ≠ j := by intro h; subst h; rw [hbi] at hbj; cases hbj
      exact ih (i + 1) ed haw ⟨j, bj, by omega, by omega, hbj, hdj⟩
    | some b =>
      simp only [hbang, Bool.not_false, Bool.and_self, if_true]
      cases hd : (modified b.lb).1 with
      | true =>
        rw [guard_refuses_at ed i b _ hbi hd haw]
        refine ⟨_, rfl, ?_⟩
        refine (keeps_bumpAt ed i b hbi).trans ((keeps_showOpt _ _).trans (keeps_bufsSwitch _ i ?_))
        simp only [showOpt, Ed.show, bumpAt, List.length_set]
        omega
      | false =>
        rw [guard_passes_at ed i b _ hbi hd]
        simp only [Bool.false_eq_true, if_false]
        have hne : i ≠ j := by
          intro h; subst h; rw [hbi] at hbj
          simp only [Option.some.injEq] at hbj; subst hbj
          rw [hd] at hdj; cases hdj
        obtain ⟨ed', he, hk⟩ := ih (i + 1) (bumpAt ed i b) haw
          ⟨j, bj, by omega, by omega, by simp only [bumpAt]; rw [getD_set_ne _ _ _ _ hne]; exact hbj, hdj⟩
        exact ⟨ed', he, (keeps_bumpAt ed i b hbi).trans hk⟩

/-- the flag does not depend on the sequence counter -/
theorem modified_bump_fst (lb : Lb) : (modified (modified lb).2).1 = (modified lb).1 := rfl

/-- without `!` and without `a`: if every open buffer is clean the loop runs through -/
theorem each_passes (cmd : Bytes) (hbang : hasBang cmd = false) : ∀ (g i : Nat) (ed : Ed),
    (∀ j b, ed.bufs.getD j none = some b → (modified b.lb).1 = false) →
    ∃ ed', runCmd.each cmd false g i ed = some (false, ed') ∧ Keeps ed ed' := by
  intro g
  induction g with
  | zero => intro i ed _; exact ⟨ed, by rw [runCmd.each.eq_1], Keeps.refl _⟩
  | succ g ih =>
    intro i ed hcl
    rw [runCmd.each.eq_2]
    by_cases hi : i ≥ ed.bufs.length
    · simp only [hi, if_true]; exact ⟨ed, rfl, Keeps.refl _⟩
    · simp only [hi, if_false]
      cases hbi : ed.bufs.getD i none with
      | none => exact ih (i + 1) ed hcl
      | some b =>
        simp only [hbang, Bool.not_false, Bool.and_self, if_true]
        rw [guard_passes_at ed i b _ hbi (hcl i b hbi)]
        simp only [Bool.false_eq_true, if_false]
        obtain ⟨hlt, _⟩ := getD_some hbi
        obtain ⟨ed', he, hk⟩ := ih (i + 1) (bumpAt ed i b) (by
          intro j b' hj
          simp only [bumpAt] at hj
          by_cases hij : i = j
          · subst hij
            rw [getD_set_self _ _ _ hlt] at hj
            simp only [Option.some.injEq] at hj
            subst hj
            exact (modified_bump_fst b.lb).trans (hcl i b hbi)
          · rw [getD_set_ne _ _ _ _ hij] at hj
            exact hcl j b' hj)
        exact ⟨ed', he, (keeps_bumpAt ed i b hbi).trans hk⟩

/-! ### `lbuf_save` moves only the file system and its bookkeeping -/

/-- `ed'` is `ed` up to what a system call may move: the file system, the clock, and the counts of
    calls made and of faults fired -/
def IoEq (ed ed' : Ed) : Prop := ∃ fs c n k, ed' = { ed with files := fs, clock := c, calls := n, fired := k }

theorem IoEq.refl (ed : Ed) : IoEq ed ed := ⟨_, _, _, _, rfl⟩

theorem IoEq.trans {a b c : Ed} (h1 : IoEq a b) (h2 : IoEq b c) : IoEq a c := by
  obtain ⟨_, _, _, _, rfl⟩ := h1
  obtain ⟨_, _, _, _, rfl⟩ := h2
  exact ⟨_, _, _, _, rfl⟩

theorem putFile_io (ed : Ed) (f : File) : IoEq ed (ed.putFile f) := by
  unfold Ed.putFile
  split
  · exact ⟨_, _, _, _, rfl⟩
  · exact ⟨_, _, _, _, rfl⟩

theorem nextFault_io (ed : Ed) : IoEq ed ed.nextFault.2 := ⟨_, _, _, _, rfl⟩

theorem lbufSave_io {ed ed' : Ed} {lb : Lb} {b : Nat} {e : Int} {path : Bytes} {force : Bool} {ts : Int}
    {r : Option Bytes} (h : lbufSave ed lb b e path force ts = some (r, ed')) : IoEq ed ed' := by
  unfold lbufSave at h
  extract_lets e' fuel at h
  by_cases g1 : (!force && decide (ed.mtimeOf path > ts)) = true
  · rw [if_pos g1] at h
    cases h
    exact IoEq.refl ed
  rw [if_neg g1] at h
  by_cases g2 : (!force && decide (ts ≤ 0) && decide (ed.mtimeOf path ≥ 0)) = true
  · rw [if_pos g2] at h
    cases h
    exact IoEq.refl ed
  rw [if_neg g2] at h
  have i1 := nextFault_io ed
  generalize ed.nextFault = nf at h i1
  obtain ⟨fo, ed1⟩ := nf
  dsimp -zeta only at h
  by_cases ho : (fo == 101) = true
  · rw [if_pos ho] at h
    cases h
    exact i1.trans ⟨_, _, _, _, rfl⟩
  rw [if_neg ho] at h
  extract_lets old src ed2 sched at h
  have i2 : IoEq ed ed2 := i1.trans ((putFile_io ed1 _).trans ⟨_, _, _, _, rfl⟩)
  cases hw : LbufIo.wrFinal lb.lines b e' Gen.WR_BATCH (fuel * 2) sched with
  | none =>
    rw [hw] at h
    cases h
  | some st =>
    rw [hw] at h
    dsimp -zeta only at h
    extract_lets used nerr okCalls data src3 ed3 at h
    have i3 : IoEq ed ed3.nextFault.2 :=
      i2.trans ((putFile_io ed2 _).trans (IoEq.trans ⟨_, _, _, _, rfl⟩ (nextFault_io ed3)))
    generalize ed3.nextFault = nf at h i3
    obtain ⟨fc, ed4⟩ := nf
    -- every remaining leaf returns `ed4`
    have h2 := congrArg (Option.map Prod.snd) h
    simp only [apply_ite (Option.map Prod.snd), Option.map_some, ite_self, Option.some.injEq] at h2
    rw [← h2]
    exact i3

theorem lbufSave_bufs (ed ed' : Ed) (lb : Lb) (b : Nat) (e : Int) (path : Bytes) (force : Bool) (ts : Int)
    (r : Option Bytes) (h : lbufSave ed lb b e path force ts = some (r, ed')) : ed'.bufs = ed.bufs := by
  obtain ⟨_, _, _, _, rfl⟩ := lbufSave_io h
  rfl

/-! ### `lbuf_save` as the command handlers call it: the path may be empty (`lbufSaveP`) -/

theorem lbufSaveP_of_isEmpty_false {ed : Ed} {lb : Lb} {b : Nat} {e : Int} {path : Bytes} {force : Bool} {ts : Int}
    (h : path.isEmpty = false) : lbufSaveP ed lb b e path force ts = lbufSave ed lb b e path force ts := by
  unfold lbufSaveP
  simp only [h, Bool.false_eq_true, if_false]

theorem lbufSaveP_of_ne {ed : Ed} {lb : Lb} {b : Nat} {e : Int} {path : Bytes} {force : Bool} {ts : Int}
    (hpne : path ≠ []) : lbufSaveP ed lb b e path force ts = lbufSave ed lb b e path force ts := by
  apply lbufSaveP_of_isEmpty_false
  cases path with
  | nil => exact absurd rfl hpne
  | cons _ _ => rfl

/-- the state after the failed `open("")`: one scheduled call consumed, `fired` counted when the schedule
    had an error there; nothing else moves -/
def unnamedFail (ed : Ed) : Ed :=
  if ed.nextFault.1 == 101 then { ed.nextFault.2 with fired := ed.nextFault.2.fired + 1 } else ed.nextFault.2

/-- without a file name, `open("")` fails: the save always reports "cannot create file" -/
theorem lbufSaveP_empty (ed : Ed) (lb : Lb) (b : Nat) (e : Int) (force : Bool) (ts : Int) :
    lbufSaveP ed lb b e [] force ts = some (some (strOf "write failed: cannot create file"), unnamedFail ed) := rfl

theorem unnamedFail_bufs (ed : Ed) : (unnamedFail ed).bufs = ed.bufs := by
  unfold unnamedFail; split <;> rfl

theorem unnamedFail_files (ed : Ed) : (unnamedFail ed).files = ed.files := by
  unfold unnamedFail; split <;> rfl

theorem unnamedFail_clock (ed : Ed) : (unnamedFail ed).clock = ed.clock := by
  unfold unnamedFail; split <;> rfl

theorem unnamedFail_calls (ed : Ed) : (unnamedFail ed).calls = ed.calls + 1 := by
  unfold unnamedFail; split <;> rfl

theorem unnamedFail_faults (ed : Ed) : (unnamedFail ed).faults = ed.faults := by
  unfold unnamedFail; split <;> rfl

/-- a save without a file name touches neither the file system nor the clock -/
theorem lbufSaveP_files_of_empty (ed ed' : Ed) (lb : Lb) (b : Nat) (e : Int) (force : Bool) (ts : Int)
    (r : Option Bytes) (h : lbufSaveP ed lb b e [] force ts = some (r, ed')) :
    ed'.files = ed.files ∧ ed'.clock = ed.clock := by
  rw [lbufSaveP_empty] at h
  simp only [Option.some.injEq, Prod.mk.injEq] at h
  rw [← h.2]
  exact ⟨unnamedFail_files ed, unnamedFail_clock ed⟩

theorem lbufSaveP_empty_ne_ok (ed ed' : Ed) (lb : Lb) (b : Nat) (e : Int) (force : Bool) (ts : Int) :
    lbufSaveP ed lb b e [] force ts ≠ some (none, ed') := by
  rw [lbufSaveP_empty]
  intro h
  simp only [Option.some.injEq, Prod.mk.injEq] at h
  exact absurd h.1 (by simp)

/-- a save without a file name always returns an error, and that error is "cannot create file" -/
theorem lbufSaveP_empty_err (ed ed' : Ed) (lb : Lb) (b : Nat) (e : Int) (force : Bool) (ts : Int)
    (r : Option Bytes) (h : lbufSaveP ed lb b e [] force ts = some (r, ed')) :
    r = some (strOf "write failed: cannot create file") ∧ ed' = unnamedFail ed := by
  rw [lbufSaveP_empty] at h
  simp only [Option.some.injEq, Prod.mk.injEq] at h
  exact ⟨h.1.symm, h.2.symm⟩

/-- a save the handlers see succeed had a file name, and is a success of `lbufSave` -/
theorem lbufSaveP_ok (ed ed' : Ed) (lb : Lb) (b : Nat) (e : Int) (path : Bytes) (force : Bool) (ts : Int)
    (h : lbufSaveP ed lb b e path force ts = some (none, ed')) :
    path ≠ [] ∧ lbufSave ed lb b e path force ts = some (none, ed') := by
  have hpne : path ≠ [] := by
    intro hp; subst hp; exact lbufSaveP_empty_ne_ok _ _ _ _ _ _ _ h
  exact ⟨hpne, by rw [← lbufSaveP_of_ne hpne]; exact h⟩

theorem unnamedFail_io (ed : Ed) : IoEq ed (unnamedFail ed) := by
  unfold unnamedFail
  split
  · exact (nextFault_io ed).trans ⟨_, _, _, _, rfl⟩
  · exact nextFault_io ed

theorem lbufSaveP_io {ed ed' : Ed} {lb : Lb} {b : Nat} {e : Int} {path : Bytes} {force : Bool} {ts : Int}
    {r : Option Bytes} (h : lbufSaveP ed lb b e path force ts = some (r, ed')) : IoEq ed ed' := by
  by_cases hp : path = []
  · subst hp
    rw [(lbufSaveP_empty_err _ _ _ _ _ _ _ _ h).2]
    exact unnamedFail_io ed
  · rw [lbufSaveP_of_ne hp] at h
    exact lbufSave_io h

/-- `lbufSaveP` never touches the buffer table, whatever the path and the outcome -/
theorem lbufSaveP_bufs (ed ed' : Ed) (lb : Lb) (b : Nat) (e : Int) (path : Bytes) (force : Bool) (ts : Int)
    (r : Option Bytes) (h : lbufSaveP ed lb b e path force ts = some (r, ed')) : ed'.bufs = ed.bufs := by
  obtain ⟨_, _, _, _, rfl⟩ := lbufSaveP_io h
  rfl

theorem _root_.Neatvi.Lemmas.C02b.guardIf_isSome {ed ed' : Ed} {c : Prop} [Decidable c] {idx : Nat} {msg : Option Bytes} {r : Bool}
    (h : (if c then bufsModified ed idx msg else some (false, ed) : R Bool) = some (r, ed')) (i : Nat) :
    (ed'.bufs.getD i none).isSome = (ed.bufs.getD i none).isSome := by
  split at h
  · exact bufsModified_rel (Rel := fun a b => ∀ i, (b.bufs.getD i none).isSome = (a.bufs.getD i none).isSome)
      (fun _ _ => rfl) (fun h1 h2 i => (h2 i).trans (h1 i))
      (fun _ hs i => by rw [lbufSave_bufs _ _ _ _ _ _ _ _ _ hs]) (fun _ _ _ => rfl)
      (fun ed i => by
        unfold Ed.modifiedAt
        cases hb : ed.bufs.getD idx none with
        | none => rfl
        | some b =>
          by_cases hi : idx = i
          · subst hi; rw [getD_set_self _ _ _ (getD_some hb).1, hb]; rfl
          · rw [getD_set_ne _ _ _ _ hi]) h i
  · cases h; rfl

theorem _root_.Neatvi.Lemmas.C02b.each_rel {Rel : Ed → Ed → Prop} (refl : ∀ ed, Rel ed ed) (trans : ∀ {a b c}, Rel a b → Rel b c → Rel a c)
    (hguard : ∀ {ed ed' idx msg r}, bufsModified ed idx msg = some (r, ed') → Rel ed ed')
    (hswitch : ∀ ed i, (ed.bufs.getD i none).isSome = true → Rel ed (ed.bufsSwitch i))
    (hsave : ∀ {ed ed' i b force r}, ed.bufs.getD i none = some b →
      lbufSaveP ed b.lb 0 (-1) b.path force b.mtime = some (r, ed') → Rel ed ed')
    (hshow : ∀ ed m, Rel ed (ed.show m)) (cmd : Bytes) (all : Bool) :
    ∀ (g i : Nat) (ed ed' : Ed) (r : Bool), runCmd.each cmd all g i ed = some (r, ed') → Rel ed ed' := by
  intro g
  induction g with
  | zero => intro i ed ed' r h; rw [runCmd.each.eq_1] at h; cases h; exact refl _
  | succ g ih =>
    intro i ed ed' r h
    rw [runCmd.each.eq_2] at h
    by_cases hge : i ≥ ed.bufs.length
    · rw [if_pos hge] at h; cases h; exact refl _
    rw [if_neg hge] at h
    cases hb : ed.bufs.getD i none with
    | none => rw [hb] at h; exact ih _ _ _ _ h
    | some b0 =>
      rw [hb] at h
      simp only [] at h
      cases hchk : (if (!all && !hasBang cmd) = true then bufsModified ed i (some (strOf "buffer modified"))
          else some (false, ed) : R Bool) with
      | none => rw [hchk] at h; cases h
      | some p =>
        obtain ⟨stop, ed1⟩ := p
        rw [hchk] at h
        have h1 : Rel ed ed1 := by
          split at hchk
          · exact hguard hchk
          · cases hchk; exact refl _
        cases stop with
        | true => cases h; exact trans h1 (hswitch _ _ (by rw [Lemmas.C02b.guardIf_isSome hchk, hb]; rfl))
        | false =>
          simp only [] at h
          by_cases ha : all = true
          · rw [if_pos ha] at h
            cases hb1 : ed1.bufs.getD i none with
            | none => rw [hb1] at h; cases h
            | some b1 =>
              rw [hb1] at h
              simp only [] at h
              cases hs : lbufSaveP ed1 b1.lb 0 (-1) b1.path (hasBang cmd) b1.mtime with
              | none => rw [hs] at h; cases h
              | some q =>
                obtain ⟨err, ed2⟩ := q
                rw [hs] at h
                have h2 := trans h1 (hsave hb1 hs)
                cases err with
                | some e =>
                  cases h
                  refine trans h2 (trans (hswitch _ _ ?_) (hshow _ _))
                  rw [lbufSaveP_bufs _ _ _ _ _ _ _ _ _ hs, hb1]; rfl
                | none => exact trans h2 (ih _ _ _ _ h)
          · rw [if_neg ha] at h
            exact trans h1 (ih _ _ _ _ h)

theorem runCmd_quit (f : Nat) (ed : Ed) (loc cmd arg : Bytes) (txt : Option Bytes) :
    runCmd (f + 1) ed "ec_quit" loc cmd arg txt =
      (match (if cmd.headD 0 == 119 || cmd.headD 0 == 120 then ecWrite ed [] cmd arg else some (0, ed) : R Int) with
      | none => none
      | some (rc, ed) =>
        if rc != 0 then some (1, ed) else
        match runCmd.each cmd (cmd.contains 97) (ed.bufs.length + 1) 0 ed with
        | none => none
        | some (true, ed) => some (0, ed)
        | some (false, ed) => some (0, { ed with xquit := true })) := by
  rw [C20.runCmd_eq]
  rfl

theorem runCmd_edit (f : Nat) (ed : Ed) (loc cmd arg : Bytes) (txt : Option Bytes) :
    runCmd (f + 1) ed "ec_edit" loc cmd arg txt = ecEdit f ed cmd arg := by
  rw [C20.runCmd_eq]
  rfl

theorem runCmd_write (f : Nat) (ed : Ed) (loc cmd arg : Bytes) (txt : Option Bytes) :
    runCmd (f + 1) ed "ec_write" loc cmd arg txt = ecWrite ed loc cmd arg := by
  rw [C20.runCmd_eq]
  rfl

theorem ite_or {α} (c : Prop) [Decidable c] (a b : α) :
    (if c then a else b) = a ∨ (if c then a else b) = b := by
  split
  · exact Or.inl rfl
  · exact Or.inr rfl

/-! ### `ec_write` -/

/-- the tail of `ec_write` after `lbuf_save` succeeded -/
def writeFinish (ed : Ed) (cur : Buf) (path : Bytes) (b e : Int) : R Int :=
  let (cur, ed) := if cur.path.isEmpty then ({ cur with path := path }, { ed with regs := ed.regs.put 37 path 0 }) else (cur, ed)
  if cur.path == path && b == 0 && e == ed.len then
    let lb := savedCore cur.lb false
    some (0, ed.setCur { cur with lb := (modified lb).2, mtime := ed.mtimeOf path })
  else if cur.path == path then
    some (0, ed.setCur { cur with lb := unsavedMark cur.lb, mtime := ed.mtimeOf path })
  else some (0, ed.setCur cur)

/-- how `writeFinish` returns: the record put back is the current one (`c3`: named `path` if it had no name, and then
    register `%` is set too: `ed6`) with its line buffer marked saved (the whole buffer went to its own path), marked
    unsaved (a part of it did), or the record as it was (another path) -/
theorem writeFinish_cases {ed ed' : Ed} {cur : Buf} {path : Bytes} {b e r : Int}
    (h : writeFinish ed cur path b e = some (r, ed')) :
    ∃ c3 ed6, c3.lb = cur.lb ∧
      (c3 = cur ∧ ed6 = ed ∨ c3 = { cur with path := path } ∧ ed6 = { ed with regs := ed.regs.put 37 path 0 }) ∧
      ((c3.path = path ∧ b = 0 ∧ e = ed.len ∧
          ed' = ed6.setCur { c3 with lb := (modified (savedCore c3.lb false)).2, mtime := ed.mtimeOf path }) ∨
       ed' = ed6.setCur { c3 with lb := unsavedMark c3.lb, mtime := ed.mtimeOf path } ∨
       ed' = ed.setCur cur) := by
  unfold writeFinish at h
  by_cases hp : cur.path.isEmpty = true
  · refine ⟨{ cur with path := path }, { ed with regs := ed.regs.put 37 path 0 }, rfl, Or.inr ⟨rfl, rfl⟩, ?_⟩
    simp only [hp, if_true, beq_self_eq_true, Bool.true_and] at h
    split at h
    · rename_i hc
      simp only [Bool.and_eq_true, beq_iff_eq] at hc
      cases h
      exact Or.inl ⟨rfl, hc.1, hc.2, rfl⟩
    · cases h; exact Or.inr (Or.inl rfl)
  · refine ⟨cur, ed, rfl, Or.inl ⟨rfl, rfl⟩, ?_⟩
    simp only [hp, Bool.false_eq_true, if_false] at h
    split at h
    · rename_i hc
      simp only [Bool.and_eq_true, beq_iff_eq] at hc
      cases h
      exact Or.inl ⟨hc.1.1, hc.1.2, hc.2, rfl⟩
    · split at h
      · cases h; exact Or.inr (Or.inl rfl)
      · cases h; exact Or.inr (Or.inr rfl)

theorem cur_congr {ed ed' : Ed} (h : ed'.bufs = ed.bufs) : ed'.cur = ed.cur := by
  unfold Ed.cur; rw [h]

theorem len_congr {ed ed' : Ed} (h : ed'.bufs = ed.bufs) : ed'.len = ed.len := ExFrame.len_of_bufs h

/-- `ec_write` from its call of `lbuf_save` on: the path (not a pipe) was resolved in `ed1`, the test of
    `:x` passed in `ed2`, the range `b`..`e` was found in `ed3`, where `cur` is the current buffer -/
theorem ecWrite_save {ed ed1 ed2 ed3 : Ed} {loc cmd arg path : Bytes} {b0 e0 b e : Int} {cur : Buf}
    (hpr : (if !arg.isEmpty then pathExpand ed arg true else some (ed.cur.map (·.path), ed)) = some (some path, ed1))
    (hx : (if cmd.headD 0 == 120 then some (ed1.modifiedAt 0) else some (true, ed1) : Option (Bool × Ed)) = some (true, ed2))
    (hr : exRegion ed2 loc = some ((0, b0, e0), ed3))
    (hc : ed3.cur = some cur) (hsh : path.headD 0 ≠ 33)
    (hbe : (if loc.isEmpty then ((0 : Int), ed3.len) else (b0, e0)) = (b, e)) :
    ecWrite ed loc cmd arg =
      match lbufSaveP ed3 cur.lb b.toNat e path (hasBang cmd) (if cur.path == path then cur.mtime else 0) with
      | none => none
      | some (some err, ed4) => some (1, ed4.show err)
      | some (none, ed4) =>
        match (ed4.show ([34] ++ path ++ strOf "\"  [=" ++ intStr (e - b) ++ strOf "]  [w]")).cur with
        | none => none
        | some cur => writeFinish (ed4.show ([34] ++ path ++ strOf "\"  [=" ++ intStr (e - b) ++ strOf "]  [w]")) cur path b e := by
  have csh : (path.headD 0 == 33) = false := beq_eq_false_iff_ne.2 hsh
  unfold ecWrite
  simp only [hpr, hx, hr, hbe, hc, Option.getD_some, Option.isNone_some, Bool.or_false, bne_self_eq_false,
    Bool.false_eq_true, if_false, csh]
  rfl

theorem setCur_cur (ed : Ed) (c0 c : Buf) (h : ed.cur = some c0) : (ed.setCur c).cur = some c :=
  ExFrame.cur_some_set ed c0 c h

theorem unsavedMark_dirty (lb : Lb) : (modified (unsavedMark lb)).1 = true := by
  simp [modified, unsavedMark]

theorem writeFinish_spec (ed : Ed) (cur : Buf) (path : Bytes) (b e : Int) (hcur : ed.cur = some cur) :
    ∃ ed5 c5, writeFinish ed cur path b e = some (0, ed5) ∧ ed5.cur = some c5 ∧ ed5.files = ed.files ∧
      c5.path = (if cur.path.isEmpty then path else cur.path) ∧
      ((cur.path = path ∨ cur.path = []) → (b = 0 ∧ e = ed.len) → c5.lb = (modified (savedCore cur.lb false)).2) ∧
      ((cur.path = path ∨ cur.path = []) → ¬ (b = 0 ∧ e = ed.len) →
        c5.lb = unsavedMark cur.lb ∧ (modified c5.lb).1 = true) ∧
      (¬ (cur.path = path ∨ cur.path = []) → c5.lb = cur.lb) := by
  unfold writeFinish
  by_cases hp : cur.path.isEmpty = true
  · have hnil : cur.path = [] := List.isEmpty_iff.1 hp
    have hlen : Ed.len { ed with regs := ed.regs.put 37 path 0 } = ed.len := rfl
    have hcur' : Ed.cur { ed with regs := ed.regs.put 37 path 0 } = some cur := hcur
    simp only [hp, if_true, beq_self_eq_true, Bool.true_and, hlen]
    by_cases hw : (b == 0 && e == ed.len) = true
    · have hw' : b = 0 ∧ e = ed.len := by simpa using hw
      simp only [hw, if_true]
      refine ⟨_, _, rfl, setCur_cur _ _ _ hcur', rfl, rfl, fun _ _ => rfl, fun _ h => absurd hw' h, ?_⟩
      intro h; exact absurd (Or.inr hnil) h
    · have hw' : ¬ (b = 0 ∧ e = ed.len) := by simpa using hw
      simp only [hw]
      refine ⟨_, _, rfl, setCur_cur _ _ _ hcur', rfl, rfl, fun _ h => absurd h hw',
        fun _ _ => ⟨rfl, unsavedMark_dirty _⟩, ?_⟩
      intro h; exact absurd (Or.inr hnil) h
  · have hne : cur.path ≠ [] := fun h => hp (List.isEmpty_iff.2 h)
    simp only [hp, Bool.false_eq_true, if_false]
    by_cases hq : (cur.path == path) = true
    · have hq' : cur.path = path := by simpa using hq
      simp only [hq, Bool.true_and, if_true]
      by_cases hw : (b == 0 && e == ed.len) = true
      · have hw' : b = 0 ∧ e = ed.len := by simpa using hw
        simp only [hw, if_true]
        exact ⟨_, _, rfl, setCur_cur _ _ _ hcur, rfl, rfl, fun _ _ => rfl, fun _ h => absurd hw' h,
          fun h => absurd (Or.inl hq') h⟩
      · have hw' : ¬ (b = 0 ∧ e = ed.len) := by simpa using hw
        simp only [hw]
        exact ⟨_, _, rfl, setCur_cur _ _ _ hcur, rfl, rfl, fun _ h => absurd h hw',
          fun _ _ => ⟨rfl, unsavedMark_dirty _⟩, fun h => absurd (Or.inl hq') h⟩
    · have hq' : cur.path ≠ path := by simpa using hq
      simp only [hq, Bool.false_and, Bool.false_eq_true, if_false]
      refine ⟨_, _, rfl, setCur_cur _ _ _ hcur, rfl, rfl, ?_, ?_, fun _ => rfl⟩
      · intro h; rcases h with h | h
        · exact absurd h hq'
        · exact absurd h hne
      · intro h; rcases h with h | h
        · exact absurd h hq'
        · exact absurd h hne

/-! ### address and path evaluation do not touch the buffer table -/

theorem pathExpand_state (ed ed' : Ed) (src : Bytes) (sp : Bool) (r : Option Bytes)
    (h : pathExpand ed src sp = some (r, ed')) : ed' = ed ∨ ∃ m, ed' = ed.show m := by
  obtain ⟨h1, h2⟩ := C06b.pathExpand_cases h
  cases r with
  | none => exact Or.inr ⟨_, h2 rfl⟩
  | some p => exact Or.inl (h1 rfl)

theorem pathExpand_bufs (ed ed' : Ed) (src : Bytes) (sp : Bool) (r : Option Bytes)
    (h : pathExpand ed src sp = some (r, ed')) : ed'.bufs = ed.bufs := by
  rcases pathExpand_state ed ed' src sp r h with rfl | ⟨m, rfl⟩ <;> rfl

theorem exRegion_addr {ed ed' : Ed} {loc : Bytes} {r : Nat × Int × Int}
    (h : exRegion ed loc = some (r, ed')) : C06.AddrOnly ed ed' :=
  (C06.region_all ed loc r.1 r.2.1 r.2.2 ed' h).1

theorem exRegion_bufs (ed ed' : Ed) (loc : Bytes) (r : Nat × Int × Int)
    (h : exRegion ed loc = some (r, ed')) : ed'.bufs = ed.bufs := (exRegion_addr h).bufs

/-- right after `lbuf_saved(lb, 0)` and the bump the flag is clean, whatever the buffer -/
theorem saved_then_clean (lb : Lb) : (modified (modified (savedCore lb false)).2).1 = false := by
  simp [modified, savedCore, seqAt]

theorem strOf_q : strOf "q" = [113] := by decide +kernel
theorem strOf_e : strOf "e" = [101] := by decide +kernel
theorem strOf_b : strOf "b" = [98] := by decide +kernel
theorem strOf_w : strOf "w" = [119] := by decide +kernel

end Neatvi.Lemmas.C02Ex
