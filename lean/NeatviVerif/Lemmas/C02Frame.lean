import NeatviVerif.Props.C04
import NeatviVerif.Lemmas.C06Lbuf
/-!
# C02 lemmas, part 1: the saved-state fields are framed by the history operations
-/
namespace Neatvi.Lemmas.C02
open Neatvi Neatvi.Lbuf Neatvi.Spec Neatvi.Lemmas.Hist Neatvi.Props.C01 Neatvi.Props.C04

/-- the fields only `lbuf_saved` / `lbuf_unsaved` write -/
def Frame (lb lb' : Lb) : Prop :=
  lb'.useqZero = lb.useqZero ∧ lb'.unsaved = lb.unsaved ∧ lb'.useqLast = lb.useqLast

theorem Frame.refl (lb : Lb) : Frame lb lb := ⟨rfl, rfl, rfl⟩

theorem Frame.trans {a b c : Lb} (h1 : Frame a b) (h2 : Frame b c) : Frame a c :=
  ⟨h2.1.trans h1.1, h2.2.1.trans h1.2.1, h2.2.2.trans h1.2.2⟩

theorem setMark_frame (lb : Lb) (c : Nat) (p o : Int) : Frame lb (setMark lb c p o) := by
  unfold setMark; split <;> exact ⟨rfl, rfl, rfl⟩

theorem loadMarks_frame (lb : Lb) (e : Entry) : Frame lb (loadMarks lb e) := by
  unfold loadMarks; split <;> exact ⟨rfl, rfl, rfl⟩

theorem loadPos_frame (lb : Lb) (e : Entry) : Frame lb (loadPos lb e) := ⟨rfl, rfl, rfl⟩

theorem opt_frame (lb : Lb) (buf : Option Bytes) (pos nDel : Nat) : Frame lb (opt lb buf pos nDel) :=
  ⟨rfl, rfl, rfl⟩

theorem replace_frame (lb lb' : Lb) (s : Option Bytes) (pos nDel : Nat)
    (h : replace lb s pos nDel = some lb') : Frame lb lb' := by
  unfold replace at h
  by_cases hb : pos + nDel ≤ lb.lines.length
  · simp only [hb, if_true, Option.some.injEq] at h
    subst h
    refine Frame.trans (Frame.trans ?_ (setMark_frame _ _ _ _)) (setMark_frame _ _ _ _)
    exact ⟨rfl, rfl, rfl⟩
  · simp only [hb, if_false] at h
    cases h

theorem edit_frame (lb lb' : Lb) (buf : Option Bytes) (b e : Nat)
    (h : edit lb buf b e = some lb') : Frame lb lb' := by
  obtain ⟨_, ⟨_, _, rfl⟩ | h⟩ := Lemmas.C06.edit_cases h
  · exact Frame.refl _
  · exact Frame.trans (opt_frame _ _ _ _) (replace_frame _ _ _ _ _ h)

theorem applySplices_rel {R : Lb → Lb → Prop} (refl : ∀ lb, R lb lb) (trans : ∀ {a b c}, R a b → R b c → R a c)
    (hedit : ∀ {lb lb' : Lb} {buf pos n}, edit lb buf pos n = some lb' → R lb lb') (ss : List Splice) :
    ∀ (lb lb' : Lb), applySplices ss lb = some lb' → R lb lb' := by
  induction ss with
  | nil => intro lb lb' h; cases h; exact refl lb
  | cons s r ih =>
    intro lb lb' h
    rw [applySplices] at h
    cases he : edit lb s.2.2 s.1 s.2.1 with
    | none => rw [he] at h; cases h
    | some lb1 => rw [he] at h; exact trans (hedit he) (ih _ _ h)

theorem applySplices_frame (ss : List Splice) (lb lb' : Lb) (h : applySplices ss lb = some lb') : Frame lb lb' :=
  applySplices_rel Frame.refl Frame.trans (edit_frame _ _ _ _ _) ss lb lb' h

theorem frame_replRel : Lemmas.C15b.ReplRel Frame :=
  .ofParts
    (refl := Frame.refl)
    (trans := Frame.trans)
    (repl := fun {lb lb1 u _ _ _ _} _ _ h =>
      Frame.trans (b := { lb with histU := u }) ⟨rfl, rfl, rfl⟩ (replace_frame _ _ _ _ _ h))
    (pos := loadPos_frame)
    (marks := loadMarks_frame)

theorem undo_frame (lb lb' : Lb) (rc : Nat) (h : undo lb = some (rc, lb')) : Frame lb lb' :=
  Lemmas.C15b.undo_rel frame_replRel h

theorem redo_frame (lb lb' : Lb) (rc : Nat) (h : redo lb = some (rc, lb')) : Frame lb lb' :=
  Lemmas.C15b.redo_rel frame_replRel h

/-- the invariant of C04 reads only four fields of the buffer -/
theorem inv_congr {T0 : Text} {lb lb' : Lb} {z : Zipper} {pg fg : List Group} (h : Inv T0 lb z pg fg)
    (h1 : lb'.hist = lb.hist) (h2 : lb'.histU = lb.histU) (h3 : lb'.useq = lb.useq)
    (h4 : lb'.lines = lb.lines) : Inv T0 lb' z pg fg :=
  h.congr h1 h2 h3 h4

end Neatvi.Lemmas.C02
