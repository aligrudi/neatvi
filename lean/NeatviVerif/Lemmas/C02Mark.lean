import NeatviVerif.Lemmas.C02Frame
/-!
# C02 lemmas, part 2: where the saved text sits in the history

`all = pg.reverse ++ fg` is the list of all groups, oldest first; the *boundaries* between groups
are the states undo/redo can reach.  The "mark" of this file (`MarkInv`, `keepMark`, `markInv_*`) is a ghost and has
nothing to do with the marks `'a`–`'z` of the buffer (`lb.mark`): `m = some k` says: the text written to the file
is the text at boundary `k`, and `useq_zero` is the sequence number `lbuf_seq` reports there.
`m = none`: no reachable boundary carries `useq_zero` (or `lbuf_unsaved` was called).

What needs the history invariant is proved for its zipper-free core `C02b.HInv` (the lemmas `C02b.…'`), which holds at
any point of a command; the lemmas about `Inv` are their readings at `hinv_of_inv`.
-/
namespace Neatvi.Lemmas.C02
open Neatvi Neatvi.Lbuf Neatvi.Spec Neatvi.Lemmas.Hist Neatvi.Props.C01 Neatvi.Props.C04 Neatvi.Lemmas.C02b

/-- what `lbuf_seq` reports with the cursor after the groups `A` (`l` = `useq_last`) -/
def lastSeq (l : Nat) (A : List Group) : Nat := match A.reverse with | [] => l | g :: _ => g.1

theorem lastSeq_nil (l : Nat) : lastSeq l [] = l := rfl
theorem lastSeq_concat (l : Nat) (A : List Group) (g : Group) : lastSeq l (A ++ [g]) = g.1 := by
  simp [lastSeq]

theorem lastSeq_cases (l : Nat) (A : List Group) :
    (A = [] ∧ lastSeq l A = l) ∨ ∃ A0 c, A = A0 ++ [c] ∧ lastSeq l A = c.1 := by
  rcases List.eq_nil_or_concat A with rfl | ⟨A0, c, hc⟩
  · exact Or.inl ⟨rfl, rfl⟩
  · rw [List.concat_eq_append] at hc
    subst hc
    exact Or.inr ⟨A0, c, rfl, lastSeq_concat _ _ _⟩

theorem lastSeq_lt (l n : Nat) (A : List Group) (hA : ∀ g ∈ A, g.1 < n) (hl : l < n) : lastSeq l A < n := by
  rcases lastSeq_cases l A with ⟨_, h⟩ | ⟨A0, c, rfl, h⟩
  · rw [h]; exact hl
  · rw [h]; exact hA c (by simp)

theorem lastSeq_le (l n : Nat) (A : List Group) (hA : ∀ g ∈ A, g.1 ≤ n) (hl : l ≤ n) : lastSeq l A ≤ n := by
  rcases lastSeq_cases l A with ⟨_, h⟩ | ⟨A0, c, rfl, h⟩
  · rw [h]; exact hl
  · rw [h]; exact hA c (by simp)

theorem lastSeq_lt_concat (l : Nat) (A C : List Group) (c : Group)
    (hs : (A ++ (C ++ [c])).Pairwise (fun a b => a.1 < b.1)) (hl : l < c.1) :
    lastSeq l A < lastSeq l (A ++ (C ++ [c])) := by
  rw [← List.append_assoc, lastSeq_concat]
  apply lastSeq_lt _ _ _ _ hl
  intro g hg
  rw [List.pairwise_append] at hs
  exact hs.2.2 g hg c (by simp)

/-- boundaries of a strictly increasing history carry distinct sequence numbers -/
theorem lastSeq_inj (l : Nat) (A B A' B' : List Group)
    (hs : (A ++ B).Pairwise (fun a b => a.1 < b.1)) (hl : ∀ g ∈ A ++ B, l < g.1)
    (he : A ++ B = A' ++ B') (hq : lastSeq l A = lastSeq l A') : A = A' := by
  rcases List.append_eq_append_iff.1 he with ⟨C, hA', hB⟩ | ⟨C, hA, hB'⟩
  · rcases List.eq_nil_or_concat C with rfl | ⟨C0, c, hc⟩
    · simpa using hA'.symm
    · rw [List.concat_eq_append] at hc
      subst hc
      exfalso
      rw [hB, ← List.append_assoc, List.pairwise_append] at hs
      have := lastSeq_lt_concat l A C0 c hs.1 (hl c (by rw [hB]; simp))
      rw [← hA', ← hq] at this
      omega
  · rcases List.eq_nil_or_concat C with rfl | ⟨C0, c, hc⟩
    · simpa using hA
    · rw [List.concat_eq_append] at hc
      subst hc
      exfalso
      rw [List.pairwise_append, hA] at hs
      have := lastSeq_lt_concat l A' C0 c hs.1 (hl c (by rw [hA]; simp))
      rw [← hA, hq] at this
      omega

theorem _root_.Neatvi.Lemmas.C02b.seqAt_hinv {T0 lb pg fg} (h : HInv T0 lb pg fg) :
    seqAt lb = lastSeq lb.useqLast pg.reverse := by
  cases pg with
  | nil =>
    have hU : lb.histU = 0 := by rw [h.histU]; rfl
    simp [seqAt, hU, lastSeq]
  | cons g ps =>
    obtain ⟨G', e, _, hes, hU, hget⟩ := h.below
    have hl : lastSeq lb.useqLast (g :: ps).reverse = g.1 := by
      rw [List.reverse_cons]; exact lastSeq_concat _ _ _
    rw [hl]
    simp only [seqAt, hU, hget, hes]

theorem modified_fst (lb : Lb) : (modified lb).1 = (lb.unsaved || seqAt lb != lb.useqZero) := rfl

theorem savedCore_false (lb : Lb) :
    savedCore lb false = { lb with useqZero := seqAt lb, unsaved := false } := by
  simp [savedCore]

/-- keep the mark only if it is not above the cursor (`n` groups below it) -/
def keepMark (n : Nat) : Option Nat → Option Nat
  | some k => if k ≤ n then some k else none
  | none => none

structure MarkInv (T0 : Text) (lb : Lb) (all : List Group) (d : Option Text) (m : Option Nat) : Prop where
  last : ∀ g ∈ all, lb.useqLast < g.1
  lastlt : lb.useqLast < lb.useq
  zerolt : lb.useqZero < lb.useq
  uns : lb.unsaved = true → m = none
  mark : ∀ k, m = some k → lb.unsaved = false ∧ ∃ A B, all = A ++ B ∧ A.length = k ∧
    lb.useqZero = lastSeq lb.useqLast A ∧ d = some (applyFwd T0 (ents A))
  lost : m = none → lb.unsaved = false → lb.useqZero ≠ lb.useqLast ∧ ∀ g ∈ all, g.1 ≠ lb.useqZero

theorem markInv_make : MarkInv [] Lbuf.make [] (some []) (some 0) where
  last := by intro g hg; simp at hg
  lastlt := by decide
  zerolt := by decide
  uns := by intro h; simp [Lbuf.make] at h
  mark := by
    intro k hk
    simp only [Option.some.injEq] at hk
    subst hk
    exact ⟨rfl, [], [], rfl, rfl, rfl, rfl⟩
  lost := by intro h; simp at h

theorem markInv_congr {T0 lb lb' all d m} (h : MarkInv T0 lb all d m) (hf : Frame lb lb')
    (hu : lb'.useq = lb.useq) : MarkInv T0 lb' all d m := by
  obtain ⟨f1, f2, f3⟩ := hf
  exact
    { last := by rw [f3]; exact h.last
      lastlt := by rw [f3, hu]; exact h.lastlt
      zerolt := by rw [f1, hu]; exact h.zerolt
      uns := by rw [f2]; exact h.uns
      mark := by rw [f1, f2, f3]; exact h.mark
      lost := by rw [f1, f2, f3]; exact h.lost }

theorem markInv_bump {T0 lb all d m} (h : MarkInv T0 lb all d m) : MarkInv T0 (modified lb).2 all d m where
  last := h.last
  lastlt := Nat.lt_succ_of_lt h.lastlt
  zerolt := Nat.lt_succ_of_lt h.zerolt
  uns := h.uns
  mark := h.mark
  lost := h.lost

/-- a logging `lbuf_edit` at a cursor with the groups `P` below it and ANY groups `F` above it, the group that carries
    the current sequence number among them if there is one: `F` is replaced by the one group of the new entry.  That the
    groups are older than the current sequence number is not needed: `useq_zero < useq` is enough. -/
theorem _root_.Neatvi.Lemmas.C02b.markInv_trunc' {T0 lb d m} (P F : List Group) (es : List Entry) (h : MarkInv T0 lb (P ++ F) d m)
    (hs : (P ++ F).Pairwise (fun a b => a.1 < b.1)) :
    MarkInv T0 lb (P ++ [(lb.useq, es)]) d (keepMark P.length m) where
  last := by
    intro g hg
    simp only [List.mem_append, List.mem_singleton] at hg
    rcases hg with hg | rfl
    · exact h.last g (by simp [hg])
    · exact h.lastlt
  lastlt := h.lastlt
  zerolt := h.zerolt
  uns := by intro hu; rw [h.uns hu]; rfl
  mark := by
    intro k hk
    cases m with
    | none => simp [keepMark] at hk
    | some k0 =>
      by_cases hle : k0 ≤ P.length
      · simp only [keepMark, hle, if_true, Option.some.injEq] at hk
        subst hk
        obtain ⟨hu, A, B, hAB, hlen, hz, hd⟩ := h.mark k0 rfl
        subst hlen
        have hA : A = P.take A.length := by
          have := congrArg (List.take A.length) hAB
          rw [List.take_append_of_le_length hle, List.take_left] at this
          exact this.symm
        refine ⟨hu, A, P.drop A.length ++ [(lb.useq, es)], ?_, rfl, hz, hd⟩
        rw [← List.append_assoc]
        congr 1
        conv => lhs; rw [← List.take_append_drop A.length P]
        rw [← hA]
      · simp [keepMark, hle] at hk
  lost := by
    intro hm hu
    cases m with
    | none =>
      obtain ⟨h1, h2⟩ := h.lost rfl hu
      refine ⟨h1, ?_⟩
      intro g hg
      simp only [List.mem_append, List.mem_singleton] at hg
      rcases hg with hg | rfl
      · exact h2 g (by simp [hg])
      · have := h.zerolt; simp only; omega
    | some k0 =>
      by_cases hle : k0 ≤ P.length
      · simp [keepMark, hle] at hm
      · obtain ⟨_, A, B, hAB, hlen, hz, _⟩ := h.mark k0 rfl
        subst hlen
        rcases List.append_eq_append_iff.1 hAB with ⟨C, hA, hF⟩ | ⟨C, hP, _⟩
        · rcases List.eq_nil_or_concat C with rfl | ⟨C0, c, hcc⟩
          · exfalso; rw [hA] at hle; simp at hle
          · rw [List.concat_eq_append] at hcc
            subst hcc
            have hz' : lb.useqZero = c.1 := by
              rw [hz, hA, ← List.append_assoc]; exact lastSeq_concat _ _ _
            have hcF : c ∈ F := by rw [hF]; simp
            refine ⟨?_, ?_⟩
            · have := h.last c (by simp [hcF]); omega
            · intro g hg
              simp only [List.mem_append, List.mem_singleton] at hg
              rcases hg with hg | rfl
              · rw [List.pairwise_append] at hs
                have := hs.2.2 g hg c hcF
                omega
              · have := h.zerolt; simp only; omega
        · exfalso; rw [hP] at hle; simp at hle

/-- a logging command at a cursor with the groups `P` below it and `F` above it -/
theorem markInv_trunc {T0 lb d m} (P F : List Group) (es : List Entry) (h : MarkInv T0 lb (P ++ F) d m)
    (hs : (P ++ F).Pairwise (fun a b => a.1 < b.1)) (hc : ∀ g ∈ P ++ F, g.1 < lb.useq) :
    MarkInv T0 lb (P ++ [(lb.useq, es)]) d (keepMark P.length m) :=
  markInv_trunc' P F es h hs

/-- `lbuf_saved(lb, 0)` and the bump, anywhere -/
theorem _root_.Neatvi.Lemmas.C02b.markInv_saved' {T0 lb pg fg d m} (hi : HInv T0 lb pg fg) (h : MarkInv T0 lb (pg.reverse ++ fg) d m) :
    MarkInv T0 (modified (savedCore lb false)).2 (pg.reverse ++ fg) (some lb.lines) (some pg.length) := by
  have hseq := seqAt_hinv hi
  rw [savedCore_false]
  exact
    { last := h.last
      lastlt := Nat.lt_succ_of_lt h.lastlt
      zerolt := by
        show seqAt lb < lb.useq + 1
        rw [hseq]
        apply Nat.lt_succ_of_le
        apply lastSeq_le
        · intro g hg; exact hi.le g (by simp at hg; simp [hg])
        · exact Nat.le_of_lt h.lastlt
      uns := by intro hu; cases hu
      mark := by
        intro k hk
        simp only [Option.some.injEq] at hk
        subst hk
        refine ⟨rfl, pg.reverse, fg, rfl, by simp, hseq, ?_⟩
        rw [hi.lines]
      lost := by intro hm; cases hm }

/-- `lbuf_saved(lb, 0)` and the bump -/
theorem markInv_saved {T0 lb z pg fg d m} (hi : Inv T0 lb z pg fg) (h : MarkInv T0 lb (pg.reverse ++ fg) d m) :
    MarkInv T0 (modified (savedCore lb false)).2 (pg.reverse ++ fg) (some lb.lines) (some pg.length) :=
  markInv_saved' (hinv_of_inv hi) h

/-- `lbuf_unsaved(lb)` -/
theorem markInv_partial {T0 lb all d m} (h : MarkInv T0 lb all d m) : MarkInv T0 (unsavedMark lb) all none none where
  last := h.last
  lastlt := h.lastlt
  zerolt := h.zerolt
  uns := fun _ => rfl
  mark := by intro k hk; cases hk
  lost := by intro _ hu; cases hu

/-- `lbuf_saved(lb, 1)` and the bump: the history is dropped, the present text is the new origin -/
theorem markInv_clear {T0 lb all d m} (_h : MarkInv T0 lb all d m) :
    MarkInv lb.lines (modified (savedCore lb true)).2 [] (some lb.lines) (some 0) where
  last := by intro g hg; simp at hg
  lastlt := by simp [savedCore, modified]
  zerolt := by simp [savedCore, modified, seqAt]
  uns := by intro hu; simp [savedCore, modified] at hu
  mark := by
    intro k hk
    simp only [Option.some.injEq] at hk
    subst hk
    refine ⟨by simp [savedCore, modified], [], [], rfl, rfl, ?_, rfl⟩
    simp [savedCore, modified, seqAt, lastSeq]
  lost := by intro hm; cases hm

theorem inv_clear {T0 lb z pg fg} (hi : Inv T0 lb z pg fg) :
    Inv lb.lines (modified (savedCore lb true)).2 { present := z.present } [] [] :=
  Inv.ofH (hinv_clear (hinv_of_inv hi)) (by intro _ g hg; simp at hg) (by intro hc; simp at hc)
    (by simp [savedCore, modified, hi.present]) rfl rfl

theorem _root_.Neatvi.Lemmas.C02b.clean_iff_mark' {T0 lb pg fg d m} (hi : HInv T0 lb pg fg)
    (h : MarkInv T0 lb (pg.reverse ++ fg) d m) : (modified lb).1 = false ↔ m = some pg.length := by
  have hseq := seqAt_hinv hi
  rw [modified_fst]
  constructor
  · intro hcl
    simp only [Bool.or_eq_false_iff, bne_eq_false_iff_eq] at hcl
    obtain ⟨hu, hz⟩ := hcl
    rw [hseq] at hz
    cases m with
    | none =>
      exfalso
      obtain ⟨h1, h2⟩ := h.lost rfl hu
      rcases lastSeq_cases lb.useqLast pg.reverse with ⟨_, hq⟩ | ⟨A0, c, hA, hq⟩
      · rw [hq] at hz; exact h1 hz.symm
      · rw [hq] at hz
        exact h2 c (by rw [hA]; simp) hz
    | some k =>
      obtain ⟨_, A, B, hAB, hlen, hz', _⟩ := h.mark k rfl
      have hA : pg.reverse = A :=
        lastSeq_inj lb.useqLast pg.reverse fg A B hi.sorted h.last hAB (by rw [hz, hz'])
      rw [← hlen, ← hA]; simp
  · intro hm
    obtain ⟨hu, A, B, hAB, hlen, hz, _⟩ := h.mark _ hm
    have hA : pg.reverse = A := List.append_inj_left hAB (by rw [hlen]; simp)
    rw [hu, hseq, hz, hA]
    simp

/-- **the dirty flag, characterised**: `lbuf_modified` reports clean exactly when the mark sits at
    the cursor -/
theorem clean_iff_mark {T0 lb z pg fg d m} (hi : Inv T0 lb z pg fg)
    (h : MarkInv T0 lb (pg.reverse ++ fg) d m) : (modified lb).1 = false ↔ m = some pg.length :=
  clean_iff_mark' (hinv_of_inv hi) h

theorem _root_.Neatvi.Lemmas.C02b.mark_here_text' {T0 lb pg fg d m} (hi : HInv T0 lb pg fg)
    (h : MarkInv T0 lb (pg.reverse ++ fg) d m) (hm : m = some pg.length) : d = some lb.lines := by
  obtain ⟨_, A, B, hAB, hlen, _, hd⟩ := h.mark _ hm
  have hA : pg.reverse = A := List.append_inj_left hAB (by rw [hlen]; simp)
  rw [hd, ← hA, hi.lines]

/-- ... and then the file holds the buffer's text -/
theorem mark_here_text {T0 lb z pg fg d m} (hi : Inv T0 lb z pg fg)
    (h : MarkInv T0 lb (pg.reverse ++ fg) d m) (hm : m = some pg.length) : d = some lb.lines :=
  mark_here_text' (hinv_of_inv hi) h hm

end Neatvi.Lemmas.C02
