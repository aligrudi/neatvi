import NeatviVerif.Lemmas.C02Run
/-!
# C02 lemmas, part 4: facts about the reference run (zipper with a mark) used by the corollaries
-/
namespace Neatvi.Lemmas.C02
open Neatvi Neatvi.Lbuf Neatvi.Spec Neatvi.Lemmas.Hist Neatvi.Props.C01 Neatvi.Props.C04

/-- the texts at and below the cursor, nearest first -/
def stack (z : Zipper) : List Text := z.present :: z.past

/-- every command of the list modifies the text history (logs at least one entry), from text `t` on -/
def AllLog : Text → List (List Splice) → Prop
  | _, [] => True
  | t, ss :: r => cmdLogs t ss = true ∧ AllLog (ss.foldl spliceText t) r

/-- modifying commands push one text each and leave a mark at or below the cursor alone -/
theorem rrun_cmds (css : List (List Splice)) : ∀ (r : Ref) (p : Nat), r.z.open_ = false → r.mark = some p →
    p ≤ r.z.past.length → AllLog r.z.present css →
    (rrun (css.map SOp.cmd) r).z.open_ = false ∧ (rrun (css.map SOp.cmd) r).mark = some p ∧
      ∃ ts, ts.length = css.length ∧ stack (rrun (css.map SOp.cmd) r).z = ts ++ stack r.z := by
  induction css with
  | nil => intro r p ho hm _ _; exact ⟨ho, hm, [], rfl, rfl⟩
  | cons ss css ih =>
    intro r p ho hm hp hl
    obtain ⟨hl1, hl2⟩ := hl
    have hz : (rstep r (.cmd ss)).z =
        (⟨r.z.present :: r.z.past, ss.foldl spliceText r.z.present, [], false⟩ : Zipper) := by
      show (refStep r.z (.cmd ss)).2 = _
      rw [refStep_cmd_logs r.z ss ho hl1]
    have hk : (rstep r (.cmd ss)).mark = some p := by
      simp [rstep, hl1, hm, keepMark, hp]
    obtain ⟨a, b, ts, c1, c2⟩ := ih (rstep r (.cmd ss)) p (by rw [hz]) hk
      (by rw [hz]; simp only [List.length_cons]; omega) (by rw [hz]; exact hl2)
    refine ⟨a, b, ts ++ [ss.foldl spliceText r.z.present], by simp [c1], ?_⟩
    show stack (rrun (css.map SOp.cmd) (rstep r (.cmd ss))).z = _
    rw [c2, hz]
    simp [stack]

/-- successful undos pop one text each and leave the mark alone -/
theorem rrun_undos (j : Nat) : ∀ (r : Ref), r.z.open_ = false → j ≤ r.z.past.length →
    (rrun (List.replicate j SOp.undo) r).z.open_ = false ∧ (rrun (List.replicate j SOp.undo) r).mark = r.mark ∧
      stack (rrun (List.replicate j SOp.undo) r).z = (stack r.z).drop j := by
  induction j with
  | zero => intro r ho _; exact ⟨ho, rfl, rfl⟩
  | succ j ih =>
    intro r ho hj
    cases hp : r.z.past with
    | nil => rw [hp] at hj; simp at hj
    | cons p ps =>
      have hz : (rstep r .undo).z = (⟨ps, p, r.z.present :: r.z.future, false⟩ : Zipper) := by
        show (refStep r.z .undo).2 = _
        simp [refStep, Zipper.undo, hp]
      obtain ⟨a, b, c⟩ := ih (rstep r .undo) (by rw [hz]) (by rw [hz]; rw [hp] at hj; simpa using hj)
      refine ⟨a, b, ?_⟩
      show stack (rrun (List.replicate j SOp.undo) (rstep r .undo)).z = _
      rw [c, hz]
      simp [stack, hp]

theorem rstep_undo_redo (r : Ref) (ho : r.z.open_ = false) (hp : 1 ≤ r.z.past.length) :
    rstep (rstep r .undo) .redo = r := by
  obtain ⟨⟨past, present, future, open_⟩, mark⟩ := r
  simp only at ho hp
  subst ho
  cases past with
  | nil => simp at hp
  | cons p ps => simp [rstep, refStep, Zipper.undo, Zipper.redo]

/-- `j` successful undos followed by `j` redos lead back to the same reference state -/
theorem rrun_undo_redo (j : Nat) : ∀ (r : Ref), r.z.open_ = false → j ≤ r.z.past.length →
    rrun (List.replicate j SOp.undo ++ List.replicate j SOp.redo) r = r := by
  induction j with
  | zero => intro r _ _; rfl
  | succ j ih =>
    intro r ho hj
    have h1 := rrun_undos 1 r ho (by omega)
    have e : List.replicate (j + 1) SOp.undo ++ List.replicate (j + 1) SOp.redo =
        [SOp.undo] ++ ((List.replicate j SOp.undo ++ List.replicate j SOp.redo) ++ [SOp.redo]) := by
      rw [List.replicate_succ, List.replicate_succ']
      simp
    rw [e, rrun_append, rrun_append]
    have hr1 : rrun [SOp.undo] r = rstep r .undo := rfl
    rw [hr1]
    have hlen : j ≤ (rstep r .undo).z.past.length := by
      have := congrArg List.length h1.2.2
      simp only [stack, List.length_cons, List.length_drop] at this
      have e1 : rrun (List.replicate 1 SOp.undo) r = rstep r .undo := rfl
      rw [e1] at this
      omega
    rw [ih (rstep r .undo) h1.1 hlen]
    exact rstep_undo_redo r ho (by omega)

def isSaving : SOp → Bool
  | .saved => true
  | .savedClear => true
  | _ => false

theorem rstep_mark_none (r : Ref) (h : r.mark = none) (op : SOp) (hs : isSaving op = false) :
    (rstep r op).mark = none := by
  cases op with
  | cmd ss =>
    show (if cmdLogs r.z.present ss then keepMark r.z.past.length r.mark else r.mark) = none
    rw [h]
    split <;> rfl
  | saved => cases hs
  | savedClear => cases hs
  | partialWrite => rfl
  | undo => exact h
  | redo => exact h
  | query => exact h

/-- once the mark is lost only a whole write brings it back -/
theorem rrun_mark_none (ops : List SOp) : ∀ (r : Ref), r.mark = none → (∀ op ∈ ops, isSaving op = false) →
    (rrun ops r).mark = none := by
  induction ops with
  | nil => intro r h _; exact h
  | cons op ops ih =>
    intro r h hs
    exact ih _ (rstep_mark_none r h op (hs op (by simp))) (fun o ho => hs o (by simp [ho]))

end Neatvi.Lemmas.C02
