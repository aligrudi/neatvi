import NeatviVerif.Lemmas.C02Mark
/-!
# C02 lemmas, part 3: histories with saving — the model run, the reference run, the simulation
-/
namespace Neatvi.Lemmas.C02
open Neatvi Neatvi.Lbuf Neatvi.Spec Neatvi.Lemmas.Hist Neatvi.Props.C01 Neatvi.Props.C04

/-- one top-level editor command at the lbuf API, including the calls that concern saving -/
inductive SOp where
  | cmd (splices : List Splice)   -- lbuf_edit calls, then the bump (`lbuf_modified`)
  | undo                           -- lbuf_undo, then the bump
  | redo                           -- lbuf_redo, then the bump
  | query                          -- lbuf_modified alone: what quit / :e / :b do to look at the flag
  | saved                          -- lbuf_saved(lb, 0), then the bump: the whole buffer was written
  | savedClear                     -- lbuf_saved(lb, 1), then the bump: the file was (re)read, history dropped
  | partialWrite                     -- lbuf_unsaved(lb): part of the buffer was written to its own file

/-- the model: one step (`none` = trap) -/
def sstep (lb : Lb) : SOp → Option Lb
  | .cmd ss => (applySplices ss lb).map (fun l => (modified l).2)
  | .undo => (undo lb).map (fun r => (modified r.2).2)
  | .redo => (redo lb).map (fun r => (modified r.2).2)
  | .query => some (modified lb).2
  | .saved => some (modified (savedCore lb false)).2
  | .savedClear => some (modified (savedCore lb true)).2
  | .partialWrite => some (unsavedMark lb)

/-- ghost: the text the buffer's file holds, if it is a text the buffer ever had since
    (`none` after a partial write: the file is then no text of the history) -/
def diskStep (lb : Lb) (d : Option Text) : SOp → Option Text
  | .saved => some lb.lines
  | .savedClear => some lb.lines
  | .partialWrite => none
  | _ => d

/-- the model run instrumented with the ghost file content -/
def srunD : List SOp → Lb × Option Text → Option (Lb × Option Text)
  | [], s => some s
  | op :: r, s =>
    match sstep s.1 op with
    | none => none
    | some lb' => srunD r (lb', diskStep s.1 s.2 op)

def SGoodOp : SOp → Prop
  | .cmd ss => ∀ s ∈ ss, s.1 ≤ s.2.1
  | _ => True

instance : DecidablePred SGoodOp := fun op => by
  cases op <;> unfold SGoodOp <;> infer_instance

/-- callers never pass an inverted range -/
def SGood (ops : List SOp) : Prop := ∀ op ∈ ops, SGoodOp op

instance : DecidablePred SGood := fun ops => by unfold SGood; infer_instance

/-! ### the reference: the zipper of texts with a mark at the saved position -/

structure Ref where
  z : Zipper := {}
  /-- depth (number of past texts) at which the file's text sits, while still reachable -/
  mark : Option Nat := some 0

def rstep (r : Ref) : SOp → Ref
  | .cmd ss =>
    { z := (refStep r.z (.cmd ss)).2
      mark := if cmdLogs r.z.present ss then keepMark r.z.past.length r.mark else r.mark }
  | .undo => { r with z := (refStep r.z .undo).2 }
  | .redo => { r with z := (refStep r.z .redo).2 }
  | .query => r
  | .saved => { r with mark := some r.z.past.length }
  | .savedClear => { z := { present := r.z.present }, mark := some 0 }
  | .partialWrite => { r with mark := none }

def rrun : List SOp → Ref → Ref
  | [], r => r
  | op :: ops, r => rrun ops (rstep r op)

theorem rrun_append (a b : List SOp) (r : Ref) : rrun (a ++ b) r = rrun b (rrun a r) := by
  induction a generalizing r with
  | nil => rfl
  | cons op a ih => simp only [List.cons_append, rrun, ih]

theorem srunD_append (a b : List SOp) (s : Lb × Option Text) :
    srunD (a ++ b) s = (srunD a s).bind (srunD b) := by
  induction a generalizing s with
  | nil => rfl
  | cons op a ih =>
    simp only [List.cons_append, srunD]
    split
    · rfl
    · exact ih _

/-! ### simulation -/

theorem pastTexts_length (T0 : Text) (pg : List Group) : (pastTexts T0 pg).length = pg.length := by
  induction pg with
  | nil => rfl
  | cons g ps ih => simp [pastTexts, ih]

/-- the state at a command boundary: C04's invariant plus the mark invariant -/
def SInv (lb : Lb) (r : Ref) (d : Option Text) : Prop :=
  r.z.open_ = false ∧ ∃ T0 pg fg, Inv T0 lb r.z pg fg ∧ MarkInv T0 lb (pg.reverse ++ fg) d r.mark

theorem sinv_make : SInv Lbuf.make {} (some []) := ⟨rfl, [], [], [], inv_make, markInv_make⟩

theorem SInv.lines {lb r d} (h : SInv lb r d) : lb.lines = r.z.present := by
  obtain ⟨_, T0, pg, fg, hi, _⟩ := h; exact hi.present.symm

/-- **the dirty flag is the reference's**: clean exactly when the mark is at the zipper's position -/
theorem SInv.clean_iff {lb r d} (h : SInv lb r d) : (modified lb).1 = false ↔ r.mark = some r.z.past.length := by
  obtain ⟨_, T0, pg, fg, hi, hm⟩ := h
  rw [hi.past, pastTexts_length]
  exact clean_iff_mark hi hm

theorem SInv.clean_text {lb r d} (h : SInv lb r d) (hc : (modified lb).1 = false) : d = some lb.lines := by
  obtain ⟨_, T0, pg, fg, hi, hm⟩ := h
  exact mark_here_text hi hm ((clean_iff_mark hi hm).1 hc)

theorem mem_rev_app {α} (g : α) (a b : List α) : g ∈ a.reverse ++ b ↔ g ∈ a ++ b := by
  simp only [List.mem_append, List.mem_reverse]

theorem sstep_inv {lb r d} (h : SInv lb r d) (op : SOp) (hg : SGoodOp op) :
    ∃ lb', sstep lb op = some lb' ∧ SInv lb' (rstep r op) (diskStep lb d op) := by
  obtain ⟨ho, T0, pg, fg, hi, hm⟩ := h
  have hdepth : r.z.past.length = pg.length := by rw [hi.past, pastTexts_length]
  have hbump := inv_bump_closed hi ho
  cases op with
  | cmd ss =>
    obtain ⟨lb1, a1, a2, a4⟩ := splices_group T0 ss lb r.z pg fg hi hg
    have a3 := applySplices_frame ss lb lb1 a1
    refine ⟨(modified lb1).2, by simp [sstep, a1], ?_⟩
    rcases a4 with ⟨hl, rfl⟩ | ⟨hl, es, hi1⟩
    · have hz : (rstep r (.cmd ss)).z = r.z := by
        show (refStep r.z (.cmd ss)).2 = r.z
        rw [refStep_cmd_nolog r.z ss ho hl]
      have hk : (rstep r (.cmd ss)).mark = r.mark := by simp [rstep, hl]
      refine ⟨by rw [hz]; exact ho, T0, pg, fg, by rw [hz]; exact hbump, ?_⟩
      rw [hk]; exact markInv_bump hm
    · simp only [ho, Bool.false_eq_true, if_false] at hi1
      have hb := inv_bump hi1
      have hm1 := markInv_trunc pg.reverse fg es hm hi.sorted
        (fun g hg => hi.closed ho g ((mem_rev_app g pg fg).1 hg))
      have hm2 := markInv_bump (markInv_congr hm1 a3 a2)
      have hk : (rstep r (.cmd ss)).mark = keepMark pg.reverse.length r.mark := by
        simp [rstep, hl, hdepth]
      refine ⟨rfl, T0, (lb.useq, es) :: pg, [], hb, ?_⟩
      rw [hk]
      show MarkInv T0 _ _ d _
      simpa using hm2
  | undo =>
    rcases inv_undo hi ho with ⟨_, hp, hu⟩ | ⟨g, ps, p, pt, lb', hpg, hp, hu, _, hus, hi'⟩
    · have hzz : (rstep r .undo).z = r.z := by
        show (refStep r.z .undo).2 = r.z
        simp [refStep, Zipper.undo, hp]
      refine ⟨(modified lb).2, by simp [sstep, hu], by rw [hzz]; exact ho, T0, pg, fg,
        by rw [hzz]; exact hbump, markInv_bump hm⟩
    · subst hpg
      have hzz : (rstep r .undo).z = ⟨pt, p, r.z.present :: r.z.future, false⟩ := by
        show (refStep r.z .undo).2 = _
        simp [refStep, Zipper.undo, hp]
      have hm' : MarkInv T0 (modified lb').2 (ps.reverse ++ g :: fg) d r.mark := by
        have := markInv_bump (markInv_congr hm (undo_frame _ _ _ hu) hus)
        simpa using this
      exact ⟨(modified lb').2, by simp [sstep, hu], by rw [hzz], T0, ps, g :: fg,
        by rw [hzz]; exact inv_bump_closed hi' rfl, hm'⟩
  | redo =>
    rcases inv_redo hi ho with ⟨_, hp, hu⟩ | ⟨g, fs, n, nt, lb', hfg, hp, hu, _, hus, hi'⟩
    · have hzz : (rstep r .redo).z = r.z := by
        show (refStep r.z .redo).2 = r.z
        simp [refStep, Zipper.redo, hp]
      refine ⟨(modified lb).2, by simp [sstep, hu], by rw [hzz]; exact ho, T0, pg, fg,
        by rw [hzz]; exact hbump, markInv_bump hm⟩
    · subst hfg
      have hzz : (rstep r .redo).z = ⟨r.z.present :: r.z.past, n, nt, false⟩ := by
        show (refStep r.z .redo).2 = _
        simp [refStep, Zipper.redo, hp]
      have hm' : MarkInv T0 (modified lb').2 ((g :: pg).reverse ++ fs) d r.mark := by
        have := markInv_bump (markInv_congr hm (redo_frame _ _ _ hu) hus)
        simpa using this
      exact ⟨(modified lb').2, by simp [sstep, hu], by rw [hzz], T0, g :: pg, fs,
        by rw [hzz]; exact inv_bump_closed hi' rfl, hm'⟩
  | query => exact ⟨(modified lb).2, rfl, ho, T0, pg, fg, hbump, markInv_bump hm⟩
  | saved =>
    refine ⟨_, rfl, ho, T0, pg, fg, ?_, ?_⟩
    · have h1 : Inv T0 (savedCore lb false) r.z pg fg := by
        rw [savedCore_false]; exact inv_congr hi rfl rfl rfl rfl
      exact inv_bump_closed h1 ho
    · show MarkInv T0 _ _ (some lb.lines) (some r.z.past.length)
      rw [hdepth]
      exact markInv_saved hi hm
  | savedClear =>
    exact ⟨_, rfl, rfl, lb.lines, [], [], inv_clear hi, markInv_clear hm⟩
  | partialWrite =>
    exact ⟨_, rfl, ho, T0, pg, fg, inv_congr hi rfl rfl rfl rfl, markInv_partial hm⟩

theorem srunD_inv (ops : List SOp) : ∀ (lb : Lb) (r : Ref) (d : Option Text), SInv lb r d → SGood ops →
    ∃ lb' d', srunD ops (lb, d) = some (lb', d') ∧ SInv lb' (rrun ops r) d' := by
  induction ops with
  | nil => intro lb r d h _; exact ⟨lb, d, rfl, h⟩
  | cons op ops ih =>
    intro lb r d h hg
    obtain ⟨lb1, s1, i1⟩ := sstep_inv h op (hg op (by simp))
    obtain ⟨lb', d', s2, i2⟩ := ih lb1 _ _ i1 (fun o ho => hg o (by simp [ho]))
    refine ⟨lb', d', ?_, i2⟩
    simp only [srunD, s1]
    exact s2

end Neatvi.Lemmas.C02
