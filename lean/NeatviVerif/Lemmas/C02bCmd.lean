import NeatviVerif.Lemmas.C02bEd
import NeatviVerif.Lemmas.C02bKeep
import NeatviVerif.Lemmas.C02cStages
import NeatviVerif.Lemmas.ExStepTable
/-!
# C02b lemmas, part 4: what every ex command keeps

`Kept P`: besides what the quiet handlers do (`Quiet`), `P` survives the operations on the buffer table
and the two places where a buffer is marked saved (the end of `ec_write` and of `ec_edit`).  Every command line is a
composition of such steps (`XStep`, Lemmas/ExStepTable.lean), so such a `P` is kept along them (`Kept.ofXStep`), hence
by every handler, by `ex_exec` and by `ex_command`, whatever the fuel (`Kept.all`).  The invariant of
the buffer table is the first instance (`edInv_kept`); the invariant of C02d is the second.
-/
namespace Neatvi.Lemmas.C02b
open Neatvi Neatvi.Lbuf Neatvi.Ex Neatvi.Rset Neatvi.Spec Neatvi.Lemmas.ExFrame Neatvi.Lemmas.C02Ex
open Neatvi.Lemmas.C02c Neatvi.Lemmas.C02d
open Neatvi.Lemmas.ExStep (LbStep QStep LStep XStep)

/-- what the invariants see of a buffer: `:b ~` renumbers the buffers and changes nothing of this -/
def bufView (b : Buf) : Bytes × Int × Lb := (b.path, b.mtime, b.lb)

/-- a predicate on editor states kept by everything the ex handlers do to the table, the files and the clock -/
structure Kept (P : Ed → Prop) : Prop extends Quiet P where
  bump : ∀ {ed} (i : Nat), P ed → P (ed.modifiedAt i).2
  guard : ∀ {ed ed' idx msg r}, P ed → bufsModified ed idx msg = some (r, ed') → P ed'
  switch : ∀ {ed} (i : Nat), P ed → P (ed.bufsSwitch i)
  shift : ∀ {ed}, P ed → P ed.bufsShift
  opened : ∀ {ed} (p : Bytes), P ed → P (ed.bufsOpen p).2
  /-- `:b !` on the last buffer: an empty unnamed buffer takes the first slot -/
  fresh : ∀ {ed : Ed}, P ed →
    P { ed with bufs := ed.bufs.set 0 (some (Props.C20b.freshBuf ed)), bufsCnt := ed.bufsCnt + 1 }
  /-- `:b ~`: the buffers are numbered anew -/
  renum : ∀ {ed}, P ed → P (Props.C20b.renumEd ed)
  save : ∀ {ed ed' lb b e path force ts r}, P ed → lbufSaveP ed lb b e path force ts = some (r, ed') → P ed'
  /-- the end of `ec_write`: the current buffer has been saved to `path` -/
  written : ∀ {ed ed1 ed' cur path b e force ts m r}, P ed → ed.cur = some cur →
    lbufSaveP ed cur.lb b.toNat e path force ts = some (none, ed1) →
    writeFinish (ed1.show m) cur path b e = some (r, ed') → P ed'
  /-- the end of `ec_edit`: the file is read and the buffer marked saved -/
  loaded : ∀ {ed ed' path}, P ed → editFinish ed path = some ed' → P ed'

variable {P : Ed → Prop}

theorem Kept.guardIf (K : Kept P) {ed ed' : Ed} {c : Prop} [Decidable c] {idx : Nat} {msg : Option Bytes} {r : Bool}
    (hi : P ed) (h : (if c then bufsModified ed idx msg else some (false, ed) : R Bool) = some (r, ed')) : P ed' := by
  split at h
  · exact K.guard hi h
  · cases h; exact hi

theorem Kept.ofLStep (K : Kept P) {ed ed' : Ed} (hs : LStep ed ed') : P ed → P ed' := by
  induction hs with
  | quiet hq => exact K.toQuiet.ofStep hq
  | trans _ _ ih1 ih2 => exact fun h => ih2 (ih1 h)
  | bump0 => exact K.bump0
  | guard0 hm => exact fun h => K.guard h hm
  | save hs => exact fun h => K.save h hs
  | written hc hs hf => exact fun h => K.written h hc hs hf

theorem Kept.ofXStep (K : Kept P) {ed ed' : Ed} (hs : XStep ed ed') : P ed → P ed' := by
  induction hs with
  | quiet hq => exact K.toQuiet.ofStep hq
  | trans _ _ ih1 ih2 => exact fun h => ih2 (ih1 h)
  | cmd hl hr => exact K.ofLStep (LStep.run hl hr)
  | bump i => exact K.bump i
  | guard hm => exact fun h => K.guard h hm
  | switch i _ => exact K.switch i
  | shift => exact K.shift
  | opened p => exact K.opened p
  | fresh _ => exact K.fresh
  | renum => exact K.renum
  | quitFlag => exact fun h => K.to h rfl rfl rfl
  | save hs => exact fun h => K.save h hs
  | loaded hf => exact fun h => K.loaded h hf
  | atBracket _ ih => exact fun h => K.to (ih (K.to h rfl rfl rfl)) rfl rfl rfl
  | @globBracket e0 _ b e _ ih =>
    intro h
    have e4 := ih (K.toQuiet.ofStep (Lemmas.ExStep.globMark_step trivial e0 b e) (K.to h rfl rfl rfl))
    exact K.to (K.toQuiet.ofStep (Lemmas.ExStep.globSweep_step trivial _) e4) rfl rfl rfl

theorem Kept.ecWrite (K : Kept P) {ed ed' : Ed} {loc cmd arg : Bytes} {r : Int} (hi : P ed)
    (hw : ecWrite ed loc cmd arg = some (r, ed')) : P ed' := K.ofLStep (.ecWrite hw) hi

/-- running a line, `ex_command` and the dispatcher with fuel `f` keep `P` -/
def ExecOK (P : Ed → Prop) (f : Nat) : Prop := ∀ ed ln r ed', P ed → exExec f ed ln = some (r, ed') → P ed'
def CmdOK (P : Ed → Prop) (f : Nat) : Prop := ∀ ed ln r ed', P ed → exCommand f ed ln = some (r, ed') → P ed'
def RunOK (P : Ed → Prop) (f : Nat) : Prop := ∀ ed h loc cmd arg txt r ed', P ed →
  runCmd f ed h loc cmd arg txt = some (r, ed') → P ed'

theorem Kept.all (K : Kept P) (f : Nat) : ExecOK P f ∧ CmdOK P f ∧ RunOK P f ∧ RunOK P (f + 1) :=
  have h := XStep.all f
  ⟨fun _ _ _ _ hi he => K.ofXStep (h.1 _ _ _ _ he) hi, fun _ _ _ _ hi he => K.ofXStep (h.2.1 _ _ _ _ he) hi,
   fun _ _ _ _ _ _ _ _ hi he => K.ofXStep (h.2.2.1 _ _ _ _ _ _ _ _ he) hi,
   fun _ _ _ _ _ _ _ _ hi he => K.ofXStep (h.2.2.2 _ _ _ _ _ _ _ _ he) hi⟩

theorem exStep_cases {ed ed' : Ed} {r : Int} (h : exStep ed = some (r, ed')) :
    ∃ ln rest ed1, ed.input = ln :: rest ∧
      Ex.exCommand FUEL { ed with input := rest, out := [], msg := [], calls := 0, fired := 0 } ln = some (r, ed1) ∧
      ed' = { ed1 with regs := ed1.regs.put 58 ln 1, faults := [] } := by
  unfold exStep at h
  split at h
  · cases h
  · rename_i ln rest hin
    simp only [] at h
    split at h
    · cases h
    · rename_i r1 ed1 hc
      cases h
      exact ⟨ln, rest, ed1, hin, hc, rfl⟩

theorem exRun_keeps_of (hstep : ∀ {ed r ed'}, P ed → exStep ed = some (r, ed') → P ed') :
    ∀ (n : Nat) (ed ed' : Ed), P ed → Props.C02.Ex.exRun n ed = some ed' → P ed' := by
  intro n
  induction n with
  | zero => intro ed ed' hi h; cases h; exact hi
  | succ n ih =>
    intro ed ed' hi h
    rw [Props.C02.Ex.exRun] at h
    split at h
    · cases h; exact hi
    · split at h
      · cases h
      · rename_i hs
        exact ih _ _ (hstep hi hs) h

theorem Kept.exCommand (K : Kept P) {f : Nat} {ed ed' : Ed} {ln : Bytes} {r : Int} (hi : P ed)
    (h : Ex.exCommand f ed ln = some (r, ed')) : P ed' := K.ofXStep (XStep.exCommand h) hi

theorem Kept.exExec (K : Kept P) {f : Nat} {ed ed' : Ed} {ln : Bytes} {r : Int} (hi : P ed)
    (h : Ex.exExec f ed ln = some (r, ed')) : P ed' := K.ofXStep (XStep.exExec h) hi

theorem EdInv.to {ed ed' : Ed} (h : EdInv ed) (hb : ed'.bufs = ed.bufs) : EdInv ed' := edInv_of_bufs hb h

theorem writeFinish_edInv {ed ed' : Ed} {cur : Buf} {path : Bytes} {b e r : Int} (h : EdInv ed) (hg : GoodLb cur.lb)
    (hw : writeFinish ed cur path b e = some (r, ed')) : EdInv ed' := by
  obtain ⟨c3, ed6, hl, h6, hc⟩ := writeFinish_cases hw
  have h6' : EdInv ed6 := by rcases h6 with ⟨_, rfl⟩ | ⟨_, rfl⟩ <;> exact h
  rw [← hl] at hg
  rcases hc with ⟨_, _, _, rfl⟩ | rfl | rfl
  · exact edInv_setCur h6' (hg.savedBump false)
  · exact edInv_setCur h6' hg.partialWrite
  · exact edInv_setCur h (hl ▸ hg)

theorem edInv_quiet : Quiet EdInv where
  same h hs := edInv_of_bufs hs.1 h
  setLb h hl hs := by
    obtain ⟨d, hd⟩ := edInv_lb h hl
    exact edInv_setLb h ⟨d, hd.step hs⟩
  bump0 h := edInv_modifiedAt 0 h

theorem editRead_edInv {ed ed' : Ed} {b : Buf} (h : EdInv ed) (hb : ed.cur = some b) (hr : editRead ed b = some ed') :
    EdInv ed' := edInv_quiet.ofStep (Lemmas.ExStep.editRead_step hb hr) h

theorem editFinish_edInv {ed ed' : Ed} {path : Bytes} (h : EdInv ed) (hf : editFinish ed path = some ed') : EdInv ed' := by
  obtain ⟨b, ed5, b5, _, hb, hrd, hb5, rfl, rfl⟩ := editFinish_cases hf
  have e5 := editRead_edInv h hb hrd
  exact (edInv_setCur e5 ((edInv_cur e5 hb5).savedBump _)).to rfl

theorem edInv_kept : Kept EdInv where
  toQuiet := edInv_quiet
  bump i h := edInv_modifiedAt i h
  guard h hm := edInv_bufsModified h hm
  switch i h := edInv_bufsSwitch i h
  shift h := edInv_bufsShift h
  opened p h := edInv_bufsOpen p h
  fresh h := tabInv_setAt h goodLb_make (fun _ => closed_make)
  renum h := tabInv_congr_lb (by rw [Props.C20b.renumEd_eq]; exact Lemmas.C20b.renumFrom_map (·.lb) (fun _ _ => rfl) _ _) h
  save h hs := edInv_of_bufs (lbufSaveP_bufs _ _ _ _ _ _ _ _ _ hs) h
  written h hc hs hf := by
    refine writeFinish_edInv ?_ (edInv_cur h hc) hf
    exact (h.to (lbufSaveP_bufs _ _ _ _ _ _ _ _ _ hs)).to rfl
  loaded h hf := editFinish_edInv h hf

theorem edInv_edit {ed ed' : Ed} {s : Option Bytes} {b e : Int} (h : EdInv ed) (he : ed.edit s b e = some ed') :
    EdInv ed' := edInv_quiet.ofStep (Lemmas.ExStep.QStepAt.edit he) h
theorem guard_inv {ed ed' : Ed} {c : Prop} [Decidable c] {idx : Nat} {msg : Option Bytes} {r : Bool} (hi : EdInv ed)
    (h : (if c then bufsModified ed idx msg else some (false, ed) : R Bool) = some (r, ed')) : EdInv ed' :=
  edInv_kept.guardIf hi h
theorem ecGlob_inv (f : Nat) (_hbody : ExecOK EdInv f) (ed ed' : Ed) (loc cmd arg : Bytes) (r : Int) (hi : EdInv ed)
    (h : ecGlob (f + 1) ed loc cmd arg = some (r, ed')) : EdInv ed' :=
  edInv_kept.ofXStep (XStep.ecGlob (XStep.all f).1 h) hi
theorem exCommand_edInv {f : Nat} {ed ed' : Ed} {ln : Bytes} {r : Int} (hi : EdInv ed)
    (h : exCommand f ed ln = some (r, ed')) : EdInv ed' := edInv_kept.exCommand hi h

/-- the hypotheses on the calls one level down are not needed: `XStep.all`, `Kept.all` give every fuel at once -/
theorem ecAt_inv (f : Nat) (_hcmd : CmdOK EdInv f) (ed ed' : Ed) (loc cmd arg : Bytes) (r : Int) (hi : EdInv ed)
    (h : ecAt (f + 1) ed loc cmd arg = some (r, ed')) : EdInv ed' :=
  edInv_kept.ofXStep (XStep.ecAt (XStep.all f).2.1 h) hi
theorem runCmd_inv (f : Nat) (ed ed' : Ed) (hd : String) (loc cmd arg : Bytes) (txt : Option Bytes) (r : Int)
    (_hat : ∀ ed r ed', EdInv ed → ecAt f ed loc cmd arg = some (r, ed') → EdInv ed')
    (_hglob : ∀ ed r ed', EdInv ed → ecGlob f ed loc cmd arg = some (r, ed') → EdInv ed')
    (_hedit : ∀ ed r ed', EdInv ed → ecEdit f ed cmd arg = some (r, ed') → EdInv ed')
    (hi : EdInv ed) (h : runCmd (f + 1) ed hd loc cmd arg txt = some (r, ed')) : EdInv ed' :=
  edInv_kept.ofXStep (XStep.runCmd h) hi

end Neatvi.Lemmas.C02b
