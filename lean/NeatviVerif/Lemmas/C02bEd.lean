import NeatviVerif.Lemmas.C02bMark
import NeatviVerif.Lemmas.ExFrame
import NeatviVerif.Lemmas.C02Ex
import NeatviVerif.Props.C20
import NeatviVerif.Props.C20b
/-!
# C02b lemmas, part 3: the invariant of the buffer table and the primitive operations on it

`EdInv ed`: every buffer of the table was built by the lbuf API (`LbReach`), and every buffer other
than the current one (slot 0) has all its groups closed (it was bumped when it was left).

`TabStrong`, and `TabInv` on the parked slots, are statements about every record of the table: what the table
operations do to them is read off `C20b.AllB` (Lemmas/C20bTable.lean).
-/
namespace Neatvi.Lemmas.C02b
open Neatvi Neatvi.Lbuf Neatvi.Ex Neatvi.Spec Neatvi.Lemmas.ExFrame Neatvi.Lemmas.C02Ex
open Neatvi.Lemmas.C20b (AllB)

/-- built by the lbuf API, with some ghost file text -/
def GoodLb (lb : Lb) : Prop := ∃ d, LbReach lb d

theorem goodLb_make : GoodLb Lbuf.make := ⟨_, LbReach.make⟩
theorem GoodLb.bump {lb} (h : GoodLb lb) : GoodLb (modified lb).2 := by
  obtain ⟨d, h⟩ := h; exact ⟨d, h.bump⟩
theorem GoodLb.closed_bump {lb} (h : GoodLb lb) : Closed (modified lb).2 := by
  obtain ⟨d, h⟩ := h; exact h.closed_bump
theorem GoodLb.edit {lb lb'} (h : GoodLb lb) {buf : Option Bytes} {b e : Nat} (he : Lbuf.edit lb buf b e = some lb') :
    GoodLb lb' := by
  obtain ⟨d, h⟩ := h; exact ⟨d, h.edit _ _ _ he⟩
theorem GoodLb.undo {lb lb' rc} (h : GoodLb lb) (he : Lbuf.undo lb = some (rc, lb')) : GoodLb lb' := by
  obtain ⟨d, h⟩ := h; exact ⟨d, h.undo he⟩
theorem GoodLb.redo {lb lb' rc} (h : GoodLb lb) (he : Lbuf.redo lb = some (rc, lb')) : GoodLb lb' := by
  obtain ⟨d, h⟩ := h; exact ⟨d, h.redo he⟩
theorem GoodLb.rd {lb lb'} (h : GoodLb lb) {chunks : List Bytes} {fe : Bool} {b e rc : Nat}
    (he : LbufIo.rd lb chunks fe b e = some (rc, lb')) : GoodLb lb' := by
  obtain ⟨d, h⟩ := h; exact ⟨d, h.rd he⟩
theorem GoodLb.setMark {lb} (h : GoodLb lb) (c : Nat) (p o : Int) : GoodLb (Lbuf.setMark lb c p o) := by
  obtain ⟨d, h⟩ := h; exact ⟨d, h.setMark c p o⟩
theorem GoodLb.globSet {lb} (h : GoodLb lb) (p d : Nat) : GoodLb (Lbuf.globSet lb p d) := by
  obtain ⟨d', h⟩ := h; exact ⟨d', h.globSet p d⟩
theorem GoodLb.globGet {lb} (h : GoodLb lb) (p d : Nat) : GoodLb (Lbuf.globGet lb p d).2 := by
  obtain ⟨d', h⟩ := h; exact ⟨d', h.globGet p d⟩
theorem GoodLb.savedBump {lb} (h : GoodLb lb) (c : Bool) : GoodLb (modified (savedCore lb c)).2 := by
  obtain ⟨d, h⟩ := h
  cases c
  · exact ⟨_, h.saved⟩
  · exact ⟨_, h.savedClear⟩
theorem GoodLb.partialWrite {lb} (h : GoodLb lb) : GoodLb (unsavedMark lb) := by
  obtain ⟨d, h⟩ := h; exact ⟨_, h.partialWrite⟩

def TabInv (bufs : List (Option Buf)) : Prop :=
  ∀ i b, bufs.getD i none = some b → GoodLb b.lb ∧ (i ≠ 0 → Closed b.lb)

/-- every slot good and closed -/
def TabStrong (bufs : List (Option Buf)) : Prop :=
  ∀ b, some b ∈ bufs → GoodLb b.lb ∧ Closed b.lb

def EdInv (ed : Ed) : Prop := TabInv ed.bufs

theorem TabStrong.inv {bufs} (h : TabStrong bufs) : TabInv bufs := by
  intro i b hb
  obtain ⟨h1, h2⟩ := h b (Props.C20.mem_of_getD _ _ _ hb).1
  exact ⟨h1, fun _ => h2⟩

theorem TabInv.tail {l : List (Option Buf)} (h : TabInv l) : TabStrong (l.drop 1) := by
  intro b hb
  obtain ⟨i, hi, hget⟩ := List.getElem_of_mem hb
  have hg : l.getD (i + 1) none = some b := by
    rw [List.getD_eq_getElem?_getD]
    rw [List.getElem_drop] at hget
    have hlt : 1 + i < l.length := by simp at hi; omega
    rw [show i + 1 = 1 + i by omega, List.getElem?_eq_getElem hlt, hget]; rfl
  obtain ⟨h1, h2⟩ := h (i + 1) b hg
  exact ⟨h1, h2 (by omega)⟩

theorem tabInv_replicate (n : Nat) : TabInv (List.replicate n none) := by
  intro i b hb
  rw [List.getD_eq_getElem?_getD, List.getElem?_replicate] at hb
  split at hb <;> cases hb

theorem edInv_of_bufs {ed ed' : Ed} (hb : ed'.bufs = ed.bufs) (h : EdInv ed) : EdInv ed' := by
  unfold EdInv; rw [hb]; exact h

theorem tabInv_setAt {bufs : List (Option Buf)} {i : Nat} {b : Buf} (h : TabInv bufs) (hb : GoodLb b.lb)
    (hc : i ≠ 0 → Closed b.lb) : TabInv (bufs.set i (some b)) := by
  intro j b' hj
  by_cases hij : i = j
  · subst hij
    by_cases hl : i < bufs.length
    · rw [getD_set_self _ _ _ hl] at hj
      cases hj
      exact ⟨hb, hc⟩
    · rw [List.set_eq_of_length_le (by omega)] at hj
      exact h i b' hj
  · rw [getD_set_ne _ _ _ _ hij] at hj
    exact h j b' hj

theorem edInv_setCur {ed : Ed} {b : Buf} (h : EdInv ed) (hb : GoodLb b.lb) : EdInv (ed.setCur b) :=
  tabInv_setAt h hb (fun h0 => absurd rfl h0)

theorem edInv_cur {ed : Ed} {b : Buf} (h : EdInv ed) (hc : ed.cur = some b) : GoodLb b.lb := (h 0 b hc).1

theorem lb_some {ed : Ed} {lb : Lb} (h : ed.lb = some lb) : ∃ b, ed.cur = some b ∧ b.lb = lb := by
  unfold Ed.lb at h
  cases hc : ed.cur with
  | none => rw [hc] at h; cases h
  | some b => rw [hc] at h; cases h; exact ⟨b, rfl, rfl⟩

theorem edInv_lb {ed : Ed} {lb : Lb} (h : EdInv ed) (hl : ed.lb = some lb) : GoodLb lb := by
  obtain ⟨b, hc, rfl⟩ := lb_some hl
  exact edInv_cur h hc

/-- replacing the line buffer of the current slot by a good one -/
theorem edInv_setLb {ed : Ed} {lb : Lb} (h : EdInv ed) (hb : GoodLb lb) : EdInv (ed.setLb lb) := by
  unfold Ed.setLb
  split
  · exact edInv_setCur h hb
  · exact h

theorem edInv_updLb {ed : Ed} (F : Lb → Lb) (hF : ∀ lb, GoodLb lb → GoodLb (F lb)) (h : EdInv ed) :
    EdInv (match ed.lb with | some lb => ed.setLb (F lb) | none => ed) := by
  cases hl : ed.lb with
  | none => exact h
  | some lb => exact edInv_setLb h (hF lb (edInv_lb h hl))

theorem modifiedAt_getD (ed : Ed) (idx j : Nat) :
    (ed.modifiedAt idx).2.bufs.getD j none =
      if idx = j then (ed.bufs.getD j none).map (fun b => { b with lb := (modified b.lb).2 }) else ed.bufs.getD j none := by
  unfold Ed.modifiedAt
  by_cases h : idx = j
  · subst h
    rw [if_pos rfl]
    cases hb : ed.bufs.getD idx none with
    | none => exact hb
    | some b => exact getD_set_self _ _ _ (getD_some hb).1
  · rw [if_neg h]
    cases hb : ed.bufs.getD idx none with
    | none => rfl
    | some b => exact getD_set_ne _ _ _ _ h

theorem edInv_modifiedAt {ed : Ed} (idx : Nat) (h : EdInv ed) : EdInv (ed.modifiedAt idx).2 := by
  refine modifiedAt_cases ed idx h fun b hb => ?_
  obtain ⟨h1, h2⟩ := h idx b hb
  exact tabInv_setAt (b := { b with lb := (modified b.lb).2 }) h h1.bump (fun hi => closed_bump (h2 hi))

theorem edInv_bufsModified {ed ed' : Ed} {idx : Nat} {msg : Option Bytes} {r : Bool} (h : EdInv ed)
    (hm : bufsModified ed idx msg = some (r, ed')) : EdInv ed' :=
  bufsModified_rel (Rel := fun ed ed' => EdInv ed → EdInv ed') (fun _ h => h) (fun h1 h2 h => h2 (h1 h))
    (fun _ hs h => edInv_of_bufs (lbufSave_bufs _ _ _ _ _ _ _ _ _ hs) h) (fun _ _ h => h)
    (fun _ h => edInv_modifiedAt idx h) hm h

theorem leftBufs_strong {ed : Ed} (h : EdInv ed) : TabStrong (Props.C20.leftBufs ed) :=
  AllB.leftBufs (Q := fun b => GoodLb b.lb ∧ Closed b.lb)
    (fun b0 h0 => ⟨(h 0 b0 h0).1.bump, (h 0 b0 h0).1.closed_bump⟩) (TabInv.tail h)

theorem tabStrong_bufsSwitch {ed : Ed} (idx : Nat) (h : EdInv ed) : TabStrong (ed.bufsSwitch idx).bufs :=
  AllB.bufsSwitch (Q := fun b => GoodLb b.lb ∧ Closed b.lb) idx (leftBufs_strong h)

theorem edInv_bufsSwitch {ed : Ed} (idx : Nat) (h : EdInv ed) : EdInv (ed.bufsSwitch idx) :=
  (tabStrong_bufsSwitch idx h).inv

theorem edInv_bufsOpen {ed : Ed} (p : Bytes) (h : EdInv ed) : EdInv (ed.bufsOpen p).2 := by
  unfold Ed.bufsOpen
  exact tabInv_setAt (b := { path := normPath p, lb := Lbuf.make, id := ed.bufsCnt + 1 }) h goodLb_make
    (fun _ => closed_make)

theorem edInv_bufsShift {ed : Ed} (h : EdInv ed) : EdInv ed.bufsShift :=
  TabStrong.inv (AllB.bufsShift (Q := fun b => GoodLb b.lb ∧ Closed b.lb) (TabInv.tail h))

/-- a table with the same line buffers slot by slot -/
theorem tabInv_congr_lb {l l' : List (Option Buf)}
    (hm : l'.map (Option.map (·.lb)) = l.map (Option.map (·.lb))) (h : TabInv l) : TabInv l' := by
  intro i b' hb'
  obtain ⟨_, hget⟩ := getD_some hb'
  have h1 : (l'.map (Option.map (·.lb)))[i]? = some (some b'.lb) := by
    rw [List.getElem?_map, hget]; rfl
  rw [hm, List.getElem?_map] at h1
  cases hx : l[i]? with
  | none => rw [hx] at h1; cases h1
  | some x =>
    rw [hx] at h1
    cases x with
    | none => simp at h1
    | some b =>
      simp only [Option.map_some, Option.some.injEq] at h1
      have hg : l.getD i none = some b := by rw [List.getD_eq_getElem?_getD, hx]; rfl
      rw [← h1]
      exact h i b hg

/-- the renumbering loop of `:b ~` keeps the line buffers -/
theorem renumber_lbs : ∀ (l : List (Option Buf)) (acc : List (Option Buf)) (n : Int),
    ((l.foldl (fun (acc : List (Option Buf) × Int) b =>
      match b with
      | some x => (acc.1 ++ [some { x with id := acc.2 + 1 }], acc.2 + 1)
      | none => (acc.1 ++ [none], acc.2)) (acc, n)).1).map (Option.map (·.lb)) =
    (acc ++ l).map (Option.map (·.lb)) := by
  intro l acc n
  show ((l.foldl Lemmas.C20b.renumStep (acc, n)).1).map (Option.map (·.lb)) = _
  rw [Lemmas.C20b.renum_fold, List.map_append, List.map_append,
    Lemmas.C20b.renumFrom_map (fun b : Buf => b.lb) (fun _ _ => rfl)]

end Neatvi.Lemmas.C02b
