import NeatviVerif.Lemmas.C02bMark
import NeatviVerif.Lemmas.C06bRead
import NeatviVerif.Props.C15
import NeatviVerif.Lemmas.C20Dispatch
import NeatviVerif.Lemmas.ExStepGlob
/-!
# C02b and C02d lemmas: what every quiet ex command keeps

Two namespaces: `Lemmas.C02d` holds `Same` and what the helpers of the handlers do to it, `Lemmas.C02b` the rest.

The ex commands other than `:e`/`:b`/`:w`/`:q`/`:!`/`:@` are compositions of two kinds of step (`QStep`,
Lemmas/ExStep.lean): fields outside the buffer table, the files and the clock are assigned (`Same`), and the current
line buffer is replaced by what calls of the lbuf API other than `lbuf_saved` make of it (`LbStep`).  A predicate
kept by these two (`Quiet`) is kept along the steps (`Quiet.ofStep`), hence by every such handler, and along the
steps of which the quiet lines are made (`Quiet.ofGStep`, over `GStepAt` of Lemmas/ExStepGlob.lean), `:g` with a quiet
command list included.  `Kept` (Lemmas/C02bCmd.lean) extends `Quiet` to every handler.
-/
namespace Neatvi.Lemmas.C02d
open Neatvi Neatvi.Lbuf Neatvi.Ex Neatvi.Props Neatvi.Lemmas

/-- same table, files and clock -/
def Same (ed ed' : Ed) : Prop := ed'.bufs = ed.bufs ∧ ed'.files = ed.files ∧ ed'.clock = ed.clock

theorem Same.refl (ed : Ed) : Same ed ed := ⟨rfl, rfl, rfl⟩
theorem Same.trans {a b c : Ed} (h1 : Same a b) (h2 : Same b c) : Same a c :=
  ⟨h2.1.trans h1.1, h2.2.1.trans h1.2.1, h2.2.2.trans h1.2.2⟩

theorem same_of_core {ed ed' : Ed} (e : ExStep.core ed' = ExStep.core ed) : Same ed ed' :=
  ⟨congrArg (·.bufs) e, congrArg (·.files) e, congrArg (·.clock) e⟩

theorem exRegion_same {ed ed' : Ed} {loc : Bytes} {r : Nat × Int × Int} (h : exRegion ed loc = some (r, ed')) :
    Same ed ed' := same_of_core (ExStep.region_core h)

theorem pathExpand_same {ed ed' : Ed} {src : Bytes} {sp : Bool} {r : Option Bytes}
    (h : pathExpand ed src sp = some (r, ed')) : Same ed ed' := same_of_core (ExStep.pathExpand_core h)

theorem globPrep_same (ed : Ed) (arg : Bytes) : Same ed (C15.globPrep ed arg) := same_of_core (Props.C15.globPrep_core ed arg)

theorem exTxt_same (ed : Ed) (src ex : Bytes) : Same ed (exTxt ed src ex).2 := same_of_core (ExStep.exTxt_core ed src ex)

end Neatvi.Lemmas.C02d

namespace Neatvi.Lemmas.C02b
open Neatvi Neatvi.Lbuf Neatvi.Ex Neatvi.Rset Neatvi.Spec Neatvi.Props Neatvi.Lemmas.ExFrame Neatvi.Lemmas.C02d
open Neatvi.Lemmas.ExStep (LbStep QStep GStepAt)

theorem exTxt_files (ed : Ed) (src ex : Bytes) : (exTxt ed src ex).2.files = ed.files :=
  congrArg (·.files) (ExStep.exTxt_core ed src ex)
theorem foldl_print_files (b : Int) : ∀ (l : List Nat) (ed : Ed),
    (l.foldl (fun (ed : Ed) (k : Nat) => match ed.line (b + (k : Int)) with | some l => ed.print l | none => ed) ed).files
      = ed.files := fun l ed => congrArg (·.files) (ExStep.foldl_print_core b l ed)
theorem globPrep_files (ed : Ed) (arg : Bytes) : (C15.globPrep ed arg).files = ed.files :=
  congrArg (·.files) (C15.globPrep_core ed arg)
theorem setOpt_files (ed : Ed) (v : String) (val : Int) : (setOpt ed v val).files = ed.files :=
  congrArg (·.files) (ExStep.setOpt_core ed v val)
theorem substPrep_files (ed : Ed) (arg : Bytes) : (C14.substPrep ed arg).1.files = ed.files :=
  congrArg (·.files) (ExStep.substPrep_core ed arg)

theorem foldl_inv {α β} (P : β → Prop) (F : β → α → β) (hF : ∀ s a, P s → P (F s a)) :
    ∀ (l : List α) (s : β), P s → P (l.foldl F s) :=
  Basics.foldl_inv P F hF

theorem LbReach.step {lb lb' : Lb} {d : Option Text} (h : LbReach lb d) (hs : LbStep lb lb') : LbReach lb' d := by
  induction hs with
  | refl => exact h
  | edit buf b e _ he ih => exact ih.edit buf b e he
  | undo _ hu ih => exact ih.undo hu
  | redo _ hu ih => exact ih.redo hu
  | setMark c p o _ ih => exact ih.setMark c p o
  | globSet pos dep _ _ ih => exact ih.globSet pos dep
  | globGet pos dep _ _ ih => exact ih.globGet pos dep

/-- a predicate on editor states kept by what the quiet handlers do -/
structure Quiet (P : Ed → Prop) : Prop where
  same : ∀ {ed ed'}, P ed → Same ed ed' → P ed'
  setLb : ∀ {ed lb lb'}, P ed → ed.lb = some lb → LbStep lb lb' → P (ed.setLb lb')
  /-- the bump at the end of `ex_command` -/
  bump0 : ∀ {ed}, P ed → P (ed.modifiedAt 0).2

variable {P : Ed → Prop}

theorem Quiet.to (S : Quiet P) {ed ed' : Ed} (h : P ed) (hb : ed'.bufs = ed.bufs) (hf : ed'.files = ed.files)
    (hc : ed'.clock = ed.clock) : P ed' := S.same h ⟨hb, hf, hc⟩

theorem Quiet.ofStep (S : Quiet P) {ed ed' : Ed} (hs : QStep ed ed') : P ed → P ed' := by
  induction hs with
  | same e => exact fun h => S.to h (congrArg (·.bufs) e) (congrArg (·.files) e) (congrArg (·.clock) e)
  | setLb hl hs => exact fun h => S.setLb h hl hs
  | trans _ _ ih1 ih2 => exact fun h => ih2 (ih1 h)

theorem Quiet.edit (S : Quiet P) {ed ed' : Ed} {s : Option Bytes} {b e : Int} (h : P ed)
    (he : ed.edit s b e = some ed') : P ed' := S.ofStep (Lemmas.ExStep.QStepAt.edit he) h

/-- running line `s` with fuel `f` keeps `P` -/
def LineKeeps (P : Ed → Prop) (f : Nat) (s : Bytes) : Prop := ∀ ed r ed', P ed → exExec f ed s = some (r, ed') → P ed'

theorem Quiet.ofGStep (S : Quiet P) {ed ed' : Ed} (hs : GStepAt (fun _ => True) ed ed') : P ed → P ed' := by
  induction hs with
  | quiet hq => exact S.ofStep hq
  | trans _ _ ih1 ih2 => exact fun h => ih2 (ih1 h)
  | @globBracket e0 _ b e _ _ ih =>
    intro h
    have e4 := ih (S.ofStep (Lemmas.ExStep.globMark_step trivial e0 b e) (S.to h rfl rfl rfl))
    exact S.to (S.ofStep (Lemmas.ExStep.globSweep_step trivial _) e4) rfl rfl rfl

end Neatvi.Lemmas.C02b
