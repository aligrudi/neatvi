import NeatviVerif.Lemmas.C02Run
/-!
# C02b lemmas, part 1: the history invariant on a bare line buffer, at ANY point of a command

`Hist.Inv` (Lemmas/HistInv.lean; `C04.RunInv` is built on it) and `SInv` (C02) speak about command boundaries: they carry the zipper of texts, whose
`open_` flag says whether the group on top is still growing.  The ex layer calls `lbuf_undo`,
`lbuf_redo`, `lbuf_saved` in the middle of a command line (`:d|u|w|d`), where neither shape holds.
`HInv` (Lemmas/HistInv.lean, with `lbuf_undo`, `lbuf_redo`, a logging `lbuf_edit`, the bump and `lbuf_saved(lb, 1)`) is
the zipper-free core: groups strictly increasing and `≤ useq`.  Here: it is preserved by `lbuf_edit` with any arguments
(`hinv_edit`, a reading of `hinv_edit_log`) and by `lbuf_saved(lb, 0)`, and at a closed state (`Closed`) it gives `Inv` back.
-/
namespace Neatvi.Lemmas.C02b
open Neatvi Neatvi.Lbuf Neatvi.Spec Neatvi.Lemmas.Hist Neatvi.Props.C01 Neatvi.Props.C04 Neatvi.Lemmas.C02

theorem hinv_make : HInv [] Lbuf.make [] [] := hinv_of_inv inv_make

/-- every group is closed: its sequence number is below the counter -/
def Closed (lb : Lb) : Prop := ∀ e ∈ lb.hist, e.seq < lb.useq

theorem closed_groups {T0 lb pg fg} (h : HInv T0 lb pg fg) (hc : Closed lb) : ∀ g ∈ pg ++ fg, g.1 < lb.useq := by
  intro g hg
  obtain ⟨hne, hs⟩ := h.gok g hg
  cases hg2 : g.2 with
  | nil => exact absurd hg2 hne
  | cons e r =>
    have he : e ∈ lb.hist := by
      rw [h.hist]
      simp only [List.mem_append] at hg ⊢
      rcases hg with hg | hg
      · exact Or.inl ((mem_ents e _).2 ⟨g, by simp [hg], by rw [hg2]; simp⟩)
      · exact Or.inr ((mem_ents e _).2 ⟨g, hg, by rw [hg2]; simp⟩)
    have := hc e he
    rw [hs e (by rw [hg2]; simp)] at this
    exact this

/-- at a command boundary the zipper can be rebuilt: `HInv` + closed is `Inv` -/
theorem inv_of_hinv {T0 lb pg fg} (h : HInv T0 lb pg fg) (hc : Closed lb) :
    Inv T0 lb ⟨pastTexts T0 pg, lb.lines, futTexts lb.lines fg, false⟩ pg fg :=
  Inv.ofH h (fun _ => closed_groups h hc) (by intro ho; cases ho) rfl rfl rfl

theorem closed_bump_of_le {lb : Lb} (h : ∀ e ∈ lb.hist, e.seq ≤ lb.useq) : Closed (modified lb).2 := by
  intro e he
  exact Nat.lt_succ_of_le (h e he)

theorem hinv_seq_le {T0 lb pg fg} (h : HInv T0 lb pg fg) : ∀ e ∈ lb.hist, e.seq ≤ lb.useq := by
  intro e he
  rw [h.hist, List.mem_append] at he
  rcases he with he | he
  · obtain ⟨g, hg, heg⟩ := (mem_ents e _).1 he
    have hg' : g ∈ pg ++ fg := by simp at hg; simp [hg]
    rw [(h.gok g hg').2 e heg]; exact h.le g hg'
  · obtain ⟨g, hg, heg⟩ := (mem_ents e _).1 he
    have hg' : g ∈ pg ++ fg := by simp [hg]
    rw [(h.gok g hg').2 e heg]; exact h.le g hg'

theorem edit_clamp (lb : Lb) (buf : Option Bytes) (b e : Nat) :
    edit lb buf b e = edit lb buf (min b lb.lines.length) (min e lb.lines.length) := by
  unfold edit
  simp only [Nat.min_assoc, Nat.min_self]

/-- **`lbuf_edit`, any arguments**: if it returns, either nothing changed, or one entry carrying the
    current sequence number was appended below the cursor and everything above it dropped -/
theorem hinv_edit {T0 lb pg fg} (h : HInv T0 lb pg fg) (buf : Option Bytes) (b e : Nat) (lb' : Lb)
    (he : edit lb buf b e = some lb') :
    lb' = lb ∨ (∃ en, lb'.useq = lb.useq ∧ HInv T0 lb' (pushGroup lb.useq en pg) []) := by
  obtain ⟨hle, ⟨_, _, rfl⟩ | _⟩ := Lemmas.C06.edit_cases he
  · exact Or.inl rfl
  · by_cases hnoop : min b lb.lines.length = min e lb.lines.length ∧ buf = none
    · rw [hnoop.2, edit_noop lb b e hnoop.1] at he
      cases he; exact Or.inl rfl
    · rw [edit_clamp] at he
      obtain ⟨lb2, en, e1, e2, _, _, e4⟩ := hinv_edit_log h buf _ _ hle (by simpa only [Nat.min_assoc, Nat.min_self] using hnoop)
      rw [he] at e1
      cases e1
      exact Or.inr ⟨en, e2, e4⟩

theorem hinv_saved {T0 lb pg fg} (h : HInv T0 lb pg fg) :
    HInv T0 (modified (savedCore lb false)).2 pg fg := by
  have h1 : HInv T0 (savedCore lb false) pg fg := by
    rw [savedCore_false]; exact hinv_congr h rfl rfl rfl rfl
  exact hinv_bump h1

end Neatvi.Lemmas.C02b
