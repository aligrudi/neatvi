import NeatviVerif.Lemmas.C02bLb
/-!
# C02b lemmas, part 2: the saved position, at any point of a command; the buffers the lbuf API can build

`LbInvG lb d`: the history invariant `HInv` plus Part A's `MarkInv` with ghost file text `d` (the "mark" of `MarkInv` is
the ghost position of the saved text among the groups, `Lemmas/C02Mark.lean`; the marks `'a`–`'z` of the buffer are `lb.mark`).
`LbReach lb d`: `lb` was built from `lbuf_make()` by calls of the lbuf API (in ANY order), and `d` is
the text the buffer had at the most recent `lbuf_saved` among them (`none` after `lbuf_unsaved`).
-/
namespace Neatvi.Lemmas.C02b
open Neatvi Neatvi.Lbuf Neatvi.Spec Neatvi.Lemmas.Hist Neatvi.Props.C01 Neatvi.Props.C04 Neatvi.Lemmas.C02

/-- the invariant of a line buffer with ghost file text `d` -/
def LbInvG (lb : Lb) (d : Option Text) : Prop :=
  ∃ T0 pg fg m, HInv T0 lb pg fg ∧ MarkInv T0 lb (pg.reverse ++ fg) d m

theorem lbInv_make : LbInvG Lbuf.make (some []) := ⟨[], [], [], some 0, hinv_make, markInv_make⟩

/-- **clean is sound** -/
theorem LbInvG.clean_text {lb d} (h : LbInvG lb d) (hc : (modified lb).1 = false) : d = some lb.lines := by
  obtain ⟨T0, pg, fg, m, hi, hm⟩ := h
  exact mark_here_text' hi hm ((clean_iff_mark' hi hm).1 hc)

theorem LbInvG.seq_le {lb d} (h : LbInvG lb d) : ∀ e ∈ lb.hist, e.seq ≤ lb.useq := by
  obtain ⟨T0, pg, fg, m, hi, _⟩ := h
  exact hinv_seq_le hi

/-- at a command boundary this is Part A's invariant -/
theorem LbInvG.sinv {lb d} (h : LbInvG lb d) (hc : Closed lb) : ∃ r, SInv lb r d := by
  obtain ⟨T0, pg, fg, m, hi, hm⟩ := h
  exact ⟨⟨⟨pastTexts T0 pg, lb.lines, futTexts lb.lines fg, false⟩, m⟩, rfl, T0, pg, fg, inv_of_hinv hi hc, hm⟩

theorem lbInv_of_sinv {lb r d} (h : SInv lb r d) : LbInvG lb d := by
  obtain ⟨_, T0, pg, fg, hi, hm⟩ := h
  exact ⟨T0, pg, fg, r.mark, hinv_of_inv hi, hm⟩

theorem lbInv_congr {lb lb' d} (h : LbInvG lb d) (h1 : lb'.hist = lb.hist) (h2 : lb'.histU = lb.histU)
    (h3 : lb'.useq = lb.useq) (h4 : lb'.lines = lb.lines) (hf : Frame lb lb') : LbInvG lb' d := by
  obtain ⟨T0, pg, fg, m, hi, hm⟩ := h
  exact ⟨T0, pg, fg, m, hinv_congr hi h1 h2 h3 h4, markInv_congr hm hf h3⟩

theorem lbInv_bump {lb d} (h : LbInvG lb d) : LbInvG (modified lb).2 d := by
  obtain ⟨T0, pg, fg, m, hi, hm⟩ := h
  exact ⟨T0, pg, fg, m, hinv_bump hi, markInv_bump hm⟩

theorem lbInv_edit {lb d} (h : LbInvG lb d) (buf : Option Bytes) (b e : Nat) (lb' : Lb)
    (he : edit lb buf b e = some lb') : LbInvG lb' d := by
  obtain ⟨T0, pg, fg, m, hi, hm⟩ := h
  rcases hinv_edit hi buf b e lb' he with rfl | ⟨en, hu, hi'⟩
  · exact ⟨T0, pg, fg, m, hi, hm⟩
  · -- the new entry's group sits on the groups `P` and replaces the groups `F` (the open group among them)
    have key : ∀ (P F : List Group) (es : List Entry), pg.reverse ++ fg = P ++ F →
        (pushGroup lb.useq en pg).reverse ++ [] = P ++ [(lb.useq, es)] → LbInvG lb' d := by
      intro P F es hPF hpush
      refine ⟨T0, _, [], keepMark P.length m, hi', ?_⟩
      rw [hpush]
      exact markInv_congr (markInv_trunc' P F es (hPF ▸ hm) (hPF ▸ hi.sorted)) (edit_frame _ _ _ _ _ he) hu
    cases pg with
    | nil => exact key [] fg [en] (by simp) (by simp [pushGroup])
    | cons g ps =>
      by_cases hgu : g.1 = lb.useq
      · exact key ps.reverse (g :: fg) (g.2 ++ [en]) (by simp) (by simp [pushGroup, hgu])
      · exact key (g :: ps).reverse fg [en] rfl (by simp [pushGroup, hgu])

theorem lbInv_undo {lb d} (h : LbInvG lb d) (rc : Nat) (lb' : Lb) (hu : undo lb = some (rc, lb')) :
    LbInvG lb' d := by
  obtain ⟨T0, pg, fg, m, hi, hm⟩ := h
  rcases hinv_undo hi with ⟨_, h1⟩ | ⟨g, ps, lb2, hpg, h1, hus, hi'⟩
  · rw [hu] at h1; cases h1; exact ⟨T0, pg, fg, m, hi, hm⟩
  · rw [hu] at h1; cases h1
    subst hpg
    refine ⟨T0, ps, g :: fg, m, hi', ?_⟩
    have := markInv_congr hm (undo_frame _ _ _ hu) hus
    simpa using this

theorem lbInv_redo {lb d} (h : LbInvG lb d) (rc : Nat) (lb' : Lb) (hu : redo lb = some (rc, lb')) :
    LbInvG lb' d := by
  obtain ⟨T0, pg, fg, m, hi, hm⟩ := h
  rcases hinv_redo hi with ⟨_, h1⟩ | ⟨g, fs, lb2, hfg, h1, hus, hi'⟩
  · rw [hu] at h1; cases h1; exact ⟨T0, pg, fg, m, hi, hm⟩
  · rw [hu] at h1; cases h1
    subst hfg
    refine ⟨T0, g :: pg, fs, m, hi', ?_⟩
    have := markInv_congr hm (redo_frame _ _ _ hu) hus
    simpa using this

theorem lbInv_saved {lb d} (h : LbInvG lb d) : LbInvG (modified (savedCore lb false)).2 (some lb.lines) := by
  obtain ⟨T0, pg, fg, m, hi, hm⟩ := h
  exact ⟨T0, pg, fg, some pg.length, hinv_saved hi, markInv_saved' hi hm⟩

theorem lbInv_savedClear {lb d} (h : LbInvG lb d) : LbInvG (modified (savedCore lb true)).2 (some lb.lines) := by
  obtain ⟨T0, pg, fg, m, hi, hm⟩ := h
  exact ⟨lb.lines, [], [], some 0, hinv_clear hi, markInv_clear hm⟩

theorem lbInv_partial {lb d} (h : LbInvG lb d) : LbInvG (unsavedMark lb) none := by
  obtain ⟨T0, pg, fg, m, hi, hm⟩ := h
  exact ⟨T0, pg, fg, none, hinv_congr hi rfl rfl rfl rfl, markInv_partial hm⟩

theorem lbInv_setMark {lb d} (h : LbInvG lb d) (c : Nat) (p o : Int) : LbInvG (setMark lb c p o) d :=
  lbInv_congr h (setMark_hist _ _ _ _) (setMark_histU _ _ _ _) (setMark_useq _ _ _ _) (setMark_lines _ _ _ _)
    (setMark_frame _ _ _ _)

theorem lbInv_globSet {lb d} (h : LbInvG lb d) (pos dep : Nat) : LbInvG (globSet lb pos dep) d :=
  lbInv_congr h rfl rfl rfl rfl ⟨rfl, rfl, rfl⟩

theorem lbInv_globGet {lb d} (h : LbInvG lb d) (pos dep : Nat) : LbInvG (globGet lb pos dep).2 d :=
  lbInv_congr h rfl rfl rfl rfl ⟨rfl, rfl, rfl⟩

/-- `lb` is the result of a sequence of lbuf API calls on a fresh buffer; `d` is the text at the most
    recent `lbuf_saved` (initially the empty text; `none` after `lbuf_unsaved`) -/
inductive LbReach : Lb → Option Text → Prop
  | make : LbReach Lbuf.make (some [])
  | edit {lb d} (buf : Option Bytes) (b e : Nat) {lb'} : LbReach lb d → Lbuf.edit lb buf b e = some lb' → LbReach lb' d
  | undo {lb d rc lb'} : LbReach lb d → Lbuf.undo lb = some (rc, lb') → LbReach lb' d
  | redo {lb d rc lb'} : LbReach lb d → Lbuf.redo lb = some (rc, lb') → LbReach lb' d
  | bump {lb d} : LbReach lb d → LbReach (modified lb).2 d
  | saved {lb d} : LbReach lb d → LbReach (modified (savedCore lb false)).2 (some lb.lines)
  | savedClear {lb d} : LbReach lb d → LbReach (modified (savedCore lb true)).2 (some lb.lines)
  | partialWrite {lb d} : LbReach lb d → LbReach (unsavedMark lb) none
  | setMark {lb d} (c : Nat) (p o : Int) : LbReach lb d → LbReach (Lbuf.setMark lb c p o) d
  | globSet {lb d} (pos dep : Nat) : LbReach lb d → LbReach (Lbuf.globSet lb pos dep) d
  | globGet {lb d} (pos dep : Nat) : LbReach lb d → LbReach (Lbuf.globGet lb pos dep).2 d

/-- **every buffer the API can build satisfies the invariant** -/
theorem LbReach.inv {lb d} (h : LbReach lb d) : LbInvG lb d := by
  induction h with
  | make => exact lbInv_make
  | edit buf b e _ he ih => exact lbInv_edit ih buf b e _ he
  | undo _ hu ih => exact lbInv_undo ih _ _ hu
  | redo _ hu ih => exact lbInv_redo ih _ _ hu
  | bump _ ih => exact lbInv_bump ih
  | saved _ ih => exact lbInv_saved ih
  | savedClear _ ih => exact lbInv_savedClear ih
  | partialWrite _ ih => exact lbInv_partial ih
  | setMark c p o _ ih => exact lbInv_setMark ih c p o
  | globSet pos dep _ ih => exact lbInv_globSet ih pos dep
  | globGet pos dep _ ih => exact lbInv_globGet ih pos dep

/-- `lbuf_rd` is `lbuf_edit` (or nothing) -/
theorem LbReach.rd {lb d} (h : LbReach lb d) {chunks : List Bytes} {fe : Bool} {b e rc : Nat} {lb' : Lb}
    (hr : LbufIo.rd lb chunks fe b e = some (rc, lb')) : LbReach lb' d := by
  rcases Lemmas.C06.rd_cases hr with rfl | ⟨_, he⟩
  · exact h
  · exact LbReach.edit _ _ _ h he

/-- the bump after which a buffer is left (or a command ends) closes every group -/
theorem LbReach.closed_bump {lb d} (h : LbReach lb d) : Closed (modified lb).2 :=
  closed_bump_of_le h.inv.seq_le

theorem closed_make : Closed Lbuf.make := by intro e he; simp [Lbuf.make] at he

theorem closed_bump {lb : Lb} (h : Closed lb) : Closed (modified lb).2 := by
  intro e he; exact Nat.lt_succ_of_lt (h e he)

end Neatvi.Lemmas.C02b
