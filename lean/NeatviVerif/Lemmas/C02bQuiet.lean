import NeatviVerif.Lemmas.C02bRun
import NeatviVerif.Props.C03
/-!
# C02b lemmas, part 6: command lines without `:e`/`:b`/`:w`/`:q`/`:!`/`:@` keep the current buffer's
ghost and the file system

A `Quiet` predicate is kept by `ex_exec`, `ex_command` and `exStep` on a quiet line, also through `:g` with a
quiet command list.  The instance: the files are what they were and the current buffer has its path and its
ghost (`CurGhost`).
-/
namespace Neatvi.Lemmas.C02b
open Neatvi Neatvi.Lbuf Neatvi.Ex Neatvi.Rset Neatvi.Spec Neatvi.Lemmas.ExFrame Neatvi.Lemmas.C02Ex
open Neatvi.Props

variable {P : Ed → Prop}

theorem setLb_files (ed : Ed) (lb : Lb) : (ed.setLb lb).files = ed.files := by
  unfold Ed.setLb; split <;> rfl

theorem edit_files {ed ed' : Ed} {s : Option Bytes} {b e : Int} (h : ed.edit s b e = some ed') : ed'.files = ed.files := by
  obtain ⟨_, _, lb, lb', _, _, rfl, _⟩ := Ed_edit_some h
  exact setLb_files _ _

theorem exExec_quiet (S : Quiet P) (f d : Nat) (ln : Bytes) (hq : C15.quietLine d ln = true) : LineKeeps P f ln :=
  fun ed _ _ hi h => S.ofGStep (Lemmas.ExStep.GStepAt.exExec C15.Guard.any f d ln hq ed _ _ trivial h) hi

theorem exCommand_quiet (S : Quiet P) (f d : Nat) (ed ed' : Ed) (ln : Bytes) (r : Int)
    (hq : C15.quietLine d ln = true) (hi : P ed) (h : exCommand f ed ln = some (r, ed')) : P ed' := by
  cases f with
  | zero => rw [exCommand] at h; cases h
  | succ f =>
    rw [exCommand] at h
    split at h
    · cases h
    · rename_i r1 ed1 he
      cases h
      exact S.bump0 (exExec_quiet S f d ln hq _ _ _ hi he)

theorem exStep_quiet (S : Quiet P) (d : Nat) (ed ed' : Ed) (r : Int)
    (hq : ∀ ln ∈ ed.input.head?, C15.quietLine d ln = true) (hi : P ed) (h : exStep ed = some (r, ed')) : P ed' := by
  obtain ⟨ln, rest, ed1, hin, hc, rfl⟩ := exStep_cases h
  refine S.to (exCommand_quiet S _ d _ _ ln _ (hq ln (by rw [hin]; rfl)) ?_ hc) rfl rfl rfl
  exact S.to hi rfl rfl rfl

/-- the files are `F`, the current buffer has path `p` and was built by the lbuf API with ghost `d` -/
def CurGhost (F : List File) (p : Bytes) (d : Option Text) (ed : Ed) : Prop :=
  ed.files = F ∧ ∃ b, ed.cur = some b ∧ b.path = p ∧ LbReach b.lb d

theorem curGhost_setLb {F : List File} {p : Bytes} {d : Option Text} {ed : Ed} {lb lb' : Lb}
    (h : CurGhost F p d ed) (hl : ed.lb = some lb) (hs : LbReach lb d → LbReach lb' d) : CurGhost F p d (ed.setLb lb') := by
  obtain ⟨hf, b, hc, hp, hr⟩ := h
  obtain ⟨b', hc', rfl⟩ := lb_some hl
  rw [hc] at hc'
  cases hc'
  refine ⟨(setLb_files ed lb').trans hf, { b with lb := lb' }, ?_, hp, hs hr⟩
  unfold Ed.setLb
  rw [hc]
  exact cur_some_set ed b _ hc

theorem curGhost_quiet (F : List File) (p : Bytes) (d : Option Text) : Quiet (CurGhost F p d) where
  same := by
    intro ed ed' ⟨hf, b, hc, hp, hr⟩ hs
    exact ⟨hs.2.1.trans hf, b, by rw [cur_congr hs.1]; exact hc, hp, hr⟩
  setLb h hl hs := curGhost_setLb h hl (·.step hs)
  bump0 := by
    intro ed h
    rw [modifiedAt0_eq]
    cases hl : ed.lb with
    | none => exact h
    | some lb => exact curGhost_setLb h hl (·.bump)

theorem CurGhost.to {F : List File} {p : Bytes} {d : Option Text} {ed ed' : Ed} (h : CurGhost F p d ed)
    (hb : ed'.bufs = ed.bufs) (hf : ed'.files = ed.files) : CurGhost F p d ed' := by
  obtain ⟨hf0, b, hc, hp, hr⟩ := h
  exact ⟨hf.trans hf0, b, by rw [cur_congr hb]; exact hc, hp, hr⟩

theorem CurGhost.getLb {F : List File} {p : Bytes} {d : Option Text} {ed : Ed} {lb : Lb} (h : CurGhost F p d ed)
    (hl : ed.lb = some lb) : LbReach lb d := by
  obtain ⟨_, b, hc, _, hr⟩ := h
  obtain ⟨b', hc', rfl⟩ := lb_some hl
  rw [hc] at hc'; cases hc'; exact hr

theorem CurGhost.setLb {F : List File} {p : Bytes} {d : Option Text} {ed : Ed} {lb : Lb} (h : CurGhost F p d ed)
    (hq : LbReach lb d) : CurGhost F p d (ed.setLb lb) := by
  obtain ⟨b, hc, -⟩ := h.2
  exact curGhost_setLb h (show ed.lb = some b.lb by unfold Ed.lb; rw [hc]; rfl) fun _ => hq

/-- a run of the `ex()` loop in which every line executed is quiet (no `:e`/`:b`/`:w`/`:q`/`:!`/`:@`,
    also inside `:g` command lists nested at most `d` deep) -/
inductive QuietRun (d : Nat) : Ed → Ed → Prop
  | refl (ed : Ed) : QuietRun d ed ed
  | step {ed ed1 ed2 : Ed} {r : Int} : (∀ ln ∈ ed.input.head?, C15.quietLine d ln = true) →
      exStep ed = some (r, ed1) → QuietRun d ed1 ed2 → QuietRun d ed ed2

theorem quietRun_quiet (S : Quiet P) {d : Nat} {ed ed' : Ed} (h : QuietRun d ed ed') (hi : P ed) : P ed' := by
  induction h with
  | refl => exact hi
  | step hq hs _ ih => exact ih (exStep_quiet S d _ _ _ hq hi hs)

end Neatvi.Lemmas.C02b
