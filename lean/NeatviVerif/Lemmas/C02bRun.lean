import NeatviVerif.Lemmas.C02bCmd
/-!
# C02b lemmas, part 5: the buffer table along command lines; every buffer closed between commands
-/
namespace Neatvi.Lemmas.C02b
open Neatvi Neatvi.Lbuf Neatvi.Ex Neatvi.Rset Neatvi.Spec Neatvi.Lemmas.ExFrame Neatvi.Lemmas.C02Ex Neatvi.Lemmas.C02c

theorem ecEdit_edInv {f : Nat} {ed ed' : Ed} {cmd arg : Bytes} {r : Int} (hi : EdInv ed)
    (h : ecEdit f ed cmd arg = some (r, ed')) : EdInv ed' := edInv_kept.ofXStep (Lemmas.ExStep.XStep.ecEditAny h) hi

/-- the current buffer has all its groups closed -/
def Closed0 (ed : Ed) : Prop := ∀ b, ed.cur = some b → Closed b.lb

/-- every buffer of the table good and closed: the state between two commands -/
def EdStrong (ed : Ed) : Prop := TabStrong ed.bufs

theorem EdStrong.inv {ed : Ed} (h : EdStrong ed) : EdInv ed := TabStrong.inv h

theorem edStrong_of {ed : Ed} (h : EdInv ed) (hc : Closed0 ed) : EdStrong ed := by
  intro b hb
  obtain ⟨i, hi, hget⟩ := List.getElem_of_mem hb
  have hg : ed.bufs.getD i none = some b := by
    rw [List.getD_eq_getElem?_getD, List.getElem?_eq_getElem hi, hget]; rfl
  obtain ⟨h1, h2⟩ := h i b hg
  refine ⟨h1, ?_⟩
  cases i with
  | zero => exact hc b hg
  | succ j => exact h2 (by omega)

theorem EdStrong.closed0 {ed : Ed} (h : EdStrong ed) : Closed0 ed := by
  intro b hb
  exact (h b (Props.C20.mem_of_getD _ _ _ hb).1).2

theorem Closed0.to {ed ed' : Ed} (h : Closed0 ed) (hb : ed'.bufs = ed.bufs) : Closed0 ed' := by
  intro b hc
  exact h b (by rw [← cur_congr hb]; exact hc)

theorem edStrong_bufsSwitch {ed : Ed} (idx : Nat) (h : EdInv ed) : EdStrong (ed.bufsSwitch idx) :=
  tabStrong_bufsSwitch idx h

theorem closed0_modifiedAt0 {ed : Ed} (h : EdInv ed) : Closed0 (ed.modifiedAt 0).2 := by
  intro b hb
  have hb' : (ed.modifiedAt 0).2.bufs.getD 0 none = some b := hb
  rw [modifiedAt_getD, if_pos rfl] at hb'
  obtain ⟨b0, h0, rfl⟩ := Option.map_eq_some_iff.1 hb'
  exact (h 0 b0 h0).1.closed_bump

theorem closed0_bump_keep {ed : Ed} (idx : Nat) (h : Closed0 ed) : Closed0 (ed.modifiedAt idx).2 := by
  intro b hb
  have hb' : (ed.modifiedAt idx).2.bufs.getD 0 none = some b := hb
  rw [modifiedAt_getD] at hb'
  split at hb'
  · obtain ⟨b0, h0, rfl⟩ := Option.map_eq_some_iff.1 hb'
    exact closed_bump (h b0 h0)
  · exact h b hb'

theorem closed0_bufsModified {ed ed' : Ed} {idx : Nat} {msg : Option Bytes} {r : Bool} (h : Closed0 ed)
    (hm : bufsModified ed idx msg = some (r, ed')) : Closed0 ed' :=
  bufsModified_rel (Rel := fun ed ed' => Closed0 ed → Closed0 ed') (fun _ h => h) (fun h1 h2 h => h2 (h1 h))
    (fun _ hs h => h.to (lbufSave_bufs _ _ _ _ _ _ _ _ _ hs)) (fun _ _ h => h) (fun _ h => closed0_bump_keep idx h) hm h

theorem closed0_guard {ed ed' : Ed} {c : Prop} [Decidable c] {idx : Nat} {msg : Option Bytes} {r : Bool}
    (hi : Closed0 ed)
    (h : (if c then bufsModified ed idx msg else some (false, ed) : R Bool) = some (r, ed')) : Closed0 ed' := by
  split at h
  · exact closed0_bufsModified hi h
  · cases h; exact hi

/-- `ex_command` ends with the bump of the current buffer -/
theorem closed0_exCommand {f : Nat} {ed ed' : Ed} {ln : Bytes} {r : Int} (hi : EdInv ed)
    (h : exCommand f ed ln = some (r, ed')) : Closed0 ed' := by
  cases f with
  | zero => rw [exCommand] at h; cases h
  | succ f =>
    rw [exCommand] at h
    split at h
    · cases h
    · rename_i r1 ed1 he
      cases h
      exact closed0_modifiedAt0 (edInv_kept.exExec hi he)

theorem closed0_setCur {ed : Ed} {b : Buf} (hb : Closed b.lb) : Closed0 (ed.setCur b) := by
  intro b' hb'
  unfold Ed.cur Ed.setCur at hb'
  by_cases hl : 0 < ed.bufs.length
  · rw [getD_set_self _ _ _ hl] at hb'
    cases hb'; exact hb
  · have : ed.bufs = [] := List.eq_nil_of_length_eq_zero (by omega)
    rw [this] at hb'
    simp at hb'

theorem closed_savedBump {lb : Lb} (h : GoodLb lb) (c : Bool) : Closed (modified (savedCore lb c)).2 := by
  obtain ⟨d, hd⟩ := h
  cases c
  · intro e he
    have he' : e ∈ lb.hist := by simpa [savedCore, modified] using he
    exact Nat.lt_succ_of_le (hd.inv.seq_le e he')
  · intro e he
    simp [savedCore, modified] at he

theorem editFinish_closed0 {ed ed' : Ed} {path : Bytes} (h : EdInv ed) (hf : editFinish ed path = some ed') :
    Closed0 ed' := by
  obtain ⟨b, ed5, b5, _, hb, hrd, hb5, rfl, rfl⟩ := editFinish_cases hf
  exact (closed0_setCur (closed_savedBump (edInv_cur (editRead_edInv h hb hrd) hb5) _)).to rfl

/-- `:e` returns with the current buffer closed, if it was closed before (`C05d.editStage_inv` for the stages before
    the `+cmd`) -/
theorem ecEdit_closed0 (f : Nat) (ed ed' : Ed) (cmd arg : Bytes) (r : Int) (hi : EdInv ed) (hc : Closed0 ed)
    (h : ecEdit (f + 1) ed cmd arg = some (r, ed')) : Closed0 ed' := by
  have sw : ∀ (e : Ed) (i : Nat), EdInv e → EdInv (e.bufsSwitch i) ∧ Closed0 (e.bufsSwitch i) :=
    fun e i he => ⟨edInv_bufsSwitch _ he, (edStrong_bufsSwitch _ he).closed0⟩
  have key : ∀ {x}, Lemmas.C05d.editStage ed cmd arg = some x → EdInv (x.elim (·.2) id) ∧ Closed0 (x.elim (·.2) id) := fun hs =>
    Lemmas.C05d.editStage_inv (P := fun e => EdInv e ∧ Closed0 e) (Pth := fun _ => True)
      (fun h hg => ⟨edInv_kept.guardIf h.1 hg, closed0_guard h.2 hg⟩)
      (fun h hp => ⟨⟨h.1.to (Props.C15.pathExpand_bufs hp), h.2.to (Props.C15.pathExpand_bufs hp)⟩, fun _ _ => trivial⟩)
      (fun e p h => by unfold Props.C20.ewPre; split; exact sw _ _ h.1; exact h)
      (fun e p h _ => sw _ _ h.1)
      (fun e p _ h => by unfold editOpen; split; exact sw _ _ (edInv_bufsOpen _ h.1); exact h)
      (fun h hf => ⟨editFinish_edInv h.1 hf, editFinish_closed0 h.1 hf⟩) ⟨hi, hc⟩ hs
  rw [Lemmas.C05d.ecEdit_stage] at h
  split at h
  · cases h
  · rename_i hs
    cases h
    exact (key hs).2
  · rename_i hs
    unfold editPlus at h
    split at h
    · exact closed0_exCommand (key hs).1 h
    · cases h; exact (key hs).2

end Neatvi.Lemmas.C02b
