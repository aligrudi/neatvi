import NeatviVerif.Lemmas.C02cTable
/-!
# C02c lemmas, part 3: `ec_edit` never loses a modified buffer other than the current one; the command line
  `b !|b !|b !` through `ex_command`

The mutual block `ecEdit` / `runCmd` / `exExec` / `exCommand` is compiled by well-founded recursion, so
closed terms do not evaluate in the kernel past one unfolding.  For the counterexample of C02c (what a
`+cmd` can do after `:e`) the line `b !|b !|b !` is run here symbolically, for every state.
-/
namespace Neatvi.Lemmas.C02c
open Neatvi Neatvi.Lbuf Neatvi.LbufIo Neatvi.Ex Neatvi.Lemmas.C02Ex Neatvi.Props

/-! ### `:ew`'s preliminary switch -/

theorem ewPre_held {ed : Ed} {v : View} (cmd path : Bytes) (h : Held ed v) : Held (C20.ewPre ed cmd path) v := by
  unfold C20.ewPre
  split
  · exact held_bufsSwitch 1 h
  · exact h

theorem ewPre_xaw (ed : Ed) (cmd path : Bytes) :
    (C20.ewPre ed cmd path).xaw = ed.xaw ∧ (C20.ewPre ed cmd path).xwa = ed.xwa := by
  unfold C20.ewPre
  split
  · exact bufsSwitch_xaw ed 1
  · exact ⟨rfl, rfl⟩

theorem ewPre_of_empty (ed : Ed) (cmd path : Bytes) (h : path.isEmpty = true) : C20.ewPre ed cmd path = ed := by
  unfold C20.ewPre
  simp only [h, Bool.not_true, Bool.false_and, Bool.false_eq_true, if_false]

/-- without a path to look for, nothing is switched -/
theorem ewPre_of_notFound (ed : Ed) (cmd path : Bytes) (h : ed.bufsFind path < 0) : C20.ewPre ed cmd path = ed := by
  unfold C20.ewPre
  have : decide (ed.bufsFind path > 1) = false := by
    rw [decide_eq_false_iff_not]; omega
  simp only [this, Bool.and_false, Bool.false_eq_true, if_false]

/-- the second guard passed, so the slot `bufs_open` reuses shows no dirty buffer: every dirty view
    is still shown after the new buffer has been opened and made current, by a slot other than slot 0 -/
theorem editOpen_heldTail (ed3 ed3g : Ed) (path : Bytes) (v : View) (haw : ed3.xaw = 0) (hwa : ed3.xwa = 0)
    (hv : v.2.2.2 = true) (hg2 : editGuard2 ed3 path = some (false, ed3g))
    (hheld : Held ed3 v) (htail : path.isEmpty = true → HeldTail ed3 v) :
    HeldTail (editOpen ed3g path) v := by
  have T : SameTable ed3 ed3g := editGuard2_sameTable _ _ _ _ haw hg2
  unfold editOpen
  by_cases hc : (!path.isEmpty || ed3g.cur.isNone) = true
  · rw [if_pos hc]
    show HeldTail ((ed3g.bufsOpen path).2.bufsSwitch ed3g.findRoom) v
    obtain ⟨k, hk⟩ := (T.held hheld).getD
    have hc3 : (!path.isEmpty || ed3.cur.isNone) = true := by rw [← T.cur_isNone]; exact hc
    have hne : k ≠ ed3g.findRoom := by
      intro hkf
      unfold editGuard2 at hg2
      simp only [hc3, hwa, beq_self_eq_true, Bool.and_self, if_true] at hg2
      have hk3 : slotView (ed3.bufs.getD ed3.findRoom none) = some v := by
        rw [← T.findRoom, ← hkf, ← T.slots k]; exact hk
      have := bufsModified_false _ _ _ _ haw hg2 v hk3
      rw [hv] at this; cases this
    apply heldTail_bufsSwitch_ne _ k hne
    rw [(C20.open_uses_free_slot ed3g path).2.2.2.2.2.2.1 k hne]
    exact hk
  · rw [if_neg hc]
    have hp : path.isEmpty = true := by
      cases hpe : path.isEmpty with
      | true => rfl
      | false => simp [hpe] at hc
    exact T.heldTail (htail hp)

/-! ### the whole command, up to the `+cmd` -/

/-- `:e` in all its forms, `writeany` and `autowrite` off: a dirty view `v` shown by a slot other than
    the current one is still shown by the state `edm` in which `ec_edit` either returns or hands over to
    the `+cmd` -/
theorem ecEdit_core (f : Nat) (ed ed' : Ed) (cmd arg : Bytes) (rc : Int) (v : View)
    (hwa : ed.xwa = 0) (haw : ed.xaw = 0) (hv : v.2.2.2 = true) (hheld : HeldTail ed v)
    (h : ecEdit (f + 1) ed cmd arg = some (rc, ed')) :
    ∃ edm, Held edm v ∧ (ed' = edm ∨ editPlus f (plusSplit arg).1 edm = some (rc, ed')) := by
  rw [ecEdit_stages] at h
  split at h
  · cases h
  · rename_i ed1 hg
    cases h
    exact ⟨_, (editGuard_sameTable _ _ _ _ haw hg).held hheld.held, Or.inl rfl⟩
  · rename_i ed1 hg
    have T1 : SameTable ed ed1 := editGuard_sameTable _ _ _ _ haw hg
    split at h
    · cases h
    · rename_i ed2 hp
      cases h
      exact ⟨_, (T1.trans (pathExpand_sameTable _ _ _ _ _ hp)).held hheld.held, Or.inl rfl⟩
    · rename_i path ed2 hp
      have T2 : SameTable ed ed2 := T1.trans (pathExpand_sameTable _ _ _ _ _ hp)
      have h3 : Held (C20.ewPre ed2 cmd path) v := ewPre_held cmd path (T2.held hheld.held)
      have haw3 : (C20.ewPre ed2 cmd path).xaw = 0 := by rw [(ewPre_xaw ed2 cmd path).1, T2.xaw, haw]
      have hwa3 : (C20.ewPre ed2 cmd path).xwa = 0 := by rw [(ewPre_xaw ed2 cmd path).2, T2.xwa, hwa]
      split at h
      · exact ⟨_, held_bufsSwitch _ h3, Or.inr h⟩
      · split at h
        · cases h
        · rename_i ed3g hg2
          cases h
          exact ⟨_, (editGuard2_sameTable _ _ _ _ haw3 hg2).held h3, Or.inl rfl⟩
        · rename_i ed3g hg2
          split at h
          · cases h
          · rename_i ed5 hfin
            have h4 : HeldTail (editOpen ed3g path) v :=
              editOpen_heldTail _ _ path v haw3 hwa3 hv hg2 h3 (by
                intro hp
                rw [ewPre_of_empty _ _ _ hp]
                exact T2.heldTail hheld)
            exact ⟨ed5, (heldTail_of_drop (editFinish_drop _ _ _ hfin) h4).held, Or.inr h⟩

/-- no `+` in front of the argument: no `+cmd` -/
theorem plusSplit_noplus (arg : Bytes) (h : (arg.dropWhile (· == 32)).headD 0 ≠ 43) : (plusSplit arg).1 = [] := by
  unfold plusSplit
  have : ((arg.dropWhile (· == 32)).headD 0 == 43) = false := beq_eq_false_iff_ne.2 h
  simp only [this, Bool.false_eq_true, if_false]

theorem editPlus_nil (f : Nat) (ed : Ed) : editPlus f [] ed = some (0, ed) := rfl

/-- the state in which the second guard refuses: the bump of the buffer it tested and the message -/
theorem editGuard2_refuses (ed : Ed) (path : Bytes) (b : Buf) (hwa : ed.xwa = 0) (haw : ed.xaw = 0)
    (hc : path ≠ [] ∨ ed.cur = none)
    (hb : ed.bufs.getD ed.findRoom none = some b) (hd : (modified b.lb).1 = true) :
    editGuard2 ed path = some (true, (bumpAt ed ed.findRoom b).show (strOf "last buffer modified")) := by
  unfold editGuard2
  have hc' : (!path.isEmpty || ed.cur.isNone) = true := by
    rcases hc with hc | hc
    · cases path with
      | nil => exact absurd rfl hc
      | cons _ _ => rfl
    · rw [hc]; simp
  simp only [hc', hwa, beq_self_eq_true, Bool.and_self, if_true]
  exact guard_refuses_at ed ed.findRoom b _ hb hd haw

/-! ### the line `b !|b !|b !` -/

theorem cmds_nil (f g : Nat) (ed : Ed) (ret : Int) : exExec.cmds f g ed [] ret = some (ret, ed) := by
  cases g <;> simp [exExec.cmds]

/-- `:b !` as `ec_buffer` runs it: `bufs_shift()` — the current buffer is dropped, no question asked —
    and a fresh unnamed buffer if the table is empty then -/
def bangShift (ed : Ed) : Ed :=
  let ed := ed.bufsShift
  if ed.cur.isNone then
    let b : Buf := { path := [], lb := Lbuf.make, id := ed.bufsCnt + 1 }
    { ed with bufs := ed.bufs.set 0 (some b), bufsCnt := ed.bufsCnt + 1 }
  else ed

theorem runCmd_b_bang (f : Nat) (ed : Ed) :
    runCmd (f + 1) ed "ec_buffer" [] [98] [33] none = some (0, bangShift ed) := by
  rw [Props.C20b.runCmd_buffer f ed [] [98] [33] none rfl]
  exact (apply_ite (fun e : Ed => some ((0 : Int), e)) _ _ _).symm

theorem cmds_b_bang_step (f g : Nat) (ed : Ed) (ln l1 l2 rest : Bytes) (ret : Int)
    (hne : ln.isEmpty = false) (h1 : exLoc ln = ([], l1)) (h2 : exCmd l1 = ([98], l2))
    (h4 : exArg l2 [98] = ([33], rest)) :
    exExec.cmds (f + 1) (g + 1) ed ln ret = exExec.cmds (f + 1) g (bangShift ed) rest 0 := by
  have h3 : exIdx [98] = some ([98], "ec_buffer") := by decide +kernel
  have h5 : exTxt ed rest [98] = ((none, rest), ed) := by
    unfold exTxt
    simp
  rw [exExec.cmds]
  simp only [hne, Bool.false_eq_true, if_false, h1, h2, h3, h4, h5, runCmd_b_bang]

/-- the line `b !|b !|b !` -/
def bang3 : Bytes := [98, 32, 33, 124, 98, 32, 33, 124, 98, 32, 33]

theorem exCommand_bang3 (f : Nat) (ed : Ed) :
    exCommand (f + 3) ed bang3 = some (0, ((bangShift (bangShift (bangShift ed))).modifiedAt 0).2) := by
  rw [exCommand, exExec]
  have hl : ¬ bang3.length ≥ Gen.EXLEN := by decide +kernel
  rw [if_neg hl]
  have hlen : bang3.length + 1 = 8 + 1 + 1 + 1 + 1 := by decide
  rw [hlen]
  rw [cmds_b_bang_step f _ ed bang3 bang3 [32, 33, 124, 98, 32, 33, 124, 98, 32, 33] [98, 32, 33, 124, 98, 32, 33] 0
    (by decide) (by decide +kernel) (by decide +kernel) (by decide +kernel)]
  rw [cmds_b_bang_step f _ _ [98, 32, 33, 124, 98, 32, 33] [98, 32, 33, 124, 98, 32, 33] [32, 33, 124, 98, 32, 33]
    [98, 32, 33] 0 (by decide) (by decide +kernel) (by decide +kernel) (by decide +kernel)]
  rw [cmds_b_bang_step f _ _ [98, 32, 33] [98, 32, 33] [32, 33] [] 0
    (by decide) (by decide +kernel) (by decide +kernel) (by decide +kernel)]
  rw [cmds_nil]

end Neatvi.Lemmas.C02c
