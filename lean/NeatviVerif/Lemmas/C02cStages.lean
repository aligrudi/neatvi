import NeatviVerif.Props.C02
import NeatviVerif.Props.C20
/-!
# C02c lemmas, part 1: `ec_edit` cut into stages

`ecEdit` is one long function; here its stages get names (`plusSplit`, `C20.editGuard`, `C20.ewPre`,
`editGuard2`, `editOpen`, `editFinish`, `editPlus`) and `ecEdit_stages` says that `ecEdit` is their
composition.  Nothing here is a new model: every definition is a piece of the text of `ecEdit`.  How the reading stages
return is said once, beside them: `editRead_cases`, `editFinish_cases`.
-/
namespace Neatvi.Lemmas.C02c
open Neatvi Neatvi.Lbuf Neatvi.LbufIo Neatvi.Ex Neatvi.Lemmas.C02Ex

/-- `ex_plus`: (the `+cmd` word or `[]`, the rest of the argument) -/
def plusSplit (arg : Bytes) : Bytes × Bytes :=
  let arg := arg.dropWhile (· == 32)
  if arg.headD 0 == 43 then
    let (p, r) := copyUntilPlus (arg.length + 1) arg []
    (p, r.dropWhile (fun c => c == 32 || c == 9))
  else ([], arg)

/-- the second guard of `ec_edit`: the buffer `bufs_open` is going to drop -/
def editGuard2 (ed : Ed) (path : Bytes) : R Bool :=
  if (!path.isEmpty || ed.cur.isNone) && ed.xwa == 0 then
    bufsModified ed ed.findRoom (some (strOf "last buffer modified"))
  else some (false, ed)

/-- `bufs_switch(bufs_open(path))`, unless `:e` without a path re-reads the current buffer -/
def editOpen (ed : Ed) (path : Bytes) : Ed :=
  if !path.isEmpty || ed.cur.isNone then
    let (idx, ed) := ed.bufsOpen path; ed.bufsSwitch idx
  else ed

/-- read the file of the current buffer `b` if it can be opened -/
def editRead (ed : Ed) (b : Buf) : Option Ed :=
  match ed.findFile b.path with
  | some fl =>
    if b.path.isEmpty then some ed else
    (match rd b.lb [fl.data] false 0 b.lb.lines.length with
    | none => none
    | some (_, lb) =>
      let ed := ed.setLb lb
      some (ed.show ([34] ++ b.path ++ strOf "\"  [=" ++ natStr lb.lines.length ++ strOf "]  [r]")))
  | none => some ed

/-- the rest of `ec_edit` up to the `+cmd`: read, `lbuf_saved`, clamp the view -/
def editFinish (ed : Ed) (path : Bytes) : Option Ed :=
  match ed.cur with
  | none => none
  | some b =>
    match editRead ed b with
    | none => none
    | some ed =>
      match ed.cur with
      | none => none
      | some b =>
        let lb := savedCore b.lb (!path.isEmpty)
        let ed := ed.setCur { b with lb := (modified lb).2, mtime := ed.mtimeOf b.path }
        let len := ed.len
        some { ed with xrow := clampRow ed.xrow len, xoff := 0, xtop := clampRow ed.xtop len }

theorem editRead_cases {ed ed' : Ed} {b : Buf} (h : editRead ed b = some ed') :
    (ed' = ed ∧ (ed.findFile b.path = none ∨ b.path.isEmpty = true)) ∨
    ∃ fl u lb m, ed.findFile b.path = some fl ∧ b.path.isEmpty = false ∧
      rd b.lb [fl.data] false 0 b.lb.lines.length = some (u, lb) ∧ ed' = (ed.setLb lb).show m := by
  unfold editRead at h
  split at h
  · rename_i fl hfl
    by_cases hp : b.path.isEmpty = true
    · rw [if_pos hp] at h; cases h; exact .inl ⟨rfl, .inr hp⟩
    · rw [if_neg hp] at h
      split at h
      · cases h
      · rename_i u lb hrd
        cases h
        exact .inr ⟨fl, u, lb, _, hfl, Bool.eq_false_iff.2 hp, hrd, rfl⟩
  · rename_i hn; cases h; exact .inl ⟨rfl, .inl hn⟩

theorem editFinish_cases {ed ed' : Ed} {path : Bytes} (hf : editFinish ed path = some ed') :
    ∃ b ed5 b5 X, ed.cur = some b ∧ editRead ed b = some ed5 ∧ ed5.cur = some b5 ∧
      X = ed5.setCur { b5 with lb := (modified (savedCore b5.lb (!path.isEmpty))).2, mtime := ed5.mtimeOf b5.path } ∧
      ed' = { X with xrow := clampRow X.xrow X.len, xoff := 0, xtop := clampRow X.xtop X.len } := by
  unfold editFinish at hf
  split at hf
  · cases hf
  · rename_i b hb
    split at hf
    · cases hf
    · rename_i ed5 hrd
      split at hf
      · cases hf
      · rename_i b5 hb5
        cases hf
        exact ⟨b, ed5, b5, _, hb, hrd, hb5, rfl, rfl⟩

/-- the `+cmd` of `:e +cmd path` -/
def editPlus (f : Nat) (pls : Bytes) (ed : Ed) : R Int :=
  if pls.headD 0 == 43 then exCommand f ed (pls.drop 1) else some (0, ed)

/-- `editFinish` with the continuation inside, as `ecEdit` is written -/
def editFinishK (k : Ed → R Int) (ed : Ed) (path : Bytes) : R Int :=
  match ed.cur with
  | none => none
  | some b =>
    match editRead ed b with
    | none => none
    | some ed =>
      match ed.cur with
      | none => none
      | some b =>
        let lb := savedCore b.lb (!path.isEmpty)
        let ed := ed.setCur { b with lb := (modified lb).2, mtime := ed.mtimeOf b.path }
        let len := ed.len
        k { ed with xrow := clampRow ed.xrow len, xoff := 0, xtop := clampRow ed.xtop len }

theorem editFinishK_eq (k : Ed → R Int) (ed : Ed) (path : Bytes) :
    editFinishK k ed path = (match editFinish ed path with | none => none | some ed => k ed) := by
  unfold editFinishK editFinish
  cases ed.cur with
  | none => rfl
  | some b =>
    simp only []
    cases editRead ed b with
    | none => rfl
    | some ed1 =>
      simp only []
      cases ed1.cur with
      | none => rfl
      | some b1 => rfl

/-- `ec_edit` is the composition of its stages -/
theorem ecEdit_stages (f : Nat) (ed : Ed) (cmd arg : Bytes) :
    ecEdit (f + 1) ed cmd arg =
      (match Props.C20.editGuard ed cmd with
      | none => none
      | some (true, ed) => some (1, ed)
      | some (false, ed) =>
        match pathExpand ed (plusSplit arg).2 false with
        | none => none
        | some (none, ed) => some (1, ed)
        | some (some path, ed) =>
          if !path.isEmpty && (Props.C20.ewPre ed cmd path).bufsFind path ≥ 0 then
            editPlus f (plusSplit arg).1
              ((Props.C20.ewPre ed cmd path).bufsSwitch ((Props.C20.ewPre ed cmd path).bufsFind path).toNat)
          else
            match editGuard2 (Props.C20.ewPre ed cmd path) path with
            | none => none
            | some (true, ed) => some (1, ed)
            | some (false, ed) =>
              match editFinish (editOpen ed path) path with
              | none => none
              | some ed => editPlus f (plusSplit arg).1 ed) := by
  simp only [← editFinishK_eq]
  rw [ecEdit.eq_2]
  rfl

end Neatvi.Lemmas.C02c
