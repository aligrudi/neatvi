import NeatviVerif.Lemmas.C02cStages
import NeatviVerif.Lemmas.C20cFrame
/-!
# C02c lemmas, part 2: what the stages of `ec_edit` do to the buffer table

`bufView b`: the id, the path, the text and the dirty flag of a buffer: what must not get lost.
`SameTable ed ed'`: slot by slot the same views (the guards only bump sequence counters).
`Held ed v` / `HeldTail ed v`: some slot / some slot other than the current one shows the view `v`.
-/
namespace Neatvi.Lemmas.C02c
open Neatvi Neatvi.Lbuf Neatvi.LbufIo Neatvi.Ex Neatvi.Lemmas.C02Ex Neatvi.Props

/-- what must survive of a buffer: id, path, text, dirty flag -/
def bufView (b : Buf) : Int × Bytes × List Bytes × Bool := (b.id, b.path, b.lb.lines, (modified b.lb).1)

def slotView (x : Option Buf) : Option (Int × Bytes × List Bytes × Bool) := x.map bufView

theorem slotView_some {x : Option Buf} {v} (h : slotView x = some v) : ∃ b, x = some b ∧ bufView b = v := by
  cases x with
  | none => cases h
  | some b => exact ⟨b, rfl, by simpa [slotView] using h⟩

theorem slotView_isNone (x : Option Buf) : (slotView x).isNone = x.isNone := by
  cases x <;> rfl

/-- the bump of `lbuf_modified` keeps the view -/
theorem bufView_bump (b : Buf) : bufView { b with lb := (modified b.lb).2 } = bufView b := rfl

theorem bufView_leftRec (ed : Ed) (b : Buf) : bufView (C20.leftRec ed b) = bufView b := rfl

/-! ### slot by slot the same -/

structure SameTable (ed ed' : Ed) : Prop where
  xaw : ed'.xaw = ed.xaw
  xwa : ed'.xwa = ed.xwa
  files : ed'.files = ed.files
  length : ed'.bufs.length = ed.bufs.length
  slots : ∀ k, slotView (ed'.bufs.getD k none) = slotView (ed.bufs.getD k none)

theorem SameTable.refl (ed : Ed) : SameTable ed ed := ⟨rfl, rfl, rfl, rfl, fun _ => rfl⟩

theorem SameTable.trans {a b c : Ed} (h1 : SameTable a b) (h2 : SameTable b c) : SameTable a c :=
  ⟨h2.xaw.trans h1.xaw, h2.xwa.trans h1.xwa, h2.files.trans h1.files, h2.length.trans h1.length,
    fun k => (h2.slots k).trans (h1.slots k)⟩

theorem sameTable_show (ed : Ed) (m : Bytes) : SameTable ed (ed.show m) := ⟨rfl, rfl, rfl, rfl, fun _ => rfl⟩

theorem sameTable_showOpt (ed : Ed) (m : Option Bytes) : SameTable ed (showOpt ed m) := by
  cases m
  · exact SameTable.refl _
  · exact sameTable_show _ _

theorem sameTable_bumpAt (ed : Ed) (idx : Nat) (b : Buf) (hb : ed.bufs.getD idx none = some b) :
    SameTable ed (bumpAt ed idx b) := by
  obtain ⟨hlt, _⟩ := getD_some hb
  refine ⟨rfl, rfl, rfl, by simp [bumpAt], ?_⟩
  intro k
  by_cases hk : idx = k
  · subst hk
    simp only [bumpAt]
    rw [getD_set_self _ _ _ hlt, hb]
    rfl
  · simp only [bumpAt]
    rw [getD_set_ne _ _ _ _ hk]

theorem SameTable.cur_isNone {ed ed' : Ed} (h : SameTable ed ed') : ed'.cur.isNone = ed.cur.isNone := by
  have := congrArg Option.isNone (h.slots 0)
  rw [slotView_isNone, slotView_isNone] at this
  exact this

theorem SameTable.findRoom {ed ed' : Ed} (h : SameTable ed ed') : ed'.findRoom = ed.findRoom := by
  unfold Ed.findRoom
  have hp : (fun i => (ed'.bufs.getD i none).isNone) = (fun i => (ed.bufs.getD i none).isNone) := by
    funext i
    have := congrArg Option.isNone (h.slots i)
    rw [slotView_isNone, slotView_isNone] at this
    exact this
  rw [h.length, hp]

/-- the paths, slot by slot -/
theorem SameTable.bufsFind {ed ed' : Ed} (h : SameTable ed ed') (p : Bytes) : ed'.bufsFind p = ed.bufsFind p := by
  unfold Ed.bufsFind
  simp only [h.length]
  congr 2
  funext i
  have := h.slots i
  cases h1 : ed'.bufs.getD i none with
  | none =>
    cases h2 : ed.bufs.getD i none with
    | none => rfl
    | some b => rw [h1, h2] at this; cases this
  | some b' =>
    cases h2 : ed.bufs.getD i none with
    | none => rw [h1, h2] at this; cases this
    | some b =>
      rw [h1, h2] at this
      simp only [slotView, Option.map_some, Option.some.injEq, bufView, Prod.mk.injEq] at this
      simp only [this.2.1]

/-! ### `bufs_modified` without autowrite -/

theorem bufsModified_cases (ed ed' : Ed) (idx : Nat) (msg : Option Bytes) (r : Bool) (haw : ed.xaw = 0)
    (h : bufsModified ed idx msg = some (r, ed')) :
    (ed.bufs.getD idx none = none ∧ r = false ∧ ed' = ed) ∨
    (∃ b, ed.bufs.getD idx none = some b ∧ (modified b.lb).1 = false ∧ r = false ∧ ed' = bumpAt ed idx b) ∨
    (∃ b, ed.bufs.getD idx none = some b ∧ (modified b.lb).1 = true ∧ r = true ∧
      ed' = showOpt (bumpAt ed idx b) msg) := by
  rcases Lemmas.C20c.bufsModified_shape ed ed' idx msg r h with
    ⟨hn, he, hr⟩ | ⟨b, hb, ⟨he, hr1, hr2⟩ | ⟨hr, hd, _, he⟩ | ⟨_, hx, _⟩⟩
  · exact .inl ⟨hn, hr, he⟩
  · exact .inr (.inl ⟨b, hb, hr1 ▸ hr2, hr2, he⟩)
  · exact .inr (.inr ⟨b, hb, hd, hr, he⟩)
  · exact absurd haw hx

theorem bufsModified_sameTable (ed ed' : Ed) (idx : Nat) (msg : Option Bytes) (r : Bool) (haw : ed.xaw = 0)
    (h : bufsModified ed idx msg = some (r, ed')) : SameTable ed ed' := by
  rcases bufsModified_cases ed ed' idx msg r haw h with ⟨_, _, rfl⟩ | ⟨b, hb, _, _, rfl⟩ | ⟨b, hb, _, _, rfl⟩
  · exact SameTable.refl _
  · exact sameTable_bumpAt ed idx b hb
  · exact (sameTable_bumpAt ed idx b hb).trans (sameTable_showOpt _ _)

/-- when `bufs_modified(idx)` lets the caller go on, slot `idx` of the old table shows no dirty buffer -/
theorem bufsModified_false (ed ed' : Ed) (idx : Nat) (msg : Option Bytes) (haw : ed.xaw = 0)
    (h : bufsModified ed idx msg = some (false, ed')) (v : Int × Bytes × List Bytes × Bool)
    (hv : slotView (ed.bufs.getD idx none) = some v) : v.2.2.2 = false := by
  rcases bufsModified_cases ed ed' idx msg false haw h with ⟨hb, _, _⟩ | ⟨b, hb, hd, _, _⟩ | ⟨b, _, _, hr, _⟩
  · rw [hb] at hv; cases hv
  · rw [hb] at hv
    simp only [slotView, Option.map_some, Option.some.injEq] at hv
    rw [← hv]; exact hd
  · cases hr

theorem pathExpand_cases (ed ed' : Ed) (src : Bytes) (sp : Bool) (r : Option Bytes)
    (h : pathExpand ed src sp = some (r, ed')) : ed' = ed ∨ ∃ m, ed' = ed.show m :=
  pathExpand_state ed ed' src sp r h

theorem pathExpand_sameTable (ed ed' : Ed) (src : Bytes) (sp : Bool) (r : Option Bytes)
    (h : pathExpand ed src sp = some (r, ed')) : SameTable ed ed' := by
  rcases pathExpand_cases ed ed' src sp r h with rfl | ⟨m, rfl⟩
  · exact SameTable.refl _
  · exact sameTable_show _ _

theorem editGuard_sameTable (ed ed' : Ed) (cmd : Bytes) (r : Bool) (haw : ed.xaw = 0)
    (h : C20.editGuard ed cmd = some (r, ed')) : SameTable ed ed' := by
  unfold C20.editGuard at h
  split at h
  · exact bufsModified_sameTable _ _ _ _ _ haw h
  · cases h; exact SameTable.refl _

theorem editGuard2_sameTable (ed ed' : Ed) (path : Bytes) (r : Bool) (haw : ed.xaw = 0)
    (h : editGuard2 ed path = some (r, ed')) : SameTable ed ed' := by
  unfold editGuard2 at h
  split at h
  · exact bufsModified_sameTable _ _ _ _ _ haw h
  · cases h; exact SameTable.refl _

/-! ### some slot shows the view -/

abbrev View := Int × Bytes × List Bytes × Bool

def Held (ed : Ed) (v : View) : Prop := some v ∈ ed.bufs.map slotView

def HeldTail (ed : Ed) (v : View) : Prop := some v ∈ (ed.bufs.drop 1).map slotView

theorem mem_of_getD_view (l : List (Option Buf)) (k : Nat) (v : View) (h : slotView (l.getD k none) = some v) :
    some v ∈ l.map slotView := by
  obtain ⟨b, hb, hv⟩ := slotView_some h
  have := (C20.mem_of_getD _ _ _ hb).1
  exact List.mem_map.2 ⟨some b, this, by simp [slotView, hv]⟩

theorem getD_of_mem_view (l : List (Option Buf)) (v : View) (h : some v ∈ l.map slotView) :
    ∃ k, k < l.length ∧ slotView (l.getD k none) = some v := by
  obtain ⟨x, hx, hxv⟩ := List.mem_map.1 h
  obtain ⟨k, hk, hget⟩ := List.getElem_of_mem hx
  refine ⟨k, hk, ?_⟩
  rw [List.getD_eq_getElem?_getD, List.getElem?_eq_getElem hk, hget]
  exact hxv

theorem held_of_getD {ed : Ed} {k : Nat} {v : View} (h : slotView (ed.bufs.getD k none) = some v) : Held ed v :=
  mem_of_getD_view _ _ _ h

theorem Held.getD {ed : Ed} {v : View} (h : Held ed v) : ∃ k, slotView (ed.bufs.getD k none) = some v := by
  obtain ⟨k, _, hk⟩ := getD_of_mem_view _ _ h
  exact ⟨k, hk⟩

theorem getD_drop_one (l : List (Option Buf)) (j : Nat) : (l.drop 1).getD j none = l.getD (j + 1) none := by
  simp only [List.getD_eq_getElem?_getD, List.getElem?_drop]
  rw [Nat.add_comm]

theorem heldTail_of_getD {ed : Ed} {k : Nat} {v : View} (hk : 0 < k)
    (h : slotView (ed.bufs.getD k none) = some v) : HeldTail ed v := by
  cases k with
  | zero => omega
  | succ j =>
    rw [← getD_drop_one] at h
    exact mem_of_getD_view _ _ _ h

theorem HeldTail.getD {ed : Ed} {v : View} (h : HeldTail ed v) :
    ∃ k, 0 < k ∧ slotView (ed.bufs.getD k none) = some v := by
  obtain ⟨j, _, hj⟩ := getD_of_mem_view _ _ h
  rw [getD_drop_one] at hj
  exact ⟨j + 1, by omega, hj⟩

theorem HeldTail.held {ed : Ed} {v : View} (h : HeldTail ed v) : Held ed v := by
  obtain ⟨k, _, hk⟩ := h.getD
  exact held_of_getD hk

theorem SameTable.held {ed ed' : Ed} {v : View} (h : SameTable ed ed') (hv : Held ed v) : Held ed' v := by
  obtain ⟨k, hk⟩ := hv.getD
  exact held_of_getD ((h.slots k).trans hk)

theorem SameTable.heldTail {ed ed' : Ed} {v : View} (h : SameTable ed ed') (hv : HeldTail ed v) : HeldTail ed' v := by
  obtain ⟨k, h0, hk⟩ := hv.getD
  exact heldTail_of_getD h0 ((h.slots k).trans hk)

theorem heldTail_of_drop {ed ed' : Ed} {v : View} (h : ed'.bufs.drop 1 = ed.bufs.drop 1) (hv : HeldTail ed v) :
    HeldTail ed' v := by
  unfold HeldTail; rw [h]; exact hv

/-! ### `bufs_switch` -/

theorem leftBufs_view (ed : Ed) (k : Nat) :
    slotView ((C20.leftBufs ed).getD k none) = slotView (ed.bufs.getD k none) :=
  C20.leftBufs_map ed bufView (fun _ => rfl) k

theorem mem_rotate_ne {α} (L : List (Option α)) (idx k : Nat) (x : Option α) (hk : k ≠ idx)
    (h : L[k]? = some x) : x ∈ L.take idx ++ L.drop (idx + 1) := by
  rw [List.mem_append]
  by_cases hlt : k < idx
  · left
    have : (L.take idx)[k]? = some x := by rw [List.getElem?_take_of_lt hlt]; exact h
    exact List.mem_of_getElem? this
  · right
    have : (L.drop (idx + 1))[k - (idx + 1)]? = some x := by
      rw [List.getElem?_drop, ← h]
      congr 1
      omega
    exact List.mem_of_getElem? this

theorem bufsSwitch_xaw (ed : Ed) (idx : Nat) : (ed.bufsSwitch idx).xaw = ed.xaw ∧ (ed.bufsSwitch idx).xwa = ed.xwa := by
  obtain ⟨_, _, _, _, _, _, _, e⟩ := C20.bufsSwitch_frame ed idx
  rw [e]; exact ⟨rfl, rfl⟩

/-- a switch loses no view -/
theorem held_bufsSwitch {ed : Ed} {v : View} (idx : Nat) (h : Held ed v) : Held (ed.bufsSwitch idx) v := by
  obtain ⟨k, hk⟩ := h.getD
  rw [← leftBufs_view] at hk
  obtain ⟨b, hb, hv⟩ := slotView_some hk
  have hm := (C20.mem_bufsSwitch_iff ed idx b).2 (C20.mem_of_getD _ _ _ hb).1
  exact List.mem_map.2 ⟨some b, hm, by simp [slotView, hv]⟩

/-- after a switch to `idx`, every view of another slot is shown by a slot other than the current one -/
theorem heldTail_bufsSwitch_ne {ed : Ed} {v : View} (idx k : Nat) (hne : k ≠ idx)
    (h : slotView (ed.bufs.getD k none) = some v) : HeldTail (ed.bufsSwitch idx) v := by
  unfold HeldTail
  rw [C20.switch_rotation]
  rw [← leftBufs_view] at h
  obtain ⟨b, hb, hv⟩ := slotView_some h
  obtain ⟨_, hget⟩ := getD_some hb
  have hm := mem_rotate_ne _ idx k _ hne hget
  simp only [List.cons_append, List.nil_append, List.drop_succ_cons, List.drop_zero]
  exact List.mem_map.2 ⟨some b, hm, by simp [slotView, hv]⟩

theorem bufsOpen_frame (ed : Ed) (p : Bytes) :
    (ed.bufsOpen p).2.xaw = ed.xaw ∧ (ed.bufsOpen p).2.xwa = ed.xwa ∧ (ed.bufsOpen p).2.files = ed.files :=
  ⟨rfl, rfl, rfl⟩

/-! ### the rest of `ec_edit` touches slot 0 only -/

theorem drop_one_set_zero (l : List (Option Buf)) (x : Option Buf) : (l.set 0 x).drop 1 = l.drop 1 := by
  cases l <;> rfl

theorem setCur_drop (ed : Ed) (b : Buf) : (ed.setCur b).bufs.drop 1 = ed.bufs.drop 1 :=
  drop_one_set_zero _ _

theorem setLb_drop (ed : Ed) (lb : Lb) : (ed.setLb lb).bufs.drop 1 = ed.bufs.drop 1 := by
  unfold Ed.setLb
  split
  · exact setCur_drop _ _
  · rfl

theorem editRead_drop (ed ed' : Ed) (b : Buf) (h : editRead ed b = some ed') : ed'.bufs.drop 1 = ed.bufs.drop 1 := by
  rcases editRead_cases h with ⟨rfl, _⟩ | ⟨_, _, _, _, _, _, _, rfl⟩
  · rfl
  · exact setLb_drop _ _

theorem editFinish_drop (ed ed' : Ed) (path : Bytes) (h : editFinish ed path = some ed') :
    ed'.bufs.drop 1 = ed.bufs.drop 1 := by
  obtain ⟨_, _, _, _, _, hr, _, rfl, rfl⟩ := editFinish_cases h
  exact (setCur_drop _ _).trans (editRead_drop _ _ _ hr)

end Neatvi.Lemmas.C02c
