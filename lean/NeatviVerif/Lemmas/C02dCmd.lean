import NeatviVerif.Lemmas.C02dInv
/-!
# C02d lemmas, part 3: every ex command keeps the invariant

The two places where a buffer is marked saved: the end of `ec_write` (`writeFinish_inv`) and the end of
`ec_edit` (`editFinish_inv`).  With the facts of part 2 about the buffer table they make `Inv` a predicate
kept by every handler (`inv_kept`), hence along command lines, the `ex()` loop and scripts (`reachable_inv`).
-/
namespace Neatvi.Lemmas.C02d
open Neatvi Neatvi.Lbuf Neatvi.LbufIo Neatvi.Ex Neatvi.Rset Neatvi.Props Neatvi.Lemmas.C02b Neatvi.Lemmas.C02Ex
open Neatvi.Lemmas.ExFrame Neatvi.Lemmas.C02c

theorem len_of_cur {ed : Ed} {b : Buf} (h : ed.cur = some b) : ed.len = (b.lb.lines.length : Int) := by
  unfold Ed.len Ed.lb; rw [h]; rfl

/-- the tail of `ec_write` after a successful `lbuf_save`: the buffer is marked saved only when the whole
    buffer went to its own path, and then the file holds its text (`hfile`) -/
theorem writeFinish_inv (ed : Ed) (cur : Buf) (path : Bytes) (b e : Int) (r : Int) (ed' : Ed)
    (h : Inv ed) (hcur : ed.cur = some cur)
    (hfile : b = 0 → e = ed.len → ∃ fl, ed.findFile path = some fl ∧ fl.data = cur.lb.lines.flatten)
    (hw : writeFinish ed cur path b e = some (r, ed')) : Inv ed' := by
  obtain ⟨hm, d, hr, ha⟩ := h.cur hcur
  have hmt : ed.mtimeOf path ≤ ed.clock := mtimeF_le h.1 path
  -- the three records `ec_write` may store
  have hsaved : ∀ c3 : Buf, c3.lb = cur.lb → c3.path = path → b = 0 → e = ed.len →
      BufOk ed.files ed.clock { c3 with lb := (modified (savedCore c3.lb false)).2, mtime := ed.mtimeOf path } := by
    intro c3 hl hp hb he
    refine ⟨hmt, some c3.lb.lines, by rw [hl]; exact hr.saved, ?_⟩
    intro t ht _ _ fl hfl
    cases ht
    obtain ⟨fl0, hf0, hd0⟩ := hfile hb he
    have : fl = fl0 := by
      have h1 : findF ed.files path = some fl := by rw [← hp]; exact hfl
      have h2 : findF ed.files path = some fl0 := hf0
      rw [h1] at h2; exact Option.some.inj h2
    subst this
    rw [hl]
    exact Or.inr hd0
  have hpart : ∀ c3 : Buf, c3.lb = cur.lb →
      BufOk ed.files ed.clock { c3 with lb := unsavedMark c3.lb, mtime := ed.mtimeOf path } := by
    intro c3 hl
    refine ⟨hmt, none, by rw [hl]; exact hr.partialWrite, ?_⟩
    intro t ht; cases ht
  obtain ⟨c3, ed6, hl, h6, hc⟩ := writeFinish_cases hw
  have h6' : Inv ed6 ∧ ed6.files = ed.files ∧ ed6.clock = ed.clock := by
    rcases h6 with ⟨_, rfl⟩ | ⟨_, rfl⟩ <;> exact ⟨h, rfl, rfl⟩
  rcases hc with ⟨hp, hb, he, rfl⟩ | rfl | rfl
  · exact inv_setCur h6'.1 (by rw [h6'.2.1, h6'.2.2]; exact hsaved c3 hl hp hb he)
  · exact inv_setCur h6'.1 (by rw [h6'.2.1, h6'.2.2]; exact hpart c3 hl)
  · exact inv_setCur h ⟨hm, d, hr, ha⟩

/-- reading the file of the current buffer `b`: the invariant is kept; the current buffer keeps its path
    and time stamp; no file changes; and if the buffer has a name and its file exists, the text now is
    what `lbuf_rd` makes of the file -/
theorem editRead_spec {ed ed' : Ed} {b : Buf} (h : Inv ed) (hc : ed.cur = some b)
    (hr : editRead ed b = some ed') :
    Inv ed' ∧ ed'.files = ed.files ∧ ed'.clock = ed.clock ∧
    ∃ b', ed'.cur = some b' ∧ b'.path = b.path ∧
      (b.path ≠ [] → ∀ fl, ed.findFile b.path = some fl → b'.lb.lines = splitLines (cstr fl.data)) := by
  rcases editRead_cases hr with ⟨rfl, hno⟩ | ⟨fl, _, lb1, _, hfl, _, hrd, rfl⟩
  · refine ⟨h, rfl, rfl, b, hc, rfl, fun hne fl hfl => ?_⟩
    rcases hno with hn | hemp
    · rw [hn] at hfl; cases hfl
    · exact absurd (List.isEmpty_iff.1 hemp) hne
  · have hlb : ed.lb = some b.lb := by unfold Ed.lb; rw [hc]; rfl
    have e1 : Inv (ed.setLb lb1) := inv_setLb h hlb (fun _ hd => hd.rd hrd)
    have hfc : (ed.setLb lb1).files = ed.files ∧ (ed.setLb lb1).clock = ed.clock := by
      unfold Ed.setLb; rw [hc]; exact ⟨rfl, rfl⟩
    refine ⟨e1.to (by rfl) (by rfl) (by rfl), hfc.1, hfc.2, { b with lb := lb1 }, ?_, rfl, ?_⟩
    · show (ed.setLb lb1).cur = _
      unfold Ed.setLb
      rw [hc]
      exact cur_some_set ed b _ hc
    · intro _ fl' hfl'
      rw [hfl] at hfl'
      cases hfl'
      exact rd_whole hrd

/-- `lbuf_saved` after (re)loading: the ghost becomes the text just read -/
theorem editFinish_inv {ed ed' : Ed} {path : Bytes} (h : Inv ed) (hf : editFinish ed path = some ed') : Inv ed' := by
  obtain ⟨b, ed5, b5, _, hb, hrd, hb5, rfl, rfl⟩ := editFinish_cases hf
  obtain ⟨e5, hfl5, hcl5, b', hb', hp', hlines⟩ := editRead_spec h hb hrd
  rw [hb'] at hb5
  obtain rfl := Option.some.inj hb5
  have key : BufOk ed5.files ed5.clock
      { b' with lb := (modified (savedCore b'.lb (!path.isEmpty))).2, mtime := ed5.mtimeOf b'.path } := ?_
  · exact (inv_setCur e5 key).to (by rfl) (by rfl) (by rfl)
  obtain ⟨_, d0, hr0, _⟩ := e5.cur hb'
  refine ⟨mtimeF_le e5.1 _, some b'.lb.lines, ?_, ?_⟩
  · cases (!path.isEmpty)
    · exact hr0.saved
    · exact hr0.savedClear
  · intro t ht hne _ fl hfl
    cases ht
    have hne' : b.path ≠ [] := by rw [← hp']; exact hne
    have hfl' : ed.findFile b.path = some fl := by
      rw [← hp']
      unfold Ed.findFile
      rw [← hfl5]
      exact hfl
    rw [hlines hne' fl hfl']
    exact Or.inl rfl

theorem inv_kept : Kept Inv where
  same h hs := h.same hs
  setLb h hl hs := inv_setLb h hl (fun _ hd => hd.step hs)
  bump0 h := inv_modifiedAt 0 h
  bump i h := inv_modifiedAt i h
  guard h hm := inv_bufsModified h hm
  switch i h := inv_bufsSwitch i h
  shift h := inv_bufsShift h
  opened p h := core_set h _ (bufOk_fresh h.1 _ rfl rfl)
  fresh h := core_set h 0 (bufOk_fresh h.1 _ rfl rfl)
  renum {ed} h := by
    show Core ed.files ed.clock (Props.C20b.renumEd ed).bufs
    exact core_congr_view (by rw [Props.C20b.renumEd_eq]; exact Lemmas.C20b.renumFrom_map Lemmas.C02b.bufView (fun _ _ => rfl) _ _) h
  save h hs := inv_save h (lbufSaveP_eff _ _ _ _ _ _ _ _ _ hs)
  written := by
    intro ed ed1 ed' cur path b e force ts m r h hc hs hf
    obtain ⟨_, hs'⟩ := lbufSaveP_ok _ _ _ _ _ _ _ _ hs
    have hc5 : (ed1.show m).cur = some cur := (cur_congr (lbufSaveP_bufs _ _ _ _ _ _ _ _ _ hs)).trans hc
    refine writeFinish_inv (ed1.show m) cur _ _ _ r ed' ?_ hc5 ?_ hf
    · exact (inv_save h (lbufSaveP_eff _ _ _ _ _ _ _ _ _ hs)).to rfl rfl rfl
    · intro hb0 he0
      rw [hb0] at hs'
      exact lbufSave_whole ed ed1 cur.lb _ _ _ _ (Or.inr (he0.trans (len_of_cur hc5))) hs'
  loaded h hf := editFinish_inv h hf

theorem inv_bufsOpen {ed : Ed} (p : Bytes) (h : Inv ed) : Inv (ed.bufsOpen p).2 := inv_kept.opened p h
theorem inv_edit {ed ed' : Ed} {s : Option Bytes} {b e : Int} (h : Inv ed) (he : ed.edit s b e = some ed') :
    Inv ed' := inv_kept.toQuiet.edit h he
theorem inv_edit3 {ed0 ed ed1 ed' : Ed} {s : Option Bytes} {b e : Int} (he : ed.edit s b e = some ed1)
    (h : Inv ed0) (hs0 : Same ed0 ed) (hs : Same ed1 ed') : Inv ed' :=
  inv_kept.same (inv_kept.toQuiet.edit (inv_kept.same h hs0) he) hs
theorem inv_guard {ed ed' : Ed} {c : Prop} [Decidable c] {idx : Nat} {msg : Option Bytes} {r : Bool} (hi : Inv ed)
    (h : (if c then bufsModified ed idx msg else some (false, ed) : R Bool) = some (r, ed')) : Inv ed' :=
  inv_kept.guardIf hi h

/-- the three hypotheses are not needed: `Kept.all` gives every fuel at once -/
theorem runCmd_inv (f : Nat) (ed ed' : Ed) (hd : String) (loc cmd arg : Bytes) (txt : Option Bytes) (r : Int)
    (_hat : ∀ ed r ed', Inv ed → ecAt f ed loc cmd arg = some (r, ed') → Inv ed')
    (_hglob : ∀ ed r ed', Inv ed → ecGlob f ed loc cmd arg = some (r, ed') → Inv ed')
    (_hedit : ∀ ed r ed', Inv ed → ecEdit f ed cmd arg = some (r, ed') → Inv ed')
    (hi : Inv ed) (h : runCmd (f + 1) ed hd loc cmd arg txt = some (r, ed')) : Inv ed' :=
  inv_kept.ofXStep (Lemmas.ExStep.XStep.runCmd h) hi

theorem exExec_keeps {f : Nat} {ed ed' : Ed} {ln : Bytes} {r : Int} (hi : Inv ed)
    (h : exExec f ed ln = some (r, ed')) : Inv ed' := inv_kept.exExec hi h

theorem runCmd_keeps {f : Nat} {ed ed' : Ed} {hd : String} {loc cmd arg : Bytes} {txt : Option Bytes} {r : Int}
    (hi : Inv ed) (h : runCmd f ed hd loc cmd arg txt = some (r, ed')) : Inv ed' :=
  inv_kept.ofXStep (Lemmas.ExStep.XStep.runCmd h) hi

theorem ecEdit_keeps {f : Nat} {ed ed' : Ed} {cmd arg : Bytes} {r : Int} (hi : Inv ed)
    (h : ecEdit f ed cmd arg = some (r, ed')) : Inv ed' := inv_kept.ofXStep (Lemmas.ExStep.XStep.ecEditAny h) hi

theorem exStep_keeps {ed ed' : Ed} {r : Int} (hi : Inv ed) (h : exStep ed = some (r, ed')) : Inv ed' :=
  inv_kept.ofXStep (Lemmas.ExStep.XStep.exStep h) hi

theorem exInit_keeps {ed ed' : Ed} {files : List Bytes} {r : Int} (hi : Inv ed)
    (h : exInit ed files = some (r, ed')) : Inv ed' := inv_kept.ofXStep (Lemmas.ExStep.XStep.exInit h) hi

/-- an editor with an empty buffer table and a file system with sane stamps satisfies the invariant -/
theorem inv_empty_table (ed0 : Ed) (h0 : ed0.bufs = List.replicate Gen.NBUFS none) (hfs : FsOk ed0.files ed0.clock) :
    Inv ed0 := by
  refine ⟨hfs, fun b hb => ?_⟩
  rw [h0] at hb
  simp [List.mem_replicate] at hb

/-- **every state reached by `exInit` and `exStep`s satisfies the invariant** -/
theorem reachable_inv (ed0 : Ed) (files : List Bytes) (n : Nat) (rc : Int) (ed1 ed : Ed)
    (h0 : ed0.bufs = List.replicate Gen.NBUFS none) (hfs : FsOk ed0.files ed0.clock)
    (hinit : exInit ed0 files = some (rc, ed1)) (hrun : C02.Ex.exRun n ed1 = some ed) : Inv ed :=
  inv_kept.ofXStep (Lemmas.ExStep.XStep.exRun n ed1 ed hrun) (exInit_keeps (inv_empty_table ed0 h0 hfs) hinit)

/-- run the command lines one after the other through `ex_command` with fuel `f` (`none` = trap) -/
def runLines (f : Nat) : List Bytes → Ed → Option Ed
  | [], ed => some ed
  | ln :: r, ed =>
    match exCommand f ed ln with
    | none => none
    | some (_, ed') => runLines f r ed'

end Neatvi.Lemmas.C02d
