import NeatviVerif.Props.C03
import NeatviVerif.Lemmas.C06bRead
/-!
# C02d lemmas, part 1: the virtual file system under `lbuf_save`

* `FileIs data t`: the bytes `data` of a file "hold" the text `t` of a buffer: either byte for byte
  (`data = t.flatten`, what a whole write leaves), or `t` is what `lbuf_rd` makes of `data`
  (`t = splitLines (cstr data)`, what loading leaves: the two differ only when the file lacks its final
  newline or contains a NUL byte).
* `FsOk F c`: every file of `F` carries a time stamp in `[0, c]` and the clock `c` is at least `-1`.
* `SaveEff ed ed' path`: all that `lbuf_save(…, path, …)` may change: the file at `path` (then stamped
  with a time beyond the old clock), the clock (forward), the fault bookkeeping.
-/
namespace Neatvi.Lemmas.C02d
open Neatvi Neatvi.Lbuf Neatvi.LbufIo Neatvi.Ex Neatvi.Props Neatvi.Props.C01

/-- the bytes `data` hold the text `t`: exactly, or as `lbuf_rd` reads them -/
def FileIs (data : Bytes) (t : List Bytes) : Prop := t = splitLines (cstr data) ∨ data = t.flatten

theorem fileIs_flatten (t : List Bytes) : FileIs t.flatten t := Or.inr rfl
theorem fileIs_load (data : Bytes) : FileIs data (splitLines (cstr data)) := Or.inl rfl

def findF (F : List File) (p : Bytes) : Option File := F.find? (fun f => f.path == p)
def mtimeF (F : List File) (p : Bytes) : Int := match findF F p with | some f => f.mtime | none => -1

theorem findFile_eq (ed : Ed) (p : Bytes) : ed.findFile p = findF ed.files p := rfl
theorem mtimeOf_eq (ed : Ed) (p : Bytes) : ed.mtimeOf p = mtimeF ed.files p := rfl

/-- time stamps are sane: files are stamped within `[0, clock]` -/
def FsOk (F : List File) (c : Int) : Prop := -1 ≤ c ∧ ∀ f ∈ F, 0 ≤ f.mtime ∧ f.mtime ≤ c

theorem findF_mem {F : List File} {p : Bytes} {f : File} (h : findF F p = some f) : f ∈ F ∧ f.path = p := by
  unfold findF at h
  exact ⟨List.mem_of_find?_eq_some h, by simpa using List.find?_some h⟩

theorem mtimeF_le {F : List File} {c : Int} (h : FsOk F c) (p : Bytes) : mtimeF F p ≤ c := by
  unfold mtimeF
  cases hf : findF F p with
  | none => exact h.1
  | some f => exact (h.2 f (findF_mem hf).1).2

theorem mtimeF_some {F : List File} {p : Bytes} {f : File} (h : findF F p = some f) : mtimeF F p = f.mtime := by
  unfold mtimeF; rw [h]

theorem mtimeF_none {F : List File} {p : Bytes} (h : findF F p = none) : mtimeF F p = -1 := by
  unfold mtimeF; rw [h]

/-- with sane stamps, `mtime(path) = -1` means: no such file -/
theorem findF_none_of_neg {F : List File} {c : Int} (h : FsOk F c) {p : Bytes} (hm : mtimeF F p < 0) :
    findF F p = none := by
  cases hf : findF F p with
  | none => rfl
  | some f =>
    rw [mtimeF_some hf] at hm
    have := (h.2 f (findF_mem hf).1).1
    omega

theorem mem_putFile {ed : Ed} {f g : File} (h : g ∈ (ed.putFile f).files) : g = f ∨ g ∈ ed.files := by
  unfold Ed.putFile at h
  split at h
  · simp only [List.mem_map] at h
    obtain ⟨x, hx, rfl⟩ := h
    split
    · exact Or.inl rfl
    · exact Or.inr hx
  · simp only [List.mem_append, List.mem_singleton] at h
    rcases h with h | h
    · exact Or.inr h
    · exact Or.inl h

theorem find_map_ne (F : List File) (f : File) (q : Bytes) (hq : q ≠ f.path) :
    (F.map (fun g => if g.path == f.path then f else g)).find? (fun g => g.path == q) =
      F.find? (fun g => g.path == q) := by
  induction F with
  | nil => rfl
  | cons g F ih =>
    simp only [List.map_cons, List.find?_cons]
    by_cases hg : (g.path == f.path) = true
    · have hgp : g.path = f.path := by simpa using hg
      have h1 : (f.path == q) = false := by simpa using fun h => hq h.symm
      have h2 : (g.path == q) = false := by rw [hgp]; exact h1
      simp only [hg, if_true, h1, h2]
      exact ih
    · simp only [hg, Bool.false_eq_true, if_false]
      rw [ih]

theorem findFile_putFile_ne (ed : Ed) (f : File) (q : Bytes) (hq : q ≠ f.path) :
    (ed.putFile f).findFile q = ed.findFile q := by
  unfold Ed.putFile Ed.findFile
  split
  · exact find_map_ne _ _ _ hq
  · simp only [List.find?_append]
    have h1 : (f.path == q) = false := by simpa using fun h => hq h.symm
    cases ed.files.find? (fun g => g.path == q) with
    | some x => rfl
    | none => simp [h1]

theorem putFile_xquit (ed : Ed) (f : File) : (ed.putFile f).xquit = ed.xquit := by
  unfold Ed.putFile; split <;> rfl

/-- the footprint of `lbuf_save(lb, beg, end, path, force, ts)` -/
structure SaveEff (ed ed' : Ed) (path : Bytes) : Prop where
  bufs : ed'.bufs = ed.bufs
  clock : ed.clock ≤ ed'.clock
  other : ∀ q, q ≠ path → ed'.findFile q = ed.findFile q
  self : (ed'.files = ed.files ∧ ed'.clock = ed.clock) ∨
    (∃ fl, ed'.findFile path = some fl ∧ ed.clock < fl.mtime)
  fs : FsOk ed.files ed.clock → FsOk ed'.files ed'.clock
  xquit : ed'.xquit = ed.xquit

theorem SaveEff.refl' {ed ed' : Ed} (path : Bytes) (hb : ed'.bufs = ed.bufs) (hf : ed'.files = ed.files)
    (hc : ed'.clock = ed.clock) (hq : ed'.xquit = ed.xquit) : SaveEff ed ed' path :=
  ⟨hb, by rw [hc]; exact Int.le_refl _, fun q _ => by unfold Ed.findFile; rw [hf], Or.inl ⟨hf, hc⟩,
    fun h => by rw [hf, hc]; exact h, hq⟩

/-- `path` written twice in a row (the open truncates or creates, the writes fill), each time stamped with
    the clock it advances to -/
theorem saveEff_puts {ed e1 e2 : Ed} {path d1 d2 : Bytes} {k : Nat}
    (h1 : e1.files = (ed.putFile ⟨path, d1, ed.clock + 1⟩).files) (h1c : e1.clock = ed.clock + 1)
    (h2 : e2.files = (e1.putFile ⟨path, d2, e1.clock + k⟩).files) (h2c : e2.clock = e1.clock + k)
    (hb : e2.bufs = ed.bufs) (hq : e2.xquit = ed.xquit) : SaveEff ed e2 path := by
  have hf2 : e2.findFile path = some ⟨path, d2, e1.clock + k⟩ := by
    have := C03.findFile_putFile e1 ⟨path, d2, e1.clock + k⟩
    unfold Ed.findFile at this ⊢
    rw [h2]
    exact this
  refine ⟨hb, by omega, ?_, Or.inr ⟨_, hf2, by show ed.clock < e1.clock + k; omega⟩, ?_, hq⟩
  · intro q hq
    have a := findFile_putFile_ne e1 ⟨path, d2, e1.clock + k⟩ q hq
    have b := findFile_putFile_ne ed ⟨path, d1, ed.clock + 1⟩ q hq
    unfold Ed.findFile at a b ⊢
    rw [h2, a, h1, b]
  · intro hfs
    have := hfs.1
    refine ⟨by omega, fun g hg => ?_⟩
    rw [h2] at hg
    rcases mem_putFile hg with rfl | hg
    · show 0 ≤ e1.clock + k ∧ e1.clock + k ≤ e2.clock
      omega
    · rw [h1] at hg
      rcases mem_putFile hg with rfl | hg
      · show 0 ≤ ed.clock + 1 ∧ ed.clock + 1 ≤ e2.clock
        omega
      · have := hfs.2 g hg
        omega

theorem afterWrite_eff (ed : Ed) (path : Bytes) (n : Nat) (st : WrState) :
    SaveEff ed (C03.afterWrite (C03.afterOpen ed path) path (C03.oldData ed.nextFault.2 path) n st).nextFault.2 path := by
  generalize C03.oldData ed.nextFault.2 path = old
  have hw : ∀ e1 : Ed, ∃ (d : Bytes) (k : Nat),
      (C03.afterWrite e1 path old n st).nextFault.2.files = (e1.putFile ⟨path, d, e1.clock + k⟩).files ∧
      (C03.afterWrite e1 path old n st).nextFault.2.clock = e1.clock + k ∧
      (C03.afterWrite e1 path old n st).nextFault.2.xquit = e1.xquit := by
    intro e1
    unfold C03.afterWrite
    exact ⟨_, _, rfl, rfl, putFile_xquit e1 _⟩
  obtain ⟨d, k, h2, h2c, h2q⟩ := hw (C03.afterOpen ed path)
  have h := saveEff_puts (ed := ed.nextFault.2) (e1 := C03.afterOpen ed path) (path := path) rfl rfl h2 h2c
    (by rw [C03.afterWrite_bufs, C03.afterOpen_bufs]; rfl) (h2q.trans (putFile_xquit ed.nextFault.2 _))
  exact ⟨h.bufs, h.clock, h.other, h.self, h.fs, h.xquit⟩

/-- **every outcome of `lbuf_save` has this footprint** -/
theorem lbufSave_eff (ed ed' : Ed) (lb : Lb) (b : Nat) (e : Int) (path : Bytes) (force : Bool) (ts : Int)
    (r : Option Bytes) (h : lbufSave ed lb b e path force ts = some (r, ed')) : SaveEff ed ed' path :=
  C03.lbufSave_elim (P := fun _ ed' => SaveEff ed ed' path) h (fun _ _ => SaveEff.refl' path rfl rfl rfl rfl)
    (fun _ _ => SaveEff.refl' path rfl rfl rfl rfl) (fun _ _ st _ => afterWrite_eff ed path _ st)

theorem lbufSaveP_eff (ed ed' : Ed) (lb : Lb) (b : Nat) (e : Int) (path : Bytes) (force : Bool) (ts : Int)
    (r : Option Bytes) (h : lbufSaveP ed lb b e path force ts = some (r, ed')) : SaveEff ed ed' path := by
  by_cases hp : path = []
  · subst hp
    obtain ⟨_, rfl⟩ := Lemmas.C02Ex.lbufSaveP_empty_err _ _ _ _ _ _ _ _ h
    exact SaveEff.refl' [] (Lemmas.C02Ex.unnamedFail_bufs ed) (Lemmas.C02Ex.unnamedFail_files ed)
      (Lemmas.C02Ex.unnamedFail_clock ed) (by unfold Lemmas.C02Ex.unnamedFail; split <;> rfl)
  · rw [Lemmas.C02Ex.lbufSaveP_of_ne hp] at h
    exact lbufSave_eff _ _ _ _ _ _ _ _ _ h

/-- an unforced save whose time stamp is older than the file's is refused with the state untouched -/
theorem lbufSave_stale (ed ed' : Ed) (lb : Lb) (b : Nat) (e : Int) (path : Bytes) (ts : Int) (r : Option Bytes)
    (hm : ed.mtimeOf path > ts) (h : lbufSave ed lb b e path false ts = some (r, ed')) : ed' = ed ∧ r.isSome := by
  rw [C03.guard_newer ed lb b e path ts hm] at h
  cases h
  exact ⟨rfl, rfl⟩

/-- a successful whole save: the file holds the concatenation of the lines -/
theorem lbufSave_whole (ed ed' : Ed) (lb : Lb) (path : Bytes) (force : Bool) (ts : Int) (e : Int)
    (he : e < 0 ∨ e = (lb.lines.length : Int))
    (h : lbufSave ed lb 0 e path force ts = some (none, ed')) :
    ∃ fl, ed'.findFile path = some fl ∧ fl.data = lb.lines.flatten := by
  have hx := C03.success_exact _ _ _ _ _ _ _ _ h
  have hend : C03.endLine lb e = lb.lines.length := by
    unfold C03.endLine
    rcases he with he | he
    · rw [if_pos he]
    · rw [he]; simp
  rw [hend] at hx
  simp only [List.drop_zero, Nat.sub_zero, List.take_length] at hx
  cases hf : ed'.findFile path with
  | none => rw [hf] at hx; cases hx
  | some fl =>
    rw [hf] at hx
    simp only [Option.map_some, Option.some.injEq] at hx
    exact ⟨fl, rfl, hx⟩

/-- `lbuf_rd(xb, fd, 0, lbuf_len(xb))` of a whole file replaces the text by the lines read -/
theorem rd_whole {lb lb' : Lb} {data : Bytes} {rc : Nat}
    (h : rd lb [data] false 0 lb.lines.length = some (rc, lb')) : lb'.lines = splitLines (cstr data) := by
  rw [Lemmas.C06b.rd_single, Option.map_eq_some_iff] at h
  obtain ⟨l, hl, hr⟩ := h
  cases hr
  have := Lemmas.ExFrame.edit_lines hl (Nat.zero_le _)
  rw [this]
  simp [Lemmas.Hist.optLines]

end Neatvi.Lemmas.C02d
