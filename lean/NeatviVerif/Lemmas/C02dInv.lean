import NeatviVerif.Lemmas.C02dFs
import NeatviVerif.Lemmas.C02bRun
/-!
# C02d lemmas, part 2: the invariant tying every buffer of the table to the file system

`BufOk F c b`: the buffer `b` was built by the lbuf API with some ghost `d` (the text at its most recent
`lbuf_saved`, `none` after `lbuf_unsaved`), its recorded time stamp is not beyond the clock `c`, and —
`Agrees` — if `d = some t`, the buffer has a name and the file of that name still carries the time stamp
the buffer recorded when it was loaded or written (nobody, the editor included, wrote the path since),
then the file, if it exists, holds `t`.

`Inv ed`: the file system has sane stamps and every buffer of the table is `BufOk`.
-/
namespace Neatvi.Lemmas.C02d
open Neatvi Neatvi.Lbuf Neatvi.LbufIo Neatvi.Ex Neatvi.Props Neatvi.Lemmas.C02b Neatvi.Lemmas.C02Ex
open Neatvi.Lemmas.ExFrame
open Neatvi.Lemmas.C20b (AllB)

/-- the ghost `d` of buffer `b` agrees with the files `F` -/
def Agrees (F : List File) (b : Buf) (d : Option (List Bytes)) : Prop :=
  ∀ t, d = some t → b.path ≠ [] → mtimeF F b.path = b.mtime →
    ∀ fl, findF F b.path = some fl → FileIs fl.data t

def BufOk (F : List File) (c : Int) (b : Buf) : Prop :=
  b.mtime ≤ c ∧ ∃ d, LbReach b.lb d ∧ Agrees F b d

def Core (F : List File) (c : Int) (bufs : List (Option Buf)) : Prop :=
  FsOk F c ∧ ∀ b, some b ∈ bufs → BufOk F c b

/-- the invariant of C02d -/
def Inv (ed : Ed) : Prop := Core ed.files ed.clock ed.bufs

theorem Inv.fs {ed : Ed} (h : Inv ed) : FsOk ed.files ed.clock := h.1
theorem Inv.mem {ed : Ed} (h : Inv ed) {b : Buf} (hb : some b ∈ ed.bufs) : BufOk ed.files ed.clock b := h.2 b hb
theorem Inv.at {ed : Ed} (h : Inv ed) {i : Nat} {b : Buf} (hb : ed.bufs.getD i none = some b) :
    BufOk ed.files ed.clock b := h.2 b (C20.mem_of_getD _ _ _ hb).1
theorem Inv.cur {ed : Ed} (h : Inv ed) {b : Buf} (hb : ed.cur = some b) : BufOk ed.files ed.clock b := h.at hb

/-- same table, files and clock -/
theorem Inv.to {ed ed' : Ed} (h : Inv ed) (hb : ed'.bufs = ed.bufs) (hf : ed'.files = ed.files)
    (hc : ed'.clock = ed.clock) : Inv ed' := by
  unfold Inv; rw [hb, hf, hc]; exact h

theorem Inv.same {ed ed' : Ed} (h : Inv ed) (hs : Same ed ed') : Inv ed' := h.to hs.1 hs.2.1 hs.2.2

theorem BufOk.of {F : List File} {c : Int} {b b' : Buf} (h : BufOk F c b) (hp : b'.path = b.path)
    (hm : b'.mtime = b.mtime) (hl : ∀ d, LbReach b.lb d → LbReach b'.lb d) : BufOk F c b' := by
  obtain ⟨h1, d, hr, ha⟩ := h
  refine ⟨by rw [hm]; exact h1, d, hl d hr, ?_⟩
  intro t ht hne hmt fl hfl
  rw [hp] at hne hmt hfl
  rw [hm] at hmt
  exact ha t ht hne hmt fl hfl

theorem BufOk.bump {F : List File} {c : Int} {b : Buf} (h : BufOk F c b) :
    BufOk F c { b with lb := (modified b.lb).2 } := h.of rfl rfl (fun _ hd => hd.bump)

theorem BufOk.setLb {F : List File} {c : Int} {b : Buf} {lb : Lb} (h : BufOk F c b)
    (hl : ∀ d, LbReach b.lb d → LbReach lb d) : BufOk F c { b with lb := lb } := h.of rfl rfl hl

/-- a fresh record (`bufs_open`, `:b !` on the last buffer) -/
theorem bufOk_fresh {F : List File} {c : Int} (hfs : FsOk F c) (b : Buf) (hlb : b.lb = Lbuf.make) (hm : b.mtime = -1) :
    BufOk F c b := by
  refine ⟨by rw [hm]; exact hfs.1, some [], by rw [hlb]; exact LbReach.make, ?_⟩
  intro t _ _ hmt fl hfl
  have := findF_none_of_neg hfs (p := b.path) (by rw [hmt, hm]; decide)
  rw [this] at hfl; cases hfl

/-- the buffer survives a save to `path` (by whatever buffer): either the file it is attached to is not
    touched, or that file now carries a stamp newer than anything the buffer recorded -/
theorem BufOk.save {ed ed' : Ed} {path : Bytes} {b : Buf} (h : BufOk ed.files ed.clock b)
    (he : SaveEff ed ed' path) : BufOk ed'.files ed'.clock b := by
  obtain ⟨h1, d, hr, ha⟩ := h
  refine ⟨Int.le_trans h1 he.clock, d, hr, ?_⟩
  intro t ht hne hmt fl hfl
  by_cases hp : b.path = path
  · rcases he.self with ⟨hf, _⟩ | ⟨fl', hfl', hgt⟩
    · rw [hf] at hmt hfl
      exact ha t ht hne hmt fl hfl
    · exfalso
      rw [hp] at hmt
      have h2 : mtimeF ed'.files path = fl'.mtime := mtimeF_some hfl'
      omega
  · have ho := he.other b.path hp
    have hfl0 : findF ed.files b.path = some fl := by rw [← hfl]; exact ho.symm
    have hm0 : mtimeF ed.files b.path = b.mtime := by
      rw [← hmt]; unfold mtimeF; rw [hfl0, hfl]
    exact ha t ht hne hm0 fl hfl0

theorem core_sub {F : List File} {c : Int} {l l' : List (Option Buf)} (h : Core F c l)
    (hs : ∀ b, some b ∈ l' → some b ∈ l) : Core F c l' := ⟨h.1, AllB.sub (Q := BufOk F c) h.2 hs⟩

theorem core_set {F : List File} {c : Int} {l : List (Option Buf)} {b : Buf} (h : Core F c l) (i : Nat)
    (hb : BufOk F c b) : Core F c (l.set i (some b)) := ⟨h.1, AllB.set (Q := BufOk F c) h.2 i hb⟩

theorem inv_save {ed ed' : Ed} {path : Bytes} (h : Inv ed) (he : SaveEff ed ed' path) : Inv ed' := by
  refine ⟨he.fs h.1, fun b hb => ?_⟩
  rw [he.bufs] at hb
  exact (h.2 b hb).save he

theorem inv_setCur {ed : Ed} {b : Buf} (h : Inv ed) (hb : BufOk ed.files ed.clock b) : Inv (ed.setCur b) :=
  core_set h 0 hb

/-- the current line buffer replaced by the result of ghost-preserving calls -/
theorem inv_setLb {ed : Ed} {lb0 lb : Lb} (h : Inv ed) (hl : ed.lb = some lb0)
    (hr : ∀ d, LbReach lb0 d → LbReach lb d) : Inv (ed.setLb lb) := by
  obtain ⟨b, hc, rfl⟩ := lb_some hl
  unfold Ed.setLb
  rw [hc]
  exact inv_setCur h ((h.cur hc).setLb hr)

theorem inv_updLb {ed : Ed} (G : Lb → Lb) (hG : ∀ lb d, LbReach lb d → LbReach (G lb) d) (h : Inv ed) :
    Inv (match ed.lb with | some lb => ed.setLb (G lb) | none => ed) := by
  cases hl : ed.lb with
  | none => exact h
  | some lb => exact inv_setLb h hl (hG lb)

theorem inv_modifiedAt {ed : Ed} (idx : Nat) (h : Inv ed) : Inv (ed.modifiedAt idx).2 :=
  modifiedAt_cases ed idx h fun _ hb => core_set h idx (h.at hb).bump

theorem inv_bufsModified {ed ed' : Ed} {idx : Nat} {msg : Option Bytes} {r : Bool} (h : Inv ed)
    (hm : bufsModified ed idx msg = some (r, ed')) : Inv ed' :=
  bufsModified_rel (Rel := fun ed ed' => Inv ed → Inv ed') (fun _ h => h) (fun h1 h2 h => h2 (h1 h))
    (fun _ hs h => inv_save h (lbufSave_eff _ _ _ _ _ _ _ _ _ hs)) (fun _ _ h => h) (fun _ h => inv_modifiedAt idx h) hm h

theorem switch_clock (ed : Ed) (idx : Nat) : (ed.bufsSwitch idx).clock = ed.clock := by
  obtain ⟨_, _, _, _, _, _, _, e⟩ := C20.bufsSwitch_frame ed idx
  rw [e]

theorem leftBufs_ok {ed : Ed} (h : Inv ed) : AllB (BufOk ed.files ed.clock) (C20.leftBufs ed) :=
  AllB.leftBufs (fun _ h0 => (h.at h0).bump) (AllB.sub (Q := BufOk ed.files ed.clock) h.2 fun _ => List.mem_of_mem_drop)

theorem inv_bufsSwitch {ed : Ed} (idx : Nat) (h : Inv ed) : Inv (ed.bufsSwitch idx) := by
  unfold Inv
  rw [C20.switch_files, switch_clock]
  exact ⟨h.1, AllB.bufsSwitch idx (leftBufs_ok h)⟩

theorem bufsLoad_files (ed : Ed) : ed.bufsLoad.files = ed.files := by
  unfold Ed.bufsLoad; split <;> rfl
theorem bufsLoad_clock (ed : Ed) : ed.bufsLoad.clock = ed.clock := by
  unfold Ed.bufsLoad; split <;> rfl

theorem inv_bufsLoad {ed : Ed} (h : Inv ed) : Inv ed.bufsLoad :=
  h.to (C20.bufsLoad_bufs ed) (bufsLoad_files ed) (bufsLoad_clock ed)

theorem inv_bufsShift {ed : Ed} (h : Inv ed) : Inv ed.bufsShift := by
  unfold Ed.bufsShift
  apply inv_bufsLoad
  show Core ed.files ed.clock (ed.bufs.drop 1 ++ [none])
  refine core_sub h ?_
  intro b hb
  simp only [List.mem_append, List.mem_singleton, reduceCtorEq, or_false] at hb
  exact List.mem_of_mem_drop hb

/-- a table with the same (path, time stamp, line buffer) slot by slot -/
theorem core_congr_view {F : List File} {c : Int} {l l' : List (Option Buf)}
    (hm : l'.map (Option.map bufView) = l.map (Option.map bufView)) (h : Core F c l) : Core F c l' := by
  refine ⟨h.1, AllB.congr (Q := BufOk F c) bufView (fun b b' e hb => ?_) hm h.2⟩
  simp only [bufView, Prod.mk.injEq] at e
  exact hb.of e.1 e.2.1 (fun d hd => by rw [e.2.2]; exact hd)

end Neatvi.Lemmas.C02d
