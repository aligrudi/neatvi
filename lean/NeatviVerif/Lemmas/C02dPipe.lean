import NeatviVerif.Lemmas.C02dWitness
/-!
# C02d lemmas, part 9: `:w !cmd` saves nothing

`ec_write` with an argument that starts with `!` pipes the range to a command.  It touches no file, renames
no buffer and marks no buffer saved: apart from the address side effects (`xrow`, the search keyword), the
message, the `unmodelled` flag (vi mode) and — for `:x`, which tests the dirty flag first — the sequence
counter of the current buffer, the state is unchanged.
-/
namespace Neatvi.Lemmas.C02d
open Neatvi Neatvi.Lbuf Neatvi.LbufIo Neatvi.Ex Neatvi.Props Neatvi.Lemmas.C02b Neatvi.Lemmas.C02Ex

/-- `ex_pathexpand` only appends to what it has copied so far -/
theorem pathExpand_go_head (ed : Ed) (sp : Bool) : ∀ (f : Nat) (src dst p : Bytes), dst ≠ [] →
    pathExpand.go ed sp f src dst = some (some p) → p.headD 0 = dst.headD 0 := by
  intro f
  induction f with
  | zero => intro src dst p _ h; rw [pathExpand.go] at h; cases h; rfl
  | succ f ih =>
    intro src dst p hne h
    have happ : ∀ x : Bytes, dst ++ x ≠ [] ∧ (dst ++ x).headD 0 = dst.headD 0 := by
      intro x
      cases dst with
      | nil => exact absurd rfl hne
      | cons a r => exact ⟨by simp, rfl⟩
    have hemp : dst.isEmpty = false := by
      cases dst with
      | nil => exact absurd rfl hne
      | cons a r => rfl
    rw [pathExpand.go.eq_def] at h
    simp only [] at h
    split at h
    · cases h; rfl
    · rename_i c r
      split at h
      · cases h; rfl
      · split at h
        · split at h
          · cases h
          · exact (ih _ _ _ (happ _).1 h).trans (happ _).2
        · split at h
          · rename_i h61
            simp [hemp] at h61
          · split at h
            · exact (ih _ _ _ (happ _).1 h).trans (happ _).2
            · exact (ih _ _ _ (happ _).1 h).trans (happ _).2

theorem pathExpand_bang {ed ed' : Ed} {arg path : Bytes} (harg : arg.headD 0 = 33)
    (h : pathExpand ed arg true = some (some path, ed')) : path.headD 0 = 33 := by
  have hg := (Lemmas.C20c.pathExpand_go_of h).1
  cases arg with
  | nil => exact absurd harg (by decide)
  | cons c r =>
    simp only [List.headD_cons] at harg
    subst harg
    rw [List.length_cons, pathExpand.go.eq_def] at hg
    simp only [] at hg
    have c1 : ((33 : Nat) == 10 || !true && ((33 : Nat) == 32 || (33 : Nat) == 9)) = false := by decide
    have c2 : ((33 : Nat) == 37 || (33 : Nat) == 35) = false := by decide
    have c3 : (([] : Bytes).isEmpty && (33 : Nat) == 61) = false := by decide
    have c4 : ((33 : Nat) == 92 && !r.isEmpty) = false := by simp
    simp only [c1, c2, c3, c4, Bool.false_eq_true, if_false, List.nil_append] at hg
    exact pathExpand_go_head ed true _ _ _ _ (by simp) hg

/-- what `:w !cmd` may change -/
structure PipeOnly (cmd : Bytes) (ed ed' : Ed) : Prop where
  files : ed'.files = ed.files
  clock : ed'.clock = ed.clock
  xquit : ed'.xquit = ed.xquit
  bufsCnt : ed'.bufsCnt = ed.bufsCnt
  regs : ed'.regs = ed.regs
  bufs : ed'.bufs = ed.bufs ∨ (cmd.headD 0 = 120 ∧ ed'.bufs = (ed.modifiedAt 0).2.bufs)

theorem modifiedAt_frame (ed : Ed) (idx : Nat) :
    (ed.modifiedAt idx).2.files = ed.files ∧ (ed.modifiedAt idx).2.clock = ed.clock ∧
    (ed.modifiedAt idx).2.xquit = ed.xquit ∧ (ed.modifiedAt idx).2.bufsCnt = ed.bufsCnt ∧
    (ed.modifiedAt idx).2.regs = ed.regs := by
  rw [modifiedAt_fields]; exact ⟨rfl, rfl, rfl, rfl, rfl⟩

theorem modifiedAt_bufs_congr {e1 e : Ed} (h : e1.bufs = e.bufs) (idx : Nat) :
    (e1.modifiedAt idx).2.bufs = (e.modifiedAt idx).2.bufs := by
  unfold Ed.modifiedAt
  rw [h]
  cases e.bufs.getD idx none with
  | none => exact h
  | some b => rfl

/-- **`:w !cmd`** (also `:wq !cmd`, `:x !cmd`): whatever the outcome, no file, no clock tick, no buffer
    renamed, loaded, written or marked saved -/
theorem ecWrite_pipe {ed ed' : Ed} {loc cmd arg : Bytes} {r : Int} (harg : arg.headD 0 = 33)
    (hw : ecWrite ed loc cmd arg = some (r, ed')) : PipeOnly cmd ed ed' := by
  have hne : arg.isEmpty = false := by
    cases arg with
    | nil => exact absurd harg (by decide)
    | cons _ _ => rfl
  obtain ⟨path, ed1, hp, ed2, h2, h⟩ := ecWrite_cases hw
  simp only [hne, Bool.not_false, if_true] at hp
  -- whatever only touches the address registers, the message and `unmodelled` keeps `PipeOnly`
  have hkeep : ∀ {e2 e3 : Ed}, PipeOnly cmd ed e2 → e3.files = e2.files → e3.clock = e2.clock → e3.xquit = e2.xquit →
      e3.bufsCnt = e2.bufsCnt → e3.regs = e2.regs → e3.bufs = e2.bufs → PipeOnly cmd ed e3 := by
    intro e2 e3 h a b c d e f
    refine ⟨a.trans h.files, b.trans h.clock, c.trans h.xquit, d.trans h.bufsCnt, e.trans h.regs, ?_⟩
    rw [f]; exact h.bufs
  have e1 : PipeOnly cmd ed ed1 := by
    obtain ⟨h1, h2⟩ := Lemmas.C06b.pathExpand_cases hp
    cases path with
    | none => rw [h2 rfl]; exact ⟨rfl, rfl, rfl, rfl, rfl, Or.inl rfl⟩
    | some p => rw [h1 rfl]; exact ⟨rfl, rfl, rfl, rfl, rfl, Or.inl rfl⟩
  have e2 : PipeOnly cmd ed ed2 := by
    rcases h2 with rfl | ⟨hx, rfl⟩
    · exact e1
    · obtain ⟨a, b, c, d, e⟩ := modifiedAt_frame ed1 0
      refine ⟨a.trans e1.files, b.trans e1.clock, c.trans e1.xquit, d.trans e1.bufsCnt, e.trans e1.regs, Or.inr ⟨hx, ?_⟩⟩
      exact modifiedAt_bufs_congr (pathExpand_same hp).1 0
  rcases h with rfl | ⟨⟨rc, b0, e0⟩, ed3, hr, h⟩
  · exact e2
  have e3 : PipeOnly cmd ed ed3 := by
    obtain ⟨_, _, _, rfl⟩ := (Lemmas.C06.region_all ed2 loc rc b0 e0 ed3 hr).1
    exact hkeep e2 rfl rfl rfl rfl rfl rfl
  rcases h with rfl | ⟨p, cur, b, e, rfl, hcur, h⟩
  · exact e3
  rcases writeSave_cases hcur h with ⟨_, rfl | ⟨m, rfl⟩⟩ | ⟨h33, _⟩
  · exact e3
  · split <;> exact hkeep e3 rfl rfl rfl rfl rfl rfl
  · exact absurd (pathExpand_bang harg hp) h33

theorem bumped_table_slots (ed : Ed) (idx : Nat) (l : List (Option Buf))
    (h : l = ed.bufs ∨ l = (ed.modifiedAt idx).2.bufs) :
    l.length = ed.bufs.length ∧
    ∀ i, (ed.bufs.getD i none = none → l.getD i none = none) ∧
      ∀ b, ed.bufs.getD i none = some b → ∃ b', l.getD i none = some b' ∧ b'.path = b.path ∧ b'.id = b.id ∧
        b'.mtime = b.mtime ∧ b'.lb.lines = b.lb.lines ∧ (modified b'.lb).1 = (modified b.lb).1 := by
  rcases h with rfl | rfl
  · exact ⟨rfl, fun i => ⟨id, fun b hb => ⟨b, hb, rfl, rfl, rfl, rfl, rfl⟩⟩⟩
  · refine ⟨?_, fun i => ?_⟩
    · exact modifiedAt_cases (P := fun e => e.bufs.length = ed.bufs.length) ed idx rfl fun _ _ => List.length_set
    rw [modifiedAt_getD]
    split
    · exact ⟨fun hn => by rw [hn]; rfl, fun b hb =>
        ⟨{ b with lb := (modified b.lb).2 }, by rw [hb]; rfl, rfl, rfl, rfl, rfl, rfl⟩⟩
    · exact ⟨id, fun b hb => ⟨b, hb, rfl, rfl, rfl, rfl, rfl⟩⟩

theorem pipe_write_saves_nothing (ed ed' : Ed) (loc cmd arg : Bytes) (r : Int) (harg : arg.headD 0 = 33)
    (h : ecWrite ed loc cmd arg = some (r, ed')) :
    ed'.files = ed.files ∧ ed'.clock = ed.clock ∧ ed'.xquit = ed.xquit ∧ ed'.bufsCnt = ed.bufsCnt ∧ ed'.regs = ed.regs ∧
    (cmd.headD 0 ≠ 120 → ed'.bufs = ed.bufs) ∧
    ed'.bufs.length = ed.bufs.length ∧
    ∀ i, (ed.bufs.getD i none = none → ed'.bufs.getD i none = none) ∧
      ∀ b, ed.bufs.getD i none = some b → ∃ b', ed'.bufs.getD i none = some b' ∧ b'.path = b.path ∧ b'.id = b.id ∧
        b'.mtime = b.mtime ∧ b'.lb.lines = b.lb.lines ∧ (modified b'.lb).1 = (modified b.lb).1 := by
  have hp := ecWrite_pipe harg h
  have hb : ed'.bufs = ed.bufs ∨ ed'.bufs = (ed.modifiedAt 0).2.bufs := by
    rcases hp.bufs with h1 | ⟨_, h2⟩
    · exact Or.inl h1
    · exact Or.inr h2
  obtain ⟨hlen, hslots⟩ := bumped_table_slots ed 0 ed'.bufs hb
  refine ⟨hp.files, hp.clock, hp.xquit, hp.bufsCnt, hp.regs, ?_, hlen, hslots⟩
  intro hx
  rcases hp.bufs with h1 | ⟨h120, _⟩
  · exact h1
  · exact absurd h120 hx

/-- an unnamed buffer with unsaved text `x` -/
def edPipe : Ed := { bufs := [some { path := [], lb := unsavedMark { lines := [[120, 10]] } }] ++ List.replicate 15 none }

/-- `:w !cat` in `edPipe`: return code 0, the message, and the buffer still unnamed and still dirty -/
theorem edPipe_obs : (ecWrite edPipe [] [119] [33, 99, 97, 116]).map
      (fun p => (p.1, p.2.msg, p.2.unmodelled, (p.2.bufs.getD 0 none).map (fun b => (b.path, (modified b.lb).1)))) =
    some (0, strOf "\"!cat\"  [=1]  [w]\n", false, some ([], true)) := by
  decide +kernel

end Neatvi.Lemmas.C02d
