import NeatviVerif.Lemmas.C02dCmd
import NeatviVerif.Lemmas.ExRel
/-!
# C02d lemmas, part 5: a quit without `!` leaves nothing unsaved behind

The loop of `ec_quit` (`runCmd.each`) over the buffer table, without `!`:
* `:q`, `:wq`, `:x`: `bufs_modified(i)` must answer "no" for every slot: the buffer is clean, or `autowrite`
  wrote it successfully just now;
* `:xa`: every buffer is written (`lbuf_save`, not forced).
A buffer written in the loop is not overwritten later in the same loop: a later unforced save to the same
path carries an older time stamp and is refused.
-/
namespace Neatvi.Lemmas.C02d
open Neatvi Neatvi.Lbuf Neatvi.LbufIo Neatvi.Ex Neatvi.Props Neatvi.Lemmas.C02b Neatvi.Lemmas.C02Ex

/-- what the clean flag is worth: the buffer reports clean, and if it has a name and its file still carries
    the time stamp the buffer recorded, the file (if there is one) holds the buffer's text -/
def CleanSync (ed : Ed) (b : Buf) : Prop :=
  (modified b.lb).1 = false ∧
  (b.path ≠ [] → ed.mtimeOf b.path = b.mtime → ∀ fl, ed.findFile b.path = some fl → FileIs fl.data b.lb.lines)

/-- the file of the buffer holds its text byte for byte -/
def Held (ed : Ed) (b : Buf) : Prop := ∃ fl, ed.findFile b.path = some fl ∧ fl.data = b.lb.lines.flatten

/-- nothing of this buffer is unsaved -/
def SavedAt (ed : Ed) (b : Buf) : Prop := CleanSync ed b ∨ Held ed b

/-- **clean means the file is the text**, for any buffer of a table satisfying the invariant -/
theorem cleanSync_of_inv {ed : Ed} (h : Inv ed) {b : Buf} (hb : some b ∈ ed.bufs) (hc : (modified b.lb).1 = false) :
    CleanSync ed b := by
  obtain ⟨_, d, hr, ha⟩ := h.mem hb
  have hd := hr.inv.clean_text hc
  exact ⟨hc, fun hne hm fl hfl => ha _ hd hne hm fl hfl⟩

theorem dirty_while_file_differs (ed : Ed) (hi : Inv ed) (i : Nat) (b : Buf) (hb : ed.bufs.getD i none = some b)
    (hne : b.path ≠ []) (hfresh : ed.mtimeOf b.path = b.mtime) (fl : File) (hfl : ed.findFile b.path = some fl)
    (hdiff : ¬ FileIs fl.data b.lb.lines) : (modified b.lb).1 = true := by
  cases hm : (modified b.lb).1 with
  | true => rfl
  | false => exact absurd ((cleanSync_of_inv hi (C20.mem_of_getD _ _ _ hb).1 hm).2 hne hfresh fl hfl) hdiff

/-- held, and the file is newer than every time stamp recorded in the table -/
def HeldS (ed : Ed) (b : Buf) : Prop :=
  ∃ fl, ed.findFile b.path = some fl ∧ fl.data = b.lb.lines.flatten ∧ ∀ b', some b' ∈ ed.bufs → b'.mtime < fl.mtime

def Done (ed : Ed) (b : Buf) : Prop := (modified b.lb).1 = false ∨ HeldS ed b

theorem done_savedAt {ed : Ed} (h : Inv ed) {b : Buf} (hb : some b ∈ ed.bufs) (hd : Done ed b) : SavedAt ed b := by
  rcases hd with hc | ⟨fl, h1, h2, _⟩
  · exact Or.inl (cleanSync_of_inv h hb hc)
  · exact Or.inr ⟨fl, h1, h2⟩

theorem lbufSave_ok_guards {ed ed' : Ed} {lb : Lb} {b : Nat} {e : Int} {path : Bytes} {force : Bool} {ts : Int}
    (h : lbufSave ed lb b e path force ts = some (none, ed')) :
    C03.GuardsPass ed path force ts ∧ ed.nextFault.1 ≠ 101 :=
  C03.lbufSave_elim (P := fun r _ => r = none → C03.GuardsPass ed path force ts ∧ ed.nextFault.1 ≠ 101) h
    (fun _ _ hr => by cases hr) (fun _ _ hr => by cases hr) (fun hg ho _ _ _ => ⟨hg, ho⟩) rfl

theorem lbufSave_ok_whole {ed ed' : Ed} {lb : Lb} {path : Bytes} {force : Bool} {ts : Int}
    (h : lbufSave ed lb 0 (-1) path force ts = some (none, ed')) :
    ∃ fl, ed'.findFile path = some fl ∧ fl.data = lb.lines.flatten ∧ ed.clock < fl.mtime := by
  obtain ⟨fl, hfl, hd⟩ := lbufSave_whole ed ed' lb path force ts (-1) (Or.inl (by decide)) h
  obtain ⟨hg, ho⟩ := lbufSave_ok_guards h
  have hm := C03.mtime_advanced ed ed' lb 0 (-1) path force ts hg ho _ h
  refine ⟨fl, hfl, hd, ?_⟩
  have : ed'.mtimeOf path = fl.mtime := mtimeF_some hfl
  omega

theorem save_step {ed ed1 : Ed} {b : Buf} (hi : Inv ed) (hb : some b ∈ ed.bufs)
    (hs : lbufSave ed b.lb 0 (-1) b.path false b.mtime = some (none, ed1)) :
    Inv ed1 ∧ HeldS ed1 b ∧ ∀ b0, HeldS ed b0 → HeldS ed1 b0 := by
  have he := lbufSave_eff _ _ _ _ _ _ _ _ _ hs
  obtain ⟨fl, hfl, hd, hgt⟩ := lbufSave_ok_whole hs
  refine ⟨inv_save hi he, ⟨fl, hfl, hd, ?_⟩, ?_⟩
  · intro b' hb'
    rw [he.bufs] at hb'
    have := (hi.mem hb').1
    omega
  · intro b0 ⟨fl0, hf0, hd0, hlt0⟩
    by_cases hp : b0.path = b.path
    · exfalso
      have hm : ed.mtimeOf b.path > b.mtime := by
        have h1 : ed.mtimeOf b.path = fl0.mtime := by rw [← hp]; exact mtimeF_some hf0
        have := hlt0 b hb
        omega
      obtain ⟨_, hr⟩ := lbufSave_stale ed ed1 b.lb 0 (-1) b.path b.mtime none hm hs
      cases hr
    · refine ⟨fl0, by rw [he.other b0.path hp]; exact hf0, hd0, ?_⟩
      intro b' hb'
      rw [he.bufs] at hb'
      exact hlt0 b' hb'

theorem bufsModified_pass {ed ed1 : Ed} {idx : Nat} {msg : Option Bytes} {b : Buf}
    (hb : ed.bufs.getD idx none = some b) (h : bufsModified ed idx msg = some (false, ed1)) :
    ((modified b.lb).1 = false ∧ ed1 = bumpAt ed idx b) ∨
    ((modified b.lb).1 = true ∧
      lbufSave (bumpAt ed idx b) (modified b.lb).2 0 (-1) b.path false b.mtime = some (none, ed1)) := by
  rw [bufsModified_eq ed idx msg b hb] at h
  by_cases hm : (modified b.lb).1 = false
  · rw [if_pos hm] at h; cases h; exact .inl ⟨hm, rfl⟩
  · rw [if_neg hm] at h
    refine .inr ⟨by simpa using hm, ?_⟩
    split at h
    · cases hs : lbufSave (bumpAt ed idx b) (modified b.lb).2 0 (-1) b.path false b.mtime with
      | none => rw [hs] at h; cases h
      | some p =>
        obtain ⟨err, ed2⟩ := p
        rw [hs] at h
        simp only [Option.map_some, Option.some.injEq, Prod.mk.injEq] at h
        obtain ⟨h1, rfl⟩ := h
        cases err with
        | some x => simp at h1
        | none => rfl
    · cases h

theorem done_bumpAt {ed : Ed} {i : Nat} {bi : Buf} (hi : ed.bufs.getD i none = some bi) {b : Buf} (h : Done ed b) :
    Done (bumpAt ed i bi) b := by
  rcases h with h | ⟨fl, h1, h2, h3⟩
  · exact Or.inl h
  · refine Or.inr ⟨fl, h1, h2, ?_⟩
    intro b' hb'
    simp only [bumpAt] at hb'
    rcases List.mem_or_eq_of_mem_set hb' with hm | he
    · exact h3 b' hm
    · cases he
      exact h3 bi (C20.mem_of_getD _ _ _ hi).1

theorem inv_bumpAt {ed : Ed} {i : Nat} {bi : Buf} (h : Inv ed) (hi : ed.bufs.getD i none = some bi) :
    Inv (bumpAt ed i bi) := core_set h i (h.at hi).bump

/-- the loop invariant: the invariant of the table, and every slot below `i` is done -/
def LI (ed : Ed) (i : Nat) : Prop :=
  Inv ed ∧ ∀ j b, j < i → ed.bufs.getD j none = some b → Done ed b

theorem li_all {ed : Ed} {i : Nat} (h : LI ed i) (hlen : ed.bufs.length ≤ i) :
    Inv ed ∧ ∀ j b, ed.bufs.getD j none = some b → Done ed b := by
  refine ⟨h.1, fun j b hb => h.2 j b ?_ hb⟩
  have := (getD_some hb).1
  omega

theorem li_step {ed2 ed1 : Ed} {i : Nat} {b2 : Buf} (hinv2 : Inv ed2) (hslot : ed2.bufs.getD i none = some b2)
    (hlow : ∀ j b0, j < i → ed2.bufs.getD j none = some b0 → Done ed2 b0)
    (hcase : ((modified b2.lb).1 = false ∧ ed1 = ed2) ∨
      (lbufSave ed2 b2.lb 0 (-1) b2.path false b2.mtime = some (none, ed1))) :
    LI ed1 (i + 1) ∧ ed1.bufs.length = ed2.bufs.length := by
  rcases hcase with ⟨hc, rfl⟩ | hs
  · refine ⟨⟨hinv2, ?_⟩, rfl⟩
    intro j b0 hj hb0
    by_cases hji : j = i
    · subst hji
      rw [hslot] at hb0
      cases hb0
      exact Or.inl hc
    · exact hlow j b0 (by omega) hb0
  · have hmem : some b2 ∈ ed2.bufs := (C20.mem_of_getD _ _ _ hslot).1
    obtain ⟨hinv3, hheld, hkeep⟩ := save_step hinv2 hmem hs
    have hbufs : ed1.bufs = ed2.bufs := (lbufSave_eff _ _ _ _ _ _ _ _ _ hs).bufs
    refine ⟨⟨hinv3, ?_⟩, by rw [hbufs]⟩
    intro j b0 hj hb0
    rw [hbufs] at hb0
    by_cases hji : j = i
    · subst hji
      rw [hslot] at hb0
      cases hb0
      exact Or.inr hheld
    · rcases hlow j b0 (by omega) hb0 with hc | hh
      · exact Or.inl hc
      · exact Or.inr (hkeep b0 hh)

theorem li_bump {ed : Ed} {i : Nat} {b : Buf} (h : LI ed i) (hb : ed.bufs.getD i none = some b) :
    Inv (bumpAt ed i b) ∧ (bumpAt ed i b).bufs.getD i none = some { b with lb := (modified b.lb).2 } ∧
    (∀ j b0, j < i → (bumpAt ed i b).bufs.getD j none = some b0 → Done (bumpAt ed i b) b0) ∧
    (bumpAt ed i b).bufs.length = ed.bufs.length := by
  obtain ⟨hlt, _⟩ := getD_some hb
  refine ⟨inv_bumpAt h.1 hb, getD_set_self _ _ _ hlt, ?_, by simp [bumpAt]⟩
  intro j b0 hj hb0
  simp only [bumpAt] at hb0
  rw [getD_set_ne _ _ _ _ (by omega : i ≠ j)] at hb0
  exact done_bumpAt hb (h.2 j b0 hj hb0)

/-- **the loop of `ec_quit` without `!`**: if it runs through (answers "quit"), every slot is done -/
theorem each_done (cmd : Bytes) (hbang : hasBang cmd = false) (all : Bool) : ∀ (g i : Nat) (ed ed' : Ed),
    LI ed i → ed.bufs.length < i + g → runCmd.each cmd all g i ed = some (false, ed') →
    Inv ed' ∧ ∀ j b, ed'.bufs.getD j none = some b → Done ed' b := by
  intro g
  induction g with
  | zero =>
    intro i ed ed' hli hlen h
    rw [runCmd.each.eq_1] at h
    cases h
    exact li_all hli (by omega)
  | succ g ih =>
    intro i ed ed' hli hlen h
    rw [runCmd.each.eq_2] at h
    split at h
    · rename_i hge
      cases h
      exact li_all hli hge
    · split at h
      · rename_i hnone
        refine ih (i + 1) ed ed' ⟨hli.1, ?_⟩ (by omega) h
        intro j b hj hb
        by_cases hji : j = i
        · subst hji; rw [hnone] at hb; cases hb
        · exact hli.2 j b (by omega) hb
      · rename_i b hb
        simp only [] at h
        cases all with
        | false =>
          simp only [hbang, Bool.not_false, Bool.and_self, if_true, Bool.false_eq_true, if_false] at h
          split at h
          · cases h
          · cases h
          · rename_i ed1 hchk
            have hcase := bufsModified_pass hb hchk
            obtain ⟨hinv2, hslot, hlow, hl2⟩ := li_bump hli hb
            obtain ⟨hli1, hl1⟩ := li_step (ed1 := ed1) hinv2 hslot hlow (by
              rcases hcase with ⟨hc, he⟩ | ⟨_, hs⟩
              · exact Or.inl ⟨(modified_bump_fst b.lb).trans hc, he⟩
              · exact Or.inr hs)
            exact ih (i + 1) ed1 ed' hli1 (by omega) h
        | true =>
          simp only [Bool.not_true, Bool.false_and, Bool.false_eq_true, if_false, if_true] at h
          rw [hb] at h
          simp only [hbang] at h
          split at h
          · cases h
          · cases h
          · rename_i ed1 hs
            obtain ⟨_, hs'⟩ := lbufSaveP_ok _ _ _ _ _ _ _ _ hs
            obtain ⟨hli1, hl1⟩ := li_step (ed1 := ed1) hli.1 hb (fun j b0 hj hb0 => hli.2 j b0 hj hb0) (Or.inr hs')
            exact ih (i + 1) ed1 ed' hli1 (by omega) h

/-! ### the quit flag is set by `ec_quit` alone -/

theorem modifiedAt_xquit (ed : Ed) (idx : Nat) : (ed.modifiedAt idx).2.xquit = ed.xquit := by
  rw [modifiedAt_fields]

theorem xquit_rel : Lemmas.ExRel.ExRel (fun a b : Ed => b.xquit = a.xquit) where
  trans h1 h2 := h2.trans h1
  ofCore h := congrArg (·.xquit) h
  io h := by obtain ⟨_, _, _, _, rfl⟩ := h; rfl
  cur _ _ _ _ _ _ := rfl

theorem each_xquit (cmd : Bytes) (all : Bool) : ∀ (g i : Nat) (ed ed' : Ed) (r : Bool),
    runCmd.each cmd all g i ed = some (r, ed') → ed'.xquit = ed.xquit :=
  Lemmas.C02b.each_rel (Rel := fun ed ed' => ed'.xquit = ed.xquit) (fun _ => rfl) (fun h1 h2 => h2.trans h1)
    (fun hm => xquit_rel.bufsModified (fun ed => modifiedAt_xquit ed _) hm) (fun _ _ _ => Props.C20.switch_xquit _ _)
    (fun _ hs => xquit_rel.io (lbufSaveP_io hs)) (fun _ _ => rfl) cmd all

theorem pathExpand_xquit {ed ed' : Ed} {src : Bytes} {sp : Bool} {r : Option Bytes}
    (h : pathExpand ed src sp = some (r, ed')) : ed'.xquit = ed.xquit :=
  congrArg (·.xquit) (Lemmas.ExStep.pathExpand_core h)

theorem ecWrite_xquit {ed ed' : Ed} {loc cmd arg : Bytes} {r : Int}
    (hw : ecWrite ed loc cmd arg = some (r, ed')) : ed'.xquit = ed.xquit :=
  xquit_rel.ofLStep (.ecWrite hw)

end Neatvi.Lemmas.C02d
