import NeatviVerif.Lemmas.C02dScript
/-!
# C02d lemmas, part 7: the final `q` of a script (what the bump after `ec_quit` keeps, `q` on a table of
clean buffers); the concrete sessions that refute the stronger statements
-/
namespace Neatvi.Lemmas.C02d
open Neatvi Neatvi.Lbuf Neatvi.LbufIo Neatvi.Ex Neatvi.Props Neatvi.Lemmas.C02b Neatvi.Lemmas.C02Ex Neatvi.Lemmas.C02c

/-- clean, or held by the file byte for byte -/
def Settled (ed : Ed) (b : Buf) : Prop := (modified b.lb).1 = false ∨ Held ed b

theorem SavedAt.settled {ed : Ed} {b : Buf} (h : SavedAt ed b) : Settled ed b := by
  rcases h with h | h
  · exact Or.inl h.1
  · exact Or.inr h

theorem settled_savedAt {ed : Ed} (hi : Inv ed) {b : Buf} (hb : some b ∈ ed.bufs) (h : Settled ed b) : SavedAt ed b := by
  rcases h with h | h
  · exact Or.inl (cleanSync_of_inv hi hb h)
  · exact Or.inr h

theorem modifiedAt_files (ed : Ed) (idx : Nat) : (ed.modifiedAt idx).2.files = ed.files := by
  rw [modifiedAt_fields]

theorem modifiedAt_slot (ed : Ed) (idx j : Nat) (b : Buf) (h : (ed.modifiedAt idx).2.bufs.getD j none = some b) :
    ∃ b0, ed.bufs.getD j none = some b0 ∧ b.path = b0.path ∧ b.mtime = b0.mtime ∧ b.lb.lines = b0.lb.lines ∧
      (modified b.lb).1 = (modified b0.lb).1 := by
  rw [modifiedAt_getD] at h
  split at h
  · obtain ⟨b0, h0, rfl⟩ := Option.map_eq_some_iff.1 h
    exact ⟨b0, h0, rfl, rfl, rfl, rfl⟩
  · exact ⟨b, h, rfl, rfl, rfl, rfl⟩

theorem hasBang_quitWords {ln : Bytes} (h : ln ∈ quitWords) : hasBang ln = false := by
  simp only [quitWords, List.mem_cons, List.not_mem_nil, or_false] at h
  rcases h with rfl | rfl | rfl | rfl <;> decide

def allClean (ed : Ed) : Bool :=
  ed.bufs.all (fun o => match o with | some b => !(modified b.lb).1 | none => true)

theorem allClean_spec {ed : Ed} (h : allClean ed = true) :
    ∀ j b, ed.bufs.getD j none = some b → (modified b.lb).1 = false := by
  intro j b hb
  unfold allClean at h
  rw [List.all_eq_true] at h
  have := h (some b) (C20.mem_of_getD _ _ _ hb).1
  simpa using this

theorem modifiedAt_keys (ed : Ed) (idx : Nat) : (ed.modifiedAt idx).2.bufs.map bufKey = ed.bufs.map bufKey :=
  modifiedAt_cases (P := fun e => e.bufs.map bufKey = ed.bufs.map bufKey) ed idx rfl fun b hi => map_key_set _ _ b _ hi rfl

theorem q_quits_when_all_clean (ed : Ed) (rest : List Bytes) (hin : ed.input = [113] :: rest)
    (hcl : allClean ed = true) :
    ∃ ed', exStep ed = some (0, ed') ∧ ed'.xquit = true ∧ ed'.files = ed.files ∧
      (ed'.bufs.map bufKey).Perm (ed.bufs.map bufKey) := by
  obtain ⟨e1, hr, hk⟩ := C02.Ex.quit_allowed_when_clean (FUEL - 3)
    { ed with input := rest, out := [], msg := [], calls := 0, fired := 0 } [] [113] [] none
    (by decide) (by decide) (by decide) (by decide) (allClean_spec hcl)
  refine ⟨_, (exStep_quitWord hin (by decide)).trans (congrArg _ hr), ?_, ?_, ?_⟩
  · show (Ed.modifiedAt _ 0).2.xquit = true
    rw [modifiedAt_xquit]
  · show (Ed.modifiedAt _ 0).2.files = ed.files
    rw [modifiedAt_files]
    exact hk.files
  · show ((Ed.modifiedAt _ 0).2.bufs.map bufKey).Perm _
    rw [modifiedAt_keys]
    exact hk.bufs

/-! ### three sessions

All start from the default editor state (no files on disk, clock 1000) and use only single-command lines
the partial evaluator `stepS` runs. -/

instance : DecidableEq (Option (Bytes × List Bytes × Bool × Int)) := inferInstance
instance : DecidableEq (List (Option (Bytes × List Bytes × Bool × Int))) := inferInstance

/-- what the witnesses look at: (path, text, dirty, time stamp) of the first three slots -/
def obsB (ed : Ed) : List (Option (Bytes × List Bytes × Bool × Int)) :=
  (ed.bufs.take 3).map (·.map (fun b => (b.path, b.lb.lines, (modified b.lb).1, b.mtime)))
/-- … and (path, bytes, time stamp) of the files -/
def obsF (ed : Ed) : List (Bytes × Bytes × Int) := ed.files.map (fun f => (f.path, f.data, f.mtime))

/-- session 1, no `!` anywhere: `vi` (no file); `:e p` (a new file); `:b #` (back to the unnamed buffer);
    `:a` / `x` / `.`; `:w p` — the unnamed buffer is written to `p` and takes that name -/
def script1 : List Bytes := [[101, 32, 112], [98, 32, 35], [97], [120], [46], [119, 32, 112]]

/-- session 2: `vi p` (a new file); `:a` / `x` / `.`; `:w`; `:e r`; `:w! p` (the empty buffer `r` written over
    `p`); then `q` is next in the queue -/
def script2 : List Bytes := [[97], [120], [46], [119], [101, 32, 114], [119, 33, 32, 112], [113]]

/-- session 3: `vi p` (a new file); `:a` / `x` / `.`; `:e!` (re-read the file — there is none); then `q` -/
def script3 : List Bytes := [[97], [120], [46], [101, 33], [113]]

theorem session1_obs : (sessionS { input := script1 } [] 4).map
      (fun ed => decide (obsB ed = [some ([112], [[120, 10]], false, 1002), some ([112], [], false, -1), none] ∧
        obsF ed = [([112], [120, 10], 1002)])) = some true := by
  decide +kernel

theorem session2_obs : (sessionS { input := script2 } [[112]] 4).map
      (fun ed => decide (obsB ed = [some ([114], [], false, -1), some ([112], [[120, 10]], false, 1002), none] ∧
        obsF ed = [([112], [], 1003)] ∧ ed.input = [[113]] ∧ allClean ed = true ∧ ed.xquit = false)) = some true := by
  decide +kernel

theorem session3_obs : (sessionS { input := script3 } [[112]] 2).map
      (fun ed => decide (obsB ed = [some ([112], [[120, 10]], false, -1), none, none] ∧
        obsF ed = [] ∧ ed.input = [[113]] ∧ allClean ed = true ∧ ed.xquit = false)) = some true := by
  decide +kernel

theorem obsB_slot {ed : Ed} {L : List (Option (Bytes × List Bytes × Bool × Int))} (h : obsB ed = L) (i : Nat) (hi : i < 3)
    {p : Bytes} {t : List Bytes} {d : Bool} {m : Int} (hL : L[i]? = some (some (p, t, d, m))) :
    ∃ b, ed.bufs.getD i none = some b ∧ b.path = p ∧ b.lb.lines = t ∧ (modified b.lb).1 = d ∧ b.mtime = m := by
  subst h
  unfold obsB at hL
  rw [List.getElem?_map, List.getElem?_take_of_lt hi] at hL
  cases hx : ed.bufs[i]? with
  | none => rw [hx] at hL; cases hL
  | some o =>
    rw [hx] at hL
    cases o with
    | none => simp at hL
    | some b =>
      simp only [Option.map_some, Option.some.injEq, Prod.mk.injEq] at hL
      refine ⟨b, ?_, hL.1, hL.2.1, hL.2.2.1, hL.2.2.2⟩
      rw [List.getD_eq_getElem?_getD, hx]; rfl

theorem obsF_single {ed : Ed} {p d : Bytes} {m : Int} (h : obsF ed = [(p, d, m)]) :
    ∃ fl, ed.findFile p = some fl ∧ fl.data = d ∧ fl.mtime = m ∧ ed.files = [fl] := by
  unfold obsF at h
  cases hf : ed.files with
  | nil => rw [hf] at h; cases h
  | cons fl r =>
    rw [hf] at h
    simp only [List.map_cons, List.cons.injEq, Prod.mk.injEq, List.map_eq_nil_iff] at h
    obtain ⟨⟨h1, h2, h3⟩, h4⟩ := h
    subst h4
    refine ⟨fl, ?_, h2, h3, rfl⟩
    unfold Ed.findFile
    rw [hf]
    simp [h1]

theorem obsF_nil {ed : Ed} (h : obsF ed = []) (p : Bytes) : ed.findFile p = none := by
  unfold obsF at h
  have : ed.files = [] := by simpa using h
  unfold Ed.findFile
  rw [this]; rfl

theorem fsOk_default : FsOk ([] : List File) 1000 := ⟨by decide, fun f hf => by cases hf⟩

/-- **session 1** (no `!`): a reachable state in which slot 1 holds a buffer named `p` that reports clean
    and has the empty text, while the file `p` exists and holds `x\n` — the unnamed buffer was written
    to `p` (which did not exist, so no guard objected) and took that name.  The buffer in slot 1 recorded
    the time stamp -1, the file carries 1002. -/
theorem session1 :
    ∃ rc ed1 ed b fl, exInit { input := script1 } [] = some (rc, ed1) ∧ C02.Ex.exRun 4 ed1 = some ed ∧
      ed.bufs.getD 1 none = some b ∧ b.path = [112] ∧ b.lb.lines = [] ∧ (modified b.lb).1 = false ∧ b.mtime = -1 ∧
      ed.findFile [112] = some fl ∧ fl.data = [120, 10] ∧ fl.mtime = 1002 := by
  obtain ⟨rc, ed1, ed, h1, h2, hP⟩ := sessionS_obs _ _ _ _ session1_obs
  simp only [decide_eq_true_eq] at hP
  obtain ⟨hB, hF⟩ := hP
  obtain ⟨b, hb, hp, hl, hd, hm⟩ := obsB_slot hB 1 (by decide) (p := [112]) (t := []) (d := false) (m := -1) rfl
  obtain ⟨fl, hfl, hdat, hmt, _⟩ := obsF_single hF
  exact ⟨rc, ed1, ed, b, fl, h1, h2, hb, hp, hl, hd, hm, hfl, hdat, hmt⟩

/-- **session 2** (`:w! p` from another buffer): a reachable state, `q` next in the queue, the quit flag not
    set, in which slot 1 holds the buffer `p`, clean, with the text `x\n` it was written with (time stamp
    1002), while the file `p` is empty (time stamp 1003): the forced write of the empty buffer `r` went over
    it.  The line `q` then quits: all buffers report clean. -/
theorem session2 :
    ∃ rc ed1 ed b fl ed', exInit { input := script2 } [[112]] = some (rc, ed1) ∧ C02.Ex.exRun 4 ed1 = some ed ∧
      ed.xquit = false ∧ ed.input = [[113]] ∧
      ed.bufs.getD 1 none = some b ∧ b.path = [112] ∧ b.lb.lines = [[120, 10]] ∧ (modified b.lb).1 = false ∧
      b.mtime = 1002 ∧ ed.findFile [112] = some fl ∧ fl.data = [] ∧ fl.mtime = 1003 ∧
      exStep ed = some (0, ed') ∧ ed'.xquit = true ∧ ed'.files = ed.files ∧
      (ed'.bufs.map bufKey).Perm (ed.bufs.map bufKey) := by
  obtain ⟨rc, ed1, ed, h1, h2, hP⟩ := sessionS_obs _ _ _ _ session2_obs
  simp only [decide_eq_true_eq] at hP
  obtain ⟨hB, hF, hin, hcl, hq⟩ := hP
  obtain ⟨b, hb, hp, hl, hd, hm⟩ := obsB_slot hB 1 (by decide) (p := [112]) (t := [[120, 10]]) (d := false) (m := 1002) rfl
  obtain ⟨fl, hfl, hdat, hmt, _⟩ := obsF_single hF
  obtain ⟨ed', hs, hq', hf', hperm⟩ := q_quits_when_all_clean ed [] hin hcl
  exact ⟨rc, ed1, ed, b, fl, ed', h1, h2, hq, hin, hb, hp, hl, hd, hm, hfl, hdat, hmt, hs, hq', hf', hperm⟩

/-- **session 3** (`:e!` on a buffer whose file does not exist): a reachable state, `q` next in the queue,
    in which the current buffer `p` reports clean with the text `x\n`, recorded time stamp -1, and there is
    no file at all.  The line `q` then quits. -/
theorem session3 :
    ∃ rc ed1 ed b ed', exInit { input := script3 } [[112]] = some (rc, ed1) ∧ C02.Ex.exRun 2 ed1 = some ed ∧
      ed.xquit = false ∧ ed.input = [[113]] ∧
      ed.bufs.getD 0 none = some b ∧ b.path = [112] ∧ b.lb.lines = [[120, 10]] ∧ (modified b.lb).1 = false ∧
      b.mtime = -1 ∧ ed.mtimeOf [112] = -1 ∧ ed.files = [] ∧
      exStep ed = some (0, ed') ∧ ed'.xquit = true ∧ ed'.files = [] := by
  obtain ⟨rc, ed1, ed, h1, h2, hP⟩ := sessionS_obs _ _ _ _ session3_obs
  simp only [decide_eq_true_eq] at hP
  obtain ⟨hB, hF, hin, hcl, hq⟩ := hP
  obtain ⟨b, hb, hp, hl, hd, hm⟩ := obsB_slot hB 0 (by decide) (p := [112]) (t := [[120, 10]]) (d := false) (m := -1) rfl
  have hfiles : ed.files = [] := by unfold obsF at hF; simpa using hF
  have hmt : ed.mtimeOf [112] = -1 := by unfold Ed.mtimeOf; rw [obsF_nil hF]
  obtain ⟨ed', hs, hq', hf', _⟩ := q_quits_when_all_clean ed [] hin hcl
  exact ⟨rc, ed1, ed, b, ed', h1, h2, hq, hin, hb, hp, hl, hd, hm, hmt, hfiles, hs, hq', by rw [hf', hfiles]⟩

/-! ### sessions in which the invariant has something to say -/

/-- session 4: `vi p` (a new file); `:a` / `x` / `.`; `:w`; then `q` -/
def script4 : List Bytes := [[97], [120], [46], [119], [113]]

theorem session4_obs : (sessionS { input := script4 } [[112]] 2).map
      (fun ed => decide (obsB ed = [some ([112], [[120, 10]], false, 1002), none, none] ∧
        obsF ed = [([112], [120, 10], 1002)] ∧ ed.input = [[113]] ∧ allClean ed = true ∧ ed.xquit = false)) = some true := by
  decide +kernel

/-- session 5: the file `p` exists and holds `abc` without a final newline; `vi p`; then `q` -/
def ed5 : Ed := { files := [⟨[112], [97, 98, 99], 5⟩], input := [[113]] }

theorem session5_obs : (sessionS ed5 [[112]] 0).map
      (fun ed => decide (obsB ed = [some ([112], [[97, 98, 99, 10]], false, 5), none, none] ∧
        obsF ed = [([112], [97, 98, 99], 5)] ∧ ed.input = [[113]] ∧ allClean ed = true ∧ ed.xquit = false)) = some true := by
  decide +kernel

theorem fsOk_ed5 : FsOk ed5.files ed5.clock :=
  ⟨by decide, fun f hf => by
    have : f = ⟨[112], [97, 98, 99], 5⟩ := List.mem_singleton.1 hf
    subst this
    exact ⟨by decide, by decide⟩⟩

/-- **session 4**: after `:w` the buffer `p` is clean, its recorded time stamp is the file's, and the file
    holds `x\n` -/
theorem session4 :
    ∃ rc ed1 ed b fl, exInit { input := script4 } [[112]] = some (rc, ed1) ∧ C02.Ex.exRun 2 ed1 = some ed ∧
      ed.xquit = false ∧ ed.input = [[113]] ∧ allClean ed = true ∧
      ed.bufs.getD 0 none = some b ∧ b.path = [112] ∧ b.lb.lines = [[120, 10]] ∧ (modified b.lb).1 = false ∧
      ed.mtimeOf b.path = b.mtime ∧ ed.findFile b.path = some fl ∧ fl.data = [120, 10] := by
  obtain ⟨rc, ed1, ed, h1, h2, hP⟩ := sessionS_obs _ _ _ _ session4_obs
  simp only [decide_eq_true_eq] at hP
  obtain ⟨hB, hF, hin, hcl, hq⟩ := hP
  obtain ⟨b, hb, hp, hl, hd, hm⟩ := obsB_slot hB 0 (by decide) (p := [112]) (t := [[120, 10]]) (d := false) (m := 1002) rfl
  obtain ⟨fl, hfl, hdat, hmt, _⟩ := obsF_single hF
  refine ⟨rc, ed1, ed, b, fl, h1, h2, hq, hin, hcl, hb, hp, hl, hd, ?_, by rw [hp]; exact hfl, hdat⟩
  rw [hp, hm, mtimeOf_eq, mtimeF_some hfl, hmt]

/-- **session 5**: a file without a final newline, loaded: the buffer is clean with the text `abc\n` -/
theorem session5 :
    ∃ rc ed1 ed b fl, exInit ed5 [[112]] = some (rc, ed1) ∧ C02.Ex.exRun 0 ed1 = some ed ∧
      ed.bufs.getD 0 none = some b ∧ b.path = [112] ∧ b.lb.lines = [[97, 98, 99, 10]] ∧ (modified b.lb).1 = false ∧
      ed.mtimeOf b.path = b.mtime ∧ ed.findFile b.path = some fl ∧ fl.data = [97, 98, 99] := by
  obtain ⟨rc, ed1, ed, h1, h2, hP⟩ := sessionS_obs _ _ _ _ session5_obs
  simp only [decide_eq_true_eq] at hP
  obtain ⟨hB, hF, hin, hcl, hq⟩ := hP
  obtain ⟨b, hb, hp, hl, hd, hm⟩ := obsB_slot hB 0 (by decide) (p := [112]) (t := [[97, 98, 99, 10]]) (d := false) (m := 5) rfl
  obtain ⟨fl, hfl, hdat, hmt, _⟩ := obsF_single hF
  refine ⟨rc, ed1, ed, b, fl, h1, h2, hb, hp, hl, hd, ?_, by rw [hp]; exact hfl, hdat⟩
  rw [hp, hm, mtimeOf_eq, mtimeF_some hfl, hmt]

/-- session 6: `vi p` (a new file); `:a` / `x` / `.`; `:w`; `:a` / `y` / `.` -/
def script6 : List Bytes := [[97], [120], [46], [119], [97], [121], [46]]

theorem session6_obs : (sessionS { input := script6 } [[112]] 3).map
      (fun ed => decide (obsB ed = [some ([112], [[120, 10], [121, 10]], true, 1002), none, none] ∧
        obsF ed = [([112], [120, 10], 1002)])) = some true := by
  decide +kernel

/-- **session 6**: text and file differ, the buffer is fresh, and the flag says dirty -/
theorem session6 :
    ∃ rc ed1 ed b fl, exInit { input := script6 } [[112]] = some (rc, ed1) ∧ C02.Ex.exRun 3 ed1 = some ed ∧
      ed.bufs.getD 0 none = some b ∧ b.path = [112] ∧ b.lb.lines = [[120, 10], [121, 10]] ∧ (modified b.lb).1 = true ∧
      ed.mtimeOf b.path = b.mtime ∧ ed.findFile b.path = some fl ∧ fl.data = [120, 10] := by
  obtain ⟨rc, ed1, ed, h1, h2, hP⟩ := sessionS_obs _ _ _ _ session6_obs
  simp only [decide_eq_true_eq] at hP
  obtain ⟨hB, hF⟩ := hP
  obtain ⟨b, hb, hp, hl, hd, hm⟩ := obsB_slot hB 0 (by decide) (p := [112]) (t := [[120, 10], [121, 10]]) (d := true)
    (m := 1002) rfl
  obtain ⟨fl, hfl, hdat, hmt, _⟩ := obsF_single hF
  refine ⟨rc, ed1, ed, b, fl, h1, h2, hb, hp, hl, hd, ?_, by rw [hp]; exact hfl, hdat⟩
  rw [hp, hm, mtimeOf_eq, mtimeF_some hfl, hmt]

/-- session 7: the file `p` carries a stamp (1001) beyond the clock (1000); `vi p`; `:e r`; `:w! p` -/
def ed7 : Ed := { files := [⟨[112], [97, 10], 1001⟩], input := [[101, 32, 114], [119, 33, 32, 112]] }

theorem session7_obs : (sessionS ed7 [[112]] 2).map
      (fun ed => decide (obsB ed = [some ([114], [], false, -1), some ([112], [[97, 10]], false, 1001), none] ∧
        obsF ed = [([112], [], 1001)])) = some true := by
  decide +kernel

/-- **session 7**: the forced write of the empty buffer `r` stamps `p` with 1001 again — the stamp buffer `p`
    recorded when it loaded the file -/
theorem session7 :
    ∃ rc ed1 ed b fl, exInit ed7 [[112]] = some (rc, ed1) ∧ C02.Ex.exRun 2 ed1 = some ed ∧
      ed.bufs.getD 1 none = some b ∧ b.path = [112] ∧ b.lb.lines = [[97, 10]] ∧ (modified b.lb).1 = false ∧
      ed.mtimeOf b.path = b.mtime ∧ ed.findFile b.path = some fl ∧ fl.data = [] := by
  obtain ⟨rc, ed1, ed, h1, h2, hP⟩ := sessionS_obs _ _ _ _ session7_obs
  simp only [decide_eq_true_eq] at hP
  obtain ⟨hB, hF⟩ := hP
  obtain ⟨b, hb, hp, hl, hd, hm⟩ := obsB_slot hB 1 (by decide) (p := [112]) (t := [[97, 10]]) (d := false) (m := 1001) rfl
  obtain ⟨fl, hfl, hdat, hmt, _⟩ := obsF_single hF
  refine ⟨rc, ed1, ed, b, fl, h1, h2, hb, hp, hl, hd, ?_, by rw [hp]; exact hfl, hdat⟩
  rw [hp, hm, mtimeOf_eq, mtimeF_some hfl, hmt]

theorem savedBump_clean (lb : Lb) (c : Bool) : (modified (modified (savedCore lb c)).2).1 = false := by
  cases c <;> simp [modified, savedCore, seqAt]

end Neatvi.Lemmas.C02d
