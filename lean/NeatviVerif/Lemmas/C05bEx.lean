import NeatviVerif.Lemmas.Basics
import NeatviVerif.Lemmas.C05bVi
import NeatviVerif.Lemmas.C06Ex
import NeatviVerif.Lemmas.C06dRef
/-!
# C05b, ex level: the numbers of an address saturate at `TERMMAX = 2^40` before they are added, the line
# number at `NUMMAX = 2^29` after: address arithmetic is exact and stays inside `long long`, the result
# inside `int`

* `exNum s mx`: `atoi` clamped to `±mx`; `exAtoi = exNum · NUMMAX`;
* the offset loop of `exLineno` is not clamped: after `k` offsets the sum is within `k * TERMMAX` of where
  it started (`offs_bounded`), `k ≤` the length of the text; so with at most `EXLEN` bytes of text and a base
  within `±(TERMMAX + 1)` every sum is below `2^63`: `offsChk`, the loop with the range of `long long`
  checked at the addition (it stands with the cut of `exLineno` in Lemmas/C06Ex.lean), is the loop of the model (`offsChk_eq`);
* `exLineno` clamps the sum: the result is within `±NUMMAX` (`exLineno_bounded`);
* the offset loop on a written list of offsets adds their saturated values (`C06d.offs_render`, for the offsets
  `C06d.Off` of the reference, Lemmas/C06dRef.lean; Lemmas/C06dLineno.lean goes on from it); with all numbers at most
  `TERMMAX` nothing saturates (`offsSum_eq`), so digits followed by `+k` / `-k` offsets give the exact sum, clamped to
  `±NUMMAX` once (`offs_exact`, `exLineno_numeric_offsets`);
* on a string of digits `exLineno` returns the number minus one, at most `NUMMAX` (`exLineno_numeric`).
-/
namespace Neatvi.Lemmas.C05b
open Neatvi Neatvi.Lbuf Neatvi.Ex Neatvi.Lemmas.C06

/-! ### `ex_num`, `ex_atoi` -/

theorem exNum_bounded (s : Bytes) (mx : Int) (h : 0 ≤ mx) : -mx ≤ exNum s mx ∧ exNum s mx ≤ mx := by
  unfold exNum; omega

theorem exNum_small (s : Bytes) (mx : Int) (h0 : -mx ≤ atoi s) (h1 : atoi s ≤ mx) : exNum s mx = atoi s := by
  unfold exNum; omega

theorem exNum_huge (s : Bytes) (mx : Int) (h0 : 0 ≤ mx) (h : atoi s > mx) : exNum s mx = mx := by
  unfold exNum; omega

theorem exNum_huge_neg (s : Bytes) (mx : Int) (h : atoi s < -mx) : exNum s mx = -mx := by
  unfold exNum; omega

theorem exAtoi_bounded (s : Bytes) : -NUMMAX ≤ exAtoi s ∧ exAtoi s ≤ NUMMAX :=
  exNum_bounded s NUMMAX (by decide)

theorem exAtoi_small (s : Bytes) (h0 : -NUMMAX ≤ atoi s) (h1 : atoi s ≤ NUMMAX) : exAtoi s = atoi s :=
  exNum_small s NUMMAX h0 h1

theorem exAtoi_huge (s : Bytes) (h : atoi s > NUMMAX) : exAtoi s = NUMMAX :=
  exNum_huge s NUMMAX (by decide) h

/-- `ex_atoi` is `atoi` clamped: monotone in the value of the number -/
theorem exAtoi_eq_clamp (s : Bytes) : exAtoi s = max (-NUMMAX) (min (atoi s) NUMMAX) := rfl

/-- the decimal value of a digit string -/
def decVal (l : Bytes) : Int := l.foldl (fun (a : Int) (d : Nat) => a * 10 + ((d : Int) - 48)) 0

theorem foldl_digits_nonneg : ∀ (l : Bytes) (a : Int), 0 ≤ a → (∀ d ∈ l, isDigitC d = true) →
    0 ≤ l.foldl (fun (a : Int) (d : Nat) => a * 10 + ((d : Int) - 48)) a := by
  intro l
  induction l with
  | nil => intro a h _; exact h
  | cons d r ih =>
    intro a h hd
    simp only [List.foldl_cons]
    apply ih
    · have := hd d (List.mem_cons_self ..)
      simp only [isDigitC, Bool.and_eq_true, decide_eq_true_eq] at this
      omega
    · intro x hx; exact hd x (List.mem_cons_of_mem _ hx)

theorem decVal_nonneg (l : Bytes) (h : ∀ d ∈ l, isDigitC d = true) : 0 ≤ decVal l :=
  foldl_digits_nonneg l 0 (Int.le_refl 0) h

theorem digit_not_space (c : Nat) (h : isDigitC c = true) : isSpaceC c = false := by
  simp only [isDigitC, Bool.and_eq_true, decide_eq_true_eq] at h
  simp only [isSpaceC, Bool.or_eq_false_iff, beq_eq_false_iff_ne, ne_eq, Bool.and_eq_false_iff,
    decide_eq_false_iff_not]
  omega

theorem atoi_digit_head (c : Nat) (r : Bytes) (h : isDigitC c = true) :
    atoi (c :: r) = decVal ((c :: r).takeWhile isDigitC) := by
  have hs := digit_not_space c h
  have h' := h
  simp only [isDigitC, Bool.and_eq_true, decide_eq_true_eq] at h'
  have h45 : (c == 45) = false := by simp only [beq_eq_false_iff_ne, ne_eq]; omega
  have h43 : (c == 43) = false := by simp only [beq_eq_false_iff_ne, ne_eq]; omega
  unfold atoi decVal
  simp only [List.dropWhile_cons, hs, Bool.false_eq_true, ↓reduceIte, List.headD_cons, h45, h43]

theorem dropWhile_all (p : Nat → Bool) : ∀ (l : Bytes), (∀ d ∈ l, p d = true) → l.dropWhile p = [] := by
  intro l
  induction l with
  | nil => intro _; rfl
  | cons x r ih =>
    intro h
    rw [List.dropWhile_cons, if_pos (h x (List.mem_cons_self ..)), ih (fun d hd => h d (List.mem_cons_of_mem _ hd))]

theorem atoi_digit_head_nonneg (c : Nat) (r : Bytes) (h : isDigitC c = true) : 0 ≤ atoi (c :: r) := by
  rw [atoi_digit_head c r h]
  apply decVal_nonneg
  intro d hd
  exact Basics.mem_takeWhile hd

theorem atoi_digits (l : Bytes) (h : ∀ d ∈ l, isDigitC d = true) : atoi l = decVal l := by
  cases l with
  | nil => rfl
  | cons c r =>
    rw [atoi_digit_head c r (h c (List.mem_cons_self ..))]
    congr 1
    exact Basics.takeWhile_all _ _ h

/-! ### the offset loop of `ex_lineno` -/

theorem offs_rest_length (s : Bytes) (h : (s.headD 0 == 45 || s.headD 0 == 43) = true) :
    ((s.drop 1).dropWhile isDigitC).length + 1 ≤ s.length := by
  cases s with
  | nil => simp at h
  | cons c r =>
    have := (List.dropWhile_sublist (l := r) isDigitC).length_le
    simp only [List.drop_succ_cons, List.drop_zero, List.length_cons]
    omega

/-- the number of offsets the loop applies -/
def offsCount : Nat → Bytes → Nat
  | 0, _ => 0
  | f + 1, s =>
    if s.headD 0 == 45 || s.headD 0 == 43 then offsCount f ((s.drop 1).dropWhile isDigitC) + 1 else 0

theorem offsCount_le_length : ∀ (f : Nat) (s : Bytes), offsCount f s ≤ s.length := by
  intro f
  induction f with
  | zero => intro s; rw [offsCount]; omega
  | succ f ih =>
    intro s
    rw [offsCount]
    split
    · rename_i h
      have := offs_rest_length s h
      have := ih ((s.drop 1).dropWhile isDigitC)
      omega
    · omega

theorem offs_step (n : Int) (s : Bytes) :
    n - TERMMAX ≤ n + exNum s TERMMAX ∧ n + exNum s TERMMAX ≤ n + TERMMAX := by
  have := exNum_bounded s TERMMAX (by decide)
  omega

theorem offs_bounded : ∀ (f : Nat) (n : Int) (s : Bytes),
    n - offsCount f s * TERMMAX ≤ (exLineno.offs f n s).1 ∧
    (exLineno.offs f n s).1 ≤ n + offsCount f s * TERMMAX := by
  intro f
  induction f with
  | zero => intro n s; rw [exLineno.offs, offsCount]; unfold TERMMAX; omega
  | succ f ih =>
    intro n s
    rw [exLineno.offs, offsCount]
    split
    · have h1 := offs_step n s
      have h2 := ih (n + exNum s TERMMAX) ((s.drop 1).dropWhile isDigitC)
      unfold TERMMAX at *
      omega
    · unfold TERMMAX; omega

theorem offs_bounded_length (f : Nat) (n : Int) (s : Bytes) :
    n - s.length * TERMMAX ≤ (exLineno.offs f n s).1 ∧ (exLineno.offs f n s).1 ≤ n + s.length * TERMMAX := by
  have h1 := offs_bounded f n s
  have h2 := offsCount_le_length f s
  unfold TERMMAX at *
  omega

theorem offsChk_eq_of_room : ∀ (f : Nat) (n : Int) (s : Bytes),
    -9223372036854775808 ≤ n - s.length * TERMMAX → n + s.length * TERMMAX ≤ 9223372036854775807 →
    offsChk f n s = some (exLineno.offs f n s) := by
  intro f
  induction f with
  | zero => intro n s _ _; rw [offsChk, exLineno.offs]
  | succ f ih =>
    intro n s h0 h1
    rw [offsChk, exLineno.offs]
    by_cases hc : (s.headD 0 == 45 || s.headD 0 == 43) = true
    · have hl := offs_rest_length s hc
      have hs := offs_step n s
      have hfit : FitsLL (n + exNum s TERMMAX) := by
        unfold FitsLL; unfold TERMMAX at *; omega
      rw [if_pos hc, if_pos hc, if_pos hfit]
      apply ih
      · unfold TERMMAX at *; omega
      · unfold TERMMAX at *; omega
    · rw [if_neg hc, if_neg hc]

theorem offsChk_eq (f : Nat) (n : Int) (s : Bytes) (hs : s.length ≤ Gen.EXLEN) (h0 : -TERMMAX - 1 ≤ n)
    (h1 : n ≤ TERMMAX + 1) : offsChk f n s = some (exLineno.offs f n s) := by
  have hE : Gen.EXLEN = 512 := rfl
  apply offsChk_eq_of_room <;> (unfold TERMMAX at *; omega)

theorem offs_fits64 (f : Nat) (n : Int) (s : Bytes) (hs : s.length ≤ Gen.EXLEN) (h0 : -TERMMAX - 1 ≤ n)
    (h1 : n ≤ TERMMAX + 1) :
    -9223372036854775808 < (exLineno.offs f n s).1 ∧ (exLineno.offs f n s).1 < 9223372036854775808 := by
  have hE : Gen.EXLEN = 512 := rfl
  have := offs_bounded_length f n s
  unfold TERMMAX at *
  omega

/-! ### `ex_search`: the row found is a row of the buffer -/

theorem scan_bounded (ed : Ed) (re : Rset.RStr) (dir len : Int) : ∀ (f : Nat) (row r : Int),
    exSearch.scan ed re dir len f row = some r → r = -1 ∨ (0 ≤ r ∧ r < len) := by
  intro f
  induction f with
  | zero => intro row r h; rw [exSearch.scan] at h; cases h; exact Or.inl rfl
  | succ f ih =>
    intro row r h
    rw [exSearch.scan] at h
    split at h
    · cases h; exact Or.inl rfl
    · rename_i hrow
      simp only [Bool.or_eq_true, decide_eq_true_eq, not_or, Int.not_lt, ge_iff_le, Int.not_le] at hrow
      split at h
      · cases h; exact Or.inl rfl
      · split at h
        · cases h
        · split at h
          · cases h; exact Or.inr ⟨hrow.1, hrow.2⟩
          · exact ih _ _ h

theorem exSearch_bounded (ed : Ed) (loc : Bytes) (n : Int) (rest : Bytes) (ed' : Ed)
    (h : exSearch ed loc = some ((n, rest), ed')) : n = -1 ∨ (0 ≤ n ∧ n < ed.len) := by
  obtain ⟨_, _, hn | ⟨re, f, hs⟩⟩ := exSearch_cases h
  · exact .inl hn
  · rw [← (exSearch_addrOnly ed loc _ _ h).len]
    exact scan_bounded _ _ _ _ _ _ _ hs

/-! ### `ex_lineno` -/

/-- what address evaluation reads from the editor state is inside the range of line numbers: the current
    row, the length of the buffer, the marks -/
structure AddrFits (ed : Ed) : Prop where
  xrow_lo : -NUMMAX - 1 ≤ ed.xrow
  xrow_hi : ed.xrow ≤ NUMMAX
  len_hi : ed.len ≤ NUMMAX
  marks : ∀ lb c p o, ed.lb = some lb → jump lb c = some (p, o) → p ≤ NUMMAX

theorem jump_nonneg (lb : Lb) (c : Nat) (p o : Int) (h : jump lb c = some (p, o)) : 0 ≤ p := by
  unfold jump at h
  split at h
  · simp only [] at h
    split at h
    · cases h
    · cases h; omega
  · cases h

/-- the base is within `[-NUMMAX - 1, TERMMAX - 1]` when the current row, the length of the buffer and the
    marks are within `±NUMMAX`: the sum starts inside `long long` with room for `EXLEN` offsets -/
theorem exLineno_base_bounded (ed : Ed) (loc : Bytes) (hf : AddrFits ed) (n : Int) (rest : Bytes) (ed' : Ed)
    (h : exLinenoBase ed loc = some ((n, rest), ed')) : -NUMMAX - 1 ≤ n ∧ n ≤ TERMMAX - 1 := by
  have hl := len_nonneg ed
  have hN : NUMMAX = 536870912 := rfl
  have hT : TERMMAX = 1099511627776 := rfl
  have h1 := hf.xrow_lo
  have h2 := hf.xrow_hi
  have h3 := hf.len_hi
  obtain ⟨_, ⟨rfl, _⟩ | ⟨rfl, _⟩ | ⟨rfl, _⟩ | ⟨⟨o, hj⟩, _⟩ | ⟨hdig, rfl, _⟩⟩ | ⟨m, hs, hn⟩ := exLinenoBase_cases h
  · omega
  · omega
  · omega
  · cases hlb : ed.lb with
    | none => rw [hlb] at hj; cases hj
    | some lb =>
      rw [hlb] at hj
      have := jump_nonneg _ _ _ _ hj
      have := hf.marks _ _ _ _ hlb hj
      omega
  · cases loc with
    | nil => simp [isDigitC] at hdig
    | cons c r =>
      have := atoi_digit_head_nonneg c r (by simpa using hdig)
      have := exNum_bounded (c :: r) TERMMAX (by decide)
      unfold exNum at *
      omega
  · have hb := exSearch_bounded _ _ _ _ _ hs
    omega

/-- `ex_lineno` returns a number within `±NUMMAX` (`-2`, the failure marker, is one of them): the clamp at
    its end, whatever the state and the text -/
theorem exLineno_bounded (ed : Ed) (loc : Bytes) (n : Int) (rest : Bytes) (ed' : Ed)
    (h : exLineno ed loc = some ((n, rest), ed')) : -NUMMAX ≤ n ∧ n ≤ NUMMAX := by
  rw [exLineno_eq] at h
  split at h
  · cases h
  · split at h
    · cases h; unfold NUMMAX; omega
    · cases h; unfold NUMMAX; omega

theorem exSearch_rest (ed : Ed) (loc : Bytes) (n : Int) (rest : Bytes) (ed' : Ed)
    (h : exSearch ed loc = some ((n, rest), ed')) : rest = (reRead loc).2 :=
  (exSearch_cases h).2.1

theorem exLinenoBase_rest_suffix {ed : Ed} {loc : Bytes} {n : Int} {rest : Bytes} {ed' : Ed}
    (h : exLinenoBase ed loc = some ((n, rest), ed')) : rest <:+ loc := by
  obtain ⟨_, ⟨_, rfl | rfl⟩ | ⟨_, rfl⟩ | ⟨_, rfl⟩ | ⟨_, rfl⟩ | ⟨_, _, rfl⟩⟩ | ⟨m, hs, _⟩ := exLinenoBase_cases h
  any_goals exact List.drop_suffix _ _
  · exact List.suffix_refl _
  · exact List.dropWhile_suffix _
  · rw [exSearch_rest _ _ _ _ _ hs]
    exact reRead_suffix loc

theorem exLineno_rest_suffix {ed : Ed} {loc : Bytes} {r : Int × Bytes} {ed' : Ed} (h : exLineno ed loc = some (r, ed')) :
    r.2 <:+ loc := by
  rw [exLineno_eq] at h
  split at h
  · cases h
  · rename_i n rest ed1 hb
    have h1 := exLinenoBase_rest_suffix hb
    split at h
    · cases h; exact h1
    · cases h; exact (offs_suffix _ _ _).trans h1

/-! ### a numeric address with offsets: the arithmetic is exact -/

theorem takeWhile_digits_append (ds t : Bytes) (hd : ∀ d ∈ ds, isDigitC d = true)
    (ht : isDigitC (t.headD 0) = false) : (ds ++ t).takeWhile isDigitC = ds := by
  rw [List.takeWhile_append_of_pos hd]
  cases t with
  | nil => simp
  | cons x t =>
    simp only [List.headD_cons] at ht
    simp [ht]

theorem dropWhile_digits_append (ds t : Bytes) (hd : ∀ d ∈ ds, isDigitC d = true)
    (ht : isDigitC (t.headD 0) = false) : (ds ++ t).dropWhile isDigitC = t := by
  rw [List.dropWhile_append_of_pos hd]
  cases t with
  | nil => simp
  | cons x t =>
    simp only [List.headD_cons] at ht
    simp [ht]

theorem atoi_digits_append (c : Nat) (r t : Bytes) (hd : ∀ d ∈ c :: r, isDigitC d = true)
    (ht : isDigitC (t.headD 0) = false) : atoi ((c :: r) ++ t) = decVal (c :: r) := by
  rw [List.cons_append, atoi_digit_head c (r ++ t) (hd c (List.mem_cons_self ..))]
  congr 1
  rw [← List.cons_append]
  exact takeWhile_digits_append (c :: r) t hd ht

theorem atoi_sign_digits (neg : Bool) (ds t : Bytes) (hd : ∀ d ∈ ds, isDigitC d = true)
    (ht : isDigitC (t.headD 0) = false) :
    atoi ((if neg then 45 else 43) :: (ds ++ t)) = if neg then -decVal ds else decVal ds := by
  cases neg
  · unfold atoi decVal
    simp [isSpaceC, takeWhile_digits_append ds t hd ht]
  · unfold atoi decVal
    simp [isSpaceC, takeWhile_digits_append ds t hd ht]

end Neatvi.Lemmas.C05b

namespace Neatvi.Lemmas.C06d
open Neatvi Neatvi.Ex Neatvi.Lemmas.C05b

theorem offsText_cons (o : Off) (l : List Off) : offsText (o :: l) = (if o.neg then 45 else 43) :: (o.ds ++ offsText l) := by
  simp [offsText, Off.text]

theorem offsVal_cons (o : Off) (l : List Off) : offsVal (o :: l) = o.val + offsVal l := by
  simp [offsVal]

theorem offsText_head_nd (l : List Off) (t : Bytes) (ht : isDigitC (t.headD 0) = false) :
    isDigitC ((offsText l ++ t).headD 0) = false := by
  cases l with
  | nil => simpa [offsText] using ht
  | cons o l =>
    rw [offsText_cons]
    cases o.neg <;> simp [isDigitC]

theorem offsText_len (l : List Off) : l.length ≤ (offsText l).length := by
  induction l with
  | nil => simp
  | cons o l ih => rw [offsText_cons]; simp; omega

/-- the loop adds the value of every offset and stops at `t`, which does not start with a sign nor — after an
    offset — with a digit -/
theorem offs_render : ∀ (l : List Off) (f : Nat) (n : Int) (t : Bytes),
    l.length < f → (∀ o ∈ l, ∀ d ∈ o.ds, isDigit d = true) → (t.headD 0 == 45 || t.headD 0 == 43) = false →
    (l ≠ [] → isDigitC (t.headD 0) = false) →
    exLineno.offs f n (offsText l ++ t) = (n + offsVal l, t) := by
  intro l
  induction l with
  | nil =>
    intro f n t hf _ hs _
    cases f with
    | zero => omega
    | succ f =>
      rw [exLineno.offs]
      simp only [offsText, List.flatMap_nil, List.nil_append, hs, Bool.false_eq_true, if_false, offsVal, List.map_nil,
        List.sum_nil, Int.add_zero]
  | cons o l ih =>
    intro f n t hf hok hs hdg
    cases f with
    | zero => omega
    | succ f =>
      have hdt : isDigitC (t.headD 0) = false := hdg (by simp)
      have hds : ∀ d ∈ o.ds, isDigitC d = true := hok o (List.mem_cons_self ..)
      have hok' : ∀ o ∈ l, ∀ d ∈ o.ds, isDigit d = true := fun q hq => hok q (List.mem_cons_of_mem _ hq)
      have hnd := offsText_head_nd l t hdt
      have hsign : (((if o.neg then 45 else 43) :: (o.ds ++ (offsText l ++ t))).headD 0 == 45 ||
          ((if o.neg then 45 else 43) :: (o.ds ++ (offsText l ++ t))).headD 0 == 43) = true := by
        cases o.neg <;> simp
      have hnum : exNum ((if o.neg then 45 else 43) :: (o.ds ++ (offsText l ++ t))) TERMMAX = o.val := by
        unfold exNum
        rw [atoi_sign_digits o.neg o.ds _ hds hnd]
        rfl
      rw [offsText_cons, List.cons_append, List.append_assoc, exLineno.offs, if_pos hsign, hnum]
      simp only [List.drop_succ_cons, List.drop_zero]
      rw [dropWhile_digits_append o.ds _ hds hnd, ih f _ t (by simp only [List.length_cons] at hf; omega) hok' hs
        (fun _ => hdt), offsVal_cons, Int.add_assoc]

end Neatvi.Lemmas.C06d

namespace Neatvi.Lemmas.C05b
open Neatvi Neatvi.Lbuf Neatvi.Ex Neatvi.Lemmas.C06

/-- offsets as text: a sign (`true` is `-`) and digits each -/
def offsText : List (Bool × Bytes) → Bytes
  | [] => []
  | (neg, ds) :: l => (if neg then 45 else 43) :: (ds ++ offsText l)

/-- the exact sum of the offsets -/
def offsSum : List (Bool × Bytes) → Int
  | [] => 0
  | (neg, ds) :: l => (if neg then -decVal ds else decVal ds) + offsSum l

/-- every offset is a string of digits of value at most `TERMMAX` -/
def OffsOk (l : List (Bool × Bytes)) : Prop :=
  ∀ p ∈ l, (∀ d ∈ p.2, isDigitC d = true) ∧ decVal p.2 ≤ TERMMAX

/-- what follows the address is neither an offset nor a digit -/
def NoOffs (t : Bytes) : Prop :=
  (t.headD 0 == 45 || t.headD 0 == 43) = false ∧ isDigitC (t.headD 0) = false

theorem noOffs_nil : NoOffs [] := ⟨by decide, by decide⟩

instance (l : List (Bool × Bytes)) : Decidable (OffsOk l) := by unfold OffsOk; exact inferInstance
instance (t : Bytes) : Decidable (NoOffs t) := by unfold NoOffs; exact inferInstance

/-- the same offsets as the reference writes them (`C06d.Off`) -/
def toOffs (l : List (Bool × Bytes)) : List C06d.Off := l.map fun p => ⟨p.1, p.2⟩

theorem offsText_eq : ∀ l : List (Bool × Bytes), offsText l = C06d.offsText (toOffs l)
  | [] => rfl
  | (neg, ds) :: l => by rw [offsText, offsText_eq l]; exact (C06d.offsText_cons ⟨neg, ds⟩ (toOffs l)).symm

theorem offsText_length (l : List (Bool × Bytes)) : l.length ≤ (offsText l).length := by
  have := C06d.offsText_len (toOffs l)
  rwa [← offsText_eq, toOffs, List.length_map] at this

theorem offsText_head_nondigit (l : List (Bool × Bytes)) (t : Bytes) (ht : isDigitC (t.headD 0) = false) :
    isDigitC ((offsText l ++ t).headD 0) = false := by
  rw [offsText_eq]; exact C06d.offsText_head_nd _ t ht

theorem offsSum_eq : ∀ l : List (Bool × Bytes), OffsOk l → offsSum l = C06d.offsVal (toOffs l)
  | [], _ => rfl
  | (neg, ds) :: l, h => by
    have hds := h (neg, ds) (List.mem_cons_self ..)
    have hpos := decVal_nonneg ds hds.1
    have hle : decVal ds ≤ 1099511627776 := hds.2
    rw [offsSum, offsSum_eq l (fun q hq => h q (List.mem_cons_of_mem _ hq))]
    refine (congrArg (· + _) ?_).trans (C06d.offsVal_cons ⟨neg, ds⟩ (toOffs l)).symm
    exact (C06d.sat_id _ _ (by show -(1099511627776 : Int) ≤ _; split <;> omega)
      (by show _ ≤ (1099511627776 : Int); split <;> omega)).symm

theorem offs_exact (l : List (Bool × Bytes)) (f : Nat) (n : Int) (t : Bytes) (hf : l.length < f) (hok : OffsOk l)
    (ht : NoOffs t) : exLineno.offs f n (offsText l ++ t) = (n + offsSum l, t) := by
  rw [offsText_eq, offsSum_eq l hok]
  refine C06d.offs_render (toOffs l) f n t (by simpa [toOffs] using hf) (fun o ho => ?_) ht.1 (fun _ => ht.2)
  obtain ⟨p, hp, rfl⟩ := List.mem_map.mp ho
  exact (hok p hp).1

theorem exLinenoBase_digit (ed : Ed) (c : Nat) (r : Bytes) (hc : isDigitC c = true) :
    exLinenoBase ed (c :: r) = some ((exNum (c :: r) TERMMAX - 1, (c :: r).dropWhile isDigitC), ed) := by
  have hc' := hc
  simp only [isDigitC, Bool.and_eq_true, decide_eq_true_eq] at hc'
  have e46 : (c == 46) = false := by simp only [beq_eq_false_iff_ne, ne_eq]; omega
  have e36 : (c == 36) = false := by simp only [beq_eq_false_iff_ne, ne_eq]; omega
  have e39 : (c == 39) = false := by simp only [beq_eq_false_iff_ne, ne_eq]; omega
  have e47 : (c == 47) = false := by simp only [beq_eq_false_iff_ne, ne_eq]; omega
  have e63 : (c == 63) = false := by simp only [beq_eq_false_iff_ne, ne_eq]; omega
  unfold exLinenoBase
  simp only [List.headD_cons, e46, e36, e39, e47, e63, hc, Bool.false_eq_true, ↓reduceIte, Bool.or_self]

theorem exLineno_digit (ed : Ed) (c : Nat) (r : Bytes) (hc : isDigitC c = true) :
    exLineno ed (c :: r) =
      some ((max (-NUMMAX) (min (exLineno.offs (((c :: r).dropWhile isDigitC).length + 1)
          (exNum (c :: r) TERMMAX - 1) ((c :: r).dropWhile isDigitC)).1 NUMMAX),
        (exLineno.offs (((c :: r).dropWhile isDigitC).length + 1)
          (exNum (c :: r) TERMMAX - 1) ((c :: r).dropWhile isDigitC)).2), ed) := by
  have hpos := atoi_digit_head_nonneg c r hc
  have hm : (exNum (c :: r) TERMMAX - 1 == -1000000) = false := by
    simp only [beq_eq_false_iff_ne, ne_eq]
    unfold exNum TERMMAX; omega
  rw [exLineno_eq, exLinenoBase_digit ed c r hc]
  simp only [hm, Bool.false_eq_true, ↓reduceIte]

theorem exLineno_numeric_offsets (ed : Ed) (c : Nat) (r : Bytes) (l : List (Bool × Bytes)) (t : Bytes)
    (hd : ∀ d ∈ c :: r, isDigitC d = true) (hv : decVal (c :: r) ≤ TERMMAX) (hl : OffsOk l) (ht : NoOffs t) :
    exLineno ed ((c :: r) ++ (offsText l ++ t)) =
      some ((max (-NUMMAX) (min (decVal (c :: r) - 1 + offsSum l) NUMMAX), t), ed) := by
  have hnd := offsText_head_nondigit l t ht.2
  have hpos := decVal_nonneg (c :: r) hd
  have hat := atoi_digits_append c r (offsText l ++ t) hd hnd
  have hnum : exNum ((c :: r) ++ (offsText l ++ t)) TERMMAX = decVal (c :: r) := by
    have hT : TERMMAX = 1099511627776 := rfl
    rw [exNum_small _ _ (by rw [hat]; omega) (by rw [hat]; omega), hat]
  have hdrop : ((c :: r) ++ (offsText l ++ t)).dropWhile isDigitC = offsText l ++ t :=
    dropWhile_digits_append (c :: r) _ hd hnd
  have hlen : l.length < (offsText l ++ t).length + 1 := by
    have := offsText_length l
    simp only [List.length_append]; omega
  rw [List.cons_append] at hdrop hnum ⊢
  rw [exLineno_digit ed c _ (hd c (List.mem_cons_self ..)), hdrop, hnum, offs_exact l _ _ t hlen hl ht]

theorem exLineno_numeric (ed : Ed) (c : Nat) (r : Bytes) (hd : ∀ d ∈ c :: r, isDigitC d = true) :
    exLineno ed (c :: r) = some ((min (atoi (c :: r) - 1) NUMMAX, []), ed) := by
  have hpos := atoi_digit_head_nonneg c r (hd c (List.mem_cons_self ..))
  rw [exLineno_digit ed c r (hd c (List.mem_cons_self ..)), dropWhile_all _ _ hd]
  simp only [List.length_nil, Nat.zero_add]
  rw [exLineno.offs]
  simp only [List.headD_nil]
  have : max (-NUMMAX) (min (exNum (c :: r) TERMMAX - 1) NUMMAX) = min (atoi (c :: r) - 1) NUMMAX := by
    unfold exNum TERMMAX NUMMAX; omega
  simp [this]

end Neatvi.Lemmas.C05b
