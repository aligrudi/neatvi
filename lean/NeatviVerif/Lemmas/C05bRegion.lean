import NeatviVerif.Lemmas.C05bEx
import NeatviVerif.Lemmas.ExFrame
/-!
# C05b, `ex_region`: a whole address (`a,b;c…`) keeps every number inside `int`

`AddrFits` is an invariant of address evaluation: `ex_lineno` changes the search keyword only, `;` sets the
current row to a value in `[-1, NUMMAX]`; hence every call of `ex_lineno` inside `ex_region` starts its sum
inside `long long` (`exLineno_base_bounded`), every result is within `±NUMMAX` (`exLineno_bounded`), and `beg` /
`end` stay within `[-1, NUMMAX + 1]`.

The loop of `ex_region` is walked once (`regFr_go`), for the finer description `C05d.RegFr` of what address evaluation
does to the state (table and column stay, the row stays or is such a line number): `AddrFits` follows from it
(`AddrFits.of_regFr`), and the position invariant of `Lemmas/C05dEd.lean` reads the same lemma (`exRegion_addr_ok`).
-/
namespace Neatvi.Lemmas.C05b
open Neatvi Neatvi.Lbuf Neatvi.Ex Neatvi.Lemmas.C06

theorem exLineno_kwOnly (ed : Ed) (loc : Bytes) (r : Int × Bytes) (ed' : Ed)
    (h : exLineno ed loc = some (r, ed')) : KwOnly ed ed' := by
  rw [exLineno_eq] at h
  cases hb : exLinenoBase ed loc with
  | none => rw [hb] at h; cases h
  | some p =>
    obtain ⟨⟨n, rest⟩, ed1⟩ := p
    rw [hb] at h
    have h1 : KwOnly ed ed1 := by
      obtain ⟨rfl, _⟩ | ⟨m, hs, _⟩ := exLinenoBase_cases hb
      · exact KwOnly.refl _
      · exact exSearch_kwOnly _ _ _ _ hs
    obtain ⟨_, h⟩ | ⟨_, h⟩ := ite_eq_cases h
    all_goals
      cases h
      exact h1

theorem AddrFits.of_kwOnly {ed ed' : Ed} (hf : AddrFits ed) (h : KwOnly ed ed') : AddrFits ed' := by
  obtain ⟨k, d, rfl⟩ := h
  exact ⟨hf.xrow_lo, hf.xrow_hi, hf.len_hi, hf.marks⟩

/-- `xrow = end - 1` of `;` -/
theorem AddrFits.set_xrow {ed : Ed} (hf : AddrFits ed) (r : Int) (h0 : -NUMMAX - 1 ≤ r) (h1 : r ≤ NUMMAX) :
    AddrFits { ed with xrow := r } :=
  ⟨h0, h1, hf.len_hi, hf.marks⟩

theorem exLineno_fits (ed : Ed) (loc : Bytes) (r : Int × Bytes) (ed' : Ed) (hf : AddrFits ed)
    (h : exLineno ed loc = some (r, ed')) : AddrFits ed' :=
  hf.of_kwOnly (exLineno_kwOnly ed loc r ed' h)

/-- what address evaluation does to the state: the table and the column stay, the row stays or (after `;`) is a
    line number `ex_lineno` delivered, in `[-1, NUMMAX]` -/
def _root_.Neatvi.Lemmas.C05d.RegFr (ed ed' : Ed) : Prop :=
  ed'.bufs = ed.bufs ∧ ed'.xoff = ed.xoff ∧ (ed'.xrow = ed.xrow ∨ (-1 ≤ ed'.xrow ∧ ed'.xrow ≤ NUMMAX))

open Neatvi.Lemmas.C05d (RegFr)

theorem AddrFits.of_regFr {ed ed' : Ed} (hf : AddrFits ed) (h : RegFr ed ed') : AddrFits ed' := by
  have hN : NUMMAX = 536870912 := rfl
  refine ⟨?_, ?_, by rw [Lemmas.ExFrame.len_of_bufs h.1]; exact hf.len_hi, by rw [Lemmas.ExFrame.lb_of_bufs h.1]; exact hf.marks⟩
  · rcases h.2.2 with e | e
    · rw [e]; exact hf.xrow_lo
    · omega
  · rcases h.2.2 with e | e
    · rw [e]; exact hf.xrow_hi
    · exact e.2

/-- the loop of `ex_region`: what it does to the state, and the pair it delivers is the failure marker `(-7, -7)` or has
    `-1 ≤ beg ≤ NUMMAX`, `0 ≤ end ≤ NUMMAX + 1` -/
theorem regFr_go : ∀ (f : Nat) (ed : Ed) (loc : Bytes) (naddr : Nat) (b e : Int) (r : Int × Int) (ed' : Ed),
    -1 ≤ b → b ≤ NUMMAX → 0 ≤ e → e ≤ NUMMAX + 1 → exRegion.go f ed loc naddr b e = some (r, ed') →
    RegFr ed ed' ∧ (r = (-7, -7) ∨ (-1 ≤ r.1 ∧ r.1 ≤ NUMMAX ∧ 0 ≤ r.2 ∧ r.2 ≤ NUMMAX + 1)) := by
  intro f ed loc naddr b e r ed' hb0 hb1 he0 he1 h
  have key := go_ind (J := fun e0 b e => RegFr ed e0 ∧ -1 ≤ b ∧ b ≤ NUMMAX ∧ 0 ≤ e ∧ e ≤ NUMMAX + 1) (Fl := RegFr ed)
    (fun {e0 loc n rest ed1 na b e} hJ hl => by
      obtain ⟨r0, _, _, he0, he1⟩ := hJ
      obtain ⟨k, d, rfl⟩ := exLineno_kwOnly _ _ _ _ hl
      obtain ⟨n0, n1⟩ := exLineno_bounded _ _ _ _ _ hl
      have r1 : RegFr ed (e0.kwdSet k d) := r0
      refine ⟨fun _ => r1, fun hn => ?_⟩
      have hb' : -1 ≤ (if na != 0 then e - 1 else n + 1 - 1) ∧ (if na != 0 then e - 1 else n + 1 - 1) ≤ NUMMAX := by
        split <;> omega
      exact ⟨⟨r1, hb'.1, hb'.2, by omega, by omega⟩,
        ⟨r1.1, r1.2.1, Or.inr ⟨by show -1 ≤ n + 1 - 1; omega, by show n + 1 - 1 ≤ NUMMAX; omega⟩⟩, hb'.1, hb'.2, by omega, by omega⟩)
    f ed loc naddr b e r ed' ⟨⟨rfl, rfl, Or.inl rfl⟩, hb0, hb1, he0, he1⟩ h
  rcases key with ⟨a, b⟩ | ⟨rfl, a⟩
  · exact ⟨a, .inr b⟩
  · exact ⟨a, .inl rfl⟩

theorem regionCheck_bounded {len b0 e0 : Int} {rc : Nat} {b e : Int} (h : regionCheck len b0 e0 = (rc, b, e))
    (hr : (b0, e0) = (-7, -7) ∨ (-1 ≤ b0 ∧ b0 ≤ NUMMAX ∧ 0 ≤ e0 ∧ e0 ≤ NUMMAX + 1)) :
    -1 ≤ b ∧ b ≤ NUMMAX ∧ -1 ≤ e ∧ e ≤ NUMMAX + 1 := by
  have hN : NUMMAX = 536870912 := rfl
  unfold regionCheck at h
  obtain ⟨_, h⟩ | ⟨h7, h⟩ := ite_eq_cases h
  · cases h; omega
  obtain ⟨_, h⟩ | ⟨_, h⟩ := ite_eq_cases h
  · cases h; omega
  have hr' : -1 ≤ b0 ∧ b0 ≤ NUMMAX ∧ 0 ≤ e0 ∧ e0 ≤ NUMMAX + 1 := by
    refine hr.resolve_left fun h => h7 ?_
    cases h
    rfl
  -- whichever status the last two tests give, `end` is as the loop left it and `beg` is that of the loop or 0
  have key : e = e0 ∧ (b = b0 ∨ b = 0) := by
    obtain ⟨_, h⟩ | ⟨_, h⟩ := ite_eq_cases h
    rotate_left
    obtain ⟨_, h⟩ | ⟨_, h⟩ := ite_eq_cases h
    all_goals
      cases h
      refine ⟨rfl, ?_⟩
      split
      · exact .inr rfl
      · exact .inl rfl
  omega

theorem exRegion_addr_ok {ed ed' : Ed} {loc : Bytes} {rc : Nat} {b e : Int} (hne : loc ≠ []) (h37 : loc ≠ [37])
    (h : exRegion ed loc = some ((rc, b, e), ed')) : RegFr ed ed' ∧ -1 ≤ b ∧ b ≤ NUMMAX ∧ -1 ≤ e ∧ e ≤ NUMMAX + 1 := by
  have hN : NUMMAX = 536870912 := rfl
  rw [exRegion_addr ed hne h37] at h
  cases hgo : exRegion.go (loc.length + 1) ed loc 0 0 0 with
  | none => rw [hgo] at h; cases h
  | some p =>
    obtain ⟨⟨b0, e0⟩, ed1⟩ := p
    rw [hgo] at h
    obtain ⟨hc, rfl⟩ := Prod.mk.inj (Option.some.inj h)
    obtain ⟨hf1, hr⟩ := regFr_go _ _ _ _ _ _ _ _ (by omega) (by omega) (by omega) (by omega) hgo
    exact ⟨hf1, regionCheck_bounded hc hr⟩

/-- `ex_region`: the state stays in range and `beg`, `end` are within `[-1, NUMMAX + 1]` -/
theorem exRegion_bounded (ed : Ed) (loc : Bytes) (rc : Nat) (b e : Int) (ed' : Ed) (hf : AddrFits ed)
    (h : exRegion ed loc = some ((rc, b, e), ed')) :
    AddrFits ed' ∧ -1 ≤ b ∧ b ≤ NUMMAX ∧ -1 ≤ e ∧ e ≤ NUMMAX + 1 := by
  have hl := len_nonneg ed
  have h3 := hf.len_hi
  have hN : NUMMAX = 536870912 := rfl
  by_cases h37 : loc = [37]
  · rw [h37, exRegion_percent] at h
    cases h
    exact ⟨hf, by omega, by omega, by omega, by omega⟩
  by_cases hne : loc = []
  · rw [hne, exRegion_nil] at h
    cases h
    refine ⟨hf, by omega, by omega, ?_, ?_⟩ <;> split <;> omega
  obtain ⟨hr, hb⟩ := exRegion_addr_ok hne h37 h
  exact ⟨hf.of_regFr hr, hb⟩
end Neatvi.Lemmas.C05b
