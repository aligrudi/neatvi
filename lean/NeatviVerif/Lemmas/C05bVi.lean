import NeatviVerif.Lemmas.C07Frame
/-!
# C05b, vi level: the counts of vi.c stay inside `int`

* a property of the accumulator that one step of `viPrefix.digits` keeps holds of its result (`digits_inv`); so the
  loop keeps `0 ≤ n ≤ 999999999` (`digits_bounded`) and never decreases `n` (`digits_mono`); the only arithmetic it performs,
  `n * 10 + (c - 48)`, is computed for `0 ≤ n < 100000000`, `48 ≤ c ≤ 57` only (`digit_step`);
* `digitsChk`: the same loop with the C `int` range checked at the multiplication and at the addition;
  from an accumulator in range it is the loop of the model (`digitsChk_eq`), i.e. the check never fires;
* `cntOf`, the page count of `^F` / `^B`.
-/
namespace Neatvi.Lemmas.C05b
open Neatvi Neatvi.Vi

/-- `x` is a value of the C type `int` -/
def FitsInt (x : Int) : Prop := -2147483648 ≤ x ∧ x ≤ 2147483647

instance (x : Int) : Decidable (FitsInt x) := by unfold FitsInt; exact inferInstance

theorem two_pow_31 : (2 : Int) ^ 31 = 2147483648 := by decide
theorem two_pow_63 : (2 : Int) ^ 63 = 9223372036854775808 := by decide

/-! ### one step of the digit loop -/

/-- the arithmetic of one step: below the cut-off the product, the C intermediate `n * 10 + c`, the digit
    and the sum are all in range, and the new accumulator is at most nine digits long -/
theorem digit_step (n c : Int) (h0 : 0 ≤ n) (hn : n < 100000000) (hc0 : 48 ≤ c) (hc1 : c ≤ 57) :
    0 ≤ n * 10 ∧ n * 10 ≤ 999999990 ∧ 0 ≤ c - 48 ∧ c - 48 ≤ 9 ∧
    0 ≤ n * 10 + c ∧ n * 10 + c ≤ 1000000047 ∧
    0 ≤ n * 10 + (c - 48) ∧ n * 10 + (c - 48) ≤ 999999999 := by
  omega

theorem digit_acc (n c : Int) (h0 : 0 ≤ n) (hn : n ≤ 999999999) (hc0 : 48 ≤ c) (hc1 : c ≤ 57) :
    0 ≤ (if n < 100000000 then n * 10 + (c - 48) else n) ∧
    (if n < 100000000 then n * 10 + (c - 48) else n) ≤ 999999999 := by
  split <;> omega

theorem digit_guard (c : Int) (h : (decide (48 ≤ c) && decide (c ≤ 57)) = true) : 48 ≤ c ∧ c ≤ 57 := by
  simpa using h

/-! ### the loop -/

export Neatvi.Lemmas.C07 (bind_apply)

theorem digits_zero (n c : Int) (s : VS) :
    viPrefix.digits 0 n c s = Res.ok n { s with vibuf := c :: s.vibuf } := by
  unfold viPrefix.digits
  rfl

theorem digits_stop (f : Nat) (n c : Int) (s : VS) (h : (decide (48 ≤ c) && decide (c ≤ 57)) = false) :
    viPrefix.digits (f + 1) n c s = Res.ok n { s with vibuf := c :: s.vibuf } := by
  unfold viPrefix.digits
  simp only [h]
  rfl

theorem digits_step (f : Nat) (n c : Int) (s : VS) (h : (decide (48 ≤ c) && decide (c ≤ 57)) = true) :
    viPrefix.digits (f + 1) n c s =
      match viRead s with
      | Res.ok c' s' => viPrefix.digits f (if n < 100000000 then n * 10 + (c - 48) else n) c' s'
      | Res.eof => Res.eof
      | Res.trap => Res.trap := by
  conv => lhs; unfold viPrefix.digits
  simp only [h, if_true]
  rw [bind_apply]
  cases viRead s <;> rfl

theorem digits_inv {P : Int → Prop}
    (step : ∀ n c, P n → 48 ≤ c → c ≤ 57 → P (if n < 100000000 then n * 10 + (c - 48) else n)) :
    ∀ (f : Nat) (n c : Int) (s s' : VS) (m : Int), P n → viPrefix.digits f n c s = Res.ok m s' → P m := by
  intro f
  induction f with
  | zero =>
    intro n c s s' m hp h
    rw [digits_zero] at h
    cases h
    exact hp
  | succ f ih =>
    intro n c s s' m hp h
    cases hg : (decide (48 ≤ c) && decide (c ≤ 57)) with
    | false =>
      rw [digits_stop f n c s hg] at h
      cases h
      exact hp
    | true =>
      rw [digits_step f n c s hg] at h
      obtain ⟨hc0, hc1⟩ := digit_guard c hg
      cases hr : viRead s with
      | ok c' s1 => rw [hr] at h; exact ih _ _ _ _ _ (step n c hp hc0 hc1) h
      | eof => rw [hr] at h; cases h
      | trap => rw [hr] at h; cases h

theorem digits_bounded : ∀ (f : Nat) (n c : Int) (s s' : VS) (m : Int),
    0 ≤ n → n ≤ 999999999 → viPrefix.digits f n c s = Res.ok m s' → 0 ≤ m ∧ m ≤ 999999999 :=
  fun f n c s s' m h0 h1 h =>
    digits_inv (P := fun k => 0 ≤ k ∧ k ≤ 999999999) (fun k d hk hd0 hd1 => digit_acc k d hk.1 hk.2 hd0 hd1)
      f n c s s' m ⟨h0, h1⟩ h

/-- the loop never decreases its accumulator -/
theorem digits_mono : ∀ (f : Nat) (n c : Int) (s s' : VS) (m : Int),
    0 ≤ n → viPrefix.digits f n c s = Res.ok m s' → n ≤ m :=
  fun f n c s s' m h0 h =>
    (digits_inv (P := fun k => 0 ≤ k ∧ n ≤ k) (fun k d hk hd0 hd1 => by split <;> omega)
      f n c s s' m ⟨h0, Int.le_refl n⟩ h).2

/-! ### the loop with the C range checked -/

/-- `viPrefix.digits` with a trap wherever the C code would leave `int`: at `n * 10`, at `n * 10 + c`
    (the order in which C evaluates `n * 10 + c - '0'`), at `c - '0'` and at the result -/
def digitsChk : Nat → Int → Int → M Int
  | 0, n, c => do viBack c; pure n
  | f + 1, n, c => if 48 ≤ c && c ≤ 57 then do
      let c' ← viRead
      if n < 100000000 then
        if FitsInt (n * 10) ∧ FitsInt (n * 10 + c) ∧ FitsInt (c - 48) ∧ FitsInt (n * 10 + (c - 48)) then
          digitsChk f (n * 10 + (c - 48)) c'
        else trap
      else digitsChk f n c'
    else do viBack c; pure n

theorem digitsChk_eq : ∀ (f : Nat) (n c : Int), 0 ≤ n → n ≤ 999999999 →
    digitsChk f n c = viPrefix.digits f n c := by
  intro f
  induction f with
  | zero => intro n c _ _; unfold digitsChk viPrefix.digits; rfl
  | succ f ih =>
    intro n c h0 h1
    funext s
    cases hg : (decide (48 ≤ c) && decide (c ≤ 57)) with
    | false =>
      rw [digits_stop f n c s hg]
      unfold digitsChk
      simp only [hg]
      rfl
    | true =>
      rw [digits_step f n c s hg]
      obtain ⟨hc0, hc1⟩ := digit_guard c hg
      obtain ⟨k0, k1⟩ := digit_acc n c h0 h1 hc0 hc1
      unfold digitsChk
      simp only [hg, if_true]
      rw [bind_apply]
      cases hr : viRead s with
      | eof => rfl
      | trap => rfl
      | ok c' s1 =>
        simp only []
        by_cases hn : n < 100000000
        · have hfit : FitsInt (n * 10) ∧ FitsInt (n * 10 + c) ∧ FitsInt (c - 48) ∧ FitsInt (n * 10 + (c - 48)) := by
            unfold FitsInt; omega
          simp only [hn, if_true, hfit, and_self] at k0 k1 ⊢
          rw [ih _ _ k0 k1]
        · simp only [hn, if_false] at k0 k1 ⊢
          rw [ih _ _ k0 k1]

/-! ### `vi_prefix()` -/

theorem viPrefix_eq (s : VS) : viPrefix s =
    match viRead s with
    | Res.ok c s1 =>
      if 49 ≤ c && c ≤ 57 then viPrefix.digits 64 0 c s1
      else Res.ok 0 { s1 with vibuf := c :: s1.vibuf }
    | Res.eof => Res.eof
    | Res.trap => Res.trap := by
  unfold viPrefix
  rw [bind_apply]
  cases viRead s with
  | eof => rfl
  | trap => rfl
  | ok c s1 =>
    simp only []
    split <;> rfl

/-- `vi_prefix()` returns a count of at most nine digits -/
theorem viPrefix_bounded (s s' : VS) (n : Int) (h : viPrefix s = Res.ok n s') :
    0 ≤ n ∧ n ≤ 999999999 := by
  rw [viPrefix_eq] at h
  cases hr : viRead s with
  | eof => rw [hr] at h; cases h
  | trap => rw [hr] at h; cases h
  | ok c s1 =>
    rw [hr] at h
    simp only [] at h
    split at h
    · exact digits_bounded _ _ _ _ _ _ (by omega) (by omega) h
    · cases h; omega

/-- `vi_prefix()` with the `int` range checked at every arithmetic operation -/
def viPrefixChk : M Int := do
  let c ← viRead
  if 49 ≤ c && c ≤ 57 then digitsChk 64 0 c
  else
    viBack c
    pure 0

/-- both counts of the state are what `vi_prefix()` can deliver -/
def CountsFit (s : VS) : Prop := 0 ≤ s.arg1 ∧ s.arg1 ≤ 999999999 ∧ 0 ≤ s.arg2 ∧ s.arg2 ≤ 999999999

/-! ### `vi_cnt()` and the page count -/

/-- a factor of `vi_cnt()`: the count, or 1 when none was typed -/
theorem factor_bounded (a : Int) (h0 : 0 ≤ a) (h1 : a ≤ 999999999) :
    1 ≤ (if a != 0 then a else 1) ∧ (if a != 0 then a else 1) ≤ 999999999 := by
  by_cases h : a = 0
  · subst h; simp
  · have : (a != 0) = true := by simpa using h
    simp only [this, if_true]
    omega

theorem prod_bounded (a b : Int) (ha0 : 1 ≤ a) (ha1 : a ≤ 999999999) (hb0 : 1 ≤ b) (hb1 : b ≤ 999999999) :
    1 ≤ a * b ∧ a * b ≤ 999999999 * 999999999 := by
  constructor
  · have := Int.mul_le_mul ha0 hb0 (by omega) (by omega)
    omega
  · exact Int.mul_le_mul ha1 hb1 (by omega) (by omega)

theorem page_bounded (a1 len rows : Int) (hlen : 0 ≤ len) (hrows : 1 ≤ rows) (hfit : len * rows < 2147483648) :
    0 ≤ min (max 1 a1) len * (rows - 1) ∧ min (max 1 a1) len * (rows - 1) < 2147483648 ∧
    0 ≤ min (max 1 a1) len ∧ min (max 1 a1) len ≤ len := by
  have hm0 : 0 ≤ min (max 1 a1) len := by omega
  have hm1 : min (max 1 a1) len ≤ len := by omega
  refine ⟨Int.mul_nonneg hm0 (by omega), ?_, hm0, hm1⟩
  have h1 : min (max 1 a1) len * (rows - 1) ≤ len * (rows - 1) :=
    Int.mul_le_mul_of_nonneg_right hm1 (by omega)
  have h2 : len * (rows - 1) ≤ len * rows :=
    Int.mul_le_mul_of_nonneg_left (by omega) hlen
  omega

end Neatvi.Lemmas.C05b
