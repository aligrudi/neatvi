import NeatviVerif.Lemmas.C05bVi
import NeatviVerif.Lemmas.C07Frame
import NeatviVerif.Lemmas.ViPresCmd
/-!
# C05c helper lemmas: the two counts of the state are a frame of (almost) every function of vi.c

`Same m`: a computation that returns normally leaves `VS.arg1` and `VS.arg2` as they were.  That is to keep every
predicate that reads only the counts (`CountsOnly P`; `Same.pres`, `Same.of_counts`), and in that form the functions
are followed by `pres_walk` of `Lemmas/ViPres`, once for `Same` and for `CountsFit`.

This file has the leaves that write the `Ed` component or need an argument of their own (`edEdit`, `exCommandV`, `ledLine`,
`viMotion`); the functions that only read keys are `ViPres.pres_f hP.blind`; of the commands of `Model/ViCmd.lean` the cursor functions, insert mode, the
operators and what `vi()` does around the commands are walked in `Lemmas/ViPres.lean` and `Lemmas/ViPresCmd.lean` for every
predicate with the right leaves (`CountsOnly.cblind`, `CountsOnly.ops`, `CountsOnly.loop`); `counts_viPost` is walked here.
`Same` fails
of the two that assign a count (`viPre` twice, `vcMotion` once) and of the two that call them (`commandTail`,
`viStep`); for those `Props/C05c.lean` proves the weaker `PresFit` (the counts stay within their bounds).
-/

namespace Neatvi.Lemmas.C05c
open Neatvi Neatvi.Uc Neatvi.Lbuf Neatvi.Ex Neatvi.Mot Neatvi.Vi
open Neatvi.Lemmas.C05b

/-- a computation that returns normally leaves both counts alone -/
def Same {α : Type} (m : M α) : Prop :=
  ∀ s a s', m s = Res.ok a s' → s'.arg1 = s.arg1 ∧ s'.arg2 = s.arg2

export Neatvi.Lemmas.C07 (bind_inv)

def counts (s : VS) : Int × Int := (s.arg1, s.arg2)

/-- `P` reads nothing of the state but the two counts -/
abbrev CountsOnly (P : VS → Prop) : Prop := ViPres.Reads counts P

namespace CountsOnly
variable {P : VS → Prop} (hP : CountsOnly P)
include hP

theorem mblind : ViPres.MBlind P := hP.factor fun _ => rfl
theorem blind : ViPres.Blind P := hP.factor fun _ => rfl
theorem cblind : ViPres.CBlind P := hP.factor fun _ => rfl

theorem withEd (f : Ed → Ed) : ViPres.Pres P (Vi.withEd f) := hP.modify fun _ => rfl

end CountsOnly

namespace Same

theorem pres {α : Type} {m : M α} (h : Same m) {P : VS → Prop} (hP : CountsOnly P) : ViPres.Pres P m :=
  fun s a s' hs hm => hP s s' (Prod.ext (h s a s' hm).1 (h s a s' hm).2) hs

theorem of_counts {α : Type} {m : M α} (h : ∀ {P : VS → Prop}, CountsOnly P → ViPres.Pres P m) : Same m :=
  fun s a s' hm => Prod.mk.inj (h (ViPres.Reads.eq counts (counts s)) s a s' rfl hm)

theorem modify {f : VS → VS} (hf : ∀ s, (f s).arg1 = s.arg1 ∧ (f s).arg2 = s.arg2) : Same (Vi.modify f) := by
  intro s a s' h
  cases h
  exact hf s

end Same

/-! ### what keeps every predicate that reads only the counts

`counts_f hP : ViPres.Pres P (f …)` for `hP : CountsOnly P`; `Same.of_counts counts_f : Same (f …)` reads it as a frame fact.
The functions that only read keys, the searches and `viMotionln` need no lemma here: `ViPres.pres_f hP.blind` (`hP.mblind`). -/

section
variable {P : VS → Prop} (hP : CountsOnly P)
include hP

theorem counts_setMsg (m : Bytes) : ViPres.Pres P (setMsg m) := hP.modify fun _ => rfl
theorem counts_markSet (c : Nat) (r o : Int) : ViPres.Pres P (markSet c r o) := hP.withEd _
theorem counts_regPut (c : Nat) (txt : Bytes) (ln : Nat) : ViPres.Pres P (regPut c txt ln) := hP.withEd _
theorem counts_lbufModified : ViPres.Pres P lbufModified := hP.withEd _

theorem counts_edEdit (txt : Option Bytes) (b e : Int) : ViPres.Pres P (edEdit txt b e) := by
  refine Same.pres (fun s a s' h => ?_) hP
  unfold edEdit at h
  split at h
  · cases h; exact ⟨rfl, rfl⟩
  · cases h

/-- `ex_command` from the vi loop works on `VS.ed` (and the `xai` / `unmodelled` flags) only -/
theorem counts_exCommandV (ln : Bytes) : ViPres.Pres P (exCommandV ln) := by
  refine Same.pres (fun s a s' h => ?_) hP
  rcases C09.exCommandV_inv h with rfl | ⟨a, u, ed, he, rfl⟩ <;> exact ⟨rfl, rfl⟩

theorem counts_ledLine (pref post ai0 : Bytes) (aiMax : Nat) (im ex : Bool) :
    ViPres.Pres P (ledLine pref post ai0 aiMax im ex) :=
  ViPres.pres_ledLine hP.blind _ _ _ _ _ _ fun _ s _ hs => hP s _ rfl hs

theorem CountsOnly.ops : ViPres.OpLeaves P :=
  ⟨hP.cblind, counts_edEdit hP, counts_regPut hP, counts_ledLine hP⟩

theorem counts_viMotion (row off : Int) : ViPres.Pres P (viMotion row off) :=
  ViPres.pres_viMotion hP.mblind row off fun _ _ => hP.modify fun _ => rfl

theorem CountsOnly.loop : ViPres.LoopLeaves P :=
  ⟨hP.cblind, counts_ledLine hP, counts_markSet hP, hP.withEd _, fun _ => hP.modify fun _ => rfl,
    fun _ _ => hP.modify fun _ => rfl, hP.modify fun _ => rfl⟩

theorem counts_viPost (cont : Option Nat) : ViPres.Pres P (viPost cont) := by
  unfold viPost
  pres_walk [ViPres.pres_viWfix hP.cblind, ViPres.pres_viWait hP.loop, counts_lbufModified hP, hP.modify, hP.withEd]

end

theorem same_viPrefix : Same viPrefix := Same.of_counts fun hP => ViPres.pres_viPrefix hP.blind

end Neatvi.Lemmas.C05c
