import NeatviVerif.Lemmas.C05dEd
import NeatviVerif.Lemmas.ExHandlers
/-!
# C05d lemmas, part 3: every handler of the dispatcher keeps the position invariant

`runCmd_pos`: one call of a handler.  With a cap `M = some m` on the rows the length of the current buffer after the
call has to be under the cap (`LenLe M ed'.len`); without a cap (`M = none`) there is no side condition.

The handlers that set the current row (`runCmd_sets`) put it inside the buffer they leave, `RowIn`, when they succeed;
that is why the length after the call is all the cap has to bound.  The handlers on the current buffer are walked in
`Lemmas/ExHandlers.lean`: `Did.posOk` says what their steps do to the invariant and `local_pos` reads it off (`:r`, `:s`
off `ecRead_run`, `ecSubst_run`); `:w` reads `C02b.ecWrite_cases`, the loop of `:q` `C02b.each_rel`; `:! :b`, `:u :redo` are
walked here.
-/
namespace Neatvi.Lemmas.C05d
open Neatvi Neatvi.Lbuf Neatvi.Ex Neatvi.Rset Neatvi.Spec Neatvi.Lemmas.ExFrame Neatvi.Lemmas.C02Ex
open Neatvi.Lemmas.Hist

variable {M : Option Int}

/-- the row is inside the buffer, in the wide sense: `-1` (before the first line) up to `len` (after the last) -/
def RowIn (ed : Ed) : Prop := -1 ≤ ed.xrow ∧ ed.xrow ≤ ed.len

open Neatvi.Lemmas.ExDid in
theorem _root_.Neatvi.Lemmas.ExDid.Did.posOk {T : Ed → Bytes → Prop} {L : Prop} {n : Int} {e : Bool} {a b : Ed}
    (h : Did T L n a e b) (hp : PosOk M a) (hl : LenLe M n) : PosOk M b := by
  induction h with
  | refl => exact hp
  | addr _ ha hr _ ih => exact ih.reg ⟨ha.bufs, by obtain ⟨_, _, _, rfl⟩ := ha; rfl, hr⟩
  | look _ hs ih => obtain ⟨_, _, _, _, _, _, _, rfl⟩ := hs; exact ih.to rfl rfl rfl
  | edit s x y _ _ _ _ he ih => exact (posOk_edit ih he).1
  | yank k x y i _ ih => exact ih.to rfl rfl rfl
  | reg k t i _ _ ih => exact ih.to rfl rfl rfl
  | mark c p o _ hl' h0 h1 ih => exact posOk_setLb ih (lbPos_setMark (ih.lbPos hl') c p o ⟨h0, h1⟩)
  | row r _ h0 h1 ih => exact ih.row rfl (RowOk.of_le h0 h1 hl) rfl
  | down _ h1 ih =>
    have h0 := ih.xrow.1
    exact ih.row rfl (RowOk.of_le (r := _ + 1) (by omega) (Int.le_of_lt h1) hl) rfl
  | col o _ h0 ih => exact ⟨ih.cap, ih.xrow, h0, ih.tab⟩

theorem local_pos (f : Nat) {ed ed' : Ed} {hd : String} {loc cmd arg : Bytes} {txt : Option Bytes} {r : Int}
    (hn : hd ∉ ["ec_undo", "ec_redo", "ec_at", "ec_glob", "ec_edit", "ec_substitute", "ec_exec", "ec_read", "ec_write",
      "ec_quit", "ec_buffer"])
    (hi : PosOk M ed) (h : runCmd (f + 1) ed hd loc cmd arg txt = some (r, ed')) (hl : LenLe M ed'.len) :
    PosOk M ed' ∧ (Lemmas.C05e.setsRow hd = true → r = 0 → RowIn ed') :=
  have hp := (Lemmas.C05e.local_run f ed hd loc cmd arg txt hn).post _ h
  ⟨hp.1.posOk hi hl, hp.2⟩

theorem fr_argPath {ed ed1 : Ed} {arg : Bytes} {path : Option Bytes}
    (hp : (if (!arg.isEmpty) = true then pathExpand ed arg true else some (ed.cur.map (·.path), ed)) = some (path, ed1)) :
    Fr ed ed1 := by
  split at hp
  · exact fr_pathExpand hp
  · cases hp; exact Fr.refl _

/-! ### `:w` -/

theorem posOk_unmodelled_if {ed : Ed} (c : Prop) [Decidable c] (h : PosOk M ed) :
    PosOk M (if c then { ed with unmodelled := true } else ed) := by
  split
  · exact h.to rfl rfl rfl
  · exact h

theorem writeFinish_pos {ed ed' : Ed} {cur : Buf} {path : Bytes} {b e r : Int} (h : PosOk M ed) (hc : BufPos M cur)
    (hw : writeFinish ed cur path b e = some (r, ed')) : PosOk M ed' := by
  obtain ⟨c3, ed6, hl, h36, h3⟩ := Lemmas.C02Ex.writeFinish_cases hw
  have h6 : PosOk M ed6 := by
    rcases h36 with ⟨_, e⟩ | ⟨_, e⟩ <;> rw [e]
    · exact h
    · exact h.to rfl rfl rfl
  have hc3 : BufPos M c3 := by
    rcases h36 with ⟨e, _⟩ | ⟨e, _⟩ <;> rw [e]
    · exact hc
    · exact ⟨hc.lb, hc.row, hc.off⟩
  have key : ∀ lb t, LbPos lb → PosOk M (ed6.setCur { c3 with lb := lb, mtime := t }) :=
    fun lb t hlb => posOk_setCur h6 ⟨hlb, hc3.row, hc3.off⟩
  rcases h3 with ⟨_, _, _, e⟩ | e | e <;> rw [e]
  · exact key _ _ (by rw [hl]; exact lbPos_modified (lbPos_savedCore hc.lb false))
  · exact key _ _ (by rw [hl]; exact lbPos_unsavedMark hc.lb)
  · exact posOk_setCur h hc

theorem ecWrite_pos {ed ed' : Ed} {loc cmd arg : Bytes} {r : Int} (h : PosOk M ed)
    (hw : ecWrite ed loc cmd arg = some (r, ed')) : PosOk M ed' := by
  obtain ⟨path, ed1, hp, ed2, h2, h3⟩ := Lemmas.C02b.ecWrite_cases hw
  have h1 : PosOk M ed1 := h.fr (fr_argPath hp)
  have hk2 : PosOk M ed2 := by
    rcases h2 with rfl | ⟨_, rfl⟩
    · exact h1
    · exact posOk_modifiedAt 0 h1
  rcases h3 with rfl | ⟨rg, ed3, hr, h3⟩
  · exact hk2
  have hk3 : PosOk M ed3 := hk2.reg (exRegion_ok hr).1
  rcases h3 with rfl | ⟨p, cur, b, e, rfl, hcur, hs⟩
  · exact hk3
  rcases Lemmas.C02b.writeSave_cases hcur hs with ⟨_, rfl | ⟨m, rfl⟩⟩ | ⟨_, ts, x, ed4, hsv, hx⟩
  · exact hk3
  · exact posOk_unmodelled_if _ (hk3.fr (fr_show _ _))
  · have hk4 : PosOk M ed4 := hk3.fr (fr_lbufSaveP hsv)
    rcases hx with ⟨err, _, rfl⟩ | ⟨_, m, hf⟩
    · exact hk4.fr (fr_show _ _)
    · exact writeFinish_pos (hk4.fr (fr_show ed4 m)) (hk3.curPos hcur) hf

theorem each_pos (cmd : Bytes) (all : Bool) (g i : Nat) (ed ed' : Ed) (r : Bool) (hi : PosOk M ed)
    (h : runCmd.each cmd all g i ed = some (r, ed')) : PosOk M ed' :=
  Lemmas.C02b.each_rel (Rel := fun a b => PosOk M a → PosOk M b) (fun _ h => h) (fun h1 h2 h => h2 (h1 h))
    (fun hm h => posOk_bufsModified h hm) (fun _ _ _ h => posOk_bufsSwitch _ h)
    (fun _ hs h => h.fr (fr_lbufSaveP hs)) (fun _ _ h => h.fr (fr_show _ _)) cmd all g i ed ed' r h hi

/-! ### the handlers that set the current row -/

theorem runCmd_sets (f : Nat) {ed ed' : Ed} {hd : String} {loc cmd arg : Bytes} {txt : Option Bytes} {r : Int}
    (hh : hd = "ec_insert" ∨ hd = "ec_print" ∨ hd = "ec_null" ∨ hd = "ec_delete" ∨ hd = "ec_put" ∨ hd = "ec_read")
    (hi : PosOk M ed) (h : runCmd (f + 1) ed hd loc cmd arg txt = some (r, ed')) (hl : LenLe M ed'.len) :
    PosOk M ed' ∧ (r = 0 → RowIn ed') := by
  have lp : hd ∉ ["ec_undo", "ec_redo", "ec_at", "ec_glob", "ec_edit", "ec_substitute", "ec_exec", "ec_read", "ec_write",
      "ec_quit", "ec_buffer"] → Lemmas.C05e.setsRow hd = true → PosOk M ed' ∧ (r = 0 → RowIn ed') :=
    fun hn hs => ⟨(local_pos f hn hi h hl).1, (local_pos f hn hi h hl).2 hs⟩
  rcases hh with rfl | rfl | rfl | rfl | rfl | rfl
  · exact lp (by decide) rfl
  · exact lp (by decide) rfl
  · exact lp (by decide) rfl
  · exact lp (by decide) rfl
  · exact lp (by decide) rfl
  · rw [Lemmas.C20c.runCmd_read] at h
    have hp := (Lemmas.C05e.ecRead_run (fun _ _ => True) (fun _ _ _ => trivial) ed loc arg).post _ h
    exact ⟨hp.1.posOk hi hl, hp.2 rfl⟩

theorem runCmd_row_in (f : Nat) (ed ed' : Ed) (hd : String) (loc cmd arg : Bytes) (txt : Option Bytes)
    (hh : hd = "ec_insert" ∨ hd = "ec_print" ∨ hd = "ec_null" ∨ hd = "ec_delete" ∨ hd = "ec_put" ∨ hd = "ec_read")
    (hi : PosOk none ed) (h : runCmd (f + 1) ed hd loc cmd arg txt = some (0, ed')) : RowIn ed' :=
  (runCmd_sets f hh hi h (lenLe_none _)).2 rfl

/-! ### the handlers that leave the row where address evaluation put it -/

theorem fr_sPrep (ed : Ed) (arg : Bytes) : Fr ed (substPrep ed arg).1 := by
  obtain ⟨r, e⟩ := Lemmas.C05e.sPrep_shape ed arg
  rw [e]
  exact (fr_of_kwOnly (Lemmas.C06.kw_kwOnly ed (reRead arg).1 1) :)

theorem runCmd_plain (f : Nat) {ed ed' : Ed} {hd : String} {loc cmd arg : Bytes} {txt : Option Bytes} {r : Int}
    (hh : hd = "ec_substitute" ∨ hd = "ec_quit" ∨ hd = "ec_write" ∨ hd = "ec_undo" ∨ hd = "ec_redo" ∨ hd = "ec_exec" ∨
      hd = "ec_buffer")
    (hi : PosOk M ed) (h : runCmd (f + 1) ed hd loc cmd arg txt = some (r, ed')) : PosOk M ed' := by
  rcases hh with rfl | rfl | rfl | rfl | rfl | rfl | rfl
  · obtain ⟨ed1, hd, hq⟩ :=
      (Lemmas.C05e.ecSubst_run (fun _ _ => True) f ed loc cmd arg txt (fun _ _ _ _ _ _ _ => trivial)).post _ h
    have e1 := (hd (fun _ _ => True) 0 false).posOk hi hi.row_zero.2
    rcases hq with hq | hq
    · cases hq; exact e1
    · exact (hq 0).posOk (e1.fr (fr_sPrep ed1 arg)) hi.row_zero.2
  · rw [runCmd_quit] at h
    split at h
    · cases h
    · rename_i rc ed1 hw
      have h1 : PosOk M ed1 := by
        split at hw
        · exact ecWrite_pos hi hw
        · cases hw; exact hi
      split at h
      · cases h; exact h1
      · split at h
        · cases h
        · rename_i he; cases h; exact each_pos _ _ _ _ _ _ _ h1 he
        · rename_i he; cases h; exact (each_pos _ _ _ _ _ _ _ h1 he).to rfl rfl rfl
  · rw [runCmd_write] at h
    exact ecWrite_pos hi h
  · rw [Lemmas.C20c.runCmd_undo, Lemmas.C20.ecHist] at h
    split at h
    · cases h
    · rename_i rc lb hu
      cases h
      cases hlb : ed.lb with
      | none => rw [hlb] at hu; cases hu
      | some lb0 =>
        rw [hlb] at hu
        exact posOk_setLb hi (lbPos_undo (hi.lbPos hlb) hu)
  · rw [Lemmas.C20c.runCmd_redo, Lemmas.C20.ecHist] at h
    split at h
    · cases h
    · rename_i rc lb hu
      cases h
      cases hlb : ed.lb with
      | none => rw [hlb] at hu; cases hu
      | some lb0 =>
        rw [hlb] at hu
        exact posOk_setLb hi (lbPos_redo (hi.lbPos hlb) hu)
  · rw [runCmd] at h
    simp only [String.reduceBEq, Bool.false_eq_true, ↓reduceIte, Bool.or_self] at h
    split at h
    · cases h
    · rename_i ed1 hg
      cases h
      exact posOk_guard hi hg
    · rename_i ed1 hg
      have e0 : PosOk M ed1 := posOk_guard hi hg
      split at h
      · cases h
      · rename_i ed2 hp
        cases h
        exact e0.fr (fr_pathExpand hp)
      · rename_i ecmd ed2 hp
        have e1 : PosOk M ed2 := e0.fr (fr_pathExpand hp)
        split at h
        · cases h; exact e1.to rfl rfl rfl
        · split at h
          · cases h
          · rename_i hr
            have e2 := e1.reg (exRegion_ok hr).1
            split at h
            · cases h; exact e2
            · split at h
              · cases h; exact e2.to rfl rfl rfl
              · cases h; exact e2
              · cases hx : Ed.edit _ _ _ _ with
                | none => rw [hx] at h; cases h
                | some edx =>
                  rw [hx] at h
                  cases h
                  exact (posOk_edit e2 hx).1
  · rw [runCmd] at h
    simp only [String.reduceBEq, Bool.false_eq_true, ↓reduceIte, Bool.or_self] at h
    -- the index `:b` computes is a large term and plays no role
    generalize (if isDigitC (arg.headD 0) = true then _ else _ : Int) = idx at h
    by_cases ca : arg.isEmpty = true
    · rw [if_pos ca] at h
      cases h
      refine Basics.foldl_inv (fun st : Bool × Ed => PosOk M st.2) _ ?_ _ _ hi
      intro st i hst
      obtain ⟨go, ed0⟩ := st
      simp only [] at hst ⊢
      split
      · exact hst
      · split
        · exact hst
        · have hm := posOk_modifiedAt i hst
          generalize ed0.modifiedAt i = p at hm
          obtain ⟨m, ed1⟩ := p
          exact hm.fr (fr_print _ _)
    rw [if_neg ca] at h
    by_cases cb : (arg.headD 0 == 33) = true
    · rw [if_pos cb] at h
      have e1 := posOk_bufsShift hi
      split at h
      · cases h
        exact ⟨e1.cap, e1.xrow, e1.xoff, tabPos_set e1.tab (bufPos_fresh e1 _ _)⟩
      · cases h; exact e1
    rw [if_neg cb] at h
    by_cases cc : (arg.headD 0 == 126) = true
    · rw [if_pos cc] at h
      cases h
      exact ⟨hi.cap, hi.xrow, hi.xoff, tabPos_renum hi.tab⟩
    rw [if_neg cc] at h
    split at h
    · split at h
      · cases h
      · rename_i hg
        cases h
        exact posOk_guard hi hg
      · rename_i hg
        cases h
        exact posOk_bufsSwitch _ (posOk_guard hi hg)
    · cases h; exact hi.fr (fr_show _ _)

theorem runCmd_pos (f : Nat) (ed ed' : Ed) (hd : String) (loc cmd arg : Bytes) (txt : Option Bytes) (r : Int)
    (hat : hd = "ec_at" → ∀ r ed', ecAt f ed loc cmd arg = some (r, ed') → PosOk M ed')
    (hglob : hd = "ec_glob" → ∀ r ed', ecGlob f ed loc cmd arg = some (r, ed') → PosOk M ed')
    (hedit : hd = "ec_edit" → ∀ r ed', ecEdit f ed cmd arg = some (r, ed') → PosOk M ed')
    (hi : PosOk M ed)
    (h : runCmd (f + 1) ed hd loc cmd arg txt = some (r, ed')) (hl : LenLe M ed'.len) : PosOk M ed' := by
  by_cases hn : hd ∈ ["ec_undo", "ec_redo", "ec_at", "ec_glob", "ec_edit", "ec_substitute", "ec_exec", "ec_read", "ec_write",
      "ec_quit", "ec_buffer"]
  · simp only [List.mem_cons, List.not_mem_nil, or_false] at hn
    rcases hn with rfl | rfl | rfl | rfl | rfl | rfl | rfl | rfl | rfl | rfl | rfl
    · exact runCmd_plain f (by simp) hi h
    · exact runCmd_plain f (by simp) hi h
    · rw [C20c.runCmd_at] at h
      exact hat rfl _ _ h
    · rw [C20c.runCmd_glob] at h
      exact hglob rfl _ _ h
    · rw [runCmd_edit] at h
      exact hedit rfl _ _ h
    · exact runCmd_plain f (by simp) hi h
    · exact runCmd_plain f (by simp) hi h
    · exact (runCmd_sets f (by simp) hi h hl).1
    · exact runCmd_plain f (by simp) hi h
    · exact runCmd_plain f (by simp) hi h
    · exact runCmd_plain f (by simp) hi h
  · exact (local_pos f hn hi h hl).1

end Neatvi.Lemmas.C05d
