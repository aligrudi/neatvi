import NeatviVerif.Lemmas.C02Ex
import NeatviVerif.Lemmas.C05eDec
/-!
# C05d lemmas, part 0: `ec_substitute` and `ec_glob` cut into pieces

Nothing here is a new model: every definition is a piece of the text of `runCmd` / `ecGlob` in `Model/ExCmd.lean`, and
`runCmd_subst_eq'` / `ecGlob_eq'` say that the function is the composition of its pieces (`ec_write`: `ecWrite_eq` of
`Lemmas/C20cStages.lean`).  The pieces of `:s` and the final sweep of `:g` are those of `Lemmas/C05eDec.lean`, exported into this
namespace.  `Props/C14.lean` reads the loop of `:s` off `C05e.sLoop` with the shift computed instead of carried (`C14.sLoop_eq`);
`Lemmas/C15Quiet.lean` cuts `:g` at the same places under the names the statements of C15 use (the same functions:
`C05g.gPrep_eq`, `C05g.gMark_eq` hold by `rfl`).

In the loop of `ec_substitute`, after each `lbuf_edit` the row index and the end of the range move by the change of the
buffer length, `i += n; end += n`.
-/
namespace Neatvi.Lemmas.C05d
open Neatvi Neatvi.Lbuf Neatvi.LbufIo Neatvi.Ex Neatvi.Rset Neatvi.Lemmas.C02Ex

export Neatvi.Lemmas.C05e (substPrep sStep sLoop runCmd_subst_eq' sLoop_succ gSweep)

/-- the prologue of `ec_glob`: the pattern is remembered -/
def gPrep (ed : Ed) (arg : Bytes) : Ed :=
  match (reRead arg).1 with
  | some p => if !p.isEmpty then ed.kwdSet (some p) 1 else ed
  | none => ed

/-- one level deeper, the lines `b+1 .. e-1` marked with bit `dep` -/
def gMark (ed : Ed) (b e : Int) (dep : Nat) : Ed :=
  (List.range (e - (b + 1)).toNat).foldl (fun (ed : Ed) k =>
    match ed.lb with | some lb => ed.setLb (globSet lb (b.toNat + 1 + k) dep) | none => ed) { ed with xgdep := dep }

/-- the step budget of the scan -/
def gBudget (ed : Ed) : Nat := 4 * (ed.len.toNat + 4) * (ed.len.toNat + 4) + 64

theorem ecGlob_eq' (f : Nat) (ed : Ed) (loc cmd arg : Bytes) :
    ecGlob (f + 1) ed loc cmd arg =
      if ed.xgdep ≥ 7 then some ((1 : Int), ed.show (strOf "global commands nested too deep")) else
      match exRegion ed (if loc.isEmpty && ed.xgdep == 0 then [37] else loc) with
      | none => none
      | some ((rc, b, e), ed) =>
        if rc != 0 then some (1, ed) else
        if (gPrep ed arg).xkwddir == 0 then some (1, gPrep ed arg) else
        match (gPrep ed arg).mkRe (gPrep ed arg).xkwd with
        | none => none
        | some none => some (1, gPrep ed arg)
        | some (some re) =>
          match ecGlob.scan f (hasBang cmd || cmd.headD 0 == 118) (reRead arg).2 re ((gPrep ed arg).xgdep + 1)
              (gBudget (gMark (gPrep ed arg) b e ((gPrep ed arg).xgdep + 1)))
              (gMark (gPrep ed arg) b e ((gPrep ed arg).xgdep + 1)) b with
          | none => none
          | some ed2 =>
            some (0, { gSweep ed2 ((gPrep ed arg).xgdep + 1) with xgdep := (gPrep ed arg).xgdep + 1 - 1 }) := by
  rw [ecGlob]
  rfl

end Neatvi.Lemmas.C05d
