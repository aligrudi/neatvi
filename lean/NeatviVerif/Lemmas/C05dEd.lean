import NeatviVerif.Lemmas.C05dLb
import NeatviVerif.Lemmas.C05dDecomp
import NeatviVerif.Lemmas.ExFrame
import NeatviVerif.Lemmas.ExDid
import NeatviVerif.Lemmas.C05bRegion
import NeatviVerif.Lemmas.C20bTable
/-!
# C05d lemmas, part 2: the position invariant of the ex layer and the primitive operations on the state

`PosOk M ed`: the current row is at least `-1`, the current column at least `0`, every buffer of the table keeps its
marks inside itself (`LbPos`) and its parked row / column at least `-1` / `0`; under a cap `M = some m` no row exceeds `m`.
-/
namespace Neatvi.Lemmas.C05d
open Neatvi Neatvi.Lbuf Neatvi.LbufIo Neatvi.Ex Neatvi.Spec Neatvi.Lemmas.ExFrame Neatvi.Lemmas.C02Ex
open Neatvi.Lemmas.Hist
open Neatvi.Lemmas.C20b (AllB)

/-- a row under the cap `M`: at least `-1`, and at most `m` when `M = some m` (`M = none`: no upper bound) -/
def RowOk (M : Option Int) (r : Int) : Prop := -1 ≤ r ∧ ∀ m, M = some m → r ≤ m

/-- the number `n` (a buffer length) is under the cap -/
def LenLe (M : Option Int) (n : Int) : Prop := ∀ m, M = some m → n ≤ m

theorem lenLe_none (n : Int) : LenLe none n := by intro m h; cases h

theorem rowOk_none {r : Int} (h : -1 ≤ r) : RowOk none r := ⟨h, by intro m hm; cases hm⟩

theorem RowOk.of_le {M : Option Int} {r n : Int} (h0 : -1 ≤ r) (h1 : r ≤ n) (hn : LenLe M n) : RowOk M r :=
  ⟨h0, fun m hm => Int.le_trans h1 (hn m hm)⟩

/-- a slot of the buffer table: its line buffer keeps its marks inside, the row and column parked by
    `bufs_save()` are at least `-1` and `0` (the row under the cap) -/
structure BufPos (M : Option Int) (b : Buf) : Prop where
  lb : LbPos b.lb
  row : RowOk M b.row
  off : 0 ≤ b.off

/-- the table part of the invariant -/
def TabPos (M : Option Int) (bufs : List (Option Buf)) : Prop := ∀ b, some b ∈ bufs → BufPos M b

/-- **the position invariant of the ex layer**, with an optional cap `M` on the rows (a cap is at least `NUMMAX`,
    the largest line number an address can set the current row to) -/
structure PosOk (M : Option Int) (ed : Ed) : Prop where
  cap : ∀ m, M = some m → NUMMAX ≤ m
  xrow : RowOk M ed.xrow
  xoff : 0 ≤ ed.xoff
  tab : TabPos M ed.bufs

theorem PosOk.row_zero {M : Option Int} {ed : Ed} (h : PosOk M ed) : RowOk M 0 :=
  ⟨by decide, fun m hm => by have := h.cap m hm; unfold NUMMAX at this; omega⟩

theorem PosOk.row_reg {M : Option Int} {ed : Ed} (h : PosOk M ed) {b : Int} (h0 : -1 ≤ b)
    (h1 : b ≤ max NUMMAX ed.xrow) : RowOk M b :=
  ⟨h0, fun m hm => by have a := h.cap m hm; have c := h.xrow.2 m hm; omega⟩

theorem PosOk.row_num {M : Option Int} {ed : Ed} (h : PosOk M ed) {r : Int} (h0 : -1 ≤ r) (h1 : r ≤ NUMMAX) : RowOk M r :=
  ⟨h0, fun m hm => Int.le_trans h1 (h.cap m hm)⟩

variable {M : Option Int}

/-- `ed'` differs from `ed` in nothing the invariant reads -/
def Fr (ed ed' : Ed) : Prop := ed'.bufs = ed.bufs ∧ ed'.xrow = ed.xrow ∧ ed'.xoff = ed.xoff

theorem Fr.refl (ed : Ed) : Fr ed ed := ⟨rfl, rfl, rfl⟩
theorem Fr.len {a b : Ed} (h : Fr a b) : b.len = a.len := len_of_bufs h.1
theorem Fr.lb {a b : Ed} (h : Fr a b) : b.lb = a.lb := lb_of_bufs h.1
theorem Fr.cur {a b : Ed} (h : Fr a b) : b.cur = a.cur := cur_congr h.1

theorem PosOk.fr {ed ed' : Ed} (h : PosOk M ed) (f : Fr ed ed') : PosOk M ed' :=
  ⟨h.cap, by rw [f.2.1]; exact h.xrow, by rw [f.2.2]; exact h.xoff, by rw [f.1]; exact h.tab⟩

theorem PosOk.to {ed ed' : Ed} (h : PosOk M ed) (h1 : ed'.bufs = ed.bufs) (h2 : ed'.xrow = ed.xrow)
    (h3 : ed'.xoff = ed.xoff) : PosOk M ed' := h.fr ⟨h1, h2, h3⟩

theorem PosOk.row {ed ed' : Ed} (h : PosOk M ed) (h1 : ed'.bufs = ed.bufs) (h2 : RowOk M ed'.xrow)
    (h3 : ed'.xoff = ed.xoff) : PosOk M ed' :=
  ⟨h.cap, h2, by rw [h3]; exact h.xoff, by rw [h1]; exact h.tab⟩

theorem PosOk.row0 {ed ed' : Ed} (h : PosOk M ed) (h1 : ed'.bufs = ed.bufs) (h2 : RowOk M ed'.xrow)
    (h3 : ed'.xoff = 0) : PosOk M ed' :=
  ⟨h.cap, h2, by rw [h3]; exact Int.le_refl 0, by rw [h1]; exact h.tab⟩

/-! ### the table -/

theorem tabPos_replicate (n : Nat) : TabPos M (List.replicate n none) := by
  intro b hb
  rw [List.mem_replicate] at hb
  cases hb.2

theorem tabPos_set {bufs : List (Option Buf)} {i : Nat} {x : Buf} (h : TabPos M bufs) (hx : BufPos M x) :
    TabPos M (bufs.set i (some x)) := AllB.set (Q := BufPos M) h i hx

theorem tabPos_getD {bufs : List (Option Buf)} {i : Nat} {b : Buf} (h : TabPos M bufs)
    (hb : bufs.getD i none = some b) : BufPos M b := h b (Props.C20.mem_of_getD _ _ _ hb).1

theorem PosOk.curPos {ed : Ed} {b : Buf} (h : PosOk M ed) (hc : ed.cur = some b) : BufPos M b := tabPos_getD h.tab hc

theorem PosOk.lbPos {ed : Ed} {lb : Lb} (h : PosOk M ed) (hl : ed.lb = some lb) : LbPos lb := by
  unfold Ed.lb at hl
  cases hc : ed.cur with
  | none => rw [hc] at hl; cases hl
  | some b => rw [hc] at hl; cases hl; exact (h.curPos hc).lb

theorem posOk_setCur {ed : Ed} {b : Buf} (h : PosOk M ed) (hb : BufPos M b) : PosOk M (ed.setCur b) :=
  ⟨h.cap, h.xrow, h.xoff, tabPos_set h.tab hb⟩

theorem posOk_setLb {ed : Ed} {lb : Lb} (h : PosOk M ed) (hl : LbPos lb) : PosOk M (ed.setLb lb) := by
  unfold Ed.setLb
  split
  · rename_i b hc
    exact posOk_setCur h ⟨hl, (h.curPos hc).row, (h.curPos hc).off⟩
  · exact h

theorem setLb_fr_pos (ed : Ed) (lb : Lb) : (ed.setLb lb).xrow = ed.xrow ∧ (ed.setLb lb).xoff = ed.xoff := by
  unfold Ed.setLb; split <;> exact ⟨rfl, rfl⟩

theorem posOk_updLb {ed : Ed} (F : Lb → Lb) (hF : ∀ lb, LbPos lb → LbPos (F lb)) (h : PosOk M ed) :
    PosOk M (match ed.lb with | some lb => ed.setLb (F lb) | none => ed) := by
  cases hl : ed.lb with
  | none => exact h
  | some lb => exact posOk_setLb h (hF lb (h.lbPos hl))

/-! ### `lbuf_edit` on the current buffer -/

theorem lbuf_edit_len {lb lb' : Lb} {buf : Option Bytes} {b e : Nat} (he : Lbuf.edit lb buf b e = some lb') :
    min b lb.lines.length ≤ min e lb.lines.length ∧
    lb'.lines.length + min e lb.lines.length = lb.lines.length + min b lb.lines.length + (optLines buf).length := by
  obtain ⟨hle, ⟨h1, rfl, rfl⟩ | he⟩ := Lemmas.C06.edit_cases he
  · simp only [optLines, List.length_nil]
    omega
  · obtain ⟨hle', hl⟩ := replace_lines_length _ _ _ _ _ he
    have hL : (opt lb buf (min b lb.lines.length) (min e lb.lines.length - min b lb.lines.length)).lines.length =
        lb.lines.length := rfl
    rw [hL] at hle' hl
    omega

theorem setLb_len {ed : Ed} {lb0 lb : Lb} (h : ed.lb = some lb0) : (ed.setLb lb).len = lb.lines.length := by
  unfold Ed.len
  rw [setLb_lb, h]
  rfl

theorem edit_len {ed ed' : Ed} {s : Option Bytes} {b e : Int} (he : ed.edit s b e = some ed') :
    0 ≤ b ∧ 0 ≤ e ∧ min b ed.len ≤ min e ed.len ∧
      ed'.len = ed.len - (min e ed.len - min b ed.len) + (optLines s).length := by
  obtain ⟨hb, he0, lb, lb', hlb, hed, rfl, _⟩ := Ed_edit_some he
  obtain ⟨h1, h2⟩ := lbuf_edit_len hed
  have hlen : ed.len = lb.lines.length := by unfold Ed.len; rw [hlb]
  have key : ∀ x : Int, 0 ≤ x → min x (lb.lines.length : Int) = (min x.toNat lb.lines.length : Nat) :=
    fun x hx => by omega
  rw [setLb_len hlb, hlen, key b hb, key e he0]
  generalize min b.toNat lb.lines.length = mb at h1 h2 ⊢
  generalize min e.toNat lb.lines.length = me at h1 h2 ⊢
  exact ⟨hb, he0, by omega, by omega⟩

theorem posOk_edit {ed ed' : Ed} {s : Option Bytes} {b e : Int} (h : PosOk M ed) (he : ed.edit s b e = some ed') :
    PosOk M ed' ∧ 0 ≤ b ∧ 0 ≤ e ∧ min b ed.len ≤ min e ed.len ∧
      ed'.len = ed.len - (min e ed.len - min b ed.len) + (optLines s).length := by
  refine ⟨?_, edit_len he⟩
  obtain ⟨_, _, lb, lb', hlb, hed, rfl, _⟩ := Ed_edit_some he
  exact posOk_setLb h (lbPos_edit (h.lbPos hlb) _ _ _ hed)

/-! ### frames: what does not touch the table, the row, the column -/

theorem fr_show (ed : Ed) (m : Bytes) : Fr ed (ed.show m) := ⟨rfl, rfl, rfl⟩
theorem fr_print (ed : Ed) (m : Bytes) : Fr ed (ed.print m) := ⟨rfl, rfl, rfl⟩
theorem fr_kwdSet (ed : Ed) (k : Option Bytes) (d : Int) : Fr ed (ed.kwdSet k d) := ⟨rfl, rfl, rfl⟩
theorem fr_of_kwOnly {ed ed' : Ed} (h : Lemmas.C06.KwOnly ed ed') : Fr ed ed' := by
  obtain ⟨k, d, rfl⟩ := h
  exact ⟨rfl, rfl, rfl⟩

theorem fr_pathExpand {ed ed' : Ed} {src : Bytes} {sp : Bool} {r : Option Bytes}
    (h : pathExpand ed src sp = some (r, ed')) : Fr ed ed' := by
  rcases pathExpand_state ed ed' src sp r h with rfl | ⟨m, rfl⟩
  · exact Fr.refl _
  · exact fr_show _ _

theorem Fr.of_io {ed ed' : Ed} (h : IoEq ed ed') : Fr ed ed' := by
  obtain ⟨_, _, _, _, rfl⟩ := h
  exact ⟨rfl, rfl, rfl⟩

theorem fr_lbufSaveP {ed ed' : Ed} {lb : Lb} {b : Nat} {e : Int} {path : Bytes} {force : Bool} {ts : Int}
    {r : Option Bytes} (h : lbufSaveP ed lb b e path force ts = some (r, ed')) : Fr ed ed' :=
  Fr.of_io (lbufSaveP_io h)

/-! ### `ex_region` -/

theorem PosOk.reg {ed ed' : Ed} (h : PosOk M ed) (f : RegFr ed ed') : PosOk M ed' := by
  refine ⟨h.cap, ?_, by rw [f.2.1]; exact h.xoff, by rw [f.1]; exact h.tab⟩
  rcases f.2.2 with e | e
  · rw [e]; exact h.xrow
  · exact h.row_num e.1 e.2

theorem exRegion_ok {ed ed' : Ed} {loc : Bytes} {rc : Nat} {b e : Int}
    (h : exRegion ed loc = some ((rc, b, e), ed')) :
    RegFr ed ed' ∧ (rc = 0 → 0 ≤ b ∧ b ≤ e ∧ e ≤ ed'.len) ∧ b ≤ max NUMMAX ed.xrow := by
  have hall := (Lemmas.C06.region_all ed loc rc b e ed' h).2.2.1
  suffices hs : RegFr ed ed' ∧ b ≤ max NUMMAX ed.xrow from
    ⟨hs.1, fun h0 => ⟨(hall h0).1, (hall h0).2.1, (hall h0).2.2.1⟩, hs.2⟩
  have hl := Lemmas.C06.len_nonneg ed
  have hN : (0 : Int) ≤ NUMMAX := by decide
  by_cases hne : loc = []
  · subst hne
    rw [Lemmas.C06.exRegion_nil] at h
    cases h
    exact ⟨⟨rfl, rfl, Or.inl rfl⟩, by omega⟩
  by_cases h37 : loc = [37]
  · subst h37
    rw [Lemmas.C06.exRegion_percent] at h
    cases h
    exact ⟨⟨rfl, rfl, Or.inl rfl⟩, by omega⟩
  obtain ⟨h1, _, hb, _⟩ := Lemmas.C05b.exRegion_addr_ok hne h37 h
  exact ⟨h1, by omega⟩

/-! ### the counter bump and the guards -/

theorem lbPos_bumpBuf {b : Buf} (h : BufPos M b) : BufPos M { b with lb := (modified b.lb).2 } :=
  ⟨lbPos_modified h.lb, h.row, h.off⟩

theorem posOk_modifiedAt {ed : Ed} (idx : Nat) (h : PosOk M ed) : PosOk M (ed.modifiedAt idx).2 :=
  modifiedAt_cases ed idx h fun _ hb => ⟨h.cap, h.xrow, h.xoff, tabPos_set h.tab (lbPos_bumpBuf (tabPos_getD h.tab hb))⟩

theorem modifiedAt_len (ed : Ed) (idx : Nat) : (ed.modifiedAt idx).2.len = ed.len := by
  refine modifiedAt_cases (P := fun e => e.len = ed.len) ed idx rfl fun b hb => ?_
  unfold bumpAt Ed.len Ed.lb Ed.cur
  by_cases h0 : idx = 0
  · subst h0
    rw [getD_set_self _ _ _ (getD_some hb).1, hb]
    rfl
  · rw [getD_set_ne _ _ _ _ h0]

theorem posOk_bufsModified {ed ed' : Ed} {idx : Nat} {msg : Option Bytes} {r : Bool} (h : PosOk M ed)
    (hm : bufsModified ed idx msg = some (r, ed')) : PosOk M ed' := by
  exact bufsModified_rel (Rel := fun a b => PosOk M a → PosOk M b) (fun _ h => h) (fun h1 h2 h => h2 (h1 h))
    (fun _ hs h => h.fr (Fr.of_io (lbufSave_io hs))) (fun _ _ h => h.fr (fr_show _ _))
    (fun _ h => posOk_modifiedAt idx h) hm h

theorem posOk_guard {ed ed' : Ed} {c : Prop} [Decidable c] {idx : Nat} {msg : Option Bytes} {r : Bool} (h : PosOk M ed)
    (hg : (if c then bufsModified ed idx msg else some (false, ed) : R Bool) = some (r, ed')) : PosOk M ed' := by
  split at hg
  · exact posOk_bufsModified h hg
  · cases hg; exact h

/-! ### `bufs_switch`, `bufs_open`, `bufs_shift`, `bufs_load` -/

theorem posOk_bufsLoad {ed : Ed} (h0 : PosOk M ed) : PosOk M ed.bufsLoad := by
  have h := h0.tab
  unfold Ed.bufsLoad
  split
  · rename_i b hc
    have hb := tabPos_getD h hc
    exact ⟨h0.cap, hb.row, hb.off, h⟩
  · exact ⟨h0.cap, h0.row_zero, by show (0 : Int) ≤ 0; decide, h⟩

theorem posOk_bufsLoad' {ed : Ed} (bufs : List (Option Buf)) (h0 : PosOk M ed) (h : TabPos M bufs) :
    PosOk M ({ ed with bufs := bufs } : Ed).bufsLoad :=
  posOk_bufsLoad ⟨h0.cap, h0.xrow, h0.xoff, h⟩

theorem leftBufs_tabPos {ed : Ed} (h : PosOk M ed) : TabPos M (Props.C20.leftBufs ed) := by
  unfold Props.C20.leftBufs
  split
  · rename_i b hb
    refine tabPos_set h.tab ?_
    have := tabPos_getD h.tab hb
    exact ⟨lbPos_modified this.lb, h.xrow, h.xoff⟩
  · exact h.tab

theorem posOk_bufsSwitch {ed : Ed} (idx : Nat) (h : PosOk M ed) : PosOk M (ed.bufsSwitch idx) := by
  have ht : TabPos M (ed.bufsSwitch idx).bufs := AllB.bufsSwitch (Q := BufPos M) idx (leftBufs_tabPos h)
  rw [Props.C20.switch_eq] at ht ⊢
  rw [Props.C20.bufsLoad_bufs] at ht
  exact posOk_bufsLoad' _ h ht

theorem bufPos_fresh {ed : Ed} (h : PosOk M ed) (p : Bytes) (id : Int) : BufPos M { path := p, lb := Lbuf.make, id := id } :=
  ⟨lbPos_make, h.row_zero, by show (0 : Int) ≤ 0; decide⟩

theorem posOk_bufsOpen {ed : Ed} (p : Bytes) (h : PosOk M ed) : PosOk M (ed.bufsOpen p).2 := by
  unfold Ed.bufsOpen
  exact ⟨h.cap, h.xrow, h.xoff, tabPos_set h.tab (bufPos_fresh h _ _)⟩

theorem posOk_bufsShift {ed : Ed} (h : PosOk M ed) : PosOk M ed.bufsShift := by
  have ht : TabPos M ed.bufsShift.bufs :=
    AllB.bufsShift (Q := BufPos M) (AllB.sub (Q := BufPos M) h.tab fun _ => List.mem_of_mem_drop)
  unfold Ed.bufsShift at ht ⊢
  rw [Props.C20.bufsLoad_bufs] at ht
  exact posOk_bufsLoad' _ h ht

/-- `:b ~` writes the numbers only -/
theorem tabPos_renum {l : List (Option Buf)} (h : TabPos M l) : TabPos M (l.foldl Lemmas.C20b.renumStep ([], 0)).1 :=
  AllB.renumFold (Q := BufPos M) (fun _ _ hx => ⟨hx.lb, hx.row, hx.off⟩) h

end Neatvi.Lemmas.C05d
