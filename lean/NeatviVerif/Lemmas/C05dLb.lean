import NeatviVerif.Lemmas.C06Lbuf
/-!
# C05d lemmas, part 1: the marks of a line buffer stay inside it

`LbPos lb`: every stored line is well formed, every mark (`'a`–`'z`, `''`, `'*`, `'[`, `']`, `'^` and the spare
slot) is unset (`-1`) or a row `0 … len` of the buffer, and the marks an undo record saved lie among the lines the
record puts back.  Kept by every function of the lbuf API the ex layer calls.
-/
namespace Neatvi.Lemmas.C05d
open Neatvi Neatvi.Lbuf Neatvi.LbufIo Neatvi.Spec Neatvi.Props.C01 Neatvi.Lemmas.Hist

/-- a mark of a buffer of `n` lines: unset (`-1`) or a row `0 … n` (`n` itself is the position "after the last
    line", which `lbuf_replace` produces when the tail of the buffer goes) -/
def MarkIn (n : Nat) (m : Int) : Prop := -1 ≤ m ∧ m ≤ n

def MarksIn (n : Nat) (l : List Int) : Prop := ∀ m ∈ l, MarkIn n m

theorem markIn_neg (n : Nat) : MarkIn n (-1) := ⟨Int.le_refl _, by omega⟩

theorem MarksIn.getD {n : Nat} {l : List Int} (h : MarksIn n l) (i : Nat) : MarkIn n (l.getD i (-1)) := by
  rw [List.getD_eq_getElem?_getD]
  cases hi : l[i]? with
  | none => exact markIn_neg n
  | some m => exact h m (List.mem_of_getElem? hi)

theorem MarksIn.set {n : Nat} {l : List Int} (h : MarksIn n l) (i : Nat) {x : Int} (hx : MarkIn n x) :
    MarksIn n (l.set i x) := by
  intro m hm
  rcases List.mem_or_eq_of_mem_set hm with hm | rfl
  · exact h m hm
  · exact hx

theorem MarksIn.mono {n n' : Nat} {l : List Int} (h : MarksIn n l) (hn : n ≤ n') : MarksIn n' l :=
  fun m hm => ⟨(h m hm).1, by have := (h m hm).2; omega⟩

theorem marksIn_replicate (n k : Nat) : MarksIn n (List.replicate k (-1)) := by
  intro m hm
  rw [List.mem_replicate] at hm
  rw [hm.2]; exact markIn_neg n

/-- the marks an undo record saved are rows among the lines the record deleted -/
def EntPos (e : Entry) : Prop :=
  ∀ ms offs, e.marks = some (ms, offs) → ∀ m ∈ ms, -1 ≤ m ∧ m < ((e.pos + lineCount e.del : Nat) : Int)

structure LbPos (lb : Lb) : Prop where
  wf : ∀ l ∈ lb.lines, WfLine l
  marks : MarksIn lb.lines.length lb.mark
  hist : ∀ e ∈ lb.hist, EntPos e

theorem LbPos.jump {lb : Lb} (h : LbPos lb) {c : Nat} {p o : Int} (hj : jump lb c = some (p, o)) :
    0 ≤ p ∧ p ≤ lb.lines.length := by
  unfold Lbuf.jump at hj
  split at hj
  · rename_i i _
    simp only [] at hj
    split at hj
    · cases hj
    · cases hj
      exact ⟨by omega, (h.marks.getD i).2⟩
  · cases hj

theorem lbPos_make : LbPos Lbuf.make where
  wf := by intro l hl; simp [Lbuf.make] at hl
  marks := marksIn_replicate _ _
  hist := by intro e he; simp [Lbuf.make] at he

theorem LbPos.congr {lb lb' : Lb} (h : LbPos lb) (h1 : lb'.lines = lb.lines) (h2 : lb'.mark = lb.mark)
    (h3 : lb'.hist = lb.hist) : LbPos lb' where
  wf := by rw [h1]; exact h.wf
  marks := by rw [h1, h2]; exact h.marks
  hist := by rw [h3]; exact h.hist

theorem lbPos_modified {lb : Lb} (h : LbPos lb) : LbPos (modified lb).2 := h.congr rfl rfl rfl
theorem lbPos_unsavedMark {lb : Lb} (h : LbPos lb) : LbPos (unsavedMark lb) := h.congr rfl rfl rfl
theorem lbPos_globSet {lb : Lb} (h : LbPos lb) (p d : Nat) : LbPos (globSet lb p d) := h.congr rfl rfl rfl
theorem lbPos_globGet {lb : Lb} (h : LbPos lb) (p d : Nat) : LbPos (globGet lb p d).2 := h.congr rfl rfl rfl

theorem lbPos_savedCore {lb : Lb} (h : LbPos lb) (c : Bool) : LbPos (savedCore lb c) := by
  unfold savedCore
  cases c
  · exact h.congr rfl rfl rfl
  · exact ⟨h.wf, h.marks, by intro e he; simp at he⟩

theorem setMark_mark (lb : Lb) (c : Nat) (p o : Int) :
    (setMark lb c p o).mark = match markIdx c with | some i => lb.mark.set i p | none => lb.mark := by
  unfold setMark
  cases markIdx c <;> rfl

theorem lbPos_setMark {lb : Lb} (h : LbPos lb) (c : Nat) (p o : Int) (hp : MarkIn lb.lines.length p) :
    LbPos (setMark lb c p o) where
  wf := by rw [setMark_lines]; exact h.wf
  marks := by
    rw [setMark_lines, setMark_mark]
    split
    · exact h.marks.set _ hp
    · exact h.marks
  hist := by rw [setMark_hist]; exact h.hist

/-! ### `lbuf_replace` -/

theorem updMark_in (sNull : Bool) (pos nIns nDel len : Nat) (m : Int) (hb : pos + nDel ≤ len) (hm : MarkIn len m) :
    MarkIn (len - nDel + nIns) (updMark sNull pos nIns nDel m) := by
  obtain ⟨h1, h2⟩ := hm
  unfold updMark MarkIn
  split
  · omega
  · split
    · omega
    · split
      · omega
      · omega

theorem replace_lines_length (lb lb' : Lb) (s : Option Bytes) (pos nDel : Nat)
    (hr : replace lb s pos nDel = some lb') :
    pos + nDel ≤ lb.lines.length ∧ lb'.lines.length = lb.lines.length - nDel + (optLines s).length := by
  by_cases hb : pos + nDel ≤ lb.lines.length
  · obtain ⟨lb1, h1, h2, _⟩ := replace_spec lb s pos nDel hb
    rw [hr] at h1; cases h1
    exact ⟨hb, by rw [h2]; exact splice_length _ _ _ _ hb⟩
  · unfold replace at hr
    simp only [hb, if_false] at hr
    cases hr

theorem replace_mark (lb lb' : Lb) (s : Option Bytes) (pos nDel : Nat) (hr : replace lb s pos nDel = some lb') :
    lb'.mark = ((lb.mark.map (updMark s.isNone pos (optLines s).length nDel)).set 28 (pos : Int)).set 29
      ((pos + (if (optLines s).length > 0 then (optLines s).length - 1 else 0) : Nat) : Int) := by
  unfold replace at hr
  simp only [] at hr
  split at hr
  · cases hr
    rw [setMark_mark, setMark_mark]
    have e1 : markIdx 91 = some 28 := by decide
    have e2 : markIdx 93 = some 29 := by decide
    simp only [e1, e2]
    cases s <;> rfl
  · cases hr

theorem lbPos_replace {lb lb' : Lb} (h : LbPos lb) (s : Option Bytes) (pos nDel : Nat)
    (hr : replace lb s pos nDel = some lb') : LbPos lb' := by
  obtain ⟨hb, hlen⟩ := replace_lines_length lb lb' s pos nDel hr
  obtain ⟨lb1, h1, h2, h3, _⟩ := replace_spec lb s pos nDel hb
  rw [hr] at h1; cases h1
  refine ⟨?_, ?_, by rw [h3]; exact h.hist⟩
  · rw [h2]; exact splice_wf _ _ _ _ h.wf (optLines_wf s)
  · rw [hlen, replace_mark lb lb' s pos nDel hr]
    generalize hn : (optLines s).length = nIns
    have hbase : MarksIn (lb.lines.length - nDel + nIns) (lb.mark.map (updMark s.isNone pos nIns nDel)) := by
      intro m hm
      rw [List.mem_map] at hm
      obtain ⟨m0, hm0, rfl⟩ := hm
      exact updMark_in _ _ _ _ _ _ hb (h.marks m0 hm0)
    refine (hbase.set 28 ?_).set 29 ?_
    · constructor <;> omega
    · constructor
      · omega
      · split <;> omega

/-! ### `lbuf_opt` -/

theorem lineCount_cp (lb : Lb) (pos nDel : Nat) (hwf : ∀ l ∈ lb.lines, WfLine l) (hb : pos + nDel ≤ lb.lines.length) :
    lineCount (if nDel > 0 then some (cp lb pos (pos + nDel)) else none) = nDel := by
  rw [lineCount_eq, del_faithful lb pos nDel hwf]
  simp only [List.length_take, List.length_drop]
  omega

theorem opt_lines' (lb : Lb) (buf : Option Bytes) (pos nDel : Nat) : (opt lb buf pos nDel).lines = lb.lines := rfl

theorem lbPos_opt {lb : Lb} (h : LbPos lb) (buf : Option Bytes) (pos nDel : Nat) (hb : pos + nDel ≤ lb.lines.length) :
    LbPos (opt lb buf pos nDel) := by
  have hm1 : MarksIn lb.lines.length (lb.mark.set 27 (lb.mark.getD 30 (-1))) := h.marks.set 27 (h.marks.getD 30)
  refine ⟨h.wf, hm1, ?_⟩
  intro e he
  unfold opt at he
  simp only [List.mem_append, List.mem_singleton] at he
  rcases he with he | rfl
  · exact h.hist e (List.mem_of_mem_take he)
  · intro ms offs hmarks m hm
    simp only [] at hmarks
    split at hmarks
    · simp only [Option.some.injEq, Prod.mk.injEq] at hmarks
      obtain ⟨rfl, _⟩ := hmarks
      rw [List.mem_map] at hm
      obtain ⟨i, _, rfl⟩ := hm
      simp only []
      rw [lineCount_cp lb pos nDel h.wf hb]
      split
      · rename_i hc
        simp only [Bool.and_eq_true, decide_eq_true_eq] at hc
        obtain ⟨_, hc1, hc2⟩ := hc
        constructor
        · omega
        · push_cast; omega
      · constructor
        · omega
        · omega
    · cases hmarks

/-! ### `lbuf_edit`, `lbuf_rd` -/

theorem lbPos_edit {lb lb' : Lb} (h : LbPos lb) (buf : Option Bytes) (b e : Nat)
    (he : Lbuf.edit lb buf b e = some lb') : LbPos lb' := by
  obtain ⟨_, ⟨_, _, rfl⟩ | hr⟩ := Lemmas.C06.edit_cases he
  · exact h
  · exact lbPos_replace (lbPos_opt h buf _ _ (by omega)) buf _ _ hr

theorem lbPos_rd {lb lb' : Lb} (h : LbPos lb) (chunks : List Bytes) (fe : Bool) (b e rc : Nat)
    (hr : rd lb chunks fe b e = some (rc, lb')) : LbPos lb' := by
  rcases Lemmas.C06.rd_cases hr with rfl | ⟨_, he⟩
  · exact h
  · exact lbPos_edit h _ _ _ he

/-! ### undo and redo -/

theorem lbPos_histU {lb : Lb} (h : LbPos lb) (u : Nat) : LbPos { lb with histU := u } := h.congr rfl rfl rfl

theorem loadPos_lines (lb : Lb) (e : Entry) : (loadPos lb e).lines = lb.lines := rfl
theorem loadPos_hist (lb : Lb) (e : Entry) : (loadPos lb e).hist = lb.hist := rfl

theorem lbPos_loadPos {lb : Lb} (h : LbPos lb) (e : Entry) (hp : e.pos ≤ lb.lines.length) : LbPos (loadPos lb e) := by
  refine ⟨h.wf, ?_, h.hist⟩
  have h30 : MarksIn lb.lines.length (lb.mark.set 30 (e.pos : Int)) := h.marks.set 30 ⟨by omega, by omega⟩
  exact h30.set 27 (h30.getD 30)

theorem lbPos_loadMarks {lb : Lb} (h : LbPos lb) (e : Entry) (he : EntPos e)
    (hp : e.pos + lineCount e.del ≤ lb.lines.length) : LbPos (loadMarks lb e) := by
  unfold loadMarks
  split
  · exact h
  · rename_i ms offs hm
    refine ⟨h.wf, ?_, h.hist⟩
    show MarksIn lb.lines.length _
    intro m hmem
    simp only [List.mem_map] at hmem
    obtain ⟨i, _, rfl⟩ := hmem
    split
    · rename_i hge
      have hmem : ms.getD i (-1) ∈ ms := by
        rw [List.getD_eq_getElem?_getD] at hge ⊢
        cases hi : ms[i]? with
        | none => rw [hi] at hge; simp at hge
        | some x => simp only [Option.getD_some]; exact List.mem_of_getElem? hi
      obtain ⟨a, b⟩ := he ms offs hm _ hmem
      have hle : ((e.pos + lineCount e.del : Nat) : Int) ≤ (lb.lines.length : Int) := by exact_mod_cast hp
      exact ⟨a, by omega⟩
    · exact h.marks.getD i

/-- one step of `lbuf_undo` / `lbuf_redo`: the history pointer moves to `u`, `n` lines at `e.pos` are replaced by `s`,
    and the position of the entry is loaded into the marks `[` and `*` -/
theorem lbPos_histStep {lb lb1 : Lb} (h : LbPos lb) (u : Nat) (e : Entry) (s : Option Bytes) (n : Nat)
    (hr : replace { lb with histU := u } s e.pos n = some lb1) :
    LbPos (loadPos lb1 e) ∧ e.pos + n ≤ lb.lines.length ∧ lb1.lines.length = lb.lines.length - n + lineCount s := by
  obtain ⟨hb, hlen⟩ := replace_lines_length _ lb1 _ _ _ hr
  have hb' : e.pos + n ≤ lb.lines.length := hb
  have hlen' : lb1.lines.length = lb.lines.length - n + lineCount s := by rw [lineCount_eq]; exact hlen
  exact ⟨lbPos_loadPos (lbPos_replace (lbPos_histU h u) _ _ _ hr) e (by omega), hb', hlen'⟩

/-- the steps of `lbuf_undo` / `lbuf_redo` keep `LbPos`: the entries of the history fit the text they are put back into -/
theorem lbPos_replRel : Lemmas.C15b.ReplRel (fun lb lb' => LbPos lb → LbPos lb') where
  refl := fun _ h => h
  trans := fun h1 h2 h => h2 (h1 h)
  undo := fun {_ _ u e} he hr h => by
    obtain ⟨h2, hb, hlen⟩ := lbPos_histStep h u e _ _ hr
    exact lbPos_loadMarks h2 e (h.hist e he) (by rw [loadPos_lines]; omega)
  redo := fun {_ _ u e} _ hr h => (lbPos_histStep h u e _ _ hr).1

theorem lbPos_undo {lb lb' : Lb} {rc : Nat} (h : LbPos lb) (hu : undo lb = some (rc, lb')) : LbPos lb' :=
  Lemmas.C15b.undo_rel lbPos_replRel hu h

theorem lbPos_redo {lb lb' : Lb} {rc : Nat} (h : LbPos lb) (hu : redo lb = some (rc, lb')) : LbPos lb' :=
  Lemmas.C15b.redo_rel lbPos_replRel hu h

end Neatvi.Lemmas.C05d
