import NeatviVerif.Lemmas.C05dVisit
import NeatviVerif.Lemmas.C15Quiet
/-!
# C05d lemmas, part 5: `:g`, `:@`, `:e`, command lines, `ex_command`; the two inductions on the fuel

The invariant `PosOk M` is kept by a whole run provided every visited state (`VCommand …`) has the length of its
current buffer under the cap `M`; without a cap (`M = none`) the side condition is void.  Two judgements, each with its
induction on the fuel (`all_A`, `all_V`):
* `ExecA CmdA RunA`: the state a run *returns* has the invariant: a walk of the model functions through their cuts
  (`C02b.ecAt_cases`, `C15.ecGlob_cases`, `globStep_inv`, `editStage_inv`), the cap handed down to the nested runs;
* `ExecV CmdV RunV`: every state a run *visits* has it.  There is no hypothesis that the run returns: the constructors of
  `V…` quote the calls that did return, so each case is the start state of the nested run (`gStart_pos`, `atStart_pos`,
  `editStage_pos`), the first judgement for the calls before it (`runOne_A`, `globStep_A`), and the nested run.
-/
namespace Neatvi.Lemmas.C05d
open Neatvi Neatvi.Lbuf Neatvi.LbufIo Neatvi.Ex Neatvi.Rset Neatvi.Lemmas.ExFrame Neatvi.Lemmas.C02Ex
open Neatvi.Lemmas.C06b Neatvi.Lemmas.C02c

variable {M : Option Int}

def ExecA (M : Option Int) (f : Nat) : Prop := ∀ ed ln r ed', PosOk M ed → exExec f ed ln = some (r, ed') →
  (∀ s, VExec f ed ln s → LenLe M s.len) → PosOk M ed'
def CmdA (M : Option Int) (f : Nat) : Prop := ∀ ed ln r ed', PosOk M ed → exCommand f ed ln = some (r, ed') →
  (∀ s, VCommand f ed ln s → LenLe M s.len) → PosOk M ed'
def RunA (M : Option Int) (f : Nat) : Prop := ∀ ed h loc cmd arg txt r ed', PosOk M ed →
  runCmd f ed h loc cmd arg txt = some (r, ed') → LenLe M ed'.len →
  (∀ s, VRun f ed h loc cmd arg txt s → LenLe M s.len) → PosOk M ed'
def ExecV (M : Option Int) (f : Nat) : Prop := ∀ ed ln s, PosOk M ed → VExec f ed ln s →
  (∀ t, VExec f ed ln t → LenLe M t.len) → PosOk M s
def CmdV (M : Option Int) (f : Nat) : Prop := ∀ ed ln s, PosOk M ed → VCommand f ed ln s →
  (∀ t, VCommand f ed ln t → LenLe M t.len) → PosOk M s
def RunV (M : Option Int) (f : Nat) : Prop := ∀ ed h loc cmd arg txt s, PosOk M ed → VRun f ed h loc cmd arg txt s →
  (∀ t, VRun f ed h loc cmd arg txt t → LenLe M t.len) → PosOk M s

theorem fr_exTxt (ed : Ed) (src abbr : Bytes) : Fr ed (exTxt ed src abbr).2 := by
  obtain ⟨_, e⟩ := Lemmas.C06b.exTxt_input ed src abbr
  rw [e]
  exact ⟨rfl, rfl, rfl⟩

/-! ### `:g` -/

theorem adv_pos (dep : Nat) : ∀ (h : Nat) (ed : Ed) (i : Int), PosOk M ed →
    PosOk M (ecGlob.scan.adv dep h ed i).1 ∧ i ≤ (ecGlob.scan.adv dep h ed i).2 :=
  fun h ed i hi => adv_inv (P := fun e j => PosOk M e ∧ i ≤ j)
    (fun _ _ _ hlb hp => ⟨posOk_setLb hp.1 (lbPos_globGet (hp.1.lbPos hlb) _ _), hp.2⟩)
    (fun _ _ hp => ⟨hp.1, Int.le_add_one hp.2⟩) h ed i ⟨hi, Int.le_refl _⟩

theorem globStep_A {f : Nat} (hA : ExecA M f) {neg : Bool} {body : Bytes} {re : RStr} {dep g : Nat} {ed ed2 : Ed} {i i2 : Int}
    {st : Bool} (hi : PosOk M ed) (hlt : ¬ (i ≥ ed.len)) (h0 : 0 ≤ i) (hs : globStep f neg body re ed i = some (st, ed2, i2))
    (hv : ∀ t, VScan f neg body re dep (g + 1) ed i t → LenLe M t.len) : PosOk M ed2 := by
  have hrow : RowOk M i := RowOk.of_le (by omega) (by omega) (hv ed (VScan.here hlt))
  obtain ⟨ln, res, x, hline, hfind, ⟨_, _, rfl, _⟩ | ⟨hneg, r, hx, _⟩⟩ := globStep_inv hs
  · exact hi
  · exact hA { ed with xrow := i } _ _ _ (hi.row rfl hrow rfl) hx (fun s hs' => hv s (VScan.body hlt hline hfind hneg hs'))

theorem scanV (f : Nat) (neg : Bool) (body : Bytes) (re : RStr) (dep : Nat) (hA : ExecA M f) (hV : ExecV M f) :
    ∀ (g : Nat) (ed : Ed) (i : Int) (s : Ed), PosOk M ed → 0 ≤ i → VScan f neg body re dep g ed i s →
      (∀ t, VScan f neg body re dep g ed i t → LenLe M t.len) → PosOk M s := by
  intro g
  induction g with
  | zero => intro ed i s _ _ hs; cases hs
  | succ g ih =>
    intro ed i s hi h0 hs hv
    cases hs with
    | here _ => exact hi
    | body hlt h1 h2 h3 he =>
      have hrow : RowOk M i := RowOk.of_le (by omega) (by omega) (hv ed (VScan.here hlt))
      exact hV { ed with xrow := i } _ _ (hi.row rfl hrow rfl) he (fun t ht => hv t (VScan.body hlt h1 h2 h3 ht))
    | @next _ _ _ _ _ _ _ _ ed2 i2 _ hlt hstep hnn hrest =>
      obtain ⟨a, b⟩ := adv_pos (M := M) dep (ed2.len.toNat + 1) ed2 i2 (globStep_A hA hi hlt h0 hstep hv)
      exact ih _ _ _ a (by omega) hrest (fun t ht => hv t (VScan.next hlt hstep hnn ht))

theorem scan_A (f : Nat) (neg : Bool) (body : Bytes) (re : RStr) (dep : Nat) (hA : ExecA M f) :
    ∀ (g : Nat) (ed : Ed) (i : Int) (ed' : Ed), PosOk M ed → 0 ≤ i → ecGlob.scan f neg body re dep g ed i = some ed' →
      (∀ s, VScan f neg body re dep g ed i s → LenLe M s.len) → PosOk M ed' := by
  intro g
  induction g with
  | zero => intro ed i ed' _ _ h; rw [ecGlob.scan] at h; cases h
  | succ g ih =>
    intro ed i ed' hi h0 h hv
    rw [scan_succ] at h
    split at h
    · cases h; exact hi
    · rename_i hlt
      cases hstep : globStep f neg body re ed i with
      | none => rw [hstep] at h; cases h
      | some z =>
        obtain ⟨st, ed2, i2⟩ := z
        rw [hstep] at h
        have p2 := globStep_A hA hi hlt h0 hstep hv
        cases st with
        | true => simp only [] at h; cases h; exact p2
        | false =>
          simp only [] at h
          split at h
          · cases h
          · rename_i hnn
            obtain ⟨a, b⟩ := adv_pos (M := M) dep (ed2.len.toNat + 1) ed2 i2 p2
            exact ih _ _ _ a (by omega) h (fun s hs' => hv s (VScan.next hlt hstep hnn hs'))

theorem gMark_pos {ed : Ed} (b e : Int) (dep : Nat) (h : PosOk M ed) : PosOk M (gMark ed b e dep) := by
  unfold gMark
  refine Basics.foldl_inv (PosOk M) _ ?_ _ _ (h.to rfl rfl rfl)
  intro s k hs
  exact posOk_updLb (fun lb => globSet lb (b.toNat + 1 + k) dep) (fun lb hl => lbPos_globSet hl _ _) hs

theorem gSweep_pos {ed : Ed} (dep : Nat) (h : PosOk M ed) : PosOk M (gSweep ed dep) := by
  unfold gSweep
  exact posOk_updLb (fun lb => (List.range lb.lines.length).foldl (fun lb k => (globGet lb k dep).2) lb)
    (fun lb hl => Basics.foldl_inv LbPos _ (fun s k hs => lbPos_globGet hs _ _) _ _ hl) h

theorem fr_gPrep (ed : Ed) (arg : Bytes) : Fr ed (gPrep ed arg) :=
  fr_of_kwOnly (Lemmas.C06.kw_kwOnly ed (reRead arg).1 1)

theorem gStart_pos {ed ed1 : Ed} {loc arg : Bytes} {rc : Nat} {b e : Int} (hi : PosOk M ed)
    (hr : exRegion ed loc = some ((rc, b, e), ed1)) (hrc : (rc != 0) = false) :
    PosOk M (gMark (gPrep ed1 arg) b e ((gPrep ed1 arg).xgdep + 1)) ∧ 0 ≤ b := by
  obtain ⟨hreg, hbe, _⟩ := exRegion_ok hr
  obtain ⟨b0, _, _⟩ := hbe (by simpa using hrc)
  exact ⟨gMark_pos b e _ ((hi.reg hreg).fr (fr_gPrep ed1 arg)), b0⟩

theorem ecGlob_A (f : Nat) (hA : ExecA M f) (ed ed' : Ed) (loc cmd arg : Bytes) (r : Int) (hi : PosOk M ed)
    (h : ecGlob (f + 1) ed loc cmd arg = some (r, ed'))
    (hv : ∀ s, VGlob (f + 1) ed loc cmd arg s → LenLe M s.len) : PosOk M ed' := by
  rcases Props.C15.ecGlob_cases h with ⟨_, _, rfl⟩ | ⟨hdep, rc, b, e, ed1, hr, h⟩
  · exact hi.to rfl rfl rfl
  have e1 : PosOk M ed1 := hi.reg (exRegion_ok hr).1
  rcases h with ⟨_, rfl | rfl⟩ | ⟨re, ed2, hrc, hkw, hre, hsc, _, rfl⟩
  · exact e1
  · exact e1.fr (fr_gPrep ed1 arg)
  obtain ⟨e4, b0⟩ := gStart_pos (arg := arg) hi hr hrc
  have e3 := scan_A f _ _ _ _ hA _ _ _ _ e4 b0 hsc (fun s hs => hv s (VGlob.scan (by omega) hr hrc hkw hre hs))
  exact (gSweep_pos _ e3).to rfl rfl rfl

theorem ecGlob_V (f : Nat) (hA : ExecA M f) (hV : ExecV M f) (ed s : Ed) (loc cmd arg : Bytes) (hi : PosOk M ed)
    (hs : VGlob (f + 1) ed loc cmd arg s) (hv : ∀ t, VGlob (f + 1) ed loc cmd arg t → LenLe M t.len) : PosOk M s := by
  cases hs with
  | scan hlt hr hrc hkw hre hsv =>
    obtain ⟨e4, b0⟩ := gStart_pos (arg := arg) hi hr hrc
    exact scanV f _ _ _ _ hA hV _ _ _ _ e4 b0 hsv (fun t ht => hv t (VGlob.scan hlt hr hrc hkw hre ht))

/-! ### `:@` -/

theorem atStart_pos {ed ed1 : Ed} {loc : Bytes} {rc : Nat} {b e : Int} (hi : PosOk M ed)
    (hr : exRegion ed loc = some ((rc, b, e), ed1)) (hrc : (rc != 0) = false) :
    PosOk M { ed1 with xrow := b, atDepth := ed1.atDepth + 1 } := by
  obtain ⟨hreg, hbe, hb⟩ := exRegion_ok hr
  obtain ⟨b0, _, _⟩ := hbe (by simpa using hrc)
  have hrow : RowOk M b := hi.row_reg (by omega) hb
  exact (hi.reg hreg).row rfl hrow rfl

theorem ecAt_A (f : Nat) (hA : CmdA M f) (ed ed' : Ed) (loc cmd arg : Bytes) (r : Int) (hi : PosOk M ed)
    (h : ecAt (f + 1) ed loc cmd arg = some (r, ed'))
    (hv : ∀ s, VAt (f + 1) ed loc cmd arg s → LenLe M s.len) : PosOk M ed' := by
  rcases Lemmas.C02b.ecAt_cases h with ⟨_, _, rfl⟩ | ⟨buf, rc, b, e, ed1, hreg0, hr, h⟩
  · exact hi
  have e1 := hi.reg (exRegion_ok hr).1
  rcases h with ⟨_, _, rfl⟩ | ⟨hrc, ⟨_, _, rfl⟩ | ⟨hdp, ⟨_, _, rfl⟩ | ⟨hra, ed2, hx, rfl⟩⟩⟩
  · exact e1
  · exact e1.to rfl rfl rfl
  · exact (atStart_pos hi hr hrc).to rfl rfl rfl
  · exact (hA _ _ _ _ (atStart_pos hi hr hrc) hx (fun s hs => hv s (VAt.cmd hreg0 hr hrc hdp hra hs))).to rfl rfl rfl

theorem ecAt_V (f : Nat) (hV : CmdV M f) (ed s : Ed) (loc cmd arg : Bytes) (hi : PosOk M ed)
    (hs : VAt (f + 1) ed loc cmd arg s) (hv : ∀ t, VAt (f + 1) ed loc cmd arg t → LenLe M t.len) : PosOk M s := by
  cases hs with
  | cmd hreg0 hr hrc hdp hra hsv =>
    exact hV _ _ _ (atStart_pos hi hr hrc) hsv (fun t ht => hv t (VAt.cmd hreg0 hr hrc hdp hra ht))

/-! ### `:e` -/

theorem clampRow_ok {ed : Ed} (h : PosOk M ed) (x len : Int) (hx : RowOk M x) : RowOk M (clampRow x len) := by
  have z := h.row_zero
  unfold clampRow
  exact ⟨by omega, fun m hm => by have a := hx.2 m hm; have b := z.2 m hm; omega⟩

theorem editRead_pos {ed ed' : Ed} {b : Buf} (h : PosOk M ed) (hb : ed.cur = some b) (hr : editRead ed b = some ed') :
    PosOk M ed' ∧ ed'.xrow = ed.xrow := by
  rcases editRead_cases hr with ⟨rfl, _⟩ | ⟨_, _, lb1, _, _, _, hrd, rfl⟩
  · exact ⟨h, rfl⟩
  · exact ⟨(posOk_setLb (lb := lb1) h (lbPos_rd (h.curPos hb).lb _ _ _ _ _ hrd)).fr (fr_show _ _),
      (setLb_fr_pos ed lb1).1⟩

theorem editFinish_pos {ed ed' : Ed} {path : Bytes} (h : PosOk M ed) (hf : editFinish ed path = some ed') :
    PosOk M ed' := by
  obtain ⟨b, ed5, b5, _, hb, hrd, hb5, rfl, rfl⟩ := editFinish_cases hf
  obtain ⟨p1, _⟩ := editRead_pos h hb hrd
  have hb1p := p1.curPos hb5
  have p2 : PosOk M (ed5.setCur { b5 with lb := (modified (savedCore b5.lb (!path.isEmpty))).2, mtime := ed5.mtimeOf b5.path }) :=
    posOk_setCur p1 ⟨lbPos_modified (lbPos_savedCore hb1p.lb _), hb1p.row, hb1p.off⟩
  exact p2.row0 rfl (clampRow_ok p1 _ _ p1.xrow) rfl

theorem editStage_pos {ed : Ed} {cmd arg : Bytes} {x : Sum (Int × Ed) Ed} (hi : PosOk M ed)
    (h : editStage ed cmd arg = some x) : PosOk M (x.elim (·.2) id) :=
  editStage_inv (Pth := fun _ => True) (fun h hg => posOk_guard h hg)
    (fun h hp => ⟨h.fr (fr_pathExpand hp), fun _ _ => trivial⟩)
    (fun ed path h => by unfold Props.C20.ewPre; split; exact posOk_bufsSwitch _ h; exact h)
    (fun ed path h _ => posOk_bufsSwitch _ h)
    (fun ed path _ h => by unfold editOpen; split; exact posOk_bufsSwitch _ (posOk_bufsOpen _ h); exact h)
    (fun h hf => editFinish_pos h hf) hi h

theorem ecEdit_A (f : Nat) (hA : CmdA M f) (ed ed' : Ed) (cmd arg : Bytes) (r : Int) (hi : PosOk M ed)
    (h : ecEdit (f + 1) ed cmd arg = some (r, ed'))
    (hv : ∀ s, VEdit (f + 1) ed cmd arg s → LenLe M s.len) : PosOk M ed' := by
  rw [ecEdit_stage] at h
  split at h
  · cases h
  · rename_i x hs
    cases h
    exact editStage_pos hi hs
  · rename_i edX hs
    unfold editPlus at h
    split at h
    · rename_i hplus
      exact hA _ _ _ _ (editStage_pos hi hs) h (fun s hs' => hv s (VEdit.plus hs hplus hs'))
    · cases h; exact editStage_pos hi hs

theorem ecEdit_V (f : Nat) (hV : CmdV M f) (ed s : Ed) (cmd arg : Bytes) (hi : PosOk M ed)
    (hs : VEdit (f + 1) ed cmd arg s) (hv : ∀ t, VEdit (f + 1) ed cmd arg t → LenLe M t.len) : PosOk M s := by
  cases hs with
  | start hst _ => exact editStage_pos hi hst
  | plus hst hplus hsv => exact hV _ _ _ (editStage_pos hi hst) hsv (fun t ht => hv t (VEdit.plus hst hplus ht))

/-! ### command lines -/

theorem runOne_A {f : Nat} (hA : RunA M f) {g : Nat} {ed ed1 : Ed} {ln rest : Bytes} {ret r : Int} (hi : PosOk M ed)
    (hne : ln.isEmpty = false) (h : runOne f ed (parse1 ln) ret = some ((r, ed1), rest))
    (hv : ∀ t, VCmds f (g + 1) ed ln ret t → LenLe M t.len) : PosOk M ed1 := by
  have h' := h
  unfold runOne at h
  split at h
  · cases h; exact (hi.fr (fr_exTxt _ _ _)).fr (fr_show _ _)
  · rename_i a hh hidx
    split at h
    · cases h
    · rename_i r2 ed2 hr
      cases h
      have ha : abbrOf (parse1 ln).idx = a := by rw [hidx]; rfl
      rw [ha] at hr
      exact hA _ _ _ _ _ _ _ _ (hi.fr (fr_exTxt _ _ _)) hr (hv _ (VCmds.ret hne h'))
        (fun s hs => hv s (VCmds.inner hne hidx hs))

theorem cmdsV (f : Nat) (hA : RunA M f) (hV : RunV M f) : ∀ (g : Nat) (ed : Ed) (ln : Bytes) (ret : Int) (s : Ed),
    PosOk M ed → VCmds f g ed ln ret s → (∀ t, VCmds f g ed ln ret t → LenLe M t.len) → PosOk M s := by
  intro g
  induction g with
  | zero => intro ed ln ret s _ hs; cases hs
  | succ g ih =>
    intro ed ln ret s hi hs hv
    cases hs with
    | ret hne h1 => exact runOne_A hA hi hne h1 hv
    | inner hne hidx hr => exact hV _ _ _ _ _ _ _ (hi.fr (fr_exTxt _ _ _)) hr (fun t ht => hv t (VCmds.inner hne hidx ht))
    | later hne h1 h2 => exact ih _ _ _ _ (runOne_A hA hi hne h1 hv) h2 (fun t ht => hv t (VCmds.later hne h1 ht))

theorem cmds_A (f : Nat) (hA : RunA M f) : ∀ (g : Nat) (ed : Ed) (ln : Bytes) (ret r : Int) (ed' : Ed), PosOk M ed →
    exExec.cmds f g ed ln ret = some (r, ed') → (∀ s, VCmds f g ed ln ret s → LenLe M s.len) → PosOk M ed' := by
  intro g
  induction g with
  | zero => intro ed ln ret r ed' hi h _; rw [exExec.cmds] at h; cases h; exact hi
  | succ g ih =>
    intro ed ln ret r ed' hi h hv
    rw [cmds_succ] at h
    split at h
    · cases h; exact hi
    · rename_i hne
      have hne' : ln.isEmpty = false := by simpa using hne
      split at h
      · cases h
      · rename_i r1 ed1 rest hone
        exact ih _ _ _ _ _ (runOne_A hA hi hne' hone hv) h (fun s hs => hv s (VCmds.later hne' hone hs))

theorem exExec_A (f : Nat) (hA : RunA M f) : ExecA M (f + 1) := by
  intro ed ln r ed' hi h hv
  rw [exExec] at h
  split at h
  · cases h; exact hi.fr (fr_show _ _)
  · exact cmds_A f hA _ _ _ _ _ _ hi h (fun s hs => hv s (VExec.cmds (by omega) hs))

theorem exExec_V (f : Nat) (hA : RunA M f) (hV : RunV M f) : ExecV M (f + 1) := by
  intro ed ln s hi hs hv
  cases hs with
  | cmds hlt hs' => exact cmdsV f hA hV _ _ _ _ _ hi hs' (fun t ht => hv t (VExec.cmds hlt ht))

theorem exCommand_A (f : Nat) (hA : ExecA M f) : CmdA M (f + 1) := by
  intro ed ln r ed' hi h hv
  rw [exCommand] at h
  split at h
  · cases h
  · rename_i r1 ed1 he
    cases h
    exact posOk_modifiedAt 0 (hA _ _ _ _ hi he (fun s hs => hv s (VCommand.exec hs)))

theorem exCommand_V (f : Nat) (hV : ExecV M f) : CmdV M (f + 1) := by
  intro ed ln s hi hs hv
  cases hs with
  | exec hs' => exact hV _ _ _ hi hs' (fun t ht => hv t (VCommand.exec ht))

theorem runCmd_A (f : Nat) (hx : ExecA M f) (hc : CmdA M f) : RunA M (f + 2) := by
  intro ed hd loc cmd arg txt r ed' hi h hl hv
  refine runCmd_pos (f + 1) ed ed' hd loc cmd arg txt r ?_ ?_ ?_ hi h hl
  · intro hhd r0 ed0' h0
    subst hhd
    exact ecAt_A f hc ed ed0' loc cmd arg r0 hi h0 (fun s hs => hv s (VRun.at hs))
  · intro hhd r0 ed0' h0
    subst hhd
    exact ecGlob_A f hx ed ed0' loc cmd arg r0 hi h0 (fun s hs => hv s (VRun.glob hs))
  · intro hhd r0 ed0' h0
    subst hhd
    exact ecEdit_A f hc ed ed0' cmd arg r0 hi h0 (fun s hs => hv s (VRun.edit hs))

theorem runCmd_V (f : Nat) (hxA : ExecA M f) (hx : ExecV M f) (hc : CmdV M f) : RunV M (f + 2) := by
  intro ed hd loc cmd arg txt s hi hs hv
  cases hs with
  | «at» hs' => exact ecAt_V f hc ed s loc cmd arg hi hs' (fun t ht => hv t (VRun.at ht))
  | glob hs' => exact ecGlob_V f hxA hx ed s loc cmd arg hi hs' (fun t ht => hv t (VRun.glob ht))
  | edit hs' => exact ecEdit_V f hc ed s cmd arg hi hs' (fun t ht => hv t (VRun.edit ht))

theorem runA_low : RunA M 0 ∧ RunA M 1 := by
  refine ⟨fun ed hd loc cmd arg txt r ed' _ h => (by rw [runCmd] at h; cases h), ?_⟩
  intro ed hd loc cmd arg txt r ed' hi h hl _
  refine runCmd_pos 0 ed ed' hd loc cmd arg txt r ?_ ?_ ?_ hi h hl
  · intro _ r ed' h; rw [ecAt] at h; cases h
  · intro _ r ed' h; rw [ecGlob] at h; cases h
  · intro _ r ed' h; rw [ecEdit] at h; cases h

theorem all_A (M : Option Int) : ∀ f : Nat, ExecA M f ∧ CmdA M f ∧ RunA M f ∧ RunA M (f + 1) := by
  intro f
  induction f with
  | zero =>
    refine ⟨?_, ?_, runA_low.1, runA_low.2⟩
    · intro ed ln r ed' _ h; rw [exExec] at h; cases h
    · intro ed ln r ed' _ h; rw [exCommand] at h; cases h
  | succ f ih =>
    obtain ⟨hx, hc, hr0, hr1⟩ := ih
    exact ⟨exExec_A f hr0, exCommand_A f hx, hr1, runCmd_A f hx hc⟩

theorem all_V (M : Option Int) : ∀ f : Nat, ExecV M f ∧ CmdV M f ∧ RunV M f ∧ RunV M (f + 1) := by
  intro f
  induction f with
  | zero =>
    refine ⟨fun _ _ _ _ hs => (by cases hs), fun _ _ _ _ hs => (by cases hs), fun _ _ _ _ _ _ _ _ hs => (by cases hs), ?_⟩
    intro ed hd loc cmd arg txt s _ hs
    cases hs with
    | «at» hs' => cases hs'
    | glob hs' => cases hs'
    | edit hs' => cases hs'
  | succ f ih =>
    obtain ⟨hx, hc, hr0, hr1⟩ := ih
    exact ⟨exExec_V f (all_A M f).2.2.1 hr0, exCommand_V f hx, hr1, runCmd_V f (all_A M f).1 hx hc⟩

end Neatvi.Lemmas.C05d
