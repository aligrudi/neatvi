import NeatviVerif.Lemmas.C05dRun
import NeatviVerif.Props.C02
/-!
# C05d lemmas, part 6: the `ex()` loop, `ex_init`, whole scripts; `AddrFits` from the invariant
-/
namespace Neatvi.Lemmas.C05d
open Neatvi Neatvi.Lbuf Neatvi.LbufIo Neatvi.Ex Neatvi.Rset Neatvi.Lemmas.ExFrame Neatvi.Lemmas.C02Ex
open Neatvi.Props.C02.Ex (exRun)

variable {M : Option Int}

/-! ### the three entry points with fuel, the side condition stated on the visited states -/

theorem exCommand_pos' {f : Nat} {ed ed' : Ed} {ln : Bytes} {r : Int} (hi : PosOk M ed)
    (h : exCommand f ed ln = some (r, ed')) (hv : ∀ s, VCommand f ed ln s → LenLe M s.len) :
    PosOk M ed' ∧ ∀ s, VCommand f ed ln s → PosOk M s :=
  ⟨(all_A M f).2.1 _ _ _ _ hi h hv, fun s hs => (all_V M f).2.1 _ _ s hi hs hv⟩

theorem exExec_pos' {f : Nat} {ed ed' : Ed} {ln : Bytes} {r : Int} (hi : PosOk M ed)
    (h : exExec f ed ln = some (r, ed')) (hv : ∀ s, VExec f ed ln s → LenLe M s.len) :
    PosOk M ed' ∧ ∀ s, VExec f ed ln s → PosOk M s :=
  ⟨(all_A M f).1 _ _ _ _ hi h hv, fun s hs => (all_V M f).1 _ _ s hi hs hv⟩

theorem runCmd_pos' {f : Nat} {ed ed' : Ed} {hd : String} {loc cmd arg : Bytes} {txt : Option Bytes} {r : Int}
    (hi : PosOk M ed) (h : runCmd f ed hd loc cmd arg txt = some (r, ed')) (hl : LenLe M ed'.len)
    (hv : ∀ s, VRun f ed hd loc cmd arg txt s → LenLe M s.len) :
    PosOk M ed' ∧ ∀ s, VRun f ed hd loc cmd arg txt s → PosOk M s :=
  ⟨(all_A M f).2.2.1 _ _ _ _ _ _ _ _ hi h hl hv, fun s hs => (all_V M f).2.2.1 _ _ _ _ _ _ s hi hs hv⟩

theorem ecEdit_pos' {f : Nat} {ed ed' : Ed} {cmd arg : Bytes} {r : Int} (hi : PosOk M ed)
    (h : ecEdit f ed cmd arg = some (r, ed')) (hv : ∀ s, VEdit f ed cmd arg s → LenLe M s.len) :
    PosOk M ed' ∧ ∀ s, VEdit f ed cmd arg s → PosOk M s := by
  cases f with
  | zero => rw [ecEdit] at h; cases h
  | succ f => exact ⟨ecEdit_A f (all_A M f).2.1 ed ed' cmd arg r hi h hv, fun s hs => ecEdit_V f (all_V M f).2.1 ed s cmd arg hi hs hv⟩

theorem vrun_atomic {f : Nat} {ed : Ed} {hd : String} {loc cmd arg : Bytes} {txt : Option Bytes} {s : Ed}
    (h1 : hd ≠ "ec_at") (h2 : hd ≠ "ec_glob") (h3 : hd ≠ "ec_edit") : ¬ VRun f ed hd loc cmd arg txt s := by
  intro hv
  cases hv with
  | «at» _ => exact h1 rfl
  | glob _ => exact h2 rfl
  | edit _ => exact h3 rfl

/-! ### one round of the `ex()` loop -/

/-- the state in which `exStep` calls `ex_command` on the line it read -/
def stepStart (ed : Ed) (rest : List Bytes) : Ed := { ed with input := rest, out := [], msg := [], calls := 0, fired := 0 }

/-- visited during one round of the `ex()` loop -/
inductive VStep : Ed → Ed → Prop
  | line {ed : Ed} {ln : Bytes} {rest : List Bytes} {s : Ed} : ed.input = ln :: rest →
      VCommand FUEL (stepStart ed rest) ln s → VStep ed s

theorem exStep_pos {ed ed' : Ed} {r : Int} (hi : PosOk M ed) (h : exStep ed = some (r, ed'))
    (hv : ∀ s, VStep ed s → LenLe M s.len) : PosOk M ed' ∧ ∀ s, VStep ed s → PosOk M s := by
  unfold exStep at h
  split at h
  · cases h
  · rename_i ln rest hin
    simp only [] at h
    split at h
    · cases h
    · rename_i r1 ed1 hc
      cases h
      obtain ⟨p1, q1⟩ := exCommand_pos' (ed := stepStart ed rest) (hi.to rfl rfl rfl) hc
        (fun s hs => hv s (VStep.line hin hs))
      refine ⟨p1.to rfl rfl rfl, ?_⟩
      intro s hs
      cases hs with
      | line hin' hs' =>
        rw [hin] at hin'
        cases hin'
        exact q1 s hs'

/-! ### `ex_init` -/

theorem posOk_start (ed0 : Ed) (n : Nat) (hcap : ∀ m, M = some m → NUMMAX ≤ m) (h0 : ed0.bufs = List.replicate n none)
    (hr : ed0.xrow = 0) (ho : ed0.xoff = 0) : PosOk M ed0 := by
  refine ⟨hcap, ?_, by rw [ho]; exact Int.le_refl 0, by rw [h0]; exact tabPos_replicate n⟩
  rw [hr]
  exact ⟨by decide, fun m hm => by have := hcap m hm; unfold NUMMAX at this; omega⟩

/-- the argument `ex_init` hands to `ec_edit`: the first file name, with ` `, `%`, `#`, `=` escaped -/
def initArg (files : List Bytes) : Bytes :=
  match files with
  | [] => []
  | p :: _ => p.flatMap (fun c => if c == 32 || c == 37 || c == 35 || c == 61 then [92, c] else [c])

theorem exInit_eq (ed : Ed) (files : List Bytes) : exInit ed files = ecEdit FUEL ed (strOf "e") (initArg files) := rfl

theorem exInit_pos {ed ed' : Ed} {files : List Bytes} {r : Int} (hi : PosOk M ed) (h : exInit ed files = some (r, ed'))
    (hv : ∀ s, VEdit FUEL ed (strOf "e") (initArg files) s → LenLe M s.len) : PosOk M ed' := by
  rw [exInit_eq] at h
  exact (ecEdit_pos' hi h hv).1

theorem vedit_noplus {f : Nat} {ed : Ed} {cmd arg : Bytes} {s : Ed} (h : (arg.dropWhile (· == 32)).headD 0 ≠ 43) :
    ¬ VEdit f ed cmd arg s := by
  intro hv
  have : (Lemmas.C02c.plusSplit arg).1 = [] := by
    unfold Lemmas.C02c.plusSplit
    simp only []
    rw [if_neg (by simpa using h)]
  cases hv with
  | start _ hp =>
    rw [this] at hp
    exact absurd hp (by decide)
  | plus _ hp _ =>
    rw [this] at hp
    exact absurd hp (by decide)

theorem exInit_pos_noplus {ed ed' : Ed} {files : List Bytes} {r : Int} (hi : PosOk M ed)
    (h : exInit ed files = some (r, ed')) (hp : ((initArg files).dropWhile (· == 32)).headD 0 ≠ 43) : PosOk M ed' :=
  exInit_pos hi h (fun _ hs => absurd hs (vedit_noplus hp))

/-! ### scripts -/

/-- visited while `exRun n ed` runs: the state before every line, and what the lines visit -/
inductive VScript : Nat → Ed → Ed → Prop
  | start {n : Nat} {ed : Ed} : VScript n ed ed
  | line {n : Nat} {ed s : Ed} : VStep ed s → VScript (n + 1) ed s
  | next {n : Nat} {ed ed1 s : Ed} {r : Int} : ed.input.isEmpty = false → exStep ed = some (r, ed1) → VScript n ed1 s →
      VScript (n + 1) ed s

theorem exRun_pos : ∀ (n : Nat) (ed ed' : Ed), PosOk M ed → exRun n ed = some ed' →
    (∀ s, VScript n ed s → LenLe M s.len) → PosOk M ed' ∧ ∀ s, VScript n ed s → PosOk M s := by
  intro n
  induction n with
  | zero =>
    intro ed ed' hi h _
    cases h
    refine ⟨hi, ?_⟩
    intro s hs
    cases hs with
    | start => exact hi
  | succ n ih =>
    intro ed ed' hi h hv
    rw [exRun] at h
    split at h
    · rename_i hemp
      cases h
      refine ⟨hi, ?_⟩
      intro s hs
      cases hs with
      | start => exact hi
      | line hs' =>
        cases hs' with
        | line hin _ => rw [hin] at hemp; cases hemp
      | next hne _ _ => rw [hemp] at hne; cases hne
    · rename_i hne
      have hne' : ed.input.isEmpty = false := by simpa using hne
      split at h
      · cases h
      · rename_i r1 ed1 hs
        obtain ⟨p1, q1⟩ := exStep_pos hi hs (fun s hs' => hv s (VScript.line hs'))
        obtain ⟨a, b⟩ := ih _ _ p1 h (fun s hs' => hv s (VScript.next hne' hs hs'))
        refine ⟨a, ?_⟩
        intro s hsv
        cases hsv with
        | start => exact hi
        | line hs' => exact q1 s hs'
        | next _ hs2 hrest =>
          rw [hs] at hs2
          cases hs2
          exact b s hrest

/-! ### with and without a cap -/

theorem PosOk.uncap {ed : Ed} (h : PosOk M ed) : PosOk none ed :=
  ⟨fun m hm => (by cases hm), rowOk_none h.xrow.1, h.xoff,
    fun b hb => ⟨(h.tab b hb).lb, rowOk_none (h.tab b hb).row.1, (h.tab b hb).off⟩⟩

theorem posOk_cap {ed : Ed} {m : Int} (h : PosOk none ed) (hm : NUMMAX ≤ m) (hx : ed.xrow ≤ m)
    (hp : ∀ b, some b ∈ ed.bufs → b.row ≤ m) : PosOk (some m) ed :=
  ⟨fun k hk => (by cases hk; exact hm), ⟨h.xrow.1, fun k hk => (by cases hk; exact hx)⟩, h.xoff,
    fun b hb => ⟨(h.tab b hb).lb, ⟨(h.tab b hb).row.1, fun k hk => (by cases hk; exact hp b hb)⟩, (h.tab b hb).off⟩⟩

theorem PosOk.cap_xrow {ed : Ed} {m : Int} (h : PosOk (some m) ed) : ed.xrow ≤ m := h.xrow.2 m rfl

theorem PosOk.cap_rows {ed : Ed} {m : Int} (h : PosOk (some m) ed) (b : Buf) (hb : some b ∈ ed.bufs) : b.row ≤ m :=
  (h.tab b hb).row.2 m rfl

theorem addrFits_of_posOk {ed : Ed} (h : PosOk (some NUMMAX) ed) (hl : ed.len ≤ NUMMAX) : Lemmas.C05b.AddrFits ed := by
  refine ⟨?_, h.xrow.2 _ rfl, hl, ?_⟩
  · have := h.xrow.1; unfold NUMMAX; omega
  · intro lb c p o hlb hj
    have hlen : ed.len = lb.lines.length := by unfold Ed.len; rw [hlb]
    have := ((h.lbPos hlb).jump hj).2
    omega

theorem addrFits_fr {ed ed' : Ed} (f : Fr ed ed') (h : Lemmas.C05b.AddrFits ed) : Lemmas.C05b.AddrFits ed' :=
  ⟨by rw [f.2.1]; exact h.xrow_lo, by rw [f.2.1]; exact h.xrow_hi, by rw [f.len]; exact h.len_hi,
    fun lb c p o hl hj => h.marks lb c p o (by rw [← f.lb]; exact hl) hj⟩

end Neatvi.Lemmas.C05d
