import NeatviVerif.Lemmas.C05dCmd
import NeatviVerif.Lemmas.C06bExec
import NeatviVerif.Lemmas.C02cStages
/-!
# C05d lemmas, part 4: the states a command line visits

The recursive handlers (`:g`, `:@`, `:e +cmd`) run command lines of their own.  `VCommand f ed ln s` says: while
`exCommand f ed ln` runs, `s` is the state one command of a line (at any depth) returned, or the state at the start of a
round of a `:g` loop, or the state a `+cmd` of `:e` starts from.  The relations follow the call structure of the model and nothing else: every constructor
quotes the piece of the model that makes the call.

The file is also the home of two cuts that other parts read: `globStep`, `scan_succ` (a round of the loop of `:g`; `globStep_inv`:
the round by how it returns, with the line and the match it read, which are what `VScan.body` quotes) and
`editStage`, `ecEdit_stage` (`ec_edit` up to its `+cmd`), which make the nested calls visible; each comes with its one walk
for any predicate, `scan_inv` and `editStage_inv`: an invariant says what the leaves do to it.
-/
namespace Neatvi.Lemmas.C05d
open Neatvi Neatvi.Lbuf Neatvi.Ex Neatvi.Rset Neatvi.Lemmas.C06b Neatvi.Lemmas.C02c

/-- one round of the loop of `ec_glob` at line `i`: (stop?, state, next index) -/
def globStep (f : Nat) (neg : Bool) (body : Bytes) (re : RStr) (ed : Ed) (i : Int) : Option (Bool × Ed × Int) :=
  match ed.line i with
  | none => none
  | some ln =>
    match rstrFind re ln 16 0 ND NG with
    | none => none
    | some (res, _, _) =>
      if (res < 0) == neg then
        (match exExec f { ed with xrow := i } body with
        | none => none
        | some (r, ed) => if r != 0 then some (true, ed, i) else some (false, ed, max 0 (min i ed.xrow)))
      else some (false, ed, i)

/-- a round by how it returns, with the line and the match it read: the line is not selected and nothing happens, or the
    command list runs on it and the loop stops (the list failed) or goes on from `MAX(0, MIN(i, xrow))` -/
theorem globStep_inv {f : Nat} {neg : Bool} {body : Bytes} {re : RStr} {ed ed2 : Ed} {i i2 : Int} {stop : Bool}
    (h : globStep f neg body re ed i = some (stop, ed2, i2)) :
    ∃ ln res x, ed.line i = some ln ∧ rstrFind re ln 16 0 ND NG = some (res, x) ∧
      ((¬ ((res < 0) == neg) = true ∧ stop = false ∧ ed2 = ed ∧ i2 = i) ∨
       (((res < 0) == neg) = true ∧ ∃ r, exExec f { ed with xrow := i } body = some (r, ed2) ∧
         ((stop = true ∧ i2 = i) ∨ (stop = false ∧ r = 0 ∧ i2 = max 0 (min i ed2.xrow))))) := by
  unfold globStep at h
  split at h
  · cases h
  · rename_i ln hline
    split at h
    · cases h
    · rename_i res x0 y0 hfind
      refine ⟨ln, res, (x0, y0), hline, hfind, ?_⟩
      split at h
      · rename_i hneg
        refine .inr ⟨hneg, ?_⟩
        split at h
        · cases h
        · rename_i r ed1 hx
          split at h
          · cases h; exact ⟨r, hx, .inl ⟨rfl, rfl⟩⟩
          · rename_i hr
            cases h
            exact ⟨r, hx, .inr ⟨rfl, by simpa using hr, rfl⟩⟩
      · rename_i hneg
        cases h
        exact .inl ⟨hneg, rfl, rfl, rfl⟩

theorem scan_succ (f : Nat) (neg : Bool) (body : Bytes) (re : RStr) (dep g : Nat) (ed : Ed) (i : Int) :
    ecGlob.scan f neg body re dep (g + 1) ed i =
      if i ≥ ed.len then some ed else
      match globStep f neg body re ed i with
      | none => none
      | some (true, ed, _) => some ed
      | some (false, ed, i) =>
        if i < 0 then none else
        ecGlob.scan f neg body re dep g (ecGlob.scan.adv dep (ed.len.toNat + 1) ed i).1
          (ecGlob.scan.adv dep (ed.len.toNat + 1) ed i).2 := by
  rw [ecGlob.scan]
  unfold globStep
  split
  · rfl
  · cases ed.line i with
    | none => rfl
    | some ln =>
      simp only []
      cases rstrFind re ln 16 0 ND NG with
      | none => rfl
      | some x =>
        obtain ⟨res, o, k⟩ := x
        simp only []
        by_cases hc : (decide (res < 0) == neg) = true
        · simp only [hc, if_true]
          cases exExec f { ed with xrow := i } body with
          | none => rfl
          | some y =>
            obtain ⟨r, ed1⟩ := y
            simp only []
            by_cases hr : (r != 0) = true
            · simp only [hr, if_true]
            · simp only [hr]; rfl
        · simp only [hc]; rfl

theorem scan_inv {P : Ed → Prop} {f : Nat} {neg : Bool} {body : Bytes} {re : RStr} {dep : Nat}
    (hstep : ∀ {ed i st ed2 i2}, P ed → globStep f neg body re ed i = some (st, ed2, i2) → P ed2)
    (hadv : ∀ {ed} (h : Nat) (i : Int), P ed → P (ecGlob.scan.adv dep h ed i).1) :
    ∀ (g : Nat) (ed : Ed) (i : Int) (ed' : Ed), P ed → ecGlob.scan f neg body re dep g ed i = some ed' → P ed' := by
  intro g
  induction g with
  | zero => intro ed i ed' _ h; rw [ecGlob.scan] at h; cases h
  | succ g ih =>
    intro ed i ed' hp h
    rw [scan_succ] at h
    rcases Lemmas.C06.ite_eq_cases h with ⟨_, h⟩ | ⟨_, h⟩
    · cases h; exact hp
    split at h
    · cases h
    · rename_i hs
      cases h
      exact hstep hp hs
    · rename_i hs
      rcases Lemmas.C06.ite_eq_cases h with ⟨_, h⟩ | ⟨_, h⟩
      · cases h
      · exact ih _ _ _ (hadv _ _ (hstep hp hs)) h

/-- `ec_edit` up to the `+cmd`: an early return `(code, state)`, or the state the `+cmd` starts from -/
def editStage (ed : Ed) (cmd arg : Bytes) : Option (Sum (Int × Ed) Ed) :=
  match Props.C20.editGuard ed cmd with
  | none => none
  | some (true, ed) => some (.inl (1, ed))
  | some (false, ed) =>
    match pathExpand ed (plusSplit arg).2 false with
    | none => none
    | some (none, ed) => some (.inl (1, ed))
    | some (some path, ed) =>
      if !path.isEmpty && (Props.C20.ewPre ed cmd path).bufsFind path ≥ 0 then
        some (.inr ((Props.C20.ewPre ed cmd path).bufsSwitch ((Props.C20.ewPre ed cmd path).bufsFind path).toNat))
      else
        match editGuard2 (Props.C20.ewPre ed cmd path) path with
        | none => none
        | some (true, ed) => some (.inl (1, ed))
        | some (false, ed) =>
          match editFinish (editOpen ed path) path with
          | none => none
          | some ed => some (.inr ed)

theorem ecEdit_stage (f : Nat) (ed : Ed) (cmd arg : Bytes) :
    ecEdit (f + 1) ed cmd arg =
      match editStage ed cmd arg with
      | none => none
      | some (.inl x) => some x
      | some (.inr edX) => editPlus f (plusSplit arg).1 edX := by
  rw [ecEdit_stages]
  unfold editStage
  cases Props.C20.editGuard ed cmd with
  | none => rfl
  | some x =>
    obtain ⟨g, ed1⟩ := x
    cases g with
    | true => rfl
    | false =>
      simp only []
      cases pathExpand ed1 (plusSplit arg).2 false with
      | none => rfl
      | some y =>
        obtain ⟨p, ed2⟩ := y
        cases p with
        | none => rfl
        | some path =>
          simp only []
          split
          · rfl
          · cases editGuard2 (Props.C20.ewPre ed2 cmd path) path with
            | none => rfl
            | some z =>
              obtain ⟨g2, ed3⟩ := z
              cases g2 with
              | true => rfl
              | false =>
                simp only []
                cases editFinish (editOpen ed3 path) path with
                | none => rfl
                | some ed4 => rfl

/-- **`ec_edit` before its `+cmd`, walked once**: a predicate kept by the guards, by `ex_pathexpand` on the argument (which
    may say `Pth` of the path it delivers: what `bufs_open` is going to write into the table), by `bufs_switch` to a
    buffer found, by `:ew`'s exchange, by `bufs_open` + `bufs_switch`, and by the end of `ec_edit`, holds of whatever
    `editStage` returns -/
theorem editStage_inv {P : Ed → Prop} {Pth : Bytes → Prop} {cmd arg : Bytes}
    (hg : ∀ {ed ed' : Ed} {c : Prop} [Decidable c] {idx : Nat} {msg : Option Bytes} {r : Bool}, P ed →
      (if c then bufsModified ed idx msg else some (false, ed) : R Bool) = some (r, ed') → P ed')
    (hp : ∀ {ed ed' : Ed} {r : Option Bytes}, P ed → pathExpand ed (plusSplit arg).2 false = some (r, ed') →
      P ed' ∧ ∀ p, r = some p → Pth p)
    (hpre : ∀ ed path, P ed → P (Props.C20.ewPre ed cmd path))
    (hfound : ∀ ed path, P ed → ed.bufsFind path ≥ 0 → P (ed.bufsSwitch (ed.bufsFind path).toNat))
    (hopen : ∀ ed path, Pth path → P ed → P (editOpen ed path))
    (hfin : ∀ {ed ed' : Ed} {path : Bytes}, P ed → editFinish ed path = some ed' → P ed')
    {ed : Ed} {x : Sum (Int × Ed) Ed} (hi : P ed) (h : editStage ed cmd arg = some x) :
    P (x.elim (·.2) id) := by
  unfold editStage at h
  split at h
  · cases h
  · rename_i hg1
    cases h
    exact hg hi hg1
  · rename_i ed1 hg1
    split at h
    · cases h
    · rename_i hp1
      cases h
      exact (hp (hg hi hg1) hp1).1
    · rename_i path ed2 hp1
      obtain ⟨e2, hpth⟩ := hp (hg hi hg1) hp1
      have e3 := hpre ed2 path e2
      split at h
      · rename_i hc
        cases h
        simp only [Bool.and_eq_true, decide_eq_true_eq] at hc
        exact hfound _ path e3 hc.2
      · split at h
        · cases h
        · rename_i hg2
          cases h
          exact hg e3 hg2
        · rename_i ed3 hg2
          split at h
          · cases h
          · rename_i hfin1
            cases h
            exact hfin (hopen ed3 path (hpth path rfl) (hg e3 hg2)) hfin1

mutual
/-- visited while `exCommand f ed ln` runs -/
inductive VCommand : Nat → Ed → Bytes → Ed → Prop
  | exec {f : Nat} {ed : Ed} {ln : Bytes} {s : Ed} : VExec f ed ln s → VCommand (f + 1) ed ln s

/-- visited while `exExec f ed ln` runs -/
inductive VExec : Nat → Ed → Bytes → Ed → Prop
  | cmds {f : Nat} {ed : Ed} {ln : Bytes} {s : Ed} : ln.length < Gen.EXLEN →
      VCmds f (ln.length + 1) ed ln 0 s → VExec (f + 1) ed ln s

/-- visited while the loop `exExec.cmds f g ed ln ret` runs -/
inductive VCmds : Nat → Nat → Ed → Bytes → Int → Ed → Prop
  /-- the state the first command of the line returned -/
  | ret {f g : Nat} {ed : Ed} {ln : Bytes} {ret r : Int} {s : Ed} {rest : Bytes} : ln.isEmpty = false →
      runOne f ed (parse1 ln) ret = some ((r, s), rest) → VCmds f (g + 1) ed ln ret s
  /-- a state visited inside the first command -/
  | inner {f g : Nat} {ed : Ed} {ln : Bytes} {ret : Int} {a : Bytes} {h : String} {s : Ed} : ln.isEmpty = false →
      (parse1 ln).idx = some (a, h) →
      VRun f (exTxt ed (parse1 ln).rest a).2 h (parse1 ln).loc (parse1 ln).cmd (parse1 ln).arg
        (exTxt ed (parse1 ln).rest a).1.1 s →
      VCmds f (g + 1) ed ln ret s
  /-- a state visited by the rest of the line -/
  | later {f g : Nat} {ed : Ed} {ln : Bytes} {ret r : Int} {ed1 : Ed} {rest : Bytes} {s : Ed} : ln.isEmpty = false →
      runOne f ed (parse1 ln) ret = some ((r, ed1), rest) → VCmds f g ed1 rest r s → VCmds f (g + 1) ed ln ret s

/-- visited inside one call of a handler (only `:@`, `:g`, `:e +cmd` make calls of their own) -/
inductive VRun : Nat → Ed → String → Bytes → Bytes → Bytes → Option Bytes → Ed → Prop
  | at {f : Nat} {ed : Ed} {loc cmd arg : Bytes} {txt : Option Bytes} {s : Ed} :
      VAt f ed loc cmd arg s → VRun (f + 1) ed "ec_at" loc cmd arg txt s
  | glob {f : Nat} {ed : Ed} {loc cmd arg : Bytes} {txt : Option Bytes} {s : Ed} :
      VGlob f ed loc cmd arg s → VRun (f + 1) ed "ec_glob" loc cmd arg txt s
  | edit {f : Nat} {ed : Ed} {loc cmd arg : Bytes} {txt : Option Bytes} {s : Ed} :
      VEdit f ed cmd arg s → VRun (f + 1) ed "ec_edit" loc cmd arg txt s

/-- `:@r`: the register is run as a command line from the first line of the region, one level deeper in the
    count of executing registers (and only when fewer than sixteen are executing) -/
inductive VAt : Nat → Ed → Bytes → Bytes → Bytes → Ed → Prop
  | cmd {f : Nat} {ed : Ed} {loc cmd arg buf : Bytes} {rc : Nat} {b e : Int} {ed1 s : Ed} :
      regGet ed (regName arg) = some buf → exRegion ed loc = some ((rc, b, e), ed1) → (rc != 0) = false →
      ed1.atDepth < 16 →
      (cmd.headD 0 == 114 && cmd.getD 1 0 == 97) = false →
      VCommand f { ed1 with xrow := b, atDepth := ed1.atDepth + 1 } buf s → VAt (f + 1) ed loc cmd arg s

/-- `:e +cmd path`: the command runs in the state `ec_edit` prepared -/
inductive VEdit : Nat → Ed → Bytes → Bytes → Ed → Prop
  /-- the state the `+cmd` starts from (the buffer just switched to or loaded) -/
  | start {f : Nat} {ed : Ed} {cmd arg : Bytes} {edX : Ed} : editStage ed cmd arg = some (.inr edX) →
      ((plusSplit arg).1.headD 0 == 43) = true → VEdit (f + 1) ed cmd arg edX
  | plus {f : Nat} {ed : Ed} {cmd arg : Bytes} {edX s : Ed} : editStage ed cmd arg = some (.inr edX) →
      ((plusSplit arg).1.headD 0 == 43) = true →
      VCommand f edX ((plusSplit arg).1.drop 1) s → VEdit (f + 1) ed cmd arg s

/-- `:g`: the loop over the marked lines (only below the eighth nesting level) -/
inductive VGlob : Nat → Ed → Bytes → Bytes → Bytes → Ed → Prop
  | scan {f : Nat} {ed : Ed} {loc cmd arg : Bytes} {rc : Nat} {b e : Int} {ed1 : Ed} {re : RStr} {s : Ed} :
      ed.xgdep < 7 →
      exRegion ed (if loc.isEmpty && ed.xgdep == 0 then [37] else loc) = some ((rc, b, e), ed1) → (rc != 0) = false →
      ((gPrep ed1 arg).xkwddir == 0) = false →
      (gPrep ed1 arg).mkRe (gPrep ed1 arg).xkwd = some (some re) →
      VScan f (hasBang cmd || cmd.headD 0 == 118) (reRead arg).2 re ((gPrep ed1 arg).xgdep + 1)
        (gBudget (gMark (gPrep ed1 arg) b e ((gPrep ed1 arg).xgdep + 1)))
        (gMark (gPrep ed1 arg) b e ((gPrep ed1 arg).xgdep + 1)) b s →
      VGlob (f + 1) ed loc cmd arg s

/-- the rounds of the loop of `:g` -/
inductive VScan : Nat → Bool → Bytes → RStr → Nat → Nat → Ed → Int → Ed → Prop
  /-- the state at the start of a round -/
  | here {f : Nat} {neg : Bool} {body : Bytes} {re : RStr} {dep g : Nat} {ed : Ed} {i : Int} : ¬ (i ≥ ed.len) →
      VScan f neg body re dep (g + 1) ed i ed
  /-- a state the command list visits on line `i` -/
  | body {f : Nat} {neg : Bool} {body : Bytes} {re : RStr} {dep g : Nat} {ed : Ed} {i : Int} {ln : Bytes} {res : Int}
      {x : List Int × Nat} {s : Ed} : ¬ (i ≥ ed.len) → ed.line i = some ln → rstrFind re ln 16 0 ND NG = some (res, x) →
      ((res < 0) == neg) = true → VExec f { ed with xrow := i } body s → VScan f neg body re dep (g + 1) ed i s
  /-- a state visited in a later round -/
  | next {f : Nat} {neg : Bool} {body : Bytes} {re : RStr} {dep g : Nat} {ed : Ed} {i : Int} {ed2 : Ed} {i2 : Int} {s : Ed} :
      ¬ (i ≥ ed.len) → globStep f neg body re ed i = some (false, ed2, i2) → ¬ (i2 < 0) →
      VScan f neg body re dep g (ecGlob.scan.adv dep (ed2.len.toNat + 1) ed2 i2).1
        (ecGlob.scan.adv dep (ed2.len.toNat + 1) ed2 i2).2 s →
      VScan f neg body re dep (g + 1) ed i s
end

end Neatvi.Lemmas.C05d
