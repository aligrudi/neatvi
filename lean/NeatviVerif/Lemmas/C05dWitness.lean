import NeatviVerif.Lemmas.C05dScript
import NeatviVerif.Props.C06b
import NeatviVerif.Props.C05b
/-!
# C05d lemmas, part 7: concrete states — what the invariant cannot say

The current row is NOT kept inside the buffer by the ex layer: `:u` (and `:redo`, `:!`, `:s`) change the number of
lines and leave `xrow` alone, an address `N;` sets `xrow` to `N - 1` before anything is checked, and `:c` with no
text on a buffer that becomes empty sets it to `-1`.  The C code does the same (see the report).
At the end: the conjecture `Props/C05d.lean` refutes, and the concrete runs behind its examples.
-/
namespace Neatvi.Lemmas.C05d
open Neatvi Neatvi.Lbuf Neatvi.LbufIo Neatvi.Ex

theorem some_getD {α} {o : Option α} {d : α} (h : o.isSome = true) : o = some (o.getD d) := by
  cases o with
  | none => cases h
  | some x => rfl

/-- from an evaluated summary `(code, row, length)` of a handler call back to the call -/
theorem extract {f : Nat} {ed : Ed} {hd : String} {loc cmd arg : Bytes} {txt : Option Bytes} {v : Int × Int × Int}
    (h : (runCmd f ed hd loc cmd arg txt).map (fun x => (x.1, x.2.xrow, x.2.len)) = some v) :
    ∃ r ed', runCmd f ed hd loc cmd arg txt = some (r, ed') ∧ ed'.xrow = v.2.1 ∧ ed'.len = v.2.2 := by
  cases hr : runCmd f ed hd loc cmd arg txt with
  | none => rw [hr] at h; cases h
  | some x =>
    rw [hr] at h
    simp only [Option.map_some, Option.some.injEq] at h
    exact ⟨x.1, x.2, rfl, by rw [← h], by rw [← h]⟩

theorem posOk_one {M : Option Int} {ed : Ed} {b : Buf} {n : Nat} (hb : ed.bufs = some b :: List.replicate n none)
    (hcap : ∀ m, M = some m → NUMMAX ≤ m) (hx : RowOk M ed.xrow) (ho : 0 ≤ ed.xoff) (hp : BufPos M b) : PosOk M ed := by
  refine ⟨hcap, hx, ho, ?_⟩
  rw [hb]
  intro c hc
  simp only [List.mem_cons, Option.some.injEq, List.mem_replicate, reduceCtorEq, and_false, or_false] at hc
  rw [hc]; exact hp

/-- one line `a` -/
def wLb1 : Lb := (Lbuf.edit Lbuf.make (some [97, 10]) 0 0).getD Lbuf.make
/-- the command boundary -/
def wLb2 : Lb := (modified wLb1).2
/-- `b`, `c` appended: three lines, the last two undoable as one step -/
def wLb3 : Lb := (Lbuf.edit wLb2 (some [98, 10, 99, 10]) 1 1).getD Lbuf.make
/-- the next command boundary -/
def wLb4 : Lb := (modified wLb3).2

theorem wLb1_eq : Lbuf.edit Lbuf.make (some [97, 10]) 0 0 = some wLb1 := some_getD (by decide +kernel)
theorem wLb3_eq : Lbuf.edit wLb2 (some [98, 10, 99, 10]) 1 1 = some wLb3 := some_getD (by decide +kernel)

theorem wLb4_pos : LbPos wLb4 :=
  lbPos_modified (lbPos_edit (lbPos_modified (lbPos_edit lbPos_make _ _ _ wLb1_eq)) _ _ _ wLb3_eq)

/-- an editor on that buffer (three lines `a`, `b`, `c`), the current row on the last line; a file `g` of two lines -/
def wEd : Ed :=
  { bufs := some { path := [102], lb := wLb4 } :: List.replicate 15 none, xrow := 2,
    files := [⟨[103], [120, 10, 121, 10], 5⟩] }

theorem wEd_inside : wEd.len = 3 ∧ wEd.xrow = 2 := by decide +kernel

/-- `:u` in that state: one line is left, the current row is still `2` -/
theorem w_undo : (runCmd 1 wEd "ec_undo" [] [117] [] none).map (fun x => (x.1, x.2.xrow, x.2.len)) = some (0, 2, 1) := by
  rw [runCmd]; decide +kernel

/-- `:9;p` in that state: the command fails (`9` is not a line), the current row is `8` -/
theorem w_semicolon :
    (runCmd 1 wEd "ec_print" [57, 59] [112] [] none).map (fun x => (x.1, x.2.xrow, x.2.len)) = some (1, 8, 3) := by
  rw [runCmd]; decide +kernel

/-- `:$r g` in that state: five lines, the current row on the last one -/
theorem w_read : (runCmd 1 wEd "ec_read" [36] [114] [103] none).map (fun x => (x.1, x.2.xrow, x.2.len)) = some (0, 4, 5) := by
  rw [runCmd]; decide +kernel

/-- `:$r g` and then `:u`: three lines again, the current row is `4` -/
theorem w_read_undo :
    ((runCmd 1 wEd "ec_read" [36] [114] [103] none).bind (fun x => runCmd 1 x.2 "ec_undo" [] [117] [] none)).map
      (fun x => (x.1, x.2.xrow, x.2.len)) = some (0, 4, 3) := by
  simp only [Lemmas.C20c.runCmd_undo, Lemmas.C20.ecHist]
  rw [runCmd]
  decide +kernel

/-- an empty buffer -/
def wEd0 : Ed := { bufs := some { path := [], lb := Lbuf.make } :: List.replicate 15 none }

theorem wEd0_posOk : PosOk none wEd0 :=
  posOk_one rfl (fun m h => by cases h) (rowOk_none (by decide)) (by decide)
    ⟨lbPos_make, rowOk_none (by decide), by decide⟩

/-- `:c` with no text on the empty buffer: the current row is `-1` -/
theorem w_change_empty :
    (runCmd 1 wEd0 "ec_insert" [] [99] [] (some [])).map (fun x => (x.1, x.2.xrow, x.2.len)) = some (0, -1, 0) := by
  rw [runCmd]; decide +kernel

/-! ### what a line of one plain command visits -/

open Neatvi.Lemmas.C06b in
theorem vcmds_single {f g : Nat} {ed ed1 s : Ed} {ln : Bytes} {ret r : Int}
    (hone : runOne f ed (parse1 ln) ret = some ((r, ed1), []))
    (hat : ∀ a h, (parse1 ln).idx = some (a, h) → h ≠ "ec_at" ∧ h ≠ "ec_glob" ∧ h ≠ "ec_edit")
    (hv : VCmds f g ed ln ret s) : s = ed1 := by
  cases hv with
  | ret _ h1 =>
    rw [hone] at h1
    cases h1; rfl
  | inner _ hidx hr =>
    obtain ⟨a1, a2, a3⟩ := hat _ _ hidx
    exact absurd hr (vrun_atomic a1 a2 a3)
  | later _ h1 h2 =>
    rw [hone] at h1
    simp only [Option.some.injEq, Prod.mk.injEq] at h1
    obtain ⟨⟨_, rfl⟩, rfl⟩ := h1
    cases h2 with
    | ret h _ => cases h
    | inner h _ _ => cases h
    | later h _ _ => cases h

open Neatvi.Lemmas.C06b in
theorem vstep_single {ed ed1 s : Ed} {ln : Bytes} {rest0 : List Bytes} {r : Int} (hin : ed.input = ln :: rest0)
    (hone : runOne (FUEL - 2) (stepStart ed rest0) (parse1 ln) 0 = some ((r, ed1), []))
    (hat : ∀ a h, (parse1 ln).idx = some (a, h) → h ≠ "ec_at" ∧ h ≠ "ec_glob" ∧ h ≠ "ec_edit")
    (hv : VStep ed s) : s = ed1 := by
  cases hv with
  | line hin' hc =>
    rw [hin] at hin'
    cases hin'
    cases hc with
    | exec he =>
      cases he with
      | cmds _ hcm => exact vcmds_single hone hat hcm

/-- `wEd` about to read the line `$r g` -/
def wEdIn : Ed := { wEd with input := [[36, 114, 32, 103]] }

theorem wEdIn_posOk : PosOk (some NUMMAX) wEdIn :=
  posOk_one rfl (fun m h => by cases h; exact Int.le_refl _) ⟨by decide, fun m h => by cases h; decide⟩ (by decide)
    ⟨wLb4_pos, ⟨by decide, fun m h => by cases h; decide⟩, by decide⟩

theorem wEd_posOk : PosOk none wEd := (wEdIn_posOk.to (ed' := wEd) rfl rfl rfl).uncap

open Neatvi.Lemmas.C06b in
theorem wEdIn_idx : (parse1 [36, 114, 32, 103]).idx = some ([114], "ec_read") := by decide +kernel

open Neatvi.Lemmas.C06b in
theorem wEdIn_one : ∃ r ed1, runOne (FUEL - 2) (stepStart wEdIn []) (parse1 [36, 114, 32, 103]) 0 = some ((r, ed1), []) ∧
    ed1.len = 5 ∧ ed1.input = [] := by
  have hev : ((runOne (FUEL - 2) (stepStart wEdIn []) (parse1 [36, 114, 32, 103]) 0).map
      (fun x => (x.1.2.len, x.1.2.input, x.2))) = some (5, [], []) := by
    rw [show FUEL - 2 = (FUEL - 3) + 1 from rfl]
    unfold runOne
    rw [wEdIn_idx]
    simp only [abbrOf]
    rw [runCmd]
    decide +kernel
  cases hone : runOne (FUEL - 2) (stepStart wEdIn []) (parse1 [36, 114, 32, 103]) 0 with
  | none => rw [hone] at hev; cases hev
  | some x =>
    obtain ⟨⟨r, ed1⟩, rest⟩ := x
    rw [hone] at hev
    simp only [Option.map_some, Option.some.injEq, Prod.mk.injEq] at hev
    obtain ⟨h5, hinp, rfl⟩ := hev
    exact ⟨r, ed1, rfl, h5, hinp⟩

open Neatvi.Lemmas.C06b in
theorem wEdIn_visits (s : Ed) (hv : VStep wEdIn s) : s.len = 5 := by
  obtain ⟨r, ed1, hone, h5, _⟩ := wEdIn_one
  rw [vstep_single (ed := wEdIn) rfl hone (by intro a h hi; rw [wEdIn_idx] at hi; cases hi; decide) hv]
  exact h5

open Neatvi.Lemmas.C06b in
theorem exStep_single {ed ed1 : Ed} {ln : Bytes} {rest0 : List Bytes} {r : Int} (hin : ed.input = ln :: rest0)
    (hlen : ln.length < Gen.EXLEN) (hne : ln.isEmpty = false)
    (hone : runOne (FUEL - 2) (stepStart ed rest0) (parse1 ln) 0 = some ((r, ed1), [])) :
    exStep ed = some (r, { (ed1.modifiedAt 0).2 with regs := (ed1.modifiedAt 0).2.regs.put 58 ln 1, faults := [] }) := by
  unfold exStep
  rw [hin]
  simp only []
  have hc : exCommand FUEL (stepStart ed rest0) ln = some (r, (ed1.modifiedAt 0).2) := by
    show exCommand ((FUEL - 2) + 1 + 1) _ _ = _
    rw [exCommand, Props.C06b.exExec_short (FUEL - 2) _ _ hlen, cmds_succ, if_neg (by simp [hne]), hone]
    simp only [cmds_nil]
  have hc' : exCommand FUEL { ed with input := rest0, out := [], msg := [], calls := 0, fired := 0 } ln =
      some (r, (ed1.modifiedAt 0).2) := hc
  rw [hc']

theorem wEdIn_step : ∃ r ed', exStep wEdIn = some (r, ed') ∧ ed'.len = 5 ∧ ed'.input = [] := by
  obtain ⟨r, ed1, hone, h5, hinp⟩ := wEdIn_one
  refine ⟨r, _, exStep_single (ed := wEdIn) rfl (by decide) (by decide) hone, ?_, ?_⟩
  · show (ed1.modifiedAt 0).2.len = 5
    rw [modifiedAt_len]; exact h5
  · show (ed1.modifiedAt 0).2.input = []
    have : (ed1.modifiedAt 0).2.input = ed1.input := by rw [Lemmas.C02Ex.modifiedAt_fields]
    rw [this]; exact hinp

/-- `ex_init` on a file of three lines -/
def wEdStart : Ed := { files := [⟨[102], [97, 10, 98, 10, 99, 10], 5⟩] }

theorem wEdStart_init : ∃ rc ed1, exInit wEdStart [[102]] = some (rc, ed1) ∧ ed1.len = 3 ∧ ed1.xrow = 0 := by
  have hev : (exInit wEdStart [[102]]).map (fun x => (x.2.len, x.2.xrow)) = some (3, 0) := by
    rw [exInit, show ecEdit FUEL = ecEdit ((FUEL - 1) + 1) from rfl, ecEdit]; decide +kernel
  cases h : exInit wEdStart [[102]] with
  | none => rw [h] at hev; cases hev
  | some x =>
    rw [h] at hev
    simp only [Option.map_some, Option.some.injEq, Prod.mk.injEq] at hev
    exact ⟨x.1, x.2, rfl, hev.1, hev.2⟩

section
open Neatvi.Props.C02.Ex (exRun)
open Neatvi.Lemmas.C05b (AddrFits)

/-- the conjecture: a handler call takes a state with the row inside the buffer to a state with the row inside -/
def xrow_inside_full : Prop :=
  ∀ (f : Nat) (ed ed' : Ed) (hd : String) (loc cmd arg : Bytes) (txt : Option Bytes) (r : Int),
    PosOk none ed → 0 ≤ ed.xrow → ed.xrow ≤ max 0 (ed.len - 1) → runCmd f ed hd loc cmd arg txt = some (r, ed') →
    0 ≤ ed'.xrow ∧ ed'.xrow ≤ max 0 (ed'.len - 1)

/-! ### concrete runs (the examples of `Props/C05d.lean`) -/

theorem ex_undo : ∃ r ed', runCmd 1 wEd "ec_undo" [] [117] [] none = some (r, ed') ∧ PosOk none ed' ∧ ed'.xrow = 2 ∧
    ed'.len = 1 := by
  obtain ⟨r, ed', h, hx, hl⟩ := extract w_undo
  exact ⟨r, ed', h, (runCmd_pos' wEd_posOk h (lenLe_none _) (fun _ _ => lenLe_none _)).1, hx, hl⟩

theorem wEd_posOk_cap : PosOk (some NUMMAX) wEd := (wEdIn_posOk).to rfl rfl rfl

theorem ex_read_capped : ∃ r ed', runCmd 1 wEd "ec_read" [36] [114] [103] none = some (r, ed') ∧ PosOk (some NUMMAX) ed' ∧
    ed'.xrow = 4 ∧ ed'.len = 5 ∧ AddrFits ed' := by
  obtain ⟨r, ed', h, hx, hl⟩ := extract w_read
  have p := (runCmd_pos' wEd_posOk_cap h (fun _ hk => by cases hk; rw [hl]; decide)
    (fun _ hs => absurd hs (vrun_atomic (by decide) (by decide) (by decide)))).1
  exact ⟨r, ed', h, p, hx, hl, addrFits_of_posOk p (by rw [hl]; decide)⟩

theorem ex_step_capped : ∃ r ed', exStep wEdIn = some (r, ed') ∧ ed'.len = 5 ∧ PosOk (some NUMMAX) ed' ∧ AddrFits ed' := by
  obtain ⟨r, ed', h, hl, _⟩ := wEdIn_step
  have p := (exStep_pos wEdIn_posOk h (fun s hs _ hk => by cases hk; rw [wEdIn_visits s hs]; decide)).1
  exact ⟨r, ed', h, hl, p, addrFits_of_posOk p (by rw [hl]; decide)⟩

theorem ex_run : ∃ ed', exRun 1 wEdIn = some ed' ∧ ed'.len = 5 ∧ PosOk none ed' := by
  obtain ⟨r, ed', h, hl, hin⟩ := wEdIn_step
  have hr : exRun 1 wEdIn = some ed' := by
    rw [exRun, if_neg (by decide), h]
    rfl
  exact ⟨ed', hr, hl, (exRun_pos _ _ _ wEdIn_posOk.uncap hr (fun _ _ => lenLe_none _)).1⟩

theorem ex_init : ∃ rc ed1, exInit wEdStart [[102]] = some (rc, ed1) ∧ ed1.len = 3 ∧ PosOk none ed1 := by
  obtain ⟨rc, ed1, h, hl, _⟩ := wEdStart_init
  exact ⟨rc, ed1, h, hl, exInit_pos (posOk_start wEdStart _ (fun _ h => by cases h) rfl rfl rfl) h (fun _ _ => lenLe_none _)⟩

theorem ex_read_row_in : ∃ ed', runCmd 1 wEd "ec_read" [36] [114] [103] none = some (0, ed') ∧ -1 ≤ ed'.xrow ∧
    ed'.xrow ≤ ed'.len := by
  cases h : runCmd 1 wEd "ec_read" [36] [114] [103] none with
  | none => have := w_read; rw [h] at this; cases this
  | some x =>
    have hw := w_read
    rw [h] at hw
    simp only [Option.map_some, Option.some.injEq, Prod.mk.injEq] at hw
    obtain ⟨r, ed'⟩ := x
    simp only [] at hw
    obtain ⟨rfl, _, _⟩ := hw
    exact ⟨ed', rfl, runCmd_row_in 0 wEd ed' "ec_read" [36] [114] [103] none (by simp) wEd_posOk h⟩

end

end Neatvi.Lemmas.C05d
