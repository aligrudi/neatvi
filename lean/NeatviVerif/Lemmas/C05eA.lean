import NeatviVerif.Lemmas.C02bEd
import NeatviVerif.Lemmas.C05eR6
import NeatviVerif.Lemmas.C06Ex
import NeatviVerif.Lemmas.C05bEx
import NeatviVerif.Lemmas.C06Lbuf
import NeatviVerif.Lemmas.C20cStages
import NeatviVerif.Props.C03
import NeatviVerif.Lemmas.ExDid
/-!
# C05e lemmas, part A: the primitives below the `ec_*` handlers never trap

* `lbuf_undo` / `lbuf_redo` on a buffer built by the lbuf API (`GoodLb`), `lbuf_rd`, `lbuf_save`
  (whatever faults are scheduled), `bufs_modified`;
* address evaluation (`ex_search`, `ex_lineno`, `ex_region`); that the matcher does not trap (`rstrMake_ne_none`,
  `rstrFind_ne_none`) is read off parts R1–R5;
* `substLine` (the matcher again, and the group offsets of part R6).

The model functions are chains of `if`s over large bodies.  The address evaluators are walked on the goal, as the
handlers are (`Lemmas/ExHandlers.lean`): `ExDid.Tot Q x` ("`x` returns something with `Q`") and `Basics.ite_both`, which takes
the test off the goal, where `split` would abstract it in the whole body.
-/
namespace Neatvi.Lemmas.C05e
open Neatvi Neatvi.Lbuf Neatvi.LbufIo Neatvi.Ex Neatvi.Rset Neatvi.Sbuf
open Neatvi.Props.C01 Neatvi.Lemmas.Hist Neatvi.Lemmas.C02b Neatvi.Lemmas.C06 Neatvi.Lemmas.ExDid

theorem ite_total {α β : Type} {c : Prop} [Decidable c] {a b : Option (α × β)} (ha : ∃ r e, a = some (r, e))
    (hb : ∃ r e, b = some (r, e)) : ∃ r e, (if c then a else b) = some (r, e) := by
  split <;> assumption

theorem opt_ite {α : Type} {c : Prop} [Decidable c] {a b : Option α} (ha : ∃ x, a = some x) (hb : ∃ x, b = some x) :
    ∃ x, (if c then a else b) = some x := by
  split <;> assumption

theorem undo_total {lb : Lb} (h : GoodLb lb) : ∃ rc lb', undo lb = some (rc, lb') := by
  obtain ⟨d, hr⟩ := h
  obtain ⟨T0, pg, fg, m, hi, _⟩ := hr.inv
  rcases hinv_undo hi with ⟨_, h1⟩ | ⟨g, ps, lb', _, h1, _⟩
  · exact ⟨_, _, h1⟩
  · exact ⟨_, _, h1⟩

theorem redo_total {lb : Lb} (h : GoodLb lb) : ∃ rc lb', redo lb = some (rc, lb') := by
  obtain ⟨d, hr⟩ := h
  obtain ⟨T0, pg, fg, m, hi, _⟩ := hr.inv
  rcases hinv_redo hi with ⟨_, h1⟩ | ⟨g, ps, lb', _, h1, _⟩
  · exact ⟨_, _, h1⟩
  · exact ⟨_, _, h1⟩

theorem rd_total (lb : Lb) (chunks : List Bytes) (fe : Bool) (b e : Nat) (hbe : b ≤ e) :
    ∃ rc lb', rd lb chunks fe b e = some (rc, lb') := by
  obtain ⟨lb', he⟩ := C06.edit_total lb (some (cstr chunks.flatten)) b e hbe
  rw [rd_eq, he]
  cases fe <;> exact ⟨_, _, rfl⟩

theorem saveSched_prog (ed : Ed) (n : Nat) : ProgSched (Props.C03.schedOf ed n) := by
  intro k hk
  unfold Props.C03.schedOf at hk
  simp only [List.mem_map, List.mem_range] at hk
  obtain ⟨i, _, hi⟩ := hk
  split at hi
  · cases hi
  · split at hi
    · rename_i hd
      simp only [Bool.and_eq_true, decide_eq_true_eq] at hd
      injection hi with hi; omega
    · injection hi with hi; omega
  · injection hi with hi; omega

theorem lbufSave_total (ed : Ed) (lb : Lb) (b : Nat) (e : Int) (path : Bytes) (force : Bool) (ts : Int)
    (he : e < 0 ∨ e ≤ lb.lines.length) : ∃ r ed', lbufSave ed lb b e path force ts = some (r, ed') := by
  obtain ⟨hf, hl⟩ := Props.C03.fuelOf_covers lb
  have he' : Props.C03.endLine lb e ≤ lb.lines.length := by
    unfold Props.C03.endLine
    split
    · exact Nat.le_refl _
    · rcases he with he | he <;> omega
  rw [Props.C03.lbufSave_eq]
  refine ite_total ⟨_, _, rfl⟩ (ite_total ⟨_, _, rfl⟩ (ite_total ⟨_, _, rfl⟩ ?_))
  obtain ⟨st, hst, _⟩ := wrFinal_total lb.lines b _ Gen.WR_BATCH (Props.C03.fuelOf lb) (Props.C03.schedOf _ _) he' hf hl
    (saveSched_prog _ _)
  rw [hst]
  unfold Props.C03.saveClose
  exact ite_total ⟨_, _, rfl⟩ (ite_total ⟨_, _, rfl⟩ ⟨_, _, rfl⟩)

theorem lbufSaveP_total (ed : Ed) (lb : Lb) (b : Nat) (e : Int) (path : Bytes) (force : Bool) (ts : Int)
    (he : e < 0 ∨ e ≤ lb.lines.length) : ∃ r ed', lbufSaveP ed lb b e path force ts = some (r, ed') := by
  unfold lbufSaveP
  split
  · exact ⟨_, _, rfl⟩
  · exact lbufSave_total ed lb b e path force ts he

theorem bufsModified_total (ed : Ed) (idx : Nat) (msg : Option Bytes) : ∃ r ed', bufsModified ed idx msg = some (r, ed') := by
  cases hb : ed.bufs.getD idx none with
  | none => unfold bufsModified; rw [hb]; exact ⟨_, _, rfl⟩
  | some b =>
    rw [Lemmas.C02Ex.bufsModified_eq ed idx msg b hb]
    split
    · exact ⟨_, _, rfl⟩
    · split
      · obtain ⟨r, ed', h⟩ := lbufSave_total (Lemmas.C02Ex.bumpAt ed idx b) (modified b.lb).2 0 (-1) b.path false b.mtime
          (Or.inl (by omega))
        rw [h]
        exact ⟨_, _, rfl⟩
      · exact ⟨_, _, rfl⟩

/-! ### what `lbuf_save` may move: the file system, the clock, the counters of the fault schedule -/

/-- `C02Ex.IoEq` -/
def IoFr (ed ed' : Ed) : Prop :=
  ∃ fs c k fi, ed' = { ed with files := fs, clock := c, calls := k, fired := fi }

theorem IoFr.refl (ed : Ed) : IoFr ed ed := Lemmas.C02Ex.IoEq.refl ed

theorem IoFr.trans {a b c : Ed} (h1 : IoFr a b) (h2 : IoFr b c) : IoFr a c := Lemmas.C02Ex.IoEq.trans h1 h2

theorem IoFr.bufs {ed ed' : Ed} (h : IoFr ed ed') : ed'.bufs = ed.bufs := by
  obtain ⟨_, _, _, _, e⟩ := h; subst e; rfl

theorem IoFr.atDepth {ed ed' : Ed} (h : IoFr ed ed') : ed'.atDepth = ed.atDepth := by
  obtain ⟨_, _, _, _, e⟩ := h; subst e; rfl

theorem lbufSave_ioFr {ed ed' : Ed} {lb : Lb} {b : Nat} {e : Int} {path : Bytes} {force : Bool} {ts : Int}
    {r : Option Bytes} (h : lbufSave ed lb b e path force ts = some (r, ed')) : IoFr ed ed' := Lemmas.C02Ex.lbufSave_io h

theorem lbufSaveP_ioFr {ed ed' : Ed} {lb : Lb} {b : Nat} {e : Int} {path : Bytes} {force : Bool} {ts : Int}
    {r : Option Bytes} (h : lbufSaveP ed lb b e path force ts = some (r, ed')) : IoFr ed ed' := Lemmas.C02Ex.lbufSaveP_io h

theorem rstrMake_ne_none (pat : Bytes) (flg : Nat) (h0 : 0 ∉ pat) : rstrMake pat flg ≠ none := by
  intro h
  obtain ⟨r, hr⟩ := rstrMake_total pat h0 flg
  rw [hr] at h; cases h

theorem rstrFind_ne_none (pat : Bytes) (flg : Nat) (re : RStr) (s : Bytes) (n fl : Nat) (hm : rstrMake pat flg = some (some re)) :
    rstrFind re s n fl ND NG ≠ none := by
  intro h
  obtain ⟨x, hx⟩ := rstrFind_total hm s n fl ND NG
  rw [hx] at h; cases h

theorem mkRe_total (ed : Ed) (pat : Bytes) (h0 : 0 ∉ pat) :
    ed.mkRe pat = some none ∨ ∃ re, ed.mkRe pat = some (some re) := by
  have := rstrMake_ne_none pat (if ed.xic != 0 then RE_ICASE else 0) h0
  unfold Ed.mkRe
  cases h : rstrMake pat (if ed.xic != 0 then RE_ICASE else 0) with
  | none => exact absurd h this
  | some o => cases o with
    | none => exact Or.inl rfl
    | some re => exact Or.inr ⟨re, rfl⟩

theorem find_total' {ed : Ed} {pat : Bytes} {re : RStr} (h : ed.mkRe pat = some (some re)) (s : Bytes) (n fl : Nat) :
    ∃ r offs c, rstrFind re s n fl ND NG = some (r, offs, c) := by
  have := rstrFind_ne_none pat _ re s n fl h
  cases hf : rstrFind re s n fl ND NG with
  | none => exact absurd hf this
  | some p => exact ⟨p.1, p.2.1, p.2.2, rfl⟩

/-! ### patterns are cut out of the command text: no NUL in the text, none in the pattern -/

theorem kwdSet_nul {ed : Ed} {k : Bytes} {d : Int} (hk : 0 ∉ k) : 0 ∉ (ed.kwdSet (some k) d).xkwd := by
  unfold Ed.kwdSet
  intro h
  exact hk (List.mem_of_mem_take h)

theorem kwEd_nul (ed : Ed) (src : Bytes) (d : Int) (h0 : 0 ∉ src) (hk : 0 ∉ ed.xkwd) : 0 ∉ (kwEd ed (reRead src).1 d).xkwd := by
  unfold kwEd
  cases hr : (reRead src).1 with
  | none => exact hk
  | some k =>
    dsimp only
    split
    · exact kwdSet_nul (fun h => h0 (reRead_mem src k hr 0 h))
    · exact hk

theorem searchScan_total (ed ed0 : Ed) (pat : Bytes) (re : RStr) (hm : ed0.mkRe pat = some (some re)) (dir len : Int) :
    ∀ (f : Nat) (row : Int), ∃ r, exSearch.scan ed re dir len f row = some r := by
  intro f
  induction f with
  | zero => intro row; exact ⟨_, rfl⟩
  | succ f ih =>
    intro row
    rw [exSearch.scan]
    split
    · exact ⟨_, rfl⟩
    · split
      · exact ⟨_, rfl⟩
      · rename_i ln _
        obtain ⟨r, offs, c, hf⟩ := find_total' hm ln 0 0
        rw [hf]
        simp only []
        split
        · exact ⟨_, rfl⟩
        · exact ih _

theorem exSearch_total (ed : Ed) (loc : Bytes) (h0 : 0 ∉ loc) (hk : 0 ∉ ed.xkwd) :
    ∃ r ed', exSearch ed loc = some (r, ed') ∧ 0 ∉ ed'.xkwd := by
  rw [exSearch_eq]
  simp only []
  have hk1 := kwEd_nul ed loc (if loc.headD 0 == 47 then 1 else -1) h0 hk
  generalize kwEd ed (reRead loc).1 (if loc.headD 0 == 47 then 1 else -1) = ed1 at hk1
  split
  · exact ⟨_, _, rfl, hk1⟩
  · rcases mkRe_total ed1 ed1.xkwd hk1 with h | ⟨re, h⟩
    · rw [h]; exact ⟨_, _, rfl, hk1⟩
    · rw [h]
      simp only []
      obtain ⟨r, hr⟩ := searchScan_total ed1 ed1 ed1.xkwd re h ed1.xkwddir ed1.len (ed1.len.toNat + 1) (ed1.xrow + ed1.xkwddir)
      rw [hr]
      exact ⟨_, _, rfl, hk1⟩

theorem exLineno_total (ed : Ed) (loc : Bytes) (h0 : 0 ∉ loc) (hk : 0 ∉ ed.xkwd) :
    Tot (fun p => 0 ∉ p.2.xkwd) (exLineno ed loc) := by
  rw [Lemmas.C05b.exLineno_eq]
  have hbase : Tot (fun p => 0 ∉ p.2.xkwd) (Lemmas.C05b.exLinenoBase ed loc) := by
    unfold Lemmas.C05b.exLinenoBase
    refine Basics.ite_both ⟨_, rfl, hk⟩ (Basics.ite_both ⟨_, rfl, hk⟩ (Basics.ite_both ?_ (Basics.ite_both ?_
      (Basics.ite_both ⟨_, rfl, hk⟩ ⟨_, rfl, hk⟩))))
    · split <;> exact ⟨_, rfl, hk⟩
    · obtain ⟨⟨n, rest⟩, ed', h, hk'⟩ := exSearch_total ed loc h0 hk
      rw [h]
      exact Basics.ite_both ⟨_, rfl, hk'⟩ ⟨_, rfl, hk'⟩
  obtain ⟨⟨⟨n, rest⟩, ed1⟩, hx, hk1⟩ := hbase
  rw [hx]
  exact Basics.ite_both ⟨_, rfl, hk1⟩ ⟨_, rfl, hk1⟩

theorem exRegion_go_total : ∀ (f : Nat) (ed : Ed) (loc : Bytes) (naddr : Nat) (b e : Int),
    0 ∉ loc → 0 ∉ ed.xkwd → Tot (fun p => 0 ∉ p.2.xkwd) (exRegion.go f ed loc naddr b e) := by
  intro f
  induction f with
  | zero => intro ed loc naddr b e _ hk; exact ⟨_, rfl, hk⟩
  | succ f ih =>
    intro ed loc naddr b e h0 hk
    rw [exRegion.go]
    refine Basics.ite_both ⟨_, rfl, hk⟩ ?_
    obtain ⟨⟨⟨n, rest⟩, ed'⟩, h, hk'⟩ := exLineno_total ed loc h0 hk
    have hrest := (Lemmas.C05b.exLineno_rest_suffix h).subset
    rw [h]
    refine Basics.ite_both ⟨_, rfl, hk'⟩ (Basics.ite_both ⟨_, rfl, hk'⟩ (ih _ _ _ _ _ ?_ ?_))
    · intro hm
      exact h0 (hrest ((List.dropWhile_suffix _).subset (List.mem_of_mem_drop hm)))
    · split <;> exact hk'

theorem exRegion_total (ed : Ed) (loc : Bytes) (h0 : 0 ∉ loc) (hk : 0 ∉ ed.xkwd) :
    Tot (fun p => 0 ∉ p.2.xkwd) (exRegion ed loc) := by
  unfold exRegion
  refine Basics.ite_both ⟨_, rfl, hk⟩ (Basics.ite_both ⟨_, rfl, hk⟩ ?_)
  obtain ⟨⟨⟨b, e⟩, ed'⟩, h, hk'⟩ := exRegion_go_total (loc.length + 1) ed loc 0 0 0 h0 hk
  rw [h]
  exact Basics.ite_both ⟨_, rfl, hk'⟩ (Basics.ite_both ⟨_, rfl, hk'⟩ (Basics.ite_both ⟨_, rfl, hk'⟩
    (Basics.ite_both ⟨_, rfl, hk'⟩ ⟨_, rfl, hk'⟩)))

/-! ### `substLine`: the matcher does not trap, the group offsets it reports are sane -/

theorem substExpand_go_total (ln : Bytes) (offs : List Int) (h : OffsOk ln offs) :
    ∀ (f : Nat) (rep acc : Bytes), ∃ x, substExpand.go ln offs f rep acc = some x := by
  intro f
  induction f with
  | zero => intro rep acc; exact ⟨_, rfl⟩
  | succ f ih =>
    intro rep acc
    rw [substExpand.go.eq_def]
    cases rep with
    | nil => exact ⟨_, rfl⟩
    | cons c r =>
      dsimp only
      refine opt_ite ?_ (ih _ _)
      by_cases hd : (decide (48 ≤ r.headD 0) && decide (r.headD 0 ≤ 57)) = true
      · rw [if_pos hd]
        simp only [Bool.and_eq_true, decide_eq_true_eq] at hd
        have hg := h (r.headD 0 - 48) (by omega)
        rw [show 2 * (r.headD 0 - 48) = (r.headD 0 - 48) * 2 by omega] at hg
        obtain ⟨h1, h2⟩ := hg
        rw [if_neg (by omega)]
        by_cases hz : (offs.getD ((r.headD 0 - 48) * 2 + 1) (-1) - offs.getD ((r.headD 0 - 48) * 2) (-1) == 0) = true
        · rw [if_pos hz]
          exact ih _ _
        · rw [if_neg hz]
          simp only [beq_iff_eq] at hz
          have := h2 (by omega)
          rw [if_neg (by simp only [Bool.or_eq_true, decide_eq_true_eq]; omega)]
          exact ih _ _
      · rw [if_neg hd]
        exact ih _ _

theorem substExpand_total {ln : Bytes} {offs : List Int} (h : OffsOk ln offs) (rep : Bytes) :
    ∃ x, substExpand rep ln offs = some x := substExpand_go_total ln offs h _ _ _

theorem substLine_go_total {pat : Bytes} {flg : Nat} {re : RStr}
    (hm : rstrMake pat flg = some (some re)) (rep : Bytes) (g : Bool) :
    ∀ (f : Nat) (ln : Bytes) (r : Option Bytes) (first : Bool), ∃ x, substLine.go re rep g f ln r first = some x := by
  intro f
  induction f with
  | zero => intro ln r first; exact ⟨_, rfl⟩
  | succ f ih =>
    intro ln r first
    rw [substLine.go]
    have hf := rstrFind_ne_none pat flg re ln 16 (if first = true then 0 else RE_NOTBOL) hm
    cases hfe : rstrFind re ln 16 (if first = true then 0 else RE_NOTBOL) ND NG with
    | none => exact absurd hfe hf
    | some p =>
      obtain ⟨res, offs, c⟩ := p
      dsimp only
      split
      · exact ⟨_, rfl⟩
      · rename_i hres
        obtain ⟨x, hx⟩ := substExpand_total (reGroups pat flg re ln _ res offs c hm hfe (by omega)) rep
        rw [hx]
        dsimp only
        split <;> exact opt_ite ⟨_, rfl⟩ (ih _ _ _)

theorem substLine_total {pat : Bytes} {flg : Nat} {re : RStr}
    (hm : rstrMake pat flg = some (some re)) (rep : Bytes) (g : Bool) (line : Bytes) :
    ∃ x, substLine re rep g line = some x := by
  unfold substLine
  obtain ⟨x, hx⟩ := substLine_go_total hm rep g (line.length + 2) line none true
  rw [hx]
  obtain ⟨a, rest⟩ := x
  cases a <;> exact ⟨_, rfl⟩

end Neatvi.Lemmas.C05e
