import NeatviVerif.Lemmas.C05eA
import NeatviVerif.Lemmas.C05eN
import NeatviVerif.Lemmas.C05eDec
import NeatviVerif.Lemmas.C02Ex
import NeatviVerif.Lemmas.ExHandlers
/-!
# C05e lemmas, part B: the invariant `Safe` and the handlers that neither expand a path nor run a command line

`Safe ed`: every buffer of the table was built by the lbuf API (`EdInv` of C02b: the undo history is consistent with
the text) and there is a current buffer.  Nothing else is needed by the handlers of this file: the row, the marks and
the addresses are validated by `ex_region` before any line is touched.

The two forms of "returns": `RetM ed x` — the call returns, in a safe state, at the same `:@` depth, and no line of
the current buffer carries a `:g` mark it did not carry before (`MLe`, for every depth at once; this is what makes
the scan of `:g` end).  `Ret d x` forgets the marks (`RetM.ret`); it is what the handlers that change the current
buffer or run a command line (`:e :b :q :@ :g`) have.

The handlers are walked in `Lemmas/ExHandlers.lean` (`local_run`); here the steps they take (`Did`) are shown to keep
`Safe`, the depth and the marks, and `run_local` reads `RetM` off.
-/
namespace Neatvi.Lemmas.C05e
open Neatvi Neatvi.Lbuf Neatvi.LbufIo Neatvi.Ex Neatvi.Rset
open Neatvi.Lemmas.ExFrame Neatvi.Lemmas.C02Ex Neatvi.Lemmas.C02b Neatvi.Lemmas.C06 Neatvi.Lemmas.ExDid

/-- the invariant behind "no trap" -/
structure Safe (ed : Ed) : Prop where
  inv : EdInv ed
  cur : ed.cur.isSome = true
  /-- the remembered search keyword is a C string -/
  kwd : 0 ∉ ed.xkwd

/-- the handler returns, in a safe state, at the same depth `d` of nested `:@` -/
def Ret {α : Type} (d : Nat) (x : R α) : Prop := ∃ r ed', x = some (r, ed') ∧ Safe ed' ∧ ed'.atDepth = d

theorem Ret.mk {α : Type} {d : Nat} {r : α} {ed : Ed} (h : Safe ed) (hd : ed.atDepth = d) : Ret d (some (r, ed)) :=
  ⟨r, ed, rfl, h, hd⟩

theorem Ret.ne_none {α : Type} {d : Nat} {x : R α} (h : Ret d x) : x ≠ none := by
  obtain ⟨_, _, h, _⟩ := h; rw [h]; exact fun h => by cases h

/-- the handler returns, in a safe state, at the depth of `ed`, and has added no `:g` mark to the current buffer -/
def RetM {α : Type} (ed : Ed) (x : R α) : Prop :=
  ∃ r ed', x = some (r, ed') ∧ Safe ed' ∧ ed'.atDepth = ed.atDepth ∧ MLe ed ed'

theorem RetM.mk {α : Type} {r : α} {ed ed' : Ed} (h : Safe ed') (hd : ed'.atDepth = ed.atDepth) (hm : MLe ed ed') :
    RetM ed (some (r, ed')) := ⟨r, ed', rfl, h, hd, hm⟩

theorem RetM.ret {α : Type} {ed : Ed} {x : R α} (h : RetM ed x) : Ret ed.atDepth x := by
  obtain ⟨r, ed', he, hs, hd, _⟩ := h
  exact ⟨r, ed', he, hs, hd⟩

theorem RetM.from {α : Type} {ed ed0 : Ed} {x : R α} (h : RetM ed0 x) (hd : ed0.atDepth = ed.atDepth) (hm : MLe ed ed0) :
    RetM ed x := by
  obtain ⟨r, ed', he, hs, hd', hm'⟩ := h
  exact ⟨r, ed', he, hs, hd'.trans hd, hm.trans hm'⟩

theorem setLb_atDepth (ed : Ed) (lb : Lb) : (ed.setLb lb).atDepth = ed.atDepth := by
  unfold Ed.setLb; split <;> rfl

theorem AddrOnly.atDepth {ed ed' : Ed} (h : AddrOnly ed ed') : ed'.atDepth = ed.atDepth := by
  obtain ⟨_, _, _, rfl⟩ := h; rfl

theorem Safe.lb {ed : Ed} (h : Safe ed) : ∃ lb, ed.lb = some lb ∧ GoodLb lb := by
  have hc := h.cur
  cases hb : ed.cur with
  | none => rw [hb] at hc; cases hc
  | some b => exact ⟨b.lb, by simp [Ed.lb, hb], edInv_cur h.inv hb⟩

theorem Safe.live {ed : Ed} (h : Safe ed) : Live ed := ⟨let ⟨lb, hl, _⟩ := h.lb; ⟨lb, hl⟩, h.kwd⟩

theorem Safe.of_bufs {ed ed' : Ed} (h : Safe ed) (hb : ed'.bufs = ed.bufs) (hk : ed'.xkwd = ed.xkwd := by rfl) :
    Safe ed' :=
  ⟨edInv_of_bufs hb h.inv, by rw [cur_congr hb]; exact h.cur, by rw [hk]; exact h.kwd⟩

theorem Safe.addr {ed ed' : Ed} (h : Safe ed) (ha : AddrOnly ed ed') (hk : 0 ∉ ed'.xkwd) : Safe ed' :=
  ⟨edInv_of_bufs ha.bufs h.inv, by rw [cur_congr ha.bufs]; exact h.cur, hk⟩

theorem Safe.show {ed : Ed} (h : Safe ed) (m : Bytes) : Safe (ed.show m) := h.of_bufs rfl
theorem Safe.print {ed : Ed} (h : Safe ed) (m : Bytes) : Safe (ed.print m) := h.of_bufs rfl

theorem Safe.setLb {ed : Ed} (h : Safe ed) {lb : Lb} (hg : GoodLb lb) : Safe (ed.setLb lb) := by
  refine ⟨edInv_setLb h.inv hg, ?_, by rw [setLb_xkwd]; exact h.kwd⟩
  have hc := h.cur
  unfold Ed.setLb
  cases hb : ed.cur with
  | none => rw [hb] at hc; cases hc
  | some b =>
    dsimp only
    rw [setCur_cur ed b _ hb]; rfl

theorem Safe.edit {ed ed' : Ed} (h : Safe ed) {s : Option Bytes} {b e : Int} (he : ed.edit s b e = some ed') : Safe ed' := by
  obtain ⟨_, _, lb, lb', hlb, hed, rfl, _⟩ := Ed_edit_some he
  exact h.setLb ((edInv_lb h.inv hlb).edit hed)

theorem edit_atDepth {ed ed' : Ed} {s : Option Bytes} {b e : Int} (he : ed.edit s b e = some ed') :
    ed'.atDepth = ed.atDepth := by
  obtain ⟨_, _, lb, lb', _, _, rfl, _⟩ := Ed_edit_some he
  exact setLb_atDepth _ _

theorem edit_total' {ed : Ed} (h : Safe ed) (s : Option Bytes) (b e : Int) (hb : 0 ≤ b) (hbe : b ≤ e) :
    ∃ ed', ed.edit s b e = some ed' ∧ Safe ed' ∧ ed'.atDepth = ed.atDepth := by
  obtain ⟨lb, hl, _⟩ := h.lb
  obtain ⟨ed', he⟩ := ed_edit_total ed lb s b e hl hb hbe
  exact ⟨ed', he, h.edit he, edit_atDepth he⟩

theorem region_cases {ed : Ed} (h : Safe ed) (loc : Bytes) (h0 : 0 ∉ loc) :
    ∃ rc b e ed1, exRegion ed loc = some ((rc, b, e), ed1) ∧ Safe ed1 ∧ ed1.atDepth = ed.atDepth ∧ (rc = 0 ∨ rc = 1) ∧
      (rc = 0 → 0 ≤ b ∧ b ≤ e ∧ e ≤ ed1.len) ∧ (rc = 1 → b = 0 → e = 0 → ed1.len = 0) := by
  obtain ⟨⟨⟨rc, b, e⟩, ed1⟩, hr, hk⟩ := exRegion_total ed loc h0 h.kwd
  obtain ⟨ha, h1, h2, h3⟩ := region_all ed loc rc b e ed1 hr
  exact ⟨rc, b, e, ed1, hr, h.addr ha hk, AddrOnly.atDepth ha, h1, fun h0 => ⟨(h2 h0).1, (h2 h0).2.1, (h2 h0).2.2.1⟩, h3⟩

/-! ### the steps of `Did` keep `Safe`, the depth and the marks -/

section did
variable {T : Ed → Bytes → Prop} {L : Prop} {n : Int} {e : Bool} {a b : Ed}

theorem _root_.Neatvi.Lemmas.ExDid.Did.atDepth (h : Did T L n a e b) : b.atDepth = a.atDepth := by
  induction h with
  | refl => rfl
  | addr _ ha _ _ ih => exact (AddrOnly.atDepth ha).trans ih
  | look _ hs ih => obtain ⟨_, _, _, _, _, _, _, rfl⟩ := hs; exact ih
  | edit s x y _ _ _ _ he ih => exact (edit_atDepth he).trans ih
  | yank k x y i _ ih => exact ih
  | reg k t i _ _ ih => exact ih
  | mark c p o _ _ _ _ ih => exact (setLb_atDepth _ _).trans ih
  | row r _ _ _ ih => exact ih
  | down _ _ ih => exact ih
  | col o _ _ ih => exact ih

theorem _root_.Neatvi.Lemmas.ExDid.Did.mle (h : Did T L n a e b) : MLe a b := by
  induction h with
  | refl => exact MLe.refl _
  | addr _ ha _ _ ih => exact ih.trans (MLe.of_bufs ha.bufs)
  | look _ hs ih => obtain ⟨_, _, _, _, _, _, _, rfl⟩ := hs; exact ih.trans (MLe.of_bufs rfl)
  | edit s x y _ _ _ _ he ih => exact ih.trans (edit_mle he)
  | yank k x y i _ ih => exact ih.trans (MLe.of_bufs rfl)
  | reg k t i _ _ ih => exact ih.trans (MLe.of_bufs rfl)
  | mark c p o _ hl _ _ ih => exact ih.trans (MLe.setLb_same hl (Props.C15.setMark_glob _ _ _ _))
  | row r _ _ _ ih => exact ih.trans (MLe.of_bufs rfl)
  | down _ _ ih => exact ih.trans (MLe.of_bufs rfl)
  | col o _ _ ih => exact ih.trans (MLe.of_bufs rfl)

theorem _root_.Neatvi.Lemmas.ExDid.Did.safe (h : Did T L n a e b) (hL : L) (hs : Safe a) : Safe b := by
  induction h with
  | refl => exact hs
  | addr _ ha _ hk ih => exact ih.addr ha (hk hL ih.kwd)
  | look _ hs ih => obtain ⟨_, _, _, _, _, _, _, rfl⟩ := hs; exact ih.of_bufs rfl
  | edit s x y _ _ _ _ he ih => exact ih.edit he
  | yank k x y i _ ih => exact ih.of_bufs rfl
  | reg k t i _ _ ih => exact ih.of_bufs rfl
  | mark c p o _ hl _ _ ih =>
    obtain ⟨lb, hl', hg⟩ := ih.lb
    rw [hl] at hl'; cases hl'
    exact ih.setLb (hg.setMark _ _ _)
  | row r _ _ _ ih => exact ih.of_bufs rfl
  | down _ _ ih => exact ih.of_bufs rfl
  | col o _ _ ih => exact ih.of_bufs rfl

theorem RetM.of_out {C : Prop} {s : Bool} {x : R Int} {ed : Ed} (h : Run C (Out T L e s ed) x) (hC : C) (hL : L)
    (hs : Safe ed) : RetM ed x := by
  obtain ⟨p, rfl, hp⟩ := h.tot hC
  exact RetM.mk (hp.1.safe hL hs) hp.1.atDepth hp.1.mle

end did

theorem run_local (f : Nat) {ed : Ed} (h : Safe ed) (hd : String)
    (hn : hd ∉ ["ec_undo", "ec_redo", "ec_at", "ec_glob", "ec_edit", "ec_substitute", "ec_exec", "ec_read", "ec_write",
      "ec_quit", "ec_buffer"]) (loc cmd arg : Bytes) (txt : Option Bytes) (hloc : 0 ∉ loc) :
    RetM ed (runCmd (f + 2) ed hd loc cmd arg txt) :=
  RetM.of_out (local_run (f + 1) ed hd loc cmd arg txt hn) ⟨h.live, hloc, Nat.succ_pos f⟩ hloc h

theorem run_undo (f : Nat) {ed : Ed} (h : Safe ed) (loc cmd arg : Bytes) (txt : Option Bytes) :
    RetM ed (runCmd (f + 1) ed "ec_undo" loc cmd arg txt) := by
  dispatch
  obtain ⟨lb, hl, hg⟩ := h.lb
  obtain ⟨rc, lb', hu⟩ := undo_total hg
  rw [hl]
  simp only [Option.bind_some, hu]
  exact RetM.mk (h.setLb (hg.undo hu)) (setLb_atDepth _ _) (MLe.setLb hl (C15b.undo_rel gleRel hu))

theorem run_redo (f : Nat) {ed : Ed} (h : Safe ed) (loc cmd arg : Bytes) (txt : Option Bytes) :
    RetM ed (runCmd (f + 1) ed "ec_redo" loc cmd arg txt) := by
  dispatch
  obtain ⟨lb, hl, hg⟩ := h.lb
  obtain ⟨rc, lb', hu⟩ := redo_total hg
  rw [hl]
  simp only [Option.bind_some, hu]
  exact RetM.mk (h.setLb (hg.redo hu)) (setLb_atDepth _ _) (MLe.setLb hl (C15b.redo_rel gleRel hu))

/-- the names the dispatcher knows -/
def modelled : List String :=
  ["ec_insert", "ec_print", "ec_null", "ec_delete", "ec_yank", "ec_put", "ec_lnum", "ec_undo", "ec_redo", "ec_mark",
   "ec_rs", "ec_at", "ec_glob", "ec_edit", "ec_substitute", "ec_exec", "ec_read", "ec_write", "ec_quit", "ec_buffer",
   "ec_set", "ec_echo"]

end Neatvi.Lemmas.C05e
