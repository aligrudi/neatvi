import NeatviVerif.Lemmas.C05eB
import NeatviVerif.Lemmas.C05dDecomp
import NeatviVerif.Lemmas.C06cCongr
/-!
# C05e lemmas, part C: path expansion, the unsaved-changes guard, and the handlers `:!`, `:r`, `:w`

`ex_pathexpand` writes into a buffer of 1024 bytes and truncates; the model does not follow the truncation and
answers `none` when the expansion reaches 1000 bytes.  That `none` is not a trap of the C code.  `PathFits ed src sp`
says the expansion of `src` in the state `ed` stays below that size; it depends on the state only through the path
names in slots 0 and 1 (`PathsEq`).
-/
namespace Neatvi.Lemmas.C05e
open Neatvi Neatvi.Lbuf Neatvi.LbufIo Neatvi.Ex Neatvi.Rset
open Neatvi.Lemmas.ExFrame Neatvi.Lemmas.C02Ex Neatvi.Lemmas.C02b Neatvi.Lemmas.C06

theorem pathGo_some (ed : Ed) (sp : Bool) : ∀ (f : Nat) (src dst : Bytes), ∃ o, pathExpand.go ed sp f src dst = some o := by
  intro f
  induction f with
  | zero => intro src dst; exact ⟨_, rfl⟩
  | succ f ih =>
    intro src dst
    rw [pathExpand.go.eq_def]
    dsimp only
    cases src with
    | nil => exact ⟨_, rfl⟩
    | cons c r =>
      dsimp only
      refine opt_ite ⟨_, rfl⟩ (opt_ite ?_ (opt_ite ?_ (opt_ite (ih _ _) (ih _ _))))
      · cases ed.bufs.getD (if (c == 35) = true then 1 else 0) none with
        | none => exact ⟨_, rfl⟩
        | some b => exact ih _ _
      · cases ed.cur with
        | none => exact ih _ _
        | some b =>
          dsimp only
          split <;> exact ih _ _

/-- the expansion of `src` stays below the size the model follows -/
def PathFits (ed : Ed) (src : Bytes) (sp : Bool) : Prop :=
  ∀ p, pathExpand.go ed sp (src.length + 1) src [] = some (some p) → p.length < 1000

theorem pathExpand_total {ed : Ed} {src : Bytes} {sp : Bool} (h : PathFits ed src sp) :
    ∃ r ed', pathExpand ed src sp = some (r, ed') ∧ (ed' = ed ∨ ∃ m, ed' = ed.show m) := by
  obtain ⟨o, ho⟩ := pathGo_some ed sp (src.length + 1) src []
  rw [Lemmas.C20c.pathExpand_eq, ho]
  cases o with
  | none => exact ⟨_, _, rfl, Or.inr ⟨_, rfl⟩⟩
  | some p => rw [Lemmas.C20c.pathFin_some ed (h p ho)]; exact ⟨_, _, rfl, Or.inl rfl⟩

theorem pathGo_plain (ed : Ed) (sp : Bool) : ∀ (f : Nat) (src dst : Bytes), (∀ c ∈ src, c ≠ 37 ∧ c ≠ 35 ∧ c ≠ 61) →
    ∃ p, pathExpand.go ed sp f src dst = some (some p) ∧ p.length ≤ dst.length + src.length := by
  intro f
  induction f with
  | zero => intro src dst _; exact ⟨_, rfl, by omega⟩
  | succ f ih =>
    intro src dst hs
    rw [pathExpand.go.eq_def]
    dsimp only
    cases src with
    | nil => exact ⟨_, rfl, by simp⟩
    | cons c r =>
      dsimp only
      have hc := hs c (by simp)
      have hr : ∀ x ∈ r, x ≠ 37 ∧ x ≠ 35 ∧ x ≠ 61 := fun x hx => hs x (by simp [hx])
      have hr1 : ∀ x ∈ r.drop 1, x ≠ 37 ∧ x ≠ 35 ∧ x ≠ 61 := fun x hx => hr x (List.mem_of_mem_drop hx)
      by_cases h1 : (c == 10 || (!sp && (c == 32 || c == 9))) = true
      · rw [if_pos h1]
        exact ⟨_, rfl, by simp⟩
      rw [if_neg h1, if_neg (by simp [hc.1, hc.2.1]), if_neg (by simp [hc.2.2])]
      by_cases h4 : (c == 92 && !r.isEmpty) = true
      · rw [if_pos h4]
        obtain ⟨p, hp, hl⟩ := ih _ _ hr1
        refine ⟨p, hp, ?_⟩
        simp only [List.length_append, List.length_cons, List.length_nil, List.length_drop] at hl ⊢
        omega
      · rw [if_neg h4]
        obtain ⟨p, hp, hl⟩ := ih _ _ hr
        refine ⟨p, hp, ?_⟩
        simp only [List.length_append, List.length_cons, List.length_nil] at hl ⊢
        omega

theorem pathFits_plain (ed : Ed) (src : Bytes) (sp : Bool) (hs : ∀ c ∈ src, c ≠ 37 ∧ c ≠ 35 ∧ c ≠ 61)
    (hl : src.length < 1000) : PathFits ed src sp := by
  intro p hp
  obtain ⟨q, hq, hlq⟩ := pathGo_plain ed sp (src.length + 1) src [] hs
  rw [hq] at hp
  cases hp
  simp only [List.length_nil] at hlq
  omega

/-- the same path names in every slot -/
abbrev PathsEq (ed ed' : Ed) : Prop := Lemmas.C06c.SamePaths ed ed'

theorem PathsEq.refl (ed : Ed) : PathsEq ed ed := fun _ => rfl
theorem PathsEq.trans {a b c : Ed} (h1 : PathsEq a b) (h2 : PathsEq b c) : PathsEq a c := fun i => (h2 i).trans (h1 i)
theorem PathsEq.of_bufs {ed ed' : Ed} (h : ed'.bufs = ed.bufs) : PathsEq ed ed' := fun i => by rw [h]

theorem PathsEq.isSome {ed ed' : Ed} (h : PathsEq ed ed') (i : Nat) :
    (ed'.bufs.getD i none).isSome = (ed.bufs.getD i none).isSome := by
  have := congrArg Option.isSome (h i)
  simpa using this

theorem modifiedAt_pathsEq (ed : Ed) (idx : Nat) : PathsEq ed (ed.modifiedAt idx).2 :=
  Lemmas.C06c.modifiedAt_samePaths ed idx

theorem PathFits.congr {ed ed' : Ed} {src : Bytes} {sp : Bool} (h : PathFits ed src sp) (he : PathsEq ed ed') :
    PathFits ed' src sp := by
  intro p hp
  rw [Lemmas.C06c.pathExpand_go_congr (fun i _ => he i)] at hp
  exact h p hp

theorem modifiedAt_atDepth (ed : Ed) (idx : Nat) : (ed.modifiedAt idx).2.atDepth = ed.atDepth := by
  rw [Lemmas.C02Ex.modifiedAt_fields]

theorem Safe.paths {ed ed' : Ed} (h : Safe ed) (hi : EdInv ed') (hq : PathsEq ed ed') (hk : ed'.xkwd = ed.xkwd) : Safe ed' :=
  ⟨hi, by have := hq.isSome 0; unfold Ed.cur; rw [this]; exact h.cur, by rw [hk]; exact h.kwd⟩

theorem modifiedAt_xkwd (ed : Ed) (idx : Nat) : (ed.modifiedAt idx).2.xkwd = ed.xkwd := by
  rw [Lemmas.C02Ex.modifiedAt_fields]

theorem Safe.modifiedAt {ed : Ed} (h : Safe ed) (idx : Nat) : Safe (ed.modifiedAt idx).2 :=
  h.paths (edInv_modifiedAt idx h.inv) (modifiedAt_pathsEq ed idx) (modifiedAt_xkwd ed idx)

theorem IoFr.xkwd {ed ed' : Ed} (h : IoFr ed ed') : ed'.xkwd = ed.xkwd := by
  obtain ⟨_, _, _, _, e⟩ := h; subst e; rfl

theorem markCnt_set_slot (ed : Ed) (idx : Nat) (b b' : Buf) (hb : ed.bufs.getD idx none = some b) (hg : b'.lb.glob = b.lb.glob)
    (dep : Nat) : markCnt dep { ed with bufs := ed.bufs.set idx (some b') } = markCnt dep ed := by
  unfold markCnt Ed.lb Ed.cur
  dsimp only
  by_cases h0 : idx = 0
  · subst h0
    rw [getD_set_self _ _ _ (getD_some hb).1, hb]
    simp only [Option.map_some]
    rw [hg]
  · rw [getD_set_ne _ _ _ _ h0]

theorem modifiedAt_mle (ed : Ed) (idx : Nat) : MLe ed (ed.modifiedAt idx).2 := by
  refine modifiedAt_cases (P := MLe ed) ed idx (MLe.refl ed) fun b hb dep => ?_
  show markCnt dep { ed with bufs := ed.bufs.set idx (some { b with lb := (modified b.lb).2 }) } ≤ markCnt dep ed
  rw [markCnt_set_slot ed idx b { b with lb := (modified b.lb).2 } hb rfl dep]
  exact Nat.le_refl _

theorem bufsModified_atDepth {ed ed' : Ed} {idx : Nat} {msg : Option Bytes} {r : Bool}
    (hm : bufsModified ed idx msg = some (r, ed')) : ed'.atDepth = ed.atDepth :=
  bufsModified_rel (Rel := fun a b => b.atDepth = a.atDepth) (fun _ => rfl) (fun h1 h2 => h2.trans h1)
    (fun _ hs => (lbufSave_ioFr hs).atDepth) (fun _ _ => rfl) (fun ed => modifiedAt_atDepth ed idx) hm

theorem bufsModified_xkwd {ed ed' : Ed} {idx : Nat} {msg : Option Bytes} {r : Bool}
    (hm : bufsModified ed idx msg = some (r, ed')) : ed'.xkwd = ed.xkwd :=
  bufsModified_rel (Rel := fun a b => b.xkwd = a.xkwd) (fun _ => rfl) (fun h1 h2 => h2.trans h1)
    (fun _ hs => (lbufSave_ioFr hs).xkwd) (fun _ _ => rfl) (fun ed => modifiedAt_xkwd ed idx) hm

theorem bufsModified_pathsEq {ed ed' : Ed} {idx : Nat} {msg : Option Bytes} {r : Bool}
    (hm : bufsModified ed idx msg = some (r, ed')) : PathsEq ed ed' :=
  bufsModified_rel (Rel := PathsEq) PathsEq.refl PathsEq.trans (fun _ hs => PathsEq.of_bufs (lbufSave_ioFr hs).bufs)
    (fun _ _ => PathsEq.of_bufs rfl) (fun ed => modifiedAt_pathsEq ed idx) hm

theorem bufsModified_mle {ed ed' : Ed} {idx : Nat} {msg : Option Bytes} {r : Bool}
    (hm : bufsModified ed idx msg = some (r, ed')) : MLe ed ed' :=
  bufsModified_rel (Rel := MLe) MLe.refl MLe.trans (fun _ hs => MLe.of_bufs (lbufSave_ioFr hs).bufs)
    (fun _ _ => MLe.of_bufs rfl) (fun ed => modifiedAt_mle ed idx) hm

theorem guard_total {ed : Ed} (h : Safe ed) (c : Prop) [Decidable c] (idx : Nat) (msg : Option Bytes) :
    ∃ r ed', (if c then bufsModified ed idx msg else some (false, ed) : R Bool) = some (r, ed') ∧ Safe ed' ∧ PathsEq ed ed' ∧
      ed'.atDepth = ed.atDepth := by
  by_cases hc : c
  · obtain ⟨r, ed', hm⟩ := bufsModified_total ed idx msg
    have hq := bufsModified_pathsEq hm
    exact ⟨r, ed', by rw [if_pos hc]; exact hm, h.paths (edInv_bufsModified h.inv hm) hq (bufsModified_xkwd hm), hq, bufsModified_atDepth hm⟩
  · exact ⟨false, ed, by rw [if_neg hc], h, PathsEq.refl _, rfl⟩

theorem pathExpand_cases {ed : Ed} {src : Bytes} {sp : Bool} (h : Safe ed) (hp : PathFits ed src sp) :
    ∃ r ed', pathExpand ed src sp = some (r, ed') ∧ Safe ed' ∧ ed'.bufs = ed.bufs ∧ ed'.atDepth = ed.atDepth := by
  obtain ⟨r, ed', h1, h2⟩ := pathExpand_total hp
  refine ⟨r, ed', h1, ?_, ?_, ?_⟩
  · rcases h2 with rfl | ⟨m, rfl⟩
    · exact h
    · exact h.show m
  · rcases h2 with rfl | ⟨m, rfl⟩ <;> rfl
  · rcases h2 with rfl | ⟨m, rfl⟩ <;> rfl

theorem guard_mle {ed ed' : Ed} {c : Prop} [Decidable c] {idx : Nat} {msg : Option Bytes} {r : Bool}
    (h : (if c then bufsModified ed idx msg else some (false, ed) : R Bool) = some (r, ed')) : MLe ed ed' := by
  split at h
  · exact bufsModified_mle h
  · cases h; exact MLe.refl _

theorem MLe.setCur {ed : Ed} {cur b : Buf} (hc : ed.cur = some cur) (hg : b.lb.glob = cur.lb.glob) : MLe ed (ed.setCur b) := by
  intro dep
  have := markCnt_set_slot ed 0 cur b hc hg dep
  unfold Ed.setCur
  rw [this]
  exact Nat.le_refl _

theorem Safe.setCur {ed : Ed} (h : Safe ed) {b : Buf} (hg : GoodLb b.lb) : Safe (ed.setCur b) := by
  refine ⟨edInv_setCur h.inv hg, ?_, h.kwd⟩
  have hc := h.cur
  cases hb : ed.cur with
  | none => rw [hb] at hc; cases hc
  | some b0 => rw [setCur_cur ed b0 b hb]; rfl

theorem pathArg_ret {ed : Ed} {arg : Bytes} (h : Safe ed) (hp : PathFits ed arg true) :
    RetM ed (if (!arg.isEmpty) = true then pathExpand ed arg true else some (ed.cur.map (·.path), ed)) := by
  refine Basics.ite_both ?_ (RetM.mk h rfl (MLe.refl _))
  obtain ⟨path, ed1, he, h1, hb1, hd1⟩ := pathExpand_cases h hp
  exact ⟨path, ed1, he, h1, hd1, MLe.of_bufs hb1⟩

theorem run_exec (f : Nat) {ed : Ed} (h : Safe ed) (loc cmd arg : Bytes) (txt : Option Bytes)
    (hloc : 0 ∉ loc) (hp : PathFits ed arg true) : RetM ed (runCmd (f + 1) ed "ec_exec" loc cmd arg txt) := by
  dispatch
  obtain ⟨g, ed1, hg, h1, hq, hd1⟩ := guard_total h ((ed.xwa == 0) = true) 0 (some (strOf "buffer modified"))
  have hm1 : MLe ed ed1 := guard_mle hg
  rw [hg]
  cases g with
  | true => exact RetM.mk h1 hd1 hm1
  | false =>
    dsimp only
    obtain ⟨path, ed2, he, h2, hb2, hd2⟩ := pathExpand_cases h1 (hp.congr hq)
    have hm2 : MLe ed ed2 := hm1.trans (MLe.of_bufs hb2)
    rw [he]
    cases path with
    | none => exact RetM.mk h2 (hd2.trans hd1) hm2
    | some ecmd =>
      dsimp only
      split
      · exact RetM.mk (h2.of_bufs rfl) (hd2.trans hd1) (hm2.trans (MLe.of_bufs rfl))
      · obtain ⟨rc, b, e, ed3, hr, h3, hd3, _, hin, _⟩ := region_cases h2 loc hloc
        have hm3 : MLe ed ed3 := hm2.trans (region_mle hr)
        rw [hr]
        dsimp only
        split
        · exact RetM.mk h3 (hd3.trans (hd2.trans hd1)) hm3
        · rename_i hc
          have h0 : rc = 0 := rc_zero hc
          split
          · exact RetM.mk (h3.of_bufs rfl) (hd3.trans (hd2.trans hd1)) (hm3.trans (MLe.of_bufs rfl))
          · exact RetM.mk h3 (hd3.trans (hd2.trans hd1)) hm3
          · rename_i rep _
            obtain ⟨ed4, he4, h4, hd4⟩ := edit_total' h3 (some rep) b e (hin h0).1 (hin h0).2.1
            rw [he4]
            exact RetM.mk h4 (hd4.trans (hd3.trans (hd2.trans hd1))) (hm3.trans (edit_mle he4))

theorem run_read (f : Nat) {ed : Ed} (h : Safe ed) (loc cmd arg : Bytes) (txt : Option Bytes)
    (hloc : 0 ∉ loc) (hp : PathFits ed arg true) : RetM ed (runCmd (f + 1) ed "ec_read" loc cmd arg txt) := by
  rw [Lemmas.C20c.runCmd_read]
  refine RetM.of_out (ecRead_run (fun _ _ => True) (fun _ _ _ => trivial) ed loc arg) ⟨h.live, hloc, fun _ hn => ?_⟩ hloc h
  obtain ⟨_, _, h1, _⟩ := pathExpand_total hp
  rw [hn] at h1; cases h1

theorem writeFinish_retM {ed : Ed} (h : Safe ed) {cur : Buf} (hc : ed.cur = some cur) (path : Bytes) (b e : Int) :
    RetM ed (writeFinish ed cur path b e) := by
  have hgc : GoodLb cur.lb := edInv_cur h.inv hc
  unfold writeFinish
  generalize hX : (if cur.path.isEmpty = true then _ else (cur, ed) : Buf × Ed) = X
  have hX1 : X.1.lb = cur.lb := by rw [← hX]; split <;> rfl
  have hX2 : Safe X.2 := by rw [← hX]; split <;> first | exact h | exact h.of_bufs rfl
  have hX3 : X.2.atDepth = ed.atDepth := by rw [← hX]; split <;> rfl
  have hX4 : X.2.bufs = ed.bufs := by rw [← hX]; split <;> rfl
  obtain ⟨c3, ed6⟩ := X
  simp only [] at hX1 hX2 hX3 hX4 ⊢
  have hc6 : ed6.cur = some cur := by rw [cur_congr hX4]; exact hc
  have hm6 : MLe ed ed6 := MLe.of_bufs hX4
  have key : ∀ lb, GoodLb lb → lb.glob = cur.lb.glob → ∀ mt, RetM ed (some ((0 : Int), ed6.setCur { c3 with lb := lb, mtime := mt })) :=
    fun lb hg hgl mt => RetM.mk (hX2.setCur hg) hX3 (hm6.trans (MLe.setCur hc6 hgl))
  refine Basics.ite_both (key _ ?_ ?_ _) (Basics.ite_both (key _ ?_ ?_ _) (key c3.lb ?_ ?_ c3.mtime))
  all_goals rw [hX1]
  · exact hgc.savedBump false
  · rfl
  · exact hgc.partialWrite
  · rfl
  · exact hgc

theorem wSave_retM {ed : Ed} (h : Safe ed) {cur : Buf} (hcur : ed.cur = some cur) (cmd path : Bytes) {b e : Int}
    (hb0 : 0 ≤ b) (hb1 : b ≤ e) (hb2 : e ≤ ed.len) : RetM ed (Lemmas.C20c.writeSave ed cur cmd path (b, e)) := by
  unfold Lemmas.C20c.writeSave
  dsimp only
  have hlen : ed.len = cur.lb.lines.length := by simp [Ed.len, Ed.lb, hcur]
  obtain ⟨r, ed4, hs⟩ := lbufSaveP_total ed cur.lb b.toNat e path (hasBang cmd)
    (if (cur.path == path) = true then cur.mtime else 0) (Or.inr (by omega))
  have hio := lbufSaveP_ioFr hs
  have h4 : Safe ed4 := h.of_bufs hio.bufs hio.xkwd
  have hm4 : MLe ed ed4 := MLe.of_bufs hio.bufs
  refine Basics.ite_both (Basics.ite_both (RetM.mk h rfl (MLe.refl _)) (RetM.mk ?_ ?_ ?_)) ?_
  · split
    · exact h.of_bufs rfl
    · exact h.show _
  · split <;> rfl
  · split <;> exact MLe.of_bufs rfl
  · rw [hs]
    cases r with
    | some err => exact RetM.mk (h4.show _) hio.atDepth (hm4.trans (MLe.of_bufs rfl))
    | none =>
      have hc4 : ∀ m, (ed4.show m).cur = some cur := fun m => by rw [← hcur]; exact cur_congr hio.bufs
      dsimp only
      rw [hc4]
      exact (writeFinish_retM (h4.show _) (hc4 _) _ _ _).from hio.atDepth (hm4.trans (MLe.of_bufs rfl))

theorem wRegion_retM {ed : Ed} (h : Safe ed) (loc cmd : Bytes) (path : Option Bytes) (hloc : 0 ∉ loc) :
    RetM ed (Lemmas.C20c.writeRegion ed loc cmd path) := by
  unfold Lemmas.C20c.writeRegion
  obtain ⟨rc, b, e, ed3, hr, h3, hd3, _, hin, _⟩ := region_cases h loc hloc
  rw [hr]
  dsimp only
  refine Basics.ite_elim (fun _ => RetM.mk h3 hd3 (region_mle hr)) (fun hc => RetM.from ?_ hd3 (region_mle hr))
  have h0 : rc = 0 := rc_zero_or hc
  cases hcur : ed3.cur with
  | none => have := h3.cur; rw [hcur] at this; cases this
  | some cur =>
    dsimp only
    split
    · exact wSave_retM h3 hcur cmd _ (Int.le_refl 0) (len_nonneg _) (Int.le_refl _)
    · exact wSave_retM h3 hcur cmd _ (hin h0).1 (hin h0).2.1 (hin h0).2.2

theorem ecWrite_ret {ed : Ed} (h : Safe ed) (loc cmd arg : Bytes) (hloc : 0 ∉ loc)
    (hp : PathFits ed arg true) : RetM ed (ecWrite ed loc cmd arg) := by
  rw [Lemmas.C20c.ecWrite_eq]
  unfold Lemmas.C20c.writeAfterPath Lemmas.C20c.writeAfterX
  obtain ⟨path, ed1, hpe, h1, hd1, hm1⟩ := pathArg_ret h hp
  rw [hpe]
  dsimp only
  have hx : RetM ed1 (if (cmd.headD 0 == 120) = true then some (ed1.modifiedAt 0) else some (true, ed1)) :=
    Basics.ite_both (RetM.mk (h1.modifiedAt 0) (modifiedAt_atDepth ed1 0) (modifiedAt_mle ed1 0)) (RetM.mk h1 rfl (MLe.refl _))
  obtain ⟨m, ed2, hxe, h2, hd2, hm12⟩ := hx
  rw [hxe]
  refine RetM.from ?_ (hd2.trans hd1) (hm1.trans hm12)
  cases m with
  | false => exact RetM.mk h2 rfl (MLe.refl _)
  | true => exact wRegion_retM h2 loc cmd path hloc

theorem run_write (f : Nat) {ed : Ed} (h : Safe ed) (loc cmd arg : Bytes) (txt : Option Bytes)
    (hloc : 0 ∉ loc) (hp : PathFits ed arg true) : RetM ed (runCmd (f + 1) ed "ec_write" loc cmd arg txt) := by
  dispatch
  exact ecWrite_ret h loc cmd arg hloc hp

end Neatvi.Lemmas.C05e
