import NeatviVerif.Lemmas.C05eC
/-!
# C05e lemmas, part D: the handlers that act on the buffer table — `:q :wq :x :xa`, `:b` — and `:s`

`:s` is walked in `Lemmas/ExHandlers.lean` (`ecSubst_run`: the matcher does not trap, the group offsets are sane, the
loop keeps `row = beg + k + shift` inside the buffer whatever the replacements do to the number of lines, `lbuf_edit`
gets an ordered range); here `RetM` is read off, across the prologue that remembers pattern and replacement.
-/
namespace Neatvi.Lemmas.C05e
open Neatvi Neatvi.Lbuf Neatvi.LbufIo Neatvi.Ex Neatvi.Rset
open Neatvi.Lemmas.ExFrame Neatvi.Lemmas.C02Ex Neatvi.Lemmas.C02b Neatvi.Lemmas.C06 Neatvi.Props.C20

theorem switch_atDepth (ed : Ed) (idx : Nat) : (ed.bufsSwitch idx).atDepth = ed.atDepth := by
  obtain ⟨_, _, _, _, _, _, _, e⟩ := Props.C20.bufsSwitch_frame ed idx
  rw [e]

theorem switch_xkwd (ed : Ed) (idx : Nat) : (ed.bufsSwitch idx).xkwd = ed.xkwd := by
  obtain ⟨_, _, _, _, _, _, _, e⟩ := Props.C20.bufsSwitch_frame ed idx
  rw [e]

theorem shift_xkwd (ed : Ed) : ed.bufsShift.xkwd = ed.xkwd := by
  obtain ⟨_, _, _, _, _, _, e⟩ := Lemmas.ExFrame.bufsShift_frame ed
  rw [e]

theorem shift_atDepth (ed : Ed) : ed.bufsShift.atDepth = ed.atDepth := by
  obtain ⟨_, _, _, _, _, _, e⟩ := Lemmas.ExFrame.bufsShift_frame ed
  rw [e]

theorem switch_cur_isSome (ed : Ed) (idx : Nat) (h : (ed.bufs.getD idx none).isSome = true) :
    (ed.bufsSwitch idx).cur.isSome = true := by
  unfold Ed.cur
  rw [switch_rotation]
  have e : ([(leftBufs ed).getD idx none] ++ (leftBufs ed).take idx ++ (leftBufs ed).drop (idx + 1)).getD 0 none =
      (leftBufs ed).getD idx none := by simp
  rw [e]
  cases idx with
  | zero =>
    cases hb : ed.bufs.getD 0 none with
    | none => rw [hb] at h; cases h
    | some b => rw [leftBufs_zero ed b hb]; rfl
  | succ k => rw [leftBufs_getD ed (k + 1) (by omega)]; exact h

theorem switch_safe {ed : Ed} (hi : EdInv ed) (hk : 0 ∉ ed.xkwd) (idx : Nat) (hs : (ed.bufs.getD idx none).isSome = true) :
    Safe (ed.bufsSwitch idx) := ⟨edInv_bufsSwitch idx hi, switch_cur_isSome ed idx hs, by rw [switch_xkwd]; exact hk⟩

theorem Safe.switch {ed : Ed} (h : Safe ed) (idx : Nat) (hs : (ed.bufs.getD idx none).isSome = true) :
    Safe (ed.bufsSwitch idx) := switch_safe h.inv h.kwd idx hs

theorem each_ret (cmd : Bytes) (all : Bool) : ∀ (g i : Nat) {ed : Ed}, Safe ed → Ret ed.atDepth (runCmd.each cmd all g i ed) := by
  intro g
  induction g with
  | zero => intro i ed h; exact Ret.mk h rfl
  | succ g ih =>
    intro i ed h
    rw [runCmd.each]
    refine Basics.ite_both (Ret.mk h rfl) ?_
    cases hb0 : ed.bufs.getD i none with
    | none => exact ih _ h
    | some b0 =>
        dsimp only
        obtain ⟨r, ed1, hg, h1, hq, hd1⟩ := guard_total h ((!all && !hasBang cmd) = true) i (some (strOf "buffer modified"))
        rw [hg]
        have hs1 : (ed1.bufs.getD i none).isSome = true := by rw [hq.isSome i, hb0]; rfl
        cases r with
        | true => exact Ret.mk (h1.switch i hs1) (by rw [switch_atDepth]; exact hd1)
        | false =>
          dsimp only
          refine Basics.ite_both ?_ ?_
          · cases hb1 : ed1.bufs.getD i none with
            | none => rw [hb1] at hs1; cases hs1
            | some b =>
              dsimp only
              obtain ⟨r2, ed2, hs⟩ := lbufSaveP_total ed1 b.lb 0 (-1) b.path (hasBang cmd) b.mtime (Or.inl (by omega))
              rw [hs]
              have hb2 := (lbufSaveP_ioFr hs).bufs
              have h2 : Safe ed2 := h1.of_bufs hb2 (lbufSaveP_ioFr hs).xkwd
              have hd2 : ed2.atDepth = ed1.atDepth := (lbufSaveP_ioFr hs).atDepth
              cases r2 with
              | some err =>
                exact Ret.mk ((h2.switch i (by rw [hb2]; exact hs1)).show _)
                  (by show (ed2.bufsSwitch i).atDepth = _; rw [switch_atDepth, hd2, hd1])
              | none => have := ih (i + 1) h2; rw [hd2, hd1] at this; exact this
          · have := ih (i + 1) h1; rw [hd1] at this; exact this

theorem run_quit (f : Nat) {ed : Ed} (h : Safe ed) (loc cmd arg : Bytes) (txt : Option Bytes)
    (hp : PathFits ed arg true) : Ret ed.atDepth (runCmd (f + 1) ed "ec_quit" loc cmd arg txt) := by
  dispatch
  have hw : Ret ed.atDepth (if (cmd.headD 0 == 119 || cmd.headD 0 == 120) = true then ecWrite ed [] cmd arg else some (0, ed)) :=
    Basics.ite_both (ecWrite_ret h [] cmd arg (by simp) hp).ret (Ret.mk h rfl)
  obtain ⟨rc, ed1, hw, h1, hd1⟩ := hw
  rw [hw]
  dsimp only
  split
  · exact Ret.mk h1 hd1
  · obtain ⟨r, ed2, he, h2, hd2⟩ := each_ret cmd (cmd.contains 97) (ed1.bufs.length + 1) 0 h1
    rw [he]
    cases r with
    | true => exact Ret.mk h2 (hd2.trans hd1)
    | false => exact Ret.mk (h2.of_bufs rfl) (hd2.trans hd1)

theorem isSome_of_map_lb {l l' : List (Option Buf)}
    (hm : l'.map (Option.map (·.lb)) = l.map (Option.map (·.lb))) (i : Nat) :
    (l'.getD i none).isSome = (l.getD i none).isSome := by
  have := congrArg (fun x => x[i]?) hm
  simp only [List.getElem?_map] at this
  simp only [List.getD_eq_getElem?_getD]
  cases h1 : l'[i]? <;> cases h2 : l[i]? <;> rw [h1, h2] at this <;> simp_all
  rename_i a b
  cases a <;> cases b <;> simp_all

theorem run_buffer (f : Nat) {ed : Ed} (h : Safe ed) (loc cmd arg : Bytes) (txt : Option Bytes) :
    Ret ed.atDepth (runCmd (f + 1) ed "ec_buffer" loc cmd arg txt) := by
  dispatch
  -- `Basics.ite_both` takes the test off the goal; `split` would abstract it in the whole body of the handler
  refine Basics.ite_both ?_ (Basics.ite_both ?_ (Basics.ite_both ?_
    (Basics.ite_elim (fun hidx => ?_) (fun _ => Ret.mk (h.show _) rfl))))
  · generalize hX : List.foldl _ _ _ = X
    have hf : Safe X.2 ∧ X.2.atDepth = ed.atDepth := by
      rw [← hX]
      refine Basics.foldl_inv (fun st : Bool × Ed => Safe st.2 ∧ st.2.atDepth = ed.atDepth) _ ?_ _ _ ⟨h, rfl⟩
      intro st i hst
      obtain ⟨go, ed0⟩ := st
      simp only [] at hst ⊢
      split
      · exact hst
      · split
        · exact hst
        · have hm : Safe (ed0.modifiedAt i).2 ∧ (ed0.modifiedAt i).2.atDepth = ed.atDepth :=
            ⟨hst.1.modifiedAt i, (modifiedAt_atDepth ed0 i).trans hst.2⟩
          generalize ed0.modifiedAt i = p at hm
          obtain ⟨m, ed1⟩ := p
          exact ⟨hm.1.print _, hm.2⟩
    exact Ret.mk hf.1 hf.2
  · have e1 := edInv_bufsShift h.inv
    refine Basics.ite_elim (fun _ => ?_) (fun hc => ?_)
    · refine Ret.mk ⟨?_, ?_, by show 0 ∉ ed.bufsShift.xkwd; rw [shift_xkwd]; exact h.kwd⟩ (shift_atDepth ed)
      · exact tabInv_setAt (b := { path := [], lb := Lbuf.make, id := ed.bufsShift.bufsCnt + 1 }) e1 goodLb_make
          (fun _ => closed_make)
      · show ((ed.bufsShift.bufs.set 0 _).getD 0 none).isSome = true
        have hl : 0 < ed.bufsShift.bufs.length := by
          unfold Ed.bufsShift
          rw [bufsLoad_bufs]
          simp
        rw [getD_set_self _ _ _ hl]; rfl
    · refine Ret.mk ⟨e1, ?_, by rw [shift_xkwd]; exact h.kwd⟩ (shift_atDepth ed)
      cases hcc : ed.bufsShift.cur with
      | none => rw [hcc] at hc; simp at hc
      | some b => rfl
  · refine Ret.mk ⟨?_, ?_, h.kwd⟩ rfl
    · show TabInv _
      refine tabInv_congr_lb ?_ h.inv
      exact (renumber_lbs ed.bufs [] 0).trans (by simp)
    · have := isSome_of_map_lb ((renumber_lbs ed.bufs [] 0).trans (by simp) :
        _ = ed.bufs.map (Option.map (·.lb))) 0
      exact this.trans h.cur
  · have hsome := ((Bool.and_eq_true _ _).mp hidx).2
    obtain ⟨g, ed1, hg, h1, hq, hd1⟩ := guard_total h ((ed.xwa == 0 && !hasBang cmd) = true) 0 (some (strOf "buffer modified"))
    rw [hg]
    cases g with
    | true => exact Ret.mk h1 hd1
    | false => exact Ret.mk (h1.switch _ (by rw [hq.isSome]; exact hsome)) (by rw [switch_atDepth]; exact hd1)

section
open Neatvi.Lemmas.Hist

theorem sPrep_safe {ed : Ed} (h : Safe ed) (arg : Bytes) (h0 : 0 ∉ arg) :
    Safe (substPrep ed arg).1 ∧ (substPrep ed arg).1.atDepth = ed.atDepth ∧ MLe ed (substPrep ed arg).1 := by
  have hk := sPrep_kwd ed arg h0 h.kwd
  obtain ⟨r, e⟩ := sPrep_shape ed arg
  rw [e] at hk ⊢
  have ha := kw_addrOnly ed (reRead arg).1 1
  exact ⟨(h.addr ha hk).of_bufs rfl, (AddrOnly.atDepth ha : (kwEd ed (reRead arg).1 1).atDepth = _),
    MLe.of_bufs (ha.bufs : (kwEd ed (reRead arg).1 1).bufs = _)⟩

/-- **`:s` never traps** and adds no mark -/
theorem run_subst (f : Nat) {ed : Ed} (h : Safe ed) (loc cmd arg : Bytes) (txt : Option Bytes)
    (hloc : 0 ∉ loc) (harg : 0 ∉ arg) :
    RetM ed (runCmd (f + 1) ed "ec_substitute" loc cmd arg txt) := by
  obtain ⟨p, hp, ed1, hd, hq⟩ :=
    (ecSubst_run (fun _ _ => True) f ed loc cmd arg txt (fun _ _ _ _ _ _ _ => trivial)).tot ⟨h.live, hloc, harg⟩
  rw [hp]
  have d1 := hd (fun _ _ => True) 0 false
  have h1 := d1.safe hloc h
  rcases hq with rfl | hq
  · exact RetM.mk h1 d1.atDepth d1.mle
  · obtain ⟨h2, hd2, hm2⟩ := sPrep_safe h1 arg harg
    exact RetM.mk ((hq 0).safe hloc h2) (((hq 0).atDepth.trans hd2).trans d1.atDepth) ((d1.mle.trans hm2).trans (hq 0).mle)

end

end Neatvi.Lemmas.C05e
