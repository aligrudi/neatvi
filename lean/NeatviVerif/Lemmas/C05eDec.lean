import NeatviVerif.Model.ExCmd
/-!
# C05e lemmas, part 0: `ec_substitute` cut into pieces, the sweep and the budget of `ec_glob`

Nothing here is a new model: every definition is a piece of the text of `runCmd` / `ecGlob` in `Model/ExCmd.lean`, and
`runCmd_subst_eq'` says that `:s` is the composition of its pieces; its prologue is `Props.C14.substPrep`, declared here.
The prologue and the marking loop of `ec_glob`, and `ecGlob_eq'`, are in `Lemmas/C05dDecomp.lean`.
-/
namespace Neatvi.Lemmas.C05e
open Neatvi Neatvi.Lbuf Neatvi.Ex Neatvi.Rset

/-- `runCmd` on a handler name given as a literal: the tests of the dispatcher are decided from the top and a branch
    not taken is never looked at (`↓reduceIte`); a plain `simp` would simplify the whole body first -/
macro "dispatch" : tactic =>
  `(tactic| (rw [runCmd]
             simp only [↓reduceIte, String.reduceBEq, Bool.false_eq_true, Bool.or_self, Bool.or_false, Bool.or_true]))

/-- the prologue of `ec_substitute`: pattern and replacement are read from the argument and remembered;
    returns the editor and the `g` flag -/
def _root_.Neatvi.Props.C14.substPrep (ed : Ed) (arg : Bytes) : Ed × Bool :=
  let (pat, s) := reRead arg
  let ed := match pat with | some p => if !p.isEmpty then ed.kwdSet (some p) 1 else ed | none => ed
  let (rep, s) := if pat.isSome && !s.isEmpty then
      let delim := arg.headD 0
      let (r, s') := reRead ([delim] ++ s)
      (r, s')
    else (none, s)
  let ed := if pat.isSome || rep.isSome then { ed with xrep := (rep.getD []).take (Gen.EXLEN - 1) } else ed
  (ed, s.contains 103)

export Neatvi.Props.C14 (substPrep)

/-- one round of the loop of `ec_substitute`: the `k`-th line of the range, which sits on row `b + k + sh` after the
    earlier rounds changed the length of the buffer by `sh` -/
def sStep (re : RStr) (g : Bool) (b : Int) (acc : Option (Ed × Int)) (k : Nat) : Option (Ed × Int) :=
  match acc with
  | none => none
  | some (ed, sh) =>
    let row := b + (k : Int) + sh
    match ed.line row with
    | none => none
    | some ln =>
      match substLine re ed.xrep g ln with
      | none => none
      | some none => some (ed, sh)
      | some (some nl) =>
        match ed.edit (some nl) row (row + 1) with
        | none => none
        | some ed' => some (ed', sh + (ed'.len - ed.len))

/-- the loop of `ec_substitute` over `n` lines from `b` -/
def sLoop (re : RStr) (g : Bool) (b : Int) (n : Nat) (ed : Ed) : Option (Ed × Int) :=
  (List.range n).foldl (sStep re g b) (some (ed, 0))

theorem runCmd_subst_eq' (f : Nat) (ed : Ed) (loc cmd arg : Bytes) (txt : Option Bytes) :
    runCmd (f + 1) ed "ec_substitute" loc cmd arg txt =
      match exRegion ed loc with
      | none => none
      | some ((rc, b, e), ed) =>
        if rc != 0 then some (1, ed) else
        if (substPrep ed arg).1.xkwddir == 0 then some (1, (substPrep ed arg).1) else
        match (substPrep ed arg).1.mkRe (substPrep ed arg).1.xkwd with
        | none => none
        | some none => some (1, (substPrep ed arg).1)
        | some (some re) =>
          match sLoop re (substPrep ed arg).2 b (e - b).toNat (substPrep ed arg).1 with
          | none => none
          | some (ed, _) => some (0, ed) := by
  dispatch
  rfl

theorem sLoop_succ (re : RStr) (g : Bool) (b : Int) (n : Nat) (ed : Ed) :
    sLoop re g b (n + 1) ed = sStep re g b (sLoop re g b n ed) n := by
  unfold sLoop
  rw [List.range_succ, List.foldl_append]
  rfl

/-- the final sweep: bit `dep` is cleared everywhere -/
def gSweep (ed : Ed) (dep : Nat) : Ed :=
  match ed.lb with
  | some lb => ed.setLb ((List.range lb.lines.length).foldl (fun lb k => (globGet lb k dep).2) lb)
  | none => ed

/-- the step budget of the scan -/
def gBudget (ed : Ed) : Nat := 4 * (ed.len.toNat + 4) * (ed.len.toNat + 4) + 64

end Neatvi.Lemmas.C05e
