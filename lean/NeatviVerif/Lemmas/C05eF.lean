import NeatviVerif.Lemmas.C06bExec
import NeatviVerif.Lemmas.C06Ex
/-!
# C05e lemmas, part F: the pieces `ex_exec` cuts a command line into are sublists of the line

For every loop of the command-line parsers (`copyUntil`, `exLoc.go`, `exCmd.go`, `exArg.sub`, `exTxt.cut`): what it took,
followed by what it left, is what it was given (`_split`, `_suffix`).  This is the lowest file about these parsers:
`Lemmas/C06bProgress.lean` reads "what is left is no longer" off it.  Needed twice more: a side condition on the bytes of a line is inherited by every argument and every nested command line
(`:g` body, `+cmd`), and the count of the bytes that can start a nested line (`g`, `v`, `+`) goes down with every level.
-/
namespace Neatvi.Lemmas.C05e
open Neatvi Neatvi.Ex Neatvi.Lemmas.C06b

theorem sublist_of_suffix {α : Type} {a b : List α} (h : a <:+ b) : a.Sublist b := h.sublist

theorem drop_sublist' {α : Type} (n : Nat) (l : List α) : (l.drop n).Sublist l := List.drop_sublist n l

theorem ite_sublist {α : Type} {c : Prop} [Decidable c] {a b l : List α} (ha : a.Sublist l) (hb : b.Sublist l) :
    (if c then a else b).Sublist l := by
  split <;> assumption

theorem ite_suffix {α : Type} {c : Prop} [Decidable c] {a b l : List α} (ha : a <:+ l) (hb : b <:+ l) :
    (if c then a else b) <:+ l := by
  split <;> assumption

theorem headD_drop1 (s : Bytes) (h : s ≠ []) : [s.headD 0] ++ s.drop 1 = s := by
  cases s with
  | nil => exact absurd rfl h
  | cons c r => rfl

theorem copyUntil_split (stop : Nat → Bool) : ∀ (f : Nat) (s acc : Bytes),
    ∃ x, (copyUntil stop f s acc).1 = acc ++ x ∧ x ++ (copyUntil stop f s acc).2 = s := by
  intro f
  induction f with
  | zero => intro s acc; rw [copyUntil]; exact ⟨[], by simp, rfl⟩
  | succ f ih =>
    intro s acc
    cases s with
    | nil => rw [copyUntil]; exact ⟨[], by simp, rfl⟩
    | cons c s =>
      rw [copyUntil]
      split
      · exact ⟨[], by simp, rfl⟩
      · split
        · rename_i hb
          obtain ⟨x, h1, h2⟩ := ih (s.drop 1) (acc ++ [c, s.headD 0])
          refine ⟨[c, s.headD 0] ++ x, by rw [h1]; simp, ?_⟩
          have hs : s ≠ [] := by
            intro h0; rw [h0] at hb; simp at hb
          rw [List.append_assoc, h2]
          show c :: ([s.headD 0] ++ s.drop 1) = c :: s
          rw [headD_drop1 s hs]
        · obtain ⟨x, h1, h2⟩ := ih s (acc ++ [c])
          exact ⟨[c] ++ x, by rw [h1]; simp, by rw [List.append_assoc, h2]; rfl⟩

theorem copyUntilPlus_split : ∀ (f : Nat) (s acc : Bytes),
    ∃ x, (copyUntilPlus f s acc).1 = acc ++ x ∧ (x ++ (copyUntilPlus f s acc).2).Sublist s := by
  intro f
  induction f with
  | zero => intro s acc; rw [copyUntilPlus]; exact ⟨[], by simp, List.Sublist.refl _⟩
  | succ f ih =>
    intro s acc
    cases s with
    | nil => rw [copyUntilPlus]; exact ⟨[], by simp, List.Sublist.refl _⟩
    | cons c s =>
      rw [copyUntilPlus]
      split
      · exact ⟨[], by simp, List.Sublist.refl _⟩
      · split
        · rename_i hb
          obtain ⟨x, h1, h2⟩ := ih (s.drop 1) (acc ++ [s.headD 0])
          refine ⟨[s.headD 0] ++ x, by rw [h1]; simp, ?_⟩
          have hs : s ≠ [] := by
            intro h0; rw [h0] at hb; simp at hb
          rw [List.append_assoc]
          have : ([s.headD 0] ++ (x ++ (copyUntilPlus f (s.drop 1) (acc ++ [s.headD 0])).2)).Sublist ([s.headD 0] ++ s.drop 1) :=
            List.Sublist.append_left h2 _
          rw [headD_drop1 s hs] at this
          exact List.Sublist.cons _ this
        · obtain ⟨x, h1, h2⟩ := ih s (acc ++ [c])
          refine ⟨[c] ++ x, by rw [h1]; simp, ?_⟩
          rw [List.append_assoc]
          exact List.Sublist.cons_cons _ h2

theorem pat_eq (c2 : Nat) : ∀ (g : Nat) (s acc : Bytes), exLoc.go.pat c2 g s acc = copyUntil (fun x => x == c2) g s acc := by
  intro g
  induction g with
  | zero => intro s acc; rw [exLoc.go.pat, copyUntil]
  | succ g ih =>
    intro s acc
    cases s with
    | nil => rw [exLoc.go.pat, copyUntil]
    | cons c s => rw [exLoc.go.pat, copyUntil, ih, ih]

theorem pat_split (c2 : Nat) (g : Nat) (s acc : Bytes) :
    ∃ x, (exLoc.go.pat c2 g s acc).1 = acc ++ x ∧ x ++ (exLoc.go.pat c2 g s acc).2 = s := by
  rw [pat_eq]
  exact copyUntil_split _ g s acc

theorem exLoc_go_split : ∀ (f : Nat) (s loc : Bytes),
    ∃ x, (exLoc.go f s loc).1 = loc ++ x ∧ x ++ (exLoc.go f s loc).2 = s := by
  intro f
  induction f with
  | zero => intro s loc; rw [exLoc.go]; exact ⟨[], by simp, rfl⟩
  | succ f ih =>
    intro s loc
    cases s with
    | nil => rw [exLoc.go]; exact ⟨[], by simp, rfl⟩
    | cons c s =>
      rw [exLoc.go]
      split
      · exact ⟨[], by simp, rfl⟩
      · generalize hp1 : (if (c == 39) = true then (loc ++ [c], List.drop 1 (c :: s)) else (loc, c :: s)) = p1
        obtain ⟨loc1, s1⟩ := p1
        have h1 : ∃ x1, loc1 = loc ++ x1 ∧ x1 ++ s1 = c :: s := by
          split at hp1
          · cases hp1; exact ⟨[c], rfl, rfl⟩
          · cases hp1; exact ⟨[], by simp, rfl⟩
        obtain ⟨x1, e1, e2⟩ := h1
        simp only []
        generalize hp2 : (if (s1.headD 0 == 47 || s1.headD 0 == 63) = true then
            match exLoc.go.pat (s1.headD 0) (s1.length + 1) (List.drop 1 s1) [] with
            | (p, s') => (loc1 ++ [s1.headD 0] ++ p, s')
          else (loc1, s1)) = p2
        obtain ⟨loc2, s2⟩ := p2
        have h2 : ∃ x2, loc2 = loc1 ++ x2 ∧ x2 ++ s2 = s1 := by
          split at hp2
          · rename_i hc
            obtain ⟨x, hx1, hx2⟩ := pat_split (s1.headD 0) (s1.length + 1) (List.drop 1 s1) []
            generalize exLoc.go.pat (s1.headD 0) (s1.length + 1) (List.drop 1 s1) [] = q at hp2 hx1 hx2
            obtain ⟨p, s'⟩ := q
            cases hp2
            simp only [List.nil_append] at hx1 hx2
            subst hx1
            have hs1 : s1 ≠ [] := by
              intro h0; rw [h0] at hc; simp at hc
            refine ⟨[s1.headD 0] ++ p, by simp, ?_⟩
            rw [List.append_assoc, hx2]
            exact headD_drop1 s1 hs1
          · cases hp2; exact ⟨[], by simp, rfl⟩
        obtain ⟨x2, e3, e4⟩ := h2
        simp only []
        cases s2 with
        | nil =>
          refine ⟨x1 ++ x2, by rw [e3, e1]; simp, ?_⟩
          rw [List.append_nil] at e4
          rw [List.append_nil, ← e2, ← e4]
        | cons x r =>
          obtain ⟨x3, e5, e6⟩ := ih r (loc2 ++ [x])
          refine ⟨x1 ++ x2 ++ [x] ++ x3, by rw [e5, e3, e1]; simp, ?_⟩
          have : c :: s = x1 ++ (x2 ++ x :: (x3 ++ (exLoc.go f r (loc2 ++ [x])).2)) := by rw [e6, e4, e2]
          rw [this]
          simp

theorem exLoc_loc_sublist (s : Bytes) : (exLoc s).1.Sublist s := by
  unfold exLoc
  obtain ⟨x, h1, h2⟩ := exLoc_go_split ((s.dropWhile (fun c => c == 58 || c == 32 || c == 9)).length + 1)
    (s.dropWhile (fun c => c == 58 || c == 32 || c == 9)) []
  simp only [List.nil_append] at h1
  rw [h1]
  have : x.Sublist (s.dropWhile (fun c => c == 58 || c == 32 || c == 9)) := by
    rw [← h2]; exact List.sublist_append_left _ _
  exact this.trans (List.dropWhile_suffix _).sublist

theorem exLoc_suffix (s : Bytes) : (exLoc s).2 <:+ s := by
  unfold exLoc
  obtain ⟨x, _, h⟩ := exLoc_go_split ((s.dropWhile (fun c => c == 58 || c == 32 || c == 9)).length + 1)
    (s.dropWhile (fun c => c == 58 || c == 32 || c == 9)) []
  exact List.IsSuffix.trans ⟨x, h⟩ (List.dropWhile_suffix _)

theorem exCmd_go_split : ∀ (f : Nat) (s cmd : Bytes),
    ∃ x, (exCmd.go f s cmd).1 = cmd ++ x ∧ x ++ (exCmd.go f s cmd).2 = s := by
  intro f
  induction f with
  | zero => intro s cmd; rw [exCmd.go]; exact ⟨[], by simp, rfl⟩
  | succ f ih =>
    intro s cmd
    cases s with
    | nil => rw [exCmd.go]; exact ⟨[], by simp, rfl⟩
    | cons c s =>
      rw [exCmd.go]
      split
      · split
        · rename_i hk
          simp only [Bool.and_eq_true, beq_iff_eq, List.isEmpty_iff] at hk
          exact ⟨[c], by rw [hk.2]; rfl, rfl⟩
        · obtain ⟨x, h1, h2⟩ := ih s (cmd ++ [c])
          exact ⟨[c] ++ x, by rw [h1]; simp, by rw [List.append_assoc, h2]; rfl⟩
      · exact ⟨[], by simp, rfl⟩

theorem exCmd_split (s : Bytes) : (exCmd s).1 ++ (exCmd s).2 = s.dropWhile (fun c => c == 32 || c == 9) := by
  unfold exCmd
  dsimp only
  obtain ⟨x, h1, h2⟩ := exCmd_go_split ((s.dropWhile (fun c => c == 32 || c == 9)).length + 1)
    (s.dropWhile (fun c => c == 32 || c == 9)) []
  generalize exCmd.go ((s.dropWhile (fun c => c == 32 || c == 9)).length + 1)
    (s.dropWhile (fun c => c == 32 || c == 9)) [] = q at h1 h2
  obtain ⟨cmd, s'⟩ := q
  simp only [List.nil_append] at h1 h2 ⊢
  subst h1
  split
  · rename_i hc
    have hs : s' ≠ [] := by
      intro h0; rw [h0] at hc; simp at hc
    rw [List.append_assoc, headD_drop1 s' hs]; exact h2
  · exact h2

theorem exCmd_sublist (s : Bytes) : ((exCmd s).1 ++ (exCmd s).2).Sublist s := by
  rw [exCmd_split]; exact (List.dropWhile_suffix _).sublist

theorem sub_split (d : Nat) : ∀ (f : Nat) (s acc : Bytes) (cnt : Nat),
    ∃ x, (exArg.sub d f s acc cnt).1 = acc ++ x ∧ x ++ (exArg.sub d f s acc cnt).2 = s := by
  intro f
  induction f with
  | zero => intro s acc cnt; rw [exArg.sub]; exact ⟨[], by simp, rfl⟩
  | succ f ih =>
    intro s acc cnt
    cases s with
    | nil => rw [exArg.sub]; exact ⟨[], by simp, rfl⟩
    | cons c s =>
      rw [exArg.sub]
      split
      · exact ⟨[], by simp, rfl⟩
      · simp only []
        split
        · rename_i hb
          obtain ⟨x, h1, h2⟩ := ih (s.drop 1) (acc ++ [c, s.headD 0]) (if (c == d) = true then cnt - 1 else cnt)
          refine ⟨[c, s.headD 0] ++ x, by rw [h1]; simp, ?_⟩
          have hs : s ≠ [] := by
            intro h0; rw [h0] at hb; simp at hb
          rw [List.append_assoc, h2]
          show c :: ([s.headD 0] ++ s.drop 1) = c :: s
          rw [headD_drop1 s hs]
        · obtain ⟨x, h1, h2⟩ := ih s (acc ++ [c]) (if (c == d) = true then cnt - 1 else cnt)
          exact ⟨[c] ++ x, by rw [h1]; simp, by rw [List.append_assoc, h2]; rfl⟩

theorem exArg_sublist (src a : Bytes) : ((exArg src a).1 ++ (exArg src a).2).Sublist src := by
  unfold exArg
  dsimp only
  have hd : (src.dropWhile (fun c => c == 32 || c == 9)).Sublist src := (List.dropWhile_suffix _).sublist
  generalize src.dropWhile (fun c => c == 32 || c == 9) = src1 at hd
  generalize (if (a.headD 0 != 0) = true then a.getD 1 0 else 0) = c1
  generalize hfirst : (if (a.headD 0 == 33 || a.headD 0 == 103 || a.headD 0 == 118 ||
        ((a.headD 0 == 114 || a.headD 0 == 119) && c1 == 0 && src1.headD 0 == 33)) = true then
      copyUntil (fun c => c == 10) (src1.length + 1) src1 []
    else if ((a.headD 0 == 115 && c1 != 101) || a.headD 0 == 38 || a.headD 0 == 126) = true then
      if (src1.headD 0 != 0 && src1.headD 0 != 10 && src1.headD 0 != 124 && src1.headD 0 != 92 && src1.headD 0 != 34 &&
          !src1.isEmpty) = true then
        exArg.sub (src1.headD 0) (src1.length + 1) (src1.drop 1) [src1.headD 0] 2
      else ([], src1)
    else ([], src1)) = first
  have h1 : first.1 ++ first.2 = src1 := by
    rw [← hfirst]
    split
    · obtain ⟨x, e1, e2⟩ := copyUntil_split (fun c => c == 10) (src1.length + 1) src1 []
      rw [e1]; simpa using e2
    · split
      · split
        · rename_i hc
          have hs : src1 ≠ [] := by
            intro h0; rw [h0] at hc; simp at hc
          obtain ⟨x, e1, e2⟩ := sub_split (src1.headD 0) (src1.length + 1) (src1.drop 1) [src1.headD 0] 2
          rw [e1, List.append_assoc, e2]
          exact headD_drop1 src1 hs
        · rfl
      · rfl
  obtain ⟨dst, src2⟩ := first
  simp only [] at h1 ⊢
  split
  · rw [h1]; exact hd
  · obtain ⟨d2, e1, e2⟩ := copyUntil_split (fun c => c == 10 || c == 124 || c == 34) (src2.length + 1) src2 []
    generalize copyUntil (fun c => c == 10 || c == 124 || c == 34) (src2.length + 1) src2 [] = q at e1 e2
    obtain ⟨d2', src3⟩ := q
    simp only [List.nil_append] at e1 e2 ⊢
    subst e1
    have h4 : (if (src3.headD 0 == 34) = true then src3.dropWhile (fun c => c != 10) else src3).Sublist src3 :=
      ite_sublist (List.dropWhile_suffix _).sublist (List.Sublist.refl _)
    refine List.Sublist.trans ?_ hd
    rw [← h1, ← e2]
    simp only [List.append_assoc]
    exact List.Sublist.append_left (List.Sublist.append_left (ite_sublist ((List.drop_sublist 1 _).trans h4) h4) _) _

theorem cut_suffix : ∀ (f : Nat) (s acc : Bytes), (exTxt.cut f s acc).2 <:+ s := by
  intro f
  induction f with
  | zero => intro s acc; rw [exTxt.cut]; exact List.suffix_refl _
  | succ f ih =>
    intro s acc
    cases s with
    | nil => rw [exTxt.cut]; exact List.suffix_refl _
    | cons c r =>
      rw [exTxt.cut]
      split
      · exact List.suffix_refl _
      · exact (ih r _).trans (List.suffix_cons _ _)

theorem exTxt_suffix (ed : Ed) (src a : Bytes) : (exTxt ed src a).1.2 <:+ src := by
  unfold exTxt
  simp only []
  generalize (if (a.headD 0 != 0) = true then a.getD 1 0 else 0) = c1
  split
  · have hc := cut_suffix (src.length + 1) src []
    generalize exTxt.cut (src.length + 1) src [] = q at hc
    obtain ⟨body, rest⟩ := q
    show (if rest.isEmpty = true then [] else List.drop 3 rest) <:+ src
    split
    · exact List.nil_suffix
    · exact (List.drop_suffix 3 rest).trans hc
  · split
    · exact List.suffix_refl _
    · exact List.suffix_refl _

end Neatvi.Lemmas.C05e
