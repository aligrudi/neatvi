import NeatviVerif.Lemmas.C05eD
import NeatviVerif.Lemmas.C05eF
import NeatviVerif.Lemmas.C02cStages
/-!
# C05e lemmas, part G: the handlers that run command lines of their own — `:@`, `:e +cmd`

Each is total given that the command line it runs returns (`hC`); the fuel they need is one more than the fuel of
that command line.  `ec_edit` is followed along its stages (`C02c.ecEdit_stages`, Lemmas/C02cStages.lean), one lemma per stage
from the last (`editPlus_ret`) to the first (`ecEdit_ret`).
-/
namespace Neatvi.Lemmas.C05e
open Neatvi Neatvi.Lbuf Neatvi.LbufIo Neatvi.Ex Neatvi.Rset
open Neatvi.Lemmas.ExFrame Neatvi.Lemmas.C02Ex Neatvi.Lemmas.C02b Neatvi.Lemmas.C06 Neatvi.Props.C20

theorem ecAt_ret (f : Nat) {ed : Ed} (h : Safe ed) (loc cmd arg : Bytes) (hloc : 0 ∉ loc)
    (hC : ∀ (ed' : Ed) (buf : Bytes), Safe ed' → ed'.atDepth = ed.atDepth + 1 → ed.atDepth < 16 →
      ¬ ((cmd.headD 0 == 114 && cmd.getD 1 0 == 97) = true) → Ret (ed.atDepth + 1) (exCommand f ed' buf)) :
    Ret ed.atDepth (ecAt (f + 1) ed loc cmd arg) := by
  rw [ecAt]
  split
  · exact Ret.mk h rfl
  · rename_i buf _
    obtain ⟨rc, b, e, ed1, hr, h1, hd1, _⟩ := region_cases h loc hloc
    rw [hr]
    dsimp only
    split
    · exact Ret.mk h1 hd1
    · split
      · exact Ret.mk (h1.show _) hd1
      · rename_i hdep
        split
        · exact Ret.mk (h1.of_bufs rfl) hd1
        · rename_i hra
          obtain ⟨r, ed2, he, h2, hd2⟩ := hC { ed1 with xrow := b, atDepth := ed1.atDepth + 1 } buf (h1.of_bufs rfl)
            (by show ed1.atDepth + 1 = _; rw [hd1]) (by rw [← hd1]; omega) hra
          rw [he]
          exact Ret.mk (h2.of_bufs rfl) (by show ed2.atDepth - 1 = _; rw [hd2]; omega)

theorem run_at (f : Nat) {ed : Ed} (h : Safe ed) (loc cmd arg : Bytes) (txt : Option Bytes)
    (hloc : 0 ∉ loc) (hC : ∀ (ed' : Ed) (buf : Bytes), Safe ed' → ed'.atDepth = ed.atDepth + 1 → ed.atDepth < 16 →
      ¬ ((cmd.headD 0 == 114 && cmd.getD 1 0 == 97) = true) → Ret (ed.atDepth + 1) (exCommand f ed' buf)) :
    Ret ed.atDepth (runCmd (f + 2) ed "ec_at" loc cmd arg txt) := by
  dispatch
  exact ecAt_ret f h loc cmd arg hloc hC

/-! ### `:e` along its stages -/

/-- `ex_plus`: the `+cmd` word and the rest of the argument -/
def plusOf (arg0 : Bytes) : Bytes × Bytes :=
  let arg := arg0.dropWhile (· == 32)
  if arg.headD 0 == 43 then
    let (p, r) := copyUntilPlus (arg.length + 1) arg []
    (p, r.dropWhile (fun c => c == 32 || c == 9))
  else ([], arg)

open Neatvi.Lemmas.C02c (plusSplit editGuard2 editRead editFinish ecEdit_stages)

/-- `C02c.plusSplit` under the name the statements of C05e use -/
theorem plusOf_eq (arg : Bytes) : plusOf arg = plusSplit arg := rfl

/-- a table that `:e` can start from: every buffer good, at least one slot (there need not be a current buffer:
    `ex_init` starts from an empty table) -/
structure Pre (ed : Ed) : Prop where
  inv : EdInv ed
  len : 0 < ed.bufs.length
  kwd : 0 ∉ ed.xkwd

theorem Safe.pre {ed : Ed} (h : Safe ed) : Pre ed := by
  refine ⟨h.inv, ?_, h.kwd⟩
  have hc := h.cur
  cases hb : ed.cur with
  | none => rw [hb] at hc; cases hc
  | some b => exact (getD_some (show ed.bufs.getD 0 none = some b from hb)).1

/-- what the `+cmd` needs: the command line it runs returns -/
def PlusOk (f d : Nat) (pls : Bytes) : Prop :=
  (pls.headD 0 == 43) = true → ∀ ed' : Ed, Safe ed' → ed'.atDepth = d → Ret d (exCommand f ed' (pls.drop 1))

theorem editPlus_ret {f d : Nat} {ed : Ed} {pls : Bytes} (h : Safe ed) (hd : ed.atDepth = d) (hC : PlusOk f d pls) :
    Ret d (C02c.editPlus f pls ed) := by
  unfold C02c.editPlus
  split
  · rename_i hp; exact hC hp ed h hd
  · exact Ret.mk h hd

theorem editFinish_ret {ed : Ed} (path : Bytes) (h : Safe ed) :
    ∃ ed', editFinish ed path = some ed' ∧ Safe ed' ∧ ed'.atDepth = ed.atDepth := by
  unfold editFinish
  cases hcur : ed.cur with
  | none => have := h.cur; rw [hcur] at this; cases this
  | some b =>
    dsimp only
    have hgb : GoodLb b.lb := edInv_cur h.inv hcur
    have hrd : ∃ ed1, editRead ed b = some ed1 ∧ Safe ed1 ∧ ed1.atDepth = ed.atDepth := by
      unfold editRead
      split
      · rename_i fl _
        split
        · exact ⟨ed, rfl, h, rfl⟩
        · obtain ⟨rc, lb', hr⟩ := rd_total b.lb [fl.data] false 0 b.lb.lines.length (Nat.zero_le _)
          rw [hr]
          exact ⟨_, rfl, (h.setLb (hgb.rd hr)).show _, setLb_atDepth _ _⟩
      · exact ⟨ed, rfl, h, rfl⟩
    obtain ⟨ed1, hr1, h1, hd1⟩ := hrd
    rw [hr1]
    dsimp only
    cases hcur1 : ed1.cur with
    | none => have := h1.cur; rw [hcur1] at this; cases this
    | some b1 =>
      dsimp only
      exact ⟨_, rfl, (h1.setCur ((edInv_cur h1.inv hcur1).savedBump _)).of_bufs rfl, hd1⟩

theorem editTail_ret {f d : Nat} {ed : Ed} {path pls : Bytes} (h : Safe ed) (hd : ed.atDepth = d) (hC : PlusOk f d pls) :
    Ret d (match editFinish ed path with | none => none | some ed => C02c.editPlus f pls ed) := by
  obtain ⟨ed', he, h', hd'⟩ := editFinish_ret path h
  rw [he]
  exact editPlus_ret h' (hd'.trans hd) hC

theorem open_switch_safe {ed : Ed} (hp : Pre ed) (path : Bytes) :
    Safe ((ed.bufsOpen path).2.bufsSwitch (ed.bufsOpen path).1) ∧
    ((ed.bufsOpen path).2.bufsSwitch (ed.bufsOpen path).1).atDepth = ed.atDepth := by
  obtain ⟨e1, _, _, _, _, _, _, e8⟩ := open_uses_free_slot ed path
  refine ⟨switch_safe (edInv_bufsOpen path hp.inv) hp.kwd _ ?_, ?_⟩
  · rw [e1, e8 hp.len]; rfl
  · rw [switch_atDepth]; rfl

theorem findRoom_none_of_cur_none {ed : Ed} (_hp : Pre ed) (hc : ed.cur = none) : ed.bufs.getD ed.findRoom none = none := by
  rcases room_policy ed with ⟨_, h2, _⟩ | ⟨h1, h2⟩
  · exact h2
  · by_cases hl : 0 < ed.bufs.length - 1
    · have := h2 0 hl
      unfold Ed.cur at hc
      rw [hc] at this; cases this
    · have : ed.findRoom = 0 := by omega
      rw [this]; exact hc

theorem editOpen_ret {f d : Nat} {ed : Ed} {path pls : Bytes} (hp : Pre ed) (hd : ed.atDepth = d) (hC : PlusOk f d pls) :
    Ret d (match editGuard2 ed path with
      | none => none
      | some (true, ed) => some (1, ed)
      | some (false, ed) => match editFinish (C02c.editOpen ed path) path with | none => none | some ed => C02c.editPlus f pls ed) := by
  unfold editGuard2
  cases hcur : ed.cur with
  | some b0 =>
    have h : Safe ed := ⟨hp.inv, by rw [hcur]; rfl, hp.kwd⟩
    obtain ⟨r, ed1, hg, h1, hq, hd1⟩ := guard_total h (((!path.isEmpty || (some b0 : Option Buf).isNone) && ed.xwa == 0) = true)
      ed.findRoom (some (strOf "last buffer modified"))
    rw [hg]
    cases r with
    | true => exact Ret.mk h1 (hd1.trans hd)
    | false =>
      dsimp only
      unfold C02c.editOpen
      by_cases hc : (!path.isEmpty || ed1.cur.isNone) = true
      · rw [if_pos hc]
        obtain ⟨h2, hd2⟩ := open_switch_safe h1.pre path
        exact editTail_ret h2 (hd2.trans (hd1.trans hd)) hC
      · rw [if_neg hc]
        exact editTail_ret h1 (hd1.trans hd) hC
  | none =>
    have hslot := findRoom_none_of_cur_none hp hcur
    have hg : (if ((!path.isEmpty || (none : Option Buf).isNone) && ed.xwa == 0) = true then
        bufsModified ed ed.findRoom (some (strOf "last buffer modified")) else some (false, ed) : R Bool) = some (false, ed) := by
      split
      · unfold bufsModified; rw [hslot]
      · rfl
    rw [hg]
    dsimp only
    unfold C02c.editOpen
    rw [if_pos (by rw [hcur]; simp)]
    obtain ⟨h2, hd2⟩ := open_switch_safe hp path
    exact editTail_ret h2 (hd2.trans hd) hC

theorem find_after_switch1 (ed : Ed) (path : Bytes) (h : ed.bufsFind path > 1) : 0 ≤ (ed.bufsSwitch 1).bufsFind path := by
  obtain ⟨hlt, ⟨b, hb, hpth⟩, _⟩ := find_by_path ed path _ rfl (by omega)
  have hk : 1 < (ed.bufsFind path).toNat := by omega
  have hslot : (ed.bufsSwitch 1).bufs.getD (ed.bufsFind path).toNat none = some b := by
    rw [(switch_slots ed 1 (by omega)).2.2 _ hk, leftBufs_getD ed _ (by omega)]
    exact hb
  rcases bufsFind_cases (ed.bufsSwitch 1) path with ⟨n, _, hn⟩ | ⟨_, hn⟩
  · rw [hn]; omega
  · exact absurd hpth (find_by_path_none _ path hn _ b hslot)

theorem editPath_ret {f d : Nat} {ed : Ed} {cmd path pls : Bytes} (hp : Pre ed) (hd : ed.atDepth = d) (hC : PlusOk f d pls) :
    Ret d (if !path.isEmpty && (ewPre ed cmd path).bufsFind path ≥ 0 then
        C02c.editPlus f pls ((ewPre ed cmd path).bufsSwitch ((ewPre ed cmd path).bufsFind path).toNat)
      else match editGuard2 (ewPre ed cmd path) path with
        | none => none
        | some (true, ed) => some (1, ed)
        | some (false, ed) => match editFinish (C02c.editOpen ed path) path with | none => none | some ed => C02c.editPlus f pls ed) := by
  have hfound : ∀ ed1 : Ed, EdInv ed1 → 0 ∉ ed1.xkwd → ed1.atDepth = d → 0 ≤ ed1.bufsFind path →
      Ret d (C02c.editPlus f pls (ed1.bufsSwitch (ed1.bufsFind path).toNat)) := by
    intro ed1 hi hk hd1 h0
    obtain ⟨_, ⟨b, hb, _⟩, _⟩ := find_by_path ed1 path _ rfl h0
    exact editPlus_ret (switch_safe hi hk (ed1.bufsFind path).toNat (by rw [hb]; rfl)) ((switch_atDepth _ _).trans hd1) hC
  unfold ewPre
  by_cases hew : (!path.isEmpty && cmd.headD 0 == 101 && cmd.getD 1 0 == 119 && decide (ed.bufsFind path > 1)) = true
  · rw [if_pos hew]
    simp only [Bool.and_eq_true, decide_eq_true_eq] at hew
    have h0 := find_after_switch1 ed path hew.2
    rw [if_pos (by simp only [Bool.and_eq_true, decide_eq_true_eq]; exact ⟨hew.1.1.1, h0⟩)]
    exact hfound _ (edInv_bufsSwitch 1 hp.inv) (by rw [switch_xkwd]; exact hp.kwd) ((switch_atDepth ed 1).trans hd) h0
  · rw [if_neg hew]
    split
    · rename_i hf
      simp only [Bool.and_eq_true, decide_eq_true_eq] at hf
      exact hfound ed hp.inv hp.kwd hd hf.2
    · exact editOpen_ret hp hd hC

theorem ecEdit_ret (f : Nat) {ed : Ed} (h : Safe ed) (cmd arg : Bytes) (hp : PathFits ed (plusOf arg).2 false)
    (hC : PlusOk f ed.atDepth (plusOf arg).1) : Ret ed.atDepth (ecEdit (f + 1) ed cmd arg) := by
  rw [ecEdit_stages, ← plusOf_eq]
  unfold editGuard
  obtain ⟨g, ed1, hg, h1, hq, hd1⟩ := guard_total h ((!hasBang cmd && ed.cur.isSome && ed.xwa == 0) = true) 0
    (some (strOf "buffer modified"))
  rw [hg]
  cases g with
  | true => exact Ret.mk h1 hd1
  | false =>
    dsimp only
    obtain ⟨path, ed2, he, h2, _, hd2⟩ := pathExpand_cases h1 (hp.congr hq)
    rw [he]
    cases path with
    | none => exact Ret.mk h2 (hd2.trans hd1)
    | some path => exact editPath_ret h2.pre (hd2.trans hd1) hC

theorem run_edit (f : Nat) {ed : Ed} (h : Safe ed) (loc cmd arg : Bytes) (txt : Option Bytes)
    (hp : PathFits ed (plusOf arg).2 false) (hC : PlusOk f ed.atDepth (plusOf arg).1) :
    Ret ed.atDepth (runCmd (f + 2) ed "ec_edit" loc cmd arg txt) := by
  dispatch
  exact ecEdit_ret f h cmd arg hp hC

/-- **`:e` as `ex_init` calls it**: from a table without a current buffer, with a file name free of `%`, `#`, `=` -/
theorem ecEdit_init (f : Nat) {ed : Ed} (hp : Pre ed) (hc : ed.cur = none) (cmd arg : Bytes)
    (hs : ∀ c ∈ (plusOf arg).2, c ≠ 37 ∧ c ≠ 35 ∧ c ≠ 61) (hl : (plusOf arg).2.length < 1000)
    (hC : PlusOk f ed.atDepth (plusOf arg).1) : Ret ed.atDepth (ecEdit (f + 1) ed cmd arg) := by
  rw [ecEdit_stages, ← plusOf_eq]
  unfold editGuard
  rw [if_neg (by rw [hc]; simp)]
  dsimp only
  obtain ⟨p, hgo, hlt⟩ := pathGo_plain ed false ((plusOf arg).2.length + 1) (plusOf arg).2 [] hs
  have he : pathExpand ed (plusOf arg).2 false = some (some p, ed) := by
    rw [Lemmas.C20c.pathExpand_eq, hgo, Lemmas.C20c.pathFin_some ed (by simp only [List.length_nil] at hlt; omega)]
  rw [he]
  exact editPath_ret hp rfl hC

end Neatvi.Lemmas.C05e
