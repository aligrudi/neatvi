import NeatviVerif.Lemmas.C05eG
import NeatviVerif.Lemmas.C15Quiet
/-!
# C05e lemmas, part H: `:g`

The scan of `ec_glob` with its three ways to fail told apart: `scanT` is the text of `ecGlob.scan` with the result
`done` / `budget` (the step budget of the model ran out) / `trap` (a line that is not there, the matcher, a command
line that traps, a negative index).  `scan_eq` says it is the same function, `scanT_succ` that a round of it is the
round `C05d.globStep` of the scan (read through `C15.globStep_cases`); `scanT_no_trap` that `trap` does not
happen from a safe state when the command line the scan runs returns.  What remains is the budget, which is the
model's stand-in for "the loop does not terminate".
-/
namespace Neatvi.Lemmas.C05e
open Neatvi Neatvi.Lbuf Neatvi.LbufIo Neatvi.Ex Neatvi.Rset
open Neatvi.Lemmas.ExFrame Neatvi.Lemmas.C02Ex Neatvi.Lemmas.C02b Neatvi.Lemmas.C06
open Neatvi.Lemmas.C05d (gPrep gMark ecGlob_eq' globStep)

inductive ScanRes where
  | done (ed : Ed)
  | budget
  | trap

def ScanRes.toOption : ScanRes → Option Ed
  | .done ed => some ed
  | .budget => none
  | .trap => none

/-- `ecGlob.scan`, telling the failures apart -/
def scanT (f : Nat) (neg : Bool) (s : Bytes) (re : RStr) (dep : Nat) : Nat → Ed → Int → ScanRes
  | 0, _, _ => .budget
  | g + 1, ed, i =>
    if i ≥ ed.len then .done ed else
    match ed.line i with
    | none => .trap
    | some ln =>
      match rstrFind re ln 16 0 ND NG with
      | none => .trap
      | some (res, _, _) =>
        let stepres : Option (Bool × Ed × Int) :=
          if (res < 0) == neg then
            (match exExec f { ed with xrow := i } s with
            | none => none
            | some (r, ed) => if r != 0 then some (true, ed, i) else some (false, ed, max 0 (min i ed.xrow)))
          else some (false, ed, i)
        match stepres with
        | none => .trap
        | some (true, ed, _) => .done ed
        | some (false, ed, i) =>
          if i < 0 then .trap else
          scanT f neg s re dep g (ecGlob.scan.adv dep (ed.len.toNat + 1) ed i).1 (ecGlob.scan.adv dep (ed.len.toNat + 1) ed i).2

theorem scan_eq (f : Nat) (neg : Bool) (s : Bytes) (re : RStr) (dep : Nat) : ∀ (g : Nat) (ed : Ed) (i : Int),
    ecGlob.scan f neg s re dep g ed i = (scanT f neg s re dep g ed i).toOption := by
  intro g
  induction g with
  | zero => intro ed i; rw [ecGlob.scan, scanT]; rfl
  | succ g ih =>
    intro ed i
    rw [ecGlob.scan, scanT]
    split
    · rfl
    · cases ed.line i with
      | none => rfl
      | some ln =>
        dsimp only
        cases rstrFind re ln 16 0 ND NG with
        | none => rfl
        | some p =>
          obtain ⟨res, o, c⟩ := p
          dsimp only
          generalize (if ((res < 0) == neg) = true then
              (match exExec f { ed with xrow := i } s with
              | none => none
              | some (r, ed) => if (r != 0) = true then some (true, ed, i) else some (false, ed, max 0 (min i ed.xrow)))
            else some (false, ed, i) : Option (Bool × Ed × Int)) = sr
          cases sr with
          | none => rfl
          | some t =>
            obtain ⟨b, ed1, i1⟩ := t
            cases b with
            | true => rfl
            | false =>
              dsimp only
              split
              · rfl
              · exact ih _ _

theorem scanT_succ (f : Nat) (neg : Bool) (s : Bytes) (re : RStr) (dep g : Nat) (ed : Ed) (i : Int) :
    scanT f neg s re dep (g + 1) ed i =
      if i ≥ ed.len then .done ed else
      match globStep f neg s re ed i with
      | none => .trap
      | some (true, ed, _) => .done ed
      | some (false, ed, i) =>
        if i < 0 then .trap else
        scanT f neg s re dep g (ecGlob.scan.adv dep (ed.len.toNat + 1) ed i).1 (ecGlob.scan.adv dep (ed.len.toNat + 1) ed i).2 := by
  rw [scanT]
  unfold globStep
  split
  · rfl
  · cases ed.line i with
    | none => rfl
    | some ln =>
      dsimp only
      cases rstrFind re ln 16 0 ND NG with
      | none => rfl
      | some p => rfl

theorem globStep_some {f : Nat} {neg : Bool} {s : Bytes} {re : RStr} {ed ed1 : Ed} {i r : Int} {ln : Bytes}
    (hln : ed.line i = some ln) (hf : rstrFind re ln 16 0 ND NG ≠ none)
    (he : exExec f { ed with xrow := i } s = some (r, ed1)) : ∃ t, globStep f neg s re ed i = some t := by
  unfold globStep
  rw [hln]
  dsimp only
  cases hfe : rstrFind re ln 16 0 ND NG with
  | none => exact absurd hfe hf
  | some p =>
    obtain ⟨res, o, c⟩ := p
    dsimp only
    rw [he]
    by_cases hc : (decide (res < 0) == neg) = true
    · rw [if_pos hc]
      dsimp only
      split <;> exact ⟨_, rfl⟩
    · rw [if_neg hc]
      exact ⟨_, rfl⟩

theorem globStep_post {Q : Ed → Prop} {f : Nat} {neg : Bool} {s : Bytes} {re : RStr} {ed ed1 : Ed} {i i1 : Int} {b : Bool}
    (hQ : Q ed) (hb : ∀ r ed1, exExec f { ed with xrow := i } s = some (r, ed1) → Q ed1)
    (h : globStep f neg s re ed i = some (b, ed1, i1)) : Q ed1 ∧ 0 ≤ i1 := by
  obtain ⟨h0, ⟨_, rfl, rfl⟩ | ⟨r, hx, ⟨_, rfl⟩ | ⟨_, rfl⟩⟩⟩ := Props.C15.globStep_cases h
  · exact ⟨hQ, h0⟩
  · exact ⟨hb r _ hx, h0⟩
  · exact ⟨hb r _ hx, by omega⟩

theorem adv_safe (dep : Nat) : ∀ (h : Nat) (ed : Ed) (i : Int), Safe ed → 0 ≤ i →
    Safe (ecGlob.scan.adv dep h ed i).1 ∧ (ecGlob.scan.adv dep h ed i).1.atDepth = ed.atDepth ∧
      0 ≤ (ecGlob.scan.adv dep h ed i).2 :=
  fun h ed i hs hi => adv_inv (P := fun e j => Safe e ∧ e.atDepth = ed.atDepth ∧ 0 ≤ j)
    (fun _ _ _ hlb hp =>
      ⟨hp.1.setLb ((edInv_lb hp.1.inv hlb).globGet _ _), (setLb_atDepth _ _).trans hp.2.1, hp.2.2⟩)
    (fun _ _ hp => ⟨hp.1, hp.2.1, Int.le_add_one hp.2.2⟩) h ed i ⟨hs, rfl, hi⟩

/-- the result of a scan that did not stop for its budget -/
def ScanGood (d : Nat) : ScanRes → Prop
  | .done e => Safe e ∧ e.atDepth = d
  | .budget => True
  | .trap => False

/-- **the scan of `:g` does not trap**: from a safe state and a row `≥ 0`, with a matcher that does not trap and a
    command line that returns whenever it is run, the scan ends (`done`) or stops for its step budget -/
theorem scanT_no_trap {pat : Bytes} {flg : Nat} {re : RStr} (hm : rstrMake pat flg = some (some re))
    (f : Nat) (neg : Bool) (s : Bytes) (dep d : Nat)
    (hbody : ∀ (ed' : Ed) (i' : Int), Safe ed' → ed'.atDepth = d → Ret d (exExec f { ed' with xrow := i' } s)) :
    ∀ (g : Nat) (ed : Ed) (i : Int), Safe ed → ed.atDepth = d → 0 ≤ i → ScanGood d (scanT f neg s re dep g ed i) := by
  intro g
  induction g with
  | zero => intro ed i _ _ _; rw [scanT]; trivial
  | succ g ih =>
    intro ed i hs hd hi
    rw [scanT_succ]
    split
    · exact ⟨hs, hd⟩
    · rename_i hlt
      obtain ⟨ln, hln⟩ := Lemmas.C06d.line_some ed i hi (by omega)
      obtain ⟨r, ed', he, h', hd'⟩ := hbody ed i hs hd
      obtain ⟨⟨b, ed1, i1⟩, hst⟩ := globStep_some (neg := neg) hln (rstrFind_ne_none pat flg re ln 16 0 hm) he
      obtain ⟨⟨h1, hd1⟩, hi1⟩ := globStep_post (Q := fun e => Safe e ∧ e.atDepth = d) ⟨hs, hd⟩
        (fun r2 e2 he2 => by rw [he] at he2; cases he2; exact ⟨h', hd'⟩) hst
      rw [hst]
      cases b with
      | true => exact ⟨h1, hd1⟩
      | false =>
        dsimp only
        rw [if_neg (by omega)]
        obtain ⟨a1, a2, a3⟩ := adv_safe dep (ed1.len.toNat + 1) ed1 i1 h1 hi1
        exact ih _ _ a1 (a2.trans hd1) a3

theorem gPrep_addrOnly (ed : Ed) (arg : Bytes) : AddrOnly ed (gPrep ed arg) := kw_addrOnly ed (reRead arg).1 1

theorem gPrep_kwd (ed : Ed) (arg : Bytes) (h0 : 0 ∉ arg) (hk : 0 ∉ ed.xkwd) : 0 ∉ (gPrep ed arg).xkwd :=
  kwEd_nul ed arg 1 h0 hk

theorem gMark_safe {ed : Ed} (h : Safe ed) (b e : Int) (dep : Nat) :
    Safe (gMark ed b e dep) ∧ (gMark ed b e dep).atDepth = ed.atDepth := by
  unfold gMark
  refine Basics.foldl_inv (fun s : Ed => Safe s ∧ s.atDepth = ed.atDepth) _ ?_ _ _ ⟨h.of_bufs rfl, rfl⟩
  intro s k hs
  cases hl : s.lb with
  | none => exact hs
  | some lb =>
    dsimp only
    exact ⟨hs.1.setLb ((edInv_lb hs.1.inv hl).globSet _ _), (setLb_atDepth _ _).trans hs.2⟩

theorem gSweep_safe {ed : Ed} (h : Safe ed) (dep : Nat) : Safe (gSweep ed dep) ∧ (gSweep ed dep).atDepth = ed.atDepth := by
  unfold gSweep
  cases hl : ed.lb with
  | none => exact ⟨h, rfl⟩
  | some lb =>
    dsimp only
    refine ⟨h.setLb ?_, setLb_atDepth _ _⟩
    exact Basics.foldl_inv GoodLb _ (fun l k hg => hg.globGet _ _) _ _ (edInv_lb h.inv hl)

/-- **`:g`**: total when the command line it runs returns and the scan does not exhaust its step budget -/
theorem ecGlob_ret (f : Nat) {ed : Ed} (h : Safe ed) (loc cmd arg : Bytes) (hloc : 0 ∉ loc) (harg : 0 ∉ arg)
    (hbody : ∀ (ed' : Ed) (i' : Int), Safe ed' → ed'.atDepth = ed.atDepth →
      Ret ed.atDepth (exExec f { ed' with xrow := i' } (reRead arg).2))
    (hbud : ∀ (re : RStr) (dep : Nat) (ed0 : Ed) (b : Int), Safe ed0 → ed0.atDepth = ed.atDepth → dep ≤ 7 → 0 ≤ b →
      scanT f (hasBang cmd || cmd.headD 0 == 118) (reRead arg).2 re dep (gBudget ed0) ed0 b ≠ ScanRes.budget) :
    Ret ed.atDepth (ecGlob (f + 1) ed loc cmd arg) := by
  rw [ecGlob_eq', show @Lemmas.C05d.gBudget = @gBudget from rfl]
  by_cases hdeep : ed.xgdep ≥ 7
  · rw [if_pos hdeep]; exact Ret.mk (h.show _) rfl
  rw [if_neg hdeep]
  obtain ⟨rc, b, e, ed1, hr, h1, hd1, _, hin, _⟩ := region_cases h (if loc.isEmpty && ed.xgdep == 0 then [37] else loc) (by split <;> simp [hloc])
  have hao : AddrOnly ed ed1 := (region_all _ _ _ _ _ _ hr).1
  rw [hr]
  dsimp only
  split
  · exact Ret.mk h1 hd1
  · rename_i hc
    have h0 : rc = 0 := rc_zero hc
    have ha2 : AddrOnly ed (gPrep ed1 arg) := hao.trans (gPrep_addrOnly ed1 arg)
    have h2 : Safe (gPrep ed1 arg) := h1.addr (gPrep_addrOnly ed1 arg) (gPrep_kwd ed1 arg harg h1.kwd)
    have hd2 : (gPrep ed1 arg).atDepth = ed.atDepth := AddrOnly.atDepth ha2
    have hxg : (gPrep ed1 arg).xgdep = ed.xgdep := by
      obtain ⟨_, _, _, e⟩ := ha2
      rw [e]
    clear ha2
    generalize gPrep ed1 arg = ed2 at h2 hd2 hxg ⊢
    split
    · exact Ret.mk h2 hd2
    · rcases mkRe_total ed2 ed2.xkwd h2.kwd with hmk | ⟨re, hmk⟩
      · rw [hmk]; exact Ret.mk h2 hd2
      · rw [hmk]
        dsimp only
        obtain ⟨h3, hd3⟩ := gMark_safe h2 b e (ed2.xgdep + 1)
        generalize gMark ed2 b e (ed2.xgdep + 1) = ed3 at h3 hd3 ⊢
        have hgood := scanT_no_trap hmk f (hasBang cmd || cmd.headD 0 == 118) (reRead arg).2 (ed2.xgdep + 1) ed.atDepth hbody
          (gBudget ed3) ed3 b h3 (hd3.trans hd2) (hin h0).1
        have hnb := hbud re (ed2.xgdep + 1) ed3 b h3 (hd3.trans hd2) (by rw [hxg]; omega) (hin h0).1
        rw [scan_eq]
        cases hsc : scanT f (hasBang cmd || cmd.headD 0 == 118) (reRead arg).2 re (ed2.xgdep + 1) (gBudget ed3) ed3 b with
        | budget => exact absurd hsc hnb
        | trap => rw [hsc] at hgood; exact absurd hgood (by simp [ScanGood])
        | done ed4 =>
          rw [hsc] at hgood
          obtain ⟨h4, hd4⟩ := hgood
          obtain ⟨h5, hd5⟩ := gSweep_safe h4 (ed2.xgdep + 1)
          exact Ret.mk (h5.of_bufs rfl) (hd5.trans hd4)

theorem run_glob (f : Nat) {ed : Ed} (h : Safe ed) (loc cmd arg : Bytes) (txt : Option Bytes)
    (hloc : 0 ∉ loc) (harg : 0 ∉ arg) (hbody : ∀ (ed' : Ed) (i' : Int), Safe ed' → ed'.atDepth = ed.atDepth →
      Ret ed.atDepth (exExec f { ed' with xrow := i' } (reRead arg).2))
    (hbud : ∀ (re : RStr) (dep : Nat) (ed0 : Ed) (b : Int), Safe ed0 → ed0.atDepth = ed.atDepth → dep ≤ 7 → 0 ≤ b →
      scanT f (hasBang cmd || cmd.headD 0 == 118) (reRead arg).2 re dep (gBudget ed0) ed0 b ≠ ScanRes.budget) :
    Ret ed.atDepth (runCmd (f + 2) ed "ec_glob" loc cmd arg txt) := by
  dispatch
  exact ecGlob_ret f h loc cmd arg hloc harg hbody hbud

end Neatvi.Lemmas.C05e
