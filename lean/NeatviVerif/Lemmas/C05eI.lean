import NeatviVerif.Lemmas.C06bProgress
import NeatviVerif.Lemmas.C05eH
/-!
# C05e lemmas, part I: the measure of nesting and the pieces of a parsed line

`nest l` counts the bytes of a line that can open a nested command line: `g`, `v` (every name of the `:g` family
holds one) and `+` (`:e +cmd`).  The body of a `:g` and the `+cmd` of a `:e` are sublists of the line with one such
byte fewer, which is what the induction over the fuel in part J descends on.
-/
namespace Neatvi.Lemmas.C05e
open Neatvi Neatvi.Lbuf Neatvi.LbufIo Neatvi.Ex Neatvi.Rset Neatvi.Lemmas.C06b
open Neatvi.Lemmas.ExFrame Neatvi.Lemmas.C02Ex Neatvi.Lemmas.C02b Neatvi.Lemmas.C06

theorem glob_table : ∀ e ∈ Gen.excmds, e.2.2 = "ec_glob" →
    (e.1.contains 103 || e.1.contains 118) = true ∧ (e.2.1.contains 103 || e.2.1.contains 118) = true := by
  decide

theorem at_table : ∀ e ∈ Gen.excmds, e.2.2 = "ec_at" →
    (e.1 = [114, 97] ∧ e.2.1 = [114, 97]) ∨ (e.1 = [64] ∧ e.2.1 = [64]) := by
  decide

theorem exIdx_entry {cmd a : Bytes} {h : String} (hi : exIdx cmd = some (a, h)) :
    ∃ e ∈ Gen.excmds, (e.1 = cmd ∨ e.2.1 = cmd) ∧ e.2.2 = h := by
  unfold exIdx at hi
  simp only [Option.map_eq_some_iff] at hi
  obtain ⟨e, hf, he⟩ := hi
  have h1 := List.find?_some hf
  have h2 := List.mem_of_find?_eq_some hf
  simp only [Bool.or_eq_true, beq_iff_eq] at h1
  cases he
  exact ⟨e, h2, h1, rfl⟩

theorem exIdx_glob {cmd a : Bytes} (hi : exIdx cmd = some (a, "ec_glob")) : 103 ∈ cmd ∨ 118 ∈ cmd := by
  obtain ⟨e, hm, hc, hh⟩ := exIdx_entry hi
  obtain ⟨h1, h2⟩ := glob_table e hm hh
  simp only [Bool.or_eq_true, List.contains_iff_mem] at h1 h2
  rcases hc with rfl | rfl
  · exact h1
  · exact h2

theorem exIdx_at {cmd a : Bytes} (hi : exIdx cmd = some (a, "ec_at")) : cmd = [114, 97] ∨ cmd = [64] := by
  obtain ⟨e, hm, hc, hh⟩ := exIdx_entry hi
  rcases at_table e hm hh with ⟨h1, h2⟩ | ⟨h1, h2⟩
  · left; rcases hc with rfl | rfl <;> assumption
  · right; rcases hc with rfl | rfl <;> assumption

/-- the bytes that can open a nested command line -/
def nestB (c : Nat) : Bool := c == 103 || c == 118 || c == 43

def nest (l : Bytes) : Nat := l.countP nestB

theorem nest_sublist {l l' : Bytes} (h : l'.Sublist l) : nest l' ≤ nest l := h.countP_le

theorem nest_append (a b : Bytes) : nest (a ++ b) = nest a + nest b := List.countP_append

theorem nest_le_length (l : Bytes) : nest l ≤ l.length := List.countP_le_length

theorem nest_pos_of_mem {l : Bytes} {c : Nat} (hc : nestB c = true) (h : c ∈ l) : 1 ≤ nest l :=
  List.countP_pos_iff.mpr ⟨c, h, hc⟩

theorem nest_drop1 {l : Bytes} (h : nestB (l.headD 0) = true) (hne : l ≠ []) : nest (l.drop 1) + 1 = nest l := by
  cases l with
  | nil => exact absurd rfl hne
  | cons c r =>
    simp only [List.headD_cons] at h
    show nest r + 1 = nest (c :: r)
    unfold nest
    rw [List.countP_cons_of_pos h]

theorem parse1_sublist (ln : Bytes) :
    ((parse1 ln).cmd ++ ((parse1 ln).arg ++ (parse1 ln).rest)).Sublist ln := by
  unfold parse1
  dsimp only
  have h1 := (exLoc_suffix ln).sublist
  have h2 := exCmd_sublist (exLoc ln).2
  have h3 := exArg_sublist (exCmd (exLoc ln).2).2 (abbrOf (exIdx (exCmd (exLoc ln).2).1))
  exact ((List.Sublist.append_left h3 _).trans h2).trans h1

theorem parse1_loc_sublist (ln : Bytes) : (parse1 ln).loc.Sublist ln := by
  unfold parse1
  exact exLoc_loc_sublist ln

theorem parse1_cmd_sublist (ln : Bytes) : (parse1 ln).cmd.Sublist ln :=
  (List.sublist_append_left _ _).trans (parse1_sublist ln)

theorem parse1_arg_sublist (ln : Bytes) : (parse1 ln).arg.Sublist ln :=
  ((List.sublist_append_left _ _).trans (List.sublist_append_right _ _)).trans (parse1_sublist ln)

theorem restOf_sublist (ln : Bytes) : (restOf ln).Sublist ln := by
  have h1 : (restOf ln).Sublist (parse1 ln).rest := (exTxt_suffix _ _ _).sublist
  exact ((h1.trans (List.sublist_append_right _ _)).trans (List.sublist_append_right _ _)).trans (parse1_sublist ln)

theorem nest_glob_body {ln : Bytes} {a : Bytes} (hi : (parse1 ln).idx = some (a, "ec_glob")) :
    nest (reRead (parse1 ln).arg).2 + 1 ≤ nest ln := by
  have hs := nest_sublist (parse1_sublist ln)
  rw [nest_append, nest_append] at hs
  have hb : nest (reRead (parse1 ln).arg).2 ≤ nest (parse1 ln).arg := nest_sublist (reRead_suffix _).sublist
  have hc : 1 ≤ nest (parse1 ln).cmd := by
    have hi' : exIdx (parse1 ln).cmd = some (a, "ec_glob") := hi
    rcases exIdx_glob hi' with h | h
    · exact nest_pos_of_mem (by decide) h
    · exact nest_pos_of_mem (by decide) h
  omega

theorem plusOf_sublist (arg : Bytes) : (plusOf arg).1.Sublist arg ∧ (plusOf arg).2.Sublist arg := by
  unfold plusOf
  dsimp only
  have hd : (arg.dropWhile (· == 32)).Sublist arg := (List.dropWhile_suffix _).sublist
  split
  · obtain ⟨x, h1, h2⟩ := copyUntilPlus_split ((arg.dropWhile (· == 32)).length + 1) (arg.dropWhile (· == 32)) []
    generalize copyUntilPlus ((arg.dropWhile (· == 32)).length + 1) (arg.dropWhile (· == 32)) [] = q at h1 h2
    obtain ⟨p, r⟩ := q
    simp only [List.nil_append] at h1 h2 ⊢
    subst h1
    exact ⟨((List.sublist_append_left _ _).trans h2).trans hd,
      (((List.dropWhile_suffix _).sublist.trans (List.sublist_append_right _ _)).trans h2).trans hd⟩
  · exact ⟨List.nil_sublist _, hd⟩

theorem nest_plus {arg : Bytes} (hp : ((plusOf arg).1.headD 0 == 43) = true) :
    nest ((plusOf arg).1.drop 1) + 1 ≤ nest arg := by
  have hne : (plusOf arg).1 ≠ [] := by
    intro h0; rw [h0] at hp; simp at hp
  have h1 := nest_drop1 (l := (plusOf arg).1) (by simp only [beq_iff_eq] at hp; rw [hp]; decide) hne
  have h2 := nest_sublist (plusOf_sublist arg).1
  omega

end Neatvi.Lemmas.C05e
