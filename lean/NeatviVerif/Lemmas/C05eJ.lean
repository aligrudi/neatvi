import NeatviVerif.Lemmas.C05eI
/-!
# C05e lemmas, part J: no command line traps — the loop of `ex_exec`, the dispatcher, the induction over the fuel

`LineCond A K` collects what is asked of the text of the lines: a predicate `A` inherited by sublists, under which
path expansions fit and `:g` is either absent or its scans end within the model's step budget.  Its clause for `:@`
leaves only "absent" (`LineCond.no_at`), so no covered line runs a register and `K` plays no part in the proofs.
`cmds_keep`: the loop over a line keeps what every command of the line keeps, and returns when they do: the total
reading of `ExDid.cmds_run`, the one walk of the loop of `ex_exec` (`cmds_ret`, `cmds_retM` for the two forms of
"returns").  `runCmd_local`: the seventeen handlers that act on the current buffer and run no command line, as one
statement.  `exec_ret`: for every line satisfying the side condition, from every safe state, `ex_exec` returns (in a
safe state, at the same `:@` depth) as soon as the fuel covers `need K d ln = 4 * nest ln + 3 + (16 - d) * K`; what
is used of it is `4 * nest ln + 3`, four units for each level of `:g` or `+cmd`.
-/
namespace Neatvi.Lemmas.C05e
open Neatvi Neatvi.Lbuf Neatvi.LbufIo Neatvi.Ex Neatvi.Rset Neatvi.Lemmas.C06b
open Neatvi.Lemmas.ExFrame Neatvi.Lemmas.C02Ex Neatvi.Lemmas.C02b Neatvi.Lemmas.C06
open Neatvi.Lemmas.ExDid (Run cmds_run)

/-- every scan of `:g` started from a safe state ends within the step budget the model gives it -/
def ScanFin : Prop :=
  ∀ (f : Nat) (neg : Bool) (s : Bytes) (re : RStr) (dep : Nat) (ed0 : Ed) (b : Int), Safe ed0 →
    scanT f neg s re dep (gBudget ed0) ed0 b ≠ ScanRes.budget

/-- what is asked of the text of command lines -/
structure LineCond (A : Bytes → Prop) (K : Nat) : Prop where
  sub : ∀ {l l' : Bytes}, l'.Sublist l → A l → A l'
  nul : ∀ (l : Bytes), A l → 0 ∉ l
  path : ∀ (ed : Ed) (arg : Bytes) (sp : Bool), Safe ed → A arg → arg.length < Gen.EXLEN → PathFits ed arg sp
  at_ : (∀ ln, A ln → 64 ∉ ln) ∨ (4 * Gen.EXLEN ≤ K ∧ ∀ buf : Bytes, A buf)
  glob : (∀ ln, A ln → 103 ∉ ln ∧ 118 ∉ ln) ∨ ScanFin

/-- No line with `A` holds an `@`: the other alternative of `at_` asks `A` of every text a register may hold, also of
    `[0]`, which `nul` refutes.  A side condition that admits `:@` has to speak of the contents of the registers (an
    invariant of the state, not of the line), and `exec_ret` then pays `K` units of fuel for each of the 16 levels. -/
theorem LineCond.no_at {A : Bytes → Prop} {K : Nat} (hA : LineCond A K) {ln : Bytes} (h : A ln) : 64 ∉ ln := by
  rcases hA.at_ with hno | ⟨_, hall⟩
  · exact hno ln h
  · exact absurd (List.mem_singleton.2 rfl) (hA.nul [0] (hall [0]))

/-- the fuel `ex_exec` needs for a line at `:@` depth `d` -/
def need (K d : Nat) (ln : Bytes) : Nat := 4 * nest ln + 3 + (16 - d) * K

theorem exTxt_safe {ed : Ed} (h : Safe ed) (src a : Bytes) :
    Safe (exTxt ed src a).2 ∧ (exTxt ed src a).2.atDepth = ed.atDepth ∧ MLe ed (exTxt ed src a).2 := by
  obtain ⟨inp, e⟩ := exTxt_input ed src a
  rw [e]
  exact ⟨h.of_bufs rfl, rfl, MLe.of_bufs rfl⟩

theorem exCommand_of_exec {d f : Nat} {ed : Ed} {ln : Bytes} (h : Ret d (exExec f ed ln)) :
    Ret d (exCommand (f + 1) ed ln) := by
  obtain ⟨r, ed1, he, h1, hd1⟩ := h
  rw [exCommand, he]
  exact Ret.mk (h1.modifiedAt 0) ((modifiedAt_atDepth ed1 0).trans hd1)

theorem exExec_long (f : Nat) {ed : Ed} (h : Safe ed) {ln : Bytes} (hl : ln.length ≥ Gen.EXLEN) :
    Ret ed.atDepth (exExec (f + 1) ed ln) := by
  rw [exExec, if_pos hl]
  exact Ret.mk (h.show _) rfl

theorem cmds_keep (f : Nat) (I : Ed → Prop) (Q : Nat → Bytes → Prop)
    (hQ : ∀ g ln, ¬ ln.isEmpty = true → Q (g + 1) ln → Q g (restOf ln))
    (hT : ∀ ed src a, I ed → I (exTxt ed src a).2) (hS : ∀ ed m, I ed → I (ed.show m))
    (hrun : ∀ g ed ln a hd txt, I ed → Q (g + 1) ln → ¬ ln.isEmpty = true → (parse1 ln).idx = some (a, hd) →
      ∃ r ed', runCmd f ed hd (parse1 ln).loc (parse1 ln).cmd (parse1 ln).arg txt = some (r, ed') ∧ I ed')
    (g : Nat) (ed : Ed) (ln : Bytes) (ret : Int) (h : I ed) (hq : Q g ln) :
    ∃ r ed', exExec.cmds f g ed ln ret = some (r, ed') ∧ I ed' := by
  obtain ⟨p, hp, hI⟩ := (cmds_run (C := True) f I Q hQ hT hS (fun g ed ln a hd _ h hq hne hi => by
    obtain ⟨r, ed', he, h'⟩ := hrun g _ ln a hd _ h hq hne hi
    rw [he]; exact Run.some h') g ed ln ret h hq).tot trivial
  exact ⟨p.1, p.2, hp, hI⟩

theorem cmds_ret (f d : Nat) (Q : Nat → Bytes → Prop) (hQ : ∀ g ln, ¬ ln.isEmpty = true → Q (g + 1) ln → Q g (restOf ln))
    (hrun : ∀ g (ed : Ed) ln a hd txt, Safe ed → ed.atDepth = d → Q (g + 1) ln → ¬ ln.isEmpty = true →
      (parse1 ln).idx = some (a, hd) →
      Ret d (runCmd f ed hd (parse1 ln).loc (parse1 ln).cmd (parse1 ln).arg txt))
    (g : Nat) {ed : Ed} (ln : Bytes) (ret : Int) (h : Safe ed) (hd : ed.atDepth = d) (hq : Q g ln) :
    Ret d (exExec.cmds f g ed ln ret) :=
  cmds_keep f (fun ed => Safe ed ∧ ed.atDepth = d) Q hQ
    (fun _ src a h => ⟨(exTxt_safe h.1 src a).1, (exTxt_safe h.1 src a).2.1.trans h.2⟩) (fun _ m h => ⟨h.1.show m, h.2⟩)
    (fun g _ ln a hd txt h hq hne hi => hrun g _ ln a hd txt h.1 h.2 hq hne hi) g ed ln ret ⟨h, hd⟩ hq

theorem cmds_retM (f : Nat) (Q : Nat → Bytes → Prop) (hQ : ∀ g ln, ¬ ln.isEmpty = true → Q (g + 1) ln → Q g (restOf ln))
    (hrun : ∀ g (ed : Ed) ln a hd txt, Safe ed → Q (g + 1) ln → ¬ ln.isEmpty = true → (parse1 ln).idx = some (a, hd) →
      RetM ed (runCmd f ed hd (parse1 ln).loc (parse1 ln).cmd (parse1 ln).arg txt))
    (g : Nat) {ed : Ed} (ln : Bytes) (ret : Int) (h : Safe ed) (hq : Q g ln) : RetM ed (exExec.cmds f g ed ln ret) :=
  cmds_keep f (fun ed' => Safe ed' ∧ ed'.atDepth = ed.atDepth ∧ MLe ed ed') Q hQ
    (fun _ src a h => ⟨(exTxt_safe h.1 src a).1, (exTxt_safe h.1 src a).2.1.trans h.2.1, h.2.2.trans (exTxt_safe h.1 src a).2.2⟩)
    (fun _ m h => ⟨h.1.show m, h.2.1, h.2.2.trans (MLe.of_bufs rfl)⟩)
    (fun g _ ln a hd txt h hq hne hi => (hrun g _ ln a hd txt h.1 hq hne hi).from h.2.1 h.2.2) g ed ln ret ⟨h, rfl, MLe.refl _⟩ hq

theorem runCmd_local (k : Nat) {ed : Ed} (h : Safe ed) (hd : String)
    (hn : hd ≠ "ec_at" ∧ hd ≠ "ec_glob" ∧ hd ≠ "ec_edit" ∧ hd ≠ "ec_quit" ∧ hd ≠ "ec_buffer") (loc cmd arg : Bytes)
    (txt : Option Bytes) (hloc : 0 ∉ loc) (harg : 0 ∉ arg)
    (hpf : hd = "ec_exec" ∨ hd = "ec_read" ∨ hd = "ec_write" → PathFits ed arg true) :
    RetM ed (runCmd (k + 2) ed hd loc cmd arg txt) := by
  by_cases hl : hd ∈ ["ec_undo", "ec_redo", "ec_at", "ec_glob", "ec_edit", "ec_substitute", "ec_exec", "ec_read", "ec_write",
      "ec_quit", "ec_buffer"]
  · simp only [List.mem_cons, List.not_mem_nil, or_false] at hl
    obtain ⟨n1, n2, n3, n4, n5⟩ := hn
    rcases hl with rfl | rfl | rfl | rfl | rfl | rfl | rfl | rfl | rfl | rfl | rfl
    · exact run_undo (k + 1) h _ _ _ _
    · exact run_redo (k + 1) h _ _ _ _
    · exact absurd rfl n1
    · exact absurd rfl n2
    · exact absurd rfl n3
    · exact run_subst (k + 1) h _ _ _ _ hloc harg
    · exact run_exec (k + 1) h _ _ _ _ hloc (hpf (Or.inl rfl))
    · exact run_read (k + 1) h _ _ _ _ hloc (hpf (Or.inr (Or.inl rfl)))
    · exact run_write (k + 1) h _ _ _ _ hloc (hpf (Or.inr (Or.inr rfl)))
    · exact absurd rfl n4
    · exact absurd rfl n5
  · exact run_local k h hd hl loc cmd arg txt hloc

/-- **the dispatcher**: a parsed command of a line `ln`, with fuel `k + 2`, given the command lines one level down -/
theorem runCmd_ret {A : Bytes → Prop} {K : Nat} (hA : LineCond A K) (k : Nat) {ed : Ed}
    (h : Safe ed) (ln : Bytes) (hAl : A ln) (hlen : ln.length < Gen.EXLEN) (a : Bytes) (hd : String)
    (hi : (parse1 ln).idx = some (a, hd)) (txt : Option Bytes)
    (hE : ∀ (ed' : Ed) (ln' : Bytes), Safe ed' → ed'.atDepth = ed.atDepth → A ln' → ln'.length < Gen.EXLEN →
      nest ln' + 1 ≤ nest ln → Ret ed.atDepth (exExec k ed' ln') ∧ Ret ed.atDepth (exCommand k ed' ln')) :
    Ret ed.atDepth (runCmd (k + 2) ed hd (parse1 ln).loc (parse1 ln).cmd (parse1 ln).arg txt) := by
  have hcs := parse1_cmd_sublist ln
  have has := parse1_arg_sublist ln
  have hAa : A (parse1 ln).arg := hA.sub has hAl
  have hla : (parse1 ln).arg.length < Gen.EXLEN := Nat.lt_of_le_of_lt has.length_le hlen
  have hpf : ∀ sp, PathFits ed (parse1 ln).arg sp := fun sp => hA.path ed _ sp h hAa hla
  have hloc : 0 ∉ (parse1 ln).loc := hA.nul _ (hA.sub (parse1_loc_sublist ln) hAl)
  have harg : 0 ∉ (parse1 ln).arg := hA.nul _ hAa
  by_cases c12 : hd = "ec_at"
  · subst c12
    refine run_at k h _ _ _ _ hloc ?_
    intro ed' buf hs' hd' hlt hra
    have hi' : exIdx (parse1 ln).cmd = some (a, "ec_at") := hi
    rcases exIdx_at hi' with hc | hc
    · exact absurd (by rw [hc]; rfl) hra
    · exact absurd (hcs.subset (by rw [hc]; simp)) (hA.no_at hAl)
  by_cases c13 : hd = "ec_glob"
  · subst c13
    have hbody := nest_glob_body hi
    have hAs : A (reRead (parse1 ln).arg).2 := hA.sub (reRead_suffix _).sublist hAa
    have hls : (reRead (parse1 ln).arg).2.length < Gen.EXLEN :=
      Nat.lt_of_le_of_lt (reRead_suffix _).sublist.length_le hla
    refine run_glob k h _ _ _ _ hloc harg ?_ ?_
    · intro ed' i' hs' hd'
      exact (hE { ed' with xrow := i' } _ (hs'.of_bufs rfl) hd' hAs hls hbody).1
    · rcases hA.glob with hno | hfin
      · have hi' : exIdx (parse1 ln).cmd = some (a, "ec_glob") := hi
        rcases exIdx_glob hi' with hm | hm
        · exact absurd (hcs.subset hm) (hno ln hAl).1
        · exact absurd (hcs.subset hm) (hno ln hAl).2
      · intro re dep ed0 b hs0 _ _ _
        exact hfin _ _ _ _ _ _ _ hs0
  by_cases c14 : hd = "ec_edit"
  · subst c14
    obtain ⟨hp1, hp2⟩ := plusOf_sublist (parse1 ln).arg
    refine run_edit k h _ _ _ _ ?_ ?_
    · exact hA.path ed _ false h (hA.sub hp2 hAa) (Nat.lt_of_le_of_lt hp2.length_le hla)
    · intro hplus ed' hs' hd'
      have hn := nest_plus hplus
      have hn2 := nest_sublist has
      exact (hE ed' _ hs' hd' (hA.sub ((List.drop_sublist 1 _).trans hp1) hAa)
        (Nat.lt_of_le_of_lt ((List.drop_sublist 1 _).trans hp1).length_le hla) (by omega)).2
  by_cases c19 : hd = "ec_quit"
  · subst c19; exact run_quit (k + 1) h _ _ _ _ (hpf true)
  by_cases c20 : hd = "ec_buffer"
  · subst c20; exact run_buffer (k + 1) h _ _ _ _
  exact (runCmd_local k h hd ⟨c12, c13, c14, c19, c20⟩ _ _ _ txt hloc harg (fun _ => hpf true)).ret

/-- **the loop of `ex_exec`** over a line, given the command lines one level down -/
theorem cmds_cond {A : Bytes → Prop} {K : Nat} (hA : LineCond A K) (k d N : Nat)
    (hE : ∀ (ed' : Ed) (ln' : Bytes), Safe ed' → ed'.atDepth = d → A ln' → ln'.length < Gen.EXLEN →
      nest ln' + 1 ≤ N → Ret d (exExec k ed' ln') ∧ Ret d (exCommand k ed' ln'))
    (g : Nat) {ed : Ed} (ln : Bytes) (ret : Int) (h : Safe ed) (hd : ed.atDepth = d) (hAl : A ln)
    (hlen : ln.length < Gen.EXLEN) (hn : nest ln ≤ N) : Ret d (exExec.cmds (k + 2) g ed ln ret) := by
  refine cmds_ret (k + 2) d (fun _ ln => A ln ∧ ln.length < Gen.EXLEN ∧ nest ln ≤ N) ?_ ?_ g ln ret h hd ⟨hAl, hlen, hn⟩
  · intro _ ln _ hq
    have hrs := restOf_sublist ln
    exact ⟨hA.sub hrs hq.1, Nat.lt_of_le_of_lt hrs.length_le hq.2.1, Nat.le_trans (nest_sublist hrs) hq.2.2⟩
  · intro _ ed ln a hh txt h hd hq _ hi
    subst hd
    exact runCmd_ret hA k h ln hq.1 hq.2.1 a hh hi txt
      (fun ed' ln' hs' hd' hA' hl' hn' => hE ed' ln' hs' hd' hA' hl' (by omega))

theorem exlen_eq : Gen.EXLEN = 512 := rfl

/-- **no command line traps**: `ex_exec` on a line satisfying the side condition returns, from every safe state, with
    every fuel `f ≥ need K d ln` -/
theorem exec_ret {A : Bytes → Prop} {K : Nat} (hA : LineCond A K) :
    ∀ (n f : Nat) (ed : Ed) (ln : Bytes), Safe ed → A ln → need K ed.atDepth ln ≤ n → n ≤ f →
      Ret ed.atDepth (exExec f ed ln) := by
  intro n
  induction n using Nat.strongRecOn with
  | _ n ih =>
    intro f ed ln h hAl hneed hf
    have hn3 : 3 ≤ n := by unfold need at hneed; omega
    obtain ⟨k, rfl⟩ : ∃ k, f = k + 3 := ⟨f - 3, by omega⟩
    by_cases hlong : ln.length ≥ Gen.EXLEN
    · exact exExec_long (k + 2) h hlong
    · rw [exExec, if_neg hlong]
      refine cmds_cond hA k ed.atDepth (nest ln) ?_ (ln.length + 1) ln 0 h rfl hAl (by omega) (Nat.le_refl _)
      intro ed' ln' hs' hd' hA' hl' hn'
      have hm : need K ed'.atDepth ln' ≤ n - 4 := by
        unfold need at hneed ⊢
        rw [hd']; omega
      refine ⟨?_, ?_⟩
      · have := ih (n - 4) (by omega) k ed' ln' hs' hA' hm (by omega)
        rw [hd'] at this; exact this
      · obtain ⟨k', rfl⟩ : ∃ k', k = k' + 1 := ⟨k - 1, by unfold need at hm; omega⟩
        have := ih (n - 4) (by omega) k' ed' ln' hs' hA' hm (by omega)
        rw [hd'] at this
        exact exCommand_of_exec this

theorem command_ret {A : Bytes → Prop} {K : Nat} (hA : LineCond A K)
    (f : Nat) {ed : Ed} (ln : Bytes) (h : Safe ed) (hAl : A ln) (hf : need K ed.atDepth ln + 1 ≤ f) :
    Ret ed.atDepth (exCommand f ed ln) := by
  obtain ⟨k, rfl⟩ : ∃ k, f = k + 1 := ⟨f - 1, by omega⟩
  exact exCommand_of_exec (exec_ret hA (need K ed.atDepth ln) k ed ln h hAl (Nat.le_refl _) (by omega))

end Neatvi.Lemmas.C05e
