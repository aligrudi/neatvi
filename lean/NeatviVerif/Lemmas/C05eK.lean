import NeatviVerif.Lemmas.C05eJ
import NeatviVerif.Lemmas.C05eR6
/-!
# C05e lemmas, part K: plain lines (an instance of the side condition `LineCond`) and flat lines (commands that start
no command line of their own)
-/
namespace Neatvi.Lemmas.C05e
open Neatvi Neatvi.Lbuf Neatvi.LbufIo Neatvi.Ex Neatvi.Rset Neatvi.Lemmas.C06b
open Neatvi.Lemmas.ExFrame Neatvi.Lemmas.C02Ex Neatvi.Lemmas.C02b Neatvi.Lemmas.C06

/-- no NUL, no `@`, no `%` `#` `=`, no `g` `v`: nothing in the line can start a `:g` or a `:@`, every path fits -/
def Plain (l : Bytes) : Prop := ∀ c ∈ l, c ≠ 0 ∧ c ≠ 64 ∧ c ≠ 37 ∧ c ≠ 35 ∧ c ≠ 61 ∧ c ≠ 103 ∧ c ≠ 118

theorem lineCond_plain : LineCond Plain 0 where
  sub := fun hs h c hc => h c (hs.subset hc)
  nul := fun l h h0 => (h 0 h0).1 rfl
  path := fun ed arg sp _ h hl => pathFits_plain ed arg sp (fun c hc => ⟨(h c hc).2.2.1, (h c hc).2.2.2.1, (h c hc).2.2.2.2.1⟩)
    (by rw [exlen_eq] at hl; omega)
  at_ := Or.inl (fun l h h64 => (h 64 h64).2.1 rfl)
  glob := Or.inl (fun l h => ⟨fun h1 => (h 103 h1).2.2.2.2.2.1 rfl, fun h1 => (h 118 h1).2.2.2.2.2.2 rfl⟩)

/-- the bytes `ex_pathexpand` treats specially -/
def plainArg (arg : Bytes) : Bool := arg.all (fun c => c != 37 && c != 35 && c != 61)

theorem plainArg_iff {arg : Bytes} (h : plainArg arg = true) : ∀ c ∈ arg, c ≠ 37 ∧ c ≠ 35 ∧ c ≠ 61 := by
  intro c hc
  have := List.all_eq_true.mp h c hc
  simp only [Bool.and_eq_true, bne_iff_ne, ne_eq] at this
  exact ⟨this.1.1, this.1.2, this.2⟩

def pathHandler (hd : String) : Bool :=
  hd == "ec_edit" || hd == "ec_exec" || hd == "ec_read" || hd == "ec_write" || hd == "ec_quit"

/-- one parsed command is flat: address and argument are C strings; it is not `:@`/`:ra`, not of the `:g` family, not
    `:e +cmd`; a file-name argument holds no `%`, `#`, `=` -/
def flatCmd (p : Parsed) : Bool :=
  !p.loc.contains 0 && !p.arg.contains 0 &&
  match p.idx with
  | none => true
  | some (_, hd) =>
    hd != "ec_at" && hd != "ec_glob" && (hd != "ec_edit" || (plusOf p.arg).1.headD 0 != 43) &&
    (!pathHandler hd || plainArg p.arg)

/-- every command of the line, as `ex_exec` cuts it, is flat -/
def flatLine : Nat → Bytes → Bool
  | 0, _ => true
  | n + 1, ln => ln.isEmpty || (flatCmd (parse1 ln) && flatLine n (restOf ln))

theorem flatLine_mono : ∀ (n : Nat) (ln : Bytes), ln.length ≤ n → ∀ m, flatLine n ln = true → ln.length ≤ m → flatLine m ln = true := by
  intro n
  induction n with
  | zero =>
    intro ln hl m _ _
    have : ln = [] := by cases ln with | nil => rfl | cons _ _ => simp at hl
    subst this
    cases m <;> rfl
  | succ n ih =>
    intro ln hl m h hm
    cases m with
    | zero =>
      rfl
    | succ m =>
      rw [flatLine] at h ⊢
      by_cases hne : ln = []
      · subst hne; rfl
      · have hemp : ln.isEmpty = false := by cases ln with | nil => exact absurd rfl hne | cons _ _ => rfl
        rw [hemp, Bool.false_or, Bool.and_eq_true] at h
        rw [hemp, Bool.false_or, Bool.and_eq_true]
        have hlt := restOf_lt ln hne
        exact ⟨h.1, ih (restOf ln) (by omega) m h.2 (by omega)⟩

theorem pathFits_handler {hd : String} {arg : Bytes} (hpath : pathHandler hd = false ∨ plainArg arg = true)
    (hl : arg.length < 1000) (hph : pathHandler hd = true) (ed : Ed) (sp : Bool) : PathFits ed arg sp := by
  rcases hpath with hp | hp
  · rw [hph] at hp; cases hp
  · exact pathFits_plain ed arg sp (plainArg_iff hp) hl

theorem no_nul {l : Bytes} (h : l.contains 0 = false) : 0 ∉ l := by
  intro hm
  rw [List.contains_iff_mem.mpr hm] at h
  cases h

theorem runCmd_flat (k : Nat) {ed : Ed} (h : Safe ed) (p : Parsed) (a : Bytes) (hd : String) (hi : p.idx = some (a, hd))
    (hf : flatCmd p = true) (hl : p.arg.length < 1000) (txt : Option Bytes) :
    Ret ed.atDepth (runCmd (k + 2) ed hd p.loc p.cmd p.arg txt) := by
  unfold flatCmd at hf
  rw [hi] at hf
  simp only [Bool.and_eq_true, Bool.not_eq_true', Bool.or_eq_true, bne_iff_ne, ne_eq] at hf
  obtain ⟨⟨hloc', harg'⟩, ⟨⟨hnat, hnglob⟩, hplus⟩, hpath⟩ := hf
  have hloc : 0 ∉ p.loc := no_nul hloc'
  have harg : 0 ∉ p.arg := no_nul harg'
  have hpf : pathHandler hd = true → ∀ sp, PathFits ed p.arg sp := fun hph => pathFits_handler hpath hl hph ed
  by_cases c14 : hd = "ec_edit"
  · subst c14
    obtain ⟨hp1, hp2⟩ := plusOf_sublist p.arg
    refine run_edit k h _ _ _ _ ?_ ?_
    · rcases hpath with hp' | hp'
      · cases hp'
      · exact pathFits_plain ed _ false (fun c hc => plainArg_iff hp' c (hp2.subset hc))
          (Nat.lt_of_le_of_lt hp2.length_le hl)
    · intro hpl
      rcases hplus with hq | hq
      · exact absurd rfl hq
      · simp only [beq_iff_eq] at hpl; exact absurd hpl hq
  by_cases c19 : hd = "ec_quit"
  · subst c19; exact run_quit (k + 1) h _ _ _ _ (hpf rfl true)
  by_cases c20 : hd = "ec_buffer"
  · subst c20; exact run_buffer (k + 1) h _ _ _ _
  refine (runCmd_local k h hd ⟨hnat, hnglob, c14, c19, c20⟩ _ _ _ txt hloc harg ?_).ret
  intro hh
  exact hpf (by rcases hh with rfl | rfl | rfl <;> rfl) true

theorem class_cut {X : Nat → Bytes → Bool} {c : Parsed → Bool}
    (hX : ∀ n ln, X (n + 1) ln = (ln.isEmpty || (c (parse1 ln) && X n (restOf ln)))) {g : Nat} {ln : Bytes}
    (hne : ¬ ln.isEmpty = true) (hq : ln.length < 1000 ∧ X (g + 1) ln = true) :
    (c (parse1 ln) = true ∧ (parse1 ln).arg.length < 1000) ∧ (restOf ln).length < 1000 ∧ X g (restOf ln) = true := by
  have hfl := hq.2
  rw [hX, Bool.or_eq_true, Bool.and_eq_true] at hfl
  exact ⟨⟨(hfl.resolve_left hne).1, Nat.lt_of_le_of_lt (parse1_arg_sublist ln).length_le hq.1⟩,
    Nat.lt_of_le_of_lt (restOf_sublist ln).length_le hq.1, (hfl.resolve_left hne).2⟩

theorem cmds_flat (k d g : Nat) {ed : Ed} (ln : Bytes) (ret : Int) (h : Safe ed) (hd : ed.atDepth = d)
    (hlen : ln.length < 1000) (hfl : flatLine g ln = true) : Ret d (exExec.cmds (k + 2) g ed ln ret) := by
  refine cmds_ret (k + 2) d (fun g ln => ln.length < 1000 ∧ flatLine g ln = true)
    (fun _ _ hne hq => (class_cut (fun _ _ => rfl) hne hq).2) ?_ g ln ret h hd ⟨hlen, hfl⟩
  intro g ed ln a hh txt h hd hq hne hi
  subst hd
  obtain ⟨⟨hc, hl⟩, _⟩ := class_cut (c := flatCmd) (fun _ _ => rfl) hne hq
  exact runCmd_flat k h (parse1 ln) a hh hi hc hl txt

/-- **a flat line never traps**: from every safe state, with every fuel `≥ 3` -/
theorem exec_flat (k : Nat) {ed : Ed} (h : Safe ed) (ln : Bytes) (hfl : flatLine (ln.length + 1) ln = true) :
    Ret ed.atDepth (exExec (k + 3) ed ln) := by
  by_cases hlong : ln.length ≥ Gen.EXLEN
  · exact exExec_long (k + 2) h hlong
  · rw [exExec, if_neg hlong]
    exact cmds_flat k ed.atDepth (ln.length + 1) ln 0 h rfl (by rw [exlen_eq] at hlong; omega) hfl

end Neatvi.Lemmas.C05e
