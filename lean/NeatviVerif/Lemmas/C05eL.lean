import NeatviVerif.Lemmas.C05eQ
import NeatviVerif.Props.C02
/-!
# C05e lemmas, part L: a round of the `ex()` loop on a covered line, `ex_init`
-/
namespace Neatvi.Lemmas.C05e
open Neatvi Neatvi.Lbuf Neatvi.LbufIo Neatvi.Ex Neatvi.Rset Neatvi.Lemmas.C06b
open Neatvi.Lemmas.ExFrame Neatvi.Lemmas.C02Ex Neatvi.Lemmas.C02b Neatvi.Lemmas.C06

/-- a command line the theorems cover with the fuel of the `ex()` loop: flat; or flat commands mixed with `:g` over
    local flat command lists; or plain with `4 * nest l + 4 ≤ FUEL` (at most 49 `+`) -/
def LineOk (l : Bytes) : Prop :=
  flatLine (l.length + 1) l = true ∨ gflatLine (l.length + 1) l = true ∨ (Plain l ∧ 4 * nest l + 4 ≤ FUEL)

theorem command_ok {ed : Ed} (h : Safe ed) (hd : ed.atDepth = 0) (l : Bytes) (hl : LineOk l) :
    Ret 0 (exCommand FUEL ed l) := by
  rcases hl with hfl | hfl | ⟨hp, hn⟩
  · have := exec_flat (FUEL - 4) h l hfl
    rw [hd] at this
    exact exCommand_of_exec this
  · have := exec_gflat (FUEL - 7) h l hfl
    rw [hd] at this
    exact exCommand_of_exec this
  · have := command_ret lineCond_plain FUEL l h hp (by unfold need; rw [hd]; simp only [Nat.mul_zero, Nat.add_zero]; omega)
    rw [hd] at this
    exact this

/-- **one round of the `ex()` loop** on a covered line: it returns, in a safe state -/
theorem step_ok {ed : Ed} (h : Safe ed) (hd : ed.atDepth = 0) (l : Bytes) (rest : List Bytes) (hin : ed.input = l :: rest)
    (hl : LineOk l) : ∃ r ed', exStep ed = some (r, ed') ∧ Safe ed' ∧ ed'.atDepth = 0 := by
  unfold exStep
  rw [hin]
  dsimp only
  obtain ⟨r, ed1, he, h1, hd1⟩ := command_ok (ed := { ed with input := rest, out := [], msg := [], calls := 0, fired := 0 })
    (h.of_bufs rfl) hd l hl
  rw [he]
  exact ⟨_, _, rfl, h1.of_bufs rfl, hd1⟩

theorem escape_id : ∀ (p : Bytes), (∀ c ∈ p, c ≠ 32 ∧ c ≠ 37 ∧ c ≠ 35 ∧ c ≠ 61) →
    p.flatMap (fun c => if c == 32 || c == 37 || c == 35 || c == 61 then [92, c] else [c]) = p := by
  intro p
  induction p with
  | nil => intro _; rfl
  | cons c r ih =>
    intro h
    have hc := h c (by simp)
    rw [List.flatMap_cons, ih (fun x hx => h x (by simp [hx]))]
    rw [if_neg (by simp [hc.1, hc.2.1, hc.2.2.1, hc.2.2.2])]
    rfl

/-- the file name `ex_init` is given: none, or one without blank, `%`, `#`, `=`, NUL, not starting with `+`, shorter than
    the path buffer -/
def NameOk (files : List Bytes) : Prop :=
  match files with
  | [] => True
  | p :: _ => (∀ c ∈ p, c ≠ 32 ∧ c ≠ 37 ∧ c ≠ 35 ∧ c ≠ 61) ∧ p.headD 0 ≠ 43 ∧ p.length < 1000

/-- **`ex_init`** from the empty buffer table: it returns, and leaves a safe state -/
theorem init_ok (ed0 : Ed) (files : List Bytes) (h0 : ed0.bufs = List.replicate Gen.NBUFS none) (hk : 0 ∉ ed0.xkwd)
    (hd : ed0.atDepth = 0) (hn : NameOk files) : ∃ rc ed1, exInit ed0 files = some (rc, ed1) ∧ Safe ed1 ∧ ed1.atDepth = 0 := by
  have hpre : Pre ed0 := ⟨by unfold EdInv; rw [h0]; exact tabInv_replicate _, by rw [h0]; simp [Gen.NBUFS], hk⟩
  have hcur : ed0.cur = none := by
    unfold Ed.cur; rw [h0]; rfl
  have key : ∀ arg : Bytes, (∀ c ∈ arg, c ≠ 32 ∧ c ≠ 37 ∧ c ≠ 35 ∧ c ≠ 61) → arg.headD 0 ≠ 43 → arg.length < 1000 →
      ∃ rc ed1, ecEdit FUEL ed0 (strOf "e") arg = some (rc, ed1) ∧ Safe ed1 ∧ ed1.atDepth = 0 := by
    intro arg ha hplus hlen
    have hdw : arg.dropWhile (· == 32) = arg := by
      cases arg with
      | nil => rfl
      | cons c r =>
        have := (ha c (by simp)).1
        simp [this]
    have hpl : plusOf arg = ([], arg) := by
      unfold plusOf
      dsimp only
      rw [hdw, if_neg (by simpa using hplus)]
    have := ecEdit_init (FUEL - 1) hpre hcur (strOf "e") arg
      (by rw [hpl]; exact fun c hc => ⟨(ha c hc).2.1, (ha c hc).2.2.1, (ha c hc).2.2.2⟩) (by rw [hpl]; exact hlen)
      (by rw [hpl]; intro hp; simp at hp)
    obtain ⟨rc, ed1, he, h1, hd1⟩ := this
    exact ⟨rc, ed1, he, h1, by rw [hd1, hd]⟩
  unfold exInit
  cases files with
  | nil => exact key [] (by intro c hc; cases hc) (by decide) (by decide)
  | cons p rest =>
    obtain ⟨hp1, hp2, hp3⟩ := hn
    dsimp only
    rw [escape_id p hp1]
    exact key p hp1 hp2 hp3

end Neatvi.Lemmas.C05e
