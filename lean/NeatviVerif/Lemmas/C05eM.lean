import NeatviVerif.Lemmas.C05eH
/-!
# C05e lemmas, part M: the step budget of the `:g` scan suffices unless the command list adds marks

`markCnt dep ed`: the number of lines of the *current* buffer that carry the mark of depth `dep`.  Every round of the
scan that does not end it clears one mark; so the scan ends within `markCnt + 2` rounds when the command list it runs
never raises that number.  At the start of a scan the number is at most the length of the buffer (`glob` is as
long as `lines` in a buffer built by the lbuf API), far below the budget `4 (len + 4)² + 64` of the model.
(The number can rise when the command list switches to a buffer in which an earlier `:g` left marks: that is the one way
the budget is exceeded in the model — the C loop ends all the same.)
-/
namespace Neatvi.Lemmas.C05e
open Neatvi Neatvi.Lbuf Neatvi.LbufIo Neatvi.Ex Neatvi.Rset
open Neatvi.Lemmas.ExFrame Neatvi.Lemmas.C02Ex Neatvi.Lemmas.C02b Neatvi.Lemmas.C06 Neatvi.Props.C01
open Neatvi.Lemmas.C05d (globStep)

theorem goodLb_globLen {lb : Lb} (h : GoodLb lb) : Props.C15.GlobLen lb := by
  obtain ⟨d, hr⟩ := h
  induction hr with
  | make => exact Props.C15.make_globLen
  | edit buf b e _ he ih => exact Props.C15.edit_globLen he ih
  | undo _ hu ih => exact (C15b.undo_carry (S := fun _ => False) hu ih).globLen
  | redo _ hu ih => exact (C15b.redo_carry (S := fun _ => False) hu ih).globLen
  | bump _ ih => exact ih
  | saved _ ih => exact ih
  | savedClear _ ih => exact ih
  | partialWrite _ ih => exact ih
  | setMark c p o _ ih => exact (C15b.setMark_carry (S := fun _ => False) c p o ih).globLen
  | globSet pos dep _ ih => exact (C15b.globSet_carry (S := fun _ => False) pos dep (fun _ h => h.elim) ih).globLen
  | globGet pos dep _ ih => exact (C15b.globGet_carry (S := fun _ => False) pos dep (fun _ h => h.elim) ih).globLen

theorem countP_set {α : Type} (p : α → Bool) : ∀ (l : List α) (i : Nat) (hi : i < l.length) (y : α),
    (l.set i y).countP p + (if p l[i] then 1 else 0) = l.countP p + (if p y then 1 else 0) := by
  intro l
  induction l with
  | nil => intro i hi; simp at hi
  | cons a l ih =>
    intro i hi y
    cases i with
    | zero =>
      simp only [List.set_cons_zero, List.getElem_cons_zero, List.countP_cons]
      omega
    | succ i =>
      simp only [List.length_cons] at hi
      have := ih i (by omega) y
      simp only [List.set_cons_succ, List.getElem_cons_succ, List.countP_cons]
      omega

theorem mask_clears (dep : Nat) (h : dep ≤ 7) (x : Nat) : hasBit dep (x &&& ((255 : Nat) ^^^ (1 <<< dep))) = false := by
  unfold hasBit
  have hm : ((255 : Nat) ^^^ (1 <<< dep)) &&& (1 <<< dep) = 0 := by
    have : dep = 0 ∨ dep = 1 ∨ dep = 2 ∨ dep = 3 ∨ dep = 4 ∨ dep = 5 ∨ dep = 6 ∨ dep = 7 := by omega
    rcases this with rfl | rfl | rfl | rfl | rfl | rfl | rfl | rfl <;> decide
  rw [Nat.and_assoc, hm, Nat.and_zero]
  decide

theorem globGet_cnt (lb : Lb) (pos dep : Nat) (h : dep ≤ 7) :
    cnt dep (globGet lb pos dep).2.glob ≤ cnt dep lb.glob ∧
    ((globGet lb pos dep).1 = true → cnt dep (globGet lb pos dep).2.glob + 1 ≤ cnt dep lb.glob) := by
  unfold globGet
  dsimp only
  by_cases hp : pos < lb.glob.length
  · have hc := countP_set (hasBit dep) lb.glob pos hp (lb.glob.getD pos 0 &&& ((255 : Nat) ^^^ (1 <<< dep)))
    rw [mask_clears dep h] at hc
    simp only [Bool.false_eq_true, if_false, Nat.add_zero] at hc
    have hg : lb.glob.getD pos 0 = lb.glob[pos] := by
      rw [List.getD_eq_getElem?_getD, List.getElem?_eq_getElem hp]; rfl
    unfold cnt
    constructor
    · omega
    · intro hm
      have : hasBit dep lb.glob[pos] = true := by
        unfold hasBit; rw [← hg]; exact hm
      rw [this] at hc
      simp only [if_true] at hc
      omega
  · have hs : lb.glob.set pos (lb.glob.getD pos 0 &&& ((255 : Nat) ^^^ (1 <<< dep))) = lb.glob :=
      List.set_eq_of_length_le (by omega)
    have hg : lb.glob.getD pos 0 = 0 := by
      rw [List.getD_eq_getElem?_getD, List.getElem?_eq_none (by omega)]; rfl
    rw [hs, hg]
    exact ⟨Nat.le_refl _, fun hm => by simp at hm⟩

theorem markCnt_setLb {ed : Ed} {lb0 : Lb} (h : ed.lb = some lb0) (lb : Lb) (dep : Nat) :
    markCnt dep (ed.setLb lb) = cnt dep lb.glob := by
  unfold markCnt
  rw [Lemmas.C06.setLb_lb ed lb0 lb h]

theorem len_setLb_glob {ed : Ed} {lb0 : Lb} (h : ed.lb = some lb0) (lb : Lb) (hl : lb.lines = lb0.lines) :
    (ed.setLb lb).len = ed.len := by
  unfold Ed.len
  rw [Lemmas.C06.setLb_lb ed lb0 lb h, h]
  dsimp only
  rw [hl]

theorem adv_marks (dep : Nat) (hdep : dep ≤ 7) : ∀ (h : Nat) (ed : Ed) (i : Int), 0 ≤ i → (ed.len - i).toNat + 1 ≤ h →
    markCnt dep (ecGlob.scan.adv dep h ed i).1 ≤ markCnt dep ed ∧
    ((ecGlob.scan.adv dep h ed i).2 ≥ (ecGlob.scan.adv dep h ed i).1.len ∨
      markCnt dep (ecGlob.scan.adv dep h ed i).1 + 1 ≤ markCnt dep ed) := by
  intro h
  induction h with
  | zero => intro ed i _ hf; omega
  | succ h ih =>
    intro ed i hi hf
    rw [ecGlob.scan.adv]
    split
    · rename_i hge
      exact ⟨Nat.le_refl _, Or.inl hge⟩
    · rename_i hlt
      cases hl : ed.lb with
      | none =>
        exfalso
        have : ed.len = 0 := by unfold Ed.len; rw [hl]
        omega
      | some lb =>
        dsimp only
        obtain ⟨g1, g2⟩ := globGet_cnt lb i.toNat dep hdep
        have hmc : markCnt dep ed = cnt dep lb.glob := by unfold markCnt; rw [hl]
        have hm' := markCnt_setLb hl (globGet lb i.toNat dep).2 dep
        split
        · rename_i hm
          rw [hm', hmc]
          exact ⟨g1, Or.inr (g2 hm)⟩
        · have hlen : (ed.setLb (globGet lb i.toNat dep).2).len = ed.len := len_setLb_glob hl _ rfl
          obtain ⟨a1, a2⟩ := ih (ed.setLb (globGet lb i.toNat dep).2) (i + 1) (by omega) (by rw [hlen]; omega)
          rw [hm'] at a1 a2
          rw [hmc]
          refine ⟨by omega, ?_⟩
          rcases a2 with a2 | a2
          · exact Or.inl a2
          · exact Or.inr (by omega)

/-- **the budget suffices**: the scan ends within `markCnt + 2` rounds when the command line it runs never raises the
    number of marked lines of the current buffer -/
theorem scanT_within (f : Nat) (neg : Bool) (s : Bytes) (re : RStr) (dep d : Nat) (hdep : dep ≤ 7)
    (hmu : ∀ (ed' : Ed) (i' : Int) (r : Int) (ed'' : Ed), Safe ed' → ed'.atDepth = d →
      exExec f { ed' with xrow := i' } s = some (r, ed'') → Safe ed'' ∧ ed''.atDepth = d ∧ markCnt dep ed'' ≤ markCnt dep ed') :
    ∀ (g : Nat) (ed : Ed) (i : Int), Safe ed → ed.atDepth = d → 0 ≤ i →
      ((i ≥ ed.len ∧ 1 ≤ g) ∨ markCnt dep ed + 2 ≤ g) → scanT f neg s re dep g ed i ≠ ScanRes.budget := by
  intro g
  induction g with
  | zero => intro ed i _ _ _ hg; omega
  | succ g ih =>
    intro ed i hs hd hi hg
    rw [scanT_succ]
    split
    · intro h; cases h
    · rename_i hlt
      have hg2 : markCnt dep ed + 2 ≤ g + 1 := by
        rcases hg with ⟨h1, _⟩ | h2
        · exact absurd h1 hlt
        · exact h2
      cases hsre : globStep f neg s re ed i with
      | none => intro h; cases h
      | some t =>
        obtain ⟨b, ed1, i1⟩ := t
        obtain ⟨⟨a1, a2, a3⟩, a4⟩ := globStep_post (Q := fun e => Safe e ∧ e.atDepth = d ∧ markCnt dep e ≤ markCnt dep ed)
          ⟨hs, hd, Nat.le_refl _⟩ (fun r e he => hmu ed i r e hs hd he) hsre
        cases b with
        | true => intro h; cases h
        | false =>
          dsimp only
          rw [if_neg (by omega)]
          obtain ⟨s1, s2, s3⟩ := adv_safe dep (ed1.len.toNat + 1) ed1 i1 a1 a4
          obtain ⟨m1, m2⟩ := adv_marks dep hdep (ed1.len.toNat + 1) ed1 i1 a4 (by omega)
          refine ih _ _ s1 (s2.trans a2) s3 ?_
          rcases m2 with m2 | m2
          · exact Or.inl ⟨m2, by omega⟩
          · exact Or.inr (by omega)

theorem markCnt_le_len {ed : Ed} (h : Safe ed) (dep : Nat) : markCnt dep ed ≤ ed.len.toNat := by
  obtain ⟨lb, hl, hg⟩ := h.lb
  unfold markCnt Ed.len
  rw [hl]
  dsimp only
  have h1 := cnt_le_length dep lb.glob
  have h2 : lb.glob.length = lb.lines.length := goodLb_globLen hg
  omega

theorem budget_ge (n : Nat) : n + 2 ≤ 4 * (n + 4) * (n + 4) + 64 := by
  have h1 : n ≤ 4 * (n + 4) := by omega
  have h2 : 4 * (n + 4) ≤ 4 * (n + 4) * (n + 4) := Nat.le_mul_of_pos_right _ (by omega)
  omega

/-- **`:g` with a command list that adds no marks**: no trap, no budget — the scan ends -/
theorem run_glob_marks (f : Nat) {ed : Ed} (h : Safe ed) (loc cmd arg : Bytes) (txt : Option Bytes)
    (hloc : 0 ∉ loc) (harg : 0 ∉ arg)
    (hbody : ∀ (ed' : Ed) (i' : Int), Safe ed' → ed'.atDepth = ed.atDepth →
      Ret ed.atDepth (exExec f { ed' with xrow := i' } (reRead arg).2))
    (hmu : ∀ (dep : Nat) (ed' : Ed) (i' : Int) (r : Int) (ed'' : Ed), dep ≤ 7 → Safe ed' → ed'.atDepth = ed.atDepth →
      exExec f { ed' with xrow := i' } (reRead arg).2 = some (r, ed'') → markCnt dep ed'' ≤ markCnt dep ed') :
    Ret ed.atDepth (runCmd (f + 2) ed "ec_glob" loc cmd arg txt) := by
  refine run_glob f h loc cmd arg txt hloc harg hbody ?_
  intro re dep ed0 b hs0 hd0 hdep hb
  refine scanT_within f _ _ re dep ed.atDepth hdep ?_ _ ed0 b hs0 hd0 hb (Or.inr ?_)
  · intro ed' i' r ed'' hs' hd' he
    obtain ⟨r2, ed2, he2, h2, hd2⟩ := hbody ed' i' hs' hd'
    rw [he] at he2
    cases he2
    exact ⟨h2, hd2, hmu dep ed' i' r ed'' hdep hs' hd' he⟩
  · have := markCnt_le_len hs0 dep
    have := budget_ge ed0.len.toNat
    unfold gBudget
    omega

end Neatvi.Lemmas.C05e
