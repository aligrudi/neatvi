import NeatviVerif.Lemmas.C05eA
import NeatviVerif.Lemmas.C15bCarry
/-!
# C05e lemmas, part N: the marks of `:g` — no primitive of lbuf.c adds one (only `lbuf_globset` does)

`cnt dep gl`: the number of entries of the mark table that carry the bit of depth `dep`.  `lbuf_replace` keeps the
entries of the lines it keeps and gives the lines it inserts a cleared entry; so `lbuf_edit`, `lbuf_rd`, `lbuf_undo`,
`lbuf_redo` never raise the number, for any depth.
-/
namespace Neatvi.Lemmas.C05e
open Neatvi Neatvi.Lbuf Neatvi.LbufIo Neatvi.Ex Neatvi.Props.C01

/-- the entry carries the mark of depth `dep` -/
def hasBit (dep x : Nat) : Bool := decide (x &&& (1 <<< dep) > 0)

def cnt (dep : Nat) (gl : List Nat) : Nat := gl.countP (hasBit dep)

theorem cnt_le_length (dep : Nat) (gl : List Nat) : cnt dep gl ≤ gl.length := List.countP_le_length

theorem cnt_append (dep : Nat) (a b : List Nat) : cnt dep (a ++ b) = cnt dep a + cnt dep b := List.countP_append

theorem cnt_sublist {dep : Nat} {a b : List Nat} (h : a.Sublist b) : cnt dep a ≤ cnt dep b := h.countP_le

theorem cnt_replicate_zero (dep k : Nat) : cnt dep (List.replicate k 0) = 0 := by
  unfold cnt
  rw [List.countP_eq_zero]
  intro x hx
  rw [(List.mem_replicate.mp hx).2]
  simp [hasBit]

/-- marks are only removed: the relation between the mark tables before and after -/
def GLe (g g' : List Nat) : Prop := ∀ dep, cnt dep g' ≤ cnt dep g

theorem GLe.refl (g : List Nat) : GLe g g := fun _ => Nat.le_refl _
theorem GLe.trans {a b c : List Nat} (h1 : GLe a b) (h2 : GLe b c) : GLe a c := fun d => Nat.le_trans (h2 d) (h1 d)

theorem replace_gle {lb lb' : Lb} {s : Option Bytes} {pos nDel : Nat} (hr : replace lb s pos nDel = some lb') :
    GLe lb.glob lb'.glob := by
  intro dep
  rw [Props.C15.replace_glob hr, cnt_append, cnt_append, cnt_append, cnt_replicate_zero]
  have h1 : cnt dep lb.glob = cnt dep (lb.glob.take pos) + (cnt dep ((lb.glob.drop pos).take nDel) +
      cnt dep (lb.glob.drop (pos + nDel))) := by
    have hdec : lb.glob = lb.glob.take pos ++ ((lb.glob.drop pos).take nDel ++ (lb.glob.drop pos).drop nDel) := by
      rw [List.take_append_drop, List.take_append_drop]
    conv => lhs; rw [hdec]
    rw [cnt_append, cnt_append, List.drop_drop]
  have h2 : cnt dep ((lb.glob.drop pos).take (min (Lemmas.Hist.optLines s).length nDel)) ≤ cnt dep ((lb.glob.drop pos).take nDel) :=
    cnt_sublist (List.take_sublist_take_left (Nat.min_le_right _ _))
  omega

theorem edit_gle {lb lb' : Lb} {buf : Option Bytes} {b e : Nat} (he : Lbuf.edit lb buf b e = some lb') : GLe lb.glob lb'.glob := by
  obtain ⟨_, ⟨_, _, rfl⟩ | he⟩ := Lemmas.C06.edit_cases he
  · exact GLe.refl _
  · exact replace_gle (lb := opt lb buf _ _) he

/-- `lbuf_undo` and `lbuf_redo` only remove marks: they are sequences of `lbuf_replace` -/
theorem gleRel : C15b.ReplRel (fun lb lb' => GLe lb.glob lb'.glob) :=
  .ofParts
    (refl := fun _ => GLe.refl _)
    (trans := GLe.trans)
    (repl := fun {lb _ u _ _ _ _} _ _ hr => replace_gle (lb := { lb with histU := u }) hr)
    (pos := fun _ _ => GLe.refl _)
    (marks := fun lb e => by rw [C15b.loadMarks_glob]; exact GLe.refl _)

/-- the number of lines of the current buffer that carry the mark of depth `dep` -/
def markCnt (dep : Nat) (ed : Ed) : Nat := match ed.lb with | some lb => cnt dep lb.glob | none => 0

/-- no mark of the current buffer was added -/
def MLe (ed ed' : Ed) : Prop := ∀ dep, markCnt dep ed' ≤ markCnt dep ed

theorem MLe.refl (ed : Ed) : MLe ed ed := fun _ => Nat.le_refl _
theorem MLe.trans {a b c : Ed} (h1 : MLe a b) (h2 : MLe b c) : MLe a c := fun d => Nat.le_trans (h2 d) (h1 d)

theorem MLe.of_lb {ed ed' : Ed} (h : ed'.lb = ed.lb) : MLe ed ed' := by
  intro dep; unfold markCnt; rw [h]; exact Nat.le_refl _

theorem MLe.of_bufs {ed ed' : Ed} (h : ed'.bufs = ed.bufs) : MLe ed ed' := MLe.of_lb (Lemmas.ExFrame.lb_of_bufs h)

theorem MLe.setLb {ed : Ed} {lb0 lb : Lb} (h : ed.lb = some lb0) (hg : GLe lb0.glob lb.glob) : MLe ed (ed.setLb lb) := by
  intro dep
  unfold markCnt
  rw [Lemmas.C06.setLb_lb ed lb0 lb h, h]
  exact hg dep

theorem MLe.setLb_same {ed : Ed} {lb0 lb : Lb} (h : ed.lb = some lb0) (hg : lb.glob = lb0.glob) : MLe ed (ed.setLb lb) :=
  MLe.setLb h (by rw [hg]; exact GLe.refl _)

theorem edit_mle {ed ed' : Ed} {s : Option Bytes} {b e : Int} (he : ed.edit s b e = some ed') : MLe ed ed' := by
  obtain ⟨_, _, lb, lb', hlb, hed, rfl, _⟩ := Lemmas.ExFrame.Ed_edit_some he
  exact MLe.setLb hlb (edit_gle hed)

theorem region_mle {ed ed' : Ed} {loc : Bytes} {x : Nat × Int × Int} (hr : exRegion ed loc = some (x, ed')) : MLe ed ed' :=
  MLe.of_bufs (Lemmas.ExFrame.exRegion_bufs hr)

end Neatvi.Lemmas.C05e
