import NeatviVerif.Lemmas.C05eD
import NeatviVerif.Lemmas.C05eM
import NeatviVerif.Lemmas.C05eK
/-!
# C05e lemmas, part Q: `:g` over a command list that acts on the current buffer — no trap, no hypothesis left

A *local* flat line: every command is flat and its handler acts on the current buffer only (not `:e`, `:b`, `:q` and
relatives).  Such a line returns and adds no mark (`exec_lflat`), so a `:g` whose command list is one ends within its
budget (`run_glob_lflat`).  `gflatLine`: flat commands and such `:g` commands mixed.
-/
namespace Neatvi.Lemmas.C05e
open Neatvi Neatvi.Lbuf Neatvi.LbufIo Neatvi.Ex Neatvi.Rset Neatvi.Lemmas.C06b
open Neatvi.Lemmas.ExFrame Neatvi.Lemmas.C02Ex Neatvi.Lemmas.C02b Neatvi.Lemmas.C06

/-- the handler acts on the current buffer only and runs no command line -/
def localHandler (hd : String) : Bool :=
  hd != "ec_at" && hd != "ec_glob" && hd != "ec_edit" && hd != "ec_quit" && hd != "ec_buffer"

/-- a flat command with a local handler -/
def lflatCmd (p : Parsed) : Bool :=
  !p.loc.contains 0 && !p.arg.contains 0 &&
  match p.idx with
  | none => true
  | some (_, hd) => localHandler hd && (!pathHandler hd || plainArg p.arg)

def lflatLine : Nat → Bytes → Bool
  | 0, _ => true
  | n + 1, ln => ln.isEmpty || (lflatCmd (parse1 ln) && lflatLine n (restOf ln))

theorem runCmd_lflat (k : Nat) {ed : Ed} (h : Safe ed) (p : Parsed) (a : Bytes) (hd : String) (hi : p.idx = some (a, hd))
    (hf : lflatCmd p = true) (hl : p.arg.length < 1000) (txt : Option Bytes) :
    RetM ed (runCmd (k + 2) ed hd p.loc p.cmd p.arg txt) := by
  unfold lflatCmd at hf
  rw [hi] at hf
  unfold localHandler at hf
  simp only [Bool.and_eq_true, Bool.not_eq_true', Bool.or_eq_true, bne_iff_ne, ne_eq] at hf
  obtain ⟨⟨hloc', harg'⟩, ⟨⟨⟨⟨hnat, hnglob⟩, hnedit⟩, hnquit⟩, hnbuf⟩, hpath⟩ := hf
  have hloc : 0 ∉ p.loc := no_nul hloc'
  have harg : 0 ∉ p.arg := no_nul harg'
  have hpf : pathHandler hd = true → ∀ sp, PathFits ed p.arg sp := fun hph => pathFits_handler hpath hl hph ed
  refine runCmd_local k h hd ⟨hnat, hnglob, hnedit, hnquit, hnbuf⟩ _ _ _ txt hloc harg ?_
  intro hh
  exact hpf (by rcases hh with rfl | rfl | rfl <;> rfl) true

theorem cmds_lflat (k g : Nat) {ed : Ed} (ln : Bytes) (ret : Int) (h : Safe ed) (hlen : ln.length < 1000)
    (hfl : lflatLine g ln = true) : RetM ed (exExec.cmds (k + 2) g ed ln ret) := by
  refine cmds_retM (k + 2) (fun g ln => ln.length < 1000 ∧ lflatLine g ln = true)
    (fun _ _ hne hq => (class_cut (fun _ _ => rfl) hne hq).2) ?_ g ln ret h ⟨hlen, hfl⟩
  intro g ed ln a hh txt h hq hne hi
  obtain ⟨⟨hc, hl⟩, _⟩ := class_cut (c := lflatCmd) (fun _ _ => rfl) hne hq
  exact runCmd_lflat k h (parse1 ln) a hh hi hc hl txt

theorem exec_lflat (k : Nat) {ed : Ed} (h : Safe ed) (ln : Bytes) (hfl : lflatLine (ln.length + 1) ln = true) :
    RetM ed (exExec (k + 3) ed ln) := by
  by_cases hlong : ln.length ≥ Gen.EXLEN
  · rw [exExec, if_pos hlong]
    exact RetM.mk (h.show _) rfl (MLe.of_bufs rfl)
  · rw [exExec, if_neg hlong]
    exact cmds_lflat k (ln.length + 1) ln 0 h (by rw [exlen_eq] at hlong; omega) hfl

theorem run_glob_lflat (k : Nat) {ed : Ed} (h : Safe ed) (loc cmd arg : Bytes) (txt : Option Bytes)
    (hloc : 0 ∉ loc) (harg : 0 ∉ arg) (hfl : lflatLine ((reRead arg).2.length + 1) (reRead arg).2 = true) :
    Ret ed.atDepth (runCmd (k + 5) ed "ec_glob" loc cmd arg txt) := by
  refine run_glob_marks (k + 3) h loc cmd arg txt hloc harg ?_ ?_
  · intro ed' i' hs' hd'
    obtain ⟨r, ed2, he, hs2, hd2, _⟩ := exec_lflat k (ed := { ed' with xrow := i' }) (hs'.of_bufs rfl) _ hfl
    exact ⟨r, ed2, he, hs2, hd2.trans hd'⟩
  · intro dep ed' i' r ed'' _ hs' _ he
    obtain ⟨r2, ed2, he2, _, _, hm⟩ := exec_lflat k (ed := { ed' with xrow := i' }) (hs'.of_bufs rfl) _ hfl
    rw [he] at he2
    cases he2
    exact Nat.le_trans (hm dep) ((MLe.of_bufs (ed := ed') (ed' := { ed' with xrow := i' }) rfl) dep)

/-- a flat command, or a command of the `:g` family whose command list is a local flat line -/
def gflatCmd (p : Parsed) : Bool :=
  flatCmd p ||
  (match p.idx with
   | some (_, hd) => hd == "ec_glob" && !p.loc.contains 0 && !p.arg.contains 0 &&
       lflatLine ((reRead p.arg).2.length + 1) (reRead p.arg).2
   | none => false)

def gflatLine : Nat → Bytes → Bool
  | 0, _ => true
  | n + 1, ln => ln.isEmpty || (gflatCmd (parse1 ln) && gflatLine n (restOf ln))

theorem runCmd_gflat (k : Nat) {ed : Ed} (h : Safe ed) (p : Parsed) (a : Bytes) (hd : String) (hi : p.idx = some (a, hd))
    (hf : gflatCmd p = true) (hl : p.arg.length < 1000) (txt : Option Bytes) :
    Ret ed.atDepth (runCmd (k + 5) ed hd p.loc p.cmd p.arg txt) := by
  unfold gflatCmd at hf
  rw [Bool.or_eq_true] at hf
  rcases hf with hf | hf
  · exact runCmd_flat (k + 3) h p a hd hi hf hl txt
  · rw [hi] at hf
    simp only [Bool.and_eq_true, beq_iff_eq, Bool.not_eq_true'] at hf
    obtain ⟨⟨⟨hg, hloc'⟩, harg'⟩, hbody⟩ := hf
    have hloc : 0 ∉ p.loc := no_nul hloc'
    have harg : 0 ∉ p.arg := no_nul harg'
    subst hg
    exact run_glob_lflat k h p.loc p.cmd p.arg txt hloc harg hbody

theorem cmds_gflat (k d g : Nat) {ed : Ed} (ln : Bytes) (ret : Int) (h : Safe ed) (hd : ed.atDepth = d)
    (hlen : ln.length < 1000) (hfl : gflatLine g ln = true) : Ret d (exExec.cmds (k + 5) g ed ln ret) := by
  refine cmds_ret (k + 5) d (fun g ln => ln.length < 1000 ∧ gflatLine g ln = true)
    (fun _ _ hne hq => (class_cut (fun _ _ => rfl) hne hq).2) ?_ g ln ret h hd ⟨hlen, hfl⟩
  intro g ed ln a hh txt h hd hq hne hi
  subst hd
  obtain ⟨⟨hc, hl⟩, _⟩ := class_cut (c := gflatCmd) (fun _ _ => rfl) hne hq
  exact runCmd_gflat k h (parse1 ln) a hh hi hc hl txt

/-- **a line of flat commands and `:g` over local flat command lists never traps**: every fuel `≥ 6` -/
theorem exec_gflat (k : Nat) {ed : Ed} (h : Safe ed) (ln : Bytes) (hfl : gflatLine (ln.length + 1) ln = true) :
    Ret ed.atDepth (exExec (k + 6) ed ln) := by
  by_cases hlong : ln.length ≥ Gen.EXLEN
  · exact exExec_long (k + 5) h hlong
  · rw [exExec, if_neg hlong]
    exact cmds_gflat k ed.atDepth (ln.length + 1) ln 0 h rfl (by rw [exlen_eq] at hlong; omega) hfl

end Neatvi.Lemmas.C05e
