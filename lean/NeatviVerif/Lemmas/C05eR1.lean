import NeatviVerif.Lemmas.Basics
import NeatviVerif.Props.C11
import NeatviVerif.Props.C10
import NeatviVerif.Model.Rset
import NeatviVerif.Lemmas.C12Simple
/-!
# C05e lemmas, part R1: `regcomp` never traps on the patterns `rstr_make` hands it

`rset_make` wraps the pattern as `((pat))`.  The two traps of the parser — a backslash as the last byte
(`ratom_read` loops on the terminator) and `{` with nothing after the bounds (`++*pat` steps over the terminator)
— need the pattern text to *end* where they look; a text that ends in `)` and holds no NUL byte never does.  The
fuel of the recursive descent (`4 * length + 8`) suffices: every nested call consumes a byte.
-/
namespace Neatvi.Lemmas.C05e
open Neatvi Neatvi.Uc Neatvi.Regex Neatvi.Rset

/-- the text ends in `)` -/
def EndP (p : Bytes) : Prop := p.getLast? = some 41

theorem EndP.ne_nil {p : Bytes} (h : EndP p) : p ≠ [] := by
  intro h0; rw [h0] at h; cases h

theorem EndP.of_suffix {p r : Bytes} (h : EndP p) (hs : r <:+ p) (hr : r ≠ []) : EndP r := by
  obtain ⟨t, rfl⟩ := hs
  unfold EndP at h ⊢
  rw [List.getLast?_append] at h
  cases hl : r.getLast? with
  | none => exact absurd (List.getLast?_eq_none_iff.mp hl) hr
  | some x => rw [hl] at h; simpa using h

theorem EndP.tail {c : Nat} {r : Bytes} (h : EndP (c :: r)) (hc : c ≠ 41) : EndP r := by
  have hr : r ≠ [] := by
    intro h0; rw [h0] at h; simp [EndP] at h; exact hc h
  exact h.of_suffix (List.suffix_cons c r) hr

theorem EndP.drop1 {p : Bytes} (h : EndP p) (hc : p.headD 0 ≠ 41) : EndP (p.drop 1) := by
  cases p with
  | nil => exact absurd rfl h.ne_nil
  | cons c r => exact h.tail hc

def GoodP (p : Bytes) : Prop := p = [] ∨ EndP p

theorem GoodP.of_suffix {p r : Bytes} (h : GoodP p) (hs : r <:+ p) : GoodP r := by
  by_cases hr : r = []
  · exact Or.inl hr
  · rcases h with h | h
    · subst h; exact absurd (List.suffix_nil.mp hs) hr
    · exact Or.inr (h.of_suffix hs hr)

theorem readDigits_suffix : ∀ (p : Bytes) (v : Int), (readDigits p v).2 <:+ p :=
  Props.C11.readDigits_suffix

theorem readDigits_endP : ∀ (p : Bytes) (v : Int), EndP p → EndP (readDigits p v).2 := by
  intro p
  induction p with
  | nil => intro v h; exact absurd rfl h.ne_nil
  | cons c r ih =>
    intro v h
    rw [readDigits]
    split
    · rename_i hd
      simp only [Bool.and_eq_true, decide_eq_true_eq] at hd
      exact ih _ (h.tail (by omega))
    · exact h

theorem readRep_total (n : RNode) {p : Bytes} (h : GoodP p) : ∃ n' r, readRep n p = some (n', r) ∧ r <:+ p := by
  unfold readRep
  dsimp only
  generalize hq1 : (if (p.headD 0 == 42) = true then (setRep n 0 (-1), p.drop 1)
      else if (p.headD 0 == 63) = true then (setRep n 0 1, p.drop 1) else (n, p)) = q1
  have h1 : q1.2 <:+ p := by
    rw [← hq1]; split
    · exact List.drop_suffix 1 p
    · split
      · exact List.drop_suffix 1 p
      · exact List.suffix_refl _
  obtain ⟨n1, p1⟩ := q1
  dsimp only at h1 ⊢
  generalize hq2 : (if (p1.headD 0 == 43) = true then (setRep n1 1 (-1), p1.drop 1) else (n1, p1)) = q2
  have h2 : q2.2 <:+ p1 := by
    rw [← hq2]; split
    · exact List.drop_suffix 1 p1
    · exact List.suffix_refl _
  obtain ⟨n2, p2⟩ := q2
  dsimp only at h2 ⊢
  have hg2 : GoodP p2 := h.of_suffix (h2.trans h1)
  split
  · rename_i hb
    simp only [beq_iff_eq] at hb
    have he2 : EndP p2 := by
      rcases hg2 with h0 | h0
      · rw [h0] at hb; simp at hb
      · exact h0
    have he3 : EndP (p2.drop 1) := he2.drop1 (by rw [hb]; decide)
    have he4 := readDigits_endP (p2.drop 1) 0 he3
    have hs4 : (readDigits (p2.drop 1) 0).2 <:+ p := ((readDigits_suffix _ _).trans (List.drop_suffix 1 p2)).trans (h2.trans h1)
    generalize readDigits (p2.drop 1) 0 = d1 at he4 hs4
    obtain ⟨mn, p3⟩ := d1
    dsimp only at he4 hs4 ⊢
    generalize hq5 : (if (p3.headD 0 == 44) = true then
        readDigits (p3.drop 1) (if ((p3.drop 1).headD 0 == 125) = true then -1 else 0) else (mn, p3)) = q5
    have h5 : EndP q5.2 ∧ q5.2 <:+ p := by
      rw [← hq5]; split
      · rename_i hc
        simp only [beq_iff_eq] at hc
        exact ⟨readDigits_endP _ _ (he4.drop1 (by rw [hc]; decide)),
          ((readDigits_suffix _ _).trans (List.drop_suffix 1 p3)).trans hs4⟩
      · exact ⟨he4, hs4⟩
    obtain ⟨mx, p4⟩ := q5
    dsimp only at h5 ⊢
    cases p4 with
    | nil => exact absurd rfl h5.1.ne_nil
    | cons x p' =>
      dsimp only
      split
      · exact ⟨_, _, rfl, (List.suffix_cons _ _).trans h5.2⟩
      · exact ⟨_, _, rfl, (List.suffix_cons _ _).trans h5.2⟩
  · exact ⟨_, _, rfl, h2.trans h1⟩

theorem rdb_some (p : Bytes) (i : Nat) (h : i ≤ p.length) : ∃ c, rdb p i = some c ∧ (i < p.length → c = p.getD i 0) ∧
    (i = p.length → c = 0) := by
  unfold rdb
  by_cases hlt : i < p.length
  · rw [if_pos hlt]
    refine ⟨p[i], List.getElem?_eq_getElem hlt, fun _ => ?_, fun he => by omega⟩
    rw [List.getD_eq_getElem?_getD, List.getElem?_eq_getElem hlt]; rfl
  · rw [if_neg hlt, if_pos (by omega)]
    exact ⟨0, rfl, fun h' => absurd h' hlt, fun _ => rfl⟩

theorem isSpecial_zero : isSpecial 0 = true := by decide

theorem litLoop_from (p : Bytes) : ∀ (f i : Nat), 1 ≤ i → i ≤ p.length → p.length - i + 1 ≤ f →
    ∃ n, litLoop p f i = some n ∧ i ≤ n ∧ n ≤ p.length := by
  intro f
  induction f with
  | zero => intro i _ _ hf; omega
  | succ f ih =>
    intro i hi1 hil hf
    rw [litLoop]
    obtain ⟨c, hc, hc1, hc2⟩ := rdb_some p i hil
    rw [hc]
    dsimp only
    by_cases hsp : isSpecial c = true
    · rw [if_neg (by simp [hsp]; omega)]
      exact ⟨i, rfl, Nat.le_refl _, hil⟩
    · rw [if_pos (by simp [hsp])]
      have hlt : i < p.length := by
        rcases Nat.lt_or_ge i p.length with h | h
        · exact h
        · have := hc2 (by omega); rw [this] at hsp; exact absurd isSpecial_zero hsp
      have hcne : c ≠ 0 := fun h0 => by rw [h0] at hsp; exact hsp isSpecial_zero
      have hl1 : 1 ≤ rxLen p i := by
        unfold rxLen
        rw [← hc1 hlt]
        have := C12.ucLen_pos (c := c) (by omega)
        omega
      have hl2 : i + rxLen p i ≤ p.length := by unfold rxLen; omega
      rw [if_neg (by simp; omega)]
      rw [if_pos (by simp; omega)]
      obtain ⟨nx, hnx, _⟩ := rdb_some p (i + rxLen p i) hl2
      rw [hnx]
      dsimp only
      split
      · exact ⟨i, rfl, Nat.le_refl _, hil⟩
      · obtain ⟨n, hn, h1, h2⟩ := ih (i + rxLen p i) (by omega) hl2 (by omega)
        exact ⟨n, hn, by omega, h2⟩

theorem litLoop_total (p : Bytes) (hp : p ≠ []) (h0 : p.headD 0 ≠ 0) :
    ∃ n, litLoop p (p.length + 2) 0 = some n ∧ 1 ≤ n ∧ n ≤ p.length := by
  rw [litLoop]
  have hlen : 0 < p.length := by cases p with | nil => exact absurd rfl hp | cons _ _ => simp
  obtain ⟨c, hc, hc1, _⟩ := rdb_some p 0 (Nat.zero_le _)
  rw [hc]
  dsimp only
  have hc0 : c = p.headD 0 := by
    rw [hc1 hlen]; cases p with | nil => rfl | cons _ _ => rfl
  have hl1 : 1 ≤ rxLen p 0 := by
    unfold rxLen
    have : p.getD 0 0 = p.headD 0 := by cases p with | nil => rfl | cons _ _ => rfl
    rw [this]
    have := C12.ucLen_pos (c := p.headD 0) (by omega)
    omega
  have hl2 : rxLen p 0 ≤ p.length := by unfold rxLen; omega
  rw [if_pos (by simp)]
  rw [if_neg (by simp; omega)]
  simp only [bne_self_eq_false, Bool.false_eq_true, if_false, Bool.false_and]
  obtain ⟨n, hn, h1, h2⟩ := litLoop_from p (p.length + 1) (0 + rxLen p 0) (by omega) (by omega) (by omega)
  exact ⟨n, hn, by omega, h2⟩

theorem brkLenLoop_ge (s : Bytes) : ∀ (f n : Nat), n ≤ brkLenLoop s f n := by
  intro f
  induction f with
  | zero => intro n; rw [brkLenLoop]; exact Nat.le_refl _
  | succ f ih =>
    intro n
    rw [brkLenLoop]
    dsimp only
    split
    · refine Nat.le_trans ?_ (ih _)
      split
      · split <;> omega
      · split <;> omega
    · exact Nat.le_refl _

theorem brkLen_pos (s : Bytes) : 1 ≤ brkLen s := by
  unfold brkLen
  dsimp only
  have key : ∀ n0, 1 ≤ n0 → 1 ≤ brkLenLoop s (s.length + 1) n0 := fun n0 h => Nat.le_trans h (brkLenLoop_ge _ _ _)
  repeat' split
  all_goals first | exact Nat.le_succ_of_le (key _ (by omega)) | exact key _ (by omega)

theorem ratomRead_total {p : Bytes} (he : EndP p) (hnul : 0 ∉ p) :
    ∃ a r, ratomRead p = some (a, r) ∧ r <:+ p ∧ r.length < p.length := by
  cases p with
  | nil => exact absurd rfl he.ne_nil
  | cons c r =>
    have hc0 : c ≠ 0 := fun h => hnul (by simp [h])
    unfold ratomRead
    let P : Option (Atom × Bytes) → Prop := fun x => ∃ a r', x = some (a, r') ∧ r' <:+ c :: r ∧ r'.length < (c :: r).length
    have lit : ∀ (q : Bytes) (k : Nat), q ≠ [] → q.headD 0 ≠ 0 → q.length + k = (c :: r).length → q <:+ c :: r →
        P ((litLoop q (q.length + 2) 0).map (fun n => (⟨AK.chr, q.take n⟩, q.drop n))) := by
      intro q k hq hq0 hk hs
      obtain ⟨n, hn, h1, h2⟩ := litLoop_total q hq hq0
      rw [hn]
      exact ⟨_, _, rfl, (List.drop_suffix n q).trans hs, by simp only [List.length_drop]; omega⟩
    show P _
    refine Basics.ite_elim (P := P) (fun _ => ⟨_, _, rfl, List.suffix_cons _ _, by simp⟩) fun _ =>
      Basics.ite_elim (P := P) (fun _ => ⟨_, _, rfl, List.suffix_cons _ _, by simp⟩) fun _ =>
      Basics.ite_elim (P := P) (fun _ => ⟨_, _, rfl, List.suffix_cons _ _, by simp⟩) fun _ =>
      Basics.ite_elim (P := P) (fun _ => ?_) fun _ => Basics.ite_elim (P := P) (fun h92 => ?_) fun _ => ?_
    · refine ⟨_, _, rfl, List.drop_suffix _ _, ?_⟩
      have : 1 ≤ brkLen (c :: r) := brkLen_pos _
      simp only [List.length_drop, List.length_cons]; omega
    · simp only [beq_iff_eq] at h92
      have hr : EndP r := he.tail (by omega)
      have hd : ((r.drop 1).length < (c :: r).length) := by simp only [List.length_drop, List.length_cons]; omega
      refine Basics.ite_elim (P := P) (fun _ => ⟨_, _, rfl, (List.drop_suffix 1 r).trans (List.suffix_cons _ _), hd⟩) fun _ =>
        Basics.ite_elim (P := P) (fun _ => ⟨_, _, rfl, (List.drop_suffix 1 r).trans (List.suffix_cons _ _), hd⟩) fun _ => ?_
      refine lit r 1 hr.ne_nil ?_ rfl (List.suffix_cons _ _)
      intro h0
      cases r with
      | nil => exact absurd rfl hr.ne_nil
      | cons x xs => simp at h0; exact hnul (by simp [h0])
    · exact lit (c :: r) 0 (by simp) (by simpa using hc0) rfl (List.suffix_refl _)

theorem headD_ne_of_nil {p : Bytes} {c : Nat} (h : p.headD 0 = c) (hc : c ≠ 0) : p ≠ [] := by
  intro h0; rw [h0] at h; exact hc h.symm

/-- all four functions of the parser return, with the fuel `4 * length + k`; what they leave is a suffix of what
    they were given, and a node that is not NULL cost at least one byte -/
theorem parse_total : ∀ (f : Nat) (p : Bytes), GoodP p → 0 ∉ p →
    (4 * p.length + 4 ≤ f → ∃ n r, parseAlt f p = some (n, r) ∧ r <:+ p) ∧
    (4 * p.length + 3 ≤ f → ∃ n r, parseSeq f p = some (n, r) ∧ r <:+ p) ∧
    (4 * p.length + 2 ≤ f → ∃ n r, parseAtom f p = some (n, r) ∧ r <:+ p ∧ (n.isSome = true → r.length < p.length)) ∧
    (4 * p.length + 1 ≤ f → p.headD 0 = 40 → ∃ n r, parseGrp f p = some (n, r) ∧ r <:+ p ∧ r.length < p.length) := by
  intro f
  induction f with
  | zero =>
    intro p _ _
    exact ⟨fun h => by omega, fun h => by omega, fun h => by omega, fun h => by omega⟩
  | succ f ih =>
    intro p hg hnul
    have nul_suffix : ∀ {r : Bytes}, r <:+ p → 0 ∉ r := fun hs h0 => hnul (hs.subset h0)
    refine ⟨?_, ?_, ?_, ?_⟩
    · -- parseAlt
      intro hf
      rw [parseAlt]
      obtain ⟨c1, p1, h1, hs1⟩ := (ih p hg hnul).2.1 (by omega)
      rw [h1]
      dsimp only
      split
      · exact ⟨_, _, rfl, hs1⟩
      · rename_i hbar
        simp only [bne_iff_ne, ne_eq, Decidable.not_not] at hbar
        have hne : p1 ≠ [] := headD_ne_of_nil hbar (by decide)
        have hl1 : (p1.drop 1).length + 1 ≤ p.length := by
          have := hs1.length_le
          have : 0 < p1.length := by cases p1 with | nil => exact absurd rfl hne | cons _ _ => simp
          simp only [List.length_drop]; omega
        have hs2 : p1.drop 1 <:+ p := (List.drop_suffix 1 p1).trans hs1
        obtain ⟨c2, p2, h2, hs3⟩ := (ih (p1.drop 1) (hg.of_suffix hs2) (nul_suffix hs2)).1 (by omega)
        rw [h2]
        cases c2 with
        | none => exact ⟨_, _, rfl, hs3.trans hs2⟩
        | some b => exact ⟨_, _, rfl, hs3.trans hs2⟩
    · -- parseSeq
      intro hf
      rw [parseSeq]
      obtain ⟨c1, p1, h1, hs1, hlt⟩ := (ih p hg hnul).2.2.1 (by omega)
      rw [h1]
      cases c1 with
      | none => exact ⟨_, _, rfl, hs1⟩
      | some n1 =>
        dsimp only
        have hl := hlt rfl
        obtain ⟨c2, p2, h2, hs2⟩ := (ih p1 (hg.of_suffix hs1) (nul_suffix hs1)).2.1 (by omega)
        rw [h2]
        cases c2 with
        | none => exact ⟨_, _, rfl, hs2.trans hs1⟩
        | some n2 => exact ⟨_, _, rfl, hs2.trans hs1⟩
    · -- parseAtom
      intro hf
      rw [parseAtom]
      split
      · exact ⟨_, _, rfl, List.suffix_refl _, fun h => by cases h⟩
      · rename_i hc
        simp only [Bool.or_eq_true, beq_iff_eq, not_or] at hc
        split
        · rename_i h40
          simp only [beq_iff_eq] at h40
          obtain ⟨n, p1, h1, hs1, hlt⟩ := (ih p hg hnul).2.2.2 (by omega) h40
          rw [h1]
          cases n with
          | none => exact ⟨_, _, rfl, hs1, fun h => by cases h⟩
          | some nd =>
            dsimp only
            obtain ⟨n', r, hr, hs2⟩ := readRep_total nd (hg.of_suffix hs1)
            rw [hr]
            exact ⟨_, _, rfl, hs2.trans hs1, fun _ => Nat.lt_of_le_of_lt hs2.length_le hlt⟩
        · have hne : p ≠ [] := headD_ne_of_nil rfl hc.1.1
          have hep : EndP p := by
            rcases hg with h0 | h0
            · exact absurd h0 hne
            · exact h0
          obtain ⟨a, p1, h1, hs1, hlt⟩ := ratomRead_total hep hnul
          rw [h1]
          dsimp only
          obtain ⟨n', r, hr, hs2⟩ := readRep_total (RNode.atom a 1 1) (hg.of_suffix hs1)
          rw [hr]
          exact ⟨_, _, rfl, hs2.trans hs1, fun _ => Nat.lt_of_le_of_lt hs2.length_le hlt⟩
    · -- parseGrp
      intro hf h40
      rw [parseGrp]
      have hne : p ≠ [] := headD_ne_of_nil h40 (by decide)
      have hlen : 0 < p.length := by cases p with | nil => exact absurd rfl hne | cons _ _ => simp
      have hs1 : p.drop 1 <:+ p := List.drop_suffix 1 p
      have hl1 : (p.drop 1).length + 1 = p.length := by simp only [List.length_drop]; omega
      split
      · obtain ⟨n, p2, h2, hs2⟩ := (ih (p.drop 1) (hg.of_suffix hs1) (nul_suffix hs1)).1 (by omega)
        rw [h2]
        cases n with
        | none => exact ⟨_, _, rfl, hs2.trans hs1, by have := hs2.length_le; omega⟩
        | some nd =>
          dsimp only
          split
          · exact ⟨_, _, rfl, hs2.trans hs1, by have := hs2.length_le; omega⟩
          · exact ⟨_, _, rfl, ((List.drop_suffix 1 p2).trans hs2).trans hs1, by
              have := hs2.length_le
              simp only [List.length_drop]; omega⟩
      · exact ⟨_, _, rfl, (List.drop_suffix 1 _).trans hs1, by simp only [List.length_drop]; omega⟩

theorem parse_combined (pat : Bytes) (hnul : 0 ∉ pat) : ∃ t, parse (combined [some pat]) = some t := by
  have hc : combined [some pat] = [40, 40] ++ pat ++ [41, 41] := by simp [combined]
  have hg : GoodP (combined [some pat]) := by
    right; rw [hc]; unfold EndP
    rw [List.getLast?_append]; rfl
  have hn : 0 ∉ combined [some pat] := by
    rw [hc]; simp; exact hnul
  obtain ⟨n, r, h, _⟩ := (parse_total (parseFuel (combined [some pat])) _ hg hn).1 (by unfold parseFuel; omega)
  unfold parse
  rw [h]
  exact ⟨_, rfl⟩

/-- **`regcomp` does not trap** on the text `rset_make` builds from a pattern without NUL -/
theorem regcomp_total (pat : Bytes) (hnul : 0 ∉ pat) (flg : Nat) : ∃ r, regcomp (combined [some pat]) flg = some r := by
  obtain ⟨t, ht⟩ := parse_combined pat hnul
  unfold regcomp
  rw [ht]
  cases t with
  | none => exact ⟨_, rfl⟩
  | some t =>
    dsimp only
    split <;> exact ⟨_, rfl⟩

theorem rstrMake_total (pat : Bytes) (hnul : 0 ∉ pat) (flg : Nat) : ∃ r, rstrMake pat flg = some r := by
  unfold rstrMake
  dsimp only
  split
  · exact ⟨_, rfl⟩
  · unfold Rset.make
    dsimp only
    obtain ⟨r, hr⟩ := regcomp_total pat hnul (1 ||| if (flg &&& RE_ICASE != 0) = true then REG_ICASE else 0)
    simp only [List.foldl_cons, List.foldl_nil]
    rw [hr]
    cases r <;> exact ⟨_, rfl⟩

end Neatvi.Lemmas.C05e
