import NeatviVerif.Lemmas.C05eR1
import NeatviVerif.Lemmas.C11bBrk
/-!
# C05e lemmas, part R2: `ratom_match` never traps at a position inside the subject

For every atom, whatever its text (bracket expressions and literals are arbitrary bytes), every subject and every
position `pos ≤ length`: the reads stay within the terminators and the loops end within their fuel.
-/
namespace Neatvi.Lemmas.C05e
open Neatvi Neatvi.Uc Neatvi.Regex Neatvi.Rset Neatvi.Props.C11

theorem ucCode_some (s : Bytes) : ∃ c, ucCode s = some c := by
  unfold ucCode
  dsimp only
  let P : Option Nat → Prop := fun x => ∃ c, x = some c
  refine Basics.ite_elim (P := P) (fun _ => ⟨_, rfl⟩) fun h1 => ?_
  have hne : s ≠ [] := by
    intro h0; rw [h0] at h1; simp [Bytes.hd] at h1
  have hlen : 1 ≤ s.length := by cases s with | nil => exact absurd rfl hne | cons _ _ => simp
  have hrd1 : ∃ b, Uc.rd s 1 = some b := by
    unfold Uc.rd
    by_cases h : 1 < s.length
    · rw [if_pos h]; exact ⟨_, List.getElem?_eq_getElem h⟩
    · rw [if_neg h, if_pos (by omega)]; exact ⟨_, rfl⟩
  obtain ⟨b1, hb1⟩ := hrd1
  rw [hb1]
  refine Basics.ite_elim (P := P) (fun _ => ⟨_, rfl⟩) fun _ => Basics.ite_elim (P := P) (fun _ => ?_) fun _ =>
    Basics.ite_elim (P := P) (fun _ => ?_) fun _ => ⟨_, rfl⟩
  · cases Uc.rd s 2 with
    | none => exact ⟨_, rfl⟩
    | some b2 => exact Basics.ite_elim (P := P) (fun _ => ⟨_, rfl⟩) fun _ => ⟨_, rfl⟩
  · cases Uc.rd s 2 with
    | none => exact ⟨_, rfl⟩
    | some b2 =>
      cases Uc.rd s 3 with
      | none => exact ⟨_, rfl⟩
      | some b3 => exact Basics.ite_elim (P := P) (fun _ => ⟨_, rfl⟩) fun _ => ⟨_, rfl⟩

theorem decAt_some (s : Bytes) (i : Nat) (h : i ≤ s.length) : ∃ c, decAt s i = some c := by
  unfold decAt
  rw [if_pos h]
  exact ucCode_some _

theorem rxLen_in (s : Bytes) (i : Nat) (hi : i ≤ s.length) : i + rxLen s i ≤ s.length := by
  unfold rxLen; omega

theorem chrIcase_no_trap (lit subj : Bytes) : ∀ (f k r : Nat), k ≤ lit.length → r ≤ subj.length →
    lit.length - k + 2 ≤ f → chrIcase lit subj f k r ≠ AR.trap := by
  intro f
  induction f with
  | zero => intro k r _ _ hf; omega
  | succ f ih =>
    intro k r hk hr hf
    rw [chrIcase]
    obtain ⟨c, hc, hc1, hc2⟩ := rdb_some lit k hk
    rw [hc]
    cases c with
    | zero => intro h; cases h
    | succ c' =>
      have hlt : k < lit.length := by
        rcases Nat.lt_or_ge k lit.length with h | h
        · exact h
        · have := hc2 (by omega); omega
      obtain ⟨c1, h1⟩ := decAt_some lit k hk
      obtain ⟨c2, h2⟩ := decAt_some subj r hr
      split
      · rename_i heq; cases heq
      · rename_i heq; cases heq
      · rw [h1, h2]
        dsimp only
        split
        · intro h; cases h
        · have hl := C12.rxLen_pos hlt (by rw [← hc1 hlt]; omega)
          exact ih _ _ (rxLen_in lit k hk) (rxLen_in subj r hr) (by omega)

theorem hit_or {c : Prop} [Decidable c] {x : BR} (hx : x ≠ BR.trap) : (if c then BR.hit else x) ≠ BR.trap :=
  Basics.ite_elim (P := (· ≠ BR.trap)) (fun _ h => by cases h) (fun _ => hx)

theorem classLoop_no_trap (cp : Bytes) (c : Nat) (icase : Bool) : ∀ (f i : Nat), i ≤ cp.length →
    cp.length - i + 2 ≤ f → classLoop cp c icase f i ≠ BR.trap := by
  intro f
  induction f with
  | zero => intro i _ hf; omega
  | succ f ih =>
    intro i hi hf
    rw [classLoop]
    obtain ⟨b0, hb, hb1, hb2⟩ := rdb_some cp i hi
    rw [hb]
    dsimp only
    refine Basics.ite_elim (P := (· ≠ BR.trap)) (fun hcond => ?_) (fun _ h => by cases h)
    have hb0 : b0 ≠ 0 := by
      intro h0; rw [h0] at hcond; simp at hcond
    have hlt : i < cp.length := by
      rcases Nat.lt_or_ge i cp.length with h | h
      · exact h
      · exact absurd (hb2 (by omega)) hb0
    obtain ⟨beg, hbeg⟩ := decAt_some cp i hi
    rw [hbeg]
    dsimp only
    have hl := C12.rxLen_pos hlt (by rw [← hb1 hlt]; exact hb0)
    have hi1 := rxLen_in cp i hi
    obtain ⟨d, hd, hd1, hd2⟩ := rdb_some cp (i + rxLen cp i) hi1
    rw [hd]
    have hnext : classLoop cp c icase f (i + rxLen cp i) ≠ BR.trap := ih _ hi1 (by omega)
    by_cases hlt1 : i + rxLen cp i < cp.length
    · obtain ⟨e, he, _, _⟩ := rdb_some cp (i + rxLen cp i + 1) (by omega)
      rw [he]
      dsimp only
      refine Basics.ite_elim (P := (· ≠ BR.trap)) (fun _ => ?_) (fun _ => hit_or hnext)
      obtain ⟨en, hen⟩ := decAt_some cp (i + rxLen cp i + 1) (by omega)
      rw [hen]
      exact hit_or (ih _ (rxLen_in cp _ (by omega)) (by omega))
    · cases hr2 : rdb cp (i + rxLen cp i + 1) with
      | none => exact hit_or hnext
      | some e =>
        dsimp only
        have hd0 : d = 0 := hd2 (by omega)
        rw [if_neg (by rw [hd0]; simp)]
        exact hit_or hnext

theorem classMatch_no_trap (cp : Bytes) (c : Nat) (icase : Bool) : classMatch cp c icase ≠ BR.trap :=
  classLoop_no_trap cp c icase _ 0 (Nat.zero_le _) (by omega)

theorem brkLoop_no_trap (p : Bytes) (c : Nat) (icase : Bool) : ∀ (f i : Nat), i ≤ p.length →
    p.length - i + 2 ≤ f → brkLoop p c icase f i ≠ BR.trap := by
  intro f
  induction f with
  | zero => intro i _ hf; omega
  | succ f ih =>
    intro i hi hf
    rw [brkLoop]
    obtain ⟨b0, hb, hb1, hb2⟩ := rdb_some p i hi
    rw [hb]
    dsimp only
    refine Basics.ite_elim (P := (· ≠ BR.trap)) (fun hcond => ?_) (fun _ h => by cases h)
    · have hb0 : b0 ≠ 0 := by
        intro h0; rw [h0] at hcond; simp at hcond
      have hlt : i < p.length := by
        rcases Nat.lt_or_ge i p.length with h | h
        · exact h
        · exact absurd (hb2 (by omega)) hb0
      refine Basics.ite_elim (P := (· ≠ BR.trap)) (fun _ => ?_) (fun _ => ?_)
      · -- a named class
        generalize hfold : Gen.brkClasses.foldl (fun (acc : BR) cl =>
            match acc with
            | BR.miss => if classNameAt p i cl.1 then classMatch cl.2 c icase else BR.miss
            | other => other) BR.miss = r
        have hr : r ≠ BR.trap := by
          rw [← hfold]
          have : ∀ (l : List (Bytes × Bytes)) (acc : BR), acc ≠ BR.trap → l.foldl (fun (acc : BR) cl =>
              match acc with
              | BR.miss => if classNameAt p i cl.1 then classMatch cl.2 c icase else BR.miss
              | other => other) acc ≠ BR.trap := by
            intro l
            induction l with
            | nil => intro acc h; exact h
            | cons cl l ihl =>
              intro acc h
              rw [List.foldl_cons]
              apply ihl
              cases acc with
              | miss =>
                dsimp only
                split
                · exact classMatch_no_trap _ _ _
                · intro h'; cases h'
              | hit => intro h'; cases h'
              | trap => exact absurd rfl h
          exact this _ _ (by intro h; cases h)
        cases r with
        | hit => intro h; cases h
        | trap => exact absurd rfl hr
        | miss =>
          dsimp only
          have hd : 1 ≤ (p.drop i).length := by simp only [List.length_drop]; omega
          have h1 := (Props.C11b.brkLen_spec (p.drop i) hd).1
          have h2 := brkLen_pos (p.drop i)
          simp only [List.length_drop] at h1
          exact ih _ (by omega) (by omega)
      · obtain ⟨beg, hbeg⟩ := decAt_some p i hi
        rw [hbeg]
        dsimp only
        have hl := C12.rxLen_pos hlt (by rw [← hb1 hlt]; exact hb0)
        have hi1 := rxLen_in p i hi
        obtain ⟨d, hd, hd1, hd2⟩ := rdb_some p (i + rxLen p i) hi1
        rw [hd]
        have hnext : brkLoop p c icase f (i + rxLen p i) ≠ BR.trap := ih _ hi1 (by omega)
        refine Basics.ite_elim (P := (· ≠ BR.trap)) (fun h45 => ?_) (fun _ => hit_or hnext)
        simp only [beq_iff_eq] at h45
        have hlt1 : i + rxLen p i < p.length := by
          rcases Nat.lt_or_ge (i + rxLen p i) p.length with h | h
          · exact h
          · have := hd2 (by omega); omega
        obtain ⟨e, he, _, _⟩ := rdb_some p (i + rxLen p i + 1) (by omega)
        rw [he]
        refine Basics.ite_elim (P := (· ≠ BR.trap)) (fun _ => ?_) (fun _ => hit_or hnext)
        obtain ⟨en, hen⟩ := decAt_some p (i + rxLen p i + 1) (by omega)
        rw [hen]
        exact hit_or (ih _ (rxLen_in p _ (by omega)) (by omega))

theorem brkMatch_some (brk : Bytes) (c : Nat) (icase : Bool) : ∃ b, brkMatch brk c icase = some b := by
  unfold brkMatch
  dsimp only
  have := brkLoop_no_trap (if (brk.headD 0 == 94) = true then brk.drop 1 else brk) (foldc icase c) icase
    ((if (brk.headD 0 == 94) = true then brk.drop 1 else brk).length + 2) 0 (Nat.zero_le _) (by omega)
  cases h : brkLoop (if (brk.headD 0 == 94) = true then brk.drop 1 else brk) (foldc icase c) icase
      ((if (brk.headD 0 == 94) = true then brk.drop 1 else brk).length + 2) 0 with
  | hit => exact ⟨_, rfl⟩
  | miss => exact ⟨_, rfl⟩
  | trap => exact absurd h this

theorem atomMatch_no_trap (a : Atom) (subj : Bytes) (flg pos : Nat) (hp : pos ≤ subj.length) :
    atomMatch a subj flg pos ≠ AR.trap := by
  unfold atomMatch
  dsimp only
  obtain ⟨cur, hcur, _, _⟩ := rdb_some subj pos hp
  rw [hcur]
  dsimp only
  cases hk : a.k <;> dsimp only
  · -- chr
    split
    · split <;> (intro h; cases h)
    · exact chrIcase_no_trap _ _ _ _ _ (Nat.zero_le _) hp (by omega)
  · -- beg
    repeat' split
    all_goals (intro h; cases h)
  · -- end
    repeat' split
    all_goals (intro h; cases h)
  · -- any
    split <;> (intro h; cases h)
  · -- brk
    obtain ⟨c, hc⟩ := decAt_some subj pos hp
    rw [hc]
    dsimp only
    split
    · intro h; cases h
    · obtain ⟨b, hb⟩ := brkMatch_some (a.s.drop 1) c (hasFlag flg REG_ICASE)
      rw [hb]
      cases b <;> (intro h; cases h)
  · -- wbeg
    split <;> (intro h; cases h)
  · -- wend
    split <;> (intro h; cases h)

end Neatvi.Lemmas.C05e
