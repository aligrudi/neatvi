import NeatviVerif.Lemmas.C05eR2
/-!
# C05e lemmas, part R3: the matcher never traps — the VM, `regexec`, the literal fast path, `rstr_find` (`rset_find` within it)
-/
namespace Neatvi.Lemmas.C05e
open Neatvi Neatvi.Uc Neatvi.Regex Neatvi.Rset Neatvi.Props.C11

theorem loop_no_trap_in (cx : Ctx) (hwf : WfProg cx.prog) :
    ∀ dep pc, pc < cx.prog.length → ∀ pos m cuts, pos ≤ cx.subj.length → loop cx dep pc pos m cuts ≠ Res.trap :=
  loop_no_trap_of cx hwf (· ≤ cx.subj.length) (fun a pos hpos =>
    ⟨atomMatch_no_trap a cx.subj cx.flg pos hpos,
     fun pos' heq => (atomMatch_range_aux a cx.subj cx.flg pos pos' hpos heq).2⟩)

theorem recmatch_no_trap (cx : Ctx) (hwf : WfProg cx.prog) (hne : 0 < cx.prog.length) (start cuts : Nat)
    (hs : start ≤ cx.subj.length) : recmatch cx start cuts ≠ Res.trap := by
  unfold recmatch
  rw [act_eq]
  split
  · intro h; cases h
  · exact loop_no_trap_in cx hwf _ _ hne _ _ _ hs

theorem execLoop_no_trap (cx : Ctx) (hwf : WfProg cx.prog) (hne : 0 < cx.prog.length) (f start cuts : Nat)
    (hs : start ≤ cx.subj.length) : execLoop cx f start cuts ≠ ExecRes.trap := by
  intro h
  obtain ⟨s, c, hf, _, htrap⟩ := Props.C10.execLoop_trace cx f start cuts
  rcases htrap h with ht | ht
  · obtain ⟨b, hb, _⟩ := rdb_some cx.subj s (hf.le hs)
    rw [hb] at ht; cases ht
  · exact recmatch_no_trap cx hwf hne s c (hf.le hs) ht

theorem regexec_no_trap {pat : Bytes} {flg : Nat} {p : Prog} (hc : regcomp pat flg = some (some p))
    (subj : Bytes) (nsub eflg nd ngrps : Nat) : (regexec p subj nsub eflg nd ngrps).1 ≠ ExecRes.trap := by
  have hwf := Neatvi.Props.C11.regcomp_wf pat flg p hc
  have hne : 0 < p.code.length := by
    obtain ⟨_, _, _, rfl⟩ := Lemmas.C10.regcomp_some hc
    simp
  unfold regexec
  dsimp only
  split
  · intro h; cases h
  · have := execLoop_no_trap ⟨p.code, subj, p.flg ||| eflg, nd, ngrps⟩ hwf hne (subj.length + 2) 0 0 (Nat.zero_le _)
    cases he : execLoop ⟨p.code, subj, p.flg ||| eflg, nd, ngrps⟩ (subj.length + 2) 0 0 with
    | trap => exact absurd he this
    | _ => intro h; cases h

theorem literalLoop_some (rs : RStr) (lit s : Bytes) : ∀ (f : Nat) (r e : Int), ∃ x, literalLoop rs lit s f r e = some x := by
  intro f
  induction f with
  | zero => intro r e; exact ⟨_, rfl⟩
  | succ f ih =>
    intro r e
    rw [literalLoop]
    dsimp only
    split
    · exact ⟨_, rfl⟩
    · split
      · exact ih _ _
      · split
        · exact ih _ _
        · split
          · exact ⟨_, rfl⟩
          · exact ih _ _

/-- what `rstr_make` returns: the literal fast path, or the program compiled from `((pat))` -/
theorem rstrMake_cases' {pat : Bytes} {flg : Nat} {re : RStr} (h : rstrMake pat flg = some (some re)) :
    re.rs = none ∨ ∃ r cflg, re.rs = some r ∧ regcomp (combined [some pat]) cflg = some (some r.prog) ∧
      r.n = 1 ∧ r.grp = [2, ((3 + groupCount pat : Nat) : Int)] ∧ r.setgrpcnt = [groupCount pat] ∧ r.grpcnt = 3 + groupCount pat := by
  obtain ⟨_, _, _, _, _, -, rfl⟩ | ⟨-, r, hm, rfl⟩ := C12.rstrMake_some h
  · exact Or.inl rfl
  · obtain ⟨hc, hn, hgrp, hcnt, hgc⟩ := C12.make_single hm
    exact Or.inr ⟨r, _, rfl, hc, hn, hgrp, hcnt, hgc⟩

/-- **`rstr_find` never traps** on what `rstr_make` made -/
theorem rstrFind_total {pat : Bytes} {flg : Nat} {re : RStr} (h : rstrMake pat flg = some (some re))
    (s : Bytes) (n fl nd ngrps : Nat) : ∃ x, rstrFind re s n fl nd ngrps = some x := by
  unfold rstrFind
  rcases rstrMake_cases' h with hrs | ⟨r, cflg, hrs, hc, _⟩
  · rw [hrs]
    dsimp only
    split
    · exact ⟨_, rfl⟩
    · split
      · exact ⟨_, rfl⟩
      · obtain ⟨x, hx⟩ := literalLoop_some re (re.str.getD []) s (s.length + 2)
          (if re.lend = true then (s.length : Int) - (re.str.getD []).length - 1 else 0)
          (if re.lbeg = true then 0 else (s.length : Int) - (re.str.getD []).length - 1)
        rw [hx]
        cases x <;> exact ⟨_, rfl⟩
  · rw [hrs]
    dsimp only
    unfold Rset.find
    split
    · exact ⟨_, rfl⟩
    · have hnt := regexec_no_trap hc s r.grpcnt
        (REG_NEWLINE ||| (if (fl &&& RE_NOTBOL != 0) = true then REG_NOTBOL else 0) |||
          (if (fl &&& RE_NOTEOL != 0) = true then REG_NOTEOL else 0)) nd ngrps
      dsimp only
      generalize regexec r.prog s r.grpcnt
        (REG_NEWLINE ||| (if (fl &&& RE_NOTBOL != 0) = true then REG_NOTBOL else 0) |||
          (if (fl &&& RE_NOTEOL != 0) = true then REG_NOTEOL else 0)) nd ngrps = q at hnt
      obtain ⟨res, subs⟩ := q
      cases res with
      | trap => exact absurd rfl hnt
      | found m c =>
        dsimp only
        split <;> exact ⟨_, rfl⟩
      | _ => exact ⟨_, rfl⟩

end Neatvi.Lemmas.C05e
