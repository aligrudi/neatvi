import NeatviVerif.Props.C10
/-!
# C05e lemmas, part R4: the group offsets the matcher reports are sane

`replace()` of `ec_substitute` copies `offs[2g+1] - offs[2g]` bytes from `ln + offs[2g]` for every `\g` in the
replacement; a negative length or a range outside the line is a memory error.  From the declarative semantics of the
VM (`C10.regexec_sound`): in the marks of a successful match every group `g ≥ 1` is either unset (`-1, -1`) or a pair
`so ≤ eo` of positions up to the end of the match — because the code of a group is entered at `mark 2g` and can only
be left through `mark 2g+1`, and no group contains a group of the same number.
-/
namespace Neatvi.Lemmas.C05e
open Neatvi Neatvi.Uc Neatvi.Regex Neatvi.Rset Neatvi.Props.C10 Neatvi.Lemmas.C10

/-- group `j` in the marks `m`: unset, or a pair of positions `a ≤ b ≤ hi` -/
def PairAt (m : Marks) (hi : Nat) (j : Nat) : Prop :=
  (m[2 * j]? = some (-1) ∧ m[2 * j + 1]? = some (-1)) ∨
  ∃ a b : Nat, m[2 * j]? = some (a : Int) ∧ m[2 * j + 1]? = some (b : Int) ∧ a ≤ b ∧ b ≤ hi

theorem PairAt.mono {m : Marks} {hi hi' j : Nat} (h : PairAt m hi j) (hh : hi ≤ hi') : PairAt m hi' j := by
  rcases h with h | ⟨a, b, h1, h2, h3, h4⟩
  · exact Or.inl h
  · exact Or.inr ⟨a, b, h1, h2, h3, by omega⟩

theorem PairAt.congr {m m' : Marks} {hi j : Nat} (h : PairAt m hi j) (h1 : m'[2 * j]? = m[2 * j]?)
    (h2 : m'[2 * j + 1]? = m[2 * j + 1]?) : PairAt m' hi j := by
  unfold PairAt
  rw [h1, h2]; exact h

/-- every group outside `X` whose marks exist is paired -/
def Paired (X : Nat → Prop) (r : Nat × Marks) : Prop :=
  ∀ j, ¬ X j → 2 * j + 1 < r.2.length → PairAt r.2 r.1 j

section pairs
variable {subj : Bytes} {flg ngrps : Nat}

theorem iter_pres {t : RNode} {P : Nat × Marks → Prop}
    (hone : ∀ r s, One subj flg ngrps t r s → P r → P s) :
    ∀ k r r', Iter subj flg ngrps t k r r' → P r → P r' := by
  intro k
  induction k with
  | zero => intro r r' h hp; cases h; exact hp
  | succ k ih => intro r r' h hp; cases h with | succ h1 h2 => exact ih _ _ h2 (hone _ _ h1 hp)

/-- **the marks stay paired** through every tree whose groups are fresh in their bodies (`ngrps` even) -/
theorem matches_paired (K : Nat) (hev : ngrps = 2 * K) (t : RNode) : GrpFresh t →
    ∀ (X : Nat → Prop) (r r' : Nat × Marks), (∀ i ∈ markIdx t, ¬ X (i / 2)) →
      Matches subj flg ngrps t r r' → Paired X r → Paired X r' := by
  intro hf X r r' hX h
  refine matches_ind (R := fun t r r' => GrpFresh t → ∀ X : Nat → Prop, (∀ i ∈ markIdx t, ¬ X (i / 2)) →
      Paired X r → Paired X r')
    (fun _ _ _ _ _ hp => hp) (fun h1 h2 hf X hX hp => h2 hf X hX (h1 hf X hX hp)) ?_ ?_ ?_ ?_ ?_ t r r' h hf X hX
  · intro a b r s r' h1 h2 hf X hX hp
    exact h2 hf.2 X (fun i hi => hX i (by simp [markIdx, hi]))
      (h1 hf.1 X (fun i hi => hX i (by simp [markIdx, hi])) hp)
  · intro a b r r' h1 hf X hX hp
    exact h1 hf.1 X (fun i hi => hX i (by simp [markIdx, hi])) hp
  · intro a b r r' h1 hf X hX hp
    exact h1 hf.2 X (fun i hi => hX i (by simp [markIdx, hi])) hp
  · intro a mn mx pos pos' m hm _ X _ hq j hj hl
    exact (hq j hj hl).mono (atomMatch_le hm)
  · intro a g mn mx pos pos' m m' hm iha hf X hX hq
    obtain ⟨hf1, hf2, hf3⟩ := hf
    have hgX : ¬ X g := by
      have := hX (2 * g) (by simp [markIdx])
      rwa [Nat.mul_div_cancel_left g (by omega : 0 < 2)] at this
    have hs := matches_span a _ _ hm
    have hle : pos ≤ pos' := hs.1
    have hlen : m'.length = m.length := by
      have := hs.2.1; simp only [setMk_length] at this; exact this
    -- the body, with group `g` open
    have hq' : Paired (fun j => X j ∨ j = g) (pos, setMk ngrps m (2 * g) pos) := by
      intro j hj hl
      simp only [not_or] at hj
      simp only [setMk_length] at hl
      exact (hq j hj.1 hl).congr (setMk_get_ne _ _ _ _ _ (by omega)) (setMk_get_ne _ _ _ _ _ (by omega))
    have hXa : ∀ i ∈ markIdx a, ¬ (X (i / 2) ∨ i / 2 = g) := by
      intro i hi
      simp only [not_or]
      refine ⟨hX i (by simp [markIdx, hi]), ?_⟩
      intro hg
      have : i = 2 * g ∨ i = 2 * g + 1 := by omega
      rcases this with rfl | rfl
      · exact hf1 hi
      · exact hf2 hi
    have hb := iha hf3 (fun j => X j ∨ j = g) hXa hq'
    -- close the group
    intro j hj hl
    simp only [setMk_length] at hl
    by_cases hjg : j = g
    · subst hjg
      have e0 : m'[2 * j]? = (setMk ngrps m (2 * j) pos)[2 * j]? := matches_frame a _ _ hm _ hf1
      have e1 : m'[2 * j + 1]? = (setMk ngrps m (2 * j) pos)[2 * j + 1]? := matches_frame a _ _ hm _ hf2
      by_cases hin : 2 * j + 1 < ngrps
      · refine Or.inr ⟨pos, pos', ?_, ?_, hle, Nat.le_refl _⟩
        · show (setMk ngrps m' (2 * j + 1) pos')[2 * j]? = _
          rw [setMk_get_ne _ _ _ _ _ (by omega), e0]
          exact setMk_get_self _ _ _ _ (by omega) (by omega)
        · exact setMk_get_self _ _ _ _ hin hl
      · have hin0 : ¬ 2 * j < ngrps := by omega
        have hfin : setMk ngrps m' (2 * j + 1) pos' = m' := by unfold setMk; rw [if_neg hin]
        have hst : setMk ngrps m (2 * j) pos = m := by unfold setMk; rw [if_neg hin0]
        show PairAt (setMk ngrps m' (2 * j + 1) pos') pos' j
        rw [hfin]
        rw [hst] at e0 e1
        exact ((hq j hj (by show 2 * j + 1 < m.length; omega)).mono hle).congr e0 e1
    · exact (hb j (by simp only [not_or]; exact ⟨hj, hjg⟩) hl).congr
        (setMk_get_ne _ _ _ _ _ (by omega)) (setMk_get_ne _ _ _ _ _ (by omega))

end pairs

end Neatvi.Lemmas.C05e
