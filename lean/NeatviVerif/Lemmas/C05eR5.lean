import NeatviVerif.Lemmas.C05eR4
import NeatviVerif.Lemmas.C05eR3
/-!
# C05e lemmas, part R5: from the marks of the VM to the offsets `rstr_find` reports
-/
namespace Neatvi.Lemmas.C05e
open Neatvi Neatvi.Uc Neatvi.Regex Neatvi.Rset Neatvi.Props.C10 Neatvi.Lemmas.C10 Neatvi.Props.C11

theorem execLoop_found (cx : Ctx) (f start cuts : Nat) (m : Marks) (c : Nat) (hs : start ≤ cx.subj.length)
    (h : execLoop cx f start cuts = ExecRes.found m c) :
    ∃ s cuts' p, s ≤ cx.subj.length ∧ recmatch cx s cuts' = Res.ok p m c := by
  obtain ⟨s, cuts', p, hf, hp⟩ := leftmost_vm cx f start cuts m c h
  exact ⟨s, cuts', p, hf.le hs, hp⟩

theorem regexec_marks {pat : Bytes} {flg : Nat} {prog : Prog} (hc : regcomp pat flg = some (some prog))
    (subj : Bytes) (nsub eflg nd K : Nat) (hK : 1 ≤ K) (m : Marks) (c : Nat) (subs : List (Int × Int))
    (hr : regexec prog subj nsub eflg nd (2 * K) = (ExecRes.found m c, subs)) :
    m.length = 2 * (2 * K) ∧ ∀ j, 1 ≤ j → 2 * j + 1 < m.length → PairAt m subj.length j := by
  obtain ⟨t0, _, _, rfl⟩ := regcomp_some hc
  obtain ⟨_, hex, _⟩ := regexec_found hr
  obtain ⟨s, cuts, p, hs, hrec⟩ := execLoop_found _ _ _ _ _ _ (Nat.zero_le _) hex
  obtain ⟨_, hple, _⟩ := offsets_in_range _ s cuts p m c hs hrec
  obtain ⟨m1, hM, hm1⟩ := regcomp_sound (cx := ⟨_, subj, flg ||| eflg, nd, 2 * K⟩)
    (grpnum t0 1).1 rfl (by show 1 < 2 * K; omega) s cuts p _ _ hrec
  have hsp := matches_span _ _ _ hM
  have hlen1 : m1.length = 2 * (2 * K) := by
    have := hsp.2.1
    simp only [List.length_set, marks0, List.length_replicate] at this
    exact this
  have hp0 : Paired (fun j => j = 0) (s, (marks0 (2 * K)).set 0 (s : Int)) := by
    intro j hj hl
    left
    have hj1 : 1 ≤ j := by omega
    simp only [List.length_set, marks0, List.length_replicate] at hl
    constructor
    · rw [List.getElem?_set_ne (by omega)]
      simp [marks0, List.getElem?_replicate]; omega
    · rw [List.getElem?_set_ne (by omega)]
      simp [marks0, List.getElem?_replicate]; omega
  have hpaired := matches_paired (subj := subj) (flg := flg ||| eflg) K rfl (grpnum t0 1).1 (grpnum_fresh t0 1)
    (fun j => j = 0) _ _ (by
      intro i hi
      have := markIdx_grpnum t0 1 i hi
      omega) hM hp0
  subst hm1
  refine ⟨by rw [List.length_set]; exact hlen1, ?_⟩
  intro j hj hl
  rw [List.length_set] at hl
  exact ((hpaired j (by omega) hl).mono hple).congr (List.getElem?_set_ne (by omega)) (List.getElem?_set_ne (by omega))

end Neatvi.Lemmas.C05e
