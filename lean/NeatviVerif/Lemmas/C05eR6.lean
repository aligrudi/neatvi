import NeatviVerif.Lemmas.C05eR5
import NeatviVerif.Lemmas.C18cRset
import NeatviVerif.Model.Ex
/-!
# C05e lemmas, part R6: the group offsets the matcher reports are sane — `reGroups`
-/
namespace Neatvi.Lemmas.C05e
open Neatvi Neatvi.Uc Neatvi.Regex Neatvi.Rset Neatvi.Ex

/-- the offsets of the groups `\0`–`\9` as `replace()` needs them: an empty pair (unset groups are `-1, -1`) or a
    range inside the line -/
def OffsOk (ln : Bytes) (offs : List Int) : Prop :=
  ∀ g, g < 10 → offs.getD (2 * g) (-1) ≤ offs.getD (2 * g + 1) (-1) ∧
    (offs.getD (2 * g) (-1) < offs.getD (2 * g + 1) (-1) → 0 ≤ offs.getD (2 * g) (-1) ∧ offs.getD (2 * g + 1) (-1) ≤ ln.length)

theorem literalLoop_found (rs : RStr) (lit s : Bytes) : ∀ (f : Nat) (r e : Int) (ri : Nat),
    literalLoop rs lit s f r e = some (some ri) → matchCase (s.drop ri) lit rs.icase = true := by
  intro f
  induction f with
  | zero => intro r e ri h; simp [literalLoop] at h
  | succ f ih =>
    intro r e ri h
    rw [literalLoop] at h
    dsimp only at h
    split at h
    · cases h
    · split at h
      · exact ih _ _ _ h
      · split at h
        · exact ih _ _ _ h
        · split at h
          · rename_i hm
            injection h with h; injection h with h
            rw [← h]; exact hm
          · exact ih _ _ _ h

theorem getD_append_replicate (a b : Int) (k i : Nat) (hi : 2 ≤ i) (_hk : i < 2 + k) :
    ([a, b] ++ List.replicate k (-1 : Int)).getD i (-1) = -1 := by
  rw [List.getD_eq_getElem?_getD, List.getElem?_append_right (by simp; omega)]
  simp only [List.getElem?_replicate, List.length_cons, List.length_nil]
  split
  · rfl
  · rfl

theorem offsOk_literal (s : Bytes) (ri len : Nat) (h : 0 < len → ri + len ≤ s.length) :
    OffsOk s ([(ri : Int), ((ri + len : Nat) : Int)] ++ List.replicate (2 * (16 - 1)) (-1)) := by
  intro g hg
  cases g with
  | zero =>
    have e0 : ([(ri : Int), ((ri + len : Nat) : Int)] ++ List.replicate (2 * (16 - 1)) (-1)).getD (2 * 0) (-1) = (ri : Int) := rfl
    have e1 : ([(ri : Int), ((ri + len : Nat) : Int)] ++ List.replicate (2 * (16 - 1)) (-1)).getD (2 * 0 + 1) (-1) =
        ((ri + len : Nat) : Int) := rfl
    rw [e0, e1]
    refine ⟨by omega, fun hlt => ⟨by omega, ?_⟩⟩
    have := h (by omega)
    omega
  | succ g =>
    rw [getD_append_replicate _ _ _ _ (by omega) (by omega), getD_append_replicate _ _ _ _ (by omega) (by omega)]
    exact ⟨Int.le_refl _, fun h => absurd h (by omega)⟩

theorem pair_getD {m : Marks} {len j : Nat} (h : PairAt m len j) :
    m.getD (2 * j) (-1) ≤ m.getD (2 * j + 1) (-1) ∧
    (m.getD (2 * j) (-1) < m.getD (2 * j + 1) (-1) → 0 ≤ m.getD (2 * j) (-1) ∧ m.getD (2 * j + 1) (-1) ≤ len) := by
  rw [List.getD_eq_getElem?_getD, List.getD_eq_getElem?_getD]
  rcases h with ⟨h1, h2⟩ | ⟨a, b, h1, h2, h3, h4⟩
  · rw [h1, h2]
    simp
  · rw [h1, h2]
    simp only [Option.getD_some]
    exact ⟨by omega, fun _ => ⟨by omega, by omega⟩⟩

/-- `rset_find` on the one-pattern set `rstr_make` builds reports sane group offsets -/
theorem find_offsOk {pat : Bytes} {cflg : Nat} {r : RSet} (hc : regcomp (combined [some pat]) cflg = some (some r.prog))
    (hn : r.n = 1) (hgrp : r.grp = [2, ((3 + groupCount pat : Nat) : Int)]) (hcnt : r.setgrpcnt = [groupCount pat])
    (hgc : r.grpcnt = 3 + groupCount pat) (s : Bytes) (fl : Nat) (res : Int) (offs : List Int) (c : Nat)
    (hf : Rset.find r s 16 fl ND NG = some (res, offs, c)) (h0 : 0 ≤ res) : OffsOk s offs := by
  obtain ⟨rflg, m, c', subs, G, hex, hlt, hgG, _, _, hpairs⟩ :=
    Props.C18c.find_pairs r s 16 fl ND NG res offs c hf h0
  have hG : G = 2 := by
    rw [hn] at hlt
    rw [show res.toNat = 0 by omega, hgrp] at hgG
    simp only [List.getElem?_cons_zero, Option.some.injEq] at hgG
    omega
  subst hG
  obtain ⟨hlen, hpair⟩ := regexec_marks hc s r.grpcnt rflg ND 32 (by omega) m c' subs hex
  intro g hg
  have hunset : (-1 : Int) ≤ -1 ∧ ((-1 : Int) < -1 → (0 : Int) ≤ -1 ∧ (-1 : Int) ≤ s.length) :=
    ⟨Int.le_refl _, fun h => absurd h (by omega)⟩
  rcases hpairs g with e | e
  · rw [show offs.getD (2 * g) (-1) = -1 from congrArg Prod.fst e,
      show offs.getD (2 * g + 1) (-1) = -1 from congrArg Prod.snd e]
    exact hunset
  · rw [show offs.getD (2 * g) (-1) = _ from congrArg Prod.fst e,
      show offs.getD (2 * g + 1) (-1) = _ from congrArg Prod.snd e]
    rcases Props.C18c.regexec_offs _ _ _ _ _ _ _ _ _ hex (2 + g) with e2 | e2
    · rw [e2]; exact hunset
    · rw [e2]; exact pair_getD (hpair (2 + g) (by omega) (by rw [hlen]; omega))

/-- **`rstr_find` reports sane group offsets** -/
theorem reGroups (pat : Bytes) (flg : Nat) (re : RStr) (s : Bytes) (fl : Nat) (r : Int) (offs : List Int) (c : Nat)
    (hm : rstrMake pat flg = some (some re)) (hf : rstrFind re s 16 fl ND NG = some (r, offs, c)) (h0 : 0 ≤ r) :
    OffsOk s offs := by
  rcases rstrMake_cases' hm with hrs | ⟨rs, cflg, hrs, hc, hn, hgrp, hcnt, hgc⟩
  · unfold rstrFind at hf
    rw [hrs] at hf
    dsimp only at hf
    split at hf
    · cases hf; omega
    · split at hf
      · cases hf; omega
      · cases hl : literalLoop re (re.str.getD []) s (s.length + 2)
            (if re.lend = true then (s.length : Int) - (re.str.getD []).length - 1 else 0)
            (if re.lbeg = true then 0 else (s.length : Int) - (re.str.getD []).length - 1) with
        | none => rw [hl] at hf; cases hf
        | some x =>
          rw [hl] at hf
          cases x with
          | none => cases hf; omega
          | some ri =>
            dsimp only at hf
            cases hf
            have hmc := literalLoop_found re (re.str.getD []) s _ _ _ ri hl
            have hlen := C12.matchCase_length _ _ hmc
            rw [if_pos (by omega)]
            refine offsOk_literal s ri (re.str.getD []).length ?_
            intro hpos
            simp only [List.length_drop] at hlen
            omega
  · unfold rstrFind at hf
    rw [hrs] at hf
    exact find_offsOk hc hn hgrp hcnt hgc s fl r offs c hf h0

end Neatvi.Lemmas.C05e
