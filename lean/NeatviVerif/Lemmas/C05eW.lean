import NeatviVerif.Lemmas.C05eL
/-!
# C05e lemmas, part W: witnesses — concrete safe states, covered lines, and the traps of the model that are left
-/
namespace Neatvi.Lemmas.C05e
open Neatvi Neatvi.Lbuf Neatvi.LbufIo Neatvi.Ex Neatvi.Rset Neatvi.Lemmas.C06b
open Neatvi.Lemmas.C02Ex Neatvi.Lemmas.C02b

theorem safe_single (ed : Ed) (b : Buf) (hb : GoodLb b.lb) (hbufs : ed.bufs = some b :: List.replicate 15 none)
    (hk : 0 ∉ ed.xkwd) : Safe ed := by
  refine ⟨?_, by unfold Ed.cur; rw [hbufs]; rfl, hk⟩
  unfold EdInv
  rw [hbufs]
  have : (some b :: List.replicate 15 none : List (Option Buf)) = (List.replicate 16 none).set 0 (some b) := rfl
  rw [this]
  exact tabInv_setAt (tabInv_replicate 16) hb (fun h => absurd rfl h)

/-- a buffer of two lines `ab`, `c d` built by `lbuf_edit` -/
def wLb : Lb := (Lbuf.edit Lbuf.make (some (strOf "ab\nc d\n")) 0 0).getD Lbuf.make

theorem wLb_good : GoodLb wLb := by
  obtain ⟨lb', h⟩ := Lemmas.C06.edit_total Lbuf.make (some (strOf "ab\nc d\n")) 0 0 (Nat.le_refl _)
  have e : wLb = lb' := by unfold wLb; rw [h]; rfl
  rw [e]
  exact goodLb_make.edit h

/-- the state: that buffer, named `f`, the row on line 1, a register `a` holding `p`, a file `g` -/
def wEd : Ed :=
  { bufs := some { path := strOf "f", lb := wLb } :: List.replicate 15 none,
    regs := ({} : Regs).put 97 (strOf "p\n") 1, files := [⟨strOf "g", strOf "x\ny\n", 5⟩] }

theorem wEd_safe : Safe wEd := safe_single wEd _ wLb_good rfl (by decide)

def wEdIn (script : List Bytes) : Ed := { wEd with input := script }

theorem wEdIn_safe (script : List Bytes) : Safe (wEdIn script) := wEd_safe.of_bufs rfl

theorem flat_subst : flatLine 9 (strOf "s/a/b/g") = true := by decide +kernel
theorem flat_bar : flatLine 20 (strOf "1,2d|w out|e other") = true := by decide +kernel
theorem flat_not_glob : flatLine 9 (strOf "g/a/p") = false := by decide +kernel
theorem gflat_glob : gflatLine ((strOf "g/a/s/b/X/|d").length + 1) (strOf "g/a/s/b/X/|d") = true := by decide +kernel
theorem gflat_mixed : gflatLine ((strOf "1d|v/x/p").length + 1) (strOf "1d|v/x/p") = true := by decide +kernel
theorem gflat_not_switch : gflatLine ((strOf "g/a/e other").length + 1) (strOf "g/a/e other") = false := by decide +kernel
/-- `Plain` as a check -/
def plainB (l : Bytes) : Bool := l.all (fun c => c != 0 && c != 64 && c != 37 && c != 35 && c != 61 && c != 103 && c != 118)

theorem plain_of_check {l : Bytes} (h : plainB l = true) : Plain l := by
  intro c hc
  have := List.all_eq_true.mp h c hc
  simp only [Bool.and_eq_true, bne_iff_ne, ne_eq] at this
  exact ⟨this.1.1.1.1.1.1, this.1.1.1.1.1.2, this.1.1.1.1.2, this.1.1.1.2, this.1.1.2, this.1.2, this.2⟩

theorem plain_plus : Plain (strOf "e +2d other") ∧ nest (strOf "e +2d other") = 1 :=
  ⟨plain_of_check (by decide +kernel), by decide +kernel⟩

/-- `NameOk` as a check -/
def nameB (files : List Bytes) : Bool :=
  match files with
  | [] => true
  | p :: _ => p.all (fun c => c != 32 && c != 37 && c != 35 && c != 61) && p.headD 0 != 43 && decide (p.length < 1000)

theorem nameOk_of_check {files : List Bytes} (h : nameB files = true) : NameOk files := by
  cases files with
  | nil => trivial
  | cons p r =>
    unfold nameB at h
    simp only [Bool.and_eq_true, bne_iff_ne, ne_eq, decide_eq_true_eq] at h
    refine ⟨?_, h.1.2, h.2⟩
    intro c hc
    have := List.all_eq_true.mp h.1.1 c hc
    simp only [Bool.and_eq_true, bne_iff_ne, ne_eq] at this
    exact ⟨this.1.1.1, this.1.1.2, this.1.2, this.2⟩

theorem ne_none_of_eq {α : Type} {x : Option α} {a : α} (h : x = some a) : x ≠ none := by
  rw [h]; exact fun h => by cases h

/-! ### the traps of the model that are left: none of them is a trap of the C code -/

def edLong : Ed := { bufs := [some { path := List.replicate 500 97, lb := Lbuf.make }] ++ List.replicate 15 none }

theorem edLong_safe : Safe edLong := safe_single edLong _ goodLb_make rfl (by decide)

/-- **the path-size limit of the model**: `%%` with a 500-byte path expands to 1000 bytes, where the model stops
    following `ex_pathexpand` (the C code truncates at 1023 bytes, safely) -/
theorem pathExpand_limit_traps : pathExpand edLong [37, 37] true = none := by decide +kernel

theorem write_of_path_none (f : Nat) (ed : Ed) (loc cmd : Bytes) (c : Nat) (r : Bytes) (txt : Option Bytes)
    (h : pathExpand ed (c :: r) true = none) : runCmd (f + 1) ed "ec_write" loc cmd (c :: r) txt = none := by
  dispatch
  unfold ecWrite
  simp only [List.isEmpty_cons, Bool.not_false, if_true, h]

/-- **a pattern with a NUL byte after a backslash**: not a C string; the model's `ratom_read` sees a backslash at the
    very end of the text -/
theorem rstrMake_nul_traps : rstrMake [92, 0] 0 = none := by decide +kernel

end Neatvi.Lemmas.C05e
