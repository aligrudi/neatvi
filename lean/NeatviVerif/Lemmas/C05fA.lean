import NeatviVerif.Model.ViCmd
/-!
# C05f: a weakest-precondition calculus for the vi-level monad `M`

`wp m Q s`: running `m` from `s` does not trap, and if it returns normally with `a` in `s'` then `Q a s'`
(the end of the key stream, `Res.eof`, satisfies every postcondition).
-/
set_option linter.unusedSimpArgs false
set_option linter.unusedVariables false
namespace Neatvi.Lemmas.C05f
open Neatvi Neatvi.Uc Neatvi.Lbuf Neatvi.Ex Neatvi.Mot Neatvi.Vi

def wp {α : Type} (m : M α) (Q : α → VS → Prop) (s : VS) : Prop :=
  match m s with
  | Res.ok a s' => Q a s'
  | Res.eof => True
  | Res.trap => False

theorem wp_def {α : Type} (m : M α) (Q : α → VS → Prop) (s : VS) :
    wp m Q s ↔ m s ≠ Res.trap ∧ ∀ a s', m s = Res.ok a s' → Q a s' := by
  unfold wp
  cases h : m s with
  | ok a s' => simp
  | eof => simp
  | trap => simp

theorem wp_no_trap {α : Type} {m : M α} {Q : α → VS → Prop} {s : VS} (h : wp m Q s) : m s ≠ Res.trap :=
  ((wp_def m Q s).mp h).1

theorem wp_post {α : Type} {m : M α} {Q : α → VS → Prop} {s : VS} (h : wp m Q s) {a : α} {s' : VS}
    (hm : m s = Res.ok a s') : Q a s' := ((wp_def m Q s).mp h).2 a s' hm

theorem wp_of {α : Type} {m : M α} {Q : α → VS → Prop} {s : VS} (h1 : m s ≠ Res.trap)
    (h2 : ∀ a s', m s = Res.ok a s' → Q a s') : wp m Q s := (wp_def m Q s).mpr ⟨h1, h2⟩

theorem wp_mono {α : Type} {m : M α} {Q Q' : α → VS → Prop} {s : VS} (h : wp m Q s)
    (hq : ∀ a s', Q a s' → Q' a s') : wp m Q' s :=
  wp_of (wp_no_trap h) (fun a s' hm => hq a s' (wp_post h hm))

theorem wp_and {α : Type} {m : M α} {Q Q' : α → VS → Prop} {s : VS} (h : wp m Q s)
    (h' : ∀ a s', m s = Res.ok a s' → Q' a s') : wp m (fun a s' => Q a s' ∧ Q' a s') s :=
  wp_of (wp_no_trap h) (fun a s' hm => ⟨wp_post h hm, h' a s' hm⟩)

@[simp] theorem wp_pure {α : Type} (a : α) (Q : α → VS → Prop) (s : VS) : wp (pure a : M α) Q s ↔ Q a s := Iff.rfl

@[simp] theorem wp_bind {α β : Type} (m : M α) (f : α → M β) (Q : β → VS → Prop) (s : VS) :
    wp (m >>= f) Q s ↔ wp m (fun a s' => wp (f a) Q s') s := by
  show wp (fun s => match m s with | Res.ok a s' => f a s' | Res.eof => Res.eof | Res.trap => Res.trap) Q s ↔ _
  unfold wp
  cases hm : m s with
  | ok a s' => simp only [hm]
  | eof => simp only [hm]
  | trap => simp only [hm]

theorem wp_bind_eqn {α β : Type} (m : M α) (f : α → M β) (Q : β → VS → Prop) (s : VS) :
    wp (m >>= f) Q s ↔ wp m (fun a s' => m s = Res.ok a s' → wp (f a) Q s') s := by
  rw [wp_bind]
  unfold wp
  cases hm : m s with
  | ok a s' => simp
  | eof => simp
  | trap => simp

@[simp] theorem wp_get (Q : VS → VS → Prop) (s : VS) : wp Vi.get Q s ↔ Q s s := Iff.rfl
@[simp] theorem wp_set (t : VS) (Q : Unit → VS → Prop) (s : VS) : wp (Vi.set t) Q s ↔ Q () t := Iff.rfl
@[simp] theorem wp_modify (f : VS → VS) (Q : Unit → VS → Prop) (s : VS) : wp (Vi.modify f) Q s ↔ Q () (f s) := Iff.rfl
@[simp] theorem wp_trap {α : Type} (Q : α → VS → Prop) (s : VS) : wp (Vi.trap : M α) Q s ↔ False := Iff.rfl
@[simp] theorem wp_withEd (f : Ed → Ed) (Q : Unit → VS → Prop) (s : VS) :
    wp (withEd f) Q s ↔ Q () { s with ed := f s.ed } := Iff.rfl
@[simp] theorem wp_unmodelled (Q : Unit → VS → Prop) (s : VS) :
    wp Vi.unmodelled Q s ↔ Q () { s with unmodelled := true } := Iff.rfl
@[simp] theorem wp_setMsg (m : Bytes) (Q : Unit → VS → Prop) (s : VS) :
    wp (setMsg m) Q s ↔ Q () { s with msg := m.take 511 } := Iff.rfl
@[simp] theorem wp_liftO_some {α : Type} (a : α) (Q : α → VS → Prop) (s : VS) : wp (liftO (some a)) Q s ↔ Q a s := Iff.rfl
@[simp] theorem wp_liftO_none {α : Type} (Q : α → VS → Prop) (s : VS) : wp (liftO (none : Option α)) Q s ↔ False := Iff.rfl

theorem wp_liftO {α : Type} (o : Option α) (Q : α → VS → Prop) (s : VS) :
    wp (liftO o) Q s ↔ ∃ a, o = some a ∧ Q a s := by
  cases o <;> simp

@[simp] theorem wp_setPos (r o : Int) (Q : Unit → VS → Prop) (s : VS) :
    wp (setPos r o) Q s ↔ Q () { s with ed := { s.ed with xrow := r, xoff := o } } := Iff.rfl
@[simp] theorem wp_setRow (r : Int) (Q : Unit → VS → Prop) (s : VS) :
    wp (setRow r) Q s ↔ Q () { s with ed := { s.ed with xrow := r } } := Iff.rfl
@[simp] theorem wp_setOff (o : Int) (Q : Unit → VS → Prop) (s : VS) :
    wp (setOff o) Q s ↔ Q () { s with ed := { s.ed with xoff := o } } := Iff.rfl
@[simp] theorem wp_setTop (t : Int) (Q : Unit → VS → Prop) (s : VS) :
    wp (setTop t) Q s ↔ Q () { s with ed := { s.ed with xtop := t } } := Iff.rfl
@[simp] theorem wp_regPut (c : Nat) (txt : Bytes) (ln : Nat) (Q : Unit → VS → Prop) (s : VS) :
    wp (regPut c txt ln) Q s ↔ Q () { s with ed := { s.ed with regs := s.ed.regs.put c txt ln } } := Iff.rfl
@[simp] theorem wp_viBack (c : Int) (Q : Unit → VS → Prop) (s : VS) :
    wp (viBack c) Q s ↔ Q () { s with vibuf := c :: s.vibuf } := Iff.rfl
@[simp] theorem wp_termCmd (Q : Bytes → VS → Prop) (s : VS) :
    wp termCmd Q s ↔ Q s.icmd { s with icmd := [] } := Iff.rfl

theorem wp_ite {α : Type} (c : Prop) [Decidable c] (a b : M α) (Q : α → VS → Prop) (s : VS) :
    wp (if c then a else b) Q s ↔ (c → wp a Q s) ∧ (¬ c → wp b Q s) := by
  split <;> simp_all

/-- one step of the calculus at the head of the goal (no rewriting inside the branches of the program) -/
macro "wp1" : tactic => `(tactic| ((first
  | with_reducible refine (wp_bind _ _ _ _).mpr ?_
  | with_reducible refine (wp_pure _ _ _).mpr ?_
  | with_reducible refine (wp_get _ _).mpr ?_
  | with_reducible refine (wp_modify _ _ _).mpr ?_
  | with_reducible refine (wp_withEd _ _ _).mpr ?_
  | with_reducible refine (wp_unmodelled _ _).mpr ?_
  | with_reducible refine (wp_setMsg _ _ _).mpr ?_
  | with_reducible refine (wp_setPos _ _ _ _).mpr ?_
  | with_reducible refine (wp_setRow _ _ _).mpr ?_
  | with_reducible refine (wp_setOff _ _ _).mpr ?_
  | with_reducible refine (wp_setTop _ _ _).mpr ?_
  | with_reducible refine (wp_regPut _ _ _ _ _).mpr ?_
  | with_reducible refine (wp_viBack _ _ _).mpr ?_
  | with_reducible refine (wp_termCmd _ _).mpr ?_
  | with_reducible refine (wp_liftO_some _ _ _).mpr ?_)))

/-- case split on an `if` at the head of the program -/
macro "wpif" h:ident : tactic => `(tactic| with_reducible refine (wp_ite _ _ _ _ _).mpr ⟨fun $h => ?_, fun $h => ?_⟩)

/-- the steps of the calculus as far as they go; the goal is normalised once, at the end (a `dsimp` after every step
    costs a pass over the rest of the program each time) -/
macro "wpn" : tactic => `(tactic| ((repeat wp1); try dsimp only))

end Neatvi.Lemmas.C05f
