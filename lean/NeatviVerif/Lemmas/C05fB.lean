import NeatviVerif.Lemmas.C05fA
import NeatviVerif.Lemmas.C08Uc
import NeatviVerif.Lemmas.C07Ren
import NeatviVerif.Lemmas.C07Scan
/-!
# C05f, part B: bytes, lines and character offsets

`NoNul x`: the byte string holds no NUL (it is a C string as long as the list).  `LineOk l`: a line of the
buffer — it ends in its newline, has no other newline and no NUL.  Offsets: `uc_sub` (`subI`) is defined
exactly when both ends are at most `uc_slen` (a negative end stands for the end of the string).
-/
set_option linter.unusedSimpArgs false
set_option linter.unusedVariables false
namespace Neatvi.Lemmas.C05f
open Neatvi Neatvi.Uc Neatvi.Lbuf Neatvi.Ex Neatvi.Mot Neatvi.Vi
open Neatvi.Lemmas.C08 (chr_some_of_le chr_le_slen chr_le_length chrI_neg chrI_nonneg)

def NoNul (x : Bytes) : Prop := 0 ∉ x

instance (x : Bytes) : Decidable (NoNul x) := by unfold NoNul; exact inferInstance

theorem noNul_nil : NoNul [] := by simp [NoNul]
theorem noNul_append {a b : Bytes} : NoNul (a ++ b) ↔ NoNul a ∧ NoNul b := by simp [NoNul, not_or]
theorem noNul_cons {a : Nat} {b : Bytes} : NoNul (a :: b) ↔ a ≠ 0 ∧ NoNul b := by
  unfold NoNul
  rw [List.mem_cons, not_or]
  constructor
  · intro h; exact ⟨fun e => h.1 e.symm, h.2⟩
  · intro h; exact ⟨fun e => h.1 e.symm, h.2⟩
theorem noNul_singleton {a : Nat} : NoNul [a] ↔ a ≠ 0 := by simp [noNul_cons, noNul_nil]
theorem NoNul.sub {a b : Bytes} (h : NoNul b) (hs : ∀ c ∈ a, c ∈ b) : NoNul a := fun h0 => h (hs 0 h0)
theorem NoNul.take {a : Bytes} (h : NoNul a) (n : Nat) : NoNul (a.take n) := h.sub (fun _ hc => List.mem_of_mem_take hc)
theorem NoNul.drop {a : Bytes} (h : NoNul a) (n : Nat) : NoNul (a.drop n) := h.sub (fun _ hc => List.mem_of_mem_drop hc)
theorem NoNul.takeWhile {a : Bytes} (h : NoNul a) (p : Nat → Bool) : NoNul (a.takeWhile p) :=
  h.sub (fun _ hc => (List.takeWhile_sublist p).subset hc)
theorem NoNul.dropWhile {a : Bytes} (h : NoNul a) (p : Nat → Bool) : NoNul (a.dropWhile p) :=
  h.sub (fun _ hc => (List.dropWhile_sublist p).subset hc)
theorem NoNul.dropLast {a : Bytes} (h : NoNul a) : NoNul a.dropLast :=
  h.sub (fun _ hc => (List.dropLast_sublist a).subset hc)
theorem NoNul.filter {a : Bytes} (h : NoNul a) (p : Nat → Bool) : NoNul (a.filter p) :=
  h.sub (fun _ hc => (List.filter_sublist (p := p) (l := a)).subset hc)
theorem noNul_takeWhile_ne (a : Bytes) : NoNul (a.takeWhile (· != 0)) := by
  induction a with
  | nil => simp [NoNul]
  | cons b r ih =>
    rw [List.takeWhile_cons]
    split
    · rename_i hb
      exact noNul_cons.mpr ⟨by simpa using hb, ih⟩
    · exact noNul_nil
theorem noNul_replicate {n c : Nat} (hc : c ≠ 0) : NoNul (List.replicate n c) := by
  intro h; exact hc (List.eq_of_mem_replicate h).symm
theorem noNul_flatten {l : List Bytes} (h : ∀ x ∈ l, NoNul x) : NoNul l.flatten := by
  intro h0
  obtain ⟨x, hx, h1⟩ := List.mem_flatten.mp h0
  exact h x hx h1

def NoNulO (o : Option Bytes) : Prop := ∀ x, o = some x → NoNul x
theorem noNulO_none : NoNulO none := by intro x h; cases h
theorem noNulO_some {x : Bytes} : NoNulO (some x) ↔ NoNul x :=
  ⟨fun h => h x rfl, fun h y hy => by cases hy; exact h⟩

/-- a line of the buffer: it ends in its newline, has no other newline and no NUL -/
def LineOk (l : Bytes) : Prop := ∃ w, l = w ++ [10] ∧ 10 ∉ w ∧ NoNul w

theorem LineOk.noNul {l : Bytes} (h : LineOk l) : NoNul l := by
  obtain ⟨w, rfl, _, hw⟩ := h
  exact noNul_append.mpr ⟨hw, by simp [NoNul]⟩

theorem LineOk.wf {l : Bytes} (h : LineOk l) : Lemmas.C07.WfLine l := by
  obtain ⟨w, rfl, hw, _⟩ := h
  exact ⟨w, rfl, hw⟩

theorem lineOk_of {l : Bytes} (h1 : Props.C01.WfLine l) (h2 : NoNul l) : LineOk l := by
  obtain ⟨w, rfl, hw⟩ := h1
  exact ⟨w, rfl, hw, (noNul_append.mp h2).1⟩

theorem LineOk.hd_ne {l : Bytes} (h : LineOk l) : Bytes.hd l ≠ 0 := by
  obtain ⟨w, rfl, _, hw⟩ := h
  cases w with
  | nil => simp
  | cons a w => simpa using (noNul_cons.mp hw).1

theorem LineOk.slen_pos {l : Bytes} (h : LineOk l) : 1 ≤ ucSlen l := Lemmas.C07.ucSlen_pos l h.hd_ne

/-! ### `uc_sub` -/

theorem chrI_some {l : Bytes} {o : Int} (h : o ≤ ucSlen l) : ∃ i, chrI l o = some i ∧ i ≤ l.length := by
  by_cases h0 : o < 0
  · exact ⟨l.length, chrI_neg l o h0, Nat.le_refl _⟩
  · rw [chrI_nonneg l o (by omega)]
    obtain ⟨i, hi⟩ := chr_some_of_le o.toNat l (by omega)
    exact ⟨i, hi, chr_le_length _ _ _ hi⟩

theorem chrI_none_of_gt {l : Bytes} {o : Int} (h : (ucSlen l : Int) < o) : chrI l o = none := by
  rw [chrI_nonneg l o (by omega)]
  cases hc : ucChr l o.toNat with
  | none => rfl
  | some i => have := chr_le_slen _ _ _ hc; omega

theorem subI_some {l : Bytes} {b e : Int} (hb : b ≤ ucSlen l) (he : e ≤ ucSlen l) :
    ∃ x, subI l b e = some x ∧ ∀ c ∈ x, c ∈ l := by
  obtain ⟨ib, h1, _⟩ := chrI_some hb
  obtain ⟨ie, h2, _⟩ := chrI_some he
  unfold subI
  rw [h1, h2]
  refine ⟨_, rfl, ?_⟩
  intro c hc
  split at hc
  · exact List.mem_of_mem_drop (List.mem_of_mem_take hc)
  · simp at hc

theorem subI_noNul {l : Bytes} {b e : Int} {x : Bytes} (hl : NoNul l) (h : subI l b e = some x) : NoNul x := by
  unfold subI at h
  split at h
  · cases h
    split
    · exact (hl.drop _).take _
    · exact noNul_nil
  · cases h

theorem slenAt_eq (s : VS) (r : Int) : slenAt (lines s) r = ucSlen (lineE s r) := by
  unfold slenAt lineE lineOf
  cases lineAt (lines s) r <;> rfl

/-! ### `ren_noeol` never leaves the line -/

theorem renNoeol_le_slen (l : Bytes) (o : Int) : Ren.renNoeol l o ≤ ucSlen l := by
  have := Lemmas.C07.renNoeol_lt l o
  omega

theorem noeol_le_slen (s : VS) (r o : Int) : noeol s r o ≤ slenAt (lines s) r := by
  unfold noeol slenAt lineOf
  cases h : lineAt (lines s) r with
  | none => simp only []; split <;> omega
  | some l => exact renNoeol_le_slen l o

theorem noeol_eq (s : VS) (r o : Int) : noeol s r o = Ren.renNoeol (lineE s r) o := by
  unfold noeol lineE
  cases h : lineOf s r with
  | none =>
    simp only [Option.getD_none]
    unfold Ren.renNoeol
    have : ucSlen [] = 0 := rfl
    simp only [this]
    have h2 : Ren.chrHd [] (if o ≥ ((0 : Nat) : Int) then max 0 (((0 : Nat) : Int) - 1) else o).toNat = 0 := by
      unfold Ren.chrHd
      cases ucChr [] _ <;> simp
    split <;> simp_all <;> omega
  | some l => rfl

end Neatvi.Lemmas.C05f
