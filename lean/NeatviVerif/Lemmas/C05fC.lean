import NeatviVerif.Lemmas.C05fB
import NeatviVerif.Lemmas.HistInv
import NeatviVerif.Lemmas.C07Frame
/-!
# C05f, part C: the invariant of the line buffer (lines, undo history), of the registers and of the key queue

`HistOk lb c`: the history invariant of `Lemmas/HistInv` holds for some ghost texts, every text of the
history — the lines now, and the lines after any number of undos and redos — is free of NUL, and (when `c`)
no command is in progress (`lbuf_modified` has run since the last edit).
-/
set_option linter.unusedSimpArgs false
set_option linter.unusedVariables false
namespace Neatvi.Lemmas.C05f
open Neatvi Neatvi.Uc Neatvi.Lbuf Neatvi.Ex Neatvi.Mot Neatvi.Vi Neatvi.Spec
open Neatvi.Lemmas.Hist

theorem splitLines_noNul {s : Bytes} (h : NoNul s) : ∀ l ∈ splitLines s, NoNul l :=
  splitAux_all (fun ha => noNul_append.mpr ⟨ha, by decide⟩)
    (fun hab => ⟨(noNul_append.mp hab).1, (noNul_cons.mp (noNul_append.mp hab).2).2⟩) s [] (by simpa using h)

theorem optLines_noNul {o : Option Bytes} (h : NoNulO o) : ∀ l ∈ optLines o, NoNul l := by
  cases o with
  | none => intro l hl; simp [optLines] at hl
  | some x => exact splitLines_noNul (h x rfl)

/-! ### the history -/

/-- the texts of the history hold no NUL: the ghost text before the first record, and after each record -/
def TextsNoNul (T0 : Text) (hist : List Entry) : Prop := ∀ k, ∀ l ∈ applyFwd T0 (hist.take k), NoNul l

def HistOk (lb : Lb) (c : Prop) : Prop :=
  ∃ T0 z pg fg, Inv T0 lb z pg fg ∧ (c → z.open_ = false) ∧ TextsNoNul T0 lb.hist

theorem HistOk.weaken {lb : Lb} {c : Prop} (h : HistOk lb c) : HistOk lb False := by
  obtain ⟨T0, z, pg, fg, hi, _, ht⟩ := h
  exact ⟨T0, z, pg, fg, hi, fun hf => hf.elim, ht⟩

theorem HistOk.mono {lb : Lb} {c c' : Prop} (h : HistOk lb c) (hc : c' → c) : HistOk lb c' := by
  obtain ⟨T0, z, pg, fg, hi, ho, ht⟩ := h
  exact ⟨T0, z, pg, fg, hi, fun hf => ho (hc hf), ht⟩

theorem inv_take_histU {T0 lb z pg fg} (h : Inv T0 lb z pg fg) : lb.hist.take lb.histU = ents pg.reverse := by
  rw [h.hist, h.histU]; exact List.take_left

theorem HistOk.lines {lb : Lb} {c : Prop} (h : HistOk lb c) : ∀ l ∈ lb.lines, LineOk l := by
  obtain ⟨T0, z, pg, fg, hi, _, ht⟩ := h
  intro l hl
  refine lineOk_of (hi.wf l hl) ?_
  have := ht lb.histU l
  rw [inv_take_histU hi, ← hi.lines] at this
  exact this hl

theorem HistOk.congr {lb lb' : Lb} {c : Prop} (h : HistOk lb c) (h1 : lb'.hist = lb.hist) (h2 : lb'.histU = lb.histU)
    (h3 : lb'.useq = lb.useq) (h4 : lb'.lines = lb.lines) : HistOk lb' c := by
  obtain ⟨T0, z, pg, fg, hi, ho, ht⟩ := h
  exact ⟨T0, z, pg, fg, hi.congr h1 h2 h3 h4, ho, by rw [h1]; exact ht⟩

theorem histOk_make : HistOk Lbuf.make True :=
  ⟨[], {}, [], [], inv_make, fun _ => rfl, by intro k l hl; simp [Lbuf.make, applyFwd] at hl⟩

theorem HistOk.setMark {lb : Lb} {c : Prop} (h : HistOk lb c) (k : Nat) (p o : Int) : HistOk (setMark lb k p o) c :=
  h.congr (setMark_hist _ _ _ _) (setMark_histU _ _ _ _) (setMark_useq _ _ _ _) (Lemmas.C07.setMark_lines _ _ _ _)

/-- `lbuf_modified`: the command in progress is closed -/
theorem HistOk.modified {lb : Lb} {c : Prop} (h : HistOk lb c) : HistOk (Lbuf.modified lb).2 True := by
  obtain ⟨T0, z, pg, fg, hi, _, ht⟩ := h
  exact ⟨T0, z.commit, pg, fg, inv_bump hi, fun _ => rfl, ht⟩

theorem HistOk.edit {lb : Lb} {c : Prop} (h : HistOk lb c) (buf : Option Bytes) (b e : Nat) (hbe : b ≤ e)
    (hbuf : NoNulO buf) :
    ∃ lb', Lbuf.edit lb buf b e = some lb' ∧ HistOk lb' False ∧
      lb'.lines = splice lb.lines (min b lb.lines.length) (min e lb.lines.length - min b lb.lines.length) (optLines buf) := by
  by_cases hlog : min b lb.lines.length = min e lb.lines.length ∧ buf = none
  · obtain ⟨h1, h2⟩ := hlog
    subst h2
    refine ⟨lb, edit_noop lb b e h1, h.weaken, ?_⟩
    rw [h1, Nat.sub_self]
    exact (splice_noop _ _).symm
  · have hl := h.lines
    obtain ⟨T0, z, pg, fg, hi, _, ht⟩ := h
    obtain ⟨lb', es, en, e1, e2, hlines, f2, e3⟩ := inv_edit_group hi buf b e hbe hlog
      (fun t => splice t (min b lb.lines.length) (min e lb.lines.length - min b lb.lines.length) (optLines buf)) rfl
    refine ⟨lb', e1, ⟨T0, _, _, [], e3, fun hf => hf.elim, ?_⟩, hlines⟩
    have hlold := hl
    intro k l hl'
    rw [f2] at hl'
    by_cases hk : k ≤ (ents pg.reverse).length
    · rw [List.take_append_of_le_length hk] at hl'
      have := ht (min k lb.histU) l
      rw [← List.take_take, inv_take_histU hi] at this
      exact this hl'
    · rw [List.take_of_length_le (by simp; omega)] at hl'
      have h3 : lb'.lines = applyFwd T0 (ents pg.reverse ++ [en]) := by
        have := e3.lines
        have h4 := e3.hist
        simp only [ents_nil, List.append_nil] at h4
        rw [← h4, f2] at this
        exact this
      rw [← h3, hlines] at hl'
      exact splice_all (fun l hl => (hlold l hl).noNul) (optLines_noNul hbuf) l hl'

theorem HistOk.undo {lb : Lb} (h : HistOk lb True) : ∃ rc lb', Lbuf.undo lb = some (rc, lb') ∧ HistOk lb' True := by
  obtain ⟨T0, z, pg, fg, hi, ho, ht⟩ := h
  rcases inv_undo hi (ho trivial) with ⟨_, _, h2⟩ | ⟨g, ps, _, _, lb', hpg, _, h2, _, _, h6⟩
  · exact ⟨1, lb, h2, T0, z, pg, fg, hi, ho, ht⟩
  · refine ⟨0, lb', h2, T0, _, ps, g :: fg, h6, fun _ => rfl, ?_⟩
    have : lb'.hist = lb.hist := by
      rw [h6.hist, hi.hist, hpg]
      simp [ents]
    rw [this]; exact ht

theorem HistOk.redo {lb : Lb} (h : HistOk lb True) : ∃ rc lb', Lbuf.redo lb = some (rc, lb') ∧ HistOk lb' True := by
  obtain ⟨T0, z, pg, fg, hi, ho, ht⟩ := h
  rcases inv_redo hi (ho trivial) with ⟨_, _, h2⟩ | ⟨g, fs, _, _, lb', hfg, _, h2, _, _, h6⟩
  · exact ⟨1, lb, h2, T0, z, pg, fg, hi, ho, ht⟩
  · refine ⟨0, lb', h2, T0, _, g :: pg, fs, h6, fun _ => rfl, ?_⟩
    have : lb'.hist = lb.hist := by
      rw [h6.hist, hi.hist, hfg]
      simp [ents]
    rw [this]; exact ht

/-- the current buffer exists and its line buffer has the invariant -/
def BufsOk (bufs : List (Option Buf)) (c : Prop) : Prop := ∃ b, bufs.getD 0 none = some b ∧ HistOk b.lb c

/-- no register holds a NUL -/
def RegsOk (r : Regs) : Prop := ∀ c x, r.buf.getD c none = some x → NoNul x

/-- the keys that are still to be read, the keys recorded for `.`: no NUL among them -/
def QOk (s : VS) : Prop :=
  NoNul s.ibuf ∧ NoNul s.typed ∧ (∀ c ∈ s.vibuf, c ≠ 0) ∧ NoNul s.icmd ∧ NoNul s.repCmd

end Neatvi.Lemmas.C05f
