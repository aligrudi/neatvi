import NeatviVerif.Lemmas.C05fC
import NeatviVerif.Lemmas.C05fStr
import NeatviVerif.Lemmas.C08Regs
/-!
# C05f, part D: the primitives that touch the line buffer and the registers

`lbuf_edit`, `lbuf_mark`, `lbuf_modified`, `reg_put`, `reg_get` as the vi layer calls them.
-/
set_option linter.unusedSimpArgs false
set_option linter.unusedVariables false
namespace Neatvi.Lemmas.C05f
open Neatvi Neatvi.Uc Neatvi.Lbuf Neatvi.Ex Neatvi.Mot Neatvi.Vi Neatvi.Spec
open Neatvi.Lemmas.Hist

/-! ### `Ed.setLb` -/

@[simp] theorem setLb_regs (ed : Ed) (lb : Lb) : (ed.setLb lb).regs = ed.regs := by unfold Ed.setLb; split <;> rfl
@[simp] theorem setLb_xrow (ed : Ed) (lb : Lb) : (ed.setLb lb).xrow = ed.xrow := by unfold Ed.setLb; split <;> rfl
@[simp] theorem setLb_xoff (ed : Ed) (lb : Lb) : (ed.setLb lb).xoff = ed.xoff := by unfold Ed.setLb; split <;> rfl
@[simp] theorem setLb_xtop (ed : Ed) (lb : Lb) : (ed.setLb lb).xtop = ed.xtop := by unfold Ed.setLb; split <;> rfl
@[simp] theorem setLb_xleft (ed : Ed) (lb : Lb) : (ed.setLb lb).xleft = ed.xleft := by unfold Ed.setLb; split <;> rfl
@[simp] theorem setLb_xtd (ed : Ed) (lb : Lb) : (ed.setLb lb).xtd = ed.xtd := by unfold Ed.setLb; split <;> rfl
@[simp] theorem setLb_xquit (ed : Ed) (lb : Lb) : (ed.setLb lb).xquit = ed.xquit := by unfold Ed.setLb; split <;> rfl
@[simp] theorem setLb_xkwd (ed : Ed) (lb : Lb) : (ed.setLb lb).xkwd = ed.xkwd := by unfold Ed.setLb; split <;> rfl
@[simp] theorem setLb_xkwddir (ed : Ed) (lb : Lb) : (ed.setLb lb).xkwddir = ed.xkwddir := by unfold Ed.setLb; split <;> rfl
@[simp] theorem setLb_xic (ed : Ed) (lb : Lb) : (ed.setLb lb).xic = ed.xic := by unfold Ed.setLb; split <;> rfl
@[simp] theorem setLb_out (ed : Ed) (lb : Lb) : (ed.setLb lb).out = ed.out := by unfold Ed.setLb; split <;> rfl

theorem BufsOk.lb {bufs : List (Option Buf)} {c : Prop} (h : BufsOk bufs c) (ed : Ed) (hb : ed.bufs = bufs) :
    ∃ lb, ed.lb = some lb ∧ HistOk lb c := by
  obtain ⟨b, h1, h2⟩ := h
  refine ⟨b.lb, ?_, h2⟩
  unfold Ed.lb Ed.cur
  rw [hb, h1]; rfl

theorem bufsOk_setLb {ed : Ed} {c c' : Prop} (h : BufsOk ed.bufs c) {lb : Lb} (hl : HistOk lb c') :
    BufsOk (ed.setLb lb).bufs c' := by
  obtain ⟨b, h1, _⟩ := h
  unfold Ed.setLb Ed.cur
  rw [h1]
  simp only [Ed.setCur]
  refine ⟨{ b with lb := lb }, ?_, hl⟩
  have hne : 0 < ed.bufs.length := by
    cases hb : ed.bufs with
    | nil => rw [hb] at h1; simp at h1
    | cons x r => simp
  rw [List.getD_eq_getElem?_getD, List.getElem?_set_self hne]
  rfl

theorem setLb_lb {ed : Ed} {c : Prop} (h : BufsOk ed.bufs c) (lb : Lb) : (ed.setLb lb).lb = some lb := by
  obtain ⟨b, h1, _⟩ := h
  have := Lemmas.C07.setLb_lb ed lb
  rw [this]
  unfold Ed.lb Ed.cur
  rw [h1]; rfl

theorem lines_of_lb {s : VS} {lb : Lb} (h : s.ed.lb = some lb) : lines s = lb.lines := by
  unfold lines; rw [h]

theorem lenOf_of_lb {s : VS} {lb : Lb} (h : s.ed.lb = some lb) : lenOf s = lb.lines.length := by
  unfold lenOf; rw [lines_of_lb h]

theorem BufsOk.linesOk {s : VS} {c : Prop} (h : BufsOk s.ed.bufs c) : ∀ l ∈ lines s, LineOk l := by
  obtain ⟨lb, h1, h2⟩ := h.lb s.ed rfl
  rw [lines_of_lb h1]
  exact h2.lines

theorem wp_edEdit {s : VS} {c : Prop} (hb : BufsOk s.ed.bufs c) (txt : Option Bytes) (b e : Int) (h0 : 0 ≤ b)
    (hbe : b ≤ e) (ht : NoNulO txt) (Q : Unit → VS → Prop)
    (hQ : ∀ lb lb', s.ed.lb = some lb → HistOk lb' False →
      lb'.lines = splice lb.lines (min b.toNat lb.lines.length)
        (min e.toNat lb.lines.length - min b.toNat lb.lines.length) (optLines txt) →
      Q () { s with ed := s.ed.setLb lb' }) : wp (edEdit txt b e) Q s := by
  obtain ⟨lb, h1, h2⟩ := hb.lb s.ed rfl
  obtain ⟨lb', e1, e2, e3⟩ := h2.edit txt b.toNat e.toNat (by omega) ht
  have : edEdit txt b e s = Res.ok () { s with ed := s.ed.setLb lb' } := by
    unfold edEdit Ed.edit
    rw [if_neg (by simp; omega), h1]
    simp only [e1, Option.map_some]
  unfold wp
  rw [this]
  exact hQ lb lb' h1 e2 e3

/-! ### marks, `lbuf_modified` -/

/-- `ed` after `lbuf_mark(xb, k, p, o)` -/
def markEd (ed : Ed) (k : Nat) (p o : Int) : Ed :=
  match ed.lb with | some lb => ed.setLb (setMark lb k p o) | none => ed

/-- `ed` after `lbuf_modified(xb)` -/
def modEd (ed : Ed) : Ed :=
  match ed.lb with | some lb => ed.setLb (Lbuf.modified lb).2 | none => ed

theorem bufsOk_markSet {s : VS} {c : Prop} (hb : BufsOk s.ed.bufs c) (k : Nat) (p o : Int) :
    BufsOk (markEd s.ed k p o).bufs c := by
  obtain ⟨lb, h1, h2⟩ := hb.lb s.ed rfl
  unfold markEd
  rw [h1]
  exact bufsOk_setLb hb (h2.setMark k p o)

@[simp] theorem wp_markSet (k : Nat) (p o : Int) (Q : Unit → VS → Prop) (s : VS) :
    wp (markSet k p o) Q s ↔ Q () { s with ed := markEd s.ed k p o } := Iff.rfl

@[simp] theorem wp_lbufModified (Q : Unit → VS → Prop) (s : VS) :
    wp lbufModified Q s ↔ Q () { s with ed := modEd s.ed } := Iff.rfl

theorem bufsOk_modified {s : VS} {c : Prop} (hb : BufsOk s.ed.bufs c) : BufsOk (modEd s.ed).bufs True := by
  obtain ⟨lb, h1, h2⟩ := hb.lb s.ed rfl
  unfold modEd
  rw [h1]
  exact bufsOk_setLb hb h2.modified

@[simp] theorem markEd_regs (ed : Ed) (k : Nat) (p o : Int) : (markEd ed k p o).regs = ed.regs := by
  unfold markEd; split <;> simp
@[simp] theorem markEd_xrow (ed : Ed) (k : Nat) (p o : Int) : (markEd ed k p o).xrow = ed.xrow := by
  unfold markEd; split <;> simp
@[simp] theorem markEd_xoff (ed : Ed) (k : Nat) (p o : Int) : (markEd ed k p o).xoff = ed.xoff := by
  unfold markEd; split <;> simp
@[simp] theorem markEd_xquit (ed : Ed) (k : Nat) (p o : Int) : (markEd ed k p o).xquit = ed.xquit := by
  unfold markEd; split <;> simp
@[simp] theorem markEd_xtop (ed : Ed) (k : Nat) (p o : Int) : (markEd ed k p o).xtop = ed.xtop := by
  unfold markEd; split <;> simp
@[simp] theorem markEd_xkwd (ed : Ed) (k : Nat) (p o : Int) : (markEd ed k p o).xkwd = ed.xkwd := by
  unfold markEd; split <;> simp
@[simp] theorem modEd_regs (ed : Ed) : (modEd ed).regs = ed.regs := by unfold modEd; split <;> simp
@[simp] theorem modEd_xrow (ed : Ed) : (modEd ed).xrow = ed.xrow := by unfold modEd; split <;> simp
@[simp] theorem modEd_xoff (ed : Ed) : (modEd ed).xoff = ed.xoff := by unfold modEd; split <;> simp
@[simp] theorem modEd_xquit (ed : Ed) : (modEd ed).xquit = ed.xquit := by unfold modEd; split <;> simp

/-! ### registers -/

theorem regsOk_putRaw {r : Regs} (h : RegsOk r) (c : Nat) {x : Bytes} (hx : NoNul x) (ln : Nat) :
    RegsOk (r.putRaw c x ln) :=
  Lemmas.C08.RegsAll.putRaw noNul_nil (fun ha hb => noNul_append.mpr ⟨ha, hb⟩) h c hx ln

theorem regsOk_put {r : Regs} (h : RegsOk r) (c : Nat) {x : Bytes} (hx : NoNul x) (ln : Nat) :
    RegsOk (r.put c x ln) :=
  Lemmas.C08.RegsAll.put noNul_nil (fun ha hb => noNul_append.mpr ⟨ha, hb⟩) h c hx ln

theorem regsOk_regGet {ed : Ed} (h : RegsOk ed.regs) (hl : ∀ l, ed.line ed.xrow = some l → NoNul l) (c : Nat) :
    NoNulO (regGet ed c) := by
  intro x hx
  unfold regGet at hx
  simp only [] at hx
  generalize (if (c == 34) = true then 0 else c) = c' at hx
  by_cases h1 : (c' == 59) = true
  · rw [if_pos h1] at hx
    cases hx
    cases hq : ed.line ed.xrow with
    | none => simp [NoNul]
    | some l => exact ((hl l hq).takeWhile _)
  · rw [if_neg h1] at hx
    by_cases h2 : (c' == 35) = true
    · rw [if_pos h2] at hx
      cases hx
      intro h0
      have := intStr_ascii _ 0 h0
      omega
    · rw [if_neg h2] at hx
      by_cases h3 : (c' == 94) = true
      · rw [if_pos h3] at hx
        cases hx
        intro h0
        have := intStr_ascii _ 0 h0
        omega
      · rw [if_neg h3] at hx
        exact h _ _ hx

end Neatvi.Lemmas.C05f
