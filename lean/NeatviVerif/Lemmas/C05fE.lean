import NeatviVerif.Lemmas.C05fD
import NeatviVerif.Lemmas.C09Queue
/-!
# C05f, part E: reading keys — `term_read`, `vi_read`, `vi_back`, the prefixes, `led_readchar`, `led_read` (`vi_char`),
`led_line`, `vi_prompt`

Readers never trap.  They change the key queue (and the keymap, the horizontal scroll) only; the texts they
return (`led_readchar`, `led_line`) hold no NUL, whatever is typed (a NUL key yields no text, the keymaps and the
digraph table hold none, and `^P` / `^R` paste registers, which hold none); the indentation `led_line` returns holds
neither a NUL nor a newline.
-/
set_option linter.unusedSimpArgs false
set_option linter.unusedVariables false
namespace Neatvi.Lemmas.C05f
open Neatvi Neatvi.Uc Neatvi.Lbuf Neatvi.Ex Neatvi.Mot Neatvi.Vi Neatvi.Spec
open Neatvi.Lemmas.C09 (pending)

/-- the part of the `ex.c` state the safety argument reads: unchanged -/
def EdF (e e' : Ed) : Prop :=
  e'.bufs = e.bufs ∧ e'.regs = e.regs ∧ e'.xrow = e.xrow ∧ e'.xoff = e.xoff ∧ e'.xkwd = e.xkwd ∧ e'.xquit = e.xquit

theorem EdF.refl (e : Ed) : EdF e e := ⟨rfl, rfl, rfl, rfl, rfl, rfl⟩
theorem EdF.of_eq {e e' : Ed} (h : e' = e) : EdF e e' := h ▸ EdF.refl e
theorem EdF.trans {a b c : Ed} (h1 : EdF a b) (h2 : EdF b c) : EdF a c :=
  ⟨h2.1.trans h1.1, h2.2.1.trans h1.2.1, h2.2.2.1.trans h1.2.2.1, h2.2.2.2.1.trans h1.2.2.2.1,
    h2.2.2.2.2.1.trans h1.2.2.2.2.1, h2.2.2.2.2.2.trans h1.2.2.2.2.2⟩
theorem EdF.bufs {e e' : Ed} (h : EdF e e') : e'.bufs = e.bufs := h.1
theorem EdF.regs {e e' : Ed} (h : EdF e e') : e'.regs = e.regs := h.2.1
theorem EdF.xrow {e e' : Ed} (h : EdF e e') : e'.xrow = e.xrow := h.2.2.1
theorem EdF.xoff {e e' : Ed} (h : EdF e e') : e'.xoff = e.xoff := h.2.2.2.1
theorem EdF.xkwd {e e' : Ed} (h : EdF e e') : e'.xkwd = e.xkwd := h.2.2.2.2.1
theorem EdF.xquit {e e' : Ed} (h : EdF e e') : e'.xquit = e.xquit := h.2.2.2.2.2

theorem EdF.lb {e e' : Ed} (h : EdF e e') : e'.lb = e.lb := by unfold Ed.lb Ed.cur; rw [h.bufs]
theorem EdF.lines {s s' : VS} (h : EdF s.ed s'.ed) : lines s' = lines s := by unfold Vi.lines; rw [h.lb]
theorem EdF.lenOf {s s' : VS} (h : EdF s.ed s'.ed) : lenOf s' = lenOf s := by unfold Vi.lenOf; rw [h.lines]
theorem EdF.lineOf {s s' : VS} (h : EdF s.ed s'.ed) (r : Int) : lineOf s' r = lineOf s r := by
  unfold Vi.lineOf; rw [h.lines]
theorem EdF.line {e e' : Ed} (h : EdF e e') (r : Int) : e'.line r = e.line r := by unfold Ed.line; rw [h.lb]

/-- all keys still to come, in the order `vi_read` delivers them -/
def allQ (s : VS) : List Int := s.vibuf ++ (pending s).map Int.ofNat

theorem allQ_viBack (s : VS) (c : Int) : allQ { s with vibuf := c :: s.vibuf } = c :: allQ s := rfl

theorem wp_termRead (s : VS) (Q : Int → VS → Prop)
    (hQ : ∀ (k : Nat) s', s'.ed = s.ed → s'.vibuf = s.vibuf → pending s = k :: pending s' → Q k s') :
    wp termRead Q s := by
  cases hp : pending s with
  | nil => unfold wp; rw [Lemmas.C09.termRead_eof s hp]; trivial
  | cons k rest =>
    obtain ⟨ib, ip, ty, h1, h2, _⟩ := Lemmas.C09.termRead_ok s k rest hp
    unfold wp; rw [h1]
    refine hQ k _ rfl rfl ?_
    show _ = k :: (ib.drop ip ++ ty)
    rw [h2]; exact hp

theorem wp_viRead (s : VS) (Q : Int → VS → Prop)
    (hQ : ∀ c s', s'.ed = s.ed → allQ s = c :: allQ s' → Q c s') : wp viRead Q s := by
  cases hv : s.vibuf with
  | nil =>
    have he : viRead s = termRead s := by unfold viRead; rw [hv]
    unfold wp; rw [he]
    refine wp_termRead s Q (fun k s' he hvb hp => hQ k s' he ?_)
    unfold allQ
    rw [hvb, hv, hp]; simp
  | cons c r =>
    have he : viRead s = Res.ok c { s with vibuf := r } := by unfold viRead; rw [hv]
    unfold wp; rw [he]
    refine hQ c _ rfl ?_
    unfold allQ; rw [hv]; rfl

/-! ### the prefixes -/

/-- what the prefix readers guarantee: the `ex.c` state is as before and the keys to come are a rest of those before -/
def PfxPost (s s' : VS) : Prop := s'.ed = s.ed ∧ allQ s' <:+ allQ s

theorem PfxPost.refl (s : VS) : PfxPost s s := ⟨rfl, List.suffix_refl _⟩
theorem PfxPost.trans {a b c : VS} (h1 : PfxPost a b) (h2 : PfxPost b c) : PfxPost a c :=
  ⟨h2.1.trans h1.1, h2.2.trans h1.2⟩
theorem pfx_read {s s' : VS} {c : Int} (he : s'.ed = s.ed) (hq : allQ s = c :: allQ s') : PfxPost s s' :=
  ⟨he, by rw [hq]; exact List.suffix_cons _ _⟩
theorem pfx_read_back {s s' : VS} {c : Int} (he : s'.ed = s.ed) (hq : allQ s = c :: allQ s') :
    PfxPost s { s' with vibuf := c :: s'.vibuf } := ⟨he, by rw [allQ_viBack, hq]; exact List.suffix_refl _⟩

theorem wp_viYankbuf (s : VS) (Q : Nat → VS → Prop) (hQ : ∀ a s', PfxPost s s' → Q a s') : wp viYankbuf Q s := by
  unfold viYankbuf
  wpn
  refine wp_viRead s _ (fun c s1 e1 q1 => ?_)
  split
  · wpn
    refine wp_viRead s1 _ (fun c2 s2 e2 q2 => ?_)
    have p2 : PfxPost s s2 := (pfx_read e1 q1).trans (pfx_read e2 q2)
    split
    · wpn
      refine wp_viRead s2 _ (fun c3 s3 e3 q3 => ?_)
      exact hQ _ _ (p2.trans (pfx_read e3 q3))
    · exact hQ _ _ p2
  · wpn
    exact hQ _ _ (pfx_read_back e1 q1)

theorem wp_digits (f : Nat) : ∀ (n c : Int) (s0 s : VS) (Q : Int → VS → Prop),
    PfxPost s0 { s with vibuf := c :: s.vibuf } → (∀ a s', PfxPost s0 s' → Q a s') →
    wp (viPrefix.digits f n c) Q s := by
  induction f with
  | zero =>
    intro n c s0 s Q hp hQ
    unfold viPrefix.digits
    wpn
    exact hQ _ _ hp
  | succ f ih =>
    intro n c s0 s Q hp hQ
    unfold viPrefix.digits
    split
    · wpn
      refine wp_viRead s _ (fun c' s1 e1 q1 => ?_)
      refine ih _ _ s0 s1 Q ?_ hQ
      refine hp.trans ⟨e1, ?_⟩
      rw [allQ_viBack, allQ_viBack, q1]
      exact (List.suffix_cons _ _)
    · wpn
      exact hQ _ _ hp

theorem wp_viPrefix (s : VS) (Q : Int → VS → Prop) (hQ : ∀ a s', PfxPost s s' → Q a s') : wp viPrefix Q s := by
  unfold viPrefix
  wpn
  refine wp_viRead s _ (fun c s1 e1 q1 => ?_)
  split
  · exact wp_digits 64 0 c s s1 Q (pfx_read_back e1 q1) hQ
  · wpn
    exact hQ _ _ (pfx_read_back e1 q1)

/-- a computation that never traps and keeps the `ex.c` frame -/
def Rd {α : Type} (m : M α) : Prop := ∀ s Q, (∀ a s', EdF s.ed s'.ed → Q a s') → wp m Q s

theorem rd_termRead : Rd termRead := fun s Q hQ => wp_termRead s Q (fun k s' he _ _ => hQ k s' (EdF.of_eq he))

theorem rd_readKey_more : ∀ k, Rd (readKey.more k) := by
  intro k
  induction k with
  | zero => intro s Q hQ; unfold readKey.more; wpn; exact hQ _ _ (EdF.refl _)
  | succ k ih =>
    intro s Q hQ
    unfold readKey.more
    wpn
    refine rd_termRead s _ (fun _ s1 e1 => ?_)
    exact ih s1 Q (fun a s' e2 => hQ a s' (e1.trans e2))

theorem rd_readKey : Rd readKey := by
  intro s Q hQ
  unfold readKey
  wpn
  refine rd_termRead s _ (fun c s1 e1 => ?_)
  split
  · wpn
    refine rd_readKey_more _ s1 _ (fun _ s2 e2 => ?_)
    exact hQ _ _ (e1.trans e2)
  · exact hQ _ _ e1

/-! ### the tables -/

theorem kmaps_noNul_b : (Gen.kmaps.all (fun km => km.all (fun e => !e.2.contains 0))) = true := by decide +kernel
theorem digraphs_noNul_b : (Gen.digraphs.all (fun e => !e.2.contains 0)) = true := by decide +kernel

theorem kmapMap_noNul (kmap c : Nat) : NoNul (kmapMap kmap c) := by
  unfold kmapMap
  split
  · exact noNul_nil
  · rename_i hc
    split
    · rename_i e he
      have hm := List.mem_of_find?_eq_some he
      have hk : Gen.kmaps.getD kmap [] ∈ Gen.kmaps ∨ Gen.kmaps.getD kmap [] = [] := by
        rw [List.getD_eq_getElem?_getD]
        cases h : Gen.kmaps[kmap]? with
        | none => right; rfl
        | some x => left; exact List.mem_of_getElem? h
      rcases hk with hk | hk
      · have := List.all_eq_true.mp kmaps_noNul_b _ hk
        have := List.all_eq_true.mp this _ hm
        intro h0
        simp [List.contains_iff_mem] at this
        exact this h0
      · rw [hk] at hm; simp at hm
    · refine noNul_singleton.mpr ?_
      simpa using hc

theorem digraph_noNul (p : List Nat × List Nat → Bool) (e : List Nat × List Nat)
    (h : Gen.digraphs.find? p = some e) : NoNul e.2 := by
  have hm := List.mem_of_find?_eq_some h
  have := List.all_eq_true.mp digraphs_noNul_b _ hm
  intro h0
  simp [List.contains_iff_mem] at this
  exact this h0

/-! ### `led_readchar` -/

theorem wp_readCharS_more : ∀ (k : Nat) (acc : Bytes) (s : VS) (Q : Bytes → VS → Prop),
    (∀ bs s', EdF s.ed s'.ed → Q bs s') → wp (readCharS.more k acc) Q s := by
  intro k
  induction k with
  | zero => intro acc s Q hQ; unfold readCharS.more; wpn; exact hQ _ _ (EdF.refl _)
  | succ k ih =>
    intro acc s Q hQ
    unfold readCharS.more
    wpn
    refine rd_termRead s _ (fun _ s1 e1 => ?_)
    exact ih _ s1 Q (fun a s' e2 => hQ a s' (e1.trans e2))

theorem wp_readCharS (c : Int) (kmap : Nat) (s : VS) (Q : Option Bytes → VS → Prop)
    (hQ : ∀ r s', EdF s.ed s'.ed → (∀ cs, r = some cs → NoNul cs) → Q r s') : wp (readCharS c kmap) Q s := by
  unfold readCharS
  wpif h22
  · wpn
    refine rd_termRead s _ (fun d s1 e1 => ?_)
    refine hQ _ _ e1 (fun cs hcs => ?_)
    cases hcs
    split
    · exact noNul_nil
    · rename_i h; exact noNul_singleton.mpr (by simpa using h)
  · wpif h11
    · wpn
      refine rd_readKey s _ (fun c1 s1 e1 => ?_)
      wpif ht1
      · exact hQ _ _ e1 (fun cs h => by cases h)
      · wpif hc1
        · exact hQ _ _ e1 (fun cs h => by cases h; exact noNul_nil)
        · wpn
          refine rd_readKey s1 _ (fun c2 s2 e2 => ?_)
          wpif ht2
          · exact hQ _ _ (e1.trans e2) (fun cs h => by cases h)
          · refine hQ _ _ (e1.trans e2) (fun cs h => ?_)
            cases hf : Gen.digraphs.find? (fun d => d.1.headD 0 == c1.toNat && d.1.getD 1 0 == c2.toNat) with
            | none => rw [hf] at h; cases h
            | some e =>
              rw [hf] at h
              cases h
              exact digraph_noNul _ e hf
    · wpif h192
      · wpn
        refine wp_readCharS_more _ _ s _ (fun bs s1 e1 => ?_)
        exact hQ _ _ e1 (fun cs h => by cases h; exact noNul_takeWhile_ne _)
      · exact hQ _ _ (EdF.refl _) (fun cs h => by cases h; exact kmapMap_noNul _ _)

theorem wp_viChar_go : ∀ (f : Nat) (s : VS) (Q : Option Bytes → VS → Prop),
    (∀ r s', EdF s.ed s'.ed → (∀ cs, r = some cs → NoNul cs) → Q r s') → wp (viChar.go f) Q s := by
  intro f
  induction f with
  | zero => intro s Q hQ; unfold viChar.go; wpn; exact hQ _ _ (EdF.refl _) (fun cs h => by cases h)
  | succ f ih =>
    intro s Q hQ
    unfold viChar.go
    wpn
    refine rd_termRead s _ (fun c s1 e1 => ?_)
    wpif hc
    · exact hQ _ _ e1 (fun cs h => by cases h)
    · wpif hc
      · wpn
        exact ih _ Q (fun r s' e2 hr => hQ r s' (e1.trans e2) hr)
      · wpif hc
        · wpn
          exact ih _ Q (fun r s' e2 hr => hQ r s' (e1.trans e2) hr)
        · wpn
          exact wp_readCharS _ _ s1 Q (fun r s' e2 hr => hQ r s' (e1.trans e2) hr)

theorem wp_viChar (s : VS) (Q : Option Bytes → VS → Prop)
    (hQ : ∀ r s', EdF s.ed s'.ed → (∀ cs, r = some cs → NoNul cs) → Q r s') : wp viChar Q s := by
  unfold viChar
  exact wp_viChar_go 64 s Q hQ

/-- what the paste keys `^P` / `^R` need: the registers and the current line hold no NUL -/
def PasteOk (ed : Ed) : Prop := RegsOk ed.regs ∧ ∀ l, ed.line ed.xrow = some l → NoNul l

theorem PasteOk.of_EdF {e e' : Ed} (h : PasteOk e) (hf : EdF e e') : PasteOk e' := by
  refine ⟨by rw [hf.regs]; exact h.1, ?_⟩
  intro l hl
  rw [hf.xrow, hf.line] at hl
  exact h.2 l hl

theorem PasteOk.get {ed : Ed} (h : PasteOk ed) (c : Nat) : NoNul ((Ex.regGet ed c).getD []) := by
  cases hr : Ex.regGet ed c with
  | none => exact noNul_nil
  | some x => exact regsOk_regGet h.1 h.2 c x hr

theorem wp_ledLine_go (post : Bytes) (aiMax : Nat) (im pe : Bool) (setKmap : Option Nat → M Unit)
    (getKmap : M Nat) (redraw : Bytes → Bytes → Bytes → M Unit)
    (h1 : ∀ k, Rd (setKmap k)) (h2 : Rd getKmap) (h3 : ∀ a b c, Rd (redraw a b c))
    (s0 : VS) (hp : PasteOk s0.ed) :
    ∀ (f : Nat) (sb ai : Bytes) (c1 : Int) (s : VS) (Q : Bytes × Int × Bytes → VS → Prop),
      EdF s0.ed s.ed → NoNul sb → NoNul ai → 10 ∉ ai →
      (∀ sb' key ai' s', EdF s0.ed s'.ed → NoNul sb' → NoNul ai' → 10 ∉ ai' → Q (sb', key, ai') s') →
      wp (ledLine.go post aiMax im pe setKmap getKmap redraw f sb ai c1) Q s := by
  intro f
  induction f with
  | zero =>
    intro sb ai c1 s Q he hsb hai hnl hQ
    unfold ledLine.go
    wpn
    exact hQ _ _ _ _ he hsb hai hnl
  | succ f ih =>
    intro sb ai c1 s Q he hsb hai hnl hQ
    unfold ledLine.go
    wpn
    refine h3 _ _ _ s _ (fun _ s1 e1 => ?_)
    wpn
    refine rd_termRead s1 _ (fun c s2 e2 => ?_)
    have he2 : EdF s0.ed s2.ed := he.trans (e1.trans e2)
    wpif hc
    · wpn
      refine h1 _ s2 _ (fun _ s3 e3 => ?_)
      exact ih _ _ _ _ Q (he2.trans e3) hsb hai hnl hQ
    wpif hc
    · wpn
      refine h1 _ s2 _ (fun _ s3 e3 => ?_)
      exact ih _ _ _ _ Q (he2.trans e3) hsb hai hnl hQ
    wpif hc
    · refine ih _ _ _ _ Q he2 ?_ hai hnl hQ
      split
      · exact hsb
      · exact hsb.take _
    wpif hc
    · exact ih _ _ _ _ Q he2 noNul_nil hai hnl hQ
    wpif hc
    · refine ih _ _ _ _ Q he2 ?_ hai hnl hQ
      split
      · exact hsb
      · exact hsb.take _
    wpif hc
    · refine ih _ _ _ _ Q he2 hsb ?_ ?_ hQ
      · split
        · exact noNul_append.mpr ⟨hai, by simp [NoNul]⟩
        · exact hai
      · split
        · simp [hnl]
        · exact hnl
    wpif hc
    · refine ih _ _ _ _ Q he2 ?_ hai.dropLast ?_ hQ
      · split
        · exact hsb.drop _
        · exact hsb
      · intro h; exact hnl ((List.dropLast_sublist ai).subset h)
    wpif hc
    · wpn
      refine ih _ _ _ _ Q he2 ?_ hai hnl hQ
      exact noNul_append.mpr ⟨hsb, (hp.of_EdF he2).get 0⟩
    wpif hc
    · wpn
      refine rd_readKey s2 _ (fun y s3 e3 => ?_)
      wpn
      refine ih _ _ _ _ Q (he2.trans e3) ?_ hai hnl hQ
      split
      · exact noNul_append.mpr ⟨hsb, (hp.of_EdF (he2.trans e3)).get _⟩
      · exact hsb
    wpif hc
    · split
      · wpn
        exact ih _ _ _ _ Q he2 hsb hai hnl hQ
      · exact ih _ _ _ _ Q he2 hsb hai hnl hQ
    wpif hc
    · wpn
      refine h3 _ _ _ s2 _ (fun _ s3 e3 => ?_)
      wpn
      exact hQ _ _ _ _ (he2.trans e3) hsb hai hnl
    wpif hc
    · wpn
      exact hQ _ _ _ _ he2 hsb hai hnl
    · wpn
      refine h2 s2 _ (fun km s3 e3 => ?_)
      wpn
      refine wp_readCharS _ _ s3 _ (fun r s4 e4 hr => ?_)
      have he4 : EdF s0.ed s4.ed := he2.trans (e3.trans e4)
      cases r with
      | none => exact ih _ _ _ _ Q he4 hsb hai hnl hQ
      | some cs => exact ih _ _ _ _ Q he4 (noNul_append.mpr ⟨hsb, hr cs rfl⟩) hai hnl hQ

theorem wp_ledLine (pref post ai0 : Bytes) (aiMax : Nat) (im ex : Bool) (s : VS) (hp : PasteOk s.ed)
    (hai : NoNul ai0) (hnl : 10 ∉ ai0) (Q : Bytes × Int × Bytes → VS → Prop)
    (hQ : ∀ sb key ai s', EdF s.ed s'.ed → NoNul sb → NoNul ai → 10 ∉ ai → Q (sb, key, ai) s') :
    wp (ledLine pref post ai0 aiMax im ex) Q s := by
  unfold ledLine
  refine wp_ledLine_go _ _ _ _ _ _ _ ?_ ?_ ?_ s hp _ _ _ _ s Q (EdF.refl _) noNul_nil hai hnl hQ
  · intro k s Q hQ
    wpn
    split <;> exact hQ _ _ (EdF.refl _)
  · intro s Q hQ
    exact hQ _ _ (EdF.refl _)
  · intro a b c s Q hQ
    split
    · wpn; exact hQ _ _ ⟨rfl, rfl, rfl, rfl, rfl, rfl⟩
    · wpn; exact hQ _ _ (EdF.refl _)

theorem wp_viPrompt (ex : Bool) (s : VS) (hp : PasteOk s.ed) (Q : Option Bytes → VS → Prop)
    (hQ : ∀ r s', EdF s.ed s'.ed → (∀ txt, r = some txt → NoNul txt) → Q r s') : wp (viPrompt ex) Q s := by
  unfold viPrompt
  wpn
  refine wp_ledLine _ _ _ _ _ _ s hp noNul_nil (by simp) _ (fun sb key ai s' e hsb _ _ => ?_)
  simp only []
  split
  · wpn; exact hQ _ _ e (fun txt h => by cases h; exact hsb)
  · wpn; exact hQ _ _ e (fun txt h => by cases h)

end Neatvi.Lemmas.C05f
