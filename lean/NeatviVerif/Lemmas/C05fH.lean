import NeatviVerif.Lemmas.Basics
import NeatviVerif.Lemmas.C05fB
import NeatviVerif.Lemmas.Uc
import NeatviVerif.Lemmas.C06Ex
import NeatviVerif.Props.C07
/-!
# C05f, part H: the scanners of `mot.c` and `ren.c` stay inside the buffer

`PosIn ls r o`: the row is not negative and the offset is at most the number of characters of the line
(`0` for a row beyond the buffer); a negative offset (the marker of a line motion) is allowed.  Every scanner
returns such a position — `lbuf_next`, the word motions, `%`, `{ }`, `f t ; ,`, `lbuf_eol`, `lbuf_indents`,
`ren_off`.
-/
set_option linter.unusedSimpArgs false
set_option linter.unusedVariables false
namespace Neatvi.Lemmas.C05f
open Neatvi Neatvi.Uc Neatvi.Lbuf Neatvi.Ex Neatvi.Mot Neatvi.Vi

/-- a position the operators can work with -/
def PosIn (ls : Lines) (r o : Int) : Prop := 0 ≤ r ∧ o ≤ slenAt ls r

theorem lineAt_nonneg {ls : Lines} {r : Int} {l : Bytes} (h : lineAt ls r = some l) : 0 ≤ r := by
  unfold lineAt at h
  split at h
  · cases h
  · omega

theorem lineAt_isSome_nonneg {ls : Lines} {r : Int} (h : ¬ lineAt ls r = none) : 0 ≤ r := by
  cases hl : lineAt ls r with
  | none => exact absurd hl h
  | some l => exact lineAt_nonneg hl

theorem eol_le (ls : Lines) (r : Int) : eol ls r ≤ slenAt ls r := by
  have := Lemmas.C07.slenAt_nonneg ls r
  unfold eol
  simp only []
  split <;> omega

theorem eol_nonneg (ls : Lines) (r : Int) : 0 ≤ eol ls r :=
  Lemmas.C07.eol_nonneg ls r

theorem next_pos {ls : Lines} {dir r o r' o' : Int} (h : next ls dir r o = some (r', o')) : PosIn ls r' o' := by
  obtain ⟨hs, _⟩ := Props.C07.next_spec ls dir r o
  rcases hs r' o' h with ⟨e, _, _, h4, h5⟩ | ⟨_, h2, h3, _⟩
  · rw [e]
    exact ⟨lineAt_isSome_nonneg (by simpa [Option.isSome_iff_ne_none] using h5), by omega⟩
  · refine ⟨lineAt_isSome_nonneg (by simpa [Option.isSome_iff_ne_none] using h2), ?_⟩
    rw [h3]
    split
    · exact Lemmas.C07.slenAt_nonneg _ _
    · exact eol_le _ _

/-- a property of the value of an option -/
def OptAll {α : Type} (P : α → Prop) : Option α → Prop
  | none => True
  | some x => P x

theorem OptAll.of_eq {α : Type} {P : α → Prop} {o : Option α} (h : OptAll P o) {x : α} (hx : o = some x) : P x := by
  subst hx; exact h

theorem OptAll.ite {α : Type} {P : α → Prop} {c : Prop} [Decidable c] {a b : Option α} (ha : OptAll P a)
    (hb : OptAll P b) : OptAll P (if c then a else b) := by
  split
  · exact ha
  · exact hb

/-- split every `if` / `match` of the goal, unfolding the `let`s in between -/
macro "splits" : tactic => `(tactic| repeat' (first | split | dsimp only))

/-! ### the word motions -/

theorem wordlast_go_pos (ls : Lines) (kind : Nat) (dir : Int) : ∀ (f : Nat) (r o : Int), PosIn ls r o →
    PosIn ls (wordlast.go ls kind dir f r o).2.1 (wordlast.go ls kind dir f r o).2.2 := by
  intro f
  induction f with
  | zero => intro r o h; unfold wordlast.go; exact h
  | succ f ih =>
    intro r o h
    unfold wordlast.go
    refine Basics.ite_elim (P := fun x : Bool × Int × Int => PosIn ls x.2.1 x.2.2) (fun _ => ?_) (fun _ => h)
    cases hn : next ls dir r o with
    | none => exact h
    | some p =>
      obtain ⟨r', o'⟩ := p
      exact ih _ _ (next_pos hn)

theorem wordlast_go_eq {ls : Lines} {kind : Nat} {dir : Int} {f : Nat} {r o : Int} {b : Bool} {r' o' : Int}
    (he : wordlast.go ls kind dir f r o = (b, r', o')) (h : PosIn ls r o) : PosIn ls r' o' := by
  have := wordlast_go_pos ls kind dir f r o h
  rw [he] at this; exact this

theorem wordlast_pos (ls : Lines) (kind : Nat) (dir r o : Int) (h : PosIn ls r o) :
    PosIn ls (wordlast ls kind dir r o).2.1 (wordlast ls kind dir r o).2.2 := by
  unfold wordlast
  splits
  all_goals first | exact h | exact next_pos (by assumption) | exact wordlast_go_eq (by assumption) h

theorem wordlast_eq {ls : Lines} {kind : Nat} {dir r o : Int} {b : Bool} {r' o' : Int}
    (he : wordlast ls kind dir r o = (b, r', o')) (h : PosIn ls r o) : PosIn ls r' o' := by
  have := wordlast_pos ls kind dir r o h
  rw [he] at this; exact this

theorem wordbeg_go_pos (ls : Lines) (dir : Int) : ∀ (f : Nat) (r o : Int) (nl : Nat), PosIn ls r o →
    PosIn ls (wordbeg.go ls dir f r o nl).2.1 (wordbeg.go ls dir f r o nl).2.2 := by
  intro f
  induction f with
  | zero => intro r o nl h; unfold wordbeg.go; exact h
  | succ f ih =>
    intro r o nl h
    unfold wordbeg.go
    refine Basics.ite_elim (P := fun x : Bool × Int × Int => PosIn ls x.2.1 x.2.2) (fun _ => ?_) (fun _ => h)
    refine Basics.ite_elim (P := fun x : Bool × Int × Int => PosIn ls x.2.1 x.2.2) (fun _ => h) (fun _ => ?_)
    cases hn : next ls dir r o with
    | none => exact h
    | some p =>
      obtain ⟨r', o'⟩ := p
      exact ih _ _ _ (next_pos hn)

theorem wordbeg_pos (ls : Lines) (big : Bool) (dir r o : Int) (h : PosIn ls r o) :
    PosIn ls (wordbeg ls big dir r o).2.1 (wordbeg ls big dir r o).2.2 := by
  unfold wordbeg
  splits
  all_goals first
    | exact wordlast_eq (by assumption) h
    | exact wordbeg_go_pos ls dir _ _ _ _ (next_pos (by assumption))

theorem wordend_go_pos (ls : Lines) (dir : Int) : ∀ (f : Nat) (r o : Int) (nl : Nat), PosIn ls r o →
    OptAll (fun x => PosIn ls x.2.1 x.2.2) (wordend.go ls dir f r o nl) := by
  intro f
  induction f with
  | zero => intro r o nl h; unfold wordend.go; exact h
  | succ f ih =>
    intro r o nl h
    unfold wordend.go
    by_cases hsp : isSpaceAt ls r o = true
    · rw [if_pos hsp]
      cases hn : next ls dir r o with
      | none => exact h
      | some p =>
        obtain ⟨r', o'⟩ := p
        have hp := next_pos hn
        refine OptAll.ite (OptAll.ite ?_ hp) (ih _ _ _ hp)
        cases hb : next ls (-dir) r' o' with
        | none => exact hp
        | some q => exact next_pos hb
    · rw [if_neg hsp]
      trivial

theorem wordend_pos_pos (ls : Lines) (dir : Int) : ∀ (f : Nat) (r o : Int) (nl : Nat), PosIn ls r o →
    PosIn ls (wordend.pos ls dir f r o nl).1 (wordend.pos ls dir f r o nl).2 := by
  intro f
  induction f with
  | zero => intro r o nl h; unfold wordend.pos; exact h
  | succ f ih =>
    intro r o nl h
    unfold wordend.pos
    refine Basics.ite_elim (P := fun x : Int × Int => PosIn ls x.1 x.2) (fun _ => ?_) (fun _ => h)
    cases hn : next ls dir r o with
    | none => exact h
    | some p =>
      obtain ⟨r', o'⟩ := p
      exact Basics.ite_elim (P := fun x : Int × Int => PosIn ls x.1 x.2) (fun _ => next_pos hn)
        (fun _ => ih _ _ _ (next_pos hn))

theorem wordend_pos_eq {ls : Lines} {dir : Int} {f : Nat} {r o : Int} {nl : Nat} {r' o' : Int}
    (he : wordend.pos ls dir f r o nl = (r', o')) (h : PosIn ls r o) : PosIn ls r' o' := by
  have := wordend_pos_pos ls dir f r o nl h
  rw [he] at this; exact this

theorem wordend_step1 {ls : Lines} {dir r o r1 o1 : Int} {nl : Nat} (h : PosIn ls r o)
    (hs : (if (!isSpaceAt ls r o) = true then
        match next ls dir r o with
        | none => none
        | some (r', o') => some (r', o', if (decide (dir < 0) && codeAt ls r' o' == 10) = true then 1 else 0)
      else some (r, o, 0)) = some (r1, o1, nl)) : PosIn ls r1 o1 := by
  by_cases hc : (!isSpaceAt ls r o) = true
  · rw [if_pos hc] at hs
    cases hn : next ls dir r o with
    | none => rw [hn] at hs; cases hs
    | some p =>
      obtain ⟨r', o'⟩ := p
      rw [hn] at hs
      cases hs
      exact next_pos hn
  · rw [if_neg hc] at hs
    cases hs; exact h

theorem wordend_pos (ls : Lines) (big : Bool) (dir r o : Int) (h : PosIn ls r o) :
    PosIn ls (wordend ls big dir r o).2.1 (wordend ls big dir r o).2.2 := by
  unfold wordend
  dsimp only
  split
  · exact h
  · rename_i r1 o1 nl hs
    have h1 : PosIn ls r1 o1 := wordend_step1 h hs
    split
    · rename_i res hg
      exact (wordend_go_pos ls dir _ r1 o1 _ h1).of_eq hg
    · splits
      all_goals exact wordlast_pos ls _ dir _ _ (wordend_pos_pos ls dir _ r1 o1 _ h1)

/-! ### `%`, `{ }` -/

theorem pair_go_pos (ls : Lines) (pchr other : Nat) (dir : Int) : ∀ (f : Nat) (r o dep : Int),
    OptAll (fun x => PosIn ls x.1 x.2) (pair.go ls pchr other dir f r o dep) := by
  intro f
  induction f with
  | zero => intro r o dep; unfold pair.go; trivial
  | succ f ih =>
    intro r o dep
    unfold pair.go
    cases hn : next ls dir r o with
    | none => trivial
    | some p =>
      obtain ⟨r', o'⟩ := p
      exact OptAll.ite (next_pos hn) (ih _ _ _)

theorem pair_pos (ls : Lines) (r o : Int) (x : Int × Int) (h : pair ls r o = some x) : PosIn ls x.1 x.2 := by
  unfold pair at h
  simp only [] at h
  split at h
  · cases h
  · exact (pair_go_pos ls _ _ _ _ _ _ _).of_eq h

theorem paragraphbeg_pos (ls : Lines) (dir r : Int) : PosIn ls (paragraphbeg ls dir r).1 (paragraphbeg ls dir r).2 :=
  ⟨(Props.C07.paragraphbeg_range ls dir r).2.1, (Props.C07.paragraphbeg_range ls dir r).1 ▸ Lemmas.C07.slenAt_nonneg _ _⟩

/-! ### `f t F T ; ,` -/

theorem stepd_le {len p d q : Int} (hp : p ≤ len) (h : Lemmas.C07.stepdOf len p d = some q) : q ≤ len := by
  unfold Lemmas.C07.stepdOf at h
  by_cases hd : d < 0
  · rw [if_pos hd] at h
    by_cases h0 : p ≤ 0
    · rw [if_pos h0] at h; cases h
    · rw [if_neg h0] at h; cases h; omega
  · rw [if_neg hd] at h
    by_cases h0 : p + 1 ≥ len
    · rw [if_pos h0] at h; cases h
    · rw [if_neg h0] at h; cases h; omega

theorem findchar_go_le (ln : Bytes) (dir : Int) (want : Nat) (len : Int) :
    ∀ (f : Nat) (p k : Int), p ≤ len → (findchar.go ln dir want (Lemmas.C07.stepdOf len) f p k).1 ≤ len := by
  intro f
  induction f with
  | zero => intro p k h; unfold findchar.go; exact h
  | succ f ih =>
    intro p k h
    unfold findchar.go
    splits
    all_goals first | exact h | exact ih _ _ (stepd_le h (by assumption))

theorem findchar_le (ls : Lines) (cs : Bytes) (cmd : Nat) (n r o p : Int)
    (h : findchar ls cs cmd n r o = some p) : p ≤ slenAt ls r := by
  unfold findchar at h
  cases hl : lineAt ls r with
  | none => rw [hl] at h; cases h
  | some ln =>
    rw [hl] at h
    simp only [] at h
    have hs : slenAt ls r = ucSlen ln := by unfold slenAt; rw [hl]
    rw [hs]
    change (match findchar.go ln _ _ (Lemmas.C07.stepdOf (ucSlen ln)) _ _ _ with
      | (p, k) => if (k != 0) = true then none else
        some (if (cmd == 116 || cmd == 84) = true then (Lemmas.C07.stepdOf (ucSlen ln) p _).getD p else p)) = some p at h
    have hstart : (if o < (ucSlen ln : Int) then o else (ucSlen ln : Int)) ≤ (ucSlen ln : Int) := by split <;> omega
    have hg := findchar_go_le ln (if n < 0 then -(if cmd == 102 || cmd == 116 then 1 else -1) else
      (if cmd == 102 || cmd == 116 then (1 : Int) else -1)) ((ucCode cs).getD 0) (ucSlen ln) (ln.length + 2)
      (if o < (ucSlen ln : Int) then o else (ucSlen ln : Int)) (if n < 0 then -n else n) hstart
    revert h
    generalize findchar.go ln _ _ _ _ _ _ = q at hg ⊢
    obtain ⟨p1, k1⟩ := q
    simp only [] at hg ⊢
    intro h
    by_cases hk : (k1 != 0) = true
    · rw [if_pos hk] at h; cases h
    · rw [if_neg hk] at h
      cases h
      by_cases hc : (cmd == 116 || cmd == 84) = true
      · rw [if_pos hc]
        cases hq : Lemmas.C07.stepdOf (ucSlen ln) p1 (-(if n < 0 then -(if (cmd == 102 || cmd == 116) = true then (1 : Int) else -1)
            else if (cmd == 102 || cmd == 116) = true then 1 else -1)) with
        | none => exact hg
        | some q => exact stepd_le hg hq
      · rw [if_neg hc]; exact hg

/-! ### `lbuf_indents`, `ren_off`, `uc_off` -/

theorem takeWhile_ascii_le_slen (p : Nat → Bool) (hp : ∀ c, p c = true → 0 < c ∧ c < 128) :
    ∀ ln : Bytes, (ln.takeWhile p).length ≤ ucSlen ln := by
  intro ln
  induction ln with
  | nil => simp
  | cons c r ih =>
    rw [List.takeWhile_cons]
    split
    · rename_i hc
      obtain ⟨h0, h1⟩ := hp c hc
      have hs := Lemmas.C08.slen_chr (c :: r) (by simp; omega)
      rw [Lemmas.C07.ucNext_ascii c r h0 h1] at hs
      simp only [List.drop_succ_cons, List.drop_zero] at hs
      simp only [List.length_cons]
      omega
    · simp

theorem indents_le (ls : Lines) (r : Int) : indents ls r ≤ slenAt ls r := by
  unfold indents slenAt
  cases lineAt ls r with
  | none => simp
  | some ln =>
    simp only []
    have := takeWhile_ascii_le_slen (fun c => c != 10 && ucIsSpace c) (by
      intro c hc
      simp only [Bool.and_eq_true, bne_iff_ne, ne_eq] at hc
      have h2 := hc.2
      unfold ucIsSpace isSpaceB at h2
      simp only [Bool.and_eq_true, decide_eq_true_eq, Bool.or_eq_true, beq_iff_eq] at h2
      omega) ln
    exact_mod_cast this

theorem indents_nonneg (ls : Lines) (r : Int) : 0 ≤ indents ls r :=
  Lemmas.C07.indents_nonneg ls r

theorem foldl_range_le (n : Nat) (g : Option Nat → Nat → Option Nat)
    (hg : ∀ o i, (g o i = o) ∨ g o i = some i) : ∀ (m : Nat) (init : Option Nat), m ≤ n →
    (∀ x, init = some x → x < n) → ∀ x, (List.range m).foldl g init = some x → x < n := by
  intro m
  induction m with
  | zero => intro init _ hi x hx; simp at hx; exact hi x hx
  | succ m ih =>
    intro init hm hi x hx
    rw [List.range_succ, List.foldl_append] at hx
    simp only [List.foldl_cons, List.foldl_nil] at hx
    rcases hg ((List.range m).foldl g init) m with h | h
    · rw [h] at hx; exact ih init (by omega) hi x hx
    · rw [h] at hx; cases hx; omega

theorem renOffT_le (pos : List Nat) (n : Nat) (p : Int) : Ren.renOffT pos n p ≤ n := by
  unfold Ren.renOffT
  simp only []
  cases h : (List.range n).foldl (fun (o : Option Nat) i =>
      if (pos.getD i 0 : Int) == Ren.posPrev pos n p true then some i else o) none with
  | none => simp
  | some x =>
    simp only [Option.getD_some]
    have := foldl_range_le n _ (by
        intro o i
        by_cases hc : ((pos.getD i 0 : Int) == Ren.posPrev pos n p true) = true
        · right; rw [if_pos hc]
        · left; rw [if_neg hc]) n none (Nat.le_refl _)
      (by intro x hx; cases hx) x h
    omega

theorem col2off_le (s : VS) (r c : Int) : col2off s r c ≤ slenAt (lines s) r := by
  unfold col2off slenAt lineOf
  cases lineAt (lines s) r with
  | none => exact Int.le_refl _
  | some ln => simp only []; exact_mod_cast renOffT_le _ _ _

theorem nextcol_le (s : VS) (dir r o : Int) (o' : Int) (h : nextcol s dir r o = some o') : o' ≤ slenAt (lines s) r := by
  unfold nextcol lineOf at h
  unfold slenAt
  cases hl : lineAt (lines s) r with
  | none => rw [hl] at h; cases h
  | some ln =>
    rw [hl] at h
    simp only [] at h
    split at h
    · cases h
    · cases h
      show ((Ren.renOffT _ _ _ : Nat) : Int) ≤ ((ucSlen ln : Nat) : Int)
      exact_mod_cast renOffT_le _ _ _

theorem ucOff_le_slen (s : Bytes) (n : Nat) : ucOff s n ≤ ucSlen s := by
  induction n using Nat.strongRecOn generalizing s with
  | _ n ih =>
    by_cases hc : 0 < n ∧ Bytes.hd s ≠ 0
    · rw [Lemmas.C08.off_step s n hc.1 hc.2, Lemmas.C08.slen_chr s hc.2]
      have hp := Lemmas.C08.ucNext_pos s hc.2
      exact Nat.succ_le_succ (ih _ (by omega) _)
    · rw [Lemmas.C08.off_stop s n (by by_cases h0 : Bytes.hd s = 0 <;> simp_all <;> omega)]
      exact Nat.zero_le _

end Neatvi.Lemmas.C05f
