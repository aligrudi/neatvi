import NeatviVerif.Lemmas.C05fH
import NeatviVerif.Props.C05e
import NeatviVerif.Lemmas.C13Scan
/-!
# C05f, part I: `lbuf_search` is total, and where a hit lies

`lbuf_search` is read through the generic scan of `Lemmas/C13Scan.lean` (`search_eq_generic`; `gRows_res`, `gLineScan_res`:
a trap is a trap of the matcher or a start beyond the line, a hit is the report of a match on an existing line).  For a
pattern without NUL the matcher never traps, so `lbuf_search` started on a character of an existing line does not trap
(`search_total_c`); a hit lies on an existing line at a column that is at most the number of its characters
(`search_hit_in`), on a character of the line under `PatIn` (`search_hit_strict`).

`EngineOk` (an assumption on the regular-expression layer: compiling never traps, matching never traps, a match
starts before the terminator of the subject) is false; see the note before `ReTot`.
-/
set_option linter.unusedSimpArgs false
set_option linter.unusedVariables false
namespace Neatvi.Lemmas.C05f
open Neatvi Neatvi.Uc Neatvi.Lbuf Neatvi.Ex Neatvi.Mot Neatvi.Vi Neatvi.Rset

/-- the assumption on `rstr.c` / `rset.c` / `regex.c` -/
def EngineOk : Prop :=
  ∀ (kw : Bytes) (flg : Nat), ∃ r, rstrMake kw flg = some r ∧
    ∀ re, r = some re → ∀ (s : Bytes) (f : Nat),
      ∃ res offs c, rstrFind re s 1 f search.Ex_ND search.Ex_NG = some (res, offs, c) ∧
        (0 ≤ res → 0 ≤ offs.getD 0 0 ∧ (offs.getD 0 0).toNat < s.length)

/-- a compiled pattern whose matcher never traps and reports matches that start inside the subject -/
def ReOk (re : RStr) : Prop :=
  ∀ (s : Bytes) (f : Nat), ∃ res offs c, rstrFind re s 1 f search.Ex_ND search.Ex_NG = some (res, offs, c) ∧
    (0 ≤ res → 0 ≤ offs.getD 0 0 ∧ (offs.getD 0 0).toNat < s.length)

theorem contRun_spec : ∀ (r : Bytes) (i : Nat), i < contRun r → contB (r.getD i 0) = true := by
  intro r
  induction r with
  | nil => intro i h; simp [contRun] at h
  | cons b r ih =>
    intro i h
    unfold contRun at h
    split at h
    · rename_i hb
      cases i with
      | zero => simpa using hb
      | succ i => simp only [List.getD_cons_succ]; exact ih i (by omega)
    · omega

theorem ucEnd_eq_contRun (c : Nat) (r : Bytes) : ucEnd (c :: r) ≤ contRun r := by
  simp only [ucEnd]
  split
  · omega
  · split
    · omega
    · have : contRun (c :: r) ≤ contRun r + 1 := by
        rw [contRun]; split <;> omega
      omega

theorem single_char_nl {s : Bytes} (h0 : Bytes.hd s ≠ 0) (hl : s.getLast? = some 10) (hn : s.length = ucNext s) :
    s.length = 1 := by
  cases s with
  | nil => simp at hl
  | cons c r =>
    rw [Lemmas.C08.ucNext_eq _ h0] at hn
    have he := ucEnd_eq_contRun c r
    simp only [List.length_cons] at hn ⊢
    by_cases hr : r.length = 0
    · omega
    · exfalso
      have hlast : r.getLast? = some 10 := by
        cases r with
        | nil => simp at hr
        | cons a r' => simpa [List.getLast?_cons_cons] using hl
      have hc := contRun_spec r (r.length - 1) (by omega)
      have : r.getD (r.length - 1) 0 = 10 := by
        rw [List.getLast?_eq_getElem?] at hlast
        rw [List.getD_eq_getElem?_getD, hlast]; rfl
      rw [this] at hc
      simp [contB] at hc

theorem ucOff_lt {s : Bytes} (hs : LineOk s) {k : Nat} (hk : k < s.length) : ucOff s k < ucSlen s := by
  have hl : s.getLast? = some 10 := by
    obtain ⟨w, rfl, _, _⟩ := hs
    simp
  have hn := hs.noNul
  clear hs
  induction hm : s.length using Nat.strongRecOn generalizing s k with
  | _ m ih =>
    have h0 : Bytes.hd s ≠ 0 := by
      cases s with
      | nil => simp at hk
      | cons c r => simpa using (noNul_cons.mp hn).1
    rw [Lemmas.C08.slen_chr s h0]
    by_cases hk0 : 0 < k
    · rw [Lemmas.C08.off_step s k hk0 h0]
      have hp := Lemmas.C08.ucNext_pos s h0
      have hle := Lemmas.C08.ucNext_le s h0
      by_cases hlen : s.length = ucNext s
      · have := single_char_nl h0 hl hlen
        omega
      · have hl' : (s.drop (ucNext s)).getLast? = some 10 := by
          rw [List.getLast?_drop, if_neg (by omega)]; exact hl
        have hd : (s.drop (ucNext s)).length < m := by simp; omega
        by_cases hlt : k - ucNext s < (s.drop (ucNext s)).length
        · have := ih _ hd hlt hl' (hn.drop _) rfl
          omega
        · simp at hlt
          have hz : k - ucNext s = 0 := by omega
          have h2 := ih _ hd (k := 0) (by simp; omega) hl' (hn.drop _) rfl
          rw [hz]; omega
    · rw [Lemmas.C08.off_stop s k (by omega)]; omega

/-- a result of `lbuf_search`: a character of an existing line -/
def HitOk (ls : Lines) (res : Option (Int × Int × Int)) : Prop :=
  ∀ r' o' len, res = some (r', o', len) → 0 ≤ r' ∧ r' < ls.length ∧ 0 ≤ o' ∧ o' < slenAt ls r'

/-! ## without `EngineOk`

`EngineOk` above is **false** (`Props/C05h.lean`: `engineOk_is_false`); it and `search_ok`, `search_hit`
(at the end of this file, as instances of what follows) are kept only because `Props/C05h.lean` states its refutations
about them.  Nothing in the rest of the C05f chain uses them.  What holds instead:

* **no trap** — proved (`engine_total`, `engine_c_strings`, from `Lemmas/C05e`): for a pattern without NUL, `rstr_make` does not trap and
  its matcher never traps; hence `lbuf_search` started on an existing character never traps (`search_total_c`);
* **position, weak** — proved without any hypothesis (`search_hit_in`): a hit lies on an existing line at a column
  `≤` the number of its characters (`HitIn`; the column *can* be the number of characters: C05h
  `search_hit_beyond_last_char`);
* **position, strict** — the residual hypothesis `PatIn kw ic ls` (decidable, per pattern and line: `hitInside`): every
  match the scan of a line can see starts before the end of the line.  Then a hit is a character of its line
  (`search_hit_strict`).  It is needed only to *restart* a counted search (`2n`, `3?x`) from the previous hit. -/

/-- a compiled pattern whose matcher never traps -/
def ReTot (re : RStr) : Prop :=
  ∀ (s : Bytes) (f : Nat), ∃ x, rstrFind re s 1 f search.Ex_ND search.Ex_NG = some x

/-- **the engine on C strings**: compiling a pattern that is a C string never traps, and the matcher it yields never
    traps — on any subject, with any flags and limits -/
theorem engine_total (kw : Bytes) (flg : Nat) (h0 : NoNul kw) :
    ∃ r, rstrMake kw flg = some r ∧ ∀ re, r = some re → ∀ (s : Bytes) (n f nd ng : Nat), ∃ x, rstrFind re s n f nd ng = some x := by
  cases hm : rstrMake kw flg with
  | none => exact absurd hm (Lemmas.C05e.rstrMake_ne_none kw flg h0)
  | some r =>
    refine ⟨r, rfl, ?_⟩
    intro re hre s n f nd ng
    subst hre
    exact Lemmas.C05e.rstrFind_total hm s n f nd ng

/-- … in the form `lbuf_search` uses it -/
theorem engine_c_strings (kw : Bytes) (flg : Nat) (h0 : NoNul kw) :
    ∃ r, rstrMake kw flg = some r ∧ ∀ re, r = some re → ReTot re := by
  obtain ⟨r, hr, h⟩ := engine_total kw flg h0
  exact ⟨r, hr, fun re hre s f => h re hre s 1 f _ _⟩

/-! ### `lbuf_search` read through the generic scan of `Lemmas/C13Scan.lean` (`gLineScan_res`, `gRows_res`) -/

open Neatvi.Lemmas.C13 (reMatcher gSearch startOff search_eq_generic gLineScan_res gRows_res)

theorem reMatcher_total {re : RStr} (h : ReTot re) (s : Bytes) (off : Nat) : reMatcher re s off ≠ none := by
  unfold reMatcher
  obtain ⟨⟨res, offs, c⟩, hf⟩ := h (s.drop off) (if off != 0 then RE_NOTBOL else 0)
  rw [hf]
  dsimp only
  split <;> exact fun h => by cases h

theorem reMatcher_some {re : RStr} {s : Bytes} {off so eo : Nat} (h : reMatcher re s off = some (some (so, eo))) :
    ∃ res offs c, rstrFind re (s.drop off) 1 (if off != 0 then RE_NOTBOL else 0) search.Ex_ND search.Ex_NG =
      some (res, offs, c) ∧ ¬ res < 0 ∧ so = (offs.getD 0 0).toNat := by
  unfold reMatcher at h
  split at h
  · cases h
  · rename_i res offs c hf
    split at h
    · cases h
    · rename_i h0; cases h; exact ⟨res, offs, c, hf, h0, rfl⟩

theorem search_total_of (ls : Lines) (kw : Bytes) (ic : Bool) (dir r o : Int)
    (hE : ∃ m, rstrMake kw (if ic then RE_ICASE else 0) = some m ∧ ∀ re, m = some re → ReTot re)
    (ho : o < slenAt ls r) : ∃ res, search ls kw ic dir r o = some res := by
  rw [search_eq_generic]
  obtain ⟨m, hm, hre⟩ := hE
  rw [hm]
  cases m with
  | none => exact ⟨none, rfl⟩
  | some re =>
    dsimp only
    cases hg : gSearch (reMatcher re) ls dir r o with
    | some res => exact ⟨res, rfl⟩
    | none =>
      exfalso
      unfold gSearch at hg
      obtain ⟨j, s, hs, hsc⟩ := (gRows_res ls dir _ _ _).1 hg
      rcases (gLineScan_res _ dir r o j s).1 hsc with h | ⟨off, h⟩
      · -- the scan of the cursor's row starts after the cursor, which is on a character of its line
        unfold startOff at h
        split at h
        · rename_i hc
          simp only [Bool.and_eq_true, decide_eq_true_eq, beq_iff_eq] at hc
          obtain ⟨_, rfl⟩ := hc
          have hsl' : slenAt ls r = ucSlen s := by unfold slenAt; rw [hs]
          obtain ⟨b, hb⟩ := Lemmas.C08.chr_some_of_le (o + 1).toNat s (by omega)
          rw [hb] at h
          have := Lemmas.C08.chr_le_length _ _ _ hb
          dsimp only at h
          omega
        · omega
      · exact reMatcher_total (hre re rfl) s off h

/-- **`lbuf_search` with a pattern without NUL, started on an existing character, never traps** — whatever the bytes
    of the lines are -/
theorem search_total_c (ls : Lines) (kw : Bytes) (ic : Bool) (dir r o : Int) (h0 : NoNul kw) (ho : o < slenAt ls r) :
    ∃ res, search ls kw ic dir r o = some res :=
  search_total_of ls kw ic dir r o (engine_c_strings kw _ h0) ho

/-! ### where a hit can be -/

/-- a result of `lbuf_search`, weak form: an existing line and a column that is at most the number of its characters -/
def HitIn (ls : Lines) (res : Option (Int × Int × Int)) : Prop :=
  ∀ r' o' len, res = some (r', o', len) → 0 ≤ r' ∧ r' < ls.length ∧ 0 ≤ o' ∧ o' ≤ slenAt ls r'

/-- the common part: what `lbuf_search` reports, for a bound `Bf` on the columns of the matches of each line -/
theorem search_hitB (ls : Lines) (kw : Bytes) (ic : Bool) (dir r o : Int) (Bf : Bytes → Nat)
    (hin : ∀ re, rstrMake kw (if ic then RE_ICASE else 0) = some (some re) → ∀ s ∈ ls, ∀ (off so eo : Nat),
      off ≤ s.length → reMatcher re s off = some (some (so, eo)) → ucOff s (off + so) ≤ Bf s)
    (res : Option (Int × Int × Int)) (h : search ls kw ic dir r o = some res) :
    ∀ r' o' len, res = some (r', o', len) → 0 ≤ r' ∧ r' < ls.length ∧ 0 ≤ o' ∧
      ∃ s, lineAt ls r' = some s ∧ o' ≤ (Bf s : Int) := by
  intro r' o' len he
  subst he
  obtain ⟨re, s, off, so, eo, hm, a1, a2, hs, hoff, hmt, hb⟩ := Lemmas.C13.search_hit_match h
  have hmem : s ∈ ls := by
    unfold lineAt at hs
    split at hs
    · cases hs
    · exact List.mem_of_getElem? hs
  have := hin re hm s hmem off so eo hoff hmt
  have ho' : o' = ((ucOff s (off + so) : Nat) : Int) := congrArg Prod.fst hb
  exact ⟨a1, a2, by omega, s, hs, by omega⟩

/-- **a hit of `lbuf_search` lies on an existing line, at a column that is at most the number of its characters** —
    no hypothesis on the pattern or on the lines -/
theorem search_hit_in (ls : Lines) (kw : Bytes) (ic : Bool) (dir r o : Int)
    (res : Option (Int × Int × Int)) (h : search ls kw ic dir r o = some res) : HitIn ls res := by
  intro r' o' len he
  obtain ⟨a1, a2, a3, s, hs, a4⟩ := search_hitB ls kw ic dir r o ucSlen
    (fun re _ s _ off so eo _ _ => ucOff_le_slen s _) res h r' o' len he
  refine ⟨a1, a2, a3, ?_⟩
  unfold slenAt; rw [hs]; exact a4

/-! ### the residual hypothesis on the position of a match: decidable, per pattern and line -/

/-- on the line `l`, every match of the pattern `kw` that the scan of `lbuf_search` can see (the rest of the line from
    any byte offset, `RE_NOTBOL` set away from the start) starts before the end of the line -/
def hitInside (kw : Bytes) (ic : Bool) (l : Bytes) : Bool :=
  match rstrMake kw (if ic then RE_ICASE else 0) with
  | some (some re) => (List.range (l.length + 1)).all fun off =>
      match rstrFind re (l.drop off) 1 (if off != 0 then RE_NOTBOL else 0) search.Ex_ND search.Ex_NG with
      | some (res, offs, _) => decide (res < 0) || decide (off + (offs.getD 0 0).toNat < l.length)
      | none => true
  | _ => true

/-- the pattern `kw` matches inside the lines `ls` (decidable) -/
def PatIn (kw : Bytes) (ic : Bool) (ls : Lines) : Prop := ∀ l ∈ ls, hitInside kw ic l = true

instance (kw : Bytes) (ic : Bool) (ls : Lines) : Decidable (PatIn kw ic ls) := by unfold PatIn; exact inferInstance

theorem hitInside_spec {kw : Bytes} {ic : Bool} {l : Bytes} (h : hitInside kw ic l = true) {re : RStr}
    (hm : rstrMake kw (if ic then RE_ICASE else 0) = some (some re)) (off : Nat) (res : Int) (offs : List Int) (c : Nat)
    (hoff : off ≤ l.length)
    (hf : rstrFind re (l.drop off) 1 (if off != 0 then RE_NOTBOL else 0) search.Ex_ND search.Ex_NG = some (res, offs, c))
    (h0 : ¬ res < 0) : off + (offs.getD 0 0).toNat < l.length := by
  unfold hitInside at h
  rw [hm] at h
  simp only [List.all_eq_true, List.mem_range] at h
  have := h off (by omega)
  rw [hf] at this
  simp only [Bool.or_eq_true, decide_eq_true_eq] at this
  rcases this with h1 | h1
  · exact absurd h1 h0
  · exact h1

theorem search_hit_of_inside (ls : Lines) (kw : Bytes) (ic : Bool) (dir r o : Int) (hl : ∀ l ∈ ls, LineOk l)
    (hin : ∀ re, rstrMake kw (if ic then RE_ICASE else 0) = some (some re) → ∀ s ∈ ls, ∀ (off : Nat) res offs c,
      off ≤ s.length →
      rstrFind re (s.drop off) 1 (if off != 0 then RE_NOTBOL else 0) search.Ex_ND search.Ex_NG = some (res, offs, c) →
      ¬ res < 0 → off + (offs.getD 0 0).toNat < s.length)
    (res : Option (Int × Int × Int)) (h : search ls kw ic dir r o = some res) : HitOk ls res := by
  intro r' o' len he
  obtain ⟨a1, a2, a3, s, hs, a4⟩ := search_hitB ls kw ic dir r o (fun s => ucSlen s - 1)
    (fun re hm s hs off so eo hoff hmt => by
      obtain ⟨res, offs, c, hf, h0, rfl⟩ := reMatcher_some hmt
      have := ucOff_lt (hl s hs) (hin re hm s hs off res offs c hoff hf h0)
      omega) res h r' o' len he
  refine ⟨a1, a2, a3, ?_⟩
  have hmem : s ∈ ls := by
    unfold lineAt at hs
    split at hs
    · cases hs
    · exact List.mem_of_getElem? hs
  have hpos : 0 < ucSlen s := by
    have := ucOff_lt (hl s hmem) (k := 0) (by obtain ⟨w, rfl, _, _⟩ := hl s hmem; simp)
    omega
  unfold slenAt; rw [hs]
  show o' < ((ucSlen s : Nat) : Int)
  omega

/-- **with the residual hypothesis a hit is a character of its line** (`HitOk`) -/
theorem search_hit_strict (ls : Lines) (kw : Bytes) (ic : Bool) (dir r o : Int) (hl : ∀ l ∈ ls, LineOk l)
    (hp : PatIn kw ic ls) (res : Option (Int × Int × Int)) (h : search ls kw ic dir r o = some res) : HitOk ls res :=
  search_hit_of_inside ls kw ic dir r o hl
    (fun re hm s hs off res offs c hoff hf h0 => hitInside_spec (hp s hs) hm off res offs c hoff hf h0) res h

/-! ### under the assumption `EngineOk` -/

/-- whatever `lbuf_search` is started from: a hit is a character of an existing line -/
theorem search_hit (hE : EngineOk) (ls : Lines) (kw : Bytes) (ic : Bool) (dir r o : Int)
    (hl : ∀ l ∈ ls, LineOk l) (res : Option (Int × Int × Int)) (h : search ls kw ic dir r o = some res) : HitOk ls res := by
  refine search_hit_of_inside ls kw ic dir r o hl (fun re hm s hs off res offs c hoff hf h0 => ?_) res h
  obtain ⟨m, hm', hre⟩ := hE kw (if ic then RE_ICASE else 0)
  rw [hm] at hm'
  cases hm'
  obtain ⟨res', offs', c', hf', hin⟩ := hre re rfl (s.drop off) (if off != 0 then RE_NOTBOL else 0)
  rw [hf] at hf'
  cases hf'
  have := (hin (by omega)).2
  rw [List.length_drop] at this
  omega

/-- **`lbuf_search`** started on a character of an existing line: no trap; a hit is a character of an existing line -/
theorem search_ok (hE : EngineOk) (ls : Lines) (kw : Bytes) (ic : Bool) (dir r o : Int)
    (hl : ∀ l ∈ ls, LineOk l) (ho : o < slenAt ls r) :
    ∃ res, search ls kw ic dir r o = some res ∧ HitOk ls res := by
  obtain ⟨m, hm, hre⟩ := hE kw (if ic then RE_ICASE else 0)
  obtain ⟨res, h⟩ := search_total_of ls kw ic dir r o
    ⟨m, hm, fun re e s f => by
      obtain ⟨res, offs, c, h, _⟩ := hre re e s f
      exact ⟨_, h⟩⟩ ho
  exact ⟨res, h, search_hit hE ls kw ic dir r o hl res h⟩

end Neatvi.Lemmas.C05f
