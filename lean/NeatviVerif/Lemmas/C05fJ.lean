import NeatviVerif.Lemmas.C05fE
import NeatviVerif.Lemmas.C05fI
import NeatviVerif.Lemmas.C13Vi
/-!
# C05f, part J: `vi_motionln`, `vi_search`

Every motion returns a position inside the buffer (`PosIn`): a row that is not negative and an offset that is
at most the number of characters of that row's line.  The ways a motion can trap: a counted `/` search whose match
reaches the end of its line, and a repeated search restarted from a hit on the end of its line (`PatIn` excludes it).
-/
set_option linter.unusedSimpArgs false
set_option linter.unusedVariables false
namespace Neatvi.Lemmas.C05f
open Neatvi Neatvi.Uc Neatvi.Lbuf Neatvi.Ex Neatvi.Mot Neatvi.Vi Neatvi.Rset

/-- the buffer and register part of the invariant -/
def SOk (s : VS) (c : Prop) : Prop := BufsOk s.ed.bufs c ∧ RegsOk s.ed.regs

theorem SOk.linesOk {s : VS} {c : Prop} (h : SOk s c) : ∀ l ∈ lines s, LineOk l := h.1.linesOk

/-- all registers and all lines of the current buffer hold no NUL -/
def TextOk (ed : Ed) : Prop := RegsOk ed.regs ∧ ∀ r l, ed.line r = some l → NoNul l

theorem TextOk.paste {ed : Ed} (h : TextOk ed) : PasteOk ed := ⟨h.1, fun l hl => h.2 _ l hl⟩

theorem SOk.textOk {s : VS} {c : Prop} (h : SOk s c) : TextOk s.ed := by
  refine ⟨h.2, ?_⟩
  intro r l hl
  obtain ⟨lb, h1, h2⟩ := h.1.lb s.ed rfl
  unfold Ed.line at hl
  split at hl
  · cases hl
  · rw [h1] at hl
    exact (h2.lines l (List.mem_of_getElem? hl)).noNul

theorem SOk.paste {s : VS} {c : Prop} (h : SOk s c) : PasteOk s.ed := h.textOk.paste

/-- the frame of a motion: the buffer table, the cursor and `xquit` as before; the registers still without NUL -/
def MvF (s s' : VS) : Prop :=
  s'.ed.bufs = s.ed.bufs ∧ s'.ed.xrow = s.ed.xrow ∧ s'.ed.xoff = s.ed.xoff ∧ s'.ed.xquit = s.ed.xquit ∧
    (RegsOk s.ed.regs → RegsOk s'.ed.regs)

theorem MvF.refl (s : VS) : MvF s s := ⟨rfl, rfl, rfl, rfl, id⟩
theorem MvF.trans {a b c : VS} (h1 : MvF a b) (h2 : MvF b c) : MvF a c :=
  ⟨h2.1.trans h1.1, h2.2.1.trans h1.2.1, h2.2.2.1.trans h1.2.2.1, h2.2.2.2.1.trans h1.2.2.2.1,
    fun h => h2.2.2.2.2 (h1.2.2.2.2 h)⟩
theorem MvF.of_EdF {s s' : VS} (h : EdF s.ed s'.ed) : MvF s s' :=
  ⟨h.bufs, h.xrow, h.xoff, h.xquit, fun hr => by rw [h.regs]; exact hr⟩
theorem MvF.of_ed {s s' : VS} (h : s'.ed = s.ed) : MvF s s' := MvF.of_EdF (EdF.of_eq h)
theorem MvF.lb {s s' : VS} (h : MvF s s') : s'.ed.lb = s.ed.lb := by unfold Ed.lb Ed.cur; rw [h.1]
theorem MvF.lines {s s' : VS} (h : MvF s s') : lines s' = lines s := by unfold Vi.lines; rw [h.lb]
theorem MvF.sok {s s' : VS} {c : Prop} (h : MvF s s') (hs : SOk s c) : SOk s' c :=
  ⟨by rw [h.1]; exact hs.1, h.2.2.2.2 hs.2⟩

theorem wp_viMotionln (row cmd : Int) (s : VS) (hrow : 0 ≤ row) (Q : Int × Int → VS → Prop)
    (hQ : ∀ mv r s', PfxPost s s' → (mv = 0 → r = row) → 0 ≤ r → Q (mv, r) s') : wp (viMotionln row cmd) Q s := by
  unfold viMotionln
  wpn
  refine wp_viRead s _ (fun c s1 e1 q1 => ?_)
  have p1 : PfxPost s s1 := pfx_read e1 q1
  have hfin : ∀ (r : Int) (hc : c ≠ 0), wp (pure (c, if r < 0 then 0 else r) : M (Int × Int)) Q s1 := by
    intro r hc
    refine (wp_pure _ _ _).mpr (hQ _ _ _ p1 (fun h => absurd h hc) ?_)
    split <;> omega
  wpif hc
  · exact hfin _ (by simp at hc; omega)
  wpif hc
  · exact hfin _ (by simp at hc; omega)
  wpif hc
  · exact hfin _ (by simp at hc; omega)
  wpif hc
  · wpn
    refine wp_viRead s1 _ (fun m s2 e2 q2 => ?_)
    have p2 : PfxPost s s2 := p1.trans (pfx_read e2 q2)
    wpif hm
    · wpn; exact hQ _ _ _ p2 (fun h => by omega) hrow
    · cases hj : s.ed.lb.bind (fun lb => jump lb m.toNat) with
      | none => simp only []; wpn; exact hQ _ _ _ p2 (fun h => by omega) hrow
      | some pq =>
        obtain ⟨p, q⟩ := pq
        simp only []
        refine (wp_pure _ _ _).mpr (hQ _ _ _ p2 (fun h => by simp at hc; omega) ?_)
        split <;> omega
  wpif hc
  · exact hfin _ (by simp at hc; omega)
  wpif hc
  · exact hfin _ (by simp at hc; omega)
  wpif hc
  · exact hfin _ (by simp at hc; omega)
  wpif hc
  · exact hfin _ (by simp at hc; omega)
  wpif hc
  · exact hfin _ (by simp at hc; omega)
  wpif hc
  · exact hfin _ (by simp at hc; omega)
  wpif hc
  · refine hfin _ ?_
    simp only [Bool.and_eq_true, bne_iff_ne, ne_eq, beq_iff_eq] at hc
    omega
  wpif hc
  · wpif hc2
    · wpn; exact hQ _ _ _ p1 (fun h => by omega) hrow
    · refine hfin _ ?_
      simp only [Bool.and_eq_true, beq_iff_eq] at hc
      omega
  · wpn
    exact hQ _ _ _ (pfx_read_back e1 q1) (fun _ => rfl) hrow

/-! ### `vi_search` -/

theorem reRead_noNul {src : Bytes} (h : NoNul src) : NoNulO (reRead src).1 := by
  cases hk : (reRead src).1 with
  | none => exact noNulO_none
  | some k => exact noNulO_some.mpr (fun h0 => h (Lemmas.C06.reRead_mem src k hk 0 h0))

/-- the first half of `vi_search`: the prompt, the new keyword -/
def sPre (cmd : Nat) : M Bool := do
  if cmd == 47 || cmd == 63 then
    match ← viPrompt with
    | none => pure true
    | some kw =>
      let full := [cmd] ++ kw
      let (re, rest) := reRead full
      match re with
      | some re =>
        withEd fun ed => ed.kwdSet (if re.isEmpty then none else some re) (if cmd == 47 then 1 else -1)
        if !re.isEmpty then
          withEd fun ed => { ed with regs := ed.regs.put 47 re 0 }
        let rest := rest.dropWhile isSpaceC
        modify fun s => { s with soset := !rest.isEmpty, so := atoi rest }
        pure false
      | none => pure false
  else pure false

/-- what `vi_search` returns for the outcome of the repeated search -/
def sFin (s : VS) (kwd : Bytes) (res : Option (Option (Int × Int))) : M (Option (Int × Int)) :=
  match res with
  | none => trap
  | some none => do
    setMsg ([47] ++ kwd ++ strOf "/ not found")
    pure none
  | some (some (r', o')) =>
    if s.soset then
      if r' + s.so < 0 || r' + s.so ≥ lenOf s then do
        setMsg ([47] ++ kwd ++ strOf "/ bad offset")
        pure none
      else pure (some (r' + s.so, -1))
    else pure (some (r', o'))

/-- the repeated search of `vi_search` in state `s` -/
def sRep (cmd : Nat) (cnt r o : Int) (s : VS) : Option (Option (Int × Int)) :=
  viSearch.rep cmd cnt s s.ed.xkwd (if cmd == 78 then -s.ed.xkwddir else s.ed.xkwddir) (cnt.toNat + 1) r o 0

/-- the second half of `vi_search` -/
def sTail (cmd : Nat) (cnt r o : Int) (aborted : Bool) : M (Option (Int × Int)) :=
  if aborted then pure none else do
  let s ← get
  if lenOf s == 0 || s.ed.xkwddir == 0 then pure none else
  sFin s s.ed.xkwd (sRep cmd cnt r o s)

theorem viSearch_eq (cmd : Nat) (cnt r o : Int) : viSearch cmd cnt r o = (sPre cmd >>= sTail cmd cnt r o) := by
  rfl

theorem wp_sPre (cmd : Nat) (s : VS) {c : Prop} (hs : SOk s c) (Q : Bool → VS → Prop)
    (hQ : ∀ a s', MvF s s' → (NoNul s.ed.xkwd → NoNul s'.ed.xkwd) → Q a s') : wp (sPre cmd) Q s := by
  unfold sPre
  wpif hc
  · wpn
    refine wp_viPrompt _ s hs.paste _ (fun r s1 e1 hr => ?_)
    have m1 : MvF s s1 := MvF.of_EdF e1
    have k1 : NoNul s.ed.xkwd → NoNul s1.ed.xkwd := fun h => by rw [e1.xkwd]; exact h
    cases r with
    | none => exact hQ _ _ m1 k1
    | some kw =>
      have hkw := hr kw rfl
      dsimp only
      have hre := reRead_noNul (src := [cmd] ++ kw) (noNul_append.mpr ⟨noNul_singleton.mpr (by
        simp only [Bool.or_eq_true, beq_iff_eq] at hc; omega), hkw⟩)
      generalize reRead ([cmd] ++ kw) = rr at hre
      obtain ⟨re, rest⟩ := rr
      dsimp only
      cases re with
      | none => exact hQ _ _ m1 k1
      | some re =>
        have hren : NoNul re := hre re rfl
        have k2 : NoNul s.ed.xkwd →
            NoNul (s1.ed.kwdSet (if re.isEmpty then none else some re) (if cmd == 47 then 1 else -1)).xkwd := by
          intro h
          unfold Ed.kwdSet
          by_cases hre0 : re.isEmpty = true
          · rw [if_pos hre0]; exact k1 h
          · rw [if_neg hre0]; exact fun hmem => hren (List.mem_of_mem_take hmem)
        dsimp only
        wpn
        wpif hne
        · wpn
          refine hQ _ _ (m1.trans ⟨rfl, rfl, rfl, rfl, fun h => ?_⟩) k2
          exact regsOk_put h _ hren _
        · wpn
          exact hQ _ _ (m1.trans ⟨rfl, rfl, rfl, rfl, id⟩) k2
  · exact hQ _ _ (MvF.refl _) id

/-! ### the repeated search

`viSearch.rep` is the count loop `Lemmas.C13.countSearch` (`Lemmas.C13.rep_eq_count`): `k` searches in a row, each from
the position the previous one reported. -/

section rep
open Neatvi.Lemmas.C13 (countSearch countSearch_zero countSearch_succ searchStep_def)
variable (ls : Lines) (kwd : Bytes) (ic : Bool) (dir : Int) (slash : Bool)

theorem count_post : ∀ (k : Nat) (p p' : Int × Int), (k = 0 → PosIn ls p.1 p.2) →
    countSearch ls kwd ic dir slash k p = some (some p') → PosIn ls p'.1 p'.2 := by
  intro k
  induction k with
  | zero =>
    intro p p' hp h
    rw [countSearch_zero] at h
    cases h
    exact hp rfl
  | succ k ih =>
    intro p p' _ h
    rw [countSearch_succ, searchStep_def] at h
    cases hsr : search ls kwd ic dir p.1 p.2 with
    | none => rw [hsr] at h; cases h
    | some res =>
      have hh := search_hit_in _ _ _ _ _ _ res hsr
      rw [hsr] at h
      cases res with
      | none => cases h
      | some hit =>
        obtain ⟨r1, o1, len⟩ := hit
        obtain ⟨a1, a2, a3, a4⟩ := hh r1 o1 len rfl
        refine ih _ p' (fun hk => ?_) h
        subst hk
        exact ⟨a1, by rw [if_neg (by simp)]; exact a4⟩

/-- without a count, or for `? n N ^A`: the repeated search does not trap — for a pattern without NUL; a search that
    is *repeated* (count ≥ 2) needs the residual hypothesis `PatIn` to restart from the previous hit -/
theorem count_total (hl : ∀ l ∈ ls, LineOk l) (hkw : NoNul kwd) : ∀ (k : Nat) (p : Int × Int),
    slash = false ∨ k ≤ 1 → (2 ≤ k → PatIn kwd ic ls) → (0 < k → p.2 < slenAt ls p.1) →
    countSearch ls kwd ic dir slash k p ≠ none := by
  intro k
  induction k with
  | zero => intro p _ _ _; rw [countSearch_zero]; simp
  | succ k ih =>
    intro p hcs hpos ho
    obtain ⟨res, hsr⟩ := search_total_c ls kwd ic dir p.1 p.2 hkw (ho (by omega))
    rw [countSearch_succ, searchStep_def, hsr]
    cases res with
    | none => simp
    | some hit =>
      obtain ⟨r1, o1, len⟩ := hit
      dsimp only
      refine ih _ (hcs.imp_right (by omega)) (fun h2 => hpos (by omega)) (fun hk => ?_)
      -- another search follows: the count is at least 2, and the command is not `/`
      obtain ⟨a1, a2, a3, a4⟩ := search_hit_strict _ _ _ _ _ _ hl (hpos (by omega)) _ hsr r1 o1 len rfl
      have hs : slash = false := hcs.resolve_right (by omega)
      rw [hs]
      exact a4

end rep

/-- **`vi_search`**, started on a character of an existing line, with a last pattern that has no NUL.  The ways it
    can trap: the counted `/` whose match reaches the end of its line (hypothesis `hsl`), and a repeated `? n N ^A`
    whose previous hit is on the end of its line (excluded by `hpos`: the pattern in force after the prompt matches
    inside the lines).  What it returns is a position inside the buffer; the last pattern still has no NUL. -/
theorem wp_viSearch (cmd : Nat) (cnt r o : Int) (s : VS) {c : Prop} (hs : SOk s c) (hkw : NoNul s.ed.xkwd)
    (hp : PosIn (lines s) r o) (ho : lenOf s ≠ 0 → o < slenAt (lines s) r) (hsl : cmd = 47 → 2 ≤ cnt → viSearch cmd cnt r o s ≠ Res.trap)
    (hpos : cmd ≠ 47 → 2 ≤ cnt → ∀ ab s1, sPre cmd s = Res.ok ab s1 → ∀ ic, PatIn s1.ed.xkwd ic (lines s))
    (Q : Option (Int × Int) → VS → Prop)
    (hQ : ∀ res s', MvF s s' → NoNul s'.ed.xkwd → (∀ r' o', res = some (r', o') → PosIn (lines s) r' o') → Q res s') :
    wp (viSearch cmd cnt r o) Q s := by
  rw [viSearch_eq]
  refine (wp_bind_eqn _ _ _ _).mpr (wp_sPre cmd s hs _ (fun aborted s1 m1 k1 hm => ?_))
  have hk1 : NoNul s1.ed.xkwd := k1 hkw
  have hnone : ∀ r' o', (none : Option (Int × Int)) = some (r', o') → PosIn (lines s) r' o' := by
    intro r' o' h; cases h
  unfold sTail
  wpif hab
  · exact hQ _ _ m1 hk1 hnone
  wpn
  wpif hc
  · exact hQ _ _ m1 hk1 hnone
  have hl1 : ∀ l ∈ lines s1, LineOk l := (m1.sok hs).linesOk
  have hcount : sRep cmd cnt r o s1 = Lemmas.C13.countSearch (lines s1) s1.ed.xkwd (s1.ed.xic != 0)
      (if cmd == 78 then -s1.ed.xkwddir else s1.ed.xkwddir) (cmd == 47) cnt.toNat (r, o) := by
    unfold sRep
    rw [Lemmas.C13.rep_eq_count _ _ _ _ _ _ _ _ _ (by omega), Int.sub_zero]
  have hpost := fun r' o' => count_post (lines s1) s1.ed.xkwd (s1.ed.xic != 0)
    (if cmd == 78 then -s1.ed.xkwddir else s1.ed.xkwddir) (cmd == 47) cnt.toNat (r, o) (r', o')
    (fun _ => by rw [m1.lines]; exact hp)
  have hlen : lenOf s ≠ 0 := by
    simp only [Bool.or_eq_true, beq_iff_eq, not_or] at hc
    have : lenOf s1 = lenOf s := by unfold lenOf; rw [m1.lines]
    rw [← this]; exact hc.1
  cases hrep : sRep cmd cnt r o s1 with
  | none =>
    exfalso
    by_cases hcs : cmd ≠ 47 ∨ cnt ≤ 1
    · refine count_total (lines s1) s1.ed.xkwd (s1.ed.xic != 0) (if cmd == 78 then -s1.ed.xkwddir else s1.ed.xkwddir)
        (cmd == 47) hl1 hk1 cnt.toNat (r, o) ?_ ?_ (fun _ => by rw [m1.lines]; exact ho hlen) (hcount ▸ hrep)
      · rcases hcs with h | h
        · exact Or.inl (by simpa using h)
        · exact Or.inr (by omega)
      · intro h2
        rw [m1.lines]
        refine hpos ?_ (by omega) aborted s1 hm _
        rcases hcs with h | h
        · exact h
        · omega
    · have h47 : cmd = 47 := by
        by_cases h : cmd = 47
        · exact h
        · exact absurd (Or.inl h) hcs
      have h2 : 2 ≤ cnt := by
        by_cases h : cnt ≤ 1
        · exact absurd (Or.inr h) hcs
        · omega
      apply hsl h47 h2
      rw [viSearch_eq, Lemmas.C07.bind_ok _ _ _ _ _ hm]
      unfold sTail
      rw [if_neg hab]
      show (if (lenOf s1 == 0 || s1.ed.xkwddir == 0) = true then pure none else
        sFin s1 s1.ed.xkwd (sRep cmd cnt r o s1)) s1 = Res.trap
      rw [if_neg hc, hrep]
      rfl
  | some res =>
    cases res with
    | none =>
      unfold sFin
      wpn
      exact hQ _ _ (m1.trans (MvF.of_ed rfl)) hk1 hnone
    | some p =>
      obtain ⟨r', o'⟩ := p
      have hp : PosIn (lines s) r' o' := by rw [← m1.lines]; exact hpost r' o' (hcount ▸ hrep)
      unfold sFin
      dsimp only
      wpif hso
      · wpif hbad
        · wpn
          exact hQ _ _ (m1.trans (MvF.of_ed rfl)) hk1 hnone
        · refine hQ _ _ m1 hk1 (fun r2 o2 h => ?_)
          cases h
          simp only [Bool.or_eq_true, decide_eq_true_eq, not_or] at hbad
          exact ⟨by omega, by have := Lemmas.C07.slenAt_nonneg (lines s) (r' + s1.so); omega⟩
      · refine hQ _ _ m1 hk1 (fun r2 o2 h => ?_)
        cases h; exact hp

end Neatvi.Lemmas.C05f
