import NeatviVerif.Lemmas.C05fJ
/-!
# C05f, part K: `vi_motion`

`SearchOk s`: the hypotheses that exclude the traps of the searches — a counted `/` search whose match reaches the
end of its line (then `lbuf_search` is restarted beyond the line and `uc_chr` returns its static `""`), a remembered
pattern with a NUL, and a repeated search restarted from a hit on the end of its line.  `MarksIn s`: a mark whose row is beyond the buffer has column 0 (the model lets `uc_sub` trap on a
missing line with a positive offset, where the C code, handed NULL, is safe).
-/
set_option linter.unusedSimpArgs false
set_option linter.unusedVariables false
namespace Neatvi.Lemmas.C05f
open Neatvi Neatvi.Uc Neatvi.Lbuf Neatvi.Ex Neatvi.Mot Neatvi.Vi Neatvi.Rset

/-- `s1` is a state in which a `/` typed among the pending keys of `s` has just been read: same text, same
    registers, same last pattern -/
def SlashAt (s s1 : VS) : Prop :=
  (47 : Int) :: allQ s1 <:+ allQ s ∧ lines s1 = lines s ∧ s1.ed.regs = s.ed.regs ∧ s1.ed.xkwd = s.ed.xkwd

/-- the cursor as a start of a motion: an existing character, or `(0, 0)`-like in an empty buffer -/
def CurOk (s : VS) (r o : Int) : Prop := PosIn (lines s) r o ∧ (lenOf s ≠ 0 → o < slenAt (lines s) r)

/-- the keys that start a search: `/ ? n N ^A` -/
def searchKeys : List Int := [47, 63, 110, 78, 1]

/-- `s1` is a state in which a search key typed among the pending keys of `s` has just been read: same text, same
    registers; the last pattern is that of `s`, or the word pattern `^A` has just made of the word under the cursor -/
def SearchAt (s s1 : VS) : Prop :=
  (∃ k ∈ searchKeys, k :: allQ s1 <:+ allQ s) ∧ lines s1 = lines s ∧ s1.ed.regs = s.ed.regs ∧
    (s1.ed.xkwd = s.ed.xkwd ∨ ∃ cw, s1.ed.xkwd = (([92, 60] ++ cw ++ [92, 62]).take 127).take (Gen.EXLEN - 1))

/-- **the hypotheses about the searches of one iteration** (per state; `kwd` is in fact an invariant of the editor —
    part of C05e's `Safe` — but C05f's `SOk` does not carry it):
    * `slash`: no counted `/` search that can be typed from the pending keys overruns a line of the buffer;
    * `kwd`: the remembered pattern has no NUL (`rstr_make` traps in the model on `\` NUL);
    * `pos`: the pattern in force after the prompt of a search `? n N ^A` typed from the pending keys matches *inside*
      the lines (`PatIn`, decidable per pattern and line; for both settings of `ic`).  It is what allows a repeated
      search (`2n`) to restart from its previous hit; it can fail only on a line that ends in a truncated multi-byte
      character (C05h `search_hit_beyond_last_char`). -/
structure SearchOk (s : VS) : Prop where
  slash : ∀ (s1 : VS) (cnt r o : Int), SlashAt s s1 → 2 ≤ cnt → CurOk s r o → viSearch 47 cnt r o s1 ≠ Res.trap
  kwd : NoNul s.ed.xkwd
  pos : ∀ (s1 : VS) (cmd : Nat) (ab : Bool) (s2 : VS), SearchAt s s1 → cmd ≠ 47 → sPre cmd s1 = Res.ok ab s2 →
    ∀ ic, PatIn s2.ed.xkwd ic (lines s)

theorem SearchAt.mono {s s' s1 : VS} (h : SearchAt s' s1) (hq : allQ s' <:+ allQ s) (hl : lines s' = lines s)
    (hr : s'.ed.regs = s.ed.regs) (hk : s'.ed.xkwd = s.ed.xkwd) : SearchAt s s1 := by
  obtain ⟨⟨k, hk1, hk2⟩, a2, a3, a4⟩ := h
  exact ⟨⟨k, hk1, hk2.trans hq⟩, a2.trans hl, a3.trans hr, by rw [← hk]; exact a4⟩

theorem SearchOk.mono {s s' : VS} (h : SearchOk s) (hq : allQ s' <:+ allQ s) (hl : lines s' = lines s)
    (hr : s'.ed.regs = s.ed.regs) (hk : s'.ed.xkwd = s.ed.xkwd) : SearchOk s' := by
  refine ⟨?_, by rw [hk]; exact h.kwd, ?_⟩
  · intro s1 cnt r o ⟨a1, a2, a3, a4⟩ hc ho
    have hlen : lenOf s' = lenOf s := by unfold lenOf; rw [hl]
    unfold CurOk at ho
    rw [hl, hlen] at ho
    exact h.slash s1 cnt r o ⟨a1.trans hq, a2.trans hl, a3.trans hr, a4.trans hk⟩ hc ho
  · intro s1 cmd ab s2 hat hc hm ic
    rw [hl]
    exact h.pos s1 cmd ab s2 (hat.mono hq hl hr hk) hc hm ic

theorem SearchOk.pfx {s s' : VS} (h : SearchOk s) (hp : PfxPost s s') : SearchOk s' :=
  h.mono hp.2 (by rw [show lines s' = lines s from by unfold Vi.lines; rw [hp.1]]) (by rw [hp.1]) (by rw [hp.1])

theorem SearchOk.back' {s s' : VS} (h : SearchOk s) {c : Int} (hc : c ∉ searchKeys) (hq : allQ s' = c :: allQ s)
    (hl : lines s' = lines s) (hr : s'.ed.regs = s.ed.regs) (hk : s'.ed.xkwd = s.ed.xkwd) : SearchOk s' := by
  have hsuf : ∀ (k : Int) (q : List Int), k ∈ searchKeys → k :: q <:+ allQ s' → k :: q <:+ allQ s := by
    intro k q hk1 a1
    rw [hq] at a1
    rcases List.suffix_cons_iff.mp a1 with h1 | h1
    · injection h1 with h2 _; exact absurd (h2 ▸ hk1) hc
    · exact h1
  refine ⟨?_, by rw [hk]; exact h.kwd, ?_⟩
  · intro s1 cnt r o ⟨a1, a2, a3, a4⟩ hcn ho
    have hlen : lenOf s' = lenOf s := by unfold lenOf; rw [hl]
    unfold CurOk at ho
    rw [hl, hlen] at ho
    exact h.slash s1 cnt r o ⟨hsuf 47 _ (by decide) a1, a2.trans hl, a3.trans hr, a4.trans hk⟩ hcn ho
  · intro s1 cmd ab s2 ⟨⟨k, hk1, hk2⟩, a2, a3, a4⟩ hcm hm ic
    rw [hl]
    exact h.pos s1 cmd ab s2 ⟨⟨k, hk1, hsuf k _ hk1 hk2⟩, a2.trans hl, a3.trans hr, by rw [← hk]; exact a4⟩ hcm hm ic

/-- pushing back a key that does not start a search -/
theorem SearchOk.back {s : VS} (h : SearchOk s) {c : Int} (hc : c ∉ searchKeys) : SearchOk { s with vibuf := c :: s.vibuf } :=
  h.back' hc (allQ_viBack _ _) rfl rfl rfl

theorem curword_noNul {s : VS} (hl : ∀ l ∈ lines s, LineOk l) {r o : Int} {cw : Bytes} (h : curword s r o = some cw) :
    NoNul cw := by
  unfold curword at h
  cases hln : lineOf s r with
  | none => rw [hln] at h; cases h
  | some ln =>
    rw [hln] at h
    dsimp only at h
    have hmem : ln ∈ lines s := by
      unfold lineOf lineAt at hln
      split at hln
      · cases hln
      · exact List.mem_of_getElem? hln
    repeat' split at h
    all_goals first
      | (cases h; done)
      | (cases h
         intro h0
         exact (hl ln hmem).noNul (List.mem_of_mem_drop (List.mem_of_mem_take (List.mem_of_mem_take h0))))

/-- a mark that points beyond the buffer has column 0 -/
def MarksIn (s : VS) : Prop :=
  ∀ lb m p q, s.ed.lb = some lb → jump lb m = some (p, q) → lineAt (lines s) p = none → q ≤ 0

theorem repeatMove_pos (ls : Lines) (step : Int → Int → Option (Int × Int))
    (hstep : ∀ r o r' o', PosIn ls r o → step r o = some (r', o') → PosIn ls r' o') :
    ∀ (k : Nat) (r o : Int), PosIn ls r o → PosIn ls (repeatMove step k r o).1 (repeatMove step k r o).2 := by
  intro k
  induction k with
  | zero => intro r o h; exact h
  | succ k ih =>
    intro r o h
    unfold repeatMove
    cases hs : step r o with
    | none => exact h
    | some p => obtain ⟨r', o'⟩ := p; exact ih r' o' (hstep r o r' o' h hs)

theorem viMotion_go_pos (mv : Int) (ls : Lines) (big : Bool) : ∀ (k : Nat) (r o : Int), PosIn ls r o →
    PosIn ls (viMotion.go mv ls big k r o).1 (viMotion.go mv ls big k r o).2 := by
  intro k
  induction k with
  | zero => intro r o h; exact h
  | succ k ih =>
    intro r o h
    unfold viMotion.go
    have key : PosIn ls
        (if mv == 87 || mv == 119 then wordbeg ls big 1 r o
          else wordend ls big (if mv == 66 || mv == 98 then -1 else 1) r o).2.1
        (if mv == 87 || mv == 119 then wordbeg ls big 1 r o
          else wordend ls big (if mv == 66 || mv == 98 then -1 else 1) r o).2.2 := by
      split
      · exact wordbeg_pos ls big 1 r o h
      · exact wordend_pos ls big _ r o h
    generalize (if mv == 87 || mv == 119 then wordbeg ls big 1 r o
          else wordend ls big (if mv == 66 || mv == 98 then -1 else 1) r o) = q at key
    obtain ⟨b, r1, o1⟩ := q
    dsimp only
    split
    · exact key
    · exact ih _ _ key

theorem posIn_of_lines {ls ls' : Lines} (h : ls' = ls) {r o : Int} (hp : PosIn ls' r o) : PosIn ls r o := h ▸ hp

/-- **`vi_motion`**: no trap (given the hypotheses on the marks, the regex layer and counted `/` searches);
    a motion that succeeds returns a position inside the buffer -/
theorem wp_viMotion (row off : Int) (s : VS) {c : Prop} (hs : SOk s c) (hcur : CurOk s row off)
    (hmk : MarksIn s) (hsl : SearchOk s) (Q : Int × Int × Int → VS → Prop)
    (hQ : ∀ mv r o s', MvF s s' → (0 < mv → PosIn (lines s) r o) →
      (mv = 0 → s'.ed = s.ed ∧ allQ s' <:+ allQ s) → Q (mv, r, o) s') :
    wp (viMotion row off) Q s := by
  obtain ⟨⟨hrow, hoff⟩, hoff'⟩ := hcur
  unfold viMotion
  wpn
  refine wp_viMotionln row 0 s hrow _ (fun mvl r1 sa pa hr1 h0 => ?_)
  dsimp only
  wpif hmvl
  · refine (wp_pure _ _ _).mpr (hQ _ _ _ _ (MvF.of_ed pa.1) (fun _ => ⟨h0, ?_⟩)
      (fun hz => absurd hz (by simpa using hmvl)))
    have := Lemmas.C07.slenAt_nonneg (lines s) r1; omega
  have hr1' : r1 = row := hr1 (by simpa using hmvl)
  subst hr1'
  wpn
  refine wp_viRead sa _ (fun mv sb eb qb => ?_)
  wpn
  have mb : MvF s sb := MvF.of_ed (eb.trans pa.1)
  by_cases hmv0 : mv = 0
  · -- the key is NUL: no motion, the key is pushed back
    subst hmv0
    repeat (refine (wp_ite _ _ _ _ _).mpr ⟨fun hc => absurd hc (by decide), fun _ => ?_⟩)
    wpn
    refine hQ _ _ _ _ (mb.trans (MvF.of_ed rfl)) (fun h => by omega) (fun _ => ⟨eb.trans pa.1, ?_⟩)
    rw [allQ_viBack, ← qb]; exact pa.2
  have hQ3 : ∀ mv', mv' ≠ 0 → ∀ r o s', MvF s s' → (0 < mv' → PosIn (lines s) r o) → Q (mv', r, o) s' :=
    fun mv' hne r o s' m p => hQ mv' r o s' m p (fun hz => absurd hz hne)
  have hlb : lines sb = lines s := mb.lines
  have hfail : wp (pure ((-1 : Int), r1, off) : M (Int × Int × Int)) Q sb :=
    (wp_pure _ _ _).mpr (hQ3 _ (by first | exact hmv0 | decide) _ _ _ mb (fun h => by omega))
  have hcurp : PosIn (lines sb) r1 off := by rw [hlb]; exact ⟨hrow, hoff⟩
  -- f F t T
  wpif hc
  · wpn
    refine wp_viChar sb _ (fun cs sc ec hcs => ?_)
    have mc : MvF s sc := mb.trans (MvF.of_EdF ec)
    cases cs with
    | none => exact (wp_pure _ _ _).mpr (hQ3 _ (by first | exact hmv0 | decide) _ _ _ mc (fun h => by omega))
    | some cs =>
      dsimp only
      wpn
      cases hf : findchar (lines sb) cs mv.toNat (cntOf s) r1 off with
      | none => exact (wp_pure _ _ _).mpr (hQ3 _ (by first | exact hmv0 | decide) _ _ _ (mc.trans (MvF.of_ed rfl)) (fun h => by omega))
      | some o =>
        refine (wp_pure _ _ _).mpr (hQ3 _ (by first | exact hmv0 | decide) _ _ _ (mc.trans (MvF.of_ed rfl)) (fun _ => ⟨hrow, ?_⟩))
        rw [← hlb]; exact findchar_le _ _ _ _ _ _ _ hf
  -- ; ,
  wpif hc
  · wpif hcl
    · exact hfail
    · cases hf : findchar (lines sb) sb.charlast sb.charcmd (if mv == 59 then cntOf s else -cntOf s) r1 off with
      | none => exact hfail
      | some o =>
        refine (wp_pure _ _ _).mpr (hQ3 _ (by first | exact hmv0 | decide) _ _ _ mb (fun _ => ⟨hrow, ?_⟩))
        rw [← hlb]; exact findchar_le _ _ _ _ _ _ _ hf
  -- h l
  wpif hc
  · have := repeatMove_pos (lines sb)
      (fun r o => (nextcol sb (if mv == 104 then -(if dirCtx s ((lineOf s r1).getD []) ≥ 0 then (1 : Int) else -1)
        else (if dirCtx s ((lineOf s r1).getD []) ≥ 0 then 1 else -1)) r o).map (fun o' => (r, o')))
      (by
        intro r o r' o' hp hst
        cases hn : nextcol sb (if mv == 104 then -(if dirCtx s ((lineOf s r1).getD []) ≥ 0 then (1 : Int) else -1)
          else (if dirCtx s ((lineOf s r1).getD []) ≥ 0 then 1 else -1)) r o with
        | none => rw [hn] at hst; cases hst
        | some x =>
          rw [hn] at hst
          cases hst
          exact ⟨hp.1, nextcol_le _ _ _ _ _ hn⟩) (cntOf s).toNat r1 off hcurp
    generalize repeatMove _ _ _ _ = q at this ⊢
    obtain ⟨r2, o2⟩ := q
    exact (wp_pure _ _ _).mpr (hQ3 _ (by first | exact hmv0 | decide) _ _ _ mb (fun _ => posIn_of_lines hlb this))
  -- B E W b e w
  wpif hc
  · have := viMotion_go_pos mv (lines sb) (mv == 66 || mv == 69 || mv == 87) (cntOf s).toNat r1 off hcurp
    generalize viMotion.go _ _ _ _ _ _ = q at this ⊢
    obtain ⟨r2, o2⟩ := q
    exact (wp_pure _ _ _).mpr (hQ3 _ (by first | exact hmv0 | decide) _ _ _ mb (fun _ => posIn_of_lines hlb this))
  -- { }
  wpif hc
  · have := repeatMove_pos (lines sb)
      (fun r _ => some (paragraphbeg (lines sb) (if mv == 123 then -1 else 1) r))
      (by
        intro r o r' o' hp hst
        cases hst
        exact paragraphbeg_pos _ _ _) (cntOf s).toNat r1 off hcurp
    generalize repeatMove _ _ _ _ = q at this ⊢
    obtain ⟨r2, o2⟩ := q
    exact (wp_pure _ _ _).mpr (hQ3 _ (by first | exact hmv0 | decide) _ _ _ mb (fun _ => posIn_of_lines hlb this))
  -- [[ ]]
  wpif hc
  · wpn
    refine wp_viRead sb _ (fun c2 sc ec qc => ?_)
    have mc : MvF s sc := mb.trans (MvF.of_ed ec)
    wpif hc2
    · exact (wp_pure _ _ _).mpr (hQ3 _ (by first | exact hmv0 | decide) _ _ _ mc (fun h => by omega))
    · wpn
      exact hQ3 _ (by first | exact hmv0 | decide) _ _ _ (mc.trans (MvF.of_ed rfl)) (fun _ => ⟨hrow, hoff⟩)
  -- 0 ^ $ |
  wpif hc
  · refine (wp_pure _ _ _).mpr (hQ3 _ (by first | exact hmv0 | decide) _ _ _ mb (fun _ => ⟨hrow, Lemmas.C07.slenAt_nonneg _ _⟩))
  wpif hc
  · refine (wp_pure _ _ _).mpr (hQ3 _ (by first | exact hmv0 | decide) _ _ _ mb (fun _ => ⟨hrow, ?_⟩))
    rw [← hlb]; exact indents_le _ _
  wpif hc
  · refine (wp_pure _ _ _).mpr (hQ3 _ (by first | exact hmv0 | decide) _ _ _ mb (fun _ => ⟨hrow, ?_⟩))
    rw [← hlb]; exact eol_le _ _
  wpif hc
  · wpn
    refine hQ3 _ (by first | exact hmv0 | decide) _ _ _ (mb.trans (MvF.of_ed rfl)) (fun _ => ⟨hrow, ?_⟩)
    rw [← hlb]; exact col2off_le _ _ _
  -- / ? n N
  wpif hc
  · wpn
    have hsb : SOk sb c := mb.sok hs
    have hmvk : mv ∈ searchKeys := by
      simp only [Bool.or_eq_true, beq_iff_eq] at hc
      rcases hc with ((h | h) | h) | h
      all_goals
        rw [h]
        decide
    have hsuf : mv :: allQ sb <:+ allQ s := by rw [← qb]; exact pa.2
    refine wp_viSearch mv.toNat (cntOf s) r1 off sb hsb (by rw [eb, pa.1]; exact hsl.kwd) hcurp ?_ ?_ ?_ _
      (fun res sc mc _ hres => ?_)
    · intro hl
      rw [hlb]
      apply hoff'
      have : lenOf sb = lenOf s := by unfold lenOf; rw [hlb]
      rw [← this]; exact hl
    · intro h47 hcnt
      have hmv : mv = 47 := by
        simp only [Bool.or_eq_true, beq_iff_eq] at hc
        omega
      rw [h47]
      refine hsl.slash sb (cntOf s) r1 off ⟨?_, hlb, by rw [eb, pa.1], by rw [eb, pa.1]⟩ hcnt ⟨⟨hrow, hoff⟩, hoff'⟩
      rw [hmv] at hsuf; exact hsuf
    · intro hne _ ab s2 hm ic
      rw [hlb]
      exact hsl.pos sb mv.toNat ab s2 ⟨⟨mv, hmvk, hsuf⟩, hlb, by rw [eb, pa.1], Or.inl (by rw [eb, pa.1])⟩ hne hm ic
    · cases res with
      | none => exact (wp_pure _ _ _).mpr (hQ3 _ (by first | exact hmv0 | decide) _ _ _ (mb.trans mc) (fun h => by omega))
      | some p =>
        obtain ⟨r2, o2⟩ := p
        exact (wp_pure _ _ _).mpr (hQ3 _ (by first | exact hmv0 | decide) _ _ _ (mb.trans mc) (fun _ => posIn_of_lines hlb (hres r2 o2 rfl)))
  -- ^A
  wpif hc
  · cases hcw : curword sb r1 off with
    | none => exact hfail
    | some cw =>
      dsimp only
      wpn
      have md : MvF s { sb with ed := sb.ed.kwdSet (some (([92, 60] ++ cw ++ [92, 62]).take 127)) 1, soset := false } :=
        mb.trans ⟨rfl, rfl, rfl, rfl, id⟩
      have hmv1 : mv = 1 := by
        simp only [beq_iff_eq] at hc
        omega
      have hsuf : (1 : Int) :: allQ sb <:+ allQ s := by rw [← hmv1, ← qb]; exact pa.2
      refine wp_viSearch 110 (cntOf s) r1 off _ (md.sok hs) ?_ ?_ ?_ (fun h => by omega) ?_ _
        (fun res sc mc _ hres => ?_)
      · show NoNul ((sb.ed.kwdSet (some (([92, 60] ++ cw ++ [92, 62]).take 127)) 1).xkwd)
        unfold Ed.kwdSet
        dsimp only
        intro hmem
        have h1 := List.mem_of_mem_take (List.mem_of_mem_take hmem)
        simp only [List.cons_append, List.nil_append, List.mem_cons, List.mem_append, List.not_mem_nil, or_false] at h1
        rcases h1 with h1 | h1 | h1 | h1 | h1
        · omega
        · omega
        · exact curword_noNul (mb.sok hs).linesOk hcw h1
        · omega
        · omega
      · rw [md.lines]; exact ⟨hrow, hoff⟩
      · intro hl
        rw [md.lines]
        apply hoff'
        have : lenOf { sb with ed := sb.ed.kwdSet (some (([92, 60] ++ cw ++ [92, 62]).take 127)) 1, soset := false }
            = lenOf s := by unfold lenOf; rw [md.lines]
        rw [← this]; exact hl
      · intro _ _ ab s2 hm ic
        rw [md.lines]
        exact hsl.pos ({ sb with ed := sb.ed.kwdSet (some (([92, 60] ++ cw ++ [92, 62]).take 127)) 1, soset := false } : VS)
          110 ab s2 ⟨⟨1, by decide, hsuf⟩, md.lines, by show sb.ed.regs = s.ed.regs; rw [eb, pa.1],
          Or.inr ⟨cw, rfl⟩⟩ (by decide) hm ic
      · cases res with
        | none => exact (wp_pure _ _ _).mpr (hQ3 _ (by first | exact hmv0 | decide) _ _ _ (md.trans mc) (fun h => by omega))
        | some p =>
          obtain ⟨r2, o2⟩ := p
          exact (wp_pure _ _ _).mpr (hQ3 _ (by first | exact hmv0 | decide) _ _ _ (md.trans mc) (fun _ => posIn_of_lines md.lines (hres r2 o2 rfl)))
  -- space
  wpif hc
  · have := repeatMove_pos (lines sb)
      (fun r o => if o + 1 < 0 || (lineAt (lines sb) r).isNone || o + 1 ≥ slenAt (lines sb) r then none else some (r, o + 1))
      (by
        intro r o r' o' hp hst
        split at hst
        · cases hst
        · rename_i hcc
          cases hst
          simp only [Bool.or_eq_true, decide_eq_true_eq, not_or] at hcc
          exact ⟨hp.1, by omega⟩) (cntOf s).toNat r1 off hcurp
    generalize repeatMove _ _ _ _ = q at this ⊢
    obtain ⟨r2, o2⟩ := q
    exact (wp_pure _ _ _).mpr (hQ3 _ (by first | exact hmv0 | decide) _ _ _ mb (fun _ => posIn_of_lines hlb this))
  -- DEL ^H
  wpif hc
  · have := repeatMove_pos (lines sb)
      (fun r o => if o - 1 < 0 || (lineAt (lines sb) r).isNone || o - 1 ≥ slenAt (lines sb) r then none else some (r, o - 1))
      (by
        intro r o r' o' hp hst
        split at hst
        · cases hst
        · rename_i hcc
          cases hst
          simp only [Bool.or_eq_true, decide_eq_true_eq, not_or] at hcc
          exact ⟨hp.1, by omega⟩) (cntOf s).toNat r1 off hcurp
    generalize repeatMove _ _ _ _ = q at this ⊢
    obtain ⟨r2, o2⟩ := q
    exact (wp_pure _ _ _).mpr (hQ3 _ (by first | exact hmv0 | decide) _ _ _ mb (fun _ => posIn_of_lines hlb this))
  -- `mark
  wpif hc
  · wpn
    refine wp_viRead sb _ (fun m sc ec qc => ?_)
    have mc : MvF s sc := mb.trans (MvF.of_ed ec)
    wpif hm
    · exact (wp_pure _ _ _).mpr (hQ3 _ (by first | exact hmv0 | decide) _ _ _ mc (fun h => by omega))
    · cases hj : sb.ed.lb.bind (fun lb => jump lb m.toNat) with
      | none => exact (wp_pure _ _ _).mpr (hQ3 _ (by first | exact hmv0 | decide) _ _ _ mc (fun h => by omega))
      | some pq =>
        obtain ⟨p, q⟩ := pq
        dsimp only
        have hlb' : sb.ed.lb = s.ed.lb := mb.lb
        obtain ⟨lb, hlbs, hjj⟩ : ∃ lb, s.ed.lb = some lb ∧ jump lb m.toNat = some (p, q) := by
          rw [hlb'] at hj
          cases hl : s.ed.lb with
          | none => rw [hl] at hj; cases hj
          | some lb => rw [hl] at hj; exact ⟨lb, rfl, hj⟩
        have hp0 : 0 ≤ p := by
          unfold jump at hjj
          split at hjj
          · simp only [] at hjj
            split at hjj
            · cases hjj
            · cases hjj; omega
          · cases hjj
        cases hln : lineAt (lines sb) p with
        | some ln =>
          refine (wp_pure _ _ _).mpr (hQ3 _ (by first | exact hmv0 | decide) _ _ _ mc (fun _ => ⟨hp0, ?_⟩))
          rw [← hlb]; unfold slenAt; rw [hln]
          dsimp only
          omega
        | none =>
          refine (wp_pure _ _ _).mpr (hQ3 _ (by first | exact hmv0 | decide) _ _ _ mc (fun _ => ⟨hp0, ?_⟩))
          have := hmk lb m.toNat p q hlbs hjj (by rw [← hlb]; exact hln)
          have h2 := Lemmas.C07.slenAt_nonneg (lines s) p
          omega
  -- %
  wpif hc
  · cases hpr : pair (lines sb) r1 off with
    | none => exact hfail
    | some x =>
      obtain ⟨r2, o2⟩ := x
      exact (wp_pure _ _ _).mpr (hQ3 _ (by first | exact hmv0 | decide) _ _ _ mb (fun _ => posIn_of_lines hlb (pair_pos _ _ _ _ hpr)))
  · wpn
    refine hQ _ _ _ _ (mb.trans (MvF.of_ed rfl)) (fun h => by omega) (fun _ => ⟨eb.trans pa.1, ?_⟩)
    rw [allQ_viBack, ← qb]; exact pa.2

end Neatvi.Lemmas.C05f
