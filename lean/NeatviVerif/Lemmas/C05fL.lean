import NeatviVerif.Lemmas.C05fK
import NeatviVerif.Lemmas.C08bInput
/-!
# C05f, part L: `led_input` / `vi_input` — the text typed in insert mode

The text holds no NUL; and the row bookkeeping of `vi_nextline()` matches the newlines of the text:
`xrow' - (newlines of the text returned) = xrow - (newlines of pref) - (newlines of post)`.
-/
set_option linter.unusedSimpArgs false
set_option linter.unusedVariables false
namespace Neatvi.Lemmas.C05f
open Neatvi Neatvi.Uc Neatvi.Lbuf Neatvi.Ex Neatvi.Mot Neatvi.Vi Neatvi.Rset

theorem nlCount_nil : nlCount [] = 0 := rfl

theorem nlCount_of_not_mem {a : Bytes} (h : 10 ∉ a) : nlCount a = 0 := by
  unfold nlCount
  rw [List.length_eq_zero_iff, List.filter_eq_nil_iff]
  intro x hx hx10
  simp at hx10
  subst hx10
  exact h hx

theorem nlCount_singleton_nl : nlCount [10] = 1 := rfl

theorem blanks_no_nl (p : Bytes) : 10 ∉ p.takeWhile isBlankC :=
  fun h => absurd (Basics.mem_takeWhile h) (by decide)

theorem take_blanks_no_nl (ln : Bytes) (k : Nat) (hk : k ≤ (ln.takeWhile isBlankC).length) : 10 ∉ ln.take k :=
  fun h => blanks_no_nl ln ((List.prefix_of_prefix_length_le (List.take_prefix k ln) (List.takeWhile_prefix _)
    (by rw [List.length_take]; omega)).subset h)

theorem nlCount_drop_blanks (p : Bytes) (n : Nat) (hn : n ≤ (p.takeWhile isBlankC).length) :
    nlCount (p.drop n) = nlCount p := by
  conv => rhs; rw [← List.take_append_drop n p, Lemmas.C08b.nlCount_append]
  rw [nlCount_of_not_mem (take_blanks_no_nl p n hn), Nat.zero_add]

/-- the frame of insert mode: buffer table and registers as before -/
def InF (e e' : Ed) : Prop := e'.bufs = e.bufs ∧ e'.regs = e.regs ∧ e'.xquit = e.xquit

theorem InF.refl (e : Ed) : InF e e := ⟨rfl, rfl, rfl⟩
theorem InF.trans {a b c : Ed} (h1 : InF a b) (h2 : InF b c) : InF a c :=
  ⟨h2.1.trans h1.1, h2.2.1.trans h1.2.1, h2.2.2.trans h1.2.2⟩
theorem InF.of_EdF {e e' : Ed} (h : EdF e e') : InF e e' := ⟨h.bufs, h.regs, h.xquit⟩
theorem InF.textOk {e e' : Ed} (hf : InF e e') (h : TextOk e) : TextOk e' := by
  refine ⟨by rw [hf.2.1]; exact h.1, ?_⟩
  intro r l hl
  have : e'.line r = e.line r := by unfold Ed.line Ed.lb Ed.cur; rw [hf.1]
  rw [this] at hl
  exact h.2 r l hl
theorem InF.sok {s s' : VS} {c : Prop} (hf : InF s.ed s'.ed) (h : SOk s c) : SOk s' c :=
  ⟨by rw [hf.1]; exact h.1, by rw [hf.2.1]; exact h.2⟩

theorem wp_repeat_nextline (n : Nat) : ∀ (s : VS) (Q : Unit → VS → Prop),
    (∀ s', InF s.ed s'.ed → s'.ed.xrow = s.ed.xrow + n → s'.xai = s.xai → Q () s') →
    wp (Vi.repeatM n viNextlineR) Q s := by
  induction n with
  | zero =>
    intro s Q hQ
    unfold Vi.repeatM
    exact (wp_pure _ _ _).mpr (hQ s (InF.refl _) (by simp) rfl)
  | succ n ih =>
    intro s Q hQ
    unfold Vi.repeatM
    wp1
    unfold viNextlineR
    wpn
    refine ih _ _ (fun s' hf hx ha => hQ s' ?_ ?_ ?_)
    · refine InF.trans ?_ hf
      split <;> exact ⟨rfl, rfl, rfl⟩
    · rw [hx]
      split <;> (simp only []; push_cast; omega)
    · rw [ha]

theorem wp_ledInput_loop (xai : Bool) (s0 : VS) (ht : TextOk s0.ed) (C : Int) :
    ∀ (f : Nat) (sb : Bytes) (pref : Option Bytes) (post ai : Bytes) (s : VS) (Q : Bytes × Bytes → VS → Prop),
      InF s0.ed s.ed → NoNul sb → NoNulO pref → NoNul post → NoNul ai → 10 ∉ ai →
      (nlCount (pref.getD []) = 0 ∨ 0 < f) →
      (s.ed.xrow : Int) - nlCount sb - nlCount (pref.getD []) - nlCount post = C →
      (∀ rep post' s', InF s0.ed s'.ed → NoNul rep → (s'.ed.xrow : Int) - nlCount rep = C → Q (rep, post') s') →
      wp (ledInput.loop xai f sb pref post ai) Q s := by
  intro f
  induction f with
  | zero =>
    intro sb pref post ai s Q hf hsb hpref hpost hai hnl hz hC hQ
    unfold ledInput.loop
    refine (wp_pure _ _ _).mpr (hQ _ _ _ hf (noNul_append.mpr ⟨hsb, hpost⟩) ?_)
    rw [Lemmas.C08b.nlCount_append]
    rcases hz with hz | hz
    · rw [hz] at hC; push_cast at hC ⊢; omega
    · omega
  | succ f ih =>
    intro sb pref post ai s Q hf hsb hpref hpost hai hnl _ hC hQ
    unfold ledInput.loop
    wpn
    have hprefn : NoNul (pref.getD []) := by
      cases pref with
      | none => exact noNul_nil
      | some p => exact hpref p rfl
    refine wp_ledLine _ _ _ _ _ _ s (hf.textOk ht).paste hai hnl _ (fun ln key ai1 s1 e1 hln hai1 hnl1 => ?_)
    dsimp only
    wpn
    refine wp_repeat_nextline _ s1 _ (fun s2 f2 hx2 _ => ?_)
    have hf2 : InF s0.ed s2.ed := hf.trans ((InF.of_EdF e1).trans f2)
    have hnew : ∀ b : Bool, NoNul ((if b = true then sb ++ ai1 else sb) ++ pref.getD [] ++ ln ++
        (if (key == 10) = true then [10] else [])) := by
      intro b
      refine noNul_append.mpr ⟨noNul_append.mpr ⟨noNul_append.mpr ⟨?_, hprefn⟩, hln⟩, ?_⟩
      · cases b
        · exact hsb
        · exact noNul_append.mpr ⟨hsb, hai1⟩
      · split
        · simp [NoNul]
        · exact noNul_nil
    have hcnt : ∀ b : Bool, (nlCount ((if b = true then sb ++ ai1 else sb) ++ pref.getD [] ++ ln ++
        (if (key == 10) = true then [10] else [])) : Int) =
        nlCount sb + nlCount (pref.getD []) + ((nlCount ln + (if (key == 10) = true then 1 else 0) : Nat) : Int) := by
      intro b
      have h1 : nlCount (if b = true then sb ++ ai1 else sb) = nlCount sb := by
        cases b
        · rfl
        · show nlCount (sb ++ ai1) = _
          rw [Lemmas.C08b.nlCount_append, nlCount_of_not_mem hnl1]; omega
      rw [Lemmas.C08b.nlCount_append, Lemmas.C08b.nlCount_append, Lemmas.C08b.nlCount_append, h1]
      split
      · rw [nlCount_singleton_nl]; push_cast; omega
      · rw [nlCount_nil]; push_cast; omega
    have hx1 : s1.ed.xrow = s.ed.xrow := e1.xrow
    have hai2 : ∀ (b1 b2 : Bool), NoNul (if b1 = true then [] else if b2 = true then
        ai1 ++ ln.take (min (ln.takeWhile isBlankC).length (127 - ai1.length)) else ai1) := by
      intro b1 b2
      cases b1
      · cases b2
        · exact hai1
        · exact noNul_append.mpr ⟨hai1, hln.take _⟩
      · exact noNul_nil
    have hnl2 : ∀ (b1 b2 : Bool), 10 ∉ (if b1 = true then [] else if b2 = true then
        ai1 ++ ln.take (min (ln.takeWhile isBlankC).length (127 - ai1.length)) else ai1) := by
      intro b1 b2
      cases b1
      · cases b2
        · exact hnl1
        · intro h
          rcases List.mem_append.mp h with h | h
          · exact hnl1 h
          · exact take_blanks_no_nl ln _ (by omega) h
      · simp
    wpif hkey
    · refine (wp_pure _ _ _).mpr (hQ _ _ _ hf2 (noNul_append.mpr ⟨hnew _, hpost⟩) ?_)
      rw [Lemmas.C08b.nlCount_append]
      push_cast
      rw [hcnt, hx2, hx1]
      omega
    · refine ih _ none _ _ s2 Q hf2 (hnew _) noNulO_none (hpost.drop _) ?_ ?_ (Or.inl rfl) ?_ hQ
      · exact hai2 _ _
      · exact hnl2 _ _
      · have hd : nlCount (post.drop (if xai then (post.takeWhile isBlankC).length else 0)) = nlCount post := by
          apply nlCount_drop_blanks
          split <;> omega
        rw [hd]
        simp only [Option.getD_none, nlCount_nil]
        rw [hcnt, hx2, hx1]
        push_cast
        omega

theorem wp_ledInput (pref post : Bytes) (s : VS) (ht : TextOk s.ed) (hpref : NoNul pref) (hpost : NoNul post)
    (Q : Bytes × Bytes → VS → Prop)
    (hQ : ∀ rep post' s', InF s.ed s'.ed → NoNul rep →
      (s'.ed.xrow : Int) - nlCount rep = s.ed.xrow - nlCount pref - nlCount post → Q (rep, post') s') :
    wp (ledInput pref post) Q s := by
  unfold ledInput
  wpn
  refine wp_ledInput_loop s.xai s ht (s.ed.xrow - nlCount pref - nlCount post) _ _ _ _ _ s Q (InF.refl _)
    noNul_nil (noNulO_some.mpr (hpref.drop _)) hpost ((hpref.takeWhile _).take _) ?_ (Or.inr (by omega)) ?_ hQ
  · intro h
    exact blanks_no_nl pref (List.mem_of_mem_take h)
  · simp only [Option.getD_some, nlCount_nil]
    have : nlCount (pref.drop ((pref.takeWhile isBlankC).take 127).length) = nlCount pref := by
      apply nlCount_drop_blanks
      simp only [List.length_take]
      omega
    rw [this]
    push_cast
    omega

theorem wp_viInput (pref post : Bytes) (s : VS) (ht : TextOk s.ed) (hpref : NoNul pref) (hpost : NoNul post)
    (Q : Bytes × Int × Int → VS → Prop)
    (hQ : ∀ rep row off s', InF s.ed s'.ed → NoNul rep →
      (s'.ed.xrow : Int) - row = s.ed.xrow - nlCount pref - nlCount post → Q (rep, row, off) s') :
    wp (viInput pref post) Q s := by
  unfold viInput
  wpn
  refine wp_ledInput pref post s ht hpref hpost _ (fun rep post' s' hf hrep hx => ?_)
  dsimp only
  exact (wp_pure _ _ _).mpr (hQ _ _ _ _ hf hrep hx)

end Neatvi.Lemmas.C05f
