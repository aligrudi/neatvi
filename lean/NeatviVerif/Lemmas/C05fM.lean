import NeatviVerif.Lemmas.C05fL
import NeatviVerif.Lemmas.C08fCore
import NeatviVerif.Lemmas.C08bChange
/-!
# C05f, part M: the operators `y d c g~ gu gU > <` and `vc_motion`, an operator with its motion

Given a region inside the buffer (`0 ≤ r1 ≤ r2`, offsets at most the lengths of their lines) no operator traps,
and each keeps the buffer invariant.  `vc_motion` is read in the stages of `Lemmas/C08fCore.lean` (`readMotion`,
`opRegion`, `applyOp`, `vcCore`); the region `opRegion` hands to the operator is such a region (`opRegion_ok`).
-/
set_option linter.unusedSimpArgs false
set_option linter.unusedVariables false
namespace Neatvi.Lemmas.C05f
open Neatvi Neatvi.Uc Neatvi.Lbuf Neatvi.Ex Neatvi.Mot Neatvi.Vi Neatvi.Rset
open Neatvi.Lemmas.C08 (normRegion)
open Neatvi.Lemmas.C08f (applyOp inclusive opRegion readMotion vcCore)

theorem lineOf_lineOk {s : VS} {c : Prop} (hs : SOk s c) {r : Int} {l : Bytes} (h : lineOf s r = some l) : LineOk l := by
  refine hs.linesOk l ?_
  unfold lineOf lineAt at h
  split at h
  · cases h
  · exact List.mem_of_getElem? h

theorem lineE_noNul {s : VS} {c : Prop} (hs : SOk s c) (r : Int) : NoNul (lineE s r) := by
  unfold lineE
  cases h : lineOf s r with
  | none => exact noNul_nil
  | some l => exact (lineOf_lineOk hs h).noNul

theorem cp_noNul {ed : Ed} {c : Prop} (h : BufsOk ed.bufs c) (b e : Int) : NoNul (ed.cp b e) := by
  unfold Ed.cp
  obtain ⟨lb, h1, h2⟩ := h.lb ed rfl
  rw [h1]
  unfold Lbuf.cp
  apply noNul_flatten
  intro x hx
  exact (h2.lines x (List.mem_of_mem_drop (List.mem_of_mem_take hx))).noNul

theorem lbufRegion_some {s : VS} {c : Prop} (hs : SOk s c) (r1 o1 r2 o2 : Int)
    (h1 : o1 ≤ slenAt (lines s) r1) (h2 : o2 ≤ slenAt (lines s) r2) :
    ∃ x, lbufRegion s r1 o1 r2 o2 = some x ∧ NoNul x := by
  unfold lbufRegion
  rw [slenAt_eq] at h1 h2
  by_cases hr : (r1 == r2) = true
  · rw [if_pos hr]
    have : r1 = r2 := by simpa using hr
    subst this
    obtain ⟨x, hx, _⟩ := subI_some h1 h2
    exact ⟨x, hx, subI_noNul (lineE_noNul hs r1) hx⟩
  · rw [if_neg hr]
    obtain ⟨x1, hx1, _⟩ := subI_some (l := lineE s r1) h1 (e := -1) (by omega)
    obtain ⟨x3, hx3, _⟩ := subI_some (l := lineE s r2) (b := 0) (by omega) h2
    rw [hx1, hx3]
    exact ⟨_, rfl, noNul_append.mpr ⟨noNul_append.mpr ⟨subI_noNul (lineE_noNul hs r1) hx1, cp_noNul hs.1 _ _⟩,
      subI_noNul (lineE_noNul hs r2) hx3⟩⟩

theorem BufsOk.weaken {bufs : List (Option Buf)} {c : Prop} (h : BufsOk bufs c) : BufsOk bufs False := by
  obtain ⟨b, h1, h2⟩ := h
  exact ⟨b, h1, h2.weaken⟩

theorem SOk.weaken {s : VS} {c : Prop} (h : SOk s c) : SOk s False := ⟨h.1.weaken, h.2⟩

/-- the state after an operator: the invariant, `xquit` as before -/
def OpPost (s s' : VS) : Prop := SOk s' False ∧ s'.ed.xquit = s.ed.xquit

theorem wp_edEdit_sok {s : VS} {c : Prop} (hs : SOk s c) (txt : Option Bytes) (b e : Int) (h0 : 0 ≤ b) (hbe : b ≤ e)
    (ht : NoNulO txt) (Q : Unit → VS → Prop)
    (hQ : ∀ s', SOk s' False → s'.ed.xrow = s.ed.xrow → s'.ed.xoff = s.ed.xoff → s'.ed.xquit = s.ed.xquit →
      s'.xai = s.xai → Q () s') : wp (edEdit txt b e) Q s := by
  refine wp_edEdit hs.1 txt b e h0 hbe ht Q (fun lb lb' _ hh _ => ?_)
  refine hQ _ ⟨bufsOk_setLb hs.1 hh, ?_⟩ (by simp) (by simp) (by simp) rfl
  simp only [setLb_regs]
  exact hs.2

theorem sok_regPut {s : VS} {c : Prop} (hs : SOk s c) (k : Nat) {x : Bytes} (hx : NoNul x) (ln : Nat) :
    SOk { s with ed := { s.ed with regs := s.ed.regs.put k x ln } } c :=
  ⟨hs.1, regsOk_put hs.2 k hx ln⟩

theorem SOk.congr {s s' : VS} {c : Prop} (hs : SOk s c) (h1 : s'.ed.bufs = s.ed.bufs) (h2 : s'.ed.regs = s.ed.regs) :
    SOk s' c := by
  unfold SOk; rw [h1, h2]; exact hs

theorem wp_viYank {s : VS} {c : Prop} (hs : SOk s c) (r1 o1 r2 o2 : Int) (ln : Bool)
    (h1 : o1 ≤ slenAt (lines s) r1) (h2 : o2 ≤ slenAt (lines s) r2) (Q : Nat → VS → Prop)
    (hQ : ∀ a s', OpPost s s' → Q a s') : wp (viYank r1 o1 r2 o2 ln) Q s := by
  unfold viYank
  wpn
  obtain ⟨x, hx, hxn⟩ := lbufRegion_some hs r1 (if ln then 0 else o1) r2 (if ln then -1 else o2)
    (by split; exact Lemmas.C07.slenAt_nonneg _ _; exact h1) (by split; have := Lemmas.C07.slenAt_nonneg (lines s) r2; omega; exact h2)
  rw [hx]
  wpn
  exact hQ _ _ ⟨(sok_regPut hs s.ybuf hxn _).weaken, rfl⟩

theorem subI_line_some {s : VS} {c : Prop} (hs : SOk s c) (r b e : Int) (hb : b ≤ slenAt (lines s) r)
    (he : e ≤ slenAt (lines s) r) : ∃ x, subI (lineE s r) b e = some x ∧ NoNul x := by
  rw [slenAt_eq] at hb he
  obtain ⟨x, hx, _⟩ := subI_some hb he
  exact ⟨x, hx, subI_noNul (lineE_noNul hs r) hx⟩

theorem lineE_regPut (s : VS) (k : Nat) (x : Bytes) (ln : Nat) (r : Int) :
    lineE { s with ed := { s.ed with regs := s.ed.regs.put k x ln } } r = lineE s r := rfl

theorem wp_viDelete {s : VS} {c : Prop} (hs : SOk s c) (r1 o1 r2 o2 : Int) (ln : Bool) (hr1 : 0 ≤ r1) (hr : r1 ≤ r2)
    (h1 : o1 ≤ slenAt (lines s) r1) (h2 : o2 ≤ slenAt (lines s) r2) (Q : Nat → VS → Prop)
    (hQ : ∀ a s', OpPost s s' → Q a s') : wp (viDelete r1 o1 r2 o2 ln) Q s := by
  unfold viDelete
  wpn
  obtain ⟨x, hx, hxn⟩ := lbufRegion_some hs r1 (if ln then 0 else o1) r2 (if ln then -1 else o2)
    (by split; exact Lemmas.C07.slenAt_nonneg _ _; exact h1) (by split; have := Lemmas.C07.slenAt_nonneg (lines s) r2; omega; exact h2)
  rw [hx]
  wpn
  have hs1 := sok_regPut hs s.ybuf hxn (if ln = true then 1 else 0)
  have hfin : ∀ s2, SOk s2 False → s2.ed.xquit = s.ed.xquit →
      wp (do
        let s' ← get
        let row := if ln = true then min r1 (max 0 (lenOf s' - 1)) else r1
        setPos row (if ln = true then indents (lines s') row else o1)
        pure VC_OK) Q s2 := by
    intro s2 h2s hq
    wpn
    exact hQ _ _ ⟨h2s.congr rfl rfl, hq⟩
  wpif hln
  · wpn
    obtain ⟨pref, hp, hpn⟩ := subI_line_some hs r1 0 o1 (Lemmas.C07.slenAt_nonneg _ _) h1
    obtain ⟨post, hq, hqn⟩ := subI_line_some hs r2 o2 (-1) h2 (by have := Lemmas.C07.slenAt_nonneg (lines s) r2; omega)
    rw [hp]; wpn
    rw [hq]; wpn
    refine wp_edEdit_sok hs1 _ _ _ hr1 (by omega) (noNulO_some.mpr (noNul_append.mpr ⟨hpn, hqn⟩)) _
      (fun s2 h2s _ _ hxq _ => ?_)
    exact hfin s2 h2s hxq
  · wpn
    refine wp_edEdit_sok hs1 _ _ _ hr1 (by omega) noNulO_none _ (fun s2 h2s _ _ hxq _ => ?_)
    exact hfin s2 h2s hxq

theorem ite_ne_zero {p : Prop} [Decidable p] {a b : Nat} (ha : a ≠ 0) (hb : b ≠ 0) : (if p then a else b) ≠ 0 := by
  split
  · exact ha
  · exact hb

theorem lowerB_ne_zero {c : Nat} (h : c ≠ 0) : Vi.lowerB c ≠ 0 := by
  unfold Vi.lowerB
  split <;> omega

theorem upperB_ne_zero {c : Nat} (h : c ≠ 0) : Vi.upperB c ≠ 0 := by
  unfold Vi.upperB
  split
  · rename_i hc
    rw [Bool.and_eq_true, decide_eq_true_eq] at hc
    omega
  · exact h

theorem caseMap_noNul (cmd : Nat) : ∀ (f : Nat) (x : Bytes), NoNul x → NoNul (caseMap cmd f x) := by
  intro f
  induction f with
  | zero => intro x h; unfold caseMap; exact h
  | succ f ih =>
    intro x h
    unfold caseMap
    cases x with
    | nil => exact noNul_nil
    | cons c r =>
      obtain ⟨hc, hr⟩ := noNul_cons.mp h
      dsimp only
      refine noNul_append.mpr ⟨noNul_cons.mpr ⟨?_, ((h.drop 1).take _)⟩, ih _ (h.drop _)⟩
      exact ite_ne_zero (ite_ne_zero (lowerB_ne_zero hc) (ite_ne_zero (upperB_ne_zero hc)
        (ite_ne_zero (ite_ne_zero (upperB_ne_zero hc) (lowerB_ne_zero hc)) hc))) hc

theorem wp_viCase {s : VS} {c : Prop} (hs : SOk s c) (r1 o1 r2 o2 : Int) (ln : Bool) (cmd : Nat) (hr1 : 0 ≤ r1)
    (hr : r1 ≤ r2) (h1 : o1 ≤ slenAt (lines s) r1) (h2 : o2 ≤ slenAt (lines s) r2) (Q : Nat → VS → Prop)
    (hQ : ∀ a s', OpPost s s' → Q a s') : wp (viCase r1 o1 r2 o2 ln cmd) Q s := by
  unfold viCase
  wpn
  obtain ⟨x, hx, hxn⟩ := lbufRegion_some hs r1 (if ln then 0 else o1) r2 (if ln then -1 else o2)
    (by split; exact Lemmas.C07.slenAt_nonneg _ _; exact h1) (by split; have := Lemmas.C07.slenAt_nonneg (lines s) r2; omega; exact h2)
  rw [hx]
  wpn
  have hcm := caseMap_noNul cmd (x.length + 1) x hxn
  have hfin : ∀ s2, SOk s2 False → s2.ed.xquit = s.ed.xquit →
      wp (do
        let s' ← get
        setPos r2 (if ln = true then indents (lines s') r2 else o2)
        pure VC_OK) Q s2 := by
    intro s2 h2s hq
    wpn
    exact hQ _ _ ⟨h2s.congr rfl rfl, hq⟩
  wpif hln
  · wpn
    obtain ⟨pref, hp, hpn⟩ := subI_line_some hs r1 0 o1 (Lemmas.C07.slenAt_nonneg _ _) h1
    obtain ⟨post, hq, hqn⟩ := subI_line_some hs r2 o2 (-1) h2 (by have := Lemmas.C07.slenAt_nonneg (lines s) r2; omega)
    rw [hp]; wpn
    rw [hq]; wpn
    refine wp_edEdit_sok hs _ _ _ hr1 (by omega)
      (noNulO_some.mpr (noNul_append.mpr ⟨noNul_append.mpr ⟨hpn, hcm⟩, hqn⟩)) _ (fun s2 h2s _ _ hxq _ => ?_)
    exact hfin s2 h2s hxq
  · wpn
    refine wp_edEdit_sok hs _ _ _ hr1 (by omega) (noNulO_some.mpr hcm) _ (fun s2 h2s _ _ hxq _ => ?_)
    exact hfin s2 h2s hxq

theorem wp_viShift_go (r2 dir : Int) (s0 : VS) : ∀ (f : Nat) (i : Int) (s : VS) (Q : Unit → VS → Prop), 0 ≤ i →
    SOk s False → s.ed.xquit = s0.ed.xquit → (∀ s', SOk s' False → s'.ed.xquit = s0.ed.xquit → Q () s') →
    wp (viShift.go r2 dir f i) Q s := by
  intro f
  induction f with
  | zero => intro i s Q _ hs hq hQ; unfold viShift.go; exact (wp_pure _ _ _).mpr (hQ s hs hq)
  | succ f ih =>
    intro i s Q hi hs hq hQ
    unfold viShift.go
    wpif hc
    · exact (wp_pure _ _ _).mpr (hQ s hs hq)
    · wpn
      cases hl : lineOf s i with
      | none => exact ih _ s Q (by omega) hs hq hQ
      | some ln =>
        dsimp only
        wpn
        have hln : NoNul ln := (lineOf_lineOk hs hl).noNul
        refine wp_edEdit_sok hs _ _ _ hi (by omega) (noNulO_some.mpr ?_) _ (fun s2 h2s _ _ hxq _ => ?_)
        · splits
          all_goals first
            | exact hln
            | exact noNul_cons.mpr ⟨by decide, hln⟩
            | exact hln.drop 1
        · exact ih _ s2 Q (by omega) h2s (hxq.trans hq) hQ

theorem wp_viShift {s : VS} {c : Prop} (hs : SOk s c) (r1 r2 dir : Int) (hr1 : 0 ≤ r1) (Q : Nat → VS → Prop)
    (hQ : ∀ a s', OpPost s s' → Q a s') : wp (viShift r1 r2 dir) Q s := by
  unfold viShift
  wpn
  refine wp_viShift_go r2 dir s _ r1 s _ hr1 hs.weaken rfl (fun s2 h2s hq => ?_)
  wpn
  exact hQ _ _ ⟨h2s.congr rfl rfl, hq⟩

theorem viIndents_noNul {s : VS} {c : Prop} (hs : SOk s c) (r : Int) : NoNul (viIndents s (lineOf s r)) := by
  unfold viIndents
  cases h : lineOf s r with
  | none => exact noNul_nil
  | some l =>
    dsimp only
    have : NoNul l := (lineOf_lineOk hs h).noNul
    split
    · exact this.takeWhile _
    · exact noNul_nil

theorem wp_drawfixTop (r1 : Int) (p : Bool) (s : VS) (Q : Unit → VS → Prop)
    (hQ : ∀ s', s'.ed.bufs = s.ed.bufs → s'.ed.regs = s.ed.regs → s'.ed.xrow = s.ed.xrow → s'.ed.xquit = s.ed.xquit →
      s'.xai = s.xai → Q () s') : wp (drawfixTop r1 p) Q s := by
  unfold drawfixTop
  wpn
  wpif h
  · wpn; exact hQ _ rfl rfl rfl rfl rfl
  · wpn; exact hQ _ rfl rfl rfl rfl rfl

theorem wp_changeTail (r1 r2 : Int) (pref post : Bytes) (s0 s1 : VS) {c : Prop} (hs1 : SOk s1 c)
    (hq1 : s1.ed.xquit = s0.ed.xquit) (hr1 : 0 ≤ r1) (hr : r1 ≤ r2) (hpn : NoNul pref) (hqn : NoNul post)
    (Q : Nat → VS → Prop) (hQ : ∀ a s', OpPost s0 s' → Q a s') :
    wp (Lemmas.C08b.changeTail pref post r1 r2) Q s1 := by
  unfold Lemmas.C08b.changeTail
  wpn
  refine wp_drawfixTop _ _ _ _ (fun s2 b2 g2 _ q2 _ => ?_)
  have hs2 : SOk s2 c := hs1.congr b2 g2
  wpn
  refine wp_viInput pref post s2 hs2.textOk hpn hqn _ (fun rep row off s3 f3 hrep _ => ?_)
  wpn
  refine wp_edEdit_sok (f3.sok hs2) _ _ _ hr1 (by omega) (noNulO_some.mpr hrep) _ (fun s4 h4 _ _ q4 _ => ?_)
  wpn
  refine hQ _ _ ⟨h4.congr rfl rfl, ?_⟩
  show s4.ed.xquit = _
  rw [q4, f3.2.2, q2]; exact hq1

theorem wp_viChange {s : VS} {c : Prop} (hs : SOk s c) (r1 o1 r2 o2 : Int) (ln : Bool) (hr1 : 0 ≤ r1) (hr : r1 ≤ r2)
    (h1 : o1 ≤ slenAt (lines s) r1) (h2 : o2 ≤ slenAt (lines s) r2) (Q : Nat → VS → Prop)
    (hQ : ∀ a s', OpPost s s' → Q a s') : wp (viChange r1 o1 r2 o2 ln) Q s := by
  rw [show viChange r1 o1 r2 o2 ln = (do
    let s ← get
    let region ← liftO (lbufRegion s r1 (if ln then 0 else o1) r2 (if ln then -1 else o2))
    regPut s.ybuf region (if ln then 1 else 0)
    let pref ← if ln then pure (viIndents s (lineOf s r1)) else liftO (subI (lineE s r1) 0 o1)
    let post ← if ln || (lineOf s r2).isNone then pure [10] else liftO (subI (lineE s r2) o2 (-1))
    Lemmas.C08b.changeTail pref post r1 r2) from rfl]
  wpn
  obtain ⟨x, hx, hxn⟩ := lbufRegion_some hs r1 (if ln then 0 else o1) r2 (if ln then -1 else o2)
    (by split; exact Lemmas.C07.slenAt_nonneg _ _; exact h1) (by split; have := Lemmas.C07.slenAt_nonneg (lines s) r2; omega; exact h2)
  rw [hx]
  wpn
  have hs1 := sok_regPut hs s.ybuf hxn (if ln = true then 1 else 0)
  -- whatever `pref` and `post` are cut out, they hold no NUL, and the tail runs once
  have htail : ∀ pref post, NoNul pref → NoNul post → wp (Lemmas.C08b.changeTail pref post r1 r2) Q
      ({ s with ed := { s.ed with regs := s.ed.regs.put s.ybuf x (if ln = true then 1 else 0) } } : VS) :=
    fun pref post hpn hqn => wp_changeTail (c := c) r1 r2 pref post s _ hs1 rfl hr1 hr hpn hqn Q hQ
  have hpost : ∀ pref, NoNul pref →
      wp (if (ln || (lineOf s r2).isNone) = true then pure [10] >>= fun post => Lemmas.C08b.changeTail pref post r1 r2
          else liftO (subI (lineE s r2) o2 (-1)) >>= fun post => Lemmas.C08b.changeTail pref post r1 r2) Q
        ({ s with ed := { s.ed with regs := s.ed.regs.put s.ybuf x (if ln = true then 1 else 0) } } : VS) := by
    intro pref hpn
    wpif hpo
    · wpn
      exact htail _ _ hpn (by simp [NoNul])
    · obtain ⟨post, hq, hqn⟩ := subI_line_some hs r2 o2 (-1) h2 (by have := Lemmas.C07.slenAt_nonneg (lines s) r2; omega)
      rw [hq]
      wpn
      exact htail _ _ hpn hqn
  wpif hln
  · wpn
    exact hpost _ (viIndents_noNul hs r1)
  · obtain ⟨pref, hp, hpn⟩ := subI_line_some hs r1 0 o1 (Lemmas.C07.slenAt_nonneg _ _) h1
    rw [hp]
    wpn
    exact hpost _ hpn

theorem normRegion_in (s : VS) (ln : Bool) (r1 o1 r2 o2 : Int) (h1 : PosIn (lines s) r1 o1)
    (h2 : PosIn (lines s) r2 o2) :
    0 ≤ (normRegion s ln r1 o1 r2 o2).1 ∧ (normRegion s ln r1 o1 r2 o2).1 ≤ (normRegion s ln r1 o1 r2 o2).2.2.1 ∧
    (normRegion s ln r1 o1 r2 o2).2.1 ≤ slenAt (lines s) (normRegion s ln r1 o1 r2 o2).1 ∧
    (normRegion s ln r1 o1 r2 o2).2.2.2 ≤ slenAt (lines s) (normRegion s ln r1 o1 r2 o2).2.2.1 := by
  obtain ⟨h1a, h1b⟩ := h1
  obtain ⟨h2a, h2b⟩ := h2
  have e2 := eol_le (lines s) r2
  have z1 := Lemmas.C07.slenAt_nonneg (lines s) r1
  unfold normRegion
  dsimp only
  cases ln <;> by_cases hB : r1 > r2 <;> simp only [hB, ↓reduceIte, Bool.false_eq_true] <;> split <;>
    rename_i hsw <;> simp only [Bool.and_eq_true, beq_iff_eq, decide_eq_true_eq] at hsw <;>
    refine ⟨by omega, by omega, noeol_le_slen _ _ _, ?_⟩ <;> first | omega | (obtain ⟨rfl, _⟩ := hsw; omega)

theorem opRegion_ok (s : VS) (r1 o1 mv r2 o2 : Int) (h1 : PosIn (lines s) r1 o1) (h2 : PosIn (lines s) r2 o2) :
    0 ≤ (opRegion s mv r1 o1 r2 o2).1 ∧ (opRegion s mv r1 o1 r2 o2).1 ≤ (opRegion s mv r1 o1 r2 o2).2.2.1 ∧
    (opRegion s mv r1 o1 r2 o2).2.1 ≤ slenAt (lines s) (opRegion s mv r1 o1 r2 o2).1 ∧
    (opRegion s mv r1 o1 r2 o2).2.2.2.1 ≤ slenAt (lines s) (opRegion s mv r1 o1 r2 o2).2.2.1 := by
  obtain ⟨a, b, c, d⟩ := normRegion_in s (decide (o2 < 0)) r1 o1 r2 o2 h1 h2
  unfold opRegion
  dsimp only
  generalize normRegion s (decide (o2 < 0)) r1 o1 r2 o2 = n at a b c d ⊢
  obtain ⟨R1, O1, R2, O2⟩ := n
  refine ⟨a, b, c, ?_⟩
  dsimp only at d ⊢
  -- an inclusive motion ends one character further on, unless that is the end of the line
  split
  · rename_i hc
    simp only [Bool.and_eq_true, decide_eq_true_eq] at hc
    have := Lemmas.C08.noeol_le s R2 O2
    have := eol_le (lines s) R2
    omega
  · exact d

theorem wp_opRun {s : VS} {c : Prop} (hs : SOk s c) (cmd : Nat) (r1 o1 r2 o2 : Int) (ln : Bool) (hr1 : 0 ≤ r1)
    (hr : r1 ≤ r2) (h1 : o1 ≤ slenAt (lines s) r1) (h2 : o2 ≤ slenAt (lines s) r2) (Q : Nat → VS → Prop)
    (hQ : ∀ a s', OpPost s s' → Q a s') : wp (applyOp cmd r1 o1 r2 o2 ln) Q s := by
  unfold applyOp
  wpif hc
  · exact wp_viYank hs _ _ _ _ _ h1 h2 Q hQ
  wpif hc
  · exact wp_viDelete hs _ _ _ _ _ hr1 hr h1 h2 Q hQ
  wpif hc
  · exact wp_viChange hs _ _ _ _ _ hr1 hr h1 h2 Q hQ
  wpif hc
  · exact wp_viCase hs _ _ _ _ _ _ hr1 hr h1 h2 Q hQ
  wpif hc
  · exact wp_viShift hs _ _ _ hr1 Q hQ
  wpif hc
  · wpn
    refine wp_viPrompt _ s hs.paste _ (fun r s1 e1 _ => ?_)
    wpn
    exact hQ _ _ ⟨((MvF.of_EdF e1).sok hs).weaken.congr rfl rfl, e1.xquit⟩
  · exact (wp_pure _ _ _).mpr (hQ _ _ ⟨hs.weaken, rfl⟩)

/-- the row of the cursor is a row of the buffer (row 0 of an empty buffer) -/
def RowOk (s : VS) : Prop := 0 ≤ s.ed.xrow ∧ (lenOf s ≠ 0 → s.ed.xrow < lenOf s)

theorem lineAt_of_rowOk {s : VS} {c : Prop} (hs : SOk s c) {r : Int} (h0 : 0 ≤ r) (h1 : r < lenOf s) :
    ∃ l, lineAt (lines s) r = some l ∧ LineOk l := by
  unfold lenOf at h1
  have hlt : r.toNat < (lines s).length := by omega
  refine ⟨(lines s)[r.toNat], ?_, hs.linesOk _ (List.getElem_mem hlt)⟩
  unfold lineAt
  rw [if_neg (by omega)]
  exact List.getElem?_eq_getElem hlt

theorem curOk_noeol {s : VS} {c : Prop} (hs : SOk s c) (hr : RowOk s) (o : Int) :
    CurOk s s.ed.xrow (noeol s s.ed.xrow o) := by
  refine ⟨⟨hr.1, noeol_le_slen _ _ _⟩, fun hl => ?_⟩
  obtain ⟨l, h1, h2⟩ := lineAt_of_rowOk hs hr.1 (hr.2 hl)
  have hsl : slenAt (lines s) s.ed.xrow = ucSlen l := by unfold slenAt; rw [h1]
  rw [hsl, noeol_eq]
  have : lineE s s.ed.xrow = l := by unfold lineE lineOf; rw [h1]; rfl
  rw [this]
  have := Lemmas.C07.renNoeol_lt l o
  have := h2.slen_pos
  omega

theorem CurOk.of_lines {s s' : VS} (hl : lines s' = lines s) {r o : Int} (h : CurOk s r o) : CurOk s' r o := by
  unfold CurOk lenOf at *
  rw [hl]; exact h

theorem MarksIn.of_lb {s s' : VS} (h : MarksIn s) (hl : s'.ed.lb = s.ed.lb) : MarksIn s' := by
  intro lb m p q h1 h2 h3
  have : lines s' = lines s := by unfold Vi.lines; rw [hl]
  rw [this] at h3
  exact h lb m p q (hl ▸ h1) h2 h3

theorem wp_readMotion (cmd : Nat) (r1 o1 : Int) {s : VS} {c : Prop} (hs : SOk s c) (hcur : CurOk s r1 o1)
    (hmk : MarksIn s) (hsl : SearchOk s) (Q : Option (Int × Int × Int) → VS → Prop)
    (hQ : ∀ res s', MvF s s' →
      (∀ mv r2 o2, res = some (mv, r2, o2) → mv ≠ 0 ∧ (0 < mv → PosIn (lines s) r2 o2)) → Q res s') :
    wp (readMotion cmd r1 o1) Q s := by
  unfold readMotion
  wp1
  refine wp_viMotionln _ _ _ hcur.1.1 _ (fun mvl r2l s2 p2 _ h0 => ?_)
  have m2 : MvF s s2 := MvF.of_ed p2.1
  dsimp only
  wpif hm
  · refine (wp_pure _ _ _).mpr (hQ _ _ m2 ?_)
    intro mv r2 o2 h
    cases h
    exact ⟨by simpa using hm, fun _ => ⟨h0, by have := Lemmas.C07.slenAt_nonneg (lines s) r2l; omega⟩⟩
  · wpn
    refine wp_viMotion r1 o1 s2 (m2.sok hs) (hcur.of_lines m2.lines) (hmk.of_lb m2.lb) (hsl.pfx p2) _
      (fun mv r2 o2 s3 m3 hp _ => ?_)
    dsimp only
    wpif hz
    · wpn
      refine wp_viRead s3 _ (fun k s4 e4 _ => ?_)
      exact (wp_pure _ _ _).mpr (hQ _ _ ((m2.trans m3).trans (MvF.of_ed e4)) (by intro _ _ _ h; cases h))
    · refine (wp_pure _ _ _).mpr (hQ _ _ (m2.trans m3) ?_)
      intro mv' r2' o2' h
      cases h
      exact ⟨by simpa using hz, fun hpos => m2.lines ▸ hp hpos⟩

theorem wp_vcCore (cmd : Nat) (r1 o1 : Int) {s s0 : VS} {c : Prop} (hs : SOk s c)
    (hq : s.ed.xquit = s0.ed.xquit) (hcur : CurOk s r1 o1) (hmk : MarksIn s) (hsl : SearchOk s)
    (Q : Nat → VS → Prop) (hQ : ∀ a s', OpPost s0 s' → Q a s') : wp (vcCore cmd r1 o1) Q s := by
  unfold vcCore
  wp1
  refine wp_readMotion cmd r1 o1 hs hcur hmk hsl _ (fun res s1 m1 hres => ?_)
  have hs1 : SOk s1 c := m1.sok hs
  have hq1 : s1.ed.xquit = s0.ed.xquit := m1.2.2.2.1.trans hq
  cases res with
  | none => exact (wp_pure _ _ _).mpr (hQ _ _ ⟨hs1.weaken, hq1⟩)
  | some x =>
    obtain ⟨mv, r2, o2⟩ := x
    obtain ⟨hmv, hp⟩ := hres mv r2 o2 rfl
    dsimp only
    wpif hneg
    · exact (wp_pure _ _ _).mpr (hQ _ _ ⟨hs1.weaken, hq1⟩)
    wpn
    obtain ⟨a, b, c', d⟩ := opRegion_ok s1 r1 o1 mv r2 o2 (m1.lines ▸ hcur.1) (m1.lines ▸ hp (by omega))
    generalize opRegion s1 mv r1 o1 r2 o2 = R at a b c' d
    obtain ⟨R1, O1, R2, O2, L⟩ := R
    exact wp_opRun hs1 cmd R1 O1 R2 O2 L a b c' d Q (fun a s' hp => hQ a s' ⟨hp.1, hp.2.trans hq1⟩)

/-- **`vc_motion(cmd)`**: an operator with its motion does not trap and keeps the invariant -/
theorem wp_vcMotion (cmd : Nat) {s : VS} {c : Prop} (hs : SOk s c) (hr : RowOk s) (hmk : MarksIn s)
    (hsl : SearchOk s) (Q : Nat → VS → Prop) (hQ : ∀ a s', OpPost s s' → Q a s') : wp (vcMotion cmd) Q s := by
  rw [Lemmas.C08.vcMotion_eq, Lemmas.C08f.vcMotion'_eq_core]
  wpn
  refine wp_viPrefix s _ (fun a2 s1 p1 => ?_)
  wpn
  wpif ha
  · refine (wp_pure _ _ _).mpr (hQ _ _ ⟨(hs.weaken).congr (by rw [p1.1]) (by rw [p1.1]), by rw [p1.1]⟩)
  have p2 : PfxPost s { s1 with arg2 := a2 } := ⟨p1.1, p1.2⟩
  have hl : lines ({ s1 with arg2 := a2 } : VS) = lines s := by unfold Vi.lines; rw [p2.1]
  exact wp_vcCore cmd _ _ (hs.congr (by rw [p2.1]) (by rw [p2.1])) (by rw [p2.1])
    ((curOk_noeol hs hr _).of_lines hl) (hmk.of_lb (by rw [p2.1])) (hsl.pfx p2) Q hQ

end Neatvi.Lemmas.C05f
