import NeatviVerif.Lemmas.C05fM
/-!
# C05f, part O: the commands that edit without a motion — `i a I A o O`, `p P`, `J`, `r`
-/
set_option linter.unusedSimpArgs false
set_option linter.unusedVariables false
namespace Neatvi.Lemmas.C05f
open Neatvi Neatvi.Uc Neatvi.Lbuf Neatvi.Ex Neatvi.Mot Neatvi.Vi Neatvi.Rset
-- the calculus is used through its rules: a goal `wp m Q s` is not to be unfolded by running `m`
attribute [local irreducible] wp

theorem subI_cut {l : Bytes} {off : Int} (h : off ≤ ucSlen l) :
    ∃ pref post, subI l 0 off = some pref ∧ subI l off (-1) = some post ∧ pref ++ post = l := by
  obtain ⟨i, hi, hle⟩ := chrI_some h
  have h0 : chrI l 0 = some 0 := by rw [Lemmas.C08.chrI_nonneg l 0 (by omega)]; exact Lemmas.C08.chr_zero l
  have h1 : chrI l (-1) = some l.length := Lemmas.C08.chrI_neg l (-1) (by omega)
  refine ⟨l.take i, l.drop i, ?_, ?_, List.take_append_drop i l⟩
  · unfold subI; rw [h0, hi]; simp
  · unfold subI; rw [hi, h1]
    simp only [hle, if_true]
    rw [List.take_of_length_le (by simp)]

theorem nlCount_lineOk {l : Bytes} (h : LineOk l) : nlCount l = 1 := by
  obtain ⟨w, rfl, hw, _⟩ := h
  rw [Lemmas.C08b.nlCount_append, nlCount_of_not_mem hw, nlCount_singleton_nl]

/-- `vc_insert` after the text has been typed -/
def insEdit (isO : Bool) (rep : Bytes) (row off' : Int) : M Nat := do
  let s ← get
  if isO && lenOf s == 0 then edEdit (some [10]) 0 0
  let s ← get
  let beg := s.ed.xrow - row + 1
  edEdit (some rep) beg (beg + (if isO then 0 else 1))
  setOff off'
  pure VC_OK

/-- `vc_insert` from the point where the text around the cursor is cut -/
def insText (cmd : Nat) (s : VS) (ln : Option Bytes) (xoff : Int) : M Nat := do
  let off : Int := if cmd == 105 || cmd == 73 then xoff else if cmd == 97 || cmd == 65 then xoff + 1 else 0
  let off := if (match ln with | some l => l.headD 0 == 10 | none => false) then 0 else off
  let isO := cmd == 111 || cmd == 79
  let pref ← (match ln with
    | some l => if !isO then liftO (subI l 0 off) else pure (viIndents s ln)
    | none => pure [])
  let post ← (match ln with
    | some l => if !isO then liftO (subI l off (-1)) else pure [10]
    | none => pure [10])
  let (rep, row, off') ← viInput pref post
  insEdit isO rep row off'

/-- `vc_insert` from the point where the offset is clamped -/
def insGo (cmd : Nat) (ln : Option Bytes) : M Nat := do
  let s ← get
  let xoff := match ln with | some l => Ren.renNoeol l s.ed.xoff | none => Ren.renNoeol [] s.ed.xoff
  setOff xoff
  if cmd == 111 then viNextlineR
  insText cmd s ln xoff

theorem vcInsert_eq (cmd : Nat) : vcInsert cmd = (do
    let s ← get
    if cmd == 73 then setOff (indents (lines s) s.ed.xrow)
    if cmd == 65 then setOff (eol (lines s) s.ed.xrow)
    insGo cmd (lineOf s s.ed.xrow)) := by
  unfold vcInsert insGo insText insEdit
  rfl

theorem wp_insEdit (isO : Bool) (rep : Bytes) (row off' : Int) {s s0 : VS} {c : Prop} (hs : SOk s c)
    (hq : s.ed.xquit = s0.ed.xquit) (hrep : NoNul rep) (hbeg : 0 ≤ s.ed.xrow - row + 1) (Q : Nat → VS → Prop)
    (hQ : ∀ a s', OpPost s0 s' → Q a s') : wp (insEdit isO rep row off') Q s := by
  unfold insEdit
  wpn
  have hfin : ∀ s1, SOk s1 False → s1.ed.xrow = s.ed.xrow → s1.ed.xquit = s.ed.xquit →
      wp (do
        let s ← get
        edEdit (some rep) (s.ed.xrow - row + 1) (s.ed.xrow - row + 1 + if isO = true then 0 else 1)
        setOff off'
        pure VC_OK) Q s1 := by
    intro s1 h1 hx hq1
    wpn
    refine wp_edEdit_sok h1 _ _ _ (by rw [hx]; exact hbeg) (by split <;> omega) (noNulO_some.mpr hrep) _
      (fun s2 h2 _ _ q2 _ => ?_)
    wpn
    exact hQ _ _ ⟨h2.congr rfl rfl, (q2.trans hq1).trans hq⟩
  wpif hc
  · wpn
    refine wp_edEdit_sok hs _ _ _ (Int.le_refl 0) (Int.le_refl 0) (noNulO_some.mpr (by simp [NoNul])) _
      (fun s1 h1 hx _ hq1 _ => ?_)
    exact hfin s1 h1 hx hq1
  · exact hfin s hs.weaken rfl rfl

theorem wp_insText (cmd : Nat) (s0 : VS) (ln : Option Bytes) (xoff : Int) {s : VS} {c : Prop} (hs : SOk s c)
    (hs0 : SOk s0 c) (hq : s.ed.xquit = s0.ed.xquit) (hx : 0 ≤ s.ed.xrow)
    (hln : ∀ l, ln = some l → LineOk l ∧ xoff + 1 ≤ ucSlen l ∧ ln = lineOf s0 s0.ed.xrow)
    (Q : Nat → VS → Prop) (hQ : ∀ a s', OpPost s0 s' → Q a s') : wp (insText cmd s0 ln xoff) Q s := by
  unfold insText
  -- the common rest, for texts whose newlines add up to one
  have hrest : ∀ (pref post : Bytes), NoNul pref → NoNul post → nlCount pref + nlCount post = 1 →
      wp (viInput pref post) (fun a s' => wp (insEdit (cmd == 111 || cmd == 79) a.1 a.2.1 a.2.2) Q s') s := by
    intro pref post hp hq' hn
    refine wp_viInput pref post s hs.textOk hp hq' _ (fun rep row off s1 f1 hrep hxr => ?_)
    refine wp_insEdit _ _ _ _ (f1.sok hs) (f1.2.2.trans hq) hrep ?_ Q hQ
    rw [hxr]
    have : (nlCount pref : Int) + nlCount post = 1 := by exact_mod_cast hn
    omega
  cases ln with
  | none =>
    dsimp only
    wpn
    exact hrest [] [10] noNul_nil (by simp [NoNul]) rfl
  | some l =>
    obtain ⟨hl, hxo, hle⟩ := hln l rfl
    dsimp only
    wp1
    wpif hisO
    · generalize hoff : (if (l.headD 0 == 10) = true then (0 : Int) else
          if (cmd == 105 || cmd == 73) = true then xoff else if (cmd == 97 || cmd == 65) = true then xoff + 1 else 0) = off
      have hoffle : off ≤ ucSlen l := by
        have := hl.slen_pos
        rw [← hoff]
        splits <;> omega
      obtain ⟨pref, post, h1, h2, h3⟩ := subI_cut hoffle
      wpn
      rw [h1]; wpn
      rw [if_pos hisO, h2]; wpn
      have hn : nlCount pref + nlCount post = 1 := by rw [← Lemmas.C08b.nlCount_append, h3]; exact nlCount_lineOk hl
      have hnn : NoNul (pref ++ post) := by rw [h3]; exact hl.noNul
      exact hrest pref post (noNul_append.mp hnn).1 (noNul_append.mp hnn).2 hn
    · wpn
      rw [if_neg hisO]; wpn
      have hi : NoNul (viIndents s0 (some l)) := by rw [hle]; exact viIndents_noNul hs0 _
      refine hrest _ [10] hi (by simp [NoNul]) ?_
      have : 10 ∉ viIndents s0 (some l) := by
        unfold viIndents
        dsimp only
        split
        · exact blanks_no_nl l
        · simp
      rw [nlCount_of_not_mem this]; rfl

theorem wp_insGo (cmd : Nat) {s : VS} {c : Prop} (hs : SOk s c) (hr : RowOk s) (Q : Nat → VS → Prop)
    (hQ : ∀ a s', OpPost s s' → Q a s') : wp (insGo cmd (lineOf s s.ed.xrow)) Q s := by
  unfold insGo
  wpn
  have hln : ∀ l, lineOf s s.ed.xrow = some l → LineOk l ∧
      (match lineOf s s.ed.xrow with | some l => Ren.renNoeol l s.ed.xoff | none => Ren.renNoeol [] s.ed.xoff : Int) + 1 ≤ (ucSlen l : Int) ∧
      lineOf s s.ed.xrow = lineOf s s.ed.xrow := by
    intro l hl
    have hlo := lineOf_lineOk hs hl
    refine ⟨hlo, ?_, rfl⟩
    rw [hl]
    dsimp only
    have := Lemmas.C07.renNoeol_lt l s.ed.xoff
    have := hlo.slen_pos
    omega
  wpif h111
  · unfold viNextlineR
    wpn
    refine wp_insText cmd s _ _ (hs.congr ?_ ?_) hs ?_ ?_ hln Q hQ
    · split <;> rfl
    · split <;> rfl
    · split <;> rfl
    · have := hr.1
      split <;> (dsimp only; omega)
  · wpn
    refine wp_insText cmd s _ _ (hs.congr ?_ ?_) hs ?_ ?_ hln Q hQ
    · rfl
    · rfl
    · rfl
    · exact hr.1

theorem wp_vcInsert (cmd : Nat) {s : VS} {c : Prop} (hs : SOk s c) (hr : RowOk s) (Q : Nat → VS → Prop)
    (hQ : ∀ a s', OpPost s s' → Q a s') : wp (vcInsert cmd) Q s := by
  rw [vcInsert_eq]
  wpn
  have key : ∀ (o : Int), wp (insGo cmd (lineOf s s.ed.xrow)) Q { s with ed := { s.ed with xoff := o } } := by
    intro o
    exact wp_insGo (s := { s with ed := { s.ed with xoff := o } }) cmd (hs.congr rfl rfl) hr Q
      (fun a s' hp => hQ a s' hp)
  have key0 : wp (insGo cmd (lineOf s s.ed.xrow)) Q s := wp_insGo cmd hs hr Q hQ
  wpif h73
  · wpn
    wpif h65
    · wpn; exact key _
    · wpn; exact key _
  · wpn
    wpif h65
    · wpn; exact key _
    · wpn; exact key0

/-! ### `r`: the characters before the newline -/

theorem contRun_snoc_nl (r : Bytes) : contRun (r ++ [10]) = contRun r := by
  induction r with
  | nil => simp [contRun, contB]
  | cons b r ih =>
    simp only [List.cons_append, contRun]
    split
    · rw [ih]
    · rfl

theorem ucEnd_snoc_nl (c : Nat) (r : Bytes) : ucEnd (c :: (r ++ [10])) = ucEnd (c :: r) := by
  simp only [ucEnd]
  rw [contRun_snoc_nl]
  have : contRun (c :: (r ++ [10])) = contRun (c :: r) := contRun_snoc_nl (c :: r)
  rw [this]

theorem ucSlenF_snoc_nl : ∀ (f : Nat) (w : Bytes), w.length ≤ f → NoNul w → ucSlen (w ++ [10]) = ucSlen w + 1 := by
  intro f
  induction f with
  | zero =>
    intro w hf _
    have : w = [] := by cases w <;> simp_all
    subst this
    decide
  | succ f ih =>
    intro w hf hn
    cases w with
    | nil => decide
    | cons c r =>
      obtain ⟨hc, hr⟩ := noNul_cons.mp hn
      have h0 : Bytes.hd (c :: r) ≠ 0 := by simpa using hc
      have h0' : Bytes.hd ((c :: r) ++ [10]) ≠ 0 := by simpa using hc
      rw [Lemmas.C08.slen_chr _ h0', Lemmas.C08.slen_chr _ h0]
      have hn1 : ucNext ((c :: r) ++ [10]) = ucNext (c :: r) := by
        rw [Lemmas.C08.ucNext_eq _ h0', Lemmas.C08.ucNext_eq _ h0, List.cons_append, ucEnd_snoc_nl]
      rw [hn1]
      have hle := Lemmas.C08.ucNext_le (c :: r) h0
      have hpos := Lemmas.C08.ucNext_pos (c :: r) h0
      rw [List.drop_append_of_le_length hle]
      rw [ih ((c :: r).drop (ucNext (c :: r))) (by simp at hf ⊢; omega) (hn.drop _)]

theorem slen_takeWhile_nl {l : Bytes} (h : LineOk l) : ucSlen l = ucSlen (l.takeWhile (· != 10)) + 1 := by
  obtain ⟨w, rfl, hw, hn⟩ := h
  have : (w ++ [10]).takeWhile (· != 10) = w := by
    rw [List.takeWhile_append_of_pos (by intro x hx; simp; intro h; subst h; exact hw hx)]
    simp
  rw [this]
  exact ucSlenF_snoc_nl _ w (Nat.le_refl _) hn

theorem regGetLn_noNul {s : VS} {c : Prop} (hs : SOk s c) (k : Nat) : NoNulO (regGetLn s.ed k).1 := by
  have h := regsOk_regGet hs.textOk.1 (fun l hl => hs.textOk.2 _ l hl) k
  unfold regGetLn
  simp only [apply_ite Prod.fst, ite_self]
  exact h

theorem lineOk_nl : LineOk [10] := ⟨[], rfl, by simp, noNul_nil⟩

theorem wp_vcPut (cmd : Nat) {s : VS} {c : Prop} (hs : SOk s c) (hr : RowOk s) (Q : Nat → VS → Prop)
    (hQ : ∀ a s', OpPost s s' → Q a s') : wp (vcPut cmd) Q s := by
  unfold vcPut
  wpn
  have hbuf := regGetLn_noNul hs s.ybuf
  generalize (regGetLn s.ed s.ybuf).1 = ob at hbuf ⊢
  generalize (regGetLn s.ed s.ybuf).2 = oln
  have hq0 : OpPost s s := ⟨hs.weaken, rfl⟩
  cases ob with
  | none => exact (wp_pure _ _ _).mpr (hQ _ _ hq0)
  | some buf =>
    have hbn : NoNul buf := hbuf buf rfl
    dsimp only
    wpif hemp
    · exact (wp_pure _ _ _).mpr (hQ _ _ hq0)
    cases oln with
    | none =>
      dsimp only
      wpn
      exact hQ _ _ ⟨hs.weaken.congr rfl rfl, rfl⟩
    | some lnm =>
      dsimp only
      have hrep : NoNul (List.replicate (max 1 s.arg1).toNat buf).flatten := by
        apply noNul_flatten
        intro x hx
        rw [List.eq_of_mem_replicate hx]; exact hbn
      wpif hlm
      · -- line mode
        have hput : ∀ s1 : VS, SOk s1 False → 0 ≤ s1.ed.xrow → s1.ed.xquit = s.ed.xquit →
            wp (do
              let s_1 ← get
              edEdit (some (List.replicate (max 1 s.arg1).toNat buf).flatten) s_1.ed.xrow s_1.ed.xrow
              let s ← get
              setOff (indents (lines s) s.ed.xrow)
              pure VC_OK) Q s1 := by
          intro s1 h1 hx hq1
          wpn
          refine wp_edEdit_sok h1 _ _ _ hx (Int.le_refl _) (noNulO_some.mpr hrep) _ (fun s2 h2 _ _ q2 _ => ?_)
          wpn
          exact hQ _ _ ⟨h2.congr rfl rfl, q2.trans hq1⟩
        have hrow : ∀ s1 : VS, SOk s1 False → s1.ed.xrow = s.ed.xrow → s1.ed.xquit = s.ed.xquit →
            wp (if (cmd == 112) = true then do
                setRow (s.ed.xrow + 1)
                let s_1 ← get
                edEdit (some (List.replicate (max 1 s.arg1).toNat buf).flatten) s_1.ed.xrow s_1.ed.xrow
                let s ← get
                setOff (indents (lines s) s.ed.xrow)
                pure VC_OK
              else do
                let s_1 ← get
                edEdit (some (List.replicate (max 1 s.arg1).toNat buf).flatten) s_1.ed.xrow s_1.ed.xrow
                let s ← get
                setOff (indents (lines s) s.ed.xrow)
                pure VC_OK) Q s1 := by
          intro s1 h1 hx hq1
          wpif h112
          · wp1; wp1
            exact hput _ (h1.congr rfl rfl) (by have := hr.1; show 0 ≤ s.ed.xrow + 1; omega) hq1
          · exact hput s1 h1 (by rw [hx]; exact hr.1) hq1
        wpif hlen
        · wpn
          refine wp_edEdit_sok hs _ _ _ (Int.le_refl 0) (Int.le_refl 0) (noNulO_some.mpr lineOk_nl.noNul) _
            (fun s1 h1 hx _ hq1 _ => ?_)
          exact hrow s1 h1 hx hq1
        · exact hrow s hs.weaken rfl rfl
      · -- character mode
        have hln : LineOk (if s.ed.xrow < lenOf s then lineE s s.ed.xrow else [10]) := by
          split
          · rename_i hlt
            obtain ⟨l, h1, h2⟩ := lineAt_of_rowOk hs hr.1 hlt
            have : lineE s s.ed.xrow = l := by unfold lineE lineOf; rw [h1]; rfl
            rw [this]; exact h2
          · exact lineOk_nl
        generalize (if s.ed.xrow < lenOf s then lineE s s.ed.xrow else [10]) = ln at hln ⊢
        have hoff : Ren.renNoeol ln s.ed.xoff + (if (ln.headD 0 != 10 && cmd == 112) = true then 1 else 0) ≤ (ucSlen ln : Int) := by
          have := Lemmas.C07.renNoeol_lt ln s.ed.xoff
          have := hln.slen_pos
          split <;> omega
        obtain ⟨a, b, h1, h2, h3⟩ := subI_cut hoff
        wpn
        rw [h1]; wpn
        rw [h2]; wpn
        have hab : NoNul (a ++ b) := by rw [h3]; exact hln.noNul
        refine wp_edEdit_sok hs _ _ _ hr.1 (by omega) (noNulO_some.mpr (noNul_append.mpr
          ⟨noNul_append.mpr ⟨(noNul_append.mp hab).1, hrep⟩, (noNul_append.mp hab).2⟩)) _ (fun s2 h2s _ _ q2 _ => ?_)
        wpn
        exact hQ _ _ ⟨h2s.congr rfl rfl, q2⟩

theorem joinGo_noNul {s : VS} {c : Prop} (hs : SOk s c) (beg e : Int) : ∀ (f : Nat) (i : Int) (sb : Bytes) (off : Int),
    NoNul sb → NoNul (vcJoin.go s beg e f i sb off).1 := by
  intro f
  induction f with
  | zero => intro i sb off h; unfold vcJoin.go; exact h
  | succ f ih =>
    intro i sb off h
    unfold vcJoin.go
    split
    · exact h
    · dsimp only
      apply ih
      have hl := lineE_noNul hs i
      refine noNul_append.mpr ⟨noNul_append.mpr ⟨h, noNul_replicate (by decide)⟩, ?_⟩
      split
      · exact (hl.dropWhile _).takeWhile _
      · exact hl.takeWhile _

theorem wp_vcJoin {s : VS} {c : Prop} (hs : SOk s c) (hr : RowOk s) (Q : Nat → VS → Prop)
    (hQ : ∀ a s', OpPost s s' → Q a s') : wp vcJoin Q s := by
  unfold vcJoin
  wpn
  wpif hc
  · exact (wp_pure _ _ _).mpr (hQ _ _ ⟨hs.weaken, rfl⟩)
  have hn := joinGo_noNul hs s.ed.xrow (s.ed.xrow + (if s.arg1 ≤ 1 then 2 else s.arg1))
    ((if s.arg1 ≤ 1 then 2 else s.arg1 : Int).toNat + 1) s.ed.xrow [] 0 noNul_nil
  generalize vcJoin.go s s.ed.xrow (s.ed.xrow + (if s.arg1 ≤ 1 then 2 else s.arg1))
    ((if s.arg1 ≤ 1 then 2 else s.arg1 : Int).toNat + 1) s.ed.xrow [] 0 = q at hn ⊢
  obtain ⟨sb, off⟩ := q
  dsimp only at hn ⊢
  wpn
  refine wp_edEdit_sok hs _ _ _ hr.1 (by split <;> omega) (noNulO_some.mpr (noNul_append.mpr ⟨hn, by simp [NoNul]⟩)) _
    (fun s2 h2 _ _ q2 _ => ?_)
  wpn
  exact hQ _ _ ⟨h2.congr rfl rfl, q2⟩

theorem wp_vcReplace {s : VS} {c : Prop} (hs : SOk s c) (hr : RowOk s) (Q : Nat → VS → Prop)
    (hQ : ∀ a s', OpPost s s' → Q a s') : wp vcReplace Q s := by
  unfold vcReplace
  wpn
  refine wp_viChar s _ (fun cs s1 e1 hcs => ?_)
  have hs1 : SOk s1 c := (MvF.of_EdF e1).sok hs
  have hq1 : OpPost s s1 := ⟨hs1.weaken, e1.xquit⟩
  cases hl : lineOf s s.ed.xrow with
  | none => exact (wp_pure _ _ _).mpr (hQ _ _ hq1)
  | some ln =>
    cases cs with
    | none => exact (wp_pure _ _ _).mpr (hQ _ _ hq1)
    | some cs =>
      have hcn : NoNul cs := hcs cs rfl
      have hlo : LineOk ln := lineOf_lineOk hs hl
      dsimp only
      wpif hav
      · exact (wp_pure _ _ _).mpr (hQ _ _ hq1)
      have hsl := slen_takeWhile_nl hlo
      have hoff : Ren.renNoeol ln s.ed.xoff ≤ (ucSlen ln : Int) := renNoeol_le_slen _ _
      have hoff2 : Ren.renNoeol ln s.ed.xoff + max 1 s.arg1 ≤ (ucSlen ln : Int) := by
        omega
      obtain ⟨pref, hp, hpl⟩ := subI_some (l := ln) (b := 0) (e := Ren.renNoeol ln s.ed.xoff) (by omega) hoff
      obtain ⟨post, hq, hql⟩ := subI_some (l := ln) (b := Ren.renNoeol ln s.ed.xoff + max 1 s.arg1) (e := -1) hoff2 (by omega)
      wpn
      rw [hp]; wpn
      rw [hq]; wpn
      have hrep : NoNul (List.replicate (max 1 s.arg1).toNat cs).flatten := by
        apply noNul_flatten
        intro x hx
        rw [List.eq_of_mem_replicate hx]; exact hcn
      refine wp_edEdit_sok hs1 _ _ _ (hr.1) (by omega) (noNulO_some.mpr (noNul_append.mpr
        ⟨noNul_append.mpr ⟨subI_noNul hlo.noNul hp, hrep⟩, subI_noNul hlo.noNul hq⟩)) _ (fun s2 h2 _ _ q2 _ => ?_)
      wpif hnl
      · wpn
        exact hQ _ _ ⟨h2.congr rfl rfl, q2.trans e1.xquit⟩
      · wpn
        exact hQ _ _ ⟨h2.congr rfl rfl, q2.trans e1.xquit⟩

end Neatvi.Lemmas.C05f
