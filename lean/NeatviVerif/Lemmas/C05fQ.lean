import NeatviVerif.Lemmas.Basics
import NeatviVerif.Lemmas.C05fO
import NeatviVerif.Lemmas.ViPresCmd
/-!
# C05f, part Q: the command switch of `vi()` (`commandTail`) — every command of the switch

`ColonOk s` is the hypothesis on the ex commands that `:` and `ZZ` can enter from the pending keys of `s`.
-/
set_option linter.unusedSimpArgs false
set_option linter.unusedVariables false
namespace Neatvi.Lemmas.C05f
open Neatvi Neatvi.Uc Neatvi.Lbuf Neatvi.Ex Neatvi.Mot Neatvi.Vi Neatvi.Rset
-- the calculus is used through its rules: a goal `wp m Q s` is not to be unfolded by running `m`
attribute [local irreducible] wp

/-- (**false** as stated: `Props/C05h.lean`, `exNoTrap_is_false`; kept because C05h refers to it) an
    assumption on the ex layer: an ex command entered from vi, on a state with the invariant, does not trap … -/
def ExNoTrap : Prop :=
  ∀ (ln : Bytes) (s : VS), SOk s True → RowOk s → NoNul ln → exCommandV ln s ≠ Res.trap

/-- (false as stated: kept for C05h) … and keeps the invariant of the buffers and the registers -/
def ExKeeps : Prop :=
  ∀ (ln : Bytes) (s : VS) (rc : Int) (s' : VS), SOk s True → RowOk s → NoNul ln →
    exCommandV ln s = Res.ok rc s' → SOk s' False

/-- **what the loop of `vi()` needs of one ex command** `ln` entered in the state `s` (from `:` or `ZZ`): it does not
    trap, and it keeps the buffer / register part of the invariant.  Parameterised by the line and the state: the
    first half follows from C05e for the lines of its class `ColonLineOk` (`Props/C05i.lean`) -/
def ExCallOk (ln : Bytes) (s : VS) : Prop :=
  exCommandV ln s ≠ Res.trap ∧ ∀ rc s', exCommandV ln s = Res.ok rc s' → SOk s' False

theorem wp_exCommandV {ln : Bytes} {s : VS} (h : ExCallOk ln s) (Q : Int → VS → Prop)
    (hQ : ∀ rc s', SOk s' False → Q rc s') : wp (exCommandV ln) Q s :=
  wp_of h.1 (fun rc s' hm => hQ rc s' (h.2 rc s' hm))

/-- what `commandTail` leaves: after a command that goes on to `viPost` the invariant (a command may be in
    progress); otherwise either the editor is quitting or nothing but the marks and the queue changed -/
def CtPost (r : Option Nat) (s' : VS) : Prop :=
  match r with
  | none => s'.ed.xquit = true ∨ (SOk s' True ∧ RowOk s' ∧ s'.ed.xoff ≤ slenAt (lines s') s'.ed.xrow)
  | some _ => SOk s' False

theorem wp_scrollForward (cnt : Int) (s : VS) (Q : Bool → VS → Prop)
    (hQ : ∀ a s', s'.ed.bufs = s.ed.bufs → s'.ed.regs = s.ed.regs → Q a s') : wp (scrollForward cnt) Q s := by
  unfold scrollForward
  wpn
  wpif h
  · exact (wp_pure _ _ _).mpr (hQ _ _ rfl rfl)
  · wpn; exact hQ _ _ rfl rfl

theorem wp_scrollBackward (cnt : Int) (s : VS) (Q : Bool → VS → Prop)
    (hQ : ∀ a s', s'.ed.bufs = s.ed.bufs → s'.ed.regs = s.ed.regs → Q a s') : wp (scrollBackward cnt) Q s := by
  unfold scrollBackward
  wpn
  wpif h
  · exact (wp_pure _ _ _).mpr (hQ _ _ rfl rfl)
  · wpn; exact hQ _ _ rfl rfl

theorem wp_repeat_push (x : Bytes) : ∀ (n : Nat) (s : VS) (Q : Unit → VS → Prop),
    (∀ s', s'.ed = s.ed → Q () s') → wp (Vi.repeatM n (termPush x)) Q s := by
  intro n
  induction n with
  | zero => intro s Q hQ; unfold Vi.repeatM; exact (wp_pure _ _ _).mpr (hQ s rfl)
  | succ n ih =>
    intro s Q hQ
    unfold Vi.repeatM
    wp1
    unfold termPush
    wp1
    exact ih _ Q (fun s' h => hQ s' h)

theorem wp_vcRepeat (s : VS) (Q : Unit → VS → Prop) (hQ : ∀ s', s'.ed = s.ed → Q () s') : wp vcRepeat Q s := by
  unfold vcRepeat
  wpn
  exact wp_repeat_push _ _ s Q hQ

theorem wp_vcExecute (s : VS) (Q : Unit → VS → Prop) (hQ : ∀ s', s'.ed = s.ed → Q () s') : wp vcExecute Q s := by
  unfold vcExecute
  wpn
  refine wp_viRead s _ (fun c0 s1 e1 _ => ?_)
  wpn
  have hrest : ∀ (c : Int) (s2 : VS), s2.ed = s.ed →
      wp (if tkInt c = true then pure () else do
        let s ← get
        let reg := if c == 64 then s.execReg else c
        modify fun s => { s with execReg := reg }
        if reg < 0 then pure () else
        match regGet s.ed reg.toNat with
        | none => pure ()
        | some buf => Vi.repeatM (max 1 s.arg1).toNat (termPush (buf.takeWhile (· != 0)))) Q s2 := by
    intro c s2 e2
    wpif ht
    · exact (wp_pure _ _ _).mpr (hQ _ e2)
    wpn
    wpif hneg
    · exact (wp_pure _ _ _).mpr (hQ _ e2)
    cases regGet s2.ed (if c == 64 then s2.execReg else c).toNat with
    | none => exact (wp_pure _ _ _).mpr (hQ _ e2)
    | some buf => exact wp_repeat_push _ _ _ Q (fun s' h => hQ s' (h.trans e2))
  wpif h92
  · wpn
    refine wp_viRead s1 _ (fun d s2 e2 _ => ?_)
    wpn
    exact hrest _ s2 (e2.trans e1)
  · wpn
    exact hrest _ s1 e1

/-! ### the caret mark set at the start of a command -/

theorem jump_setMark {lb : Lb} (hlen : lb.mark.length = lb.markOff.length) {k : Nat} {p o : Int} {m : Nat}
    {p' q' : Int} (h : jump (setMark lb k p o) m = some (p', q')) : (p' = p ∧ q' = o) ∨ jump lb m = some (p', q') := by
  unfold setMark at h
  cases hk : markIdx k with
  | none => rw [hk] at h; right; exact h
  | some i =>
    rw [hk] at h
    unfold jump at h ⊢
    cases hm : markIdx m with
    | none => rw [hm] at h; cases h
    | some j =>
      rw [hm] at h
      dsimp only at h ⊢
      rw [Basics.getD_set, Basics.getD_set] at h
      rw [← hlen] at h
      by_cases hc : i = j ∧ i < lb.mark.length
      · simp only [if_pos hc] at h
        left
        by_cases hp : p < 0
        · rw [if_pos hp] at h; cases h
        · rw [if_neg hp] at h; cases h; exact ⟨rfl, rfl⟩
      · simp only [if_neg hc] at h
        right; exact h

/-- the state after `lbuf_mark(xb, '^', xrow, xoff)`, the first thing a command does -/
def markCaret (s : VS) : VS := { s with ed := markEd s.ed 94 s.ed.xrow s.ed.xoff }

/-- `s0` is a state in which the key `k` (`:`, or the second `Z`) among the pending keys of `s` has just been read and
    the caret mark set: the editor is that of `markCaret s`, the rest of the queue is pending -/
def ColonAt (k : Int) (s s0 : VS) : Prop := s0.ed = (markCaret s).ed ∧ k :: allQ s0 <:+ allQ s

/-- **the hypothesis about the ex commands of one iteration** (per state): the line the `:` prompt returns for the
    pending keys, and the `x` of `ZZ`, are handled by `ex_command` without a trap and keep the invariant -/
structure ColonOk (s : VS) : Prop where
  colon : ∀ (s0 : VS) (ln : Bytes) (s1 : VS), ColonAt 58 s s0 → viPrompt true s0 = Res.ok (some ln) s1 → ln.isEmpty = false →
    ExCallOk (if ln.headD 0 != 58 then 58 :: ln else ln) s1
  zz : ∀ (s0 : VS), ColonAt 90 s s0 → ExCallOk (strOf "x") s0

theorem ColonOk.mono {s s' : VS} (h : ColonOk s) (he : s'.ed = s.ed) (hq : allQ s' <:+ allQ s) : ColonOk s' := by
  have hm : (markCaret s').ed = (markCaret s).ed := by unfold markCaret; dsimp only; rw [he]
  exact ⟨fun s0 ln s1 ⟨a1, a2⟩ h1 h2 => h.colon s0 ln s1 ⟨a1.trans hm, a2.trans hq⟩ h1 h2,
    fun s0 ⟨a1, a2⟩ => h.zz s0 ⟨a1.trans hm, a2.trans hq⟩⟩

theorem markCaret_regs (s : VS) : (markCaret s).ed.regs = s.ed.regs := by
  unfold markCaret; simp
theorem markCaret_xrow (s : VS) : (markCaret s).ed.xrow = s.ed.xrow := by
  unfold markCaret; simp
theorem markCaret_xoff (s : VS) : (markCaret s).ed.xoff = s.ed.xoff := by
  unfold markCaret; simp
theorem markCaret_xkwd (s : VS) : (markCaret s).ed.xkwd = s.ed.xkwd := by
  unfold markCaret; simp
theorem markCaret_xquit (s : VS) : (markCaret s).ed.xquit = s.ed.xquit := by
  unfold markCaret; simp

/-- with mark tables of equal length (as `lbuf_make` creates them and every operation keeps them), setting the
    caret mark at a cursor that is inside its line keeps `MarksIn` -/
theorem marksIn_caret {s : VS} {c : Prop} (hs : SOk s c) (hm : MarksIn s)
    (hlen : ∀ lb, s.ed.lb = some lb → lb.mark.length = lb.markOff.length)
    (hoff : s.ed.xoff ≤ slenAt (lines s) s.ed.xrow) : MarksIn (markCaret s) := by
  obtain ⟨lb, hlb, _⟩ := hs.1.lb s.ed rfl
  intro lb2 m p q h1 h2 h3
  have hl2 : (markCaret s).ed.lb = some (setMark lb 94 s.ed.xrow s.ed.xoff) := by
    unfold markCaret markEd
    dsimp only
    rw [hlb]
    exact setLb_lb hs.1 _
  rw [hl2] at h1
  cases h1
  have hlines : lines (markCaret s) = lines s := by
    unfold Vi.lines
    rw [hl2, hlb]
    exact Lemmas.C07.setMark_lines _ _ _ _
  rw [hlines] at h3
  rcases jump_setMark (hlen lb hlb) h2 with ⟨rfl, rfl⟩ | h
  · have : slenAt (lines s) s.ed.xrow = 0 := by unfold slenAt; rw [h3]
    omega
  · exact hm lb m p q hlb h h3

theorem noNul_strOf_x : NoNul (strOf "x") := by
  intro h
  have := strOf_ascii ['x'] (by decide) 0 (by rw [show String.ofList ['x'] = "x" from rfl]; exact h)
  omega

theorem rowOk_congr {s s' : VS} (h : RowOk s) (h1 : s'.ed.xrow = s.ed.xrow) (h2 : lines s' = lines s) : RowOk s' := by
  unfold RowOk lenOf at *
  rw [h1, h2]; exact h

theorem lines_markCaret {s : VS} {c : Prop} (hs : SOk s c) : lines (markCaret s) = lines s := by
  obtain ⟨lb, hlb, _⟩ := hs.1.lb s.ed rfl
  have hl2 : (markCaret s).ed.lb = some (setMark lb 94 s.ed.xrow s.ed.xoff) := by
    unfold markCaret markEd
    dsimp only
    rw [hlb]
    exact setLb_lb hs.1 _
  unfold Vi.lines
  rw [hl2, hlb]
  exact Lemmas.C07.setMark_lines _ _ _ _

theorem sok_markCaret {s : VS} {c : Prop} (hs : SOk s c) : SOk (markCaret s) c := by
  refine ⟨bufsOk_markSet hs.1 94 _ _, ?_⟩
  rw [markCaret_regs]; exact hs.2

theorem wp_finRec (c k : Int) (mod : Nat) {st : VS} (hst : SOk st False) (Q : Option Nat → VS → Prop)
    (hQ : ∀ s', SOk s' False → Q (some mod) s') : wp (C09.finRec c k mod) Q st := by
  unfold C09.finRec
  wpn
  wpif hrep
  · wpn
    exact hQ _ ⟨hst.1, regsOk_put hst.2 _ (noNul_takeWhile_ne _) _⟩
  · exact (wp_pure _ _ _).mpr (hQ _ ⟨hst.1, hst.2⟩)

/-- **the command switch of `vi()`**: no command traps, and each keeps the invariant -/
theorem wp_commandTail {s : VS} (hs : SOk s True) (hr : RowOk s)
    (hoff : s.ed.xoff ≤ slenAt (lines s) s.ed.xrow) (hmk : MarksIn (markCaret s)) (hsl : SearchOk s) (hcol : ColonOk s)
    (Q : Option Nat → VS → Prop)
    (hQ : ∀ r s', CtPost r s' → Q r s') : wp commandTail Q s := by
  rw [ViPres.commandTail_eq]
  unfold ViPres.commandTailF ViPres.cmdSwitch
  refine (wp_bind _ _ _ _).mpr ?_
  refine wp_viRead s _ (fun c s1 e1 q1 => ?_)
  try dsimp (zeta := false) only
  have hs1 : SOk s1 True := hs.congr (by rw [e1]) (by rw [e1])
  have hl1 : lines s1 = lines s := by unfold Vi.lines; rw [e1]
  have hr1 : RowOk s1 := rowOk_congr hr (by rw [e1]) hl1
  wpif hc
  · exact (wp_pure _ _ _).mpr (hQ _ _ (Or.inr ⟨hs1, hr1, by rw [hl1, e1]; exact hoff⟩))
  refine (wp_bind _ _ _ _).mpr ?_
  refine (wp_get _ _).mpr ?_
  try dsimp (zeta := false) only
  refine (wp_bind _ _ _ _).mpr ?_
  refine (wp_markSet _ _ _ _ _).mpr ?_
  try dsimp (zeta := false) only
  -- the state the switch runs in
  have hmc : markCaret s1 = { s1 with ed := markEd s1.ed 94 s1.ed.xrow s1.ed.xoff } := rfl
  have hs2 : SOk (markCaret s1) True := sok_markCaret hs1
  have hl2 : lines (markCaret s1) = lines s := (lines_markCaret hs1).trans hl1
  have hr2 : RowOk (markCaret s1) := rowOk_congr hr1 (markCaret_xrow s1) (lines_markCaret hs1)
  have hed : (markCaret s1).ed = (markCaret s).ed := by
    unfold markCaret
    dsimp only
    rw [e1]
  have hmk2 : MarksIn (markCaret s1) := hmk.of_lb (by rw [hed])
  have hsl2 : SearchOk (markCaret s1) := by
    refine hsl.mono ?_ hl2 ?_ ?_
    · show allQ (markCaret s1) <:+ allQ s
      have : allQ (markCaret s1) = allQ s1 := rfl
      rw [this, q1]; exact List.suffix_cons _ _
    · rw [markCaret_regs, e1]
    · rw [markCaret_xkwd, e1]
  have hq2 : (markCaret s1).ed.xquit = s.ed.xquit := by rw [markCaret_xquit, e1]
  have ho2 : (markCaret s1).ed.xoff ≤ slenAt (lines (markCaret s1)) (markCaret s1).ed.xrow := by
    rw [hl2, markCaret_xoff, markCaret_xrow, e1]; exact hoff
  rw [hmc] at hs2 hl2 hr2 hmk2 hsl2 hq2 ho2
  generalize hed2 : markEd s1.ed 94 s1.ed.xrow s1.ed.xoff = ed2 at hs2 hl2 hr2 hmk2 hsl2 hq2 ho2 ⊢
  clear hmc hed
  refine (wp_bind _ _ _ _).mpr ?_
  refine (wp_get _ _).mpr ?_
  try dsimp (zeta := false) only
  extract_lets a1 j5 j4 j3 j2 j1 j0
  have hfin : ∀ (k : Int) (mod : Nat) (st : VS), SOk st False → wp (C09.finRec c k mod) Q st :=
    fun k mod st hst => wp_finRec c k mod hst Q (fun s' h => hQ _ s' h)
  have hfinO : ∀ (base : VS) (k : Int) (mod : Nat) (st : VS), OpPost base st → wp (C09.finRec c k mod) Q st :=
    fun base k mod st h => hfin k mod st h.1
  have hj5 : ∀ (u : Unit) (st : VS), SOk st False → wp (j5 u) Q st := by
    intro u st hst
    dsimp only [j5]
    wpn
    exact hfin _ _ _ (hst.congr rfl rfl)
  clear_value j5
  have hj4 : ∀ (u : Unit) (st : VS), SOk st False → wp (j4 u) Q st := by
    intro u st hst
    dsimp only [j4]
    wpn
    wpif ht
    · wpn; exact hj5 _ _ (hst.congr rfl rfl)
    · exact hj5 _ _ (hst.congr rfl rfl)
  have hj3 : ∀ (u : Unit) (st : VS), SOk st False → wp (j3 u) Q st := by
    intro u st hst
    dsimp only [j3]
    wpn
    exact hfin _ _ _ (hst.congr rfl rfl)
  clear_value j3
  have hj2 : ∀ (u : Unit) (st : VS), SOk st False → wp (j2 u) Q st := by
    intro u st hst
    dsimp only [j2]
    wpn
    wpif ht
    · wpn; exact hj3 _ _ (hst.congr rfl rfl)
    · exact hj3 _ _ (hst.congr rfl rfl)
  have hj1 : ∀ (u : Unit) (st : VS), SOk st False → wp (j1 u) Q st := fun u st hst => hfin _ _ _ hst
  have hj0 : ∀ (u : Unit) (st : VS), SOk st False → wp (j0 u) Q st := fun u st hst => hfin _ _ _ hst
  clear_value j4 j2 j1 j0
  have hw2 : SOk ({ s1 with ed := ed2 } : VS) False := hs2.weaken
  -- ^B
  wpif h
  · wpn
    refine wp_scrollBackward _ _ _ (fun a s3 b3 g3 => ?_)
    have h3 : SOk s3 False := hw2.congr b3 g3
    wpif ha
    · exact hfin _ _ _ h3
    · wpn; exact hfin _ _ _ (h3.congr rfl rfl)
  -- ^F
  wpif h
  · wpn
    refine wp_scrollForward _ _ _ (fun a s3 b3 g3 => ?_)
    have h3 : SOk s3 False := hw2.congr b3 g3
    wpif ha
    · exact hfin _ _ _ h3
    · wpn; exact hfin _ _ _ (h3.congr rfl rfl)
  -- ^E
  wpif h
  · wpn
    refine wp_scrollForward _ _ _ (fun a s3 b3 g3 => ?_)
    have h3 : SOk s3 False := hw2.congr b3 g3
    wpif ha
    · exact hfin _ _ _ h3
    · wpn; exact hfin _ _ _ (h3.congr rfl rfl)
  -- ^Y
  wpif h
  · wpn
    refine wp_scrollBackward _ _ _ (fun a s3 b3 g3 => ?_)
    have h3 : SOk s3 False := hw2.congr b3 g3
    wpif ha
    · exact hfin _ _ _ h3
    · wpn; exact hfin _ _ _ (h3.congr rfl rfl)
  -- ^U
  wpif h
  · wpif h0
    · exact hfin _ _ _ hw2
    wpif ha
    · wpn; exact hj4 _ _ (hw2.congr rfl rfl)
    · exact hj4 _ _ hw2
  -- ^D
  wpif h
  · wpif h0
    · exact hfin _ _ _ hw2
    wpif ha
    · wpn; exact hj2 _ _ (hw2.congr rfl rfl)
    · exact hj2 _ _ hw2
  -- u ^R
  wpif h
  · obtain ⟨lb, hlb, hh⟩ := hs2.1.lb ed2 rfl
    rw [hlb]
    dsimp only
    have hur : ∃ rc lb', (if (c == 117) = true then undo lb else redo lb) = some (rc, lb') ∧ HistOk lb' True := by
      by_cases h117 : (c == 117) = true
      · rw [if_pos h117]; exact hh.undo
      · rw [if_neg h117]; exact hh.redo
    obtain ⟨rc, lb', hu, hlb'⟩ := hur
    rw [hu]
    dsimp only
    have h3 : SOk ({ s1 with ed := ed2.setLb lb' } : VS) False :=
      ⟨(bufsOk_setLb hs2.1 hlb').weaken, by simp only [setLb_regs]; exact hs2.2⟩
    wpif hrc
    · wpn
      cases jump lb' 94 with
      | none => exact hj1 _ _ h3
      | some ro =>
        obtain ⟨r, o⟩ := ro
        dsimp only
        wpn
        exact hj1 _ _ (h3.congr rfl rfl)
    · wpn
      exact hfin _ _ _ h3
  -- ^G
  wpif h
  · wpn
    refine (wp_lbufModified _ _).mpr ?_
    refine hfin _ _ _ ⟨(bufsOk_modified hs2.1).weaken, ?_⟩
    show RegsOk (modEd ed2).regs
    rw [modEd_regs]; exact hs2.2
  -- :
  wpif h
  · refine (wp_bind_eqn _ _ _ _).mpr ?_
    refine wp_viPrompt _ _ hs2.paste _ (fun r s3 e3 hr3 hm3 => ?_)
    have hs3 : SOk s3 True := (MvF.of_EdF e3).sok hs2
    have hr3' : RowOk s3 := rowOk_congr hr2 e3.xrow e3.lines
    cases r with
    | none => exact hfin _ _ _ hs3.weaken
    | some ln =>
      have hln := hr3 ln rfl
      dsimp only
      wpif hemp
      · exact hfin _ _ _ hs3.weaken
      · wpn
        have hln2 : NoNul (if (ln.headD 0 != 58) = true then 58 :: ln else ln) := by
          split
          · exact noNul_cons.mpr ⟨by decide, hln⟩
          · exact hln
        have hat : ColonAt 58 s ({ s1 with ed := ed2 } : VS) := by
          refine ⟨?_, ?_⟩
          · show ed2 = (markCaret s).ed
            rw [← hed2]; unfold markCaret; dsimp only; rw [e1]
          · show 58 :: allQ s1 <:+ allQ s
            have hc58 : c = 58 := by simpa using h
            rw [q1, hc58]; exact List.suffix_refl _
        refine wp_exCommandV (hcol.colon _ ln s3 hat hm3 (by simpa using hemp)) _ (fun rc s4 h4 => ?_)
        wpn
        wpif hq
        · refine (wp_pure _ _ _).mpr (hQ _ _ (Or.inl ?_))
          exact hq
        · exact hfin _ _ _ ⟨h4.1, regsOk_put h4.2 _ hln2 _⟩
  -- c d y ! > <
  wpif h
  · wpn
    exact wp_vcMotion _ hs2 hr2 hmk2 hsl2 _ (fun m s3 hp => hfinO _ _ _ _ hp)
  -- i I a A o O
  wpif h
  · wpn
    exact wp_vcInsert _ hs2 hr2 _ (fun m s3 hp => hfinO _ _ _ _ hp)
  -- J
  wpif h
  · wpn
    exact wp_vcJoin hs2 hr2 _ (fun m s3 hp => hfinO _ _ _ _ hp)
  -- ^L
  wpif h
  · exact hfin _ _ _ hw2
  -- m
  wpif h
  · wpn
    refine wp_viRead _ _ (fun m s3 e3 _ => ?_)
    have h3 : SOk s3 False := hw2.congr (by rw [e3]) (by rw [e3])
    wpif hm
    · wpn
      refine (wp_markSet _ _ _ _ _).mpr ?_
      refine hj0 _ _ ⟨bufsOk_markSet h3.1 _ _ _, ?_⟩
      show RegsOk (markEd s3.ed _ _ _).regs
      rw [markEd_regs]; exact h3.2
    · exact hj0 _ _ h3
  -- p P
  wpif h
  · wpn
    exact wp_vcPut _ hs2 hr2 _ (fun m s3 hp => hfinO _ _ _ _ hp)
  -- z
  wpif h
  · wpn
    refine wp_viRead _ _ (fun k s3 e3 _ => ?_)
    have h3 : SOk s3 False := hw2.congr (by rw [e3]) (by rw [e3])
    wpif hk
    · wpn; exact hfin _ _ _ (h3.congr rfl rfl)
    wpif hk
    · wpn; exact hfin _ _ _ (h3.congr rfl rfl)
    wpif hk
    · wpn; exact hfin _ _ _ (h3.congr rfl rfl)
    wpif hk
    · wpn; exact hfin _ _ _ (h3.congr rfl rfl)
    wpif hk
    · exact hfin _ _ _ h3
    wpif hk
    · wpn; exact hfin _ _ _ (h3.congr rfl rfl)
    wpif hk
    · wpn; exact hfin _ _ _ (h3.congr rfl rfl)
    · exact hfin _ _ _ h3
  -- g
  wpif h
  · wpn
    refine wp_viRead _ _ (fun k s3 e3 q3 => ?_)
    have h3t : SOk s3 True := hs2.congr (by rw [e3]) (by rw [e3])
    have h3 : SOk s3 False := h3t.weaken
    have hl3 : lines s3 = lines ({ s1 with ed := ed2 } : VS) := by unfold Vi.lines; rw [e3]
    wpif hk
    · wpn
      refine wp_vcMotion _ h3t (rowOk_congr hr2 (by rw [e3]) hl3) (hmk2.of_lb (by rw [e3])) ?_ _
        (fun m s4 hp => hfinO _ _ _ _ hp)
      exact hsl2.pfx (pfx_read e3 q3)
    wpif hk
    · exact hfin _ _ _ h3
    wpif hk
    · wpn; exact hfin _ _ _ (h3.congr rfl rfl)
    · exact hfin _ _ _ h3
  -- x X C D s S Y ~ : an operator on a pushed-back motion key
  have hvb : ∀ (k : Int) (cmd : Nat), k ∉ searchKeys →
      wp (vcMotion cmd) (fun m s' => wp (C09.finRec c 0 m) Q s')
        ({ ({ s1 with ed := ed2 } : VS) with vibuf := k :: s1.vibuf } : VS) := by
    intro k cmd hk
    refine wp_vcMotion (c := True) (s := ({ ({ s1 with ed := ed2 } : VS) with vibuf := k :: s1.vibuf } : VS)) _ ?_ ?_ ?_ ?_ _
      (fun m s4 hp => hfinO _ _ _ _ hp)
    · exact hs2.congr rfl rfl
    · exact rowOk_congr hr2 rfl rfl
    · exact hmk2.of_lb rfl
    · exact hsl2.back' hk rfl rfl rfl rfl
  wpif h
  · wpn; exact hvb _ _ (by decide)
  wpif h
  · wpn; exact hvb _ _ (by decide)
  wpif h
  · wpn; exact hvb _ _ (by decide)
  wpif h
  · wpn; exact hvb _ _ (by decide)
  -- r
  wpif h
  · wpn
    exact wp_vcReplace hs2 hr2 _ (fun m s3 hp => hfinO _ _ _ _ hp)
  wpif h
  · wpn; exact hvb _ _ (by decide)
  wpif h
  · wpn; exact hvb _ _ (by decide)
  wpif h
  · wpn; exact hvb _ _ (by decide)
  -- ZZ
  wpif h
  · wpn
    refine wp_viRead _ _ (fun k s3 e3 q3 => ?_)
    have h3t : SOk s3 True := hs2.congr (by rw [e3]) (by rw [e3])
    have hl3 : lines s3 = lines ({ s1 with ed := ed2 } : VS) := by unfold Vi.lines; rw [e3]
    wpif hk
    · wpn
      have hat : ColonAt 90 s s3 := by
        refine ⟨?_, ?_⟩
        · rw [e3]
          show ed2 = (markCaret s).ed
          rw [← hed2]; unfold markCaret; dsimp only; rw [e1]
        · refine List.IsSuffix.trans (l₂ := allQ s1) ?_ (by rw [q1]; exact List.suffix_cons _ _)
          have hk90 : k = 90 := by simpa using hk
          show 90 :: allQ s3 <:+ allQ ({ s1 with ed := ed2 } : VS)
          rw [q3, hk90]; exact List.suffix_refl _
      refine wp_exCommandV (hcol.zz s3 hat) _ (fun rc s4 h4 => ?_)
      exact hfin _ _ _ h4
    · exact hfin _ _ _ h3t.weaken
  -- ~
  wpif h
  · wpn; exact hvb _ _ (by decide)
  -- .
  wpif h
  · wpn
    refine wp_vcRepeat _ _ (fun s3 e3 => ?_)
    exact hfin _ _ _ (hw2.congr (by rw [e3]) (by rw [e3]))
  -- @
  wpif h
  · wpn
    refine wp_vcExecute _ _ (fun s3 e3 => ?_)
    exact hfin _ _ _ (hw2.congr (by rw [e3]) (by rw [e3]))
  wpif h
  · wpn; exact hfin _ _ _ (hw2.congr rfl rfl)
  · exact (wp_pure _ _ _).mpr (hQ _ _ (Or.inr ⟨hs2, hr2, ho2⟩))

end Neatvi.Lemmas.C05f
