import NeatviVerif.Lemmas.C05fQ
import NeatviVerif.Props.C05c
import NeatviVerif.Drive.Vi
import NeatviVerif.Lemmas.ViStages
/-!
# C05f, part S: one iteration of the loop of `vi()` and the runs of the editor

`ViOk` is the invariant of the loop; `StepHyp` collects what an iteration needs beyond it.  An iteration from such a
state does not trap and keeps `ViOk`; `Props/C05f.lean` carries this along the runs of the editor and of the driver.
-/
set_option linter.unusedSimpArgs false
set_option linter.unusedVariables false
namespace Neatvi.Lemmas.C05f
open Neatvi Neatvi.Uc Neatvi.Lbuf Neatvi.Ex Neatvi.Mot Neatvi.Vi Neatvi.Rset
-- the calculus is used through its rules: a goal `wp m Q s` is not to be unfolded by running `m`
attribute [local irreducible] wp
open Neatvi.Lemmas.C05b (CountsFit)
open Neatvi.Props.C05c (iterate)

/-- the cursor rests inside the buffer -/
def CursorOk (s : VS) : Prop := RowOk s ∧ s.ed.xoff ≤ slenAt (lines s) s.ed.xrow

/-- **the invariant of the vi loop**, at the start of every iteration: the current buffer exists; its lines
    end in their newline, have no other newline and no NUL; the undo history is consistent and no command is in
    progress; no register holds a NUL; the cursor is on a row of the buffer (row 0 of an empty one) and not
    beyond its line; the two counts are within `[0, 999999999]` -/
structure ViOk (s : VS) : Prop where
  sok : SOk s True
  cur : CursorOk s
  fit : CountsFit s

/-- the row `vi_wfix()` settles on -/
def wfixRow (s : VS) : Int :=
  if s.ed.xrow < 0 || s.ed.xrow ≥ lenOf s then (if lenOf s != 0 then lenOf s - 1 else 0) else s.ed.xrow

/-- the top of the window `vi_wfix()` settles on -/
def wfixTop (s : VS) : Int :=
  let xrow := wfixRow s
  let xrows := s.xrows
  let xtop := s.ed.xtop
  let xtop := if xtop > xrow then (if xtop - xrows / 2 > xrow then max 0 (xrow - xrows / 2) else xrow) else xtop
  if xtop + xrows ≤ xrow then (if xtop + xrows + xrows / 2 ≤ xrow then xrow - xrows / 2 else xrow - xrows + 1) else xtop

/-- the offset `vi_wfix()` settles on -/
def wfixOff (s : VS) : Int := Ren.renNoeol ((lineOf s (wfixRow s)).getD []) s.ed.xoff

/-- `vi_wfix()` in closed form (as in `Props/C07.lean`) -/
theorem viWfix_eq (s : VS) :
    viWfix s = Res.ok () { s with ed := { s.ed with xrow := wfixRow s, xtop := wfixTop s, xoff := wfixOff s } } :=
  Props.C07.viWfix_eq s

theorem wp_viWfix {s : VS} {c : Prop} (hs : SOk s c) (Q : Unit → VS → Prop)
    (hQ : ∀ s', SOk s' c → CursorOk s' → s'.ed.xquit = s.ed.xquit → Q () s') : wp viWfix Q s := by
  unfold wp
  rw [viWfix_eq]
  have hr0 : 0 ≤ wfixRow s ∧ (lenOf s ≠ 0 → wfixRow s < lenOf s) :=
    ⟨Props.C07.wfixRow_nonneg s, fun h => ((Props.C07.wfixRow_range s).2 h).2⟩
  refine hQ _ (hs.congr rfl rfl) ⟨⟨hr0.1, fun hl => hr0.2 hl⟩, ?_⟩ rfl
  show wfixOff s ≤ slenAt (lines s) (wfixRow s)
  unfold wfixOff
  rw [slenAt_eq]
  exact renNoeol_le_slen _ _

theorem cursorOk_congr {s s' : VS} (h : CursorOk s) (h1 : s'.ed.xrow = s.ed.xrow) (h2 : s'.ed.xoff = s.ed.xoff)
    (h3 : lines s' = lines s) : CursorOk s' := by
  unfold CursorOk RowOk lenOf at *
  rw [h1, h2, h3]; exact h

theorem lines_modEd {s : VS} {c : Prop} (hs : SOk s c) : lines ({ s with ed := modEd s.ed } : VS) = lines s := by
  obtain ⟨lb, hlb, _⟩ := hs.1.lb s.ed rfl
  unfold Vi.lines modEd
  dsimp only
  rw [hlb]
  dsimp only
  rw [setLb_lb hs.1]
  rfl

theorem sok_modEd {s : VS} {c : Prop} (hs : SOk s c) : SOk ({ s with ed := modEd s.ed } : VS) True :=
  ⟨bufsOk_modified hs.1, by show RegsOk (modEd s.ed).regs; rw [modEd_regs]; exact hs.2⟩

theorem wp_of_run {α : Type} {m m' : M α} {Q : α → VS → Prop} {s s' : VS} (h : m s = m' s') (hw : wp m' Q s') :
    wp m Q s := by
  unfold wp at *; rw [h]; exact hw

/-- **the end of an iteration** (`viPost`): window fix, sticky column, `lbuf_modified`; the assignments to the sticky
    column and to `xleft` are read in closed form (`Lemmas.C19f.viPostRest_run` of `Lemmas/ViStages.lean`) -/
theorem wp_viPost (cont : Option Nat) {s : VS} (hs : CtPost cont s) (Q : Unit → VS → Prop)
    (hQ : ∀ s', (s'.ed.xquit = false → SOk s' True ∧ CursorOk s') → Q () s') : wp (viPost cont) Q s := by
  cases cont with
  | none =>
    rw [Lemmas.C07.viPost_none]
    refine (wp_pure _ _ _).mpr (hQ _ (fun hq => ?_))
    rcases hs with h | ⟨h1, h2, h3⟩
    · rw [h] at hq; cases hq
    · exact ⟨h1, h2, h3⟩
  | some mod =>
    have hs' : SOk s False := hs
    rw [Lemmas.C07.viPost_some]
    refine (wp_bind _ _ _ _).mpr ?_
    refine wp_viWfix hs' _ (fun s1 h1 c1 q1 => ?_)
    cases hq : s1.ed.xquit with
    | true =>
      refine wp_of_run (m' := pure ()) (Lemmas.C19f.viPostRest_quit mod s1 hq) ?_
      exact (wp_pure _ _ _).mpr (hQ _ (fun h => by rw [hq] at h; cases h))
    | false =>
      refine wp_of_run (Lemmas.C19f.viPostRest_run mod s1 hq) ?_
      have h2 : SOk (Lemmas.C19f.postState mod s1) False := h1.congr rfl rfl
      have c2 : CursorOk (Lemmas.C19f.postState mod s1) := cursorOk_congr c1 rfl rfl rfl
      generalize Lemmas.C19f.postState mod s1 = s2 at h2 c2
      have hend : ∀ s3 : VS, SOk s3 False → CursorOk s3 →
          wp (do lbufModified; lbufModified) Q ({ s3 with ed := { s3.ed with out := [] } } : VS) := by
        intro s3 h3 c3
        wpn
        refine (wp_lbufModified _ _).mpr ((wp_lbufModified _ _).mpr (hQ _ (fun _ => ?_)))
        have ha : SOk ({ s3 with ed := { s3.ed with out := [] } } : VS) False := h3.congr rfl rfl
        have hb := sok_modEd ha
        have hc := sok_modEd hb
        refine ⟨hc, ?_⟩
        refine cursorOk_congr c3 ?_ ?_ ?_
        · show (modEd (modEd _)).xrow = _
          rw [modEd_xrow, modEd_xrow]
        · show (modEd (modEd _)).xoff = _
          rw [modEd_xoff, modEd_xoff]
        · exact (lines_modEd hb).trans ((lines_modEd ha).trans rfl)
      unfold Lemmas.C19f.postEnd
      refine (wp_bind _ _ _ _).mpr ?_
      unfold viWait
      wpn
      wpif hw
      · wpn
        refine wp_ledLine _ _ _ _ _ _ s2 h2.paste noNul_nil (by simp) _ (fun sb key ai s3 e3 _ _ _ => ?_)
        wpn
        exact (wp_bind _ _ _ _).mp (hend s3 ((MvF.of_EdF e3).sok h2) (cursorOk_congr c2 e3.xrow e3.xoff e3.lines))
      · wpn
        exact (wp_bind _ _ _ _).mp (hend s2 h2 c2)

theorem wp_motionTail (mv nrow noff : Int) {s : VS} {c : Prop} (hs : SOk s c) (Q : Option Nat → VS → Prop)
    (hQ : ∀ r s', CtPost r s' → Q r s') : wp (motionTail mv nrow noff) Q s := by
  unfold motionTail
  have hms : ∀ st : VS, SOk st c → ∀ Q' : Unit → VS → Prop, (∀ s', SOk s' c → Q' () s') → wp markSave Q' st := by
    intro st hst Q' hQ'
    unfold markSave
    wpn
    refine (wp_markSet _ _ _ _ _).mpr ?_
    refine (wp_markSet _ _ _ _ _).mpr ?_
    have h1 : SOk ({ st with ed := markEd st.ed 39 st.ed.xrow st.ed.xoff } : VS) c :=
      ⟨bufsOk_markSet hst.1 _ _ _, by show RegsOk (markEd _ _ _ _).regs; rw [markEd_regs]; exact hst.2⟩
    exact hQ' _ ⟨bufsOk_markSet h1.1 _ _ _, by show RegsOk (markEd _ _ _ _).regs; rw [markEd_regs]; exact h1.2⟩
  have hrest : ∀ st : VS, SOk st c →
      wp (do
        setRow nrow
        let s ← get
        let jk := mv == 106 || mv == 107
        let noff := if noff < 0 && !jk then indents (lines s) nrow else noff
        let noff := if jk then col2off s nrow s.xcol else noff
        let xoff := noeol s nrow noff
        setOff xoff
        if !(jk || mv == 124) then modify fun s => { s with xcol := off2col s nrow xoff }
        if mv == 124 then modify fun s => { s with xcol := s.pcol }
        pure (some 0)) Q st := by
    intro st hst
    wpn
    wpif h1
    · wpn
      wpif h2
      · wpn; exact hQ _ _ (show SOk _ False from (hst.congr rfl rfl).weaken)
      · wpn; exact hQ _ _ (show SOk _ False from (hst.congr rfl rfl).weaken)
    · wpn
      wpif h2
      · wpn; exact hQ _ _ (show SOk _ False from (hst.congr rfl rfl).weaken)
      · wpn; exact hQ _ _ (show SOk _ False from (hst.congr rfl rfl).weaken)
  dsimp only
  wpif hm
  · wp1
    exact hms s hs _ (fun s' h' => hrest s' h')
  · exact hrest s hs

theorem wp_viPre {s : VS} {c : Prop} (hs : SOk s c) (hc : CursorOk s) (hmk : MarksIn s) (hsl : SearchOk s)
    (Q : Int × Int × Int → VS → Prop)
    (hQ : ∀ mv r o s', MvF s s' → (mv = 0 → s'.ed = s.ed ∧ allQ s' <:+ allQ s) → Q (mv, r, o) s') :
    wp viPre Q s := by
  unfold viPre
  wpn
  refine wp_viYankbuf _ _ (fun yb s1 p1 => ?_)
  wpn
  refine wp_viPrefix _ _ (fun a1 s2 p2 => ?_)
  wpn
  have p0 : PfxPost s ({ s with icmd := [], arg2 := 0 } : VS) := ⟨rfl, List.suffix_refl _⟩
  have p12 : PfxPost s ({ s2 with arg1 := a1 } : VS) := p0.trans (p1.trans ⟨p2.1, p2.2⟩)
  have hmot : ∀ st : VS, PfxPost s st →
      wp (viMotion s.ed.xrow (noeol s s.ed.xrow s.ed.xoff)) Q st := by
    intro st pst
    have hl : lines st = lines s := by unfold Vi.lines; rw [pst.1]
    have hst : SOk st c := hs.congr (by rw [pst.1]) (by rw [pst.1])
    refine wp_viMotion _ _ st hst ((curOk_noeol hs hc.1 _).of_lines hl) (hmk.of_lb (by rw [pst.1])) (hsl.pfx pst) Q
      (fun mv r o s' m p hz => hQ mv r o s' ((MvF.of_ed pst.1).trans m) (fun h0 => ?_))
    obtain ⟨a, b⟩ := hz h0
    exact ⟨a.trans pst.1, b.trans pst.2⟩
  wpif hyb
  · wpn
    refine wp_viYankbuf _ _ (fun yb2 s3 p3 => ?_)
    wpn
    exact hmot _ (p12.trans ⟨p3.1, p3.2⟩)
  · wpn
    exact hmot _ p12

/-- **one iteration of the loop of `vi()`**: no trap; if the editor is not quitting afterwards, the invariant
    of the buffers, the registers and the cursor holds again -/
theorem wp_viStep {s : VS} (hs : SOk s True) (hc : CursorOk s)
    (hm1 : MarksIn s) (hm2 : MarksIn (markCaret s)) (hsl : SearchOk s) (hcol : ColonOk s) :
    wp viStep (fun _ s' => s'.ed.xquit = false → SOk s' True ∧ CursorOk s') s := by
  unfold viStep
  wp1
  refine wp_viPre hs hc hm1 hsl _ (fun mv nrow noff s1 m1 hz => ?_)
  wp1
  have hpost : ∀ (r : Option Nat) (s2 : VS), CtPost r s2 →
      wp (viPost r) (fun _ s' => s'.ed.xquit = false → SOk s' True ∧ CursorOk s') s2 :=
    fun r s2 h2 => wp_viPost r h2 _ (fun s' h => h)
  have hs1 : SOk s1 True := m1.sok hs
  wpif hpos
  · exact wp_motionTail _ _ _ hs1 _ hpost
  wpif h0
  · have hmv : mv = 0 := by simpa using h0
    obtain ⟨he, hq⟩ := hz hmv
    have hl : lines s1 = lines s := m1.lines
    refine wp_commandTail hs1 (rowOk_congr hc.1 m1.2.1 hl) ?_ ?_ ?_ (hcol.mono he hq) _ hpost
    · rw [hl, m1.2.1, m1.2.2.1]; exact hc.2
    · refine hm2.of_lb ?_
      unfold markCaret
      rw [he]
    · exact hsl.mono hq hl (by rw [he]) (by rw [he])
  · refine (wp_pure _ _ _).mpr (hpost _ _ (show SOk s1 False from hs1.weaken))

/-- the hypotheses on a state from which an iteration starts (they are not invariants of C05f's `ViOk`): the editor is
    not quitting; a mark beyond the buffer has column 0, also once the caret mark is set; the hypotheses on the
    searches (`SearchOk`: no counted `/` typed from the pending keys overruns a line, the remembered pattern has no
    NUL, the patterns of `? n N ^A` match inside the lines) and on the ex commands typed from the pending keys
    (`ColonOk`) -/
structure StepHyp (s : VS) : Prop where
  noquit : s.ed.xquit = false
  marks : MarksIn s
  caret : MarksIn (markCaret s)
  search : SearchOk s
  colon : ColonOk s

/-- **one iteration from a state with the invariant** -/
theorem viStep_safe {s : VS} (hv : ViOk s) (hm1 : MarksIn s)
    (hm2 : MarksIn (markCaret s)) (hsl : SearchOk s) (hcol : ColonOk s) :
    wp viStep (fun _ s' => s'.ed.xquit = false → ViOk s') s := by
  have h := wp_viStep hv.sok hv.cur hm1 hm2 hsl hcol
  refine wp_mono (wp_and h (fun a s' hm => Props.C05c.presFit_viStep s a s' hv.fit hm)) ?_
  intro a s' ⟨h1, h2⟩ hq
  exact ⟨(h1 hq).1, (h1 hq).2, h2⟩

/-- … with the hypotheses on the state as the bundle the runs carry; "no trap" is `wp_no_trap` of it, "the invariant holds
    again" `wp_post` -/
theorem StepHyp.step {s : VS} (hh : StepHyp s) (hv : ViOk s) : wp viStep (fun _ s' => s'.ed.xquit = false → ViOk s') s :=
  viStep_safe hv hh.marks hh.caret hh.search hh.colon

open Neatvi.Drive.ViD in
/-- the run did not end in a trap -/
def NotTrap : End → Prop
  | End.trap => False
  | _ => True

end Neatvi.Lemmas.C05f
