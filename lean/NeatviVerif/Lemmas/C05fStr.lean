import NeatviVerif.Model.Ex
/-!
# C05f: the decimal numbers the editor prints (`intStr`, the registers `#` and `^`) are ASCII without NUL

`ByteArray.toList` read as the list of the underlying array, the UTF-8 encoding of an ASCII character as its one
byte, and the digits of `Nat.repr` / `Int.repr`.
-/
set_option linter.unusedSimpArgs false
set_option linter.unusedVariables false
namespace Neatvi.Lemmas.C05f
open Neatvi Neatvi.Ex

theorem ba_size (bs : ByteArray) : bs.size = bs.data.toList.length := by cases bs; rfl

theorem ba_get (a : Array UInt8) (i : Nat) (h : i < a.toList.length) : (ByteArray.mk a).get! i = a.toList[i] := by
  show a[i]! = _
  have h' : i < a.size := h
  rw [getElem!_pos a i h']
  rfl

theorem ba_loop (bs : ByteArray) : ∀ (n i : Nat) (r : List UInt8), bs.size - i = n →
    ByteArray.toList.loop bs i r = r.reverse ++ bs.data.toList.drop i := by
  intro n
  induction n with
  | zero =>
    intro i r h
    rw [ByteArray.toList.loop]
    have : ¬ i < bs.size := by omega
    rw [if_neg this]
    have : bs.data.toList.drop i = [] := by
      apply List.drop_eq_nil_of_le
      rw [← ba_size]; omega
    rw [this]; simp
  | succ n ih =>
    intro i r h
    rw [ByteArray.toList.loop]
    have hi : i < bs.size := by omega
    rw [if_pos hi, ih (i + 1) _ (by omega)]
    have hlt : i < bs.data.toList.length := by rw [← ba_size]; exact hi
    have hd : bs.data.toList.drop i = bs.get! i :: bs.data.toList.drop (i + 1) := by
      rw [List.drop_eq_getElem_cons hlt]
      congr 1
      cases bs with
      | mk a => exact (ba_get a i hlt).symm
    rw [hd]; simp

theorem ba_toList (bs : ByteArray) : bs.toList = bs.data.toList := by
  unfold ByteArray.toList
  rw [ba_loop bs _ 0 [] rfl]; simp

theorem strOf_ofList (l : List Char) : strOf (String.ofList l) = (l.flatMap String.utf8EncodeChar).map (·.toNat) := by
  unfold strOf
  rw [ba_toList]
  simp [List.utf8Encode]

theorem encChar_ascii (c : Char) (h0 : 0 < c.toNat) (h : c.toNat < 128) :
    (String.utf8EncodeChar c).map (·.toNat) = [c.toNat] := by
  have hs : c.utf8Size = 1 := Char.utf8Size_eq_one_iff.2 (by
    show c.val ≤ 127
    rw [UInt32.le_iff_toNat_le]
    have : c.val.toNat = c.toNat := rfl
    simp only [this]; show c.toNat ≤ 127; omega)
  rw [String.utf8EncodeChar_eq_singleton hs]
  simp only [List.map_cons, List.map_nil]
  congr 1
  show c.val.toUInt8.toNat = c.val.toNat
  rw [UInt32.toNat_toUInt8]
  have : c.val.toNat = c.toNat := rfl
  omega

theorem strOf_ascii (l : List Char) (h : ∀ c ∈ l, 0 < c.toNat ∧ c.toNat < 128) :
    ∀ b ∈ strOf (String.ofList l), 0 < b ∧ b < 128 := by
  rw [strOf_ofList]
  induction l with
  | nil => intro b hb; simp at hb
  | cons c l ih =>
    intro b hb
    rw [List.flatMap_cons, List.map_append, encChar_ascii c (h c (by simp)).1 (h c (by simp)).2] at hb
    rcases List.mem_append.mp hb with h1 | h1
    · simp at h1; subst h1; exact h c (by simp)
    · exact ih (fun x hx => h x (by simp [hx])) b h1

theorem digit_ascii (c : Char) (h : c.isDigit = true) : 0 < c.toNat ∧ c.toNat < 128 := by
  unfold Char.isDigit at h
  simp only [Bool.and_eq_true, decide_eq_true_eq] at h
  have h1 : 48 ≤ c.toNat := by have := h.1; rw [ge_iff_le, UInt32.le_iff_toNat_le] at this; exact this
  have h2 : c.toNat ≤ 57 := by have := h.2; rw [UInt32.le_iff_toNat_le] at this; exact this
  omega

theorem natRepr_ascii (n : Nat) : ∀ b ∈ strOf (Nat.repr n), 0 < b ∧ b < 128 := by
  unfold Nat.repr
  apply strOf_ascii
  intro c hc
  exact digit_ascii c (Nat.isDigit_of_mem_toDigits (by decide) (by decide) hc)

theorem intStr_ascii (n : Int) : ∀ b ∈ intStr n, 0 < b ∧ b < 128 := by
  unfold intStr
  show ∀ b ∈ strOf (Int.repr n), _
  unfold Int.repr
  cases n with
  | ofNat m => exact natRepr_ascii m
  | negSucc m =>
    dsimp only
    have : "-" ++ Nat.repr m.succ = String.ofList ('-' :: Nat.toDigits 10 m.succ) := by
      unfold Nat.repr
      rw [show "-" = String.ofList ['-'] from rfl, ← String.ofList_append]
      rfl
    rw [this]
    apply strOf_ascii
    intro c hc
    rcases List.mem_cons.mp hc with rfl | h1
    · decide
    · exact digit_ascii c (Nat.isDigit_of_mem_toDigits (by decide) (by decide) h1)

end Neatvi.Lemmas.C05f
