import NeatviVerif.Lemmas.C05fS
import NeatviVerif.Props.C08b
/-!
# C05f, part U: the hypotheses are satisfiable — a concrete state; what the witnesses of the remaining traps rest on

Each hypothesis of a run holds when nothing of its kind is pending (`histOk_of_no_hist`, `searchOk_of_no_search`,
`colonOk_of_no_colon`, `marksIn_of_no_marks`); the example state of `Props/C08b.lean` has them all.

The traps that remain in the model (`Props/C05f.lean`, section 5):
1. **a mark beyond the buffer with a positive column** (`MarksIn` fails): after the undo of an append at the
   end of the buffer the marks `` `* `` and `` `^ `` are `(len, column)`; an operator with the motion `` `* ``
   then asks `uc_sub` for a part of the missing line.  The model traps (a run of `trapsAfter` on `oneLine`, checked by the
   kernel).  The C code is *safe* here: `lbuf_get` returns NULL and `uc_chr(NULL, …)` returns its static `""` for
   both ends — see the report: the model is stricter than the code at this point.
2. **a counted `/` whose match reaches the end of its line** (`SearchOk.slash` fails): the next search is started beyond
   the line, `uc_chr` returns `""` and the pointer difference `"" - s` is formed (`search_beyond_line_traps`).

For a pattern that `rstr.c` takes as a literal, matches start inside the subject (`reOk_of_literal`).
-/
set_option linter.unusedSimpArgs false
set_option linter.unusedVariables false
namespace Neatvi.Lemmas.C05f
open Neatvi Neatvi.Uc Neatvi.Lbuf Neatvi.Ex Neatvi.Mot Neatvi.Vi Neatvi.Rset Neatvi.Spec
open Neatvi.Lemmas.C05b (CountsFit)
open Neatvi.Lemmas.Hist
open Neatvi.Props.C05c (iterate)

theorem histOk_of_no_hist (lb : Lb) (hh : lb.hist = []) (hu : lb.histU = 0) (hl : ∀ l ∈ lb.lines, LineOk l) :
    HistOk lb True := by
  refine ⟨lb.lines, { present := lb.lines }, [], [], ?_, fun _ => rfl, ?_⟩
  · exact
      { hist := by rw [hh]; rfl
        histU := by rw [hu]; rfl
        gok := by intro g hg; simp at hg
        sorted := by simp
        le := by intro g hg; simp at hg
        closed := by intro _ g hg; simp at hg
        opened := by intro h; simp at h
        chain := by rw [hh]; trivial
        lines := rfl
        wf0 := fun l h => (hl l h).wf
        present := rfl
        past := rfl
        future := rfl }
  · intro k l hm
    rw [hh] at hm
    simp only [List.take_nil, applyFwd] at hm
    exact (hl l hm).noNul

theorem searchOk_of_no_search {s : VS} (h : ∀ k ∈ searchKeys, k ∉ allQ s) (hk : NoNul s.ed.xkwd) : SearchOk s := by
  refine ⟨?_, hk, ?_⟩
  · intro s1 cnt r o ⟨a1, _⟩ _ _
    exact absurd (a1.subset (by simp)) (h 47 (by decide))
  · intro s1 cmd ab s2 ⟨⟨k, hk1, hk2⟩, _⟩ _ _ _
    exact absurd (hk2.subset (by simp)) (h k hk1)

theorem colonOk_of_no_colon {s : VS} (h1 : (58 : Int) ∉ allQ s) (h2 : (90 : Int) ∉ allQ s) : ColonOk s :=
  ⟨fun s0 ln s1 ⟨_, a2⟩ _ _ => absurd (a2.subset (by simp)) h1, fun s0 ⟨_, a2⟩ => absurd (a2.subset (by simp)) h2⟩

theorem marksIn_of_no_marks {s : VS} (h : ∀ lb, s.ed.lb = some lb → ∀ i, lb.mark.getD i (-1) = -1) : MarksIn s := by
  intro lb m p q hlb hj _
  unfold jump at hj
  split at hj
  · dsimp only at hj
    rw [h lb hlb] at hj
    simp at hj
  · cases hj

theorem getD_replicate {α : Type} (n : Nat) (a : α) (i : Nat) : (List.replicate n a).getD i a = a := by
  rw [List.getD_eq_getElem?_getD, List.getElem?_replicate]
  split <;> rfl

theorem regsOk_default : RegsOk ({} : Regs) := by
  intro c x hx
  exact absurd ((getD_replicate 256 none c).symm.trans hx) (by simp)

/-! ### the running example of `Props/C08b.lean`: the lines `hello w`, `b` -/

open Neatvi.Props.C08b (exSt exEd)

theorem exSt_lines (keys : Bytes) (r o : Int) :
    lines (exSt keys r o) = [[104, 101, 108, 108, 111, 32, 119, 10], [98, 10]] := rfl

theorem exSt_sok (keys : Bytes) (r o : Int) : SOk (exSt keys r o) True := by
  refine ⟨⟨{ path := [], lb := { lines := [[104, 101, 108, 108, 111, 32, 119, 10], [98, 10]] } }, rfl, ?_⟩, ?_⟩
  · refine histOk_of_no_hist _ rfl rfl ?_
    intro l hl
    simp only [List.mem_cons, List.not_mem_nil, or_false] at hl
    rcases hl with rfl | rfl
    · exact ⟨[104, 101, 108, 108, 111, 32, 119], rfl, by decide, by decide⟩
    · exact ⟨[98], rfl, by decide, by decide⟩
  · exact regsOk_default

theorem exSt_viOk (keys : Bytes) : ViOk (exSt keys 0 0) :=
  { sok := exSt_sok keys 0 0
    cur := ⟨⟨Int.le_refl 0, fun _ => by rw [show lenOf (exSt keys 0 0) = 2 from rfl]; show (0 : Int) < 2; decide⟩, by
      show (0 : Int) ≤ slenAt (lines (exSt keys 0 0)) 0
      exact Lemmas.C07.slenAt_nonneg _ _⟩
    fit := Props.C05c.countsFit_exSt keys 0 0 }

theorem exSt_marks (keys : Bytes) (r o : Int) : MarksIn (exSt keys r o) := by
  refine marksIn_of_no_marks ?_
  intro lb hlb i
  have : lb = { lines := [[104, 101, 108, 108, 111, 32, 119, 10], [98, 10]] } := by
    have h : (exSt keys r o).ed.lb = some { lines := [[104, 101, 108, 108, 111, 32, 119, 10], [98, 10]] } := rfl
    rw [h] at hlb; cases hlb; rfl
  subst this
  exact getD_replicate Gen.NMARKS (-1) i

theorem exSt_caret (keys : Bytes) : MarksIn (markCaret (exSt keys 0 0)) := by
  refine marksIn_caret (exSt_sok keys 0 0) (exSt_marks keys 0 0) ?_ ?_
  · intro lb hlb
    have h : (exSt keys 0 0).ed.lb = some { lines := [[104, 101, 108, 108, 111, 32, 119, 10], [98, 10]] } := rfl
    rw [h] at hlb; cases hlb; rfl
  · show (0 : Int) ≤ slenAt (lines (exSt keys 0 0)) 0
    exact Lemmas.C07.slenAt_nonneg _ _

theorem exSt_allQ (keys : Bytes) (k : Nat) (h : k ∉ keys) : ((k : Nat) : Int) ∉ allQ (exSt keys 0 0) := by
  show ((k : Nat) : Int) ∉ ([] : List Int) ++ (([] : Bytes).drop 0 ++ keys).map Int.ofNat
  simp only [List.nil_append, List.drop_nil, List.mem_map, not_exists, not_and]
  intro x hx hx2
  have : x = k := by
    have h1 : ((x : Nat) : Int) = ((k : Nat) : Int) := hx2
    exact_mod_cast h1
  subst this; exact h hx

/-- the keys that start a search or an ex command: `/ ? n N ^A : Z` -/
def specialKeys : List Nat := [47, 63, 110, 78, 1, 58, 90]

/-- **the hypotheses of an iteration (`StepHyp.step`) hold on the example state**, for all keys without `/ ? n N ^A : Z` -/
theorem exSt_stepHyp (keys : Bytes) (h : ∀ k ∈ specialKeys, k ∉ keys) : StepHyp (exSt keys 0 0) :=
  { noquit := rfl
    marks := exSt_marks keys 0 0
    caret := exSt_caret keys
    search := searchOk_of_no_search (by
      intro k hk
      unfold searchKeys at hk
      simp only [List.mem_cons, List.not_mem_nil, or_false] at hk
      rcases hk with rfl | rfl | rfl | rfl | rfl
      · exact exSt_allQ keys 47 (h 47 (by decide))
      · exact exSt_allQ keys 63 (h 63 (by decide))
      · exact exSt_allQ keys 110 (h 110 (by decide))
      · exact exSt_allQ keys 78 (h 78 (by decide))
      · exact exSt_allQ keys 1 (h 1 (by decide))) (by show NoNul ([] : Bytes); exact noNul_nil)
    colon := colonOk_of_no_colon (exSt_allQ keys 58 (h 58 (by decide))) (exSt_allQ keys 90 (h 90 (by decide))) }

def isTrap {α : Type} : Res α → Bool
  | Res.trap => true
  | _ => false

/-- a buffer with the one line `hello w` -/
def oneLine (keys : Bytes) : VS :=
  { ed := { bufs := [some { path := [], lb := { lines := [[104, 101, 108, 108, 111, 32, 119, 10]] } }] }, typed := keys }

/-- does the iteration after `n` completed ones trap? -/
def trapsAfter (n : Nat) (s : VS) : Bool := match iterate n s with | some t => isTrap (viStep t) | none => false

/-- **witness 2, in general**: a search restarted beyond the end of a line traps -/
theorem search_beyond_line_traps (ls : Lines) (kw : Bytes) (ic : Bool) (r o : Int) (l : Bytes) (re : RStr)
    (hre : rstrMake kw (if ic then RE_ICASE else 0) = some (some re))
    (hl : lineAt ls r = some l) (ho : (ucSlen l : Int) ≤ o) : search ls kw ic 1 r o = none := by
  have hr0 : 0 ≤ r := lineAt_nonneg hl
  have hrl : r < ls.length := by
    unfold lineAt at hl
    rw [if_neg (by omega)] at hl
    have := List.getElem?_eq_some_iff.mp hl
    obtain ⟨h, _⟩ := this
    omega
  unfold search
  rw [hre]
  dsimp only
  unfold search.rows
  rw [if_neg (by simp; omega), hl]
  dsimp only
  have hc : ucChr l (o + 1).toNat = none := by
    cases h : ucChr l (o + 1).toNat with
    | none => rfl
    | some b => have := Lemmas.C08.chr_le_slen _ _ _ h; omega
  simp only [hc]
  simp

/-! ### the literal fast path of `rstr.c`: matches start inside the subject (`ReOk`) -/

theorem literalLoop_some (rs : RStr) (lit s : Bytes) : ∀ (f : Nat) (r e : Int), 0 ≤ r →
    ∃ x, literalLoop rs lit s f r e = some x ∧ ∀ k, x = some k → ((k : Nat) : Int) ≤ e := by
  intro f
  induction f with
  | zero => intro r e _; exact ⟨none, by unfold literalLoop; rfl, by intro k h; cases h⟩
  | succ f ih =>
    intro r e hr
    unfold literalLoop
    by_cases h1 : r > e
    · rw [if_pos h1]; exact ⟨none, rfl, by intro k h; cases h⟩
    · rw [if_neg h1]
      dsimp only
      have hnext := ih (r + 1) e (by omega)
      exact Basics.ite_elim (P := fun y => ∃ x, y = some x ∧ ∀ k, x = some k → ((k : Nat) : Int) ≤ e) (fun _ => hnext)
        (fun _ => Basics.ite_elim (P := fun y => ∃ x, y = some x ∧ ∀ k, x = some k → ((k : Nat) : Int) ≤ e) (fun _ => hnext)
          (fun _ => Basics.ite_elim (P := fun y => ∃ x, y = some x ∧ ∀ k, x = some k → ((k : Nat) : Int) ≤ e)
            (fun _ => ⟨_, rfl, by intro k h; cases h; omega⟩) (fun _ => hnext)))

theorem reOk_of_literal (re : RStr) (h : re.rs = none) : ReOk re := by
  intro s f
  unfold rstrFind
  rw [h]
  dsimp only
  by_cases c1 : (re.lbeg && f &&& RE_NOTBOL != 0) = true
  · rw [if_pos c1]; exact ⟨_, _, _, rfl, fun hneg => absurd hneg (by decide)⟩
  rw [if_neg c1]
  by_cases c2 : (s.length : Int) - (re.str.getD []).length - 1 < 0
  · rw [if_pos c2]; exact ⟨_, _, _, rfl, fun hneg => absurd hneg (by decide)⟩
  rw [if_neg c2]
  obtain ⟨x, hx, hk⟩ := literalLoop_some re (re.str.getD []) s (s.length + 2)
    (if re.lend = true then (s.length : Int) - (re.str.getD []).length - 1 else 0)
    (if re.lbeg = true then 0 else (s.length : Int) - (re.str.getD []).length - 1) (by split <;> omega)
  rw [hx]
  cases x with
  | none => exact ⟨_, _, _, rfl, fun hneg => absurd hneg (by decide)⟩
  | some k =>
    dsimp only
    refine ⟨_, _, _, rfl, fun _ => ?_⟩
    have := hk k rfl
    simp only [Nat.le_refl, if_true, ge_iff_le, List.cons_append, List.getD_cons_zero]
    constructor
    · omega
    · split at this <;> omega

end Neatvi.Lemmas.C05f
