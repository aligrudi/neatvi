import NeatviVerif.Lemmas.C05gDepth
import NeatviVerif.Lemmas.C05dVisit
/-!
# C05g lemmas: the two counters of nested command lines stay below their limits

Along any execution — in every state visited while a command line runs (`VCommand`, `Lemmas/C05dVisit.lean`: the
states the nested handler calls return, the states at the start of the rounds of `:g`, the states a `+cmd` starts
from) — the count of executing registers lies between the count at the start and 16, and the nesting level of
`:g` between the level at the start and 7.  Both are `all_bound`: `Counter π N` (`Lemmas/C05gDepth.lean`) says that `π` is
one of these two fields and `N` its limit, so that the walk over the visited states is written once; everything keeps
`π` (`all_keeps`) except the counter's own handler, which counts up only below the limit (the one place where the two
cases are told apart).
-/
namespace Neatvi.Lemmas.C05g
open Neatvi Neatvi.Lbuf Neatvi.LbufIo Neatvi.Ex Neatvi.Rset Neatvi.Lemmas.ExFrame Neatvi.Lemmas.ExRel
open Neatvi.Lemmas.C05d Neatvi.Lemmas.C06b Neatvi.Lemmas.C02c

/-- `s` is at least as deep as `ed` in the counter `π`, and at most `N` deep -/
def Bnd (π : Ed → Nat) (N : Nat) (ed s : Ed) : Prop := π ed ≤ π s ∧ π s ≤ N

theorem Bnd.of_le {π : Ed → Nat} {N : Nat} {ed ed1 s : Ed} (h : Bnd π N ed1 s) (e : π ed ≤ π ed1) : Bnd π N ed s :=
  ⟨Nat.le_trans e h.1, h.2⟩

theorem Bnd.of_eq {π : Ed → Nat} {N : Nat} {ed ed1 s : Ed} (h : Bnd π N ed1 s) (e : π ed1 = π ed) : Bnd π N ed s :=
  h.of_le (Nat.le_of_eq e.symm)

theorem Bnd.self {π : Ed → Nat} {N : Nat} {ed s : Ed} (e : π s = π ed) (h : π ed ≤ N) : Bnd π N ed s :=
  ⟨Nat.le_of_eq e.symm, e ▸ h⟩

/-- the prologue and the marking loop of `ec_glob` as `Lemmas/C05dDecomp.lean` names them are those of `Props/C15.lean` -/
theorem gPrep_eq (ed : Ed) (arg : Bytes) : gPrep ed arg = Props.C15.globPrep ed arg := rfl

theorem gMark_eq (ed : Ed) (b e : Int) (dep : Nat) : gMark ed b e dep = Props.C15.globMark ed b e dep := rfl

theorem editStage_rel {R : Ed → Ed → Prop} (hT : ExRelTable R) {ed : Ed} {cmd arg : Bytes} {x : Sum (Int × Ed) Ed}
    (h : editStage ed cmd arg = some x) : R ed (x.elim (·.2) id) :=
  editStage_inv (P := R ed) (Pth := fun _ => True) (fun h hg => hT.trans h (hT.guard hg))
    (fun h hp => ⟨hT.step h (Lemmas.ExStep.pathExpand_core hp), fun _ _ => trivial⟩)
    (fun e p h => by unfold Props.C20.ewPre; split; exact hT.trans h (hT.switch _ _); exact h)
    (fun e p h _ => hT.trans h (hT.switch _ _))
    (fun e p _ h => by unfold editOpen; split; exact hT.trans h (hT.trans (hT.opened e p) (hT.switch _ _)); exact h)
    (fun h hf => hT.trans h (hT.editFinish hf)) (hT.refl ed) h

section
variable {π : Ed → Nat} {N : Nat} (hc : Counter π N)
include hc

def ExecB (π : Ed → Nat) (N : Nat) (f : Nat) : Prop := ∀ ed ln s, π ed ≤ N → VExec f ed ln s → Bnd π N ed s
def CmdB (π : Ed → Nat) (N : Nat) (f : Nat) : Prop := ∀ ed ln s, π ed ≤ N → VCommand f ed ln s → Bnd π N ed s
def RunB (π : Ed → Nat) (N : Nat) (f : Nat) : Prop :=
  ∀ ed h loc cmd arg txt s, π ed ≤ N → VRun f ed h loc cmd arg txt s → Bnd π N ed s

theorem runOne_keeps {f : Nat} {ed ed1 : Ed} {p : Parsed} {ret r : Int} {rest : Bytes}
    (h : runOne f ed p ret = some ((r, ed1), rest)) : π ed1 = π ed := by
  have hT := keeps_rel hc
  have e : π (exTxt ed p.rest (abbrOf p.idx)).2 = π ed := hT.ofCore (Lemmas.ExStep.exTxt_core ed _ _)
  unfold runOne at h
  split at h
  · cases h
    exact hT.step e rfl
  · split at h
    · cases h
    · rename_i hr
      cases h
      exact hT.trans e ((all_keeps hc f).2.2.1 _ _ _ _ _ _ _ _ hr)

theorem cmdsB (f : Nat) (hrun : RunB π N f) : ∀ (g : Nat) (ed : Ed) (ln : Bytes) (ret : Int) (s : Ed),
    π ed ≤ N → VCmds f g ed ln ret s → Bnd π N ed s := by
  intro g
  induction g with
  | zero => intro ed ln ret s _ hv; cases hv
  | succ g ih =>
    intro ed ln ret s hd hv
    cases hv with
    | ret _ h1 => exact Bnd.self (runOne_keeps hc h1) hd
    | inner _ hidx hr =>
      have e : π _ = π ed := (keeps_rel hc).ofCore (Lemmas.ExStep.exTxt_core ed (parse1 ln).rest ‹Bytes›)
      exact (hrun _ _ _ _ _ _ _ (e ▸ hd) hr).of_eq e
    | later _ h1 h2 =>
      have e := runOne_keeps hc h1
      exact (ih _ _ _ _ (e ▸ hd) h2).of_eq e

theorem globStep_keeps {f : Nat} {neg : Bool} {body : Bytes} {re : RStr} {ed ed2 : Ed} {i i2 : Int} {st : Bool}
    (h : globStep f neg body re ed i = some (st, ed2, i2)) : π ed2 = π ed :=
  keeps_ofXStep hc (Lemmas.ExStep.XStep.globStep (Lemmas.ExStep.XStep.all f).1 h)

theorem scanB (f : Nat) (neg : Bool) (body : Bytes) (re : RStr) (dep : Nat) (hx : ExecB π N f) :
    ∀ (g : Nat) (ed : Ed) (i : Int) (s : Ed), π ed ≤ N → VScan f neg body re dep g ed i s → Bnd π N ed s := by
  intro g
  induction g with
  | zero => intro ed i s _ hv; cases hv
  | succ g ih =>
    intro ed i s hd hv
    cases hv with
    | here _ => exact Bnd.self rfl hd
    | body _ _ _ _ he =>
      have e : π { ed with xrow := i } = π ed := (keeps_rel hc).ofCore rfl
      exact (hx _ _ _ (e ▸ hd) he).of_eq e
    | @next _ _ _ _ _ _ _ _ ed2 i2 _ _ hstep _ hrest =>
      have e : π (ecGlob.scan.adv dep (ed2.len.toNat + 1) ed2 i2).1 = π ed :=
        (keeps_rel hc).trans (globStep_keeps hc hstep) ((keeps_rel hc).toExRel.ofStep (Lemmas.ExStep.adv_step trivial _ ed2 i2))
      exact (ih _ _ _ (e ▸ hd) hrest).of_eq e

theorem runB_succ (f : Nat) (hx : ExecB π N f) (hcm : CmdB π N f) : RunB π N (f + 2) := by
  have hT := keeps_rel hc
  intro ed h loc cmd arg txt s hd hv
  cases hv with
  | «at» ha =>
    cases ha with
    | @cmd _ _ _ _ _ buf rc b e ed1 _ hreg hr hrc hdp hra hvc =>
      have e1 : π ed1 = π ed := hT.ofCore (Lemmas.ExStep.region_core hr)
      have e2 : π ed ≤ π { ed1 with xrow := b, atDepth := ed1.atDepth + 1 } ∧
          π { ed1 with xrow := b, atDepth := ed1.atDepth + 1 } ≤ N := by
        rcases hc with ⟨rfl, rfl⟩ | ⟨rfl, rfl⟩
        · have : ed1.atDepth = ed.atDepth := e1
          exact ⟨by show ed.atDepth ≤ ed1.atDepth + 1; omega, by show ed1.atDepth + 1 ≤ 16; omega⟩
        · have : ed1.xgdep = ed.xgdep := e1
          exact ⟨by show ed.xgdep ≤ ed1.xgdep; omega, by show ed1.xgdep ≤ 7; omega⟩
      exact (hcm _ _ _ e2.2 hvc).of_le e2.1
  | glob hg =>
    cases hg with
    | @scan _ _ _ _ _ rc b e ed1 re _ hlt hr hrc hkw hre hvs =>
      have e1 : π (gPrep ed1 arg) = π ed :=
        gPrep_eq ed1 arg ▸ hT.trans (hT.ofCore (Lemmas.ExStep.region_core hr)) (hT.ofCore (Props.C15.globPrep_core ed1 arg))
      generalize gPrep ed1 arg = ed2 at e1 hvs
      have e2 : π ed ≤ π (gMark ed2 b e (ed2.xgdep + 1)) ∧ π (gMark ed2 b e (ed2.xgdep + 1)) ≤ N := by
        rw [gMark_eq]
        rcases hc with ⟨rfl, rfl⟩ | ⟨rfl, rfl⟩
        · have e3 : (Props.C15.globMark ed2 b e (ed2.xgdep + 1)).atDepth = ed2.atDepth :=
            hT.toExRel.ofStep (ed := { ed2 with xgdep := ed2.xgdep + 1 }) (Lemmas.ExStep.globMark_step trivial ed2 b e)
          have : ed2.atDepth = ed.atDepth := e1
          omega
        · have e3 := globMark_gdep ed2 b e (ed2.xgdep + 1)
          have : ed2.xgdep = ed.xgdep := e1
          omega
      exact (scanB hc f _ _ _ _ hx _ _ _ _ e2.2 hvs).of_le e2.1
  | edit he =>
    cases he with
    | start hs _ => exact Bnd.self (editStage_rel hT hs) hd
    | plus hs _ hvc =>
      have e1 : π _ = π ed := editStage_rel hT hs
      exact (hcm _ _ _ (e1 ▸ hd) hvc).of_eq e1

theorem all_bound : ∀ f : Nat, ExecB π N f ∧ CmdB π N f ∧ RunB π N f ∧ RunB π N (f + 1) := by
  intro f
  induction f with
  | zero =>
    refine ⟨?_, ?_, ?_, ?_⟩
    · intro ed ln s _ hv; cases hv
    · intro ed ln s _ hv; cases hv
    · intro ed h loc cmd arg txt s _ hv; cases hv
    · intro ed h loc cmd arg txt s _ hv
      cases hv with
      | «at» ha => cases ha
      | glob hg => cases hg
      | edit he => cases he
  | succ f ih =>
    obtain ⟨hx, hcm, hr0, hr1⟩ := ih
    refine ⟨?_, ?_, hr1, runB_succ hc f hx hcm⟩
    · intro ed ln s hd hv
      cases hv with
      | cmds _ hcs => exact cmdsB hc f hr0 _ _ _ _ _ hd hcs
    · intro ed ln s hd hv
      cases hv with
      | exec he => exact hx _ _ _ hd he

end
end Neatvi.Lemmas.C05g
