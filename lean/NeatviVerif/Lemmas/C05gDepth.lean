import NeatviVerif.Lemmas.ExRel
/-!
# C05g lemmas: the two counters of nested command lines are restored

`Ed.atDepth` is the `depth` counter of `ec_at` (registers executing registers), `Ed.xgdep` the `xgdep` counter of
`ec_glob` (global commands inside global commands; the marks of a line are the bits `1 << xgdep` of a `char`).
Every primitive of the ex layer and every handler but its own leaves such a counter alone, and its own handler
counts it up around the nested command lines and down again.  So "the counter is unchanged" is a relation that holds
along the steps of which every command line is made (`keeps_ofXStep`; `Lemmas/ExRel.lean`, `ExStepTable.lean`): every `runCmd` / `exExec` / `exCommand` returns with the counters it was
called with.  Both counters are treated at once: `Counter π N` says that `π` is one of them and `N` the limit
its handler enforces.
-/
namespace Neatvi.Lemmas.C05g
open Neatvi Neatvi.Lbuf Neatvi.LbufIo Neatvi.Ex Neatvi.Rset Neatvi.Lemmas.ExFrame Neatvi.Lemmas.ExRel
open Neatvi.Lemmas.ExStep (XStep)

abbrev Keeps (π : Ed → Nat) (a b : Ed) : Prop := π b = π a

/-- `π` is `atDepth`, which `ec_at` keeps below 16, or `xgdep`, which `ec_glob` keeps below 7 -/
def Counter (π : Ed → Nat) (N : Nat) : Prop := (π = Ed.atDepth ∧ N = 16) ∨ (π = Ed.xgdep ∧ N = 7)

theorem Counter.at : Counter Ed.atDepth 16 := Or.inl ⟨rfl, rfl⟩
theorem Counter.glob : Counter Ed.xgdep 7 := Or.inr ⟨rfl, rfl⟩

@[simp] theorem setCur_depth (ed : Ed) (b : Buf) : (ed.setCur b).atDepth = ed.atDepth := rfl
@[simp] theorem print_depth (ed : Ed) (m : Bytes) : (ed.print m).atDepth = ed.atDepth := rfl
@[simp] theorem nextFault_depth (ed : Ed) : ed.nextFault.2.atDepth = ed.atDepth := rfl
@[simp] theorem kwdSet_depth (ed : Ed) (k : Option Bytes) (d : Int) : (ed.kwdSet k d).atDepth = ed.atDepth := rfl
@[simp] theorem bufsOpen_depth (ed : Ed) (p : Bytes) : (ed.bufsOpen p).2.atDepth = ed.atDepth := rfl
@[simp] theorem setCur_gdep (ed : Ed) (b : Buf) : (ed.setCur b).xgdep = ed.xgdep := rfl
@[simp] theorem print_gdep (ed : Ed) (m : Bytes) : (ed.print m).xgdep = ed.xgdep := rfl
@[simp] theorem nextFault_gdep (ed : Ed) : ed.nextFault.2.xgdep = ed.xgdep := rfl
@[simp] theorem kwdSet_gdep (ed : Ed) (k : Option Bytes) (d : Int) : (ed.kwdSet k d).xgdep = ed.xgdep := rfl
@[simp] theorem bufsOpen_gdep (ed : Ed) (p : Bytes) : (ed.bufsOpen p).2.xgdep = ed.xgdep := rfl

theorem bufsSwitch_counters (ed : Ed) (i : Nat) :
    (ed.bufsSwitch i).atDepth = ed.atDepth ∧ (ed.bufsSwitch i).xgdep = ed.xgdep := by
  obtain ⟨_, _, _, _, _, _, _, e⟩ := Props.C20.bufsSwitch_frame ed i
  rw [e]
  exact ⟨rfl, rfl⟩

theorem bufsShift_counters (ed : Ed) : ed.bufsShift.atDepth = ed.atDepth ∧ ed.bufsShift.xgdep = ed.xgdep := by
  obtain ⟨_, _, _, _, _, _, e⟩ := bufsShift_frame ed
  rw [e]
  exact ⟨rfl, rfl⟩

theorem keeps_rel {π : Ed → Nat} {N : Nat} (hc : Counter π N) : ExRelTable (Keeps π) := by
  have hπ : ∀ {a b : Ed}, b.atDepth = a.atDepth → b.xgdep = a.xgdep → π b = π a := by
    rcases hc with ⟨rfl, _⟩ | ⟨rfl, _⟩
    · exact fun h _ => h
    · exact fun _ h => h
  exact {
    trans := fun h1 h2 => h2.trans h1
    ofCore := fun h => hπ (congrArg (·.atDepth) h) (congrArg (·.xgdep) h)
    io := fun h => by obtain ⟨_, _, _, _, rfl⟩ := h; exact hπ rfl rfl
    cur := fun _ _ _ _ _ _ => hπ rfl rfl
    slot := fun _ _ _ _ _ => hπ rfl rfl
    switch := fun ed i => hπ (bufsSwitch_counters ed i).1 (bufsSwitch_counters ed i).2
    shift := fun ed => hπ (bufsShift_counters ed).1 (bufsShift_counters ed).2
    opened := fun _ _ => hπ rfl rfl
    fresh := fun _ => hπ rfl rfl
    renum := fun _ => hπ rfl rfl
    quitFlag := fun _ => hπ rfl rfl }

theorem exRegion_depth {ed ed' : Ed} {loc : Bytes} {r : Nat × Int × Int} (h : exRegion ed loc = some (r, ed')) :
    ed'.atDepth = ed.atDepth := congrArg (·.atDepth) (Lemmas.ExStep.region_core h)

theorem exRegion_gdep {ed ed' : Ed} {loc : Bytes} {r : Nat × Int × Int} (h : exRegion ed loc = some (r, ed')) :
    ed'.xgdep = ed.xgdep := congrArg (·.xgdep) (Lemmas.ExStep.region_core h)

/-- `ec_at` counts `atDepth` up for the register it runs and down again; `xgdep` it leaves alone -/
theorem keeps_atBracket {π : Ed → Nat} {N : Nat} (hc : Counter π N) (e1 e2 : Ed)
    (h : Keeps π { e1 with atDepth := e1.atDepth + 1 } e2) : Keeps π e1 { e2 with atDepth := e2.atDepth - 1 } := by
  rcases hc with ⟨rfl, _⟩ | ⟨rfl, _⟩
  · have : e2.atDepth = e1.atDepth + 1 := h
    show e2.atDepth - 1 = e1.atDepth
    omega
  · exact h

/-- after the marking loop of `ec_glob` the level is the one `xgdep++` made -/
theorem globMark_gdep (ed : Ed) (b e : Int) (dep : Nat) : (Props.C15.globMark ed b e dep).xgdep = dep :=
  (keeps_rel Counter.glob).toExRel.ofStep (Lemmas.ExStep.globMark_step trivial ed b e)

theorem globSweep_gdep (ed : Ed) (dep : Nat) : (Props.C15.globSweep ed dep).xgdep = ed.xgdep :=
  (keeps_rel Counter.glob).toExRel.ofStep (Lemmas.ExStep.globSweep_step trivial ed)

/-- `ec_glob` counts `xgdep` up for its scan and down again: on its last exit the level is set to the one it was
    called with, whatever the scan did; `atDepth` it leaves alone -/
theorem keeps_globBracket {π : Ed → Nat} {N : Nat} (hc : Counter π N) (e0 ed2 : Ed) (b e : Int)
    (h : Keeps π (Props.C15.globMark e0 b e (e0.xgdep + 1)) ed2) :
    Keeps π e0 { Props.C15.globSweep ed2 (e0.xgdep + 1) with xgdep := e0.xgdep + 1 - 1 } := by
  rcases hc with ⟨rfl, _⟩ | ⟨rfl, _⟩
  · exact (keeps_rel Counter.at).toExRel.globBracket (fun _ _ => rfl) e0 ed2 b e h
  · exact Nat.add_sub_cancel (n := e0.xgdep) (m := 1)

theorem keeps_ofXStep {π : Ed → Nat} {N : Nat} (hc : Counter π N) {ed ed' : Ed} (hs : XStep ed ed') : π ed' = π ed :=
  (keeps_rel hc).ofXStep (keeps_atBracket hc) (keeps_globBracket hc) hs

theorem all_keeps {π : Ed → Nat} {N : Nat} (hc : Counter π N) (f : Nat) :
    ExRel.Exec (Keeps π) f ∧ ExRel.Cmd (Keeps π) f ∧ ExRel.Run (Keeps π) f ∧ ExRel.Run (Keeps π) (f + 1) :=
  (keeps_rel hc).all (keeps_atBracket hc) (keeps_globBracket hc) f

def ExecG (f : Nat) : Prop := ∀ ed ln r ed', exExec f ed ln = some (r, ed') → ed'.xgdep = ed.xgdep

/-- the scan of `ec_glob` ends at the level it started at (one more than outside) -/
theorem ecGlob_scan_gdep (f : Nat) (hbody : ExecG f) (neg : Bool) (s : Bytes) (re : RStr) (dep g : Nat) (ed ed' : Ed)
    (i : Int) (h : ecGlob.scan f neg s re dep g ed i = some ed') : ed'.xgdep = ed.xgdep :=
  keeps_ofXStep Counter.glob (XStep.scan f neg s re dep (XStep.all f).1 g ed i ed' h)

end Neatvi.Lemmas.C05g
