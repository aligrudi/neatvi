import NeatviVerif.Lemmas.C05dRun
/-!
# C05g lemmas: the loop of `:g` never indexes `ln_glob[]` with a negative number

After the command list has run on line `i` the scan resumes at `MAX(0, MIN(i, xrow))` (`globStep_index_nonneg`), and
skipping unmarked lines only moves forward (`adv_index_ge`).  `AdvReads` / `ScanReads` are the indices at which the
loop reads the mark bit (`globGet lb i.toNat dep` in `ecGlob.scan.adv`); `Props/C05g.lean` concludes that they are
non-negative and that the check `if i < 0 then none` of the model's loop (the C code's `ln_glob[i]` with a negative
`i`) never fires.
-/
namespace Neatvi.Lemmas.C05g
open Neatvi Neatvi.Lbuf Neatvi.LbufIo Neatvi.Ex Neatvi.Rset Neatvi.Lemmas.C05d

theorem globStep_index_nonneg {f : Nat} {neg : Bool} {body : Bytes} {re : RStr} {ed ed2 : Ed} {i i2 : Int} {st : Bool}
    (h : globStep f neg body re ed i = some (st, ed2, i2)) (h0 : 0 ≤ i) : 0 ≤ i2 := by
  obtain ⟨_, _, _, _, _, ⟨_, _, _, rfl⟩ | ⟨_, r, _, ⟨_, rfl⟩ | ⟨_, _, rfl⟩⟩⟩ := globStep_inv h
  · exact h0
  · exact h0
  · exact Int.le_max_left 0 _

/-- after the command list has run (`exExec` returned 0) the index handed on is non-negative whatever `i` was -/
theorem globStep_index_nonneg_exec {f : Nat} {neg : Bool} {body : Bytes} {re : RStr} {ed ed1 ed2 : Ed} {i i2 : Int}
    {ln : Bytes} {res : Int} {x : List Int × Nat} (hl : ed.line i = some ln)
    (hf : rstrFind re ln 16 0 ND NG = some (res, x)) (hn : ((res < 0) == neg) = true)
    (hx : exExec f { ed with xrow := i } body = some (0, ed1))
    (h : globStep f neg body re ed i = some (false, ed2, i2)) : i2 = max 0 (min i ed1.xrow) ∧ 0 ≤ i2 := by
  obtain ⟨ln', res', x', hl', hf', ⟨hn', _⟩ | ⟨_, r, hx', ⟨hs, _⟩ | ⟨_, _, rfl⟩⟩⟩ := globStep_inv h
  · rw [hl] at hl'; cases hl'
    rw [hf] at hf'; cases hf'
    exact absurd hn hn'
  · cases hs
  · rw [hx] at hx'; cases hx'
    exact ⟨rfl, Int.le_max_left 0 _⟩

theorem adv_index_ge (dep : Nat) : ∀ (h : Nat) (ed : Ed) (i : Int), i ≤ (ecGlob.scan.adv dep h ed i).2 :=
  fun h ed i => Lemmas.ExFrame.adv_inv (P := fun _ j => i ≤ j) (fun _ _ _ _ hp => hp) (fun _ _ hp => Int.le_add_one hp)
    h ed i (Int.le_refl _)

/-- the indices `j` at which `ecGlob.scan.adv dep h ed i` reads the mark bit (`globGet lb j.toNat dep`) -/
inductive AdvReads (dep : Nat) : Nat → Ed → Int → Int → Prop
  | here {h : Nat} {ed : Ed} {i : Int} {lb : Lb} : ¬ (i ≥ ed.len) → ed.lb = some lb → AdvReads dep (h + 1) ed i i
  | next {h : Nat} {ed : Ed} {i j : Int} {lb : Lb} : ¬ (i ≥ ed.len) → ed.lb = some lb →
      (globGet lb i.toNat dep).1 = false → AdvReads dep h (ed.setLb (globGet lb i.toNat dep).2) (i + 1) j →
      AdvReads dep (h + 1) ed i j

theorem advReads_ge {dep h : Nat} {ed : Ed} {i j : Int} (hr : AdvReads dep h ed i j) : i ≤ j := by
  induction hr with
  | here _ _ => exact Int.le_refl _
  | next _ _ _ _ ih => omega

/-- the indices at which the scan `ecGlob.scan f neg body re dep g ed i` reads the mark bit: in every round that
    goes on, those of `adv` from the index `globStep` handed on.  (The model's check `if i < 0 then none` is NOT
    assumed to have passed: the relation follows the loop as if the check were not there.) -/
inductive ScanReads (f : Nat) (neg : Bool) (body : Bytes) (re : RStr) (dep : Nat) : Nat → Ed → Int → Int → Prop
  | round {g : Nat} {ed ed2 : Ed} {i i2 j : Int} : ¬ (i ≥ ed.len) →
      globStep f neg body re ed i = some (false, ed2, i2) → AdvReads dep (ed2.len.toNat + 1) ed2 i2 j →
      ScanReads f neg body re dep (g + 1) ed i j
  | later {g : Nat} {ed ed2 : Ed} {i i2 j : Int} : ¬ (i ≥ ed.len) →
      globStep f neg body re ed i = some (false, ed2, i2) →
      ScanReads f neg body re dep g (ecGlob.scan.adv dep (ed2.len.toNat + 1) ed2 i2).1
        (ecGlob.scan.adv dep (ed2.len.toNat + 1) ed2 i2).2 j →
      ScanReads f neg body re dep (g + 1) ed i j

end Neatvi.Lemmas.C05g
