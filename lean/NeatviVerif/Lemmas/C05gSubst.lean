import NeatviVerif.Props.C14
/-!
# C05g lemmas: the per-line loop of `:s` does not trap on a truncated character

After an empty match `ec_substitute` copies one character, `MIN(uc_len(ln), strlen(ln))` bytes: never more than
what is left of the line.  So the only ways the per-line loop can fail (`none`) are the matcher's own `none` and
the `none` of the expansion of the replacement (`substExpand`: a group with garbage offsets), on some suffix of the
line.
-/
namespace Neatvi.Lemmas.C05g
open Neatvi Neatvi.Ex Neatvi.Rset

/-- a source of `none` in the loop of `substLine` on the rest `ln` of the line: the matcher fails there, or it
    finds a match whose replacement cannot be expanded -/
def TrapAt (re : RStr) (rep : Bytes) (ln : Bytes) (first : Bool) : Prop :=
  rstrFind re ln 16 (if first then 0 else RE_NOTBOL) ND NG = none ∨
  ∃ res offs c, rstrFind re ln 16 (if first then 0 else RE_NOTBOL) ND NG = some (res, offs, c) ∧ 0 ≤ res ∧
    substExpand rep ln offs = none

/-- what the next round starts from after a match with offsets `offs` on `ln`: the rest after the match, less one
    character — at most what is left — when the match was empty -/
def nextRest (ln : Bytes) (offs : List Int) : Bytes :=
  let ln1 := ln.drop (offs.getD 1 0).toNat
  if offs.getD 1 0 ≤ offs.getD 0 0 then ln1.drop (min (Uc.ucLen (ln1.headD 0)) ln1.length) else ln1

/-- what has been written when the next round starts -/
def nextAcc (r : Option Bytes) (ln : Bytes) (offs : List Int) (x : Bytes) : Bytes :=
  let ln1 := ln.drop (offs.getD 1 0).toNat
  let acc := (r.getD []) ++ ln.take (offs.getD 0 0).toNat ++ x
  if offs.getD 1 0 ≤ offs.getD 0 0 then acc ++ ln1.take (min (Uc.ucLen (ln1.headD 0)) ln1.length) else acc

theorem nextRest_suffix (ln : Bytes) (offs : List Int) : ∃ k, nextRest ln offs = ln.drop k := by
  unfold nextRest
  simp only []
  split
  · exact ⟨_, List.drop_drop ..⟩
  · exact ⟨_, rfl⟩

theorem go_succ (re : RStr) (rep : Bytes) (g : Bool) (f : Nat) (ln : Bytes) (r : Option Bytes) (first : Bool) :
    substLine.go re rep g (f + 1) ln r first =
      match rstrFind re ln 16 (if first then 0 else RE_NOTBOL) ND NG with
      | none => none
      | some (res, offs, _) =>
        if res < 0 then some (r, ln) else
        match substExpand rep ln offs with
        | none => none
        | some x =>
          if (nextRest ln offs).isEmpty || (nextRest ln offs).headD 0 == 10 || !g then
            some (some (nextAcc r ln offs x), nextRest ln offs)
          else substLine.go re rep g f (nextRest ln offs) (some (nextAcc r ln offs x)) false := by
  rw [substLine.go]
  cases rstrFind re ln 16 (if first then 0 else RE_NOTBOL) ND NG with
  | none => rfl
  | some t =>
    obtain ⟨res, offs, c⟩ := t
    simp only []
    split
    · rfl
    · cases substExpand rep ln offs with
      | none => rfl
      | some x =>
        simp only [nextRest, nextAcc]
        by_cases he : offs.getD 1 0 ≤ offs.getD 0 0
        · simp only [he, decide_true, if_true]
        · simp only [he, decide_false, Bool.false_eq_true, if_false]

/-- **exactly when one round fails**: the matcher fails, or the expansion fails, or a later round fails — there is
    no other `none` (in particular none for a truncated character after an empty match) -/
theorem go_none_iff (re : RStr) (rep : Bytes) (g : Bool) (f : Nat) (ln : Bytes) (r : Option Bytes) (first : Bool) :
    substLine.go re rep g (f + 1) ln r first = none ↔
      TrapAt re rep ln first ∨
      ∃ res offs c x, rstrFind re ln 16 (if first then 0 else RE_NOTBOL) ND NG = some (res, offs, c) ∧ 0 ≤ res ∧
        substExpand rep ln offs = some x ∧
        ((nextRest ln offs).isEmpty || (nextRest ln offs).headD 0 == 10 || !g) = false ∧
        substLine.go re rep g f (nextRest ln offs) (some (nextAcc r ln offs x)) false = none := by
  rw [go_succ]
  unfold TrapAt
  cases hf : rstrFind re ln 16 (if first then 0 else RE_NOTBOL) ND NG with
  | none => simp
  | some t =>
    obtain ⟨res, offs, c⟩ := t
    simp only []
    by_cases hres : res < 0
    · rw [if_pos hres]
      constructor
      · intro h; cases h
      · rintro ((h | ⟨res', offs', c', h1, h2, _⟩) | ⟨res', offs', c', x, h1, h2, _⟩)
        · cases h
        · cases h1; omega
        · cases h1; omega
    · rw [if_neg hres]
      cases hx : substExpand rep ln offs with
      | none =>
        simp only []
        constructor
        · intro _; exact Or.inl (Or.inr ⟨res, offs, c, rfl, by omega, hx⟩)
        · intro _; trivial
      | some x =>
        simp only []
        by_cases hstop : ((nextRest ln offs).isEmpty || (nextRest ln offs).headD 0 == 10 || !g) = true
        · rw [if_pos hstop]
          constructor
          · intro h; cases h
          · rintro ((h | ⟨res', offs', c', h1, h2, h3⟩) | ⟨res', offs', c', x', h1, _, _, h4, _⟩)
            · cases h
            · cases h1; rw [hx] at h3; cases h3
            · cases h1; rw [h4] at hstop; cases hstop
        · rw [if_neg hstop]
          constructor
          · intro h
            exact Or.inr ⟨res, offs, c, x, rfl, by omega, hx, by simpa using hstop, h⟩
          · rintro ((h | ⟨res', offs', c', h1, h2, h3⟩) | ⟨res', offs', c', x', h1, _, h3, _, h5⟩)
            · cases h
            · cases h1; rw [hx] at h3; cases h3
            · cases h1; rw [hx] at h3; cases h3; exact h5

theorem go_none_sources (re : RStr) (rep : Bytes) (g : Bool) : ∀ (f : Nat) (ln : Bytes) (r : Option Bytes) (first : Bool),
    substLine.go re rep g f ln r first = none → ∃ k first', TrapAt re rep (ln.drop k) first' := by
  intro f
  induction f with
  | zero => intro ln r first h; rw [substLine.go] at h; cases h
  | succ f ih =>
    intro ln r first h
    rcases (go_none_iff re rep g f ln r first).1 h with ht | ⟨res, offs, c, x, _, _, _, _, hgo⟩
    · exact ⟨0, first, by simpa using ht⟩
    · obtain ⟨k, first', hk⟩ := ih _ _ _ hgo
      obtain ⟨k0, e⟩ := nextRest_suffix ln offs
      rw [e, List.drop_drop] at hk
      exact ⟨_, first', hk⟩

end Neatvi.Lemmas.C05g
