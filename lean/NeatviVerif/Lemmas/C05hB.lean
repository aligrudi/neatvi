import NeatviVerif.Props.C05e
import NeatviVerif.Props.C05f
import NeatviVerif.Lemmas.C20cVi
import NeatviVerif.Lemmas.C18cEval
/-!
# C05h, parts A and B: an ex command entered from vi (`exCommandV`) on a state whose editor is `Safe` (C05e); the
  hypothesis `EngineOk` of C05f as it is stated is false — witnesses; what C05e gives instead

`exCommandV` runs `ex_command` with 64 units of fuel (the `ex()` loop uses 200); the covered class of lines is the
one of C05e with that fuel: flat, or flat mixed with `:g` over local flat command lists, or plain with at most 15 `+`.

`EngineOk` quantifies over *every* pattern and *every* subject; `EngineOkOn K S` is its restriction.  It fails
(1) on a pattern that is not a C string (`\` NUL: `rstr_make` traps in the model), (2) on a C-string pattern and a
well-formed line whose last character is a truncated multi-byte sequence (`x*$` on `a`, `E2`, newline: the
start-position loop of `regexec` steps over the newline and the match starts *on the terminator*), (3) on a subject
without its final newline.  The matches of (2) and (3) are computed by the kernel over the fuelled evaluator of the VM
(`findF`, `findWithF`, sound for `Rset.find` / `findWith`); `engineOkOn_false_of` turns such a match into `¬ EngineOkOn`.
What holds instead (`Lemmas/C05fI.lean`, from the lemmas of C05e): compiling a C-string pattern and matching never trap (`engine_total`), hence
`lbuf_search` started on an existing character never traps (`search_total_c`).
-/
namespace Neatvi.Lemmas.C05h
open Neatvi Neatvi.Uc Neatvi.Lbuf Neatvi.Ex Neatvi.Mot Neatvi.Vi Neatvi.Rset
open Neatvi.Lemmas.C05e Neatvi.Lemmas.C05f

/-- a `:` line covered with the fuel `vi` gives `ex_command` (64): decidable -/
def ColonLineOk (l : Bytes) : Prop :=
  flatLine (l.length + 1) l = true ∨ gflatLine (l.length + 1) l = true ∨ (Plain l ∧ 4 * nest l + 4 ≤ 64)

/-- the part of the state C05e's theorems need: the editor is `Safe` (every buffer built by the lbuf API, a current
    buffer, the remembered pattern a C string) and no `:@` is running -/
def EdSafe (s : VS) : Prop := Safe s.ed ∧ s.ed.atDepth = 0

theorem command64_ok {ed : Ed} (h : Safe ed) (hd : ed.atDepth = 0) (l : Bytes) (hl : ColonLineOk l) :
    Ret 0 (exCommand 64 ed l) := by
  rcases hl with hfl | hfl | ⟨hp, hn⟩
  · have := exec_flat 60 h l hfl
    rw [hd] at this
    exact exCommand_of_exec this
  · have := exec_gflat 57 h l hfl
    rw [hd] at this
    exact exCommand_of_exec this
  · have := command_ret lineCond_plain 64 l h hp (by unfold need; rw [hd]; simp only [Nat.mul_zero, Nat.add_zero]; omega)
    rw [hd] at this
    exact this

/-- **`:` from vi on a covered line**: `exCommandV` returns, and the editor is `Safe` again, at depth 0 -/
theorem exCommandV_safe (ln : Bytes) (s : VS) (h : EdSafe s) (hl : ColonLineOk ln) :
    ∃ rc s', exCommandV ln s = Res.ok rc s' ∧ EdSafe s' := by
  rw [Lemmas.C09.exCommandV_eq]
  split
  · exact ⟨_, _, rfl, h⟩
  · obtain ⟨a, u, hs⟩ := Lemmas.C09.exSet_eq ln s
    rw [hs]
    unfold Lemmas.C09.exTail
    dsimp only
    obtain ⟨rc, ed1, he, h1, hd1⟩ := command64_ok (ed := { s.ed with out := [], msg := [], input := [], xvis := true })
      (h.1.of_bufs rfl) h.2 ln hl
    rw [he]
    exact ⟨_, _, rfl, h1, hd1⟩

/-- `EngineOk` restricted to patterns with `K` and subjects with `S` -/
def EngineOkOn (K S : Bytes → Prop) : Prop :=
  ∀ (kw : Bytes) (flg : Nat), K kw → ∃ r, rstrMake kw flg = some r ∧
    ∀ re, r = some re → ∀ (s : Bytes) (f : Nat), S s →
      ∃ res offs c, rstrFind re s 1 f search.Ex_ND search.Ex_NG = some (res, offs, c) ∧
        (0 ≤ res → 0 ≤ offs.getD 0 0 ∧ (offs.getD 0 0).toNat < s.length)

theorem EngineOkOn.mono {K K' S S' : Bytes → Prop} (h : EngineOkOn K S) (hk : ∀ x, K' x → K x) (hs : ∀ x, S' x → S x) :
    EngineOkOn K' S' := by
  intro kw flg hkw
  obtain ⟨r, h1, h2⟩ := h kw flg (hk kw hkw)
  exact ⟨r, h1, fun re hre s f hs' => h2 re hre s f (hs s hs')⟩

/-- **`EngineOk` is false** (1): the pattern `\` NUL -/
theorem engineOk_is_false : ¬ EngineOk := by
  intro h
  obtain ⟨r, h1, _⟩ := h [92, 0] 0
  rw [rstrMake_nul_traps] at h1
  cases h1

/-- compile and match, for evaluation -/
def findWith (kw : Bytes) (flg : Nat) (s : Bytes) (f : Nat) : Option (Int × List Int × Nat) :=
  match rstrMake kw flg with
  | some (some re) => rstrFind re s 1 f search.Ex_ND search.Ex_NG
  | _ => none

theorem findWith_spec {kw : Bytes} {flg : Nat} {s : Bytes} {f : Nat} {x : Int × List Int × Nat}
    (h : findWith kw flg s f = some x) :
    ∃ re, rstrMake kw flg = some (some re) ∧ rstrFind re s 1 f search.Ex_ND search.Ex_NG = some x := by
  unfold findWith at h
  split at h
  · rename_i re hm; exact ⟨re, hm, h⟩
  · cases h

theorem find_eq_post (rs : RSet) (s : Bytes) (n flg nd ngrps : Nat) (h : ¬ rs.grpcnt ≤ 2) :
    Rset.find rs s n flg nd ngrps = Props.C18c.findPost rs n (Regex.regexec rs.prog s rs.grpcnt
      (Regex.REG_NEWLINE ||| (if flg &&& RE_NOTBOL != 0 then Regex.REG_NOTBOL else 0) |||
        (if flg &&& RE_NOTEOL != 0 then Regex.REG_NOTEOL else 0)) nd ngrps) := by
  rw [Props.C18c.find_eq, if_neg h]
  rfl

/-- `rset_find` over the fuelled evaluator of the VM (`Lemmas/C10Eval`), which the kernel can run -/
def findF (fuel : Nat) (rs : RSet) (s : Bytes) (n flg nd ngrps : Nat) : Option (Int × List Int × Nat) :=
  if rs.grpcnt ≤ 2 then none else
  match Lemmas.C10.regexecF fuel rs.prog s rs.grpcnt
      (Regex.REG_NEWLINE ||| (if flg &&& RE_NOTBOL != 0 then Regex.REG_NOTBOL else 0) |||
        (if flg &&& RE_NOTEOL != 0 then Regex.REG_NOTEOL else 0)) nd ngrps with
  | none => none
  | some r => Props.C18c.findPost rs n r

theorem findF_sound {fuel : Nat} {rs : RSet} {s : Bytes} {n flg nd ngrps : Nat} {x : Int × List Int × Nat}
    (h : findF fuel rs s n flg nd ngrps = some x) : Rset.find rs s n flg nd ngrps = some x := by
  unfold findF at h
  split at h
  · cases h
  · rename_i hg
    rw [find_eq_post _ _ _ _ _ _ hg]
    split at h
    · cases h
    · rename_i r hr
      rw [Lemmas.C10.regexecF_sound hr]
      exact h

/-- compile and match over the fuelled evaluator -/
def findWithF (fuel : Nat) (kw : Bytes) (flg : Nat) (s : Bytes) (f : Nat) : Option (Int × List Int × Nat) :=
  match rstrMake kw flg with
  | some (some re) =>
    (match re.rs with
     | some r => findF fuel r s 1 f search.Ex_ND search.Ex_NG
     | none => none)
  | _ => none

theorem findWithF_sound {fuel : Nat} {kw : Bytes} {flg : Nat} {s : Bytes} {f : Nat} {x : Int × List Int × Nat}
    (h : findWithF fuel kw flg s f = some x) : findWith kw flg s f = some x := by
  unfold findWithF at h
  unfold findWith
  split at h
  · rename_i re hm
    split at h
    · rename_i r hr
      unfold rstrFind
      rw [hr]
      exact findF_sound h
    · cases h
  · cases h

/-- the pattern `x*$` on the line `a`, `E2`, newline: the match starts at byte 3, the length of the line -/
theorem truncated_char_match : findWith [120, 42, 36] 0 [97, 226, 10] 0 = some (0, [3, 3], 0) :=
  findWithF_sound (fuel := 40) (by decide)

/-- the same pattern on `bc` (no final newline): the match starts at byte 2, the length of the subject -/
theorem unterminated_match : findWith [120, 42, 36] 0 [98, 99] 0 = some (0, [2, 2], 0) :=
  findWithF_sound (fuel := 40) (by decide)

theorem engineOkOn_false_of {K S : Bytes → Prop} {kw s : Bytes} {f : Nat} {n : Nat} {c : Nat} (hk : K kw) (hs : S s)
    (h : findWith kw 0 s f = some (0, [(n : Int), (n : Int)], c)) (hn : s.length ≤ n) : ¬ EngineOkOn K S := by
  intro hE
  obtain ⟨re, hm, hf⟩ := findWith_spec h
  obtain ⟨r, h1, h2⟩ := hE kw 0 hk
  rw [hm] at h1
  cases h1
  obtain ⟨res, offs, c', h3, h4⟩ := h2 re rfl s f hs
  rw [hf] at h3
  cases h3
  have := (h4 (by decide)).2
  simp only [List.getD_cons_zero, Int.toNat_natCast] at this
  omega

/-- the rest `E2`, newline of that line, as `lbuf_search` hands it to the matcher after the cursor on `a` -/
theorem truncated_char_match_rest : findWith [120, 42, 36] 0 [226, 10] RE_NOTBOL = some (0, [2, 2], 0) :=
  findWithF_sound (fuel := 40) (by decide)

end Neatvi.Lemmas.C05h
