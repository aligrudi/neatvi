import NeatviVerif.Lemmas.C05hB
/-!
# C05h, part C: the witness states — `sLong`, on which `:w %%` traps (`ExNoTrap` as stated is false); `sKwd`, which has
C05f's `SOk` and not C05e's `Safe`; `badMark`, the decidable reason why `MarksIn` fails after an undo
-/
namespace Neatvi.Lemmas.C05h
open Neatvi Neatvi.Uc Neatvi.Lbuf Neatvi.Ex Neatvi.Mot Neatvi.Vi Neatvi.Rset
open Neatvi.Lemmas.C05e Neatvi.Lemmas.C05f Neatvi.Lemmas.C02b
open Neatvi.Props.C05c (iterate)

/-! ### `ExNoTrap` is false: the path limit of the model -/

/-- the empty buffer with a path of 500 bytes (`C05e.edLong`), as a vi state -/
def sLong : VS := { ed := edLong }

theorem sLong_sok : SOk sLong True :=
  ⟨⟨{ path := List.replicate 500 97, lb := Lbuf.make }, rfl, histOk_of_no_hist _ rfl rfl (by intro l hl; cases hl)⟩, regsOk_default⟩

theorem sLong_rowOk : RowOk sLong := ⟨Int.le_refl 0, fun h => absurd rfl h⟩

theorem sLong_edSafe : EdSafe sLong := ⟨edLong_safe, rfl⟩

/-- `edLong` as `exCommandV` hands it to `ex_command` -/
def edL : Ed := { edLong with out := [], msg := [], input := [], xvis := true }

theorem edL_path : pathExpand edL [37, 37] true = none := by decide +kernel

/-- `:w %%` on it: the expansion is 1000 bytes long, where the model stops following `ex_pathexpand` -/
theorem edL_write_traps : exCommand 64 edL [119, 32, 37, 37] = none := by
  rw [exCommand, exExec]
  rw [if_neg (by decide)]
  rw [exExec.cmds]
  rw [if_neg (by decide)]
  have h1 : exLoc [119, 32, 37, 37] = ([], [119, 32, 37, 37]) := by decide +kernel
  have h2 : exCmd [119, 32, 37, 37] = ([119], [32, 37, 37]) := by decide +kernel
  have h3 : exIdx [119] = some ([119], "ec_write") := by decide +kernel
  have h4 : exArg [32, 37, 37] [119] = ([37, 37], []) := by decide +kernel
  have h5 : exTxt edL [] [119] = ((none, []), edL) := by rfl
  simp only [h1, h2, h3, h4, h5]
  rw [write_of_path_none 61 edL [] _ 37 [37] none edL_path]

theorem sLong_traps : exCommandV [119, 32, 37, 37] sLong = Res.trap := by
  have hw : exWantsInput [119, 32, 37, 37] = false := by decide +kernel
  have hs : setOf [119, 32, 37, 37] = none := by decide +kernel
  unfold exCommandV
  simp only [hw, hs, Bool.false_eq_true, if_false]
  split
  · rfl
  · rename_i rc ed heq
    have h : exCommand 64 edL [119, 32, 37, 37] = some (rc, ed) := heq
    rw [edL_write_traps] at h
    cases h

/-- **`ExNoTrap` is false**: `:w %%` (a NUL-free line) on a state with C05f's invariant *and* C05e's, whose file name is
    500 bytes long, traps in the model (not in the C code, which truncates at 1023 bytes) -/
theorem exNoTrap_is_false : ¬ ExNoTrap := by
  intro h
  exact h [119, 32, 37, 37] sLong sLong_sok sLong_rowOk (by decide) sLong_traps

/-- C05f's invariant says nothing about the remembered pattern: a state with `SOk`, a valid row, whose `xkwd` is not a
    C string, is not `Safe` -/
def sKwd : VS := { ed := { edLong with xkwd := [92, 0] } }

/-! ### `MarksIn` is not an invariant -/

/-- mark `m` points beyond the buffer with a positive column -/
def badMark (m : Nat) (s : VS) : Bool :=
  match s.ed.lb with
  | some lb =>
    (match jump lb m with
     | some (p, q) => (lineAt (lines s) p).isNone && decide (0 < q)
     | none => false)
  | none => false

theorem not_marksIn_of_bad {m : Nat} {s : VS} (h : badMark m s = true) : ¬ MarksIn s := by
  intro hm
  unfold badMark at h
  split at h
  · rename_i lb hlb
    split at h
    · rename_i p q hj
      simp only [Bool.and_eq_true, Option.isNone_iff_eq_none, decide_eq_true_eq] at h
      have := hm lb m p q hlb hj h.1
      omega
    · cases h
  · cases h

theorem bad_after_undo :
    (iterate 3 (oneLine [36, 111, 120, 121, 122, 27, 117, 100, 96, 42])).any (badMark 42) = true := by decide +kernel

end Neatvi.Lemmas.C05h
