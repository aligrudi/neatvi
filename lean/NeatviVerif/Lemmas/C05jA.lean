import NeatviVerif.Props.C05i
/-!
# C05j, part A: the line/register invariant of C05f at the level of the ex state, and the handlers that keep it

`EOk ed c` is `SOk` of C05f stated on the `Ed` record: the current buffer exists, its lines are well formed and
NUL-free, its undo history is consistent and NUL-free (`HistOk`, closed when `c`), no register holds a NUL.
The handlers are walked in `Lemmas/ExHandlers.lean`; `local_eok` reads the invariant off the steps they take.
-/
set_option linter.unusedSimpArgs false
set_option linter.unusedVariables false
namespace Neatvi.Lemmas.C05j
open Neatvi Neatvi.Uc Neatvi.Lbuf Neatvi.LbufIo Neatvi.Ex Neatvi.Mot Neatvi.Vi Neatvi.Rset
open Neatvi.Lemmas.C05f Neatvi.Lemmas.ExFrame
open Neatvi.Lemmas.C06 (AddrOnly region_all)

/-- C05f's `SOk` on the ex state -/
def EOk (ed : Ed) (c : Prop) : Prop := BufsOk ed.bufs c ∧ RegsOk ed.regs

theorem sok_iff (s : VS) (c : Prop) : SOk s c ↔ EOk s.ed c := Iff.rfl

theorem EOk.weaken {ed : Ed} {c : Prop} (h : EOk ed c) : EOk ed False := ⟨h.1.weaken, h.2⟩

theorem EOk.of_eq {ed ed' : Ed} {c : Prop} (h : EOk ed c) (hb : ed'.bufs = ed.bufs) (hr : ed'.regs = ed.regs) :
    EOk ed' c := by unfold EOk; rw [hb, hr]; exact h

theorem EOk.addr {ed ed' : Ed} {c : Prop} (h : EOk ed c) (ha : AddrOnly ed ed') : EOk ed' c := by
  obtain ⟨_, _, _, rfl⟩ := ha; exact h

theorem EOk.lb {ed : Ed} {c : Prop} (h : EOk ed c) : ∃ lb, ed.lb = some lb ∧ HistOk lb c := h.1.lb ed rfl

theorem EOk.setLb {ed : Ed} {c c' : Prop} (h : EOk ed c) {lb : Lb} (hl : HistOk lb c') : EOk (ed.setLb lb) c' :=
  ⟨bufsOk_setLb h.1 hl, by rw [show (ed.setLb lb).regs = ed.regs by unfold Ed.setLb; split <;> rfl]; exact h.2⟩

theorem EOk.regs {ed : Ed} {c : Prop} (h : EOk ed c) {r : Regs} (hr : RegsOk r) : EOk { ed with regs := r } c := ⟨h.1, hr⟩

theorem EOk.edit {ed ed' : Ed} {c : Prop} (h : EOk ed c) {txt : Option Bytes} {b e : Int} (hbe : b ≤ e)
    (ht : NoNulO txt) (he : ed.edit txt b e = some ed') : EOk ed' False := by
  obtain ⟨h0, _, lb, lb', hlb, hed, rfl, _⟩ := Ed_edit_some he
  obtain ⟨lb0, hl0, hh⟩ := h.lb
  rw [hlb] at hl0; cases hl0
  obtain ⟨lb2, e1, e2, _⟩ := hh.edit txt b.toNat e.toNat (by omega) ht
  rw [hed] at e1; cases e1
  exact h.setLb e2

theorem EOk.lines {ed : Ed} {c : Prop} (h : EOk ed c) (r : Int) (l : Bytes) (hl : ed.line r = some l) : LineOk l := by
  obtain ⟨lb, h1, h2⟩ := h.lb
  unfold Ed.line at hl
  split at hl
  · cases hl
  · rw [h1] at hl
    simp only [Option.bind_some] at hl
    exact h2.lines l (List.mem_of_getElem? hl)

theorem EOk.cp {ed : Ed} {c : Prop} (h : EOk ed c) (b e : Int) : NoNul (ed.cp b e) := cp_noNul h.1 b e

theorem EOk.regGet {ed : Ed} {c : Prop} (h : EOk ed c) (k : Nat) : NoNulO (regGet ed k) :=
  regsOk_regGet h.2 (fun l hl => (h.lines _ l hl).noNul) k

/-!
What the invariant needs of the handlers on the current buffer it needs of their steps (`Did`, Lemmas/ExDid.lean): the
texts that come in from outside are NUL-free, an edit opens the undo history (from any `c` to `False`), and no step
writes the remembered replacement `xrep`.
-/

section did
open Neatvi.Lemmas.ExDid
variable {T : Ed → Bytes → Prop} {L : Prop} {n : Int} {e : Bool} {a b : Ed}

theorem _root_.Neatvi.Lemmas.ExDid.Did.eok (h : Did T L n a e b)
    (hT : ∀ b c t, EOk b c → b.xrep = a.xrep → T b t → NoNul t) (c : Prop) (h0 : EOk a c) :
    EOk b (if e then False else c) := by
  induction h with
  | refl => split; exact h0.weaken; exact h0
  | addr _ ha _ _ ih => exact ih.addr ha
  | look _ hs ih => obtain ⟨_, _, _, _, _, _, _, rfl⟩ := hs; exact ih.of_eq rfl rfl
  | edit s x y hd _ hxy hs he ih => exact ih.edit hxy (fun t ht => hT _ _ t ih hd.xrep (hs t ht)) he
  | yank k x y i _ ih => exact ih.regs (regsOk_put ih.2 _ (ih.cp x y) _)
  | reg k t i hd ht ih => exact ih.regs (regsOk_put ih.2 _ (ht.elim (fun h => h ▸ noNul_nil) (hT _ _ t ih hd.xrep)) _)
  | mark c p o _ hl _ _ ih =>
    obtain ⟨lb1, hl1, hh⟩ := ih.lb
    rw [hl] at hl1; cases hl1
    exact ih.setLb (hh.setMark _ _ _)
  | row r _ _ _ ih => exact ih.of_eq rfl rfl
  | down _ _ ih => exact ih.of_eq rfl rfl
  | col o _ _ ih => exact ih.of_eq rfl rfl

end did

/-- **the handlers of `local_run`**: when the text lines of `:a :i :c :rs` are NUL-free the invariant is kept (by the
    handlers that edit a line: from any `c` to `False`), and `xrep` is not written -/
theorem local_eok (f : Nat) {ed ed' : Ed} {hd : String}
    (hn : hd ∉ ["ec_undo", "ec_redo", "ec_at", "ec_glob", "ec_edit", "ec_substitute", "ec_exec", "ec_read", "ec_write",
      "ec_quit", "ec_buffer"]) {loc cmd arg : Bytes} {txt : Option Bytes} {r : Int}
    (hr : runCmd (f + 1) ed hd loc cmd arg txt = some (r, ed')) :
    ((hd = "ec_insert" ∨ hd = "ec_rs" → NoNulO txt) → ∀ c, EOk ed c → EOk ed' (if Lemmas.C05e.editing hd then False else c)) ∧
      ed'.xrep = ed.xrep := by
  have hd := ((Lemmas.C05e.local_run f ed hd loc cmd arg txt hn).post _ hr).1
  refine ⟨fun ht c h => hd.eok (fun _ _ t _ _ hs => ?_) c h, hd.xrep⟩
  rcases hs with ⟨hh, e⟩ | ⟨_, e⟩
  · exact ht hh t e
  · exact h.regGet _ t e

theorem keeps_insert (f : Nat) {ed ed' : Ed} (loc cmd arg : Bytes) (txt : Option Bytes) (r : Int)
    (hr : runCmd (f + 1) ed "ec_insert" loc cmd arg txt = some (r, ed')) :
    (NoNulO txt → ∀ c, EOk ed c → EOk ed' False) ∧ ed'.xrep = ed.xrep :=
  ⟨fun ht => (local_eok f (by decide) hr).1 (fun _ => ht), (local_eok f (by decide) hr).2⟩

theorem keeps_rs (f : Nat) {ed ed' : Ed} (loc cmd arg : Bytes) (txt : Option Bytes) (r : Int)
    (hr : runCmd (f + 1) ed "ec_rs" loc cmd arg txt = some (r, ed')) :
    (NoNulO txt → ∀ c, EOk ed c → EOk ed' c) ∧ ed'.xrep = ed.xrep :=
  ⟨fun ht => (local_eok f (by decide) hr).1 (fun _ => ht), (local_eok f (by decide) hr).2⟩

/-! ### `:u :redo` — at a command boundary (`c = True`: `lbuf_modified` has run since the last edit) -/
theorem keeps_hist {op : Lb → Option (Nat × Lb)}
    (hop : ∀ {lb}, HistOk lb True → ∃ rc lb', op lb = some (rc, lb') ∧ HistOk lb' True) {ed ed' : Ed} {r : Int}
    (hr : Lemmas.C20.ecHist op ed = some (r, ed')) : (EOk ed True → EOk ed' True) ∧ ed'.xrep = ed.xrep := by
  unfold Lemmas.C20.ecHist at hr
  split at hr
  · cases hr
  · rename_i rc lb' hu
    cases hr
    refine ⟨fun h => ?_, Lemmas.ExDid.setLb_xrep _ _⟩
    obtain ⟨lb, hl, hh⟩ := h.lb
    obtain ⟨rc2, lb2, hu2, h2⟩ := hop hh
    rw [hl, Option.bind_some, hu2] at hu
    cases hu
    exact h.setLb h2

theorem keeps_undo (f : Nat) {ed ed' : Ed} (loc cmd arg : Bytes) (txt : Option Bytes) (r : Int)
    (hr : runCmd (f + 1) ed "ec_undo" loc cmd arg txt = some (r, ed')) :
    (EOk ed True → EOk ed' True) ∧ ed'.xrep = ed.xrep :=
  keeps_hist HistOk.undo ((Lemmas.C20c.runCmd_undo f ed loc cmd arg txt).symm.trans hr)

theorem keeps_redo (f : Nat) {ed ed' : Ed} (loc cmd arg : Bytes) (txt : Option Bytes) (r : Int)
    (hr : runCmd (f + 1) ed "ec_redo" loc cmd arg txt = some (r, ed')) :
    (EOk ed True → EOk ed' True) ∧ ed'.xrep = ed.xrep :=
  keeps_hist HistOk.redo ((Lemmas.C20c.runCmd_redo f ed loc cmd arg txt).symm.trans hr)

end Neatvi.Lemmas.C05j
