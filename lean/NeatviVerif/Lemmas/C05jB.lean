import NeatviVerif.Lemmas.C05jA
/-!
# C05j, part B: `:s` keeps the line invariant — what `substLine` writes is made of bytes of the line and of the
replacement, and `lbuf_edit` splits it at its newlines
-/
set_option linter.unusedSimpArgs false
set_option linter.unusedVariables false
namespace Neatvi.Lemmas.C05j
open Neatvi Neatvi.Uc Neatvi.Lbuf Neatvi.LbufIo Neatvi.Ex Neatvi.Mot Neatvi.Vi Neatvi.Rset
open Neatvi.Lemmas.C05f Neatvi.Lemmas.ExFrame

theorem substLine_noNul {re : RStr} {rep : Bytes} {g : Bool} {line nl : Bytes} (hrep : NoNul rep) (hl : NoNul line)
    (h : substLine re rep g line = some (some nl)) : NoNul nl := by
  obtain ⟨ps, rest, _, hs, rfl⟩ := Props.C14.substLine_scan (fun b hb h0 => hl (h0 ▸ hb)) h
  exact fun h0 => (Props.C14.scan_out_mem hs 0 h0).elim hl hrep

theorem EOk.kwdSet {ed : Ed} {c : Prop} (h : EOk ed c) (k : Option Bytes) (d : Int) : EOk (ed.kwdSet k d) c :=
  h.of_eq rfl rfl

theorem reRead_rest_noNul {src : Bytes} (h : NoNul src) : NoNul (reRead src).2 :=
  fun h0 => h ((Lemmas.C06.reRead_suffix src).subset h0)

theorem headD_singleton_noNul {arg : Bytes} (h : NoNul arg) (hne : arg ≠ []) : NoNul [arg.headD 0] := by
  cases arg with
  | nil => exact absurd rfl hne
  | cons a t => exact noNul_singleton.mpr (noNul_cons.mp h).1

theorem sPrep_eok {ed : Ed} {c : Prop} (h : EOk ed c) (hrep : NoNul ed.xrep) (arg : Bytes) (harg : NoNul arg) :
    EOk (Props.C14.substPrep ed arg).1 c ∧ NoNul (Props.C14.substPrep ed arg).1.xrep := by
  have hb := Props.C14.substPrep_bufs ed arg
  have hr : (Props.C14.substPrep ed arg).1.regs = ed.regs := by
    unfold Props.C14.substPrep
    simp only [apply_ite Ed.regs, ite_self]
    cases (reRead arg).1 with
    | none => rfl
    | some p => exact Basics.ite_elim (P := fun x : Ed => x.regs = ed.regs) (fun _ => rfl) (fun _ => rfl)
  refine ⟨h.of_eq hb hr, ?_⟩
  unfold Props.C14.substPrep
  dsimp only
  have hrest := reRead_rest_noNul harg
  have hx0 : NoNul (match (reRead arg).1 with
      | some p => if (!p.isEmpty) = true then ed.kwdSet (some p) 1 else ed
      | none => ed).xrep := by
    split
    · split
      · exact hrep
      · exact hrep
    · exact hrep
  have aux : ∀ (c : Prop) [Decidable c] (x : Bytes) (e0 : Ed), NoNul x → NoNul e0.xrep →
      NoNul (if c then { e0 with xrep := x } else e0).xrep := by
    intro c _ x e0 h1 h2; split
    · exact h1
    · exact h2
  refine aux _ _ _ ?_ hx0
  refine NoNul.take ?_ _
  split
  · rename_i hc
    have hne : arg ≠ [] := by
      intro hn; subst hn; simp [reRead] at hc
    have := reRead_noNul (noNul_append.mpr ⟨headD_singleton_noNul harg hne, hrest⟩)
    cases hq : (reRead ([arg.headD 0] ++ (reRead arg).2)).1 with
    | none => exact noNul_nil
    | some y => exact this y hq
  · exact noNul_nil

theorem keeps_subst (f : Nat) {ed ed' : Ed} {c : Prop} (h : EOk ed c) (hrep : NoNul ed.xrep) (loc cmd arg : Bytes)
    (txt : Option Bytes) (harg : NoNul arg)
    (r : Int) (hr : runCmd (f + 1) ed "ec_substitute" loc cmd arg txt = some (r, ed')) : EOk ed' False ∧ NoNul ed'.xrep := by
  obtain ⟨ed1, hd, hq⟩ :=
    (Lemmas.C05e.ecSubst_run (fun b t => ∃ re, Lemmas.C05e.SubstOf re b t) f ed loc cmd arg txt (fun _ _ re _ _ _ h => ⟨re, h⟩)).post _ hr
  have d1 := hd (fun _ _ => False) 0 false
  have h1 : EOk ed1 c := d1.eok (fun _ _ _ _ _ h => h.elim) c h
  have hrep1 : NoNul ed1.xrep := by rw [d1.xrep]; exact hrep
  rcases hq with hq | hq
  · cases hq; exact ⟨h1.weaken, hrep1⟩
  · obtain ⟨h2, hrep2⟩ := sPrep_eok h1 hrep1 arg harg
    refine ⟨(hq 0).eok (fun b c' t hb hx hs => ?_) _ h2, by rw [(hq 0).xrep]; exact hrep2⟩
    obtain ⟨re, g, row, ln, hln, hs⟩ := hs
    exact substLine_noNul (hx ▸ hrep2) (hb.lines _ ln hln).noNul hs

end Neatvi.Lemmas.C05j
