import NeatviVerif.Lemmas.C05jB
/-!
# C05j, part C: from the handlers to `|`-lists (`ex_exec`), `ex_command`, and the call from vi (`exCommandV`)

The two groups of covered handlers, the class `sokLine` of covered `|`-lists, and what surrounds a command in
`ex_exec` / `ex_command` (the text block, the closing `lbuf_modified`).  The loop over the list (`ExDid.cmds_run`)
carries `XOk` (the line invariant and `NoNul xrep`), so `:s` may stand at any place (`sokLine'`); `sokLine` is contained
in it (`sokLine_sub`).
-/
set_option linter.unusedSimpArgs false
set_option linter.unusedVariables false
namespace Neatvi.Lemmas.C05j
open Neatvi Neatvi.Uc Neatvi.Lbuf Neatvi.LbufIo Neatvi.Ex Neatvi.Mot Neatvi.Vi Neatvi.Rset
open Neatvi.Lemmas.C05f Neatvi.Lemmas.ExFrame Neatvi.Lemmas.C06b Neatvi.Lemmas.C05h
open Neatvi.Lemmas.C05e (modelled)

/-- the handlers that keep the invariant from any state that has it, whatever their text argument: `:p`, the empty
    command, `:d :y :pu := :k :se :ec`, and the names the model does not run -/
def tailHandler (hd : String) : Bool :=
  hd == "ec_print" || hd == "ec_null" || hd == "ec_delete" || hd == "ec_yank" || hd == "ec_put" || hd == "ec_lnum" ||
  hd == "ec_mark" || hd == "ec_set" || hd == "ec_echo" || !(modelled.contains hd)

/-- … and those that need more of the state: `:s` (the remembered replacement is NUL-free), `:u :redo` (no command in
    progress) -/
def headHandler (hd : String) : Bool :=
  tailHandler hd || hd == "ec_substitute" || hd == "ec_undo" || hd == "ec_redo"

theorem keeps_tailHandler (k : Nat) {ed ed' : Ed} (hd : String) (ht : tailHandler hd = true)
    (loc cmd arg : Bytes) (txt : Option Bytes) (r : Int)
    (hr : runCmd (k + 2) ed hd loc cmd arg txt = some (r, ed')) :
    (∀ c, EOk ed c → EOk ed' False) ∧ ed'.xrep = ed.xrep := by
  have hn : hd ∉ ["ec_undo", "ec_redo", "ec_at", "ec_glob", "ec_edit", "ec_substitute", "ec_exec", "ec_read", "ec_write",
      "ec_quit", "ec_buffer"] := fun hm => by
    simp only [List.mem_cons, List.not_mem_nil, or_false] at hm
    rcases hm with rfl | rfl | rfl | rfl | rfl | rfl | rfl | rfl | rfl | rfl | rfl <;> simp [tailHandler, modelled] at ht
  obtain ⟨h1, h2⟩ := local_eok (k + 1) hn hr
  refine ⟨fun c h => (h1 (fun hh => ?_) c h).weaken, h2⟩
  rcases hh with rfl | rfl <;> simp [tailHandler, modelled] at ht

/-- **`keepsSOk_of_handler`**: the line commands keep the line/register invariant — `:p`, the empty command, `:d :y :pu
    := :k :se :ec` unconditionally; `:s` with a NUL-free argument when the remembered replacement is NUL-free; `:u
    :redo` at a command boundary — and a NUL-free remembered replacement -/
theorem keeps_headHandler (k : Nat) {ed ed' : Ed} (h : EOk ed True) (hx : NoNul ed.xrep) (hd : String)
    (ht : headHandler hd = true) (loc cmd arg : Bytes) (harg : NoNul arg) (txt : Option Bytes) (r : Int)
    (hr : runCmd (k + 2) ed hd loc cmd arg txt = some (r, ed')) : EOk ed' False ∧ NoNul ed'.xrep := by
  simp only [headHandler, Bool.or_eq_true, beq_iff_eq] at ht
  rcases ht with ((ht | ht) | ht) | ht
  · obtain ⟨h1, h2⟩ := keeps_tailHandler k hd ht loc cmd arg txt r hr
    exact ⟨h1 _ h, by rw [h2]; exact hx⟩
  · subst ht; exact keeps_subst (k + 1) h hx loc cmd arg txt harg r hr
  · subst ht
    obtain ⟨h1, h2⟩ := keeps_undo (k + 1) loc cmd arg txt r hr
    exact ⟨(h1 h).weaken, by rw [h2]; exact hx⟩
  · subst ht
    obtain ⟨h1, h2⟩ := keeps_redo (k + 1) loc cmd arg txt r hr
    exact ⟨(h1 h).weaken, by rw [h2]; exact hx⟩

theorem exTxt_eok {ed : Ed} {c : Prop} (h : EOk ed c) (src a : Bytes) :
    EOk (exTxt ed src a).2 c ∧ (exTxt ed src a).2.xrep = ed.xrep := by
  obtain ⟨inp, e⟩ := Lemmas.C06b.exTxt_input ed src a
  rw [e]
  exact ⟨h.of_eq rfl rfl, rfl⟩

def tailCmd (p : Parsed) : Bool := match p.idx with | none => true | some (_, hd) => tailHandler hd
def headCmd (p : Parsed) : Bool :=
  !p.arg.contains 0 && match p.idx with | none => true | some (_, hd) => headHandler hd

/-- every command of the line, as `ex_exec` cuts it, has a `tailHandler` -/
def sokTail : Nat → Bytes → Bool
  | 0, _ => true
  | n + 1, ln => ln.isEmpty || (tailCmd (parse1 ln) && sokTail n (restOf ln))

/-- the class of `:` lines covered: the first command has a `headHandler` and a NUL-free argument, the commands after
    `|` have a `tailHandler` -/
def sokLine (ln : Bytes) : Bool := ln.isEmpty || (headCmd (parse1 ln) && sokTail ln.length (restOf ln))

theorem noNul_of_contains {x : Bytes} (h : (!x.contains 0) = true) : NoNul x := by
  simpa [NoNul] using h

theorem modifiedAt_eok {ed : Ed} {c : Prop} (h : EOk ed c) : EOk (ed.modifiedAt 0).2 True := by
  obtain ⟨b, hb, hh⟩ := h.1
  unfold Ed.modifiedAt
  rw [hb]
  refine ⟨⟨{ b with lb := (Lbuf.modified b.lb).2 }, ?_, hh.modified⟩, h.2⟩
  have hne : 0 < ed.bufs.length := by
    cases hq : ed.bufs with
    | nil => rw [hq] at hb; simp at hb
    | cons x r => simp
  show (ed.bufs.set 0 _).getD 0 none = _
  rw [List.getD_eq_getElem?_getD, List.getElem?_set_self hne]
  rfl

/-- the invariant the list induction carries: the line/register invariant and a NUL-free remembered replacement -/
def XOk (ed : Ed) (c : Prop) : Prop := EOk ed c ∧ NoNul ed.xrep

/-- a command after `|`: a handler of the first group, or `:s` with a NUL-free argument -/
def midCmd (p : Parsed) : Bool :=
  match p.idx with
  | none => true
  | some (_, hd) => tailHandler hd || (hd == "ec_substitute" && !p.arg.contains 0)

def sokTail' : Nat → Bytes → Bool
  | 0, _ => true
  | n + 1, ln => ln.isEmpty || (midCmd (parse1 ln) && sokTail' n (restOf ln))

/-- the larger class: as `sokLine`, and `:s` with a NUL-free argument may also follow a `|` -/
def sokLine' (ln : Bytes) : Bool := ln.isEmpty || (headCmd (parse1 ln) && sokTail' ln.length (restOf ln))

theorem sokTail_sub : ∀ (n : Nat) (ln : Bytes), sokTail n ln = true → sokTail' n ln = true := by
  intro n
  induction n with
  | zero => intro ln _; rfl
  | succ n ih =>
    intro ln h
    rw [sokTail] at h
    rw [sokTail']
    cases hq : ln.isEmpty with
    | true => rfl
    | false =>
      rw [hq, Bool.false_or, Bool.and_eq_true] at h
      rw [Bool.false_or, Bool.and_eq_true]
      refine ⟨?_, ih _ h.2⟩
      have h1 := h.1
      unfold tailCmd at h1
      unfold midCmd
      split
      · rfl
      · rename_i a hd hi
        rw [hi] at h1
        simp only [] at h1
        rw [h1]; rfl

theorem sokLine_sub {ln : Bytes} (h : sokLine ln = true) : sokLine' ln = true := by
  unfold sokLine at h
  unfold sokLine'
  cases hq : ln.isEmpty with
  | true => rfl
  | false =>
    rw [hq, Bool.false_or, Bool.and_eq_true] at h
    rw [Bool.false_or, Bool.and_eq_true]
    exact ⟨h.1, sokTail_sub _ _ h.2⟩

theorem runOne_xok (k : Nat) {ed : Ed} {c : Prop} (h : XOk ed c) (p : Parsed) (ret : Int)
    (hc : ∀ a hd, p.idx = some (a, hd) → ∀ r ed', runCmd (k + 2) (exTxt ed p.rest (abbrOf p.idx)).2 hd p.loc p.cmd p.arg
      (exTxt ed p.rest (abbrOf p.idx)).1.1 = some (r, ed') → XOk ed' False)
    (r : Int) (ed1 : Ed) (rest : Bytes) (hro : runOne (k + 2) ed p ret = some ((r, ed1), rest)) :
    XOk ed1 False ∧ rest = (exTxt ed p.rest (abbrOf p.idx)).1.2 := by
  unfold runOne at hro
  split at hro
  · cases hro
    have hT := exTxt_eok h.1 p.rest (abbrOf p.idx)
    exact ⟨⟨(hT.1.of_eq rfl rfl).weaken, by show NoNul (exTxt ed p.rest (abbrOf p.idx)).2.xrep; rw [hT.2]; exact h.2⟩, rfl⟩
  · rename_i a hd hi
    split at hro
    · cases hro
    · rename_i r1 e1 hrc
      cases hro
      exact ⟨hc a hd hi _ _ hrc, rfl⟩

theorem keeps_mid (k : Nat) {ed ed' : Ed} {c : Prop} (h : XOk ed c) (a : Bytes) (hd : String) (loc cmd arg : Bytes)
    (hm : (tailHandler hd || (hd == "ec_substitute" && !arg.contains 0)) = true) (txt : Option Bytes) (r : Int)
    (hr : runCmd (k + 2) ed hd loc cmd arg txt = some (r, ed')) : XOk ed' False := by
  rw [Bool.or_eq_true] at hm
  rcases hm with ht | hs
  · obtain ⟨h1, h2⟩ := keeps_tailHandler k hd ht loc cmd arg txt r hr
    exact ⟨h1 c h.1, by rw [h2]; exact h.2⟩
  · rw [Bool.and_eq_true, beq_iff_eq] at hs
    obtain ⟨rfl, ha⟩ := hs
    exact keeps_subst (k + 1) h.1 h.2 loc cmd arg txt (noNul_of_contains ha) r hr

theorem cmds_tail' (k g : Nat) (ed : Ed) (ln : Bytes) (ret : Int) (c : Prop) (h : XOk ed c) (hfl : sokTail' g ln = true)
    (r : Int) (ed' : Ed) (hr : exExec.cmds (k + 2) g ed ln ret = some (r, ed')) : XOk ed' False := by
  have hcut : ∀ g ln, ¬ ln.isEmpty = true → sokTail' (g + 1) ln = true →
      midCmd (parse1 ln) = true ∧ sokTail' g (restOf ln) = true := fun g ln hne hq => by
    rw [sokTail', Bool.or_eq_true, Bool.and_eq_true] at hq
    exact hq.resolve_left hne
  refine (Lemmas.ExDid.cmds_run (C := False) (k + 2) (fun e => XOk e False) (fun g ln => sokTail' g ln = true)
    (fun g ln hne hq => (hcut g ln hne hq).2)
    (fun e src a h => ⟨(exTxt_eok h.1 src a).1, by rw [(exTxt_eok h.1 src a).2]; exact h.2⟩)
    (fun e m h => ⟨h.1.of_eq rfl rfl, h.2⟩) ?_ g ed ln ret ⟨h.1.weaken, h.2⟩ hfl).post _ hr
  intro g e ln a hd _ h hq hne hi
  have hm := (hcut g ln hne hq).1
  unfold midCmd at hm
  rw [hi] at hm
  exact ⟨fun p hp => keeps_mid k h a hd _ _ _ hm _ p.1 hp, False.elim⟩

theorem exec_sok' (k : Nat) {ed ed' : Ed} (h : EOk ed True) (hx : NoNul ed.xrep) (ln : Bytes) (hl : sokLine' ln = true)
    (r : Int) (hr : exExec (k + 3) ed ln = some (r, ed')) : XOk ed' False := by
  rw [exExec] at hr
  split at hr
  · cases hr; exact ⟨(h.of_eq rfl rfl).weaken, hx⟩
  · rw [cmds_succ] at hr
    split at hr
    · cases hr; exact ⟨h.weaken, hx⟩
    · rename_i hne
      unfold sokLine' at hl
      have hemp : ln.isEmpty = false := by cases hq : ln.isEmpty <;> simp_all
      rw [hemp, Bool.false_or, Bool.and_eq_true] at hl
      split at hr
      · cases hr
      · rename_i r1 ed1 rest hro
        have hh := hl.1
        unfold headCmd at hh
        rw [Bool.and_eq_true] at hh
        have hT := exTxt_eok h (parse1 ln).rest (abbrOf (parse1 ln).idx)
        obtain ⟨h1, hrest⟩ := runOne_xok k (c := True) ⟨h, hx⟩ (parse1 ln) 0 (fun a hd hi r2 e2 hrc => by
          have ht : headHandler hd = true := by
            have := hh.2; rw [hi] at this; exact this
          exact keeps_headHandler k hT.1 (by rw [hT.2]; exact hx) hd ht _ _ _ (noNul_of_contains hh.1) _ _ hrc)
          r1 ed1 rest hro
        rw [hrest, show (exTxt ed (parse1 ln).rest (abbrOf (parse1 ln).idx)).1.2 = restOf ln from
          exTxt_rest_indep ed {} _ _] at hr
        exact cmds_tail' k _ ed1 (restOf ln) r1 False h1 hl.2 r ed' hr

theorem modifiedAt_xrep (ed : Ed) (i : Nat) : (ed.modifiedAt i).2.xrep = ed.xrep := by
  rw [Lemmas.C02Ex.modifiedAt_fields]

theorem command_sok' (k : Nat) {ed ed' : Ed} (h : EOk ed True) (hx : NoNul ed.xrep) (ln : Bytes) (hl : sokLine' ln = true)
    (r : Int) (hr : exCommand (k + 4) ed ln = some (r, ed')) : XOk ed' True := by
  rw [exCommand] at hr
  split at hr
  · cases hr
  · rename_i r1 ed1 he
    cases hr
    obtain ⟨h1, h2⟩ := exec_sok' k h hx ln hl _ he
    exact ⟨modifiedAt_eok h1, by rw [modifiedAt_xrep]; exact h2⟩

/-- **a covered `:` line entered from vi** keeps the line invariant and the NUL-freeness of the remembered replacement -/
theorem colon_keeps_xok {ln : Bytes} {s s' : VS} {rc : Int} (hs : SOk s True) (hx : NoNul s.ed.xrep)
    (hl : sokLine' ln = true) (hm : exCommandV ln s = Res.ok rc s') : SOk s' True ∧ NoNul s'.ed.xrep := by
  rcases Lemmas.C09.exCommandV_inv hm with rfl | ⟨a, u, ed1, hc, rfl⟩
  · exact ⟨hs, hx⟩
  · exact command_sok' 60 (ed := { s.ed with out := [], msg := [], input := [], xvis := true })
      (EOk.of_eq (ed := s.ed) hs rfl rfl) hx ln hl _ hc

end Neatvi.Lemmas.C05j
