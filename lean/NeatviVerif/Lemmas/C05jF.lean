import NeatviVerif.Lemmas.C05jC
/-!
# C05j, part F: the run of the vi loop with the `:`-hypothesis reduced to the class of the typed lines
-/
set_option linter.unusedSimpArgs false
set_option linter.unusedVariables false
namespace Neatvi.Lemmas.C05j
open Neatvi Neatvi.Uc Neatvi.Lbuf Neatvi.LbufIo Neatvi.Ex Neatvi.Mot Neatvi.Vi Neatvi.Rset
open Neatvi.Lemmas.C05f Neatvi.Lemmas.ExFrame Neatvi.Lemmas.C05h
open Neatvi.Props.C05c (iterate)

theorem sok_at_colon {s s0 s1 : VS} {r : Option Bytes} (hs : SOk s True) (hat : ColonAt 58 s s0)
    (hp : viPrompt true s0 = Res.ok r s1) : SOk s1 True := by
  have h0 : SOk s0 True := by
    unfold SOk
    rw [hat.1]
    exact ⟨bufsOk_markSet hs.1 _ _ _, by rw [markCaret_regs]; exact hs.2⟩
  have hf : EdF s0.ed s1.ed :=
    wp_post (wp_viPrompt true s0 h0.paste (fun _ s' => EdF s0.ed s'.ed) (fun _ _ e _ => e)) hp
  unfold SOk
  rw [hf.bufs, hf.regs]
  exact h0

/-- what is asked of a state an iteration starts from, once `KeepsSOk` is proved: as C05f's `StepHyp`, with the
    `:`-clause reduced to "the line typed is in C05e's class and in `sokLine'`, and is entered in an `EdSafe` state
    whose remembered replacement is NUL-free" -/
structure StepHyp' (s : VS) : Prop where
  noquit : s.ed.xquit = false
  marks : MarksIn s
  caret : MarksIn (markCaret s)
  search : SearchOk s
  typed : ∀ (s0 : VS) (ln : Bytes) (s1 : VS), ColonAt 58 s s0 → viPrompt true s0 = Res.ok (some ln) s1 → ln.isEmpty = false →
    ColonLineOk (if ln.headD 0 != 58 then 58 :: ln else ln) ∧ sokLine' (if ln.headD 0 != 58 then 58 :: ln else ln) = true ∧
      EdSafe s1 ∧ NoNul s1.ed.xrep
  zz : ∀ (s0 : VS), ColonAt 90 s s0 → ExCallOk (strOf "x") s0

theorem keepsSOk_of_sokLine' {ln : Bytes} {s : VS} (hs : SOk s True) (hx : NoNul s.ed.xrep) (hl : sokLine' ln = true) :
    Props.C05i.KeepsSOk ln s := by
  intro rc s' hm
  have := (colon_keeps_xok hs hx hl hm).1
  exact ⟨this.1.weaken, this.2⟩

theorem stepHyp_of {s : VS} (hv : ViOk s) (h : StepHyp' s) : StepHyp s :=
  ⟨h.noquit, h.marks, h.caret, h.search,
    ⟨fun s0 ln s1 hat hm he => by
        obtain ⟨a, b, c, d⟩ := h.typed s0 ln s1 hat hm he
        exact Props.C05i.exCallOk_of_covered c a (keepsSOk_of_sokLine' (sok_at_colon hv.sok hat hm) d b),
     h.zz⟩⟩

/-- **the run**: the invariant and "no trap" at every boundary, from `StepHyp'` at the boundaries -/
theorem run_ok' : ∀ (n : Nat) (s₀ : VS), ViOk s₀ → (∀ k t, k ≤ n → iterate k s₀ = some t → StepHyp' t) →
    ∀ s, iterate n s₀ = some s → ViOk s ∧ viStep s ≠ Res.trap := by
  intro n s₀ hv hh s h
  have hvs : ViOk s := (Props.C05c.iterate_inv (P := fun s => ViOk s ∧ StepHyp' s) (fun s u s' hp hst hs' =>
    ⟨wp_post ((stepHyp_of hp.1 hp.2).step hp.1) (by cases u; exact hst) hs'.noquit, hs'⟩) n s₀ s
    ⟨hv, hh 0 s₀ (by omega) rfl⟩ (fun k t _ => hh k t) h).1
  exact ⟨hvs, wp_no_trap ((stepHyp_of hvs (hh n s (Nat.le_refl _) h)).step hvs)⟩

theorem colonAt_mem {k : Int} {s s0 : VS} (h : ColonAt k s s0) : k ∈ allQ s :=
  h.2.subset (List.mem_cons_self ..)

theorem stepHyp'_of_no_colon {s : VS} (h : StepHyp s) (h1 : (58 : Int) ∉ allQ s) (h2 : (90 : Int) ∉ allQ s) : StepHyp' s :=
  ⟨h.noquit, h.marks, h.caret, h.search, fun s0 ln s1 hat _ _ => absurd (colonAt_mem hat) h1,
    fun s0 hat => absurd (colonAt_mem hat) h2⟩

/-- instance: the example state of C08b, keys without `/ ? n N ^A : Z` -/
theorem exSt_stepHyp' (keys : Bytes) (h : ∀ k ∈ specialKeys, k ∉ keys) : StepHyp' (Props.C08b.exSt keys 0 0) :=
  stepHyp'_of_no_colon (exSt_stepHyp keys h) (exSt_allQ keys 58 (h 58 (by decide))) (exSt_allQ keys 90 (h 90 (by decide)))

end Neatvi.Lemmas.C05j
