import NeatviVerif.Lemmas.Basics
import NeatviVerif.Lemmas.C06Lbuf
import NeatviVerif.Model.ExCmd
/-!
# C06, ex level: address evaluation leaves the text alone and yields a valid range (`region_all`), stated also as
  the case split a handler starts with (`region_strict`, `region_strict_or`, `region_lenient`); invariants of the
  loop of `ex_region` go through `go_ind` (`go_inv` for the state alone); the search keyword alone moves in `ex_search` (`KwOnly`, `exSearch_cases`);
  `ex_lineno` is a base, the offset loop and a clamp (`C05b.exLinenoBase`, `exLineno_eq`, `exLinenoBase_cases`; `C05b.exLinenoChk`
  is the same with the range of `long long` checked at every addition, `offsChk`: Lemmas/C05bEx.lean proves the two equal);
  the frame law of `Ed.edit` (`ed_edit_frame`) and what a splice `take p ++ new ++ drop q` of the text leaves alone
  (`line_frame`); the print loop
-/
namespace Neatvi.Lemmas.C06
open Neatvi Neatvi.Lbuf Neatvi.Ex Neatvi.Lemmas.Hist

/-- peel an `if` off a hypothesis by unifying at its head (`split at h` goes through all of `h`, which is slow when
    `h` holds an unfolded model function) -/
theorem ite_eq_cases {α : Type} {c : Prop} [Decidable c] {a b x : α} (h : (if c then a else b) = x) :
    c ∧ a = x ∨ ¬c ∧ b = x :=
  Basics.ite_eq_cases h

/-- address evaluation may move the current row (`;`) and set the search keyword, nothing else -/
def AddrOnly (ed ed' : Ed) : Prop := ∃ r k d, ed' = { ed with xrow := r, xkwd := k, xkwddir := d }

theorem AddrOnly.refl (ed : Ed) : AddrOnly ed ed := ⟨_, _, _, rfl⟩
theorem AddrOnly.trans {a b c : Ed} (h1 : AddrOnly a b) (h2 : AddrOnly b c) : AddrOnly a c := by
  obtain ⟨r, k, d, rfl⟩ := h1
  obtain ⟨r', k', d', rfl⟩ := h2
  exact ⟨_, _, _, rfl⟩

theorem kwdSet_addrOnly (ed : Ed) (k : Option Bytes) (d : Int) : AddrOnly ed (ed.kwdSet k d) := ⟨_, _, _, rfl⟩

/-- the state after `ex_search` has stored a non-empty pattern as the search keyword -/
def kwEd (ed : Ed) (kw : Option Bytes) (d : Int) : Ed :=
  match kw with | some k => if !k.isEmpty then ed.kwdSet (some k) d else ed | none => ed

/-- only the search keyword and its direction differ -/
def KwOnly (ed ed' : Ed) : Prop := ∃ k d, ed' = { ed with xkwd := k, xkwddir := d }

theorem KwOnly.refl (ed : Ed) : KwOnly ed ed := ⟨_, _, rfl⟩

theorem kw_kwOnly (ed : Ed) (kw : Option Bytes) (d : Int) : KwOnly ed (kwEd ed kw d) := by
  unfold kwEd
  split
  · split
    · exact ⟨_, _, rfl⟩
    · exact KwOnly.refl _
  · exact KwOnly.refl _

theorem KwOnly.addrOnly {ed ed' : Ed} (h : KwOnly ed ed') : AddrOnly ed ed' := by
  obtain ⟨k, d, rfl⟩ := h
  exact ⟨_, _, _, rfl⟩

theorem kw_addrOnly (ed : Ed) (kw : Option Bytes) (d : Int) : AddrOnly ed (kwEd ed kw d) := (kw_kwOnly ed kw d).addrOnly

/-! ### `re_read` and the offsets of `ex_lineno` consume the text: what they return is made of it -/

theorem reRead_go_mem (delim : Nat) : ∀ (f : Nat) (s acc : Bytes) (c : Nat), c ∈ (reRead.go delim f s acc).1 → c ∈ acc ∨ c ∈ s := by
  intro f
  induction f with
  | zero => intro s acc c h; rw [reRead.go] at h; exact Or.inl h
  | succ f ih =>
    intro s acc c h
    cases s with
    | nil => rw [reRead.go] at h; exact Or.inl h
    | cons x r =>
      rw [reRead.go] at h
      split at h
      · exact Or.inl h
      · split at h
        · rename_i hb
          have hr : r ≠ [] := by
            intro h0; rw [h0] at hb; simp at hb
          have hd : r.headD 0 ∈ r := by cases r with | nil => exact absurd rfl hr | cons y ys => simp
          have hx : x = 92 := by simp only [Bool.and_eq_true, beq_iff_eq] at hb; exact hb.1
          rcases ih _ _ _ h with h1 | h1
          · split at h1
            · simp only [List.mem_append, List.mem_cons, List.not_mem_nil, or_false] at h1
              rcases h1 with h1 | h1 | h1
              · exact Or.inl h1
              · right; rw [h1, ← hx]; simp
              · right; rw [h1]; exact List.mem_cons_of_mem _ hd
            · simp only [List.mem_append, List.mem_cons, List.not_mem_nil, or_false] at h1
              rcases h1 with h1 | h1
              · exact Or.inl h1
              · right; rw [h1]; exact List.mem_cons_of_mem _ hd
          · right; simp [List.mem_of_mem_drop h1]
        · rcases ih _ _ _ h with h1 | h1
          · simp only [List.mem_append, List.mem_cons, List.not_mem_nil, or_false] at h1
            rcases h1 with h1 | h1
            · exact Or.inl h1
            · right; rw [h1]; simp
          · right; simp [h1]

theorem reRead_mem (src : Bytes) (k : Bytes) (h : (reRead src).1 = some k) : ∀ c ∈ k, c ∈ src := by
  unfold reRead at h
  cases src with
  | nil => cases h
  | cons d s =>
    dsimp only at h
    cases h
    intro c hc
    rcases reRead_go_mem d _ _ _ _ hc with h1 | h1
    · cases h1
    · simp [h1]

theorem reRead_go_suffix (delim : Nat) : ∀ (f : Nat) (s acc : Bytes), (reRead.go delim f s acc).2 <:+ s := by
  intro f
  induction f with
  | zero => intro s acc; rw [reRead.go]; exact List.suffix_refl _
  | succ f ih =>
    intro s acc
    cases s with
    | nil => rw [reRead.go]; exact List.suffix_refl _
    | cons c r =>
      rw [reRead.go]
      split
      · exact List.suffix_cons _ _
      · split
        · exact ((ih (r.drop 1) _).trans (List.drop_suffix 1 r)).trans (List.suffix_cons _ _)
        · exact (ih r _).trans (List.suffix_cons _ _)

theorem reRead_suffix (s : Bytes) : (reRead s).2 <:+ s := by
  unfold reRead
  cases s with
  | nil => exact List.suffix_refl _
  | cons d r =>
    dsimp only
    exact (reRead_go_suffix d (r.length + 1) r []).trans (List.suffix_cons _ _)

theorem offs_suffix : ∀ (f : Nat) (n : Int) (s : Bytes), (exLineno.offs f n s).2 <:+ s := by
  intro f
  induction f with
  | zero => intro n s; rw [exLineno.offs]; exact List.suffix_refl _
  | succ f ih =>
    intro n s
    rw [exLineno.offs]
    split
    · exact ((ih _ _).trans (List.dropWhile_suffix _)).trans (List.drop_suffix 1 s)
    · exact List.suffix_refl _

theorem exSearch_eq (ed : Ed) (loc : Bytes) : exSearch ed loc =
  (let ed1 := kwEd ed (reRead loc).1 (if loc.headD 0 == 47 then 1 else -1)
   if ed1.xkwddir == 0 then some ((-1, (reRead loc).2), ed1) else
   match ed1.mkRe ed1.xkwd with
   | none => none
   | some none => some ((-1, (reRead loc).2), ed1)
   | some (some re) =>
     match exSearch.scan ed1 re ed1.xkwddir ed1.len (ed1.len.toNat+1) (ed1.xrow + ed1.xkwddir) with
      | none => none
      | some row => some ((row, (reRead loc).2), ed1)) := by
  unfold exSearch kwEd
  rfl

theorem exSearch_cases {ed : Ed} {loc : Bytes} {n : Int} {rest : Bytes} {ed' : Ed}
    (h : exSearch ed loc = some ((n, rest), ed')) :
    ed' = kwEd ed (reRead loc).1 (if loc.headD 0 == 47 then 1 else -1) ∧ rest = (reRead loc).2 ∧
    (n = -1 ∨ ∃ re f, exSearch.scan ed' re ed'.xkwddir ed'.len f (ed'.xrow + ed'.xkwddir) = some n) := by
  rw [exSearch_eq] at h
  generalize kwEd ed (reRead loc).1 (if loc.headD 0 == 47 then 1 else -1) = ed1 at h ⊢
  obtain ⟨_, h⟩ | ⟨_, h⟩ := ite_eq_cases h
  · cases h
    exact ⟨rfl, rfl, .inl rfl⟩
  cases hm : ed1.mkRe ed1.xkwd with
  | none => rw [hm] at h; cases h
  | some o =>
    rw [hm] at h
    cases o with
    | none => cases h; exact ⟨rfl, rfl, .inl rfl⟩
    | some re =>
      dsimp only at h
      cases hs : exSearch.scan ed1 re ed1.xkwddir ed1.len (ed1.len.toNat + 1) (ed1.xrow + ed1.xkwddir) with
      | none => rw [hs] at h; cases h
      | some row =>
        rw [hs] at h
        cases h
        exact ⟨rfl, rfl, .inr ⟨_, _, hs⟩⟩

theorem exSearch_kwOnly (ed : Ed) (loc : Bytes) (r : Int × Bytes) (ed' : Ed)
    (h : exSearch ed loc = some (r, ed')) : KwOnly ed ed' :=
  (exSearch_cases h).1 ▸ kw_kwOnly _ _ _

theorem exSearch_addrOnly (ed : Ed) (loc : Bytes) (r : Int × Bytes) (ed' : Ed) (h : exSearch ed loc = some (r, ed')) : AddrOnly ed ed' :=
  (exSearch_kwOnly ed loc r ed' h).addrOnly

end Neatvi.Lemmas.C06

namespace Neatvi.Lemmas.C05b
open Neatvi Neatvi.Lbuf Neatvi.Ex Neatvi.Lemmas.C06

/-- the range of `long long` -/
def FitsLL (x : Int) : Prop := -9223372036854775808 ≤ x ∧ x ≤ 9223372036854775807

instance (x : Int) : Decidable (FitsLL x) := by unfold FitsLL; exact inferInstance

/-- the offset loop with a failure wherever the C addition `n += ex_num(...)` would leave `long long` -/
def offsChk : Nat → Int → Bytes → Option (Int × Bytes)
  | 0, n, s => some (n, s)
  | f + 1, n, s =>
    if s.headD 0 == 45 || s.headD 0 == 43 then
      if FitsLL (n + exNum s TERMMAX) then offsChk f (n + exNum s TERMMAX) ((s.drop 1).dropWhile isDigitC)
      else none
    else some (n, s)

/-- the base of an address (before the offsets), or the marker `-1000000`: the first part of `exLineno` -/
def exLinenoBase (ed : Ed) (loc : Bytes) : R (Int × Bytes) :=
  if loc.headD 0 == 46 then some ((ed.xrow, loc.drop 1), ed)
  else if loc.headD 0 == 36 then some ((ed.len - 1, loc.drop 1), ed)
  else if loc.headD 0 == 39 then
    match ed.lb.bind (fun l => jump l (loc.getD 1 0)) with
    | none => some ((-1000000, loc.drop 1), ed)
    | some (p, _) => some ((p, loc.drop 2), ed)
  else if loc.headD 0 == 47 || loc.headD 0 == 63 then
    match exSearch ed loc with
    | none => none
    | some ((n, rest), ed) => if n < 0 then some ((-1000000, rest), ed) else some ((n, rest), ed)
  else if isDigitC (loc.headD 0) then some ((exNum loc TERMMAX - 1, loc.dropWhile isDigitC), ed)
  else some ((ed.xrow, loc), ed)

theorem exLineno_eq (ed : Ed) (loc : Bytes) : exLineno ed loc =
    match exLinenoBase ed loc with
    | none => none
    | some ((n, rest), ed) =>
      if n == -1000000 then some ((-2, rest), ed) else
      some ((max (-NUMMAX) (min (exLineno.offs (rest.length + 1) n rest).1 NUMMAX),
        (exLineno.offs (rest.length + 1) n rest).2), ed) := rfl

theorem exLinenoBase_cases {ed : Ed} {loc : Bytes} {n : Int} {rest : Bytes} {ed' : Ed}
    (h : exLinenoBase ed loc = some ((n, rest), ed')) :
    ed' = ed ∧
      (n = ed.xrow ∧ (rest = loc.drop 1 ∨ rest = loc) ∨
       n = ed.len - 1 ∧ rest = loc.drop 1 ∨
       n = -1000000 ∧ rest = loc.drop 1 ∨
       (∃ o, ed.lb.bind (fun l => jump l (loc.getD 1 0)) = some (n, o)) ∧ rest = loc.drop 2 ∨
       isDigitC (loc.headD 0) = true ∧ n = exNum loc TERMMAX - 1 ∧ rest = loc.dropWhile isDigitC) ∨
    ∃ m, exSearch ed loc = some ((m, rest), ed') ∧ (n = -1000000 ∨ n = m) := by
  unfold exLinenoBase at h
  obtain ⟨_, h⟩ | ⟨_, h⟩ := ite_eq_cases h
  · cases h
    exact .inl ⟨rfl, .inl ⟨rfl, .inl rfl⟩⟩
  obtain ⟨_, h⟩ | ⟨_, h⟩ := ite_eq_cases h
  · cases h
    exact .inl ⟨rfl, .inr (.inl ⟨rfl, rfl⟩)⟩
  obtain ⟨_, h⟩ | ⟨_, h⟩ := ite_eq_cases h
  · cases hj : ed.lb.bind (fun l => jump l (loc.getD 1 0)) with
    | none =>
      rw [hj] at h
      cases h
      exact .inl ⟨rfl, .inr (.inr (.inl ⟨rfl, rfl⟩))⟩
    | some p =>
      rw [hj] at h
      cases h
      exact .inl ⟨rfl, .inr (.inr (.inr (.inl ⟨⟨_, rfl⟩, rfl⟩)))⟩
  obtain ⟨_, h⟩ | ⟨_, h⟩ := ite_eq_cases h
  · cases hs : exSearch ed loc with
    | none => rw [hs] at h; cases h
    | some p =>
      rw [hs] at h
      obtain ⟨_, h⟩ | ⟨_, h⟩ := ite_eq_cases h
      · cases h
        exact .inr ⟨_, rfl, .inl rfl⟩
      · cases h
        exact .inr ⟨_, rfl, .inr rfl⟩
  obtain ⟨hd, h⟩ | ⟨_, h⟩ := ite_eq_cases h
  · cases h
    exact .inl ⟨rfl, .inr (.inr (.inr (.inr ⟨hd, rfl, rfl⟩)))⟩
  · cases h
    exact .inl ⟨rfl, .inl ⟨rfl, .inr rfl⟩⟩

/-- `ex_lineno` with the range of `long long` checked at every addition of the offset loop -/
def exLinenoChk (ed : Ed) (loc : Bytes) : R (Int × Bytes) :=
  match exLinenoBase ed loc with
  | none => none
  | some ((n, rest), ed) =>
    if n == -1000000 then some ((-2, rest), ed) else
    match offsChk (rest.length + 1) n rest with
    | none => none
    | some (m, rest) => some ((max (-NUMMAX) (min m NUMMAX), rest), ed)

end Neatvi.Lemmas.C05b

namespace Neatvi.Lemmas.C06
open Neatvi Neatvi.Lbuf Neatvi.Ex Neatvi.Lemmas.Hist

theorem exLineno_addrOnly (ed : Ed) (loc : Bytes) (r : Int × Bytes) (ed' : Ed) (h : exLineno ed loc = some (r, ed')) : AddrOnly ed ed' := by
  rw [C05b.exLineno_eq] at h
  split at h
  · cases h
  · rename_i n rest ed1 hb
    -- the base of the address decides the state; the offsets and the clamp keep it
    have h1 : AddrOnly ed ed1 := by
      obtain ⟨rfl, _⟩ | ⟨m, hs, _⟩ := C05b.exLinenoBase_cases hb
      · exact AddrOnly.refl _
      · exact exSearch_addrOnly _ _ _ _ hs
    split at h <;> (cases h; exact h1)

/-- **the loop of `ex_region` keeps an invariant** of the state and of the pair `(beg, end)` it carries, if every `ex_lineno`
    keeps it for the next pair, with and without the `xrow := n` of `;`; on an unresolved address the loop ends with `(-7, -7)`, in a
    state of which `Fl` holds.  The loop does nothing else. -/
theorem go_ind {J : Ed → Int → Int → Prop} {Fl : Ed → Prop}
    (hl : ∀ {ed loc n rest ed1} {na : Nat} {b e : Int}, J ed b e → exLineno ed loc = some ((n, rest), ed1) →
      (n < -1 → Fl ed1) ∧ (¬ n < -1 →
        J ed1 (if na != 0 then e - 1 else n + 1 - 1) (n + 1) ∧
        J { ed1 with xrow := n + 1 - 1 } (if na != 0 then e - 1 else n + 1 - 1) (n + 1))) :
    ∀ (f : Nat) (ed : Ed) (loc : Bytes) (naddr : Nat) (b e : Int) (r : Int × Int) (ed' : Ed),
      J ed b e → exRegion.go f ed loc naddr b e = some (r, ed') → J ed' r.1 r.2 ∨ r = (-7, -7) ∧ Fl ed' := by
  intro f
  induction f with
  | zero => intro ed loc naddr b e r ed' h0 h; rw [exRegion.go] at h; cases h; exact .inl h0
  | succ f ih =>
    intro ed loc naddr b e r ed' h0 h
    rw [exRegion.go] at h
    rcases ite_eq_cases h with ⟨_, h⟩ | ⟨_, h⟩
    · cases h; exact .inl h0
    cases hln : exLineno ed loc with
    | none => rw [hln] at h; cases h
    | some p =>
      obtain ⟨⟨n, rest⟩, ed1⟩ := p
      obtain ⟨h1, h2⟩ := hl (na := naddr) h0 hln
      rw [hln] at h
      rcases ite_eq_cases h with ⟨hn, h⟩ | ⟨hn, h⟩
      · cases h; exact .inr ⟨rfl, h1 hn⟩
      rcases ite_eq_cases h with ⟨_, h⟩ | ⟨_, h⟩
      · cases h; exact .inl (h2 hn).1
      refine ih _ _ _ _ _ _ _ ?_ h
      split
      · exact (h2 hn).2
      · exact (h2 hn).1

/-- the state alone: an invariant that every `ex_lineno` keeps and that survives `xrow := n` (what
    `;` does) for the number `n ≥ -1` that `ex_lineno` just returned.  The loop does nothing else to the state. -/
theorem go_inv {I : Ed → Prop}
    (hl : ∀ {ed loc n rest ed1}, I ed → exLineno ed loc = some ((n, rest), ed1) →
      I ed1 ∧ (¬ n < -1 → I { ed1 with xrow := n + 1 - 1 })) :
    ∀ (f : Nat) (ed : Ed) (loc : Bytes) (naddr : Nat) (b e : Int) (r : Int × Int) (ed' : Ed),
      I ed → exRegion.go f ed loc naddr b e = some (r, ed') → I ed' :=
  fun f ed loc naddr b e r ed' h0 h =>
    (go_ind (J := fun ed _ _ => I ed) (Fl := I)
      (fun hJ hln => ⟨fun _ => (hl hJ hln).1, fun hn => ⟨(hl hJ hln).1, (hl hJ hln).2 hn⟩⟩)
      f ed loc naddr b e r ed' h0 h).elim id (·.2)

theorem go_addrOnly (f : Nat) (ed : Ed) (loc : Bytes) (naddr : Nat) (b e : Int) (r : Int × Int) (ed' : Ed)
    (h : exRegion.go f ed loc naddr b e = some (r, ed')) : AddrOnly ed ed' :=
  go_inv (I := AddrOnly ed)
    (fun h0 hln => ⟨h0.trans (exLineno_addrOnly _ _ _ _ hln),
      fun _ => (h0.trans (exLineno_addrOnly _ _ _ _ hln)).trans ⟨_, _, _, rfl⟩⟩)
    f ed loc naddr b e r ed' (AddrOnly.refl _) h

theorem AddrOnly.len {ed ed' : Ed} (h : AddrOnly ed ed') : ed'.len = ed.len := by
  obtain ⟨_, _, _, rfl⟩ := h; rfl

theorem len_nonneg (ed : Ed) : 0 ≤ ed.len := by
  unfold Ed.len; split <;> omega

/-- the verdict of `ex_region` once its addresses are read: (return value, beg, end).  `go` reports an unresolved
    address as `(-7, -7)`; the address `0` arrives as `b = -1`, `e = 0` and is moved to the empty range `(0, 0)` -/
def regionCheck (len b e : Int) : Nat × Int × Int :=
  if b == -7 && e == -7 then (1, -1, -1) else
  if e ≤ b then (1, -1, -1) else
  let b := if b < 0 && e == 0 then 0 else b
  if b < 0 || b ≥ len then (1, b, e)
  else if e < b || e > len then (1, b, e)
  else (0, b, e)

theorem exRegion_percent (ed : Ed) : exRegion ed [37] = some ((0, 0, max 0 ed.len), ed) := rfl

theorem exRegion_nil (ed : Ed) : exRegion ed [] =
    some ((0, max 0 (min ed.xrow ed.len),
      if max 0 (min ed.xrow ed.len) == ed.len then max 0 (min ed.xrow ed.len) else max 0 (min ed.xrow ed.len) + 1), ed) := rfl

theorem exRegion_addr (ed : Ed) {loc : Bytes} (hne : loc ≠ []) (h37 : loc ≠ [37]) : exRegion ed loc =
    (exRegion.go (loc.length + 1) ed loc 0 0 0).map fun p => (regionCheck p.2.len p.1.1 p.1.2, p.2) := by
  unfold exRegion
  simp only []
  rw [if_neg (by simpa using h37), if_neg (by simpa using hne)]
  cases exRegion.go (loc.length + 1) ed loc 0 0 0 with
  | none => rfl
  | some p =>
    simp only [Option.map_some, regionCheck, apply_ite (fun r : Nat × Int × Int => some (r, p.2))]

theorem regionCheck_spec {len b e : Int} {rc : Nat} {b' e' : Int} (h : regionCheck len b e = (rc, b', e')) :
    (rc = 0 ∨ rc = 1) ∧ (rc = 0 → 0 ≤ b' ∧ b' ≤ e' ∧ e' ≤ len ∧ b' < len) ∧ (rc = 1 → b' = 0 → e' = 0 → len ≤ 0) := by
  unfold regionCheck at h
  rcases ite_eq_cases h with ⟨_, h⟩ | ⟨_, h⟩
  · cases h; omega
  rcases ite_eq_cases h with ⟨_, h⟩ | ⟨h2, h⟩
  · cases h; omega
  dsimp only at h
  generalize hb1 : (if (decide (b < 0) && e == 0) = true then 0 else b) = b1 at h
  have hb : b1 = 0 ∧ e = 0 ∨ b1 = b ∧ (0 ≤ b ∨ e ≠ 0) := by
    rcases ite_eq_cases hb1 with ⟨hc, hb1⟩ | ⟨hc, hb1⟩ <;>
      simp only [Bool.and_eq_true, decide_eq_true_eq, beq_iff_eq] at hc
    · exact Or.inl ⟨hb1.symm, hc.2⟩
    · exact Or.inr ⟨hb1.symm, by omega⟩
  rcases ite_eq_cases h with ⟨h3, h⟩ | ⟨h3, h⟩ <;> simp only [Bool.or_eq_true, decide_eq_true_eq] at h3
  · cases h; omega
  rcases ite_eq_cases h with ⟨h4, h⟩ | ⟨h4, h⟩ <;> simp only [Bool.or_eq_true, decide_eq_true_eq] at h4 <;>
    (cases h; omega)

theorem region_all (ed : Ed) (loc : Bytes) (rc : Nat) (b e : Int) (ed' : Ed)
    (h : exRegion ed loc = some ((rc, b, e), ed')) :
    AddrOnly ed ed' ∧ (rc = 0 ∨ rc = 1) ∧
    (rc = 0 → 0 ≤ b ∧ b ≤ e ∧ e ≤ ed'.len ∧ (loc ≠ [] → loc ≠ [37] → b < ed'.len)) ∧
    (rc = 1 → b = 0 → e = 0 → ed'.len = 0) := by
  have hl := len_nonneg ed
  by_cases hne : loc = []
  · subst hne
    rw [exRegion_nil] at h
    cases h
    refine ⟨AddrOnly.refl _, Or.inl rfl, fun _ => ⟨by omega, ?_, ?_, fun h => absurd rfl h⟩, fun h => by omega⟩
    all_goals split <;> simp only [beq_iff_eq] at * <;> omega
  by_cases h37 : loc = [37]
  · subst h37
    cases h
    exact ⟨AddrOnly.refl _, Or.inl rfl, fun _ => ⟨by omega, by omega, by omega, fun _ h => absurd rfl h⟩, fun h => by omega⟩
  rw [exRegion_addr ed hne h37, Option.map_eq_some_iff] at h
  obtain ⟨⟨⟨b0, e0⟩, ed1⟩, hgo, h⟩ := h
  simp only [Prod.mk.injEq] at h
  obtain ⟨hc, rfl⟩ := h
  have hs := regionCheck_spec hc
  have hl' := len_nonneg ed1
  exact ⟨go_addrOnly _ _ _ _ _ _ _ _ hgo, hs.1, fun h0 => by have := hs.2.1 h0; omega,
    fun h1 hb he => by have := hs.2.2 h1 hb he; omega⟩

section
variable {ed : Ed} {loc : Bytes} {k : Int → Int → Ed → R Int} {rc : Int} {ed' : Ed}

/-- a handler that evaluates its address and gives up with 1 when that fails: either it gave up, in the state
    `ex_region` left (nothing but the address side effects), or the address resolved to a range inside the buffer and the
    handler went on -/
theorem region_strict
    (h : (match exRegion ed loc with
      | none => none
      | some ((r, b, e), ed1) => if r != 0 then some (1, ed1) else k b e ed1) = some (rc, ed')) :
    (rc = 1 ∧ AddrOnly ed ed' ∧ ∃ x, exRegion ed loc = some (x, ed')) ∨
    ∃ b e ed1, exRegion ed loc = some ((0, b, e), ed1) ∧ AddrOnly ed ed1 ∧ 0 ≤ b ∧ b ≤ e ∧ e ≤ ed1.len ∧
      k b e ed1 = some (rc, ed') := by
  split at h
  · cases h
  · rename_i r b e ed1 hreg
    obtain ⟨ha, _, hv, _⟩ := region_all _ _ _ _ _ _ hreg
    rcases ite_eq_cases h with ⟨_, h⟩ | ⟨hc, h⟩
    · cases h
      exact Or.inl ⟨rfl, ha, _, hreg⟩
    · simp only [bne_iff_ne, ne_eq, Decidable.not_not] at hc
      subst hc
      obtain ⟨v1, v2, v3, _⟩ := hv rfl
      exact Or.inr ⟨b, e, ed1, hreg, ha, v1, v2, v3, h⟩

/-- the same with a second reason `c` to give up, tested together with the first -/
theorem region_strict_or {c : Int → Int → Ed → Bool}
    (h : (match exRegion ed loc with
      | none => none
      | some ((r, b, e), ed1) => if r != 0 || c b e ed1 then some (1, ed1) else k b e ed1) = some (rc, ed')) :
    (rc = 1 ∧ AddrOnly ed ed' ∧ ∃ x, exRegion ed loc = some (x, ed')) ∨
    ∃ b e ed1, exRegion ed loc = some ((0, b, e), ed1) ∧ AddrOnly ed ed1 ∧ 0 ≤ b ∧ b ≤ e ∧ e ≤ ed1.len ∧
      c b e ed1 = false ∧ k b e ed1 = some (rc, ed') := by
  split at h
  · cases h
  · rename_i r b e ed1 hreg
    obtain ⟨ha, _, hv, _⟩ := region_all _ _ _ _ _ _ hreg
    replace h := ite_eq_cases h
    rcases h with ⟨_, h⟩ | ⟨hc, h⟩
    · cases h
      exact Or.inl ⟨rfl, ha, _, hreg⟩
    · obtain ⟨rfl, hc'⟩ : r = 0 ∧ c b e ed1 = false := by simpa using hc
      obtain ⟨v1, v2, v3, _⟩ := hv rfl
      exact Or.inr ⟨b, e, ed1, hreg, ha, v1, v2, v3, hc', h⟩

/-- `ec_insert` and `ec_put` go on when `ex_region` failed with `beg = end = 0` (address 0 on an empty buffer) -/
theorem region_lenient
    (h : (match exRegion ed loc with
      | none => none
      | some ((r, b, e), ed1) => if r != 0 && (b != 0 || e != 0) then some (1, ed1) else k b e ed1) = some (rc, ed')) :
    (rc = 1 ∧ AddrOnly ed ed' ∧ ∃ x, exRegion ed loc = some (x, ed')) ∨
    ∃ r b e ed1, exRegion ed loc = some ((r, b, e), ed1) ∧ AddrOnly ed ed1 ∧ (r = 0 ∨ b = 0 ∧ e = 0) ∧
      0 ≤ b ∧ b ≤ e ∧ e ≤ ed1.len ∧ k b e ed1 = some (rc, ed') := by
  split at h
  · cases h
  · rename_i r b e ed1 hreg
    obtain ⟨ha, _, hv, _⟩ := region_all _ _ _ _ _ _ hreg
    rcases ite_eq_cases h with ⟨_, h⟩ | ⟨hc, h⟩
    · cases h
      exact Or.inl ⟨rfl, ha, _, hreg⟩
    · refine Or.inr ⟨r, b, e, ed1, hreg, ha, ?_⟩
      have hl1 := len_nonneg ed1
      by_cases h0 : r = 0
      · obtain ⟨v1, v2, v3, _⟩ := hv h0
        exact ⟨Or.inl h0, v1, v2, v3, h⟩
      · simp only [Bool.and_eq_true, bne_iff_ne, ne_eq, Bool.or_eq_true, not_and, not_or, Decidable.not_not] at hc
        obtain ⟨hb0, he0⟩ := hc h0
        exact ⟨Or.inr ⟨hb0, he0⟩, by omega, by omega, by omega, h⟩

end

theorem region_fail00 (ed : Ed) (loc : Bytes) (ed' : Ed) (h : exRegion ed loc = some ((1, 0, 0), ed')) :
    ed'.len = 0 := (region_all ed loc 1 0 0 ed' h).2.2.2 rfl rfl rfl

/-- the lines of the current buffer (empty without one) -/
def lines (ed : Ed) : List Bytes := match ed.lb with | some l => l.lines | none => []

theorem len_eq (ed : Ed) : ed.len = ((lines ed).length : Int) := by
  unfold Ed.len lines; cases ed.lb <;> rfl

theorem AddrOnly.bufs {ed ed' : Ed} (h : AddrOnly ed ed') : ed'.bufs = ed.bufs := by
  obtain ⟨_, _, _, rfl⟩ := h; rfl
theorem AddrOnly.lb {ed ed' : Ed} (h : AddrOnly ed ed') : ed'.lb = ed.lb := by
  obtain ⟨_, _, _, rfl⟩ := h; rfl
theorem AddrOnly.lines {ed ed' : Ed} (h : AddrOnly ed ed') : lines ed' = lines ed := by
  obtain ⟨_, _, _, rfl⟩ := h; rfl
theorem AddrOnly.regs {ed ed' : Ed} (h : AddrOnly ed ed') : ed'.regs = ed.regs := by
  obtain ⟨_, _, _, rfl⟩ := h; rfl
theorem AddrOnly.out {ed ed' : Ed} (h : AddrOnly ed ed') : ed'.out = ed.out := by
  obtain ⟨_, _, _, rfl⟩ := h; rfl

theorem lines_of_lb {ed : Ed} {lb : Lb} (h : ed.lb = some lb) : lines ed = lb.lines := by
  unfold lines; rw [h]

theorem setLb_lb_map (ed : Ed) (lb : Lb) : (ed.setLb lb).lb = ed.lb.map fun _ => lb := by
  unfold Ed.setLb Ed.lb Ed.cur Ed.setCur
  cases hb : ed.bufs with
  | nil => simp [hb]
  | cons x xs => cases x <;> simp [hb]

theorem setLb_lb (ed : Ed) (lb0 lb : Lb) (h : ed.lb = some lb0) : (ed.setLb lb).lb = some lb := by
  rw [setLb_lb_map, h]
  rfl

theorem setLb_fields (ed : Ed) (lb : Lb) : ed.setLb lb = { ed with bufs := (ed.setLb lb).bufs } := by
  unfold Ed.setLb
  split
  · rfl
  · rfl

/-- `Ed.edit` only changes the buffer table -/
theorem edit_fields (ed ed' : Ed) (s : Option Bytes) (b e : Int) (h : ed.edit s b e = some ed') :
    ed' = { ed with bufs := ed'.bufs } := by
  unfold Ed.edit at h
  split at h
  · cases h
  · split at h
    · cases h
    · simp only [Option.map_eq_some_iff] at h
      obtain ⟨lb', _, rfl⟩ := h
      exact setLb_fields _ _

/-- frame law of `lbuf_edit(xb, s, beg, end)` on the editor state -/
theorem ed_edit_frame (ed ed' : Ed) (s : Option Bytes) (b e : Int) (hb : 0 ≤ b) (hbe : b ≤ e) (he : e ≤ ed.len)
    (h : ed.edit s b e = some ed') :
    lines ed' = (lines ed).take b.toNat ++ optLines s ++ (lines ed).drop e.toNat ∧
    ed'.len = ed.len - (e - b) + (optLines s).length := by
  unfold Ed.edit at h
  rw [if_neg (by simp; omega)] at h
  split at h
  · cases h
  · rename_i lb hlb
    simp only [Option.map_eq_some_iff] at h
    obtain ⟨lb', hed, rfl⟩ := h
    have hlen : ed.len = (lb.lines.length : Int) := by unfold Ed.len; rw [hlb]
    have hfr := lbuf_edit_frame lb lb' s b.toNat e.toNat (by omega) (by omega) hed
    have hl' : lines (ed.setLb lb') = lb'.lines := lines_of_lb (setLb_lb ed lb lb' hlb)
    have hl : lines ed = lb.lines := lines_of_lb hlb
    refine ⟨by rw [hl', hl, hfr], ?_⟩
    rw [len_eq, hl', hfr, hlen]
    simp only [List.length_append, List.length_take, List.length_drop]
    omega

/-- with a current buffer and an ordered non-negative range, `Ed.edit` never traps -/
theorem ed_edit_total (ed : Ed) (lb : Lb) (s : Option Bytes) (b e : Int) (hlb : ed.lb = some lb) (hb : 0 ≤ b) (hbe : b ≤ e) :
    ∃ ed', ed.edit s b e = some ed' := by
  unfold Ed.edit
  rw [if_neg (by simp; omega), hlb]
  obtain ⟨lb', h⟩ := edit_total lb s b.toNat e.toNat (by omega)
  exact ⟨ed.setLb lb', by simp [h]⟩

theorem line_int (ed : Ed) (j : Int) : ed.line j = if j < 0 then none else (lines ed)[j.toNat]? := by
  unfold Ed.line lines
  cases ed.lb <;> simp

theorem line_eq (ed : Ed) (k : Nat) : ed.line (k : Int) = (lines ed)[k]? := by
  rw [line_int, if_neg (by omega), Int.toNat_natCast]

theorem splice_length {α : Type} (t new : List α) {p q : Nat} (hpq : p ≤ q) (hq : q ≤ t.length) :
    (t.take p ++ new ++ t.drop q).length = t.length + new.length - (q - p) := by
  simp only [List.length_append, List.length_take, List.length_drop]
  omega

/-- **the frame of a splice on the editor state.**  Every command that changes the text ends in the shape `h`
    (`ed_edit_frame` for `lbuf_edit`, the specs of the line commands, `substLoop_lines` for `:s`); what it leaves
    alone is read off that shape here through `Ed.line` / `Ed.len`, and by list index in `frame_get_before` /
    `frame_get_after`: the rows above `p` keep their place, the rows from `q` on move by the change of the number
    of lines -/
theorem line_frame {ed ed' : Ed} {p q : Nat} {new : List Bytes}
    (h : lines ed' = (lines ed).take p ++ new ++ (lines ed).drop q) (hpq : p ≤ q) (hq : q ≤ (lines ed).length) :
    ed'.len = ed.len + new.length - (q - p : Nat) ∧
    (∀ j : Int, j < p → ed'.line j = ed.line j) ∧
    (∀ j : Int, q ≤ j → ed'.line (j + (ed'.len - ed.len)) = ed.line j) := by
  have hl : ed'.len = ed.len + new.length - (q - p : Nat) := by
    rw [len_eq, len_eq, h, splice_length _ _ hpq hq]
    omega
  refine ⟨hl, fun j hj => ?_, fun j hj => ?_⟩
  · rw [line_int, line_int, h]
    split
    · rfl
    · exact frame_get_before _ _ _ _ _ (by omega) (by omega)
  · obtain ⟨m, rfl⟩ := Int.eq_ofNat_of_zero_le (show 0 ≤ j by omega)
    have hm : q ≤ m := by omega
    rw [line_int, line_int, if_neg (by rw [hl, len_eq]; omega), if_neg (by omega), h,
      show ((m : Int) + (ed'.len - ed.len)).toNat = m + new.length - (q - p) by rw [hl, len_eq]; omega]
    exact frame_get_after _ _ _ _ _ hpq hm hq

/-- what `ex_print` appends for one line -/
def printed (l : Bytes) : Bytes := l ++ (if l.getLast? == some 10 then [] else [10])

theorem print_loop (ed : Ed) (b : Nat) : ∀ n : Nat, b + n ≤ (lines ed).length →
    (List.range n).foldl (fun (ed : Ed) (k : Nat) =>
        match ed.line ((b : Int) + (k : Int)) with | some l => ed.print l | none => ed) ed =
      { ed with out := ed.out ++ (((lines ed).drop b).take n).flatMap printed } := by
  intro n
  induction n with
  | zero => intro _; simp
  | succ n ih =>
    intro hn
    rw [List.range_succ, List.foldl_append, ih (by omega)]
    simp only [List.foldl_cons, List.foldl_nil]
    obtain ⟨x, hx⟩ : ∃ x, (lines ed)[b + n]? = some x := ⟨_, List.getElem?_eq_getElem (by omega)⟩
    have hline : Ed.line { ed with out := ed.out ++ (((lines ed).drop b).take n).flatMap printed } ((b : Int) + (n : Int)) =
        some x := by
      rw [← hx, ← line_eq]
      rfl
    rw [hline]
    have htake : ((lines ed).drop b).take (n + 1) = ((lines ed).drop b).take n ++ [x] := by
      rw [List.take_add_one, List.getElem?_drop, hx]
      rfl
    rw [htake, List.flatMap_append]
    simp [Ed.print, printed, List.append_assoc]

end Neatvi.Lemmas.C06
