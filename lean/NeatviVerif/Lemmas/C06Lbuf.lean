import NeatviVerif.Model.Lbuf
import NeatviVerif.Lemmas.Hist
/-!
# `lbuf_edit` and `lbuf_rd` by the ways they return (`edit_cases`, `edit_total`, `rd_cases`); C06, buffer level: the frame
law of `lbuf_edit` and the behaviour of marks under a splice
-/
namespace Neatvi.Lemmas.C06
open Neatvi Neatvi.Lbuf Neatvi.Spec Neatvi.Props.C01 Neatvi.Lemmas.Hist

/-- a mark above the splice does not move -/
theorem updMark_before (nul : Bool) (pos nIns nDel : Nat) (m : Int) (h : m < pos) :
    updMark nul pos nIns nDel m = m := by
  unfold updMark
  repeat' split
  all_goals (simp only [Bool.and_eq_true, decide_eq_true_eq] at *)
  all_goals omega

/-- a mark at or below the end of the replaced range moves with its line -/
theorem updMark_after (nul : Bool) (pos nIns nDel : Nat) (m : Int) (h : m ≥ ((pos + nDel : Nat) : Int)) :
    updMark nul pos nIns nDel m = m + nIns - nDel := by
  unfold updMark
  have h1 : ¬ (m < (pos : Int) + (nDel : Int)) := by omega
  simp [h1]

/-- a mark inside a purely deleted range is unset -/
theorem updMark_deleted (pos nIns nDel : Nat) (m : Int) (h1 : (pos : Int) ≤ m) (h2 : m < (pos : Int) + nDel) :
    updMark true pos nIns nDel m = -1 := by
  unfold updMark
  simp [h1, h2]

/-- a mark inside a replaced range is clamped to the last inserted line -/
theorem updMark_replaced (pos nIns nDel : Nat) (m : Int) (_h1 : (pos : Int) ≤ m) (h2 : m < (pos : Int) + nDel) :
    updMark false pos nIns nDel m = min m ((pos : Int) + nIns - 1) := by
  unfold updMark
  have h3 : ¬ (m ≥ ((pos + nDel : Nat) : Int)) := by omega
  simp only [Bool.false_and, Bool.false_eq_true, if_false, h3]
  by_cases h4 : m ≥ ((pos + nIns : Nat) : Int)
  · rw [if_pos h4]; omega
  · rw [if_neg h4]; omega

theorem updMark_unset (nul : Bool) (pos nIns nDel : Nat) : updMark nul pos nIns nDel (-1) = -1 := by
  have := updMark_before nul pos nIns nDel (-1) (by omega)
  exact this

theorem getD_map_updMark (l : List Int) (nul : Bool) (pos nIns nDel i : Nat) :
    (l.map (updMark nul pos nIns nDel)).getD i (-1) = updMark nul pos nIns nDel (l.getD i (-1)) := by
  simp only [List.getD_eq_getElem?_getD, List.getElem?_map]
  cases l[i]? with
  | none => simp [updMark_unset]
  | some x => simp

theorem getD_set_ne {α : Type} (l : List α) (i j : Nat) (x d : α) (h : i ≠ j) : (l.set i x).getD j d = l.getD j d := by
  simp [List.getD_eq_getElem?_getD, List.getElem?_set_ne h]

theorem markIdx_letter (c : Nat) (h1 : 97 ≤ c) (h2 : c ≤ 122) : markIdx c = some (c - 97) := by
  unfold markIdx
  simp [h1, h2]

theorem setMark_mark_ne (lb : Lb) (c i j : Nat) (p o : Int) (hc : markIdx c = some i) (h : i ≠ j) :
    (setMark lb c p o).mark.getD j (-1) = lb.mark.getD j (-1) ∧
    (setMark lb c p o).markOff.getD j 0 = lb.markOff.getD j 0 := by
  unfold setMark
  rw [hc]
  exact ⟨getD_set_ne _ _ _ _ _ h, getD_set_ne _ _ _ _ _ h⟩

/-- `lbuf_replace` on the marks other than `[` and `]` (indices 28, 29): the position goes through
    `updMark`, the column is kept -/
theorem replace_mark (lb lb' : Lb) (s : Option Bytes) (pos nDel i : Nat)
    (h : replace lb s pos nDel = some lb') (h28 : i ≠ 28) (h29 : i ≠ 29) :
    lb'.mark.getD i (-1) = updMark s.isNone pos (optLines s).length nDel (lb.mark.getD i (-1)) ∧
    lb'.markOff.getD i 0 = lb.markOff.getD i 0 := by
  unfold replace at h
  by_cases hb : pos + nDel ≤ lb.lines.length
  · simp only [hb, if_true, Option.some.injEq] at h
    subst h
    have e91 : markIdx 91 = some 28 := by decide
    have e93 : markIdx 93 = some 29 := by decide
    constructor
    · rw [(setMark_mark_ne _ 93 29 i _ _ e93 (Ne.symm h29)).1, (setMark_mark_ne _ 91 28 i _ _ e91 (Ne.symm h28)).1]
      exact getD_map_updMark lb.mark s.isNone pos _ nDel i
    · rw [(setMark_mark_ne _ 93 29 i _ _ e93 (Ne.symm h29)).2, (setMark_mark_ne _ 91 28 i _ _ e91 (Ne.symm h28)).2]
  · simp [hb] at h

theorem opt_mark (lb : Lb) (buf : Option Bytes) (pos n i : Nat) (h27 : i ≠ 27) :
    (opt lb buf pos n).mark.getD i (-1) = lb.mark.getD i (-1) ∧
    (opt lb buf pos n).markOff.getD i 0 = lb.markOff.getD i 0 := by
  unfold opt
  exact ⟨getD_set_ne _ _ _ _ _ (Ne.symm h27), getD_set_ne _ _ _ _ _ (Ne.symm h27)⟩

theorem updMark_noop (m : Int) (pos : Nat) : updMark true pos 0 0 m = m := by
  by_cases h : m < pos
  · exact updMark_before _ _ _ _ _ h
  · rw [updMark_after _ _ _ _ _ (by omega)]; simp

/-- the clamped `lbuf_edit` with an ordered range never traps -/
theorem edit_total (lb : Lb) (s : Option Bytes) (b e : Nat) (hbe : b ≤ e) : ∃ lb', edit lb s b e = some lb' := by
  unfold edit
  have h1 : ¬ (min e lb.lines.length < min b lb.lines.length) := by omega
  simp only [h1, if_false]
  split
  · exact ⟨_, rfl⟩
  · have hbound : min b lb.lines.length + (min e lb.lines.length - min b lb.lines.length) ≤
        (opt lb s (min b lb.lines.length) (min e lb.lines.length - min b lb.lines.length)).lines.length := by
      rw [opt_lines]; omega
    obtain ⟨lb', r1, _⟩ := replace_spec _ s _ _ hbound
    exact ⟨lb', r1⟩

theorem edit_cases {lb lb' : Lb} {s : Option Bytes} {b e : Nat} (h : edit lb s b e = some lb') :
    min b lb.lines.length ≤ min e lb.lines.length ∧
    ((min b lb.lines.length = min e lb.lines.length ∧ s = none ∧ lb' = lb) ∨
      replace (opt lb s (min b lb.lines.length) (min e lb.lines.length - min b lb.lines.length)) s
        (min b lb.lines.length) (min e lb.lines.length - min b lb.lines.length) = some lb') := by
  unfold edit at h
  simp only [] at h
  split at h
  · cases h
  · refine ⟨by omega, ?_⟩
    split at h
    · rename_i hc
      simp only [Bool.and_eq_true, beq_iff_eq, Option.isNone_iff_eq_none] at hc
      cases h
      exact Or.inl ⟨hc.1, hc.2, rfl⟩
    · exact Or.inr h

theorem rd_cases {lb lb' : Lb} {chunks : List Bytes} {fe : Bool} {b e rc : Nat}
    (h : LbufIo.rd lb chunks fe b e = some (rc, lb')) : lb' = lb ∨ ∃ buf, Lbuf.edit lb buf b e = some lb' := by
  rw [rd_eq] at h
  split at h
  · cases h; exact Or.inl rfl
  · obtain ⟨l, he, hl⟩ := Option.map_eq_some_iff.1 h
    cases hl
    exact Or.inr ⟨_, he⟩

/-- frame law of `lbuf_edit` on a range inside the buffer: only lines `b..e` are replaced -/
theorem lbuf_edit_frame (lb lb' : Lb) (s : Option Bytes) (b e : Nat) (hbe : b ≤ e) (he : e ≤ lb.lines.length)
    (h : edit lb s b e = some lb') :
    lb'.lines = lb.lines.take b ++ optLines s ++ lb.lines.drop e := by
  obtain ⟨_, h⟩ := edit_cases h
  rw [show min b lb.lines.length = b by omega, show min e lb.lines.length = e by omega] at h
  rcases h with ⟨rfl, rfl, rfl⟩ | h
  · simp [optLines]
  · have hbound : b + (e - b) ≤ (opt lb s b (e - b)).lines.length := by rw [opt_lines]; omega
    obtain ⟨lb2, r1, r2, _⟩ := replace_spec _ s _ _ hbound
    rw [r1] at h
    cases h
    rw [r2, opt_lines]
    unfold splice
    rw [show b + (e - b) = e by omega]

/-- `lbuf_edit` on the marks other than `*`, `[`, `]`: position through `updMark`, column kept -/
theorem lbuf_edit_mark (lb lb' : Lb) (s : Option Bytes) (b e i : Nat) (hbe : b ≤ e) (he : e ≤ lb.lines.length)
    (h : edit lb s b e = some lb') (h27 : i ≠ 27) (h28 : i ≠ 28) (h29 : i ≠ 29) :
    lb'.mark.getD i (-1) = updMark s.isNone b (optLines s).length (e - b) (lb.mark.getD i (-1)) ∧
    lb'.markOff.getD i 0 = lb.markOff.getD i 0 := by
  obtain ⟨_, h⟩ := edit_cases h
  rw [show min b lb.lines.length = b by omega, show min e lb.lines.length = e by omega] at h
  rcases h with ⟨rfl, rfl, rfl⟩ | h
  · simp [optLines, updMark_noop]
  · obtain ⟨r1, r2⟩ := replace_mark _ _ s b (e - b) i h h28 h29
    rw [r1, r2, (opt_mark lb s b (e - b) i h27).1, (opt_mark lb s b (e - b) i h27).2]
    exact ⟨rfl, rfl⟩
/-- the line a surviving mark designates is the line it designated before -/
theorem frame_get_before (old new : List Bytes) (b e m : Nat) (hm : m < b) (hb : b ≤ old.length) :
    (old.take b ++ new ++ old.drop e)[m]? = old[m]? := by
  rw [List.append_assoc, List.getElem?_append_left (by simp; omega)]
  simp [hm]

theorem frame_get_after (old new : List Bytes) (b e m : Nat) (hbe : b ≤ e) (hm : e ≤ m) (he : e ≤ old.length) :
    (old.take b ++ new ++ old.drop e)[m + new.length - (e - b)]? = old[m]? := by
  have hl : (old.take b ++ new).length = b + new.length := by simp; omega
  rw [List.getElem?_append_right (by rw [hl]; omega), hl, List.getElem?_drop]
  congr 1
  omega

end Neatvi.Lemmas.C06
