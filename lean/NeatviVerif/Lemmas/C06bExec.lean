import NeatviVerif.Lemmas.C06bParse
/-!
# C06b, the loop of `ex_exec`: one iteration, lines of simple commands
-/
namespace Neatvi.Lemmas.C06b
open Neatvi Neatvi.Ex

/-- one iteration of the loop of `ex_exec` on a parsed command: fetch the text (`ex_txt`), dispatch.
    Result: (return code so far, state), rest of the line.  An unknown command only shows a message and keeps
    the return code `ret` of the previous command. -/
def runOne (f : Nat) (ed : Ed) (p : Parsed) (ret : Int) : Option ((Int × Ed) × Bytes) :=
  match p.idx with
  | none => some ((ret, (exTxt ed p.rest (abbrOf p.idx)).2.show (strOf "unknown command")),
      (exTxt ed p.rest (abbrOf p.idx)).1.2)
  | some (_, h) =>
    match runCmd f (exTxt ed p.rest (abbrOf p.idx)).2 h p.loc p.cmd p.arg (exTxt ed p.rest (abbrOf p.idx)).1.1 with
    | none => none
    | some (r, ed1) => some ((r, ed1), (exTxt ed p.rest (abbrOf p.idx)).1.2)

/-- the loop of `ex_exec`, one iteration unfolded: whatever the command returned, the loop goes on with the
    rest of the line -/
theorem cmds_succ (f g : Nat) (ed : Ed) (ln : Bytes) (ret : Int) :
    exExec.cmds f (g + 1) ed ln ret =
      if ln.isEmpty then some (ret, ed) else
      match runOne f ed (parse1 ln) ret with
      | none => none
      | some ((r, ed1), rest) => exExec.cmds f g ed1 rest r := by
  rw [exExec.cmds]
  split
  · rfl
  · unfold runOne parse1
    simp only []
    generalize exLoc ln = p1
    obtain ⟨loc, l1⟩ := p1
    simp only []
    generalize exCmd l1 = p2
    obtain ⟨cmd, l2⟩ := p2
    simp only []
    generalize exIdx cmd = idx
    cases idx with
    | none =>
      simp only [abbrOf]
    | some ah =>
      obtain ⟨a, hh⟩ := ah
      simp only [abbrOf]
      generalize exArg l2 a = p3
      obtain ⟨arg, l3⟩ := p3
      simp only []
      generalize exTxt ed l3 a = T
      obtain ⟨⟨txt, l4⟩, edT⟩ := T
      simp only []
      cases runCmd f edT hh loc cmd arg txt with
      | none => rfl
      | some x => rfl

theorem cmds_nil (f g : Nat) (ed : Ed) (ret : Int) : exExec.cmds f g ed [] ret = some (ret, ed) := by
  cases g with
  | zero => rw [exExec.cmds]
  | succ g => rw [exExec.cmds]; rfl

/-- the command is `rs` (which may take its text from the rest of the line) -/
def isRs (abbr : Bytes) : Bool :=
  let c0 := abbr.headD 0
  let c1 := if c0 != 0 then abbr.getD 1 0 else 0
  c0 == 114 && c1 == 115

/-- `ex_txt` fetches a text only for `a`, `i`, `c` (and `rs`) -/
def takesText (abbr : Bytes) : Bool :=
  let c0 := abbr.headD 0
  let c1 := if c0 != 0 then abbr.getD 1 0 else 0
  (c0 == 114 && c1 == 115) || (c1 == 0 && (c0 == 105 || c0 == 97 || c0 == 99))

/-- `ex_txt` by cases: `rs` with something left on the line cuts its text out of the line; `rs` at the end of the
    line and `a`, `i`, `c` read the pending input lines up to a lone `.`; the others take no text -/
theorem exTxt_eq (ed : Ed) (src abbr : Bytes) : exTxt ed src abbr =
    if isRs abbr && !src.isEmpty then
      ((some ((exTxt.cut (src.length + 1) src []).1 ++ [10]),
        if (exTxt.cut (src.length + 1) src []).2.isEmpty then [] else (exTxt.cut (src.length + 1) src []).2.drop 3), ed)
    else if takesText abbr then
      ((some (exTxt.rd (ed.input.length + 1) ed.input []).1, src),
        { ed with input := (exTxt.rd (ed.input.length + 1) ed.input []).2 })
    else ((none, src), ed) := rfl

/-- `ex_txt` leaves the rest of the line alone, except for `rs` -/
theorem exTxt_rest_notRs (ed : Ed) (src abbr : Bytes) (h : isRs abbr = false) : (exTxt ed src abbr).1.2 = src := by
  rw [exTxt_eq, h, Bool.false_and, if_neg Bool.false_ne_true]
  split <;> rfl

theorem exTxt_noText (ed : Ed) (src abbr : Bytes) (h : takesText abbr = false) : exTxt ed src abbr = ((none, src), ed) := by
  have hr : isRs abbr = false := by
    unfold takesText at h
    simp only [Bool.or_eq_false_iff] at h
    exact h.1
  rw [exTxt_eq, h, hr, Bool.false_and, if_neg Bool.false_ne_true, if_neg Bool.false_ne_true]

theorem exTxt_input (ed : Ed) (src abbr : Bytes) : ∃ inp, (exTxt ed src abbr).2 = { ed with input := inp } := by
  rw [exTxt_eq]
  split
  · exact ⟨_, rfl⟩
  · split <;> exact ⟨_, rfl⟩

theorem runOne_snd {f : Nat} {ed : Ed} {p : Parsed} {ret : Int} {x : Int × Ed} {rest : Bytes}
    (h : runOne f ed p ret = some (x, rest)) : rest = (exTxt ed p.rest (abbrOf p.idx)).1.2 := by
  unfold runOne at h
  split at h
  · cases h; rfl
  · split at h
    · cases h
    · cases h; rfl

theorem runOne_cmd {f : Nat} {ed : Ed} {p : Parsed} {ret : Int} {a : Bytes} {hd : String} {x : Int × Ed} {rest : Bytes}
    (hi : p.idx = some (a, hd)) (h : runOne f ed p ret = some (x, rest)) :
    runCmd f (exTxt ed p.rest a).2 hd p.loc p.cmd p.arg (exTxt ed p.rest a).1.1 = some x := by
  unfold runOne at h
  simp only [hi, abbrOf] at h
  split at h
  · cases h
  · rename_i hr
    cases h
    exact hr

/-- a known command does not look at the previous return code -/
theorem runOne_ret (f : Nat) (ed : Ed) (p : Parsed) (ret ret' : Int) (h : p.idx.isSome) :
    runOne f ed p ret = runOne f ed p ret' := by
  unfold runOne
  cases hi : p.idx with
  | none => rw [hi] at h; cases h
  | some x => rfl

/-- a known command that takes no text is just dispatched -/
theorem runOne_known (f : Nat) (ed : Ed) (p : Parsed) (ret : Int) (a : Bytes) (hd : String)
    (hi : p.idx = some (a, hd)) (ht : takesText a = false) :
    runOne f ed p ret = (runCmd f ed hd p.loc p.cmd p.arg none).map (fun x => (x, p.rest)) := by
  unfold runOne
  rw [hi]
  simp only [abbrOf, exTxt_noText ed p.rest a ht]
  cases runCmd f ed hd p.loc p.cmd p.arg none with
  | none => rfl
  | some x => rfl

/-- a simple command in pieces: address, letters of the name, `!`/`=`/`@` suffix, blanks, argument -/
structure Cmd1 where
  loc : Bytes
  w : Bytes
  sfx : Bytes
  sp : Bytes
  arg : Bytes

def Cmd1.bytes (c : Cmd1) : Bytes := c.loc ++ c.w ++ c.sfx ++ c.sp ++ c.arg
def Cmd1.cmd (c : Cmd1) : Bytes := c.w ++ c.sfx
/-- what `ex_exec` makes of it when `rest` follows -/
def Cmd1.parsed (c : Cmd1) (rest : Bytes) : Parsed := ⟨c.loc, c.cmd, exIdx c.cmd, c.arg, rest⟩

/-- the command is well-formed in front of `t` (nothing, or `|…`), takes a plain argument, and is not `rs` -/
structure Cmd1.Ok (c : Cmd1) (t : Bytes) : Prop where
  simple : SimpleCmd c.loc c.w c.sfx c.sp c.arg t
  plain : plainAbbr (abbrOf (exIdx c.cmd)) c.arg = true
  notRs : isRs (abbrOf (exIdx c.cmd)) = false

/-- a command that is just an address and a name, in front of `t`; `h` is decidable for a given command -/
theorem Cmd1.ok_name {loc w t : Bytes}
    (h : (∀ c ∈ loc, c ∈ simpleLoc) ∧ (∀ c ∈ w, isAlphaC c = true) ∧ w.length ≤ 16 ∧ (w.headD 0 = 107 → w = [107]) ∧
      w ≠ [] ∧ plainAbbr (abbrOf (exIdx (Cmd1.cmd ⟨loc, w, [], [], []⟩))) [] = true ∧
      isRs (abbrOf (exIdx (Cmd1.cmd ⟨loc, w, [], [], []⟩))) = false)
    (ht : t = [] ∨ ∃ c2, t = 124 :: c2) : (⟨loc, w, [], [], []⟩ : Cmd1).Ok t where
  simple := {
    loc_ok := h.1
    w_alpha := h.2.1
    w_len := h.2.2.1
    w_k := h.2.2.2.1
    sfx_ok := Or.inl rfl
    sp_ok := fun _ h => by cases h
    arg_ok := fun _ h => by cases h
    arg_start := ⟨by simp, by simp⟩
    t_ok := ht
    name_end := fun _ => by
      rcases ht with rfl | ⟨c2, rfl⟩ <;> exact ⟨Or.inr rfl, by simp, by simp, by simp⟩
    bare := fun hw => absurd hw h.2.2.2.2.1 }
  plain := h.2.2.2.2.2.1
  notRs := h.2.2.2.2.2.2

/-- the commands joined by `|` -/
def joinBar : List Cmd1 → Bytes
  | [] => []
  | [c] => c.bytes
  | c :: d :: cs => c.bytes ++ 124 :: joinBar (d :: cs)

/-- every command is well-formed in front of what follows it, and the last one is not empty -/
def LineOk : List Cmd1 → Prop
  | [] => True
  | [c] => c.Ok [] ∧ c.bytes ≠ []
  | c :: d :: cs => c.Ok (124 :: joinBar (d :: cs)) ∧ LineOk (d :: cs)

/-- the reference run of a line: every command in order, none skipped, the return code handed on -/
def runLine (f : Nat) : Ed → List Cmd1 → Int → R Int
  | ed, [], ret => some (ret, ed)
  | ed, c :: cs, ret =>
    match runOne f ed (c.parsed (joinBar cs)) ret with
    | none => none
    | some ((r, ed1), _) => runLine f ed1 cs r

theorem parse1_cmd1 (c : Cmd1) (t : Bytes) (h : c.Ok t) : parse1 (c.bytes ++ t) = c.parsed (t.drop 1) := by
  have := parse1_simple h.simple h.plain
  unfold Cmd1.bytes Cmd1.parsed Cmd1.cmd
  rw [this]

theorem joinBar_length (cs : List Cmd1) : cs.length ≤ (joinBar cs).length + 1 := by
  induction cs with
  | nil => simp
  | cons c cs ih =>
    cases cs with
    | nil => simp
    | cons d ds =>
      simp only [joinBar, List.length_cons, List.length_append] at ih ⊢
      omega

end Neatvi.Lemmas.C06b
