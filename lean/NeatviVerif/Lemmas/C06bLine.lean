import NeatviVerif.Lemmas.C06bExec
/-!
# C06b, lines of commands joined by `|`: the loop of `ex_exec` runs all of them in order

The theorems about lines and scripts ask one thing of a command: that `ex_exec` splits it into exactly its pieces
(`C06d.Parses`; the file declares into `Lemmas.C06d`, the namespace of `Parses` and of its other users).  The simple
commands `Cmd1.Ok` are one class that does (`cmds_line`); the commands with address trees and backslash pairs of
Lemmas/C06dScript.lean are another.
-/
namespace Neatvi.Lemmas.C06d
open Neatvi Neatvi.Ex Neatvi.Lemmas.C06b

/-- `ex_exec` splits `c.bytes ++ t` into the pieces of `c`, leaving `t` without its `|`; and `c` is not `rs` -/
def Parses (c : Cmd1) (t : Bytes) : Prop :=
  parse1 (c.bytes ++ t) = c.parsed (t.drop 1) ∧ isRs (abbrOf (exIdx c.cmd)) = false

/-- every command is split correctly in front of what follows it, and the last one is not empty -/
def LineParses : List Cmd1 → Prop
  | [] => True
  | [c] => Parses c [] ∧ c.bytes ≠ []
  | c :: d :: cs => Parses c (124 :: joinBar (d :: cs)) ∧ LineParses (d :: cs)

theorem lineParses_cons {c : Cmd1} {cs : List Cmd1} (h : LineParses (c :: cs)) :
    ∃ t, joinBar (c :: cs) = c.bytes ++ t ∧ Parses c t ∧ t.drop 1 = joinBar cs ∧ c.bytes ++ t ≠ [] ∧ LineParses cs := by
  cases cs with
  | nil => exact ⟨[], (List.append_nil _).symm, h.1, rfl, by rw [List.append_nil]; exact h.2, trivial⟩
  | cons d ds => exact ⟨124 :: joinBar (d :: ds), rfl, h.1, rfl, by simp, h.2⟩

theorem cmds_line_gen (f : Nat) : ∀ (cs : List Cmd1) (g : Nat) (ed : Ed) (ret : Int),
    LineParses cs → cs.length ≤ g → exExec.cmds f g ed (joinBar cs) ret = runLine f ed cs ret := by
  intro cs
  induction cs with
  | nil => intro g ed ret _ _; rw [joinBar, cmds_nil]; rfl
  | cons c cs ih =>
    intro g ed ret hok hg
    obtain ⟨g, rfl⟩ : ∃ k, g = k + 1 := ⟨g - 1, by simp at hg; omega⟩
    obtain ⟨t, hj, h1, ht, hne, h2⟩ := lineParses_cons hok
    rw [hj, cmds_succ, if_neg (by simpa using hne), h1.1, ht, runLine]
    cases hr : runOne f ed (c.parsed (joinBar cs)) ret with
    | none => rfl
    | some x =>
      obtain ⟨⟨r, ed1⟩, rest⟩ := x
      obtain rfl : rest = joinBar cs := (runOne_snd hr).trans (exTxt_rest_notRs ed _ _ h1.2)
      exact ih g ed1 r h2 (by simp at hg ⊢; omega)

end Neatvi.Lemmas.C06d

namespace Neatvi.Lemmas.C06b
open Neatvi Neatvi.Ex

theorem Cmd1.Ok.parses {c : Cmd1} {t : Bytes} (h : c.Ok t) : C06d.Parses c t := ⟨parse1_cmd1 c t h, h.notRs⟩

theorem LineOk.parses : ∀ {cs : List Cmd1}, LineOk cs → C06d.LineParses cs
  | [], _ => trivial
  | [_], h => ⟨h.1.parses, h.2⟩
  | _ :: _ :: _, h => ⟨h.1.parses, LineOk.parses h.2⟩

theorem cmds_line (f : Nat) (cs : List Cmd1) (g : Nat) (ed : Ed) (ret : Int) (hok : LineOk cs) (hg : cs.length ≤ g) :
    exExec.cmds f g ed (joinBar cs) ret = runLine f ed cs ret :=
  C06d.cmds_line_gen f cs g ed ret hok.parses hg

end Neatvi.Lemmas.C06b
