import NeatviVerif.Lemmas.C06bExec
import NeatviVerif.Lemmas.C05eF
import NeatviVerif.Lemmas.C06Ex
/-!
# C06b, the loop of `ex_exec` makes progress: every iteration shortens the line, so the fuel of the loop
  (`length + 1`) is never the reason it stops

That a parser leaves no more than it was given is read off "taken ++ left = given" (Lemmas/C05eF.lean).
-/
namespace Neatvi.Lemmas.C06b
open Neatvi Neatvi.Ex

theorem drop1_le {α : Type} (l : List α) : (l.drop 1).length ≤ l.length := by simp

theorem le_of_split {x r s : Bytes} (h : x ++ r = s) : r.length ≤ s.length := by
  rw [← h, List.length_append]; omega

theorem exLoc_le (s : Bytes) : (exLoc s).2.length ≤ s.length := (Lemmas.C05e.exLoc_suffix s).length_le

theorem exCmd_le (s : Bytes) : (exCmd s).2.length ≤ s.length :=
  ((List.sublist_append_right _ _).trans (Lemmas.C05e.exCmd_sublist s)).length_le

theorem copyUntil_le (stop : Nat → Bool) (f : Nat) (s acc : Bytes) : (copyUntil stop f s acc).2.length ≤ s.length :=
  let ⟨_, _, h⟩ := Lemmas.C05e.copyUntil_split stop f s acc; le_of_split h

theorem copyUntil_stop (stop : Nat → Bool) : ∀ (f : Nat) (s acc : Bytes), s.length < f →
    (copyUntil stop f s acc).2 = [] ∨ stop ((copyUntil stop f s acc).2.headD 0) = true := by
  intro f
  induction f with
  | zero => intro s acc h; omega
  | succ f ih =>
    intro s acc h
    cases s with
    | nil => rw [copyUntil]; exact Or.inl rfl
    | cons c s =>
      rw [copyUntil]
      split
      · rename_i hs; right; exact hs
      · split
        · exact ih (s.drop 1) _ (by have := drop1_le s; simp only [List.length_cons] at h; omega)
        · exact ih s _ (by simp only [List.length_cons] at h; omega)

theorem copyUntil_acc (stop : Nat → Bool) (f : Nat) (s acc : Bytes) :
    copyUntil stop f s acc = (acc, s) ∨ (copyUntil stop f s acc).2.length < s.length := by
  cases f with
  | zero => left; rw [copyUntil]
  | succ f =>
    cases s with
    | nil => left; rw [copyUntil]
    | cons c s =>
      rw [copyUntil]
      split
      · left; rfl
      · right
        split
        · have := copyUntil_le stop f (s.drop 1) (acc ++ [c, s.headD 0])
          have := drop1_le s
          simp only [List.length_cons]; omega
        · have := copyUntil_le stop f s (acc ++ [c])
          simp only [List.length_cons]; omega

theorem sub_le (d : Nat) (f : Nat) (s acc : Bytes) (cnt : Nat) : (exArg.sub d f s acc cnt).2.length ≤ s.length :=
  let ⟨_, _, h⟩ := Lemmas.C05e.sub_split d f s acc cnt; le_of_split h

theorem argTail_le (src1 : Bytes) :
    (argTail src1).2.length ≤ src1.length ∧ (src1 ≠ [] → (argTail src1).2.length < src1.length) := by
  show
    let p := copyUntil (fun c => c == 10 || c == 124 || c == 34) (src1.length + 1) src1 []
    let s2 := if (p.2.headD 0 == 34) = true then p.2.dropWhile (fun c => c != 10) else p.2
    let s3 := if (s2.headD 0 == 10 || s2.headD 0 == 124) = true then s2.drop 1 else s2
    s3.length ≤ src1.length ∧ (src1 ≠ [] → s3.length < src1.length)
  intro p s2 s3
  have h1 : p.2.length ≤ src1.length := copyUntil_le _ _ _ _
  have h2 : s2.length ≤ p.2.length := by
    show (if (p.2.headD 0 == 34) = true then p.2.dropWhile (fun c => c != 10) else p.2).length ≤ _
    split
    · exact (List.dropWhile_sublist _).length_le
    · exact Nat.le_refl _
  have h3 : s3.length ≤ s2.length := by
    show (if (s2.headD 0 == 10 || s2.headD 0 == 124) = true then s2.drop 1 else s2).length ≤ _
    split
    · exact drop1_le _
    · exact Nat.le_refl _
  refine ⟨by omega, fun hne => ?_⟩
  rcases copyUntil_stop (fun c => c == 10 || c == 124 || c == 34) (src1.length + 1) src1 [] (by omega) with h | h
  · -- everything was copied
    have hp : p.2 = [] := h
    have : src1.length ≠ 0 := by cases src1 with | nil => exact absurd rfl hne | cons _ _ => simp
    have : p.2.length = 0 := by rw [hp]; rfl
    omega
  · -- a stop byte at the head: it is consumed
    have hp : (p.2.headD 0 == 10 || p.2.headD 0 == 124 || p.2.headD 0 == 34) = true := h
    cases hq : p.2 with
    | nil =>
      have : src1.length ≠ 0 := by cases src1 with | nil => exact absurd rfl hne | cons _ _ => simp
      have : p.2.length = 0 := by rw [hq]; rfl
      omega
    | cons x xs =>
      rw [hq] at hp h1
      simp only [List.headD_cons] at hp
      by_cases hx : x = 34
      · -- a comment: dropped up to the newline
        have e2 : s2 = (x :: xs).dropWhile (fun c => c != 10) := by
          show (if (p.2.headD 0 == 34) = true then p.2.dropWhile (fun c => c != 10) else p.2) = _
          rw [hq]; simp [hx]
        have : s2.length ≤ xs.length := by
          rw [e2, hx]
          simp only [List.dropWhile_cons]
          exact (List.dropWhile_sublist _).length_le
        simp only [List.length_cons] at h1
        omega
      · have e2 : s2 = x :: xs := by
          show (if (p.2.headD 0 == 34) = true then p.2.dropWhile (fun c => c != 10) else p.2) = _
          rw [hq]; simp [hx]
        have hx2 : (x == 10 || x == 124) = true := by
          have : (x == 34) = false := by simp [hx]
          simpa [this] using hp
        have e3 : s3 = xs := by
          show (if (s2.headD 0 == 10 || s2.headD 0 == 124) = true then s2.drop 1 else s2) = _
          rw [e2]; simp only [List.headD_cons, hx2, if_true]; rfl
        simp only [List.length_cons] at h1
        rw [e3]; omega

theorem argFirst_le (a src : Bytes) : (argFirst a src).2.length ≤ src.length ∧
    ((argFirst a src).1 = [0, 0, 0, 0] → (argFirst a src).2.length < src.length) := by
  generalize hfirst : argFirst a src = first
  obtain ⟨dst, src1⟩ := first
  unfold argFirst at hfirst
  simp only [] at hfirst ⊢
  rcases C06.ite_eq_cases hfirst with ⟨_, hfirst⟩ | ⟨_, hfirst⟩
  · have h1 := copyUntil_le (fun c => c == 10) (src.length + 1) src []
    rw [hfirst] at h1
    refine ⟨h1, fun hdst => ?_⟩
    rcases copyUntil_acc (fun c => c == 10) (src.length + 1) src [] with h | h
    · rw [hfirst] at h; cases h; cases hdst
    · rw [hfirst] at h; exact h
  · rcases C06.ite_eq_cases hfirst with ⟨_, hfirst⟩ | ⟨_, hfirst⟩
    · rcases C06.ite_eq_cases hfirst with ⟨hc, hfirst⟩ | ⟨_, hfirst⟩
      · have h1 := sub_le (src.headD 0) (src.length + 1) (List.drop 1 src) [src.headD 0] 2
        rw [hfirst] at h1
        have hne : src ≠ [] := by
          intro h0; subst h0; simp at hc
        have : (List.drop 1 src).length < src.length := by
          cases src with
          | nil => exact absurd rfl hne
          | cons x xs => simp
        simp only [] at h1
        exact ⟨by omega, fun _ => by omega⟩
      · cases hfirst; exact ⟨Nat.le_refl _, fun h => by cases h⟩
    · cases hfirst; exact ⟨Nat.le_refl _, fun h => by cases h⟩

theorem exArg_progress (s a : Bytes) : (exArg s a).2.length ≤ s.length ∧ (s ≠ [] → (exArg s a).2.length < s.length) := by
  rw [exArg_eq]
  have hd := (List.dropWhile_sublist (l := s) (fun c => c == 32 || c == 9)).length_le
  generalize s.dropWhile (fun c => c == 32 || c == 9) = src at hd
  have hph := argFirst_le a src
  generalize argFirst a src = p at hph
  obtain ⟨dst, src1⟩ := p
  unfold argThen
  simp only [] at hph ⊢
  split
  · rename_i hq
    have := hph.2 (by simpa using hq)
    simp only []
    exact ⟨by omega, fun _ => by omega⟩
  · have ht := argTail_le src1
    simp only []
    generalize (argTail src1).2 = s3 at ht ⊢
    refine ⟨by omega, fun hne => ?_⟩
    by_cases h1 : src1 = []
    · subst h1
      have : s.length ≠ 0 := by cases s with | nil => exact absurd rfl hne | cons _ _ => simp
      have := ht.1
      simp only [List.length_nil] at this
      omega
    · have := ht.2 h1
      omega

theorem exTxt_le (ed : Ed) (src a : Bytes) : (exTxt ed src a).1.2.length ≤ src.length :=
  (Lemmas.C05e.exTxt_suffix ed src a).length_le

/-- what is left of the line after one command (it does not depend on the state) -/
def restOf (ln : Bytes) : Bytes := (exTxt {} (parse1 ln).rest (abbrOf (parse1 ln).idx)).1.2

theorem exTxt_rest_indep (ed ed' : Ed) (src ex : Bytes) : (exTxt ed src ex).1.2 = (exTxt ed' src ex).1.2 := by
  rw [exTxt_eq, exTxt_eq]
  by_cases h1 : (isRs ex && !src.isEmpty) = true
  · rw [if_pos h1, if_pos h1]
  rw [if_neg h1, if_neg h1]
  by_cases h2 : takesText ex = true
  · rw [if_pos h2, if_pos h2]
  · rw [if_neg h2, if_neg h2]

/-- **progress**: every iteration of the loop of `ex_exec` shortens a non-empty line -/
theorem restOf_lt (ln : Bytes) (h : ln ≠ []) : (restOf ln).length < ln.length := by
  unfold restOf parse1
  dsimp only
  have h1 := exLoc_le ln
  generalize exLoc ln = p1 at h1 ⊢
  have h2 := exCmd_le p1.2
  generalize exCmd p1.2 = p2 at h2 ⊢
  generalize abbrOf (exIdx p2.1) = a
  have h3 := exArg_progress p2.2 a
  generalize exArg p2.2 a = p3 at h3 ⊢
  have h4 := exTxt_le {} p3.2 a
  have hl : ln.length ≠ 0 := fun h0 => h (List.length_eq_zero_iff.mp h0)
  by_cases h0 : p2.2 = []
  · have := h3.1
    rw [h0] at this h2
    simp only [List.length_nil] at this h2
    omega
  · have := h3.2 h0
    omega

theorem runOne_rest (f : Nat) (ed : Ed) (ln : Bytes) (ret : Int) (x : Int × Ed) (rest : Bytes)
    (h : runOne f ed (parse1 ln) ret = some (x, rest)) : rest = restOf ln :=
  (runOne_snd h).trans (exTxt_rest_indep ed {} _ _)

/-- **the fuel of the loop is irrelevant** once it covers the length of the line -/
theorem cmds_fuel (f : Nat) : ∀ (n : Nat) (ln : Bytes), ln.length ≤ n → ∀ (g g' : Nat) (ed : Ed) (ret : Int),
    ln.length ≤ g → ln.length ≤ g' → exExec.cmds f g ed ln ret = exExec.cmds f g' ed ln ret := by
  intro n
  induction n with
  | zero =>
    intro ln hn g g' ed ret _ _
    have : ln = [] := by cases ln with | nil => rfl | cons _ _ => simp at hn
    subst this
    rw [cmds_nil, cmds_nil]
  | succ n ih =>
    intro ln hn g g' ed ret hg hg'
    by_cases hne : ln = []
    · subst hne; rw [cmds_nil, cmds_nil]
    · have hl : ln.length ≠ 0 := by cases ln with | nil => exact absurd rfl hne | cons _ _ => simp
      obtain ⟨g, rfl⟩ : ∃ k, g = k + 1 := ⟨g - 1, by omega⟩
      obtain ⟨g', rfl⟩ : ∃ k, g' = k + 1 := ⟨g' - 1, by omega⟩
      have hemp : ln.isEmpty = false := by cases ln with | nil => exact absurd rfl hne | cons _ _ => rfl
      rw [cmds_succ, cmds_succ, hemp]
      simp only [Bool.false_eq_true, if_false]
      cases hr : runOne f ed (parse1 ln) ret with
      | none => rfl
      | some y =>
        obtain ⟨⟨r, ed1⟩, rest⟩ := y
        have hrest := runOne_rest f ed ln ret (r, ed1) rest hr
        have hlt := restOf_lt ln hne
        rw [← hrest] at hlt
        simp only []
        exact ih rest (by omega) g g' ed1 r (by omega) (by omega)

end Neatvi.Lemmas.C06b
