import NeatviVerif.Lemmas.C06Ex
import NeatviVerif.Lemmas.ExFrame
import NeatviVerif.Props.C01
/-!
# C06b, helpers for `:r`, `:u`, `:redo`: what `pathExpand`, `rd`, `setLb` leave alone
-/
namespace Neatvi.Lemmas.C06b
open Neatvi Neatvi.Lbuf Neatvi.LbufIo Neatvi.Ex Neatvi.Lemmas.C06 Neatvi.Lemmas.Hist

/-- `ed'` is `ed` up to the address side effects (`xrow`, search keyword) and the message line -/
def Quiet (ed ed' : Ed) : Prop :=
  ∃ r k d m, ed' = { ed with xrow := r, xkwd := k, xkwddir := d, msg := m }

theorem Quiet.refl (ed : Ed) : Quiet ed ed := ⟨_, _, _, _, rfl⟩

theorem Quiet.trans {a b c : Ed} (h1 : Quiet a b) (h2 : Quiet b c) : Quiet a c := by
  obtain ⟨r, k, d, m, rfl⟩ := h1
  obtain ⟨r', k', d', m', rfl⟩ := h2
  exact ⟨_, _, _, _, rfl⟩

theorem Quiet.of_addrOnly {a b : Ed} (h : AddrOnly a b) : Quiet a b := by
  obtain ⟨r, k, d, rfl⟩ := h
  exact ⟨_, _, _, _, rfl⟩

theorem Quiet.show (ed : Ed) (m : Bytes) : Quiet ed (ed.show m) := ⟨_, _, _, _, rfl⟩

theorem Quiet.bufs {a b : Ed} (h : Quiet a b) : b.bufs = a.bufs := by
  obtain ⟨_, _, _, _, rfl⟩ := h; rfl
theorem Quiet.lines {a b : Ed} (h : Quiet a b) : lines b = lines a := by
  obtain ⟨_, _, _, _, rfl⟩ := h; rfl
theorem Quiet.len {a b : Ed} (h : Quiet a b) : b.len = a.len := by
  obtain ⟨_, _, _, _, rfl⟩ := h; rfl
theorem Quiet.lb {a b : Ed} (h : Quiet a b) : b.lb = a.lb := by
  obtain ⟨_, _, _, _, rfl⟩ := h; rfl
theorem Quiet.regs {a b : Ed} (h : Quiet a b) : b.regs = a.regs := by
  obtain ⟨_, _, _, _, rfl⟩ := h; rfl
theorem Quiet.files {a b : Ed} (h : Quiet a b) : b.files = a.files := by
  obtain ⟨_, _, _, _, rfl⟩ := h; rfl
theorem Quiet.out {a b : Ed} (h : Quiet a b) : b.out = a.out := by
  obtain ⟨_, _, _, _, rfl⟩ := h; rfl
theorem Quiet.pipes {a b : Ed} (h : Quiet a b) : b.pipes = a.pipes := by
  obtain ⟨_, _, _, _, rfl⟩ := h; rfl

/-- `ex_pathexpand` that yields a path leaves the state alone; one that fails only adds a message -/
theorem pathExpand_cases {ed ed' : Ed} {src : Bytes} {sp : Bool} {r : Option Bytes}
    (h : pathExpand ed src sp = some (r, ed')) :
    (r.isSome → ed' = ed) ∧ (r = none → ed' = ed.show (strOf "pathname \"%\" or \"#\" is not set")) := by
  unfold pathExpand at h
  split at h
  · cases h
  · cases h
    exact ⟨fun h => (by cases h), fun _ => rfl⟩
  · split at h
    · cases h
    · cases h
      exact ⟨fun _ => rfl, fun h => (by cases h)⟩

theorem pathExpand_quiet {ed ed' : Ed} {src : Bytes} {sp : Bool} {r : Option Bytes}
    (h : pathExpand ed src sp = some (r, ed')) : Quiet ed ed' := by
  obtain ⟨h1, h2⟩ := pathExpand_cases h
  cases r with
  | none => rw [h2 rfl]; exact Quiet.show _ _
  | some p => rw [h1 rfl]; exact Quiet.refl _

/-- reading never overflows the string buffer: `lbuf_rd` of one chunk is `lbuf_edit` of the C string read -/
theorem rd_single (lb : Lb) (data : Bytes) (b e : Nat) :
    rd lb [data] false b e = (Lbuf.edit lb (some (cstr data)) b e).map (fun l => (0, l)) := by
  rw [Props.C01.rd_eq, if_neg Bool.false_ne_true, List.flatten_singleton]

/-- any chunking of the file gives the same result -/
theorem rd_chunks (lb : Lb) (chunks : List Bytes) (b e : Nat) :
    rd lb chunks false b e = (Lbuf.edit lb (some (cstr chunks.flatten)) b e).map (fun l => (0, l)) := by
  rw [Props.C01.rd_eq, if_neg Bool.false_ne_true]

theorem cstr_nulfree (s : Bytes) (h : 0 ∉ s) : cstr s = s := by
  unfold cstr
  apply Props.C01.takeWhile_all
  intro x hx
  simp only [ne_eq, decide_not, Bool.not_eq_eq_eq_not, Bool.not_true, decide_eq_false_iff_not]
  intro h0; subst h0; exact h hx

/-- the read step of `ec_read` is `lbuf_edit(xb, text, pos, pos)` on the editor state -/
theorem read_step (ed : Ed) (data : Bytes) (pos : Int) (hp : 0 ≤ pos) (r : Nat) (lb' : Lb)
    (h : ed.lb.bind (fun lb => rd lb [data] false pos.toNat pos.toNat) = some (r, lb')) :
    r = 0 ∧ ed.edit (some (cstr data)) pos pos = some (ed.setLb lb') := by
  cases hlb : ed.lb with
  | none => rw [hlb] at h; cases h
  | some lb =>
    rw [hlb] at h
    simp only [Option.bind_some, rd_single, Option.map_eq_some_iff] at h
    obtain ⟨l, hl, hr⟩ := h
    cases hr
    refine ⟨rfl, ?_⟩
    unfold Ed.edit
    rw [if_neg (by simp; omega), hlb]
    simp [hl]

theorem read_step_total (ed : Ed) (lb : Lb) (data : Bytes) (pos : Int) (hlb : ed.lb = some lb) :
    ∃ lb', ed.lb.bind (fun lb => rd lb [data] false pos.toNat pos.toNat) = some (0, lb') := by
  obtain ⟨lb', h⟩ := edit_total lb (some (cstr data)) pos.toNat pos.toNat (Nat.le_refl _)
  exact ⟨lb', by rw [hlb]; simp [rd_single, h]⟩

/-- only the line buffer of the current buffer differs -/
def OnlyLb (ed ed' : Ed) : Prop :=
  ∃ b lb', ed.cur = some b ∧ ed'.bufs = ed.bufs.set 0 (some { b with lb := lb' })

theorem setLb_onlyLb (ed : Ed) (lb0 lb' : Lb) (h : ed.lb = some lb0) : OnlyLb ed (ed.setLb lb') := by
  unfold Ed.lb at h
  cases hc : ed.cur with
  | none => rw [hc] at h; cases h
  | some b =>
    refine ⟨b, lb', hc, ?_⟩
    unfold Ed.setLb
    rw [hc]
    rfl

theorem OnlyLb.tail {ed ed' : Ed} (h : OnlyLb ed ed') : ed'.bufs.drop 1 = ed.bufs.drop 1 := by
  obtain ⟨b, lb', _, h2⟩ := h
  rw [h2]
  cases ed.bufs <;> simp

theorem OnlyLb.path {ed ed' : Ed} (h : OnlyLb ed ed') : ed'.cur.map (·.path) = ed.cur.map (·.path) := by
  obtain ⟨b, lb', h1, h2⟩ := h
  unfold Ed.cur at *
  rw [h2]
  cases hb : ed.bufs with
  | nil => rw [hb] at h1; simp at h1
  | cons x xs => rw [hb] at h1; simp at h1; subst h1; simp

theorem edit_onlyLb {ed ed' : Ed} {s : Option Bytes} {b e : Int} (h : ed.edit s b e = some ed') : OnlyLb ed ed' := by
  obtain ⟨_, _, lb, lb', h1, _, h3, _⟩ := ExFrame.Ed_edit_some h
  rw [h3]
  exact setLb_onlyLb ed lb lb' h1

theorem setLb_same (ed : Ed) (lb : Lb) (h : ed.lb = some lb) : ed.setLb lb = ed := by
  unfold Ed.lb at h
  cases hc : ed.cur with
  | none => rw [hc] at h; cases h
  | some b =>
    rw [hc] at h
    simp only [Option.map_some, Option.some.injEq] at h
    unfold Ed.setLb
    rw [hc]
    unfold Ed.cur at hc
    have hb : ed.bufs.set 0 (some { b with lb := lb }) = ed.bufs := by
      subst h
      cases hbs : ed.bufs with
      | nil => rfl
      | cons x xs => rw [hbs] at hc; simp at hc; subst hc; rfl
    show ({ ed with bufs := ed.bufs.set 0 (some { b with lb := lb }) } : Ed) = ed
    rw [hb]

/-- the bump of the sequence counter at the end of `ex_command` does not touch the text -/
theorem modifiedAt0_lines (ed : Ed) : lines (ed.modifiedAt 0).2 = lines ed := by
  unfold lines
  rw [ExFrame.modifiedAt0_lb]
  cases ed.lb <;> rfl

end Neatvi.Lemmas.C06b
