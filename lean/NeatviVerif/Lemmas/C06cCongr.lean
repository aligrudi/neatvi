import NeatviVerif.Lemmas.C06cGuard
import NeatviVerif.Lemmas.C05bEx
import NeatviVerif.Lemmas.C20cStages
/-!
# C06c, helpers: address evaluation and `ex_pathexpand` do not see what the guard of `ec_exec` changed

`exRegion`, run in a state `y` that shows the same text, marks, current row, search keyword and `ic` option as `x`,
returns what it returns in `x`, with the same address side effects.
-/
namespace Neatvi.Lemmas.C06c
open Neatvi Neatvi.Lbuf Neatvi.Ex Neatvi.Lemmas.C06 Neatvi.Lemmas.C06b Neatvi.Lemmas.C05b

/-- `y` shows the same text, marks, current row, search keyword and `ic` option as `x` -/
structure SameAddr (x y : Ed) : Prop where
  xrow : y.xrow = x.xrow
  xkwd : y.xkwd = x.xkwd
  xkwddir : y.xkwddir = x.xkwddir
  xic : y.xic = x.xic
  len : y.len = x.len
  line : ∀ i, y.line i = x.line i
  jump : ∀ c, y.lb.bind (fun l => jump l c) = x.lb.bind (fun l => jump l c)

/-- carry the address side effects of `x'` over to `y` -/
def carry (y x' : Ed) : Ed := { y with xrow := x'.xrow, xkwd := x'.xkwd, xkwddir := x'.xkwddir }

theorem carry_self {x y : Ed} (h : SameAddr x y) : carry y x = y := by
  unfold carry
  rw [← h.xrow, ← h.xkwd, ← h.xkwddir]

theorem carry_carry (y x' x'' : Ed) : carry (carry y x') x'' = carry y x'' := rfl

theorem sameAddr_carry {x y x' : Ed} (h : SameAddr x y) (ha : AddrOnly x x') : SameAddr x' (carry y x') := by
  obtain ⟨r, k, d, rfl⟩ := ha
  exact ⟨rfl, rfl, rfl, h.xic, h.len, h.line, h.jump⟩

theorem carry_addrOnly (y x' : Ed) : AddrOnly y (carry y x') := ⟨_, _, _, rfl⟩

theorem scan_congr {x y : Ed} (h : SameAddr x y) (re : Rset.RStr) (dir len : Int) :
    ∀ (f : Nat) (row : Int), exSearch.scan y re dir len f row = exSearch.scan x re dir len f row := by
  intro f
  induction f with
  | zero => intro row; rfl
  | succ f ih =>
    intro row
    rw [exSearch.scan, exSearch.scan, h.line row]
    split
    · rfl
    · split
      · rfl
      · split
        · rfl
        · split
          · rfl
          · rw [ih]

theorem kwEd_congr {x y : Ed} (h : SameAddr x y) (kw : Option Bytes) (d : Int) :
    kwEd y kw d = carry y (kwEd x kw d) := by
  unfold kwEd
  split
  · split
    · unfold Ed.kwdSet carry
      simp only []
      rw [← h.xrow]
    · exact (carry_self h).symm
  · exact (carry_self h).symm

theorem exSearch_congr {x y : Ed} (h : SameAddr x y) (loc : Bytes) :
    exSearch y loc = (exSearch x loc).map (fun p => (p.1, carry y p.2)) := by
  rw [exSearch_eq, exSearch_eq, kwEd_congr h]
  have ha : AddrOnly x (kwEd x (reRead loc).1 (if loc.headD 0 == 47 then 1 else -1)) := kw_addrOnly _ _ _
  generalize kwEd x (reRead loc).1 (if loc.headD 0 == 47 then 1 else -1) = x1 at ha
  have h1 := sameAddr_carry h ha
  simp only []
  rw [h1.xkwddir]
  split
  · rfl
  · have hre : (carry y x1).mkRe (carry y x1).xkwd = x1.mkRe x1.xkwd := by
      unfold Ed.mkRe; rw [h1.xic, h1.xkwd]
    rw [hre]
    split
    · rfl
    · rfl
    · rw [h1.len, h1.xrow, scan_congr h1]
      split <;> rfl

theorem ite_map {α β : Type} {c : Prop} [Decidable c] {f : α → β} {a b : Option β} {a' b' : Option α}
    (h1 : a = a'.map f) (h2 : b = b'.map f) : (if c then a else b) = (if c then a' else b').map f := by
  split <;> assumption

theorem exLinenoBase_congr {x y : Ed} (h : SameAddr x y) (loc : Bytes) :
    exLinenoBase y loc = (exLinenoBase x loc).map (fun p => (p.1, carry y p.2)) := by
  have hs := carry_self h
  unfold exLinenoBase
  refine ite_map ?_ (ite_map ?_ (ite_map ?_ (ite_map ?_ (ite_map ?_ ?_))))
  · rw [h.xrow, Option.map_some, hs]
  · rw [h.len, Option.map_some, hs]
  · rw [h.jump]
    cases x.lb.bind (fun l => jump l (loc.getD 1 0)) <;> rw [Option.map_some, hs]
  · rw [exSearch_congr h]
    cases exSearch x loc with
    | none => rfl
    | some p => exact ite_map rfl rfl
  · rw [Option.map_some, hs]
  · rw [h.xrow, Option.map_some, hs]

theorem exLineno_congr {x y : Ed} (h : SameAddr x y) (loc : Bytes) :
    exLineno y loc = (exLineno x loc).map (fun p => (p.1, carry y p.2)) := by
  rw [exLineno_eq, exLineno_eq, exLinenoBase_congr h]
  cases exLinenoBase x loc with
  | none => rfl
  | some p =>
    obtain ⟨⟨n, rest⟩, x1⟩ := p
    simp only [Option.map_some]
    split <;> rfl

theorem go_congr : ∀ (f : Nat) (x y : Ed), SameAddr x y → ∀ (loc : Bytes) (na : Nat) (b e : Int),
    exRegion.go f y loc na b e = (exRegion.go f x loc na b e).map (fun p => (p.1, carry y p.2)) := by
  intro f
  induction f with
  | zero =>
    intro x y h loc na b e
    simp only [exRegion.go, Option.map_some, carry_self h]
  | succ f ih =>
    intro x y h loc na b e
    rw [exRegion.go, exRegion.go, exLineno_congr h]
    refine ite_map (by rw [Option.map_some, carry_self h]) ?_
    cases hl : exLineno x loc with
    | none => rfl
    | some p =>
      obtain ⟨⟨n, rest⟩, x1⟩ := p
      have h1 := sameAddr_carry h (exLineno_addrOnly _ _ _ _ hl)
      refine ite_map rfl (ite_map rfl ?_)
      by_cases hsc : ((rest.dropWhile (fun c => c != 59 && c != 44)).headD 0 == 59) = true
      · have h2 : SameAddr { x1 with xrow := n + 1 - 1 } { carry y x1 with xrow := n + 1 - 1 } :=
          ⟨rfl, h1.xkwd, h1.xkwddir, h1.xic, h1.len, h1.line, h1.jump⟩
        rw [if_pos hsc, if_pos hsc, ih _ _ h2]
        rfl
      · rw [if_neg hsc, if_neg hsc, ih _ _ h1]
        rfl
/-- **address evaluation only looks at the text, the marks, the current row, the keyword and `ic`** -/
theorem exRegion_congr {x y : Ed} (h : SameAddr x y) (loc : Bytes) :
    exRegion y loc = (exRegion x loc).map (fun p => (p.1, carry y p.2)) := by
  have hs := carry_self h
  by_cases hne : loc = []
  · rw [hne, exRegion_nil, exRegion_nil, h.len, h.xrow, Option.map_some, hs]
  by_cases h37 : loc = [37]
  · rw [h37, exRegion_percent, exRegion_percent, h.len, Option.map_some, hs]
  rw [exRegion_addr y hne h37, exRegion_addr x hne h37, go_congr _ _ _ h]
  cases hg : exRegion.go (loc.length + 1) x loc 0 0 0 with
  | none => rfl
  | some p =>
    have h1 := sameAddr_carry h (go_addrOnly _ _ _ _ _ _ _ _ hg)
    simp only [Option.map_some, h1.len]

theorem GuardFrame.lb {ed edg : Ed} (h : GuardFrame ed edg) :
    edg.lb = ed.lb ∨ edg.lb = ed.lb.map (fun l => (modified l).2) := by
  rcases h.bufs with hb | hb
  · exact Or.inl (ExFrame.lb_of_bufs hb)
  · right; rw [ExFrame.lb_of_bufs hb, Lemmas.ExFrame.modifiedAt0_lb]

theorem GuardFrame.sameAddr {ed edg : Ed} (h : GuardFrame ed edg) : SameAddr ed edg := by
  have hf := h.fields
  refine ⟨by rw [hf], by rw [hf], by rw [hf], by rw [hf], h.len, ?_, ?_⟩
  · intro i
    unfold Ed.line
    rcases h.lb with hl | hl <;> rw [hl]
    cases ed.lb <;> rfl
  · intro c
    rcases h.lb with hl | hl <;> rw [hl]
    cases ed.lb <;> rfl

/-- the paths of the buffer table -/
def SamePaths (x y : Ed) : Prop :=
  ∀ i, (y.bufs.getD i none).map (·.path) = (x.bufs.getD i none).map (·.path)

theorem SamePaths.set {ed : Ed} {i : Nat} {b b' : Buf} (hb : ed.bufs.getD i none = some b) (hp : b'.path = b.path) :
    SamePaths ed { ed with bufs := ed.bufs.set i (some b') } := by
  intro j
  by_cases hij : i = j
  · subst hij
    show ((ed.bufs.set i (some b')).getD i none).map (·.path) = _
    rw [C02Ex.getD_set_self _ _ _ (C02Ex.getD_some hb).1, hb]
    simp [hp]
  · show ((ed.bufs.set i (some b')).getD j none).map (·.path) = _
    rw [C02Ex.getD_set_ne _ _ _ _ hij]

theorem modifiedAt_samePaths (ed : Ed) (idx : Nat) : SamePaths ed (ed.modifiedAt idx).2 :=
  C02Ex.modifiedAt_cases (P := SamePaths ed) ed idx (fun _ => rfl) (fun _ hb => SamePaths.set hb rfl)

theorem GuardFrame.samePaths {ed edg : Ed} (h : GuardFrame ed edg) : SamePaths ed edg := by
  rcases h.bufs with hb | hb
  · exact fun i => by rw [hb]
  · exact fun i => by rw [hb]; exact modifiedAt_samePaths ed 0 i

theorem map_path_cases {a b : Option Buf} (h : a.map (·.path) = b.map (·.path)) :
    (a = none ∧ b = none) ∨ ∃ p q, a = some p ∧ b = some q ∧ p.path = q.path := by
  cases a <;> cases b <;> simp_all

/-- the loop of `ex_pathexpand` reads the paths of the current buffer (`%`) and of the alternate one (`#`) only -/
theorem pathExpand_go_congr {x y : Ed}
    (h : ∀ i, i ≤ 1 → (y.bufs.getD i none).map (·.path) = (x.bufs.getD i none).map (·.path)) (sp : Bool) :
    ∀ (f : Nat) (src dst : Bytes), pathExpand.go y sp f src dst = pathExpand.go x sp f src dst := by
  intro f
  induction f with
  | zero => intro src dst; rfl
  | succ f ih =>
    intro src dst
    cases src with
    | nil => rfl
    | cons c r =>
      rw [pathExpand.go, pathExpand.go]
      refine ite_congr rfl (fun _ => rfl) fun _ => ite_congr rfl (fun _ => ?_) fun _ =>
        ite_congr rfl (fun _ => ?_) fun _ => ite_congr rfl (fun _ => ih _ _) fun _ => ih _ _
      · rcases map_path_cases (h (if (c == 35) = true then 1 else 0) (by split <;> omega)) with ⟨hy, hx⟩ | ⟨p, q, hy, hx, hpq⟩
        · rw [hy, hx]
        · rw [hy, hx]
          simp only [hpq, ih]
      · rcases map_path_cases (h 0 (by omega)) with ⟨hy, hx⟩ | ⟨p, q, hy, hx, hpq⟩
        · rw [show y.cur = none from hy, show x.cur = none from hx, ih]
        · rw [show y.cur = some p from hy, show x.cur = some q from hx]
          simp only [hpq, ih]
/-- **`ex_pathexpand` only looks at the paths of the buffer table** -/
theorem pathExpand_congr {x y : Ed} (h : SamePaths x y) (src : Bytes) (sp : Bool) (p : Bytes) :
    pathExpand y src sp = some (some p, y) ↔ pathExpand x src sp = some (some p, x) := by
  rw [Lemmas.C20c.pathExpand_eq, Lemmas.C20c.pathExpand_eq, pathExpand_go_congr fun i _ => h i,
    Lemmas.C20c.pathFin_some_iff, Lemmas.C20c.pathFin_some_iff]
  exact ⟨fun a => ⟨a.1, a.2.1, rfl⟩, fun a => ⟨a.1, a.2.1, rfl⟩⟩

theorem pathExpand_congr_none {x y : Ed} (h : SamePaths x y) (src : Bytes) (sp : Bool) :
    (∃ y', pathExpand y src sp = some (none, y')) ↔ (∃ x', pathExpand x src sp = some (none, x')) := by
  simp only [Lemmas.C20c.pathExpand_eq]
  rw [pathExpand_go_congr fun i _ => h i, Lemmas.C20c.pathFin_none_iff, Lemmas.C20c.pathFin_none_iff]

end Neatvi.Lemmas.C06c
