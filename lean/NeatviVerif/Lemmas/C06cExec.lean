import NeatviVerif.Lemmas.Basics
import NeatviVerif.Lemmas.C06cGuard
import NeatviVerif.Lemmas.C20Dispatch
import NeatviVerif.Lemmas.C20cStages
/-!
# C06c, helpers: the shape of `ec_exec`, the pipe oracle, the closed shell
-/
namespace Neatvi.Lemmas.C06c
open Neatvi Neatvi.Lbuf Neatvi.LbufIo Neatvi.Ex Neatvi.Lemmas.C06 Neatvi.Lemmas.C06b
open Neatvi.Lemmas.Hist (optLines)

/-- `ec_exec` as the model runs it: guard, expansion of the command text, address, pipe, edit -/
theorem ec_exec_eq (f : Nat) (ed : Ed) (loc cmd arg : Bytes) (txt : Option Bytes) :
    runCmd (f + 1) ed "ec_exec" loc cmd arg txt =
      match execGuard ed with
      | none => none
      | some (true, ed) => some (1, ed)
      | some (false, ed) =>
        match pathExpand ed arg true with
        | none => none
        | some (none, ed) => some (1, ed)
        | some (some ecmd, ed) =>
          if loc.isEmpty then some (0, { ed with unmodelled := true }) else
          match exRegion ed loc with
          | none => none
          | some ((rc, b, e), ed) =>
            if rc != 0 then some (1, ed) else
            match ed.pipe ecmd (ed.cp b e) with
            | none => some (0, { ed with unmodelled := true })
            | some none => some (0, ed)
            | some (some rep) => (ed.edit (some rep) b e).map (fun ed => (0, ed)) := by
  rw [C20.runCmd_eq]
  simp only [String.reduceBEq, Bool.false_eq_true, ↓reduceIte, Bool.or_self]
  rfl

/-- the oracle always answers (the branch `unmodelled` of the filter is dead) -/
theorem pipe_ne_none (ed : Ed) (cmd input : Bytes) : ed.pipe cmd input ≠ none := by
  unfold Ed.pipe; split <;> simp

theorem pipe_congr {ed ed' : Ed} (h : ed'.pipes = ed.pipes) (cmd input : Bytes) :
    ed'.pipe cmd input = ed.pipe cmd input := by
  unfold Ed.pipe; rw [h]

/-- no explicit table entry for the command `cmd`, whatever the input -/
def NoEntry (ed : Ed) (cmd : Bytes) : Prop := ∀ p ∈ ed.pipes, p.1 ≠ cmd

theorem noEntry_of_nil {ed : Ed} (h : ed.pipes = []) (cmd : Bytes) : NoEntry ed cmd := by
  intro p hp; rw [h] at hp; cases hp

/-- without a table entry the closed shell of the harness answers -/
theorem pipe_noEntry {ed : Ed} {cmd : Bytes} (h : NoEntry ed cmd) (input : Bytes) :
    ed.pipe cmd input = some (some (builtinPipe cmd input)) := by
  unfold Ed.pipe
  have : ed.pipes.find? (fun p => p.1 == cmd && p.2.1 == input) = none := by
    rw [List.find?_eq_none]
    intro p hp
    have := h p hp
    simp [this]
  rw [this]

/-- what `tr a-z A-Z` does to a byte -/
def upperC (c : Nat) : Nat := if 97 ≤ c && c ≤ 122 then c - 32 else c

/-- what `sed 1q` answers: the first line of its input -/
def sedFirst (input : Bytes) : Bytes :=
  let l := input.takeWhile (· != 10); if l.length < input.length then l ++ [10] else l

theorem strOf_cat : strOf "cat" = [99, 97, 116] := by decide +kernel
theorem strOf_tr : strOf "tr a-z A-Z" = [116, 114, 32, 97, 45, 122, 32, 65, 45, 90] := by decide +kernel
theorem strOf_sed : strOf "sed 1q" = [115, 101, 100, 32, 49, 113] := by decide +kernel
theorem strOf_true : strOf "true" = [116, 114, 117, 101] := by decide +kernel
theorem strOf_printf : strOf "printf x" = [112, 114, 105, 110, 116, 102, 32, 120] := by decide +kernel

theorem builtin_cat (input : Bytes) : builtinPipe (strOf "cat") input = input := by
  unfold builtinPipe; simp

theorem builtin_tr (input : Bytes) : builtinPipe (strOf "tr a-z A-Z") input = input.map upperC := by
  unfold builtinPipe
  simp only [strOf_cat, strOf_tr]
  rw [if_neg (by decide), if_pos (by decide)]
  rfl

theorem builtin_printf (input : Bytes) : builtinPipe (strOf "printf x") input = [120] := by
  unfold builtinPipe
  simp only [strOf_cat, strOf_tr, strOf_printf]
  rw [if_neg (by decide), if_neg (by decide), if_pos (by decide)]

theorem builtin_sed (input : Bytes) : builtinPipe (strOf "sed 1q") input = sedFirst input := by
  unfold builtinPipe
  simp only [strOf_cat, strOf_tr, strOf_printf, strOf_sed]
  rw [if_neg (by decide), if_neg (by decide), if_neg (by decide), if_pos (by decide)]
  rfl

/-- a command the closed shell does not interpret (`true` is one of them) produces no output -/
def Unknown (cmd : Bytes) : Prop :=
  cmd ≠ strOf "cat" ∧ cmd ≠ strOf "tr a-z A-Z" ∧ cmd ≠ strOf "printf x" ∧ cmd ≠ strOf "sed 1q"

theorem builtin_unknown {cmd : Bytes} (h : Unknown cmd) (input : Bytes) : builtinPipe cmd input = [] := by
  obtain ⟨h1, h2, h3, h4⟩ := h
  unfold builtinPipe
  simp [h1, h2, h3, h4]

theorem unknown_true : Unknown (strOf "true") := by
  simp only [Unknown, strOf_cat, strOf_tr, strOf_printf, strOf_sed, strOf_true]
  decide

/-! ### splitting what the closed shell answers on well-formed lines -/
open Neatvi.Props.C01 (WfLine split_of_join)

theorem upperC_ne10 (c : Nat) (h : c ≠ 10) : upperC c ≠ 10 := by
  unfold upperC
  split
  · rename_i hc
    simp only [Bool.and_eq_true, decide_eq_true_eq] at hc
    omega
  · exact h

theorem upperC_10 : upperC 10 = 10 := by decide

theorem wf_map_upper (l : Bytes) (h : WfLine l) : WfLine (l.map upperC) := by
  obtain ⟨w, rfl, hw⟩ := h
  refine ⟨w.map upperC, by simp [upperC_10], ?_⟩
  intro hm
  rw [List.mem_map] at hm
  obtain ⟨c, hc, h10⟩ := hm
  exact upperC_ne10 c (fun h => hw (h ▸ hc)) h10

theorem split_tr (L : List Bytes) (h : ∀ l ∈ L, WfLine l) :
    splitLines (L.flatten.map upperC) = L.map (fun l => l.map upperC) := by
  rw [List.map_flatten]
  apply split_of_join
  intro l hl
  rw [List.mem_map] at hl
  obtain ⟨l0, hl0, rfl⟩ := hl
  exact wf_map_upper l0 (h l0 hl0)

theorem split_sed (L : List Bytes) (h : ∀ l ∈ L, WfLine l) : splitLines (sedFirst L.flatten) = L.take 1 := by
  cases L with
  | nil => rfl
  | cons l L =>
    obtain ⟨w, rfl, hw⟩ := h l (by simp)
    have : sedFirst ((w ++ [10]) :: L).flatten = w ++ [10] := by
      unfold sedFirst
      simp only [List.flatten_cons, List.append_assoc, List.singleton_append]
      rw [Basics.takeWhile_ne w _ 10 hw, if_pos (by simp)]
    rw [this]
    have := split_of_join [w ++ [10]] (by intro l hl; simp at hl; subst hl; exact ⟨w, rfl, hw⟩)
    simpa using this

/-! ### `ex_pathexpand` on a command text without `%`, `#`, `=`, backslash, newline -/

/-- a command text `ex_pathexpand` copies as it is -/
def PlainArg (arg : Bytes) : Prop := ∀ c ∈ arg, c ≠ 10 ∧ c ≠ 37 ∧ c ≠ 35 ∧ c ≠ 61 ∧ c ≠ 92

theorem pathExpand_go_plain (ed : Ed) : ∀ (f : Nat) (src dst : Bytes), src.length < f → PlainArg src →
    pathExpand.go ed true f src dst = some (some (dst ++ src)) := by
  intro f
  induction f with
  | zero => intro src dst h; omega
  | succ f ih =>
    intro src dst hl hp
    cases src with
    | nil => simp [pathExpand.go]
    | cons c r =>
      obtain ⟨h1, h2, h3, h4, h5⟩ := hp c (by simp)
      rw [pathExpand.go]
      have ih' := ih r (dst ++ [c]) (by simp at hl; omega) (fun x hx => hp x (by simp [hx]))
      simp [h1, h2, h3, h4, h5, ih']

theorem pathExpand_plain (ed : Ed) (arg : Bytes) (hp : PlainArg arg) (hl : arg.length < 1000) :
    pathExpand ed arg true = some (some arg, ed) := by
  rw [Lemmas.C20c.pathExpand_eq, pathExpand_go_plain ed _ arg [] (by omega) hp, List.nil_append, Lemmas.C20c.pathFin_some ed hl]

theorem plain_cat : PlainArg (strOf "cat") := by rw [strOf_cat]; unfold PlainArg; decide
theorem plain_tr : PlainArg (strOf "tr a-z A-Z") := by rw [strOf_tr]; unfold PlainArg; decide
theorem plain_sed : PlainArg (strOf "sed 1q") := by rw [strOf_sed]; unfold PlainArg; decide
theorem plain_true : PlainArg (strOf "true") := by rw [strOf_true]; unfold PlainArg; decide
theorem plain_printf : PlainArg (strOf "printf x") := by rw [strOf_printf]; unfold PlainArg; decide

end Neatvi.Lemmas.C06c
