import NeatviVerif.Lemmas.C06bRead
import NeatviVerif.Lemmas.C20cFrame
/-!
# C06c, helpers: what the unsaved-changes guard of `ec_exec` (`bufs_modified`) may change
-/
namespace Neatvi.Lemmas.C06c
open Neatvi Neatvi.Lbuf Neatvi.LbufIo Neatvi.Ex Neatvi.Lemmas.C06 Neatvi.Lemmas.C06b

/-- the unsaved-changes guard of `ec_exec`: `if (!xwa && bufs_modified(0, "buffer modified")) return 1;` -/
def execGuard (ed : Ed) : R Bool :=
  if ed.xwa == 0 then bufsModified ed 0 (some (strOf "buffer modified")) else some (false, ed)

/-- what the guard may change: the sequence counter of the current buffer (`lbuf_modified` bumps it: the buffer
    table is either the same or the one `Ed.modifiedAt 0` produces), with autowrite the file system, and the
    message line.  Everything else — the text, the registers, the current row, the search keyword, the options, the
    pipe table, the output, the pending input — is the same. -/
structure GuardFrame (ed edg : Ed) : Prop where
  fields : edg = { ed with bufs := edg.bufs, files := edg.files, clock := edg.clock, calls := edg.calls,
                           fired := edg.fired, msg := edg.msg }
  bufs : edg.bufs = ed.bufs ∨ edg.bufs = (ed.modifiedAt 0).2.bufs

theorem GuardFrame.refl (ed : Ed) : GuardFrame ed ed := ⟨rfl, Or.inl rfl⟩

theorem lines_of_bufs {ed ed' : Ed} (h : ed'.bufs = ed.bufs) : lines ed' = lines ed := by
  unfold lines; rw [ExFrame.lb_of_bufs h]

theorem GuardFrame.lines {ed edg : Ed} (h : GuardFrame ed edg) : lines edg = lines ed := by
  rcases h.bufs with hb | hb
  · exact lines_of_bufs hb
  · rw [lines_of_bufs hb, modifiedAt0_lines]

theorem GuardFrame.len {ed edg : Ed} (h : GuardFrame ed edg) : edg.len = ed.len := by
  rw [len_eq, len_eq, h.lines]

theorem GuardFrame.pipes {ed edg : Ed} (h : GuardFrame ed edg) : edg.pipes = ed.pipes := by rw [h.fields]
theorem GuardFrame.regs {ed edg : Ed} (h : GuardFrame ed edg) : edg.regs = ed.regs := by rw [h.fields]
theorem GuardFrame.xrow {ed edg : Ed} (h : GuardFrame ed edg) : edg.xrow = ed.xrow := by rw [h.fields]
theorem GuardFrame.out {ed edg : Ed} (h : GuardFrame ed edg) : edg.out = ed.out := by rw [h.fields]
theorem GuardFrame.input {ed edg : Ed} (h : GuardFrame ed edg) : edg.input = ed.input := by rw [h.fields]
theorem GuardFrame.unmodelled {ed edg : Ed} (h : GuardFrame ed edg) : edg.unmodelled = ed.unmodelled := by
  rw [h.fields]

/-- `bufs_modified(0, msg)`, whatever its outcome and whatever the options: each of the outcomes that
    `bufsModified_shape` lists is the bumped state up to the file system and the message line -/
theorem bufsModified0_frame (ed edg : Ed) (msg : Option Bytes) (r : Bool)
    (h : bufsModified ed 0 msg = some (r, edg)) : GuardFrame ed edg := by
  rcases C20c.bufsModified_shape ed edg 0 msg r h with ⟨_, rfl, _⟩ | ⟨b, hb, hc⟩
  · exact GuardFrame.refl _
  have hbump : (C02Ex.bumpAt ed 0 b).bufs = (ed.modifiedAt 0).2.bufs := by
    simp only [Ed.modifiedAt, hb, C02Ex.bumpAt]
  rcases hc with ⟨rfl, _⟩ | ⟨_, _, _, rfl⟩ | ⟨_, _, _, _, _, _, rfl⟩
  · exact ⟨rfl, Or.inr hbump⟩
  · cases msg <;> exact ⟨rfl, Or.inr hbump⟩
  · exact ⟨rfl, Or.inr hbump⟩

theorem execGuard_frame (ed edg : Ed) (r : Bool) (h : execGuard ed = some (r, edg)) : GuardFrame ed edg := by
  unfold execGuard at h
  split at h
  · exact bufsModified0_frame _ _ _ _ h
  · cases h; exact GuardFrame.refl _

/-- with `wa` set the guard is off -/
theorem execGuard_wa (ed : Ed) (h : ed.xwa ≠ 0) : execGuard ed = some (false, ed) := by
  unfold execGuard
  rw [if_neg (by simpa using h)]

end Neatvi.Lemmas.C06c
