import NeatviVerif.Lemmas.C06dRegion
import NeatviVerif.Lemmas.C02bCmd
import NeatviVerif.Props.C06c
/-!
# C06d: the line commands with the region given by the reference address semantics
-/
namespace Neatvi.Lemmas.C06d
open Neatvi Neatvi.Lbuf Neatvi.Ex Neatvi.Rset Neatvi.Lemmas.C06 Neatvi.Lemmas.C06b

/-- a result of `ex_region` on a rendered location is the reference's result -/
theorem region_transfer (ed : Ed) (loc : Loc) (hok : loc.Ok) (hx : ed.xrow ≠ -1000000) (r : Nat) (b e : Int) (ed1 : Ed)
    (h : exRegion ed loc.render = some ((r, b, e), ed1)) :
    ∃ c1, refRegion (worldOf ed) (cursorOf ed) loc = some ((r, b, e), c1) ∧ ed1 = withCursor ed c1 := by
  rw [exRegion_ref ed loc hok hx] at h
  cases hr : refRegion (worldOf ed) (cursorOf ed) loc with
  | none => rw [hr] at h; cases h
  | some x =>
    obtain ⟨y, c1⟩ := x
    rw [hr] at h
    simp only [Option.map_some, Option.some.injEq, Prod.mk.injEq] at h
    exact ⟨c1, by rw [h.1], h.2.symm⟩

/-- the reference region of a location in state `ed` (`(0, 0)` when the evaluation does not end) -/
def refRegionOf (ed : Ed) (loc : Loc) : Int × Int :=
  match refRegion (worldOf ed) (cursorOf ed) loc with
  | some ((_, b, e), _) => (b, e)
  | none => (0, 0)

theorem regionOf_ref (ed : Ed) (loc : Loc) (hok : loc.Ok) (hx : ed.xrow ≠ -1000000) :
    Props.C06b.regionOf ed loc.render = refRegionOf ed loc := by
  unfold Props.C06b.regionOf refRegionOf
  rw [exRegion_ref ed loc hok hx]
  cases refRegion (worldOf ed) (cursorOf ed) loc with
  | none => rfl
  | some x => rfl

theorem lines_setCur (ed : Ed) (b b' : Buf) (h : ed.cur = some b) (hl : b'.lb.lines = b.lb.lines) :
    lines (ed.setCur b') = lines ed := by
  unfold lines Ed.lb
  rw [ExFrame.cur_some_set ed b b' h, h]
  simp [hl]

theorem lines_of_bufs' {ed ed' : Ed} (h : ed'.bufs = ed.bufs) : lines ed' = lines ed := Lemmas.C06c.lines_of_bufs h

theorem cur_of_bufs {ed ed' : Ed} (h : ed'.bufs = ed.bufs) : ed'.cur = ed.cur := by
  unfold Ed.cur; rw [h]

theorem lines_of_cur {ed : Ed} {b : Buf} (h : ed.cur = some b) : lines ed = b.lb.lines := by
  unfold lines Ed.lb; rw [h]; rfl

theorem writeFinish_lines (ed ed' : Ed) (cur : Buf) (path : Bytes) (b e r : Int) (hc : ed.cur = some cur)
    (h : Lemmas.C02Ex.writeFinish ed cur path b e = some (r, ed')) : lines ed' = lines ed := by
  obtain ⟨c3, ed6, hl, h36, h3⟩ := Lemmas.C02Ex.writeFinish_cases h
  -- naming the buffer (and setting register `%`) touches neither the lines nor which buffer is current
  have h6 : ed6.cur = some cur ∧ lines ed6 = lines ed := by
    rcases h36 with ⟨_, e⟩ | ⟨_, e⟩ <;> rw [e] <;> exact ⟨hc, rfl⟩
  -- in each of the three outcomes the new buffer has the lines of `c3`
  have hset : ∀ lb t, lb.lines = c3.lb.lines → lines (ed6.setCur { c3 with lb := lb, mtime := t }) = lines ed :=
    fun lb t hlb => (lines_setCur ed6 cur _ h6.1 (hlb.trans (congrArg (·.lines) hl))).trans h6.2
  rcases h3 with ⟨_, _, _, e⟩ | e | e <;> rw [e]
  · exact hset _ _ rfl
  · exact hset _ _ rfl
  · exact lines_setCur ed cur cur hc rfl

/-- `:w` (any address, any argument, any outcome) does not change a line of the buffer -/
theorem ecWrite_lines (ed ed' : Ed) (loc cmd arg : Bytes) (rc : Int) (h : ecWrite ed loc cmd arg = some (rc, ed')) :
    lines ed' = lines ed := by
  obtain ⟨path, ed1, hp, ed2, h2, h3⟩ := Lemmas.C02b.ecWrite_cases h
  have l1 : lines ed1 = lines ed := by
    rcases ite_eq_cases hp with ⟨_, hp⟩ | ⟨_, hp⟩
    · exact Lemmas.C06c.lines_of_bufs (Lemmas.C02Ex.pathExpand_bufs _ _ _ _ _ hp)
    · cases hp; rfl
  have l2 : lines ed2 = lines ed := by
    rcases h2 with rfl | ⟨_, rfl⟩
    · exact l1
    · rw [modifiedAt0_lines]; exact l1
  rcases h3 with rfl | ⟨⟨r, b0, e0⟩, ed3, hreg, h3⟩
  · exact l2
  have l3 : lines ed3 = lines ed := (region_all _ _ _ _ _ _ hreg).1.lines.trans l2
  rcases h3 with rfl | ⟨p, cur, b, e, _, hcur, hw⟩
  · exact l3
  refine Eq.trans ?_ l3
  rcases Lemmas.C02b.writeSave_cases hcur hw with ⟨_, rfl | ⟨m, rfl⟩⟩ | ⟨_, ts, x, ed4, hs, hx⟩
  · rfl
  · split <;> rfl
  · have hb4 := Lemmas.C02Ex.lbufSaveP_bufs _ _ _ _ _ _ _ _ _ hs
    rcases hx with ⟨err, _, rfl⟩ | ⟨_, m, hf⟩
    · exact Lemmas.C06c.lines_of_bufs hb4
    · exact (writeFinish_lines (ed4.show m) ed' cur p b e rc ((cur_of_bufs hb4).trans hcur) hf).trans
        (Lemmas.C06c.lines_of_bufs hb4)

/-- the reference's verdict on `loc` in state `ed` -/
abbrev refOf (ed : Ed) (loc : Loc) := refRegion (worldOf ed) (cursorOf ed) loc

/-- `:w` never changes a line, whatever the address -/
theorem write_ref (f : Nat) (ed ed' : Ed) (loc cmd arg : Bytes) (txt : Option Bytes) (rc : Int)
    (h : runCmd (f + 1) ed "ec_write" loc cmd arg txt = some (rc, ed')) : lines ed' = lines ed := by
  rw [Lemmas.C02Ex.runCmd_write] at h
  exact ecWrite_lines ed ed' loc cmd arg rc h

open Neatvi.Lemmas.Hist (optLines) in
/-- the reference operation of a parsed line command in state `ed`, its region being `b..e` -/
def opOf (ed : Ed) (c : Props.C06b.LineCmd) (b e : Int) : LineOp :=
  if c.hd == "ec_exec" then
    (match pathExpand ed c.arg true with
    | some (some ecmd, _) =>
      (match ed.pipe ecmd (ed.cp b e) with
      | some (some out) => .change (splitLines out)
      | _ => .keep)
    | _ => .keep)
  else if c.hd == "ec_delete" then .delete
  else if c.hd == "ec_insert" then
    (if c.cmd.headD 0 = 97 then .append (optLines c.txt)
     else if c.cmd.headD 0 = 99 then .change (optLines c.txt) else .insert (optLines c.txt))
  else if c.hd == "ec_put" then
    .append (match regGet ed (regName c.arg) with | some buf => splitLines buf | none => [])
  else if c.hd == "ec_read" then .append (Props.C06b.readLines ed c.arg)
  else .keep

open Neatvi.Props.C06b in
/-- the splice of a reference operation on the region `b..e` -/
def LineOp.splice (b e : Int) : LineOp → Splice
  | .delete => (b.toNat, e.toNat, [])
  | .keep => (0, 0, [])
  | .append new => (e.toNat, e.toNat, new)
  | .insert new => (b.toNat, b.toNat, new)
  | .change new => (b.toNat, e.toNat, new)

open Neatvi.Props.C06b in
theorem LineOp.splice_apply (op : LineOp) (t : List Bytes) (b e : Int) :
    applySplice t (op.splice b e) = op.apply t b.toNat e.toNat := by
  cases op <;> simp [LineOp.splice, LineOp.apply, applySplice]

open Neatvi.Props.C06b Neatvi.Props.C06c in
theorem spliceOfX_opOf (ed : Ed) (c : LineCmd) (rc : Int) :
    spliceOfX ed c rc = if rc != 0 then (0, 0, []) else
      (opOf ed c (regionOf ed c.loc).1 (regionOf ed c.loc).2).splice (regionOf ed c.loc).1 (regionOf ed c.loc).2 := by
  unfold spliceOfX opOf
  by_cases h0 : (rc != 0) = true
  · rw [if_pos h0]
    unfold execSplice spliceOf
    simp [h0]
  · rw [if_neg h0]
    by_cases h1 : (c.hd == "ec_exec") = true
    · rw [if_pos h1, if_pos h1]
      unfold execSplice
      rw [if_neg h0]
      cases pathExpand ed c.arg true with
      | none => rfl
      | some x =>
        obtain ⟨p, ed1⟩ := x
        cases p with
        | none => rfl
        | some ecmd =>
          simp only []
          cases ed.pipe ecmd (ed.cp (regionOf ed c.loc).1 (regionOf ed c.loc).2) with
          | none => rfl
          | some o => cases o <;> rfl
    · rw [if_neg h1, if_neg h1]
      unfold spliceOf
      rw [if_neg h0]
      simp only []
      by_cases h2 : (c.hd == "ec_delete") = true
      · rw [if_pos h2, if_pos h2]; rfl
      · rw [if_neg h2, if_neg h2]
        by_cases h3 : (c.hd == "ec_insert") = true
        · rw [if_pos h3, if_pos h3]
          by_cases c1 : c.cmd.headD 0 = 97
          · simp only [c1, show ¬ ((97 : Nat) = 99) by decide, if_true, if_false, LineOp.splice]
          · by_cases c2 : c.cmd.headD 0 = 99
            · simp only [c2, show ¬ ((99 : Nat) = 97) by decide, if_true, if_false, LineOp.splice]
            · simp only [c1, c2, if_false, LineOp.splice]
        · rw [if_neg h3, if_neg h3]
          by_cases h4 : (c.hd == "ec_put") = true
          · rw [if_pos h4, if_pos h4]
            cases regGet ed (regName c.arg) <;> rfl
          · rw [if_neg h4, if_neg h4]
            by_cases h5 : (c.hd == "ec_read") = true
            · rw [if_pos h5, if_pos h5]; rfl
            · rw [if_neg h5, if_neg h5]; rfl

/-- **the frame law with reference addresses.**  A covered line command (`a i c d y pu k = p r rs`, or a filter
    `[range]!cmd`) whose address is the rendering of the tree `loc`: if it returns 0, the text after it is the text
    before it with the command's reference operation applied to the region the *reference evaluator* gives for
    `loc`; if it returns anything else, the text is unchanged -/
theorem cmd_ref (f : Nat) (ed ed' : Ed) (c : Props.C06b.LineCmd) (rc : Int) (loc : Loc)
    (hloc : c.loc = loc.render) (hok : loc.Ok) (hx : ed.xrow ≠ -1000000) (hc : Props.C06c.CoveredX c)
    (h : runCmd (f + 1) ed c.hd c.loc c.cmd c.arg c.txt = some (rc, ed')) :
    (rc = 0 → lines ed' = (opOf ed c (refRegionOf ed loc).1 (refRegionOf ed loc).2).apply (lines ed)
        (refRegionOf ed loc).1.toNat (refRegionOf ed loc).2.toNat) ∧
    (rc ≠ 0 → lines ed' = lines ed) := by
  obtain ⟨k1, k2, k3⟩ := Props.C06c.cmd_splice_x f ed ed' c rc hc h
  rw [k3, spliceOfX_opOf]
  constructor
  · intro h0
    subst h0
    rw [if_neg (by decide), LineOp.splice_apply, hloc, regionOf_ref ed loc hok hx]
  · intro h0
    rw [if_pos (by simpa using h0), Props.C06b.applySplice_id]

end Neatvi.Lemmas.C06d
