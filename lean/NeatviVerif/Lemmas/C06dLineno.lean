import NeatviVerif.Lemmas.C06dRef
import NeatviVerif.Lemmas.C05bEx
import NeatviVerif.Lemmas.ExFrame
/-!
# C06d: `ex_lineno` on the rendering of an address is the reference value of the address

The offset loop on a rendered list of offsets (`offs_render`) and the base on a digit (`C05b.exLinenoBase_digit`) stand in
Lemmas/C05bEx.lean, which reads its exact sums off them.
-/
namespace Neatvi.Lemmas.C06d
open Neatvi Neatvi.Lbuf Neatvi.Ex Neatvi.Rset Neatvi.Lemmas.C06 Neatvi.Lemmas.C05b

/-- does line `row` match the compiled keyword `kw` (rows outside the buffer match nothing) -/
def hitOf (ed : Ed) (kw : Bytes) (row : Int) : Option Bool :=
  match ed.mkRe kw with
  | some (some re) =>
    (match ed.line row with
    | some ln => (rstrFind re ln 0 0 ND NG).map (fun r => decide (r.1 ≥ 0))
    | none => some false)
  | _ => some false

/-- what address evaluation reads from the editor state -/
def worldOf (ed : Ed) : World where
  len := ed.len
  mark := fun c => (ed.lb.bind (fun l => jump l c)).map (·.1)
  reOk := fun kw => (ed.mkRe kw).map Option.isSome
  hit := hitOf ed

def cursorOf (ed : Ed) : Cursor := ⟨ed.xrow, ed.xkwd, ed.xkwddir⟩

def withCursor (ed : Ed) (c : Cursor) : Ed := { ed with xrow := c.cur, xkwd := c.kwd, xkwddir := c.dir }

theorem withCursor_len (ed : Ed) (c : Cursor) : (withCursor ed c).len = ed.len := rfl
theorem withCursor_mkRe (ed : Ed) (c : Cursor) (kw : Bytes) : (withCursor ed c).mkRe kw = ed.mkRe kw := rfl

theorem worldOf_len (ed : Ed) : (worldOf ed).len = ed.len := rfl
theorem worldOf_mark (ed : Ed) (c : Nat) : (worldOf ed).mark c = (ed.lb.bind (fun l => jump l c)).map (·.1) := rfl
-- not by `rfl`, which unfolds `Ed.mkRe` and `hitOf` on its way
theorem worldOf_reOk (ed : Ed) (kw : Bytes) : (worldOf ed).reOk kw = (ed.mkRe kw).map Option.isSome := by
  simp only [worldOf]
theorem worldOf_hit (ed : Ed) : (worldOf ed).hit = hitOf ed := by
  simp only [worldOf]

theorem mkRe_congr {ed ed' : Ed} (hi : ed'.xic = ed.xic) : ed'.mkRe = ed.mkRe := by
  funext kw
  unfold Ed.mkRe
  rw [hi]

theorem hitOf_congr {ed ed' : Ed} (hb : ed'.bufs = ed.bufs) (hi : ed'.xic = ed.xic) : hitOf ed' = hitOf ed := by
  funext kw row
  unfold hitOf
  rw [mkRe_congr hi, Lemmas.ExFrame.line_of_bufs hb]

theorem worldOf_congr {ed ed' : Ed} (hb : ed'.bufs = ed.bufs) (hi : ed'.xic = ed.xic) : worldOf ed' = worldOf ed := by
  unfold worldOf
  rw [hitOf_congr hb hi, mkRe_congr hi, Lemmas.ExFrame.len_of_bufs hb, Lemmas.ExFrame.lb_of_bufs hb]

theorem hitOf_withCursor (ed : Ed) (c : Cursor) : hitOf (withCursor ed c) = hitOf ed := hitOf_congr rfl rfl

-- `rfl` alone is slow to check here: it unfolds `hitOf` under its binders
@[simp] theorem worldOf_withCursor (ed : Ed) (c : Cursor) : worldOf (withCursor ed c) = worldOf ed :=
  worldOf_congr rfl rfl
@[simp] theorem cursorOf_withCursor (ed : Ed) (c : Cursor) : cursorOf (withCursor ed c) = c := rfl
@[simp] theorem withCursor_cursorOf (ed : Ed) : withCursor ed (cursorOf ed) = ed := rfl
@[simp] theorem withCursor_withCursor (ed : Ed) (c c' : Cursor) : withCursor (withCursor ed c) c' = withCursor ed c' := rfl

theorem rawPat_cons (t : PTok) (r : List PTok) : rawPat (t :: r) = t.raw ++ rawPat r := by simp [rawPat]
theorem cookedPat_cons (d : Nat) (t : PTok) (r : List PTok) : cookedPat d (t :: r) = t.cooked d ++ cookedPat d r := by
  simp [cookedPat]

theorem toks_le_raw (toks : List PTok) : toks.length ≤ (rawPat toks).length := by
  induction toks with
  | nil => simp [rawPat]
  | cons t r ih =>
    rw [rawPat_cons]
    cases t <;> simp [PTok.raw] <;> omega

/-- a loop `F fuel input acc` that takes one token per round, adding `out tk` for the token `tk`, takes a list of
    tokens in as many rounds: the induction shared by the scanners of `re_read`, `ex_loc` and `ex_arg` -/
theorem toks_scan {β : Type} (F : Nat → Bytes → Bytes → β) (P : PTok → Prop) (out : PTok → Bytes)
    (step : ∀ tk, P tk → ∀ (f : Nat) (s acc : Bytes), F (f + 1) (tk.raw ++ s) acc = F f s (acc ++ out tk)) :
    ∀ (toks : List PTok) (tail acc : Bytes) (f : Nat), (∀ t ∈ toks, P t) → toks.length ≤ f →
      F f (rawPat toks ++ tail) acc = F (f - toks.length) tail (acc ++ toks.flatMap out) := by
  intro toks
  induction toks with
  | nil => intro tail acc f _ _; simp [rawPat]
  | cons t r ih =>
    intro tail acc f hok hf
    obtain ⟨f, rfl⟩ : ∃ g, f = g + 1 := ⟨f - 1, by simp at hf; omega⟩
    rw [rawPat_cons, List.append_assoc, step t (hok t (List.mem_cons_self ..)),
      ih tail _ f (fun x hx => hok x (List.mem_cons_of_mem _ hx)) (by simp at hf; omega)]
    simp [List.append_assoc]

theorem reRead_go_toks (delim : Nat) (hd : delim ≠ 92) (h7 : delim < 128) :
    ∀ (toks : List PTok) (tail acc : Bytes) (f : Nat), (∀ t ∈ toks, t.Ok delim) → toks.length ≤ f →
    reRead.go delim f (rawPat toks ++ tail) acc =
      reRead.go delim (f - toks.length) tail (acc ++ cookedPat delim toks) := by
  apply toks_scan (reRead.go delim) (fun t => t.Ok delim) (PTok.cooked delim)
  intro tk hok f s acc
  have e7 : decide (delim < 128) = true := by simpa using h7
  cases tk with
  | ch c =>
    obtain ⟨h1, h2⟩ : c ≠ delim ∧ c ≠ 92 := hok
    have e1 : (c == delim) = false := by simpa using h1
    have e2 : (c == 92) = false := by simpa using h2
    simp only [PTok.raw, PTok.cooked, List.cons_append, List.nil_append]
    rw [reRead.go]
    simp only [e1, e2, Bool.false_eq_true, if_false, Bool.false_and]
  | esc d =>
    have e1 : ((92 : Nat) == delim) = false := by simpa using fun h => hd h.symm
    simp only [PTok.raw, PTok.cooked, List.cons_append, List.nil_append]
    rw [reRead.go]
    simp only [e1, beq_self_eq_true, Bool.true_and, List.isEmpty_cons,
      Bool.not_false, if_true, List.headD_cons, List.drop_succ_cons, List.drop_zero]
    by_cases hdd : d = delim
    · simp [hdd, e7]
    · simp [hdd]

theorem delimOf_ne (back : Bool) : delimOf back ≠ 92 := by cases back <;> decide
theorem delimOf_lt (back : Bool) : delimOf back < 128 := by cases back <;> decide

theorem getLast_split (toks : List PTok) (x : PTok) (h : toks.getLast? = some x) : toks = toks.dropLast ++ [x] := by
  have hne : toks ≠ [] := by intro h0; rw [h0] at h; cases h
  have := List.dropLast_concat_getLast hne
  rw [List.getLast?_eq_some_getLast hne] at h
  simp only [Option.some.injEq] at h
  rw [h] at this
  exact this.symm

theorem reRead_search (back : Bool) (toks : List PTok) (closed : Bool) (t : Bytes)
    (hok : ToksOk (delimOf back) toks closed) (hc : closed = false → t = []) :
    reRead ((Base.search back toks closed).render ++ t) = (some (cookedPat (delimOf back) toks), t) := by
  have hlen := toks_le_raw toks
  rcases hok with hok | ⟨hcl, hlast, hinit⟩
  · cases closed with
    | true =>
      simp only [Base.render, if_true, List.cons_append, List.append_assoc, List.nil_append]
      unfold reRead
      simp only []
      rw [reRead_go_toks _ (delimOf_ne back) (delimOf_lt back) toks _ [] _ hok (by simp; omega)]
      obtain ⟨k, hk⟩ : ∃ k, (rawPat toks ++ delimOf back :: t).length + 1 - toks.length = k + 1 :=
        ⟨(rawPat toks ++ delimOf back :: t).length - toks.length, by simp; omega⟩
      rw [hk, reRead.go]
      simp [delimOf_lt back]
    | false =>
      have ht := hc rfl
      subst ht
      simp only [Base.render, Bool.false_eq_true, if_false, List.append_nil]
      unfold reRead
      simp only []
      rw [← List.append_nil (rawPat toks), reRead_go_toks _ (delimOf_ne back) (delimOf_lt back) toks [] [] _ hok (by simp; omega)]
      cases (rawPat toks ++ []).length + 1 - toks.length with
      | zero => rw [reRead.go]; simp
      | succ k => rw [reRead.go]; simp
  · -- an unclosed pattern that ends in a lone backslash
    subst hcl
    have ht := hc rfl
    subst ht
    have hsplit := getLast_split toks _ hlast
    have hraw : rawPat toks = rawPat toks.dropLast ++ [92] := by
      conv => lhs; rw [hsplit]
      simp [rawPat, PTok.raw]
    have hcook : cookedPat (delimOf back) toks = cookedPat (delimOf back) toks.dropLast ++ [92] := by
      conv => lhs; rw [hsplit]
      simp [cookedPat, PTok.cooked]
    have hl2 := toks_le_raw toks.dropLast
    simp only [Base.render, Bool.false_eq_true, if_false, List.append_nil]
    unfold reRead
    simp only []
    rw [hraw, hcook, reRead_go_toks _ (delimOf_ne back) (delimOf_lt back) toks.dropLast [92] [] _ hinit
      (by simp only [List.length_append, List.length_cons, List.length_nil]; omega)]
    obtain ⟨k, hk⟩ : ∃ k, (rawPat toks.dropLast ++ [92]).length + 1 - toks.dropLast.length = k + 2 :=
      ⟨(rawPat toks.dropLast ++ [92]).length - toks.dropLast.length - 1,
        by simp only [List.length_append, List.length_cons, List.length_nil]; omega⟩
    have e1 : ((92 : Nat) == delimOf back) = false := by cases back <;> rfl
    rw [hk, reRead.go]
    simp only [e1, Bool.false_eq_true, if_false, beq_self_eq_true, List.isEmpty_nil, Bool.not_true, Bool.and_false]
    rw [reRead.go]
    simp

theorem line_some (ed : Ed) (row : Int) (h0 : 0 ≤ row) (h1 : row < ed.len) : ∃ ln, ed.line row = some ln := by
  obtain ⟨k, rfl⟩ : ∃ k : Nat, row = (k : Int) := ⟨row.toNat, by omega⟩
  rw [line_eq]
  rw [len_eq] at h1
  exact ⟨_, List.getElem?_eq_getElem (by omega)⟩

theorem scan_nearest (ed : Ed) (kw : Bytes) (re : RStr) (hre : ed.mkRe kw = some (some re)) (dir : Int) :
    ∀ (f : Nat) (row : Int),
    exSearch.scan ed re dir ed.len f row =
      (nearest (hitOf ed kw) ed.len dir f row).map (fun o => o.getD (-1)) := by
  intro f
  induction f with
  | zero => intro row; rw [exSearch.scan, nearest]; rfl
  | succ f ih =>
    intro row
    rw [exSearch.scan, nearest]
    by_cases hr : row < 0 ∨ row ≥ ed.len
    · have : (decide (row < 0) || decide (row ≥ ed.len)) = true := by simpa using hr
      rw [if_pos this, if_pos hr]
      simp only [Option.map_some, Option.getD_none]
    · have : ¬ ((decide (row < 0) || decide (row ≥ ed.len)) = true) := by simpa using hr
      rw [if_neg this, if_neg hr]
      obtain ⟨ln, hln⟩ := line_some ed row (by omega) (by omega)
      have hh : hitOf ed kw row = (rstrFind re ln 0 0 ND NG).map (fun r => decide (r.1 ≥ 0)) := by
        unfold hitOf
        rw [hre, hln]
      rw [hh]
      simp only [hln]
      cases hfind : rstrFind re ln 0 0 ND NG with
      | none => rfl
      | some x =>
        obtain ⟨r, o, n⟩ := x
        simp only [Option.map_some]
        by_cases hr0 : r ≥ 0
        · simp [hr0]
        · simp only [hr0, decide_false, if_false]
          exact ih _

/-- the cursor after the pattern `kw` was read: a non-empty pattern is remembered -/
def kwCursor (c : Cursor) (back : Bool) (kw : Bytes) : Cursor :=
  if kw ≠ [] then { c with kwd := kw.take kwdMax, dir := if back then -1 else 1 } else c

theorem kwEd_eq (ed : Ed) (back : Bool) (kw : Bytes) :
    kwEd ed (some kw) (if back then -1 else 1) = withCursor ed (kwCursor (cursorOf ed) back kw) := by
  unfold kwEd kwCursor
  cases kw with
  | nil => simp
  | cons x xs =>
    simp only [List.isEmpty_cons, Bool.not_false, if_true, ne_eq, reduceCtorEq, not_false_eq_true]
    rfl

theorem search_eval_eq (w : World) (c : Cursor) (back : Bool) (toks : List PTok) (cl : Bool) :
    (Base.search back toks cl).eval w c =
      (let c1 := kwCursor c back (cookedPat (delimOf back) toks)
       if c1.dir = 0 then some (none, c1) else
       match w.reOk c1.kwd with
       | none => none
       | some false => some (none, c1)
       | some true =>
         match nearest (w.hit c1.kwd) w.len c1.dir (w.len.toNat + 1) (c1.cur + c1.dir) with
         | none => none
         | some r => some (r, c1)) := by
  rw [Base.eval]
  rfl

theorem exSearch_render (ed : Ed) (back : Bool) (toks : List PTok) (closed : Bool) (t : Bytes)
    (hok : ToksOk (delimOf back) toks closed) (hc : closed = false → t = []) :
    exSearch ed ((Base.search back toks closed).render ++ t) =
      match (Base.search back toks closed).eval (worldOf ed) (cursorOf ed) with
      | none => none
      | some (r, c1) => some ((r.getD (-1), t), withCursor ed c1) := by
  have hhead : ((Base.search back toks closed).render ++ t).headD 0 = delimOf back := rfl
  have hdir : (if (delimOf back == 47) = true then (1 : Int) else -1) = if back then -1 else 1 := by
    cases back <;> rfl
  rw [exSearch_eq, reRead_search back toks closed t hok hc, hhead, hdir, kwEd_eq, search_eval_eq]
  generalize kwCursor (cursorOf ed) back (cookedPat (delimOf back) toks) = c1
  simp only []
  have hx : (withCursor ed c1).xkwddir = c1.dir := rfl
  have hk : (withCursor ed c1).xkwd = c1.kwd := rfl
  have hr : (withCursor ed c1).xrow = c1.cur := rfl
  rw [hx, hk, hr, withCursor_len, withCursor_mkRe]
  by_cases hd : c1.dir = 0
  · rw [if_pos (by simpa using hd), if_pos hd]
    rfl
  · rw [if_neg (by simpa using hd), if_neg hd, worldOf_reOk, worldOf_hit, worldOf_len]
    cases hre : ed.mkRe c1.kwd with
    | none => rfl
    | some o =>
      cases o with
      | none => rfl
      | some re =>
        simp only [Option.map_some, Option.isSome_some]
        have := scan_nearest (withCursor ed c1) c1.kwd re hre c1.dir (ed.len.toNat + 1) (c1.cur + c1.dir)
        rw [withCursor_len, hitOf_withCursor] at this
        rw [this]
        cases nearest (hitOf ed c1.kwd) ed.len c1.dir (ed.len.toNat + 1) (c1.cur + c1.dir) with
        | none => rfl
        | some r => rfl

theorem isDigit_eq (c : Nat) : isDigit c = isDigitC c := rfl
theorem digitsVal_eq (ds : Bytes) : digitsVal ds = decVal ds := rfl

theorem digitsVal_nonneg (ds : Bytes) (h : ∀ d ∈ ds, isDigit d = true) : 0 ≤ digitsVal ds :=
  decVal_nonneg ds h

theorem nearest_some (hit : Int → Option Bool) (len dir : Int) : ∀ (k : Nat) (row r : Int),
    nearest hit len dir k row = some (some r) →
    ∃ n : Nat, r = row + n * dir ∧ 0 ≤ r ∧ r < len ∧ hit r = some true ∧
      ∀ m : Nat, m < n → hit (row + m * dir) = some false := by
  intro k
  induction k with
  | zero => intro row r h; rw [nearest] at h; cases h
  | succ k ih =>
    intro row r h
    rw [nearest] at h
    split at h
    · cases h
    · rename_i hr
      have step : ∀ m : Nat, row + ((m + 1 : Nat) : Int) * dir = row + dir + m * dir := by
        intro m
        rw [Int.natCast_succ, Int.add_mul, Int.one_mul]
        omega
      split at h
      · cases h
      · rename_i ht
        cases h
        exact ⟨0, by simp, by omega, by omega, ht, fun m hm => absurd hm (Nat.not_lt_zero m)⟩
      · rename_i hf
        obtain ⟨n, rfl, i2, i3, i4, i5⟩ := ih _ _ h
        refine ⟨n + 1, (step n).symm, i2, i3, i4, fun m hm => ?_⟩
        cases m with
        | zero => simpa using hf
        | succ m => rw [step]; exact i5 m (by omega)

theorem search_eval_some (w : World) (c : Cursor) (back : Bool) (toks : List PTok) (cl : Bool) (r : Option Int)
    (c1 : Cursor) (h : (Base.search back toks cl).eval w c = some (r, c1)) :
    c1 = kwCursor c back (cookedPat (delimOf back) toks) ∧ ∀ v, r = some v → 0 ≤ v ∧ v < w.len := by
  rw [search_eval_eq] at h
  simp only [] at h
  split at h
  · cases h; exact ⟨rfl, fun v hv => by cases hv⟩
  · split at h
    · cases h
    · cases h; exact ⟨rfl, fun v hv => by cases hv⟩
    · split at h
      · cases h
      · rename_i r' hn
        cases h
        refine ⟨rfl, fun v hv => ?_⟩
        obtain ⟨_, _, h0, h1, _⟩ := nearest_some _ _ _ _ _ v (hv ▸ hn)
        exact ⟨h0, h1⟩

theorem Base.eval_cur (w : World) (c : Cursor) (b : Base) (v : Option Int) (c1 : Cursor)
    (h : b.eval w c = some (v, c1)) : c1.cur = c.cur := by
  cases b with
  | search back toks cl =>
    rw [(search_eval_some w c back toks cl v c1 h).1]
    unfold kwCursor
    split <;> rfl
  | _ =>
    simp only [Base.eval, Option.some.injEq, Prod.mk.injEq] at h
    rw [← h.2]

theorem Addr.eval_cur (w : World) (c : Cursor) (a : Addr) (v : Option Int) (c1 : Cursor)
    (h : a.eval w c = some (v, c1)) : c1.cur = c.cur := by
  unfold Addr.eval at h
  cases hb : a.base.eval w c with
  | none => rw [hb] at h; cases h
  | some y =>
    obtain ⟨v', c'⟩ := y
    rw [hb] at h
    have hc' := Base.eval_cur w c a.base v' c' hb
    cases v' with
    | none => cases h; exact hc'
    | some n => cases h; exact hc'

/-- the value of a resolved base is not the failure marker of the model: it is at least `-1`, except for the
    current row, which is whatever the state holds -/
theorem base_eval_ge (w : World) (c : Cursor) (b : Base) (v : Int) (c1 : Cursor) (hok : b.Ok) (hlen : 0 ≤ w.len)
    (hm : ∀ m p, w.mark m = some p → 0 ≤ p) (h : b.eval w c = some (some v, c1)) : -1 ≤ v ∨ v = c.cur := by
  cases b with
  | implicit | dot =>
    simp only [Base.eval, Option.some.injEq, Prod.mk.injEq] at h
    exact Or.inr h.1.symm
  | dollar => simp only [Base.eval, Option.some.injEq, Prod.mk.injEq] at h; left; omega
  | mark m =>
    simp only [Base.eval, Option.some.injEq, Prod.mk.injEq] at h
    left; have := hm m v h.1; omega
  | quote =>
    simp only [Base.eval, Option.some.injEq, Prod.mk.injEq] at h
    left; have := hm 0 v h.1; omega
  | num ds =>
    simp only [Base.eval, Option.some.injEq, Prod.mk.injEq] at h
    have := digitsVal_nonneg ds hok.2
    left; unfold sat termMax at h; omega
  | search back toks cl =>
    have := (search_eval_some w c back toks cl _ c1 h).2 v rfl
    left; omega

/-- what the text after the base must not start with, so that the base ends where it should -/
def tailOk : Base → Bytes → Prop
  | .implicit, t => isDigit (t.headD 0) = false ∧ t.headD 0 ≠ 46 ∧ t.headD 0 ≠ 36 ∧ t.headD 0 ≠ 39 ∧ t.headD 0 ≠ 47 ∧
      t.headD 0 ≠ 63
  | .num _, t => isDigit (t.headD 0) = false
  | _, _ => True

/-- the text the model leaves when the base does not resolve (it is not looked at) -/
def failRest : Base → Bytes → Bytes
  | .mark c, t => c :: t
  | _, t => t

theorem worldOf_mark_nonneg (ed : Ed) (m : Nat) (p : Int) (h : (worldOf ed).mark m = some p) : 0 ≤ p := by
  rw [worldOf_mark] at h
  cases hl : ed.lb with
  | none => rw [hl] at h; cases h
  | some lb =>
    rw [hl] at h
    simp only [Option.bind_some, Option.map_eq_some_iff] at h
    obtain ⟨⟨p', o⟩, hj, rfl⟩ := h
    exact jump_nonneg lb m p' o hj

theorem exLinenoBase_quote (ed : Ed) (s : Bytes) :
    exLinenoBase ed (39 :: s) =
      match (worldOf ed).mark (s.headD 0) with
      | none => some ((-1000000, s), ed)
      | some p => some ((p, s.drop 1), ed) := by
  have hg : (39 :: s).getD 1 0 = s.headD 0 := by cases s <;> rfl
  unfold exLinenoBase
  simp only [List.headD_cons, show ((39 : Nat) == 46) = false by decide, show ((39 : Nat) == 36) = false by decide,
    Bool.false_eq_true, if_false, beq_self_eq_true, if_true, hg, worldOf_mark, List.drop_succ_cons, List.drop_zero]
  cases ed.lb.bind (fun l => jump l (s.headD 0)) <;> rfl

theorem exLinenoBase_render (ed : Ed) (b : Base) (t : Bytes) (hok : b.Ok) (hc : b.closed = false → t = [])
    (ht : tailOk b t) :
    exLinenoBase ed (b.render ++ t) =
      match b.eval (worldOf ed) (cursorOf ed) with
      | none => none
      | some (none, c1) => some ((-1000000, failRest b t), withCursor ed c1)
      | some (some v, c1) => some ((v, t), withCursor ed c1) := by
  cases b with
  | implicit =>
    obtain ⟨h6, h1, h2, h3, h4, h5⟩ := ht
    rw [isDigit_eq] at h6
    have e46 : (t.headD 0 == 46) = false := by simpa using h1
    have e36 : (t.headD 0 == 36) = false := by simpa using h2
    have e39 : (t.headD 0 == 39) = false := by simpa using h3
    have e47 : (t.headD 0 == 47) = false := by simpa using h4
    have e63 : (t.headD 0 == 63) = false := by simpa using h5
    unfold exLinenoBase
    simp only [Base.render, List.nil_append, Base.eval, e46, e36, e39, e47, e63, h6, Bool.false_eq_true, if_false,
      Bool.or_self]
    rfl
  | dot => rfl
  | dollar => rfl
  | mark m =>
    rw [show (Base.mark m).render ++ t = 39 :: (m :: t) from rfl, exLinenoBase_quote]
    simp only [Base.eval, List.headD_cons]
    cases (worldOf ed).mark m <;> rfl
  | quote =>
    rw [hc rfl, show Base.quote.render ++ [] = 39 :: [] from rfl, exLinenoBase_quote]
    simp only [Base.eval, List.headD_nil]
    cases (worldOf ed).mark 0 <;> rfl
  | num ds =>
    obtain ⟨hne, hd⟩ := hok
    have ht' : isDigitC (t.headD 0) = false := ht
    have hd' : ∀ d ∈ ds, isDigitC d = true := hd
    obtain ⟨c, r, rfl⟩ : ∃ c r, ds = c :: r := by
      cases ds with
      | nil => exact absurd rfl hne
      | cons c r => exact ⟨c, r, rfl⟩
    have hat := atoi_digits_append c r t hd' ht'
    have hdrop := dropWhile_digits_append (c :: r) t hd' ht'
    simp only [Base.render, Base.eval]
    rw [List.cons_append] at hat hdrop ⊢
    rw [exLinenoBase_digit ed c _ (hd' c (List.mem_cons_self ..)), hdrop]
    unfold exNum
    rw [hat]
    rfl
  | search back toks cl =>
    have hh : ((Base.search back toks cl).render ++ t).headD 0 = delimOf back := rfl
    unfold exLinenoBase
    rw [hh, exSearch_render ed back toks cl t hok hc]
    have e46 : (delimOf back == 46) = false := by cases back <;> rfl
    have e36 : (delimOf back == 36) = false := by cases back <;> rfl
    have e39 : (delimOf back == 39) = false := by cases back <;> rfl
    have e4763 : (delimOf back == 47 || delimOf back == 63) = true := by cases back <;> rfl
    simp only [e46, e36, e39, e4763, Bool.false_eq_true, if_false, if_true]
    cases hev : (Base.search back toks cl).eval (worldOf ed) (cursorOf ed) with
    | none => rfl
    | some x =>
      obtain ⟨r, c1⟩ := x
      cases r with
      | none => simp [failRest]
      | some v =>
        have hv := ((search_eval_some _ _ back toks cl _ c1 hev).2 v rfl).1
        simp only [Option.getD_some]
        rw [if_neg (by omega)]

/-- what follows an address inside a list: nothing, `,` or `;` -/
def SepTail (t : Bytes) : Prop := t = [] ∨ t.headD 0 = 44 ∨ t.headD 0 = 59

theorem sepTail_head (t : Bytes) (h : SepTail t) : t.headD 0 = 0 ∨ t.headD 0 = 44 ∨ t.headD 0 = 59 := by
  rcases h with rfl | h | h
  · exact Or.inl rfl
  · exact Or.inr (Or.inl h)
  · exact Or.inr (Or.inr h)

theorem headD_append' (a b : Bytes) : (a ++ b).headD 0 = if a = [] then b.headD 0 else a.headD 0 := by
  cases a <;> simp

theorem junk_head (bare nodigit : Bool) (junk t : Bytes) (hj : junkOk bare nodigit junk) (ht : SepTail t) :
    (junk ++ t).headD 0 ≠ 43 ∧ (junk ++ t).headD 0 ≠ 45 ∧
    (nodigit = true → isDigitC ((junk ++ t).headD 0) = false) ∧
    (bare = true → isDigitC ((junk ++ t).headD 0) = false ∧ (junk ++ t).headD 0 ≠ 46 ∧ (junk ++ t).headD 0 ≠ 36 ∧
      (junk ++ t).headD 0 ≠ 39 ∧ (junk ++ t).headD 0 ≠ 47 ∧ (junk ++ t).headD 0 ≠ 63) := by
  rw [headD_append']
  split
  · rcases sepTail_head t ht with h | h | h <;> rw [h] <;>
      exact ⟨by decide, by decide, fun _ => by decide, fun _ => by decide⟩
  · rename_i hne
    obtain ⟨h1, h2, h3, h4⟩ := hj.2 hne
    exact ⟨h1, h2, h3, h4⟩

theorem exLineno_render (ed : Ed) (a : Addr) (t : Bytes) (hok : a.Ok) (ht : SepTail t)
    (hc : a.base.closed = false → t = []) (hx : ed.xrow ≠ -1000000) :
    exLineno ed (a.render ++ t) =
      match a.eval (worldOf ed) (cursorOf ed) with
      | none => none
      | some (none, c1) => some ((-2, failRest a.base (offsText a.offs ++ (a.junk ++ t))), withCursor ed c1)
      | some (some n, c1) => some ((n, a.junk ++ t), withCursor ed c1) := by
  obtain ⟨hb, ho, hj, hcl⟩ := hok
  obtain ⟨j1, j2, j3, j4⟩ := junk_head a.bare a.nodigit a.junk t hj ht
  have hsgn : ((a.junk ++ t).headD 0 == 45 || (a.junk ++ t).headD 0 == 43) = false := by
    generalize (a.junk ++ t).headD 0 = x at j1 j2
    simp [j1, j2]
  have hdig : a.offs ≠ [] → isDigitC ((a.junk ++ t).headD 0) = false := by
    intro h
    apply j3
    cases ho' : a.offs with
    | nil => exact absurd ho' h
    | cons o l => simp [Addr.nodigit, ho']
  have htail : tailOk a.base (offsText a.offs ++ (a.junk ++ t)) := by
    cases hbase : a.base with
    | implicit =>
      cases hoffs : a.offs with
      | nil =>
        have hbare : a.bare = true := by simp [Addr.bare, hbase, hoffs]
        simp only [tailOk, offsText, List.flatMap_nil, List.nil_append]
        exact j4 hbare
      | cons o l =>
        simp only [tailOk, offsText_cons, List.cons_append, List.headD_cons]
        cases o.neg <;> decide
    | num ds =>
      simp only [tailOk]
      cases hoffs : a.offs with
      | nil =>
        simp only [offsText, List.flatMap_nil, List.nil_append]
        exact j3 (by simp [Addr.nodigit, hbase, Base.isNum])
      | cons o l =>
        rw [offsText_cons]
        cases o.neg <;> simp [isDigit]
    | dot | dollar | mark _ | quote | search _ _ _ => trivial
  have hc' : a.base.closed = false → offsText a.offs ++ (a.junk ++ t) = [] := by
    intro h
    obtain ⟨h1, h2⟩ := hcl h
    rw [h1, h2, hc h]
    rfl
  have hrender : a.render ++ t = a.base.render ++ (offsText a.offs ++ (a.junk ++ t)) := by
    simp [Addr.render, List.append_assoc]
  rw [hrender, exLineno_eq, exLinenoBase_render ed a.base _ hb hc' htail]
  unfold Addr.eval
  cases hev : a.base.eval (worldOf ed) (cursorOf ed) with
  | none => rfl
  | some x =>
    obtain ⟨r, c1⟩ := x
    cases r with
    | none => rfl
    | some v =>
      have hge := base_eval_ge (worldOf ed) (cursorOf ed) a.base v c1 hb (len_nonneg ed) (worldOf_mark_nonneg ed) hev
      have hv : (v == -1000000) = false := by
        have : v ≠ -1000000 := by
          rcases hge with h | h
          · omega
          · rw [h]; exact hx
        simpa using this
      simp only [hv, Bool.false_eq_true, if_false]
      rw [offs_render a.offs _ v (a.junk ++ t) (by have := offsText_len a.offs; simp only [List.length_append]; omega) ho
        hsgn hdig]
      rfl

end Neatvi.Lemmas.C06d
