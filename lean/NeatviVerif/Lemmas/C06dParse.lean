import NeatviVerif.Lemmas.C06dRegion
import NeatviVerif.Lemmas.C06bExec
/-!
# C06d, the splitting of a command line whose address has marks and patterns, and whose argument has
# backslash pairs: `ex_loc`, `ex_arg`
-/
namespace Neatvi.Lemmas.C06d
open Neatvi Neatvi.Ex Neatvi.Lemmas.C06b

theorem go_mark_step (m : Nat) (r acc : Bytes) (f : Nat) (h1 : m ≠ 47) (h2 : m ≠ 63) :
    exLoc.go (f + 1) (39 :: m :: r) acc = exLoc.go f r (acc ++ [39, m]) := by
  have e1 : (m == 47) = false := by simpa using h1
  have e2 : (m == 63) = false := by simpa using h2
  have k : locChars.contains 39 = true := by rw [locChars_eq]; decide
  rw [exLoc.go]
  simp only [k, Bool.not_true, Bool.false_eq_true, if_false, beq_self_eq_true, if_true, List.drop_succ_cons,
    List.drop_zero, List.headD_cons, e1, e2, Bool.or_self]
  simp

theorem pat_toks (delim : Nat) (hd : delim ≠ 92) : ∀ (toks : List PTok) (tail acc : Bytes) (g : Nat),
    (∀ t ∈ toks, t.Ok delim) → toks.length ≤ g →
    exLoc.go.pat delim g (rawPat toks ++ tail) acc = exLoc.go.pat delim (g - toks.length) tail (acc ++ rawPat toks) := by
  apply toks_scan (exLoc.go.pat delim) (fun t => t.Ok delim) PTok.raw
  intro tk hok f s acc
  cases tk with
  | ch c =>
    obtain ⟨h1, h2⟩ : c ≠ delim ∧ c ≠ 92 := hok
    have e1 : (c == delim) = false := by simpa using h1
    have e2 : (c == 92) = false := by simpa using h2
    simp only [PTok.raw, List.cons_append, List.nil_append]
    rw [exLoc.go.pat]
    simp only [e1, e2, Bool.false_eq_true, if_false, Bool.false_and]
  | esc d =>
    have e1 : ((92 : Nat) == delim) = false := by simpa using fun h => hd h.symm
    simp only [PTok.raw, List.cons_append, List.nil_append]
    rw [exLoc.go.pat]
    simp only [e1, Bool.false_eq_true, if_false, beq_self_eq_true, Bool.true_and, List.isEmpty_cons,
      Bool.not_false, if_true, List.headD_cons, List.drop_succ_cons, List.drop_zero]

theorem go_search_step (back : Bool) (toks : List PTok) (r acc : Bytes) (f : Nat)
    (hok : ∀ t ∈ toks, t.Ok (delimOf back)) :
    exLoc.go (f + 1) ((Base.search back toks true).render ++ r) acc =
      exLoc.go f r (acc ++ (Base.search back toks true).render) := by
  have k : locChars.contains (delimOf back) = true := by rw [locChars_eq]; cases back <;> decide
  have e39 : (delimOf back == 39) = false := by cases back <;> rfl
  have e4763 : (delimOf back == 47 || delimOf back == 63) = true := by cases back <;> rfl
  have hlen := toks_le_raw toks
  simp only [Base.render, if_true, List.cons_append, List.append_assoc, List.nil_append]
  rw [exLoc.go]
  simp only [k, Bool.not_true, Bool.false_eq_true, if_false, e39, List.headD_cons, e4763, if_true,
    List.drop_succ_cons, List.drop_zero]
  rw [pat_toks _ (delimOf_ne back) toks _ [] _ hok (by simp; omega)]
  obtain ⟨k', hk'⟩ : ∃ k', (delimOf back :: (rawPat toks ++ delimOf back :: r)).length + 1 - toks.length = k' + 1 :=
    ⟨(delimOf back :: (rawPat toks ++ delimOf back :: r)).length - toks.length, by simp; omega⟩
  rw [hk', exLoc.go.pat]
  simp [List.append_assoc]

theorem digit_simple (d : Nat) (h : isDigit d = true) : d ∈ simpleLoc := by
  simp only [isDigit, Bool.and_eq_true, decide_eq_true_eq] at h
  simp only [simpleLoc, List.mem_cons, List.not_mem_nil, or_false]
  omega

theorem offsText_simple (l : List Off) (h : ∀ o ∈ l, ∀ d ∈ o.ds, isDigit d = true) : ∀ c ∈ offsText l, c ∈ simpleLoc := by
  induction l with
  | nil => intro c hc; simp [offsText] at hc
  | cons o l ih =>
    intro c hc
    rw [offsText_cons] at hc
    simp only [List.mem_cons, List.mem_append] at hc
    rcases hc with hc | hc | hc
    · subst hc; cases o.neg <;> simp [simpleLoc]
    · exact digit_simple c (h o (List.mem_cons_self ..) c hc)
    · exact ih (fun o' ho' => h o' (List.mem_cons_of_mem _ ho')) c hc

/-- what `ex_loc` needs beyond `Addr.Ok`: a mark is not named `/` or `?`, the skipped bytes are address bytes
    other than `'`, `/`, `?`, and a pattern is closed by its delimiter -/
def Base.Lex : Base → Prop
  | .mark m => m ≠ 47 ∧ m ≠ 63
  | _ => True

instance (b : Base) : Decidable b.Lex := by cases b <;> (unfold Base.Lex; exact inferInstance)

def Addr.Lex (a : Addr) : Prop := a.base.Lex ∧ (∀ c ∈ a.junk, c ∈ simpleLoc) ∧ a.base.closed = true

instance (a : Addr) : Decidable a.Lex := by unfold Addr.Lex; exact inferInstance

theorem go_base (b : Base) (acc : Bytes) (hb : b.Ok) (hm : b.Lex)
    (hcl : b.closed = true) (f : Nat) (hf : b.render.length ≤ f) :
    ∃ g, f - b.render.length ≤ g ∧ ∀ (rr : Bytes), exLoc.go f (b.render ++ rr) acc = exLoc.go g rr (acc ++ b.render) := by
  cases b with
  | implicit => exact ⟨f, by simp [Base.render], fun rr => by simp [Base.render]⟩
  | dot =>
    refine ⟨f - 1, by simp [Base.render], fun rr => ?_⟩
    exact go_simple_step [46] rr acc f (by decide) hf
  | dollar =>
    refine ⟨f - 1, by simp [Base.render], fun rr => ?_⟩
    exact go_simple_step [36] rr acc f (by decide) hf
  | num ds =>
    refine ⟨f - ds.length, by simp [Base.render], fun rr => ?_⟩
    exact go_simple_step ds rr acc f (fun c hc => digit_simple c (hb.2 c hc)) hf
  | mark m =>
    obtain ⟨g, rfl⟩ : ∃ g, f = g + 1 := ⟨f - 1, by simp [Base.render] at hf; omega⟩
    refine ⟨g, by simp only [Base.render, List.length_cons, List.length_nil]; omega, fun rr => ?_⟩
    exact go_mark_step m rr acc g hm.1 hm.2
  | search back toks cl =>
    simp only [Base.closed] at hcl
    subst hcl
    obtain ⟨g, rfl⟩ : ∃ g, f = g + 1 := ⟨f - 1, by simp [Base.render] at hf; omega⟩
    refine ⟨g, by simp only [Base.render, List.length_cons]; omega, fun rr => ?_⟩
    have hb' : ∀ t ∈ toks, t.Ok (delimOf back) := by
      rcases hb with h | ⟨h, _⟩
      · exact h
      · cases h
    exact go_search_step back toks rr acc g hb'
  | quote => simp [Base.closed] at hcl

theorem go_addr (a : Addr) (r acc : Bytes) (hok : a.Ok) (hlex : a.Lex) : ∀ f, a.render.length ≤ f →
    ∃ f', f - a.render.length ≤ f' ∧ exLoc.go f (a.render ++ r) acc = exLoc.go f' r (acc ++ a.render) := by
  intro f hf
  obtain ⟨hb, ho, _, _⟩ := hok
  obtain ⟨hm, hj, hcl⟩ := hlex
  -- offsets and junk are plain address bytes
  have htail : ∀ (f : Nat) (acc : Bytes), (offsText a.offs ++ a.junk).length ≤ f →
      exLoc.go f ((offsText a.offs ++ a.junk) ++ r) acc =
        exLoc.go (f - (offsText a.offs ++ a.junk).length) r (acc ++ (offsText a.offs ++ a.junk)) := by
    intro f acc hf
    apply go_simple_step _ _ _ _ _ hf
    intro c hc
    rcases List.mem_append.mp hc with hc | hc
    · exact offsText_simple a.offs ho c hc
    · exact hj c hc
  have hren : a.render ++ r = a.base.render ++ ((offsText a.offs ++ a.junk) ++ r) := by
    simp [Addr.render, List.append_assoc]
  have hren2 : a.render = a.base.render ++ (offsText a.offs ++ a.junk) := by
    simp [Addr.render, List.append_assoc]
  have hlen : a.render.length = a.base.render.length + (offsText a.offs ++ a.junk).length := by
    rw [hren2, List.length_append]
  rw [hren]
  obtain ⟨g, hg, hgo⟩ := go_base a.base acc hb hm hcl f (by omega)
  rw [hgo, htail g _ (by omega)]
  refine ⟨g - (offsText a.offs ++ a.junk).length, by omega, ?_⟩
  rw [hren2, List.append_assoc]

/-- every address of the list is lexically fine for `ex_loc` -/
def ListLex (l : AddrList) : Prop := ∀ p ∈ l, p.1.Lex

instance (l : AddrList) : Decidable (ListLex l) := by unfold ListLex; exact inferInstance

theorem listOk_all : ∀ (l : AddrList), ListOk l → ∀ p ∈ l, p.1.Ok := by
  intro l
  induction l with
  | nil => intro h; exact absurd h (by simp [ListOk])
  | cons p r ih =>
    obtain ⟨a, s⟩ := p
    intro h q hq
    cases r with
    | nil =>
      simp only [List.mem_cons, List.not_mem_nil, or_false] at hq
      subst hq
      exact h.1
    | cons p' r' =>
      rcases List.mem_cons.mp hq with rfl | hq
      · exact h.1
      · exact ih h.2.2.2 q hq

theorem go_list : ∀ (l : AddrList) (r acc : Bytes), (∀ p ∈ l, p.1.Ok) → ListLex l → ∀ f, (renderList l).length ≤ f →
    ∃ f', f - (renderList l).length ≤ f' ∧ exLoc.go f (renderList l ++ r) acc = exLoc.go f' r (acc ++ renderList l) := by
  intro l
  induction l with
  | nil => intro r acc _ _ f _; exact ⟨f, by simp [renderList], by simp [renderList]⟩
  | cons p l ih =>
    obtain ⟨a, s⟩ := p
    intro r acc hok hlex f hf
    rw [renderList_cons] at hf ⊢
    simp only [List.length_append] at hf
    have e1 : (a.render ++ (s.text ++ renderList l)) ++ r = a.render ++ (s.text ++ (renderList l ++ r)) := by
      simp [List.append_assoc]
    rw [e1]
    obtain ⟨f1, h1, g1⟩ := go_addr a (s.text ++ (renderList l ++ r)) acc (hok _ (List.mem_cons_self ..))
      (hlex _ (List.mem_cons_self ..)) f (by omega)
    rw [g1]
    have hs : ∀ c ∈ s.text, c ∈ simpleLoc := by cases s <;> decide
    rw [go_simple_step s.text _ _ f1 hs (by omega)]
    obtain ⟨f2, h2, g2⟩ := ih r (acc ++ a.render ++ s.text) (fun q hq => hok q (List.mem_cons_of_mem _ hq))
      (fun q hq => hlex q (List.mem_cons_of_mem _ hq)) (f1 - s.text.length) (by omega)
    rw [g2]
    refine ⟨f2, by simp only [List.length_append]; omega, ?_⟩
    simp [List.append_assoc]

/-- what `ex_loc` needs of a location -/
def Loc.Lex : Loc → Prop
  | .list l => ListLex l
  | _ => True

instance (l : Loc) : Decidable l.Lex := by cases l <;> (unfold Loc.Lex; exact inferInstance)

/-- a byte `ex_loc` does not skip before the address -/
def GoodStart (x : Nat) : Prop := x ≠ 58 ∧ x ≠ 32 ∧ x ≠ 9

theorem simple_head (cs rest : Bytes) (h1 : cs ≠ []) (h2 : ∀ c ∈ cs, c ∈ simpleLoc) : GoodStart ((cs ++ rest).headD 0) := by
  cases cs with
  | nil => exact absurd rfl h1
  | cons c cs' =>
    obtain ⟨_, _, _, _, a, b, c'⟩ := simpleLoc_facts c (h2 c (List.mem_cons_self ..))
    exact ⟨a, b, c'⟩

theorem addr_head (a : Addr) (rest : Bytes) (ha : a.Ok) (hal : a.Lex) (hne : a.render ≠ []) :
    GoodStart ((a.render ++ rest).headD 0) := by
  have htail : ∀ c ∈ offsText a.offs ++ a.junk, c ∈ simpleLoc := by
    intro c hc
    rcases List.mem_append.mp hc with hc | hc
    · exact offsText_simple a.offs ha.2.1 c hc
    · exact hal.2.1 c hc
  have hren2 : a.render = a.base.render ++ (offsText a.offs ++ a.junk) := by
    simp [Addr.render, List.append_assoc]
  rw [hren2] at hne ⊢
  cases hb : a.base with
  | implicit =>
    rw [hb] at hne
    simp only [Base.render, List.nil_append] at hne ⊢
    exact simple_head _ _ hne htail
  | dot | dollar | mark _ | quote =>
    simp only [Base.render, List.cons_append, List.headD_cons]
    exact ⟨by decide, by decide, by decide⟩
  | search back toks cl =>
    simp only [Base.render, List.cons_append, List.headD_cons]
    cases back <;> exact ⟨by decide, by decide, by decide⟩
  | num ds =>
    have hds := ha.1
    rw [hb] at hds
    simp only [Base.render, List.append_assoc]
    exact simple_head ds _ hds.1 (fun c hc => digit_simple c (hds.2 c hc))

theorem loc_head (loc : Loc) (hok : loc.Ok) (hlex : loc.Lex) (rest : Bytes) (hne : loc.render ≠ []) :
    GoodStart ((loc.render ++ rest).headD 0) := by
  cases loc with
  | whole => simp only [Loc.render, List.cons_append, List.headD_cons]; exact ⟨by decide, by decide, by decide⟩
  | current => exact absurd rfl hne
  | list l =>
    obtain ⟨hl, _⟩ := hok
    cases l with
    | nil => exact absurd hl (by simp [ListOk])
    | cons p r =>
      obtain ⟨a, s⟩ := p
      have ha : a.Ok := listOk_all _ hl _ (List.mem_cons_self ..)
      have hal : a.Lex := hlex _ (List.mem_cons_self ..)
      simp only [Loc.render, renderList_cons, List.append_assoc]
      by_cases hr : a.render = []
      · rw [hr, List.nil_append]
        have hs : s ≠ .fin := by
          intro h
          cases r with
          | nil => exact hl.2.1 h hr
          | cons q r' => exact hl.2.1 h
        cases s with
        | fin => exact absurd rfl hs
        | comma | semi =>
          simp only [Sep.text, List.cons_append, List.headD_cons]
          exact ⟨by decide, by decide, by decide⟩
      · exact addr_head a _ ha hal hr

/-- **`ex_loc` takes exactly the rendered location** off the front of a command line, when what follows is no
    address byte (a letter, `!`, `=`, `@`, a blank, …, or nothing) -/
theorem exLoc_render (loc : Loc) (r : Bytes) (hok : loc.Ok) (hlex : loc.Lex)
    (hr : locChars.contains (r.headD 0) = false)
    (hstart : loc.render = [] → r.headD 0 ≠ 58 ∧ r.headD 0 ≠ 32 ∧ r.headD 0 ≠ 9) :
    exLoc (loc.render ++ r) = (loc.render, r) := by
  unfold exLoc
  have hd : (loc.render ++ r).dropWhile (fun c => c == 58 || c == 32 || c == 9) = loc.render ++ r := by
    apply dropWhile_head _ _ 0
    by_cases hne : loc.render = []
    · rw [hne, List.nil_append]
      obtain ⟨a, b, c⟩ := hstart hne
      cases r with
      | nil => left; rfl
      | cons x xs =>
        right
        simp only [List.headD_cons] at a b c
        simp [a, b, c]
    · obtain ⟨a, b, c⟩ := loc_head loc hok hlex r hne
      right
      generalize (loc.render ++ r).headD 0 = x at a b c
      simp [a, b, c]
  simp only [hd]
  have hgo : ∃ f', exLoc.go ((loc.render ++ r).length + 1) (loc.render ++ r) [] = exLoc.go f' r ([] ++ loc.render) := by
    cases loc with
    | whole =>
      exact ⟨_, go_simple_step [37] r [] _ (by decide) (by simp [Loc.render])⟩
    | current => exact ⟨r.length + 1, by simp [Loc.render]⟩
    | list l =>
      obtain ⟨f', _, h⟩ := go_list l r [] (listOk_all l hok.1) hlex ((renderList l ++ r).length + 1)
        (by simp only [List.length_append]; omega)
      exact ⟨f', h⟩
  obtain ⟨f', hf'⟩ := hgo
  rw [hf', go_end f' r _ hr]
  simp

/-- a piece of an argument that `copyUntil stop` copies: a plain byte that neither stops the copy nor is a backslash,
    or a backslash with the byte it quotes (any byte: `\|`, `\"`, `\\` are copied as they are) -/
def TokCopied (stop : Nat → Bool) : PTok → Prop
  | .ch c => stop c = false ∧ c ≠ 92
  | .esc _ => True

instance (stop : Nat → Bool) (t : PTok) : Decidable (TokCopied stop t) := by
  cases t <;> (unfold TokCopied; exact inferInstance)

theorem copyUntil_toks (stop : Nat → Bool) (h92 : stop 92 = false) : ∀ (toks : List PTok) (acc t : Bytes) (f : Nat),
    (∀ tk ∈ toks, TokCopied stop tk) → (t = [] ∨ stop (t.headD 0) = true) → toks.length < f →
    copyUntil stop f (rawPat toks ++ t) acc = (acc ++ rawPat toks, t) := by
  intro toks acc t f ha ht hf
  have hscan := toks_scan (copyUntil stop) (TokCopied stop) PTok.raw (by
    intro tk hok f s acc
    cases tk with
    | ch c =>
      obtain ⟨a, b⟩ : stop c = false ∧ c ≠ 92 := hok
      have e : (c == 92) = false := by simp [b]
      simp only [PTok.raw, List.cons_append, List.nil_append]
      rw [copyUntil]
      simp only [a, Bool.false_eq_true, if_false, e, Bool.false_and]
    | esc d =>
      simp only [PTok.raw, List.cons_append, List.nil_append]
      rw [copyUntil]
      simp only [h92, Bool.false_eq_true, if_false, beq_self_eq_true, Bool.true_and, List.isEmpty_cons,
        Bool.not_false, if_true, List.headD_cons, List.drop_succ_cons, List.drop_zero]) toks t acc f ha (by omega)
  obtain ⟨g, hg⟩ : ∃ g, f - toks.length = g + 1 := ⟨f - toks.length - 1, by omega⟩
  rw [hscan, hg]
  -- the copy ends at `t`
  cases t with
  | nil => rw [copyUntil]; rfl
  | cons c r =>
    rcases ht with ht | ht
    · cases ht
    · rw [copyUntil, if_pos (show stop c = true from ht)]; rfl

/-- the stop bytes of a plain argument: newline, `|`, `"` -/
def argStop (c : Nat) : Bool := c == 10 || c == 124 || c == 34

/-- **`ex_arg` on a plain argument with backslash pairs**: the argument is copied with its backslashes up to the
    `|` that is not quoted -/
theorem exArg_toks (abbr sp : Bytes) (toks : List PTok) (t : Bytes) (hsp : ∀ c ∈ sp, c = 32 ∨ c = 9)
    (harg : ∀ tk ∈ toks, TokCopied argStop tk) (hstart : (rawPat toks).headD 0 ≠ 32 ∧ (rawPat toks).headD 0 ≠ 9)
    (ht : t = [] ∨ ∃ c2, t = 124 :: c2) (hp : plainAbbr abbr (rawPat toks) = true) :
    exArg (sp ++ rawPat toks ++ t) abbr = (rawPat toks, t.drop 1) := by
  have hcopy := copyUntil_toks argStop (by decide) toks [] t ((rawPat toks ++ t).length + 1) harg
      (by
        rcases ht with rfl | ⟨c2, rfl⟩
        · exact Or.inl rfl
        · right; rfl)
      (by have := toks_le_raw toks; simp only [List.length_append]; omega)
  unfold argStop at hcopy
  exact exArg_of abbr sp (rawPat toks) t hsp hstart ht hp hcopy

/-- a command `loc ++ w ++ sfx ++ sp ++ arg` followed by `t` (nothing, or `|` and more): the address is the rendering
    of a location tree (numbers, `.`, `$`, marks, closed `/re/` `?re?` patterns, offsets, `,` `;`, `%`), the name is
    letters plus an optional `!`, `=`, `@`, then blanks, then an argument made of plain bytes (no newline, `|`, `"`,
    backslash) and backslash pairs -/
structure GenCmd (loc : Loc) (w sfx sp : Bytes) (arg : List PTok) (t : Bytes) : Prop where
  loc_ok : loc.Ok
  loc_lex : loc.Lex
  w_alpha : ∀ c ∈ w, isAlphaC c = true
  w_len : w.length ≤ 16
  w_k : w.headD 0 = 107 → w = [107]
  sfx_ok : sfx = [] ∨ sfx = [33] ∨ sfx = [61] ∨ sfx = [64]
  sp_ok : ∀ c ∈ sp, c = 32 ∨ c = 9
  arg_ok : ∀ tk ∈ arg, TokCopied argStop tk
  arg_start : (rawPat arg).headD 0 ≠ 32 ∧ (rawPat arg).headD 0 ≠ 9
  t_ok : t = [] ∨ ∃ c2, t = 124 :: c2
  /-- where the name ends: the next byte is no letter (except after `k`) and none of `!`, `=`, `@` -/
  name_end : sfx = [] → (w = [107] ∨ isAlphaC ((sp ++ rawPat arg ++ t).headD 0) = false) ∧
    (sp ++ rawPat arg ++ t).headD 0 ≠ 33 ∧ (sp ++ rawPat arg ++ t).headD 0 ≠ 61 ∧ (sp ++ rawPat arg ++ t).headD 0 ≠ 64
  /-- a bare address: the argument follows at once and does not continue the address -/
  bare : w = [] → sfx = [] → sp = [] ∧ locChars.contains ((rawPat arg ++ t).headD 0) = false ∧
    (loc.render = [] → (rawPat arg ++ t).headD 0 ≠ 58)

theorem parse1_gen {loc : Loc} {w sfx sp : Bytes} {arg : List PTok} {t : Bytes} (h : GenCmd loc w sfx sp arg t)
    (hp : plainAbbr (abbrOf (exIdx (w ++ sfx))) (rawPat arg) = true) :
    parse1 (loc.render ++ w ++ sfx ++ sp ++ rawPat arg ++ t) =
      ⟨loc.render, w ++ sfx, exIdx (w ++ sfx), rawPat arg, t.drop 1⟩ :=
  parse1_of h.w_alpha h.w_len h.w_k h.sfx_ok h.arg_start h.t_ok h.name_end h.bare
    (fun r => exLoc_render loc r h.loc_ok h.loc_lex) (exArg_toks _ sp arg t h.sp_ok h.arg_ok h.arg_start h.t_ok hp)

/-- a piece of a pattern or replacement between the delimiters of `:s`: a plain byte other than the delimiter,
    backslash and newline (`|` is fine), or a backslash pair -/
def TokSub (delim : Nat) : PTok → Prop
  | .ch c => c ≠ delim ∧ c ≠ 92 ∧ c ≠ 10
  | .esc _ => True

instance (delim : Nat) (t : PTok) : Decidable (TokSub delim t) := by cases t <;> (unfold TokSub; exact inferInstance)

theorem sub_toks (delim : Nat) (hd : delim ≠ 92) (cnt : Nat) (hcnt : cnt ≠ 0) : ∀ (toks : List PTok) (tail acc : Bytes) (f : Nat),
    (∀ t ∈ toks, TokSub delim t) → toks.length ≤ f →
    exArg.sub delim f (rawPat toks ++ tail) acc cnt = exArg.sub delim (f - toks.length) tail (acc ++ rawPat toks) cnt := by
  apply toks_scan (fun f s acc => exArg.sub delim f s acc cnt) (TokSub delim) PTok.raw
  intro tk hok f s acc
  have hc0 : (cnt == 0) = false := by simpa using hcnt
  cases tk with
  | ch c =>
    obtain ⟨h1, h2, h3⟩ : c ≠ delim ∧ c ≠ 92 ∧ c ≠ 10 := hok
    have e1 : (c == delim) = false := by simpa using h1
    have e2 : (c == 92) = false := by simpa using h2
    have e3 : (c == 10) = false := by simpa using h3
    simp only [PTok.raw, List.cons_append, List.nil_append]
    rw [exArg.sub]
    simp only [e1, e2, e3, hc0, Bool.or_self, Bool.false_eq_true, if_false, Bool.false_and]
  | esc d =>
    have e1 : ((92 : Nat) == delim) = false := by simpa using fun h => hd h.symm
    simp only [PTok.raw, List.cons_append, List.nil_append]
    rw [exArg.sub]
    simp only [e1, hc0, show ((92 : Nat) == 10) = false by decide, Bool.or_self, Bool.false_eq_true, if_false,
      beq_self_eq_true, Bool.true_and, List.isEmpty_cons, Bool.not_false, if_true, List.headD_cons,
      List.drop_succ_cons, List.drop_zero]

theorem sub_delim (delim : Nat) (h92 : delim ≠ 92) (h10 : delim ≠ 10) (f cnt : Nat) (tail acc : Bytes) (hf : 0 < f) :
    exArg.sub delim f (delim :: tail) acc (cnt + 1) = exArg.sub delim (f - 1) tail (acc ++ [delim]) cnt := by
  have e1 : (delim == 92) = false := by simpa using h92
  have e2 : (delim == 10) = false := by simpa using h10
  obtain ⟨f, rfl⟩ : ∃ g, f = g + 1 := ⟨f - 1, by omega⟩
  rw [exArg.sub]
  simp [e1, e2]

theorem sub_end (delim : Nat) (f : Nat) (tail acc : Bytes) : exArg.sub delim f tail acc 0 = (acc, tail) := by
  cases f with
  | zero => rw [exArg.sub]
  | succ f =>
    cases tail with
    | nil => rw [exArg.sub]
    | cons c r => rw [exArg.sub]; simp

/-- the commands whose argument is a delimited pattern: `s` (and, by the test of `ex_arg`, every abbreviation that
    starts with `s` but not `se`, `&`, `~`) -/
def substAbbr (abbr : Bytes) : Bool :=
  let c0 := abbr.headD 0
  let c1 := if c0 != 0 then abbr.getD 1 0 else 0
  !(c0 == 33 || c0 == 103 || c0 == 118 || c0 == 114 || c0 == 119) && (c0 == 115 && c1 != 101 || c0 == 38 || c0 == 126)

/-- **`ex_arg` for `:s/pat/rep/flags`**: the argument runs through the third delimiter and the flags; a `|` inside
    the pattern or the replacement is part of it, the `|` after the flags ends the command -/
theorem exArg_subst (abbr sp : Bytes) (delim : Nat) (pat rep : List PTok) (flags t : Bytes)
    (hab : substAbbr abbr = true) (hsp : ∀ c ∈ sp, c = 32 ∨ c = 9)
    (hdl : delim ≠ 0 ∧ delim ≠ 10 ∧ delim ≠ 124 ∧ delim ≠ 92 ∧ delim ≠ 34 ∧ delim ≠ 32 ∧ delim ≠ 9)
    (hpat : ∀ tk ∈ pat, TokSub delim tk) (hrep : ∀ tk ∈ rep, TokSub delim tk)
    (hfl : ∀ c ∈ flags, c ≠ 10 ∧ c ≠ 124 ∧ c ≠ 34 ∧ c ≠ 92)
    (ht : t = [] ∨ ∃ c2, t = 124 :: c2) :
    exArg (sp ++ (delim :: (rawPat pat ++ delim :: (rawPat rep ++ delim :: (flags ++ t))))) abbr =
      (delim :: (rawPat pat ++ delim :: (rawPat rep ++ delim :: flags)), t.drop 1) := by
  obtain ⟨d0, d10, d124, d92, d34, d32, d9⟩ := hdl
  unfold exArg
  have hsrc : (sp ++ (delim :: (rawPat pat ++ delim :: (rawPat rep ++ delim :: (flags ++ t))))).dropWhile
      (fun c => c == 32 || c == 9) = delim :: (rawPat pat ++ delim :: (rawPat rep ++ delim :: (flags ++ t))) := by
    exact exArg_skip sp _ hsp ⟨d32, d9⟩
  simp only [substAbbr, Bool.and_eq_true, Bool.not_eq_true', Bool.or_eq_false_iff] at hab
  obtain ⟨⟨⟨⟨⟨a1, a2⟩, a3⟩, a4⟩, a5⟩, a6⟩ := hab
  simp only [hsrc, a1, a2, a3, a4, a5, a6, Bool.or_false, Bool.false_and, Bool.false_eq_true, if_false,
    if_true, List.headD_cons]
  have g1 : (delim != 0 && delim != 10 && delim != 124 && delim != 92 && delim != 34 &&
      !(delim :: (rawPat pat ++ delim :: (rawPat rep ++ delim :: (flags ++ t)))).isEmpty) = true := by
    simp [d0, d10, d124, d92, d34]
  rw [if_pos g1]
  simp only [List.drop_succ_cons, List.drop_zero]
  have hl1 := toks_le_raw pat
  have hl2 := toks_le_raw rep
  -- the scan of `sub`: pattern, delimiter, replacement, delimiter, then the count is exhausted
  have hsub : exArg.sub delim ((delim :: (rawPat pat ++ delim :: (rawPat rep ++ delim :: (flags ++ t)))).length + 1)
      (rawPat pat ++ delim :: (rawPat rep ++ delim :: (flags ++ t))) [delim] 2 =
      ([delim] ++ rawPat pat ++ [delim] ++ rawPat rep ++ [delim], flags ++ t) := by
    rw [sub_toks delim d92 2 (by decide) pat _ _ _ hpat (by simp; omega),
      sub_delim delim d92 d10 _ _ _ _ (by simp; omega),
      sub_toks delim d92 1 (by decide) rep _ _ _ hrep (by simp; omega),
      sub_delim delim d92 d10 _ _ _ _ (by simp; omega), sub_end]
  rw [hsub]
  have hne : (([delim] ++ rawPat pat ++ [delim] ++ rawPat rep ++ [delim]) == [0, 0, 0, 0]) = false := by
    simp [d0]
  simp only [hne, Bool.false_eq_true, if_false]
  rw [copyUntil_plain _ flags [] t _ (fun c hc => by
        obtain ⟨a, b, c', d⟩ := hfl c hc
        simp [a, b, c', d])
      (by
        rcases ht with rfl | ⟨c2, rfl⟩
        · exact Or.inl rfl
        · right; rfl)
      (by simp only [List.length_append]; omega)]
  rcases ht with rfl | ⟨c2, rfl⟩
  · simp
  · simp

/-- the commands whose argument is the rest of the line: `!`, `g`, `v` (by their first byte) -/
def restAbbr (abbr : Bytes) : Bool := abbr.headD 0 == 33 || abbr.headD 0 == 103 || abbr.headD 0 == 118

/-- `[addr]s/pat/rep/flags` followed by `t` (nothing, or `|…`) -/
structure SubstCmd (loc : Loc) (w sp : Bytes) (delim : Nat) (pat rep : List PTok) (flags t : Bytes) : Prop where
  loc_ok : loc.Ok
  loc_lex : loc.Lex
  w_ne : w ≠ []
  w_alpha : ∀ c ∈ w, isAlphaC c = true
  w_len : w.length ≤ 16
  w_k : w.headD 0 ≠ 107
  abbr : substAbbr (abbrOf (exIdx w)) = true
  sp_ok : ∀ c ∈ sp, c = 32 ∨ c = 9
  delim_ok : delim ≠ 0 ∧ delim ≠ 10 ∧ delim ≠ 124 ∧ delim ≠ 92 ∧ delim ≠ 34 ∧ delim ≠ 32 ∧ delim ≠ 9
  delim_name : isAlphaC delim = false ∧ delim ≠ 33 ∧ delim ≠ 61 ∧ delim ≠ 64
  pat_ok : ∀ tk ∈ pat, TokSub delim tk
  rep_ok : ∀ tk ∈ rep, TokSub delim tk
  flags_ok : ∀ c ∈ flags, c ≠ 10 ∧ c ≠ 124 ∧ c ≠ 34 ∧ c ≠ 92
  t_ok : t = [] ∨ ∃ c2, t = 124 :: c2

/-- the argument `ex_arg` hands to `ec_substitute` -/
def substArg (delim : Nat) (pat rep : List PTok) (flags : Bytes) : Bytes :=
  delim :: (rawPat pat ++ delim :: (rawPat rep ++ delim :: flags))

theorem parse1_subst {loc : Loc} {w sp : Bytes} {delim : Nat} {pat rep : List PTok} {flags t : Bytes}
    (h : SubstCmd loc w sp delim pat rep flags t) :
    parse1 (loc.render ++ (w ++ (sp ++ (substArg delim pat rep flags ++ t)))) =
      ⟨loc.render, w, exIdx w, substArg delim pat rep flags, t.drop 1⟩ := by
  obtain ⟨c, w', hw⟩ : ∃ c w', w = c :: w' := by
    cases hw : w with
    | nil => exact absurd hw h.w_ne
    | cons c w' => exact ⟨c, w', rfl⟩
  have hc : isAlphaC c = true := h.w_alpha c (by rw [hw]; simp)
  have hge := alpha_ge c hc
  have hrest : substArg delim pat rep flags ++ t =
      delim :: (rawPat pat ++ delim :: (rawPat rep ++ delim :: (flags ++ t))) := by
    simp [substArg, List.append_assoc]
  have e1 : exLoc (loc.render ++ (w ++ (sp ++ (substArg delim pat rep flags ++ t)))) =
      (loc.render, w ++ (sp ++ (substArg delim pat rep flags ++ t))) := by
    apply exLoc_render loc _ h.loc_ok h.loc_lex
    · rw [hw]; exact alpha_not_loc c hc
    · intro _; rw [hw]; simp only [List.cons_append, List.headD_cons]; omega
  have hsphead : ∀ x, x = (sp ++ (substArg delim pat rep flags ++ t)).headD 0 →
      isAlphaC x = false ∧ x ≠ 33 ∧ x ≠ 61 ∧ x ≠ 64 := by
    intro x hx
    cases hsp : sp with
    | nil =>
      rw [hsp, hrest] at hx
      simp only [List.nil_append, List.headD_cons] at hx
      subst hx
      exact h.delim_name
    | cons y ys =>
      rw [hsp] at hx
      simp only [List.cons_append, List.headD_cons] at hx
      subst hx
      rcases h.sp_ok x (by rw [hsp]; simp) with rfl | rfl <;> exact ⟨by decide, by decide, by decide, by decide⟩
  have e2 : exCmd (w ++ (sp ++ (substArg delim pat rep flags ++ t))) = (w, sp ++ (substArg delim pat rep flags ++ t)) := by
    have := exCmd_simple w [] (sp ++ (substArg delim pat rep flags ++ t)) h.w_alpha h.w_len
      (fun h107 => absurd h107 h.w_k) (Or.inl rfl)
      (fun _ => by
        obtain ⟨a, b, c', d⟩ := hsphead _ rfl
        exact ⟨Or.inr a, b, c', d⟩)
      (fun hw0 => absurd hw0 h.w_ne)
    simpa only [List.append_nil] using this
  have e3 : exArg (sp ++ (substArg delim pat rep flags ++ t)) (abbrOf (exIdx w)) =
      (substArg delim pat rep flags, t.drop 1) := by
    rw [hrest]
    exact exArg_subst _ sp delim pat rep flags t h.abbr h.sp_ok h.delim_ok h.pat_ok h.rep_ok h.flags_ok h.t_ok
  unfold parse1
  simp only [e1, e2, e3]

end Neatvi.Lemmas.C06d
