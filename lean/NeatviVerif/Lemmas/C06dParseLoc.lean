import NeatviVerif.Lemmas.Basics
import NeatviVerif.Lemmas.C06dRegion
/-!
# C06d: every byte string is the text of a well-formed location tree (`rawParse_spec`: why `parseLoc` is total)
-/
namespace Neatvi.Lemmas.C06d
open Neatvi

theorem rawPat_append (a b : List PTok) : rawPat (a ++ b) = rawPat a ++ rawPat b := by simp [rawPat]

theorem parsePat_spec (delim : Nat) (hd : delim ≠ 92) : ∀ (f : Nat) (r : Bytes) (acc toks : List PTok) (cl : Bool) (r' : Bytes),
    r.length < f → (∀ t ∈ acc, t.Ok delim) → parsePat delim f r acc = (toks, cl, r') →
    rawPat toks ++ (if cl then delim :: r' else []) = rawPat acc ++ r ∧ (cl = false → r' = []) ∧ ToksOk delim toks cl := by
  intro f
  induction f with
  | zero => intro r acc toks cl r' h; omega
  | succ f ih =>
    intro r acc toks cl r' hf hacc h
    cases r with
    | nil =>
      simp only [parsePat, Prod.mk.injEq] at h
      obtain ⟨rfl, rfl, rfl⟩ := h
      exact ⟨by simp, fun _ => rfl, Or.inl hacc⟩
    | cons c r =>
      simp only [parsePat] at h
      by_cases h1 : c = delim
      · rw [if_pos h1] at h
        simp only [Prod.mk.injEq] at h
        obtain ⟨rfl, rfl, rfl⟩ := h
        subst h1
        exact ⟨by simp, (fun h => by cases h), Or.inl hacc⟩
      · rw [if_neg h1] at h
        by_cases h2 : c = 92
        · rw [if_pos h2] at h
          subst h2
          cases r with
          | nil =>
            simp only [Prod.mk.injEq] at h
            obtain ⟨rfl, rfl, rfl⟩ := h
            refine ⟨by simp [rawPat, PTok.raw], fun _ => rfl, Or.inr ⟨rfl, by simp, ?_⟩⟩
            simpa using hacc
          | cons d r'' =>
            simp only [] at h
            have hacc' : ∀ t ∈ acc ++ [PTok.esc d], t.Ok delim := by
              intro t ht
              rcases List.mem_append.mp ht with ht | ht
              · exact hacc t ht
              · simp only [List.mem_cons, List.not_mem_nil, or_false] at ht; subst ht; trivial
            obtain ⟨i1, i2, i3⟩ := ih r'' (acc ++ [.esc d]) toks cl r' (by simp at hf; omega) hacc' h
            refine ⟨?_, i2, i3⟩
            rw [i1]
            simp [rawPat, PTok.raw]
        · rw [if_neg h2] at h
          have hacc' : ∀ t ∈ acc ++ [PTok.ch c], t.Ok delim := by
            intro t ht
            rcases List.mem_append.mp ht with ht | ht
            · exact hacc t ht
            · simp only [List.mem_cons, List.not_mem_nil, or_false] at ht; subst ht; exact ⟨h1, h2⟩
          obtain ⟨i1, i2, i3⟩ := ih r (acc ++ [.ch c]) toks cl r' (by simp at hf; omega) hacc' h
          refine ⟨?_, i2, i3⟩
          rw [i1]
          simp [rawPat, PTok.raw]

theorem parsePat_render (back : Bool) (r : Bytes) (toks : List PTok) (cl : Bool) (r' : Bytes)
    (hq : parsePat (delimOf back) (r.length + 1) r [] = (toks, cl, r')) :
    (Base.search back toks cl).render ++ r' = delimOf back :: r ∧ ToksOk (delimOf back) toks cl ∧
      (cl = false → r' = []) := by
  obtain ⟨i1, i2, i3⟩ := parsePat_spec (delimOf back) (delimOf_ne back) (r.length + 1) r [] toks cl r'
    (Nat.lt_succ_self _) (fun t ht => by cases ht) hq
  refine ⟨?_, i3, i2⟩
  simp only [rawPat, List.flatMap_nil, List.nil_append] at i1
  simp only [Base.render, List.cons_append, List.append_assoc]
  congr 1
  rw [← i1]
  cases cl with
  | true => simp [rawPat]
  | false => simp [rawPat, i2 rfl]

theorem dropWhile_head_false (p : Nat → Bool) (l : Bytes) (d : Nat) (hd : p d = false) : p ((l.dropWhile p).headD d) = false := by
  induction l with
  | nil => exact hd
  | cons x r ih =>
    rw [List.dropWhile_cons]
    split
    · exact ih
    · rename_i h; simpa using h

theorem parseBase_spec (s : Bytes) (b : Base) (r1 : Bytes) (h : parseBase s = (b, r1)) :
    b.render ++ r1 = s ∧ b.Ok ∧ (b.closed = false → r1 = []) ∧ tailOk b r1 := by
  cases s with
  | nil =>
    simp only [parseBase, Prod.mk.injEq] at h
    obtain ⟨rfl, rfl⟩ := h
    exact ⟨rfl, trivial, fun _ => rfl, ⟨by decide, by decide, by decide, by decide, by decide, by decide⟩⟩
  | cons c r =>
    simp only [parseBase] at h
    by_cases h46 : c = 46
    · rw [if_pos h46] at h
      simp only [Prod.mk.injEq] at h
      obtain ⟨rfl, rfl⟩ := h
      subst h46
      exact ⟨rfl, trivial, (fun h => by cases h), trivial⟩
    rw [if_neg h46] at h
    by_cases h36 : c = 36
    · rw [if_pos h36] at h
      simp only [Prod.mk.injEq] at h
      obtain ⟨rfl, rfl⟩ := h
      subst h36
      exact ⟨rfl, trivial, (fun h => by cases h), trivial⟩
    rw [if_neg h36] at h
    by_cases h39 : c = 39
    · rw [if_pos h39] at h
      subst h39
      cases r with
      | nil =>
        simp only [Prod.mk.injEq] at h
        obtain ⟨rfl, rfl⟩ := h
        exact ⟨rfl, trivial, fun _ => rfl, trivial⟩
      | cons m r' =>
        simp only [Prod.mk.injEq] at h
        obtain ⟨rfl, rfl⟩ := h
        exact ⟨rfl, trivial, (fun h => by cases h), trivial⟩
    rw [if_neg h39] at h
    by_cases h47 : c = 47
    · rw [if_pos h47] at h
      subst h47
      generalize hq : parsePat 47 (r.length + 1) r [] = q at h
      obtain ⟨toks, cl, r'⟩ := q
      simp only [Prod.mk.injEq] at h
      obtain ⟨rfl, rfl⟩ := h
      obtain ⟨i1, i3, i2⟩ := parsePat_render false r toks cl r' hq
      exact ⟨i1, i3, i2, trivial⟩
    rw [if_neg h47] at h
    by_cases h63 : c = 63
    · rw [if_pos h63] at h
      subst h63
      generalize hq : parsePat 63 (r.length + 1) r [] = q at h
      obtain ⟨toks, cl, r'⟩ := q
      simp only [Prod.mk.injEq] at h
      obtain ⟨rfl, rfl⟩ := h
      obtain ⟨i1, i3, i2⟩ := parsePat_render true r toks cl r' hq
      exact ⟨i1, i3, i2, trivial⟩
    rw [if_neg h63] at h
    by_cases hdig : isDigit c = true
    · rw [if_pos hdig] at h
      simp only [Prod.mk.injEq] at h
      obtain ⟨rfl, rfl⟩ := h
      refine ⟨List.takeWhile_append_dropWhile, ⟨?_, fun d hd => Basics.mem_takeWhile hd⟩, (fun h => by cases h), ?_⟩
      · simp [hdig]
      · exact dropWhile_head_false isDigit (c :: r) 0 (by decide)
    · rw [if_neg hdig] at h
      simp only [Prod.mk.injEq] at h
      obtain ⟨rfl, rfl⟩ := h
      refine ⟨rfl, trivial, (fun h => by cases h), ?_⟩
      simp only [tailOk, List.headD_cons]
      exact ⟨by simpa using hdig, h46, h36, h39, h47, h63⟩

theorem offsText_append (a b : List Off) : offsText (a ++ b) = offsText a ++ offsText b := by simp [offsText]

theorem parseOffs_spec : ∀ (f : Nat) (s : Bytes) (acc offs : List Off) (r : Bytes),
    s.length < f → parseOffs f s acc = (offs, r) → (∀ o ∈ acc, ∀ d ∈ o.ds, isDigit d = true) →
    (acc ≠ [] → isDigit (s.headD 0) = false) →
    offsText offs ++ r = offsText acc ++ s ∧ (∀ o ∈ offs, ∀ d ∈ o.ds, isDigit d = true) ∧
    r.headD 0 ≠ 43 ∧ r.headD 0 ≠ 45 ∧ (offs ≠ [] → isDigit (r.headD 0) = false) ∧ (offs = [] → r = s) := by
  intro f
  induction f with
  | zero => intro s acc offs r h; omega
  | succ f ih =>
    intro s acc offs r hf h hacc hdg
    cases s with
    | nil =>
      simp only [parseOffs, Prod.mk.injEq] at h
      obtain ⟨rfl, rfl⟩ := h
      exact ⟨rfl, hacc, by decide, by decide, hdg, fun _ => rfl⟩
    | cons c s' =>
      simp only [parseOffs] at h
      by_cases hc : c = 43 ∨ c = 45
      · rw [if_pos hc] at h
        have hlen : (s'.dropWhile isDigit).length < f := by
          have := (List.dropWhile_sublist isDigit (l := s')).length_le
          simp at hf; omega
        have hacc' : ∀ o ∈ acc ++ [⟨decide (c = 45), s'.takeWhile isDigit⟩], ∀ d ∈ o.ds, isDigit d = true := by
          intro o ho
          rcases List.mem_append.mp ho with ho | ho
          · exact hacc o ho
          · simp only [List.mem_cons, List.not_mem_nil, or_false] at ho
            subst ho
            exact fun d hd => Basics.mem_takeWhile hd
        obtain ⟨i1, i2, i3, i4, i5, i6⟩ := ih _ _ offs r hlen h hacc'
          (fun _ => dropWhile_head_false isDigit s' 0 (by decide))
        have hne : offs ≠ [] := by
          intro h0
          have := i6 h0
          subst h0
          rw [this, offsText_append] at i1
          have hl := congrArg List.length i1
          simp only [List.length_append, offsText, List.flatMap_nil, List.length_nil, List.flatMap_cons, Off.text,
            List.length_cons, List.append_nil, Nat.zero_add] at hl
          omega
        refine ⟨?_, i2, i3, i4, i5, fun h0 => absurd h0 hne⟩
        rw [i1, offsText_append]
        have htxt : offsText [⟨decide (c = 45), s'.takeWhile isDigit⟩] = c :: s'.takeWhile isDigit := by
          rcases hc with rfl | rfl <;> simp [offsText, Off.text]
        rw [htxt]
        simp [List.append_assoc]
      · rw [if_neg hc] at h
        simp only [Prod.mk.injEq] at h
        obtain ⟨rfl, rfl⟩ := h
        refine ⟨rfl, hacc, ?_, ?_, hdg, fun _ => rfl⟩
        · simp only [List.headD_cons]; exact fun h => hc (Or.inl h)
        · simp only [List.headD_cons]; exact fun h => hc (Or.inr h)

theorem dropWhile_sepHead (l : Bytes) : SepTail (l.dropWhile (fun c => c != 44 && c != 59)) := by
  induction l with
  | nil => left; rfl
  | cons x r ih =>
    rw [List.dropWhile_cons]
    split
    · exact ih
    · rename_i h
      right
      simp only [Bool.and_eq_true, bne_iff_ne, ne_eq, not_and, Decidable.not_not] at h
      simp only [List.headD_cons]
      by_cases h1 : x = 44
      · exact Or.inl h1
      · exact Or.inr (h h1)

theorem takeWhile_head (p : Nat → Bool) (l : Bytes) (h : l.takeWhile p ≠ []) : (l.takeWhile p).headD 0 = l.headD 0 := by
  cases l with
  | nil => exact absurd rfl h
  | cons x r =>
    rw [List.takeWhile_cons] at h ⊢
    split
    · rfl
    · rename_i hx; rw [if_neg hx] at h; exact absurd rfl h

theorem parseAddr_spec (s : Bytes) (a : Addr) (r3 : Bytes) (h : parseAddr s = (a, r3)) :
    a.render ++ r3 = s ∧ a.Ok ∧ SepTail r3 ∧ (a.base.closed = false → r3 = []) := by
  unfold parseAddr at h
  generalize hb : parseBase s = pb at h
  obtain ⟨b, r1⟩ := pb
  obtain ⟨b1, b2, b3, b4⟩ := parseBase_spec s b r1 hb
  simp only [] at h
  generalize ho : parseOffs (r1.length + 1) r1 [] = po at h
  obtain ⟨offs, r2⟩ := po
  obtain ⟨o1, o2, o3, o4, o5, o6⟩ := parseOffs_spec (r1.length + 1) r1 [] offs r2 (Nat.lt_succ_self _) ho
    (fun o ho => by cases ho) (fun h => absurd rfl h)
  simp only [Prod.mk.injEq] at h
  obtain ⟨rfl, rfl⟩ := h
  simp only [offsText, List.flatMap_nil, List.nil_append] at o1
  have hjunk : r2.takeWhile (fun c => c != 44 && c != 59) ++ r2.dropWhile (fun c => c != 44 && c != 59) = r2 :=
    List.takeWhile_append_dropWhile
  refine ⟨?_, ⟨b2, o2, ⟨?_, ?_⟩, ?_⟩, dropWhile_sepHead r2, ?_⟩
  · simp only [Addr.render, List.append_assoc]
    rw [hjunk]
    have : offsText offs ++ r2 = r1 := o1
    rw [this, b1]
  · intro c hc
    have := Basics.mem_takeWhile hc
    simpa using this
  · intro hne
    have hh := takeWhile_head _ _ hne
    simp only [] at hh ⊢
    rw [hh]
    refine ⟨o3, o4, ?_, ?_⟩
    · intro hnd
      simp only [Addr.nodigit, Bool.or_eq_true, Bool.not_eq_true', List.isEmpty_eq_false_iff] at hnd
      by_cases ho0 : offs = []
      · have hr := o6 ho0
        subst ho0
        rcases hnd with hnd | hnd
        · exact absurd rfl hnd
        · cases b with
          | num ds => rw [hr]; exact b4
          | _ => cases hnd
      · exact o5 ho0
    · intro hbare
      simp only [Addr.bare, Bool.and_eq_true, beq_iff_eq, List.isEmpty_iff] at hbare
      obtain ⟨hb0, ho0⟩ := hbare
      have hr := o6 ho0
      subst hb0
      rw [hr]
      exact b4
  · intro hcl
    have hr1 := b3 hcl
    subst hr1
    simp only [parseOffs, Prod.mk.injEq] at ho
    obtain ⟨rfl, rfl⟩ := ho
    exact ⟨rfl, rfl⟩
  · intro hcl
    have hr1 := b3 hcl
    subst hr1
    simp only [parseOffs, Prod.mk.injEq] at ho
    obtain ⟨rfl, rfl⟩ := ho
    rfl

theorem listOk_cons (a : Addr) (s : Sep) (L : AddrList) (ha : a.Ok) (hs : s ≠ .fin) (hc : a.base.closed = true)
    (hL : ListOk L) : ListOk ((a, s) :: L) := by
  cases L with
  | nil => exact absurd hL (by simp [ListOk])
  | cons q L' => exact ⟨ha, hs, hc, hL⟩

theorem rawParse_spec : ∀ (f : Nat) (s : Bytes), s ≠ [] → s.length < f →
    renderList (rawParse f s) = s ∧ ListOk (rawParse f s) := by
  intro f
  induction f with
  | zero => intro s _ h; omega
  | succ f ih =>
    intro s hne hf
    obtain ⟨p1, p2, p3, p4⟩ := parseAddr_spec s (parseAddr s).1 (parseAddr s).2 rfl
    have hclosed : ∀ c r', (parseAddr s).2 = c :: r' → (parseAddr s).1.base.closed = true := by
      intro c r' h
      cases hcl : (parseAddr s).1.base.closed with
      | true => rfl
      | false => have := p4 hcl; rw [this] at h; cases h
    simp only [rawParse]
    cases hr : (parseAddr s).2 with
    | nil =>
      rw [hr] at p1
      simp only []
      refine ⟨by simpa [renderList, Sep.text] using p1, p2, fun _ => ?_, fun h => absurd rfl h⟩
      simp only [List.append_nil] at p1
      rw [p1]; exact hne
    | cons c r' =>
      rw [hr] at p1 p3
      have hcl := hclosed c r' hr
      have hlen : r'.length < f := by
        have := congrArg List.length p1
        simp only [List.length_append, List.length_cons] at this
        omega
      simp only []
      -- `,` and `;` go the same way
      have sep : ∀ sp : Sep, sp ≠ .fin → sp.text = [c] →
          renderList (if r' = [] then [((parseAddr s).1, sp)] else ((parseAddr s).1, sp) :: rawParse f r') = s ∧
          ListOk (if r' = [] then [((parseAddr s).1, sp)] else ((parseAddr s).1, sp) :: rawParse f r') := by
        intro sp hsp htx
        by_cases hr0 : r' = []
        · rw [if_pos hr0]
          subst hr0
          exact ⟨by simpa [renderList, htx] using p1, p2, fun h => absurd h hsp, fun _ => hcl⟩
        · rw [if_neg hr0]
          obtain ⟨i1, i2⟩ := ih r' hr0 hlen
          refine ⟨?_, listOk_cons _ _ _ p2 hsp hcl i2⟩
          rw [renderList_cons, i1, htx]
          exact p1
      rcases p3 with h | h | h
      · cases h
      · simp only [List.headD_cons] at h
        subst h
        rw [if_pos rfl]
        exact sep .comma (by decide) rfl
      · simp only [List.headD_cons] at h
        subst h
        rw [if_neg (by decide), if_pos rfl]
        exact sep .semi (by decide) rfl

end Neatvi.Lemmas.C06d
