import NeatviVerif.Model.Bytes
/-!
# C06d, the reference: ex addresses as syntax trees, and what they mean

This file does not import the model of `ex.c`.  It defines

* the *syntax* of an address list (`Addr`, `Sep`, `Loc`) with its rendering as bytes (`Loc.render`);
* the *world* an address is evaluated in (`World`: length of the buffer, marks, a search oracle) and the
  part of the state an address may change (`Cursor`: current row, remembered search keyword and direction);
* the *meaning* of an address (`Addr.eval`), of an address list (`evalList`), of a whole location
  (`refRegion`): terms are added exactly, each number saturating at `2^40` before it is added and the line
  number at `±2^29` after (what `ex.c` documents), `;` makes its address the current row, the region is
  (second-to-last address, last address + 1), a trailing separator is ignored.

Bytes: `.` 46, `$` 36, `'` 39, `/` 47, `?` 63, `+` 43, `-` 45, `,` 44, `;` 59, `%` 37, `\` 92, digits 48–57.
-/
namespace Neatvi.Lemmas.C06d
open Neatvi

/-! ## numbers -/

/-- line numbers saturate here (`NUMMAX` of `ex.c`): `2^29` -/
def numMax : Int := 536870912
/-- the numbers of an address saturate here before they are added (`TERMMAX` of `ex.c`): `2^40` -/
def termMax : Int := 1099511627776
/-- a remembered search keyword holds at most `EXLEN - 1` bytes -/
def kwdMax : Nat := 511

/-- the decimal value of a string of digits (`""` is 0) -/
def digitsVal (ds : Bytes) : Int := ds.foldl (fun (a : Int) (d : Nat) => a * 10 + ((d : Int) - 48)) 0

/-- saturation at `±mx` -/
def sat (mx x : Int) : Int := max (-mx) (min x mx)

theorem sat_id (mx x : Int) (h0 : -mx ≤ x) (h1 : x ≤ mx) : sat mx x = x := by unfold sat; omega

def isDigit (c : Nat) : Bool := 48 ≤ c && c ≤ 57

/-! ## syntax -/

/-- one offset `+ds` / `-ds` (`neg` for `-`); the digits may be missing (`+` alone adds 0) -/
structure Off where
  neg : Bool
  ds : Bytes
deriving Repr, DecidableEq

def Off.text (o : Off) : Bytes := (if o.neg then 45 else 43) :: o.ds

/-- the value an offset adds: its number, saturated at `2^40`, with its sign -/
def Off.val (o : Off) : Int := sat termMax (if o.neg then -digitsVal o.ds else digitsVal o.ds)

def offsText (l : List Off) : Bytes := l.flatMap Off.text
def offsVal (l : List Off) : Int := (l.map Off.val).sum

/-- a piece of a search pattern as typed: a plain byte, or a backslash and the byte it quotes -/
inductive PTok where
  | ch (c : Nat)
  | esc (d : Nat)
deriving Repr, DecidableEq

/-- as typed -/
def PTok.raw : PTok → Bytes
  | .ch c => [c]
  | .esc d => [92, d]

/-- as the regular expression sees it: a quoted delimiter loses its backslash, every other pair is kept -/
def PTok.cooked (delim : Nat) : PTok → Bytes
  | .ch c => [c]
  | .esc d => if d = delim then [d] else [92, d]

def rawPat (toks : List PTok) : Bytes := toks.flatMap PTok.raw
def cookedPat (delim : Nat) (toks : List PTok) : Bytes := toks.flatMap (PTok.cooked delim)

/-- what an address starts from -/
inductive Base where
  /-- nothing typed: the current line -/
  | implicit
  /-- `.` -/
  | dot
  /-- `$` -/
  | dollar
  /-- `'c` -/
  | mark (c : Nat)
  /-- a `'` that ends the address text: no mark name follows (it never resolves in practice: the mark "NUL") -/
  | quote
  /-- `/pat/` (forward) or `?pat?` (`back`); `closed = false`: the pattern runs to the end of the address -/
  | search (back : Bool) (toks : List PTok) (closed : Bool)
  /-- a line number -/
  | num (ds : Bytes)
deriving Repr, DecidableEq

def delimOf (back : Bool) : Nat := if back then 63 else 47

def Base.render : Base → Bytes
  | .implicit => []
  | .dot => [46]
  | .dollar => [36]
  | .mark c => [39, c]
  | .quote => [39]
  | .search back toks closed => delimOf back :: (rawPat toks ++ (if closed then [delimOf back] else []))
  | .num ds => ds

/-- one address: a base, offsets, and trailing bytes the evaluator skips (anything up to the next separator) -/
structure Addr where
  base : Base
  offs : List Off := []
  junk : Bytes := []
deriving Repr, DecidableEq

def Addr.render (a : Addr) : Bytes := a.base.render ++ offsText a.offs ++ a.junk

/-- what follows an address: `,`, `;`, or the end of the list -/
inductive Sep where
  | comma | semi | fin
deriving Repr, DecidableEq

def Sep.text : Sep → Bytes
  | .comma => [44]
  | .semi => [59]
  | .fin => []

abbrev AddrList := List (Addr × Sep)

def renderList (l : AddrList) : Bytes := l.flatMap (fun p => p.1.render ++ p.2.text)

/-- the address part of a command -/
inductive Loc where
  /-- `%` -/
  | whole
  /-- nothing -/
  | current
  | list (l : AddrList)
deriving Repr, DecidableEq

def Loc.render : Loc → Bytes
  | .whole => [37]
  | .current => []
  | .list l => renderList l

/-! ### which trees are the parse of their rendering -/

/-- the base does not run to the end of the address text -/
def Base.closed : Base → Bool
  | .search _ _ c => c
  | .quote => false
  | _ => true

def PTok.Ok (delim : Nat) : PTok → Prop
  | .ch c => c ≠ delim ∧ c ≠ 92
  | .esc _ => True

instance (delim : Nat) (t : PTok) : Decidable (t.Ok delim) := by
  cases t <;> (unfold PTok.Ok; exact inferInstance)

/-- the pieces of a pattern: plain bytes other than the delimiter and backslash, and pairs; a pattern that runs to
    the end of the text may end in a lone backslash -/
def ToksOk (delim : Nat) (toks : List PTok) (closed : Bool) : Prop :=
  (∀ t ∈ toks, t.Ok delim) ∨
  (closed = false ∧ toks.getLast? = some (.ch 92) ∧ ∀ t ∈ toks.dropLast, t.Ok delim)

instance (delim : Nat) (toks : List PTok) (closed : Bool) : Decidable (ToksOk delim toks closed) := by
  unfold ToksOk; exact inferInstance

def Base.Ok : Base → Prop
  | .search back toks cl => ToksOk (delimOf back) toks cl
  | .num ds => ds ≠ [] ∧ ∀ d ∈ ds, isDigit d = true
  | _ => True

instance (b : Base) : Decidable b.Ok := by
  cases b <;> (unfold Base.Ok; exact inferInstance)

/-- the skipped bytes hold no separator and do not continue the address: they do not start with a sign, nor —
    after a number or an offset (`nodigit`) — with a digit, nor — right after an empty address (`bare`) — with
    anything an address can start with -/
def junkOk (bare nodigit : Bool) (junk : Bytes) : Prop :=
  (∀ c ∈ junk, c ≠ 44 ∧ c ≠ 59) ∧
  (junk ≠ [] → junk.headD 0 ≠ 43 ∧ junk.headD 0 ≠ 45 ∧ (nodigit = true → isDigit (junk.headD 0) = false) ∧
    (bare = true → isDigit (junk.headD 0) = false ∧ junk.headD 0 ≠ 46 ∧ junk.headD 0 ≠ 36 ∧ junk.headD 0 ≠ 39 ∧
      junk.headD 0 ≠ 47 ∧ junk.headD 0 ≠ 63))

instance (bare nodigit : Bool) (junk : Bytes) : Decidable (junkOk bare nodigit junk) := by
  unfold junkOk; exact inferInstance

/-- the address is empty up to its junk -/
def Addr.bare (a : Addr) : Bool := a.base == .implicit && a.offs.isEmpty

def Base.isNum : Base → Bool
  | .num _ => true
  | _ => false

/-- the address ends in digits (a number or an offset): a digit after it would belong to it -/
def Addr.nodigit (a : Addr) : Bool := !a.offs.isEmpty || a.base.isNum

def Addr.Ok (a : Addr) : Prop :=
  a.base.Ok ∧ (∀ o ∈ a.offs, ∀ d ∈ o.ds, isDigit d = true) ∧ junkOk a.bare a.nodigit a.junk ∧
  (a.base.closed = false → a.offs = [] ∧ a.junk = [])

instance (a : Addr) : Decidable a.Ok := by unfold Addr.Ok; exact inferInstance

/-- every address is well formed, only the last item ends the list, an unclosed pattern comes last, and a
    last address after a separator is not empty (an empty one is the "trailing separator" list) -/
def ListOk : AddrList → Prop
  | [] => False
  | [(a, s)] => a.Ok ∧ (s = .fin → a.render ≠ []) ∧ (s ≠ .fin → a.base.closed = true)
  | (a, s) :: r => a.Ok ∧ s ≠ .fin ∧ a.base.closed = true ∧ ListOk r

instance : (l : AddrList) → Decidable (ListOk l)
  | [] => by unfold ListOk; exact inferInstance
  | [(a, s)] => by unfold ListOk; exact inferInstance
  | (a, s) :: b :: r => by
    have := instDecidableListOk (b :: r)
    unfold ListOk; exact inferInstance

def Loc.Ok : Loc → Prop
  | .list l => ListOk l ∧ renderList l ≠ [37]
  | _ => True

instance (l : Loc) : Decidable l.Ok := by cases l <;> (unfold Loc.Ok; exact inferInstance)

/-! ## meaning -/

/-- what an address reads and cannot change: the number of lines, the marks, and the search oracle —
    `reOk kw`: does the keyword compile (`none`: the engine gives up), `hit kw row`: does line `row` match it -/
structure World where
  len : Int
  mark : Nat → Option Int
  reOk : Bytes → Option Bool
  hit : Bytes → Int → Option Bool

/-- what an address list may change: the current row (`;`), the remembered search -/
structure Cursor where
  cur : Int
  kwd : Bytes
  dir : Int
deriving Repr, DecidableEq

/-- the nearest row from `row` on, going by `dir`, whose line matches; `k` rows are looked at at most.
    `none`: the matcher gave up; `some none`: no such row inside the buffer -/
def nearest (hit : Int → Option Bool) (len dir : Int) : Nat → Int → Option (Option Int)
  | 0, _ => some none
  | k + 1, row =>
    if row < 0 ∨ row ≥ len then some none else
    match hit row with
    | none => none
    | some true => some (some row)
    | some false => nearest hit len dir k (row + dir)

/-- the value of a base: `none` = the evaluation does not end; `some (none, _)` = unresolved (mark not set,
    no previous search, bad pattern, no matching line) -/
def Base.eval (w : World) (c : Cursor) : Base → Option (Option Int × Cursor)
  | .implicit => some (some c.cur, c)
  | .dot => some (some c.cur, c)
  | .dollar => some (some (w.len - 1), c)
  | .mark m => some (w.mark m, c)
  | .quote => some (w.mark 0, c)
  | .num ds => some (some (sat termMax (digitsVal ds) - 1), c)
  | .search back toks _ =>
    let kw := cookedPat (delimOf back) toks
    -- a non-empty pattern becomes the remembered search; an empty one repeats it
    let c1 : Cursor := if kw ≠ [] then { c with kwd := kw.take kwdMax, dir := if back then -1 else 1 } else c
    if c1.dir = 0 then some (none, c1) else
    match w.reOk c1.kwd with
    | none => none
    | some false => some (none, c1)
    | some true =>
      match nearest (w.hit c1.kwd) w.len c1.dir (w.len.toNat + 1) (c1.cur + c1.dir) with
      | none => none
      | some r => some (r, c1)

/-- the value of an address: base plus offsets, saturated at `±2^29` -/
def Addr.eval (w : World) (c : Cursor) (a : Addr) : Option (Option Int × Cursor) :=
  match a.base.eval w c with
  | none => none
  | some (none, c1) => some (none, c1)
  | some (some v, c1) => some (some (sat numMax (v + offsVal a.offs)), c1)

/-- the values of the addresses of a list, left to right; an address below line 0 (value `< -1`) is
    unresolved; after `;` the address is the current row -/
def evalList (w : World) : Cursor → AddrList → Option (Option (List Int) × Cursor)
  | c, [] => some (some [], c)
  | c, (a, s) :: r =>
    match a.eval w c with
    | none => none
    | some (none, c1) => some (none, c1)
    | some (some n, c1) =>
      if n < -1 then some (none, c1) else
      match evalList w (if s = .semi then { c1 with cur := n } else c1) r with
      | none => none
      | some (none, c2) => some (none, c2)
      | some (some l, c2) => some (some (n :: l), c2)

/-- the region of the values `[n₁, …, nₖ]`: from `nₖ₋₁` (from `nₖ` itself when `k = 1`) up to and including `nₖ` -/
def begOf (vals : List Int) : Int := (vals.dropLast.getLast?).getD (vals.getLast?.getD 0)
def endOf (vals : List Int) : Int := vals.getLast?.getD 0 + 1

/-- the verdict on a region `beg, end` (0-based, `end` exclusive): `(1, -1, -1)` for a reversed range; address
    `0` (`beg = -1`, `end = 0`) is the empty range before the first line; accepted (`0`) iff
    `0 ≤ beg < len` and `end ≤ len` -/
def verdict (len b e : Int) : Nat × Int × Int :=
  if e ≤ b then (1, -1, -1) else
  let b := if b < 0 ∧ e = 0 then 0 else b
  if 0 ≤ b ∧ b < len ∧ e ≤ len then (0, b, e) else (1, b, e)

/-- **the reference**: the region a location designates.  `(rc, beg, end)` and the cursor left behind;
    `rc = 1` is a rejection (`beg`, `end` as `ex_region` leaves them: `-1, -1` for an unresolved or reversed
    address, the out-of-range values otherwise) -/
def refRegion (w : World) (c : Cursor) : Loc → Option ((Nat × Int × Int) × Cursor)
  | .whole => some ((0, 0, max 0 w.len), c)
  | .current =>
    let b := max 0 (min c.cur w.len)
    some ((0, b, if b = w.len then b else b + 1), c)
  | .list l =>
    match evalList w c l with
    | none => none
    | some (none, c1) => some ((1, -1, -1), c1)
    | some (some vals, c1) => some (verdict w.len (begOf vals) (endOf vals), c1)

/-! ## from text to tree

`parseLoc s` reads an address text into a tree and *checks* that the tree is well formed and renders back to `s`;
so `parseLoc s = some loc` gives `loc.render = s ∧ loc.Ok` by construction, whatever `rawParse` does.  It is a
convenience (the hypothesis `parseLoc s = some loc` is decidable: `by decide`) — the semantics is defined on trees. -/

/-- the pieces of a pattern up to the closing delimiter -/
def parsePat (delim : Nat) : Nat → Bytes → List PTok → List PTok × Bool × Bytes
  | 0, s, acc => (acc, false, s)
  | _ + 1, [], acc => (acc, false, [])
  | f + 1, c :: r, acc =>
    if c = delim then (acc, true, r)
    else if c = 92 then
      (match r with
      | d :: r' => parsePat delim f r' (acc ++ [.esc d])
      | [] => (acc ++ [.ch c], false, []))
    else parsePat delim f r (acc ++ [.ch c])

def parseBase (s : Bytes) : Base × Bytes :=
  match s with
  | [] => (.implicit, [])
  | c :: r =>
    if c = 46 then (.dot, r)
    else if c = 36 then (.dollar, r)
    else if c = 39 then (match r with | m :: r' => (.mark m, r') | [] => (.quote, []))
    else if c = 47 then
      ((.search false (parsePat 47 (r.length + 1) r []).1 (parsePat 47 (r.length + 1) r []).2.1),
        (parsePat 47 (r.length + 1) r []).2.2)
    else if c = 63 then
      ((.search true (parsePat 63 (r.length + 1) r []).1 (parsePat 63 (r.length + 1) r []).2.1),
        (parsePat 63 (r.length + 1) r []).2.2)
    else if isDigit c then (.num (s.takeWhile isDigit), s.dropWhile isDigit)
    else (.implicit, s)

def parseOffs : Nat → Bytes → List Off → List Off × Bytes
  | 0, s, acc => (acc, s)
  | f + 1, s, acc =>
    match s with
    | c :: r =>
      if c = 43 ∨ c = 45 then parseOffs f (r.dropWhile isDigit) (acc ++ [⟨c = 45, r.takeWhile isDigit⟩])
      else (acc, s)
    | [] => (acc, [])

def parseAddr (s : Bytes) : Addr × Bytes :=
  let (b, r1) := parseBase s
  let (offs, r2) := parseOffs (r1.length + 1) r1 []
  (⟨b, offs, r2.takeWhile (fun c => c != 44 && c != 59)⟩, r2.dropWhile (fun c => c != 44 && c != 59))

def rawParse : Nat → Bytes → AddrList
  | 0, _ => []
  | f + 1, s =>
    match (parseAddr s).2 with
    | [] => [((parseAddr s).1, .fin)]
    | c :: r' =>
      if c = 44 then (if r' = [] then [((parseAddr s).1, .comma)] else ((parseAddr s).1, .comma) :: rawParse f r')
      else if c = 59 then (if r' = [] then [((parseAddr s).1, .semi)] else ((parseAddr s).1, .semi) :: rawParse f r')
      else [((parseAddr s).1, .fin)]

def parseLoc (s : Bytes) : Option Loc :=
  if s = [37] then some .whole
  else if s = [] then some .current
  else
    let loc := Loc.list (rawParse (s.length + 1) s)
    if loc.render = s ∧ loc.Ok then some loc else none

/-! ## the reference line editor

What a line command does to the text (a list of lines), given the region `b..e` its address designates
(0-based, `e` exclusive). -/

inductive LineOp where
  /-- `d`: lines `b..e-1` go -/
  | delete
  /-- `y`, `k`, `=`, `p`, `w`, `rs`, or a rejected command: no line changes -/
  | keep
  /-- `a`, `pu`, `r`: the new lines come after line `e-1` -/
  | append (new : List Bytes)
  /-- `i`: the new lines come before line `b` -/
  | insert (new : List Bytes)
  /-- `c`, `!cmd`: lines `b..e-1` are replaced by the new lines -/
  | change (new : List Bytes)
deriving Repr, DecidableEq

def LineOp.apply (t : List Bytes) (b e : Nat) : LineOp → List Bytes
  | .delete => t.take b ++ t.drop e
  | .keep => t
  | .append new => t.take e ++ new ++ t.drop e
  | .insert new => t.take b ++ new ++ t.drop b
  | .change new => t.take b ++ new ++ t.drop e

end Neatvi.Lemmas.C06d
