import NeatviVerif.Lemmas.C06dLineno
/-!
# C06d: `ex_region` on the rendering of a location is the reference region
-/
namespace Neatvi.Lemmas.C06d
open Neatvi Neatvi.Lbuf Neatvi.Ex Neatvi.Rset Neatvi.Lemmas.C06 Neatvi.Lemmas.C05b

theorem dropWhile_junk (junk t : Bytes) (hj : ∀ c ∈ junk, c ≠ 44 ∧ c ≠ 59) (ht : SepTail t) :
    (junk ++ t).dropWhile (fun c => c != 59 && c != 44) = t := by
  rw [List.dropWhile_append_of_pos (fun c hc => by obtain ⟨h1, h2⟩ := hj c hc; simp [h1, h2])]
  cases t with
  | nil => rfl
  | cons x r =>
    rcases ht with h | h | h
    · cases h
    · simp only [List.headD_cons] at h; subst h; rfl
    · simp only [List.headD_cons] at h; subst h; rfl

theorem go_step (f : Nat) (ed : Ed) (a : Addr) (s : Sep) (rest : Bytes) (naddr : Nat) (b e : Int)
    (hok : a.Ok) (hcl : a.base.closed = false → s = .fin) (hfin : s = .fin → rest = [] ∧ a.render ≠ [])
    (hx : ed.xrow ≠ -1000000) :
    exRegion.go (f + 1) ed (a.render ++ (s.text ++ rest)) naddr b e =
      match a.eval (worldOf ed) (cursorOf ed) with
      | none => none
      | some (none, c1) => some ((-7, -7), withCursor ed c1)
      | some (some n, c1) =>
        if n < -1 then some ((-7, -7), withCursor ed c1) else
        if s = .fin then some ((if naddr != 0 then e - 1 else n, n + 1), withCursor ed c1)
        else exRegion.go f (withCursor ed (if s = .semi then { c1 with cur := n } else c1)) rest (naddr + 2)
          (if naddr != 0 then e - 1 else n) (n + 1) := by
  have htail : SepTail (s.text ++ rest) := by
    cases s with
    | comma => right; left; rfl
    | semi => right; right; rfl
    | fin => left; rw [(hfin rfl).1]; rfl
  have hc : a.base.closed = false → s.text ++ rest = [] := by
    intro h
    have hs := hcl h
    subst hs
    rw [(hfin rfl).1]; rfl
  have hne : (a.render ++ (s.text ++ rest)).isEmpty = false := by
    cases s with
    | comma | semi => simp [Sep.text]
    | fin =>
      obtain ⟨h1, h2⟩ := hfin rfl
      subst h1
      cases hr : a.render with
      | nil => exact absurd hr h2
      | cons x xs => rfl
  rw [exRegion.go]
  simp only [hne, Bool.false_eq_true, if_false]
  rw [exLineno_render ed a _ hok htail hc hx]
  cases hev : a.eval (worldOf ed) (cursorOf ed) with
  | none => rfl
  | some x =>
    obtain ⟨r, c1⟩ := x
    cases r with
    | none => simp
    | some n =>
      simp only []
      by_cases hn : n < -1
      · rw [if_pos hn, if_pos hn]
      · rw [if_neg hn, if_neg hn, dropWhile_junk _ _ hok.2.2.1.1 htail]
        have h1 : n + 1 - 1 = n := by omega
        rw [h1]
        cases s with
        | fin =>
          obtain ⟨hr, _⟩ := hfin rfl
          subst hr
          simp [Sep.text]
        | comma =>
          simp [Sep.text]
        | semi =>
          simp [Sep.text]
          rfl

/-- the region the loop of `ex_region` has reached after the values `vals` (`first`: no address seen yet) -/
def regionFrom (first : Bool) (b e : Int) : List Int → Int × Int
  | [] => (b, e)
  | n :: r => regionFrom false (if first then n else e - 1) (n + 1) r

theorem renderList_cons (a : Addr) (s : Sep) (r : AddrList) :
    renderList ((a, s) :: r) = a.render ++ (s.text ++ renderList r) := by
  simp [renderList, List.append_assoc]

theorem renderList_ne_nil : ∀ (l : AddrList), ListOk l → renderList l ≠ [] := by
  intro l h
  cases l with
  | nil => exact absurd h (by simp [ListOk])
  | cons p r =>
    obtain ⟨a, s⟩ := p
    rw [renderList_cons]
    cases r with
    | nil =>
      obtain ⟨_, h2, _⟩ := h
      cases s with
      | fin => simpa [Sep.text, renderList] using h2 rfl
      | comma | semi => simp [Sep.text]
    | cons q r' =>
      obtain ⟨_, h2, _⟩ := h
      cases s with
      | fin => exact absurd rfl h2
      | comma | semi => simp [Sep.text]

theorem go_nil (f : Nat) (ed : Ed) (naddr : Nat) (b e : Int) : exRegion.go f ed [] naddr b e = some ((b, e), ed) := by
  cases f <;> (rw [exRegion.go]; try rfl)

theorem go_render : ∀ (l : AddrList), ListOk l → ∀ (f : Nat) (ed : Ed) (naddr : Nat) (b e : Int),
    (renderList l).length < f → ed.xrow ≠ -1000000 →
    exRegion.go f ed (renderList l) naddr b e =
      match evalList (worldOf ed) (cursorOf ed) l with
      | none => none
      | some (none, c1) => some ((-7, -7), withCursor ed c1)
      | some (some vals, c1) => some (regionFrom (naddr == 0) b e vals, withCursor ed c1) := by
  intro l
  induction l with
  | nil => intro h; exact absurd h (by simp [ListOk])
  | cons p r ih =>
    obtain ⟨a, s⟩ := p
    intro hok f ed naddr b e hf hx
    obtain ⟨f, rfl⟩ : ∃ g, f = g + 1 := ⟨f - 1, by omega⟩
    have hfacts : a.Ok ∧ (a.base.closed = false → s = .fin) ∧ (s = .fin → renderList r = [] ∧ a.render ≠ []) ∧
        (r ≠ [] → ListOk r) := by
      cases r with
      | nil =>
        obtain ⟨h1, h2, h3⟩ := hok
        refine ⟨h1, ?_, fun hs => ⟨rfl, h2 hs⟩, fun h => absurd rfl h⟩
        intro hcl
        cases s with
        | fin => rfl
        | comma | semi => have := h3 (by decide); rw [this] at hcl; cases hcl
      | cons q r' =>
        obtain ⟨h1, h2, h3, h4⟩ := hok
        refine ⟨h1, fun hcl => ?_, fun hs => absurd hs h2, fun _ => h4⟩
        rw [h3] at hcl; cases hcl
    obtain ⟨ha, hcl, hfin, hrest⟩ := hfacts
    rw [renderList_cons, go_step f ed a s (renderList r) naddr b e ha hcl hfin hx]
    simp only [evalList]
    cases hev : a.eval (worldOf ed) (cursorOf ed) with
    | none => rfl
    | some x =>
      obtain ⟨v, c1⟩ := x
      cases v with
      | none => rfl
      | some n =>
        simp only []
        by_cases hn : n < -1
        · rw [if_pos hn, if_pos hn]
        · rw [if_neg hn, if_neg hn]
          have hfirst : (if (naddr != 0) = true then e - 1 else n) = if (naddr == 0) = true then n else e - 1 := by
            cases naddr <;> simp
          rw [hfirst]
          cases r with
          | nil =>
            simp only [evalList, regionFrom]
            by_cases hs : s = .fin
            · rw [if_pos hs]
              subst hs
              rfl
            · rw [if_neg hs]
              have : renderList [] = [] := rfl
              rw [this, go_nil]
          | cons q r' =>
            have hs : s ≠ .fin := fun h => renderList_ne_nil _ (hrest (by simp)) (hfin h).1
            rw [if_neg hs]
            have hlen : (renderList (q :: r')).length < f := by
              rw [renderList_cons] at hf
              cases s with
              | fin => exact absurd rfl hs
              | comma | semi => simp [Sep.text] at hf; omega
            have hx' : (withCursor ed (if s = .semi then { c1 with cur := n } else c1)).xrow ≠ -1000000 := by
              have hnot : n ≠ -1000000 := by omega
              split
              · exact hnot
              · rw [show (withCursor ed c1).xrow = c1.cur from rfl, Addr.eval_cur _ _ _ _ _ hev]
                exact hx
            have hih := ih (hrest (by simp)) f _ (naddr + 2) (if (naddr == 0) = true then n else e - 1) (n + 1) hlen hx'
            rw [hih]
            simp only [worldOf_withCursor, cursorOf_withCursor, withCursor_withCursor]
            cases evalList (worldOf ed) (if s = .semi then { c1 with cur := n } else c1) (q :: r') with
            | none => rfl
            | some y =>
              obtain ⟨vs, c2⟩ := y
              cases vs with
              | none => rfl
              | some vals =>
                simp only [regionFrom]
                have : (naddr + 2 == 0) = false := by simp
                rw [this]

theorem evalList_vals (w : World) : ∀ (l : AddrList) (c : Cursor) (vals : List Int) (c1 : Cursor),
    evalList w c l = some (some vals, c1) → vals.length = l.length ∧ ∀ v ∈ vals, -1 ≤ v := by
  intro l
  induction l with
  | nil =>
    intro c vals c1 h
    simp only [evalList, Option.some.injEq, Prod.mk.injEq] at h
    obtain ⟨rfl, _⟩ := h
    exact ⟨rfl, fun v hv => by cases hv⟩
  | cons p r ih =>
    obtain ⟨a, s⟩ := p
    intro c vals c1 h
    simp only [evalList] at h
    split at h
    · cases h
    · cases h
    · rename_i n c' _
      split at h
      · cases h
      · rename_i hn
        split at h
        · cases h
        · cases h
        · rename_i l' c2 hl
          simp only [Option.some.injEq, Prod.mk.injEq] at h
          obtain ⟨rfl, _⟩ := h
          obtain ⟨i1, i2⟩ := ih _ _ _ hl
          refine ⟨by simp [i1], ?_⟩
          intro v hv
          cases hv with
          | head => omega
          | tail _ hv => exact i2 v hv

theorem regionFrom_eq : ∀ (vals : List Int) (first : Bool) (b e : Int), vals ≠ [] →
    regionFrom first b e vals =
      ((vals.dropLast.getLast?).getD (if first then vals.getLast?.getD 0 else e - 1), vals.getLast?.getD 0 + 1) := by
  intro vals
  induction vals with
  | nil => intro _ _ _ h; exact absurd rfl h
  | cons n r ih =>
    intro first b e _
    cases r with
    | nil => simp [regionFrom]
    | cons m r' =>
      rw [regionFrom, ih false _ _ (by simp)]
      have h1 : (n :: m :: r').getLast? = (m :: r').getLast? := by simp [List.getLast?_cons_cons]
      rw [h1]
      congr 1
      cases r' with
      | nil => simp
      | cons k r'' =>
        simp only [List.dropLast, List.getLast?_cons_cons]
        cases hx : (m :: (k :: r'').dropLast).getLast? with
        | none => simp at hx
        | some y => rfl

theorem regionFrom_first (vals : List Int) (h : vals ≠ []) : regionFrom true 0 0 vals = (begOf vals, endOf vals) := by
  rw [regionFrom_eq vals true 0 0 h]
  rfl

theorem begOf_ge (vals : List Int) (h : ∀ v ∈ vals, -1 ≤ v) (hne : vals ≠ []) : -1 ≤ begOf vals := by
  unfold begOf
  cases hd : vals.dropLast.getLast? with
  | some x =>
    have : x ∈ vals.dropLast := List.mem_of_getLast? hd
    exact h x (List.dropLast_subset _ this)
  | none =>
    cases hl : vals.getLast? with
    | none => simp at hl; exact absurd hl hne
    | some y => exact h y (List.mem_of_getLast? hl)

/-- the check `ex_region` ends with is the reference verdict (the loop reports an unresolved address as `(-7, -7)`,
    no value of an address is below `-1`) -/
theorem regionCheck_verdict (len b e : Int) (hb : -1 ≤ b) : regionCheck len b e = verdict len b e := by
  unfold regionCheck verdict
  have h7 : (b == -7 && e == -7) = false := by
    have : b ≠ -7 := by omega
    simp [this]
  rw [h7, if_neg Bool.false_ne_true]
  by_cases h1 : e ≤ b
  · rw [if_pos h1, if_pos h1]
  · rw [if_neg h1, if_neg h1]
    have hadj : (if (decide (b < 0) && e == 0) = true then 0 else b) = if b < 0 ∧ e = 0 then 0 else b := by
      by_cases hc : b < 0 ∧ e = 0
      · rw [if_pos hc, if_pos (by simp [hc.1, hc.2])]
      · rw [if_neg hc, if_neg (by simpa using hc)]
    simp only [hadj]
    have hb' : (if b < 0 ∧ e = 0 then 0 else b) = 0 ∧ e = 0 ∨ (if b < 0 ∧ e = 0 then 0 else b) = b := by
      split <;> omega
    generalize (if b < 0 ∧ e = 0 then 0 else b) = b' at hb' ⊢
    by_cases h2 : b' < 0 ∨ b' ≥ len
    · rw [if_pos (by simpa using h2), if_neg (by omega)]
    · rw [if_neg (by simpa using h2)]
      by_cases h3 : e < b' ∨ e > len
      · rw [if_pos (by simpa using h3), if_neg (by omega)]
      · rw [if_neg (by simpa using h3), if_pos (by omega)]

/-- **`ex_region` is the reference.**  For every location tree that is the parse of its rendering (`Loc.Ok`) and
    every editor state whose current row is not the model's internal failure marker, `ex_region` on the rendered
    text returns exactly what the reference evaluator returns — return code, `beg`, `end` — and leaves the state
    with the reference's cursor (current row, remembered search) and nothing else changed -/
theorem exRegion_ref (ed : Ed) (loc : Loc) (hok : loc.Ok) (hx : ed.xrow ≠ -1000000) :
    exRegion ed loc.render =
      (refRegion (worldOf ed) (cursorOf ed) loc).map (fun r => (r.1, withCursor ed r.2)) := by
  cases loc with
  | whole => exact exRegion_percent ed
  | current =>
    rw [Loc.render, exRegion_nil]
    simp only [refRegion, Option.map_some, withCursor_cursorOf, beq_iff_eq]
    rfl
  | list l =>
    obtain ⟨hl, h37⟩ := hok
    rw [Loc.render, exRegion_addr ed (renderList_ne_nil l hl) h37, go_render l hl _ ed 0 0 0 (Nat.lt_succ_self _) hx]
    simp only [refRegion]
    cases hev : evalList (worldOf ed) (cursorOf ed) l with
    | none => rfl
    | some x =>
      obtain ⟨vs, c1⟩ := x
      cases vs with
      | none => rfl
      | some vals =>
        obtain ⟨hlen, hge⟩ := evalList_vals _ _ _ _ _ hev
        have hvne : vals ≠ [] := by
          intro h
          rw [h] at hlen
          cases l with
          | nil => exact absurd hl (by simp [ListOk])
          | cons p r => simp at hlen
        simp only [beq_self_eq_true, Option.map_some]
        rw [regionFrom_first vals hvne, regionCheck_verdict _ _ _ (begOf_ge vals hge hvne)]
        rfl

end Neatvi.Lemmas.C06d
