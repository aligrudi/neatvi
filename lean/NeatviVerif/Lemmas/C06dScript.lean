import NeatviVerif.Lemmas.C06dParse
import NeatviVerif.Lemmas.C06dFrame
/-!
# C06d, command lines and scripts whose commands have general addresses and arguments

`CmdX`: a command whose address is a location tree and whose argument may hold backslash pairs.  `CmdX.Ok` implies
`Parses` (Lemmas/C06bLine.lean: `ex_exec` splits the command into exactly its pieces), which is all that the theorems
about lines and scripts (`cmds_line_gen`, and in Props/C06b.lean `exExec_line_gen`, `exCommand_line_gen`,
`script_frame_lines_of`, `exCommand_bar_gen`) ask of a command.
-/
namespace Neatvi.Lemmas.C06d
open Neatvi Neatvi.Ex Neatvi.Lemmas.C06 Neatvi.Lemmas.C06b

theorem lineParses_of_ok : ∀ (cs : List Cmd1), LineOk cs → LineParses cs := fun _ => LineOk.parses

/-- a command in pieces: address tree, letters of the name, `!`/`=`/`@` suffix, blanks, argument pieces -/
structure CmdX where
  loc : Loc
  w : Bytes
  sfx : Bytes
  sp : Bytes
  arg : List PTok

/-- its text, as a `Cmd1` -/
def CmdX.cmd1 (c : CmdX) : Cmd1 := ⟨c.loc.render, c.w, c.sfx, c.sp, rawPat c.arg⟩

/-- the command is well-formed in front of `t` (nothing, or `|…`), takes a plain argument, and is not `rs` -/
structure CmdX.Ok (c : CmdX) (t : Bytes) : Prop where
  gen : GenCmd c.loc c.w c.sfx c.sp c.arg t
  plain : plainAbbr (abbrOf (exIdx (c.w ++ c.sfx))) (rawPat c.arg) = true
  notRs : isRs (abbrOf (exIdx (c.w ++ c.sfx))) = false

theorem parses_of_okX (c : CmdX) (t : Bytes) (h : c.Ok t) : Parses c.cmd1 t := by
  refine ⟨?_, h.notRs⟩
  have := parse1_gen h.gen h.plain
  unfold Cmd1.bytes Cmd1.parsed Cmd1.cmd CmdX.cmd1
  simp only []
  rw [this]

/-- the line `c1|c2|…` of such commands -/
def joinBarX (cs : List CmdX) : Bytes := joinBar (cs.map CmdX.cmd1)

def LineOkX : List CmdX → Prop
  | [] => True
  | [c] => c.Ok [] ∧ c.cmd1.bytes ≠ []
  | c :: d :: cs => c.Ok (124 :: joinBarX (d :: cs)) ∧ LineOkX (d :: cs)

theorem lineParses_of_okX : ∀ (cs : List CmdX), LineOkX cs → LineParses (cs.map CmdX.cmd1) := by
  intro cs
  induction cs with
  | nil => intro _; trivial
  | cons c cs ih =>
    intro h
    cases cs with
    | nil => exact ⟨parses_of_okX c [] h.1, h.2⟩
    | cons d ds => exact ⟨parses_of_okX c _ h.1, ih h.2⟩

open Neatvi.Props.C06b in
/-- a script line covered here: one command of the table among `a i c d y pu k = p r`, split correctly by `ex_exec` -/
def CoveredLineG (c : Cmd1) : Prop :=
  Parses c [] ∧ c.bytes ≠ [] ∧ c.bytes.length < Gen.EXLEN ∧ ∃ a hd, exIdx c.cmd = some (a, hd) ∧ hd ∈ covered

open Neatvi.Props.C06b in
theorem script_frame_lines_gen (f : Nat) (script : List Cmd1) (ed ed' : Ed) (ss : List Splice)
    (hcov : ∀ c ∈ script, CoveredLineG c) (h : runLines f ed script = some (ss, ed')) :
    lines ed' = applySplices (lines ed) ss ∧ ss.length = script.length ∧ SplicesOk (lines ed) ss :=
  script_frame_lines_of f script ed ed' ss hcov h

open Neatvi.Props.C06b in
theorem runBarLines_exCommand_gen (f : Nat) (ed : Ed) (l : List Cmd1) (ls : List (List Cmd1)) (hok : LineParses l)
    (hlen : (joinBar l).length < Gen.EXLEN) :
    runBarLines f ed (l :: ls) =
      match runBar f ed l 0, exCommand (f + 3) ed (joinBar l) with
      | some (ss, _, _), some (_, ed1) => (runBarLines f ed1 ls).map (fun x => (ss ++ x.1, x.2))
      | _, _ => none := by
  rw [exCommand_bar_gen f ed l hok hlen]
  simp only [runBarLines]
  cases runBar f ed l 0 with
  | none => rfl
  | some x => rfl

end Neatvi.Lemmas.C06d
