import NeatviVerif.Lemmas.C06dScript
import NeatviVerif.Lemmas.C06dXrow
/-!
# C06d: scripts of command lines, every splice computed by the reference address evaluator

The runners `…Ref` are those of Props/C06b and C06c with `spliceRef` for `spliceOf`: the same commands run, only the splice written
down differs.  Started with `-1 ≤ xrow` the two splices agree at every step (`lineCmd_ref`, `spliceOfX_ref`) and `-1 ≤ xrow` is kept
(`runCmd_xrow`): the script theorems are `C06b.splices_run_inv` with that invariant.
-/
namespace Neatvi.Lemmas.C06d
open Neatvi Neatvi.Lbuf Neatvi.Ex Neatvi.Lemmas.C06 Neatvi.Lemmas.C06b
open Neatvi.Props.C06b Neatvi.Props.C06c

/-- **the reference splice** of the parsed command `c` with address tree `loc` in state `ed` (`rc` its return code:
    a failing command changes no line): the command's reference operation on the region the reference evaluator
    gives for `loc` -/
def spliceRef (ed : Ed) (c : LineCmd) (loc : Loc) (rc : Int) : Splice :=
  if rc != 0 then (0, 0, []) else
  (opOf ed c (refRegionOf ed loc).1 (refRegionOf ed loc).2).splice (refRegionOf ed loc).1 (refRegionOf ed loc).2

theorem spliceOfX_ref (ed : Ed) (c : LineCmd) (loc : Loc) (rc : Int) (hloc : c.loc = loc.render) (hok : loc.Ok)
    (hx : ed.xrow ≠ -1000000) : spliceOfX ed c rc = spliceRef ed c loc rc := by
  unfold spliceRef
  rw [← regionOf_ref ed loc hok hx, ← hloc, spliceOfX_opOf]

theorem spliceRef_covered (ed : Ed) (c : LineCmd) (loc : Loc) (rc : Int) (hc : c.hd ∈ covered)
    (hloc : c.loc = loc.render) (hok : loc.Ok) (hx : ed.xrow ≠ -1000000) :
    spliceRef ed c loc rc = spliceOf ed c rc := by
  have hne : (c.hd == "ec_exec") = false := by
    rw [beq_eq_false_iff_ne]
    intro he
    rw [he] at hc
    exact absurd hc (by decide)
  rw [← spliceOfX_ref ed c loc rc hloc hok hx]
  unfold spliceOfX
  rw [hne]
  rfl

theorem exTxt_world (ed : Ed) (src abbr : Bytes) :
    worldOf (exTxt ed src abbr).2 = worldOf ed ∧ cursorOf (exTxt ed src abbr).2 = cursorOf ed := by
  obtain ⟨inp, h⟩ := exTxt_input ed src abbr
  rw [h]
  exact ⟨worldOf_congr rfl rfl, rfl⟩

/-- `ex_txt` (which only takes pending input lines) does not change what an address means -/
theorem refRegionOf_exTxt (ed : Ed) (src abbr : Bytes) (loc : Loc) :
    refRegionOf (exTxt ed src abbr).2 loc = refRegionOf ed loc := by
  unfold refRegionOf
  rw [(exTxt_world ed src abbr).1, (exTxt_world ed src abbr).2]

theorem exTxt_xrow (ed : Ed) (src abbr : Bytes) : (exTxt ed src abbr).2.xrow = ed.xrow := by
  have := congrArg Cursor.cur (exTxt_world ed src abbr).2
  exact this

theorem modifiedAt_xrow (ed : Ed) (i : Nat) : (ed.modifiedAt i).2.xrow = ed.xrow := by
  rw [Lemmas.C02Ex.modifiedAt_fields]

theorem lineCmd_ref (f : Nat) (ed ed1 : Ed) (c : CmdX) (a : Bytes) (hd : String) (rc : Int)
    (hi : exIdx c.cmd1.cmd = some (a, hd)) (hc : hd ∈ covered) (hok : c.loc.Ok) (h0 : -1 ≤ ed.xrow)
    (hr : runCmd (f + 1) (exTxt ed [] a).2 hd c.cmd1.loc c.cmd1.cmd c.cmd1.arg (exTxt ed [] a).1.1 = some (rc, ed1)) :
    -1 ≤ ed1.xrow ∧
    spliceRef (lineCmd ed c.cmd1).2 (lineCmd ed c.cmd1).1 c.loc rc = spliceOf (lineCmd ed c.cmd1).2 (lineCmd ed c.cmd1).1 rc := by
  have hlc : lineCmd ed c.cmd1 = (⟨hd, c.cmd1.loc, c.cmd1.cmd, c.cmd1.arg, (exTxt ed [] a).1.1⟩, (exTxt ed [] a).2) := by
    simp only [lineCmd, hi]
  have hx : -1 ≤ (exTxt ed [] a).2.xrow := by rw [exTxt_xrow]; exact h0
  constructor
  · exact runCmd_xrow f (exTxt ed [] a).2 ed1 ⟨hd, c.cmd1.loc, c.cmd1.cmd, c.cmd1.arg, (exTxt ed [] a).1.1⟩ rc
      (Or.inl hc) hx hr
  · rw [hlc]
    exact spliceRef_covered (exTxt ed [] a).2 ⟨hd, c.cmd1.loc, c.cmd1.cmd, c.cmd1.arg, (exTxt ed [] a).1.1⟩ c.loc rc
      hc rfl hok (by omega)

/-- a script line covered here: one command with an address tree and an argument with backslash pairs, of the table,
    among `a i c d y pu k = p r` -/
def CoveredLineX (c : CmdX) : Prop :=
  c.Ok [] ∧ c.cmd1.bytes ≠ [] ∧ c.cmd1.bytes.length < Gen.EXLEN ∧ ∃ a hd, exIdx c.cmd1.cmd = some (a, hd) ∧ hd ∈ covered

theorem coveredLineG_of_X (c : CmdX) (h : CoveredLineX c) : CoveredLineG c.cmd1 :=
  ⟨parses_of_okX c [] h.1, h.2.1, h.2.2.1, h.2.2.2⟩

/-- run a script of one-command lines through `ex_command`, collecting the splices `spliceRef` (`C06b.runLines` with the regions of
    the reference evaluator) -/
def runLinesRef (f : Nat) : Ed → List CmdX → Option (List Splice × Ed)
  | ed, [] => some ([], ed)
  | ed, c :: cs =>
    match exCommand (f + 3) ed c.cmd1.bytes with
    | none => none
    | some (rc, ed1) =>
      (runLinesRef f ed1 cs).map (fun x => (spliceRef (lineCmd ed c.cmd1).2 (lineCmd ed c.cmd1).1 c.loc rc :: x.1, x.2))

/-- **script_frame for command lines with general addresses, reference regions.**  A script of command lines
    `[addr]cmd [arg]`, `cmd` among `a i c d y pu k = p r`, the address any tree of numbers, `.`, `$`, marks, closed
    search patterns, offsets, `,` `;` `%`, the argument with backslash pairs, each line run through `ex_command`,
    starting in a state with `-1 ≤ xrow`: the final text is the initial text put through one splice per line — the
    command's reference operation on the region the *reference* address evaluator gives in the state before the
    line; each splice lies inside the text it applies to; and `-1 ≤ xrow` still holds -/
theorem script_frame_lines_ref (f : Nat) (script : List CmdX) (ed ed' : Ed) (ss : List Splice)
    (hcov : ∀ c ∈ script, CoveredLineX c) (h0 : -1 ≤ ed.xrow) (h : runLinesRef f ed script = some (ss, ed')) :
    lines ed' = applySplices (lines ed) ss ∧ ss.length = script.length ∧ SplicesOk (lines ed) ss ∧ -1 ≤ ed'.xrow := by
  obtain ⟨⟨k1, k2, k3⟩, k4⟩ := splices_run_inv lines (fun ed => -1 ≤ ed.xrow) (runLinesRef f)
    (fun ed c _ => (exCommand (f + 3) ed c.cmd1.bytes).map
      (fun r => (spliceRef (lineCmd ed c.cmd1).2 (lineCmd ed c.cmd1).1 c.loc r.1, r.2))) CoveredLineX
    (fun _ => rfl) (fun ed c cs => by rw [runLinesRef]; cases exCommand (f + 3) ed c.cmd1.bytes <;> rfl)
    (fun ed c _ sp ed1 h0 hcov h => by
      obtain ⟨⟨rc, ed2⟩, hrun, rfl, rfl⟩ := Option.map_eq_some_iff.mp h
      obtain ⟨a, hd, edr, hi, hc, hr, rfl⟩ := line_cmd (coveredLineG_of_X c hcov) hrun
      obtain ⟨hx1, hsp⟩ := lineCmd_ref f ed edr c a hd rc hi hc hcov.1.gen.loc_ok h0 hr
      rw [hsp, modifiedAt0_lines, modifiedAt_xrow]
      exact ⟨lineCmd_splice f ed edr c.cmd1 a hd rc hi hc hr, hx1⟩)
    script ed ed' ss h0 hcov h
  exact ⟨k1, k2, k3, k4⟩

/-- run a script of parsed line commands, each with the tree of its address, collecting the splices `spliceRef` (regions by the
    reference evaluator; `C06c.runScriptX` collects `spliceOfX`, regions by `ex_region`) -/
def runScriptRef (f : Nat) : Ed → List (LineCmd × Loc) → Option (List Splice × Ed)
  | ed, [] => some ([], ed)
  | ed, (c, loc) :: cs =>
    match runCmd (f + 1) ed c.hd c.loc c.cmd c.arg c.txt with
    | none => none
    | some (rc, ed1) => (runScriptRef f ed1 cs).map (fun x => (spliceRef ed c loc rc :: x.1, x.2))

/-- the command is covered (`a i c d y pu k = p r rs` or a filter with an address) and its address is the text of a
    well-formed tree -/
def CoveredRef (p : LineCmd × Loc) : Prop := CoveredX p.1 ∧ p.1.loc = p.2.render ∧ p.2.Ok

/-- the commands of one line `c1|c2|…` in order, collecting the splices `spliceRef` (`C06b.runBar` with the regions of the reference
    evaluator) -/
def runBarRef (f : Nat) : Ed → List CmdX → Int → Option (List Splice × Int × Ed)
  | ed, [], ret => some ([], ret, ed)
  | ed, c :: cs, ret =>
    match runOne (f + 1) ed (c.cmd1.parsed (joinBarX cs)) ret with
    | none => none
    | some ((r, ed1), _) =>
      (runBarRef f ed1 cs r).map (fun x => (spliceRef (lineCmd ed c.cmd1).2 (lineCmd ed c.cmd1).1 c.loc r :: x.1, x.2))

theorem runBarRef_snd (f : Nat) : ∀ (cs : List CmdX) (ed : Ed) (ret : Int),
    (runBarRef f ed cs ret).map (·.2) = (runBar f ed (cs.map CmdX.cmd1) ret).map (·.2) := by
  intro cs
  induction cs with
  | nil => intro ed ret; rfl
  | cons c cs ih =>
    intro ed ret
    simp only [runBarRef, runBar, List.map_cons]
    have hjb : joinBarX cs = joinBar (cs.map CmdX.cmd1) := rfl
    rw [hjb]
    cases runOne (f + 1) ed (c.cmd1.parsed (joinBar (cs.map CmdX.cmd1))) ret with
    | none => rfl
    | some y =>
      obtain ⟨⟨r, ed1⟩, rest⟩ := y
      simp only [Option.map_map]
      exact ih ed1 r

/-- a command of a script line: not `rs`, in the table, among `a i c d y pu k = p r`, its address a well-formed tree -/
def CoveredCmdX (c : CmdX) : Prop := CoveredCmd c.cmd1 ∧ c.loc.Ok

theorem runBarRef_frame (f : Nat) (cs : List CmdX) (ed ed' : Ed) (ret r : Int) (ss : List Splice)
    (hcov : ∀ c ∈ cs, CoveredCmdX c) (h0 : -1 ≤ ed.xrow) (h : runBarRef f ed cs ret = some (ss, r, ed')) :
    (lines ed' = applySplices (lines ed) ss ∧ ss.length = cs.length ∧ SplicesOk (lines ed) ss) ∧ -1 ≤ ed'.xrow :=
  splices_run_inv (σ := Int × Ed) (fun s => lines s.2) (fun s => -1 ≤ s.2.xrow) (fun s cs => runBarRef f s.2 cs s.1)
    (fun s c cs => (runOne (f + 1) s.2 (c.cmd1.parsed (joinBarX cs)) s.1).map
      (fun y => (spliceRef (lineCmd s.2 c.cmd1).2 (lineCmd s.2 c.cmd1).1 c.loc y.1.1, y.1.1, y.1.2))) CoveredCmdX
    (fun _ => rfl)
    (fun s c cs => by rw [runBarRef]; cases runOne (f + 1) s.2 (c.cmd1.parsed (joinBarX cs)) s.1 <;> rfl)
    (fun s c cs sp s1 h0 hcov h => by
      obtain ⟨⟨⟨r1, ed1⟩, rest⟩, hrun, rfl, rfl⟩ := Option.map_eq_some_iff.mp h
      obtain ⟨a, hd, hi, hc, hcmd⟩ := bar_cmd (cs := cs.map CmdX.cmd1) hcov.1 hrun
      obtain ⟨hx1, hsp⟩ := lineCmd_ref f s.2 ed1 c a hd r1 hi hc hcov.2 h0 hcmd
      rw [hsp]
      exact ⟨lineCmd_splice f s.2 ed1 c.cmd1 a hd r1 hi hc hcmd, hx1⟩)
    cs (ret, ed) (r, ed') ss h0 hcov h

/-- run a script of lines `c1|c2|…` through `ex_command`, collecting the splices `spliceRef` (`C06b.runBarLines` with the regions of
    the reference evaluator) -/
def runBarLinesRef (f : Nat) : Ed → List (List CmdX) → Option (List Splice × Ed)
  | ed, [] => some ([], ed)
  | ed, l :: ls =>
    match runBarRef f ed l 0 with
    | none => none
    | some (ss, _, ed1) => (runBarLinesRef f (ed1.modifiedAt 0).2 ls).map (fun x => (ss ++ x.1, x.2))

/-- **script_frame for lines `c1|c2|…` with general addresses, reference regions** -/
theorem script_frame_bar_ref (f : Nat) (script : List (List CmdX)) (ed ed' : Ed) (ss : List Splice)
    (hcov : ∀ l ∈ script, ∀ c ∈ l, CoveredCmdX c) (h0 : -1 ≤ ed.xrow)
    (h : runBarLinesRef f ed script = some (ss, ed')) :
    lines ed' = applySplices (lines ed) ss ∧ ss.length = (script.map List.length).sum ∧ SplicesOk (lines ed) ss ∧
      -1 ≤ ed'.xrow := by
  induction script generalizing ed ss with
  | nil =>
    simp only [runBarLinesRef, Option.some.injEq, Prod.mk.injEq] at h
    obtain ⟨rfl, rfl⟩ := h
    exact ⟨rfl, rfl, trivial, h0⟩
  | cons l ls ih =>
    simp only [runBarLinesRef] at h
    split at h
    · cases h
    · rename_i ss0 r0 ed1 hrun
      simp only [Option.map_eq_some_iff, Prod.mk.injEq] at h
      obtain ⟨⟨ss1, ed2⟩, h1, rfl, rfl⟩ := h
      obtain ⟨⟨k1, k2, k3⟩, k4⟩ := runBarRef_frame f l ed ed1 0 r0 ss0 (hcov l (by simp)) h0 hrun
      obtain ⟨i1, i2, i3, i4⟩ := ih _ ss1 (fun x hx => hcov x (by simp [hx])) (by rw [modifiedAt_xrow]; exact k4) h1
      rw [modifiedAt0_lines, k1] at i1 i3
      exact ⟨by rw [applySplices_append]; exact i1, by simp [k2, i2], splicesOk_append _ _ _ k3 i3, i4⟩

end Neatvi.Lemmas.C06d
