import NeatviVerif.Lemmas.C06dFrame
import NeatviVerif.Props.C14
/-!
# C06d: `:s` is a splice of the addressed range

`Props/C14.lean` has the loop of `ec_substitute` (the loop that follows the lines it has pushed down: `i += n;
end += n`) and its invariant `substLoop_lines`: after `n` rounds the text is `take b ++ (the first n lines of the
range, each replaced by the lines of its new text) ++ drop (b + n)`.  Here that is read as one splice of the
range `ex_region` returns, and scripts with `:s` and `:w` as sequences of splices.
-/
namespace Neatvi.Lemmas.C06d
open Neatvi Neatvi.Lbuf Neatvi.Ex Neatvi.Rset Neatvi.Lemmas.C06 Neatvi.Lemmas.C06b
open Neatvi.Lemmas.Hist (optLines)

/-- the prologue of `ec_substitute`: pattern and replacement are read from the argument and remembered;
    the state it leaves and the `g` flag -/
def substPrepD (ed : Ed) (arg : Bytes) : Ed × Bool :=
  let (pat, s) := reRead arg
  let ed := match pat with | some p => if !p.isEmpty then ed.kwdSet (some p) 1 else ed | none => ed
  let (rep, s) := if pat.isSome && !s.isEmpty then
      let delim := arg.headD 0
      let (r, s') := reRead ([delim] ++ s)
      (r, s')
    else (none, s)
  let ed := if pat.isSome || rep.isSome then { ed with xrep := (rep.getD []).take (Gen.EXLEN - 1) } else ed
  (ed, s.contains 103)

theorem substPrepD_eq : substPrepD = Props.C14.substPrep := rfl

/-- what one line becomes: the lines of its new text, or itself when nothing matched -/
def rewriteLine (re : RStr) (rep : Bytes) (g : Bool) (ln : Bytes) : List Bytes :=
  match substLine re rep g ln with
  | some (some nl) => splitLines nl
  | _ => [ln]

def rewriteAll (re : RStr) (rep : Bytes) (g : Bool) (ls : List Bytes) : List Bytes :=
  ls.flatMap (rewriteLine re rep g)

theorem rewriteAll_eq (re : RStr) (rep : Bytes) (g : Bool) (ls : List Bytes) :
    rewriteAll re rep g ls = ls.flatMap (Props.C14.newLines re rep g) := rfl

/-- **`:s` is a splice of the addressed range.**  On success (return 0) the region `b..e` is valid, the remembered
    pattern compiles to `re`, and the new text is the old one with lines `b..e-1` replaced, each by the lines of its
    rewritten text (`rewriteLine`: the line itself when nothing matched; several lines when the replacement brought
    newlines) — every line outside the range keeps its bytes and order.  On failure (return 1: bad address, no
    pattern, pattern does not compile) the text is unchanged. -/
theorem subst_splice (f : Nat) (ed ed' : Ed) (loc cmd arg : Bytes) (txt : Option Bytes) (rc : Int)
    (h : runCmd (f + 1) ed "ec_substitute" loc cmd arg txt = some (rc, ed')) :
    (rc = 0 ∨ rc = 1) ∧
    (rc = 0 → ∃ b e ed1 re, exRegion ed loc = some ((0, b, e), ed1) ∧ 0 ≤ b ∧ b ≤ e ∧ e ≤ ed.len ∧
      (substPrepD ed1 arg).1.mkRe (substPrepD ed1 arg).1.xkwd = some (some re) ∧
      lines ed' = (lines ed).take b.toNat ++
        rewriteAll re (substPrepD ed1 arg).1.xrep (substPrepD ed1 arg).2 (((lines ed).drop b.toNat).take (e.toNat - b.toNat)) ++
        (lines ed).drop e.toNat) ∧
    (rc = 1 → lines ed' = lines ed) := by
  rw [substPrepD_eq]
  obtain ⟨r, b, e, ed1, hreg, hc⟩ := Props.C14.ecSubst_cases h
  obtain ⟨ha, _, hv, _⟩ := region_all _ _ _ _ _ _ hreg
  have hl1 : lines (Props.C14.substPrep ed1 arg).1 = lines ed :=
    (Lemmas.C06c.lines_of_bufs (Props.C14.substPrep_bufs ed1 arg)).trans ha.lines
  rcases hc with ⟨_, rfl, rfl⟩ | ⟨_, rfl, rfl⟩ | ⟨rfl, rfl, re, hre, hloop⟩
  · exact ⟨Or.inr rfl, fun h0 => by omega, fun _ => ha.lines⟩
  · exact ⟨Or.inr rfl, fun h0 => by omega, fun _ => hl1⟩
  · obtain ⟨v1, v2, v3, _⟩ := hv rfl
    refine ⟨Or.inl rfl, fun _ => ⟨b, e, ed1, re, hreg, v1, v2, by rw [← ha.len]; exact v3, hre, ?_⟩,
      fun h0 => by omega⟩
    -- `C14.edLines` is `lines`, `C14.newLines` is `rewriteLine`
    have k : lines ed' = _ := (Props.C14.substLoop_lines re _ b _ _ ed' hloop).2.2
    have hn : (e - b).toNat = e.toNat - b.toNat := by omega
    have he : b.toNat + (e.toNat - b.toNat) = e.toNat := by omega
    rw [k, hn, he, rewriteAll_eq, show Props.C14.edLines (Props.C14.substPrep ed1 arg).1 = lines ed from hl1]

open Neatvi.Props.C06b Neatvi.Props.C06c

/-- the splice `:s` performs in state `ed` (`rc` its return code) -/
def substSplice (ed : Ed) (loc arg : Bytes) (rc : Int) : Splice :=
  if rc != 0 then (0, 0, []) else
  match exRegion ed loc with
  | some ((_, b, e), ed1) =>
    (match (substPrepD ed1 arg).1.mkRe (substPrepD ed1 arg).1.xkwd with
    | some (some re) =>
      (b.toNat, e.toNat, rewriteAll re (substPrepD ed1 arg).1.xrep (substPrepD ed1 arg).2
        (((lines ed).drop b.toNat).take (e.toNat - b.toNat)))
    | _ => (0, 0, []))
  | none => (0, 0, [])

/-- the splice of a line command at the region `ex_region` resolves its address to: filters, `:s` and `:w` included -/
def spliceOfS (ed : Ed) (c : LineCmd) (rc : Int) : Splice :=
  if c.hd == "ec_substitute" then substSplice ed c.loc c.arg rc
  else if c.hd == "ec_write" then (0, 0, [])
  else spliceOfX ed c rc

/-- `a i c d y pu k = p r rs`, a filter with an address, `:s`, `:w` -/
def CoveredS (c : LineCmd) : Prop := CoveredX c ∨ c.hd = "ec_substitute" ∨ c.hd = "ec_write"

/-- run a script of parsed line commands, collecting the splices -/
def runScriptS (f : Nat) : Ed → List LineCmd → Option (List Splice × Ed)
  | ed, [] => some ([], ed)
  | ed, c :: cs =>
    match runCmd (f + 1) ed c.hd c.loc c.cmd c.arg c.txt with
    | none => none
    | some (rc, ed1) => (runScriptS f ed1 cs).map (fun x => (spliceOfS ed c rc :: x.1, x.2))

end Neatvi.Lemmas.C06d
