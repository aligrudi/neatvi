import NeatviVerif.Lemmas.C06dFrame
import NeatviVerif.Lemmas.C05bRegion
/-!
# C06d: the current row never becomes the model's failure marker

`-1 ≤ xrow` is kept by every step a handler on the current buffer takes (`Did.xrow_ge`), hence by address evaluation and
by every covered line command (read off `Lemmas/ExHandlers.lean`; the filter off `ec_exec_spec`), so the hypothesis
`ed.xrow ≠ -1000000` of `exRegion_ref` holds all along a script that starts with `-1 ≤ xrow`.
-/
namespace Neatvi.Lemmas.C06d
open Neatvi Neatvi.Lbuf Neatvi.Ex Neatvi.Rset Neatvi.Lemmas.C06 Neatvi.Lemmas.C06b Neatvi.Lemmas.C05b

theorem edit_xrow {ed ed' : Ed} {s : Option Bytes} {b e : Int} (h : ed.edit s b e = some ed') : ed'.xrow = ed.xrow := by
  rw [edit_fields _ _ _ _ _ h]

open Neatvi.Lemmas.ExDid in
theorem _root_.Neatvi.Lemmas.ExDid.Did.xrow_ge {T : Ed → Bytes → Prop} {L : Prop} {n : Int} {e : Bool} {a b : Ed}
    (h : Did T L n a e b) (h0 : -1 ≤ a.xrow) : -1 ≤ b.xrow := by
  induction h with
  | refl => exact h0
  | addr _ _ hr _ ih => exact hr.elim (fun e => e ▸ ih) (·.1)
  | look _ hs ih => obtain ⟨_, _, _, _, _, _, _, rfl⟩ := hs; exact ih
  | edit s x y _ _ _ _ he ih => rw [edit_xrow he]; exact ih
  | yank k x y i _ ih => exact ih
  | reg k t i _ _ ih => exact ih
  | mark c p o _ _ _ _ ih => rw [setLb_fields]; exact ih
  | row r _ hr _ _ => exact hr
  | down _ _ ih => show -1 ≤ _ + 1; omega
  | col o _ _ ih => exact ih

theorem exRegion_xrow (ed ed' : Ed) (loc : Bytes) (r : Nat × Int × Int) (h0 : -1 ≤ ed.xrow)
    (h : exRegion ed loc = some (r, ed')) : -1 ≤ ed'.xrow :=
  (((Lemmas.C05e.region_run ed loc).post _ h).1 (fun _ _ => True) 0 false).xrow_ge h0

theorem xrow_exec (f : Nat) (ed ed' : Ed) (loc cmd arg : Bytes) (txt : Option Bytes) (rc : Int) (hloc : loc ≠ [])
    (h0 : -1 ≤ ed.xrow) (h : runCmd (f + 1) ed "ec_exec" loc cmd arg txt = some (rc, ed')) : -1 ≤ ed'.xrow := by
  obtain ⟨s1, s2, s3, _⟩ := Props.C06c.ec_exec_spec f ed ed' loc cmd arg txt rc hloc h
  obtain ⟨g, edg, _, hgf, k1, k2⟩ := s2
  have hxg : -1 ≤ edg.xrow := by rw [hgf.xrow]; exact h0
  rcases s1 with rfl | rfl
  · obtain ⟨edg', ecmd, b, e, ed1, _, hgf', _, hreg, _, _, _, k⟩ := s3 rfl
    have hx1 : -1 ≤ ed1.xrow := exRegion_xrow _ _ _ _ (by rw [hgf'.xrow]; exact h0) hreg
    rcases k with ⟨_, rfl⟩ | ⟨out, _, _, _, _, k5⟩
    · exact hx1
    · rw [k5]; exact hx1
  · cases g with
    | true => rw [(k1 rfl).2]; exact hxg
    | false =>
      obtain ⟨p, edp, hpe, m1, m2⟩ := k2 rfl
      cases p with
      | none =>
        obtain ⟨_, m3, m4⟩ := m1 rfl
        rw [m3, m4]; exact hxg
      | some ecmd =>
        obtain ⟨_, r, b, e, ed1, hreg, m3, m4⟩ := m2 ecmd rfl
        have hx1 := exRegion_xrow _ _ _ _ hxg hreg
        by_cases hr : r = 0
        · have := m4 hr; omega
        · rw [(m3 hr).2]; exact hx1

open Neatvi.Props.C06b Neatvi.Props.C06c in
/-- **`-1 ≤ xrow` is an invariant of the covered line commands** (`a i c d y pu k = p r rs`, and the filter with an
    address) -/
theorem runCmd_xrow (f : Nat) (ed ed' : Ed) (c : LineCmd) (rc : Int) (hc : CoveredX c) (h0 : -1 ≤ ed.xrow)
    (h : runCmd (f + 1) ed c.hd c.loc c.cmd c.arg c.txt = some (rc, ed')) : -1 ≤ ed'.xrow := by
  obtain ⟨hd, loc, cmd, arg, txt⟩ := c
  simp only [] at h
  rcases hc with hc | ⟨hc, hloc⟩
  · have loc' : hd ∉ ["ec_undo", "ec_redo", "ec_at", "ec_glob", "ec_edit", "ec_substitute", "ec_exec", "ec_read", "ec_write",
        "ec_quit", "ec_buffer"] → -1 ≤ ed'.xrow := fun hn =>
      ((Lemmas.C05e.local_run f ed hd loc cmd arg txt hn).post _ h).1.xrow_ge h0
    simp only [covered, List.mem_cons, List.not_mem_nil, or_false] at hc
    rcases hc with rfl | rfl | rfl | rfl | rfl | rfl | rfl | rfl | rfl
    · exact loc' (by decide)
    · exact loc' (by decide)
    · exact loc' (by decide)
    · exact loc' (by decide)
    · exact loc' (by decide)
    · exact loc' (by decide)
    · exact loc' (by decide)
    · exact loc' (by decide)
    · rw [Lemmas.C20c.runCmd_read] at h
      exact ((Lemmas.C05e.ecRead_run (fun _ _ => True) (fun _ _ _ => trivial) ed loc arg).post _ h).1.xrow_ge h0
  · simp only [] at hc hloc
    subst hc
    exact xrow_exec f ed ed' loc cmd arg txt rc hloc h0 h

end Neatvi.Lemmas.C06d
