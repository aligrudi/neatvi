import NeatviVerif.Lemmas.C07Scan
/-!
# The scan of `lbuf_findchar` over a line whose code points are given as a list

`go_scan`: the loop `findchar.go` in either direction stops on the `n`-th occurrence of the target in the list `cs` of
code points of the line (`hcode`: what `uc_code` reads at every offset), or runs out; `occF_line` / `occB_line`: the
occurrences on `w ++ "\n"` are those of the reference on `w`.  `Lemmas/C07cFind` instantiates it for an encoded line.
-/

namespace Neatvi.Lemmas.C07
open Neatvi Neatvi.Uc Neatvi.Mot

/-- `uc_nextdir` as used by `lbuf_findchar`, for a line of `len` characters -/
def stepdOf (len : Int) : Int → Int → Option Int := fun p d =>
  if d < 0 then (if p ≤ 0 then none else some (p - 1))
  else (if p + 1 ≥ len then none else some (p + 1))

/-- occurrences of `c` after position `p`, nearest first -/
def occF (ln : Bytes) (c : Nat) (p : Nat) : List Nat :=
  ((List.range ln.length).drop (p + 1)).filter (fun j => ln.getD j 0 == c)

/-- occurrences of `c` before position `p`, nearest first -/
def occB (ln : Bytes) (c : Nat) (p : Nat) : List Nat :=
  ((List.range p).filter (fun j => ln.getD j 0 == c)).reverse

theorem occF_end (ln : Bytes) (c p : Nat) (h : ln.length ≤ p + 1) : occF ln c p = [] := by
  unfold occF
  rw [List.drop_eq_nil_of_le (by simpa using h)]
  rfl

theorem occF_step (ln : Bytes) (c p : Nat) (h : p + 1 < ln.length) :
    occF ln c p = (if ln.getD (p + 1) 0 == c then [p + 1] else []) ++ occF ln c (p + 1) := by
  unfold occF
  rw [List.drop_eq_getElem_cons (by simpa using h)]
  simp only [List.getElem_range, List.filter_cons]
  split <;> rfl

theorem occB_zero (ln : Bytes) (c : Nat) : occB ln c 0 = [] := rfl

theorem occB_step (ln : Bytes) (c p : Nat) :
    occB ln c (p + 1) = (if ln.getD p 0 == c then [p] else []) ++ occB ln c p := by
  unfold occB
  rw [List.range_succ, List.filter_append, List.reverse_append]
  simp only [List.filter_cons, List.filter_nil]
  split <;> rfl

theorem occF_mem (ln : Bytes) (c p j : Nat) (h : j ∈ occF ln c p) : p < j ∧ j < ln.length := by
  unfold occF at h
  have h1 := (List.mem_filter.mp h).1
  rw [List.mem_iff_getElem] at h1
  obtain ⟨i, hi, he⟩ := h1
  simp at hi
  simp at he
  omega

theorem go_zero (ln : Bytes) (dir : Int) (want : Nat) (st : Int → Int → Option Int) (f : Nat) (p k : Int) (hk : k ≤ 0) :
    findchar.go ln dir want st f p k = (p, k) := by
  cases f with
  | zero => unfold findchar.go; rfl
  | succ f => unfold findchar.go; rw [if_pos hk]

/-- The scan of `lbuf_findchar` in either direction, over a line `ln` whose characters have the codes `cs`.
    `nx p` is the position looked at after `p`, `occ p` the occurrences from there on, nearest first, and
    `μ` bounds the steps that are left: the scan ends at the `k`-th occurrence, or with `k' ≠ 0` when
    there is none. -/
theorem go_scan (ln : Bytes) (cs : List Nat)
    (hcode : ∀ p : Int, 0 ≤ p → p ≤ cs.length → (ucCode (chrAt ln p)).getD 0 = cs.getD p.toNat 0)
    (c : Nat) (dir : Int) (nx : Nat → Option Nat) (occ : Nat → List Nat)
    (μ : Nat → Nat) (hstep : ∀ p : Nat, stepdOf cs.length p dir = (nx p).map (fun q : Nat => (q : Int)))
    (hnx : ∀ p q, p ≤ cs.length → nx p = some q →
      q ≤ cs.length ∧ μ q < μ p ∧ occ p = (if cs.getD q 0 == c then [q] else []) ++ occ q)
    (hend : ∀ p, nx p = none → occ p = []) (f p : Nat) (k : Int) (hk : 1 ≤ k) (hp : p ≤ cs.length) (hf : μ p ≤ f) :
    ∀ p' k', findchar.go ln dir c (stepdOf cs.length) f p k = (p', k') →
      (k' = 0 → 0 ≤ p' ∧ (occ p)[k.toNat - 1]? = some p'.toNat) ∧
      (k' ≠ 0 → (occ p)[k.toNat - 1]? = none) := by
  have hidx : ∀ k : Int, 1 ≤ k → k ≠ 1 → k.toNat - 1 = ((k - 1).toNat - 1) + 1 := by
    intro k h1 h2; omega
  induction f generalizing p k with
  | zero =>
    intro p' k' hgo
    unfold findchar.go at hgo
    cases hgo
    have hx : nx p = none := by
      cases hx : nx p with
      | none => rfl
      | some q => have := (hnx p q hp hx).2.1; omega
    rw [hend p hx]
    exact ⟨fun h => by omega, fun _ => rfl⟩
  | succ f ih =>
    intro p' k' hgo
    unfold findchar.go at hgo
    rw [if_neg (by omega), hstep p] at hgo
    cases hx : nx p with
    | none =>
      rw [hx] at hgo
      cases hgo
      rw [hend p hx]
      exact ⟨fun h => by omega, fun _ => rfl⟩
    | some q =>
      obtain ⟨hq, hμ, hocc⟩ := hnx p q hp hx
      rw [hx] at hgo
      simp only [Option.map_some] at hgo
      rw [hcode (q : Int) (by omega) (by omega), Int.toNat_natCast] at hgo
      rw [hocc]
      by_cases hm : (cs.getD q 0 == c) = true
      · rw [if_pos hm] at hgo
        rw [if_pos hm]
        by_cases hk1 : k = 1
        · subst hk1
          rw [go_zero _ _ _ _ _ _ _ (by omega)] at hgo
          cases hgo
          exact ⟨fun _ => ⟨by omega, by simp⟩, fun h => absurd rfl h⟩
        · rw [hidx k hk hk1, List.singleton_append, List.getElem?_cons_succ]
          exact ih q (k - 1) (by omega) hq (by omega) p' k' hgo
      · rw [if_neg hm] at hgo
        rw [if_neg hm, List.nil_append]
        exact ih q k hk hq (by omega) p' k' hgo

theorem go_fwd (ln : Bytes) (cs : List Nat)
    (hcode : ∀ p : Int, 0 ≤ p → p ≤ cs.length → (ucCode (chrAt ln p)).getD 0 = cs.getD p.toNat 0)
    (c : Nat) (f : Nat) (p : Nat) (k : Int) (hk : 1 ≤ k) (hp : p < cs.length) (hf : cs.length - p ≤ f) :
    ∀ p' k', findchar.go ln 1 c (stepdOf cs.length) f p k = (p', k') →
      (k' = 0 → 0 ≤ p' ∧ (occF cs c p)[k.toNat - 1]? = some p'.toNat) ∧
      (k' ≠ 0 → (occF cs c p)[k.toNat - 1]? = none) := by
  apply go_scan ln cs hcode c 1 (fun p => if p + 1 < cs.length then some (p + 1) else none) (occF cs c)
    (fun p => cs.length - (p + 1)) _ _ _ f p k hk (by omega) (by omega)
  · intro p
    unfold stepdOf
    rw [if_neg (by omega)]
    by_cases h : p + 1 < cs.length
    · rw [if_neg (by omega), if_pos h]; rfl
    · rw [if_pos (by omega), if_neg h]; rfl
  · intro p q _ h
    by_cases hlt : p + 1 < cs.length
    · rw [if_pos hlt] at h
      cases h
      exact ⟨by omega, by omega, occF_step cs c p hlt⟩
    · rw [if_neg hlt] at h; cases h
  · intro p h
    by_cases hlt : p + 1 < cs.length
    · rw [if_pos hlt] at h; cases h
    · exact occF_end cs c p (by omega)

theorem go_bwd (ln : Bytes) (cs : List Nat)
    (hcode : ∀ p : Int, 0 ≤ p → p ≤ cs.length → (ucCode (chrAt ln p)).getD 0 = cs.getD p.toNat 0)
    (c : Nat) (f : Nat) (p : Nat) (k : Int) (hk : 1 ≤ k) (hp : p ≤ cs.length) (hf : p ≤ f) :
    ∀ p' k', findchar.go ln (-1) c (stepdOf cs.length) f p k = (p', k') →
      (k' = 0 → 0 ≤ p' ∧ (occB cs c p)[k.toNat - 1]? = some p'.toNat) ∧
      (k' ≠ 0 → (occB cs c p)[k.toNat - 1]? = none) := by
  apply go_scan ln cs hcode c (-1) (fun p => if 0 < p then some (p - 1) else none) (occB cs c) id _ _ _ f p k hk hp hf
  · intro p
    unfold stepdOf
    rw [if_pos (by omega)]
    cases p with
    | zero => rfl
    | succ q => rw [if_neg (by omega), if_pos (by omega)]; simp
  · intro p q hp h
    cases p with
    | zero => cases h
    | succ r =>
      rw [if_pos (by omega)] at h
      cases h
      exact ⟨by omega, Nat.lt_succ_self r, occB_step cs c r⟩
  · intro p h
    cases p with
    | zero => rfl
    | succ r => rw [if_pos (by omega)] at h; cases h

theorem filter_gt_eq_drop (n p : Nat) (m : Nat → Bool) :
    (List.range n).filter (fun j => decide (j > p) && m j) = ((List.range n).drop (p + 1)).filter m := by
  induction n with
  | zero => simp
  | succ n ih =>
    rw [List.range_succ, List.filter_append, ih]
    by_cases h : p + 1 ≤ n
    · rw [List.drop_append_of_le_length (by simpa using h), List.filter_append]
      congr 1
      have : decide (n > p) = true := by simp; omega
      simp [List.filter_cons, this]
    · have h1 : (List.range n).drop (p + 1) = [] := List.drop_eq_nil_of_le (by simp; omega)
      have h2 : (List.range n ++ [n]).drop (p + 1) = [] := List.drop_eq_nil_of_le (by simp; omega)
      rw [h1, h2]
      have : decide (n > p) = false := by simp; omega
      simp [this]

/-- on `w ++ "\n"` the occurrences of a non-newline `c` are those of the reference, on `w` -/
theorem occF_line (w : Bytes) (c p : Nat) (hc : c ≠ 10) :
    occF (w ++ [10]) c p = (List.range w.length).filter (fun j => decide (j > p) && w.getD j 0 == c) := by
  unfold occF
  rw [← filter_gt_eq_drop]
  simp only [List.length_append, List.length_singleton]
  rw [List.range_succ, List.filter_append]
  have h1 : [w.length].filter (fun j => decide (j > p) && (w ++ [10]).getD j 0 == c) = [] := by
    simp only [List.filter_cons, List.filter_nil, getD_snoc_eq]
    have : (10 == c) = false := by simp; omega
    simp [this]
  rw [h1, List.append_nil]
  apply List.filter_congr
  intro j hj
  simp at hj
  rw [getD_snoc_lt w 10 j hj]

theorem occB_line (w : Bytes) (c p : Nat) (hp : p ≤ w.length) :
    occB (w ++ [10]) c p = ((List.range (min p w.length)).filter (fun j => w.getD j 0 == c)).reverse := by
  unfold occB
  rw [Nat.min_eq_left hp]
  congr 1
  apply List.filter_congr
  intro j hj
  simp at hj
  rw [getD_snoc_lt w 10 j (by omega)]

end Neatvi.Lemmas.C07
