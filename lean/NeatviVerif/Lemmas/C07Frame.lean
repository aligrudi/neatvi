import NeatviVerif.Lemmas.ViPres
import NeatviVerif.Lemmas.C06Ex
/-!
# C07 helper lemmas: the text of the line buffer is a frame of the motion part of the vi loop

`lbText s` is the text of the current line buffer (`none` when there is no current buffer); marks, undo
history and sequence numbers are not part of it.  `Keeps c m` says that a computation that returns
normally leaves `lbText` alone and, for `c = true`, the cursor and the window too: the frame fact of `proj c`
(`keeps_iff`), so its rules are those of `ViPres.Pres`.  It holds of the primitive state updates that do not touch
`ed.bufs` (or only the marks / sequence number of the buffer).
-/

namespace Neatvi.Lemmas.C07
open Neatvi Neatvi.Uc Neatvi.Lbuf Neatvi.Ex Neatvi.Mot Neatvi.Vi

/-- the text of the current line buffer -/
def lbText (s : VS) : Option (List Bytes) := s.ed.lb.map (·.lines)

theorem lines_eq_lbText (s : VS) : lines s = (lbText s).getD [] := by
  unfold lines lbText
  cases s.ed.lb <;> rfl

theorem lines_of_lbText {s s' : VS} (h : lbText s' = lbText s) : lines s' = lines s := by
  rw [lines_eq_lbText, lines_eq_lbText, h]

theorem lenOf_of_lbText {s s' : VS} (h : lbText s' = lbText s) : lenOf s' = lenOf s := by
  unfold lenOf; rw [lines_of_lbText h]

/-- the cursor, the top of the window, and the height of the window -/
def curOf (s : VS) : Int × Int × Int × Int := (s.ed.xrow, s.ed.xoff, s.ed.xtop, s.xrows)

/-- what a step is compared on: the text, and (when `c`) the cursor and window as well -/
def proj (c : Bool) (s : VS) : Option (List Bytes) × Option (Int × Int × Int × Int) :=
  (lbText s, if c then some (curOf s) else none)

/-- a computation that returns normally keeps the buffer text (and, for `c = true`, the cursor and the window) -/
structure Keeps {α : Type} (c : Bool) (m : M α) : Prop where
  keep : ∀ s a s', m s = Res.ok a s' → proj c s' = proj c s

theorem keeps_iff {α : Type} {c : Bool} {m : M α} : Keeps c m ↔ ∀ v, ViPres.Pres (fun s => proj c s = v) m :=
  ⟨fun h => (ViPres.frame_iff (proj c) m).1 h.keep, fun h => ⟨(ViPres.frame_iff (proj c) m).2 h⟩⟩

namespace Keeps

theorem pres {α : Type} {c : Bool} {m : M α} (h : Keeps c m) (v) : ViPres.Pres (fun s => proj c s = v) m :=
  keeps_iff.1 h v

theorem of_blind {α : Type} {c : Bool} {m : M α} (h : ∀ {P : VS → Prop}, ViPres.Blind P → ViPres.Pres P m) :
    Keeps c m :=
  keeps_iff.2 fun v => h (ViPres.Reads.of_proj ViPres.quiet (fun _ => rfl) v)

theorem text {α : Type} {c : Bool} {m : M α} (h : Keeps c m) {s : VS} {a : α} {s' : VS} (hm : m s = Res.ok a s') :
    lbText s' = lbText s := congrArg Prod.fst (h.keep s a s' hm)

theorem cursor {α : Type} {m : M α} (h : Keeps true m) {s : VS} {a : α} {s' : VS} (hm : m s = Res.ok a s') :
    curOf s' = curOf s := by
  have := congrArg Prod.snd (h.keep s a s' hm)
  simpa [proj] using this

theorem cursor_eqs {α : Type} {m : M α} (h : Keeps true m) {s : VS} {a : α} {s' : VS} (hm : m s = Res.ok a s') :
    s'.ed.xrow = s.ed.xrow ∧ s'.ed.xoff = s.ed.xoff ∧ s'.ed.xtop = s.ed.xtop ∧ s'.xrows = s.xrows := by
  have := h.cursor hm
  unfold curOf at this
  simpa using this

theorem weaken {α : Type} {c : Bool} {m : M α} (h : Keeps true m) : Keeps c m := by
  constructor
  intro s a s' hm
  unfold proj
  rw [h.text hm, h.cursor hm]

theorem pure {α : Type} {c : Bool} (a : α) : Keeps c (Pure.pure a : M α) :=
  keeps_iff.2 fun _ => ViPres.Pres.pure a

theorem bind {α β : Type} {c : Bool} {m : M α} {f : α → M β} (hm : Keeps c m) (hf : ∀ a, Keeps c (f a)) :
    Keeps c (m >>= f) :=
  keeps_iff.2 fun v => ViPres.Pres.bind (hm.pres v) fun a => (hf a).pres v

theorem get {c : Bool} : Keeps c Vi.get := keeps_iff.2 fun _ => ViPres.Pres.get

theorem trap {α : Type} {c : Bool} : Keeps c (Vi.trap : M α) := keeps_iff.2 fun _ => ViPres.Pres.trap

theorem modify {c : Bool} {f : VS → VS} (hf : ∀ s, proj c (f s) = proj c s) : Keeps c (Vi.modify f) :=
  keeps_iff.2 fun _ => ViPres.Pres.modify_proj hf

theorem withEd {c : Bool} {f : Ed → Ed} (hf : ∀ s : VS, proj c { s with ed := f s.ed } = proj c s) :
    Keeps c (Vi.withEd f) := modify hf

theorem ite {α : Type} {c : Bool} {p : Prop} [Decidable p] {a b : M α} (ha : Keeps c a) (hb : Keeps c b) :
    Keeps c (if p then a else b) :=
  keeps_iff.2 fun v => ViPres.Pres.ite (ha.pres v) (hb.pres v)

theorem of_fun {α : Type} {c : Bool} {m : M α}
    (h : ∀ s a s', m s = Res.ok a s' → s'.ed = s.ed ∧ s'.xrows = s.xrows) : Keeps c m := by
  constructor
  intro s a s' hm
  obtain ⟨h1, h2⟩ := h s a s' hm
  unfold proj lbText curOf; rw [h1, h2]

end Keeps

theorem setLb_lb (ed : Ed) (lb : Lb) : (ed.setLb lb).lb = ed.lb.map (fun _ => lb) := Lemmas.C06.setLb_lb_map ed lb

theorem setLb_text (ed : Ed) (lb lb0 : Lb) (h0 : ed.lb = some lb0) (h : lb.lines = lb0.lines) :
    (ed.setLb lb).lb.map (·.lines) = ed.lb.map (·.lines) := by
  rw [setLb_lb, h0]; simp [h]

theorem setLb_cur (ed : Ed) (lb : Lb) :
    (ed.setLb lb).xrow = ed.xrow ∧ (ed.setLb lb).xoff = ed.xoff ∧ (ed.setLb lb).xtop = ed.xtop := by
  unfold Ed.setLb
  cases ed.cur <;> exact ⟨rfl, rfl, rfl⟩

theorem setMark_lines (lb : Lb) (c : Nat) (r o : Int) : (setMark lb c r o).lines = lb.lines := by
  unfold setMark; split <;> rfl

theorem modified_lines (lb : Lb) : (Lbuf.modified lb).2.lines = lb.lines := rfl

theorem termRead_ed (s : VS) (c : Int) (s' : VS) (h : termRead s = Res.ok c s') :
    s'.ed = s.ed ∧ s'.xrows = s.xrows := by
  unfold termRead at h
  simp only [] at h
  split at h
  · cases h
  · cases h
    split <;> exact ⟨rfl, rfl⟩

theorem viRead_ed (s : VS) (c : Int) (s' : VS) (h : viRead s = Res.ok c s') :
    s'.ed = s.ed ∧ s'.xrows = s.xrows := by
  rcases viRead_cases s c s' h with ⟨r, rfl⟩ | h
  · exact ⟨rfl, rfl⟩
  · exact termRead_ed _ _ _ h

theorem keeps_termRead {c : Bool} : Keeps c termRead := Keeps.of_fun termRead_ed
theorem keeps_viRead {c : Bool} : Keeps c viRead := Keeps.of_fun viRead_ed
theorem keeps_termCmd {c : Bool} : Keeps c termCmd := Keeps.of_fun (fun s a s' h => by cases h; exact ⟨rfl, rfl⟩)
theorem keeps_viBack {c : Bool} (k : Int) : Keeps c (viBack k) := Keeps.modify (fun _ => rfl)
theorem keeps_termPush {c : Bool} (x : Bytes) : Keeps c (termPush x) := Keeps.modify (fun _ => rfl)
theorem keeps_unmodelled {c : Bool} : Keeps c Vi.unmodelled := Keeps.modify (fun _ => rfl)
theorem keeps_setMsg {c : Bool} (m : Bytes) : Keeps c (setMsg m) := Keeps.modify (fun _ => rfl)
theorem keeps_setRow (r : Int) : Keeps false (setRow r) := Keeps.modify (fun _ => rfl)
theorem keeps_setOff (o : Int) : Keeps false (setOff o) := Keeps.modify (fun _ => rfl)
theorem keeps_setPos (r o : Int) : Keeps false (setPos r o) := Keeps.modify (fun _ => rfl)
theorem keeps_setTop (t : Int) : Keeps false (setTop t) := Keeps.modify (fun _ => rfl)

theorem edUpd_frame (ed : Ed) (g : Lb → Lb) (hg : ∀ lb, (g lb).lines = lb.lines) (ed' : Ed)
    (he : ed' = match ed.lb with | some lb => ed.setLb (g lb) | none => ed) :
    ed'.lb.map (·.lines) = ed.lb.map (·.lines) ∧ ed'.xrow = ed.xrow ∧ ed'.xoff = ed.xoff ∧ ed'.xtop = ed.xtop := by
  cases h : ed.lb with
  | none => rw [h] at he; subst he; simp [h]
  | some lb =>
    rw [h] at he
    simp only [] at he
    subst he
    obtain ⟨h1, h2, h3⟩ := setLb_cur ed (g lb)
    rw [setLb_text ed _ lb h (hg lb), h]
    exact ⟨rfl, h1, h2, h3⟩

theorem keeps_setLb {c : Bool} (g : Lb → Lb) (hg : ∀ lb, (g lb).lines = lb.lines) :
    Keeps c (Vi.withEd fun ed => match ed.lb with | some lb => ed.setLb (g lb) | none => ed) := by
  apply Keeps.modify
  intro s
  obtain ⟨h0, h1, h2, h3⟩ := edUpd_frame s.ed g hg _ rfl
  unfold proj lbText curOf
  simp only []
  rw [h0, h1, h2, h3]

theorem keeps_markSet {c : Bool} (k : Nat) (r o : Int) : Keeps c (markSet k r o) :=
  keeps_setLb (fun lb => setMark lb k r o) (fun lb => setMark_lines lb k r o)

theorem keeps_lbufModified {c : Bool} : Keeps c lbufModified :=
  keeps_setLb (fun lb => (Lbuf.modified lb).2) modified_lines

end Neatvi.Lemmas.C07
