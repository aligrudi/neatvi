import NeatviVerif.Lemmas.C07Frame
import NeatviVerif.Lemmas.ViStages
/-!
# C07 helper lemmas: every step of the motion part of the vi loop keeps the buffer text

`Keeps c` is the frame fact of `proj c` (`keeps_iff`); the functions that only read keys have it from
`Lemmas/ViPres`, the others by `pres_walk`.
-/

namespace Neatvi.Lemmas.C07
open Neatvi Neatvi.Uc Neatvi.Lbuf Neatvi.Ex Neatvi.Mot Neatvi.Vi
open Neatvi.Lemmas.ViPres (Blind pres_viRead pres_viBack pres_unmodelled pres_viMotionln pres_viChar pres_viPrompt
  pres_termCmd pres_viYankbuf pres_viPrefix)

theorem keeps_viYankbuf {cb : Bool} : Keeps cb viYankbuf := .of_blind ViPres.pres_viYankbuf
theorem keeps_viPrefix {cb : Bool} : Keeps cb viPrefix := .of_blind ViPres.pres_viPrefix
theorem keeps_viChar {cb : Bool} : Keeps cb viChar := .of_blind ViPres.pres_viChar

theorem keeps_ledLine {cb : Bool} (pref post ai0 : Bytes) (aiMax : Nat) (im ex : Bool) :
    Keeps cb (ledLine pref post ai0 aiMax im ex) :=
  keeps_iff.2 fun v => ViPres.pres_ledLine (ViPres.Reads.of_proj ViPres.quiet (fun _ => rfl) v) _ _ _ _ _ _ fun _ _ _ hs => hs

theorem keeps_viPrompt {cb : Bool} (ex : Bool) : Keeps cb (viPrompt ex) := .of_blind (ViPres.pres_viPrompt · ex)

theorem kwdSet_bufs (ed : Ed) (k : Option Bytes) (d : Int) : (ed.kwdSet k d).bufs = ed.bufs := rfl

theorem keeps_viSearch {cb : Bool} (cmd : Nat) (cnt r o : Int) : Keeps cb (viSearch cmd cnt r o) :=
  keeps_iff.2 fun v => ViPres.pres_viSearch (ViPres.Reads.of_proj ViPres.mquiet (fun _ => rfl) v) cmd cnt r o

theorem keeps_viMotionln {cb : Bool} (row cmd : Int) : Keeps cb (viMotionln row cmd) :=
  .of_blind (ViPres.pres_viMotionln · row cmd)

theorem keeps_viMotion {cb : Bool} (row off : Int) : Keeps cb (viMotion row off) :=
  keeps_iff.2 fun v => ViPres.pres_viMotion (ViPres.Reads.of_proj ViPres.mquiet (fun _ => rfl) v) row off
    fun _ _ => ViPres.Pres.modify_proj fun _ => rfl

theorem keeps_markSave {cb : Bool} : Keeps cb markSave :=
  keeps_iff.2 fun v => by
    unfold markSave
    pres_walk [ViPres.Pres.modify_proj, ViPres.Pres.withEd_proj, (keeps_markSet _ _ _).pres]

theorem keeps_viWait {cb : Bool} : Keeps cb viWait :=
  keeps_iff.2 fun v => by
    unfold viWait
    pres_walk [ViPres.Pres.modify_proj, ViPres.Pres.withEd_proj, (keeps_ledLine _ _ _ _ _ _).pres]

theorem keeps_viWfix : Keeps false viWfix :=
  keeps_iff.2 fun v => by
    unfold viWfix
    pres_walk [ViPres.Pres.modify_proj, ViPres.Pres.withEd_proj, (keeps_setOff _).pres]

theorem keeps_viPre {cb : Bool} : Keeps cb viPre :=
  keeps_iff.2 fun v => by
    have hb : Blind _ := ViPres.Reads.of_proj (π := proj cb) ViPres.quiet (fun _ => rfl) v
    unfold viPre
    pres_walk [ViPres.Pres.modify_proj, ViPres.Pres.withEd_proj, pres_termCmd hb, pres_viYankbuf hb, pres_viPrefix hb, (keeps_viMotion _ _).pres]

theorem keeps_motionTail (mv r o : Int) : Keeps false (motionTail mv r o) :=
  keeps_iff.2 fun v => by
    unfold motionTail
    pres_walk [ViPres.Pres.modify_proj, ViPres.Pres.withEd_proj, keeps_markSave.pres, (keeps_setRow _).pres, (keeps_setOff _).pres]

/-- after `vi_wfix()` the rest of the iteration moves neither the cursor nor the window -/
theorem keeps_viPostRest {cb : Bool} (mod : Nat) : Keeps cb (viPostRest mod) :=
  keeps_iff.2 fun v => by
    unfold viPostRest
    pres_walk [ViPres.Pres.modify_proj, ViPres.Pres.withEd_proj, keeps_viWait.pres, keeps_lbufModified.pres]

theorem keeps_viPost (k : Option Nat) : Keeps false (viPost k) := by
  cases k with
  | none => exact Keeps.pure _
  | some mod => exact Keeps.bind keeps_viWfix fun _ => keeps_viPostRest mod

end Neatvi.Lemmas.C07
