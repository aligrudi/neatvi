import NeatviVerif.Model.Ren
import NeatviVerif.Lemmas.Uc
import NeatviVerif.Props.C16
/-!
# C07 helper lemmas: `ren_noeol`; lines of the buffer

`ren_noeol` as a clamp (`renNoeol_eq`) and what follows; a line of the buffer (`WfLine`: one newline, at the end) has no
two newline characters in a row (`NoNlNl`), which is what `ren_noeol` needs to be idempotent; below `uc_slen` every
character offset designates a character.  The facts about `uc_chr` used here are in `Lemmas/Uc.lean`.  On an encoded line
`encStr cs` the first byte of character `k` is the newline iff the code point is (`chrHd_enc_eq_10`), so `ren_noeol` has a
closed form in code points (`renNoeol_enc`).
-/
set_option linter.unusedVariables false

namespace Neatvi.Lemmas.C07
open Neatvi Neatvi.Uc Neatvi.Ren

/-- the first step of `ren_noeol`: an offset at or beyond the end goes to the last character -/
def clampOff (ln : Bytes) (o : Int) : Int := if o ≥ (ucSlen ln : Int) then max 0 ((ucSlen ln : Int) - 1) else o

theorem renNoeol_eq (ln : Bytes) (o : Int) :
    renNoeol ln o = if clampOff ln o > 0 ∧ chrHd ln (clampOff ln o).toNat = 10 then clampOff ln o - 1 else clampOff ln o := by
  unfold renNoeol clampOff
  simp only [Bool.and_eq_true, decide_eq_true_eq, beq_iff_eq]

theorem clampOff_nonneg (ln : Bytes) (o : Int) (h : 0 ≤ o) : 0 ≤ clampOff ln o := by
  unfold clampOff; split <;> omega

theorem clampOff_le (ln : Bytes) (o : Int) (h : 0 ≤ o) : clampOff ln o ≤ o := by
  unfold clampOff; split <;> omega

theorem clampOff_lt (ln : Bytes) (o : Int) : clampOff ln o < max 1 (ucSlen ln : Int) := by
  unfold clampOff; split <;> omega

theorem clampOff_neg (ln : Bytes) (o : Int) (h : o < 0) : clampOff ln o = o := by
  unfold clampOff; split <;> omega

theorem clampOff_fix (ln : Bytes) (o : Int) (h : o < max 1 (ucSlen ln : Int)) (h0 : 0 ≤ o) : clampOff ln o = o := by
  unfold clampOff; split <;> omega

theorem renNoeol_nonneg (ln : Bytes) (o : Int) (h : 0 ≤ o) : 0 ≤ renNoeol ln o := by
  have := clampOff_nonneg ln o h
  rw [renNoeol_eq]; split <;> omega

theorem renNoeol_le (ln : Bytes) (o : Int) (h : 0 ≤ o) : renNoeol ln o ≤ o := by
  have := clampOff_le ln o h
  rw [renNoeol_eq]; split <;> omega

theorem renNoeol_lt (ln : Bytes) (o : Int) : renNoeol ln o < max 1 (ucSlen ln : Int) := by
  have := clampOff_lt ln o
  rw [renNoeol_eq]; split <;> omega

theorem renNoeol_neg (ln : Bytes) (o : Int) (h : o < 0) : renNoeol ln o = o := by
  rw [renNoeol_eq, clampOff_neg ln o h]
  rw [if_neg]; omega

theorem renNoeol_neg_iff (ln : Bytes) (o : Int) : renNoeol ln o < 0 ↔ o < 0 := by
  constructor
  · intro h
    by_cases h0 : 0 ≤ o
    · have := renNoeol_nonneg ln o h0; omega
    · omega
  · intro h; rw [renNoeol_neg ln o h]; exact h

/-- no two consecutive characters of the line start with a newline byte -/
def NoNlNl (ln : Bytes) : Prop := ∀ k, chrHd ln (k + 1) = 10 → chrHd ln k ≠ 10

/-- what `ren_noeol` guarantees on any line: the result is not on a newline, unless the character
before that newline is a newline too -/
theorem renNoeol_not_nl_gen (ln : Bytes) (o : Int) (h : 0 < renNoeol ln o) :
    chrHd ln (renNoeol ln o).toNat ≠ 10 ∨ chrHd ln ((renNoeol ln o).toNat + 1) = 10 := by
  rw [renNoeol_eq] at h ⊢
  split
  · rename_i hc
    right
    rw [if_pos hc] at h
    have : (clampOff ln o - 1).toNat + 1 = (clampOff ln o).toNat := by omega
    rw [this]; exact hc.2
  · rename_i hc
    rw [if_neg hc] at h
    left
    intro h10
    exact hc ⟨h, h10⟩

theorem renNoeol_not_nl (ln : Bytes) (o : Int) (hl : NoNlNl ln) (h : 0 < renNoeol ln o) :
    chrHd ln (renNoeol ln o).toNat ≠ 10 := by
  rcases renNoeol_not_nl_gen ln o h with h1 | h1
  · exact h1
  · exact hl _ h1

/-- idempotence, on lines without two consecutive newline characters (every line of a buffer) -/
theorem renNoeol_idem (ln : Bytes) (o : Int) (hl : NoNlNl ln) :
    renNoeol ln (renNoeol ln o) = renNoeol ln o := by
  by_cases h0 : 0 ≤ o
  · have h1 := renNoeol_nonneg ln o h0
    have h2 := renNoeol_lt ln o
    generalize hr : renNoeol ln o = r at *
    rw [renNoeol_eq, clampOff_fix ln r h2 h1]
    rw [if_neg]
    intro ⟨hp, h10⟩
    have := renNoeol_not_nl ln o hl (by rw [hr]; exact hp)
    rw [hr] at this
    exact this h10
  · have : o < 0 := by omega
    rw [renNoeol_neg ln o this, renNoeol_neg ln o this]

/-! ### lines of the buffer -/

/-- a line of the buffer: its only newline byte is the last byte -/
def WfLine (l : Bytes) : Prop := ∃ w, l = w ++ [10] ∧ 10 ∉ w

theorem hd_drop_eq_10 (w : Bytes) (hw : 10 ∉ w) (i : Nat) (h : Bytes.hd ((w ++ [10]).drop i) = 10) : i = w.length := by
  by_cases h1 : i < w.length
  · exfalso
    rw [List.drop_append_of_le_length (by omega)] at h
    have hne : w.drop i ≠ [] := by
      intro he
      have := congrArg List.length he
      simp at this; omega
    cases hd : w.drop i with
    | nil => exact hne hd
    | cons x xs =>
      rw [hd] at h
      simp [Bytes.hd] at h
      subst h
      have : 10 ∈ w.drop i := by rw [hd]; simp
      exact hw (List.mem_of_mem_drop this)
  · by_cases h2 : i = w.length
    · exact h2
    · exfalso
      have : (w ++ [10]).drop i = [] := by
        apply List.drop_eq_nil_of_le; simp; omega
      rw [this] at h
      simp at h

theorem wfLine_noNlNl (l : Bytes) (h : WfLine l) : NoNlNl l := by
  obtain ⟨w, rfl, hw⟩ := h
  intro k h1 h0
  unfold chrHd at h1 h0
  cases ha : ucChr (w ++ [10]) k with
  | none => rw [ha] at h0; simp at h0
  | some a =>
    cases hb : ucChr (w ++ [10]) (k + 1) with
    | none => rw [hb] at h1; simp at h1
    | some b =>
      rw [ha] at h0; rw [hb] at h1
      simp only [] at h0 h1
      have e1 := hd_drop_eq_10 w hw a h0
      have e2 := hd_drop_eq_10 w hw b h1
      have := (C08.chr_succ_lt _ _ _ _ ha hb).1
      omega

/-! ### below `uc_slen` every offset designates a character -/

theorem hd_ne_zero_of_not_mem (s : Bytes) (hz : 0 ∉ s) (hne : s ≠ []) : Bytes.hd s ≠ 0 := by
  cases s with
  | nil => exact absurd rfl hne
  | cons a t =>
    intro h
    simp [Bytes.hd] at h
    subst h
    exact hz (by simp)

theorem drop_eq_nil_of_hd_zero (s : Bytes) (hz : 0 ∉ s) (e : Nat) (h : Bytes.hd (s.drop e) = 0) : s.drop e = [] := by
  by_cases hne : s.drop e = []
  · exact hne
  · exfalso
    exact hd_ne_zero_of_not_mem _ (fun hm => hz (List.mem_of_mem_drop hm)) hne h

theorem drop_next_eq (s : Bytes) (hz : 0 ∉ s) : s.drop (ucNext s) = s.drop (ucEnd s + 1) := by
  unfold ucNext
  simp only []
  split
  · rfl
  · rename_i hc
    have h0 : Bytes.hd (s.drop (ucEnd s)) = 0 := by simpa using hc
    have h1 := drop_eq_nil_of_hd_zero s hz _ h0
    rw [h1]
    have : s.length ≤ ucEnd s := by
      have := congrArg List.length h1
      simp at this; omega
    rw [List.drop_eq_nil_of_le (by omega)]

theorem ucSlen_pos (s : Bytes) (h : Bytes.hd s ≠ 0) : 0 < ucSlen s := by
  rw [C08.slen_chr s h]; omega

theorem chrHd_exists (s : Bytes) (_hz : 0 ∉ s) (k : Nat) (hk : k < ucSlen s) : chrHd s k ≠ 0 := by
  obtain ⟨j, hj, hh⟩ := C08.chr_hd_ne_zero k s hk
  unfold chrHd
  rw [hj]
  exact hh

theorem chrHd_zero (s : Bytes) : chrHd s 0 = Bytes.hd s := by
  unfold chrHd
  rw [C08.chr_zero]
  rfl

/-! ### encoded lines -/

section
open Neatvi.Spec Neatvi.Props

theorem encStr_drop (cs : List Nat) (k : Nat) (hk : k < cs.length) :
    encStr (cs.drop k) = enc (cs.getD k 0) ++ encStr (cs.drop (k + 1)) := by
  rw [List.drop_eq_getElem_cons hk, encStr_cons]
  congr 2
  rw [List.getD_eq_getElem?_getD, List.getElem?_eq_getElem hk]; rfl

theorem hd_enc_high {x : Nat} (h : ValidCp x) (hx : ¬ x < 128) (rest : Bytes) : 192 ≤ Bytes.hd (enc x ++ rest) := by
  obtain ⟨h0, h1⟩ := h
  unfold enc
  rw [if_neg hx]
  split
  · simp only [List.cons_append, Bytes.hd_cons]; omega
  split
  · simp only [List.cons_append, Bytes.hd_cons]; omega
  · simp only [List.cons_append, Bytes.hd_cons]; omega

theorem hd_enc_low {x : Nat} (hx : x < 128) (rest : Bytes) : Bytes.hd (enc x ++ rest) = x := by
  rw [enc_ascii hx]; rfl

theorem hd_enc_eq_10 {c : Nat} (h : ValidCp c) (r : Bytes) : Bytes.hd (enc c ++ r) = 10 ↔ c = 10 := by
  by_cases hx : c < 128
  · rw [hd_enc_low hx]
  · have := hd_enc_high h hx r; omega

theorem chrHd_enc_eq_10 {cs : List Nat} (h : ∀ c ∈ cs, ValidCp c) (k : Nat) (hk : k < cs.length) :
    chrHd (encStr cs) k = 10 ↔ cs.getD k 0 = 10 := by
  unfold chrHd
  rw [C16.chr_spec h k, if_pos (by omega)]
  simp only []
  rw [encStr_drop_byteOff, encStr_drop cs k hk]
  apply hd_enc_eq_10
  apply h
  rw [List.getD_eq_getElem?_getD, List.getElem?_eq_getElem hk]
  exact List.getElem_mem _

theorem renNoeol_enc {cs : List Nat} (h : ∀ c ∈ cs, ValidCp c) (o : Nat) (ho : o < cs.length) :
    renNoeol (encStr cs) (o : Int) = if 0 < o ∧ cs.getD o 0 = 10 then (o : Int) - 1 else o := by
  rw [renNoeol_eq, clampOff_fix _ _ (by rw [C16.slen_spec h]; omega) (by omega), Int.toNat_natCast]
  simp only [chrHd_enc_eq_10 h o ho, gt_iff_lt, Int.natCast_pos]

end

end Neatvi.Lemmas.C07
