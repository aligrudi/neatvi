import NeatviVerif.Lemmas.Basics
import NeatviVerif.Model.Mot
import NeatviVerif.Spec.Motion
import NeatviVerif.Lemmas.UcBits
import NeatviVerif.Lemmas.C07Ren
import NeatviVerif.Props.C16
/-!
# C07 helper lemmas: the `uc.c` scanners on ASCII text, and the simple scanners of `mot.c`
-/
namespace Neatvi.Lemmas.C07
open Neatvi Neatvi.Uc Neatvi.Mot

/-- bytes of an ASCII text: non-zero and below 128 -/
def Ascii (s : Bytes) : Prop := ∀ b ∈ s, 0 < b ∧ b < 128

theorem Ascii.tail {c : Nat} {r : Bytes} (h : Ascii (c :: r)) : Ascii r := fun b hb => h b (List.mem_cons_of_mem _ hb)
theorem Ascii.head {c : Nat} {r : Bytes} (h : Ascii (c :: r)) : 0 < c ∧ c < 128 := h c (by simp)

theorem ucEnd_ascii (c : Nat) (r : Bytes) (h : c < 128) : ucEnd (c :: r) = 0 := by
  unfold ucEnd
  have := and80 c (by omega)
  simp only [this, decide_eq_true_eq, h, if_true]

theorem ucNext_ascii (c : Nat) (r : Bytes) (h0 : 0 < c) (h : c < 128) : ucNext (c :: r) = 1 := by
  unfold ucNext
  rw [ucEnd_ascii c r h]
  simp [Bytes.hd]
  omega

theorem Ascii.valid {s : Bytes} (hs : Ascii s) : ∀ c ∈ s, Spec.ValidCp c :=
  fun c hc => ⟨(hs c hc).1, Nat.lt_trans (hs c hc).2 (by decide)⟩

theorem Ascii.enc {s : Bytes} (hs : Ascii s) : Spec.encStr s = s := encStr_ascii fun c hc => (hs c hc).2

theorem ucSlen_ascii (s : Bytes) (hs : Ascii s) : ucSlen s = s.length := by
  have := Props.C16.slen_spec hs.valid
  rwa [hs.enc] at this

theorem ucChr_ascii (s : Bytes) (hs : Ascii s) (k : Nat) (hk : k ≤ s.length) : ucChr s k = some k := by
  have := Props.C16.chr_spec hs.valid k
  rwa [hs.enc, if_pos hk, byteOff_ascii (fun c hc => (hs c hc).2) hk] at this


theorem ascii_snoc_nl {w : Bytes} (hw : Ascii w) : Ascii (w ++ [10]) := by
  intro b hb
  simp at hb
  rcases hb with hb | hb
  · exact hw b hb
  · subst hb; omega

theorem getD_snoc_lt (w : Bytes) (x j : Nat) (h : j < w.length) : (w ++ [x]).getD j 0 = w.getD j 0 := by
  simp [List.getD, List.getElem?_append_left h]

theorem getD_snoc_eq (w : Bytes) (x : Nat) : (w ++ [x]).getD w.length 0 = x := by
  simp [List.getD]

theorem hd_drop_getD (s : Bytes) (i : Nat) : Bytes.hd (s.drop i) = s.getD i 0 := by
  unfold Bytes.hd
  simp [List.getD, List.head?_drop]

theorem chrHd_ascii (s : Bytes) (hs : Ascii s) (k : Nat) (hk : k ≤ s.length) : Ren.chrHd s k = s.getD k 0 := by
  unfold Ren.chrHd
  rw [ucChr_ascii s hs k hk]
  exact hd_drop_getD s k

theorem chrAt_ascii (s : Bytes) (hs : Ascii s) (p : Int) (h0 : 0 ≤ p) (h1 : p ≤ s.length) :
    chrAt s p = s.drop p.toNat := by
  unfold chrAt
  rw [if_neg (by omega), ucChr_ascii s hs p.toNat (by omega)]

theorem ucCode_low (t : Bytes) (h : Bytes.hd t < 128) : ucCode t = some (Bytes.hd t) := by
  unfold ucCode
  have := andc0n (Bytes.hd t) (by omega)
  simp only [this, decide_eq_true_eq, show Bytes.hd t < 192 by omega, if_true]

/-! ### `lbuf_eol` -/

theorem slenAt_nonneg (ls : Lines) (r : Int) : 0 ≤ slenAt ls r := by
  unfold slenAt; split <;> omega

theorem eol_closed (ls : Lines) (r : Int) : eol ls r = max 0 (slenAt ls r - 1) := by
  have := slenAt_nonneg ls r
  unfold eol
  simp only [bne_iff_ne, ne_eq, ite_not]
  split <;> omega

theorem eol_nonneg (ls : Lines) (r : Int) : 0 ≤ eol ls r := by
  rw [eol_closed]; omega

theorem eol_of_line (ls : Lines) (r : Int) (ln : Bytes) (h : lineAt ls r = some ln) :
    eol ls r = ((ucSlen ln - 1 : Nat) : Int) := by
  rw [eol_closed]
  unfold slenAt
  rw [h]
  simp only []
  omega

theorem eol_of_none (ls : Lines) (r : Int) (h : lineAt ls r = none) : eol ls r = 0 := by
  rw [eol_closed]
  unfold slenAt
  rw [h]
  simp only []
  omega

/-! ### `lbuf_indents` -/

theorem takeWhile_pre {α : Type} (p : α → Bool) (pre : List α) (x : α) (rest : List α)
    (hpre : ∀ b ∈ pre, p b = true) (hx : p x = false) : (pre ++ x :: rest).takeWhile p = pre :=
  Basics.takeWhile_pre p pre x rest hpre hx

theorem takeWhile_all {α : Type} (p : α → Bool) (l : List α) (h : ∀ b ∈ l, p b = true) : l.takeWhile p = l :=
  Basics.takeWhile_all p l h

theorem range_find_first (n k : Nat) (p : Nat → Bool) (hk : k < n) (hp : p k = true) (hlt : ∀ j, j < k → p j = false) :
    (List.range n).find? p = some k := by
  induction n with
  | zero => omega
  | succ n ih =>
    rw [List.range_succ, List.find?_append]
    by_cases hkn : k < n
    · rw [ih hkn]; rfl
    · have : k = n := by omega
      subst this
      have : (List.range k).find? p = none := by
        rw [List.find?_eq_none]
        intro x hx
        simp at hx
        simp [hlt x hx]
      rw [this]
      simp [hp]

end Neatvi.Lemmas.C07
