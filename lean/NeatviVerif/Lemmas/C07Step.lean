import NeatviVerif.Lemmas.C07Keeps
import NeatviVerif.Lemmas.C07Ren
/-!
# C07 helper lemmas: one iteration of the vi loop on the motion branches

The cut of an iteration (`stepCont`, `viStep_of_pre`) is in `Lemmas/ViStages.lean`; here: on a motion the continuation keeps
the text (`keeps_stepCont`), and where the cursor ends (`motionOff`, `motionRest`).
-/

namespace Neatvi.Lemmas.C07
open Neatvi Neatvi.Uc Neatvi.Lbuf Neatvi.Ex Neatvi.Mot Neatvi.Vi

theorem keeps_stepCont {mv : Int} (r o : Int) (hmv : mv ≠ 0) : Keeps false (stepCont mv r o) := by
  unfold stepCont
  rw [if_neg (show ¬ (mv == 0) = true by simpa using hmv)]
  exact Keeps.ite (keeps_motionTail mv r o) (Keeps.pure _)

theorem noeol_nonneg (s : VS) (r o : Int) (h : 0 ≤ o) : 0 ≤ noeol s r o := by
  unfold noeol
  split
  · simp only []
    split <;> omega
  · exact renNoeol_nonneg _ _ h

/-- the offset `motionTail` hands to `ren_noeol` -/
def motionOff (s : VS) (mv nrow noff : Int) : Int :=
  let jk := mv == 106 || mv == 107
  let noff := if noff < 0 && !jk then indents (lines s) nrow else noff
  if jk then col2off s nrow s.xcol else noff

theorem indents_nonneg (ls : Lines) (r : Int) : 0 ≤ indents ls r := by
  unfold indents; split <;> omega

theorem motionOff_nonneg (s : VS) (mv nrow noff : Int) : 0 ≤ motionOff s mv nrow noff := by
  unfold motionOff
  simp only []
  have := indents_nonneg (lines s) nrow
  split
  · unfold col2off; split <;> omega
  · split
    · exact this
    · rename_i h1 h2
      simp only [Bool.and_eq_true, decide_eq_true_eq, Bool.not_eq_true', not_and, Bool.not_eq_false] at h2
      simp only [Bool.or_eq_true, beq_iff_eq] at h1 h2
      by_cases h3 : noff < 0
      · exact absurd (h2 h3) h1
      · omega

/-- what `motionTail` does after the optional `vi_marksave()` -/
def motionRest (mv nrow noff : Int) : M (Option Nat) := do
  setRow nrow
  let s ← get
  let jk := mv == 106 || mv == 107
  let noff := if noff < 0 && !jk then indents (lines s) nrow else noff
  let noff := if jk then col2off s nrow s.xcol else noff
  let xoff := noeol s nrow noff
  setOff xoff
  if !(jk || mv == 124) then modify fun s => { s with xcol := off2col s nrow xoff }
  if mv == 124 then modify fun s => { s with xcol := s.pcol }
  pure (some 0)

theorem motionTail_eq (mv nrow noff : Int) :
    motionTail mv nrow noff =
      ((if strHas "'`GHML/?{}[]nN" mv || (mv == 37 && noff < 0) then markSave else pure ()) >>= fun _ =>
        motionRest mv nrow noff) := by
  unfold motionTail
  by_cases hc : (strHas "'`GHML/?{}[]nN" mv || (mv == 37 && decide (noff < 0))) = true
  · simp only [hc, if_true]; rfl
  · simp only [hc]; rfl

theorem motionRest_run (mv nrow noff : Int) (s : VS) :
    ∃ s', motionRest mv nrow noff s = Res.ok (some 0) s' ∧ s'.ed.xrow = nrow ∧
      s'.ed.xoff = noeol s nrow (motionOff s mv nrow noff) ∧ s'.ed.xtop = s.ed.xtop ∧ s'.xrows = s.xrows ∧
      lbText s' = lbText s := by
  unfold motionRest motionOff
  simp only []
  generalize (mv == 124) = b2
  generalize (mv == 106 || mv == 107) = jk
  cases b2 <;> cases jk <;> exact ⟨_, rfl, rfl, rfl, rfl, rfl, rfl⟩

theorem markSaveOpt_run (c : Bool) (s a s') (h : (if c then markSave else pure ()) s = Res.ok a s') :
    curOf s' = curOf s ∧ lbText s' = lbText s := by
  have hk : Keeps true (if c then markSave else pure () : M Unit) := by
    split
    · exact keeps_markSave
    · exact Keeps.pure _
  exact ⟨hk.cursor h, hk.text h⟩

theorem lineOf_of_lbText {s s' : VS} (h : lbText s' = lbText s) (r : Int) : lineOf s' r = lineOf s r := by
  unfold lineOf; rw [lines_of_lbText h]

/-- a successful motion leaves `xrow = nrow` and `0 ≤ xoff`, and keeps the text and the window -/
theorem motionTail_run (mv nrow noff : Int) (s : VS) (c : Option Nat) (s' : VS)
    (h : motionTail mv nrow noff s = Res.ok c s') :
    c = some 0 ∧ s'.ed.xrow = nrow ∧ 0 ≤ s'.ed.xoff ∧ s'.ed.xtop = s.ed.xtop ∧ s'.xrows = s.xrows ∧
      lbText s' = lbText s := by
  rw [motionTail_eq] at h
  obtain ⟨u, s1, h1, h2⟩ := bind_inv _ _ _ _ _ h
  obtain ⟨hc, ht⟩ := markSaveOpt_run _ _ _ _ h1
  obtain ⟨s2, e1, e2, e3, e4, e5, e6⟩ := motionRest_run mv nrow noff s1
  rw [e1] at h2
  cases h2
  unfold curOf at hc
  simp only [Prod.mk.injEq] at hc
  refine ⟨rfl, e2, ?_, by rw [e4]; exact hc.2.2.1, by rw [e5]; exact hc.2.2.2, by rw [e6, ht]⟩
  rw [e3]
  exact noeol_nonneg _ _ _ (motionOff_nonneg _ _ _ _)

end Neatvi.Lemmas.C07
