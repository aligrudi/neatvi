import NeatviVerif.Lemmas.C07Scan
/-!
# The flat sequence of a reference buffer

A reference buffer `b : Buf` is a list of rows of code points; `cat b` is the buffer as one string with a newline after
every row, `Rep b r o i` says that the model position `(r, o)` is a character of the buffer (the newline of its row
included) and that `i` is its index in `cat b` / `Spec.Motion.flat b`; `idxB b r o` is that index as an option.  None of
this looks at how the rows are stored.  `lsOf b = b.map (· ++ [10])` stores them byte-wise, which is right for rows of
non-zero bytes below 128 other than the newline (`AsciiB b`); `Lemmas/C07cBuf` has the UTF-8 encoding `lsOfU b`, of
which `lsOf b` is the ASCII case.

At the head of the file: the first index from `r` on that satisfies `p`, `(List.range n).find? (fun j => j ≥ r && p j)`, as
the reference writes it, with its recursion equations (`findFrom_hit`, `_skip`, `_end`; `fromFind` with the default `n`).
-/
namespace Neatvi.Lemmas.C07b
open Neatvi Neatvi.Uc Neatvi.Mot Neatvi.Lemmas.C07 Neatvi.Spec.Motion

theorem find_congr' {l : List Nat} {p q : Nat → Bool} (h : ∀ x ∈ l, p x = q x) : l.find? p = l.find? q := by
  induction l with
  | nil => rfl
  | cons a t ih =>
    rw [List.find?_cons, List.find?_cons, h a (by simp), ih (fun x hx => h x (by simp [hx]))]

/-! ### the first index from `r` on that satisfies `p` -/
theorem findFrom_hit (n : Nat) (p : Nat → Bool) (r : Nat) (hr : r < n) (hp : p r = true) :
    (List.range n).find? (fun j => decide (j ≥ r) && p j) = some r :=
  range_find_first n r _ hr (by simp [hp]) (fun j hj => by simp; omega)

theorem findFrom_skip (n : Nat) (p : Nat → Bool) (r : Nat) (hp : p r = false) :
    (List.range n).find? (fun j => decide (j ≥ r) && p j) = (List.range n).find? (fun j => decide (j ≥ r + 1) && p j) := by
  apply find_congr'
  intro x _
  by_cases hx : x = r
  · subst hx; simp [hp]
  · have : decide (x ≥ r) = decide (x ≥ r + 1) := by
      rw [decide_eq_decide]; omega
    rw [this]

theorem findFrom_end (n : Nat) (p : Nat → Bool) (r : Nat) (hr : n ≤ r) :
    (List.range n).find? (fun j => decide (j ≥ r) && p j) = none := by
  rw [List.find?_eq_none]
  intro x hx
  simp only [List.mem_range] at hx
  simp; omega

def fromFind (n : Nat) (p : Nat → Bool) (r : Nat) : Nat :=
  ((List.range n).find? (fun j => decide (j ≥ r) && p j)).getD n

theorem fromFind_hit (n : Nat) (p : Nat → Bool) (r : Nat) (hr : r < n) (hp : p r = true) : fromFind n p r = r := by
  unfold fromFind
  rw [findFrom_hit n p r hr hp]
  rfl

theorem fromFind_skip (n : Nat) (p : Nat → Bool) (r : Nat) (hp : p r = false) :
    fromFind n p r = fromFind n p (r + 1) := by
  unfold fromFind
  rw [findFrom_skip n p r hp]

theorem fromFind_end (n : Nat) (p : Nat → Bool) (r : Nat) (hr : n ≤ r) : fromFind n p r = n := by
  unfold fromFind
  rw [findFrom_end n p r hr]
  rfl


/-- the text of an ASCII line: bytes that are not NUL, not the newline, and below 128 -/
def AsciiW (w : List Nat) : Prop := ∀ c ∈ w, 0 < c ∧ c < 128 ∧ c ≠ 10
def AsciiB (b : Buf) : Prop := ∀ w ∈ b, AsciiW w
/-- the lines of the model for the reference buffer `b` -/
def lsOf (b : Buf) : Lines := b.map (fun w => w ++ [10])
/-- every line is ASCII text followed by its newline -/
def AsciiBuf (ls : Lines) : Prop := ∀ l ∈ ls, ∃ w, l = w ++ [10] ∧ AsciiW w
/-- the reference buffer of a list of lines: every line without its last byte -/
def refBuf (ls : Lines) : Buf := ls.map (fun l => l.dropLast)

theorem asciiBuf_eq (ls : Lines) (h : AsciiBuf ls) : ls = lsOf (refBuf ls) ∧ AsciiB (refBuf ls) := by
  induction ls with
  | nil => exact ⟨rfl, fun w hw => by simp [refBuf] at hw⟩
  | cons l t ih =>
    obtain ⟨w, rfl, hw⟩ := h l (by simp)
    obtain ⟨e, a⟩ := ih (fun l' hl' => h l' (by simp [hl']))
    constructor
    · show (w ++ [10]) :: t = ((w ++ [10]).dropLast ++ [10]) :: lsOf (refBuf t)
      rw [← e]; simp
    · intro x hx
      simp only [refBuf, List.map_cons, List.mem_cons] at hx
      rcases hx with hx | hx
      · subst hx; simpa using hw
      · exact a x hx

theorem AsciiB.tail {w : List Nat} {b : Buf} (h : AsciiB (w :: b)) : AsciiB b := fun x hx => h x (by simp [hx])
theorem AsciiB.head {w : List Nat} {b : Buf} (h : AsciiB (w :: b)) : AsciiW w := h w (by simp)

theorem asciiW_line {w : List Nat} (h : AsciiW w) : Ascii (w ++ [10]) :=
  ascii_snoc_nl (fun c hc => ⟨(h c hc).1, (h c hc).2.1⟩)

def total : Buf → Nat
  | [] => 0
  | w :: b => w.length + 1 + total b

/-- index in `cat b` of the first character of row `r` -/
def rowStart (b : Buf) (r : Nat) : Nat := total (b.take r)

/-- the buffer as one string -/
def cat : Buf → List Nat
  | [] => []
  | w :: b => w ++ 10 :: cat b

/-- the text of row `r` -/
def rowOf (b : Buf) (r : Nat) : List Nat := b.getD r []

@[simp] theorem rowStart_zero (b : Buf) : rowStart b 0 = 0 := by simp [rowStart, total]
@[simp] theorem rowStart_cons (w : List Nat) (b : Buf) (r : Nat) :
    rowStart (w :: b) (r + 1) = w.length + 1 + rowStart b r := by simp [rowStart, total]
@[simp] theorem rowOf_cons_zero (w : List Nat) (b : Buf) : rowOf (w :: b) 0 = w := by simp [rowOf]
@[simp] theorem rowOf_cons_succ (w : List Nat) (b : Buf) (r : Nat) : rowOf (w :: b) (r + 1) = rowOf b r := by
  simp [rowOf]

theorem rowStart_step (b : Buf) (r : Nat) (h : r < b.length) :
    rowStart b (r + 1) = rowStart b r + (rowOf b r).length + 1 := by
  induction b generalizing r with
  | nil => simp at h
  | cons w b ih =>
    cases r with
    | zero => simp
    | succ r => simp at h; simp [ih r h]; omega

theorem rowStart_len (b : Buf) : rowStart b b.length = total b := by simp [rowStart]

theorem rowStart_mono (b : Buf) (r r' : Nat) (h : r < r') (h' : r' ≤ b.length) :
    rowStart b r + (rowOf b r).length + 1 ≤ rowStart b r' := by
  induction r' with
  | zero => omega
  | succ k ih =>
    have hk := rowStart_step b k (by omega)
    by_cases hrk : r = k
    · subst hrk; omega
    · have := ih (by omega) (by omega); omega

theorem cat_length (b : Buf) : (cat b).length = total b := by
  induction b with
  | nil => rfl
  | cons w b ih => simp [cat, total, ih]; omega

theorem foldl_total_aux (b : Buf) (a : Nat) : (lsOf b).foldl (fun a l => a + l.length) a = a + total b := by
  induction b generalizing a with
  | nil => rfl
  | cons w b ih =>
    simp only [lsOf, List.map_cons, List.foldl_cons] at ih ⊢
    rw [ih]; simp [total]; omega

theorem foldl_total (b : Buf) : (lsOf b).foldl (fun a l => a + l.length) 0 = total b := by
  rw [foldl_total_aux]; omega

/-- `(r, o)` is a character of the buffer and `i` its index -/
def Rep (b : Buf) (r o : Int) (i : Nat) : Prop :=
  ∃ rn cn : Nat, r = rn ∧ o = cn ∧ rn < b.length ∧ cn ≤ (rowOf b rn).length ∧ i = rowStart b rn + cn

theorem rep_lt {b : Buf} {r o : Int} {i : Nat} (h : Rep b r o i) : i < total b := by
  obtain ⟨rn, cn, _, _, h1, h2, rfl⟩ := h
  have := rowStart_mono b rn b.length h1 (Nat.le_refl _)
  rw [rowStart_len] at this
  omega

theorem rep_exists (b : Buf) (i : Nat) (h : i < total b) : ∃ r o, Rep b r o i := by
  induction b generalizing i with
  | nil => simp [total] at h
  | cons w b ih =>
    by_cases hi : i ≤ w.length
    · exact ⟨0, i, 0, i, rfl, rfl, by simp, by simpa using hi, by simp⟩
    · obtain ⟨r, o, rn, cn, rfl, rfl, h1, h2, h3⟩ := ih (i - (w.length + 1)) (by simp [total] at h; omega)
      refine ⟨(rn + 1 : Nat), cn, rn + 1, cn, rfl, rfl, by simpa using h1, by simpa using h2, ?_⟩
      simp; omega

theorem rep_row_col {b : Buf} {rn cn rn' cn' : Nat} (h1 : rn < b.length) (h1' : rn' < b.length)
    (h2 : cn ≤ (rowOf b rn).length) (h2' : cn' ≤ (rowOf b rn').length)
    (h : rowStart b rn + cn = rowStart b rn' + cn') : rn = rn' ∧ cn = cn' := by
  have hr : rn = rn' := by
    rcases Nat.lt_trichotomy rn rn' with hlt | heq | hgt
    · have := rowStart_mono b rn rn' hlt (by omega); omega
    · exact heq
    · have := rowStart_mono b rn' rn hgt (by omega); omega
  subst hr
  exact ⟨rfl, by omega⟩

theorem rep_inj {b : Buf} {r o r' o' : Int} {i : Nat} (h : Rep b r o i) (h' : Rep b r' o' i) : r = r' ∧ o = o' := by
  obtain ⟨rn, cn, rfl, rfl, h1, h2, h3⟩ := h
  obtain ⟨rn', cn', rfl, rfl, h1', h2', h3'⟩ := h'
  obtain ⟨a, c⟩ := rep_row_col h1 h1' h2 h2' (by omega)
  subst a; subst c; exact ⟨rfl, rfl⟩

theorem rep_idx_inj {b : Buf} {r o : Int} {i j : Nat} (h : Rep b r o i) (h' : Rep b r o j) : i = j := by
  obtain ⟨rn, cn, e1, e2, h1, h2, h3⟩ := h
  obtain ⟨rn', cn', e1', e2', h1', h2', h3'⟩ := h'
  have : rn = rn' := by omega
  have : cn = cn' := by omega
  subst_vars; rfl

def rowE (r : Nat) (l : List Nat) : List (Nat × Nat × Nat) :=
  (List.range l.length).map (fun c => (r, c, l.getD c 0)) ++ [(r, l.length, 10)]

def flatFrom : Nat → Buf → List (Nat × Nat × Nat)
  | _, [] => []
  | k, w :: b => rowE k w ++ flatFrom (k + 1) b

theorem flat_range' (b : Buf) (k : Nat) :
    (List.range' k b.length).flatMap (fun r => rowE r (b.getD (r - k) [])) = flatFrom k b := by
  induction b generalizing k with
  | nil => rfl
  | cons w b ih =>
    rw [List.length_cons, List.range'_succ, List.flatMap_cons]
    simp only [Nat.sub_self, List.getD_cons_zero]
    show rowE k w ++ _ = rowE k w ++ flatFrom (k + 1) b
    congr 1
    rw [← ih (k + 1)]
    rw [List.flatMap_def, List.flatMap_def]
    congr 1
    apply List.map_congr_left
    intro r hr
    have : k + 1 ≤ r := by
      rw [List.mem_range'] at hr
      obtain ⟨i, _, rfl⟩ := hr; omega
    rw [show r - k = (r - (k + 1)) + 1 by omega]
    simp

theorem flat_eq (b : Buf) : flat b = flatFrom 0 b := by
  rw [← flat_range' b 0]
  unfold flat
  rw [List.range_eq_range']
  rfl

theorem rowE_length (r : Nat) (l : List Nat) : (rowE r l).length = l.length + 1 := by simp [rowE]

theorem flatFrom_length (k : Nat) (b : Buf) : (flatFrom k b).length = total b := by
  induction b generalizing k with
  | nil => rfl
  | cons w b ih => simp [flatFrom, rowE_length, total, ih]

theorem flat_length (b : Buf) : (flat b).length = total b := by rw [flat_eq, flatFrom_length]

theorem rowE_get (r : Nat) (l : List Nat) (c : Nat) (h : c ≤ l.length) :
    (rowE r l)[c]? = some (r, c, (l ++ [10]).getD c 0) := by
  unfold rowE
  by_cases hc : c < l.length
  · rw [List.getElem?_append_left (by simpa using hc)]
    simp [hc, List.getD, List.getElem?_append_left hc]
  · have : c = l.length := by omega
    subst this
    rw [List.getElem?_append_right (by simp)]
    simp [List.getD]

theorem flatFrom_get (k : Nat) (b : Buf) (r c : Nat) (hr : r < b.length) (hc : c ≤ (rowOf b r).length) :
    (flatFrom k b)[rowStart b r + c]? = some (k + r, c, (rowOf b r ++ [10]).getD c 0) := by
  induction b generalizing k r with
  | nil => simp at hr
  | cons w b ih =>
    cases r with
    | zero =>
      simp only [rowOf_cons_zero] at hc
      simp only [rowStart_zero, Nat.zero_add, flatFrom, rowOf_cons_zero, Nat.add_zero]
      rw [List.getElem?_append_left (by rw [rowE_length]; omega)]
      exact rowE_get k w c hc
    | succ r =>
      simp only [rowOf_cons_succ] at hc
      simp only [rowStart_cons, flatFrom, rowOf_cons_succ]
      rw [List.getElem?_append_right (by rw [rowE_length]; omega), rowE_length]
      rw [show w.length + 1 + rowStart b r + c - (w.length + 1) = rowStart b r + c by omega]
      rw [ih (k + 1) r (by simpa using hr) hc]
      congr 2; omega

theorem flat_get (b : Buf) (r c : Nat) (hr : r < b.length) (hc : c ≤ (rowOf b r).length) :
    (flat b)[rowStart b r + c]? = some (r, c, (rowOf b r ++ [10]).getD c 0) := by
  rw [flat_eq, flatFrom_get 0 b r c hr hc]; simp

theorem range_map_getD (l : List Nat) : (List.range l.length).map (fun c => l.getD c 0) = l := by
  apply List.ext_getElem
  · simp
  · intro i h1 h2
    simp at h1
    simp [List.getD, List.getElem?_eq_getElem h1]

theorem flatFrom_map (k : Nat) (b : Buf) : (flatFrom k b).map (fun x => x.2.2) = cat b := by
  induction b generalizing k with
  | nil => rfl
  | cons w b ih =>
    simp only [flatFrom, List.map_append, ih, cat, rowE, List.map_map, List.map_cons, List.map_nil]
    have := range_map_getD w
    simp only [Function.comp_def] at this ⊢
    rw [this]; simp

theorem flat_map (b : Buf) : (flat b).map (fun x => x.2.2) = cat b := by rw [flat_eq, flatFrom_map]

/-- the byte at index `i` (the newline beyond the buffer, as in `cpAt`) -/
def cp (b : Buf) (i : Nat) : Nat := (cat b).getD i 10

theorem cpAt_flat (b : Buf) (i : Nat) : cpAt (flat b) i = cp b i := by
  unfold cpAt cp
  rw [← flat_map, List.getD, List.getElem?_map]
  cases h : (flat b)[i]? with
  | none => rfl
  | some x => obtain ⟨r, c, v⟩ := x; rfl

theorem cp_rep {b : Buf} {rn cn : Nat} (hr : rn < b.length) (hc : cn ≤ (rowOf b rn).length) :
    cp b (rowStart b rn + cn) = (rowOf b rn ++ [10]).getD cn 0 := by
  rw [← cpAt_flat]; unfold cpAt; rw [flat_get b rn cn hr hc]

theorem colAt_rep {b : Buf} {rn cn : Nat} (hr : rn < b.length) (hc : cn ≤ (rowOf b rn).length) :
    colAt (flat b) (rowStart b rn + cn) = cn := by
  unfold colAt; rw [flat_get b rn cn hr hc]

theorem posAt_rep {b : Buf} {rn cn : Nat} (hr : rn < b.length) (hc : cn ≤ (rowOf b rn).length) :
    posAt (flat b) (rowStart b rn + cn) = ⟨rn, cn⟩ := by
  unfold posAt; rw [flat_get b rn cn hr hc]

theorem rowOf_ascii {b : Buf} (hb : AsciiB b) {r : Nat} (hr : r < b.length) : AsciiW (rowOf b r) := by
  unfold rowOf
  rw [List.getD_eq_getElem?_getD, List.getElem?_eq_getElem hr]
  exact hb _ (List.getElem_mem hr)

theorem getD_line_lt (w : List Nat) (c : Nat) (h : c < w.length) : (w ++ [10]).getD c 0 = w[c] := by
  simp [List.getD, List.getElem?_append_left h, List.getElem?_eq_getElem h]
theorem getD_line_eq (w : List Nat) : (w ++ [10]).getD w.length 0 = 10 := getD_snoc_eq w 10

theorem cp_lt {b : Buf} (hb : AsciiB b) (i : Nat) : 0 < cp b i ∧ cp b i < 128 := by
  by_cases hi : i < total b
  · obtain ⟨r, o, rn, cn, rfl, rfl, h1, h2, rfl⟩ := rep_exists b i hi
    rw [cp_rep h1 h2]
    by_cases hlt : cn < (rowOf b rn).length
    · rw [getD_line_lt _ _ hlt]
      have := rowOf_ascii hb h1 _ (List.getElem_mem hlt)
      omega
    · have : cn = (rowOf b rn).length := by omega
      rw [this, getD_line_eq]; omega
  · unfold cp
    rw [List.getD_eq_getElem?_getD, List.getElem?_eq_none (by rw [cat_length]; omega)]
    simp

theorem indexOf_rep {b : Buf} {rn cn : Nat} (hr : rn < b.length) (hc : cn ≤ (rowOf b rn).length) :
    indexOf (flat b) ⟨rn, cn⟩ = some (rowStart b rn + cn) := by
  have hlt : rowStart b rn + cn < total b := rep_lt ⟨rn, cn, rfl, rfl, hr, hc, rfl⟩
  unfold indexOf
  apply range_find_first
  · rw [flat_length]; exact hlt
  · rw [flat_get b rn cn hr hc]; simp
  · intro j hj
    obtain ⟨r, o, rn', cn', rfl, rfl, h1, h2, rfl⟩ := rep_exists b j (by omega)
    rw [flat_get b rn' cn' h1 h2]
    simp only []
    cases hh : (rn' == rn && cn' == cn) with
    | false => rfl
    | true =>
      simp only [Bool.and_eq_true, beq_iff_eq] at hh
      obtain ⟨rfl, rfl⟩ := hh
      omega

theorem indexOf_some_rep {b : Buf} {p : Pos} {i : Nat} (h : indexOf (flat b) p = some i) :
    Rep b p.row p.col i := by
  unfold indexOf at h
  have h1 := List.find?_some h
  have h2 := List.mem_of_find?_eq_some h
  simp only [List.mem_range, flat_length] at h2
  obtain ⟨r, o, rn, cn, rfl, rfl, a1, a2, rfl⟩ := rep_exists b i h2
  rw [flat_get b rn cn a1 a2] at h1
  simp only [Bool.and_eq_true, beq_iff_eq] at h1
  exact ⟨rn, cn, by rw [h1.1], by rw [h1.2], a1, a2, rfl⟩

theorem rep_iff_indexOf (b : Buf) (r o : Int) (i : Nat) :
    Rep b r o i ↔ (0 ≤ r ∧ 0 ≤ o ∧ indexOf (flat b) ⟨r.toNat, o.toNat⟩ = some i) := by
  constructor
  · rintro ⟨rn, cn, rfl, rfl, h1, h2, rfl⟩
    exact ⟨by omega, by omega, by simpa using indexOf_rep h1 h2⟩
  · rintro ⟨h1, h2, h3⟩
    have := indexOf_some_rep h3
    simp only [] at this
    rwa [show ((r.toNat : Nat) : Int) = r by omega, show ((o.toNat : Nat) : Int) = o by omega] at this

/-- flat index of a model position in the reference buffer `b` (`none`: not a character of it) -/
def idxB (b : Buf) (r o : Int) : Option Nat :=
  if r < 0 ∨ o < 0 then none else indexOf (flat b) ⟨r.toNat, o.toNat⟩

theorem idxB_iff_rep {b : Buf} {r o : Int} {i : Nat} : idxB b r o = some i ↔ Rep b r o i := by
  rw [rep_iff_indexOf]
  unfold idxB
  by_cases hc : r < 0 ∨ o < 0
  · rw [if_pos hc]
    exact ⟨fun h => (by cases h), fun h => by omega⟩
  · rw [if_neg hc]
    exact ⟨fun h => ⟨by omega, by omega, h⟩, fun h => h.2.2⟩

theorem idxB_indexOf {b : Buf} {r o : Int} {i : Nat} (hi : idxB b r o = some i) :
    indexOf (flat b) ⟨r.toNat, o.toNat⟩ = some i := ((rep_iff_indexOf b r o i).1 (idxB_iff_rep.1 hi)).2.2

theorem idxB_lt {b : Buf} {r o : Int} {i : Nat} (hi : idxB b r o = some i) : i < (flat b).length := by
  rw [flat_length]; exact rep_lt (idxB_iff_rep.1 hi)

theorem idxB_pos {b : Buf} {r o : Int} {i : Nat} (hi : idxB b r o = some i) :
    0 ≤ r ∧ 0 ≤ o ∧ posAt (flat b) i = ⟨r.toNat, o.toNat⟩ := by
  obtain ⟨rn, cn, rfl, rfl, h1, h2, rfl⟩ := idxB_iff_rep.1 hi
  exact ⟨by omega, by omega, by rw [posAt_rep h1 h2]; simp⟩

theorem idxB_inj {b : Buf} {r o r' o' : Int} {i : Nat} (h1 : idxB b r o = some i) (h2 : idxB b r' o' = some i) :
    r = r' ∧ o = o' := rep_inj (idxB_iff_rep.1 h1) (idxB_iff_rep.1 h2)

/-! ### the lines of `lsOf b`, and the classes of a byte -/
theorem lineAt_rep (b : Buf) (rn : Nat) (hr : rn < b.length) :
    lineAt (lsOf b) (rn : Int) = some (rowOf b rn ++ [10]) := by
  unfold lineAt lsOf rowOf
  rw [if_neg (by omega)]
  simp [List.getElem?_eq_getElem hr, List.getD]

theorem lineAt_none (b : Buf) (r : Int) (hr : r < 0 ∨ (b.length : Int) ≤ r) : lineAt (lsOf b) r = none := by
  unfold lineAt lsOf
  split
  · rfl
  · rw [List.getElem?_eq_none]; simp; omega

/-- `uc_kind` is the reference's class on ASCII -/
theorem ucKind_cls (c : Nat) (h : c < 128) : ucKind c = cls c := by
  have : ∀ x : Fin 128, ucKind x.val = cls x.val := by decide +kernel
  exact this ⟨c, h⟩

theorem ucIsSpace_cls (c : Nat) (h : c < 128) : ucIsSpace c = (cls c == 0) := by
  rw [← ucKind_cls c h]
  unfold ucKind
  cases ucIsSpace c with
  | true => rfl
  | false =>
    simp only [Bool.false_eq_true, if_false]
    split <;> rfl

/-- the last position of the buffer -/
theorem rep_last {b : Buf} (hb : b ≠ []) :
    Rep b ((b.length - 1 : Nat) : Int) (((rowOf b (b.length - 1)).length : Nat) : Int) (total b - 1) := by
  have hpos : 0 < b.length := List.length_pos_iff.mpr hb
  have hs := rowStart_step b (b.length - 1) (by omega)
  rw [show b.length - 1 + 1 = b.length by omega, rowStart_len] at hs
  exact ⟨b.length - 1, _, rfl, rfl, by omega, Nat.le_refl _, by omega⟩

end Neatvi.Lemmas.C07b
