import NeatviVerif.Lemmas.C07bSim
/-!
# `lbuf_pair` (`%`): the brackets, and the search for the partner on indices (`pgo`) against `pairOf.go`

That the model computes `pgo` is `Lemmas/C07cPair`.
-/
namespace Neatvi.Lemmas.C07b
open Neatvi Neatvi.Uc Neatvi.Mot Neatvi.Lemmas.C07 Neatvi.Spec.Motion

theorem contains_openOf (c : Nat) : ([40, 41, 91, 93, 123, 125] : List Nat).contains c = (openOf c).isSome := by
  by_cases h : c ∈ ([40, 41, 91, 93, 123, 125] : List Nat)
  · simp only [List.mem_cons, List.not_mem_nil, or_false] at h
    rcases h with rfl | rfl | rfl | rfl | rfl | rfl <;> decide
  · rw [List.contains_eq_mem, decide_eq_false h]
    simp only [List.mem_cons, List.not_mem_nil, or_false, not_or] at h
    obtain ⟨h1, h2, h3, h4, h5, h6⟩ := h
    simp [openOf, h1, h2, h3, h4, h5, h6]

theorem openOf_cases {c p : Nat} {o : Bool} (h : openOf c = some (p, o)) :
    (c = 40 ∧ p = 41 ∧ o = true) ∨ (c = 41 ∧ p = 40 ∧ o = false) ∨ (c = 91 ∧ p = 93 ∧ o = true) ∨
    (c = 93 ∧ p = 91 ∧ o = false) ∨ (c = 123 ∧ p = 125 ∧ o = true) ∨ (c = 125 ∧ p = 123 ∧ o = false) := by
  have hc : c ∈ ([40, 41, 91, 93, 123, 125] : List Nat) := by
    have := contains_openOf c
    rw [h, List.contains_eq_mem] at this
    exact of_decide_eq_true this
  simp only [List.mem_cons, List.not_mem_nil, or_false] at hc
  rcases hc with rfl | rfl | rfl | rfl | rfl | rfl <;> cases h <;> decide

theorem bracket_facts {c p : Nat} {o : Bool} (h : openOf c = some (p, o)) :
    ([40, 41, 91, 93, 123, 125] : List Nat).getD (List.idxOf c [40, 41, 91, 93, 123, 125] ^^^ 1) 0 = p ∧
    (if (List.idxOf c [40, 41, 91, 93, 123, 125] &&& 1 == 1) = true then (-1 : Int) else 1) = (if o then 1 else -1) ∧
    c ≠ p := by
  rcases openOf_cases h with ⟨rfl, rfl, rfl⟩ | ⟨rfl, rfl, rfl⟩ | ⟨rfl, rfl, rfl⟩ | ⟨rfl, rfl, rfl⟩ | ⟨rfl, rfl, rfl⟩ |
    ⟨rfl, rfl, rfl⟩ <;> decide

/-! ### the search for the partner, on indices -/
def mstep (pchr other ch : Nat) (dep : Int) : Int :=
  let dep := if ch == other then dep - 1 else dep
  if ch == pchr then dep + 1 else dep

def pgo (c : Nat → Nat) (N : Nat) (pchr other : Nat) (d : Int) : Nat → Nat → Int → Option Nat
  | 0, _, _ => none
  | f + 1, i, dep =>
    match nxt N d i with
    | none => none
    | some j =>
      if mstep pchr other (c j) dep == 0 then some j else pgo c N pchr other d f j (mstep pchr other (c j) dep)

def SimP (b : Buf) (x : Option (Int × Int)) (y : Option Nat) : Prop :=
  match x, y with
  | some (r, o), some j => Rep b r o j
  | none, none => True
  | _, _ => False

theorem SimP.pos {b : Buf} {x : Option (Int × Int)} {y : Option Nat} (h : SimP b x y) :
    x = (y.map (posAt (flat b))).map (fun p => ((p.row : Int), (p.col : Int))) := by
  cases x with
  | none =>
    cases y with
    | none => rfl
    | some k => exact absurd h (by simp [SimP])
  | some ro =>
    obtain ⟨r', o'⟩ := ro
    cases y with
    | none => exact absurd h (by simp [SimP])
    | some k =>
      obtain ⟨rn', cn', rfl, rfl, a1, a2, rfl⟩ := h
      simp only [Option.map_some]
      rw [posAt_rep a1 a2]

def rstep (c partner ch : Nat) (d : Nat) : Int :=
  if ch == c then (d : Int) + 1 else if ch == partner then (d : Int) - 1 else d

theorem refgo_cons (c partner : Nat) (f : List (Nat × Nat × Nat)) (k : Nat) (ks : List Nat) (d : Nat) :
    pairOf.go c partner f (k :: ks) d =
      (if rstep c partner (cpAt f k) d == 0 then some k else pairOf.go c partner f ks (rstep c partner (cpAt f k) d).toNat) := rfl

theorem refgo_nil (c partner : Nat) (f : List (Nat × Nat × Nat)) (d : Nat) : pairOf.go c partner f [] d = none := rfl

theorem mstep_rstep (pchr other ch : Nat) (dep : Int) (hne : pchr ≠ other) (hdep : 1 ≤ dep) :
    mstep pchr other ch dep = rstep pchr other ch dep.toNat ∧ 0 ≤ mstep pchr other ch dep := by
  unfold mstep rstep
  simp only []
  have hd : ((dep.toNat : Nat) : Int) = dep := by omega
  rw [hd]
  by_cases h1 : ch = pchr
  · have h2 : ¬ ch = other := fun h => hne (h1.symm.trans h)
    simp [h1, hne]; omega
  · by_cases h2 : ch = other
    · simp [h2]
      have : ¬ other = pchr := fun h => hne h.symm
      simp [this]; omega
    · simp [h1, h2]; omega

/-- `pgo` in either direction is the reference's search over the indices `ks i` that `nxt` enumerates from
    `i` on; `μ` bounds their number -/
theorem pgo_eq (b : Buf) (pchr other : Nat) (hne : pchr ≠ other) (d : Int) (ks : Nat → List Nat) (μ : Nat → Nat)
    (hnone : ∀ i, nxt (total b) d i = none → ks i = [])
    (hsome : ∀ i j, nxt (total b) d i = some j → ks i = j :: ks j ∧ μ j < μ i) :
    ∀ f i (dep : Int), μ i ≤ f → 1 ≤ dep →
      pgo (cp b) (total b) pchr other d f i dep = pairOf.go pchr other (flat b) (ks i) dep.toNat := by
  intro f
  induction f with
  | zero =>
    intro i dep h1 h2
    cases hx : nxt (total b) d i with
    | none => rw [hnone i hx]; rfl
    | some j => have := (hsome i j hx).2; omega
  | succ f ih =>
    intro i dep h1 h2
    unfold pgo
    cases hx : nxt (total b) d i with
    | none => rw [hnone i hx]; rfl
    | some j =>
      obtain ⟨hk, hμ⟩ := hsome i j hx
      simp only []
      rw [hk, refgo_cons, cpAt_flat]
      obtain ⟨e, h0⟩ := mstep_rstep pchr other (cp b j) dep hne h2
      rw [← e]
      by_cases hz : (mstep pchr other (cp b j) dep == 0) = true
      · rw [if_pos hz, if_pos hz]
      · rw [if_neg hz, if_neg hz]
        have hz' : mstep pchr other (cp b j) dep ≠ 0 := by simpa using hz
        exact ih j _ (by omega) (by omega)

theorem pgo_fwd_eq (b : Buf) (pchr other : Nat) (hne : pchr ≠ other) :
    ∀ f i (dep : Int), total b ≤ i + f → 1 ≤ dep →
      pgo (cp b) (total b) pchr other 1 f i dep =
        pairOf.go pchr other (flat b) (List.range' (i + 1) (total b - (i + 1))) dep.toNat := by
  intro f i dep h1 h2
  refine pgo_eq b pchr other hne 1 (fun i => List.range' (i + 1) (total b - (i + 1))) (fun i => total b - i)
    (fun i hx => ?_) (fun i j hx => ?_) f i dep (by omega) h2
  · by_cases hi : i + 1 < total b
    · rw [nxt_fwd_some hi] at hx; cases hx
    · show List.range' (i + 1) (total b - (i + 1)) = []
      rw [show total b - (i + 1) = 0 by omega]; rfl
  · by_cases hi : i + 1 < total b
    · rw [nxt_fwd_some hi] at hx
      cases hx
      refine ⟨?_, by omega⟩
      show List.range' (i + 1) (total b - (i + 1)) = _
      rw [show total b - (i + 1) = (total b - (i + 1 + 1)) + 1 by omega, List.range'_succ]
    · rw [nxt_fwd_none hi] at hx; cases hx

theorem pgo_bwd_eq (b : Buf) (pchr other : Nat) (hne : pchr ≠ other) :
    ∀ f i (dep : Int), i ≤ f → 1 ≤ dep →
      pgo (cp b) (total b) pchr other (-1) f i dep =
        pairOf.go pchr other (flat b) (List.range i).reverse dep.toNat := by
  intro f i dep h1 h2
  refine pgo_eq b pchr other hne (-1) (fun i => (List.range i).reverse) id (fun i hx => ?_) (fun i j hx => ?_)
    f i dep h1 h2
  · cases i with
    | zero => rfl
    | succ k => rw [nxt_bwd_succ] at hx; cases hx
  · cases i with
    | zero => rw [nxt_bwd_zero] at hx; cases hx
    | succ k =>
      rw [nxt_bwd_succ] at hx
      cases hx
      exact ⟨by rw [List.range_succ, List.reverse_append]; rfl, Nat.lt_succ_self j⟩

theorem filter_gt_range (n i : Nat) :
    (List.range n).filter (fun x => decide (x > i)) = List.range' (i + 1) (n - (i + 1)) := by
  induction n with
  | zero => simp
  | succ n ih =>
    rw [List.range_succ, List.filter_append, ih]
    by_cases h : n > i
    · rw [show n + 1 - (i + 1) = (n - (i + 1)) + 1 by omega, List.range'_1_concat]
      simp [h]; omega
    · rw [show n + 1 - (i + 1) = 0 by omega, show n - (i + 1) = 0 by omega]
      simp [h]

theorem getElem?_rowOf (b : Buf) (rn : Nat) (hr : rn < b.length) : b[rn]? = some (rowOf b rn) := by
  unfold rowOf
  rw [List.getD_eq_getElem?_getD, List.getElem?_eq_getElem hr]
  rfl

end Neatvi.Lemmas.C07b
