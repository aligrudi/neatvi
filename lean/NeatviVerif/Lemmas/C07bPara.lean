import NeatviVerif.Lemmas.C07bFlat
/-!
# C07b: `lbuf_paragraphbeg` against `paraFwd` / `paraBack`

Only the shape of the lines matters here (text followed by a newline), not that the text is ASCII.
-/
namespace Neatvi.Lemmas.C07b
open Neatvi Neatvi.Uc Neatvi.Mot Neatvi.Lemmas.C07 Neatvi.Spec.Motion

/-- the test of `lbuf_paragraphbeg` on a line of the buffer -/
theorem isBlank_rep (b : Buf) (rn : Nat) (hr : rn < b.length) :
    (lineAt (lsOf b) (rn : Int) == some [10]) = isEmptyLine b rn := by
  rw [lineAt_rep b rn hr]
  unfold isEmptyLine rowOf
  rw [List.getD_eq_getElem?_getD, List.getElem?_eq_getElem hr]
  simp only [Option.getD_some]
  cases b[rn] with
  | nil => rfl
  | cons a t =>
    rw [Bool.eq_iff_iff]
    simp

theorem skip_fwd (b : Buf) (blank : Bool) :
    ∀ f (r : Nat), r ≤ b.length → b.length < r + f →
      paragraphbeg.skip 1 ((lsOf b).length : Int) (fun r => lineAt (lsOf b) r == some [10]) f (r : Int) blank =
        ((fromFind b.length (fun j => isEmptyLine b j != blank) r : Nat) : Int) := by
  have hlen : (lsOf b).length = b.length := by simp [lsOf]
  intro f
  induction f with
  | zero => intro r h1 h2; omega
  | succ f ih =>
    intro r h1 h2
    unfold paragraphbeg.skip
    by_cases hr : r < b.length
    · rw [isBlank_rep b r hr]
      by_cases hb : (isEmptyLine b r == blank) = true
      · rw [if_pos (by simp [hlen, hr, hb])]
        rw [show ((r : Int) + 1) = ((r + 1 : Nat) : Int) by omega, ih (r + 1) (by omega) (by omega)]
        rw [fromFind_skip _ _ r (by simp at hb; simp [hb])]
      · rw [if_neg (by simp [hb])]
        rw [fromFind_hit _ _ r hr (by simp at hb; simp [hb])]
    · rw [if_neg (by simp [hlen]; omega)]
      rw [fromFind_end _ _ r (by omega)]
      omega

theorem paragraphbeg_fwd (b : Buf) (r : Nat) (hr : r ≤ b.length) :
    paragraphbeg (lsOf b) 1 (r : Int) = (((paraFwd b r : Nat) : Int), 0) := by
  have hlen : (lsOf b).length = b.length := by simp [lsOf]
  unfold paragraphbeg
  simp only []
  rw [skip_fwd b true _ r hr (by omega)]
  have h1 : fromFind b.length (fun j => isEmptyLine b j != true) r ≤ b.length := by
    unfold fromFind
    cases h : (List.range b.length).find? (fun j => decide (j ≥ r) && (isEmptyLine b j != true)) with
    | none => exact Nat.le_refl _
    | some x =>
      have := List.mem_of_find?_eq_some h
      simp only [List.mem_range] at this
      simp; omega
  rw [skip_fwd b false _ _ h1 (by omega)]
  unfold paraFwd fromFind
  simp only [Bool.bne_true, Bool.bne_false]
  generalize ((List.range b.length).find? (fun j => decide (j ≥ r) && !isEmptyLine b j)).getD b.length = r1
  rw [hlen]
  generalize ((List.range b.length).find? (fun j => decide (j ≥ r1) && isEmptyLine b j)).getD b.length = r2
  congr 1
  omega

theorem skip_neg (dir n : Int) (p : Int → Bool) (f : Nat) (r : Int) (blank : Bool) (h : r < 0) :
    paragraphbeg.skip dir n p f r blank = r := by
  cases f with
  | zero => rfl
  | succ f =>
    unfold paragraphbeg.skip
    rw [if_neg (by simp; omega)]

theorem skip_bwd (b : Buf) (blank : Bool) :
    ∀ f (r : Nat), r < b.length → r < f →
      paragraphbeg.skip (-1) ((lsOf b).length : Int) (fun r => lineAt (lsOf b) r == some [10]) f (r : Int) blank =
        (match prevWhere (fun j => isEmptyLine b j != blank) (r + 1) with
          | some j => (j : Int)
          | none => -1) := by
  have hlen : (lsOf b).length = b.length := by simp [lsOf]
  intro f
  induction f with
  | zero => intro r h1 h2; omega
  | succ f ih =>
    intro r h1 h2
    unfold paragraphbeg.skip prevWhere
    rw [List.range_succ, List.reverse_append]
    simp only [List.reverse_cons, List.reverse_nil, List.nil_append, List.cons_append, List.find?_cons]
    rw [isBlank_rep b r h1]
    by_cases hb : (isEmptyLine b r == blank) = true
    · rw [if_pos (by simp [hlen, h1, hb])]
      have hne : (isEmptyLine b r != blank) = false := by simp at hb; simp [hb]
      rw [hne]
      simp only []
      cases r with
      | zero =>
        rw [skip_neg _ _ _ _ _ _ (by omega)]
        simp
      | succ k =>
        rw [show (((k + 1 : Nat) : Int) + -1) = (k : Int) by omega, ih k (by omega) (by omega)]
        rfl
    · rw [if_neg (by simp [hb])]
      have hne : (isEmptyLine b r != blank) = true := by simp at hb; simp [hb]
      rw [hne]

theorem paragraphbeg_bwd (b : Buf) (r : Nat) (hr : r < b.length) :
    paragraphbeg (lsOf b) (-1) (r : Int) = (((paraBack b r : Nat) : Int), 0) := by
  have hlen : (lsOf b).length = b.length := by simp [lsOf]
  unfold paragraphbeg
  simp only []
  rw [skip_bwd b true _ r hr (by omega)]
  unfold paraBack prevWhere
  simp only [Bool.bne_true]
  cases h1 : (List.range (r + 1)).reverse.find? (fun j => !isEmptyLine b j) with
  | none =>
    simp only []
    rw [skip_neg _ _ _ _ _ _ (by omega)]
    congr 1
    omega
  | some r1 =>
    simp only []
    have hr1 : r1 ≤ r := by
      have := List.mem_of_find?_eq_some h1
      simp only [List.mem_reverse, List.mem_range] at this
      omega
    rw [skip_bwd b false _ r1 (by omega) (by omega)]
    unfold prevWhere
    simp only [Bool.bne_false]
    cases h2 : (List.range (r1 + 1)).reverse.find? (fun j => isEmptyLine b j) with
    | none =>
      simp only []
      congr 1
      omega
    | some j =>
      simp only []
      have hj : j ≤ r1 := by
        have := List.mem_of_find?_eq_some h2
        simp only [List.mem_reverse, List.mem_range] at this
        omega
      congr 1
      omega

end Neatvi.Lemmas.C07b
