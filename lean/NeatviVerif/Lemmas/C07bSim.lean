import NeatviVerif.Lemmas.C07bFlat
/-!
# The word scanners of `mot.c` as scanners over indices of the flat sequence

A position `(r, o)` of the model is an index `i` of the flat sequence (`Rep b r o i`), and `lbuf_next` is `i ± 1`
(`nxt`).  `wl`, `wb`, `we` below are `lbuf_wordlast`, `lbuf_wordbeg`, `lbuf_wordend` transcribed to indices, over a text
`c : Nat → Nat` of length `N`; `Sim` relates a result of the model to a result on indices.  That the model computes
exactly them is `Lemmas/C07cSim`; what they compute is `Lemmas/C07bWord`, `C07bWordEnd`.
-/
namespace Neatvi.Lemmas.C07b
open Neatvi Neatvi.Uc Neatvi.Mot Neatvi.Lemmas.C07 Neatvi.Spec.Motion

/-- `lbuf_next` on indices -/
def nxt (N : Nat) (d : Int) (i : Nat) : Option Nat :=
  if d > 0 then (if i + 1 < N then some (i + 1) else none) else (if 0 < i then some (i - 1) else none)

theorem nxt_fwd_some {N i : Nat} (h : i + 1 < N) : nxt N 1 i = some (i + 1) := by
  unfold nxt; rw [if_pos (by omega), if_pos h]

theorem nxt_fwd_none {N i : Nat} (h : ¬ i + 1 < N) : nxt N 1 i = none := by
  unfold nxt; rw [if_pos (by omega), if_neg h]

theorem nxt_bwd_zero {N : Nat} : nxt N (-1) 0 = none := by
  unfold nxt; rw [if_neg (by omega), if_neg (by omega)]

theorem nxt_bwd_succ {N k : Nat} : nxt N (-1) (k + 1) = some k := by
  unfold nxt; rw [if_neg (by omega), if_pos (by omega)]; rfl

/-! ### `lbuf_wordlast` -/
def wlGo (c : Nat → Nat) (N : Nat) (kind : Nat) (d : Int) : Nat → Nat → Bool × Nat
  | 0, i => (true, i)
  | f + 1, i =>
    if (ucKind (c i) &&& kind) != 0 then
      match nxt N d i with
      | none => (true, i)
      | some j => wlGo c N kind d f j
    else (false, i)

def wl (c : Nat → Nat) (N : Nat) (kind : Nat) (d : Int) (fuel i : Nat) : Bool × Nat :=
  if kind == 0 || (ucKind (c i) &&& kind) == 0 then (false, i) else
  match wlGo c N kind d fuel i with
  | (true, j) => (true, j)
  | (false, j) =>
    if (ucKind (c j) &&& kind) == 0 then
      match nxt N (-d) j with
      | some j' => (false, j')
      | none => (false, j)
    else (false, j)

/-- a result of the model, and the result on indices -/
def Sim (b : Buf) (res : Bool × Int × Int) (ires : Bool × Nat) : Prop :=
  res.1 = ires.1 ∧ Rep b res.2.1 res.2.2 ires.2

/-! ### `lbuf_wordbeg` -/
def wbGo (c : Nat → Nat) (N : Nat) (d : Int) : Nat → Nat → Nat → Bool × Nat
  | 0, i, _ => (true, i)
  | f + 1, i, nl =>
    if ucIsSpace (c i) then
      let nl := if c i == 10 then nl + 1 else 0
      if nl == 2 then (false, i) else
      match nxt N d i with
      | none => (true, i)
      | some j => wbGo c N d f j nl
    else (false, i)

def wb (c : Nat → Nat) (N : Nat) (big : Bool) (d : Int) (i : Nat) : Bool × Nat :=
  let p := (wl c N (if big then 3 else ucKind (c i)) d (N + 2) i).2
  let nl0 : Nat := if c p == 10 then 1 else 0
  match nxt N d p with
  | none => (true, p)
  | some j => wbGo c N d (N + 2) j nl0

/-! ### `lbuf_wordend` -/
def weGo (c : Nat → Nat) (N : Nat) (d : Int) : Nat → Nat → Nat → Option (Bool × Nat)
  | 0, i, _ => some (true, i)
  | f + 1, i, nl =>
    if ucIsSpace (c i) then
      match nxt N d i with
      | none => some (true, i)
      | some j =>
        let nl := if c j == 10 then nl + 1 else 0
        if nl == 2 then
          (if d < 0 then
            (match nxt N (-d) j with
             | some j2 => some (false, j2)
             | none => some (false, j))
           else some (false, j))
        else weGo c N d f j nl
    else none

def wePos (c : Nat → Nat) (N : Nat) (d : Int) : Nat → Nat → Nat → Nat
  | 0, i, _ => i
  | f + 1, i, nl =>
    if ucIsSpace (c i) then
      match nxt N d i with
      | none => i
      | some j =>
        let nl := if c j == 10 then nl + 1 else 0
        if nl == 2 then j else wePos c N d f j nl
    else i

def weStep1 (c : Nat → Nat) (N : Nat) (d : Int) (i : Nat) : Option (Nat × Nat) :=
  if !ucIsSpace (c i) then
    match nxt N d i with
    | none => none
    | some j => some (j, if d < 0 && c j == 10 then 1 else 0)
  else some (i, 0)

def we (c : Nat → Nat) (N : Nat) (big : Bool) (d : Int) (i : Nat) : Bool × Nat :=
  match weStep1 c N d i with
  | none => (true, i)
  | some (p, nl) =>
    let nl := nl + (if d > 0 && c p == 10 then 1 else 0)
    match weGo c N d (N + 2) p nl with
    | some res => res
    | none =>
      let q := wePos c N d (N + 2) p nl
      wl c N (if big then 3 else ucKind (c q)) d (N + 2) q

def SimO (b : Buf) (res : Option (Bool × Int × Int)) (ires : Option (Bool × Nat)) : Prop :=
  match res, ires with
  | some x, some y => Sim b x y
  | none, none => True
  | _, _ => False

end Neatvi.Lemmas.C07b
