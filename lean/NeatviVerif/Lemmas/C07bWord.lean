import NeatviVerif.Lemmas.C07bSim
/-!
# C07b: what the index scanners `wl`, `wb` compute

Pure reasoning over a text `c : Nat → Nat` of `N` bytes below 128 whose last byte is the newline (`Txt c N`).
`ws` / `wen` are the reference's `wordStart` / `wordEnd` written over `c`.  For a UTF-8 buffer `c` is not the
bytes but the projected text `cpp b` of `Lemmas/C07cBuf` (a code point beyond 127 is replaced by a letter: the
scanners test only the first byte, and that has the letter's class).
-/
namespace Neatvi.Lemmas.C07b
open Neatvi Neatvi.Uc Neatvi.Mot Neatvi.Lemmas.C07 Neatvi.Spec.Motion

structure Txt (c : Nat → Nat) (N : Nat) : Prop where
  pos : 0 < N
  lt : ∀ i, c i < 128
  last : c (N - 1) = 10

/-- the class function of the small / big word motions -/
def kk (big : Bool) : Nat → Nat := if big then clsBig else cls

theorem kk_eq (big : Bool) : kk big = (if big then clsBig else cls) := rfl

theorem kk_space (big : Bool) (x : Nat) (h : x < 128) : ucIsSpace x = (kk big x == 0) := by
  rw [ucIsSpace_cls x h]
  cases big with
  | false => rfl
  | true =>
    show (cls x == 0) = ((if cls x == 0 then 0 else 1) == 0)
    cases cls x == 0 <;> rfl

theorem Txt.kk_blank {c : Nat → Nat} {N : Nat} (ht : Txt c N) (big : Bool) {m : Nat}
    (h : ucIsSpace (c m) = true) : kk big (c m) = 0 := by
  rw [kk_space big (c m) (ht.lt m)] at h
  exact beq_iff_eq.mp h

theorem Txt.kk_nonblank {c : Nat → Nat} {N : Nat} (ht : Txt c N) (big : Bool) {m : Nat}
    (h : ucIsSpace (c m) = false) : kk big (c m) ≠ 0 := by
  intro h0
  rw [kk_space big (c m) (ht.lt m), h0] at h
  cases h

theorem kk_nl (big : Bool) : kk big 10 = 0 := by cases big <;> decide

theorem kk_mask (big : Bool) (x y : Nat) (hx : x < 128) (hy : y < 128) (hk : kk big y ≠ 0) :
    ((ucKind x &&& (if big then 3 else ucKind y)) != 0) = (kk big x == kk big y) := by
  have h2 : ∀ z : Nat, cls z = 0 ∨ cls z = 1 ∨ cls z = 2 := by
    intro z; unfold cls; split
    · exact Or.inl rfl
    · split
      · exact Or.inr (Or.inl rfl)
      · exact Or.inr (Or.inr rfl)
  rw [ucKind_cls x hx, ucKind_cls y hy]
  cases big with
  | true =>
    simp only [kk, if_true, clsBig] at hk ⊢
    rcases h2 x with a | a | a <;> rcases h2 y with e | e | e <;> simp [a, e] at hk ⊢
  | false =>
    simp only [kk, Bool.false_eq_true, if_false] at hk ⊢
    rcases h2 x with a | a | a <;> rcases h2 y with e | e | e <;> simp [a, e] at hk ⊢

theorem kk_blank_kind (big : Bool) (y : Nat) (hy : y < 128) (hk : kk big y = 0) :
    ((if big then 3 else ucKind y) == 0 || (ucKind y &&& (if big then 3 else ucKind y)) == 0) = true := by
  have h0 : cls y = 0 := by
    cases big with
    | false => exact hk
    | true =>
      have h1 : (if (cls y == 0) = true then 0 else 1) = 0 := hk
      by_cases h : (cls y == 0) = true
      · exact beq_iff_eq.mp h
      · rw [if_neg h] at h1; cases h1
  rw [ucKind_cls y hy, h0]
  cases big <;> rfl

theorem kk_mask_self (big : Bool) (y : Nat) (hy : y < 128) (hk : kk big y ≠ 0) :
    ((ucKind y &&& (if big then 3 else ucKind y)) != 0) = true := by
  rw [kk_mask big y y hy hy hk]; simp

theorem kk_nonblank_kind (big : Bool) (y : Nat) (hy : y < 128) (hk : kk big y ≠ 0) :
    ((if big then 3 else ucKind y) == 0 || (ucKind y &&& (if big then 3 else ucKind y)) == 0) = false := by
  have hmi := kk_mask_self big y hy hk
  have h3 : ((ucKind y &&& (if big then 3 else ucKind y)) == 0) = false := by
    simp only [bne_iff_ne, ne_eq] at hmi; simpa using hmi
  rw [h3, Bool.or_false]
  cases hz : ((if big then 3 else ucKind y) == 0) with
  | false => rfl
  | true => rw [beq_iff_eq] at hz; rw [hz] at hmi; simp at hmi

/-- the reference's `wordStart` and `wordEnd` over `c` -/
def emp (c : Nat → Nat) (i : Nat) : Bool := c i == 10 && (i == 0 || c (i - 1) == 10)
def ws (k : Nat → Nat) (c : Nat → Nat) (i : Nat) : Bool :=
  (k (c i) != 0 && (i == 0 || k (c (i - 1)) != k (c i))) || emp c i
def wen (k : Nat → Nat) (c : Nat → Nat) (N : Nat) (i : Nat) : Bool :=
  (k (c i) != 0 && (decide (i + 1 ≥ N) || k (c (i + 1)) != k (c i))) || emp c i

theorem emp_succ (c : Nat → Nat) (i : Nat) : emp c (i + 1) = (c (i + 1) == 10 && c i == 10) := by
  unfold emp; simp

theorem emp_pos (c : Nat → Nat) {i : Nat} (h : 0 < i) : emp c i = (c i == 10 && c (i - 1) == 10) := by
  cases i with
  | zero => omega
  | succ k => exact emp_succ c k

/-- the newline counter of the word scanners: it holds 1 after a newline, and reaches 2 on the next
    character exactly when that is a newline too -/
theorem nl_count (a b : Bool) (nl : Nat) (hnl : nl = if a = true then 1 else 0) :
    ((if b = true then nl + 1 else 0) == 2) = (b && a) ∧
    ((b && a) = false → (if b = true then nl + 1 else 0) = (if b = true then 1 else 0)) := by
  subst hnl
  cases a <;> cases b <;> decide

theorem from_succ {U P : Nat → Prop} {i : Nat} (hi : P i) (h : ∀ m, i + 1 ≤ m → U m → P m) :
    ∀ m, i ≤ m → U m → P m := by
  intro m m1 m2
  by_cases hmi : m = i
  · subst hmi; exact hi
  · exact h m (by omega) m2

theorem upto_succ {L P : Nat → Prop} {k : Nat} (hk : P (k + 1)) (h : ∀ m, L m → m ≤ k → P m) :
    ∀ m, L m → m ≤ k + 1 → P m := by
  intro m m1 m2
  by_cases hmk : m = k + 1
  · subst hmk; exact hk
  · exact h m m1 (by omega)

/-! ### `nextWhere` / `prevWhere` -/
theorem nextWhere_congr (n : Nat) (p q : Nat → Bool) (i : Nat) (h : ∀ j, j < n → p j = q j) :
    nextWhere n p i = nextWhere n q i := by
  unfold nextWhere
  apply find_congr'
  intro j hj
  rw [h j (by simpa using hj)]

theorem prevWhere_congr (p q : Nat → Bool) (i : Nat) (h : ∀ j, j < i → p j = q j) :
    prevWhere p i = prevWhere q i := by
  unfold prevWhere
  apply find_congr'
  intro j hj
  exact h j (by simpa using hj)

theorem nextWhere_some (n : Nat) (p : Nat → Bool) (i j : Nat) (hj : j < n) (hij : i < j) (hp : p j = true)
    (hlt : ∀ m, i < m → m < j → p m = false) : nextWhere n p i = some j := by
  unfold nextWhere
  apply range_find_first _ _ _ hj
  · simp [hij, hp]
  · intro m hm
    by_cases him : i < m
    · simp [hlt m him hm]
    · simp [him]

theorem nextWhere_none (n : Nat) (p : Nat → Bool) (i : Nat) (hlt : ∀ m, i < m → m < n → p m = false) :
    nextWhere n p i = none := by
  unfold nextWhere
  rw [List.find?_eq_none]
  intro m hm
  simp only [List.mem_range] at hm
  by_cases him : i < m
  · simp [hlt m him hm]
  · simp [him]

theorem prevWhere_some (p : Nat → Bool) (i j : Nat) (hj : j < i) (hp : p j = true)
    (hlt : ∀ m, j < m → m < i → p m = false) : prevWhere p i = some j := by
  unfold prevWhere
  induction i with
  | zero => omega
  | succ n ih =>
    rw [List.range_succ, List.reverse_append]
    simp only [List.reverse_cons, List.reverse_nil, List.nil_append, List.cons_append, List.find?_cons]
    by_cases hjn : j = n
    · subst hjn; rw [hp]
    · rw [hlt n (by omega) (by omega)]
      exact ih (by omega) (fun m h1 h2 => hlt m h1 (by omega))

theorem prevWhere_none (p : Nat → Bool) (i : Nat) (hlt : ∀ m, m < i → p m = false) : prevWhere p i = none := by
  unfold prevWhere
  rw [List.find?_eq_none]
  intro m hm
  simp only [List.mem_reverse, List.mem_range] at hm
  simp [hlt m hm]

/-- the shape in which the backward scanners deliver their target -/
theorem prevWhere_getD (p : Nat → Bool) (i j : Nat) (hji : j ≤ i) (hlt : ∀ m, j < m → m < i → p m = false)
    (hj : j ≠ 0 → j < i ∧ p j = true) : (prevWhere p i).getD 0 = j := by
  by_cases h0 : j < i ∧ p j = true
  · rw [prevWhere_some p i j h0.1 h0.2 hlt]; rfl
  · have hj0 : j = 0 := by
      cases j with
      | zero => rfl
      | succ k => exact absurd (hj (by omega)) h0
    subst hj0
    rw [prevWhere_none p i]
    · rfl
    · intro m hm
      cases m with
      | zero =>
        cases hp : p 0 with
        | false => rfl
        | true => exact absurd ⟨hm, hp⟩ h0
      | succ k => exact hlt _ (by omega) hm

/-! ### `wl` forward: to the last character of the run -/
theorem wlGo_fwd (c : Nat → Nat) (N kind : Nat) (hlast : ((ucKind (c (N - 1)) &&& kind) != 0) = false) :
    ∀ f i, i < N → N ≤ i + f → ∃ j, wlGo c N kind 1 f i = (false, j) ∧ i ≤ j ∧ j < N ∧
      (∀ m, i ≤ m → m < j → ((ucKind (c m) &&& kind) != 0) = true) ∧ ((ucKind (c j) &&& kind) != 0) = false := by
  intro f
  induction f with
  | zero => intro i h1 h2; omega
  | succ f ih =>
    intro i h1 h2
    unfold wlGo
    by_cases hm : ((ucKind (c i) &&& kind) != 0) = true
    · rw [if_pos hm]
      have hi : i + 1 < N := Nat.lt_of_not_le fun h => by
        rw [show i = N - 1 by omega, hlast] at hm; cases hm
      rw [nxt_fwd_some hi]
      obtain ⟨j, e, a1, a2, a3, a4⟩ := ih (i + 1) hi (by omega)
      exact ⟨j, e, by omega, a2, from_succ hm a3, a4⟩
    · rw [if_neg hm]
      exact ⟨i, rfl, Nat.le_refl _, h1, fun m m1 m2 => by omega, by simpa using hm⟩

/-- forward `wl` from a non-blank `i`, with the kind of the motion: the end `e` of the run of its class -/
theorem wl_fwd {c : Nat → Nat} {N : Nat} (ht : Txt c N) (big : Bool) (i : Nat) (hi : i < N) (hk : kk big (c i) ≠ 0) :
    ∃ e, wl c N (if big then 3 else ucKind (c i)) 1 (N + 2) i = (false, e) ∧ i ≤ e ∧ e + 1 < N ∧
      (∀ m, i ≤ m → m ≤ e → kk big (c m) = kk big (c i)) ∧ kk big (c (e + 1)) ≠ kk big (c i) := by
  have hmask := fun x => kk_mask big (c x) (c i) (ht.lt x) (ht.lt i) hk
  have hlast : ((ucKind (c (N - 1)) &&& (if big then 3 else ucKind (c i))) != 0) = false := by
    rw [hmask, ht.last, kk_nl]
    cases h : (0 == kk big (c i)) with
    | false => rfl
    | true => rw [beq_iff_eq] at h; exact absurd h.symm hk
  obtain ⟨j, e, a1, a2, a3, a4⟩ := wlGo_fwd c N _ hlast (N + 2) i hi (by omega)
  have hmi := kk_mask_self big (c i) (ht.lt i) hk
  have hij : i < j := Nat.lt_of_not_le fun h => by
    rw [show j = i by omega, hmi] at a4; cases a4
  unfold wl
  rw [if_neg (by rw [kk_nonblank_kind big (c i) (ht.lt i) hk]; simp), e]
  simp only []
  have h4 : ((ucKind (c j) &&& (if big then 3 else ucKind (c i))) == 0) = true := by
    simp only [bne_eq_false_iff_eq] at a4; simpa using a4
  rw [if_pos h4]
  have hx : nxt N (-1) j = some (j - 1) := by unfold nxt; rw [if_neg (by omega), if_pos (by omega)]
  rw [hx]
  refine ⟨j - 1, rfl, by omega, by omega, fun m m1 m2 => ?_, ?_⟩
  · have := a3 m m1 (by omega)
    rw [hmask] at this
    exact beq_iff_eq.mp this
  · rw [show j - 1 + 1 = j by omega]
    rw [hmask] at a4
    intro hh; rw [hh] at a4; simp at a4

theorem wl_blank {c : Nat → Nat} {N : Nat} (ht : Txt c N) (big : Bool) (d : Int) (i : Nat) (hk : kk big (c i) = 0) :
    wl c N (if big then 3 else ucKind (c i)) d (N + 2) i = (false, i) := by
  unfold wl
  rw [if_pos (kk_blank_kind big (c i) (ht.lt i) hk)]

/-! ### `wb` forward -/
theorem wbGo_fwd (c : Nat → Nat) (N : Nat) :
    ∀ f i nl, 0 < i → i < N → N ≤ i + f → nl = (if c (i - 1) == 10 then 1 else 0) →
      (∃ j, wbGo c N 1 f i nl = (false, j) ∧ i ≤ j ∧ j < N ∧
        (∀ m, i ≤ m → m < j → ucIsSpace (c m) = true ∧ emp c m = false) ∧
        (ucIsSpace (c j) = false ∨ emp c j = true)) ∨
      (wbGo c N 1 f i nl = (true, N - 1) ∧ ∀ m, i ≤ m → m < N → ucIsSpace (c m) = true ∧ emp c m = false) := by
  intro f
  induction f with
  | zero => intro i nl h0 h1 h2; omega
  | succ f ih =>
    intro i nl h0 h1 h2 hnl
    unfold wbGo
    by_cases hm : ucIsSpace (c i) = true
    · rw [if_pos hm]
      simp only []
      obtain ⟨hcnt, hnext⟩ := nl_count (c (i - 1) == 10) (c i == 10) nl hnl
      rw [← emp_pos c h0] at hcnt hnext
      by_cases h2' : ((if (c i == 10) = true then nl + 1 else 0) == 2) = true
      · rw [if_pos h2']
        left
        exact ⟨i, rfl, Nat.le_refl _, h1, fun m m1 m2 => by omega, Or.inr (by rw [← hcnt]; exact h2')⟩
      · rw [if_neg h2']
        have hemp : emp c i = false := by rw [← hcnt]; simpa using h2'
        by_cases hi : i + 1 < N
        · rw [nxt_fwd_some hi]
          simp only []
          have hnl' : (if (c i == 10) = true then nl + 1 else 0) = (if (c (i + 1 - 1) == 10) = true then 1 else 0) := by
            rw [show i + 1 - 1 = i by omega]
            exact hnext hemp
          rcases ih (i + 1) _ (by omega) hi (by omega) hnl' with ⟨j, e, a1, a2, a3, a4⟩ | ⟨e, a⟩
          · exact Or.inl ⟨j, e, by omega, a2, from_succ ⟨hm, hemp⟩ a3, a4⟩
          · exact Or.inr ⟨e, from_succ ⟨hm, hemp⟩ a⟩
        · rw [nxt_fwd_none hi]
          right
          have : i = N - 1 := by omega
          refine ⟨by rw [this], fun m m1 m2 => ?_⟩
          have : m = i := by omega
          subst this; exact ⟨hm, hemp⟩
    · rw [if_neg hm]
      left
      exact ⟨i, rfl, Nat.le_refl _, h1, fun m m1 m2 => by omega, Or.inl (by simpa using hm)⟩

theorem ws_of_nonblank {k : Nat → Nat} {c : Nat → Nat} {j : Nat} (h1 : k (c j) ≠ 0) (h2 : j = 0 ∨ k (c (j - 1)) ≠ k (c j)) :
    ws k c j = true := by
  unfold ws
  have a : (k (c j) != 0) = true := by simpa using h1
  have e : (j == 0 || k (c (j - 1)) != k (c j)) = true := by
    rcases h2 with h | h
    · simp [h]
    · simp [h]
  rw [a, e]; rfl

theorem ws_false_blank {k : Nat → Nat} {c : Nat → Nat} {m : Nat} (h1 : k (c m) = 0) (h2 : emp c m = false) :
    ws k c m = false := by
  unfold ws; rw [h2]; simp [h1]

theorem nl_false_nonblank {big : Bool} {x : Nat} (h1 : kk big x ≠ 0) : (x == 10) = false := by
  cases h : (x == 10) with
  | false => rfl
  | true => rw [beq_iff_eq] at h; rw [h, kk_nl] at h1; exact absurd rfl h1

theorem emp_false_nonblank {big : Bool} {c : Nat → Nat} {m : Nat} (h1 : kk big (c m) ≠ 0) : emp c m = false := by
  unfold emp
  rw [nl_false_nonblank h1]; rfl

theorem ws_false_inner {big : Bool} {c : Nat → Nat} {m : Nat} (hm : 0 < m) (h1 : kk big (c m) ≠ 0)
    (h2 : kk big (c (m - 1)) = kk big (c m)) : ws (kk big) c m = false := by
  unfold ws
  rw [emp_false_nonblank h1, h2]
  have : (m == 0) = false := by simp; omega
  simp [this]

/-- **one `w` step on indices**: the least word start after `i`, else failure at the last index -/
theorem wb_fwd {c : Nat → Nat} {N : Nat} (ht : Txt c N) (big : Bool) (i : Nat) (hi : i < N) :
    (∃ j, wb c N big 1 i = (false, j) ∧ nextWhere N (ws (kk big) c) i = some j) ∨
    (wb c N big 1 i = (true, N - 1) ∧ nextWhere N (ws (kk big) c) i = none) := by
  -- the position `p` after `wl`, with: indices in (i, p] are inner characters of a word; the class at
  -- `p + 1` differs from the class at `p` or `p` is blank
  have hp : ∃ p, (wl c N (if big then 3 else ucKind (c i)) 1 (N + 2) i).2 = p ∧ i ≤ p ∧ p < N ∧
      (∀ m, i < m → m ≤ p → ws (kk big) c m = false) ∧
      (kk big (c p) = 0 ∨ (p + 1 < N ∧ kk big (c (p + 1)) ≠ kk big (c p))) := by
    by_cases hk : kk big (c i) = 0
    · rw [wl_blank ht big 1 i hk]
      exact ⟨i, rfl, Nat.le_refl _, hi, fun m m1 m2 => by omega, Or.inl hk⟩
    · obtain ⟨e, he, a1, a2, a3, a4⟩ := wl_fwd ht big i hi hk
      rw [he]
      refine ⟨e, rfl, a1, by omega, fun m m1 m2 => ?_, Or.inr ⟨a2, ?_⟩⟩
      · apply ws_false_inner (by omega)
        · rw [a3 m (by omega) m2]; exact hk
        · rw [a3 m (by omega) m2, a3 (m - 1) (by omega) (by omega)]
      · rw [a3 e a1 (Nat.le_refl _)]; exact a4
  obtain ⟨p, hpe, p1, p2, p3, p4⟩ := hp
  unfold wb
  simp only []
  rw [hpe]
  by_cases hpl : p + 1 < N
  · rw [nxt_fwd_some hpl]
    simp only []
    have hno : ∀ j, (∀ m, p + 1 ≤ m → m < j → ucIsSpace (c m) = true ∧ emp c m = false) →
        ∀ m, i < m → m < j → ws (kk big) c m = false := by
      intro j a m m1 m2
      by_cases hmp : m ≤ p
      · exact p3 m m1 hmp
      · obtain ⟨b1, b2⟩ := a m (by omega) m2
        exact ws_false_blank (ht.kk_blank big b1) b2
    rcases wbGo_fwd c N (N + 2) (p + 1) (if (c p == 10) = true then 1 else 0) (by omega) hpl (by omega)
      (by rw [show p + 1 - 1 = p by omega]) with ⟨j, e, a1, a2, a3, a4⟩ | ⟨e, a⟩
    · left
      refine ⟨j, e, ?_⟩
      apply nextWhere_some _ _ _ _ a2 (by omega) _ (hno j a3)
      rcases a4 with a4 | a4
      · have hnb : kk big (c j) ≠ 0 := ht.kk_nonblank big a4
        apply ws_of_nonblank hnb
        right
        by_cases hjp : j = p + 1
        · subst hjp
          rw [show p + 1 - 1 = p by omega]
          rcases p4 with p4 | p4
          · rw [p4]; exact fun h => hnb h.symm
          · exact fun h => p4.2 h.symm
        · rw [ht.kk_blank big (a3 (j - 1) (by omega) (by omega)).1]; exact fun h => hnb h.symm
      · unfold ws; rw [a4]; simp
    · exact Or.inr ⟨e, nextWhere_none _ _ _ (hno N a)⟩
  · rw [nxt_fwd_none hpl]
    right
    have hpN : p = N - 1 := by omega
    refine ⟨by rw [hpN], ?_⟩
    apply nextWhere_none
    intro m m1 m2
    exact p3 m m1 (by omega)

end Neatvi.Lemmas.C07b
