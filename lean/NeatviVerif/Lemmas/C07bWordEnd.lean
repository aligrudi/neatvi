import NeatviVerif.Lemmas.C07bWord
/-!
# C07b: what the index scanner `we` computes (`e` forward, `b` backward)
-/
namespace Neatvi.Lemmas.C07b
open Neatvi Neatvi.Uc Neatvi.Mot Neatvi.Lemmas.C07 Neatvi.Spec.Motion

theorem wen_false_blank {k : Nat → Nat} {c : Nat → Nat} {N m : Nat} (h1 : k (c m) = 0) (h2 : emp c m = false) :
    wen k c N m = false := by
  unfold wen; rw [h2]; simp [h1]

theorem wen_false_inner {big : Bool} {c : Nat → Nat} {N m : Nat} (h1 : kk big (c m) ≠ 0) (hN : m + 1 < N)
    (h2 : kk big (c (m + 1)) = kk big (c m)) : wen (kk big) c N m = false := by
  unfold wen
  rw [emp_false_nonblank h1, h2]
  have : decide (m + 1 ≥ N) = false := by simp; omega
  simp [this]

theorem wen_of_nonblank {k : Nat → Nat} {c : Nat → Nat} {N j : Nat} (h1 : k (c j) ≠ 0) (h2 : k (c (j + 1)) ≠ k (c j)) :
    wen k c N j = true := by
  unfold wen
  have a : (k (c j) != 0) = true := by simpa using h1
  have e : (k (c (j + 1)) != k (c j)) = true := by simpa using h2
  rw [a, e]; simp

/-! ### `we` forward -/
theorem weGo_fwd (c : Nat → Nat) (N : Nat) :
    ∀ f i nl, i < N → N ≤ i + f → nl = (if c i == 10 then 1 else 0) →
      (∃ j, weGo c N 1 f i nl = some (false, j) ∧ i < j ∧ j < N ∧
        (∀ m, i ≤ m → m < j → ucIsSpace (c m) = true) ∧ (∀ m, i < m → m < j → emp c m = false) ∧ emp c j = true) ∨
      (weGo c N 1 f i nl = some (true, N - 1) ∧
        (∀ m, i ≤ m → m < N → ucIsSpace (c m) = true) ∧ (∀ m, i < m → m < N → emp c m = false)) ∨
      (∃ q, weGo c N 1 f i nl = none ∧ wePos c N 1 f i nl = q ∧ i ≤ q ∧ q < N ∧
        (∀ m, i ≤ m → m < q → ucIsSpace (c m) = true) ∧ (∀ m, i < m → m < q → emp c m = false) ∧
        ucIsSpace (c q) = false) := by
  intro f
  induction f with
  | zero => intro i nl h1 h2; omega
  | succ f ih =>
    intro i nl h1 h2 hnl
    unfold weGo wePos
    by_cases hm : ucIsSpace (c i) = true
    · rw [if_pos hm, if_pos hm]
      by_cases hi : i + 1 < N
      · rw [nxt_fwd_some hi]
        simp only []
        obtain ⟨hcnt, hnext⟩ := nl_count (c i == 10) (c (i + 1) == 10) nl hnl
        rw [← emp_succ] at hcnt hnext
        by_cases h2' : ((if (c (i + 1) == 10) = true then nl + 1 else 0) == 2) = true
        · rw [if_pos h2', if_pos h2', if_neg (by omega)]
          left
          refine ⟨i + 1, rfl, by omega, hi, fun m m1 m2 => ?_, fun m m1 m2 => by omega, by rw [← hcnt]; exact h2'⟩
          have : m = i := by omega
          subst this; exact hm
        · rw [if_neg h2', if_neg h2']
          have hemp : emp c (i + 1) = false := by rw [← hcnt]; simpa using h2'
          have hnl' := hnext hemp
          rcases ih (i + 1) _ hi (by omega) hnl' with ⟨j, e, a1, a2, a3, a4, a5⟩ | ⟨e, a3, a4⟩ | ⟨q, e, e', a1, a2, a3, a4, a5⟩
          · exact Or.inl ⟨j, e, by omega, a2, from_succ hm a3, from_succ hemp a4, a5⟩
          · exact Or.inr (Or.inl ⟨e, from_succ hm a3, from_succ hemp a4⟩)
          · exact Or.inr (Or.inr ⟨q, e, e', by omega, a2, from_succ hm a3, from_succ hemp a4, a5⟩)
      · rw [nxt_fwd_none hi]
        right; left
        have hiN : i = N - 1 := by omega
        refine ⟨by rw [hiN], fun m m1 m2 => ?_, fun m m1 m2 => by omega⟩
        have : m = i := by omega
        subst this; exact hm
    · rw [if_neg hm, if_neg hm]
      right; right
      exact ⟨i, rfl, rfl, Nat.le_refl _, h1, fun m m1 m2 => by omega, fun m m1 m2 => by omega, by simpa using hm⟩

/-- **one `e` step on indices** -/
theorem we_fwd {c : Nat → Nat} {N : Nat} (ht : Txt c N) (big : Bool) (i : Nat) (hi : i < N) :
    (∃ j, we c N big 1 i = (false, j) ∧ nextWhere N (wen (kk big) c N) i = some j) ∨
    (we c N big 1 i = (true, N - 1) ∧ nextWhere N (wen (kk big) c N) i = none) := by
  have hlastsp : ucIsSpace (c (N - 1)) = true := by rw [ht.last]; decide
  -- the first step
  have hp : ∃ p, weStep1 c N 1 i = some (p, 0) ∧ p < N ∧ i ≤ p ∧ (∀ m, i < m → m ≤ p → emp c m = false ∧ m = p) ∧
      (ucIsSpace (c i) = false → i < p) := by
    unfold weStep1
    by_cases hm : ucIsSpace (c i) = true
    · refine ⟨i, by simp [hm], hi, Nat.le_refl _, fun m m1 m2 => by omega, fun h => ?_⟩
      rw [hm] at h; cases h
    · have hm' : ucIsSpace (c i) = false := by simpa using hm
      have hi1 : i + 1 < N := Nat.lt_of_not_le fun h => by
        rw [show i = N - 1 by omega, hlastsp] at hm'; cases hm'
      refine ⟨i + 1, by simp [hm', nxt_fwd_some hi1], hi1, by omega, fun m m1 m2 => ?_, fun _ => by omega⟩
      have : m = i + 1 := by omega
      subst this
      refine ⟨?_, rfl⟩
      rw [emp_succ, nl_false_nonblank (ht.kk_nonblank big hm'), Bool.and_false]
  obtain ⟨p, hpe, p1, p2, p3, p4⟩ := hp
  have hpm : ∀ m, i < m → p ≤ m := by
    intro m m1
    rcases Nat.lt_or_ge p m with h | h
    · omega
    · have := (p3 m m1 h).2; omega
  have hblank : ∀ j, (∀ m, p ≤ m → m < j → ucIsSpace (c m) = true) → (∀ m, p < m → m < j → emp c m = false) →
      ∀ m, i < m → m < j → wen (kk big) c N m = false := by
    intro j a3 a4 m m1 m2
    apply wen_false_blank (ht.kk_blank big (a3 m (hpm m m1) m2))
    rcases Nat.lt_or_ge p m with h | h
    · exact a4 m h m2
    · exact (p3 m m1 h).1
  unfold we
  simp only []
  rw [hpe]
  simp only [Nat.zero_add, show ((1 : Int) > 0) by omega, decide_true, Bool.true_and]
  rcases weGo_fwd c N (N + 2) p (if (c p == 10) = true then 1 else 0) p1 (by omega) rfl with
    ⟨j, e, a1, a2, a3, a4, a5⟩ | ⟨e, a3, a4⟩ | ⟨q, e, e', a1, a2, a3, a4, a5⟩
  · rw [e]
    left
    refine ⟨j, rfl, ?_⟩
    apply nextWhere_some _ _ _ _ a2 (by omega) _ (hblank j a3 a4)
    unfold wen; rw [a5]; simp
  · rw [e]
    exact Or.inr ⟨rfl, nextWhere_none _ _ _ (hblank N a3 a4)⟩
  · rw [e]
    simp only []
    rw [e']
    have hkq : kk big (c q) ≠ 0 := ht.kk_nonblank big a5
    obtain ⟨en, he, b1, b2, b3, b4⟩ := wl_fwd ht big q a2 hkq
    rw [he]
    left
    refine ⟨en, rfl, ?_⟩
    have hien : i < en := by
      by_cases hm : ucIsSpace (c i) = true
      · rcases Nat.lt_or_ge i q with h | h
        · omega
        · have hqi : q = i := by omega
          rw [hqi, hm] at a5; cases a5
      · have := p4 (by simpa using hm); omega
    apply nextWhere_some _ _ _ _ (by omega) hien
    · apply wen_of_nonblank
      · rw [b3 en b1 (Nat.le_refl _)]; exact hkq
      · rw [b3 en b1 (Nat.le_refl _)]; exact b4
    · intro m m1 m2
      rcases Nat.lt_or_ge m q with hmq | hmq
      · exact hblank q a3 a4 m m1 hmq
      · apply wen_false_inner
        · rw [b3 m hmq (by omega)]; exact hkq
        · omega
        · rw [b3 m hmq (by omega), b3 (m + 1) (by omega) (by omega)]

/-! ### `wl` backward: to the first character of the run -/
theorem wlGo_bwd (c : Nat → Nat) (N kind : Nat) :
    ∀ f i, i < f →
      (∃ j, wlGo c N kind (-1) f i = (false, j) ∧ j ≤ i ∧
        (∀ m, j < m → m ≤ i → ((ucKind (c m) &&& kind) != 0) = true) ∧ ((ucKind (c j) &&& kind) != 0) = false) ∨
      (wlGo c N kind (-1) f i = (true, 0) ∧ ∀ m, m ≤ i → ((ucKind (c m) &&& kind) != 0) = true) := by
  intro f
  induction f with
  | zero => intro i h; omega
  | succ f ih =>
    intro i h
    unfold wlGo
    by_cases hm : ((ucKind (c i) &&& kind) != 0) = true
    · rw [if_pos hm]
      cases i with
      | zero =>
        rw [nxt_bwd_zero]
        right
        refine ⟨rfl, fun m m1 => ?_⟩
        have : m = 0 := by omega
        subst this; exact hm
      | succ k =>
        rw [nxt_bwd_succ]
        rcases ih k (by omega) with ⟨j, e, a1, a2, a3⟩ | ⟨e, a⟩
        · left
          exact ⟨j, e, by omega, upto_succ hm a2, a3⟩
        · right
          refine ⟨e, fun m m1 => ?_⟩
          by_cases hmk : m = k + 1
          · subst hmk; exact hm
          · exact a m (by omega)
    · rw [if_neg hm]
      left
      exact ⟨i, rfl, Nat.le_refl _, fun m m1 m2 => by omega, by simpa using hm⟩

theorem wl_bwd {c : Nat → Nat} {N : Nat} (ht : Txt c N) (big : Bool) (i : Nat) (hi : i < N) (hk : kk big (c i) ≠ 0) :
    ∃ fl s, wl c N (if big then 3 else ucKind (c i)) (-1) (N + 2) i = (fl, s) ∧ s ≤ i ∧
      (∀ m, s ≤ m → m ≤ i → kk big (c m) = kk big (c i)) ∧ (fl = true ↔ s = 0) ∧
      (s ≠ 0 → kk big (c (s - 1)) ≠ kk big (c i)) := by
  have hmask := fun x => kk_mask big (c x) (c i) (ht.lt x) (ht.lt i) hk
  have hmi := kk_mask_self big (c i) (ht.lt i) hk
  unfold wl
  rw [if_neg (by rw [kk_nonblank_kind big (c i) (ht.lt i) hk]; simp)]
  rcases wlGo_bwd c N (if big then 3 else ucKind (c i)) (N + 2) i (by omega) with ⟨j, e, a1, a2, a3⟩ | ⟨e, a⟩
  · rw [e]
    simp only []
    have hji : j < i := Nat.lt_of_not_le fun h => by
      rw [show j = i by omega, hmi] at a3; cases a3
    have h4 : ((ucKind (c j) &&& (if big then 3 else ucKind (c i))) == 0) = true := by
      simp only [bne_eq_false_iff_eq] at a3; simpa using a3
    rw [if_pos h4]
    rw [Int.neg_neg, nxt_fwd_some (by omega)]
    refine ⟨false, j + 1, rfl, by omega, fun m m1 m2 => ?_, by simp, fun _ => ?_⟩
    · have := a2 m (by omega) m2
      rw [hmask] at this
      exact beq_iff_eq.mp this
    · rw [show j + 1 - 1 = j by omega]
      rw [hmask] at a3
      intro hh; rw [hh] at a3; simp at a3
  · rw [e]
    refine ⟨true, 0, rfl, by omega, fun m m1 m2 => ?_, by simp, fun h => absurd rfl h⟩
    have := a m m2
    rw [hmask] at this
    exact beq_iff_eq.mp this

/-! ### `we` backward -/
theorem weGo_bwd (c : Nat → Nat) (N lim : Nat) :
    ∀ f x nl, x ≤ lim → x < N → x < f → nl = (if (c x == 10 && decide (x < lim)) = true then 1 else 0) →
      (∃ j, weGo c N (-1) f x nl = some (false, j) ∧ 0 < j ∧ j ≤ x ∧ j < lim ∧ emp c j = true ∧
        (∀ m, j ≤ m → m ≤ x → ucIsSpace (c m) = true) ∧ (∀ m, j < m → m ≤ x → m < lim → emp c m = false)) ∨
      (weGo c N (-1) f x nl = some (true, 0) ∧
        (∀ m, m ≤ x → ucIsSpace (c m) = true) ∧ (∀ m, 0 < m → m ≤ x → m < lim → emp c m = false)) ∨
      (∃ q, weGo c N (-1) f x nl = none ∧ wePos c N (-1) f x nl = q ∧ q ≤ x ∧ ucIsSpace (c q) = false ∧
        (∀ m, q < m → m ≤ x → ucIsSpace (c m) = true) ∧ (∀ m, q < m → m ≤ x → m < lim → emp c m = false)) := by
  intro f
  induction f with
  | zero => intro x nl h0 h1 h2; omega
  | succ f ih =>
    intro x nl h0 h1 h2 hnl
    unfold weGo wePos
    by_cases hm : ucIsSpace (c x) = true
    · rw [if_pos hm, if_pos hm]
      cases x with
      | zero =>
        rw [nxt_bwd_zero]
        right; left
        refine ⟨rfl, fun m m1 => ?_, fun m m1 m2 => by omega⟩
        have : m = 0 := by omega
        subst this; exact hm
      | succ k =>
        rw [nxt_bwd_succ]
        simp only []
        obtain ⟨hcnt, hnext⟩ := nl_count (c (k + 1) == 10 && decide (k + 1 < lim)) (c k == 10) nl hnl
        by_cases h2' : ((if (c k == 10) = true then nl + 1 else 0) == 2) = true
        · rw [if_pos h2', if_pos h2', if_pos (by omega)]
          rw [Int.neg_neg, nxt_fwd_some (by omega)]
          left
          rw [hcnt] at h2'
          simp only [Bool.and_eq_true, decide_eq_true_eq] at h2'
          obtain ⟨hck, hcx, hlim⟩ := h2'
          refine ⟨k + 1, rfl, by omega, Nat.le_refl _, hlim, ?_, fun m m1 m2 => ?_, fun m m1 m2 => by omega⟩
          · rw [emp_succ, hcx, hck]; rfl
          · have : m = k + 1 := by omega
            subst this; exact hm
        · rw [if_neg h2', if_neg h2']
          have hno : (c k == 10 && (c (k + 1) == 10 && decide (k + 1 < lim))) = false := by
            rw [← hcnt]; simpa using h2'
          -- `k + 1` is not an empty line below `lim`
          have hemp : k + 1 < lim → emp c (k + 1) = false := by
            intro hl
            rw [decide_eq_true hl, Bool.and_true] at hno
            rw [emp_succ, Bool.and_comm]
            exact hno
          have hnl' : (if (c k == 10) = true then nl + 1 else 0) =
              (if (c k == 10 && decide (k < lim)) = true then 1 else 0) := by
            rw [decide_eq_true (show k < lim by omega), Bool.and_true]
            exact hnext hno
          rcases ih k _ (by omega) (by omega) (by omega) hnl' with
            ⟨j, e, a0, a1, a2, a3, a4, a5⟩ | ⟨e, a4, a5⟩ | ⟨q, e, e', a1, a2, a4, a5⟩
          · exact Or.inl ⟨j, e, a0, by omega, a2, a3, upto_succ hm a4, upto_succ hemp a5⟩
          · exact Or.inr (Or.inl ⟨e, fun m => upto_succ (L := fun _ => True) hm (fun m _ => a4 m) m trivial,
              upto_succ hemp a5⟩)
          · exact Or.inr (Or.inr ⟨q, e, e', by omega, a2, upto_succ hm a4, upto_succ hemp a5⟩)
    · rw [if_neg hm, if_neg hm]
      right; right
      exact ⟨x, rfl, rfl, Nat.le_refl _, by simpa using hm, fun m m1 m2 => by omega, fun m m1 m2 => by omega⟩

theorem we_bwd_from {c : Nat → Nat} {N : Nat} (ht : Txt c N) (big : Bool) {i p nl : Nat}
    (h1 : weStep1 c N (-1) i = some (p, nl)) (hpi : p ≤ i) (hip : i ≤ p + 1) (hi : i < N)
    (hnl : nl = (if (c p == 10 && decide (p < i)) = true then 1 else 0))
    (hsp : p = i → ucIsSpace (c i) = true) :
    ∃ fl j, we c N big (-1) i = (fl, j) ∧ j ≤ i ∧ (fl = true ↔ j = 0) ∧
      (∀ m, j < m → m < i → ws (kk big) c m = false) ∧ (j ≠ 0 → j < i ∧ ws (kk big) c j = true) := by
  unfold we
  rw [h1]
  simp only [show ¬ ((-1 : Int) > 0) by omega, decide_false, Bool.false_and, Bool.false_eq_true, if_false, Nat.add_zero]
  have hblank : ∀ j, (∀ m, j < m → m ≤ p → ucIsSpace (c m) = true) →
      (∀ m, j < m → m ≤ p → m < i → emp c m = false) → ∀ m, j < m → m < i → ws (kk big) c m = false := by
    intro j a4 a5 m m1 m2
    exact ws_false_blank (ht.kk_blank big (a4 m m1 (by omega))) (a5 m m1 (by omega) m2)
  rcases weGo_bwd c N i (N + 2) p nl hpi (by omega) (by omega) hnl with
    ⟨j, e, a0, a1, a2, a3, a4, a5⟩ | ⟨e, a4, a5⟩ | ⟨q, e, e', a1, a2, a4, a5⟩
  · rw [e]
    refine ⟨false, j, rfl, by omega, by simp; omega, hblank j (fun m m1 => a4 m (by omega)) a5, fun _ => ⟨a2, ?_⟩⟩
    unfold ws; rw [a3]; simp
  · rw [e]
    exact ⟨true, 0, rfl, by omega, by simp, hblank 0 (fun m _ => a4 m) a5, fun h => absurd rfl h⟩
  · rw [e]
    simp only []
    rw [e']
    have hkq : kk big (c q) ≠ 0 := ht.kk_nonblank big a2
    have hqi : q < i := Nat.lt_of_not_le fun h => by
      rw [show q = i by omega, hsp (by omega)] at a2; cases a2
    obtain ⟨fl, s, he, b1, b2, b3, b4⟩ := wl_bwd ht big q (by omega) hkq
    rw [he]
    refine ⟨fl, s, rfl, by omega, b3, fun m m1 m2 => ?_, fun hs => ⟨by omega, ?_⟩⟩
    · rcases Nat.lt_or_ge q m with hqm | hqm
      · exact hblank q a4 a5 m hqm m2
      · apply ws_false_inner (by omega)
        · rw [b2 m (by omega) hqm]; exact hkq
        · rw [b2 m (by omega) hqm, b2 (m - 1) (by omega) (by omega)]
    · apply ws_of_nonblank
      · rw [b2 s (Nat.le_refl _) b1]; exact hkq
      · right; rw [b2 s (Nat.le_refl _) b1]; exact b4 hs

/-- **one `b` step on indices**: the target is the greatest word start before `i`, else index 0; the
    scanner reports failure exactly when it stops at index 0 -/
theorem we_bwd {c : Nat → Nat} {N : Nat} (ht : Txt c N) (big : Bool) (i : Nat) (hi : i < N) :
    ∃ fl j, we c N big (-1) i = (fl, j) ∧ (prevWhere (ws (kk big) c) i).getD 0 = j ∧ (fl = true ↔ j = 0) := by
  suffices h : ∃ fl j, we c N big (-1) i = (fl, j) ∧ j ≤ i ∧ (fl = true ↔ j = 0) ∧
      (∀ m, j < m → m < i → ws (kk big) c m = false) ∧ (j ≠ 0 → j < i ∧ ws (kk big) c j = true) by
    obtain ⟨fl, j, e, a1, a2, a3, a4⟩ := h
    exact ⟨fl, j, e, prevWhere_getD _ i j a1 a3 a4, a2⟩
  by_cases hm : ucIsSpace (c i) = true
  · -- blank under the cursor: the scan starts here, this index is not a candidate
    have h1 : weStep1 c N (-1) i = some (i, 0) := by unfold weStep1; simp [hm]
    exact we_bwd_from ht big h1 (Nat.le_refl _) (by omega) hi (by simp) (fun _ => hm)
  · have hm' : ucIsSpace (c i) = false := by simpa using hm
    cases i with
    | zero =>
      have h1 : weStep1 c N (-1) 0 = none := by unfold weStep1 nxt; simp [hm']
      unfold we
      rw [h1]
      exact ⟨true, 0, rfl, by omega, by simp, fun m m1 m2 => by omega, fun h => absurd rfl h⟩
    | succ k =>
      have h1 : weStep1 c N (-1) (k + 1) = some (k, if (c k == 10) = true then 1 else 0) := by
        unfold weStep1 nxt
        simp [hm']
      exact we_bwd_from ht big h1 (by omega) (by omega) hi (by simp) (fun h => by omega)

end Neatvi.Lemmas.C07b
