import NeatviVerif.Lemmas.C07cSim
import NeatviVerif.Lemmas.C07cPair
import NeatviVerif.Lemmas.C07cFind
/-!
# The model on an ASCII buffer, as the case `lsOfU b = lsOf b` of the model on a UTF-8 buffer

For `AsciiB b` the lines `lsOf b` are their own encoding (`lsOfU_ascii`), `b` is a UTF-8 buffer (`AsciiB.utf8`) and the
projected text `cpp b` is `cp b`: every fact of `Lemmas/C07cBuf`, `C07cSim`, `C07cPair` about `lsOfU b` reads as a fact
about `lsOf b`.  Likewise `lbuf_findchar` on an ASCII line.  The comparison with the reference does not go through
these: Props/C07b reads the theorems of `Lemmas/C07cEnc` at `AsciiBuf.enc`.
-/
namespace Neatvi.Lemmas.C07b
open Neatvi Neatvi.Uc Neatvi.Mot Neatvi.Spec Neatvi.Spec.Motion Neatvi.Lemmas.C07 Neatvi.Lemmas.C07c

theorem cpp_ascii {b : Buf} (hb : AsciiB b) : cpp b = cp b := funext fun i => prj_low (cp_lt hb i).2

theorem cp_rep_nl {b : Buf} (hb : AsciiB b) {rn cn : Nat} (hr : rn < b.length) (hc : cn ≤ (rowOf b rn).length) :
    cp b (rowStart b rn + cn) = 10 ↔ cn = (rowOf b rn).length := cp_rep_nlU hb.utf8 hr hc

theorem colAt_zero_iff {b : Buf} (hb : AsciiB b) (i : Nat) (hi : i < total b) :
    colAt (flat b) i = 0 ↔ (i = 0 ∨ cp b (i - 1) = 10) := colAt_zero_iffU hb.utf8 i hi

theorem slenAt_rep {b : Buf} (hb : AsciiB b) (rn : Nat) (hr : rn < b.length) :
    slenAt (lsOf b) (rn : Int) = ((rowOf b rn).length + 1 : Nat) := by
  rw [← lsOfU_ascii hb]; exact slenAt_repU hb.utf8 rn hr

theorem lbufChr_rep {b : Buf} (hb : AsciiB b) {rn cn : Nat} (hr : rn < b.length) (hc : cn ≤ (rowOf b rn).length) :
    lbufChr (lsOf b) (rn : Int) (cn : Int) = (rowOf b rn ++ [10]).drop cn := by
  rw [← lsOfU_ascii hb, lbufChr_repU hb.utf8 hr hc]
  exact encStr_ascii fun c hc => (asciiW_line (rowOf_ascii hb hr) c (List.mem_of_mem_drop hc)).2

theorem hd_rep {b : Buf} (hb : AsciiB b) {r o : Int} {i : Nat} (h : Rep b r o i) :
    Bytes.hd (lbufChr (lsOf b) r o) = cp b i := by
  rw [← lsOfU_ascii hb]
  exact ((hd_repU hb.utf8 h).resolve_right fun hh => hh.1 (cp_lt hb i).2).2

theorem codeAt_rep {b : Buf} (hb : AsciiB b) {r o : Int} {i : Nat} (h : Rep b r o i) :
    codeAt (lsOf b) r o = cp b i := by
  rw [← lsOfU_ascii hb]; exact codeAt_repU hb.utf8 h

theorem kindAt_rep {b : Buf} (hb : AsciiB b) {r o : Int} {i : Nat} (h : Rep b r o i) :
    kindAt (lsOf b) r o = ucKind (cp b i) := by
  rw [← lsOfU_ascii hb, ← cpp_ascii hb]; exact kindAt_repU hb.utf8 h

theorem isSpaceAt_rep {b : Buf} (hb : AsciiB b) {r o : Int} {i : Nat} (h : Rep b r o i) :
    isSpaceAt (lsOf b) r o = ucIsSpace (cp b i) := by
  rw [← lsOfU_ascii hb, ← cpp_ascii hb]; exact isSpaceAt_repU hb.utf8 h

theorem next_fwd_some {b : Buf} (hb : AsciiB b) {r o : Int} {i : Nat} (h : Rep b r o i) (hi : i + 1 < total b) :
    ∃ r' o', next (lsOf b) 1 r o = some (r', o') ∧ Rep b r' o' (i + 1) := by
  rw [← lsOfU_ascii hb]; exact next_fwd_someU hb.utf8 h hi

theorem next_fwd_none {b : Buf} (hb : AsciiB b) {r o : Int} {i : Nat} (h : Rep b r o i) (hi : i + 1 = total b) :
    next (lsOf b) 1 r o = none := by
  rw [← lsOfU_ascii hb]; exact next_fwd_noneU hb.utf8 h hi

theorem next_bwd_some {b : Buf} (hb : AsciiB b) {r o : Int} {i : Nat} (h : Rep b r o (i + 1)) :
    ∃ r' o', next (lsOf b) (-1) r o = some (r', o') ∧ Rep b r' o' i := by
  rw [← lsOfU_ascii hb]; exact next_bwd_someU hb.utf8 h

theorem next_bwd_none {b : Buf} (hb : AsciiB b) {r o : Int} (h : Rep b r o 0) :
    next (lsOf b) (-1) r o = none := by
  rw [← lsOfU_ascii hb]; exact next_bwd_noneU hb.utf8 h

theorem wb_sim {b : Buf} (hb : AsciiB b) (big : Bool) (d : Int) (hd : d = 1 ∨ d = -1) {r o : Int} {i : Nat}
    (h : Rep b r o i) : Sim b (wordbeg (lsOf b) big d r o) (wb (cp b) (total b) big d i) := by
  rw [← lsOfU_ascii hb, ← cpp_ascii hb]; exact wb_simU hb.utf8 big d hd h

theorem we_sim {b : Buf} (hb : AsciiB b) (big : Bool) (d : Int) (hd : d = 1 ∨ d = -1) {r o : Int} {i : Nat}
    (h : Rep b r o i) : Sim b (wordend (lsOf b) big d r o) (we (cp b) (total b) big d i) := by
  rw [← lsOfU_ascii hb, ← cpp_ascii hb]; exact we_simU hb.utf8 big d hd h

theorem pair_rep {b : Buf} (hb : AsciiB b) {rn cn : Nat} (hr : rn < b.length) (hc : cn ≤ (rowOf b rn).length) :
    pair (lsOf b) (rn : Int) (cn : Int) =
      (pairOf b ⟨rn, cn⟩).map (fun p => ((p.row : Int), (p.col : Int))) := by
  rw [← lsOfU_ascii hb]; exact pair_repU hb.utf8 hr hc

end Neatvi.Lemmas.C07b

namespace Neatvi.Lemmas.C07
open Neatvi Neatvi.Uc Neatvi.Mot Neatvi.Spec Neatvi.Lemmas.C07c

theorem codeAt_ascii (s : Bytes) (hs : Ascii s) (p : Int) (h0 : 0 ≤ p) (h1 : p ≤ s.length) :
    (ucCode (chrAt s p)).getD 0 = s.getD p.toNat 0 := by
  have := codeAt_enc hs.valid p h0 h1
  rwa [hs.enc] at this

/-- `F` (70), `T` (84) on an ASCII line with a positive count and the cursor on the line, for any ASCII target: backward
    also the newline, which the scan cannot meet -/
theorem findchar_bwd (ls : Lines) (r : Int) (w : Bytes) (hline : lineAt ls r = some (w ++ [10])) (hw : Ascii w)
    (c : Nat) (hc : c < 128) (cmd : Nat) (hcmd : cmd = 70 ∨ cmd = 84)
    (n : Int) (hn : 0 < n) (o : Nat) (ho : o ≤ w.length) :
    (findchar ls [c] cmd n r o).map Int.toNat = Spec.Motion.findChar w o c false (cmd == 84) n.toNat ∧
    ∀ p, findchar ls [c] cmd n r o = some p → 0 ≤ p := by
  have he : encStr (w ++ [10]) = w ++ [10] := (ascii_snoc_nl hw).enc
  have hd : decide (0 < n) = true := decide_eq_true hn
  rcases hcmd with rfl | rfl
  · have := findchar_allU ls r w (by rw [he]; exact hline) hw.valid c (Nat.lt_trans hc (by decide)) 70 (by decide) n
      (by omega) o (by omega) (fun _ => ⟨by rw [hd]; rfl, by omega⟩)
    rwa [enc_ascii hc, hd, show n.natAbs = n.toNat by omega, Int.toNat_natCast] at this
  · have := findchar_allU ls r w (by rw [he]; exact hline) hw.valid c (Nat.lt_trans hc (by decide)) 84 (by decide) n
      (by omega) o (by omega) (fun _ => ⟨by rw [hd]; rfl, by omega⟩)
    rwa [enc_ascii hc, hd, show n.natAbs = n.toNat by omega, Int.toNat_natCast] at this

end Neatvi.Lemmas.C07
