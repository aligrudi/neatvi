import NeatviVerif.Lemmas.C07bWordEnd
import NeatviVerif.Lemmas.C07bPair
import NeatviVerif.Props.C16
import NeatviVerif.Lemmas.C08Uc
/-!
# C07c helper lemmas: valid UTF-8 buffers

A UTF-8 buffer is `lsOfU b = b.map (fun w => encStr (w ++ [10]))` for a reference buffer `b` whose lines
consist of valid code points other than the newline (`Utf8B b`).  The flat sequence, `Rep`, `total`,
`rowStart`, `cp` of `Lemmas/C07bFlat` are about the reference buffer and are reused as they are; this
file supplies the decoder round trip, and the access lemmas of the model on such a buffer: the line,
its length in characters, the character at an offset, its first byte / class / code point, `lbuf_eol`.  They are stated
for `lsOfU b` and `Utf8B b`; `Enc ls b` (declared here, used from `Lemmas/C07cEnc` on) is that setting as one
hypothesis about the lines `ls` of the model: `ls = lsOfU b` for a valid `b`.  An ASCII buffer is the case where
`lsOfU b = lsOf b`.
-/
namespace Neatvi.Lemmas.C07c
open Neatvi Neatvi.Uc Neatvi.Mot Neatvi.Spec Neatvi.Spec.Motion Neatvi.Lemmas.C07 Neatvi.Lemmas.C07b

/-- the text of a UTF-8 line: valid code points, none of them the newline -/
def Utf8W (w : List Nat) : Prop := (∀ c ∈ w, ValidCp c) ∧ 10 ∉ w
def Utf8B (b : Buf) : Prop := ∀ w ∈ b, Utf8W w
/-- the lines of the model for the reference buffer `b` -/
def lsOfU (b : Buf) : Lines := b.map (fun w => encStr (w ++ [10]))
/-- every line is the UTF-8 encoding of valid code points (no newline among them) followed by the newline -/
def Utf8Buf (ls : Lines) : Prop :=
  ∀ l ∈ ls, ∃ body, l = encStr (body ++ [10]) ∧ (∀ c ∈ body, ValidCp c) ∧ 10 ∉ body
/-- the code points of a line (reference decoder) -/
def decLine (l : Bytes) : List Nat := decodeStr l.length l
/-- the reference buffer of a list of lines: every line decoded, without its newline -/
def refBufU (ls : Lines) : Buf := ls.map (fun l => (decLine l).dropLast)

/-! ### the decoder inverts the encoder -/
theorem lt128_snoc_ten {w : List Nat} (h : ∀ b ∈ w, b < 128) : ∀ b ∈ w ++ [10], b < 128 := by
  intro b hb
  rcases List.mem_append.mp hb with hb | hb
  · exact h b hb
  · rw [List.mem_singleton.mp hb]; decide

theorem encStr_line_ascii {w : List Nat} (h : ∀ b ∈ w, b < 128) : encStr (w ++ [10]) = w ++ [10] :=
  encStr_ascii (lt128_snoc_ten h)

theorem isBlank_ascii {b : Nat} (h : isBlank b = true) : 0 < b ∧ b < 128 := by
  unfold isBlank at h
  simp only [Bool.or_eq_true, beq_iff_eq] at h
  omega

/-- the two base-64 digits of `c` above a block of size `b` -/
theorem base64_step (c b : Nat) : c / (b * 64) * (b * 64) + c / b % 64 * b + c % b = c := by
  rw [← Nat.div_div_eq_div_mul, Nat.mul_comm b 64, ← Nat.mul_assoc, ← Nat.add_mul, Nat.div_add_mod', Nat.div_add_mod']

theorem base64_four (c : Nat) : c / 262144 * 262144 + c / 4096 % 64 * 4096 + c / 64 % 64 * 64 + c % 64 = c := by
  have h := base64_step c 4096
  have hm : c % 4096 = c / 64 % 64 * 64 + c % 64 := by
    rw [show 4096 = 64 * 64 from rfl, Nat.mod_mul, Nat.mul_comm, Nat.add_comm]
  rw [hm, ← Nat.add_assoc] at h
  exact h

theorem dec1_enc {c : Nat} (h : ValidCp c) : dec1 (enc c) = c := by
  obtain ⟨h0, h1⟩ := h
  unfold enc
  split
  · rfl
  split
  · simp only [dec1]
    rw [if_neg (by omega), if_pos (by omega), Nat.add_sub_cancel_left, Nat.add_sub_cancel_left]
    exact Nat.div_add_mod' c 64
  split
  · simp only [dec1]
    rw [if_neg (by omega), if_neg (by omega), if_pos (by omega), Nat.add_sub_cancel_left, Nat.add_sub_cancel_left,
      Nat.add_sub_cancel_left]
    exact base64_step c 64
  · simp only [dec1]
    rw [if_neg (by omega), if_neg (by omega), if_neg (by omega), Nat.add_sub_cancel_left, Nat.add_sub_cancel_left,
      Nat.add_sub_cancel_left, Nat.add_sub_cancel_left]
    exact base64_four c

theorem specLen_hd_enc {c : Nat} (h : ValidCp c) : specLen (Bytes.hd (enc c)) = (enc c).length := by
  rw [← Props.C16.len_enc h]
  obtain ⟨a, t, he, hch⟩ := enc_chr h
  rw [he]
  exact (Props.C16.len_spec a hch.lt).symm

theorem decodeStr_encStr {cs : List Nat} (h : ∀ c ∈ cs, ValidCp c) :
    ∀ f, (encStr cs).length ≤ f → decodeStr f (encStr cs) = cs := by
  induction cs with
  | nil => intro f _; cases f <;> rfl
  | cons c r ih =>
    intro f hf
    have hc := h c (by simp)
    have hr : ∀ d ∈ r, ValidCp d := fun d hd => h d (by simp [hd])
    have hl := enc_length_pos c
    rw [encStr_cons] at hf ⊢
    cases f with
    | zero => rw [List.length_append] at hf; omega
    | succ f =>
      have hsl := specLen_hd_enc hc
      obtain ⟨a, t, he, hch⟩ := enc_chr hc
      have hsl' : specLen a = (a :: t).length := by rw [he] at hsl; exact hsl
      have hne : (specLen a == 0) = false := by rw [hsl']; simp
      have e1 : (a :: t ++ encStr r).take (a :: t).length = a :: t := List.take_left
      have e2 : (a :: t ++ encStr r).drop (a :: t).length = encStr r := List.drop_left
      rw [he]
      show decodeStr (f + 1) (a :: (t ++ encStr r)) = c :: r
      unfold decodeStr
      simp only [hne, Bool.false_eq_true, if_false]
      rw [hsl']
      rw [show a :: (t ++ encStr r) = a :: t ++ encStr r by rfl, e1, e2, ← he, dec1_enc hc]
      rw [ih hr f (by rw [List.length_append] at hf; omega)]

theorem decLine_enc {cs : List Nat} (h : ∀ c ∈ cs, ValidCp c) : decLine (encStr cs) = cs :=
  decodeStr_encStr h _ (Nat.le_refl _)

theorem valid_ten : ValidCp 10 := by decide

theorem Utf8W.line {w : List Nat} (h : Utf8W w) : ∀ c ∈ w ++ [10], ValidCp c := valid_line h.1

theorem utf8Buf_eq (ls : Lines) (h : Utf8Buf ls) : ls = lsOfU (refBufU ls) ∧ Utf8B (refBufU ls) := by
  induction ls with
  | nil => exact ⟨rfl, fun w hw => by simp [refBufU] at hw⟩
  | cons l t ih =>
    obtain ⟨w, rfl, hw1, hw2⟩ := h l (by simp)
    obtain ⟨e, a⟩ := ih (fun l' hl' => h l' (by simp [hl']))
    have hd : (decLine (encStr (w ++ [10]))).dropLast = w := by
      rw [decLine_enc (Utf8W.line ⟨hw1, hw2⟩)]; simp
    constructor
    · show encStr (w ++ [10]) :: t = encStr ((decLine (encStr (w ++ [10]))).dropLast ++ [10]) :: lsOfU (refBufU t)
      rw [← e, hd]
    · intro x hx
      simp only [refBufU, List.map_cons, List.mem_cons] at hx
      rcases hx with hx | hx
      · rw [hx, hd]; exact ⟨hw1, hw2⟩
      · exact a x hx

theorem utf8Buf_lsOfU {b : Buf} (hb : Utf8B b) : Utf8Buf (lsOfU b) := by
  intro l hl
  simp only [lsOfU, List.mem_map] at hl
  obtain ⟨w, hw, rfl⟩ := hl
  exact ⟨w, rfl, (hb w hw).1, (hb w hw).2⟩

theorem refBufU_lsOfU {b : Buf} (hb : Utf8B b) : refBufU (lsOfU b) = b := by
  induction b with
  | nil => rfl
  | cons w b ih =>
    show (decLine (encStr (w ++ [10]))).dropLast :: refBufU (lsOfU b) = w :: b
    rw [decLine_enc (Utf8W.line (hb w (by simp))), ih (fun x hx => hb x (by simp [hx]))]
    simp

theorem _root_.Neatvi.Lemmas.C07b.AsciiB.utf8 {b : Buf} (hb : AsciiB b) : Utf8B b := fun w hw =>
  ⟨fun c hc => ⟨(hb w hw c hc).1, Nat.lt_trans (hb w hw c hc).2.1 (by decide)⟩, fun h10 => (hb w hw 10 h10).2.2 rfl⟩

theorem lsOfU_ascii {b : Buf} (hb : AsciiB b) : lsOfU b = lsOf b :=
  List.map_congr_left fun w hw => encStr_line_ascii fun c hc => (hb w hw c hc).2.1

/-- the lines `ls` of the model are the encodings of the rows of the reference buffer `b`, each followed by its
    newline: what `AsciiBuf ls` says of `refBuf ls` and `Utf8Buf ls` of `refBufU ls` -/
structure Enc (ls : Lines) (b : Buf) : Prop where
  eq : ls = lsOfU b
  valid : Utf8B b

theorem Utf8Buf.enc {ls : Lines} (h : Utf8Buf ls) : Enc ls (refBufU ls) :=
  ⟨(utf8Buf_eq ls h).1, (utf8Buf_eq ls h).2⟩

theorem _root_.Neatvi.Lemmas.C07b.AsciiBuf.enc {ls : Lines} (h : AsciiBuf ls) : Enc ls (refBuf ls) :=
  have ⟨e, hb⟩ := asciiBuf_eq ls h
  ⟨e.trans (lsOfU_ascii hb).symm, AsciiB.utf8 hb⟩

theorem refBufU_ascii {ls : Lines} (h : AsciiBuf ls) : refBufU ls = refBuf ls := by
  have e := (AsciiBuf.enc h).eq
  have := refBufU_lsOfU (AsciiBuf.enc h).valid
  rwa [← e] at this

theorem _root_.Neatvi.Lemmas.C07b.AsciiBuf.slen {ls : Lines} (h : AsciiBuf ls) {r : Int} {ln : Bytes} (hl : lineAt ls r = some ln) :
    ucSlen ln = ln.length := by
  unfold lineAt at hl
  split at hl
  · cases hl
  · obtain ⟨w, rfl, hw⟩ := h ln (List.mem_of_getElem? hl)
    exact ucSlen_ascii _ (asciiW_line hw)

theorem Utf8B.tail {w : List Nat} {b : Buf} (h : Utf8B (w :: b)) : Utf8B b := fun x hx => h x (by simp [hx])

theorem rowOf_utf8 {b : Buf} (hb : Utf8B b) {r : Nat} (hr : r < b.length) : Utf8W (rowOf b r) := by
  unfold rowOf
  rw [List.getD_eq_getElem?_getD, List.getElem?_eq_getElem hr]
  exact hb _ (List.getElem_mem hr)

/-! ### sizes: the scanners' fuel (bytes) bounds the number of characters -/
theorem encStr_length_ge (cs : List Nat) : cs.length ≤ (encStr cs).length :=
  length_le_encStr cs

theorem foldl_totalU_aux (b : Buf) (a : Nat) : a + total b ≤ (lsOfU b).foldl (fun a l => a + l.length) a := by
  induction b generalizing a with
  | nil => simp [lsOfU, total]
  | cons w b ih =>
    simp only [lsOfU, List.map_cons, List.foldl_cons] at ih ⊢
    have h1 := encStr_length_ge (w ++ [10])
    have h2 := ih (a + (encStr (w ++ [10])).length)
    simp only [List.length_append, List.length_cons, List.length_nil] at h1
    simp only [total]
    omega

theorem foldl_totalU (b : Buf) : total b ≤ (lsOfU b).foldl (fun a l => a + l.length) 0 := by
  have := foldl_totalU_aux b 0; omega

/-! ### the flat sequence of a buffer without newlines inside the lines -/
theorem cp_rep_nlU {b : Buf} (hb : Utf8B b) {rn cn : Nat} (hr : rn < b.length) (hc : cn ≤ (rowOf b rn).length) :
    cp b (rowStart b rn + cn) = 10 ↔ cn = (rowOf b rn).length := by
  rw [cp_rep hr hc]
  constructor
  · intro h
    by_cases hlt : cn < (rowOf b rn).length
    · rw [getD_line_lt _ _ hlt] at h
      exact absurd (h ▸ List.getElem_mem hlt) (rowOf_utf8 hb hr).2
    · omega
  · intro h; rw [h, getD_line_eq]

theorem cp_validU {b : Buf} (hb : Utf8B b) (i : Nat) : ValidCp (cp b i) := by
  by_cases hi : i < total b
  · obtain ⟨r, o, rn, cn, rfl, rfl, h1, h2, rfl⟩ := rep_exists b i hi
    rw [cp_rep h1 h2]
    by_cases hlt : cn < (rowOf b rn).length
    · rw [getD_line_lt _ _ hlt]
      exact (rowOf_utf8 hb h1).1 _ (List.getElem_mem hlt)
    · have : cn = (rowOf b rn).length := by omega
      rw [this, getD_line_eq]; exact valid_ten
  · unfold cp
    rw [List.getD_eq_getElem?_getD, List.getElem?_eq_none (by rw [cat_length]; omega)]
    exact valid_ten

theorem colAt_zero_iffU {b : Buf} (hb : Utf8B b) (i : Nat) (hi : i < total b) :
    colAt (flat b) i = 0 ↔ (i = 0 ∨ cp b (i - 1) = 10) := by
  obtain ⟨r, o, rn, cn, rfl, rfl, h1, h2, rfl⟩ := rep_exists b i hi
  rw [colAt_rep h1 h2]
  constructor
  · intro h
    subst h
    cases rn with
    | zero => left; simp
    | succ k =>
      right
      have hs := rowStart_step b k (by omega)
      rw [show rowStart b (k + 1) + 0 - 1 = rowStart b k + (rowOf b k).length by omega]
      exact (cp_rep_nlU hb (by omega) (Nat.le_refl _)).2 rfl
  · intro h
    rcases h with h | h
    · cases rn with
      | zero => simpa using h
      | succ k => have := rowStart_step b k (by omega); omega
    · by_cases hc : cn = 0
      · exact hc
      · rw [show rowStart b rn + cn - 1 = rowStart b rn + (cn - 1) by omega] at h
        have := (cp_rep_nlU hb h1 (by omega : cn - 1 ≤ _)).1 h
        omega

/-! ### the model on a UTF-8 buffer -/
theorem lsOfU_length (b : Buf) : (lsOfU b).length = b.length := by simp [lsOfU]

theorem lineAt_repU (b : Buf) (rn : Nat) (hr : rn < b.length) :
    lineAt (lsOfU b) (rn : Int) = some (encStr (rowOf b rn ++ [10])) := by
  unfold lineAt lsOfU rowOf
  rw [if_neg (by omega)]
  simp [List.getElem?_eq_getElem hr, List.getD]

theorem lineAt_noneU (b : Buf) (r : Int) (hr : r < 0 ∨ (b.length : Int) ≤ r) : lineAt (lsOfU b) r = none := by
  unfold lineAt lsOfU
  split
  · rfl
  · rw [List.getElem?_eq_none]; simp; omega

theorem slenAt_repU {b : Buf} (hb : Utf8B b) (rn : Nat) (hr : rn < b.length) :
    slenAt (lsOfU b) (rn : Int) = ((rowOf b rn).length + 1 : Nat) := by
  unfold slenAt
  rw [lineAt_repU b rn hr]
  simp only []
  rw [Props.C16.slen_spec (Utf8W.line (rowOf_utf8 hb hr))]
  simp

theorem eol_repU {b : Buf} (hb : Utf8B b) (rn : Nat) (hr : rn < b.length) :
    eol (lsOfU b) (rn : Int) = ((rowOf b rn).length : Nat) := by
  rw [eol_closed, slenAt_repU hb rn hr]; omega

theorem drop_byteOff (cs : List Nat) (k : Nat) : (encStr cs).drop (byteOff cs k) = encStr (cs.drop k) :=
  encStr_drop_byteOff cs k

/-- `uc_chr` on an encoded line: the encoding of the rest of the code points -/
theorem chrAt_enc {cs : List Nat} (h : ∀ c ∈ cs, ValidCp c) (k : Nat) (hk : k ≤ cs.length) :
    chrAt (encStr cs) (k : Int) = encStr (cs.drop k) := by
  unfold chrAt
  rw [if_neg (by omega), Int.toNat_natCast, Props.C16.chr_spec h, if_pos hk]
  exact drop_byteOff cs k

theorem chrAt_enc_beyond {cs : List Nat} (h : ∀ c ∈ cs, ValidCp c) (k : Nat) (hk : cs.length < k) :
    chrAt (encStr cs) (k : Int) = [] := by
  unfold chrAt
  rw [if_neg (by omega), Int.toNat_natCast, Props.C16.chr_spec h, if_neg (by omega)]

theorem lbufChr_repU {b : Buf} (hb : Utf8B b) {rn cn : Nat} (hr : rn < b.length) (hc : cn ≤ (rowOf b rn).length) :
    lbufChr (lsOfU b) (rn : Int) (cn : Int) = encStr ((rowOf b rn ++ [10]).drop cn) := by
  unfold lbufChr
  rw [lineAt_repU b rn hr]
  simp only []
  exact chrAt_enc (Utf8W.line (rowOf_utf8 hb hr)) cn (by simp; omega)

theorem drop_getD_cons (l : List Nat) (k : Nat) (hk : k < l.length) : l.drop k = l.getD k 0 :: l.drop (k + 1) := by
  rw [List.drop_eq_getElem_cons hk]
  congr 1
  rw [List.getD_eq_getElem?_getD, List.getElem?_eq_getElem hk]; rfl

/-- the character at a position of the buffer: the encoding of its code point, then the rest of the line -/
theorem lbufChr_cp {b : Buf} (hb : Utf8B b) {r o : Int} {i : Nat} (h : Rep b r o i) :
    ∃ rest, lbufChr (lsOfU b) r o = enc (cp b i) ++ rest := by
  obtain ⟨rn, cn, rfl, rfl, h1, h2, rfl⟩ := h
  rw [lbufChr_repU hb h1 h2, cp_rep h1 h2, drop_getD_cons _ cn (by simp; omega), encStr_cons]
  exact ⟨_, rfl⟩

theorem codeAt_repU {b : Buf} (hb : Utf8B b) {r o : Int} {i : Nat} (h : Rep b r o i) :
    codeAt (lsOfU b) r o = cp b i := by
  obtain ⟨rest, e⟩ := lbufChr_cp hb h
  unfold codeAt
  rw [e, Props.C16.code_enc (cp_validU hb i)]
  rfl

/-- ASCII stays, everything beyond is a letter: the classes of the model depend on the first byte only -/
def prj (x : Nat) : Nat := if x < 128 then x else 97
/-- the projected text of the buffer: below 128 everywhere, same classes and same newlines as `cp b` -/
def cpp (b : Buf) (i : Nat) : Nat := prj (cp b i)

theorem prj_lt (x : Nat) : prj x < 128 := by unfold prj; split <;> omega
theorem prj_low {x : Nat} (h : x < 128) : prj x = x := by unfold prj; rw [if_pos h]
theorem prj_eq_iff (x y : Nat) (hy : y < 128) (hy97 : y ≠ 97) : prj x = y ↔ x = y := by
  unfold prj; split <;> omega
theorem prj_beq_ten (x : Nat) : (prj x == 10) = (x == 10) := by
  rw [Bool.eq_iff_iff, beq_iff_eq, beq_iff_eq]; exact prj_eq_iff x 10 (by omega) (by omega)

theorem cls_prj (x : Nat) : cls (prj x) = cls x := by
  unfold prj
  split
  · rfl
  · next h =>
    have h1 : ¬ (x = 32) := by omega
    have h2 : ¬ (x ≤ 13) := by omega
    have h3 : x > 127 := by omega
    unfold cls
    simp [h1, h2, h3]

theorem clsBig_prj (x : Nat) : clsBig (prj x) = clsBig x := by unfold clsBig; rw [cls_prj]

theorem kk_prj (big : Bool) (x : Nat) : kk big (prj x) = kk big x := by
  cases big
  · exact cls_prj x
  · exact clsBig_prj x

theorem ucKind_high (a : Nat) (h : 192 ≤ a) : ucKind a = 1 := by
  unfold ucKind ucIsSpace ucIsAlpha
  have h1 : ¬ (a ≤ 127) := by omega
  have h2 : a > 127 := by omega
  simp [h1, h2]

theorem ucIsSpace_high (a : Nat) (h : 192 ≤ a) : ucIsSpace a = false := by
  unfold ucIsSpace
  have h1 : ¬ (a ≤ 127) := by omega
  simp [h1]

theorem ucKind_hd_enc {x : Nat} (h : ValidCp x) (rest : Bytes) : ucKind (Bytes.hd (enc x ++ rest)) = ucKind (prj x) := by
  by_cases hx : x < 128
  · rw [hd_enc_low hx, prj_low hx]
  · rw [ucKind_high _ (hd_enc_high h hx rest)]
    unfold prj; rw [if_neg hx]; decide

theorem ucIsSpace_hd_enc {x : Nat} (h : ValidCp x) (rest : Bytes) :
    ucIsSpace (Bytes.hd (enc x ++ rest)) = ucIsSpace (prj x) := by
  by_cases hx : x < 128
  · rw [hd_enc_low hx, prj_low hx]
  · rw [ucIsSpace_high _ (hd_enc_high h hx rest)]
    unfold prj; rw [if_neg hx]; decide

theorem kindAt_repU {b : Buf} (hb : Utf8B b) {r o : Int} {i : Nat} (h : Rep b r o i) :
    kindAt (lsOfU b) r o = ucKind (cpp b i) := by
  obtain ⟨rest, e⟩ := lbufChr_cp hb h
  unfold kindAt cpp
  rw [e, ucKind_hd_enc (cp_validU hb i)]

theorem isSpaceAt_repU {b : Buf} (hb : Utf8B b) {r o : Int} {i : Nat} (h : Rep b r o i) :
    isSpaceAt (lsOfU b) r o = ucIsSpace (cpp b i) := by
  obtain ⟨rest, e⟩ := lbufChr_cp hb h
  unfold isSpaceAt cpp
  rw [e, ucIsSpace_hd_enc (cp_validU hb i)]

theorem code10_repU {b : Buf} (hb : Utf8B b) {r o : Int} {i : Nat} (h : Rep b r o i) :
    (codeAt (lsOfU b) r o == 10) = (cpp b i == 10) := by
  rw [codeAt_repU hb h]; unfold cpp; rw [prj_beq_ten]

/-- the first byte of the character at a position: the code point itself below 128, a lead byte beyond -/
theorem hd_repU {b : Buf} (hb : Utf8B b) {r o : Int} {i : Nat} (h : Rep b r o i) :
    (cp b i < 128 ∧ Bytes.hd (lbufChr (lsOfU b) r o) = cp b i) ∨
    (¬ cp b i < 128 ∧ 192 ≤ Bytes.hd (lbufChr (lsOfU b) r o)) := by
  obtain ⟨rest, e⟩ := lbufChr_cp hb h
  rw [e]
  by_cases hx : cp b i < 128
  · exact Or.inl ⟨hx, hd_enc_low hx rest⟩
  · exact Or.inr ⟨hx, hd_enc_high (cp_validU hb i) hx rest⟩

/-- `lbuf_eol` on an encoded line: the character offset of the newline, and what `$` lands on after `ren_noeol` is
    the reference's last column -/
theorem eol_enc (ls : Lines) (r : Int) (body : List Nat) (hline : lineAt ls r = some (encStr (body ++ [10])))
    (hv : ∀ c ∈ body, ValidCp c) :
    eol ls r = body.length ∧ Ren.renNoeol (encStr (body ++ [10])) (eol ls r) = lastCol body := by
  have hs := valid_line hv
  have hlen : ucSlen (encStr (body ++ [10])) = body.length + 1 := by rw [Props.C16.slen_spec hs]; simp
  have h1 : eol ls r = body.length := by
    rw [eol_of_line ls r _ hline, hlen]; simp
  refine ⟨h1, ?_⟩
  rw [h1, renNoeol_eq]
  have hc : clampOff (encStr (body ++ [10])) (body.length : Int) = body.length := by
    unfold clampOff; rw [hlen, if_neg (by omega)]
  rw [hc]
  have hh : Ren.chrHd (encStr (body ++ [10])) ((body.length : Int)).toNat = 10 := by
    unfold Ren.chrHd
    rw [Int.toNat_natCast, Props.C16.chr_spec hs, if_pos (by simp)]
    simp only []
    rw [drop_byteOff]
    have : (body ++ [10]).drop body.length = [10] := by simp
    rw [this]; decide
  unfold lastCol
  split <;> omega

theorem firstNonBlank_pre (pre rest : List Nat) (x : Nat) (hpre : ∀ b ∈ pre, isBlank b = true)
    (hxb : isBlank x = false) : firstNonBlank (pre ++ x :: rest) = pre.length := by
  unfold firstNonBlank
  rw [range_find_first _ pre.length _ (by simp) (by simp [List.getD, hxb])]
  intro j hj
  have : (pre ++ x :: rest).getD j 0 = pre[j] := by
    simp [List.getD, List.getElem?_append_left hj, List.getElem?_eq_getElem hj]
  rw [this, hpre _ (List.getElem_mem hj)]
  rfl

end Neatvi.Lemmas.C07c
