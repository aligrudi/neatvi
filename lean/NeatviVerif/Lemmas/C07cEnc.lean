import NeatviVerif.Lemmas.C07cSim
import NeatviVerif.Lemmas.C07cPair
/-!
# The scanners of `mot.c` on an encoded buffer

`Enc ls b`: the lines `ls` of the model are the UTF-8 encodings of the rows of the reference buffer `b`
(valid code points, no newline inside a row), each followed by its newline.  Every scanner is compared with
the reference once, for such a pair; `AsciiBuf ls` gives `Enc ls (refBuf ls)` (a byte below 128 is its own
encoding) and `Utf8Buf ls` gives `Enc ls (refBufU ls)`, and the theorems of Props/C07b and Props/C07c are
the two readings.
-/
namespace Neatvi.Lemmas.C07c
open Neatvi Neatvi.Uc Neatvi.Mot Neatvi.Spec Neatvi.Lemmas.C07 Neatvi.Lemmas.C07b Neatvi.Spec.Motion

namespace Enc
variable {ls : Lines} {b : Buf}

theorem idx_isSome_iff (h : Enc ls b) (r o : Int) :
    (∃ i, idxB b r o = some i) ↔ ∃ ln, lineAt ls r = some ln ∧ 0 ≤ o ∧ o < ucSlen ln := by
  obtain ⟨rfl, hb⟩ := h
  constructor
  · rintro ⟨i, hi⟩
    obtain ⟨rn, cn, rfl, rfl, h1, h2, _⟩ := idxB_iff_rep.1 hi
    refine ⟨_, lineAt_repU _ rn h1, by omega, ?_⟩
    rw [Props.C16.slen_spec (Utf8W.line (rowOf_utf8 hb h1))]; simp; omega
  · rintro ⟨ln, h1, h2, h3⟩
    have hr : 0 ≤ r ∧ r.toNat < b.length := by
      unfold lineAt at h1
      split at h1
      · cases h1
      · have := (List.getElem?_eq_some_iff.mp h1).1
        rw [lsOfU_length] at this; omega
    have hl := lineAt_repU b r.toNat hr.2
    rw [show ((r.toNat : Nat) : Int) = r by omega, h1] at hl
    have hlen : ucSlen ln = (rowOf b r.toNat).length + 1 := by
      rw [Option.some.inj hl, Props.C16.slen_spec (Utf8W.line (rowOf_utf8 hb hr.2))]; simp
    exact ⟨_, idxB_iff_rep.2 ⟨r.toNat, o.toNat, by omega, by omega, hr.2, by omega, rfl⟩⟩

theorem next (h : Enc ls b) {r o : Int} {i : Nat} (hi : idxB b r o = some i) :
    (∀ r' o', Mot.next ls 1 r o = some (r', o') ↔ idxB b r' o' = some (i + 1)) ∧
    (Mot.next ls 1 r o = none ↔ i + 1 = (flat b).length) ∧
    (∀ r' o', Mot.next ls (-1) r o = some (r', o') ↔ (0 < i ∧ idxB b r' o' = some (i - 1))) ∧
    (Mot.next ls (-1) r o = none ↔ i = 0) := by
  obtain ⟨rfl, hb⟩ := h
  have hrep := idxB_iff_rep.1 hi
  have hlt := rep_lt hrep
  rw [flat_length]
  simp only [idxB_iff_rep]
  refine and_assoc.mp ⟨?_, ?_⟩
  · by_cases hi1 : i + 1 < total b
    · obtain ⟨r1, o1, e1, hr1⟩ := next_fwd_someU hb hrep hi1
      rw [e1]
      refine ⟨fun r' o' => ⟨fun hh => ?_, fun hh => ?_⟩, fun hh => (by cases hh), fun hh => by omega⟩
      · cases hh; exact hr1
      · obtain ⟨rfl, rfl⟩ := rep_inj hr1 hh; rfl
    · rw [next_fwd_noneU hb hrep (by omega)]
      refine ⟨fun r' o' => ⟨fun hh => (by cases hh), fun hh => ?_⟩, fun _ => by omega, fun _ => rfl⟩
      have := rep_lt hh; omega
  · cases i with
    | zero =>
      rw [next_bwd_noneU hb hrep]
      exact ⟨fun r' o' => ⟨fun hh => (by cases hh), fun hh => by omega⟩, fun _ => rfl, fun _ => rfl⟩
    | succ k =>
      obtain ⟨r1, o1, e1, hr1⟩ := next_bwd_someU hb hrep
      rw [e1]
      refine ⟨fun r' o' => ⟨fun hh => ?_, fun hh => ?_⟩, fun hh => (by cases hh), fun hh => by omega⟩
      · cases hh; exact ⟨by omega, hr1⟩
      · obtain ⟨rfl, rfl⟩ := rep_inj hr1 hh.2; rfl

theorem «class» (h : Enc ls b) {r o : Int} {i : Nat} (hi : idxB b r o = some i) :
    kindAt ls r o = cls (cpAt (flat b) i) ∧
    isSpaceAt ls r o = (cls (cpAt (flat b) i) == 0) ∧
    (if kindAt ls r o = 0 then 0 else 1) = clsBig (cpAt (flat b) i) ∧
    codeAt ls r o = cpAt (flat b) i ∧
    (codeAt ls r o = 10 ↔ ∃ ln, lineAt ls r = some ln ∧ o + 1 = ucSlen ln) ∧
    posAt (flat b) i = ⟨r.toNat, o.toNat⟩ := by
  obtain ⟨rfl, hb⟩ := h
  have hrep := idxB_iff_rep.1 hi
  rw [cpAt_flat]
  have hk := kindAt_repU hb hrep
  have hsp := isSpaceAt_repU hb hrep
  unfold cpp at hk hsp
  rw [ucKind_cls _ (prj_lt _), cls_prj] at hk
  rw [ucIsSpace_cls _ (prj_lt _), cls_prj] at hsp
  refine ⟨hk, hsp, ?_, codeAt_repU hb hrep, ?_, (idxB_pos hi).2.2⟩
  · rw [hk]; unfold clsBig; by_cases hc : cls (cp b i) = 0 <;> simp [hc]
  · rw [codeAt_repU hb hrep]
    obtain ⟨rn, cn, rfl, rfl, h1, h2, rfl⟩ := hrep
    rw [cp_rep_nlU hb h1 h2, lineAt_repU _ rn h1]
    have hs := Props.C16.slen_spec (Utf8W.line (rowOf_utf8 hb h1))
    constructor
    · intro hh
      refine ⟨_, rfl, ?_⟩
      rw [hs]; simp; omega
    · rintro ⟨ln, h3, h4⟩
      cases h3
      rw [hs] at h4
      simp at h4; omega

end Enc

theorem next_same_row (ls : Lines) (d r o o' : Int) (hd : d ≠ 0) (hr : r < ls.length) :
    Mot.next ls d r o = some (r, o') ↔ lnNext ls d r o = some o' := by
  unfold Mot.next
  have hcl : (if (decide (d < 0) && decide (r ≥ (ls.length : Int))) = true then max 0 ((ls.length : Int) - 1) else r) = r := by
    rw [if_neg]; simp only [Bool.and_eq_true, decide_eq_true_eq]; omega
  simp only [hcl]
  cases lnNext ls d r o with
  | some o1 => exact ⟨fun h => by cases h; rfl, fun h => by cases h; rfl⟩
  | none =>
    simp only []
    constructor
    · intro h
      split at h
      · cases h
      · have := (Prod.mk.inj (Option.some.inj h)).1; omega
    · intro h; cases h

namespace Enc
variable {ls : Lines} {b : Buf}

theorem row_lt (h : Enc ls b) {r o : Int} {i : Nat} (hi : idxB b r o = some i) : r < ls.length := by
  obtain ⟨rfl, hb⟩ := h
  obtain ⟨rn, cn, rfl, rfl, h1, _⟩ := idxB_iff_rep.1 hi
  rw [lsOfU_length]; omega

theorem lnNext (h : Enc ls b) {r o : Int} {i : Nat} (hi : idxB b r o = some i) :
    (∀ o', Mot.lnNext ls 1 r o = some o' ↔ idxB b r o' = some (i + 1)) ∧
    (∀ o', Mot.lnNext ls (-1) r o = some o' ↔ (0 < i ∧ idxB b r o' = some (i - 1))) :=
  ⟨fun o' => (next_same_row ls 1 r o o' (by decide) (h.row_lt hi)).symm.trans ((h.next hi).1 r o'),
   fun o' => (next_same_row ls (-1) r o o' (by decide) (h.row_lt hi)).symm.trans ((h.next hi).2.2.1 r o')⟩

end Enc

/-! ## the word motions -/

theorem emptyLineAt_eqU {b : Buf} (hb : Utf8B b) (i : Nat) (hi : i < total b) :
    emptyLineAt (flat b) i = emp (cpp b) i := by
  unfold emptyLineAt emp cpp
  rw [prj_beq_ten, prj_beq_ten, cpAt_flat]
  congr 1
  rw [Bool.eq_iff_iff]
  simp only [beq_iff_eq, Bool.or_eq_true]
  exact colAt_zero_iffU hb i hi

theorem wordStart_eqU {b : Buf} (hb : Utf8B b) (big : Bool) (i : Nat) (hi : i < total b) :
    wordStart (kk big) (flat b) i = ws (kk big) (cpp b) i := by
  unfold wordStart ws
  rw [emptyLineAt_eqU hb i hi, cpAt_flat, cpAt_flat]
  unfold cpp
  rw [kk_prj, kk_prj]

theorem wordEnd_eqU {b : Buf} (hb : Utf8B b) (big : Bool) (i : Nat) (hi : i < total b) :
    wordEnd (kk big) (flat b) i = wen (kk big) (cpp b) (total b) i := by
  unfold wordEnd wen
  rw [emptyLineAt_eqU hb i hi, cpAt_flat, cpAt_flat, flat_length]
  unfold cpp
  rw [kk_prj, kk_prj]

theorem txt_of_repU {b : Buf} (hb : Utf8B b) {r o : Int} {i : Nat} (h : Rep b r o i) : Txt (cpp b) (total b) := by
  have hlt := rep_lt h
  have hne : b ≠ [] := by
    intro h0; subst h0; simp [total] at hlt
  refine ⟨by omega, fun j => prj_lt _, ?_⟩
  have hpos : 0 < b.length := List.length_pos_iff.mpr hne
  have hs := rowStart_step b (b.length - 1) (by omega)
  rw [show b.length - 1 + 1 = b.length by omega, rowStart_len] at hs
  rw [show total b - 1 = rowStart b (b.length - 1) + (rowOf b (b.length - 1)).length by omega]
  unfold cpp
  rw [(cp_rep_nlU hb (by omega) (Nat.le_refl _)).2 rfl]
  rfl

theorem fwd_cases {b : Buf} {res : Bool × Int × Int} {ires : Bool × Nat} (hs : Sim b res ires) (p q : Nat → Bool)
    (i : Nat) (hpq : ∀ j, j < total b → p j = q j)
    (hf : (∃ j, ires = (false, j) ∧ nextWhere (total b) q i = some j) ∨
      (ires = (true, total b - 1) ∧ nextWhere (total b) q i = none)) :
    ∃ fl r' o', res = (fl, r', o') ∧
      (∀ j, nextWhere (total b) p i = some j → fl = false ∧ Rep b r' o' j) ∧
      (nextWhere (total b) p i = none → fl = true ∧ Rep b r' o' (total b - 1)) := by
  rw [nextWhere_congr _ _ _ i hpq]
  obtain ⟨fl, r', o'⟩ := res
  obtain ⟨s1, s2⟩ := hs
  refine ⟨fl, r', o', rfl, ?_⟩
  rcases hf with ⟨j, a1, a2⟩ | ⟨a1, a2⟩
  · rw [a2]; rw [a1] at s1 s2
    exact ⟨fun j' hj' => (by cases hj'; exact ⟨s1, s2⟩), fun hn => (by cases hn)⟩
  · rw [a2]; rw [a1] at s1 s2
    exact ⟨fun j hj => (by cases hj), fun _ => ⟨s1, s2⟩⟩

namespace Enc
variable {ls : Lines} {b : Buf}

/-- one `w` / `W` step: the least index after `i` that starts a word, else failure on the last index -/
theorem wordbeg (h : Enc ls b) (big : Bool) {r o : Int} {i : Nat} (hi : idxB b r o = some i) :
    ∃ fl r' o', Mot.wordbeg ls big 1 r o = (fl, r', o') ∧
      (∀ j, nextWhere (flat b).length (wordStart (if big then clsBig else cls) (flat b)) i = some j →
        fl = false ∧ idxB b r' o' = some j) ∧
      (nextWhere (flat b).length (wordStart (if big then clsBig else cls) (flat b)) i = none →
        fl = true ∧ idxB b r' o' = some ((flat b).length - 1)) := by
  obtain ⟨rfl, hb⟩ := h
  have hrep := idxB_iff_rep.1 hi
  simp only [idxB_iff_rep]
  rw [flat_length, ← kk_eq]
  exact fwd_cases (wb_simU hb big 1 (Or.inl rfl) hrep) _ _ i (fun j hj => wordStart_eqU hb big j hj)
    (wb_fwd (txt_of_repU hb hrep) big i (rep_lt hrep))

/-- one `e` / `E` step -/
theorem wordend_fwd (h : Enc ls b) (big : Bool) {r o : Int} {i : Nat} (hi : idxB b r o = some i) :
    ∃ fl r' o', Mot.wordend ls big 1 r o = (fl, r', o') ∧
      (∀ j, nextWhere (flat b).length (wordEnd (if big then clsBig else cls) (flat b)) i = some j →
        fl = false ∧ idxB b r' o' = some j) ∧
      (nextWhere (flat b).length (wordEnd (if big then clsBig else cls) (flat b)) i = none →
        fl = true ∧ idxB b r' o' = some ((flat b).length - 1)) := by
  obtain ⟨rfl, hb⟩ := h
  have hrep := idxB_iff_rep.1 hi
  simp only [idxB_iff_rep]
  rw [flat_length, ← kk_eq]
  exact fwd_cases (we_simU hb big 1 (Or.inl rfl) hrep) _ _ i (fun j hj => wordEnd_eqU hb big j hj)
    (we_fwd (txt_of_repU hb hrep) big i (rep_lt hrep))

/-- one `b` / `B` step: the greatest index before `i` that starts a word, else index 0; the scanner reports
    failure exactly when it stops at index 0 -/
theorem wordend_back (h : Enc ls b) (big : Bool) {r o : Int} {i : Nat} (hi : idxB b r o = some i) :
    ∃ fl r' o', Mot.wordend ls big (-1) r o = (fl, r', o') ∧
      idxB b r' o' = some ((prevWhere (wordStart (if big then clsBig else cls) (flat b)) i).getD 0) ∧
      (fl = true ↔ (prevWhere (wordStart (if big then clsBig else cls) (flat b)) i).getD 0 = 0) := by
  obtain ⟨rfl, hb⟩ := h
  have hrep := idxB_iff_rep.1 hi
  have hlt := rep_lt hrep
  simp only [idxB_iff_rep]
  rw [← kk_eq, prevWhere_congr _ _ i (fun j hj => wordStart_eqU hb big j (by omega))]
  have hs := we_simU hb big (-1) (Or.inr rfl) hrep
  generalize Mot.wordend (lsOfU b) big (-1) r o = res at hs ⊢
  obtain ⟨fl, r', o'⟩ := res
  obtain ⟨s1, s2⟩ := hs
  simp only [] at s1 s2
  refine ⟨fl, r', o', rfl, ?_⟩
  obtain ⟨fl2, j, a1, a2, a3⟩ := we_bwd (txt_of_repU hb hrep) big i hlt
  rw [a1] at s1 s2
  simp only [] at s1 s2
  rw [a2, s1]
  exact ⟨s2, a3⟩

/-- `%` from any character of the buffer is the reference's `pairOf` -/
theorem pair (h : Enc ls b) {r o : Int} {i : Nat} (hi : idxB b r o = some i) :
    Mot.pair ls r o = (pairOf b ⟨r.toNat, o.toNat⟩).map (fun p => ((p.row : Int), (p.col : Int))) := by
  obtain ⟨rfl, hb⟩ := h
  obtain ⟨rn, cn, rfl, rfl, h1, h2, _⟩ := idxB_iff_rep.1 hi
  simpa using pair_repU hb h1 h2

/-- `}` / `{` are `paraFwd` / `paraBack` on the rows -/
theorem paragraphbeg (h : Enc ls b) (r : Nat) :
    (r ≤ ls.length → Mot.paragraphbeg ls 1 (r : Int) = (((paraFwd b r : Nat) : Int), 0)) ∧
    (r < ls.length → Mot.paragraphbeg ls (-1) (r : Int) = (((paraBack b r : Nat) : Int), 0)) := by
  obtain ⟨rfl, hb⟩ := h
  rw [lsOfU_length, paragraphbeg_lsOfU, paragraphbeg_lsOfU]
  exact ⟨paragraphbeg_fwd b r, paragraphbeg_bwd b r⟩

end Enc

/-! ## the reference's steps on indices, and count 1 -/

/-- the step of the reference's forward word motions, as in `wordFwdRaw` / `wordEndFwdRaw` -/
def stepFwd (p : Nat → Bool) (N : Nat) (i : Nat) : Option Nat :=
  match nextWhere N p i with
  | some j => some j
  | none => if i + 1 < N then some (N - 1) else none

/-- the step of the reference's backward word motion, as in `wordBackRaw` -/
def stepBwd (p : Nat → Bool) (i : Nat) : Option Nat :=
  match prevWhere p i with
  | some j => some j
  | none => if i > 0 then some 0 else none

theorem stepFwd_some {p : Nat → Bool} {N i j : Nat} (h : nextWhere N p i = some j) : stepFwd p N i = some j := by
  unfold stepFwd; rw [h]

theorem stepFwd_none {p : Nat → Bool} {N i : Nat} (h : nextWhere N p i = none) (hi : i < N) :
    (stepFwd p N i).getD i = N - 1 := by
  unfold stepFwd
  rw [h]
  simp only []
  by_cases hl : i + 1 < N
  · rw [if_pos hl]; rfl
  · rw [if_neg hl]; show i = N - 1; omega

theorem stepFwd_last (p : Nat → Bool) (N : Nat) (hN : 0 < N) : stepFwd p N (N - 1) = none := by
  unfold stepFwd
  rw [nextWhere_none N p (N - 1) (fun m m1 m2 => by omega)]
  simp only []
  rw [if_neg (by omega)]

theorem stepBwd_getD (p : Nat → Bool) (i : Nat) : (stepBwd p i).getD i = (prevWhere p i).getD 0 := by
  unfold stepBwd
  cases prevWhere p i with
  | some j => rfl
  | none =>
    simp only []
    by_cases hl : i > 0
    · rw [if_pos hl]; rfl
    · rw [if_neg hl]; show i = 0; omega

theorem stepBwd_zero (p : Nat → Bool) : stepBwd p 0 = none := by
  unfold stepBwd
  rw [prevWhere_none p 0 (fun m hm => by omega)]
  rfl

theorem stepFwd_of_cases {p : Nat → Bool} {N i : Nat} (hlt : i < N) {fl : Bool} {P : Nat → Prop}
    (h1 : ∀ j, nextWhere N p i = some j → fl = false ∧ P j) (h2 : nextWhere N p i = none → fl = true ∧ P (N - 1)) :
    P ((stepFwd p N i).getD i) ∧ (fl = true → stepFwd p N ((stepFwd p N i).getD i) = none) := by
  cases hn : nextWhere N p i with
  | some j =>
    obtain ⟨rfl, hj⟩ := h1 j hn
    rw [stepFwd_some hn]
    exact ⟨hj, fun h => by cases h⟩
  | none =>
    obtain ⟨rfl, hj⟩ := h2 hn
    rw [stepFwd_none hn hlt]
    exact ⟨hj, fun _ => stepFwd_last p N (by omega)⟩

theorem iter_one (s : Nat → Option Nat) (i : Nat) : iter s 1 i = (s i).getD i := by
  unfold iter
  cases s i <;> rfl

theorem wordFwdRaw_eq (big : Bool) {b : Buf} {r o : Int} {i : Nat} (hi : idxB b r o = some i) (cnt : Nat) :
    wordFwdRaw big b ⟨r.toNat, o.toNat⟩ cnt =
      posAt (flat b) (iter (stepFwd (wordStart (if big then clsBig else cls) (flat b)) (flat b).length) cnt i) := by
  unfold wordFwdRaw
  simp only []
  rw [idxB_indexOf hi]
  rfl

theorem wordEndFwdRaw_eq (big : Bool) {b : Buf} {r o : Int} {i : Nat} (hi : idxB b r o = some i) (cnt : Nat) :
    wordEndFwdRaw big b ⟨r.toNat, o.toNat⟩ cnt =
      posAt (flat b) (iter (stepFwd (wordEnd (if big then clsBig else cls) (flat b)) (flat b).length) cnt i) := by
  unfold wordEndFwdRaw
  simp only []
  rw [idxB_indexOf hi]
  rfl

theorem wordBackRaw_eq (big : Bool) {b : Buf} {r o : Int} {i : Nat} (hi : idxB b r o = some i) (cnt : Nat) :
    wordBackRaw big b ⟨r.toNat, o.toNat⟩ cnt =
      posAt (flat b) (iter (stepBwd (wordStart (if big then clsBig else cls) (flat b))) cnt i) := by
  unfold wordBackRaw
  simp only []
  rw [idxB_indexOf hi]
  rfl

namespace Enc
variable {ls : Lines} {b : Buf}

/-- `w` / `W` with count 1: the scanner stops where the reference motion lands, failure or not -/
theorem wordFwdRaw_one (h : Enc ls b) (big : Bool) {r o : Int} {i : Nat} (hi : idxB b r o = some i) :
    ∃ fl r' o', Mot.wordbeg ls big 1 r o = (fl, r', o') ∧ 0 ≤ r' ∧ 0 ≤ o' ∧
      wordFwdRaw big b ⟨r.toNat, o.toNat⟩ 1 = ⟨r'.toNat, o'.toNat⟩ := by
  obtain ⟨fl, r', o', e, h1, h2⟩ := h.wordbeg big hi
  obtain ⟨p1, p2, p3⟩ := idxB_pos (stepFwd_of_cases (P := fun j => idxB b r' o' = some j) (idxB_lt hi) h1 h2).1
  exact ⟨fl, r', o', e, p1, p2, by rw [wordFwdRaw_eq big hi, iter_one]; exact p3⟩

theorem wordEndFwdRaw_one (h : Enc ls b) (big : Bool) {r o : Int} {i : Nat} (hi : idxB b r o = some i) :
    ∃ fl r' o', Mot.wordend ls big 1 r o = (fl, r', o') ∧ 0 ≤ r' ∧ 0 ≤ o' ∧
      wordEndFwdRaw big b ⟨r.toNat, o.toNat⟩ 1 = ⟨r'.toNat, o'.toNat⟩ := by
  obtain ⟨fl, r', o', e, h1, h2⟩ := h.wordend_fwd big hi
  obtain ⟨p1, p2, p3⟩ := idxB_pos (stepFwd_of_cases (P := fun j => idxB b r' o' = some j) (idxB_lt hi) h1 h2).1
  exact ⟨fl, r', o', e, p1, p2, by rw [wordEndFwdRaw_eq big hi, iter_one]; exact p3⟩

theorem wordBackRaw_one (h : Enc ls b) (big : Bool) {r o : Int} {i : Nat} (hi : idxB b r o = some i) :
    ∃ fl r' o', Mot.wordend ls big (-1) r o = (fl, r', o') ∧ 0 ≤ r' ∧ 0 ≤ o' ∧
      wordBackRaw big b ⟨r.toNat, o.toNat⟩ 1 = ⟨r'.toNat, o'.toNat⟩ := by
  obtain ⟨fl, r', o', e, hj, _⟩ := h.wordend_back big hi
  rw [← stepBwd_getD] at hj
  obtain ⟨p1, p2, p3⟩ := idxB_pos hj
  exact ⟨fl, r', o', e, p1, p2, by rw [wordBackRaw_eq big hi, iter_one]; exact p3⟩

end Enc

end Neatvi.Lemmas.C07c
