import NeatviVerif.Lemmas.C07cBuf
import NeatviVerif.Lemmas.C07Find
/-!
# C07c: `lbuf_findchar` on a valid UTF-8 line against `Spec.Motion.findChar`

The line is `encStr cs`; positions are character offsets; `occF` / `occB` of `Lemmas/C07Find` are used
over the list of code points, and the scan is `C07.go_fwd` / `go_bwd` there, which only ask for the code
point at each offset of the line (`codeAt_enc`).
-/
set_option linter.unusedVariables false
namespace Neatvi.Lemmas.C07c
open Neatvi Neatvi.Uc Neatvi.Mot Neatvi.Spec Neatvi.Lemmas.C07

theorem codeAt_enc {cs : List Nat} (h : ∀ c ∈ cs, ValidCp c) (p : Int) (h0 : 0 ≤ p) (h1 : p ≤ cs.length) :
    (ucCode (chrAt (encStr cs) p)).getD 0 = cs.getD p.toNat 0 := by
  obtain ⟨k, rfl⟩ : ∃ k : Nat, p = (k : Int) := ⟨p.toNat, by omega⟩
  rw [Int.toNat_natCast, chrAt_enc h k (by omega)]
  by_cases hk : k < cs.length
  · rw [drop_getD_cons cs k hk, encStr_cons]
    have hv : ValidCp (cs.getD k 0) := by
      rw [List.getD_eq_getElem?_getD, List.getElem?_eq_getElem hk]
      exact h _ (List.getElem_mem hk)
    rw [Props.C16.code_enc hv]; rfl
  · rw [List.drop_eq_nil_of_le (by omega), List.getD_eq_getElem?_getD, List.getElem?_eq_none (by omega)]
    rfl

theorem code_enc_self {c : Nat} (h : c < 0x110000) : (ucCode (enc c)).getD 0 = c := by
  rcases Nat.eq_zero_or_pos c with rfl | h0
  · decide
  have := Props.C16.code_enc ⟨h0, h⟩ []
  rw [List.append_nil] at this
  rw [this]; rfl

/-- what `lbuf_findchar` returns from the final state `(p, k)` of its scan -/
def fcRes (len : Int) (dir : Int) (till : Bool) : Int × Int → Option Int
  | (p, k) => if (k != 0) = true then none else
      some (if till = true then ((stepdOf len) p (-dir)).getD p else p)

/-- the direction of the scan: that of the command, reversed for a negative count (`,`) -/
def fcDir (cmd : Nat) (n : Int) : Int :=
  if n < 0 then -(if (cmd == 102 || cmd == 116) = true then 1 else -1)
  else (if (cmd == 102 || cmd == 116) = true then 1 else -1)

theorem fcDir_eq (cmd : Nat) (n : Int) (hn : n ≠ 0) :
    fcDir cmd n = if ((cmd == 102 || cmd == 116) == decide (0 < n)) = true then 1 else -1 := by
  unfold fcDir
  by_cases hneg : n < 0
  · rw [if_pos hneg, decide_eq_false (show ¬ 0 < n by omega)]
    cases (cmd == 102 || cmd == 116) <;> rfl
  · rw [if_neg hneg, decide_eq_true (show 0 < n by omega)]
    cases (cmd == 102 || cmd == 116) <;> rfl

theorem findchar_eqU (ls : Lines) (r : Int) (cs : List Nat) (hline : lineAt ls r = some (encStr cs))
    (hs : ∀ c ∈ cs, ValidCp c) (c : Nat) (hc : c < 0x110000) (cmd : Nat) (n : Int) (o : Int) :
    findchar ls (enc c) cmd n r o =
      fcRes cs.length (fcDir cmd n) (cmd == 116 || cmd == 84)
        (findchar.go (encStr cs) (fcDir cmd n) c (stepdOf cs.length) ((encStr cs).length + 2)
          (if o < cs.length then o else cs.length) (if n < 0 then -n else n)) := by
  unfold findchar
  rw [hline]
  simp only []
  rw [Props.C16.slen_spec hs, code_enc_self hc]
  rfl

theorem go_stuck (ln : Bytes) (dir : Int) (want : Nat) (len : Int) (f : Nat) (p k : Int)
    (h : stepdOf len p dir = none) : findchar.go ln dir want (stepdOf len) f p k = (p, k) := by
  cases f with
  | zero => unfold findchar.go; rfl
  | succ f =>
    unfold findchar.go
    by_cases hk : k ≤ 0
    · rw [if_pos hk]
    · rw [if_neg hk, h]

theorem occB_lineU (w : List Nat) (c p : Nat) (hc : c = 10 → p ≤ w.length) (hp : p ≤ w.length + 1) :
    occB (w ++ [10]) c p = ((List.range (min p w.length)).filter (fun j => w.getD j 0 == c)).reverse := by
  by_cases hp' : p ≤ w.length
  · exact occB_line w c p hp'
  · have : p = w.length + 1 := by omega
    subst this
    rw [occB_step, getD_snoc_eq]
    have : (10 == c) = false := by
      simp only [beq_eq_false_iff_ne, ne_eq]
      intro h; have := hc h.symm; omega
    rw [this]
    simp only [Bool.false_eq_true, if_false, List.nil_append]
    rw [occB_line w c w.length (Nat.le_refl _)]
    congr 3
    omega

/-- from what the scan proved about its final state `(p, k')` to the result of `lbuf_findchar`: the `n`-th
    occurrence, one step back towards the cursor for `t` / `T` -/
theorem fcRes_occ (len : Int) (fwd till : Bool) (occ : List Nat) (n : Nat) (p k' : Int)
    (g1 : k' = 0 → 0 ≤ p ∧ occ[n]? = some p.toNat) (g2 : k' ≠ 0 → occ[n]? = none)
    (hst : k' = 0 → stepdOf len p (-(if fwd then 1 else -1)) = some (if fwd then p - 1 else p + 1) ∧
      (fwd = true → 1 ≤ p)) :
    (fcRes len (if fwd then 1 else -1) till (p, k')).map Int.toNat =
      (match occ[n]? with
        | none => none
        | some j => some (if till then (if fwd then j - 1 else j + 1) else j)) ∧
    ∀ q, fcRes len (if fwd then 1 else -1) till (p, k') = some q → 0 ≤ q := by
  by_cases hk0 : k' = 0
  · obtain ⟨p0, hocc⟩ := g1 hk0
    obtain ⟨hs, hp1⟩ := hst hk0
    have hkb : (k' != 0) = false := by simp [hk0]
    simp only [fcRes, hkb, Bool.false_eq_true, if_false]
    rw [hocc, hs]
    simp only [Option.getD_some, Option.map_some]
    cases till
    · exact ⟨rfl, fun q hq => by cases hq; exact p0⟩
    · cases fwd
      · exact ⟨congrArg some (by simp only [if_true, Bool.false_eq_true, if_false]; omega),
          fun q hq => by cases hq; simp only [Bool.false_eq_true, if_false]; omega⟩
      · have := hp1 rfl
        exact ⟨congrArg some (by simp only [if_true]; omega), fun q hq => by cases hq; simp only [if_true]; omega⟩
  · have hkb : (k' != 0) = true := by simp [hk0]
    simp only [fcRes, hkb, if_true]
    rw [g2 hk0]
    exact ⟨rfl, fun q hq => by cases hq⟩

/-- forward scan (`f`, `t`, and `F`, `T` with a negative count) from character `s` of the line, which may
    be the terminator -/
theorem fc_fwd (w : List Nat) (hw : ∀ c ∈ w, ValidCp c) (c : Nat) (hc10 : c ≠ 10) (till : Bool) (k : Int) (hk : 0 < k)
    (s : Nat) (hs : s ≤ w.length + 1) (F : Nat) (hF : w.length + 1 ≤ F) :
    (fcRes ((w ++ [10]).length : Nat) 1 till
      (findchar.go (encStr (w ++ [10])) 1 c (stepdOf ((w ++ [10]).length : Nat)) F s k)).map Int.toNat =
      Spec.Motion.findChar w s c true till k.toNat ∧
    ∀ q, fcRes ((w ++ [10]).length : Nat) 1 till
      (findchar.go (encStr (w ++ [10])) 1 c (stepdOf ((w ++ [10]).length : Nat)) F s k) = some q → 0 ≤ q := by
  have hv := valid_line hw
  have hlen : (w ++ [10]).length = w.length + 1 := by simp
  have hcnt : (k.toNat == 0) = false := by simp; omega
  by_cases hs' : s ≤ w.length
  · cases hgo : findchar.go (encStr (w ++ [10])) 1 c (stepdOf ((w ++ [10]).length : Nat)) F s k with
    | mk p k' =>
      obtain ⟨g1, g2⟩ := C07.go_fwd _ (w ++ [10]) (codeAt_enc hv) c _ s k (by omega) (by rw [hlen]; omega) (by omega) p k' hgo
      unfold Spec.Motion.findChar
      simp only [hcnt, Bool.false_eq_true, if_false, if_true]
      rw [← occF_line w c s hc10]
      refine fcRes_occ _ true till _ _ p k' g1 g2 (fun hk0 => ?_)
      have hmem := occF_mem _ _ _ _ (List.mem_of_getElem? (g1 hk0).2)
      have p0 := (g1 hk0).1
      refine ⟨?_, fun _ => by omega⟩
      show stepdOf _ p (-1) = some (p - 1)
      unfold stepdOf
      rw [if_pos (by omega), if_neg (by omega)]
  · have hse : s = w.length + 1 := by omega
    have hst : stepdOf ((w ++ [10]).length : Nat) (s : Int) 1 = none := by
      unfold stepdOf; rw [if_neg (by omega), if_pos (by rw [hlen]; omega)]
    rw [go_stuck _ _ _ _ _ _ _ hst]
    have hkb : (k != 0) = true := by simp; omega
    simp only [fcRes, hkb, if_true]
    unfold Spec.Motion.findChar
    simp only [hcnt, Bool.false_eq_true, if_false, if_true]
    have hnil : (List.range w.length).filter (fun j => decide (j > s) && w.getD j 0 == c) = [] := by
      rw [List.filter_eq_nil_iff]
      intro j hj
      simp only [List.mem_range] at hj
      have : decide (j > s) = false := by simp; omega
      simp [this]
    rw [hnil]
    exact ⟨rfl, fun q hq => by cases hq⟩

/-- backward scan (`F`, `T`, and `f`, `t` with a negative count) from character `s` of the line, which may
    be the terminator -/
theorem fc_bwd (w : List Nat) (hw : ∀ c ∈ w, ValidCp c) (c : Nat) (till : Bool) (k : Int) (hk : 0 < k)
    (s : Nat) (hs : s ≤ w.length + 1) (hc10 : c = 10 → s ≤ w.length) (F : Nat) (hF : w.length + 1 ≤ F) :
    (fcRes ((w ++ [10]).length : Nat) (-1) till
      (findchar.go (encStr (w ++ [10])) (-1) c (stepdOf ((w ++ [10]).length : Nat)) F s k)).map Int.toNat =
      Spec.Motion.findChar w s c false till k.toNat ∧
    ∀ q, fcRes ((w ++ [10]).length : Nat) (-1) till
      (findchar.go (encStr (w ++ [10])) (-1) c (stepdOf ((w ++ [10]).length : Nat)) F s k) = some q → 0 ≤ q := by
  have hv := valid_line hw
  have hlen : (w ++ [10]).length = w.length + 1 := by simp
  have hcnt : (k.toNat == 0) = false := by simp; omega
  cases hgo : findchar.go (encStr (w ++ [10])) (-1) c (stepdOf ((w ++ [10]).length : Nat)) F s k with
  | mk p k' =>
    obtain ⟨g1, g2⟩ := C07.go_bwd _ (w ++ [10]) (codeAt_enc hv) c _ s k (by omega) (by rw [hlen]; omega) (by omega) p k' hgo
    unfold Spec.Motion.findChar
    simp only [hcnt, Bool.false_eq_true, if_false]
    rw [← occB_lineU w c s hc10 hs]
    refine fcRes_occ _ false till _ _ p k' g1 g2 (fun hk0 => ?_)
    obtain ⟨p0, hocc⟩ := g1 hk0
    have hmem : p.toNat < w.length := by
      have h1 := List.mem_of_getElem? hocc
      rw [occB_lineU w c s hc10 hs] at h1
      have h2 := (List.mem_filter.mp (List.mem_reverse.mp h1)).1
      simp only [List.mem_range] at h2
      omega
    refine ⟨?_, fun h => by cases h⟩
    show stepdOf _ p (- -1) = some (p + 1)
    unfold stepdOf
    rw [if_neg (by omega), if_neg (by omega)]

theorem findChar_clamp (l : List Nat) (col col' : Nat) (h : l.length ≤ col) (h' : l.length ≤ col') (c : Nat)
    (fwd till : Bool) (cnt : Nat) :
    Spec.Motion.findChar l col c fwd till cnt = Spec.Motion.findChar l col' c fwd till cnt := by
  unfold Spec.Motion.findChar
  have e1 : (List.range l.length).filter (fun j => decide (j > col) && l.getD j 0 == c) =
      (List.range l.length).filter (fun j => decide (j > col') && l.getD j 0 == c) := by
    apply List.filter_congr
    intro j hj
    simp only [List.mem_range] at hj
    have a : decide (j > col) = false := by simp; omega
    have b : decide (j > col') = false := by simp; omega
    rw [a, b]
  rw [e1, Nat.min_eq_right h, Nat.min_eq_right h']

/-- **`lbuf_findchar` on a line of valid code points, in full**: any non-zero count (negative: the reversed search
    of `,`), any non-negative offset (also beyond the line), any target below 0x110000.  The newline as target only
    backward from a cursor on the line: forward, and backward from beyond the line, the scan meets the terminator,
    which the reference line does not have. -/
theorem findchar_allU (ls : Lines) (r : Int) (w : List Nat) (hline : lineAt ls r = some (encStr (w ++ [10])))
    (hw : ∀ c ∈ w, ValidCp c) (c : Nat) (hc : c < 0x110000) (cmd : Nat)
    (hcmd : cmd = 102 ∨ cmd = 70 ∨ cmd = 116 ∨ cmd = 84) (n : Int) (hn : n ≠ 0) (o : Int) (ho : 0 ≤ o)
    (hc10 : c = 10 → ((cmd == 102 || cmd == 116) == decide (0 < n)) = false ∧ o ≤ w.length) :
    (findchar ls (enc c) cmd n r o).map Int.toNat =
      Spec.Motion.findChar w o.toNat c ((cmd == 102 || cmd == 116) == decide (0 < n)) (cmd == 116 || cmd == 84)
        n.natAbs ∧
    ∀ p, findchar ls (enc c) cmd n r o = some p → 0 ≤ p := by
  have hv := valid_line hw
  have hlen : (w ++ [10]).length = w.length + 1 := by simp
  have hbytes := encStr_length_ge (w ++ [10])
  rw [findchar_eqU ls r _ hline hv c hc cmd n o]
  -- the start of the scan
  obtain ⟨s, hs1, hs2, hs3⟩ : ∃ s : Nat, (if o < ((w ++ [10]).length : Nat) then o else (((w ++ [10]).length : Nat) : Int)) = (s : Int) ∧
      s ≤ w.length + 1 ∧ Spec.Motion.findChar w o.toNat c ((cmd == 102 || cmd == 116) == decide (0 < n))
        (cmd == 116 || cmd == 84) n.natAbs = Spec.Motion.findChar w s c ((cmd == 102 || cmd == 116) == decide (0 < n))
        (cmd == 116 || cmd == 84) n.natAbs := by
    by_cases hol : o < ((w ++ [10]).length : Nat)
    · refine ⟨o.toNat, by rw [if_pos hol]; omega, by rw [hlen] at hol; omega, rfl⟩
    · refine ⟨w.length + 1, by rw [if_neg hol, hlen], Nat.le_refl _, ?_⟩
      apply findChar_clamp
      · rw [hlen] at hol; omega
      · omega
  rw [hs1, hs3]
  have hkk : (if n < 0 then -n else n) = ((n.natAbs : Nat) : Int) := by split <;> omega
  have hk0 : (0 : Int) < ((n.natAbs : Nat) : Int) := by omega
  have hkt : (((n.natAbs : Nat) : Int)).toNat = n.natAbs := by omega
  rw [hkk]
  rw [fcDir_eq cmd n hn]
  cases hfw : ((cmd == 102 || cmd == 116) == decide (0 < n)) with
  | true =>
    have hne : c ≠ 10 := fun h10 => by have := (hc10 h10).1; rw [hfw] at this; cases this
    have := fc_fwd w hw c hne (cmd == 116 || cmd == 84) _ hk0 s hs2 ((encStr (w ++ [10])).length + 2)
      (by rw [hlen] at hbytes; omega)
    rw [hkt] at this
    exact this
  | false =>
    have hs0 : c = 10 → s ≤ w.length := fun h10 => by
      have ho' := (hc10 h10).2
      rw [if_pos (by rw [hlen]; omega)] at hs1
      omega
    have := fc_bwd w hw c (cmd == 116 || cmd == 84) _ hk0 s hs2 hs0 ((encStr (w ++ [10])).length + 2)
      (by rw [hlen] at hbytes; omega)
    rw [hkt] at this
    exact this

end Neatvi.Lemmas.C07c
