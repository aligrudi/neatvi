import NeatviVerif.Lemmas.C07cSim
import NeatviVerif.Lemmas.C07bPair
import NeatviVerif.Lemmas.C07bPara
/-!
# C07c: `lbuf_pair` (`%`) and `lbuf_paragraphbeg` on a valid UTF-8 buffer

`lbuf_pair` compares *first bytes* with the ASCII brackets; the first byte of a multi-byte character is
a lead byte (≥ 192), never a bracket, so the scan agrees with the reference on code points.
`lbuf_paragraphbeg` only asks which lines are `"\n"`: it does not depend on the encoding at all.
-/
namespace Neatvi.Lemmas.C07c
open Neatvi Neatvi.Uc Neatvi.Mot Neatvi.Spec Neatvi.Spec.Motion Neatvi.Lemmas.C07 Neatvi.Lemmas.C07b

theorem encStr_eq_nil {w : List Nat} (h : encStr w = []) : w = [] := by
  have := encStr_length_ge w
  rw [h] at this
  exact List.eq_nil_of_length_eq_zero (Nat.le_zero.mp this)

theorem blank_line_iff (w : List Nat) : (encStr (w ++ [10]) = [10]) ↔ w = [] := by
  rw [encStr_append, show encStr [10] = [10] by decide]
  constructor
  · intro h
    apply encStr_eq_nil
    have : encStr w ++ [10] = [] ++ [10] := by rw [h]; rfl
    exact List.append_cancel_right this
  · intro h; subst h; rfl

theorem isBlank_lsOfU (b : Buf) (r : Int) :
    (lineAt (lsOfU b) r == some [10]) = (lineAt (lsOf b) r == some [10]) := by
  by_cases hr : r < 0 ∨ (b.length : Int) ≤ r
  · rw [lineAt_noneU b r hr, lineAt_none b r hr]
  · obtain ⟨rn, rfl⟩ : ∃ rn : Nat, r = (rn : Int) := ⟨r.toNat, by omega⟩
    have h1 : rn < b.length := by omega
    rw [lineAt_repU b rn h1, lineAt_rep b rn h1]
    rw [Bool.eq_iff_iff]
    simp only [beq_iff_eq, Option.some.injEq]
    rw [blank_line_iff]
    constructor
    · intro h; rw [h]; rfl
    · intro h
      have : rowOf b rn ++ [10] = [] ++ [10] := by simpa using h
      exact List.append_cancel_right this

theorem paragraphbeg_lsOfU (b : Buf) (dir r : Int) : paragraphbeg (lsOfU b) dir r = paragraphbeg (lsOf b) dir r := by
  have hf : (fun r => lineAt (lsOfU b) r == some [10]) = (fun r => lineAt (lsOf b) r == some [10]) :=
    funext (isBlank_lsOfU b)
  have hl : (lsOfU b).length = (lsOf b).length := by simp [lsOfU, lsOf]
  unfold paragraphbeg
  simp only []
  rw [hf, hl]

/-! ### the scan for a bracket on the line -/
theorem openOf_high (c : Nat) (h : 126 ≤ c) : openOf c = none := by
  unfold openOf
  have h1 : (c == 40) = false := by simp; omega
  have h2 : (c == 41) = false := by simp; omega
  have h3 : (c == 91) = false := by simp; omega
  have h4 : (c == 93) = false := by simp; omega
  have h5 : (c == 123) = false := by simp; omega
  have h6 : (c == 125) = false := by simp; omega
  simp [h1, h2, h3, h4, h5, h6]

theorem lbufChr_endU {b : Buf} (hb : Utf8B b) {rn : Nat} (hr : rn < b.length) :
    lbufChr (lsOfU b) (rn : Int) (((rowOf b rn).length + 1 : Nat) : Int) = [] := by
  unfold lbufChr
  rw [lineAt_repU b rn hr]
  simp only []
  rw [chrAt_enc (Utf8W.line (rowOf_utf8 hb hr)) _ (by simp)]
  rw [List.drop_eq_nil_of_le (by simp)]
  rfl

theorem hd_rowU {b : Buf} (hb : Utf8B b) {rn o : Nat} (hr : rn < b.length) (ho : o < (rowOf b rn).length) :
    ValidCp (rowOf b rn)[o] ∧
    (((rowOf b rn)[o] < 128 ∧ Bytes.hd (lbufChr (lsOfU b) (rn : Int) (o : Int)) = (rowOf b rn)[o]) ∨
     (¬ (rowOf b rn)[o] < 128 ∧ 192 ≤ Bytes.hd (lbufChr (lsOfU b) (rn : Int) (o : Int)))) := by
  have hrep : Rep b (rn : Int) (o : Int) (rowStart b rn + o) := ⟨rn, o, rfl, rfl, hr, by omega, rfl⟩
  have hcp : cp b (rowStart b rn + o) = (rowOf b rn)[o] := by
    rw [cp_rep hr (by omega), getD_line_lt _ _ ho]
  have := hd_repU hb hrep
  rw [hcp] at this
  exact ⟨(rowOf_utf8 hb hr).1 _ (List.getElem_mem ho), this⟩

theorem pfind_specU {b : Buf} (hb : Utf8B b) (rn : Nat) (hr : rn < b.length) :
    ∀ f (o : Nat), o ≤ (rowOf b rn).length + 1 → (rowOf b rn).length + 2 ≤ o + f →
      pair.find (lsOfU b) (rn : Int) [40, 41, 91, 93, 123, 125] f (o : Int) =
        (match (List.range (rowOf b rn).length).find?
            (fun j => decide (j ≥ o) && (openOf ((rowOf b rn).getD j 0)).isSome) with
          | some j => some ((j : Int), (rowOf b rn).getD j 0)
          | none => none) := by
  intro f
  induction f with
  | zero => intro o h1 h2; omega
  | succ f ih =>
    intro o h1 h2
    unfold pair.find
    simp only []
    by_cases ho : o < (rowOf b rn).length
    · have hg : (rowOf b rn).getD o 0 = (rowOf b rn)[o] := by
        simp [List.getD, List.getElem?_eq_getElem ho]
      obtain ⟨hv, hh⟩ := hd_rowU hb hr ho
      rcases hh with ⟨hlow, hhd⟩ | ⟨hhigh, hhd⟩
      · rw [hhd]
        rw [if_neg (by have := hv.1; simp; omega), contains_openOf]
        by_cases hbr : (openOf (rowOf b rn)[o]).isSome = true
        · rw [if_pos hbr, findFrom_hit _ _ o ho (by rw [hg]; exact hbr)]
          simp only []
          rw [hg]
        · rw [if_neg hbr, findFrom_skip _ _ o (by rw [hg]; simpa using hbr)]
          rw [show ((o : Int) + 1) = ((o + 1 : Nat) : Int) by omega]
          exact ih (o + 1) (by omega) (by omega)
      · generalize Bytes.hd (lbufChr (lsOfU b) (rn : Int) (o : Int)) = a at hhd
        rw [if_neg (by simp; omega), contains_openOf, openOf_high a (by omega)]
        rw [if_neg (by simp)]
        rw [findFrom_skip _ _ o (by rw [hg, openOf_high _ (by omega)]; rfl)]
        rw [show ((o : Int) + 1) = ((o + 1 : Nat) : Int) by omega]
        exact ih (o + 1) (by omega) (by omega)
    · rw [findFrom_end _ _ o (by omega)]
      simp only []
      by_cases ho' : o = (rowOf b rn).length
      · subst ho'
        rw [lbufChr_repU hb hr (Nat.le_refl _)]
        have : (rowOf b rn ++ [10]).drop (rowOf b rn).length = [10] := by simp
        rw [this]
        rw [show Bytes.hd (encStr [10]) = 10 by decide]
        rw [if_neg (by decide), if_neg (by decide)]
        rw [show (((rowOf b rn).length : Int) + 1) = (((rowOf b rn).length + 1 : Nat) : Int) by omega]
        rw [ih _ (by omega) (by omega), findFrom_end _ _ _ (by omega)]
      · have : o = (rowOf b rn).length + 1 := by omega
        subst this
        rw [lbufChr_endU hb hr]
        simp

/-! ### the search for the partner -/
theorem mstep_hd (pchr other : Nat) (hp : pchr < 128) (ho : other < 128) (a x : Nat) (dep : Int)
    (h : (x < 128 ∧ a = x) ∨ (¬ x < 128 ∧ 192 ≤ a)) : mstep pchr other a dep = mstep pchr other x dep := by
  rcases h with ⟨_, rfl⟩ | ⟨h1, h2⟩
  · rfl
  · unfold mstep
    have e1 : (a == other) = false := by simp; omega
    have e2 : (a == pchr) = false := by simp; omega
    have e3 : (x == other) = false := by simp; omega
    have e4 : (x == pchr) = false := by simp; omega
    simp [e1, e2, e3, e4]

theorem pgo_simU {b : Buf} (hb : Utf8B b) (pchr other : Nat) (hp : pchr < 128) (ho : other < 128) (d : Int)
    (hd : d = 1 ∨ d = -1) (F : Nat) :
    ∀ (f : Nat) {r o : Int} {i : Nat} (dep : Int), rem (total b) d i < F → rem (total b) d i < f → Rep b r o i →
      SimP b (pair.go (lsOfU b) pchr other d F r o dep) (pgo (cp b) (total b) pchr other d f i dep) := by
  induction F with
  | zero => intro f r o i dep h1; omega
  | succ F ih =>
    intro f r o i dep h1 h2 h
    cases f with
    | zero => omega
    | succ f =>
      unfold pair.go pgo
      rcases next_casesU hb d hd h with ⟨e0, hx⟩ | ⟨r', o', j, e, hx, hr⟩
      · rw [e0, hx]; trivial
      · rw [e, hx]
        simp only []
        have hm := mstep_hd pchr other hp ho (Bytes.hd (lbufChr (lsOfU b) r' o')) (cp b j) dep
          (hd_repU hb hr)
        show SimP b (if (mstep pchr other (Bytes.hd (lbufChr (lsOfU b) r' o')) dep == 0) = true then some (r', o')
            else pair.go (lsOfU b) pchr other d F r' o' (mstep pchr other (Bytes.hd (lbufChr (lsOfU b) r' o')) dep))
          (if (mstep pchr other (cp b j) dep == 0) = true then some j
            else pgo (cp b) (total b) pchr other d f j (mstep pchr other (cp b j) dep))
        rw [hm]
        by_cases hz : (mstep pchr other (cp b j) dep == 0) = true
        · rw [if_pos hz, if_pos hz]; exact hr
        · rw [if_neg hz, if_neg hz]
          have := nxt_rem hx
          exact ih f _ (by omega) (by omega) hr

theorem openOf_lt {c p : Nat} {o : Bool} (h : openOf c = some (p, o)) : c < 128 ∧ p < 128 := by
  rcases openOf_cases h with ⟨rfl, rfl, _⟩ | ⟨rfl, rfl, _⟩ | ⟨rfl, rfl, _⟩ | ⟨rfl, rfl, _⟩ | ⟨rfl, rfl, _⟩ |
    ⟨rfl, rfl, _⟩ <;> omega

/-- **`%` on a valid UTF-8 buffer**, from any character of the buffer -/
theorem pair_repU {b : Buf} (hb : Utf8B b) {rn cn : Nat} (hr : rn < b.length) (hc : cn ≤ (rowOf b rn).length) :
    pair (lsOfU b) (rn : Int) (cn : Int) =
      (pairOf b ⟨rn, cn⟩).map (fun p => ((p.row : Int), (p.col : Int))) := by
  unfold pair pairOf
  simp only []
  rw [slenAt_repU hb rn hr, getElem?_rowOf b rn hr]
  simp only []
  rw [pfind_specU hb rn hr _ cn (by omega) (by simp; omega)]
  cases hfind : (List.range (rowOf b rn).length).find?
      (fun j => decide (j ≥ cn) && (openOf ((rowOf b rn).getD j 0)).isSome) with
  | none => rfl
  | some j =>
    simp only []
    have hj : j < (rowOf b rn).length := by
      have := List.mem_of_find?_eq_some hfind
      simpa using this
    have hop := List.find?_some hfind
    simp only [Bool.and_eq_true] at hop
    cases hopen : openOf ((rowOf b rn).getD j 0) with
    | none => rw [hopen] at hop; simp at hop
    | some po =>
      obtain ⟨partner, opening⟩ := po
      simp only []
      obtain ⟨f1, f2, f3⟩ := bracket_facts hopen
      obtain ⟨l1, l2⟩ := openOf_lt hopen
      rw [f1, f2, indexOf_rep hr (by omega : j ≤ (rowOf b rn).length)]
      simp only []
      have hB := foldl_totalU b
      generalize (lsOfU b).foldl (fun a l => a + l.length) 0 = B at hB ⊢
      have hrep : Rep b (rn : Int) (j : Int) (rowStart b rn + j) := ⟨rn, j, rfl, rfl, hr, by omega, rfl⟩
      have hlt := rep_lt hrep
      have hrem := rem_lt (if opening then (1 : Int) else -1) hlt
      have hsim := pgo_simU hb ((rowOf b rn).getD j 0) partner l1 l2 (if opening then 1 else -1)
        (by cases opening <;> simp) (B + 2) (total b + 2) 1 (by omega) (by omega) hrep
      have heq : pgo (cp b) (total b) ((rowOf b rn).getD j 0) partner (if opening then 1 else -1) (total b + 2)
            (rowStart b rn + j) 1 =
          pairOf.go ((rowOf b rn).getD j 0) partner (flat b)
            (if opening = true then List.filter (fun x => decide (x > rowStart b rn + j)) (List.range (flat b).length)
              else (List.range (rowStart b rn + j)).reverse) 1 := by
        cases opening with
        | true =>
          simp only [if_true]
          rw [flat_length, filter_gt_range]
          exact pgo_fwd_eq b _ _ f3 _ _ 1 (by omega) (by omega)
        | false =>
          simp only [Bool.false_eq_true, if_false]
          exact pgo_bwd_eq b _ _ f3 _ _ 1 (by omega) (by omega)
      rw [← heq]
      exact hsim.pos

end Neatvi.Lemmas.C07c
