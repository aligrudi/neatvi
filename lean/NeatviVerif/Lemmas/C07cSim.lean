import NeatviVerif.Lemmas.C07cBuf
/-!
# C07c: `lbuf_next` and the word scanners on a valid UTF-8 buffer, as scanners over flat indices

`lbuf_next` is `i ± 1` on the flat index (`next_casesU`: it and `nxt` of `Lemmas/C07bSim` fail together or
yield the same character), and the model's `lbuf_wordlast`, `lbuf_wordbeg`,
`lbuf_wordend` compute the index scanners `wl`, `wb`, `we` of `Lemmas/C07bSim` over the projected text
`cpp b`.  The model's fuel counts bytes, the index scanners' fuel counts characters: the simulation
lemmas carry two fuels, each only required to exceed the number of steps left (`rem`).
-/
set_option linter.unusedVariables false
namespace Neatvi.Lemmas.C07c
open Neatvi Neatvi.Uc Neatvi.Mot Neatvi.Spec Neatvi.Spec.Motion Neatvi.Lemmas.C07 Neatvi.Lemmas.C07b

theorem next_fwd_someU {b : Buf} (hb : Utf8B b) {r o : Int} {i : Nat} (h : Rep b r o i) (hi : i + 1 < total b) :
    ∃ r' o', next (lsOfU b) 1 r o = some (r', o') ∧ Rep b r' o' (i + 1) := by
  obtain ⟨rn, cn, rfl, rfl, h1, h2, rfl⟩ := h
  unfold next lnNext
  simp only [show ¬ ((1 : Int) < 0) by omega, decide_false, Bool.false_and, Bool.false_eq_true, if_false]
  rw [slenAt_repU hb rn h1, lineAt_repU b rn h1]
  by_cases hc : cn < (rowOf b rn).length
  · rw [if_neg (by simp; omega)]
    exact ⟨rn, cn + 1, rfl, rn, cn + 1, rfl, by omega, h1, by omega, by omega⟩
  · have hcn : cn = (rowOf b rn).length := by omega
    rw [if_pos (by simp; omega)]
    simp only []
    have hs := rowStart_step b rn h1
    have hlast : rn + 1 < b.length := by
      rcases Nat.lt_or_ge (rn + 1) b.length with h | h
      · exact h
      · have : rn + 1 = b.length := by omega
        rw [this, rowStart_len] at hs
        omega
    rw [show ((rn : Int) + 1) = ((rn + 1 : Nat) : Int) by omega, lineAt_repU b (rn + 1) hlast]
    simp only [Option.isNone_some, Bool.false_eq_true, if_false, show (1 : Int) > 0 by omega, if_true]
    exact ⟨_, _, rfl, rn + 1, 0, rfl, rfl, hlast, by omega, by omega⟩

theorem next_fwd_noneU {b : Buf} (hb : Utf8B b) {r o : Int} {i : Nat} (h : Rep b r o i) (hi : i + 1 = total b) :
    next (lsOfU b) 1 r o = none := by
  obtain ⟨rn, cn, rfl, rfl, h1, h2, rfl⟩ := h
  unfold next lnNext
  simp only [show ¬ ((1 : Int) < 0) by omega, decide_false, Bool.false_and, Bool.false_eq_true, if_false]
  rw [slenAt_repU hb rn h1, lineAt_repU b rn h1]
  have hs := rowStart_step b rn h1
  have hm : rn + 1 = b.length := by
    rcases Nat.lt_or_ge (rn + 1) b.length with h | h
    · have := rowStart_mono b (rn + 1) b.length h (Nat.le_refl _)
      rw [rowStart_len] at this; omega
    · omega
  have hcn : cn = (rowOf b rn).length := by
    rw [hm, rowStart_len] at hs; omega
  rw [if_pos (by simp; omega)]
  simp only []
  rw [lineAt_noneU b _ (Or.inr (by omega))]
  simp

theorem next_bwd_someU {b : Buf} (hb : Utf8B b) {r o : Int} {i : Nat} (h : Rep b r o (i + 1)) :
    ∃ r' o', next (lsOfU b) (-1) r o = some (r', o') ∧ Rep b r' o' i := by
  obtain ⟨rn, cn, rfl, rfl, h1, h2, h3⟩ := h
  unfold next lnNext
  have hlen : (lsOfU b).length = b.length := lsOfU_length b
  have hge : ¬ ((rn : Int) ≥ ((lsOfU b).length : Int)) := by rw [hlen]; omega
  simp only [show ((-1 : Int) < 0) by omega, decide_true, Bool.true_and, hge, decide_false, Bool.false_eq_true,
    if_false]
  rw [slenAt_repU hb rn h1, lineAt_repU b rn h1]
  by_cases hc : 0 < cn
  · rw [if_neg (by simp; omega)]
    rw [show ((cn : Int) + -1) = ((cn - 1 : Nat) : Int) by omega]
    exact ⟨rn, ((cn - 1 : Nat) : Int), rfl, rn, cn - 1, rfl, rfl, h1, by omega, by omega⟩
  · have hcn : cn = 0 := by omega
    subst hcn
    rw [if_pos (by simp)]
    simp only []
    cases rn with
    | zero => simp at h3
    | succ k =>
      have hs := rowStart_step b k (by omega)
      rw [show (((k + 1 : Nat) : Int) + -1) = (k : Int) by omega, lineAt_repU b k (by omega)]
      simp only [Option.isNone_some, Bool.false_eq_true, if_false, show ¬ ((-1 : Int) > 0) by omega]
      rw [eol_repU hb k (by omega)]
      exact ⟨_, _, rfl, k, (rowOf b k).length, rfl, rfl, by omega, Nat.le_refl _, by omega⟩

theorem next_bwd_noneU {b : Buf} (hb : Utf8B b) {r o : Int} (h : Rep b r o 0) :
    next (lsOfU b) (-1) r o = none := by
  obtain ⟨rn, cn, rfl, rfl, h1, h2, h3⟩ := h
  have hlen : (lsOfU b).length = b.length := lsOfU_length b
  have hr0 : rn = 0 := by
    cases rn with
    | zero => rfl
    | succ k => have := rowStart_step b k (by omega); omega
  subst hr0
  have hc0 : cn = 0 := by simp at h3; omega
  subst hc0
  unfold next lnNext
  have hge : ¬ (((0 : Nat) : Int) ≥ ((lsOfU b).length : Int)) := by rw [hlen]; omega
  simp only [show ((-1 : Int) < 0) by omega, decide_true, Bool.true_and, hge, decide_false, Bool.false_eq_true,
    if_false]
  rw [if_pos (by simp)]
  simp only []
  rw [lineAt_noneU b _ (Or.inl (by omega))]
  simp

theorem next_casesU {b : Buf} (hb : Utf8B b) (d : Int) (hd : d = 1 ∨ d = -1) {r o : Int} {i : Nat} (h : Rep b r o i) :
    (next (lsOfU b) d r o = none ∧ nxt (total b) d i = none) ∨
    ∃ r' o' j, next (lsOfU b) d r o = some (r', o') ∧ nxt (total b) d i = some j ∧ Rep b r' o' j := by
  have hlt := rep_lt h
  rcases hd with rfl | rfl
  · by_cases hi : i + 1 < total b
    · obtain ⟨r', o', e, hr⟩ := next_fwd_someU hb h hi
      exact Or.inr ⟨r', o', _, e, nxt_fwd_some hi, hr⟩
    · exact Or.inl ⟨next_fwd_noneU hb h (by omega), nxt_fwd_none hi⟩
  · cases i with
    | zero => exact Or.inl ⟨next_bwd_noneU hb h, nxt_bwd_zero⟩
    | succ k =>
      obtain ⟨r', o', e, hr⟩ := next_bwd_someU hb h
      exact Or.inr ⟨r', o', _, e, nxt_bwd_succ, hr⟩

/-- fuel: the number of steps left in direction `d` from index `i` of `N` -/
def rem (N : Nat) (d : Int) (i : Nat) : Nat := if d > 0 then N - 1 - i else i

theorem nxt_rem {N : Nat} {d : Int} {i j : Nat} (h : nxt N d i = some j) : rem N d j < rem N d i := by
  unfold nxt at h
  unfold rem
  by_cases hd : d > 0
  · rw [if_pos hd] at h
    rw [if_pos hd, if_pos hd]
    by_cases hi : i + 1 < N
    · rw [if_pos hi] at h; cases h; omega
    · rw [if_neg hi] at h; cases h
  · rw [if_neg hd] at h
    rw [if_neg hd, if_neg hd]
    by_cases hi : 0 < i
    · rw [if_pos hi] at h; cases h; omega
    · rw [if_neg hi] at h; cases h

theorem rem_lt {N : Nat} (d : Int) {i : Nat} (hi : i < N) : rem N d i < N := by
  unfold rem; split <;> omega

theorem wlGo_simU {b : Buf} (hb : Utf8B b) (kind : Nat) (d : Int) (hd : d = 1 ∨ d = -1) (F : Nat) :
    ∀ (f : Nat) {r o : Int} {i : Nat}, rem (total b) d i < F → rem (total b) d i < f → Rep b r o i →
      Sim b (wordlast.go (lsOfU b) kind d F r o) (wlGo (cpp b) (total b) kind d f i) := by
  induction F with
  | zero => intro f r o i h1; omega
  | succ F ih =>
    intro f r o i h1 h2 h
    cases f with
    | zero => omega
    | succ f =>
      unfold wordlast.go wlGo
      rw [kindAt_repU hb h]
      by_cases hm : ((ucKind (cpp b i) &&& kind) != 0) = true
      · rw [if_pos hm, if_pos hm]
        rcases next_casesU hb d hd h with ⟨e0, hx⟩ | ⟨r', o', j, e, hx, hr⟩
        · rw [e0, hx]; exact ⟨rfl, h⟩
        · rw [e, hx]
          have := nxt_rem hx
          exact ih f (by omega) (by omega) hr
      · rw [if_neg hm, if_neg hm]; exact ⟨rfl, h⟩

theorem wl_simU {b : Buf} (hb : Utf8B b) (kind : Nat) (d : Int) (hd : d = 1 ∨ d = -1) {r o : Int} {i : Nat}
    (h : Rep b r o i) :
    Sim b (wordlast (lsOfU b) kind d r o) (wl (cpp b) (total b) kind d (total b + 2) i) := by
  unfold wordlast wl
  rw [kindAt_repU hb h]
  by_cases h0 : (kind == 0 || (ucKind (cpp b i) &&& kind) == 0) = true
  · rw [if_pos h0, if_pos h0]; exact ⟨rfl, h⟩
  · rw [if_neg h0, if_neg h0]
    simp only []
    have hB := foldl_totalU b
    generalize (lsOfU b).foldl (fun a l => a + l.length) 0 = B at hB ⊢
    have hrem := rem_lt d (rep_lt h)
    have hs := wlGo_simU hb kind d hd (B + 2) (total b + 2) (by omega) (by omega) h
    generalize wordlast.go (lsOfU b) kind d (B + 2) r o = res at hs
    generalize wlGo (cpp b) (total b) kind d (total b + 2) i = ires at hs
    obtain ⟨fl, r1, o1⟩ := res
    obtain ⟨fl', j⟩ := ires
    obtain ⟨e, hr⟩ := hs
    simp only [] at e hr
    subst e
    cases fl with
    | true => exact ⟨rfl, hr⟩
    | false =>
      simp only []
      rw [kindAt_repU hb hr]
      by_cases hk : ((ucKind (cpp b j) &&& kind) == 0) = true
      · rw [if_pos hk, if_pos hk]
        rcases next_casesU hb (-d) (by omega) hr with ⟨e0, hx⟩ | ⟨r', o', j', e, hx, hr'⟩
        · rw [e0, hx]; exact ⟨rfl, hr⟩
        · rw [e, hx]; exact ⟨rfl, hr'⟩
      · rw [if_neg hk, if_neg hk]; exact ⟨rfl, hr⟩

theorem wbGo_simU {b : Buf} (hb : Utf8B b) (d : Int) (hd : d = 1 ∨ d = -1) (F : Nat) :
    ∀ (f : Nat) {r o : Int} {i : Nat} (nl : Nat), rem (total b) d i < F → rem (total b) d i < f → Rep b r o i →
      Sim b (wordbeg.go (lsOfU b) d F r o nl) (wbGo (cpp b) (total b) d f i nl) := by
  induction F with
  | zero => intro f r o i nl h1; omega
  | succ F ih =>
    intro f r o i nl h1 h2 h
    cases f with
    | zero => omega
    | succ f =>
      unfold wordbeg.go wbGo
      rw [isSpaceAt_repU hb h, code10_repU hb h]
      by_cases hm : ucIsSpace (cpp b i) = true
      · rw [if_pos hm, if_pos hm]
        simp only []
        by_cases h2' : ((if (cpp b i == 10) = true then nl + 1 else 0) == 2) = true
        · rw [if_pos h2', if_pos h2']; exact ⟨rfl, h⟩
        · rw [if_neg h2', if_neg h2']
          rcases next_casesU hb d hd h with ⟨e0, hx⟩ | ⟨r', o', j, e, hx, hr⟩
          · rw [e0, hx]; exact ⟨rfl, h⟩
          · rw [e, hx]
            have := nxt_rem hx
            exact ih f _ (by omega) (by omega) hr
      · rw [if_neg hm, if_neg hm]; exact ⟨rfl, h⟩

theorem wb_simU {b : Buf} (hb : Utf8B b) (big : Bool) (d : Int) (hd : d = 1 ∨ d = -1) {r o : Int} {i : Nat}
    (h : Rep b r o i) : Sim b (wordbeg (lsOfU b) big d r o) (wb (cpp b) (total b) big d i) := by
  unfold wordbeg wb
  rw [kindAt_repU hb h]
  have hs := wl_simU hb (if big then 3 else ucKind (cpp b i)) d hd h
  generalize wordlast (lsOfU b) (if big = true then 3 else ucKind (cpp b i)) d r o = res at hs
  generalize wl (cpp b) (total b) (if big = true then 3 else ucKind (cpp b i)) d (total b + 2) i = ires at hs
  obtain ⟨fl, r1, o1⟩ := res
  obtain ⟨fl', p⟩ := ires
  obtain ⟨_, hr⟩ := hs
  simp only [] at hr ⊢
  rw [code10_repU hb hr]
  have hB := foldl_totalU b
  generalize (lsOfU b).foldl (fun a l => a + l.length) 0 = B at hB ⊢
  rcases next_casesU hb d hd hr with ⟨e0, hx⟩ | ⟨r', o', j, e, hx, hr'⟩
  · rw [e0, hx]; exact ⟨rfl, hr⟩
  · rw [e, hx]
    have hrem := rem_lt d (rep_lt hr')
    exact wbGo_simU hb d hd _ _ _ (by omega) (by omega) hr'

theorem weGo_simU {b : Buf} (hb : Utf8B b) (d : Int) (hd : d = 1 ∨ d = -1) (F : Nat) :
    ∀ (f : Nat) {r o : Int} {i : Nat} (nl : Nat), rem (total b) d i < F → rem (total b) d i < f → Rep b r o i →
      SimO b (wordend.go (lsOfU b) d F r o nl) (weGo (cpp b) (total b) d f i nl) := by
  induction F with
  | zero => intro f r o i nl h1; omega
  | succ F ih =>
    intro f r o i nl h1 h2 h
    cases f with
    | zero => omega
    | succ f =>
      unfold wordend.go weGo
      rw [isSpaceAt_repU hb h]
      by_cases hm : ucIsSpace (cpp b i) = true
      · rw [if_pos hm, if_pos hm]
        rcases next_casesU hb d hd h with ⟨e0, hx⟩ | ⟨r', o', j, e, hx, hr⟩
        · rw [e0, hx]; exact ⟨rfl, h⟩
        · rw [e, hx]
          simp only []
          rw [code10_repU hb hr]
          by_cases h2' : ((if (cpp b j == 10) = true then nl + 1 else 0) == 2) = true
          · rw [if_pos h2', if_pos h2']
            by_cases hdn : d < 0
            · rw [if_pos hdn, if_pos hdn]
              rcases next_casesU hb (-d) (by omega) hr with ⟨e0, hx2⟩ | ⟨r2, o2, j2, e2, hx2, hr2⟩
              · rw [e0, hx2]; exact ⟨rfl, hr⟩
              · rw [e2, hx2]; exact ⟨rfl, hr2⟩
            · rw [if_neg hdn, if_neg hdn]; exact ⟨rfl, hr⟩
          · rw [if_neg h2', if_neg h2']
            have := nxt_rem hx
            exact ih f _ (by omega) (by omega) hr
      · rw [if_neg hm, if_neg hm]; trivial

theorem wePos_simU {b : Buf} (hb : Utf8B b) (d : Int) (hd : d = 1 ∨ d = -1) (F : Nat) :
    ∀ (f : Nat) {r o : Int} {i : Nat} (nl : Nat), rem (total b) d i < F → rem (total b) d i < f → Rep b r o i →
      Rep b (wordend.pos (lsOfU b) d F r o nl).1 (wordend.pos (lsOfU b) d F r o nl).2
        (wePos (cpp b) (total b) d f i nl) := by
  induction F with
  | zero => intro f r o i nl h1; omega
  | succ F ih =>
    intro f r o i nl h1 h2 h
    cases f with
    | zero => omega
    | succ f =>
      unfold wordend.pos wePos
      rw [isSpaceAt_repU hb h]
      by_cases hm : ucIsSpace (cpp b i) = true
      · rw [if_pos hm, if_pos hm]
        rcases next_casesU hb d hd h with ⟨e0, hx⟩ | ⟨r', o', j, e, hx, hr⟩
        · rw [e0, hx]; exact h
        · rw [e, hx]
          simp only []
          rw [code10_repU hb hr]
          by_cases h2' : ((if (cpp b j == 10) = true then nl + 1 else 0) == 2) = true
          · rw [if_pos h2', if_pos h2']; exact hr
          · rw [if_neg h2', if_neg h2']
            have := nxt_rem hx
            exact ih f _ (by omega) (by omega) hr
      · rw [if_neg hm, if_neg hm]; exact h

theorem we_simU {b : Buf} (hb : Utf8B b) (big : Bool) (d : Int) (hd : d = 1 ∨ d = -1) {r o : Int} {i : Nat}
    (h : Rep b r o i) : Sim b (wordend (lsOfU b) big d r o) (we (cpp b) (total b) big d i) := by
  unfold wordend we weStep1
  rw [isSpaceAt_repU hb h]
  have hB := foldl_totalU b
  generalize (lsOfU b).foldl (fun a l => a + l.length) 0 = B at hB ⊢
  simp only []
  -- the first step: both sides give up, or they go on from the same character with the same count
  generalize hs1 : (if (!ucIsSpace (cpp b i)) = true then _ else some (r, o, 0)) = s1
  generalize hs2 : (if (!ucIsSpace (cpp b i)) = true then _ else some (i, 0)) = s2
  have hfirst : (s1 = none ∧ s2 = none) ∨ ∃ r1 o1 p n, s1 = some (r1, o1, n) ∧ s2 = some (p, n) ∧ Rep b r1 o1 p := by
    rw [← hs1, ← hs2]
    by_cases hm : ucIsSpace (cpp b i) = true
    · rw [if_neg (by simp [hm]), if_neg (by simp [hm])]
      exact Or.inr ⟨r, o, i, 0, rfl, rfl, h⟩
    · rw [if_pos (by simpa using hm), if_pos (by simpa using hm)]
      rcases next_casesU hb d hd h with ⟨e0, hx⟩ | ⟨r', o', j, e, hx, hr⟩
      · rw [e0, hx]; exact Or.inl ⟨rfl, rfl⟩
      · rw [e, hx]
        simp only []
        rw [code10_repU hb hr]
        exact Or.inr ⟨r', o', j, _, rfl, rfl, hr⟩
  clear hs1 hs2
  rcases hfirst with ⟨rfl, rfl⟩ | ⟨r1, o1, p, n1, rfl, rfl, hr⟩
  · exact ⟨rfl, h⟩
  · simp only []
    rw [code10_repU hb hr]
    have hrem := rem_lt d (rep_lt hr)
    have hg := weGo_simU hb d hd (B + 2) (total b + 2)
      (n1 + (if (decide (d > 0) && cpp b p == 10) = true then 1 else 0)) (by omega) (by omega) hr
    generalize wordend.go (lsOfU b) d (B + 2) r1 o1 _ = g1 at hg ⊢
    generalize weGo (cpp b) (total b) d (total b + 2) p _ = g2 at hg ⊢
    cases g1 with
    | some res =>
      cases g2 with
      | some ires => exact hg
      | none => exact absurd hg (by simp [SimO])
    | none =>
      cases g2 with
      | some ires => exact absurd hg (by simp [SimO])
      | none =>
        simp only []
        have hp := wePos_simU hb d hd (B + 2) (total b + 2)
          (n1 + (if (decide (d > 0) && cpp b p == 10) = true then 1 else 0)) (by omega) (by omega) hr
        generalize wordend.pos (lsOfU b) d (B + 2) r1 o1 _ = pp at hp ⊢
        obtain ⟨r2, o2⟩ := pp
        simp only [] at hp ⊢
        rw [kindAt_repU hb hp]
        exact wl_simU hb _ d hd hp

end Neatvi.Lemmas.C07c
