import NeatviVerif.Props.C17b
import NeatviVerif.Props.C19c
import NeatviVerif.Lemmas.C08bInsert
import NeatviVerif.Lemmas.C07cBuf
/-!
# C07d lemmas: `vi_nextcol` and `vi_col2off` on a valid UTF-8 line

`nextcol` (`vi_nextcol`) and `col2off` (`vi_col2off`) of `Model/Vi.lean` go through the position table
`posTab s ln` of the line.  `nextcol_eq` says what `nextcol` computes; with the table's invariant
`ColTable` it goes to the character displayed immediately to the right / left (`nextcol_visual_*`), and
when the table is increasing (`StrictInc`, no reordering: `posTab_fast`, `posTab_inc`) that is the next /
previous character (`nextcol_right`, `nextcol_left`).  Also the iteration `repeatMove`.
-/
namespace Neatvi.Lemmas.C07d
open Neatvi Neatvi.Uc Neatvi.Vi Neatvi.Spec Neatvi.Ren Neatvi.Lemmas.C17b Neatvi.Lemmas.C08b

theorem repeatMove_fwd (step : Int → Int → Option (Int × Int)) (row : Int) (L : Nat)
    (hstep : ∀ o : Nat, o ≤ L → step row o = if o < L then some (row, ((o + 1 : Nat) : Int)) else none) :
    ∀ (k o : Nat), o ≤ L → repeatMove step k row o = (row, ((min (o + k) L : Nat) : Int)) := by
  intro k
  induction k with
  | zero => intro o ho; simp [repeatMove]; omega
  | succ k ih =>
    intro o ho
    unfold repeatMove
    rw [hstep o ho]
    by_cases hl : o < L
    · rw [if_pos hl]
      simp only []
      rw [ih (o + 1) (by omega)]
      congr 2; omega
    · rw [if_neg hl]
      simp only []
      congr 2; omega

theorem repeatMove_bwd (step : Int → Int → Option (Int × Int)) (row : Int) (L : Nat)
    (hstep : ∀ o : Nat, o ≤ L → step row o = if 0 < o then some (row, ((o - 1 : Nat) : Int)) else none) :
    ∀ (k o : Nat), o ≤ L → repeatMove step k row o = (row, ((o - k : Nat) : Int)) := by
  intro k
  induction k with
  | zero => intro o ho; simp [repeatMove]
  | succ k ih =>
    intro o ho
    unfold repeatMove
    rw [hstep o ho]
    by_cases hl : 0 < o
    · rw [if_pos hl]
      simp only []
      rw [ih (o - 1) (by omega)]
      congr 2; omega
    · rw [if_neg hl]
      simp only []
      congr 2; omega

theorem line_slen {body : List Nat} (hb : ∀ c ∈ body, ValidCp c) :
    ucSlen (encStr (body ++ [10])) = body.length + 1 := by
  rw [Props.C16.slen_spec (Uc.valid_line hb)]; simp

theorem chrHd_line {body : List Nat} (hb : ∀ c ∈ body, ValidCp c) (hb10 : 10 ∉ body) (k : Nat) (hk : k ≤ body.length) :
    chrHd (encStr (body ++ [10])) k = 10 ↔ k = body.length := by
  rw [C07.chrHd_enc_eq_10 (Uc.valid_line hb) k (by simp; omega)]
  constructor
  · intro h
    by_cases hlt : k < body.length
    · rw [C07b.getD_line_lt _ _ hlt] at h
      exact absurd (h ▸ List.getElem_mem hlt) hb10
    · omega
  · intro h; rw [h, C07b.getD_line_eq]

/-! ### `vi_nextcol` with the model's own table (reordered or not): one step in visual order -/

theorem posTab_colTable (s : VS) (cps : List Nat) (hv : ∀ c ∈ cps, ValidCp c) :
    ColTable (posTab s (encStr cps)) cps.length := by
  unfold posTab
  cases h : renPosition dirOracle (renOpts s) (encStr cps) with
  | none => exact Props.C17b.strictInc_colTable (Props.C17b.fast_strictInc cps hv)
  | some pos => exact Props.C17b.renPosition_colTable _ _ cps hv pos h

theorem posTab_colTable_line (s : VS) {body : List Nat} (hb : ∀ c ∈ body, ValidCp c) :
    ColTable (posTab s (encStr (body ++ [10]))) (body.length + 1) := by
  have := posTab_colTable s (body ++ [10]) (Uc.valid_line hb)
  rw [List.length_append] at this
  exact this

/-- `vi_nextcol` from character `i` of a line: `ren_next` from its column, and `ren_off` of the answer -/
theorem nextcol_eq (s : VS) (r : Int) (ln : Bytes) (hl : lineOf s r = some ln) (dir : Int) (i : Nat)
    (hi : i < ucSlen ln) :
    nextcol s dir r i =
      if renNextT ln (posTab s ln) (ucSlen ln) ((posTab s ln).getD i 0 : Nat) dir < 0 then none
      else some ((renOffT (posTab s ln) (ucSlen ln)
        (renNextT ln (posTab s ln) (ucSlen ln) ((posTab s ln).getD i 0 : Nat) dir) : Nat) : Int) := by
  unfold nextcol
  rw [hl]
  simp only [Int.toNat_natCast]
  unfold renPosT
  rw [if_pos hi]

theorem nextcol_to (s : VS) (r : Int) (body : List Nat) (hl : lineOf s r = some (encStr (body ++ [10])))
    (hb : ∀ c ∈ body, ValidCp c) (hb10 : 10 ∉ body) (dir : Int) (i j : Nat) (hi : i ≤ body.length)
    (hj : j < body.length + 1)
    (hnext : renNextT (encStr (body ++ [10])) (posTab s (encStr (body ++ [10]))) (body.length + 1)
        ((posTab s (encStr (body ++ [10]))).getD i 0 : Nat) dir =
      if chrHd (encStr (body ++ [10])) j = 10 then -1 else ((posTab s (encStr (body ++ [10]))).getD j 0 : Int)) :
    nextcol s dir r i = if j = body.length then none else some (j : Int) := by
  rw [nextcol_eq s r _ hl dir i (by rw [line_slen hb]; omega), line_slen hb, hnext]
  by_cases he : j = body.length
  · rw [if_pos ((chrHd_line hb hb10 j (by omega)).mpr he), if_pos (show (-1 : Int) < 0 by omega), if_pos he]
  · have hne : chrHd (encStr (body ++ [10])) j ≠ 10 := fun hc => he ((chrHd_line hb hb10 j (by omega)).mp hc)
    rw [if_neg hne, if_neg (by omega), if_neg he, renOffT_col (posTab_colTable_line s hb) j hj]

theorem nextcol_stuck (s : VS) (r : Int) (body : List Nat) (hl : lineOf s r = some (encStr (body ++ [10])))
    (hb : ∀ c ∈ body, ValidCp c) (dir : Int) (i : Nat) (hi : i ≤ body.length)
    (hnext : renNextT (encStr (body ++ [10])) (posTab s (encStr (body ++ [10]))) (body.length + 1)
        ((posTab s (encStr (body ++ [10]))).getD i 0 : Nat) dir = -1) :
    nextcol s dir r i = none := by
  rw [nextcol_eq s r _ hl dir i (by rw [line_slen hb]; omega), line_slen hb, hnext,
    if_pos (show (-1 : Int) < 0 by omega)]

/-- to the right: the character `j` displayed immediately to the right of character `i`, failing when
    `j` is the newline -/
theorem nextcol_visual_right (s : VS) (r : Int) (body : List Nat) (hl : lineOf s r = some (encStr (body ++ [10])))
    (hb : ∀ c ∈ body, ValidCp c) (hb10 : 10 ∉ body) (dir : Int) (hdir : dir ≥ 0) (i j : Nat) (hi : i ≤ body.length)
    (hj : IsLeast (posTab s (encStr (body ++ [10]))) (body.length + 1)
      (fun x => (posTab s (encStr (body ++ [10]))).getD i 0 < x) j) :
    nextcol s dir r i = if j = body.length then none else some (j : Int) :=
  nextcol_to s r body hl hb hb10 dir i j hi hj.1
    (Props.C17b.renNextT_right_eq _ (posTab_colTable_line s hb) _ dir hdir i j (isGreatest_self i (by omega)) hj)

/-- ... and failing when nothing is displayed to the right of `i` -/
theorem nextcol_visual_right_none (s : VS) (r : Int) (body : List Nat)
    (hl : lineOf s r = some (encStr (body ++ [10])))
    (hb : ∀ c ∈ body, ValidCp c) (dir : Int) (hdir : dir ≥ 0) (i : Nat) (hi : i ≤ body.length)
    (hno : NoCol (posTab s (encStr (body ++ [10]))) (body.length + 1)
      (fun x => (posTab s (encStr (body ++ [10]))).getD i 0 < x)) :
    nextcol s dir r i = none :=
  nextcol_stuck s r body hl hb dir i hi
    (Props.C17b.renNextT_right_none _ (posTab_colTable_line s hb) _ dir hdir i (isGreatest_self i (by omega)) hno)

/-- to the left: the character `j` displayed immediately to the left of `i` -/
theorem nextcol_visual_left (s : VS) (r : Int) (body : List Nat) (hl : lineOf s r = some (encStr (body ++ [10])))
    (hb : ∀ c ∈ body, ValidCp c) (hb10 : 10 ∉ body) (dir : Int) (hdir : dir < 0) (i j : Nat) (hi : i ≤ body.length)
    (hj : IsGreatest (posTab s (encStr (body ++ [10]))) (body.length + 1)
      (fun x => x < (posTab s (encStr (body ++ [10]))).getD i 0) j) :
    nextcol s dir r i = if j = body.length then none else some (j : Int) :=
  nextcol_to s r body hl hb hb10 dir i j hi hj.1
    (Props.C17b.renNextT_left_eq _ (posTab_colTable_line s hb) _ dir hdir i j (isGreatest_self i (by omega)) hj)

theorem nextcol_visual_left_none (s : VS) (r : Int) (body : List Nat)
    (hl : lineOf s r = some (encStr (body ++ [10])))
    (hb : ∀ c ∈ body, ValidCp c) (dir : Int) (hdir : dir < 0) (i : Nat) (hi : i ≤ body.length)
    (hno : NoCol (posTab s (encStr (body ++ [10]))) (body.length + 1)
      (fun x => x < (posTab s (encStr (body ++ [10]))).getD i 0)) :
    nextcol s dir r i = none :=
  nextcol_stuck s r body hl hb dir i hi
    (Props.C17b.renNextT_left_none _ (posTab_colTable_line s hb) _ dir hdir i (isGreatest_self i (by omega)) hno)

/-! ### `vi_nextcol` with an increasing table: the neighbour in visual order is the neighbour -/

/-- to the right (`dir ≥ 0`): the next character, failing on the last character of the body (and on
    the newline) -/
theorem nextcol_right (s : VS) (r : Int) (body : List Nat) (hl : lineOf s r = some (encStr (body ++ [10])))
    (hb : ∀ c ∈ body, ValidCp c) (hb10 : 10 ∉ body)
    (hinc : StrictInc (posTab s (encStr (body ++ [10]))) (body.length + 1))
    (dir : Int) (hdir : dir ≥ 0) (o : Nat) (ho : o ≤ body.length) :
    nextcol s dir r o = if o + 1 < body.length then some ((o + 1 : Nat) : Int) else none := by
  by_cases h1 : o + 1 < body.length + 1
  · rw [nextcol_visual_right s r body hl hb hb10 dir hdir o (o + 1) ho (Props.C17b.inc_least hinc o h1)]
    by_cases h2 : o + 1 < body.length
    · rw [if_neg (by omega), if_pos h2]
    · rw [if_pos (by omega), if_neg h2]
  · rw [nextcol_visual_right_none s r body hl hb dir hdir o ho (Props.C17b.inc_none_right hinc o (by omega)),
      if_neg (by omega)]

/-- to the left (`dir < 0`): the previous character, failing on the first -/
theorem nextcol_left (s : VS) (r : Int) (body : List Nat) (hl : lineOf s r = some (encStr (body ++ [10])))
    (hb : ∀ c ∈ body, ValidCp c) (hb10 : 10 ∉ body)
    (hinc : StrictInc (posTab s (encStr (body ++ [10]))) (body.length + 1))
    (dir : Int) (hdir : dir < 0) (o : Nat) (ho : o ≤ body.length) :
    nextcol s dir r o = if 0 < o then some ((o - 1 : Nat) : Int) else none := by
  cases o with
  | zero =>
    rw [nextcol_visual_left_none s r body hl hb dir hdir 0 ho (Props.C17b.inc_none_left hinc), if_neg (by omega)]
  | succ k =>
    rw [nextcol_visual_left s r body hl hb hb10 dir hdir (k + 1) k ho (Props.C17b.inc_greatest hinc k (by omega)),
      if_neg (by omega), if_pos (Nat.succ_pos k)]
    rfl

/-! ### when the table is the left-to-right one -/

/-- `ren_position` does not reorder a line without multi-byte characters, nor a line of more than
    `xlim = 256` characters: the table is the left-to-right one -/
theorem posTab_fast (s : VS) (ln : Bytes) (h : ucSlen ln = ln.length ∨ 256 < ucSlen ln) :
    posTab s ln = renPositionFast ln := by
  unfold posTab renPosition renOpts
  simp only []
  rw [if_neg]
  · rfl
  · rcases h with h | h
    · simp [h]
    · simp; intro h'; omega

/-- ... and it is increasing on a valid UTF-8 line -/
theorem posTab_inc (s : VS) (cps : List Nat) (hv : ∀ c ∈ cps, ValidCp c)
    (h : cps.length = (encStr cps).length ∨ 256 < cps.length) :
    StrictInc (posTab s (encStr cps)) cps.length := by
  rw [posTab_fast s _ (by rw [Props.C16.slen_spec hv]; exact h)]
  exact Props.C17b.fast_strictInc cps hv

theorem ascii_line_length (body : List Nat) (ha : ∀ c ∈ body, c < 128) :
    (body ++ [10]).length = (encStr (body ++ [10])).length := by
  rw [Lemmas.C07c.encStr_line_ascii ha]

/-! ### `vi_col2off` on a line of printable ASCII: the identity table -/

/-- in the identity table of `n ≥ 1` characters, `ren_off(p)` for `p ≥ 0` is `min p (n - 1)` -/
theorem renOffT_range (n : Nat) (hn : 0 < n) (p : Nat) :
    renOffT (List.range (n + 1)) n (p : Int) = min p (n - 1) := by
  have hg : ∀ j, j ≤ n → (List.range (n + 1)).getD j 0 = j := by
    intro j hj
    rw [List.getD_eq_getElem?_getD, List.getElem?_range (by omega)]; rfl
  have hinc : StrictInc (List.range (n + 1)) n := by
    refine ⟨by simp, ?_⟩
    intro i j hij hj
    rw [hg i (by omega), hg j hj]; exact hij
  apply renOffT_of_greatest (Props.C17b.strictInc_colTable hinc)
  refine ⟨by omega, ?_, ?_⟩
  · unfold PrevP
    rw [if_pos rfl, hg _ (by omega)]
    omega
  · intro j hj hP
    unfold PrevP at hP
    rw [if_pos rfl, hg j (by omega)] at hP
    rw [hg j (by omega), hg _ (by omega)]
    omega

end Neatvi.Lemmas.C07d
