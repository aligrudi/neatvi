import NeatviVerif.Lemmas.C08Vi
/-!
# C08: the region normalisation of `vc_motion`, extracted as a pure function
-/
namespace Neatvi.Lemmas.C08
open Neatvi Neatvi.Uc Neatvi.Vi Neatvi.Ex Neatvi.Lbuf Neatvi.Mot

/-- the region normalisation of `vc_motion`, before the inclusive-motion adjustment of `o2` -/
def normRegion (s : VS) (lnmode : Bool) (r1 o1 r2 o2 : Int) : Int × Int × Int × Int :=
  let ls := lines s
  let (o1, o2) := if lnmode then ((0 : Int), eol ls r2) else (o1, o2)
  let (r1, r2, o1, o2) := if r1 > r2 then (r2, r1, o2, o1) else (r1, r2, o1, o2)
  let (o1, o2) := if r1 == r2 && o1 > o2 then (o2, o1) else (o1, o2)
  (r1, noeol s r1 o1, r2, o2)

def vcMotion' (cmd : Nat) : M Nat := do
  let s0 ← get
  let r1 := s0.ed.xrow
  let a2 ← viPrefix
  modify fun s => { s with arg2 := a2 }
  if a2 < 0 then pure 0 else
  let o1 := noeol s0 r1 s0.ed.xoff
  let (mvl, r2l) ← viMotionln r1 cmd
  let res ← (if mvl != 0 then pure (some (mvl, r2l, (-1 : Int))) else do
    let (mv, r2, o2) ← viMotion r1 o1
    if mv == 0 then do
      let _ ← viRead
      pure none
    else pure (some (mv, r2, o2)))
  match res with
  | none => pure 0
  | some (mv, r2, o2) =>
    if mv < 0 then pure 0 else
    let s ← get
    let ls := lines s
    let lnmode := o2 < 0
    let (r1, o1, r2, o2) := normRegion s lnmode r1 o1 r2 o2
    let incl := strHas "fteE%" mv || (mv == 59 && (s.charcmd == 102 || s.charcmd == 116 || s.charcmd == 0))
      || (mv == 44 && (s.charcmd == 70 || s.charcmd == 84 || s.charcmd == 0))
    let o2 := if !lnmode && incl && o2 < eol ls r2 then noeol s r2 o2 + 1 else o2
    if cmd == 121 then viYank r1 o1 r2 o2 lnmode
    else if cmd == 100 then viDelete r1 o1 r2 o2 lnmode
    else if cmd == 99 then viChange r1 o1 r2 o2 lnmode
    else if cmd == 126 || cmd == 117 || cmd == 85 then viCase r1 o1 r2 o2 lnmode cmd
    else if cmd == 62 || cmd == 60 then viShift r1 r2 (if cmd == 62 then 1 else -1)
    else if cmd == 33 then do
      let _ ← viPrompt
      unmodelled
      pure VC_WIN
    else pure 0

theorem vcMotion_eq (cmd : Nat) : vcMotion cmd = vcMotion' cmd := by
  unfold vcMotion vcMotion'
  refine bind_congr fun s0 => bind_congr fun a2 => bind_congr fun _ => ?_
  refine congrArg (ite _ _) (bind_congr fun x => ?_)
  obtain ⟨mvl, r2l⟩ := x
  refine bind_congr fun res => ?_
  rcases res with _ | ⟨mv, r2, o2⟩
  · rfl
  · refine congrArg (ite _ _) (bind_congr fun s => ?_)
    -- only here do the two texts differ: `simp` writes the tuple matches of both as projections
    simp only [normRegion, decide_eq_true_eq]

theorem renNoeol_le (ln : Bytes) (o : Int) : Ren.renNoeol ln o ≤ o := by
  unfold Ren.renNoeol
  simp only []
  have hn : (0 : Int) ≤ ucSlen ln := by omega
  generalize (ucSlen ln : Int) = n at hn
  split <;> split <;> omega

theorem noeol_le (s : VS) (r o : Int) : noeol s r o ≤ o := by
  unfold noeol
  split
  · simp only []
    split <;> omega
  · exact renNoeol_le _ _

end Neatvi.Lemmas.C08
