import NeatviVerif.Model.ExCmd
/-!
# C08, registers: `reg_putraw`, `reg_getraw` and the rotation of `reg_put` (`reg.c`)
-/
namespace Neatvi.Lemmas.C08
open Neatvi Neatvi.Ex

/-- the register file has its 256 slots -/
def RegsWf (r : Regs) : Prop := r.buf.length = 256 ∧ r.ln.length = 256

theorem regsWf_default : RegsWf {} := ⟨List.length_replicate .., List.length_replicate ..⟩

theorem getD_set_self {α : Type} (l : List α) (i : Nat) (x d : α) (h : i < l.length) : (l.set i x).getD i d = x := by
  simp [List.getD_eq_getElem?_getD, h]

theorem getD_set_other {α : Type} (l : List α) (i j : Nat) (x d : α) (h : i ≠ j) : (l.set i x).getD j d = l.getD j d := by
  simp [List.getD_eq_getElem?_getD, List.getElem?_set_ne h]

theorem putRaw_wf (r : Regs) (c : Nat) (s : Bytes) (ln : Nat) (h : RegsWf r) : RegsWf (r.putRaw c s ln) := by
  unfold RegsWf Regs.putRaw at *
  simpa using h

/-! ### what `reg_put` keeps: every register text has `P`, for any `P` that holds of `[]` and is closed under `++`
  (an upper-case name appends; the numbered registers are shifted) -/

/-- every register text has `P` -/
def RegsAll (P : Bytes → Prop) (r : Regs) : Prop := ∀ c x, r.buf.getD c none = some x → P x

theorem regsAll_iff_mem {P : Bytes → Prop} {r : Regs} : RegsAll P r ↔ ∀ o ∈ r.buf, ∀ x, o = some x → P x := by
  constructor
  · intro h o ho x hx
    obtain ⟨i, hi, rfl⟩ := List.getElem_of_mem ho
    exact h i x (by rw [List.getD_eq_getElem?_getD, List.getElem?_eq_getElem hi]; exact hx)
  · intro h c x hx
    rw [List.getD_eq_getElem?_getD] at hx
    cases hg : r.buf[c]? with
    | none => rw [hg] at hx; cases hx
    | some o => rw [hg] at hx; exact h o (List.mem_of_getElem? hg) x hx

section
variable {P : Bytes → Prop} (nil : P []) (app : ∀ {a b}, P a → P b → P (a ++ b))
include nil app

theorem RegsAll.putRaw {r : Regs} (h : RegsAll P r) (c : Nat) {x : Bytes} (hx : P x) (ln : Nat) :
    RegsAll P (r.putRaw c x ln) := by
  intro k y hy
  unfold Regs.putRaw at hy
  simp only [] at hy
  rw [List.getD_eq_getElem?_getD, List.getElem?_set] at hy
  split at hy
  · split at hy
    · simp only [Option.getD_some, Option.some.injEq] at hy
      subst hy
      refine app ?_ hx
      split
      · cases hp : r.buf.getD (lowerC c) none with
        | none => exact nil
        | some p => exact h _ _ hp
      · exact nil
    · simp at hy
  · rw [← List.getD_eq_getElem?_getD] at hy
    exact h k y hy

theorem RegsAll.put {r : Regs} (h : RegsAll P r) (c : Nat) {x : Bytes} (hx : P x) (ln : Nat) :
    RegsAll P (r.put c x ln) := by
  unfold Regs.put
  simp only []
  generalize (if (c == 34) = true then 0 else c) = c'
  refine RegsAll.putRaw nil app ?_ _ hx _
  split
  · refine RegsAll.putRaw nil app (List.foldlRecOn _ _ h fun acc ha i _ => ?_) _ hx _
    split
    · rename_i y l' hy
      exact RegsAll.putRaw nil app ha _ (ha _ _ (congrArg Prod.fst hy)) _
    · exact ha
  · exact h

end

theorem lowerC_of_not_upper {c : Nat} (h : isUpperC c = false) : lowerC c = c := by
  unfold isUpperC at h
  unfold lowerC
  rw [h]; rfl

theorem lowerC_of_upper {c : Nat} (h : isUpperC c = true) : lowerC c = c + 32 := by
  unfold isUpperC at h
  unfold lowerC
  rw [h]; rfl

theorem lowerC_lt {c : Nat} (h : c < 256) : lowerC c < 256 := by
  unfold lowerC
  split
  · rename_i hu; simp at hu; omega
  · exact h

/-- the text `reg_putraw(c, s, ln)` stores: appended to the old value for an upper-case name -/
def rawText (r : Regs) (c : Nat) (s : Bytes) : Bytes :=
  (if isUpperC c then ((r.getRaw (lowerC c)).1).getD [] else []) ++ s

theorem getRaw_putRaw (r : Regs) (c d : Nat) (s : Bytes) (ln : Nat) (h : RegsWf r) (hc : c < 256) :
    (r.putRaw c s ln).getRaw d = if d = lowerC c then (some (rawText r c s), ln) else r.getRaw d := by
  have hl := lowerC_lt hc
  unfold Regs.putRaw Regs.getRaw rawText Regs.getRaw
  simp only []
  by_cases hd : d = lowerC c
  · subst hd
    rw [if_pos rfl, getD_set_self _ _ _ _ (by rw [h.1]; exact hl), getD_set_self _ _ _ _ (by rw [h.2]; exact hl)]
  · rw [if_neg hd, getD_set_other _ _ _ _ _ (Ne.symm hd), getD_set_other _ _ _ _ _ (Ne.symm hd)]

/-! ### the rotation `"1 → "2 → … → "9` -/

/-- one step of the loop `for (i = 8; i > 0; i--) if (bufs['0' + i]) reg_putraw('0' + i + 1, …)` -/
def shiftStep (acc : Regs) (i : Nat) : Regs :=
  match acc.getRaw (48 + i) with
  | (some x, l) => acc.putRaw (48 + i + 1) x l
  | (none, _) => acc

/-- what a numbered register holds after the rotation: its predecessor when that was set -/
def shiftedAt (r : Regs) (d : Nat) : Option Bytes × Nat :=
  match r.getRaw (d - 1) with
  | (some x, l) => (some x, l)
  | (none, _) => r.getRaw d

theorem shiftStep_wf (r : Regs) (i : Nat) (h : RegsWf r) : RegsWf (shiftStep r i) := by
  unfold shiftStep
  split
  · exact putRaw_wf _ _ _ _ h
  · exact h

theorem isUpperC_digit (i : Nat) (h : i ≤ 9) : isUpperC (48 + i) = false := by
  unfold isUpperC; simp; omega

theorem shiftStep_get (r : Regs) (i d : Nat) (h : RegsWf r) (hi : i ≤ 8) :
    (shiftStep r i).getRaw d = if d = 48 + i + 1 then shiftedAt r d else r.getRaw d := by
  unfold shiftStep shiftedAt
  have hu : isUpperC (48 + i + 1) = false := isUpperC_digit (i + 1) (by omega)
  by_cases hd : d = 48 + i + 1
  · subst hd
    rw [if_pos rfl, show 48 + i + 1 - 1 = 48 + i by omega]
    split
    · rename_i x l hx
      rw [getRaw_putRaw _ _ _ _ _ h (by omega), lowerC_of_not_upper hu, if_pos rfl]
      simp [rawText, hu]
    · rename_i l hx
      simp
  · rw [if_neg hd]
    split
    · rw [getRaw_putRaw _ _ _ _ _ h (by omega), lowerC_of_not_upper hu, if_neg hd]
    · rfl

/-- `[k, k-1, …, 1]` -/
def downList : Nat → List Nat
  | 0 => []
  | k + 1 => (k + 1) :: downList k

theorem shiftFold_wf (k : Nat) : ∀ r, RegsWf r → RegsWf ((downList k).foldl shiftStep r) := by
  induction k with
  | zero => intro r h; exact h
  | succ k ih => intro r h; exact ih _ (shiftStep_wf _ _ h)

theorem shiftFold_get (k : Nat) (hk : k ≤ 8) : ∀ (r : Regs) (d : Nat), RegsWf r →
    ((downList k).foldl shiftStep r).getRaw d =
      if 50 ≤ d ∧ d ≤ 48 + k + 1 then shiftedAt r d else r.getRaw d := by
  induction k with
  | zero =>
    intro r d _
    rw [if_neg (by omega)]
    rfl
  | succ k ih =>
    intro r d h
    show ((downList k).foldl shiftStep (shiftStep r (k + 1))).getRaw d = _
    rw [ih (by omega) _ _ (shiftStep_wf _ _ h)]
    by_cases hd : d = 48 + (k + 1) + 1
    · subst hd
      rw [if_neg (by omega), if_pos (by omega), shiftStep_get _ _ _ h hk, if_pos rfl]
    · by_cases hr : 50 ≤ d ∧ d ≤ 48 + k + 1
      · rw [if_pos hr, if_pos (by omega)]
        unfold shiftedAt
        rw [shiftStep_get _ _ _ h hk, if_neg (by omega), shiftStep_get _ _ _ h hk, if_neg hd]
      · rw [if_neg hr, if_neg (by omega), shiftStep_get _ _ _ h hk, if_neg hd]

/-- the registers after the rotation loop of `reg_put` -/
def shifted (r : Regs) : Regs :=
  [8, 7, 6, 5, 4, 3, 2, 1].foldl (fun (acc : Regs) i =>
    match acc.getRaw (48 + i) with
    | (some x, l) => acc.putRaw (48 + i + 1) x l
    | (none, _) => acc) r

theorem shifted_eq (r : Regs) : shifted r = (downList 8).foldl shiftStep r := rfl

theorem shifted_wf (r : Regs) (h : RegsWf r) : RegsWf (shifted r) := by
  rw [shifted_eq]; exact shiftFold_wf 8 r h

theorem shifted_get (r : Regs) (d : Nat) (h : RegsWf r) :
    (shifted r).getRaw d = if 50 ≤ d ∧ d ≤ 57 then shiftedAt r d else r.getRaw d := by
  rw [shifted_eq, shiftFold_get 8 (by omega) r d h]

/-- does `reg_put(c, s, ln)` rotate the numbered registers? -/
def shifts (c : Nat) (s : Bytes) (ln : Nat) : Bool := (ln != 0 || s.contains 10) && (c == 0 || isAlphaC c)

/-- the register a name designates: `"` is the unnamed register -/
def regTarget (c : Nat) : Nat := if c == 34 then 0 else c

theorem regTarget_ne {c : Nat} (h : c ≠ 34) : regTarget c = c := by
  unfold regTarget; simp [h]

theorem regTarget_quote : regTarget 34 = 0 := rfl

theorem regTarget_lt {c : Nat} (h : c < 256) : regTarget c < 256 := by
  unfold regTarget; split <;> omega

theorem regTarget_upper (c : Nat) : isUpperC (regTarget c) = isUpperC c := by
  unfold regTarget
  split
  · rename_i h; simp at h; subst h; decide
  · rfl

/-- the registers before the final `reg_putraw(c, …)` -/
def beforeFinal (r : Regs) (c : Nat) (s : Bytes) (ln : Nat) : Regs :=
  if shifts c s ln then (shifted r).putRaw 49 s ln else r

theorem beforeFinal_wf (r : Regs) (c : Nat) (s : Bytes) (ln : Nat) (h : RegsWf r) : RegsWf (beforeFinal r c s ln) := by
  unfold beforeFinal
  split
  · exact putRaw_wf _ _ _ _ (shifted_wf _ h)
  · exact h

theorem put_wf (r : Regs) (c : Nat) (s : Bytes) (ln : Nat) (h : RegsWf r) : RegsWf (r.put c s ln) :=
  putRaw_wf _ _ _ _ (beforeFinal_wf r _ s ln h)

theorem beforeFinal_get (r : Regs) (c d : Nat) (s : Bytes) (ln : Nat) (h : RegsWf r) :
    (beforeFinal r c s ln).getRaw d =
      if shifts c s ln then
        (if d = 49 then (some s, ln) else if 50 ≤ d ∧ d ≤ 57 then shiftedAt r d else r.getRaw d)
      else r.getRaw d := by
  unfold beforeFinal
  by_cases hs : shifts c s ln = true
  · rw [if_pos hs, if_pos hs, getRaw_putRaw _ _ _ _ _ (shifted_wf _ h) (by omega)]
    have : lowerC 49 = 49 := by decide
    rw [this]
    by_cases hd : d = 49
    · rw [if_pos hd, if_pos hd]; simp [rawText, isUpperC]
    · rw [if_neg hd, if_neg hd, shifted_get _ _ h]
  · rw [if_neg hs, if_neg hs]

theorem put_get (r : Regs) (c d : Nat) (s : Bytes) (ln : Nat) (h : RegsWf r) (hc : c < 256) :
    (r.put c s ln).getRaw d =
      if d = lowerC (regTarget c) then (some (rawText (beforeFinal r (regTarget c) s ln) (regTarget c) s), ln)
      else (beforeFinal r (regTarget c) s ln).getRaw d :=
  getRaw_putRaw _ _ _ _ _ (beforeFinal_wf r (regTarget c) s ln h) (regTarget_lt hc)

theorem shifts_name {c : Nat} {s : Bytes} {ln : Nat} (h : shifts c s ln = true) :
    c = 0 ∨ (65 ≤ c ∧ c ≤ 90) ∨ (97 ≤ c ∧ c ≤ 122) := by
  unfold shifts isAlphaC at h
  simp at h
  omega

theorem shifts_lower_not_digit {c : Nat} {s : Bytes} {ln : Nat} (h : shifts c s ln = true) :
    lowerC c = 0 ∨ 97 ≤ lowerC c := by
  have := shifts_name h
  unfold lowerC
  split
  · rename_i hu; simp at hu; omega
  · rename_i hu; simp at hu; omega

end Neatvi.Lemmas.C08
