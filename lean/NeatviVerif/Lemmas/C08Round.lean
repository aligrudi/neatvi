import NeatviVerif.Lemmas.C08Vi
import NeatviVerif.Lemmas.C07Ren
/-!
# C08: list facts behind "a put restores what the delete removed", what a put finds after rows went line-wise into a
  register (`put_of_rows`), and the cursor on a line of valid UTF-8 (`renNoeol_keep`)
-/
namespace Neatvi.Lemmas.C08
open Neatvi Neatvi.Uc Neatvi.Vi Neatvi.Ex Neatvi.Lbuf Neatvi.Spec

theorem take_cut {α : Type} (A B : List α) (n : Nat) (hn : n ≤ A.length) : (A.take n ++ B).take n = A.take n := by
  have hl : (A.take n).length = n := by rw [List.length_take]; omega
  rw [List.take_append_of_le_length (by omega)]
  exact List.take_of_length_le (by omega)

theorem drop_cut {α : Type} (A B : List α) (n : Nat) (hn : n ≤ A.length) : (A.take n ++ B).drop n = B := by
  have hl : (A.take n).length = n := by rw [List.length_take]; omega
  rw [List.drop_append_of_le_length (by omega), List.drop_of_length_le (by omega), List.nil_append]

/-- re-inserting the removed slice at the cut restores the list -/
theorem splice_restore {α : Type} (L : List α) (a n : Nat) (ha : a ≤ L.length) :
    (L.take a ++ L.drop (a + n)).take a ++ (L.drop a).take n ++ (L.take a ++ L.drop (a + n)).drop a = L := by
  rw [take_cut _ _ _ ha, drop_cut _ _ _ ha, show L.drop (a + n) = (L.drop a).drop n by rw [List.drop_drop],
    List.append_assoc, List.take_append_drop, List.take_append_drop]

theorem flatten_ne_nil_of_wf (mid : List Bytes) (hne : mid ≠ []) (h : ∀ l ∈ mid, Props.C01.WfLine l) :
    mid.flatten ≠ [] := by
  cases mid with
  | nil => exact absurd rfl hne
  | cons x r =>
    obtain ⟨w, rfl, _⟩ := h x (by simp)
    simp

theorem length_take_append_drop {α : Type} (L : List α) (a b : Nat) (ha : a ≤ L.length) :
    (L.take a ++ L.drop b).length = a + (L.length - b) := by
  rw [List.length_append, List.length_take, List.length_drop, Nat.min_eq_left ha]

/-- putting back the rows `a..b` in place of the one row they were replaced by -/
theorem splice_restore_rows {α : Type} (L : List α) (a b : Nat) (y : α) (hab : a ≤ b) (hb : b < L.length) :
    (L.take a ++ [y] ++ L.drop (b + 1)).take a ++ (L.drop a).take (b - a + 1) ++
      (L.take a ++ [y] ++ L.drop (b + 1)).drop (a + 1) = L := by
  have ha : a ≤ L.length := by omega
  rw [List.append_assoc (L.take a), take_cut _ _ _ ha, ← List.drop_drop, drop_cut _ _ _ ha, List.drop_one,
    List.singleton_append, List.tail_cons,
    show L.drop (b + 1) = (L.drop a).drop (b - a + 1) by rw [List.drop_drop]; congr 1; omega,
    List.append_assoc, List.take_append_drop, List.take_append_drop]

theorem splice_get {α : Type} (L : List α) (a b : Nat) (y : α) (ha : a ≤ L.length) :
    (L.take a ++ [y] ++ L.drop (b + 1))[a]? = some y := by
  rw [List.append_assoc, List.getElem?_append_right (by simp; omega)]
  simp only [List.length_take]
  rw [show a - min a L.length = 0 by omega]
  rfl

theorem splice_lt {α : Type} (L : List α) (a b : Nat) (y : α) (ha : a ≤ L.length) :
    a < (L.take a ++ [y] ++ L.drop (b + 1)).length :=
  (List.getElem?_eq_some_iff.mp (splice_get L a b y ha)).1

theorem rows_one {α : Type} (L : List α) (a : Nat) (x : α) (hx : L[a]? = some x) : (L.drop a).take 1 = [x] := by
  rw [List.take_one, List.head?_drop, hx]
  rfl

theorem rows_wf {L : List Bytes} (hL : ∀ l ∈ L, Props.C01.WfLine l) (a n : Nat) (ha : a < L.length) :
    (∀ l ∈ (L.drop a).take (n + 1), Props.C01.WfLine l) ∧ ((L.drop a).take (n + 1)).flatten ≠ [] := by
  have hwf : ∀ l ∈ (L.drop a).take (n + 1), Props.C01.WfLine l :=
    fun l hl => hL l (List.mem_of_mem_drop (List.mem_of_mem_take hl))
  refine ⟨hwf, flatten_ne_nil_of_wf _ (fun he => ?_) hwf⟩
  have := congrArg List.length he
  simp only [List.length_take, List.length_drop, List.length_nil] at this
  omega

theorem putRep_one (s : VS) (t : Bytes) (h : s.arg1 ≤ 1) : putRep s t = t := by
  unfold putRep
  rw [show (max 1 s.arg1).toNat = 1 by omega]
  simp

/-- what a put finds after the rows `a..a+n` of well-formed lines went linewise into a plain register
    `c`, without a count: that text in line mode, not empty, and exactly those rows to insert -/
theorem put_of_rows (s1 : VS) (r : Regs) (c : Nat) (L : List Bytes) (a n : Nat) (hy : s1.ybuf = c)
    (hregs : s1.ed.regs = r.put c ((L.drop a).take (n + 1)).flatten 1)
    (hwf : RegsWf r) (hc : c < 256) (hu : isUpperC c = false) (h59 : c ≠ 59) (h35 : c ≠ 35) (h94 : c ≠ 94)
    (ha : s1.arg1 ≤ 1) (hL : ∀ l ∈ L, Props.C01.WfLine l) (hlt : a < L.length) :
    regGetLn s1.ed s1.ybuf = (some ((L.drop a).take (n + 1)).flatten, some 1) ∧
    ((L.drop a).take (n + 1)).flatten ≠ [] ∧
    splitLines (putRep s1 ((L.drop a).take (n + 1)).flatten) = (L.drop a).take (n + 1) := by
  obtain ⟨hw, hne⟩ := rows_wf hL a n hlt
  refine ⟨?_, hne, ?_⟩
  · rw [hy]
    exact regGetLn_of_put s1.ed r c _ 1 hregs hwf hc hu h59 h35 h94
  · rw [putRep_one s1 _ ha, Props.C01.split_of_join _ hw]

theorem lenOf_lines (s : VS) : lenOf s = ((Vi.lines s).length : Int) := rfl

/-! ### valid UTF-8 lines -/

theorem drop_byteOff (cs : List Nat) (k : Nat) : (encStr cs).drop (byteOff cs k) = encStr (cs.drop k) :=
  encStr_drop_byteOff cs k

theorem hd_enc_ne_ten {c : Nat} (h : c ≠ 10) (r : Bytes) : Bytes.hd (enc c ++ r) ≠ 10 := by
  intro h10
  cases he : enc c with
  | nil => exact enc_ne_nil c he
  | cons x t =>
    rw [he] at h10
    simp at h10
    exact h (ten_mem_enc (by rw [he, h10]; simp))

/-- the cursor offset is kept by `ren_noeol` when it points at a character other than the newline -/
theorem renNoeol_keep {cs : List Nat} (h : ∀ c ∈ cs, ValidCp c) (o : Nat) (c : Nat) (hc : cs[o]? = some c)
    (h10 : c ≠ 10) : Ren.renNoeol (encStr cs) (o : Int) = o := by
  have ho : o < cs.length := (List.getElem?_eq_some_iff.mp hc).1
  rw [C07.renNoeol_enc h o ho, if_neg]
  rw [List.getD_eq_getElem?_getD, hc]
  exact fun hh => h10 hh.2

end Neatvi.Lemmas.C08
