import NeatviVerif.Model.ViCmd
import NeatviVerif.Props.C16
import NeatviVerif.Props.C01
/-!
# C08, character offsets: `uc_sub` (`chrI`, `subI`) on arbitrary and on encoded strings; an encoded line is a buffer line (`wfLine_enc`)

`uc_chr` / `uc_slen` themselves are in `Lemmas/Uc.lean`.
-/
namespace Neatvi.Lemmas.C08
open Neatvi Neatvi.Uc Neatvi.Vi Neatvi.Spec

theorem chrI_neg (s : Bytes) (o : Int) (h : o < 0) : chrI s o = some s.length := by
  unfold chrI; rw [if_pos h]

theorem chrI_nonneg (s : Bytes) (o : Int) (h : 0 ≤ o) : chrI s o = ucChr s o.toNat := by
  unfold chrI; rw [if_neg (by omega)]

/-- `uc_sub(s, b, e)` with both ends inside the string is the byte slice between the two offsets -/
theorem subI_chr (s : Bytes) (b e : Int) (ib ie : Nat) (hb : 0 ≤ b) (he : 0 ≤ e)
    (h1 : ucChr s b.toNat = some ib) (h2 : ucChr s e.toNat = some ie) (hle : ib ≤ ie) :
    subI s b e = some ((s.drop ib).take (ie - ib)) := by
  unfold subI
  rw [chrI_nonneg s b hb, chrI_nonneg s e he, h1, h2]
  simp [hle]

/-- `uc_sub(s, b, -1)`: the tail from character `b` -/
theorem subI_tail (s : Bytes) (b : Int) (ib : Nat) (hb : 0 ≤ b) (h1 : ucChr s b.toNat = some ib) :
    subI s b (-1) = some (s.drop ib) := by
  unfold subI
  rw [chrI_nonneg s b hb, chrI_neg s (-1) (by omega), h1]
  have := chr_le_length _ _ _ h1
  simp only [this, if_true]
  rw [List.take_of_length_le (by simp)]

/-- `uc_sub(s, 0, e)`: the head up to character `e` -/
theorem subI_head (s : Bytes) (e : Int) (ie : Nat) (he : 0 ≤ e) (h2 : ucChr s e.toNat = some ie) :
    subI s 0 e = some (s.take ie) := by
  rw [subI_chr s 0 e 0 ie (by omega) he (chr_zero s) h2 (by omega)]
  simp

/-- `uc_sub(s, 0, -1)` is the whole string -/
theorem subI_all (s : Bytes) : subI s 0 (-1) = some s := by
  rw [subI_tail s 0 0 (by omega) (chr_zero s)]; simp

theorem subI_enc {cs : List Nat} (h : ∀ c ∈ cs, ValidCp c) (b e : Nat) (hbe : b ≤ e) (he : e ≤ cs.length) :
    subI (encStr cs) (b : Int) (e : Int) = some (encStr ((cs.take e).drop b)) := by
  have hs := Props.C16.sub_spec h b e hbe he
  unfold ucSub at hs
  unfold subI
  rw [chrI_nonneg _ _ (by omega), chrI_nonneg _ _ (by omega)]
  simp only [Int.toNat_natCast]
  rw [Props.C16.chr_spec h, Props.C16.chr_spec h, if_pos (by omega), if_pos he] at hs ⊢
  simp only [] at hs ⊢
  rw [hs]

theorem subI_enc_tail {cs : List Nat} (h : ∀ c ∈ cs, ValidCp c) (b : Nat) (hb : b ≤ cs.length) :
    subI (encStr cs) (b : Int) (-1) = some (encStr (cs.drop b)) := by
  have hc := Props.C16.chr_spec h b
  rw [if_pos hb] at hc
  rw [subI_tail _ _ _ (by omega) (by simpa using hc)]
  congr 1
  unfold byteOff
  conv => lhs; rw [← List.take_append_drop b cs, encStr_append]
  simp

theorem subI_enc_head {cs : List Nat} (h : ∀ c ∈ cs, ValidCp c) (e : Nat) (he : e ≤ cs.length) :
    subI (encStr cs) 0 (e : Int) = some (encStr (cs.take e)) := by
  have := subI_enc h 0 e (by omega) he
  simpa using this

theorem enc_ten : enc 10 = [10] := by decide

/-- a line of code points ending in the newline is a well-formed buffer line -/
theorem wfLine_enc {body : List Nat} (h : 10 ∉ body) : Props.C01.WfLine (encStr (body ++ [10])) := by
  refine ⟨encStr body, ?_, ten_notin_encStr h⟩
  rw [encStr_append]; simp [enc_ten]

end Neatvi.Lemmas.C08
