import NeatviVerif.Lemmas.C08Uc
import NeatviVerif.Lemmas.C08Regs
import NeatviVerif.Lemmas.C07Frame
/-!
# C08, vi level: the monad, `lbuf_region`, the exact result states of `vi_yank`, `vi_delete`, `vi_case`, `vc_put`, and what
  `reg_get` returns after a `reg_put` (`regGetLn_of_put`)
-/
namespace Neatvi.Lemmas.C08
open Neatvi Neatvi.Uc Neatvi.Vi Neatvi.Ex Neatvi.Lbuf Neatvi.Lemmas.Hist

/-! ### the monad -/
theorem bind_apply {α β : Type} (m : M α) (f : α → M β) (s : VS) :
    (m >>= f) s = match m s with | Res.ok a s' => f a s' | Res.eof => Res.eof | Res.trap => Res.trap := C07.bind_apply m f s
theorem pure_apply {α : Type} (a : α) (s : VS) : (pure a : M α) s = Res.ok a s := C07.pure_apply a s
theorem get_apply (s : VS) : Vi.get s = Res.ok s s := rfl
theorem liftO_some {α : Type} (a : α) (s : VS) : liftO (some a) s = Res.ok a s := rfl
theorem liftO_none {α : Type} (s : VS) : (liftO (none : Option α)) s = Res.trap := rfl
theorem regPut_apply (c : Nat) (t : Bytes) (l : Nat) (s : VS) :
    regPut c t l s = Res.ok () { s with ed := { s.ed with regs := s.ed.regs.put c t l } } := rfl
theorem setPos_apply (r o : Int) (s : VS) :
    setPos r o s = Res.ok () { s with ed := { s.ed with xrow := r, xoff := o } } := rfl
theorem setRow_apply (r : Int) (s : VS) : setRow r s = Res.ok () { s with ed := { s.ed with xrow := r } } := rfl
theorem setOff_apply (o : Int) (s : VS) : setOff o s = Res.ok () { s with ed := { s.ed with xoff := o } } := rfl
theorem edEdit_apply (t : Option Bytes) (b e : Int) (s : VS) :
    edEdit t b e s = match s.ed.edit t b e with | some ed => Res.ok () { s with ed := ed } | none => Res.trap := rfl

/-! ### a run that ends well, read backwards one statement at a time -/
theorem of_bind_ok {α β : Type} {m : M α} {f : α → M β} {s s' : VS} {b : β} (h : (m >>= f) s = Res.ok b s') :
    ∃ a s1, m s = Res.ok a s1 ∧ f a s1 = Res.ok b s' :=
  C07.bind_inv m f s b s' h

theorem of_liftO_bind_ok {α β : Type} {o : Option α} {f : α → M β} {s s' : VS} {b : β}
    (h : (liftO o >>= f) s = Res.ok b s') : ∃ a, o = some a ∧ f a s = Res.ok b s' := by
  cases o with
  | none => cases h
  | some x => exact ⟨x, rfl, h⟩

theorem of_edEdit_bind_ok {β : Type} {t : Option Bytes} {b e : Int} {f : Unit → M β} {s s' : VS} {r : β}
    (h : (edEdit t b e >>= f) s = Res.ok r s') :
    ∃ ed', s.ed.edit t b e = some ed' ∧ f () { s with ed := ed' } = Res.ok r s' := by
  rw [bind_apply, edEdit_apply] at h
  cases he : s.ed.edit t b e with
  | none => rw [he] at h; cases h
  | some ed' => rw [he] at h; exact ⟨ed', rfl, h⟩

/-! ### the text of the current buffer -/
theorem lines_eq (s : VS) : Vi.lines s = C06.lines s.ed := rfl

theorem lenOf_eq (s : VS) : lenOf s = s.ed.len := by
  unfold lenOf; rw [C06.len_eq]; rfl

theorem lineE_eq (s : VS) (r : Int) (h0 : 0 ≤ r) (l : Bytes) (h : (Vi.lines s)[r.toNat]? = some l) : lineE s r = l := by
  unfold lineE lineOf Mot.lineAt
  rw [if_neg (by omega), h]; rfl

theorem splitLines_wf (l : Bytes) (h : Props.C01.WfLine l) : splitLines l = [l] := by
  have := Props.C01.split_of_join [l] (by intro x hx; simp at hx; subst hx; exact h)
  simpa using this

/-- `Ed.edit` keeps everything but the buffer table; in particular the registers and the cursor -/
theorem edit_regs {ed ed' : Ed} {t : Option Bytes} {b e : Int} (h : ed.edit t b e = some ed') :
    ed'.regs = ed.regs ∧ ed'.xrow = ed.xrow ∧ ed'.xoff = ed.xoff := by
  have := C06.edit_fields ed ed' t b e h
  rw [this]; exact ⟨rfl, rfl, rfl⟩

/-! ### `lbuf_region` -/

theorem lbufRegion_single (s : VS) (r o1 o2 : Int) : lbufRegion s r o1 r o2 = subI (lineE s r) o1 o2 := by
  unfold lbufRegion; simp

theorem lbufRegion_multi (s : VS) (r1 o1 r2 o2 : Int) (hne : r1 ≠ r2) (t hd : Bytes)
    (h1 : subI (lineE s r1) o1 (-1) = some t) (h2 : subI (lineE s r2) 0 o2 = some hd) :
    lbufRegion s r1 o1 r2 o2 =
      some (t ++ (((Vi.lines s).drop (r1 + 1).toNat).take (r2.toNat - (r1 + 1).toNat)).flatten ++ hd) := by
  unfold lbufRegion
  have : (r1 == r2) = false := by simpa using hne
  rw [this, h1, h2]
  simp only [Bool.false_eq_true, if_false]
  rw [show s.ed.cp (r1 + 1) r2 =
      (((C06.lines s.ed).drop (r1 + 1).toNat).take (r2.toNat - (r1 + 1).toNat)).flatten from by
    unfold Ed.cp C06.lines Lbuf.cp; cases s.ed.lb <;> simp]
  rfl

theorem slice_split {α : Type} (L : List α) (a b : Nat) (x y : α) (hab : a < b)
    (hx : L[a]? = some x) (hy : L[b]? = some y) :
    (L.drop a).take (b - a + 1) = [x] ++ (L.drop (a + 1)).take (b - (a + 1)) ++ [y] := by
  have hb : b < L.length := by
    have := (List.getElem?_eq_some_iff.mp hy).1; exact this
  have e1 : L.drop a = x :: L.drop (a + 1) := by
    rw [List.drop_eq_getElem?_toList_append, hx]; rfl
  rw [e1, show b - a + 1 = (b - (a + 1) + 1) + 1 by omega, List.take_succ_cons]
  simp only [List.cons_append, List.cons.injEq, true_and]
  rw [List.take_add_one, List.getElem?_drop, show a + 1 + (b - (a + 1)) = b by omega, hy]
  rfl

/-- the whole lines `r1..r2` -/
theorem lbufRegion_lines (s : VS) (r1 r2 : Int) (h0 : 0 ≤ r1) (h12 : r1 ≤ r2) (h2 : r2 < lenOf s) :
    lbufRegion s r1 0 r2 (-1) = some (((Vi.lines s).drop r1.toNat).take (r2.toNat - r1.toNat + 1)).flatten := by
  have hlen : r2.toNat < (Vi.lines s).length := by unfold lenOf at h2; omega
  obtain ⟨x, hx⟩ : ∃ x, (Vi.lines s)[r1.toNat]? = some x := ⟨_, List.getElem?_eq_getElem (by omega)⟩
  obtain ⟨y, hy⟩ : ∃ y, (Vi.lines s)[r2.toNat]? = some y := ⟨_, List.getElem?_eq_getElem hlen⟩
  by_cases he : r1 = r2
  · subst he
    rw [lbufRegion_single, lineE_eq s r1 h0 x hx, subI_all]
    rw [show r1.toNat - r1.toNat + 1 = 1 by omega, List.take_one, List.head?_drop, hx]
    simp
  · rw [lbufRegion_multi s r1 0 r2 (-1) he x y (by rw [lineE_eq s r1 h0 x hx, subI_all])
      (by rw [lineE_eq s r2 (by omega) y hy, subI_all])]
    rw [slice_split (Vi.lines s) r1.toNat r2.toNat x y (by omega) hx hy]
    rw [show (r1 + 1).toNat = r1.toNat + 1 by omega]
    simp

theorem viYank_eq (r1 o1 r2 o2 : Int) (ln : Bool) (s s' : VS) (a : Nat) (h : viYank r1 o1 r2 o2 ln s = Res.ok a s') :
    ∃ region, lbufRegion s r1 (if ln then 0 else o1) r2 (if ln then -1 else o2) = some region ∧
      s' = { s with ed := { s.ed with regs := s.ed.regs.put s.ybuf region (if ln then 1 else 0),
                                      xrow := r1, xoff := if ln then s.ed.xoff else o1 } } ∧ a = VC_COL := by
  unfold viYank at h
  obtain ⟨_, _, hg, h⟩ := of_bind_ok h
  cases hg
  obtain ⟨region, ereg, h⟩ := of_liftO_bind_ok h
  obtain ⟨_, _, hp, h⟩ := of_bind_ok h
  cases hp
  obtain ⟨_, _, hsp, h⟩ := of_bind_ok h
  cases hsp
  cases h
  exact ⟨region, ereg, rfl, rfl⟩

theorem viDelete_char_eq (r1 o1 r2 o2 : Int) (s s' : VS) (a : Nat) (h : viDelete r1 o1 r2 o2 false s = Res.ok a s') :
    ∃ region pref post ed', lbufRegion s r1 o1 r2 o2 = some region ∧
      subI (lineE s r1) 0 o1 = some pref ∧ subI (lineE s r2) o2 (-1) = some post ∧
      ({ s.ed with regs := s.ed.regs.put s.ybuf region 0 } : Ed).edit (some (pref ++ post)) r1 (r2 + 1) = some ed' ∧
      s' = { s with ed := { ed' with xrow := r1, xoff := o1 } } ∧ a = VC_OK := by
  unfold viDelete at h
  obtain ⟨_, _, hg, h⟩ := of_bind_ok h
  cases hg
  obtain ⟨region, ereg, h⟩ := of_liftO_bind_ok h
  obtain ⟨_, _, hp, h⟩ := of_bind_ok h
  cases hp
  obtain ⟨pref, epref, h⟩ := of_liftO_bind_ok h
  obtain ⟨post, epost, h⟩ := of_liftO_bind_ok h
  obtain ⟨ed', eed, h⟩ := of_edEdit_bind_ok h
  obtain ⟨_, _, hg, h⟩ := of_bind_ok h
  cases hg
  obtain ⟨_, _, hsp, h⟩ := of_bind_ok h
  cases hsp
  cases h
  exact ⟨region, pref, post, ed', ereg, epref, epost, eed, rfl, rfl⟩

theorem viDelete_line_eq (r1 o1 r2 o2 : Int) (s s' : VS) (a : Nat) (h : viDelete r1 o1 r2 o2 true s = Res.ok a s') :
    ∃ region ed', lbufRegion s r1 0 r2 (-1) = some region ∧
      ({ s.ed with regs := s.ed.regs.put s.ybuf region 1 } : Ed).edit none r1 (r2 + 1) = some ed' ∧
      s' = { s with ed := { ed' with xrow := min r1 (max 0 (((C06.lines ed').length : Int) - 1)),
                                     xoff := Mot.indents (C06.lines ed') (min r1 (max 0 (((C06.lines ed').length : Int) - 1))) } } ∧
      a = VC_OK := by
  unfold viDelete at h
  obtain ⟨_, _, hg, h⟩ := of_bind_ok h
  cases hg
  obtain ⟨region, ereg, h⟩ := of_liftO_bind_ok h
  obtain ⟨_, _, hp, h⟩ := of_bind_ok h
  cases hp
  obtain ⟨ed', eed, h⟩ := of_edEdit_bind_ok h
  obtain ⟨_, _, hg, h⟩ := of_bind_ok h
  cases hg
  obtain ⟨_, _, hsp, h⟩ := of_bind_ok h
  cases hsp
  cases h
  exact ⟨region, ed', ereg, eed, rfl, rfl⟩

theorem viCase_char_eq (r1 o1 r2 o2 : Int) (cmd : Nat) (s s' : VS) (a : Nat)
    (h : viCase r1 o1 r2 o2 false cmd s = Res.ok a s') :
    ∃ region pref post ed', lbufRegion s r1 o1 r2 o2 = some region ∧
      subI (lineE s r1) 0 o1 = some pref ∧ subI (lineE s r2) o2 (-1) = some post ∧
      s.ed.edit (some (pref ++ caseMap cmd (region.length + 1) region ++ post)) r1 (r2 + 1) = some ed' ∧
      s' = { s with ed := { ed' with xrow := r2, xoff := o2 } } ∧ a = VC_OK := by
  unfold viCase at h
  obtain ⟨_, _, hg, h⟩ := of_bind_ok h
  cases hg
  obtain ⟨region, ereg, h⟩ := of_liftO_bind_ok h
  obtain ⟨pref, epref, h⟩ := of_liftO_bind_ok h
  obtain ⟨post, epost, h⟩ := of_liftO_bind_ok h
  obtain ⟨ed', eed, h⟩ := of_edEdit_bind_ok h
  obtain ⟨_, _, hg, h⟩ := of_bind_ok h
  cases hg
  obtain ⟨_, _, hsp, h⟩ := of_bind_ok h
  cases hsp
  cases h
  exact ⟨region, pref, post, ed', ereg, epref, epost, eed, rfl, rfl⟩

/-! ### `vc_put` -/

/-- the text a put inserts: `max 1 arg1` copies of the register -/
def putRep (s : VS) (buf : Bytes) : Bytes := (List.replicate (max 1 s.arg1).toNat buf).flatten

/-- linewise `P` on a non-empty buffer -/
theorem vcPut_line_P_eq (s s' : VS) (a : Nat) (buf : Bytes) (lnm : Nat)
    (hreg : regGetLn s.ed s.ybuf = (some buf, some lnm)) (hne : buf ≠ []) (hl : lnm ≠ 0) (hlen : lenOf s ≠ 0)
    (h : vcPut 80 s = Res.ok a s') :
    ∃ ed', s.ed.edit (some (putRep s buf)) s.ed.xrow s.ed.xrow = some ed' ∧
      s' = { s with ed := { ed' with xoff := Mot.indents (C06.lines ed') ed'.xrow } } ∧ a = VC_OK := by
  have e1 : buf.isEmpty = false := List.isEmpty_eq_false_iff.mpr hne
  have e2 : (lnm != 0) = true := bne_iff_ne.mpr hl
  have e3 : (lenOf s == 0) = false := beq_eq_false_iff_ne.mpr hlen
  unfold vcPut at h
  obtain ⟨_, _, hg, h⟩ := of_bind_ok h
  cases hg
  simp only [hreg, e1, e2, e3, Bool.false_eq_true, ↓reduceIte, show ((80 : Nat) == 112) = false by decide] at h
  obtain ⟨_, _, hg, h⟩ := of_bind_ok h
  cases hg
  obtain ⟨ed', he, h⟩ := of_edEdit_bind_ok h
  obtain ⟨_, _, hg, h⟩ := of_bind_ok h
  cases hg
  obtain ⟨_, _, hso, h⟩ := of_bind_ok h
  cases hso
  cases h
  exact ⟨ed', he, rfl, rfl⟩

/-- linewise `p` on a non-empty buffer -/
theorem vcPut_line_p_eq (s s' : VS) (a : Nat) (buf : Bytes) (lnm : Nat)
    (hreg : regGetLn s.ed s.ybuf = (some buf, some lnm)) (hne : buf ≠ []) (hl : lnm ≠ 0) (hlen : lenOf s ≠ 0)
    (h : vcPut 112 s = Res.ok a s') :
    ∃ ed', ({ s.ed with xrow := s.ed.xrow + 1 } : Ed).edit (some (putRep s buf)) (s.ed.xrow + 1) (s.ed.xrow + 1) = some ed' ∧
      s' = { s with ed := { ed' with xoff := Mot.indents (C06.lines ed') ed'.xrow } } ∧ a = VC_OK := by
  have e1 : buf.isEmpty = false := List.isEmpty_eq_false_iff.mpr hne
  have e2 : (lnm != 0) = true := bne_iff_ne.mpr hl
  have e3 : (lenOf s == 0) = false := beq_eq_false_iff_ne.mpr hlen
  unfold vcPut at h
  obtain ⟨_, _, hg, h⟩ := of_bind_ok h
  cases hg
  simp only [hreg, e1, e2, e3, Bool.false_eq_true, ↓reduceIte, show ((112 : Nat) == 112) = true from rfl] at h
  obtain ⟨_, _, hr, h⟩ := of_bind_ok h
  cases hr
  obtain ⟨_, _, hg, h⟩ := of_bind_ok h
  cases hg
  obtain ⟨ed', he, h⟩ := of_edEdit_bind_ok h
  obtain ⟨_, _, hg, h⟩ := of_bind_ok h
  cases hg
  obtain ⟨_, _, hso, h⟩ := of_bind_ok h
  cases hso
  cases h
  exact ⟨ed', he, rfl, rfl⟩

/-- the line a charwise put works on -/
def putLine (s : VS) : Bytes := if s.ed.xrow < lenOf s then lineE s s.ed.xrow else [10]

/-- the character offset a charwise put inserts at: the cursor for `P`, one further for `p`
    (except on an empty line) -/
def putOff (cmd : Nat) (s : VS) : Int :=
  Ren.renNoeol (putLine s) s.ed.xoff + (if (putLine s).headD 0 != 10 && cmd == 112 then 1 else 0)

/-- charwise put -/
theorem vcPut_char_eq (cmd : Nat) (s s' : VS) (a : Nat) (buf : Bytes)
    (hreg : regGetLn s.ed s.ybuf = (some buf, some 0)) (hne : buf ≠ [])
    (h : vcPut cmd s = Res.ok a s') :
    ∃ x y ed', subI (putLine s) 0 (putOff cmd s) = some x ∧ subI (putLine s) (putOff cmd s) (-1) = some y ∧
      s.ed.edit (some (x ++ putRep s buf ++ y)) s.ed.xrow (s.ed.xrow + 1) = some ed' ∧
      s' = { s with ed := { ed' with xoff := putOff cmd s + (ucSlen buf : Int) * ((max 1 s.arg1).toNat : Int) - 1 } } ∧
      a = VC_OK := by
  have e1 : buf.isEmpty = false := List.isEmpty_eq_false_iff.mpr hne
  unfold vcPut at h
  obtain ⟨_, _, hg, h⟩ := of_bind_ok h
  cases hg
  simp only [hreg, e1, Bool.false_eq_true, ↓reduceIte, bne_self_eq_false] at h
  obtain ⟨x, hx, h⟩ := of_liftO_bind_ok h
  obtain ⟨y, hy, h⟩ := of_liftO_bind_ok h
  obtain ⟨ed', he, h⟩ := of_edEdit_bind_ok h
  obtain ⟨_, _, hso, h⟩ := of_bind_ok h
  cases hso
  cases h
  exact ⟨x, y, ed', hx, hy, he, rfl, rfl⟩

theorem put_getRaw_target (r : Regs) (c : Nat) (t : Bytes) (l : Nat) (h : RegsWf r) (hc : c < 256)
    (hu : isUpperC c = false) : (r.put c t l).getRaw (regTarget c) = (some t, l) := by
  have hu' : isUpperC (regTarget c) = false := by rw [regTarget_upper]; exact hu
  rw [put_get r c (regTarget c) t l h hc, lowerC_of_not_upper hu', if_pos rfl]
  simp [rawText, hu']

/-- after `reg_put(c, t, l)` into a plain register (`"` included: it names the unnamed register on both
    sides), `reg_get(c, &lnmode)` returns the text and the mode -/
theorem regGetLn_of_put (ed : Ed) (r : Regs) (c : Nat) (t : Bytes) (l : Nat) (hr : ed.regs = r.put c t l)
    (h : RegsWf r) (hc : c < 256)
    (hu : isUpperC c = false) (h59 : c ≠ 59) (h35 : c ≠ 35) (h94 : c ≠ 94) :
    regGetLn ed c = (some t, some l) := by
  have hg := put_getRaw_target r c t l h hc hu
  have hT : (if c == 34 then 0 else c) = regTarget c := rfl
  have e59 : (regTarget c == 59) = false := by
    unfold regTarget; split <;> simp [h59]
  have e35 : (regTarget c == 35) = false := by
    unfold regTarget; split <;> simp [h35]
  have e94 : (regTarget c == 94) = false := by
    unfold regTarget; split <;> simp [h94]
  unfold regGetLn regGet
  simp only [hT, e59, e35, e94, Bool.false_eq_true, if_false, Bool.or_self, hr, hg]

end Neatvi.Lemmas.C08
