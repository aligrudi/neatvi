import NeatviVerif.Lemmas.C08bJoin
/-!
# C08: the case loop of `vi_case`, and `vi_shift`
-/
namespace Neatvi.Lemmas.C08b
open Neatvi Neatvi.Uc Neatvi.Vi Neatvi.Ex Neatvi.Spec Neatvi.Lemmas.C08 Neatvi.Lemmas.C09

/-- what `~` / `gu` / `gU` / `g~` do to one code point: only ASCII is touched -/
def caseCp (cmd c : Nat) : Nat :=
  if c ≤ 127 then
    (if cmd == 117 then lowerB c else if cmd == 85 then upperB c
     else if cmd == 126 then (if 97 ≤ c && c ≤ 122 then upperB c else lowerB c) else c)
  else c

theorem lowerB_cases (c : Nat) : lowerB c = c ∨ 65 ≤ c ∧ c ≤ 90 ∧ lowerB c = c + 32 := by
  unfold lowerB
  split
  · rename_i h
    simp only [Bool.and_eq_true, decide_eq_true_eq] at h
    exact Or.inr ⟨h.1, h.2, rfl⟩
  · exact Or.inl rfl

theorem upperB_cases (c : Nat) : upperB c = c ∨ 97 ≤ c ∧ c ≤ 122 ∧ upperB c = c - 32 := by
  unfold upperB
  split
  · rename_i h
    simp only [Bool.and_eq_true, decide_eq_true_eq] at h
    exact Or.inr ⟨h.1, h.2, rfl⟩
  · exact Or.inl rfl

theorem caseCp_cases (cmd c : Nat) :
    caseCp cmd c = c ∨ 65 ≤ c ∧ c ≤ 90 ∧ caseCp cmd c = c + 32 ∨ 97 ≤ c ∧ c ≤ 122 ∧ caseCp cmd c = c - 32 := by
  unfold caseCp
  split
  · split
    · exact (lowerB_cases c).imp id Or.inl
    split
    · exact (upperB_cases c).imp id Or.inr
    split
    · split
      · exact (upperB_cases c).imp id Or.inr
      · exact (lowerB_cases c).imp id Or.inl
    · exact Or.inl rfl
  · exact Or.inl rfl

theorem caseCp_lt (cmd c : Nat) (h : c < 128) : caseCp cmd c < 128 ∧ (0 < c → 0 < caseCp cmd c) := by
  have := caseCp_cases cmd c
  omega

theorem caseCp_valid (cmd c : Nat) (h : ValidCp c) : ValidCp (caseCp cmd c) := by
  by_cases hlt : c < 128
  · have := caseCp_lt cmd c hlt
    exact ⟨this.2 h.1, by omega⟩
  · unfold caseCp; rw [if_neg (by omega)]; exact h

/-- **the case loop on valid UTF-8** maps code point by code point -/
theorem caseMap_enc (cmd : Nat) : ∀ (cs : List Nat) (f : Nat), (∀ c ∈ cs, ValidCp c) → cs.length ≤ f →
    caseMap cmd f (encStr cs) = encStr (cs.map (caseCp cmd)) := by
  intro cs
  induction cs with
  | nil => intro f _ _; cases f <;> simp [caseMap]
  | cons c cs ih =>
    intro f hv hf
    obtain ⟨f, rfl⟩ : ∃ g, f = g + 1 := ⟨f - 1, by simp at hf; omega⟩
    have hc := hv c (by simp)
    obtain ⟨a, t, he, hch⟩ := enc_chr hc
    have hlen := Props.C16.len_enc hc
    rw [he] at hlen
    simp only [Bytes.hd_cons, List.length_cons] at hlen
    rw [List.map_cons, encStr_cons, encStr_cons, he, List.cons_append, caseMap]
    rw [hlen, show max 1 (t.length + 1) = t.length + 1 by omega]
    simp only [List.drop_succ_cons, List.drop_zero, Nat.add_sub_cancel]
    rw [List.take_left' rfl, List.drop_left' rfl, ih f (fun d hd => hv d (by simp [hd])) (by simp at hf; omega)]
    congr 1
    by_cases hlt : c < 128
    · rcases enc_head he with ⟨-, rfl, rfl⟩ | h
      · rw [enc_ascii (caseCp_lt cmd a hlt).1]
        unfold caseCp
        rfl
      · omega
    · have ha : 127 < a := by
        rcases enc_head he with h | h
        · omega
        · omega
      have : caseCp cmd c = c := by unfold caseCp; rw [if_neg (by omega)]
      rw [this, he, if_neg (by omega)]

/-! ### `vi_shift` -/

/-- what `>` (`dir > 0`) and `<` do to one line: a tab in front of a non-empty line; one leading blank removed -/
def shiftLine (dir : Int) (ln : Bytes) : Bytes :=
  if dir > 0 then (if ln.headD 0 != 10 then 9 :: ln else ln)
  else (if isBlankC (ln.headD 0) then ln.drop 1 else ln)

theorem shiftLine_wf (dir : Int) (ln : Bytes) (h : Props.C01.WfLine ln) : Props.C01.WfLine (shiftLine dir ln) := by
  obtain ⟨w, rfl, hw⟩ := h
  unfold shiftLine
  split
  · split
    · exact ⟨9 :: w, rfl, by simp [hw]⟩
    · exact ⟨w, rfl, hw⟩
  · split
    · rename_i hb
      cases w with
      | nil => simp [isBlankC] at hb
      | cons x t => exact ⟨t, rfl, fun h => hw (by simp [h])⟩
    · exact ⟨w, rfl, hw⟩

theorem splice_step {α : Type} (L : List α) (j k : Nat) (x y : α) (g : α → α) (hx : L[j]? = some x) (hy : y = g x) :
    (L.take j ++ [y] ++ L.drop (j + 1)).take (j + 1) ++
        (((L.take j ++ [y] ++ L.drop (j + 1)).drop (j + 1)).take k).map g ++
        (L.take j ++ [y] ++ L.drop (j + 1)).drop (j + 1 + k) =
      L.take j ++ ((L.drop j).take (k + 1)).map g ++ L.drop (j + (k + 1)) := by
  have hj : j < L.length := (List.getElem?_eq_some_iff.mp hx).1
  have hlen : (L.take j ++ [y]).length = j + 1 := by simp; omega
  have e1 : (L.take j ++ [y] ++ L.drop (j + 1)).take (j + 1) = L.take j ++ [y] := List.take_left' hlen
  have e2 : (L.take j ++ [y] ++ L.drop (j + 1)).drop (j + 1) = L.drop (j + 1) := List.drop_left' hlen
  have e3 : (L.take j ++ [y] ++ L.drop (j + 1)).drop (j + 1 + k) = L.drop (j + 1 + k) := by
    rw [← List.drop_drop, e2, List.drop_drop]
  have e4 : L.drop j = x :: L.drop (j + 1) := by
    rw [List.drop_eq_getElem?_toList_append, hx]; rfl
  rw [e1, e2, e3, e4, List.take_succ_cons, List.map_cons, ← hy]
  rw [show j + (k + 1) = j + 1 + k by omega]
  simp

/-- the loop of `vi_shift` over `k` existing rows starting at `i` -/
theorem shift_go (r2 dir : Int) : ∀ (k f : Nat) (i : Int) (s : VS), 0 ≤ i → i + k = r2 + 1 → k ≤ f → r2 < lenOf s →
    (∀ l ∈ Vi.lines s, Props.C01.WfLine l) →
    ∃ s', viShift.go r2 dir f i s = Res.ok () s' ∧
      Vi.lines s' = (Vi.lines s).take i.toNat ++ (((Vi.lines s).drop i.toNat).take k).map (shiftLine dir) ++
        (Vi.lines s).drop (i.toNat + k) ∧
      s'.ed = { s.ed with bufs := s'.ed.bufs } ∧ s' = { s with ed := s'.ed } := by
  intro k
  induction k with
  | zero =>
    intro f i s _ hi _ _ _
    refine ⟨s, ?_, by simp, rfl, rfl⟩
    cases f with
    | zero => rw [viShift.go]; rfl
    | succ f => rw [viShift.go, if_pos (by omega)]; rfl
  | succ k ih =>
    intro f i s h0 hi hf hlen hwf
    obtain ⟨f, rfl⟩ : ∃ g, f = g + 1 := ⟨f - 1, by omega⟩
    have hlt : i.toNat < (Vi.lines s).length := by unfold lenOf at hlen; omega
    obtain ⟨ln, hln⟩ : ∃ ln, (Vi.lines s)[i.toNat]? = some ln := ⟨_, List.getElem?_eq_getElem hlt⟩
    have hl := lineOf_of_get s i ln h0 hln
    obtain ⟨lb, hlb⟩ := lb_of_line s _ _ hln
    have hlnwf : Props.C01.WfLine ln := hwf ln (List.mem_of_getElem? hln)
    have hwf' := shiftLine_wf dir ln hlnwf
    obtain ⟨ed', he1, he2, he3⟩ := edEdit_spec s (shiftLine dir ln) i (i + 1) lb hlb h0 (by omega)
      (by unfold lenOf; omega)
    rw [splitLines_wf _ hwf', show (i + 1).toNat = i.toNat + 1 by omega] at he2
    have hlines1 : Vi.lines { s with ed := ed' } = (Vi.lines s).take i.toNat ++ [shiftLine dir ln] ++ (Vi.lines s).drop (i.toNat + 1) := he2
    obtain ⟨s', h1, h2, h3, h4⟩ := ih f (i + 1) { s with ed := ed' } (by omega) (by omega) (by omega)
      (by
        unfold lenOf; rw [hlines1]
        simp only [List.length_append, List.length_take, List.length_drop, List.length_singleton]
        unfold lenOf at hlen; omega)
      (by rw [hlines1]; exact fun l hl => (Basics.mem_splice hl).elim (hwf l) (fun h => by simp at h; exact h ▸ hwf'))
    refine ⟨s', ?_, ?_, ?_, ?_⟩
    · rw [viShift.go, if_neg (by omega)]
      simp only [bind_apply, get_apply, hl]
      have : (if dir > 0 then (if ln.headD 0 != 10 then 9 :: ln else ln)
          else (if isBlankC (ln.headD 0) then ln.drop 1 else ln)) = shiftLine dir ln := rfl
      rw [this, he1]
      exact h1
    · rw [h2, hlines1, show (i + 1).toNat = i.toNat + 1 by omega]
      exact splice_step (Vi.lines s) i.toNat k ln _ (shiftLine dir) hln rfl
    · rw [h3]
      show ({ ed' with bufs := s'.ed.bufs } : Ed) = _
      rw [he3]
    · rw [h4]

end Neatvi.Lemmas.C08b
