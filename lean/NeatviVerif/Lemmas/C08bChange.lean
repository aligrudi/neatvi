import NeatviVerif.Lemmas.C08bOpen
/-!
# C08 (insert mode): `vi_change` is the cut, `reg_put` and `changeTail` (the insertion in place of the rows cut)
-/
namespace Neatvi.Lemmas.C08b
open Neatvi Neatvi.Uc Neatvi.Vi Neatvi.Ex Neatvi.Spec Neatvi.Lemmas.C08 Neatvi.Lemmas.C09

/-- `vi_change` after the region went to the register and `pref`, `post` were cut out -/
def changeTail (pref post : Bytes) (r1 r2 : Int) : M Nat := do
  setRow r1
  drawfixTop r1 true
  let (rep, row, off) ← viInput pref post
  edEdit (some rep) r1 (r2 + 1)
  setPos (r1 + row - 1) off
  pure VC_OK

/-- the state in which the insertion of `vi_change` starts: row set, window pulled up to it -/
def changeSt (s : VS) (r1 : Int) : VS :=
  { s with ed := if r1 < s.ed.xtop then { s.ed with xrow := r1, xtop := r1 } else { s.ed with xrow := r1 } }

theorem changeSt_eq (s : VS) (r1 : Int) : ∃ ed, changeSt s r1 = { s with ed := ed } ∧ ed.xrow = r1 ∧
    ed.bufs = s.ed.bufs ∧ ed.regs = s.ed.regs := by
  unfold changeSt
  split
  · exact ⟨_, rfl, rfl, rfl, rfl⟩
  · exact ⟨_, rfl, rfl, rfl, rfl⟩

theorem changeTail_eq (pref post : Bytes) (r1 r2 : Int) (s : VS) :
    changeTail pref post r1 r2 s =
      (do let (rep, row, off) ← viInput pref post
          edEdit (some rep) r1 (r2 + 1)
          setPos (r1 + row - 1) off
          pure VC_OK : M Nat) (changeSt s r1) := by
  unfold changeTail changeSt drawfixTop
  simp only [bind_apply, setRow_apply, get_apply, Bool.true_and]
  by_cases h : r1 < s.ed.xtop
  · simp only [h, decide_true, if_true]
    rfl
  · simp only [h, decide_false, Bool.false_eq_true, if_false]
    rfl

/-- character-wise `vi_change` is the cut, `reg_put`, and `changeTail` -/
theorem viChange_char_red (r1 o1 r2 o2 : Int) (s : VS) (region pref post : Bytes) (l2 : Bytes)
    (hreg : lbufRegion s r1 o1 r2 o2 = some region)
    (hpref : subI (lineE s r1) 0 o1 = some pref) (hl2 : lineOf s r2 = some l2)
    (hpost : subI (lineE s r2) o2 (-1) = some post) :
    viChange r1 o1 r2 o2 false s =
      changeTail pref post r1 r2 { s with ed := { s.ed with regs := s.ed.regs.put s.ybuf region 0 } } := by
  unfold viChange changeTail
  simp only [bind_apply, get_apply, Bool.false_eq_true, if_false, hreg, liftO_some, regPut_apply, hpref, hl2,
    Option.isNone_some, Bool.or_self, hpost]

/-- line-wise `vi_change` (`cc`, `S`) is `reg_put` of the lines and `changeTail` after the indentation -/
theorem viChange_line_red (r1 o1 r2 o2 : Int) (s : VS) (region : Bytes)
    (hreg : lbufRegion s r1 0 r2 (-1) = some region) :
    viChange r1 o1 r2 o2 true s =
      changeTail (viIndents s (lineOf s r1)) [10] r1 r2
        { s with ed := { s.ed with regs := s.ed.regs.put s.ybuf region 1 } } := by
  unfold viChange changeTail
  simp only [bind_apply, get_apply, if_true, hreg, liftO_some, regPut_apply, pure_apply, Bool.true_or]

end Neatvi.Lemmas.C08b
