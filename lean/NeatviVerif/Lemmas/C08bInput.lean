import NeatviVerif.Lemmas.C08bSim
import NeatviVerif.Lemmas.C08Round
/-!
# C08 (insert mode): `led_input` / `vi_input` for an insertion that ends on the line it started
-/
namespace Neatvi.Lemmas.C08b
open Neatvi Neatvi.Uc Neatvi.Vi Neatvi.Ex Neatvi.Spec Neatvi.Lemmas.C08 Neatvi.Lemmas.C09

/-- the auto-indent `led_input` splits off the prefix: its leading blanks (at most 127) -/
def aiOf (pref0 : Bytes) : Bytes := (pref0.takeWhile isBlankC).take 127

/-- the rest of the prefix -/
def prefRest (pref0 : Bytes) : Bytes := pref0.drop (aiOf pref0).length

theorem aiOf_append_prefRest (pref0 : Bytes) : aiOf pref0 ++ prefRest pref0 = pref0 := by
  unfold prefRest aiOf
  have h1 : (pref0.takeWhile isBlankC).take 127 = pref0.take ((pref0.takeWhile isBlankC).take 127).length := by
    have hp : (pref0.takeWhile isBlankC).take 127 <+: pref0 :=
      List.IsPrefix.trans (List.take_prefix _ _) (List.takeWhile_prefix _)
    exact (List.prefix_iff_eq_take.mp hp)
  conv => lhs; arg 1; rw [h1]
  exact List.take_append_drop _ _

/-- is the auto-indent put back in front of the line?  Not for a blank line typed after a blank
prefix at the end of a line -/
def keepAi (pref0 post0 ln : Bytes) : Bool :=
  decide ((ln.takeWhile isBlankC).length < ln.length) || !(prefRest pref0).isEmpty ||
    (!post0.isEmpty && post0.headD 0 != 10)

/-- the text `led_input` builds when the first line is ended by ESC / `^C` -/
def inputLine (pref0 post0 ln ai : Bytes) : Bytes :=
  (if keepAi pref0 post0 ln then ai else []) ++ prefRest pref0 ++ ln ++ post0

theorem ledInput_loop_end (xai : Bool) (f : Nat) (sb : Bytes) (pref : Option Bytes) (post ai : Bytes) (s s1 : VS)
    (ln ai' : Bytes) (e : Nat)
    (h : ledLine (pref.getD []) post ai 127 true false s = Res.ok (ln, (e : Int), ai') s1) (he : e ≠ 10)
    (hnl : nlCount ln = 0) :
    ledInput.loop xai (f + 1) sb pref post ai s =
      Res.ok ((if decide ((ln.takeWhile isBlankC).length < ln.length) ||
          !(pref.getD []).isEmpty || (!post.isEmpty && post.headD 0 != 10)
        then sb ++ ai' else sb) ++ pref.getD [] ++ ln ++ post, post) s1 := by
  have e10 : ((e : Int) == 10) = false := beq_cast e 10 he
  have n10 : ((e : Int) != 10) = true := by simp [bne, e10]
  cases pref
  all_goals
    rw [ledInput.loop]
    simp only [Option.getD_some, Option.getD_none] at h ⊢
    simp only [bind_apply, h, hnl, e10, n10, Bool.false_eq_true, if_false, Nat.add_zero, Vi.repeatM, pure_apply, if_true,
        Bool.true_and, List.append_nil, List.isEmpty_nil, Bool.not_true]

theorem ledInput_of_ledLine (pref0 post0 : Bytes) (s : VS) (ln ai' : Bytes) (e : Nat) (s1 : VS)
    (h : ledLine (prefRest pref0) post0 (aiOf pref0) 127 true false s = Res.ok (ln, (e : Int), ai') s1)
    (he : e ≠ 10) (hnl : nlCount ln = 0) :
    ledInput pref0 post0 s = Res.ok (inputLine pref0 post0 ln ai', post0) s1 := by
  have := ledInput_loop_end s.xai 99999 [] (some (prefRest pref0)) post0 (aiOf pref0) s s1 ln ai' e h he hnl
  unfold prefRest aiOf at this
  unfold ledInput
  simp only [bind_apply, get_apply]
  rw [this]
  rfl

/-! ### `charcount` and `nlCount` on encoded text -/

theorem filter_ten_enc {c : Nat} (h : c ≠ 10) : (enc c).filter (· == 10) = [] := by
  rw [List.filter_eq_nil_iff]
  intro x hx hx10
  simp only [beq_iff_eq] at hx10
  subst hx10
  exact h (ten_mem_enc hx)

theorem nlCount_append (a b : Bytes) : nlCount (a ++ b) = nlCount a + nlCount b := by
  simp [nlCount]

theorem nlCount_encStr {cs : List Nat} (h : 10 ∉ cs) : nlCount (encStr cs) = 0 := by
  induction cs with
  | nil => rfl
  | cons c r ih =>
    simp only [List.mem_cons, not_or] at h
    rw [encStr_cons, nlCount_append, ih h.2]
    simp [nlCount, filter_ten_enc (Ne.symm h.1)]

theorem nlCount_ten : nlCount [10] = 1 := rfl

theorem charcount_tail {tl ps : List Nat} (pre : Bytes) (hpre : pre = [] ∨ ∃ p, pre = p ++ [10])
    (ht : ∀ c ∈ tl, ValidCp c) (hp : ∀ c ∈ ps, ValidCp c) (h10 : 10 ∉ tl) :
    charcount (pre ++ encStr tl ++ encStr ps) (encStr ps) = tl.length := by
  have hno : 10 ∉ (encStr tl).reverse := fun h => ten_notin_encStr h10 (List.mem_reverse.mp h)
  have htw : (pre ++ encStr tl).reverse.takeWhile (· != 10) = (encStr tl).reverse := by
    rw [List.reverse_append]
    rcases hpre with rfl | ⟨p, rfl⟩
    · rw [List.reverse_nil, List.append_nil]
      exact takeWhile_all _ _ fun x hx => by simpa using fun h : x = 10 => hno (h ▸ hx)
    · rw [List.reverse_append, List.reverse_singleton, List.singleton_append]
      exact takeWhile_ne_ten _ _ hno
  have hnl : (if ((encStr tl).length == (pre ++ encStr tl).length) = true then 0
      else (pre ++ encStr tl).length - (encStr tl).length) = pre.length := by
    rw [List.length_append]
    by_cases h : pre.length = 0
    · rw [if_pos (by rw [beq_iff_eq]; omega), h]
    · rw [if_neg (by rw [beq_iff_eq]; omega)]; omega
  unfold charcount
  rw [if_neg (by simp only [List.length_append]; omega), List.length_append (as := pre ++ encStr tl), Nat.add_sub_cancel,
    List.take_left' rfl]
  simp only [htw, List.length_reverse, hnl]
  rw [List.append_assoc, List.drop_left' rfl, ← encStr_append,
    Props.C16.slen_spec (List.forall_mem_append.mpr ⟨ht, hp⟩), Props.C16.slen_spec hp]
  simp only [List.length_append]; omega

theorem charcount_enc {hd ps : List Nat} (hh : ∀ c ∈ hd, ValidCp c) (hp : ∀ c ∈ ps, ValidCp c) (h10 : 10 ∉ hd) :
    charcount (encStr hd ++ encStr ps) (encStr ps) = hd.length :=
  charcount_tail [] (Or.inl rfl) hh hp h10

theorem viInput_of_ledInput (pref post : Bytes) (s s1 : VS) (rep post' : Bytes)
    (h : ledInput pref post s = Res.ok (rep, post') s1) :
    viInput pref post s = Res.ok (rep, (nlCount rep : Int),
      if charcount rep post' - 1 < 0 then 0 else charcount rep post' - 1) s1 := by
  unfold viInput
  simp only [bind_apply, h]
  rfl

/-! ### text and ESC -/

/-- with the auto-indent kept, the text is prefix ++ typed line ++ rest of the line -/
theorem inputLine_keep (pref post ln : Bytes) (h : keepAi pref post ln = true) :
    inputLine pref post ln (aiOf pref) = pref ++ ln ++ post := by
  unfold inputLine
  rw [h, if_pos rfl, aiOf_append_prefRest]

/-- `led_input` for an edit script ended by ESC / `^C` (no literal newline in the resulting line):
the line returned by `led_line` is put between the prefix and the rest of the line -/
theorem ledInput_script (pref post : Bytes) (s : VS) (evs : List Ev) (e : Nat) (rest : Bytes)
    (hp : pending s = scriptKeys evs ++ e :: rest) (hok : ∀ ev ∈ evs, ev.ok) (he : e = 27 ∨ e = 3)
    (hfuel : scriptSteps evs < 100000) (hk : s.xkmap = 0)
    (hnl : nlCount (runScript (prefRest pref).isEmpty 127 evs ([], aiOf pref)).1 = 0) :
    ∃ s', ledInput pref post s =
        Res.ok (inputLine pref post (runScript (prefRest pref).isEmpty 127 evs ([], aiOf pref)).1
                  (runScript (prefRest pref).isEmpty 127 evs ([], aiOf pref)).2, post) s' ∧
      pending s' = rest ∧ Reads true (scriptKeys evs ++ [e]) s s' := by
  obtain ⟨s', h1, h2, h3⟩ := ledLine_script (prefRest pref) post (aiOf pref) 127 true false s evs e rest hp hok
    (by omega) hfuel hk
  exact ⟨s', ledInput_of_ledLine pref post s _ _ e s' h1 (by omega) hnl, h2, h3⟩

/-- `ledInput_single_line`: typed text `cs` (valid UTF-8, no control characters) and ESC -/
theorem ledInput_text (pref post : Bytes) (s : VS) (cs : List Nat) (rest : Bytes)
    (hp : pending s = encStr cs ++ [27] ++ rest) (hpl : ∀ c ∈ cs, ValidCp c ∧ 32 ≤ c ∧ c ≠ 127)
    (hlen : cs.length < 100000) (hk : s.xkmap = 0) :
    ∃ s', ledInput pref post s = Res.ok (inputLine pref post (encStr cs) (aiOf pref), post) s' ∧
      pending s' = rest ∧ Reads true (encStr cs ++ [27]) s s' := by
  have h10 : 10 ∉ cs := fun h => by have := hpl 10 h; omega
  obtain ⟨s', h1, h2, h3⟩ := ledLine_text (prefRest pref) post (aiOf pref) 127 true false s cs 27 rest
    (by rw [hp]; simp) (fun c hc => Or.inl (hpl c hc)) (Or.inr (Or.inl rfl)) hlen hk
  exact ⟨s', ledInput_of_ledLine pref post s _ _ 27 s' h1 (by omega) (nlCount_encStr h10), h2, h3⟩

/-- **the keys `K` type the text `cs` and leave insert mode**: on any state whose pending keys start with
`K` (default keymap), `led_input` returns the text `cs` between the prefix and the rest of the line and
consumes exactly `K` -/
def Inputs (K : Bytes) (cs : List Nat) : Prop :=
  ∀ (pref post : Bytes) (s : VS) (rest : Bytes), pending s = K ++ rest → s.xkmap = 0 →
    ∃ s', ledInput pref post s = Res.ok (inputLine pref post (encStr cs) (aiOf pref), post) s' ∧
      pending s' = rest ∧ Reads true K s s'

/-- plain text and ESC -/
theorem inputs_text (cs : List Nat) (hpl : ∀ c ∈ cs, ValidCp c ∧ 32 ≤ c ∧ c ≠ 127) (hlen : cs.length < 100000) :
    Inputs (encStr cs ++ [27]) cs :=
  fun pref post s rest hp hk => ledInput_text pref post s cs rest hp hpl hlen hk

/-- `viInput_single_line`: prefix `encStr ps` (no newline), rest of the line `encStr qs`, typed text
`cs`, auto-indent kept: the replacement text is prefix ++ text ++ rest, the row count is the number of
newlines of the rest (1 for the rest of a buffer line), the offset that of the last typed character -/
theorem viInput_single_line_aux (ps qs : List Nat) (s : VS) (K : Bytes) (cs : List Nat) (rest : Bytes)
    (hps : ∀ c ∈ ps, ValidCp c) (hqs : ∀ c ∈ qs, ValidCp c) (hps10 : 10 ∉ ps)
    (hin : Inputs K cs) (hp : pending s = K ++ rest) (hpl : ∀ c ∈ cs, ValidCp c) (h10 : 10 ∉ cs)
    (hk : s.xkmap = 0)
    (hkeep : keepAi (encStr ps) (encStr qs) (encStr cs) = true) :
    ∃ s', viInput (encStr ps) (encStr qs) s =
        Res.ok (encStr (ps ++ cs ++ qs), (nlCount (encStr qs) : Int),
          if ((ps.length + cs.length : Nat) : Int) - 1 < 0 then 0 else ((ps.length + cs.length : Nat) : Int) - 1) s' ∧
      pending s' = rest ∧ Reads true K s s' := by
  obtain ⟨s', h1, h2, h3⟩ := hin (encStr ps) (encStr qs) s rest hp hk
  rw [inputLine_keep _ _ _ hkeep] at h1
  refine ⟨s', ?_, h2, h3⟩
  rw [viInput_of_ledInput _ _ _ _ _ _ h1]
  have hcc : charcount (encStr ps ++ encStr cs ++ encStr qs) (encStr qs) = ((ps ++ cs).length : Nat) := by
    rw [← encStr_append]
    exact charcount_enc (List.forall_mem_append.mpr ⟨hps, hpl⟩) hqs fun hm => (List.mem_append.mp hm).elim hps10 h10
  rw [hcc, nlCount_append, nlCount_append, nlCount_encStr hps10, nlCount_encStr h10]
  simp only [encStr_append, List.length_append, Nat.zero_add]

end Neatvi.Lemmas.C08b
