import NeatviVerif.Lemmas.C08bInput
/-!
# C08 (insert mode): `vc_insert` for `i a I A`

The command cuts the line under the cursor at a character offset (`insOff`, `vcInsert_cut`, one `insOff_*` per
letter) and runs `insertTail` on the two pieces: `vi_input` types the text between them, `lbuf_edit` puts the result back
(`edEdit_spec`), the cursor goes to the last typed character.  `Inserted` is what all insertion commands establish.
What `insertTail` does is proved in `Lemmas/C08eRows.lean` for any typed lines.
-/
namespace Neatvi.Lemmas.C08b
open Neatvi Neatvi.Uc Neatvi.Vi Neatvi.Ex Neatvi.Spec Neatvi.Lemmas.C08 Neatvi.Lemmas.C09

/-! ### `lbuf_edit` on the vi state -/

theorem lb_of_line (s : VS) (k : Nat) (L : Bytes) (h : (Vi.lines s)[k]? = some L) : ∃ lb : Lbuf.Lb, s.ed.lb = some lb := by
  unfold Vi.lines at h
  cases hlb : s.ed.lb with
  | none => rw [hlb] at h; simp at h
  | some lb => exact ⟨lb, rfl⟩

theorem row_lt_len {s : VS} {r : Int} {L : Bytes} (hr0 : 0 ≤ r) (h : (Vi.lines s)[r.toNat]? = some L) : r < lenOf s := by
  have := (List.getElem?_eq_some_iff.mp h).1
  unfold lenOf
  omega

/-- `lbuf_edit(xb, rep, b, e)` on a state with a buffer, `0 ≤ b ≤ e ≤ len`: never traps, replaces the
rows `b..e-1` by the lines of `rep`, changes nothing but the buffer table -/
theorem edEdit_spec (s : VS) (rep : Bytes) (b e : Int) (lb : Lbuf.Lb) (hlb : s.ed.lb = some lb)
    (hb : 0 ≤ b) (hbe : b ≤ e) (he : e ≤ lenOf s) :
    ∃ ed', edEdit (some rep) b e s = Res.ok () { s with ed := ed' } ∧
      Lemmas.C06.lines ed' = (Vi.lines s).take b.toNat ++ Lbuf.splitLines rep ++ (Vi.lines s).drop e.toNat ∧
      ed' = { s.ed with bufs := ed'.bufs } := by
  obtain ⟨ed', hed⟩ := Lemmas.C06.ed_edit_total s.ed lb (some rep) b e hlb hb hbe
  refine ⟨ed', by rw [edEdit_apply, hed], ?_, Lemmas.C06.edit_fields _ _ _ _ _ hed⟩
  exact (Lemmas.C06.ed_edit_frame s.ed ed' (some rep) b e hb hbe (by rw [← lenOf_eq]; exact he) hed).1

/-! ### what `Reads` keeps -/

theorem Reads.ed {ins : Bool} {used : Bytes} {s s' : VS} (h : Reads ins used s s') :
    s'.ed = { s.ed with xleft := s'.ed.xleft } := by
  obtain ⟨ib, ip, ty, xl, rfl, -⟩ := h; rfl

theorem Reads.lines {ins : Bool} {used : Bytes} {s s' : VS} (h : Reads ins used s s') : Vi.lines s' = Vi.lines s := by
  obtain ⟨ib, ip, ty, xl, rfl, -⟩ := h; rfl

theorem Reads.lb {ins : Bool} {used : Bytes} {s s' : VS} (h : Reads ins used s s') : s'.ed.lb = s.ed.lb := by
  obtain ⟨ib, ip, ty, xl, rfl, -⟩ := h; rfl

theorem Reads.xrow {ins : Bool} {used : Bytes} {s s' : VS} (h : Reads ins used s s') : s'.ed.xrow = s.ed.xrow := by
  obtain ⟨ib, ip, ty, xl, rfl, -⟩ := h; rfl

/-- the state after a command that read the keys `used` and otherwise changed only the editor record -/
def ReadsEd (used : Bytes) (s s' : VS) : Prop :=
  ∃ ib ip ty, s' = { s with ibuf := ib, ibufPos := ip, typed := ty, icmd := icmdAfterL s.icmd used, ed := s'.ed }

theorem Reads.readsEd {ins : Bool} {used : Bytes} {s s' : VS} (h : Reads ins used s s') : ReadsEd used s s' := by
  obtain ⟨ib, ip, ty, xl, rfl, -⟩ := h
  exact ⟨ib, ip, ty, rfl⟩

theorem ReadsEd.withEd {used : Bytes} {s s' : VS} (h : ReadsEd used s s') (ed : Ed) :
    ReadsEd used s { s' with ed := ed } := by
  obtain ⟨ib, ip, ty, hs⟩ := h
  refine ⟨ib, ip, ty, ?_⟩
  rw [hs]

theorem ReadsEd.of_ed {used : Bytes} {s0 s s' : VS} (h : ReadsEd used s s') (h0 : ∃ ed, s = { s0 with ed := ed }) :
    ReadsEd used s0 s' := by
  obtain ⟨ib, ip, ty, hs⟩ := h
  obtain ⟨ed, rfl⟩ := h0
  refine ⟨ib, ip, ty, ?_⟩
  rw [hs]

theorem edEdit_reads {ins : Bool} {used : Bytes} {s s1 : VS} (hr : Reads ins used s s1) (rep : Bytes) (b e : Int)
    (lb : Lbuf.Lb) (hlb : s.ed.lb = some lb) (hb : 0 ≤ b) (hbe : b ≤ e) (he : e ≤ lenOf s) :
    ∃ ed', edEdit (some rep) b e s1 = Res.ok () { s1 with ed := ed' } ∧
      Lemmas.C06.lines ed' = (Vi.lines s).take b.toNat ++ Lbuf.splitLines rep ++ (Vi.lines s).drop e.toNat ∧
      ed'.xrow = s.ed.xrow ∧ ed'.regs = s.ed.regs ∧ ∀ ed'', ReadsEd used s { s1 with ed := ed'' } := by
  obtain ⟨ed', he1, he2, he3⟩ := edEdit_spec s1 rep b e lb (by rw [hr.lb]; exact hlb) hb hbe
    (by unfold lenOf; rw [hr.lines]; exact he)
  exact ⟨ed', he1, by rw [he2, hr.lines], by rw [he3]; exact hr.xrow, by rw [he3, hr.ed], fun _ => hr.readsEd.withEd _⟩

/-! ### the tail of `vc_insert` for `i a I A` -/

/-- `vc_insert` after the cursor was settled and `pref`, `post` were cut out of the line (`i a I A`) -/
def insertTail (pref post : Bytes) : M Nat := do
  let (rep, row, off') ← viInput pref post
  let s ← Vi.get
  let beg := s.ed.xrow - row + 1
  edEdit (some rep) beg (beg + 1)
  setOff off'
  pure VC_OK

/-- what the insertion commands establish -/
structure Inserted (used : Bytes) (s s' : VS) (r : Int) (newLines : List Bytes) (delRows : Nat) (row off : Int) : Prop where
  lines : Vi.lines s' = (Vi.lines s).take r.toNat ++ newLines ++ (Vi.lines s).drop (r.toNat + delRows)
  xrow : s'.ed.xrow = row
  xoff : s'.ed.xoff = off
  regs : s'.ed.regs = s.ed.regs
  frame : ReadsEd used s s'

theorem valid_snoc_ten {body : List Nat} (h : ∀ c ∈ body, ValidCp c) : ∀ c ∈ body ++ [10], ValidCp c :=
  valid_line h

theorem wfLine_enc_snoc {qs' : List Nat} {xs : List Nat} (h1 : 10 ∉ xs) (h2 : 10 ∉ qs') :
    Props.C01.WfLine (encStr (xs ++ (qs' ++ [10]))) := by
  rw [← List.append_assoc]
  exact wfLine_enc fun hm => (List.mem_append.mp hm).elim h1 h2

/-- a typed text whose first character is not a blank keeps the auto-indent -/
theorem keepAi_of_text (pref post : Bytes) (c : Nat) (t : List Nat) (hc : ValidCp c) (h32 : c ≠ 32) (h9 : c ≠ 9) :
    keepAi pref post (encStr (c :: t)) = true := by
  have := enc_length_pos c
  unfold keepAi
  rw [takeWhile_blank_text c t hc h32 h9, encStr_cons, List.length_append, List.length_nil,
    decide_eq_true (by omega)]
  rfl

/-! ### `vc_insert` for `i a I A` is the cut and `insertTail` -/

macro "vc_insert_red" hl:ident hpref:ident hpost:ident : tactic => `(tactic| (
  unfold vcInsert insertTail
  simp only [bind_apply, get_apply, $hl:ident, setOff_apply, pure_apply,
    show ((105 : Nat) == 73) = false from rfl, show ((105 : Nat) == 65) = false from rfl,
    show ((105 : Nat) == 111) = false from rfl, show ((105 : Nat) == 105) = true from rfl,
    show ((105 : Nat) == 79) = false from rfl, show ((105 : Nat) == 97) = false from rfl,
    show ((97 : Nat) == 73) = false from rfl, show ((97 : Nat) == 65) = false from rfl,
    show ((97 : Nat) == 111) = false from rfl, show ((97 : Nat) == 105) = false from rfl,
    show ((97 : Nat) == 79) = false from rfl, show ((97 : Nat) == 97) = true from rfl,
    show ((73 : Nat) == 73) = true from rfl, show ((73 : Nat) == 65) = false from rfl,
    show ((73 : Nat) == 111) = false from rfl, show ((73 : Nat) == 105) = false from rfl,
    show ((73 : Nat) == 79) = false from rfl, show ((73 : Nat) == 97) = false from rfl,
    show ((65 : Nat) == 73) = false from rfl, show ((65 : Nat) == 65) = true from rfl,
    show ((65 : Nat) == 111) = false from rfl, show ((65 : Nat) == 105) = false from rfl,
    show ((65 : Nat) == 79) = false from rfl, show ((65 : Nat) == 97) = false from rfl,
    Bool.false_eq_true, if_false, if_true, Bool.or_false, Bool.true_or, Bool.or_true, Bool.not_false, Bool.or_self]
  rw [$hpref:ident]
  simp only [liftO_some]
  rw [$hpost:ident]
  simp only [liftO_some, Bool.false_and, Bool.false_eq_true, if_false, bind_apply, get_apply, setOff_apply, pure_apply]
  ))

/-- the column on which `i a I A` settle the cursor before `ren_noeol` -/
def insCol (cmd : Nat) (s : VS) : Int :=
  if cmd == 73 then Mot.indents (lines s) s.ed.xrow else if cmd == 65 then Mot.eol (lines s) s.ed.xrow else s.ed.xoff

/-- the character offset at which they cut the line `l` -/
def insOff (cmd : Nat) (s : VS) (l : Bytes) : Int :=
  if l.headD 0 == 10 then 0
  else if cmd == 105 || cmd == 73 then Ren.renNoeol l (insCol cmd s) else Ren.renNoeol l (insCol cmd s) + 1

theorem vcInsert_red (cmd : Nat) (hcmd : cmd = 105 ∨ cmd = 97 ∨ cmd = 73 ∨ cmd = 65) (s : VS) (l pref post : Bytes)
    (hl : lineOf s s.ed.xrow = some l)
    (hpref : subI l 0 (insOff cmd s l) = some pref) (hpost : subI l (insOff cmd s l) (-1) = some post) :
    vcInsert cmd s = insertTail pref post { s with ed := { s.ed with xoff := Ren.renNoeol l (insCol cmd s) } } := by
  rcases hcmd with rfl | rfl | rfl | rfl
  all_goals
    simp only [insOff, insCol, Nat.reduceBEq, Bool.false_eq_true, if_false, if_true, Bool.or_false, Bool.or_true,
      Bool.or_self] at hpref hpost
    simp only [vcInsert, insertTail, insCol, bind_apply, get_apply, hl, setOff_apply, pure_apply, Nat.reduceBEq, hpref,
      hpost, liftO_some, Bool.false_eq_true, if_false, if_true, Bool.or_false, Bool.or_true, Bool.not_false,
      Bool.or_self, Bool.false_and]

theorem vcInsert_i_red (s : VS) (l pref post : Bytes) (hl : lineOf s s.ed.xrow = some l)
    (hpref : subI l 0 (if l.headD 0 == 10 then 0 else Ren.renNoeol l s.ed.xoff) = some pref)
    (hpost : subI l (if l.headD 0 == 10 then 0 else Ren.renNoeol l s.ed.xoff) (-1) = some post) :
    vcInsert 105 s = insertTail pref post { s with ed := { s.ed with xoff := Ren.renNoeol l s.ed.xoff } } :=
  vcInsert_red 105 (Or.inl rfl) s l pref post hl hpref hpost

theorem vcInsert_a_red (s : VS) (l pref post : Bytes) (hl : lineOf s s.ed.xrow = some l)
    (hpref : subI l 0 (if l.headD 0 == 10 then 0 else Ren.renNoeol l s.ed.xoff + 1) = some pref)
    (hpost : subI l (if l.headD 0 == 10 then 0 else Ren.renNoeol l s.ed.xoff + 1) (-1) = some post) :
    vcInsert 97 s = insertTail pref post { s with ed := { s.ed with xoff := Ren.renNoeol l s.ed.xoff } } :=
  vcInsert_red 97 (Or.inr (Or.inl rfl)) s l pref post hl hpref hpost

theorem vcInsert_I_red (s : VS) (l pref post : Bytes) (hl : lineOf s s.ed.xrow = some l)
    (hpref : subI l 0 (if l.headD 0 == 10 then 0 else Ren.renNoeol l (Mot.indents (lines s) s.ed.xrow)) = some pref)
    (hpost : subI l (if l.headD 0 == 10 then 0 else Ren.renNoeol l (Mot.indents (lines s) s.ed.xrow)) (-1) = some post) :
    vcInsert 73 s = insertTail pref post { s with ed := { s.ed with xoff := Ren.renNoeol l (Mot.indents (lines s) s.ed.xrow) } } :=
  vcInsert_red 73 (Or.inr (Or.inr (Or.inl rfl))) s l pref post hl hpref hpost

theorem vcInsert_A_red (s : VS) (l pref post : Bytes) (hl : lineOf s s.ed.xrow = some l)
    (hpref : subI l 0 (if l.headD 0 == 10 then 0 else Ren.renNoeol l (Mot.eol (lines s) s.ed.xrow) + 1) = some pref)
    (hpost : subI l (if l.headD 0 == 10 then 0 else Ren.renNoeol l (Mot.eol (lines s) s.ed.xrow) + 1) (-1) = some post) :
    vcInsert 65 s = insertTail pref post { s with ed := { s.ed with xoff := Ren.renNoeol l (Mot.eol (lines s) s.ed.xrow) } } :=
  vcInsert_red 65 (Or.inr (Or.inr (Or.inr rfl))) s l pref post hl hpref hpost

/-! ### lines of valid UTF-8 -/

theorem lineOf_of_get (s : VS) (r : Int) (l : Bytes) (h0 : 0 ≤ r) (h : (Vi.lines s)[r.toNat]? = some l) :
    lineOf s r = some l := by
  unfold lineOf Mot.lineAt
  rw [if_neg (by omega), h]

/-- the head and the tail of a line at character offset `off ≤ |body|` -/
theorem subI_line (body : List Nat) (hb : ∀ c ∈ body, ValidCp c) (off : Nat) (hoff : off ≤ body.length) :
    subI (encStr (body ++ [10])) 0 (off : Int) = some (encStr (body.take off)) ∧
    subI (encStr (body ++ [10])) (off : Int) (-1) = some (encStr (body.drop off ++ [10])) := by
  have hv := valid_snoc_ten hb
  constructor
  · rw [subI_enc_head hv off (by simp; omega), List.take_append_of_le_length hoff]
  · rw [subI_enc_tail hv off (by simp; omega), List.drop_append_of_le_length hoff]

theorem region_line (s : VS) (r : Int) (body : List Nat) (o1 o2 : Nat) (hr0 : 0 ≤ r)
    (hline : (Vi.lines s)[r.toNat]? = some (encStr (body ++ [10]))) (hb : ∀ c ∈ body, ValidCp c)
    (ho12 : o1 ≤ o2) (ho2 : o2 ≤ body.length) :
    lbufRegion s r o1 r o2 = some (encStr ((body.take o2).drop o1)) ∧
    subI (lineE s r) 0 o1 = some (encStr (body.take o1)) ∧
    subI (lineE s r) o2 (-1) = some (encStr (body.drop o2 ++ [10])) := by
  rw [lbufRegion_single, lineE_eq s r hr0 _ hline, subI_enc (valid_snoc_ten hb) o1 o2 ho12 (by simp; omega),
    List.take_append_of_le_length ho2]
  exact ⟨rfl, (subI_line body hb o1 (by omega)).1, (subI_line body hb o2 ho2).2⟩

theorem headD_line_ne_ten (c : Nat) (t : List Nat) (h10 : 10 ∉ c :: t) :
    ((encStr (c :: t ++ [10])).headD 0 == 10) = false := by
  have hc : c ≠ 10 := fun h => h10 (by simp [h])
  have := hd_enc_ne_ten hc (encStr (t ++ [10]))
  rw [List.cons_append, encStr_cons]
  simpa [Bytes.hd] using this

theorem insOff_body (cmd : Nat) (s : VS) (body : List Nat) (hne : body ≠ []) (h10 : 10 ∉ body) :
    insOff cmd s (encStr (body ++ [10])) =
      if cmd == 105 || cmd == 73 then Ren.renNoeol (encStr (body ++ [10])) (insCol cmd s)
      else Ren.renNoeol (encStr (body ++ [10])) (insCol cmd s) + 1 := by
  cases body with
  | nil => exact absurd rfl hne
  | cons c t =>
    unfold insOff
    rw [headD_line_ne_ten c t h10]
    rfl

theorem vcInsert_cut (cmd : Nat) (hcmd : cmd = 105 ∨ cmd = 97 ∨ cmd = 73 ∨ cmd = 65) (s : VS) (body : List Nat)
    (off : Nat) (hr0 : 0 ≤ s.ed.xrow) (hline : (Vi.lines s)[s.ed.xrow.toNat]? = some (encStr (body ++ [10])))
    (hb : ∀ c ∈ body, ValidCp c) (hoff : insOff cmd s (encStr (body ++ [10])) = (off : Int)) (hle : off ≤ body.length) :
    vcInsert cmd s = insertTail (encStr (body.take off)) (encStr (body.drop off ++ [10]))
      { s with ed := { s.ed with xoff := Ren.renNoeol (encStr (body ++ [10])) (insCol cmd s) } } := by
  obtain ⟨e1, e2⟩ := subI_line body hb off hle
  exact vcInsert_red cmd hcmd s _ _ _ (lineOf_of_get s _ _ hr0 hline) (by rw [hoff]; exact e1) (by rw [hoff]; exact e2)

/-! ### where the cursor goes before the insertion -/

theorem getElem?_line_body (body : List Nat) (o : Nat) (ho : o < body.length) :
    (body ++ [10])[o]? = some (body[o]'ho) := by
  rw [List.getElem?_append_left ho, List.getElem?_eq_getElem ho]

/-- on a character of the body `ren_noeol` keeps the offset -/
theorem renNoeol_body (body : List Nat) (hb : ∀ c ∈ body, ValidCp c) (hb10 : 10 ∉ body) (o : Nat) (ho : o < body.length) :
    Ren.renNoeol (encStr (body ++ [10])) (o : Int) = o :=
  renNoeol_keep (valid_snoc_ten hb) o _ (getElem?_line_body body o ho)
    (fun h => hb10 (h ▸ List.getElem_mem ho))

theorem insOff_i (s : VS) (body : List Nat) (o : Nat) (hb : ∀ c ∈ body, ValidCp c) (hb10 : 10 ∉ body)
    (ho : s.ed.xoff = (o : Int)) (hol : o < body.length) : insOff 105 s (encStr (body ++ [10])) = (o : Int) := by
  rw [insOff_body 105 s body (List.ne_nil_of_length_pos (by omega)) hb10]
  show Ren.renNoeol _ s.ed.xoff = _
  rw [ho, renNoeol_body body hb hb10 o hol]

/-- from the newline of a non-empty line `ren_noeol` steps back onto the last character -/
theorem renNoeol_eol (body : List Nat) (hb : ∀ c ∈ body, ValidCp c) (hne : body ≠ []) :
    Ren.renNoeol (encStr (body ++ [10])) (body.length : Int) = (body.length : Int) - 1 := by
  rw [C07.renNoeol_enc (valid_snoc_ten hb) _ (by simp), if_pos]
  exact ⟨List.length_pos_iff.mpr hne, by simp⟩

theorem eol_line (s : VS) (r : Int) (body : List Nat) (h0 : 0 ≤ r) (hb : ∀ c ∈ body, ValidCp c)
    (hline : (Vi.lines s)[r.toNat]? = some (encStr (body ++ [10]))) :
    Mot.eol (Vi.lines s) r = (body.length : Int) := by
  have hs : Mot.slenAt (Vi.lines s) r = ((body.length + 1 : Nat) : Int) := by
    unfold Mot.slenAt Mot.lineAt
    rw [if_neg (by omega), hline]
    simp only [Props.C16.slen_spec (valid_snoc_ten hb), List.length_append, List.length_singleton]
  unfold Mot.eol
  simp only [hs]
  rw [if_pos (by simp; omega)]
  omega

theorem ucIsSpace_high (x : Nat) (h : 128 ≤ x) : ucIsSpace x = false := by
  unfold ucIsSpace
  rw [decide_eq_false (by omega)]
  rfl

theorem takeWhile_space_enc : ∀ (body : List Nat) (r : Bytes), (∀ c ∈ body, ValidCp c) → 10 ∉ body →
    (body.takeWhile ucIsSpace).length < body.length →
    ((encStr body ++ r).takeWhile (fun c => c != 10 && ucIsSpace c)).length = (body.takeWhile ucIsSpace).length := by
  intro body
  induction body with
  | nil => intro r _ _ h; simp at h
  | cons c t ih =>
    intro r hv h10 h
    have hc := hv c (by simp)
    rw [encStr_cons, List.append_assoc]
    by_cases hs : ucIsSpace c = true
    · have hlt : c < 128 := by unfold ucIsSpace at hs; simp at hs; omega
      have hc10 : (c != 10) = true := by
        simp only [bne_iff_ne, ne_eq]; intro hc; exact h10 (by simp [hc])
      rw [enc_ascii hlt, List.takeWhile_cons, if_pos hs] at *
      simp only [List.singleton_append, List.takeWhile_cons, hs, hc10, Bool.and_self, if_true, List.length_cons] at h ⊢
      rw [ih r (fun d hd => hv d (by simp [hd])) (fun hd => h10 (by simp [hd])) (by omega)]
    · obtain ⟨a, u, he, -⟩ := enc_chr hc
      have ha : ucIsSpace a = false := by
        rw [hd_enc_class ucIsSpace_high he]
        simpa using hs
      rw [he, List.takeWhile_cons, if_neg hs]
      simp [ha]

theorem indents_line (s : VS) (r : Int) (body : List Nat) (h0 : 0 ≤ r) (hb : ∀ c ∈ body, ValidCp c) (h10 : 10 ∉ body)
    (hline : (Vi.lines s)[r.toNat]? = some (encStr (body ++ [10])))
    (hk : (body.takeWhile ucIsSpace).length < body.length) :
    Mot.indents (Vi.lines s) r = ((body.takeWhile ucIsSpace).length : Int) := by
  unfold Mot.indents Mot.lineAt
  rw [if_neg (by omega), hline]
  simp only []
  rw [encStr_append, takeWhile_space_enc body _ hb h10 hk]

theorem insOff_a (s : VS) (body : List Nat) (o : Nat) (hb : ∀ c ∈ body, ValidCp c) (hb10 : 10 ∉ body)
    (ho : s.ed.xoff = (o : Int)) (hol : o < body.length) : insOff 97 s (encStr (body ++ [10])) = ((o + 1 : Nat) : Int) := by
  rw [insOff_body 97 s body (List.ne_nil_of_length_pos (by omega)) hb10]
  show Ren.renNoeol _ s.ed.xoff + 1 = _
  rw [ho, renNoeol_body body hb hb10 o hol]
  rfl

theorem insOff_A (s : VS) (body : List Nat) (hr0 : 0 ≤ s.ed.xrow)
    (hline : (Vi.lines s)[s.ed.xrow.toNat]? = some (encStr (body ++ [10])))
    (hb : ∀ c ∈ body, ValidCp c) (hb10 : 10 ∉ body) (hbne : body ≠ []) :
    insOff 65 s (encStr (body ++ [10])) = (body.length : Int) := by
  rw [insOff_body 65 s body hbne hb10]
  show Ren.renNoeol _ (Mot.eol (lines s) s.ed.xrow) + 1 = _
  rw [eol_line s _ body hr0 hb hline, renNoeol_eol body hb hbne]
  omega

theorem insOff_I (s : VS) (body : List Nat) (hr0 : 0 ≤ s.ed.xrow)
    (hline : (Vi.lines s)[s.ed.xrow.toNat]? = some (encStr (body ++ [10])))
    (hb : ∀ c ∈ body, ValidCp c) (hb10 : 10 ∉ body) (hk' : (body.takeWhile ucIsSpace).length < body.length) :
    insOff 73 s (encStr (body ++ [10])) = ((body.takeWhile ucIsSpace).length : Int) := by
  rw [insOff_body 73 s body (List.ne_nil_of_length_pos (by omega)) hb10]
  show Ren.renNoeol _ (Mot.indents (lines s) s.ed.xrow) = _
  rw [indents_line s _ body hr0 hb hb10 hline hk', renNoeol_body body hb hb10 _ hk']

end Neatvi.Lemmas.C08b
