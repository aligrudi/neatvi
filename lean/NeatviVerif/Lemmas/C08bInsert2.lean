import NeatviVerif.Lemmas.C08bJoin
/-!
# C08 (insert mode): what `led_input` continues with after a newline

With `autoindent` the next line starts with the auto-indent of the prefix and the rest of the line loses its leading
blanks (`aiAfterNl`, `postAfterNl`); the same on code points (`aiCp`, `postCp`) for lines of valid UTF-8, where leading
blanks of the bytes are leading blanks of the characters (`takeWhile_blank_encStr`).
-/
namespace Neatvi.Lemmas.C08b
open Neatvi Neatvi.Uc Neatvi.Vi Neatvi.Ex Neatvi.Spec Neatvi.Lemmas.C08 Neatvi.Lemmas.C09

theorem ReadsEd.trans {u1 u2 : Bytes} {s s1 s2 : VS} (h1 : ReadsEd u1 s s1) (h2 : ReadsEd u2 s1 s2) :
    ReadsEd (u1 ++ u2) s s2 := by
  obtain ⟨ib, ip, ty, hs1⟩ := h1
  obtain ⟨ib', ip', ty', hs2⟩ := h2
  refine ⟨ib', ip', ty', ?_⟩
  rw [hs2, hs1]
  simp only [icmdAfterL_append]

/-- the post text and the auto-indent `led_input` continues with after a newline -/
def postAfterNl (s : VS) (post : Bytes) : Bytes := post.drop (if s.xai then (post.takeWhile isBlankC).length else 0)
def aiAfterNl (s : VS) (pref : Bytes) : Bytes := if s.xai then aiOf pref else []

/-! ### the auto-indent and the rest of the line, as characters -/

theorem takeWhile_blank_encStr : ∀ (ps : List Nat), (∀ c ∈ ps, ValidCp c) →
    (encStr ps).takeWhile isBlankC = encStr (ps.takeWhile isBlankC) :=
  fun ps _ => takeWhile_encStr isBlankC_high ps

theorem encStr_blanks (l : List Nat) (h : ∀ c ∈ l, isBlankC c = true) : encStr l = l :=
  Uc.encStr_ascii (fun b hb => by have := h b hb; unfold isBlankC at this; simp at this; omega)

theorem blanks_takeWhile (ps : List Nat) : ∀ c ∈ ps.takeWhile isBlankC, isBlankC c = true :=
  fun _ hc => Basics.mem_takeWhile hc

/-- the auto-indent as characters -/
def aiCp (s : VS) (ps : List Nat) : List Nat := if s.xai then (ps.takeWhile isBlankC).take 127 else []
/-- the rest of the line after a newline, as characters -/
def postCp (s : VS) (qs : List Nat) : List Nat := if s.xai then qs.dropWhile isBlankC else qs

theorem aiAfterNl_enc (s : VS) (ps : List Nat) (hv : ∀ c ∈ ps, ValidCp c) :
    aiAfterNl s (encStr ps) = encStr (aiCp s ps) := by
  unfold aiAfterNl aiCp aiOf
  cases s.xai
  · rfl
  · simp only [if_true]
    rw [takeWhile_blank_encStr ps hv, encStr_blanks _ (blanks_takeWhile ps),
      encStr_blanks _ (fun c hc => blanks_takeWhile ps c (List.mem_of_mem_take hc))]

theorem postAfterNl_enc (s : VS) (qs : List Nat) (hv : ∀ c ∈ qs, ValidCp c) :
    postAfterNl s (encStr qs) = encStr (postCp s qs) := by
  unfold postAfterNl postCp
  cases s.xai
  · rfl
  · simp only [if_true]
    rw [takeWhile_blank_encStr qs hv]
    conv => lhs; arg 2; rw [← List.takeWhile_append_dropWhile (p := isBlankC) (l := qs), encStr_append]
    rw [List.drop_left' rfl]

theorem aiCp_valid (s : VS) (ps : List Nat) : (∀ c ∈ aiCp s ps, ValidCp c) ∧ 10 ∉ aiCp s ps := by
  have hb : ∀ c ∈ aiCp s ps, isBlankC c = true := by
    unfold aiCp
    split
    · exact fun c hc => blanks_takeWhile ps c (List.mem_of_mem_take hc)
    · intro c hc; simp at hc
  refine ⟨fun c hc => ?_, fun h => ?_⟩
  · have := hb c hc; unfold isBlankC at this; simp at this
    exact ⟨by omega, by omega⟩
  · have := hb 10 h; simp [isBlankC] at this

theorem postCp_sub (s : VS) (qs : List Nat) : ∀ c ∈ postCp s qs, c ∈ qs := by
  unfold postCp
  split
  · exact fun c hc => (List.dropWhile_sublist _).subset hc
  · exact fun c hc => hc

theorem postCp_snoc (s : VS) (qs' : List Nat) : postCp s (qs' ++ [10]) = postCp s qs' ++ [10] := by
  unfold postCp
  split
  · exact dropWhile_blank_line qs'
  · rfl

theorem charcount_two {hd tl ps : List Nat} (ht : ∀ c ∈ tl, ValidCp c) (hp : ∀ c ∈ ps, ValidCp c) (h10 : 10 ∉ tl) :
    charcount (encStr hd ++ [10] ++ encStr tl ++ encStr ps) (encStr ps) = tl.length :=
  charcount_tail (encStr hd ++ [10]) (Or.inr ⟨_, rfl⟩) ht hp h10

end Neatvi.Lemmas.C08b
