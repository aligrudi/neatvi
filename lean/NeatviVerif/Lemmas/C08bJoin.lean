import NeatviVerif.Lemmas.C08bChange
/-!
# C08: `vi_char` on a typed key, `vc_replace` once the key is read (`vcReplace_run`), and the loop of `vc_join` over any
  number of rows
-/
namespace Neatvi.Lemmas.C08b
open Neatvi Neatvi.Uc Neatvi.Vi Neatvi.Ex Neatvi.Spec Neatvi.Lemmas.C08 Neatvi.Lemmas.C09

theorem dropWhile_blank_line (b : Bytes) : (b ++ [10]).dropWhile isBlankC = b.dropWhile isBlankC ++ [10] := by
  induction b with
  | nil => rfl
  | cons x t ih =>
    by_cases hx : isBlankC x = true
    · simp only [List.cons_append, List.dropWhile_cons, hx, if_true]; exact ih
    · simp only [List.cons_append, List.dropWhile_cons, hx, if_false, Bool.false_eq_true]

theorem not_mem_dropWhile (b : Bytes) (p : Nat → Bool) (hb : 10 ∉ b) : 10 ∉ b.dropWhile p :=
  fun h => hb ((List.dropWhile_sublist p).subset h)

/-! ### `led_read` (`vi_char`) on a typed character -/

/-- `vi_char()` on a first key that neither interrupts nor switches the keymap (default keymap): `led_read` of that key -/
theorem viChar_key (s : VS) (a : Nat) (rest : Bytes) (hp : pending s = a :: rest) (hk : s.xkmap = 0)
    (h27 : a ≠ 27) (h3 : a ≠ 3) (h6 : a ≠ 6) (h5 : a ≠ 5) :
    viChar s = readCharS (a : Int) 0 (afterRead s) ∧ pending (afterRead s) = rest ∧ Reads false [a] s (afterRead s) := by
  obtain ⟨h1, h2, h3'⟩ := termRead_afterRead s a rest hp
  have hk1 : (afterRead s).xkmap = 0 := by
    have := h3'.kmap false
    simpa [hk] using this
  refine ⟨?_, h2, h3'⟩
  unfold viChar
  rw [viChar.go]
  simp only [bind_apply, h1, tkInt_cast a h27 h3, beq_lit a 6 h6, beq_lit a 5 h5, Bool.false_eq_true, if_false, get_apply,
    hk1]

/-- `vi_char()` on the bytes of a typable character (default keymap): the character, the bytes consumed -/
theorem viChar_enc (s : VS) (c : Nat) (rest : Bytes) (hc : Typable c) (hp : pending s = enc c ++ rest)
    (hk : s.xkmap = 0) :
    ∃ s', viChar s = Res.ok (some (enc c)) s' ∧ pending s' = rest ∧ Reads false (enc c) s s' := by
  obtain ⟨hv, h32, h127⟩ := hc
  obtain ⟨a, t, he, hch⟩ := enc_chr hv
  rw [he] at hp ⊢
  have ha : 32 ≤ a ∧ a ≠ 127 := by
    rcases enc_head he with h | h
    · omega
    · omega
  obtain ⟨hgo, h2, h3⟩ := viChar_key s a (t ++ rest) (by simpa using hp) hk (by omega) (by omega) (by omega) (by omega)
  rw [hgo]
  by_cases hlt : a < 192
  · have ht : t = [] := by
      rcases hch.lead with ⟨_, h⟩ | h
      · exact h
      · omega
    subst ht
    rw [readCharS_plain a _ (by omega) (by omega) hlt (by omega)]
    exact ⟨_, rfl, by simpa using h2, h3⟩
  · have hlen := Props.C16.len_enc hv
    rw [he] at hlen
    simp only [Bytes.hd_cons, List.length_cons] at hlen
    obtain ⟨s', hm, hr2, hp2⟩ := readCharS_multi a 0 (afterRead s) t rest (by omega) h2 (by omega)
    rw [chr_bytes hch] at hm
    exact ⟨s', hm, hp2, by simpa using h3.trans hr2⟩

/-! ### `vc_replace` -/

theorem flatten_replicate_enc (n c : Nat) : (List.replicate n (enc c)).flatten = encStr (List.replicate n c) := by
  induction n with
  | zero => rfl
  | succ n ih => rw [List.replicate_succ, List.flatten_cons, ih, List.replicate_succ, encStr_cons]

theorem takeWhile_ne_ten_line (body : List Nat) (hb10 : 10 ∉ body) :
    (encStr (body ++ [10])).takeWhile (· != 10) = encStr body := by
  rw [encStr_append]
  exact takeWhile_ne_ten (encStr body) [] (ten_notin_encStr hb10)

theorem headD_enc_ne_ten (c : Nat) (hc : Typable c) : ((enc c).headD 0 == 10) = false := by
  have h10 : c ≠ 10 := by have := hc.2.1; omega
  have := hd_enc_ne_ten h10 []
  simpa [Bytes.hd] using this

theorem vcReplace_run (s s1 : VS) (body : List Nat) (o : Nat) (cs K : Bytes)
    (hr0 : 0 ≤ s.ed.xrow) (hline : (Vi.lines s)[s.ed.xrow.toNat]? = some (encStr (body ++ [10])))
    (hb : ∀ d ∈ body, ValidCp d) (hb10 : 10 ∉ body) (ho : s.ed.xoff = (o : Int)) (hol : o < body.length)
    (hch : viChar s = Res.ok (some cs) s1) (hr1 : Reads false K s s1) :
    (o + (max 1 s.arg1).toNat ≤ body.length →
      ∃ ed', vcReplace s = Res.ok VC_OK { s1 with ed :=
          if (cs.headD 0 == 10) = true then { ed' with xrow := s.ed.xrow + max 1 s.arg1, xoff := 0 }
          else { ed' with xoff := (o : Int) + max 1 s.arg1 - 1 } } ∧
        Lemmas.C06.lines ed' = (Vi.lines s).take s.ed.xrow.toNat ++
          Lbuf.splitLines (encStr (body.take o) ++ (List.replicate (max 1 s.arg1).toNat cs).flatten ++
            encStr (body.drop (o + (max 1 s.arg1).toNat) ++ [10])) ++ (Vi.lines s).drop (s.ed.xrow.toNat + 1) ∧
        ed'.xrow = s.ed.xrow ∧ ed'.regs = s.ed.regs ∧ ∀ ed'', ReadsEd K s { s1 with ed := ed'' }) ∧
    (body.length < o + (max 1 s.arg1).toNat → vcReplace s = Res.ok 0 s1) := by
  have hl := lineOf_of_get s _ _ hr0 hline
  have hsl : ucSlen ((encStr (body ++ [10])).takeWhile (· != 10)) = body.length := by
    rw [takeWhile_ne_ten_line body hb10, Props.C16.slen_spec hb]
  have hcast : ((max 1 s.arg1).toNat : Int) = max 1 s.arg1 := Int.toNat_of_nonneg (by omega)
  unfold vcReplace
  simp only [bind_apply, get_apply, hch, hl, hsl, ho, renNoeol_body body hb hb10 o hol]
  constructor
  · intro hfit
    rw [if_neg (by omega)]
    obtain ⟨e1, -⟩ := subI_line body hb o (by omega)
    obtain ⟨-, e2⟩ := subI_line body hb (o + (max 1 s.arg1).toNat) hfit
    obtain ⟨lb, hlb⟩ := lb_of_line s _ _ hline
    obtain ⟨ed', he1, he2, hx, hrg, hfr⟩ := edEdit_reads hr1
      (encStr (body.take o) ++ (List.replicate (max 1 s.arg1).toNat cs).flatten ++
        encStr (body.drop (o + (max 1 s.arg1).toNat) ++ [10])) s.ed.xrow (s.ed.xrow + 1) lb hlb hr0 (by omega)
      (row_lt_len hr0 hline)
    refine ⟨ed', ?_, by rw [he2, show (s.ed.xrow + 1).toNat = s.ed.xrow.toNat + 1 by omega], hx, hrg, hfr⟩
    simp only [bind_apply, e1, liftO_some, show (o : Int) + max 1 s.arg1 = ((o + (max 1 s.arg1).toNat : Nat) : Int) by
      rw [Int.natCast_add, hcast], e2, he1]
    split <;> rfl
  · intro hno
    rw [if_pos (by omega)]
    rfl

/-! ### `vc_join` over any number of rows -/

/-- reference: append the rows `ws` (without their leading blanks) to `sb`, each after `join_spaces` spaces -/
def joinRows : Bytes → List Bytes → Bytes
  | sb, [] => sb
  | sb, w :: ws =>
    joinRows (sb ++ List.replicate (joinSpaces sb (w.dropWhile isBlankC ++ [10])) 32 ++ w.dropWhile isBlankC) ws

/-- the cursor offset `vc_join` leaves: the length in characters of what precedes the last joined row -/
def joinOff : Bytes → List Bytes → Int → Int
  | _, [], off => off
  | sb, w :: ws, _ =>
    joinOff (sb ++ List.replicate (joinSpaces sb (w.dropWhile isBlankC ++ [10])) 32 ++ w.dropWhile isBlankC) ws (ucSlen sb)

theorem join_go_rows (s : VS) (beg e : Int) : ∀ (ws : List Bytes) (f : Nat) (i : Int) (sb : Bytes) (off : Int),
    beg < i → i + ws.length = e → ws.length ≤ f →
    (∀ k (hk : k < ws.length), lineE s (i + k) = ws[k] ++ [10]) → (∀ w ∈ ws, 10 ∉ w) →
    vcJoin.go s beg e f i sb off = (joinRows sb ws, joinOff sb ws off) := by
  intro ws
  induction ws with
  | nil =>
    intro f i sb off _ hi _ _ _
    cases f with
    | zero => rw [vcJoin.go]; rfl
    | succ f => rw [vcJoin.go, if_pos (by simp at hi; omega)]; rfl
  | cons w ws ih =>
    intro f i sb off hb hi hf hl h10
    obtain ⟨f, rfl⟩ : ∃ g, f = g + 1 := ⟨f - 1, by simp at hf; omega⟩
    have hw := h10 w (by simp)
    have hw' := not_mem_dropWhile w isBlankC hw
    have h0 := hl 0 (by simp)
    simp only [List.getElem_cons_zero, Int.natCast_zero, Int.add_zero] at h0
    rw [vcJoin.go, if_neg (by simp at hi; omega)]
    simp only [h0, show i > beg from hb, if_true, dropWhile_blank_line, takeWhile_ne_ten _ [] hw']
    rw [ih f (i + 1) _ _ (by omega) (by simp at hi ⊢; omega) (by simp at hf; omega)
      (fun k hk => by
        have := hl (k + 1) (by simp; omega)
        simp only [List.getElem_cons_succ] at this
        rw [← this]; congr 1; omega)
      (fun x hx => h10 x (by simp [hx]))]
    rfl

theorem join_go_first (s : VS) (beg e : Int) (a : Bytes) (ws : List Bytes) (f : Nat) (he : beg + 1 + ws.length = e)
    (hf : ws.length ≤ f) (h1 : lineE s beg = a ++ [10]) (ha : 10 ∉ a)
    (hl : ∀ k (hk : k < ws.length), lineE s (beg + 1 + k) = ws[k] ++ [10]) (h10 : ∀ w ∈ ws, 10 ∉ w) :
    vcJoin.go s beg e (f + 1) beg [] 0 = (joinRows a ws, joinOff a ws 0) := by
  rw [vcJoin.go, if_neg (by omega)]
  simp only [h1, show ¬ (beg > beg) by omega, if_false, List.replicate_zero, List.append_nil, List.nil_append,
    takeWhile_ne_ten a [] ha]
  exact join_go_rows s beg e ws f (beg + 1) a _ (by omega) he hf hl h10

theorem join_go_two (s : VS) (r : Int) (a b : Bytes) (ha : 10 ∉ a) (hb : 10 ∉ b)
    (h1 : lineE s r = a ++ [10]) (h2 : lineE s (r + 1) = b ++ [10]) :
    vcJoin.go s r (r + 2) 3 r [] 0 =
      (a ++ List.replicate (joinSpaces a (b.dropWhile isBlankC ++ [10])) 32 ++ b.dropWhile isBlankC, (ucSlen a : Int)) :=
  join_go_first s r (r + 2) a [b] 2 (by simp; omega) (by simp) h1 ha
    (fun k hk => by obtain rfl : k = 0 := by simpa using hk
                    simpa using h2) (by simpa using hb)

theorem joinRows_no_ten : ∀ (ws : List Bytes) (sb : Bytes), 10 ∉ sb → (∀ w ∈ ws, 10 ∉ w) → 10 ∉ joinRows sb ws := by
  intro ws
  induction ws with
  | nil => intro sb h _; exact h
  | cons w ws ih =>
    intro sb h hw
    refine ih _ ?_ (fun x hx => hw x (by simp [hx]))
    intro hm
    rcases List.mem_append.mp hm with hm | hm
    · rcases List.mem_append.mp hm with hm | hm
      · exact h hm
      · have := List.eq_of_mem_replicate hm; omega
    · exact not_mem_dropWhile w isBlankC (hw w (by simp)) hm

theorem row_of_block (L : List Bytes) (r n : Nat) (rows : List Bytes) (h : (L.drop r).take n = rows) (k : Nat)
    (hk : k < rows.length) : L[r + k]? = some rows[k] := by
  have h1 : rows[k]? = some rows[k] := List.getElem?_eq_getElem hk
  rw [← h1, ← h, List.getElem?_take, List.getElem?_drop]
  rw [if_pos]
  have := congrArg List.length h
  simp only [List.length_take, List.length_drop] at this
  omega

end Neatvi.Lemmas.C08b
