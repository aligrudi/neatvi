import NeatviVerif.Lemmas.C08Vi
import NeatviVerif.Lemmas.C09Queue
/-!
# C08 (insert mode), the line editor `led_line`: a pure simulation of its loop on the key stream

`ledSim` is the text side of `led_line()`: what the keys do to the text typed so far (`sb`) and to
the auto-indent (`ai`); `ledStep` is one iteration of it.  `go_step` shows that an iteration of the model's
loop `ledLine.go` does what `ledStep` says; `go_sim`, by induction, that the loop run on a state whose pending
key stream is `keys` returns what `ledSim` computes and changes only the key queue, `icmd` and (in
insert mode) the horizontal scroll `xleft`.
-/
namespace Neatvi.Lemmas.C08b
open Neatvi Neatvi.Uc Neatvi.Vi Neatvi.Ex Neatvi.Lemmas.C08 Neatvi.Lemmas.C09

/-! ### what reading keys does to the state -/

theorem icmdAfterL_append (ic a b : Bytes) : icmdAfterL ic (a ++ b) = icmdAfterL (icmdAfterL ic a) b := by
  simp [icmdAfterL, List.foldl_append]

theorem icmdAfterL_room (ic ks : Bytes) (h : ic.length + ks.length ≤ 4096) : icmdAfterL ic ks = ic ++ ks := by
  induction ks generalizing ic with
  | nil => simp [icmdAfterL]
  | cons k ks ih =>
    simp only [List.length_cons] at h
    show icmdAfterL (icmdAfter ic k) ks = _
    have : icmdAfter ic k = ic ++ [k] := by unfold icmdAfter; rw [if_pos (by omega)]
    rw [this, ih _ (by simp; omega)]
    simp

/-- `s'` is `s` after the keys `used` were read: the queue fields moved on, `icmd` recorded the keys,
and (only when `ins`) `xleft` may have been adjusted by the redraw -/
def Reads (ins : Bool) (used : Bytes) (s s' : VS) : Prop :=
  ∃ ib ip ty xl, s' = { s with ibuf := ib, ibufPos := ip, typed := ty, icmd := icmdAfterL s.icmd used,
                               ed := { s.ed with xleft := xl } } ∧ (ins = false → xl = s.ed.xleft)

theorem Reads.refl (ins : Bool) (s : VS) : Reads ins [] s s := ⟨_, _, _, _, rfl, fun _ => rfl⟩

theorem Reads.trans {ins : Bool} {u1 u2 : Bytes} {s s1 s2 : VS} (h1 : Reads ins u1 s s1) (h2 : Reads ins u2 s1 s2) :
    Reads ins (u1 ++ u2) s s2 := by
  obtain ⟨ib, ip, ty, xl, rfl, hx⟩ := h1
  obtain ⟨ib', ip', ty', xl', rfl, hx'⟩ := h2
  refine ⟨ib', ip', ty', xl', ?_, ?_⟩
  · simp only [icmdAfterL_append]
  · intro h; rw [hx' h]; exact hx h

theorem Reads.mono {used : Bytes} {s s' : VS} (ins : Bool) (h : Reads false used s s') : Reads ins used s s' := by
  obtain ⟨ib, ip, ty, xl, rfl, hx⟩ := h
  exact ⟨ib, ip, ty, xl, rfl, fun _ => hx rfl⟩

theorem Reads.kmap {ins : Bool} {used : Bytes} {s s' : VS} (h : Reads ins used s s') (ex : Bool) :
    (if ex then s'.exKmap else s'.xkmap) = (if ex then s.exKmap else s.xkmap) := by
  obtain ⟨ib, ip, ty, xl, rfl, -⟩ := h
  rfl

/-- the state after a successful `term_read` -/
def afterRead (s : VS) : VS := match termRead s with | Res.ok _ s' => s' | _ => s

theorem termRead_afterRead (s : VS) (k : Nat) (rest : Bytes) (h : pending s = k :: rest) :
    termRead s = Res.ok (k : Int) (afterRead s) ∧ pending (afterRead s) = rest ∧ Reads false [k] s (afterRead s) := by
  obtain ⟨ib, ip, ty, h1, h2, -⟩ := termRead_ok s k rest h
  unfold afterRead
  rw [h1]
  exact ⟨rfl, h2, ⟨ib, ip, ty, s.ed.xleft, rfl, fun _ => rfl⟩⟩

/-! ### the pieces of `led_line` -/

def redrawOf (pref : Bytes) (ins : Bool) (ai sb post : Bytes) : M Unit :=
  if ins then Vi.modify fun s => { s with ed := { s.ed with xleft := ledLeft s ai pref sb post s.ed.xleft } } else pure ()

def setKmapOf (ex : Bool) (k : Option Nat) : M Unit := Vi.modify fun s =>
  let v := match k with | some v => v | none => s.xkmapAlt
  if ex then { s with exKmap := v } else { s with xkmap := v }

def getKmapOf (ex : Bool) : M Nat := fun s => Res.ok (if ex then s.exKmap else s.xkmap) s

theorem ledLine_eq (pref post ai0 : Bytes) (aiMax : Nat) (ins ex : Bool) :
    ledLine pref post ai0 aiMax ins ex =
      ledLine.go post aiMax ins pref.isEmpty (setKmapOf ex) (getKmapOf ex) (redrawOf pref ins) 100000 [] ai0 0 := rfl

def afterRedraw (pref : Bytes) (ins : Bool) (ai sb post : Bytes) (s : VS) : VS :=
  if ins then { s with ed := { s.ed with xleft := ledLeft s ai pref sb post s.ed.xleft } } else s

theorem redrawOf_apply (pref : Bytes) (ins : Bool) (ai sb post : Bytes) (s : VS) :
    redrawOf pref ins ai sb post s = Res.ok () (afterRedraw pref ins ai sb post s) := by
  unfold redrawOf afterRedraw
  cases ins <;> rfl

theorem reads_afterRedraw (pref : Bytes) (ins : Bool) (ai sb post : Bytes) (s : VS) :
    Reads ins [] s (afterRedraw pref ins ai sb post s) ∧ pending (afterRedraw pref ins ai sb post s) = pending s := by
  unfold afterRedraw
  cases ins
  · exact ⟨Reads.refl _ _, rfl⟩
  · exact ⟨⟨_, _, _, _, rfl, fun h => by cases h⟩, rfl⟩

/-- the state after the redraw and the read that open an iteration of the loop -/
def afterStep (pref : Bytes) (ins : Bool) (ai sb post : Bytes) (s : VS) : VS :=
  afterRead (afterRedraw pref ins ai sb post s)

theorem afterStep_spec (pref : Bytes) (ins : Bool) (ai sb post : Bytes) (s : VS) (k : Nat) (rest : Bytes)
    (h : pending s = k :: rest) :
    Reads ins [k] s (afterStep pref ins ai sb post s) ∧ pending (afterStep pref ins ai sb post s) = rest := by
  obtain ⟨h1, h2⟩ := reads_afterRedraw pref ins ai sb post s
  obtain ⟨-, h4, h5⟩ := termRead_afterRead (afterRedraw pref ins ai sb post s) k rest (by rw [h2]; exact h)
  exact ⟨h1.trans (h5.mono ins), h4⟩

theorem redraw_read {β : Type} (pref : Bytes) (ins : Bool) (ai sb post : Bytes) (F : Int → M β) (s : VS)
    (k : Nat) (rest : Bytes) (h : pending s = k :: rest) :
    (redrawOf pref ins ai sb post >>= fun _ => termRead >>= F) s = F (k : Int) (afterStep pref ins ai sb post s) := by
  obtain ⟨-, h2⟩ := reads_afterRedraw pref ins ai sb post s
  obtain ⟨h3, -, -⟩ := termRead_afterRead (afterRedraw pref ins ai sb post s) k rest (by rw [h2]; exact h)
  simp only [bind_apply, redrawOf_apply, h3]
  rfl

/-! ### `led_readchar` -/

theorem beq_cast (k n : Nat) (h : k ≠ n) : (((k : Nat) : Int) == ((n : Nat) : Int)) = false := by
  simp; omega

/-- the same with the second number a numeral, the form in which the model compares keys -/
theorem beq_lit (k n : Nat) (h : k ≠ n) : ((k : Int) == (OfNat.ofNat n : Int)) = false := beq_cast k n h

theorem tkInt_cast (k : Nat) (h27 : k ≠ 27) (h3 : k ≠ 3) : tkInt (k : Int) = false := by
  unfold tkInt
  simp
  omega

theorem kmapMap_zero (c : Nat) (h : c % 256 ≠ 0) : kmapMap 0 c = [c % 256] := by
  unfold kmapMap
  have hc : c ≠ 0 := by intro h0; subst h0; simp at h
  have hb : ((0 : Nat) == c) = false := by simp; omega
  have : (Gen.kmaps.getD 0 []).find? (fun e => e.1 == c) = none := by
    show ([(0, [101, 110])] : List (Nat × List Nat)).find? (fun e => e.1 == c) = none
    simp only [List.find?, hb]
  rw [this]
  simp [h]

/-- an ordinary key (not `^V`, `^K`, below the UTF-8 lead bytes) under the default keymap -/
theorem readCharS_plain (k : Nat) (s : VS) (h22 : k ≠ 22) (h11 : k ≠ 11) (hlt : k < 192) (h0 : k ≠ 0) :
    readCharS (k : Int) 0 s = Res.ok (some [k]) s := by
  unfold readCharS
  simp only [beq_lit k _ h22, beq_lit k _ h11, Bool.false_eq_true, if_false, Int.toNat_natCast]
  rw [if_neg (by omega), kmapMap_zero k (by omega), show k % 256 = k by omega]
  rfl

/-- `^V d`: the next key, literally -/
theorem readCharS_literal (kmap : Nat) (s : VS) (d : Nat) (rest : Bytes) (h : pending s = d :: rest) :
    readCharS ((22 : Nat) : Int) kmap s = Res.ok (some (if d % 256 == 0 then [] else [d % 256])) (afterRead s) := by
  obtain ⟨h1, -, -⟩ := termRead_afterRead s d rest h
  unfold readCharS
  simp only [show ((((22 : Nat) : Int)) == 22) = true from rfl, if_true, bind_apply, h1, Int.toNat_natCast]
  rfl

theorem more_spec : ∀ (ds acc : Bytes) (s : VS) (rest : Bytes), pending s = ds ++ rest →
    ∃ s', readCharS.more ds.length acc s = Res.ok (acc ++ ds.map (· % 256)) s' ∧ Reads false ds s s' ∧ pending s' = rest := by
  intro ds
  induction ds with
  | nil => intro acc s rest h; exact ⟨s, by simp [readCharS.more, pure_apply], Reads.refl _ _, by simpa using h⟩
  | cons d ds ih =>
    intro acc s rest h
    obtain ⟨h1, h2, h3⟩ := termRead_afterRead s d (ds ++ rest) (by simpa using h)
    obtain ⟨s', h4, h5, h6⟩ := ih (acc ++ [d % 256]) (afterRead s) rest h2
    refine ⟨s', ?_, h3.trans h5, h6⟩
    simp only [List.length_cons, readCharS.more, bind_apply, h1, Int.toNat_natCast, h4]
    simp

theorem readCharS_multi (k : Nat) (kmap : Nat) (s : VS) (ds rest : Bytes) (hk : 192 ≤ k)
    (h : pending s = ds ++ rest) (hl : ds.length = ucLen k - 1) :
    ∃ s', readCharS (k : Int) kmap s = Res.ok (some ((k :: ds.map (· % 256)).takeWhile (· != 0))) s' ∧
      Reads false ds s s' ∧ pending s' = rest := by
  obtain ⟨s', h1, h2, h3⟩ := more_spec ds [k] s rest h
  refine ⟨s', ?_, h2, h3⟩
  unfold readCharS
  simp only [beq_lit k 22 (by omega), beq_lit k 11 (by omega), Bool.false_eq_true, if_false, Int.toNat_natCast]
  rw [if_pos (by omega)]
  simp only [bind_apply, ← hl, h1]
  rfl

/-! ### the pure simulation -/

/-- the text side of one iteration of `led_line` on the key `k` (not one that ends the line), `ks` being
the keys after it: (keys left, text, auto-indent).  `none`: a key outside the modelled set
(`^F ^E ^P ^R ^A ^K`, NUL), or the keys run out inside `^V c` or a multi-byte character.
`pe`: the prefix is empty (matters for `^D`). -/
def ledStep (pe : Bool) (aiMax : Nat) (k : Nat) (ks sb ai : Bytes) : Option (Bytes × Bytes × Bytes) :=
  if k = 8 ∨ k = 127 then some (ks, if sb.isEmpty then sb else sb.take (lastChar sb), ai)
  else if k = 21 then some (ks, [], ai)
  else if k = 23 then some (ks, if sb.isEmpty then sb else sb.take (lastWord sb), ai)
  else if k = 20 then some (ks, sb, if ai.length < aiMax then ai ++ [9] else ai)
  else if k = 4 then some (ks, if ai.isEmpty && pe && isBlankC (sb.headD 0) then sb.drop 1 else sb, ai.dropLast)
  else if k = 22 then
    match ks with
    | [] => none
    | d :: ks' => some (ks', sb ++ (if d % 256 == 0 then [] else [d % 256]), ai)
  else if k = 6 ∨ k = 5 ∨ k = 16 ∨ k = 18 ∨ k = 1 ∨ k = 11 ∨ k = 0 then none
  else if k < 192 then some (ks, sb ++ [k], ai)
  else if ks.length < ucLen k - 1 then none
  else some (ks.drop (ucLen k - 1), sb ++ ((k :: (ks.take (ucLen k - 1)).map (· % 256)).takeWhile (· != 0)), ai)

/-- the text side of `led_line`: run the keys on the text `sb` and the auto-indent `ai` until a newline,
ESC or `^C`; the result is (text, terminating key, auto-indent, keys left).  `none`: the keys run out,
`ledStep` fails, or the fuel of the model's loop is exhausted. -/
def ledSim (pe : Bool) (aiMax : Nat) : Nat → Bytes → Bytes → Bytes → Option (Bytes × Nat × Bytes × Bytes)
  | 0, _, _, _ => none
  | _ + 1, [], _, _ => none
  | f + 1, k :: ks, sb, ai =>
    if k = 10 ∨ k = 27 ∨ k = 3 then some (sb, k, ai, ks)
    else match ledStep pe aiMax k ks sb ai with
      | none => none
      | some (ks', sb', ai') => ledSim pe aiMax f ks' sb' ai'

section Sim
variable {pe : Bool} {aiMax : Nat} {k : Nat} {ks sb ai : Bytes}

theorem ledStep_lead {t : Bytes} (hk : 192 ≤ k) (ht : t.length = ucLen k - 1) :
    ledStep pe aiMax k (t ++ ks) sb ai = some (ks, sb ++ (k :: t.map (· % 256)).takeWhile (· != 0), ai) := by
  rw [ledStep.eq_def, if_neg (by omega), if_neg (by omega), if_neg (by omega), if_neg (by omega), if_neg (by omega),
    if_neg (by omega), if_neg (by omega), if_neg (by omega), if_neg (by rw [List.length_append]; omega),
    ← ht, List.take_left, List.drop_left]

theorem ledSim_end (pe : Bool) (aiMax f : Nat) (e : Nat) (ks sb ai : Bytes) (he : e = 10 ∨ e = 27 ∨ e = 3) :
    ledSim pe aiMax (f + 1) (e :: ks) sb ai = some (sb, e, ai, ks) := by
  rw [ledSim, if_pos he]

theorem ledSim_none (f : Nat) (hk : ¬(k = 10 ∨ k = 27 ∨ k = 3)) (h : ledStep pe aiMax k ks sb ai = none) :
    ledSim pe aiMax (f + 1) (k :: ks) sb ai = none := by
  rw [ledSim, if_neg hk, h]

theorem ledSim_step (f : Nat) {ks' sb' ai' : Bytes} (hk : ¬(k = 10 ∨ k = 27 ∨ k = 3))
    (h : ledStep pe aiMax k ks sb ai = some (ks', sb', ai')) :
    ledSim pe aiMax (f + 1) (k :: ks) sb ai = ledSim pe aiMax f ks' sb' ai' := by
  rw [ledSim, if_neg hk, h]

theorem ledSim_mono (pe : Bool) (aiMax : Nat) : ∀ (f : Nat) (ks sb ai : Bytes) (r : Bytes × Nat × Bytes × Bytes),
    ledSim pe aiMax f ks sb ai = some r → ∀ g, f ≤ g → ledSim pe aiMax g ks sb ai = some r := by
  intro f
  induction f with
  | zero => intro ks sb ai r h; cases h
  | succ f ih =>
    intro ks sb ai r h g hg
    obtain ⟨g, rfl⟩ : ∃ g', g = g' + 1 := ⟨g - 1, by omega⟩
    cases ks with
    | nil => cases h
    | cons k ks =>
      by_cases hk : k = 10 ∨ k = 27 ∨ k = 3
      · rw [ledSim_end _ _ _ _ _ _ _ hk] at h ⊢
        exact h
      · cases hs : ledStep pe aiMax k ks sb ai with
        | none => rw [ledSim_none f hk hs] at h; cases h
        | some t =>
          rw [ledSim_step f hk hs] at h
          rw [ledSim_step g hk hs]
          exact ih _ _ _ _ h g (by omega)

end Sim

/-! ### one iteration, by kind of key -/

section Step
variable (pref post : Bytes) (aiMax : Nat) (ins ex : Bool)

local macro "GO" : term => `(ledLine.go post aiMax ins pref.isEmpty (setKmapOf ex) (getKmapOf ex) (redrawOf pref ins))

theorem go_zero (sb ai : Bytes) (c1 : Int) (s : VS) : GO 0 sb ai c1 s = Res.ok (sb, -1, ai) s := by
  unfold ledLine.go; rfl

theorem go_bs (f : Nat) (sb ai : Bytes) (c1 : Int) (s : VS) (k : Nat) (rest : Bytes)
    (h : pending s = k :: rest) (hk : k = 8 ∨ k = 127) :
    GO (f + 1) sb ai c1 s =
      GO f (if sb.isEmpty then sb else sb.take (lastChar sb)) ai k (afterStep pref ins ai sb post s) := by
  rw [ledLine.go]
  rw [redraw_read pref ins ai sb post _ s k rest h]
  rcases hk with rfl | rfl <;> rfl

theorem go_killline (f : Nat) (sb ai : Bytes) (c1 : Int) (s : VS) (rest : Bytes)
    (h : pending s = 21 :: rest) :
    GO (f + 1) sb ai c1 s = GO f [] ai 21 (afterStep pref ins ai sb post s) := by
  rw [ledLine.go]
  rw [redraw_read pref ins ai sb post _ s 21 rest h]
  rfl

theorem go_killword (f : Nat) (sb ai : Bytes) (c1 : Int) (s : VS) (rest : Bytes)
    (h : pending s = 23 :: rest) :
    GO (f + 1) sb ai c1 s =
      GO f (if sb.isEmpty then sb else sb.take (lastWord sb)) ai 23 (afterStep pref ins ai sb post s) := by
  rw [ledLine.go]
  rw [redraw_read pref ins ai sb post _ s 23 rest h]
  rfl

theorem go_ctrlT (f : Nat) (sb ai : Bytes) (c1 : Int) (s : VS) (rest : Bytes)
    (h : pending s = 20 :: rest) :
    GO (f + 1) sb ai c1 s =
      GO f sb (if ai.length < aiMax then ai ++ [9] else ai) 20 (afterStep pref ins ai sb post s) := by
  rw [ledLine.go]
  rw [redraw_read pref ins ai sb post _ s 20 rest h]
  rfl

theorem go_ctrlD (f : Nat) (sb ai : Bytes) (c1 : Int) (s : VS) (rest : Bytes)
    (h : pending s = 4 :: rest) :
    GO (f + 1) sb ai c1 s =
      GO f (if ai.isEmpty && pref.isEmpty && isBlankC (sb.headD 0) then sb.drop 1 else sb) ai.dropLast 4
        (afterStep pref ins ai sb post s) := by
  rw [ledLine.go]
  rw [redraw_read pref ins ai sb post _ s 4 rest h]
  rfl

/-- the keys that edit the text or the auto-indent without reading further: `^H`/DEL, `^U`, `^W`, `^T`, `^D` -/
theorem go_edit (f : Nat) (sb ai : Bytes) (c1 : Int) (s : VS) (k : Nat) (rest : Bytes)
    (h : pending s = k :: rest) (hk : k = 8 ∨ k = 127 ∨ k = 21 ∨ k = 23 ∨ k = 20 ∨ k = 4) :
    ∃ sb' ai', ledStep pref.isEmpty aiMax k rest sb ai = some (rest, sb', ai') ∧
      GO (f + 1) sb ai c1 s = GO f sb' ai' k (afterStep pref ins ai sb post s) := by
  rcases hk with rfl | rfl | rfl | rfl | rfl | rfl
  · exact ⟨_, _, rfl, go_bs pref post aiMax ins ex f sb ai c1 s 8 rest h (Or.inl rfl)⟩
  · exact ⟨_, _, rfl, go_bs pref post aiMax ins ex f sb ai c1 s 127 rest h (Or.inr rfl)⟩
  · exact ⟨_, _, rfl, go_killline pref post aiMax ins ex f sb ai c1 s rest h⟩
  · exact ⟨_, _, rfl, go_killword pref post aiMax ins ex f sb ai c1 s rest h⟩
  · exact ⟨_, _, rfl, go_ctrlT pref post aiMax ins ex f sb ai c1 s rest h⟩
  · exact ⟨_, _, rfl, go_ctrlD pref post aiMax ins ex f sb ai c1 s rest h⟩

theorem go_newline (f : Nat) (sb ai : Bytes) (c1 : Int) (s : VS) (rest : Bytes)
    (h : pending s = 10 :: rest) :
    GO (f + 1) sb ai c1 s =
      Res.ok (sb, 10, ai) (afterRedraw pref ins ai sb [] (afterStep pref ins ai sb post s)) := by
  rw [ledLine.go]
  rw [redraw_read pref ins ai sb post _ s 10 rest h]
  show (redrawOf pref ins ai sb [] >>= fun _ => pure (sb, (10 : Int), ai)) _ = _
  rw [bind_apply, redrawOf_apply]
  rfl

theorem go_int (f : Nat) (sb ai : Bytes) (c1 : Int) (s : VS) (k : Nat) (rest : Bytes)
    (h : pending s = k :: rest) (hk : k = 27 ∨ k = 3) :
    GO (f + 1) sb ai c1 s = Res.ok (sb, (k : Int), ai) (afterStep pref ins ai sb post s) := by
  rw [ledLine.go]
  rw [redraw_read pref ins ai sb post _ s k rest h]
  rcases hk with rfl | rfl <;> rfl

/-- a key that is none of the editing keys goes through `led_readchar` -/
theorem go_char (f : Nat) (sb ai : Bytes) (c1 : Int) (s : VS) (k : Nat) (rest : Bytes)
    (h : pending s = k :: rest)
    (hk : k ≠ 6 ∧ k ≠ 5 ∧ k ≠ 8 ∧ k ≠ 127 ∧ k ≠ 21 ∧ k ≠ 23 ∧ k ≠ 20 ∧ k ≠ 4 ∧ k ≠ 16 ∧ k ≠ 18 ∧ k ≠ 1 ∧
      k ≠ 10 ∧ k ≠ 27 ∧ k ≠ 3) :
    GO (f + 1) sb ai c1 s =
      (match readCharS (k : Int) (if ex then (afterStep pref ins ai sb post s).exKmap else (afterStep pref ins ai sb post s).xkmap)
          (afterStep pref ins ai sb post s) with
        | Res.ok (some cs) s2 => GO f (sb ++ cs) ai k s2
        | Res.ok none s2 => GO f sb ai k s2
        | Res.eof => Res.eof
        | Res.trap => Res.trap) := by
  obtain ⟨h6, h5, h8, h127, h21, h23, h20, h4, h16, h18, h1, h10, h27, h3⟩ := hk
  rw [ledLine.go]
  rw [redraw_read pref ins ai sb post _ s k rest h]
  simp only [beq_lit k _ h6, beq_lit k _ h5, beq_lit k _ h8, beq_lit k _ h127, beq_lit k _ h21, beq_lit k _ h23,
    beq_lit k _ h20, beq_lit k _ h4, beq_lit k _ h16, beq_lit k _ h18, beq_lit k _ h1, beq_lit k _ h10,
    tkInt_cast k h27 h3, Bool.false_eq_true, if_false, Bool.or_self]
  simp only [bind_apply, getKmapOf]
  cases readCharS (k : Int) (if ex then (afterStep pref ins ai sb post s).exKmap else (afterStep pref ins ai sb post s).xkmap)
      (afterStep pref ins ai sb post s) with
  | ok a s2 => cases a <;> rfl
  | eof => rfl
  | trap => rfl

theorem go_step (f : Nat) (sb ai : Bytes) (c1 : Int) (s : VS) (k : Nat) (ks ks' sb' ai' : Bytes)
    (hp : pending s = k :: ks) (hkm : (if ex then s.exKmap else s.xkmap) = 0) (hk : ¬(k = 10 ∨ k = 27 ∨ k = 3))
    (h : ledStep pref.isEmpty aiMax k ks sb ai = some (ks', sb', ai')) :
    ∃ s1 used, GO (f + 1) sb ai c1 s = GO f sb' ai' k s1 ∧ k :: ks = used ++ ks' ∧ Reads ins used s s1 ∧
      pending s1 = ks' := by
  obtain ⟨hr, hp1⟩ := afterStep_spec pref ins ai sb post s k ks hp
  have hkm1 := (hr.kmap ex).trans hkm
  by_cases he : k = 8 ∨ k = 127 ∨ k = 21 ∨ k = 23 ∨ k = 20 ∨ k = 4
  · obtain ⟨sb1, ai1, h1, h2⟩ := go_edit pref post aiMax ins ex f sb ai c1 s k ks hp he
    rw [h1] at h
    cases h
    exact ⟨_, [k], h2, rfl, hr, hp1⟩
  simp only [not_or] at he
  obtain ⟨h8, h127, h21, h23, h20, h4⟩ := he
  unfold ledStep at h
  rw [if_neg (by omega), if_neg h21, if_neg h23, if_neg h20, if_neg h4] at h
  by_cases h22 : k = 22
  · subst h22
    have hgc := go_char pref post aiMax ins ex f sb ai c1 s 22 ks hp (by omega)
    cases ks with
    | nil => cases h
    | cons d ks =>
      cases h
      obtain ⟨-, hp2, hr2⟩ := termRead_afterRead _ d ks' hp1
      rw [hkm1, readCharS_literal 0 _ d ks' hp1] at hgc
      exact ⟨_, [22, d], hgc, rfl, hr.trans (hr2.mono ins), hp2⟩
  by_cases hsp : k = 6 ∨ k = 5 ∨ k = 16 ∨ k = 18 ∨ k = 1 ∨ k = 11 ∨ k = 0
  · rw [if_neg h22, if_pos hsp] at h
    cases h
  rw [if_neg h22, if_neg hsp] at h
  simp only [not_or] at hsp hk
  have hgc := go_char pref post aiMax ins ex f sb ai c1 s k ks hp ⟨hsp.1, hsp.2.1, h8, h127, h21, h23, h20, h4,
    hsp.2.2.1, hsp.2.2.2.1, hsp.2.2.2.2.1, hk.1, hk.2.1, hk.2.2⟩
  rw [hkm1] at hgc
  by_cases hlt : k < 192
  · rw [if_pos hlt] at h
    cases h
    rw [readCharS_plain k _ (by omega) (by omega) hlt (by omega)] at hgc
    exact ⟨_, [k], hgc, rfl, hr, hp1⟩
  by_cases hlen : ks.length < ucLen k - 1
  · rw [if_neg hlt, if_pos hlen] at h
    cases h
  rw [if_neg hlt, if_neg hlen] at h
  cases h
  have hsplit : ks = ks.take (ucLen k - 1) ++ ks.drop (ucLen k - 1) := (List.take_append_drop _ _).symm
  obtain ⟨s2, hm, hr2, hp2⟩ := readCharS_multi k 0 (afterStep pref ins ai sb post s) (ks.take (ucLen k - 1))
    (ks.drop (ucLen k - 1)) (by omega) (by rw [hp1]; exact hsplit) (by simp; omega)
  rw [hm] at hgc
  exact ⟨s2, k :: ks.take (ucLen k - 1), hgc, by rw [List.cons_append, ← hsplit], hr.trans (hr2.mono ins), hp2⟩

end Step

/-- **the loop of `led_line` computes `ledSim`** on the pending keys (default keymap), and only reads keys -/
theorem go_sim (pref post : Bytes) (aiMax : Nat) (ins ex : Bool) :
    ∀ (f : Nat) (keys sb ai : Bytes) (c1 : Int) (s : VS) (sb' : Bytes) (key : Nat) (ai' rest : Bytes),
      ledSim pref.isEmpty aiMax f keys sb ai = some (sb', key, ai', rest) →
      pending s = keys → (if ex then s.exKmap else s.xkmap) = 0 →
      ∃ s' used, ledLine.go post aiMax ins pref.isEmpty (setKmapOf ex) (getKmapOf ex) (redrawOf pref ins) f sb ai c1 s
          = Res.ok (sb', (key : Int), ai') s' ∧
        keys = used ++ rest ∧ Reads ins used s s' ∧ pending s' = rest := by
  intro f
  induction f with
  | zero => intro keys sb ai c1 s sb' key ai' rest h; cases h
  | succ f ih =>
    intro keys sb ai c1 s sb' key ai' rest h hp hkm
    cases keys with
    | nil => cases h
    | cons k ks =>
      by_cases hk : k = 10 ∨ k = 27 ∨ k = 3
      · rw [ledSim_end _ _ _ _ _ _ _ hk] at h
        cases h
        obtain ⟨hr, hp1⟩ := afterStep_spec pref ins ai sb post s key rest hp
        rcases hk with rfl | hk
        · rw [go_newline pref post aiMax ins ex f sb ai c1 s rest hp]
          obtain ⟨hr2, hp2⟩ := reads_afterRedraw pref ins ai sb [] (afterStep pref ins ai sb post s)
          exact ⟨_, [10], rfl, rfl, hr.trans hr2, by rw [hp2, hp1]⟩
        · rw [go_int pref post aiMax ins ex f sb ai c1 s key rest hp hk]
          exact ⟨_, [key], rfl, rfl, hr, hp1⟩
      · cases hs : ledStep pref.isEmpty aiMax k ks sb ai with
        | none => rw [ledSim_none f hk hs] at h; cases h
        | some t =>
          obtain ⟨ks1, sb1, ai1⟩ := t
          rw [ledSim_step f hk hs] at h
          obtain ⟨s1, u1, h1, h2, h3, h4⟩ := go_step pref post aiMax ins ex f sb ai c1 s k ks ks1 sb1 ai1 hp hkm hk hs
          obtain ⟨s', u2, h5, h6, h7, h8⟩ := ih ks1 sb1 ai1 k s1 sb' key ai' rest h h4 ((h3.kmap ex).trans hkm)
          exact ⟨s', u1 ++ u2, h1.trans h5, by rw [h2, h6, List.append_assoc], h3.trans h7, h8⟩

end Neatvi.Lemmas.C08b
