import NeatviVerif.Lemmas.C08bInsert
/-!
# C08 (insert mode): `vc_insert` for `o` and `O`
-/
namespace Neatvi.Lemmas.C08b
open Neatvi Neatvi.Uc Neatvi.Vi Neatvi.Ex Neatvi.Spec Neatvi.Lemmas.C08 Neatvi.Lemmas.C09

/-- `vc_insert` for `o` / `O` after the cursor was settled: the new line is typed after the indent -/
def openTail (pref : Bytes) : M Nat := do
  let (rep, row, off') ← viInput pref [10]
  let s ← Vi.get
  if lenOf s == 0 then edEdit (some [10]) 0 0
  let s ← Vi.get
  let beg := s.ed.xrow - row + 1
  edEdit (some rep) beg beg
  setOff off'
  pure VC_OK

/-- the state after `vi_nextline()` -/
def nextlineSt (s : VS) : VS :=
  { s with ed := if s.ed.xrow == s.ed.xtop + s.xrows - 1 then { s.ed with xrow := s.ed.xrow + 1, xtop := s.ed.xtop + 1 }
                 else { s.ed with xrow := s.ed.xrow + 1 } }

theorem viNextlineR_apply (s : VS) : viNextlineR s = Res.ok () (nextlineSt s) := rfl

theorem vcInsert_o_red (s : VS) (l : Bytes) (hl : lineOf s s.ed.xrow = some l) :
    vcInsert 111 s = openTail (viIndents s (some l))
      (nextlineSt { s with ed := { s.ed with xoff := Ren.renNoeol l s.ed.xoff } }) := by
  unfold vcInsert openTail
  simp only [bind_apply, get_apply, hl, setOff_apply, pure_apply, viNextlineR_apply, Nat.reduceBEq,
    Bool.false_eq_true, if_false, if_true, Bool.or_false, Bool.or_self, Bool.not_true, Bool.true_and, Int.add_zero]

theorem vcInsert_O_red (s : VS) (l : Bytes) (hl : lineOf s s.ed.xrow = some l) :
    vcInsert 79 s = openTail (viIndents s (some l)) { s with ed := { s.ed with xoff := Ren.renNoeol l s.ed.xoff } } := by
  unfold vcInsert openTail
  simp only [bind_apply, get_apply, hl, setOff_apply, pure_apply, Nat.reduceBEq, Bool.false_eq_true, if_false, if_true,
    Bool.or_true, Bool.or_self, Bool.not_true, Bool.true_and, Int.add_zero]

theorem takeWhile_blank_line (b : List Nat) : (b ++ [10]).takeWhile isBlankC = b.takeWhile isBlankC := by
  induction b with
  | nil => rfl
  | cons x t ih => rw [List.cons_append, List.takeWhile_cons, List.takeWhile_cons, ih]

/-- the indentation `o`/`O` start the new line with -/
def indentOf (s : VS) (body : List Nat) : List Nat := if s.xai then body.takeWhile isBlankC else []

theorem viIndents_line (s : VS) (body : List Nat) (_hb : ∀ c ∈ body, ValidCp c) :
    viIndents s (some (encStr (body ++ [10]))) = encStr (indentOf s body) := by
  show (if s.xai then (encStr (body ++ [10])).takeWhile isBlankC else []) = _
  unfold indentOf
  cases s.xai
  · rfl
  · rw [takeWhile_encStr isBlankC_high, takeWhile_blank_line]
    rfl

theorem indentOf_valid (s : VS) (body : List Nat) (hb : ∀ c ∈ body, ValidCp c) (hb10 : 10 ∉ body) :
    (∀ c ∈ indentOf s body, ValidCp c) ∧ 10 ∉ indentOf s body := by
  unfold indentOf
  split
  · exact ⟨fun c hc => hb c ((List.takeWhile_sublist _).subset hc),
      fun h => hb10 ((List.takeWhile_sublist _).subset h)⟩
  · exact ⟨fun c hc => by simp at hc, by simp⟩

theorem nextlineSt_eq (s : VS) : ∃ ed, nextlineSt s = { s with ed := ed } ∧ ed.xrow = s.ed.xrow + 1 ∧
    ed.bufs = s.ed.bufs ∧ ed.regs = s.ed.regs := by
  unfold nextlineSt
  split
  · exact ⟨_, rfl, rfl, rfl, rfl⟩
  · exact ⟨_, rfl, rfl, rfl, rfl⟩

theorem lines_of_bufs (s : VS) (ed : Ed) (h : ed.bufs = s.ed.bufs) : Vi.lines { s with ed := ed } = Vi.lines s := by
  unfold Vi.lines Ed.lb Ed.cur
  simp only [h]

theorem lb_of_bufs (s : VS) (ed : Ed) (h : ed.bufs = s.ed.bufs) : ed.lb = s.ed.lb := by
  unfold Ed.lb Ed.cur
  rw [h]

/-- move an `Inserted` fact back over a change of the editor record that kept the text and the registers -/
theorem Inserted.of_ed {used : Bytes} {s s' : VS} {ed : Ed} {r : Int} {new : List Bytes} {del : Nat} {row off : Int}
    (h : Inserted used { s with ed := ed } s' r new del row off) (hb : ed.bufs = s.ed.bufs) (hr : ed.regs = s.ed.regs) :
    Inserted used s s' r new del row off := by
  obtain ⟨a1, a2, a3, a4, a5⟩ := h
  refine ⟨?_, a2, a3, a4.trans hr, a5.of_ed ⟨_, rfl⟩⟩
  rw [a1, lines_of_bufs s ed hb]

end Neatvi.Lemmas.C08b
