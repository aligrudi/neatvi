import NeatviVerif.Lemmas.C08bLed
/-!
# C08 (insert mode): the reference semantics of the insert-mode keys, as an edit script

An insert session is a list of events (`Ev`): typed text (code points, sent as UTF-8), backspace,
`^U`, `^W`, `^V c`, `^T`, `^D`.  `runScript` is the reference: what the events do to the text and to
the auto-indent.  `ledSim_script` shows that `ledSim` (hence `led_line`) computes it.
-/
namespace Neatvi.Lemmas.C08b
open Neatvi Neatvi.Uc Neatvi.Vi Neatvi.Spec Neatvi.Lemmas.C09

/-- a code point that can be typed as text: valid, not a control character, not DEL -/
def Typable (c : Nat) : Prop := ValidCp c ∧ 32 ≤ c ∧ c ≠ 127

theorem takeWhile_all {α : Type} (p : α → Bool) : ∀ (l : List α), (∀ x ∈ l, p x = true) → l.takeWhile p = l :=
  Basics.takeWhile_all p

theorem takeWhile_ne_ten (a r : Bytes) (ha : 10 ∉ a) : (a ++ 10 :: r).takeWhile (· != 10) = a :=
  Basics.takeWhile_ne a r 10 ha

/-! ### the first byte of an encoded character -/

theorem enc_head {c a : Nat} {t : Bytes} (he : enc c = a :: t) : c < 128 ∧ a = c ∧ t = [] ∨ 128 ≤ c ∧ 192 ≤ a := by
  unfold enc at he
  split at he
  · injection he with h1 h2
    exact Or.inl ⟨by omega, h1.symm, h2.symm⟩
  split at he
  · injection he with h1 _
    exact Or.inr ⟨by omega, by omega⟩
  split at he
  · injection he with h1 _
    exact Or.inr ⟨by omega, by omega⟩
  · injection he with h1 _
    exact Or.inr ⟨by omega, by omega⟩

theorem hd_enc_class {p : Nat → Bool} (hp : ∀ x, 128 ≤ x → p x = false) {c a : Nat} {t : Bytes} (he : enc c = a :: t) :
    p a = p c := by
  rcases enc_head he with ⟨-, rfl, -⟩ | ⟨hc, ha⟩
  · rfl
  · rw [hp a (by omega), hp c hc]

theorem takeWhile_encStr {p : Nat → Bool} (hp : ∀ x, 128 ≤ x → p x = false) :
    ∀ (cs : List Nat), (encStr cs).takeWhile p = encStr (cs.takeWhile p) := by
  intro cs
  induction cs with
  | nil => rfl
  | cons c t ih =>
    obtain ⟨a, u, he⟩ : ∃ a u, enc c = a :: u := by
      cases h : enc c with
      | nil => exact absurd h (enc_ne_nil c)
      | cons a u => exact ⟨a, u, rfl⟩
    rw [encStr_cons, List.takeWhile_cons (a := c), he, List.cons_append, List.takeWhile_cons, hd_enc_class hp he]
    by_cases hs : p c = true
    · have hlt : c < 128 := Decidable.byContradiction fun h => by rw [hp c (by omega)] at hs; cases hs
      rw [if_pos hs, if_pos hs, encStr_cons, he]
      rcases enc_head he with ⟨-, -, rfl⟩ | ⟨hc, -⟩
      · rw [List.nil_append, ih]
        rfl
      · omega
    · rw [if_neg hs, if_neg hs]
      rfl

theorem isBlankC_high (x : Nat) (h : 128 ≤ x) : isBlankC x = false := by
  unfold isBlankC
  simp only [Bool.or_eq_false_iff, beq_eq_false_iff_ne]
  omega

theorem takeWhile_blank_text (c : Nat) (t : List Nat) (_hc : ValidCp c) (h32 : c ≠ 32) (h9 : c ≠ 9) :
    (encStr (c :: t)).takeWhile isBlankC = [] := by
  have hb : isBlankC c = false := by
    unfold isBlankC
    simp only [Bool.or_eq_false_iff, beq_eq_false_iff_ne]
    exact ⟨h32, h9⟩
  rw [takeWhile_encStr isBlankC_high, List.takeWhile_cons, hb]
  rfl

/-- the bytes of a character are bytes, none of them NUL: reading them back as keys gives them unchanged -/
theorem chr_bytes {a : Nat} {t : Bytes} (h : Chr a t) : (a :: t.map (· % 256)).takeWhile (· != 0) = a :: t := by
  have e : t.map (· % 256) = t := by
    rw [List.map_congr_left (g := id)]
    · simp
    · intro x hx; have := h.tl x hx; simp only [id]; omega
  rw [e]
  apply takeWhile_all
  intro x hx
  have : 0 < x := by
    rcases List.mem_cons.mp hx with rfl | hx
    · exact h.pos
    · have := h.tl x hx; omega
  simp; omega

/-! ### `ledSim` on typed characters -/

/-- a printable ASCII key, or TAB -/
theorem ledSim_ascii (pe : Bool) (aiMax f : Nat) (k : Nat) (ks sb ai : Bytes)
    (hk : 32 ≤ k ∧ k < 127 ∨ k = 9) :
    ledSim pe aiMax (f + 1) (k :: ks) sb ai = ledSim pe aiMax f ks (sb ++ [k]) ai := by
  apply ledSim_step f (by omega)
  rw [ledStep.eq_def, if_neg (by omega), if_neg (by omega), if_neg (by omega), if_neg (by omega), if_neg (by omega),
    if_neg (by omega), if_neg (by omega), if_pos (by omega)]

/-- a typable character, sent as its UTF-8 bytes -/
theorem ledSim_char (pe : Bool) (aiMax f : Nat) (c : Nat) (ks sb ai : Bytes) (hc : Typable c) :
    ledSim pe aiMax (f + 1) (enc c ++ ks) sb ai = ledSim pe aiMax f ks (sb ++ enc c) ai := by
  obtain ⟨hv, h32, h127⟩ := hc
  by_cases hlt : c < 128
  · rw [enc_ascii hlt]
    exact ledSim_ascii pe aiMax f c ks sb ai (by omega)
  · obtain ⟨a, t, he, hch⟩ := enc_chr hv
    have hlen := Props.C16.len_enc hv
    rw [he] at hlen
    simp only [Bytes.hd_cons, List.length_cons] at hlen
    have ha : 192 ≤ a := by
      rcases enc_head he with h | h
      · omega
      · exact h.2
    rw [he, List.cons_append, ledSim_step f (by omega) (ledStep_lead ha (by omega)), chr_bytes hch]

theorem ledSim_text (pe : Bool) (aiMax : Nat) : ∀ (cs : List Nat) (f : Nat) (ks sb ai : Bytes),
    (∀ c ∈ cs, Typable c ∨ c = 9) →
    ledSim pe aiMax (f + cs.length) (encStr cs ++ ks) sb ai = ledSim pe aiMax f ks (sb ++ encStr cs) ai := by
  intro cs
  induction cs with
  | nil => intro f ks sb ai _; simp
  | cons c cs ih =>
    intro f ks sb ai h
    have hc : ledSim pe aiMax (f + cs.length + 1) (enc c ++ (encStr cs ++ ks)) sb ai =
        ledSim pe aiMax (f + cs.length) (encStr cs ++ ks) (sb ++ enc c) ai := by
      rcases h c (by simp) with hc | rfl
      · exact ledSim_char pe aiMax _ c _ sb ai hc
      · exact ledSim_ascii pe aiMax _ 9 _ sb ai (Or.inr rfl)
    rw [encStr_cons, List.append_assoc, List.length_cons, ← Nat.add_assoc, hc,
      ih f ks _ ai (fun d hd => h d (by simp [hd])), List.append_assoc]

theorem encStr_ascii : ∀ (w : Bytes), (∀ b ∈ w, b < 128) → encStr w = w := fun _ h => Uc.encStr_ascii h

theorem typable_of_plain {b : Nat} (h : 32 ≤ b ∧ b < 127) : Typable b :=
  ⟨⟨by omega, by omega⟩, h.1, by omega⟩

/-! ### edit scripts -/

/-- the events of an insert session -/
inductive Ev where
  | text (cs : List Nat)    -- typed characters (code points)
  | bs                      -- ^H
  | del                     -- DEL
  | killLine                -- ^U
  | killWord                -- ^W
  | lit (d : Nat)           -- ^V d
  | indent                  -- ^T
  | unindent                -- ^D

/-- the keys an event sends -/
def Ev.keys : Ev → Bytes
  | .text cs => encStr cs
  | .bs => [8]
  | .del => [127]
  | .killLine => [21]
  | .killWord => [23]
  | .lit d => [22, d]
  | .indent => [20]
  | .unindent => [4]

/-- iterations of the loop of `led_line` an event takes -/
def Ev.steps : Ev → Nat
  | .text cs => cs.length
  | _ => 1

def Ev.ok : Ev → Prop
  | .text cs => ∀ c ∈ cs, Typable c
  | _ => True

/-- **reference semantics**: what an event does to (text typed so far, auto-indent).  `pe`: the text
before the insertion point is empty; `aiMax`: the bound on the auto-indent -/
def Ev.apply (pe : Bool) (aiMax : Nat) : Ev → Bytes × Bytes → Bytes × Bytes
  | .text cs, (sb, ai) => (sb ++ encStr cs, ai)
  | .bs, (sb, ai) => (sb.take (lastChar sb), ai)
  | .del, (sb, ai) => (sb.take (lastChar sb), ai)
  | .killLine, (_, ai) => ([], ai)
  | .killWord, (sb, ai) => (sb.take (lastWord sb), ai)
  | .lit d, (sb, ai) => (sb ++ (if d % 256 == 0 then [] else [d % 256]), ai)
  | .indent, (sb, ai) => (sb, if ai.length < aiMax then ai ++ [9] else ai)
  | .unindent, (sb, ai) => (if ai.isEmpty && pe && isBlankC (sb.headD 0) then sb.drop 1 else sb, ai.dropLast)

def scriptKeys (evs : List Ev) : Bytes := evs.flatMap Ev.keys
def scriptSteps (evs : List Ev) : Nat := (evs.map Ev.steps).sum
def runScript (pe : Bool) (aiMax : Nat) (evs : List Ev) (st : Bytes × Bytes) : Bytes × Bytes :=
  evs.foldl (fun st e => e.apply pe aiMax st) st

theorem lastChar_nil : lastChar [] = 0 := rfl
theorem lastWord_nil : lastWord [] = 0 := rfl

theorem take_last_of_isEmpty (sb : Bytes) (n : Nat) (h : sb = [] → n = 0) :
    (if sb.isEmpty then sb else sb.take n) = sb.take n := by
  cases sb with
  | nil => simp
  | cons a t => simp

theorem ledSim_ev (pe : Bool) (aiMax : Nat) (e : Ev) (he : e.ok) (f : Nat) (ks sb ai : Bytes) :
    ledSim pe aiMax (f + e.steps) (e.keys ++ ks) sb ai =
      ledSim pe aiMax f ks (e.apply pe aiMax (sb, ai)).1 (e.apply pe aiMax (sb, ai)).2 := by
  cases e with
  | text cs => exact ledSim_text pe aiMax cs f ks sb ai fun c hc => Or.inl (he c hc)
  | bs | del | killWord =>
    exact (ledSim_step f (by decide) rfl).trans (by rw [take_last_of_isEmpty sb _ (fun h => by rw [h]; rfl)]; rfl)
  | killLine | lit d | indent | unindent => exact ledSim_step f (by decide) rfl

theorem ledSim_script (pe : Bool) (aiMax : Nat) : ∀ (evs : List Ev) (f : Nat) (e : Nat) (rest sb ai : Bytes),
    (∀ ev ∈ evs, ev.ok) → (e = 10 ∨ e = 27 ∨ e = 3) →
    ledSim pe aiMax (f + 1 + scriptSteps evs) (scriptKeys evs ++ e :: rest) sb ai =
      some ((runScript pe aiMax evs (sb, ai)).1, e, (runScript pe aiMax evs (sb, ai)).2, rest) := by
  intro evs
  induction evs with
  | nil => intro f e rest sb ai _ he; exact ledSim_end pe aiMax f e rest sb ai he
  | cons ev evs ih =>
    intro f e rest sb ai hok he
    have h1 : scriptSteps (ev :: evs) = ev.steps + scriptSteps evs := by simp [scriptSteps]
    have h2 : scriptKeys (ev :: evs) = ev.keys ++ scriptKeys evs := by simp [scriptKeys]
    rw [h1, h2, show f + 1 + (ev.steps + scriptSteps evs) = (f + 1 + scriptSteps evs) + ev.steps by omega,
      List.append_assoc, ledSim_ev pe aiMax ev (hok ev (by simp)), ih f e rest _ _ (fun x hx => hok x (by simp [hx])) he]
    rfl

/-! ### `led_lastchar` -/

theorem lastChar_enc (pre : Bytes) (c : Nat) (hc : ValidCp c) : lastChar (pre ++ enc c) = pre.length := by
  have hne : enc c ≠ [] := enc_ne_nil c
  have hne' : pre ++ enc c ≠ [] := by simp [hne]
  have hp := Props.C16.prev_spec hc pre.reverse
  rw [← List.reverse_append] at hp
  unfold lastChar
  have he : (pre ++ enc c).isEmpty = false := by cases h : pre ++ enc c <;> simp_all
  rw [he]
  simp only [Bool.false_eq_true, if_false]
  have hrev : (pre ++ enc c).reverse = ((pre ++ enc c).getLast?.getD 0) :: (pre ++ enc c).dropLast.reverse := by
    generalize pre ++ enc c = l at hne'
    have := List.dropLast_concat_getLast hne'
    conv => lhs; rw [← this]
    rw [List.getLast?_eq_some_getLast hne']
    simp
  rw [hrev] at hp
  simp only [ucPrev] at hp
  have hl := enc_length_pos c
  simp only [List.length_append]
  omega

theorem take_lastChar_enc (pre : Bytes) (c : Nat) (hc : ValidCp c) :
    (pre ++ enc c).take (lastChar (pre ++ enc c)) = pre := by
  rw [lastChar_enc pre c hc, List.take_left']
  rfl

/-- ASCII: the last character is the last byte -/
theorem take_lastChar_ascii (w : Bytes) (b : Nat) (h0 : 0 < b) (h : b < 128) :
    (w ++ [b]).take (lastChar (w ++ [b])) = w := by
  rw [← enc_ascii h]
  exact take_lastChar_enc w b ⟨h0, by omega⟩

/-! ### `led_line` on a script -/

theorem ledLine_sim (pref post ai0 : Bytes) (aiMax : Nat) (ins ex : Bool) (s : VS) (f : Nat) (u rest sb' : Bytes)
    (key : Nat) (ai' : Bytes) (hs : ledSim pref.isEmpty aiMax f (u ++ rest) [] ai0 = some (sb', key, ai', rest))
    (hf : f ≤ 100000) (hp : pending s = u ++ rest) (hk : (if ex then s.exKmap else s.xkmap) = 0) :
    ∃ s', ledLine pref post ai0 aiMax ins ex s = Res.ok (sb', (key : Int), ai') s' ∧ pending s' = rest ∧
      Reads ins u s s' := by
  obtain ⟨s', used, h1, h2, h3, h4⟩ := go_sim pref post aiMax ins ex 100000 _ [] ai0 0 s _ _ _ _
    (ledSim_mono _ _ _ _ _ _ _ hs 100000 hf) hp hk
  rw [List.append_cancel_right h2]
  exact ⟨s', by rw [ledLine_eq]; exact h1, h4, h3⟩

/-- **the line editor computes the reference semantics of the editing keys.**  If the pending keys are
those of the edit script `evs` followed by an ending key `e` (newline, ESC or `^C`), under the default
keymap, `led_line` returns the text and auto-indent `runScript` computes from `([], ai0)`, with the
ending key; the keys up to and including `e` are consumed and nothing else changes.
(`scriptSteps evs < 100000`: the bound of the model's loop.) -/
theorem ledLine_script (pref post ai0 : Bytes) (aiMax : Nat) (ins ex : Bool) (s : VS) (evs : List Ev)
    (e : Nat) (rest : Bytes)
    (hp : pending s = scriptKeys evs ++ e :: rest) (hok : ∀ ev ∈ evs, ev.ok) (he : e = 10 ∨ e = 27 ∨ e = 3)
    (hfuel : scriptSteps evs < 100000) (hk : (if ex then s.exKmap else s.xkmap) = 0) :
    ∃ s', ledLine pref post ai0 aiMax ins ex s =
        Res.ok ((runScript pref.isEmpty aiMax evs ([], ai0)).1, (e : Int), (runScript pref.isEmpty aiMax evs ([], ai0)).2) s' ∧
      pending s' = rest ∧ Reads ins (scriptKeys evs ++ [e]) s s' :=
  ledLine_sim pref post ai0 aiMax ins ex s _ _ rest _ e _
    (by simpa using ledSim_script pref.isEmpty aiMax evs 0 e rest [] ai0 hok he) (by omega) (by simpa using hp) hk

theorem ledLine_text (pref post ai : Bytes) (aiMax : Nat) (ins ex : Bool) (s : VS) (cs : List Nat) (e : Nat)
    (rest : Bytes) (hp : pending s = encStr cs ++ e :: rest) (hok : ∀ c ∈ cs, Typable c ∨ c = 9)
    (he : e = 10 ∨ e = 27 ∨ e = 3) (hlen : cs.length < 100000) (hk : (if ex then s.exKmap else s.xkmap) = 0) :
    ∃ s', ledLine pref post ai aiMax ins ex s = Res.ok (encStr cs, (e : Int), ai) s' ∧ pending s' = rest ∧
      Reads ins (encStr cs ++ [e]) s s' := by
  refine ledLine_sim pref post ai aiMax ins ex s (0 + 1 + cs.length) _ rest _ e _ ?_ (by omega) (by simpa using hp) hk
  rw [List.append_assoc, ledSim_text pref.isEmpty aiMax cs (0 + 1) _ [] ai hok]
  exact ledSim_end pref.isEmpty aiMax 0 e rest _ ai he

theorem ledLine_text_key_text (ev : Ev) (hev : ev.ok) (hst : ev.steps = 1) (pref post ai : Bytes) (aiMax : Nat)
    (ins : Bool) (s : VS) (cs cs2 : List Nat) (rest : Bytes)
    (hp : pending s = encStr cs ++ ev.keys ++ encStr cs2 ++ [27] ++ rest)
    (hok : ∀ c ∈ cs ++ cs2, Typable c) (hlen : cs.length + cs2.length + 1 < 100000) (hk : s.xkmap = 0) :
    ∃ s', ledLine pref post ai aiMax ins false s =
        Res.ok ((ev.apply pref.isEmpty aiMax (encStr cs, ai)).1 ++ encStr cs2, 27,
          (ev.apply pref.isEmpty aiMax (encStr cs, ai)).2) s' ∧
      pending s' = rest ∧ Reads ins (encStr cs ++ ev.keys ++ encStr cs2 ++ [27]) s s' := by
  obtain ⟨s', h1, h2, h3⟩ := ledLine_script pref post ai aiMax ins false s [Ev.text cs, ev, Ev.text cs2] 27 rest
    (by rw [hp]; simp [scriptKeys, Ev.keys])
    (by
      intro ev' hev'
      simp only [List.mem_cons, List.not_mem_nil, or_false] at hev'
      rcases hev' with rfl | rfl | rfl
      · exact fun d hd => hok d (List.mem_append_left _ hd)
      · exact hev
      · exact fun d hd => hok d (List.mem_append_right _ hd))
    (Or.inr (Or.inl rfl))
    (by
      show (Ev.text cs).steps + (ev.steps + ((Ev.text cs2).steps + 0)) < 100000
      rw [hst]
      show cs.length + (1 + (cs2.length + 0)) < 100000
      omega) hk
  exact ⟨s', by simpa [runScript, Ev.apply] using h1, h2, by simpa [scriptKeys, Ev.keys] using h3⟩

/-! ### scripts without `^T` / `^D`: the text does not depend on the auto-indent -/

/-- the event is not `^T` / `^D` -/
def Ev.noIndent : Ev → Prop
  | .indent => False
  | .unindent => False
  | _ => True

theorem runScript_noIndent (pe : Bool) (m : Nat) : ∀ (evs : List Ev) (sb ai : Bytes), (∀ ev ∈ evs, ev.noIndent) →
    runScript pe m evs (sb, ai) = ((runScript false 127 evs (sb, [])).1, ai) := by
  intro evs
  induction evs with
  | nil => intro sb ai _; rfl
  | cons ev evs ih =>
    intro sb ai h
    have hev := h ev (by simp)
    have hrest : ∀ e ∈ evs, e.noIndent := fun e he => h e (by simp [he])
    show runScript pe m evs (ev.apply pe m (sb, ai)) = ((runScript false 127 evs (ev.apply false 127 (sb, []))).1, ai)
    cases ev with
    | indent => exact hev.elim
    | unindent => exact hev.elim
    | _ => exact ih _ _ hrest

/-- the text a script (of text, `^H`, DEL, `^U`, `^W`, `^V c` events) leaves -/
def scriptText (evs : List Ev) : Bytes := (runScript false 127 evs ([], [])).1

/-- **the events `evs` type the text `cs`**: well-formed events without `^T`/`^D`, within the bound of the
model's loop, whose net result is the encoding of `cs` -/
def Types (evs : List Ev) (cs : List Nat) : Prop :=
  (∀ ev ∈ evs, ev.ok ∧ ev.noIndent) ∧ scriptSteps evs < 100000 ∧ scriptText evs = encStr cs

theorem types_text (cs : List Nat) (h : ∀ c ∈ cs, Typable c) (hlen : cs.length < 100000) : Types [Ev.text cs] cs := by
  refine ⟨?_, by simpa [scriptSteps, Ev.steps] using hlen, by simp [scriptText, runScript, Ev.apply]⟩
  intro ev hev
  simp at hev; subst hev
  exact ⟨h, trivial⟩

end Neatvi.Lemmas.C08b
