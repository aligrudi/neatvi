import NeatviVerif.Lemmas.C08bSim
/-!
# C08 (insert mode): `led_lastword` on ASCII text

The reference `lastWordRef`, and what the two backward scans of `led_lastword` compute when the character
starts are the byte offsets (`chop_ascii`); `Props.C08b.lastWord_ascii` puts them together.
-/
namespace Neatvi.Lemmas.C08b
open Neatvi Neatvi.Uc Neatvi.Vi Neatvi.Spec

/-- reference for `^W`: from the end, skip the white space, then the run of characters of the kind
(word / punctuation) of the last non-blank; the result is the number of bytes kept -/
def lastWordRef (s : Bytes) : Nat :=
  match s.reverse.dropWhile ucIsSpace with
  | [] => 0
  | c :: t => (t.dropWhile (fun x => ucKind x == ucKind c)).length

theorem take_succ_reverse (s : Bytes) (r : Nat) (h : r < s.length) :
    (s.take (r + 1)).reverse = s.getD r 0 :: (s.take r).reverse := by
  rw [List.take_add_one, List.reverse_append]
  simp [List.getElem?_eq_getElem h, List.getD_eq_getElem?_getD]

theorem back1_spec (isSp : Nat → Bool) (s : Bytes) (hS : ∀ i, i < s.length → isSp i = ucIsSpace (s.getD i 0)) :
    ∀ (r f : Nat), r < s.length → r ≤ f →
      lastWord.back1 isSp f r = ((s.take (r + 1)).reverse.dropWhile ucIsSpace).length - 1 := by
  intro r
  induction r with
  | zero =>
    intro f h _
    rw [take_succ_reverse s 0 h]
    have : lastWord.back1 isSp f 0 = 0 := by
      cases f with
      | zero => rw [lastWord.back1]
      | succ f => rw [lastWord.back1]; simp
    rw [this]
    simp only [List.take_zero, List.reverse_nil, List.dropWhile_cons, List.dropWhile_nil]
    split <;> simp
  | succ r ih =>
    intro f h hf
    obtain ⟨f, rfl⟩ : ∃ g, f = g + 1 := ⟨f - 1, by omega⟩
    rw [lastWord.back1, take_succ_reverse s (r + 1) h, hS (r + 1) h]
    by_cases hsp : ucIsSpace (s.getD (r + 1) 0) = true
    · simp only [hsp, Bool.and_true, List.dropWhile_cons, if_true]
      rw [if_pos (by simp), Nat.add_sub_cancel, ih f (by omega) (by omega)]
    · simp only [hsp, Bool.and_false, Bool.false_eq_true, if_false, List.dropWhile_cons, List.length_cons,
        List.length_reverse, List.length_take]
      omega

theorem back2_spec (kindOf : Nat → Nat) (K : Nat) (s : Bytes) (hK : ∀ i, i < s.length → kindOf i = ucKind (s.getD i 0)) :
    ∀ (r f : Nat), r ≤ s.length → r ≤ f →
      lastWord.back2 kindOf K f r = ((s.take r).reverse.dropWhile (fun x => ucKind x == K)).length := by
  intro r
  induction r with
  | zero =>
    intro f _ _
    cases f with
    | zero => rw [lastWord.back2]; simp
    | succ f => rw [lastWord.back2]; simp
  | succ r ih =>
    intro f h hf
    obtain ⟨f, rfl⟩ : ∃ g, f = g + 1 := ⟨f - 1, by omega⟩
    rw [lastWord.back2, take_succ_reverse s r (by omega), Nat.add_sub_cancel, hK r (by omega)]
    by_cases hk : (ucKind (s.getD r 0) == K) = true
    · simp only [hk, Bool.and_true, List.dropWhile_cons, if_true]
      rw [if_pos (by simp), ih f (by omega) (by omega)]
    · simp only [hk, Bool.and_false, Bool.false_eq_true, if_false, List.dropWhile_cons, List.length_cons,
        List.length_reverse, List.length_take]
      omega

theorem reverse_dropWhile_eq (s : Bytes) (p : Nat → Bool) :
    s.reverse.dropWhile p = (s.take (s.reverse.dropWhile p).length).reverse := by
  have h := List.takeWhile_append_dropWhile (p := p) (l := s.reverse)
  have h2 : s = (s.reverse.dropWhile p).reverse ++ (s.reverse.takeWhile p).reverse := by
    have := congrArg List.reverse h
    rw [List.reverse_append, List.reverse_reverse] at this
    exact this.symm
  conv => rhs; rw [h2]
  rw [List.take_left' (by simp), List.reverse_reverse]

theorem chop_ascii (s : Bytes) (h : ∀ b ∈ s, 0 < b ∧ b < 128) :
    (ucChop s).dropLast.length = s.length ∧ ∀ i, i < s.length → (ucChop s).dropLast.getD i 0 = i := by
  have henc : encStr s = s := Uc.encStr_ascii (fun b hb => (h b hb).2)
  have hv : ∀ c ∈ s, ValidCp c := fun c hc => ⟨(h c hc).1, by have := (h c hc).2; omega⟩
  have hc := Props.C16.chop_spec hv
  rw [henc] at hc
  have hdl : (ucChop s).dropLast = (List.range s.length).map (byteOff s) := by
    rw [hc, List.range_succ, List.map_append, List.map_singleton, List.dropLast_concat]
  rw [hdl]
  refine ⟨by simp, ?_⟩
  intro i hi
  rw [List.getD_eq_getElem?_getD, List.getElem?_map, List.getElem?_range hi]
  simp only [Option.map_some, Option.getD_some]
  unfold byteOff
  rw [Uc.encStr_ascii (fun b hb => (h b (List.mem_of_mem_take hb)).2), List.length_take]
  omega

end Neatvi.Lemmas.C08b
