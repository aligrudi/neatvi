import NeatviVerif.Props.C08
import NeatviVerif.Props.C08b
/-!
# C08 (third part): what the three statements of `Props/C08c.lean` need: `ren_noeol` is monotone; for `r<CR>`
  (`Props.C08c.vcReplace_newline_spec`) `vi_char` on the newline key and the two lines the row splits into; the charwise
  delete / put round trip across several rows
-/
namespace Neatvi.Lemmas.C08c

section
open Neatvi Neatvi.Uc Neatvi.Vi Neatvi.Ex Neatvi.Lemmas.C08

/-- `ren_noeol` is monotone: the clamp is monotone, and after it two different offsets differ by
at least the one step `ren_noeol` may take back -/
theorem renNoeol_mono (ln : Bytes) (o1 o2 : Int) (h : o1 ≤ o2) : Ren.renNoeol ln o1 ≤ Ren.renNoeol ln o2 := by
  unfold Ren.renNoeol
  simp only []
  have hn : (0 : Int) ≤ ucSlen ln := by omega
  generalize (ucSlen ln : Int) = n at hn
  generalize hc1 : (if o1 ≥ n then max 0 (n - 1) else o1) = c1
  generalize hc2 : (if o2 ≥ n then max 0 (n - 1) else o2) = c2
  have hle : c1 ≤ c2 := by
    subst hc1 hc2
    repeat' split
    all_goals omega
  rcases Int.lt_or_eq_of_le hle with hlt | heq
  · repeat' split
    all_goals omega
  · subst heq
    exact Int.le_refl _

theorem noeol_mono (s : VS) (r o1 o2 : Int) (h : o1 ≤ o2) : noeol s r o1 ≤ noeol s r o2 := by
  unfold noeol
  split
  · simp only []
    repeat' split
    all_goals omega
  · exact renNoeol_mono _ _ _ h

theorem noeol_mono1 (s : VS) (r o1 o2 : Int) (h : o1 ≤ o2) : noeol s r o1 ≤ noeol s r o2 + 1 :=
  Int.le_trans (noeol_mono s r o1 o2 h) (Int.le_add_one (Int.le_refl _))

end

section
open Neatvi Neatvi.Uc Neatvi.Vi Neatvi.Ex Neatvi.Spec Neatvi.Lemmas.C08 Neatvi.Lemmas.C08b Neatvi.Lemmas.C09

/-- `vi_char()` on the newline key under the default keymap: the newline itself -/
theorem viChar_newline (s : VS) (rest : Bytes) (hp : pending s = 10 :: rest) (hk : s.xkmap = 0) :
    ∃ s', viChar s = Res.ok (some [10]) s' ∧ pending s' = rest ∧ Reads false [10] s s' := by
  obtain ⟨hgo, h2, h3⟩ := viChar_key s 10 rest hp hk (by omega) (by omega) (by omega) (by omega)
  rw [hgo, readCharS_plain 10 _ (by omega) (by omega) (by omega) (by omega)]
  exact ⟨_, rfl, h2, h3⟩

/-- the text that replaces the row splits into the two lines -/
theorem split_two (a b : List Nat) (ha : 10 ∉ a) (hb : 10 ∉ b) :
    Lbuf.splitLines (encStr a ++ [10] ++ encStr (b ++ [10])) = [encStr (a ++ [10]), encStr (b ++ [10])] := by
  have := Neatvi.Lemmas.C08d.split_rows [a, b] (by simpa using ⟨ha, hb⟩)
  simpa [encStr_append, enc_ten, encStr] using this

end

section
open Neatvi Neatvi.Uc Neatvi.Vi Neatvi.Ex Neatvi.Lbuf Neatvi.Spec Neatvi.Lemmas.C08

open Neatvi.Props.C08 in
/-- charwise across rows: `d` from character `n1` of row `r1` up to (not including) character `n2` of
row `r2 > r1` into the unnamed register, then `P`, restores the text.  Rows `r1` and `r2` are valid
UTF-8 (`body1`, `body2` and the newline), every line of the buffer is well formed; `n1` may be the
newline of row `r1`, `n2` is a character of `body2` (so the cursor of the joined line is on a character
and `ren_noeol` leaves it there). -/
theorem delete_put_roundtrip_char_multi (s s1 s2 : VS) (a b : Nat) (r1 r2 : Int) (n1 n2 : Nat)
    (body1 body2 : List Nat)
    (hwf : RegsWf s.ed.regs) (hy : s.ybuf = 0) (ha : s.arg1 ≤ 1)
    (h0 : 0 ≤ r1) (h12 : r1 < r2) (h2 : r2 < lenOf s)
    (hlines : ∀ l ∈ Vi.lines s, Props.C01.WfLine l)
    (hl1 : (Vi.lines s)[r1.toNat]? = some (encStr (body1 ++ [10])))
    (hl2 : (Vi.lines s)[r2.toNat]? = some (encStr (body2 ++ [10])))
    (hv1 : ∀ c ∈ body1, ValidCp c) (hv2 : ∀ c ∈ body2, ValidCp c) (h10a : 10 ∉ body1) (h10b : 10 ∉ body2)
    (hn1 : n1 ≤ body1.length) (hn2 : n2 < body2.length)
    (hd : viDelete r1 n1 r2 n2 false s = Res.ok a s1)
    (hp : vcPut 80 s1 = Res.ok b s2) :
    Vi.lines s2 = Vi.lines s ∧ s2.ed.xrow = r1 := by
  obtain ⟨-, t1⟩ := Neatvi.Lemmas.C08b.subI_line body1 hv1 n1 hn1
  obtain ⟨p2, -⟩ := Neatvi.Lemmas.C08b.subI_line body2 hv2 n2 (by omega)
  have hreg := Props.C08.lbufRegion_multi s r1 n1 r2 n2 (by omega) _ _
    (by rw [lineE_eq s r1 h0 _ hl1]; exact t1) (by rw [lineE_eq s r2 (by omega) _ hl2]; exact p2)
  have hL : lenOf s = ((Vi.lines s).length : Int) := rfl
  have hjoin : splitLines (encStr (body1.take n1) ++
      (encStr (body1.drop n1 ++ [10]) ++
        (((Vi.lines s).drop (r1 + 1).toNat).take (r2.toNat - (r1 + 1).toNat)).flatten ++ encStr (body2.take n2)) ++
      encStr (body2.drop n2 ++ [10])) = ((Vi.lines s).drop r1.toNat).take (r2.toNat - r1.toNat + 1) := by
    -- the rows `r1..r2` are row `r1`, the rows between and row `r2`; their bytes, regrouped
    have hsl := slice_split (Vi.lines s) r1.toNat r2.toNat _ _ (by omega) hl1 hl2
    rw [← Props.C01.split_of_join _ (rows_wf hlines r1.toNat (r2.toNat - r1.toNat) (by omega)).1, hsl,
      show (r1 + 1).toNat = r1.toNat + 1 by omega]
    congr 1
    simp only [List.flatten_append, List.flatten_cons, List.flatten_nil, List.append_nil, List.append_assoc]
    rw [← List.append_assoc (encStr (body1.take n1)), ← encStr_append, ← List.append_assoc (body1.take n1),
      List.take_append_drop]
    congr 2
    rw [← encStr_append, ← List.append_assoc, List.take_append_drop]
  obtain ⟨h1, h2', -⟩ := delete_put_char s s1 s2 a b r1 r2 n1 n2 body1 body2 _ hwf hy ha h0 (by omega) h2 hl1 hl2
    hv1 hv2 h10a h10b hn1 hn2 hreg (by rw [encStr_append, encStr_cons, enc_ten]; simp) hjoin hd hp
  exact ⟨h1, h2'⟩

end

end Neatvi.Lemmas.C08c
