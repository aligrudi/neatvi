import NeatviVerif.Lemmas.C08bInsert2
/-!
# C08 (insert mode): the vocabulary of an insertion of several typed lines

What the statements about `led_input` over typed lines are written in: the rest of the line after a newline (`dropB`),
typed lines that do not start with a blank (`PlainLine`), the state after the lines were read (`Typed`: keys consumed,
cursor some rows down, text and registers as before), the keys of the lines (`lineKeys`).  The loop itself is walked in
`Lemmas/C08eInput.lean`.
-/
set_option linter.unusedSimpArgs false
namespace Neatvi.Lemmas.C08d
open Neatvi Neatvi.Uc Neatvi.Vi Neatvi.Ex Neatvi.Spec Neatvi.Lemmas.C08 Neatvi.Lemmas.C08b Neatvi.Lemmas.C09

/-- the rest of the line after a newline, `xai` given as a flag -/
def dropB (b : Bool) (post : Bytes) : Bytes := post.drop (if b then (post.takeWhile isBlankC).length else 0)

theorem postAfterNl_eq (s : VS) (post : Bytes) : postAfterNl s post = dropB s.xai post := rfl

theorem takeWhile_dropWhile_nil {α : Type} (p : α → Bool) : ∀ (l : List α), (l.dropWhile p).takeWhile p = [] := by
  intro l
  induction l with
  | nil => rfl
  | cons x t ih =>
    by_cases hx : p x = true
    · simp only [List.dropWhile_cons, hx, if_true, ih]
    · simp only [List.dropWhile_cons, hx, if_false, Bool.false_eq_true, List.takeWhile_cons, hx]

/-- after a newline the rest of the line has lost its leading blanks: a second newline takes nothing more -/
theorem dropB_idem (b : Bool) (post : Bytes) : dropB b (dropB b post) = dropB b post := by
  unfold dropB
  cases b
  · rfl
  · simp only [if_true]
    rw [Basics.drop_takeWhile_length _ post, takeWhile_dropWhile_nil]
    rfl

/-- the text of a typed line that does not start with a blank -/
structure PlainLn (ln : Bytes) : Prop where
  tw : ln.takeWhile isBlankC = []
  pos : 0 < ln.length
  nl : nlCount ln = 0

theorem plainLn_enc (l : List Nat) (hl : ∀ c ∈ l, ValidCp c ∧ 32 ≤ c ∧ c ≠ 127)
    (hne : l.head? ≠ none ∧ l.head? ≠ some 32) : PlainLn (encStr l) := by
  obtain ⟨c, t, rfl⟩ : ∃ c t, l = c :: t := by
    cases l with
    | nil => exact absurd rfl hne.1
    | cons c t => exact ⟨c, t, rfl⟩
  have hc := hl c (by simp)
  refine ⟨takeWhile_blank_text c t hc.1 (fun h => hne.2 (by simp [h])) (by omega), ?_,
    nlCount_encStr (fun h => by have := hl 10 h; omega)⟩
  have := enc_length_pos c
  rw [encStr_cons, List.length_append]; omega

/-- the typed lines: valid code points, no control characters, not DEL; not empty and not starting with a
blank; within the loop bound -/
def PlainLine (l : List Nat) : Prop :=
  (∀ c ∈ l, ValidCp c ∧ 32 ≤ c ∧ c ≠ 127) ∧ (l.head? ≠ none ∧ l.head? ≠ some 32) ∧ l.length < 100000

instance (l : List Nat) : Decidable (PlainLine l) := by unfold PlainLine; exact inferInstance

/-- in particular lines without any blank (the hypothesis of `ledInput_multi_line_full`) -/
theorem plainLine_of_noblank {l : List Nat} (h : (∀ c ∈ l, ValidCp c ∧ 32 < c ∧ c ≠ 127) ∧ l ≠ [] ∧ l.length < 100000) :
    PlainLine l := by
  refine ⟨fun c hc => ?_, ?_, h.2.2⟩
  · have := h.1 c hc
    exact ⟨this.1, by omega, this.2.2⟩
  · cases l with
    | nil => exact absurd rfl h.2.1
    | cons c t =>
      have := h.1 c (by simp)
      refine ⟨by simp, ?_⟩
      simp only [List.head?_cons, ne_eq, Option.some.injEq]
      omega

theorem PlainLine.plainLn {l : List Nat} (h : PlainLine l) : PlainLn (encStr l) := plainLn_enc l h.1 h.2.1

/-! ### the state after typing lines -/

/-- `s'` is `s` after the keys `used` were read and the cursor went down `n` rows: the text, the registers
and everything outside the editor record and the key queue are the same -/
structure Typed (used : Bytes) (n : Nat) (s s' : VS) : Prop where
  frame : ReadsEd used s s'
  bufs : s'.ed.bufs = s.ed.bufs
  xrow : s'.ed.xrow = s.ed.xrow + (n : Int)
  regs : s'.ed.regs = s.ed.regs

theorem ReadsEd.xkmap {used : Bytes} {s s' : VS} (h : ReadsEd used s s') : s'.xkmap = s.xkmap := by
  obtain ⟨ib, ip, ty, hs⟩ := h
  rw [hs]

theorem ReadsEd.xai {used : Bytes} {s s' : VS} (h : ReadsEd used s s') : s'.xai = s.xai := by
  obtain ⟨ib, ip, ty, hs⟩ := h
  rw [hs]

theorem Typed.lb {used : Bytes} {n : Nat} {s s' : VS} (h : Typed used n s s') : s'.ed.lb = s.ed.lb := by
  unfold Ed.lb Ed.cur
  rw [h.bufs]

theorem Typed.lines {used : Bytes} {n : Nat} {s s' : VS} (h : Typed used n s s') : Vi.lines s' = Vi.lines s := by
  unfold Vi.lines
  rw [h.lb]

theorem Typed.of_reads {used : Bytes} {s s' : VS} (h : Reads true used s s') : Typed used 0 s s' :=
  ⟨h.readsEd, by rw [h.ed], by rw [h.xrow]; simp, by rw [h.ed]⟩

/-- reading a line, then `vi_nextline` -/
theorem Typed.nextline {used : Bytes} {s s1 : VS} (h : Reads true used s s1) : Typed used 1 s (nextlineSt s1) := by
  obtain ⟨edn, hen, hxn, hbn, hrn⟩ := nextlineSt_eq s1
  refine ⟨?_, ?_, ?_, ?_⟩
  · rw [hen]; exact (h.readsEd).withEd _
  · rw [hen]; show edn.bufs = _; rw [hbn, h.ed]
  · rw [hen]; show edn.xrow = _; rw [hxn, h.xrow]; rfl
  · rw [hen]; show edn.regs = _; rw [hrn, h.ed]

theorem Typed.trans {u1 u2 : Bytes} {n1 n2 : Nat} {s s1 s2 : VS} (h1 : Typed u1 n1 s s1) (h2 : Typed u2 n2 s1 s2) :
    Typed (u1 ++ u2) (n1 + n2) s s2 :=
  ⟨ReadsEd.trans h1.frame h2.frame, by rw [h2.bufs, h1.bufs], by rw [h2.xrow, h1.xrow]; simp only [Int.natCast_add]; omega,
    by rw [h2.regs, h1.regs]⟩

theorem pending_nextlineSt (s : VS) : pending (nextlineSt s) = pending s := by
  obtain ⟨edn, hen, -⟩ := nextlineSt_eq s
  rw [hen]; rfl

theorem xkmap_nextlineSt (s : VS) : (nextlineSt s).xkmap = s.xkmap := by
  obtain ⟨edn, hen, -⟩ := nextlineSt_eq s
  rw [hen]

/-! ### the keys of the typed lines -/

/-- the keys of the lines `ls` (each ended by a newline), the line `last` and ESC -/
def lineKeys (ls : List (List Nat)) (last : List Nat) : Bytes :=
  (ls.map (fun l => encStr l ++ [10])).flatten ++ encStr last ++ [27]

theorem lineKeys_nil (last : List Nat) : lineKeys [] last = encStr last ++ [27] := rfl

theorem lineKeys_cons (l : List Nat) (ls : List (List Nat)) (last : List Nat) :
    lineKeys (l :: ls) last = (encStr l ++ [10]) ++ lineKeys ls last := by
  simp only [lineKeys, List.map_cons, List.flatten_cons, List.append_assoc]

/-- the auto-indent goes from the front of each continuation line to the back of the line before it -/
theorem flatten_ai_shift (ai : Bytes) : ∀ (ls : List (List Nat)),
    (ls.map (fun l => ai ++ encStr l ++ [10])).flatten ++ ai = ai ++ (ls.map (fun l => encStr l ++ [10] ++ ai)).flatten := by
  intro ls
  induction ls with
  | nil => simp
  | cons l ls ih =>
    rw [List.map_cons, List.flatten_cons, List.map_cons, List.flatten_cons, List.append_assoc, ih]
    simp only [List.append_assoc]

/-- the rest of the line `led_input` leaves: untouched without a newline, else `postAfterNl` -/
def postOf (s : VS) (ls : List (List Nat)) (post : Bytes) : Bytes := if ls = [] then post else postAfterNl s post

end Neatvi.Lemmas.C08d
