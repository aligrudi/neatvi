import NeatviVerif.Lemmas.C08dInput
/-!
# C08 (insert mode): the rows of an insertion of lines that do not start with a blank

The rows `rowsOf` (every continuation row after the same auto-indent), and what holds of any list of rows written out
with their newlines: `lbuf` splits the text back into the rows (`split_rows`), `nlCount` counts them, `charcount` finds
the last one.  `Lemmas/C08eRows.lean` uses these for the general rows, `Lemmas/C08ePlain.lean` shows that those are
`rowsOf` here.
-/
namespace Neatvi.Lemmas.C08d
open Neatvi Neatvi.Uc Neatvi.Vi Neatvi.Ex Neatvi.Spec Neatvi.Lemmas.C08 Neatvi.Lemmas.C08b Neatvi.Lemmas.C09

/-! ### the rows an insertion produces, as characters -/

/-- the rows (without their newlines) that replace a line when the lines `ls`, `last` are typed between
the head `hd` and the tail `tail` of that line, every continuation row starting with the auto-indent `ai`:
`hd ++ l₀`, `ai ++ l₁`, …, `ai ++ last ++ tail` -/
def rowsOf (hd ai : List Nat) (ls : List (List Nat)) (last tail : List Nat) : List (List Nat) :=
  match ls with
  | [] => [hd ++ last ++ tail]
  | l :: ls' => (hd ++ l) :: (ls'.map (fun x => ai ++ x) ++ [ai ++ last ++ tail])

/-- what the last row starts with -/
def lastHd (hd ai : List Nat) (ls : List (List Nat)) : List Nat := if ls = [] then hd else ai

theorem rowsOf_length (hd ai : List Nat) (ls : List (List Nat)) (last tail : List Nat) :
    (rowsOf hd ai ls last tail).length = ls.length + 1 := by
  cases ls with
  | nil => rfl
  | cons l ls' => simp [rowsOf]

/-! ### encoding the rows -/

theorem encStr_ten : encStr [10] = [10] := rfl

theorem flatten_enc_rows : ∀ (rows : List (List Nat)),
    (rows.map (fun r => encStr (r ++ [10]))).flatten = encStr ((rows.map (fun r => r ++ [10])).flatten) := by
  intro rows
  induction rows with
  | nil => rfl
  | cons r rows ih =>
    rw [List.map_cons, List.flatten_cons, ih, List.map_cons, List.flatten_cons, encStr_append, encStr_append,
      encStr_append]

/-- `lbuf` splits the encoded text back into the rows -/
theorem split_rows (rows : List (List Nat)) (h10 : ∀ r ∈ rows, 10 ∉ r) :
    Lbuf.splitLines (encStr ((rows.map (fun r => r ++ [10])).flatten)) = rows.map (fun r => encStr (r ++ [10])) := by
  rw [← flatten_enc_rows]
  apply Props.C01.split_of_join
  intro l hl
  obtain ⟨r, hr, rfl⟩ := List.mem_map.mp hl
  exact wfLine_enc (h10 r hr)

theorem nlCount_rows : ∀ (rows : List (List Nat)), (∀ r ∈ rows, 10 ∉ r) →
    nlCount (encStr ((rows.map (fun r => r ++ [10])).flatten)) = rows.length := by
  intro rows
  induction rows with
  | nil => intro _; rfl
  | cons r rows ih =>
    intro h
    rw [List.map_cons, List.flatten_cons, encStr_append, encStr_append, nlCount_append, nlCount_append,
      nlCount_encStr (h r (by simp)), ih (fun r' hr' => h r' (by simp [hr'])), encStr_ten, nlCount_ten, List.length_cons]
    omega

theorem flat_rows_end (init : List (List Nat)) :
    (init.map (fun r => r ++ [10])).flatten = [] ∨ ∃ hd, (init.map (fun r => r ++ [10])).flatten = hd ++ [10] := by
  rcases List.eq_nil_or_concat init with rfl | ⟨init', y, rfl⟩
  · exact Or.inl rfl
  · refine Or.inr ⟨(init'.map (fun r => r ++ [10])).flatten ++ y, ?_⟩
    simp only [List.concat_eq_append, List.map_append, List.flatten_append, List.map_cons, List.map_nil,
      List.flatten_cons, List.flatten_nil, List.append_nil, List.append_assoc]

/-- `charcount` on the rows: the characters of the last row before the tail -/
theorem charcount_rows (init : List (List Nat)) (x tail : List Nat) (hx : ∀ c ∈ x, ValidCp c) (ht : ∀ c ∈ tail, ValidCp c)
    (hx10 : 10 ∉ x) :
    charcount (encStr (((init ++ [x ++ tail]).map (fun r => r ++ [10])).flatten)) (encStr (tail ++ [10])) = x.length := by
  have e : ((init ++ [x ++ tail]).map (fun r => r ++ [10])).flatten =
      (init.map (fun r => r ++ [10])).flatten ++ x ++ (tail ++ [10]) := by
    simp only [List.map_append, List.flatten_append, List.map_cons, List.map_nil, List.flatten_cons, List.flatten_nil,
      List.append_nil, List.append_assoc]
  rw [e]
  rcases flat_rows_end init with h | ⟨hd, h⟩
  · rw [h, List.nil_append, encStr_append]
    exact charcount_enc hx (valid_snoc_ten ht) hx10
  · rw [h, encStr_append, encStr_append, encStr_append, encStr_ten]
    exact charcount_two hx (valid_snoc_ten ht) hx10

/-! ### the tail of the line -/

/-- the tail of the line after the insertion: untouched without a newline, else without its leading blanks
when `autoindent` is set (`postCp`) -/
def tailOf (s : VS) (ls : List (List Nat)) (qs' : List Nat) : List Nat := if ls = [] then qs' else postCp s qs'

theorem postOf_enc (s : VS) (ls : List (List Nat)) (qs' : List Nat) (hqs : ∀ c ∈ qs', ValidCp c) :
    postOf s ls (encStr (qs' ++ [10])) = encStr (tailOf s ls qs' ++ [10]) := by
  unfold postOf tailOf
  split
  · rfl
  · rw [postAfterNl_enc s _ (valid_snoc_ten hqs), postCp_snoc]

theorem PlainLine.pos {l : List Nat} (h : PlainLine l) : 0 < l.length := by
  cases l with
  | nil => exact absurd rfl h.2.1.1
  | cons c t => simp

/-- the rows as buffer lines -/
def rowLines (rows : List (List Nat)) : List Bytes := rows.map (fun r => encStr (r ++ [10]))

theorem Typed.readsEd_lb {used : Bytes} {n : Nat} {s s' : VS} (h : Typed used n s s') (L : Bytes) (k : Nat)
    (hl : (Vi.lines s)[k]? = some L) : ∃ lb, s'.ed.lb = some lb :=
  lb_of_line s' k L (by rw [h.lines]; exact hl)

end Neatvi.Lemmas.C08d
