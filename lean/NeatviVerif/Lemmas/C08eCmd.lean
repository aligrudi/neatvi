import NeatviVerif.Lemmas.C08ePlain
/-!
# C08 (insert mode): `i a I A o O` and `c` followed by arbitrary typed lines

One theorem for `i a I A` over the command letter (`vcInsert_lines_at`: the cut offset is `Lemmas.C08b.insOff`), one
for `o O` over the row (`openTail_lines_at`), one for character-wise `c` over any rows `r1 ≤ r2` (`viChange_char_lines`);
then `i a I A` for lines that do not start with a blank, with the rows
`rowsOf` (`vcInsert_lines_at_plain`).
-/
namespace Neatvi.Lemmas.C08e
open Neatvi Neatvi.Uc Neatvi.Vi Neatvi.Ex Neatvi.Spec Neatvi.Lemmas.C08 Neatvi.Lemmas.C08b Neatvi.Lemmas.C09
open Neatvi.Lemmas.C08d

theorem vcInsert_lines_at (cmd : Nat) (hcmd : cmd = 105 ∨ cmd = 97 ∨ cmd = 73 ∨ cmd = 65) (s : VS) (body : List Nat)
    (off : Nat) (ls : List (List Nat)) (last : List Nat) (K rest : Bytes)
    (hr0 : 0 ≤ s.ed.xrow) (hline : (lines s)[s.ed.xrow.toNat]? = some (encStr (body ++ [10])))
    (hb : ∀ c ∈ body, ValidCp c) (hb10 : 10 ∉ body)
    (hoff : Lemmas.C08b.insOff cmd s (encStr (body ++ [10])) = (off : Int)) (hle : off ≤ body.length)
    (hin : InputsL K ls last) (hp : pending s = K ++ rest) (hk : s.xkmap = 0) :
    ∃ s', vcInsert cmd s = Res.ok VC_OK s' ∧ pending s' = rest ∧
      Inserted K s s' s.ed.xrow
        (rowLines (rowsG s.xai (hdRest (body.take off)) (aiRaw (body.take off)) ls last (body.drop off))) 1
        (s.ed.xrow + (ls.length : Int))
        (offG (lastPreG s.xai (hdRest (body.take off)) (aiRaw (body.take off)) ls last (body.drop off)).length) := by
  rw [vcInsert_cut cmd hcmd s body off hr0 hline hb hoff hle]
  exact insertTail_lines_at_gen s _ body off ls last K rest hr0 hline hb hb10 hin hp hk

/-- `row`: the cursor row of `s` for `O`, the one below it for `o` -/
theorem openTail_lines_at (s : VS) (ed1 : Ed) (row : Int) (ind : List Nat) (ls : List (List Nat)) (last : List Nat)
    (K rest : Bytes) (L : Bytes)
    (hr0 : 0 ≤ s.ed.xrow) (hline : (Vi.lines s)[s.ed.xrow.toNat]? = some L)
    (hb1 : ed1.bufs = s.ed.bufs) (hr1 : ed1.regs = s.ed.regs) (hx : ed1.xrow = row)
    (hrow : row = s.ed.xrow ∨ row = s.ed.xrow + 1) (hi : ∀ c ∈ ind, ValidCp c) (hi10 : 10 ∉ ind)
    (hin : InputsL K ls last) (hp : pending s = K ++ rest) (hk : s.xkmap = 0) :
    ∃ s', openTail (encStr ind) { s with ed := ed1 } = Res.ok VC_OK s' ∧ pending s' = rest ∧
      Inserted K s s' row (rowLines (rowsG s.xai (hdRest ind) (aiRaw ind) ls last [])) 0
        (row + (ls.length : Int)) (offG (lastPreG s.xai (hdRest ind) (aiRaw ind) ls last []).length) := by
  obtain ⟨lb, hlb⟩ := lb_of_line s _ _ hline
  have hrlt : s.ed.xrow.toNat < (Vi.lines s).length := (List.getElem?_eq_some_iff.mp hline).1
  have hl : lenOf { s with ed := ed1 } = ((Vi.lines s).length : Int) := by unfold lenOf; rw [lines_of_bufs s ed1 hb1]
  subst hx
  obtain ⟨s', h1, h2, h3⟩ := openTail_lines_gen ind { s with ed := ed1 } ls last K rest lb ((lb_of_bufs s ed1 hb1).trans hlb)
    (by show 0 ≤ ed1.xrow; omega) (by rw [hl]; show ed1.xrow ≤ _; omega) (by rw [hl]; omega) hi hi10 hin hp hk
  exact ⟨s', h1, h2, h3.of_ed hb1 hr1⟩

theorem vcInsert_o_lines (s : VS) (body : List Nat) (ls : List (List Nat)) (last : List Nat) (K rest : Bytes)
    (hr0 : 0 ≤ s.ed.xrow) (hline : (lines s)[s.ed.xrow.toNat]? = some (encStr (body ++ [10])))
    (hb : ∀ c ∈ body, ValidCp c) (hb10 : 10 ∉ body)
    (hin : InputsL K ls last) (hp : pending s = K ++ rest) (hk : s.xkmap = 0) :
    ∃ s', vcInsert 111 s = Res.ok VC_OK s' ∧ pending s' = rest ∧
      Inserted K s s' (s.ed.xrow + 1)
        (rowLines (rowsG s.xai (hdRest (indentOf s body)) (aiRaw (indentOf s body)) ls last [])) 0
        (s.ed.xrow + 1 + (ls.length : Int))
        (offG (lastPreG s.xai (hdRest (indentOf s body)) (aiRaw (indentOf s body)) ls last []).length) := by
  obtain ⟨hi, hi10⟩ := indentOf_valid s body hb hb10
  rw [vcInsert_o_red s _ (lineOf_of_get s _ _ hr0 hline), viIndents_line s body hb]
  obtain ⟨ed1, he1, hx1, hb1, hr1⟩ := nextlineSt_eq { s with ed := { s.ed with xoff := Ren.renNoeol (encStr (body ++ [10])) s.ed.xoff } }
  rw [he1]
  exact openTail_lines_at s ed1 _ (indentOf s body) ls last K rest _ hr0 hline hb1 hr1 hx1 (Or.inr rfl) hi hi10 hin hp hk

theorem vcInsert_O_lines (s : VS) (body : List Nat) (ls : List (List Nat)) (last : List Nat) (K rest : Bytes)
    (hr0 : 0 ≤ s.ed.xrow) (hline : (lines s)[s.ed.xrow.toNat]? = some (encStr (body ++ [10])))
    (hb : ∀ c ∈ body, ValidCp c) (hb10 : 10 ∉ body)
    (hin : InputsL K ls last) (hp : pending s = K ++ rest) (hk : s.xkmap = 0) :
    ∃ s', vcInsert 79 s = Res.ok VC_OK s' ∧ pending s' = rest ∧
      Inserted K s s' s.ed.xrow
        (rowLines (rowsG s.xai (hdRest (indentOf s body)) (aiRaw (indentOf s body)) ls last [])) 0
        (s.ed.xrow + (ls.length : Int))
        (offG (lastPreG s.xai (hdRest (indentOf s body)) (aiRaw (indentOf s body)) ls last []).length) := by
  obtain ⟨hi, hi10⟩ := indentOf_valid s body hb hb10
  rw [vcInsert_O_red s _ (lineOf_of_get s _ _ hr0 hline), viIndents_line s body hb]
  exact openTail_lines_at s _ _ (indentOf s body) ls last K rest _ hr0 hline rfl rfl rfl (Or.inl rfl) hi hi10 hin hp hk

/-- `Inserted` is stated from the state with the register already set (to the region, in character mode) -/
theorem viChange_char_lines (s : VS) (r1 r2 : Int) (b1 b2 : List Nat) (o1 o2 : Nat) (region : Bytes)
    (ls : List (List Nat)) (last : List Nat) (K rest : Bytes) (hr0 : 0 ≤ r1) (hr12 : r1 ≤ r2)
    (hl1 : (lines s)[r1.toNat]? = some (encStr (b1 ++ [10]))) (hl2 : (lines s)[r2.toNat]? = some (encStr (b2 ++ [10])))
    (hb1 : ∀ c ∈ b1, ValidCp c) (hb2 : ∀ c ∈ b2, ValidCp c) (h10a : 10 ∉ b1) (h10b : 10 ∉ b2)
    (ho1 : o1 ≤ b1.length) (ho2 : o2 ≤ b2.length) (hreg : lbufRegion s r1 o1 r2 o2 = some region)
    (hin : InputsL K ls last) (hp : pending s = K ++ rest) (hk : s.xkmap = 0) :
    ∃ s', viChange r1 o1 r2 o2 false s = Res.ok VC_OK s' ∧ pending s' = rest ∧
      s'.ed.regs = s.ed.regs.put s.ybuf region 0 ∧
      Inserted K { s with ed := { s.ed with regs := s.ed.regs.put s.ybuf region 0 } } s' r1
        (rowLines (rowsG s.xai (hdRest (b1.take o1)) (aiRaw (b1.take o1)) ls last (b2.drop o2)))
        (r2.toNat - r1.toNat + 1) (r1 + (ls.length : Int))
        (offG (lastPreG s.xai (hdRest (b1.take o1)) (aiRaw (b1.take o1)) ls last (b2.drop o2)).length) := by
  have hr2 : 0 ≤ r2 := by omega
  obtain ⟨lb, hlb⟩ := lb_of_line s _ _ hl1
  have hrlt : r2.toNat < (lines s).length := (List.getElem?_eq_some_iff.mp hl2).1
  rw [viChange_char_red r1 o1 r2 o2 s _ _ _ _ hreg (by rw [lineE_eq s r1 hr0 _ hl1]; exact (subI_line b1 hb1 o1 ho1).1)
    (lineOf_of_get s _ _ hr2 hl2) (by rw [lineE_eq s r2 hr2 _ hl2]; exact (subI_line b2 hb2 o2 ho2).2)]
  obtain ⟨s', h1, h2, h3⟩ := changeTail_lines (b1.take o1) (b2.drop o2)
    { s with ed := { s.ed with regs := s.ed.regs.put s.ybuf region 0 } } r1 r2 ls last K rest lb hlb
    hr0 hr12 (by show r2 < ((lines s).length : Int); omega)
    (fun d hd => hb1 d (List.mem_of_mem_take hd)) (fun d hd => hb2 d (List.mem_of_mem_drop hd))
    (fun h => h10a (List.mem_of_mem_take h)) (fun h => h10b (List.mem_of_mem_drop h)) hin hp hk
  exact ⟨s', h1, h2, h3.regs, h3⟩

theorem vcInsert_lines_at_plain (cmd : Nat) (hcmd : cmd = 105 ∨ cmd = 97 ∨ cmd = 73 ∨ cmd = 65) (s : VS) (body : List Nat)
    (off : Nat) (ls : List (List Nat)) (last : List Nat) (rest : Bytes)
    (hr0 : 0 ≤ s.ed.xrow) (hline : (lines s)[s.ed.xrow.toNat]? = some (encStr (body ++ [10])))
    (hb : ∀ c ∈ body, ValidCp c) (hb10 : 10 ∉ body)
    (hoff : Lemmas.C08b.insOff cmd s (encStr (body ++ [10])) = (off : Int)) (hle : off ≤ body.length)
    (hp : pending s = lineKeys ls last ++ rest) (hpl : ∀ l ∈ last :: ls, PlainLine l)
    (hlen : ls.length < 100000) (hk : s.xkmap = 0) :
    ∃ s', vcInsert cmd s = Res.ok VC_OK s' ∧ pending s' = rest ∧
      Inserted (lineKeys ls last) s s' s.ed.xrow
        (rowLines (rowsOf (body.take off) (aiCp s (body.take off)) ls last (tailOf s ls (body.drop off)))) 1
        (s.ed.xrow + (ls.length : Int))
        (((lastHd (body.take off) (aiCp s (body.take off)) ls).length : Int) + last.length - 1) := by
  have h := vcInsert_lines_at cmd hcmd s body off ls last _ rest hr0 hline hb hb10 hoff hle
    (inputsL_lines ls last (fun l hl => tline_of_plain (hpl l hl)) hlen) hp hk
  rwa [rowsG_plain s _ ls last _ hpl, offG_plain s _ ls last _ hpl] at h

end Neatvi.Lemmas.C08e
