import NeatviVerif.Lemmas.C08dInput
/-!
# C08 (insert mode): `led_input` over typed lines that may be empty or start with blanks

The loop of `led_input` one iteration at a time for an arbitrary typed line (`loop_step_nl_gen`,
`loop_step_end_gen`), the text it builds as a recursive function of the typed lines (`loopText`, with the
auto-indent threaded through by `aiNext`), then the loop over the lines (`loop_lines_gen`) and `led_input`
itself (`ledInput_lines_gen`); `InputsL K ls last` says of any keys `K` what `ledInput_lines_gen` says of the typed lines
themselves, and is what the theorems about `vi_input` and the commands take.  Last, the text for lines that do not
start with a blank (`inputTextB_plain`, `Lemmas.C08d.ledInput_lines`).
-/
set_option linter.unusedSimpArgs false
namespace Neatvi.Lemmas.C08e
open Neatvi Neatvi.Uc Neatvi.Vi Neatvi.Ex Neatvi.Spec Neatvi.Lemmas.C08 Neatvi.Lemmas.C08b Neatvi.Lemmas.C09
open Neatvi.Lemmas.C08d

/-! ### the typed keys -/

/-- a key that types itself: a valid code point that is not a control character other than TAB, not DEL -/
def TKey (c : Nat) : Prop := ValidCp c ∧ (32 ≤ c ∨ c = 9) ∧ c ≠ 127

/-- a typed line: such keys (blanks and tabs anywhere, the line may be empty), within the bound of the
model's loop -/
def TLine (l : List Nat) : Prop := (∀ c ∈ l, TKey c) ∧ l.length < 100000

instance (c : Nat) : Decidable (TKey c) := by unfold TKey ValidCp; exact inferInstance
instance (l : List Nat) : Decidable (TLine l) := by unfold TLine; exact inferInstance

theorem TLine.valid {l : List Nat} (h : TLine l) : ∀ c ∈ l, ValidCp c := fun c hc => (h.1 c hc).1
theorem TLine.no10 {l : List Nat} (h : TLine l) : 10 ∉ l := fun hc => by
  have := h.1 10 hc
  rcases this.2.1 with h | h <;> omega

theorem tline_of_plain {l : List Nat} (h : PlainLine l) : TLine l :=
  ⟨fun c hc => ⟨(h.1 c hc).1, Or.inl (h.1 c hc).2.1, (h.1 c hc).2.2⟩, h.2.2⟩

theorem ledLine_tline (pref post ai : Bytes) (s : VS) (l : List Nat) (e : Nat) (rest : Bytes)
    (hp : pending s = encStr l ++ e :: rest) (hl : TLine l) (he : e = 10 ∨ e = 27) (hk : s.xkmap = 0) :
    ∃ s1, ledLine pref post ai 127 true false s = Res.ok (encStr l, (e : Int), ai) s1 ∧ pending s1 = rest ∧
      Reads true (encStr l ++ [e]) s s1 :=
  ledLine_text pref post ai 127 true false s l e rest hp
    (fun c hc => (hl.1 c hc).2.1.imp (fun h => ⟨(hl.1 c hc).1, h, (hl.1 c hc).2.2⟩) id) (he.imp_right Or.inl) hl.2 hk

/-! ### one iteration of the loop of `led_input` -/

/-- the leading blanks (spaces, tabs) of a typed line -/
def lnBlanks (ln : Bytes) : Bytes := ln.takeWhile isBlankC

/-- is there text before the insertion point on this line (`pref && *pref`)? -/
def pneOf (pref : Option Bytes) : Bool := match pref with | some p => !p.isEmpty | none => false

/-- does something other than the newline follow the insertion point? -/
def postNE (post : Bytes) : Bool := !post.isEmpty && post.headD 0 != 10

/-- is the auto-indent written in front of the typed line `ln`?  Not when the line is blank (empty, or
blanks only), nothing precedes it, and (`lastNE`) it is not the last line in front of further text -/
def keepB (pne lastNE : Bool) (ln : Bytes) : Bool := decide ((lnBlanks ln).length < ln.length) || pne || lastNE

/-- the auto-indent of the next line: with `autoindent`, the current one followed by the leading blanks of
the line just typed, as far as 127 bytes allow (unchanged when the line followed a non-empty prefix);
nothing without `autoindent` -/
def aiNext (xai pne : Bool) (ai ln : Bytes) : Bytes :=
  if !xai then [] else if pne then ai else ai ++ (lnBlanks ln).take (127 - ai.length)

theorem take_min_blanks (ln : Bytes) (k : Nat) :
    ln.take (min (ln.takeWhile isBlankC).length k) = (lnBlanks ln).take k := by
  unfold lnBlanks
  rw [Nat.min_comm, ← List.take_take]
  congr 1
  exact (List.prefix_iff_eq_take.mp (List.takeWhile_prefix _)).symm

theorem loop_step_nl_gen (b : Bool) (f : Nat) (sb : Bytes) (pref : Option Bytes) (post ai ln : Bytes) (s s1 : VS)
    (hn : nlCount ln = 0)
    (hL : ledLine (pref.getD []) post ai 127 true false s = Res.ok (ln, ((10 : Nat) : Int), ai) s1) :
    ledInput.loop b (f + 1) sb pref post ai s =
      ledInput.loop b f (sb ++ (if keepB (pneOf pref) false ln then ai else []) ++ pref.getD [] ++ ln ++ [10]) none
        (dropB b post) (aiNext b (pneOf pref) ai ln) (nextlineSt s1) := by
  have hai : ∀ (p : Bool), (if (!b) = true then [] else
      if (!p) = true then ai ++ List.take (min (ln.takeWhile isBlankC).length (127 - ai.length)) ln else ai) =
        aiNext b p ai ln := by
    intro p
    unfold aiNext
    rw [take_min_blanks]
    cases b <;> cases p <;> simp
  have hif : ∀ c : Bool, (if c = true then sb ++ ai else sb) = sb ++ (if c = true then ai else []) := by
    intro c; cases c <;> simp
  conv =>
    lhs
    unfold ledInput.loop
  simp only [bind_apply, hL, hn, show ((((10 : Nat) : Int)) == 10) = true from rfl,
    show ((((10 : Nat) : Int)) != 10) = false from rfl, if_true,
    Vi.repeatM, viNextlineR_apply, pure_apply, Bool.false_eq_true, if_false, Nat.zero_add, hai, Bool.false_and,
    Bool.or_false, keepB, lnBlanks, hif, List.append_nil, List.append_assoc]
  rfl

theorem loop_step_end_gen (b : Bool) (f : Nat) (sb : Bytes) (pref : Option Bytes) (post ai ln : Bytes) (s s1 : VS)
    (hn : nlCount ln = 0)
    (hL : ledLine (pref.getD []) post ai 127 true false s = Res.ok (ln, ((27 : Nat) : Int), ai) s1) :
    ledInput.loop b (f + 1) sb pref post ai s =
      Res.ok (sb ++ (if keepB (pneOf pref) (postNE post) ln then ai else []) ++ pref.getD [] ++ ln ++ post, post) s1 := by
  have hif : ∀ c : Bool, (if c = true then sb ++ ai else sb) = sb ++ (if c = true then ai else []) := by
    intro c; cases c <;> simp
  rw [ledInput_loop_end b f sb pref post ai s s1 ln ai 27 hL (by decide) hn, hif]
  cases pref <;> rfl

/-! ### the loop over the typed lines -/

/-- the text the loop of `led_input` builds from an iteration on: `pref` is what `led_line` shows before the
typed text (`some` on the first line only), `post` the rest of the line, `ai` the auto-indent in force, `ls`
the typed lines that end with a newline, `last` the line ended by ESC.  Each typed line is written after the
auto-indent (unless `keepB` drops it) and the prefix; then the auto-indent is updated (`aiNext`) and the rest
of the line loses its leading blanks (`dropB`, with `autoindent`). -/
def loopText (b : Bool) : Option Bytes → Bytes → Bytes → List Bytes → Bytes → Bytes
  | pref, post, ai, [], last =>
    (if keepB (pneOf pref) (postNE post) last then ai else []) ++ pref.getD [] ++ last ++ post
  | pref, post, ai, l :: ls, last =>
    (if keepB (pneOf pref) false l then ai else []) ++ pref.getD [] ++ l ++ [10] ++
      loopText b none (dropB b post) (aiNext b (pneOf pref) ai l) ls last

theorem loop_lines_gen (b : Bool) (last : List Nat) (rest : Bytes) (hlast : TLine last) :
    ∀ (ls : List (List Nat)) (f : Nat) (sb : Bytes) (pref : Option Bytes) (post ai : Bytes) (s : VS),
      pending s = lineKeys ls last ++ rest → (∀ l ∈ ls, TLine l) → ls.length < f → s.xkmap = 0 →
      ∃ s', ledInput.loop b f sb pref post ai s =
          Res.ok (sb ++ loopText b pref post ai (ls.map encStr) (encStr last),
            if ls = [] then post else dropB b post) s' ∧
        pending s' = rest ∧ Typed (lineKeys ls last) ls.length s s' := by
  intro ls
  induction ls with
  | nil =>
    intro f sb pref post ai s hp _ hf hk
    obtain ⟨f, rfl⟩ : ∃ g, f = g + 1 := ⟨f - 1, by simp at hf; omega⟩
    obtain ⟨s1, h1, h2, h3⟩ := ledLine_tline (pref.getD []) post ai s last 27 rest
      (by rw [hp, lineKeys_nil]; simp) hlast (Or.inr rfl) hk
    refine ⟨s1, ?_, h2, ?_⟩
    · rw [loop_step_end_gen b f sb pref post ai _ s s1 (nlCount_encStr hlast.no10) h1]
      simp only [loopText, List.map_nil, if_true, List.append_assoc]
    · rw [lineKeys_nil]; exact Typed.of_reads h3
  | cons l ls ih =>
    intro f sb pref post ai s hp hls hf hk
    obtain ⟨f, rfl⟩ : ∃ g, f = g + 1 := ⟨f - 1, by simp at hf; omega⟩
    have hl := hls l (by simp)
    obtain ⟨s1, h1, h2, h3⟩ := ledLine_tline (pref.getD []) post ai s l 10 (lineKeys ls last ++ rest)
      (by rw [hp, lineKeys_cons]; simp) hl (Or.inl rfl) hk
    obtain ⟨s', h4, h5, h6⟩ := ih f
      (sb ++ (if keepB (pneOf pref) false (encStr l) then ai else []) ++ pref.getD [] ++ encStr l ++ [10]) none
      (dropB b post) (aiNext b (pneOf pref) ai (encStr l)) (nextlineSt s1)
      (by rw [pending_nextlineSt, h2]) (fun l' hl' => hls l' (by simp [hl'])) (by simp at hf; omega)
      (by rw [xkmap_nextlineSt]; have := h3.kmap false; simpa [hk] using this)
    refine ⟨s', ?_, h5, ?_⟩
    · rw [loop_step_nl_gen b f sb pref post ai _ s s1 (nlCount_encStr hl.no10) h1, h4, dropB_idem]
      simp only [loopText, List.map_cons, List.append_assoc, ite_self, reduceCtorEq, if_false]
    · have := (Typed.nextline h3).trans h6
      rw [lineKeys_cons, List.length_cons, Nat.add_comm]
      exact this

/-- the text `led_input` returns for the typed lines `ls`, `last` (as bytes) -/
def inputTextB (xai : Bool) (pref post : Bytes) (ls : List Bytes) (last : Bytes) : Bytes :=
  loopText xai (some (prefRest pref)) post (aiOf pref) ls last

/-- **`led_input` over typed lines that may be empty or start with blanks** -/
theorem ledInput_lines_gen (pref post : Bytes) (s : VS) (ls : List (List Nat)) (last : List Nat) (rest : Bytes)
    (hp : pending s = lineKeys ls last ++ rest) (hpl : ∀ l ∈ last :: ls, TLine l)
    (hlen : ls.length < 100000) (hk : s.xkmap = 0) :
    ∃ s', ledInput pref post s =
        Res.ok (inputTextB s.xai pref post (ls.map encStr) (encStr last), postOf s ls post) s' ∧
      pending s' = rest ∧ Typed (lineKeys ls last) ls.length s s' := by
  have hunf : ledInput pref post s = ledInput.loop s.xai 100000 [] (some (prefRest pref)) post (aiOf pref) s := rfl
  rw [hunf]
  obtain ⟨s', h1, h2, h3⟩ := loop_lines_gen s.xai last rest (hpl last (by simp)) ls 100000 [] (some (prefRest pref)) post
    (aiOf pref) s hp (fun l hl => hpl l (by simp [hl])) hlen hk
  refine ⟨s', ?_, h2, h3⟩
  rw [h1]
  simp only [List.nil_append, inputTextB, postOf, postAfterNl_eq]

/-- **the keys `K` type the lines `ls` (each ended by a newline) and `last`, and leave insert mode**: the lines are valid
code points without a newline, and on any state whose pending keys start with `K` (default keymap) `led_input` consumes
exactly `K`, returns the text of those lines between the prefix and the rest of the line, and moves the cursor down one
row per newline -/
structure InputsL (K : Bytes) (ls : List (List Nat)) (last : List Nat) : Prop where
  valid : ∀ l ∈ last :: ls, ∀ c ∈ l, ValidCp c
  no10 : ∀ l ∈ last :: ls, 10 ∉ l
  run : ∀ (pref post : Bytes) (s : VS) (rest : Bytes), pending s = K ++ rest → s.xkmap = 0 →
    ∃ s', ledInput pref post s =
        Res.ok (inputTextB s.xai pref post (ls.map encStr) (encStr last), postOf s ls post) s' ∧
      pending s' = rest ∧ Typed K ls.length s s'

theorem inputsL_lines (ls : List (List Nat)) (last : List Nat) (hpl : ∀ l ∈ last :: ls, TLine l)
    (hlen : ls.length < 100000) : InputsL (lineKeys ls last) ls last :=
  ⟨fun l hl => (hpl l hl).valid, fun l hl => (hpl l hl).no10,
    fun pref post s rest hp hk => ledInput_lines_gen pref post s ls last rest hp hpl hlen hk⟩

theorem inputsL_of_inputs {K : Bytes} {cs : List Nat} (h : Inputs K cs) (hv : ∀ c ∈ cs, ValidCp c) (h10 : 10 ∉ cs) :
    InputsL K [] cs := by
  refine ⟨fun l hl => ?_, fun l hl => ?_, fun pref post s rest hp hk => ?_⟩
  · rw [List.mem_singleton.mp hl]; exact hv
  · rw [List.mem_singleton.mp hl]; exact h10
  · obtain ⟨s', h1, h2, h3⟩ := h pref post s rest hp hk
    exact ⟨s', h1, h2, Typed.of_reads h3⟩

/-! ### the auto-indent as a function of the typed lines -/

/-- the auto-indent in force after the typed lines `ls` (the first of them typed after a prefix that is
non-empty iff `pne`) -/
def aiAfter (xai : Bool) : Bool → Bytes → List Bytes → Bytes
  | _, ai, [] => ai
  | pne, ai, l :: ls => aiAfter xai false (aiNext xai pne ai l) ls

/-- the auto-indents in force when each of the typed lines `ls` is read, and after the last of them -/
def aiSeq (xai : Bool) : Bool → Bytes → List Bytes → List Bytes
  | _, ai, [] => [ai]
  | pne, ai, l :: ls => ai :: aiSeq xai false (aiNext xai pne ai l) ls

theorem aiSeq_length (xai : Bool) : ∀ (ls : List Bytes) (pne : Bool) (ai : Bytes),
    (aiSeq xai pne ai ls).length = ls.length + 1 := by
  intro ls
  induction ls with
  | nil => intro pne ai; rfl
  | cons l ls ih => intro pne ai; simp [aiSeq, ih]

theorem aiSeq_getLast (xai : Bool) : ∀ (ls : List Bytes) (pne : Bool) (ai : Bytes),
    (aiSeq xai pne ai ls).getLast? = some (aiAfter xai pne ai ls) := by
  intro ls
  induction ls with
  | nil => intro pne ai; rfl
  | cons l ls ih =>
    intro pne ai
    have := ih false (aiNext xai pne ai l)
    cases h : aiSeq xai false (aiNext xai pne ai l) ls with
    | nil => rw [h] at this; simp at this
    | cons x xs =>
      rw [h] at this
      simp only [aiSeq, aiAfter, h, List.getLast?_cons_cons]
      exact this

theorem aiSeq_getElem (xai : Bool) : ∀ (ls : List Bytes) (pne : Bool) (ai : Bytes) (k : Nat), k ≤ ls.length →
    (aiSeq xai pne ai ls)[k]? = some (aiAfter xai pne ai (ls.take k)) := by
  intro ls
  induction ls with
  | nil => intro pne ai k hk; simp at hk; subst hk; rfl
  | cons l ls ih =>
    intro pne ai k hk
    cases k with
    | zero => rfl
    | succ k =>
      simp only [aiSeq, List.getElem?_cons_succ, List.take_succ_cons, aiAfter]
      exact ih false _ k (by simpa using hk)

/-- **the 127-byte clamp**: the auto-indent never exceeds 127 bytes -/
theorem aiNext_length (xai pne : Bool) (ai ln : Bytes) (h : ai.length ≤ 127) : (aiNext xai pne ai ln).length ≤ 127 := by
  unfold aiNext
  split
  · simp
  · split
    · exact h
    · rw [List.length_append, List.length_take]; omega

theorem aiOf_length (pref : Bytes) : (aiOf pref).length ≤ 127 := by
  unfold aiOf
  rw [List.length_take]; omega

theorem aiAfter_length (xai : Bool) : ∀ (ls : List Bytes) (pne : Bool) (ai : Bytes), ai.length ≤ 127 →
    (aiAfter xai pne ai ls).length ≤ 127 := by
  intro ls
  induction ls with
  | nil => intro pne ai h; exact h
  | cons l ls ih => intro pne ai h; exact ih false _ (aiNext_length xai pne ai l h)

/-- the auto-indent consists of blanks when it starts so -/
theorem aiNext_blank (xai pne : Bool) (ai ln : Bytes) (h : ∀ c ∈ ai, isBlankC c = true) :
    ∀ c ∈ aiNext xai pne ai ln, isBlankC c = true := by
  unfold aiNext
  split
  · intro c hc; simp at hc
  · split
    · exact h
    · intro c hc
      rcases List.mem_append.mp hc with hc | hc
      · exact h c hc
      · exact blanks_takeWhile ln c (List.mem_of_mem_take hc)

/-- the text of the lines typed after the first newline, with the auto-indents `aiSeq` -/
theorem loopText_none (b : Bool) : ∀ (ls : List Bytes) (post ai last : Bytes),
    loopText b none post ai ls last =
      (List.zipWith (fun a l => (if keepB false false l then a else []) ++ l ++ [10]) (aiSeq b false ai ls) ls).flatten ++
        (if keepB false (postNE (if ls = [] then post else dropB b post)) last then aiAfter b false ai ls else []) ++
        last ++ (if ls = [] then post else dropB b post) := by
  intro ls
  induction ls with
  | nil => intro post ai last; simp [loopText, aiSeq, aiAfter, pneOf]; rfl
  | cons l ls ih =>
    intro post ai last
    rw [loopText, ih]
    simp only [pneOf, Option.getD_none, List.append_nil, aiSeq, List.zipWith_cons_cons, List.flatten_cons, aiAfter,
      dropB_idem, ite_self, reduceCtorEq, if_false, List.append_assoc]
    rfl

/-! ### lines that do not start with a blank: every continuation line after the auto-indent of the prefix -/

theorem keepB_plain (pne lastNE : Bool) (ln : Bytes) (h : PlainLn ln) : keepB pne lastNE ln = true := by
  unfold keepB lnBlanks
  rw [h.tw]
  simp [h.pos]

theorem aiNext_plain (b pne : Bool) (ai ln : Bytes) (h : PlainLn ln) : aiNext b pne ai ln = if b then ai else [] := by
  unfold aiNext lnBlanks
  rw [h.tw]
  cases b <;> cases pne <;> simp

theorem loopText_none_plain (b : Bool) (last : Bytes) (hlast : PlainLn last) : ∀ (ls : List Bytes) (post ai : Bytes),
    (b = false → ai = []) → (∀ l ∈ ls, PlainLn l) →
    loopText b none post ai ls last =
      (ls.map (fun l => ai ++ l ++ [10])).flatten ++ ai ++ last ++ (if ls = [] then post else dropB b post) := by
  intro ls
  induction ls with
  | nil =>
    intro post ai _ _
    simp [loopText, keepB_plain _ _ _ hlast, pneOf]
  | cons l ls ih =>
    intro post ai hai hls
    have haib : (if b = true then ai else []) = ai := by
      cases b
      · rw [hai rfl]; rfl
      · rfl
    rw [loopText, keepB_plain _ _ _ (hls l (by simp)), aiNext_plain _ _ _ _ (hls l (by simp)), haib,
      ih _ _ hai (fun l' hl' => hls l' (by simp [hl']))]
    simp only [if_true, Option.getD_none, List.append_nil, List.map_cons, List.flatten_cons, dropB_idem, ite_self,
      reduceCtorEq, if_false, List.append_assoc]

/-- for lines that do not start with a blank the general text is the one of `ledInput_lines` -/
theorem inputTextB_plain (s : VS) (pref post : Bytes) (ls : List (List Nat)) (last : List Nat)
    (hpl : ∀ l ∈ last :: ls, PlainLine l) :
    inputTextB s.xai pref post (ls.map encStr) (encStr last) =
      pref ++ (ls.map (fun l => encStr l ++ [10] ++ aiAfterNl s pref)).flatten ++ encStr last ++ postOf s ls post := by
  have hlast := (hpl last (by simp)).plainLn
  have hpre := aiOf_append_prefRest pref
  unfold inputTextB
  cases ls with
  | nil =>
    simp only [List.map_nil, loopText, keepB_plain _ _ _ hlast, if_true, Option.getD_some, hpre, List.flatten_nil,
      List.append_nil, postOf]
  | cons l ls =>
    have hl := (hpl l (by simp)).plainLn
    have hai : aiNext s.xai (pneOf (some (prefRest pref))) (aiOf pref) (encStr l) = aiAfterNl s pref :=
      aiNext_plain _ _ _ _ hl
    rw [List.map_cons, loopText, keepB_plain _ _ _ hl, hai,
      loopText_none_plain s.xai _ hlast (ls.map encStr) _ (aiAfterNl s pref)
        (by intro h; unfold aiAfterNl; rw [h]; rfl)
        (by
          intro x hx
          obtain ⟨l', hl', rfl⟩ := List.mem_map.mp hx
          exact (hpl l' (by simp [hl'])).plainLn)]
    have e3 := flatten_ai_shift (aiAfterNl s pref) ls
    simp only [List.map_map, Function.comp_def] at e3 ⊢
    simp only [if_true, Option.getD_some, dropB_idem, ite_self, postOf, reduceCtorEq, if_false, postAfterNl_eq,
      List.map_cons, List.flatten_cons, List.append_assoc]
    rw [← List.append_assoc (aiOf pref), hpre]
    have e4 : ∀ X : Bytes, (ls.map (fun l => aiAfterNl s pref ++ (encStr l ++ [10]))).flatten ++ (aiAfterNl s pref ++ X) =
        aiAfterNl s pref ++ ((ls.map (fun l => encStr l ++ ([10] ++ aiAfterNl s pref))).flatten ++ X) := by
      intro X
      have := congrArg (· ++ X) e3
      simpa only [List.append_assoc] using this
    rw [e4]

end Neatvi.Lemmas.C08e

namespace Neatvi.Lemmas.C08d
open Neatvi Neatvi.Uc Neatvi.Vi Neatvi.Ex Neatvi.Spec Neatvi.Lemmas.C08 Neatvi.Lemmas.C08b Neatvi.Lemmas.C09

/-- **`led_input` over the typed lines `ls` (each ended by a newline), `last`, ESC**, none starting with a blank -/
theorem ledInput_lines (pref post : Bytes) (s : VS) (ls : List (List Nat)) (last : List Nat) (rest : Bytes)
    (hp : pending s = lineKeys ls last ++ rest) (hpl : ∀ l ∈ last :: ls, PlainLine l)
    (hlen : ls.length < 100000) (hk : s.xkmap = 0) :
    ∃ s', ledInput pref post s =
        Res.ok (pref ++ (ls.map (fun l => encStr l ++ [10] ++ aiAfterNl s pref)).flatten ++ encStr last ++
          postOf s ls post, postOf s ls post) s' ∧
      pending s' = rest ∧ Typed (lineKeys ls last) ls.length s s' := by
  obtain ⟨s', h1, h2, h3⟩ := C08e.ledInput_lines_gen pref post s ls last rest hp
    (fun l hl => C08e.tline_of_plain (hpl l hl)) hlen hk
  exact ⟨s', by rw [h1, C08e.inputTextB_plain s pref post ls last hpl], h2, h3⟩

end Neatvi.Lemmas.C08d
