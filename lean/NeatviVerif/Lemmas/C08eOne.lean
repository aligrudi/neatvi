import NeatviVerif.Lemmas.C08eCmd
/-!
# C08 (insert mode): one typed line, and two

The statements about one line typed by any keys (`Inputs K cs`: the tails `insertTail_at`, `openTail_spec`,
`changeTail_spec` and the commands over them) and about two plain lines (`ledInput_two_lines`, `insertTail_two`): each
is the instance `ls = []` / `ls = [cs1]` of the theorem over typed lines, with `rowsG_one` / `rowsG_plain` for the rows.
Also line-wise `vi_change` over any rows `r1 ≤ r2` (`viChange_rows_spec`), from `changeTail_spec`.
-/
namespace Neatvi.Lemmas.C08b
open Neatvi Neatvi.Uc Neatvi.Vi Neatvi.Ex Neatvi.Spec Neatvi.Lemmas.C08 Neatvi.Lemmas.C09
open Neatvi.Lemmas.C08d Neatvi.Lemmas.C08e

/-- `insertTail` at the character offset `off` of the line `body` -/
theorem insertTail_at (s : VS) (x : Int) (body cs : List Nat) (off : Nat) (K rest : Bytes)
    (hr0 : 0 ≤ s.ed.xrow) (hline : (Vi.lines s)[s.ed.xrow.toNat]? = some (encStr (body ++ [10])))
    (hb : ∀ c ∈ body, ValidCp c) (hb10 : 10 ∉ body) (hoff : off ≤ body.length)
    (hin : Inputs K cs) (hp : pending s = K ++ rest) (hpl : ∀ c ∈ cs, ValidCp c) (h10 : 10 ∉ cs)
    (hne : cs.head? ≠ none ∧ cs.head? ≠ some 32 ∧ cs.head? ≠ some 9)
    (hk : s.xkmap = 0) :
    ∃ s', insertTail (encStr (body.take off)) (encStr (body.drop off ++ [10])) { s with ed := { s.ed with xoff := x } }
        = Res.ok VC_OK s' ∧ pending s' = rest ∧
      Inserted K s s' s.ed.xrow [encStr (body.take off ++ cs ++ (body.drop off ++ [10]))] 1 s.ed.xrow
        ((off : Int) + cs.length - 1) := by
  have h := insertTail_lines_at_gen s x body off [] cs K rest hr0 hline hb hb10 (inputsL_of_inputs hin hpl h10) hp hk
  rw [rowsG_one _ _ _ _ hne, offG_one _ _ _ _ hne, List.length_take, Nat.min_eq_left hoff] at h
  simpa only [rowLines, List.map_cons, List.map_nil, List.append_assoc, List.length_nil, Int.natCast_zero, Int.add_zero]
    using h

theorem vcInsert_at (cmd : Nat) (hcmd : cmd = 105 ∨ cmd = 97 ∨ cmd = 73 ∨ cmd = 65) (s : VS) (body cs : List Nat)
    (off : Nat) (K rest : Bytes)
    (hr0 : 0 ≤ s.ed.xrow) (hline : (Vi.lines s)[s.ed.xrow.toNat]? = some (encStr (body ++ [10])))
    (hb : ∀ c ∈ body, ValidCp c) (hb10 : 10 ∉ body)
    (hoff : Lemmas.C08b.insOff cmd s (encStr (body ++ [10])) = (off : Int)) (hle : off ≤ body.length)
    (hin : Inputs K cs) (hp : pending s = K ++ rest) (hpl : ∀ c ∈ cs, ValidCp c) (h10 : 10 ∉ cs)
    (hne : cs.head? ≠ none ∧ cs.head? ≠ some 32 ∧ cs.head? ≠ some 9) (hk : s.xkmap = 0) :
    ∃ s', vcInsert cmd s = Res.ok VC_OK s' ∧ pending s' = rest ∧
      Inserted K s s' s.ed.xrow [encStr (body.take off ++ cs ++ (body.drop off ++ [10]))] 1 s.ed.xrow
        ((off : Int) + cs.length - 1) := by
  have h := vcInsert_lines_at cmd hcmd s body off [] cs K rest hr0 hline hb hb10 hoff hle (inputsL_of_inputs hin hpl h10) hp hk
  rw [rowsG_one _ _ _ _ hne, offG_one _ _ _ _ hne, List.length_take, Nat.min_eq_left hle] at h
  simpa only [rowLines, List.map_cons, List.map_nil, List.append_assoc, List.length_nil, Int.natCast_zero, Int.add_zero]
    using h

/-- `openTail` inserts the line `indent ++ text` before row `s.ed.xrow` -/
theorem openTail_spec (ind cs : List Nat) (s : VS) (K rest : Bytes) (lb : Lbuf.Lb) (hlb : s.ed.lb = some lb)
    (hr0 : 0 ≤ s.ed.xrow) (hr1 : s.ed.xrow ≤ lenOf s) (hlen0 : lenOf s ≠ 0)
    (hi : ∀ c ∈ ind, ValidCp c) (hi10 : 10 ∉ ind)
    (hin : Inputs K cs) (hp : pending s = K ++ rest) (hpl : ∀ c ∈ cs, ValidCp c) (h10 : 10 ∉ cs)
    (hne : cs.head? ≠ none ∧ cs.head? ≠ some 32 ∧ cs.head? ≠ some 9)
    (hk : s.xkmap = 0) :
    ∃ s', openTail (encStr ind) s = Res.ok VC_OK s' ∧ pending s' = rest ∧
      Inserted K s s' s.ed.xrow [encStr (ind ++ cs ++ [10])] 0 s.ed.xrow
        ((ind.length : Int) + cs.length - 1) := by
  have h := openTail_lines_gen ind s [] cs K rest lb hlb hr0 hr1 hlen0 hi hi10 (inputsL_of_inputs hin hpl h10) hp hk
  rw [rowsG_one _ _ _ _ hne, offG_one _ _ _ _ hne] at h
  simpa only [rowLines, List.map_cons, List.map_nil, List.append_nil, List.length_nil, Int.natCast_zero, Int.add_zero]
    using h

/-- `row`: the cursor row of `s` for `O`, the one below it for `o` -/
theorem openTail_at (s : VS) (ed1 : Ed) (row : Int) (ind cs : List Nat) (K rest : Bytes) (L : Bytes)
    (hr0 : 0 ≤ s.ed.xrow) (hline : (Vi.lines s)[s.ed.xrow.toNat]? = some L)
    (hb1 : ed1.bufs = s.ed.bufs) (hr1 : ed1.regs = s.ed.regs) (hx : ed1.xrow = row)
    (hrow : row = s.ed.xrow ∨ row = s.ed.xrow + 1) (hi : ∀ c ∈ ind, ValidCp c) (hi10 : 10 ∉ ind)
    (hin : Inputs K cs) (hp : pending s = K ++ rest) (hpl : ∀ c ∈ cs, ValidCp c) (h10 : 10 ∉ cs)
    (hne : cs.head? ≠ none ∧ cs.head? ≠ some 32 ∧ cs.head? ≠ some 9) (hk : s.xkmap = 0) :
    ∃ s', openTail (encStr ind) { s with ed := ed1 } = Res.ok VC_OK s' ∧ pending s' = rest ∧
      Inserted K s s' row [encStr (ind ++ cs ++ [10])] 0 row ((ind.length : Int) + cs.length - 1) := by
  have h := openTail_lines_at s ed1 row ind [] cs K rest L hr0 hline hb1 hr1 hx hrow hi hi10 (inputsL_of_inputs hin hpl h10) hp hk
  rw [rowsG_one _ _ _ _ hne, offG_one _ _ _ _ hne] at h
  simpa only [rowLines, List.map_cons, List.map_nil, List.append_nil, List.length_nil, Int.natCast_zero, Int.add_zero]
    using h

/-- `changeTail`: the rows `r1..r2` become the one line prefix ++ text ++ rest -/
theorem changeTail_spec (ps qs' cs : List Nat) (s : VS) (r1 r2 : Int) (K rest : Bytes) (lb : Lbuf.Lb)
    (hlb : s.ed.lb = some lb) (hr0 : 0 ≤ r1) (hr12 : r1 ≤ r2) (hr2 : r2 < lenOf s)
    (hps : ∀ c ∈ ps, ValidCp c) (hqs : ∀ c ∈ qs', ValidCp c) (hps10 : 10 ∉ ps) (hqs10 : 10 ∉ qs')
    (hin : Inputs K cs) (hp : pending s = K ++ rest) (hpl : ∀ c ∈ cs, ValidCp c) (h10 : 10 ∉ cs)
    (hne : cs.head? ≠ none ∧ cs.head? ≠ some 32 ∧ cs.head? ≠ some 9)
    (hk : s.xkmap = 0) :
    ∃ s', changeTail (encStr ps) (encStr (qs' ++ [10])) r1 r2 s = Res.ok VC_OK s' ∧ pending s' = rest ∧
      Inserted K s s' r1 [encStr (ps ++ cs ++ (qs' ++ [10]))] (r2.toNat - r1.toNat + 1) r1
        ((ps.length : Int) + cs.length - 1) := by
  have h := changeTail_lines ps qs' s r1 r2 [] cs K rest lb hlb hr0 hr12 hr2 hps hqs hps10 hqs10
    (inputsL_of_inputs hin hpl h10) hp hk
  rw [rowsG_one _ _ _ _ hne, offG_one _ _ _ _ hne] at h
  simpa only [rowLines, List.map_cons, List.map_nil, List.append_assoc, List.length_nil, Int.natCast_zero, Int.add_zero]
    using h

theorem viChange_rows_spec (s : VS) (r1 r2 o1 o2 : Int) (body cs : List Nat) (K rest : Bytes)
    (hr0 : 0 ≤ r1) (h12 : r1 ≤ r2) (h2 : r2 < lenOf s)
    (hline : (Vi.lines s)[r1.toNat]? = some (encStr (body ++ [10])))
    (hb : ∀ c ∈ body, ValidCp c) (hb10 : 10 ∉ body)
    (hin : Inputs K cs) (hp : pending s = K ++ rest) (hpl : ∀ c ∈ cs, ValidCp c) (h10 : 10 ∉ cs)
    (hne : cs.head? ≠ none ∧ cs.head? ≠ some 32 ∧ cs.head? ≠ some 9) (hk : s.xkmap = 0) :
    ∃ s', viChange r1 o1 r2 o2 true s = Res.ok VC_OK s' ∧ pending s' = rest ∧
      s'.ed.regs = s.ed.regs.put s.ybuf ((((Vi.lines s).drop r1.toNat).take (r2.toNat - r1.toNat + 1)).flatten) 1 ∧
      Inserted K
        { s with ed := { s.ed with regs := s.ed.regs.put s.ybuf ((((Vi.lines s).drop r1.toNat).take (r2.toNat - r1.toNat + 1)).flatten) 1 } } s' r1
        [encStr (indentOf s body ++ cs ++ [10])] (r2.toNat - r1.toNat + 1) r1
        (((indentOf s body).length : Int) + cs.length - 1) := by
  have hl := lineOf_of_get s _ _ hr0 hline
  obtain ⟨lb, hlb⟩ := lb_of_line s _ _ hline
  have hreg : lbufRegion s r1 0 r2 (-1) = some ((((Vi.lines s).drop r1.toNat).take (r2.toNat - r1.toNat + 1)).flatten) :=
    Lemmas.C08.lbufRegion_lines s r1 r2 hr0 h12 h2
  obtain ⟨hi, hi10⟩ := indentOf_valid s body hb hb10
  rw [viChange_line_red r1 o1 r2 o2 s _ hreg, hl, viIndents_line s body hb]
  obtain ⟨s', h1, h2', h3⟩ := changeTail_spec (indentOf s body) [] cs
    { s with ed := { s.ed with regs := s.ed.regs.put s.ybuf ((((Vi.lines s).drop r1.toNat).take (r2.toNat - r1.toNat + 1)).flatten) 1 } } r1 r2 K rest lb hlb
    hr0 h12 h2 hi (by simp) hi10 (by simp) hin hp hpl h10 hne hk
  exact ⟨s', h1, h2', h3.regs, h3⟩

theorem plainLine_two (cs1 cs2 : List Nat) (hpl : ∀ c ∈ cs1 ++ cs2, ValidCp c ∧ 32 ≤ c ∧ c ≠ 127)
    (hne1 : cs1.head? ≠ none ∧ cs1.head? ≠ some 32) (hne2 : cs2.head? ≠ none ∧ cs2.head? ≠ some 32)
    (hlen1 : cs1.length < 100000) (hlen2 : cs2.length < 100000) : ∀ l ∈ cs2 :: [cs1], PlainLine l := by
  intro l hl
  simp only [List.mem_cons, List.not_mem_nil, or_false] at hl
  rcases hl with rfl | rfl
  · exact ⟨fun c hc => hpl c (List.mem_append_right _ hc), hne2, hlen2⟩
  · exact ⟨fun c hc => hpl c (List.mem_append_left _ hc), hne1, hlen1⟩

theorem lineKeys_two (cs1 cs2 : List Nat) : lineKeys [cs1] cs2 = encStr cs1 ++ [10] ++ encStr cs2 ++ [27] := by
  simp [lineKeys]

/-- **text, newline, text, ESC**: `led_input` returns the two lines, the second one after the auto-indent; the rest of
the line loses its leading blanks (both only with `autoindent` set); the cursor row moves down by one -/
theorem ledInput_two_lines (pref post : Bytes) (s : VS) (cs1 cs2 : List Nat) (rest : Bytes)
    (hp : pending s = encStr cs1 ++ [10] ++ encStr cs2 ++ [27] ++ rest)
    (hpl : ∀ c ∈ cs1 ++ cs2, ValidCp c ∧ 32 ≤ c ∧ c ≠ 127)
    (hne1 : cs1.head? ≠ none ∧ cs1.head? ≠ some 32) (hne2 : cs2.head? ≠ none ∧ cs2.head? ≠ some 32)
    (hlen1 : cs1.length < 100000) (hlen2 : cs2.length < 100000) (hk : s.xkmap = 0) :
    ∃ s', ledInput pref post s =
        Res.ok (pref ++ encStr cs1 ++ [10] ++ aiAfterNl s pref ++ encStr cs2 ++ postAfterNl s post, postAfterNl s post) s' ∧
      pending s' = rest ∧ ReadsEd (encStr cs1 ++ [10] ++ encStr cs2 ++ [27]) s s' ∧
      Vi.lines s' = Vi.lines s ∧ s'.ed.xrow = s.ed.xrow + 1 ∧ s'.ed.regs = s.ed.regs := by
  obtain ⟨s', a1, a2, a3⟩ := ledInput_lines pref post s [cs1] cs2 rest (by rw [hp, lineKeys_two])
    (plainLine_two cs1 cs2 hpl hne1 hne2 hlen1 hlen2) (by simp) hk
  rw [lineKeys_two] at a3
  refine ⟨s', ?_, a2, a3.frame, a3.lines, a3.xrow, a3.regs⟩
  rw [a1]
  simp [postOf]

theorem insertTail_two (ps qs' cs1 cs2 : List Nat) (s : VS) (rest : Bytes) (L : Bytes)
    (hr0 : 0 ≤ s.ed.xrow) (hline : (Vi.lines s)[s.ed.xrow.toNat]? = some L)
    (hps : ∀ c ∈ ps, ValidCp c) (hqs : ∀ c ∈ qs', ValidCp c) (hps10 : 10 ∉ ps) (hqs10 : 10 ∉ qs')
    (hp : pending s = encStr cs1 ++ [10] ++ encStr cs2 ++ [27] ++ rest)
    (hpl : ∀ c ∈ cs1 ++ cs2, ValidCp c ∧ 32 ≤ c ∧ c ≠ 127)
    (hne1 : cs1.head? ≠ none ∧ cs1.head? ≠ some 32) (hne2 : cs2.head? ≠ none ∧ cs2.head? ≠ some 32)
    (hlen1 : cs1.length < 100000) (hlen2 : cs2.length < 100000) (hk : s.xkmap = 0) :
    ∃ s', insertTail (encStr ps) (encStr (qs' ++ [10])) s = Res.ok VC_OK s' ∧ pending s' = rest ∧
      Inserted (encStr cs1 ++ [10] ++ encStr cs2 ++ [27]) s s' s.ed.xrow
        [encStr (ps ++ cs1 ++ [10]), encStr (aiCp s ps ++ cs2 ++ (postCp s qs' ++ [10]))] 1 (s.ed.xrow + 1)
        (((aiCp s ps).length : Int) + cs2.length - 1) := by
  have hP := plainLine_two cs1 cs2 hpl hne1 hne2 hlen1 hlen2
  have h := insertTail_lines_gen ps qs' s [cs1] cs2 _ rest L hr0 hline hps hqs hps10 hqs10
    (inputsL_lines [cs1] cs2 (fun l hl => tline_of_plain (hP l hl)) (by simp)) (by rw [hp, lineKeys_two]) hk
  rw [rowsG_plain s _ [cs1] cs2 _ hP, offG_plain s _ [cs1] cs2 _ hP, lineKeys_two] at h
  simpa [rowLines, rowsOf, tailOf, lastHd, List.append_assoc] using h

end Neatvi.Lemmas.C08b
