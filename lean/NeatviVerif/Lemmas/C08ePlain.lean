import NeatviVerif.Lemmas.C08eRows
/-!
# C08 (insert mode): the general rows on typed lines that do not start with a blank

For `PlainLine`s the rows `rowsG` are the rows `rowsOf` of `Lemmas/C08dInsert.lean` and the cursor ends on the last
typed character (`rowsG_plain`, `offG_plain`): the theorems of `Props/C08d.lean` are instances of those of
`Props/C08e.lean`, and so are the tails `Lemmas.C08d.insertTail_lines_at`, `Lemmas.C08d.openTail_lines` at the end.
-/
set_option linter.unusedSimpArgs false
namespace Neatvi.Lemmas.C08e
open Neatvi Neatvi.Uc Neatvi.Vi Neatvi.Ex Neatvi.Spec Neatvi.Lemmas.C08 Neatvi.Lemmas.C08b Neatvi.Lemmas.C09
open Neatvi.Lemmas.C08d

theorem blanksCp_head {cs : List Nat} (hne : cs.head? ≠ none ∧ cs.head? ≠ some 32 ∧ cs.head? ≠ some 9) :
    blanksCp cs = [] ∧ 0 < cs.length := by
  obtain ⟨c, t, rfl⟩ := List.exists_cons_of_ne_nil (mt List.head?_eq_none_iff.mpr hne.1)
  have hb : isBlankC c = false := by
    unfold isBlankC
    simp only [Bool.or_eq_false_iff, beq_eq_false_iff_ne, ne_eq]
    exact ⟨fun e => hne.2.1 (by simp [e]), fun e => hne.2.2 (by simp [e])⟩
  refine ⟨?_, by simp⟩
  unfold blanksCp
  rw [List.takeWhile_cons, hb]
  rfl

theorem keepCp_head (pne lastNE : Bool) {cs : List Nat}
    (hne : cs.head? ≠ none ∧ cs.head? ≠ some 32 ∧ cs.head? ≠ some 9) : keepCp pne lastNE cs = true := by
  obtain ⟨h1, h2⟩ := blanksCp_head hne
  unfold keepCp
  rw [h1]
  simp [h2]

theorem _root_.Neatvi.Lemmas.C08d.PlainLine.head {l : List Nat} (h : PlainLine l) : l.head? ≠ none ∧ l.head? ≠ some 32 ∧ l.head? ≠ some 9 := by
  refine ⟨h.2.1.1, h.2.1.2, fun e => ?_⟩
  cases l with
  | nil => cases e
  | cons c t =>
    have := h.1 c (by simp)
    simp only [List.head?_cons, Option.some.injEq] at e
    omega

theorem aiNextCp_plain (b pne : Bool) (ai : List Nat) {l : List Nat} (h : PlainLine l) :
    aiNextCp b pne ai l = if b then ai else [] := by
  unfold aiNextCp
  rw [(blanksCp_head h.head).1]
  cases b <;> cases pne <;> simp

theorem rowsG_cont_plain (xai : Bool) (last : List Nat) (hlast : PlainLine last) :
    ∀ (ls : List (List Nat)) (ai tail : List Nat), (xai = false → ai = []) → (∀ l ∈ ls, PlainLine l) →
      rowsG xai [] ai ls last tail = ls.map (fun x => ai ++ x) ++ [ai ++ last ++ tailG xai ls tail] := by
  intro ls
  induction ls with
  | nil =>
    intro ai tail _ _
    simp [rowsG, keepCp_head _ _ hlast.head, tailG]
  | cons l ls ih =>
    intro ai tail hai hls
    have hl := hls l (by simp)
    have haib : (if xai = true then ai else []) = ai := by
      cases xai
      · rw [hai rfl]; rfl
      · rfl
    have ht : tailG xai ls (dropCp xai tail) = tailG xai (l :: ls) tail := by
      unfold tailG
      simp only [reduceCtorEq, if_false, dropCp_idem, ite_self]
    rw [rowsG, keepCp_head _ _ hl.head, aiNextCp_plain _ _ _ hl, haib, ih ai _ hai (fun l' hl' => hls l' (by simp [hl'])), ht]
    simp

theorem lastPreG_cont_plain (xai : Bool) (last : List Nat) (hlast : PlainLine last) :
    ∀ (ls : List (List Nat)) (ai tail : List Nat), (xai = false → ai = []) → (∀ l ∈ ls, PlainLine l) →
      lastPreG xai [] ai ls last tail = ai ++ last := by
  intro ls
  induction ls with
  | nil =>
    intro ai tail _ _
    simp [lastPreG, keepCp_head _ _ hlast.head]
  | cons l ls ih =>
    intro ai tail hai hls
    have hl := hls l (by simp)
    have haib : (if xai = true then ai else []) = ai := by
      cases xai
      · rw [hai rfl]; rfl
      · rfl
    rw [lastPreG, aiNextCp_plain _ _ _ hl, haib, ih ai _ hai (fun l' hl' => hls l' (by simp [hl']))]

theorem rowsG_one (xai : Bool) (ps cs tail : List Nat) (hne : cs.head? ≠ none ∧ cs.head? ≠ some 32 ∧ cs.head? ≠ some 9) :
    rowsG xai (hdRest ps) (aiRaw ps) [] cs tail = [ps ++ cs ++ tail] := by
  rw [rowsG, keepCp_head _ _ hne, if_pos rfl, aiRaw_hdRest]

theorem offG_one (xai : Bool) (ps cs tail : List Nat) (hne : cs.head? ≠ none ∧ cs.head? ≠ some 32 ∧ cs.head? ≠ some 9) :
    offG (lastPreG xai (hdRest ps) (aiRaw ps) [] cs tail).length = (ps.length : Int) + cs.length - 1 := by
  obtain ⟨c, t, rfl⟩ := List.exists_cons_of_ne_nil (mt List.head?_eq_none_iff.mpr hne.1)
  rw [lastPreG, keepCp_head _ _ hne, if_pos rfl, aiRaw_hdRest]
  unfold offG
  rw [if_neg (by simp only [List.length_append, List.length_cons]; omega)]
  simp only [List.length_append, List.length_cons]
  omega

theorem aiCp_eq (s : VS) (ps : List Nat) : aiCp s ps = if s.xai then aiRaw ps else [] := rfl

/-- **for lines that do not start with a blank the general rows are `rowsOf`** -/
theorem rowsG_plain (s : VS) (ps : List Nat) (ls : List (List Nat)) (last tail : List Nat)
    (hpl : ∀ l ∈ last :: ls, PlainLine l) :
    rowsG s.xai (hdRest ps) (aiRaw ps) ls last tail = rowsOf ps (aiCp s ps) ls last (tailOf s ls tail) := by
  have hlast := hpl last (by simp)
  cases ls with
  | nil =>
    simp only [rowsG, keepCp_head _ _ hlast.head, if_true, rowsOf, tailOf]
    rw [aiRaw_hdRest]
  | cons l ls =>
    have hl := hpl l (by simp)
    rw [rowsG, keepCp_head _ _ hl.head, aiNextCp_plain _ _ _ hl, ← aiCp_eq,
      rowsG_cont_plain s.xai last hlast ls (aiCp s ps) _ (by intro h; unfold aiCp; rw [h]; rfl)
        (fun l' hl' => hpl l' (by simp [hl']))]
    have ht : tailG s.xai ls (dropCp s.xai tail) = tailOf s (l :: ls) tail := by
      unfold tailG tailOf
      simp only [reduceCtorEq, if_false, dropCp_idem, ite_self]
      rfl
    rw [ht]
    simp only [if_true, rowsOf, aiRaw_hdRest]

theorem lastPreG_plain (s : VS) (ps : List Nat) (ls : List (List Nat)) (last tail : List Nat)
    (hpl : ∀ l ∈ last :: ls, PlainLine l) :
    lastPreG s.xai (hdRest ps) (aiRaw ps) ls last tail = lastHd ps (aiCp s ps) ls ++ last := by
  have hlast := hpl last (by simp)
  cases ls with
  | nil =>
    simp only [lastPreG, keepCp_head _ _ hlast.head, if_true, lastHd]
    rw [aiRaw_hdRest]
  | cons l ls =>
    have hl := hpl l (by simp)
    rw [lastPreG, aiNextCp_plain _ _ _ hl, ← aiCp_eq,
      lastPreG_cont_plain s.xai last hlast ls (aiCp s ps) _ (by intro h; unfold aiCp; rw [h]; rfl)
        (fun l' hl' => hpl l' (by simp [hl']))]
    simp [lastHd]

theorem offG_plain (s : VS) (ps : List Nat) (ls : List (List Nat)) (last tail : List Nat)
    (hpl : ∀ l ∈ last :: ls, PlainLine l) :
    offG (lastPreG s.xai (hdRest ps) (aiRaw ps) ls last tail).length =
      ((lastHd ps (aiCp s ps) ls).length : Int) + last.length - 1 := by
  rw [lastPreG_plain s ps ls last tail hpl]
  have := (hpl last (by simp)).pos
  unfold offG
  rw [if_neg (by simp only [List.length_append]; omega)]
  simp only [List.length_append]
  omega

end Neatvi.Lemmas.C08e

namespace Neatvi.Lemmas.C08d
open Neatvi Neatvi.Uc Neatvi.Vi Neatvi.Ex Neatvi.Spec Neatvi.Lemmas.C08 Neatvi.Lemmas.C08b Neatvi.Lemmas.C09
open Neatvi.Lemmas.C08e

theorem tailOf_empty (s : VS) (ls : List (List Nat)) : tailOf s ls [] = [] := by
  unfold tailOf postCp
  split
  · rfl
  · split <;> rfl

/-- `insertTail` at the character offset `off` of the line `body`, with the typed lines `ls`, `last` -/
theorem insertTail_lines_at (s : VS) (x : Int) (body : List Nat) (off : Nat) (ls : List (List Nat)) (last : List Nat)
    (rest : Bytes)
    (hr0 : 0 ≤ s.ed.xrow) (hline : (Vi.lines s)[s.ed.xrow.toNat]? = some (encStr (body ++ [10])))
    (hb : ∀ c ∈ body, ValidCp c) (hb10 : 10 ∉ body)
    (hp : pending s = lineKeys ls last ++ rest) (hpl : ∀ l ∈ last :: ls, PlainLine l)
    (hlen : ls.length < 100000) (hk : s.xkmap = 0) :
    ∃ s', insertTail (encStr (body.take off)) (encStr (body.drop off ++ [10])) { s with ed := { s.ed with xoff := x } }
        = Res.ok VC_OK s' ∧ pending s' = rest ∧
      Inserted (lineKeys ls last) s s' s.ed.xrow
        (rowLines (rowsOf (body.take off) (aiCp s (body.take off)) ls last (tailOf s ls (body.drop off)))) 1
        (s.ed.xrow + (ls.length : Int))
        (((lastHd (body.take off) (aiCp s (body.take off)) ls).length : Int) + last.length - 1) := by
  have h := insertTail_lines_at_gen s x body off ls last _ rest hr0 hline hb hb10
    (inputsL_lines ls last (fun l hl => tline_of_plain (hpl l hl)) hlen) hp hk
  rwa [rowsG_plain s _ ls last _ hpl, offG_plain s _ ls last _ hpl] at h

/-- `openTail` (the tail of `o O`) with the typed lines `ls`, `last`: the rows `rowsOf` are inserted before
the row of the cursor -/
theorem openTail_lines (ind : List Nat) (s : VS) (ls : List (List Nat)) (last : List Nat) (rest : Bytes)
    (lb : Lbuf.Lb) (hlb : s.ed.lb = some lb)
    (hr0 : 0 ≤ s.ed.xrow) (hr1 : s.ed.xrow ≤ lenOf s) (hlen0 : lenOf s ≠ 0)
    (hi : ∀ c ∈ ind, ValidCp c) (hi10 : 10 ∉ ind)
    (hp : pending s = lineKeys ls last ++ rest) (hpl : ∀ l ∈ last :: ls, PlainLine l)
    (hlen : ls.length < 100000) (hk : s.xkmap = 0) :
    ∃ s', openTail (encStr ind) s = Res.ok VC_OK s' ∧ pending s' = rest ∧
      Inserted (lineKeys ls last) s s' s.ed.xrow (rowLines (rowsOf ind (aiCp s ind) ls last [])) 0
        (s.ed.xrow + (ls.length : Int)) (((lastHd ind (aiCp s ind) ls).length : Int) + last.length - 1) := by
  have h := openTail_lines_gen ind s ls last _ rest lb hlb hr0 hr1 hlen0 hi hi10
    (inputsL_lines ls last (fun l hl => tline_of_plain (hpl l hl)) hlen) hp hk
  rwa [rowsG_plain s _ ls last _ hpl, offG_plain s _ ls last _ hpl, tailOf_empty] at h

end Neatvi.Lemmas.C08d
