import NeatviVerif.Lemmas.C08eInput
import NeatviVerif.Lemmas.C08dInsert
import NeatviVerif.Lemmas.C07cBuf
/-!
# C08 (insert mode): the rows an insertion of arbitrary typed lines produces

The text `loopText` of `Lemmas/C08eInput.lean` as rows of code points (`rowsG`), `vi_input` on such an
insertion (`viInput_lines_gen`), and the tails of `vc_insert` and `vi_change` (`insertTail_lines_gen`,
`openTail_lines_gen`, `changeTail_lines`): `vi_input`, then one `lbuf_edit` and the cursor (`inserted_of_typed`).  All
take the keys through `InputsL`.
-/
set_option linter.unusedSimpArgs false
namespace Neatvi.Lemmas.C08e
open Neatvi Neatvi.Uc Neatvi.Vi Neatvi.Ex Neatvi.Spec Neatvi.Lemmas.C08 Neatvi.Lemmas.C08b Neatvi.Lemmas.C09
open Neatvi.Lemmas.C08d

/-! ### the rule of the auto-indent on code points -/

/-- the leading blanks of a typed line -/
def blanksCp (l : List Nat) : List Nat := l.takeWhile isBlankC

/-- `keepB` on code points -/
def keepCp (pne lastNE : Bool) (l : List Nat) : Bool := decide ((blanksCp l).length < l.length) || pne || lastNE

/-- `aiNext` on code points -/
def aiNextCp (xai pne : Bool) (ai l : List Nat) : List Nat :=
  if !xai then [] else if pne then ai else ai ++ (blanksCp l).take (127 - ai.length)

/-- the rest of the line after a newline: without its leading blanks when `autoindent` is set -/
def dropCp (xai : Bool) (tail : List Nat) : List Nat := if xai then tail.dropWhile isBlankC else tail

/-- the auto-indent `led_input` splits off the head of the line: its leading blanks, at most 127 -/
def aiRaw (ps : List Nat) : List Nat := (ps.takeWhile isBlankC).take 127

/-- the head of the line after that auto-indent -/
def hdRest (ps : List Nat) : List Nat := ps.drop (aiRaw ps).length

/-- **the rows** (without their newlines) that the typed lines `ls`, `last` produce between the head `hd` (what
precedes the insertion point after the auto-indent `ai`) and the tail `tail` of the line: each typed line is
written after the auto-indent in force (unless `keepCp` drops it); the auto-indent is updated by `aiNextCp`,
the tail loses its leading blanks at the first newline (`dropCp`) -/
def rowsG (xai : Bool) : List Nat → List Nat → List (List Nat) → List Nat → List Nat → List (List Nat)
  | hd, ai, [], last, tail => [(if keepCp (!hd.isEmpty) (!tail.isEmpty) last then ai else []) ++ hd ++ last ++ tail]
  | hd, ai, l :: ls, last, tail =>
    ((if keepCp (!hd.isEmpty) false l then ai else []) ++ hd ++ l) ::
      rowsG xai [] (aiNextCp xai (!hd.isEmpty) ai l) ls last (dropCp xai tail)

/-- the rows before the last one -/
def initG (xai : Bool) : List Nat → List Nat → List (List Nat) → List (List Nat)
  | _, _, [] => []
  | hd, ai, l :: ls =>
    ((if keepCp (!hd.isEmpty) false l then ai else []) ++ hd ++ l) :: initG xai [] (aiNextCp xai (!hd.isEmpty) ai l) ls

/-- what the last row holds before the tail of the line: auto-indent (if kept), head (without a newline
typed), the last typed line -/
def lastPreG (xai : Bool) : List Nat → List Nat → List (List Nat) → List Nat → List Nat → List Nat
  | hd, ai, [], last, tail => (if keepCp (!hd.isEmpty) (!tail.isEmpty) last then ai else []) ++ hd ++ last
  | hd, ai, l :: ls, last, tail => lastPreG xai [] (aiNextCp xai (!hd.isEmpty) ai l) ls last (dropCp xai tail)

/-- the tail of the line after the insertion -/
def tailG (xai : Bool) (ls : List (List Nat)) (tail : List Nat) : List Nat := if ls = [] then tail else dropCp xai tail

/-! ### from bytes to code points -/

theorem lnBlanks_enc (l : List Nat) (hv : ∀ c ∈ l, ValidCp c) : lnBlanks (encStr l) = blanksCp l := by
  unfold lnBlanks blanksCp
  rw [takeWhile_blank_encStr l hv, encStr_blanks _ (blanks_takeWhile l)]

theorem encStr_isEmpty (l : List Nat) : (encStr l).isEmpty = l.isEmpty := by
  cases l with
  | nil => rfl
  | cons c t =>
    rw [encStr_cons]
    cases h : enc c with
    | nil => exact absurd h (enc_ne_nil c)
    | cons a u => rfl

theorem keepB_enc (pne lastNE : Bool) (l : List Nat) (hv : ∀ c ∈ l, ValidCp c) :
    keepB pne lastNE (encStr l) = keepCp pne lastNE l := by
  unfold keepB keepCp
  rw [lnBlanks_enc l hv]
  unfold blanksCp
  have hsplit : l = l.takeWhile isBlankC ++ l.dropWhile isBlankC := (List.takeWhile_append_dropWhile (p := isBlankC) (l := l)).symm
  have hlen : (encStr l).length = (l.takeWhile isBlankC).length + (encStr (l.dropWhile isBlankC)).length := by
    conv => lhs; rw [hsplit, encStr_append, encStr_blanks _ (blanks_takeWhile l)]
    rw [List.length_append]
  have hlen2 : l.length = (l.takeWhile isBlankC).length + (l.dropWhile isBlankC).length := by
    conv => lhs; rw [hsplit]
    rw [List.length_append]
  have hiff : (l.takeWhile isBlankC).length < (encStr l).length ↔ (l.takeWhile isBlankC).length < l.length := by
    have h1 := Lemmas.C07c.encStr_length_ge (l.dropWhile isBlankC)
    constructor
    · intro h
      by_cases hd : l.dropWhile isBlankC = []
      · rw [hd] at hlen; simp at hlen; omega
      · have : 0 < (l.dropWhile isBlankC).length := by
          cases h : l.dropWhile isBlankC with
          | nil => exact absurd h hd
          | cons a u => simp
        omega
    · intro h; omega
  simp only [hiff]

theorem aiNext_enc (xai pne : Bool) (ai : Bytes) (l : List Nat) (hv : ∀ c ∈ l, ValidCp c) :
    aiNext xai pne ai (encStr l) = aiNextCp xai pne ai l := by
  unfold aiNext aiNextCp
  rw [lnBlanks_enc l hv]

theorem postNE_enc (tail : List Nat) (h10 : 10 ∉ tail) : postNE (encStr (tail ++ [10])) = !tail.isEmpty := by
  unfold postNE
  cases tail with
  | nil => rfl
  | cons c t =>
    have h1 := headD_line_ne_ten c t h10
    have h2 : (encStr (c :: t ++ [10])).isEmpty = false := by rw [encStr_isEmpty]; rfl
    rw [h2]
    simp only [bne, h1, Bool.not_false, Bool.and_self, List.isEmpty_cons]

theorem dropB_enc (b : Bool) (qs : List Nat) (hv : ∀ c ∈ qs, ValidCp c) : dropB b (encStr qs) = encStr (dropCp b qs) := by
  unfold dropB dropCp
  cases b
  · rfl
  · simp only [if_true]
    rw [takeWhile_blank_encStr qs hv]
    conv => lhs; arg 2; rw [← List.takeWhile_append_dropWhile (p := isBlankC) (l := qs), encStr_append]
    rw [List.drop_left' rfl]

theorem dropCp_snoc (b : Bool) (qs' : List Nat) : dropCp b (qs' ++ [10]) = dropCp b qs' ++ [10] := by
  unfold dropCp
  split
  · exact dropWhile_blank_line qs'
  · rfl

theorem dropCp_sub (b : Bool) (qs : List Nat) : ∀ c ∈ dropCp b qs, c ∈ qs := by
  unfold dropCp
  split
  · exact fun c hc => (List.dropWhile_sublist _).subset hc
  · exact fun c hc => hc

theorem dropCp_idem (b : Bool) (qs : List Nat) : dropCp b (dropCp b qs) = dropCp b qs := by
  unfold dropCp
  cases b
  · rfl
  · have h := List.takeWhile_append_dropWhile (p := isBlankC) (l := qs.dropWhile isBlankC)
    rwa [takeWhile_dropWhile_nil, List.nil_append] at h

theorem tailG_sub (xai : Bool) (ls : List (List Nat)) (tail : List Nat) : ∀ c ∈ tailG xai ls tail, c ∈ tail := by
  unfold tailG
  split
  · exact fun c hc => hc
  · exact dropCp_sub xai tail

theorem loopText_some_nil (b : Bool) (post ai : Bytes) (ls : List Bytes) (last : Bytes) :
    loopText b (some []) post ai ls last = loopText b none post ai ls last := by
  cases ls <;> rfl

theorem if_blank_enc (c : Bool) (ai : List Nat) (h : ∀ c ∈ ai, isBlankC c = true) :
    encStr (if c = true then ai else []) = if c = true then ai else [] := by
  cases c
  · rfl
  · exact encStr_blanks ai h

theorem loopText_rows (xai : Bool) (last : List Nat) (hlast : ∀ c ∈ last, ValidCp c) :
    ∀ (ls : List (List Nat)) (hd ai tail : List Nat),
      (∀ l ∈ ls, ∀ c ∈ l, ValidCp c) → (∀ c ∈ ai, isBlankC c = true) →
      (∀ c ∈ tail, ValidCp c) → 10 ∉ tail →
      loopText xai (some (encStr hd)) (encStr (tail ++ [10])) ai (ls.map encStr) (encStr last) =
        encStr (((rowsG xai hd ai ls last tail).map (fun r => r ++ [10])).flatten) := by
  intro ls
  induction ls with
  | nil =>
    intro hd ai tail _ hai _ ht10
    have e1 := postNE_enc tail ht10
    have e2 : ∀ p q, keepB p q (encStr last) = keepCp p q last := fun p q => keepB_enc p q last hlast
    have e3 : pneOf (some (encStr hd)) = !hd.isEmpty := by simp only [pneOf, encStr_isEmpty]
    simp only [List.map_nil, loopText, rowsG, e1, e2, e3]
    simp only [Option.getD_some, List.map_cons, List.map_nil, List.flatten_cons, List.flatten_nil, List.append_nil,
      encStr_append, if_blank_enc _ ai hai, List.append_assoc]
  | cons l ls ih =>
    intro hd ai tail hls hai htv ht10
    have hl := hls l (by simp)
    have hih := ih [] (aiNextCp xai (!hd.isEmpty) ai l) (dropCp xai tail) (fun l' hl' => hls l' (by simp [hl']))
        (aiNext_blank xai _ ai l hai) (fun c hc => htv c (dropCp_sub xai tail c hc))
        (fun h => ht10 (dropCp_sub xai tail 10 h))
    rw [show encStr ([] : List Nat) = ([] : Bytes) from rfl, loopText_some_nil] at hih
    have e2 : ∀ p q, keepB p q (encStr l) = keepCp p q l := fun p q => keepB_enc p q l hl
    have e3 : pneOf (some (encStr hd)) = !hd.isEmpty := by simp only [pneOf, encStr_isEmpty]
    have e4 : ∀ p a, aiNext xai p a (encStr l) = aiNextCp xai p a l := fun p a => aiNext_enc xai p a l hl
    rw [List.map_cons, loopText, dropB_enc xai _ (valid_snoc_ten htv), dropCp_snoc]
    simp only [e2, e3, e4, hih, Option.getD_some]
    simp only [rowsG, List.map_cons, List.flatten_cons, encStr_append, if_blank_enc _ ai hai, List.append_assoc]
    rfl

/-! ### the shape of the rows -/

theorem rowsG_length (xai : Bool) (last : List Nat) : ∀ (ls : List (List Nat)) (hd ai tail : List Nat),
    (rowsG xai hd ai ls last tail).length = ls.length + 1 := by
  intro ls
  induction ls with
  | nil => intro hd ai tail; rfl
  | cons l ls ih => intro hd ai tail; simp [rowsG, ih]

theorem rowsG_split (xai : Bool) (last : List Nat) : ∀ (ls : List (List Nat)) (hd ai tail : List Nat),
    rowsG xai hd ai ls last tail =
      initG xai hd ai ls ++ [lastPreG xai hd ai ls last tail ++ tailG xai ls tail] := by
  intro ls
  induction ls with
  | nil => intro hd ai tail; simp [rowsG, initG, lastPreG, tailG]
  | cons l ls ih =>
    intro hd ai tail
    have ht : tailG xai ls (dropCp xai tail) = tailG xai (l :: ls) tail := by
      unfold tailG
      simp only [reduceCtorEq, if_false, dropCp_idem, ite_self]
    rw [rowsG, ih, ht]
    rfl

theorem rowsG_all (P : Nat → Prop) (xai : Bool) (last : List Nat) (hlast : ∀ c ∈ last, P c) :
    ∀ (ls : List (List Nat)) (hd ai tail : List Nat),
      (∀ c ∈ hd, P c) → (∀ c ∈ ai, P c) → (∀ l ∈ ls, ∀ c ∈ l, P c) → (∀ c ∈ tail, P c) →
      ∀ r ∈ rowsG xai hd ai ls last tail, ∀ c ∈ r, P c := by
  intro ls
  induction ls with
  | nil =>
    intro hd ai tail hhd hai _ ht r hr c hc
    simp only [rowsG, List.mem_singleton] at hr
    subst hr
    simp only [List.mem_append] at hc
    rcases hc with ((hc | hc) | hc) | hc
    · split at hc
      · exact hai c hc
      · simp at hc
    · exact hhd c hc
    · exact hlast c hc
    · exact ht c hc
  | cons l ls ih =>
    intro hd ai tail hhd hai hls ht r hr c hc
    have hl := hls l (by simp)
    simp only [rowsG, List.mem_cons] at hr
    rcases hr with rfl | hr
    · simp only [List.mem_append] at hc
      rcases hc with (hc | hc) | hc
      · split at hc
        · exact hai c hc
        · simp at hc
      · exact hhd c hc
      · exact hl c hc
    · refine ih [] (aiNextCp xai (!hd.isEmpty) ai l) (dropCp xai tail) (by intro c hc; simp at hc) ?_
        (fun l' hl' => hls l' (by simp [hl'])) (fun c hc => ht c (dropCp_sub xai tail c hc)) r hr c hc
      intro c hc
      unfold aiNextCp at hc
      split at hc
      · simp at hc
      · split at hc
        · exact hai c hc
        · rcases List.mem_append.mp hc with hc | hc
          · exact hai c hc
          · exact hl c ((List.takeWhile_sublist _).subset (List.mem_of_mem_take hc))

theorem lastPreG_all (P : Nat → Prop) (xai : Bool) (last : List Nat) (hlast : ∀ c ∈ last, P c)
    (ls : List (List Nat)) (hd ai tail : List Nat)
    (hhd : ∀ c ∈ hd, P c) (hai : ∀ c ∈ ai, P c) (hls : ∀ l ∈ ls, ∀ c ∈ l, P c) (ht : ∀ c ∈ tail, P c) :
    ∀ c ∈ lastPreG xai hd ai ls last tail, P c := by
  intro c hc
  refine rowsG_all P xai last hlast ls hd ai tail hhd hai hls ht
    (lastPreG xai hd ai ls last tail ++ tailG xai ls tail) ?_ c (List.mem_append_left _ hc)
  rw [rowsG_split]
  simp

/-! ### the auto-indent and the head that `led_input` splits the prefix into -/

theorem aiOf_enc (ps : List Nat) (hv : ∀ c ∈ ps, ValidCp c) : aiOf (encStr ps) = aiRaw ps := by
  unfold aiOf aiRaw
  rw [takeWhile_blank_encStr ps hv, encStr_blanks _ (blanks_takeWhile ps)]

theorem aiRaw_blank (ps : List Nat) : ∀ c ∈ aiRaw ps, isBlankC c = true :=
  fun c hc => blanks_takeWhile ps c (List.mem_of_mem_take hc)

theorem aiRaw_hdRest (ps : List Nat) : aiRaw ps ++ hdRest ps = ps := aiOf_append_prefRest ps

theorem aiRaw_sub (ps : List Nat) : ∀ c ∈ aiRaw ps, c ∈ ps :=
  fun _ hc => (List.takeWhile_sublist _).subset (List.mem_of_mem_take hc)

theorem hdRest_sub (ps : List Nat) : ∀ c ∈ hdRest ps, c ∈ ps := fun _ hc => List.mem_of_mem_drop hc

theorem aiRaw_length (ps : List Nat) : (aiRaw ps).length ≤ 127 := aiOf_length ps

theorem prefRest_enc (ps : List Nat) (hv : ∀ c ∈ ps, ValidCp c) : prefRest (encStr ps) = encStr (hdRest ps) := by
  have h1 := aiOf_append_prefRest (encStr ps)
  have h2 : encStr ps = aiRaw ps ++ encStr (hdRest ps) := by
    conv => lhs; rw [← aiRaw_hdRest ps, encStr_append, encStr_blanks _ (aiRaw_blank ps)]
  have h3 : aiOf (encStr ps) ++ prefRest (encStr ps) = aiRaw ps ++ encStr (hdRest ps) := h1.trans h2
  rw [aiOf_enc ps hv] at h3
  exact List.append_cancel_left h3

theorem rowsG_no10 (ps qs' : List Nat) (xai : Bool) (ls : List (List Nat)) (last : List Nat)
    (hps10 : 10 ∉ ps) (hqs10 : 10 ∉ qs') (hl10 : ∀ l ∈ last :: ls, 10 ∉ l) :
    ∀ r ∈ rowsG xai (hdRest ps) (aiRaw ps) ls last qs', 10 ∉ r := by
  intro r hr h
  exact rowsG_all (· ≠ 10) xai last (fun c hc h => hl10 last (by simp) (h ▸ hc)) ls (hdRest ps) (aiRaw ps) qs'
    (fun c hc h => hps10 (h ▸ hdRest_sub ps c hc)) (fun c hc h => hps10 (h ▸ aiRaw_sub ps c hc))
    (fun l hl c hc h => hl10 l (by simp [hl]) (h ▸ hc))
    (fun c hc h => hqs10 (h ▸ hc)) r hr 10 h rfl

/-! ### `vi_input` over arbitrary typed lines -/

/-- the offset `vi_input` returns when `n` characters precede the tail on the last row: that of the last of
them, 0 when there is none -/
def offG (n : Nat) : Int := if (n : Int) - 1 < 0 then 0 else (n : Int) - 1

theorem viInput_lines_gen (ps qs' : List Nat) (s : VS) (ls : List (List Nat)) (last : List Nat) (K rest : Bytes)
    (hps : ∀ c ∈ ps, ValidCp c) (hqs : ∀ c ∈ qs', ValidCp c) (hps10 : 10 ∉ ps) (hqs10 : 10 ∉ qs')
    (hin : InputsL K ls last) (hp : pending s = K ++ rest) (hk : s.xkmap = 0) :
    ∃ s1, viInput (encStr ps) (encStr (qs' ++ [10])) s =
        Res.ok (encStr (((rowsG s.xai (hdRest ps) (aiRaw ps) ls last qs').map (fun r => r ++ [10])).flatten),
          ((ls.length + 1 : Nat) : Int), offG (lastPreG s.xai (hdRest ps) (aiRaw ps) ls last qs').length) s1 ∧
      pending s1 = rest ∧ Typed K ls.length s s1 := by
  obtain ⟨hlv, hl10, hrun⟩ := hin
  obtain ⟨s1, h1, h2, h3⟩ := hrun (encStr ps) (encStr (qs' ++ [10])) s rest hp hk
  have hlastv := hlv last (by simp)
  have hlast10 := hl10 last (by simp)
  have hlsv : ∀ l ∈ ls, ∀ c ∈ l, ValidCp c := fun l hl => hlv l (by simp [hl])
  have hls10 : ∀ l ∈ ls, ∀ c ∈ l, c ≠ 10 := fun l hl c hc h => hl10 l (by simp [hl]) (h ▸ hc)
  have hrep : inputTextB s.xai (encStr ps) (encStr (qs' ++ [10])) (ls.map encStr) (encStr last) =
      encStr (((rowsG s.xai (hdRest ps) (aiRaw ps) ls last qs').map (fun r => r ++ [10])).flatten) := by
    unfold inputTextB
    rw [aiOf_enc ps hps, prefRest_enc ps hps,
      loopText_rows s.xai last hlastv ls (hdRest ps) (aiRaw ps) qs' hlsv (aiRaw_blank ps) hqs hqs10]
  have hpost : postOf s ls (encStr (qs' ++ [10])) = encStr (tailG s.xai ls qs' ++ [10]) := postOf_enc s ls qs' hqs
  rw [hrep, hpost] at h1
  refine ⟨s1, ?_, h2, h3⟩
  rw [viInput_of_ledInput _ _ _ _ _ _ h1]
  have hrows10 := rowsG_no10 ps qs' s.xai ls last hps10 hqs10 hl10
  have hcc : charcount (encStr (((rowsG s.xai (hdRest ps) (aiRaw ps) ls last qs').map (fun r => r ++ [10])).flatten))
      (encStr (tailG s.xai ls qs' ++ [10])) = ((lastPreG s.xai (hdRest ps) (aiRaw ps) ls last qs').length : Nat) := by
    rw [rowsG_split]
    exact charcount_rows _ _ _
      (lastPreG_all ValidCp s.xai last hlastv ls (hdRest ps) (aiRaw ps) qs'
        (fun c hc => hps c (hdRest_sub ps c hc)) (fun c hc => hps c (aiRaw_sub ps c hc)) hlsv hqs)
      (fun c hc => hqs c (tailG_sub s.xai ls qs' c hc))
      (fun h => lastPreG_all (· ≠ 10) s.xai last (fun c hc h => hlast10 (h ▸ hc)) ls (hdRest ps) (aiRaw ps) qs'
        (fun c hc h => hps10 (h ▸ hdRest_sub ps c hc)) (fun c hc h => hps10 (h ▸ aiRaw_sub ps c hc)) hls10
        (fun c hc h => hqs10 (h ▸ hc)) 10 h rfl)
  have hnl : nlCount (encStr (((rowsG s.xai (hdRest ps) (aiRaw ps) ls last qs').map (fun r => r ++ [10])).flatten)) =
      ls.length + 1 := by
    rw [nlCount_rows _ hrows10, rowsG_length]
  rw [hcc, hnl]
  rfl

/-! ### the tails of `vc_insert` -/

theorem inserted_of_typed {K : Bytes} {m : Nat} {s s1 : VS} (h : Typed K m s s1) (rows : List (List Nat))
    (h10 : ∀ r ∈ rows, 10 ∉ r) (n : Nat) (e : Int) (hen : e.toNat = s.ed.xrow.toNat + n) (lb : Lbuf.Lb)
    (hlb : s.ed.lb = some lb) (hr0 : 0 ≤ s.ed.xrow) (hbe : s.ed.xrow ≤ e) (hr1 : e ≤ lenOf s) (x : Int) :
    ∃ ed', edEdit (some (encStr ((rows.map (fun r => r ++ [10])).flatten))) s.ed.xrow e s1 =
        Res.ok () { s1 with ed := ed' } ∧
      Inserted K s { s1 with ed := { ed' with xoff := x } } s.ed.xrow (rowLines rows) n (s.ed.xrow + (m : Int)) x := by
  obtain ⟨ed', he1, he2, he3⟩ := edEdit_spec s1 (encStr ((rows.map (fun r => r ++ [10])).flatten))
    s.ed.xrow e lb (by rw [h.lb]; exact hlb) hr0 hbe (by unfold lenOf; rw [h.lines]; exact hr1)
  refine ⟨ed', he1, ?_, ?_, rfl, ?_, h.frame.withEd _⟩
  · show Lemmas.C06.lines ed' = _
    rw [he2, h.lines, split_rows _ h10, hen]
    rfl
  · show ed'.xrow = _
    rw [he3]; exact h.xrow
  · show ed'.regs = s.ed.regs
    rw [he3]; exact h.regs

theorem insertTail_lines_gen (ps qs' : List Nat) (s : VS) (ls : List (List Nat)) (last : List Nat) (K rest : Bytes) (L : Bytes)
    (hr0 : 0 ≤ s.ed.xrow) (hline : (Vi.lines s)[s.ed.xrow.toNat]? = some L)
    (hps : ∀ c ∈ ps, ValidCp c) (hqs : ∀ c ∈ qs', ValidCp c) (hps10 : 10 ∉ ps) (hqs10 : 10 ∉ qs')
    (hin : InputsL K ls last) (hp : pending s = K ++ rest) (hk : s.xkmap = 0) :
    ∃ s', insertTail (encStr ps) (encStr (qs' ++ [10])) s = Res.ok VC_OK s' ∧ pending s' = rest ∧
      Inserted K s s' s.ed.xrow (rowLines (rowsG s.xai (hdRest ps) (aiRaw ps) ls last qs')) 1
        (s.ed.xrow + (ls.length : Int)) (offG (lastPreG s.xai (hdRest ps) (aiRaw ps) ls last qs').length) := by
  obtain ⟨s1, h1, h2, h3⟩ := viInput_lines_gen ps qs' s ls last K rest hps hqs hps10 hqs10 hin hp hk
  obtain ⟨lb, hlb⟩ := lb_of_line s _ L hline
  have hrlt : s.ed.xrow.toNat < (Vi.lines s).length := (List.getElem?_eq_some_iff.mp hline).1
  have hbeg : s1.ed.xrow - ((ls.length + 1 : Nat) : Int) + 1 = s.ed.xrow := by rw [h3.xrow]; omega
  obtain ⟨ed', he, hins⟩ := inserted_of_typed h3 _ (rowsG_no10 ps qs' s.xai ls last hps10 hqs10 hin.no10) 1
    (s.ed.xrow + 1) (by omega) lb hlb hr0 (by omega) (by show s.ed.xrow + 1 ≤ ((Vi.lines s).length : Int); omega)
    (offG (lastPreG s.xai (hdRest ps) (aiRaw ps) ls last qs').length)
  refine ⟨_, ?_, ?_, hins⟩
  · unfold insertTail
    simp only [bind_apply, h1, get_apply, hbeg, he, setOff_apply, pure_apply]
  · exact h2

/-- `openTail` (the tail of `o O`) with arbitrary typed lines: the rows `rowsG` are inserted before the row
of the cursor -/
theorem openTail_lines_gen (ind : List Nat) (s : VS) (ls : List (List Nat)) (last : List Nat) (K rest : Bytes)
    (lb : Lbuf.Lb) (hlb : s.ed.lb = some lb)
    (hr0 : 0 ≤ s.ed.xrow) (hr1 : s.ed.xrow ≤ lenOf s) (hlen0 : lenOf s ≠ 0)
    (hi : ∀ c ∈ ind, ValidCp c) (hi10 : 10 ∉ ind)
    (hin : InputsL K ls last) (hp : pending s = K ++ rest) (hk : s.xkmap = 0) :
    ∃ s', openTail (encStr ind) s = Res.ok VC_OK s' ∧ pending s' = rest ∧
      Inserted K s s' s.ed.xrow (rowLines (rowsG s.xai (hdRest ind) (aiRaw ind) ls last [])) 0
        (s.ed.xrow + (ls.length : Int)) (offG (lastPreG s.xai (hdRest ind) (aiRaw ind) ls last []).length) := by
  obtain ⟨s1, h1, h2, h3⟩ := viInput_lines_gen ind [] s ls last K rest hi (by intro c hc; simp at hc) hi10 (by simp) hin hp hk
  have e10 : encStr ([] ++ [10]) = [10] := rfl
  rw [e10] at h1
  have hbeg : s1.ed.xrow - ((ls.length + 1 : Nat) : Int) + 1 = s.ed.xrow := by rw [h3.xrow]; omega
  have hlz : (lenOf s1 == 0) = false := by
    have : lenOf s1 = lenOf s := by unfold lenOf; rw [h3.lines]
    rw [this]; simpa using hlen0
  obtain ⟨ed', he, hins⟩ := inserted_of_typed h3 _ (rowsG_no10 ind [] s.xai ls last hi10 (by simp) hin.no10) 0
    s.ed.xrow rfl lb hlb hr0 (Int.le_refl _) hr1 (offG (lastPreG s.xai (hdRest ind) (aiRaw ind) ls last []).length)
  refine ⟨_, ?_, ?_, hins⟩
  · unfold openTail
    simp only [bind_apply, h1, get_apply, hlz, Bool.false_eq_true, if_false, pure_apply, hbeg, he, setOff_apply]
  · exact h2

/-- `insertTail` at the character offset `off` of the line `body`, with arbitrary typed lines -/
theorem insertTail_lines_at_gen (s : VS) (x : Int) (body : List Nat) (off : Nat) (ls : List (List Nat)) (last : List Nat)
    (K rest : Bytes)
    (hr0 : 0 ≤ s.ed.xrow) (hline : (Vi.lines s)[s.ed.xrow.toNat]? = some (encStr (body ++ [10])))
    (hb : ∀ c ∈ body, ValidCp c) (hb10 : 10 ∉ body)
    (hin : InputsL K ls last) (hp : pending s = K ++ rest) (hk : s.xkmap = 0) :
    ∃ s', insertTail (encStr (body.take off)) (encStr (body.drop off ++ [10])) { s with ed := { s.ed with xoff := x } }
        = Res.ok VC_OK s' ∧ pending s' = rest ∧
      Inserted K s s' s.ed.xrow
        (rowLines (rowsG s.xai (hdRest (body.take off)) (aiRaw (body.take off)) ls last (body.drop off))) 1
        (s.ed.xrow + (ls.length : Int))
        (offG (lastPreG s.xai (hdRest (body.take off)) (aiRaw (body.take off)) ls last (body.drop off)).length) := by
  obtain ⟨s', h1, h2, h3⟩ := insertTail_lines_gen (body.take off) (body.drop off)
    { s with ed := { s.ed with xoff := x } } ls last K rest _ hr0 hline
    (fun d hd => hb d (List.mem_of_mem_take hd)) (fun d hd => hb d (List.mem_of_mem_drop hd))
    (fun h => hb10 (List.mem_of_mem_take h)) (fun h => hb10 (List.mem_of_mem_drop h)) hin hp hk
  exact ⟨s', h1, h2, h3.of_ed rfl rfl⟩

theorem _root_.Neatvi.Lemmas.C08b.Inserted.withRow {K : Bytes} {s s1 : VS} {ed' : Ed} {r : Int} {rows : List Bytes} {n : Nat} {row x : Int}
    (h : Inserted K s { s1 with ed := { ed' with xoff := x } } r rows n row x) (row' : Int) (hr : row' = row) :
    Inserted K s { s1 with ed := { ed' with xrow := row', xoff := x } } r rows n row x := by
  subst hr
  obtain ⟨a1, -, -, a4, a5⟩ := h
  exact ⟨a1, rfl, rfl, a4, a5.withEd _⟩

theorem changeTail_lines (ps qs' : List Nat) (s : VS) (r1 r2 : Int) (ls : List (List Nat)) (last : List Nat)
    (K rest : Bytes) (lb : Lbuf.Lb)
    (hlb : s.ed.lb = some lb) (hr0 : 0 ≤ r1) (hr12 : r1 ≤ r2) (hr2 : r2 < lenOf s)
    (hps : ∀ c ∈ ps, ValidCp c) (hqs : ∀ c ∈ qs', ValidCp c) (hps10 : 10 ∉ ps) (hqs10 : 10 ∉ qs')
    (hin : InputsL K ls last) (hp : pending s = K ++ rest) (hk : s.xkmap = 0) :
    ∃ s', changeTail (encStr ps) (encStr (qs' ++ [10])) r1 r2 s = Res.ok VC_OK s' ∧ pending s' = rest ∧
      Inserted K s s' r1 (rowLines (rowsG s.xai (hdRest ps) (aiRaw ps) ls last qs')) (r2.toNat - r1.toNat + 1)
        (r1 + (ls.length : Int)) (offG (lastPreG s.xai (hdRest ps) (aiRaw ps) ls last qs').length) := by
  obtain ⟨ed0, he0, hx0, hb0, hrg0⟩ := changeSt_eq s r1
  rw [changeTail_eq, he0]
  subst hx0
  obtain ⟨s1, h1, h2, h3⟩ := viInput_lines_gen ps qs' { s with ed := ed0 } ls last K rest hps hqs hps10 hqs10 hin hp hk
  have hl0 : lenOf { s with ed := ed0 } = lenOf s := by unfold lenOf; rw [lines_of_bufs s ed0 hb0]
  obtain ⟨ed', he, hins⟩ := inserted_of_typed h3 _ (rowsG_no10 ps qs' s.xai ls last hps10 hqs10 hin.no10)
    (r2.toNat - ed0.xrow.toNat + 1) (r2 + 1) (by show (r2 + 1).toNat = ed0.xrow.toNat + _; omega) lb
    ((lb_of_bufs s ed0 hb0).trans hlb) hr0 (by show ed0.xrow ≤ r2 + 1; omega) (by rw [hl0]; omega)
    (offG (lastPreG s.xai (hdRest ps) (aiRaw ps) ls last qs').length)
  have hrow : ed0.xrow + ((ls.length + 1 : Nat) : Int) - 1 = ed0.xrow + (ls.length : Int) := by omega
  refine ⟨_, ?_, (?_ : pending _ = rest), (hins.withRow _ hrow).of_ed hb0 hrg0⟩
  rotate_left
  · exact h2
  have he' : edEdit (some (encStr ((rowsG s.xai (hdRest ps) (aiRaw ps) ls last qs').map (fun r => r ++ [10])).flatten))
      ed0.xrow (r2 + 1) s1 = Res.ok () { s1 with ed := ed' } := he
  simp only [bind_apply, h1, he', setPos_apply, pure_apply]

end Neatvi.Lemmas.C08e
