import NeatviVerif.Lemmas.C08fRow
import NeatviVerif.Lemmas.C07dCol
import NeatviVerif.Props.C17b
/-!
# C08f: `l` / `h` (`vi_nextcol`) on a row laid out left to right
-/
set_option linter.unusedSimpArgs false
set_option linter.unusedVariables false
namespace Neatvi.Lemmas.C08f
open Neatvi Neatvi.Uc Neatvi.Vi Neatvi.Ex Neatvi.Lbuf Neatvi.Mot Neatvi.Spec Neatvi.Ren
open Neatvi.Lemmas.C08 Neatvi.Lemmas.C09 Neatvi.Lemmas.C08b Neatvi.Lemmas.C17b Neatvi.Props.C17b

/-- the position table of a row laid out left to right is increasing: this is the hypothesis
under which `Props.C07d.viMotion_l` / `viMotion_h` give the closed form of `l` / `h` -/
theorem posTab_fast_inc (s : VS) (body : List Nat) (hb : ∀ c ∈ body, ValidCp c)
    (hfast : posTab s (encStr (body ++ [10])) = renPositionFast (encStr (body ++ [10]))) :
    StrictInc (posTab s (encStr (body ++ [10]))) (body.length + 1) := by
  have h := fast_strictInc (body ++ [10]) (valid_snoc_ten hb)
  rw [List.length_append] at h
  rw [hfast]
  exact h

/-- an ASCII line is laid out left to right: no reordering is attempted (`uc_slen(s) = strlen(s)`) -/
theorem posTab_fast_ascii (s : VS) (body : List Nat) (hb : ∀ c ∈ body, 0 < c ∧ c < 128) :
    posTab s (encStr (body ++ [10])) = renPositionFast (encStr (body ++ [10])) := by
  have ha : Lemmas.C07.Ascii (body ++ [10]) := Lemmas.C07.ascii_snoc_nl hb
  rw [ha.enc]
  exact Lemmas.C07d.posTab_fast s _ (Or.inl (Lemmas.C07.ucSlen_ascii _ ha))

/-- `l` where the direction context is not right-to-left: `vi_nextcol` to the right, `count` times -/
theorem viMotion_l (row off : Int) (s s1 : VS) (hk : viRead s = Res.ok 108 s1)
    (hdir : 0 ≤ dirCtx s ((lineOf s row).getD [])) :
    viMotion row off s = Res.ok (108,
      repeatMove (fun r o => (nextcol s1 1 r o).map (fun o' => (r, o'))) (cntOf s).toNat row off) s1 := by
  refine (viMotion_key row s s1 108 hk rfl _ _ rfl).trans ?_
  show Res.ok (108, repeatMove (fun r o => (nextcol s1 (if (0 : Int) ≤ dirCtx s ((lineOf s row).getD []) then (1 : Int) else -1)
    r o).map (fun o' => (r, o'))) (cntOf s).toNat row off) s1 = _
  rw [if_pos hdir]

/-- `h` there: to the left -/
theorem viMotion_h (row off : Int) (s s1 : VS) (hk : viRead s = Res.ok 104 s1)
    (hdir : 0 ≤ dirCtx s ((lineOf s row).getD [])) :
    viMotion row off s = Res.ok (104,
      repeatMove (fun r o => (nextcol s1 (-1) r o).map (fun o' => (r, o'))) (cntOf s).toNat row off) s1 := by
  refine (viMotion_key row s s1 104 hk rfl _ _ rfl).trans ?_
  show Res.ok (104, repeatMove (fun r o => (nextcol s1 (-(if (0 : Int) ≤ dirCtx s ((lineOf s row).getD []) then (1 : Int) else -1))
    r o).map (fun o' => (r, o'))) (cntOf s).toNat row off) s1 = _
  rw [if_pos hdir]

end Neatvi.Lemmas.C08f
