import NeatviVerif.Lemmas.C08Motion
import NeatviVerif.Lemmas.C08bInsert
/-!
# C08f: `vc_motion` split into its stages

`vcMotion cmd` = read the second count; `readMotion` (the line motion `viMotionln`, else the motion
`viMotion`); `opRegion` (the region normalisation `normRegion` and the inclusive-motion adjustment);
`applyOp` (the operator dispatch).
-/
namespace Neatvi.Lemmas.C08f
open Neatvi Neatvi.Uc Neatvi.Vi Neatvi.Ex Neatvi.Lbuf Neatvi.Mot Neatvi.Lemmas.C08

/-- the operator dispatch of `vc_motion` -/
def applyOp (cmd : Nat) (r1 o1 r2 o2 : Int) (lnmode : Bool) : M Nat :=
  if cmd == 121 then viYank r1 o1 r2 o2 lnmode
  else if cmd == 100 then viDelete r1 o1 r2 o2 lnmode
  else if cmd == 99 then viChange r1 o1 r2 o2 lnmode
  else if cmd == 126 || cmd == 117 || cmd == 85 then viCase r1 o1 r2 o2 lnmode cmd
  else if cmd == 62 || cmd == 60 then viShift r1 r2 (if cmd == 62 then 1 else -1)
  else if cmd == 33 then do
    let _ ← viPrompt
    unmodelled
    pure VC_WIN
  else pure 0

/-- is the motion `mv` inclusive (`f t e E %`, and `;` `,` repeating a forward / backward find)? -/
def inclusive (s : VS) (mv : Int) : Bool :=
  strHas "fteE%" mv || (mv == 59 && (s.charcmd == 102 || s.charcmd == 116 || s.charcmd == 0))
    || (mv == 44 && (s.charcmd == 70 || s.charcmd == 84 || s.charcmd == 0))

/-- the region handed to the operator: `(r1, o1, r2, o2, lnmode)` from the cursor `(r1, o1)`, the motion
key `mv` and its target `(r2, o2)` (`o2 < 0`: a line motion) -/
def opRegion (s : VS) (mv r1 o1 r2 o2 : Int) : Int × Int × Int × Int × Bool :=
  let lnmode : Bool := o2 < 0
  let (r1, o1, r2, o2) := normRegion s lnmode r1 o1 r2 o2
  let o2 := if !lnmode && inclusive s mv && o2 < eol (lines s) r2 then noeol s r2 o2 + 1 else o2
  (r1, o1, r2, o2, lnmode)

/-- the motion that follows the operator: `none` = no motion key (the key is dropped) -/
def readMotion (cmd : Nat) (r1 o1 : Int) : M (Option (Int × Int × Int)) := do
  let (mvl, r2l) ← viMotionln r1 cmd
  if mvl != 0 then pure (some (mvl, r2l, (-1 : Int))) else do
    let (mv, r2, o2) ← viMotion r1 o1
    if mv == 0 then do
      let _ ← viRead
      pure none
    else pure (some (mv, r2, o2))

/-- `vc_motion` after its count prefix, from the cursor `(r1, o1)` -/
def vcCore (cmd : Nat) (r1 o1 : Int) : M Nat := do
  let res ← readMotion cmd r1 o1
  match res with
  | none => pure 0
  | some (mv, r2, o2) =>
    if mv < 0 then pure 0 else do
      let s ← get
      let (a, b, c, d, ln) := opRegion s mv r1 o1 r2 o2
      applyOp cmd a b c d ln

theorem bind_congr' {α β : Type} (m : M α) (f g : α → M β) (h : ∀ a, f a = g a) : m >>= f = m >>= g := by
  have : f = g := funext h
  rw [this]

theorem vcMotion'_eq_core (cmd : Nat) : vcMotion' cmd = (do
    let s0 ← get
    let a2 ← viPrefix
    modify fun s => { s with arg2 := a2 }
    if a2 < 0 then pure 0 else vcCore cmd s0.ed.xrow (noeol s0 s0.ed.xrow s0.ed.xoff)) := by
  unfold vcMotion' vcCore readMotion
  refine bind_congr' _ _ _ (fun s0 => ?_)
  refine bind_congr' _ _ _ (fun a2 => ?_)
  refine bind_congr' _ _ _ (fun _ => ?_)
  split
  · rfl
  · rw [C07.bind_assoc]
    rfl

/-- `vc_motion`, pointwise: the count prefix, then `vcCore` from the cursor -/
theorem vcMotion_apply (cmd : Nat) (s : VS) : vcMotion cmd s =
    match viPrefix s with
    | Res.ok a2 sp =>
      if a2 < 0 then Res.ok 0 { sp with arg2 := a2 }
      else vcCore cmd s.ed.xrow (noeol s s.ed.xrow s.ed.xoff) { sp with arg2 := a2 }
    | Res.eof => Res.eof
    | Res.trap => Res.trap := by
  rw [vcMotion_eq, vcMotion'_eq_core]
  simp only [bind_apply, get_apply]
  cases viPrefix s with
  | ok a2 sp =>
    simp only []
    show (if a2 < 0 then (pure 0 : M Nat) else _) _ = _
    split <;> rfl
  | eof => rfl
  | trap => rfl

theorem vcCore_apply (cmd : Nat) (r1 o1 : Int) (s : VS) : vcCore cmd r1 o1 s =
    match readMotion cmd r1 o1 s with
    | Res.ok none sm => Res.ok 0 sm
    | Res.ok (some (mv, r2, o2)) sm =>
      if mv < 0 then Res.ok 0 sm
      else applyOp cmd (opRegion sm mv r1 o1 r2 o2).1 (opRegion sm mv r1 o1 r2 o2).2.1
        (opRegion sm mv r1 o1 r2 o2).2.2.1 (opRegion sm mv r1 o1 r2 o2).2.2.2.1
        (opRegion sm mv r1 o1 r2 o2).2.2.2.2 sm
    | Res.eof => Res.eof
    | Res.trap => Res.trap := by
  unfold vcCore
  simp only [bind_apply]
  cases readMotion cmd r1 o1 s with
  | ok res sm =>
    cases res with
    | none => rfl
    | some t =>
      obtain ⟨mv, r2, o2⟩ := t
      simp only []
      split <;> rfl
  | eof => rfl
  | trap => rfl

end Neatvi.Lemmas.C08f
