import NeatviVerif.Lemmas.C08fCore
/-!
# C08f: reading the motion key

`viRead s = Res.ok k s1` is the only assumption made about where the key comes from: the push-back
stack `vibuf` (as for `x` = SPC pushed back) or the terminal queue (`pending`).  Reading keys moves the key queues only:
`Lemmas.C08g.QOnly` (the state is the old one with other queues; `viRead_qonly`), of which `KeyFrame` keeps eight field
equations (`KeyFrame.of_qonly`).  Then the count prefix (`viPrefix_qspec`, `viPrefix_spec`)
and `vi_motionln` on the key: `lnTarget` / `viMotionln_line` (a line-motion key), `viMotionln_rest` (any other key: the
last three tests) and from it `viMotionln_other` (pushed back).  `Props/C07d.lean` states the same key by key.
-/
set_option linter.unusedSimpArgs false
-- `QOnly` bears the namespace of the statements that mention it (C08g); it stands here because C08f and C07d read keys first
namespace Neatvi.Lemmas.C08g
open Neatvi Neatvi.Vi

/-- `s1` is `s` up to the key queues (`ibuf`, `ibufPos`, `typed`, `icmd`, the push-back stack) -/
def QOnly (s s1 : VS) : Prop :=
  ∃ ib ip ty ic vb, s1 = { s with ibuf := ib, ibufPos := ip, typed := ty, icmd := ic, vibuf := vb }

theorem QOnly.refl (s : VS) : QOnly s s := ⟨_, _, _, _, _, rfl⟩

theorem QOnly.trans {s s1 s2 : VS} (h1 : QOnly s s1) (h2 : QOnly s1 s2) : QOnly s s2 := by
  obtain ⟨ib, ip, ty, ic, vb, rfl⟩ := h1
  obtain ⟨ib', ip', ty', ic', vb', rfl⟩ := h2
  exact ⟨ib', ip', ty', ic', vb', rfl⟩

theorem termRead_qonly (s s1 : VS) (c : Int) (h : termRead s = Res.ok c s1) : QOnly s s1 := by
  unfold termRead at h
  simp only [] at h
  split at h
  · cases h
  · injection h with _ h
    subst h
    split <;> exact ⟨_, _, _, _, _, rfl⟩

theorem viRead_qonly (s s1 : VS) (c : Int) (h : viRead s = Res.ok c s1) : QOnly s s1 := by
  unfold viRead at h
  split at h
  · injection h with _ h; subst h; exact ⟨_, _, _, _, _, rfl⟩
  · exact termRead_qonly s s1 c h

theorem viBack_qonly (c : Int) (s : VS) : QOnly s { s with vibuf := c :: s.vibuf } := ⟨_, _, _, _, _, rfl⟩

theorem QOnly.xai {s s1 : VS} (h : QOnly s s1) : s1.xai = s.xai := by
  obtain ⟨ib, ip, ty, ic, vb, rfl⟩ := h; rfl

end Neatvi.Lemmas.C08g

namespace Neatvi.Lemmas.C08f
open Neatvi Neatvi.Uc Neatvi.Vi Neatvi.Ex Neatvi.Lbuf Neatvi.Mot Neatvi.Lemmas.C08 Neatvi.Lemmas.C09 Neatvi.Lemmas.C08b
open Neatvi.Lemmas.C08g (QOnly viRead_qonly viBack_qonly)

theorem viRead_vibuf (s : VS) (c : Int) (v : List Int) (h : s.vibuf = c :: v) :
    viRead s = Res.ok c { s with vibuf := v } := by
  unfold viRead; rw [h]

/-- the key comes from the terminal queue -/
theorem viRead_pending (s : VS) (k : Nat) (rest : Bytes) (hv : s.vibuf = []) (h : pending s = k :: rest) :
    viRead s = Res.ok (k : Int) (afterRead s) ∧ pending (afterRead s) = rest ∧ Reads false [k] s (afterRead s) := by
  have : viRead s = termRead s := by unfold viRead; rw [hv]
  rw [this]
  exact termRead_afterRead s k rest h

/-- what `vi_read` leaves alone: everything but the queues and `icmd` -/
structure KeyFrame (s s1 : VS) : Prop where
  ed : s1.ed = s.ed
  arg1 : s1.arg1 = s.arg1
  arg2 : s1.arg2 = s.arg2
  ybuf : s1.ybuf = s.ybuf
  charlast : s1.charlast = s.charlast
  charcmd : s1.charcmd = s.charcmd
  xkmap : s1.xkmap = s.xkmap
  xrows : s1.xrows = s.xrows

theorem KeyFrame.of_qonly {s s1 : VS} (h : QOnly s s1) : KeyFrame s s1 := by
  obtain ⟨ib, ip, ty, ic, vb, rfl⟩ := h
  exact ⟨rfl, rfl, rfl, rfl, rfl, rfl, rfl, rfl⟩

theorem viRead_frame (s s1 : VS) (c : Int) (h : viRead s = Res.ok c s1) : KeyFrame s s1 :=
  .of_qonly (viRead_qonly s s1 c h)

theorem KeyFrame.lines {s s1 : VS} (h : KeyFrame s s1) : lines s1 = lines s := by
  unfold Vi.lines; rw [h.ed]
theorem KeyFrame.lenOf {s s1 : VS} (h : KeyFrame s s1) : lenOf s1 = lenOf s := by
  unfold Vi.lenOf; rw [h.lines]
theorem KeyFrame.cntOf {s s1 : VS} (h : KeyFrame s s1) : cntOf s1 = cntOf s := by
  unfold Vi.cntOf; rw [h.arg1, h.arg2]

/-- pushing the key back and reading it again -/
theorem viRead_back (s1 : VS) (k : Int) : viRead { s1 with vibuf := k :: s1.vibuf } = Res.ok k s1 := rfl

/-- `vi_prefix()` when the next key is not a digit `1`..`9`: no count, the key is pushed back -/
theorem viPrefix_nondigit (s s1 : VS) (k : Int) (hk : viRead s = Res.ok k s1) (hd : ¬ (49 ≤ k ∧ k ≤ 57)) :
    viPrefix s = Res.ok 0 { s1 with vibuf := k :: s1.vibuf } := by
  unfold viPrefix
  simp only [bind_apply, hk]
  rw [if_neg (by simpa using hd)]
  rfl

theorem KeyFrame.refl (s : VS) : KeyFrame s s := ⟨rfl, rfl, rfl, rfl, rfl, rfl, rfl, rfl⟩

theorem KeyFrame.trans {s s1 s2 : VS} (h1 : KeyFrame s s1) (h2 : KeyFrame s1 s2) : KeyFrame s s2 :=
  ⟨h2.ed.trans h1.ed, h2.arg1.trans h1.arg1, h2.arg2.trans h1.arg2, h2.ybuf.trans h1.ybuf,
    h2.charlast.trans h1.charlast, h2.charcmd.trans h1.charcmd, h2.xkmap.trans h1.xkmap, h2.xrows.trans h1.xrows⟩

theorem KeyFrame.symm {s s1 : VS} (h : KeyFrame s s1) : KeyFrame s1 s :=
  ⟨h.ed.symm, h.arg1.symm, h.arg2.symm, h.ybuf.symm, h.charlast.symm, h.charcmd.symm, h.xkmap.symm, h.xrows.symm⟩

theorem viBack_frame (c : Int) (s : VS) : ∃ sb, viBack c s = Res.ok () sb ∧ QOnly s sb ∧ viRead sb = Res.ok c s :=
  ⟨{ s with vibuf := c :: s.vibuf }, rfl, viBack_qonly c s, rfl⟩

theorem digits_spec : ∀ (f : Nat) (n c : Int) (s sp : VS) (a : Int), 0 ≤ n →
    viPrefix.digits f n c s = Res.ok a sp → 0 ≤ a ∧ QOnly s sp ∧ ∃ k s1, viRead sp = Res.ok k s1 ∧ KeyFrame sp s1 := by
  intro f
  induction f with
  | zero =>
    intro n c s sp a hn h
    unfold viPrefix.digits at h
    simp only [bind_apply] at h
    obtain ⟨sb, e1, e2, e3⟩ := viBack_frame c s
    rw [e1] at h
    injection h with h1 h2
    subst h1; subst h2
    exact ⟨hn, e2, c, s, e3, (KeyFrame.of_qonly e2).symm⟩
  | succ f ih =>
    intro n c s sp a hn h
    unfold viPrefix.digits at h
    split at h
    · rename_i hc
      simp only [bind_apply] at h
      cases hr : viRead s with
      | ok c' s' =>
        rw [hr] at h
        simp only [Bool.and_eq_true, decide_eq_true_eq] at hc
        obtain ⟨a1, a2, a3⟩ := ih _ c' s' sp a (by split <;> omega) h
        exact ⟨a1, (viRead_qonly s s' c' hr).trans a2, a3⟩
      | eof => rw [hr] at h; cases h
      | trap => rw [hr] at h; cases h
    · simp only [bind_apply] at h
      obtain ⟨sb, e1, e2, e3⟩ := viBack_frame c s
      rw [e1] at h
      injection h with h1 h2
      subst h1; subst h2
      exact ⟨hn, e2, c, s, e3, (KeyFrame.of_qonly e2).symm⟩

theorem viPrefix_qspec (s sp : VS) (a : Int) (h : viPrefix s = Res.ok a sp) :
    0 ≤ a ∧ QOnly s sp ∧ ∃ k s1, viRead sp = Res.ok k s1 ∧ KeyFrame sp s1 := by
  unfold viPrefix at h
  simp only [bind_apply] at h
  cases hr : viRead s with
  | ok c s' =>
    rw [hr] at h
    simp only [] at h
    have hf := viRead_qonly s s' c hr
    split at h
    · obtain ⟨a1, a2, a3⟩ := digits_spec 64 0 c s' sp a (by omega) h
      exact ⟨a1, hf.trans a2, a3⟩
    · simp only [bind_apply] at h
      obtain ⟨sb, e1, e2, e3⟩ := viBack_frame c s'
      rw [e1] at h
      injection h with h1 h2
      subst h1; subst h2
      exact ⟨by omega, hf.trans e2, c, s', e3, (KeyFrame.of_qonly e2).symm⟩
  | eof => rw [hr] at h; cases h
  | trap => rw [hr] at h; cases h

theorem viPrefix_spec (s sp : VS) (a : Int) (h : viPrefix s = Res.ok a sp) :
    0 ≤ a ∧ KeyFrame s sp ∧ ∃ k s1, viRead sp = Res.ok k s1 ∧ KeyFrame sp s1 :=
  have ⟨h1, h2, h3⟩ := viPrefix_qspec s sp a h
  ⟨h1, .of_qonly h2, h3⟩

/-- a one-digit count `d` (`1`..`9`) followed by a key that is not a digit -/
theorem viPrefix_digit (s s1 s2 : VS) (d k : Int) (hd : viRead s = Res.ok d s1) (h1 : 49 ≤ d) (h2 : d ≤ 57)
    (hk : viRead s1 = Res.ok k s2) (hnd : ¬ (48 ≤ k ∧ k ≤ 57)) :
    viPrefix s = Res.ok (d - 48) { s2 with vibuf := k :: s2.vibuf } := by
  unfold viPrefix
  simp only [bind_apply, hd]
  rw [if_pos (by simp; omega)]
  unfold viPrefix.digits
  rw [if_pos (by simp; omega)]
  simp only [bind_apply, hk]
  unfold viPrefix.digits
  rw [if_neg (by simpa using hnd)]
  simp only [bind_apply]
  show Res.ok _ _ = _
  congr 1
  rw [if_pos (by omega)]
  omega

theorem termRead_arg2 (s s1 : VS) (k a2 : Int) (h : termRead s = Res.ok k s1) :
    termRead { s with arg2 := a2 } = Res.ok k { s1 with arg2 := a2 } := by
  unfold termRead at h ⊢
  simp only [] at h ⊢
  by_cases hc : (decide (s.ibufPos ≥ s.ibuf.length) && s.typed.isEmpty) = true
  · rw [if_pos hc] at h; cases h
  · rw [if_neg hc] at h
    rw [if_neg hc]
    by_cases hn : s.ibufPos ≥ s.ibuf.length
    · simp only [hn, decide_true, if_true] at h ⊢
      injection h with h1 h2
      subst h1; subst h2
      rfl
    · simp only [hn, decide_false, Bool.false_eq_true, if_false] at h ⊢
      injection h with h1 h2
      subst h1; subst h2
      rfl

/-- `vi_read` does not look at `arg2` -/
theorem viRead_arg2 (s s1 : VS) (k a2 : Int) (h : viRead s = Res.ok k s1) :
    viRead { s with arg2 := a2 } = Res.ok k { s1 with arg2 := a2 } := by
  have hsh : s.vibuf = [] ∨ ∃ c r, s.vibuf = c :: r := by
    cases s.vibuf with
    | nil => exact Or.inl rfl
    | cons c r => exact Or.inr ⟨c, r, rfl⟩
  rcases hsh with hv | ⟨c, r, hv⟩
  · have e1 : viRead s = termRead s := by unfold viRead; rw [hv]
    have e2 : viRead { s with arg2 := a2 } = termRead { s with arg2 := a2 } := by
      unfold viRead
      have : ({ s with arg2 := a2 } : VS).vibuf = [] := hv
      rw [this]
    rw [e2]
    rw [e1] at h
    exact termRead_arg2 s s1 k a2 h
  · rw [viRead_vibuf s c r hv] at h
    injection h with h1 h2
    subst h1; subst h2
    rw [viRead_vibuf { s with arg2 := a2 } c r hv]

/-- the target row of the line motion `k` after the operator `cmd` from row `row` (before the clamp at
0), for the keys that read nothing further: `RET + - _ j k G H L M` and the doubled operator letter (a NUL key
at top level, `cmd = 0`, is not one) -/
def lnTarget (s : VS) (row cmd k : Int) : Option Int :=
  let cnt := cntOf s
  let n := lenOf s
  if k == 10 || k == 43 then some (min (row + cnt) (n - 1))
  else if k == 45 then some (max (row - cnt) 0)
  else if k == 95 then some (min (row + cnt - 1) (n - 1))
  else if k == 39 then none
  else if k == 106 then some (min (row + cnt) (n - 1))
  else if k == 107 then some (max (row - cnt) 0)
  else if k == 71 then some (if s.arg1 != 0 || s.arg2 != 0 then min (cnt - 1) (n - 1) else n - 1)
  else if k == 72 then some (min (s.ed.xtop + cnt - 1) (n - 1))
  else if k == 76 then some (min (s.ed.xtop + s.xrows - 1 - cnt + 1) (n - 1))
  else if k == 77 then some (min (s.ed.xtop + s.xrows / 2) (n - 1))
  else if cmd != 0 && k == cmd then some (min (row + cnt - 1) (n - 1))
  else none

/-- `vi_motionln` and `lnTarget` test the key in the same order: they are compared branch by branch -/
theorem lnTarget_branch {c : Prop} [Decidable c] {m m' : M (Int × Int)} {o o' : Option Int} {s1 : VS} {k t : Int}
    (h1 : o = some t → m s1 = Res.ok (k, if t < 0 then 0 else t) s1)
    (h2 : o' = some t → m' s1 = Res.ok (k, if t < 0 then 0 else t) s1) :
    (if c then o else o') = some t → (if c then m else m') s1 = Res.ok (k, if t < 0 then 0 else t) s1 := by
  by_cases h : c
  · rw [if_pos h, if_pos h]
    exact h1
  · rw [if_neg h, if_neg h]
    exact h2

/-- a line-motion key: `vi_motionln` returns the key and the target row -/
theorem viMotionln_line (row cmd : Int) (s s1 : VS) (k t : Int) (hk : viRead s = Res.ok k s1)
    (ht : lnTarget s row cmd k = some t) :
    viMotionln row cmd s = Res.ok (k, if t < 0 then 0 else t) s1 := by
  unfold viMotionln
  simp only [bind_apply, get_apply, hk]
  unfold lnTarget at ht
  simp only [] at ht
  revert ht
  refine lnTarget_branch ?_ <| lnTarget_branch ?_ <| lnTarget_branch ?_ <| lnTarget_branch ?_ <|
    lnTarget_branch ?_ <| lnTarget_branch ?_ <| lnTarget_branch ?_ <| lnTarget_branch ?_ <| lnTarget_branch ?_ <|
    lnTarget_branch ?_ <| lnTarget_branch ?_ ?_
  all_goals intro h; cases h
  all_goals rfl

theorem viMotionln_rest (row cmd : Int) (s s1 : VS) (c : Int) (hrd : viRead s = Res.ok c s1)
    (hnk : (c == 10 || c == 43 || c == 45 || c == 95 || c == 39 || c == 106 || c == 107 || c == 71 || c == 72 ||
      c == 76 || c == 77) = false) :
    viMotionln row cmd s =
      (if cmd != 0 && c == cmd then
        (pure (c, if min (row + cntOf s - 1) (lenOf s - 1) < 0 then 0 else min (row + cntOf s - 1) (lenOf s - 1)) :
          M (Int × Int))
      else if c == 37 && (s.arg1 != 0 || s.arg2 != 0) then
        if cntOf s > 100 then pure (-1, row)
        else pure (c, if max 0 (lenOf s - 1) * cntOf s / 100 < 0 then 0 else max 0 (lenOf s - 1) * cntOf s / 100)
      else do viBack c; pure (0, row)) s1 := by
  simp only [Bool.or_eq_false_iff] at hnk
  obtain ⟨⟨⟨⟨⟨⟨⟨⟨⟨⟨a1, a2⟩, a3⟩, a4⟩, a5⟩, a6⟩, a7⟩, a8⟩, a9⟩, a10⟩, a11⟩ := hnk
  refine (Lemmas.C07.bind_ok _ _ _ _ _ hrd).trans ?_
  simp only [a1, a2, a3, a4, a5, a6, a7, a8, a9, a10, a11, Bool.or_self, Bool.false_eq_true, if_false]

/-- the keys `vi_motionln` looks at -/
def isLnKey (cmd k : Int) : Bool :=
  k == 10 || k == 43 || k == 45 || k == 95 || k == 39 || k == 106 || k == 107 || k == 71 || k == 72 || k == 76 ||
    k == 77 || k == cmd || k == 37

/-- any other key is pushed back: no line motion -/
theorem viMotionln_other (row cmd : Int) (s s1 : VS) (k : Int) (hk : viRead s = Res.ok k s1)
    (hn : isLnKey cmd k = false) :
    viMotionln row cmd s = Res.ok (0, row) { s1 with vibuf := k :: s1.vibuf } := by
  unfold isLnKey at hn
  simp only [Bool.or_eq_false_iff] at hn
  obtain ⟨⟨⟨⟨⟨⟨⟨⟨⟨⟨⟨⟨a1, a2⟩, a3⟩, a4⟩, a5⟩, a6⟩, a7⟩, a8⟩, a9⟩, a10⟩, a11⟩, a12⟩, a13⟩ := hn
  rw [viMotionln_rest row cmd s s1 k hk (by simp only [a1, a2, a3, a4, a5, a6, a7, a8, a9, a10, a11, Bool.or_self]),
    if_neg (by simp [a12]), if_neg (by simp [a13])]
  rfl

end Neatvi.Lemmas.C08f
