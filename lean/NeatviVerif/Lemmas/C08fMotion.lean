import NeatviVerif.Lemmas.C08fOps
/-!
# C08f: `readMotion` and `vi_motion` key by key (`viMotion_key`: what runs once the key has been pushed back by
`vi_motionln` and read again; a key that is no motion: `viMotion_other`, `PassedOn`), and the region `opRegion` hands
to the operator
-/
set_option linter.unusedSimpArgs false
set_option linter.unusedVariables false
namespace Neatvi.Lemmas.C08f
open Neatvi Neatvi.Uc Neatvi.Vi Neatvi.Ex Neatvi.Lbuf Neatvi.Mot Neatvi.Spec Neatvi.Lemmas.C08 Neatvi.Lemmas.C09 Neatvi.Lemmas.C08b

theorem readMotion_line (cmd : Nat) (r1 o1 : Int) (s s1 : VS) (k t : Int) (hk : viRead s = Res.ok k s1)
    (ht : lnTarget s r1 cmd k = some t) (hk0 : k ≠ 0) :
    readMotion cmd r1 o1 s = Res.ok (some (k, (if t < 0 then 0 else t), -1)) s1 := by
  unfold readMotion
  simp only [bind_apply]
  rw [viMotionln_line r1 cmd s s1 k t hk ht]
  simp only []
  rw [if_pos (by simpa using hk0)]
  rfl

/-- not a line motion: the key is handed to `vi_motion` -/
theorem readMotion_char (cmd : Nat) (r1 o1 : Int) (s s1 s2 : VS) (k mv r2 o2 : Int) (hk : viRead s = Res.ok k s1)
    (hn : isLnKey cmd k = false)
    (hm : viMotion r1 o1 { s1 with vibuf := k :: s1.vibuf } = Res.ok (mv, r2, o2) s2) (hmv : mv ≠ 0) :
    readMotion cmd r1 o1 s = Res.ok (some (mv, r2, o2)) s2 := by
  unfold readMotion
  simp only [bind_apply]
  rw [viMotionln_other r1 cmd s s1 k hk hn]
  simp only [bne_self_eq_false, Bool.false_eq_true, if_false, bind_apply]
  rw [hm]
  simp only []
  rw [if_neg (by simpa using hmv)]
  rfl

/-! `vi_motion`, key by key; `s1` is the state after the key was read. -/

/-- the step of `SPC`: one character to the right, up to the newline -/
def stepSpc (ls : Lines) (r o : Int) : Option (Int × Int) :=
  if o + 1 < 0 || (lineAt ls r).isNone || o + 1 ≥ slenAt ls r then none else some (r, o + 1)

/-- the step of `BS` / `DEL`: one character to the left -/
def stepBs (ls : Lines) (r o : Int) : Option (Int × Int) :=
  if o - 1 < 0 || (lineAt ls r).isNone || o - 1 ≥ slenAt ls r then none else some (r, o - 1)

/-- `vi_motion` begins with `vi_motionln`, which pushes back a key `mv` that is no line motion, and reads the
key again: what follows (`g`) runs on `mv` in the state `s1` after the key -/
theorem viMotion_key {α : Type} (row : Int) (s s1 : VS) (mv : Int) (hk : viRead s = Res.ok mv s1)
    (hln : isLnKey 0 mv = false) (f : Int × Int → M α) (g : Int → M α) (hf : f (0, row) = viRead >>= g) :
    (viMotionln row 0 >>= f) s = g mv s1 := by
  rw [bind_apply, viMotionln_other row 0 s s1 mv hk hln]
  show f (0, row) _ = _
  rw [hf, bind_apply, viRead_back]

theorem viMotion_spc (row off : Int) (s s1 : VS) (hk : viRead s = Res.ok 32 s1) :
    viMotion row off s = Res.ok (32, repeatMove (stepSpc (lines s1)) (cntOf s).toNat row off) s1 :=
  (viMotion_key row s s1 32 hk rfl _ _ rfl).trans rfl

theorem viMotion_bs (row off : Int) (s s1 : VS) (hk : viRead s = Res.ok 8 s1) :
    viMotion row off s = Res.ok (8, repeatMove (stepBs (lines s1)) (cntOf s).toNat row off) s1 :=
  (viMotion_key row s s1 8 hk rfl _ _ rfl).trans rfl

theorem viMotion_dollar (row off : Int) (s s1 : VS) (hk : viRead s = Res.ok 36 s1) :
    viMotion row off s = Res.ok (36, row, eol (lines s1) row) s1 :=
  (viMotion_key row s s1 36 hk rfl _ _ rfl).trans rfl

theorem viMotion_zero (row off : Int) (s s1 : VS) (hk : viRead s = Res.ok 48 s1) :
    viMotion row off s = Res.ok (48, row, 0) s1 :=
  (viMotion_key row s s1 48 hk rfl _ _ rfl).trans rfl

/-- the word motions `B E W b e w`: the scan `viMotion.go`, `count` times -/
theorem viMotion_word (row off : Int) (s s1 : VS) (mv : Int) (hk : viRead s = Res.ok mv s1)
    (hmv : (mv == 66 || mv == 69 || mv == 87 || mv == 98 || mv == 101 || mv == 119) = true) :
    viMotion row off s =
      Res.ok (mv, viMotion.go mv (lines s1) (mv == 66 || mv == 69 || mv == 87) (cntOf s).toNat row off) s1 := by
  have hln : isLnKey 0 mv = false := by
    simp only [Bool.or_eq_true, beq_iff_eq] at hmv
    rcases hmv with ((((rfl | rfl) | rfl) | rfl) | rfl) | rfl <;> rfl
  have hne : ¬ (mv == 102 || mv == 70 || mv == 116 || mv == 84) = true ∧ ¬ (mv == 59 || mv == 44) = true ∧
      ¬ (mv == 104 || mv == 108) = true := by
    simp only [Bool.or_eq_true, beq_iff_eq] at hmv ⊢
    omega
  refine (viMotion_key row s s1 mv hk hln _ _ rfl).trans ?_
  show (if (mv == 102 || mv == 70 || mv == 116 || mv == 84) = true then _ else _ : M (Int × Int × Int)) s1 = _
  rw [if_neg hne.1, if_neg hne.2.1, if_neg hne.2.2, if_pos hmv]
  rfl

theorem viMotion_e (row off : Int) (s s1 : VS) (hk : viRead s = Res.ok 101 s1) :
    viMotion row off s = Res.ok (101, viMotion.go 101 (lines s1) false (cntOf s).toNat row off) s1 :=
  viMotion_word row off s s1 101 hk rfl

theorem viMotion_w (row off : Int) (s s1 : VS) (hk : viRead s = Res.ok 119 s1) :
    viMotion row off s = Res.ok (119, viMotion.go 119 (lines s1) false (cntOf s).toNat row off) s1 :=
  viMotion_word row off s s1 119 hk rfl

/-- the finds `f F t T`: the character is read (`viChar`) and remembered, then `findchar` -/
theorem viMotion_find (row off : Int) (s s1 s2 : VS) (cs : Bytes) (mv : Int) (hk : viRead s = Res.ok mv s1)
    (hmv : (mv == 102 || mv == 70 || mv == 116 || mv == 84) = true) (hc : viChar s1 = Res.ok (some cs) s2) :
    viMotion row off s =
      match findchar (lines s1) cs mv.toNat (cntOf s) row off with
      | none => Res.ok (-1, row, off) { s2 with charlast := cs, charcmd := mv.toNat }
      | some o => Res.ok (mv, row, o) { s2 with charlast := cs, charcmd := mv.toNat } := by
  have hln : isLnKey 0 mv = false := by
    simp only [Bool.or_eq_true, beq_iff_eq] at hmv
    rcases hmv with ((rfl | rfl) | rfl) | rfl <;> rfl
  refine (viMotion_key row s s1 mv hk hln _ _ rfl).trans ?_
  show (if (mv == 102 || mv == 70 || mv == 116 || mv == 84) = true then _ else _ : M (Int × Int × Int)) s1 = _
  rw [if_pos hmv]
  show (viChar >>= _) s1 = _
  rw [bind_apply, hc]
  simp only []
  cases findchar (lines s1) cs mv.toNat (cntOf s) row off <;> rfl

theorem viMotion_f (row off : Int) (s s1 s2 : VS) (cs : Bytes) (hk : viRead s = Res.ok 102 s1)
    (hc : viChar s1 = Res.ok (some cs) s2) :
    viMotion row off s =
      match findchar (lines s1) cs 102 (cntOf s) row off with
      | none => Res.ok (-1, row, off) { s2 with charlast := cs, charcmd := 102 }
      | some o => Res.ok (102, row, o) { s2 with charlast := cs, charcmd := 102 } :=
  viMotion_find row off s s1 s2 cs 102 hk rfl hc

theorem viMotion_t (row off : Int) (s s1 s2 : VS) (cs : Bytes) (hk : viRead s = Res.ok 116 s1)
    (hc : viChar s1 = Res.ok (some cs) s2) :
    viMotion row off s =
      match findchar (lines s1) cs 116 (cntOf s) row off with
      | none => Res.ok (-1, row, off) { s2 with charlast := cs, charcmd := 116 }
      | some o => Res.ok (116, row, o) { s2 with charlast := cs, charcmd := 116 } :=
  viMotion_find row off s s1 s2 cs 116 hk rfl hc

theorem viMotion_F_ (row off : Int) (s s1 s2 : VS) (cs : Bytes) (hk : viRead s = Res.ok 70 s1)
    (hc : viChar s1 = Res.ok (some cs) s2) :
    viMotion row off s =
      match findchar (lines s1) cs 70 (cntOf s) row off with
      | none => Res.ok (-1, row, off) { s2 with charlast := cs, charcmd := 70 }
      | some o => Res.ok (70, row, o) { s2 with charlast := cs, charcmd := 70 } :=
  viMotion_find row off s s1 s2 cs 70 hk rfl hc

theorem viMotion_T_ (row off : Int) (s s1 s2 : VS) (cs : Bytes) (hk : viRead s = Res.ok 84 s1)
    (hc : viChar s1 = Res.ok (some cs) s2) :
    viMotion row off s =
      match findchar (lines s1) cs 84 (cntOf s) row off with
      | none => Res.ok (-1, row, off) { s2 with charlast := cs, charcmd := 84 }
      | some o => Res.ok (84, row, o) { s2 with charlast := cs, charcmd := 84 } :=
  viMotion_find row off s s1 s2 cs 84 hk rfl hc

/-- a line motion: the rows in order, line mode -/
theorem opRegion_line (s : VS) (mv r1 o1 r2 : Int) :
    ∃ a b, opRegion s mv r1 o1 r2 (-1) = (min r1 r2, a, max r1 r2, b, true) := by
  unfold opRegion normRegion
  have hd : decide ((-1 : Int) < 0) = true := by decide
  simp only [hd, if_true, Bool.not_true, Bool.false_and, Bool.false_eq_true, if_false]
  by_cases h : r1 > r2
  · rw [if_pos h]
    simp only []
    rw [show min r1 r2 = r2 by omega, show max r1 r2 = r1 by omega]
    exact ⟨_, _, rfl⟩
  · rw [if_neg h]
    simp only []
    rw [show min r1 r2 = r1 by omega, show max r1 r2 = r2 by omega]
    exact ⟨_, _, rfl⟩

/-- a motion within the row: the offsets in order, the inclusive adjustment -/
theorem opRegion_row (s : VS) (mv r o t : Int) (ht : 0 ≤ t) :
    opRegion s mv r o r t = (r, noeol s r (min o t), r,
      (if inclusive s mv && decide (max o t < eol (lines s) r) then noeol s r (max o t) + 1 else max o t), false) := by
  unfold opRegion normRegion
  have hd : decide (t < 0) = false := by simp; omega
  simp only [hd, Bool.false_eq_true, if_false, Bool.not_false, Bool.true_and, gt_iff_lt, Int.lt_irrefl, beq_self_eq_true]
  by_cases h : t < o
  · rw [if_pos (by simpa using h)]
    simp only []
    rw [show min o t = t by omega, show max o t = o by omega]
  · rw [if_neg (by simpa using h)]
    simp only []
    rw [show min o t = o by omega, show max o t = t by omega]

/-! ### a key that is no motion at all

`vi_yankbuf`, `vi_prefix` and `vi_motion` each read it and push it back. -/

/-- the keys `vi_motion` takes itself, once `vi_motionln` has passed -/
def isMvKey (k : Int) : Bool :=
  k == 102 || k == 70 || k == 116 || k == 84 || k == 59 || k == 44 || k == 104 || k == 108 || k == 66 || k == 69 ||
    k == 87 || k == 98 || k == 101 || k == 119 || k == 123 || k == 125 || k == 91 || k == 93 || k == 48 || k == 94 ||
    k == 36 || k == 124 || k == 47 || k == 63 || k == 110 || k == 78 || k == 1 || k == 32 || k == 127 || k == 8 ||
    k == 96 || k == 37

theorem viYankbuf_other (s s1 : VS) (k : Int) (hk : viRead s = Res.ok k s1) (h : k ≠ 34) :
    viYankbuf s = Res.ok 0 { s1 with vibuf := k :: s1.vibuf } := by
  unfold viYankbuf
  simp only [bind_apply, hk]
  rw [if_neg (by simpa using h)]
  rfl

theorem viMotion_other (row off : Int) (s s1 : VS) (k : Int) (hk : viRead s = Res.ok k s1)
    (hl : isLnKey 0 k = false) (hm : isMvKey k = false) :
    viMotion row off s = Res.ok (0, row, off) { s1 with vibuf := k :: s1.vibuf } := by
  unfold isMvKey at hm
  simp only [Bool.or_eq_false_iff] at hm
  refine (viMotion_key row s s1 k hk hl _ _ rfl).trans ?_
  simp only [↓reduceIte, bind_apply, get_apply, hm, Bool.or_self, Bool.false_eq_true]
  rfl

/-- a key that `viPre` has pushed back stays there: reading it and pushing it back again changes nothing -/
theorem unread_eq (s : VS) (k : Int) (v : List Int) (h : s.vibuf = k :: v) :
    { { s with vibuf := v } with vibuf := k :: v } = s := by
  cases s
  cases h
  rfl

/-- a key that is neither a register prefix, a count nor a motion: `viPre` passes it on to the dispatcher -/
structure PassedOn (k : Int) : Prop where
  noReg : k ≠ 34
  noDigit : ¬ (49 ≤ k ∧ k ≤ 57)
  noLn : isLnKey 0 k = false
  noMv : isMvKey k = false

theorem viYankbuf_unread (s : VS) (k : Int) (v : List Int) (h : s.vibuf = k :: v) (hk : PassedOn k) :
    viYankbuf s = Res.ok 0 s := by
  rw [viYankbuf_other s _ k (viRead_vibuf s k v h) hk.noReg]
  exact congrArg _ (unread_eq s k v h)

theorem viPrefix_unread (s : VS) (k : Int) (v : List Int) (h : s.vibuf = k :: v) (hk : PassedOn k) :
    viPrefix s = Res.ok 0 s := by
  rw [viPrefix_nondigit s _ k (viRead_vibuf s k v h) hk.noDigit]
  exact congrArg _ (unread_eq s k v h)

theorem viMotion_unread (row off : Int) (s : VS) (k : Int) (v : List Int) (h : s.vibuf = k :: v) (hk : PassedOn k) :
    viMotion row off s = Res.ok (0, row, off) s := by
  rw [viMotion_other row off s _ k (viRead_vibuf s k v h) hk.noLn hk.noMv]
  exact congrArg _ (unread_eq s k v h)

end Neatvi.Lemmas.C08f
