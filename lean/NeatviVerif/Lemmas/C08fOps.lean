import NeatviVerif.Lemmas.C08fKeys
import NeatviVerif.Props.C08
/-!
# C08f: the operator functions never trap on a valid region (totality), with their effect
-/
set_option linter.unusedSimpArgs false
set_option linter.unusedVariables false
namespace Neatvi.Lemmas.C08f
open Neatvi Neatvi.Uc Neatvi.Vi Neatvi.Ex Neatvi.Lbuf Neatvi.Mot Neatvi.Spec Neatvi.Lemmas.C08 Neatvi.Lemmas.C09 Neatvi.Lemmas.C08b

/-- the lines `lo..hi` as one text -/
def rowsText (ls : List Bytes) (lo hi : Int) : Bytes := ((ls.drop lo.toNat).take (hi.toNat - lo.toNat + 1)).flatten

/-- line-wise `vi_delete` over the rows `r1..r2` of the buffer: total -/
theorem viDelete_line_total (s : VS) (r1 o1 r2 o2 : Int) (lb : Lb) (hlb : s.ed.lb = some lb)
    (h0 : 0 ≤ r1) (h12 : r1 ≤ r2) (h2 : r2 < lenOf s) :
    ∃ s', viDelete r1 o1 r2 o2 true s = Res.ok VC_OK s' ∧
      lines s' = (lines s).take r1.toNat ++ (lines s).drop (r2.toNat + 1) ∧
      s'.ed.regs = s.ed.regs.put s.ybuf (rowsText (lines s) r1 r2) 1 ∧
      s'.ed.xrow = min r1 (max 0 (lenOf s' - 1)) ∧ s'.ed.xoff = Mot.indents (lines s') s'.ed.xrow ∧
      s' = { s with ed := s'.ed } := by
  have hreg := Lemmas.C08.lbufRegion_lines s r1 r2 h0 h12 h2
  obtain ⟨ed', he⟩ := Lemmas.C06.ed_edit_total
    ({ s.ed with regs := s.ed.regs.put s.ybuf (rowsText (lines s) r1 r2) 1 } : Ed) lb none r1 (r2 + 1) hlb h0 (by omega)
  have hrun : viDelete r1 o1 r2 o2 true s = Res.ok VC_OK
      { s with ed := { ed' with xrow := min r1 (max 0 (((C06.lines ed').length : Int) - 1)),
                                xoff := Mot.indents (C06.lines ed') (min r1 (max 0 (((C06.lines ed').length : Int) - 1))) } } := by
    unfold viDelete
    simp only [bind_apply, get_apply]
    simp only [if_true, Bool.not_true, Bool.false_eq_true, if_false]
    rw [hreg]
    simp only [liftO_some, regPut_apply, bind_apply, edEdit_apply]
    unfold rowsText at he
    rw [he]
    rfl
  obtain ⟨a1, a2, a3, a4, _, _, _⟩ := Props.C08.viDelete_line_spec r1 o1 r2 o2 s _ _ hrun h0 h12 h2
  exact ⟨_, hrun, a1, a2, a3, a4, rfl⟩

/-- `vi_yank` in line mode over the rows `r1..r2`: total -/
theorem viYank_line_total (s : VS) (r1 o1 r2 o2 : Int) (h0 : 0 ≤ r1) (h12 : r1 ≤ r2) (h2 : r2 < lenOf s) :
    viYank r1 o1 r2 o2 true s = Res.ok VC_COL
      { s with ed := { s.ed with regs := s.ed.regs.put s.ybuf (rowsText (lines s) r1 r2) 1, xrow := r1 } } := by
  have hreg := Lemmas.C08.lbufRegion_lines s r1 r2 h0 h12 h2
  unfold viYank
  simp only [bind_apply, get_apply, if_true]
  rw [hreg]
  rfl

/-- character-wise `vi_delete` of the characters `[a, b)` of the row `r` whose line is
`encStr (body ++ [10])`: total -/
theorem viDelete_row_total (s : VS) (r : Int) (body : List Nat) (a b : Nat) (lb : Lb) (hlb : s.ed.lb = some lb)
    (hr0 : 0 ≤ r) (hline : (lines s)[r.toNat]? = some (encStr (body ++ [10])))
    (hb : ∀ c ∈ body, ValidCp c) (hb10 : 10 ∉ body) (hab : a ≤ b) (hbl : b ≤ body.length) :
    ∃ s', viDelete r a r b false s = Res.ok VC_OK s' ∧
      lines s' = (lines s).take r.toNat ++ [encStr (body.take a ++ body.drop b ++ [10])] ++ (lines s).drop (r.toNat + 1) ∧
      s'.ed.regs = s.ed.regs.put s.ybuf (encStr ((body.take b).drop a)) 0 ∧
      s'.ed.xrow = r ∧ s'.ed.xoff = a ∧ s' = { s with ed := s'.ed } := by
  have hrlt : r.toNat < (lines s).length := (List.getElem?_eq_some_iff.mp hline).1
  obtain ⟨hreg, e1, e2⟩ := region_line s r body a b hr0 hline hb hab hbl
  obtain ⟨ed', he⟩ := Lemmas.C06.ed_edit_total
    ({ s.ed with regs := s.ed.regs.put s.ybuf (encStr ((body.take b).drop a)) 0 } : Ed) lb
    (some (encStr (body.take a) ++ encStr (body.drop b ++ [10]))) r (r + 1) hlb hr0 (by omega)
  have hrun : viDelete r a r b false s = Res.ok VC_OK { s with ed := { ed' with xrow := r, xoff := a } } := by
    unfold viDelete
    simp only [bind_apply, get_apply]
    simp only [Bool.false_eq_true, if_false, Bool.not_false, if_true]
    rw [hreg]
    simp only [liftO_some, regPut_apply, bind_apply]
    rw [e1, e2]
    simp only [liftO_some, edEdit_apply]
    rw [he]
    rfl
  have hlen : r < lenOf s := by show r < ((lines s).length : Int); omega
  obtain ⟨region, pref, post, h1, h2, h3, h4, h5, h6, h7, _⟩ :=
    Props.C08.viDelete_char_spec r a r b s _ _ hrun hr0 (Int.le_refl _) hlen
  rw [hreg] at h1
  rw [e1] at h2
  rw [e2] at h3
  cases h1; cases h2; cases h3
  refine ⟨_, hrun, ?_, h5, h6, h7, rfl⟩
  rw [h4, ← encStr_append, ← List.append_assoc, splitLines_wf _ (wfLine_enc ?_)]
  intro hm
  rcases List.mem_append.mp hm with hm | hm
  · exact hb10 (List.mem_of_mem_take hm)
  · exact hb10 (List.mem_of_mem_drop hm)

/-- character-wise `vi_yank` of the characters `[a, b)` of the row `r`: total -/
theorem viYank_row_total (s : VS) (r : Int) (body : List Nat) (a b : Nat)
    (hr0 : 0 ≤ r) (hline : (lines s)[r.toNat]? = some (encStr (body ++ [10])))
    (hb : ∀ c ∈ body, ValidCp c) (hab : a ≤ b) (hbl : b ≤ body.length) :
    viYank r a r b false s = Res.ok VC_COL
      { s with ed := { s.ed with regs := s.ed.regs.put s.ybuf (encStr ((body.take b).drop a)) 0, xrow := r, xoff := a } } := by
  unfold viYank
  simp only [bind_apply, get_apply, Bool.false_eq_true, if_false]
  rw [(region_line s r body a b hr0 hline hb hab hbl).1]
  rfl

theorem markSet_bufs (c : Nat) (r o : Int) (s : VS) : ∃ B,
    markSet c r o s = Res.ok () { s with ed := { s.ed with bufs := B } } ∧
    lines { s with ed := { s.ed with bufs := B } } = lines s := by
  unfold markSet withEd Vi.modify
  cases h : s.ed.lb with
  | none => exact ⟨s.ed.bufs, by simp [h], rfl⟩
  | some lb =>
    refine ⟨(s.ed.setLb (setMark lb c r o)).bufs, by simp only [h]; rw [← Lemmas.C06.setLb_fields], ?_⟩
    show Lemmas.C06.lines _ = Lemmas.C06.lines s.ed
    rw [← Lemmas.C06.setLb_fields, Lemmas.C06.lines_of_lb (Lemmas.C06.setLb_lb s.ed lb _ h), Lemmas.C06.lines_of_lb h]
    unfold setMark; split <;> rfl

end Neatvi.Lemmas.C08f
