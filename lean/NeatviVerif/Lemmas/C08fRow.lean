import NeatviVerif.Lemmas.C08fMotion
/-!
# C08f: the cursor, the reference `span` and `opRegion` on one row whose line is `encStr (body ++ [10])`
-/
set_option linter.unusedSimpArgs false
set_option linter.unusedVariables false
namespace Neatvi.Lemmas.C08f
open Neatvi Neatvi.Uc Neatvi.Vi Neatvi.Ex Neatvi.Lbuf Neatvi.Mot Neatvi.Spec Neatvi.Lemmas.C08 Neatvi.Lemmas.C09 Neatvi.Lemmas.C08b

theorem lineAt_of_get (ls : Lines) (r : Int) (l : Bytes) (h0 : 0 ≤ r) (h : ls[r.toNat]? = some l) : lineAt ls r = some l := by
  unfold lineAt; rw [if_neg (by omega), h]

/-- on a character of the line `ren_noeol` keeps the offset -/
theorem noeol_line (s : VS) (r : Int) (body : List Nat) (o : Nat) (h0 : 0 ≤ r) (hb : ∀ c ∈ body, ValidCp c)
    (hb10 : 10 ∉ body) (hline : (lines s)[r.toNat]? = some (encStr (body ++ [10]))) (ho : o < body.length) :
    noeol s r (o : Int) = (o : Int) := by
  unfold noeol
  rw [lineOf_of_get s r _ h0 hline]
  exact renNoeol_body body hb hb10 o ho

/-- the reference span between the cursor `o` and the target `t` on a line of `len` characters:
`[min o t, max o t)`, and one more character for an inclusive motion unless the end is the newline -/
def span (incl : Bool) (o t len : Nat) : Nat × Nat :=
  (min o t, if incl && decide (max o t < len) then max o t + 1 else max o t)

theorem span_le (incl : Bool) (o t len : Nat) (ho : o ≤ len) (ht : t ≤ len) :
    (span incl o t len).1 ≤ (span incl o t len).2 ∧ (span incl o t len).2 ≤ len := by
  unfold span
  by_cases h : (incl && decide (max o t < len)) = true
  · rw [if_pos h]
    simp only [Bool.and_eq_true, decide_eq_true_eq] at h
    omega
  · rw [if_neg h]
    omega

/-- `opRegion` on the row: the reference span -/
theorem opRegion_span (s : VS) (mv r : Int) (body : List Nat) (o t : Nat) (h0 : 0 ≤ r)
    (hb : ∀ c ∈ body, ValidCp c) (hb10 : 10 ∉ body) (hline : (lines s)[r.toNat]? = some (encStr (body ++ [10])))
    (ho : o < body.length) (ht : t ≤ body.length) :
    opRegion s mv r (o : Int) r (t : Int) =
      (r, (((span (inclusive s mv) o t body.length).1 : Nat) : Int), r,
        (((span (inclusive s mv) o t body.length).2 : Nat) : Int), false) := by
  rw [opRegion_row s mv r o t (by omega)]
  have e1 : min (o : Int) (t : Int) = ((min o t : Nat) : Int) := by omega
  have e2 : max (o : Int) (t : Int) = ((max o t : Nat) : Int) := by omega
  have he : eol (lines s) r = (body.length : Int) := eol_line s r body h0 hb hline
  rw [e1, e2, he, noeol_line s r body (min o t) h0 hb hb10 hline (by omega)]
  unfold span
  simp only []
  by_cases hi : (inclusive s mv && decide (max o t < body.length)) = true
  · have hi' : (inclusive s mv && decide (((max o t : Nat) : Int) < (body.length : Int))) = true := by
      simp only [Bool.and_eq_true, decide_eq_true_eq] at hi ⊢
      exact ⟨hi.1, by omega⟩
    rw [if_pos hi, if_pos hi']
    simp only [Bool.and_eq_true, decide_eq_true_eq] at hi
    rw [noeol_line s r body (max o t) h0 hb hb10 hline hi.2]
    simp
  · have hi' : ¬ (inclusive s mv && decide (((max o t : Nat) : Int) < (body.length : Int))) = true := by
      simp only [Bool.and_eq_true, decide_eq_true_eq] at hi ⊢
      intro h; exact hi ⟨h.1, by omega⟩
    rw [if_neg hi, if_neg hi']

/-! ### which motions are inclusive -/

theorem strHas_incl : strHas "fteE%" 32 = false ∧ strHas "fteE%" 8 = false ∧ strHas "fteE%" 36 = false ∧
    strHas "fteE%" 48 = false ∧ strHas "fteE%" 119 = false ∧ strHas "fteE%" 101 = true ∧
    strHas "fteE%" 102 = true ∧ strHas "fteE%" 116 = true ∧ strHas "fteE%" 69 = true ∧ strHas "fteE%" 37 = true ∧
    strHas "fteE%" 70 = false ∧ strHas "fteE%" 84 = false ∧ strHas "fteE%" 104 = false ∧ strHas "fteE%" 108 = false ∧
    strHas "fteE%" 98 = false ∧ strHas "fteE%" 87 = false := by
  decide +kernel

/-- `SPC BS $ 0 w W b h l F T` are exclusive -/
theorem inclusive_false (s : VS) (mv : Int)
    (h : mv = 32 ∨ mv = 8 ∨ mv = 36 ∨ mv = 48 ∨ mv = 119 ∨ mv = 70 ∨ mv = 84 ∨ mv = 104 ∨ mv = 108 ∨ mv = 98 ∨ mv = 87) :
    inclusive s mv = false := by
  obtain ⟨a1, a2, a3, a4, a5, _, _, _, _, _, a6, a7, a8, a9, a10, a11⟩ := strHas_incl
  unfold inclusive
  rcases h with rfl | rfl | rfl | rfl | rfl | rfl | rfl | rfl | rfl | rfl | rfl
  · rw [a1]; rfl
  · rw [a2]; rfl
  · rw [a3]; rfl
  · rw [a4]; rfl
  · rw [a5]; rfl
  · rw [a6]; rfl
  · rw [a7]; rfl
  · rw [a8]; rfl
  · rw [a9]; rfl
  · rw [a10]; rfl
  · rw [a11]; rfl

/-- `e E f t %` are inclusive -/
theorem inclusive_true (s : VS) (mv : Int) (h : mv = 101 ∨ mv = 102 ∨ mv = 116 ∨ mv = 69 ∨ mv = 37) :
    inclusive s mv = true := by
  obtain ⟨_, _, _, _, _, a1, a2, a3, a4, a5, _⟩ := strHas_incl
  unfold inclusive
  rcases h with rfl | rfl | rfl | rfl | rfl
  · rw [a1]; rfl
  · rw [a2]; rfl
  · rw [a3]; rfl
  · rw [a4]; rfl
  · rw [a5]; rfl

theorem span_excl (o t len : Nat) : span false o t len = (min o t, max o t) := rfl

theorem span_incl (o t len : Nat) (h : max o t < len) : span true o t len = (min o t, max o t + 1) := by
  unfold span
  simp [h]

end Neatvi.Lemmas.C08f
