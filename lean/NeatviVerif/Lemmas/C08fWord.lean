import NeatviVerif.Lemmas.C08fRow
import NeatviVerif.Lemmas.C07dCol
import NeatviVerif.Props.C07c
/-!
# C08f: the word motions `e`, `w` and the finds `f`, `t` on one row, through C07c
-/
set_option linter.unusedSimpArgs false
set_option linter.unusedVariables false
namespace Neatvi.Lemmas.C08f
open Neatvi Neatvi.Uc Neatvi.Vi Neatvi.Ex Neatvi.Lbuf Neatvi.Mot Neatvi.Spec Neatvi.Spec.Motion
open Neatvi.Lemmas.C08 Neatvi.Lemmas.C09 Neatvi.Lemmas.C08b Neatvi.Props.C07c

theorem idxU_row (ls : Lines) (h : Utf8Buf ls) (r : Int) (o : Nat) (body : List Nat) (hr0 : 0 ≤ r)
    (hline : ls[r.toNat]? = some (encStr (body ++ [10]))) (hb : ∀ c ∈ body, ValidCp c) (ho : o ≤ body.length) :
    ∃ i, idxU ls r (o : Int) = some i :=
  (idxU_isSome_iff ls h r o).2 ⟨_, lineAt_of_get ls r _ hr0 hline, by omega, by rw [Lemmas.C07d.line_slen hb]; omega⟩

theorem idxU_row_bound (ls : Lines) (h : Utf8Buf ls) (r o' : Int) (body : List Nat) (hr0 : 0 ≤ r)
    (hline : ls[r.toNat]? = some (encStr (body ++ [10]))) (hb : ∀ c ∈ body, ValidCp c) (j : Nat)
    (hj : idxU ls r o' = some j) : 0 ≤ o' ∧ o'.toNat ≤ body.length := by
  obtain ⟨ln, h1, h2, h3⟩ := (idxU_isSome_iff ls h r o').1 ⟨j, hj⟩
  rw [lineAt_of_get ls r _ hr0 hline] at h1
  cases h1
  rw [Lemmas.C07d.line_slen hb] at h3
  exact ⟨h2, by omega⟩

/-- a forward word motion with a count from `(r, o)`: when the loop of `vi_motion` is `runWord step`, which follows
the reference steps `stepFwd p` (`run_fwd`), and the reference motion stays on the row, the loop lands on the
reference target -/
theorem go_row (ls : Lines) (h : Utf8Buf ls) (mv : Int) (step : Int → Int → Bool × Int × Int) (p : Nat → Bool)
    (hgo : ∀ cnt r o, viMotion.go mv ls false cnt r o = runWord step cnt r o)
    (hrun : ∀ cnt r o i, idxU ls r o = some i → ∃ r' o', runWord step cnt r o = (r', o') ∧
      idxU ls r' o' = some (iter (stepFwd p (flat (refBufU ls)).length) cnt i))
    (cnt : Nat) (r : Int) (o t : Nat) (body : List Nat) (hr0 : 0 ≤ r)
    (hline : ls[r.toNat]? = some (encStr (body ++ [10]))) (hb : ∀ c ∈ body, ValidCp c) (ho : o ≤ body.length)
    (href : ∀ i, indexOf (flat (refBufU ls)) ⟨r.toNat, o⟩ = some i →
      posAt (flat (refBufU ls)) (iter (stepFwd p (flat (refBufU ls)).length) cnt i) = ⟨r.toNat, t⟩) :
    viMotion.go mv ls false cnt r (o : Int) = (r, (t : Int)) ∧ t ≤ body.length := by
  obtain ⟨i, hi⟩ := idxU_row ls h r o body hr0 hline hb ho
  obtain ⟨r', o', e, hj⟩ := hrun cnt r o i hi
  obtain ⟨p1, p2, p3⟩ := idxU_pos ls h hj
  have hi' := idxU_indexOf ls hi
  rw [Int.toNat_natCast] at hi'
  rw [href i hi'] at p3
  injection p3 with e1 e2
  have hr : r' = r := by omega
  subst hr
  obtain ⟨b1, b2⟩ := idxU_row_bound ls h r' o' body hr0 hline hb _ hj
  rw [hgo, e]
  exact ⟨by congr 1; omega, by omega⟩

/-- **`e` with a count** from `(r, o)`, when the reference motion `wordEndFwdRaw` stays on the row: the loop
of `vi_motion` lands on the reference target -/
theorem go_e_row (ls : Lines) (h : Utf8Buf ls) (cnt : Nat) (r : Int) (o t : Nat) (body : List Nat) (hr0 : 0 ≤ r)
    (hline : ls[r.toNat]? = some (encStr (body ++ [10]))) (hb : ∀ c ∈ body, ValidCp c) (ho : o ≤ body.length)
    (href : wordEndFwdRaw false (refBufU ls) ⟨r.toNat, o⟩ cnt = ⟨r.toNat, t⟩) :
    viMotion.go 101 ls false cnt r (o : Int) = (r, (t : Int)) ∧ t ≤ body.length := by
  refine go_row ls h 101 (wordend ls false 1) (wordEnd (if false then clsBig else cls) (flat (refBufU ls)))
    (fun cnt r o => ?_) (run_fwd ls _ _ _ (fun r o i hi => idxU_lt ls hi) (wordend_fwd_spec_utf8 ls h false))
    cnt r o t body hr0 hline hb ho
    (fun i hi => ?_)
  · rw [viMotion_go_runWord]
    simp only [Int.reduceBEq, Bool.or_self, Bool.or_true, Bool.false_eq_true, ↓reduceIte]
  · rw [← href]
    unfold wordEndFwdRaw
    simp only []
    rw [hi]
    rfl

/-- **`w` with a count** from `(r, o)`, when the reference motion `wordFwdRaw` stays on the row -/
theorem go_w_row (ls : Lines) (h : Utf8Buf ls) (cnt : Nat) (r : Int) (o t : Nat) (body : List Nat) (hr0 : 0 ≤ r)
    (hline : ls[r.toNat]? = some (encStr (body ++ [10]))) (hb : ∀ c ∈ body, ValidCp c) (ho : o ≤ body.length)
    (href : wordFwdRaw false (refBufU ls) ⟨r.toNat, o⟩ cnt = ⟨r.toNat, t⟩) :
    viMotion.go 119 ls false cnt r (o : Int) = (r, (t : Int)) ∧ t ≤ body.length := by
  refine go_row ls h 119 (wordbeg ls false 1) (wordStart (if false then clsBig else cls) (flat (refBufU ls)))
    (fun cnt r o => ?_) (run_fwd ls _ _ _ (fun r o i hi => idxU_lt ls hi) (wordbeg_spec_utf8 ls h false))
    cnt r o t body hr0 hline hb ho
    (fun i hi => ?_)
  · rw [viMotion_go_runWord]
    simp only [Int.reduceBEq, Bool.or_self, Bool.or_true, Bool.false_eq_true, ↓reduceIte]
  · rw [← href]
    unfold wordFwdRaw
    simp only []
    rw [hi]
    rfl

theorem findChar_fwd_bounds (l : List Nat) (o c n t : Nat) (till : Bool) (h : findChar l o c true till n = some t) :
    o ≤ t ∧ t < l.length ∧ (till = false → o < t) := by
  unfold findChar at h
  split at h
  · cases h
  · simp only [if_true] at h
    split at h
    · cases h
    · rename_i j hj
      have hm : j ∈ (List.range l.length).filter (fun j => decide (j > o) && l.getD j 0 == c) :=
        List.mem_of_getElem? hj
      simp only [List.mem_filter, List.mem_range, Bool.and_eq_true, decide_eq_true_eq] at hm
      injection h with h
      cases till
      · simp only [Bool.false_eq_true, if_false] at h
        subst h
        exact ⟨by omega, hm.1, fun _ => hm.2.1⟩
      · simp only [if_true] at h
        subst h
        exact ⟨by omega, by omega, fun h => by cases h⟩

/-- `lbuf_findchar` forward (`f` = 102, `t` = 116) on the row, with a positive count: the reference `findChar` -/
theorem findchar_row (ls : Lines) (r : Int) (body : List Nat) (hr0 : 0 ≤ r)
    (hline : ls[r.toNat]? = some (encStr (body ++ [10]))) (hv : ∀ c ∈ body, ValidCp c) (h10 : 10 ∉ body)
    (c : Nat) (hc : ValidCp c) (hc10 : c ≠ 10) (cmd : Nat) (hcmd : cmd = 102 ∨ cmd = 116)
    (n : Int) (hn : 0 < n) (o : Nat) (ho : o ≤ body.length) :
    findchar ls (enc c) cmd n r (o : Int) =
      (findChar body o c true (cmd == 116) n.toNat).map (fun t => (t : Int)) := by
  obtain ⟨h1, h2⟩ := findchar_spec_utf8 ls r body (lineAt_of_get ls r _ hr0 hline) hv h10 c hc hc10 cmd
    (by rcases hcmd with rfl | rfl <;> simp) n hn o (by omega) (by omega)
  have e1 : (cmd == 102 || cmd == 116) = true := by rcases hcmd with rfl | rfl <;> rfl
  have e2 : (cmd == 116 || cmd == 84) = (cmd == 116) := by rcases hcmd with rfl | rfl <;> rfl
  rw [e1, e2, Int.toNat_natCast] at h1
  rw [← h1]
  cases hf : findchar ls (enc c) cmd n r (o : Int) with
  | none => rfl
  | some p =>
    have := h2 p hf
    simp only [Option.map_some]
    congr 1
    show p = ((p.toNat : Nat) : Int)
    omega

end Neatvi.Lemmas.C08f
