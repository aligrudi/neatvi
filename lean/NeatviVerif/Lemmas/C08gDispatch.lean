import NeatviVerif.Lemmas.C08gPut
/-!
# C08g: the command dispatcher `commandTail` (the `switch` of `vi()`) on the editing keys, from the keys the terminal delivers

`c d y > <` (an operator: `vc_motion`), `p P` (`vc_put`), `J` (`vc_join`), `r` (`vc_replace`), `~` (= `g~ SPC`),
`g~ gu gU` (`vc_motion` with the second key).  In each case: the mark `^` is set at the cursor (`MarkOnly`), the command
runs, and `finRec` (C09) records it for `.`.

`KeysMark ks s sm`: `sm` is `s` after the keys `ks` were read from the terminal and the mark `^` was set.
`keys_op`, `keys_short`: `commandTail` on an operator key followed by a motion key, and on the shorthands
`C s S ~ x X D Y` (which push their motion key back).

Where the command key itself comes from is left open (`viRead s = Res.ok c s1`): typed at the terminal, or — as in the
loop of `vi()`, where `viPre` has looked at it three times — pushed back (`typed_key`, `pushed_key` in
`Props/C08g.lean`).  The statements are about `s1`, the state once the command key has been read: nothing is pushed
back any more (`s1.vibuf = []`) and the rest of the command is pending.
-/
set_option linter.unusedSimpArgs false
set_option linter.unusedVariables false
namespace Neatvi.Lemmas.C08g
open Neatvi Neatvi.Uc Neatvi.Vi Neatvi.Ex Neatvi.Lbuf Neatvi.Mot Neatvi.Spec
open Neatvi.Lemmas.C08 Neatvi.Lemmas.C08b Neatvi.Lemmas.C08f
open Neatvi.Lemmas.C09 (finRec pending)
open Neatvi.Props.C08f

theorem onRow_congr {s sm : VS} {body : List Nat} {o : Nat} (hrow : OnRow s body o)
    (hx : sm.ed.xrow = s.ed.xrow) (ho : sm.ed.xoff = s.ed.xoff) (hl : lines sm = lines s) : OnRow sm body o :=
  ⟨by rw [hx]; exact hrow.row0, by rw [hl, hx]; exact hrow.line, hrow.valid, hrow.no10, by rw [ho]; exact hrow.off,
    hrow.onChar⟩

/-- `sm` is `s1` but for the marks of the buffer: same text, same everything else -/
structure MarkOnly (s1 sm : VS) : Prop where
  eq : sm = { s1 with ed := { s1.ed with bufs := sm.ed.bufs } }
  lines : lines sm = lines s1

theorem markSet_markOnly (c : Nat) (r o : Int) (s1 : VS) : ∃ sm, markSet c r o s1 = Res.ok () sm ∧ MarkOnly s1 sm := by
  obtain ⟨B, e, l⟩ := markSet_bufs c r o s1
  exact ⟨_, e, rfl, l⟩

namespace MarkOnly
variable {s1 sm : VS} (h : MarkOnly s1 sm)
include h

theorem xrow : sm.ed.xrow = s1.ed.xrow := by rw [h.eq]
theorem xoff : sm.ed.xoff = s1.ed.xoff := by rw [h.eq]
theorem regs : sm.ed.regs = s1.ed.regs := by rw [h.eq]
theorem xtd : sm.ed.xtd = s1.ed.xtd := by rw [h.eq]
theorem ybuf : sm.ybuf = s1.ybuf := by rw [h.eq]
theorem arg1 : sm.arg1 = s1.arg1 := by rw [h.eq]
theorem arg2 : sm.arg2 = s1.arg2 := by rw [h.eq]
theorem xkmap : sm.xkmap = s1.xkmap := by rw [h.eq]
theorem xai : sm.xai = s1.xai := by rw [h.eq]
theorem vibuf : sm.vibuf = s1.vibuf := by rw [h.eq]
theorem pending : pending sm = pending s1 := by rw [h.eq]; rfl
theorem icmd : sm.icmd = s1.icmd := by rw [h.eq]
theorem lenOf : lenOf sm = lenOf s1 := by unfold Vi.lenOf; rw [h.lines]

theorem onRow {body : List Nat} {o : Nat} (hrow : OnRow s1 body o) : OnRow sm body o :=
  onRow_congr hrow h.xrow h.xoff h.lines

theorem regGetLn (c : Nat) : regGetLn sm.ed c = regGetLn s1.ed c := by
  have e1 : sm.ed.regs = s1.ed.regs := h.regs
  have e2 : sm.ed.xrow = s1.ed.xrow := h.xrow
  have e3 : sm.ed.xoff = s1.ed.xoff := h.xoff
  have e4 : sm.ed.line s1.ed.xrow = s1.ed.line s1.ed.xrow := by
    unfold Ed.line
    have hl : sm.ed.lb.bind (fun l => l.lines[s1.ed.xrow.toNat]?) = s1.ed.lb.bind (fun l => l.lines[s1.ed.xrow.toNat]?) := by
      have := h.lines
      unfold Vi.lines at this
      cases ha : sm.ed.lb <;> cases hb : s1.ed.lb <;> rw [ha, hb] at this <;> simp_all
    rw [hl]
  unfold Vi.regGetLn regGet
  simp only [e1, e2, e3, e4]

theorem leftToRight {body : List Nat} (hl : LeftToRight s1 body) : LeftToRight sm body := leftToRight_congr hl h.xtd

end MarkOnly

/-! ### the dispatcher, key by key

Instances of `ViPres.commandTail_key`; `g` reads a second key and is walked by `simp`. -/

/-- an operator key `c d y > <`: `vc_motion` with that letter -/
theorem commandTail_op (c : Int) (hc : c = 99 ∨ c = 100 ∨ c = 121 ∨ c = 62 ∨ c = 60) (s s1 : VS)
    (hk : viRead s = Res.ok c s1) :
    commandTail s = (do markSet 94 s1.ed.xrow s1.ed.xoff; let m ← vcMotion c.toNat; finRec c 0 m : M (Option Nat)) s1 := by
  refine ViPres.commandTail_key c (by omega) _ (fun _ => ?_) s s1 hk
  rcases hc with rfl | rfl | rfl | rfl | rfl <;> rfl

/-- `p`, `P`: `vc_put` -/
theorem commandTail_put (c : Int) (hc : c = 112 ∨ c = 80) (s s1 : VS) (hk : viRead s = Res.ok c s1) :
    commandTail s = (do markSet 94 s1.ed.xrow s1.ed.xoff; let m ← vcPut c.toNat; finRec c 0 m : M (Option Nat)) s1 := by
  refine ViPres.commandTail_key c (by omega) _ (fun _ => ?_) s s1 hk
  rcases hc with rfl | rfl <;> rfl

/-- `J`: `vc_join` -/
theorem commandTail_J_ (s s1 : VS) (hk : viRead s = Res.ok 74 s1) :
    commandTail s = (do markSet 94 s1.ed.xrow s1.ed.xoff; let m ← vcJoin; finRec 74 0 m : M (Option Nat)) s1 := by
  refine ViPres.commandTail_key 74 (by decide) _ (fun _ => ?_) s s1 hk
  rfl

/-- `r`: `vc_replace` -/
theorem commandTail_r (s s1 : VS) (hk : viRead s = Res.ok 114 s1) :
    commandTail s = (do markSet 94 s1.ed.xrow s1.ed.xoff; let m ← vcReplace; finRec 114 0 m : M (Option Nat)) s1 := by
  refine ViPres.commandTail_key 114 (by decide) _ (fun _ => ?_) s s1 hk
  rfl

/-- `~` = the case operator with `SPC` -/
theorem commandTail_tilde (s s1 : VS) (hk : viRead s = Res.ok 126 s1) :
    commandTail s = (do markSet 94 s1.ed.xrow s1.ed.xoff; viBack 32; let m ← vcMotion 126; finRec 126 0 m : M (Option Nat)) s1 := by
  refine ViPres.commandTail_key 126 (by decide) _ (fun _ => ?_) s s1 hk
  rfl

/-- `g~`, `gu`, `gU`: the second key is the operator letter of `vc_motion` -/
theorem commandTail_g (k : Int) (hc : k = 126 ∨ k = 117 ∨ k = 85) (s s1 sm s2 : VS) (hk : viRead s = Res.ok 103 s1)
    (hm : markSet 94 s1.ed.xrow s1.ed.xoff s1 = Res.ok () sm) (hk2 : viRead sm = Res.ok k s2) :
    commandTail s = (do let m ← vcMotion k.toNat; finRec 103 k m : M (Option Nat)) s2 := by
  unfold commandTail
  rw [Lemmas.C07.bind_ok _ _ _ _ _ hk]
  simp (config := {decide := true, zeta := false}) only [↓reduceIte, get_apply, bind_apply, hm, hk2]
  rcases hc with rfl | rfl | rfl <;> rfl

/-- `sm` is `s` after the keys `ks` were read from the terminal and the mark `^` was set: the key queues moved
on, `icmd` recorded the keys, the marks of the buffer may differ; nothing else does -/
structure KeysMark (ks : Bytes) (s sm : VS) : Prop where
  eq : ∃ ib ip ty, sm =
    { s with ibuf := ib, ibufPos := ip, typed := ty, icmd := icmdAfterL s.icmd ks, ed := { s.ed with bufs := sm.ed.bufs } }
  lines : lines sm = lines s

theorem keysMark_of (ks : Bytes) (s s1 sm : VS) (h1 : Reads false ks s s1) (h2 : MarkOnly s1 sm) : KeysMark ks s sm := by
  obtain ⟨ib, ip, ty, xl, rfl, hx⟩ := h1
  have := hx rfl
  subst this
  refine ⟨⟨ib, ip, ty, ?_⟩, h2.lines⟩
  have := h2.eq
  rw [this]

namespace KeysMark
variable {ks : Bytes} {s sm : VS} (h : KeysMark ks s sm)
include h

theorem xrow : sm.ed.xrow = s.ed.xrow := by obtain ⟨ib, ip, ty, e⟩ := h.eq; rw [e]
theorem xoff : sm.ed.xoff = s.ed.xoff := by obtain ⟨ib, ip, ty, e⟩ := h.eq; rw [e]
theorem regs : sm.ed.regs = s.ed.regs := by obtain ⟨ib, ip, ty, e⟩ := h.eq; rw [e]
theorem xtd : sm.ed.xtd = s.ed.xtd := by obtain ⟨ib, ip, ty, e⟩ := h.eq; rw [e]
theorem ybuf : sm.ybuf = s.ybuf := by obtain ⟨ib, ip, ty, e⟩ := h.eq; rw [e]
theorem arg1 : sm.arg1 = s.arg1 := by obtain ⟨ib, ip, ty, e⟩ := h.eq; rw [e]
theorem xkmap : sm.xkmap = s.xkmap := by obtain ⟨ib, ip, ty, e⟩ := h.eq; rw [e]
theorem xai : sm.xai = s.xai := by obtain ⟨ib, ip, ty, e⟩ := h.eq; rw [e]
theorem vibuf : sm.vibuf = s.vibuf := by obtain ⟨ib, ip, ty, e⟩ := h.eq; rw [e]
theorem icmd : sm.icmd = icmdAfterL s.icmd ks := by obtain ⟨ib, ip, ty, e⟩ := h.eq; rw [e]
theorem lenOf : lenOf sm = lenOf s := by unfold Vi.lenOf; rw [h.lines]

/-- as a `MarkOnly` step from the state with the queues of `sm` -/
theorem markOnly : ∃ s1, MarkOnly s1 sm ∧ s1.ed = s.ed ∧ s1.ybuf = s.ybuf ∧ s1.arg1 = s.arg1 := by
  obtain ⟨ib, ip, ty, e⟩ := h.eq
  refine ⟨{ s with ibuf := ib, ibufPos := ip, typed := ty, icmd := icmdAfterL s.icmd ks }, ⟨?_, h.lines⟩, rfl, rfl, rfl⟩
  rw [e]

theorem onRow {body : List Nat} {o : Nat} (hrow : OnRow s body o) : OnRow sm body o :=
  onRow_congr hrow h.xrow h.xoff h.lines

theorem regGetLn (c : Nat) : regGetLn sm.ed c = regGetLn s.ed c := by
  obtain ⟨s1, hm, he, _, _⟩ := h.markOnly
  rw [hm.regGetLn c, he]

theorem leftToRight {body : List Nat} (hl : LeftToRight s body) : LeftToRight sm body := leftToRight_congr hl h.xtd

theorem opCount (a2 : Int) : opCount sm a2 = opCount s a2 := by
  rw [opCount_eq, opCount_eq, h.arg1]

theorem cnt1 : cnt1 sm = cnt1 s := by unfold Lemmas.C08g.cnt1; rw [h.arg1]

theorem indentOf (body : List Nat) : indentOf sm body = indentOf s body := indentOf_congr _ _ _ h.xai

end KeysMark

/-- setting the mark `^` once the command key has been read (state `s1`) -/
theorem read_mark (s1 : VS) :
    ∃ sm, markSet 94 s1.ed.xrow s1.ed.xoff s1 = Res.ok () sm ∧ KeysMark [] s1 sm ∧ sm.vibuf = s1.vibuf ∧
      pending sm = pending s1 := by
  obtain ⟨sm, e, hm⟩ := markSet_markOnly 94 s1.ed.xrow s1.ed.xoff s1
  have hk := keysMark_of [] s1 s1 sm (Reads.refl false s1) hm
  exact ⟨sm, e, hk, hk.vibuf, hm.pending⟩

/-- **an operator key `c d y > <` followed by a motion key `k`** (not a digit `1`..`9`: no second count).  `s1` is
the state once the operator key has been read: nothing pushed back, `k` and `more` pending.  The dispatcher runs
`vc_motion` in the state `sm` (`s1` with the mark `^` set), from which `Prefixed sm 0 k s2` reads the key `k` -/
theorem keys_op (c : Nat) (hc : c = 99 ∨ c = 100 ∨ c = 121 ∨ c = 62 ∨ c = 60) (k : Nat) (hk : ¬ (49 ≤ k ∧ k ≤ 57))
    (s s1 : VS) (more : Bytes) (hr : viRead s = Res.ok (c : Int) s1) (hv : s1.vibuf = []) (hp : pending s1 = k :: more) :
    ∃ sm s2, KeysMark [] s1 sm ∧ Prefixed sm 0 (k : Int) s2 ∧ Reads false [k] sm s2 ∧ pending s2 = more ∧ s2.vibuf = [] ∧
      ∀ m s', vcMotion c sm = Res.ok m s' → commandTail s = finRec (c : Int) 0 m s' := by
  obtain ⟨sm, h2, h3, h4, h5⟩ := read_mark s1
  rw [hv] at h4
  rw [hp] at h5
  obtain ⟨g1, g2, g3⟩ := viRead_pending sm k more h4 h5
  refine ⟨sm, afterRead sm, h3, prefixed_none sm _ k g1 (by omega), g3, g2, ?_, ?_⟩
  · obtain ⟨ib, ip, ty, xl, e, -⟩ := g3
    rw [e]; exact h4
  · intro m s' hm
    rw [commandTail_op (c : Int) (by rcases hc with rfl | rfl | rfl | rfl | rfl <;> simp) s s1 hr]
    simp only [bind_apply, h2, Int.toNat_natCast, hm]

/-- pushing a key back does not move the cursor -/
theorem onRow_vibuf {s : VS} {body : List Nat} {o : Nat} (h : OnRow s body o) (v : List Int) :
    OnRow { s with vibuf := v } body o := ⟨h.row0, h.line, h.valid, h.no10, h.off, h.onChar⟩

/-- the shorthands: the key `c` stands for the operator `op` with the motion key `k` -/
def isShort (c op : Nat) (k : Int) : Prop :=
  (c = 120 ∧ op = 100 ∧ k = 32) ∨ (c = 88 ∧ op = 100 ∧ k = 8) ∨ (c = 68 ∧ op = 100 ∧ k = 36) ∨
  (c = 67 ∧ op = 99 ∧ k = 36) ∨ (c = 115 ∧ op = 99 ∧ k = 32) ∨ (c = 83 ∧ op = 99 ∧ k = 99) ∨
  (c = 89 ∧ op = 121 ∧ k = 121) ∨ (c = 126 ∧ op = 126 ∧ k = 32)

/-- **a shorthand key `x X D C s S Y ~`** (`s1`: the state once it has been read): the dispatcher pushes the motion
key `k` back and runs `vc_motion op` in the state `{ sm with vibuf := [k] }`; `sm` is that state once `k` has been
read again -/
theorem keys_short (c op : Nat) (k : Int) (hs : isShort c op k) (s s1 : VS) (hr : viRead s = Res.ok (c : Int) s1)
    (hv : s1.vibuf = []) :
    ∃ sm, KeysMark [] s1 sm ∧ sm.vibuf = [] ∧ pending sm = pending s1 ∧
      Prefixed { sm with vibuf := [k] } 0 k sm ∧
      ∀ m s', vcMotion op { sm with vibuf := [k] } = Res.ok m s' → commandTail s = finRec (c : Int) 0 m s' := by
  obtain ⟨sm, h2, h3, h4, h5⟩ := read_mark s1
  rw [hv] at h4
  have hpre : Prefixed { sm with vibuf := [k] } 0 k sm := by
    have := prefixed_none { sm with vibuf := k :: sm.vibuf } sm k (viRead_back sm k)
      (by rcases hs with ⟨_, _, rfl⟩ | ⟨_, _, rfl⟩ | ⟨_, _, rfl⟩ | ⟨_, _, rfl⟩ | ⟨_, _, rfl⟩ | ⟨_, _, rfl⟩ | ⟨_, _, rfl⟩ | ⟨_, _, rfl⟩ <;> decide)
    rw [h4] at this
    exact this
  refine ⟨sm, h3, h4, h5, hpre, ?_⟩
  intro m s' hm
  have hb : viBack k sm = Res.ok () { sm with vibuf := [k] } := by
    show Res.ok () { sm with vibuf := k :: sm.vibuf } = _
    rw [h4]
  rcases hs with ⟨rfl, rfl, rfl⟩ | ⟨rfl, rfl, rfl⟩ | ⟨rfl, rfl, rfl⟩ | ⟨rfl, rfl, rfl⟩ | ⟨rfl, rfl, rfl⟩ | ⟨rfl, rfl, rfl⟩ | ⟨rfl, rfl, rfl⟩ | ⟨rfl, rfl, rfl⟩
  · rw [commandTail_x s s1 hr]; simp only [bind_apply, h2, hb, hm]; rfl
  · rw [commandTail_X_ s s1 hr]; simp only [bind_apply, h2, hb, hm]; rfl
  · rw [commandTail_D_ s s1 hr]; simp only [bind_apply, h2, hb, hm]; rfl
  · rw [commandTail_C_ s s1 hr]; simp only [bind_apply, h2, hb, hm]; rfl
  · rw [commandTail_s s s1 hr]; simp only [bind_apply, h2, hb, hm]; rfl
  · rw [commandTail_S_ s s1 hr]; simp only [bind_apply, h2, hb, hm]; rfl
  · rw [commandTail_Y_ s s1 hr]; simp only [bind_apply, h2, hb, hm]; rfl
  · rw [commandTail_tilde s s1 hr]; simp only [bind_apply, h2, hb, hm]; rfl

end Neatvi.Lemmas.C08g
