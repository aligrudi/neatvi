import NeatviVerif.Lemmas.C08gDispatch
/-!
# C08g: the editing commands from the keys the terminal delivers, through the dispatcher `commandTail`

`viRead s = Res.ok c s1`: the command key `c` is read (from the terminal, or pushed back by `viPre`, see
`Lemmas/C08gDispatch.lean`); `s1` is the state once it has been read: counts and register prefix already read by `viPre`
(`arg1`, `ybuf`), nothing pushed back (`s1.vibuf = []`), the rest of the command pending.  `KeysDone ks s1 s'`: the
keys `ks` that followed the command key were read; whatever the command, it follows from `KeysMark` and four field
equations (`KeysMark.done`).  First the change family (`cw_keys` … `ck_keys`), then `~` (`tilde_keys`) and what `g~ gu gU`
and `> <` in `Props/C08g.lean` need on the way from the keys to `vc_motion`, then `p`, `P`, `J`, `r c`: keys on which the
switch runs one command function (`keys_run`).
-/
set_option linter.unusedSimpArgs false
set_option linter.unusedVariables false
namespace Neatvi.Lemmas.C08g
open Neatvi Neatvi.Uc Neatvi.Vi Neatvi.Ex Neatvi.Lbuf Neatvi.Mot Neatvi.Spec
open Neatvi.Lemmas.C08 Neatvi.Lemmas.C08b Neatvi.Lemmas.C08f
open Neatvi.Lemmas.C09 (finRec pending)
open Neatvi.Props.C07c (Utf8Buf refBufU)
open Neatvi.Props.C08f

/-- the queue side of a command that read the keys `ks` from the terminal: nothing is left pushed back, `icmd`
recorded the keys (this is what `finRec` stores for `.`), the first count and the register prefix are untouched -/
structure KeysDone (ks : Bytes) (s s' : VS) : Prop where
  vibuf : s'.vibuf = []
  icmd : s'.icmd = icmdAfterL s.icmd ks
  arg1 : s'.arg1 = s.arg1
  ybuf : s'.ybuf = s.ybuf

theorem icmdAfterL_cons (ic : Bytes) (k : Nat) (ks : Bytes) : icmdAfterL ic (k :: ks) = icmdAfterL (icmdAfterL ic [k]) ks :=
  icmdAfterL_append ic [k] ks

theorem KeysMark.done {ks K : Bytes} {s sm s' : VS} (h1 : KeysMark ks s sm) (hv : s.vibuf = []) (hvb : s'.vibuf = sm.vibuf)
    (hic : s'.icmd = icmdAfterL sm.icmd K) (ha : s'.arg1 = sm.arg1) (hy : s'.ybuf = sm.ybuf) : KeysDone (ks ++ K) s s' :=
  ⟨by rw [hvb, h1.vibuf, hv], by rw [hic, h1.icmd, icmdAfterL_append], ha.trans h1.arg1, hy.trans h1.ybuf⟩

/-- after the operator key, the motion key and the keys `K` of the insertion -/
theorem keysDone_op {ks : Bytes} {k : Nat} {K : Bytes} {s sm s2 s' : VS} (h1 : KeysMark ks s sm) (hv : s.vibuf = [])
    (h2 : Reads false [k] sm s2) (a2 : Int) (h3 : ReadsEd K (setArg2 a2 s2) s') : KeysDone (ks ++ k :: K) s s' := by
  obtain ⟨ib, ip, ty, xl, rfl, -⟩ := h2
  obtain ⟨ib', ip', ty', e⟩ := h3
  exact h1.done hv (by rw [e]; rfl) (by rw [e]; exact (icmdAfterL_append sm.icmd [k] K).symm) (by rw [e]; rfl) (by rw [e]; rfl)

/-- after a shorthand key and the keys `K` of the insertion -/
theorem keysDone_short {ks : Bytes} {K : Bytes} {s sm s' : VS} (h1 : KeysMark ks s sm) (hv : s.vibuf = [])
    (a2 : Int) (h3 : ReadsEd K (setArg2 a2 sm) s') : KeysDone (ks ++ K) s s' := by
  obtain ⟨ib', ip', ty', e⟩ := h3
  exact h1.done hv (by rw [e]; rfl) (by rw [e]; rfl) (by rw [e]; rfl) (by rw [e]; rfl)

theorem RowChanged.base {K ks : Bytes} {s s0 sm s' : VS} {body cs : List Nat} {a b : Nat}
    (h : RowChanged K s0 sm s' s0.ed.xrow body cs a b) (hk : KeysMark ks s s0) :
    RowChanged K s sm s' s.ed.xrow body cs a b := by
  obtain ⟨a1, a2, a3, a4, a5⟩ := h
  refine ⟨?_, ?_, ?_, a4, a5⟩
  · rw [a1, hk.lines, hk.xrow]
  · rw [a2, hk.regs, hk.ybuf]
  · rw [a3, hk.xrow]

theorem LineChanged.base {K ks : Bytes} {s s0 sm s' : VS} {body cs : List Nat} {lo hi : Int}
    (h : LineChanged K s0 sm s' lo hi body cs) (hk : KeysMark ks s s0) :
    LineChanged K s sm s' lo hi body cs := by
  obtain ⟨a1, a2, a3, a4, a5⟩ := h
  refine ⟨?_, ?_, a3, ?_, a5⟩
  · rw [a1, hk.lines, hk.indentOf]
  · rw [a2, hk.regs, hk.ybuf, hk.lines]
  · rw [a4, hk.indentOf]

section row
variable (s s1 : VS) (body cs : List Nat) (o : Nat) (K rest : Bytes)

/-- **the keys `cw`, text, ESC** -/
theorem cw_keys (t : Nat) (hr : viRead s = Res.ok 99 s1) (hv : s1.vibuf = []) (hp : pending s1 = 119 :: (K ++ rest)) (hrow : OnRow s1 body o)
    (hu : Utf8Buf (lines s1))
    (href : Motion.wordFwdRaw false (refBufU (lines s1)) ⟨s1.ed.xrow.toNat, o⟩ (opCount s1 0).toNat = ⟨s1.ed.xrow.toNat, t⟩)
    (ht : TypedText K cs) (hkm : s1.xkmap = 0) :
    ∃ sm s', commandTail s = finRec 99 0 VC_OK s' ∧ pending s' = rest ∧ KeysDone (119 :: K) s1 s' ∧
      RowChanged K s1 sm s' s1.ed.xrow body cs (min o t) (max o t) := by
  obtain ⟨s0, s2, hk0, hpre, hrd, hpend, hvb, hfin⟩ := keys_op 99 (by simp) 119 (by omega) s s1 (K ++ rest) hr hv hp
  obtain ⟨s', e1, e2, e3⟩ := cw_spec s0 s2 0 body cs o K rest t hpre (hk0.onRow hrow) (by rw [hk0.lines]; exact hu)
    (by rw [hk0.lines, hk0.xrow, hk0.opCount]; exact href) ht hpend (by rw [hk0.xkmap]; exact hkm)
  exact ⟨_, s', hfin _ _ e1, e2, keysDone_op hk0 hv hrd 0 e3.frame, e3.base hk0⟩

/-- **the keys `ce`, text, ESC** (the usual case: the end of the word is at `t`, `o ≤ t < |body|`) -/
theorem ce_keys (t : Nat) (hr : viRead s = Res.ok 99 s1) (hv : s1.vibuf = []) (hp : pending s1 = 101 :: (K ++ rest)) (hrow : OnRow s1 body o)
    (hu : Utf8Buf (lines s1))
    (href : Motion.wordEndFwdRaw false (refBufU (lines s1)) ⟨s1.ed.xrow.toNat, o⟩ (opCount s1 0).toNat = ⟨s1.ed.xrow.toNat, t⟩)
    (hot : o ≤ t) (htl : t < body.length) (ht : TypedText K cs) (hkm : s1.xkmap = 0) :
    ∃ sm s', commandTail s = finRec 99 0 VC_OK s' ∧ pending s' = rest ∧ KeysDone (101 :: K) s1 s' ∧
      RowChanged K s1 sm s' s1.ed.xrow body cs o (t + 1) := by
  obtain ⟨s0, s2, hk0, hpre, hrd, hpend, hvb, hfin⟩ := keys_op 99 (by simp) 101 (by omega) s s1 (K ++ rest) hr hv hp
  obtain ⟨s', e1, e2, e3⟩ := ce_spec_fwd s0 s2 0 body cs o K rest t hpre (hk0.onRow hrow) (by rw [hk0.lines]; exact hu)
    (by rw [hk0.lines, hk0.xrow, hk0.opCount]; exact href) hot htl ht hpend (by rw [hk0.xkmap]; exact hkm)
  exact ⟨_, s', hfin _ _ e1, e2, keysDone_op hk0 hv hrd 0 e3.frame, e3.base hk0⟩

/-- **the key `C`, text, ESC**: as `c$` -/
theorem C_keys (hr : viRead s = Res.ok 67 s1) (hv : s1.vibuf = []) (hp : pending s1 = (K ++ rest)) (hrow : OnRow s1 body o)
    (ht : TypedText K cs) (hkm : s1.xkmap = 0) :
    ∃ sm s', commandTail s = finRec 67 0 VC_OK s' ∧ pending s' = rest ∧ KeysDone K s1 s' ∧
      RowChanged K s1 sm s' s1.ed.xrow body cs o body.length := by
  obtain ⟨sm, hk0, hvb, hpend, hpre, hfin⟩ := keys_short 67 99 36 (by simp [isShort]) s s1 hr hv
  rw [hp] at hpend
  obtain ⟨s', e1, e2, e3⟩ := c_dollar_spec { sm with vibuf := [36] } sm 0 body cs o K rest hpre
    (onRow_vibuf (hk0.onRow hrow) _) ht hpend (by show sm.xkmap = 0; rw [hk0.xkmap]; exact hkm)
  refine ⟨setArg2 0 sm, s', hfin _ _ e1, e2, keysDone_short hk0 hv 0 e3.frame, ?_⟩
  have : RowChanged K sm (setArg2 0 sm) s' sm.ed.xrow body cs o body.length := ⟨e3.lines, e3.regs, e3.xrow, e3.xoff, e3.frame⟩
  exact this.base hk0

/-- **the key `s`, text, ESC** (`[count]s`): `min c (|body| - o)` characters from the cursor on are replaced -/
theorem s_keys (hr : viRead s = Res.ok 115 s1) (hv : s1.vibuf = []) (hp : pending s1 = (K ++ rest)) (hrow : OnRow s1 body o)
    (ht : TypedText K cs) (hkm : s1.xkmap = 0) :
    ∃ sm s', commandTail s = finRec 115 0 VC_OK s' ∧ pending s' = rest ∧ KeysDone K s1 s' ∧
      RowChanged K s1 sm s' s1.ed.xrow body cs o (min (o + (opCount s1 0).toNat) body.length) := by
  obtain ⟨sm, hk0, hvb, hpend, hpre, hfin⟩ := keys_short 115 99 32 (by simp [isShort]) s s1 hr hv
  rw [hp] at hpend
  obtain ⟨s', e1, e2, e3⟩ := c_spc_spec { sm with vibuf := [32] } sm 0 body cs o K rest hpre
    (onRow_vibuf (hk0.onRow hrow) _) ht hpend (by show sm.xkmap = 0; rw [hk0.xkmap]; exact hkm)
  refine ⟨setArg2 0 sm, s', hfin _ _ e1, e2, keysDone_short hk0 hv 0 e3.frame, ?_⟩
  have hoc : opCount { sm with vibuf := [32] } 0 = opCount s1 0 := hk0.opCount 0
  rw [hoc] at e3
  have : RowChanged K sm (setArg2 0 sm) s' sm.ed.xrow body cs o (min (o + (opCount s1 0).toNat) body.length) :=
    ⟨e3.lines, e3.regs, e3.xrow, e3.xoff, e3.frame⟩
  exact this.base hk0

/-- **the keys `cl`, text, ESC** on a row displayed left to right -/
theorem cl_keys (hr : viRead s = Res.ok 99 s1) (hv : s1.vibuf = []) (hp : pending s1 = 108 :: (K ++ rest)) (hrow : OnRow s1 body o)
    (hltr : LeftToRight s1 body) (ht : TypedText K cs) (hkm : s1.xkmap = 0) :
    ∃ sm s', commandTail s = finRec 99 0 VC_OK s' ∧ pending s' = rest ∧ KeysDone (108 :: K) s1 s' ∧
      RowChanged K s1 sm s' s1.ed.xrow body cs o (min (o + (opCount s1 0).toNat) (body.length - 1)) := by
  obtain ⟨s0, s2, hk0, hpre, hrd, hpend, hvb, hfin⟩ := keys_op 99 (by simp) 108 (by omega) s s1 (K ++ rest) hr hv hp
  obtain ⟨s', e1, e2, e3⟩ := cl_spec s0 s2 0 body cs o K rest hpre (hk0.onRow hrow) (hk0.leftToRight hltr) ht hpend
    (by rw [hk0.xkmap]; exact hkm)
  rw [hk0.opCount] at e3
  exact ⟨_, s', hfin _ _ e1, e2, keysDone_op hk0 hv hrd 0 e3.frame, e3.base hk0⟩

/-- **the keys `c0`, text, ESC** -/
theorem c0_keys (hr : viRead s = Res.ok 99 s1) (hv : s1.vibuf = []) (hp : pending s1 = 48 :: (K ++ rest)) (hrow : OnRow s1 body o)
    (ht : TypedText K cs) (hkm : s1.xkmap = 0) :
    ∃ sm s', commandTail s = finRec 99 0 VC_OK s' ∧ pending s' = rest ∧ KeysDone (48 :: K) s1 s' ∧
      RowChanged K s1 sm s' s1.ed.xrow body cs 0 o := by
  obtain ⟨s0, s2, hk0, hpre, hrd, hpend, hvb, hfin⟩ := keys_op 99 (by simp) 48 (by omega) s s1 (K ++ rest) hr hv hp
  obtain ⟨s', e1, e2, e3⟩ := c0_spec s0 s2 0 body cs o K rest hpre (hk0.onRow hrow) ht hpend (by rw [hk0.xkmap]; exact hkm)
  exact ⟨_, s', hfin _ _ e1, e2, keysDone_op hk0 hv hrd 0 e3.frame, e3.base hk0⟩

end row

theorem keysDone_find {ks : Bytes} {k : Nat} {K E cl : Bytes} {cc : Nat} {s sm s2 s3 s' : VS} (h1 : KeysMark ks s sm) (hv : s.vibuf = [])
    (h2 : Reads false [k] sm s2) (a2 : Int) (h4 : Reads false E (setArg2 a2 s2) s3)
    (h3 : ReadsEd K { s3 with charlast := cl, charcmd := cc } s') : KeysDone (ks ++ k :: (E ++ K)) s s' := by
  obtain ⟨ib, ip, ty, xl, rfl, -⟩ := h2
  obtain ⟨ib2, ip2, ty2, xl2, rfl, -⟩ := h4
  obtain ⟨ib', ip', ty', e⟩ := h3
  exact h1.done hv (by rw [e]; rfl) (by rw [e]; exact ((icmdAfterL_append sm.icmd [k] (E ++ K)).trans
    (icmdAfterL_append _ E K)).symm) (by rw [e]; rfl) (by rw [e]; rfl)

section find
variable (s s1 : VS) (body cs : List Nat) (o : Nat) (K rest : Bytes)

/-- **the keys `cf c`, text, ESC**: the characters `[o, t + 1)`, `t` the `n`-th `c` to the right of the cursor
(`n` the count), are replaced by the typed text -/
theorem cfc_keys (c t : Nat) (hr : viRead s = Res.ok 99 s1) (hv : s1.vibuf = []) (hp : pending s1 = 102 :: (enc c ++ (K ++ rest))) (hrow : OnRow s1 body o)
    (ha : 0 ≤ s1.arg1) (hc : ValidCp c ∧ 32 ≤ c ∧ c ≠ 127)
    (hfind : Motion.findChar body o c true false (opCount s1 0).toNat = some t) (ht : TypedText K cs) (hkm : s1.xkmap = 0) :
    ∃ sm s', commandTail s = finRec 99 0 VC_OK s' ∧ pending s' = rest ∧ KeysDone (102 :: (enc c ++ K)) s1 s' ∧
      o ≤ t ∧ t < body.length ∧ RowChanged K s1 sm s' s1.ed.xrow body cs o (t + 1) := by
  obtain ⟨s0, s2, hk0, hpre, hrd, hpend, hvb, hfin⟩ := keys_op 99 (by simp) 102 (by omega) s s1 (enc c ++ (K ++ rest)) hr hv hp
  obtain ⟨s3, s', g1, e1, e2, b1, b2, e3⟩ := cfc_spec s0 s2 0 body cs o K rest c t hpre (hk0.onRow hrow)
    (by rw [hk0.arg1]; exact ha) hc hpend (by rw [hk0.xkmap]; exact hkm) (by rw [hk0.opCount]; exact hfind) ht
  exact ⟨_, s', hfin _ _ e1, e2, keysDone_find hk0 hv hrd 0 g1 e3.frame, b1, b2, e3.base hk0⟩

/-- **the keys `ct c`, text, ESC**: as `cf c`, up to the character before that `c` -/
theorem ctc_keys (c t : Nat) (hr : viRead s = Res.ok 99 s1) (hv : s1.vibuf = []) (hp : pending s1 = 116 :: (enc c ++ (K ++ rest))) (hrow : OnRow s1 body o)
    (ha : 0 ≤ s1.arg1) (hc : ValidCp c ∧ 32 ≤ c ∧ c ≠ 127)
    (hfind : Motion.findChar body o c true true (opCount s1 0).toNat = some t) (ht : TypedText K cs) (hkm : s1.xkmap = 0) :
    ∃ sm s', commandTail s = finRec 99 0 VC_OK s' ∧ pending s' = rest ∧ KeysDone (116 :: (enc c ++ K)) s1 s' ∧
      o ≤ t ∧ t < body.length ∧ RowChanged K s1 sm s' s1.ed.xrow body cs o (t + 1) := by
  obtain ⟨s0, s2, hk0, hpre, hrd, hpend, hvb, hfin⟩ := keys_op 99 (by simp) 116 (by omega) s s1 (enc c ++ (K ++ rest)) hr hv hp
  obtain ⟨s3, s', g1, e1, e2, b1, b2, e3⟩ := ctc_spec s0 s2 0 body cs o K rest c t hpre (hk0.onRow hrow)
    (by rw [hk0.arg1]; exact ha) hc hpend (by rw [hk0.xkmap]; exact hkm) (by rw [hk0.opCount]; exact hfind) ht
  exact ⟨_, s', hfin _ _ e1, e2, keysDone_find hk0 hv hrd 0 g1 e3.frame, b1, b2, e3.base hk0⟩

end find

section line
variable (s s1 : VS) (body cs : List Nat) (K rest : Bytes)

/-- **the keys `cc`, text, ESC** (`[count]cc`): the rows `r .. min (r + c - 1) (n - 1)` become the one row
`indentation ++ text` -/
theorem cc_keys (hr : viRead s = Res.ok 99 s1) (hv : s1.vibuf = []) (hp : pending s1 = 99 :: (K ++ rest)) (ha : 0 ≤ s1.arg1)
    (h0 : 0 ≤ s1.ed.xrow) (h1 : s1.ed.xrow < lenOf s1)
    (hline : (lines s1)[s1.ed.xrow.toNat]? = some (encStr (body ++ [10])))
    (hb : ∀ c ∈ body, ValidCp c) (hb10 : 10 ∉ body) (ht : TypedText K cs) (hkm : s1.xkmap = 0) :
    ∃ sm s', commandTail s = finRec 99 0 VC_OK s' ∧ pending s' = rest ∧ KeysDone (99 :: K) s1 s' ∧
      LineChanged K s1 sm s' s1.ed.xrow (min (s1.ed.xrow + opCount s1 0 - 1) (lenOf s1 - 1)) body cs := by
  obtain ⟨s0, s2, hk0, hpre, hrd, hpend, hvb, hfin⟩ := keys_op 99 (by simp) 99 (by omega) s s1 (K ++ rest) hr hv hp
  obtain ⟨s', e1, e2, e3⟩ := cc_spec s0 s2 0 body cs K rest hpre (by rw [hk0.arg1]; exact ha) (by rw [hk0.xrow]; exact h0)
    (by rw [hk0.xrow, hk0.lenOf]; exact h1) (by rw [hk0.lines, hk0.xrow]; exact hline) hb hb10 ht hpend
    (by rw [hk0.xkmap]; exact hkm)
  rw [hk0.xrow, hk0.opCount, hk0.lenOf] at e3
  exact ⟨_, s', hfin _ _ e1, e2, keysDone_op hk0 hv hrd 0 e3.frame, e3.base hk0⟩

/-- **the key `S`, text, ESC**: as `cc` -/
theorem S_keys (hr : viRead s = Res.ok 83 s1) (hv : s1.vibuf = []) (hp : pending s1 = (K ++ rest)) (ha : 0 ≤ s1.arg1)
    (h0 : 0 ≤ s1.ed.xrow) (h1 : s1.ed.xrow < lenOf s1)
    (hline : (lines s1)[s1.ed.xrow.toNat]? = some (encStr (body ++ [10])))
    (hb : ∀ c ∈ body, ValidCp c) (hb10 : 10 ∉ body) (ht : TypedText K cs) (hkm : s1.xkmap = 0) :
    ∃ sm s', commandTail s = finRec 83 0 VC_OK s' ∧ pending s' = rest ∧ KeysDone K s1 s' ∧
      LineChanged K s1 sm s' s1.ed.xrow (min (s1.ed.xrow + opCount s1 0 - 1) (lenOf s1 - 1)) body cs := by
  obtain ⟨sm, hk0, hvb, hpend, hpre, hfin⟩ := keys_short 83 99 99 (by simp [isShort]) s s1 hr hv
  rw [hp] at hpend
  obtain ⟨s', e1, e2, e3⟩ := cc_spec { sm with vibuf := [99] } sm 0 body cs K rest hpre
    (by show 0 ≤ sm.arg1; rw [hk0.arg1]; exact ha) (by show 0 ≤ sm.ed.xrow; rw [hk0.xrow]; exact h0)
    (by show sm.ed.xrow < lenOf sm; rw [hk0.xrow, hk0.lenOf]; exact h1)
    (by show (lines sm)[sm.ed.xrow.toNat]? = _; rw [hk0.lines, hk0.xrow]; exact hline) hb hb10 ht hpend
    (by show sm.xkmap = 0; rw [hk0.xkmap]; exact hkm)
  refine ⟨setArg2 0 sm, s', hfin _ _ e1, e2, keysDone_short hk0 hv 0 e3.frame, ?_⟩
  have hoc : opCount { sm with vibuf := [99] } 0 = opCount s1 0 := hk0.opCount 0
  have hx : ({ sm with vibuf := [99] } : VS).ed.xrow = s1.ed.xrow := hk0.xrow
  have hn : lenOf ({ sm with vibuf := [99] } : VS) = lenOf s1 := hk0.lenOf
  rw [hoc, hx, hn] at e3
  have : LineChanged K sm (setArg2 0 sm) s' s1.ed.xrow (min (s1.ed.xrow + opCount s1 0 - 1) (lenOf s1 - 1)) body cs :=
    ⟨e3.lines, e3.regs, e3.xrow, e3.xoff, e3.frame⟩
  exact this.base hk0

/-- **the keys `cj`, text, ESC**: the rows `r .. min (r + c) (n - 1)` -/
theorem cj_keys (hr : viRead s = Res.ok 99 s1) (hv : s1.vibuf = []) (hp : pending s1 = 106 :: (K ++ rest)) (ha : 0 ≤ s1.arg1)
    (h0 : 0 ≤ s1.ed.xrow) (h1 : s1.ed.xrow < lenOf s1)
    (hline : (lines s1)[s1.ed.xrow.toNat]? = some (encStr (body ++ [10])))
    (hb : ∀ c ∈ body, ValidCp c) (hb10 : 10 ∉ body) (ht : TypedText K cs) (hkm : s1.xkmap = 0) :
    ∃ sm s', commandTail s = finRec 99 0 VC_OK s' ∧ pending s' = rest ∧ KeysDone (106 :: K) s1 s' ∧
      LineChanged K s1 sm s' s1.ed.xrow (min (s1.ed.xrow + opCount s1 0) (lenOf s1 - 1)) body cs := by
  obtain ⟨s0, s2, hk0, hpre, hrd, hpend, hvb, hfin⟩ := keys_op 99 (by simp) 106 (by omega) s s1 (K ++ rest) hr hv hp
  obtain ⟨s', e1, e2, e3⟩ := cj_spec s0 s2 0 body cs K rest hpre (by rw [hk0.arg1]; exact ha) (by rw [hk0.xrow]; exact h0)
    (by rw [hk0.xrow, hk0.lenOf]; exact h1) (by rw [hk0.lines, hk0.xrow]; exact hline) hb hb10 ht hpend
    (by rw [hk0.xkmap]; exact hkm)
  rw [hk0.xrow, hk0.opCount, hk0.lenOf] at e3
  exact ⟨_, s', hfin _ _ e1, e2, keysDone_op hk0 hv hrd 0 e3.frame, e3.base hk0⟩

/-- **the keys `ck`, text, ESC**: the rows `max (r - c) 0 .. r` (`body` is the first of them) -/
theorem ck_keys (hr : viRead s = Res.ok 99 s1) (hv : s1.vibuf = []) (hp : pending s1 = 107 :: (K ++ rest)) (ha : 0 ≤ s1.arg1)
    (h0 : 0 ≤ s1.ed.xrow) (h1 : s1.ed.xrow < lenOf s1)
    (hline : (lines s1)[(max (s1.ed.xrow - opCount s1 0) 0).toNat]? = some (encStr (body ++ [10])))
    (hb : ∀ c ∈ body, ValidCp c) (hb10 : 10 ∉ body) (ht : TypedText K cs) (hkm : s1.xkmap = 0) :
    ∃ sm s', commandTail s = finRec 99 0 VC_OK s' ∧ pending s' = rest ∧ KeysDone (107 :: K) s1 s' ∧
      LineChanged K s1 sm s' (max (s1.ed.xrow - opCount s1 0) 0) s1.ed.xrow body cs := by
  obtain ⟨s0, s2, hk0, hpre, hrd, hpend, hvb, hfin⟩ := keys_op 99 (by simp) 107 (by omega) s s1 (K ++ rest) hr hv hp
  obtain ⟨s', e1, e2, e3⟩ := ck_spec s0 s2 0 body cs K rest hpre (by rw [hk0.arg1]; exact ha) (by rw [hk0.xrow]; exact h0)
    (by rw [hk0.xrow, hk0.lenOf]; exact h1) (by rw [hk0.lines, hk0.xrow, hk0.opCount]; exact hline) hb hb10 ht hpend
    (by rw [hk0.xkmap]; exact hkm)
  rw [hk0.xrow, hk0.opCount] at e3
  exact ⟨_, s', hfin _ _ e1, e2, keysDone_op hk0 hv hrd 0 e3.frame, e3.base hk0⟩

end line

section case
variable (cmd : Nat) (hc : cmd = 126 ∨ cmd = 117 ∨ cmd = 85) (s s1 : VS) (a2 : Int) (body : List Nat) (o : Nat)
include hc

/-- **`~`** (`[count]~` = the case operator 126 with `SPC`), and `g~ SPC`, `gu SPC`, `gU SPC`: the `min c (|body| - o)`
characters from the cursor on are case-mapped, the cursor moves behind them -/
theorem case_spc_spec (hk : Prefixed s a2 32 s1) (hrow : OnRow s body o) :
    ∃ s', vcMotion cmd s = Res.ok VC_OK s' ∧
      RowCased cmd s (setArg2 a2 s1) s' s.ed.xrow body o (min (o + (opCount s a2).toNat) body.length) := by
  obtain ⟨s', e1, e3⟩ := row_case cmd hc s s1 _ a2 32 32 body o _ hrow (lands_spc s s1 a2 body o hk hrow)
  rw [inclusive_false _ 32 (by simp), span_fwd _ _ _ (by have := hrow.onChar; omega)] at e3
  exact ⟨s', e1, e3⟩

end case

theorem RowCased.base {cmd : Nat} {ks : Bytes} {s s0 sm s' : VS} {body : List Nat} {a b : Nat}
    (h : RowCased cmd s0 sm s' s0.ed.xrow body a b) (hk : KeysMark ks s s0) :
    RowCased cmd s sm s' s.ed.xrow body a b := by
  obtain ⟨a1, a2, a3, a4, a5⟩ := h
  refine ⟨?_, ?_, ?_, a4, a5⟩
  · rw [a1, hk.lines, hk.xrow]
  · rw [a2, hk.regs]
  · rw [a3, hk.xrow]

theorem LineShifted.base {dir : Int} {ks : Bytes} {s s0 sm s' : VS} {lo hi : Int}
    (h : LineShifted dir s0 sm s' lo hi) (hk : KeysMark ks s s0) : LineShifted dir s sm s' lo hi := by
  obtain ⟨a1, a2, a3, a4, a5⟩ := h
  refine ⟨?_, ?_, a3, a4, a5⟩
  · rw [a1, hk.lines]
  · rw [a2, hk.regs]

theorem keysDone_op0 {ks : Bytes} {k : Nat} {s sm s2 s' : VS} (h1 : KeysMark ks s sm) (hv : s.vibuf = [])
    (h2 : Reads false [k] sm s2) (a2 : Int) (h3 : s' = { setArg2 a2 s2 with ed := s'.ed }) : KeysDone (ks ++ [k]) s s' :=
  keysDone_op (K := []) h1 hv h2 a2 ⟨s2.ibuf, s2.ibufPos, s2.typed, h3⟩

theorem keysDone_short0 {ks : Bytes} {s sm s' : VS} (h1 : KeysMark ks s sm) (hv : s.vibuf = [])
    (a2 : Int) (h3 : s' = { setArg2 a2 sm with ed := s'.ed }) : KeysDone ks s s' := by
  have := keysDone_short (K := []) h1 hv a2 ⟨sm.ibuf, sm.ibufPos, sm.typed, h3⟩
  rwa [List.append_nil] at this

/-- **the key `~`** (`[count]~`): the `min c (|body| - o)` characters from the cursor on are toggled, the cursor moves
behind them (onto the last character of the line, after the window fix, when the line ends there) -/
theorem tilde_keys (s s1 : VS) (body : List Nat) (o : Nat) (hr : viRead s = Res.ok 126 s1) (hv : s1.vibuf = [])
    (hrow : OnRow s1 body o) :
    ∃ sm s', commandTail s = finRec 126 0 VC_OK s' ∧ pending s' = pending s1 ∧ KeysDone [] s1 s' ∧
      RowCased 126 s1 sm s' s1.ed.xrow body o (min (o + (opCount s1 0).toNat) body.length) := by
  obtain ⟨sm, hk0, hvb, hpend, hpre, hfin⟩ := keys_short 126 126 32 (by simp [isShort]) s s1 hr hv
  obtain ⟨s', e1, e3⟩ := case_spc_spec 126 (by simp) { sm with vibuf := [32] } sm 0 body o hpre (onRow_vibuf (hk0.onRow hrow) _)
  have hoc : opCount { sm with vibuf := [32] } 0 = opCount s1 0 := hk0.opCount 0
  rw [hoc] at e3
  have hpe : pending s' = pending s1 := by rw [e3.frame]; exact hpend
  refine ⟨setArg2 0 sm, s', hfin _ _ e1, hpe, keysDone_short0 hk0 hv 0 e3.frame, ?_⟩
  have : RowCased 126 sm (setArg2 0 sm) s' sm.ed.xrow body o (min (o + (opCount s1 0).toNat) body.length) :=
    ⟨e3.lines, e3.regs, e3.xrow, e3.xoff, e3.frame⟩
  exact this.base hk0

theorem KeysMark.read {ks : Bytes} {k : Nat} {s sm s2 : VS} (h : KeysMark ks s sm) (h2 : Reads false [k] sm s2) :
    KeysMark (ks ++ [k]) s s2 := by
  obtain ⟨ib, ip, ty, xl, rfl, hx⟩ := h2
  have := hx rfl
  subst this
  have hl := h.lines
  obtain ⟨ib0, ip0, ty0, e⟩ := h.eq
  obtain ⟨B, hB⟩ : ∃ B, B = sm.ed.bufs := ⟨_, rfl⟩
  rw [← hB] at e
  subst e
  refine ⟨⟨ib, ip, ty, ?_⟩, hl⟩
  rw [icmdAfterL_append]

theorem keysDone_one {ks : Bytes} {s sm s' : VS} (h1 : KeysMark ks s sm) (hv : s.vibuf = [])
    (h3 : s' = { sm with ed := s'.ed }) : KeysDone ks s s' := by
  simpa using h1.done (K := []) hv (by rw [h3]) (by rw [h3]; rfl) (by rw [h3]) (by rw [h3])

/-- a command key `c` on which the switch runs `f` and nothing else: the dispatcher runs `f` in the state `sm` (`hct`:
`commandTail_put`, `commandTail_J_`, `commandTail_r`) -/
theorem keys_run (c : Int) (f : M Nat) (s s1 : VS)
    (hct : commandTail s = (do markSet 94 s1.ed.xrow s1.ed.xoff; let m ← f; finRec c 0 m : M (Option Nat)) s1) :
    ∃ sm, KeysMark [] s1 sm ∧ pending sm = pending s1 ∧ ∀ m s', f sm = Res.ok m s' → commandTail s = finRec c 0 m s' := by
  obtain ⟨sm, h2, h3, h4, h5⟩ := read_mark s1
  refine ⟨sm, h3, h5, fun m s' hm => ?_⟩
  rw [hct]
  simp only [bind_apply, h2, hm]

/-- `p` / `P`: the dispatcher runs `vc_put` in the state `sm` -/
theorem keys_put (c : Nat) (hc : c = 112 ∨ c = 80) (s s1 : VS) (hr : viRead s = Res.ok (c : Int) s1) :
    ∃ sm, KeysMark [] s1 sm ∧ pending sm = pending s1 ∧
      ∀ m s', vcPut c sm = Res.ok m s' → commandTail s = finRec (c : Int) 0 m s' :=
  keys_run c (vcPut c) s s1 (commandTail_put (c : Int) (by omega) s s1 hr)

theorem PutChars.base {ks : Bytes} {s s0 s' : VS} {body ins : List Nat} {p : Nat}
    (h : PutChars s0 s' s0.ed.xrow body ins p) (hk : KeysMark ks s s0) : PutChars s s' s.ed.xrow body ins p := by
  obtain ⟨a1, a2, a3, a4⟩ := h
  refine ⟨?_, ?_, ?_, a4⟩
  · rw [a1, hk.lines, hk.xrow]
  · rw [a2, hk.regs]
  · rw [a3, hk.xrow]

theorem PutLines.base {ks : Bytes} {s s0 s' : VS} {r : Int} {new : List Bytes}
    (h : PutLines s0 s' r new) (hk : KeysMark ks s s0) : PutLines s s' r new := by
  obtain ⟨a1, a2, a3, a4⟩ := h
  refine ⟨?_, ?_, a3, a4⟩
  · rw [a1, hk.lines]
  · rw [a2, hk.regs]

/-- **the key `p` / `P` with a character-wise register** (the unnamed one, or `"a`..`"z`, `"1`..`"9` … as chosen by the
prefix: `s1.ybuf`) holding the text `bs`: `max 1 count` copies go in after (`p`) / before (`P`) the cursor character,
the cursor ends on the last inserted character -/
theorem put_chars_keys (c : Nat) (hc : c = 112 ∨ c = 80) (s s1 : VS) (body bs : List Nat) (o : Nat)
    (hr : viRead s = Res.ok (c : Int) s1) (hv : s1.vibuf = []) (hrow : OnRow s1 body o)
    (hreg : regGetLn s1.ed s1.ybuf = (some (encStr bs), some 0)) (hbs : ∀ c ∈ bs, ValidCp c) (hbs10 : 10 ∉ bs) (hne : bs ≠ []) :
    ∃ s', commandTail s = finRec (c : Int) 0 VC_OK s' ∧ pending s' = pending s1 ∧ KeysDone [] s1 s' ∧
      PutChars s1 s' s1.ed.xrow body (copies (cnt1 s1) bs) (o + if c = 112 then 1 else 0) := by
  obtain ⟨sm, hk0, hpend, hfin⟩ := keys_put c hc s s1 hr
  obtain ⟨s', e1, e2, e3⟩ := vcPut_chars c sm body bs o (hk0.onRow hrow) (by rw [hk0.regGetLn, hk0.ybuf]; exact hreg) hbs hbs10 hne
  rw [hk0.cnt1] at e2
  exact ⟨s', hfin _ _ e1, by rw [e3]; exact hpend, keysDone_one hk0 hv e3, e2.base hk0⟩

/-- **the key `p` / `P` with a line-wise register** holding the lines `rows`: `max 1 count` copies of them are inserted
below (`p`) / above (`P`) the cursor row, the cursor goes to the first non-blank of the first of them -/
theorem put_lines_keys (c : Nat) (hc : c = 112 ∨ c = 80) (s s1 : VS) (rows : List Bytes) (lnm : Nat)
    (hr : viRead s = Res.ok (c : Int) s1) (hv : s1.vibuf = [])
    (hreg : regGetLn s1.ed s1.ybuf = (some rows.flatten, some lnm)) (hl : lnm ≠ 0)
    (hrows : ∀ l ∈ rows, Props.C01.WfLine l) (hne : rows ≠ []) (h0 : 0 ≤ s1.ed.xrow) (h1 : s1.ed.xrow < lenOf s1) :
    ∃ s', commandTail s = finRec (c : Int) 0 VC_OK s' ∧ pending s' = pending s1 ∧ KeysDone [] s1 s' ∧
      PutLines s1 s' (s1.ed.xrow + if c = 112 then 1 else 0) (copies (cnt1 s1) rows) := by
  obtain ⟨sm, hk0, hpend, hfin⟩ := keys_put c hc s s1 hr
  have hlt : sm.ed.xrow.toNat < (lines sm).length := by
    have := hk0.lenOf; unfold Vi.lenOf at this h1; rw [hk0.xrow]; rw [hk0.lines]; omega
  obtain ⟨lb, hlb⟩ := lb_of_line sm sm.ed.xrow.toNat _ (List.getElem?_eq_getElem hlt)
  obtain ⟨s', e1, e2, e3⟩ := vcPut_lines c hc sm rows lnm lb hlb (by rw [hk0.regGetLn, hk0.ybuf]; exact hreg) hl hrows hne
    (by rw [hk0.xrow]; exact h0) (by rw [hk0.xrow, hk0.lenOf]; exact h1)
  rw [hk0.cnt1, hk0.xrow] at e2
  exact ⟨s', hfin _ _ e1, by rw [e3]; exact hpend, keysDone_one hk0 hv e3, e2.base hk0⟩

/-- a plain register name `c` (the unnamed register 0 or `"`, a lower-case letter, a digit …: not upper-case, not
the computed `;` `#` `^`): `reg_get` returns what the table holds -/
theorem regGetLn_plain (ed : Ed) (c : Nat) (h59 : c ≠ 59) (h35 : c ≠ 35) (h94 : c ≠ 94) (h34 : c ≠ 34) :
    regGetLn ed c = ((ed.regs.getRaw c).1, some (ed.regs.getRaw c).2) := by
  have e0 : (c == 34) = false := by simpa using h34
  have e1 : (c == 59) = false := by simpa using h59
  have e2 : (c == 35) = false := by simpa using h35
  have e3 : (c == 94) = false := by simpa using h94
  unfold Vi.regGetLn regGet
  simp only [e0, e1, e2, e3, Bool.false_eq_true, if_false, Bool.or_self]

/-- `Joined s s' a ws`: the cursor row `a` and the rows `ws` below it became the one row `joinRows a ws` (C08b: each
further row is appended without its leading blanks, after the spaces `join_spaces` asks for); the cursor is where the
last joined row starts -/
structure Joined (s s' : VS) (a : Bytes) (ws : List Bytes) : Prop where
  lines : lines s' = (lines s).take s.ed.xrow.toNat ++ [joinRows a ws ++ [10]] ++ (lines s).drop (s.ed.xrow.toNat + (ws.length + 1))
  regs : s'.ed.regs = s.ed.regs
  xrow : s'.ed.xrow = s.ed.xrow
  xoff : s'.ed.xoff = joinOff a ws 0

/-- **the key `J`** (`[count]J`): `max 2 count` rows — the cursor row `a` and the `|ws|` rows below it, which must
exist — are joined -/
theorem J_keys (s s1 : VS) (a : Bytes) (ws : List Bytes) (hr : viRead s = Res.ok 74 s1) (hv : s1.vibuf = [])
    (hr0 : 0 ≤ s1.ed.xrow)
    (hcnt : (if s1.arg1 ≤ 1 then 2 else s1.arg1) = ((ws.length + 1 : Nat) : Int))
    (hrows : ((lines s1).drop s1.ed.xrow.toNat).take (ws.length + 1) = (a :: ws).map (· ++ [10]))
    (h10 : ∀ w ∈ a :: ws, 10 ∉ w) :
    ∃ s', commandTail s = finRec 74 0 VC_OK s' ∧ pending s' = pending s1 ∧ KeysDone [] s1 s' ∧ Joined s1 s' a ws := by
  obtain ⟨sm, hk0, hpend, hfin⟩ := keys_run 74 vcJoin s s1 (commandTail_J_ s s1 hr)
  obtain ⟨s', e1, e2, e3, e4, e5, e6⟩ := Props.C08b.vcJoin_count_spec sm a ws (by rw [hk0.xrow]; exact hr0)
    (by rw [hk0.arg1]; exact hcnt) (by rw [hk0.lines, hk0.xrow]; exact hrows) h10
  refine ⟨s', hfin _ _ e1, by rw [e6]; exact hpend, keysDone_one hk0 hv e6, ?_, ?_, ?_, e3⟩
  · rw [e2, hk0.lines, hk0.xrow]
  · rw [e5, hk0.regs]
  · rw [e4, hk0.xrow]

/-- `RowReplaced s s' body o n c`: the `n` characters `[o, o + n)` of the cursor row were replaced by `n` copies of
`c`; the cursor is on the last of them -/
structure RowReplaced (s s' : VS) (body : List Nat) (o n c : Nat) : Prop where
  lines : lines s' = (lines s).take s.ed.xrow.toNat ++
    [encStr (body.take o ++ List.replicate n c ++ (body.drop (o + n) ++ [10]))] ++ (lines s).drop (s.ed.xrow.toNat + 1)
  regs : s'.ed.regs = s.ed.regs
  xrow : s'.ed.xrow = s.ed.xrow
  xoff : s'.ed.xoff = (o : Int) + n - 1

theorem keysDone_read {ks : Bytes} {E : Bytes} {s sm s' : VS} (h1 : KeysMark ks s sm) (hv : s.vibuf = [])
    (h3 : ReadsEd E sm s') : KeysDone (ks ++ E) s s' := by
  obtain ⟨ib', ip', ty', e⟩ := h3
  exact h1.done hv (by rw [e]) (by rw [e]) (by rw [e]) (by rw [e])

/-- **the keys `r c`** (`[count]r c`; `c` a typable character sent as its UTF-8 bytes), `n = max 1 count`: when `n`
characters remain from the cursor on they are replaced by `n` copies of `c`; otherwise nothing changes and the
command reports failure -/
theorem r_keys (s s1 : VS) (body : List Nat) (c o : Nat) (rest : Bytes) (hr : viRead s = Res.ok 114 s1) (hv : s1.vibuf = [])
    (hp : pending s1 = enc c ++ rest) (hrow : OnRow s1 body o) (hc : ValidCp c ∧ 32 ≤ c ∧ c ≠ 127) (hkm : s1.xkmap = 0) :
    (o + cnt1 s1 ≤ body.length →
      ∃ s', commandTail s = finRec 114 0 VC_OK s' ∧ pending s' = rest ∧ KeysDone (enc c) s1 s' ∧
        RowReplaced s1 s' body o (cnt1 s1) c) ∧
    (body.length < o + cnt1 s1 →
      ∃ s', commandTail s = finRec 114 0 0 s' ∧ pending s' = rest ∧ KeysDone (enc c) s1 s' ∧ lines s' = lines s1 ∧
        s'.ed.xrow = s1.ed.xrow ∧ s'.ed.xoff = s1.ed.xoff ∧ s'.ed.regs = s1.ed.regs) := by
  obtain ⟨sm, hk0, hpend, hfin⟩ := keys_run 114 vcReplace s s1 (commandTail_r s s1 hr)
  have hrow0 := hk0.onRow hrow
  obtain ⟨g1, g2⟩ := Props.C08b.vcReplace_spec sm body c o rest hrow0.row0 hrow0.line hrow0.valid hrow0.no10 hrow0.off
    hrow0.onChar hc (by rw [hpend]; exact hp) (by rw [hk0.xkmap]; exact hkm)
  have hcn : (max 1 sm.arg1).toNat = cnt1 s1 := by rw [hk0.arg1]; rfl
  rw [hcn] at g1 g2
  constructor
  · intro hle
    obtain ⟨s', e1, e2, e3⟩ := g1 hle
    refine ⟨s', hfin _ _ e1, e2, keysDone_read hk0 hv e3.frame, ?_, ?_, ?_, ?_⟩
    · rw [e3.lines, hk0.lines, hk0.xrow]
    · rw [e3.regs, hk0.regs]
    · rw [e3.xrow, hk0.xrow]
    · rw [e3.xoff]
  · intro hlt
    obtain ⟨s', e1, e2, e3⟩ := g2 hlt
    obtain ⟨a1, a2, a3, a4, a5⟩ := reads_false_frame e3
    refine ⟨s', hfin _ _ e1, e2, keysDone_read hk0 hv e3.readsEd, ?_, ?_, ?_, ?_⟩
    · unfold Vi.lines; rw [a1]; exact hk0.lines
    · rw [a1, hk0.xrow]
    · rw [a1, hk0.xoff]
    · rw [a1, hk0.regs]

end Neatvi.Lemmas.C08g
