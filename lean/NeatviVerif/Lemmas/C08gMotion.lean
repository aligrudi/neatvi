import NeatviVerif.Props.C08f
/-!
# C08g at the level of `vc_motion` (the operator letter has been read): `c`, the case operators, the shifts

`Lands s s1 sm a2 k mv body o t` packages what `Props/C08f.lean` passes around as separate hypotheses: after
the count prefix (`Prefixed s a2 k s1`) the motion key `k` is not a line motion, `vi_motion` answers `mv > 0`
with the target `(cursor row, t)`, `t ≤ |body|`, in the state `sm`, which differs from `s` by the key queues
(and the find memory) only.  One lemma per motion key (`lands_spc` … `lands_t`; `BS` and `h` in `Props/C08g.lean`) and
one theorem per operator (`row_change`, `row_case`) give every operator/motion pair on a row; with a line motion
(`vcMotion_line`) the operator gets whole rows: `line_change`, and `LineShifted` for `>` `<` (`line_shift` in
`Props/C08g.lean`).  Last, the change family by name: `cw ce c$ c SPC cl c0 cfc ctc` on one row, `cc cj ck` line-wise;
`TypedText K cs`: the keys `K` type the text `cs` (one line, not starting with a blank) and leave insert mode.
-/
set_option linter.unusedSimpArgs false
set_option linter.unusedVariables false
namespace Neatvi.Lemmas.C08g
open Neatvi Neatvi.Uc Neatvi.Vi Neatvi.Ex Neatvi.Lbuf Neatvi.Mot Neatvi.Spec
open Neatvi.Lemmas.C08 Neatvi.Lemmas.C08b Neatvi.Lemmas.C08f
open Neatvi.Lemmas.C09 (finRec pending)
open Neatvi.Props.C07c (Utf8Buf refBufU)
open Neatvi.Props.C08f

theorem prefixed_qonly {s s1 : VS} {a2 k : Int} (h : Prefixed s a2 k s1) : QOnly s s1 := by
  obtain ⟨sp, hp, hk⟩ := h
  exact (viPrefix_qspec s sp a2 hp).2.1.trans (viRead_qonly sp s1 k hk)

/-- the motion key `k` (after the second count `a2`) moves from character `o` of the cursor row to character
`t` of the same row; `mv` is the motion `vi_motion` reports, `sm` the state it leaves -/
structure Lands (s s1 sm : VS) (a2 k mv : Int) (body : List Nat) (o t : Nat) : Prop where
  pre : Prefixed s a2 k s1
  key : k ≠ 99 ∧ k ≠ 100 ∧ k ≠ 121 ∧ k ≠ 126 ∧ k ≠ 117 ∧ k ≠ 85 ∧ k ≠ 62 ∧ k ≠ 60 ∧ isLnKey 0 k = false
  motion : viMotion s.ed.xrow o (motionSt a2 s1 k) = Res.ok (mv, s.ed.xrow, (t : Int)) sm
  pos : 0 < mv
  ed : sm.ed = s.ed
  ybuf : sm.ybuf = s.ybuf
  xkmap : sm.xkmap = s.xkmap
  le : t ≤ body.length

theorem Lands.notLn {s s1 sm : VS} {a2 k mv : Int} {body : List Nat} {o t : Nat} (h : Lands s s1 sm a2 k mv body o t)
    (cmd : Nat) (hc : cmd = 99 ∨ cmd = 100 ∨ cmd = 121 ∨ cmd = 126 ∨ cmd = 117 ∨ cmd = 85 ∨ cmd = 62 ∨ cmd = 60) :
    isLnKey cmd k = false := by
  obtain ⟨k1, k2, k3, k4, k5, k6, k7, k8, k9⟩ := h.key
  unfold isLnKey at k9 ⊢
  simp only [Bool.or_eq_false_iff, beq_eq_false_iff_ne, ne_eq] at k9 ⊢
  obtain ⟨⟨⟨⟨⟨⟨⟨⟨⟨⟨⟨⟨a1, a2'⟩, a3⟩, a4⟩, a5⟩, a6⟩, a7⟩, a8⟩, a9⟩, a10⟩, a11⟩, a12⟩, a13⟩ := k9
  refine ⟨⟨⟨⟨⟨⟨⟨⟨⟨⟨⟨⟨a1, a2'⟩, a3⟩, a4⟩, a5⟩, a6⟩, a7⟩, a8⟩, a9⟩, a10⟩, a11⟩, ?_⟩, a13⟩
  rcases hc with rfl | rfl | rfl | rfl | rfl | rfl | rfl | rfl <;> assumption

theorem Lands.lines {s s1 sm : VS} {a2 k mv : Int} {body : List Nat} {o t : Nat} (h : Lands s s1 sm a2 k mv body o t) :
    lines sm = lines s := by
  unfold Vi.lines; rw [h.ed]

theorem keyOK (k : Int) (h : k = 32 ∨ k = 8 ∨ k = 36 ∨ k = 48 ∨ k = 101 ∨ k = 119 ∨ k = 102 ∨ k = 116 ∨ k = 108 ∨ k = 104) :
    k ≠ 99 ∧ k ≠ 100 ∧ k ≠ 121 ∧ k ≠ 126 ∧ k ≠ 117 ∧ k ≠ 85 ∧ k ≠ 62 ∧ k ≠ 60 ∧ isLnKey 0 k = false := by
  rcases h with rfl | rfl | rfl | rfl | rfl | rfl | rfl | rfl | rfl | rfl <;> decide

/-- how `Lands` is shown for the motions that read nothing further: `vi_motion` answers the key itself, in the state
`setArg2 a2 s1` -/
theorem Lands.of_motion {s s1 : VS} {a2 k : Int} {body : List Nat} {o t : Nat}
    (hkey : k = 32 ∨ k = 8 ∨ k = 36 ∨ k = 48 ∨ k = 101 ∨ k = 119 ∨ k = 102 ∨ k = 116 ∨ k = 108 ∨ k = 104)
    (hk : Prefixed s a2 k s1)
    (hm : viMotion s.ed.xrow o (motionSt a2 s1 k) = Res.ok (k, s.ed.xrow, (t : Int)) (setArg2 a2 s1))
    (hle : t ≤ body.length) : Lands s s1 (setArg2 a2 s1) a2 k k body o t :=
  ⟨hk, keyOK k hkey, hm, by omega, hk.frame.ed, hk.frame.ybuf, hk.frame.xkmap, hle⟩

/-- `SPC` with the count `c`: to `min (o + c) |body|` -/
theorem lands_spc (s s1 : VS) (a2 : Int) (body : List Nat) (o : Nat) (hk : Prefixed s a2 32 s1) (hrow : OnRow s body o) :
    Lands s s1 (setArg2 a2 s1) a2 32 32 body o (min (o + (opCount s a2).toNat) body.length) :=
  Lands.of_motion (by simp) hk (viMotion_spc_row s s1 a2 body o hk hrow) (by omega)

/-- `$`: to the newline -/
theorem lands_dollar (s s1 : VS) (a2 : Int) (body : List Nat) (o : Nat) (hk : Prefixed s a2 36 s1) (hrow : OnRow s body o) :
    Lands s s1 (setArg2 a2 s1) a2 36 36 body o body.length :=
  Lands.of_motion (by simp) hk (viMotion_dollar_row s s1 a2 body o hk hrow) (by omega)

/-- `0`: to the first character -/
theorem lands_zero (s s1 : VS) (a2 : Int) (body : List Nat) (o : Nat) (hk : Prefixed s a2 48 s1) :
    Lands s s1 (setArg2 a2 s1) a2 48 48 body o 0 :=
  Lands.of_motion (by simp) hk (viMotion_zero_row s s1 a2 o hk) (by omega)

/-- `e` with the count: to the reference target, when that is on the row -/
theorem lands_e (s s1 : VS) (a2 : Int) (body : List Nat) (o t : Nat) (hk : Prefixed s a2 101 s1) (hrow : OnRow s body o)
    (hu : Utf8Buf (lines s))
    (href : Motion.wordEndFwdRaw false (refBufU (lines s)) ⟨s.ed.xrow.toNat, o⟩ (opCount s a2).toNat = ⟨s.ed.xrow.toNat, t⟩) :
    Lands s s1 (setArg2 a2 s1) a2 101 101 body o t :=
  have h := viMotion_e_row s s1 a2 body o t hk hrow hu href
  Lands.of_motion (by simp) hk h.1 h.2

/-- `w` with the count: to the reference target, when that is on the row -/
theorem lands_w (s s1 : VS) (a2 : Int) (body : List Nat) (o t : Nat) (hk : Prefixed s a2 119 s1) (hrow : OnRow s body o)
    (hu : Utf8Buf (lines s))
    (href : Motion.wordFwdRaw false (refBufU (lines s)) ⟨s.ed.xrow.toNat, o⟩ (opCount s a2).toNat = ⟨s.ed.xrow.toNat, t⟩) :
    Lands s s1 (setArg2 a2 s1) a2 119 119 body o t :=
  have h := viMotion_w_row s s1 a2 body o t hk hrow hu href
  Lands.of_motion (by simp) hk h.1 h.2

/-- `l` with the count on a row displayed left to right: to `min (o + c) (|body| - 1)` -/
theorem lands_l (s s1 : VS) (a2 : Int) (body : List Nat) (o : Nat) (hk : Prefixed s a2 108 s1) (hrow : OnRow s body o)
    (hltr : LeftToRight s body) :
    Lands s s1 (setArg2 a2 s1) a2 108 108 body o (min (o + (opCount s a2).toNat) (body.length - 1)) :=
  Lands.of_motion (by simp) hk (viMotion_l_row s s1 a2 body o hk hrow hltr) (by omega)

/-- what reading the character of `f` / `t` leaves alone -/
theorem reads_false_frame {used : Bytes} {s s2 : VS} (h : Reads false used s s2) :
    s2.ed = s.ed ∧ s2.ybuf = s.ybuf ∧ s2.xkmap = s.xkmap ∧ s2.arg1 = s.arg1 ∧ s2.arg2 = s.arg2 := by
  obtain ⟨ib, ip, ty, xl, rfl, hx⟩ := h
  have := hx rfl
  subst this
  exact ⟨rfl, rfl, rfl, rfl, rfl⟩

/-- `f c` with the count: to the `n`-th `c` to the right of the cursor, when there is one -/
theorem lands_f (s s1 : VS) (a2 : Int) (body : List Nat) (o c : Nat) (rest : Bytes) (hk : Prefixed s a2 102 s1)
    (hrow : OnRow s body o) (ha : 0 ≤ s.arg1) (hc : ValidCp c ∧ 32 ≤ c ∧ c ≠ 127)
    (hp : pending s1 = enc c ++ rest) (hkm : s1.xkmap = 0) :
    ∃ s2, Reads false (enc c) (setArg2 a2 s1) s2 ∧ pending s2 = rest ∧
      ∀ t, Motion.findChar body o c true false (opCount s a2).toNat = some t →
        o ≤ t ∧ t < body.length ∧ Lands s s1 { s2 with charlast := enc c, charcmd := 102 } a2 102 102 body o t := by
  have hf := hk.frame
  obtain ⟨s2, h1, h2, hm⟩ := viMotion_f_row s s1 a2 body o c rest hk hrow ha hc hp hkm
  obtain ⟨e1, e2, e3, _, _⟩ := reads_false_frame h1
  refine ⟨s2, h1, h2, ?_⟩
  intro t ht
  obtain ⟨b1, b2, _⟩ := findChar_fwd_bounds body o c _ t false ht
  rw [ht] at hm
  exact ⟨b1, b2, hk, keyOK 102 (by simp), hm, by decide, e1.trans hf.ed, e2.trans hf.ybuf, e3.trans hf.xkmap, by omega⟩

/-- `t c` with the count: to the character before that `c` -/
theorem lands_t (s s1 : VS) (a2 : Int) (body : List Nat) (o c : Nat) (rest : Bytes) (hk : Prefixed s a2 116 s1)
    (hrow : OnRow s body o) (ha : 0 ≤ s.arg1) (hc : ValidCp c ∧ 32 ≤ c ∧ c ≠ 127)
    (hp : pending s1 = enc c ++ rest) (hkm : s1.xkmap = 0) :
    ∃ s2, Reads false (enc c) (setArg2 a2 s1) s2 ∧ pending s2 = rest ∧
      ∀ t, Motion.findChar body o c true true (opCount s a2).toNat = some t →
        o ≤ t ∧ t < body.length ∧ Lands s s1 { s2 with charlast := enc c, charcmd := 116 } a2 116 116 body o t := by
  have hf := hk.frame
  obtain ⟨s2, h1, h2, hm⟩ := viMotion_t_row s s1 a2 body o c rest hk hrow ha hc hp hkm
  obtain ⟨e1, e2, e3, _, _⟩ := reads_false_frame h1
  refine ⟨s2, h1, h2, ?_⟩
  intro t ht
  obtain ⟨b1, b2, _⟩ := findChar_fwd_bounds body o c _ t true ht
  rw [ht] at hm
  exact ⟨b1, b2, hk, keyOK 116 (by simp), hm, by decide, e1.trans hf.ed, e2.trans hf.ybuf, e3.trans hf.xkmap, by omega⟩

theorem span_bounds (incl : Bool) (o t len : Nat) (ho : o < len) (ht : t ≤ len) :
    (span incl o t len).1 ≤ (span incl o t len).2 ∧ (span incl o t len).2 ≤ len :=
  span_le incl o t len (Nat.le_of_lt ho) ht

theorem span_fwd (o t len : Nat) (h : o ≤ t) : span false o t len = (o, t) := by
  rw [span_excl, Nat.min_eq_left h, Nat.max_eq_right h]

theorem span_bwd (o t len : Nat) (h : t ≤ o) : span false o t len = (t, o) := by
  rw [span_excl, Nat.min_eq_right h, Nat.max_eq_left h]

theorem span_incl_fwd (o t len : Nat) (h : o ≤ t) (ht : t < len) : span true o t len = (o, t + 1) := by
  rw [span_incl o t len (by omega), Nat.min_eq_left h, Nat.max_eq_right h]

/-- `vc_motion cmd` is the operator applied to the span, in the state the motion left -/
theorem vcMotion_lands (cmd : Nat) (hc : cmd = 99 ∨ cmd = 100 ∨ cmd = 121 ∨ cmd = 126 ∨ cmd = 117 ∨ cmd = 85 ∨ cmd = 62 ∨ cmd = 60)
    (s s1 sm : VS) (a2 k mv : Int) (body : List Nat) (o t : Nat) (hrow : OnRow s body o)
    (hl : Lands s s1 sm a2 k mv body o t) :
    vcMotion cmd s = applyOp cmd s.ed.xrow (((span (inclusive sm mv) o t body.length).1 : Nat) : Int) s.ed.xrow
      (((span (inclusive sm mv) o t body.length).2 : Nat) : Int) false sm :=
  vcMotion_row cmd s s1 sm a2 k mv body o t hl.pre (hl.notLn cmd hc) hrow hl.motion hl.pos hl.ed hl.le

/-- `RowChanged K s sm s' r body cs a b`: the characters `[a, b)` of the row `r` (line `body`) were replaced
by the typed text `cs`: the line is `body.take a ++ cs ++ body.drop b`, the register named by the prefix
received `body[a, b)` in character mode, the cursor is on the last typed character, and apart from the
editor record the state is `sm` (the state after the motion) with the keys `K` of the insertion read -/
structure RowChanged (K : Bytes) (s sm s' : VS) (r : Int) (body cs : List Nat) (a b : Nat) : Prop where
  lines : lines s' = (lines s).take r.toNat ++ [encStr (body.take a ++ cs ++ body.drop b ++ [10])] ++ (lines s).drop (r.toNat + 1)
  regs : s'.ed.regs = s.ed.regs.put s.ybuf (encStr ((body.take b).drop a)) 0
  xrow : s'.ed.xrow = r
  xoff : s'.ed.xoff = (a : Int) + cs.length - 1
  frame : ReadsEd K sm s'

/-- **generic**: `c` with a motion that lands on `(r, t)`, then the keys `K` that type `cs` and leave insert
mode: the reference span of the motion is replaced by `cs` -/
theorem row_change (s s1 sm : VS) (a2 k mv : Int) (body cs : List Nat) (o t : Nat) (K rest : Bytes)
    (hrow : OnRow s body o) (hl : Lands s s1 sm a2 k mv body o t)
    (hin : Inputs K cs) (hp : pending sm = K ++ rest) (hpl : ∀ c ∈ cs, ValidCp c) (h10 : 10 ∉ cs)
    (hne : cs.head? ≠ none ∧ cs.head? ≠ some 32 ∧ cs.head? ≠ some 9) (hkm : s.xkmap = 0) :
    ∃ s', vcMotion 99 s = Res.ok VC_OK s' ∧ pending s' = rest ∧
      RowChanged K s sm s' s.ed.xrow body cs (span (inclusive sm mv) o t body.length).1
        (span (inclusive sm mv) o t body.length).2 := by
  rw [vcMotion_lands 99 (by simp) s s1 sm a2 k mv body o t hrow hl]
  have hsp := span_bounds (inclusive sm mv) o t body.length hrow.onChar hl.le
  have hap : ∀ a b : Int, applyOp 99 s.ed.xrow a s.ed.xrow b false = viChange s.ed.xrow a s.ed.xrow b false := fun _ _ => rfl
  rw [hap]
  have hls : lines sm = lines s := hl.lines
  obtain ⟨s', e1, e2, e3, e4⟩ := Props.C08b.viChange_char_spec sm s.ed.xrow body cs _ _ K rest hrow.row0
    (by rw [hls]; exact hrow.line) hrow.valid hrow.no10 hsp.1 hsp.2 hin hp hpl h10 hne (by rw [hl.xkmap]; exact hkm)
  refine ⟨s', e1, e2, ?_, ?_, e4.xrow, e4.xoff, e4.frame.of_ed ⟨_, rfl⟩⟩
  · rw [e4.lines]
    show (lines sm).take _ ++ _ ++ (lines sm).drop _ = _
    rw [hls]
    simp only [List.append_assoc]
  · rw [e3, hl.ed, hl.ybuf]

/-- `Props.C08f.vcMotion_line`, unchanged, under the namespace of this file -/
theorem vcMotion_line (cmd : Nat) (s s1 : VS) (a2 k t : Int) (hk : Prefixed s a2 k s1) (hkpos : 0 < k)
    (ht : lnTarget (setArg2 a2 s) s.ed.xrow cmd k = some t) (ht0 : 0 ≤ t) :
    ∃ a b, vcMotion cmd s = applyOp cmd (min s.ed.xrow t) a (max s.ed.xrow t) b true (setArg2 a2 s1) :=
  Neatvi.Props.C08f.vcMotion_line cmd s s1 a2 k t hk hkpos ht ht0

/-- `LineChanged K s sm s' lo hi body cs`: the rows `lo..hi` (the first of them `body`) were replaced by the
one row `indentation of body ++ cs`; the register named by the prefix received the rows in line mode; the
cursor is on the last typed character -/
structure LineChanged (K : Bytes) (s sm s' : VS) (lo hi : Int) (body cs : List Nat) : Prop where
  lines : lines s' = (lines s).take lo.toNat ++ [encStr (indentOf s body ++ cs ++ [10])] ++ (lines s).drop (hi.toNat + 1)
  regs : s'.ed.regs = s.ed.regs.put s.ybuf (rowsText (Vi.lines s) lo hi) 1
  xrow : s'.ed.xrow = lo
  xoff : s'.ed.xoff = ((indentOf s body).length : Int) + cs.length - 1
  frame : ReadsEd K sm s'

theorem indentOf_congr (s s' : VS) (body : List Nat) (h : s'.xai = s.xai) : indentOf s' body = indentOf s body := by
  unfold indentOf; rw [h]

/-- **generic**: `c` with a line motion `k` whose target row is `t`, then the keys `K` typing `cs` -/
theorem line_change (s s1 : VS) (a2 k t : Int) (body cs : List Nat) (K rest : Bytes)
    (hk : Prefixed s a2 k s1) (hkpos : 0 < k)
    (ht : lnTarget (setArg2 a2 s) s.ed.xrow 99 k = some t)
    (h0 : 0 ≤ s.ed.xrow) (h1 : s.ed.xrow < lenOf s) (ht0 : 0 ≤ t) (ht1 : t < lenOf s)
    (hline : (lines s)[(min s.ed.xrow t).toNat]? = some (encStr (body ++ [10])))
    (hb : ∀ c ∈ body, ValidCp c) (hb10 : 10 ∉ body)
    (hin : Inputs K cs) (hp : pending s1 = K ++ rest) (hpl : ∀ c ∈ cs, ValidCp c) (h10 : 10 ∉ cs)
    (hne : cs.head? ≠ none ∧ cs.head? ≠ some 32 ∧ cs.head? ≠ some 9) (hkm : s.xkmap = 0) :
    ∃ s', vcMotion 99 s = Res.ok VC_OK s' ∧ pending s' = rest ∧
      LineChanged K s (setArg2 a2 s1) s' (min s.ed.xrow t) (max s.ed.xrow t) body cs := by
  obtain ⟨a, b, e⟩ := vcMotion_line 99 s s1 a2 k t hk hkpos ht ht0
  have hf := hk.frame
  have hq := prefixed_qonly hk
  have hls : lines (setArg2 a2 s1) = lines s := hf.lines
  have hap : applyOp 99 (min s.ed.xrow t) a (max s.ed.xrow t) b true = viChange (min s.ed.xrow t) a (max s.ed.xrow t) b true := rfl
  rw [e, hap]
  obtain ⟨s', e1, e2, e3, e4⟩ := viChange_rows_spec (setArg2 a2 s1) (min s.ed.xrow t) (max s.ed.xrow t) a b body cs K rest
    (by omega) (by omega) (by rw [show lenOf (setArg2 a2 s1) = lenOf s from hf.lenOf]; omega)
    (by rw [hls]; exact hline) hb hb10 hin hp hpl h10 hne (by show s1.xkmap = 0; rw [hf.xkmap]; exact hkm)
  have hind : indentOf (setArg2 a2 s1) body = indentOf s body := indentOf_congr _ _ _ hq.xai
  refine ⟨s', e1, e2, ?_, ?_, e4.xrow, ?_, e4.frame.of_ed ⟨_, rfl⟩⟩
  · rw [e4.lines]
    show (lines (setArg2 a2 s1)).take _ ++ _ ++ (lines (setArg2 a2 s1)).drop _ = _
    rw [hls, hind]
    congr 2
    omega
  · rw [e3, hls]
    show s1.ed.regs.put s1.ybuf _ 1 = _
    rw [hf.ed, hf.ybuf]
    rfl
  · rw [e4.xoff, hind]

/-- `RowCased cmd s sm s' r body a b`: the characters `[a, b)` of the row `r` were mapped by `caseCp cmd`
(`126`: toggle, `117`: lower, `85`: upper; non-ASCII characters are left alone); the cursor is on `(r, b)`
(the window fix of `vi()` then clamps it to the line); the registers are untouched -/
structure RowCased (cmd : Nat) (s sm s' : VS) (r : Int) (body : List Nat) (a b : Nat) : Prop where
  lines : lines s' = (lines s).take r.toNat ++
    [encStr (body.take a ++ ((body.take b).drop a).map (caseCp cmd) ++ (body.drop b ++ [10]))] ++ (lines s).drop (r.toNat + 1)
  regs : s'.ed.regs = s.ed.regs
  xrow : s'.ed.xrow = r
  xoff : s'.ed.xoff = (b : Int)
  frame : s' = { sm with ed := s'.ed }

/-- **generic**: a case operator (`cmd` = `~`, `u`, `U` as `vc_motion` receives it) with a motion that lands on
the row: the reference span is case-mapped -/
theorem row_case (cmd : Nat) (hc : cmd = 126 ∨ cmd = 117 ∨ cmd = 85)
    (s s1 sm : VS) (a2 k mv : Int) (body : List Nat) (o t : Nat)
    (hrow : OnRow s body o) (hl : Lands s s1 sm a2 k mv body o t) :
    ∃ s', vcMotion cmd s = Res.ok VC_OK s' ∧
      RowCased cmd s sm s' s.ed.xrow body (span (inclusive sm mv) o t body.length).1
        (span (inclusive sm mv) o t body.length).2 := by
  rw [vcMotion_lands cmd (by rcases hc with rfl | rfl | rfl <;> simp) s s1 sm a2 k mv body o t hrow hl]
  have hsp := span_bounds (inclusive sm mv) o t body.length hrow.onChar hl.le
  have hap : ∀ a b : Int, applyOp cmd s.ed.xrow a s.ed.xrow b false = viCase s.ed.xrow a s.ed.xrow b false cmd := by
    intro a b
    rcases hc with rfl | rfl | rfl <;> rfl
  rw [hap]
  have hls : lines sm = lines s := hl.lines
  obtain ⟨s', e1, e2, e3, e4, e5, e6⟩ := Props.C08b.viCase_line_spec sm s.ed.xrow cmd body _ _ hrow.row0
    (by rw [hls]; exact hrow.line) hrow.valid hrow.no10 hsp.1 hsp.2
  refine ⟨s', e1, ?_, ?_, e3, e4, e6⟩
  · rw [e2, hls]
  · rw [e5, hl.ed]

/-- `LineShifted dir s sm s' lo hi`: the rows `lo..hi` were shifted (`shiftLine dir`: a tab in front of every
non-empty row for `>`, one leading blank removed for `<`); the cursor is on the first non-blank of row `lo` -/
structure LineShifted (dir : Int) (s sm s' : VS) (lo hi : Int) : Prop where
  lines : lines s' = (lines s).take lo.toNat ++
    (((lines s).drop lo.toNat).take (hi.toNat - lo.toNat + 1)).map (shiftLine dir) ++ (lines s).drop (hi.toNat + 1)
  regs : s'.ed.regs = s.ed.regs
  xrow : s'.ed.xrow = lo
  xoff : s'.ed.xoff = Mot.indents (Vi.lines s') lo
  frame : s' = { sm with ed := s'.ed }

/-- the keys `K` type the one-line text `cs` — valid code points, no newline, not empty, not starting with a
blank — and leave insert mode (`Inputs`, C08b: plain text and ESC, or any script of editing keys and ESC) -/
structure TypedText (K : Bytes) (cs : List Nat) : Prop where
  inputs : Inputs K cs
  valid : ∀ c ∈ cs, ValidCp c
  no10 : 10 ∉ cs
  head : cs.head? ≠ none ∧ cs.head? ≠ some 32 ∧ cs.head? ≠ some 9

/-- `pending` does not look at `arg2` -/
theorem pending_setArg2 (a2 : Int) (s : VS) : pending (setArg2 a2 s) = pending s := rfl

section row
variable (s s1 : VS) (a2 : Int) (body cs : List Nat) (o : Nat) (K rest : Bytes)

/-- **`cw`** (`[count]cw`): the span `dw` deletes — from the cursor to the start of the `c`-th next word, when that
is on the row; the blanks before that word included: unlike in POSIX vi, `cw` is not `ce` — is replaced by the
typed text -/
theorem cw_spec (t : Nat) (hk : Prefixed s a2 119 s1) (hrow : OnRow s body o) (hu : Utf8Buf (lines s))
    (href : Motion.wordFwdRaw false (refBufU (lines s)) ⟨s.ed.xrow.toNat, o⟩ (opCount s a2).toNat = ⟨s.ed.xrow.toNat, t⟩)
    (ht : TypedText K cs) (hp : pending s1 = K ++ rest) (hkm : s.xkmap = 0) :
    ∃ s', vcMotion 99 s = Res.ok VC_OK s' ∧ pending s' = rest ∧
      RowChanged K s (setArg2 a2 s1) s' s.ed.xrow body cs (min o t) (max o t) := by
  obtain ⟨s', e1, e2, e3⟩ := row_change s s1 _ a2 119 119 body cs o t K rest hrow (lands_w s s1 a2 body o t hk hrow hu href)
    ht.inputs hp ht.valid ht.no10 ht.head hkm
  rw [inclusive_false _ 119 (by simp), span_excl] at e3
  exact ⟨s', e1, e2, e3⟩

/-- **`ce`**: the span from the cursor to the end of the `c`-th word, inclusive -/
theorem ce_spec (t : Nat) (hk : Prefixed s a2 101 s1) (hrow : OnRow s body o) (hu : Utf8Buf (lines s))
    (href : Motion.wordEndFwdRaw false (refBufU (lines s)) ⟨s.ed.xrow.toNat, o⟩ (opCount s a2).toNat = ⟨s.ed.xrow.toNat, t⟩)
    (ht : TypedText K cs) (hp : pending s1 = K ++ rest) (hkm : s.xkmap = 0) :
    ∃ s', vcMotion 99 s = Res.ok VC_OK s' ∧ pending s' = rest ∧
      RowChanged K s (setArg2 a2 s1) s' s.ed.xrow body cs (span true o t body.length).1 (span true o t body.length).2 := by
  obtain ⟨s', e1, e2, e3⟩ := row_change s s1 _ a2 101 101 body cs o t K rest hrow (lands_e s s1 a2 body o t hk hrow hu href)
    ht.inputs hp ht.valid ht.no10 ht.head hkm
  rw [inclusive_true _ 101 (by simp)] at e3
  exact ⟨s', e1, e2, e3⟩

/-- … in the usual case `o ≤ t < |body|`: the characters `[o, t + 1)` -/
theorem ce_spec_fwd (t : Nat) (hk : Prefixed s a2 101 s1) (hrow : OnRow s body o) (hu : Utf8Buf (lines s))
    (href : Motion.wordEndFwdRaw false (refBufU (lines s)) ⟨s.ed.xrow.toNat, o⟩ (opCount s a2).toNat = ⟨s.ed.xrow.toNat, t⟩)
    (hot : o ≤ t) (htl : t < body.length)
    (ht : TypedText K cs) (hp : pending s1 = K ++ rest) (hkm : s.xkmap = 0) :
    ∃ s', vcMotion 99 s = Res.ok VC_OK s' ∧ pending s' = rest ∧
      RowChanged K s (setArg2 a2 s1) s' s.ed.xrow body cs o (t + 1) := by
  obtain ⟨s', e1, e2, e3⟩ := ce_spec s s1 a2 body cs o K rest t hk hrow hu href ht hp hkm
  rw [span_incl_fwd o t body.length hot htl] at e3
  exact ⟨s', e1, e2, e3⟩

/-- **`c$`** (= `C`): from the cursor to the end of the line -/
theorem c_dollar_spec (hk : Prefixed s a2 36 s1) (hrow : OnRow s body o)
    (ht : TypedText K cs) (hp : pending s1 = K ++ rest) (hkm : s.xkmap = 0) :
    ∃ s', vcMotion 99 s = Res.ok VC_OK s' ∧ pending s' = rest ∧
      RowChanged K s (setArg2 a2 s1) s' s.ed.xrow body cs o body.length := by
  obtain ⟨s', e1, e2, e3⟩ := row_change s s1 _ a2 36 36 body cs o _ K rest hrow (lands_dollar s s1 a2 body o hk hrow)
    ht.inputs hp ht.valid ht.no10 ht.head hkm
  rw [inclusive_false _ 36 (by simp), span_fwd _ _ _ (by have := hrow.onChar; omega)] at e3
  exact ⟨s', e1, e2, e3⟩

/-- **`c SPC`** (= `s`; `[count]s`): `min c (|body| - o)` characters from the cursor on -/
theorem c_spc_spec (hk : Prefixed s a2 32 s1) (hrow : OnRow s body o)
    (ht : TypedText K cs) (hp : pending s1 = K ++ rest) (hkm : s.xkmap = 0) :
    ∃ s', vcMotion 99 s = Res.ok VC_OK s' ∧ pending s' = rest ∧
      RowChanged K s (setArg2 a2 s1) s' s.ed.xrow body cs o (min (o + (opCount s a2).toNat) body.length) := by
  obtain ⟨s', e1, e2, e3⟩ := row_change s s1 _ a2 32 32 body cs o _ K rest hrow (lands_spc s s1 a2 body o hk hrow)
    ht.inputs hp ht.valid ht.no10 ht.head hkm
  rw [inclusive_false _ 32 (by simp), span_fwd _ _ _ (by have := hrow.onChar; omega)] at e3
  exact ⟨s', e1, e2, e3⟩

/-- **`cl`** on a row displayed left to right: the characters `[o, min (o + c) (|body| - 1))` — `l` never moves
onto the newline, so the last character of the line is never part of the span: `cl` is `s` only when
`o + c < |body|` (`cl_is_s_is_false` in `Props/C08g.lean`) -/
theorem cl_spec (hk : Prefixed s a2 108 s1) (hrow : OnRow s body o) (hltr : LeftToRight s body)
    (ht : TypedText K cs) (hp : pending s1 = K ++ rest) (hkm : s.xkmap = 0) :
    ∃ s', vcMotion 99 s = Res.ok VC_OK s' ∧ pending s' = rest ∧
      RowChanged K s (setArg2 a2 s1) s' s.ed.xrow body cs o (min (o + (opCount s a2).toNat) (body.length - 1)) := by
  obtain ⟨s', e1, e2, e3⟩ := row_change s s1 _ a2 108 108 body cs o _ K rest hrow (lands_l s s1 a2 body o hk hrow hltr)
    ht.inputs hp ht.valid ht.no10 ht.head hkm
  rw [inclusive_false _ 108 (by simp), span_fwd _ _ _ (by have := hrow.onChar; omega)] at e3
  exact ⟨s', e1, e2, e3⟩

/-- **`c0`**: the characters before the cursor -/
theorem c0_spec (hk : Prefixed s a2 48 s1) (hrow : OnRow s body o)
    (ht : TypedText K cs) (hp : pending s1 = K ++ rest) (hkm : s.xkmap = 0) :
    ∃ s', vcMotion 99 s = Res.ok VC_OK s' ∧ pending s' = rest ∧
      RowChanged K s (setArg2 a2 s1) s' s.ed.xrow body cs 0 o := by
  obtain ⟨s', e1, e2, e3⟩ := row_change s s1 _ a2 48 48 body cs o 0 K rest hrow (lands_zero s s1 a2 body o hk)
    ht.inputs hp ht.valid ht.no10 ht.head hkm
  rw [inclusive_false _ 48 (by simp), span_bwd _ _ _ (by omega)] at e3
  exact ⟨s', e1, e2, e3⟩

/-- **`cf c`**: the characters from the cursor up to and including the `n`-th `c` to its right, `[o, t + 1)` with
`t` the reference `findChar`, are replaced by the typed text (when there is such a `c`) -/
theorem cfc_spec (c t : Nat) (hk : Prefixed s a2 102 s1) (hrow : OnRow s body o) (ha : 0 ≤ s.arg1)
    (hc : ValidCp c ∧ 32 ≤ c ∧ c ≠ 127) (hp : pending s1 = enc c ++ (K ++ rest)) (hkm : s.xkmap = 0)
    (hfind : Motion.findChar body o c true false (opCount s a2).toNat = some t) (ht : TypedText K cs) :
    ∃ s2 s', Reads false (enc c) (setArg2 a2 s1) s2 ∧ vcMotion 99 s = Res.ok VC_OK s' ∧ pending s' = rest ∧
      o ≤ t ∧ t < body.length ∧
      RowChanged K s { s2 with charlast := enc c, charcmd := 102 } s' s.ed.xrow body cs o (t + 1) := by
  obtain ⟨s2, h1, h2, h3⟩ := lands_f s s1 a2 body o c (K ++ rest) hk hrow ha hc hp (by rw [hk.frame.xkmap]; exact hkm)
  obtain ⟨b1, b2, hl⟩ := h3 t hfind
  obtain ⟨s', e1, e2, e3⟩ := row_change s s1 _ a2 102 102 body cs o t K rest hrow hl
    ht.inputs h2 ht.valid ht.no10 ht.head hkm
  rw [inclusive_true _ 102 (by simp), span_incl_fwd o t body.length b1 b2] at e3
  exact ⟨s2, s', h1, e1, e2, b1, b2, e3⟩

/-- **`ct c`**: as `cf c`, up to the character before that `c` -/
theorem ctc_spec (c t : Nat) (hk : Prefixed s a2 116 s1) (hrow : OnRow s body o) (ha : 0 ≤ s.arg1)
    (hc : ValidCp c ∧ 32 ≤ c ∧ c ≠ 127) (hp : pending s1 = enc c ++ (K ++ rest)) (hkm : s.xkmap = 0)
    (hfind : Motion.findChar body o c true true (opCount s a2).toNat = some t) (ht : TypedText K cs) :
    ∃ s2 s', Reads false (enc c) (setArg2 a2 s1) s2 ∧ vcMotion 99 s = Res.ok VC_OK s' ∧ pending s' = rest ∧
      o ≤ t ∧ t < body.length ∧
      RowChanged K s { s2 with charlast := enc c, charcmd := 116 } s' s.ed.xrow body cs o (t + 1) := by
  obtain ⟨s2, h1, h2, h3⟩ := lands_t s s1 a2 body o c (K ++ rest) hk hrow ha hc hp (by rw [hk.frame.xkmap]; exact hkm)
  obtain ⟨b1, b2, hl⟩ := h3 t hfind
  obtain ⟨s', e1, e2, e3⟩ := row_change s s1 _ a2 116 116 body cs o t K rest hrow hl
    ht.inputs h2 ht.valid ht.no10 ht.head hkm
  rw [inclusive_true _ 116 (by simp), span_incl_fwd o t body.length b1 b2] at e3
  exact ⟨s2, s', h1, e1, e2, b1, b2, e3⟩

end row

section line
variable (s s1 : VS) (a2 : Int) (body cs : List Nat) (K rest : Bytes)

/-- **`cc`** (= `S`; `[count]cc`): the rows `r .. min (r + c - 1) (n - 1)` are replaced by one row: the
indentation of the cursor row (with `autoindent`) and the typed text -/
theorem cc_spec (hk : Prefixed s a2 99 s1) (ha : 0 ≤ s.arg1) (h0 : 0 ≤ s.ed.xrow) (h1 : s.ed.xrow < lenOf s)
    (hline : (lines s)[s.ed.xrow.toNat]? = some (encStr (body ++ [10])))
    (hb : ∀ c ∈ body, ValidCp c) (hb10 : 10 ∉ body)
    (ht : TypedText K cs) (hp : pending s1 = K ++ rest) (hkm : s.xkmap = 0) :
    ∃ s', vcMotion 99 s = Res.ok VC_OK s' ∧ pending s' = rest ∧
      LineChanged K s (setArg2 a2 s1) s' s.ed.xrow (min (s.ed.xrow + opCount s a2 - 1) (lenOf s - 1)) body cs := by
  have hc := opCount_pos s a2 ha hk.nonneg
  have hle : s.ed.xrow ≤ min (s.ed.xrow + opCount s a2 - 1) (lenOf s - 1) := by omega
  obtain ⟨s', e1, e2, e3⟩ := line_change s s1 a2 99 (min (s.ed.xrow + opCount s a2 - 1) (lenOf s - 1)) body cs K rest hk
    (by decide) rfl h0 h1 (by omega) (by omega) (by rw [Int.min_eq_left hle]; exact hline) hb hb10 ht.inputs hp ht.valid ht.no10 ht.head hkm
  rw [Int.min_eq_left hle, Int.max_eq_right hle] at e3
  exact ⟨s', e1, e2, e3⟩

/-- **`cj`**: the rows `r .. min (r + c) (n - 1)` -/
theorem cj_spec (hk : Prefixed s a2 106 s1) (ha : 0 ≤ s.arg1) (h0 : 0 ≤ s.ed.xrow) (h1 : s.ed.xrow < lenOf s)
    (hline : (lines s)[s.ed.xrow.toNat]? = some (encStr (body ++ [10])))
    (hb : ∀ c ∈ body, ValidCp c) (hb10 : 10 ∉ body)
    (ht : TypedText K cs) (hp : pending s1 = K ++ rest) (hkm : s.xkmap = 0) :
    ∃ s', vcMotion 99 s = Res.ok VC_OK s' ∧ pending s' = rest ∧
      LineChanged K s (setArg2 a2 s1) s' s.ed.xrow (min (s.ed.xrow + opCount s a2) (lenOf s - 1)) body cs := by
  have hc := opCount_pos s a2 ha hk.nonneg
  have hle : s.ed.xrow ≤ min (s.ed.xrow + opCount s a2) (lenOf s - 1) := by omega
  obtain ⟨s', e1, e2, e3⟩ := line_change s s1 a2 106 (min (s.ed.xrow + opCount s a2) (lenOf s - 1)) body cs K rest hk
    (by decide) rfl h0 h1 (by omega) (by omega) (by rw [Int.min_eq_left hle]; exact hline) hb hb10 ht.inputs hp ht.valid ht.no10 ht.head hkm
  rw [Int.min_eq_left hle, Int.max_eq_right hle] at e3
  exact ⟨s', e1, e2, e3⟩

/-- **`ck`**: the rows `max (r - c) 0 .. r`; the indentation is that of the first of them (`body` is the row
`max (r - c) 0`) -/
theorem ck_spec (hk : Prefixed s a2 107 s1) (ha : 0 ≤ s.arg1) (h0 : 0 ≤ s.ed.xrow) (h1 : s.ed.xrow < lenOf s)
    (hline : (lines s)[(max (s.ed.xrow - opCount s a2) 0).toNat]? = some (encStr (body ++ [10])))
    (hb : ∀ c ∈ body, ValidCp c) (hb10 : 10 ∉ body)
    (ht : TypedText K cs) (hp : pending s1 = K ++ rest) (hkm : s.xkmap = 0) :
    ∃ s', vcMotion 99 s = Res.ok VC_OK s' ∧ pending s' = rest ∧
      LineChanged K s (setArg2 a2 s1) s' (max (s.ed.xrow - opCount s a2) 0) s.ed.xrow body cs := by
  have hc := opCount_pos s a2 ha hk.nonneg
  have hle : max (s.ed.xrow - opCount s a2) 0 ≤ s.ed.xrow := by omega
  obtain ⟨s', e1, e2, e3⟩ := line_change s s1 a2 107 (max (s.ed.xrow - opCount s a2) 0) body cs K rest hk
    (by decide) rfl h0 h1 (by omega) (by omega) (by rw [Int.min_eq_right hle]; exact hline) hb hb10 ht.inputs hp ht.valid ht.no10 ht.head hkm
  rw [Int.min_eq_right hle, Int.max_eq_left hle] at e3
  exact ⟨s', e1, e2, e3⟩

end line

end Neatvi.Lemmas.C08g
