import NeatviVerif.Lemmas.C08gMotion
/-!
# C08g: `vc_put` (`p`, `P`) is total on a valid state, with its effect: a character-wise register on a row of
valid UTF-8, a line-wise register of well-formed lines
-/
set_option linter.unusedSimpArgs false
set_option linter.unusedVariables false
namespace Neatvi.Lemmas.C08g
open Neatvi Neatvi.Uc Neatvi.Vi Neatvi.Ex Neatvi.Lbuf Neatvi.Mot Neatvi.Spec
open Neatvi.Lemmas.C08 Neatvi.Lemmas.C08b Neatvi.Lemmas.C08f
open Neatvi.Props.C08f

/-- the count of `p` / `P`, `J`, `r`: `MAX(1, vi_arg1)` -/
def cnt1 (s : VS) : Nat := (max 1 s.arg1).toNat

/-- `n` copies of a text -/
def copies {α : Type} (n : Nat) (l : List α) : List α := (List.replicate n l).flatten

theorem copies_succ {α : Type} (n : Nat) (l : List α) : copies (n + 1) l = l ++ copies n l := by
  unfold copies; rw [List.replicate_succ, List.flatten_cons]

theorem copies_length {α : Type} (n : Nat) (l : List α) : (copies n l).length = n * l.length := by
  induction n with
  | zero => simp [copies]
  | succ n ih => rw [copies_succ, List.length_append, ih, Nat.succ_mul]; omega

theorem copies_mem {α : Type} (n : Nat) (l : List α) (x : α) (h : x ∈ copies n l) : x ∈ l := by
  induction n with
  | zero => simp [copies] at h
  | succ n ih =>
    rw [copies_succ] at h
    rcases List.mem_append.mp h with h | h
    · exact h
    · exact ih h

theorem encStr_copies (n : Nat) (bs : List Nat) : copies n (encStr bs) = encStr (copies n bs) := by
  induction n with
  | zero => rfl
  | succ n ih => rw [copies_succ, copies_succ, encStr_append, ih]

theorem putRep_eq (s : VS) (buf : Bytes) : putRep s buf = copies (cnt1 s) buf := rfl

/-- `PutChars s s' r body ins p`: the text `ins` was inserted before character `p` of the row `r` (line `body`);
the cursor is on the last inserted character; the registers are untouched -/
structure PutChars (s s' : VS) (r : Int) (body ins : List Nat) (p : Nat) : Prop where
  lines : lines s' = (lines s).take r.toNat ++ [encStr (body.take p ++ ins ++ body.drop p ++ [10])] ++ (lines s).drop (r.toNat + 1)
  regs : s'.ed.regs = s.ed.regs
  xrow : s'.ed.xrow = r
  xoff : s'.ed.xoff = (p : Int) + ins.length - 1

theorem vcPut_chars_at (cmd : Nat) (s : VS) (body bs : List Nat) (p : Nat)
    (hr0 : 0 ≤ s.ed.xrow) (hline : (lines s)[s.ed.xrow.toNat]? = some (encStr (body ++ [10])))
    (hb : ∀ c ∈ body, ValidCp c) (hb10 : 10 ∉ body) (hat : p ≤ body.length)
    (hoff : putOff cmd s = (p : Int))
    (hreg : regGetLn s.ed s.ybuf = (some (encStr bs), some 0)) (hbs : ∀ c ∈ bs, ValidCp c) (hbs10 : 10 ∉ bs)
    (hne : bs ≠ []) :
    ∃ s', vcPut cmd s = Res.ok VC_OK s' ∧ PutChars s s' s.ed.xrow body (copies (cnt1 s) bs) p ∧ s' = { s with ed := s'.ed } := by
  have hrlt : s.ed.xrow.toNat < (lines s).length := (List.getElem?_eq_some_iff.mp hline).1
  have hlen : s.ed.xrow < lenOf s := by show s.ed.xrow < ((lines s).length : Int); omega
  have hlE : lineE s s.ed.xrow = encStr (body ++ [10]) := lineE_eq s _ hr0 _ hline
  have hL : putLine s = encStr (body ++ [10]) := by unfold putLine; rw [if_pos hlen, hlE]
  obtain ⟨lb, hlb⟩ := lb_of_line s _ _ hline
  obtain ⟨e1, e2⟩ := subI_line body hb p hat
  have hbne : (encStr bs).isEmpty = false := by
    cases bs with
    | nil => exact absurd rfl hne
    | cons c t =>
      rw [encStr_cons]
      have := enc_length_pos c
      cases h : enc c with
      | nil => rw [h] at this; simp at this
      | cons x y => rfl
  have hslen : ucSlen (encStr bs) = bs.length := Props.C16.slen_spec hbs
  have hcv : ∀ c ∈ copies (cnt1 s) bs, ValidCp c := fun c hc => hbs c (copies_mem _ _ _ hc)
  have hc10 : 10 ∉ copies (cnt1 s) bs := fun h => hbs10 (copies_mem _ _ _ h)
  obtain ⟨ed', he1, he2, he3⟩ := edEdit_spec s
    (encStr (body.take p ++ copies (cnt1 s) bs ++ (body.drop p ++ [10]))) s.ed.xrow (s.ed.xrow + 1) lb hlb hr0
    (by omega) (by omega)
  have hrun : vcPut cmd s = Res.ok VC_OK
      { s with ed := { ed' with xoff := (p : Int) + (ucSlen (encStr bs) : Int) * ((max 1 s.arg1).toNat : Nat) - 1 } } := by
    unfold vcPut
    simp only [bind_apply, get_apply, hreg, hbne, Bool.false_eq_true, if_false, bne_self_eq_false]
    have hL' : (if s.ed.xrow < lenOf s then lineE s s.ed.xrow else [10]) = putLine s := rfl
    rw [hL']
    have hO : (Ren.renNoeol (putLine s) s.ed.xoff + (if (putLine s).headD 0 != 10 && cmd == 112 then 1 else 0)) =
        putOff cmd s := rfl
    rw [hO, hoff, hL, e1, e2]
    simp only [liftO_some, bind_apply]
    have hR : (List.replicate (max 1 s.arg1).toNat (encStr bs)).flatten = copies (cnt1 s) (encStr bs) := rfl
    rw [hR, encStr_copies, ← encStr_append, ← encStr_append, he1]
    rfl
  refine ⟨_, hrun, ⟨?_, ?_, ?_, ?_⟩, rfl⟩
  · show Lemmas.C06.lines ed' = _
    rw [he2, splitLines_wf _ (wfLine_enc_snoc (by
      intro hm
      rcases List.mem_append.mp hm with hm | hm
      · exact hb10 (List.mem_of_mem_take hm)
      · exact hc10 hm) (fun h => hb10 (List.mem_of_mem_drop h)))]
    rw [show (s.ed.xrow + 1).toNat = s.ed.xrow.toNat + 1 by omega]
    simp only [List.append_assoc]
  · show ed'.regs = s.ed.regs
    rw [he3]
  · show ed'.xrow = s.ed.xrow
    rw [he3]
  · show (p : Int) + (ucSlen (encStr bs) : Int) * ((max 1 s.arg1).toNat : Nat) - 1 = _
    rw [hslen, copies_length]
    unfold cnt1
    rw [Int.mul_comm]
    simp only [Int.natCast_mul]

theorem putOff_row (cmd : Nat) (s : VS) (body : List Nat) (o : Nat) (hrow : OnRow s body o) :
    putOff cmd s = (o : Int) + (if cmd = 112 then 1 else 0) := by
  have hrlt : s.ed.xrow.toNat < (lines s).length := (List.getElem?_eq_some_iff.mp hrow.line).1
  have hlen : s.ed.xrow < lenOf s := by show s.ed.xrow < ((lines s).length : Int); have := hrow.row0; omega
  have hlE : lineE s s.ed.xrow = encStr (body ++ [10]) := lineE_eq s _ hrow.row0 _ hrow.line
  have hL : putLine s = encStr (body ++ [10]) := by unfold putLine; rw [if_pos hlen, hlE]
  obtain ⟨c0, t0, rfl⟩ : ∃ c t, body = c :: t := by
    cases body with
    | nil => have := hrow.onChar; simp at this
    | cons c t => exact ⟨c, t, rfl⟩
  have hhd := headD_line_ne_ten c0 t0 hrow.no10
  unfold putOff
  rw [hL, hrow.off, renNoeol_body (c0 :: t0) hrow.valid hrow.no10 o hrow.onChar]
  have : ((encStr (c0 :: t0 ++ [10])).headD 0 != 10) = true := by
    rw [bne_iff_ne]; intro h; rw [h] at hhd; simp at hhd
  rw [this]
  by_cases hc : cmd = 112
  · subst hc; rfl
  · have : (cmd == 112) = false := by simpa using hc
    rw [this, if_neg hc]; rfl

/-- **`p` / `P` with a character-wise register**: `max 1 count` copies go in after (`p`) / before (any other letter)
the cursor character -/
theorem vcPut_chars (cmd : Nat) (s : VS) (body bs : List Nat) (o : Nat) (hrow : OnRow s body o)
    (hreg : regGetLn s.ed s.ybuf = (some (encStr bs), some 0)) (hbs : ∀ c ∈ bs, ValidCp c) (hbs10 : 10 ∉ bs)
    (hne : bs ≠ []) :
    ∃ s', vcPut cmd s = Res.ok VC_OK s' ∧
      PutChars s s' s.ed.xrow body (copies (cnt1 s) bs) (o + if cmd = 112 then 1 else 0) ∧ s' = { s with ed := s'.ed } :=
  vcPut_chars_at cmd s body bs _ hrow.row0 hrow.line hrow.valid hrow.no10 (by have := hrow.onChar; split <;> omega)
    (by rw [putOff_row cmd s body o hrow]; split <;> simp) hreg hbs hbs10 hne

theorem copies_flatten {α : Type} (n : Nat) (rows : List (List α)) : copies n rows.flatten = (copies n rows).flatten := by
  induction n with
  | zero => rfl
  | succ n ih => rw [copies_succ, copies_succ, List.flatten_append, ih]

/-- `PutLines s s' r new`: the lines `new` were inserted before the row `r` of `s`; the cursor is on the first
non-blank of the first of them; the registers are untouched -/
structure PutLines (s s' : VS) (r : Int) (new : List Bytes) : Prop where
  lines : lines s' = (lines s).take r.toNat ++ new ++ (lines s).drop r.toNat
  regs : s'.ed.regs = s.ed.regs
  xrow : s'.ed.xrow = r
  xoff : s'.ed.xoff = Mot.indents (Vi.lines s') r

theorem flatten_rows_ne (rows : List Bytes) (hrows : ∀ l ∈ rows, Props.C01.WfLine l) (hne : rows ≠ []) :
    rows.flatten.isEmpty = false := by
  cases rows with
  | nil => exact absurd rfl hne
  | cons l t =>
    obtain ⟨w, rfl, -⟩ := hrows l (by simp)
    cases w <;> rfl

theorem putLines_edit (s : VS) (rows : List Bytes) (r : Int) (n : Nat) (lb : Lb) (hlb : s.ed.lb = some lb)
    (hrows : ∀ l ∈ rows, Props.C01.WfLine l) (hr0 : 0 ≤ r) (hr1 : r ≤ lenOf s) :
    ∃ ed', edEdit (some (copies n rows.flatten)) r r s = Res.ok () { s with ed := ed' } ∧
      Lemmas.C06.lines ed' = (lines s).take r.toNat ++ copies n rows ++ (lines s).drop r.toNat ∧
      ed' = { s.ed with bufs := ed'.bufs } := by
  obtain ⟨ed', he1, he2, he3⟩ := edEdit_spec s (copies n rows.flatten) r r lb hlb hr0 (by omega) hr1
  refine ⟨ed', he1, ?_, he3⟩
  rw [he2, copies_flatten, Props.C01.split_of_join _ (fun l hl => hrows l (copies_mem _ _ _ hl))]

/-- **`P` with a line-wise register** holding the lines `rows`: `max 1 count` copies of them are inserted
before the cursor row; the cursor stays on that row number, on the first non-blank -/
theorem vcPut_lines_P (s : VS) (rows : List Bytes) (lnm : Nat) (lb : Lb) (hlb : s.ed.lb = some lb)
    (hreg : regGetLn s.ed s.ybuf = (some rows.flatten, some lnm)) (hl : lnm ≠ 0)
    (hrows : ∀ l ∈ rows, Props.C01.WfLine l) (hne : rows ≠ [])
    (hlen : lenOf s ≠ 0) (h0 : 0 ≤ s.ed.xrow) (h1 : s.ed.xrow ≤ lenOf s) :
    ∃ s', vcPut 80 s = Res.ok VC_OK s' ∧ PutLines s s' s.ed.xrow (copies (cnt1 s) rows) ∧ s' = { s with ed := s'.ed } := by
  obtain ⟨ed', he1, he2, he3⟩ := putLines_edit s rows s.ed.xrow (cnt1 s) lb hlb hrows h0 h1
  have e1 := flatten_rows_ne rows hrows hne
  have e2 : (lnm != 0) = true := by simpa using hl
  have e3 : (lenOf s == 0) = false := by simpa using hlen
  have hx : ed'.xrow = s.ed.xrow := by rw [he3]
  have hrun : vcPut 80 s = Res.ok VC_OK { s with ed := { ed' with xoff := Mot.indents (Lemmas.C06.lines ed') ed'.xrow } } := by
    unfold vcPut
    simp only [bind_apply, get_apply, hreg, e1, e2, e3, Bool.false_eq_true, if_false, if_true,
      show ((80 : Nat) == 112) = false by decide, pure_apply]
    have hR : (List.replicate (max 1 s.arg1).toNat rows.flatten).flatten = copies (cnt1 s) rows.flatten := rfl
    rw [hR, he1]
    rfl
  refine ⟨_, hrun, ⟨he2, ?_, hx, ?_⟩, rfl⟩
  · show ed'.regs = s.ed.regs
    rw [he3]
  · show Mot.indents (Lemmas.C06.lines ed') ed'.xrow = Mot.indents (Lemmas.C06.lines ed') s.ed.xrow
    rw [hx]

/-- **`p` with a line-wise register**: the copies are inserted after the cursor row, the cursor moves onto the
first of them -/
theorem vcPut_lines_p (s : VS) (rows : List Bytes) (lnm : Nat) (lb : Lb) (hlb : s.ed.lb = some lb)
    (hreg : regGetLn s.ed s.ybuf = (some rows.flatten, some lnm)) (hl : lnm ≠ 0)
    (hrows : ∀ l ∈ rows, Props.C01.WfLine l) (hne : rows ≠ [])
    (h0 : 0 ≤ s.ed.xrow) (h1 : s.ed.xrow < lenOf s) :
    ∃ s', vcPut 112 s = Res.ok VC_OK s' ∧ PutLines s s' (s.ed.xrow + 1) (copies (cnt1 s) rows) ∧ s' = { s with ed := s'.ed } := by
  obtain ⟨ed', he1, he2, he3⟩ := putLines_edit { s with ed := { s.ed with xrow := s.ed.xrow + 1 } } rows (s.ed.xrow + 1)
    (cnt1 s) lb hlb hrows (by omega) (by show s.ed.xrow + 1 ≤ lenOf s; omega)
  have e1 := flatten_rows_ne rows hrows hne
  have e2 : (lnm != 0) = true := by simpa using hl
  have e3 : (lenOf s == 0) = false := by simp; omega
  have hx : ed'.xrow = s.ed.xrow + 1 := by rw [he3]
  have hrun : vcPut 112 s = Res.ok VC_OK { s with ed := { ed' with xoff := Mot.indents (Lemmas.C06.lines ed') ed'.xrow } } := by
    unfold vcPut
    simp only [bind_apply, get_apply, hreg, e1, e2, e3, Bool.false_eq_true, if_false, if_true,
      show ((112 : Nat) == 112) = true by decide, pure_apply, setRow_apply]
    have hR : (List.replicate (max 1 s.arg1).toNat rows.flatten).flatten = copies (cnt1 s) rows.flatten := rfl
    rw [hR, he1]
    rfl
  refine ⟨_, hrun, ⟨he2, ?_, hx, ?_⟩, rfl⟩
  · show ed'.regs = s.ed.regs
    rw [he3]
  · show Mot.indents (Lemmas.C06.lines ed') ed'.xrow = Mot.indents (Lemmas.C06.lines ed') (s.ed.xrow + 1)
    rw [hx]

theorem vcPut_lines (cmd : Nat) (hc : cmd = 112 ∨ cmd = 80) (s : VS) (rows : List Bytes) (lnm : Nat) (lb : Lb)
    (hlb : s.ed.lb = some lb) (hreg : regGetLn s.ed s.ybuf = (some rows.flatten, some lnm)) (hl : lnm ≠ 0)
    (hrows : ∀ l ∈ rows, Props.C01.WfLine l) (hne : rows ≠ []) (h0 : 0 ≤ s.ed.xrow) (h1 : s.ed.xrow < lenOf s) :
    ∃ s', vcPut cmd s = Res.ok VC_OK s' ∧
      PutLines s s' (s.ed.xrow + if cmd = 112 then 1 else 0) (copies (cnt1 s) rows) ∧ s' = { s with ed := s'.ed } := by
  rcases hc with rfl | rfl
  · simpa using vcPut_lines_p s rows lnm lb hlb hreg hl hrows hne h0 h1
  · simpa using vcPut_lines_P s rows lnm lb hlb hreg hl hrows hne (by omega) h0 (by omega)

end Neatvi.Lemmas.C08g
