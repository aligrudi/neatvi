import NeatviVerif.Lemmas.Basics
import NeatviVerif.Lemmas.C08gStep
/-!
# C08g: whole iterations of `vi()` by command (`*_step`), and the round trips `yyp`, `ddP`, `xp`, `dwP` as two iterations

`StepDone s s'' rest`: the end of a whole iteration.  `Settled.stepDone`, `Settled.onRow`, `Settled.getRaw0`: from what
the command left (`s'`) to what the iteration leaves (`s''`), used by every `*_step`; first `yy`, `dd`.

The iterations that rewrite the cursor row (`RowIs`): `x`, `dw`, `p` / `P`.  `Settled.rowStep` is their common end: the
command left the row `body'` in place of the cursor row, the cursor on one of its characters; the window fix leaves it
there.  `OpStep.rowStep`: the whole iteration of an operator (`OpStep`: typed as an operator key and a motion key, or as a
shorthand key) that leaves a `RowEdit`; `OpStep.delete` is `d` with a motion that lands on the row.

Then the round trips, and `c` with a motion that lands on the row, text, ESC as a whole iteration (`OpStep.change`;
`cw_step`; `C`, `s`, `cc`: `Props/C08g.lean`): `vi_change` keeps `xquit`, `out`, `xtd` (`ek_viChange`,
`Lemmas/C08gStep.lean`), so `viPost` runs after it as after the delete and yank operators.
-/
set_option linter.unusedSimpArgs false
set_option linter.unusedVariables false
namespace Neatvi.Lemmas.C08g
open Neatvi Neatvi.Uc Neatvi.Vi Neatvi.Ex Neatvi.Lbuf Neatvi.Mot Neatvi.Spec
open Neatvi.Lemmas.C08 Neatvi.Lemmas.C08b Neatvi.Lemmas.C08f
open Neatvi.Lemmas.C09 (finRec pending)
open Neatvi.Props.C07c (Utf8Buf refBufU)
open Neatvi.Props.C08f

/-- the iteration that started in `s` (idle, registers well formed) returned in `s''`, idle again, with the keys
`rest` still to come; the keymap, `autoindent` and the text direction are untouched -/
structure StepDone (s s'' : VS) (rest : Bytes) : Prop where
  idle : Idle s''
  wf : RegsWf s''.ed.regs
  pending : pending s'' = rest
  xkmap : s''.xkmap = s.xkmap
  xai : s''.xai = s.xai
  xtd : s''.ed.xtd = s.ed.xtd

theorem Settled.stepDone {s s' s'' : VS} {rest : Bytes} (hs : Settled s' s'') (hv : s'.vibuf = []) (hwf : RegsWf s'.ed.regs)
    (hp : C09.pending s' = rest) (hk : s'.xkmap = s.xkmap) (ha : s'.xai = s.xai) (hek : edk s' = edk s) : StepDone s s'' rest :=
  ⟨hs.idle hv, hs.wf hwf, hs.pending.trans hp, hs.xkmap.trans hk, hs.xai.trans ha,
    hs.xtd.trans (congrArg (fun t => t.2.2) hek)⟩

theorem Settled.onRow {s' s'' : VS} {body : List Nat} {o : Nat} (hs : Settled s' s'') (hrow : OnRow s' body o) :
    s''.ed.xrow = s'.ed.xrow ∧ s''.ed.xoff = (o : Int) := by
  have hrlt : s'.ed.xrow.toNat < (Vi.lines s').length := (List.getElem?_eq_some_iff.mp hrow.line).1
  have hlen : s'.ed.xrow < Vi.lenOf s' := by show s'.ed.xrow < ((Vi.lines s').length : Int); have := hrow.row0; omega
  exact ⟨by rw [hs.xrow, wfixRow_valid s' hrow.row0 hlen], by rw [hs.xoff, wfixOff_onRow s' _ _ hrow]⟩

theorem Settled.getRaw0 {s' s'' : VS} (hs : Settled s' s'') (hwf : RegsWf s'.ed.regs) :
    s''.ed.regs.getRaw 0 = s'.ed.regs.getRaw 0 :=
  hs.regs hwf 0 (by omega)

theorem edk_line (cmd : Nat) (hc : cmd = 99 ∨ cmd = 100 ∨ cmd = 121) (s s1 : VS) (a2 k t : Int) (hk : Prefixed s a2 k s1) (hkpos : 0 < k)
    (ht : lnTarget (setArg2 a2 s) s.ed.xrow cmd k = some t) (ht0 : 0 ≤ t) (m : Nat) (s' : VS)
    (h : vcMotion cmd s = Res.ok m s') : edk s' = edk s := by
  obtain ⟨a, b, e⟩ := vcMotion_line cmd s s1 a2 k t hk hkpos ht ht0
  rw [e] at h
  have hs1 : edk (setArg2 a2 s1) = edk s := by unfold edk; show (s1.ed.xquit, s1.ed.out, s1.ed.xtd) = _; rw [hk.frame.ed]
  exact ((ek_applyOp cmd hc _ _ _ _ _).keep _ _ _ h).trans hs1

theorem edk_lands (cmd : Nat) (hc : cmd = 99 ∨ cmd = 100 ∨ cmd = 121) (s s1 sm : VS) (a2 k mv : Int) (body : List Nat) (o t : Nat)
    (hrow : OnRow s body o) (hl : Lands s s1 sm a2 k mv body o t) (m : Nat) (s' : VS)
    (h : vcMotion cmd s = Res.ok m s') : edk s' = edk s := by
  rw [vcMotion_lands cmd (by rcases hc with rfl | rfl | rfl <;> simp) s s1 sm a2 k mv body o t hrow hl] at h
  have hs1 : edk sm = edk s := by unfold edk; rw [hl.ed]
  exact ((ek_applyOp cmd hc _ _ _ _ _).keep _ _ _ h).trans hs1

/-- **`yy` as one iteration** (no count, no register prefix): the text and the cursor row are unchanged, the unnamed
register holds the cursor line in line mode -/
theorem yy_step (s : VS) (rest : Bytes) (hi : Idle s) (hwf : RegsWf s.ed.regs) (hp : pending s = 121 :: 121 :: rest)
    (h0 : 0 ≤ s.ed.xrow) (h1 : s.ed.xrow < lenOf s) :
    ∃ s'', viStep s = Res.ok () s'' ∧ StepDone s s'' rest ∧ lines s'' = lines s ∧ s''.ed.xrow = s.ed.xrow ∧
      s''.ed.regs.getRaw 0 = (some (rowsText (lines s) s.ed.xrow s.ed.xrow), 1) := by
  obtain ⟨sm, s2, hcs, hpre, hpend, hv2, hfin⟩ := step_op 121 (by simp) 121 (by omega) s rest hi hp
  have hy := yy_spec sm s2 0 hpre (by rw [hcs.arg1]; decide) (by rw [hcs.xrow]; exact h0) (by rw [hcs.xrow, hcs.lenOf]; exact h1)
  rw [hcs.opCount, hcs.xrow, hcs.lenOf, show min (s.ed.xrow + 1 - 1) (lenOf s - 1) = s.ed.xrow by omega] at hy
  have hek : edk (yankedRows sm (setArg2 0 s2) s.ed.xrow s.ed.xrow) = edk s := by
    rw [← hcs.edk]
    exact edk_line 121 (by simp) sm s2 0 121 (min (sm.ed.xrow + opCount sm 0 - 1) (lenOf sm - 1)) hpre (by decide) rfl
      (by rw [hcs.opCount, hcs.xrow, hcs.lenOf]; omega) _ _ hy
  obtain ⟨s'', e, hs⟩ := hfin _ _ hy hek
  have hregs : (yankedRows sm (setArg2 0 s2) s.ed.xrow s.ed.xrow).ed.regs =
      s.ed.regs.put 0 (rowsText (lines s) s.ed.xrow s.ed.xrow) 1 := by
    show sm.ed.regs.put sm.ybuf (rowsText (lines sm) _ _) 1 = _
    rw [hcs.regs, hcs.ybuf, hcs.lines]
  have hwf' : RegsWf (yankedRows sm (setArg2 0 s2) s.ed.xrow s.ed.xrow).ed.regs := by
    rw [hregs]; exact Props.C08.put_wf _ _ _ _ hwf
  refine ⟨s'', e, hs.stepDone hv2 hwf' hpend (hpre.frame.xkmap.trans hcs.xkmap) ((prefixed_qonly hpre).xai.trans hcs.xai) hek,
    hs.lines.trans hcs.lines, ?_, ?_⟩
  · rw [hs.xrow]
    exact wfixRow_valid _ h0 (by rw [show lenOf (yankedRows sm (setArg2 0 s2) s.ed.xrow s.ed.xrow) = lenOf sm from rfl, hcs.lenOf]; exact h1)
  · rw [hs.getRaw0 hwf', hregs, getRaw0_put0 _ _ _ hwf]

/-- **`dd` as one iteration**: the cursor line is gone, the unnamed register holds it in line mode, the cursor is
on the line that followed (the new last line when the last line went) -/
theorem dd_step (s : VS) (rest : Bytes) (hi : Idle s) (hwf : RegsWf s.ed.regs) (hp : pending s = 100 :: 100 :: rest)
    (h0 : 0 ≤ s.ed.xrow) (h1 : s.ed.xrow < lenOf s) :
    ∃ s'', viStep s = Res.ok () s'' ∧ StepDone s s'' rest ∧
      lines s'' = (lines s).take s.ed.xrow.toNat ++ (lines s).drop (s.ed.xrow.toNat + 1) ∧
      s''.ed.xrow = min s.ed.xrow (max 0 (lenOf s - 2)) ∧
      s''.ed.regs.getRaw 0 = (some (rowsText (lines s) s.ed.xrow s.ed.xrow), 1) := by
  obtain ⟨sm, s2, hcs, hpre, hpend, hv2, hfin⟩ := step_op 100 (by simp) 100 (by omega) s rest hi hp
  have hlt : sm.ed.xrow.toNat < (lines sm).length := by
    have := hcs.lenOf; unfold Vi.lenOf at this h1; rw [hcs.xrow, hcs.lines]; omega
  obtain ⟨lb, hlb⟩ := lb_of_line sm sm.ed.xrow.toNat _ (List.getElem?_eq_getElem hlt)
  obtain ⟨s', hd, hld⟩ := dd_spec sm s2 0 lb hlb hpre (by rw [hcs.arg1]; decide) (by rw [hcs.xrow]; exact h0)
    (by rw [hcs.xrow, hcs.lenOf]; exact h1)
  rw [hcs.opCount, hcs.xrow, hcs.lenOf, show min (s.ed.xrow + 1 - 1) (lenOf s - 1) = s.ed.xrow by omega] at hld
  have hek : edk s' = edk s := by
    rw [← hcs.edk]
    exact edk_line 100 (by simp) sm s2 0 100 (min (sm.ed.xrow + opCount sm 0 - 1) (lenOf sm - 1)) hpre (by decide) rfl
      (by rw [hcs.opCount, hcs.xrow, hcs.lenOf]; omega) _ _ hd
  obtain ⟨s'', e, hs⟩ := hfin _ _ hd hek
  have hregs : s'.ed.regs = s.ed.regs.put 0 (rowsText (lines s) s.ed.xrow s.ed.xrow) 1 := by
    rw [hld.regs, hcs.regs, hcs.ybuf, hcs.lines]
  have hwf' : RegsWf s'.ed.regs := by rw [hregs]; exact Props.C08.put_wf _ _ _ _ hwf
  have hlines : lines s' = (lines s).take s.ed.xrow.toNat ++ (lines s).drop (s.ed.xrow.toNat + 1) := by
    rw [hld.lines, hcs.lines]
  have hlen : lenOf s' = lenOf s - 1 := by
    have := hld.lenOf h0 (Int.le_refl _) (by rw [hcs.lenOf]; exact h1)
    rw [this, hcs.lenOf]; omega
  have hfr := hld.frame
  refine ⟨s'', e, hs.stepDone (by rw [hfr]; exact hv2) hwf' (by rw [hfr]; exact hpend)
    (by rw [hfr]; exact hpre.frame.xkmap.trans hcs.xkmap) (by rw [hfr]; exact (prefixed_qonly hpre).xai.trans hcs.xai) hek,
    hs.lines.trans hlines, ?_, ?_⟩
  · rw [hs.xrow]
    have hx := hld.xrow
    rw [hlen] at hx
    unfold wfixRow
    rw [hx, hlen]
    by_cases hn : lenOf s - 1 = 0
    · rw [if_pos (by simp; omega)]
      have : ((lenOf s - 1 != 0) = true) = False := by simp [hn]
      rw [if_neg (by rw [this]; exact id)]
      omega
    · rw [if_neg (by simp; omega)]
      omega
  · rw [hs.getRaw0 hwf', hregs, getRaw0_put0 _ _ _ hwf]

/-- the cursor row of `s` now holds `body'`, the other rows are as they were -/
def RowIs (s s'' : VS) (body' : List Nat) : Prop :=
  lines s'' = (lines s).take s.ed.xrow.toNat ++ [encStr (body' ++ [10])] ++ (lines s).drop (s.ed.xrow.toNat + 1)

theorem onRow_rowLt {s : VS} {body : List Nat} {o : Nat} (h : OnRow s body o) : s.ed.xrow.toNat < (lines s).length :=
  (List.getElem?_eq_some_iff.mp h.line).1

theorem onRow_of_lines {s s'' : VS} {body' : List Nat} {o' : Nat} (hr0 : 0 ≤ s.ed.xrow)
    (hrlt : s.ed.xrow.toNat < (lines s).length) (h : RowIs s s'' body') (hx : s''.ed.xrow = s.ed.xrow)
    (ho : s''.ed.xoff = (o' : Int)) (hv : ∀ c ∈ body', ValidCp c) (h10 : 10 ∉ body') (hlt : o' < body'.length) :
    OnRow s'' body' o' := by
  refine ⟨by rw [hx]; exact hr0, ?_, hv, h10, ho, hlt⟩
  rw [h, hx]
  rw [List.append_assoc, List.getElem?_append_right (by simp; omega)]
  simp only [List.length_take]
  rw [show s.ed.xrow.toNat - min s.ed.xrow.toNat (lines s).length = 0 by omega]
  rfl

theorem onRow_of_rowIs {s s'' : VS} {body body' : List Nat} {o o' : Nat} (hrow : OnRow s body o) (h : RowIs s s'' body')
    (hx : s''.ed.xrow = s.ed.xrow) (ho : s''.ed.xoff = (o' : Int)) (hv : ∀ c ∈ body', ValidCp c) (h10 : 10 ∉ body')
    (hlt : o' < body'.length) : OnRow s'' body' o' :=
  onRow_of_lines hrow.row0 (onRow_rowLt hrow) h hx ho hv h10 hlt

theorem mem_cut {α : Type} {c : α} {body : List α} {a b : Nat} (h : c ∈ body.take a ++ body.drop b) : c ∈ body :=
  (List.mem_append.mp h).elim List.mem_of_mem_take List.mem_of_mem_drop

theorem Settled.rowStep {s s' s'' : VS} {rest : Bytes} {body' : List Nat} {o' : Nat} (hs : Settled s' s'')
    (hr0 : 0 ≤ s.ed.xrow) (hrlt : s.ed.xrow.toNat < (Vi.lines s).length) (hl : RowIs s s' body') (hx : s'.ed.xrow = s.ed.xrow) (ho : s'.ed.xoff = (o' : Int))
    (hv' : ∀ c ∈ body', ValidCp c) (h10' : 10 ∉ body') (hlt : o' < body'.length) (hv : s'.vibuf = [])
    (hwf : RegsWf s'.ed.regs) (hp : C09.pending s' = rest) (hk : s'.xkmap = s.xkmap) (ha : s'.xai = s.xai)
    (hek : edk s' = edk s) :
    StepDone s s'' rest ∧ RowIs s s'' body' ∧ s''.ed.xrow = s.ed.xrow ∧ s''.ed.xoff = (o' : Int) ∧
      s''.ed.regs.getRaw 0 = s'.ed.regs.getRaw 0 := by
  obtain ⟨hx', ho'⟩ := hs.onRow (onRow_of_lines hr0 hrlt hl hx ho hv' h10' hlt)
  exact ⟨hs.stepDone hv hwf hp hk ha hek, by unfold RowIs; rw [hs.lines]; exact hl, hx'.trans hx, ho', hs.getRaw0 hwf⟩

/-- the iteration that started in `s` runs `vc_motion op` in a state `sm` with the text, the cursor and the registers of
`s` and no count (`CmdStart`); there the key `k` is read as the motion key and `rest` follows; once `vc_motion` has
returned, keeping `xquit`, `out`, `xtd`, the iteration returns and settles what it left.  This is what `step_op` (an
operator key and a motion key) concludes; a shorthand key gives it too (`OpStep.of_short`) -/
def OpStep (s : VS) (op : Nat) (k : Int) (rest : Bytes) : Prop :=
  ∃ sm s2, CmdStart s sm ∧ Prefixed sm 0 k s2 ∧ pending s2 = rest ∧ s2.vibuf = [] ∧
    ∀ m s', vcMotion op sm = Res.ok m s' → edk s' = edk s → ∃ s'', viStep s = Res.ok () s'' ∧ Settled s' s''

theorem OpStep.of_short {c op : Nat} {k : Int} (hs : isShort c op k) {s : VS} {rest : Bytes} (hi : Idle s)
    (hp : pending s = c :: rest) : OpStep s op k rest := by
  obtain ⟨sm, hcs, hpend, hvb, hpre, hfin⟩ := step_short c op k hs s rest hi hp
  exact ⟨{ sm with vibuf := [k] }, sm, ⟨hcs.ed, hcs.lines, hcs.arg1, hcs.ybuf, hcs.xkmap, hcs.xai⟩, hpre, hpend, hvb, hfin⟩

/-- what an operator that rewrote the cursor row left: the row is `body'`, the register named by the prefix holds `txt`
(`ln`: line mode), the cursor is on `(r, o')`; outside the editor record nothing the loop looks at moved since `sm` -/
structure RowEdit (s sm s' : VS) (body' : List Nat) (txt : Bytes) (ln o' : Nat) : Prop where
  lines : RowIs s s' body'
  regs : s'.ed.regs = s.ed.regs.put s.ybuf txt ln
  xrow : s'.ed.xrow = s.ed.xrow
  xoff : s'.ed.xoff = (o' : Int)
  vibuf : s'.vibuf = sm.vibuf
  xkmap : s'.xkmap = sm.xkmap
  xai : s'.xai = sm.xai

theorem _root_.Neatvi.Props.C08f.RowDeleted.rowEdit {s sm s' : VS} {body : List Nat} {a b : Nat}
    (h : RowDeleted s sm s' s.ed.xrow body a b) :
    RowEdit s sm s' (body.take a ++ body.drop b) (encStr ((body.take b).drop a)) 0 a :=
  ⟨h.lines, h.regs, h.xrow, h.xoff, by rw [h.frame], by rw [h.frame], by rw [h.frame]⟩

/-- **an operator that rewrites the cursor row, as one iteration.**  `hrun`: in the state in which `vc_motion` runs it
returns, keeping `xquit`, `out`, `xtd`, and leaves a `RowEdit`.  Then the iteration returns, idle again; the row is
`body'`, the cursor on its character `o'`, and the unnamed register holds `txt` -/
theorem OpStep.rowStep {s : VS} {op : Nat} {k : Int} {more rest : Bytes} (h : OpStep s op k more) (hwf : RegsWf s.ed.regs)
    {body' : List Nat} {txt : Bytes} {ln o' : Nat} (hr0 : 0 ≤ s.ed.xrow) (hrlt : s.ed.xrow.toNat < (lines s).length)
    (hrun : ∀ sm s2, CmdStart s sm → Prefixed sm 0 k s2 → pending s2 = more → ∃ m s',
      vcMotion op sm = Res.ok m s' ∧ edk s' = edk sm ∧ pending s' = rest ∧ RowEdit sm (setArg2 0 s2) s' body' txt ln o')
    (hv' : ∀ c ∈ body', ValidCp c) (h10' : 10 ∉ body') (hlt : o' < body'.length) :
    ∃ s'', viStep s = Res.ok () s'' ∧ StepDone s s'' rest ∧ RowIs s s'' body' ∧
      s''.ed.xrow = s.ed.xrow ∧ s''.ed.xoff = (o' : Int) ∧ s''.ed.regs.getRaw 0 = (some txt, ln) := by
  obtain ⟨sm, s2, hcs, hpre, hpend, hv2, hfin⟩ := h
  obtain ⟨m, s', hd, hek, hpe, he⟩ := hrun sm s2 hcs hpre hpend
  have hek : edk s' = edk s := hek.trans hcs.edk
  obtain ⟨s'', e, hs⟩ := hfin m s' hd hek
  have hregs : s'.ed.regs = s.ed.regs.put 0 txt ln := by rw [he.regs, hcs.regs, hcs.ybuf]
  have hwf' : RegsWf s'.ed.regs := by rw [hregs]; exact Props.C08.put_wf _ _ _ _ hwf
  obtain ⟨g1, g2, g3, g4, g5⟩ := hs.rowStep (rest := rest) hr0 hrlt
    (by have := he.lines; unfold RowIs at this ⊢; rw [this, hcs.lines, hcs.xrow]) (he.xrow.trans hcs.xrow) he.xoff hv' h10' hlt
    (he.vibuf.trans hv2) hwf' hpe (he.xkmap.trans (hpre.frame.xkmap.trans hcs.xkmap))
    (he.xai.trans ((prefixed_qonly hpre).xai.trans hcs.xai)) hek
  exact ⟨s'', e, g1, g2, g3, g4, by rw [g5, hregs, getRaw0_put0 _ _ _ hwf]⟩

/-- **`d` with a motion that lands on the row**, reading no further key, whose reference span is `[a, b)`, `b < |body|`:
the characters are gone, the cursor is on `a` -/
theorem OpStep.delete {s : VS} {k : Int} {rest : Bytes} (h : OpStep s 100 k rest) (hwf : RegsWf s.ed.regs)
    {body : List Nat} {o a b : Nat} (hrow : OnRow s body o)
    (hl : ∀ sm s2, CmdStart s sm → Prefixed sm 0 k s2 → ∃ t, Lands sm s2 (setArg2 0 s2) 0 k k body o t ∧
      span (inclusive (setArg2 0 s2) k) o t body.length = (a, b))
    (hab : a ≤ b) (hb : b < body.length) :
    ∃ s'', viStep s = Res.ok () s'' ∧ StepDone s s'' rest ∧ RowIs s s'' (body.take a ++ body.drop b) ∧
      s''.ed.xrow = s.ed.xrow ∧ s''.ed.xoff = (a : Int) ∧
      s''.ed.regs.getRaw 0 = (some (encStr ((body.take b).drop a)), 0) := by
  refine h.rowStep hwf hrow.row0 (onRow_rowLt hrow) ?_ (fun c hc => hrow.valid c (mem_cut hc))
    (fun hc => hrow.no10 (mem_cut hc)) ?_
  · intro sm s2 hcs hpre hpend
    obtain ⟨t, hl, hsp⟩ := hl sm s2 hcs hpre
    obtain ⟨s', hd, hld⟩ := row_delete sm s2 _ 0 k k body o t hpre (hl.notLn 100 (by simp)) (hcs.onRow hrow) hl.motion hl.pos
      hl.ed hl.ybuf hl.le
    rw [hsp] at hld
    exact ⟨_, s', hd, edk_lands 100 (by simp) sm s2 _ 0 k k body o t (hcs.onRow hrow) hl _ s' hd,
      by rw [hld.frame]; exact hpend, (hld : RowDeleted sm _ s' sm.ed.xrow body a b).rowEdit⟩
  · simp [List.length_take, List.length_drop]; omega

/-- **`x` as one iteration** on a character that is not the last of its line: the character is gone, the unnamed
register holds it, the cursor stays (now on the character that followed) -/
theorem x_step (s : VS) (body : List Nat) (o : Nat) (rest : Bytes) (hi : Idle s) (hwf : RegsWf s.ed.regs)
    (hp : pending s = 120 :: rest) (hrow : OnRow s body o) (hnl : o + 1 < body.length) :
    ∃ s'', viStep s = Res.ok () s'' ∧ StepDone s s'' rest ∧ RowIs s s'' (body.take o ++ body.drop (o + 1)) ∧
      s''.ed.xrow = s.ed.xrow ∧ s''.ed.xoff = (o : Int) ∧
      s''.ed.regs.getRaw 0 = (some (encStr ((body.take (o + 1)).drop o)), 0) := by
  refine (OpStep.of_short (c := 120) (op := 100) (k := 32) (by simp [isShort]) hi hp).delete hwf hrow ?_ (by omega) hnl
  intro sm s2 hcs hpre
  refine ⟨_, lands_spc sm s2 0 body o hpre (hcs.onRow hrow), ?_⟩
  rw [inclusive_false _ 32 (by simp), hcs.opCount, span_fwd _ _ _ (by omega)]
  simp; omega

/-- **`dw` as one iteration**, when the next word starts at `t` on the same row (`o < t < |body|`): the characters
`[o, t)` are gone, the unnamed register holds them, the cursor stays -/
theorem dw_step (s : VS) (body : List Nat) (o t : Nat) (rest : Bytes) (hi : Idle s) (hwf : RegsWf s.ed.regs)
    (hp : pending s = 100 :: 119 :: rest) (hrow : OnRow s body o) (hu : Utf8Buf (lines s))
    (href : Motion.wordFwdRaw false (refBufU (lines s)) ⟨s.ed.xrow.toNat, o⟩ 1 = ⟨s.ed.xrow.toNat, t⟩)
    (hot : o < t) (htl : t < body.length) :
    ∃ s'', viStep s = Res.ok () s'' ∧ StepDone s s'' rest ∧ RowIs s s'' (body.take o ++ body.drop t) ∧
      s''.ed.xrow = s.ed.xrow ∧ s''.ed.xoff = (o : Int) ∧
      s''.ed.regs.getRaw 0 = (some (encStr ((body.take t).drop o)), 0) := by
  refine OpStep.delete (k := 119) (step_op 100 (by simp) 119 (by omega) s rest hi hp) hwf hrow ?_ (by omega) htl
  intro sm s2 hcs hpre
  refine ⟨t, lands_w sm s2 0 body o t hpre (hcs.onRow hrow) (by rw [hcs.lines]; exact hu)
    (by rw [hcs.lines, hcs.xrow, hcs.opCount]; exact href), ?_⟩
  rw [inclusive_false _ 119 (by simp), span_fwd _ _ _ (by omega)]

/-- **`p` / `P` with the unnamed register holding the characters `bs` (character mode), as one iteration**: `bs` goes in
after (`p`) / before (`P`) the cursor character, the cursor ends on its last character -/
theorem put_chars_step (c : Nat) (hc : c = 112 ∨ c = 80) (s : VS) (body bs : List Nat) (o : Nat) (rest : Bytes) (hi : Idle s)
    (hwf : RegsWf s.ed.regs) (hp : pending s = c :: rest) (hrow : OnRow s body o)
    (hreg : s.ed.regs.getRaw 0 = (some (encStr bs), 0)) (hbs : ∀ c ∈ bs, ValidCp c) (hbs10 : 10 ∉ bs) (hne : bs ≠ []) :
    ∃ s'', viStep s = Res.ok () s'' ∧ StepDone s s'' rest ∧
      RowIs s s'' (body.take (o + if c = 112 then 1 else 0) ++ bs ++ body.drop (o + if c = 112 then 1 else 0)) ∧
      s''.ed.xrow = s.ed.xrow ∧ s''.ed.xoff = ((o + (if c = 112 then 1 else 0) + bs.length - 1 : Nat) : Int) ∧
      s''.ed.regs.getRaw 0 = (some (encStr bs), 0) := by
  obtain ⟨sm, hcs, hpend, hvb, hfin⟩ := step_put c hc s rest hi hp
  have hrow0 : OnRow sm body o := hcs.onRow hrow
  have hreg0 : regGetLn sm.ed sm.ybuf = (some (encStr bs), some 0) := by rw [hcs.regGetLn0, hreg]
  have hbl : 0 < bs.length := by cases bs with | nil => exact absurd rfl hne | cons _ _ => simp
  obtain ⟨p, hpdef⟩ : ∃ p, p = o + (if c = 112 then 1 else 0) := ⟨_, rfl⟩
  have hple : p ≤ body.length := by have := hrow.onChar; rw [hpdef]; split <;> omega
  obtain ⟨s', hd, hld, hfr⟩ := vcPut_chars c sm body bs o hrow0 hreg0 hbs hbs10 hne
  rw [← hpdef] at hld
  rw [hcs.cnt1, show copies 1 bs = bs by simp [copies]] at hld
  rw [← hpdef]
  obtain ⟨s'', e, hs⟩ := hfin _ _ hd
  have hregs : s'.ed.regs = s.ed.regs := by rw [hld.regs, hcs.regs]
  obtain ⟨g1, g2, g3, g4, g5⟩ := hs.rowStep (rest := rest) (o' := p + bs.length - 1) hrow.row0 (onRow_rowLt hrow)
    (by unfold RowIs; rw [hld.lines, hcs.lines, hcs.xrow]) (hld.xrow.trans hcs.xrow) (by rw [hld.xoff]; omega)
    (fun d hd => (Basics.mem_splice hd).elim (hrow.valid d) (hbs d)) (fun hd => (Basics.mem_splice hd).elim hrow.no10 hbs10)
    (by simp [List.length_take, List.length_drop]; omega) (by rw [hfr]; exact hvb) (by rw [hregs]; exact hwf)
    (by rw [hfr]; exact hpend) (by rw [hfr]; exact hcs.xkmap) (by rw [hfr]; exact hcs.xai)
    (((ek_vcPut c).keep sm _ s' hd).trans hcs.edk)
  exact ⟨s'', e, g1, g2, g3, g4, by rw [g5, hregs, hreg]⟩

/-- **`p` / `P` with the unnamed register holding the lines `rows` (line mode), as one iteration**: they are inserted
below (`p`) / above (`P`) the cursor row, the cursor goes to the first of them -/
theorem put_lines_step (c : Nat) (hc : c = 112 ∨ c = 80) (s : VS) (rows : List Bytes) (lnm : Nat) (rest : Bytes) (hi : Idle s)
    (hwf : RegsWf s.ed.regs) (hp : pending s = c :: rest) (h0 : 0 ≤ s.ed.xrow) (h1 : s.ed.xrow < lenOf s)
    (hreg : s.ed.regs.getRaw 0 = (some rows.flatten, lnm)) (hl : lnm ≠ 0)
    (hrows : ∀ l ∈ rows, Props.C01.WfLine l) (hne : rows ≠ []) :
    ∃ s'', viStep s = Res.ok () s'' ∧ StepDone s s'' rest ∧
      lines s'' = (lines s).take (s.ed.xrow + if c = 112 then 1 else 0).toNat ++ rows ++
        (lines s).drop (s.ed.xrow + if c = 112 then 1 else 0).toNat ∧
      s''.ed.xrow = s.ed.xrow + (if c = 112 then 1 else 0) ∧
      s''.ed.regs.getRaw 0 = (some rows.flatten, lnm) := by
  obtain ⟨sm, hcs, hpend, hvb, hfin⟩ := step_put c hc s rest hi hp
  have hreg0 : regGetLn sm.ed sm.ybuf = (some rows.flatten, some lnm) := by rw [hcs.regGetLn0, hreg]
  have hlt : sm.ed.xrow.toNat < (lines sm).length := by
    have := hcs.lenOf; unfold Vi.lenOf at this h1; rw [hcs.xrow, hcs.lines]; omega
  obtain ⟨lb, hlb⟩ := lb_of_line sm sm.ed.xrow.toNat _ (List.getElem?_eq_getElem hlt)
  obtain ⟨r, hrdef⟩ : ∃ r, r = s.ed.xrow + (if c = 112 then 1 else 0) := ⟨_, rfl⟩
  have hr0 : 0 ≤ r ∧ r ≤ lenOf s := by rw [hrdef]; split <;> omega
  obtain ⟨s', hd, hld, hfr⟩ := vcPut_lines c hc sm rows lnm lb hlb hreg0 hl hrows hne (by rw [hcs.xrow]; exact h0)
    (by rw [hcs.xrow, hcs.lenOf]; exact h1)
  rw [hcs.xrow, ← hrdef] at hld
  rw [hcs.cnt1, show copies 1 rows = rows by simp [copies]] at hld
  rw [← hrdef]
  obtain ⟨s'', e, hs⟩ := hfin _ _ hd
  have hregs : s'.ed.regs = s.ed.regs := by rw [hld.regs, hcs.regs]
  have hwf' : RegsWf s'.ed.regs := by rw [hregs]; exact hwf
  have hrl : 0 < rows.length := by cases rows with | nil => exact absurd rfl hne | cons _ _ => simp
  have hlen : s'.ed.xrow < lenOf s' := by
    show s'.ed.xrow < ((lines s').length : Int)
    rw [hld.xrow, hld.lines, hcs.lines]
    simp only [List.length_append, List.length_take, List.length_drop]
    have := hr0
    unfold Vi.lenOf at this
    omega
  refine ⟨s'', e, hs.stepDone (by rw [hfr]; exact hvb) hwf' (by rw [hfr]; exact hpend) (by rw [hfr]; exact hcs.xkmap)
    (by rw [hfr]; exact hcs.xai) (((ek_vcPut c).keep sm _ s' hd).trans hcs.edk), ?_, ?_, ?_⟩
  · rw [hs.lines, hld.lines, hcs.lines]
  · rw [hs.xrow, wfixRow_valid s' (by rw [hld.xrow]; exact hr0.1) hlen, hld.xrow]
  · rw [hs.getRaw0 hwf', hregs, hreg]

theorem StepDone.trans {s s1 s2 : VS} {r1 r2 : Bytes} (h1 : StepDone s s1 r1) (h2 : StepDone s1 s2 r2) : StepDone s s2 r2 :=
  ⟨h2.idle, h2.wf, h2.pending, h2.xkmap.trans h1.xkmap, h2.xai.trans h1.xai, h2.xtd.trans h1.xtd⟩

theorem rowsText_one (ls : List Bytes) (r : Int) (L : Bytes) (h0 : 0 ≤ r) (h : ls[r.toNat]? = some L) :
    rowsText ls r r = [L].flatten := by
  unfold rowsText
  rw [show r.toNat - r.toNat + 1 = 1 by omega, List.take_one, List.head?_drop, h]
  rfl

theorem take_of_cut {α : Type} (ls : List α) (k : Nat) (mid : List α) (tl : List α) (hk : k ≤ ls.length) :
    (ls.take k ++ mid ++ tl).take k = ls.take k := by
  rw [List.append_assoc, List.take_append_of_le_length (by simp; omega), List.take_take, Nat.min_self]

theorem drop_of_cut {α : Type} (ls : List α) (k : Nat) (mid : List α) (tl : List α) (hk : k ≤ ls.length) :
    (ls.take k ++ mid ++ tl).drop (k + mid.length) = tl := by
  rw [List.drop_append_of_le_length (by simp; omega)]
  have : (ls.take k ++ mid).length = k + mid.length := by simp; omega
  rw [← this, List.drop_length, List.nil_append]

theorem take_len_succ {α : Type} (pre post : List α) (b : α) : (pre ++ b :: post).take (pre.length + 1) = pre ++ [b] := by
  rw [show pre ++ b :: post = (pre ++ [b]) ++ post by simp, List.take_append_of_le_length (by simp),
    List.take_of_length_le (by simp)]

theorem drop_len_succ {α : Type} (pre post : List α) (b : α) : (pre ++ b :: post).drop (pre.length + 1) = post := by
  have : (pre ++ [b]).length = pre.length + 1 := by simp
  rw [show pre ++ b :: post = (pre ++ [b]) ++ post by simp, ← this, List.drop_left]

theorem rowIs_trans {s s1 s2 : VS} {b1 b2 : List Nat} (h1 : RowIs s s1 b1) (h2 : RowIs s1 s2 b2) (hx : s1.ed.xrow = s.ed.xrow)
    (hr0 : 0 ≤ s.ed.xrow) (hlen : s.ed.xrow < lenOf s) : RowIs s s2 b2 := by
  unfold RowIs at h1 h2 ⊢
  have hk : s.ed.xrow.toNat ≤ (lines s).length := by unfold Vi.lenOf at hlen; omega
  rw [h2, hx, h1, take_of_cut _ _ _ _ hk]
  have := drop_of_cut (lines s) s.ed.xrow.toNat [encStr (b1 ++ [10])] ((lines s).drop (s.ed.xrow.toNat + 1)) hk
  simp only [List.length_singleton] at this
  rw [this]

/-- **`yyp` duplicates the cursor line.**  Two iterations of `vi()` on the keys `y y p`: the line `L` under the cursor
appears a second time below itself, the cursor is on the copy -/
theorem yyp_steps (s : VS) (L : Bytes) (rest : Bytes) (hi : Idle s) (hwf : RegsWf s.ed.regs)
    (hp : pending s = 121 :: 121 :: 112 :: rest) (h0 : 0 ≤ s.ed.xrow)
    (hline : (lines s)[s.ed.xrow.toNat]? = some L) (hL : Props.C01.WfLine L) :
    ∃ s1 s2, viStep s = Res.ok () s1 ∧ viStep s1 = Res.ok () s2 ∧ StepDone s s2 rest ∧
      lines s2 = (lines s).take (s.ed.xrow.toNat + 1) ++ [L] ++ (lines s).drop (s.ed.xrow.toNat + 1) ∧
      s2.ed.xrow = s.ed.xrow + 1 := by
  have hrlt : s.ed.xrow.toNat < (lines s).length := (List.getElem?_eq_some_iff.mp hline).1
  have h1 : s.ed.xrow < lenOf s := by show s.ed.xrow < ((lines s).length : Int); omega
  obtain ⟨s1, e1, d1, l1, x1, r1⟩ := yy_step s (112 :: rest) hi hwf hp h0 h1
  rw [rowsText_one _ _ L h0 hline] at r1
  obtain ⟨s2, e2, d2, l2, x2, r2⟩ := put_lines_step 112 (by simp) s1 [L] 1 rest d1.idle d1.wf d1.pending
    (by rw [x1]; exact h0) (by rw [x1]; unfold Vi.lenOf; rw [l1]; exact h1) r1 (by decide)
    (by intro l hl; simp at hl; subst hl; exact hL) (by simp)
  refine ⟨s1, s2, e1, e2, d1.trans d2, ?_, ?_⟩
  · rw [l2, l1, x1]
    simp only [if_true]
    rw [show (s.ed.xrow + 1).toNat = s.ed.xrow.toNat + 1 by omega]
  · rw [x2, x1]; simp

/-- **`ddP` restores the text** when the cursor line is not the last: two iterations on the keys `d d P` leave every
line where it was, and the cursor on its row -/
theorem ddP_steps (s : VS) (L : Bytes) (rest : Bytes) (hi : Idle s) (hwf : RegsWf s.ed.regs)
    (hp : pending s = 100 :: 100 :: 80 :: rest) (h0 : 0 ≤ s.ed.xrow) (hnl : s.ed.xrow + 1 < lenOf s)
    (hline : (lines s)[s.ed.xrow.toNat]? = some L) (hL : Props.C01.WfLine L) :
    ∃ s1 s2, viStep s = Res.ok () s1 ∧ viStep s1 = Res.ok () s2 ∧ StepDone s s2 rest ∧
      lines s1 = (lines s).take s.ed.xrow.toNat ++ (lines s).drop (s.ed.xrow.toNat + 1) ∧
      lines s2 = lines s ∧ s2.ed.xrow = s.ed.xrow := by
  have hn : lenOf s = ((lines s).length : Int) := rfl
  obtain ⟨s1, e1, d1, l1, x1, r1⟩ := dd_step s (80 :: rest) hi hwf hp h0 (by omega)
  rw [rowsText_one _ _ L h0 hline] at r1
  rw [show min s.ed.xrow (max 0 (lenOf s - 2)) = s.ed.xrow by omega] at x1
  have hlen1 : lenOf s1 = lenOf s - 1 := by
    unfold Vi.lenOf; rw [l1]
    simp only [List.length_append, List.length_take, List.length_drop]
    omega
  obtain ⟨s2, e2, d2, l2, x2, r2⟩ := put_lines_step 80 (by simp) s1 [L] 1 rest d1.idle d1.wf d1.pending
    (by rw [x1]; exact h0) (by rw [x1, hlen1]; omega) r1 (by decide)
    (by intro l hl; simp at hl; subst hl; exact hL) (by simp)
  refine ⟨s1, s2, e1, e2, d1.trans d2, l1, ?_, ?_⟩
  · rw [l2, x1]
    simp only [show ¬ ((80 : Nat) = 112) by decide, if_false, Int.add_zero]
    have hk : s.ed.xrow.toNat ≤ (lines s).length := by omega
    have h1 := take_of_cut (lines s) s.ed.xrow.toNat [] ((lines s).drop (s.ed.xrow.toNat + 1)) hk
    have h2 := drop_of_cut (lines s) s.ed.xrow.toNat [] ((lines s).drop (s.ed.xrow.toNat + 1)) hk
    simp only [List.append_nil, List.length_nil, Nat.add_zero] at h1 h2
    rw [l1, h1, h2]
    exact Basics.take_getElem_drop (lines s) _ L hline
  · rw [x2, x1]; simp

/-- **`xp` swaps two characters.**  The cursor row is `pre ++ a :: b :: post`, the cursor on `a`: two iterations on the
keys `x p` leave `pre ++ b :: a :: post`, the cursor on `a` -/
theorem xp_steps (s : VS) (pre post : List Nat) (a b : Nat) (rest : Bytes) (hi : Idle s) (hwf : RegsWf s.ed.regs)
    (hp : pending s = 120 :: 112 :: rest) (hrow : OnRow s (pre ++ a :: b :: post) pre.length) :
    ∃ s1 s2, viStep s = Res.ok () s1 ∧ viStep s1 = Res.ok () s2 ∧ StepDone s s2 rest ∧
      RowIs s s1 (pre ++ b :: post) ∧ RowIs s s2 (pre ++ b :: a :: post) ∧
      s2.ed.xrow = s.ed.xrow ∧ s2.ed.xoff = ((pre.length + 1 : Nat) : Int) := by
  have hrlt : s.ed.xrow.toNat < (lines s).length := (List.getElem?_eq_some_iff.mp hrow.line).1
  have h1 : s.ed.xrow < lenOf s := by show s.ed.xrow < ((lines s).length : Int); have := hrow.row0; omega
  have t1 : (pre ++ a :: b :: post).take pre.length = pre := List.take_left
  have t2 : (pre ++ a :: b :: post).drop (pre.length + 1) = b :: post := drop_len_succ pre (b :: post) a
  have t3 : ((pre ++ a :: b :: post).take (pre.length + 1)).drop pre.length = [a] := by
    rw [take_len_succ, List.drop_left]
  obtain ⟨s1, e1, d1, l1, x1, o1, r1⟩ := x_step s _ pre.length (112 :: rest) hi hwf hp hrow (by simp)
  rw [t1, t2] at l1
  rw [t3] at r1
  have hv := hrow.valid
  have h10 := hrow.no10
  have hrow1 : OnRow s1 (pre ++ b :: post) pre.length :=
    onRow_of_rowIs hrow l1 x1 o1 (fun c hc => hv c (by simp at hc ⊢; rcases hc with hc | hc | hc <;> simp [hc]))
      (fun hc => h10 (by simp at hc ⊢; rcases hc with hc | hc | hc <;> simp [hc])) (by simp)
  obtain ⟨s2, e2, d2, l2, x2, o2, r2⟩ := put_chars_step 112 (by simp) s1 (pre ++ b :: post) [a] pre.length rest d1.idle d1.wf
    d1.pending hrow1 r1 (fun c hc => hv c (by simp at hc ⊢; simp [hc])) (fun hc => h10 (by simp at hc ⊢; simp [← hc])) (by simp)
  simp only [if_true] at l2 o2
  have u1 : (pre ++ b :: post).take (pre.length + 1) = pre ++ [b] := take_len_succ pre post b
  have u2 : (pre ++ b :: post).drop (pre.length + 1) = post := drop_len_succ pre post b
  rw [u1, u2, show pre ++ [b] ++ [a] ++ post = pre ++ b :: a :: post by simp] at l2
  refine ⟨s1, s2, e1, e2, d1.trans d2, l1, rowIs_trans l1 l2 x1 hrow.row0 h1, by rw [x2, x1], ?_⟩
  rw [o2]
  simp

/-- **`dwP` restores the text** when the next word starts at `t` on the same row (`o < t < |body|`): two iterations on
the keys `d w P` leave the row as it was; the cursor is on the last character that was put back -/
theorem dwP_steps (s : VS) (body : List Nat) (o t : Nat) (rest : Bytes) (hi : Idle s) (hwf : RegsWf s.ed.regs)
    (hp : pending s = 100 :: 119 :: 80 :: rest) (hrow : OnRow s body o) (hu : Utf8Buf (lines s))
    (href : Motion.wordFwdRaw false (refBufU (lines s)) ⟨s.ed.xrow.toNat, o⟩ 1 = ⟨s.ed.xrow.toNat, t⟩)
    (hot : o < t) (htl : t < body.length) :
    ∃ s1 s2, viStep s = Res.ok () s1 ∧ viStep s1 = Res.ok () s2 ∧ StepDone s s2 rest ∧
      RowIs s s1 (body.take o ++ body.drop t) ∧ lines s2 = lines s ∧
      s2.ed.xrow = s.ed.xrow ∧ s2.ed.xoff = ((t - 1 : Nat) : Int) := by
  have hrlt : s.ed.xrow.toNat < (lines s).length := (List.getElem?_eq_some_iff.mp hrow.line).1
  have h1 : s.ed.xrow < lenOf s := by show s.ed.xrow < ((lines s).length : Int); have := hrow.row0; omega
  obtain ⟨s1, e1, d1, l1, x1, o1, r1⟩ := dw_step s body o t (80 :: rest) hi hwf hp hrow hu href hot htl
  have hv := hrow.valid
  have h10 := hrow.no10
  have hrow1 : OnRow s1 (body.take o ++ body.drop t) o :=
    onRow_of_rowIs hrow l1 x1 o1 (fun c hc => hv c (mem_cut hc)) (fun hc => h10 (mem_cut hc))
      (by simp [List.length_take, List.length_drop]; omega)
  have hmid : (body.take t).drop o ≠ [] := by
    intro h
    have := congrArg List.length h
    simp [List.length_take, List.length_drop] at this
    omega
  obtain ⟨s2, e2, d2, l2, x2, o2, r2⟩ := put_chars_step 80 (by simp) s1 (body.take o ++ body.drop t) ((body.take t).drop o) o rest
    d1.idle d1.wf d1.pending hrow1 r1 (fun c hc => hv c (List.mem_of_mem_take (List.mem_of_mem_drop hc)))
    (fun hc => h10 (List.mem_of_mem_take (List.mem_of_mem_drop hc))) hmid
  simp only [show ¬ ((80 : Nat) = 112) by decide, if_false, Nat.add_zero] at l2 o2
  have u1 : (body.take o ++ body.drop t).take o = body.take o := by
    rw [List.take_append_of_le_length (by simp [List.length_take]; omega), List.take_take, Nat.min_self]
  have u2 : (body.take o ++ body.drop t).drop o = body.drop t := by
    have : (body.take o).length = o := by simp [List.length_take]; omega
    rw [List.drop_append_of_le_length (by omega)]
    conv => lhs; rw [← this]
    simp
  have u3 : body.take o ++ (body.take t).drop o ++ body.drop t = body := by
    have : body.take o = (body.take t).take o := by rw [List.take_take, Nat.min_eq_left (Nat.le_of_lt hot)]
    rw [this, List.take_append_drop, List.take_append_drop]
  rw [u1, u2, u3] at l2
  have l2' := rowIs_trans l1 l2 x1 hrow.row0 h1
  refine ⟨s1, s2, e1, e2, d1.trans d2, l1, ?_, by rw [x2, x1], ?_⟩
  · unfold RowIs at l2'
    rw [l2']
    exact Basics.take_getElem_drop (lines s) _ _ hrow.line
  · rw [o2]
    simp [List.length_take, List.length_drop]
    omega

theorem typedText_ne {K : Bytes} {cs : List Nat} (h : TypedText K cs) : cs ≠ [] := by
  intro he
  have := h.head.1
  rw [he] at this
  exact this rfl

theorem readsEd_frame {K : Bytes} {sm s' : VS} (h : ReadsEd K sm s') :
    s'.vibuf = sm.vibuf ∧ s'.xkmap = sm.xkmap ∧ s'.xai = sm.xai := by
  obtain ⟨ib, ip, ty, e⟩ := h
  refine ⟨?_, ?_, ?_⟩ <;> rw [e]

theorem RowChanged.rowEdit {K : Bytes} {s sm s' : VS} {body cs : List Nat} {a b : Nat}
    (h : RowChanged K s sm s' s.ed.xrow body cs a b) (hcs : cs ≠ []) :
    RowEdit s sm s' (body.take a ++ cs ++ body.drop b) (encStr ((body.take b).drop a)) 0 (a + cs.length - 1) := by
  obtain ⟨f1, f2, f3⟩ := readsEd_frame h.frame
  have := List.length_pos_iff.mpr hcs
  exact ⟨h.lines, h.regs, h.xrow, by rw [h.xoff]; omega, f1, f2, f3⟩

/-- **`c` with a motion that lands on the row** (reading no further key; reference span `[a, b)`), **text, ESC, as one
iteration**: the span is replaced by the typed text, the cursor is on the last typed character -/
theorem OpStep.change {s : VS} {k : Int} {K rest : Bytes} (h : OpStep s 99 k (K ++ rest)) (hwf : RegsWf s.ed.regs)
    {body cs : List Nat} {o a b : Nat} (hrow : OnRow s body o)
    (hl : ∀ sm s2, CmdStart s sm → Prefixed sm 0 k s2 → ∃ t, Lands sm s2 (setArg2 0 s2) 0 k k body o t ∧
      span (inclusive (setArg2 0 s2) k) o t body.length = (a, b))
    (hab : a ≤ b) (hb : b ≤ body.length) (ht : TypedText K cs) (hkm : s.xkmap = 0) :
    ∃ s'', viStep s = Res.ok () s'' ∧ StepDone s s'' rest ∧ RowIs s s'' (body.take a ++ cs ++ body.drop b) ∧
      s''.ed.xrow = s.ed.xrow ∧ s''.ed.xoff = ((a + cs.length - 1 : Nat) : Int) ∧
      s''.ed.regs.getRaw 0 = (some (encStr ((body.take b).drop a)), 0) := by
  have hcl : 0 < cs.length := List.length_pos_iff.mpr (typedText_ne ht)
  refine h.rowStep hwf hrow.row0 (onRow_rowLt hrow) ?_ (fun c hc => (Basics.mem_splice hc).elim (hrow.valid c) (ht.valid c))
    (fun hc => (Basics.mem_splice hc).elim hrow.no10 ht.no10) ?_
  · intro sm s2 hcs hpre hpend
    obtain ⟨t, hl, hsp⟩ := hl sm s2 hcs hpre
    obtain ⟨s', hd, hpe, hld⟩ := row_change sm s2 _ 0 k k body cs o t K rest (hcs.onRow hrow) hl ht.inputs hpend ht.valid
      ht.no10 ht.head (by rw [hcs.xkmap]; exact hkm)
    rw [hsp] at hld
    exact ⟨_, s', hd, edk_lands 99 (by simp) sm s2 _ 0 k k body o t (hcs.onRow hrow) hl _ s' hd, hpe,
      (hld : RowChanged K sm _ s' sm.ed.xrow body cs a b).rowEdit (typedText_ne ht)⟩
  · simp [List.length_take, List.length_drop]; omega

/-- **`cw`, text, ESC as one iteration** (no count), when the next word starts at `t` on the same row: the characters
`[min o t, max o t)` are replaced by the typed text, the unnamed register holds them, the cursor is on the last typed
character -/
theorem cw_step (s : VS) (body cs : List Nat) (o t : Nat) (K rest : Bytes) (hi : Idle s) (hwf : RegsWf s.ed.regs)
    (hp : pending s = 99 :: 119 :: (K ++ rest)) (hrow : OnRow s body o) (hu : Utf8Buf (lines s))
    (href : Motion.wordFwdRaw false (refBufU (lines s)) ⟨s.ed.xrow.toNat, o⟩ 1 = ⟨s.ed.xrow.toNat, t⟩)
    (htb : t ≤ body.length) (ht : TypedText K cs) (hkm : s.xkmap = 0) :
    ∃ s'', viStep s = Res.ok () s'' ∧ StepDone s s'' rest ∧
      RowIs s s'' (body.take (min o t) ++ cs ++ body.drop (max o t)) ∧
      s''.ed.xrow = s.ed.xrow ∧ s''.ed.xoff = ((min o t + cs.length - 1 : Nat) : Int) ∧
      s''.ed.regs.getRaw 0 = (some (encStr ((body.take (max o t)).drop (min o t))), 0) := by
  have ho := hrow.onChar
  refine OpStep.change (k := 119) (step_op 99 (by simp) 119 (by omega) s (K ++ rest) hi hp) hwf hrow ?_ (by omega) (by omega) ht hkm
  intro sm s2 hcs hpre
  refine ⟨t, lands_w sm s2 0 body o t hpre (hcs.onRow hrow) (by rw [hcs.lines]; exact hu)
    (by rw [hcs.lines, hcs.xrow, hcs.opCount]; exact href), ?_⟩
  rw [inclusive_false _ 119 (by simp), span_excl]

end Neatvi.Lemmas.C08g
