import Lean.Meta.Tactic.Simp.RegisterCommand
/-!
# C09: the simp set `g2_leaf` of the programs of vi.c already walked (tagged in `Lemmas/C09Walk.lean`,
`Lemmas/C09WalkCmd.lean`; used by `g_step`)
-/
/-- facts `G2 R E m m` for the programs `m` of vi.c already walked -/
register_simp_attr g2_leaf
