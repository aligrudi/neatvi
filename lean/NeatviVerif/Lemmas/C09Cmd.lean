import NeatviVerif.Lemmas.C09Queue
import NeatviVerif.Lemmas.C07Frame
import NeatviVerif.Lemmas.ViPresCmd
/-!
# C09: `.` (`vc_repeat`), `@r` (`vc_execute`) and the recording of the last change
-/
namespace Neatvi.Lemmas.C09
open Neatvi Neatvi.Vi Neatvi.Ex

theorem bind_apply {α β : Type} (m : M α) (f : α → M β) (s : VS) :
    (m >>= f) s = match m s with
      | Res.ok a s' => f a s'
      | Res.eof => Res.eof
      | Res.trap => Res.trap := C07.bind_apply m f s

theorem pure_apply {α : Type} (a : α) (s : VS) : (pure a : M α) s = Res.ok a s := C07.pure_apply a s

theorem viRead_nil (s : VS) (h : s.vibuf = []) : viRead s = termRead s := by
  simp [viRead, h]

/-- the repeat count of `.`, `@`: `MAX(1, vi_arg1)` -/
def cnt1 (s : VS) : Nat := (max 1 s.arg1).toNat

theorem vcRepeat_eq (s : VS) : vcRepeat s = Res.ok () (pushN (cnt1 s) s.repCmd s) := by
  show (get >>= fun s => repeatM (max 1 s.arg1).toNat (termPush s.repCmd)) s = _
  rw [C07.bind_apply]
  exact repeatM_push _ _ _

/-- `vc_execute` with a plain register name `r` at the head of the pending keys: it reads the name,
remembers it in `execReg` and pushes the register's text (as a C string) `max 1 count` times -/
theorem vcExecute_eq (s : VS) (r : Nat) (rest buf : Bytes)
    (hv : s.vibuf = []) (hp : pending s = r :: rest)
    (h92 : r ≠ 92) (h64 : r ≠ 64) (h27 : r ≠ 27) (h3 : r ≠ 3)
    (hreg : regGet s.ed r = some buf) :
    ∃ s1, termRead s = Res.ok (r : Int) s1 ∧ pending s1 = rest ∧
      vcExecute s = Res.ok () (pushN (cnt1 s) (buf.takeWhile (· != 0)) { s1 with execReg := (r : Int) }) := by
  obtain ⟨ib, ip, ty, h1, h2, -⟩ := termRead_ok s r rest hp
  refine ⟨_, h1, h2, ?_⟩
  have e92 : ((r : Int) == 92) = false := by simp; omega
  have e64 : ((r : Int) == 64) = false := by simp; omega
  have eint : tkInt (r : Int) = false := by simp [tkInt]; omega
  have eneg : ¬ ((r : Int) < 0) := by omega
  unfold vcExecute
  simp only [C07.bind_apply, viRead_nil s hv, h1, e92, C07.pure_apply, eint, Vi.get, Vi.modify, e64,
    Bool.false_eq_true, if_false, eneg, Int.toNat_natCast, hreg]
  exact repeatM_push _ _ _


/-! ### the recording of the last change -/

theorem termCmd_eq (s : VS) : termCmd s = Res.ok s.icmd { s with icmd := [] } := rfl

theorem finRec_eq (c k : Int) (mod : Nat) (s : VS) :
    finRec c k mod s = Res.ok (some mod)
      (if isRepeatable c k && s.icmd.length + 1 < 4096 then
        { s with icmd := [], repCmd := s.icmd,
                 ed := { s.ed with regs := s.ed.regs.put 46 (s.icmd.takeWhile (· != 0)) 0 } }
       else { s with icmd := [] }) := by
  unfold finRec
  by_cases h : (isRepeatable c k && s.icmd.length + 1 < 4096) = true
  · simp only [C07.bind_apply, termCmd_eq, h, if_true, Vi.modify, regPut, withEd, C07.pure_apply]
  · simp only [C07.bind_apply, termCmd_eq, h, if_false, C07.pure_apply, Bool.false_eq_true]

/-- `n` calls of `term_read` -/
def readKeys : Nat → M (List Int)
  | 0 => pure []
  | n + 1 => do
    let c ← termRead
    let r ← readKeys n
    pure (c :: r)

/-- reading the keys `ks`: `ibuf`/`ibufPos`/`typed` are existentially hidden; `icmd` holds the first 4096 keys
read since `term_cmd()`, the rest is not remembered -/
theorem readKeys_sat (ks rest : Bytes) (s : VS) (hp : pending s = ks ++ rest) (hl : s.icmd.length ≤ 4096) :
    ∃ ib ip ty, readKeys ks.length s = Res.ok (ks.map Int.ofNat)
        { s with ibuf := ib, ibufPos := ip, typed := ty, icmd := (s.icmd ++ ks).take 4096 } ∧
      ib.drop ip ++ ty = rest := by
  induction ks generalizing s with
  | nil =>
    refine ⟨s.ibuf, s.ibufPos, s.typed, ?_, by simpa [pending] using hp⟩
    have : (s.icmd ++ []).take 4096 = s.icmd := by
      rw [List.append_nil]; exact List.take_of_length_le hl
    simp only [List.length_nil, readKeys, C07.pure_apply, List.map_nil, this]
  | cons k ks ih =>
    obtain ⟨ib, ip, ty, h1, h2, -⟩ := termRead_ok s k (ks ++ rest) hp
    have hl' : (icmdAfter s.icmd k).length ≤ 4096 := by
      unfold icmdAfter; split
      · simp only [List.length_append, List.length_singleton]; omega
      · exact hl
    obtain ⟨ib', ip', ty', e1, e2⟩ := ih { s with ibuf := ib, ibufPos := ip, typed := ty, icmd := icmdAfter s.icmd k }
      h2 hl'
    refine ⟨ib', ip', ty', ?_, e2⟩
    have hic : (icmdAfter s.icmd k ++ ks).take 4096 = (s.icmd ++ k :: ks).take 4096 := by
      unfold icmdAfter
      split
      · simp
      · have : s.icmd.length = 4096 := by omega
        rw [List.take_append_of_le_length (by omega), List.take_append_of_le_length (by omega)]
    simp only [List.length_cons, readKeys, C07.bind_apply, h1, e1, C07.pure_apply, List.map_cons, hic]
    rfl

theorem readKeys_ok (ks rest : Bytes) (s : VS) (hp : pending s = ks ++ rest)
    (hl : s.icmd.length + ks.length ≤ 4096) :
    ∃ ib ip ty, readKeys ks.length s = Res.ok (ks.map Int.ofNat)
        { s with ibuf := ib, ibufPos := ip, typed := ty, icmd := s.icmd ++ ks } ∧
      ib.drop ip ++ ty = rest := by
  obtain ⟨ib, ip, ty, h1, h2⟩ := readKeys_sat ks rest s hp (by omega)
  rw [List.take_of_length_le (by rw [List.length_append]; exact hl)] at h1
  exact ⟨ib, ip, ty, h1, h2⟩

/-- **`icmd_accumulates`**: reading the keys `ks` appends exactly `ks` to `icmd` (below the limit) and
touches nothing but the queue -/
theorem icmd_accumulates (ks rest : Bytes) (s : VS) (hp : pending s = ks ++ rest)
    (hl : s.icmd.length + ks.length ≤ 4096) :
    ∃ s', readKeys ks.length s = Res.ok (ks.map Int.ofNat) s' ∧
      s'.icmd = s.icmd ++ ks ∧ pending s' = rest ∧
      { s' with ibuf := s.ibuf, ibufPos := s.ibufPos, typed := s.typed, icmd := s.icmd } = s := by
  obtain ⟨ib, ip, ty, e1, e2⟩ := readKeys_ok ks rest s hp hl
  exact ⟨_, e1, rfl, e2, rfl⟩

theorem regGet_put_dot (ed : Ed) (x : Bytes) (h : 46 < ed.regs.buf.length) :
    regGet { ed with regs := ed.regs.put 46 x 0 } 46 = some x := by
  simp [regGet, Regs.getRaw, Regs.put, Regs.putRaw, isAlphaC, lowerC, isUpperC, h]

/-- **`record_is_keys_read`**: `term_cmd` at the start of the command, then the keys `ks` are read, then
the command finishes: `rep_cmd` is exactly `ks` (for a repeatable command of fewer than 4095 keys), and
register `.` holds them as a C string -/
def recordRun (c k : Int) (mod : Nat) (n : Nat) : M (Option Nat) := do
  let _ ← termCmd
  let _ ← readKeys n
  finRec c k mod

theorem record_is_keys_read (c k : Int) (mod : Nat) (ks rest : Bytes) (s : VS)
    (hp : pending s = ks ++ rest) (hl : ks.length + 1 < 4096) (hr : isRepeatable c k = true) :
    ∃ s', recordRun c k mod ks.length s = Res.ok (some mod) s' ∧
      s'.repCmd = ks ∧ s'.icmd = [] ∧ pending s' = rest ∧
      (46 < s.ed.regs.buf.length → regGet s'.ed 46 = some (ks.takeWhile (· != 0))) := by
  obtain ⟨ib, ip, ty, e1, e2⟩ := readKeys_ok ks rest { s with icmd := [] } hp (by simp; omega)
  simp only [List.nil_append] at e1
  have hrun : recordRun c k mod ks.length s
      = Res.ok (some mod) { s with
          ed := { s.ed with regs := s.ed.regs.put 46 (ks.takeWhile (· != 0)) 0 },
          ibuf := ib, ibufPos := ip, typed := ty, icmd := [], repCmd := ks } := by
    simp only [recordRun, C07.bind_apply, termCmd_eq, e1, finRec_eq, hr, Bool.true_and, decide_eq_true hl, if_true]
  exact ⟨_, hrun, rfl, rfl, e2, fun h => regGet_put_dot _ _ h⟩


/-! ### `.` and `@` inside the command switch of `vi()` -/

theorem commandTail_dot_key (s s1 : VS) (h : viRead s = Res.ok 46 s1) :
    commandTail s = (do markSet 94 s1.ed.xrow s1.ed.xoff; vcRepeat; finRec 46 0 0 : M (Option Nat)) s1 := by
  refine ViPres.commandTail_key 46 (by decide) _ (fun _ => ?_) s s1 h
  rfl

theorem commandTail_at_key (s s1 : VS) (h : viRead s = Res.ok 64 s1) :
    commandTail s = (do markSet 94 s1.ed.xrow s1.ed.xoff; vcExecute; finRec 64 0 0 : M (Option Nat)) s1 := by
  refine ViPres.commandTail_key 64 (by decide) _ (fun _ => ?_) s s1 h
  rfl

/-- `commandTail` on the key `.`: the mark, `vc_repeat`, and the common tail -/
theorem commandTail_dot (s : VS) (rest : Bytes) (hv : s.vibuf = []) (hp : pending s = 46 :: rest) :
    ∃ s1, termRead s = Res.ok 46 s1 ∧ pending s1 = rest ∧
      commandTail s = (do markSet 94 s.ed.xrow s.ed.xoff; vcRepeat; finRec 46 0 0 : M (Option Nat)) s1 := by
  obtain ⟨ib, ip, ty, h1, h2, -⟩ := termRead_ok s 46 rest hp
  exact ⟨_, h1, h2, commandTail_dot_key s _ ((viRead_nil s hv).trans h1)⟩

theorem commandTail_at (s : VS) (rest : Bytes) (hv : s.vibuf = []) (hp : pending s = 64 :: rest) :
    ∃ s1, termRead s = Res.ok 64 s1 ∧ pending s1 = rest ∧
      commandTail s = (do markSet 94 s.ed.xrow s.ed.xoff; vcExecute; finRec 64 0 0 : M (Option Nat)) s1 := by
  obtain ⟨ib, ip, ty, h1, h2, -⟩ := termRead_ok s 64 rest hp
  exact ⟨_, h1, h2, commandTail_at_key s _ ((viRead_nil s hv).trans h1)⟩

theorem markSet_eq (c : Nat) (r o : Int) (s : VS) :
    ∃ ed', markSet c r o s = Res.ok () { s with ed := ed' } := ⟨_, rfl⟩

/-- apply a state transformer to the final state -/
def mapS {α : Type} (f : VS → VS) : Res α → Res α
  | Res.ok a s => Res.ok a (f s)
  | Res.eof => Res.eof
  | Res.trap => Res.trap

theorem rep_ok_of_cond {c k : Int} {cmd : Bytes}
    (h : (isRepeatable c k && decide (cmd.length + 1 < 4096)) = true) : cmd.length + 1 < 4096 := by
  simp only [Bool.and_eq_true, decide_eq_true_eq] at h
  exact h.2

theorem rep_ok_takeWhile {c k : Int} {cmd : Bytes} (p : Nat → Bool)
    (h : (isRepeatable c k && decide (cmd.length + 1 < 4096)) = true) :
    (cmd.takeWhile p).length + 1 < 4096 := by
  have := rep_ok_of_cond h
  have := (List.takeWhile_sublist (l := cmd) p).length_le
  omega

end Neatvi.Lemmas.C09
