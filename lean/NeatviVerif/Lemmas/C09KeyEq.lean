import NeatviVerif.Lemmas.C09WalkCmd
/-!
# C09: observational equivalence of states that differ only in how the pending key stream is split
between `ibuf` (pushed keys) and `typed` (keys of the terminal)

`KeyEq s t`: same pending stream, same everything else: `GSim QPend Eq` (`Lemmas/C09Walk.lean`).  A computation
`Respects` it when it cannot tell such states apart: `G2 (GSim QPend Eq) NoEsc m m` (`respects_iff`), so what the one
walk of vi.c says of a program is read off here for `KeyEq`.  The key readers respect it; `term_push` does not
(`push_not_respects`).
-/
namespace Neatvi.Lemmas.C09
open Neatvi Neatvi.Vi Neatvi.Ex
open Neatvi.Lemmas.C09c (NoEsc)

/-- normal form: the whole pending stream moved to the terminal side -/
def norm (s : VS) : VS := { s with ibuf := [], ibufPos := 0, typed := pending s }

/-- the two states differ only in how the pending stream is split between `ibuf` and `typed` -/
def KeyEq (s t : VS) : Prop := norm s = norm t

theorem keyEq_iff (s t : VS) : KeyEq s t ↔
    pending s = pending t ∧ s.icmd = t.icmd ∧ s.ed = t.ed ∧ s.vibuf = t.vibuf ∧ s.xcol = t.xcol ∧
    s.arg1 = t.arg1 ∧ s.arg2 = t.arg2 ∧ s.ybuf = t.ybuf ∧ s.charlast = t.charlast ∧
    s.charcmd = t.charcmd ∧ s.pcol = t.pcol ∧ s.soset = t.soset ∧ s.so = t.so ∧ s.scroll = t.scroll ∧
    s.repCmd = t.repCmd ∧ s.execReg = t.execReg ∧ s.msg = t.msg ∧ s.xrows = t.xrows ∧
    s.xcols = t.xcols ∧ s.xai = t.xai ∧ s.xkmap = t.xkmap ∧ s.exKmap = t.exKmap ∧
    s.xkmapAlt = t.xkmapAlt ∧ s.unmodelled = t.unmodelled := by
  unfold KeyEq norm
  constructor
  · intro h
    injection h with h0 h1 h2 h3 h4 h5 h6 h7 h8 h9 h10 h11 h12 h13 h14 h15 h16 h17 h18 h19 h20 h21 h22 h23 h24 h25
    exact ⟨h1, h4, h0, h5, h6, h7, h8, h9, h10, h11, h12, h13, h14, h15, h16, h17, h18, h19, h20, h21,
      h22, h23, h24, h25⟩
  · rintro ⟨h1, h4, h0, h5, h6, h7, h8, h9, h10, h11, h12, h13, h14, h15, h16, h17, h18, h19, h20, h21,
      h22, h23, h24, h25⟩
    simp only [h1, h4, h0, h5, h6, h7, h8, h9, h10, h11, h12, h13, h14, h15, h16, h17, h18, h19, h20,
      h21, h22, h23, h24, h25]

theorem KeyEq.refl (s : VS) : KeyEq s s := rfl
theorem KeyEq.symm {s t : VS} (h : KeyEq s t) : KeyEq t s := Eq.symm h
theorem KeyEq.trans {s t u : VS} (h : KeyEq s t) (h' : KeyEq t u) : KeyEq s u := Eq.trans h h'

theorem pending_norm (s : VS) : pending (norm s) = pending s := by simp [norm, pending]
theorem norm_norm (s : VS) : norm (norm s) = norm s := by
  simp only [norm, pending, List.drop_nil, List.nil_append]
theorem keyEq_norm (s : VS) : KeyEq s (norm s) := (norm_norm s).symm

theorem KeyEq.pending {s t : VS} (h : KeyEq s t) : pending s = pending t :=
  (congrArg VS.typed (show norm s = norm t from h) :)
theorem KeyEq.icmd {s t : VS} (h : KeyEq s t) : s.icmd = t.icmd :=
  (congrArg VS.icmd (show norm s = norm t from h) :)
theorem KeyEq.vibuf {s t : VS} (h : KeyEq s t) : s.vibuf = t.vibuf :=
  (congrArg VS.vibuf (show norm s = norm t from h) :)
theorem KeyEq.ed {s t : VS} (h : KeyEq s t) : s.ed = t.ed :=
  (congrArg VS.ed (show norm s = norm t from h) :)

/-- related results: same value and `KeyEq` states, or both end of input, or both trap -/
inductive RelRes {α : Type} : Res α → Res α → Prop where
  | ok (a : α) (s t : VS) (h : KeyEq s t) : RelRes (Res.ok a s) (Res.ok a t)
  | eof : RelRes Res.eof Res.eof
  | trap : RelRes Res.trap Res.trap

/-- `m` cannot tell `KeyEq` states apart -/
def Respects {α : Type} (m : M α) : Prop := ∀ s t, KeyEq s t → RelRes (m s) (m t)

/-! ### `KeyEq` is `GSim QPend Eq` -/

/-- the same pending keys, however split between pushed and typed -/
def QPend (s t : VS) : Prop := pending s = pending t ∧ s.icmd = t.icmd ∧ s.repCmd = t.repCmd

theorem qsim_pend : QSim QPend where
  frame h e1 e2 := by
    have p1 := kq_pending e1
    have p2 := kq_pending e2
    simp only [kq, Prod.mk.injEq] at e1 e2
    obtain ⟨hp, hi, hr⟩ := h
    exact ⟨by rw [p1, p2, hp], by rw [e1.2.2.2.1, e2.2.2.2.1, hi], by rw [e1.2.2.2.2, e2.2.2.2.2, hr]⟩
  read {s t} h _ := by
    obtain ⟨hp, hi, hr⟩ := h
    rcases termRead_cases s with ⟨_, e1⟩ | ⟨k, rest, ib, ip, ty, p1, e1, d1, -, -⟩
    · rcases termRead_cases t with ⟨_, e2⟩ | ⟨k', rest', ib', ip', ty', p2, -, -, -, -⟩
      · exact Or.inl ⟨e1, e2⟩
      · rw [← hp, ‹pending s = []›] at p2; cases p2
    · rcases termRead_cases t with ⟨p2, _⟩ | ⟨k', rest', ib', ip', ty', p2, e2, d2, -, -⟩
      · rw [← hp, p1] at p2; cases p2
      · rw [← hp, p1] at p2
        cases p2
        refine Or.inr ⟨k, ib, ip, ty, ib', ip', ty', e1, e2, ?_, ?_, hr⟩
        · show ib.drop ip ++ ty = ib'.drop ip' ++ ty'
          rw [d1, d2]
        · show icmdAfter s.icmd k = icmdAfter t.icmd k
          rw [hi]
  cmd h := ⟨h.1, rfl, h.2.2⟩
  rep _ _ _ _ h := ⟨h.1, h.2.1, rfl⟩

theorem edG_eq {a b : Ed} : EdG Eq a b ↔ a = b := by
  constructor
  · intro h
    cases a
    cases b
    cases h
    simp_all
  · rintro rfl
    exact ⟨rfl, rfl, rfl, rfl, rfl, rfl, rfl, rfl, rfl, rfl, rfl, rfl, rfl, rfl, rfl, rfl, rfl, rfl, rfl, rfl, rfl,
      rfl, rfl, rfl, rfl, rfl, rfl, rfl⟩

theorem bsimS_eq : BSimS Eq where
  lines h := by rw [edG_eq.1 h]
  cp h := by rw [edG_eq.1 h]
  line h := by rw [edG_eq.1 h]
  mark h c p o := by rw [edG_eq.1 h]; exact edG_eq.2 rfl
  modified h := by rw [edG_eq.1 h]; exact edG_eq.2 rfl
  jump h c := by rw [edG_eq.1 h]
  edit {a b} h txt x y := by
    rw [edG_eq.1 h]
    cases b.edit txt x y with
    | none => exact Or.inl ⟨rfl, rfl⟩
    | some e => exact Or.inr ⟨e, e, rfl, rfl, edG_eq.2 rfl⟩
  ex {a b} h ln := by
    rw [edG_eq.1 h]
    cases exCommand 64 b ln with
    | none => exact Or.inl ⟨rfl, rfl⟩
    | some p => exact Or.inr ⟨p.1, p.2, p.2, rfl, rfl, edG_eq.2 rfl⟩
  undoRedo {a b} h c := by
    rw [edG_eq.1 h]
    cases b.lb with
    | none => exact Or.inl ⟨rfl, rfl⟩
    | some l =>
      refine Or.inr ⟨l, l, rfl, rfl, ?_⟩
      cases (if (c == 117) = true then Lbuf.undo l else Lbuf.redo l) with
      | none => exact Or.inl ⟨rfl, rfl⟩
      | some p => exact Or.inr ⟨p.1, p.2, p.2, rfl, rfl, rfl, fun hxy => by rw [edG_eq.1 hxy]; exact edG_eq.2 rfl⟩

theorem bsim_eq : BSim Eq := bsimS_eq.toBSim

theorem keyEq_gsim {s t : VS} : GSim QPend Eq s t ↔ KeyEq s t := by
  rw [keyEq_iff]
  constructor
  · intro h
    exact ⟨h.q.1, h.icmd, edG_eq.1 h.ed, h.vibuf, h.xcol, h.arg1, h.arg2, h.ybuf, h.charlast,
      h.charcmd, h.pcol, h.soset, h.so, h.scroll, h.repCmd, h.execReg, h.msg, h.xrows, h.xcols, h.xai, h.xkmap,
      h.exKmap, h.xkmapAlt, h.unmodelled⟩
  · rintro ⟨h1, h4, h0, h5, h6, h7, h8, h9, h10, h11, h12, h13, h14, h15, h16, h17, h18, h19, h20, h21,
      h22, h23, h24, h25⟩
    exact ⟨⟨h1, h4, h16⟩, edG_eq.2 h0, h4, h5, h6, h7, h8, h9, h10, h11, h12, h13, h14, h15, h16, h17, h18, h19,
      h20, h21, h22, h23, h24, h25⟩

theorem gr_relRes {α : Type} {x y : Res α} : GR (GSim QPend Eq) NoEsc x y ↔ RelRes x y := by
  constructor
  · intro h
    cases h with
    | ok a s t h => exact RelRes.ok a s t (keyEq_gsim.1 h)
    | esc a b s t h => exact h.elim
    | eof => exact RelRes.eof
    | trap => exact RelRes.trap
  · intro h
    cases h with
    | ok a s t h => exact GR.ok a s t (keyEq_gsim.2 h)
    | eof => exact GR.eof
    | trap => exact GR.trap

theorem respects_iff {α : Type} {m : M α} : G2 (GSim QPend Eq) NoEsc m m ↔ Respects m :=
  ⟨fun h s t hst => gr_relRes.1 (h s t (keyEq_gsim.2 hst)), fun h s t hst => gr_relRes.2 (h s t (keyEq_gsim.1 hst))⟩

/-! ### the primitives and the key readers -/

theorem respects_termRead : Respects termRead := respects_iff.1 (g2_termRead qsim_pend)
theorem termRead_keyEq (s t : VS) (h : KeyEq s t) : RelRes (termRead s) (termRead t) := respects_termRead s t h

/-- a state update commutes with `norm`: it neither inspects nor alters the queue -/
def QueueFree (f : VS → VS) : Prop := ∀ s, norm (f s) = f (norm s)

theorem KeyEq.upd {f : VS → VS} (hf : QueueFree f) {s t : VS} (h : KeyEq s t) : KeyEq (f s) (f t) := by
  unfold KeyEq at h ⊢
  rw [hf s, hf t, h]

theorem respects_modify {f : VS → VS} (hf : QueueFree f) : Respects (Vi.modify f) :=
  fun _ _ h => RelRes.ok _ _ _ (h.upd hf)

theorem respects_termCmd : Respects termCmd := respects_iff.1 (g2_termCmd qsim_pend)
theorem termCmd_keyEq (s t : VS) (h : KeyEq s t) : RelRes (termCmd s) (termCmd t) := respects_termCmd s t h

theorem respects_viRead : Respects viRead := respects_iff.1 (g2_viRead qsim_pend)
theorem respects_viBack (c : Int) : Respects (viBack c) := respects_modify (fun _ => rfl)

theorem respects_pure {α : Type} (a : α) : Respects (pure a : M α) :=
  fun s t h => RelRes.ok a s t h

theorem respects_bind {α β : Type} {m : M α} {f : α → M β} (hm : Respects m)
    (hf : ∀ a, Respects (f a)) : Respects (m >>= f) :=
  respects_iff.1 (g2_bind (respects_iff.2 hm) fun a => respects_iff.2 (hf a))

/-- `get` with a continuation: the general rule -/
theorem respects_get_bind' {β : Type} {f : VS → M β}
    (hf : ∀ s t, KeyEq s t → RelRes (f s s) (f t t)) : Respects (Vi.get >>= f) :=
  fun s t h => hf s t h

/-- `get` with a continuation that observes the state only up to `KeyEq` (`f s = f (norm s)`: it does not look at
`ibuf`/`ibufPos`/`typed` separately).  `get` with an arbitrary continuation does NOT respect `KeyEq`: see
`Props.C09.get_not_respects`. -/
theorem respects_get_bind {β : Type} {f : VS → M β} (hinv : ∀ s, f s = f (norm s))
    (hf : ∀ s, Respects (f s)) : Respects (Vi.get >>= f) := by
  intro s t h
  show RelRes (f s s) (f t t)
  rw [hinv s, hinv t, show norm t = norm s from h.symm]
  exact hf _ s t h

theorem respects_viYankbuf : Respects viYankbuf := respects_iff.1 (g2_viYankbuf qsim_pend bsim_eq)
theorem respects_viPrefix : Respects viPrefix := respects_iff.1 (g2_viPrefix qsim_pend bsim_eq)
theorem respects_viChar : Respects viChar := respects_iff.1 (g2_viChar qsim_pend bsim_eq)
theorem respects_readCharS (c : Int) (kmap : Nat) : Respects (readCharS c kmap) :=
  respects_iff.1 (g2_readCharS qsim_pend bsim_eq c kmap)

theorem respects_ite {α : Type} {c : Prop} [Decidable c] {a b : M α} (ha : Respects a)
    (hb : Respects b) : Respects (if c then a else b) :=
  respects_iff.1 (g2_ite (fun _ => respects_iff.2 ha) fun _ => respects_iff.2 hb)
theorem respects_trap {α : Type} : Respects (Vi.trap : M α) := respects_iff.1 g2_trap
theorem respects_readKey : Respects readKey := respects_iff.1 (g2_readKey qsim_pend bsim_eq)

/-! ### `term_push` does not respect `KeyEq` -/

/-- a state with the key `b` pushed and unread -/
def exPushed (ed : Ed) : VS := { ed := ed, ibuf := [98], ibufPos := 0, typed := [] }
/-- the state with the same key coming from the terminal instead -/
def exTyped (ed : Ed) : VS := { ed := ed, ibuf := [], ibufPos := 0, typed := [98] }

theorem exPushed_keyEq_exTyped (ed : Ed) : KeyEq (exPushed ed) (exTyped ed) := by
  simp [KeyEq, norm, pending, exPushed, exTyped]

/-- pushed keys are queued behind the unread pushed keys but in front of the terminal's keys, so pushing `a`
on two `KeyEq` states gives `b a` on one and `a b` on the other.  This is the recorded defect "`.` inside a
macro is appended after the rest of the macro". -/
theorem push_differs (ed : Ed) :
    pending (push [97] (exPushed ed)) ≠ pending (push [97] (exTyped ed)) := by
  simp [pending, push, exPushed, exTyped]

theorem push_not_respects : ∃ (s t : VS) (x : Bytes), KeyEq s t ∧ QWf s ∧ QWf t ∧
    ∃ s' t', termPush x s = Res.ok () s' ∧ termPush x t = Res.ok () t' ∧ pending s' ≠ pending t' :=
  ⟨exPushed {}, exTyped {}, [97], exPushed_keyEq_exTyped _, Nat.zero_le _, Nat.le_refl _, _, _, rfl, rfl,
    push_differs _⟩

end Neatvi.Lemmas.C09
