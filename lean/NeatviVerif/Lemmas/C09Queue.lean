import NeatviVerif.Model.ViCmd
/-!
# C09 (key queue): what `term_read`, `term_push`, `.` and `@r` do to the stream of pending keys

`pending s` is the key stream the editor is going to see (the `vi_buf` push-back stack aside): the
unread part of `term.c`'s `ibuf` followed by the keys the terminal has not delivered yet.
-/
namespace Neatvi.Lemmas.C09
open Neatvi Neatvi.Vi

/-- the key stream the editor will see (`vibuf` aside) -/
def pending (s : VS) : Bytes := s.ibuf.drop s.ibufPos ++ s.typed

/-- the queue invariant of term.c: `ibuf_pos ≤ ibuf_cnt` (holds initially, kept by every primitive) -/
def QWf (s : VS) : Prop := s.ibufPos ≤ s.ibuf.length

/-- nothing that was pushed is still unread -/
def Drained (s : VS) : Prop := s.ibufPos = s.ibuf.length

/-- the state `term_push(x)` produces -/
def push (x : Bytes) (s : VS) : VS := { s with ibuf := s.ibuf ++ x.take (4096 - s.ibuf.length) }

/-- `n` pushes of `x` -/
def pushN : Nat → Bytes → VS → VS
  | 0, _, s => s
  | n + 1, x, s => pushN n x (push x s)

/-- the `icmd` after reading key `k` -/
def icmdAfter (ic : Bytes) (k : Nat) : Bytes := if ic.length < 4096 then ic ++ [k] else ic

/-- `icmd` after reading the keys `ks` -/
def _root_.Neatvi.Lemmas.C08b.icmdAfterL (ic : Bytes) (ks : Bytes) : Bytes := ks.foldl icmdAfter ic

theorem pending_drained {s : VS} (hd : s.ibuf.length ≤ s.ibufPos) : pending s = s.typed := by
  unfold pending
  rw [List.drop_eq_nil_of_le hd, List.nil_append]

theorem termRead_eof (s : VS) (h : pending s = []) : termRead s = Res.eof := by
  obtain ⟨h1, h2⟩ := List.append_eq_nil_iff.mp h
  have hn : s.ibuf.length ≤ s.ibufPos := by
    have := congrArg List.length h1
    simp at this; omega
  simp [termRead, hn, h2]

/-- the state after `term_read` returned key `k` with `rest` still pending: `ibuf`/`ibufPos`/`typed`
are existentially hidden, everything else is given by `s` -/
theorem termRead_ok (s : VS) (k : Nat) (rest : Bytes) (h : pending s = k :: rest) :
    ∃ ib ip ty, termRead s = Res.ok (k : Int)
        { s with ibuf := ib, ibufPos := ip, typed := ty, icmd := icmdAfter s.icmd k } ∧
      ib.drop ip ++ ty = rest ∧ ip ≤ ib.length ∧
      (s.ibufPos < s.ibuf.length → ib = s.ibuf ∧ ip = s.ibufPos + 1 ∧ ty = s.typed) ∧
      (s.ibuf.length ≤ s.ibufPos → ib = [k] ∧ ip = 1 ∧ ty = rest) := by
  unfold pending at h
  by_cases hn : s.ibuf.length ≤ s.ibufPos
  · have hd : s.ibuf.drop s.ibufPos = [] := List.drop_eq_nil_of_le hn
    rw [hd, List.nil_append] at h
    refine ⟨[k], 1, rest, ?_, by simp, by simp, fun h' => by omega, fun _ => ⟨rfl, rfl, rfl⟩⟩
    simp [termRead, hn, h, icmdAfter]
  · have hlt : s.ibufPos < s.ibuf.length := by omega
    have hd : s.ibuf.drop s.ibufPos = s.ibuf[s.ibufPos] :: s.ibuf.drop (s.ibufPos + 1) :=
      List.drop_eq_getElem_cons hlt
    rw [hd, List.cons_append] at h
    injection h with hk hr
    refine ⟨s.ibuf, s.ibufPos + 1, s.typed, ?_, hr, by omega, fun _ => ⟨rfl, rfl, rfl⟩, fun h' => by omega⟩
    have hg : s.ibuf[s.ibufPos]?.getD 0 = k := by
      simp [List.getElem?_eq_getElem hlt, hk]
    simp [termRead, hn, hg, icmdAfter]

theorem termRead_cases (s : VS) : (pending s = [] ∧ termRead s = Res.eof) ∨
    ∃ (k : Nat) (rest ib : Bytes) (ip : Nat) (ty : Bytes), pending s = k :: rest ∧
      termRead s = Res.ok (k : Int) { s with ibuf := ib, ibufPos := ip, typed := ty, icmd := icmdAfter s.icmd k } ∧
      ib.drop ip ++ ty = rest ∧
      (s.ibufPos < s.ibuf.length → ib = s.ibuf ∧ ip = s.ibufPos + 1 ∧ ty = s.typed) ∧
      (s.ibuf.length ≤ s.ibufPos → ib = [k] ∧ ip = 1 ∧ ty = rest) := by
  cases hp : pending s with
  | nil => exact Or.inl ⟨rfl, termRead_eof s hp⟩
  | cons k rest =>
    obtain ⟨ib, ip, ty, h1, h2, -, h4, h5⟩ := termRead_ok s k rest hp
    exact Or.inr ⟨k, rest, ib, ip, ty, rfl, h1, h2, h4, h5⟩

/-- reading a key when at most that key is left of what was pushed: afterwards nothing pushed is pending -/
theorem termRead_ok_drained (s : VS) (k : Nat) (rest : Bytes) (h : pending s = k :: rest)
    (hd : s.ibuf.length ≤ s.ibufPos + 1) :
    ∃ ib, termRead s = Res.ok (k : Int)
        { s with ibuf := ib, ibufPos := ib.length, typed := rest, icmd := icmdAfter s.icmd k } ∧
      ib.length ≤ max 1 s.ibuf.length := by
  obtain ⟨ib, ip, ty, h1, h2, -, h4, h5⟩ := termRead_ok s k rest h
  by_cases hn : s.ibuf.length ≤ s.ibufPos
  · obtain ⟨a, b, c⟩ := h5 hn
    subst a b c
    exact ⟨[k], h1, by simp; omega⟩
  · obtain ⟨a, b, c⟩ := h4 (by omega)
    subst a b c
    rw [List.drop_eq_nil_of_le (by omega), List.nil_append] at h2
    subst h2
    have : s.ibufPos + 1 = s.ibuf.length := by omega
    rw [this] at h1
    exact ⟨s.ibuf, h1, by omega⟩

/-- **`termRead_pending`**: `term_read` delivers the head of the pending stream, appends it to `icmd`
(below the 4096 limit) and touches nothing else. -/
theorem termRead_pending (s : VS) (k : Nat) (rest : Bytes) (h : pending s = k :: rest) :
    ∃ s', termRead s = Res.ok (k : Int) s' ∧ pending s' = rest ∧ QWf s' ∧
      s'.icmd = (if s.icmd.length < 4096 then s.icmd ++ [k] else s.icmd) ∧
      { s' with ibuf := s.ibuf, ibufPos := s.ibufPos, typed := s.typed, icmd := s.icmd } = s := by
  obtain ⟨ib, ip, ty, h1, h2, h3, -, -⟩ := termRead_ok s k rest h
  exact ⟨_, h1, h2, h3, rfl, rfl⟩

/-- the field-by-field form of the frame part of `termRead_pending` -/
theorem termRead_frame (s s' : VS) (c : Int) (h : termRead s = Res.ok c s') :
    s'.ed = s.ed ∧ s'.vibuf = s.vibuf ∧ s'.xcol = s.xcol ∧ s'.arg1 = s.arg1 ∧ s'.arg2 = s.arg2 ∧
    s'.ybuf = s.ybuf ∧ s'.charlast = s.charlast ∧ s'.charcmd = s.charcmd ∧ s'.pcol = s.pcol ∧
    s'.soset = s.soset ∧ s'.so = s.so ∧ s'.scroll = s.scroll ∧ s'.repCmd = s.repCmd ∧
    s'.execReg = s.execReg ∧ s'.msg = s.msg ∧ s'.xrows = s.xrows ∧ s'.xcols = s.xcols ∧
    s'.xai = s.xai ∧ s'.xkmap = s.xkmap ∧ s'.exKmap = s.exKmap ∧ s'.xkmapAlt = s.xkmapAlt ∧
    s'.unmodelled = s.unmodelled := by
  cases hp : pending s with
  | nil => rw [termRead_eof s hp] at h; cases h
  | cons k rest =>
    obtain ⟨ib, ip, ty, h1, -⟩ := termRead_ok s k rest hp
    rw [h1] at h
    injection h with _ hs
    subst hs
    simp

/-- the key returned is the head of the pending stream -/
theorem termRead_key (s s' : VS) (c : Int) (h : termRead s = Res.ok c s') :
    ∃ k rest, pending s = k :: rest ∧ c = (k : Int) ∧ pending s' = rest := by
  cases hp : pending s with
  | nil => rw [termRead_eof s hp] at h; cases h
  | cons k rest =>
    obtain ⟨s1, h1, h2, -⟩ := termRead_pending s k rest hp
    rw [h1] at h
    injection h with hc hs
    subst hs
    exact ⟨k, rest, rfl, hc.symm, h2⟩

theorem termRead_ne_trap (s : VS) : termRead s ≠ Res.trap := by
  cases hp : pending s with
  | nil => rw [termRead_eof s hp]; intro h; cases h
  | cons k rest =>
    obtain ⟨s1, h1, -⟩ := termRead_pending s k rest hp
    rw [h1]; intro h; cases h

theorem termPush_eq (x : Bytes) (s : VS) : termPush x s = Res.ok () (push x s) := rfl

theorem push_qwf (x : Bytes) (s : VS) (h : QWf s) : QWf (push x s) := by
  simp only [QWf, push, List.length_append] at *
  omega

theorem pushN_qwf (n : Nat) (x : Bytes) (s : VS) (h : QWf s) : QWf (pushN n x s) := by
  induction n generalizing s with
  | zero => exact h
  | succ n ih => exact ih _ (push_qwf x s h)

/-- **`termPush_pending`**: pushed keys go after the not-yet-read pushed keys and before the keys of
the terminal.  (`QWf s`, i.e. `ibuf_pos ≤ ibuf_cnt`, is needed: the statement is false without it.) -/
theorem termPush_pending (x : Bytes) (s : VS) (hwf : QWf s) :
    ∃ s', termPush x s = Res.ok () s' ∧
      s' = { s with ibuf := s.ibuf ++ x.take (4096 - s.ibuf.length) } ∧
      pending s' = s.ibuf.drop s.ibufPos ++ x.take (4096 - s.ibuf.length) ++ s.typed := by
  refine ⟨_, rfl, rfl, ?_⟩
  simp only [pending, List.drop_append, List.append_assoc]
  have : s.ibufPos - s.ibuf.length = 0 := by unfold QWf at hwf; omega
  rw [this, List.drop_zero]

/-- pushing when nothing pushed is pending and there is room equals typing -/
theorem push_when_drained (x : Bytes) (s : VS) (hwf : QWf s) (hd : s.ibufPos ≥ s.ibuf.length)
    (hroom : s.ibuf.length + x.length ≤ 4096) :
    ∃ s', termPush x s = Res.ok () s' ∧ s' = { s with ibuf := s.ibuf ++ x } ∧
      pending s' = x ++ s.typed := by
  obtain ⟨s', h1, h2, h3⟩ := termPush_pending x s hwf
  have ht : x.take (4096 - s.ibuf.length) = x := List.take_of_length_le (by omega)
  rw [ht] at h2 h3
  refine ⟨s', h1, h2, ?_⟩
  rw [h3, List.drop_eq_nil_of_le hd, List.nil_append]

theorem repeatM_push (n : Nat) (x : Bytes) (s : VS) :
    repeatM n (termPush x) s = Res.ok () (pushN n x s) := by
  induction n generalizing s with
  | zero => rfl
  | succ n ih =>
    show (termPush x >>= fun _ => repeatM n (termPush x)) s = _
    show (match termPush x s with | Res.ok a s' => (fun _ => repeatM n (termPush x)) a s' | Res.eof => Res.eof | Res.trap => Res.trap) = _
    rw [termPush_eq]
    exact ih _

/-- with room for all of them, `n` pushes of `x` append `n` copies of `x` to `ibuf` -/
theorem pushN_room (n : Nat) (x : Bytes) (s : VS) (hroom : s.ibuf.length + n * x.length ≤ 4096) :
    pushN n x s = { s with ibuf := s.ibuf ++ (List.replicate n x).flatten } := by
  induction n generalizing s with
  | zero => simp [pushN]
  | succ n ih =>
    have hm : (n + 1) * x.length = n * x.length + x.length := by rw [Nat.add_mul, Nat.one_mul]
    have ht : x.take (4096 - s.ibuf.length) = x := List.take_of_length_le (by omega)
    have hp : push x s = { s with ibuf := s.ibuf ++ x } := by simp [push, ht]
    rw [pushN, hp, ih]
    · simp [List.replicate_succ, List.append_assoc]
    · simp only [List.length_append]; omega

theorem pending_pushN_room (n : Nat) (x : Bytes) (s : VS) (hwf : QWf s)
    (hroom : s.ibuf.length + n * x.length ≤ 4096) :
    pending (pushN n x s) = s.ibuf.drop s.ibufPos ++ (List.replicate n x).flatten ++ s.typed := by
  rw [pushN_room n x s hroom]
  simp only [pending, List.drop_append, List.append_assoc]
  have : s.ibufPos - s.ibuf.length = 0 := by unfold QWf at hwf; omega
  rw [this, List.drop_zero]

theorem pending_pushN_drained (n : Nat) (x : Bytes) (s : VS) (hd : Drained s)
    (hroom : s.ibuf.length + n * x.length ≤ 4096) :
    pending (pushN n x s) = (List.replicate n x).flatten ++ s.typed := by
  have hwf : QWf s := by unfold QWf; unfold Drained at hd; omega
  rw [pending_pushN_room n x s hwf hroom, List.drop_eq_nil_of_le (by unfold Drained at hd; omega),
    List.nil_append]

/-- without any room hypothesis: the pending keys of the terminal stay last and the unread pushed keys
stay first -/
theorem pending_pushN_shape (n : Nat) (x : Bytes) (s : VS) (hwf : QWf s) :
    ∃ mid, pending (pushN n x s) = s.ibuf.drop s.ibufPos ++ mid ++ s.typed ∧
      (pushN n x s).ibuf = s.ibuf ++ mid ∧
      pushN n x s = { s with ibuf := s.ibuf ++ mid } := by
  induction n generalizing s with
  | zero => exact ⟨[], by simp [pushN, pending], by simp [pushN], by simp [pushN]⟩
  | succ n ih =>
    obtain ⟨mid, h1, h2, h3⟩ := ih (push x s) (push_qwf x s hwf)
    refine ⟨x.take (4096 - s.ibuf.length) ++ mid, ?_, ?_, ?_⟩
    · rw [pushN, h1]
      simp only [push, List.drop_append, List.append_assoc]
      have : s.ibufPos - s.ibuf.length = 0 := by unfold QWf at hwf; omega
      rw [this, List.drop_zero]
    · rw [pushN, h2]; simp [push]
    · rw [pushN, h3]; simp [push]

end Neatvi.Lemmas.C09
