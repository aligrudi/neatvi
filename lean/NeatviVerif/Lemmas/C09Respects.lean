import NeatviVerif.Lemmas.C09KeyEq
/-!
# C09: `norm` leaves every observation of the state but the split of the key queue alone; the larger readers of
vi.c / led.c respect `KeyEq`
-/
namespace Neatvi.Lemmas.C09
open Neatvi Neatvi.Vi Neatvi.Ex

theorem norm_ed (s : VS) : (norm s).ed = s.ed := rfl
theorem norm_icmd (s : VS) : (norm s).icmd = s.icmd := rfl
theorem norm_vibuf (s : VS) : (norm s).vibuf = s.vibuf := rfl
theorem norm_xcol (s : VS) : (norm s).xcol = s.xcol := rfl
theorem norm_arg1 (s : VS) : (norm s).arg1 = s.arg1 := rfl
theorem norm_arg2 (s : VS) : (norm s).arg2 = s.arg2 := rfl
theorem norm_ybuf (s : VS) : (norm s).ybuf = s.ybuf := rfl
theorem norm_charlast (s : VS) : (norm s).charlast = s.charlast := rfl
theorem norm_charcmd (s : VS) : (norm s).charcmd = s.charcmd := rfl
theorem norm_pcol (s : VS) : (norm s).pcol = s.pcol := rfl
theorem norm_soset (s : VS) : (norm s).soset = s.soset := rfl
theorem norm_so (s : VS) : (norm s).so = s.so := rfl
theorem norm_scroll (s : VS) : (norm s).scroll = s.scroll := rfl
theorem norm_repCmd (s : VS) : (norm s).repCmd = s.repCmd := rfl
theorem norm_execReg (s : VS) : (norm s).execReg = s.execReg := rfl
theorem norm_msg (s : VS) : (norm s).msg = s.msg := rfl
theorem norm_xrows (s : VS) : (norm s).xrows = s.xrows := rfl
theorem norm_xcols (s : VS) : (norm s).xcols = s.xcols := rfl
theorem norm_xai (s : VS) : (norm s).xai = s.xai := rfl
theorem norm_xkmap (s : VS) : (norm s).xkmap = s.xkmap := rfl
theorem norm_exKmap (s : VS) : (norm s).exKmap = s.exKmap := rfl
theorem norm_xkmapAlt (s : VS) : (norm s).xkmapAlt = s.xkmapAlt := rfl
theorem norm_unmodelled (s : VS) : (norm s).unmodelled = s.unmodelled := rfl
theorem norm_lines (s : VS) : lines (norm s) = lines s := rfl
theorem norm_lenOf (s : VS) : lenOf (norm s) = lenOf s := rfl
theorem norm_lineOf (s : VS) : lineOf (norm s) = lineOf s := rfl
theorem norm_cntOf (s : VS) : cntOf (norm s) = cntOf s := rfl
theorem norm_renOpts (s : VS) : renOpts (norm s) = renOpts s := rfl
theorem norm_posTab (s : VS) : posTab (norm s) = posTab s := rfl
theorem norm_off2col (s : VS) : off2col (norm s) = off2col s := rfl
theorem norm_col2off (s : VS) : col2off (norm s) = col2off s := rfl
theorem norm_noeol (s : VS) : noeol (norm s) = noeol s := rfl
theorem norm_dirCtx (s : VS) : dirCtx (norm s) = dirCtx s := rfl
theorem norm_nextcol (s : VS) : nextcol (norm s) = nextcol s := rfl
theorem norm_curword (s : VS) : curword (norm s) = curword s := rfl
theorem norm_ledLeft (s : VS) : ledLeft (norm s) = ledLeft s := rfl

theorem norm_viSearch_rep (cmd : Nat) (cnt : Int) (s : VS) (kwd : Bytes) (dir : Int) (f : Nat)
    (r o i : Int) :
    viSearch.rep cmd cnt (norm s) kwd dir f r o i = viSearch.rep cmd cnt s kwd dir f r o i := by
  rw [(keyEq_gsim.2 (norm_norm s)).viSearch_rep_eq bsim_eq]

theorem norm_lineE (s : VS) : lineE (norm s) = lineE s := rfl
theorem norm_viIndents (s : VS) : viIndents (norm s) = viIndents s := rfl
theorem norm_lbufRegion (s : VS) : lbufRegion (norm s) = lbufRegion s := rfl
theorem norm_vcJoin_go (s : VS) (beg e : Int) (f : Nat) (i : Int) (sb : Bytes) (off : Int) :
    vcJoin.go (norm s) beg e f i sb off = vcJoin.go s beg e f i sb off := by
  rw [(keyEq_gsim.2 (norm_norm s)).vcJoin_go_eq bsim_eq]

/-! ### `Respects` -/

theorem respects_viNextline : Respects viNextline := respects_iff.1 (g2_viNextline qsim_pend)
theorem respects_ledLine (pref post ai0 : Bytes) (aiMax : Nat) (im ex : Bool) :
    Respects (ledLine pref post ai0 aiMax im ex) := respects_iff.1 (g2_ledLine qsim_pend bsim_eq pref post ai0 aiMax im ex)
theorem respects_viPrompt (ex : Bool) : Respects (viPrompt ex) := respects_iff.1 (g2_viPrompt qsim_pend bsim_eq ex)
theorem respects_viMotionln (row cmd : Int) : Respects (viMotionln row cmd) :=
  respects_iff.1 (g2_viMotionln0 qsim_pend bsimS_eq row cmd)
theorem respects_viSearch (cmd : Nat) (cnt r o : Int) : Respects (viSearch cmd cnt r o) :=
  respects_iff.1 (g2_viSearch qsim_pend bsim_eq cmd cnt r o)
theorem respects_viMotion (row off : Int) : Respects (viMotion row off) :=
  respects_iff.1 (g2_viMotion0 qsim_pend bsimS_eq row off)

theorem respects_liftO {α : Type} (o : Option α) : Respects (liftO o) := respects_iff.1 (g2_liftO o)
theorem respects_repeatM (n : Nat) {m : M Unit} (hm : Respects m) : Respects (repeatM n m) :=
  respects_iff.1 (g2_repeatM n (respects_iff.2 hm))
theorem respects_withEd (f : Ed → Ed) : Respects (withEd f) :=
  respects_iff.1 (g2_withEd qsim_pend fun _ _ h => edG_eq.2 (congrArg f (edG_eq.1 h)))
theorem respects_unmodelled : Respects Vi.unmodelled := respects_iff.1 (g2_unmodelled qsim_pend)
theorem respects_setPos (r o : Int) : Respects (setPos r o) := respects_iff.1 (g2_setPos qsim_pend r o)
theorem respects_setRow (r : Int) : Respects (setRow r) := respects_iff.1 (g2_setRow qsim_pend r)
theorem respects_setOff (o : Int) : Respects (setOff o) := respects_iff.1 (g2_setOff qsim_pend o)
theorem respects_setTop (t : Int) : Respects (setTop t) := respects_iff.1 (g2_setTop qsim_pend t)
theorem respects_markSet (c : Nat) (r o : Int) : Respects (markSet c r o) :=
  respects_iff.1 (g2_markSet qsim_pend bsim_eq c r o)
theorem respects_regPut (c : Nat) (x : Bytes) (ln : Nat) : Respects (regPut c x ln) :=
  respects_iff.1 (g2_regPut qsim_pend c x ln)
theorem respects_lbufModified : Respects lbufModified := respects_iff.1 (g2_lbufModified qsim_pend bsim_eq)
theorem respects_edEdit (txt : Option Bytes) (b e : Int) : Respects (edEdit txt b e) :=
  respects_iff.1 (g2_edEdit qsim_pend bsimS_eq txt b e)

end Neatvi.Lemmas.C09
