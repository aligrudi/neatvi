import NeatviVerif.Lemmas.C09Respects
/-!
# C09: the commands of vi.c respect `KeyEq` (everything in an iteration of `vi()` but the `.`/`@` branches of the
command switch): the walk of `Lemmas/C09WalkCmd.lean` read for the same pending keys and the same buffers
-/
namespace Neatvi.Lemmas.C09
open Neatvi Neatvi.Vi Neatvi.Ex

theorem respects_vcMotion (cmd : Nat) : Respects (vcMotion cmd) := respects_iff.1 (g2_vcMotion qsim_pend bsimS_eq cmd)
theorem respects_vcInsert (cmd : Nat) : Respects (vcInsert cmd) := respects_iff.1 (g2_vcInsert qsim_pend bsimS_eq cmd)
theorem respects_vcPut (cmd : Nat) : Respects (vcPut cmd) := respects_iff.1 (g2_vcPut qsim_pend bsimS_eq cmd)
theorem respects_vcJoin : Respects vcJoin := respects_iff.1 (g2_vcJoin qsim_pend bsimS_eq)
theorem respects_vcReplace : Respects vcReplace := respects_iff.1 (g2_vcReplace qsim_pend bsimS_eq)
theorem respects_exCommandV (ln : Bytes) : Respects (exCommandV ln) := respects_iff.1 (g2_exCommandV qsim_pend bsimS_eq ln)
theorem respects_viPre : Respects viPre := respects_iff.1 (g2_viPre qsim_pend bsimS_eq)
theorem respects_motionTail (mv nrow noff : Int) : Respects (motionTail mv nrow noff) :=
  respects_iff.1 (g2_motionTail qsim_pend bsim_eq mv nrow noff)
theorem respects_viPost (cont : Option Nat) : Respects (viPost cont) := respects_iff.1 (g2_viPost qsim_pend bsim_eq cont)
theorem respects_finRec (c k : Int) (mod : Nat) : Respects (finRec c k mod) :=
  respects_iff.1 (g2_finRec (B := Eq) qsim_pend c k mod)

/-- **`commandTail_keyEq`**: unless the command key is `.` or `@`, the command switch cannot tell
`KeyEq` states apart -/
theorem commandTail_keyEq (s t : VS) (h : KeyEq s t)
    (hk : ∀ s', viRead s ≠ Res.ok 46 s' ∧ viRead s ≠ Res.ok 64 s') :
    RelRes (commandTail s) (commandTail t) :=
  gr_relRes.1 (gr_commandTail qsim_pend bsimS_eq (keyEq_gsim.2 h) hk)

/-- **`viStep_keyEq`**: one iteration of `vi()` cannot tell `KeyEq` states apart, unless it is a command
(`mv = 0`) whose key is `.` or `@` -/
theorem viStep_keyEq (s t : VS) (h : KeyEq s t)
    (hk : ∀ r s1 s2, viPre s = Res.ok r s1 → r.1 = 0 →
      viRead s1 ≠ Res.ok 46 s2 ∧ viRead s1 ≠ Res.ok 64 s2) :
    RelRes (viStep s) (viStep t) :=
  gr_relRes.1 (gr_viStep qsim_pend bsimS_eq (keyEq_gsim.2 h) fun _ _ s1 _ hs _ h1 =>
    gr_commandTail qsim_pend bsimS_eq h1 fun s2 => hk _ s1 s2 hs rfl)

/-- a computation that commutes with `norm` (it neither inspects nor alters the queue) respects `KeyEq` -/
theorem respects_of_commutes {α : Type} {m : M α} (h : ∀ s, m (norm s) = mapS norm (m s)) :
    Respects m := by
  intro s t hst
  have e : mapS norm (m s) = mapS norm (m t) := by
    rw [← h s, ← h t, show norm t = norm s from hst.symm]
  revert e
  generalize m s = r1
  generalize m t = r2
  intro e
  cases r1 <;> cases r2 <;> simp only [mapS, reduceCtorEq] at e
  · injection e with e1 e2
    subst e1
    exact RelRes.ok _ _ _ e2
  · exact RelRes.eof
  · exact RelRes.trap

theorem exSet_norm (ln : Bytes) (s : VS) : exSet ln (norm s) = norm (exSet ln s) := by
  unfold exSet
  cases setOf ln with
  | none => rfl
  | some p =>
    obtain ⟨v, val⟩ := p
    dsimp only
    split
    · rfl
    · split <;> rfl

theorem exTail_norm (ln : Bytes) (s : VS) : exTail ln (norm s) = mapS norm (exTail ln s) := by
  unfold exTail
  simp only [norm_ed, norm_unmodelled]
  generalize exCommand 64 _ ln = r
  cases r with
  | none => rfl
  | some p => rfl


end Neatvi.Lemmas.C09
