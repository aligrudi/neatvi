import NeatviVerif.Lemmas.C09Cmd
import NeatviVerif.Lemmas.C09Attr
import NeatviVerif.Lemmas.EdG
/-!
# C09: the programs of vi.c keep every relation that their primitives keep

The state of `vi` has two coordinates that the programs of vi.c touch through a handful of primitives only: the
*key source* (`ibuf`, `ibufPos`, `typed`, with `icmd` and `repCmd`: `termRead`, `termCmd`, `termPush`, the store into
`rep_cmd`) and the *buffer table* (`ed.bufs`: marks, `lbuf_modified`, `Ed.edit`, undo/redo, the ex commands).
Everything else is plain data that the programs copy around.  `GSim Q B s t`: `Q` on the key sources, `B` on the buffer
tables, every other field equal.  `G2 R E m m'`: from `R`-related states `m` and `m'` end alike — both out of keys,
both trapped, or with the same value in `R`-related states (`E`: an escape, two values `a`, `b` with `E a b`).

A program is walked once, for `GSim Q B`, under `QSim Q` (what the queue primitives need of `Q`) and `BSim B` /
`BSimS B` (what the buffer primitives need of `B`); `g_tac` does the walk.  The relations of C09 (`KeyEq`: same pending
keys however split, same buffers), C09b (`K`: `KeyEq` with bookkeeping) and C09c (`Sim w`: same key source, buffers
equal up to the numbering of the undo records) are instances; their statements about a program are readings of its one walk.
`runs_rel` carries a relation that an iteration keeps along two runs of `vi()`.
-/
namespace Neatvi.Lemmas.C09c

def NoEsc {α : Type} : α → α → Prop := fun _ _ => False

end Neatvi.Lemmas.C09c

namespace Neatvi.Lemmas.C09
open Neatvi Neatvi.Uc Neatvi.Lbuf Neatvi.Ex Neatvi.Vi Neatvi.Mot
open Neatvi.Lemmas.C09c (NoEsc)

/-- two `vi` states: `Q` on the key source, `B` on the buffer tables, every other field equal -/
structure GSim (Q : VS → VS → Prop) (B : Bufs → Bufs → Prop) (s t : VS) : Prop where
  q : Q s t
  ed : EdG B s.ed t.ed
  icmd : s.icmd = t.icmd
  vibuf : s.vibuf = t.vibuf
  xcol : s.xcol = t.xcol
  arg1 : s.arg1 = t.arg1
  arg2 : s.arg2 = t.arg2
  ybuf : s.ybuf = t.ybuf
  charlast : s.charlast = t.charlast
  charcmd : s.charcmd = t.charcmd
  pcol : s.pcol = t.pcol
  soset : s.soset = t.soset
  so : s.so = t.so
  scroll : s.scroll = t.scroll
  repCmd : s.repCmd = t.repCmd
  execReg : s.execReg = t.execReg
  msg : s.msg = t.msg
  xrows : s.xrows = t.xrows
  xcols : s.xcols = t.xcols
  xai : s.xai = t.xai
  xkmap : s.xkmap = t.xkmap
  exKmap : s.exKmap = t.exKmap
  xkmapAlt : s.xkmapAlt = t.xkmapAlt
  unmodelled : s.unmodelled = t.unmodelled

/-! ### related results, related computations, for any relation -/

inductive GR (R : VS → VS → Prop) {α : Type} (E : α → α → Prop) : Res α → Res α → Prop where
  | ok (a : α) (s t : VS) (h : R s t) : GR R E (Res.ok a s) (Res.ok a t)
  | esc (a b : α) (s t : VS) (h : E a b) : GR R E (Res.ok a s) (Res.ok b t)
  | eof : GR R E Res.eof Res.eof
  | trap : GR R E Res.trap Res.trap

def G2 (R : VS → VS → Prop) {α : Type} (E : α → α → Prop) (m m' : M α) : Prop :=
  ∀ s t, R s t → GR R E (m s) (m' t)

section closure
variable {R : VS → VS → Prop}

@[g2_leaf] theorem g2_pure {α : Type} {E : α → α → Prop} (a : α) : G2 R E (pure a : M α) (pure a) :=
  fun s t h => GR.ok a s t h

@[g2_leaf] theorem g2_trap {α : Type} {E : α → α → Prop} : G2 R E (Vi.trap : M α) Vi.trap := fun _ _ _ => GR.trap

theorem GR.bind_esc {α β : Type} {E1 : α → α → Prop} {E : β → β → Prop} {m m' : M α} {f f' : α → M β}
    {s t : VS} (hm : GR R E1 (m s) (m' t)) (hf : ∀ a s' t', R s' t' → GR R E (f a s') (f' a t'))
    (he : ∀ a b s' t', E1 a b → GR R E (f a s') (f' b t')) : GR R E ((m >>= f) s) ((m' >>= f') t) := by
  rw [C07.bind_apply, C07.bind_apply]
  revert hm
  generalize m s = r1
  generalize m' t = r2
  intro hm
  cases hm with
  | ok a s' t' h' => exact hf a s' t' h'
  | esc a b s' t' h' => exact he a b s' t' h'
  | eof => exact GR.eof
  | trap => exact GR.trap

theorem GR.bind_eq {α β : Type} {E : β → β → Prop} {m : M α} {f : α → M β} {s t : VS} (hm : GR R NoEsc (m s) (m t))
    (hf : ∀ a s' t', m s = Res.ok a s' → m t = Res.ok a t' → R s' t' → GR R E (f a s') (f a t')) :
    GR R E ((m >>= f) s) ((m >>= f) t) := by
  rw [C07.bind_apply, C07.bind_apply]
  revert hf hm
  generalize m s = r1
  generalize m t = r2
  intro hm hf
  cases hm with
  | ok a s' t' h' => exact hf a s' t' rfl rfl h'
  | esc a b s' t' h' => exact h'.elim
  | eof => exact GR.eof
  | trap => exact GR.trap

theorem g2_bind {α β : Type} {E : β → β → Prop} {m m' : M α} {f f' : α → M β}
    (hm : G2 R NoEsc m m') (hf : ∀ a, G2 R E (f a) (f' a)) : G2 R E (m >>= f) (m' >>= f') :=
  fun s t h => GR.bind_esc (hm s t h) (fun a => hf a) fun _ _ _ _ h => h.elim

theorem g2_bind_esc {α β : Type} {E1 : α → α → Prop} {E : β → β → Prop} {m m' : M α}
    {f f' : α → M β} (hm : G2 R E1 m m') (hf : ∀ a, G2 R E (f a) (f' a))
    (he : ∀ a b s t, E1 a b → GR R E (f a s) (f' b t)) : G2 R E (m >>= f) (m' >>= f') :=
  fun s t h => GR.bind_esc (hm s t h) (fun a => hf a) he

theorem g2_get_bind {β : Type} {E : β → β → Prop} {f f' : VS → M β}
    (hf : ∀ s t, R s t → G2 R E (f s) (f' t)) : G2 R E (Vi.get >>= f) (Vi.get >>= f') :=
  fun s t h => hf s t h s t h

theorem g2_ite {α : Type} {E : α → α → Prop} {c : Prop} [Decidable c] {a a' b b' : M α}
    (ha : c → G2 R E a a') (hb : ¬ c → G2 R E b b') : G2 R E (if c then a else b) (if c then a' else b') := by
  split
  · exact ha ‹_›
  · exact hb ‹_›

theorem g2_ite_then {α : Type} {E : α → α → Prop} {c : Prop} [Decidable c] {m m' : M PUnit}
    {k k' : PUnit → M α} (hm : G2 R NoEsc m m') (hk : G2 R E (k ()) (k' ())) :
    G2 R E (if c then m >>= k else k ()) (if c then m' >>= k' else k' ()) :=
  g2_ite (fun _ => g2_bind hm fun _ => hk) fun _ => hk

theorem g2_modify {E : Unit → Unit → Prop} {g g' : VS → VS} (hg : ∀ s t, R s t → R (g s) (g' t)) :
    G2 R E (Vi.modify g) (Vi.modify g') := fun s t h => GR.ok () _ _ (hg s t h)

theorem g2_reader {α : Type} {E : α → α → Prop} {g g' : VS → α} (hg : ∀ s t, R s t → g s = g' t) :
    G2 R E (fun s => Res.ok (g s) s) (fun s => Res.ok (g' s) s) := by
  intro s t h
  show GR R E (Res.ok (g s) s) (Res.ok (g' t) t)
  rw [hg s t h]
  exact GR.ok _ _ _ h

@[g2_leaf] theorem g2_liftO {α : Type} {E : α → α → Prop} (o : Option α) : G2 R E (liftO o) (liftO o) := by
  intro s t h
  unfold liftO
  cases o with
  | none => exact GR.trap
  | some a => exact GR.ok _ _ _ h

theorem g2_repeatM {E : Unit → Unit → Prop} (n : Nat) {m : M Unit} (hm : G2 R NoEsc m m) :
    G2 R E (repeatM n m) (repeatM n m) := by
  induction n with
  | zero => exact g2_pure _
  | succ n ih => exact g2_bind hm fun _ => ih

theorem GR.mono {α : Type} {E E' : α → α → Prop} (hE : ∀ a b, E a b → E' a b) {x y : Res α}
    (h : GR R E x y) : GR R E' x y := by
  cases h with
  | ok a s t h => exact GR.ok a s t h
  | esc a b s t h => exact GR.esc a b s t (hE a b h)
  | eof => exact GR.eof
  | trap => exact GR.trap

theorem G2.mono {α : Type} {E E' : α → α → Prop} (hE : ∀ a b, E a b → E' a b) {m m' : M α}
    (h : G2 R E m m') : G2 R E' m m' := fun s t hs => (h s t hs).mono hE

end closure

/-! ### what the primitives need of `Q` and of `B` -/

/-- the key source -/
@[reducible] def kq (s : VS) : Bytes × Nat × Bytes × Bytes × Bytes := (s.ibuf, s.ibufPos, s.typed, s.icmd, s.repCmd)

theorem kq_pending {s s' : VS} (e : kq s' = kq s) : pending s' = pending s := by
  simp only [kq, Prod.mk.injEq] at e
  obtain ⟨e1, e2, e3, -, -⟩ := e
  unfold pending
  rw [e1, e2, e3]

/-- what the queue primitives need of a relation `Q` between key sources: it looks at nothing else; reading a key,
taking the record of the keys read and storing a command shorter than the buffer in `rep_cmd` keep it -/
structure QSim (Q : VS → VS → Prop) : Prop where
  frame : ∀ {s t s' t'}, Q s t → kq s' = kq s → kq t' = kq t → Q s' t'
  read : ∀ {s t}, Q s t → s.icmd = t.icmd → (termRead s = Res.eof ∧ termRead t = Res.eof) ∨
    ∃ (k : Nat) (ib : Bytes) (ip : Nat) (ty ib' : Bytes) (ip' : Nat) (ty' : Bytes),
      termRead s = Res.ok (k : Int) { s with ibuf := ib, ibufPos := ip, typed := ty, icmd := icmdAfter s.icmd k } ∧
      termRead t = Res.ok (k : Int) { t with ibuf := ib', ibufPos := ip', typed := ty', icmd := icmdAfter t.icmd k } ∧
      Q { s with ibuf := ib, ibufPos := ip, typed := ty, icmd := icmdAfter s.icmd k }
        { t with ibuf := ib', ibufPos := ip', typed := ty', icmd := icmdAfter t.icmd k }
  cmd : ∀ {s t}, Q s t → Q { s with icmd := [] } { t with icmd := [] }
  rep : ∀ (x : Bytes), x.length + 1 < 4096 → ∀ {s t}, Q s t → Q { s with repCmd := x } { t with repCmd := x }

/-- what the buffer primitives that every program may call need of a relation `B` between buffer tables: related
tables show the same text; setting a mark and `lbuf_modified` keep it -/
structure BSim (B : Bufs → Bufs → Prop) : Prop where
  lines : ∀ {a b}, EdG B a b → a.lb.map (·.lines) = b.lb.map (·.lines)
  cp : ∀ {a b}, EdG B a b → a.cp = b.cp
  line : ∀ {a b}, EdG B a b → a.line = b.line
  mark : ∀ {a b}, EdG B a b → ∀ (c : Nat) (p o : Int),
    EdG B (match a.lb with | some l => a.setLb (setMark l c p o) | none => a)
      (match b.lb with | some l => b.setLb (setMark l c p o) | none => b)
  modified : ∀ {a b}, EdG B a b →
    EdG B (match a.lb with | some l => a.setLb (Lbuf.modified l).2 | none => a)
      (match b.lb with | some l => b.setLb (Lbuf.modified l).2 | none => b)

/-- what the commands that change the text need in addition (false of `BufsRel true`, where the mark `^` is exempt):
related tables show the same marks, and `Ed.edit` keeps the relation.  It is what the handlers of ex.c need of `B`
(`ExCong.BCong B S`) together with "the ex layer keeps `EdG B`": `C09c.bsimS_of_cong` (`Lemmas/C09cVi.lean`). -/
structure BSimS (B : Bufs → Bufs → Prop) : Prop extends BSim B where
  jump : ∀ {a b}, EdG B a b → ∀ c : Nat, a.lb.bind (fun l => jump l c) = b.lb.bind (fun l => jump l c)
  edit : ∀ {a b}, EdG B a b → ∀ (txt : Option Bytes) (x y : Int),
    (a.edit txt x y = none ∧ b.edit txt x y = none) ∨
      ∃ a' b', a.edit txt x y = some a' ∧ b.edit txt x y = some b' ∧ EdG B a' b'
  ex : ∀ {a b}, EdG B a b → ∀ ln : Bytes, (exCommand 64 a ln = none ∧ exCommand 64 b ln = none) ∨
    ∃ rc a' b', exCommand 64 a ln = some (rc, a') ∧ exCommand 64 b ln = some (rc, b') ∧ EdG B a' b'
  undoRedo : ∀ {a b}, EdG B a b → ∀ c : Int, (a.lb = none ∧ b.lb = none) ∨
    ∃ la lb, a.lb = some la ∧ b.lb = some lb ∧
      (((if (c == 117) = true then undo la else redo la) = none ∧
          (if (c == 117) = true then undo lb else redo lb) = none) ∨
        ∃ rc la' lb', (if (c == 117) = true then undo la else redo la) = some (rc, la') ∧
          (if (c == 117) = true then undo lb else redo lb) = some (rc, lb') ∧ Lbuf.jump la' 94 = Lbuf.jump lb' 94 ∧
          ∀ {x y}, EdG B x y → EdG B (x.setLb la') (y.setLb lb'))

/-- `term_push` keeps `Q`: true when the key sources are the same, false of `KeyEq` (`push_not_respects`) -/
def QPush (Q : VS → VS → Prop) : Prop := ∀ (x : Bytes) {s t : VS}, Q s t →
  Q { s with ibuf := s.ibuf ++ x.take (4096 - s.ibuf.length) } { t with ibuf := t.ibuf ++ x.take (4096 - t.ibuf.length) }

section walk
variable {Q : VS → VS → Prop} {B : Bufs → Bufs → Prop}

theorem g2_withEd {E : Unit → Unit → Prop} (hQ : QSim Q) {g g' : Ed → Ed}
    (hg : ∀ a b, EdG B a b → EdG B (g a) (g' b)) : G2 (GSim Q B) E (withEd g) (withEd g') :=
  g2_modify fun _ _ h => { h with q := hQ.frame h.q rfl rfl, ed := hg _ _ h.ed }

/-! ### the key queue -/

@[g2_leaf] theorem g2_termRead (hQ : QSim Q) {E : Int → Int → Prop} : G2 (GSim Q B) E termRead termRead := by
  intro s t h
  rcases hQ.read h.q h.icmd with ⟨e1, e2⟩ | ⟨k, ib, ip, ty, ib', ip', ty', e1, e2, hq⟩
  · rw [e1, e2]; exact GR.eof
  · rw [e1, e2]
    exact GR.ok _ _ _ { h with q := hq, icmd := by show icmdAfter s.icmd k = icmdAfter t.icmd k; rw [h.icmd] }

@[g2_leaf] theorem g2_viRead (hQ : QSim Q) {E : Int → Int → Prop} : G2 (GSim Q B) E viRead viRead := by
  intro s t h
  unfold viRead
  rw [h.vibuf]
  cases t.vibuf with
  | nil => exact g2_termRead hQ s t h
  | cons c r => exact GR.ok _ _ _ { h with q := hQ.frame h.q rfl rfl, vibuf := rfl }

@[g2_leaf] theorem g2_viBack (hQ : QSim Q) {E : Unit → Unit → Prop} (c : Int) : G2 (GSim Q B) E (viBack c) (viBack c) :=
  g2_modify fun s t h =>
    { h with q := hQ.frame h.q rfl rfl, vibuf := by show c :: s.vibuf = c :: t.vibuf; rw [h.vibuf] }

@[g2_leaf] theorem g2_termCmd (hQ : QSim Q) {E : Bytes → Bytes → Prop} : G2 (GSim Q B) E termCmd termCmd := by
  intro s t h
  show GR _ E (Res.ok s.icmd { s with icmd := [] }) (Res.ok t.icmd { t with icmd := [] })
  rw [h.icmd]
  exact GR.ok _ _ _ { h with q := hQ.cmd h.q, icmd := rfl }

theorem g2_termPush (hP : QPush Q) {E : Unit → Unit → Prop} (x : Bytes) : G2 (GSim Q B) E (termPush x) (termPush x) :=
  g2_modify fun _ _ h => { h with q := hP x h.q }

theorem g2_modify_rep (hQ : QSim Q) {E : Unit → Unit → Prop} (x : Bytes) (hx : x.length + 1 < 4096) :
    G2 (GSim Q B) E (Vi.modify fun s => { s with repCmd := x }) (Vi.modify fun s => { s with repCmd := x }) :=
  g2_modify fun _ _ h => { h with q := hQ.rep x hx h.q, repCmd := rfl }

/-! ### what related states show alike -/

section reads
variable {s t : VS} (hB : BSim B) (h : GSim Q B s t)
include hB h

theorem GSim.lines_eq : lines s = lines t := by
  have := hB.lines h.ed
  unfold lines
  revert this
  cases s.ed.lb <;> cases t.ed.lb <;> intro this <;> simp_all

theorem GSim.lenOf_eq : lenOf s = lenOf t := by unfold lenOf; rw [h.lines_eq hB]
theorem GSim.lineOf_eq : lineOf s = lineOf t := by funext r; unfold lineOf; rw [h.lines_eq hB]
theorem GSim.lineE_eq : lineE s = lineE t := by funext r; unfold lineE; rw [h.lineOf_eq hB]
omit hB in
theorem GSim.renOpts_eq : renOpts s = renOpts t := by unfold renOpts; rw [h.ed.xtd]
omit hB in
theorem GSim.posTab_eq : posTab s = posTab t := by funext ln; unfold posTab; rw [h.renOpts_eq]
theorem GSim.off2col_eq : off2col s = off2col t := by
  funext r o; unfold off2col; rw [h.lineOf_eq hB, h.posTab_eq]
theorem GSim.col2off_eq : col2off s = col2off t := by
  funext r c; unfold col2off; rw [h.lineOf_eq hB, h.posTab_eq]
theorem GSim.noeol_eq : noeol s = noeol t := by funext r o; unfold noeol; rw [h.lineOf_eq hB]
omit hB in
theorem GSim.cntOf_eq : cntOf s = cntOf t := by unfold cntOf; rw [h.arg1, h.arg2]
omit hB in
theorem GSim.dirCtx_eq : dirCtx s = dirCtx t := by funext ln; unfold dirCtx; rw [h.ed.xtd]
theorem GSim.nextcol_eq : nextcol s = nextcol t := by
  funext d r o; unfold nextcol; rw [h.lineOf_eq hB, h.posTab_eq]
theorem GSim.curword_eq : curword s = curword t := by funext r o; unfold curword; rw [h.lineOf_eq hB]
omit hB in
theorem GSim.ledLeft_eq : ledLeft s = ledLeft t := by
  funext a b c d e; unfold ledLeft; rw [h.posTab_eq, h.xcols]
omit hB in
theorem GSim.viIndents_eq : viIndents s = viIndents t := by funext ln; unfold viIndents; rw [h.xai]
theorem GSim.lbufRegion_eq : lbufRegion s = lbufRegion t := by
  funext a b c d; unfold lbufRegion; rw [h.lineE_eq hB, hB.cp h.ed]
theorem GSim.regGet_eq : regGet s.ed = regGet t.ed := by
  funext c; unfold regGet; rw [hB.line h.ed, h.ed.xrow, h.ed.xoff, h.ed.regs]
theorem GSim.regGetLn_eq : regGetLn s.ed = regGetLn t.ed := by
  funext c; unfold regGetLn; rw [h.regGet_eq hB, h.ed.regs]
theorem GSim.viSearch_rep_eq (cmd : Nat) (cnt : Int) (kwd : Bytes) (dir : Int) :
    viSearch.rep cmd cnt s kwd dir = viSearch.rep cmd cnt t kwd dir := by
  funext f
  induction f with
  | zero => funext r o i; rfl
  | succ f ih =>
    funext r o i
    unfold viSearch.rep
    simp only [h.lines_eq hB, h.ed.xic, ih]
theorem GSim.vcJoin_go_eq (beg e : Int) : vcJoin.go s beg e = vcJoin.go t beg e := by
  funext f
  induction f with
  | zero => funext i sb off; rfl
  | succ f ih =>
    funext i sb off
    unfold vcJoin.go
    simp only [h.lineE_eq hB, ih]

/-- everything that related states show alike, as one set of rewrite rules from the first state to the second -/
theorem GSim.reads :
    lines s = lines t ∧ lenOf s = lenOf t ∧ lineOf s = lineOf t ∧ lineE s = lineE t ∧
    renOpts s = renOpts t ∧ posTab s = posTab t ∧ off2col s = off2col t ∧ col2off s = col2off t ∧
    noeol s = noeol t ∧ cntOf s = cntOf t ∧ dirCtx s = dirCtx t ∧ nextcol s = nextcol t ∧ curword s = curword t ∧
    ledLeft s = ledLeft t ∧ viIndents s = viIndents t ∧ lbufRegion s = lbufRegion t ∧
    regGet s.ed = regGet t.ed ∧ regGetLn s.ed = regGetLn t.ed ∧
    (∀ cmd cnt kwd dir, viSearch.rep cmd cnt s kwd dir = viSearch.rep cmd cnt t kwd dir) ∧
    (∀ beg e, vcJoin.go s beg e = vcJoin.go t beg e) ∧ s.ed.cp = t.ed.cp ∧ s.ed.xrow = t.ed.xrow ∧ s.ed.xoff = t.ed.xoff ∧
    s.ed.xtop = t.ed.xtop ∧ s.ed.xleft = t.ed.xleft ∧ s.ed.xquit = t.ed.xquit ∧ s.ed.xkwd = t.ed.xkwd ∧
    s.ed.xkwddir = t.ed.xkwddir ∧ s.ed.xic = t.ed.xic ∧ s.ed.out = t.ed.out ∧
    s.arg1 = t.arg1 ∧ s.arg2 = t.arg2 ∧ s.ybuf = t.ybuf ∧
    s.xcol = t.xcol ∧ s.pcol = t.pcol ∧ s.charlast = t.charlast ∧ s.charcmd = t.charcmd ∧ s.soset = t.soset ∧
    s.so = t.so ∧ s.scroll = t.scroll ∧ s.xrows = t.xrows ∧ s.xcols = t.xcols ∧ s.xai = t.xai ∧
    s.xkmap = t.xkmap ∧ s.exKmap = t.exKmap ∧ s.xkmapAlt = t.xkmapAlt ∧ s.repCmd = t.repCmd ∧
    s.execReg = t.execReg :=
  ⟨h.lines_eq hB, h.lenOf_eq hB, h.lineOf_eq hB, h.lineE_eq hB, h.renOpts_eq, h.posTab_eq, h.off2col_eq hB,
    h.col2off_eq hB, h.noeol_eq hB, h.cntOf_eq, h.dirCtx_eq, h.nextcol_eq hB, h.curword_eq hB, h.ledLeft_eq,
    h.viIndents_eq, h.lbufRegion_eq hB, h.regGet_eq hB, h.regGetLn_eq hB, h.viSearch_rep_eq hB, h.vcJoin_go_eq hB,
    hB.cp h.ed, h.ed.xrow, h.ed.xoff, h.ed.xtop, h.ed.xleft, h.ed.xquit, h.ed.xkwd,
    h.ed.xkwddir, h.ed.xic, h.ed.out, h.arg1, h.arg2, h.ybuf, h.xcol, h.pcol, h.charlast, h.charcmd, h.soset, h.so,
    h.scroll, h.xrows, h.xcols, h.xai, h.xkmap, h.exKmap, h.xkmapAlt, h.repCmd, h.execReg⟩

end reads
end walk

/-- rewrite what the first state shows into what the second shows -/
macro "gsim_reads " hB:term:max h:term:max : tactic => `(tactic| try simp only [GSim.reads $hB $h])

/-- `GSim Q B (g s) (g' t)` for an update `g` of fields other than `ed` and the key source, field by field: an
untouched field is a field of `h`; `Q` looks at the key source only; a new value is the same on both sides once what
it reads of `s` is rewritten into what `t` shows -/
macro "gsim_upd " hQ:term:max hB:term:max : tactic => `(tactic| (
  intro s t h
  have h' := h
  cases h'
  constructor <;> first
    | with_reducible assumption
    | with_reducible rfl
    | (with_reducible exact QSim.frame $hQ (GSim.q h) rfl rfl)
    | (gsim_reads $hB h; done)
    | rfl))

/-- `EdG B (g a) (g b)` for an update of fields other than the buffer table -/
macro "edg_upd" : tactic => `(tactic| (
  intro a b h
  first
  | with_reducible exact kwdSet_g h _ _
  | (have h' := h
     cases h'
     constructor <;> first
       | with_reducible assumption
       | with_reducible rfl
       | (simp only [EdG.xrow h, EdG.xoff h, EdG.xtop h, EdG.xleft h, EdG.regs h, EdG.xtd h]; done)
       | rfl)))

section walk
variable {Q : VS → VS → Prop} {B : Bufs → Bufs → Prop} (hQ : QSim Q) (hB : BSim B)
include hQ

@[g2_leaf] theorem g2_setMsg {E : Unit → Unit → Prop} (m : Bytes) : G2 (GSim Q B) E (setMsg m) (setMsg m) :=
  g2_modify fun _ _ h => { h with q := hQ.frame h.q rfl rfl, msg := rfl }
@[g2_leaf] theorem g2_unmodelled {E : Unit → Unit → Prop} : G2 (GSim Q B) E Vi.unmodelled Vi.unmodelled :=
  g2_modify fun _ _ h => { h with q := hQ.frame h.q rfl rfl, unmodelled := rfl }

@[g2_leaf] theorem g2_setPos {E : Unit → Unit → Prop} (r o : Int) : G2 (GSim Q B) E (setPos r o) (setPos r o) :=
  g2_withEd hQ fun _ _ h => { h with xrow := rfl, xoff := rfl }
@[g2_leaf] theorem g2_setRow {E : Unit → Unit → Prop} (r : Int) : G2 (GSim Q B) E (setRow r) (setRow r) :=
  g2_withEd hQ fun _ _ h => { h with xrow := rfl }
@[g2_leaf] theorem g2_setOff {E : Unit → Unit → Prop} (o : Int) : G2 (GSim Q B) E (setOff o) (setOff o) :=
  g2_withEd hQ fun _ _ h => { h with xoff := rfl }
@[g2_leaf] theorem g2_setTop {E : Unit → Unit → Prop} (x : Int) : G2 (GSim Q B) E (setTop x) (setTop x) :=
  g2_withEd hQ fun _ _ h => { h with xtop := rfl }
@[g2_leaf] theorem g2_regPut {E : Unit → Unit → Prop} (c : Nat) (x : Bytes) (ln : Nat) :
    G2 (GSim Q B) E (regPut c x ln) (regPut c x ln) :=
  g2_withEd hQ fun a b h => { h with regs := by show a.regs.put c x ln = b.regs.put c x ln; rw [h.regs] }

include hB
@[g2_leaf] theorem g2_markSet {E : Unit → Unit → Prop} (c : Nat) (r o : Int) :
    G2 (GSim Q B) E (markSet c r o) (markSet c r o) :=
  g2_withEd hQ fun _ _ h => hB.mark h c r o
@[g2_leaf] theorem g2_lbufModified {E : Unit → Unit → Prop} : G2 (GSim Q B) E lbufModified lbufModified :=
  g2_withEd hQ fun _ _ h => hB.modified h

omit hQ hB in
theorem nextline_g (g : Int → Int) {a b : Ed} (h : EdG B a b) :
    EdG B (if a.xrow == g a.xtop then { a with xrow := a.xrow + 1, xtop := a.xtop + 1 } else { a with xrow := a.xrow + 1 })
      (if b.xrow == g b.xtop then { b with xrow := b.xrow + 1, xtop := b.xtop + 1 } else { b with xrow := b.xrow + 1 }) := by
  rw [h.xrow, h.xtop]
  split
  · exact { h with xrow := rfl, xtop := rfl }
  · exact { h with xrow := rfl, xtop := rfl }

-- `Vi.viNextline` has the height of the window as the literal 23 (the model calls `viNextlineR`, which reads `xrows`)
omit hB in
@[g2_leaf] theorem g2_viNextline {E : Unit → Unit → Prop} : G2 (GSim Q B) E viNextline viNextline :=
  g2_withEd hQ fun _ _ h => nextline_g (fun t => t + 23 - 1 + 0) h

omit hB in
@[g2_leaf] theorem g2_edEdit (hS : BSimS B) {E : Unit → Unit → Prop} (txt : Option Bytes) (x y : Int) :
    G2 (GSim Q B) E (edEdit txt x y) (edEdit txt x y) := by
  intro s t h
  unfold edEdit
  rcases hS.edit h.ed txt x y with ⟨r1, r2⟩ | ⟨a, b, r1, r2, hab⟩
  · rw [r1, r2]; exact GR.trap
  · rw [r1, r2]; exact GR.ok _ _ _ { h with q := hQ.frame h.q rfl rfl, ed := hab }

end walk

/-- one step of the walk through a program of the `vi` layer run on both sides.  The rules for its shape (`get`, bind,
`if`) come first: on a call they fail at once up to reducible unfolding.  A call of a program already walked is closed
by `simp only [g2_leaf, hQ, hB]`: that simp set holds the facts `QSim Q → BSim B → G2 (GSim Q B) E m m`, and `simp` turns
the goal into `True` with the one for `m` (second try: with a hypothesis `BSimS B` of the context, for the programs that
change the text).  An update of the state leaves `GSim`/`EdG` of the two new states, for `gsim_upd`/`edg_upd`; `get` and
an observation bring `h : GSim Q B s t` into the context and rewrite what `s` shows into what `t` shows. -/
macro "g_step " hQ:term:max hB:term:max : tactic => `(tactic| first
  | ((with_reducible refine g2_get_bind ?_); intro s t h; gsim_reads $hB h)
  | with_reducible refine g2_bind ?_ (fun _ => ?_)
  | with_reducible apply g2_ite_then
  | ((with_reducible apply g2_ite) <;> intro _)
  | (simp only [g2_leaf, $hQ:term, $hB:term]; done)
  | (simp only [g2_leaf, $hQ:term, $hB:term, ‹BSimS _›]; done)
  | (with_reducible refine g2_repeatM _ ?_)
  | ((with_reducible refine g2_withEd $hQ ?_); edg_upd)
  | ((with_reducible refine g2_modify ?_); gsim_upd $hQ $hB)
  | with_reducible assumption
  | ((with_reducible refine g2_reader ?_); intro s t h; gsim_reads $hB h)
  | dsimp only)

/-- `match`: split it.  `show G2 _ _ _ _` keeps `split` away from a side goal (`GSim`, `EdG`) that a step left open. -/
macro "g_split" : tactic => `(tactic| (show G2 _ _ _ _; split))

macro "g_tac " hQ:term:max hB:term:max : tactic => `(tactic| repeat' (first | g_step $hQ $hB | g_split))

/-! ### two runs -/

/-- two runs of `vi()`, the second passing each state through `p` before the next iteration: a relation that an
iteration keeps on the pairs of states with `C (n + 1)` — `C` being carried along, `p` keeping the relation — relates
the runs: both stop, or both go on in related states -/
theorem runs_rel {R : VS → VS → Prop} {C : Nat → VS → VS → Prop} {p : VS → VS} {run run' : Nat → VS → Option VS}
    (r0 : ∀ s, run 0 s = some s) (r0' : ∀ s, run' 0 s = some s)
    (rs : ∀ n s, run (n + 1) s = match viStep s with | Res.ok _ s' => run n s' | _ => none)
    (rs' : ∀ n s, run' (n + 1) s = match viStep s with | Res.ok _ s' => run' n (p s') | _ => none)
    (step : ∀ n s t, R s t → C (n + 1) s t → GR R NoEsc (viStep s) (viStep t))
    (next : ∀ n s t u s' t', R s' t' → C (n + 1) s t → viStep s = Res.ok u s' → viStep t = Res.ok u t' →
      R s' (p t') ∧ C n s' (p t'))
    (n : Nat) (s t : VS) (h : R s t) (hc : C n s t) :
    (∃ s' t', run n s = some s' ∧ run' n t = some t' ∧ R s' t') ∨ (run n s = none ∧ run' n t = none) := by
  induction n generalizing s t with
  | zero => exact Or.inl ⟨s, t, r0 s, r0' t, h⟩
  | succ n ih =>
    have hrel := step n s t h hc
    have nx := next n s t
    rw [rs, rs']
    revert hrel nx
    generalize viStep s = x
    generalize viStep t = y
    intro hrel nx
    cases hrel with
    | ok u s' t' h' => exact ih s' (p t') (nx u s' t' h' hc rfl rfl).1 (nx u s' t' h' hc rfl rfl).2
    | esc _ _ _ _ e => exact e.elim
    | eof => exact Or.inr ⟨rfl, rfl⟩
    | trap => exact Or.inr ⟨rfl, rfl⟩

end Neatvi.Lemmas.C09
