import NeatviVerif.Lemmas.C09Walk
/-!
# C09: the programs of vi.c, walked once for `GSim Q B`

Readers, `led_line`, motions, operators, insert mode, `:`, the command switch and one iteration of `vi()`.  The commands
that change the text need `BSimS B`; `.` and `@` need `QPush Q`; a motion to a mark may *escape* while the mark `^` is
exempt (`w = true`: the two sides then report a motion each, possibly different ones).  An iteration on one pair of
states is `gr_viStep`: what the switch does on the pair that `viPre` leads to is its hypothesis, so a proviso on `.`
and `@` (none when `term_push` keeps `Q`, the key is neither, a push that fits) is an argument of it.
-/
namespace Neatvi.Lemmas.C09c

/-- the escape of the motions: while the mark `^` is exempt, a motion to a mark may end differently on the two sides,
but on both sides it is a motion (`mv ≠ 0`) -/
def EscLn (w : Bool) (a b : Int × Int) : Prop := w = true ∧ a.1 ≠ 0 ∧ b.1 ≠ 0
def EscMv (w : Bool) (a b : Int × Int × Int) : Prop := w = true ∧ a.1 ≠ 0 ∧ b.1 ≠ 0

end Neatvi.Lemmas.C09c

namespace Neatvi.Lemmas.C09
open Neatvi Neatvi.Uc Neatvi.Lbuf Neatvi.Ex Neatvi.Vi Neatvi.Mot
open Neatvi.Lemmas.C09c (NoEsc EscLn EscMv)

section walk
variable {Q : VS → VS → Prop} {B : Bufs → Bufs → Prop} (hQ : QSim Q) (hB : BSim B)
include hQ hB

@[g2_leaf] theorem g2_viYankbuf {E : Nat → Nat → Prop} : G2 (GSim Q B) E viYankbuf viYankbuf := by
  unfold viYankbuf
  g_tac hQ hB

theorem g2_viPrefix_digits {E : Int → Int → Prop} (f : Nat) (n c : Int) :
    G2 (GSim Q B) E (viPrefix.digits f n c) (viPrefix.digits f n c) := by
  induction f generalizing n c with
  | zero => unfold viPrefix.digits; g_tac hQ hB
  | succ f ih =>
    unfold viPrefix.digits
    repeat' (first | exact ih _ _ | g_step hQ hB | g_split)

@[g2_leaf] theorem g2_viPrefix {E : Int → Int → Prop} : G2 (GSim Q B) E viPrefix viPrefix := by
  unfold viPrefix
  repeat' (first | exact g2_viPrefix_digits hQ hB _ _ _ | g_step hQ hB | g_split)

@[g2_leaf] theorem g2_markSave {E : Unit → Unit → Prop} : G2 (GSim Q B) E markSave markSave := by
  unfold markSave
  g_tac hQ hB

@[g2_leaf] theorem g2_drawfixTop {E : Unit → Unit → Prop} (r : Int) (p : Bool) :
    G2 (GSim Q B) E (drawfixTop r p) (drawfixTop r p) := by
  unfold drawfixTop
  g_tac hQ hB

@[g2_leaf] theorem g2_viWfix {E : Unit → Unit → Prop} : G2 (GSim Q B) E viWfix viWfix := by
  unfold viWfix
  g_tac hQ hB

@[g2_leaf] theorem g2_motionTail {E : Option Nat → Option Nat → Prop} (mv nrow noff : Int) :
    G2 (GSim Q B) E (motionTail mv nrow noff) (motionTail mv nrow noff) := by
  unfold motionTail
  g_tac hQ hB

omit hB in
@[g2_leaf] theorem g2_finRec {E : Option Nat → Option Nat → Prop} (c k : Int) (mod : Nat) :
    G2 (GSim Q B) E (finRec c k mod) (finRec c k mod) := by
  unfold finRec
  refine g2_bind (g2_termCmd hQ) fun cmd => g2_ite (fun h => ?_) fun _ => g2_pure _
  exact g2_bind (g2_modify_rep hQ _ (rep_ok_takeWhile _ h)) fun _ =>
    g2_bind (g2_modify_rep hQ _ (rep_ok_of_cond h)) fun _ =>
      g2_bind (g2_regPut hQ _ _ _) fun _ => g2_pure _


theorem g2_readKey_more {E : Unit → Unit → Prop} (k : Nat) : G2 (GSim Q B) E (readKey.more k) (readKey.more k) := by
  induction k with
  | zero => unfold readKey.more; g_tac hQ hB
  | succ k ih =>
    unfold readKey.more
    repeat' (first | exact ih | g_step hQ hB | g_split)

@[g2_leaf]
theorem g2_readKey {E : Int → Int → Prop} : G2 (GSim Q B) E readKey readKey := by
  unfold readKey
  repeat' (first | exact g2_readKey_more hQ hB _ | g_step hQ hB | g_split)

theorem g2_readCharS_more {E : Bytes → Bytes → Prop} (k : Nat) (acc : Bytes) :
    G2 (GSim Q B) E (readCharS.more k acc) (readCharS.more k acc) := by
  induction k generalizing acc with
  | zero => unfold readCharS.more; g_tac hQ hB
  | succ k ih =>
    unfold readCharS.more
    repeat' (first | exact ih _ | g_step hQ hB | g_split)

@[g2_leaf]
theorem g2_readCharS {E : Option Bytes → Option Bytes → Prop} (c : Int) (kmap : Nat) :
    G2 (GSim Q B) E (readCharS c kmap) (readCharS c kmap) := by
  unfold readCharS
  repeat' (first | exact g2_readCharS_more hQ hB _ _ | g_step hQ hB | g_split)

theorem g2_viChar_go {E : Option Bytes → Option Bytes → Prop} (f : Nat) : G2 (GSim Q B) E (viChar.go f) (viChar.go f) := by
  induction f with
  | zero => unfold viChar.go; g_tac hQ hB
  | succ f ih =>
    unfold viChar.go
    repeat' (first | exact ih | g_step hQ hB | g_split)

@[g2_leaf]
theorem g2_viChar {E : Option Bytes → Option Bytes → Prop} : G2 (GSim Q B) E viChar viChar := by
  unfold viChar
  exact g2_viChar_go hQ hB _


/-! ### `led_line`, `vi_prompt` -/

theorem g2_ledLine_go {E : (Bytes × Int × Bytes) → (Bytes × Int × Bytes) → Prop} (post : Bytes) (aiMax : Nat)
    (im pe : Bool) (setKmap : Option Nat → M Unit) (getKmap : M Nat) (redraw : Bytes → Bytes → Bytes → M Unit)
    (hSk : ∀ k, G2 (GSim Q B) NoEsc (setKmap k) (setKmap k)) (hG : G2 (GSim Q B) NoEsc getKmap getKmap)
    (hR : ∀ a b c, G2 (GSim Q B) NoEsc (redraw a b c) (redraw a b c)) (f : Nat) (sb ai : Bytes) (c1 : Int) :
    G2 (GSim Q B) E (ledLine.go post aiMax im pe setKmap getKmap redraw f sb ai c1)
      (ledLine.go post aiMax im pe setKmap getKmap redraw f sb ai c1) := by
  induction f generalizing sb ai c1 with
  | zero => unfold ledLine.go; g_tac hQ hB
  | succ f ih =>
    unfold ledLine.go
    repeat' (first | exact hSk _ | exact hG | exact hR _ _ _ | exact ih _ _ _ | g_step hQ hB | g_split)

omit hB in
theorem gsim_redraw (a pref b c : Bytes) (s t : VS) (h : GSim Q B s t) :
    GSim Q B { s with ed := { s.ed with xleft := ledLeft s a pref b c s.ed.xleft } }
      { t with ed := { t.ed with xleft := ledLeft t a pref b c t.ed.xleft } } := by
  have he : EdG B { s.ed with xleft := ledLeft s a pref b c s.ed.xleft }
      { t.ed with xleft := ledLeft t a pref b c t.ed.xleft } := by
    rw [h.ledLeft_eq, h.ed.xleft]
    exact { h.ed with xleft := rfl }
  exact { h with q := hQ.frame h.q rfl rfl, ed := he }

@[g2_leaf]
theorem g2_ledLine {E : (Bytes × Int × Bytes) → (Bytes × Int × Bytes) → Prop} (pref post ai0 : Bytes)
    (aiMax : Nat) (im ex : Bool) : G2 (GSim Q B) E (ledLine pref post ai0 aiMax im ex) (ledLine pref post ai0 aiMax im ex) := by
  unfold ledLine
  dsimp only
  apply g2_ledLine_go hQ hB
  · intro k
    g_tac hQ hB
  · g_tac hQ hB
  · intro a b c
    g_tac hQ hB
    exact g2_modify (gsim_redraw hQ a pref b c)

@[g2_leaf]
theorem g2_viPrompt {E : Option Bytes → Option Bytes → Prop} (ex : Bool) : G2 (GSim Q B) E (viPrompt ex) (viPrompt ex) := by
  unfold viPrompt
  g_tac hQ hB

/-! ### searching and motions -/

@[g2_leaf]
theorem g2_viSearch {E : Option (Int × Int) → Option (Int × Int) → Prop} (cmd : Nat) (cnt r o : Int) :
    G2 (GSim Q B) E (viSearch cmd cnt r o) (viSearch cmd cnt r o) := by
  unfold viSearch
  g_tac hQ hB


@[g2_leaf]
theorem g2_viNextlineR {E : Unit → Unit → Prop} : G2 (GSim Q B) E viNextlineR viNextlineR := by
  unfold viNextlineR
  refine g2_get_bind ?_
  intro s t h
  gsim_reads hB h
  exact g2_withEd hQ fun _ _ hab => nextline_g (fun x => x + t.xrows - 1) hab

theorem g2_ledInput_loop {E : Bytes × Bytes → Bytes × Bytes → Prop} (xai : Bool) (f : Nat) (sb : Bytes)
    (pref : Option Bytes) (post ai : Bytes) :
    G2 (GSim Q B) E (ledInput.loop xai f sb pref post ai) (ledInput.loop xai f sb pref post ai) := by
  induction f generalizing sb pref post ai with
  | zero => unfold ledInput.loop; g_tac hQ hB
  | succ f ih =>
    unfold ledInput.loop
    repeat' (first | exact ih _ _ _ _ | g_step hQ hB | g_split)

@[g2_leaf]
theorem g2_ledInput {E : Bytes × Bytes → Bytes × Bytes → Prop} (pref post : Bytes) :
    G2 (GSim Q B) E (ledInput pref post) (ledInput pref post) := by
  unfold ledInput
  repeat' (first | exact g2_ledInput_loop hQ hB _ _ _ _ _ _ | g_step hQ hB | g_split)

@[g2_leaf]
theorem g2_viInput {E : Bytes × Int × Int → Bytes × Int × Int → Prop} (pref post : Bytes) :
    G2 (GSim Q B) E (viInput pref post) (viInput pref post) := by
  unfold viInput
  g_tac hQ hB

@[g2_leaf]
theorem g2_viYank {E : Nat → Nat → Prop} (r1 o1 r2 o2 : Int) (ln : Bool) :
    G2 (GSim Q B) E (viYank r1 o1 r2 o2 ln) (viYank r1 o1 r2 o2 ln) := by
  unfold viYank
  g_tac hQ hB

@[g2_leaf]
theorem g2_scrollForward {E : Bool → Bool → Prop} (cnt : Int) : G2 (GSim Q B) E (scrollForward cnt) (scrollForward cnt) := by
  unfold scrollForward
  g_tac hQ hB

@[g2_leaf]
theorem g2_scrollBackward {E : Bool → Bool → Prop} (cnt : Int) : G2 (GSim Q B) E (scrollBackward cnt) (scrollBackward cnt) := by
  unfold scrollBackward
  g_tac hQ hB

@[g2_leaf]
theorem g2_viWait {E : Unit → Unit → Prop} : G2 (GSim Q B) E viWait viWait := by
  unfold viWait
  g_tac hQ hB


@[g2_leaf]
theorem g2_viPost {E : Unit → Unit → Prop} (cont : Option Nat) : G2 (GSim Q B) E (viPost cont) (viPost cont) := by
  unfold viPost
  g_tac hQ hB

end walk

section strict
variable {Q : VS → VS → Prop} {B : Bufs → Bufs → Prop} (hQ : QSim Q) (hS : BSimS B)
include hQ hS

@[g2_leaf]
theorem g2_viDelete {E : Nat → Nat → Prop} (r1 o1 r2 o2 : Int) (ln : Bool) :
    G2 (GSim Q B) E (viDelete r1 o1 r2 o2 ln) (viDelete r1 o1 r2 o2 ln) := by
  unfold viDelete
  g_tac hQ hS.toBSim

@[g2_leaf]
theorem g2_viChange {E : Nat → Nat → Prop} (r1 o1 r2 o2 : Int) (ln : Bool) :
    G2 (GSim Q B) E (viChange r1 o1 r2 o2 ln) (viChange r1 o1 r2 o2 ln) := by
  unfold viChange
  g_tac hQ hS.toBSim

@[g2_leaf]
theorem g2_viCase {E : Nat → Nat → Prop} (r1 o1 r2 o2 : Int) (ln : Bool) (cmd : Nat) :
    G2 (GSim Q B) E (viCase r1 o1 r2 o2 ln cmd) (viCase r1 o1 r2 o2 ln cmd) := by
  unfold viCase
  g_tac hQ hS.toBSim

theorem g2_viShift_go {E : Unit → Unit → Prop} (r2 dir : Int) (f : Nat) (i : Int) :
    G2 (GSim Q B) E (viShift.go r2 dir f i) (viShift.go r2 dir f i) := by
  induction f generalizing i with
  | zero => unfold viShift.go; g_tac hQ hS.toBSim
  | succ f ih =>
    unfold viShift.go
    repeat' (first | exact ih _ | g_step hQ hS.toBSim | g_split)

@[g2_leaf]
theorem g2_viShift {E : Nat → Nat → Prop} (r1 r2 dir : Int) : G2 (GSim Q B) E (viShift r1 r2 dir) (viShift r1 r2 dir) := by
  unfold viShift
  repeat' (first | exact g2_viShift_go hQ hS _ _ _ _ | g_step hQ hS.toBSim | g_split)

@[g2_leaf]
theorem g2_vcInsert {E : Nat → Nat → Prop} (cmd : Nat) : G2 (GSim Q B) E (vcInsert cmd) (vcInsert cmd) := by
  unfold vcInsert
  g_tac hQ hS.toBSim

@[g2_leaf]
theorem g2_vcPut {E : Nat → Nat → Prop} (cmd : Nat) : G2 (GSim Q B) E (vcPut cmd) (vcPut cmd) := by
  unfold vcPut
  g_tac hQ hS.toBSim

@[g2_leaf]
theorem g2_vcJoin {E : Nat → Nat → Prop} : G2 (GSim Q B) E vcJoin vcJoin := by
  unfold vcJoin
  g_tac hQ hS.toBSim

@[g2_leaf]
theorem g2_vcReplace {E : Nat → Nat → Prop} : G2 (GSim Q B) E vcReplace vcReplace := by
  unfold vcReplace
  g_tac hQ hS.toBSim


end strict

/-! ### motions: while the mark `^` is exempt (`w = true`) a motion to a mark may escape -/


theorem ne_zero_of_beq {c k : Int} (h : (c == k) = true) (hk : k ≠ 0) : c ≠ 0 := by
  have : c = k := by simpa using h
  rw [this]; exact hk

theorem gjump_agree {Q : VS → VS → Prop} {B : Bufs → Bufs → Prop} (hS : BSimS B) {s t : VS} (h : GSim Q B s t) {c : Nat}
    {X Y : Option (Int × Int)} (hs : (s.ed.lb.bind fun lb => jump lb c) = X)
    (ht : (t.ed.lb.bind fun lb => jump lb c) = Y) : X = Y := by
  rw [← hs, ← ht]; exact hS.jump h.ed c

/-- at a read of a mark (`jump`), once its argument is known: without the exemption (`w = false`, first goal) the two
sides read the same; with it (second goal) they may read anything -/
macro "gmark_read " w:ident hj:term:max : tactic => `(tactic| (
  generalize hx : Option.bind (Ed.lb (VS.ed _)) (fun lb => jump lb _) = x
  generalize hy : Option.bind (Ed.lb (VS.ed _)) (fun lb => jump lb _) = y
  cases $w:ident
  have e := gjump_agree ($hj rfl) ‹_› hx hy
  subst e))

/-- two motions that ended differently after a read of the exempt mark: both report a motion -/
macro "gesc_pure" : tactic => `(tactic| (
  refine fun _ _ _ => GR.esc _ _ _ _ ⟨rfl, ?_, ?_⟩ <;>
    first | (show (-1 : Int) ≠ 0; decide) | (refine ne_zero_of_beq ‹_› ?_; decide)))

section motions
variable {Q : VS → VS → Prop} {B : Bufs → Bufs → Prop} (hQ : QSim Q) (hB : BSim B) {w : Bool}
  (hj : w = false → BSimS B)
include hQ hB hj

theorem g2_viMotionln (row cmd : Int) : G2 (GSim Q B) (EscLn w) (viMotionln row cmd) (viMotionln row cmd) := by
  unfold viMotionln
  repeat' (first | g_step hQ hB | gmark_read w hj | g_split)
  all_goals gesc_pure

theorem g2_viMotion (row off : Int) : G2 (GSim Q B) (EscMv w) (viMotion row off) (viMotion row off) := by
  unfold viMotion
  refine g2_get_bind ?_
  intro s0 t0 h0
  gsim_reads hB h0
  refine g2_bind_esc (g2_viMotionln hQ hB hj _ _) (fun a => ?_) (fun a b s t he => ?_)
  · repeat' (first | g_step hQ hB | gmark_read w hj | g_split)
    all_goals gesc_pure
  · obtain ⟨a1, a2⟩ := a
    obtain ⟨b1, b2⟩ := b
    obtain ⟨hw, ha, hb⟩ := he
    simp only at ha hb
    show GR _ (EscMv w) ((if (a1 != 0) = true then pure (a1, a2, -1) else _ : M (Int × Int × Int)) s)
      ((if (b1 != 0) = true then pure (b1, b2, -1) else _ : M (Int × Int × Int)) t)
    rw [if_pos (bne_iff_ne.mpr ha), if_pos (bne_iff_ne.mpr hb)]
    exact GR.esc _ _ _ _ ⟨hw, ha, hb⟩

theorem g2_viPre_w : G2 (GSim Q B) (EscMv w) viPre viPre := by
  unfold viPre
  repeat' (first | with_reducible exact g2_viMotion hQ hB hj _ _ | g_step hQ hB | g_split)

end motions

section strict
variable {Q : VS → VS → Prop} {B : Bufs → Bufs → Prop} (hQ : QSim Q) (hS : BSimS B)
include hQ hS

@[g2_leaf] theorem g2_viMotionln0 {E : Int × Int → Int × Int → Prop} (row cmd : Int) :
    G2 (GSim Q B) E (viMotionln row cmd) (viMotionln row cmd) :=
  (g2_viMotionln hQ hS.toBSim (w := false) (fun _ => hS) row cmd).mono fun _ _ h => by cases h.1

@[g2_leaf] theorem g2_viMotion0 {E : Int × Int × Int → Int × Int × Int → Prop} (row off : Int) :
    G2 (GSim Q B) E (viMotion row off) (viMotion row off) :=
  (g2_viMotion hQ hS.toBSim (w := false) (fun _ => hS) row off).mono fun _ _ h => by cases h.1

@[g2_leaf] theorem g2_viPre : G2 (GSim Q B) NoEsc viPre viPre :=
  (g2_viPre_w hQ hS.toBSim (w := false) (fun _ => hS)).mono fun _ _ h => by cases h.1

@[g2_leaf] theorem g2_vcMotion {E : Nat → Nat → Prop} (cmd : Nat) : G2 (GSim Q B) E (vcMotion cmd) (vcMotion cmd) := by
  unfold vcMotion
  g_tac hQ hS.toBSim


/-! ### `ex_command` from vi -/

omit hS in
theorem exSet_g (ln : Bytes) {s t : VS} (h : GSim Q B s t) : GSim Q B (exSet ln s) (exSet ln t) := by
  unfold exSet
  cases setOf ln with
  | none => exact h
  | some p =>
    obtain ⟨v, val⟩ := p
    dsimp only
    split
    · exact { h with q := hQ.frame h.q rfl rfl, xai := rfl }
    · split
      · exact h
      · exact { h with q := hQ.frame h.q rfl rfl, unmodelled := rfl }

theorem exTail_g (ln : Bytes) {E : Int → Int → Prop} {s t : VS} (h : GSim Q B s t) :
    GR (GSim Q B) E (exTail ln s) (exTail ln t) := by
  unfold exTail
  have h0 : EdG B { s.ed with out := [], msg := [], input := [], xvis := true }
      { t.ed with out := [], msg := [], input := [], xvis := true } :=
    { h.ed with out := rfl, msg := rfl, input := rfl, xvis := rfl }
  rcases hS.ex h0 ln with ⟨r1, r2⟩ | ⟨rc, a, b, r1, r2, hab⟩ <;> rw [r1, r2]
  · exact GR.trap
  · simp only []
    have hu : (s.unmodelled || a.unmodelled) = (t.unmodelled || b.unmodelled) := by rw [h.unmodelled, hab.unmodelled]
    exact GR.ok _ _ _ { h with q := hQ.frame h.q rfl rfl, ed := hab, unmodelled := hu }

@[g2_leaf] theorem g2_exCommandV {E : Int → Int → Prop} (ln : Bytes) : G2 (GSim Q B) E (exCommandV ln) (exCommandV ln) := by
  intro s t h
  rw [exCommandV_eq, exCommandV_eq]
  split
  · exact GR.ok _ _ _ { h with q := hQ.frame h.q rfl rfl, unmodelled := rfl }
  · exact exTail_g hQ hS ln (exSet_g hQ ln h)

omit hS in
theorem g2_vcRepeat (hB : BSim B) (hP : QPush Q) {E : Unit → Unit → Prop} : G2 (GSim Q B) E vcRepeat vcRepeat := by
  unfold vcRepeat
  repeat' (first | exact g2_termPush hP _ | g_step hQ hB | g_split)

omit hS in
theorem g2_vcExecute (hB : BSim B) (hP : QPush Q) {E : Unit → Unit → Prop} : G2 (GSim Q B) E vcExecute vcExecute := by
  unfold vcExecute
  repeat' (first | exact g2_termPush hP _ | g_step hQ hB | g_split)

/-! ### the command switch, once -/

/-- At `u` / `^R` the walk follows the read of the buffer, the undo or redo, the store of the result and the read of its
mark `^`. -/
theorem g2_cmdSwitch {E : Option Nat → Option Nat → Prop} (c : Int) (hp : c = 46 ∨ c = 64 → QPush Q) {s t : VS}
    (h : GSim Q B s t) : G2 (GSim Q B) E (ViPres.cmdSwitch c s) (ViPres.cmdSwitch c t) := by
  unfold ViPres.cmdSwitch
  gsim_reads hS.toBSim h
  repeat' (first
    | g_step hQ hS.toBSim
    | ((with_reducible show G2 _ _ vcRepeat _); exact g2_vcRepeat hQ hS.toBSim (hp (Or.inl (eq_of_beq ‹(c == 46) = true›))))
    | ((with_reducible show G2 _ _ vcExecute _); exact g2_vcExecute hQ hS.toBSim (hp (Or.inr (eq_of_beq ‹(c == 64) = true›))))
    | (rcases hS.undoRedo h.ed c with ⟨r1, r2⟩ | ⟨la, lb, r1, r2, hu⟩ <;> rw [r1, r2])
    | (rcases hu with ⟨u1, u2⟩ | ⟨rc, la', lb', u1, u2, hj, hset⟩ <;> rw [u1, u2])
    | exact g2_withEd hQ fun _ _ hab => hset hab
    | rw [hj]
    | g_split)

theorem g2_afterKey {E : Option Nat → Option Nat → Prop} (c : Int) (hp : c = 46 ∨ c = 64 → QPush Q) :
    G2 (GSim Q B) E (if c ≤ 0 then pure none else
        Vi.get >>= fun s => markSet 94 s.ed.xrow s.ed.xoff >>= fun _ => Vi.get >>= ViPres.cmdSwitch c)
      (if c ≤ 0 then pure none else
        Vi.get >>= fun s => markSet 94 s.ed.xrow s.ed.xoff >>= fun _ => Vi.get >>= ViPres.cmdSwitch c) := by
  refine g2_ite (fun _ => g2_pure _) (fun _ => ?_)
  refine g2_get_bind ?_
  intro s t h
  gsim_reads hS.toBSim h
  refine g2_bind (g2_markSet hQ hS.toBSim _ _ _) (fun _ => ?_)
  exact g2_get_bind fun s t h => g2_cmdSwitch hQ hS c hp h

theorem g2_commandTail (hP : QPush Q) {E : Option Nat → Option Nat → Prop} : G2 (GSim Q B) E commandTail commandTail := by
  rw [ViPres.commandTail_eq]
  exact g2_bind (g2_viRead hQ) fun c => g2_afterKey hQ hS c fun _ => hP

/-- unless the command key is `.` or `@`, the command switch keeps `GSim Q B` whatever `Q` -/
theorem gr_commandTail {E : Option Nat → Option Nat → Prop} {s t : VS} (h : GSim Q B s t)
    (hk : ∀ s', viRead s ≠ Res.ok 46 s' ∧ viRead s ≠ Res.ok 64 s') :
    GR (GSim Q B) E (commandTail s) (commandTail t) := by
  rw [ViPres.commandTail_eq]
  refine GR.bind_eq (g2_viRead hQ s t h) fun c s' t' hc _ h' => g2_afterKey hQ hS c (fun hc' => ?_) s' t' h'
  exfalso
  rcases hc' with e | e <;> subst e
  · exact (hk s').1 hc
  · exact (hk s').2 hc

theorem gr_stepMid {E : Option Nat → Option Nat → Prop} (mv r o : Int) {s t : VS} (h : GSim Q B s t)
    (hc : mv = 0 → GR (GSim Q B) E (commandTail s) (commandTail t)) :
    GR (GSim Q B) E (C09b.stepMid mv r o s) (C09b.stepMid mv r o t) := by
  unfold C09b.stepMid
  split
  · exact g2_motionTail hQ hS.toBSim mv r o s t h
  · split
    · exact hc (eq_of_beq ‹_›)
    · exact g2_pure _ s t h

theorem gr_viStep {s t : VS} (h : GSim Q B s t)
    (hc : ∀ r o s1 t1, viPre s = Res.ok (0, r, o) s1 → viPre t = Res.ok (0, r, o) t1 → GSim Q B s1 t1 →
      GR (GSim Q B) NoEsc (commandTail s1) (commandTail t1)) :
    GR (GSim Q B) NoEsc (viStep s) (viStep t) := by
  rw [C09b.viStep_eq_mid]
  refine GR.bind_eq (g2_viPre hQ hS s t h) fun a s1 t1 hs ht h1 => ?_
  refine GR.bind_eq (gr_stepMid hQ hS a.1 a.2.1 a.2.2 h1 fun e => ?_) fun cont s2 t2 _ _ h2 =>
    g2_viPost hQ hS.toBSim cont s2 t2 h2
  obtain ⟨mv, r, o⟩ := a
  subst e
  exact hc r o s1 t1 hs ht h1

theorem g2_viStep (hP : QPush Q) : G2 (GSim Q B) NoEsc viStep viStep := fun _ _ h =>
  gr_viStep hQ hS h fun _ _ s1 t1 _ _ h1 => g2_commandTail hQ hS hP s1 t1 h1

end strict
end Neatvi.Lemmas.C09
