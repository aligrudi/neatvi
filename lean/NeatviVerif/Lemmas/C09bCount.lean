import NeatviVerif.Lemmas.C05bVi
import NeatviVerif.Lemmas.C09bMore
/-!
# C09b: a decimal count of up to nine digits in front of `.` / `@`

`decVal ds` is the number the digits `ds` (ASCII) denote.  `vi_prefix()` computes it as long as the
accumulator stays below `10^8` before each digit is added, which is the case for at most nine digits.
A one-digit count is the case of no further digits (`count_dot_run`, `count_at_run`).  `N.` repeats the
recorded keys with their own count: `3.` after `2x` is `2x2x2x` (`count_dot_keeps_recorded_count`).
-/
namespace Neatvi.Lemmas.C09b
open Neatvi Neatvi.Vi Neatvi.Ex Neatvi.Lemmas.C09
open Neatvi.Props.C05c (iterate)

/-- one step of the accumulation of `vi_prefix()` -/
def decStep (a : Int) (d : Nat) : Int := a * 10 + ((d : Int) - 48)

/-- the value of a string of ASCII digits -/
def decVal (ds : List Nat) : Int := ds.foldl decStep 0

/-- the cap `n < 100000000` of `vi_prefix()` never triggers while the digits `l` are added to `n` -/
def noCap : Int → List Nat → Prop
  | _, [] => True
  | n, c :: t => n < 100000000 ∧ noCap (decStep n c) t

def isDigit (d : Nat) : Prop := 48 ≤ d ∧ d ≤ 57

theorem digits_loop (ds : List Nat) : ∀ (f : Nat) (n : Int) (c : Nat) (S : VS) (k : Nat) (rest : Bytes),
    ds.length < f → S.vibuf = [] → pending S = ds ++ k :: rest → isDigit c → (∀ d ∈ ds, isDigit d) →
    ¬ isDigit k → noCap n (c :: ds) → S.icmd.length + ds.length + 1 ≤ 4096 →
    ∃ ib ip ty, viPrefix.digits f n c S = Res.ok ((c :: ds).foldl decStep n)
        { S with ibuf := ib, ibufPos := ip, typed := ty, icmd := S.icmd ++ ds ++ [k], vibuf := [(k : Int)] } ∧
      ib.drop ip ++ ty = rest ∧ ip ≤ ib.length ∧
      (S.ibuf.length ≤ S.ibufPos → ib = [k] ∧ ip = 1 ∧ ty = rest) := by
  induction ds with
  | nil =>
    intro f n c S k rest hf hv hp hc _ hk hcap hic
    obtain ⟨f', rfl⟩ : ∃ f', f = f' + 1 := ⟨f - 1, by simp at hf; omega⟩
    obtain ⟨ib, ip, ty, h1, h2, h3, -, h5⟩ := termRead_ok S k rest hp
    refine ⟨ib, ip, ty, ?_, h2, h3, h5⟩
    have hcd : (decide (48 ≤ (c : Int)) && decide ((c : Int) ≤ 57)) = true := by
      unfold isDigit at hc; simp; omega
    have hkd : (decide (48 ≤ (k : Int)) && decide ((k : Int) ≤ 57)) = false := by
      unfold isDigit at hk
      by_cases h48 : 48 ≤ k
      · have : ¬ k ≤ 57 := fun h => hk ⟨h48, h⟩
        simp; omega
      · simp; omega
    rw [Lemmas.C05b.digits_step f' n c S hcd, viRead_nil S hv, h1]
    dsimp only
    have hn : n < 100000000 := hcap.1
    rw [if_pos hn]
    have hia : icmdAfter S.icmd k = S.icmd ++ [] ++ [k] := by
      unfold icmdAfter; rw [if_pos (by simp at hic; omega)]; simp
    cases f' with
    | zero => rw [Lemmas.C05b.digits_zero]; simp only [hv, hia]; rfl
    | succ f'' => rw [Lemmas.C05b.digits_stop f'' _ _ _ hkd]; simp only [hv, hia]; rfl
  | cons d t ih =>
    intro f n c S k rest hf hv hp hc hds hk hcap hic
    obtain ⟨f', rfl⟩ : ∃ f', f = f' + 1 := ⟨f - 1, by simp at hf; omega⟩
    obtain ⟨ib1, ip1, ty1, h1, h2, h3, -, h5⟩ := termRead_ok S d (t ++ k :: rest) hp
    have hcd : (decide (48 ≤ (c : Int)) && decide ((c : Int) ≤ 57)) = true := by
      unfold isDigit at hc; simp; omega
    have hia : icmdAfter S.icmd d = S.icmd ++ [d] := by
      unfold icmdAfter; rw [if_pos (by simp at hic; omega)]
    rw [hia] at h1
    obtain ⟨ib, ip, ty, g1, g2, g3, g5⟩ := ih f' (decStep n c) d
      { S with ibuf := ib1, ibufPos := ip1, typed := ty1, icmd := S.icmd ++ [d] } k rest
      (by simp at hf; omega) hv h2 (hds d (by simp)) (fun x hx => hds x (by simp [hx])) hk hcap.2
      (by simp at hic ⊢; omega)
    refine ⟨ib, ip, ty, ?_, g2, g3, ?_⟩
    · rw [Lemmas.C05b.digits_step f' n c S hcd, viRead_nil S hv, h1]
      dsimp only
      rw [if_pos hcap.1]
      have : (n * 10 + ((c : Int) - 48)) = decStep n c := rfl
      rw [this, g1]
      simp [List.append_assoc]
    · intro hd
      obtain ⟨a, b, _⟩ := h5 hd
      exact g5 (by rw [a, b]; simp)

theorem noCap_of_short (l : List Nat) : ∀ (n : Int), 0 ≤ n → l.length ≤ 9 → n < 10 ^ (9 - l.length) →
    (∀ d ∈ l, isDigit d) → noCap n l := by
  induction l with
  | nil => intro n _ _ _ _; trivial
  | cons c t ih =>
    intro n h0 hl hn hd
    simp only [List.length_cons] at hl hn
    have hc := hd c (by simp)
    unfold isDigit at hc
    have e9 : 9 - (t.length + 1) = 8 - t.length := by omega
    rw [e9] at hn
    have hp8 : (10 : Int) ^ (8 - t.length) ≤ 10 ^ 8 := by
      have : (10 : Nat) ^ (8 - t.length) ≤ 10 ^ 8 := Nat.pow_le_pow_right (by decide) (by omega)
      exact_mod_cast this
    have e10 : (10 : Int) ^ 8 = 100000000 := by decide
    refine ⟨by omega, ih (decStep n c) ?_ (by omega) ?_ (fun d hd' => hd d (by simp [hd']))⟩
    · unfold decStep; omega
    · have e : 9 - t.length = (8 - t.length) + 1 := by omega
      rw [e, Int.pow_succ]
      unfold decStep
      omega

theorem decVal_pos (d0 : Nat) (ds : List Nat) (h1 : 49 ≤ d0) (hds : ∀ d ∈ ds, isDigit d) :
    1 ≤ decVal (d0 :: ds) := by
  have key : ∀ (l : List Nat) (a : Int), 1 ≤ a → (∀ d ∈ l, isDigit d) → 1 ≤ l.foldl decStep a := by
    intro l
    induction l with
    | nil => intro a ha _; exact ha
    | cons c t ih =>
      intro a ha hd
      have hc := hd c (by simp)
      unfold isDigit at hc
      exact ih (decStep a c) (by unfold decStep; omega) (fun d hd' => hd d (by simp [hd']))
  unfold decVal
  rw [List.foldl_cons]
  exact key ds _ (by unfold decStep; omega) hds

theorem viPre_count_cmdkey (s : VS) (d0 : Nat) (ds : List Nat) (k : Nat) (hd1 : 49 ≤ d0) (hd2 : d0 ≤ 57)
    (hds : ∀ d ∈ ds, isDigit d) (hlen : ds.length + 1 ≤ 9) (hk : k = 46 ∨ k = 64)
    (rest : Bytes) (hv : s.vibuf = []) (hp : pending s = d0 :: (ds ++ k :: rest)) :
    ∃ ib ip ty, viPre s = Res.ok (0, s.ed.xrow, noeol s s.ed.xrow s.ed.xoff)
        { s with ibuf := ib, ibufPos := ip, typed := ty, icmd := d0 :: ds ++ [k], vibuf := [(k : Int)],
                 arg1 := decVal (d0 :: ds), arg2 := 0, ybuf := 0 } ∧
      ib.drop ip ++ ty = rest ∧ ip ≤ ib.length ∧
      (s.ibuf.length ≤ s.ibufPos → ib = [k] ∧ ip = 1 ∧ ty = rest) := by
  obtain ⟨ib1, ip1, ty1, g1, g2, g3, -, g5⟩ := termRead_ok { s with icmd := [], arg2 := 0 } d0 (ds ++ k :: rest) hp
  have hkd : ¬ isDigit k := by unfold isDigit; omega
  have hd0 : isDigit d0 := ⟨by omega, hd2⟩
  obtain ⟨ib, ip, ty, h1, h2, h3, h5⟩ := digits_loop ds 64 0 d0
    { s with icmd := [d0], arg2 := 0, ibuf := ib1, ibufPos := ip1, typed := ty1, ybuf := 0 } k rest
    (by omega) hv g2 hd0 hds hkd
    (noCap_of_short (d0 :: ds) 0 (Int.le_refl 0) (by simp; omega)
      (by have : (0 : Int) < 10 ^ (9 - (d0 :: ds).length) := Int.pow_pos (by decide)
          exact this)
      (fun d hd => by
        rcases List.mem_cons.mp hd with rfl | hd
        · exact hd0
        · exact hds d hd))
    (by simp; omega)
  refine ⟨ib, ip, ty, ?_, h2, h3, ?_⟩
  · have hki : (k : Int) = 46 ∨ (k : Int) = 64 := by omega
    have hk34 : (k : Int) ≠ 34 := by omega
    have hd34 : (d0 : Int) ≠ 34 := by omega
    have hr1 : viRead { s with icmd := [], arg2 := 0 } = Res.ok (d0 : Int)
        { s with icmd := [d0], arg2 := 0, ibuf := ib1, ibufPos := ip1, typed := ty1 } :=
      (viRead_nil { s with icmd := [], arg2 := 0 } hv).trans g1
    have hpre : viPrefix ({ s with icmd := [d0], arg2 := 0, ibuf := ib1, ibufPos := ip1, typed := ty1, vibuf := (d0 : Int) :: s.vibuf, ybuf := 0 } : VS)
        = viPrefix.digits 64 0 (d0 : Int) { s with icmd := [d0], arg2 := 0, ibuf := ib1, ibufPos := ip1, typed := ty1, ybuf := 0 } := by
      rw [Lemmas.C05b.viPrefix_eq]
      show (if (decide (49 ≤ (d0 : Int)) && decide ((d0 : Int) ≤ 57)) = true then _ else _) = _
      rw [if_pos (by simp; omega)]
    unfold viPre
    simp only [C07.bind_apply, Vi.get, termCmd_eq, Vi.modify]
    rw [viYankbuf_plain _ _ _ hd34 hr1]
    dsimp only
    rw [hpre, h1]
    dsimp only
    simp only [BEq.rfl, if_true, C07.bind_apply]
    rw [viYankbuf_id _ (k : Int) [] rfl hk34]
    dsimp only [Vi.modify]
    rw [viMotion_id _ _ _ (k : Int) [] rfl hki]
    simp [decVal, List.foldl_cons]
  · intro hd
    obtain ⟨a, b, _⟩ := g5 hd
    exact h5 (by show ib1.length ≤ ip1; rw [a, b]; simp)

/-- the state after `viPre` and the read of the command key `k`, typed after the decimal count `d0 ds` -/
def afterDecKey (s : VS) (d0 : Nat) (ds : List Nat) (k : Nat) (rest : Bytes) : VS :=
  { s with ibuf := [k], ibufPos := 1, typed := rest, icmd := d0 :: ds ++ [k], vibuf := [], arg1 := decVal (d0 :: ds), arg2 := 0, ybuf := 0 }

theorem cnt1_afterDecKey (s : VS) (d0 : Nat) (ds : List Nat) (k : Nat) (rest : Bytes) (hd1 : 49 ≤ d0)
    (hds : ∀ d ∈ ds, isDigit d) : cnt1 (afterDecKey s d0 ds k rest) = (decVal (d0 :: ds)).toNat := by
  simp only [cnt1, afterDecKey]
  rw [Int.max_eq_right (decVal_pos d0 ds hd1 hds)]

theorem viPre_count_typed (s : VS) (d0 : Nat) (ds : List Nat) (k : Nat) (hd1 : 49 ≤ d0) (hd2 : d0 ≤ 57)
    (hds : ∀ d ∈ ds, isDigit d) (hlen : ds.length + 1 ≤ 9) (hk : k = 46 ∨ k = 64)
    (rest : Bytes) (hv : s.vibuf = []) (hd : s.ibuf.length ≤ s.ibufPos)
    (ht : s.typed = d0 :: (ds ++ k :: rest)) :
    viPre s = Res.ok (0, s.ed.xrow, noeol s s.ed.xrow s.ed.xoff)
      { afterDecKey s d0 ds k rest with vibuf := [(k : Int)] } := by
  obtain ⟨ib, ip, ty, hpre, -, -, h5⟩ := viPre_count_cmdkey s d0 ds k hd1 hd2 hds hlen hk rest hv
    ((pending_drained hd).trans ht)
  obtain ⟨e1, e2, e3⟩ := h5 hd
  rw [e1, e2, e3] at hpre
  exact hpre

/-- **`N.` typed at the terminal, `N` a decimal number of up to nine digits**: the recorded change `N` times -/
theorem decimal_dot_run (s : VS) (d0 : Nat) (ds : List Nat) (rest : Bytes) (hinv : Inv s) (hv : s.vibuf = [])
    (hd : s.ibuf.length ≤ s.ibufPos) (hd1 : 49 ≤ d0) (hd2 : d0 ≤ 57) (hds : ∀ d ∈ ds, isDigit d)
    (hlen : ds.length + 1 ≤ 9) (ht : s.typed = d0 :: (ds ++ 46 :: rest))
    (hout : nlCount s.ed.out ≤ 1) (hroom : 1 + (decVal (d0 :: ds)).toNat * s.repCmd.length ≤ 4096) :
    ∃ s', viStep s = Res.ok () s' ∧ Inv s' ∧
      pending s' = (List.replicate (decVal (d0 :: ds)).toNat s.repCmd).flatten ++ rest ∧
      s'.repCmd = s.repCmd ∧ EdStep 2 s.ed s'.ed ∧
      ∀ k, runOk k s' = true →
        RelO (iterate (k + 1) s)
          (iterate k (retype s' ((List.replicate (decVal (d0 :: ds)).toNat s.repCmd).flatten ++ rest))) := by
  have hc := cnt1_afterDecKey s d0 ds 46 rest hd1 hds
  obtain ⟨s', g1, g2, g3, g4, g5, g6⟩ := dot_run_sem s _ (afterDecKey s d0 ds 46 rest) _ _ hinv
    (viPre_count_typed s d0 ds 46 hd1 hd2 hds hlen (Or.inl rfl) rest hv hd ht) rfl
    (by rw [pushOk_iff, hc]; simp only [afterDecKey, List.length_singleton]; omega) hout
  rw [hc] at g3 g6
  exact ⟨s', g1, g2, g3, g4, g5, g6⟩

/-- **`N@r` typed at the terminal, `N` a decimal number of up to nine digits**: the register's text `N` times -/
theorem decimal_at_run (s : VS) (d0 : Nat) (ds : List Nat) (r : Nat) (rest buf : Bytes) (hinv : Inv s)
    (hv : s.vibuf = []) (hd : s.ibuf.length ≤ s.ibufPos) (hd1 : 49 ≤ d0) (hd2 : d0 ≤ 57)
    (hds : ∀ d ∈ ds, isDigit d) (hlen : ds.length + 1 ≤ 9) (ht : s.typed = d0 :: (ds ++ 64 :: r :: rest))
    (h92 : r ≠ 92) (h64 : r ≠ 64) (h27 : r ≠ 27) (h3 : r ≠ 3)
    (hreg : regGet s.ed r = some buf) (hout : nlCount s.ed.out ≤ 1)
    (hroom : 1 + (decVal (d0 :: ds)).toNat * (buf.takeWhile (· != 0)).length ≤ 4096) :
    ∃ s', viStep s = Res.ok () s' ∧ Inv s' ∧
      pending s' = (List.replicate (decVal (d0 :: ds)).toNat (buf.takeWhile (· != 0))).flatten ++ rest ∧
      s'.execReg = (r : Int) ∧ EdStep 2 s.ed s'.ed ∧
      ∀ k, runOk k s' = true →
        RelO (iterate (k + 1) s)
          (iterate k (retype s' ((List.replicate (decVal (d0 :: ds)).toNat (buf.takeWhile (· != 0))).flatten ++ rest))) := by
  have hc := cnt1_afterDecKey s d0 ds 64 (r :: rest) hd1 hds
  obtain ⟨s', g1, g2, g3, g4, g5, g6⟩ := at_run_typed s _ (afterDecKey s d0 ds 64 (r :: rest)) _ _ r rest buf
    hinv (viPre_count_typed s d0 ds 64 hd1 hd2 hds hlen (Or.inr rfl) (r :: rest) hv hd ht) rfl rfl rfl
    (Nat.le_refl 1) h92 h27 h3 r (by rw [if_neg h64]) (by omega) (by rw [Int.toNat_natCast]; exact hreg) hout
    (by rw [hc]; exact hroom)
  rw [hc] at g3 g6
  exact ⟨s', g1, g2, g3, g4, g5, g6⟩

theorem decVal_digit (d : Nat) (h : 49 ≤ d) : (decVal [d]).toNat = d - 48 := by
  show (0 * 10 + ((d : Int) - 48)).toNat = d - 48
  omega

/-- **`d.` typed at the terminal** (`d` a digit 1..9): the recorded change `d` times -/
theorem count_dot_run (s : VS) (d : Nat) (rest : Bytes) (hinv : Inv s) (hv : s.vibuf = [])
    (hd : s.ibuf.length ≤ s.ibufPos) (hd1 : 49 ≤ d) (hd2 : d ≤ 57) (ht : s.typed = d :: 46 :: rest)
    (hout : nlCount s.ed.out ≤ 1) (hroom : 1 + (d - 48) * s.repCmd.length ≤ 4096) :
    ∃ s', viStep s = Res.ok () s' ∧ Inv s' ∧
      pending s' = (List.replicate (d - 48) s.repCmd).flatten ++ rest ∧
      s'.repCmd = s.repCmd ∧ EdStep 2 s.ed s'.ed ∧
      ∀ k, runOk k s' = true →
        RelO (iterate (k + 1) s) (iterate k (retype s' ((List.replicate (d - 48) s.repCmd).flatten ++ rest))) := by
  have h := decimal_dot_run s d [] rest hinv hv hd hd1 hd2 (by simp) (by decide) ht hout
  rw [decVal_digit d hd1] at h
  exact h hroom

/-- **`d@r` typed at the terminal** (`d` a digit 1..9): the register's text `d` times -/
theorem count_at_run (s : VS) (d r : Nat) (rest buf : Bytes) (hinv : Inv s) (hv : s.vibuf = [])
    (hd : s.ibuf.length ≤ s.ibufPos) (hd1 : 49 ≤ d) (hd2 : d ≤ 57) (ht : s.typed = d :: 64 :: r :: rest)
    (h92 : r ≠ 92) (h64 : r ≠ 64) (h27 : r ≠ 27) (h3 : r ≠ 3)
    (hreg : regGet s.ed r = some buf) (hout : nlCount s.ed.out ≤ 1)
    (hroom : 1 + (d - 48) * (buf.takeWhile (· != 0)).length ≤ 4096) :
    ∃ s', viStep s = Res.ok () s' ∧ Inv s' ∧
      pending s' = (List.replicate (d - 48) (buf.takeWhile (· != 0))).flatten ++ rest ∧
      s'.execReg = (r : Int) ∧ EdStep 2 s.ed s'.ed ∧
      ∀ k, runOk k s' = true →
        RelO (iterate (k + 1) s)
          (iterate k (retype s' ((List.replicate (d - 48) (buf.takeWhile (· != 0))).flatten ++ rest))) := by
  have h := decimal_at_run s d [] r rest buf hinv hv hd hd1 hd2 (by simp) (by decide) ht h92 h64 h27 h3 hreg hout
  rw [decVal_digit d hd1] at h
  exact h hroom

/-! ### `N.` keeps the recorded count -/

/-- the state after `2x`, with `3.` typed next -/
def exCount (ed : Ed) (rest : Bytes) : VS := { ed := ed, repCmd := [50, 120], typed := 51 :: 46 :: rest }

theorem inv_exCount (ed : Ed) (rest : Bytes) : Inv (exCount ed rest) :=
  ⟨Nat.zero_le _, by simp [exCount], by simp [exCount]⟩

/-- **`3.` after `2x` is `2x2x2x`** (six characters are deleted; in vi `3.` would be `3x`) -/
theorem count_dot_keeps_recorded_count (ed : Ed) (rest : Bytes) (hout : nlCount ed.out ≤ 1) :
    ∃ s', viStep (exCount ed rest) = Res.ok () s' ∧ pending s' = [50, 120, 50, 120, 50, 120] ++ rest := by
  obtain ⟨s', h1, -, h3, -⟩ := count_dot_run (exCount ed rest) 51 rest (inv_exCount ed rest) rfl
    (Nat.le_refl 0) (by decide) (by decide) rfl hout (by simp [exCount])
  refine ⟨s', h1, ?_⟩
  rw [h3]
  simp [exCount, List.replicate]

/-- the conjecture "the count of `N.` replaces the recorded count" is false for neatvi -/
theorem count_replaces_recorded_count_is_false :
    ¬ (∀ (s : VS) (rest : Bytes), Inv s → s.vibuf = [] → s.ibuf.length ≤ s.ibufPos →
        s.typed = 51 :: 46 :: rest → s.repCmd = [50, 120] → nlCount s.ed.out ≤ 1 →
        ∀ s', viStep s = Res.ok () s' → pending s' = [51, 120] ++ rest) := by
  intro h
  have hout : nlCount ({} : Ed).out ≤ 1 := by show nlCount [] ≤ 1; decide
  obtain ⟨s', h1, h2⟩ := count_dot_keeps_recorded_count {} [] hout
  have := h (exCount {} []) [] (inv_exCount _ _) rfl (Nat.le_refl 0) rfl rfl hout s' h1
  rw [h2] at this
  simp at this

/-- `12.` : twelve copies -/
theorem decVal_example : decVal [49, 50] = 12 := by decide

end Neatvi.Lemmas.C09b
