import NeatviVerif.Lemmas.C09bStep
/-!
# C09b: the `.` and `@` commands under the simulation relation, and the proviso `stepOk`
-/
namespace Neatvi.Lemmas.C09b
open Neatvi Neatvi.Vi Neatvi.Ex Neatvi.Lemmas.C09

/-! ### pushes -/

/-- the condition under which a push is the same as typing: no pushed key is unread, and `ibuf` has room
for `n` copies of `x` -/
def pushOk (s : VS) (n : Nat) (x : Bytes) : Bool :=
  decide (s.ibuf.length ≤ s.ibufPos) && decide (max 1 s.ibuf.length + n * x.length ≤ 4096)

theorem pushOk_iff (s : VS) (n : Nat) (x : Bytes) :
    pushOk s n x = true ↔ s.ibuf.length ≤ s.ibufPos ∧ max 1 s.ibuf.length + n * x.length ≤ 4096 := by
  simp [pushOk]

theorem pushN_frame (n : Nat) (x : Bytes) (s : VS) :
    (pushN n x s).repCmd = s.repCmd ∧ (pushN n x s).icmd = s.icmd ∧ (pushN n x s).ibufPos = s.ibufPos ∧
    (pushN n x s).typed = s.typed := by
  induction n generalizing s with
  | zero => exact ⟨rfl, rfl, rfl, rfl⟩
  | succ n ih =>
    obtain ⟨a, b, c, d⟩ := ih (push x s)
    exact ⟨a, b, c, d⟩

theorem inv_pushN (n : Nat) (x : Bytes) (s : VS) (h : Inv s) : Inv (pushN n x s) := by
  obtain ⟨a, b, -, -⟩ := pushN_frame n x s
  exact ⟨pushN_qwf n x s h.wf, by rw [a]; exact h.rep, by rw [b]; exact h.icm⟩

theorem K_pushN (n : Nat) (x : Bytes) (s t : VS) (h : K s t) (hok : pushOk s n x = true ∨ s = t) :
    K (pushN n x s) (pushN n x t) := by
  rcases hok with hok | rfl
  · obtain ⟨hd, hroom⟩ := (pushOk_iff s n x).mp hok
    have hws := h.wfs
    have hwt := h.wft
    have hu := h.unr
    have hl := h.len
    unfold QWf unread at *
    have hdt : t.ibuf.length ≤ t.ibufPos := by omega
    have hrs : s.ibuf.length + n * x.length ≤ 4096 := by omega
    have hrt : t.ibuf.length + n * x.length ≤ 4096 := by omega
    have hty : s.typed = t.typed := by
      have hp := h.keq.pending
      unfold pending at hp
      rwa [List.drop_eq_nil_of_le hd, List.drop_eq_nil_of_le hdt, List.nil_append, List.nil_append] at hp
    rw [pushN_room n x s hrs, pushN_room n x t hrt]
    refine ⟨?_, ?_, ?_, ?_, ?_, ?_, h.rep, h.icm⟩
    · obtain ⟨h1, h4, h0, h5, h6, h7, h8, h9, h10, h11, h12, h13, h14, h15, h16, h17, h18, h19, h20,
        h21, h22, h23, h24, h25⟩ := (keyEq_iff s t).mp h.keq
      refine (keyEq_iff _ _).mpr ⟨?_, h4, h0, h5, h6, h7, h8, h9, h10, h11, h12, h13, h14, h15, h16, h17,
        h18, h19, h20, h21, h22, h23, h24, h25⟩
      simp only [pending, List.drop_append]
      rw [List.drop_eq_nil_of_le hd, List.drop_eq_nil_of_le hdt, hty,
        show s.ibufPos - s.ibuf.length = 0 by omega, show t.ibufPos - t.ibuf.length = 0 by omega]
    · show s.ibufPos ≤ (s.ibuf ++ _).length
      simp only [List.length_append]; omega
    · show t.ibufPos ≤ (t.ibuf ++ _).length
      simp only [List.length_append]; omega
    · show (t.ibuf ++ _).length - t.ibufPos ≤ (s.ibuf ++ _).length - s.ibufPos
      simp only [List.length_append]; omega
    · show (t.ibuf ++ _).length ≤ max 1 (s.ibuf ++ _).length
      simp only [List.length_append]
      by_cases he : s.ibuf = []
      · rw [h.emp he, he]; simp; omega
      · have : 0 < s.ibuf.length := List.length_pos_iff.mpr he
        omega
    · show s.ibuf ++ _ = [] → t.ibuf ++ _ = []
      intro he
      obtain ⟨e1, e2⟩ := List.append_eq_nil_iff.mp he
      rw [h.emp e1, e2]; rfl
  · exact K.refl (inv_pushN n x s h.inv_left)

/-! ### the `.` and `@` branches of the command switch -/

theorem markSet_marked (s : VS) : markSet 94 s.ed.xrow s.ed.xoff s = Res.ok () (marked s) := rfl

theorem frame_marked : Frame marked := fun _ => ⟨rfl, rfl, rfl, rfl, rfl⟩

theorem commandTail_dot' (s1 s2 : VS) (h : viRead s1 = Res.ok 46 s2) :
    commandTail s1 = finRec 46 0 0 (pushN (cnt1 s2) s2.repCmd (marked s2)) := by
  rw [commandTail_dot_key s1 s2 h]
  simp only [C07.bind_apply, markSet_marked, vcRepeat_eq]
  rfl

/-- the reads of `vc_execute()` and the choice of the register: `some (n, x)` when the text `x` is going
to be pushed `n` times -/
def execHead : M (Option (Nat × Bytes)) := do
  let c0 ← viRead
  let c ← (if c0 == 92 then do let d ← viRead; pure (((128 ||| d.toNat : Nat) : Int)) else pure c0)
  if tkInt c then pure none else
  let s ← Vi.get
  let reg := if c == 64 then s.execReg else c
  Vi.modify fun s => { s with execReg := reg }
  if reg < 0 then pure none else
  match regGet s.ed reg.toNat with
  | none => pure none
  | some buf => pure (some ((max 1 s.arg1).toNat, buf.takeWhile (· != 0)))

/-- the pushes of `vc_execute()` -/
def execPush : Option (Nat × Bytes) → M Unit
  | none => pure ()
  | some (n, x) => repeatM n (termPush x)

/-- `vc_execute()` once the register name is known -/
def execTailU (c : Int) : M Unit :=
  if tkInt c then pure () else do
    let s ← Vi.get
    let reg := if c == 64 then s.execReg else c
    Vi.modify fun s => { s with execReg := reg }
    if reg < 0 then pure () else
    match regGet s.ed reg.toNat with
    | none => pure ()
    | some buf => repeatM (max 1 s.arg1).toNat (termPush (buf.takeWhile (· != 0)))

def execTailH (c : Int) : M (Option (Nat × Bytes)) :=
  if tkInt c then pure none else do
    let s ← Vi.get
    let reg := if c == 64 then s.execReg else c
    Vi.modify fun s => { s with execReg := reg }
    if reg < 0 then pure none else
    match regGet s.ed reg.toNat with
    | none => pure none
    | some buf => pure (some ((max 1 s.arg1).toNat, buf.takeWhile (· != 0)))

theorem exec_tail (c : Int) : execTailU c = (execTailH c >>= execPush) := by
  funext s
  rw [C07.bind_apply]
  unfold execTailU execTailH
  by_cases ht : tkInt c = true
  · simp only [ht, if_true]; rfl
  · simp only [ht, Bool.false_eq_true, if_false, C07.bind_apply, Vi.get, Vi.modify]
    generalize (if (c == 64) = true then s.execReg else c) = reg
    by_cases hr : reg < 0
    · simp only [hr, if_true]; rfl
    · simp only [hr, if_false]
      cases regGet s.ed reg.toNat <;> rfl

/-- the register name of `vc_execute()`: `\x` is `0x80 | x` -/
def execPick (c0 : Int) : M Int :=
  if c0 == 92 then do let d ← viRead; pure (((128 ||| d.toNat : Nat) : Int)) else pure c0

theorem vcExecute_shape : vcExecute = (viRead >>= fun c0 => execPick c0 >>= execTailU) := rfl
theorem execHead_shape : execHead = (viRead >>= fun c0 => execPick c0 >>= execTailH) := rfl

theorem vcExecute_eq_head : vcExecute = (execHead >>= execPush) := by
  rw [vcExecute_shape, execHead_shape, C07.bind_assoc, show execTailU = fun c => execTailH c >>= execPush from funext exec_tail]
  simp only [C07.bind_assoc]

theorem resp_execHead : Resp execHead := by
  refine resp_iff.1 ?_
  unfold execHead
  g_tac qsim_K bsim_eq

theorem commandTail_at' (s1 s2 : VS) (h : viRead s1 = Res.ok 64 s2) :
    commandTail s1 = (execHead >>= fun o => execPush o >>= fun _ => finRec 64 0 0) (marked s2) := by
  rw [commandTail_at_key s1 s2 h]
  simp only [C07.bind_apply, markSet_marked, vcExecute_eq_head]
  cases execHead (marked s2) <;> rfl

end Neatvi.Lemmas.C09b
