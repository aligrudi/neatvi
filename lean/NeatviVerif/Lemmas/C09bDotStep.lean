import NeatviVerif.Lemmas.C09bRun
import NeatviVerif.Lemmas.ExFrame
import NeatviVerif.Lemmas.C08fMotion
import NeatviVerif.Lemmas.C09cPostEd
/-!
# C09b: the iteration of `vi()` that executes `.` or `@`, step by step

* `viPost_zero_frame`: the end of an iteration (`mod = 0`) only updates `ed` when there is no pending
  `[enter to continue]` prompt (read off `Lemmas/C09cPostEd.lean`);
* `dot_step`, `at_step`: the whole iteration, given what `viPre` returned and the command key;
* `viPre_cmdkey`: `viPre` on the keys `.` / `@` without a count (with one: `viPre_count_cmdkey` in `C09bCount`).
-/
namespace Neatvi.Lemmas.C09b
open Neatvi Neatvi.Vi Neatvi.Ex Neatvi.Lemmas.C09
open Neatvi.Props.C05c (iterate)

/-! ### the end of the iteration -/

/-- what the end of an iteration does to `ed`: no `[enter to continue]` becomes pending, the registers and
the text stay, and the sequence number of the buffer goes up by `n` (unless the editor is quitting) -/
structure EdStep (n : Nat) (ed ed' : Ed) : Prop where
  out : nlCount ed'.out ≤ 1
  xquit : ed'.xquit = ed.xquit
  regs : ed'.regs = ed.regs
  lines : ed'.lb.map (·.lines) = ed.lb.map (·.lines)
  useq : ed.xquit = false → ed'.lb.map (·.useq) = (ed.lb.map (·.useq)).map (· + n)

theorem EdStep.trans {a b : Nat} {e0 e1 e2 : Ed} (h1 : EdStep a e0 e1) (h2 : EdStep b e1 e2) :
    EdStep (a + b) e0 e2 := by
  refine ⟨h2.out, h2.xquit.trans h1.xquit, h2.regs.trans h1.regs, h2.lines.trans h1.lines, fun hq => ?_⟩
  rw [h2.useq (h1.xquit.trans hq), h1.useq hq]
  cases e0.lb with
  | none => rfl
  | some l => simp [Nat.add_assoc]

/-- at the state `s`, `m` only updates `ed`, as `EdStep n` says (when at most one line of output is pending) -/
def EdAt (n : Nat) (m : M Unit) (s : VS) : Prop :=
  nlCount s.ed.out ≤ 1 → ∃ ed', m s = Res.ok () { s with ed := ed' } ∧ EdStep n s.ed ed'

theorem EdStep.of_same {ed ed' : Ed} (ho : nlCount ed'.out ≤ 1) (hx : ed'.xquit = ed.xquit)
    (hr : ed'.regs = ed.regs) (hlb : ed'.lb = ed.lb) : EdStep 0 ed ed' :=
  ⟨ho, hx, hr, by rw [hlb], fun _ => by rw [hlb]; cases ed.lb <;> rfl⟩

theorem EdAt.pure {s : VS} : EdAt 0 (Pure.pure ()) s := fun h => ⟨s.ed, rfl, EdStep.of_same h rfl rfl rfl⟩

theorem setLb_out (ed : Ed) (lb : Lbuf.Lb) : (ed.setLb lb).out = ed.out := by
  rw [Lemmas.C06.setLb_fields]

/-- `lbuf_modified()` -/
theorem edStep_bump {e : Ed} (h : nlCount e.out ≤ 1) : EdStep 1 e (C09c.bumpEd e) := by
  unfold C09c.bumpEd
  cases hlb : e.lb with
  | none => exact ⟨h, rfl, rfl, rfl, fun _ => by rw [hlb]; rfl⟩
  | some lb =>
    simp only []
    refine ⟨by rw [setLb_out]; exact h, by rw [Lemmas.C06.setLb_fields], by rw [Lemmas.C06.setLb_fields], ?_, fun _ => ?_⟩
    · rw [Lemmas.ExFrame.setLb_lb, hlb]; rfl
    · rw [Lemmas.ExFrame.setLb_lb, hlb]; rfl

theorem viPost_zero_frame (X : VS) (hout : nlCount X.ed.out ≤ 1) :
    ∃ ed', viPost (some 0) X = Res.ok () { X with ed := ed' } ∧ EdStep 2 X.ed ed' := by
  have hw : EdStep 0 X.ed (C09c.wfixEd X) := EdStep.of_same hout rfl rfl rfl
  cases hq : X.ed.xquit with
  | true =>
    exact ⟨_, C09c.viPost_quit 0 X hq, hw.out, hw.xquit, hw.regs, hw.lines, fun hf => by rw [hq] at hf; cases hf⟩
  | false =>
    refine ⟨_, C09c.viPost_zero_eq X hq hout, ?_⟩
    have h0 : EdStep 0 (C09c.wfixEd X) { C09c.leftEd X.xcol X.xcols (C09c.wfixEd X) with out := [] } := by
      rw [C09c.leftEd_postLeft]
      exact EdStep.of_same (Nat.zero_le 1) rfl rfl rfl
    exact (hw.trans h0).trans ((edStep_bump h0.out).trans (edStep_bump (edStep_bump h0.out).out))

/-! ### `viPre` on a command key that is not a motion (`Lemmas/C08fMotion.lean`, for the keys `.` and `@`) -/

theorem passedOn_cmdkey {k : Int} (h : k = 46 ∨ k = 64) : C08f.PassedOn k := by
  rcases h with rfl | rfl <;> exact ⟨by decide, by decide, by decide, by decide⟩

theorem viYankbuf_plain (s s1 : VS) (k : Int) (h : k ≠ 34) (hk : viRead s = Res.ok k s1) :
    viYankbuf s = Res.ok 0 { s1 with vibuf := k :: s1.vibuf } := C08f.viYankbuf_other s s1 k hk h

theorem viYankbuf_id (S : VS) (k : Int) (v : List Int) (hS : S.vibuf = k :: v) (h : k ≠ 34) :
    viYankbuf S = Res.ok 0 S := by
  rw [viYankbuf_plain S _ k h (C08f.viRead_vibuf S k v hS)]
  exact congrArg _ (C08f.unread_eq S k v hS)

theorem viMotion_id (row off : Int) (S : VS) (k : Int) (v : List Int) (hS : S.vibuf = k :: v)
    (h : k = 46 ∨ k = 64) : viMotion row off S = Res.ok (0, row, off) S :=
  C08f.viMotion_unread row off S k v hS (passedOn_cmdkey h)

theorem viPre_cmdkey (s : VS) (k : Nat) (hk : k = 46 ∨ k = 64) (rest : Bytes) (hv : s.vibuf = [])
    (hp : pending s = k :: rest) :
    ∃ ib ip ty, viPre s = Res.ok (0, s.ed.xrow, noeol s s.ed.xrow s.ed.xoff)
        { s with ibuf := ib, ibufPos := ip, typed := ty, icmd := [k], vibuf := [(k : Int)],
                 arg1 := 0, arg2 := 0, ybuf := 0 } ∧
      ib.drop ip ++ ty = rest ∧ ip ≤ ib.length ∧
      (s.ibufPos < s.ibuf.length → ib = s.ibuf ∧ ip = s.ibufPos + 1 ∧ ty = s.typed) ∧
      (s.ibuf.length ≤ s.ibufPos → ib = [k] ∧ ip = 1 ∧ ty = rest) := by
  obtain ⟨ib, ip, ty, h1, h2, h3, h4, h5⟩ := termRead_ok { s with icmd := [], arg2 := 0 } k rest hp
  refine ⟨ib, ip, ty, ?_, h2, h3, h4, h5⟩
  have hki : (k : Int) = 46 ∨ (k : Int) = 64 := by omega
  have hk34 : (k : Int) ≠ 34 := by omega
  have hr1 : viRead { s with icmd := [], arg2 := 0 } = Res.ok (k : Int)
      { s with icmd := [k], arg2 := 0, ibuf := ib, ibufPos := ip, typed := ty } :=
    (viRead_nil { s with icmd := [], arg2 := 0 } hv).trans h1
  unfold viPre
  simp only [C07.bind_apply, Vi.get, termCmd_eq, Vi.modify]
  rw [viYankbuf_plain _ _ _ hk34 hr1]
  dsimp only
  rw [C08f.viPrefix_unread _ (k : Int) s.vibuf rfl (passedOn_cmdkey hki)]
  dsimp only
  simp only [BEq.rfl, if_true, C07.bind_apply]
  rw [viYankbuf_id _ (k : Int) s.vibuf rfl hk34]
  dsimp only [Vi.modify]
  rw [viMotion_id _ _ _ (k : Int) s.vibuf rfl hki]
  simp [hv]
theorem setMark_lines (lb : Lbuf.Lb) (c : Nat) (r o : Int) : (Lbuf.setMark lb c r o).lines = lb.lines := by
  unfold Lbuf.setMark
  split <;> rfl

theorem marked_ed_fields (s : VS) : (marked s).ed = { s.ed with bufs := (marked s).ed.bufs } := by
  unfold marked
  dsimp only
  split
  · exact Lemmas.C06.setLb_fields _ _
  · rfl

theorem marked_line (s : VS) (r : Int) : (marked s).ed.line r = s.ed.line r := by
  unfold marked
  dsimp only
  cases hlb : s.ed.lb with
  | none => rfl
  | some lb =>
    dsimp only
    unfold Ed.line
    rw [Lemmas.ExFrame.setLb_lb, hlb]
    simp [setMark_lines]

theorem marked_regGet (s : VS) (c : Nat) : regGet (marked s).ed c = regGet s.ed c := by
  unfold regGet
  rw [marked_line]
  rw [marked_ed_fields]

theorem marked_out (s : VS) : (marked s).ed.out = s.ed.out := by rw [marked_ed_fields]

theorem marked_lb (s : VS) :
    (marked s).ed.lb = s.ed.lb.map (fun lb => Lbuf.setMark lb 94 s.ed.xrow s.ed.xoff) := by
  unfold marked
  dsimp only
  cases hlb : s.ed.lb with
  | none => simp [hlb]
  | some lb =>
    dsimp only
    rw [Lemmas.ExFrame.setLb_lb, hlb]
    rfl

theorem edStep_marked (s : VS) (hout : nlCount s.ed.out ≤ 1) : EdStep 0 s.ed (marked s).ed := by
  refine ⟨by rw [marked_out]; exact hout, by rw [marked_ed_fields], by rw [marked_ed_fields], ?_, fun _ => ?_⟩
  · rw [marked_lb]; cases s.ed.lb <;> simp [setMark_lines]
  · rw [marked_lb]; cases s.ed.lb <;> simp [Lemmas.Hist.setMark_useq]

/-! ### the whole iteration -/

theorem isRepeatable_dot : isRepeatable 46 0 = false := by decide +kernel
theorem isRepeatable_at : isRepeatable 64 0 = false := by decide +kernel

theorem stepMid_zero (r o : Int) : stepMid 0 r o = commandTail := by
  unfold stepMid
  simp

theorem dot_step_eq (s s1 s2 : VS) (r o : Int) (hpre : viPre s = Res.ok (0, r, o) s1)
    (hkey : viRead s1 = Res.ok 46 s2) :
    viStep s = viPost (some 0) { pushN (cnt1 s2) s2.repCmd (marked s2) with icmd := [] } := by
  rw [viStep_eq_mid, C07.bind_apply, hpre]
  dsimp only
  rw [stepMid_zero, C07.bind_apply, commandTail_dot' s1 s2 hkey, finRec_eq]
  simp only [isRepeatable_dot, Bool.false_and, Bool.false_eq_true, if_false]

theorem pushN_ed (n : Nat) (x : Bytes) (s : VS) : (pushN n x s).ed = s.ed := by
  induction n generalizing s with
  | zero => rfl
  | succ n ih => exact ih (push x s)

/-- **the iteration that executes `.`**, with room in `ibuf` and no `[enter to continue]` pending: the
recorded keys are appended to `ibuf`, `icmd` is emptied, and `ed` is updated (mark, window, sequence
number); the counts, `rep_cmd`, the push-back stack are those of the state in which `.` was read -/
theorem dot_step (s s1 s2 : VS) (r o : Int) (hpre : viPre s = Res.ok (0, r, o) s1)
    (hkey : viRead s1 = Res.ok 46 s2) (hout : nlCount s2.ed.out ≤ 1)
    (hroom : s2.ibuf.length + cnt1 s2 * s2.repCmd.length ≤ 4096) :
    ∃ ed', viStep s = Res.ok ()
      { s2 with ed := ed', icmd := [], ibuf := s2.ibuf ++ (List.replicate (cnt1 s2) s2.repCmd).flatten } ∧
      EdStep 2 s2.ed ed' := by
  rw [dot_step_eq s s1 s2 r o hpre hkey, pushN_room _ _ (marked s2) hroom]
  obtain ⟨ed', h, hs⟩ := viPost_zero_frame
    { marked s2 with icmd := [], ibuf := s2.ibuf ++ (List.replicate (cnt1 s2) s2.repCmd).flatten }
    (by show nlCount (marked s2).ed.out ≤ 1; rw [marked_out]; exact hout)
  exact ⟨ed', h, (edStep_marked s2 hout).trans hs⟩

/-- the state in which the `@` command leaves the queue -/
def atPushed (s3 : VS) : Option (Nat × Bytes) → VS
  | some (n, x) => { pushN n x s3 with icmd := [] }
  | none => { s3 with icmd := [] }

theorem at_step_eq (s s1 s2 s3 : VS) (r o : Int) (p : Option (Nat × Bytes))
    (hpre : viPre s = Res.ok (0, r, o) s1) (hkey : viRead s1 = Res.ok 64 s2)
    (hhead : execHead (marked s2) = Res.ok p s3) :
    viStep s = viPost (some 0) (atPushed s3 p) := by
  rw [viStep_eq_mid, C07.bind_apply, hpre]
  dsimp only
  rw [stepMid_zero, C07.bind_apply, commandTail_at' s1 s2 hkey, C07.bind_apply, hhead]
  dsimp only
  cases p with
  | none =>
    simp only [execPush, C07.bind_apply, C07.pure_apply, finRec_eq, isRepeatable_at, Bool.false_and,
      Bool.false_eq_true, if_false, atPushed]
  | some q =>
    obtain ⟨n, x⟩ := q
    simp only [execPush, C07.bind_apply, repeatM_push, finRec_eq, isRepeatable_at, Bool.false_and,
      Bool.false_eq_true, if_false, atPushed]

theorem at_step (s s1 s2 s3 : VS) (r o : Int) (n : Nat) (x : Bytes)
    (hpre : viPre s = Res.ok (0, r, o) s1) (hkey : viRead s1 = Res.ok 64 s2)
    (hhead : execHead (marked s2) = Res.ok (some (n, x)) s3) (hout : nlCount s3.ed.out ≤ 1)
    (hroom : s3.ibuf.length + n * x.length ≤ 4096) :
    ∃ ed', viStep s = Res.ok ()
      { s3 with ed := ed', icmd := [], ibuf := s3.ibuf ++ (List.replicate n x).flatten } ∧
      EdStep 2 s3.ed ed' := by
  rw [at_step_eq s s1 s2 s3 r o _ hpre hkey hhead]
  unfold atPushed
  dsimp only
  rw [pushN_room _ _ s3 hroom]
  obtain ⟨ed', h, hs⟩ := viPost_zero_frame
    { s3 with icmd := [], ibuf := s3.ibuf ++ (List.replicate n x).flatten } hout
  exact ⟨ed', h, hs⟩

/-! ### `vc_execute()` on explicit keys -/

theorem termRead_ok' (s : VS) (k : Nat) (rest : Bytes) (h : pending s = k :: rest) :
    ∃ ib ip ty, termRead s = Res.ok (k : Int)
        { s with ibuf := ib, ibufPos := ip, typed := ty, icmd := icmdAfter s.icmd k } ∧
      ib.drop ip ++ ty = rest ∧ ip ≤ ib.length ∧ ib.length ≤ max 1 s.ibuf.length ∧
      (s.ibuf.length ≤ s.ibufPos + 1 → ip = ib.length ∧ ty = rest) := by
  obtain ⟨ib, ip, ty, h1, h2, h3, h4, h5⟩ := termRead_ok s k rest h
  refine ⟨ib, ip, ty, h1, h2, h3, ?_, ?_⟩
  · by_cases hn : s.ibuf.length ≤ s.ibufPos
    · rw [(h5 hn).1]; simp; omega
    · rw [(h4 (by omega)).1]; omega
  · intro hd
    by_cases hn : s.ibuf.length ≤ s.ibufPos
    · obtain ⟨a, b, c⟩ := h5 hn
      rw [a, b, c]; exact ⟨rfl, rfl⟩
    · obtain ⟨a, b, c⟩ := h4 (by omega)
      subst a b c
      have : s.ibufPos + 1 = s.ibuf.length := by omega
      rw [List.drop_eq_nil_of_le (by omega), List.nil_append] at h2
      exact ⟨this, h2⟩

/-- `vc_execute()` up to the push, on the name `c` of a register: a plain name, or `@` for the register of
the last `@`; `e` is the register meant -/
theorem execHead_name (S : VS) (c : Nat) (rest buf : Bytes) (hv : S.vibuf = []) (hp : pending S = c :: rest)
    (h92 : c ≠ 92) (h27 : c ≠ 27) (h3 : c ≠ 3) (e : Int) (he : e = if c = 64 then S.execReg else (c : Int))
    (h0 : 0 ≤ e) (hreg : regGet S.ed e.toNat = some buf) :
    ∃ ib ip ty, execHead S = Res.ok (some (cnt1 S, buf.takeWhile (· != 0)))
        { S with ibuf := ib, ibufPos := ip, typed := ty, icmd := icmdAfter S.icmd c, execReg := e } ∧
      ib.drop ip ++ ty = rest ∧ ip ≤ ib.length ∧ ib.length ≤ max 1 S.ibuf.length ∧
      (S.ibuf.length ≤ S.ibufPos + 1 → ip = ib.length ∧ ty = rest) := by
  obtain ⟨ib, ip, ty, h1, hrest⟩ := termRead_ok' S c rest hp
  refine ⟨ib, ip, ty, ?_, hrest⟩
  have e92 : ((c : Int) == 92) = false := by simp; omega
  have eint : tkInt (c : Int) = false := by simp [tkInt]; omega
  have e64 : (if ((c : Int) == 64) = true then S.execReg else (c : Int)) = e := by
    rw [he]
    by_cases h : c = 64
    · rw [if_pos h, if_pos (by simp; omega)]
    · rw [if_neg h, if_neg (by simp; omega)]
  have eneg : ¬ (e < 0) := by omega
  unfold execHead
  simp only [C07.bind_apply, viRead_nil S hv, h1, e92, C07.pure_apply, eint, Vi.get, Vi.modify,
    Bool.false_eq_true, if_false, e64, eneg, hreg]
  rfl

theorem execHead_reg (S : VS) (r : Nat) (rest buf : Bytes) (hv : S.vibuf = []) (hp : pending S = r :: rest)
    (h92 : r ≠ 92) (h64 : r ≠ 64) (h27 : r ≠ 27) (h3 : r ≠ 3) (hreg : regGet S.ed r = some buf) :
    ∃ ib ip ty, execHead S = Res.ok (some (cnt1 S, buf.takeWhile (· != 0)))
        { S with ibuf := ib, ibufPos := ip, typed := ty, icmd := icmdAfter S.icmd r, execReg := (r : Int) } ∧
      ib.drop ip ++ ty = rest ∧ ip ≤ ib.length ∧ ib.length ≤ max 1 S.ibuf.length ∧
      (S.ibuf.length ≤ S.ibufPos + 1 → ip = ib.length ∧ ty = rest) :=
  execHead_name S r rest buf hv hp h92 h27 h3 r (if_neg h64).symm (Int.natCast_nonneg r) hreg

theorem execHead_again (S : VS) (rest buf : Bytes) (hv : S.vibuf = []) (hp : pending S = 64 :: rest)
    (h0 : 0 ≤ S.execReg) (hreg : regGet S.ed S.execReg.toNat = some buf) :
    ∃ ib ip ty, execHead S = Res.ok (some (cnt1 S, buf.takeWhile (· != 0)))
        { S with ibuf := ib, ibufPos := ip, typed := ty, icmd := icmdAfter S.icmd 64 } ∧
      ib.drop ip ++ ty = rest ∧ ip ≤ ib.length ∧ ib.length ≤ max 1 S.ibuf.length ∧
      (S.ibuf.length ≤ S.ibufPos + 1 → ip = ib.length ∧ ty = rest) :=
  execHead_name S 64 rest buf hv hp (by decide) (by decide) (by decide) S.execReg rfl h0 hreg

end Neatvi.Lemmas.C09b
