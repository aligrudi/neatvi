import NeatviVerif.Lemmas.C09bDotStep
/-!
# C09b: `.`, `N.`, `@r`, `N@r`, `@@` over whole runs

`retype s keys` is the state `s` with nothing pushed and `keys` waiting at the terminal.  The theorems
say: the iteration that executes `.` (resp. `@r`) ends in a state `s'` whose pending keys are the recorded
keys (resp. the register's text) `N` times followed by the rest of the input, and from there on the run is
`K`-related (in particular `KeyEq`: same `ed`, same everything but the split of the queue) to the run from
`retype s' (those keys)`, for as many iterations as the proviso `runOk` holds.
-/
namespace Neatvi.Lemmas.C09b
open Neatvi Neatvi.Vi Neatvi.Ex Neatvi.Lemmas.C09
open Neatvi.Props.C05c (iterate)

theorem max10 : (max (1 : Int) 0).toNat = 1 := by decide

/-- the state `s` with nothing pushed and `keys` waiting at the terminal -/
def retype (s : VS) (keys : Bytes) : VS := { s with ibuf := [], ibufPos := 0, typed := keys }

theorem norm_eq_retype (s : VS) : C09.norm s = retype s (pending s) := rfl

theorem pending_retype (s : VS) (keys : Bytes) : pending (retype s keys) = keys := by
  simp [retype, pending]

theorem inv_of_resp {α : Type} {m : M α} (hm : Resp m) {s s' : VS} {a : α} (h : Inv s)
    (he : m s = Res.ok a s') : Inv s' := by
  have := hm s s (K.refl h)
  rw [he] at this
  obtain ⟨t, _, hk⟩ := relK_ok_inv this
  exact hk.inv_left

theorem inv_marked {s : VS} (h : Inv s) : Inv (marked s) := (K.upd frame_marked (K.refl h)).inv_left

theorem relO_some_inv {a : VS} {o : Option VS} (h : RelO (some a) o) : ∃ b, o = some b ∧ K a b := by
  cases h with
  | some _ b hk => exact ⟨b, rfl, hk⟩

theorem relO_none_inv {o : Option VS} (h : RelO none o) : o = none := by
  cases h; rfl

theorem after_push_run (s S : VS) (ed' : Ed) (X : Bytes) (hinv : Inv s) (hS : Inv S)
    (hstep : viStep s = Res.ok () { S with ed := ed', icmd := [], ibuf := S.ibuf ++ X })
    (hd : S.ibuf.length ≤ S.ibufPos) :
    Inv ({ S with ed := ed', icmd := [], ibuf := S.ibuf ++ X } : VS) ∧
    pending ({ S with ed := ed', icmd := [], ibuf := S.ibuf ++ X } : VS) = X ++ S.typed ∧
    ∀ k, runOk k { S with ed := ed', icmd := [], ibuf := S.ibuf ++ X } = true →
      RelO (iterate (k + 1) s)
        (iterate k (retype { S with ed := ed', icmd := [], ibuf := S.ibuf ++ X } (X ++ S.typed))) := by
  have hwf := hS.wf
  unfold QWf at hwf
  have hp : pending ({ S with ed := ed', icmd := [], ibuf := S.ibuf ++ X } : VS) = X ++ S.typed := by
    simp only [pending, List.drop_append]
    rw [List.drop_eq_nil_of_le hd, show S.ibufPos - S.ibuf.length = 0 by omega]
    rfl
  have hinv' : Inv ({ S with ed := ed', icmd := [], ibuf := S.ibuf ++ X } : VS) := by
    have h1 : iterate 1 s = some { S with ed := ed', icmd := [], ibuf := S.ibuf ++ X } := by
      rw [Props.C05c.iterate_succ 0 s _ () hstep]; rfl
    exact run_inv 1 s _ hinv h1
  refine ⟨hinv', hp, fun k hk => ?_⟩
  rw [Props.C05c.iterate_succ k s _ () hstep, ← hp, ← norm_eq_retype]
  exact run_norm k _ hinv' hk

/-- the state after `viPre` and the read of the command key `k`, typed at the terminal without a count -/
def afterKey (s : VS) (k : Nat) (rest : Bytes) : VS :=
  { s with ibuf := [k], ibufPos := 1, typed := rest, icmd := [k], vibuf := [], arg1 := 0, arg2 := 0, ybuf := 0 }

theorem cnt1_afterKey (s : VS) (k : Nat) (rest : Bytes) : cnt1 (afterKey s k rest) = 1 := by
  simp [cnt1, afterKey, max10]

theorem viPre_typed (s : VS) (k : Nat) (hk : k = 46 ∨ k = 64) (rest : Bytes) (hv : s.vibuf = [])
    (hd : s.ibuf.length ≤ s.ibufPos) (ht : s.typed = k :: rest) :
    viPre s = Res.ok (0, s.ed.xrow, noeol s s.ed.xrow s.ed.xoff)
      { afterKey s k rest with vibuf := [(k : Int)] } := by
  obtain ⟨ib, ip, ty, hpre, -, -, -, h5⟩ := viPre_cmdkey s k hk rest hv ((pending_drained hd).trans ht)
  obtain ⟨e1, e2, e3⟩ := h5 hd
  rw [e1, e2, e3] at hpre
  exact hpre

/-- **`.` over a whole run** (given what `viPre` returned and that the command key is `.`) -/
theorem dot_run_sem (s s1 s2 : VS) (r o : Int) (hinv : Inv s)
    (hpre : viPre s = Res.ok (0, r, o) s1) (hkey : viRead s1 = Res.ok 46 s2)
    (hok : pushOk s2 (cnt1 s2) s2.repCmd = true) (hout : nlCount s2.ed.out ≤ 1) :
    ∃ s', viStep s = Res.ok () s' ∧ Inv s' ∧
      pending s' = (List.replicate (cnt1 s2) s2.repCmd).flatten ++ s2.typed ∧
      s'.repCmd = s2.repCmd ∧ EdStep 2 s2.ed s'.ed ∧
      ∀ k, runOk k s' = true →
        RelO (iterate (k + 1) s)
          (iterate k (retype s' ((List.replicate (cnt1 s2) s2.repCmd).flatten ++ s2.typed))) := by
  obtain ⟨hd, hroom⟩ := (pushOk_iff _ _ _).mp hok
  have hS : Inv s2 := inv_of_resp resp_viRead (inv_of_resp resp_viPre hinv hpre) hkey
  obtain ⟨ed', hstep, hes⟩ := dot_step s s1 s2 r o hpre hkey hout (by omega)
  obtain ⟨a, b, c⟩ := after_push_run s s2 ed' _ hinv hS hstep hd
  exact ⟨_, hstep, a, b, rfl, hes, c⟩

/-- **`.` typed at the terminal, no count**: the next keys are the recorded change and then what follows.
No room hypothesis: `rep_cmd` and `ibuf` have the same size. -/
theorem dot_run (s : VS) (rest : Bytes) (hinv : Inv s) (hv : s.vibuf = [])
    (hd : s.ibuf.length ≤ s.ibufPos) (ht : s.typed = 46 :: rest) (hout : nlCount s.ed.out ≤ 1) :
    ∃ s', viStep s = Res.ok () s' ∧ Inv s' ∧ pending s' = s.repCmd ++ rest ∧
      s'.repCmd = s.repCmd ∧ EdStep 2 s.ed s'.ed ∧
      ∀ k, runOk k s' = true → RelO (iterate (k + 1) s) (iterate k (retype s' (s.repCmd ++ rest))) := by
  have hrep := hinv.rep
  have hc := cnt1_afterKey s 46 rest
  obtain ⟨s', h1, h2, h3, h4, h5, h6⟩ := dot_run_sem s _ (afterKey s 46 rest) _ _ hinv
    (viPre_typed s 46 (Or.inl rfl) rest hv hd ht) rfl
    (by rw [pushOk_iff, hc]; simp only [afterKey, List.length_singleton]; omega) hout
  rw [hc] at h3 h6
  simp only [List.replicate_one, List.flatten_cons, List.flatten_nil, List.append_nil] at h3 h6
  exact ⟨s', h1, h2, h3, h4, h5, h6⟩

/-- **`@` over a whole run** (given what `viPre` returned, that the command key is `@`, and what
`vc_execute()` decided to push) -/
theorem at_run_sem (s s1 s2 s3 : VS) (r o : Int) (n : Nat) (x : Bytes) (hinv : Inv s)
    (hpre : viPre s = Res.ok (0, r, o) s1) (hkey : viRead s1 = Res.ok 64 s2)
    (hhead : execHead (marked s2) = Res.ok (some (n, x)) s3)
    (hok : pushOk s3 n x = true) (hout : nlCount s3.ed.out ≤ 1) :
    ∃ s', viStep s = Res.ok () s' ∧ Inv s' ∧
      pending s' = (List.replicate n x).flatten ++ s3.typed ∧ s'.execReg = s3.execReg ∧
      EdStep 2 s3.ed s'.ed ∧
      ∀ k, runOk k s' = true →
        RelO (iterate (k + 1) s) (iterate k (retype s' ((List.replicate n x).flatten ++ s3.typed))) := by
  obtain ⟨hd, hroom⟩ := (pushOk_iff _ _ _).mp hok
  have hS2 : Inv s2 := inv_of_resp resp_viRead (inv_of_resp resp_viPre hinv hpre) hkey
  have hS : Inv s3 := inv_of_resp resp_execHead (inv_marked hS2) hhead
  obtain ⟨ed', hstep, hes⟩ := at_step s s1 s2 s3 r o n x hpre hkey hhead hout (by omega)
  obtain ⟨a, b, c⟩ := after_push_run s s3 ed' _ hinv hS hstep hd
  exact ⟨_, hstep, a, b, rfl, hes, c⟩

/-- **`@` with the register name next in the queue and no other pushed key unread**: `c` is a plain register
name, or `@` for the register of the last `@`; `e` is the register meant -/
theorem at_run_typed (s s1 S : VS) (r o : Int) (c : Nat) (rest buf : Bytes) (hinv : Inv s)
    (hpre : viPre s = Res.ok (0, r, o) s1) (hkey : viRead s1 = Res.ok 64 S)
    (hv : S.vibuf = []) (hp : pending S = c :: rest) (hib : S.ibuf.length ≤ 1)
    (h92 : c ≠ 92) (h27 : c ≠ 27) (h3 : c ≠ 3) (e : Int) (he : e = if c = 64 then S.execReg else (c : Int))
    (h0 : 0 ≤ e) (hreg : regGet S.ed e.toNat = some buf) (hout : nlCount S.ed.out ≤ 1)
    (hroom : 1 + cnt1 S * (buf.takeWhile (· != 0)).length ≤ 4096) :
    ∃ s', viStep s = Res.ok () s' ∧ Inv s' ∧
      pending s' = (List.replicate (cnt1 S) (buf.takeWhile (· != 0))).flatten ++ rest ∧
      s'.execReg = e ∧ EdStep 2 S.ed s'.ed ∧
      ∀ k, runOk k s' = true →
        RelO (iterate (k + 1) s)
          (iterate k (retype s' ((List.replicate (cnt1 S) (buf.takeWhile (· != 0))).flatten ++ rest))) := by
  obtain ⟨ib, ip, ty, hhead, -, -, h4, h5⟩ := execHead_name (marked S) c rest buf hv hp h92 h27 h3 e he h0
    (by rw [marked_regGet]; exact hreg)
  obtain ⟨rfl, rfl⟩ := h5 (by show S.ibuf.length ≤ S.ibufPos + 1; omega)
  have hl : ib.length ≤ max 1 S.ibuf.length := h4
  have hc : cnt1 (marked S) = cnt1 S := rfl
  rw [hc] at hhead
  obtain ⟨s', g1, g2, g3, g4, g5, g6⟩ := at_run_sem s s1 S _ r o _ _ hinv hpre hkey hhead
    (by rw [pushOk_iff]; dsimp only; omega)
    (by show nlCount (marked S).ed.out ≤ 1; rw [marked_out]; exact hout)
  exact ⟨s', g1, g2, g3, g4, (edStep_marked S hout).trans g5, g6⟩

/-- **`@r` typed at the terminal** (`r` a plain register name): the next keys are the register's text (as a C
string) and then what follows; `r` is remembered for `@@` -/
theorem at_run (s : VS) (r : Nat) (rest buf : Bytes) (hinv : Inv s) (hv : s.vibuf = [])
    (hd : s.ibuf.length ≤ s.ibufPos) (ht : s.typed = 64 :: r :: rest)
    (h92 : r ≠ 92) (h64 : r ≠ 64) (h27 : r ≠ 27) (h3 : r ≠ 3)
    (hreg : regGet s.ed r = some buf) (hout : nlCount s.ed.out ≤ 1)
    (hroom : 1 + (buf.takeWhile (· != 0)).length ≤ 4096) :
    ∃ s', viStep s = Res.ok () s' ∧ Inv s' ∧ pending s' = buf.takeWhile (· != 0) ++ rest ∧
      s'.execReg = (r : Int) ∧ EdStep 2 s.ed s'.ed ∧
      ∀ k, runOk k s' = true →
        RelO (iterate (k + 1) s) (iterate k (retype s' (buf.takeWhile (· != 0) ++ rest))) := by
  have hc := cnt1_afterKey s 64 (r :: rest)
  obtain ⟨s', g1, g2, g3, g4, g5, g6⟩ := at_run_typed s _ (afterKey s 64 (r :: rest)) _ _ r rest buf hinv
    (viPre_typed s 64 (Or.inr rfl) (r :: rest) hv hd ht) rfl rfl rfl (Nat.le_refl 1) h92 h27 h3 r
    (by rw [if_neg h64]) (by omega) (by rw [Int.toNat_natCast]; exact hreg) hout (by rw [hc]; omega)
  rw [hc] at g3 g6
  simp only [List.replicate_one, List.flatten_cons, List.flatten_nil, List.append_nil] at g3 g6
  exact ⟨s', g1, g2, g3, g4, g5, g6⟩

/-- **`@@` typed at the terminal**: the register of the last `@` -/
theorem atat_run (s : VS) (rest buf : Bytes) (hinv : Inv s) (hv : s.vibuf = [])
    (hd : s.ibuf.length ≤ s.ibufPos) (ht : s.typed = 64 :: 64 :: rest)
    (h0 : 0 ≤ s.execReg) (hreg : regGet s.ed s.execReg.toNat = some buf) (hout : nlCount s.ed.out ≤ 1)
    (hroom : 1 + (buf.takeWhile (· != 0)).length ≤ 4096) :
    ∃ s', viStep s = Res.ok () s' ∧ Inv s' ∧ pending s' = buf.takeWhile (· != 0) ++ rest ∧
      s'.execReg = s.execReg ∧ EdStep 2 s.ed s'.ed ∧
      ∀ k, runOk k s' = true →
        RelO (iterate (k + 1) s) (iterate k (retype s' (buf.takeWhile (· != 0) ++ rest))) := by
  have hc := cnt1_afterKey s 64 (64 :: rest)
  obtain ⟨s', g1, g2, g3, g4, g5, g6⟩ := at_run_typed s _ (afterKey s 64 (64 :: rest)) _ _ 64 rest buf hinv
    (viPre_typed s 64 (Or.inr rfl) (64 :: rest) hv hd ht) rfl rfl rfl (Nat.le_refl 1) (by decide) (by decide)
    (by decide) s.execReg (if_pos rfl).symm h0 hreg hout (by rw [hc]; omega)
  rw [hc] at g3 g6
  simp only [List.replicate_one, List.flatten_cons, List.flatten_nil, List.append_nil] at g3 g6
  exact ⟨s', g1, g2, g3, g4, g5, g6⟩

end Neatvi.Lemmas.C09b
