import NeatviVerif.Lemmas.C09bMain
/-!
# C09b: composition, the need for the proviso, the 4 KiB buffers
-/
namespace Neatvi.Lemmas.C09b
open Neatvi Neatvi.Vi Neatvi.Ex Neatvi.Lemmas.C09
open Neatvi.Props.C05c (iterate)

/-! ### composition: every `.` / `@` replaced -/

/-- the run in which, after every iteration, whatever was pushed is moved to the terminal side: every `.`
and `@` is *replaced* by the keys it stands for in the user's input stream -/
def iterateT : Nat → VS → Option VS
  | 0, s => some s
  | n + 1, s => match viStep s with
    | Res.ok _ s' => iterateT n (C09.norm s')
    | _ => none

theorem K.norm_right {s t : VS} (h : K s t) : K s (C09.norm t) :=
  ⟨h.keq.trans (keyEq_norm t), h.wfs, Nat.le_refl 0, by simp [unread, C09.norm], by simp [C09.norm],
    fun _ => rfl, h.rep, h.icm⟩

/-- **composition**: under the proviso along the run, the run equals (up to `K`) the run in which every
`.` / `@` has been replaced by its keys -/
theorem run_retyped (n : Nat) (s t : VS) (h : K s t) (hok : runOk n s = true) :
    RelO (iterate n s) (iterateT n t) := by
  rcases runs_rel (R := GSim QK Eq) (C := fun n s _ => runOk n s = true) (p := C09.norm) (run := iterate) (run' := iterateT)
      (fun _ => rfl) (fun _ => rfl) (fun _ _ => rfl) (fun _ _ => rfl)
      (fun n s t h hc => gr_relK.2 (viStep_K s t (K_gsim.1 h) (Or.inl (by
        unfold runOk at hc
        simp only [Bool.and_eq_true] at hc
        exact hc.1))))
      (fun n s t u s' t' h' hc hs _ => ⟨K_gsim.2 (K_gsim.1 h').norm_right, by
        unfold runOk at hc
        simp only [Bool.and_eq_true, hs] at hc
        exact hc.2⟩)
      n s t (K_gsim.2 h) hok with ⟨s', t', e1, e2, h'⟩ | ⟨e1, e2⟩
  · rw [e1, e2]; exact RelO.some _ _ (K_gsim.1 h')
  · rw [e1, e2]; exact RelO.none

/-- in the replaced run nothing is ever pushed and unread at the start of an iteration -/
theorem iterateT_drained (n : Nat) (s s' : VS) (h0 : s.ibuf = [] ∧ s.ibufPos = 0)
    (h : iterateT n s = some s') : s'.ibuf = [] ∧ s'.ibufPos = 0 := by
  induction n generalizing s with
  | zero =>
    unfold iterateT at h
    cases h
    exact h0
  | succ n ih =>
    unfold iterateT at h
    cases hs : viStep s with
    | ok u s1 => rw [hs] at h; exact ih _ ⟨rfl, rfl⟩ h
    | eof => rw [hs] at h; cases h
    | trap => rw [hs] at h; cases h

/-! ### the proviso is needed -/

/-- the state in which the macro `. j` has been pushed (by `@r`, say) and `x` is the recorded change -/
def exMacro (ed : Ed) : VS := { ed := ed, repCmd := [120], ibuf := [46, 106] }

theorem inv_exMacro (ed : Ed) : Inv (exMacro ed) :=
  ⟨Nat.zero_le _, by simp [exMacro], by simp [exMacro]⟩

/-- **the proviso is needed**: with `. j` pushed and `x` recorded, the iteration that executes `.` violates
the proviso, and it leaves the keys `j x` pending, whereas the same iteration with `. j` typed at the
terminal leaves `x j`: the recorded change runs after the rest of the macro -/
theorem proviso_needed (ed : Ed) (hout : nlCount ed.out ≤ 1) :
    stepOk (exMacro ed) = false ∧
    ∃ s' t', iterate 1 (exMacro ed) = some s' ∧ iterate 1 (C09.norm (exMacro ed)) = some t' ∧
      pending s' = [106, 120] ∧ pending t' = [120, 106] ∧ ¬ KeyEq s' t' := by
  obtain ⟨ib, ip, ty, hpre, -, -, h4, -⟩ := viPre_cmdkey (exMacro ed) 46 (Or.inl rfl) [106] rfl
    (by simp [pending, exMacro])
  obtain ⟨e1, e2, e3⟩ := h4 (by simp [exMacro])
  rw [e1, e2, e3] at hpre
  refine ⟨?_, ?_⟩
  · unfold stepOk
    rw [hpre]
    simp [viRead, pushOk, exMacro]
  · obtain ⟨ed', hstep, -⟩ := dot_step (exMacro ed) _
      { exMacro ed with ibuf := [46, 106], ibufPos := 1, typed := [], icmd := [46], vibuf := [], arg1 := 0, arg2 := 0, ybuf := 0 }
      _ _ hpre rfl hout (by simp [cnt1, exMacro, max10])
    obtain ⟨t', g1, -, g3, -, -, -⟩ := dot_run (C09.norm (exMacro ed)) [106]
      (K.norm (inv_exMacro ed)).inv_right rfl (Nat.le_refl 0) (by simp [C09.norm, pending, exMacro]) hout
    have hg3 : pending t' = [120, 106] := g3
    obtain ⟨s', hs', hps⟩ : ∃ s', viStep (exMacro ed) = Res.ok () s' ∧ pending s' = [106, 120] :=
      ⟨_, hstep, by simp [pending, cnt1, max10, exMacro]⟩
    refine ⟨s', t', ?_, ?_, hps, hg3, ?_⟩
    · rw [Props.C05c.iterate_succ 0 (exMacro ed) s' () hs']; rfl
    · rw [Props.C05c.iterate_succ 0 _ t' () g1]; rfl
    · intro hk
      have := hk.pending
      rw [hps, hg3] at this
      simp at this

/-- the strict form of "`.` equals retyping" — the state after the iteration that executes `.` is the
state before it with the recorded keys in place of the `.` — is false whenever there is a buffer: the
iteration bumps the sequence number of the buffer twice (`lbuf_modified()` at the end of the loop body). -/
theorem dot_iteration_not_pure_substitution (s : VS) (rest : Bytes) (hinv : Inv s) (hv : s.vibuf = [])
    (hd : s.ibuf.length ≤ s.ibufPos) (ht : s.typed = 46 :: rest) (hout : nlCount s.ed.out ≤ 1)
    (hlb : s.ed.lb.isSome = true) (hq : s.ed.xquit = false) :
    ∃ s', viStep s = Res.ok () s' ∧ ¬ KeyEq s' (retype s (s.repCmd ++ rest)) ∧
      s'.ed.lb.map (·.useq) = (s.ed.lb.map (·.useq)).map (· + 2) := by
  obtain ⟨s', h1, -, -, -, h5, -⟩ := dot_run s rest hinv hv hd ht hout
  refine ⟨s', h1, ?_, h5.useq hq⟩
  intro hk
  have he : s'.ed = (retype s (s.repCmd ++ rest)).ed := keyEq_ed hk
  have he : s'.ed = s.ed := he
  have hu := h5.useq hq
  rw [he] at hu
  cases hl : s.ed.lb with
  | none => rw [hl] at hlb; cases hlb
  | some lb =>
    rw [hl] at hu
    simp at hu

/-- the hypotheses of `dot_iteration_not_pure_substitution` are satisfiable -/
def exBuf : Ed := { bufs := [some { path := [], lb := { lines := [[97, 10]] } }] }

theorem exBuf_lb : exBuf.lb.isSome = true := by decide

/-! ### the 4 KiB buffers -/

theorem inv_viInit (ed : Ed) (keys : Bytes) (rows cols : Int) : Inv (viInit ed keys rows cols) :=
  ⟨Nat.le_refl 0, by simp [viInit], by simp [viInit]⟩

/-- **in every state the editor reaches, `ibuf_pos ≤ ibuf_cnt`, the recorded change is shorter than its
4096-byte buffer (with its terminator), and at most 4096 keys are remembered since the last `term_cmd()`** -/
theorem reachable_inv (ed : Ed) (keys : Bytes) (rows cols : Int) (n : Nat) (s : VS)
    (h : iterate n (viInit ed keys rows cols) = some s) : Inv s :=
  run_inv n _ s (inv_viInit ed keys rows cols) h

/-- a command of 4095 keys or more is **not recorded at all**: `rep_cmd` and register `.` keep the change
recorded before (`.` then repeats that older change) -/
theorem finRec_long (c k : Int) (mod : Nat) (s : VS) (h : 4096 ≤ s.icmd.length + 1) :
    finRec c k mod s = Res.ok (some mod) { s with icmd := [] } := by
  rw [finRec_eq]
  have : decide (s.icmd.length + 1 < 4096) = false := by simp; omega
  simp [this]

/-- `K`-related states have the same text, cursor, registers (the whole of `ed`), sticky column, recorded
change, `@@` register, counts, recording and push-back buffers, and the same pending keys -/
theorem K.fields {a b : VS} (h : K a b) :
    a.ed = b.ed ∧ lines a = lines b ∧ a.ed.xrow = b.ed.xrow ∧ a.ed.xoff = b.ed.xoff ∧
    a.ed.regs = b.ed.regs ∧ a.xcol = b.xcol ∧ a.repCmd = b.repCmd ∧ a.execReg = b.execReg ∧
    a.arg1 = b.arg1 ∧ a.arg2 = b.arg2 ∧ a.icmd = b.icmd ∧ a.vibuf = b.vibuf ∧ pending a = pending b := by
  obtain ⟨h1, h4, h0, h5, h6, h7, h8, -, -, -, -, -, -, -, h16, h17, -⟩ := (keyEq_iff a b).mp h.keq
  refine ⟨h0, ?_, by rw [h0], by rw [h0], by rw [h0], h6, h16, h17, h7, h8, h4, h5, h1⟩
  unfold lines; rw [h0]

theorem relO_cases (o o' : Option VS) (h : RelO o o') :
    (o = none ∧ o' = none) ∨ ∃ a b, o = some a ∧ o' = some b ∧ K a b := by
  cases h with
  | some a b hk => exact Or.inr ⟨a, b, rfl, rfl, hk⟩
  | none => exact Or.inl ⟨rfl, rfl⟩

end Neatvi.Lemmas.C09b
