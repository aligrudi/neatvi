import NeatviVerif.Lemmas.C09RespectsCmd
/-!
# C09b: a simulation relation for whole runs

`KeyEq s t` (C09) says that `s` and `t` differ only in how the pending key stream is split between pushed
keys (`ibuf`) and keys of the terminal (`typed`).  It is not preserved by `term_push` (`push_not_respects`):
a push goes behind the unread pushed keys.  To follow two runs through `.` and `@` one needs to know
more: that whenever the run `s` has no unread pushed key, neither has `t`, and that `t` has at least as
much room in `ibuf` as `s`.  `K s t` is `KeyEq s t` plus that bookkeeping, plus the unary invariants of
term.c / vi.c (`ibuf_pos ≤ ibuf_cnt`, `rep_len + 1 < 4096`, `icmd_pos ≤ 4096`).

`Resp m`: the computation `m` maps `K`-related states to `K`-related results.  `K` is `GSim QK Eq`
(`Lemmas/C09Walk.lean`) and the queue primitives keep `QK` (`qsim_K`), so what the one walk of vi.c says of a program
is read off here for `K` (`resp_iff`).
-/
namespace Neatvi.Lemmas.C09b
open Neatvi Neatvi.Vi Neatvi.Ex Neatvi.Lemmas.C09
open Neatvi.Lemmas.C09c (NoEsc)

/-- the number of pushed keys that have not been read yet -/
def unread (s : VS) : Nat := s.ibuf.length - s.ibufPos

/-- the unary invariants of the key queue and of the recording buffers -/
structure Inv (s : VS) : Prop where
  wf : QWf s
  rep : s.repCmd.length + 1 < 4096
  icm : s.icmd.length ≤ 4096

/-- the simulation relation -/
structure K (s t : VS) : Prop where
  keq : KeyEq s t
  wfs : QWf s
  wft : QWf t
  unr : unread t ≤ unread s
  len : t.ibuf.length ≤ max 1 s.ibuf.length
  emp : s.ibuf = [] → t.ibuf = []
  rep : s.repCmd.length + 1 < 4096
  icm : s.icmd.length ≤ 4096

theorem K.inv_left {s t : VS} (h : K s t) : Inv s := ⟨h.wfs, h.rep, h.icm⟩

theorem keyEq_repCmd {s t : VS} (h : KeyEq s t) : s.repCmd = t.repCmd :=
  (congrArg VS.repCmd (show C09.norm s = C09.norm t from h) :)

theorem keyEq_ed {s t : VS} (h : KeyEq s t) : s.ed = t.ed := h.ed

theorem keyEq_arg1 {s t : VS} (h : KeyEq s t) : s.arg1 = t.arg1 :=
  (congrArg VS.arg1 (show C09.norm s = C09.norm t from h) :)

theorem K.inv_right {s t : VS} (h : K s t) : Inv t :=
  ⟨h.wft, by rw [← keyEq_repCmd h.keq]; exact h.rep, by rw [← h.keq.icmd]; exact h.icm⟩

theorem K.refl {s : VS} (h : Inv s) : K s s :=
  ⟨KeyEq.refl s, h.wf, h.wf, Nat.le_refl _, by omega, fun e => e, h.rep, h.icm⟩

theorem K.norm {s : VS} (h : Inv s) : K s (norm s) :=
  ⟨keyEq_norm s, h.wf, Nat.le_refl 0, by simp [unread, C09.norm], by simp [C09.norm],
    fun _ => rfl, h.rep, h.icm⟩

inductive RelK {α : Type} : Res α → Res α → Prop where
  | ok (a : α) (s t : VS) (h : K s t) : RelK (Res.ok a s) (Res.ok a t)
  | eof : RelK Res.eof Res.eof
  | trap : RelK Res.trap Res.trap

def Resp {α : Type} (m : M α) : Prop := ∀ s t, K s t → RelK (m s) (m t)

/-- a state update that neither inspects nor alters the key queue, `icmd`, `rep_cmd` -/
def Frame (f : VS → VS) : Prop :=
  ∀ s, C09.norm (f s) = f (C09.norm s) ∧ (f s).ibuf = s.ibuf ∧ (f s).ibufPos = s.ibufPos ∧
    (f s).repCmd = s.repCmd ∧ (f s).icmd = s.icmd

theorem K.upd {f : VS → VS} (hf : Frame f) {s t : VS} (h : K s t) : K (f s) (f t) := by
  obtain ⟨-, a2, a3, a4, a5⟩ := hf s
  obtain ⟨-, b2, b3, b4, b5⟩ := hf t
  refine ⟨?_, ?_, ?_, ?_, ?_, ?_, ?_, ?_⟩
  · exact h.keq.upd fun s => (hf s).1
  · have := h.wfs; unfold QWf at this ⊢; rw [a2, a3]; exact this
  · have := h.wft; unfold QWf at this ⊢; rw [b2, b3]; exact this
  · have := h.unr; unfold unread at this ⊢; rw [a2, a3, b2, b3]; exact this
  · rw [a2, b2]; exact h.len
  · rw [a2, b2]; exact h.emp
  · rw [a4]; exact h.rep
  · rw [a5]; exact h.icm

/-! ### `K` is `GSim QK Eq` -/

/-- `QPend` with the bookkeeping of `K` -/
structure QK (s t : VS) : Prop where
  pend : QPend s t
  wfs : QWf s
  wft : QWf t
  unr : unread t ≤ unread s
  len : t.ibuf.length ≤ max 1 s.ibuf.length
  emp : s.ibuf = [] → t.ibuf = []
  rep : s.repCmd.length + 1 < 4096
  icm : s.icmd.length ≤ 4096

theorem qsim_K : QSim QK where
  frame {s t s' t'} h e1 e2 := by
    have hp := qsim_pend.frame h.pend e1 e2
    simp only [kq, Prod.mk.injEq] at e1 e2
    obtain ⟨a1, a2, a3, a4, a5⟩ := e1
    obtain ⟨b1, b2, b3, b4, b5⟩ := e2
    refine ⟨hp, ?_, ?_, ?_, ?_, ?_, ?_, ?_⟩
    · have := h.wfs; unfold QWf at this ⊢; rw [a1, a2]; exact this
    · have := h.wft; unfold QWf at this ⊢; rw [b1, b2]; exact this
    · have := h.unr; unfold unread at this ⊢; rw [a1, a2, b1, b2]; exact this
    · rw [a1, b1]; exact h.len
    · rw [a1, b1]; exact h.emp
    · rw [a5]; exact h.rep
    · rw [a4]; exact h.icm
  read {s t} h hi := by
    have hp := h.pend.1
    cases hs : pending s with
    | nil => exact Or.inl ⟨termRead_eof s hs, termRead_eof t (hp ▸ hs)⟩
    | cons k rest =>
      have ht : pending t = k :: rest := hp ▸ hs
      obtain ⟨ib, ip, ty, e1, e2, e3, e4, e5⟩ := termRead_ok s k rest hs
      obtain ⟨ib', ip', ty', f1, f2, f3, f4, f5⟩ := termRead_ok t k rest ht
      refine Or.inr ⟨k, ib, ip, ty, ib', ip', ty', e1, f1, ⟨?_, ?_, h.pend.2.2⟩, e3, f3, ?_, ?_, ?_, h.rep, ?_⟩
      · show ib.drop ip ++ ty = ib'.drop ip' ++ ty'
        rw [e2, f2]
      · show icmdAfter s.icmd k = icmdAfter t.icmd k
        rw [hi]
      · -- unread
        have hu := h.unr
        have hws := h.wfs
        have hwt := h.wft
        unfold unread QWf at *
        show ib'.length - ip' ≤ ib.length - ip
        by_cases hn : s.ibuf.length ≤ s.ibufPos
        · obtain ⟨a, b, c⟩ := e5 hn
          have hn' : t.ibuf.length ≤ t.ibufPos := by omega
          obtain ⟨a', b', c'⟩ := f5 hn'
          subst a b a' b'
          simp
        · obtain ⟨a, b, c⟩ := e4 (by omega)
          by_cases hn' : t.ibuf.length ≤ t.ibufPos
          · obtain ⟨a', b', c'⟩ := f5 hn'
            subst a' b'
            simp
          · obtain ⟨a', b', c'⟩ := f4 (by omega)
            subst a b a' b'
            omega
      · show ib'.length ≤ max 1 ib.length
        have hl := h.len
        by_cases hn' : t.ibuf.length ≤ t.ibufPos
        · obtain ⟨a', b', c'⟩ := f5 hn'
          subst a'
          simp; omega
        · obtain ⟨a', b', c'⟩ := f4 (by omega)
          subst a'
          by_cases hn : s.ibuf.length ≤ s.ibufPos
          · -- `s` drained, `t` not: impossible
            have hu := h.unr
            have hwt := h.wft
            unfold unread QWf at *
            omega
          · obtain ⟨a, b, c⟩ := e4 (by omega)
            subst a
            exact hl
      · show ib = [] → ib' = []
        intro hib
        exfalso
        by_cases hn : s.ibuf.length ≤ s.ibufPos
        · obtain ⟨a, b, c⟩ := e5 hn
          rw [a] at hib; cases hib
        · obtain ⟨a, b, c⟩ := e4 (by omega)
          rw [a] at hib; rw [hib] at hn; simp at hn
      · show (icmdAfter s.icmd k).length ≤ 4096
        have := h.icm
        unfold icmdAfter
        split
        · simp only [List.length_append, List.length_singleton]; omega
        · exact this
  cmd h := ⟨qsim_pend.cmd h.pend, h.wfs, h.wft, h.unr, h.len, h.emp, h.rep, Nat.zero_le _⟩
  rep x hx _ _ h := ⟨qsim_pend.rep x hx h.pend, h.wfs, h.wft, h.unr, h.len, h.emp, hx, h.icm⟩

theorem K_gsim {s t : VS} : GSim QK Eq s t ↔ K s t := by
  constructor
  · intro h
    exact ⟨keyEq_gsim.1 { h with q := h.q.pend }, h.q.wfs, h.q.wft, h.q.unr, h.q.len, h.q.emp, h.q.rep, h.q.icm⟩
  · intro h
    have hg := keyEq_gsim.2 h.keq
    exact { hg with q := ⟨hg.q, h.wfs, h.wft, h.unr, h.len, h.emp, h.rep, h.icm⟩ }

theorem gr_relK {α : Type} {x y : Res α} : GR (GSim QK Eq) NoEsc x y ↔ RelK x y := by
  constructor
  · intro h
    cases h with
    | ok a s t h => exact RelK.ok a s t (K_gsim.1 h)
    | esc a b s t h => exact h.elim
    | eof => exact RelK.eof
    | trap => exact RelK.trap
  · intro h
    cases h with
    | ok a s t h => exact GR.ok a s t (K_gsim.2 h)
    | eof => exact GR.eof
    | trap => exact GR.trap

theorem resp_iff {α : Type} {m : M α} : G2 (GSim QK Eq) NoEsc m m ↔ Resp m :=
  ⟨fun h s t hst => gr_relK.1 (h s t (K_gsim.2 hst)), fun h s t hst => gr_relK.2 (h s t (K_gsim.1 hst))⟩

/-! ### the primitives -/

theorem resp_termRead : Resp termRead := resp_iff.1 (g2_termRead qsim_K)

theorem resp_termCmd : Resp termCmd := resp_iff.1 (g2_termCmd qsim_K)

theorem resp_pure {α : Type} (a : α) : Resp (pure a : M α) := fun s t h => RelK.ok a s t h

theorem resp_viRead : Resp viRead := resp_iff.1 (g2_viRead qsim_K)

theorem relK_bind {α β : Type} {m : M α} {f : α → M β} {s t : VS} (hm : RelK (m s) (m t))
    (hf : ∀ a s' t', m s = Res.ok a s' → m t = Res.ok a t' → K s' t' → RelK (f a s') (f a t')) :
    RelK ((m >>= f) s) ((m >>= f) t) :=
  gr_relK.1 (GR.bind_eq (gr_relK.2 hm) fun a s' t' e e' h => gr_relK.2 (hf a s' t' e e' (K_gsim.1 h)))

theorem resp_modify {f : VS → VS} (hf : Frame f) : Resp (Vi.modify f) := fun _ _ h => RelK.ok _ _ _ (h.upd hf)

theorem resp_modify' {f : VS → VS}
    (hf : ∀ s, norm (f s) = f (norm s) ∧ (f s).ibuf = s.ibuf ∧ (f s).ibufPos = s.ibufPos ∧
      (f s).repCmd = s.repCmd ∧ (f s).icmd = s.icmd) : Resp (Vi.modify f) := resp_modify hf

theorem resp_viBack (c : Int) : Resp (viBack c) := resp_iff.1 (g2_viBack qsim_K c)

theorem resp_bind {α β : Type} {m : M α} {f : α → M β} (hm : Resp m) (hf : ∀ a, Resp (f a)) :
    Resp (m >>= f) := fun s t h => relK_bind (hm s t h) fun a s' t' _ _ h' => hf a s' t' h'

theorem resp_trap {α : Type} : Resp (Vi.trap : M α) := fun _ _ _ => RelK.trap

theorem resp_get_bind {β : Type} {f : VS → M β} (hinv : ∀ s, f s = f (C09.norm s))
    (hf : ∀ s, Resp (f s)) : Resp (Vi.get >>= f) := by
  intro s t h
  show RelK (f s s) (f t t)
  rw [hinv s, hinv t, show C09.norm t = C09.norm s from h.keq.symm]
  exact hf _ s t h

theorem resp_ite' {α : Type} {c : Prop} [Decidable c] {a b : M α} (ha : c → Resp a)
    (hb : ¬ c → Resp b) : Resp (if c then a else b) :=
  resp_iff.1 (g2_ite (fun h => resp_iff.2 (ha h)) fun h => resp_iff.2 (hb h))

theorem resp_ite {α : Type} {c : Prop} [Decidable c] {a b : M α} (ha : Resp a) (hb : Resp b) :
    Resp (if c then a else b) := resp_ite' (fun _ => ha) fun _ => hb

theorem resp_readKey : Resp readKey := resp_iff.1 (g2_readKey qsim_K bsim_eq)

theorem resp_readCharS (c : Int) (kmap : Nat) : Resp (readCharS c kmap) := resp_iff.1 (g2_readCharS qsim_K bsim_eq c kmap)


end Neatvi.Lemmas.C09b
