import NeatviVerif.Lemmas.C09bDot
import NeatviVerif.Lemmas.ViRun
/-!
# C09b: whole runs

`iterate n s` (`Lemmas/ViRun.lean`) is the state after `n` iterations of `vi()`.  `stepOk s` is the proviso
of C09 at the iteration that starts in `s` ("no `.`/`@` pushes while pushed keys are unread, and `ibuf` has
room"), computed by running the model; `runOk n s` is the proviso along the first `n` iterations.

* `commandTail_K`, `viStep_K`: the command switch, hence one iteration (`C09.gr_viStep`), keeps the simulation relation
  `K`, under `stepOk` (or on the diagonal);
* `run_K`: so do `n` iterations, under `runOk`;
* `run_inv`: the unary invariants (`ibuf_pos ≤ ibuf_cnt`, `rep_len + 1 < 4096`, `icmd_pos ≤ 4096`) hold
  along every run, without any proviso.
-/
namespace Neatvi.Lemmas.C09b
open Neatvi Neatvi.Vi Neatvi.Ex Neatvi.Lemmas.C09
open Neatvi.Props.C05c (iterate)

/-- **the proviso at one iteration**: if the iteration is the command `.` or `@`, then at the moment of
the push (after the command key and, for `@`, the register name have been read) no pushed key is unread
and `ibuf` has room for what is pushed -/
def stepOk (s : VS) : Bool :=
  match viPre s with
  | Res.ok (mv, _, _) s1 =>
    if mv == 0 then
      match viRead s1 with
      | Res.ok c s2 =>
        if c == 46 then pushOk s2 (cnt1 s2) s2.repCmd
        else if c == 64 then
          match execHead (marked s2) with
          | Res.ok (some (n, x)) s3 => pushOk s3 n x
          | _ => true
        else true
      | _ => true
    else true
  | _ => true

/-- the proviso along the first `n` iterations -/
def runOk : Nat → VS → Bool
  | 0, _ => true
  | n + 1, s => stepOk s && match viStep s with
    | Res.ok _ s' => runOk n s'
    | _ => true

/-! ### the `.` and `@` commands -/

theorem relK_ok_inv {α : Type} {a : α} {s : VS} {r : Res α} (h : RelK (Res.ok a s) r) :
    ∃ t, r = Res.ok a t ∧ K s t := by
  cases h with
  | ok _ _ t hk => exact ⟨t, rfl, hk⟩

theorem commandTail_K_dot (s1 t1 s2 : VS) (h : K s1 t1) (hr : viRead s1 = Res.ok 46 s2)
    (hok : pushOk s2 (cnt1 s2) s2.repCmd = true ∨ s1 = t1) :
    RelK (commandTail s1) (commandTail t1) := by
  have hrel := resp_viRead s1 t1 h
  rw [hr] at hrel
  obtain ⟨t2, ht, h2⟩ := relK_ok_inv hrel
  rw [commandTail_dot' s1 s2 hr, commandTail_dot' t1 t2 ht]
  apply resp_finRec
  have hc : cnt1 t2 = cnt1 s2 := by unfold cnt1; rw [keyEq_arg1 h2.keq]
  have hrp : t2.repCmd = s2.repCmd := (keyEq_repCmd h2.keq).symm
  rw [hc, hrp]
  refine K_pushN _ _ _ _ (h2.upd frame_marked) ?_
  rcases hok with hok | rfl
  · left; exact hok
  · right
    rw [hr] at ht
    injection ht with _ e
    rw [e]

theorem execPush_K (o : Option (Nat × Bytes)) (s3 t3 : VS) (h : K s3 t3)
    (hok : (∀ n x, o = some (n, x) → pushOk s3 n x = true) ∨ s3 = t3) :
    RelK (execPush o s3) (execPush o t3) := by
  cases o with
  | none => exact RelK.ok _ _ _ h
  | some p =>
    obtain ⟨n, x⟩ := p
    show RelK (repeatM n (termPush x) s3) (repeatM n (termPush x) t3)
    rw [repeatM_push, repeatM_push]
    refine RelK.ok _ _ _ (K_pushN n x s3 t3 h ?_)
    rcases hok with hok | rfl
    · left; exact hok n x rfl
    · right; rfl

theorem commandTail_K_at (s1 t1 s2 : VS) (h : K s1 t1) (hr : viRead s1 = Res.ok 64 s2)
    (hok : (∀ n x s3, execHead (marked s2) = Res.ok (some (n, x)) s3 → pushOk s3 n x = true) ∨ s1 = t1) :
    RelK (commandTail s1) (commandTail t1) := by
  have hrel := resp_viRead s1 t1 h
  rw [hr] at hrel
  obtain ⟨t2, ht, h2⟩ := relK_ok_inv hrel
  rw [commandTail_at' s1 s2 hr, commandTail_at' t1 t2 ht]
  refine relK_bind (resp_execHead _ _ (h2.upd frame_marked)) (fun o s3 t3 hs3 ht3 h3 => ?_)
  refine relK_bind (execPush_K o s3 t3 h3 ?_) (fun _ s4 t4 _ _ h4 => resp_finRec _ _ _ s4 t4 h4)
  rcases hok with hok | rfl
  · left
    intro n x e
    subst e
    exact hok n x s3 hs3
  · right
    rw [hr] at ht
    injection ht with _ e
    subst e
    rw [hs3] at ht3
    injection ht3

theorem commandTail_K (s1 t1 : VS) (h : K s1 t1)
    (hok : (∀ c s2, viRead s1 = Res.ok c s2 →
        (c = 46 → pushOk s2 (cnt1 s2) s2.repCmd = true) ∧
        (c = 64 → ∀ n x s3, execHead (marked s2) = Res.ok (some (n, x)) s3 → pushOk s3 n x = true))
      ∨ s1 = t1) :
    RelK (commandTail s1) (commandTail t1) := by
  by_cases h46 : ∃ s2, viRead s1 = Res.ok 46 s2
  · obtain ⟨s2, hrd⟩ := h46
    exact commandTail_K_dot s1 t1 s2 h hrd (hok.imp_left fun hok => (hok 46 s2 hrd).1 rfl)
  · by_cases h64 : ∃ s2, viRead s1 = Res.ok 64 s2
    · obtain ⟨s2, hrd⟩ := h64
      exact commandTail_K_at s1 t1 s2 h hrd (hok.imp_left fun hok => (hok 64 s2 hrd).2 rfl)
    · exact commandTail_K_plain s1 t1 h fun s' => ⟨fun e => h46 ⟨s', e⟩, fun e => h64 ⟨s', e⟩⟩

theorem stepOk_spec (s s1 : VS) (r o : Int) (hp : viPre s = Res.ok (0, r, o) s1) (hok : stepOk s = true)
    (c : Int) (s2 : VS) (hr : viRead s1 = Res.ok c s2) :
    (c = 46 → pushOk s2 (cnt1 s2) s2.repCmd = true) ∧
    (c = 64 → ∀ n x s3, execHead (marked s2) = Res.ok (some (n, x)) s3 → pushOk s3 n x = true) := by
  unfold stepOk at hok
  rw [hp] at hok
  simp only [BEq.rfl, if_true, hr] at hok
  constructor
  · intro e; subst e
    simpa using hok
  · intro e n x s3 he; subst e
    simp only [show ((64 : Int) == 46) = false by decide, Bool.false_eq_true, if_false, BEq.rfl, if_true, he] at hok
    exact hok

/-- **one iteration of `vi()` keeps the simulation relation**, under the proviso (or when the two states
are the same) -/
theorem viStep_K (s t : VS) (h : K s t) (hok : stepOk s = true ∨ s = t) :
    RelK (viStep s) (viStep t) :=
  gr_relK.1 (gr_viStep qsim_K bsimS_eq (K_gsim.2 h) fun r o s1 t1 hs ht h1 =>
    gr_relK.2 (commandTail_K s1 t1 (K_gsim.1 h1) (hok.imp (fun hok c s2 hr => stepOk_spec s s1 r o hs hok c s2 hr)
      fun e => by subst e; rw [hs] at ht; injection ht)))

/-- related outcomes of a run -/
inductive RelO : Option VS → Option VS → Prop where
  | some (s t : VS) (h : K s t) : RelO (some s) (some t)
  | none : RelO none none

theorem iterate_zero (s : VS) : iterate 0 s = some s := rfl

theorem iterate_eof (n : Nat) (s : VS) (h : viStep s = Res.eof) : iterate (n + 1) s = none := by
  conv => lhs; unfold iterate
  rw [h]

theorem iterate_trap (n : Nat) (s : VS) (h : viStep s = Res.trap) : iterate (n + 1) s = none := by
  conv => lhs; unfold iterate
  rw [h]

theorem relK_eof_inv {α : Type} {r : Res α} (h : RelK (Res.eof : Res α) r) : r = Res.eof := by
  cases h; rfl

theorem relK_trap_inv {α : Type} {r : Res α} (h : RelK (Res.trap : Res α) r) : r = Res.trap := by
  cases h; rfl

/-- **a whole run keeps the simulation relation**, under the proviso along the run (or when the two
initial states are the same) -/
theorem run_K (n : Nat) (s t : VS) (h : K s t) (hok : runOk n s = true ∨ s = t) :
    RelO (iterate n s) (iterate n t) := by
  rcases runs_rel (R := GSim QK Eq) (C := fun n s t => runOk n s = true ∨ s = t) (p := id) (run := iterate) (run' := iterate)
      (fun _ => rfl) (fun _ => rfl) (fun _ _ => rfl) (fun _ _ => rfl)
      (fun n s t h hc => gr_relK.2 (viStep_K s t (K_gsim.1 h) (hc.imp_left fun hc => by
        unfold runOk at hc
        simp only [Bool.and_eq_true] at hc
        exact hc.1)))
      (fun n s t u s' t' h' hc hs ht => ⟨h', by
        rcases hc with hc | e
        · left
          unfold runOk at hc
          simp only [Bool.and_eq_true, hs] at hc
          exact hc.2
        · right
          subst e
          rw [hs] at ht
          injection ht⟩)
      n s t (K_gsim.2 h) hok with ⟨s', t', e1, e2, h'⟩ | ⟨e1, e2⟩
  · rw [e1, e2]; exact RelO.some _ _ (K_gsim.1 h')
  · rw [e1, e2]; exact RelO.none

/-- **the invariants of the key queue and of the recording buffers hold along every run** -/
theorem run_inv (n : Nat) (s s' : VS) (h : Inv s) (hr : iterate n s = some s') : Inv s' := by
  have := run_K n s s (K.refl h) (Or.inr rfl)
  rw [hr] at this
  cases this with
  | some _ _ hk => exact hk.inv_left

/-- **pushed or typed, a whole run cannot tell**: the run from `s` and the run from the state in which
everything pending has been typed at the terminal instead go through `K`-related (hence `KeyEq`) states -/
theorem run_norm (n : Nat) (s : VS) (h : Inv s) (hok : runOk n s = true) :
    RelO (iterate n s) (iterate n (C09.norm s)) :=
  run_K n s (C09.norm s) (K.norm h) (Or.inl hok)

end Neatvi.Lemmas.C09b
