import NeatviVerif.Lemmas.C09bRel
/-!
# C09b: the parts of an iteration of `vi()` under the simulation relation `K`

`Resp` (`K` is kept) for the parts of an iteration: the walk through vi.c of `Lemmas/C09WalkCmd.lean`, read for `K`.
`stepMid` (`Lemmas/ViStages.lean`) is the part of an iteration between `viPre` and `viPost`; its command switch keeps `K` unless the
key is `.` or `@` (`commandTail_K_plain`).  The `.` / `@` commands are in `C09bDot`; the switch with them
(`commandTail_K`) and whole iterations in `C09bRun`.
-/
namespace Neatvi.Lemmas.C09b
open Neatvi Neatvi.Vi Neatvi.Ex Neatvi.Lemmas.C09

theorem resp_viNextline : Resp viNextline := resp_iff.1 (g2_viNextline qsim_K)

theorem resp_finRec (c k : Int) (mod : Nat) : Resp (finRec c k mod) := resp_iff.1 (g2_finRec (B := Eq) qsim_K c k mod)

theorem resp_viPre : Resp viPre := resp_iff.1 (g2_viPre qsim_K bsimS_eq)

theorem resp_motionTail (mv nrow noff : Int) : Resp (motionTail mv nrow noff) :=
  resp_iff.1 (g2_motionTail qsim_K bsim_eq mv nrow noff)

theorem resp_viPost (cont : Option Nat) : Resp (viPost cont) := resp_iff.1 (g2_viPost qsim_K bsim_eq cont)

theorem resp_unmodelled : Resp Vi.unmodelled := resp_iff.1 (g2_unmodelled qsim_K)
theorem resp_setPos (r o : Int) : Resp (setPos r o) := resp_iff.1 (g2_setPos qsim_K r o)
theorem resp_setRow (r : Int) : Resp (setRow r) := resp_iff.1 (g2_setRow qsim_K r)
theorem resp_setOff (o : Int) : Resp (setOff o) := resp_iff.1 (g2_setOff qsim_K o)
theorem resp_setTop (t : Int) : Resp (setTop t) := resp_iff.1 (g2_setTop qsim_K t)
theorem resp_markSet (c : Nat) (r o : Int) : Resp (markSet c r o) := resp_iff.1 (g2_markSet qsim_K bsim_eq c r o)
theorem resp_regPut (c : Nat) (x : Bytes) (ln : Nat) : Resp (regPut c x ln) := resp_iff.1 (g2_regPut qsim_K c x ln)
theorem resp_lbufModified : Resp lbufModified := resp_iff.1 (g2_lbufModified qsim_K bsim_eq)
theorem resp_liftO {α : Type} (o : Option α) : Resp (liftO o) := resp_iff.1 (g2_liftO o)
theorem resp_edEdit (txt : Option Bytes) (b e : Int) : Resp (edEdit txt b e) :=
  resp_iff.1 (g2_edEdit qsim_K bsimS_eq txt b e)
theorem resp_withEd (f : Ed → Ed) : Resp (withEd f) :=
  resp_iff.1 (g2_withEd qsim_K fun _ _ h => edG_eq.2 (congrArg f (edG_eq.1 h)))
theorem resp_repeatM (n : Nat) {m : M Unit} (hm : Resp m) : Resp (repeatM n m) :=
  resp_iff.1 (g2_repeatM n (resp_iff.2 hm))
theorem resp_ledLine (pref post ai0 : Bytes) (aiMax : Nat) (im ex : Bool) :
    Resp (ledLine pref post ai0 aiMax im ex) := resp_iff.1 (g2_ledLine qsim_K bsim_eq pref post ai0 aiMax im ex)

theorem resp_viChar : Resp viChar := resp_iff.1 (g2_viChar qsim_K bsim_eq)
theorem resp_viMotion (row off : Int) : Resp (viMotion row off) := resp_iff.1 (g2_viMotion0 qsim_K bsimS_eq row off)
theorem resp_viMotionln (row cmd : Int) : Resp (viMotionln row cmd) := resp_iff.1 (g2_viMotionln0 qsim_K bsimS_eq row cmd)
theorem resp_viPrefix : Resp viPrefix := resp_iff.1 (g2_viPrefix qsim_K bsim_eq)
theorem resp_viPrompt (ex : Bool) : Resp (viPrompt ex) := resp_iff.1 (g2_viPrompt qsim_K bsim_eq ex)
theorem resp_viYankbuf : Resp viYankbuf := resp_iff.1 (g2_viYankbuf qsim_K bsim_eq)

theorem resp_vcMotion (cmd : Nat) : Resp (vcMotion cmd) := resp_iff.1 (g2_vcMotion qsim_K bsimS_eq cmd)
theorem resp_vcInsert (cmd : Nat) : Resp (vcInsert cmd) := resp_iff.1 (g2_vcInsert qsim_K bsimS_eq cmd)
theorem resp_vcPut (cmd : Nat) : Resp (vcPut cmd) := resp_iff.1 (g2_vcPut qsim_K bsimS_eq cmd)
theorem resp_vcJoin : Resp vcJoin := resp_iff.1 (g2_vcJoin qsim_K bsimS_eq)
theorem resp_vcReplace : Resp vcReplace := resp_iff.1 (g2_vcReplace qsim_K bsimS_eq)
theorem resp_scrollForward (cnt : Int) : Resp (scrollForward cnt) := resp_iff.1 (g2_scrollForward qsim_K bsim_eq cnt)
theorem resp_scrollBackward (cnt : Int) : Resp (scrollBackward cnt) := resp_iff.1 (g2_scrollBackward qsim_K bsim_eq cnt)
theorem resp_exCommandV (ln : Bytes) : Resp (exCommandV ln) := resp_iff.1 (g2_exCommandV qsim_K bsimS_eq ln)

theorem commandTail_K_plain (s t : VS) (h : K s t)
    (hk : ∀ s', viRead s ≠ Res.ok 46 s' ∧ viRead s ≠ Res.ok 64 s') :
    RelK (commandTail s) (commandTail t) :=
  gr_relK.1 (gr_commandTail qsim_K bsimS_eq (K_gsim.2 h) hk)

end Neatvi.Lemmas.C09b
