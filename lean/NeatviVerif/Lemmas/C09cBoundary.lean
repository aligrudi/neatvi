import NeatviVerif.Lemmas.C09cExtra
/-!
# C09c: between two commands the sequence numbers of the current buffer lie strictly below its counter

The last thing an iteration of `vi()` does is `lbuf_modified(xb)` (twice).  `viPost_end`: the end of an iteration as a
function of the state before it, read off the closed form of `viPost` (`C19f.viPostRest_run`, `Lemmas/ViStages.lean`).

`Settled s`, a condition on the state alone: `vi_wfix()` and the horizontal scroll have nothing to do in `s`; then the
iteration that executes `.` leaves cursor and window where they are (`DotSettled`).
-/
namespace Neatvi.Lemmas.C09c
open Neatvi Neatvi.Uc Neatvi.Lbuf Neatvi.Ex Neatvi.Vi Neatvi.Mot
open Neatvi.Lemmas.C07 (bind_apply)
open Neatvi.Lemmas.C09b (stepMid afterKey)

theorem seqStrict_bump {lb : Lb} (h : SeqOk lb) : SeqStrict (modified lb).2 := by
  obtain ⟨h1, h2, h3⟩ := h
  refine ⟨?_, ?_, fun e he => ?_⟩
  · show lb.useqZero < lb.useq + 1; omega
  · show lb.useqLast < lb.useq + 1; omega
  · have := h3 e he
    show e.seq < lb.useq + 1
    omega

theorem seqOk_bump {lb : Lb} (h : SeqOk lb) : SeqOk (modified lb).2 := by
  obtain ⟨h1, h2, h3⟩ := seqStrict_bump h
  exact ⟨Nat.le_of_lt h1, Nat.le_of_lt h2, fun e he => Nat.le_of_lt (h3 e he)⟩

theorem dotSeqOk_bumpEd {e : Ed} (h : EdSeqOk e) : DotSeqOk (bumpEd e) := by
  unfold bumpEd
  cases hb : e.bufs with
  | nil =>
    have hl : e.lb = none := by unfold Ed.lb Ed.cur; rw [hb]; rfl
    rw [hl]
    refine ⟨h, fun b hc => ?_⟩
    unfold Ed.cur at hc; rw [hb] at hc; cases hc
  | cons x l =>
    cases x with
    | none =>
      have hl : e.lb = none := by unfold Ed.lb Ed.cur; rw [hb]; rfl
      rw [hl]
      refine ⟨h, fun b hc => ?_⟩
      unfold Ed.cur at hc; rw [hb] at hc; cases hc
    | some b =>
      have hl : e.lb = some b.lb := by unfold Ed.lb Ed.cur; rw [hb]; rfl
      rw [hl]
      have hbufs : (e.setLb (modified b.lb).2).bufs = some { b with lb := (modified b.lb).2 } :: l := by
        simp [Ed.setLb, Ed.cur, Ed.setCur, hb]
      have hb0 : SeqOk b.lb := h b (by rw [hb]; simp)
      refine ⟨fun c hc => ?_, fun c hc => ?_⟩
      · rw [hbufs] at hc
        rcases List.mem_cons.mp hc with e1 | e1
        · cases e1; exact seqOk_bump hb0
        · exact h c (by rw [hb]; simp [e1])
      · unfold Ed.cur at hc
        rw [hbufs] at hc
        cases hc
        exact seqStrict_bump hb0

theorem peel {α : Type} {m : M α} {f : α → M Unit} (hm : Rel2 false NoEsc m m) {Z s : VS} (hZ : EdSeqOk Z.ed)
    (h : (m >>= f) Z = Res.ok () s) : ∃ a Z', EdSeqOk Z'.ed ∧ f a Z' = Res.ok () s := by
  obtain ⟨a, Z', hz, h'⟩ := Lemmas.C07.bind_inv _ _ _ _ _ h
  exact ⟨a, Z', keeps_seqOk hm hZ hz, h'⟩

theorem viWait_out {Z Z2 : VS} (hZ : EdSeqOk Z.ed) (h : viWait Z = Res.ok () Z2) :
    ∃ Z3 : VS, EdSeqOk Z3.ed ∧ Z2 = { Z3 with ed := { Z3.ed with out := [] } } := by
  unfold viWait at h
  simp only [bind_apply, Vi.get] at h
  split at h
  · obtain ⟨a, Z3, hl, h'⟩ := Lemmas.C07.bind_inv _ _ _ _ _ h
    refine ⟨Z3, keeps_seqOk (rel2_ledLine (E := NoEsc) _ _ _ _ _ _) hZ hl, ?_⟩
    cases h'
    rfl
  · refine ⟨Z, hZ, ?_⟩
    cases h
    rfl

theorem postTail_end {Z s : VS} (hZ : EdSeqOk Z.ed)
    (h : (do viWait; lbufModified; lbufModified : M Unit) Z = Res.ok () s) :
    ∃ Y : VS, EdSeqOk Y.ed ∧ s = { Y with ed := bumpEd (bumpEd { Y.ed with out := [] }) } := by
  obtain ⟨u, Z2, hw, h'⟩ := Lemmas.C07.bind_inv _ _ _ _ _ h
  obtain ⟨Y, hy, e⟩ := viWait_out hZ hw
  refine ⟨Y, hy, ?_⟩
  subst e
  cases h'
  rfl

theorem viPost_end (mod : Nat) (X s : VS) (hq : X.ed.xquit = false) (hX : EdSeqOk X.ed)
    (h : viPost (some mod) X = Res.ok () s) :
    ∃ Y : VS, EdSeqOk Y.ed ∧ s = { Y with ed := bumpEd (bumpEd { Y.ed with out := [] }) } := by
  rw [Lemmas.C07.viPost_some, bind_apply, viWfix_eq] at h
  have h0 : Lemmas.C07.viPostRest mod { X with ed := wfixEd X } = Res.ok () s := h
  rw [Lemmas.C19f.viPostRest_run mod { X with ed := wfixEd X } hq] at h0
  -- the assignments of the sticky column and of `xleft` (`postState`) leave the buffer table alone
  exact postTail_end (Z := Lemmas.C19f.postState mod { X with ed := wfixEd X }) hX h0

theorem rel2_stepMid {E : Option Nat → Option Nat → Prop} (mv r o : Int) : Rel2 false E (stepMid mv r o) (stepMid mv r o) := by
  exact rel2_iff.1 fun s t h => C09.gr_stepMid qsim_eq bsimS_rel mv r o h fun _ => C09.g2_commandTail qsim_eq bsimS_rel qpush_eq s t h

theorem dotSeqOk_bump2 {e : Ed} (h : EdSeqOk e) : DotSeqOk (bumpEd (bumpEd e)) := dotSeqOk_bumpEd (dotSeqOk_bumpEd h).1

theorem all2_paths {l l' : List (Option Buf)} (h : All2 (OBufRel false) l l') :
    l.map (Option.map (·.path)) = l'.map (Option.map (·.path)) := by
  induction h with
  | nil => rfl
  | cons h1 _ ih => simp only [List.map_cons, ih, h1.path_eq]

theorem bufsRel_paths {w : Bool} {l l' : List (Option Buf)} (h : BufsRel w l l') :
    l.map (Option.map (·.path)) = l'.map (Option.map (·.path)) := by
  rcases h.cases with ⟨rfl, rfl⟩ | ⟨_, _, _, _, rfl, rfl, h1, h2⟩
  · rfl
  · simp only [List.map_cons, all2_paths h2, h1.path_eq]

/-- **what two related `ex` states show alike**: the text of the current buffer, the cursor, the registers, the dirty
flag of the current buffer, the names of all buffers, the window; and, without the exemption, all marks -/
theorem EdRel.observables {w : Bool} {a b : Ed} (h : EdRel w a b) :
    a.lb.map (·.lines) = b.lb.map (·.lines) ∧ a.xrow = b.xrow ∧ a.xoff = b.xoff ∧ a.regs = b.regs ∧
    a.lb.map (fun l => (modified l).1) = b.lb.map (fun l => (modified l).1) ∧
    a.bufs.map (Option.map (·.path)) = b.bufs.map (Option.map (·.path)) ∧ a.xtop = b.xtop ∧ a.xleft = b.xleft ∧
    (w = false → a.lb.map (·.mark) = b.lb.map (·.mark) ∧ a.lb.map (·.markOff) = b.lb.map (·.markOff)) := by
  refine ⟨h.lines_eq, h.xrow, h.xoff, h.regs, ?_, bufsRel_paths h.bufs, h.xtop, h.xleft, ?_⟩
  · rcases h.lb_cases with ⟨r1, r2⟩ | ⟨la, lb, r1, r2, hl⟩
    · rw [r1, r2]
    · rw [r1, r2]
      simp only [Option.map_some, (modified_rel hl).1]
  · intro hw
    subst hw
    rcases h.lb_cases with ⟨r1, r2⟩ | ⟨la, lb, r1, r2, hl⟩
    · rw [r1, r2]; exact ⟨rfl, rfl⟩
    · rw [r1, r2]
      simp only [Option.map_some, hl.mark_eq, hl.markOff_eq]
      exact ⟨trivial, trivial⟩

theorem bumpEd_nbw (e : Ed) : (bumpEd e).xrow = e.xrow ∧ (bumpEd e).xoff = e.xoff ∧ (bumpEd e).xtop = e.xtop ∧
    (bumpEd e).xleft = e.xleft := by
  unfold bumpEd
  split
  · rw [Lemmas.C06.setLb_fields]; exact ⟨rfl, rfl, rfl, rfl⟩
  · exact ⟨rfl, rfl, rfl, rfl⟩

theorem leftEd_keep (c w : Int) (e : Ed) (h1 : e.xleft ≤ c) (h2 : c < e.xleft + w) : leftEd c w e = e := by
  unfold leftEd
  dsimp only
  rw [if_neg (show ¬ c ≥ e.xleft + w by omega)]
  rw [if_neg (show ¬ c < e.xleft by omega)]

theorem lines_dotMid (s : VS) (rest : Bytes) : lines (dotMid s rest) = lines s := by
  have h : (dotMid s rest).ed.lb = s.ed.lb.map (fun lb => Lbuf.setMark lb 94 s.ed.xrow s.ed.xoff) :=
    Lemmas.C09b.marked_lb (afterKey s 46 rest)
  unfold lines
  rw [h]
  cases s.ed.lb with
  | none => rfl
  | some lb => simp [Lemmas.C09b.setMark_lines]

/-- the text of the current buffer, from the buffer table -/
def linesOf (l : List (Option Buf)) : Lines := match (l.getD 0 none).map (·.lb) with | some lb => lb.lines | none => []

theorem lines_bufs (A : VS) : lines A = linesOf A.ed.bufs := rfl

theorem wfixEd_congr (X Y : VS) (hl : lines X = lines Y) (h1 : X.ed.xrow = Y.ed.xrow) (h2 : X.ed.xtop = Y.ed.xtop)
    (h3 : X.ed.xoff = Y.ed.xoff) (h4 : X.xrows = Y.xrows) :
    (wfixEd X).xrow = (wfixEd Y).xrow ∧ (wfixEd X).xtop = (wfixEd Y).xtop ∧ (wfixEd X).xoff = (wfixEd Y).xoff := by
  rw [lines_bufs, lines_bufs] at hl
  unfold wfixEd
  simp only [lenOf, lineOf, lines_bufs, hl, h1, h2, h3, h4]
  exact ⟨rfl, rfl, rfl⟩

/-- **`vi_wfix()` and the horizontal scroll have nothing to do in `s`**: the cursor row, the top row and the column are
where `vi_wfix()` would put them, the sticky column is inside the horizontal window — what the end of an iteration
establishes -/
def Settled (s : VS) : Prop :=
  (wfixEd s).xrow = s.ed.xrow ∧ (wfixEd s).xtop = s.ed.xtop ∧ (wfixEd s).xoff = s.ed.xoff ∧
  s.ed.xleft ≤ s.xcol ∧ s.xcol < s.ed.xleft + s.xcols

instance (s : VS) : Decidable (Settled s) := by unfold Settled; infer_instance

end Neatvi.Lemmas.C09c
