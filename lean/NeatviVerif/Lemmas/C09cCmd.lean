import NeatviVerif.Lemmas.C09cEd
import NeatviVerif.Props.C20c
import NeatviVerif.Lemmas.C05dDecomp
import NeatviVerif.Lemmas.C02dScript
/-!
# C09c: the address parser, path expansion, `ex_txt`, `:w`, `:p`, `:s` and the loops of `:q`, `:b`, `:g` on related states

The address parser, the path expansion, `ex_txt` and the handlers that work on the current buffer are read off the
two-run congruence of the ex layer (`Lemmas/ExCong.lean`) at `renum_cong`.  `:q` and `:b` go through the whole buffer
table and `:g` calls `ex_exec`: they are walked here, over the cuts of their own regions (`C20b.ecBufferTail_eq`,
`C05d.ecGlob_eq'`).
-/
namespace Neatvi.Lemmas.C09c
open Neatvi Neatvi.Lbuf Neatvi.LbufIo Neatvi.Ex Neatvi.Rset

/-- read the result of a related call: both fail, or both return the same value and related states -/
macro "rrel_cases " t:term " with " v:rcasesPat a:rcasesPat b:rcasesPat h:rcasesPat : tactic =>
  `(tactic| (rcases RRel.cases $t with ⟨r1, r2⟩ | ⟨$v:rcasesPat, $a:rcasesPat, $b:rcasesPat, r1, r2, $h:rcasesPat⟩ <;> rw [r1, r2]))

theorem exRegion_rel {a b : Ed} (h : EdRel false a b) (loc : Bytes) : RRel (exRegion a loc) (exRegion b loc) :=
  RRel.of_r2 (ExCong.exRegion_rel renum_cong h.edG loc)

theorem pathExpand_rel {a b : Ed} (h : EdRel false a b) (src : Bytes) (sp : Bool) :
    RRel (pathExpand a src sp) (pathExpand b src sp) :=
  RRel.of_r2 (ExCong.pathExpand_rel renum_cong h.edG src sp)

theorem exTxt_rel {a b : Ed} (h : EdRel false a b) (src excmd : Bytes) :
    (exTxt a src excmd).1 = (exTxt b src excmd).1 ∧ EdRel false (exTxt a src excmd).2 (exTxt b src excmd).2 :=
  ⟨(ExCong.exTxt_rel h.edG src excmd).1, (ExCong.exTxt_rel h.edG src excmd).2.edRel⟩

theorem ecWrite_rel {a b : Ed} (h : EdRel false a b) (loc cmd arg : Bytes) :
    RRel (ecWrite a loc cmd arg) (ecWrite b loc cmd arg) :=
  RRel.of_r2 (ExCong.ecWrite_rel renum_cong h.edG loc cmd arg)

open Neatvi.Lemmas.C05d (gPrep gMark gSweep gBudget ecGlob_eq')
open Neatvi.Lemmas.C02d (bufferS runCmd_buffer)

theorem foldl_print_rel (x : Int) : ∀ (l : List Nat) (a b : Ed), EdRel false a b →
    EdRel false
      (l.foldl (fun (ed : Ed) (k : Nat) => match ed.line (x + (k : Int)) with | some l => ed.print l | none => ed) a)
      (l.foldl (fun (ed : Ed) (k : Nat) => match ed.line (x + (k : Int)) with | some l => ed.print l | none => ed) b) :=
  fun l a b h => (ExCong.foldl_print_rel renum_cong x l a b h.edG).edRel

/-! ### `:q` -/

theorem each_rel (cmd : Bytes) (all : Bool) : ∀ (g i : Nat) (a b : Ed), EdRel false a b →
    RRel (runCmd.each cmd all g i a) (runCmd.each cmd all g i b) := by
  intro g
  induction g with
  | zero => intro i a b h; rw [runCmd.each.eq_1, runCmd.each.eq_1]; exact RRel.some h
  | succ g ih =>
    intro i a b h
    rw [runCmd.each.eq_2, runCmd.each.eq_2, h.bufs_length]
    refine RRel.ite (fun _ => RRel.some h) fun _ => ?_
    rcases (h.getD i).cases with ⟨r1, r2⟩ | ⟨p, q, r1, r2, _⟩
    · rw [r1, r2]; exact ih _ _ _ h
    · rw [r1, r2]
      simp only []
      rrel_cases guard_rel h (!all && !hasBang cmd) i (some (strOf "buffer modified")) with v a1 b1 h1
      · trivial
      · cases v with
        | true => exact RRel.some (bufsSwitch_rel h1 i)
        | false =>
          refine RRel.ite (fun _ => ?_) fun _ => ih _ _ _ h1
          rcases (h1.getD i).cases with ⟨s1, s2⟩ | ⟨p', q', s1, s2, hpq⟩
          · rw [s1, s2]; trivial
          · rw [s1, s2]
            simp only []
            rw [hpq.path, hpq.mtime]
            rrel_cases lbufSaveP_rel h1 hpq.lb.lines 0 (-1) q'.path (hasBang cmd) q'.mtime with w a2 b2 h2
            · trivial
            · cases w with
              | some err => exact RRel.some (show_rel (bufsSwitch_rel h2 i) err)
              | none => exact ih _ _ _ h2

theorem subst_rel (f : Nat) {a b : Ed} (h : EdRel false a b) (loc cmd arg : Bytes) (txt : Option Bytes) :
    RRel (runCmd (f + 1) a "ec_substitute" loc cmd arg txt) (runCmd (f + 1) b "ec_substitute" loc cmd arg txt) :=
  by
  rw [Lemmas.C20.runCmd_subst, Lemmas.C20.runCmd_subst]
  exact RRel.of_r2 (ExCong.ecSubst_rel renum_cong h.edG loc arg)

/-! ### `:b` -/

theorem listFold_rel : ∀ (l : List Nat) (p q : Bool × Ed), p.1 = q.1 → EdRel false p.2 q.2 →
    (l.foldl C20c.listStep p).1 = (l.foldl C20c.listStep q).1 ∧
      EdRel false (l.foldl C20c.listStep p).2 (l.foldl C20c.listStep q).2 := by
  intro l
  induction l with
  | nil => intro p q h1 h2; exact ⟨h1, h2⟩
  | cons i l ih =>
    intro p q h1 h2
    rw [List.foldl_cons, List.foldl_cons]
    obtain ⟨go, a⟩ := p
    obtain ⟨go', b⟩ := q
    simp only at h1 h2
    subst h1
    have : (C20c.listStep (go, a) i).1 = (C20c.listStep (go, b) i).1 ∧
        EdRel false (C20c.listStep (go, a) i).2 (C20c.listStep (go, b) i).2 := by
      unfold C20c.listStep
      simp only []
      split
      · exact ⟨rfl, h2⟩
      · rcases (h2.getD i).cases with ⟨r1, r2⟩ | ⟨x, y, r1, r2, hxy⟩
        · rw [r1, r2]; exact ⟨rfl, h2⟩
        · rw [r1, r2]
          simp only []
          have hm := modifiedAt_rel h2 i
          rw [hm.1, hxy.id, hxy.path]
          exact ⟨trivial, print_rel hm.2 _⟩
    exact ih _ _ this.1 this.2

theorem renum_rel : ∀ (l l' : List (Option Buf)), All2 (OBufRel false) l l' →
    ∀ (acc acc' : List (Option Buf) × Int), All2 (OBufRel false) acc.1 acc'.1 → acc.2 = acc'.2 →
    All2 (OBufRel false) (l.foldl C20b.renumStep acc).1 (l'.foldl C20b.renumStep acc').1 ∧
      (l.foldl C20b.renumStep acc).2 = (l'.foldl C20b.renumStep acc').2 := by
  intro l l' h
  induction h with
  | nil => intro acc acc' h1 h2; exact ⟨h1, h2⟩
  | cons hxy _ ih =>
    intro acc acc' h1 h2
    rw [List.foldl_cons, List.foldl_cons]
    rcases hxy.cases with ⟨rfl, rfl⟩ | ⟨p, q, rfl, rfl, hpq⟩
    · exact ih _ _ (All2.append h1 (All2.single (by trivial))) h2
    · refine ih _ _ (All2.append h1 (All2.single ?_)) (congrArg (· + 1) h2)
      show BufRel false _ _
      exact { hpq with id := congrArg (· + 1) h2 }

open Neatvi.Props.C20b (bufIdx switchTo delEd renumEd freshBuf curId nextIdx prevIdx ecBufferTail_eq) in
theorem bufIdx_rel {a b : Ed} (h : EdRel false a b) (arg : Bytes) : bufIdx a arg = bufIdx b arg := by
  have hi : Lemmas.C20c.idAt a = Lemmas.C20c.idAt b := funext fun i => (h.getD i).id_eq
  unfold bufIdx nextIdx prevIdx curId
  rw [hi, h.bufs_length, h.cur_id]

open Neatvi.Props.C20b (switchTo) in
theorem switchTo_rel {a b : Ed} (h : EdRel false a b) (cmd : Bytes) (idx : Int) :
    RRel (switchTo a cmd idx) (switchTo b cmd idx) := by
  unfold switchTo Props.C20.bufferGuard
  rw [h.bufs_length, (h.getD idx.toNat).isSome_eq, h.xwa]
  split
  · rrel_cases guard_rel h (b.xwa == 0 && !hasBang cmd) 0 (some (strOf "buffer modified")) with v a1 b1 h1
    · trivial
    · cases v with
      | true => exact RRel.some h1
      | false => exact RRel.some (bufsSwitch_rel h1 _)
  · exact RRel.some (show_rel h _)

open Neatvi.Props.C20b (switchTo delEd renumEd freshBuf bufIdx ecBufferTail_eq) in
/-- `ec_buffer` over its pieces (`C20c.listEd`, `C20b.ecBufferTail_eq`) -/
theorem bufferS_rel {a b : Ed} (h : EdRel false a b) (cmd arg : Bytes) : RRel (bufferS a cmd arg) (bufferS b cmd arg) := by
  unfold bufferS
  refine RRel.ite (fun _ => ?_) fun _ => ?_
  · -- the listing
    unfold C20c.listEd
    rw [h.bufs_length]
    exact RRel.some (listFold_rel (List.range b.bufs.length) (true, a) (true, b) rfl h).2
  rw [ecBufferTail_eq, ecBufferTail_eq]
  refine RRel.ite (fun _ => ?_) fun _ => RRel.ite (fun _ => ?_) fun _ => ?_
  · -- `:b !`
    unfold delEd
    have hs := bufsShift_rel h
    rw [hs.cur_isNone]
    split
    · refine RRel.some { withBufs_rel hs (hs.all.set 0 (show OBufRel false (some _) (some _) from ?_)) with
        bufsCnt := by show a.bufsShift.bufsCnt + 1 = b.bufsShift.bufsCnt + 1; rw [hs.bufsCnt] }
      unfold freshBuf
      rw [hs.bufsCnt]
      exact BufRel.refl seqOk_make false
    · exact RRel.some hs
  · -- `:b ~`
    unfold renumEd
    have := renum_rel a.bufs b.bufs h.all ([], 0) ([], 0) All2.nil rfl
    exact RRel.some { withBufs_rel h this.1 with bufsCnt := this.2 }
  · -- `:b N`, `:b +`, `:b -`, `:b %`
    rw [bufIdx_rel h]
    exact switchTo_rel h cmd _

/-! ### `:g` -/

theorem gPrep_rel {a b : Ed} (h : EdRel false a b) (arg : Bytes) : EdRel false (gPrep a arg) (gPrep b arg) := by
  unfold gPrep
  cases (reRead arg).1 with
  | none => exact h
  | some p => exact EdRel.ite rfl (kwdSet_rel h _ _) h

theorem gMark_fold_rel (x : Nat) (dep : Nat) : ∀ (l : List Nat) (a b : Ed), EdRel false a b →
    EdRel false
      (l.foldl (fun (ed : Ed) k => match ed.lb with | some lb => ed.setLb (globSet lb (x + 1 + k) dep) | none => ed) a)
      (l.foldl (fun (ed : Ed) k => match ed.lb with | some lb => ed.setLb (globSet lb (x + 1 + k) dep) | none => ed) b) := by
  intro l
  induction l with
  | nil => intro a b h; exact h
  | cons k l ih =>
    intro a b h
    rw [List.foldl_cons, List.foldl_cons]
    apply ih
    rcases h.lb_cases with ⟨r1, r2⟩ | ⟨la, lb, r1, r2, hl⟩
    · rw [r1, r2]; exact h
    · rw [r1, r2]; exact setLb_rel h (globSet_rel hl _ _)

theorem gMark_rel {a b : Ed} (h : EdRel false a b) (x e : Int) (dep : Nat) : EdRel false (gMark a x e dep) (gMark b x e dep) := by
  unfold gMark
  exact gMark_fold_rel _ _ _ _ _ { h with xgdep := rfl }

theorem gSweep_fold_rel (dep : Nat) : ∀ (l : List Nat) (la lb : Lb), LbRel false la lb →
    LbRel false (l.foldl (fun lb k => (globGet lb k dep).2) la) (l.foldl (fun lb k => (globGet lb k dep).2) lb) := by
  intro l
  induction l with
  | nil => intro la lb h; exact h
  | cons k l ih =>
    intro la lb h
    rw [List.foldl_cons, List.foldl_cons]
    exact ih _ _ (globGet_rel h k dep).2

theorem gSweep_rel {a b : Ed} (h : EdRel false a b) (dep : Nat) : EdRel false (gSweep a dep) (gSweep b dep) := by
  unfold gSweep
  rcases h.lb_cases with ⟨r1, r2⟩ | ⟨la, lb, r1, r2, hl⟩
  · rw [r1, r2]; exact h
  · rw [r1, r2]
    simp only []
    rw [hl.lines]
    exact setLb_rel h (gSweep_fold_rel dep _ _ _ hl)

theorem adv_rel (dep : Nat) : ∀ (n : Nat) (a b : Ed), EdRel false a b → ∀ i : Int,
    (ecGlob.scan.adv dep n a i).2 = (ecGlob.scan.adv dep n b i).2 ∧
      EdRel false (ecGlob.scan.adv dep n a i).1 (ecGlob.scan.adv dep n b i).1 := by
  intro n
  induction n with
  | zero => intro a b h i; rw [ecGlob.scan.adv.eq_1, ecGlob.scan.adv.eq_1]; exact ⟨rfl, h⟩
  | succ n ih =>
    intro a b h i
    rw [ecGlob.scan.adv.eq_2, ecGlob.scan.adv.eq_2, h.len_eq]
    split
    · exact ⟨rfl, h⟩
    · rcases h.lb_cases with ⟨r1, r2⟩ | ⟨la, lb, r1, r2, hl⟩
      · rw [r1, r2]; exact ⟨rfl, h⟩
      · rw [r1, r2]
        simp only []
        have hg := globGet_rel hl i.toNat dep
        rw [hg.1]
        split
        · exact ⟨rfl, setLb_rel h hg.2⟩
        · exact ih _ _ (setLb_rel h hg.2) _

theorem scan_rel (f : Nat) (hexec : ∀ a b ln, EdRel false a b → RRel (exExec f a ln) (exExec f b ln))
    (neg : Bool) (s : Bytes) (re : RStr) (dep : Nat) : ∀ (g : Nat) (a b : Ed), EdRel false a b → ∀ i : Int,
    ORel (EdRel false) (ecGlob.scan f neg s re dep g a i) (ecGlob.scan f neg s re dep g b i) := by
  intro g
  induction g with
  | zero => intro a b h i; rw [ecGlob.scan.eq_1, ecGlob.scan.eq_1]; trivial
  | succ g ih =>
    intro a b h i
    rw [ecGlob.scan.eq_2, ecGlob.scan.eq_2, h.len_eq, h.line_eq]
    split
    · exact h
    · cases b.line i with
      | none => trivial
      | some ln =>
        simp only []
        cases rstrFind re ln 16 0 ND NG with
        | none => trivial
        | some t =>
          obtain ⟨res, t1, t2⟩ := t
          simp only []
          have tail : ∀ (a1 b1 : Ed) (j : Int), EdRel false a1 b1 → ¬ j < 0 →
              ORel (EdRel false)
                (ecGlob.scan f neg s re dep g (ecGlob.scan.adv dep (a1.len.toNat + 1) a1 j).1 (ecGlob.scan.adv dep (a1.len.toNat + 1) a1 j).2)
                (ecGlob.scan f neg s re dep g (ecGlob.scan.adv dep (b1.len.toNat + 1) b1 j).1 (ecGlob.scan.adv dep (b1.len.toNat + 1) b1 j).2) := by
            intro a1 b1 j h2 _
            have ha := adv_rel dep (a1.len.toNat + 1) a1 b1 h2 j
            rw [h2.len_eq] at ha
            rw [h2.len_eq, ha.1]
            exact ih _ _ ha.2 _
          by_cases hc : (decide (res < 0) == neg) = true
          · simp only [hc, if_true]
            rrel_cases hexec { a with xrow := i } { b with xrow := i } s { h with xrow := rfl } with r a1 b1 h1
            · trivial
            · simp only []
              by_cases hr : (r != 0) = true
              · simp only [hr, if_true]; exact h1
              · simp only [hr, Bool.false_eq_true, if_false]
                rw [h1.xrow]
                split
                · trivial
                · exact tail _ _ _ h1 (by assumption)
          · simp only [hc, Bool.false_eq_true, if_false]
            split
            · trivial
            · exact tail _ _ _ h (by assumption)

theorem glob_rel (f : Nat) (hexec : ∀ a b ln, EdRel false a b → RRel (exExec f a ln) (exExec f b ln))
    {a b : Ed} (h : EdRel false a b) (loc cmd arg : Bytes) :
    RRel (ecGlob (f + 1) a loc cmd arg) (ecGlob (f + 1) b loc cmd arg) := by
  rw [ecGlob_eq', ecGlob_eq', h.xgdep]
  refine RRel.ite (fun _ => RRel.some (show_rel h _)) fun _ => ?_
  rrel_cases exRegion_rel h (if (loc.isEmpty && b.xgdep == 0) = true then [37] else loc) with v a1 b1 h1
  · trivial
  · obtain ⟨rc, x, e⟩ := v
    refine RRel.ite (fun _ => RRel.some h1) fun _ => ?_
    have hp := gPrep_rel h1 arg
    rw [hp.xkwddir, hp.mkRe_eq, hp.xkwd, hp.xgdep]
    refine RRel.ite (fun _ => RRel.some hp) fun _ => ?_
    cases (gPrep b1 arg).mkRe (gPrep b1 arg).xkwd with
    | none => trivial
    | some o =>
      cases o with
      | none => exact RRel.some hp
      | some re =>
        simp only []
        have hm := gMark_rel hp x e ((gPrep b1 arg).xgdep + 1)
        have hb : gBudget (gMark (gPrep a1 arg) x e ((gPrep b1 arg).xgdep + 1)) =
            gBudget (gMark (gPrep b1 arg) x e ((gPrep b1 arg).xgdep + 1)) := by
          unfold gBudget; rw [hm.len_eq]
        rw [hb]
        rcases (scan_rel f hexec _ (reRead arg).2 re _ _ _ _ hm x).cases with ⟨s1, s2⟩ | ⟨a2, b2, s1, s2, h2⟩
        · rw [s1, s2]; trivial
        · rw [s1, s2]
          exact RRel.some { gSweep_rel h2 _ with xgdep := rfl }

end Neatvi.Lemmas.C09c
