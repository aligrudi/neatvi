import NeatviVerif.Lemmas.C09bCount
import NeatviVerif.Lemmas.C09cVi
import NeatviVerif.Lemmas.C09cPostEd
/-!
# C09c: the iteration that executes `.`, as a function of the state

`dotState s rest`: the state after the iteration that executes a `.` typed at the terminal (no count, nothing pushed
unread).  Compared with the state before it: the recorded keys are pushed; `arg1`, `arg2`, `ybuf`, `icmd` are those of
the `.` command; in `ed` the mark `^` is set, `vi_wfix()` and the horizontal scroll have run, the pending output is
dropped, and `lbuf_modified()` has run twice.  That state, with the pushed keys typed instead, is related
(`Sim true`: up to the sequence numbers and the mark `^`) to the state before the `.` with the recorded keys typed
— when `vi_wfix()` had nothing to fix, nothing is waiting to be printed, and the sequence numbers of the current buffer
lie *strictly* below its counter (`Props.C09c.dot_state_related`; here: `postEd_bufsRel`, `lbRel_dot`, `EdRel.of_nb`).
-/
namespace Neatvi.Lemmas.C09c
open Neatvi Neatvi.Uc Neatvi.Lbuf Neatvi.Ex Neatvi.Vi Neatvi.Mot
open Neatvi.Lemmas.C09b (marked afterKey marked_ed_fields)

/-- the state in which `viPost` runs in the iteration that executes `.` -/
def dotMid (s : VS) (rest : Bytes) : VS :=
  { marked (afterKey s 46 rest) with icmd := [], ibuf := [46] ++ s.repCmd }

/-- **the state after the iteration that executes `.`** -/
def dotState (s : VS) (rest : Bytes) : VS := { dotMid s rest with ed := postEd (dotMid s rest) }

theorem leftEd_bufs (c w : Int) (e : Ed) : (leftEd c w e).bufs = e.bufs := by
  unfold leftEd; dsimp only; split <;> split <;> rfl

/-- what the end of an iteration leaves alone: everything but the buffer table, the cursor, the window, the output -/
def nb (e : Ed) : Ed := { e with bufs := [], xrow := 0, xoff := 0, xtop := 0, xleft := 0, out := [] }

theorem EdRel.of_nb {w : Bool} {a b : Ed} (hb : BufsRel w a.bufs b.bufs) (hn : nb a = nb b) (h1 : a.xrow = b.xrow)
    (h2 : a.xoff = b.xoff) (h3 : a.xtop = b.xtop) (h4 : a.xleft = b.xleft) (h5 : a.out = b.out) : EdRel w a b :=
  { bufs := hb, xrow := h1, xoff := h2, xtop := h3, xleft := h4, out := h5
    bufsCnt := (congrArg Ed.bufsCnt hn :)
    xtd := (congrArg Ed.xtd hn :)
    xquit := (congrArg Ed.xquit hn :)
    xvis := (congrArg Ed.xvis hn :)
    xaw := (congrArg Ed.xaw hn :)
    xwa := (congrArg Ed.xwa hn :)
    xic := (congrArg Ed.xic hn :)
    xkwd := (congrArg Ed.xkwd hn :)
    xrep := (congrArg Ed.xrep hn :)
    xkwddir := (congrArg Ed.xkwddir hn :)
    xgdep := (congrArg Ed.xgdep hn :)
    atDepth := (congrArg Ed.atDepth hn :)
    regs := (congrArg Ed.regs hn :)
    files := (congrArg Ed.files hn :)
    clock := (congrArg Ed.clock hn :)
    faults := (congrArg Ed.faults hn :)
    calls := (congrArg Ed.calls hn :)
    fired := (congrArg Ed.fired hn :)
    input := (congrArg Ed.input hn :)
    msg := (congrArg Ed.msg hn :)
    pipes := (congrArg Ed.pipes hn :)
    unmodelled := (congrArg Ed.unmodelled hn :) }

theorem nb_setLb (e : Ed) (lb : Lb) : nb (e.setLb lb) = nb e := by
  unfold Ed.setLb; split <;> rfl

theorem nb_bumpEd (e : Ed) : nb (bumpEd e) = nb e := by
  unfold bumpEd; split
  · exact nb_setLb _ _
  · rfl

theorem nb_leftEd (c w : Int) (e : Ed) : nb (leftEd c w e) = nb e := by
  unfold leftEd; dsimp only; split <;> split <;> rfl

theorem nb_postEd (X : VS) : nb (postEd X) = nb X.ed := by
  unfold postEd
  rw [nb_bumpEd, nb_bumpEd]
  show nb (leftEd X.xcol X.xcols (wfixEd X)) = nb X.ed
  rw [nb_leftEd]
  rfl

theorem postEd_bufs_cons (s : VS) (rest : Bytes) (b : Buf) (l : List (Option Buf)) (hb : s.ed.bufs = some b :: l) :
    (postEd (dotMid s rest)).bufs =
      some { b with lb := (modified (modified (setMark b.lb 94 s.ed.xrow s.ed.xoff)).2).2 } :: l := by
  simp [postEd, bumpEd, leftEd_bufs, wfixEd, dotMid, marked, afterKey, Ed.lb, Ed.cur, Ed.setLb, Ed.setCur, hb]

theorem postEd_bufs_nil (s : VS) (rest : Bytes) (hb : s.ed.bufs = []) : (postEd (dotMid s rest)).bufs = [] := by
  simp [postEd, bumpEd, leftEd_bufs, wfixEd, dotMid, marked, afterKey, Ed.lb, Ed.cur, hb]

theorem postEd_bufs_none (s : VS) (rest : Bytes) (l : List (Option Buf)) (hb : s.ed.bufs = none :: l) :
    (postEd (dotMid s rest)).bufs = none :: l := by
  simp [postEd, bumpEd, leftEd_bufs, wfixEd, dotMid, marked, afterKey, Ed.lb, Ed.cur, hb]

/-- the sequence numbers of a line buffer lie *strictly* below its counter (as they do between two commands: the last
thing a command does is to bump the counter) -/
def SeqStrict (lb : Lb) : Prop := lb.useqZero < lb.useq ∧ lb.useqLast < lb.useq ∧ ∀ e ∈ lb.hist, e.seq < lb.useq

theorem dotLb_eq (lb : Lb) (r o : Int) :
    (modified (modified (setMark lb 94 r o)).2).2 =
      { lb with mark := lb.mark.set 30 r, markOff := lb.markOff.set 30 o, useq := lb.useq + 1 + 1 } := by
  have hm : markIdx 94 = some 30 := by decide
  unfold setMark
  rw [hm]
  rfl

/-- **what `.` itself does to the line buffer** — the mark `^` and two bumps of the counter — is covered by the
relation, when the numbers lie strictly below the counter -/
theorem lbRel_dot (lb : Lb) (h : SeqStrict lb) (r o : Int) :
    LbRel true (modified (modified (setMark lb 94 r o)).2).2 lb := by
  rw [dotLb_eq]
  obtain ⟨hz, hl, hh⟩ := h
  have key : ∀ p, SeqP { lb with mark := lb.mark.set 30 r, markOff := lb.markOff.set 30 o, useq := lb.useq + 1 + 1 } lb p →
      p = (lb.useq + 1 + 1, lb.useq) ∨ (p.1 = p.2 ∧ p.1 < lb.useq) := by
    intro p hp
    rcases hp with rfl | rfl | rfl | hp
    · exact Or.inl rfl
    · exact Or.inr ⟨rfl, hz⟩
    · exact Or.inr ⟨rfl, hl⟩
    · obtain ⟨e1, e, he, e2⟩ := HP.refl_mem hp
      exact Or.inr ⟨e1, by rw [← e2]; exact hh e he⟩
  refine ⟨rfl, rfl, rfl, ?_, ?_, rfl, rfl, rfl, All2.refl _ fun e _ => EntRel.rfl' e, ?_, ?_⟩
  · intro p
    show (lb.mark.set 30 r).set 30 p = lb.mark.set 30 p
    rw [List.set_set]
  · intro p
    show (lb.markOff.set 30 o).set 30 p = lb.markOff.set 30 p
    rw [List.set_set]
  · intro p q hp hq
    rcases key p hp with rfl | ⟨p1, p2⟩ <;> rcases key q hq with rfl | ⟨q1, q2⟩
    · simp
    · simp only; omega
    · simp only; omega
    · omega
  · intro p hp
    show p.1 ≤ lb.useq + 1 + 1 ∧ p.2 ≤ lb.useq
    rcases key p hp with rfl | ⟨p1, p2⟩
    · simp
    · omega


/-! ### the state after `.` and the state in which the recorded keys are typed instead -/

/-- `s` with `keys` waiting at the terminal, nothing pushed, and the fields `viPre` overwrites cleared -/
def typedAt (s : VS) (keys : Bytes) : VS :=
  { s with typed := keys, ibuf := [], ibufPos := 0, icmd := [], arg1 := 0, arg2 := 0, ybuf := 0 }

/-- the sequence numbers of every buffer lie below its counter, those of the current buffer strictly -/
def DotSeqOk (ed : Ed) : Prop := EdSeqOk ed ∧ ∀ b, ed.cur = some b → SeqStrict b.lb

/-- the iteration that executes `.` moves neither the cursor nor the window: `vi_wfix()` finds nothing to fix -/
def DotSettled (s : VS) (rest : Bytes) : Prop :=
  (dotState s rest).ed.xrow = s.ed.xrow ∧ (dotState s rest).ed.xoff = s.ed.xoff ∧
  (dotState s rest).ed.xtop = s.ed.xtop ∧ (dotState s rest).ed.xleft = s.ed.xleft

theorem bumpEd_out (e : Ed) : (bumpEd e).out = e.out := by
  unfold bumpEd; split
  · exact Lemmas.C09b.setLb_out _ _
  · rfl

theorem postEd_out (X : VS) : (postEd X).out = [] := by
  unfold postEd
  rw [bumpEd_out, bumpEd_out]

theorem nb_dotMid (s : VS) (rest : Bytes) : nb (dotMid s rest).ed = nb s.ed := by
  show nb (marked (afterKey s 46 rest)).ed = nb s.ed
  rw [marked_ed_fields]
  rfl

theorem postEd_bufsRel (s : VS) (rest : Bytes) (hseq : DotSeqOk s.ed) :
    BufsRel true (postEd (dotMid s rest)).bufs s.ed.bufs := by
  obtain ⟨hok, hst⟩ := hseq
  cases hb : s.ed.bufs with
  | nil => rw [postEd_bufs_nil s rest hb]; trivial
  | cons x l =>
    have hl : All2 (OBufRel false) l l :=
      All2.refl _ fun y hy => OBufRel.refl (fun b e => hok b (by rw [hb, ← e]; simp [hy])) false
    cases x with
    | none => rw [postEd_bufs_none s rest l hb]; exact ⟨trivial, hl⟩
    | some b =>
      rw [postEd_bufs_cons s rest b l hb]
      have hc : s.ed.cur = some b := by unfold Ed.cur; rw [hb]; rfl
      exact ⟨⟨rfl, lbRel_dot b.lb (hst b hc) _ _, rfl, rfl, rfl, rfl, rfl, rfl, rfl⟩, hl⟩

end Neatvi.Lemmas.C09c
