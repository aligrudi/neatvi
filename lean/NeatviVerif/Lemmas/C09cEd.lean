import NeatviVerif.Lemmas.C09cLb
import NeatviVerif.Lemmas.ExCong
/-!
# C09c: the primitives of `ex.c` on related states

What related states (`EdRel`) show alike (`len`, `line`, `cp`, marks, registers, the files, the buffer table's paths
and numbers), and the operations on the buffer table and on the current buffer: they map related states to related
states.
-/
namespace Neatvi.Lemmas.C09c
open Neatvi Neatvi.Lbuf Neatvi.LbufIo Neatvi.Ex Neatvi.Rset

/-- related results of a function of the `ex` layer -/
def RRel {α : Type} (x y : R α) : Prop := ORel (fun p q => p.1 = q.1 ∧ EdRel false p.2 q.2) x y

theorem RRel.cases {α : Type} {x y : R α} (h : RRel x y) :
    (x = none ∧ y = none) ∨ ∃ v a b, x = some (v, a) ∧ y = some (v, b) ∧ EdRel false a b := by
  rcases ORel.cases h with h | ⟨⟨v, a⟩, ⟨v', b⟩, h1, h2, h3, h4⟩
  · exact Or.inl h
  · simp only at h3; subst h3
    exact Or.inr ⟨v, a, b, h1, h2, h4⟩

theorem RRel.none {α : Type} : RRel (none : R α) none := trivial
theorem RRel.some {α : Type} {v : α} {a b : Ed} (h : EdRel false a b) : RRel (some (v, a)) (some (v, b)) := ⟨rfl, h⟩

theorem RRel.ite {α : Type} {c : Prop} [Decidable c] {x x' y y' : R α} (h1 : c → RRel x x') (h2 : ¬ c → RRel y y') :
    RRel (if c then x else y) (if c then x' else y') := by
  split
  · exact h1 ‹_›
  · exact h2 ‹_›

/-! ### what related states show alike -/

theorem OBufRel.isSome_eq {w : Bool} {x y : Option Buf} (h : OBufRel w x y) : x.isSome = y.isSome := by
  rcases h.cases with ⟨rfl, rfl⟩ | ⟨p, q, rfl, rfl, _⟩ <;> rfl

theorem OBufRel.isNone_eq {w : Bool} {x y : Option Buf} (h : OBufRel w x y) : x.isNone = y.isNone := by
  rcases h.cases with ⟨rfl, rfl⟩ | ⟨p, q, rfl, rfl, _⟩ <;> rfl

theorem OBufRel.path_eq {w : Bool} {x y : Option Buf} (h : OBufRel w x y) : x.map (·.path) = y.map (·.path) := by
  rcases h.cases with ⟨rfl, rfl⟩ | ⟨p, q, rfl, rfl, hpq⟩
  · rfl
  · exact congrArg some hpq.path

theorem OBufRel.id_eq {w : Bool} {x y : Option Buf} (h : OBufRel w x y) : x.map (·.id) = y.map (·.id) := by
  rcases h.cases with ⟨rfl, rfl⟩ | ⟨p, q, rfl, rfl, hpq⟩
  · rfl
  · exact congrArg some hpq.id

section reads
variable {w : Bool} {a b : Ed}

theorem EdRel.cur (h : EdRel w a b) : OBufRel w a.cur b.cur := by
  unfold Ed.cur
  rcases h.bufs.cases with ⟨ha, hb⟩ | ⟨x, y, l, l', ha, hb, hxy, _⟩ <;> rw [ha, hb]
  · trivial
  · exact hxy

theorem EdRel.cur_cases (h : EdRel w a b) :
    (a.cur = none ∧ b.cur = none) ∨ ∃ x y, a.cur = some x ∧ b.cur = some y ∧ BufRel w x y := h.cur.cases

theorem EdRel.lb (h : EdRel w a b) : ORel (LbRel w) a.lb b.lb := by
  unfold Ed.lb
  rcases h.cur_cases with ⟨ha, hb⟩ | ⟨x, y, ha, hb, hxy⟩ <;> rw [ha, hb]
  · trivial
  · exact hxy.lb

theorem EdRel.lb_cases (h : EdRel w a b) :
    (a.lb = none ∧ b.lb = none) ∨ ∃ la lb, a.lb = some la ∧ b.lb = some lb ∧ LbRel w la lb := h.lb.cases

theorem EdRel.lines_eq (h : EdRel w a b) : a.lb.map (·.lines) = b.lb.map (·.lines) := by
  rcases h.lb_cases with ⟨r1, r2⟩ | ⟨la, lb, r1, r2, hl⟩
  · rw [r1, r2]
  · rw [r1, r2]; simp [hl.lines]

theorem EdRel.len_eq (h : EdRel w a b) : a.len = b.len := by
  unfold Ed.len
  rcases h.lb_cases with ⟨r1, r2⟩ | ⟨la, lb, r1, r2, hl⟩
  · rw [r1, r2]
  · rw [r1, r2]; simp [hl.lines]

theorem EdRel.line_eq (h : EdRel w a b) (i : Int) : a.line i = b.line i := by
  unfold Ed.line
  rcases h.lb_cases with ⟨r1, r2⟩ | ⟨la, lb, r1, r2, hl⟩
  · rw [r1, r2]
  · rw [r1, r2]; simp [hl.lines]

theorem EdRel.cp_eq (h : EdRel w a b) (x y : Int) : a.cp x y = b.cp x y := by
  unfold Ed.cp
  rcases h.lb_cases with ⟨r1, r2⟩ | ⟨la, lb, r1, r2, hl⟩
  · rw [r1, r2]
  · rw [r1, r2]; exact cp_rel hl _ _

theorem EdRel.findFile_eq (h : EdRel w a b) (p : Bytes) : a.findFile p = b.findFile p := by
  unfold Ed.findFile; rw [h.files]

theorem EdRel.mtimeOf_eq (h : EdRel w a b) (p : Bytes) : a.mtimeOf p = b.mtimeOf p := by
  unfold Ed.mtimeOf; rw [h.findFile_eq]

theorem EdRel.mkRe_eq (h : EdRel w a b) (p : Bytes) : a.mkRe p = b.mkRe p := by
  unfold Ed.mkRe; rw [h.xic]

theorem EdRel.pipe_eq (h : EdRel w a b) (c i : Bytes) : a.pipe c i = b.pipe c i := by
  unfold Ed.pipe; rw [h.pipes]

theorem EdRel.regGet_eq (h : EdRel w a b) (c : Nat) : regGet a c = regGet b c := by
  unfold regGet
  rw [h.line_eq, h.xrow, h.xoff, h.regs]

theorem EdRel.cur_isSome (h : EdRel w a b) : a.cur.isSome = b.cur.isSome := h.cur.isSome_eq
theorem EdRel.cur_isNone (h : EdRel w a b) : a.cur.isNone = b.cur.isNone := h.cur.isNone_eq
theorem EdRel.cur_path (h : EdRel w a b) : a.cur.map (·.path) = b.cur.map (·.path) := h.cur.path_eq
theorem EdRel.cur_id (h : EdRel w a b) : a.cur.map (·.id) = b.cur.map (·.id) := h.cur.id_eq

theorem EdRel.jump_eq (h : EdRel false a b) (c : Nat) :
    a.lb.bind (fun l => jump l c) = b.lb.bind (fun l => jump l c) := by
  rcases h.lb_cases with ⟨r1, r2⟩ | ⟨la, lb, r1, r2, hl⟩
  · rw [r1, r2]
  · rw [r1, r2]; exact jump_rel hl c

end reads

theorem EdRel.weaken {a b : Ed} (h : EdRel false a b) : EdRel true a b := by
  refine { h with bufs := ?_ }
  rcases h.bufs.cases with ⟨ha, hb⟩ | ⟨x, y, l, l', ha, hb, hxy, hl⟩ <;> rw [ha, hb]
  · trivial
  · exact ⟨hxy.weaken true, hl⟩

theorem EdRel.all {a b : Ed} (h : EdRel false a b) : All2 (OBufRel false) a.bufs b.bufs := bufsRel_false.mp h.bufs

theorem EdRel.bufs_length {a b : Ed} (h : EdRel false a b) : a.bufs.length = b.bufs.length := h.all.length_eq

theorem EdRel.getD {a b : Ed} (h : EdRel false a b) (i : Nat) :
    OBufRel false (a.bufs.getD i none) (b.bufs.getD i none) := h.all.getD (by trivial) i

theorem find_range_eq {a b : Ed} (h : EdRel false a b) (n : Nat) (P : Option Buf → Bool)
    (hP : ∀ x y, OBufRel false x y → P x = P y) :
    (List.range n).find? (fun i => P (a.bufs.getD i none)) = (List.range n).find? (fun i => P (b.bufs.getD i none)) := by
  have : (fun i => P (a.bufs.getD i none)) = (fun i => P (b.bufs.getD i none)) := by
    funext i; exact hP _ _ (h.getD i)
  rw [this]

theorem EdRel.bufsFind_eq {a b : Ed} (h : EdRel false a b) (p : Bytes) : a.bufsFind p = b.bufsFind p := by
  unfold Ed.bufsFind
  simp only []
  rw [h.bufs_length]
  congr 2
  funext i
  rcases (h.getD i).cases with ⟨r1, r2⟩ | ⟨x, y, r1, r2, hxy⟩
  · rw [r1, r2]
  · rw [r1, r2]
    show (x.path == _) = (y.path == _)
    rw [hxy.path]

theorem EdRel.findRoom_eq {a b : Ed} (h : EdRel false a b) : a.findRoom = b.findRoom := by
  unfold Ed.findRoom
  rw [h.bufs_length]
  congr 2
  funext i
  exact (h.getD i).isNone_eq

/-! ### updates of the current buffer -/

theorem bufsRel_set0 {w w' : Bool} {l l' : List (Option Buf)} (h : BufsRel w l l') {x y : Buf} (hxy : BufRel w' x y) :
    BufsRel w' (l.set 0 (some x)) (l'.set 0 (some y)) := by
  rcases h.cases with ⟨rfl, rfl⟩ | ⟨_, _, _, _, rfl, rfl, _, hl⟩
  · trivial
  · exact ⟨hxy, hl⟩

theorem setCur_rel {w : Bool} {a b : Ed} (h : EdRel w a b) {x y : Buf} (hxy : BufRel w x y) :
    EdRel w (a.setCur x) (b.setCur y) :=
  { h with bufs := bufsRel_set0 h.bufs hxy }

theorem setLb_rel {w : Bool} {a b : Ed} (h : EdRel w a b) {la lb : Lb} (hl : LbRel w la lb) :
    EdRel w (a.setLb la) (b.setLb lb) := by
  unfold Ed.setLb
  rcases h.cur_cases with ⟨ha, hb⟩ | ⟨x, y, ha, hb, hxy⟩ <;> rw [ha, hb]
  · exact h
  · exact setCur_rel h { hxy with lb := hl }

/-! ### the relation as an instance of the two-run congruence of the ex layer (`Lemmas/ExCong.lean`) -/

theorem EdRel.edG {w : Bool} {a b : Ed} (h : EdRel w a b) : C09.EdG (BufsRel w) a b :=
  ⟨h.1, h.2, h.3, h.4, h.5, h.6, h.7, h.8, h.9, h.10, h.11, h.12, h.13, h.14, h.15, h.16, h.17, h.18, h.19,
    h.20, h.21, h.22, h.23, h.24, h.25, h.26, h.27, h.28⟩

theorem _root_.Neatvi.Lemmas.C09.EdG.edRel {w : Bool} {a b : Ed} (h : C09.EdG (BufsRel w) a b) : EdRel w a b :=
  ⟨h.1, h.2, h.3, h.4, h.5, h.6, h.7, h.8, h.9, h.10, h.11, h.12, h.13, h.14, h.15, h.16, h.17, h.18, h.19,
    h.20, h.21, h.22, h.23, h.24, h.25, h.26, h.27, h.28⟩

theorem RRel.of_r2 {α : Type} {x y : R α} (h : ExCong.R2 (BufsRel false) x y) : RRel x y := by
  rcases h.cases with ⟨rfl, rfl⟩ | ⟨v, a, b, rfl, rfl, hab⟩
  · trivial
  · exact ⟨rfl, hab.edRel⟩

theorem RRel.r2 {α : Type} {x y : R α} (h : RRel x y) : ExCong.R2 (BufsRel false) x y := by
  rcases h.cases with ⟨rfl, rfl⟩ | ⟨v, a, b, rfl, rfl, hab⟩
  · trivial
  · exact ⟨rfl, hab.edG⟩

theorem bufS_iff {p q : Buf} : ExCong.BufS (LbRel false) p q ↔ BufRel false p q := by
  constructor
  · rintro ⟨hl, he⟩
    rw [← he]
    exact ⟨rfl, hl, rfl, rfl, rfl, rfl, rfl, rfl, rfl⟩
  · intro h
    refine ⟨h.lb, ?_⟩
    cases p; cases q
    have h1 := h.path; have h2 := h.row; have h3 := h.off; have h4 := h.top; have h5 := h.left
    have h6 := h.id; have h7 := h.td; have h8 := h.mtime
    simp only [] at h1 h2 h3 h4 h5 h6 h7 h8
    subst h1 h2 h3 h4 h5 h6 h7 h8
    rfl

theorem renum_slot (i : Nat) : ExCong.Slot (BufsRel false) (LbRel false) i where
  get h := by
    rcases ((bufsRel_false.1 h).getD (d := none) (d' := none) trivial i).cases with ⟨r1, r2⟩ | ⟨p, q, r1, r2, hpq⟩ <;>
      rw [r1, r2]
    · trivial
    · exact bufS_iff.2 hpq
  set h _ _ hpq :=
    bufsRel_false.2 ((bufsRel_false.1 h).set i (show OBufRel false (some _) (some _) from bufS_iff.1 hpq))

/-- what the handlers that work on the current buffer need of the relation: the lemmas of `Lemmas/C09cLb.lean` and the
    shape of `BufsRel` -/
theorem renum_cong : ExCong.BCong (BufsRel false) (LbRel false) where
  lines := fun h => h.lines
  jump := fun h c => jump_rel h c
  edit := fun h buf x y => edit_rel h buf x y
  undo := fun h => undo_rel h
  redo := fun h => redo_rel h
  setMark := fun h c p o => setMark_rel h c p o
  rd := fun h chunks fe x y => rd_rel h chunks fe x y
  modified := fun h => modified_rel h
  savedCore := fun h clear => savedCore_rel h clear
  unsavedMark := fun h => unsavedMark_rel h
  cur := renum_slot 0
  alt := by
    intro x y h
    exact OBufRel.path_eq ((bufsRel_false.1 h).getD (d := none) (d' := none) trivial 1)

theorem markCur_rel {w : Bool} {a b : Ed} (h : EdRel w a b) (c : Nat) (p o : Int) :
    EdRel w (match a.lb with | some l => a.setLb (setMark l c p o) | none => a)
      (match b.lb with | some l => b.setLb (setMark l c p o) | none => b) := by
  rcases h.lb_cases with ⟨ha, hb⟩ | ⟨la, lb, ha, hb, hl⟩ <;> rw [ha, hb]
  · exact h
  · exact setLb_rel h (setMark_rel hl c p o)

theorem markCaret_rel {a b : Ed} (h : EdRel true a b) (p o : Int) :
    EdRel false (match a.lb with | some l => a.setLb (setMark l 94 p o) | none => a)
      (match b.lb with | some l => b.setLb (setMark l 94 p o) | none => b) := by
  have hl : a.lb = a.cur.map (·.lb) := rfl
  have hl' : b.lb = b.cur.map (·.lb) := rfl
  rw [hl, hl']
  unfold Ed.setLb
  rcases h.cur_cases with ⟨ha, hb⟩ | ⟨x, y, ha, hb, hc⟩ <;> rw [ha, hb]
  · -- no current buffer: the table is empty or its slot 0 is empty; nothing is exempt
    simp only [Option.map_none]
    refine { h with bufs := ?_ }
    unfold Ed.cur at ha hb
    rcases h.bufs.cases with ⟨hx, hy⟩ | ⟨x, y, l, l', hx, hy, _, hl⟩ <;> rw [hx, hy]
    · trivial
    · rw [hx] at ha; rw [hy] at hb
      simp only [List.getD_cons_zero] at ha hb
      subst ha hb
      exact ⟨trivial, hl⟩
  · simp only [Option.map_some]
    exact { h with bufs := bufsRel_set0 h.bufs { hc with lb := setMark_caret_rel hc.lb p o } }

theorem edit_rel' {a b : Ed} (h : EdRel false a b) (s : Option Bytes) (x y : Int) :
    ORel (EdRel false) (a.edit s x y) (b.edit s x y) := by
  rcases (ExCong.edit_rel renum_cong h.edG s x y).cases with ⟨r1, r2⟩ | ⟨a1, b1, r1, r2, hab⟩ <;> rw [r1, r2]
  · trivial
  · exact hab.edRel

/-! ### small updates of the other fields -/

theorem show_rel {w : Bool} {a b : Ed} (h : EdRel w a b) (m : Bytes) : EdRel w (a.show m) (b.show m) :=
  { h with msg := by show a.msg ++ m ++ [10] = b.msg ++ m ++ [10]; rw [h.msg] }

theorem print_rel {w : Bool} {a b : Ed} (h : EdRel w a b) (m : Bytes) : EdRel w (a.print m) (b.print m) :=
  { h with out := by show a.out ++ m ++ _ = b.out ++ m ++ _; rw [h.out] }

theorem kwdSet_rel {w : Bool} {a b : Ed} (h : EdRel w a b) (k : Option Bytes) (d : Int) :
    EdRel w (a.kwdSet k d) (b.kwdSet k d) :=
  (C09.kwdSet_g h.edG k d).edRel

theorem EdRel.ite {w : Bool} {c c' : Bool} (hc : c = c') {x x' y y' : Ed} (h1 : EdRel w x x') (h2 : EdRel w y y') :
    EdRel w (if c = true then x else y) (if c' = true then x' else y') := by
  subst hc; split <;> assumption

theorem setOpt_rel {w : Bool} {a b : Ed} (h : EdRel w a b) (v : String) (n : Int) : EdRel w (setOpt a v n) (setOpt b v n) :=
  (ExCong.setOpt_rel h.edG v n).edRel

/-! ### the buffer table -/

theorem bufsSave_rel {a b : Ed} (h : EdRel false a b) : EdRel false a.bufsSave b.bufsSave := by
  unfold Ed.bufsSave
  rcases h.cur_cases with ⟨ha, hb⟩ | ⟨x, y, ha, hb, hxy⟩ <;> rw [ha, hb]
  · exact h
  · exact setCur_rel h { hxy with row := h.xrow, off := h.xoff, top := h.xtop, left := h.xleft, td := h.xtd }

theorem bufsLoad_rel {a b : Ed} (h : EdRel false a b) : EdRel false a.bufsLoad b.bufsLoad := by
  unfold Ed.bufsLoad
  rcases h.cur_cases with ⟨ha, hb⟩ | ⟨x, y, ha, hb, hxy⟩ <;> rw [ha, hb]
  · exact { h with xrow := rfl, xoff := rfl, xtop := rfl, xleft := rfl, xtd := rfl
                   regs := by show a.regs.put 37 [] 0 = b.regs.put 37 [] 0; rw [h.regs] }
  · exact { h with xrow := hxy.row, xoff := hxy.off, xtop := hxy.top, xleft := hxy.left, xtd := hxy.td
                   regs := by show a.regs.put 37 x.path 0 = b.regs.put 37 y.path 0; rw [h.regs, hxy.path] }

theorem withBufs_rel {a b : Ed} (h : EdRel false a b) {l l' : List (Option Buf)} (hl : All2 (OBufRel false) l l') :
    EdRel false { a with bufs := l } { b with bufs := l' } :=
  { h with bufs := bufsRel_false.mpr hl }

theorem bufRel_modified {w : Bool} {x y : Buf} (h : BufRel w x y) :
    BufRel w { x with lb := (modified x.lb).2 } { y with lb := (modified y.lb).2 } :=
  { h with lb := (modified_rel h.lb).2 }

/-- slot `idx` moves to the front -/
def rotTo (ed : Ed) (idx : Nat) : Ed :=
  { ed with bufs := [ed.bufs.getD idx none] ++ ed.bufs.take idx ++ ed.bufs.drop (idx + 1) }

theorem leave_rel {a b : Ed} (h : EdRel false a b) : EdRel false (C02Ex.leave a) (C02Ex.leave b) := by
  unfold C02Ex.leave
  rcases (h.getD 0).cases with ⟨r1, r2⟩ | ⟨p, q, r1, r2, hpq⟩
  · rw [r1, r2]; exact h
  · rw [r1, r2]
    exact withBufs_rel h (h.all.set 0 (show OBufRel false (some _) (some _) from bufRel_modified hpq))

theorem rotTo_rel {a b : Ed} (h : EdRel false a b) (idx : Nat) : EdRel false (rotTo a idx) (rotTo b idx) :=
  withBufs_rel h (All2.append (All2.append (All2.single (h.getD idx)) (h.all.take idx)) (h.all.drop (idx + 1)))

theorem bufsSwitch_rel {a b : Ed} (h : EdRel false a b) (idx : Nat) :
    EdRel false (a.bufsSwitch idx) (b.bufsSwitch idx) := by
  rw [C02Ex.bufsSwitch_eq, C02Ex.bufsSwitch_eq]
  exact bufsLoad_rel (rotTo_rel (leave_rel (bufsSave_rel h)) idx)

theorem bufsOpen_rel {a b : Ed} (h : EdRel false a b) (p : Bytes) :
    (a.bufsOpen p).1 = (b.bufsOpen p).1 ∧ EdRel false (a.bufsOpen p).2 (b.bufsOpen p).2 := by
  unfold Ed.bufsOpen
  simp only []
  rw [h.findRoom_eq, h.bufsCnt]
  refine ⟨rfl, ?_⟩
  have hb : BufRel false ({ path := normPath p, lb := Lbuf.make, id := b.bufsCnt + 1 } : Buf)
      { path := normPath p, lb := Lbuf.make, id := b.bufsCnt + 1 } := BufRel.refl seqOk_make false
  exact { withBufs_rel h (h.all.set b.findRoom (show OBufRel false (some _) (some _) from hb)) with bufsCnt := rfl }

theorem bufsShift_rel {a b : Ed} (h : EdRel false a b) : EdRel false a.bufsShift b.bufsShift := by
  unfold Ed.bufsShift
  apply bufsLoad_rel
  exact withBufs_rel h (All2.append (h.all.drop 1) (All2.single (by trivial)))

theorem modifiedAt_rel {a b : Ed} (h : EdRel false a b) (idx : Nat) :
    (a.modifiedAt idx).1 = (b.modifiedAt idx).1 ∧ EdRel false (a.modifiedAt idx).2 (b.modifiedAt idx).2 :=
  ⟨(ExCong.modifiedAt_rel renum_cong (renum_slot idx) h.edG).1, (ExCong.modifiedAt_rel renum_cong (renum_slot idx) h.edG).2.edRel⟩

theorem lbufSaveP_rel {a b : Ed} (h : EdRel false a b) {la lb : Lb} (hl : la.lines = lb.lines) (x : Nat) (e : Int)
    (path : Bytes) (force : Bool) (ts : Int) :
    RRel (lbufSaveP a la x e path force ts) (lbufSaveP b lb x e path force ts) :=
  RRel.of_r2 (ExCong.lbufSaveP_rel h.edG hl x e path force ts)

theorem bufsModified_rel {a b : Ed} (h : EdRel false a b) (idx : Nat) (msg : Option Bytes) :
    RRel (bufsModified a idx msg) (bufsModified b idx msg) :=
  RRel.of_r2 (ExCong.bufsModified_rel renum_cong (renum_slot idx) h.edG msg)

theorem guard_rel {a b : Ed} (h : EdRel false a b) (c : Bool) (idx : Nat) (msg : Option Bytes) :
    RRel (if c = true then bufsModified a idx msg else some (false, a))
      (if c = true then bufsModified b idx msg else some (false, b)) :=
  RRel.ite (fun _ => bufsModified_rel h idx msg) fun _ => RRel.some h

end Neatvi.Lemmas.C09c
