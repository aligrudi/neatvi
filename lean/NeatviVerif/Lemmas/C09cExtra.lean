import NeatviVerif.Lemmas.C09cFirst
/-!
# C09c: renumbering (for `Props.C09c.renumbering_is_related`); boolean checkers for the hypotheses; the proviso
  `runOk` of C09b one iteration on
-/
namespace Neatvi.Lemmas.C09c
open Neatvi Neatvi.Uc Neatvi.Lbuf Neatvi.Ex Neatvi.Vi Neatvi.Mot

section
open Neatvi.Lemmas.C09b (runOk)

theorem nlCount_nil : nlCount [] = 0 := rfl

theorem runOk_succ {k : Nat} {s s' : VS} (h : runOk (k + 1) s = true) (hs : viStep s = Res.ok () s') :
    runOk k s' = true := by
  unfold runOk at h
  rw [hs] at h
  simp only [Bool.and_eq_true] at h
  exact h.2

end

/-! ### renumbering -/

/-- the line buffer with every sequence number `n` replaced by `f n` -/
def renumber (f : Nat → Nat) (a : Lb) : Lb :=
  { a with hist := a.hist.map (fun e => { e with seq := f e.seq }), useq := f a.useq, useqZero := f a.useqZero,
           useqLast := f a.useqLast }

/-- the sequence numbers that occur in a line buffer -/
def SeqVal (a : Lb) (n : Nat) : Prop := n = a.useq ∨ n = a.useqZero ∨ n = a.useqLast ∨ ∃ e ∈ a.hist, e.seq = n

theorem hp_map (f : Nat → Nat) : ∀ (l : List Entry) (p : Nat × Nat),
    HP l (l.map (fun e => { e with seq := f e.seq })) p → ∃ e ∈ l, p = (e.seq, f e.seq) := by
  intro l
  induction l with
  | nil => intro p h; cases h
  | cons a l ih =>
    intro p h
    cases h with
    | head => exact ⟨a, by simp, rfl⟩
    | tail h =>
      obtain ⟨e, he, hp⟩ := ih p h
      exact ⟨e, by simp [he], hp⟩

theorem all2_map (f : Nat → Nat) : ∀ l : List Entry, All2 EntRel l (l.map (fun e => { e with seq := f e.seq })) := by
  intro l
  induction l with
  | nil => exact All2.nil
  | cons a l ih => exact All2.cons ⟨rfl, rfl, rfl, rfl, rfl, rfl, rfl⟩ ih

/-! ### boolean checkers -/

def seqOkB (a : Lb) : Bool :=
  decide (a.useqZero ≤ a.useq) && decide (a.useqLast ≤ a.useq) && a.hist.all (fun e => decide (e.seq ≤ a.useq))

def seqStrictB (a : Lb) : Bool :=
  decide (a.useqZero < a.useq) && decide (a.useqLast < a.useq) && a.hist.all (fun e => decide (e.seq < a.useq))

theorem seqOk_of_b {a : Lb} (h : seqOkB a = true) : SeqOk a := by
  unfold seqOkB at h
  simp only [Bool.and_eq_true, decide_eq_true_eq, List.all_eq_true] at h
  exact ⟨h.1.1, h.1.2, h.2⟩

theorem seqStrict_of_b {a : Lb} (h : seqStrictB a = true) : SeqStrict a := by
  unfold seqStrictB at h
  simp only [Bool.and_eq_true, decide_eq_true_eq, List.all_eq_true] at h
  exact ⟨h.1.1, h.1.2, h.2⟩

/-- every buffer weakly, the current one strictly -/
def dotSeqOkB (ed : Ed) : Bool :=
  ed.bufs.all (fun o => match o with | some b => seqOkB b.lb | none => true) &&
  (match ed.cur with | some b => seqStrictB b.lb | none => true)

theorem dotSeqOk_of_b {ed : Ed} (h : dotSeqOkB ed = true) : DotSeqOk ed := by
  unfold dotSeqOkB at h
  simp only [Bool.and_eq_true, List.all_eq_true] at h
  refine ⟨fun b hb => seqOk_of_b (h.1 (some b) hb), fun b hb => ?_⟩
  have := h.2
  rw [hb] at this
  exact seqStrict_of_b this

def edSeqOkB (ed : Ed) : Bool := ed.bufs.all (fun o => match o with | some b => seqOkB b.lb | none => true)

theorem edSeqOk_of_b {ed : Ed} (h : edSeqOkB ed = true) : EdSeqOk ed := by
  unfold edSeqOkB at h
  simp only [List.all_eq_true] at h
  exact fun b hb => seqOk_of_b (h (some b) hb)

instance (s : VS) (rest : Bytes) : Decidable (DotSettled s rest) := by unfold DotSettled; infer_instance

end Neatvi.Lemmas.C09c
