import NeatviVerif.Lemmas.C09cWitness
import NeatviVerif.Lemmas.C09cBoundary
/-!
# C09c: the data of the examples of `Props/C09c.lean`
-/
namespace Neatvi.Lemmas.C09c
open Neatvi Neatvi.Lbuf Neatvi.LbufIo Neatvi.Ex Neatvi.Vi
open Neatvi.Props.C05c (iterate)

/-- counter 4, undo records numbered 1, 3, 3 -/
def exLb : Lb :=
  { hist := [⟨0, 0, 0, none, none, 1, 0, none⟩, ⟨0, 0, 0, none, none, 3, 0, none⟩, ⟨0, 0, 0, none, none, 3, 0, none⟩],
    histU := 3, useq := 4 }

theorem exLb_seqOk : SeqOk exLb := seqOk_of_b (by decide)

theorem exShift_order (x y : Nat) (_ : SeqVal exLb x) (_ : SeqVal exLb y) :
    x ≤ y ↔ (fun n => if n < 3 then n else n + 2) x ≤ (fun n => if n < 3 then n else n + 2) y := by
  constructor
  · intro h; dsimp only; split <;> split <;> omega
  · intro h; dsimp only at h; split at h <;> split at h <;> omega

theorem gSettled : (match iterate 1 gInit with | some s => decide (Settled s) | none => false) = true := by
  decide +kernel

theorem edSeqOk_empty (ed : Ed) (h : ed.bufs = List.replicate Gen.NBUFS none) : EdSeqOk ed := fun b hb => by
  rw [h] at hb
  cases (List.mem_replicate.mp hb).2

theorem gInit_seqOk : EdSeqOk gInit.ed := edSeqOk_of_b (by decide +kernel)

end Neatvi.Lemmas.C09c
