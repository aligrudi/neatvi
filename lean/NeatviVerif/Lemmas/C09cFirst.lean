import NeatviVerif.Lemmas.C09cDot
/-!
# C09c: the first iteration after `.` — the mark `^` is overwritten before it is read

The state after `.` and the state in which the recorded keys are typed instead differ in the mark `^` (`.` has set
it).  When the next iteration is a *command* (`viPre` finds no motion and the command key is positive,
`cmdFirst`), it ends in `Sim false`-related states (`commandTail_weak`, `rel2_viPre_w`) — `commandTail` sets the mark `^`
before anything reads it.
A motion to the mark (`` `^ ``, `'^`) would read it; then the iteration is a motion on both sides.
-/
namespace Neatvi.Lemmas.C09c
open Neatvi Neatvi.Uc Neatvi.Lbuf Neatvi.Ex Neatvi.Vi Neatvi.Mot
open Neatvi.Lemmas.C07 (bind_apply)
open Neatvi.Lemmas.C09 (mapS)
open Neatvi.Lemmas.C09b (marked)

/-- the iteration that starts in `t` is a command: `viPre` finds no motion and the key of the command is positive
(if `viPre` or the read of the key fails, nothing is required) -/
def cmdFirst (t : VS) : Bool :=
  match viPre t with
  | Res.ok (mv, _, _) t1 => mv == 0 && (match viRead t1 with | Res.ok c _ => decide (0 < c) | _ => true)
  | _ => true

theorem sim_marked {x y : VS} (h : Sim true x y) : Sim false (marked x) (marked y) := by
  unfold marked
  rw [h.xrow, h.xoff]
  exact { h with ed := markCaret_rel h.ed _ _ }

theorem commandTail_weak {x y : VS} (h : Sim true x y)
    (hc : ∀ c y', viRead y = Res.ok c y' → 0 < c) : RR false NoEsc (commandTail x) (commandTail y) := by
  rw [ViPres.commandTail_eq]
  unfold ViPres.commandTailF
  rw [bind_apply, bind_apply]
  have hr := rel2_viRead (w := true) (E := NoEsc) x y h
  revert hr
  revert hc
  generalize viRead x = r1
  generalize viRead y = r2
  intro hc
  intro hr
  cases hr with
  | ok c x1 y1 h1 =>
    have hpos := hc c y1 rfl
    simp only []
    rw [if_neg (show ¬ c ≤ 0 by omega)]
    show RR false NoEsc (ViPres.cmdSwitch c (marked x1) (marked x1)) (ViPres.cmdSwitch c (marked y1) (marked y1))
    exact rel2_cmdSwitch c (sim_marked h1) _ _ (sim_marked h1)
  | esc a b _ _ he => exact he.elim
  | eof => exact RR.eof
  | trap => exact RR.trap

/-! ### `viPre` overwrites `arg1`, `arg2`, `ybuf`, `icmd` and, on a drained queue, `ibuf` -/

/-- `m` neither reads nor writes what `g` changes -/
def Comm {α : Type} (g : VS → VS) (m : M α) : Prop := ∀ S, m (g S) = mapS g (m S)

theorem comm_pure {α : Type} (g : VS → VS) (a : α) : Comm g (pure a : M α) := fun _ => rfl

theorem comm_bind {α β : Type} {g : VS → VS} {m : M α} {f : α → M β} (hm : Comm g m) (hf : ∀ a, Comm g (f a)) :
    Comm g (m >>= f) := by
  intro S
  rw [bind_apply, bind_apply, hm S]
  cases m S with
  | ok a S' => exact hf a S'
  | eof => rfl
  | trap => rfl

theorem comm_ite {α : Type} {g : VS → VS} {c : Prop} [Decidable c] {a b : M α} (ha : Comm g a) (hb : Comm g b) :
    Comm g (if c then a else b) := by
  split
  · exact ha
  · exact hb

/-- overwrite `arg1` and, if given, `ybuf` -/
def setAY (a : Int) (y : Option Nat) (S : VS) : VS := { S with arg1 := a, ybuf := y.getD S.ybuf }

theorem comm_termRead (a : Int) (y : Option Nat) : Comm (setAY a y) termRead := by
  intro S
  unfold termRead setAY mapS
  dsimp only
  by_cases h1 : (decide (S.ibufPos ≥ S.ibuf.length) && S.typed.isEmpty) = true
  · simp only [h1, if_true]
  · simp only [h1, Bool.false_eq_true, if_false]
    by_cases h2 : S.ibufPos ≥ S.ibuf.length
    · simp only [h2, ↓reduceIte]
    · simp only [h2, ↓reduceIte]

theorem comm_viRead (a : Int) (y : Option Nat) : Comm (setAY a y) viRead := by
  intro S
  unfold viRead
  show (match S.vibuf with | c :: r => Res.ok c { setAY a y S with vibuf := r } | [] => termRead (setAY a y S)) = _
  cases S.vibuf with
  | nil => exact comm_termRead a y S
  | cons c r => rfl

theorem comm_viBack (a : Int) (y : Option Nat) (c : Int) : Comm (setAY a y) (viBack c) := fun _ => rfl

theorem comm_viYankbuf (a : Int) (y : Option Nat) : Comm (setAY a y) viYankbuf := by
  unfold viYankbuf
  refine comm_bind (comm_viRead a y) fun c => comm_ite ?_ ?_
  · refine comm_bind (comm_viRead a y) fun c => comm_ite ?_ (comm_pure _ _)
    exact comm_bind (comm_viRead a y) fun d => comm_pure _ _
  · exact comm_bind (comm_viBack a y c) fun _ => comm_pure _ _

theorem comm_digits (a : Int) (y : Option Nat) (f : Nat) (n c : Int) : Comm (setAY a y) (viPrefix.digits f n c) := by
  induction f generalizing n c with
  | zero =>
    unfold viPrefix.digits
    exact comm_bind (comm_viBack a y c) fun _ => comm_pure _ _
  | succ f ih =>
    unfold viPrefix.digits
    refine comm_ite ?_ ?_
    · exact comm_bind (comm_viRead a y) fun c' => ih _ _
    · exact comm_bind (comm_viBack a y c) fun _ => comm_pure _ _

theorem comm_viPrefix (a : Int) (y : Option Nat) : Comm (setAY a y) viPrefix := by
  unfold viPrefix
  refine comm_bind (comm_viRead a y) fun c => comm_ite ?_ ?_
  · exact comm_digits a y _ _ _
  · exact comm_bind (comm_viBack a y c) fun _ => comm_pure _ _

/-- `viPre` from the count on -/
def preTail2 (nrow noff : Int) (yb : Nat) : M (Int × Int × Int) := do
  let a1 ← viPrefix
  Vi.modify fun s => { s with arg1 := a1 }
  if yb == 0 then do
    let yb ← viYankbuf
    Vi.modify fun s => { s with ybuf := yb }
  viMotion nrow noff

/-- `viPre` after its first three steps -/
def preTail (nrow noff : Int) : M (Int × Int × Int) := do
  let yb ← viYankbuf
  Vi.modify fun s => { s with ybuf := yb }
  preTail2 nrow noff yb

theorem viPre_eq (S : VS) :
    viPre S = preTail S.ed.xrow (noeol S S.ed.xrow S.ed.xoff) { S with icmd := [], arg2 := 0 } := rfl

theorem preTail2_A (r o : Int) (yb : Nat) (a : Int) (V : VS) : preTail2 r o yb (setAY a none V) = preTail2 r o yb V := by
  unfold preTail2
  rw [bind_apply, bind_apply, comm_viPrefix a none V]
  cases viPrefix V with
  | eof => rfl
  | trap => rfl
  | ok a1 V1 => rfl

theorem preTail_AY (r o : Int) (a : Int) (y : Nat) (U : VS) : preTail r o (setAY a (some y) U) = preTail r o U := by
  unfold preTail
  rw [bind_apply, bind_apply, comm_viYankbuf a (some y) U]
  cases viYankbuf U with
  | eof => rfl
  | trap => rfl
  | ok yb U1 =>
    show preTail2 r o yb (setAY a none { U1 with ybuf := yb }) = preTail2 r o yb { U1 with ybuf := yb }
    exact preTail2_A r o yb a _

theorem viRead_drained (U : VS) (ib : Bytes) (ip : Nat) (hv : U.vibuf = []) (h : ib.length ≤ ip) :
    viRead { U with ibuf := ib, ibufPos := ip } = viRead { U with ibuf := [], ibufPos := 0 } := by
  unfold viRead
  simp only [hv]
  unfold termRead
  simp [h]

theorem preTail_drained (r o : Int) (U : VS) (ib : Bytes) (ip : Nat) (hv : U.vibuf = []) (h : ib.length ≤ ip) :
    preTail r o { U with ibuf := ib, ibufPos := ip } = preTail r o { U with ibuf := [], ibufPos := 0 } := by
  unfold preTail viYankbuf
  simp only [bind_apply, viRead_drained U ib ip hv h]

theorem viPre_typed (s : VS) (keys : Bytes) (hv : s.vibuf = []) (hd : s.ibuf.length ≤ s.ibufPos) :
    viPre { s with typed := keys } = viPre (typedAt s keys) := by
  rw [viPre_eq, viPre_eq]
  show preTail s.ed.xrow (noeol ({ s with typed := keys } : VS) s.ed.xrow s.ed.xoff)
      (setAY s.arg1 (some s.ybuf) { ({ s with typed := keys, icmd := [], arg1 := 0, arg2 := 0, ybuf := 0 } : VS) with
        ibuf := s.ibuf, ibufPos := s.ibufPos }) =
    preTail s.ed.xrow (noeol (typedAt s keys) s.ed.xrow s.ed.xoff)
      { ({ s with typed := keys, icmd := [], arg1 := 0, arg2 := 0, ybuf := 0 } : VS) with ibuf := [], ibufPos := 0 }
  rw [preTail_AY, preTail_drained _ _ ({ s with typed := keys, icmd := [], arg1 := 0, arg2 := 0, ybuf := 0 } : VS) _ _ hv hd]
  rfl

theorem cmdFirst_typed (s : VS) (keys : Bytes) (hv : s.vibuf = []) (hd : s.ibuf.length ≤ s.ibufPos) :
    cmdFirst { s with typed := keys } = cmdFirst (typedAt s keys) := by
  unfold cmdFirst
  rw [viPre_typed s keys hv hd]

end Neatvi.Lemmas.C09c
