import NeatviVerif.Props.C01
import NeatviVerif.Lemmas.C09cRel
import NeatviVerif.Lemmas.EdG
import NeatviVerif.Lemmas.Hist
/-!
# C09c: every operation of `lbuf.c` respects `LbRel`

`lbuf_mark`, `lbuf_jump`, `lbuf_replace`, `lbuf_opt`, `lbuf_edit`, `lbuf_undo`, `lbuf_redo` (which *group* by
sequence number), `lbuf_seq`, `lbuf_modified` (which *bumps* the counter and compares two numbers for the dirty
flag), `lbuf_saved`, `lbuf_unsaved`, the glob marks, `lbuf_cp`, `lbuf_rd`.
-/
namespace Neatvi.Lemmas.C09c
open Neatvi Neatvi.Lbuf Neatvi.LbufIo Neatvi.Ex

/-- the main way to build `LbRel`: the pairs of sequence numbers of the new buffers are among those of the old -/
theorem LbRel.of_sub {w w' : Bool} {a b a' b' : Lb} (h : LbRel w a b)
    (lines : a'.lines = b'.lines) (glob : a'.glob = b'.glob) (lnSz : a'.lnSz = b'.lnSz)
    (mark : ∀ p, wset w' a'.mark p = wset w' b'.mark p) (markOff : ∀ p, wset w' a'.markOff p = wset w' b'.markOff p)
    (histSz : a'.histSz = b'.histSz) (histU : a'.histU = b'.histU) (unsaved : a'.unsaved = b'.unsaved)
    (hist : All2 EntRel a'.hist b'.hist) (sub : ∀ p, SeqP a' b' p → SeqP a b p)
    (hu : a'.useq = a.useq) (hu' : b'.useq = b.useq) : LbRel w' a' b' :=
  ⟨lines, glob, lnSz, mark, markOff, histSz, histU, unsaved, hist,
    fun p q hp hq => h.ord p q (sub p hp) (sub q hq),
    fun p hp => by rw [hu, hu']; exact h.top p (sub p hp)⟩

theorem seqP_congr {a b a' b' : Lb} (hh : a'.hist = a.hist) (hh' : b'.hist = b.hist) (hu : a'.useq = a.useq)
    (hu' : b'.useq = b.useq) (hz : a'.useqZero = a.useqZero) (hz' : b'.useqZero = b.useqZero)
    (hl : a'.useqLast = a.useqLast) (hl' : b'.useqLast = b.useqLast) (p : Nat × Nat) (h : SeqP a' b' p) : SeqP a b p := by
  unfold SeqP at *
  rw [hh, hh', hu, hu', hz, hz', hl, hl'] at h
  exact h

theorem LbRel.upd {w w' : Bool} {a b a' b' : Lb} (h : LbRel w a b)
    (hh : a'.hist = a.hist) (hh' : b'.hist = b.hist) (hu : a'.useq = a.useq) (hu' : b'.useq = b.useq)
    (hz : a'.useqZero = a.useqZero) (hz' : b'.useqZero = b.useqZero)
    (hl : a'.useqLast = a.useqLast) (hl' : b'.useqLast = b.useqLast)
    (lines : a'.lines = b'.lines) (glob : a'.glob = b'.glob) (lnSz : a'.lnSz = b'.lnSz)
    (mark : ∀ p, wset w' a'.mark p = wset w' b'.mark p) (markOff : ∀ p, wset w' a'.markOff p = wset w' b'.markOff p)
    (histSz : a'.histSz = b'.histSz) (histU : a'.histU = b'.histU) (unsaved : a'.unsaved = b'.unsaved) :
    LbRel w' a' b' :=
  h.of_sub lines glob lnSz mark markOff histSz histU unsaved (by rw [hh, hh']; exact h.hist)
    (seqP_congr hh hh' hu hu' hz hz' hl hl') hu hu'

/-! ### marks -/

theorem wset_set {w : Bool} {l l' : List Int} (h : ∀ p, wset w l p = wset w l' p) (i : Nat) (v p : Int) :
    wset w (l.set i v) p = wset w (l'.set i v) p := by
  cases w with
  | false => have := h 0; unfold wset at *; simp only [Bool.false_eq_true, if_false] at *; rw [this]
  | true =>
    unfold wset at *
    simp only [if_true] at *
    by_cases hi : i = 30
    · subst hi
      rw [List.set_set, List.set_set]
      exact h p
    · rw [List.set_comm _ _ hi, List.set_comm _ _ hi, h p]

theorem setMark_rel {w : Bool} {a b : Lb} (h : LbRel w a b) (c : Nat) (p o : Int) :
    LbRel w (setMark a c p o) (setMark b c p o) := by
  unfold setMark
  cases markIdx c with
  | none => exact h
  | some i =>
    exact h.upd rfl rfl rfl rfl rfl rfl rfl rfl h.lines h.glob h.lnSz (fun q => wset_set h.mark i p q)
      (fun q => wset_set h.markOff i o q) h.histSz h.histU h.unsaved

/-- setting the mark `^` ends its exemption -/
theorem setMark_caret_rel {a b : Lb} (h : LbRel true a b) (p o : Int) :
    LbRel false (setMark a 94 p o) (setMark b 94 p o) := by
  have hm : markIdx 94 = some 30 := by decide
  unfold setMark
  rw [hm]
  exact h.upd rfl rfl rfl rfl rfl rfl rfl rfl h.lines h.glob h.lnSz (fun _ => h.mark p) (fun _ => h.markOff o)
    h.histSz h.histU h.unsaved

theorem jump_rel {a b : Lb} (h : LbRel false a b) (c : Nat) : jump a c = jump b c := by
  unfold jump
  rw [h.mark_eq, h.markOff_eq]

theorem setMark_useqZero (a : Lb) (c : Nat) (p o : Int) : (setMark a c p o).useqZero = a.useqZero := by
  unfold setMark; split <;> rfl
theorem setMark_useqLast (a : Lb) (c : Nat) (p o : Int) : (setMark a c p o).useqLast = a.useqLast := by
  unfold setMark; split <;> rfl

/-! ### `lbuf_replace` -/

theorem replace_rel {a b : Lb} (h : LbRel false a b) (s : Option Bytes) (pos nDel : Nat) :
    ORel (LbRel false) (replace a s pos nDel) (replace b s pos nDel) := by
  unfold replace
  simp only []
  rw [h.lines]
  split
  · show LbRel false _ _
    apply setMark_rel
    apply setMark_rel
    refine h.upd rfl rfl rfl rfl rfl rfl rfl rfl rfl ?_ ?_ ?_ h.markOff h.histSz h.histU h.unsaved
    · show _ ++ _ ++ _ = _ ++ _ ++ _
      rw [h.glob]
    · show growSz _ a.lnSz _ = growSz _ b.lnSz _
      rw [h.lnSz]
    · intro p
      show List.map _ a.mark = List.map _ b.mark
      rw [h.mark_eq]
  · trivial

theorem replace_seq {a a' : Lb} {s : Option Bytes} {pos nDel : Nat} (h : replace a s pos nDel = some a') :
    a'.hist = a.hist ∧ a'.useq = a.useq ∧ a'.useqZero = a.useqZero ∧ a'.useqLast = a.useqLast ∧ a'.histU = a.histU := by
  unfold replace at h
  simp only [] at h
  split at h
  · cases h
    simp [Hist.setMark_hist, Hist.setMark_useq, setMark_useqZero, setMark_useqLast, Hist.setMark_histU]
  · cases h

theorem cp_rel {a b : Lb} {w : Bool} (h : LbRel w a b) (x y : Nat) : cp a x y = cp b x y := by
  unfold cp; rw [h.lines]

/-! ### `lbuf_opt`: a new undo record takes the current value of the counter -/

theorem opt_useq (a : Lb) (buf : Option Bytes) (pos nDel : Nat) : (opt a buf pos nDel).useq = a.useq := rfl
theorem opt_useqZero (a : Lb) (buf : Option Bytes) (pos nDel : Nat) : (opt a buf pos nDel).useqZero = a.useqZero := rfl
theorem opt_useqLast (a : Lb) (buf : Option Bytes) (pos nDel : Nat) : (opt a buf pos nDel).useqLast = a.useqLast := rfl

theorem opt_hist (a : Lb) (buf : Option Bytes) (pos nDel : Nat) :
    ∃ e : Entry, (opt a buf pos nDel).hist = a.hist.take a.histU ++ [e] ∧ e.seq = a.useq ∧ e.pos = pos ∧
      e.nIns = lineCount buf ∧ e.nDel = nDel ∧ e.ins = buf ∧
      e.del = (if nDel > 0 then some (cp a pos (pos + nDel)) else none) ∧
      e.posOff = (if a.mark.getD 30 (-1) ≥ 0 then a.markOff.getD 30 0 else 0) :=
  ⟨_, rfl, rfl, rfl, rfl, rfl, rfl, rfl, rfl⟩

theorem opt_rel {a b : Lb} (h : LbRel false a b) (buf : Option Bytes) (pos nDel : Nat) :
    LbRel false (opt a buf pos nDel) (opt b buf pos nDel) := by
  have hlen : (a.hist.take a.histU).length = (b.hist.take b.histU).length := by
    rw [h.histU]; exact (h.hist.take _).length_eq
  have hm := h.mark_eq
  have hmo := h.markOff_eq
  refine h.of_sub (w' := false) ?_ ?_ ?_ ?_ ?_ ?_ ?_ ?_ ?_ ?_ rfl rfl
  · exact h.lines
  · exact h.glob
  · exact h.lnSz
  · intro p
    show List.set a.mark 27 _ = List.set b.mark 27 _
    rw [hm]
  · intro p
    show List.set a.markOff 27 _ = List.set b.markOff 27 _
    rw [hmo]
  · show (if (a.hist.take a.histU).length = a.histSz then _ else a.histSz) =
      (if (b.hist.take b.histU).length = b.histSz then _ else b.histSz)
    rw [hlen, h.histSz]
  · show (a.hist.take a.histU).length + 1 = (b.hist.take b.histU).length + 1
    rw [hlen]
  · exact h.unsaved
  · show All2 EntRel (a.hist.take a.histU ++ [_]) (b.hist.take b.histU ++ [_])
    refine All2.append (by rw [h.histU]; exact h.hist.take _) (All2.single ?_)
    refine ⟨rfl, rfl, rfl, rfl, ?_, ?_, ?_⟩
    · show (if nDel > 0 then some (cp a pos (pos + nDel)) else none) = (if nDel > 0 then some (cp b pos (pos + nDel)) else none)
      rw [cp_rel h]
    · show (if a.mark.getD 30 (-1) ≥ 0 then a.markOff.getD 30 0 else 0) = (if b.mark.getD 30 (-1) ≥ 0 then b.markOff.getD 30 0 else 0)
      rw [hm, hmo]
    · show (if _ then _ else none) = (if _ then _ else none)
      rw [hm, hmo]
  · intro p hp
    rcases hp with rfl | rfl | rfl | hp
    · exact Or.inl rfl
    · exact Or.inr (Or.inl rfl)
    · exact Or.inr (Or.inr (Or.inl rfl))
    · have hp' : HP (a.hist.take a.histU ++ [_]) (b.hist.take b.histU ++ [_]) p := hp
      rcases HP.of_append_single hlen hp' with hq | hq
      · rw [h.histU] at hq
        exact Or.inr (Or.inr (Or.inr (HP.of_take _ hq)))
      · exact Or.inl hq

theorem edit_rel {a b : Lb} (h : LbRel false a b) (buf : Option Bytes) (x y : Nat) :
    ORel (LbRel false) (Lbuf.edit a buf x y) (Lbuf.edit b buf x y) := by
  unfold Lbuf.edit
  simp only []
  rw [h.lines]
  split
  · trivial
  · split
    · exact h
    · exact replace_rel (opt_rel h buf _ _) buf _ _

/-! ### `lbuf_undo`, `lbuf_redo`: grouping by sequence number -/

theorem loadPos_rel {a b : Lb} (h : LbRel false a b) {e e' : Entry} (he : EntRel e e') :
    LbRel false (loadPos a e) (loadPos b e') := by
  refine h.upd rfl rfl rfl rfl rfl rfl rfl rfl h.lines h.glob h.lnSz ?_ ?_ h.histSz h.histU h.unsaved
  · intro p
    show List.set (List.set a.mark 30 _) 27 _ = List.set (List.set b.mark 30 _) 27 _
    rw [h.mark_eq, he.pos]
  · intro p
    show List.set (List.set a.markOff 30 _) 27 _ = List.set (List.set b.markOff 30 _) 27 _
    rw [h.markOff_eq, he.posOff]

theorem loadMarks_rel {a b : Lb} (h : LbRel false a b) {e e' : Entry} (he : EntRel e e') :
    LbRel false (loadMarks a e) (loadMarks b e') := by
  unfold loadMarks
  rw [he.marks]
  split
  · exact h
  · refine h.upd rfl rfl rfl rfl rfl rfl rfl rfl h.lines h.glob h.lnSz ?_ ?_ h.histSz h.histU h.unsaved
    · intro p
      show List.map _ (List.range a.mark.length) = List.map _ (List.range b.mark.length)
      rw [h.mark_eq]
    · intro p
      show List.map _ (List.range a.markOff.length) = List.map _ (List.range b.markOff.length)
      rw [h.markOff_eq]

theorem withHistU_rel {a b : Lb} (h : LbRel false a b) (u : Nat) :
    LbRel false { a with histU := u } { b with histU := u } :=
  h.upd rfl rfl rfl rfl rfl rfl rfl rfl h.lines h.glob h.lnSz h.mark h.markOff h.histSz rfl h.unsaved

theorem undoGo_rel (seq seq' : Nat) : ∀ (f : Nat) (a b : Lb), LbRel false a b →
    (∀ p, HP a.hist b.hist p → (p.1 = seq ↔ p.2 = seq')) →
    ORel (LbRel false) (undoGo seq f a) (undoGo seq' f b) := by
  intro f
  induction f with
  | zero => intro a b h _; exact h
  | succ f ih =>
    intro a b h hs
    unfold undoGo
    rw [h.histU]
    cases hu : b.histU with
    | zero => exact h
    | succ u =>
      simp only []
      rcases h.hist.getElem? u with ⟨h1, h2⟩ | ⟨e, e', h1, h2, he⟩
      · rw [h1, h2]; trivial
      · rw [h1, h2]
        simp only []
        have hc : e.seq = seq ↔ e'.seq = seq' := hs _ (HP.of_getElem u h1 h2)
        by_cases hq : e.seq = seq
        · rw [if_pos hq, if_pos (hc.mp hq)]
          have hr := replace_rel (withHistU_rel h u) e.del e.pos e.nIns
          rw [← he.del, ← he.pos, ← he.nIns]
          rcases hr.cases with ⟨r1, r2⟩ | ⟨a1, b1, r1, r2, hab⟩
          · rw [r1, r2]; trivial
          · rw [r1, r2]
            simp only []
            refine ih _ _ (loadMarks_rel (loadPos_rel hab he) he) ?_
            rw [Hist.loadMarks_hist, Hist.loadMarks_hist]
            show ∀ p, HP a1.hist b1.hist p → _
            rw [(replace_seq r1).1, (replace_seq r2).1]
            exact hs
        · rw [if_neg hq, if_neg (fun x => hq (hc.mpr x))]
          exact h

theorem undo_rel {a b : Lb} (h : LbRel false a b) : ORel (PRel (LbRel false)) (Lbuf.undo a) (Lbuf.undo b) := by
  unfold Lbuf.undo
  rw [h.histU]
  cases hu : b.histU with
  | zero => exact ⟨rfl, h⟩
  | succ u =>
    simp only []
    rcases h.hist.getElem? u with ⟨h1, h2⟩ | ⟨e, e', h1, h2, he⟩
    · rw [h1, h2]; trivial
    · rw [h1, h2]
      simp only []
      have hr := undoGo_rel e.seq e'.seq (u + 1) a b h (fun p hp =>
        h.eq_iff (Or.inr (Or.inr (Or.inr hp))) (Or.inr (Or.inr (Or.inr (HP.of_getElem u h1 h2)))))
      rcases hr.cases with ⟨r1, r2⟩ | ⟨a1, b1, r1, r2, hab⟩
      · rw [r1, r2]; trivial
      · rw [r1, r2]; exact ⟨rfl, hab⟩

theorem redoGo_rel (seq seq' : Nat) : ∀ (f : Nat) (a b : Lb), LbRel false a b →
    (∀ p, HP a.hist b.hist p → (p.1 = seq ↔ p.2 = seq')) →
    ORel (LbRel false) (redoGo seq f a) (redoGo seq' f b) := by
  intro f
  induction f with
  | zero => intro a b h _; exact h
  | succ f ih =>
    intro a b h hs
    unfold redoGo
    rw [h.histU, h.hist.length_eq]
    split
    · rcases h.hist.getElem? b.histU with ⟨h1, h2⟩ | ⟨e, e', h1, h2, he⟩
      · rw [h1, h2]; trivial
      · rw [h1, h2]
        simp only []
        have hc : e.seq = seq ↔ e'.seq = seq' := hs _ (HP.of_getElem _ h1 h2)
        by_cases hq : e.seq = seq
        · rw [if_pos hq, if_pos (hc.mp hq)]
          have hr := replace_rel (withHistU_rel h (b.histU + 1)) e.ins e.pos e.nDel
          rw [← he.ins, ← he.pos, ← he.nDel]
          rcases hr.cases with ⟨r1, r2⟩ | ⟨a1, b1, r1, r2, hab⟩
          · rw [r1, r2]; trivial
          · rw [r1, r2]
            simp only []
            refine ih _ _ (loadPos_rel hab he) ?_
            show ∀ p, HP a1.hist b1.hist p → _
            rw [(replace_seq r1).1, (replace_seq r2).1]
            exact hs
        · rw [if_neg hq, if_neg (fun x => hq (hc.mpr x))]
          exact h
    · exact h

theorem redo_rel {a b : Lb} (h : LbRel false a b) : ORel (PRel (LbRel false)) (Lbuf.redo a) (Lbuf.redo b) := by
  unfold Lbuf.redo
  rw [h.histU, h.hist.length_eq]
  split
  · exact ⟨rfl, h⟩
  · rcases h.hist.getElem? b.histU with ⟨h1, h2⟩ | ⟨e, e', h1, h2, he⟩
    · rw [h1, h2]; trivial
    · rw [h1, h2]
      simp only []
      have hr := redoGo_rel e.seq e'.seq (b.hist.length - b.histU) a b h (fun p hp =>
        h.eq_iff (Or.inr (Or.inr (Or.inr hp))) (Or.inr (Or.inr (Or.inr (HP.of_getElem _ h1 h2)))))
      rcases hr.cases with ⟨r1, r2⟩ | ⟨a1, b1, r1, r2, hab⟩
      · rw [r1, r2]; trivial
      · rw [r1, r2]; exact ⟨rfl, hab⟩

/-! ### `lbuf_seq`, `lbuf_modified`, `lbuf_saved` -/

theorem seqAt_pair {w : Bool} {a b : Lb} (h : LbRel w a b) : SeqP a b (seqAt a, seqAt b) := by
  unfold seqAt
  rw [h.histU]
  cases hu : b.histU with
  | zero => exact Or.inr (Or.inr (Or.inl rfl))
  | succ u =>
    simp only []
    rcases h.hist.getElem? u with ⟨h1, h2⟩ | ⟨e, e', h1, h2, _⟩
    · rw [h1, h2]; exact Or.inr (Or.inr (Or.inl rfl))
    · rw [h1, h2]; exact Or.inr (Or.inr (Or.inr (HP.of_getElem u h1 h2)))

theorem seqAt_bump (a : Lb) (n : Nat) : seqAt { a with useq := n } = seqAt a := rfl

theorem modified_rel {w : Bool} {a b : Lb} (h : LbRel w a b) :
    (modified a).1 = (modified b).1 ∧ LbRel w (modified a).2 (modified b).2 := by
  constructor
  · show (a.unsaved || seqAt { a with useq := a.useq + 1 } != a.useqZero) =
      (b.unsaved || seqAt { b with useq := b.useq + 1 } != b.useqZero)
    rw [seqAt_bump a, seqAt_bump b, h.unsaved]
    have := h.eq_iff (seqAt_pair h) (Or.inr (Or.inl rfl))
    simp only at this
    by_cases hq : seqAt a = a.useqZero
    · rw [hq, this.mp hq]; simp
    · have hq' : seqAt b ≠ b.useqZero := fun x => hq (this.mpr x)
      have n1 : (seqAt a != a.useqZero) = true := bne_iff_ne.mpr hq
      have n2 : (seqAt b != b.useqZero) = true := bne_iff_ne.mpr hq'
      rw [n1, n2]
  · show LbRel w { a with useq := a.useq + 1 } { b with useq := b.useq + 1 }
    have hsub : ∀ p, SeqP { a with useq := a.useq + 1 } { b with useq := b.useq + 1 } p →
        p = (a.useq + 1, b.useq + 1) ∨ SeqP a b p := by
      intro p hp
      rcases hp with rfl | rfl | rfl | hp
      · exact Or.inl rfl
      · exact Or.inr (Or.inr (Or.inl rfl))
      · exact Or.inr (Or.inr (Or.inr (Or.inl rfl)))
      · exact Or.inr (Or.inr (Or.inr (Or.inr hp)))
    refine ⟨h.lines, h.glob, h.lnSz, h.mark, h.markOff, h.histSz, h.histU, h.unsaved, h.hist, ?_, ?_⟩
    · intro p q hp hq
      rcases hsub p hp with rfl | hp <;> rcases hsub q hq with rfl | hq
      · simp
      · have := h.top q hq
        simp only
        omega
      · have := h.top p hp
        simp only
        omega
      · exact h.ord p q hp hq
    · intro p hp
      rcases hsub p hp with rfl | hp
      · exact ⟨Nat.le_refl _, Nat.le_refl _⟩
      · have := h.top p hp
        show p.1 ≤ a.useq + 1 ∧ p.2 ≤ b.useq + 1
        omega

theorem savedCore_rel {w : Bool} {a b : Lb} (h : LbRel w a b) (clear : Bool) :
    LbRel w (savedCore a clear) (savedCore b clear) := by
  cases clear with
  | true =>
    show LbRel w { a with hist := [], histU := 0, useqLast := a.useq, useqZero := a.useq, unsaved := false }
      { b with hist := [], histU := 0, useqLast := b.useq, useqZero := b.useq, unsaved := false }
    refine h.of_sub h.lines h.glob h.lnSz h.mark h.markOff h.histSz rfl rfl All2.nil ?_ rfl rfl
    intro p hp
    rcases hp with rfl | rfl | rfl | hp
    · exact Or.inl rfl
    · exact Or.inl rfl
    · exact Or.inl rfl
    · cases hp
  | false =>
    show LbRel w { a with useqZero := seqAt a, unsaved := false } { b with useqZero := seqAt b, unsaved := false }
    refine h.of_sub h.lines h.glob h.lnSz h.mark h.markOff h.histSz h.histU rfl h.hist ?_ rfl rfl
    intro p hp
    rcases hp with rfl | rfl | rfl | hp
    · exact Or.inl rfl
    · exact seqAt_pair h
    · exact Or.inr (Or.inr (Or.inl rfl))
    · exact Or.inr (Or.inr (Or.inr hp))

theorem unsavedMark_rel {w : Bool} {a b : Lb} (h : LbRel w a b) : LbRel w (unsavedMark a) (unsavedMark b) :=
  h.upd rfl rfl rfl rfl rfl rfl rfl rfl h.lines h.glob h.lnSz h.mark h.markOff h.histSz h.histU rfl

theorem globSet_rel {w : Bool} {a b : Lb} (h : LbRel w a b) (pos dep : Nat) :
    LbRel w (globSet a pos dep) (globSet b pos dep) := by
  refine h.upd rfl rfl rfl rfl rfl rfl rfl rfl h.lines ?_ h.lnSz h.mark h.markOff h.histSz h.histU h.unsaved
  show List.set a.glob _ _ = List.set b.glob _ _
  rw [h.glob]

theorem globGet_rel {w : Bool} {a b : Lb} (h : LbRel w a b) (pos dep : Nat) :
    (globGet a pos dep).1 = (globGet b pos dep).1 ∧ LbRel w (globGet a pos dep).2 (globGet b pos dep).2 := by
  constructor
  · show decide (a.glob.getD pos 0 &&& (1 <<< dep) > 0) = decide (b.glob.getD pos 0 &&& (1 <<< dep) > 0)
    rw [h.glob]
  · refine h.upd rfl rfl rfl rfl rfl rfl rfl rfl h.lines ?_ h.lnSz h.mark h.markOff h.histSz h.histU h.unsaved
    show List.set a.glob _ _ = List.set b.glob _ _
    rw [h.glob]

theorem rd_rel {a b : Lb} (h : LbRel false a b) (chunks : List Bytes) (fe : Bool) (x y : Nat) :
    ORel (PRel (LbRel false)) (rd a chunks fe x y) (rd b chunks fe x y) := by
  rw [Props.C01.rd_eq, Props.C01.rd_eq]
  split
  · exact ⟨rfl, h⟩
  · rcases (edit_rel h (some (cstr chunks.flatten)) x y).cases with ⟨r1, r2⟩ | ⟨a1, b1, r1, r2, hab⟩
    · rw [r1, r2]; trivial
    · rw [r1, r2]; exact ⟨rfl, hab⟩

theorem seqOk_make : SeqOk Lbuf.make := ⟨by decide, by decide, fun e he => by cases he⟩

theorem make_rel (w : Bool) : LbRel w Lbuf.make Lbuf.make := LbRel.refl seqOk_make w

end Neatvi.Lemmas.C09c
