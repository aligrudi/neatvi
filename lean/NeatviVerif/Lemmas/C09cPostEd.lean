import NeatviVerif.Lemmas.C09Cmd
import NeatviVerif.Lemmas.ViStages
/-!
# C09c: the end of an iteration of `vi()` that changed nothing, as a function of the state

`viPost (some 0)` runs `vi_wfix()`, the horizontal scroll, `vi_wait()` and `lbuf_modified()` twice: `postEd X` is what
it makes of `ed` when the editor is not quitting and no `[enter to continue]` prompt is pending; when it is quitting
only `vi_wfix()` has run.  The part after `vi_wfix()` is read off its closed form in `Lemmas/ViStages.lean`.
-/
namespace Neatvi.Lemmas.C09c
open Neatvi Neatvi.Uc Neatvi.Lbuf Neatvi.Ex Neatvi.Vi Neatvi.Mot
open Neatvi.Lemmas.C07 (bind_apply)

/-- `vi_wfix()` as a function of the state -/
def wfixEd (X : VS) : Ed :=
  let n := lenOf X
  let xrow := if X.ed.xrow < 0 || X.ed.xrow ≥ n then (if n != 0 then n - 1 else 0) else X.ed.xrow
  let xrows := X.xrows
  let xtop := X.ed.xtop
  let xtop := if xtop > xrow then (if xtop - xrows / 2 > xrow then max 0 (xrow - xrows / 2) else xrow) else xtop
  let xtop := if xtop + xrows ≤ xrow then (if xtop + xrows + xrows / 2 ≤ xrow then xrow - xrows / 2 else xrow - xrows + 1) else xtop
  let e1 : Ed := { X.ed with xrow := xrow, xtop := xtop }
  { e1 with xoff := match lineOf { X with ed := e1 } xrow with
      | some l => Ren.renNoeol l e1.xoff | none => Ren.renNoeol [] e1.xoff }

theorem viWfix_eq (X : VS) : viWfix X = Res.ok () { X with ed := wfixEd X } := by
  unfold viWfix wfixEd
  rfl

/-- the horizontal scroll at the end of an iteration -/
def leftEd (xcol xcols : Int) (e : Ed) : Ed :=
  let e2 : Ed := if xcol ≥ e.xleft + xcols then { e with xleft := xcol - xcols / 2 } else e
  if xcol < e2.xleft then { e2 with xleft := if xcol < xcols then 0 else xcol - xcols / 2 } else e2

/-- `lbuf_modified(xb)` -/
def bumpEd (e : Ed) : Ed := match e.lb with | some lb => e.setLb (Lbuf.modified lb).2 | none => e

theorem postTail_eq (Z : VS) (hout : nlCount Z.ed.out ≤ 1) :
    (do viWait; lbufModified; lbufModified : M Unit) Z =
      Res.ok () { Z with ed := bumpEd (bumpEd { Z.ed with out := [] }) } := by
  unfold viWait
  simp only [bind_apply, Vi.get]
  rw [if_neg (by omega)]
  rfl

theorem leftEd_postLeft (c w : Int) (e : Ed) : leftEd c w e = { e with xleft := Lemmas.C19f.postLeft c e.xleft w } := by
  unfold leftEd Lemmas.C19f.postLeft
  dsimp only
  split <;> split <;> rfl

theorem viPostRest_zero (Y : VS) (hq : Y.ed.xquit = false) (hout : nlCount Y.ed.out ≤ 1) :
    Lemmas.C07.viPostRest 0 Y = Res.ok () { Y with ed := bumpEd (bumpEd { leftEd Y.xcol Y.xcols Y.ed with out := [] }) } := by
  rw [Lemmas.C19f.viPostRest_run 0 Y hq, leftEd_postLeft]
  exact postTail_eq (Lemmas.C19f.postState 0 Y) hout

/-- the end of an iteration that changed nothing (`viPost (some 0)`), as a function of the state -/
def postEd (X : VS) : Ed :=
  bumpEd (bumpEd { leftEd X.xcol X.xcols (wfixEd X) with out := [] })

theorem viPost_zero_eq (X : VS) (hq : X.ed.xquit = false) (hout : nlCount X.ed.out ≤ 1) :
    viPost (some 0) X = Res.ok () { X with ed := postEd X } := by
  rw [Lemmas.C07.viPost_some, bind_apply, viWfix_eq]
  exact viPostRest_zero { X with ed := wfixEd X } hq hout

theorem viPost_quit (mod : Nat) (X : VS) (hq : X.ed.xquit = true) :
    viPost (some mod) X = Res.ok () { X with ed := wfixEd X } := by
  rw [Lemmas.C07.viPost_some, bind_apply, viWfix_eq]
  exact Lemmas.C19f.viPostRest_quit mod { X with ed := wfixEd X } hq

end Neatvi.Lemmas.C09c
