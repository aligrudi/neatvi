import NeatviVerif.Model.Vi
/-!
# C09c: equality of editor states up to a monotone renumbering of the undo sequence numbers

`lbuf.c` stamps every undo record with the value of the counter `useq` and bumps that counter in
`lbuf_modified()`.  The numbers are only ever *compared*: `lbuf_undo` / `lbuf_redo` group the records that carry the
same number, `lbuf_modified` compares the number at the undo position with `useq_zero` (the dirty flag), and a new
record takes the current value of the counter.  So two states that agree in everything but these numbers behave
alike, provided the numbers are *order-isomorphic* and the counter is the largest of them on both sides.

* `LbRel w a b` — two line buffers: same lines, marks, glob marks, undo position, same undo records but for `seq`;
  the pairs `(n, n')` of corresponding numbers (`SeqP`: the counter, `useq_zero`, `useq_last`, the records) are
  ordered alike (`p.1 ≤ q.1 ↔ p.2 ≤ q.2`: order preserving **and** group preserving) and lie below the counters.
  With `w = true` the mark `^` (index 30) is exempt.
* `EdRel w a b` — two `ex` states: every field but the buffer table equal; the tables related slot by slot (the
  exemption `w` concerns the current buffer only).
* `Sim w s t` — two `vi` states: `EdRel w` on `ed`, every other field equal.
-/
namespace Neatvi.Lemmas.C09c
open Neatvi Neatvi.Lbuf Neatvi.Ex Neatvi.Vi

/-! ### lists related element by element -/

inductive All2 {α β : Type} (R : α → β → Prop) : List α → List β → Prop where
  | nil : All2 R [] []
  | cons {a : α} {b : β} {l : List α} {l' : List β} : R a b → All2 R l l' → All2 R (a :: l) (b :: l')

namespace All2
variable {α β : Type} {R : α → β → Prop}

theorem length_eq {l : List α} {l' : List β} (h : All2 R l l') : l.length = l'.length := by
  induction h with
  | nil => rfl
  | cons _ _ ih => simp [ih]

theorem imp {S : α → β → Prop} (hRS : ∀ a b, R a b → S a b) {l : List α} {l' : List β} (h : All2 R l l') :
    All2 S l l' := by
  induction h with
  | nil => exact nil
  | cons h1 _ ih => exact cons (hRS _ _ h1) ih

theorem getElem? {l : List α} {l' : List β} (h : All2 R l l') (i : Nat) :
    (l[i]? = none ∧ l'[i]? = none) ∨ ∃ a b, l[i]? = some a ∧ l'[i]? = some b ∧ R a b := by
  induction h generalizing i with
  | nil => left; simp
  | cons h1 _ ih =>
    cases i with
    | zero => right; exact ⟨_, _, by simp, by simp, h1⟩
    | succ i => simpa using ih i

theorem getD {l : List α} {l' : List β} (h : All2 R l l') {d : α} {d' : β} (hd : R d d') (i : Nat) :
    R (l.getD i d) (l'.getD i d') := by
  rw [List.getD_eq_getElem?_getD, List.getD_eq_getElem?_getD]
  rcases h.getElem? i with ⟨h1, h2⟩ | ⟨a, b, h1, h2, h3⟩
  · rw [h1, h2]; exact hd
  · rw [h1, h2]; exact h3

theorem set {l : List α} {l' : List β} (h : All2 R l l') (i : Nat) {a : α} {b : β} (hab : R a b) :
    All2 R (l.set i a) (l'.set i b) := by
  induction h generalizing i with
  | nil => exact nil
  | cons h1 h2 ih =>
    cases i with
    | zero => exact cons hab h2
    | succ i => exact cons h1 (ih i)

theorem take {l : List α} {l' : List β} (h : All2 R l l') (n : Nat) : All2 R (l.take n) (l'.take n) := by
  induction h generalizing n with
  | nil => simpa using nil
  | cons h1 _ ih =>
    cases n with
    | zero => exact nil
    | succ n => exact cons h1 (ih n)

theorem drop {l : List α} {l' : List β} (h : All2 R l l') (n : Nat) : All2 R (l.drop n) (l'.drop n) := by
  induction h generalizing n with
  | nil => simpa using nil
  | cons h1 h2 ih =>
    cases n with
    | zero => exact cons h1 h2
    | succ n => exact ih n

theorem append {l1 l2 : List α} {l1' l2' : List β} (h1 : All2 R l1 l1') (h2 : All2 R l2 l2') :
    All2 R (l1 ++ l2) (l1' ++ l2') := by
  induction h1 with
  | nil => exact h2
  | cons h _ ih => exact cons h ih

theorem replicate (n : Nat) {a : α} {b : β} (h : R a b) : All2 R (List.replicate n a) (List.replicate n b) := by
  induction n with
  | zero => exact nil
  | succ n ih => exact cons h ih

theorem refl {R : α → α → Prop} (l : List α) (h : ∀ a ∈ l, R a a) : All2 R l l := by
  induction l with
  | nil => exact nil
  | cons a l ih => exact cons (h a (by simp)) (ih fun x hx => h x (by simp [hx]))

theorem single {a : α} {b : β} (h : R a b) : All2 R [a] [b] := cons h nil

end All2

/-! ### line buffers -/

/-- two undo records that differ at most in their sequence number -/
structure EntRel (e e' : Entry) : Prop where
  pos : e.pos = e'.pos
  nIns : e.nIns = e'.nIns
  nDel : e.nDel = e'.nDel
  ins : e.ins = e'.ins
  del : e.del = e'.del
  posOff : e.posOff = e'.posOff
  marks : e.marks = e'.marks

theorem EntRel.rfl' (e : Entry) : EntRel e e := ⟨rfl, rfl, rfl, rfl, rfl, rfl, rfl⟩

/-- the pairs of sequence numbers of corresponding undo records -/
inductive HP : List Entry → List Entry → Nat × Nat → Prop where
  | head {e e' : Entry} {l l' : List Entry} : HP (e :: l) (e' :: l') (e.seq, e'.seq)
  | tail {e e' : Entry} {l l' : List Entry} {p : Nat × Nat} : HP l l' p → HP (e :: l) (e' :: l') p

theorem HP.of_take {l l' : List Entry} {p : Nat × Nat} (n : Nat) (h : HP (l.take n) (l'.take n) p) : HP l l' p := by
  induction n generalizing l l' with
  | zero => simp at h; cases h
  | succ n ih =>
    cases l with
    | nil => simp at h; cases h
    | cons e l =>
      cases l' with
      | nil => simp at h; cases h
      | cons e' l' =>
        simp only [List.take_succ_cons] at h
        cases h with
        | head => exact HP.head
        | tail h => exact HP.tail (ih h)

theorem HP.of_append_single {l l' : List Entry} {e e' : Entry} {p : Nat × Nat} (hl : l.length = l'.length)
    (h : HP (l ++ [e]) (l' ++ [e']) p) : HP l l' p ∨ p = (e.seq, e'.seq) := by
  induction l generalizing l' with
  | nil =>
    cases l' with
    | nil =>
      cases h with
      | head => right; rfl
      | tail h => cases h
    | cons _ _ => simp at hl
  | cons a l ih =>
    cases l' with
    | nil => simp at hl
    | cons a' l' =>
      simp only [List.cons_append] at h
      cases h with
      | head => left; exact HP.head
      | tail h =>
        rcases ih (by simpa using hl) h with h | h
        · left; exact HP.tail h
        · right; exact h

theorem HP.of_getElem {l l' : List Entry} {e e' : Entry} (i : Nat) (h : l[i]? = some e) (h' : l'[i]? = some e') :
    HP l l' (e.seq, e'.seq) := by
  induction l generalizing l' i with
  | nil => simp at h
  | cons a l ih =>
    cases l' with
    | nil => simp at h'
    | cons a' l' =>
      cases i with
      | zero =>
        simp at h h'
        subst h h'
        exact HP.head
      | succ i => exact HP.tail (ih i (by simpa using h) (by simpa using h'))

theorem HP.refl_aux {l l2 : List Entry} {p : Nat × Nat} (h : HP l l2 p) (e : l = l2) :
    p.1 = p.2 ∧ ∃ x ∈ l, x.seq = p.1 := by
  induction h with
  | head => cases e; exact ⟨rfl, _, by simp, rfl⟩
  | tail _ ih =>
    cases e
    obtain ⟨h1, x, hx, h2⟩ := ih rfl
    exact ⟨h1, x, by simp [hx], h2⟩

theorem HP.refl_mem {l : List Entry} {p : Nat × Nat} (h : HP l l p) : p.1 = p.2 ∧ ∃ e ∈ l, e.seq = p.1 :=
  h.refl_aux rfl

theorem HP.of_mem {l : List Entry} {e : Entry} (h : e ∈ l) : HP l l (e.seq, e.seq) := by
  induction l with
  | nil => cases h
  | cons a l ih =>
    rcases List.mem_cons.mp h with rfl | h
    · exact HP.head
    · exact HP.tail (ih h)

/-- the pairs of corresponding sequence numbers of two line buffers -/
def SeqP (a b : Lb) (p : Nat × Nat) : Prop :=
  p = (a.useq, b.useq) ∨ p = (a.useqZero, b.useqZero) ∨ p = (a.useqLast, b.useqLast) ∨ HP a.hist b.hist p

/-- `l` with the mark `^` overwritten when `w` -/
def wset (w : Bool) (l : List Int) (p : Int) : List Int := if w then l.set 30 p else l

/-- **two line buffers that are equal up to a monotone renumbering of their sequence numbers** -/
structure LbRel (w : Bool) (a b : Lb) : Prop where
  lines : a.lines = b.lines
  glob : a.glob = b.glob
  lnSz : a.lnSz = b.lnSz
  mark : ∀ p, wset w a.mark p = wset w b.mark p
  markOff : ∀ p, wset w a.markOff p = wset w b.markOff p
  histSz : a.histSz = b.histSz
  histU : a.histU = b.histU
  unsaved : a.unsaved = b.unsaved
  hist : All2 EntRel a.hist b.hist
  /-- order preserving and group preserving -/
  ord : ∀ p q, SeqP a b p → SeqP a b q → (p.1 ≤ q.1 ↔ p.2 ≤ q.2)
  /-- the counters are the largest numbers -/
  top : ∀ p, SeqP a b p → p.1 ≤ a.useq ∧ p.2 ≤ b.useq

/-- the sequence numbers of a line buffer lie below its counter -/
def SeqOk (a : Lb) : Prop := a.useqZero ≤ a.useq ∧ a.useqLast ≤ a.useq ∧ ∀ e ∈ a.hist, e.seq ≤ a.useq

theorem seqP_refl {a : Lb} {p : Nat × Nat} (h : SeqP a a p) :
    p.1 = p.2 ∧ (p.1 = a.useq ∨ p.1 = a.useqZero ∨ p.1 = a.useqLast ∨ ∃ e ∈ a.hist, e.seq = p.1) := by
  rcases h with rfl | rfl | rfl | h
  · exact ⟨rfl, Or.inl rfl⟩
  · exact ⟨rfl, Or.inr (Or.inl rfl)⟩
  · exact ⟨rfl, Or.inr (Or.inr (Or.inl rfl))⟩
  · exact ⟨h.refl_mem.1, Or.inr (Or.inr (Or.inr h.refl_mem.2))⟩

theorem LbRel.refl {a : Lb} (h : SeqOk a) (w : Bool) : LbRel w a a := by
  refine ⟨rfl, rfl, rfl, fun _ => rfl, fun _ => rfl, rfl, rfl, rfl, All2.refl _ fun e _ => EntRel.rfl' e, ?_, ?_⟩
  · intro p q hp hq
    rw [(seqP_refl hp).1, (seqP_refl hq).1]
  · intro p hp
    obtain ⟨h1, h2⟩ := seqP_refl hp
    rw [← h1]
    obtain ⟨z, l, hh⟩ := h
    rcases h2 with h2 | h2 | h2 | ⟨e, he, h2⟩
    · omega
    · omega
    · omega
    · have := hh e he; omega

theorem LbRel.seqOk_left {w : Bool} {a b : Lb} (h : LbRel w a b) : SeqOk a := by
  refine ⟨(h.top _ (Or.inr (Or.inl rfl))).1, (h.top _ (Or.inr (Or.inr (Or.inl rfl)))).1, fun e he => ?_⟩
  obtain ⟨i, hi⟩ := List.getElem?_of_mem he
  rcases h.hist.getElem? i with ⟨h1, _⟩ | ⟨x, y, h1, h2, _⟩
  · rw [h1] at hi; cases hi
  · rw [h1] at hi; cases hi
    exact (h.top _ (Or.inr (Or.inr (Or.inr (HP.of_getElem i h1 h2))))).1

theorem LbRel.seqOk_right {w : Bool} {a b : Lb} (h : LbRel w a b) : SeqOk b := by
  refine ⟨(h.top _ (Or.inr (Or.inl rfl))).2, (h.top _ (Or.inr (Or.inr (Or.inl rfl)))).2, fun e he => ?_⟩
  obtain ⟨i, hi⟩ := List.getElem?_of_mem he
  rcases h.hist.getElem? i with ⟨_, h1⟩ | ⟨x, y, h1, h2, _⟩
  · rw [h1] at hi; cases hi
  · rw [h2] at hi; cases hi
    exact (h.top _ (Or.inr (Or.inr (Or.inr (HP.of_getElem i h1 h2))))).2

theorem wset_false (l : List Int) (p : Int) : wset false l p = l := rfl

theorem LbRel.mark_eq {a b : Lb} (h : LbRel false a b) : a.mark = b.mark := h.mark 0
theorem LbRel.markOff_eq {a b : Lb} (h : LbRel false a b) : a.markOff = b.markOff := h.markOff 0

theorem LbRel.weaken {a b : Lb} (h : LbRel false a b) (w : Bool) : LbRel w a b :=
  { h with
    mark := fun p => by rw [h.mark_eq]
    markOff := fun p => by rw [h.markOff_eq] }

theorem LbRel.eq_iff {w : Bool} {a b : Lb} (h : LbRel w a b) {p q : Nat × Nat} (hp : SeqP a b p) (hq : SeqP a b q) :
    p.1 = q.1 ↔ p.2 = q.2 := by
  have h1 := h.ord p q hp hq
  have h2 := h.ord q p hq hp
  omega

/-! ### the buffer table and the `ex` state -/

structure BufRel (w : Bool) (x y : Buf) : Prop where
  path : x.path = y.path
  lb : LbRel w x.lb y.lb
  row : x.row = y.row
  off : x.off = y.off
  top : x.top = y.top
  left : x.left = y.left
  id : x.id = y.id
  td : x.td = y.td
  mtime : x.mtime = y.mtime

def OBufRel (w : Bool) : Option Buf → Option Buf → Prop
  | none, none => True
  | some x, some y => BufRel w x y
  | _, _ => False

/-- slot 0 (the current buffer) with the exemption `w`, the others without -/
def BufsRel (w : Bool) : List (Option Buf) → List (Option Buf) → Prop
  | x :: l, y :: l' => OBufRel w x y ∧ All2 (OBufRel false) l l'
  | [], [] => True
  | _, _ => False

theorem OBufRel.cases {w : Bool} {x y : Option Buf} (h : OBufRel w x y) :
    (x = none ∧ y = none) ∨ ∃ p q, x = some p ∧ y = some q ∧ BufRel w p q := by
  cases x <;> cases y
  · exact Or.inl ⟨rfl, rfl⟩
  · exact h.elim
  · exact h.elim
  · exact Or.inr ⟨_, _, rfl, rfl, h⟩

theorem BufsRel.cases {w : Bool} {l l' : List (Option Buf)} (h : BufsRel w l l') :
    (l = [] ∧ l' = []) ∨
      ∃ x y m m', l = x :: m ∧ l' = y :: m' ∧ OBufRel w x y ∧ All2 (OBufRel false) m m' := by
  cases l <;> cases l'
  · exact Or.inl ⟨rfl, rfl⟩
  · exact h.elim
  · exact h.elim
  · exact Or.inr ⟨_, _, _, _, rfl, rfl, h.1, h.2⟩

theorem BufRel.weaken {x y : Buf} (h : BufRel false x y) (w : Bool) : BufRel w x y := { h with lb := h.lb.weaken w }

theorem OBufRel.weaken {x y : Option Buf} (h : OBufRel false x y) (w : Bool) : OBufRel w x y := by
  rcases h.cases with ⟨rfl, rfl⟩ | ⟨p, q, rfl, rfl, hpq⟩
  · trivial
  · exact hpq.weaken w

theorem bufsRel_false {l l' : List (Option Buf)} : BufsRel false l l' ↔ All2 (OBufRel false) l l' := by
  cases l <;> cases l'
  · exact ⟨fun _ => All2.nil, fun _ => trivial⟩
  · exact ⟨fun h => h.elim, fun h => by cases h⟩
  · exact ⟨fun h => h.elim, fun h => by cases h⟩
  · exact ⟨fun h => All2.cons h.1 h.2, fun h => by cases h with | cons h1 h2 => exact ⟨h1, h2⟩⟩

/-- **two `ex` states that are equal up to a monotone renumbering of the sequence numbers of their buffers** -/
structure EdRel (w : Bool) (a b : Ed) : Prop where
  bufs : BufsRel w a.bufs b.bufs
  bufsCnt : a.bufsCnt = b.bufsCnt
  xrow : a.xrow = b.xrow
  xoff : a.xoff = b.xoff
  xtop : a.xtop = b.xtop
  xleft : a.xleft = b.xleft
  xtd : a.xtd = b.xtd
  xquit : a.xquit = b.xquit
  xvis : a.xvis = b.xvis
  xaw : a.xaw = b.xaw
  xwa : a.xwa = b.xwa
  xic : a.xic = b.xic
  xkwd : a.xkwd = b.xkwd
  xrep : a.xrep = b.xrep
  xkwddir : a.xkwddir = b.xkwddir
  xgdep : a.xgdep = b.xgdep
  atDepth : a.atDepth = b.atDepth
  regs : a.regs = b.regs
  files : a.files = b.files
  clock : a.clock = b.clock
  faults : a.faults = b.faults
  calls : a.calls = b.calls
  fired : a.fired = b.fired
  input : a.input = b.input
  out : a.out = b.out
  msg : a.msg = b.msg
  pipes : a.pipes = b.pipes
  unmodelled : a.unmodelled = b.unmodelled

/-- **two `vi` states that are equal up to a monotone renumbering of the sequence numbers** (`w`: the mark `^` of the
current buffer is exempt) -/
structure Sim (w : Bool) (s t : VS) : Prop where
  ed : EdRel w s.ed t.ed
  typed : s.typed = t.typed
  ibuf : s.ibuf = t.ibuf
  ibufPos : s.ibufPos = t.ibufPos
  icmd : s.icmd = t.icmd
  vibuf : s.vibuf = t.vibuf
  xcol : s.xcol = t.xcol
  arg1 : s.arg1 = t.arg1
  arg2 : s.arg2 = t.arg2
  ybuf : s.ybuf = t.ybuf
  charlast : s.charlast = t.charlast
  charcmd : s.charcmd = t.charcmd
  pcol : s.pcol = t.pcol
  soset : s.soset = t.soset
  so : s.so = t.so
  scroll : s.scroll = t.scroll
  repCmd : s.repCmd = t.repCmd
  execReg : s.execReg = t.execReg
  msg : s.msg = t.msg
  xrows : s.xrows = t.xrows
  xcols : s.xcols = t.xcols
  xai : s.xai = t.xai
  xkmap : s.xkmap = t.xkmap
  exKmap : s.exKmap = t.exKmap
  xkmapAlt : s.xkmapAlt = t.xkmapAlt
  unmodelled : s.unmodelled = t.unmodelled

/-! ### reflexivity: the unary invariant -/

/-- in every buffer of the table the sequence numbers lie below the counter -/
def EdSeqOk (ed : Ed) : Prop := ∀ b, some b ∈ ed.bufs → SeqOk b.lb

theorem BufRel.refl {x : Buf} (h : SeqOk x.lb) (w : Bool) : BufRel w x x :=
  ⟨rfl, LbRel.refl h w, rfl, rfl, rfl, rfl, rfl, rfl, rfl⟩

theorem OBufRel.refl {x : Option Buf} (h : ∀ b, x = some b → SeqOk b.lb) (w : Bool) : OBufRel w x x := by
  cases x with
  | none => trivial
  | some b => exact BufRel.refl (h b rfl) w

theorem EdRel.refl {ed : Ed} (h : EdSeqOk ed) (w : Bool) : EdRel w ed ed := by
  refine ⟨?_, rfl, rfl, rfl, rfl, rfl, rfl, rfl, rfl, rfl, rfl, rfl, rfl, rfl, rfl, rfl, rfl, rfl, rfl, rfl, rfl, rfl,
    rfl, rfl, rfl, rfl, rfl, rfl⟩
  unfold EdSeqOk at h
  cases hb : ed.bufs with
  | nil => trivial
  | cons x l =>
    rw [hb] at h
    exact ⟨OBufRel.refl (fun b e => h b (by simp [e])) w,
      All2.refl _ fun y hy => OBufRel.refl (fun b e => h b (by simp [← e, hy])) false⟩

theorem Sim.refl {s : VS} (h : EdSeqOk s.ed) (w : Bool) : Sim w s s :=
  ⟨EdRel.refl h w, rfl, rfl, rfl, rfl, rfl, rfl, rfl, rfl, rfl, rfl, rfl, rfl, rfl,
    rfl, rfl, rfl, rfl, rfl, rfl, rfl, rfl, rfl, rfl, rfl, rfl⟩

theorem OBufRel.seqOk_left {w : Bool} {x y : Option Buf} (h : OBufRel w x y) (b : Buf) (e : x = some b) : SeqOk b.lb := by
  rcases h.cases with ⟨rfl, _⟩ | ⟨p, q, rfl, _, hpq⟩ <;> cases e
  exact hpq.lb.seqOk_left

theorem OBufRel.seqOk_right {w : Bool} {x y : Option Buf} (h : OBufRel w x y) (b : Buf) (e : y = some b) : SeqOk b.lb := by
  rcases h.cases with ⟨_, rfl⟩ | ⟨p, q, _, rfl, hpq⟩ <;> cases e
  exact hpq.lb.seqOk_right

theorem All2.mem_left {α β : Type} {R : α → β → Prop} {l : List α} {l' : List β} (h : All2 R l l') {a : α}
    (ha : a ∈ l) : ∃ b ∈ l', R a b := by
  induction h with
  | nil => cases ha
  | cons h1 _ ih =>
    rcases List.mem_cons.mp ha with rfl | ha
    · exact ⟨_, by simp, h1⟩
    · obtain ⟨b, hb, hr⟩ := ih ha
      exact ⟨b, by simp [hb], hr⟩

theorem All2.mem_right {α β : Type} {R : α → β → Prop} {l : List α} {l' : List β} (h : All2 R l l') {b : β}
    (hb : b ∈ l') : ∃ a ∈ l, R a b := by
  induction h with
  | nil => cases hb
  | cons h1 _ ih =>
    rcases List.mem_cons.mp hb with rfl | hb
    · exact ⟨_, by simp, h1⟩
    · obtain ⟨a, ha, hr⟩ := ih hb
      exact ⟨a, by simp [ha], hr⟩

theorem EdRel.seqOk_left {w : Bool} {a b : Ed} (h : EdRel w a b) : EdSeqOk a := by
  intro x hx
  rcases h.bufs.cases with ⟨ha, _⟩ | ⟨y, y', l, l', ha, _, h1, h2⟩ <;> rw [ha] at hx
  · cases hx
  · rcases List.mem_cons.mp hx with e | hx
    · exact h1.seqOk_left x e.symm
    · obtain ⟨z, _, hz⟩ := h2.mem_left hx
      exact hz.seqOk_left x rfl

theorem EdRel.seqOk_right {w : Bool} {a b : Ed} (h : EdRel w a b) : EdSeqOk b := by
  intro x hx
  rcases h.bufs.cases with ⟨_, hb⟩ | ⟨y, y', l, l', _, hb, h1, h2⟩ <;> rw [hb] at hx
  · cases hx
  · rcases List.mem_cons.mp hx with e | hx
    · exact h1.seqOk_right x e.symm
    · obtain ⟨z, _, hz⟩ := h2.mem_right hx
      exact hz.seqOk_right x rfl

end Neatvi.Lemmas.C09c
