import NeatviVerif.Lemmas.C09cCmd
/-!
# C09c: every `ex` command line maps related states to related states

`runCmd_rel` (the dispatcher; the handlers on the current buffer through `Lemmas/ExCong.lean`), `ecEdit_rel`, `ecAt_rel`,
`glob_rel`, `exExec_rel`, `exCommand_rel`, tied together by induction on the fuel (`all_rel`).
-/
namespace Neatvi.Lemmas.C09c
open Neatvi Neatvi.Lbuf Neatvi.LbufIo Neatvi.Ex Neatvi.Rset
open Neatvi.Lemmas.C02d (bufferS runCmd_buffer)
open Neatvi.Lemmas.C02Ex (runCmd_quit runCmd_edit runCmd_write)
open Neatvi.Lemmas.C20c (runCmd_at runCmd_glob)
open Neatvi.Lemmas.C02c (plusSplit editGuard2 editOpen editRead editFinish editPlus ecEdit_stages)
open Neatvi.Props.C20 (editGuard ewPre)

def ExecRel (f : Nat) : Prop := ∀ a b ln, EdRel false a b → RRel (exExec f a ln) (exExec f b ln)
def CmdRel (f : Nat) : Prop := ∀ a b ln, EdRel false a b → RRel (exCommand f a ln) (exCommand f b ln)
def RunRel (f : Nat) : Prop :=
  ∀ a b hd loc cmd arg txt, EdRel false a b → RRel (runCmd f a hd loc cmd arg txt) (runCmd f b hd loc cmd arg txt)

/-! ### `:e` -/

theorem editGuard_rel {a b : Ed} (h : EdRel false a b) (cmd : Bytes) : RRel (editGuard a cmd) (editGuard b cmd) := by
  unfold editGuard
  rw [h.cur_isSome, h.xwa]
  exact guard_rel h _ _ _

theorem ewPre_rel {a b : Ed} (h : EdRel false a b) (cmd path : Bytes) : EdRel false (ewPre a cmd path) (ewPre b cmd path) := by
  unfold ewPre
  rw [h.bufsFind_eq]
  split
  · exact bufsSwitch_rel h 1
  · exact h

theorem editGuard2_rel {a b : Ed} (h : EdRel false a b) (path : Bytes) : RRel (editGuard2 a path) (editGuard2 b path) := by
  unfold editGuard2
  rw [h.cur_isNone, h.xwa, h.findRoom_eq]
  exact guard_rel h _ _ _

theorem editOpen_rel {a b : Ed} (h : EdRel false a b) (path : Bytes) : EdRel false (editOpen a path) (editOpen b path) := by
  unfold editOpen
  rw [h.cur_isNone]
  split
  · have ho := bufsOpen_rel h path
    simp only []
    rw [ho.1]
    exact bufsSwitch_rel ho.2 _
  · exact h

theorem editRead_rel {a b : Ed} (h : EdRel false a b) {x y : Buf} (hxy : BufRel false x y) :
    ORel (EdRel false) (editRead a x) (editRead b y) := by
  unfold editRead
  rw [h.findFile_eq, hxy.path]
  cases b.findFile y.path with
  | none => exact h
  | some fl =>
    simp only []
    split
    · exact h
    · rw [hxy.lb.lines]
      rcases (rd_rel hxy.lb [fl.data] false 0 y.lb.lines.length).cases with ⟨r1, r2⟩ | ⟨⟨n, la⟩, ⟨n', lb⟩, r1, r2, _, hl⟩
      · rw [r1, r2]; trivial
      · rw [r1, r2]
        simp only at hl
        simp only []
        rw [hl.lines]
        exact show_rel (setLb_rel h hl) _

/-- the view is clamped into the buffer -/
def clampEd (ed : Ed) : Ed := { ed with xrow := clampRow ed.xrow ed.len, xoff := 0, xtop := clampRow ed.xtop ed.len }

theorem clampEd_rel {a b : Ed} (h : EdRel false a b) : EdRel false (clampEd a) (clampEd b) := by
  unfold clampEd
  rw [h.len_eq, h.xrow, h.xtop]
  exact { h with xrow := rfl, xoff := rfl, xtop := rfl }

theorem editFinish_rel {a b : Ed} (h : EdRel false a b) (path : Bytes) :
    ORel (EdRel false) (editFinish a path) (editFinish b path) := by
  unfold editFinish
  rcases h.cur_cases with ⟨r1, r2⟩ | ⟨x, y, r1, r2, hxy⟩
  · rw [r1, r2]; trivial
  · rw [r1, r2]
    simp only []
    rcases (editRead_rel h hxy).cases with ⟨s1, s2⟩ | ⟨a1, b1, s1, s2, h1⟩
    · rw [s1, s2]; trivial
    · rw [s1, s2]
      simp only []
      rcases h1.cur_cases with ⟨t1, t2⟩ | ⟨x', y', t1, t2, hxy'⟩
      · rw [t1, t2]; trivial
      · rw [t1, t2]
        simp only []
        have hc : BufRel false
            { x' with lb := (modified (savedCore x'.lb (!path.isEmpty))).2, mtime := a1.mtimeOf x'.path }
            { y' with lb := (modified (savedCore y'.lb (!path.isEmpty))).2, mtime := b1.mtimeOf y'.path } :=
          { hxy' with lb := (modified_rel (savedCore_rel hxy'.lb _)).2
                      mtime := by show a1.mtimeOf x'.path = b1.mtimeOf y'.path; rw [hxy'.path, h1.mtimeOf_eq] }
        exact clampEd_rel (setCur_rel h1 hc)

theorem editPlus_rel (f : Nat) (hc : CmdRel f) (pls : Bytes) {a b : Ed} (h : EdRel false a b) :
    RRel (editPlus f pls a) (editPlus f pls b) := by
  unfold editPlus
  split
  · exact hc _ _ _ h
  · exact RRel.some h

theorem ecEdit_rel (f : Nat) (hc : CmdRel f) {a b : Ed} (h : EdRel false a b) (cmd arg : Bytes) :
    RRel (ecEdit (f + 1) a cmd arg) (ecEdit (f + 1) b cmd arg) := by
  rw [ecEdit_stages, ecEdit_stages]
  rrel_cases editGuard_rel h cmd with v a1 b1 h1
  · trivial
  · cases v with
    | true => exact RRel.some h1
    | false =>
      simp only []
      rrel_cases pathExpand_rel h1 (plusSplit arg).2 false with p a2 b2 h2
      · trivial
      · cases p with
        | none => exact RRel.some h2
        | some path =>
          simp only []
          have he := ewPre_rel h2 cmd path
          rw [he.bufsFind_eq]
          split
          · exact editPlus_rel f hc _ (bufsSwitch_rel he _)
          · rrel_cases editGuard2_rel he path with w a3 b3 h3
            · trivial
            · cases w with
              | true => exact RRel.some h3
              | false =>
                simp only []
                rcases (editFinish_rel (editOpen_rel h3 path) path).cases with ⟨s1, s2⟩ | ⟨a4, b4, s1, s2, h4⟩
                · rw [s1, s2]; trivial
                · rw [s1, s2]
                  exact editPlus_rel f hc _ h4

theorem ecAt_rel (f : Nat) (hc : CmdRel f) {a b : Ed} (h : EdRel false a b) (loc cmd arg : Bytes) :
    RRel (ecAt (f + 1) a loc cmd arg) (ecAt (f + 1) b loc cmd arg) := by
  rw [ecAt.eq_2, ecAt.eq_2, h.regGet_eq]
  cases regGet b (regName arg) with
  | none => exact RRel.some h
  | some buf =>
    simp only []
    rrel_cases exRegion_rel h loc with v a1 b1 h1
    · trivial
    · obtain ⟨rc, x, e⟩ := v
      refine RRel.ite (fun _ => RRel.some h1) fun _ => ?_
      rw [h1.atDepth]
      refine RRel.ite (fun _ => RRel.some (show_rel h1 _)) fun _ => RRel.ite (fun _ => ?_) fun _ => ?_
      · exact RRel.some { h1 with xrow := rfl, atDepth := rfl, unmodelled := rfl }
      · rrel_cases hc { a1 with xrow := x, atDepth := b1.atDepth + 1 } { b1 with xrow := x, atDepth := b1.atDepth + 1 }
          buf { h1 with xrow := rfl, atDepth := rfl } with r a2 b2 h2
        · trivial
        · simp only []
          rw [h2.atDepth]
          exact RRel.some { h2 with atDepth := rfl }

/-! ### the dispatcher -/

theorem quit_rel (f : Nat) {a b : Ed} (h : EdRel false a b) (loc cmd arg : Bytes) (txt : Option Bytes) :
    RRel (runCmd (f + 1) a "ec_quit" loc cmd arg txt) (runCmd (f + 1) b "ec_quit" loc cmd arg txt) := by
  rw [runCmd_quit, runCmd_quit]
  have hw : RRel (if (cmd.headD 0 == 119 || cmd.headD 0 == 120) = true then ecWrite a [] cmd arg else some (0, a))
      (if (cmd.headD 0 == 119 || cmd.headD 0 == 120) = true then ecWrite b [] cmd arg else some (0, b)) :=
    RRel.ite (fun _ => ecWrite_rel h _ _ _) fun _ => RRel.some h
  rrel_cases hw with rc a1 b1 h1
  · trivial
  · simp only []
    split
    · exact RRel.some h1
    · rw [h1.bufs_length]
      rrel_cases each_rel cmd (cmd.contains 97) (b1.bufs.length + 1) 0 _ _ h1 with v a2 b2 h2
      · trivial
      · cases v with
        | true => exact RRel.some h2
        | false => exact RRel.some { h2 with xquit := rfl }

def EditRel (f : Nat) : Prop := ∀ a b cmd arg, EdRel false a b → RRel (ecEdit f a cmd arg) (ecEdit f b cmd arg)
def AtRel (f : Nat) : Prop := ∀ a b loc cmd arg, EdRel false a b → RRel (ecAt f a loc cmd arg) (ecAt f b loc cmd arg)
def GlobRel (f : Nat) : Prop := ∀ a b loc cmd arg, EdRel false a b → RRel (ecGlob f a loc cmd arg) (ecGlob f b loc cmd arg)

/-- the dispatcher: the handlers that work on the current buffer by the congruence of `Lemmas/ExCong.lean`, the five
    others by their own lemmas -/
theorem runCmd_rel (f : Nat) (hedit : EditRel f) (hatr : AtRel f) (hglob : GlobRel f) : RunRel (f + 1) := by
  intro a b hd loc cmd arg txt h
  cases hl : (hd == "ec_edit" || hd == "ec_buffer" || hd == "ec_quit" || hd == "ec_glob" || hd == "ec_at")
  · exact RRel.of_r2 (ExCong.runCmd_rel renum_cong h.edG (f + 1) hd loc cmd arg txt hl)
  · simp only [Bool.or_eq_true, beq_iff_eq] at hl
    rcases hl with (((he | hb) | hq) | hg) | ha
    · subst he; rw [runCmd_edit, runCmd_edit]; exact hedit _ _ _ _ h
    · subst hb; rw [runCmd_buffer, runCmd_buffer]; exact bufferS_rel h cmd arg
    · subst hq; exact quit_rel _ h loc cmd arg txt
    · subst hg; rw [runCmd_glob, runCmd_glob]; exact hglob _ _ _ _ _ h
    · subst ha; rw [runCmd_at, runCmd_at]; exact hatr _ _ _ _ _ h

/-! ### `ex_exec`, `ex_command` -/

theorem exExec_rel (f : Nat) (hr : RunRel f) : ExecRel (f + 1) := fun a b ln h =>
  RRel.of_r2 (ExCong.exExec_rel renum_cong f (fun _ => true)
    (fun hd _ a b loc cmd arg txt h => (hr a b hd loc cmd arg txt h.edRel).r2) h.edG ln (ExCong.okCmds_true _ _))

theorem exCommand_rel (f : Nat) (hx : ExecRel f) : CmdRel (f + 1) := by
  intro a b ln h
  rw [exCommand, exCommand]
  rrel_cases hx _ _ ln h with r a1 b1 h1
  · trivial
  · exact RRel.some (modifiedAt_rel h1 0).2

/-- everything at one level of fuel -/
def AllRel (f : Nat) : Prop := ExecRel f ∧ CmdRel f ∧ RunRel f ∧ EditRel f ∧ AtRel f ∧ GlobRel f

theorem runRel_zero : RunRel 0 := by
  intro a b hd loc cmd arg txt _; rw [runCmd, runCmd]; trivial

theorem execRel_zero : ExecRel 0 := by
  intro a b ln _; rw [exExec, exExec]; trivial

theorem cmdRel_zero : CmdRel 0 := by
  intro a b ln _; rw [exCommand, exCommand]; trivial

theorem all_rel : ∀ f : Nat, AllRel f := by
  intro f
  induction f with
  | zero =>
    refine ⟨execRel_zero, cmdRel_zero, runRel_zero, ?_, ?_, ?_⟩
    · intro a b cmd arg _; rw [ecEdit, ecEdit]; trivial
    · intro a b loc cmd arg _; rw [ecAt, ecAt]; trivial
    · intro a b loc cmd arg _; rw [ecGlob, ecGlob]; trivial
  | succ f ih =>
    obtain ⟨hx, hc, hr, he, ha, hg⟩ := ih
    exact ⟨exExec_rel f hr, exCommand_rel f hx, runCmd_rel f he ha hg,
      fun a b cmd arg h => ecEdit_rel f hc h cmd arg,
      fun a b loc cmd arg h => ecAt_rel f hc h loc cmd arg,
      fun a b loc cmd arg h => glob_rel f hx h loc cmd arg⟩

theorem exCommand_rel_all (f : Nat) {a b : Ed} (h : EdRel false a b) (ln : Bytes) :
    RRel (exCommand f a ln) (exCommand f b ln) := (all_rel f).2.1 a b ln h

end Neatvi.Lemmas.C09c
