import NeatviVerif.Lemmas.C09WalkCmd
import NeatviVerif.Lemmas.C09cRun
/-!
# C09c: the `vi` layer — related states, related computations

`Rel2 w E m m'`: from `Sim w`-related states the computations `m` and `m'` end alike — both at the end of the keys,
both trapped, or both with the same value in `Sim w`-related states; `E a b` is an *escape*: the two computations may
also end with values `a`, `b` with `E a b` (used for the motions that read the mark `^` while that mark is exempt:
both then report a motion, `mv ≠ 0`).

`Sim w` is `GSim QEq (BufsRel w)` (`Lemmas/C09Walk.lean`: the same key source, buffer tables related slot by slot) and
`Rel2 w E` is `G2` of it (`rel2_iff`); the queue primitives keep `QEq` (`qsim_eq`, `qpush_eq`: `term_push` too), the
buffer primitives keep `BufsRel w` (`bsim_rel`, and for `w = false` also the text changing ones, undo/redo and the ex
commands: `bsimS_rel`, which is `bsimS_of_cong` — for any relation, `BSimS B` follows from `ExCong.BCong B S` and the ex
layer keeping `EdG B` — at `renum_cong` and `exCommand_rel_all`).  So what the one walk of vi.c (`Lemmas/C09WalkCmd.lean`) says of a program is read off here.

`rel2_viStep`: one iteration of `vi()` maps `Sim`-related states to `Sim`-related states — every command, `u`/`^R`
and the `ex` layer included; no proviso (the key queues of related states are *equal*, so `.` and `@` push alike).
`keeps_seqOk`, `seqOk_viStep`: the unary reading — the sequence numbers of every buffer stay below its counter.
-/
namespace Neatvi.Lemmas.C09c
open Neatvi Neatvi.Uc Neatvi.Lbuf Neatvi.Ex Neatvi.Vi Neatvi.Mot
open Neatvi.Lemmas.C09

/-! ### related results, related computations -/

inductive RR (w : Bool) {α : Type} (E : α → α → Prop) : Res α → Res α → Prop where
  | ok (a : α) (s t : VS) (h : Sim w s t) : RR w E (Res.ok a s) (Res.ok a t)
  | esc (a b : α) (s t : VS) (h : E a b) : RR w E (Res.ok a s) (Res.ok b t)
  | eof : RR w E Res.eof Res.eof
  | trap : RR w E Res.trap Res.trap

def Rel2 (w : Bool) {α : Type} (E : α → α → Prop) (m m' : M α) : Prop := ∀ s t, Sim w s t → RR w E (m s) (m' t)

/-! ### `Sim w` is `GSim QEq (BufsRel w)` -/

/-- the same key source -/
def QEq (s t : VS) : Prop :=
  s.ibuf = t.ibuf ∧ s.ibufPos = t.ibufPos ∧ s.typed = t.typed ∧ s.icmd = t.icmd ∧ s.repCmd = t.repCmd

theorem kq_iff {s t : VS} : kq s = kq t ↔ QEq s t := by
  simp only [kq, Prod.mk.injEq, QEq]

theorem qsim_eq : QSim QEq where
  frame h e1 e2 := kq_iff.1 (e1.trans (Eq.trans (kq_iff.2 h) e2.symm))
  read {s t} h _ := by
    have hp : pending s = pending t := kq_pending (kq_iff.2 h)
    obtain ⟨q1, q2, q3, q4, q5⟩ := h
    rcases termRead_cases s with ⟨_, e1⟩ | ⟨k, rest, ib, ip, ty, p1, e1, d1, a1, b1⟩
    · rcases termRead_cases t with ⟨_, e2⟩ | ⟨k', rest', ib', ip', ty', p2, -, -, -, -⟩
      · exact Or.inl ⟨e1, e2⟩
      · rw [← hp, ‹pending s = []›] at p2; cases p2
    · rcases termRead_cases t with ⟨p2, _⟩ | ⟨k', rest', ib', ip', ty', p2, e2, d2, a2, b2⟩
      · rw [← hp, p1] at p2; cases p2
      · rw [← hp, p1] at p2
        cases p2
        refine Or.inr ⟨k, ib, ip, ty, ib', ip', ty', e1, e2, ?_⟩
        rw [← q1, ← q2, ← q3] at a2
        rw [← q1, ← q2] at b2
        have : ib = ib' ∧ ip = ip' ∧ ty = ty' := by
          by_cases hn : s.ibufPos < s.ibuf.length
          · obtain ⟨x1, x2, x3⟩ := a1 hn
            obtain ⟨y1, y2, y3⟩ := a2 hn
            exact ⟨x1.trans y1.symm, x2.trans y2.symm, x3.trans y3.symm⟩
          · obtain ⟨x1, x2, x3⟩ := b1 (by omega)
            obtain ⟨y1, y2, y3⟩ := b2 (by omega)
            exact ⟨x1.trans y1.symm, x2.trans y2.symm, x3.trans y3.symm⟩
        obtain ⟨x1, x2, x3⟩ := this
        exact ⟨x1, x2, x3, by show icmdAfter s.icmd k = icmdAfter t.icmd k; rw [q4], q5⟩
  cmd h := ⟨h.1, h.2.1, h.2.2.1, rfl, h.2.2.2.2⟩
  rep _ _ _ _ h := ⟨h.1, h.2.1, h.2.2.1, h.2.2.2.1, rfl⟩

theorem qpush_eq : QPush QEq := fun x s t h =>
  ⟨by show s.ibuf ++ _ = t.ibuf ++ _; rw [h.1], h.2.1, h.2.2.1, h.2.2.2.1, h.2.2.2.2⟩

theorem bsim_rel (w : Bool) : BSim (BufsRel w) where
  lines h := h.edRel.lines_eq
  cp h := by funext x y; exact h.edRel.cp_eq x y
  line h := by funext i; exact h.edRel.line_eq i
  mark h c p o := (markCur_rel h.edRel c p o).edG
  modified {a b} h := by
    have h' := h.edRel
    rcases h'.lb_cases with ⟨r1, r2⟩ | ⟨la, lb, r1, r2, hl⟩
    · rw [r1, r2]; exact h
    · rw [r1, r2]; exact (setLb_rel h' (modified_rel hl).2).edG

/-- what the programs of vi.c need of a relation between buffer tables follows from what the handlers of ex.c need of it
(`ExCong.BCong`), and from the ex layer keeping it -/
theorem bsimS_of_cong {B : Bufs → Bufs → Prop} {S : Lb → Lb → Prop} (C : ExCong.BCong B S)
    (hex : ∀ {a b}, EdG B a b → ∀ ln, ExCong.R2 B (exCommand 64 a ln) (exCommand 64 b ln)) : BSimS B where
  lines h := by
    rcases h.lb_cases C with ⟨r1, r2⟩ | ⟨la, lb, r1, r2, hl⟩ <;> rw [r1, r2]
    simp only [Option.map_some, C.lines hl]
  cp h := funext fun x => funext fun y => h.cp_eq C x y
  line h := funext fun i => h.line_eq C i
  mark h c p o := by
    rcases h.lb_cases C with ⟨r1, r2⟩ | ⟨la, lb, r1, r2, hl⟩ <;> rw [r1, r2]
    · exact h
    · exact ExCong.setLb_rel C h (C.setMark hl c p o)
  modified h := by
    rcases h.lb_cases C with ⟨r1, r2⟩ | ⟨la, lb, r1, r2, hl⟩ <;> rw [r1, r2]
    · exact h
    · exact ExCong.setLb_rel C h (C.modified hl).2
  jump h c := h.jump_eq C c
  edit h txt x y := (ExCong.edit_rel C h txt x y).cases
  ex h ln := (hex h ln).cases
  undoRedo h c := by
    rcases h.lb_cases C with hn | ⟨la, lb, r1, r2, hl⟩
    · exact Or.inl hn
    · refine Or.inr ⟨la, lb, r1, r2, ?_⟩
      have hu : ORel (PRel S) (if (c == 117) = true then undo la else redo la)
          (if (c == 117) = true then undo lb else redo lb) := by
        split
        · exact C.undo hl
        · exact C.redo hl
      rcases hu.cases with hn | ⟨⟨rc, la'⟩, ⟨rc', lb'⟩, u1, u2, hrc, hl'⟩
      · exact Or.inl hn
      · simp only at hrc hl'
        subst hrc
        exact Or.inr ⟨rc, la', lb', u1, u2, C.jump hl' 94, fun hxy => ExCong.setLb_rel C hxy hl'⟩

theorem bsimS_rel : BSimS (BufsRel false) :=
  bsimS_of_cong renum_cong fun h ln => (exCommand_rel_all 64 h.edRel ln).r2

theorem sim_iff {w : Bool} {s t : VS} : GSim QEq (BufsRel w) s t ↔ Sim w s t := by
  constructor
  · intro h
    have hq := h.q
    exact ⟨h.ed.edRel, hq.2.2.1, hq.1, hq.2.1, h.icmd, h.vibuf, h.xcol, h.arg1, h.arg2, h.ybuf, h.charlast,
      h.charcmd, h.pcol, h.soset, h.so, h.scroll, h.repCmd, h.execReg, h.msg, h.xrows, h.xcols, h.xai, h.xkmap,
      h.exKmap, h.xkmapAlt, h.unmodelled⟩
  · intro h
    exact ⟨⟨h.ibuf, h.ibufPos, h.typed, h.icmd, h.repCmd⟩, h.ed.edG,
      h.icmd, h.vibuf, h.xcol, h.arg1, h.arg2, h.ybuf, h.charlast,
      h.charcmd, h.pcol, h.soset, h.so, h.scroll, h.repCmd, h.execReg, h.msg, h.xrows, h.xcols, h.xai, h.xkmap,
      h.exKmap, h.xkmapAlt, h.unmodelled⟩

theorem gr_rr {w : Bool} {α : Type} {E : α → α → Prop} {x y : Res α} : GR (GSim QEq (BufsRel w)) E x y ↔ RR w E x y := by
  constructor
  · intro h
    cases h with
    | ok a s t h => exact RR.ok a s t (sim_iff.1 h)
    | esc a b s t h => exact RR.esc a b s t h
    | eof => exact RR.eof
    | trap => exact RR.trap
  · intro h
    cases h with
    | ok a s t h => exact GR.ok a s t (sim_iff.2 h)
    | esc a b s t h => exact GR.esc a b s t h
    | eof => exact GR.eof
    | trap => exact GR.trap

theorem rel2_iff {w : Bool} {α : Type} {E : α → α → Prop} {m m' : M α} :
    G2 (GSim QEq (BufsRel w)) E m m' ↔ Rel2 w E m m' :=
  ⟨fun h s t hst => gr_rr.1 (h s t (sim_iff.2 hst)), fun h s t hst => gr_rr.2 (h s t (sim_iff.1 hst))⟩

/-! ### the rules of the judgement -/

theorem RR.mono {w : Bool} {α : Type} {E E' : α → α → Prop} (hE : ∀ a b, E a b → E' a b) {x y : Res α}
    (h : RR w E x y) : RR w E' x y :=
  gr_rr.1 ((gr_rr.2 h).mono hE)
theorem rel2_pure {w : Bool} {α : Type} {E : α → α → Prop} (a : α) : Rel2 w E (pure a : M α) (pure a) :=
  rel2_iff.1 (g2_pure a)
theorem rel2_trap {w : Bool} {α : Type} {E : α → α → Prop} : Rel2 w E (Vi.trap : M α) Vi.trap :=
  rel2_iff.1 g2_trap
theorem RR.bind_esc {w : Bool} {α β : Type} {E1 : α → α → Prop} {E : β → β → Prop} {m m' : M α} {f f' : α → M β}
    {s t : VS} (hm : RR w E1 (m s) (m' t)) (hf : ∀ a s' t', Sim w s' t' → RR w E (f a s') (f' a t'))
    (he : ∀ a b s' t', E1 a b → RR w E (f a s') (f' b t')) : RR w E ((m >>= f) s) ((m' >>= f') t) :=
  gr_rr.1 (GR.bind_esc (gr_rr.2 hm) (fun a s' t' h => gr_rr.2 (hf a s' t' (sim_iff.1 h)))
    fun a b s' t' h => gr_rr.2 (he a b s' t' h))
theorem RR.bind {w : Bool} {α β : Type} {E : β → β → Prop} {m m' : M α} {f f' : α → M β} {s t : VS}
    (hm : RR w NoEsc (m s) (m' t)) (hf : ∀ a s' t', Sim w s' t' → RR w E (f a s') (f' a t')) :
    RR w E ((m >>= f) s) ((m' >>= f') t) :=
  RR.bind_esc hm hf fun _ _ _ _ h => h.elim
theorem rel2_bind {w : Bool} {α β : Type} {E : β → β → Prop} {m m' : M α} {f f' : α → M β}
    (hm : Rel2 w NoEsc m m') (hf : ∀ a, Rel2 w E (f a) (f' a)) : Rel2 w E (m >>= f) (m' >>= f') :=
  rel2_iff.1 (g2_bind (rel2_iff.2 hm) fun a => rel2_iff.2 (hf a))
theorem rel2_bind_esc {w : Bool} {α β : Type} {E1 : α → α → Prop} {E : β → β → Prop} {m m' : M α} {f f' : α → M β}
    (hm : Rel2 w E1 m m') (hf : ∀ a, Rel2 w E (f a) (f' a))
    (he : ∀ a b s t, E1 a b → RR w E (f a s) (f' b t)) : Rel2 w E (m >>= f) (m' >>= f') :=
  rel2_iff.1 (g2_bind_esc (rel2_iff.2 hm) (fun a => rel2_iff.2 (hf a)) fun a b s t h => gr_rr.2 (he a b s t h))
theorem rel2_get_bind {w : Bool} {β : Type} {E : β → β → Prop} {f f' : VS → M β}
    (hf : ∀ s t, Sim w s t → Rel2 w E (f s) (f' t)) : Rel2 w E (Vi.get >>= f) (Vi.get >>= f') :=
  rel2_iff.1 (g2_get_bind fun s t h => rel2_iff.2 (hf s t (sim_iff.1 h)))
theorem rel2_ite {w : Bool} {α : Type} {E : α → α → Prop} {c : Prop} [Decidable c] {a a' b b' : M α}
    (ha : c → Rel2 w E a a') (hb : ¬ c → Rel2 w E b b') : Rel2 w E (if c then a else b) (if c then a' else b') :=
  rel2_iff.1 (g2_ite (fun h => rel2_iff.2 (ha h)) fun h => rel2_iff.2 (hb h))
theorem rel2_modify {w : Bool} {E : Unit → Unit → Prop} {g g' : VS → VS} (hg : ∀ s t, Sim w s t → Sim w (g s) (g' t)) :
    Rel2 w E (Vi.modify g) (Vi.modify g') :=
  rel2_iff.1 (g2_modify fun s t h => sim_iff.2 (hg s t (sim_iff.1 h)))
theorem rel2_withEd {w : Bool} {E : Unit → Unit → Prop} {g g' : Ed → Ed} (hg : ∀ a b, EdRel w a b → EdRel w (g a) (g' b)) :
    Rel2 w E (withEd g) (withEd g') :=
  rel2_iff.1 (g2_withEd qsim_eq fun a b h => (hg a b h.edRel).edG)
theorem rel2_reader {w : Bool} {α : Type} {E : α → α → Prop} {g g' : VS → α} (hg : ∀ s t, Sim w s t → g s = g' t) :
    Rel2 w E (fun s => Res.ok (g s) s) (fun s => Res.ok (g' s) s) :=
  rel2_iff.1 (g2_reader fun s t h => hg s t (sim_iff.1 h))
theorem rel2_liftO {w : Bool} {α : Type} {E : α → α → Prop} (o : Option α) : Rel2 w E (liftO o) (liftO o) :=
  rel2_iff.1 (g2_liftO o)
theorem rel2_repeatM {w : Bool} {E : Unit → Unit → Prop} (n : Nat) {m : M Unit} (hm : Rel2 w NoEsc m m) :
    Rel2 w E (repeatM n m) (repeatM n m) :=
  rel2_iff.1 (g2_repeatM n (rel2_iff.2 hm))

/-! ### what related states show alike -/

section reads
variable {w : Bool} {s t : VS}

theorem Sim.lines_eq (h : Sim w s t) : lines s = lines t := (sim_iff.2 h).lines_eq (bsim_rel w)
theorem Sim.lenOf_eq (h : Sim w s t) : lenOf s = lenOf t := (sim_iff.2 h).lenOf_eq (bsim_rel w)
theorem Sim.lineOf_eq (h : Sim w s t) : lineOf s = lineOf t := (sim_iff.2 h).lineOf_eq (bsim_rel w)
theorem Sim.lineE_eq (h : Sim w s t) : lineE s = lineE t := (sim_iff.2 h).lineE_eq (bsim_rel w)
theorem Sim.cntOf_eq (h : Sim w s t) : cntOf s = cntOf t := (sim_iff.2 h).cntOf_eq
theorem Sim.off2col_eq (h : Sim w s t) : off2col s = off2col t := (sim_iff.2 h).off2col_eq (bsim_rel w)
theorem Sim.col2off_eq (h : Sim w s t) : col2off s = col2off t := (sim_iff.2 h).col2off_eq (bsim_rel w)
theorem Sim.noeol_eq (h : Sim w s t) : noeol s = noeol t := (sim_iff.2 h).noeol_eq (bsim_rel w)
theorem Sim.dirCtx_eq (h : Sim w s t) : dirCtx s = dirCtx t := (sim_iff.2 h).dirCtx_eq
theorem Sim.nextcol_eq (h : Sim w s t) : nextcol s = nextcol t := (sim_iff.2 h).nextcol_eq (bsim_rel w)
theorem Sim.curword_eq (h : Sim w s t) : curword s = curword t := (sim_iff.2 h).curword_eq (bsim_rel w)
theorem Sim.ledLeft_eq (h : Sim w s t) : ledLeft s = ledLeft t := (sim_iff.2 h).ledLeft_eq
theorem Sim.viIndents_eq (h : Sim w s t) : viIndents s = viIndents t := (sim_iff.2 h).viIndents_eq
theorem Sim.lbufRegion_eq (h : Sim w s t) : lbufRegion s = lbufRegion t := (sim_iff.2 h).lbufRegion_eq (bsim_rel w)
theorem Sim.regGet_eq (h : Sim w s t) : regGet s.ed = regGet t.ed := (sim_iff.2 h).regGet_eq (bsim_rel w)
theorem Sim.regGetLn_eq (h : Sim w s t) : regGetLn s.ed = regGetLn t.ed := (sim_iff.2 h).regGetLn_eq (bsim_rel w)
theorem Sim.xrow (h : Sim w s t) : s.ed.xrow = t.ed.xrow := h.ed.xrow
theorem Sim.xoff (h : Sim w s t) : s.ed.xoff = t.ed.xoff := h.ed.xoff
theorem Sim.xtop (h : Sim w s t) : s.ed.xtop = t.ed.xtop := h.ed.xtop
theorem Sim.xleft (h : Sim w s t) : s.ed.xleft = t.ed.xleft := h.ed.xleft
theorem Sim.xquit (h : Sim w s t) : s.ed.xquit = t.ed.xquit := h.ed.xquit
theorem Sim.xkwd (h : Sim w s t) : s.ed.xkwd = t.ed.xkwd := h.ed.xkwd
theorem Sim.xkwddir (h : Sim w s t) : s.ed.xkwddir = t.ed.xkwddir := h.ed.xkwddir
theorem Sim.out (h : Sim w s t) : s.ed.out = t.ed.out := h.ed.out
theorem Sim.viSearch_rep_eq (h : Sim w s t) (cmd : Nat) (cnt : Int) (kwd : Bytes) (dir : Int) :
    viSearch.rep cmd cnt s kwd dir = viSearch.rep cmd cnt t kwd dir := (sim_iff.2 h).viSearch_rep_eq (bsim_rel w) cmd cnt kwd dir
theorem Sim.vcJoin_go_eq (h : Sim w s t) (beg e : Int) : vcJoin.go s beg e = vcJoin.go t beg e :=
  (sim_iff.2 h).vcJoin_go_eq (bsim_rel w) beg e

theorem Sim.jump_eq (h : Sim false s t) (c : Nat) :
    s.ed.lb.bind (fun lb => jump lb c) = t.ed.lb.bind (fun lb => jump lb c) := h.ed.jump_eq c

end reads

/-! ### the primitives -/

theorem rel2_termRead {w : Bool} {E : Int → Int → Prop} : Rel2 w E termRead termRead :=
  rel2_iff.1 (g2_termRead qsim_eq)
theorem rel2_viRead {w : Bool} {E : Int → Int → Prop} : Rel2 w E viRead viRead :=
  rel2_iff.1 (g2_viRead qsim_eq)
theorem rel2_viBack {w : Bool} {E : Unit → Unit → Prop} (c : Int) : Rel2 w E (viBack c) (viBack c) :=
  rel2_iff.1 (g2_viBack qsim_eq c)
theorem rel2_termCmd {w : Bool} {E : Bytes → Bytes → Prop} : Rel2 w E termCmd termCmd :=
  rel2_iff.1 (g2_termCmd qsim_eq)
theorem rel2_termPush {w : Bool} {E : Unit → Unit → Prop} (x : Bytes) : Rel2 w E (termPush x) (termPush x) :=
  rel2_iff.1 (g2_termPush qpush_eq x)
theorem rel2_setMsg {w : Bool} {E : Unit → Unit → Prop} (m : Bytes) : Rel2 w E (setMsg m) (setMsg m) :=
  rel2_iff.1 (g2_setMsg qsim_eq m)
theorem rel2_unmodelled {w : Bool} {E : Unit → Unit → Prop} : Rel2 w E Vi.unmodelled Vi.unmodelled :=
  rel2_iff.1 (g2_unmodelled qsim_eq)
theorem rel2_setPos {w : Bool} {E : Unit → Unit → Prop} (r o : Int) : Rel2 w E (setPos r o) (setPos r o) :=
  rel2_iff.1 (g2_setPos qsim_eq r o)
theorem rel2_setRow {w : Bool} {E : Unit → Unit → Prop} (r : Int) : Rel2 w E (setRow r) (setRow r) :=
  rel2_iff.1 (g2_setRow qsim_eq r)
theorem rel2_setOff {w : Bool} {E : Unit → Unit → Prop} (o : Int) : Rel2 w E (setOff o) (setOff o) :=
  rel2_iff.1 (g2_setOff qsim_eq o)
theorem rel2_setTop {w : Bool} {E : Unit → Unit → Prop} (x : Int) : Rel2 w E (setTop x) (setTop x) :=
  rel2_iff.1 (g2_setTop qsim_eq x)
theorem rel2_markSet {w : Bool} {E : Unit → Unit → Prop} (c : Nat) (r o : Int) : Rel2 w E (markSet c r o) (markSet c r o) :=
  rel2_iff.1 (g2_markSet qsim_eq (bsim_rel w) c r o)
theorem rel2_regPut {w : Bool} {E : Unit → Unit → Prop} (c : Nat) (x : Bytes) (ln : Nat) :
    Rel2 w E (regPut c x ln) (regPut c x ln) :=
  rel2_iff.1 (g2_regPut qsim_eq c x ln)
theorem rel2_lbufModified {w : Bool} {E : Unit → Unit → Prop} : Rel2 w E lbufModified lbufModified :=
  rel2_iff.1 (g2_lbufModified qsim_eq (bsim_rel w))
theorem rel2_viNextline {w : Bool} {E : Unit → Unit → Prop} : Rel2 w E viNextline viNextline :=
  rel2_iff.1 (g2_viNextline qsim_eq)
theorem rel2_edEdit (E : Unit → Unit → Prop) (txt : Option Bytes) (x y : Int) :
    Rel2 false E (edEdit txt x y) (edEdit txt x y) :=
  rel2_iff.1 (g2_edEdit qsim_eq bsimS_rel txt x y)

/-! ### the programs of vi.c -/

theorem rel2_viYankbuf {w : Bool} {E : Nat → Nat → Prop} : Rel2 w E viYankbuf viYankbuf :=
  rel2_iff.1 (g2_viYankbuf qsim_eq (bsim_rel w))
theorem rel2_viPrefix {w : Bool} {E : Int → Int → Prop} : Rel2 w E viPrefix viPrefix :=
  rel2_iff.1 (g2_viPrefix qsim_eq (bsim_rel w))
theorem rel2_viChar {w : Bool} {E : Option Bytes → Option Bytes → Prop} : Rel2 w E viChar viChar :=
  rel2_iff.1 (g2_viChar qsim_eq (bsim_rel w))
theorem rel2_ledLine {w : Bool} {E : (Bytes × Int × Bytes) → (Bytes × Int × Bytes) → Prop} (pref post ai0 : Bytes)
    (aiMax : Nat) (im ex : Bool) : Rel2 w E (ledLine pref post ai0 aiMax im ex) (ledLine pref post ai0 aiMax im ex) :=
  rel2_iff.1 (g2_ledLine qsim_eq (bsim_rel w) pref post ai0 aiMax im ex)
theorem rel2_viPrompt {w : Bool} {E : Option Bytes → Option Bytes → Prop} (ex : Bool) : Rel2 w E (viPrompt ex) (viPrompt ex) :=
  rel2_iff.1 (g2_viPrompt qsim_eq (bsim_rel w) ex)
theorem rel2_viMotion {w : Bool} (row off : Int) : Rel2 w (EscMv w) (viMotion row off) (viMotion row off) :=
  rel2_iff.1 (g2_viMotion qsim_eq (bsim_rel w) (fun e : w = false => e ▸ bsimS_rel) row off)
theorem rel2_viMotionln0 {E : Int × Int → Int × Int → Prop} (row cmd : Int) :
    Rel2 false E (viMotionln row cmd) (viMotionln row cmd) :=
  rel2_iff.1 (g2_viMotionln0 qsim_eq bsimS_rel row cmd)
theorem rel2_viMotion0 {E : Int × Int × Int → Int × Int × Int → Prop} (row off : Int) :
    Rel2 false E (viMotion row off) (viMotion row off) :=
  rel2_iff.1 (g2_viMotion0 qsim_eq bsimS_rel row off)
theorem rel2_markSave {w : Bool} {E : Unit → Unit → Prop} : Rel2 w E markSave markSave :=
  rel2_iff.1 (g2_markSave qsim_eq (bsim_rel w))
theorem rel2_vcMotion {E : Nat → Nat → Prop} (cmd : Nat) : Rel2 false E (vcMotion cmd) (vcMotion cmd) :=
  rel2_iff.1 (g2_vcMotion qsim_eq bsimS_rel cmd)
theorem rel2_vcInsert {E : Nat → Nat → Prop} (cmd : Nat) : Rel2 false E (vcInsert cmd) (vcInsert cmd) :=
  rel2_iff.1 (g2_vcInsert qsim_eq bsimS_rel cmd)
theorem rel2_vcPut {E : Nat → Nat → Prop} (cmd : Nat) : Rel2 false E (vcPut cmd) (vcPut cmd) :=
  rel2_iff.1 (g2_vcPut qsim_eq bsimS_rel cmd)
theorem rel2_vcJoin {E : Nat → Nat → Prop} : Rel2 false E vcJoin vcJoin :=
  rel2_iff.1 (g2_vcJoin qsim_eq bsimS_rel)
theorem rel2_vcReplace {E : Nat → Nat → Prop} : Rel2 false E vcReplace vcReplace :=
  rel2_iff.1 (g2_vcReplace qsim_eq bsimS_rel)
theorem rel2_scrollForward {w : Bool} {E : Bool → Bool → Prop} (cnt : Int) : Rel2 w E (scrollForward cnt) (scrollForward cnt) :=
  rel2_iff.1 (g2_scrollForward qsim_eq (bsim_rel w) cnt)
theorem rel2_scrollBackward {w : Bool} {E : Bool → Bool → Prop} (cnt : Int) : Rel2 w E (scrollBackward cnt) (scrollBackward cnt) :=
  rel2_iff.1 (g2_scrollBackward qsim_eq (bsim_rel w) cnt)
theorem rel2_viWfix {w : Bool} {E : Unit → Unit → Prop} : Rel2 w E viWfix viWfix :=
  rel2_iff.1 (g2_viWfix qsim_eq (bsim_rel w))
theorem rel2_viWait {w : Bool} {E : Unit → Unit → Prop} : Rel2 w E viWait viWait :=
  rel2_iff.1 (g2_viWait qsim_eq (bsim_rel w))
theorem rel2_vcRepeat {w : Bool} {E : Unit → Unit → Prop} : Rel2 w E vcRepeat vcRepeat :=
  rel2_iff.1 (g2_vcRepeat qsim_eq (bsim_rel w) qpush_eq)
theorem rel2_vcExecute {w : Bool} {E : Unit → Unit → Prop} : Rel2 w E vcExecute vcExecute :=
  rel2_iff.1 (g2_vcExecute qsim_eq (bsim_rel w) qpush_eq)
theorem rel2_exCommandV {E : Int → Int → Prop} (ln : Bytes) : Rel2 false E (exCommandV ln) (exCommandV ln) :=
  rel2_iff.1 (g2_exCommandV qsim_eq bsimS_rel ln)
theorem rel2_viPre_w {w : Bool} : Rel2 w (EscMv w) viPre viPre :=
  rel2_iff.1 (g2_viPre_w qsim_eq (bsim_rel w) fun e : w = false => e ▸ bsimS_rel)
theorem rel2_viPre : Rel2 false NoEsc viPre viPre :=
  rel2_iff.1 (g2_viPre qsim_eq bsimS_rel)
theorem rel2_motionTail {E : Option Nat → Option Nat → Prop} (mv nrow noff : Int) :
    Rel2 false E (motionTail mv nrow noff) (motionTail mv nrow noff) :=
  rel2_iff.1 (g2_motionTail qsim_eq (bsim_rel false) mv nrow noff)
theorem rel2_viPost {E : Unit → Unit → Prop} (cont : Option Nat) : Rel2 false E (viPost cont) (viPost cont) :=
  rel2_iff.1 (g2_viPost qsim_eq (bsim_rel false) cont)
theorem rel2_commandTail {E : Option Nat → Option Nat → Prop} : Rel2 false E commandTail commandTail :=
  rel2_iff.1 (g2_commandTail qsim_eq bsimS_rel qpush_eq)

theorem rel2_cmdSwitch {E : Option Nat → Option Nat → Prop} (c : Int) {s t : VS} (h : Sim false s t) :
    Rel2 false E (ViPres.cmdSwitch c s) (ViPres.cmdSwitch c t) :=
  rel2_iff.1 (g2_cmdSwitch qsim_eq bsimS_rel c (fun _ => qpush_eq) (sim_iff.2 h))

theorem rel2_viStep : Rel2 false NoEsc viStep viStep := rel2_iff.1 (C09.g2_viStep qsim_eq bsimS_rel qpush_eq)

theorem RR.noEsc_cases {α : Type} {x y : Res α} (h : RR false NoEsc x y) :
    (∃ a s t, x = Res.ok a s ∧ y = Res.ok a t ∧ Sim false s t) ∨ (x = Res.eof ∧ y = Res.eof) ∨
      (x = Res.trap ∧ y = Res.trap) := by
  cases h with
  | ok a s t h => exact Or.inl ⟨a, s, t, rfl, rfl, h⟩
  | esc a b s t h => exact h.elim
  | eof => exact Or.inr (Or.inl ⟨rfl, rfl⟩)
  | trap => exact Or.inr (Or.inr ⟨rfl, rfl⟩)

theorem keeps_seqOk {α : Type} {m : M α} (hm : Rel2 false NoEsc m m) {Z Z' : VS} {a : α} (hZ : EdSeqOk Z.ed)
    (h : m Z = Res.ok a Z') : EdSeqOk Z'.ed := by
  rcases (hm Z Z (Sim.refl hZ false)).noEsc_cases with ⟨b, x, y, r1, r2, h'⟩ | ⟨r1, _⟩ | ⟨r1, _⟩
  · rw [h] at r1; cases r1; exact h'.ed.seqOk_left
  · rw [h] at r1; cases r1
  · rw [h] at r1; cases r1

theorem seqOk_viStep {s s' : VS} (h : EdSeqOk s.ed) (hs : viStep s = Res.ok () s') : EdSeqOk s'.ed :=
  keeps_seqOk rel2_viStep h hs

end Neatvi.Lemmas.C09c
