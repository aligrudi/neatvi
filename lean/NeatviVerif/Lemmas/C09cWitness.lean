import NeatviVerif.Lemmas.C09cExtra
import NeatviVerif.Props.C09b
/-!
# C09c: witnesses — the statement left open in C09b is false as stated; the hypotheses are satisfiable
-/
namespace Neatvi.Lemmas.C09c
open Neatvi Neatvi.Uc Neatvi.Lbuf Neatvi.Ex Neatvi.Vi Neatvi.Mot
open Neatvi.Lemmas.C09b (Inv runOk)
open Neatvi.Props.C05c (iterate)

/-- an undo record of an (unreachable) initial state whose sequence number lies *above* the counter -/
def wEntry : Entry :=
  { pos := 0, nIns := 1, nDel := 1, ins := some [97, 98, 99, 100, 10], del := some [122, 97, 98, 99, 100, 10], seq := 5,
    posOff := 0, marks := none }
def wLb : Lb := { lines := [[97, 98, 99, 100, 10]], hist := [wEntry], histU := 1, histSz := 8, useq := 1 }
def wEd : Ed := { bufs := [some { path := [], lb := wLb }] ++ List.replicate 9 none }
/-- keys `x u . u` -/
def wInit : VS := viInit wEd [120, 117, 46, 117] 24 80

/-- everything `dot_retyped_observable_full` asks of the state after `x u`, and the two runs it compares -/
def wCheck (s : VS) : Bool :=
  decide (s.vibuf = []) && decide (s.ibuf.length ≤ s.ibufPos) && decide (s.repCmd ≠ []) && decide (s.typed = [46, 117]) &&
  decide (nlCount s.ed.out ≤ 1) && decide (s.ed.xquit = false) && runOk 3 s &&
  (match iterate 3 s, iterate 2 { s with typed := s.repCmd ++ [117] } with
   | some a, some b => decide (lines a ≠ lines b)
   | _, _ => false)

theorem wCheck_true : (match iterate 2 wInit with | some s => wCheck s | none => false) = true := by decide +kernel

/-! ### the hypotheses of `dot_retyped_observable` are satisfiable -/

/-- a fresh buffer holding two lines -/
def gEd : Ed := { bufs := [some { path := [], lb := { lines := [[97, 98, 99, 100, 10], [101, 102, 10]] } }] ++ List.replicate 9 none }
/-- keys `x . u j` -/
def gInit : VS := viInit gEd [120, 46, 117, 106] 24 80

/-- the hypotheses of `dot_retyped_observable` (but `Inv`, which every run keeps) for `rest = u j`, `k = 2`, as a boolean -/
def gCheck (s : VS) : Bool :=
  decide (s.vibuf = []) && decide (s.ibuf.length ≤ s.ibufPos) && decide (s.typed = [46, 117, 106]) &&
  decide (s.ed.out = []) && decide (s.ed.xquit = false) && dotSeqOkB s.ed && decide (DotSettled s [117, 106]) &&
  cmdFirst { s with typed := s.repCmd ++ [117, 106] } && runOk 3 s && decide (s.repCmd = [120])

theorem gCheck_true : (match iterate 1 gInit with | some s => gCheck s | none => false) = true := by decide +kernel

/-- the state after `x` on `abcd / ef`, with `. u j` waiting: all hypotheses of `dot_retyped_observable` hold -/
theorem hypotheses_satisfiable : ∃ s : VS, Inv s ∧ s.vibuf = [] ∧ s.ibuf.length ≤ s.ibufPos ∧
    s.typed = 46 :: [117, 106] ∧ s.ed.out = [] ∧ s.ed.xquit = false ∧ DotSeqOk s.ed ∧ DotSettled s [117, 106] ∧
    cmdFirst { s with typed := s.repCmd ++ [117, 106] } = true ∧ runOk (2 + 1) s = true ∧ s.repCmd = [120] := by
  have hc := gCheck_true
  cases hs : iterate 1 gInit with
  | none => rw [hs] at hc; cases hc
  | some s =>
    rw [hs] at hc
    unfold gCheck at hc
    simp only [Bool.and_eq_true, decide_eq_true_eq] at hc
    obtain ⟨⟨⟨⟨⟨⟨⟨⟨⟨hv, hd⟩, ht⟩, hout⟩, hq⟩, hseq⟩, hset⟩, hcmd⟩, hrun⟩, hrep⟩ := hc
    exact ⟨s, Lemmas.C09b.run_inv 1 gInit s (Lemmas.C09b.inv_viInit _ _ _ _) hs, hv, hd, ht, hout, hq,
      dotSeqOk_of_b hseq, hset, hcmd, hrun, hrep⟩

/-! ### right after `.` the mark `^` does differ -/

/-- keys `x l .` on `abcd`: `x` sets the mark `^` at column 0, `l` moves to column 1, `.` sets the mark there -/
def cInit : VS := viInit gEd [120, 108, 46] 24 80

end Neatvi.Lemmas.C09c
