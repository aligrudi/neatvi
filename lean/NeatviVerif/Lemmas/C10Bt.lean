import NeatviVerif.Lemmas.C10Seg
/-!
# C10 lemmas: a continuation-passing backtracker on the tree and the equations of the
repetition wrapper

`bt cx t dep pos m cuts k` runs the tree `t` from the state `(pos, m)` at recursion depth `dep`
with the cut counter `cuts`, and calls `k dep' pos' m' cuts'` at every exit, in the VM's order,
threading the depth and the cut counter exactly as the VM does.
-/
namespace Neatvi.Lemmas.C10
open Neatvi Neatvi.Regex

/-- continuations: depth, position, marks, cuts -/
abbrev K := Nat → Nat → Marks → Nat → Res
/-- a piece of matcher in continuation-passing style -/
abbrev Body := Nat → Nat → Marks → Nat → K → Res

def forkRes (first : Res) (second : Nat → Res) : Res :=
  match first with
  | Res.ok p m c => Res.ok p m c
  | Res.trap => Res.trap
  | Res.fail c => second c

/-- the `fork` instruction: the first branch runs one level deeper (or fails, counting a cut, at the
    depth limit); if it fails the second branch runs with the cut counter of the failure -/
def forkBt (nd dep cuts : Nat) (first : Nat → Res) (second : Nat → Res) : Res :=
  forkRes (if dep ≥ nd then Res.fail (cuts + 1) else first (dep + 1)) second

theorem forkBt_congr {nd dep cuts : Nat} {f1 f2 s1 s2 : Nat → Res}
    (hf : dep < nd → f1 (dep + 1) = f2 (dep + 1)) (hs : ∀ c, s1 c = s2 c) :
    forkBt nd dep cuts f1 s1 = forkBt nd dep cuts f2 s2 := by
  have : s1 = s2 := funext hs
  subst this
  unfold forkBt
  split
  · rfl
  · rw [hf (by omega)]

/-- `n` mandatory copies -/
def btCopies (body : Body) : Nat → Body
  | 0 => fun dep pos m cuts k => k dep pos m cuts
  | n + 1 => fun dep pos m cuts k => body dep pos m cuts (fun d p m' c => btCopies body n d p m' c k)

/-- up to `n` optional copies, each behind a fork -/
def btOpts (nd : Nat) (body : Body) : Nat → Body
  | 0 => fun dep pos m cuts k => k dep pos m cuts
  | n + 1 => fun dep pos m cuts k =>
    forkBt nd dep cuts (fun d => body d pos m cuts (fun d' p m' c => btOpts nd body n d' p m' c k))
      (fun c' => k dep pos m c')

/-- the closing fork of an unbounded repetition; the fuel bounds the remaining depth -/
def btStar (nd : Nat) (body : Body) (k : K) : Nat → K
  | 0 => fun dep pos m cuts => forkBt nd dep cuts (fun _ => Res.trap) (fun c' => k dep pos m c')
  | f + 1 => fun dep pos m cuts =>
    forkBt nd dep cuts (fun d => body d pos m cuts (btStar nd body k f)) (fun c' => k dep pos m c')

/-- the repetition wrapper -/
def btRep (nd : Nat) (body : Body) (mn mx : Int) : Body := fun dep pos m cuts k =>
  if mn == 0 && mx == 0 then k dep pos m cuts
  else if mn == 1 && mx == 1 then body dep pos m cuts k
  else
    let tail : K := fun d p m' c =>
      if mx < 0 then btStar nd body k (nd - d) d p m' c
      else btOpts nd body (mx - max 1 mn).toNat d p m' c k
    let main : Nat → Res := fun d => btCopies body (max 1 mn).toNat d pos m cuts tail
    if mn == 0 then forkBt nd dep cuts main (fun c' => k dep pos m c') else main dep

/-- what follows the mandatory copies: the closing fork of an unbounded repetition, with the
    remaining depth as fuel, or up to `n` optional copies -/
def btTail (nd : Nat) (body : Body) (mx : Int) (n : Nat) (k : K) : K := fun d p m c =>
  if mx < 0 then btStar nd body k (nd - d) d p m c else btOpts nd body n d p m c k

section rep
variable {nd : Nat} {B : Body}

theorem btRep_zero (dep pos : Nat) (m : Marks) (cuts : Nat) (k : K) :
    btRep nd B 0 0 dep pos m cuts k = k dep pos m cuts := rfl

theorem btRep_one (dep pos : Nat) (m : Marks) (cuts : Nat) (k : K) :
    btRep nd B 1 1 dep pos m cuts k = B dep pos m cuts k := rfl

theorem btRep_general {mn mx : Int} (h00 : ¬(mn = 0 ∧ mx = 0)) (h11 : ¬(mn = 1 ∧ mx = 1))
    (dep pos : Nat) (m : Marks) (cuts : Nat) (k : K) :
    btRep nd B mn mx dep pos m cuts k =
      if mn = 0 then
        forkBt nd dep cuts
          (fun d => btCopies B (max 1 mn).toNat d pos m cuts (btTail nd B mx (mx - max 1 mn).toNat k))
          (fun c' => k dep pos m c')
      else btCopies B (max 1 mn).toNat dep pos m cuts (btTail nd B mx (mx - max 1 mn).toNat k) := by
  unfold btRep
  simp only [rep_test_false h00, rep_test_false h11, Bool.false_eq_true, if_false, beq_iff_eq]
  rfl

end rep

/-- one copy of an atom -/
def btAtom (cx : Ctx) (a : Atom) : Body := fun dep pos m cuts k =>
  match atomMatch a cx.subj cx.flg pos with
  | AR.fail => Res.fail cuts
  | AR.trap => Res.trap
  | AR.ok pos' => k dep pos' m cuts

/-- one copy of a group around `inner`: the two `mark` instructions -/
def btGrp (cx : Ctx) (inner : Body) (g : Nat) : Body := fun dep pos m cuts k =>
  inner dep pos (setMk cx.ngrps m (2 * g) pos) cuts
    (fun d p m' c => k d p (setMk cx.ngrps m' (2 * g + 1) p) c)

/-- the backtracker on the tree -/
def bt (cx : Ctx) : RNode → Body
  | .nul => fun dep pos m cuts k => k dep pos m cuts
  | .atom a mn mx => btRep cx.nd (btAtom cx a) mn mx
  | .cat a b => fun dep pos m cuts k => bt cx a dep pos m cuts (fun d p m' c => bt cx b d p m' c k)
  | .alt a b => fun dep pos m cuts k =>
    forkBt cx.nd dep cuts (fun d => bt cx a d pos m cuts k) (fun c' => bt cx b dep pos m c' k)
  | .grp a g mn mx => btRep cx.nd (btGrp cx (bt cx a) g) mn mx

/-! ### continuations are only invoked at depths that are not smaller -/

/-- the two continuations agree from depth `dep` on -/
def KLe (dep : Nat) (k1 k2 : K) : Prop := ∀ d j m c, dep ≤ d → k1 d j m c = k2 d j m c

theorem KLe.mono {dep dep' : Nat} {k1 k2 : K} (h : KLe dep k1 k2) (hd : dep ≤ dep') : KLe dep' k1 k2 :=
  fun d j m c hd' => h d j m c (by omega)

def Congr (B : Body) : Prop :=
  ∀ dep pos m cuts k1 k2, KLe dep k1 k2 → B dep pos m cuts k1 = B dep pos m cuts k2

theorem btCopies_congr {body : Body} (hb : Congr body) : ∀ n, Congr (btCopies body n) := by
  intro n
  induction n with
  | zero => intro dep pos m cuts k1 k2 h; exact h dep pos m cuts (Nat.le_refl _)
  | succ n ih =>
    intro dep pos m cuts k1 k2 h
    simp only [btCopies]
    apply hb
    intro d j m' c hd
    exact ih d j m' c k1 k2 (h.mono hd)

theorem btOpts_congr {nd : Nat} {body : Body} (hb : Congr body) : ∀ n, Congr (btOpts nd body n) := by
  intro n
  induction n with
  | zero => intro dep pos m cuts k1 k2 h; exact h dep pos m cuts (Nat.le_refl _)
  | succ n ih =>
    intro dep pos m cuts k1 k2 h
    simp only [btOpts]
    apply forkBt_congr
    · intro _
      apply hb
      intro d j m' c hd
      exact ih d j m' c k1 k2 (h.mono (by omega))
    · intro c; exact h dep pos m c (Nat.le_refl _)

theorem btStar_congr {nd : Nat} {body : Body} (hb : Congr body) : ∀ fuel dep pos m cuts k1 k2,
    KLe dep k1 k2 → btStar nd body k1 fuel dep pos m cuts = btStar nd body k2 fuel dep pos m cuts := by
  intro fuel
  induction fuel with
  | zero =>
    intro dep pos m cuts k1 k2 h
    simp only [btStar]
    exact forkBt_congr (fun _ => rfl) (fun c => h dep pos m c (Nat.le_refl _))
  | succ f ih =>
    intro dep pos m cuts k1 k2 h
    simp only [btStar]
    apply forkBt_congr
    · intro _
      apply hb
      intro d j m' c hd
      exact ih d j m' c k1 k2 (h.mono (by omega))
    · intro c; exact h dep pos m c (Nat.le_refl _)

theorem btTail_congr {nd : Nat} {body : Body} (hb : Congr body) (mx : Int) (n : Nat) {dep : Nat} {k1 k2 : K}
    (h : KLe dep k1 k2) : KLe dep (btTail nd body mx n k1) (btTail nd body mx n k2) := by
  intro d j m c hd
  unfold btTail
  split
  · exact btStar_congr hb _ _ _ _ _ k1 k2 (h.mono hd)
  · exact btOpts_congr hb _ _ _ _ _ k1 k2 (h.mono hd)

theorem btRep_congr {nd : Nat} {body : Body} (hb : Congr body) (mn mx : Int) :
    Congr (btRep nd body mn mx) := by
  intro dep pos m cuts k1 k2 h
  by_cases h00 : mn = 0 ∧ mx = 0
  · obtain ⟨rfl, rfl⟩ := h00
    rw [btRep_zero, btRep_zero]
    exact h dep pos m cuts (Nat.le_refl _)
  by_cases h11 : mn = 1 ∧ mx = 1
  · obtain ⟨rfl, rfl⟩ := h11
    rw [btRep_one, btRep_one]
    exact hb dep pos m cuts k1 k2 h
  rw [btRep_general h00 h11, btRep_general h00 h11]
  have main := fun d (hd : dep ≤ d) => btCopies_congr hb (max 1 mn).toNat d pos m cuts _ _
    ((btTail_congr (nd := nd) hb mx (mx - max 1 mn).toNat h).mono hd)
  split
  · exact forkBt_congr (fun _ => main _ (by omega)) (fun c => h dep pos m c (Nat.le_refl _))
  · exact main dep (Nat.le_refl _)

theorem btAtom_congr (cx : Ctx) (a : Atom) : Congr (btAtom cx a) := by
  intro dep pos m cuts k1 k2 h
  unfold btAtom
  split
  · rfl
  · rfl
  · exact h dep _ m cuts (Nat.le_refl _)

theorem btGrp_congr (cx : Ctx) {inner : Body} (hi : Congr inner) (g : Nat) : Congr (btGrp cx inner g) := by
  intro dep pos m cuts k1 k2 h
  unfold btGrp
  apply hi
  intro d j m' c hd
  exact h d j _ c hd

theorem bt_congr (cx : Ctx) (t : RNode) : Congr (bt cx t) := by
  induction t with
  | nul => intro dep pos m cuts k1 k2 h; exact h dep pos m cuts (Nat.le_refl _)
  | atom a mn mx =>
    simp only [bt]
    exact btRep_congr (btAtom_congr cx a) mn mx
  | cat a b iha ihb =>
    intro dep pos m cuts k1 k2 h
    simp only [bt]
    apply iha
    intro d j m' c hd
    exact ihb d j m' c k1 k2 (h.mono hd)
  | alt a b iha ihb =>
    intro dep pos m cuts k1 k2 h
    simp only [bt]
    apply forkBt_congr
    · intro _; exact iha _ _ _ _ k1 k2 (h.mono (by omega))
    · intro c; exact ihb _ _ _ _ k1 k2 h
  | grp a g mn mx iha =>
    simp only [bt]
    exact btRep_congr (btGrp_congr cx iha g) mn mx

/-! ### the VM on a segment equals a backtracker -/
section eqs
variable (cx : Ctx)

theorem loop_fork' {dep pc pos m cuts a1 a2} (h : cx.prog[pc]? = some (Inst.fork a1 a2)) :
    loop cx dep pc pos m cuts =
      forkBt cx.nd dep cuts (fun d => loop cx d a1 pos m cuts)
        (fun c' => if a2 > pc then loop cx dep a2 pos m c' else Res.trap) := by
  rw [loop_fork cx h, act_eq]
  rfl

/-- the code from `b` to `e` behaves as the backtracker `B` continued by the code at `e` -/
def SegEq (B : Body) (b e : Nat) : Prop :=
  ∀ dep pos m cuts, loop cx dep b pos m cuts = B dep pos m cuts (fun d j m' c' => loop cx d e j m' c')

/-- a body `body b` of length `bl` that behaves as `B` wherever it stands in the program -/
def BodyEq (body : Nat → List Inst) (bl : Nat) (B : Body) : Prop :=
  (∀ b, (body b).length = bl) ∧ Congr B ∧
  ∀ b, At cx.prog b (body b) → SegEq cx B b (b + bl)

variable {cx} {body : Nat → List Inst} {bl : Nat} {B : Body}

theorem eq_copies (hbody : BodyEq cx body bl B) :
    ∀ k base, At cx.prog base (emitCopies body bl k base) →
      SegEq cx (btCopies B k) base (base + k * bl) := by
  intro k
  induction k with
  | zero =>
    intro base _ dep pos m cuts
    rw [Nat.zero_mul]; rfl
  | succ k ih =>
    intro base h dep pos m cuts
    have h : At cx.prog base (body base ++ emitCopies body bl k (base + bl)) := h
    have h2 := h.right
    rw [hbody.1] at h2
    rw [hbody.2.2 base h.left, Nat.succ_mul, Nat.add_comm (k * bl), ← Nat.add_assoc]
    simp only [btCopies]
    apply hbody.2.1
    intro d j m' c _
    exact ih _ h2 d j m' c

theorem eq_opts (hbody : BodyEq cx body bl B) (endA : Nat) :
    ∀ k base, At cx.prog base (emitOpts body bl endA k base) → endA = base + k * (1 + bl) →
      SegEq cx (btOpts cx.nd B k) base endA := by
  intro k
  induction k with
  | zero =>
    intro base _ he dep pos m cuts
    rw [show endA = base by omega]; rfl
  | succ k ih =>
    intro base h he dep pos m cuts
    have h : At cx.prog base
        (Inst.fork (base + 1) endA :: (body (base + 1) ++ emitOpts body bl endA k (base + 1 + bl))) := h
    have h2 := h.tail.right
    rw [hbody.1] at h2
    rw [Nat.succ_mul] at he
    rw [loop_fork' cx h.head]
    simp only [btOpts]
    apply forkBt_congr
    · intro _
      show loop cx (dep + 1) (base + 1) pos m cuts = _
      rw [hbody.2.2 _ h.tail.left]
      apply hbody.2.1
      intro d j m' c _
      exact ih _ h2 (by omega) d j m' c
    · intro c; rw [if_pos (by omega)]

theorem eq_star {last b2 e : Nat} (hcongr : Congr B) (hlast : SegEq cx B last b2)
    (hf : cx.prog[b2]? = some (Inst.fork last e)) (hgt : e > b2) :
    ∀ fuel dep, cx.nd - dep ≤ fuel → ∀ pos m cuts, loop cx dep b2 pos m cuts =
      btStar cx.nd B (fun d j m' c' => loop cx d e j m' c') fuel dep pos m cuts := by
  intro fuel
  induction fuel with
  | zero =>
    intro dep hd pos m cuts
    rw [loop_fork' cx hf]
    simp only [btStar]
    apply forkBt_congr
    · intro h; omega
    · intro c; rw [if_pos hgt]
  | succ f ih =>
    intro dep hd pos m cuts
    rw [loop_fork' cx hf]
    simp only [btStar]
    apply forkBt_congr
    · intro _
      show loop cx (dep + 1) last pos m cuts = _
      rw [hlast]
      apply hcongr
      intro d j m' c hd'
      exact ih d (by omega) j m' c
    · intro c; rw [if_pos hgt]

theorem eq_repBody (hbody : BodyEq cx body bl B) (mx : Int) {c n e b1 : Nat} (hc : 1 ≤ c) (hn : mx < 0 → n = 0)
    (h : At cx.prog b1 (repBody body bl mx c n e b1))
    (he : e = b1 + c * bl + (if mx < 0 then 1 else 0) + n * (1 + bl)) (d pos : Nat) (m : Marks) (cuts : Nat) :
    loop cx d b1 pos m cuts =
      btCopies B c d pos m cuts (btTail cx.nd B mx n (fun d j m' c' => loop cx d e j m' c')) := by
  unfold repBody at h
  have hcop := h.left
  have htl := h.right
  rw [emitCopies_length hbody.1] at htl
  rw [eq_copies hbody c _ hcop]
  apply btCopies_congr hbody.2.1
  intro d' j m' c' _
  unfold btTail
  by_cases hmx : mx < 0
  · rw [if_pos hmx] at htl he ⊢
    rw [hn hmx, Nat.zero_mul, Nat.add_zero] at he
    obtain ⟨c1, hc1⟩ : ∃ c1, c = c1 + 1 := ⟨c - 1, by omega⟩
    have hmul : c * bl = c1 * bl + bl := by rw [hc1, Nat.succ_mul]
    rw [show b1 + c * bl - bl = b1 + c1 * bl by omega, ← he] at htl
    have hlast : SegEq cx B (b1 + c1 * bl) (b1 + c * bl) := by
      rw [hc1, emitCopies_snoc] at hcop
      have h' := hcop.right
      rw [emitCopies_length hbody.1] at h'
      rw [hmul, ← Nat.add_assoc]
      exact hbody.2.2 _ h'
    exact eq_star hbody.2.1 hlast htl.head (by omega) _ _ (Nat.le_refl _) _ _ _
  · rw [if_neg hmx] at htl he ⊢
    exact eq_opts hbody e n _ htl he d' j m' c'

theorem eq_rep (hbody : BodyEq cx body bl B) (mn mx : Int) (base : Nat)
    (hp : At cx.prog base (emitRep body bl mn mx base)) :
    SegEq cx (btRep cx.nd B mn mx) base (base + repLen bl mn mx) := by
  by_cases h00 : mn = 0 ∧ mx = 0
  · obtain ⟨rfl, rfl⟩ := h00
    intro dep pos m cuts
    rw [btRep_zero]
    rfl
  by_cases h11 : mn = 1 ∧ mx = 1
  · obtain ⟨rfl, rfl⟩ := h11
    intro dep pos m cuts
    rw [btRep_one]
    exact hbody.2.2 base hp dep pos m cuts
  rw [emitRep_shape body base h00 h11] at hp
  have he := repLen_general (bl := bl) h00 h11
  have hc : 1 ≤ (max 1 mn).toNat := by omega
  have hn : mx < 0 → (mx - max 1 mn).toNat = 0 := by omega
  intro dep pos m cuts
  rw [btRep_general h00 h11]
  generalize (max 1 mn).toNat = c at hp he hc ⊢
  generalize (mx - max 1 mn).toNat = n at hp he hn ⊢
  generalize repLen bl mn mx = L at hp he
  by_cases hmn : mn = 0
  · rw [if_pos hmn] at hp he ⊢
    rw [loop_fork' cx hp.head]
    apply forkBt_congr
    · intro _
      exact eq_repBody hbody mx hc hn hp.tail (by omega) _ _ _ _
    · intro c'; rw [if_pos (by omega)]
  · rw [if_neg hmn] at hp he ⊢
    exact eq_repBody hbody mx hc hn hp (by omega) _ _ _ _

end eqs
end Neatvi.Lemmas.C10
