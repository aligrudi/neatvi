import NeatviVerif.Lemmas.C10Seg
/-!
# C10 lemmas: a fuel-indexed (structurally recursive) copy of the VM and of `regexec`

`loop`/`act` are defined by well-founded recursion, which `decide` cannot unfold.  The copies here
are structural in a fuel argument and proved to agree with the model whenever they return `some`,
so that concrete runs of the model can be established by `decide`.
-/
namespace Neatvi.Lemmas.C10
open Neatvi Neatvi.Regex

/-- fuel-indexed copy of `loop`/`act` (structural, so `decide` can run it) -/
def loopF (cx : Ctx) : Nat → Nat → Nat → Nat → Marks → Nat → Option Res
  | 0, _, _, _, _, _ => none
  | f + 1, dep, pc, pos, m, cuts =>
    match cx.prog[pc]? with
    | none => some Res.trap
    | some (Inst.atom a) =>
      match atomMatch a cx.subj cx.flg pos with
      | AR.fail => some (Res.fail cuts)
      | AR.trap => some Res.trap
      | AR.ok pos' => loopF cx f dep (pc + 1) pos' m cuts
    | some (Inst.mark k) => loopF cx f dep (pc + 1) pos (setMk cx.ngrps m k pos) cuts
    | some (Inst.jump a) => if a > pc then loopF cx f dep a pos m cuts else some Res.trap
    | some (Inst.fork a1 a2) =>
      match (if dep ≥ cx.nd then some (Res.fail (cuts + 1)) else loopF cx f (dep + 1) a1 pos m cuts) with
      | none => none
      | some (Res.ok p' m' c') => some (Res.ok p' m' c')
      | some Res.trap => some Res.trap
      | some (Res.fail c') => if a2 > pc then loopF cx f dep a2 pos m c' else some Res.trap
    | some Inst.mtch => some (Res.ok pos m cuts)

theorem loopF_sound (cx : Ctx) : ∀ f dep pc pos m cuts r,
    loopF cx f dep pc pos m cuts = some r → loop cx dep pc pos m cuts = r := by
  intro f
  induction f with
  | zero => intro dep pc pos m cuts r h; cases h
  | succ f ih =>
    intro dep pc pos m cuts r h
    have hj : ∀ a c, (if a > pc then loopF cx f dep a pos m c else some Res.trap) = some r →
        (if a > pc then loop cx dep a pos m c else Res.trap) = r := by
      intro a c h
      by_cases hgt : a > pc
      · rw [if_pos hgt] at h ⊢; exact ih _ _ _ _ _ _ h
      · rw [if_neg hgt] at h ⊢; exact Option.some.inj h
    rw [loopF] at h
    rw [loop_eq]
    cases hi : cx.prog[pc]? with
    | none => rw [hi] at h; exact Option.some.inj h
    | some i =>
      rw [hi] at h
      cases i with
      | atom a =>
        dsimp only at h ⊢
        cases hm : atomMatch a cx.subj cx.flg pos with
        | fail => rw [hm] at h; exact Option.some.inj h
        | trap => rw [hm] at h; exact Option.some.inj h
        | ok p => rw [hm] at h; exact ih _ _ _ _ _ _ h
      | mark k => exact ih _ _ _ _ _ _ h
      | jump a => exact hj _ _ h
      | mtch => exact Option.some.inj h
      | fork a1 a2 =>
        dsimp only at h ⊢
        rw [act_eq]
        by_cases hd : dep ≥ cx.nd
        · rw [if_pos hd] at h ⊢
          exact hj _ _ h
        · rw [if_neg hd] at h ⊢
          cases hx : loopF cx f (dep + 1) a1 pos m cuts with
          | none => rw [hx] at h; cases h
          | some x =>
            rw [hx] at h
            rw [ih _ _ _ _ _ _ hx]
            cases x with
            | ok p' m' c' => exact Option.some.inj h
            | trap => exact Option.some.inj h
            | fail c' => exact hj _ _ h

def actF (cx : Ctx) (f dep pc pos : Nat) (m : Marks) (cuts : Nat) : Option Res :=
  if dep ≥ cx.nd then some (Res.fail (cuts + 1)) else loopF cx f (dep + 1) pc pos m cuts

theorem actF_sound (cx : Ctx) {f dep pc pos m cuts r} (h : actF cx f dep pc pos m cuts = some r) :
    act cx dep pc pos m cuts = r := by
  unfold actF at h
  rw [act_eq]
  by_cases hd : dep ≥ cx.nd
  · rw [if_pos hd] at h ⊢; exact Option.some.inj h
  · rw [if_neg hd] at h ⊢; exact loopF_sound cx _ _ _ _ _ _ _ h

def execLoopF (cx : Ctx) (fuel : Nat) : Nat → Nat → Nat → Option ExecRes
  | 0, _, cuts => some (ExecRes.nomatch cuts)
  | f + 1, start, cuts =>
    match rdb cx.subj start with
    | none => some ExecRes.trap
    | some b =>
      match actF cx fuel 0 0 start (List.replicate (2 * cx.ngrps) (-1)) cuts with
      | none => none
      | some (Res.ok _ m c) => some (ExecRes.found m c)
      | some Res.trap => some ExecRes.trap
      | some (Res.fail c) =>
        if b == 0 then some (ExecRes.nomatch c) else execLoopF cx fuel f (start + rxLen cx.subj start) c

theorem execLoopF_sound (cx : Ctx) (fuel : Nat) : ∀ f start cuts r,
    execLoopF cx fuel f start cuts = some r → execLoop cx f start cuts = r := by
  intro f
  induction f with
  | zero => intro start cuts r h; exact Option.some.inj h
  | succ f ih =>
    intro start cuts r h
    rw [execLoopF] at h
    rw [execLoop]
    cases hr : rdb cx.subj start with
    | none => rw [hr] at h; exact Option.some.inj h
    | some b =>
      rw [hr] at h
      dsimp only at h ⊢
      cases ha : actF cx fuel 0 0 start (List.replicate (2 * cx.ngrps) (-1)) cuts with
      | none => rw [ha] at h; cases h
      | some x =>
        rw [ha] at h
        rw [recmatch, actF_sound cx ha]
        cases x with
        | ok p m c => exact Option.some.inj h
        | trap => exact Option.some.inj h
        | fail c =>
          dsimp only at h ⊢
          by_cases hb : (b == 0) = true
          · rw [if_pos hb] at h ⊢; exact Option.some.inj h
          · rw [if_neg hb] at h ⊢; exact ih _ _ _ h

def regexecF (fuel : Nat) (p : Prog) (subj : Bytes) (nsub eflg nd ngrps : Nat) :
    Option (ExecRes × List (Int × Int)) :=
  let cx : Ctx := { prog := p.code, subj := subj, flg := p.flg ||| eflg, nd := nd, ngrps := ngrps }
  if subj.isEmpty then some (ExecRes.nomatch 0, []) else
  match execLoopF cx fuel (subj.length + 2) 0 0 with
  | none => none
  | some (ExecRes.found m c) =>
    some (ExecRes.found m c, (List.range nsub).map (fun i =>
      if i * 2 < 2 * ngrps then (m.getD (i * 2) (-1), m.getD (i * 2 + 1) (-1)) else (-1, -1)))
  | some r => some (r, [])

theorem regexecF_sound {fuel : Nat} {p : Prog} {subj : Bytes} {nsub eflg nd ngrps : Nat}
    {r : ExecRes × List (Int × Int)} (h : regexecF fuel p subj nsub eflg nd ngrps = some r) :
    regexec p subj nsub eflg nd ngrps = r := by
  unfold regexecF at h
  unfold regexec
  by_cases he : subj.isEmpty = true
  · simp only [if_pos he] at h ⊢; exact Option.some.inj h
  · simp only [if_neg he] at h ⊢
    cases hx : execLoopF ⟨p.code, subj, p.flg ||| eflg, nd, ngrps⟩ fuel (subj.length + 2) 0 0 with
    | none => rw [hx] at h; cases h
    | some x =>
      rw [hx] at h
      rw [execLoopF_sound _ _ _ _ _ _ hx]
      cases x with
      | found m c => exact Option.some.inj h
      | _ => exact Option.some.inj h

end Neatvi.Lemmas.C10
