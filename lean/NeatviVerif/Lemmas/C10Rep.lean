import NeatviVerif.Lemmas.C10Bt
/-!
# C10 lemmas: `k` steps of a relation, and what a successful run of the backtracker has done

`IterR one k` and `RepOk mn mx k` (the copy counts `{mn, mx}` allows; not `Props.C11.RepOk`, the well-formedness of
the bounds) are what `Props.C10.Matches` is stated with.
-/
namespace Neatvi.Lemmas.C10
open Neatvi Neatvi.Regex

/-- `k` successive steps of a relation -/
inductive IterR (one : St → St → Prop) : Nat → St → St → Prop
  | zero (r : St) : IterR one 0 r r
  | succ {k : Nat} {r s r' : St} : one r s → IterR one k s r' → IterR one (k + 1) r r'

theorem IterR.append {one : St → St → Prop} {j : Nat} : ∀ {k : Nat} {r s r' : St},
    IterR one j r s → IterR one k s r' → IterR one (j + k) r r' := by
  induction j with
  | zero => intro k r s r' h1 h2; cases h1; simpa using h2
  | succ j ih =>
    intro k r s r' h1 h2
    cases h1 with
    | succ h h1' => rw [show j + 1 + k = (j + k) + 1 by omega]; exact IterR.succ h (ih h1' h2)

theorem IterR.one {one : St → St → Prop} {r s : St} (h : one r s) : IterR one 1 r s :=
  IterR.succ h (IterR.zero s)

theorem IterR.rel {one P : St → St → Prop} (hrefl : ∀ r, P r r)
    (htrans : ∀ {r s t}, P r s → P s t → P r t) (hone : ∀ r s, one r s → P r s) :
    ∀ {k : Nat} {r r' : St}, IterR one k r r' → P r r' := by
  intro k
  induction k with
  | zero => intro r r' h; cases h; exact hrefl _
  | succ k ih => intro r r' h; cases h with | succ h1 h2 => exact htrans (hone _ _ h1) (ih h2)

/-- the copy counts the code emitted for `{mn, mx}` allows -/
def RepOk (mn mx : Int) (k : Nat) : Prop :=
  if mn = 0 ∧ mx = 0 then k = 0
  else if mn = 1 ∧ mx = 1 then k = 1
  else (mn = 0 ∧ k = 0) ∨ (max 1 mn ≤ (k : Int) ∧ (mx < 0 ∨ (k : Int) ≤ max (max 1 mn) mx))

instance (mn mx : Int) (k : Nat) : Decidable (RepOk mn mx k) := by
  unfold RepOk; exact inferInstance

theorem repOk_general {mn mx : Int} (h00 : ¬(mn = 0 ∧ mx = 0)) (h11 : ¬(mn = 1 ∧ mx = 1)) {j : Nat}
    (hj : mx < 0 ∨ j ≤ (mx - max 1 mn).toNat) : RepOk mn mx ((max 1 mn).toNat + j) := by
  unfold RepOk
  rw [if_neg h00, if_neg h11]
  right
  omega

theorem repOk_none {mn mx : Int} (h00 : ¬(mn = 0 ∧ mx = 0)) (h11 : ¬(mn = 1 ∧ mx = 1)) (hmn : mn = 0) :
    RepOk mn mx 0 := by
  unfold RepOk
  rw [if_neg h00, if_neg h11]
  exact Or.inl ⟨hmn, rfl⟩

/-! ### successful runs of the backtracker -/

/-- every successful run of `B` from a state calls its continuation, not shallower, in an
    `R`-related state, and the continuation produces the result -/
def BodyS (B : Body) (R : St → St → Prop) : Prop :=
  ∀ dep pos m cuts (k : K) p' m' c', B dep pos m cuts k = Res.ok p' m' c' →
    ∃ (r : St) (d c : Nat), R (pos, m) r ∧ dep ≤ d ∧ k d r.1 r.2 c = Res.ok p' m' c'

theorem BodyS.mono {B : Body} {R S : St → St → Prop} (h : BodyS B R) (hRS : ∀ r r', R r r' → S r r') :
    BodyS B S := by
  intro dep pos m cuts k p' m' c' hr
  obtain ⟨r, d, c, hR, hd, hc⟩ := h dep pos m cuts k p' m' c' hr
  exact ⟨r, d, c, hRS _ _ hR, hd, hc⟩

theorem forkBt_ok {nd dep cuts : Nat} {first second : Nat → Res} {p' m' c'}
    (h : forkBt nd dep cuts first second = Res.ok p' m' c') :
    (dep < nd ∧ first (dep + 1) = Res.ok p' m' c') ∨ ∃ c'', second c'' = Res.ok p' m' c' := by
  unfold forkBt at h
  by_cases hd : dep ≥ nd
  · rw [if_pos hd] at h
    exact Or.inr ⟨_, h⟩
  · rw [if_neg hd] at h
    cases hf : first (dep + 1) with
    | ok p m c => rw [hf] at h; exact Or.inl ⟨by omega, h⟩
    | trap => rw [hf] at h; cases h
    | fail c => rw [hf] at h; exact Or.inr ⟨_, h⟩

section sound
variable {B : Body} {one : St → St → Prop}

theorem sound_copies (hB : BodyS B one) : ∀ n, BodyS (btCopies B n) (IterR one n) := by
  intro n
  induction n with
  | zero => intro dep pos m cuts k p' m' c' hr; exact ⟨(pos, m), dep, cuts, IterR.zero _, Nat.le_refl _, hr⟩
  | succ n ih =>
    intro dep pos m cuts k p' m' c' hr
    obtain ⟨r, d, c, hR, hd, hc⟩ := hB _ _ _ _ _ _ _ _ hr
    obtain ⟨r2, d2, c2, hR2, hd2, hc2⟩ := ih _ _ _ _ _ _ _ _ hc
    exact ⟨r2, d2, c2, IterR.succ hR hR2, by omega, hc2⟩

theorem sound_opts (nd : Nat) (hB : BodyS B one) :
    ∀ n, BodyS (btOpts nd B n) (fun r r' => ∃ j, j ≤ n ∧ IterR one j r r') := by
  intro n
  induction n with
  | zero =>
    intro dep pos m cuts k p' m' c' hr
    exact ⟨(pos, m), dep, cuts, ⟨0, Nat.le_refl _, IterR.zero _⟩, Nat.le_refl _, hr⟩
  | succ n ih =>
    intro dep pos m cuts k p' m' c' hr
    simp only [btOpts] at hr
    rcases forkBt_ok hr with ⟨_, hl⟩ | ⟨c'', hl⟩
    · obtain ⟨r, d, c, hR, hd, hc⟩ := hB _ _ _ _ _ _ _ _ hl
      obtain ⟨r2, d2, c2, ⟨j, hj, hR2⟩, hd2, hc2⟩ := ih _ _ _ _ _ _ _ _ hc
      exact ⟨r2, d2, c2, ⟨j + 1, by omega, IterR.succ hR hR2⟩, by omega, hc2⟩
    · exact ⟨(pos, m), dep, c'', ⟨0, by omega, IterR.zero _⟩, Nat.le_refl _, hl⟩

theorem sound_star (nd : Nat) (hB : BodyS B one) (k : K) : ∀ fuel dep pos m cuts p' m' c',
    btStar nd B k fuel dep pos m cuts = Res.ok p' m' c' →
    ∃ (r : St) (d c : Nat), (∃ j, IterR one j (pos, m) r) ∧ dep ≤ d ∧ k d r.1 r.2 c = Res.ok p' m' c' := by
  intro fuel
  induction fuel with
  | zero =>
    intro dep pos m cuts p' m' c' hr
    simp only [btStar] at hr
    rcases forkBt_ok hr with ⟨_, hl⟩ | ⟨c'', hl⟩
    · cases hl
    · exact ⟨(pos, m), dep, c'', ⟨0, IterR.zero _⟩, Nat.le_refl _, hl⟩
  | succ f ih =>
    intro dep pos m cuts p' m' c' hr
    simp only [btStar] at hr
    rcases forkBt_ok hr with ⟨_, hl⟩ | ⟨c'', hl⟩
    · obtain ⟨r, d, c, hR, hd, hc⟩ := hB _ _ _ _ _ _ _ _ hl
      obtain ⟨r2, d2, c2, ⟨j, hj⟩, hd2, hc2⟩ := ih _ _ _ _ _ _ _ hc
      exact ⟨r2, d2, c2, ⟨j + 1, IterR.succ hR hj⟩, by omega, hc2⟩
    · exact ⟨(pos, m), dep, c'', ⟨0, IterR.zero _⟩, Nat.le_refl _, hl⟩

theorem sound_tail (nd : Nat) (hB : BodyS B one) (mx : Int) (n : Nat) (k : K) {d pos m cuts p' m' c'}
    (hr : btTail nd B mx n k d pos m cuts = Res.ok p' m' c') :
    ∃ (r : St) (d' c : Nat), (∃ j, (mx < 0 ∨ j ≤ n) ∧ IterR one j (pos, m) r) ∧ d ≤ d' ∧
      k d' r.1 r.2 c = Res.ok p' m' c' := by
  unfold btTail at hr
  by_cases hmx : mx < 0
  · rw [if_pos hmx] at hr
    obtain ⟨r, d', c, ⟨j, hj⟩, hd, hc⟩ := sound_star nd hB k _ _ _ _ _ _ _ _ hr
    exact ⟨r, d', c, ⟨j, Or.inl hmx, hj⟩, hd, hc⟩
  · rw [if_neg hmx] at hr
    obtain ⟨r, d', c, ⟨j, hjn, hj⟩, hd, hc⟩ := sound_opts nd hB _ _ _ _ _ _ _ _ _ hr
    exact ⟨r, d', c, ⟨j, Or.inr hjn, hj⟩, hd, hc⟩

theorem sound_rep (nd : Nat) (hB : BodyS B one) (mn mx : Int) :
    BodyS (btRep nd B mn mx) (fun r r' => ∃ k, RepOk mn mx k ∧ IterR one k r r') := by
  intro dep pos m cuts k p' m' c' hr
  by_cases h00 : mn = 0 ∧ mx = 0
  · obtain ⟨rfl, rfl⟩ := h00
    rw [btRep_zero] at hr
    exact ⟨(pos, m), dep, cuts, ⟨0, by decide, IterR.zero _⟩, Nat.le_refl _, hr⟩
  by_cases h11 : mn = 1 ∧ mx = 1
  · obtain ⟨rfl, rfl⟩ := h11
    rw [btRep_one] at hr
    obtain ⟨r, d, c, hR, hd, hc⟩ := hB _ _ _ _ _ _ _ _ hr
    exact ⟨r, d, c, ⟨1, by decide, IterR.one hR⟩, hd, hc⟩
  rw [btRep_general h00 h11] at hr
  have main : ∀ d, dep ≤ d →
      btCopies B (max 1 mn).toNat d pos m cuts (btTail nd B mx (mx - max 1 mn).toNat k) = Res.ok p' m' c' →
      ∃ (r : St) (d' c : Nat), (∃ j, RepOk mn mx j ∧ IterR one j (pos, m) r) ∧ dep ≤ d' ∧
        k d' r.1 r.2 c = Res.ok p' m' c' := by
    intro d hd hr
    obtain ⟨r, d1, c1, hR, hd1, hc⟩ := sound_copies hB _ _ _ _ _ _ _ _ _ hr
    obtain ⟨r2, d2, c2, ⟨j, hjn, hj⟩, hd2, hc2⟩ := sound_tail nd hB mx _ k hc
    exact ⟨r2, d2, c2, ⟨_, repOk_general h00 h11 hjn, IterR.append hR hj⟩, by omega, hc2⟩
  by_cases hmn : mn = 0
  · rw [if_pos hmn] at hr
    rcases forkBt_ok hr with ⟨_, hl⟩ | ⟨c'', hl⟩
    · exact main _ (by omega) hl
    · exact ⟨(pos, m), dep, c'', ⟨0, repOk_none h00 h11 hmn, IterR.zero _⟩, Nat.le_refl _, hl⟩
  · rw [if_neg hmn] at hr
    exact main dep (Nat.le_refl _) hr

end sound
end Neatvi.Lemmas.C10
