import NeatviVerif.Lemmas.C10Seg
/-!
# Two runs of the VM in lockstep

`loop_rel`: two contexts run the same program with the same depth limit.  If a relation `S pc` between
their states is handed on by every instruction (`step`: related states give related atom outcomes,
related marks, and `Q` at `mtch`) and the cut counters are related by a `C` that survives `+ 1`, then the
two runs end alike: both fail, both trap, or both match, in states related by `Q` (`ResRel Q C`).

The facts about the successful or failing run of an arbitrary program are instances: the cut counter is
only a counter (`C c c' := c' = c + d`, same context: `recmatch_shift`, at the end), the run on the rest of a line is the
shifted run on the line (`S := shifted by k`: `C13bC`), and an invariant of one run is the diagonal
case (`loop_invariant` in `C11VM`).  `execLoop_rel` is the same for the start-position loop of `regexec`.
That a well-formed program never traps is not of this form; it is `loop_no_trap_of` in `C11VM`.
-/
namespace Neatvi.Lemmas.C10
open Neatvi Neatvi.Regex

/-- two atom outcomes of the same kind, the end positions related by `R` -/
def ARRel (R : Nat → Nat → Prop) : AR → AR → Prop
  | AR.fail, AR.fail => True
  | AR.trap, AR.trap => True
  | AR.ok j, AR.ok j' => R j j'
  | _, _ => False

/-- two results of the same kind, the end states related by `Q`, the cut counters by `C` -/
def ResRel (Q : Nat → Marks → Nat → Marks → Prop) (C : Nat → Nat → Prop) : Res → Res → Prop
  | Res.fail c, Res.fail c' => C c c'
  | Res.trap, Res.trap => True
  | Res.ok p m c, Res.ok p' m' c' => Q p m p' m' ∧ C c c'
  | _, _ => False

theorem ARRel.map {R : Nat → Nat → Prop} {f : AR → AR} {g : Nat → Nat} (hok : ∀ j, f (AR.ok j) = AR.ok (g j))
    (hfail : f AR.fail = AR.fail) (htrap : f AR.trap = AR.trap) (h : ∀ j, R j (g j)) (r : AR) :
    ARRel R r (f r) := by
  cases r with
  | fail => rw [hfail]; trivial
  | trap => rw [htrap]; trivial
  | ok j => rw [hok]; exact h j

/-- what the instruction `inst` at `pc` owes: the relation at the states it continues with -/
def StepRel (cx cx' : Ctx) (S : Nat → Nat → Marks → Nat → Marks → Prop)
    (Q : Nat → Marks → Nat → Marks → Prop) (pc : Nat) (pos : Nat) (m : Marks) (pos' : Nat) (m' : Marks) :
    Inst → Prop
  | .atom a => ARRel (fun j j' => S (pc + 1) j m j' m')
      (atomMatch a cx.subj cx.flg pos) (atomMatch a cx'.subj cx'.flg pos')
  | .mark k => S (pc + 1) pos (setMk cx.ngrps m k pos) pos' (setMk cx'.ngrps m' k pos')
  | .jump a => S a pos m pos' m'
  | .fork a1 a2 => S a1 pos m pos' m' ∧ S a2 pos m pos' m'
  | .mtch => Q pos m pos' m'

section rel
variable (cx cx' : Ctx) {S : Nat → Nat → Marks → Nat → Marks → Prop}
  {Q : Nat → Marks → Nat → Marks → Prop} {C : Nat → Nat → Prop}

theorem loop_rel (hprog : cx'.prog = cx.prog) (hnd : cx'.nd = cx.nd)
    (hC : ∀ c c', C c c' → C (c + 1) (c' + 1))
    (step : ∀ pc inst pos m pos' m', cx.prog[pc]? = some inst → S pc pos m pos' m' →
      StepRel cx cx' S Q pc pos m pos' m' inst) :
    ∀ dep pc pos m pos' m' c c', S pc pos m pos' m' → C c c' →
      ResRel Q C (loop cx dep pc pos m c) (loop cx' dep pc pos' m' c') := by
  apply loop_induction cx (fun dep pc => ∀ pos m pos' m' c c', S pc pos m pos' m' → C c c' →
    ResRel Q C (loop cx dep pc pos m c) (loop cx' dep pc pos' m' c'))
  intro dep pc ihd ihp pos m pos' m' c c' hS hc
  cases hi : cx.prog[pc]? with
  | none => rw [loop_none cx hi, loop_none cx' (hprog ▸ hi)]; trivial
  | some inst =>
    have hi' : cx'.prog[pc]? = some inst := hprog ▸ hi
    have hlt : pc < cx.prog.length := (List.getElem?_eq_some_iff.mp hi).1
    have hs := step pc inst pos m pos' m' hi hS
    have hj : ∀ a c c', S a pos m pos' m' → C c c' →
        ResRel Q C (if a > pc then loop cx dep a pos m c else Res.trap)
          (if a > pc then loop cx' dep a pos' m' c' else Res.trap) := by
      intro a c c' hS hc
      by_cases hgt : a > pc
      · rw [if_pos hgt, if_pos hgt]; exact ihp a hgt hlt _ _ _ _ _ _ hS hc
      · rw [if_neg hgt, if_neg hgt]; trivial
    cases inst with
    | atom a =>
      rw [loop_atom cx hi, loop_atom cx' hi']
      simp only [StepRel] at hs
      generalize atomMatch a cx.subj cx.flg pos = r1 at hs
      generalize atomMatch a cx'.subj cx'.flg pos' = r2 at hs
      cases r1 <;> cases r2 <;> try exact hs.elim
      · exact hc
      · trivial
      · exact ihp _ (Nat.lt_succ_self pc) hlt _ _ _ _ _ _ hs hc
    | mark k =>
      rw [loop_mark cx hi, loop_mark cx' hi']
      exact ihp _ (Nat.lt_succ_self pc) hlt _ _ _ _ _ _ hs hc
    | jump a =>
      rw [loop_jump cx hi, loop_jump cx' hi']
      exact hj a c c' hs hc
    | mtch =>
      rw [loop_mtch cx hi, loop_mtch cx' hi']
      exact ⟨hs, hc⟩
    | fork a1 a2 =>
      rw [loop_fork cx hi, loop_fork cx' hi', act_eq, act_eq, hnd]
      by_cases hd : dep ≥ cx.nd
      · rw [if_pos hd, if_pos hd]
        exact hj a2 _ _ hs.2 (hC _ _ hc)
      · rw [if_neg hd, if_neg hd]
        have h1 := ihd a1 (Nat.lt_of_not_le hd) _ _ _ _ _ _ hs.1 hc
        generalize loop cx (dep + 1) a1 pos m c = r1 at h1
        generalize loop cx' (dep + 1) a1 pos' m' c' = r2 at h1
        cases r1 <;> cases r2 <;> try exact h1.elim
        · exact hj a2 _ _ hs.2 h1
        · trivial
        · exact h1

theorem act_rel (hprog : cx'.prog = cx.prog) (hnd : cx'.nd = cx.nd)
    (hC : ∀ c c', C c c' → C (c + 1) (c' + 1))
    (step : ∀ pc inst pos m pos' m', cx.prog[pc]? = some inst → S pc pos m pos' m' →
      StepRel cx cx' S Q pc pos m pos' m' inst)
    {dep pc pos pos' c c' : Nat} {m m' : Marks} (hS : S pc pos m pos' m') (hc : C c c') :
    ResRel Q C (act cx dep pc pos m c) (act cx' dep pc pos' m' c') := by
  rw [act_eq, act_eq, hnd]
  split
  · exact hC _ _ hc
  · exact loop_rel cx cx' hprog hnd hC step _ _ _ _ _ _ _ _ hS hc

end rel

/-- when both relations are graphs of functions the second result is the image of the first under
    the map `f` that acts so on the three kinds of result -/
theorem ResRel.eq_map {fp : Nat → Nat} {fm : Marks → Marks} {fc : Nat → Nat} {f : Res → Res} {r r' : Res}
    (hok : ∀ p m c, f (Res.ok p m c) = Res.ok (fp p) (fm m) (fc c))
    (hfail : ∀ c, f (Res.fail c) = Res.fail (fc c)) (htrap : f Res.trap = Res.trap)
    (h : ResRel (fun p m p' m' => p' = fp p ∧ m' = fm m) (fun c c' => c' = fc c) r r') : r' = f r := by
  cases r <;> cases r' <;> try exact h.elim
  · rw [hfail]; exact congrArg Res.fail h
  · exact htrap.symm
  · obtain ⟨⟨rfl, rfl⟩, rfl⟩ := h; exact (hok _ _ _).symm

/-! ### the start-position loop in lockstep -/

/-- two outcomes of `execLoop` of the same kind, the marks related by `Qm`, the cut counters by `C` -/
def ExecRel (Qm : Marks → Marks → Prop) (C : Nat → Nat → Prop) : ExecRes → ExecRes → Prop
  | ExecRes.nomatch c, ExecRes.nomatch c' => C c c'
  | ExecRes.trap, ExecRes.trap => True
  | ExecRes.found m c, ExecRes.found m' c' => Qm m m' ∧ C c c'
  | _, _ => False

theorem execLoop_rel (cx cx' : Ctx) {P : Nat → Nat → Prop} {Q : Nat → Marks → Nat → Marks → Prop}
    {C : Nat → Nat → Prop} (hrdb : ∀ s s', P s s' → rdb cx'.subj s' = rdb cx.subj s)
    (hnext : ∀ s s', P s s' → P (s + rxLen cx.subj s) (s' + rxLen cx'.subj s'))
    (hrec : ∀ s s' c c', P s s' → C c c' → ResRel Q C (recmatch cx s c) (recmatch cx' s' c')) :
    ∀ f s s' c c', P s s' → C c c' →
      ExecRel (fun m m' => ∃ p p', Q p m p' m') C (execLoop cx f s c) (execLoop cx' f s' c') := by
  intro f
  induction f with
  | zero => intro s s' c c' _ hc; exact hc
  | succ f ih =>
    intro s s' c c' hP hc
    rw [execLoop, execLoop, hrdb s s' hP]
    cases rdb cx.subj s with
    | none => trivial
    | some b =>
      have hr := hrec s s' c c' hP hc
      generalize recmatch cx s c = r1 at hr
      generalize recmatch cx' s' c' = r2 at hr
      cases r1 <;> cases r2 <;> try exact hr.elim
      · show ExecRel _ C (if b == 0 then _ else _) (if b == 0 then _ else _)
        split
        · exact hr
        · exact ih _ _ _ _ (hnext s s' hP) hr
      · trivial
      · exact ⟨⟨_, _, hr.1⟩, hr.2⟩

/-! ### the cut counter is only a counter

Running the VM with a larger initial cut counter gives the same result with the counter shifted, so
whether a run succeeds, fails or traps does not depend on the counter. -/

/-- add `d` to the cut counter of a result -/
def shiftRes (d : Nat) : Res → Res
  | Res.fail c => Res.fail (c + d)
  | Res.trap => Res.trap
  | Res.ok p m c => Res.ok p m (c + d)

theorem lockstep_self (cx : Ctx) : ∀ pc inst pos m pos' m', cx.prog[pc]? = some inst →
    (pos' = pos ∧ m' = m) →
    StepRel cx cx (fun _ p m p' m' => p' = p ∧ m' = m) (fun p m p' m' => p' = p ∧ m' = m)
      pc pos m pos' m' inst := by
  rintro pc inst pos m _ _ - ⟨rfl, rfl⟩
  cases inst with
  | atom a => exact ARRel.map (f := id) (g := id) (fun _ => rfl) rfl rfl (fun _ => ⟨rfl, rfl⟩) _
  | mark k => exact ⟨rfl, rfl⟩
  | jump a => exact ⟨rfl, rfl⟩
  | fork a1 a2 => exact ⟨⟨rfl, rfl⟩, rfl, rfl⟩
  | mtch => exact ⟨rfl, rfl⟩

theorem recmatch_shift (cx : Ctx) (d start cuts : Nat) :
    recmatch cx start (cuts + d) = shiftRes d (recmatch cx start cuts) :=
  (act_rel cx cx rfl rfl (C := fun c c' => c' = c + d) (fun _ _ h => by omega) (lockstep_self cx)
    (S := fun _ p m p' m' => p' = p ∧ m' = m) (pc := 0) ⟨rfl, rfl⟩ rfl).eq_map (fp := id) (fm := id)
    (fun _ _ _ => rfl) (fun _ => rfl) rfl

/-- a start position where `recmatch` fails with one value of the cut counter has no successful
    run with any value -/
theorem recmatch_fail_any (cx : Ctx) {start cuts c : Nat} (h : recmatch cx start cuts = Res.fail c)
    (cuts' : Nat) : ∃ c', recmatch cx start cuts' = Res.fail c' := by
  rcases Nat.le_total cuts cuts' with hle | hle
  · obtain ⟨d, rfl⟩ : ∃ d, cuts' = cuts + d := ⟨cuts' - cuts, by omega⟩
    rw [recmatch_shift, h]; exact ⟨_, rfl⟩
  · obtain ⟨d, rfl⟩ : ∃ d, cuts = cuts' + d := ⟨cuts - cuts', by omega⟩
    rw [recmatch_shift] at h
    cases hr : recmatch cx start cuts' with
    | fail c' => exact ⟨_, rfl⟩
    | trap => rw [hr] at h; cases h
    | ok p m c' => rw [hr] at h; cases h

end Neatvi.Lemmas.C10
