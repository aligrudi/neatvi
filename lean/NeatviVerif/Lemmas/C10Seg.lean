import NeatviVerif.Model.RegexVM
/-!
# C10 lemmas: the VM one instruction at a time, and where emitted code stands

`At prog base c`: the code `c` stands in `prog` at address `base`; sub-segments and single
instructions are read off with `At.left`, `At.right`, `At.head`, `At.tail`.  `loop_eq` is the one
unfolding of the instruction loop.  The general repetition code is a lead fork (when zero copies
are allowed) in front of `repBody` (`emitRep_shape`).  `regcomp_some` and `regexec_found` say what
the two entry points return.
-/
namespace Neatvi.Lemmas.C10
open Neatvi Neatvi.Regex

/-- a matcher state: position in the subject and the group marks -/
abbrev St := Nat × Marks

/-- what `Inst.mark k` does to the marks at position `pos` -/
def setMk (ngrps : Nat) (m : Marks) (k pos : Nat) : Marks :=
  if k < ngrps then m.set k (pos : Int) else m

theorem get_mid {prog p q : List Inst} {x : Inst} (h : prog = p ++ [x] ++ q) :
    prog[p.length]? = some x := by
  subst h; simp

/-! ### code placement -/

/-- the code `c` stands in `prog` at address `base` -/
def At (prog : List Inst) (base : Nat) (c : List Inst) : Prop :=
  ∃ pre post, base = pre.length ∧ prog = pre ++ c ++ post

section at_
variable {prog c c1 c2 : List Inst} {base : Nat} {x : Inst}

theorem At.self (prog : List Inst) : At prog 0 prog :=
  ⟨[], [], rfl, (List.append_nil _).symm⟩

theorem At.left (h : At prog base (c1 ++ c2)) : At prog base c1 := by
  obtain ⟨pre, post, hb, hp⟩ := h
  exact ⟨pre, c2 ++ post, hb, by rw [hp]; simp only [List.append_assoc]⟩

theorem At.right (h : At prog base (c1 ++ c2)) : At prog (base + c1.length) c2 := by
  obtain ⟨pre, post, hb, hp⟩ := h
  exact ⟨pre ++ c1, post, by rw [hb, List.length_append], by rw [hp]; simp only [List.append_assoc]⟩

theorem At.head (h : At prog base (x :: c)) : prog[base]? = some x := by
  obtain ⟨pre, post, hb, hp⟩ := h
  rw [hb]
  exact get_mid (q := c ++ post) (by rw [hp]; simp only [List.append_assoc, List.cons_append, List.nil_append])

theorem At.tail (h : At prog base (x :: c)) : At prog (base + 1) c :=
  At.right (c1 := [x]) h

end at_

/-! ### the instruction loop -/
section unfold
variable (cx : Ctx)

theorem loop_eq (dep pc pos : Nat) (m : Marks) (cuts : Nat) :
    loop cx dep pc pos m cuts =
      match cx.prog[pc]? with
      | none => Res.trap
      | some (Inst.atom a) =>
        match atomMatch a cx.subj cx.flg pos with
        | AR.fail => Res.fail cuts
        | AR.trap => Res.trap
        | AR.ok pos' => loop cx dep (pc + 1) pos' m cuts
      | some (Inst.mark k) => loop cx dep (pc + 1) pos (setMk cx.ngrps m k pos) cuts
      | some (Inst.jump a) => if a > pc then loop cx dep a pos m cuts else Res.trap
      | some (Inst.fork a1 a2) =>
        match act cx dep a1 pos m cuts with
        | Res.ok p' m' c' => Res.ok p' m' c'
        | Res.trap => Res.trap
        | Res.fail c' => if a2 > pc then loop cx dep a2 pos m c' else Res.trap
      | some Inst.mtch => Res.ok pos m cuts := by
  rw [loop]
  split
  all_goals (rename_i h; simp only [h])
  all_goals rfl

theorem loop_atom {dep pc pos m cuts a} (h : cx.prog[pc]? = some (Inst.atom a)) :
    loop cx dep pc pos m cuts =
      match atomMatch a cx.subj cx.flg pos with
      | AR.fail => Res.fail cuts
      | AR.trap => Res.trap
      | AR.ok pos' => loop cx dep (pc + 1) pos' m cuts := by
  rw [loop_eq, h]

theorem loop_mark {dep pc pos m cuts k} (h : cx.prog[pc]? = some (Inst.mark k)) :
    loop cx dep pc pos m cuts = loop cx dep (pc + 1) pos (setMk cx.ngrps m k pos) cuts := by
  rw [loop_eq, h]

theorem loop_jump {dep pc pos m cuts a} (h : cx.prog[pc]? = some (Inst.jump a)) :
    loop cx dep pc pos m cuts = if a > pc then loop cx dep a pos m cuts else Res.trap := by
  rw [loop_eq, h]

theorem loop_fork {dep pc pos m cuts a1 a2} (h : cx.prog[pc]? = some (Inst.fork a1 a2)) :
    loop cx dep pc pos m cuts =
      match act cx dep a1 pos m cuts with
      | Res.ok p' m' c' => Res.ok p' m' c'
      | Res.trap => Res.trap
      | Res.fail c' => if a2 > pc then loop cx dep a2 pos m c' else Res.trap := by
  rw [loop_eq, h]

theorem loop_mtch {dep pc pos m cuts} (h : cx.prog[pc]? = some Inst.mtch) :
    loop cx dep pc pos m cuts = Res.ok pos m cuts := by
  rw [loop_eq, h]

theorem loop_none {dep pc pos m cuts} (h : cx.prog[pc]? = none) :
    loop cx dep pc pos m cuts = Res.trap := by
  rw [loop_eq, h]

theorem act_eq (dep pc pos : Nat) (m : Marks) (cuts : Nat) :
    act cx dep pc pos m cuts =
      if dep ≥ cx.nd then Res.fail (cuts + 1) else loop cx (dep + 1) pc pos m cuts := by
  rw [act]

theorem act_ok {dep pc pos m cuts p' m' c'} (h : act cx dep pc pos m cuts = Res.ok p' m' c') :
    dep < cx.nd ∧ loop cx (dep + 1) pc pos m cuts = Res.ok p' m' c' := by
  rw [act_eq] at h; split at h
  · cases h
  · exact ⟨by omega, h⟩

/-- induction along the measure of `loop`/`act`: to prove `P` of every call it is enough to prove it
    assuming `P` for all calls one level deeper and for all calls at the same level further on in the
    program -/
theorem loop_induction (P : Nat → Nat → Prop)
    (step : ∀ dep pc, (∀ pc', dep < cx.nd → P (dep + 1) pc') →
      (∀ pc', pc < pc' → pc < cx.prog.length → P dep pc') → P dep pc) :
    ∀ dep pc, P dep pc := by
  have inner : ∀ dep, (dep < cx.nd → ∀ pc', P (dep + 1) pc') →
      ∀ j pc, cx.prog.length - pc ≤ j → P dep pc := by
    intro dep hd j
    induction j with
    | zero =>
      intro pc hj
      exact step dep pc (fun pc' h => hd h pc') (fun pc' h h' => by omega)
    | succ j ih =>
      intro pc hj
      exact step dep pc (fun pc' h => hd h pc') (fun pc' h h' => ih pc' (by omega))
  have outer : ∀ k dep, cx.nd - dep ≤ k → ∀ pc, P dep pc := by
    intro k
    induction k with
    | zero => intro dep hk pc; exact inner dep (fun h => by omega) _ pc (Nat.le_refl _)
    | succ k ih =>
      intro dep hk pc
      exact inner dep (fun h => ih (dep + 1) (by omega)) _ pc (Nat.le_refl _)
  exact fun dep pc => outer _ dep (Nat.le_refl _) pc

end unfold

/-! ### code layout -/

theorem emitCopies_length {body : Nat → List Inst} {bl : Nat} (hl : ∀ b, (body b).length = bl) :
    ∀ k base, (emitCopies body bl k base).length = k * bl := by
  intro k
  induction k with
  | zero => intro base; simp [emitCopies]
  | succ k ih => intro base; simp [emitCopies, hl, ih, Nat.succ_mul]; omega

theorem emitOpts_length {body : Nat → List Inst} {bl : Nat} (hl : ∀ b, (body b).length = bl) (endA : Nat) :
    ∀ k base, (emitOpts body bl endA k base).length = k * (1 + bl) := by
  intro k
  induction k with
  | zero => intro base; simp [emitOpts]
  | succ k ih => intro base; simp [emitOpts, hl, ih, Nat.succ_mul]; omega

theorem emitCopies_snoc (body : Nat → List Inst) (bl : Nat) :
    ∀ k base, emitCopies body bl (k + 1) base = emitCopies body bl k base ++ body (base + k * bl) := by
  intro k
  induction k with
  | zero => intro base; simp [emitCopies]
  | succ k ih =>
    intro base
    rw [emitCopies, ih (base + bl), emitCopies, List.append_assoc]
    rw [show base + bl + k * bl = base + (k + 1) * bl by rw [Nat.succ_mul]; omega]

/-- the pieces of the general repetition wrapper -/
def repLead (mn : Int) (base endA : Nat) : List Inst := if mn == 0 then [Inst.fork (base + 1) endA] else []
def repStar (mx : Int) (last nxt : Nat) : List Inst := if mx < 0 then [Inst.fork last nxt] else []

theorem repLead_length (mn : Int) (base endA : Nat) :
    (repLead mn base endA).length = if mn = 0 then 1 else 0 := by
  unfold repLead; split <;> simp_all

theorem repStar_length (mx : Int) (a b : Nat) :
    (repStar mx a b).length = if mx < 0 then 1 else 0 := by
  unfold repStar; split <;> simp_all

theorem rep_test_false {mn mx a b : Int} (h : ¬(mn = a ∧ mx = b)) : (mn == a && mx == b) = false := by
  simp; omega

theorem repLen_general {bl : Nat} {mn mx : Int} (h00 : ¬(mn = 0 ∧ mx = 0)) (h11 : ¬(mn = 1 ∧ mx = 1)) :
    repLen bl mn mx = (if mn = 0 then 1 else 0) + (max 1 mn).toNat * bl + (if mx < 0 then 1 else 0)
      + (mx - max 1 mn).toNat * (1 + bl) := by
  unfold repLen
  simp only [rep_test_false h00, rep_test_false h11, Bool.false_eq_true, if_false, beq_iff_eq]

theorem emitRep_general (body : Nat → List Inst) {bl : Nat} {mn mx : Int} (base : Nat)
    (h00 : ¬(mn = 0 ∧ mx = 0)) (h11 : ¬(mn = 1 ∧ mx = 1)) :
    emitRep body bl mn mx base =
      repLead mn base (base + repLen bl mn mx) ++
      emitCopies body bl (max 1 mn).toNat (base + (repLead mn base (base + repLen bl mn mx)).length) ++
      repStar mx (base + (repLead mn base (base + repLen bl mn mx)).length + (max 1 mn).toNat * bl - bl)
        (base + (repLead mn base (base + repLen bl mn mx)).length + (max 1 mn).toNat * bl + 1) ++
      emitOpts body bl (base + repLen bl mn mx) (mx - max 1 mn).toNat
        (base + (repLead mn base (base + repLen bl mn mx)).length + (max 1 mn).toNat * bl +
          (repStar mx (base + (repLead mn base (base + repLen bl mn mx)).length + (max 1 mn).toNat * bl - bl)
            (base + (repLead mn base (base + repLen bl mn mx)).length + (max 1 mn).toNat * bl + 1)).length) := by
  unfold emitRep repLead repStar
  simp only [rep_test_false h00, rep_test_false h11]
  rfl

/-- the code of a general repetition after its lead fork: `c` mandatory copies from `b1`, then the
    closing fork of an unbounded repetition, or `n` optional copies that skip to `e` -/
def repBody (body : Nat → List Inst) (bl : Nat) (mx : Int) (c n e b1 : Nat) : List Inst :=
  emitCopies body bl c b1 ++
    if mx < 0 then [Inst.fork (b1 + c * bl - bl) (b1 + c * bl + 1)] else emitOpts body bl e n (b1 + c * bl)

theorem emitRep_shape (body : Nat → List Inst) {bl : Nat} {mn mx : Int} (base : Nat)
    (h00 : ¬(mn = 0 ∧ mx = 0)) (h11 : ¬(mn = 1 ∧ mx = 1)) :
    emitRep body bl mn mx base =
      if mn = 0 then
        Inst.fork (base + 1) (base + repLen bl mn mx) ::
          repBody body bl mx (max 1 mn).toNat (mx - max 1 mn).toNat (base + repLen bl mn mx) (base + 1)
      else repBody body bl mx (max 1 mn).toNat (mx - max 1 mn).toNat (base + repLen bl mn mx) base := by
  rw [emitRep_general body base h00 h11]
  unfold repLead repStar repBody
  have hopt : mx < 0 → ∀ b, emitOpts body bl (base + repLen bl mn mx) (mx - max 1 mn).toNat b = [] := by
    intro hmx b
    rw [show (mx - max 1 mn).toNat = 0 by omega]
    rfl
  by_cases hmn : mn = 0
  · subst hmn
    by_cases hmx : mx < 0
    · simp [hmx, hopt hmx]
    · simp [hmx]
  · by_cases hmx : mx < 0
    · simp [hmn, hmx, hopt hmx]
    · simp [hmn, hmx]

theorem emitRep_length {body : Nat → List Inst} {bl : Nat} (hl : ∀ b, (body b).length = bl)
    (mn mx : Int) (base : Nat) : (emitRep body bl mn mx base).length = repLen bl mn mx := by
  by_cases h00 : mn = 0 ∧ mx = 0
  · obtain ⟨rfl, rfl⟩ := h00
    rfl
  · by_cases h11 : mn = 1 ∧ mx = 1
    · obtain ⟨rfl, rfl⟩ := h11
      exact hl base
    · rw [emitRep_general body base h00 h11, repLen_general h00 h11]
      simp only [List.length_append, emitCopies_length hl, emitOpts_length hl, repLead_length, repStar_length]

theorem emit_length (t : RNode) : ∀ base, (emit t base).length = emitLen t := by
  induction t with
  | nul => intro base; simp [emit, emitLen]
  | atom a mn mx => intro base; simp only [emit, emitLen]; exact emitRep_length (by simp) mn mx base
  | cat a b iha ihb => intro base; simp [emit, emitLen, iha, ihb]
  | alt a b iha ihb => intro base; simp [emit, emitLen, iha, ihb]; omega
  | grp a g mn mx iha =>
    intro base; simp only [emit, emitLen]
    exact emitRep_length (by intro b; simp [iha]) mn mx base

/-! ### what `regcomp` and `regexec` return -/

theorem regcomp_some {pat : Bytes} {flg : Nat} {prog : Prog} (hc : regcomp pat flg = some (some prog)) :
    ∃ t0, parse pat = some (some t0) ∧ ¬ countSat t0 + 3 > (Gen.NCODE : Int) ∧
      prog = { code := [Inst.mark 0] ++ emit (grpnum t0 1).1 1 ++ [Inst.mark 1, Inst.mtch],
               alloc := countSat t0 + 3, flg := flg } := by
  unfold regcomp at hc
  cases hp : parse pat with
  | none => rw [hp] at hc; cases hc
  | some o =>
    rw [hp] at hc
    cases o with
    | none => cases hc
    | some t0 =>
      by_cases hn : countSat t0 + 3 > (Gen.NCODE : Int)
      · simp only [if_pos hn] at hc; cases hc
      · simp only [if_neg hn] at hc
        cases hc
        exact ⟨t0, rfl, hn, rfl⟩

theorem regexec_found {p : Prog} {subj : Bytes} {nsub eflg nd ngrps : Nat} {m : Marks} {c : Nat}
    {subs : List (Int × Int)} (hr : regexec p subj nsub eflg nd ngrps = (ExecRes.found m c, subs)) :
    subj.isEmpty = false ∧
    execLoop ⟨p.code, subj, p.flg ||| eflg, nd, ngrps⟩ (subj.length + 2) 0 0 = ExecRes.found m c ∧
    subs = (List.range nsub).map (fun i =>
      if i * 2 < 2 * ngrps then (m.getD (i * 2) (-1), m.getD (i * 2 + 1) (-1)) else (-1, -1)) := by
  unfold regexec at hr
  by_cases he : subj.isEmpty
  · simp only [if_pos he] at hr; cases hr
  · simp only [if_neg he] at hr
    cases hx : execLoop ⟨p.code, subj, p.flg ||| eflg, nd, ngrps⟩ (subj.length + 2) 0 0 with
    | found m' c' => rw [hx] at hr; cases hr; exact ⟨by simpa using he, rfl, rfl⟩
    | _ => rw [hx] at hr; cases hr

end Neatvi.Lemmas.C10

/-! ### the marks the code of a tree writes (`Props.C11.mem_emit`), and where `grpnum` puts them -/
namespace Neatvi.Props.C10
open Neatvi Neatvi.Regex

/-- the indices of the marks the code of a tree can write -/
def markIdx : RNode → List Nat
  | .nul => []
  | .atom _ _ _ => []
  | .cat a b => markIdx a ++ markIdx b
  | .alt a b => markIdx a ++ markIdx b
  | .grp a g _ _ => (2 * g) :: (2 * g + 1) :: markIdx a

theorem markIdx_grpnum (t : RNode) : ∀ n i, i ∈ markIdx (grpnum t n).1 →
    2 * n ≤ i ∧ i < 2 * (n + (grpnum t n).2) := by
  induction t with
  | nul => intro n i h; simp [grpnum, markIdx] at h
  | atom a mn mx => intro n i h; simp [grpnum, markIdx] at h
  | cat a b iha ihb =>
    intro n i h
    simp only [grpnum, markIdx, List.mem_append] at h ⊢
    rcases h with h | h
    · have := iha n i h; omega
    · have := ihb _ i h; omega
  | alt a b iha ihb =>
    intro n i h
    simp only [grpnum, markIdx, List.mem_append] at h ⊢
    rcases h with h | h
    · have := iha n i h; omega
    · have := ihb _ i h; omega
  | grp a g mn mx iha =>
    intro n i h
    simp only [grpnum, markIdx, List.mem_cons] at h ⊢
    rcases h with h | h | h
    · omega
    · omega
    · have := iha _ i h; omega

end Neatvi.Props.C10
