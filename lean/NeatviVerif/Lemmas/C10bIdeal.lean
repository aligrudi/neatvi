import NeatviVerif.Spec.RegexSem
import NeatviVerif.Lemmas.C10Bt
/-!
# C10b lemmas, part 1: three-valued outcomes, `firstSome`, and the idealised backtracker `btJ`

`O3` is the outcome of a search without counters: `fail`, `ok r`, or `bad` (the search went into a
depth cut; everything after a cut is excluded from the completeness/priority claims).
`firstSome l k` runs the continuation `k` over the list `l` in order and stops at the first outcome
that is not `fail`.

`btJ env N t` is the backtracker `bt` with the depth and the cut counter forgotten: it has the
structure of `bt`, the marks are set as in `RegexSem.results`, atoms that trap simply fail, and the
closing fork of an unbounded repetition has a budget of `N` iterations, after which the outcome is
`bad`.
-/
namespace Neatvi.Lemmas.C10b
open Neatvi Neatvi.Regex Neatvi.Spec.RegexSem

inductive O3 where
  | fail | bad | ok (r : R)
deriving DecidableEq, Repr

/-- sequential "or": the second search runs only when the first one failed -/
def O3.seq : O3 → O3 → O3
  | .fail, b => b
  | .bad, _ => .bad
  | .ok r, _ => .ok r

/-- first outcome of `k` over `l`, in order, that is not `fail` -/
def firstSome : List R → (R → O3) → O3
  | [], _ => .fail
  | r :: rest, k => (k r).seq (firstSome rest k)

@[simp] theorem seq_fail_left (b : O3) : O3.fail.seq b = b := rfl
@[simp] theorem seq_bad_left (b : O3) : O3.bad.seq b = O3.bad := rfl
@[simp] theorem seq_ok_left (r : R) (b : O3) : (O3.ok r).seq b = O3.ok r := rfl
@[simp] theorem seq_fail_right (a : O3) : a.seq O3.fail = a := by cases a <;> rfl

theorem seq_assoc (a b c : O3) : (a.seq b).seq c = a.seq (b.seq c) := by cases a <;> rfl

@[simp] theorem firstSome_nil (k : R → O3) : firstSome [] k = O3.fail := rfl
@[simp] theorem firstSome_cons (r : R) (l : List R) (k : R → O3) :
    firstSome (r :: l) k = (k r).seq (firstSome l k) := rfl

theorem firstSome_append (l1 l2 : List R) (k : R → O3) :
    firstSome (l1 ++ l2) k = (firstSome l1 k).seq (firstSome l2 k) := by
  induction l1 with
  | nil => rfl
  | cons r l ih => simp only [List.cons_append, firstSome_cons, ih, seq_assoc]

theorem firstSome_single (r : R) (k : R → O3) : firstSome [r] k = k r := by simp

theorem firstSome_bind (l : List R) (f : R → List R) (k : R → O3) :
    firstSome (bindR l f) k = firstSome l (fun r => firstSome (f r) k) := by
  unfold bindR
  induction l with
  | nil => rfl
  | cons r l ih => simp only [List.flatMap_cons, firstSome_append, firstSome_cons, ih]

theorem firstSome_map (l : List R) (g : R → R) (k : R → O3) :
    firstSome (l.map g) k = firstSome l (fun r => k (g r)) := by
  induction l with
  | nil => rfl
  | cons r l ih => simp only [List.map_cons, firstSome_cons, ih]

theorem firstSome_congr {l : List R} {k1 k2 : R → O3} (h : ∀ r ∈ l, k1 r = k2 r) :
    firstSome l k1 = firstSome l k2 := by
  induction l with
  | nil => rfl
  | cons r l ih =>
    simp only [firstSome_cons]
    rw [h r (List.mem_cons_self), ih (fun x hx => h x (List.mem_cons_of_mem _ hx))]

/-! ### refinement (`bad` below everything) and shape equivalence -/

/-- `a` is `bad` or equal to `b` -/
def Le (a b : O3) : Prop := a = O3.bad ∨ a = b

theorem Le.refl (a : O3) : Le a a := Or.inr rfl
theorem Le.bad (b : O3) : Le O3.bad b := Or.inl rfl

theorem Le.seq {a b c d : O3} (h1 : Le a b) (h2 : Le c d) : Le (a.seq c) (b.seq d) := by
  rcases h1 with h1 | h1
  · subst h1; exact Le.bad _
  · subst h1
    cases a with
    | fail => exact h2
    | bad => exact Le.bad _
    | ok r => exact Le.refl _

theorem Le.trans {a b c : O3} (h1 : Le a b) (h2 : Le b c) : Le a c := by
  rcases h1 with h1 | h1
  · exact Or.inl h1
  · subst h1; exact h2

theorem Le.eq_of_ne {a b : O3} (h : Le a b) (hn : a ≠ O3.bad) : a = b := by
  rcases h with h | h
  · exact absurd h hn
  · exact h

/-- pointwise refinement of continuations -/
def LeK (k1 k2 : R → O3) : Prop := ∀ s, Le (k1 s) (k2 s)

theorem firstSome_le {l : List R} {k1 k2 : R → O3} (h : ∀ r ∈ l, Le (k1 r) (k2 r)) :
    Le (firstSome l k1) (firstSome l k2) := by
  induction l with
  | nil => exact Le.refl _
  | cons r l ih =>
    simp only [firstSome_cons]
    exact Le.seq (h r (List.mem_cons_self)) (ih (fun x hx => h x (List.mem_cons_of_mem _ hx)))

/-- same constructor (the payload of `ok` is ignored) -/
def Sh : O3 → O3 → Prop
  | .fail, .fail => True
  | .bad, .bad => True
  | .ok _, .ok _ => True
  | _, _ => False

theorem Sh.refl (a : O3) : Sh a a := by cases a <;> trivial

theorem Sh.seq {a b c d : O3} (h1 : Sh a b) (h2 : Sh c d) : Sh (a.seq c) (b.seq d) := by
  cases a <;> cases b <;> first | exact h2 | trivial | exact h1.elim

theorem Sh.bad_iff {a b : O3} (h : Sh a b) : a = O3.bad ↔ b = O3.bad := by
  cases a <;> cases b <;> simp_all [Sh]

/-- continuations whose outcome constructor depends only on the position -/
def ShK (k k' : R → O3) : Prop := ∀ s s' : R, s.1 = s'.1 → Sh (k s) (k' s')

/-! ### the idealised backtracker -/

abbrev KJ := R → O3
abbrev BodyJ := R → KJ → O3

def copiesJ (body : BodyJ) : Nat → BodyJ
  | 0 => fun r k => k r
  | n + 1 => fun r k => body r (fun r' => copiesJ body n r' k)

def optsJ (body : BodyJ) : Nat → BodyJ
  | 0 => fun r k => k r
  | n + 1 => fun r k => (body r (fun r' => optsJ body n r' k)).seq (k r)

/-- the closing fork of an unbounded repetition with a budget of iterations -/
def starJ (body : BodyJ) (k : KJ) : Nat → KJ
  | 0 => fun _ => O3.bad
  | f + 1 => fun r => (body r (starJ body k f)).seq (k r)

def repJ (N : Nat) (body : BodyJ) (mn mx : Int) : BodyJ := fun r k =>
  if mn == 0 && mx == 0 then k r
  else if mn == 1 && mx == 1 then body r k
  else
    let tail : KJ := fun r' =>
      if mx < 0 then starJ body k N r' else optsJ body (mx - max 1 mn).toNat r' k
    let main : O3 := copiesJ body (max 1 mn).toNat r tail
    if mn == 0 then main.seq (k r) else main

def atomJ (env : Env) (a : Atom) : BodyJ := fun r k =>
  match atomMatch a env.subj env.flg r.1 with
  | AR.ok j => k (j, r.2)
  | _ => O3.fail

def grpJ (inner : BodyJ) (g : Nat) : BodyJ := fun r k =>
  inner (r.1, setMark r.2 (2 * g) r.1) (fun r' => k (r'.1, setMark r'.2 (2 * g + 1) r'.1))

def btJ (env : Env) (N : Nat) : RNode → BodyJ
  | .nul => fun r k => k r
  | .atom a mn mx => repJ N (atomJ env a) mn mx
  | .cat a b => fun r k => btJ env N a r (fun r' => btJ env N b r' k)
  | .alt a b => fun r k => (btJ env N a r k).seq (btJ env N b r k)
  | .grp a g mn mx => repJ N (grpJ (btJ env N a) g) mn mx

/-- what follows the mandatory copies -/
def tailJ (N : Nat) (body : BodyJ) (mx : Int) (n : Nat) (k : KJ) : KJ := fun r =>
  if mx < 0 then starJ body k N r else optsJ body n r k

theorem repJ_zero (N : Nat) (body : BodyJ) (r : R) (k : KJ) : repJ N body 0 0 r k = k r := rfl

theorem repJ_one (N : Nat) (body : BodyJ) (r : R) (k : KJ) : repJ N body 1 1 r k = body r k := rfl

theorem repJ_general {N : Nat} {body : BodyJ} {mn mx : Int} (h00 : ¬(mn = 0 ∧ mx = 0))
    (h11 : ¬(mn = 1 ∧ mx = 1)) (r : R) (k : KJ) :
    repJ N body mn mx r k =
      if mn = 0 then
        (copiesJ body (max 1 mn).toNat r (tailJ N body mx (mx - max 1 mn).toNat k)).seq (k r)
      else copiesJ body (max 1 mn).toNat r (tailJ N body mx (mx - max 1 mn).toNat k) := by
  unfold repJ
  simp only [C10.rep_test_false h00, C10.rep_test_false h11, Bool.false_eq_true, if_false, beq_iff_eq]
  rfl

/-! ### searches related step by step

Two searches started in `Pos`-related states with `Rel`-related continuations end in `Rel`-related
outcomes, for every `Rel` compatible with `O3.seq` and every `Pos` that atoms and marks keep.  With
`Sh` and "same position" this is blindness: the constructor of the outcome does not depend on the
marks.  With `Le` and equality it is monotonicity: a continuation that goes `bad` more often makes
the search go `bad` more often. -/

structure OutRel (Pos : R → R → Prop) (Rel : O3 → O3 → Prop) : Prop where
  seq : ∀ {a b c d : O3}, Rel a b → Rel c d → Rel (a.seq c) (b.seq d)
  bad : Rel O3.bad O3.bad
  fail : Rel O3.fail O3.fail
  fst : ∀ {r r' : R}, Pos r r' → r.1 = r'.1
  move : ∀ {r r' : R} (j : Nat), Pos r r' → Pos (j, r.2) (j, r'.2)
  mark : ∀ {r r' : R} (k : Nat), Pos r r' → Pos (r.1, setMark r.2 k r.1) (r'.1, setMark r'.2 k r'.1)

def RelK (Pos : R → R → Prop) (Rel : O3 → O3 → Prop) (k k' : KJ) : Prop :=
  ∀ s s' : R, Pos s s' → Rel (k s) (k' s')

def RelB (Pos : R → R → Prop) (Rel : O3 → O3 → Prop) (B : BodyJ) : Prop :=
  ∀ (r r' : R) (k k' : KJ), Pos r r' → RelK Pos Rel k k' → Rel (B r k) (B r' k')

section rel
variable {Pos : R → R → Prop} {Rel : O3 → O3 → Prop} (ho : OutRel Pos Rel) {B : BodyJ}
include ho

omit ho in
theorem copiesJ_rel (hB : RelB Pos Rel B) : ∀ n, RelB Pos Rel (copiesJ B n) := by
  intro n
  induction n with
  | zero => intro r r' k k' h hk; exact hk r r' h
  | succ n ih =>
    intro r r' k k' h hk
    simp only [copiesJ]
    exact hB r r' _ _ h (fun s s' hs => ih s s' k k' hs hk)

theorem optsJ_rel (hB : RelB Pos Rel B) : ∀ n, RelB Pos Rel (optsJ B n) := by
  intro n
  induction n with
  | zero => intro r r' k k' h hk; exact hk r r' h
  | succ n ih =>
    intro r r' k k' h hk
    simp only [optsJ]
    exact ho.seq (hB r r' _ _ h (fun s s' hs => ih s s' k k' hs hk)) (hk r r' h)

theorem starJ_rel (hB : RelB Pos Rel B) {k k' : KJ} (hk : RelK Pos Rel k k') :
    ∀ f, RelK Pos Rel (starJ B k f) (starJ B k' f) := by
  intro f
  induction f with
  | zero => intro s s' _; exact ho.bad
  | succ f ih =>
    intro s s' h
    simp only [starJ]
    exact ho.seq (hB s s' _ _ h ih) (hk s s' h)

theorem tailJ_rel (hB : RelB Pos Rel B) (N : Nat) (mx : Int) (n : Nat) {k k' : KJ}
    (hk : RelK Pos Rel k k') : RelK Pos Rel (tailJ N B mx n k) (tailJ N B mx n k') := by
  intro s s' hs
  unfold tailJ
  split
  · exact starJ_rel ho hB hk N s s' hs
  · exact optsJ_rel ho hB _ s s' k k' hs hk

theorem repJ_rel (hB : RelB Pos Rel B) (N : Nat) (mn mx : Int) : RelB Pos Rel (repJ N B mn mx) := by
  intro r r' k k' h hk
  by_cases h00 : mn = 0 ∧ mx = 0
  · obtain ⟨rfl, rfl⟩ := h00
    rw [repJ_zero, repJ_zero]
    exact hk r r' h
  by_cases h11 : mn = 1 ∧ mx = 1
  · obtain ⟨rfl, rfl⟩ := h11
    rw [repJ_one, repJ_one]
    exact hB r r' k k' h hk
  rw [repJ_general h00 h11, repJ_general h00 h11]
  have main := copiesJ_rel hB (max 1 mn).toNat r r' _ _ h
    (tailJ_rel ho hB N mx (mx - max 1 mn).toNat hk)
  split
  · exact ho.seq main (hk r r' h)
  · exact main

theorem atomJ_rel (env : Env) (a : Atom) : RelB Pos Rel (atomJ env a) := by
  intro r r' k k' h hk
  unfold atomJ
  rw [← ho.fst h]
  split
  · exact hk _ _ (ho.move _ h)
  · exact ho.fail

theorem grpJ_rel {inner : BodyJ} (hi : RelB Pos Rel inner) (g : Nat) : RelB Pos Rel (grpJ inner g) := by
  intro r r' k k' h hk
  unfold grpJ
  exact hi _ _ _ _ (ho.mark _ h) (fun s s' hs => hk _ _ (ho.mark _ hs))

theorem btJ_rel (env : Env) (N : Nat) (t : RNode) : RelB Pos Rel (btJ env N t) := by
  induction t with
  | nul => intro r r' k k' h hk; exact hk r r' h
  | atom a mn mx => simp only [btJ]; exact repJ_rel ho (atomJ_rel ho env a) N mn mx
  | cat a b iha ihb =>
    intro r r' k k' h hk
    simp only [btJ]
    exact iha r r' _ _ h (fun s s' hs => ihb s s' k k' hs hk)
  | alt a b iha ihb =>
    intro r r' k k' h hk
    simp only [btJ]
    exact ho.seq (iha r r' k k' h hk) (ihb r r' k k' h hk)
  | grp a g mn mx iha => simp only [btJ]; exact repJ_rel ho (grpJ_rel ho iha g) N mn mx

end rel

/-- blindness: the outcome constructor depends on the position only -/
abbrev BlindB (B : BodyJ) : Prop := RelB (fun r r' => r.1 = r'.1) Sh B

theorem shRel : OutRel (fun r r' => r.1 = r'.1) Sh :=
  ⟨Sh.seq, trivial, trivial, fun h => h, fun _ _ => rfl, fun _ h => h⟩

/-- monotonicity in the continuation, from the same state -/
abbrev MonoB (B : BodyJ) : Prop := RelB Eq Le B

theorem leRel : OutRel Eq Le :=
  ⟨Le.seq, Le.refl _, Le.refl _, fun h => h ▸ rfl, fun _ h => h ▸ rfl, fun _ h => h ▸ rfl⟩

theorem relK_of_leK {k1 k2 : KJ} (h : LeK k1 k2) : RelK Eq Le k1 k2 :=
  fun s _ e => e ▸ h s

theorem atomJ_blind (env : Env) (a : Atom) : BlindB (atomJ env a) := atomJ_rel shRel env a
theorem atomJ_mono (env : Env) (a : Atom) : MonoB (atomJ env a) := atomJ_rel leRel env a
theorem btJ_blind (env : Env) (N : Nat) (t : RNode) : BlindB (btJ env N t) := btJ_rel shRel env N t
theorem btJ_mono (env : Env) (N : Nat) (t : RNode) : MonoB (btJ env N t) := btJ_rel leRel env N t
theorem copiesJ_blind {B : BodyJ} (hB : BlindB B) : ∀ n, BlindB (copiesJ B n) := copiesJ_rel hB
theorem grpJ_blind {inner : BodyJ} (hi : BlindB inner) (g : Nat) : BlindB (grpJ inner g) := grpJ_rel shRel hi g
theorem grpJ_mono {inner : BodyJ} (hi : MonoB inner) (g : Nat) : MonoB (grpJ inner g) := grpJ_rel leRel hi g
theorem optsJ_blind {B : BodyJ} (hB : BlindB B) : ∀ n, BlindB (optsJ B n) := optsJ_rel shRel hB
theorem starJ_blind {B : BodyJ} (hB : BlindB B) {k k' : KJ} (hk : ShK k k') :
    ∀ f, ShK (starJ B k f) (starJ B k' f) := starJ_rel shRel hB hk

/-- a smaller budget only turns outcomes into `bad` -/
theorem starJ_fuel_mono {B : BodyJ} (hB : MonoB B) (k : KJ) :
    ∀ f, LeK (starJ B k f) (starJ B k (f + 1)) := by
  intro f
  induction f with
  | zero => intro s; exact Le.bad _
  | succ f ih =>
    intro s
    rw [starJ, starJ]
    exact Le.seq (hB s s _ _ rfl (relK_of_leK ih)) (Le.refl _)

end Neatvi.Lemmas.C10b
