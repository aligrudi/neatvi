import NeatviVerif.Lemmas.C10bIdeal
import NeatviVerif.Lemmas.C11Atom
/-!
# C10b lemmas, part 3: the idealised backtracker refines the ordered reference `RegexSem.results`

`btJ env N t r k ⊑ firstSome (results env t r) k`: whenever the idealised search does not run out of
its iteration budget (`bad`), its outcome is the first success of `k` over the reference list.

The one place where the two differ is an iteration of an unbounded repetition that consumes nothing:
the reference ends the repetition there, the engine iterates again.  `descent` shows that a search
that reaches such an iteration necessarily exhausts every budget — the same iteration is reached
again one level deeper, because what the engine does depends only on the position, not on the marks.
-/
namespace Neatvi.Lemmas.C10b
open Neatvi Neatvi.Regex Neatvi.Spec.RegexSem

/-! ### positions stay inside the subject -/

theorem rxLen_le (s : Bytes) (i : Nat) : rxLen s i ≤ s.length - i := Nat.min_le_right _ _

/-- `r'` is not before `r` and not beyond the end of the subject (or where `r` already was) -/
def PosOk (len : Nat) (r r' : R) : Prop := r.1 ≤ r'.1 ∧ r'.1 ≤ max r.1 len

theorem PosOk.refl (len : Nat) (r : R) : PosOk len r r := ⟨Nat.le_refl _, Nat.le_max_left _ _⟩

theorem PosOk.trans {len : Nat} {r s r' : R} (h1 : PosOk len r s) (h2 : PosOk len s r') : PosOk len r r' := by
  unfold PosOk at *
  omega

def Bounded (len : Nat) (L : R → List R) : Prop := ∀ r r', r' ∈ L r → PosOk len r r'

theorem bindR_bounded {len : Nat} {L1 L2 : R → List R} (h1 : Bounded len L1) (h2 : Bounded len L2) :
    Bounded len (fun r => bindR (L1 r) L2) := by
  intro r r' h
  simp only [bindR, List.mem_flatMap] at h
  obtain ⟨s, hs, hr⟩ := h
  exact (h1 r s hs).trans (h2 s r' hr)

theorem copies_bounded {len : Nat} {L : R → List R} (h : Bounded len L) : ∀ n, Bounded len (copies L n) := by
  intro n
  induction n with
  | zero => intro r r' hr; simp [copies] at hr; subst hr; exact PosOk.refl _ _
  | succ n ih => exact bindR_bounded h ih

theorem optRes_bounded {len : Nat} {L : R → List R} (h : Bounded len L) : ∀ n, Bounded len (optRes L n) := by
  intro n
  induction n with
  | zero => intro r r' hr; simp [optRes] at hr; subst hr; exact PosOk.refl _ _
  | succ n ih =>
    intro r r' hr
    simp only [optRes, List.mem_append, List.mem_singleton] at hr
    rcases hr with hr | hr
    · exact bindR_bounded h ih r r' hr
    · subst hr; exact PosOk.refl _ _

theorem starRes_bounded {len : Nat} {L : R → List R} (h : Bounded len L) : ∀ f, Bounded len (starRes L f) := by
  intro f
  induction f with
  | zero => intro r r' hr; simp [starRes] at hr; subst hr; exact PosOk.refl _ _
  | succ f ih =>
    intro r r' hr
    simp only [starRes, List.mem_append, List.mem_singleton] at hr
    rcases hr with hr | hr
    · simp only [bindR, List.mem_flatMap] at hr
      obtain ⟨s, hs, hr⟩ := hr
      split at hr
      · simp at hr; rw [hr]; exact h r s hs
      · exact (h r s hs).trans (ih s r' hr)
    · subst hr; exact PosOk.refl _ _

theorem repRes_zero (env : Env) (L : R → List R) (r : R) : repRes env L 0 0 r = [r] := rfl

theorem repRes_one (env : Env) (L : R → List R) (r : R) : repRes env L 1 1 r = L r := rfl

theorem repRes_general (env : Env) (L : R → List R) {mn mx : Int} (h00 : ¬(mn = 0 ∧ mx = 0))
    (h11 : ¬(mn = 1 ∧ mx = 1)) (r : R) :
    repRes env L mn mx r =
      if mn = 0 then
        bindR (copies L (max 1 mn).toNat r)
          (if mx < 0 then starRes L (env.subj.length + 2) else optRes L (mx - max 1 mn).toNat) ++ [r]
      else bindR (copies L (max 1 mn).toNat r)
          (if mx < 0 then starRes L (env.subj.length + 2) else optRes L (mx - max 1 mn).toNat) := by
  unfold repRes
  simp only [C10.rep_test_false h00, C10.rep_test_false h11, Bool.false_eq_true, if_false, beq_iff_eq]

theorem repRes_bounded {len : Nat} (env : Env) {L : R → List R} (h : Bounded len L) (mn mx : Int) :
    Bounded len (repRes env L mn mx) := by
  intro r r' hr
  by_cases h00 : mn = 0 ∧ mx = 0
  · obtain ⟨rfl, rfl⟩ := h00
    rw [repRes_zero, List.mem_singleton] at hr
    subst hr; exact PosOk.refl _ _
  by_cases h11 : mn = 1 ∧ mx = 1
  · obtain ⟨rfl, rfl⟩ := h11
    rw [repRes_one] at hr
    exact h r r' hr
  rw [repRes_general env L h00 h11] at hr
  have hafter : Bounded len
      (if mx < 0 then starRes L (env.subj.length + 2) else optRes L (mx - max 1 mn).toNat) := by
    split
    · exact starRes_bounded h _
    · exact optRes_bounded h _
  have main := bindR_bounded (copies_bounded h (max 1 mn).toNat) hafter
  split at hr
  · rw [List.mem_append, List.mem_singleton] at hr
    rcases hr with hr | hr
    · exact main r r' hr
    · subst hr; exact PosOk.refl _ _
  · exact main r r' hr

/-- the reference list of one copy of an atom -/
def atomL (env : Env) (a : Atom) : R → List R := fun r =>
  match atomMatch a env.subj env.flg r.1 with
  | AR.ok j => [(j, r.2)]
  | _ => []

/-- the reference list of one copy of a group -/
def grpL (inner : R → List R) (k : Nat) : R → List R := fun r =>
  (inner (r.1, setMark r.2 (2 * k) r.1)).map (fun r' => (r'.1, setMark r'.2 (2 * k + 1) r'.1))

theorem results_atom (env : Env) (a : Atom) (mn mx : Int) (r : R) :
    results env (.atom a mn mx) r = repRes env (atomL env a) mn mx r := rfl

theorem results_grp (env : Env) (a : RNode) (k : Nat) (mn mx : Int) (r : R) :
    results env (.grp a k mn mx) r = repRes env (grpL (results env a) k) mn mx r := rfl

theorem atomL_bounded (env : Env) (a : Atom) : Bounded env.subj.length (atomL env a) := by
  intro r r' hr
  unfold atomL at hr
  split at hr
  · rename_i j hm
    simp at hr; subst hr
    have h1 := (Neatvi.Props.C11.atomMatch_advance hm).1
    have h2 := (Neatvi.Props.C11.atomMatch_advance hm).2
    exact ⟨h1, by show j ≤ max r.1 env.subj.length; omega⟩
  · simp at hr

theorem grpL_bounded {len : Nat} {inner : R → List R} (h : Bounded len inner) (k : Nat) :
    Bounded len (grpL inner k) := by
  intro r r' hr
  simp only [grpL, List.mem_map] at hr
  obtain ⟨s, hs, hr⟩ := hr
  subst hr
  have := h _ s hs
  exact ⟨this.1, this.2⟩

theorem results_bounded (env : Env) (t : RNode) : Bounded env.subj.length (results env t) := by
  induction t with
  | nul => intro r r' hr; simp [results] at hr; subst hr; exact PosOk.refl _ _
  | atom a mn mx =>
    intro r r' hr
    rw [results_atom] at hr
    exact repRes_bounded env (atomL_bounded env a) mn mx r r' hr
  | cat a b iha ihb =>
    intro r r' hr
    simp only [results] at hr
    exact bindR_bounded iha ihb r r' hr
  | alt a b iha ihb =>
    intro r r' hr
    simp only [results, List.mem_append] at hr
    rcases hr with hr | hr
    · exact iha r r' hr
    · exact ihb r r' hr
  | grp a k mn mx iha =>
    intro r r' hr
    rw [results_grp] at hr
    exact repRes_bounded env (grpL_bounded iha k) mn mx r r' hr

/-! ### refinement of a body by a reference list -/

/-- for marks-blind continuations, the body `BJ` refines "first success over `L r`" -/
def RefB (BJ : BodyJ) (L : R → List R) : Prop :=
  ∀ (r : R) (k1 k2 : KJ), ShK k1 k1 → LeK k1 k2 → Le (BJ r k1) (firstSome (L r) k2)

theorem firstSome_pre_bad {k : KJ} {r' : R} (hr : k r' = O3.bad) (post : List R) :
    ∀ pre : List R, (∀ x ∈ pre, k x = O3.fail ∨ k x = O3.bad) →
      firstSome (pre ++ r' :: post) k = O3.bad := by
  intro pre
  induction pre with
  | nil => intro _; simp [hr]
  | cons x pre ih =>
    intro h
    simp only [List.cons_append, firstSome_cons]
    rcases h x (List.mem_cons_self) with hx | hx
    · rw [hx, seq_fail_left]; exact ih (fun y hy => h y (List.mem_cons_of_mem _ hy))
    · rw [hx]; rfl

section star
variable {BJ : BodyJ} {L : R → List R} {len : Nat}

theorem ref_copies (hRef : RefB BJ L) (hBlind : BlindB BJ) : ∀ n, RefB (copiesJ BJ n) (copies L n) := by
  intro n
  induction n with
  | zero => intro r k1 k2 _ hk; simp only [copiesJ, copies, firstSome_single]; exact hk r
  | succ n ih =>
    intro r k1 k2 hb hk
    simp only [copiesJ, copies, firstSome_bind]
    exact hRef r _ _ (fun s s' hs => copiesJ_rel hBlind n s s' k1 k1 hs hb) (fun s => ih s k1 k2 hb hk)

theorem ref_opts (hRef : RefB BJ L) (hBlind : BlindB BJ) : ∀ n, RefB (optsJ BJ n) (optRes L n) := by
  intro n
  induction n with
  | zero => intro r k1 k2 _ hk; simp only [optsJ, optRes, firstSome_single]; exact hk r
  | succ n ih =>
    intro r k1 k2 hb hk
    simp only [optsJ, optRes, firstSome_append, firstSome_bind, firstSome_single]
    exact Le.seq
      (hRef r _ _ (fun s s' hs => optsJ_rel shRel hBlind n s s' k1 k1 hs hb) (fun s => ih s k1 k2 hb hk))
      (hk r)

/-- a search that reaches an iteration consuming nothing exhausts its budget: the elements of
    `L r` before the empty iteration `r'` all fail (or are `bad`), so `r'` is reached, and from `r'`
    the same happens one level deeper -/
theorem descent (hRef : RefB BJ L) (hBlind : BlindB BJ) (hMono : MonoB BJ) {k1 : KJ} (hk1 : ShK k1 k1) :
    ∀ f (r : R) (pre : List R) (r' : R) (post : List R), L r = pre ++ r' :: post → r'.1 = r.1 →
      (∀ x ∈ pre, starJ BJ k1 f x = O3.fail ∨ starJ BJ k1 f x = O3.bad) →
      firstSome (L r) (starJ BJ k1 f) = O3.bad := by
  intro f
  induction f with
  | zero =>
    intro r pre r' post hL _ hpre
    rw [hL]
    exact firstSome_pre_bad (by rfl) post pre hpre
  | succ f ih =>
    intro r pre r' post hL he hpre
    rw [hL]
    refine firstSome_pre_bad ?_ post pre hpre
    have hsh := starJ_rel shRel hBlind hk1 (f + 1) r' r he
    rw [hsh.bad_iff]
    have hpre' : ∀ x ∈ pre, starJ BJ k1 f x = O3.fail ∨ starJ BJ k1 f x = O3.bad := by
      intro x hx
      rcases starJ_fuel_mono hMono k1 f x with h | h
      · exact Or.inr h
      · rw [h]; exact hpre x hx
    have hbad : BJ r (starJ BJ k1 f) = O3.bad := by
      apply Classical.byContradiction
      intro hne
      have := (hRef r _ _ (starJ_rel shRel hBlind hk1 f) (fun s => Le.refl _)).eq_of_ne hne
      rw [this] at hne
      exact hne (ih r pre r' post hL he hpre')
    show (BJ r (starJ BJ k1 f)).seq (k1 r) = O3.bad
    rw [hbad]; rfl

theorem ref_star (hRef : RefB BJ L) (hBlind : BlindB BJ) (hMono : MonoB BJ) (hBnd : Bounded len L)
    {k1 k2 : KJ} (hk1 : ShK k1 k1) (hk : LeK k1 k2) :
    ∀ f F (r : R), 1 ≤ F → len + 1 ≤ F + r.1 →
      Le (starJ BJ k1 f r) (firstSome (starRes L F r) k2) := by
  intro f
  induction f with
  | zero => intro F r _ _; exact Le.bad _
  | succ f ihf =>
    intro F r hF1 hF
    obtain ⟨F', rfl⟩ : ∃ F', F = F' + 1 := ⟨F - 1, by omega⟩
    simp only [starJ, starRes, firstSome_append, firstSome_bind, firstSome_single]
    refine Le.seq ?_ (hk r)
    by_cases hX : BJ r (starJ BJ k1 f) = O3.bad
    · rw [hX]; exact Le.bad _
    have hXe := (hRef r _ _ (starJ_rel shRel hBlind hk1 f) (fun s => Le.refl _)).eq_of_ne hX
    rw [hXe] at hX ⊢
    have walk : ∀ (l pre : List R), L r = pre ++ l → (∀ x ∈ pre, starJ BJ k1 f x = O3.fail) →
        Le (firstSome l (starJ BJ k1 f))
          (firstSome l (fun r' => firstSome (if (r'.1 == r.1) = true then [r'] else starRes L F' r') k2)) := by
      intro l
      induction l with
      | nil => intro _ _ _; exact Le.refl _
      | cons r' rest ihl =>
        intro pre hL hpre
        simp only [firstSome_cons]
        by_cases he : r'.1 = r.1
        · exact absurd (descent hRef hBlind hMono hk1 f r pre r' rest hL he
            (fun x hx => Or.inl (hpre x hx))) hX
        · have hmem : r' ∈ L r := by rw [hL]; simp
          have hb := hBnd r r' hmem
          unfold PosOk at hb
          have hlt : r.1 < r'.1 := by omega
          have hih := ihf F' r' (by omega) (by omega)
          have hne : (r'.1 == r.1) = false := by simp [he]
          rw [hne]
          simp only [Bool.false_eq_true, if_false]
          cases hT : starJ BJ k1 f r' with
          | bad => exact Le.bad _
          | ok x =>
            rw [hT] at hih
            rw [← hih.eq_of_ne (by simp)]
            exact Le.refl _
          | fail =>
            rw [hT] at hih
            rw [← hih.eq_of_ne (by simp)]
            simp only [seq_fail_left]
            refine ihl (pre ++ [r']) (by simp [hL]) ?_
            intro x hx
            simp only [List.mem_append, List.mem_singleton] at hx
            rcases hx with hx | hx
            · exact hpre x hx
            · rw [hx]; exact hT
    exact walk (L r) [] rfl (fun x hx => by simp at hx)

theorem ref_tail (env : Env) (N : Nat) (hRef : RefB BJ L) (hBlind : BlindB BJ) (hMono : MonoB BJ)
    (hBnd : Bounded env.subj.length L) (mx : Int) (n : Nat) {k1 k2 : KJ} (hb : ShK k1 k1) (hk : LeK k1 k2) :
    LeK (tailJ N BJ mx n k1)
      (fun r' => firstSome ((if mx < 0 then starRes L (env.subj.length + 2) else optRes L n) r') k2) := by
  intro s
  unfold tailJ
  split
  · exact ref_star hRef hBlind hMono hBnd hb hk N _ s (by omega) (by omega)
  · exact ref_opts hRef hBlind _ s k1 k2 hb hk

theorem ref_rep (env : Env) (N : Nat) (hRef : RefB BJ L) (hBlind : BlindB BJ) (hMono : MonoB BJ)
    (hBnd : Bounded env.subj.length L) (mn mx : Int) :
    RefB (repJ N BJ mn mx) (repRes env L mn mx) := by
  intro r k1 k2 hb hk
  by_cases h00 : mn = 0 ∧ mx = 0
  · obtain ⟨rfl, rfl⟩ := h00
    rw [repJ_zero, repRes_zero, firstSome_single]
    exact hk r
  by_cases h11 : mn = 1 ∧ mx = 1
  · obtain ⟨rfl, rfl⟩ := h11
    rw [repJ_one, repRes_one]
    exact hRef r k1 k2 hb hk
  rw [repJ_general h00 h11, repRes_general env L h00 h11]
  have main := ref_copies hRef hBlind (max 1 mn).toNat r _ _
    (tailJ_rel shRel hBlind N mx (mx - max 1 mn).toNat hb)
    (ref_tail env N hRef hBlind hMono hBnd mx (mx - max 1 mn).toNat hb hk)
  split
  · rw [firstSome_append, firstSome_bind, firstSome_single]
    exact Le.seq main (hk r)
  · rw [firstSome_bind]
    exact main

end star

theorem ref_atom (env : Env) (a : Atom) : RefB (atomJ env a) (atomL env a) := by
  intro r k1 k2 _ hk
  cases h : atomMatch a env.subj env.flg r.1 with
  | ok j => simp only [atomJ, atomL, h, firstSome_single]; exact hk _
  | fail => simp only [atomJ, atomL, h, firstSome_nil]; exact Le.refl _
  | trap => simp only [atomJ, atomL, h, firstSome_nil]; exact Le.refl _

theorem ref_grp {inner : BodyJ} {Li : R → List R} (hi : RefB inner Li) (g : Nat) :
    RefB (grpJ inner g) (grpL Li g) := by
  intro r k1 k2 hb hk
  unfold grpJ grpL
  rw [firstSome_map]
  exact hi _ _ _ (fun s s' hs => hb _ _ hs) (fun s => hk _)

/-- the idealised backtracker refines the ordered reference -/
theorem btJ_ref (env : Env) (N : Nat) (t : RNode) : RefB (btJ env N t) (results env t) := by
  induction t with
  | nul => intro r k1 k2 _ hk; simp only [btJ, results, firstSome_single]; exact hk r
  | atom a mn mx =>
    intro r k1 k2 hb hk
    rw [results_atom]
    exact ref_rep env N (ref_atom env a) (atomJ_rel shRel env a) (atomJ_rel leRel env a) (atomL_bounded env a)
      mn mx r k1 k2 hb hk
  | cat a b iha ihb =>
    intro r k1 k2 hb hk
    simp only [btJ, results, firstSome_bind]
    exact iha r _ _ (fun s s' hs => btJ_rel shRel env N b s s' k1 k1 hs hb) (fun s => ihb s k1 k2 hb hk)
  | alt a b iha ihb =>
    intro r k1 k2 hb hk
    simp only [btJ, results, firstSome_append]
    exact Le.seq (iha r k1 k2 hb hk) (ihb r k1 k2 hb hk)
  | grp a g mn mx iha =>
    intro r k1 k2 hb hk
    rw [results_grp]
    exact ref_rep env N (ref_grp iha g) (grpJ_rel shRel (btJ_rel shRel env N a) g) (grpJ_rel leRel (btJ_rel leRel env N a) g)
      (grpL_bounded (results_bounded env a) g) mn mx r k1 k2 hb hk

end Neatvi.Lemmas.C10b
