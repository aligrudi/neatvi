import NeatviVerif.Lemmas.C10bIdeal
/-!
# C10b lemmas, part 2: the backtracker `bt` simulates the idealised backtracker `btJ`

`Sim c res o`: the run with result `res` was started with the cut counter `c`; the counter never
decreases, and if the run ended (without trap) with the counter unchanged — no depth cut happened —
its result is the idealised outcome `o`.  In particular an idealised outcome `bad` means the real run
did cut (or trap).
-/
namespace Neatvi.Lemmas.C10b
open Neatvi Neatvi.Regex Neatvi.Spec.RegexSem Neatvi.Lemmas.C10

def Sim (c : Nat) : Res → O3 → Prop
  | Res.trap, _ => True
  | Res.ok p m c', o => c ≤ c' ∧ (c' = c → o = O3.ok (p, m))
  | Res.fail c', o => c ≤ c' ∧ (c' = c → o = O3.fail)

theorem Sim.weaken {c c1 : Nat} {res : Res} {o : O3} (h : Sim c1 res o) (hlt : c < c1) (o' : O3) :
    Sim c res o' := by
  cases res with
  | trap => trivial
  | ok p m c' => exact ⟨by have := h.1; omega, fun e => absurd e (by have := h.1; omega)⟩
  | fail c' => exact ⟨by have := h.1; omega, fun e => absurd e (by have := h.1; omega)⟩

/-- the continuations correspond from depth `dep` on -/
def KSim (dep : Nat) (k : K) (kJ : KJ) : Prop :=
  ∀ d p m c, dep ≤ d → Sim c (k d p m c) (kJ (p, m))

theorem KSim.mono {dep dep' : Nat} {k : K} {kJ : KJ} (h : KSim dep k kJ) (hd : dep ≤ dep') :
    KSim dep' k kJ := fun d p m c hd' => h d p m c (by omega)

def BSim (B : Body) (BJ : BodyJ) : Prop :=
  ∀ dep p m c k kJ, KSim dep k kJ → Sim c (B dep p m c k) (BJ (p, m) kJ)

theorem sim_fork_cut {nd dep cuts : Nat} {first second : Nat → Res} {o2 : O3} (hd : dep ≥ nd)
    (h2 : ∀ c', Sim c' (second c') o2) (o : O3) : Sim cuts (forkBt nd dep cuts first second) o := by
  unfold forkBt
  rw [if_pos hd]
  exact (h2 (cuts + 1)).weaken (by omega) o

theorem sim_fork {nd dep cuts : Nat} {first second : Nat → Res} {o1 o2 : O3}
    (h1 : dep < nd → Sim cuts (first (dep + 1)) o1) (h2 : ∀ c', Sim c' (second c') o2) :
    Sim cuts (forkBt nd dep cuts first second) (o1.seq o2) := by
  by_cases hd : dep ≥ nd
  · exact sim_fork_cut hd h2 _
  · have h := h1 (by omega)
    unfold forkBt
    rw [if_neg hd]
    cases hf : first (dep + 1) with
    | ok p m c' =>
      rw [hf] at h
      exact ⟨h.1, fun e => by rw [h.2 e]; rfl⟩
    | trap => trivial
    | fail c' =>
      rw [hf] at h
      show Sim cuts (second c') (o1.seq o2)
      by_cases e : c' = cuts
      · rw [h.2 e, e]; exact h2 cuts
      · exact (h2 c').weaken (by have := h.1; omega) _

variable {B : Body} {BJ : BodyJ}

theorem sim_copies (hB : BSim B BJ) : ∀ n, BSim (btCopies B n) (copiesJ BJ n) := by
  intro n
  induction n with
  | zero => intro dep p m c k kJ hk; exact hk dep p m c (Nat.le_refl _)
  | succ n ih =>
    intro dep p m c k kJ hk
    simp only [btCopies, copiesJ]
    exact hB dep p m c _ _ (fun d p' m' c' hd => ih d p' m' c' k kJ (hk.mono hd))

theorem sim_opts (nd : Nat) (hB : BSim B BJ) : ∀ n, BSim (btOpts nd B n) (optsJ BJ n) := by
  intro n
  induction n with
  | zero => intro dep p m c k kJ hk; exact hk dep p m c (Nat.le_refl _)
  | succ n ih =>
    intro dep p m c k kJ hk
    simp only [btOpts, optsJ]
    exact sim_fork
      (fun _ => hB (dep + 1) p m c _ _ (fun d p' m' c' hd => ih d p' m' c' k kJ (hk.mono (by omega))))
      (fun c' => hk dep p m c' (Nat.le_refl _))

/-- the real budget `fR` of the closing fork is at least the remaining depth and at most the
    idealised budget `fJ` -/
theorem sim_star (nd : Nat) (hB : BSim B BJ) {k : K} {kJ : KJ} :
    ∀ fJ fR d p m c, KSim d k kJ → nd - d ≤ fR → fR ≤ fJ →
      Sim c (btStar nd B k fR d p m c) (starJ BJ kJ fJ (p, m)) := by
  intro fJ
  induction fJ with
  | zero =>
    intro fR d p m c hk h1 h2
    have : fR = 0 := by omega
    subst this
    simp only [btStar]
    exact sim_fork_cut (by omega) (fun c' => hk d p m c' (Nat.le_refl _)) _
  | succ fJ ih =>
    intro fR d p m c hk h1 h2
    cases fR with
    | zero =>
      simp only [btStar]
      exact sim_fork_cut (by omega) (fun c' => hk d p m c' (Nat.le_refl _)) _
    | succ fR =>
      simp only [btStar, starJ]
      exact sim_fork
        (fun _ => hB (d + 1) p m c _ _
          (fun d' p' m' c' hd => ih fR d' p' m' c' (hk.mono (by omega)) (by omega) (by omega)))
        (fun c' => hk d p m c' (Nat.le_refl _))

theorem sim_tail (nd : Nat) (hB : BSim B BJ) (mx : Int) (n : Nat) {dep : Nat} {k : K} {kJ : KJ}
    (hk : KSim dep k kJ) : KSim dep (btTail nd B mx n k) (tailJ nd BJ mx n kJ) := by
  intro d p m c hd
  unfold btTail tailJ
  split
  · exact sim_star nd hB _ _ _ _ _ _ (hk.mono hd) (Nat.le_refl _) (by omega)
  · exact sim_opts nd hB _ _ _ _ _ _ _ (hk.mono hd)

theorem sim_rep (nd : Nat) (hB : BSim B BJ) (mn mx : Int) : BSim (btRep nd B mn mx) (repJ nd BJ mn mx) := by
  intro dep p m c k kJ hk
  by_cases h00 : mn = 0 ∧ mx = 0
  · obtain ⟨rfl, rfl⟩ := h00
    rw [btRep_zero, repJ_zero]
    exact hk dep p m c (Nat.le_refl _)
  by_cases h11 : mn = 1 ∧ mx = 1
  · obtain ⟨rfl, rfl⟩ := h11
    rw [btRep_one, repJ_one]
    exact hB dep p m c k kJ hk
  rw [btRep_general h00 h11, repJ_general h00 h11]
  have main := fun d (hd : dep ≤ d) => sim_copies hB (max 1 mn).toNat d p m c _ _
    ((sim_tail nd hB mx (mx - max 1 mn).toNat hk).mono hd)
  split
  · exact sim_fork (fun _ => main _ (by omega)) (fun c' => hk dep p m c' (Nat.le_refl _))
  · exact main dep (Nat.le_refl _)

theorem sim_atom (cx : Ctx) (a : Atom) : BSim (btAtom cx a) (atomJ ⟨cx.subj, cx.flg⟩ a) := by
  intro dep p m c k kJ hk
  unfold btAtom atomJ
  cases h : atomMatch a cx.subj cx.flg p with
  | fail => exact ⟨Nat.le_refl _, fun _ => rfl⟩
  | trap => trivial
  | ok j => exact hk dep j m c (Nat.le_refl _)

theorem sim_grp (cx : Ctx) {inner : Body} {innerJ : BodyJ} (hi : BSim inner innerJ) (g : Nat)
    (hg : 2 * g + 1 < cx.ngrps) : BSim (btGrp cx inner g) (grpJ innerJ g) := by
  intro dep p m c k kJ hk
  unfold btGrp grpJ
  have e1 : setMk cx.ngrps m (2 * g) p = setMark m (2 * g) p := by
    simp [setMk, setMark, show 2 * g < cx.ngrps by omega]
  rw [e1]
  apply hi
  intro d p' m' c' hd
  have e2 : setMk cx.ngrps m' (2 * g + 1) p' = setMark m' (2 * g + 1) p' := by
    simp [setMk, setMark, hg]
  show Sim c' (k d p' (setMk cx.ngrps m' (2 * g + 1) p') c') (kJ (p', setMark m' (2 * g + 1) p'))
  rw [e2]
  exact hk d p' _ c' hd

/-- every group of the tree writes marks the VM really sets (`Inst.mark k` is a no-op for
    `k ≥ ngrps`) -/
def GrpsIn (n : Nat) : RNode → Prop
  | .nul => True
  | .atom _ _ _ => True
  | .cat a b => GrpsIn n a ∧ GrpsIn n b
  | .alt a b => GrpsIn n a ∧ GrpsIn n b
  | .grp a g _ _ => 2 * g + 1 < n ∧ GrpsIn n a

def decGrpsIn (n : Nat) : (t : RNode) → Decidable (GrpsIn n t)
  | .nul => isTrue trivial
  | .atom _ _ _ => isTrue trivial
  | .cat a b =>
    match decGrpsIn n a, decGrpsIn n b with
    | isTrue h1, isTrue h2 => isTrue ⟨h1, h2⟩
    | isFalse h1, _ => isFalse (fun h => h1 h.1)
    | _, isFalse h2 => isFalse (fun h => h2 h.2)
  | .alt a b =>
    match decGrpsIn n a, decGrpsIn n b with
    | isTrue h1, isTrue h2 => isTrue ⟨h1, h2⟩
    | isFalse h1, _ => isFalse (fun h => h1 h.1)
    | _, isFalse h2 => isFalse (fun h => h2 h.2)
  | .grp a g _ _ =>
    match decGrpsIn n a with
    | isTrue h2 => if h1 : 2 * g + 1 < n then isTrue ⟨h1, h2⟩ else isFalse (fun h => h1 h.1)
    | isFalse h2 => isFalse (fun h => h2 h.2)

instance (n : Nat) (t : RNode) : Decidable (GrpsIn n t) := decGrpsIn n t

/-- the backtracker on the tree simulates the idealised backtracker with budget `cx.nd` -/
theorem bt_sim (cx : Ctx) (t : RNode) (hg : GrpsIn cx.ngrps t) :
    BSim (bt cx t) (btJ ⟨cx.subj, cx.flg⟩ cx.nd t) := by
  induction t with
  | nul => intro dep p m c k kJ hk; exact hk dep p m c (Nat.le_refl _)
  | atom a mn mx => simp only [bt, btJ]; exact sim_rep cx.nd (sim_atom cx a) mn mx
  | cat a b iha ihb =>
    intro dep p m c k kJ hk
    simp only [bt, btJ]
    exact iha hg.1 dep p m c _ _ (fun d p' m' c' hd => ihb hg.2 d p' m' c' k kJ (hk.mono hd))
  | alt a b iha ihb =>
    intro dep p m c k kJ hk
    simp only [bt, btJ]
    exact sim_fork (fun _ => iha hg.1 (dep + 1) p m c k kJ (hk.mono (by omega)))
      (fun c' => ihb hg.2 dep p m c' k kJ hk)
  | grp a g mn mx iha =>
    simp only [bt, btJ]
    exact sim_rep cx.nd (sim_grp cx (iha hg.2) g hg.1) mn mx

end Neatvi.Lemmas.C10b
