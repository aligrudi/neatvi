import NeatviVerif.Model.RegexVM
import NeatviVerif.Lemmas.C12Simple
/-!
# C11: what one successful `ratom_match` has done

`atomMatch_ok` is the one case analysis over the atom kinds for a successful match; `atomMatch_inv` reads it
as "a set of positions closed under a `uc_len` step (and under the literal found) is kept": the positions
inside the subject (`atomMatch_advance`), the character boundaries (`C11bAtom`).
-/
namespace Neatvi.Props.C11
open Neatvi Neatvi.Regex

/-- the ICASE literal comparison walks the subject by `uc_len` steps: a set of positions closed
    under such a step is kept, whatever the literal is -/
theorem chrIcase_inv {J : Nat → Prop} {lit subj : Bytes} (hrx : ∀ r, J r → J (r + rxLen subj r)) :
    ∀ f k r pos', J r → chrIcase lit subj f k r = AR.ok pos' → J pos' := by
  intro f
  induction f with
  | zero => intro k r pos' _ h; simp [chrIcase] at h
  | succ f ih =>
    intro k r pos' hr h
    rw [chrIcase] at h
    split at h
    · cases h
    · cases h; exact hr
    · split at h
      · split at h
        · cases h
        · exact ih _ _ _ (hrx r hr) h
      · cases h

theorem ite_ok {c : Prop} [Decidable c] {x y : AR} {p : Nat} {P : Prop} (hx : x = AR.ok p → P)
    (hy : y = AR.ok p → P) (h : (if c then x else y) = AR.ok p) : P := by
  split at h
  · exact hx h
  · exact hy h

theorem rdb_some_le {s : Bytes} {i c : Nat} (h : rdb s i = some c) : i ≤ s.length := by
  unfold rdb at h
  split at h
  · omega
  · split at h
    · omega
    · cases h

theorem ok_ok {p p' : Nat} (h : AR.ok p = AR.ok p') : p' = p := (AR.ok.inj h).symm

theorem fail_ok {p p' : Nat} (h : AR.fail = AR.ok p') : p' = p := nomatch h

theorem atomMatch_ok {a : Atom} {subj : Bytes} {flg pos pos' : Nat}
    (h : atomMatch a subj flg pos = AR.ok pos') :
    match a.k with
    | AK.chr =>
      if hasFlag flg REG_ICASE then chrIcase a.s subj (a.s.length + 2) 0 pos = AR.ok pos'
      else (subj.drop pos).take a.s.length = a.s ∧ pos' = pos + a.s.length
    | AK.any | AK.brk => pos' = pos + rxLen subj pos
    | _ => pos' = pos := by
  unfold atomMatch at h
  cases hr : rdb subj pos with
  | none => rw [hr] at h; cases h
  | some cur =>
    rw [hr] at h
    generalize a.k = k at h ⊢
    cases k <;> dsimp only at h ⊢
    · cases hic : hasFlag flg REG_ICASE
      · simp only [hic, Bool.not_false, ↓reduceIte] at h
        rw [if_neg Bool.false_ne_true]
        by_cases heq : ((subj.drop pos).take a.s.length == a.s) = true
        · rw [if_pos heq] at h
          exact ⟨eq_of_beq heq, ok_ok h⟩
        · rw [if_neg heq] at h; cases h
      · simp only [hic, Bool.not_true, Bool.false_eq_true, ↓reduceIte] at h
        rw [if_pos rfl]
        exact h
    · exact ite_ok (ite_ok fail_ok ok_ok) (ite_ok (ite_ok ok_ok fail_ok) fail_ok) h
    · exact ite_ok (ite_ok fail_ok ok_ok) (ite_ok (ite_ok ok_ok fail_ok) fail_ok) h
    · exact ite_ok fail_ok ok_ok h
    · split at h
      · cases h
      · refine ite_ok fail_ok (fun h => ?_) h
        split at h
        · cases h
        · exact ok_ok h
        · cases h
    · exact ite_ok ok_ok fail_ok h
    · exact ite_ok ok_ok fail_ok h

theorem atomMatch_inv {J : Nat → Prop} {a : Atom} {subj : Bytes} {flg pos pos' : Nat}
    (hrx : ∀ r, J r → J (r + rxLen subj r))
    (hlit : a.k = AK.chr → hasFlag flg REG_ICASE = false →
      (subj.drop pos).take a.s.length = a.s → J (pos + a.s.length))
    (hp : J pos) (h : atomMatch a subj flg pos = AR.ok pos') : J pos' := by
  have hm := atomMatch_ok h
  generalize hk : a.k = k at hm
  cases k <;> dsimp only at hm
  case chr =>
    by_cases hic : hasFlag flg REG_ICASE = true
    · rw [if_pos hic] at hm; exact chrIcase_inv hrx _ _ _ _ hp hm
    · rw [if_neg hic] at hm; exact hm.2 ▸ hlit hk (Bool.eq_false_iff.mpr hic) hm.1
  case any => exact hm ▸ hrx pos hp
  case brk => exact hm ▸ hrx pos hp
  all_goals exact hm ▸ hp

/-- No bound on `pos` is assumed: a position beyond the terminator cannot be read. -/
theorem atomMatch_advance {a : Atom} {subj : Bytes} {flg pos pos' : Nat}
    (h : atomMatch a subj flg pos = AR.ok pos') : pos ≤ pos' ∧ pos' ≤ subj.length := by
  have hp : pos ≤ subj.length := by
    unfold atomMatch at h
    cases hr : rdb subj pos with
    | none => rw [hr] at h; cases h
    | some c => exact rdb_some_le hr
  refine atomMatch_inv (J := fun r => pos ≤ r ∧ r ≤ subj.length) (fun r hr => ?_) (fun _ _ he => ?_)
    ⟨Nat.le_refl _, hp⟩ h
  · have := C12.rxLen_le subj r; omega
  · have hl := congrArg List.length he
    simp only [List.length_take, List.length_drop] at hl
    omega

theorem atomMatch_range_aux (a : Atom) (subj : Bytes) (flg pos pos' : Nat) (_hp : pos ≤ subj.length)
    (h : atomMatch a subj flg pos = AR.ok pos') : pos ≤ pos' ∧ pos' ≤ subj.length :=
  atomMatch_advance h

end Neatvi.Props.C11
