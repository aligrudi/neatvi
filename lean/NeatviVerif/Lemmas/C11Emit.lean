import NeatviVerif.Lemmas.C11cCount
/-!
# C11: the length of the emitted code and the size estimate

The code of a tree has length `emitLen`, which the estimate `count` bounds on the trees the parser
produces; `regcomp_some` reads off what a successful `regcomp` returned.  `mem_emit` says which instructions
the code consists of: forks, jumps, the atoms of the tree (`AllAtoms`) and the marks of its groups (`markIdx`).
-/
namespace Neatvi.Props.C11
open Neatvi Neatvi.Regex

theorem emitCopies_length (body : Nat → List Inst) (bl : Nat) (hb : ∀ b, (body b).length = bl) :
    ∀ k base, (emitCopies body bl k base).length = k * bl :=
  Lemmas.C10.emitCopies_length hb

theorem emitOpts_eq_copies (body : Nat → List Inst) (bl endA : Nat) : ∀ k base,
    emitOpts body bl endA k base =
      emitCopies (fun b => [Inst.fork (b + 1) endA] ++ body (b + 1)) (1 + bl) k base := by
  intro k
  induction k with
  | zero => intro base; rfl
  | succ k ih => intro base; rw [emitOpts, emitCopies, ih, Nat.add_assoc]

theorem emit_length_aux (t : RNode) : ∀ base, (emit t base).length = emitLen t :=
  Lemmas.C10.emit_length t

theorem emitLen_grpnum (t : RNode) : ∀ num, emitLen (grpnum t num).1 = emitLen t := by
  induction t with
  | nul => intro num; rfl
  | atom a mn mx => intro num; rfl
  | cat a b iha ihb => intro num; simp [grpnum, emitLen, iha, ihb]
  | alt a b iha ihb => intro num; simp [grpnum, emitLen, iha, ihb]
  | grp a g mn mx iha => intro num; simp [grpnum, emitLen, iha]

/-- the wrapper around a body of `bl` instructions is within the estimate computed from any
    `n ≥ bl`: both are affine, with coefficients in that order -/
theorem repLen_le_countRep (bl : Nat) (n mn mx : Int) (hn : (bl : Int) ≤ n) (hr : RepOk mn mx) :
    (repLen bl mn mx : Int) ≤ countRep n mn mx := by
  obtain ⟨c, d, c', d', hc, hd, _, hcount, hlen⟩ := rep_affine hr
  have h1 : (c' : Int) * bl ≤ c * bl :=
    Int.mul_le_mul_of_nonneg_right (Int.ofNat_le.mpr hc) (Int.natCast_nonneg bl)
  have h2 : (c : Int) * bl ≤ c * n := Int.mul_le_mul_of_nonneg_left hn (Int.natCast_nonneg c)
  rw [hcount, hlen]
  push_cast
  omega

/-- the code of a well-formed tree is within the size estimate `rnode_count` -/
theorem emitLen_le_count_aux (t : RNode) : TreeOk t → (emitLen t : Int) ≤ count t := by
  induction t with
  | nul => intro _; simp [emitLen, count]
  | atom a mn mx =>
    intro h
    simp only [emitLen, count]
    exact repLen_le_countRep 1 1 mn mx (by simp) h
  | cat a b iha ihb =>
    intro h
    have := iha h.1
    have := ihb h.2
    simp only [emitLen, count]
    omega
  | alt a b iha ihb =>
    intro h
    have := iha h.1
    have := ihb h.2
    simp only [emitLen, count]
    omega
  | grp a g mn mx iha =>
    intro h
    have := iha h.1
    simp only [emitLen, count]
    exact repLen_le_countRep (emitLen a + 2) (count a + 2) mn mx (by omega) h.2

/-- What `regcomp` returns on success: the tree is well formed, its clamped size estimate passed
    the limit test — hence equals the unbounded estimate — and the program is the emitted code of
    the numbered tree with `rnode_count + 3` instructions allocated. -/
theorem regcomp_some (p : Bytes) (flg : Nat) (prog : Prog)
    (h : regcomp p flg = some (some prog)) :
    ∃ t, parse p = some (some t) ∧ TreeOk t ∧ countSat t + 3 ≤ (Gen.NCODE : Int) ∧
      countSat t = count t ∧
      prog = { code := [Inst.mark 0] ++ emit (grpnum t 1).1 1 ++ [Inst.mark 1, Inst.mtch],
               alloc := countSat t + 3, flg := flg } := by
  obtain ⟨t, ht, hlim, rfl⟩ := Lemmas.C10.regcomp_some h
  have hle : countSat t + 3 ≤ (Gen.NCODE : Int) := by omega
  exact ⟨t, ht, parse_ok ht, hle, Lemmas.C11c.countSat_small t (parse_ok ht) hle, rfl⟩

theorem jmpend_bounded_aux (mn mx : Int) (h : RepOk mn mx) :
    (if mn = 0 then 1 else 0) + (mx - max 1 mn).toNat ≤ Gen.NREPS := by
  obtain ⟨h0, h1, h2, h3⟩ := h
  have e : 1 ≤ Gen.NREPS := by decide
  split <;> omega

/-! ## the instructions `emit` writes -/

theorem mem_emitCopies (Q : Inst → Prop) (body : Nat → List Inst) (bl : Nat)
    (hb : ∀ b, ∀ x ∈ body b, Q x) : ∀ k base, ∀ x ∈ emitCopies body bl k base, Q x := by
  intro k
  induction k with
  | zero => intro base x hx; simp [emitCopies] at hx
  | succ k ih =>
    intro base x hx
    simp only [emitCopies, List.mem_append] at hx
    rcases hx with hx | hx
    · exact hb _ x hx
    · exact ih _ x hx

theorem mem_emitOpts (Q : Inst → Prop) (body : Nat → List Inst) (bl endA : Nat)
    (hf : ∀ a b, Q (Inst.fork a b))
    (hb : ∀ b, ∀ x ∈ body b, Q x) : ∀ k base, ∀ x ∈ emitOpts body bl endA k base, Q x := by
  intro k base
  rw [emitOpts_eq_copies]
  refine mem_emitCopies Q _ _ (fun b x hx => ?_) k base
  rcases List.mem_append.mp hx with hx | hx
  · rw [List.mem_singleton.mp hx]
    exact hf _ _
  · exact hb _ x hx

theorem mem_ite {Q : Inst → Prop} {c : Prop} [Decidable c] {y x : Inst} (hy : Q y)
    (hx : x ∈ (if c then [y] else [])) : Q x := by
  split at hx
  · simp at hx; subst hx; exact hy
  · simp at hx

theorem mem_emitRep (Q : Inst → Prop) (body : Nat → List Inst) (bl : Nat) (mn mx : Int) (base : Nat)
    (hf : ∀ a b, Q (Inst.fork a b))
    (hb : ∀ b, ∀ x ∈ body b, Q x) : ∀ x ∈ emitRep body bl mn mx base, Q x := by
  intro x hx
  by_cases h00 : mn = 0 ∧ mx = 0
  · obtain ⟨rfl, rfl⟩ := h00
    cases hx
  by_cases h11 : mn = 1 ∧ mx = 1
  · obtain ⟨rfl, rfl⟩ := h11
    exact hb _ x hx
  rw [Lemmas.C10.emitRep_general body base h00 h11] at hx
  simp only [List.mem_append] at hx
  rcases hx with ((hx | hx) | hx) | hx
  · exact mem_ite (hf _ _) hx
  · exact mem_emitCopies Q body bl hb _ _ x hx
  · exact mem_ite (hf _ _) hx
  · exact mem_emitOpts Q body bl _ hf hb _ _ x hx

end Neatvi.Props.C11

namespace Neatvi.Props.C11b
open Neatvi Neatvi.Regex

/-- `Q` holds of every atom of the tree -/
def AllAtoms (Q : Atom → Prop) : RNode → Prop
  | .nul => True
  | .atom a _ _ => Q a
  | .cat a b => AllAtoms Q a ∧ AllAtoms Q b
  | .alt a b => AllAtoms Q a ∧ AllAtoms Q b
  | .grp a _ _ _ => AllAtoms Q a

theorem allAtoms_of {Q : Atom → Prop} (h : ∀ a, Q a) : ∀ t, AllAtoms Q t
  | .nul => trivial
  | .atom a _ _ => h a
  | .cat a b => ⟨allAtoms_of h a, allAtoms_of h b⟩
  | .alt a b => ⟨allAtoms_of h a, allAtoms_of h b⟩
  | .grp a _ _ _ => allAtoms_of h a

end Neatvi.Props.C11b

namespace Neatvi.Props.C11
open Neatvi Neatvi.Regex

theorem mem_emit {Q : Inst → Prop} (hf : ∀ a b, Q (.fork a b)) (hj : ∀ a, Q (.jump a)) (t : RNode) :
    C11b.AllAtoms (fun a => Q (.atom a)) t → (∀ k ∈ C10.markIdx t, Q (.mark k)) →
    ∀ base, ∀ x ∈ emit t base, Q x := by
  induction t with
  | nul => intro _ _ base x hx; simp [emit] at hx
  | atom a mn mx =>
    intro ha _ base x hx
    refine mem_emitRep Q _ 1 mn mx base hf (fun b y hy => ?_) x hx
    rw [List.mem_singleton.mp hy]; exact ha
  | cat a b iha ihb =>
    intro ha hm base x hx
    simp only [C10.markIdx, List.mem_append] at hm
    rcases List.mem_append.mp hx with hx | hx
    · exact iha ha.1 (fun k hk => hm k (Or.inl hk)) _ x hx
    · exact ihb ha.2 (fun k hk => hm k (Or.inr hk)) _ x hx
  | alt a b iha ihb =>
    intro ha hm base x hx
    simp only [C10.markIdx, List.mem_append] at hm
    simp only [emit, List.mem_append, List.mem_singleton] at hx
    rcases hx with ((hx | hx) | hx) | hx
    · exact hx ▸ hf _ _
    · exact iha ha.1 (fun k hk => hm k (Or.inl hk)) _ x hx
    · exact hx ▸ hj _
    · exact ihb ha.2 (fun k hk => hm k (Or.inr hk)) _ x hx
  | grp a g mn mx iha =>
    intro ha hm base x hx
    simp only [C10.markIdx, List.mem_cons] at hm
    refine mem_emitRep Q _ (emitLen a + 2) mn mx base hf (fun b y hy => ?_) x hx
    simp only [List.mem_append, List.mem_singleton] at hy
    rcases hy with (hy | hy) | hy
    · exact hy ▸ hm _ (Or.inl rfl)
    · exact iha ha (fun k hk => hm k (Or.inr (Or.inr hk))) _ y hy
    · exact hy ▸ hm _ (Or.inr (Or.inl rfl))

theorem atom_mem_emit {Q : Atom → Prop} {t : RNode} (h : C11b.AllAtoms Q t) {base : Nat} {a : Atom}
    (ha : Inst.atom a ∈ emit t base) : Q a :=
  mem_emit (Q := fun x => match x with | .atom a => Q a | _ => True) (fun _ _ => trivial) (fun _ => trivial)
    t h (fun _ _ => trivial) base _ ha

end Neatvi.Props.C11
