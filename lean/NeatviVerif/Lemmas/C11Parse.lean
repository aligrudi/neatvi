import NeatviVerif.Model.Regex
import NeatviVerif.Lemmas.Basics
/-!
# C11: the parser followed with an invariant; the repetition bounds it builds are well formed

`ParsePred I T` and `parse_pred_all`: the one induction over the four mutually recursive parsers, for an
invariant `I` of the remaining pattern and a property `T` of trees closed under what the parser builds.
`TreeOk` is the instance without an invariant (`treeOk_pred`); the atoms of the tree are the other
(`ParseInv.pred` in `C11bParse`).
-/
namespace Neatvi.Props.C11
open Neatvi Neatvi.Regex

/-- the repetition bounds the parser accepts: `0 ≤ mn ≤ NREPS`, `mx ≤ NREPS`, and `mx` is either
    negative (unbounded) or at least `mn` -/
def RepOk (mn mx : Int) : Prop :=
  0 ≤ mn ∧ mn ≤ Gen.NREPS ∧ mx ≤ Gen.NREPS ∧ (mx < 0 ∨ mn ≤ mx)

instance (mn mx : Int) : Decidable (RepOk mn mx) := by unfold RepOk; infer_instance

/-- every `atom`/`grp` node carries well-formed bounds -/
def TreeOk : RNode → Prop
  | .nul => True
  | .atom _ mn mx => RepOk mn mx
  | .cat a b => TreeOk a ∧ TreeOk b
  | .alt a b => TreeOk a ∧ TreeOk b
  | .grp a _ mn mx => TreeOk a ∧ RepOk mn mx

instance decTreeOk : (t : RNode) → Decidable (TreeOk t)
  | .nul => isTrue trivial
  | .atom _ mn mx => inferInstanceAs (Decidable (RepOk mn mx))
  | .cat a b => @instDecidableAnd _ _ (decTreeOk a) (decTreeOk b)
  | .alt a b => @instDecidableAnd _ _ (decTreeOk a) (decTreeOk b)
  | .grp a _ mn mx => @instDecidableAnd _ _ (decTreeOk a) (inferInstanceAs (Decidable (RepOk mn mx)))

theorem repOk_one_one : RepOk 1 1 := by decide
theorem repOk_star : RepOk 0 (-1) := by decide
theorem repOk_opt : RepOk 0 1 := by decide
theorem repOk_plus : RepOk 1 (-1) := by decide

theorem treeOk_setRep {n : RNode} {mn mx : Int} (h : TreeOk n) (hr : RepOk mn mx) :
    TreeOk (setRep n mn mx) := by
  cases n with
  | nul => exact h
  | atom a m1 m2 => exact hr
  | cat a b => exact h
  | alt a b => exact h
  | grp a g m1 m2 => exact ⟨h.1, hr⟩

/-- the bounds test of `rnode_atom` -/
theorem repOk_of_test {mn mx : Int}
    (h : ¬(decide (mn > (Gen.NREPS : Int)) || decide (mx > (Gen.NREPS : Int)) || decide (mn < 0) ||
      (decide (mx ≥ 0) && decide (mx < mn))) = true) : RepOk mn mx := by
  simp only [Bool.or_eq_true, Bool.and_eq_true, decide_eq_true_eq] at h
  unfold RepOk
  omega

/-! ### the parser followed with an invariant

`ParsePred I T`: `I` is an invariant of the remaining pattern (it survives skipping an ASCII byte; at a
`{` it survives skipping anything, since the bounds are read byte-wise and the byte after them is skipped
unseen; `ratom_read` hands it on), `T` a property of trees that holds of the atoms `ratom_read` yields and
of everything the parser builds from trees with `T`.  The induction over the four mutually recursive
parsers is done once, for such a pair (`parse_pred_all`). -/

structure ParsePred (I : Bytes → Prop) (T : RNode → Prop) : Prop where
  ascii : ∀ p, I p → p.headD 0 < 128 → I (p.drop 1)
  brace : ∀ p, I p → p.headD 0 = 123 → ∀ k, I (p.drop k)
  atom : ∀ p a rest, I p → ratomRead p = some (a, rest) → T (.atom a 1 1) ∧ I rest
  nul : T .nul
  cat : ∀ {a b}, T a → T b → T (.cat a b)
  alt : ∀ {a b}, T a → T b → T (.alt a b)
  grp : ∀ {a}, T a → T (.grp a 0 1 1)
  rep : ∀ {n mn mx}, T n → RepOk mn mx → T (setRep n mn mx)

theorem readDigits_suffix : ∀ (p : Bytes) (v : Int), (readDigits p v).2 <:+ p := by
  intro p
  induction p with
  | nil => intro v; exact List.suffix_refl _
  | cons c r ih =>
    intro v
    rw [readDigits]
    split
    · exact (ih _).trans (List.suffix_cons c r)
    · exact List.suffix_refl _

theorem beq_lt {x : Nat} {c : Nat} (h : (x == c) = true) (hc : c < 128) : x < 128 := by
  have := eq_of_beq h; omega

theorem bne_eq {x c : Nat} (h : ¬ ((x != c) = true)) : x = c := by
  simpa using h

section pred
variable {I : Bytes → Prop} {T : RNode → Prop} (hI : ParsePred I T)
include hI

/-- one repetition character of `rnode_atom`: if it is there it is skipped and the counts are set -/
theorem repChar_pred {n : RNode} {p : Bytes} (hn : T n) (hp : I p) {c : Nat} (hc : c < 128) {mn mx : Int}
    (hr : RepOk mn mx) {s : RNode × Bytes} (hs : T s.1 ∧ I s.2) :
    T (if p.headD 0 == c then (setRep n mn mx, p.drop 1) else s).1 ∧
      I (if p.headD 0 == c then (setRep n mn mx, p.drop 1) else s).2 := by
  by_cases h : (p.headD 0 == c) = true
  · rw [if_pos h]
    exact ⟨hI.rep hn hr, hI.ascii p hp (beq_lt h hc)⟩
  · rw [if_neg h]
    exact hs

theorem readRep_pred {n : RNode} {p : Bytes} {t : Option RNode} {rest : Bytes} (hp : I p) (hn : T n)
    (h : readRep n p = some (t, rest)) : I rest ∧ T (t.getD RNode.nul) := by
  unfold readRep at h
  have hs1 := repChar_pred hI hn hp (c := 42) (by decide) repOk_star
    (repChar_pred hI hn hp (c := 63) (by decide) repOk_opt (s := (n, p)) ⟨hn, hp⟩)
  generalize (if p.headD 0 == 42 then (setRep n 0 (-1), p.drop 1)
    else if p.headD 0 == 63 then (setRep n 0 1, p.drop 1) else (n, p)) = s1 at h hs1
  obtain ⟨n1, p1⟩ := s1
  dsimp only at h hs1
  have hs2 := repChar_pred hI hs1.1 hs1.2 (c := 43) (by decide) repOk_plus (s := (n1, p1)) hs1
  generalize (if p1.headD 0 == 43 then (setRep n1 1 (-1), p1.drop 1) else (n1, p1)) = s2 at h hs2
  obtain ⟨n2, p2⟩ := s2
  dsimp only at h hs2
  by_cases hbr : (p2.headD 0 == 123) = true
  · rw [if_pos hbr] at h
    have hall := hI.brace p2 hs2.2 (eq_of_beq hbr)
    have hq1 := (readDigits_suffix (p2.drop 1) 0).trans (List.drop_suffix 1 p2)
    generalize readDigits (p2.drop 1) 0 = d1 at h hq1
    obtain ⟨mn, q1⟩ := d1
    dsimp only at h hq1
    have hq2 : (if q1.headD 0 == 44 then
        readDigits (q1.drop 1) (if (q1.drop 1).headD 0 == 125 then -1 else 0) else (mn, q1)).2 <:+ p2 := by
      split
      · exact ((readDigits_suffix _ _).trans (List.drop_suffix 1 q1)).trans hq1
      · exact hq1
    generalize (if q1.headD 0 == 44 then
        readDigits (q1.drop 1) (if (q1.drop 1).headD 0 == 125 then -1 else 0) else (mn, q1)) = d2 at h hq2
    obtain ⟨mx, q2⟩ := d2
    cases q2 with
    | nil => cases h
    | cons x p' =>
      dsimp only at h
      have hrest : I p' := by
        rw [List.suffix_iff_eq_drop.mp ((List.suffix_cons x p').trans hq2)]
        exact hall _
      split at h
      · cases h
        exact ⟨hrest, hI.nul⟩
      · rename_i htest
        cases h
        exact ⟨hrest, hI.rep hs2.1 (repOk_of_test htest)⟩
  · rw [if_neg hbr] at h
    cases h
    exact ⟨hs2.2, hs2.1⟩

/-- the four parsers keep the invariant and build trees with `T`, by mutual induction on the fuel
    (a result `none` is the NULL pointer, read as the empty tree) -/
theorem parse_pred_all (f : Nat) :
    (∀ p t rest, I p → parseAlt f p = some (t, rest) → I rest ∧ T (t.getD RNode.nul)) ∧
    (∀ p t rest, I p → parseSeq f p = some (t, rest) → I rest ∧ T (t.getD RNode.nul)) ∧
    (∀ p t rest, I p → parseAtom f p = some (t, rest) → I rest ∧ T (t.getD RNode.nul)) ∧
    (∀ p t rest, I (p.drop 1) → parseGrp f p = some (t, rest) → I rest ∧ T (t.getD RNode.nul)) := by
  induction f with
  | zero => exact ⟨nofun, nofun, nofun, nofun⟩
  | succ f ih =>
    obtain ⟨ihAlt, ihSeq, ihAtom, ihGrp⟩ := ih
    refine ⟨?_, ?_, ?_, ?_⟩
    · intro p t rest hp h
      rw [parseAlt] at h
      split at h
      · cases h
      · rename_i c1 p1 hseq
        obtain ⟨hp1, hc1⟩ := ihSeq _ _ _ hp hseq
        rcases Basics.ite_eq_cases h with ⟨_, h⟩ | ⟨hbar, h⟩
        · cases h
          exact ⟨hp1, hc1⟩
        have hbar' : p1.headD 0 = 124 := bne_eq hbar
        split at h
        · cases h
        · rename_i c2 p2 halt
          obtain ⟨hp2, hc2⟩ := ihAlt _ _ _ (hI.ascii p1 hp1 (by omega)) halt
          split at h
          · cases h
            exact ⟨hp2, hc1⟩
          · cases h
            exact ⟨hp2, hI.alt hc1 hc2⟩
    · intro p t rest hp h
      rw [parseSeq] at h
      split at h
      · cases h
      · rename_i p1 hat
        cases h
        exact ⟨(ihAtom _ _ _ hp hat).1, hI.nul⟩
      · rename_i c1 p1 hat
        obtain ⟨hp1, hc1⟩ := ihAtom _ _ _ hp hat
        split at h
        · cases h
        · rename_i p2 hseq
          cases h
          exact ⟨(ihSeq _ _ _ hp1 hseq).1, hc1⟩
        · rename_i c2 p2 hseq
          cases h
          exact ⟨(ihSeq _ _ _ hp1 hseq).1, hI.cat hc1 (ihSeq _ _ _ hp1 hseq).2⟩
    · intro p t rest hp h
      rw [parseAtom] at h
      rcases Basics.ite_eq_cases h with ⟨_, h⟩ | ⟨_, h⟩
      · cases h
        exact ⟨hp, hI.nul⟩
      rcases Basics.ite_eq_cases h with ⟨hpar, h⟩ | ⟨_, h⟩
      · have hp' : I (p.drop 1) := hI.ascii p hp (beq_lt hpar (by decide))
        split at h
        · cases h
        · rename_i p1 hg
          cases h
          exact ⟨(ihGrp _ _ _ hp' hg).1, hI.nul⟩
        · rename_i n p1 hg
          obtain ⟨hp1, hn⟩ := ihGrp _ _ _ hp' hg
          exact readRep_pred hI hp1 hn h
      split at h
      · cases h
      · rename_i a p1 hra
        obtain ⟨hq, hp1⟩ := hI.atom _ _ _ hp hra
        exact readRep_pred hI hp1 hq h
    · intro p t rest hp1 h
      rw [parseGrp] at h
      rcases Basics.ite_eq_cases h with ⟨_, h⟩ | ⟨hcl, h⟩
      · split at h
        · cases h
        · rename_i p2 halt
          cases h
          exact ⟨(ihAlt _ _ _ hp1 halt).1, hI.nul⟩
        · rename_i n p2 halt
          obtain ⟨hp2, hn⟩ := ihAlt _ _ _ hp1 halt
          rcases Basics.ite_eq_cases h with ⟨_, h⟩ | ⟨hcl2, h⟩
          · cases h
            exact ⟨hp2, hI.nul⟩
          · cases h
            have := bne_eq hcl2
            exact ⟨hI.ascii p2 hp2 (by omega), hI.grp hn⟩
      · cases h
        have := bne_eq hcl
        exact ⟨hI.ascii _ hp1 (by omega), hI.grp hI.nul⟩

theorem parse_pred {p : Bytes} {t : RNode} (hp : I p) (h : parse p = some (some t)) : T t := by
  obtain ⟨⟨c, rest⟩, hq, e⟩ := Option.map_eq_some_iff.mp h
  cases e
  exact ((parse_pred_all hI (parseFuel p)).1 _ _ _ hp hq).2

end pred

theorem treeOk_pred : ParsePred (fun _ => True) TreeOk where
  ascii := fun _ _ _ => trivial
  brace := fun _ _ _ _ => trivial
  atom := fun _ _ _ _ _ => ⟨repOk_one_one, trivial⟩
  nul := trivial
  cat := fun ha hb => ⟨ha, hb⟩
  alt := fun ha hb => ⟨ha, hb⟩
  grp := fun ha => ⟨ha, repOk_one_one⟩
  rep := treeOk_setRep

theorem parse_bounds_all (f : Nat) :
    (∀ p t rest, parseAlt f p = some (some t, rest) → TreeOk t) ∧
    (∀ p t rest, parseSeq f p = some (some t, rest) → TreeOk t) ∧
    (∀ p t rest, parseAtom f p = some (some t, rest) → TreeOk t) ∧
    (∀ p t rest, parseGrp f p = some (some t, rest) → TreeOk t) :=
  have h := parse_pred_all treeOk_pred f
  ⟨fun p _ _ hp => (h.1 p _ _ trivial hp).2, fun p _ _ hp => (h.2.1 p _ _ trivial hp).2,
   fun p _ _ hp => (h.2.2.1 p _ _ trivial hp).2, fun p _ _ hp => (h.2.2.2 p _ _ trivial hp).2⟩

theorem parse_ok {p : Bytes} {t : RNode} (h : parse p = some (some t)) : TreeOk t :=
  parse_pred treeOk_pred trivial h

theorem grpnum_treeOk (t : RNode) : ∀ num, TreeOk t → TreeOk (grpnum t num).1 := by
  induction t with
  | nul => intro num h; exact h
  | atom a mn mx => intro num h; exact h
  | cat a b iha ihb => intro num h; exact ⟨iha _ h.1, ihb _ h.2⟩
  | alt a b iha ihb => intro num h; exact ⟨iha _ h.1, ihb _ h.2⟩
  | grp a g mn mx iha => intro num h; exact ⟨iha _ h.1, h.2⟩

end Neatvi.Props.C11
