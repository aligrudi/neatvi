import NeatviVerif.Lemmas.C11VM
import NeatviVerif.Lemmas.C11Atom
/-!
# C11: reported offsets lie inside the subject; the shape of compiled programs
-/
namespace Neatvi.Props.C11
open Neatvi Neatvi.Regex

/-! ## marks stay in range -/

/-- every mark is unset (`-1`) or an offset between `lo` and `hi` -/
def MarksOk (lo hi : Nat) (m : Marks) : Prop :=
  ∀ x ∈ m, x = -1 ∨ ((lo : Int) ≤ x ∧ x ≤ (hi : Int))

variable (cx : Ctx)

/-- the hypothesis on atoms of `recmatch_range`: every atom of the program advances inside the
    subject.  It holds of every context (`atomRange_all`), so `offsets_in_range` has no such hypothesis. -/
def AtomRange : Prop :=
  ∀ a, Inst.atom a ∈ cx.prog → ∀ pos pos', pos ≤ cx.subj.length →
    atomMatch a cx.subj cx.flg pos = AR.ok pos' → pos ≤ pos' ∧ pos' ≤ cx.subj.length

theorem atomRange_all : AtomRange cx :=
  fun a _ pos pos' hp hm => atomMatch_range_aux a cx.subj cx.flg pos pos' hp hm

theorem recmatch_range (hat : AtomRange cx) {start cuts pos : Nat} {m : Marks} {c : Nat}
    (hs : start ≤ cx.subj.length) (h : recmatch cx start cuts = Res.ok pos m c) :
    start ≤ pos ∧ pos ≤ cx.subj.length ∧ MarksOk start cx.subj.length m := by
  obtain ⟨⟨h1, h2⟩, hm⟩ := recmatch_keeps cx (J := fun q => start ≤ q ∧ q ≤ cx.subj.length)
    (fun a ha q q' hq heq => by have := hat a ha q q' hq.2 heq; omega) ⟨Nat.le_refl _, hs⟩ h
  refine ⟨h1, h2, fun x hx => ?_⟩
  rcases hm x hx with hx | ⟨k, hk, hk1, hk2⟩
  · exact Or.inl hx
  · right; omega

/-! ## the shape of compiled programs: `mark 0` first, `mark 1` just before `mtch` -/

/-- instructions of the body: no `mtch`, no mark below 2 -/
def BodyInst : Inst → Prop
  | .mtch => False
  | .mark k => 2 ≤ k
  | _ => True

/-- `mark 0`, then a body that only targets itself or the closing `mark 1`, then `mark 1; mtch` -/
def Shape (prog : List Inst) : Prop :=
  ∃ body, prog = [Inst.mark 0] ++ body ++ [Inst.mark 1, Inst.mtch] ∧
    SegOk body 1 1 (1 + body.length) ∧ ∀ x ∈ body, BodyInst x

theorem recmatch_shape (hshape : Shape cx.prog) (hng : 2 ≤ cx.ngrps) {start cuts pos : Nat}
    {m : Marks} {c : Nat} (h : recmatch cx start cuts = Res.ok pos m c) :
    m[0]? = some (start : Int) ∧ m[1]? = some (pos : Int) := by
  obtain ⟨body, hprog, hseg, hbody⟩ := hshape
  unfold recmatch at h
  rw [act_eq] at h
  split at h
  · cases h
  -- the run stays between `mark 0` and `mtch`; `m[0]` is written once, at address 0, where the
  -- position is still `start`; `m[1]` is written last, just before `mtch`
  let I : Nat → Nat → Marks → Prop := fun pc q m =>
    2 ≤ m.length ∧ (pc = 0 → q = start) ∧ (1 ≤ pc → m[0]? = some (start : Int)) ∧
      (pc ≤ 1 + body.length ∨ (pc = 1 + body.length + 1 ∧ m[1]? = some (q : Int)))
  have inBody : ∀ pc q (m : Marks), 1 ≤ pc → pc ≤ 1 + body.length → 2 ≤ m.length →
      m[0]? = some (start : Int) → I pc q m :=
    fun pc q m h1 h2 hl h0 => ⟨hl, fun h => by omega, fun _ => h0, Or.inl h2⟩
  refine loop_invariant cx I (fun q m => m[0]? = some (start : Int) ∧ m[1]? = some (q : Int)) ?_
    _ _ _ _ _ _ _ _ ⟨by simp; omega, fun _ => rfl, fun h => by omega, Or.inl (by omega)⟩ h
  intro pc inst q m hi ⟨hl, hz, h0, hlast⟩
  rw [hprog] at hi
  obtain ⟨rfl, rfl⟩ | ⟨hp1, hp2, hb⟩ | ⟨rfl, rfl⟩ | ⟨rfl, rfl⟩ := wrap_cases hi
  · rw [hz rfl]
    show I 1 _ (if 0 < cx.ngrps then _ else _)
    rw [if_pos (by omega)]
    exact inBody 1 _ _ (Nat.le_refl _) (by omega) (by rw [List.length_set]; exact hl)
      (List.getElem?_set_self (by omega))
  · have hB := hbody inst (List.mem_of_getElem? hb)
    have hS := hseg (pc - 1) inst hb
    rw [show 1 + (pc - 1) = pc by omega] at hS
    have h0 := h0 hp1
    have hn1 : 1 ≤ pc + 1 := Nat.le_add_left 1 pc
    have hn2 : pc + 1 ≤ 1 + body.length := hp2
    cases inst with
    | atom a => exact fun _ _ => inBody _ _ _ hn1 hn2 hl h0
    | mark k =>
      simp only [BodyInst] at hB
      show I _ _ (if k < cx.ngrps then _ else _)
      split
      · exact inBody _ _ _ hn1 hn2 (by rw [List.length_set]; exact hl)
          (by rw [List.getElem?_set_ne (by omega)]; exact h0)
      · exact inBody _ _ _ hn1 hn2 hl h0
    | jump a =>
      simp only [InstOk] at hS
      exact inBody _ _ _ (Nat.le_trans hp1 (Nat.le_of_lt hS.1)) hS.2 hl h0
    | fork a1 a2 =>
      simp only [InstOk] at hS
      exact ⟨inBody _ _ _ hS.1 hS.2.1 hl h0,
        inBody _ _ _ (Nat.le_trans hp1 (Nat.le_of_lt hS.2.2.1)) hS.2.2.2 hl h0⟩
    | mtch => exact hB.elim
  · show I _ _ (if 1 < cx.ngrps then _ else _)
    rw [if_pos (by omega)]
    exact ⟨by rw [List.length_set]; exact hl, fun h => by omega,
      fun _ => by rw [List.getElem?_set_ne (by omega)]; exact h0 (by omega),
      Or.inr ⟨rfl, List.getElem?_set_self (by omega)⟩⟩
  · obtain hlast | ⟨_, h1⟩ := hlast
    · omega
    · exact ⟨h0 (by omega), h1⟩

theorem regcomp_shape_aux {p : Bytes} {flg : Nat} {prog : Prog}
    (h : regcomp p flg = some (some prog)) : Shape prog.code := by
  obtain ⟨t, _, _, _, _, rfl⟩ := regcomp_some p flg prog h
  refine ⟨emit (grpnum t 1).1 1, rfl, ?_, mem_emit (Q := BodyInst) (fun _ _ => trivial) (fun _ => trivial) _
    (C11b.allAtoms_of (fun _ => trivial) _) (fun k hk => (C10.markIdx_grpnum t 1 k hk).1) 1⟩
  rw [emit_length_aux]
  exact segOk_emit _ 1

end Neatvi.Props.C11
