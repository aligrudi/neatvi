import NeatviVerif.Lemmas.C11Parse
import NeatviVerif.Lemmas.C10Seg
/-!
# C11: the repetition wrapper `{mn,mx}` around one copy

`repLen`, `emitRep`, `countRep` and `countRepSat` branch alike: `{0,0}` is nothing, `{1,1}` is the
copy itself, everything else is the general layout.  Here are the equations of the first three in the first two cases
and that of `countRep` in the third (`Lemmas.C10.repLen_general` and `emitRep_general` are the other
two), and the one arithmetic fact behind the size results: the estimate and the length are both
affine in the size of one copy, with the coefficients of the length below those of the estimate.
-/
namespace Neatvi.Props.C11
open Neatvi Neatvi.Regex

theorem countRep_zero (n : Int) : countRep n 0 0 = 0 := rfl

theorem countRep_one (n : Int) : countRep n 1 1 = n := rfl

theorem repLen_zero (bl : Nat) : repLen bl 0 0 = 0 := rfl

theorem repLen_one (bl : Nat) : repLen bl 1 1 = bl := rfl

theorem emitRep_zero (body : Nat → List Inst) (bl base : Nat) : emitRep body bl 0 0 base = [] := rfl

theorem emitRep_one (body : Nat → List Inst) (bl base : Nat) :
    emitRep body bl 1 1 base = body base := rfl

theorem countRep_general {mn mx : Int} (n : Int) (h00 : ¬(mn = 0 ∧ mx = 0))
    (h11 : ¬(mn = 1 ∧ mx = 1)) :
    countRep n mn mx =
      (if mx < 0 then (mn + 1) * n + 1 else (mn + mx) * n + mx - mn) + if mn = 0 then 1 else 0 := by
  have e0 : ¬(mn == 0 && mx == 0) = true := by
    rw [Bool.and_eq_true, beq_iff_eq, beq_iff_eq]; exact h00
  have e1 : ¬(mn == 1 && mx == 1) = true := by
    rw [Bool.and_eq_true, beq_iff_eq, beq_iff_eq]; exact h11
  rw [countRep, if_neg e0, if_neg e1]
  dsimp only
  by_cases hz : mn = 0
  · rw [if_pos hz, if_pos (beq_iff_eq.mpr hz)]
  · rw [if_neg hz, if_neg (mt beq_iff_eq.mp hz), Int.add_zero]

/-- For the bounds the parser accepts, `countRep · mn mx` is `n ↦ c * n + d` and `repLen · mn mx` is
    `bl ↦ c' * bl + d'` with `c' ≤ c` and `d' ≤ d`; except for `{0,0}` at least one copy is counted. -/
theorem rep_affine {mn mx : Int} (hr : RepOk mn mx) :
    ∃ c d c' d' : Nat, c' ≤ c ∧ d' ≤ d ∧ (¬(mn = 0 ∧ mx = 0) → 1 ≤ c) ∧
      (∀ n : Int, countRep n mn mx = c * n + d) ∧ ∀ bl, repLen bl mn mx = c' * bl + d' := by
  obtain ⟨h0, _, _, hx⟩ := hr
  by_cases h00 : mn = 0 ∧ mx = 0
  · obtain ⟨rfl, rfl⟩ := h00
    exact ⟨0, 0, 0, 0, Nat.le_refl _, Nat.le_refl _, fun h => absurd ⟨rfl, rfl⟩ h,
      fun n => by rw [countRep_zero]; omega, fun bl => by rw [repLen_zero]; omega⟩
  by_cases h11 : mn = 1 ∧ mx = 1
  · obtain ⟨rfl, rfl⟩ := h11
    exact ⟨1, 0, 1, 0, Nat.le_refl _, Nat.le_refl _, fun _ => Nat.le_refl _,
      fun n => by rw [countRep_one]; omega, fun bl => by rw [repLen_one]; omega⟩
  have hlen : ∀ bl, repLen bl mn mx = ((max 1 mn).toNat + (mx - max 1 mn).toNat) * bl +
      ((if mn = 0 then 1 else 0) + (if mx < 0 then 1 else 0) + (mx - max 1 mn).toNat) := by
    intro bl
    rw [Lemmas.C10.repLen_general h00 h11, Nat.add_mul, Nat.mul_add, Nat.mul_one]
    omega
  have hcount := fun n => countRep_general n h00 h11
  by_cases hneg : mx < 0
  · clear hx h00 h11
    refine ⟨(mn + 1).toNat, 1 + if mn = 0 then 1 else 0, _, _, ?_, ?_, fun _ => by omega,
      fun n => ?_, hlen⟩
    · omega
    · rw [if_pos hneg]; omega
    · rw [hcount, if_pos hneg, Int.toNat_of_nonneg (by omega)]
      push_cast [apply_ite (Nat.cast : Nat → Int)]
      omega
  · have hle : mn ≤ mx := hx.resolve_left hneg
    have hmx : 0 < mx := Int.lt_iff_le_and_ne.mpr
      ⟨Int.not_lt.mp hneg, fun h => h00 ⟨Int.le_antisymm (h ▸ hle) h0, h.symm⟩⟩
    clear hx h00 h11
    refine ⟨(mn + mx).toNat, (mx - mn).toNat + if mn = 0 then 1 else 0, _, _, ?_, ?_,
      fun _ => by omega, fun n => ?_, hlen⟩
    · omega
    · rw [if_neg hneg]; omega
    · rw [hcount, if_neg hneg, Int.toNat_of_nonneg (by omega)]
      push_cast [apply_ite (Nat.cast : Nat → Int)]
      omega

end Neatvi.Props.C11
