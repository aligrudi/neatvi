import NeatviVerif.Model.RegexVM
import NeatviVerif.Lemmas.C11Wf
import NeatviVerif.Lemmas.C10Run
/-!
# C11: the VM on well-formed programs never takes the checked-edge trap

`loop_invariant`: a state predicate handed on by every instruction (`StepInv`) holds of the result of
a successful run; it is the run in lockstep with itself (`Lemmas.C10.loop_rel`).  `recmatch_keeps` is its
use for a set of positions the atoms keep: the run and its marks stay in the set.  `loop_no_trap_of`:
on a well-formed program the run does not trap while the positions stay in a set the atoms keep and
do not trap on; `loop_no_trap` is the edge-trap result.
-/
namespace Neatvi.Props.C11
open Neatvi Neatvi.Regex

variable (cx : Ctx)

/-! ## unfolding lemmas, one per instruction -/

theorem loop_none {dep pc pos m cuts} (h : cx.prog[pc]? = none) :
    loop cx dep pc pos m cuts = Res.trap :=
  Lemmas.C10.loop_none cx h

theorem loop_atom {dep pc pos m cuts a} (h : cx.prog[pc]? = some (Inst.atom a)) :
    loop cx dep pc pos m cuts =
      match atomMatch a cx.subj cx.flg pos with
      | AR.fail => Res.fail cuts
      | AR.trap => Res.trap
      | AR.ok pos' => loop cx dep (pc + 1) pos' m cuts :=
  Lemmas.C10.loop_atom cx h

theorem loop_mark {dep pc pos m cuts k} (h : cx.prog[pc]? = some (Inst.mark k)) :
    loop cx dep pc pos m cuts =
      loop cx dep (pc + 1) pos (if k < cx.ngrps then m.set k (pos : Int) else m) cuts :=
  Lemmas.C10.loop_mark cx h

theorem loop_jump {dep pc pos m cuts a} (h : cx.prog[pc]? = some (Inst.jump a)) :
    loop cx dep pc pos m cuts = if a > pc then loop cx dep a pos m cuts else Res.trap :=
  Lemmas.C10.loop_jump cx h

theorem loop_fork {dep pc pos m cuts a1 a2} (h : cx.prog[pc]? = some (Inst.fork a1 a2)) :
    loop cx dep pc pos m cuts =
      match act cx dep a1 pos m cuts with
      | Res.ok p' m' c' => Res.ok p' m' c'
      | Res.trap => Res.trap
      | Res.fail c' => if a2 > pc then loop cx dep a2 pos m c' else Res.trap :=
  Lemmas.C10.loop_fork cx h

theorem loop_mtch {dep pc pos m cuts} (h : cx.prog[pc]? = some Inst.mtch) :
    loop cx dep pc pos m cuts = Res.ok pos m cuts :=
  Lemmas.C10.loop_mtch cx h

theorem act_eq {dep pc pos m cuts} :
    act cx dep pc pos m cuts =
      if dep ≥ cx.nd then Res.fail (cuts + 1) else loop cx (dep + 1) pc pos m cuts :=
  Lemmas.C10.act_eq cx dep pc pos m cuts

theorem loop_induction (P : Nat → Nat → Prop)
    (step : ∀ dep pc, (∀ pc', dep < cx.nd → P (dep + 1) pc') →
      (∀ pc', pc < pc' → pc < cx.prog.length → P dep pc') → P dep pc) :
    ∀ dep pc, P dep pc :=
  Lemmas.C10.loop_induction cx P step

/-! ## invariants of successful runs -/

/-- what the instruction at `pc` owes to an invariant `I` of the states: `I` at the states it
    continues with, `Q` at `mtch` -/
def StepInv (I : Nat → Nat → Marks → Prop) (Q : Nat → Marks → Prop) (pc pos : Nat) (m : Marks) : Inst → Prop
  | .atom a => ∀ pos', atomMatch a cx.subj cx.flg pos = AR.ok pos' → I (pc + 1) pos' m
  | .mark k => I (pc + 1) pos (if k < cx.ngrps then m.set k (pos : Int) else m)
  | .jump a => I a pos m
  | .fork a1 a2 => I a1 pos m ∧ I a2 pos m
  | .mtch => Q pos m

theorem loop_invariant (I : Nat → Nat → Marks → Prop) (Q : Nat → Marks → Prop)
    (step : ∀ pc inst pos m, cx.prog[pc]? = some inst → I pc pos m → StepInv cx I Q pc pos m inst) :
    ∀ dep pc pos m cuts p' m' c', I pc pos m → loop cx dep pc pos m cuts = Res.ok p' m' c' →
      Q p' m' := by
  intro dep pc pos m cuts p' m' c' hI h
  -- the run in lockstep with itself, the states equal and in `I`
  have hr := Lemmas.C10.loop_rel cx cx rfl rfl (S := fun pc p m p' m' => p = p' ∧ m = m' ∧ I pc p m)
    (Q := fun p m _ _ => Q p m) (C := fun _ _ => True) (fun _ _ _ => trivial) ?_
    dep pc pos m pos m cuts cuts ⟨rfl, rfl, hI⟩ trivial
  · rw [h] at hr; exact hr.1
  rintro pc inst pos m _ _ hi ⟨rfl, rfl, hI⟩
  have hs := step pc inst pos m hi hI
  cases inst with
  | atom a =>
    show Lemmas.C10.ARRel _ (atomMatch a cx.subj cx.flg pos) (atomMatch a cx.subj cx.flg pos)
    cases hm : atomMatch a cx.subj cx.flg pos with
    | ok j => exact ⟨rfl, rfl, hs j hm⟩
    | fail => trivial
    | trap => trivial
  | mark k => exact ⟨rfl, rfl, hs⟩
  | jump a => exact ⟨rfl, rfl, hs⟩
  | fork a1 a2 => exact ⟨⟨rfl, rfl, hs.1⟩, rfl, rfl, hs.2⟩
  | mtch => exact hs

/-! ## a set of positions that the atoms keep

`J` is kept by the atoms of the program (`AtomsKeep`); then a run entered at a position in `J` with
marks that are unset or in `J` ends so.  The offsets inside the subject (`C11Range`) and the offsets on
character boundaries (`C11bVM`) are the two instances. -/

/-- every mark is unset (`-1`) or a position in `J` -/
def MarksIn (J : Nat → Prop) (m : Marks) : Prop := ∀ x ∈ m, x = -1 ∨ ∃ k : Nat, x = (k : Int) ∧ J k

theorem marksIn_replicate (J : Nat → Prop) (n : Nat) : MarksIn J (List.replicate n (-1)) :=
  fun _ hx => Or.inl (List.mem_replicate.mp hx).2

theorem marksIn_set {J : Nat → Prop} {m : Marks} (k pos : Nat) (h : MarksIn J m) (hp : J pos) :
    MarksIn J (m.set k (pos : Int)) := by
  intro x hx
  rcases List.mem_or_eq_of_mem_set hx with hx | hx
  · exact h x hx
  · exact Or.inr ⟨pos, hx, hp⟩

/-- each atom of the program leads from `J` into `J` -/
def AtomsKeep (J : Nat → Prop) : Prop :=
  ∀ a, Inst.atom a ∈ cx.prog → ∀ pos pos', J pos → atomMatch a cx.subj cx.flg pos = AR.ok pos' → J pos'

theorem keeps_step {J : Nat → Prop} (hat : AtomsKeep cx J) (pc : Nat) (inst : Inst) (pos : Nat) (m : Marks)
    (hi : cx.prog[pc]? = some inst) (h : J pos ∧ MarksIn J m) :
    StepInv cx (fun _ pos m => J pos ∧ MarksIn J m) (fun pos m => J pos ∧ MarksIn J m) pc pos m inst := by
  obtain ⟨hb, hm⟩ := h
  cases inst with
  | atom a => exact fun pos' heq => ⟨hat a (List.mem_of_getElem? hi) pos pos' hb heq, hm⟩
  | mark k =>
    refine ⟨hb, ?_⟩
    split
    · exact marksIn_set k pos hm hb
    · exact hm
  | jump a => exact ⟨hb, hm⟩
  | fork a1 a2 => exact ⟨⟨hb, hm⟩, hb, hm⟩
  | mtch => exact ⟨hb, hm⟩

theorem loop_keeps {J : Nat → Prop} (hat : AtomsKeep cx J) :
    ∀ dep pc pos m cuts p' m' c', J pos → MarksIn J m →
      loop cx dep pc pos m cuts = Res.ok p' m' c' → J p' ∧ MarksIn J m' :=
  fun dep pc pos m cuts p' m' c' hb hm h =>
    loop_invariant cx _ (fun pos m => J pos ∧ MarksIn J m) (keeps_step cx hat) dep pc pos m cuts p' m' c' ⟨hb, hm⟩ h

theorem recmatch_keeps {J : Nat → Prop} (hat : AtomsKeep cx J) {start cuts pos : Nat} {m : Marks}
    {c : Nat} (hs : J start) (h : recmatch cx start cuts = Res.ok pos m c) : J pos ∧ MarksIn J m := by
  unfold recmatch at h
  rw [act_eq] at h
  split at h
  · cases h
  · exact loop_keeps cx hat _ _ _ _ _ _ _ _ hs (marksIn_replicate _ _) h

theorem loop_no_trap_of (hwf : WfProg cx.prog) (J : Nat → Prop)
    (hat : ∀ a pos, J pos → atomMatch a cx.subj cx.flg pos ≠ AR.trap ∧
      ∀ pos', atomMatch a cx.subj cx.flg pos = AR.ok pos' → J pos') :
    ∀ dep pc, pc < cx.prog.length → ∀ pos m cuts, J pos → loop cx dep pc pos m cuts ≠ Res.trap := by
  apply loop_induction cx (fun dep pc =>
    pc < cx.prog.length → ∀ pos m cuts, J pos → loop cx dep pc pos m cuts ≠ Res.trap)
  intro dep pc ihd ihp hpc pos m cuts hJ
  obtain ⟨inst, hi⟩ : ∃ inst, cx.prog[pc]? = some inst := ⟨_, List.getElem?_eq_getElem hpc⟩
  have hw := hwf pc inst hi
  cases inst with
  | atom a =>
    simp only [EdgeOk] at hw
    rw [loop_atom cx hi]
    split
    · intro h; cases h
    · rename_i heq; exact absurd heq (hat a pos hJ).1
    · rename_i pos' heq
      exact ihp (pc + 1) (by omega) hpc hw _ _ _ ((hat a pos hJ).2 pos' heq)
  | mark k =>
    simp only [EdgeOk] at hw
    rw [loop_mark cx hi]
    exact ihp (pc + 1) (by omega) hpc hw _ _ _ hJ
  | jump a =>
    simp only [EdgeOk] at hw
    rw [loop_jump cx hi, if_pos hw.1]
    exact ihp a hw.1 hpc hw.2 _ _ _ hJ
  | fork a1 a2 =>
    simp only [EdgeOk] at hw
    rw [loop_fork cx hi]
    split
    · intro h; cases h
    · rename_i heq
      rw [act_eq] at heq
      split at heq
      · cases heq
      · exact absurd heq (ihd a1 (by omega) hw.1 _ _ _ hJ)
    · rw [if_pos hw.2.1]
      exact ihp a2 hw.2.1 hpc hw.2.2 _ _ _ hJ
  | mtch =>
    rw [loop_mtch cx hi]
    intro h; cases h

theorem loop_no_trap (hwf : WfProg cx.prog)
    (hat : ∀ a pos, atomMatch a cx.subj cx.flg pos ≠ AR.trap) :
    ∀ dep pc, pc < cx.prog.length → ∀ pos m cuts, loop cx dep pc pos m cuts ≠ Res.trap :=
  fun dep pc hpc pos m cuts =>
    loop_no_trap_of cx hwf (fun _ => True) (fun a pos _ => ⟨hat a pos, fun _ _ => trivial⟩)
      dep pc hpc pos m cuts trivial

theorem act_no_trap (hwf : WfProg cx.prog)
    (hat : ∀ a pos, atomMatch a cx.subj cx.flg pos ≠ AR.trap) :
    ∀ dep pc, pc < cx.prog.length → ∀ pos m cuts, act cx dep pc pos m cuts ≠ Res.trap := by
  intro dep pc hpc pos m cuts
  rw [act_eq]
  split
  · intro h; cases h
  · exact loop_no_trap cx hwf hat _ _ hpc _ _ _

end Neatvi.Props.C11
