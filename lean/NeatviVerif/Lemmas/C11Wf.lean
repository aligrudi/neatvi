import NeatviVerif.Lemmas.C11Emit
/-!
# C11: every jump and fork target written by `emit` lies inside the emitted segment
-/
namespace Neatvi.Props.C11
open Neatvi Neatvi.Regex

/-- the instruction at address `pc` of a segment whose targets must lie in `[lo, e]`; second fork
    targets and jump targets go strictly forward -/
def InstOk (lo pc e : Nat) : Inst → Prop
  | .jump t => pc < t ∧ t ≤ e
  | .fork t1 t2 => lo ≤ t1 ∧ t1 ≤ e ∧ pc < t2 ∧ t2 ≤ e
  | _ => True

/-- the code `code` laid out from address `a` only targets `[lo, e]` -/
def SegOk (code : List Inst) (a lo e : Nat) : Prop :=
  ∀ i inst, code[i]? = some inst → InstOk lo (a + i) e inst

theorem instOk_mono {lo lo' pc e e' : Nat} {x : Inst} (h : InstOk lo pc e x) (hl : lo' ≤ lo)
    (he : e ≤ e') : InstOk lo' pc e' x := by
  cases x <;> simp only [InstOk] at h ⊢ <;> omega

theorem segOk_nil {a lo e : Nat} : SegOk [] a lo e := by
  intro i inst h; simp at h

theorem segOk_single {x : Inst} {a lo e : Nat} (h : InstOk lo a e x) : SegOk [x] a lo e := by
  intro i inst hi
  cases i with
  | zero => simp at hi; subst hi; exact h
  | succ i => simp at hi

theorem segOk_append {x y : List Inst} {a lo e : Nat} (hx : SegOk x a lo e)
    (hy : SegOk y (a + x.length) lo e) : SegOk (x ++ y) a lo e := by
  intro i inst h
  by_cases hi : i < x.length
  · rw [List.getElem?_append_left hi] at h
    exact hx i inst h
  · rw [List.getElem?_append_right (by omega)] at h
    have := hy (i - x.length) inst h
    rw [show a + x.length + (i - x.length) = a + i by omega] at this
    exact this

theorem segOk_mono {c : List Inst} {a lo lo' e e' : Nat} (h : SegOk c a lo e) (hl : lo' ≤ lo)
    (he : e ≤ e') : SegOk c a lo' e' :=
  fun i inst hi => instOk_mono (h i inst hi) hl he

theorem segOk_ite {c : Prop} [Decidable c] {x : Inst} {a lo e : Nat} (h : c → InstOk lo a e x) :
    SegOk (if c then [x] else []) a lo e := by
  split
  · exact segOk_single (h ‹_›)
  · exact segOk_nil

/-- copies laid out in the room `[base, r]`, each of which targets `[lo, e]` wherever it stands in
    that room -/
theorem segOk_emitCopies (body : Nat → List Inst) (bl lo e r : Nat)
    (hlen : ∀ b, (body b).length = bl)
    (hbody : ∀ b, lo ≤ b → b + bl ≤ r → SegOk (body b) b lo e) :
    ∀ k base, lo ≤ base → base + k * bl ≤ r → SegOk (emitCopies body bl k base) base lo e := by
  intro k
  induction k with
  | zero => intro base _ _; exact segOk_nil
  | succ k ih =>
    intro base hlo he
    rw [Nat.add_one_mul] at he
    simp only [emitCopies]
    refine segOk_append (hbody base hlo (by omega)) ?_
    rw [hlen]
    exact ih (base + bl) (by omega) (by omega)

theorem segOk_emitOpts (body : Nat → List Inst) (bl lo e endA : Nat)
    (hlen : ∀ b, (body b).length = bl)
    (hbody : ∀ b, lo ≤ b → b + bl ≤ e → SegOk (body b) b lo e) (hend : endA ≤ e) :
    ∀ k base, lo ≤ base → base + k * (1 + bl) ≤ endA →
      SegOk (emitOpts body bl endA k base) base lo e := by
  intro k base
  rw [emitOpts_eq_copies]
  refine segOk_emitCopies _ (1 + bl) lo e endA (fun b => by rw [List.length_append, hlen]; rfl)
    (fun b hb he => segOk_append (segOk_single ?_) (hbody (b + 1) (by omega) (by omega))) k base
  simp only [InstOk]; omega

theorem segOk_emitRep (body : Nat → List Inst) (bl : Nat) (mn mx : Int) (lo e : Nat)
    (hlen : ∀ b, (body b).length = bl)
    (hbody : ∀ b, lo ≤ b → b + bl ≤ e → SegOk (body b) b lo e)
    (base : Nat) (hlo : lo ≤ base) (he : base + repLen bl mn mx ≤ e) :
    SegOk (emitRep body bl mn mx base) base lo e := by
  by_cases h00 : mn = 0 ∧ mx = 0
  · obtain ⟨rfl, rfl⟩ := h00
    exact segOk_nil
  by_cases h11 : mn = 1 ∧ mx = 1
  · obtain ⟨rfl, rfl⟩ := h11
    exact hbody base hlo he
  rw [Lemmas.C10.emitRep_general body base h00 h11]
  simp only [Lemmas.C10.repLead_length, Lemmas.C10.repStar_length]
  rw [Lemmas.C10.repLen_general h00 h11] at he ⊢
  have hcb : bl ≤ (max 1 mn).toNat * bl := Nat.le_mul_of_pos_left bl (by omega)
  generalize (max 1 mn).toNat = C at *
  generalize (mx - max 1 mn).toNat = O at *
  generalize hL : (if mn = 0 then 1 else 0 : Nat) = L at *
  generalize hS : (if mx < 0 then 1 else 0 : Nat) = S at *
  refine segOk_append (segOk_append (segOk_append ?_ ?_) ?_) ?_
  · refine segOk_ite (fun h => ?_)
    rw [if_pos (beq_iff_eq.mp h)] at hL
    simp only [InstOk]; omega
  · rw [Lemmas.C10.repLead_length, hL]
    exact segOk_emitCopies body bl lo e e hlen hbody C (base + L) (by omega) (by omega)
  · rw [List.length_append, Lemmas.C10.repLead_length, hL, emitCopies_length body bl hlen]
    refine segOk_ite (fun h => ?_)
    rw [if_pos h] at hS
    simp only [InstOk]; omega
  · rw [List.length_append, List.length_append, Lemmas.C10.repLead_length,
      Lemmas.C10.repStar_length, hL, hS, emitCopies_length body bl hlen]
    rw [show base + (L + C * bl + S) = base + L + C * bl + S by omega]
    exact segOk_emitOpts body bl lo e _ hlen hbody he O _ (by omega) (by omega)

theorem segOk_emit (t : RNode) : ∀ base, SegOk (emit t base) base base (base + emitLen t) := by
  induction t with
  | nul => intro base; exact segOk_nil
  | atom a mn mx =>
    intro base
    simp only [emit, emitLen]
    exact segOk_emitRep (fun _ => [Inst.atom a]) 1 mn mx base _ (fun _ => rfl)
      (fun b _ _ => segOk_single (x := Inst.atom a) trivial) base
      (Nat.le_refl _) (Nat.le_refl _)
  | cat a b iha ihb =>
    intro base
    simp only [emit, emitLen]
    refine segOk_append (segOk_mono (iha base) (Nat.le_refl _) (by omega)) ?_
    rw [emit_length_aux]
    exact segOk_mono (ihb (base + emitLen a)) (by omega) (by omega)
  | alt a b iha ihb =>
    intro base
    simp only [emit, emitLen]
    refine segOk_append (segOk_append (segOk_append (segOk_single ?_) ?_) (segOk_single ?_)) ?_
    · simp only [InstOk]; omega
    · exact segOk_mono (iha (base + 1)) (by omega) (by omega)
    · simp only [InstOk, List.length_append, List.length_singleton, emit_length_aux]; omega
    · simp only [List.length_append, List.length_singleton, emit_length_aux]
      rw [show base + (1 + emitLen a + 1) = base + 1 + emitLen a + 1 by omega]
      exact segOk_mono (ihb (base + 1 + emitLen a + 1)) (by omega) (by omega)
  | grp a g mn mx iha =>
    intro base
    simp only [emit, emitLen]
    refine segOk_emitRep _ (emitLen a + 2) mn mx base _ (fun b => by simp [emit_length_aux])
      (fun b hb he => ?_) base (Nat.le_refl _) (Nat.le_refl _)
    refine segOk_append (segOk_append (segOk_single trivial) ?_) (segOk_single trivial)
    exact segOk_mono (iha (b + 1)) (by omega) (by omega)

/-- the edge condition of the instruction at `pc` in a program of `n` instructions -/
def EdgeOk (n pc : Nat) : Inst → Prop
  | .jump a => pc < a ∧ a < n
  | .fork a1 a2 => a1 < n ∧ pc < a2 ∧ a2 < n
  | .atom _ => pc + 1 < n
  | .mark _ => pc + 1 < n
  | .mtch => True

/-- every edge of the program stays inside it; jumps and second fork targets go forward; `atom` and
    `mark` are not the last instruction -/
def WfProg (code : List Inst) : Prop :=
  ∀ pc inst, code[pc]? = some inst → EdgeOk code.length pc inst

theorem lt_of_getElem? {l : List Inst} {pc : Nat} {x : Inst} (h : l[pc]? = some x) : pc < l.length :=
  (List.getElem?_eq_some_iff.mp h).1

theorem wrap_cases {body : List Inst} {k0 k1 pc : Nat} {inst : Inst}
    (h : ([Inst.mark k0] ++ body ++ [Inst.mark k1, Inst.mtch])[pc]? = some inst) :
    (pc = 0 ∧ inst = Inst.mark k0) ∨ (1 ≤ pc ∧ pc < 1 + body.length ∧ body[pc - 1]? = some inst) ∨
      (pc = 1 + body.length ∧ inst = Inst.mark k1) ∨
      (pc = 1 + body.length + 1 ∧ inst = Inst.mtch) := by
  have hl : ([Inst.mark k0] ++ body).length = 1 + body.length := by
    rw [List.length_append, List.length_singleton]
  by_cases h2 : pc < 1 + body.length
  · rw [List.getElem?_append_left (by omega)] at h
    cases pc with
    | zero => cases h; exact Or.inl ⟨rfl, rfl⟩
    | succ i =>
      rw [List.getElem?_append_right (Nat.le_add_left 1 i)] at h
      exact Or.inr (Or.inl ⟨Nat.le_add_left 1 i, h2, h⟩)
  · rw [List.getElem?_append_right (by omega), hl] at h
    obtain ⟨j, rfl⟩ : ∃ j, pc = 1 + body.length + j := ⟨_, (Nat.add_sub_cancel' (by omega)).symm⟩
    rw [Nat.add_sub_cancel_left] at h
    match j, h with
    | 0, h => cases h; exact Or.inr (Or.inr (Or.inl ⟨rfl, rfl⟩))
    | 1, h => cases h; exact Or.inr (Or.inr (Or.inr ⟨rfl, rfl⟩))
    | _ + 2, h => cases h

theorem wf_of_segOk (body : List Inst) (k0 k1 : Nat) (h : SegOk body 1 1 (1 + body.length)) :
    WfProg ([Inst.mark k0] ++ body ++ [Inst.mark k1, Inst.mtch]) := by
  intro pc inst hi
  have hn : ([Inst.mark k0] ++ body ++ [Inst.mark k1, Inst.mtch]).length = body.length + 3 := by
    simp
  rw [hn]
  obtain ⟨rfl, rfl⟩ | ⟨h1, h2, hb⟩ | ⟨rfl, rfl⟩ | ⟨rfl, rfl⟩ := wrap_cases hi
  · simp only [EdgeOk]; omega
  · have := h (pc - 1) inst hb
    rw [show 1 + (pc - 1) = pc by omega] at this
    cases inst <;> simp only [InstOk, EdgeOk] at this ⊢ <;> omega
  · simp only [EdgeOk]; omega
  · trivial

theorem emit_wf_aux (t : RNode) :
    WfProg ([Inst.mark 0] ++ emit t 1 ++ [Inst.mark 1, Inst.mtch]) := by
  apply wf_of_segOk
  rw [emit_length_aux]
  exact segOk_emit t 1

end Neatvi.Props.C11
