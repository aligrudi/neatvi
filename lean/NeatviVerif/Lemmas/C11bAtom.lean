import NeatviVerif.Lemmas.C11bUtf8
import NeatviVerif.Lemmas.C11Atom
/-!
# C11b, part 2: one atom leads from a character boundary to a character boundary
-/
namespace Neatvi.Props.C11b
open Neatvi Neatvi.Uc Neatvi.Regex Neatvi.Spec

/-- the literal of a `chr` atom is the encoding of valid code points -/
def StrictLit (s : Bytes) : Prop := ∃ ls, Valid ls ∧ s = encStr ls

/-- … or it starts with a continuation byte (the tail of a character the parser split: such a
    literal can never match at a character boundary of a valid subject) -/
def DeadLit (s : Bytes) : Prop := ∃ b r, s = b :: r ∧ Cont b

/-- a well-formed atom: only literals carry a condition (`.`, bracket sets and the anchors need
    none for the boundary property) -/
def WfAtom (a : Atom) : Prop := a.k = AK.chr → StrictLit a.s ∨ DeadLit a.s

/-- the strict form: every literal is the encoding of valid code points -/
def StrictAtom (a : Atom) : Prop := a.k = AK.chr → StrictLit a.s

theorem StrictAtom.wf {a : Atom} (h : StrictAtom a) : WfAtom a := fun hk => Or.inl (h hk)

theorem strict_take_drop {ls : List Nat} (hv : Valid ls) {n : Nat} (hb : Boundary ls n) :
    StrictLit ((encStr ls).take n) ∧ StrictLit ((encStr ls).drop n) := by
  obtain ⟨pre, post, h1, h2⟩ := boundary_split.mp hb
  have hv' := valid_append.mp (h1 ▸ hv)
  rw [h1, encStr_append, h2]
  exact ⟨⟨pre, hv'.1, by rw [List.take_left']; rfl⟩, ⟨post, hv'.2, by rw [List.drop_left']; rfl⟩⟩

theorem strict_drop_one {p : Bytes} (h : StrictLit p) (ha : p.headD 0 < 128) : StrictLit (p.drop 1) := by
  obtain ⟨ls, hv, e⟩ := h
  subst e
  cases ls with
  | nil => exact ⟨[], valid_nil, rfl⟩
  | cons c ls =>
    obtain ⟨a, t, he, hch⟩ := enc_chr (valid_cons.mp hv).1
    rw [encStr_cons, he] at ha ⊢
    simp at ha
    rcases hch.lead with ⟨_, ht⟩ | h2
    · subst ht
      exact ⟨ls, (valid_cons.mp hv).2, by simp⟩
    · omega

/-- `ratom_match` on a valid subject, started at a character boundary, ends at a character
    boundary.  Only a literal compared without ICASE needs a hypothesis. -/
theorem atomMatch_boundary_aux (a : Atom) (cs : List Nat) (flg pos pos' : Nat) (hv : Valid cs)
    (hwf : a.k = AK.chr → hasFlag flg REG_ICASE = false → StrictLit a.s ∨ DeadLit a.s)
    (hp : Boundary cs pos)
    (h : atomMatch a (encStr cs) flg pos = AR.ok pos') : Boundary cs pos' := by
  refine C11.atomMatch_inv (fun r => boundary_rx hv) (fun hk hic he => ?_) hp h
  rcases hwf hk hic with ⟨ls, hl, hs⟩ | ⟨b, r, hs, hb⟩
  · rw [hs] at he ⊢
    exact boundary_literal hv hl hp he
  · rw [hs] at he
    exact absurd he (boundary_dead hv hp hb)

end Neatvi.Props.C11b
