import NeatviVerif.Model.Regex
/-!
# C11b: `brk_len` stays inside the string and stops on the terminator, on `]`, or just after a `]`
-/
namespace Neatvi.Props.C11b
open Neatvi Neatvi.Regex

theorem getD_lt {s : Bytes} {n : Nat} (h : s.getD n 0 ≠ 0) : n < s.length := by
  by_cases hlt : n < s.length
  · exact hlt
  · rw [List.getD_eq_getElem?_getD, List.getElem?_eq_none (by omega)] at h
    exact absurd rfl h

theorem brkLenLoop_zero (s : Bytes) : ∀ f n, s.getD n 0 = 0 → brkLenLoop s f n = n := by
  intro f n h
  cases f with
  | zero => rfl
  | succ f => rw [brkLenLoop]; simp only [h]; simp

/-- the scan stopped on the terminator or on a `]` -/
def Stop (s : Bytes) (r : Nat) : Prop := s.getD r 0 = 0 ∨ s.getD r 0 = 93

/-- every round of the scan advances, so with enough fuel it ends on a `Stop` -/
theorem brkLenLoop_spec (s : Bytes) : ∀ f n r, n ≤ s.length → brkLenLoop s f n = r →
    r ≤ s.length ∧ (Stop s r ∨ n + f ≤ r) := by
  intro f
  induction f with
  | zero => intro n r hn h; cases h; exact ⟨hn, Or.inr (Nat.le_refl _)⟩
  | succ f ih =>
    intro n r hn h
    rw [brkLenLoop] at h
    extract_lets n1 n2 at h
    by_cases hc : (s.getD n 0 != 0 && s.getD n 0 != 93) = true
    · rw [if_pos hc] at h
      have hc0 : s.getD n 0 ≠ 0 := by
        rw [Bool.and_eq_true, bne_iff_ne] at hc
        exact hc.1
      have h1 : n ≤ n1 ∧ n1 ≤ s.length := by
        have := (List.takeWhile_sublist (l := s.drop n) (fun b => b != 93)).length_le
        rw [List.length_drop] at this
        dsimp only [n1]
        split
        · omega
        · omega
      have h2 : n < n2 ∧ n2 ≤ s.length := by
        dsimp only [n2]
        by_cases hz : (s.getD n1 0 != 0) = true
        · rw [if_pos hz]
          have := getD_lt (bne_iff_ne.mp hz)
          omega
        · rw [if_neg hz]
          have : n1 ≠ n := fun e => hz (by rw [e]; exact bne_iff_ne.mpr hc0)
          omega
      obtain ⟨hr, hs⟩ := ih n2 r h2.2 h
      exact ⟨hr, hs.imp_right (by omega)⟩
    · rw [if_neg hc] at h
      cases h
      rw [Bool.and_eq_true, bne_iff_ne, bne_iff_ne] at hc
      exact ⟨hn, Or.inl ((Decidable.not_and_iff_not_or_not.mp hc).imp Decidable.of_not_not
        Decidable.of_not_not)⟩

theorem skip_le {s : Bytes} {n c : Nat} (hc : c ≠ 0) (hn : n ≤ s.length) :
    (if (s.getD n 0 == c) = true then n + 1 else n) ≤ s.length := by
  by_cases h : (s.getD n 0 == c) = true
  · rw [if_pos h]
    exact getD_lt (by rw [eq_of_beq h]; exact hc)
  · rw [if_neg h]
    exact hn

theorem brkLen_spec (s : Bytes) (hs : 1 ≤ s.length) :
    brkLen s ≤ s.length ∧ (Stop s (brkLen s) ∨ (0 < brkLen s ∧ s.getD (brkLen s - 1) 0 = 93)) := by
  unfold brkLen
  extract_lets n0 n1 n2 n3
  have h2 : n2 ≤ s.length := skip_le (by decide) (skip_le (by decide) hs)
  obtain ⟨h3, hst⟩ := brkLenLoop_spec s _ n2 n3 h2 rfl
  clear_value n3
  have hstop : Stop s n3 := hst.resolve_right (by omega)
  by_cases h : (s.getD n3 0 == 93) = true
  · rw [if_pos h]
    have he := eq_of_beq h
    have := getD_lt (s := s) (n := n3) (by rw [he]; decide)
    exact ⟨this, Or.inr ⟨Nat.succ_pos _, he⟩⟩
  · rw [if_neg h]
    exact ⟨h3, Or.inl hstop⟩

end Neatvi.Props.C11b
