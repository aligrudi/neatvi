import NeatviVerif.Lemmas.C11bParse
/-!
# C11b, part 4: the literal-run loop of `ratom_read` on valid UTF-8, and the weak invariant

`Sfx p`: the remaining pattern is a suffix of a valid UTF-8 string (the parser's `{m,n` branch skips
one byte unseen, so the rest of the pattern may start inside a character).
-/
namespace Neatvi.Props.C11b
open Neatvi Neatvi.Regex Neatvi.Spec
open Neatvi.Basics (ite_eq_cases)

/-- a suffix of the encoding of valid code points -/
def Sfx (p : Bytes) : Prop := ∃ pre ls, Valid ls ∧ pre ++ p = encStr ls

theorem sfx_drop {p : Bytes} (h : Sfx p) (k : Nat) : Sfx (p.drop k) := by
  obtain ⟨pre, ls, hv, e⟩ := h
  exact ⟨pre ++ p.take k, ls, hv, by rw [List.append_assoc, List.take_append_drop]; exact e⟩

theorem sfx_of_strict {p : Bytes} (h : StrictLit p) : Sfx p := by
  obtain ⟨ls, hv, e⟩ := h
  exact ⟨[], ls, hv, by rw [e]; rfl⟩

/-- a suffix of valid UTF-8 is itself valid UTF-8 or starts with a continuation byte: a position that
    holds no continuation byte is a boundary -/
theorem sfx_cases {p : Bytes} (h : Sfx p) : StrictLit p ∨ DeadLit p := by
  obtain ⟨pre, ls, hv, e⟩ := h
  cases p with
  | nil => exact Or.inl ⟨[], valid_nil, rfl⟩
  | cons b r =>
    have hb : (encStr ls).getD pre.length 0 = b := by
      rw [← e, List.getD_eq_getElem?_getD, List.getElem?_append_right (Nat.le_refl _), Nat.sub_self]
      rfl
    by_cases hc : Cont b
    · exact Or.inr ⟨b, r, rfl, hc⟩
    · obtain ⟨l1, l2, e1, e2⟩ := C12.boundary_of_noncont ls hv pre.length
        (by rw [← e, List.length_append]; omega) (by rw [hb]; exact hc)
      have := (strict_take_drop hv (boundary_split.mpr ⟨l1, l2, e1, e2⟩)).2
      rw [← e, List.drop_left' rfl] at this
      exact Or.inl this

/-! ## the literal run -/

theorem litLoop_step {p : Bytes} {f i n : Nat} (h : litLoop p (f + 1) i = some n) :
    (i ≠ 0 ∧ n = i) ∨ (¬ (i = 0 ∧ rxLen p i = 0) ∧ litLoop p f (i + rxLen p i) = some n) := by
  rw [litLoop] at h
  split at h
  · cases h
  · rcases ite_eq_cases h with ⟨_, h⟩ | ⟨h1, h⟩
    · rcases ite_eq_cases h with ⟨_, h⟩ | ⟨h2, h⟩
      · cases h
      · split at h
        · cases h
        · rcases ite_eq_cases h with ⟨h3, h⟩ | ⟨_, h⟩
          · cases h
            simp only [Bool.and_eq_true, bne_iff_ne] at h3
            exact Or.inl ⟨h3.1.1, rfl⟩
          · simp only [Bool.and_eq_true, beq_iff_eq] at h2
            exact Or.inr ⟨h2, h⟩
    · cases h
      simp only [Bool.or_eq_true, beq_iff_eq, not_or] at h1
      exact Or.inl ⟨h1.1, rfl⟩

theorem litLoop_pos (p : Bytes) : ∀ f i n, litLoop p f i = some n → 0 < n := by
  intro f
  induction f with
  | zero => intro i n h; cases h
  | succ f ih =>
    intro i n h
    rcases litLoop_step h with ⟨hi, rfl⟩ | ⟨_, h⟩
    · omega
    · exact ih _ _ h

theorem litLoop_boundary {ls : List Nat} (hv : Valid ls) : ∀ f i n, Boundary ls i →
    litLoop (encStr ls) f i = some n → Boundary ls n := by
  intro f
  induction f with
  | zero => intro i n _ h; cases h
  | succ f ih =>
    intro i n hi h
    rcases litLoop_step h with ⟨_, rfl⟩ | ⟨_, h⟩
    · exact hi
    · exact ih _ _ (boundary_rx hv hi) h

theorem lit_take_strict {ls : List Nat} (hv : Valid ls) {f n : Nat}
    (h : litLoop (encStr ls) f 0 = some n) :
    StrictLit ((encStr ls).take n) ∧ StrictLit ((encStr ls).drop n) :=
  strict_take_drop hv (litLoop_boundary hv f 0 n (boundary_zero ls) h)

theorem lit_take_dead {b : Nat} {r : Bytes} (hb : Cont b) {f n : Nat}
    (h : litLoop (b :: r) f 0 = some n) : DeadLit ((b :: r).take n) := by
  have := litLoop_pos _ f 0 n h
  obtain ⟨m, rfl⟩ : ∃ m, n = m + 1 := ⟨n - 1, by omega⟩
  exact ⟨b, r.take m, rfl, hb⟩

theorem lit_atom {q : Bytes} (hq : Sfx q) {f n : Nat} (hl : litLoop q f 0 = some n) :
    WfAtom ⟨AK.chr, q.take n⟩ ∧ Sfx (q.drop n) := by
  refine ⟨fun _ => ?_, sfx_drop hq n⟩
  rcases sfx_cases hq with ⟨ls, hv, e⟩ | ⟨b, r, e, hb⟩
  · subst e; exact Or.inl (lit_take_strict hv hl).1
  · subst e; exact Or.inr (lit_take_dead hb hl)

theorem litLoop_nil_none : litLoop ([] : Bytes) (([] : Bytes).length + 2) 0 = none := by decide +kernel

theorem wfAtom_of_ne {k : AK} {s : Bytes} (h : k ≠ AK.chr) : WfAtom ⟨k, s⟩ := fun hk => absurd hk h

/-- the weak invariant: holds for every valid UTF-8 pattern -/
theorem parseInv_sfx : ParseInv Sfx WfAtom where
  ascii := fun _ hp _ => sfx_drop hp 1
  brace := fun _ hp _ k => sfx_drop hp k
  atom := fun _ _ _ => ratomRead_inv (I := Sfx) (fun _ hp _ => sfx_drop hp 1) (fun _ hk _ => wfAtom_of_ne hk)
    (fun _ hp _ => ⟨wfAtom_of_ne (by decide), sfx_drop hp _⟩) (fun _ _ _ hq => lit_atom hq)

end Neatvi.Props.C11b
