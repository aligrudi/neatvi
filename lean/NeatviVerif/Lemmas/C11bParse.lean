import NeatviVerif.Lemmas.C11bAtom
import NeatviVerif.Lemmas.C11Emit
/-!
# C11b, part 3: the atoms the parser builds from a valid UTF-8 pattern

The parser is followed with an invariant `I` on the remaining pattern and a property `Q` of the
atoms it builds (`ParseInv`); this is an instance of the induction over the parsers of `C11Parse`
(`ParseInv.pred`).  The walk through `ratom_read` is done once (`ratomRead_inv`).
-/
namespace Neatvi.Props.C11b
open Neatvi Neatvi.Regex
open Neatvi.Props.C11 (beq_lt)
open Neatvi.Basics (ite_eq_cases)

/-- what the generic induction needs: the invariant survives skipping an ASCII byte; at a `{` it
    survives skipping anything (the bounds are read byte-wise and the byte after them is skipped
    unseen); `ratom_read` yields a `Q` atom and a rest that satisfies the invariant -/
structure ParseInv (I : Bytes → Prop) (Q : Atom → Prop) : Prop where
  ascii : ∀ p, I p → p.headD 0 < 128 → I (p.drop 1)
  brace : ∀ p, I p → p.headD 0 = 123 → ∀ k, I (p.drop k)
  atom : ∀ p a rest, I p → ratomRead p = some (a, rest) → Q a ∧ I rest

theorem allAtoms_setRep {Q : Atom → Prop} {n : RNode} (mn mx : Int) (h : AllAtoms Q n) :
    AllAtoms Q (setRep n mn mx) := by
  cases n <;> exact h

/-- `ratom_read` walked once.  It skips one or two ASCII bytes and yields an operator without a string,
    or yields the bracket expression up to `brk_len`, or a literal run (after a backslash: from the
    byte behind it).  So an invariant passes through it as soon as it passes through each of these. -/
theorem ratomRead_inv {I : Bytes → Prop} {Q : Atom → Prop}
    (ascii : ∀ p, I p → p.headD 0 < 128 → I (p.drop 1))
    (op : ∀ k, k ≠ AK.chr → k ≠ AK.brk → Q ⟨k, []⟩)
    (brk : ∀ p, I p → p ≠ [] → Q ⟨AK.brk, p.take (brkLen p)⟩ ∧ I (p.drop (brkLen p)))
    (lit : ∀ q f n, I q → litLoop q f 0 = some n → Q ⟨AK.chr, q.take n⟩ ∧ I (q.drop n))
    {p : Bytes} {a : Atom} {rest : Bytes} (hp : I p) (h : ratomRead p = some (a, rest)) :
    Q a ∧ I rest := by
  have run : ∀ {q : Bytes} {f : Nat}, I q →
      (litLoop q f 0).map (fun n => ((⟨AK.chr, q.take n⟩ : Atom), q.drop n)) = some (a, rest) →
      Q a ∧ I rest := by
    intro q f hq h
    obtain ⟨n, hn, e⟩ := Option.map_eq_some_iff.mp h
    cases e
    exact lit q f n hq hn
  cases p with
  | nil => rw [ratomRead] at h; exact run hp h
  | cons c r =>
    have one : ∀ x, (c == x) = true → x < 128 → I r := fun x hx hlt =>
      ascii _ hp (beq_lt hx hlt)
    rw [ratomRead] at h
    rcases ite_eq_cases h with ⟨hc, h⟩ | ⟨_, h⟩
    · cases h
      exact ⟨op _ (by decide) (by decide), one _ hc (by decide)⟩
    rcases ite_eq_cases h with ⟨hc, h⟩ | ⟨_, h⟩
    · cases h
      exact ⟨op _ (by decide) (by decide), one _ hc (by decide)⟩
    rcases ite_eq_cases h with ⟨hc, h⟩ | ⟨_, h⟩
    · cases h
      exact ⟨op _ (by decide) (by decide), one _ hc (by decide)⟩
    rcases ite_eq_cases h with ⟨_, h⟩ | ⟨_, h⟩
    · cases h
      exact brk _ hp (List.cons_ne_nil c r)
    rcases ite_eq_cases h with ⟨hc, h⟩ | ⟨_, h⟩
    · have hr := one _ hc (by decide)
      rcases ite_eq_cases h with ⟨hc, h⟩ | ⟨_, h⟩
      · cases h
        exact ⟨op _ (by decide) (by decide), ascii _ hr (beq_lt hc (by decide))⟩
      rcases ite_eq_cases h with ⟨hc, h⟩ | ⟨_, h⟩
      · cases h
        exact ⟨op _ (by decide) (by decide), ascii _ hr (beq_lt hc (by decide))⟩
      exact run hr h
    exact run hp h

theorem ParseInv.pred {I : Bytes → Prop} {Q : Atom → Prop} (hI : ParseInv I Q) :
    C11.ParsePred I (AllAtoms Q) where
  ascii := hI.ascii
  brace := hI.brace
  atom := hI.atom
  nul := trivial
  cat := fun ha hb => ⟨ha, hb⟩
  alt := fun ha hb => ⟨ha, hb⟩
  grp := fun ha => ha
  rep := fun hn _ => allAtoms_setRep _ _ hn

theorem parse_inv {I : Bytes → Prop} {Q : Atom → Prop} (hI : ParseInv I Q) {p : Bytes} {t : RNode}
    (hp : I p) (h : parse p = some (some t)) : AllAtoms Q t :=
  C11.parse_pred hI.pred hp h

theorem grpnum_allAtoms {Q : Atom → Prop} (t : RNode) :
    ∀ num, AllAtoms Q t → AllAtoms Q (grpnum t num).1 := by
  induction t with
  | nul => intro num h; exact h
  | atom a mn mx => intro num h; exact h
  | cat a b iha ihb => intro num h; exact ⟨iha _ h.1, ihb _ h.2⟩
  | alt a b iha ihb => intro num h; exact ⟨iha _ h.1, ihb _ h.2⟩
  | grp a g mn mx iha => intro num h; exact iha _ h

/-- every atom instruction of a compiled program satisfies what the parser guarantees -/
theorem regcomp_atoms {I : Bytes → Prop} {Q : Atom → Prop} (hI : ParseInv I Q) {p : Bytes}
    {flg : Nat} {prog : Prog} (hp : I p) (h : regcomp p flg = some (some prog)) :
    ∀ a, Inst.atom a ∈ prog.code → Q a := by
  obtain ⟨t, ht, _, rfl⟩ := Lemmas.C10.regcomp_some h
  intro a ha
  simp only [List.mem_append] at ha
  rcases ha with (ha | ha) | ha
  · simp at ha
  · exact C11.atom_mem_emit (grpnum_allAtoms t 1 (parse_inv hI hp ht)) ha
  · simp at ha

end Neatvi.Props.C11b
