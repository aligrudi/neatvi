import NeatviVerif.Lemmas.C11bLit
import NeatviVerif.Lemmas.C11bBrk
/-!
# C11b, part 6: the strict invariant — patterns without `{`

Without the brace branch of `rnode_atom` the parser never leaves the character boundaries of the
pattern: every literal and every bracket expression is the encoding of whole characters.
-/
namespace Neatvi.Props.C11b
open Neatvi Neatvi.Regex Neatvi.Spec

/-- on valid UTF-8 `brk_len` ends on a character boundary: it stops on the terminator, on `]`, or
    just after a `]`, none of which is inside a multi-byte character -/
theorem brkLen_boundary {ls : List Nat} (hv : Valid ls) (hne : 1 ≤ (encStr ls).length) :
    Boundary ls (brkLen (encStr ls)) := by
  obtain ⟨hle, hst⟩ := brkLen_spec (encStr ls) hne
  have hnc : ¬ Props.C11b.Cont ((encStr ls).getD (brkLen (encStr ls)) 0) := by
    intro hc
    unfold Props.C11b.Cont at hc
    rcases hst with (h | h) | ⟨h0, h⟩
    · rw [h] at hc; omega
    · rw [h] at hc; omega
    · have hlt : brkLen (encStr ls) < (encStr ls).length := by
        apply getD_lt; omega
      have := C12.contPrev_encStr ls hv _ hlt hc
      rw [h] at this; omega
  obtain ⟨pre, post, e1, e2⟩ := C12.boundary_of_noncont ls hv _ hle hnc
  exact boundary_split.mpr ⟨pre, post, e1, e2⟩

/-! ## the strict invariant -/

/-- the remaining pattern is valid UTF-8 and contains no `{` -/
def NoBrace (p : Bytes) : Prop := StrictLit p ∧ 123 ∉ p

/-- literals and bracket expressions are encodings of whole characters -/
def StrictAtom2 (a : Atom) : Prop :=
  (a.k = AK.chr → StrictLit a.s) ∧ (a.k = AK.brk → StrictLit a.s)

theorem noBrace_drop {p : Bytes} (h : NoBrace p) {k : Nat} (hs : StrictLit (p.drop k)) :
    NoBrace (p.drop k) := ⟨hs, fun hm => h.2 (List.mem_of_mem_drop hm)⟩

theorem noBrace_ascii {p : Bytes} (h : NoBrace p) (ha : p.headD 0 < 128) : NoBrace (p.drop 1) :=
  noBrace_drop h (strict_drop_one h.1 ha)

theorem strictAtom2_of_ne {k : AK} {s : Bytes} (h1 : k ≠ AK.chr) (h2 : k ≠ AK.brk) :
    StrictAtom2 ⟨k, s⟩ := ⟨fun hk => absurd hk h1, fun hk => absurd hk h2⟩

theorem lit_atom_strict {q : Bytes} (hq : NoBrace q) {f n : Nat} (hl : litLoop q f 0 = some n) :
    StrictAtom2 ⟨AK.chr, q.take n⟩ ∧ NoBrace (q.drop n) := by
  obtain ⟨ls, hv, e⟩ := hq.1
  subst e
  have := lit_take_strict hv hl
  exact ⟨⟨fun _ => this.1, fun hk => nomatch hk⟩, noBrace_drop hq this.2⟩

theorem brk_atom_strict {p : Bytes} (hp : NoBrace p) (hne : p ≠ []) :
    StrictAtom2 ⟨AK.brk, p.take (brkLen p)⟩ ∧ NoBrace (p.drop (brkLen p)) := by
  obtain ⟨ls, hv, e⟩ := hp.1
  subst e
  have := strict_take_drop hv (brkLen_boundary hv (List.length_pos_iff.mpr hne))
  exact ⟨⟨fun hk => (nomatch hk), fun _ => this.1⟩, noBrace_drop hp this.2⟩

theorem parseInv_noBrace : ParseInv NoBrace StrictAtom2 where
  ascii := fun _ => noBrace_ascii
  brace := fun p hp hb k => by
    exfalso
    apply hp.2
    cases p with
    | nil => simp at hb
    | cons x r => simp at hb; subst hb; simp
  atom := fun _ _ _ => ratomRead_inv (I := NoBrace) (fun _ => noBrace_ascii) (fun _ => strictAtom2_of_ne)
    (fun _ => brk_atom_strict) (fun _ _ _ hq => lit_atom_strict hq)

end Neatvi.Props.C11b
