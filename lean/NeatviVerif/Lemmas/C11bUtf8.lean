import NeatviVerif.Props.C16
import NeatviVerif.Lemmas.Basics
import NeatviVerif.Model.Rset
/-!
# Character boundaries of an encoded string, as the regex engine meets them

For `encStr cs` with valid code points: the byte at a boundary is the lead byte of the character that starts there, and the
engine's step `rxLen` there is the length of its encoding (`C12.getD_at_enc`, `C12.rxLen_at`, `C12.at_boundary`); a position
that holds no continuation byte is a boundary (`C12.boundary_of_noncont`); every continuation byte follows a byte `≥ 128`
(`C12.contPrev_encStr`).  `Boundary cs k` is the name for what these lemmas spell `∃ pre post, cs = pre ++ post ∧
k = (encStr pre).length` (`boundary_split`).  `boundary_rx`: the engine's step leads from a boundary to the next one.  So
every start position `regexec` tries is a boundary: `tried_boundary` (`Lemmas/C11bVM.lean`) and `C12.boundary_of_starts`
(`Lemmas/C12Utf8.lean`) are that induction for `Tried` and for `C12.Starts`, two spellings of the same positions (`Starts`
also asks `i < |s|` at each step).  Last: UTF-8 is a prefix code.

The lemmas in `namespace Neatvi.C12` are those that C12, C16b and C11b share.
-/
namespace Neatvi.Props.C11b

/-- a continuation byte -/
def Cont (b : Nat) : Prop := 128 ≤ b ∧ b < 192

instance (b : Nat) : Decidable (Cont b) := by unfold Cont; infer_instance

end Neatvi.Props.C11b

namespace Neatvi.C12
open Neatvi Neatvi.Uc Neatvi.Regex Neatvi.Spec

theorem hd_enc_append {c : Nat} (hc : ValidCp c) (B : Bytes) : Bytes.hd (enc c ++ B) = Bytes.hd (enc c) := by
  obtain ⟨a, t, he, _⟩ := enc_chr hc
  rw [he]; rfl

theorem getD_append_right' (A B : Bytes) (j : Nat) : (A ++ B).getD (A.length + j) 0 = B.getD j 0 := by
  simp [List.getD_eq_getElem?_getD, List.getElem?_append_right]

theorem getD_zero_hd (B : Bytes) : B.getD 0 0 = Bytes.hd B := by
  cases B <;> rfl

theorem getD_at_enc {c : Nat} (hc : ValidCp c) (A B : Bytes) :
    (A ++ (enc c ++ B)).getD A.length 0 = Bytes.hd (enc c) := by
  have := getD_append_right' A (enc c ++ B) 0
  rw [Nat.add_zero] at this
  rw [this, getD_zero_hd, hd_enc_append hc]

theorem rxLen_at {c : Nat} (hc : ValidCp c) (A B : Bytes) :
    rxLen (A ++ (enc c ++ B)) A.length = (enc c).length := by
  unfold rxLen
  rw [getD_at_enc hc, Props.C16.len_enc hc]
  simp only [List.length_append]
  omega

theorem at_boundary {cs pre post : List Nat} {c : Nat} (h : cs = pre ++ c :: post) (hc : ValidCp c) :
    encStr cs = encStr pre ++ (enc c ++ encStr post) ∧
    (encStr cs).getD (encStr pre).length 0 = Bytes.hd (enc c) ∧
    rxLen (encStr cs) (encStr pre).length = (enc c).length := by
  have hsplit : encStr cs = encStr pre ++ (enc c ++ encStr post) := by rw [h, encStr_append, encStr_cons]
  rw [hsplit]
  exact ⟨rfl, getD_at_enc hc _ _, rxLen_at hc _ _⟩

theorem boundary_of_noncont : ∀ (cs : List Nat), (∀ c ∈ cs, ValidCp c) → ∀ r, r ≤ (encStr cs).length →
    ¬ Props.C11b.Cont ((encStr cs).getD r 0) → ∃ pre post, cs = pre ++ post ∧ r = (encStr pre).length := by
  intro cs
  induction cs with
  | nil =>
    intro _ r hr _
    exact ⟨[], [], rfl, by simpa using hr⟩
  | cons c cs ih =>
    intro hv r hr hnc
    obtain ⟨a, t, he, hch⟩ := enc_chr (hv c (by simp))
    by_cases h0 : r = 0
    · exact ⟨[], c :: cs, rfl, by simp [h0]⟩
    · rw [encStr_cons, he] at hr hnc
      by_cases h1 : r ≤ t.length
      · exfalso
        apply hnc
        obtain ⟨q, rfl⟩ : ∃ q, r = q + 1 := ⟨r - 1, by omega⟩
        rw [List.cons_append, List.getD_cons_succ, Basics.getD_append_left _ 0 (by omega)]
        exact hch.tl _ (Basics.getD_mem 0 (by omega))
      · obtain ⟨q, rfl⟩ : ∃ q, r = (a :: t).length + q := ⟨r - (t.length + 1), by simp; omega⟩
        rw [getD_append_right'] at hnc
        obtain ⟨pre, post, h2, h3⟩ := ih (fun d hd => hv d (by simp [hd])) q
          (by simp at hr; omega) hnc
        refine ⟨c :: pre, post, by rw [h2]; rfl, ?_⟩
        rw [encStr_cons, he, h3]; simp; omega

/-- every continuation byte is preceded by a byte `≥ 128` (a lead or continuation byte) -/
def ContPrev (s : Bytes) : Prop :=
  ∀ i, i < s.length → Props.C11b.Cont (s.getD i 0) → 0 < i ∧ 128 ≤ s.getD (i - 1) 0

theorem contPrev_encStr : ∀ (cs : List Nat), (∀ c ∈ cs, ValidCp c) → ContPrev (encStr cs) := by
  intro cs
  induction cs with
  | nil => intro _ i hi; simp at hi
  | cons c cs ih =>
    intro hv i hi hc
    obtain ⟨a, t, he, hch⟩ := enc_chr (hv c (by simp))
    rw [encStr_cons, he] at hi hc ⊢
    have hna : ¬ Props.C11b.Cont a := by
      unfold Props.C11b.Cont
      rcases hch.lead with ⟨h1, _⟩ | h1 <;> omega
    by_cases h0 : i = 0
    · subst h0; exact absurd hc hna
    · by_cases h1 : i ≤ t.length
      · refine ⟨by omega, ?_⟩
        obtain ⟨q, rfl⟩ : ∃ q, i = q + 1 := ⟨i - 1, by omega⟩
        rw [Nat.add_sub_cancel, List.cons_append]
        cases q with
        | zero =>
          rw [List.getD_cons_zero]
          rcases hch.lead with ⟨_, h2⟩ | h2
          · rw [h2] at h1; simp at h1
          · omega
        | succ q =>
          rw [List.getD_cons_succ, Basics.getD_append_left _ 0 (by omega)]
          exact (hch.tl _ (Basics.getD_mem 0 (by omega))).1
      · obtain ⟨q, rfl⟩ : ∃ q, i = (a :: t).length + q := ⟨i - (t.length + 1), by simp; omega⟩
        rw [getD_append_right'] at hc
        have := ih (fun d hd => hv d (by simp [hd])) q (by simp at hi; omega) hc
        refine ⟨by omega, ?_⟩
        rw [show (a :: t).length + q - 1 = (a :: t).length + (q - 1) by omega, getD_append_right']
        exact this.2

end Neatvi.C12

namespace Neatvi.Props.C11b
open Neatvi Neatvi.Uc Neatvi.Regex Neatvi.Spec

/-- every code point is one the editor handles (U+0001 .. U+10FFFF; the newline that ends a line is
    the code point 10) -/
def Valid (cs : List Nat) : Prop := ∀ c ∈ cs, ValidCp c

instance (cs : List Nat) : Decidable (Valid cs) := by unfold Valid; exact inferInstance

/-- `k` is a character boundary of `encStr cs`: the byte offset of some character, or the end -/
def Boundary (cs : List Nat) (k : Nat) : Prop :=
  ∃ j, j ≤ cs.length ∧ k = (encStr (cs.take j)).length

instance (cs : List Nat) (k : Nat) : Decidable (Boundary cs k) := by
  unfold Boundary; exact inferInstance

theorem valid_append {a b : List Nat} : Valid (a ++ b) ↔ Valid a ∧ Valid b := List.forall_mem_append

theorem valid_cons {a : Nat} {b : List Nat} : Valid (a :: b) ↔ ValidCp a ∧ Valid b := List.forall_mem_cons

theorem valid_nil : Valid [] := nofun

theorem valid_take {cs : List Nat} (h : Valid cs) (j : Nat) : Valid (cs.take j) :=
  fun c hc => h c (List.mem_of_mem_take hc)

theorem valid_drop {cs : List Nat} (h : Valid cs) (j : Nat) : Valid (cs.drop j) :=
  fun c hc => h c (List.mem_of_mem_drop hc)

theorem boundary_split {cs : List Nat} {k : Nat} :
    Boundary cs k ↔ ∃ pre post, cs = pre ++ post ∧ k = (encStr pre).length := by
  constructor
  · rintro ⟨j, _, hk⟩
    exact ⟨cs.take j, cs.drop j, (List.take_append_drop j cs).symm, hk⟩
  · rintro ⟨pre, post, rfl, rfl⟩
    exact ⟨pre.length, by rw [List.length_append]; omega, by rw [List.take_left']; rfl⟩

theorem boundary_zero (cs : List Nat) : Boundary cs 0 := ⟨0, Nat.zero_le _, by simp⟩

theorem boundary_length (cs : List Nat) : Boundary cs (encStr cs).length :=
  ⟨cs.length, Nat.le_refl _, by simp⟩

theorem boundary_le {cs : List Nat} {k : Nat} (h : Boundary cs k) : k ≤ (encStr cs).length := by
  obtain ⟨pre, post, h1, h2⟩ := boundary_split.mp h
  rw [h1, encStr_append, h2]; simp

theorem boundary_drop {cs : List Nat} {k : Nat} (h : Boundary cs k) :
    ∃ pre post, cs = pre ++ post ∧ k = (encStr pre).length ∧ (encStr cs).drop k = encStr post := by
  obtain ⟨pre, post, h1, h2⟩ := boundary_split.mp h
  refine ⟨pre, post, h1, h2, ?_⟩
  rw [h1, encStr_append, h2, List.drop_left']
  rfl

theorem rxLen_boundary (pre post : List Nat) {c : Nat} (hc : ValidCp c) :
    rxLen (encStr (pre ++ c :: post)) (encStr pre).length = (enc c).length := by
  rw [encStr_append, encStr_cons]
  exact C12.rxLen_at hc _ _

/-- the engine's step (`uc_len` of the lead byte, capped at the terminator) leads from a boundary to
    the next one; at the end of the subject it is 0 -/
theorem boundary_rx {cs : List Nat} (hv : Valid cs) {k : Nat} (h : Boundary cs k) :
    Boundary cs (k + rxLen (encStr cs) k) := by
  obtain ⟨pre, post, rfl, rfl⟩ := boundary_split.mp h
  cases post with
  | nil =>
    rw [List.append_nil] at h ⊢
    have : rxLen (encStr pre) (encStr pre).length ≤ (encStr pre).length - (encStr pre).length :=
      Nat.min_le_right _ _
    rw [Nat.sub_self] at this
    rw [Nat.le_zero.mp this]
    exact h
  | cons c post =>
    rw [rxLen_boundary pre post (hv c (by simp))]
    exact boundary_split.mpr ⟨pre ++ [c], post, by simp, by simp [encStr_append]⟩

/-- at a boundary strictly inside the subject the step is positive -/
theorem boundary_rx_pos {cs : List Nat} (hv : Valid cs) {k : Nat} (h : Boundary cs k)
    (hlt : k < (encStr cs).length) : 0 < rxLen (encStr cs) k := by
  obtain ⟨pre, post, rfl, rfl⟩ := boundary_split.mp h
  cases post with
  | nil => rw [List.append_nil] at hlt; omega
  | cons c post =>
    rw [rxLen_boundary pre post (hv c (by simp))]
    exact enc_length_pos c

/-! ## UTF-8 is a prefix code -/

theorem enc_len_of_hd {c d : Nat} (hc : ValidCp c) (hd : ValidCp d)
    (h : Bytes.hd (enc c) = Bytes.hd (enc d)) : (enc c).length = (enc d).length := by
  rw [← Props.C16.len_enc hc, ← Props.C16.len_enc hd, h]

/-- if the encoding of `ls` is a prefix of the encoding of `post`, it ends on a character boundary
    of `post` -/
theorem prefix_code : ∀ (ls post : List Nat), Valid ls → Valid post →
    (encStr post).take (encStr ls).length = encStr ls →
    ∃ p1 p2, post = p1 ++ p2 ∧ (encStr p1).length = (encStr ls).length := by
  intro ls
  induction ls with
  | nil => intro post _ _ _; exact ⟨[], post, rfl, rfl⟩
  | cons l ls ih =>
    intro post hl hp h
    obtain ⟨hlv, hls⟩ := valid_cons.mp hl
    obtain ⟨a', t', he', _⟩ := enc_chr hlv
    cases post with
    | nil =>
      rw [encStr_cons, he'] at h
      cases h
    | cons c post =>
      obtain ⟨hcv, hps⟩ := valid_cons.mp hp
      obtain ⟨a, t, he, _⟩ := enc_chr hcv
      have hlen : (enc c).length = (enc l).length := by
        apply enc_len_of_hd hcv hlv
        rw [encStr_cons, encStr_cons, he, he'] at h
        rw [he, he']
        exact (List.cons.inj h).1
      rw [encStr_cons, encStr_cons, List.length_append, ← hlen, List.take_append,
        Nat.add_sub_cancel_left] at h
      obtain ⟨p1, p2, e1, e2⟩ := ih post hls hps (List.append_inj h (by
        rw [List.length_take]; omega)).2
      refine ⟨c :: p1, p2, by rw [e1]; rfl, ?_⟩
      rw [encStr_cons, encStr_cons, List.length_append, List.length_append, e2, hlen]

/-- a byte-wise literal match of an encoded literal leads from a boundary to a boundary -/
theorem boundary_literal {cs ls : List Nat} (hv : Valid cs) (hl : Valid ls) {k : Nat}
    (h : Boundary cs k) (hm : ((encStr cs).drop k).take (encStr ls).length = encStr ls) :
    Boundary cs (k + (encStr ls).length) := by
  obtain ⟨pre, post, h1, h2, h3⟩ := boundary_drop h
  rw [h3] at hm
  have hpost : Valid post := by rw [h1] at hv; exact (valid_append.mp hv).2
  obtain ⟨p1, p2, e1, e2⟩ := prefix_code ls post hl hpost hm
  refine boundary_split.mpr ⟨pre ++ p1, p2, by rw [h1, e1]; simp, ?_⟩
  rw [encStr_append, List.length_append, h2, e2]

theorem encStr_not_cont {ls : List Nat} (hv : Valid ls) {b : Nat} {r : Bytes}
    (e : encStr ls = b :: r) : ¬ Cont b := by
  have := startOk_encStr hv
  rw [e] at this
  exact this

/-- a literal that starts with a continuation byte never matches at a boundary -/
theorem boundary_dead {cs : List Nat} (hv : Valid cs) {k b : Nat} {r : Bytes}
    (h : Boundary cs k) (hb : Cont b) :
    ((encStr cs).drop k).take (b :: r).length ≠ b :: r := by
  obtain ⟨pre, post, h1, h2, h3⟩ := boundary_drop h
  rw [h3]
  intro he
  cases hp : encStr post with
  | nil => rw [hp] at he; cases he
  | cons x xs =>
    rw [hp, List.length_cons, List.take_succ_cons] at he
    rw [(List.cons.inj he).1] at hp
    exact encStr_not_cont (valid_append.mp (h1 ▸ hv)).2 hp hb

end Neatvi.Props.C11b
