import NeatviVerif.Lemmas.C11bLit
import NeatviVerif.Props.C10
import NeatviVerif.Lemmas.C11VM
/-!
# C11b, part 5: the VM started at a character boundary only visits character boundaries
-/
namespace Neatvi.Props.C11b
open Neatvi Neatvi.Regex Neatvi.Spec

/-- a reported offset: unset (`-1`) or a character boundary -/
def OffB (cs : List Nat) (x : Int) : Prop := x = -1 ∨ ∃ k : Nat, x = (k : Int) ∧ Boundary cs k

/-- every mark is unset or a character boundary -/
def MarksB (cs : List Nat) (m : Marks) : Prop := ∀ x ∈ m, OffB cs x

theorem offB_getD {cs : List Nat} {m : Marks} (h : MarksB cs m) (i : Nat) : OffB cs (m.getD i (-1)) := by
  rw [List.getD_eq_getElem?_getD]
  cases hi : m[i]? with
  | none => exact Or.inl rfl
  | some x => exact h x (List.mem_of_getElem? hi)

variable (cx : Ctx)

/-- the hypothesis on the atoms of the program: each leads from a boundary to a boundary
    (`C11.AtomsKeep cx (Boundary cs)` written out) -/
def AtomB (cs : List Nat) : Prop :=
  ∀ a, Inst.atom a ∈ cx.prog → ∀ pos pos', Boundary cs pos →
    atomMatch a cx.subj cx.flg pos = AR.ok pos' → Boundary cs pos'

theorem atomB_of_wf {cs : List Nat} (hv : Valid cs) (hs : cx.subj = encStr cs)
    (hwf : ∀ a, Inst.atom a ∈ cx.prog → WfAtom a) : AtomB cx cs := by
  intro a ha pos pos' hp h
  rw [hs] at h
  exact atomMatch_boundary_aux a cs cx.flg pos pos' hv (fun hk _ => hwf a ha hk) hp h

/-- with ICASE no hypothesis on the program is needed at all -/
theorem atomB_of_icase {cs : List Nat} (hv : Valid cs) (hs : cx.subj = encStr cs)
    (hic : hasFlag cx.flg REG_ICASE = true) : AtomB cx cs := by
  intro a _ pos pos' hp h
  rw [hs] at h
  exact atomMatch_boundary_aux a cs cx.flg pos pos' hv
    (fun _ hf => by rw [hic] at hf; cases hf) hp h

/-- `MarksB cs` is `C11.MarksIn (Boundary cs)` spelled out -/
theorem loop_boundary {cs : List Nat} (hat : AtomB cx cs) :
    ∀ dep pc pos m cuts p' m' c', Boundary cs pos → MarksB cs m →
      loop cx dep pc pos m cuts = Res.ok p' m' c' → Boundary cs p' ∧ MarksB cs m' :=
  C11.loop_keeps cx hat

theorem recmatch_boundary {cs : List Nat} (hat : AtomB cx cs) {start cuts pos : Nat} {m : Marks}
    {c : Nat} (hs : Boundary cs start) (h : recmatch cx start cuts = Res.ok pos m c) :
    Boundary cs pos ∧ MarksB cs m :=
  C11.recmatch_keeps cx hat hs h

/-! ## every state of the machine, not only those on the successful path

`Reach` over-approximates the states `(pc, pos, marks)` that `re_rec` visits from a start position:
both branches of every fork, at any depth. -/
inductive Reach (start : Nat) : Nat → Nat → Marks → Prop
  | init : Reach start 0 start (List.replicate (2 * cx.ngrps) (-1))
  | atom {pc pos m a pos'} : Reach start pc pos m → cx.prog[pc]? = some (Inst.atom a) →
      atomMatch a cx.subj cx.flg pos = AR.ok pos' → Reach start (pc + 1) pos' m
  | mark {pc pos m k} : Reach start pc pos m → cx.prog[pc]? = some (Inst.mark k) →
      Reach start (pc + 1) pos (if k < cx.ngrps then m.set k (pos : Int) else m)
  | jump {pc pos m a} : Reach start pc pos m → cx.prog[pc]? = some (Inst.jump a) → Reach start a pos m
  | fork1 {pc pos m a1 a2} : Reach start pc pos m → cx.prog[pc]? = some (Inst.fork a1 a2) →
      Reach start a1 pos m
  | fork2 {pc pos m a1 a2} : Reach start pc pos m → cx.prog[pc]? = some (Inst.fork a1 a2) →
      Reach start a2 pos m

theorem reach_invariant (I : Nat → Nat → Marks → Prop) (Q : Nat → Marks → Prop)
    (step : ∀ pc inst pos m, cx.prog[pc]? = some inst → I pc pos m → C11.StepInv cx I Q pc pos m inst)
    {start : Nat} (h0 : I 0 start (List.replicate (2 * cx.ngrps) (-1))) {pc pos : Nat} {m : Marks}
    (h : Reach cx start pc pos m) : I pc pos m := by
  induction h with
  | init => exact h0
  | atom _ hi hm ih => exact step _ _ _ _ hi ih _ hm
  | mark _ hi ih => exact step _ _ _ _ hi ih
  | jump _ hi ih => exact step _ _ _ _ hi ih
  | fork1 _ hi ih => exact (step _ _ _ _ hi ih).1
  | fork2 _ hi ih => exact (step _ _ _ _ hi ih).2

theorem reach_boundary {cs : List Nat} (hat : AtomB cx cs) {start : Nat} (hs : Boundary cs start)
    {pc pos : Nat} {m : Marks} (h : Reach cx start pc pos m) : Boundary cs pos ∧ MarksB cs m :=
  reach_invariant cx (fun _ pos m => Boundary cs pos ∧ MarksB cs m) _ (C11.keeps_step cx hat)
    ⟨hs, C11.marksIn_replicate _ _⟩ h

/-! ## the start-position loop -/

theorem execLoop_boundary {cs : List Nat} (hv : Valid cs) (hsubj : cx.subj = encStr cs)
    (hat : AtomB cx cs) (f start cuts : Nat) (m : Marks) (c : Nat) (hs : Boundary cs start)
    (h : execLoop cx f start cuts = ExecRes.found m c) : MarksB cs m := by
  obtain ⟨s, cuts', p, hf, hrm⟩ := Neatvi.Props.C10.leftmost_vm cx f start cuts m c h
  exact (recmatch_boundary cx hat (hf.keeps (fun r hb => by rw [hsubj]; exact boundary_rx hv hb) hs) hrm).2

/-- the start positions `regexec` tries -/
inductive Tried : Nat → Prop
  | zero : Tried 0
  | step {i : Nat} : Tried i → Tried (i + rxLen cx.subj i)

theorem tried_boundary {cs : List Nat} (hv : Valid cs) (hsubj : cx.subj = encStr cs) {i : Nat}
    (h : Tried cx i) : Boundary cs i := by
  induction h with
  | zero => exact boundary_zero cs
  | step _ ih => rw [hsubj]; exact boundary_rx hv ih

end Neatvi.Props.C11b
