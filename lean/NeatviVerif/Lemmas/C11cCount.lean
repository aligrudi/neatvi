import NeatviVerif.Lemmas.C11Rep
/-!
# C11c: the clamped program-size estimate `countSat` against the unbounded `count`

`rnode_count()` in regex.c clamps every value it returns to `NCODE`, so that the products of nested
bounded repetitions stay inside `int`; `regcomp()` refuses the pattern when `count + 3 > NCODE`.
The model has both: `count` (the mathematical size estimate, unbounded) and `countSat` (what the C
code computes).  This file proves that on every tree the parser can produce (`TreeOk`)

* `countSat t = min (count t) NCODE` (`countSat_eq_min`);
* below the limit nothing was clamped (`countSat_small`) and the limit test is the same on both
  (`countSat_big`);
* `0 ≤ countSat t ≤ NCODE` (`countSat_bounded`) and every intermediate value of the C arithmetic is
  inside `int` (`countRepSat_no_overflow`, `countSat_arg_bounded`).
-/
namespace Neatvi.Lemmas.C11c
open Neatvi Neatvi.Regex Neatvi.Props.C11

theorem ncode_val : (Gen.NCODE : Int) = 1048576 := by decide
theorem nreps_val : (Gen.NREPS : Int) = 128 := by decide

theorem sat_le (n : Int) : sat n ≤ n ∧ sat n ≤ (Gen.NCODE : Int) := by
  unfold sat; split <;> omega

theorem sat_eq_of_lt {n : Int} (h : n < (Gen.NCODE : Int)) : sat n = n := by
  unfold sat; rw [if_pos h]

theorem sat_eq_of_ge {n : Int} (h : (Gen.NCODE : Int) ≤ n) : sat n = (Gen.NCODE : Int) := by
  unfold sat; rw [if_neg (by omega)]

theorem sat_mono {a b : Int} (h : a ≤ b) : sat a ≤ sat b := by
  unfold sat; split <;> split <;> omega

theorem sat_eq_min (n : Int) : sat n = min n (Gen.NCODE : Int) := by
  unfold sat; split <;> omega

theorem sat_idem (n : Int) : sat (sat n) = sat n := by
  by_cases h : n < (Gen.NCODE : Int)
  · rw [sat_eq_of_lt h, sat_eq_of_lt h]
  · rw [sat_eq_of_ge (n := n) (by omega), sat_eq_of_ge (Int.le_refl _)]

theorem sat_nonneg {n : Int} (h : 0 ≤ n) : 0 ≤ sat n := by
  have := ncode_val
  unfold sat; split <;> omega

theorem sat_zero : sat 0 = 0 := by
  have := ncode_val
  unfold sat; rw [if_pos (by omega)]

theorem sat_add_sat {a b : Int} (ha : 0 ≤ a) (hb : 0 ≤ b) (k : Int) (hk : 0 ≤ k) :
    sat (sat a + sat b + k) = sat (a + b + k) := by
  by_cases h : a < (Gen.NCODE : Int) ∧ b < (Gen.NCODE : Int)
  · rw [sat_eq_of_lt h.1, sat_eq_of_lt h.2]
  · have h1 := sat_eq_min a
    have h2 := sat_eq_min b
    rw [sat_eq_of_ge (n := a + b + k) (by omega), sat_eq_of_ge (by omega)]

/-! ## the repetition wrapper `n ↦ countRep n mn mx` -/

theorem countRepSat_eq (n mn mx : Int) : countRepSat n mn mx = sat (countRep n mn mx) := by
  unfold countRepSat countRep
  by_cases h0 : (mn == 0 && mx == 0) = true
  · simp only [h0, if_true, sat_zero]
  · simp only [h0, if_false, Bool.false_eq_true]
    by_cases h1 : (mn == 1 && mx == 1) = true
    · simp only [h1, if_true]
    · simp only [h1, if_false, Bool.false_eq_true]

theorem countRep_ge (n mn mx : Int) (hn : 0 ≤ n) (hr : RepOk mn mx) (hz : ¬ (mn = 0 ∧ mx = 0)) :
    n ≤ countRep n mn mx := by
  obtain ⟨c, d, _, _, _, _, hc, hcount, _⟩ := rep_affine hr
  have := Int.mul_le_mul_of_nonneg_right (Int.ofNat_le.mpr (hc hz)) hn
  rw [hcount]
  omega

theorem countRep_nonneg (n mn mx : Int) (hn : 0 ≤ n) (hr : RepOk mn mx) : 0 ≤ countRep n mn mx := by
  obtain ⟨c, d, _, _, _, _, _, hcount, _⟩ := rep_affine hr
  have := Int.mul_nonneg (Int.natCast_nonneg c) hn
  rw [hcount]
  omega

theorem countRep_mono (n n' mn mx : Int) (hr : RepOk mn mx) (h : n ≤ n') :
    countRep n mn mx ≤ countRep n' mn mx := by
  obtain ⟨c, d, _, _, _, _, _, hcount, _⟩ := rep_affine hr
  have := Int.mul_le_mul_of_nonneg_left h (Int.natCast_nonneg c)
  rw [hcount, hcount]
  omega

theorem countRep_big (n mn mx : Int) (hr : RepOk mn mx) (hz : ¬ (mn = 0 ∧ mx = 0))
    (hn : (Gen.NCODE : Int) ≤ n) : (Gen.NCODE : Int) ≤ countRep n mn mx := by
  have := ncode_val
  have := countRep_ge n mn mx (by omega) hr hz
  omega

theorem sat_countRep_big (x y mn mx : Int) (hr : RepOk mn mx)
    (hx : (Gen.NCODE : Int) ≤ x) (hy : (Gen.NCODE : Int) ≤ y) :
    sat (countRep x mn mx) = sat (countRep y mn mx) := by
  by_cases hz : mn = 0 ∧ mx = 0
  · rw [hz.1, hz.2, countRep_zero, countRep_zero]
  · rw [sat_eq_of_ge (countRep_big x mn mx hr hz hx), sat_eq_of_ge (countRep_big y mn mx hr hz hy)]

theorem sat_countRep_sat (c k mn mx : Int) (hk : 0 ≤ k) (hr : RepOk mn mx) :
    sat (countRep (sat c + k) mn mx) = sat (countRep (c + k) mn mx) := by
  by_cases hc : c < (Gen.NCODE : Int)
  · rw [sat_eq_of_lt hc]
  · rw [sat_eq_of_ge (n := c) (by omega)]
    exact sat_countRep_big _ _ mn mx hr (by omega) (by omega)

/-! ## the whole tree -/

theorem count_nonneg (t : RNode) : TreeOk t → 0 ≤ count t := by
  induction t with
  | nul => intro _; simp [count]
  | atom a mn mx => intro h; exact countRep_nonneg 1 mn mx (by omega) h
  | cat a b iha ihb =>
    intro h
    have := iha h.1
    have := ihb h.2
    simp only [count]; omega
  | alt a b iha ihb =>
    intro h
    have := iha h.1
    have := ihb h.2
    simp only [count]; omega
  | grp a g mn mx iha =>
    intro h
    have := iha h.1
    exact countRep_nonneg _ mn mx (by omega) h.2

theorem countSat_eq_sat (t : RNode) : TreeOk t → countSat t = sat (count t) := by
  induction t with
  | nul => intro _; simp only [countSat, count, sat_zero]
  | atom a mn mx => intro _; simp only [countSat, count, countRepSat_eq]
  | cat a b iha ihb =>
    intro h
    have ha := count_nonneg a h.1
    have hb := count_nonneg b h.2
    have := sat_add_sat ha hb 0 (by omega)
    simp only [Int.add_zero] at this
    simp only [countSat, count, countRepSat_eq, iha h.1, ihb h.2, countRep_one]
    exact this
  | alt a b iha ihb =>
    intro h
    have ha := count_nonneg a h.1
    have hb := count_nonneg b h.2
    have := sat_add_sat ha hb 2 (by omega)
    simp only [countSat, count, countRepSat_eq, iha h.1, ihb h.2, countRep_one]
    exact this
  | grp a g mn mx iha =>
    intro h
    simp only [countSat, count, countRepSat_eq, iha h.1]
    exact sat_countRep_sat (count a) 2 mn mx (by omega) h.2

/-- **the bridge**: on every tree the parser can produce, the clamped count is the minimum of the
    unbounded count and the limit -/
theorem countSat_eq_min (t : RNode) (h : TreeOk t) : countSat t = min (count t) (Gen.NCODE : Int) := by
  rw [countSat_eq_sat t h, sat_eq_min]

/-- below the limit nothing was clamped -/
theorem countSat_small (t : RNode) (h : TreeOk t) (hs : countSat t + 3 ≤ (Gen.NCODE : Int)) :
    countSat t = count t := by
  have := countSat_eq_min t h
  omega

/-- the limit test of `regcomp` is the same on the clamped and on the unbounded count -/
theorem countSat_big (t : RNode) (h : TreeOk t) :
    count t + 3 > (Gen.NCODE : Int) ↔ countSat t + 3 > (Gen.NCODE : Int) := by
  have := countSat_eq_min t h
  omega

theorem countSat_le_ncode (t : RNode) : countSat t ≤ (Gen.NCODE : Int) := by
  have := ncode_val
  cases t <;> simp only [countSat, countRepSat_eq] <;> first | omega | exact (sat_le _).2

theorem countSat_bounded (t : RNode) (h : TreeOk t) :
    0 ≤ countSat t ∧ countSat t ≤ (Gen.NCODE : Int) := by
  refine ⟨?_, countSat_le_ncode t⟩
  rw [countSat_eq_sat t h]
  exact sat_nonneg (count_nonneg t h)

/-! ## the C arithmetic stays inside `int` -/

/-- Every intermediate value of the repetition arithmetic of `rnode_count()` is a non-negative
    `int` below `2^31`, when the size `n` of one copy is at most `2 * NCODE + 2` (the largest value
    the `RN_CAT`/`RN_ALT`/`RN_GRP` sums of two clamped counts can take) and the bounds are the
    parser's: `(mincnt + 1) * n + 1` and `n++` for an unbounded repetition,
    `(mincnt + maxcnt) * n + maxcnt - mincnt` and `n++` for a bounded one. -/
theorem countRepSat_no_overflow (n mn mx : Int) (hn0 : 0 ≤ n) (hn : n ≤ 2 * (Gen.NCODE : Int) + 2)
    (h0 : 0 ≤ mn) (h1 : mn ≤ (Gen.NREPS : Int)) (h2 : mx ≤ (Gen.NREPS : Int)) :
    (0 ≤ (mn + 1) * n ∧ (mn + 1) * n < 2 ^ 31 ∧
      (mn + 1) * n + 1 < 2 ^ 31 ∧ (mn + 1) * n + 1 + 1 < 2 ^ 31) ∧
    (0 ≤ mx →
      0 ≤ (mn + mx) * n ∧ (mn + mx) * n < 2 ^ 31 ∧
      0 ≤ (mn + mx) * n + mx ∧ (mn + mx) * n + mx < 2 ^ 31 ∧
      -(2 ^ 31) ≤ (mn + mx) * n + mx - mn ∧ (mn + mx) * n + mx - mn < 2 ^ 31 ∧
      (mn + mx) * n + mx - mn + 1 < 2 ^ 31) := by
  have hN := ncode_val
  have hR := nreps_val
  rw [hN] at hn
  rw [hR] at h1 h2
  have hpow : (2 : Int) ^ 31 = 2147483648 := by decide
  rw [hpow]
  refine ⟨?_, ?_⟩
  · have a1 : 0 ≤ (mn + 1) * n := Int.mul_nonneg (by omega) hn0
    have a2 : (mn + 1) * n ≤ 129 * 2097154 :=
      Int.mul_le_mul (by omega) hn hn0 (by omega)
    omega
  · intro hx
    have a1 : 0 ≤ (mn + mx) * n := Int.mul_nonneg (by omega) hn0
    have a2 : (mn + mx) * n ≤ 256 * 2097154 :=
      Int.mul_le_mul (by omega) hn hn0 (by omega)
    omega

/-- the argument of the repetition arithmetic at every node of a tree is within the hypothesis of
    `countRepSat_no_overflow` -/
theorem countSat_arg_bounded (a b : RNode) (ha : TreeOk a) (hb : TreeOk b) :
    0 ≤ countSat a + countSat b ∧ countSat a + countSat b + 2 ≤ 2 * (Gen.NCODE : Int) + 2 ∧
    0 ≤ countSat a + 2 ∧ countSat a + 2 ≤ 2 * (Gen.NCODE : Int) + 2 := by
  have := countSat_bounded a ha
  have := countSat_bounded b hb
  have := ncode_val
  omega

end Neatvi.Lemmas.C11c
