import NeatviVerif.Lemmas.C12Parse
/-!
# C12: what each atom of a literal program does at a position of any subject (`atomMatch_*`); on a newline-terminated line a
match of the literal ends before the newline (`match_bound`)
-/
namespace Neatvi.C12
open Neatvi Neatvi.Uc Neatvi.Regex Neatvi.Rset

theorem lowerB_eq_nl {x : Nat} (h : lowerB 10 = lowerB x) : x = 10 := by
  unfold lowerB isUpperB at h
  simp at h
  split at h <;> omega

theorem matchCase_no_nl {ic : Bool} : ∀ (s r : Bytes), matchCase s r ic = true → ¬ 10 ∈ r →
    ∀ i, i < r.length → s.getD i 0 ≠ 10 := by
  intro s r
  induction r generalizing s with
  | nil => intro _ _ i hi; simp at hi
  | cons b r ih =>
    cases s with
    | nil => simp [matchCase_nil_left]
    | cons a s =>
      rw [matchCase_cons_iff]
      intro h hnl i hi
      cases i with
      | zero =>
        rw [List.getD_cons_zero]
        intro ha
        subst ha
        apply hnl
        have h1 := h.1
        cases ic
        · simp only [Bool.false_eq_true, if_false] at h1; simp [h1]
        · simp only [if_true] at h1; simp [lowerB_eq_nl h1]
      | succ i =>
        rw [List.getD_cons_succ]
        exact ih s h.2 (fun hm => hnl (by simp [hm])) i (by simp at hi; omega)

theorem getD_body {body : Bytes} {j : Nat} (h : j < body.length) :
    (body ++ [10]).getD j 0 ∈ body := by
  rw [getD_append_left h]; exact getD_mem h

theorem getD_nl (body : Bytes) : (body ++ [10]).getD body.length 0 = 10 := by
  rw [getD_append_at]; rfl

/-- a literal without a newline matches strictly inside the body of a newline-terminated line -/
theorem match_bound {body lit : Bytes} {ic : Bool} {r : Nat} (hne : lit ≠ []) (hnl : ¬ 10 ∈ lit)
    (h : matchCase ((body ++ [10]).drop r) lit ic = true) : r + lit.length ≤ body.length := by
  have h1 := matchCase_length _ _ h
  have hpos : 0 < lit.length := by cases lit <;> simp_all
  simp only [List.length_drop, List.length_append, List.length_cons, List.length_nil] at h1
  by_cases h2 : r + lit.length ≤ body.length
  · exact h2
  · exfalso
    have h3 : r + lit.length = body.length + 1 := by omega
    have := matchCase_no_nl _ _ h hnl (lit.length - 1) (by omega)
    rw [Basics.getD_drop, show r + (lit.length - 1) = body.length by omega, getD_nl] at this
    exact this rfl

theorem atomMatch_beg {s : Bytes} {flg r : Nat} (hr : r ≤ s.length) (hnl : hasFlag flg REG_NEWLINE = true) :
    atomMatch ⟨AK.beg, []⟩ s flg r =
      if (r = 0 ∧ hasFlag flg REG_NOTBOL = false) ∨ (r ≠ 0 ∧ s.getD (r - 1) 0 = 10 ∧ s.getD r 0 ≠ 0)
      then AR.ok r else AR.fail := by
  simp only [atomMatch, rdb_le hr, hnl]
  generalize s.getD (r - 1) 0 = p
  generalize s.getD r 0 = c
  by_cases h0 : r = 0
  · subst h0; cases hasFlag flg REG_NOTBOL <;> simp
  · by_cases h1 : p = 10 <;> by_cases h2 : c = 0 <;> simp [h0, h1, h2]

theorem atomMatch_end {s : Bytes} {flg r : Nat} (hr : r ≤ s.length) (hnl : hasFlag flg REG_NEWLINE = true) :
    atomMatch ⟨AK.end_, []⟩ s flg r =
      if (s.getD r 0 = 0 ∧ hasFlag flg REG_NOTEOL = false) ∨ s.getD r 0 = 10 then AR.ok r else AR.fail := by
  simp only [atomMatch, rdb_le hr, hnl]
  generalize s.getD r 0 = c
  by_cases h0 : c = 0
  · cases hasFlag flg REG_NOTEOL <;> simp [h0]
  · by_cases h1 : c = 10 <;> simp [h0, h1]

theorem atomMatch_wbeg {s : Bytes} {flg r : Nat} (hr : r ≤ s.length) :
    atomMatch ⟨AK.wbeg, []⟩ s flg r =
      if (r = 0 ∨ isWordB (prevLead s r) = false) ∧ isWordB (s.getD r 0) = true then AR.ok r else AR.fail := by
  simp only [atomMatch, rdb_le hr]
  generalize s.getD r 0 = c
  by_cases h0 : r = 0 <;> cases isWordB (prevLead s r) <;> cases isWordB c <;> simp [h0]

theorem atomMatch_wend {s : Bytes} {flg r : Nat} (hr : r ≤ s.length) :
    atomMatch ⟨AK.wend, []⟩ s flg r =
      if r ≠ 0 ∧ isWordB (prevLead s r) = true ∧ (s.getD r 0 = 0 ∨ isWordB (s.getD r 0) = false)
      then AR.ok r else AR.fail := by
  simp only [atomMatch, rdb_le hr]
  generalize s.getD r 0 = c
  by_cases h0 : r = 0 <;> by_cases h1 : c = 0 <;>
    cases isWordB (prevLead s r) <;> cases isWordB c <;> simp [h0, h1]

theorem atomMatch_chr_nocase {s lit : Bytes} {flg r : Nat} (hr : r ≤ s.length)
    (hic : hasFlag flg REG_ICASE = false) :
    atomMatch ⟨AK.chr, lit⟩ s flg r =
      if matchCase (s.drop r) lit false = true then AR.ok (r + lit.length) else AR.fail := by
  simp only [atomMatch, rdb_le hr, hic, Bool.not_false, if_true]
  by_cases h : matchCase (s.drop r) lit false = true
  · rw [if_pos h]
    have := (matchCase_false_iff _ _).mp h
    simp [this]
  · rw [if_neg h]
    have : ¬ (s.drop r).take lit.length = lit := fun h' => h ((matchCase_false_iff _ _).mpr h')
    simp [this]

theorem atomMatch_chr_icase {s lit : Bytes} {flg r : Nat} (hr : r ≤ s.length)
    (hic : hasFlag flg REG_ICASE = true) :
    atomMatch ⟨AK.chr, lit⟩ s flg r = chrIcase lit s (lit.length + 2) 0 r := by
  simp only [atomMatch, rdb_le hr, hic, Bool.not_true, Bool.false_eq_true, if_false]

end Neatvi.C12
