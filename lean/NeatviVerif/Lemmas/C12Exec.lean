import NeatviVerif.Lemmas.C12Prog
import NeatviVerif.Lemmas.C12Literal
/-!
# C12: the start-position loop of `regexec`, run forward; `regexec` and `rset_find` on the literal program

`execLoop_spec` is about any context: given what `recmatch` answers at each start position tried (`Starts`: from 0 in steps of
`uc_len`), a subject without NUL and enough fuel, the loop reports the least position that matches, or `nomatch`.  From `litSet` on
the file is about the program of a literal pattern.
-/
namespace Neatvi.C12
open Neatvi Neatvi.Regex Neatvi.Rset

/-- the start positions `regexec` tries: from 0 in steps of `uc_len` -/
inductive Starts (s : Bytes) : Nat → Prop
  | zero : Starts s 0
  | step {i : Nat} : Starts s i → i < s.length → Starts s (i + rxLen s i)

theorem Starts.le {s : Bytes} {i : Nat} (h : Starts s i) : i ≤ s.length := by
  induction h with
  | zero => omega
  | @step i _ h2 _ => have := rxLen_le s i; omega

theorem Starts.next_le {s : Bytes} (hs : ∀ c ∈ s, c ≠ 0) : ∀ (b : Nat), Starts s b → ∀ a, Starts s a → a < b → a + rxLen s a ≤ b := by
  intro b
  induction b using Nat.strongRecOn with
  | _ b ih =>
    intro hb a ha hab
    cases hb with
    | zero => omega
    | @step i hi hlt =>
      have hpos := rxLen_pos hlt (hs _ (getD_mem hlt))
      rcases Nat.lt_trichotomy a i with h | h | h
      · have := ih i (by omega) hi a ha h; omega
      · subst h; omega
      · have := ih a hab ha i hi h; omega

theorem getD_eq_zero_of_ge {s : Bytes} {i : Nat} (h : s.length ≤ i) : s.getD i 0 = 0 := by
  rw [List.getD_eq_getElem?_getD, List.getElem?_eq_none h]; rfl

/-- the start-position loop finds the least start position at which the program matches -/
theorem execLoop_spec (cx : Ctx) (P : Nat → Prop) (mk : Nat → Marks)
    (hs : ∀ c ∈ cx.subj, c ≠ 0)
    (hok : ∀ r, Starts cx.subj r → P r → ∃ p, recmatch cx r 0 = Res.ok p (mk r) 0)
    (hfail : ∀ r, Starts cx.subj r → ¬ P r → recmatch cx r 0 = Res.fail 0)
    (hsync : ∀ r, P r → Starts cx.subj r) :
    ∀ f st, Starts cx.subj st → cx.subj.length + 1 ≤ f + st → (∀ r, r < st → ¬ P r) →
      (∃ r, IsLeast P r ∧ execLoop cx f st 0 = ExecRes.found (mk r) 0) ∨
      ((∀ r, ¬ P r) ∧ execLoop cx f st 0 = ExecRes.nomatch 0) := by
  intro f
  induction f with
  | zero => intro st hst hf _; have := hst.le; omega
  | succ f ih =>
    intro st hst hf hbefore
    have hle := hst.le
    rw [execLoop, rdb_le hle]
    dsimp only
    by_cases hp : P st
    · left
      obtain ⟨p, hp'⟩ := hok st hst hp
      exact ⟨st, ⟨hp, hbefore⟩, by rw [hp']⟩
    · rw [hfail st hst hp]
      dsimp only
      by_cases hb : cx.subj.getD st 0 = 0
      · right
        have hend : st = cx.subj.length := by
          by_cases h1 : st < cx.subj.length
          · exact absurd hb (hs _ (getD_mem h1))
          · omega
        refine ⟨?_, by rw [hb]; rfl⟩
        intro r hr
        have := (hsync r hr).le
        rcases Nat.lt_trichotomy r st with h | h | h
        · exact hbefore r h hr
        · subst h; exact hp hr
        · omega
      · have hlt : st < cx.subj.length := by
          by_cases h1 : st < cx.subj.length
          · exact h1
          · exact absurd (getD_eq_zero_of_ge (by omega)) hb
        have hpos := rxLen_pos hlt (hs _ (getD_mem hlt))
        have hbz : (cx.subj.getD st 0 == 0) = false := beq_eq_false_iff_ne.mpr hb
        simp only [hbz, Bool.false_eq_true, if_false]
        refine ih (st + rxLen cx.subj st) (Starts.step hst hlt) (by omega) ?_
        intro r hr hpr
        rcases Nat.lt_trichotomy r st with h | h | h
        · exact hbefore r h hpr
        · subst h; exact hp hpr
        · have := Starts.next_le hs r (hsync r hpr) st hst h; omega

/-- the engine's pattern set for a literal pattern -/
def litSet (as : List Atom) (alloc : Int) (pflg : Nat) : RSet :=
  { prog := { code := litCode as, alloc := alloc, flg := pflg }, n := 1, grp := [2, 3],
    setgrpcnt := [0], grpcnt := 3 }

/-- the execution flags `rset_find` passes to `regexec` -/
def findFlags (flg : Nat) : Nat :=
  REG_NEWLINE ||| (if flg &&& RE_NOTBOL != 0 then REG_NOTBOL else 0) |||
    (if flg &&& RE_NOTEOL != 0 then REG_NOTEOL else 0)

/-- the VM context of `rset_find` on the literal program -/
def findCtx (as : List Atom) (pflg : Nat) (s : Bytes) (flg nd ng : Nat) : Ctx :=
  { prog := litCode as, subj := s, flg := pflg ||| findFlags flg, nd := nd, ngrps := ng }

theorem marksOf_get {ng : Nat} (h : 6 ≤ ng) (so eo : Nat) :
    (marksOf ng so eo).getD 0 (-1) = (so : Int) ∧ (marksOf ng so eo).getD 1 (-1) = (eo : Int) ∧
    (marksOf ng so eo).getD 2 (-1) = (so : Int) ∧ (marksOf ng so eo).getD 3 (-1) = (eo : Int) ∧
    (marksOf ng so eo).getD 4 (-1) = (so : Int) ∧ (marksOf ng so eo).getD 5 (-1) = (eo : Int) := by
  have h0 : 0 < 2 * ng := by omega
  have h1 : 1 < 2 * ng := by omega
  have h2 : 2 < 2 * ng := by omega
  have h3 : 3 < 2 * ng := by omega
  have h4 : 4 < 2 * ng := by omega
  have h5 : 5 < 2 * ng := by omega
  simp [marksOf, List.getD_eq_getElem?_getD, h0, h1, h2, h3, h4, h5]

theorem flatMap_unset (k : Nat) :
    (List.range k).flatMap (fun _ => [(-1 : Int), -1]) = List.replicate (2 * k) (-1) := by
  induction k with
  | zero => rfl
  | succ k ih =>
    rw [List.range_succ, List.flatMap_append, ih]
    simp only [List.flatMap_cons, List.flatMap_nil, List.append_nil]
    rw [show 2 * (k + 1) = 2 * k + 2 by omega, List.replicate_succ', List.replicate_succ']
    simp

theorem groups_out (n : Nat) (a b : Int) :
    (List.range n).flatMap (fun i => if i < 0 + 1 then [a, b] else [(-1 : Int), -1]) =
      (if n ≥ 1 then [a, b] else []) ++ List.replicate (2 * (n - 1)) (-1) := by
  cases n with
  | zero => rfl
  | succ k =>
    rw [List.range_succ_eq_map, List.flatMap_cons, List.flatMap_map]
    simp only [Nat.zero_add, Nat.lt_one_iff, if_true, Nat.succ_ne_zero, if_false, ge_iff_le,
      Nat.le_add_left, Nat.add_sub_cancel]
    rw [flatMap_unset]

theorem regexec_found (as : List Atom) (alloc : Int) (pflg : Nat) (s : Bytes) (flg nd ng : Nat)
    (hne : s ≠ []) (hng : 6 ≤ ng) (so eo : Nat)
    (h : execLoop (findCtx as pflg s flg nd ng) (s.length + 2) 0 0 =
      ExecRes.found (marksOf ng so eo) 0) :
    regexec { code := litCode as, alloc := alloc, flg := pflg } s 3 (findFlags flg) nd ng =
      (ExecRes.found (marksOf ng so eo) 0, [((so : Int), (eo : Int)), (so, eo), (so, eo)]) := by
  have hemp : s.isEmpty = false := by cases s <;> simp_all
  obtain ⟨m0, m1, m2, m3, m4, m5⟩ := marksOf_get hng so eo
  unfold regexec
  simp only [findCtx] at h
  simp only [hemp, Bool.false_eq_true, if_false, h]
  have hr : List.range 3 = [0, 1, 2] := rfl
  rw [hr]
  simp only [List.map_cons, List.map_nil, m0, m1, m2, m3, m4, m5]
  have k0 : 0 * 2 < 2 * ng := by omega
  have k1 : 1 * 2 < 2 * ng := by omega
  have k2 : 2 * 2 < 2 * ng := by omega
  simp only [k0, k1, k2, if_true]

theorem find_litSet_found (as : List Atom) (alloc : Int) (pflg : Nat) (s : Bytes) (n flg nd ng : Nat)
    (hne : s ≠ []) (hng : 6 ≤ ng) (so len : Nat)
    (h : execLoop (findCtx as pflg s flg nd ng) (s.length + 2) 0 0 =
      ExecRes.found (marksOf ng so (so + len)) 0) :
    Rset.find (litSet as alloc pflg) s n flg nd ng = some (0, fastGroups n so len, 0) := by
  have hreg := regexec_found as alloc pflg s flg nd ng hne hng so (so + len) h
  unfold Rset.find
  simp only [litSet, show ¬ (3 ≤ 2) by omega, if_false]
  simp only [findFlags] at hreg
  rw [hreg]
  have hr : List.range 1 = [0] := rfl
  have hso : ((so : Int) ≥ 0) = True := by simp
  have z : ((0 : Nat) : Int) = 0 := rfl
  simp only [hr, List.foldl_cons, List.foldl_nil, List.getD_cons_zero,
    List.getD_cons_succ, hso, decide_true, Bool.and_true, Int.reduceGE, if_true, Int.reduceLT, if_false,
    Int.toNat_zero, Int.reduceToNat, z]
  have hf : (fun i => if i < 0 + 1 then
        [(List.getD [((so : Int), ((so + len : Nat) : Int)), (so, (so + len : Nat)), (so, (so + len : Nat))] (2 + i) (-1, -1)).fst,
         (List.getD [((so : Int), ((so + len : Nat) : Int)), (so, (so + len : Nat)), (so, (so + len : Nat))] (2 + i) (-1, -1)).snd]
        else [(-1 : Int), -1]) =
      (fun i => if i < 0 + 1 then [(so : Int), ((so + len : Nat) : Int)] else [(-1 : Int), -1]) := by
    funext i
    by_cases hi : i < 0 + 1
    · have : i = 0 := by omega
      subst this; rfl
    · simp only [hi, if_false]
  rw [hf, groups_out]
  rfl

theorem find_litSet_nomatch (as : List Atom) (alloc : Int) (pflg : Nat) (s : Bytes) (n flg nd ng : Nat)
    (hne : s ≠ [])
    (h : execLoop (findCtx as pflg s flg nd ng) (s.length + 2) 0 0 = ExecRes.nomatch 0) :
    Rset.find (litSet as alloc pflg) s n flg nd ng = some (-1, [], 0) := by
  have hemp : s.isEmpty = false := by cases s <;> simp_all
  unfold Rset.find regexec
  simp only [findCtx, findFlags] at h
  simp only [litSet, show ¬ (3 ≤ 2) by omega, if_false, hemp, Bool.false_eq_true, h]

end Neatvi.C12
