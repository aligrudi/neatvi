import NeatviVerif.Lemmas.C12Simple
/-!
# C12: the candidate loop of `rstr_find` (the literal fast path by itself)
-/
namespace Neatvi.C12
open Neatvi Neatvi.Regex Neatvi.Rset

/-- the word-start test of the fast path at offset `r` -/
def WBegAt (s : Bytes) (r : Nat) : Prop :=
  (r = 0 ∨ isWordB (s.getD (r - 1) 0) = false) ∧ isWordB (s.getD r 0) = true

/-- the word-end test of the fast path at offset `e` (= `r + len`) -/
def WEndAt (s : Bytes) (e : Nat) : Prop :=
  e ≠ 0 ∧ isWordB (s.getD (e - 1) 0) = true ∧ (s.getD e 0 = 0 ∨ isWordB (s.getD e 0) = false)

instance (s : Bytes) (r : Nat) : Decidable (WBegAt s r) := by unfold WBegAt; exact inferInstance
instance (s : Bytes) (e : Nat) : Decidable (WEndAt s e) := by unfold WEndAt; exact inferInstance

/-- the tests the candidate loop performs at offset `r` (range excluded) -/
def Cand (rs : RStr) (lit s : Bytes) (r : Nat) : Prop :=
  matchCase (s.drop r) lit rs.icase = true ∧
  (rs.wbeg = true → WBegAt s r) ∧ (rs.wend = true → WEndAt s (r + lit.length))

instance (rs : RStr) (lit s : Bytes) (r : Nat) : Decidable (Cand rs lit s r) := by
  unfold Cand; exact inferInstance

/-- the candidate range of `rstr_find` -/
def InRange (rs : RStr) (lit s : Bytes) (flg : Nat) (r : Nat) : Prop :=
  r + lit.length + 1 ≤ s.length ∧
  (rs.lbeg = true → r = 0 ∧ flg &&& RE_NOTBOL = 0) ∧
  (rs.lend = true → r + lit.length + 1 = s.length)

instance (rs : RStr) (lit s : Bytes) (flg r : Nat) : Decidable (InRange rs lit s flg r) := by
  unfold InRange; exact inferInstance

/-- offset `r` is a match of the fast path -/
def FastMatch (rs : RStr) (lit s : Bytes) (flg : Nat) (r : Nat) : Prop :=
  InRange rs lit s flg r ∧ Cand rs lit s r

instance (rs : RStr) (lit s : Bytes) (flg r : Nat) : Decidable (FastMatch rs lit s flg r) := by
  unfold FastMatch; exact inferInstance

def IsLeast (P : Nat → Prop) (r : Nat) : Prop := P r ∧ ∀ r', r' < r → ¬ P r'

theorem IsLeast.unique {P : Nat → Prop} {a b : Nat} (ha : IsLeast P a) (hb : IsLeast P b) : a = b := by
  rcases Nat.lt_trichotomy a b with h | h | h
  · exact absurd ha.1 (hb.2 a h)
  · exact h
  · exact absurd hb.1 (ha.2 b h)

/-- the groups written by the fast path -/
def fastGroups (n r len : Nat) : List Int :=
  (if n ≥ 1 then [(r : Int), ((r + len : Nat) : Int)] else []) ++ List.replicate (2 * (n - 1)) (-1)

theorem wBegAt_iff (s : Bytes) (r : Nat) :
    WBegAt s r ↔ ((decide (r > 0) && isWordB (s.getD (r - 1) 0)) || !isWordB (s.getD r 0)) = false := by
  unfold WBegAt
  cases r <;> simp

theorem wEndAt_iff (s : Bytes) (e : Nat) :
    WEndAt s e ↔ (decide (e = 0) || !isWordB (s.getD (e - 1) 0) ||
      (s.getD e 0 != 0 && isWordB (s.getD e 0))) = false := by
  unfold WEndAt
  cases e <;> simp [Decidable.or_iff_not_imp_left]

theorem imp_iff_and_false {b c : Bool} {P : Prop} (h : P ↔ c = false) :
    (b = true → P) ↔ (b && c) = false := by
  cases b <;> simp [h]

theorem cand_iff (rs : RStr) (lit s : Bytes) (ri : Nat) :
    Cand rs lit s ri ↔
      ((rs.wbeg && ((decide (ri > 0) && isWordB (s.getD (ri - 1) 0)) || !isWordB (s.getD ri 0))) = false ∧
       (rs.wend && (decide (ri + lit.length = 0) || !isWordB (s.getD (ri + lit.length - 1) 0) ||
          (s.getD (ri + lit.length) 0 != 0 && isWordB (s.getD (ri + lit.length) 0)))) = false ∧
       matchCase (s.drop ri) lit rs.icase = true) := by
  rw [Cand, imp_iff_and_false (wBegAt_iff s ri), imp_iff_and_false (wEndAt_iff s _)]
  exact and_left_comm.trans (and_congr_right fun _ => and_comm)

theorem ite_skip {α : Type} (b e m : Bool) (x y : α) :
    (if b then y else if e then y else if m then x else y) =
      if b = false ∧ e = false ∧ m = true then x else y := by
  cases b <;> cases e <;> simp

theorem literalLoop_succ (rs : RStr) (lit s : Bytes) (f : Nat) (r e : Int) :
    literalLoop rs lit s (f + 1) r e =
      if r > e then some none
      else if Cand rs lit s r.toNat then some (some r.toNat)
      else literalLoop rs lit s f (r + 1) e := by
  rw [literalLoop]
  simp only [cand_iff]
  split
  · rfl
  · exact ite_skip _ _ _ _ _

theorem literalLoop_spec (rs : RStr) (lit s : Bytes) :
    ∀ (f b : Nat) (e : Int), e + 1 - b < f →
      (∃ r, literalLoop rs lit s f (b : Int) e = some (some r) ∧ b ≤ r ∧ (r : Int) ≤ e ∧
          Cand rs lit s r ∧ ∀ r', b ≤ r' → r' < r → ¬ Cand rs lit s r') ∨
      (literalLoop rs lit s f (b : Int) e = some none ∧
          ∀ r', b ≤ r' → (r' : Int) ≤ e → ¬ Cand rs lit s r') := by
  intro f
  induction f with
  | zero =>
    intro b e h
    right
    refine ⟨by simp [literalLoop], ?_⟩
    intro r' h1 h2; omega
  | succ f ih =>
    intro b e h
    rw [literalLoop_succ]
    by_cases hbe : (b : Int) > e
    · right
      simp only [hbe, if_true, true_and]
      intro r' h1 h2; omega
    · simp only [hbe, if_false, Int.toNat_natCast]
      by_cases hc : Cand rs lit s b
      · left
        refine ⟨b, by simp [hc], Nat.le_refl _, by omega, hc, ?_⟩
        intro r' h1 h2; omega
      · simp only [hc, if_false]
        have := ih (b + 1) e (by omega)
        rw [show ((b + 1 : Nat) : Int) = (b : Int) + 1 by omega] at this
        rcases this with ⟨r, h1, h2, h3, h4, h5⟩ | ⟨h1, h2⟩
        · left
          refine ⟨r, h1, by omega, h3, h4, ?_⟩
          intro r' h6 h7
          by_cases h8 : r' = b
          · subst h8; exact hc
          · exact h5 r' (by omega) h7
        · right
          refine ⟨h1, ?_⟩
          intro r' h6 h7
          by_cases h8 : r' = b
          · subst h8; exact hc
          · exact h2 r' (by omega) h7

/-- **Specification of the fast path by itself**: `rstr_find` on a literal pattern returns the least
    offset in the candidate range at which the literal compares equal and the word tests hold,
    and `-1` when there is none.  The literal is what `rstr_find` reads, `rs.str.getD []`. -/
theorem rstrFind_fast (rs : RStr) (lit s : Bytes) (hrs : rs.rs = none) (hstr : rs.str.getD [] = lit)
    (n flg nd ng : Nat) :
    (∃ r, IsLeast (FastMatch rs lit s flg) r ∧
        rstrFind rs s n flg nd ng = some (0, fastGroups n r lit.length, 0)) ∨
    ((∀ r, ¬ FastMatch rs lit s flg r) ∧ rstrFind rs s n flg nd ng = some (-1, [], 0)) := by
  unfold rstrFind
  simp only [hrs, hstr]
  by_cases h1 : (rs.lbeg && flg &&& RE_NOTBOL != 0) = true
  · right
    simp only [h1, if_true, and_true]
    intro r hr
    simp only [Bool.and_eq_true, bne_iff_ne, ne_eq] at h1
    exact h1.2 (hr.1.2.1 h1.1).2
  · simp only [h1]
    simp only [Bool.and_eq_true, bne_iff_ne, ne_eq, not_and, Decidable.not_not] at h1
    by_cases h2 : ((s.length : Int) - lit.length - 1) < 0
    · right
      simp only [Bool.false_eq_true, if_false, h2, if_true, and_true]
      intro r hr
      have := hr.1.1
      omega
    · simp only [Bool.false_eq_true, if_false, h2]
      obtain ⟨E, hE⟩ : ∃ E : Nat, (E : Int) = (s.length : Int) - lit.length - 1 := ⟨(s.length - lit.length - 1), by omega⟩
      rw [← hE]
      have hEl : E + lit.length + 1 = s.length := by omega
      have key := literalLoop_spec rs lit s (s.length + 2) (if rs.lend then E else 0)
        (if rs.lbeg then 0 else (E : Int)) (by split <;> split <;> omega)
      have hb : ((if rs.lend = true then E else 0 : Nat) : Int) = (if rs.lend = true then (E : Int) else 0) := by
        split <;> simp
      rw [hb] at key
      rcases key with ⟨r, k1, k2, k3, k4, k5⟩ | ⟨k1, k2⟩
      · left
        refine ⟨r, ⟨⟨⟨?_, ?_, ?_⟩, k4⟩, ?_⟩, ?_⟩
        · cases hl : rs.lbeg <;> simp [hl] at k3 <;> omega
        · intro hl; simp only [hl, if_true] at k3
          exact ⟨by omega, h1 hl⟩
        · intro hl; simp only [hl, if_true] at k2
          cases hl2 : rs.lbeg <;> simp [hl2] at k3 <;> omega
        · intro r' hlt hfm
          refine k5 r' ?_ hlt hfm.2
          cases hl : rs.lend
          · simp
          · simp only [if_true]
            have := hfm.1.2.2 hl
            omega
        · rw [k1]; simp [fastGroups]
      · right
        refine ⟨?_, by rw [k1]⟩
        intro r hfm
        refine k2 r ?_ ?_ hfm.2
        · cases hl : rs.lend
          · simp
          · simp only [if_true]
            have := hfm.1.2.2 hl
            omega
        · cases hl : rs.lbeg
          · simp only [Bool.false_eq_true, if_false]
            have := hfm.1.1
            omega
          · simp only [if_true]
            have := (hfm.1.2.1 hl).1
            omega

theorem rstrFind_literal (rs : RStr) (lit s : Bytes) (hrs : rs.rs = none) (hstr : rs.str = some lit)
    (n flg nd ng : Nat) :
    (∃ r, IsLeast (FastMatch rs lit s flg) r ∧
        rstrFind rs s n flg nd ng = some (0, fastGroups n r lit.length, 0)) ∨
    ((∀ r, ¬ FastMatch rs lit s flg r) ∧ rstrFind rs s n flg nd ng = some (-1, [], 0)) :=
  rstrFind_fast rs lit s hrs (by rw [hstr]; rfl) n flg nd ng

end Neatvi.C12
