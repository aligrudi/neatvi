import NeatviVerif.Lemmas.C12Exec
import NeatviVerif.Lemmas.C12Atoms
/-!
# C12: one start position of the engine = one candidate of the fast path;
the agreement theorem under explicit hypotheses on the subject
-/
namespace Neatvi.C12
open Neatvi Neatvi.Regex Neatvi.Rset

/-- what the agreement proof needs to know about the subject `s` (relative to the literal):
* `sync`: the literal can only compare equal at a position `regexec` tries (a character start);
* `prev`: the engine's word test on the character before a position (`uc_beg`) and the fast
  path's test on the byte before it give the same answer;
* `fold`: with ICASE, the engine's code-point-wise folding comparison at a start position gives
  the same answer as the fast path's byte-wise `tolower` comparison. -/
structure SubjOk (s lit : Bytes) (icase : Bool) : Prop where
  sync : ∀ r, matchCase (s.drop r) lit icase = true → Starts s r
  prev : ∀ p, 0 < p → p ≤ s.length → isWordB (prevLead s p) = isWordB (s.getD (p - 1) 0)
  fold : icase = true → ∀ r, Starts s r →
    chrIcase lit s (lit.length + 2) 0 r =
      if matchCase (s.drop r) lit true = true then AR.ok (r + lit.length) else AR.fail

theorem arBind_ite (C : Prop) [Decidable C] (p : Nat) (k : Nat → AR) :
    arBind (if C then AR.ok p else AR.fail) k = if C then k p else AR.fail := by
  split <;> simp [arBind]

theorem arBind_ok (p : Nat) (k : Nat → AR) : arBind (AR.ok p) k = k p := rfl

theorem runAtoms_single (s : Bytes) (flg : Nat) (a : Atom) (r : Nat) :
    runAtoms s flg [a] r = atomMatch a s flg r := by
  simp only [runAtoms]
  cases atomMatch a s flg r <;> simp [arBind]

theorem runAtoms_opt (s : Bytes) (flg : Nat) (b : Bool) (a : Atom) (r : Nat) :
    runAtoms s flg (if b then [a] else []) r = if b then atomMatch a s flg r else AR.ok r := by
  cases b
  · simp [runAtoms]
  · simp [runAtoms_single]

theorem opt_ite (b : Bool) (C : Prop) [Decidable C] (r : Nat) :
    (if b then (if C then AR.ok r else AR.fail) else AR.ok r) =
      if (b = true → C) then AR.ok r else AR.fail := by
  cases b <;> simp

theorem runAtoms_test {s : Bytes} {flg r : Nat} {a : Atom} {C : Prop} [Decidable C] (b : Bool)
    (h : atomMatch a s flg r = if C then AR.ok r else AR.fail) :
    runAtoms s flg (if b then [a] else []) r = if (b = true → C) then AR.ok r else AR.fail := by
  rw [runAtoms_opt, h, opt_ite]

theorem ite_ite_fail (C D : Prop) [Decidable C] [Decidable D] (x : AR) :
    (if C then (if D then x else AR.fail) else AR.fail) = if C ∧ D then x else AR.fail := by
  by_cases hC : C
  · by_cases hD : D
    · rw [if_pos hC, if_pos hD, if_pos ⟨hC, hD⟩]
    · rw [if_pos hC, if_neg hD, if_neg fun h => hD h.2]
  · rw [if_neg hC, if_neg fun h => hC h.1]

theorem run_literal (body lit : Bytes) (rs : RStr) (fl flg r : Nat)
    (hbody : ∀ c ∈ body, c ≠ 0 ∧ c ≠ 10) (hne : lit ≠ []) (hnl10 : ¬ 10 ∈ lit)
    (hok : SubjOk (body ++ [10]) lit rs.icase)
    (hnl : hasFlag flg REG_NEWLINE = true) (hic : hasFlag flg REG_ICASE = rs.icase)
    (hnb : hasFlag flg REG_NOTBOL = (fl &&& RE_NOTBOL != 0))
    (hst : Starts (body ++ [10]) r) :
    runAtoms (body ++ [10]) flg (atomsOf rs.lbeg rs.wbeg rs.wend rs.lend lit) r =
      if FastMatch rs lit (body ++ [10]) fl r then AR.ok (r + lit.length) else AR.fail := by
  have hr : r ≤ (body ++ [10]).length := hst.le
  have hslen : (body ++ [10]).length = body.length + 1 := List.length_append
  have hchr : atomMatch ⟨AK.chr, lit⟩ (body ++ [10]) flg r =
      if matchCase ((body ++ [10]).drop r) lit rs.icase = true then AR.ok (r + lit.length) else AR.fail := by
    cases hi : rs.icase
    · exact atomMatch_chr_nocase hr (by rw [hic, hi])
    · rw [atomMatch_chr_icase hr (by rw [hic, hi])]
      exact hok.fold hi r hst
  unfold atomsOf
  rw [runAtoms_append, runAtoms_append, runAtoms_append, runAtoms_append,
    runAtoms_test _ (atomMatch_beg hr hnl), arBind_ite, runAtoms_test _ (atomMatch_wbeg hr), ite_ite_fail,
    arBind_ite, runAtoms_single, hchr]
  by_cases hM : matchCase ((body ++ [10]).drop r) lit rs.icase = true
  · have hb := match_bound hne hnl10 hM
    have hlen : 0 < lit.length := List.length_pos_iff.mpr hne
    have hp : r + lit.length ≤ (body ++ [10]).length := by omega
    rw [if_pos hM, arBind_ite, runAtoms_test _ (atomMatch_wend hp), ite_ite_fail, arBind_ite,
      runAtoms_test _ (atomMatch_end hp hnl), ite_ite_fail]
    refine ite_congr (propext ?_) (fun _ => rfl) (fun _ => rfl)
    -- the four side conditions of the engine, rewritten as those of the fast path
    have e1 : ((r = 0 ∧ hasFlag flg REG_NOTBOL = false) ∨
        (r ≠ 0 ∧ (body ++ [10]).getD (r - 1) 0 = 10 ∧ (body ++ [10]).getD r 0 ≠ 0)) ↔
        (r = 0 ∧ fl &&& RE_NOTBOL = 0) := by
      rw [hnb]
      constructor
      · rintro (⟨h1, h2⟩ | ⟨h1, h2, _⟩)
        · exact ⟨h1, by simpa using h2⟩
        · exact absurd h2 (hbody _ (getD_body (by omega))).2
      · rintro ⟨h1, h2⟩
        exact Or.inl ⟨h1, by simp [h2]⟩
    have e2 : ((r = 0 ∨ isWordB (prevLead (body ++ [10]) r) = false) ∧
        isWordB ((body ++ [10]).getD r 0) = true) ↔ WBegAt (body ++ [10]) r := by
      unfold WBegAt
      by_cases h0 : r = 0
      · simp [h0]
      · rw [hok.prev r (by omega) hr]
    have e4 : ((r + lit.length ≠ 0 ∧ isWordB (prevLead (body ++ [10]) (r + lit.length)) = true ∧
        ((body ++ [10]).getD (r + lit.length) 0 = 0 ∨
          isWordB ((body ++ [10]).getD (r + lit.length) 0) = false))) ↔
        WEndAt (body ++ [10]) (r + lit.length) := by
      unfold WEndAt
      rw [hok.prev (r + lit.length) (by omega) hp]
    have e5 : (((body ++ [10]).getD (r + lit.length) 0 = 0 ∧ hasFlag flg REG_NOTEOL = false) ∨
        (body ++ [10]).getD (r + lit.length) 0 = 10) ↔ r + lit.length + 1 = (body ++ [10]).length := by
      rw [hslen]
      by_cases h5 : r + lit.length < body.length
      · have := hbody _ (getD_body h5)
        constructor
        · rintro (⟨h, _⟩ | h)
          · exact absurd h this.1
          · exact absurd h this.2
        · intro h; omega
      · have h6 : r + lit.length = body.length := by omega
        rw [h6, getD_nl]; simp
    rw [e1, e2, e4, e5]
    unfold FastMatch InRange Cand
    constructor
    · rintro ⟨⟨⟨h1, h3⟩, h4⟩, h2⟩
      exact ⟨⟨by omega, h1, h2⟩, hM, h3, h4⟩
    · rintro ⟨⟨_, h1, h2⟩, _, h3, h4⟩
      exact ⟨⟨⟨h1, h3⟩, h4⟩, h2⟩
  · have hfm : ¬ FastMatch rs lit (body ++ [10]) fl r := fun h => hM h.2.1
    rw [if_neg hM, ite_self, if_neg hfm]
    rfl

theorem flags_bits (a b c : Bool) :
    let f := (1 ||| (if a then REG_ICASE else 0)) |||
      (REG_NEWLINE ||| (if b then REG_NOTBOL else 0) ||| (if c then REG_NOTEOL else 0))
    hasFlag f REG_ICASE = a ∧ hasFlag f REG_NEWLINE = true ∧ hasFlag f REG_NOTBOL = b ∧
      hasFlag f REG_NOTEOL = c := by
  cases a <;> cases b <;> cases c <;> decide

/-- the fast-path descriptor `rstr_make` builds for a literal pattern -/
def fastOf (lbeg wbeg wend lend : Bool) (lit : Bytes) (cflg : Nat) : RStr :=
  { rs := none, str := some lit, icase := cflg &&& RE_ICASE != 0, lbeg := lbeg, lend := lend,
    wbeg := wbeg, wend := wend }

theorem rstrMake_fast {re : Bytes} {lbeg wbeg wend lend : Bool} {lit : Bytes} {cflg : Nat} {fastRs : RStr}
    (hs : simple re = some (lbeg, wbeg, wend, lend, lit)) (h : rstrMake re cflg = some (some fastRs)) :
    fastRs = fastOf lbeg wbeg wend lend lit cflg := by
  obtain ⟨_, _, _, _, _, hs', rfl⟩ | ⟨hn, -⟩ := rstrMake_some h
  · cases hs.symm.trans hs'; rfl
  · cases hs.symm.trans hn

/-- the program flags `rset_make` passes to `regcomp` -/
def progFlags (cflg : Nat) : Nat := 1 ||| (if cflg &&& RE_ICASE != 0 then REG_ICASE else 0)

/-- **agreement on one line**, for the descriptor and the pattern set in explicit form -/
theorem agree_explicit (lbeg wbeg wend lend : Bool) (lit : Bytes) (cflg : Nat) (alloc : Int)
    (hne : lit ≠ []) (hnl10 : ¬ 10 ∈ lit)
    (body : Bytes) (hbody : ∀ c ∈ body, c ≠ 0 ∧ c ≠ 10)
    (hok : SubjOk (body ++ [10]) lit (cflg &&& RE_ICASE != 0))
    (n flg nd ng : Nat) (hnd : 1 ≤ nd) (hng : 6 ≤ ng) :
    rstrFind (fastOf lbeg wbeg wend lend lit cflg) (body ++ [10]) n flg nd ng =
      Rset.find (litSet (atomsOf lbeg wbeg wend lend lit) alloc (progFlags cflg)) (body ++ [10]) n flg nd ng := by
  have hs : ∀ c ∈ body ++ [10], c ≠ 0 := by
    intro c hc
    rcases List.mem_append.mp hc with h | h
    · exact (hbody c h).1
    · simp at h; omega
  have hsne : body ++ [10] ≠ [] := by simp
  let cx := findCtx (atomsOf lbeg wbeg wend lend lit) (progFlags cflg) (body ++ [10]) flg nd ng
  obtain ⟨f1, f2, f3, _⟩ := flags_bits (cflg &&& RE_ICASE != 0) (flg &&& RE_NOTBOL != 0) (flg &&& RE_NOTEOL != 0)
  have hrun : ∀ r, Starts (body ++ [10]) r →
      recmatch cx r 0 =
        if FastMatch (fastOf lbeg wbeg wend lend lit cflg) lit (body ++ [10]) flg r
        then Res.ok (r + lit.length) (marksOf ng r (r + lit.length)) 0 else Res.fail 0 := by
    intro r hst
    rw [recmatch_litCode cx (atomsOf lbeg wbeg wend lend lit) rfl hnd hng]
    have : runAtoms (body ++ [10]) cx.flg (atomsOf lbeg wbeg wend lend lit) r =
        if FastMatch (fastOf lbeg wbeg wend lend lit cflg) lit (body ++ [10]) flg r
        then AR.ok (r + lit.length) else AR.fail :=
      run_literal body lit (fastOf lbeg wbeg wend lend lit cflg) flg cx.flg r hbody hne hnl10 hok
        f2 f1 f3 hst
    show resBind (runAtoms (body ++ [10]) cx.flg _ r) 0 _ = _
    rw [this]
    by_cases hp : FastMatch (fastOf lbeg wbeg wend lend lit cflg) lit (body ++ [10]) flg r
    · rw [if_pos hp, if_pos hp]; rfl
    · rw [if_neg hp, if_neg hp]; rfl
  have hexec := execLoop_spec cx (FastMatch (fastOf lbeg wbeg wend lend lit cflg) lit (body ++ [10]) flg)
    (fun r => marksOf ng r (r + lit.length)) hs
    (fun r hst hp => ⟨r + lit.length, by rw [hrun r hst, if_pos hp]⟩)
    (fun r hst hp => by rw [hrun r hst, if_neg hp])
    (fun r hp => hok.sync r hp.2.1)
    ((body ++ [10]).length + 2) 0 Starts.zero (by show (body ++ [10]).length + 1 ≤ _; omega) (fun r hr => by omega)
  have hfast := rstrFind_literal (fastOf lbeg wbeg wend lend lit cflg) lit (body ++ [10]) rfl rfl n flg nd ng
  rcases hfast with ⟨r, hr, hfr⟩ | ⟨hnone, hfr⟩
  · rcases hexec with ⟨r', hr', hex⟩ | ⟨hnone', _⟩
    · have : r' = r := IsLeast.unique hr' hr
      subst this
      rw [hfr, find_litSet_found _ _ _ _ _ _ _ _ hsne hng r' lit.length hex]
    · exact absurd hr.1 (hnone' r)
  · rcases hexec with ⟨r', hr', _⟩ | ⟨_, hex⟩
    · exact absurd hr'.1 (hnone r')
    · rw [hfr, find_litSet_nomatch _ _ _ _ _ _ _ _ hsne hex]

end Neatvi.C12
