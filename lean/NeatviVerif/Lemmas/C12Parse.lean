import NeatviVerif.Lemmas.C12Simple
/-!
# C12: what the engine's parser makes of a literal pattern
-/
namespace Neatvi.C12
open Neatvi Neatvi.Uc Neatvi.Regex

/-- stepping through `lit` by the length announced by each lead byte (`uc_len`) from offset `i`
    lands exactly on the end of `lit` -/
inductive Steps (lit : Bytes) : Nat → Prop
  | done : Steps lit lit.length
  | step {i : Nat} : i < lit.length → 0 < ucLen (lit.getD i 0) →
      Steps lit (i + ucLen (lit.getD i 0)) → Steps lit i

/-- the literal is a whole number of characters as the engine counts them -/
def LitOk (lit : Bytes) : Prop := Steps lit 0

theorem Steps.le {lit : Bytes} {i : Nat} (h : Steps lit i) : i ≤ lit.length := by
  induction h with
  | done => exact Nat.le_refl _
  | step h1 _ _ _ => omega

theorem ucLen_ascii {c : Nat} (h0 : 0 < c) (h : c < 128) : ucLen c = 1 := by
  have : ∀ x : Fin 128, 0 < x.val → ucLen x.val = 1 := by decide +kernel
  exact this ⟨c, h⟩ h0

theorem steps_ascii (lit : Bytes) (h : ∀ c ∈ lit, 0 < c ∧ c < 128) :
    ∀ k i, i + k = lit.length → Steps lit i := by
  intro k
  induction k with
  | zero => intro i hi; rw [show i = lit.length by omega]; exact Steps.done
  | succ k ih =>
    intro i hi
    have hlt : i < lit.length := by omega
    have hm : lit.getD i 0 ∈ lit := by
      rw [List.getD_eq_getElem?_getD, List.getElem?_eq_getElem hlt]; simp
    have h1 := ucLen_ascii (h _ hm).1 (h _ hm).2
    refine Steps.step hlt (by omega) ?_
    rw [h1]; exact ih (i + 1) (by omega)

theorem litOk_ascii (lit : Bytes) (h : ∀ c ∈ lit, 0 < c ∧ c < 128) : LitOk lit :=
  steps_ascii lit h lit.length 0 (by omega)

theorem getD_append_left {a b : Bytes} {j : Nat} (h : j < a.length) : (a ++ b).getD j 0 = a.getD j 0 :=
  Basics.getD_append_left b 0 h

theorem getD_append_at {a b : Bytes} : (a ++ b).getD a.length 0 = b.headD 0 := by
  cases b with
  | nil => simp [List.getD_eq_getElem?_getD]
  | cons x t => simp [List.getD_eq_getElem?_getD]

theorem getD_mem {a : Bytes} {j : Nat} (h : j < a.length) : a.getD j 0 ∈ a := Basics.getD_mem 0 h

theorem not_rep {x : Nat} (h : isRepChar x = false) : x ≠ 42 ∧ x ≠ 63 ∧ x ≠ 43 ∧ x ≠ 123 := by
  simp [isRepChar, Gen.repChars] at h
  omega

theorem not_special {x : Nat} (h : isSpecial x = false) :
    x ≠ 0 ∧ x ≠ 46 ∧ x ≠ 94 ∧ x ≠ 36 ∧ x ≠ 91 ∧ x ≠ 40 ∧ x ≠ 124 ∧ x ≠ 41 ∧ x ≠ 92 := by
  unfold isSpecial at h
  obtain ⟨h0, hl⟩ := Bool.or_eq_false_iff.mp h
  have hm : ∀ y ∈ Gen.ratomSpecial, x ≠ y := by
    intro y hy e
    rw [e, List.contains_iff_mem.mpr hy] at hl
    cases hl
  exact ⟨by simpa using h0, hm 46 (by decide), hm 94 (by decide), hm 36 (by decide), hm 91 (by decide),
    hm 40 (by decide), hm 124 (by decide), hm 41 (by decide), hm 92 (by decide)⟩

theorem litLoop_lit (lit rest : Bytes) (hne : lit ≠ [])
    (hlit : ∀ c ∈ lit, isSpecial c = false ∧ isRepChar c = false)
    (hs : isSpecial (rest.headD 0) = true) (hr : isRepChar (rest.headD 0) = false) :
    ∀ i, Steps lit i → ∀ f, f ≥ lit.length - i + 1 → litLoop (lit ++ rest) f i = some lit.length := by
  intro i hst
  have hlen : lit.length ≠ 0 := by cases lit <;> simp_all
  induction hst with
  | done =>
    intro f hf
    obtain ⟨f', rfl⟩ : ∃ f', f = f' + 1 := ⟨f - 1, by omega⟩
    rw [litLoop, rdb_le (by simp), getD_append_at]
    dsimp only
    rw [hs]
    simp [hlen]
  | @step i hi hpos hnext ih =>
    intro f hf
    obtain ⟨f', rfl⟩ : ∃ f', f = f' + 1 := ⟨f - 1, by omega⟩
    have hle := hnext.le
    have hc := hlit _ (getD_mem hi)
    have hrx : rxLen (lit ++ rest) i = ucLen (lit.getD i 0) := by
      show min (ucLen ((lit ++ rest).getD i 0)) ((lit ++ rest).length - i) = _
      rw [getD_append_left hi, List.length_append]
      omega
    rw [litLoop, rdb_le (by rw [List.length_append]; omega), getD_append_left hi]
    simp only [hc.1, Bool.not_false, Bool.or_true, if_true, hrx]
    have hz : (ucLen (lit.getD i 0) == 0) = false := beq_eq_false_iff_ne.mpr (by omega)
    simp only [hz, Bool.and_false, Bool.false_eq_true, if_false]
    have hnx : ∃ nx, rdb (lit ++ rest) (i + ucLen (lit.getD i 0)) = some nx ∧ isRepChar nx = false := by
      rw [rdb_le (by rw [List.length_append]; omega)]
      refine ⟨_, rfl, ?_⟩
      by_cases h2 : i + ucLen (lit.getD i 0) < lit.length
      · rw [getD_append_left h2]; exact (hlit _ (getD_mem h2)).2
      · have : i + ucLen (lit.getD i 0) = lit.length := by omega
        rw [this, getD_append_at]; exact hr
    obtain ⟨nx, hnx1, hnx2⟩ := hnx
    by_cases hi0 : i = 0
    · subst hi0
      simp only [bne_self_eq_false, Bool.false_eq_true, if_false, Bool.false_and]
      exact ih f' (by omega)
    · have : (i != 0) = true := by simp [hi0]
      simp only [this, if_true, hnx1, hnx2, Bool.and_false, Bool.false_eq_true, if_false]
      exact ih f' (by omega)

theorem readRep_none (n : RNode) (p : Bytes) (h : isRepChar (p.headD 0) = false) :
    readRep n p = some (some n, p) := by
  obtain ⟨h1, h2, h3, h4⟩ := not_rep h
  rw [List.headD_eq_head?_getD] at h1 h2 h3 h4
  unfold readRep
  simp [h1, h2, h3, h4]

/-- the pattern text of an atom of a literal pattern -/
def atomText (a : Atom) : Bytes :=
  match a.k with
  | AK.beg => [94]
  | AK.end_ => [36]
  | AK.wbeg => [92, 60]
  | AK.wend => [92, 62]
  | AK.chr => a.s
  | _ => []

/-- side conditions under which `atomText a` followed by a byte `next` is read back as `a`
    (not `Lemmas.C13b.AtomOk`, which is about matching an atom on the rest of a line) -/
def AtomOk (a : Atom) (next : Nat) : Prop :=
  match a.k with
  | AK.chr => a.s ≠ [] ∧ LitOk a.s ∧ (∀ c ∈ a.s, isSpecial c = false ∧ isRepChar c = false) ∧
      isSpecial next = true
  | AK.beg => a.s = []
  | AK.end_ => a.s = []
  | AK.wbeg => a.s = []
  | AK.wend => a.s = []
  | _ => False

theorem parseAtom_ok (a : Atom) (rest : Bytes) (f : Nat)
    (hok : AtomOk a (rest.headD 0)) (hr : isRepChar (rest.headD 0) = false) :
    parseAtom (f + 1) (atomText a ++ rest) = some (some (RNode.atom a 1 1), rest) := by
  obtain ⟨k, s⟩ := a
  cases k with
  | beg =>
    simp only [AtomOk] at hok; subst hok
    simp [parseAtom, atomText, ratomRead, readRep_none _ _ hr]
  | end_ =>
    simp only [AtomOk] at hok; subst hok
    simp [parseAtom, atomText, ratomRead, readRep_none _ _ hr]
  | wbeg =>
    simp only [AtomOk] at hok; subst hok
    simp [parseAtom, atomText, ratomRead, readRep_none _ _ hr]
  | wend =>
    simp only [AtomOk] at hok; subst hok
    simp [parseAtom, atomText, ratomRead, readRep_none _ _ hr]
  | chr =>
    simp only [AtomOk] at hok
    obtain ⟨hne, hlo, hlit, hsp⟩ := hok
    have hll := litLoop_lit s rest hne hlit hsp hr 0 hlo ((s ++ rest).length + 2) (by simp; omega)
    cases s with
    | nil => exact absurd rfl hne
    | cons c t =>
      obtain ⟨c0, c1, c2, c3, c4, c5, c6, c7, c8⟩ := not_special (hlit c (by simp)).1
      simp only [atomText, List.cons_append] at hll ⊢
      rw [parseAtom]
      simp only [List.headD_cons, beq_iff_eq, Bool.or_eq_true, c0, c6, c7, c5, or_self, if_false,
        ratomRead, c1, c2, c3, c4, c8, hll, Option.map_some]
      have e1 : List.take (c :: t).length (c :: (t ++ rest)) = c :: t := by
        rw [← List.cons_append, List.take_left']; rfl
      have e2 : List.drop (c :: t).length (c :: (t ++ rest)) = rest := by
        rw [← List.cons_append, List.drop_left']; rfl
      rw [e1, e2]
      exact readRep_none _ _ hr
  | any => simp [AtomOk] at hok
  | brk => simp [AtomOk] at hok

def seqText : List Atom → Bytes
  | [] => []
  | a :: as => atomText a ++ seqText as

/-- each atom can be read back in the context of what follows -/
def SeqOk : List Atom → Bytes → Prop
  | [], _ => True
  | a :: as, rest =>
    AtomOk a ((seqText as ++ rest).headD 0) ∧ isRepChar ((seqText as ++ rest).headD 0) = false ∧
      SeqOk as rest

/-- right-nested concatenation of atoms, each matched exactly once -/
def catOf : List Atom → RNode
  | [] => RNode.nul
  | [a] => RNode.atom a 1 1
  | a :: b :: t => RNode.cat (RNode.atom a 1 1) (catOf (b :: t))

theorem parseSeq_close (rest : Bytes) (f : Nat) :
    parseSeq (f + 2) (41 :: rest) = some (none, 41 :: rest) := by
  simp [parseSeq, parseAtom]

theorem parseSeq_atoms : ∀ (as : List Atom) (rest : Bytes) (f : Nat), SeqOk as (41 :: rest) → as ≠ [] →
    f ≥ 2 * as.length + 2 →
    parseSeq f (seqText as ++ 41 :: rest) = some (some (catOf as), 41 :: rest) := by
  intro as
  induction as with
  | nil => intro rest f _ h; exact absurd rfl h
  | cons a as ih =>
    intro rest f hok _ hf
    obtain ⟨f', rfl⟩ : ∃ f', f = f' + 2 := ⟨f - 2, by simp at hf; omega⟩
    obtain ⟨h1, h2, h3⟩ := hok
    rw [parseSeq]
    simp only [seqText, List.append_assoc]
    rw [parseAtom_ok a _ f' h1 h2]
    dsimp only
    cases as with
    | nil =>
      simp only [seqText, List.nil_append]
      obtain ⟨f'', rfl⟩ : ∃ f'', f' = f'' + 1 := ⟨f' - 1, by simp at hf; omega⟩
      rw [parseSeq_close]
      simp [catOf]
    | cons b t =>
      rw [ih rest (f' + 1) h3 (by simp) (by simp at hf ⊢; omega)]
      simp [catOf]

/-- the parse tree of `((re))` when `re` is the text of a sequence of atoms -/
theorem parse_wrapped (as : List Atom) (hok : SeqOk as [41, 41]) (hne : as ≠ [])
    (hhd : (seqText as ++ [41, 41]).headD 0 ≠ 41) (hlen : as.length ≤ 5) :
    parse ([40, 40] ++ seqText as ++ [41, 41]) =
      some (some (RNode.grp (RNode.grp (catOf as) 0 1 1) 0 1 1)) := by
  unfold parse parseFuel
  obtain ⟨f, hf⟩ : ∃ f, 4 * ([40, 40] ++ seqText as ++ [41, 41]).length + 8 = f + 22 :=
    ⟨4 * ([40, 40] ++ seqText as ++ [41, 41]).length + 8 - 22, by simp; omega⟩
  rw [hf]
  have hseq := parseSeq_atoms as [41] (f + 13) hok hne (by omega)
  have hclose1 : parseSeq (f + 16) [41] = some (none, [41]) := parseSeq_close [] (f + 14)
  have hemp : parseSeq (f + 20) [] = some (none, []) := by simp [parseSeq, parseAtom]
  have hr1 : ∀ n, readRep n [41] = some (some n, [41]) := fun n => readRep_none _ _ (by decide)
  have hr0 : ∀ n, readRep n [] = some (some n, []) := fun n => readRep_none _ _ (by decide)
  simp only [List.cons_append, List.nil_append] at hseq hhd ⊢
  rw [parseAlt, parseSeq, parseAtom, parseGrp, parseAlt, parseSeq, parseAtom, parseGrp, parseAlt]
  simp only [List.drop_succ_cons, List.drop_zero, List.headD_cons, bne_iff_ne, ne_eq, hhd,
    not_false_eq_true, if_true, hseq]
  simp [hr1, hr0, hclose1, hemp]

end Neatvi.C12
