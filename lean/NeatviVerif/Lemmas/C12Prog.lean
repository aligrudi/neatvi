import NeatviVerif.Lemmas.C12VM
import NeatviVerif.Lemmas.C12Parse
import NeatviVerif.Lemmas.C11cCount
/-!
# C12: the program the engine compiles for a literal pattern
-/
namespace Neatvi.C12
open Neatvi Neatvi.Regex Neatvi.Rset
open Neatvi.Props.C11 (emitRep_one countRep_one parse_ok)

/-- the atoms of a literal pattern, in order -/
def atomsOf (lbeg wbeg wend lend : Bool) (lit : Bytes) : List Atom :=
  (if lbeg then [⟨AK.beg, []⟩] else []) ++ (if wbeg then [⟨AK.wbeg, []⟩] else []) ++ [⟨AK.chr, lit⟩] ++
  (if wend then [⟨AK.wend, []⟩] else []) ++ (if lend then [⟨AK.end_, []⟩] else [])

theorem seqText_append (as bs : List Atom) : seqText (as ++ bs) = seqText as ++ seqText bs := by
  induction as with
  | nil => rfl
  | cons a as ih => rw [List.cons_append, seqText, seqText, ih, List.append_assoc]

theorem seqText_atomsOf (lbeg wbeg wend lend : Bool) (lit : Bytes) :
    seqText (atomsOf lbeg wbeg wend lend lit) = pre lbeg wbeg ++ lit ++ suf wend lend := by
  simp only [atomsOf, pre, suf, seqText_append, apply_ite seqText, seqText, atomText, List.append_nil,
    List.append_assoc]

theorem atomsOf_ne_nil (lbeg wbeg wend lend : Bool) (lit : Bytes) : atomsOf lbeg wbeg wend lend lit ≠ [] := by
  simp [atomsOf]

theorem atomsOf_length (lbeg wbeg wend lend : Bool) (lit : Bytes) :
    (atomsOf lbeg wbeg wend lend lit).length ≤ 5 := by
  have h : ∀ (b : Bool) (a : Atom), (if b then [a] else []).length ≤ 1 := by
    intro b a
    cases b
    · exact Nat.zero_le 1
    · exact Nat.le_refl 1
  have := h lbeg ⟨AK.beg, []⟩
  have := h wbeg ⟨AK.wbeg, []⟩
  have := h wend ⟨AK.wend, []⟩
  have := h lend ⟨AK.end_, []⟩
  simp only [atomsOf, List.length_append, List.length_cons, List.length_nil]
  omega

theorem seqOk_append (as bs : List Atom) (rest : Bytes) :
    SeqOk (as ++ bs) rest ↔ SeqOk as (seqText bs ++ rest) ∧ SeqOk bs rest := by
  induction as with
  | nil => simp [SeqOk]
  | cons a as ih => simp only [List.cons_append, SeqOk, seqText_append, List.append_assoc, ih, and_assoc]

theorem seqOk_atomsOf (lbeg wbeg wend lend : Bool) (lit : Bytes) (hne : lit ≠ []) (hlo : LitOk lit)
    (hlit : ∀ c ∈ lit, isSpecial c = false ∧ isRepChar c = false) :
    SeqOk (atomsOf lbeg wbeg wend lend lit) [41, 41] := by
  cases lit with
  | nil => exact absurd rfl hne
  | cons c t =>
    have hc := (hlit c (by simp)).2
    unfold atomsOf
    rw [List.append_assoc, List.append_assoc, seqOk_append, seqOk_append]
    -- the anchors before the literal, the literal itself, the anchors after it
    refine ⟨?_, ?_, ?_⟩
    · cases lbeg <;> cases wbeg <;> simp [SeqOk, seqText, atomText, AtomOk, hc] <;> decide
    · cases wend <;> cases lend <;> simp [seqText, atomText, AtomOk, hlo, hlit] <;>
        exact ⟨fun a ha => hlit a (List.mem_cons_of_mem _ ha), by decide⟩
    · cases wend <;> cases lend <;> simp [SeqOk, seqText, atomText, AtomOk] <;> decide

/-- **program shape**: `((re))` parses to two groups around the concatenation of the atoms -/
theorem parse_literal {re : Bytes} {lbeg wbeg wend lend : Bool} {lit : Bytes}
    (hnul : ∀ c ∈ re, c ≠ 0)
    (h : simple re = some (lbeg, wbeg, wend, lend, lit)) (hne : lit ≠ []) (hlo : LitOk lit) :
    parse ([40, 40] ++ re ++ [41, 41]) =
      some (some (RNode.grp (RNode.grp (catOf (atomsOf lbeg wbeg wend lend lit)) 0 1 1) 0 1 1)) := by
  have hre := (simple_decomp h).1
  have hlit := simple_lit_plain hnul h
  have hok := seqOk_atomsOf lbeg wbeg wend lend lit hne hlo hlit
  have := parse_wrapped (atomsOf lbeg wbeg wend lend lit) hok (atomsOf_ne_nil _ _ _ _ _)
    (by
      rw [seqText_atomsOf]
      cases lit with
      | nil => exact absurd rfl hne
      | cons c t =>
        have := (not_special (hlit c (by simp)).1).2.2.2.2.2.2.2.1
        cases lbeg <;> cases wbeg <;> simp [pre, this])
    (atomsOf_length _ _ _ _ _)
  rw [seqText_atomsOf, ← hre] at this
  exact this

theorem grpnum_catOf : ∀ (as : List Atom) (k : Nat), grpnum (catOf as) k = (catOf as, 0)
  | [], _ => rfl
  | [_], _ => rfl
  | a :: b :: t, k => by
    have := grpnum_catOf (b :: t) (k + 0)
    simp only [catOf, grpnum, this]

theorem emitLen_catOf : ∀ (as : List Atom), emitLen (catOf as) = as.length
  | [] => rfl
  | [_] => by simp [catOf, emitLen, repLen]
  | a :: b :: t => by
    have := emitLen_catOf (b :: t)
    simp only [catOf, emitLen, this, repLen]
    simp; omega

theorem emit_catOf : ∀ (as : List Atom) (base : Nat), emit (catOf as) base = as.map Inst.atom
  | [], _ => rfl
  | [_], _ => by simp [catOf, emit, emitRep]
  | a :: b :: t, base => by
    have := emit_catOf (b :: t) (base + 1)
    simp only [catOf, emit, emitRep, emitLen, repLen] at this ⊢
    simp [this]

theorem count_catOf : ∀ as : List Atom, count (catOf as) = as.length
  | [] => rfl
  | [_] => rfl
  | a :: b :: t => by
    rw [catOf, count, count_catOf (b :: t), count, countRep_one, List.length_cons (as := b :: t)]
    omega

/-- a literal pattern compiles to a handful of instructions: far below the size limit -/
theorem count_literal_small (lbeg wbeg wend lend : Bool) (lit : Bytes) :
    ¬ (count (RNode.grp (RNode.grp (catOf (atomsOf lbeg wbeg wend lend lit)) 0 1 1) 0 1 1) + 3 > (Gen.NCODE : Int)) := by
  have := atomsOf_length lbeg wbeg wend lend lit
  rw [count, count, countRep_one, countRep_one, count_catOf, Gen.NCODE]
  omega

theorem regcomp_literal {re : Bytes} {lbeg wbeg wend lend : Bool} {lit : Bytes}
    (hnul : ∀ c ∈ re, c ≠ 0)
    (h : simple re = some (lbeg, wbeg, wend, lend, lit)) (hne : lit ≠ []) (hlo : LitOk lit) (rflg : Nat) :
    ∃ alloc, regcomp ([40, 40] ++ re ++ [41, 41]) rflg =
      some (some { code := litCode (atomsOf lbeg wbeg wend lend lit), alloc := alloc, flg := rflg }) := by
  refine ⟨countSat (RNode.grp (RNode.grp (catOf (atomsOf lbeg wbeg wend lend lit)) 0 1 1) 0 1 1) + 3, ?_⟩
  have hp := parse_literal hnul h hne hlo
  -- the clamped count `regcomp` tests is the clamp of `count` (`countSat_eq_sat`), and `count` is small
  have hsmall : ¬ (countSat (RNode.grp (RNode.grp (catOf (atomsOf lbeg wbeg wend lend lit)) 0 1 1) 0 1 1) + 3 >
      (Gen.NCODE : Int)) := by
    have h1 := count_literal_small lbeg wbeg wend lend lit
    have h2 := (Lemmas.C11c.sat_le (count (RNode.grp (RNode.grp (catOf (atomsOf lbeg wbeg wend lend lit)) 0 1 1) 0 1 1))).1
    rw [Lemmas.C11c.countSat_eq_sat _ (parse_ok hp)]
    omega
  unfold regcomp
  rw [hp]
  simp only [if_neg hsmall]
  simp only [grpnum, grpnum_catOf, emit, emitRep_one, emit_catOf, litCode]
  simp

theorem groupCountLoop_none (s : Bytes) (h : ∀ j, s.getD j 0 ≠ 40 ∧ s.getD j 0 ≠ 91) :
    ∀ (f i n b2 : Nat), groupCountLoop s f i n false b2 = n := by
  intro f
  induction f with
  | zero => intro i n b2; rfl
  | succ f ih =>
    intro i n b2
    rw [groupCountLoop]
    obtain ⟨h1, h2⟩ := h i
    have h2' : (s.getD i 0 == 91) = false := beq_eq_false_iff_ne.mpr h2
    simp only [beq_iff_eq, h1, h2', Bool.not_false, if_true, if_false, Bool.false_and, Bool.false_eq_true, ih]
    split <;> (try split) <;> rfl

theorem groupCount_literal {re : Bytes} {lbeg wbeg wend lend : Bool} {lit : Bytes}
    (h : simple re = some (lbeg, wbeg, wend, lend, lit)) : groupCount re = 0 := by
  obtain ⟨hre, hstop⟩ := simple_decomp h
  unfold groupCount
  apply groupCountLoop_none
  intro j
  have hmem : ∀ c ∈ re, c ≠ 40 ∧ c ≠ 91 := by
    intro c hc
    rw [hre] at hc
    simp only [List.mem_append] at hc
    rcases hc with (hc | hc) | hc
    · cases lbeg <;> cases wbeg <;> simp [pre] at hc <;> omega
    · have hns := not_mem_stop (hstop c hc)
      exact ⟨fun e => hns (e ▸ by decide), fun e => hns (e ▸ by decide)⟩
    · cases wend <;> cases lend <;> simp [suf] at hc <;> omega
  by_cases hj : j < re.length
  · exact hmem _ (getD_mem hj)
  · rw [List.getD_eq_getElem?_getD, List.getElem?_eq_none (by omega)]
    simp

theorem combined_one (re : Bytes) : combined [some re] = [40, 40] ++ re ++ [41, 41] := by
  simp [combined]

theorem make_literal {re : Bytes} {lbeg wbeg wend lend : Bool} {lit : Bytes}
    (hnul : ∀ c ∈ re, c ≠ 0)
    (h : simple re = some (lbeg, wbeg, wend, lend, lit)) (hne : lit ≠ []) (hlo : LitOk lit) (cflg : Nat) :
    ∃ alloc, make [some re] cflg = some (some
      { prog := { code := litCode (atomsOf lbeg wbeg wend lend lit), alloc := alloc,
                  flg := 1 ||| (if cflg &&& RE_ICASE != 0 then REG_ICASE else 0) },
        n := 1, grp := [2, 3], setgrpcnt := [0], grpcnt := 3 }) := by
  obtain ⟨alloc, ha⟩ := regcomp_literal hnul h hne hlo (1 ||| (if cflg &&& RE_ICASE != 0 then REG_ICASE else 0))
  refine ⟨alloc, ?_⟩
  unfold make
  simp only [combined_one, List.foldl_cons, List.foldl_nil, groupCount_literal h, ha]
  rfl

end Neatvi.C12
