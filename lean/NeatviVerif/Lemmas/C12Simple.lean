import NeatviVerif.Model.Rset
import NeatviVerif.Lemmas.Basics
/-!
# C12: the classifier `simple` (`rstr_simple`); and what `rset_make` / `rstr_make` return for any pattern, with small facts
about the readers of `regex.c`

The first part (`simple_decomp` … `simple_lit_plain`) is C12's own.  The rest is shared: it needs the model of `rset.c` / `rstr.c`
only, and `Lemmas/C05eR1`, `C11Atom`, `C13bC`, `C13bF`, `C18cNested` stand on it.
`ucLen_pos`, `rxLen_le`, `rxLen_pos`, `rdb_le`; the `match_case` lemmas; `make_eq`: `rset_make` is `regcomp` on the combined
pattern and the group tables (`tables`, `setOf`; the group counts taken by `countFrom`, which computes
`re_groupcount` in one pass over the text, so that the kernel can evaluate it), `make_some`, `make_single`;
`rstrMake_some`: what `rstr_make` returns.
-/
namespace Neatvi.C12
open Neatvi Neatvi.Uc Neatvi.Regex Neatvi.Rset

/-- the anchor prefix of a literal pattern -/
def pre (lbeg wbeg : Bool) : Bytes := (if lbeg then [94] else []) ++ (if wbeg then [92, 60] else [])
/-- the anchor suffix of a literal pattern -/
def suf (wend lend : Bool) : Bytes := (if wend then [92, 62] else []) ++ (if lend then [36] else [])

theorem ucLen_pos {c : Nat} (h : 0 < c) : 0 < ucLen c := by
  unfold ucLen
  split
  · exact Nat.one_pos
  · split
    · omega
    · split
      · omega
      · split <;> omega

theorem rxLen_le (s : Bytes) (i : Nat) : rxLen s i ≤ s.length - i := Nat.min_le_right _ _

theorem rxLen_pos {s : Bytes} {i : Nat} (hi : i < s.length) (h0 : s.getD i 0 ≠ 0) : 0 < rxLen s i := by
  have := ucLen_pos (c := s.getD i 0) (by omega)
  unfold rxLen; omega

theorem rdb_le {p : Bytes} {j : Nat} (h : j ≤ p.length) : rdb p j = some (p.getD j 0) := by
  unfold rdb
  by_cases h1 : j < p.length
  · simp [h1, List.getD_eq_getElem?_getD]
  · have : j = p.length := by omega
    subst this
    simp [List.getD_eq_getElem?_getD]

theorem eq_cons_of_headD {l : Bytes} {a : Nat} (h : (l.headD 0 == a) = true) (_ha : a ≠ 0) :
    l = a :: l.drop 1 := by
  cases l with
  | nil => simp at h; omega
  | cons x t => simp at h; simp [h]

theorem eq_cons2_of_headD {l : Bytes} {a b : Nat}
    (h : (l.headD 0 == a && l.getD 1 0 == b) = true) (_ha : a ≠ 0) (hb : b ≠ 0) :
    l = a :: b :: l.drop 2 := by
  cases l with
  | nil => simp at h; omega
  | cons x t =>
    cases t with
    | nil => simp at h; omega
    | cons y u => simp at h; simp [h]

theorem takeWhile_append_drop (p : Nat → Bool) (l : Bytes) :
    l = l.takeWhile p ++ l.drop (l.takeWhile p).length := by
  rw [Basics.drop_takeWhile_length, List.takeWhile_append_dropWhile]

/-- the shape of a pattern accepted by the classifier -/
theorem simple_decomp {re : Bytes} {lbeg wbeg wend lend : Bool} {lit : Bytes}
    (h : simple re = some (lbeg, wbeg, wend, lend, lit)) :
    re = pre lbeg wbeg ++ lit ++ suf wend lend ∧ (∀ c ∈ lit, isStop c = false) := by
  unfold simple at h
  extract_lets lbeg' re1 wbeg' re2 lit' re3 wend' re4 lend' re5 at h
  have hre1 : (if lbeg' = true then re.drop 1 else re) = re1 := rfl
  have hre2 : (if wbeg' = true then re1.drop 2 else re1) = re2 := rfl
  have hre3 : re2.drop lit'.length = re3 := rfl
  have hre4 : (if wend' = true then re3.drop 2 else re3) = re4 := rfl
  have hre5 : (if lend' = true then re4.drop 1 else re4) = re5 := rfl
  have hlit : re2.takeWhile (fun c => !isStop c) = lit' := rfl
  have h1 : (re.headD 0 == 94) = lbeg' := rfl
  have h2 : (re1.headD 0 == 92 && re1.getD 1 0 == 60) = wbeg' := rfl
  have h3 : (re3.headD 0 == 92 && re3.getD 1 0 == 62) = wend' := rfl
  have h4 : (re4.headD 0 == 36) = lend' := rfl
  clear_value re5 lend' re4 wend' re3 lit' re2 wbeg' re1 lbeg'
  split at h
  · rename_i h5
    simp only [Option.some.injEq, Prod.mk.injEq] at h
    obtain ⟨rfl, rfl, rfl, rfl, rfl⟩ := h
    have e5 : re5 = [] := by simpa using h5
    have e4 : re4 = (if lend' then [36] else []) := by
      cases lend' with
      | true =>
        have := eq_cons_of_headD h4 (by decide)
        simp only [if_true] at hre5; rw [hre5, e5] at this; simpa using this
      | false => simp at hre5; simp [hre5, e5]
    have e3 : re3 = (if wend' then [92, 62] else []) ++ re4 := by
      cases wend' with
      | true =>
        have := eq_cons2_of_headD h3 (by decide) (by decide)
        simp only [if_true] at hre4; rw [hre4] at this; simpa using this
      | false => simp at hre4; simp [hre4]
    have e2 : re2 = lit' ++ re3 := by
      have := takeWhile_append_drop (fun c => !isStop c) re2
      rw [hlit, hre3] at this; exact this
    have e1 : re1 = (if wbeg' then [92, 60] else []) ++ re2 := by
      cases wbeg' with
      | true =>
        have := eq_cons2_of_headD h2 (by decide) (by decide)
        simp only [if_true] at hre2; rw [hre2] at this; simpa using this
      | false => simp at hre2; simp [hre2]
    have e0 : re = (if lbeg' then [94] else []) ++ re1 := by
      cases lbeg' with
      | true =>
        have := eq_cons_of_headD h1 (by decide)
        simp only [if_true] at hre1; rw [hre1] at this; simpa using this
      | false => simp at hre1; simp [hre1]
    refine ⟨?_, ?_⟩
    · rw [e0, e1, e2, e3, e4]; simp [pre, suf]
    · intro c hc
      rw [← hlit] at hc
      simpa using Basics.mem_takeWhile hc
  · cases h

theorem not_mem_stop {c : Nat} (h : isStop c = false) : c ∉ Gen.rstrStop := fun hm => by
  rw [isStop, List.contains_iff_mem.mpr hm] at h
  cases h

theorem not_stop_not_special {c : Nat} (h : isStop c = false) :
    Gen.ratomSpecial.contains c = false ∧ isRepChar c = false := by
  have hcov : (∀ c ∈ Gen.ratomSpecial, c ∈ Gen.rstrStop) ∧ (∀ c ∈ Gen.repChars, c ∈ Gen.rstrStop) := by
    decide
  have hc := not_mem_stop h
  refine ⟨?_, ?_⟩
  · cases h1 : Gen.ratomSpecial.contains c
    · rfl
    · exact absurd (hcov.1 c (List.contains_iff_mem.mp h1)) hc
  · unfold isRepChar
    cases h1 : Gen.repChars.contains c
    · rfl
    · exact absurd (hcov.2 c (List.contains_iff_mem.mp h1)) hc

theorem simple_lit_plain {re : Bytes} {lbeg wbeg wend lend : Bool} {lit : Bytes} (hnul : ∀ c ∈ re, c ≠ 0)
    (h : simple re = some (lbeg, wbeg, wend, lend, lit)) :
    ∀ c ∈ lit, isSpecial c = false ∧ isRepChar c = false := by
  obtain ⟨hre, hstop⟩ := simple_decomp h
  intro c hc
  obtain ⟨h1, h2⟩ := not_stop_not_special (hstop c hc)
  have h0 : c ≠ 0 := hnul c (by rw [hre]; simp [hc])
  refine ⟨?_, h2⟩
  unfold isSpecial
  rw [h1]; simp [h0]

/-! ### `match_case` -/

theorem matchCase_cons (a b : Nat) (s r : Bytes) (ic : Bool) :
    matchCase (a :: s) (b :: r) ic =
      if (if ic then lowerB a != lowerB b else a != b) then false else matchCase s r ic := by
  rw [matchCase]

theorem matchCase_nil_left (b : Nat) (r : Bytes) (ic : Bool) : matchCase [] (b :: r) ic = false := by
  rw [matchCase]

theorem matchCase_nil (s : Bytes) (ic : Bool) : matchCase s [] ic = true := by
  cases s <;> rw [matchCase]

/-- without ICASE, `match_case` is "the literal is a prefix" (what the engine's `strncmp` tests) -/
theorem matchCase_false_iff : ∀ (s r : Bytes), matchCase s r false = true ↔ s.take r.length = r := by
  intro s r
  induction r generalizing s with
  | nil => simp [matchCase_nil]
  | cons b r ih =>
    cases s with
    | nil => simp [matchCase_nil_left]
    | cons a s =>
      rw [matchCase_cons]
      by_cases hab : a = b
      · subst hab; simp [ih]
      · simp [hab]

theorem matchCase_cons_iff (a b : Nat) (s r : Bytes) (ic : Bool) :
    matchCase (a :: s) (b :: r) ic = true ↔
      (if ic then lowerB a = lowerB b else a = b) ∧ matchCase s r ic = true := by
  rw [matchCase_cons]
  cases ic
  · by_cases h : a = b <;> simp [h]
  · by_cases h : lowerB a = lowerB b <;> simp [h]

theorem matchCase_length {ic : Bool} : ∀ (s r : Bytes), matchCase s r ic = true → r.length ≤ s.length := by
  intro s r
  induction r generalizing s with
  | nil => intro _; simp
  | cons b r ih =>
    cases s with
    | nil => simp [matchCase_nil_left]
    | cons a s =>
      rw [matchCase_cons_iff]
      intro h; have := ih s h.2; simp; omega

/-! ### what `rset_make` and `rstr_make` return -/

/-- `re_groupcount` walking the text (same fuel, same cases): `groupCountLoop` reads `s[i]`, `s[i + 1]`,
    `s[i + 2]` by index, which makes its evaluation quadratic in the length of the pattern -/
def countFrom : Nat → Bytes → Nat → Bool → Nat → Nat
  | 0, _, n, _, _ => n
  | f + 1, t, n, brk, brk2 =>
    let c := t.headD 0
    if c == 0 then n else
    let c1 := (t.drop 1).headD 0
    let c2 := (t.drop 2).headD 0
    if !brk then
      let n := if c == 40 then n + 1 else n
      if c == 92 && c1 != 0 then countFrom f (t.drop 2) n false brk2
      else if c == 91 && c1 != 0 && c2 != 0 then countFrom f (t.drop ((if c1 == 94 then 2 else 1) + 1)) n true brk2
      else countFrom f (t.drop 1) n false brk2
    else
      if brk2 == 0 then
        let brk' := if c == 93 then false else brk
        if c == 91 && (c1 == 58 || c1 == 42 || c1 == 61) then countFrom f (t.drop 2) n brk' c1
        else countFrom f (t.drop 1) n brk' brk2
      else if c == brk2 && c1 == 93 then countFrom f (t.drop 2) n brk 0
      else countFrom f (t.drop 1) n brk brk2

theorem headD_drop (s : Bytes) (i : Nat) : (s.drop i).headD 0 = s.getD i 0 := by
  rw [List.headD_eq_head?_getD, List.head?_drop, List.getD_eq_getElem?_getD]

theorem groupCountLoop_eq (s : Bytes) : ∀ f i n brk brk2,
    groupCountLoop s f i n brk brk2 = countFrom f (s.drop i) n brk brk2 := by
  intro f
  induction f with
  | zero => intro i n brk brk2; rfl
  | succ f ih =>
    intro i n brk brk2
    rw [groupCountLoop, countFrom]
    simp only [List.drop_drop, headD_drop, ih, Nat.add_assoc]

theorem groupCount_eq (s : Bytes) : groupCount s = countFrom (s.length + 1) s 0 false 0 :=
  groupCountLoop_eq s _ 0 0 false 0

/-- the group table, the group counts and the total of `rset_make` -/
def tables (pats : List (Option Bytes)) : List Int × List Nat × Nat :=
  pats.foldl (fun (acc : List Int × List Nat × Nat) p =>
    let (g, c, gc) := acc
    match p with
    | none => (g ++ [-1], c ++ [0], gc)
    | some x => let k := countFrom (x.length + 1) x 0 false 0; (g ++ [(gc : Int)], c ++ [k], gc + 1 + k)) ([], [], 2)

/-- the set `rset_make` builds around the compiled program -/
def setOf (pats : List (Option Bytes)) (p : Prog) : RSet :=
  { prog := p, n := pats.length, grp := (tables pats).1 ++ [((tables pats).2.2 : Int)],
    setgrpcnt := (tables pats).2.1, grpcnt := (tables pats).2.2 }

theorem make_eq (pats : List (Option Bytes)) (flg : Nat) : Rset.make pats flg =
    (regcomp (combined pats) (1 ||| (if flg &&& RE_ICASE != 0 then REG_ICASE else 0))).map
      (Option.map (setOf pats)) := by
  unfold Rset.make setOf tables
  simp only [groupCount_eq]
  generalize List.foldl _ _ pats = t
  obtain ⟨g, c, gc⟩ := t
  dsimp only
  cases regcomp (combined pats) (1 ||| (if flg &&& RE_ICASE != 0 then REG_ICASE else 0)) with
  | none => rfl
  | some o => cases o <;> rfl

theorem make_some {pats : List (Option Bytes)} {flg : Nat} {rs : RSet} (h : Rset.make pats flg = some (some rs)) :
    regcomp (combined pats) (1 ||| (if flg &&& RE_ICASE != 0 then REG_ICASE else 0)) = some (some rs.prog) ∧
      rs = setOf pats rs.prog := by
  rw [make_eq] at h
  generalize regcomp (combined pats) _ = r at h ⊢
  match r, h with
  | some (some p), h => cases h; exact ⟨rfl, rfl⟩

theorem make_single {pat : Bytes} {flg : Nat} {r : RSet} (h : make [some pat] flg = some (some r)) :
    regcomp (combined [some pat]) (1 ||| (if flg &&& RE_ICASE != 0 then REG_ICASE else 0)) = some (some r.prog) ∧
      r.n = 1 ∧ r.grp = [2, ((3 + groupCount pat : Nat) : Int)] ∧ r.setgrpcnt = [groupCount pat] ∧
      r.grpcnt = 3 + groupCount pat := by
  obtain ⟨h1, h2⟩ := make_some h
  refine ⟨h1, ?_⟩
  rw [h2]
  simp only [setOf, tables, List.foldl_cons, List.foldl_nil, ← groupCount_eq]
  refine ⟨rfl, ?_, rfl, trivial⟩
  rw [show 2 + 1 + groupCount pat = 3 + groupCount pat by omega]
  rfl

theorem rstrMake_some {pat : Bytes} {flg : Nat} {re : RStr} (h : rstrMake pat flg = some (some re)) :
    (∃ lbeg wbeg wend lend lit, simple pat = some (lbeg, wbeg, wend, lend, lit) ∧
      re = { rs := none, str := some lit, icase := flg &&& RE_ICASE != 0, lbeg := lbeg, lend := lend,
             wbeg := wbeg, wend := wend }) ∨
    (simple pat = none ∧ ∃ r, make [some pat] flg = some (some r) ∧
      re = { rs := some r, str := none, icase := flg &&& RE_ICASE != 0, lbeg := false, lend := false,
             wbeg := false, wend := false }) := by
  unfold rstrMake at h
  cases hs : simple pat with
  | some x =>
    obtain ⟨lbeg, wbeg, wend, lend, lit⟩ := x
    rw [hs] at h
    cases h
    exact Or.inl ⟨lbeg, wbeg, wend, lend, lit, rfl, rfl⟩
  | none =>
    rw [hs] at h
    cases hm : make [some pat] flg with
    | none => rw [hm] at h; cases h
    | some o =>
      rw [hm] at h
      cases o with
      | none => cases h
      | some r => cases h; exact Or.inr ⟨rfl, r, rfl, rfl⟩

end Neatvi.C12
