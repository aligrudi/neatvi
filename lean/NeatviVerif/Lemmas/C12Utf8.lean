import NeatviVerif.Lemmas.C12Main
import NeatviVerif.Lemmas.C11bUtf8
import NeatviVerif.Lemmas.UcBits
/-!
# C12: valid UTF-8 subjects and literals satisfy `SubjOk`

The character boundaries of `encStr cs` (`Lemmas/C11bUtf8.lean`) are exactly the start positions `regexec` tries
(`starts_take`, `boundary_of_starts`): `sync`.  The byte before a boundary decides the word test as the character before it
does (`prevLead_word`): `prev`.  The engine's code-point-wise folding comparison and the byte-wise `tolower` comparison of
the fast path agree from a boundary on (`chrIcase_utf8`): `fold`.  ASCII is the instance `encStr s = s`.
First the byte-level facts `fold` needs: `foldc true` is `lowerB`, and one step of the engine's folding comparison (`chrIcase_step`).
-/
namespace Neatvi.C12
open Neatvi Neatvi.Uc Neatvi.Regex Neatvi.Rset Neatvi.Spec

/-- every byte is a non-NUL ASCII byte -/
def Ascii (s : Bytes) : Prop := ∀ c ∈ s, 0 < c ∧ c < 128

theorem contB_ascii {c : Nat} (h : c < 128) : contB c = false := by
  rw [contB_eq c (by omega)]
  simp; omega

theorem foldc_true (c : Nat) : foldc true c = lowerB c := by
  unfold foldc lowerB isUpperB
  by_cases h : 65 ≤ c ∧ c ≤ 90
  · have : c < 128 := by omega
    simp [h, this]
  · by_cases h1 : 65 ≤ c <;> by_cases h2 : c ≤ 90 <;> simp [h1, h2] <;> omega

theorem lowerB_pos {c : Nat} (h : 0 < c) : 0 < lowerB c := by
  unfold lowerB; split <;> omega

theorem drop_eq_cons {s : Bytes} {i : Nat} (h : i < s.length) : s.drop i = s.getD i 0 :: s.drop (i + 1) := by
  rw [List.getD_eq_getElem?_getD, List.getElem?_eq_getElem h]
  simp

theorem nat_bne_false {a b : Nat} (h : a = b) : (a != b) = false := by subst h; simp
theorem nat_bne_true {a b : Nat} (h : a ≠ b) : (a != b) = true := by simp [h]

theorem chrIcase_step {lit subj : Bytes} {f k r b : Nat} (h : rdb lit k = some b) (hb : b ≠ 0) :
    chrIcase lit subj (f + 1) k r =
      match decAt lit k, decAt subj r with
      | some c1, some c2 =>
        if foldc true c1 != foldc true c2 || foldc true c2 == 0 then AR.fail
        else chrIcase lit subj f (k + rxLen lit k) (r + rxLen subj r)
      | _, _ => AR.trap := by
  rw [chrIcase, h]
  cases b with
  | zero => exact absurd rfl hb
  | succ b' => rfl

theorem nat_beq_zero_false {a : Nat} (h : 0 < a) : (a == 0) = false := by
  cases a with
  | zero => omega
  | succ n => rfl

theorem starts_take {cs : List Nat} (hv : ∀ c ∈ cs, ValidCp c) :
    ∀ k, k ≤ cs.length → Starts (encStr cs) (encStr (cs.take k)).length := by
  intro k
  induction k with
  | zero => intro _; exact Starts.zero
  | succ k ih =>
    intro hk
    have hlt : k < cs.length := by omega
    have hc : ValidCp cs[k] := hv _ (List.getElem_mem hlt)
    obtain ⟨hsplit, -, hrx⟩ := at_boundary (pre := cs.take k) (post := cs.drop (k + 1))
      (by rw [← List.drop_eq_getElem_cons hlt, List.take_append_drop]) hc
    have hlen : (encStr (cs.take k)).length < (encStr cs).length := by
      rw [hsplit]; have := enc_length_pos cs[k]; simp; omega
    have hstep := Starts.step (ih (by omega)) hlen
    rw [hrx] at hstep
    have htk : cs.take (k + 1) = cs.take k ++ [cs[k]] := by
      rw [List.take_add_one, List.getElem?_eq_getElem hlt]; rfl
    rw [htk, encStr_append]
    simpa using hstep

theorem starts_boundary {cs : List Nat} (hv : ∀ c ∈ cs, ValidCp c) (pre post : List Nat)
    (h : cs = pre ++ post) : Starts (encStr cs) (encStr pre).length := by
  have := starts_take hv pre.length (by rw [h]; simp)
  rw [h, List.take_left'] at this
  · rw [h]; exact this
  · rfl

theorem lowerB_cont {a b : Nat} (h : lowerB a = lowerB b) : Props.C11b.Cont a ↔ Props.C11b.Cont b := by
  unfold lowerB isUpperB at h
  unfold Props.C11b.Cont
  simp only [Bool.and_eq_true, decide_eq_true_eq] at h
  split at h <;> split at h <;> omega

theorem matchCase_head {s : Bytes} {r b : Nat} {lit' : Bytes} {ic : Bool}
    (h : matchCase (s.drop r) (b :: lit') ic = true) :
    r < s.length ∧ (if ic then lowerB (s.getD r 0) = lowerB b else s.getD r 0 = b) := by
  by_cases hr : r < s.length
  · rw [drop_eq_cons hr, matchCase_cons_iff] at h
    exact ⟨hr, h.1⟩
  · rw [List.drop_eq_nil_of_le (by omega), matchCase_nil_left] at h
    cases h

/-- **synchronisation**: in a valid UTF-8 subject a valid UTF-8 literal only compares equal at a
    character boundary, i.e. at a position the engine tries -/
theorem sync_utf8 {cs lcps : List Nat} (hv : ∀ c ∈ cs, ValidCp c) (hl : ∀ c ∈ lcps, ValidCp c)
    (hne : lcps ≠ []) (ic : Bool) (r : Nat)
    (h : matchCase ((encStr cs).drop r) (encStr lcps) ic = true) : Starts (encStr cs) r := by
  cases lcps with
  | nil => exact absurd rfl hne
  | cons l0 lrest =>
    obtain ⟨a, t, he, hch⟩ := enc_chr (hl l0 (by simp))
    rw [encStr_cons, he, List.cons_append] at h
    obtain ⟨hr, hb⟩ := matchCase_head h
    have hna : ¬ Props.C11b.Cont a := by
      unfold Props.C11b.Cont
      rcases hch.lead with ⟨h1, _⟩ | h1 <;> omega
    have hnc : ¬ Props.C11b.Cont ((encStr cs).getD r 0) := by
      cases ic
      · simp only [Bool.false_eq_true, if_false] at hb; rw [hb]; exact hna
      · simp only [if_true] at hb; rw [lowerB_cont hb]; exact hna
    obtain ⟨pre, post, h1, h2⟩ := boundary_of_noncont cs hv r (by omega) hnc
    rw [h2]
    exact starts_boundary hv pre post h1

/-- walking back over continuation bytes, each followed (towards the start) by a byte `≥ 128` -/
def Chain (L : Bytes) : Prop :=
  ∀ i, i < L.length → Props.C11b.Cont (L.getD i 0) → i + 1 < L.length ∧ 128 ≤ L.getD (i + 1) 0

theorem ucBeg_high : ∀ (rev : Bytes) (cur : Nat), (∀ x ∈ cur :: rev, x < 256) → 128 ≤ cur →
    Chain (cur :: rev) → 128 ≤ (cur :: rev).getD (ucBeg cur rev) 0 := by
  intro rev
  induction rev with
  | nil => intro cur _ h _; simpa [ucBeg] using h
  | cons p rev ih =>
    intro cur hlt hcur hch
    rw [ucBeg, contB_eq cur (hlt cur (by simp))]
    by_cases hc : 128 ≤ cur ∧ cur < 192
    · simp only [hc, and_self, decide_true, if_true]
      rw [List.getD_cons_succ]
      have h0 := hch 0 (by simp) (by simpa [Props.C11b.Cont] using hc)
      rw [List.getD_cons_succ, List.getD_cons_zero] at h0
      refine ih p (fun x hx => hlt x (by simp at hx ⊢; right; exact hx)) h0.2 ?_
      intro i hi hci
      have := hch (i + 1) (by simp at hi ⊢; omega) (by rw [List.getD_cons_succ]; exact hci)
      rw [List.getD_cons_succ] at this
      exact ⟨by have := this.1; simp at this ⊢; omega, this.2⟩
    · simp only [hc, decide_false, Bool.false_eq_true, if_false, List.getD_cons_zero]
      exact hcur

theorem getD_reverse_take {s : Bytes} {q i : Nat} (hq : q < s.length) (hi : i ≤ q) :
    ((s.take (q + 1)).reverse).getD i 0 = s.getD (q - i) 0 := by
  rw [List.getD_eq_getElem?_getD, List.getD_eq_getElem?_getD, List.getElem?_reverse (by simp; omega)]
  simp only [List.length_take]
  rw [show min (q + 1) s.length - 1 - i = q - i by omega, List.getElem?_take]
  rw [if_pos (by omega)]

theorem isWordB_high {x : Nat} (h : 128 ≤ x) : isWordB x = true := by
  unfold isWordB
  have : decide (x > 127) = true := by simp; omega
  rw [this]; simp

theorem prevLead_word {s : Bytes} (hlt : ∀ x ∈ s, x < 256) (hcp : ContPrev s) {p : Nat} (h0 : 0 < p)
    (hp : p ≤ s.length) : isWordB (prevLead s p) = isWordB (s.getD (p - 1) 0) := by
  obtain ⟨q, rfl⟩ : ∃ q, p = q + 1 := ⟨p - 1, by omega⟩
  have hq : q < s.length := by omega
  have hrev : (s.take (q + 1)).reverse = s[q] :: (s.take q).reverse := by
    rw [List.take_add_one, List.getElem?_eq_getElem hq]; simp
  have hg : s.getD q 0 = s[q] := by
    rw [List.getD_eq_getElem?_getD, List.getElem?_eq_getElem hq]; rfl
  unfold prevLead
  rw [hrev]
  simp only [List.headD_cons, List.drop_succ_cons, List.drop_zero, Nat.add_sub_cancel]
  rw [hg]
  by_cases hlow : s[q] < 128
  · have hk : ucBeg s[q] (s.take q).reverse = 0 := by
      cases (s.take q).reverse with
      | nil => rfl
      | cons x t => simp [ucBeg, contB_ascii hlow]
    rw [hk]; rfl
  · have hhi : 128 ≤ s[q] := by omega
    rw [isWordB_high hhi]
    apply isWordB_high
    apply ucBeg_high _ _ _ hhi
    · rw [← hrev]
      intro i hi hci
      have hi' : i ≤ q := by simp at hi; omega
      rw [getD_reverse_take hq hi'] at hci
      have := hcp (q - i) (by omega) hci
      refine ⟨by simp; omega, ?_⟩
      rw [getD_reverse_take hq (by omega), show q - (i + 1) = q - i - 1 by omega]
      exact this.2
    · intro x hx
      rw [← hrev] at hx
      exact hlt x (List.mem_of_mem_take (List.mem_reverse.mp hx))

theorem lowerB_cases {a b : Nat} (h : lowerB a = lowerB b) : a = b ∨ (a < 128 ∧ b < 128) := by
  unfold lowerB isUpperB at h
  simp only [Bool.and_eq_true, decide_eq_true_eq] at h
  split at h <;> split at h <;> omega

theorem matchCase_append_same (x S L : Bytes) (ic : Bool) :
    matchCase (x ++ S) (x ++ L) ic = matchCase S L ic := by
  induction x with
  | nil => rfl
  | cons a x ih =>
    rw [List.cons_append, List.cons_append, matchCase_cons]
    cases ic <;> simp [ih]

theorem enc_high {c : Nat} (h : 128 ≤ c) (h2 : c < 0x110000) : ∀ y ∈ enc c, 128 ≤ y := by
  intro y hy
  unfold enc at hy
  rw [if_neg (by omega)] at hy
  -- every byte of a multi-byte encoding is written as `0x80 + …` or more
  split at hy
  · simp only [List.mem_cons, List.not_mem_nil, or_false] at hy
    rcases hy with rfl | rfl <;> exact Nat.le_add_right_of_le (by decide)
  · split at hy
    · simp only [List.mem_cons, List.not_mem_nil, or_false] at hy
      rcases hy with rfl | rfl | rfl <;> exact Nat.le_add_right_of_le (by decide)
    · simp only [List.mem_cons, List.not_mem_nil, or_false] at hy
      rcases hy with rfl | rfl | rfl | rfl <;> exact Nat.le_add_right_of_le (by decide)

theorem enc_low {c : Nat} (h : c < 128) : enc c = [c] := enc_ascii h

theorem enc_lead_low {c a : Nat} {t : Bytes} (hv : ValidCp c) (he : enc c = a :: t) (ha : a < 128) :
    c = a ∧ t = [] := by
  by_cases hc : c < 128
  · rw [enc_low hc] at he
    simp at he; exact ⟨he.1, he.2⟩
  · have := enc_high (by omega) hv.2 a (by rw [he]; simp)
    omega

theorem matchCase_prefix_high : ∀ (Y X L : Bytes), matchCase X (Y ++ L) true = true → (∀ y ∈ Y, 128 ≤ y) →
    ∃ S', X = Y ++ S' := by
  intro Y
  induction Y with
  | nil => intro X L _ _; exact ⟨X, rfl⟩
  | cons y Y ih =>
    intro X L h hy
    cases X with
    | nil => rw [List.cons_append, matchCase_nil_left] at h; cases h
    | cons x X =>
      rw [List.cons_append, matchCase_cons_iff] at h
      have h1 := h.1
      simp only [if_true] at h1
      have hxy : x = y := by
        rcases lowerB_cases h1 with h2 | h2
        · exact h2
        · have := hy y (by simp); omega
      obtain ⟨S', hS⟩ := ih X L h.2 (fun z hz => hy z (by simp [hz]))
      exact ⟨S', by rw [hxy, hS]; rfl⟩

/-- fold-equal code points have encodings of the same length that compare equal under `tolower` -/
theorem fold_eq {c1 c2 : Nat} (h : lowerB c1 = lowerB c2) (S L : Bytes) :
    (enc c1).length = (enc c2).length ∧
      matchCase (enc c2 ++ S) (enc c1 ++ L) true = matchCase S L true := by
  rcases lowerB_cases h with h1 | ⟨h1, h2⟩
  · subst h1; exact ⟨rfl, matchCase_append_same _ _ _ _⟩
  · rw [enc_low h1, enc_low h2]
    refine ⟨rfl, ?_⟩
    rw [List.cons_append, List.cons_append, matchCase_cons]
    simp [h]

/-- fold-different code points have encodings that differ under `tolower` -/
theorem fold_ne {c1 c2 : Nat} (hv1 : ValidCp c1) (hv2 : ValidCp c2) (h : lowerB c1 ≠ lowerB c2) (S L : Bytes) :
    matchCase (enc c2 ++ S) (enc c1 ++ L) true = false := by
  cases hm : matchCase (enc c2 ++ S) (enc c1 ++ L) true with
  | false => rfl
  | true =>
    exfalso
    by_cases hc : c1 < 128
    · obtain ⟨a, t, he, _⟩ := enc_chr hv2
      rw [enc_low hc, he, List.cons_append, List.cons_append, matchCase_cons_iff] at hm
      have h1 := hm.1
      simp only [if_true] at h1
      have ha : a < 128 := by rcases lowerB_cases h1 with h2 | h2 <;> omega
      obtain ⟨h3, _⟩ := enc_lead_low hv2 he ha
      rw [h3] at h
      exact h h1.symm
    · obtain ⟨S', hS⟩ := matchCase_prefix_high (enc c1) _ L hm (enc_high (by omega) hv1.2)
      have e1 := Props.C16.code_enc hv2 S
      have e2 := Props.C16.code_enc hv1 S'
      rw [hS, e2] at e1
      simp only [Option.some.injEq] at e1
      exact h (by rw [e1])

theorem length_le_encStr (cs : List Nat) : cs.length ≤ (encStr cs).length := Uc.length_le_encStr cs

theorem ucCode_nil : ucCode [] = some 0 := by decide

theorem chrIcase_utf8 {cs lcps : List Nat} (hv : ∀ c ∈ cs, ValidCp c) (hl : ∀ c ∈ lcps, ValidCp c) :
    ∀ (lpost lpre spre spost : List Nat) (f : Nat), lcps = lpre ++ lpost → cs = spre ++ spost →
      lpost.length + 1 ≤ f →
      chrIcase (encStr lcps) (encStr cs) f (encStr lpre).length (encStr spre).length =
        if matchCase (encStr spost) (encStr lpost) true = true
        then AR.ok ((encStr spre).length + (encStr lpost).length) else AR.fail := by
  intro lpost
  induction lpost with
  | nil =>
    intro lpre spre spost f h1 _ hf
    obtain ⟨f', rfl⟩ : ∃ f', f = f' + 1 := ⟨f - 1, by omega⟩
    rw [List.append_nil] at h1
    subst h1
    rw [chrIcase, rdb_le (Nat.le_refl _), getD_eq_zero_of_ge (Nat.le_refl _)]
    simp [matchCase_nil]
  | cons c1 lpost ih =>
    intro lpre spre spost f h1 h2 hf
    obtain ⟨f', rfl⟩ : ∃ f', f = f' + 1 := ⟨f - 1, by omega⟩
    have hv1 : ValidCp c1 := hl c1 (by rw [h1]; simp)
    obtain ⟨hlit, hget, hrx⟩ := at_boundary h1 hv1
    have hs : encStr cs = encStr spre ++ encStr spost := by rw [h2, encStr_append]
    have hk : (encStr lpre).length ≤ (encStr lcps).length := by rw [hlit]; simp
    have hnz : Bytes.hd (enc c1) ≠ 0 := by
      have := hd_enc_ne_zero hv1 []
      rwa [List.append_nil] at this
    rw [chrIcase_step (by rw [rdb_le hk, hget]) hnz]
    have hd1 : decAt (encStr lcps) (encStr lpre).length = some c1 := by
      unfold decAt
      rw [if_pos hk]
      conv => lhs; rw [hlit, List.drop_left' rfl]
      exact Props.C16.code_enc hv1 _
    have hdrop : (encStr cs).drop (encStr spre).length = encStr spost := by
      rw [hs, List.drop_left' rfl]
    have hrk : (encStr spre).length ≤ (encStr cs).length := by rw [hs]; simp
    rw [hd1]
    cases spost with
    | nil =>
      have hd2 : decAt (encStr cs) (encStr spre).length = some 0 := by
        unfold decAt
        rw [if_pos hrk, hdrop]; exact ucCode_nil
      rw [hd2]
      dsimp only
      rw [foldc_true, foldc_true]
      have h0 : (lowerB 0 == 0) = true := by decide
      rw [h0, Bool.or_true]
      obtain ⟨a, t, he, _⟩ := enc_chr hv1
      rw [encStr_cons, he, encStr_nil, List.cons_append, matchCase_nil_left]
      simp
    | cons c2 spost =>
      have hv2 : ValidCp c2 := hv c2 (by rw [h2]; simp)
      have hd2 : decAt (encStr cs) (encStr spre).length = some c2 := by
        unfold decAt
        rw [if_pos hrk, hdrop, encStr_cons]; exact Props.C16.code_enc hv2 _
      have hrx2 := (at_boundary h2 hv2).2.2
      rw [hd2]
      dsimp only
      rw [foldc_true, foldc_true, hrx, hrx2, encStr_cons, encStr_cons,
        nat_beq_zero_false (lowerB_pos hv2.1), Bool.or_false]
      by_cases heq : lowerB c1 = lowerB c2
      · obtain ⟨hlen, hmc⟩ := fold_eq heq (encStr spost) (encStr lpost)
        rw [nat_bne_false heq, hmc]
        simp only [Bool.false_eq_true, if_false]
        have := ih (lpre ++ [c1]) (spre ++ [c2]) spost f' (by rw [h1]; simp) (by rw [h2]; simp)
          (by simp at hf; omega)
        rw [encStr_append, encStr_append] at this
        simp only [encStr_cons, encStr_nil, List.append_nil, List.length_append] at this
        rw [this]
        simp only [List.length_append]
        rw [show (encStr spre).length + (enc c2).length + (encStr lpost).length =
          (encStr spre).length + ((enc c1).length + (encStr lpost).length) by omega]
      · rw [nat_bne_true heq, fold_ne hv1 hv2 heq]
        simp

/-- a start position of `regexec` on an encoded string is a character boundary -/
theorem boundary_of_starts {cs : List Nat} (hv : ∀ c ∈ cs, ValidCp c) {r : Nat} (h : Starts (encStr cs) r) :
    ∃ pre post, cs = pre ++ post ∧ r = (encStr pre).length := by
  refine Props.C11b.boundary_split.mp ?_
  induction h with
  | zero => exact Props.C11b.boundary_zero cs
  | step _ _ ih => exact Props.C11b.boundary_rx hv ih

/-- the encoding of valid code points is a whole number of characters for the engine -/
theorem litOk_encStr {lcps : List Nat} (hl : ∀ c ∈ lcps, ValidCp c) : LitOk (encStr lcps) := by
  have key : ∀ (post pre : List Nat), lcps = pre ++ post → Steps (encStr lcps) (encStr pre).length := by
    intro post
    induction post with
    | nil =>
      intro pre h
      rw [List.append_nil] at h
      rw [← h]; exact Steps.done
    | cons c post ih =>
      intro pre h
      have hc : ValidCp c := hl c (by rw [h]; simp)
      obtain ⟨hsplit, hget, -⟩ := at_boundary h hc
      have hpos := enc_length_pos c
      refine Steps.step ?_ ?_ ?_
      · rw [hsplit]; simp; omega
      · rw [hget, Props.C16.len_enc hc]; exact hpos
      · rw [hget, Props.C16.len_enc hc]
        have := ih (pre ++ [c]) (by rw [h]; simp)
        rw [encStr_append] at this
        simpa using this
  exact key lcps [] rfl

/-- **UTF-8 instance**: the encoding of valid code points as subject and a non-empty encoding of
    valid code points as literal satisfy the hypotheses of the agreement theorem, with or without ICASE -/
theorem subjOk_utf8 {cs lcps : List Nat} (hv : ∀ c ∈ cs, ValidCp c) (hl : ∀ c ∈ lcps, ValidCp c)
    (hne : lcps ≠ []) (ic : Bool) : SubjOk (encStr cs) (encStr lcps) ic := by
  refine ⟨?_, ?_, ?_⟩
  · intro r h
    exact sync_utf8 hv hl hne ic r h
  · intro p h0 hp
    exact prevLead_word (encStr_lt hv) (contPrev_encStr cs hv) h0 hp
  · intro _ r hst
    obtain ⟨spre, spost, h1, h2⟩ := boundary_of_starts hv hst
    have := chrIcase_utf8 hv hl lcps [] spre spost ((encStr lcps).length + 2) rfl h1
      (by have := length_le_encStr lcps; omega)
    rw [encStr_nil, List.length_nil, ← h2] at this
    rw [this]
    have hdrop : (encStr cs).drop r = encStr spost := by
      rw [h2, h1, encStr_append, List.drop_left' rfl]
    rw [hdrop]

theorem Ascii.valid {s : Bytes} (hs : Ascii s) : ∀ c ∈ s, ValidCp c :=
  fun c hc => ⟨(hs c hc).1, Nat.lt_trans (hs c hc).2 (by decide)⟩

/-- **ASCII instance**: an ASCII subject and a non-empty ASCII literal satisfy the hypotheses of the
    agreement theorem, with or without ICASE: ASCII bytes are their own encoding -/
theorem subjOk_ascii {s lit : Bytes} (hs : Ascii s) (hl : Ascii lit) (hne : lit ≠ []) (ic : Bool) :
    SubjOk s lit ic := by
  have h := subjOk_utf8 hs.valid hl.valid hne ic
  rwa [encStr_ascii fun c hc => (hs c hc).2, encStr_ascii fun c hc => (hl c hc).2] at h

theorem encStr_no_nl {cs : List Nat} (h : ∀ c ∈ cs, ValidCp c ∧ c ≠ 10) : ¬ 10 ∈ encStr cs :=
  Lemmas.C08.ten_notin_encStr fun h10 => (h 10 h10).2 rfl

theorem encStr_snoc_nl (cs : List Nat) : encStr cs ++ [10] = encStr (cs ++ [10]) := by
  rw [encStr_append]; rfl

end Neatvi.C12
