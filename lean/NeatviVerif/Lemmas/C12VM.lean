import NeatviVerif.Lemmas.C10Seg
/-!
# C12: the VM on a straight-line program (marks and atoms only)
-/
namespace Neatvi.C12
open Neatvi Neatvi.Regex
open Neatvi.Lemmas.C10 (loop_atom loop_mark loop_mtch setMk)

/-- sequencing of atom results -/
def arBind (r : AR) (k : Nat → AR) : AR :=
  match r with
  | AR.ok p => k p
  | AR.fail => AR.fail
  | AR.trap => AR.trap

/-- the atoms of a concatenation matched one after the other -/
def runAtoms (subj : Bytes) (flg : Nat) : List Atom → Nat → AR
  | [], pos => AR.ok pos
  | a :: as, pos => arBind (atomMatch a subj flg pos) (runAtoms subj flg as)

theorem runAtoms_append (subj : Bytes) (flg : Nat) (as bs : List Atom) (pos : Nat) :
    runAtoms subj flg (as ++ bs) pos = arBind (runAtoms subj flg as pos) (runAtoms subj flg bs) := by
  induction as generalizing pos with
  | nil => simp [runAtoms, arBind]
  | cons a as ih =>
    simp only [List.cons_append, runAtoms]
    cases atomMatch a subj flg pos <;> simp [arBind, ih]

theorem get_post (pre mid post : List Inst) (i k : Nat) (hk : k = pre.length + mid.length + i) :
    (pre ++ mid ++ post)[k]? = post[i]? := by
  subst hk
  rw [List.getElem?_append_right (by simp)]
  simp

variable (cx : Ctx)

/-- the result of running a straight-line block, as a continuation -/
def resBind (r : AR) (cuts : Nat) (k : Nat → Res) : Res :=
  match r with
  | AR.ok p => k p
  | AR.fail => Res.fail cuts
  | AR.trap => Res.trap

/-- **straight-line run**: on the code of a concatenation of atoms the VM matches each atom in
    order; it fails (without consuming the cut budget) or traps as soon as one atom does -/
theorem straightline_run (as : List Atom) :
    ∀ (pre post : List Inst), cx.prog = pre ++ as.map Inst.atom ++ post →
    ∀ (dep pos : Nat) (m : Marks) (cuts : Nat),
      loop cx dep pre.length pos m cuts =
        resBind (runAtoms cx.subj cx.flg as pos) cuts
          (fun p' => loop cx dep (pre.length + as.length) p' m cuts) := by
  induction as with
  | nil => intro pre post _ dep pos m cuts; simp [runAtoms, resBind]
  | cons a as ih =>
    intro pre post hp dep pos m cuts
    have hget : cx.prog[pre.length]? = some (Inst.atom a) := by
      rw [hp]; simp
    rw [loop_atom cx hget]
    simp only [runAtoms]
    cases hm : atomMatch a cx.subj cx.flg pos with
    | fail => simp [arBind, resBind]
    | trap => simp [arBind, resBind]
    | ok p' =>
      simp only [arBind]
      have := ih (pre ++ [Inst.atom a]) post (by rw [hp]; simp) dep p' m cuts
      simp only [List.length_append, List.length_cons, List.length_nil] at this
      rw [this]
      simp only [List.length_cons]
      rw [show pre.length + (as.length + 1) = pre.length + (0 + 1) + as.length by omega]

/-- the marks after a successful run of the literal program -/
def marksOf (ng : Nat) (so eo : Nat) : Marks :=
  ((((((List.replicate (2 * ng) (-1 : Int)).set 0 so).set 2 so).set 4 so).set 5 eo).set 3 eo).set 1 eo

/-- the program of `((re))` for a literal pattern -/
def litCode (as : List Atom) : List Inst :=
  [Inst.mark 0] ++ ([Inst.mark 2, Inst.mark 4] ++ as.map Inst.atom ++ [Inst.mark 5, Inst.mark 3]) ++
    [Inst.mark 1, Inst.mtch]

/-- one start position of the literal program -/
theorem recmatch_litCode (as : List Atom) (hp : cx.prog = litCode as) (hnd : 1 ≤ cx.nd) (hng : 6 ≤ cx.ngrps)
    (start cuts : Nat) :
    recmatch cx start cuts =
      resBind (runAtoms cx.subj cx.flg as start) cuts
        (fun p' => Res.ok p' (marksOf cx.ngrps start p') cuts) := by
  have hp' : cx.prog = [Inst.mark 0, Inst.mark 2, Inst.mark 4] ++ as.map Inst.atom ++
      [Inst.mark 5, Inst.mark 3, Inst.mark 1, Inst.mtch] := by rw [hp]; simp [litCode]
  have g0 : cx.prog[0]? = some (Inst.mark 0) := by rw [hp']; simp
  have g1 : cx.prog[1]? = some (Inst.mark 2) := by rw [hp']; simp
  have g2 : cx.prog[2]? = some (Inst.mark 4) := by rw [hp']; simp
  have g3 : cx.prog[3 + as.length]? = some (Inst.mark 5) := by
    rw [hp', get_post _ _ _ 0 _ (by simp)]; rfl
  have g4 : cx.prog[3 + as.length + 1]? = some (Inst.mark 3) := by
    rw [hp', get_post _ _ _ 1 _ (by simp)]; rfl
  have g5 : cx.prog[3 + as.length + 1 + 1]? = some (Inst.mark 1) := by
    rw [hp', get_post _ _ _ 2 _ (by simp)]; rfl
  have g6 : cx.prog[3 + as.length + 1 + 1 + 1]? = some Inst.mtch := by
    rw [hp', get_post _ _ _ 3 _ (by simp)]; rfl
  have k0 : 0 < cx.ngrps := by omega
  have k1 : 1 < cx.ngrps := by omega
  have k2 : 2 < cx.ngrps := by omega
  have k3 : 3 < cx.ngrps := by omega
  have k4 : 4 < cx.ngrps := by omega
  have k5 : 5 < cx.ngrps := by omega
  unfold recmatch
  rw [act, if_neg (by omega)]
  rw [loop_mark cx g0, loop_mark cx g1, loop_mark cx g2]
  have := straightline_run cx as [Inst.mark 0, Inst.mark 2, Inst.mark 4]
    [Inst.mark 5, Inst.mark 3, Inst.mark 1, Inst.mtch] hp'
  simp only [List.length_cons, List.length_nil, Nat.zero_add] at this
  rw [this]
  cases runAtoms cx.subj cx.flg as start with
  | fail => simp [resBind]
  | trap => simp [resBind]
  | ok p' =>
    simp only [resBind]
    rw [loop_mark cx g3, loop_mark cx g4, loop_mark cx g5, loop_mtch cx g6]
    simp only [setMk, k0, k1, k2, k3, k4, k5, if_true, marksOf]

end Neatvi.C12
