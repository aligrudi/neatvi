import NeatviVerif.Model.Mot
/-!
# C13, part 1: `Mot.search` restated over an abstract per-line matcher

`gSearch` is a copy of the loops of `Mot.search` in which the call of `rstr_find` on the suffix of
the line is a parameter (`Matcher`).  `search_eq_generic` says that `Mot.search` is `gSearch` at the
matcher `reMatcher re` of the compiled pattern.  `gGo_res`, `gLineScan_res`, `gRows_res` say where a result of the scan comes
from, for every matcher, direction and fuel.
-/
namespace Neatvi.Lemmas.C13
open Neatvi Neatvi.Uc Neatvi.Rset Neatvi.Mot

/-- a per-line matcher: `m s off` looks for the first match in the suffix of `s` that starts at
    byte `off`; outer `none` = trap, `some none` = no match, `some (some (so, eo))` = the byte
    offsets of the match *relative to the suffix* -/
abbrev Matcher := Bytes → Nat → Option (Option (Nat × Nat))

/-- the matcher `lbuf_search` uses: `rstr_find` on the suffix, `RE_NOTBOL` unless the suffix is the line -/
def reMatcher (re : RStr) : Matcher := fun s off =>
  match rstrFind re (s.drop off) 1 (if off != 0 then RE_NOTBOL else 0) search.Ex_ND search.Ex_NG with
  | none => none
  | some (res, offs, _) =>
    if res < 0 then some none else some (some ((offs.getD 0 0).toNat, (offs.getD 1 0).toNat))

/-- where the next successive search starts: after the match, one byte further after an empty match -/
def nextOff (off so eo : Nat) : Nat := off + (if eo > so then eo else eo + 1)

/-- the position the search reports for a match at bytes `[b, b + (eo - so))` of `s`:
    character offset and length in characters -/
def report (s : Bytes) (b n : Nat) : Int × Int := ((ucOff s b : Nat), (ucOff (s.drop b) n : Nat))

/-- the inner `while` of `lbuf_search` on one line -/
def gGo (m : Matcher) (dir r0 o0 i : Int) (s : Bytes) : Nat → Nat → Option (Int × Int) → Option (Option (Int × Int))
  | 0, _, best => some best
  | f + 1, off, best =>
    match m s off with
    | none => none
    | some none => some best
    | some (some (so, eo)) =>
      if dir < 0 && r0 == i && (report s (off + so) (eo - so)).1 ≥ o0 then some best else
      let best := some (report s (off + so) (eo - so))
      if dir > 0 || nextOff off so eo ≥ s.length || s.getD (nextOff off so eo) 0 == 10 then some best
      else gGo m dir r0 o0 i s f (nextOff off so eo) best

/-- the byte offset the scan of row `i` starts from -/
def startOff (dir r0 o0 i : Int) (s : Bytes) : Nat :=
  if dir > 0 && r0 == i then (match ucChr s (o0 + 1).toNat with | some b => b | none => s.length + 1) else 0

def gLineScan (m : Matcher) (dir r0 o0 i : Int) (s : Bytes) : Option (Option (Int × Int)) :=
  if startOff dir r0 o0 i s > s.length then none else gGo m dir r0 o0 i s (s.length + 2) (startOff dir r0 o0 i s) none

/-- the loop over the rows -/
def gRows (ls : Lines) (dir : Int) (scan : Int → Bytes → Option (Option (Int × Int))) : Nat → Int → Option (Option (Int × Int × Int))
  | 0, _ => some none
  | f + 1, i =>
    if i < 0 || i ≥ (ls.length : Int) then some none else
    match lineAt ls i with
    | none => some none
    | some s =>
      match scan i s with
      | none => none
      | some (some (o, l)) => some (some (i, o, l))
      | some none => gRows ls dir scan f (i + dir)

def gSearch (m : Matcher) (ls : Lines) (dir r0 o0 : Int) : Option (Option (Int × Int × Int)) :=
  gRows ls dir (gLineScan m dir r0 o0) (ls.length + 1) r0

theorem go_eq (re : RStr) (dir r0 o0 i : Int) (s : Bytes) (f off : Nat) (best : Option (Int × Int)) :
    search.go dir r0 o0 re i s f off best = gGo (reMatcher re) dir r0 o0 i s f off best := by
  induction f generalizing off best with
  | zero => simp [search.go, gGo]
  | succ f ih =>
    rw [search.go, gGo]
    simp only [reMatcher]
    cases hm : rstrFind re (s.drop off) 1 (if off != 0 then RE_NOTBOL else 0) search.Ex_ND search.Ex_NG with
    | none => rfl
    | some x =>
      obtain ⟨res, offs, c⟩ := x
      simp only []
      by_cases hres : res < 0
      · simp [hres]
      · simp only [hres, if_false, report, nextOff, ih]
        rfl

theorem rows_eq (ls : Lines) (dir : Int) (scan : Int → Bytes → Option (Option (Int × Int))) (f : Nat) (i : Int) :
    search.rows ls dir (ls.length : Int) scan f i = gRows ls dir scan f i := by
  induction f generalizing i with
  | zero => simp [search.rows, gRows]
  | succ f ih => rw [search.rows, gRows]; simp only [ih]; rfl

/-- `Mot.search` is the generic scan at the matcher of the compiled pattern -/
theorem search_eq_generic (ls : Lines) (kw : Bytes) (icase : Bool) (dir r0 o0 : Int) :
    search ls kw icase dir r0 o0 =
      match rstrMake kw (if icase then RE_ICASE else 0) with
      | none => none
      | some none => some none
      | some (some re) => gSearch (reMatcher re) ls dir r0 o0 := by
  unfold search
  cases rstrMake kw (if icase then RE_ICASE else 0) with
  | none => rfl
  | some x =>
    cases x with
    | none => rfl
    | some re =>
      simp only [rows_eq, gSearch]
      congr 1
      funext i s
      simp only [gLineScan, startOff, go_eq]
      rfl

theorem search_some_compiled {ls : Lines} {kw : Bytes} {icase : Bool} {dir r0 o0 : Int} {x : Int × Int × Int}
    (h : search ls kw icase dir r0 o0 = some (some x)) :
    ∃ re, rstrMake kw (if icase then RE_ICASE else 0) = some (some re) := by
  rw [search_eq_generic] at h
  split at h
  · cases h
  · cases h
  · rename_i re hm; exact ⟨re, hm⟩

/-! ### where a result of the scan comes from

For any matcher and any direction: a trap is a trap of the matcher (or a start beyond the line); a hit is the report of
a match of the matcher, from an offset inside the line, on an existing line. -/

theorem gGo_res (m : Matcher) (dir r0 o0 i : Int) (s : Bytes) :
    ∀ (f off : Nat) (best : Option (Int × Int)), off ≤ s.length →
      (gGo m dir r0 o0 i s f off best = none → ∃ off', m s off' = none) ∧
      ∀ b, gGo m dir r0 o0 i s f off best = some (some b) → best = some b ∨
        ∃ off' so eo, off' ≤ s.length ∧ m s off' = some (some (so, eo)) ∧ b = report s (off' + so) (eo - so) := by
  intro f
  induction f with
  | zero => intro off best _; rw [gGo]; exact ⟨fun h => (by cases h), fun b h => Or.inl (by cases h; rfl)⟩
  | succ f ih =>
    intro off best hoff
    rw [gGo]
    cases hm : m s off with
    | none => exact ⟨fun _ => ⟨off, hm⟩, fun b h => by cases h⟩
    | some x =>
      cases x with
      | none => exact ⟨fun h => (by cases h), fun b h => Or.inl (by cases h; rfl)⟩
      | some p =>
        obtain ⟨so, eo⟩ := p
        dsimp only
        split
        · exact ⟨fun h => (by cases h), fun b h => Or.inl (by cases h; rfl)⟩
        · split
          · exact ⟨fun h => (by cases h), fun b h => Or.inr ⟨off, so, eo, hoff, hm, by cases h; rfl⟩⟩
          · rename_i hcont
            simp only [Bool.or_eq_true, decide_eq_true_eq, not_or, ge_iff_le, Nat.not_le] at hcont
            obtain ⟨h1, h2⟩ := ih (nextOff off so eo) (some (report s (off + so) (eo - so))) (by omega)
            refine ⟨h1, fun b h => ?_⟩
            rcases h2 b h with e | e
            · exact Or.inr ⟨off, so, eo, hoff, hm, by cases e; rfl⟩
            · exact Or.inr e

theorem gLineScan_res (m : Matcher) (dir r0 o0 i : Int) (s : Bytes) :
    (gLineScan m dir r0 o0 i s = none → s.length < startOff dir r0 o0 i s ∨ ∃ off, m s off = none) ∧
    ∀ b, gLineScan m dir r0 o0 i s = some (some b) →
      ∃ off so eo, off ≤ s.length ∧ m s off = some (some (so, eo)) ∧ b = report s (off + so) (eo - so) := by
  unfold gLineScan
  split
  · rename_i h; exact ⟨fun _ => Or.inl h, fun b h => (by cases h)⟩
  · obtain ⟨h1, h2⟩ := gGo_res m dir r0 o0 i s (s.length + 2) (startOff dir r0 o0 i s) none (by omega)
    exact ⟨fun h => Or.inr (h1 h), fun b h => (h2 b h).resolve_left (fun e => by cases e)⟩

theorem gRows_res (ls : Lines) (dir : Int) (scan : Int → Bytes → Option (Option (Int × Int))) :
    ∀ (f : Nat) (i : Int),
      (gRows ls dir scan f i = none → ∃ j s, lineAt ls j = some s ∧ scan j s = none) ∧
      ∀ r o l, gRows ls dir scan f i = some (some (r, o, l)) →
        0 ≤ r ∧ r < ls.length ∧ ∃ s, lineAt ls r = some s ∧ scan r s = some (some (o, l)) := by
  intro f
  induction f with
  | zero => intro i; rw [gRows]; exact ⟨fun h => (by cases h), fun r o l h => by cases h⟩
  | succ f ih =>
    intro i
    rw [gRows]
    split
    · exact ⟨fun h => (by cases h), fun r o l h => by cases h⟩
    · rename_i hi
      simp only [Bool.or_eq_true, decide_eq_true_eq, not_or] at hi
      cases hl : lineAt ls i with
      | none => exact ⟨fun h => (by cases h), fun r o l h => by cases h⟩
      | some s =>
        dsimp only
        cases hb : scan i s with
        | none => exact ⟨fun _ => ⟨i, s, hl, hb⟩, fun r o l h => by cases h⟩
        | some b =>
          cases b with
          | none => exact ih _
          | some p =>
            obtain ⟨o, l⟩ := p
            exact ⟨fun h => (by cases h), fun r' o' l' h => by cases h; exact ⟨by omega, by omega, s, hl, hb⟩⟩

theorem search_hit_match {ls : Lines} {kw : Bytes} {icase : Bool} {dir r0 o0 r o len : Int}
    (h : search ls kw icase dir r0 o0 = some (some (r, o, len))) :
    ∃ re s off so eo, rstrMake kw (if icase then RE_ICASE else 0) = some (some re) ∧ 0 ≤ r ∧ r < ls.length ∧
      lineAt ls r = some s ∧ off ≤ s.length ∧ reMatcher re s off = some (some (so, eo)) ∧
      (o, len) = report s (off + so) (eo - so) := by
  obtain ⟨re, hre⟩ := search_some_compiled h
  rw [search_eq_generic, hre] at h
  dsimp only at h
  unfold gSearch at h
  obtain ⟨a1, a2, s, hs, hsc⟩ := (gRows_res ls dir _ _ _).2 r o len h
  obtain ⟨off, so, eo, hoff, hm, hrep⟩ := (gLineScan_res _ dir r0 o0 r s).2 _ hsc
  exact ⟨re, s, off, so, eo, hre, a1, a2, hs, hoff, hm, hrep⟩

end Neatvi.Lemmas.C13
