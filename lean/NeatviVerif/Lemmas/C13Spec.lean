import NeatviVerif.Lemmas.C13Scan
import NeatviVerif.Lemmas.Uc
/-!
# C13, part 2: what the generic scan computes

* forward, one line: the matcher's first match from the start byte (`fwdLine`);
* backward, one line: the last element of the chain of successive matches (`Chain`);
* the rows: the nearest row in the direction of the search whose line scan is not `some none` (`gRows_found`,
  `gRows_none`, for either direction; `gRows_fwd_*`, `gRows_bwd_*` are their readings at `dir = 1`, `dir = -1`).
-/
namespace Neatvi.Lemmas.C13
open Neatvi Neatvi.Uc Neatvi.Mot

theorem report_eq {s : Bytes} {b n : Nat} {o len : Int} (h : (o, len) = report s b n) :
    o = ((ucOff s b : Nat) : Int) ∧ len = ((ucOff (s.drop b) n : Nat) : Int) :=
  ⟨congrArg Prod.fst h, congrArg Prod.snd h⟩

/-- the byte a forward scan of row `j` starts from: the character after the cursor on the cursor's
    row, the line start elsewhere; `none` = `uc_chr` ran off the line -/
def fwdStart (r0 o0 j : Int) (s : Bytes) : Option Nat := if r0 = j then ucChr s (o0 + 1).toNat else some 0

/-- reference for one row of a forward search: the matcher's first match from the start byte -/
def fwdLine (m : Matcher) (r0 o0 j : Int) (s : Bytes) : Option (Option (Int × Int)) :=
  match fwdStart r0 o0 j s with
  | none => none
  | some b =>
    match m s b with
    | none => none
    | some none => some none
    | some (some (so, eo)) => some (some (report s (b + so) (eo - so)))

theorem gLineScan_fwd (m : Matcher) (dir r0 o0 j : Int) (s : Bytes) (hd : 0 < dir) :
    gLineScan m dir r0 o0 j s = fwdLine m r0 o0 j s := by
  have hd' : ¬ dir < 0 := by omega
  have fwd : ∀ off, gGo m dir r0 o0 j s (s.length + 2) off none =
      match m s off with
      | none => none
      | some none => some none
      | some (some (so, eo)) => some (some (report s (off + so) (eo - so))) := by
    intro off
    rw [gGo]
    cases m s off with
    | none => rfl
    | some x =>
      cases x with
      | none => rfl
      | some p => obtain ⟨so, eo⟩ := p; simp [hd, hd']
  simp only [gLineScan, startOff, fwdLine, fwdStart, fwd]
  by_cases hj : r0 = j
  · cases hc : ucChr s (o0 + 1).toNat with
    | none => simp [hj, hd]
    | some b =>
      have hb := ucChr_le hc
      simp [hj, hd, show ¬ s.length < b by omega]
  · simp [hj]

/-- `Chain m s stop off l`: starting the matcher at byte `off` and then repeatedly after the previous
    match (`nextOff`) yields the matches `l` (absolute start byte, length in bytes), in order.  The
    enumeration ends when the matcher finds nothing, when a match starts at a byte where `stop` holds
    (that match is not taken), or when the next start is the end of the line or its newline. -/
inductive Chain (m : Matcher) (s : Bytes) (stop : Nat → Bool) : Nat → List (Nat × Nat) → Prop
  | nothing {off : Nat} : m s off = some none → Chain m s stop off []
  | stopped {off so eo : Nat} : m s off = some (some (so, eo)) → stop (off + so) = true → Chain m s stop off []
  | final {off so eo : Nat} : m s off = some (some (so, eo)) → stop (off + so) = false →
      (s.length ≤ nextOff off so eo ∨ s.getD (nextOff off so eo) 0 = 10) →
      Chain m s stop off [(off + so, eo - so)]
  | more {off so eo : Nat} {l : List (Nat × Nat)} : m s off = some (some (so, eo)) → stop (off + so) = false →
      nextOff off so eo < s.length → s.getD (nextOff off so eo) 0 ≠ 10 →
      Chain m s stop (nextOff off so eo) l → Chain m s stop off ((off + so, eo - so) :: l)

/-- the stop rule of a backward scan: on the cursor's row, a match that begins at or after the cursor -/
def stopB (r0 o0 j : Int) (s : Bytes) : Nat → Bool := fun b => r0 == j && decide (((ucOff s b : Nat) : Int) ≥ o0)

/-- the report for the last match of a chain, else `best` -/
def lastOr (s : Bytes) (best : Option (Int × Int)) (l : List (Nat × Nat)) : Option (Int × Int) :=
  match l.getLast? with
  | some (b, n) => some (report s b n)
  | none => best

theorem lastOr_nil (s : Bytes) (best : Option (Int × Int)) : lastOr s best [] = best := rfl
theorem lastOr_single (s : Bytes) (best : Option (Int × Int)) (p : Nat × Nat) : lastOr s best [p] = some (report s p.1 p.2) := rfl
theorem lastOr_cons (s : Bytes) (best : Option (Int × Int)) (p : Nat × Nat) (l : List (Nat × Nat)) :
    lastOr s best (p :: l) = lastOr s (some (report s p.1 p.2)) l := by
  cases l with
  | nil => rfl
  | cons q l =>
    unfold lastOr
    rw [List.getLast?_cons_cons]
    cases h : (q :: l).getLast? with
    | none => simp at h
    | some x => rfl

theorem nextOff_gt (off so eo : Nat) : off < nextOff off so eo := by
  unfold nextOff; split <;> omega

theorem gGo_bwd_step {m : Matcher} {dir : Int} (r0 o0 j : Int) {s : Bytes} (hd : dir < 0) (f off : Nat) (best : Option (Int × Int)) :
    gGo m dir r0 o0 j s (f + 1) off best =
      match m s off with
      | none => none
      | some none => some best
      | some (some (so, eo)) =>
        if stopB r0 o0 j s (off + so) = true then some best
        else if s.length ≤ nextOff off so eo ∨ s.getD (nextOff off so eo) 0 = 10 then
          some (some (report s (off + so) (eo - so)))
        else gGo m dir r0 o0 j s f (nextOff off so eo) (some (report s (off + so) (eo - so))) := by
  have hd' : ¬ 0 < dir := by omega
  rw [gGo]
  cases m s off with
  | none => rfl
  | some x =>
    cases x with
    | none => rfl
    | some p =>
      obtain ⟨so, eo⟩ := p
      simp only [hd, hd', decide_true, decide_false, Bool.true_and, Bool.false_or, stopB, report, ge_iff_le,
        Bool.or_eq_true, decide_eq_true_eq, beq_iff_eq]


theorem gGo_chain {m : Matcher} {dir r0 o0 j : Int} {s : Bytes} (hd : dir < 0) {off : Nat} {l : List (Nat × Nat)}
    (hc : Chain m s (stopB r0 o0 j s) off l) : ∀ (f : Nat) (best : Option (Int × Int)), s.length ≤ f + off →
      gGo m dir r0 o0 j s (f + 1) off best = some (lastOr s best l) := by
  induction hc with
  | nothing hm =>
    intro f best _
    rw [gGo_bwd_step r0 o0 j hd, hm]; rfl
  | stopped hm hs =>
    intro f best _
    rw [gGo_bwd_step r0 o0 j hd, hm]
    exact if_pos hs
  | final hm hs he =>
    intro f best _
    rw [gGo_bwd_step r0 o0 j hd, hm]
    simp only []
    rw [if_neg (by simp [hs]), if_pos he]; rfl
  | @more off so eo l hm hs hl hn _ ih =>
    intro f best hf
    have := nextOff_gt off so eo
    obtain ⟨f, rfl⟩ : ∃ f', f = f' + 1 := ⟨f - 1, by omega⟩
    rw [gGo_bwd_step r0 o0 j hd, hm]
    simp only []
    rw [if_neg (by simp [hs]), if_neg (by omega), lastOr_cons]
    exact ih f _ (by omega)

theorem chain_of_gGo {m : Matcher} {dir r0 o0 j : Int} {s : Bytes} (hd : dir < 0) : ∀ (f off : Nat)
    (best res : Option (Int × Int)), s.length + 1 ≤ f + off → off ≤ s.length →
      gGo m dir r0 o0 j s f off best = some res → ∃ l, Chain m s (stopB r0 o0 j s) off l ∧ res = lastOr s best l := by
  intro f
  induction f with
  | zero => intro off best res hf ho; omega
  | succ f ih =>
    intro off best res hf ho h
    rw [gGo_bwd_step r0 o0 j hd] at h
    cases hm : m s off with
    | none => rw [hm] at h; cases h
    | some x =>
      cases x with
      | none => rw [hm] at h; cases h; exact ⟨[], Chain.nothing hm, rfl⟩
      | some p =>
        obtain ⟨so, eo⟩ := p
        rw [hm] at h
        simp only [] at h
        by_cases hs : stopB r0 o0 j s (off + so) = true
        · rw [if_pos hs] at h; cases h; exact ⟨[], Chain.stopped hm hs, rfl⟩
        · have hs' : stopB r0 o0 j s (off + so) = false := by simpa using hs
          rw [if_neg hs] at h
          by_cases he : s.length ≤ nextOff off so eo ∨ s.getD (nextOff off so eo) 0 = 10
          · rw [if_pos he] at h; cases h; exact ⟨_, Chain.final hm hs' he, rfl⟩
          · rw [if_neg he] at h
            have := nextOff_gt off so eo
            obtain ⟨l, hc, hr⟩ := ih _ _ _ (by omega) (by omega) h
            exact ⟨_, Chain.more hm hs' (by omega) (fun e => he (Or.inr e)) hc, by rw [lastOr_cons]; exact hr⟩

theorem gGo_bwd (m : Matcher) (dir r0 o0 j : Int) (s : Bytes) (hd : dir < 0) (f off : Nat) (best res : Option (Int × Int))
    (hf : s.length + 1 ≤ f + off) (ho : off ≤ s.length) :
    gGo m dir r0 o0 j s f off best = some res ↔
      ∃ l, Chain m s (stopB r0 o0 j s) off l ∧ res = lastOr s best l := by
  refine ⟨chain_of_gGo hd f off best res hf ho, fun ⟨_, hc, hr⟩ => ?_⟩
  obtain ⟨f, rfl⟩ : ∃ f', f = f' + 1 := ⟨f - 1, by omega⟩
  rw [hr]
  exact gGo_chain hd hc f best (by omega)

/-- reference for one row of a backward search -/
def BwdLine (m : Matcher) (r0 o0 j : Int) (s : Bytes) (res : Option (Int × Int)) : Prop :=
  ∃ l, Chain m s (stopB r0 o0 j s) 0 l ∧ res = lastOr s none l

theorem gLineScan_bwd (m : Matcher) (dir r0 o0 j : Int) (s : Bytes) (hd : dir < 0) (res : Option (Int × Int)) :
    gLineScan m dir r0 o0 j s = some res ↔ BwdLine m r0 o0 j s res := by
  have hd' : ¬ dir > 0 := by omega
  simp only [gLineScan, startOff, hd', decide_false, Bool.false_and, Bool.false_eq_true, if_false,
    show ¬ 0 > s.length by omega]
  exact gGo_bwd m dir r0 o0 j s hd _ 0 none res (by omega) (by omega)

/-- every match of a chain was returned by the matcher for some suffix of the line, lies in the
    part of the line the chain covers, and does not satisfy the stop rule -/
theorem chain_mem {m : Matcher} {s : Bytes} {stop : Nat → Bool} {off : Nat} {l : List (Nat × Nat)}
    (h : Chain m s stop off l) : ∀ p ∈ l, ∃ off' so eo, off ≤ off' ∧ m s off' = some (some (so, eo)) ∧
      p = (off' + so, eo - so) ∧ stop (off' + so) = false := by
  induction h with
  | nothing hm => simp
  | stopped hm hs => simp
  | final hm hs he =>
    intro p hp; simp only [List.mem_singleton] at hp
    exact ⟨_, _, _, Nat.le_refl _, hm, hp, hs⟩
  | @more off so eo l hm hs hl hn hc ih =>
    intro p hp
    rcases List.mem_cons.mp hp with hp | hp
    · exact ⟨_, _, _, Nat.le_refl _, hm, hp, hs⟩
    · obtain ⟨off', so', eo', h1, h2, h3, h4⟩ := ih p hp
      have := nextOff_gt off so eo
      exact ⟨off', so', eo', by omega, h2, h3, h4⟩

/-- the chain with a stop rule is the longest prefix of the full chain (no stop rule) whose matches
    do not satisfy the rule -/
theorem chain_stop_takeWhile {m : Matcher} {s : Bytes} (stop : Nat → Bool) {off : Nat} {l : List (Nat × Nat)}
    (h : Chain m s (fun _ => false) off l) : Chain m s stop off (l.takeWhile (fun p => !stop p.1)) := by
  induction h with
  | nothing hm => exact Chain.nothing hm
  | stopped hm hs => cases hs
  | @final off so eo hm hs he =>
    by_cases hst : stop (off + so) = true
    · simp only [List.takeWhile, hst, Bool.not_true]; exact Chain.stopped hm hst
    · have hst' : stop (off + so) = false := by simpa using hst
      simp only [List.takeWhile, hst', Bool.not_false]; exact Chain.final hm hst' he
  | @more off so eo l hm hs hl hn hc ih =>
    by_cases hst : stop (off + so) = true
    · simp only [List.takeWhile, hst, Bool.not_true]; exact Chain.stopped hm hst
    · have hst' : stop (off + so) = false := by simpa using hst
      simp only [List.takeWhile, hst', Bool.not_false]; exact Chain.more hm hst' hl hn ih

theorem chain_nil_iff {m : Matcher} {s : Bytes} {stop : Nat → Bool} {off : Nat} :
    Chain m s stop off [] ↔ m s off = some none ∨ ∃ so eo, m s off = some (some (so, eo)) ∧ stop (off + so) = true := by
  constructor
  · intro h; cases h with
    | nothing hm => exact Or.inl hm
    | stopped hm hs => exact Or.inr ⟨_, _, hm, hs⟩
  · rintro (h | ⟨so, eo, h, hs⟩)
    · exact Chain.nothing h
    · exact Chain.stopped h hs

theorem lastOr_none_eq_none {s : Bytes} {l : List (Nat × Nat)} : lastOr s none l = none ↔ l = [] := by
  unfold lastOr
  cases h : l.getLast? with
  | none => simp [List.getLast?_eq_none_iff.mp h]
  | some p =>
    simp only [reduceCtorEq, false_iff]
    rintro rfl; simp at h

theorem bwdLine_none {m : Matcher} {r0 o0 j : Int} {s : Bytes} :
    BwdLine m r0 o0 j s none ↔ Chain m s (stopB r0 o0 j s) 0 [] := by
  constructor
  · rintro ⟨l, hc, h⟩
    have := lastOr_none_eq_none.mp h.symm
    subst this; exact hc
  · intro h; exact ⟨[], h, rfl⟩

theorem bwdLine_some {m : Matcher} {r0 o0 j : Int} {s : Bytes} {o len : Int} :
    BwdLine m r0 o0 j s (some (o, len)) ↔
      ∃ l b n, Chain m s (stopB r0 o0 j s) 0 l ∧ l.getLast? = some (b, n) ∧ (o, len) = report s b n := by
  constructor
  · rintro ⟨l, hc, h⟩
    unfold lastOr at h
    cases hl : l.getLast? with
    | none => rw [hl] at h; simp at h
    | some p =>
      obtain ⟨b, n⟩ := p
      rw [hl] at h
      exact ⟨l, b, n, hc, hl, by simpa using h⟩
  · rintro ⟨l, b, n, hc, hl, h⟩
    exact ⟨l, hc, by simp [lastOr, hl, h]⟩

theorem lineAt_some (ls : Lines) (j : Int) (h0 : 0 ≤ j) (h1 : j < ls.length) : ∃ s, lineAt ls j = some s := by
  unfold lineAt
  rw [if_neg (by omega)]
  exact ⟨ls[j.toNat]'(by omega), List.getElem?_eq_getElem (by omega)⟩

theorem lineAt_lt {ls : Lines} {j : Int} {s : Bytes} (h : lineAt ls j = some s) : 0 ≤ j ∧ j < ls.length := by
  unfold lineAt at h
  split at h
  · simp at h
  · have := (List.getElem?_eq_some_iff.mp h).1
    omega

/-- The rows, in either direction `dir = ±1`: `gRows` reports the first row from `i` on whose scan finds something.
    `0 ≤ (j - i) * dir` and `0 < (r - j) * dir` say that `j` lies between `i` (included) and `r` (excluded). -/
theorem gRows_found (ls : Lines) (scan : Int → Bytes → Option (Option (Int × Int))) {dir : Int} (hd : dir = 1 ∨ dir = -1)
    (f : Nat) (i r o l : Int) (hf : (dir = 1 → (ls.length : Int) + 1 ≤ f + i) ∧ (dir = -1 → i + 2 ≤ f)) :
    gRows ls dir scan f i = some (some (r, o, l)) ↔
      (0 ≤ i ∧ i < ls.length ∧ 0 ≤ (r - i) * dir ∧
        (∀ j s, 0 ≤ (j - i) * dir → 0 < (r - j) * dir → lineAt ls j = some s → scan j s = some none) ∧
        ∃ s, lineAt ls r = some s ∧ scan r s = some (some (o, l))) := by
  induction f generalizing i with
  | zero =>
    simp only [gRows, Option.some.injEq, reduceCtorEq, false_iff]
    rintro ⟨h1, h2, -⟩; rcases hd with rfl | rfl <;> omega
  | succ f ih =>
    rw [gRows]
    by_cases hr : i < 0 || i ≥ (ls.length : Int)
    · simp only [hr, if_true, Option.some.injEq, reduceCtorEq, false_iff]
      rintro ⟨h1, h2, -⟩; simp at hr; omega
    · simp only [hr]
      have hr' : 0 ≤ i ∧ i < ls.length := by simp at hr; omega
      obtain ⟨s, hs⟩ := lineAt_some ls i hr'.1 hr'.2
      simp only [hs, Bool.false_eq_true, if_false]
      by_cases hsc : scan i s = some none
      · -- row `i` is passed: the answer is that of the scan from the next row
        rw [hsc]
        simp only []
        rw [ih (i + dir) (by rcases hd with rfl | rfl <;> omega)]
        constructor
        · rintro ⟨-, -, h2, h3, h4⟩
          refine ⟨hr'.1, hr'.2, by rcases hd with rfl | rfl <;> omega, fun j s' a b c => ?_, h4⟩
          by_cases hji : j = i
          · subst hji; rw [hs] at c; cases c; exact hsc
          · exact h3 j s' (by rcases hd with rfl | rfl <;> omega) b c
        · rintro ⟨-, -, h2, h3, s', h4, h5⟩
          have hri : r ≠ i := by rintro rfl; rw [hs] at h4; cases h4; rw [hsc] at h5; cases h5
          have := lineAt_lt h4
          exact ⟨by rcases hd with rfl | rfl <;> omega, by rcases hd with rfl | rfl <;> omega,
            by rcases hd with rfl | rfl <;> omega,
            fun j s' a b c => h3 j s' (by rcases hd with rfl | rfl <;> omega) b c, s', h4, h5⟩
      · -- row `i` stops the scan: it is the answer, or there is none
        have key : 0 ≤ (r - i) * dir →
            (∀ j s, 0 ≤ (j - i) * dir → 0 < (r - j) * dir → lineAt ls j = some s → scan j s = some none) → r = i :=
          fun h2 h3 => Classical.byContradiction fun hne =>
            hsc (h3 i s (by simp) (by rcases hd with rfl | rfl <;> omega) hs)
        cases hx : scan i s with
        | none =>
          simp only [reduceCtorEq, false_iff]
          rintro ⟨-, -, h2, h3, s', h4, h5⟩
          obtain rfl := key h2 h3
          rw [hs] at h4; cases h4; rw [hx] at h5; cases h5
        | some x =>
          cases x with
          | none => exact absurd hx hsc
          | some p =>
            obtain ⟨o', l'⟩ := p
            simp only [Option.some.injEq, Prod.mk.injEq]
            constructor
            · rintro ⟨rfl, rfl, rfl⟩
              exact ⟨hr'.1, hr'.2, by simp, fun j s' a b => by rcases hd with rfl | rfl <;> omega, s, hs, hx⟩
            · rintro ⟨-, -, h2, h3, s', h4, h5⟩
              obtain rfl := key h2 h3
              rw [hs] at h4; cases h4; rw [hx] at h5; cases h5; exact ⟨rfl, rfl, rfl⟩

theorem gRows_none (ls : Lines) (scan : Int → Bytes → Option (Option (Int × Int))) {dir : Int} (hd : dir = 1 ∨ dir = -1)
    (f : Nat) (i : Int) (hf : (dir = 1 → 0 ≤ i ∧ (ls.length : Int) + 1 ≤ f + i) ∧ (dir = -1 → i < ls.length ∧ i + 2 ≤ f)) :
    gRows ls dir scan f i = some none ↔ (∀ j s, 0 ≤ (j - i) * dir → lineAt ls j = some s → scan j s = some none) := by
  induction f generalizing i with
  | zero =>
    simp only [gRows, true_iff]
    intro j s h1 h2; have := lineAt_lt h2; rcases hd with rfl | rfl <;> omega
  | succ f ih =>
    rw [gRows]
    by_cases hr : i < 0 || i ≥ (ls.length : Int)
    · simp only [hr, if_true, true_iff]
      intro j s h1 h2; have := lineAt_lt h2; simp at hr; rcases hd with rfl | rfl <;> omega
    · simp only [hr]
      have hr' : 0 ≤ i ∧ i < ls.length := by simp at hr; omega
      obtain ⟨s, hs⟩ := lineAt_some ls i hr'.1 hr'.2
      simp only [hs, Bool.false_eq_true, if_false]
      by_cases hsc : scan i s = some none
      · rw [hsc]
        simp only []
        rw [ih (i + dir) (by rcases hd with rfl | rfl <;> omega)]
        constructor
        · intro h j s' a c
          by_cases hji : j = i
          · subst hji; rw [hs] at c; cases c; exact hsc
          · exact h j s' (by rcases hd with rfl | rfl <;> omega) c
        · intro h j s' a c
          exact h j s' (by rcases hd with rfl | rfl <;> omega) c
      · have hno : ¬ ∀ j s, 0 ≤ (j - i) * dir → lineAt ls j = some s → scan j s = some none :=
          fun h => hsc (h i s (by simp) hs)
        cases hx : scan i s with
        | none => simp only [reduceCtorEq, false_iff]; exact hno
        | some x =>
          cases x with
          | none => exact absurd hx hsc
          | some p => obtain ⟨o', l'⟩ := p; simp only [Option.some.injEq, reduceCtorEq, false_iff]; exact hno

theorem gRows_fwd_found (ls : Lines) (scan : Int → Bytes → Option (Option (Int × Int))) (f : Nat) (i r o l : Int)
    (hi : 0 ≤ i) (hf : (ls.length : Int) + 1 ≤ f + i) :
    gRows ls 1 scan f i = some (some (r, o, l)) ↔
      (i ≤ r ∧ r < ls.length ∧ (∀ j s, i ≤ j → j < r → lineAt ls j = some s → scan j s = some none) ∧
        ∃ s, lineAt ls r = some s ∧ scan r s = some (some (o, l))) := by
  rw [gRows_found ls scan (Or.inl rfl) f i r o l ⟨fun _ => hf, fun h => by omega⟩]
  constructor
  · rintro ⟨-, -, h2, h3, s, h4, h5⟩
    exact ⟨by omega, (lineAt_lt h4).2, fun j s' a b c => h3 j s' (by omega) (by omega) c, s, h4, h5⟩
  · rintro ⟨h1, h2, h3, h4⟩
    exact ⟨hi, by omega, by omega, fun j s' a b c => h3 j s' (by omega) (by omega) c, h4⟩

theorem gRows_fwd_none (ls : Lines) (scan : Int → Bytes → Option (Option (Int × Int))) (f : Nat) (i : Int)
    (hi : 0 ≤ i) (hf : (ls.length : Int) + 1 ≤ f + i) :
    gRows ls 1 scan f i = some none ↔ (∀ j s, i ≤ j → lineAt ls j = some s → scan j s = some none) := by
  rw [gRows_none ls scan (Or.inl rfl) f i ⟨fun _ => ⟨hi, hf⟩, fun h => by omega⟩]
  exact ⟨fun h j s a c => h j s (by omega) c, fun h j s a c => h j s (by omega) c⟩

theorem gRows_bwd_found (ls : Lines) (scan : Int → Bytes → Option (Option (Int × Int))) (f : Nat) (i r o l : Int)
    (hf : i + 2 ≤ f) :
    gRows ls (-1) scan f i = some (some (r, o, l)) ↔
      (0 ≤ r ∧ r ≤ i ∧ i < ls.length ∧ (∀ j s, r < j → j ≤ i → lineAt ls j = some s → scan j s = some none) ∧
        ∃ s, lineAt ls r = some s ∧ scan r s = some (some (o, l))) := by
  rw [gRows_found ls scan (Or.inr rfl) f i r o l ⟨fun h => by omega, fun _ => hf⟩]
  constructor
  · rintro ⟨-, h1, h2, h3, s, h4, h5⟩
    exact ⟨(lineAt_lt h4).1, by omega, h1, fun j s' a b c => h3 j s' (by omega) (by omega) c, s, h4, h5⟩
  · rintro ⟨h0, h1, h2, h3, h4⟩
    exact ⟨by omega, h2, by omega, fun j s' a b c => h3 j s' (by omega) (by omega) c, h4⟩

theorem gRows_bwd_none (ls : Lines) (scan : Int → Bytes → Option (Option (Int × Int))) (f : Nat) (i : Int)
    (hf : i + 2 ≤ f) (hl : i < ls.length) :
    gRows ls (-1) scan f i = some none ↔ (∀ j s, j ≤ i → lineAt ls j = some s → scan j s = some none) := by
  rw [gRows_none ls scan (Or.inr rfl) f i ⟨fun h => by omega, fun _ => ⟨hl, hf⟩⟩]
  exact ⟨fun h j s a c => h j s (by omega) c, fun h j s a c => h j s (by omega) c⟩

theorem gSearch_fwd_found (m : Matcher) (ls : Lines) {r0 o0 r o len : Int} (h0 : 0 ≤ r0) :
    gSearch m ls 1 r0 o0 = some (some (r, o, len)) ↔
      (r0 ≤ r ∧ r < ls.length ∧
        (∀ j s, r0 ≤ j → j < r → lineAt ls j = some s → fwdLine m r0 o0 j s = some none) ∧
        ∃ s, lineAt ls r = some s ∧ fwdLine m r0 o0 r s = some (some (o, len))) := by
  rw [gSearch, gRows_fwd_found ls _ _ r0 r o len h0 (by omega)]
  simp only [gLineScan_fwd _ 1 r0 o0 _ _ (by omega : (0 : Int) < 1)]

theorem gSearch_fwd_none (m : Matcher) (ls : Lines) {r0 o0 : Int} (h0 : 0 ≤ r0) :
    gSearch m ls 1 r0 o0 = some none ↔
      ∀ j s, r0 ≤ j → lineAt ls j = some s → fwdLine m r0 o0 j s = some none := by
  rw [gSearch, gRows_fwd_none ls _ _ r0 h0 (by omega)]
  simp only [gLineScan_fwd _ 1 r0 o0 _ _ (by omega : (0 : Int) < 1)]

theorem gSearch_bwd_found (m : Matcher) (ls : Lines) {r0 o0 r o len : Int} :
    gSearch m ls (-1) r0 o0 = some (some (r, o, len)) ↔
      (0 ≤ r ∧ r ≤ r0 ∧ r0 < ls.length ∧
        (∀ j s, r < j → j ≤ r0 → lineAt ls j = some s → Chain m s (stopB r0 o0 j s) 0 []) ∧
        ∃ s l b n, lineAt ls r = some s ∧ Chain m s (stopB r0 o0 r s) 0 l ∧
          l.getLast? = some (b, n) ∧ (o, len) = report s b n) := by
  by_cases hlen : r0 < ls.length
  · rw [gSearch, gRows_bwd_found ls _ _ r0 r o len (by omega)]
    simp only [gLineScan_bwd _ (-1) r0 o0 _ _ (by omega : (-1 : Int) < 0), bwdLine_none, bwdLine_some]
    constructor
    · rintro ⟨h1, h2, h3, h4, s, h5, l, b, n, h6⟩
      exact ⟨h1, h2, h3, h4, s, l, b, n, h5, h6⟩
    · rintro ⟨h1, h2, h3, h4, s, l, b, n, h5, h6⟩
      exact ⟨h1, h2, h3, h4, s, h5, l, b, n, h6⟩
  · rw [gSearch, gRows]
    have : (r0 < 0 || r0 ≥ (ls.length : Int)) = true := by simp; omega
    simp only [this, if_true, Option.some.injEq, reduceCtorEq, false_iff]
    rintro ⟨-, -, h, -⟩
    omega

theorem gSearch_bwd_none (m : Matcher) (ls : Lines) {r0 o0 : Int} (hlen : r0 < ls.length) :
    gSearch m ls (-1) r0 o0 = some none ↔
      ∀ j s, j ≤ r0 → lineAt ls j = some s → Chain m s (stopB r0 o0 j s) 0 [] := by
  rw [gSearch, gRows_bwd_none ls _ _ r0 (by omega) hlen]
  simp only [gLineScan_bwd _ (-1) r0 o0 _ _ (by omega : (-1 : Int) < 0), bwdLine_none]

end Neatvi.Lemmas.C13
