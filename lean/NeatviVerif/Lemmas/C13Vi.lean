import NeatviVerif.Lemmas.C07Keeps
/-!
# C13, vi level: `vi_search` and the end of an iteration of `vi()` leave the text and the cursor alone
(read off the frame of `Lemmas/C07Keeps`, which also covers the window), and the count loop of `vi_search`
-/
namespace Neatvi.Lemmas.C13
open Neatvi Neatvi.Mot Neatvi.Vi

/-- the text of the buffer and the cursor `(xrow, xoff)` are the same in both states -/
def Fr (s s' : VS) : Prop := lines s' = lines s ∧ s'.ed.xrow = s.ed.xrow ∧ s'.ed.xoff = s.ed.xoff

/-- every successful run of `m` leaves the text and the cursor alone -/
structure Keeps {α : Type} (m : M α) : Prop where
  h : ∀ s a s', m s = Res.ok a s' → Fr s s'

theorem Keeps.of_cursor {α : Type} {m : M α} (hm : C07.Keeps true m) : Keeps m := by
  constructor
  intro s a s' h
  have hc : (s'.ed.xrow, s'.ed.xoff, s'.ed.xtop, s'.xrows) = (s.ed.xrow, s.ed.xoff, s.ed.xtop, s.xrows) :=
    hm.cursor h
  exact ⟨C07.lines_of_lbText (hm.text h), congrArg Prod.fst hc, congrArg (·.2.1) hc⟩

theorem keeps_setMsg (m : Bytes) : Keeps (setMsg m) := .of_cursor (C07.keeps_setMsg m)

/-- `vi_search` itself leaves the text and the cursor `(xrow, xoff)` alone, whatever it returns -/
theorem keeps_viSearch (cmd : Nat) (cnt r o : Int) : Keeps (viSearch cmd cnt r o) :=
  .of_cursor (C07.keeps_viSearch cmd cnt r o)

/-- the part of `viPost (some 0)` after the window fix `vi_wfix` -/
theorem viPost_zero {s s' : VS} (h : viPost (some 0) s = Res.ok () s') :
    ∃ s1, viWfix s = Res.ok () s1 ∧ Fr s1 s' := by
  rw [C07.viPost_some] at h
  obtain ⟨_, s1, h1, h2⟩ := C07.bind_inv _ _ _ _ _ h
  exact ⟨s1, h1, (Keeps.of_cursor (C07.keeps_viPostRest 0)).h _ _ _ h2⟩

-- keep `whnf` from unfolding the search (and the regex compiler behind it) when it looks at a `match`
attribute [local irreducible] Neatvi.Mot.search

/-- one search of the count loop from position `p`; with `adv` the offset handed to the next search
    is the end of the match (`/` with more repetitions to come) -/
def searchStep (ls : Lines) (kwd : Bytes) (icase : Bool) (dir : Int) (adv : Bool) (p : Int × Int) : Option (Option (Int × Int)) :=
  match search ls kwd icase dir p.1 p.2 with
  | none => none
  | some none => some none
  | some (some (r', o', len)) => some (some (r', if adv then o' + len else o'))

/-- `k` searches in a row, each from the position the previous one reported; stops at the first
    failure (`some none`) or trap (`none`).  `slash`: the command is `/`, whose intermediate
    searches continue from the end of the match. -/
def countSearch (ls : Lines) (kwd : Bytes) (icase : Bool) (dir : Int) (slash : Bool) : Nat → Int × Int → Option (Option (Int × Int))
  | 0, p => some (some p)
  | k + 1, p =>
    match searchStep ls kwd icase dir (slash && k != 0) p with
    | none => none
    | some none => some none
    | some (some p') => countSearch ls kwd icase dir slash k p'

theorem countSearch_zero (ls : Lines) (kwd : Bytes) (icase : Bool) (dir : Int) (slash : Bool) (p : Int × Int) :
    countSearch ls kwd icase dir slash 0 p = some (some p) := rfl

theorem countSearch_succ (ls : Lines) (kwd : Bytes) (icase : Bool) (dir : Int) (slash : Bool) (k : Nat) (p : Int × Int) :
    countSearch ls kwd icase dir slash (k + 1) p =
      match searchStep ls kwd icase dir (slash && k != 0) p with
      | none => none
      | some none => some none
      | some (some p') => countSearch ls kwd icase dir slash k p' := rfl

theorem searchStep_def (ls : Lines) (kwd : Bytes) (icase : Bool) (dir : Int) (adv : Bool) (p : Int × Int) :
    searchStep ls kwd icase dir adv p =
      match search ls kwd icase dir p.1 p.2 with
      | none => none
      | some none => some none
      | some (some (r', o', len)) => some (some (r', if adv then o' + len else o')) := rfl

theorem rep_eq_count (cmd : Nat) (cnt : Int) (s : VS) (kwd : Bytes) (dir : Int) (f : Nat) (r o i : Int)
    (hf : (cnt - i).toNat < f) :
    viSearch.rep cmd cnt s kwd dir f r o i =
      countSearch (lines s) kwd (s.ed.xic != 0) dir (cmd == 47) (cnt - i).toNat (r, o) := by
  induction f generalizing r o i with
  | zero => omega
  | succ f ih =>
    show (if i ≥ cnt then some (some (r, o)) else
      match search (lines s) kwd (s.ed.xic != 0) dir r o with
      | none => none
      | some none => some none
      | some (some (r', o', len)) =>
        viSearch.rep cmd cnt s kwd dir f r' (if i + 1 < cnt && cmd == 47 then o' + len else o') (i + 1)) = _
    by_cases hi : i ≥ cnt
    · have : (cnt - i).toNat = 0 := by omega
      rw [if_pos hi, this, countSearch_zero]
    · have hk : (cnt - i).toNat = (cnt - (i + 1)).toNat + 1 := by omega
      rw [if_neg hi, hk, countSearch_succ, searchStep_def]
      cases search (lines s) kwd (s.ed.xic != 0) dir r o with
      | none => rfl
      | some x =>
        cases x with
        | none => rfl
        | some t =>
          obtain ⟨r', o', len⟩ := t
          simp only []
          rw [ih _ _ _ (by omega)]
          have : (decide (i + 1 < cnt) && cmd == 47) = (cmd == 47 && (cnt - (i + 1)).toNat != 0) := by
            by_cases h1 : i + 1 < cnt
            · have : (cnt - (i + 1)).toNat ≠ 0 := by omega
              simp [h1, this]
            · have : (cnt - (i + 1)).toNat = 0 := by omega
              simp [h1, this]
          simp only [this]

end Neatvi.Lemmas.C13
