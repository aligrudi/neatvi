import NeatviVerif.Spec.RegexSem
import NeatviVerif.Lemmas.Basics
/-!
# C13b, part A: context-free patterns and the matching of one atom on a suffix of the line

`lbuf_search` and `ec_substitute` hand the matcher the rest `line.drop k` of the line together with
the flag "not at the beginning of the line".  An atom of the pattern that only looks at the text from
the current position on gives the same answer on the rest as on the whole line, shifted by `k`:
`atomMatch_shift`.  The atoms that look *behind* the current position are

* `\<` and `\>` (they read the character before the position: `prevLead`): excluded by `ContextFree`;
* `^`: at the start of the rest the flag `REG_NOTBOL` makes it fail, which is what the whole line says
  at an offset `k > 0` — except that with `REG_NEWLINE` the whole line lets `^` match after a newline
  byte.  So `^` is harmless when the byte before the rest is not a newline (`NlFree`), which is the case
  for every line of the line buffer (a newline is the last byte of a line only: `LineNl`, `LineNl.nlFree`).

Last, what every later part speaks in: an offset, the marks and a parse of the rest read on the whole line (`shiftI`, `shiftM`,
`shiftR`) and the hypothesis on `^` for a tree (`BegOk`).  Two chains stand on this file and neither needs the other: the reference
semantics (B: `results`; I: start positions, first match, the test oracle) and the engines (C: the VM; D: `regexec`, `rset_find`;
E: the literal fast path, `rstr_find`; F: the matchers of search and `:s`; G: `lbuf_search`; H: `:s`; L: a criterion on the pattern
text).  The predicate "no word-boundary test" continues on code in C (`TreeAtoms`, `CodeAtoms`), on the compiled pattern in E
(`ReCF`, `ReNoBeg`) and on the pattern text in F (`PatCF`, `PatNoBeg`).
-/
namespace Neatvi.Lemmas.C13b
open Neatvi Neatvi.Regex Neatvi.Spec.RegexSem

/-- the atom does not look behind the position it is tried at: not `\<`, not `\>` -/
def CFAtom (a : Atom) : Bool := a.k != AK.wbeg && a.k != AK.wend

/-- **ContextFree**: the pattern contains no word-boundary atom `\<`, `\>` -/
def ContextFree : RNode → Bool
  | .nul => true
  | .atom a _ _ => CFAtom a
  | .cat a b => ContextFree a && ContextFree b
  | .alt a b => ContextFree a && ContextFree b
  | .grp a _ _ _ => ContextFree a

/-- the pattern contains no `^` -/
def NoBeg : RNode → Bool
  | .nul => true
  | .atom a _ _ => a.k != AK.beg
  | .cat a b => NoBeg a && NoBeg b
  | .alt a b => NoBeg a && NoBeg b
  | .grp a _ _ _ => NoBeg a

/-- the rest of the line from byte `k` does not begin right after a newline byte inside the line: the
    byte before offset `k` is not a newline, or nothing is left.  With `REG_NEWLINE` a `^` at offset
    `k > 0` of the whole line then fails, as it does at the start of the rest under `REG_NOTBOL`. -/
def NlFree (line : Bytes) (k : Nat) : Prop := line.getD (k - 1) 0 ≠ 10 ∨ line.length ≤ k

instance (line : Bytes) (k : Nat) : Decidable (NlFree line k) := by unfold NlFree; infer_instance

/-- the side condition on `^` for a whole line: the engine's program has no `^`, or a newline occurs
    in the line only as its last byte (every line of the line buffer) -/
def LineNl (s : Bytes) : Prop := ∀ i, i + 1 < s.length → s.getD i 0 ≠ 10

/-- `LineNl`, decided: no newline among the bytes before the last one -/
def lineNlB (s : Bytes) : Bool := s.dropLast.all (fun c => c != 10)

theorem LineNl.nlFree {s : Bytes} (h : LineNl s) {k : Nat} (hk : 0 < k) : NlFree s k := by
  by_cases hlt : k < s.length
  · exact Or.inl (h (k - 1) (by omega))
  · exact Or.inr (by omega)

/-- the flags of the match on the rest (`fs`) against those of the match on the whole line (`fw`):
    the same but for `REG_NOTBOL`, which is set for the rest -/
structure FlagsRest (fw fs : Nat) : Prop where
  icase : hasFlag fs REG_ICASE = hasFlag fw REG_ICASE
  nl : hasFlag fs REG_NEWLINE = hasFlag fw REG_NEWLINE
  noteol : hasFlag fs REG_NOTEOL = hasFlag fw REG_NOTEOL
  notbol : hasFlag fs REG_NOTBOL = true

theorem and_or_pow (x : Nat) {y z : Nat} (h : y &&& z = 0) : (x ||| y) &&& z = x &&& z := by
  rw [Nat.and_or_distrib_right, h, Nat.or_zero]

theorem flagsRest_or (f : Nat) : FlagsRest f (f ||| REG_NOTBOL) := by
  refine ⟨?_, ?_, ?_, ?_⟩
  · unfold hasFlag; rw [and_or_pow f (by decide)]
  · unfold hasFlag; rw [and_or_pow f (by decide)]
  · unfold hasFlag; rw [and_or_pow f (by decide)]
  · unfold hasFlag REG_NOTBOL
    have h1 : ((f ||| 16) &&& 16).testBit 4 = true := by
      rw [Nat.testBit_and, Nat.testBit_or, show Nat.testBit 16 4 = true from by decide]; simp
    have : (f ||| 16) &&& 16 ≠ 0 := by
      intro h; rw [h] at h1; simp at h1
    simpa using this

theorem drop_drop' (l : Bytes) (k i : Nat) : (l.drop k).drop i = l.drop (i + k) := by
  rw [List.drop_drop, Nat.add_comm]

theorem rdb_drop (l : Bytes) (k i : Nat) (hk : k ≤ l.length) : rdb (l.drop k) i = rdb l (i + k) := by
  unfold rdb
  rw [List.length_drop, List.getElem?_drop, Nat.add_comm k i]
  by_cases h1 : i + k < l.length
  · rw [if_pos h1, if_pos (show i < l.length - k by omega)]
  · rw [if_neg h1, if_neg (show ¬ i < l.length - k by omega)]
    by_cases h2 : i + k = l.length
    · rw [if_pos h2, if_pos (show i = l.length - k by omega)]
    · rw [if_neg h2, if_neg (show ¬ i = l.length - k by omega)]

theorem rxLen_drop (l : Bytes) (k i : Nat) : rxLen (l.drop k) i = rxLen l (i + k) := by
  unfold rxLen
  rw [Basics.getD_drop, Nat.add_comm k, List.length_drop]
  congr 1
  omega

theorem decAt_drop (l : Bytes) (k i : Nat) (hk : k ≤ l.length) : decAt (l.drop k) i = decAt l (i + k) := by
  unfold decAt
  rw [List.length_drop, drop_drop']
  by_cases h : i ≤ l.length - k
  · rw [if_pos h, if_pos (by omega)]
  · rw [if_neg h, if_neg (by omega)]

/-- the outcome of an atom on the rest, read as an outcome on the whole line -/
def shiftAR (k : Nat) : AR → AR
  | AR.ok j => AR.ok (j + k)
  | AR.fail => AR.fail
  | AR.trap => AR.trap

theorem shiftAR_ok (k j : Nat) : shiftAR k (AR.ok j) = AR.ok (j + k) := rfl
theorem shiftAR_fail (k : Nat) : shiftAR k AR.fail = AR.fail := rfl

theorem chrIcase_drop (lit l : Bytes) (k : Nat) (hk : k ≤ l.length) : ∀ (f i r : Nat),
    chrIcase lit l f i (r + k) = shiftAR k (chrIcase lit (l.drop k) f i r) := by
  intro f
  induction f with
  | zero => intro i r; rfl
  | succ f ih =>
    intro i r
    rw [chrIcase, chrIcase]
    cases rdb lit i with
    | none => rfl
    | some c =>
      cases c with
      | zero => rfl
      | succ c =>
        simp only []
        rw [decAt_drop l k r hk, rxLen_drop]
        cases decAt lit i with
        | none => rfl
        | some c1 =>
          cases decAt l (r + k) with
          | none => rfl
          | some c2 =>
            simp only []
            split
            · rfl
            · rw [show r + k + rxLen l (r + k) = (r + rxLen l (r + k)) + k by omega]
              exact ih _ _

/-- **one atom on the rest of the line.**  For an atom other than `\<`, `\>`, an offset `k > 0` inside
    the line whose preceding byte is not a newline (needed for `^` only), and the flags of the rest
    (`REG_NOTBOL` set), matching the atom at position `pos` of the rest `line.drop k` gives what matching
    it at position `pos + k` of the whole line gives, positions shifted by `k`. -/
theorem atomMatch_shift (a : Atom) (line : Bytes) (k : Nat) (fw fs : Nat) (pos : Nat)
    (hcf : CFAtom a = true) (hk : k ≤ line.length) (hk0 : 0 < k) (hfl : FlagsRest fw fs)
    (hbol : a.k = AK.beg → NlFree line k) :
    atomMatch a line fw (pos + k) = shiftAR k (atomMatch a (line.drop k) fs pos) := by
  unfold atomMatch
  rw [rdb_drop line k pos hk, hfl.icase, hfl.nl, hfl.noteol, hfl.notbol]
  cases hr : rdb line (pos + k) with
  | none => rfl
  | some cur =>
    simp only []
    obtain ⟨ak, as⟩ := a
    cases ak with
    | chr =>
      simp only []
      by_cases hic : hasFlag fw REG_ICASE = true
      · simp only [hic, Bool.not_true, Bool.false_eq_true, if_false]
        exact chrIcase_drop as line k hk _ 0 pos
      · simp only [hic, Bool.not_false, if_true]
        rw [drop_drop']
        split
        · simp only [shiftAR]; congr 1; omega
        · rfl
    | beg =>
      simp only []
      have hb := hbol rfl
      have hp : (pos + k == 0) = false := by simp; omega
      rw [hp]
      by_cases hp0 : pos = 0
      · subst hp0
        have e : line.getD (0 + k - 1) 0 = line.getD (k - 1) 0 := by rw [Nat.zero_add]
        simp only [Bool.false_eq_true, if_false, e, beq_self_eq_true, if_true]
        have : (line.getD (k - 1) 0 == 10 && cur != 0) = false := by
          rcases hb with hb | hb
          · have : (line.getD (k - 1) 0 == 10) = false := by simpa using hb
            rw [this]; rfl
          · -- nothing is left: the current byte is the terminator
            have hc : cur = 0 := by
              rw [Nat.zero_add] at hr
              unfold rdb at hr
              rw [if_neg (by omega), if_pos (by omega)] at hr
              injection hr with hr; exact hr.symm
            subst hc; simp
        rw [this]
        simp [shiftAR]
      · have hp1 : (pos == 0) = false := by simpa using hp0
        rw [hp1, Basics.getD_drop, show k + (pos - 1) = pos + k - 1 by omega]
        simp only [Bool.false_eq_true, if_false, apply_ite (shiftAR k), shiftAR_ok, shiftAR_fail]
    | end_ => simp only [apply_ite (shiftAR k), shiftAR_ok, shiftAR_fail]
    | any =>
      simp only []
      rw [rxLen_drop, Nat.add_right_comm]
      simp only [apply_ite (shiftAR k), shiftAR_ok, shiftAR_fail]
    | brk =>
      simp only []
      rw [decAt_drop line k pos hk, rxLen_drop]
      cases decAt line (pos + k) with
      | none => rfl
      | some c =>
        simp only []
        split
        · rfl
        · cases brkMatch (as.drop 1) c (hasFlag fw REG_ICASE) with
          | none => rfl
          | some b =>
            cases b
            · rfl
            · simp only [shiftAR]; congr 1; omega
    | wbeg => simp [CFAtom] at hcf
    | wend => simp [CFAtom] at hcf

/-! ### offsets, marks and parses of the rest read on the whole line; the hypothesis on `^` -/

/-- an offset written by a match on the rest, as an offset of the whole line (`-1` = unset stays) -/
def shiftI (k : Nat) (v : Int) : Int := if 0 ≤ v then v + k else v
def shiftM (k : Nat) (g : Marks) : Marks := g.map (shiftI k)
/-- a parse on the rest read as a parse on the whole line -/
def shiftR (k : Nat) (r : R) : R := (r.1 + k, shiftM k r.2)

theorem shiftM_setMark (k : Nat) (g : Marks) (j v : Nat) :
    shiftM k (setMark g j v) = setMark (shiftM k g) j (v + k) := by
  have e : shiftI k ((v : Nat) : Int) = ((v + k : Nat) : Int) := by
    unfold shiftI; rw [if_pos (by omega)]; omega
  unfold shiftM setMark
  rw [List.map_set, e]

theorem shiftM_replicate (k n : Nat) : shiftM k (List.replicate n (-1)) = List.replicate n (-1) := by
  unfold shiftM
  rw [List.map_replicate]
  rfl

theorem shiftM_zero (g : Marks) : shiftM 0 g = g := by
  unfold shiftM
  have : shiftI 0 = id := by
    funext v; unfold shiftI; split <;> simp
  rw [this, List.map_id]

/-- the hypothesis on `^`: no `^` in the pattern, or the rest does not begin right after a newline
    inside the line (`NlFree`) -/
def BegOk (t : RNode) (line : Bytes) (k : Nat) : Prop := NoBeg t = true ∨ NlFree line k

instance (t : RNode) (line : Bytes) (k : Nat) : Decidable (BegOk t line k) := by unfold BegOk; infer_instance

theorem BegOk.atom {a : Atom} {mn mx : Int} {line : Bytes} {k : Nat} (h : BegOk (.atom a mn mx) line k)
    (ha : a.k = AK.beg) : NlFree line k :=
  h.resolve_left fun hb => by simp [NoBeg, ha] at hb

theorem BegOk.cat {a b : RNode} {line : Bytes} {k : Nat} (h : BegOk (.cat a b) line k) :
    BegOk a line k ∧ BegOk b line k :=
  ⟨h.imp_left fun hb => (Bool.and_eq_true_iff.mp hb).1, h.imp_left fun hb => (Bool.and_eq_true_iff.mp hb).2⟩

theorem BegOk.alt {a b : RNode} {line : Bytes} {k : Nat} (h : BegOk (.alt a b) line k) :
    BegOk a line k ∧ BegOk b line k :=
  ⟨h.imp_left fun hb => (Bool.and_eq_true_iff.mp hb).1, h.imp_left fun hb => (Bool.and_eq_true_iff.mp hb).2⟩

theorem BegOk.grp {a : RNode} {g : Nat} {mn mx : Int} {line : Bytes} {k : Nat} (h : BegOk (.grp a g mn mx) line k) :
    BegOk a line k := h

theorem flatMap_congr' {α β : Type} (f g : α → List β) : ∀ (l : List α), (∀ x ∈ l, f x = g x) →
    l.flatMap f = l.flatMap g := by
  intro l
  induction l with
  | nil => intro _; rfl
  | cons a l ih =>
    intro h
    rw [List.flatMap_cons, List.flatMap_cons, h a List.mem_cons_self,
      ih (fun x hx => h x (List.mem_cons_of_mem _ hx))]

end Neatvi.Lemmas.C13b
