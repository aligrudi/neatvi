import NeatviVerif.Lemmas.C13bA
import NeatviVerif.Lemmas.C10bRef
/-!
# C13b, part B: the reference parses of a context-free pattern on a suffix of the line

`results_shift`: for a `ContextFree` pattern the ordered list of parses from position `i` of the rest
`line.drop k` (flag `REG_NOTBOL`) is the ordered list of parses from position `i + k` of the whole
line, every offset (end position and group marks) shifted by `k`.

The only place where the length of the subject enters the reference is the iteration budget of an
unbounded repetition (`subj.length + 2`); `starRes_fuel` shows the budget is irrelevant once it
exceeds the number of bytes left.
-/
namespace Neatvi.Lemmas.C13b
open Neatvi Neatvi.Regex Neatvi.Spec.RegexSem Neatvi.Lemmas.C10b

/-- `bW` on the whole line is `bS` on the rest, shifted -/
def ShiftB (k : Nat) (bW bS : R → List R) : Prop := ∀ r, bW (shiftR k r) = (bS r).map (shiftR k)

theorem bindR_shift {k : Nat} {aW aS bW bS : R → List R} (ha : ShiftB k aW aS) (hb : ShiftB k bW bS) :
    ShiftB k (fun r => bindR (aW r) bW) (fun r => bindR (aS r) bS) := by
  intro r
  simp only [bindR]
  rw [ha r, List.flatMap_map, List.map_flatMap]
  congr 1
  funext x
  exact hb x

theorem copies_shift {k : Nat} {bW bS : R → List R} (h : ShiftB k bW bS) :
    ∀ n, ShiftB k (copies bW n) (copies bS n) := by
  intro n
  induction n with
  | zero => intro r; simp [copies]
  | succ n ih => exact bindR_shift h ih

theorem optRes_shift {k : Nat} {bW bS : R → List R} (h : ShiftB k bW bS) :
    ∀ n, ShiftB k (optRes bW n) (optRes bS n) := by
  intro n
  induction n with
  | zero => intro r; simp [optRes]
  | succ n ih =>
    intro r
    simp only [optRes, List.map_append, List.map_cons, List.map_nil]
    have e : bindR (bW (shiftR k r)) (optRes bW n) = List.map (shiftR k) (bindR (bS r) (optRes bS n)) :=
      bindR_shift h ih r
    rw [e]

theorem starRes_shift {k : Nat} {bW bS : R → List R} (h : ShiftB k bW bS) :
    ∀ f, ShiftB k (starRes bW f) (starRes bS f) := by
  intro f
  induction f with
  | zero => intro r; simp [starRes]
  | succ f ih =>
    intro r
    simp only [starRes, List.map_append, List.map_cons, List.map_nil, bindR]
    rw [h r, List.flatMap_map, List.map_flatMap]
    congr 2
    funext x
    have e : ((shiftR k x).1 == (shiftR k r).1) = (x.1 == r.1) := by
      simp only [shiftR]
      rw [Bool.eq_iff_iff]
      simp only [beq_iff_eq]
      omega
    rw [e]
    split
    · rfl
    · exact ih x

theorem starRes_fuel {len : Nat} {L : R → List R} (h : Bounded len L) :
    ∀ (f f' : Nat) (r : R), len + 1 - r.1 < f → len + 1 - r.1 < f' → starRes L f r = starRes L f' r := by
  intro f
  induction f with
  | zero => intro f' r h1; omega
  | succ f ih =>
    intro f' r h1 h2
    cases f' with
    | zero => omega
    | succ f' =>
      simp only [starRes, bindR]
      congr 1
      apply flatMap_congr'
      intro x hx
      have hb := h r x hx
      split
      · rfl
      · rename_i hne
        have hne : x.1 ≠ r.1 := by simpa using hne
        have h3 : r.1 < x.1 := by have := hb.1; omega
        have h4 : x.1 ≤ len := by have := hb.2; omega
        exact ih f' x (by omega) (by omega)

theorem repRes_shift {k : Nat} (envW envS : Env) {bW bS : R → List R} (h : ShiftB k bW bS)
    (hbd : Bounded envS.subj.length bS) (hlen : envS.subj.length ≤ envW.subj.length) (mn mx : Int) :
    ShiftB k (repRes envW bW mn mx) (repRes envS bS mn mx) := by
  intro r
  by_cases h00 : mn = 0 ∧ mx = 0
  · simp [repRes, h00]
  by_cases h11 : mn = 1 ∧ mx = 1
  · simp only [repRes, h11, beq_self_eq_true, Bool.and_self, if_true]
    exact h r
  rw [repRes_general envW bW h00 h11, repRes_general envS bS h00 h11]
  have hafter : ShiftB k
      (if mx < 0 then starRes bW (envW.subj.length + 2) else optRes bW (mx - max 1 mn).toNat)
      (if mx < 0 then starRes bS (envS.subj.length + 2) else optRes bS (mx - max 1 mn).toNat) := by
    split
    · intro x
      rw [starRes_fuel hbd (envS.subj.length + 2) (envW.subj.length + 2) x (by omega) (by omega)]
      exact starRes_shift h _ x
    · exact optRes_shift h _
  have main : bindR (copies bW (max 1 mn).toNat (shiftR k r))
        (if mx < 0 then starRes bW (envW.subj.length + 2) else optRes bW (mx - max 1 mn).toNat) =
      List.map (shiftR k) (bindR (copies bS (max 1 mn).toNat r)
        (if mx < 0 then starRes bS (envS.subj.length + 2) else optRes bS (mx - max 1 mn).toNat)) :=
    bindR_shift (copies_shift h (max 1 mn).toNat) hafter r
  split
  · simp only [List.map_append, List.map_cons, List.map_nil]
    rw [main]
  · exact main

theorem atomL_shift (a : Atom) (line : Bytes) (k fw fs : Nat) (hcf : CFAtom a = true) (hk : k ≤ line.length)
    (hk0 : 0 < k) (hfl : FlagsRest fw fs) (hbol : a.k = AK.beg → NlFree line k) :
    ShiftB k (atomL ⟨line, fw⟩ a) (atomL ⟨line.drop k, fs⟩ a) := by
  intro r
  simp only [atomL, shiftR]
  rw [atomMatch_shift a line k fw fs r.1 hcf hk hk0 hfl hbol]
  cases atomMatch a (line.drop k) fs r.1 <;> simp [shiftAR, shiftR]

theorem grpL_shift {k : Nat} {iW iS : R → List R} (h : ShiftB k iW iS) (g : Nat) :
    ShiftB k (grpL iW g) (grpL iS g) := by
  intro r
  simp only [grpL, shiftR]
  rw [← shiftM_setMark]
  have := h (r.1, setMark r.2 (2 * g) r.1)
  simp only [shiftR] at this
  rw [this, List.map_map, List.map_map]
  congr 1
  funext x
  simp only [Function.comp, shiftR, shiftM_setMark]

/-- **results_shift**: the ordered parses of a `ContextFree` pattern from position `r.1 + k` of the whole
    line are those from position `r.1` of the rest `line.drop k` under `REG_NOTBOL`, shifted by `k`
    (`0 < k ≤ line.length`; a pattern with `^` needs the byte before the rest not to be a newline). -/
theorem results_shift (line : Bytes) (k fw fs : Nat) (hk : k ≤ line.length) (hk0 : 0 < k) (hfl : FlagsRest fw fs) :
    ∀ (t : RNode), ContextFree t = true → BegOk t line k →
      ShiftB k (results ⟨line, fw⟩ t) (results ⟨line.drop k, fs⟩ t) := by
  have hlen : (line.drop k).length ≤ line.length := by rw [List.length_drop]; omega
  intro t
  induction t with
  | nul => intro _ _ r; simp [results]
  | atom a mn mx =>
    intro hcf hb r
    rw [results_atom, results_atom]
    exact repRes_shift ⟨line, fw⟩ ⟨line.drop k, fs⟩ (atomL_shift a line k fw fs hcf hk hk0 hfl hb.atom)
      (atomL_bounded ⟨line.drop k, fs⟩ a) hlen mn mx r
  | cat a b iha ihb =>
    intro hcf hb
    simp only [ContextFree, Bool.and_eq_true] at hcf
    exact bindR_shift (iha hcf.1 hb.cat.1) (ihb hcf.2 hb.cat.2)
  | alt a b iha ihb =>
    intro hcf hb r
    simp only [ContextFree, Bool.and_eq_true] at hcf
    simp only [results, List.map_append]
    rw [iha hcf.1 hb.alt.1 r, ihb hcf.2 hb.alt.2 r]
  | grp a g mn mx iha =>
    intro hcf hb r
    rw [results_grp, results_grp]
    exact repRes_shift ⟨line, fw⟩ ⟨line.drop k, fs⟩ (grpL_shift (iha hcf hb.grp) g)
      (grpL_bounded (results_bounded ⟨line.drop k, fs⟩ a) g) hlen mn mx r

/-- `suffix_eq_whole` (the parses) without the hypothesis `ContextFree` -/
def suffix_eq_whole_any_pattern : Prop :=
  ∀ (t : RNode) (line : Bytes) (k : Nat), 0 < k → k ∈ starts line (line.length + 2) 0 → BegOk t line k →
    ∀ (fw fs : Nat), FlagsRest fw fs → ∀ (i : Nat) (g : Marks),
      results ⟨line, fw⟩ t (i + k, shiftM k g) = (results ⟨line.drop k, fs⟩ t (i, g)).map (shiftR k)

end Neatvi.Lemmas.C13b
