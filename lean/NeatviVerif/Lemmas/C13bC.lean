import NeatviVerif.Lemmas.C13bA
import NeatviVerif.Lemmas.C12Simple
import NeatviVerif.Lemmas.C11bParse
import NeatviVerif.Lemmas.C10Run
/-!
# C13b, part C: the backtracking VM on a suffix of the line

The program of a `ContextFree` pattern contains no `\<` / `\>` instruction.  For such a program the
run of the VM (`re_rec`) at position `pos` of the rest `line.drop k` under `REG_NOTBOL` is, step by
step, its run at position `pos + k` of the whole line: same outcome, same cut counter, end position
and marks shifted by `k` (`loop_shift`; `execLoop_shift` for the start-position loop).  No hypothesis on depth cuts
is needed, so this is stronger than what follows from `results_shift` through the soundness/completeness theorems of C10.

First the predicates: `TreeAtoms P` / `CodeAtoms P` (every atom of the tree / of the code has `P`), `ContextFree` and `NoBeg`
as instances, `treeAtoms_grpnum`, `codeAtoms_regcomp`.  Last `execLoop_fuel`: the start-position loop does not depend on its
fuel once that exceeds the bytes left.
-/
namespace Neatvi.Lemmas.C13b
open Neatvi Neatvi.Regex Neatvi.Spec.RegexSem Neatvi.Props.C11
open Neatvi.Lemmas.C10 (StepRel ARRel ARRel.map ResRel.eq_map loop_rel act_rel execLoop_rel)

/-- every atom of the tree satisfies `P` -/
def TreeAtoms (P : Atom → Prop) : RNode → Prop
  | .nul => True
  | .atom a _ _ => P a
  | .cat a b => TreeAtoms P a ∧ TreeAtoms P b
  | .alt a b => TreeAtoms P a ∧ TreeAtoms P b
  | .grp a _ _ _ => TreeAtoms P a

/-- every atom instruction of the code satisfies `P` -/
def CodeAtoms (P : Atom → Prop) (code : List Inst) : Prop := ∀ a, Inst.atom a ∈ code → P a

/-- what `atomMatch_shift` asks of an atom (not `C12.AtomOk`, which is about parsing the text of an atom) -/
def AtomOk (line : Bytes) (k : Nat) (a : Atom) : Prop :=
  CFAtom a = true ∧ (a.k = AK.beg → NlFree line k)

theorem treeAtoms_of_cf (line : Bytes) (k : Nat) : ∀ (t : RNode), ContextFree t = true → BegOk t line k →
    TreeAtoms (AtomOk line k) t := by
  intro t
  induction t with
  | nul => intro _ _; trivial
  | atom a mn mx => exact fun hcf hb => ⟨hcf, hb.atom⟩
  | cat a b iha ihb =>
    intro hcf hb
    simp only [ContextFree, Bool.and_eq_true] at hcf
    exact ⟨iha hcf.1 hb.cat.1, ihb hcf.2 hb.cat.2⟩
  | alt a b iha ihb =>
    intro hcf hb
    simp only [ContextFree, Bool.and_eq_true] at hcf
    exact ⟨iha hcf.1 hb.alt.1, ihb hcf.2 hb.alt.2⟩
  | grp a g mn mx iha => exact fun hcf hb => iha hcf hb.grp

theorem treeAtoms_iff_allAtoms (P : Atom → Prop) : ∀ t : RNode, TreeAtoms P t ↔ Props.C11b.AllAtoms P t
  | .nul => Iff.rfl
  | .atom _ _ _ => Iff.rfl
  | .cat a b => and_congr (treeAtoms_iff_allAtoms P a) (treeAtoms_iff_allAtoms P b)
  | .alt a b => and_congr (treeAtoms_iff_allAtoms P a) (treeAtoms_iff_allAtoms P b)
  | .grp a _ _ _ => treeAtoms_iff_allAtoms P a

theorem contextFree_iff_treeAtoms : ∀ t : RNode, ContextFree t = true ↔ TreeAtoms (fun a => CFAtom a = true) t
  | .nul => ⟨fun _ => trivial, fun _ => rfl⟩
  | .atom _ _ _ => Iff.rfl
  | .cat a b => Bool.and_eq_true_iff.trans (and_congr (contextFree_iff_treeAtoms a) (contextFree_iff_treeAtoms b))
  | .alt a b => Bool.and_eq_true_iff.trans (and_congr (contextFree_iff_treeAtoms a) (contextFree_iff_treeAtoms b))
  | .grp a _ _ _ => contextFree_iff_treeAtoms a

theorem noBeg_iff_treeAtoms : ∀ t : RNode, NoBeg t = true ↔ TreeAtoms (fun a => a.k ≠ AK.beg) t
  | .nul => ⟨fun _ => trivial, fun _ => rfl⟩
  | .atom _ _ _ => bne_iff_ne
  | .cat a b => Bool.and_eq_true_iff.trans (and_congr (noBeg_iff_treeAtoms a) (noBeg_iff_treeAtoms b))
  | .alt a b => Bool.and_eq_true_iff.trans (and_congr (noBeg_iff_treeAtoms a) (noBeg_iff_treeAtoms b))
  | .grp a _ _ _ => noBeg_iff_treeAtoms a

theorem treeAtoms_grpnum (P : Atom → Prop) : ∀ (t : RNode) (n : Nat), TreeAtoms P (grpnum t n).1 ↔ TreeAtoms P t
  | .nul, _ => Iff.rfl
  | .atom _ _ _, _ => Iff.rfl
  | .cat a b, n => and_congr (treeAtoms_grpnum P a n) (treeAtoms_grpnum P b _)
  | .alt a b, n => and_congr (treeAtoms_grpnum P a n) (treeAtoms_grpnum P b _)
  | .grp a _ _ _, _ => treeAtoms_grpnum P a _

theorem cf_grpnum (t : RNode) (n : Nat) : ContextFree (grpnum t n).1 = ContextFree t :=
  Bool.eq_iff_iff.mpr ((contextFree_iff_treeAtoms _).trans
    ((treeAtoms_grpnum _ t n).trans (contextFree_iff_treeAtoms t).symm))

theorem noBeg_grpnum (t : RNode) (n : Nat) : NoBeg (grpnum t n).1 = NoBeg t :=
  Bool.eq_iff_iff.mpr ((noBeg_iff_treeAtoms _).trans ((treeAtoms_grpnum _ t n).trans (noBeg_iff_treeAtoms t).symm))

/-- the program `regcomp` builds for a pattern whose tree has only atoms with `P` -/
theorem codeAtoms_regcomp {P : Atom → Prop} {pat : Bytes} {flg : Nat} {prog : Prog}
    (hc : regcomp pat flg = some (some prog)) (ht : ∀ t, parse pat = some (some t) → TreeAtoms P t) :
    CodeAtoms P prog.code := by
  obtain ⟨t, hparse, _, rfl⟩ := Lemmas.C10.regcomp_some hc
  intro a ha
  simp only [List.mem_append, List.mem_cons, List.mem_nil_iff, reduceCtorEq, or_false, false_or] at ha
  exact Props.C11.atom_mem_emit (Props.C11b.grpnum_allAtoms t 1 ((treeAtoms_iff_allAtoms P t).mp (ht t hparse))) ha

/-- the outcome of a VM run on the rest, read on the whole line -/
def shiftRes (k : Nat) : Res → Res
  | Res.ok p m c => Res.ok (p + k) (shiftM k m) c
  | Res.fail c => Res.fail c
  | Res.trap => Res.trap

section vm
variable (prog : List Inst) (line : Bytes) (k fw fs nd ngrps : Nat)

/-- the run on the whole line -/
abbrev cxW : Ctx := ⟨prog, line, fw, nd, ngrps⟩
/-- the run on the rest of the line from byte `k` -/
abbrev cxS : Ctx := ⟨prog, line.drop k, fs, nd, ngrps⟩

theorem shiftM_set (m : Marks) (j pos : Nat) :
    (shiftM k m).set j ((pos + k : Nat) : Int) = shiftM k (m.set j (pos : Int)) := by
  have := shiftM_setMark k m j pos
  unfold setMark at this
  exact this.symm

theorem lockstep (hk : k ≤ line.length) (hk0 : 0 < k) (hfl : FlagsRest fw fs)
    (hprog : CodeAtoms (AtomOk line k) prog) : ∀ pc inst pos m pos' m', prog[pc]? = some inst →
    (pos' = pos + k ∧ m' = shiftM k m) →
    StepRel (cxS prog line k fs nd ngrps) (cxW prog line fw nd ngrps)
      (fun _ p m p' m' => p' = p + k ∧ m' = shiftM k m) (fun p m p' m' => p' = p + k ∧ m' = shiftM k m)
      pc pos m pos' m' inst := by
  rintro pc inst pos m _ _ hi ⟨rfl, rfl⟩
  cases inst with
  | atom a =>
    have ha := hprog a (List.mem_of_getElem? hi)
    show ARRel _ (atomMatch a (line.drop k) fs pos) (atomMatch a line fw (pos + k))
    rw [atomMatch_shift a line k fw fs pos ha.1 hk hk0 hfl ha.2]
    exact ARRel.map (shiftAR_ok k) rfl rfl (fun _ => ⟨rfl, rfl⟩) _
  | mark j =>
    refine ⟨rfl, ?_⟩
    show (if j < ngrps then (shiftM k m).set j ((pos + k : Nat) : Int) else shiftM k m) =
      shiftM k (if j < ngrps then m.set j (pos : Int) else m)
    rw [shiftM_set, apply_ite (shiftM k)]
  | jump a => exact ⟨rfl, rfl⟩
  | fork a1 a2 => exact ⟨⟨rfl, rfl⟩, rfl, rfl⟩
  | mtch => exact ⟨rfl, rfl⟩

/-- **loop_shift**: the VM on the rest of the line is the VM on the whole line, shifted -/
theorem loop_shift (hk : k ≤ line.length) (hk0 : 0 < k) (hfl : FlagsRest fw fs)
    (hprog : CodeAtoms (AtomOk line k) prog) (dep pc pos : Nat) (m : Marks) (cuts : Nat) :
    loop (cxW prog line fw nd ngrps) dep pc (pos + k) (shiftM k m) cuts =
      shiftRes k (loop (cxS prog line k fs nd ngrps) dep pc pos m cuts) :=
  (loop_rel (cxS prog line k fs nd ngrps) (cxW prog line fw nd ngrps) rfl rfl (C := fun c c' => c' = c)
    (fun _ _ h => congrArg (· + 1) h) (lockstep prog line k fw fs nd ngrps hk hk0 hfl hprog)
    dep pc pos m _ _ cuts cuts ⟨rfl, rfl⟩ rfl).eq_map (fc := id) (fun _ _ _ => rfl) (fun _ => rfl) rfl

/-- the outcome of the start-position loop on the rest, read on the whole line -/
def shiftExec (k : Nat) : ExecRes → ExecRes
  | ExecRes.found m c => ExecRes.found (shiftM k m) c
  | ExecRes.nomatch c => ExecRes.nomatch c
  | ExecRes.trap => ExecRes.trap

/-- **execLoop_shift**: the start-position loop of `regexec` on the rest is the loop on the whole
    line entered at byte `k` -/
theorem execLoop_shift (hk : k ≤ line.length) (hk0 : 0 < k) (hfl : FlagsRest fw fs)
    (hprog : CodeAtoms (AtomOk line k) prog) : ∀ (f start cuts : Nat),
    execLoop (cxW prog line fw nd ngrps) f (start + k) cuts =
      shiftExec k (execLoop (cxS prog line k fs nd ngrps) f start cuts) := by
  intro f start cuts
  have h := execLoop_rel (cxS prog line k fs nd ngrps) (cxW prog line fw nd ngrps)
    (P := fun s s' => s' = s + k) (Q := fun p m p' m' => p' = p + k ∧ m' = shiftM k m)
    (C := fun c c' => c' = c)
    (fun s _ e => by rw [e]; exact (rdb_drop line k s hk).symm)
    (fun s _ e => by
      subst e
      show s + k + rxLen line (s + k) = s + rxLen (line.drop k) s + k
      rw [rxLen_drop]; omega)
    (fun s _ c _ e ec => by
      subst e ec
      exact act_rel (cxS prog line k fs nd ngrps) (cxW prog line fw nd ngrps) rfl rfl
        (C := fun c c' => c' = c) (fun _ _ h => congrArg (· + 1) h)
        (lockstep prog line k fw fs nd ngrps hk hk0 hfl hprog)
        (S := fun _ p m p' m' => p' = p + k ∧ m' = shiftM k m) (pc := 0)
        ⟨rfl, (shiftM_replicate k _).symm⟩ rfl)
    f start (start + k) cuts cuts rfl rfl
  generalize execLoop (cxS prog line k fs nd ngrps) f start cuts = r1 at h
  generalize execLoop (cxW prog line fw nd ngrps) f (start + k) cuts = r2 at h
  cases r1 <;> cases r2 <;> try exact h.elim
  · exact congrArg ExecRes.nomatch h
  · rfl
  · obtain ⟨⟨_, _, -, rfl⟩, rfl⟩ := h; rfl

end vm

theorem execLoop_fuel (cx : Ctx) : ∀ (f f' start cuts : Nat), cx.subj.length + 1 - start < f →
    cx.subj.length + 1 - start < f' → execLoop cx f start cuts = execLoop cx f' start cuts := by
  intro f
  induction f with
  | zero => intro f' start cuts h; omega
  | succ f ih =>
    intro f' start cuts h1 h2
    cases f' with
    | zero => omega
    | succ f' =>
      rw [execLoop, execLoop]
      cases hr : rdb cx.subj start with
      | none => rfl
      | some b =>
        simp only []
        cases recmatch cx start cuts with
        | ok p m c => rfl
        | trap => rfl
        | fail c =>
          simp only []
          by_cases hb : b = 0
          · simp [hb]
          · have hb' : (b == 0) = false := by simpa using hb
            rw [hb']
            simp only [Bool.false_eq_true, if_false]
            -- `b ≠ 0`: the position is inside the subject and the step is at least one byte
            have hget := hr
            rw [C12.rdb_le (rdb_some_le hr)] at hget
            injection hget with hget
            have hlt : start < cx.subj.length := by
              rcases Nat.lt_or_ge start cx.subj.length with h | h
              · exact h
              · rw [List.getD_eq_getElem?_getD, List.getElem?_eq_none h] at hget
                exact absurd hget.symm hb
            have hstep := C12.rxLen_pos hlt (by rw [hget]; exact hb)
            exact ih f' _ c (by omega) (by omega)

end Neatvi.Lemmas.C13b
