import NeatviVerif.Lemmas.C13bC
import NeatviVerif.Model.Rset
/-!
# C13b, part D: `regexec` and `rset_find` on a suffix of the line

The whole-line reading of "find the first match at or after byte `k`": `regexecFrom` / `findFrom` are `regexec` / `rset_find`
on the whole line (flags without `NOTBOL`) with the start-position loop entered at `k` (`regexecFrom _ _ 0 = regexec`).
`regexec_shift`, `find_shift`: on the rest `line.drop k` with `NOTBOL` the two return what these return on the whole line,
all offsets shifted by `k`.  The literal fast path and `rstr_find` as a whole are in part E.
-/
namespace Neatvi.Lemmas.C13b
open Neatvi Neatvi.Regex Neatvi.Rset

/-- the group offsets `regexec` writes from the marks -/
def subsOf (m : Marks) (nsub ngrps : Nat) : List (Int × Int) :=
  (List.range nsub).map (fun i =>
    if i * 2 < 2 * ngrps then (m.getD (i * 2) (-1), m.getD (i * 2 + 1) (-1)) else (-1, -1))

/-- `regexec` on the whole subject, the start-position loop entered at byte `k`: the first match
    that starts at `k` or later.  As in `regexec`, nothing is tried when nothing is left. -/
def regexecFrom (p : Prog) (subj : Bytes) (k nsub eflg nd ngrps : Nat) : ExecRes × List (Int × Int) :=
  let cx : Ctx := { prog := p.code, subj := subj, flg := p.flg ||| eflg, nd := nd, ngrps := ngrps }
  if (subj.drop k).isEmpty then (ExecRes.nomatch 0, []) else
  match execLoop cx (subj.length + 2) k 0 with
  | ExecRes.found m c => (ExecRes.found m c, subsOf m nsub ngrps)
  | r => (r, [])

theorem regexecFrom_zero (p : Prog) (subj : Bytes) (nsub eflg nd ngrps : Nat) :
    regexecFrom p subj 0 nsub eflg nd ngrps = regexec p subj nsub eflg nd ngrps := rfl

def shiftP (k : Nat) (p : Int × Int) : Int × Int := (shiftI k p.1, shiftI k p.2)

theorem shiftI_neg1 (k : Nat) : shiftI k (-1) = -1 := by unfold shiftI; rw [if_neg (by omega)]

theorem shiftM_getD (k : Nat) (m : Marks) (i : Nat) : (shiftM k m).getD i (-1) = shiftI k (m.getD i (-1)) := by
  unfold shiftM
  rw [List.getD_eq_getElem?_getD, List.getD_eq_getElem?_getD, List.getElem?_map]
  cases m[i]? with
  | none => simp [shiftI_neg1]
  | some v => rfl

theorem subsOf_shift (k : Nat) (m : Marks) (nsub ngrps : Nat) :
    subsOf (shiftM k m) nsub ngrps = (subsOf m nsub ngrps).map (shiftP k) := by
  unfold subsOf
  rw [List.map_map]
  apply List.map_congr_left
  intro i _
  simp only [Function.comp]
  split
  · simp only [shiftP, shiftM_getD]
  · simp only [shiftP, shiftI_neg1]

/-- the result of `regexec` on the rest, read on the whole line -/
def shiftX (k : Nat) (x : ExecRes × List (Int × Int)) : ExecRes × List (Int × Int) :=
  (shiftExec k x.1, x.2.map (shiftP k))

/-- **regexec on the rest = regexec on the whole line from `k`**, for a program without `\<`, `\>` -/
theorem regexec_shift (p : Prog) (line : Bytes) (k nsub ew es nd ngrps : Nat)
    (hk : k ≤ line.length) (hk0 : 0 < k) (hfl : FlagsRest (p.flg ||| ew) (p.flg ||| es))
    (hprog : CodeAtoms (AtomOk line k) p.code) :
    regexecFrom p line k nsub ew nd ngrps = shiftX k (regexec p (line.drop k) nsub es nd ngrps) := by
  unfold regexecFrom regexec
  simp only []
  by_cases he : (line.drop k).isEmpty = true
  · rw [if_pos he, if_pos he]; rfl
  · rw [if_neg he, if_neg he]
    have h1 := execLoop_shift p.code line k (p.flg ||| ew) (p.flg ||| es) nd ngrps hk hk0 hfl hprog
      (line.length + 2) 0 0
    rw [Nat.zero_add] at h1
    have h2 := execLoop_fuel (cxS p.code line k (p.flg ||| es) nd ngrps) (line.length + 2)
      ((line.drop k).length + 2) 0 0
      (by show (line.drop k).length + 1 - 0 < _; rw [List.length_drop]; omega)
      (by show (line.drop k).length + 1 - 0 < _; omega)
    rw [h2] at h1
    rw [h1]
    cases execLoop (cxS p.code line k (p.flg ||| es) nd ngrps) ((line.drop k).length + 2) 0 0 with
    | «nomatch» c => rfl
    | trap => rfl
    | found m c =>
      simp only [shiftExec, shiftX]
      rw [subsOf_shift]
      rfl

/-- `rset_find` on the whole line from byte `k` -/
def findFrom (rs : RSet) (s : Bytes) (k n : Nat) (flg : Nat) (nd ngrps : Nat) : Option (Int × List Int × Nat) :=
  if rs.grpcnt ≤ 2 then some (-1, [], 0) else
  let rflg := REG_NEWLINE ||| (if flg &&& RE_NOTBOL != 0 then REG_NOTBOL else 0) ||| (if flg &&& RE_NOTEOL != 0 then REG_NOTEOL else 0)
  match regexecFrom rs.prog s k rs.grpcnt rflg nd ngrps with
  | (ExecRes.trap, _) => none
  | (ExecRes.nomatch c, _) => some (-1, [], c)
  | (ExecRes.found _ c, subs) =>
    let set : Int := (List.range rs.n).foldl (fun (acc : Int) i =>
      let g := rs.grp.getD i (-1)
      if g ≥ 0 && (subs.getD g.toNat (-1, -1)).1 ≥ 0 then (i : Int) else acc) (-1)
    if set < 0 then some (-1, [], c) else
    let base := (rs.grp.getD set.toNat 0).toNat
    let cnt := rs.setgrpcnt.getD set.toNat 0
    let out := (List.range n).flatMap (fun i =>
      if i < cnt + 1 then let so := subs.getD (base + i) (-1, -1); [so.1, so.2] else [-1, -1])
    some (set, out, c)

theorem findFrom_zero (rs : RSet) (s : Bytes) (n flg nd ngrps : Nat) :
    findFrom rs s 0 n flg nd ngrps = find rs s n flg nd ngrps := rfl

/-- the result of `rset_find` / `rstr_find` on the rest, read on the whole line -/
def shiftF (k : Nat) (x : Int × List Int × Nat) : Int × List Int × Nat := (x.1, x.2.1.map (shiftI k), x.2.2)

theorem shiftI_nonneg (k : Nat) (v : Int) : (shiftI k v ≥ 0) ↔ v ≥ 0 := by
  unfold shiftI; split <;> omega

theorem subs_getD_shift (k : Nat) (subs : List (Int × Int)) (i : Nat) :
    (subs.map (shiftP k)).getD i (-1, -1) = shiftP k (subs.getD i (-1, -1)) := by
  rw [List.getD_eq_getElem?_getD, List.getD_eq_getElem?_getD, List.getElem?_map]
  cases subs[i]? with
  | none => simp [shiftP, shiftI_neg1]
  | some v => rfl

/-- the pattern of the set that matched: the last one whose outer group is set -/
def findSet (rs : RSet) (subs : List (Int × Int)) : Int :=
  (List.range rs.n).foldl (fun (acc : Int) i =>
    let g := rs.grp.getD i (-1)
    if g ≥ 0 && (subs.getD g.toNat (-1, -1)).1 ≥ 0 then (i : Int) else acc) (-1)

/-- what `rset_find` computes from the group offsets, as a function of them -/
def findOut (rs : RSet) (n : Nat) (subs : List (Int × Int)) (c : Nat) : Option (Int × List Int × Nat) :=
  let set := findSet rs subs
  if set < 0 then some (-1, [], c) else
  let base := (rs.grp.getD set.toNat 0).toNat
  let cnt := rs.setgrpcnt.getD set.toNat 0
  let out := (List.range n).flatMap (fun i =>
    if i < cnt + 1 then let so := subs.getD (base + i) (-1, -1); [so.1, so.2] else [-1, -1])
  some (set, out, c)

theorem findSet_shift (rs : RSet) (k : Nat) (subs : List (Int × Int)) :
    findSet rs (subs.map (shiftP k)) = findSet rs subs := by
  unfold findSet
  congr 1
  funext acc i
  simp only [subs_getD_shift, shiftP]
  rw [decide_eq_decide.mpr (shiftI_nonneg k _)]

theorem findOut_shift (rs : RSet) (n k : Nat) (subs : List (Int × Int)) (c : Nat) :
    findOut rs n (subs.map (shiftP k)) c = (findOut rs n subs c).map (shiftF k) := by
  unfold findOut
  simp only [findSet_shift]
  split
  · rfl
  · simp only [Option.map_some, shiftF, List.map_flatMap]
    apply congrArg some
    apply congrArg (Prod.mk _)
    apply congrArg (fun x => (x, c))
    apply flatMap_congr'
    intro i _
    split
    · simp only [subs_getD_shift, shiftP, List.map_cons, List.map_nil]
    · simp only [List.map_cons, List.map_nil, shiftI_neg1]

theorem findFrom_eq_out (rs : RSet) (s : Bytes) (k n flg nd ngrps : Nat) :
    findFrom rs s k n flg nd ngrps =
      if rs.grpcnt ≤ 2 then some (-1, [], 0) else
      match regexecFrom rs.prog s k rs.grpcnt (REG_NEWLINE ||| (if flg &&& RE_NOTBOL != 0 then REG_NOTBOL else 0) |||
          (if flg &&& RE_NOTEOL != 0 then REG_NOTEOL else 0)) nd ngrps with
      | (ExecRes.trap, _) => none
      | (ExecRes.nomatch c, _) => some (-1, [], c)
      | (ExecRes.found _ c, subs) => findOut rs n subs c := rfl

/-- the flags `rset_find` passes on for the rest (`RE_NOTBOL`) and for the whole line (none) -/
theorem flagsRest_find (pf : Nat) :
    FlagsRest (pf ||| (REG_NEWLINE ||| (if 0 &&& RE_NOTBOL != 0 then REG_NOTBOL else 0) |||
        (if 0 &&& RE_NOTEOL != 0 then REG_NOTEOL else 0)))
      (pf ||| (REG_NEWLINE ||| (if RE_NOTBOL &&& RE_NOTBOL != 0 then REG_NOTBOL else 0) |||
        (if RE_NOTBOL &&& RE_NOTEOL != 0 then REG_NOTEOL else 0))) := by
  have e1 : (REG_NEWLINE ||| (if 0 &&& RE_NOTBOL != 0 then REG_NOTBOL else 0) |||
      (if 0 &&& RE_NOTEOL != 0 then REG_NOTEOL else 0)) = REG_NEWLINE := by decide
  have e2 : (REG_NEWLINE ||| (if RE_NOTBOL &&& RE_NOTBOL != 0 then REG_NOTBOL else 0) |||
      (if RE_NOTBOL &&& RE_NOTEOL != 0 then REG_NOTEOL else 0)) = REG_NEWLINE ||| REG_NOTBOL := by decide
  rw [e1, e2, ← Nat.or_assoc]
  exact flagsRest_or _

/-- **rset_find on the rest = rset_find on the whole line from `k`** -/
theorem find_shift (rs : RSet) (line : Bytes) (k n nd ngrps : Nat) (hk : k ≤ line.length) (hk0 : 0 < k)
    (hprog : CodeAtoms (AtomOk line k) rs.prog.code) :
    findFrom rs line k n 0 nd ngrps = (find rs (line.drop k) n RE_NOTBOL nd ngrps).map (shiftF k) := by
  rw [← findFrom_zero rs (line.drop k), findFrom_eq_out, findFrom_eq_out]
  split
  · rfl
  · rw [regexecFrom_zero, regexec_shift rs.prog line k rs.grpcnt _ _ nd ngrps hk hk0 (flagsRest_find rs.prog.flg) hprog]
    generalize regexec rs.prog (line.drop k) rs.grpcnt _ nd ngrps = x
    obtain ⟨r, subs⟩ := x
    cases r with
    | trap => rfl
    | «nomatch» c => rfl
    | found m c =>
      simp only [shiftX, shiftExec]
      exact findOut_shift rs n k subs c

end Neatvi.Lemmas.C13b
