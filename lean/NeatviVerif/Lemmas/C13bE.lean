import NeatviVerif.Lemmas.C13bD
import NeatviVerif.Lemmas.C12Literal
/-!
# C13b, part E: the literal fast path, and `rstr_find` as a whole

`rstrFindFrom re s k`: `rstr_find` put to the whole line `s`, reporting the first match that starts
at byte `k` or later (absolute offsets).  `rstrFind_shift`: for a compiled pattern that makes no
word-boundary test, `rstr_find` on the rest `s.drop k` with `RE_NOTBOL` is `rstrFindFrom` shifted.
-/
namespace Neatvi.Lemmas.C13b
open Neatvi Neatvi.Regex Neatvi.Rset

/-- `rstr_find` on the whole line from byte `k`: the engine with its start-position loop entered at
    `k`, or the candidate loop of the literal entered at `k` -/
def rstrFindFrom (rs : RStr) (s : Bytes) (k n : Nat) (flg : Nat) (nd ngrps : Nat) : Option (Int × List Int × Nat) :=
  match rs.rs with
  | some r => findFrom r s k n flg nd ngrps
  | none =>
    let lit := rs.str.getD []
    if rs.lbeg && flg &&& RE_NOTBOL != 0 then some (-1, [], 0) else
    let len := lit.length
    let e : Int := (s.length : Int) - len - 1
    if e < 0 then some (-1, [], 0) else
    let b : Int := if rs.lend then e else 0
    let e : Int := if rs.lbeg then 0 else e
    match literalLoop rs lit s (s.length + 2) (max b k) e with
    | none => none
    | some none => some (-1, [], 0)
    | some (some r) => some (0, (if n ≥ 1 then [(r : Int), (r + len : Nat)] else []) ++ List.replicate (2 * (n - 1)) (-1), 0)

theorem rstrFindFrom_zero (rs : RStr) (s : Bytes) (n flg nd ngrps : Nat) :
    rstrFindFrom rs s 0 n flg nd ngrps = rstrFind rs s n flg nd ngrps := by
  unfold rstrFindFrom rstrFind
  cases rs.rs with
  | some r => rfl
  | none =>
    simp only []
    by_cases h1 : (rs.lbeg && flg &&& RE_NOTBOL != 0) = true
    · rw [if_pos h1, if_pos h1]
    · rw [if_neg h1, if_neg h1]
      by_cases he : (s.length : Int) - (rs.str.getD []).length - 1 < 0
      · rw [if_pos he, if_pos he]
      · rw [if_neg he, if_neg he, Int.max_eq_left]
        · rfl
        · split <;> omega


/-- the compiled pattern makes no word-boundary test: no `\<`, `\>` instruction in the program of the
    engine; no `\<`, `\>` anchor on the literal -/
def ReCF (re : RStr) : Prop :=
  match re.rs with
  | some r => CodeAtoms (fun a => CFAtom a = true) r.prog.code
  | none => re.wbeg = false ∧ re.wend = false

/-- the program of the engine has no `^` (the literal path handles `^` through `RE_NOTBOL` alone) -/
def ReNoBeg (re : RStr) : Prop :=
  match re.rs with
  | some r => CodeAtoms (fun a => a.k ≠ AK.beg) r.prog.code
  | none => True

/-- the side condition on `^` -/
def ReBegOk (re : RStr) (line : Bytes) (k : Nat) : Prop := ReNoBeg re ∨ NlFree line k

theorem codeAtoms_ok {code : List Inst} {line : Bytes} {k : Nat} (h1 : CodeAtoms (fun a => CFAtom a = true) code)
    (h2 : CodeAtoms (fun a => a.k ≠ AK.beg) code ∨ NlFree line k) : CodeAtoms (AtomOk line k) code := by
  intro a ha
  refine ⟨h1 a ha, fun hb => ?_⟩
  rcases h2 with h2 | h2
  · exact absurd hb (h2 a ha)
  · exact h2

theorem cand_drop (rs : RStr) (lit s : Bytes) (k r : Nat) (hwb : rs.wbeg = false) (hwe : rs.wend = false) :
    C12.Cand rs lit (s.drop k) r ↔ C12.Cand rs lit s (r + k) := by
  simp only [C12.Cand, hwb, hwe, drop_drop', Bool.false_eq_true, false_imp_iff, and_true]

theorem literalLoop_shift (rs : RStr) (lit s : Bytes) (k : Nat) (hwb : rs.wbeg = false) (hwe : rs.wend = false) :
    ∀ (f f' : Nat) (r e : Int), 0 ≤ r → (e - r + 1).toNat < f → (e - r + 1).toNat < f' →
      literalLoop rs lit s f' (r + k) (e + k) = (literalLoop rs lit (s.drop k) f r e).map (·.map (· + k)) := by
  intro f
  induction f with
  | zero => intro f' r e _ h; omega
  | succ f ih =>
    intro f' r e hr h1 h2
    cases f' with
    | zero => omega
    | succ f' =>
      rw [C12.literalLoop_succ, C12.literalLoop_succ, show (r + (k : Int)).toNat = r.toNat + k by omega]
      by_cases hre : r > e
      · rw [if_pos hre, if_pos (by omega)]
        rfl
      · rw [if_neg hre, if_neg (by omega)]
        by_cases hc : C12.Cand rs lit (s.drop k) r.toNat
        · rw [if_pos hc, if_pos ((cand_drop rs lit s k _ hwb hwe).mp hc)]
          rfl
        · rw [if_neg hc, if_neg (mt (cand_drop rs lit s k _ hwb hwe).mpr hc),
            show r + (k : Int) + 1 = (r + 1) + k by omega]
          exact ih f' (r + 1) e (by omega) (by omega) (by omega)

theorem literalLoop_none (rs : RStr) (lit s : Bytes) (f : Nat) (r e : Int) (h : r > e) :
    literalLoop rs lit s (f + 1) r e = some none := by
  rw [literalLoop, if_pos h]

/-- **rstr_find on the rest = rstr_find on the whole line from `k`** -/
theorem rstrFind_shift (re : RStr) (line : Bytes) (k n nd ngrps : Nat) (hk : k ≤ line.length) (hk0 : 0 < k)
    (hcf : ReCF re) (hbeg : ReBegOk re line k) :
    rstrFindFrom re line k n 0 nd ngrps = (rstrFind re (line.drop k) n RE_NOTBOL nd ngrps).map (shiftF k) := by
  unfold rstrFindFrom rstrFind
  unfold ReCF at hcf
  unfold ReBegOk ReNoBeg at hbeg
  cases hrs : re.rs with
  | some r =>
    rw [hrs] at hcf hbeg
    exact find_shift r line k n nd ngrps hk hk0 (codeAtoms_ok hcf hbeg)
  | none =>
    rw [hrs] at hcf
    simp only [List.length_drop]
    have hnb : (RE_NOTBOL &&& RE_NOTBOL != 0) = true := by decide
    have hz : ((0 : Nat) &&& RE_NOTBOL != 0) = false := by decide
    rw [hnb, hz, Bool.and_false, Bool.and_true]
    generalize hlit : re.str.getD [] = lit
    by_cases hlb : re.lbeg = true
    · -- `^lit`: refused on the rest because of `RE_NOTBOL`; on the whole line the only candidate is byte 0 < k
      rw [if_pos hlb, if_pos hlb]
      by_cases he : (line.length : Int) - lit.length - 1 < 0
      · rw [if_pos he]
        rfl
      · rw [if_neg he, literalLoop_none]
        · rfl
        · have : (0 : Int) < k := by omega
          omega
    · rw [if_neg hlb]
      simp only [hlb, Bool.false_eq_true, if_false]
      by_cases heS : ((line.length - k : Nat) : Int) - lit.length - 1 < 0
      · -- nothing fits into the rest
        rw [if_pos heS]
        by_cases he : (line.length : Int) - lit.length - 1 < 0
        · rw [if_pos he]
          rfl
        · rw [if_neg he, literalLoop_none]
          · rfl
          · split <;> omega
      · rw [if_neg heS, if_neg (by omega)]
        have he : (line.length : Int) - lit.length - 1 = (((line.length - k : Nat) : Int) - lit.length - 1) + k := by
          omega
        have hsh := literalLoop_shift re lit line k hcf.1 hcf.2 (line.length - k + 2) (line.length + 2)
          (if re.lend = true then ((line.length - k : Nat) : Int) - lit.length - 1 else 0)
          (((line.length - k : Nat) : Int) - lit.length - 1)
          (by split <;> omega) (by split <;> omega) (by split <;> omega)
        have hb : max (if re.lend = true then (line.length : Int) - lit.length - 1 else 0) (k : Int) =
            (if re.lend = true then ((line.length - k : Nat) : Int) - lit.length - 1 else 0) + k := by
          split <;> omega
        rw [hb, he, hsh]
        cases literalLoop re lit (line.drop k) (line.length - k + 2)
            (if re.lend = true then ((line.length - k : Nat) : Int) - lit.length - 1 else 0)
            (((line.length - k : Nat) : Int) - lit.length - 1) with
        | none => rfl
        | some x =>
          cases x with
          | none => rfl
          | some r =>
            have h1 : shiftI k ((r : Nat) : Int) = ((r + k : Nat) : Int) := by
              unfold shiftI; split <;> omega
            have h2 : shiftI k ((r + lit.length : Nat) : Int) = ((r + k + lit.length : Nat) : Int) := by
              unfold shiftI; split <;> omega
            simp only [Option.map_some, shiftF, List.map_append, List.map_replicate, shiftI_neg1]
            split
            · simp only [List.map_cons, List.map_nil, h1, h2]
            · rfl

end Neatvi.Lemmas.C13b
