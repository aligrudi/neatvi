import NeatviVerif.Lemmas.C13bE
import NeatviVerif.Lemmas.C13Spec
/-!
# C13b, part F: the matcher that `lbuf_search` and `ec_substitute` call, against the whole-line matcher

* `PatCF kw`: the pattern text `kw` makes no word-boundary test — decided on the text: the literal
  fast path has no `\<` / `\>` anchor, or the tree the engine builds for it is `ContextFree`;
* `wholeMatcher re`: the matcher of the whole-line reading — `rstr_find` sees the whole line and
  reports the first match that starts at the given byte or later;
* `rstrFind_rest`: `rstr_find` as both callers use it (the rest from byte `pos`, `RE_NOTBOL` unless `pos = 0`) is `rstr_find` on
  the whole line from `pos`, shifted; parts G and H rest on it;
* `reMatcher_eq_whole`: for such patterns the matcher of `lbuf_search` (suffix + `RE_NOTBOL`) *is*
  the whole-line matcher, at every byte offset of the line;
* the references of C13 (`fwdLine`, `Chain`) do not tell apart two matchers that agree at every offset `≤ s.length`
  (`fwdLine_congr`, `chain_congr_iff`).
-/
namespace Neatvi.Lemmas.C13b
open Neatvi Neatvi.Regex Neatvi.Rset Neatvi.Mot Neatvi.Lemmas.C13

/-- **the pattern text makes no word-boundary test.**  When `rstr_make` takes the pattern as a literal
    (`simple`): it has no `\<` / `\>` anchor.  Otherwise: the tree of the pattern (as `rset_make`
    wraps it, `((kw))`) is `ContextFree`. -/
def PatCF (kw : Bytes) : Bool :=
  match simple kw with
  | some (_, wbeg, wend, _, _) => !wbeg && !wend
  | none =>
    match parse (combined [some kw]) with
    | some (some t) => ContextFree t
    | _ => true

/-- the engine's program for the pattern has no `^` (a literal `^lit` is handled by `RE_NOTBOL` alone) -/
def PatNoBeg (kw : Bytes) : Bool :=
  match simple kw with
  | some _ => true
  | none =>
    match parse (combined [some kw]) with
    | some (some t) => NoBeg t
    | _ => true

theorem reCF_of_pat {kw : Bytes} {flg : Nat} {re : RStr} (h : rstrMake kw flg = some (some re))
    (hp : PatCF kw = true) : ReCF re := by
  unfold PatCF at hp
  unfold ReCF
  obtain ⟨lbeg, wbeg, wend, lend, lit, hs, rfl⟩ | ⟨hs, r, hm, rfl⟩ := C12.rstrMake_some h
  · rw [hs] at hp
    simpa using hp
  · rw [hs] at hp
    apply codeAtoms_regcomp (P := fun a => CFAtom a = true) (C12.make_single hm).1
    intro t ht
    rw [ht] at hp
    exact (contextFree_iff_treeAtoms t).mp hp

theorem reNoBeg_of_pat {kw : Bytes} {flg : Nat} {re : RStr} (h : rstrMake kw flg = some (some re))
    (hp : PatNoBeg kw = true) : ReNoBeg re := by
  unfold PatNoBeg at hp
  unfold ReNoBeg
  obtain ⟨lbeg, wbeg, wend, lend, lit, -, rfl⟩ | ⟨hs, r, hm, rfl⟩ := C12.rstrMake_some h
  · trivial
  · rw [hs] at hp
    apply codeAtoms_regcomp (P := fun a => a.k ≠ AK.beg) (C12.make_single hm).1
    intro t ht
    rw [ht] at hp
    exact (noBeg_iff_treeAtoms t).mp hp

/-- the matcher of the whole-line reading: `rstr_find` sees the whole line `s` and reports the first
    match that starts at byte `off` or later; offsets relative to `off`, as `Matcher` wants them -/
def wholeMatcher (re : RStr) : Matcher := fun s off =>
  match rstrFindFrom re s off 1 0 search.Ex_ND search.Ex_NG with
  | none => none
  | some (res, offs, _) =>
    if res < 0 then some none else some (some ((offs.getD 0 0).toNat - off, (offs.getD 1 0).toNat - off))

theorem shift_getD_toNat (k : Nat) (offs : List Int) (i : Nat) :
    ((offs.map (shiftI k)).getD i 0).toNat - k = (offs.getD i 0).toNat := by
  rw [List.getD_eq_getElem?_getD, List.getD_eq_getElem?_getD, List.getElem?_map]
  cases offs[i]? with
  | none => simp
  | some v =>
    simp only [Option.map_some, Option.getD_some]
    unfold shiftI
    split <;> omega

theorem reBegOk_of_lineNl {re : RStr} {s : Bytes} {off : Nat} (h0 : off ≠ 0) (hbeg : ReNoBeg re ∨ LineNl s) :
    ReBegOk re s off :=
  hbeg.imp_right fun h => h.nlFree (Nat.pos_of_ne_zero h0)

theorem rstrFind_rest (re : RStr) (line : Bytes) (pos n nd ngrps : Nat) (hpos : pos ≤ line.length)
    (hcf : ReCF re) (hbeg : ReNoBeg re ∨ LineNl line) :
    rstrFindFrom re line pos n 0 nd ngrps =
      (rstrFind re (line.drop pos) n (if pos != 0 then RE_NOTBOL else 0) nd ngrps).map (shiftF pos) := by
  by_cases h0 : pos = 0
  · subst h0
    have : shiftF 0 = id := funext fun x => by rw [shiftF, show x.2.1.map (shiftI 0) = x.2.1 from shiftM_zero _]; rfl
    rw [rstrFindFrom_zero, this, Option.map_id]
    rfl
  · rw [if_pos (by simpa using h0)]
    exact rstrFind_shift re line pos n nd ngrps hpos (by omega) hcf (reBegOk_of_lineNl h0 hbeg)

/-- **the matcher of `lbuf_search` is the whole-line matcher** for a pattern without word-boundary
    tests, at every byte offset `off ≤ s.length` -/
theorem reMatcher_eq_whole (re : RStr) (s : Bytes) (off : Nat) (hoff : off ≤ s.length)
    (hcf : ReCF re) (hbeg : ReNoBeg re ∨ LineNl s) :
    reMatcher re s off = wholeMatcher re s off := by
  unfold reMatcher wholeMatcher
  rw [rstrFind_rest re s off 1 _ _ hoff hcf hbeg]
  cases rstrFind re (s.drop off) 1 (if off != 0 then RE_NOTBOL else 0) search.Ex_ND search.Ex_NG with
  | none => rfl
  | some x =>
    obtain ⟨res, offs, c⟩ := x
    simp only [Option.map_some, shiftF]
    split
    · rfl
    · rw [shift_getD_toNat, shift_getD_toNat]

/-! ### the references of C13 do not tell the two matchers apart -/

theorem fwdStart_le {r0 o0 j : Int} {s : Bytes} {b : Nat} (h : fwdStart r0 o0 j s = some b) : b ≤ s.length := by
  unfold fwdStart at h
  split at h
  · exact ucChr_le h
  · injection h with h; omega

theorem fwdLine_congr {m m' : Matcher} {s : Bytes} (h : ∀ off, off ≤ s.length → m s off = m' s off)
    (r0 o0 j : Int) : fwdLine m r0 o0 j s = fwdLine m' r0 o0 j s := by
  unfold fwdLine
  cases hb : fwdStart r0 o0 j s with
  | none => rfl
  | some b => simp only []; rw [h b (fwdStart_le hb)]

theorem chain_congr {m m' : Matcher} {s : Bytes} (h : ∀ off, off ≤ s.length → m s off = m' s off)
    {stop : Nat → Bool} {off : Nat} {l : List (Nat × Nat)} (hoff : off ≤ s.length)
    (hc : Chain m s stop off l) : Chain m' s stop off l := by
  induction hc with
  | nothing hm => exact Chain.nothing (by rw [← h _ hoff]; exact hm)
  | stopped hm hs => exact Chain.stopped (by rw [← h _ hoff]; exact hm) hs
  | final hm hs he => exact Chain.final (by rw [← h _ hoff]; exact hm) hs he
  | more hm hs hl hn _ ih => exact Chain.more (by rw [← h _ hoff]; exact hm) hs hl hn (ih (by omega))

theorem chain_congr_iff {m m' : Matcher} {s : Bytes} (h : ∀ off, off ≤ s.length → m s off = m' s off)
    {stop : Nat → Bool} {off : Nat} {l : List (Nat × Nat)} (hoff : off ≤ s.length) :
    Chain m s stop off l ↔ Chain m' s stop off l :=
  ⟨chain_congr h hoff, chain_congr (fun o ho => (h o ho).symm) hoff⟩

end Neatvi.Lemmas.C13b
