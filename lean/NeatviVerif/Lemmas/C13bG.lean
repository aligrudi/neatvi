import NeatviVerif.Lemmas.C13bF
import NeatviVerif.Props.C13
/-!
# C13b, part G: `lbuf_search` under the whole-line reading

`search_eq_whole`: for a pattern without word-boundary tests, `Mot.search` is the generic scan of
C13 at the *whole-line* matcher.  The characterisations of C13 (`search_forward_first_row`,
`search_backward_last`) follow with `wholeMatcher re` in place of `reMatcher re`.

First the reason: the scan does not tell apart two matchers that agree at every offset `≤ s.length` of every line (`gGo_congr` …
`gSearch_congr`); the same for the references `fwdLine` and `Chain` is at the end of part F.
-/
namespace Neatvi.Lemmas.C13b
open Neatvi Neatvi.Rset Neatvi.Mot Neatvi.Lemmas.C13 Neatvi.Props.C13

theorem gGo_congr {m m' : Matcher} {s : Bytes} (h : ∀ off, off ≤ s.length → m s off = m' s off)
    (dir r0 o0 i : Int) : ∀ (f off : Nat) (best : Option (Int × Int)), off ≤ s.length →
      gGo m dir r0 o0 i s f off best = gGo m' dir r0 o0 i s f off best := by
  intro f
  induction f with
  | zero => intro off best _; rfl
  | succ f ih =>
    intro off best hoff
    rw [gGo, gGo, h off hoff]
    cases m' s off with
    | none => rfl
    | some x =>
      cases x with
      | none => rfl
      | some p =>
        obtain ⟨so, eo⟩ := p
        simp only []
        split
        · rfl
        · split
          · rfl
          · rename_i hc
            have : nextOff off so eo < s.length := by
              simp only [Bool.or_eq_true, decide_eq_true_eq, not_or] at hc
              omega
            exact ih _ _ (by omega)

theorem gLineScan_congr {m m' : Matcher} {s : Bytes} (h : ∀ off, off ≤ s.length → m s off = m' s off)
    (dir r0 o0 i : Int) : gLineScan m dir r0 o0 i s = gLineScan m' dir r0 o0 i s := by
  unfold gLineScan
  split
  · rfl
  · exact gGo_congr h dir r0 o0 i _ _ _ (by omega)

theorem lineAt_mem {ls : Lines} {i : Int} {s : Bytes} (h : lineAt ls i = some s) : s ∈ ls := by
  unfold lineAt at h
  split at h
  · cases h
  · exact List.mem_of_getElem? h

theorem gRows_congr {ls : Lines} {dir : Int} {scan scan' : Int → Bytes → Option (Option (Int × Int))}
    (h : ∀ i s, s ∈ ls → scan i s = scan' i s) : ∀ (f : Nat) (i : Int),
    gRows ls dir scan f i = gRows ls dir scan' f i := by
  intro f
  induction f with
  | zero => intro i; rfl
  | succ f ih =>
    intro i
    rw [gRows, gRows]
    split
    · rfl
    · cases hl : lineAt ls i with
      | none => rfl
      | some s =>
        simp only []
        rw [h i s (lineAt_mem hl)]
        cases scan' i s with
        | none => rfl
        | some x =>
          cases x with
          | none => exact ih _
          | some p => rfl

theorem gSearch_congr {m m' : Matcher} {ls : Lines} (h : ∀ s ∈ ls, ∀ off, off ≤ s.length → m s off = m' s off)
    (dir r0 o0 : Int) : gSearch m ls dir r0 o0 = gSearch m' ls dir r0 o0 := by
  unfold gSearch
  exact gRows_congr (fun i s hs => gLineScan_congr (h s hs) dir r0 o0 i) _ _

/-- **search_eq_whole**: for a pattern without `\<` / `\>` (and without `^`, or on lines whose only
    newline is their last byte) `lbuf_search` is the scan of C13 at the whole-line matcher -/
theorem search_eq_whole {ls : Lines} {kw : Bytes} {icase : Bool} {re : RStr}
    (hre : rstrMake kw (reFlags icase) = some (some re)) (hcf : PatCF kw = true)
    (hbeg : PatNoBeg kw = true ∨ ∀ s ∈ ls, LineNl s) (dir r0 o0 : Int) :
    search ls kw icase dir r0 o0 = gSearch (wholeMatcher re) ls dir r0 o0 := by
  rw [search_of_re dir r0 o0 hre]
  apply gSearch_congr
  intro s hs off hoff
  apply reMatcher_eq_whole re s off hoff (reCF_of_pat hre hcf)
  rcases hbeg with hbeg | hbeg
  · exact Or.inl (reNoBeg_of_pat hre hbeg)
  · exact Or.inr (hbeg s hs)

theorem search_forward_first_row_whole {ls : Lines} {kw : Bytes} {icase : Bool} {re : RStr} {r0 o0 r o len : Int}
    (hre : rstrMake kw (reFlags icase) = some (some re)) (hcf : PatCF kw = true)
    (hbeg : PatNoBeg kw = true ∨ ∀ s ∈ ls, LineNl s) (h0 : 0 ≤ r0) :
    search ls kw icase 1 r0 o0 = some (some (r, o, len)) ↔
      (r0 ≤ r ∧ r < ls.length ∧
        (∀ j s, r0 ≤ j → j < r → lineAt ls j = some s → fwdLine (wholeMatcher re) r0 o0 j s = some none) ∧
        ∃ s, lineAt ls r = some s ∧ fwdLine (wholeMatcher re) r0 o0 r s = some (some (o, len))) := by
  rw [search_eq_whole hre hcf hbeg]
  exact gSearch_fwd_found _ ls h0

theorem search_backward_last_whole {ls : Lines} {kw : Bytes} {icase : Bool} {re : RStr} {r0 o0 r o len : Int}
    (hre : rstrMake kw (reFlags icase) = some (some re)) (hcf : PatCF kw = true)
    (hbeg : PatNoBeg kw = true ∨ ∀ s ∈ ls, LineNl s) :
    search ls kw icase (-1) r0 o0 = some (some (r, o, len)) ↔
      (0 ≤ r ∧ r ≤ r0 ∧ r0 < ls.length ∧
        (∀ j s, r < j → j ≤ r0 → lineAt ls j = some s → Chain (wholeMatcher re) s (stopB r0 o0 j s) 0 []) ∧
        ∃ s l b n, lineAt ls r = some s ∧ Chain (wholeMatcher re) s (stopB r0 o0 r s) 0 l ∧
          l.getLast? = some (b, n) ∧ (o, len) = report s b n) := by
  rw [search_eq_whole hre hcf hbeg]
  exact gSearch_bwd_found _ ls

end Neatvi.Lemmas.C13b
