import NeatviVerif.Lemmas.C13bF
import NeatviVerif.Props.C14
/-!
# C13b, part H: the per-line scan of `:s` under the whole-line reading

`ec_substitute` cuts the line: after each match it goes on with the *rest* of the line and tells the
matcher only "not at the beginning" (`Props.C14.scan` over `rsFind re`).  The whole-line reading keeps
the line and moves an offset: `scanW` over `wholeFind re`, the matcher that sees the whole line and
reports the first match at or after the offset, in absolute offsets.

`scan_eq_whole` / `substLine_whole`: for a pattern without word-boundary tests the two scans cut the
same pieces and produce the same line.
-/
namespace Neatvi.Lemmas.C13b
open Neatvi Neatvi.Rset Neatvi.Ex Neatvi.Props.C14

/-- a matcher that sees the whole line: `find line pos` is the first match that starts at byte `pos`
    or later, as (start, end, group offsets), all absolute -/
abbrev WMatcher := Bytes → Nat → Option (Option (Nat × Nat × List Int))

/-- `rstr_find` as the whole-line reading of `ec_substitute` would call it: on the whole line, from
    byte `pos`.  A start or end offset before `pos` (an unset group) is read as `pos`. -/
def wholeFind (re : RStr) : WMatcher := fun line pos =>
  match rstrFindFrom re line pos 16 0 ND NG with
  | none => none
  | some (res, offs, _) =>
    if res < 0 then some none
    else some (some (max pos (offs.getD 0 0).toNat, max pos (offs.getD 1 0).toNat, offs))

/-- a match on the rest of the line from `pos`, in absolute offsets -/
def liftM (pos : Nat) (x : Nat × Nat × List Int) : Nat × Nat × List Int :=
  (x.1 + pos, x.2.1 + pos, x.2.2.map (shiftI pos))

theorem shift_getD_max (k : Nat) (offs : List Int) (i : Nat) :
    max k ((offs.map (shiftI k)).getD i 0).toNat = (offs.getD i 0).toNat + k := by
  have := shift_getD_toNat k offs i
  omega

/-- **the matcher of `ec_substitute` is the whole-line matcher**, read in absolute offsets -/
theorem wholeFind_eq (re : RStr) (line : Bytes) (pos : Nat) (hpos : pos ≤ line.length)
    (hcf : ReCF re) (hbeg : ReNoBeg re ∨ LineNl line) :
    wholeFind re line pos = (rsFind re (line.drop pos) (pos != 0)).map (·.map (liftM pos)) := by
  unfold wholeFind rsFind
  rw [rstrFind_rest re line pos 16 _ _ hpos hcf hbeg]
  cases rstrFind re (line.drop pos) 16 (if pos != 0 then RE_NOTBOL else 0) ND NG with
  | none => rfl
  | some x =>
    obtain ⟨res, offs, c⟩ := x
    simp only [Option.map_some, shiftF]
    split
    · rfl
    · simp only [Option.map_some, liftM, shift_getD_max]

/-! ### the expansion of the replacement does not depend on the reading -/

theorem grpSo_shift (k : Nat) (offs : List Int) (d : Nat) :
    grpSo (offs.map (shiftI k)) d = shiftI k (grpSo offs d) := shiftM_getD k offs _

theorem grpEo_shift (k : Nat) (offs : List Int) (d : Nat) :
    grpEo (offs.map (shiftI k)) d = shiftI k (grpEo offs d) := shiftM_getD k offs _

theorem grpOk_shift (line : Bytes) (k : Nat) (hk : k ≤ line.length) (offs : List Int) (d : Nat) :
    GrpOk (line.drop k) offs d ↔ GrpOk line (offs.map (shiftI k)) d := by
  unfold GrpOk
  rw [grpSo_shift, grpEo_shift, List.length_drop]
  generalize grpSo offs d = so
  generalize grpEo offs d = eo
  unfold shiftI
  split <;> split <;> omega

theorem grpText_shift (line : Bytes) (k : Nat) (offs : List Int) (d : Nat)
    (h : GrpOk (line.drop k) offs d) :
    grpText (line.drop k) offs d = grpText line (offs.map (shiftI k)) d := by
  unfold grpText
  rw [grpSo_shift, grpEo_shift]
  unfold GrpOk at h
  rw [List.length_drop] at h
  generalize grpSo offs d = so at h ⊢
  generalize grpEo offs d = eo at h ⊢
  by_cases he : so = eo
  · subst he
    simp
  · have h1 : 0 ≤ so ∧ so ≤ eo := by omega
    have e1 : shiftI k so = so + k := by unfold shiftI; rw [if_pos h1.1]
    have e2 : shiftI k eo = eo + k := by unfold shiftI; rw [if_pos (by omega)]
    rw [e1, e2, drop_drop', show (so + (k : Int)).toNat = so.toNat + k by omega,
      show eo + (k : Int) - (so + k) = eo - so by omega]

theorem expandRef_congr {ln ln' : Bytes} {offs offs' : List Int} (rep : Bytes)
    (h : ∀ d ∈ refs rep, grpText ln offs d = grpText ln' offs' d) : expandRef rep ln offs = expandRef rep ln' offs' := by
  fun_induction expandRef rep ln offs with
  | case1 => rfl
  | case2 => rw [expandRef_lone]
  | case3 ln offs d r' hd ih =>
    rw [expandRef_group _ _ _ _ hd, h _ (by rw [refs_group _ _ hd]; exact List.mem_cons_self),
      ih fun d' hd' => h d' (by rw [refs_group _ _ hd]; exact List.mem_cons_of_mem _ hd')]
  | case4 ln offs d r' hd ih =>
    rw [expandRef_esc _ _ _ _ hd, ih fun d' hd' => h d' (by rw [refs_esc _ _ hd]; exact hd')]
  | case5 c r ln offs hc ih =>
    rw [expandRef_other _ _ _ _ hc, ih fun d' hd' => h d' (by rw [refs_other _ _ hc]; exact hd')]

theorem expandOpt_shift (rep line : Bytes) (k : Nat) (hk : k ≤ line.length) (offs : List Int) :
    expandOpt rep (line.drop k) offs = expandOpt rep line (offs.map (shiftI k)) := by
  unfold expandOpt
  by_cases h : ∀ d ∈ refs rep, GrpOk (line.drop k) offs d
  · have h' : ∀ d ∈ refs rep, GrpOk line (offs.map (shiftI k)) d :=
      fun d hd => (grpOk_shift line k hk offs d).mp (h d hd)
    rw [if_pos h, if_pos h', expandRef_congr rep fun d hd => grpText_shift line k offs d (h d hd)]
  · have h' : ¬ ∀ d ∈ refs rep, GrpOk line (offs.map (shiftI k)) d :=
      fun hh => h (fun d hd => (grpOk_shift line k hk offs d).mpr (hh d hd))
    rw [if_neg h, if_neg h']

/-- the reference scan of the whole-line reading: the line stays, the offset `pos` moves; the pieces
    are cut at the absolute offsets the matcher reports.  The first argument is a budget of rounds;
    every round advances `pos`, so `line.length - pos + 1` rounds always suffice (`scan_eq_whole`). -/
def scanW (find : WMatcher) (rep : Bytes) (g : Bool) (line : Bytes) : Nat → Nat → Option (List Piece × Bytes)
  | 0, _ => none
  | f + 1, pos =>
    match find line pos with
    | none => none
    | some none => some ([], line.drop pos)
    | some (some (so, eo, offs)) =>
      match expandOpt rep line offs with
      | none => none
      | some x =>
        let rest := line.drop eo
        -- after an empty match one character is copied, at most what is left of the line
        let l := if eo ≤ so then min (Uc.ucLen (rest.headD 0)) rest.length else 0
        let p : Piece := ⟨(line.take so).drop pos, (line.take eo).drop so, x, rest.take l⟩
        let rest' := line.drop (eo + l)
        if rest' = [] ∨ rest'.headD 0 = 10 ∨ g = false then some ([p], rest')
        else if rest'.length < (line.drop pos).length then
          match scanW find rep g line f (eo + l) with
          | none => none
          | some (ps, r) => some (p :: ps, r)
        else none

/-- reference for `substLine` under the whole-line reading -/
def substRefW (find : WMatcher) (rep : Bytes) (g : Bool) (line : Bytes) : Option (Option Bytes) :=
  match scanW find rep g line (line.length + 1) 0 with
  | none => none
  | some ([], _) => some none
  | some (ps, rest) => some (some (outOf ps rest))

/-- **scan_eq_whole**: the scan of `ec_substitute` on the rest of the line from `pos` cuts the pieces
    the whole-line scan cuts from `pos` -/
theorem scan_eq_whole (re : RStr) (rep : Bytes) (g : Bool) (line : Bytes)
    (hcf : ReCF re) (hbeg : ReNoBeg re ∨ LineNl line) :
    ∀ (n pos : Nat), line.length - pos < n → pos ≤ line.length →
      scan (rsFind re) rep g (line.drop pos) (pos != 0) = scanW (wholeFind re) rep g line n pos := by
  intro n
  induction n with
  | zero => intro pos h; omega
  | succ n ih =>
    intro pos hn hpos
    rw [scan, scanW, wholeFind_eq re line pos hpos hcf hbeg]
    cases rsFind re (line.drop pos) (pos != 0) with
    | none => rfl
    | some y =>
      cases y with
      | none => rfl
      | some m =>
        obtain ⟨so, eo, offs⟩ := m
        simp only [Option.map_some, liftM]
        rw [← expandOpt_shift rep line pos hpos offs]
        cases expandOpt rep (line.drop pos) offs with
        | none => rfl
        | some x =>
          simp only []
          have e1 : (line.drop pos).drop eo = line.drop (eo + pos) := drop_drop' line pos eo
          have e2 : ∀ l, ((line.drop pos).drop eo).drop l = line.drop (eo + pos + l) := by
            intro l; rw [e1, List.drop_drop]
          have e3 : (line.drop pos).take so = (line.take (so + pos)).drop pos := by
            rw [List.take_drop, Nat.add_comm]
          have e4 : ((line.drop pos).take eo).drop so = (line.take (eo + pos)).drop (so + pos) := by
            rw [List.take_drop, List.drop_drop, Nat.add_comm pos eo, Nat.add_comm pos so]
          have e5 : (eo + pos ≤ so + pos) = (eo ≤ so) := by
            apply propext; omega
          simp only [e2, e3, e4, e5]
          rw [e1]
          generalize hl : (if eo ≤ so then
              min (Uc.ucLen ((line.drop (eo + pos)).headD 0)) (line.drop (eo + pos)).length else 0) = l
          split
          · rfl
          · split
            · rename_i h2 hlt
              have hnil : line.drop (eo + pos + l) ≠ [] := fun e => h2 (Or.inl e)
              have hlen : (line.drop (eo + pos + l)).length ≠ 0 :=
                fun e => hnil (List.eq_nil_of_length_eq_zero e)
              simp only [List.length_drop] at hlt hlen
              have hp' : pos < eo + pos + l := by omega
              have hle : eo + pos + l ≤ line.length := by omega
              have := ih (eo + pos + l) (by omega) hle
              have hne : (eo + pos + l != 0) = true := by simp; omega
              rw [hne] at this
              rw [this]
              rfl
            · rfl

/-- **substLine_whole**: on a line without NUL bytes, the per-line loop of `ec_substitute` with a
    pattern without word-boundary tests is the whole-line reference scan -/
theorem substLine_whole (re : RStr) (rep : Bytes) (g : Bool) (line : Bytes) (h0 : ∀ b ∈ line, b ≠ 0)
    (hcf : ReCF re) (hbeg : ReNoBeg re ∨ LineNl line) :
    substLine re rep g line = substRefW (wholeFind re) rep g line := by
  rw [subst_scan_spec re rep g line h0]
  unfold Props.C14.substRef substRefW
  have := scan_eq_whole re rep g line hcf hbeg (line.length + 1) 0 (by omega) (by omega)
  simp only [List.drop_zero, bne_self_eq_false] at this
  rw [this]
  rfl

end Neatvi.Lemmas.C13b
