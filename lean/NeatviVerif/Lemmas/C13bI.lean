import NeatviVerif.Lemmas.C13bB
import NeatviVerif.Drive.ExSpec
import NeatviVerif.Props.C10b
/-!
# C13b, part I: start positions and the first match of the reference semantics, on the rest and on the whole line

* the list `starts` of the start positions the reference tries: on the rest it is the list on the whole line from `k` on
  (`starts_drop`, `starts_fuel`, `starts_split`, `starts_rest`);
* `firstMatchFrom`: the whole-line reference — the first character start at or after `k` that has a
  parse, and its best parse; `firstMatch_shift`: for a `ContextFree` pattern and `k` a character
  start of the line this is `RegexSem.firstMatch` on the rest `line.drop k` under `REG_NOTBOL`, shifted.
* the same for the two reference matchers of the test oracle (`Drive/ExSpec.lean`):
  `matchFromSuffix = matchFrom`;
* the same in the words of `Props.C10b.regexec_first` (`startMarks_shift`, `noParseUntil_shift`);
* the oracle's two reference scans of `:s` (`substRef` with `suffix := true` / `false`) are the same function of the line when
  the matches end on character starts (`substRef_suffix_eq_whole`).
-/
namespace Neatvi.Lemmas.C13b
open Neatvi Neatvi.Regex Neatvi.Spec.RegexSem Neatvi.Lemmas.C10b

/-! ### the list `starts` of the start positions the reference tries: on the rest it is the list on the whole line from `k` on -/

theorem starts_drop (line : Bytes) (k : Nat) : ∀ (f i : Nat),
    (starts (line.drop k) f i).map (· + k) = starts line f (i + k) := by
  intro f
  induction f with
  | zero => intro i; rfl
  | succ f ih =>
    intro i
    simp only [starts, List.length_drop]
    by_cases h : i + k ≥ line.length
    · rw [if_pos h, if_pos (by omega)]; rfl
    · rw [if_neg h, if_neg (by omega), List.map_cons, rxLen_drop, ih]
      congr 2
      omega

theorem starts_fuel (s : Bytes) : ∀ (f f' i : Nat), s.length + 1 - i < f → s.length + 1 - i < f' →
    starts s f i = starts s f' i := by
  intro f
  induction f with
  | zero => intro f' i h; omega
  | succ f ih =>
    intro f' i h1 h2
    cases f' with
    | zero => omega
    | succ f' =>
      simp only [starts]
      split
      · rfl
      · congr 1
        exact ih f' _ (by omega) (by omega)

theorem starts_le (s : Bytes) : ∀ (f i x : Nat), i ≤ s.length → x ∈ starts s f i → x ≤ s.length := by
  intro f
  induction f with
  | zero => intro i x _ h; simp [starts] at h
  | succ f ih =>
    intro i x hi h
    simp only [starts] at h
    split at h
    · simp at h; omega
    · simp only [List.mem_cons] at h
      rcases h with h | h
      · omega
      · have := rxLen_le s i
        exact ih _ _ (by omega) h

theorem starts_ge (s : Bytes) : ∀ (f i x : Nat), x ∈ starts s f i → i ≤ x := by
  intro f
  induction f with
  | zero => intro i x h; simp [starts] at h
  | succ f ih =>
    intro i x h
    simp only [starts] at h
    split at h
    · simp at h; omega
    · simp only [List.mem_cons] at h
      rcases h with h | h
      · omega
      · have := ih _ _ h; omega

theorem starts_split (s : Bytes) (k : Nat) : ∀ (f i : Nat), k ∈ starts s f i →
    ∃ pre f', starts s f i = pre ++ starts s f' k ∧ (∀ x ∈ pre, x < k) ∧ f + i ≤ f' + k := by
  intro f
  induction f with
  | zero => intro i h; simp [starts] at h
  | succ f ih =>
    intro i h
    by_cases hik : k = i
    · subst hik; exact ⟨[], f + 1, rfl, by simp, by omega⟩
    · simp only [starts] at h
      split at h
      · simp at h; exact absurd h hik
      · rename_i hlen
        simp only [List.mem_cons] at h
        rcases h with h | h
        · exact absurd h hik
        · obtain ⟨pre, f', h1, h2, h3⟩ := ih _ h
          have hge := starts_ge s _ _ _ h
          refine ⟨i :: pre, f', ?_, ?_, by omega⟩
          · simp only [starts, if_neg hlen, List.cons_append, h1]
          · intro x hx
            simp only [List.mem_cons] at hx
            rcases hx with hx | hx
            · omega
            · exact h2 x hx

/-- from a character start `k` of the whole line (one of the positions `regexec` tries), the starts
    at or after `k` are exactly the positions tried from `k` on -/
theorem starts_filter_ge (s : Bytes) (k : Nat) (hk : k ∈ starts s (s.length + 2) 0) :
    (starts s (s.length + 2) 0).filter (fun x => decide (x ≥ k)) = starts s (s.length + 2) k := by
  obtain ⟨pre, f', h1, h2, h3⟩ := starts_split s k _ _ hk
  rw [h1, List.filter_append]
  have e1 : pre.filter (fun x => decide (x ≥ k)) = [] := by
    rw [List.filter_eq_nil_iff]
    intro x hx
    have := h2 x hx
    simp; omega
  have e2 : (starts s f' k).filter (fun x => decide (x ≥ k)) = starts s f' k := by
    rw [List.filter_eq_self]
    intro x hx
    have := starts_ge s _ _ _ hx
    simp; omega
  rw [e1, e2, List.nil_append]
  have := starts_le s _ _ _ (Nat.zero_le _) hk
  exact starts_fuel s _ _ _ (by omega) (by omega)

/-- what `firstMatch` and the oracle's matchers do with the parses at one start position -/
def headAt (env : Env) (t : RNode) (nmarks : Nat) (i : Nat) : Option (Nat × R) :=
  match results env t (i, List.replicate nmarks (-1)) with
  | [] => none
  | r :: _ => some (i, r)

/-- the whole-line reference: the first character start of `subj` at or after `k` that has a parse,
    with its best parse (nothing when nothing is left of the subject, as for `firstMatch`) -/
def firstMatchFrom (t : RNode) (subj : Bytes) (flg : Nat) (nmarks : Nat) (k : Nat) : Option (Nat × R) :=
  if (subj.drop k).isEmpty then none else
  ((starts subj (subj.length + 2) 0).filter (fun i => decide (i ≥ k))).findSome? (headAt ⟨subj, flg⟩ t nmarks)

theorem firstMatch_eq (t : RNode) (subj : Bytes) (flg nmarks : Nat) :
    firstMatch t subj flg nmarks =
      if subj.isEmpty then none else (starts subj (subj.length + 2) 0).findSome? (headAt ⟨subj, flg⟩ t nmarks) := rfl

theorem filter_ge_zero (l : List Nat) : l.filter (fun i => decide (i ≥ 0)) = l := by
  rw [List.filter_eq_self]; intro x _; simp

/-- a first match on the rest, read on the whole line -/
def shiftFM (k : Nat) (x : Nat × R) : Nat × R := (x.1 + k, shiftR k x.2)

theorem findSome?_map_opt {α β γ : Type} (g : α → Option β) (h : β → γ) : ∀ (l : List α),
    l.findSome? (fun a => (g a).map h) = (l.findSome? g).map h := by
  intro l
  induction l with
  | nil => rfl
  | cons a l ih =>
    simp only [List.findSome?_cons]
    cases g a with
    | none => simpa using ih
    | some b => rfl

theorem headAt_shift (line : Bytes) (k fw fs : Nat) (hk : k ≤ line.length) (hk0 : 0 < k) (hfl : FlagsRest fw fs)
    (t : RNode) (hcf : ContextFree t = true) (hbeg : BegOk t line k) (nmarks i : Nat) :
    headAt ⟨line, fw⟩ t nmarks (i + k) = (headAt ⟨line.drop k, fs⟩ t nmarks i).map (shiftFM k) := by
  unfold headAt
  have := results_shift line k fw fs hk hk0 hfl t hcf hbeg (i, List.replicate nmarks (-1))
  simp only [shiftR, shiftM_replicate] at this
  rw [this]
  cases results ⟨line.drop k, fs⟩ t (i, List.replicate nmarks (-1)) with
  | nil => rfl
  | cons r rest => rfl

/-- the start positions `regexec` tries on the rest are, shifted by `k`, the character starts of the
    whole line at or after `k` — when `k` itself is a character start of the line -/
theorem starts_rest (line : Bytes) (k : Nat) (hks : k ∈ starts line (line.length + 2) 0) :
    (starts (line.drop k) ((line.drop k).length + 2) 0).map (· + k) =
      (starts line (line.length + 2) 0).filter (fun i => decide (i ≥ k)) := by
  have hk : k ≤ line.length := starts_le line _ _ _ (Nat.zero_le _) hks
  rw [starts_filter_ge line k hks]
  have h1 := starts_drop line k (line.length + 2) 0
  rw [Nat.zero_add] at h1
  rw [← h1, starts_fuel (line.drop k) (line.length + 2) ((line.drop k).length + 2) 0
    (by rw [List.length_drop]; omega) (by omega)]

/-- **firstMatch_shift** (the reference level of `suffix_eq_whole`): for a `ContextFree` pattern and a
    character start `k > 0` of the line, the first match of the rest `line.drop k` under `REG_NOTBOL`
    is the first match of the whole line among the starts at or after `k`, shifted by `k` -/
theorem firstMatch_shift (line : Bytes) (k fw fs : Nat) (hk0 : 0 < k) (hfl : FlagsRest fw fs)
    (hks : k ∈ starts line (line.length + 2) 0)
    (t : RNode) (hcf : ContextFree t = true) (hbeg : BegOk t line k) (nmarks : Nat) :
    firstMatchFrom t line fw nmarks k = (firstMatch t (line.drop k) fs nmarks).map (shiftFM k) := by
  have hk : k ≤ line.length := starts_le line _ _ _ (Nat.zero_le _) hks
  unfold firstMatchFrom
  rw [firstMatch_eq]
  by_cases he : (line.drop k).isEmpty = true
  · rw [if_pos he, if_pos he]; rfl
  · rw [if_neg he, if_neg he, ← starts_rest line k hks, List.findSome?_map, ← findSome?_map_opt]
    congr 1
    funext i
    exact headAt_shift line k fw fs hk hk0 hfl t hcf hbeg nmarks i

open Neatvi.Drive.ExSpec

theorem flagsRest_ref (icase : Bool) : FlagsRest (refFlags icase false) (refFlags icase true) := by
  unfold refFlags
  simp only [Bool.false_eq_true, if_false, if_true, Nat.or_zero]
  exact flagsRest_or _

theorem matchFrom_eq (t : RNode) (line : Bytes) (icase : Bool) (k : Nat) :
    matchFrom t line icase k =
      (((starts line (line.length + 2) 0).filter (fun i => decide (i ≥ k))).findSome?
        (headAt ⟨line, refFlags icase false⟩ t 128)).map (fun x => (x.1, x.2.1, x.2.2)) := by
  unfold matchFrom
  simp only []
  rw [← findSome?_map_opt]
  congr 1
  funext i
  unfold headAt
  cases results ⟨line, refFlags icase false⟩ t (i, List.replicate 128 (-1)) <;> rfl

theorem matchFromSuffix_eq (t : RNode) (line : Bytes) (icase : Bool) (k : Nat) :
    matchFromSuffix t line icase k =
      ((starts (line.drop k) ((line.drop k).length + 2) 0).findSome?
        (headAt ⟨line.drop k, refFlags icase (decide (k > 0))⟩ t 128)).map
          (fun x => (x.1 + k, x.2.1 + k, shiftM k x.2.2)) := by
  unfold matchFromSuffix
  simp only []
  rw [← findSome?_map_opt]
  congr 1
  funext i
  unfold headAt
  cases results ⟨line.drop k, refFlags icase (decide (k > 0))⟩ t (i, List.replicate 128 (-1)) <;> rfl

/-- **the oracle's two matchers agree** on `ContextFree` patterns at character starts of the line:
    the first match of the rest from `k` (told only "not at the beginning of the line") is the first
    match of the whole line at or after `k` -/
theorem matchFromSuffix_eq_matchFrom (t : RNode) (line : Bytes) (icase : Bool) (k : Nat)
    (hks : k ∈ starts line (line.length + 2) 0) (hcf : ContextFree t = true) (hbeg : 0 < k → BegOk t line k) :
    matchFromSuffix t line icase k = matchFrom t line icase k := by
  rw [matchFrom_eq, matchFromSuffix_eq]
  by_cases h0 : k = 0
  · subst h0
    simp only [List.drop_zero, Nat.lt_irrefl, decide_false, filter_ge_zero, Nat.add_zero, shiftM_zero,
      gt_iff_lt]
  · have hk0 : 0 < k := by omega
    have hk : k ≤ line.length := starts_le line _ _ _ (Nat.zero_le _) hks
    rw [decide_eq_true hk0, ← starts_rest line k hks, List.findSome?_map]
    have : (headAt ⟨line, refFlags icase false⟩ t 128 ∘ fun x => x + k) =
        fun i => (headAt ⟨line.drop k, refFlags icase true⟩ t 128 i).map (shiftFM k) := by
      funext i
      exact headAt_shift line k _ _ hk hk0 (flagsRest_ref icase) t hcf (hbeg hk0) 128 i
    rw [this, findSome?_map_opt, Option.map_map]
    congr 1

/-! ### the same in the words of `Props.C10b.regexec_first`: the start marks, and "no parse up to here" -/

open Neatvi.Props.C10 Neatvi.Props.C10b in
theorem startMarks_shift (ngrps s k : Nat) : shiftM k (startMarks ngrps s) = startMarks ngrps (s + k) := by
  unfold startMarks marks0
  rw [shiftM_setMark, shiftM_replicate]

open Neatvi.Props.C10 Neatvi.Props.C10b in
theorem noParseUntil_shift (line : Bytes) (k fw fs : Nat) (hk : k ≤ line.length) (hk0 : 0 < k) (hfl : FlagsRest fw fs)
    (t : RNode) (hcf : ContextFree t = true) (hbeg : BegOk t line k) (ngrps : Nat) {s0 s : Nat}
    (h : NoParseUntil ⟨line.drop k, fs⟩ t ngrps s0 s) : NoParseUntil ⟨line, fw⟩ t ngrps (s0 + k) (s + k) := by
  induction h with
  | here s => exact NoParseUntil.here _
  | @step s1 s2 hnil _ ih =>
    have := results_shift line k fw fs hk hk0 hfl t hcf hbeg (s1, startMarks ngrps s1)
    simp only [shiftR, startMarks_shift] at this
    rw [hnil] at this
    refine NoParseUntil.step this ?_
    show NoParseUntil ⟨line, fw⟩ t ngrps (s1 + k + rxLen line (s1 + k)) (s2 + k)
    have e : s1 + rxLen (line.drop k) s1 + k = s1 + k + rxLen line (s1 + k) := by
      rw [rxLen_drop]; omega
    rw [← e]
    exact ih

/-! ### the oracle's reference scan of `:s`, suffix reading against whole-line reading

`Drive/ExSpec.lean` judges `:s` against `substRef … (suffix := false)` (every match is looked for in the whole line) and names the
cause `match_judged_on_suffix` when the implementation agrees with `substRef … (suffix := true)` instead.  The scan positions are
character starts when the matches end on character starts (`EndsOnStarts`); there the two reference matchers agree
(`matchFromSuffix_eq_matchFrom`). -/

/-- the character starts of the line, as `regexec` steps through them -/
abbrev lineStarts (line : Bytes) : List Nat := starts line (line.length + 2) 0

theorem starts_head (s : Bytes) (f i : Nat) : i ∈ starts s (f + 1) i := by
  simp only [starts]; split <;> simp

theorem starts_next (line : Bytes) (i : Nat) (hi : i ∈ lineStarts line) (hlt : i < line.length) :
    i + max 1 (rxLen line i) ∈ lineStarts line := by
  obtain ⟨pre, f', h1, _, h3⟩ := starts_split line i _ _ hi
  unfold lineStarts
  rw [h1]
  apply List.mem_append_right
  obtain ⟨f'', rfl⟩ : ∃ f'', f' = f'' + 2 := ⟨f' - 2, by omega⟩
  simp only [starts, if_neg (show ¬ i ≥ line.length by omega)]
  exact List.mem_cons_of_mem _ (starts_head line f'' _)

theorem matchFrom_start {t : RNode} {line : Bytes} {icase : Bool} {pos so eo : Nat} {m : Marks}
    (h : matchFrom t line icase pos = some (so, eo, m)) :
    so ∈ lineStarts line ∧ pos ≤ so ∧
      (eo, m) ∈ results ⟨line, refFlags icase false⟩ t (so, List.replicate 128 (-1)) := by
  rw [matchFrom_eq] at h
  cases hf : ((starts line (line.length + 2) 0).filter (fun i => decide (i ≥ pos))).findSome?
      (headAt ⟨line, refFlags icase false⟩ t 128) with
  | none => rw [hf] at h; cases h
  | some x =>
    rw [hf] at h
    obtain ⟨i, hi, hx⟩ := List.exists_of_findSome?_eq_some hf
    have hi' := List.mem_filter.mp hi
    unfold headAt at hx
    split at hx
    · cases hx
    · rename_i r rest hres
      injection hx with hx
      subst hx
      simp only [Option.map_some, Option.some.injEq, Prod.mk.injEq] at h
      obtain ⟨rfl, rfl, rfl⟩ := h
      exact ⟨hi'.1, by simpa using hi'.2, by rw [hres]; exact List.mem_cons_self⟩

/-- every match the whole-line matcher reports from a character start ends on a character start -/
def EndsOnStarts (t : RNode) (line : Bytes) (icase : Bool) : Prop :=
  ∀ pos so eo m, pos ∈ lineStarts line → matchFrom t line icase pos = some (so, eo, m) → eo ∈ lineStarts line

theorem substRef_go_eq (t : RNode) (rep : Bytes) (g icase : Bool) (line : Bytes)
    (hcf : ContextFree t = true) (hbeg : NoBeg t = true ∨ LineNl line) (hends : EndsOnStarts t line icase) :
    ∀ (f pos : Nat) (acc : Bytes) (any : Bool), pos ∈ lineStarts line → (pos = 0 ∨ pos < line.length) →
      substRef.go t rep g icase line true f pos acc any = substRef.go t rep g icase line false f pos acc any := by
  intro f
  induction f with
  | zero => intro pos acc any _ _; rfl
  | succ f ih =>
    intro pos acc any hpos hlt
    rw [substRef.go, substRef.go]
    simp only [if_true, Bool.false_eq_true, if_false]
    have hb : 0 < pos → BegOk t line pos := fun h0 => hbeg.imp_right fun h => h.nlFree h0
    rw [matchFromSuffix_eq_matchFrom t line icase pos hpos hcf hb]
    cases hm : matchFrom t line icase pos with
    | none => rfl
    | some x =>
      obtain ⟨so, eo, marks⟩ := x
      simp only []
      have hso := matchFrom_start hm
      have heo := hends pos so eo marks hpos hm
      by_cases he : (eo == so) = true
      · simp only [he, if_true]
        split
        · rfl
        · rename_i hc
          simp only [Bool.or_eq_true, Bool.not_eq_true', decide_eq_true_eq, beq_iff_eq, not_or] at hc
          have hlt' : eo + max 1 (rxLen line eo) < line.length := by omega
          exact ih _ _ _ (starts_next line eo heo (by omega)) (Or.inr hlt')
      · simp only [he, Bool.false_eq_true, if_false]
        split
        · rfl
        · rename_i hc
          simp only [Bool.or_eq_true, Bool.not_eq_true', decide_eq_true_eq, beq_iff_eq, not_or] at hc
          exact ih _ _ _ heo (Or.inr (by omega))

/-- **substRef_suffix_eq_whole**: the oracle's reference scan of `:s` does not depend on the reading
    (rest of the line + "not at the beginning" against whole line) for a `ContextFree` pattern, a line
    whose only newline is its last byte (or a pattern without `^`), and matches that end on character
    starts -/
theorem substRef_suffix_eq_whole (t : RNode) (rep : Bytes) (g icase : Bool) (line : Bytes)
    (hcf : ContextFree t = true) (hbeg : NoBeg t = true ∨ LineNl line) (hends : EndsOnStarts t line icase) :
    substRef t rep g icase line true = substRef t rep g icase line false := by
  unfold substRef
  exact substRef_go_eq t rep g icase line hcf hbeg hends _ 0 [] false (starts_head line _ 0) (Or.inl rfl)

end Neatvi.Lemmas.C13b
