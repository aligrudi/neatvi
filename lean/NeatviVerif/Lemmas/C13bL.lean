import NeatviVerif.Lemmas.C12Prog
import NeatviVerif.Lemmas.C13bF
import NeatviVerif.Lemmas.C11bParse
/-!
# C13b, part L: a criterion on the pattern text

`patCF_of_no_angle`: a pattern that does not contain the bytes `<` and `>` makes no word-boundary
test (`PatCF`): neither the literal fast path nor the parser can produce `\<` / `\>` without reading
one of these bytes.  The parser is followed with the generic invariant of C11b (`ParseInv`).
-/
namespace Neatvi.Lemmas.C13b
open Neatvi Neatvi.Regex Neatvi.Rset Neatvi.Props.C11b

def NoAngle (p : Bytes) : Prop := 60 ∉ p ∧ 62 ∉ p

instance (p : Bytes) : Decidable (NoAngle p) := by unfold NoAngle; infer_instance

theorem noAngle_drop {p : Bytes} (h : NoAngle p) (k : Nat) : NoAngle (p.drop k) :=
  ⟨fun hm => h.1 (List.mem_of_mem_drop hm), fun hm => h.2 (List.mem_of_mem_drop hm)⟩

theorem noAngle_tail {c : Nat} {r : Bytes} (h : NoAngle (c :: r)) : NoAngle r :=
  ⟨fun hm => h.1 (List.mem_cons_of_mem _ hm), fun hm => h.2 (List.mem_cons_of_mem _ hm)⟩

theorem mem_of_headD {l : Bytes} {c : Nat} (h : (l.headD 0 == c) = true) (hc : c ≠ 0) : c ∈ l := by
  cases l with
  | nil => simp at h; omega
  | cons a l => simp at h; subst h; exact List.mem_cons_self

theorem mem_of_getD {l : Bytes} {i c : Nat} (h : (l.getD i 0 == c) = true) (hc : c ≠ 0) : c ∈ l := by
  rw [List.getD_eq_getElem?_getD] at h
  cases hi : l[i]? with
  | none => rw [hi] at h; simp at h; omega
  | some v =>
    rw [hi] at h; simp at h; subst h
    exact List.mem_of_getElem? hi

theorem ratomRead_noAngle (p : Bytes) (a : Atom) (rest : Bytes) (hp : NoAngle p)
    (h : ratomRead p = some (a, rest)) : CFAtom a = true ∧ NoAngle rest := by
  have chr : ∀ q, NoAngle q →
      (litLoop q (q.length + 2) 0).map (fun n => ((⟨AK.chr, q.take n⟩ : Atom), q.drop n)) = some (a, rest) →
      CFAtom a = true ∧ NoAngle rest := by
    intro q hq hm
    obtain ⟨n, -, hn⟩ := Option.map_eq_some_iff.mp hm
    cases hn
    exact ⟨rfl, noAngle_drop hq n⟩
  cases p with
  | nil => exact chr _ hp h
  | cons c r =>
    have hr := noAngle_tail hp
    rw [ratomRead] at h
    -- `split at h` is slow on this term; the tests are taken one by one
    by_cases h1 : (c == 46) = true
    · rw [if_pos h1] at h; cases h; exact ⟨rfl, hr⟩
    rw [if_neg h1] at h
    by_cases h2 : (c == 94) = true
    · rw [if_pos h2] at h; cases h; exact ⟨rfl, hr⟩
    rw [if_neg h2] at h
    by_cases h3 : (c == 36) = true
    · rw [if_pos h3] at h; cases h; exact ⟨rfl, hr⟩
    rw [if_neg h3] at h
    by_cases h4 : (c == 91) = true
    · rw [if_pos h4] at h; cases h; exact ⟨rfl, noAngle_drop hp _⟩
    rw [if_neg h4] at h
    by_cases h5 : (c == 92) = true
    · rw [if_pos h5] at h
      by_cases h60 : (r.headD 0 == 60) = true
      · exact absurd (mem_of_headD h60 (by decide)) hr.1
      rw [if_neg h60] at h
      by_cases h62 : (r.headD 0 == 62) = true
      · exact absurd (mem_of_headD h62 (by decide)) hr.2
      rw [if_neg h62] at h
      exact chr _ hr h
    · rw [if_neg h5] at h
      exact chr _ hp h

theorem parseInv_noAngle : ParseInv NoAngle (fun a => CFAtom a = true) where
  ascii := fun _ hp _ => noAngle_drop hp 1
  brace := fun _ hp _ k => noAngle_drop hp k
  atom := fun p a rest hp h => ratomRead_noAngle p a rest hp h

theorem parse_cf_of_noAngle {p : Bytes} {t : RNode} (hp : NoAngle p) (h : parse p = some (some t)) :
    ContextFree t = true :=
  (contextFree_iff_treeAtoms t).mpr ((treeAtoms_iff_allAtoms _ t).mpr (parse_inv parseInv_noAngle hp h))

/-- **a pattern without the characters `<` and `>` makes no word-boundary test** -/
theorem patCF_of_no_angle (kw : Bytes) (h : NoAngle kw) : PatCF kw = true := by
  unfold PatCF
  split
  · rename_i lbeg wbeg wend lend lit hs
    simp only [simple, Option.ite_none_right_eq_some, Option.some.injEq, Prod.mk.injEq] at hs
    obtain ⟨-, -, hwb, hwe, -, -⟩ := hs
    have hre1 : NoAngle (if (kw.headD 0 == 94) = true then kw.drop 1 else kw) := by
      split
      · exact noAngle_drop h 1
      · exact h
    generalize (if (kw.headD 0 == 94) = true then kw.drop 1 else kw) = re1 at hre1 hwb hwe
    have hwb' : wbeg = false := by
      cases wbeg with
      | false => rfl
      | true =>
        simp only [Bool.and_eq_true] at hwb
        exact absurd (mem_of_getD hwb.2 (by decide)) hre1.1
    subst hwb'
    rw [hwb] at hwe
    simp only [Bool.false_eq_true, if_false] at hwe
    have hre3 : NoAngle (re1.drop (re1.takeWhile (fun c => !isStop c)).length) := noAngle_drop hre1 _
    have hwe' : wend = false := by
      cases wend with
      | false => rfl
      | true =>
        simp only [Bool.and_eq_true] at hwe
        exact absurd (mem_of_getD hwe.2 (by decide)) hre3.2
    subst hwe'
    rfl
  · split
    · rename_i t ht
      apply parse_cf_of_noAngle _ ht
      rw [C12.combined_one]
      unfold NoAngle
      simp only [List.mem_append, List.mem_cons, List.not_mem_nil, or_false, not_or]
      exact ⟨⟨⟨by decide, h.1⟩, by decide⟩, ⟨⟨by decide, h.2⟩, by decide⟩⟩
    · rfl

end Neatvi.Lemmas.C13b
