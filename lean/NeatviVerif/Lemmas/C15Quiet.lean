import NeatviVerif.Lemmas.C06bProgress
import NeatviVerif.Lemmas.Basics
import NeatviVerif.Props.C14
import NeatviVerif.Lemmas.C20Dispatch
import NeatviVerif.Lemmas.C05dVisit
import NeatviVerif.Lemmas.ExLeaf
/-!
# C15 lemmas: quiet command lines and the stages of `:g`

A command line is *quiet* when it runs none of `:@`/`:ra`, `:e`, `:!`, `:w`, `:q`, `:b` (`quietLine`, also inside the
command lists of nested `:g`s).  `ec_glob` is cut into its stages (`globPrep`, `globMark`, the loop, `globSweep`:
`ecGlob_eq`; `ecGlob_cases`: by the ways it returns), a round of the loop and `lbuf_rd` are described by how they return
(`globStep_cases`, which forgets the line and the match that `C05d.globStep_inv` keeps; `C06.rd_cases` in `Lemmas/C06Lbuf.lean`).
What a quiet command list keeps is in `Lemmas/C15Stable.lean`.
Everything here is declared in `namespace Neatvi.Props.C15`.
-/
namespace Neatvi.Props.C15
open Neatvi Neatvi.Lbuf Neatvi.Ex Neatvi.Rset Neatvi.Lemmas.ExFrame Neatvi.Lemmas.Hist Neatvi.Props.C01

theorem pathExpand_bufs {ed ed' : Ed} {src : Bytes} {sp : Bool} {r : Option Bytes}
    (h : pathExpand ed src sp = some (r, ed')) : ed'.bufs = ed.bufs :=
  congrArg (·.bufs) (Lemmas.ExStep.pathExpand_core h)

theorem setOpt_bufs (ed : Ed) (v : String) (val : Int) : (setOpt ed v val).bufs = ed.bufs :=
  congrArg (·.bufs) (Lemmas.ExStep.setOpt_core ed v val)

theorem exTxt_bufs (ed : Ed) (src ex : Bytes) : (exTxt ed src ex).2.bufs = ed.bufs :=
  congrArg (·.bufs) (Lemmas.ExStep.exTxt_core ed src ex)

theorem foldl_print_bufs (b : Int) (l : List Nat) (ed : Ed) :
    (l.foldl (fun (ed : Ed) (k : Nat) => match ed.line (b + (k : Int)) with | some l => ed.print l | none => ed) ed).bufs
      = ed.bufs :=
  congrArg (·.bufs) (Lemmas.ExStep.foldl_print_core b l ed)

/-- the handlers that may bump a sequence counter or switch buffers: `:@`/`:ra`, `:e`, `:!`, `:w`, `:q`, `:b` -/
def noisy (h : String) : Bool :=
  h == "ec_at" || h == "ec_edit" || h == "ec_exec" || h == "ec_write" || h == "ec_quit" || h == "ec_buffer"

/-- the prologue of `ec_glob`: the pattern is remembered -/
def globPrep (ed : Ed) (arg : Bytes) : Ed :=
  match (reRead arg).1 with
  | some p => if !p.isEmpty then ed.kwdSet (some p) 1 else ed
  | none => ed

/-- one level deeper, the lines `b+1 .. e-1` marked with bit `dep` -/
def globMark (ed : Ed) (b e : Int) (dep : Nat) : Ed :=
  (List.range (e - (b + 1)).toNat).foldl (fun (ed : Ed) k =>
    match ed.lb with | some lb => ed.setLb (globSet lb (b.toNat + 1 + k) dep) | none => ed) { ed with xgdep := dep }

/-- the final sweep: bit `dep` is cleared everywhere -/
def globSweep (ed : Ed) (dep : Nat) : Ed :=
  match ed.lb with
  | some lb => ed.setLb ((List.range lb.lines.length).foldl (fun lb k => (globGet lb k dep).2) lb)
  | none => ed

/-- the step budget of the scan -/
def globBudget (ed : Ed) : Nat := 4 * (ed.len.toNat + 4) * (ed.len.toNat + 4) + 64

/-- `ec_glob` in terms of the pieces above -/
theorem ecGlob_eq (f : Nat) (ed : Ed) (loc cmd arg : Bytes) :
    ecGlob (f + 1) ed loc cmd arg =
      if ed.xgdep ≥ 7 then some ((1 : Int), ed.show (strOf "global commands nested too deep")) else
      match exRegion ed (if loc.isEmpty && ed.xgdep == 0 then [37] else loc) with
      | none => none
      | some ((rc, b, e), ed) =>
        if rc != 0 then some (1, ed) else
        if (globPrep ed arg).xkwddir == 0 then some (1, globPrep ed arg) else
        match (globPrep ed arg).mkRe (globPrep ed arg).xkwd with
        | none => none
        | some none => some (1, globPrep ed arg)
        | some (some re) =>
          match ecGlob.scan f (hasBang cmd || cmd.headD 0 == 118) (reRead arg).2 re ((globPrep ed arg).xgdep + 1)
              (globBudget (globMark (globPrep ed arg) b e ((globPrep ed arg).xgdep + 1)))
              (globMark (globPrep ed arg) b e ((globPrep ed arg).xgdep + 1)) b with
          | none => none
          | some ed2 =>
            some (0, { globSweep ed2 ((globPrep ed arg).xgdep + 1) with xgdep := (globPrep ed arg).xgdep + 1 - 1 }) := by
  rw [ecGlob]
  rfl

theorem ecGlob_cases {f : Nat} {ed ed' : Ed} {loc cmd arg : Bytes} {r : Int}
    (h : ecGlob (f + 1) ed loc cmd arg = some (r, ed')) :
    (ed.xgdep ≥ 7 ∧ r = 1 ∧ ed' = ed.show (strOf "global commands nested too deep")) ∨
    (¬ ed.xgdep ≥ 7 ∧ ∃ rc b e ed1,
      exRegion ed (if loc.isEmpty && ed.xgdep == 0 then [37] else loc) = some ((rc, b, e), ed1) ∧
      ((r = 1 ∧ (ed' = ed1 ∨ ed' = globPrep ed1 arg)) ∨
       ∃ re ed2, (rc != 0) = false ∧ ((globPrep ed1 arg).xkwddir == 0) = false ∧
        (globPrep ed1 arg).mkRe (globPrep ed1 arg).xkwd = some (some re) ∧
        ecGlob.scan f (hasBang cmd || cmd.headD 0 == 118) (reRead arg).2 re ((globPrep ed1 arg).xgdep + 1)
          (globBudget (globMark (globPrep ed1 arg) b e ((globPrep ed1 arg).xgdep + 1)))
          (globMark (globPrep ed1 arg) b e ((globPrep ed1 arg).xgdep + 1)) b = some ed2 ∧
        r = 0 ∧ ed' = { globSweep ed2 ((globPrep ed1 arg).xgdep + 1) with xgdep := (globPrep ed1 arg).xgdep + 1 - 1 })) := by
  rw [ecGlob_eq] at h
  rcases Basics.ite_eq_cases h with ⟨hd, h⟩ | ⟨hd, h⟩
  · cases h; exact .inl ⟨hd, rfl, rfl⟩
  refine .inr ⟨hd, ?_⟩
  split at h
  · cases h
  · rename_i rc b e ed1 hr
    refine ⟨rc, b, e, ed1, hr, ?_⟩
    rcases Basics.ite_eq_cases h with ⟨_, h⟩ | ⟨hrc, h⟩
    · cases h; exact .inl ⟨rfl, .inl rfl⟩
    rcases Basics.ite_eq_cases h with ⟨_, h⟩ | ⟨hkw, h⟩
    · cases h; exact .inl ⟨rfl, .inr rfl⟩
    split at h
    · cases h
    · cases h; exact .inl ⟨rfl, .inr rfl⟩
    · rename_i re hre
      split at h
      · cases h
      · rename_i ed2 hscan
        cases h
        exact .inr ⟨re, ed2, by simpa using hrc, by simpa using hkw, hre, hscan, rfl, rfl⟩

theorem globPrep_addrOnly (ed : Ed) (arg : Bytes) : Lemmas.C06.AddrOnly ed (globPrep ed arg) :=
  Lemmas.C06.kw_addrOnly ed (reRead arg).1 1

theorem globPrep_core (ed : Ed) (arg : Bytes) : Lemmas.ExStep.core (globPrep ed arg) = Lemmas.ExStep.core ed :=
  (globPrep_addrOnly ed arg).core

theorem globPrep_bufs (ed : Ed) (arg : Bytes) : (globPrep ed arg).bufs = ed.bufs :=
  congrArg (·.bufs) (globPrep_core ed arg)

/-- a handler is quiet: not one of the noisy ones, and if it is `:g`, its command list is accepted by `body` -/
def quietH (body : Bytes → Bool) (h : String) (arg : Bytes) : Bool :=
  !noisy h && (h != "ec_glob" || body (reRead arg).2)

/-- the commands `ex_exec` will dispatch on a line (the split of a line into commands does not depend on
    the editor state) are all quiet -/
def quietCmds (body : Bytes → Bool) : Nat → Bytes → Bool
  | 0, _ => true
  | g + 1, ln =>
    if ln.isEmpty then true else
    let (_, ln) := exLoc ln
    let (cmd, ln) := exCmd ln
    let idx := exIdx cmd
    let abbr := match idx with | some (a, _) => a | none => strOf "unknown"
    let (arg, ln) := exArg ln abbr
    let ln := (exTxt {} ln abbr).1.2
    match idx with
    | none => quietCmds body g ln
    | some (_, h) => quietH body h arg && quietCmds body g ln

/-- a quiet line, with `:g` nested at most `d` deep -/
def quietLine : Nat → Bytes → Bool
  | 0, ln => quietCmds (fun _ => false) (ln.length + 1) ln
  | d + 1, ln => quietCmds (quietLine d) (ln.length + 1) ln

theorem exTxt_rest (ed : Ed) (src ex : Bytes) : (exTxt ed src ex).1.2 = (exTxt {} src ex).1.2 :=
  Lemmas.C06b.exTxt_rest_indep ed {} src ex

theorem quietH_cases {body : Bytes → Bool} {h : String} {arg : Bytes} (hq : quietH body h arg = true) :
    noisy h = false ∧ (h = "ec_glob" → body (reRead arg).2 = true) := by
  unfold quietH at hq
  simp only [Bool.and_eq_true, Bool.not_eq_true', Bool.or_eq_true, bne_iff_ne, ne_eq] at hq
  refine ⟨hq.1, fun he => ?_⟩
  rcases hq.2 with h1 | h1
  · exact absurd he h1
  · exact h1

theorem globStep_cases {f : Nat} {neg : Bool} {s : Bytes} {re : RStr} {ed ed2 : Ed} {i i2 : Int} {stop : Bool}
    (h : Lemmas.C05d.globStep f neg s re ed i = some (stop, ed2, i2)) :
    0 ≤ i ∧ ((stop = false ∧ ed2 = ed ∧ i2 = i) ∨
      ∃ r, exExec f { ed with xrow := i } s = some (r, ed2) ∧
        ((stop = true ∧ i2 = i) ∨ (stop = false ∧ i2 = max 0 (min i ed2.xrow)))) := by
  obtain ⟨ln, res, x, hln, _, h⟩ := Lemmas.C05d.globStep_inv h
  have h0 : 0 ≤ i := by
    unfold Ed.line at hln
    split at hln
    · cases hln
    · omega
  refine ⟨h0, ?_⟩
  rcases h with ⟨_, a, b, c⟩ | ⟨_, r, hx, hc⟩
  · exact .inl ⟨a, b, c⟩
  · exact .inr ⟨r, hx, hc.imp id (fun h => ⟨h.1, h.2.2⟩)⟩

end Neatvi.Props.C15
