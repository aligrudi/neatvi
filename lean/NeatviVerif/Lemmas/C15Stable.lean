import NeatviVerif.Lemmas.ExStepGlob
/-!
# C15 lemmas: what a quiet command list keeps

`StableAt K P Q`: a predicate `P` on editor states that depends on the buffer table only, whose content about the
current line buffer (`Q`) is kept by `lbuf_edit`, `lbuf_undo`, `lbuf_redo`, `lbuf_mark`, and by `lbuf_globset` /
`lbuf_globget` for the depths in `K`; that is, `P` is kept along the steps of which the quiet handlers are made
(`StableAt.ofStep`, over `QStepAt K` of Lemmas/ExStep.lean) and of which the quiet lines are made (`StableAt.ofGStep`, over
`GStepAt K` of Lemmas/ExStepGlob.lean, where `Guard K G` is).  So a quiet command list started in a state with `G`
keeps every such `P` (`exExec_stable`), and so does a `:g` with a quiet command list (`GStepAt.ecGlob`).
Everything here is declared in `namespace Neatvi.Props.C15`.

Instances: the undo records and the sequence counter (`Lemmas/C15bUndo`, `Props/C15`: every depth is in `K`), the marks
of the enclosing `:g`s (`Lemmas/C15bRun`: `K` is the depths above theirs).
-/
namespace Neatvi.Props.C15
open Neatvi Neatvi.Lbuf Neatvi.Ex Neatvi.Rset Neatvi.Lemmas.ExFrame Neatvi.Lemmas.Hist Neatvi.Props.C01
open Neatvi.Lemmas.ExStep (LbStepAt QStepAt GStepAt)

structure StableAt (K : Nat → Prop) (P : Ed → Prop) (Q : Lb → Prop) : Prop where
  to : ∀ {ed ed'}, P ed → ed'.bufs = ed.bufs → P ed'
  getLb : ∀ {ed lb}, P ed → ed.lb = some lb → Q lb
  setLb : ∀ {ed lb}, P ed → Q lb → P (ed.setLb lb)
  edit : ∀ {lb lb' buf b e}, Q lb → Lbuf.edit lb buf b e = some lb' → Q lb'
  undo : ∀ {lb lb' rc}, Q lb → Lbuf.undo lb = some (rc, lb') → Q lb'
  redo : ∀ {lb lb' rc}, Q lb → Lbuf.redo lb = some (rc, lb') → Q lb'
  setMark : ∀ {lb} c p o, Q lb → Q (Lbuf.setMark lb c p o)
  globSet : ∀ {lb} p k, K k → Q lb → Q (Lbuf.globSet lb p k)
  globGet : ∀ {lb} p k, K k → Q lb → Q (Lbuf.globGet lb p k).2

variable {K : Nat → Prop} {G P : Ed → Prop} {Q : Lb → Prop}

theorem StableAt.updLb (S : StableAt K P Q) {ed : Ed} (F : Lb → Lb) (hF : ∀ lb, Q lb → Q (F lb)) (h : P ed) :
    P (match ed.lb with | some lb => ed.setLb (F lb) | none => ed) := by
  cases hl : ed.lb with
  | none => exact h
  | some lb => exact S.setLb h (hF lb (S.getLb h hl))

/-- `Q` holds of the current line buffer -/
def OnLb (Q : Lb → Prop) (ed : Ed) : Prop := ∃ lb, ed.lb = some lb ∧ Q lb

theorem StableAt.onLb {K : Nat → Prop} {Q : Lb → Prop}
    (edit : ∀ {lb lb' buf b e}, Q lb → Lbuf.edit lb buf b e = some lb' → Q lb')
    (undo : ∀ {lb lb' rc}, Q lb → Lbuf.undo lb = some (rc, lb') → Q lb')
    (redo : ∀ {lb lb' rc}, Q lb → Lbuf.redo lb = some (rc, lb') → Q lb')
    (setMark : ∀ {lb} c p o, Q lb → Q (Lbuf.setMark lb c p o))
    (globSet : ∀ {lb} p k, K k → Q lb → Q (Lbuf.globSet lb p k))
    (globGet : ∀ {lb} p k, K k → Q lb → Q (Lbuf.globGet lb p k).2) : StableAt K (OnLb Q) Q where
  to := by
    intro ed ed' ⟨lb, hl, hc⟩ hb
    exact ⟨lb, by rw [lb_of_bufs hb]; exact hl, hc⟩
  getLb := by
    intro ed lb ⟨lb1, hl, hc⟩ hl'
    rw [hl] at hl'; cases hl'; exact hc
  setLb := by
    intro ed lb ⟨lb1, hl, _⟩ hq
    exact ⟨lb, by rw [setLb_lb, hl]; rfl, hq⟩
  edit := edit
  undo := undo
  redo := redo
  setMark := setMark
  globSet := globSet
  globGet := globGet

open Neatvi.Lemmas.C20 Neatvi.Lemmas.C06

theorem StableAt.lbStep (S : StableAt K P Q) {lb lb' : Lb} (hs : LbStepAt K lb lb') (h : Q lb) : Q lb' := by
  induction hs with
  | refl => exact h
  | edit _ _ _ _ he ih => exact S.edit ih he
  | undo _ hu ih => exact S.undo ih hu
  | redo _ hu ih => exact S.redo ih hu
  | setMark c p o _ ih => exact S.setMark c p o ih
  | globSet p k hk _ ih => exact S.globSet p k hk ih
  | globGet p k hk _ ih => exact S.globGet p k hk ih

theorem StableAt.ofStep (S : StableAt K P Q) {ed ed' : Ed} (hs : QStepAt K ed ed') : P ed → P ed' := by
  induction hs with
  | same e => exact fun h => S.to h (congrArg (·.bufs) e)
  | setLb hl hs => exact fun h => S.setLb h (S.lbStep hs (S.getLb h hl))
  | trans _ _ ih1 ih2 => exact fun h => ih2 (ih1 h)

theorem StableAt.ofGStep (S : StableAt K P Q) {ed ed' : Ed} (hs : GStepAt K ed ed') : P ed → P ed' := by
  induction hs with
  | quiet hq => exact S.ofStep hq
  | trans _ _ ih1 ih2 => exact fun h => ih2 (ih1 h)
  | @globBracket e0 _ b e hk _ ih =>
    intro h
    have e4 := ih (S.ofStep (Lemmas.ExStep.globMark_step hk e0 b e) (S.to h (by rfl)))
    exact S.to (S.ofStep (Lemmas.ExStep.globSweep_step hk _) e4) (by rfl)

/-- running line `s` with fuel `f` from a state with `G` keeps `P` -/
def LineKeeps (G P : Ed → Prop) (f : Nat) (s : Bytes) : Prop :=
  ∀ ed r ed', G ed → P ed → exExec f ed s = some (r, ed') → P ed'

theorem exExec_stable (S : StableAt K P Q) (W : Guard K G) (f d : Nat) (ln : Bytes) (hq : quietLine d ln = true) :
    LineKeeps G P f ln :=
  fun ed _ _ hG hi h => S.ofGStep (GStepAt.exExec W f d ln hq ed _ _ hG h) hi

end Neatvi.Props.C15
