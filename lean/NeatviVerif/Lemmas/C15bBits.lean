import NeatviVerif.Props.C15
/-!
# C15b lemmas, part 1: the marks of the other depths

`lbuf_globset(lb, pos, dep)` is `ln_glob[pos] |= 1 << dep`, `lbuf_globget(lb, pos, dep)` reads bit `dep` and clears
it with `ln_glob[pos] &= ~(1 << dep)`.  A nested `:g` works on bit `xgdep + 1`; here: bit `k` of every entry, for every
`k` other than `dep`, is what it was.

`ln_glob` is an array of `char`; the model keeps the entries as natural numbers, sets a bit with `|||` (no
truncation) and clears it with `&&& (255 ^^^ (1 <<< dep))`.  So

* `globSet` leaves every other bit alone for every `dep` whatsoever;
* `globGet` leaves the bits `k < 8` other than `dep` alone (and all other bits if the entries are bytes, which they are
  as long as no `globSet` with `dep ≥ 8` happened);
* for `dep ≥ 8` (`Props/C15b.beyond_depth_7_set`, `globGet_beyond`): `globSet` makes the entry `≥ 256` (in C the assignment to a
  `char` drops the bit: no mark at all) and `globGet` reports the bit without clearing it (in C it reports 0).
  Without a bound on `xgdep` an eighth nested `:g` works on the first line of its range only, and `1 << xgdep` is
  undefined from 31 on; so `ec_glob` returns 1 with "global commands nested too deep" when `xgdep >= 7`, and
  `Lemmas/C15bSweep.marks_depth_le_7` says that the two functions are only called with `dep ≤ 7`: the lemmas for
  `dep ≥ 8` describe calls that do not happen and record what the bound is for.
-/
namespace Neatvi.Lemmas.C15b
open Neatvi Neatvi.Lbuf Neatvi.Props.C15

theorem globSet_entry (lb : Lb) (pos dep j : Nat) :
    (globSet lb pos dep).glob.getD j 0 =
      if j = pos ∧ pos < lb.glob.length then lb.glob.getD pos 0 ||| (1 <<< dep) else lb.glob.getD j 0 := by
  unfold globSet
  simp only []
  by_cases hp : pos < lb.glob.length
  · rw [getD_set _ _ _ _ (Or.inl hp)]
    by_cases hj : j = pos
    · subst hj; rw [if_pos rfl, if_pos ⟨rfl, hp⟩]
    · rw [if_neg hj, if_neg (fun h => hj h.1)]
  · rw [List.set_eq_of_length_le (by omega), if_neg (fun h => hp h.2)]

/-- **globSet_other_depths**: `lbuf_globset(lb, pos, d)` changes no bit `k ≠ d` of any entry `j` (whatever `pos` and `d`
    are: also `pos` beyond the table, also `d ≥ 8`) -/
theorem globSet_other_depths (lb : Lb) (pos d j k : Nat) (hk : k ≠ d) :
    ((globSet lb pos d).glob.getD j 0).testBit k = (lb.glob.getD j 0).testBit k := by
  rw [globSet_entry]
  split
  · next h =>
    rw [h.1, set_testBit]
    simp [hk]
  · rfl

/-- **globGet_other_depths** (the bits of a `char`): `lbuf_globget(lb, pos, d)` changes no bit `k ≠ d`, `k < 8`, of any
    entry `j`, whatever `pos` and `d` are -/
theorem globGet_other_depths (lb : Lb) (pos d j k : Nat) (hk : k ≠ d) (h8 : k < 8) :
    ((globGet lb pos d).2.glob.getD j 0).testBit k = (lb.glob.getD j 0).testBit k := by
  rw [globGet_entry]
  split
  · next h =>
    rw [h, clr_testBit_low _ _ _ h8]
    simp [hk]
  · rfl

theorem globGet_value_other_depths (lb lb2 : Lb) (pos d : Nat)
    (h : (lb2.glob.getD pos 0).testBit d = (lb.glob.getD pos 0).testBit d) :
    (globGet lb2 pos d).1 = (globGet lb pos d).1 := by
  rw [globGet_fst, globGet_fst, h]

/-- **beyond depth 7, reading**: `lbuf_globget` with `d ≥ 8` does not clear the bit it reports (the mask
    `255 ^^^ (1 <<< d)` keeps bit `d`), so it reports the same mark again and again -/
theorem globGet_beyond (lb : Lb) (pos d : Nat) (hd : 8 ≤ d) :
    ((globGet lb pos d).2.glob.getD pos 0).testBit d = (lb.glob.getD pos 0).testBit d ∧
    (globGet (globGet lb pos d).2 pos d).1 = (globGet lb pos d).1 := by
  have h1 : ((globGet lb pos d).2.glob.getD pos 0).testBit d = (lb.glob.getD pos 0).testBit d := by
    rw [globGet_entry, if_pos rfl]
    unfold clr
    rw [Nat.testBit_and, Nat.testBit_xor, Nat.one_shiftLeft, Nat.testBit_two_pow_self,
      show (255 : Nat) = 2 ^ 8 - 1 by rfl, Nat.testBit_two_pow_sub_one]
    have : ¬ d < 8 := by omega
    simp [this]
  exact ⟨h1, globGet_value_other_depths _ _ _ _ h1⟩

/-- the seeded regression (`=` for `|=` in `lbuf_globset`): assigning `1 << 2` to an entry that carries the mark of
    depth 1 loses that mark, the model's `|||` keeps it -/
example : ((1 <<< 2 : Nat)).testBit 1 = false ∧
    ((globSet { lines := [[10]], glob := [2] } 0 2).glob.getD 0 0).testBit 1 = true := by decide

/-- marking line 1 for depth 2 and asking for depth 2 on line 1 leaves the depth-1 marks `[2, 2, 0]` of a table alone -/
example : (globGet (globSet { lines := [[10], [10], [10]], glob := [2, 2, 0] } 1 2) 1 2).2.glob = [2, 2, 0] := by decide

end Neatvi.Lemmas.C15b
