import NeatviVerif.Lemmas.C15bBits
/-!
# C15b lemmas, part 3: the marks travel with their lines — slot maps

`lbuf_replace` moves `ln_glob[]` with `ln[]` (`Props/C15.glob_bits_travel`).  To say the same about a whole command
list — any number of edits, undo, redo, nested `:g` — the origin of every slot of the table is recorded in a *slot
map*: for a slot `j` of the table afterwards, `sm j` is

* `none`: the slot holds a line that was inserted (it carries no mark of the depths in question);
* `some (i, true)`: the slot is slot `i` of the table before, with the same text;
* `some (i, false)`: the slot is slot `i` of the table before, its text was replaced in place (`:s`, the first lines of
  `:c`): `lbuf_replace` keeps the marks of the first `min(n_ins, n_del)` replaced slots.

`CarryW S lb lb' sm`: `sm` is strictly increasing on its domain (lines keep their order), stays inside the old table,
and bit `k` of `ln_glob[j]` afterwards is bit `k` of `ln_glob[i]` before, for every depth `k` in `S`.  Slots of the old
table outside the range of `sm` are the deleted lines.
-/
namespace Neatvi.Lemmas.C15b
open Neatvi Neatvi.Lbuf Neatvi.Props.C15 Neatvi.Lemmas.ExFrame Neatvi.Lemmas.Hist

/-- where the slots of a table come from -/
abbrev Slots := Nat → Option (Nat × Bool)

/-- the marks of the depths in `S` travel along `sm` from `lb` to `lb'` -/
structure CarryW (S : Nat → Prop) (lb lb' : Lb) (sm : Slots) : Prop where
  len : GlobLen lb
  len' : GlobLen lb'
  dom : ∀ j, lb'.lines.length ≤ j → sm j = none
  rng : ∀ j p, sm j = some p → p.1 < lb.lines.length
  mono : ∀ j j' p p', j < j' → sm j = some p → sm j' = some p' → p.1 < p'.1
  bits : ∀ j k, S k → (lb'.glob.getD j 0).testBit k =
    match sm j with | some p => (lb.glob.getD p.1 0).testBit k | none => false
  text : ∀ j i, sm j = some (i, true) → lb'.lines[j]? = lb.lines[i]?

/-- the marks of the depths in `S` travel with their lines from `lb` to `lb'` -/
def Carry (S : Nat → Prop) (lb lb' : Lb) : Prop := ∃ sm, CarryW S lb lb' sm

/-- the identity on a table of `n` slots -/
def idSlots (n : Nat) : Slots := fun j => if j < n then some (j, true) else none

/-- composition: first `sm1` (from `a` to `b`), then `sm2` (from `b` to `c`) -/
def compSlots (sm1 sm2 : Slots) : Slots := fun j =>
  match sm2 j with
  | none => none
  | some p => match sm1 p.1 with
    | none => none
    | some q => some (q.1, q.2 && p.2)

theorem getD_of_le {l : List Nat} {j : Nat} (h : l.length ≤ j) : l.getD j 0 = 0 := by
  rw [List.getD_eq_getElem?_getD, List.getElem?_eq_none h]; rfl

theorem CarryW.of_bits {S : Nat → Prop} {lb lb' : Lb} (hg : GlobLen lb) (hl : lb'.lines = lb.lines)
    (hn : lb'.glob.length = lb.glob.length)
    (hb : ∀ j k, S k → (lb'.glob.getD j 0).testBit k = (lb.glob.getD j 0).testBit k) :
    CarryW S lb lb' (idSlots lb.lines.length) where
  len := hg
  len' := by unfold GlobLen at *; rw [hn, hl, hg]
  dom := by
    intro j hj
    rw [hl] at hj
    unfold idSlots; rw [if_neg (by omega)]
  rng := by
    intro j p h
    unfold idSlots at h
    split at h
    · cases h; assumption
    · cases h
  mono := by
    intro j j' p p' hjj h h'
    unfold idSlots at h h'
    split at h
    · split at h'
      · cases h; cases h'; exact hjj
      · cases h'
    · cases h
  bits := by
    intro j k hk
    rw [hb j k hk]
    unfold GlobLen at hg
    by_cases hj : j < lb.lines.length
    · simp only [idSlots, if_pos hj]
    · simp only [idSlots, if_neg hj]
      rw [getD_of_le (by omega)]
      simp
  text := by
    intro j i h
    unfold idSlots at h
    split at h
    · cases h; rw [hl]
    · cases h

theorem CarryW.refl {S : Nat → Prop} {lb : Lb} (hg : GlobLen lb) : CarryW S lb lb (idSlots lb.lines.length) :=
  CarryW.of_bits hg rfl rfl (fun _ _ _ => rfl)

theorem CarryW.of_eq {S : Nat → Prop} {lb lb' : Lb} (hg : GlobLen lb) (hl : lb'.lines = lb.lines)
    (hgl : lb'.glob = lb.glob) : CarryW S lb lb' (idSlots lb.lines.length) :=
  CarryW.of_bits hg hl (by rw [hgl]) (fun _ _ _ => by rw [hgl])

theorem CarryW.trans {S : Nat → Prop} {a b c : Lb} {sm1 sm2 : Slots} (h1 : CarryW S a b sm1) (h2 : CarryW S b c sm2) :
    CarryW S a c (compSlots sm1 sm2) where
  len := h1.len
  len' := h2.len'
  dom := by
    intro j hj
    unfold compSlots
    rw [h2.dom j hj]
  rng := by
    intro j p h
    unfold compSlots at h
    split at h
    · cases h
    · rename_i p2 hp2
      split at h
      · cases h
      · rename_i q hq
        cases h
        exact h1.rng _ q hq
  mono := by
    intro j j' p p' hjj h h'
    unfold compSlots at h h'
    split at h
    · cases h
    · rename_i p2 hp2
      split at h
      · cases h
      · rename_i q hq
        split at h'
        · cases h'
        · rename_i p2' hp2'
          split at h'
          · cases h'
          · rename_i q' hq'
            cases h; cases h'
            exact h1.mono _ _ q q' (h2.mono _ _ _ _ hjj hp2 hp2') hq hq'
  bits := by
    intro j k hk
    rw [h2.bits j k hk]
    unfold compSlots
    cases hp2 : sm2 j with
    | none => rfl
    | some p2 =>
      simp only []
      rw [h1.bits p2.1 k hk]
      cases hq : sm1 p2.1 with
      | none => rfl
      | some q => rfl
  text := by
    intro j i h
    unfold compSlots at h
    split at h
    · cases h
    · rename_i p2 hp2
      split at h
      · cases h
      · rename_i q hq
        obtain ⟨i2, s2⟩ := p2
        obtain ⟨i1, s1⟩ := q
        simp only [Option.some.injEq, Prod.mk.injEq, Bool.and_eq_true] at h
        obtain ⟨rfl, rfl, rfl⟩ := h
        rw [h2.text j i2 hp2, h1.text i2 i1 hq]

theorem CarryW.mono_set {S S' : Nat → Prop} {lb lb' : Lb} {sm : Slots} (h : CarryW S lb lb' sm)
    (hs : ∀ k, S' k → S k) : CarryW S' lb lb' sm :=
  ⟨h.len, h.len', h.dom, h.rng, h.mono, fun j k hk => h.bits j k (hs k hk), h.text⟩

theorem Carry.refl {S : Nat → Prop} {lb : Lb} (hg : GlobLen lb) : Carry S lb lb := ⟨_, CarryW.refl hg⟩
theorem Carry.trans {S : Nat → Prop} {a b c : Lb} (h1 : Carry S a b) (h2 : Carry S b c) : Carry S a c := by
  obtain ⟨_, w1⟩ := h1
  obtain ⟨_, w2⟩ := h2
  exact ⟨_, w1.trans w2⟩
theorem Carry.of_eq {S : Nat → Prop} {lb lb' : Lb} (hg : GlobLen lb) (hl : lb'.lines = lb.lines)
    (hgl : lb'.glob = lb.glob) : Carry S lb lb' := ⟨_, CarryW.of_eq hg hl hgl⟩
theorem Carry.mono_set {S S' : Nat → Prop} {lb lb' : Lb} (h : Carry S lb lb') (hs : ∀ k, S' k → S k) :
    Carry S' lb lb' := by
  obtain ⟨_, w⟩ := h
  exact ⟨_, w.mono_set hs⟩
theorem Carry.globLen {S : Nat → Prop} {lb lb' : Lb} (h : Carry S lb lb') : GlobLen lb' := by
  obtain ⟨_, w⟩ := h; exact w.len'

/-- the slot map of `lbuf_replace(lb, s, pos, n_del)` on a table of `n` lines, `n_ins` lines in `s` -/
def replSlots (n pos nIns nDel : Nat) : Slots := fun j =>
  if j < pos then some (j, true)
  else if j < pos + min nIns nDel then some (j, false)
  else if j < pos + nIns then none
  else if j < n + nIns - nDel then some (j - nIns + nDel, true)
  else none

theorem replSlots_some {n pos nIns nDel j : Nat} {p : Nat × Bool} (h : replSlots n pos nIns nDel j = some p) :
    (j < pos + min nIns nDel ∧ p.1 = j ∧ (p.2 = true → j < pos)) ∨
    (pos + nIns ≤ j ∧ j < n + nIns - nDel ∧ p.1 = j - nIns + nDel) := by
  unfold replSlots at h
  rcases Lemmas.C06.ite_eq_cases h with ⟨hj, h⟩ | ⟨_, h⟩
  · cases h; exact Or.inl ⟨by omega, rfl, fun _ => hj⟩
  rcases Lemmas.C06.ite_eq_cases h with ⟨_, h⟩ | ⟨_, h⟩
  · cases h; exact Or.inl ⟨by omega, rfl, fun hb => by cases hb⟩
  rcases Lemmas.C06.ite_eq_cases h with ⟨_, h⟩ | ⟨_, h⟩
  · cases h
  rcases Lemmas.C06.ite_eq_cases h with ⟨_, h⟩ | ⟨_, h⟩
  · cases h; exact Or.inr ⟨by omega, by omega, rfl⟩
  · cases h

theorem replSlots_rng {n pos nIns nDel j : Nat} {p : Nat × Bool} (hb : pos + nDel ≤ n)
    (h : replSlots n pos nIns nDel j = some p) : p.1 < n := by
  rcases replSlots_some h with ⟨_, h2, _⟩ | ⟨_, _, h2⟩ <;> omega

theorem replSlots_mono {n pos nIns nDel j j' : Nat} {p p' : Nat × Bool} (hjj : j < j')
    (h : replSlots n pos nIns nDel j = some p) (h' : replSlots n pos nIns nDel j' = some p') : p.1 < p'.1 := by
  rcases replSlots_some h with ⟨_, h2, _⟩ | ⟨_, _, h2⟩ <;>
    rcases replSlots_some h' with ⟨_, h2', _⟩ | ⟨_, _, h2'⟩ <;> omega

theorem replace_carryW {S : Nat → Prop} {lb lb' : Lb} {s : Option Bytes} {pos nDel : Nat}
    (h : replace lb s pos nDel = some lb') (hg : GlobLen lb) :
    CarryW S lb lb' (replSlots lb.lines.length pos (optLines s).length nDel) := by
  obtain ⟨hb, hlines, _⟩ := replace_lines h
  obtain ⟨g1, g2, g3, g4, g5⟩ := glob_bits_travel h hg (optLines s).length rfl
  have hlen' : lb'.lines.length = lb.lines.length + (optLines s).length - nDel := by
    rw [hlines]
    simp only [List.length_append, List.length_take, List.length_drop]
    omega
  refine ⟨hg, g5, ?_, ?_, ?_, ?_, ?_⟩
  · intro j hj
    unfold replSlots
    rw [if_neg (by omega), if_neg (by omega), if_neg (by omega), if_neg (by omega)]
  · exact fun j p hp => replSlots_rng hb hp
  · exact fun j j' p p' hjj hp hp' => replSlots_mono hjj hp hp'
  · intro j k _
    unfold replSlots
    rw [List.getD_eq_getElem?_getD]
    by_cases h1 : j < pos
    · rw [if_pos h1, g1 j h1, ← List.getD_eq_getElem?_getD]
    · rw [if_neg h1]
      by_cases h2 : j < pos + min (optLines s).length nDel
      · rw [if_pos h2, g2 j (by omega) h2, ← List.getD_eq_getElem?_getD]
      · rw [if_neg h2]
        by_cases h3 : j < pos + (optLines s).length
        · rw [if_pos h3, g3 j (by omega) h3]
          simp
        · rw [if_neg h3]
          by_cases h4 : j < lb.lines.length + (optLines s).length - nDel
          · rw [if_pos h4]
            have := g4 (j - pos - (optLines s).length)
            rw [show pos + (optLines s).length + (j - pos - (optLines s).length) = j by omega] at this
            rw [this, ← List.getD_eq_getElem?_getD]
            simp only []
            congr 2
            omega
          · rw [if_neg h4, List.getElem?_eq_none (by unfold GlobLen at g5; omega)]
            simp
  · intro j i hp
    rcases replSlots_some hp with ⟨_, hi, h1⟩ | ⟨h3, h4, hi⟩
    · obtain rfl : i = j := hi
      have h1 := h1 rfl
      rw [hlines, List.append_assoc, List.getElem?_append_left (by simp; omega), List.getElem?_take_of_lt h1]
    · obtain rfl : i = j - (optLines s).length + nDel := hi
      have hl1 : (lb.lines.take pos ++ optLines s).length = pos + (optLines s).length := by
        simp only [List.length_append, List.length_take]; omega
      rw [hlines, List.getElem?_append_right (by omega), hl1, List.getElem?_drop]
      congr 1
      omega

theorem replace_carry {S : Nat → Prop} {lb lb' : Lb} {s : Option Bytes} {pos nDel : Nat}
    (h : replace lb s pos nDel = some lb') (hg : GlobLen lb) : Carry S lb lb' := ⟨_, replace_carryW h hg⟩

theorem replace_carry' {S : Nat → Prop} {lb lb1 lb' : Lb} {s : Option Bytes} {pos nDel : Nat}
    (h : replace lb1 s pos nDel = some lb') (hl : lb1.lines = lb.lines) (hgl : lb1.glob = lb.glob) (hg : GlobLen lb) :
    Carry S lb lb' := by
  have c0 : Carry S lb lb1 := Carry.of_eq hg hl hgl
  exact c0.trans (replace_carry h c0.globLen)

theorem opt_glob (lb : Lb) (buf : Option Bytes) (pos nDel : Nat) : (opt lb buf pos nDel).glob = lb.glob := rfl

theorem edit_carry {S : Nat → Prop} {lb lb' : Lb} {buf : Option Bytes} {b e : Nat}
    (h : edit lb buf b e = some lb') (hg : GlobLen lb) : Carry S lb lb' := by
  obtain ⟨_, ⟨_, _, rfl⟩ | h⟩ := Lemmas.C06.edit_cases h
  · exact Carry.refl hg
  · exact replace_carry' h rfl rfl hg

theorem loadPos_glob (lb : Lb) (e : Entry) : (loadPos lb e).glob = lb.glob := rfl
theorem loadMarks_glob (lb : Lb) (e : Entry) : (loadMarks lb e).glob = lb.glob := by
  unfold loadMarks; split <;> rfl

theorem carryRel (S : Nat → Prop) : ReplRel (fun lb lb' => GlobLen lb → Carry S lb lb') :=
  .ofParts
    (refl := fun _ hg => Carry.refl hg)
    (trans := fun h1 h2 hg => (h1 hg).trans (h2 (h1 hg).globLen))
    (repl := fun _ _ hr hg => replace_carry' hr rfl rfl hg)
    (pos := fun _ _ hg => Carry.of_eq hg rfl rfl)
    (marks := fun _ _ hg => Carry.of_eq hg (loadMarks_lines _ _) (loadMarks_glob _ _))

theorem undo_carry {S : Nat → Prop} {lb lb' : Lb} {rc : Nat} (h : Lbuf.undo lb = some (rc, lb')) (hg : GlobLen lb) :
    Carry S lb lb' :=
  undo_rel (carryRel S) h hg

theorem redo_carry {S : Nat → Prop} {lb lb' : Lb} {rc : Nat} (h : Lbuf.redo lb = some (rc, lb')) (hg : GlobLen lb) :
    Carry S lb lb' :=
  redo_rel (carryRel S) h hg

theorem rd_carry {S : Nat → Prop} {lb lb' : Lb} {chunks : List Bytes} {fe : Bool} {b e rc : Nat}
    (h : LbufIo.rd lb chunks fe b e = some (rc, lb')) (hg : GlobLen lb) : Carry S lb lb' := by
  rcases Lemmas.C06.rd_cases h with rfl | ⟨_, he⟩
  · exact Carry.refl hg
  · exact edit_carry he hg

theorem modified_carry {S : Nat → Prop} {lb : Lb} (hg : GlobLen lb) : Carry S lb (modified lb).2 :=
  Carry.of_eq hg rfl rfl

theorem setMark_carry {S : Nat → Prop} {lb : Lb} (c : Nat) (p o : Int) (hg : GlobLen lb) :
    Carry S lb (setMark lb c p o) :=
  Carry.of_eq hg (Props.C01.setMark_lines _ _ _ _) (setMark_glob _ _ _ _)

theorem globSet_carry {S : Nat → Prop} {lb : Lb} (pos d : Nat) (hd : ∀ k, S k → k ≠ d) (hg : GlobLen lb) :
    Carry S lb (globSet lb pos d) :=
  ⟨_, CarryW.of_bits hg rfl (globSet_rest lb pos d).2.2.2.2 (fun j k hk => globSet_other_depths lb pos d j k (hd k hk))⟩

/-- `lbuf_globget` for a depth outside `S`, the depths in `S` being bits of a `char` -/
theorem globGet_carry {S : Nat → Prop} {lb : Lb} (pos d : Nat) (hd : ∀ k, S k → k ≠ d ∧ k < 8) (hg : GlobLen lb) :
    Carry S lb (globGet lb pos d).2 :=
  ⟨_, CarryW.of_bits hg rfl (globGet_rest lb pos d).2.2.2.2
    (fun j k hk => globGet_other_depths lb pos d j k (hd k hk).1 (hd k hk).2)⟩

theorem foldl_carry {S : Nat → Prop} {α} (F : Lb → α → Lb) (hF : ∀ lb a, GlobLen lb → Carry S lb (F lb a)) :
    ∀ (l : List α) (lb : Lb), GlobLen lb → Carry S lb (l.foldl F lb) := by
  intro l
  induction l with
  | nil => intro lb hg; exact Carry.refl hg
  | cons a l ih =>
    intro lb hg
    rw [List.foldl_cons]
    exact (hF lb a hg).trans (ih _ (hF lb a hg).globLen)

end Neatvi.Lemmas.C15b
