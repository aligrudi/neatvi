import NeatviVerif.Lemmas.C20cRun
import NeatviVerif.Lemmas.C15bBits
import NeatviVerif.Lemmas.C05gDepth
/-!
# C15b lemmas, part 2: the recursion depth `xgdep` is the same after every command

`xgdep` is written in `ec_glob` only (`xgdep++` … `xgdep--`).  Every helper of the ex layer leaves the field alone,
every handler of the dispatcher does, `ec_glob` restores it on every exit path, and every run of `ex_exec` /
`ex_command` ends at the depth it started from — whatever the line is (`|`-lists, nested `:g`, `:@`, `:e +cmd`,
`:w`, `:q`, `:b`, `:!`, …).  All of that is `Lemmas/C05gDepth.lean` (`all_keeps`, for the counter `xgdep`; `exRegion_gdep`,
`globMark_gdep` for the pieces of `ec_glob`); here it is read for `ex_exec`, `ex_command`, `runCmd` and the
search of the loop, and the exits of `ec_glob` are listed one by one.
-/
namespace Neatvi.Lemmas.C15b
open Neatvi Neatvi.Lbuf Neatvi.Ex Neatvi.Rset Neatvi.Props Neatvi.Props.C15 Neatvi.Props.C20 Neatvi.Props.C20b
open Neatvi.Lemmas.ExFrame Neatvi.Lemmas.C02Ex Neatvi.Lemmas.C02c Neatvi.Lemmas.C20c Neatvi.Lemmas.ExRel
open Neatvi.Lemmas.C05g (keeps_rel all_keeps Counter.glob)

theorem setCur_dep (ed : Ed) (b : Buf) : (ed.setCur b).xgdep = ed.xgdep := rfl

theorem exTxt_dep (ed : Ed) (src ex : Bytes) : (exTxt ed src ex).2.xgdep = ed.xgdep :=
  congrArg (·.xgdep) (Lemmas.ExStep.exTxt_core ed src ex)

theorem bumpAt_dep (ed : Ed) (i : Nat) (b : Buf) : (bumpAt ed i b).xgdep = ed.xgdep := rfl

theorem globPrep_dep (ed : Ed) (arg : Bytes) : (globPrep ed arg).xgdep = ed.xgdep :=
  congrArg (·.xgdep) (Props.C15.globPrep_core ed arg)

theorem runCmd_local_dep_any (f : Nat) (ed ed' : Ed) (hd : String) (loc cmd arg : Bytes) (txt : Option Bytes) (r : Int)
    (hl : tableHandler hd = false) (h : runCmd f ed hd loc cmd arg txt = some (r, ed')) : ed'.xgdep = ed.xgdep := by
  cases f with
  | zero => rw [runCmd] at h; cases h
  | succ f => exact runCmd_local_rel (keeps_rel Counter.glob).toExRel hl h

theorem adv_dep (dep : Nat) : ∀ (h : Nat) (ed : Ed) (i : Int), (ecGlob.scan.adv dep h ed i).1.xgdep = ed.xgdep :=
  fun h ed i => (keeps_rel Counter.glob).toExRel.ofStep (Lemmas.ExStep.adv_step trivial h ed i)

theorem globSweep_dep (ed : Ed) (dep : Nat) : (globSweep ed dep).xgdep = ed.xgdep :=
  Lemmas.C05g.globSweep_gdep ed dep

theorem exExec_dep {f : Nat} {ed ed' : Ed} {ln : Bytes} {r : Int} (h : exExec f ed ln = some (r, ed')) :
    ed'.xgdep = ed.xgdep := (all_keeps Counter.glob f).1 _ _ _ _ h

theorem exCommand_dep {f : Nat} {ed ed' : Ed} {ln : Bytes} {r : Int} (h : exCommand f ed ln = some (r, ed')) :
    ed'.xgdep = ed.xgdep := (all_keeps Counter.glob f).2.1 _ _ _ _ h

theorem runCmd_dep_all {f : Nat} {ed ed' : Ed} {hd : String} {loc cmd arg : Bytes} {txt : Option Bytes} {r : Int}
    (h : runCmd f ed hd loc cmd arg txt = some (r, ed')) : ed'.xgdep = ed.xgdep :=
  (all_keeps Counter.glob f).2.2.1 _ _ _ _ _ _ _ _ h

theorem ecGlob_restores_depth_all {f : Nat} {ed ed' : Ed} {loc cmd arg : Bytes} {r : Int}
    (h : ecGlob f ed loc cmd arg = some (r, ed')) : ed'.xgdep = ed.xgdep := by
  cases f with
  | zero => rw [ecGlob] at h; cases h
  | succ f => exact Lemmas.C05g.keeps_ofXStep Counter.glob (Lemmas.ExStep.XStep.ecGlob (Lemmas.ExStep.XStep.all f).1 h)

/-- the outcomes of `ec_glob` one by one, with the depth at each exit:
    * seven `:g` are nested already: returns 1 at once (the guard of `ec_glob`);
    * the range is bad (`ex_region` fails): returns 1 before `xgdep++`;
    * there is no pattern to use (`g//d` without a previous search), or the pattern does not compile: returns 1
      before `xgdep++`;
    * otherwise `xgdep < 7`, the loop runs at depth `xgdep + 1 ≤ 7` and — normal end or `break` after a failing command — ends at
      that depth (so the model's `xgdep := dep - 1` is the `xgdep--` of the C code), and `ec_glob` returns 0 at the
      depth it was called at. -/
theorem ecGlob_outcomes_all (f : Nat) (ed ed' : Ed) (loc cmd arg : Bytes) (r : Int)
    (h : ecGlob (f + 1) ed loc cmd arg = some (r, ed')) :
    ed'.xgdep = ed.xgdep ∧
    (r = 1 ∨ (r = 0 ∧ ed.xgdep < 7 ∧ ∃ rc b e ed1 re ed2,
      exRegion ed (if loc.isEmpty && ed.xgdep == 0 then [37] else loc) = some ((rc, b, e), ed1) ∧
      ecGlob.scan f (hasBang cmd || cmd.headD 0 == 118) (reRead arg).2 re (ed.xgdep + 1)
        (globBudget (globMark (globPrep ed1 arg) b e (ed.xgdep + 1)))
        (globMark (globPrep ed1 arg) b e (ed.xgdep + 1)) b = some ed2 ∧
      ed2.xgdep = ed.xgdep + 1 ∧ ed' = { globSweep ed2 (ed.xgdep + 1) with xgdep := ed2.xgdep - 1 })) := by
  refine ⟨ecGlob_restores_depth_all h, ?_⟩
  rcases ecGlob_cases h with ⟨_, hr1, _⟩ | ⟨hguard, rc, b, e, ed1, hr, h'⟩
  · exact Or.inl hr1
  rcases h' with ⟨hr1, _⟩ | ⟨re, ed2, _, _, hre, hscan, rfl, rfl⟩
  · exact Or.inl hr1
  have e2 := (globPrep_dep ed1 arg).trans (Lemmas.C05g.exRegion_gdep hr)
  rw [e2] at hscan
  have e3 : ed2.xgdep = ed.xgdep + 1 :=
    (Lemmas.C05g.keeps_ofXStep Counter.glob (Lemmas.ExStep.XStep.scan f _ _ _ _ (Lemmas.ExStep.XStep.all f).1 _ _ _ _ hscan)).trans
      (Lemmas.C05g.globMark_gdep _ _ _ _)
  refine Or.inr ⟨rfl, by omega, rc, b, e, ed1, re, ed2, hr, hscan, e3, ?_⟩
  rw [e2, e3]

end Neatvi.Lemmas.C15b
