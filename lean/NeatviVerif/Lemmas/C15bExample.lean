import NeatviVerif.Lemmas.C15bWitness
/-!
# C15b lemmas, part 9: `:g/a/.,+1g/$/s/$/x/` on `a1 a2 a3 a4 z`, evaluated in the kernel

The outer `:g` works on the four `a` lines; on each the inner `:g` runs over that line and the next one and appends
an `x` to both.  `a1` gets one `x` (from its own round), `a2 a3 a4` two (their own round and the one before), `z` one
(from the round of `a4`): `a1x a2xx a3xx a4xx zx`.  Every line the outer `:g` marked is visited once although the
inner `:g` marks, visits and sweeps lines in between.

(`:g/a/.,+1g/./s/$/x/` gives the same text, under `#eval` on the model and in the program itself; but the pattern `.`
runs the backtracking matcher, a well-founded recursion the kernel does not unfold; `$` selects every line as well and
is matched by the literal-pattern fast path.)

Each run is a function of the state (`subF`, `innerF`, `outerF`, …) that `ex_exec` computes on the line (`Runs`,
`Lemmas/C15bWitness.glob_runs`) and that the kernel evaluates on the concrete buffer (`outerF_eval`, …); `Props/C15b`
puts the two together.  Further down: the run in which a marked line is left behind, a round of the outer `:g` on
the witness, the early exits of `ec_glob`, and witnesses for the hypotheses of the theorems of `Props/C15b`.
-/
namespace Neatvi.Lemmas.C15b
open Neatvi Neatvi.Lbuf Neatvi.Ex Neatvi.Rset Neatvi.Props Neatvi.Props.C15
open Neatvi.Lemmas.ExFrame Neatvi.Lemmas.C05d Neatvi.Lemmas.C06b Neatvi.Lemmas.C20c

/-- `:s` with argument `arg` and no address -/
def subF (arg : Bytes) (ed : Ed) : R Int :=
  match exRegion ed [] with
  | none => none
  | some ((rc, b, e), ed) =>
    if rc != 0 then some (1, ed) else
    if (C14.substPrep ed arg).1.xkwddir == 0 then some (1, (C14.substPrep ed arg).1) else
    match (C14.substPrep ed arg).1.mkRe (C14.substPrep ed arg).1.xkwd with
    | none => none
    | some none => some (1, (C14.substPrep ed arg).1)
    | some (some re) =>
      match C14.substLoop re (C14.substPrep ed arg).2 b (e - b).toNat (C14.substPrep ed arg).1 with
      | none => none
      | some ed => some (0, ed)

/-- `s/$/x/` -/
def lineS : Bytes := [115, 47, 36, 47, 120, 47]
/-- `.,+1g/$/s/$/x/` -/
def lineInner : Bytes := [46, 44, 43, 49, 103, 47, 36, 47] ++ lineS
/-- `g/a/.,+1g/$/s/$/x/` -/
def lineOuter : Bytes := [103, 47, 97, 47] ++ lineInner

theorem runCmd_subF (f : Nat) (ed : Ed) (cmd arg : Bytes) (txt : Option Bytes) :
    runCmd (f + 1) ed "ec_substitute" [] cmd arg txt = subF arg ed := by
  rw [C14.runCmd_subst_eq]
  rfl

theorem subF_runs (f : Nat) : Runs (f + 2) lineS (subF [47, 36, 47, 120, 47]) := by
  intro e r e' h
  refine exExec_one (f + 1) e e' lineS [115] [] [115] [47, 36, 47, 120, 47] "ec_substitute" r (by decide) (by decide)
    (by decide) (by decide +kernel) ?_
  rw [runCmd_subF]
  exact h

/-- the inner `:g` as a function of the state it starts in -/
def innerF (ed : Ed) : R Int := ecGlobF (subF [47, 36, 47, 120, 47]) ed [46, 44, 43, 49] [103] ([47, 36, 47] ++ lineS)

theorem innerF_runs (f : Nat) : Runs (f + 5) lineInner innerF :=
  glob_runs (subF_runs f) (by decide) (by decide) (by decide +kernel) (by decide +kernel)

/-- the outer `:g` -/
def outerF (ed : Ed) : R Int := ecGlobF innerF ed [] [103] ([47, 97, 47] ++ lineInner)

theorem outerF_runs (f : Nat) : Runs (f + 8) lineOuter outerF :=
  glob_runs (innerF_runs f) (by decide) (by decide) (by decide +kernel) (by decide +kernel)

/-- the buffer `a1 a2 a3 a4 z`, no marks, depth 0 -/
def exEd5 : Ed :=
  { bufs := [some { path := [102], lb := { lines := [[97, 49, 10], [97, 50, 10], [97, 51, 10], [97, 52, 10], [122, 10]],
                                             glob := [0, 0, 0, 0, 0] } }, none] }

theorem outerF_eval :
    (outerF exEd5).map (fun x => (x.1, x.2.xgdep)) = some (0, 0) ∧
    (outerF exEd5).map (fun x => x.2.lb.map (·.lines)) =
      some (some [[97, 49, 120, 10], [97, 50, 120, 120, 10], [97, 51, 120, 120, 10], [97, 52, 120, 120, 10], [122, 120, 10]]) ∧
    (outerF exEd5).map (fun x => x.2.lb.map (·.glob)) = some (some [0, 0, 0, 0, 0]) ∧
    (outerF exEd5).map (fun x => x.2.lb.map (·.useq)) = some (some 1) := by
  decide +kernel

theorem outerF_undo_eval :
    (outerF exEd5).map (fun x => ((x.2.modifiedAt 0).2.lb.bind Lbuf.undo).map (fun y => (y.1, y.2.lines))) =
      some (some (0, [[97, 49, 10], [97, 50, 10], [97, 51, 10], [97, 52, 10], [122, 10]])) ∧
    (outerF exEd5).map (fun x => ((x.2.modifiedAt 0).2.lb.map (fun lb => (lb.hist.length, lb.useq)))) = some (some (8, 2)) := by
  decide +kernel

/-! ### the line that is left behind, end to end: `:g/a/s/$/!/|%g/b/d` on `b b a a b` -/

/-- `%g/b/d` -/
def lineDel : Bytes := [37, 103, 47, 98, 47, 100]
/-- `s/$/!/|%g/b/d` -/
def lineBang : Bytes := [115, 47, 36, 47, 33, 47, 124] ++ lineDel
/-- `g/a/s/$/!/|%g/b/d` -/
def lineSkip : Bytes := [103, 47, 97, 47] ++ lineBang

/-- the inner `:g` `%g/b/d` as a function of the state -/
def delGlobF (ed : Ed) : R Int := ecGlobF delF ed [37] [103] [47, 98, 47, 100]

theorem delGlob_runs (f : Nat) : Runs (f + 5) lineDel delGlobF :=
  glob_runs (delF_runs f) (by decide) (by decide) (by decide +kernel) (by decide +kernel)

/-- the command list `s/$/!/|%g/b/d` as a function of the state -/
def bangF (ed : Ed) : R Int :=
  match subF [47, 36, 47, 33, 47] ed with
  | none => none
  | some (_, ed1) => delGlobF ed1

theorem bangF_runs (f : Nat) : Runs (f + 5) lineBang bangF := by
  intro e r e' h
  unfold bangF at h
  split at h
  · cases h
  · rename_i r1 e1 hs
    have hp : (parse1 lineBang).idx = some ([115], "ec_substitute") ∧ (parse1 lineBang).loc = [] ∧
        (parse1 lineBang).cmd = [115] ∧ (parse1 lineBang).arg = [47, 36, 47, 33, 47] ∧ (parse1 lineBang).rest = lineDel := by
      decide +kernel
    have h1 : runOne (f + 4) e (parse1 lineBang) 0 = some ((r1, e1), lineDel) := by
      rw [runOne_known (f + 4) e (parse1 lineBang) 0 [115] "ec_substitute" hp.1 (by decide), hp.2.1, hp.2.2.1, hp.2.2.2.1,
        hp.2.2.2.2, runCmd_subF, hs]
      rfl
    rw [Props.C06b.exExec_seq (f + 4) e e1 lineBang lineDel r1 (by decide) (by decide) h1 (Or.inr (by decide +kernel)),
      if_neg (by decide)]
    exact delGlob_runs f e1 r e' h

def skipF (ed : Ed) : R Int := ecGlobF bangF ed [] [103] ([47, 97, 47] ++ lineBang)

theorem skipF_runs (f : Nat) : Runs (f + 8) lineSkip skipF :=
  glob_runs (bangF_runs f) (by decide) (by decide) (by decide +kernel) (by decide +kernel)

/-- the buffer `b b a a b`, no marks, depth 0 -/
def exEdSkip : Ed :=
  { bufs := [some { path := [102], lb := { lines := [[98, 10], [98, 10], [97, 10], [97, 10], [98, 10]],
                                             glob := [0, 0, 0, 0, 0] } }, none] }

theorem skipF_eval :
    (skipF exEdSkip).map (fun x => (x.1, x.2.xgdep)) = some (0, 0) ∧
    (skipF exEdSkip).map (fun x => x.2.lb.map (·.lines)) = some (some [[97, 33, 10], [97, 10]]) ∧
    (skipF exEdSkip).map (fun x => x.2.lb.map (·.glob)) = some (some [0, 0]) := by
  decide +kernel

/-! ### one round of an outer `:g` on the witness of `Lemmas/C15bWitness` -/

theorem wEd_globStep_eval :
    (wEd.mkRe [99]).bind (fun o => o.bind (fun re =>
      (globStepF delGlobF false re wEd 2).map (fun x => (x.1, x.2.2, x.2.1.lb.map (·.glob))))) =
      some (false, 2, some [0, 2]) := by
  decide +kernel

/-- the round of an outer `:g/c/` (depth 1) on line 2 of `b b c m b` with the command list `%g/b/d`: the loop is to
    restart at index 2, the mark of the outer `:g` sits in slot 1 -/
theorem wEd_globStep : ∃ re ed2 lb2, wEd.mkRe [99] = some (some re) ∧
    globStep 5 false lineDel re wEd 2 = some (false, ed2, 2) ∧ ed2.lb = some lb2 ∧ lb2.glob = [0, 2] := by
  obtain ⟨o, hre, h⟩ := Option.bind_eq_some_iff.1 wEd_globStep_eval
  obtain ⟨re, rfl, h⟩ := Option.bind_eq_some_iff.1 h
  obtain ⟨⟨stop, ed2, i2⟩, hs, hv⟩ := Option.map_eq_some_iff.1 h
  simp only [Prod.mk.injEq] at hv
  obtain ⟨rfl, rfl, hg⟩ := hv
  obtain ⟨lb2, hl, hg⟩ := Option.map_eq_some_iff.1 hg
  exact ⟨re, ed2, lb2, hre,
    globStepF_sound (f := 5) (body := lineDel) (fun e r e' he => delGlob_runs 0 e r e' he) _ _ _ _ _ hs, hl, hg⟩

/-! ### the early exits of `ec_glob` -/

theorem exits_eval :
    (ecGlobF delF exEd5 [] [103] [47, 47, 100]).map (fun x => (x.1, x.2.xgdep)) = some (1, 0) ∧
    (ecGlobF delF exEd5 [57, 44, 49, 48] [103] [47, 97, 47, 100]).map (fun x => (x.1, x.2.xgdep)) = some (1, 0) ∧
    (ecGlobF delF exEd5 [] [103] [47, 40, 97, 47, 100]).map (fun x => (x.1, x.2.xgdep)) = some (1, 0) := by
  decide +kernel

theorem exit_of_eval (ed : Ed) (loc arg : Bytes) (hb : (reRead arg).2 = [100])
    (h : (ecGlobF delF ed loc [103] arg).map (fun x => (x.1, x.2.xgdep)) = some (1, 0)) :
    ∃ ed', ecGlob 3 ed loc [103] arg = some (1, ed') ∧ ed'.xgdep = 0 := by
  obtain ⟨⟨r, ed'⟩, hx, hv⟩ := Option.map_eq_some_iff.1 h
  simp only [Prod.mk.injEq] at hv
  obtain ⟨rfl, hd⟩ := hv
  exact ⟨ed', ecGlobF_sound ed loc [103] arg (by rw [hb]; exact delF_runs 0) _ hx, hd⟩

/-! ### the hypotheses of the theorems of `Props/C15b` are satisfiable -/

/-- `nested_visits_in_order`: marks `0 2 2`, the loop stands on line 0, nothing was edited, the search finds line 1 -/
theorem sat_in_order : ∃ (lb lb3 : Lb) (sm : Slots), CarryW (upTo 1) lb lb sm ∧ CleanBelow lb 1 ((0 : Int).toNat + 1) ∧
    CleanBelow lb 1 (0 : Int).toNat ∧
    (∀ k, (0 : Int).toNat ≤ k → k < (1 : Int).toNat → ∀ p, sm k = some p → (lb.glob.getD p.1 0).testBit 1 = false) ∧
    (∀ k, lb3.glob.getD k 0 =
      if (0 : Int).toNat ≤ k ∧ k ≤ (1 : Int).toNat ∧ k < lb.lines.length then clr (lb.glob.getD k 0) 1 else lb.glob.getD k 0) := by
  refine ⟨{ lines := [[10], [10], [10]], glob := [0, 2, 2] }, { lines := [[10], [10], [10]], glob := [0, 0, 2] },
    idSlots 3, CarryW.refl rfl, ?_, ?_, ?_, ?_⟩
  · intro k hk
    have : k = 0 := by simp at hk; omega
    subst this; decide
  · intro k hk; simp at hk
  · intro k _ hk p hp
    have : k = 0 := by simp at hk; omega
    subst this
    simp only [idSlots] at hp
    cases hp; decide
  · intro k
    match k with
    | 0 => decide
    | 1 => decide
    | 2 => decide
    | k + 3 => simp

/-- `left_behind_is_lost`: the state the witness ends in -/
theorem sat_left_behind : ∃ (ed : Ed) (lb : Lb), ed.lb = some lb ∧ (0 : Int) ≤ 2 ∧ lb.lines.length - (2 : Int).toNat < 3 ∧
    1 < (2 : Int).toNat ∧ (lb.glob.getD 1 0).testBit 1 = true :=
  ⟨{ bufs := [some { path := [102], lb := { lines := [[99, 10], [109, 10]], glob := [0, 2] } }, none] },
    { lines := [[99, 10], [109, 10]], glob := [0, 2] }, rfl, by decide, by decide, by decide, by decide⟩

theorem exExec_nil (f : Nat) (ed : Ed) : exExec (f + 1) ed [] = some (0, ed) := by
  rw [exExec, if_neg (by decide), exExec.cmds]
  rfl

/-- `nested_loop_invariant`: the empty command list leaves nothing behind -/
theorem sat_loop_invariant (f dep : Nat) (neg : Bool) (re : RStr) : C15.quietLine 0 [] = true ∧
    ∀ ed i ed2 i2, LoopInv dep ed i → globStep (f + 1) neg [] re ed i = some (false, ed2, i2) →
      ∀ lb2, ed2.lb = some lb2 → CleanBelow lb2 dep i2.toNat := by
  refine ⟨by decide +kernel, ?_⟩
  intro ed i ed2 i2 ⟨_, lb, hl, _, hc⟩ hstep lb2 hl2
  have key : ed2.bufs = ed.bufs ∧ i2 ≤ i := by
    obtain ⟨h0, ⟨_, rfl, rfl⟩ | ⟨r, hx, hc⟩⟩ := globStep_cases hstep
    · exact ⟨rfl, Int.le_refl _⟩
    · rw [exExec_nil] at hx
      cases hx
      rcases hc with ⟨hs, _⟩ | ⟨_, rfl⟩
      · cases hs
      · exact ⟨rfl, by show max 0 (min i i) ≤ i; omega⟩
  rw [lb_of_bufs key.1, hl] at hl2
  cases hl2
  intro k hk
  exact hc k (by omega)

/-- `beyond_depth_7_hangs`: the pattern `q` does not select the line `a1`, which carries bit 8 -/
theorem sat_hangs : ∃ (re : RStr) (res : Int) (x : List Int × Nat) (ed : Ed) (lb : Lb),
    rstrFind re [97, 49, 10] 16 0 ND NG = some (res, x) ∧ ((res < 0) == false) = false ∧
    ed.lb = some lb ∧ lb.lines[(0 : Int).toNat]? = some [97, 49, 10] ∧ (lb.glob.getD (0 : Int).toNat 0).testBit 8 = true := by
  have h : (exEd5.mkRe [113]).bind (fun o => o.bind (fun re =>
      (rstrFind re [97, 49, 10] 16 0 ND NG).map (fun y => decide (y.1 < 0)))) = some true := by decide +kernel
  obtain ⟨o, hre, h⟩ := Option.bind_eq_some_iff.1 h
  obtain ⟨re, rfl, h⟩ := Option.bind_eq_some_iff.1 h
  obtain ⟨⟨res, x⟩, hf, hv⟩ := Option.map_eq_some_iff.1 h
  refine ⟨re, res, x, { bufs := [some { path := [102], lb := { lines := [[97, 49, 10]], glob := [256] } }, none] },
    { lines := [[97, 49, 10]], glob := [256] }, hf, ?_, rfl, rfl, by decide⟩
  simp [of_decide_eq_true hv]

end Neatvi.Lemmas.C15b
