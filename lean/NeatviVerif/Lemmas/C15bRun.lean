import NeatviVerif.Lemmas.C15bDepth
import NeatviVerif.Lemmas.C15bCarry
/-!
# C15b lemmas, part 4: what a quiet command list keeps of the marks of the enclosing `:g`s

The marks of the depths `≤ D` travel with their lines (`Carry`): a predicate that `lbuf_globset` / `lbuf_globget` keep
*for the depths above `D` and at most 7* (`ec_glob` refuses an eighth level).  A command list that starts
at a depth `xgdep ≥ D` stays there (`Lemmas/C15bDepth`): a `:g` in the list works at depth `xgdep + 1 > D`, its own
command list runs at that depth, and so on (`depthGuard`).  So the predicate is kept by every quiet command list
(`Lemmas/C15Stable.exExec_stable`; a statement about the marks of a particular depth cannot afford to keep the marks of
every depth).
-/
namespace Neatvi.Lemmas.C15b
open Neatvi Neatvi.Lbuf Neatvi.Ex Neatvi.Rset Neatvi.Props Neatvi.Props.C15
open Neatvi.Lemmas.ExFrame Neatvi.Lemmas.C02Ex

/-- no command leaves the depth it runs at, so from a depth `≥ D` every `:g` works at a depth above `D`, at most 7 -/
theorem depthGuard (D : Nat) : Guard (fun k => D < k ∧ k ≤ 7) (fun ed => D ≤ ed.xgdep) where
  depth := by
    intro ed ed1 loc x arg hG h7 hr
    have hG : D ≤ ed.xgdep := hG
    show D < _ ∧ _ ≤ 7
    rw [globPrep_dep, Lemmas.C05g.exRegion_gdep hr]
    exact ⟨by omega, by omega⟩
  mark := by
    intro ed ed1 loc rc b e arg hG hr
    have hG : D ≤ ed.xgdep := hG
    show D ≤ _
    rw [Lemmas.C05g.globMark_gdep, globPrep_dep, Lemmas.C05g.exRegion_gdep hr]
    omega
  xrow := fun _ h => h
  adv := fun dep h i hG => by show D ≤ _; rw [adv_dep]; exact hG
  txt := fun src ex hG => by show D ≤ _; rw [exTxt_dep]; exact hG
  msg := fun _ h => h
  run := fun hG hr => by show D ≤ _; rw [runCmd_dep_all hr]; exact hG
  exec := fun hG hx => by show D ≤ _; rw [exExec_dep hx]; exact hG

/-- the depths whose marks a command list at depth `D` must leave alone: `1 … D` (all of them: a `:g` below works at a
    depth `k` with `D < k ≤ 7`, and `lbuf_globget` for such a `k` keeps the bits `< 8`, which `0 … D` are) -/
def upTo (D : Nat) : Nat → Prop := fun k => k ≤ D

theorem carry_stable (D : Nat) (lb0 : Lb) :
    StableAt (fun k => D < k ∧ k ≤ 7) (OnLb (Carry (upTo D) lb0)) (Carry (upTo D) lb0) :=
  StableAt.onLb (edit := fun h he => h.trans (edit_carry he h.globLen))
    (undo := fun h he => h.trans (undo_carry he h.globLen))
    (redo := fun h he => h.trans (redo_carry he h.globLen))
    (setMark := fun c p o h => h.trans (setMark_carry c p o h.globLen))
    (globSet := fun p k hk h =>
      h.trans (globSet_carry p k (fun j hj => by have := hk.1; unfold upTo at hj; omega) h.globLen))
    (globGet := fun p k hk h => h.trans (globGet_carry p k
      (fun j hj => by have := hk.1; have := hk.2; unfold upTo at hj; omega) h.globLen))

theorem exExec_carry (f d : Nat) (ln : Bytes) (hq : C15.quietLine d ln = true) (ed ed' : Ed) (r : Int) (lb : Lb)
    (hl : ed.lb = some lb) (hg : GlobLen lb) (h : exExec f ed ln = some (r, ed')) :
    ∃ lb', ed'.lb = some lb' ∧ Carry (upTo ed.xgdep) lb lb' :=
  exExec_stable (carry_stable ed.xgdep lb) (depthGuard ed.xgdep) f d ln hq ed r ed' (Nat.le_refl _)
    ⟨lb, hl, Carry.refl hg⟩ h

theorem ecGlob_carry (f d : Nat) (loc cmd arg : Bytes) (hq : C15.quietLine d (reRead arg).2 = true) (ed ed' : Ed) (r : Int)
    (lb : Lb) (hl : ed.lb = some lb) (hg : GlobLen lb) (h : ecGlob f ed loc cmd arg = some (r, ed')) :
    ∃ lb', ed'.lb = some lb' ∧ Carry (upTo ed.xgdep) lb lb' := by
  cases f with
  | zero => rw [ecGlob] at h; cases h
  | succ f =>
    exact (carry_stable ed.xgdep lb).ofGStep
      (Lemmas.ExStep.GStepAt.ecGlob (depthGuard ed.xgdep) (Lemmas.ExStep.GStepAt.exExec (depthGuard ed.xgdep) f d _ hq)
        (Nat.le_refl _) h) ⟨lb, hl, Carry.refl hg⟩

end Neatvi.Lemmas.C15b
