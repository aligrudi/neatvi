import NeatviVerif.Lemmas.C15bRun
/-!
# C15b lemmas, part 7: a complete `:g` leaves no mark of its own depth

The final loop of `ec_glob` (`for (i = 0; i < lbuf_len(xb); i++) lbuf_globget(xb, i, xgdep)`) clears the bit of its
depth on every line — also after a `break` (`sweep_clears`; `Props/C15b.inner_global_sweeps_own_marks` is the statement
for `ec_glob`).  So the next inner `:g` the outer one starts (one round later, at the same depth) finds only the marks
it sets itself: no line outside its range is visited because of a mark a previous inner `:g` left there.
`marks_depth_le_7`: the depth guard.
-/
namespace Neatvi.Lemmas.C15b
open Neatvi Neatvi.Lbuf Neatvi.Ex Neatvi.Rset Neatvi.Props Neatvi.Props.C15
open Neatvi.Lemmas.ExFrame

theorem foldl_globGet_bit (dep : Nat) (hdep : dep < 8) : ∀ (l : List Nat) (lb : Lb) (k : Nat),
    ((l.foldl (fun lb k => (globGet lb k dep).2) lb).glob.getD k 0).testBit dep =
      ((lb.glob.getD k 0).testBit dep && !(l.contains k)) := by
  intro l
  induction l with
  | nil => intro lb k; simp
  | cons a l ih =>
    intro lb k
    rw [List.foldl_cons, ih, globGet_entry]
    by_cases hk : k = a
    · subst hk
      rw [if_pos rfl, clr_testBit_low _ _ _ hdep]
      simp
    · rw [if_neg hk]
      simp [hk]

theorem sweep_clears (dep : Nat) (hdep : dep < 8) (lb : Lb) (hg : GlobLen lb) (k : Nat) :
    (((List.range lb.lines.length).foldl (fun lb k => (globGet lb k dep).2) lb).glob.getD k 0).testBit dep = false := by
  rw [foldl_globGet_bit dep hdep]
  by_cases hk : k < lb.lines.length
  · have : (List.range lb.lines.length).contains k = true := by
      rw [List.contains_iff_mem]; exact List.mem_range.2 hk
    rw [this]
    simp
  · unfold GlobLen at hg
    rw [getD_of_le (by omega)]
    simp

/-- **the marks are bits of a `char`**: `ec_glob` called with seven `:g` nested already returns 1 at once with the message
    and leaves the state alone apart from it — no `lbuf_globset`, no `lbuf_globget`; and whenever it does run its
    loop (return value 0) the depth `xgdep + 1` it marks, searches and sweeps with (`ecGlob_outcomes_all`) is at most 7.
    So `lbuf_globset` / `lbuf_globget` are only ever called with `d ≤ 7`: the restriction to the bits `k < 8` in
    `globGet_other_depths` covers every reachable call, and `Props/C15b.beyond_depth_7_set` / `globGet_beyond` describe calls that
    do not happen. -/
theorem marks_depth_le_7 (f : Nat) (ed ed' : Ed) (loc cmd arg : Bytes) (r : Int)
    (h : ecGlob (f + 1) ed loc cmd arg = some (r, ed')) :
    (7 ≤ ed.xgdep → r = 1 ∧ ed' = ed.show (strOf "global commands nested too deep")) ∧
    (r = 0 → ed.xgdep + 1 ≤ 7) := by
  constructor
  · intro h7
    rw [ecGlob_eq, if_pos h7] at h
    cases h; exact ⟨rfl, rfl⟩
  · intro h0
    obtain ⟨_, hr | ⟨_, hlt, _⟩⟩ := ecGlob_outcomes_all f ed ed' loc cmd arg r h
    · rw [h0] at hr; cases hr
    · omega

/-- at the limit: `%g/b/d` with seven `:g` nested is refused -/
theorem guard_example (f : Nat) (ed : Ed) (h7 : ed.xgdep = 7) :
    ecGlob (f + 1) ed [37] [103] [47, 98, 47, 100] = some (1, ed.show (strOf "global commands nested too deep")) := by
  rw [ecGlob_eq, if_pos (by omega)]

end Neatvi.Lemmas.C15b
