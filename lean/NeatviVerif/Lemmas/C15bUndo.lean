import NeatviVerif.Lemmas.C15Stable
/-!
# C15b lemmas, part 6: a nested `:g` is one undo step

`Props/C15.one_undo_step`: a quiet command list never bumps the sequence counter `useq` of the current buffer.  Here the
other half: every undo record (`lbuf_opt`) written while the list runs — by the `:s`, `:d`, … of the innermost list of a
nest of `:g`s — carries that one sequence number, and the records that were there before are a prefix of the history.
`lbuf_undo` undoes the records on top of the history that carry the sequence number of the topmost one
(`Props/C04`): one `u` takes back everything the nested `:g` did.
-/
namespace Neatvi.Lemmas.C15b
open Neatvi Neatvi.Lbuf Neatvi.Ex Neatvi.Rset Neatvi.Props Neatvi.Props.C15
open Neatvi.Lemmas.ExFrame Neatvi.Lemmas.Hist

/-- the history of `lb` is a prefix of the history of `lb0` followed by records that carry the sequence number `u`,
    and `u` is still the sequence counter -/
def OneSeq (lb0 : Lb) (u : Nat) (lb : Lb) : Prop :=
  lb.useq = u ∧ ∃ (k : Nat) (news : List Entry), lb.hist = lb0.hist.take k ++ news ∧ ∀ e ∈ news, e.seq = u

theorem OneSeq.refl (lb0 : Lb) : OneSeq lb0 lb0.useq lb0 :=
  ⟨rfl, lb0.hist.length, [], by simp, fun e he => by cases he⟩

theorem OneSeq.of_eq {lb0 lb lb' : Lb} {u : Nat} (h : OneSeq lb0 u lb) (hu : lb'.useq = lb.useq) (hh : lb'.hist = lb.hist) :
    OneSeq lb0 u lb' := by
  obtain ⟨h1, k, news, h2, h3⟩ := h
  exact ⟨hu.trans h1, k, news, hh.trans h2, h3⟩

theorem replace_hist {lb lb' : Lb} {s : Option Bytes} {pos nDel : Nat} (h : replace lb s pos nDel = some lb') :
    lb'.hist = lb.hist ∧ lb'.useq = lb.useq := by
  have hb := (replace_lines h).1
  obtain ⟨lb2, h1, _, h3, _, h5⟩ := replace_spec lb s pos nDel hb
  rw [h] at h1; cases h1
  exact ⟨h3, h5⟩

theorem opt_hist (lb : Lb) (buf : Option Bytes) (pos nDel : Nat) :
    ∃ e, (opt lb buf pos nDel).hist = lb.hist.take lb.histU ++ [e] ∧ e.seq = lb.useq ∧ (opt lb buf pos nDel).useq = lb.useq :=
  ⟨_, rfl, rfl, rfl⟩

theorem edit_oneSeq {lb0 lb lb' : Lb} {u : Nat} {buf : Option Bytes} {b e : Nat} (h : OneSeq lb0 u lb)
    (he : edit lb buf b e = some lb') : OneSeq lb0 u lb' := by
  obtain ⟨_, ⟨_, _, rfl⟩ | he⟩ := Lemmas.C06.edit_cases he
  · exact h
  · obtain ⟨hh, hu⟩ := replace_hist he
    obtain ⟨h1, k, news, h2, h3⟩ := h
    obtain ⟨en, e1, e2, e3⟩ := opt_hist lb buf (min b lb.lines.length) (min e lb.lines.length - min b lb.lines.length)
    refine ⟨by rw [hu, e3, h1], min lb.histU k, news.take (lb.histU - (lb0.hist.take k).length) ++ [en], ?_, ?_⟩
    · rw [hh, e1, h2, List.take_append, List.take_take, List.append_assoc]
    · intro x hx
      rw [List.mem_append] at hx
      rcases hx with hx | hx
      · exact h3 x (List.mem_of_mem_take hx)
      · simp only [List.mem_singleton] at hx
        rw [hx, e2, h1]

theorem histRel : ReplRel (fun lb lb' => lb'.hist = lb.hist ∧ lb'.useq = lb.useq) :=
  .ofParts
    (refl := fun _ => ⟨rfl, rfl⟩)
    (trans := fun h1 h2 => ⟨h2.1.trans h1.1, h2.2.trans h1.2⟩)
    (repl := fun _ _ hr => by
      have h := replace_hist hr
      exact h)
    (pos := fun _ _ => ⟨rfl, rfl⟩)
    (marks := fun _ _ => ⟨loadMarks_hist _ _, loadMarks_useq _ _⟩)

theorem undo_hist {lb lb' : Lb} {rc : Nat} (h : Lbuf.undo lb = some (rc, lb')) : lb'.hist = lb.hist ∧ lb'.useq = lb.useq :=
  undo_rel histRel h

theorem redo_hist {lb lb' : Lb} {rc : Nat} (h : Lbuf.redo lb = some (rc, lb')) : lb'.hist = lb.hist ∧ lb'.useq = lb.useq :=
  redo_rel histRel h

theorem oneSeq_stable (lb0 : Lb) (u : Nat) : StableAt (fun _ => True) (OnLb (OneSeq lb0 u)) (OneSeq lb0 u) :=
  StableAt.onLb (edit := fun h he => edit_oneSeq h he)
    (undo := fun h he => h.of_eq (undo_hist he).2 (undo_hist he).1)
    (redo := fun h he => h.of_eq (redo_hist he).2 (redo_hist he).1)
    (setMark := fun _ _ _ h => h.of_eq (setMark_useq _ _ _ _) (setMark_hist _ _ _ _))
    (globSet := fun _ _ _ h => h.of_eq rfl rfl)
    (globGet := fun _ _ _ h => h.of_eq rfl rfl)

theorem exExec_oneSeq (f d : Nat) (ln : Bytes) (hq : C15.quietLine d ln = true) (ed ed' : Ed) (r : Int) (lb : Lb)
    (hl : ed.lb = some lb) (h : exExec f ed ln = some (r, ed')) :
    ∃ lb', ed'.lb = some lb' ∧ OneSeq lb lb.useq lb' :=
  exExec_stable (oneSeq_stable lb lb.useq) Guard.any f d ln hq ed r ed' trivial ⟨lb, hl, OneSeq.refl lb⟩ h

theorem ecGlob_oneSeq (f d : Nat) (loc cmd arg : Bytes) (hq : C15.quietLine d (reRead arg).2 = true) (ed ed' : Ed) (r : Int)
    (lb : Lb) (hl : ed.lb = some lb) (h : ecGlob f ed loc cmd arg = some (r, ed')) :
    ∃ lb', ed'.lb = some lb' ∧ OneSeq lb lb.useq lb' := by
  cases f with
  | zero => rw [ecGlob] at h; cases h
  | succ f =>
    exact (oneSeq_stable lb lb.useq).ofGStep
      (Lemmas.ExStep.GStepAt.ecGlob Guard.any (Lemmas.ExStep.GStepAt.exExec Guard.any f d _ hq) trivial h) ⟨lb, hl, OneSeq.refl lb⟩

end Neatvi.Lemmas.C15b
