import NeatviVerif.Lemmas.C15bRun
import NeatviVerif.Lemmas.C05dVisit
/-!
# C15b lemmas, part 5: a round of the outer `:g` whose command list is an inner `:g`

One round of the loop of `ec_glob` at line `i` (`Lemmas/C05dVisit.globStep`, `scan_succ`): if the line matches, the
command list runs with the current row on it, the loop goes on from `i2 = MIN(i, xrow)`, and
`while (i < lbuf_len(xb) && !lbuf_globget(xb, i, xgdep)) i++` finds the next line to work on.

Here: what such a round does to the marks before the search (`globStep_carry`: the slot map of
`Lemmas/C15bRun.exExec_carry`), the invariant of the loop (`LoopInv`: nothing marked at or before the current line), its
rounds (`RoundStart`), and the marking loop at the start of `ec_glob` bit by bit (`foldl_globSet_bits`).  The statements
about a round — the line found is the first surviving marked line at or after `i2`; what is left behind `i2` is lost
(`:g/a/s/$/!/|%g/b/d` on `b b a a b`) — are in `Props/C15b`, section 3.
-/
namespace Neatvi.Lemmas.C15b
open Neatvi Neatvi.Lbuf Neatvi.Ex Neatvi.Rset Neatvi.Props Neatvi.Props.C15
open Neatvi.Lemmas.ExFrame Neatvi.Lemmas.C05d

/-- no line in the slots `0 … n-1` carries the mark of depth `dep` -/
def CleanBelow (lb : Lb) (dep n : Nat) : Prop := ∀ k, k < n → (lb.glob.getD k 0).testBit dep = false

theorem globStep_carry (f d : Nat) (neg : Bool) (body : Bytes) (re : RStr) (ed ed2 : Ed) (i i2 : Int) (lb : Lb)
    (hq : C15.quietLine d body = true) (hl : ed.lb = some lb) (hg : GlobLen lb) (stop : Bool)
    (hstep : globStep f neg body re ed i = some (stop, ed2, i2)) :
    ed2.xgdep = ed.xgdep ∧ (stop = false → i2 ≤ i) ∧ ∃ lb2, ed2.lb = some lb2 ∧ Carry (upTo ed.xgdep) lb lb2 := by
  obtain ⟨_, ⟨rfl, rfl, rfl⟩ | ⟨r, hx, hc⟩⟩ := globStep_cases hstep
  · exact ⟨rfl, fun _ => Int.le_refl _, lb, hl, Carry.refl hg⟩
  · refine ⟨(exExec_dep hx).trans rfl, ?_,
      exExec_carry f d body hq { ed with xrow := i } ed2 r lb (by rw [← hl]; exact lb_of_bufs rfl) hg hx⟩
    rcases hc with ⟨rfl, _⟩ | ⟨_, rfl⟩
    · intro h; cases h
    · intro _; omega

theorem carry_bit {S : Nat → Prop} {lb lb2 : Lb} {sm : Slots} (w : CarryW S lb lb2 sm) {dep : Nat} (hs : S dep) (k : Nat) :
    (lb2.glob.getD k 0).testBit dep = true ↔ ∃ p, sm k = some p ∧ (lb.glob.getD p.1 0).testBit dep = true := by
  rw [w.bits k dep hs]
  cases h : sm k with
  | none => simp
  | some p => simp

/-- at the start of a round of the `:g` of depth `dep` on line `i`: the loop runs at that depth, the table of marks is
    as long as the table of lines, and no line at or before `i` carries the mark of depth `dep` -/
def LoopInv (dep : Nat) (ed : Ed) (i : Int) : Prop :=
  ed.xgdep = dep ∧ ∃ lb, ed.lb = some lb ∧ GlobLen lb ∧ CleanBelow lb dep (i.toNat + 1)

theorem foldl_setLb_lb (F : Lb → Nat → Lb) : ∀ (l : List Nat) (ed : Ed) (lb : Lb), ed.lb = some lb →
    (l.foldl (fun (ed : Ed) k => match ed.lb with | some lb => ed.setLb (F lb k) | none => ed) ed).lb =
      some (l.foldl F lb) := by
  intro l
  induction l with
  | nil => intro ed lb h; exact h
  | cons a l ih =>
    intro ed lb h
    rw [List.foldl_cons, List.foldl_cons]
    apply ih
    rw [h]
    simp only []
    rw [setLb_lb, h]; rfl

theorem foldl_globSet_bits (b dep : Nat) : ∀ (l : List Nat) (lb : Lb) (j k : Nat),
    (((l.foldl (fun lb x => globSet lb (b + 1 + x) dep) lb).glob.getD j 0).testBit k =
      ((lb.glob.getD j 0).testBit k || (k == dep && (j < lb.glob.length && l.any (fun x => b + 1 + x == j))))) ∧
    (l.foldl (fun lb x => globSet lb (b + 1 + x) dep) lb).lines = lb.lines ∧
    (l.foldl (fun lb x => globSet lb (b + 1 + x) dep) lb).glob.length = lb.glob.length := by
  intro l
  induction l with
  | nil => intro lb j k; simp
  | cons a l ih =>
    intro lb j k
    rw [List.foldl_cons]
    obtain ⟨h1, h2, h3⟩ := ih (globSet lb (b + 1 + a) dep) j k
    have hl := (globSet_rest lb (b + 1 + a) dep).2.2.2.2
    refine ⟨?_, h2, h3.trans hl⟩
    rw [h1, hl, List.any_cons]
    generalize (l.any fun x => b + 1 + x == j) = E
    generalize hB : (k == dep) = B
    by_cases hp : b + 1 + a < lb.glob.length
    · rw [globSet_sets lb _ dep j k hp, hB]
      by_cases hj : j = b + 1 + a
      · subst hj
        rw [beq_self_eq_true, decide_eq_true hp]
        generalize (lb.glob.getD (b + 1 + a) 0).testBit k = A
        cases A <;> cases B <;> cases E <;> rfl
      · have e1 : (j == b + 1 + a) = false := by simpa using hj
        have e2 : (b + 1 + a == j) = false := by simpa using fun h => hj h.symm
        rw [e1, e2]
        generalize (lb.glob.getD j 0).testBit k = A
        generalize decide (j < lb.glob.length) = C
        cases A <;> cases B <;> cases C <;> cases E <;> rfl
    · have hk : ((globSet lb (b + 1 + a) dep).glob.getD j 0).testBit k = (lb.glob.getD j 0).testBit k := by
        rw [globSet_entry, if_neg (fun h => hp h.2)]
      rw [hk]
      by_cases hj : b + 1 + a = j
      · subst hj
        rw [decide_eq_false hp]
        generalize (lb.glob.getD (b + 1 + a) 0).testBit k = A
        cases A <;> cases B <;> rfl
      · have e2 : (b + 1 + a == j) = false := by simpa using hj
        rw [e2]
        generalize (lb.glob.getD j 0).testBit k = A
        generalize decide (j < lb.glob.length) = C
        cases A <;> cases B <;> cases C <;> cases E <;> rfl

/-- the round starts of the loop: `(s, j)` is the state and line of this or a later round of the loop that stands at
    `(ed, i)` -/
inductive RoundStart (f : Nat) (neg : Bool) (body : Bytes) (re : RStr) (dep : Nat) : Ed → Int → Ed → Int → Prop
  | here (ed : Ed) (i : Int) : RoundStart f neg body re dep ed i ed i
  | next {ed ed2 s : Ed} {i i2 j : Int} : ¬ (i ≥ ed.len) → globStep f neg body re ed i = some (false, ed2, i2) → ¬ (i2 < 0) →
      RoundStart f neg body re dep (ecGlob.scan.adv dep (ed2.len.toNat + 1) ed2 i2).1
        (ecGlob.scan.adv dep (ed2.len.toNat + 1) ed2 i2).2 s j →
      RoundStart f neg body re dep ed i s j

end Neatvi.Lemmas.C15b
