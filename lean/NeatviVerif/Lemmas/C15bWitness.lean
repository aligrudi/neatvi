import NeatviVerif.Lemmas.C15bVisit
import NeatviVerif.Props.C06b
/-!
# C15b lemmas, part 8: running a `:g` in the kernel; the witness against "any range"

The handlers of the ex layer are one mutual recursion on the fuel, which the kernel does not unfold.  `scanF` /
`ecGlobF` are the loop of `ec_glob` and `ec_glob` itself with the command list abstracted to a function `bodyF`, by
structural recursion: what they compute is what the model computes (`ecGlobF_sound`), and they can be evaluated.

The witness: a buffer `b b c m b` in which an outer `:g` (depth 1) stands on line 2 (`c`) and still has its mark on line 3
(`m`).  The inner `:g`  `%g/b/d`  deletes the two lines before and the line after: the marked line moves to slot 1,
the current row ends on 2, the outer loop restarts at `MIN(2, 2) = 2`: the marked line is left behind.
-/
namespace Neatvi.Lemmas.C15b
open Neatvi Neatvi.Lbuf Neatvi.Ex Neatvi.Rset Neatvi.Props Neatvi.Props.C15
open Neatvi.Lemmas.ExFrame Neatvi.Lemmas.C05d Neatvi.Lemmas.C06b Neatvi.Lemmas.C20c

/-- `while (i < lbuf_len(xb) && !lbuf_globget(xb, i, dep)) i++` -/
def advF (dep : Nat) : Nat → Ed → Int → Ed × Int
  | 0, ed, i => (ed, i)
  | h + 1, ed, i =>
    if i ≥ ed.len then (ed, i) else
    match ed.lb with
    | none => (ed, i)
    | some lb =>
      if (globGet lb i.toNat dep).1 then (ed.setLb (globGet lb i.toNat dep).2, i)
      else advF dep h (ed.setLb (globGet lb i.toNat dep).2) (i + 1)

theorem adv_eq_advF (dep : Nat) : ∀ (h : Nat) (ed : Ed) (i : Int), ecGlob.scan.adv dep h ed i = advF dep h ed i := by
  intro h
  induction h with
  | zero => intro ed i; rw [ecGlob.scan.adv, advF]
  | succ h ih =>
    intro ed i
    rw [ecGlob.scan.adv, advF]
    by_cases hc : i ≥ ed.len
    · rw [if_pos hc, if_pos hc]
    · rw [if_neg hc, if_neg hc]
      cases hl : ed.lb with
      | none => rfl
      | some lb =>
        simp only []
        by_cases hm : (globGet lb i.toNat dep).1 = true
        · rw [if_pos hm, if_pos hm]
        · rw [if_neg hm, if_neg hm]; exact ih _ _

/-- one round of the loop, the command list being `bodyF` -/
def globStepF (bodyF : Ed → R Int) (neg : Bool) (re : RStr) (ed : Ed) (i : Int) : Option (Bool × Ed × Int) :=
  match ed.line i with
  | none => none
  | some ln =>
    match rstrFind re ln 16 0 ND NG with
    | none => none
    | some (res, _, _) =>
      if (res < 0) == neg then
        (match bodyF { ed with xrow := i } with
        | none => none
        | some (r, ed) => if r != 0 then some (true, ed, i) else some (false, ed, max 0 (min i ed.xrow)))
      else some (false, ed, i)

/-- the loop of `ec_glob`, the command list being `bodyF` -/
def scanF (bodyF : Ed → R Int) (neg : Bool) (re : RStr) (dep : Nat) : Nat → Ed → Int → Option Ed
  | 0, _, _ => none
  | g + 1, ed, i =>
    if i ≥ ed.len then some ed else
    match globStepF bodyF neg re ed i with
    | none => none
    | some (true, ed, _) => some ed
    | some (false, ed, i) =>
      if i < 0 then none else
      scanF bodyF neg re dep g (advF dep (ed.len.toNat + 1) ed i).1 (advF dep (ed.len.toNat + 1) ed i).2

/-- `bodyF` computes what `ex_exec` does with the command list `body` (when `bodyF` gives a result) -/
def Runs (f : Nat) (body : Bytes) (bodyF : Ed → R Int) : Prop :=
  ∀ e r e', bodyF e = some (r, e') → exExec f e body = some (r, e')

theorem globStepF_sound {f : Nat} {body : Bytes} {bodyF : Ed → R Int} (hb : Runs f body bodyF) (neg : Bool) (re : RStr)
    (ed : Ed) (i : Int) (x : Bool × Ed × Int) (h : globStepF bodyF neg re ed i = some x) :
    globStep f neg body re ed i = some x := by
  unfold globStepF at h
  unfold globStep
  split at h
  · cases h
  · rename_i ln hln
    rw [hln]
    simp only []
    split at h
    · cases h
    · rename_i res o k hfind
      rw [hfind]
      simp only []
      split at h
      · rename_i hc
        rw [if_pos hc]
        split at h
        · cases h
        · rename_i r e' hbf
          rw [hb _ _ _ hbf]
          exact h
      · rename_i hc
        rw [if_neg hc]
        exact h

theorem scanF_sound {f : Nat} {body : Bytes} {bodyF : Ed → R Int} (hb : Runs f body bodyF) (neg : Bool) (re : RStr)
    (dep : Nat) : ∀ (g : Nat) (ed : Ed) (i : Int) (ed' : Ed), scanF bodyF neg re dep g ed i = some ed' →
      ecGlob.scan f neg body re dep g ed i = some ed' := by
  intro g
  induction g with
  | zero => intro ed i ed' h; rw [scanF] at h; cases h
  | succ g ih =>
    intro ed i ed' h
    rw [scanF] at h
    rw [scan_succ]
    split at h
    · rename_i hc; rw [if_pos hc]; exact h
    · rename_i hc
      rw [if_neg hc]
      split at h
      · cases h
      · rename_i ed2 i2 hs
        rw [globStepF_sound hb _ _ _ _ _ hs]
        exact h
      · rename_i ed2 i2 hs
        rw [globStepF_sound hb _ _ _ _ _ hs]
        simp only []
        split at h
        · cases h
        · rename_i hneg
          rw [if_neg hneg, adv_eq_advF]
          exact ih _ _ _ h

/-- `ec_glob`, the command list being `bodyF` -/
def ecGlobF (bodyF : Ed → R Int) (ed : Ed) (loc cmd arg : Bytes) : R Int :=
  if ed.xgdep ≥ 7 then some ((1 : Int), ed.show (strOf "global commands nested too deep")) else
  match exRegion ed (if loc.isEmpty && ed.xgdep == 0 then [37] else loc) with
  | none => none
  | some ((rc, b, e), ed) =>
    if rc != 0 then some (1, ed) else
    if (globPrep ed arg).xkwddir == 0 then some (1, globPrep ed arg) else
    match (globPrep ed arg).mkRe (globPrep ed arg).xkwd with
    | none => none
    | some none => some (1, globPrep ed arg)
    | some (some re) =>
      match scanF bodyF (hasBang cmd || cmd.headD 0 == 118) re ((globPrep ed arg).xgdep + 1)
          (globBudget (globMark (globPrep ed arg) b e ((globPrep ed arg).xgdep + 1)))
          (globMark (globPrep ed arg) b e ((globPrep ed arg).xgdep + 1)) b with
      | none => none
      | some ed2 =>
        some (0, { globSweep ed2 ((globPrep ed arg).xgdep + 1) with xgdep := (globPrep ed arg).xgdep + 1 - 1 })

theorem ecGlobF_sound {f : Nat} {bodyF : Ed → R Int} (ed : Ed) (loc cmd arg : Bytes) (hb : Runs f (reRead arg).2 bodyF)
    (x : Int × Ed) (h : ecGlobF bodyF ed loc cmd arg = some x) : ecGlob (f + 1) ed loc cmd arg = some x := by
  rw [ecGlob_eq]
  unfold ecGlobF at h
  split at h
  · rename_i hg; rw [if_pos hg]; exact h
  rename_i hg
  rw [if_neg hg]
  split at h
  · cases h
  · rename_i rc b e ed1 hr
    rw [hr]
    simp only []
    split at h
    · rename_i hc; rw [if_pos hc]; exact h
    · rename_i hc
      rw [if_neg hc]
      split at h
      · rename_i hk; rw [if_pos hk]; exact h
      · rename_i hk
        rw [if_neg hk]
        split at h
        · cases h
        · rename_i hre; rw [hre]; exact h
        · rename_i re hre
          rw [hre]
          simp only []
          split at h
          · cases h
          · rename_i ed2 hs
            rw [scanF_sound hb _ _ _ _ _ _ _ hs]
            exact h

/-- `:d` without address and argument -/
def delF (ed : Ed) : R Int := Lemmas.C20.ecDelete false ed [] []

theorem runCmd_delete (f : Nat) (ed : Ed) : runCmd (f + 1) ed "ec_delete" [] [100] [] none = delF ed := by
  rw [Lemmas.C20.runCmd_eq]
  rfl

theorem exExec_one (f : Nat) (ed ed1 : Ed) (ln a loc cmd arg : Bytes) (hd : String) (r : Int) (hne : ln ≠ [])
    (hlen : ln.length < Gen.EXLEN) (ht : takesText a = false)
    (hp : (parse1 ln).idx = some (a, hd) ∧ (parse1 ln).rest = [] ∧ (parse1 ln).loc = loc ∧ (parse1 ln).cmd = cmd ∧
      (parse1 ln).arg = arg)
    (hr : runCmd f ed hd loc cmd arg none = some (r, ed1)) : exExec (f + 1) ed ln = some (r, ed1) := by
  obtain ⟨h1, h2, rfl, rfl, rfl⟩ := hp
  exact Props.C06b.exExec_single f ed ed1 ln a hd r hne hlen h1 ht h2 hr

theorem delF_runs (f : Nat) : Runs (f + 2) [100] delF := by
  intro e r e' h
  refine exExec_one (f + 1) e e' [100] [100] [] [100] [] "ec_delete" r (by decide) (by decide) (by decide)
    (by decide +kernel) ?_
  rw [runCmd_delete]
  exact h

theorem glob_runs {m : Nat} {ln loc arg body : Bytes} {bodyF : Ed → R Int} (hb : Runs m body bodyF)
    (hne : ln ≠ []) (hlen : ln.length < Gen.EXLEN)
    (hp : (parse1 ln).idx = some ([103], "ec_glob") ∧ (parse1 ln).rest = [] ∧ (parse1 ln).loc = loc ∧
      (parse1 ln).cmd = [103] ∧ (parse1 ln).arg = arg)
    (hbody : (reRead arg).2 = body) : Runs (m + 3) ln (fun e => ecGlobF bodyF e loc [103] arg) := by
  intro e r e' h
  refine exExec_one (m + 2) e e' ln [103] loc [103] arg "ec_glob" r hne hlen (by decide) hp ?_
  rw [runCmd_glob]
  exact ecGlobF_sound e _ _ _ (by rw [hbody]; exact hb) _ h

/-- the lines `b b c m b`; the outer `:g` (depth 1) has its mark on `m`; it stands on `c` (row 2) -/
def wEd : Ed :=
  { bufs := [some { path := [102], lb := { lines := [[98, 10], [98, 10], [99, 10], [109, 10], [98, 10]], glob := [0, 0, 0, 2, 0] } }, none],
    xgdep := 1, xrow := 2 }

/-- `%g/b/d` in that state, evaluated -/
theorem wEd_run :
    (ecGlobF delF wEd [37] [103] [47, 98, 47, 100]).map (fun x => (x.1, x.2.xrow, x.2.xgdep)) = some (0, 2, 1) ∧
    (ecGlobF delF wEd [37] [103] [47, 98, 47, 100]).map (fun x => x.2.lb.map (·.lines)) = some (some [[99, 10], [109, 10]]) ∧
    (ecGlobF delF wEd [37] [103] [47, 98, 47, 100]).map (fun x => x.2.lb.map (·.glob)) = some (some [0, 2]) := by
  decide +kernel

/-- the conjecture behind "the outer `:g` still visits each of its marked, surviving lines" for an inner `:g` over
    *any* range: when the inner `:g` returns, no line the outer `:g` has marked sits before the index the outer loop
    restarts from (`MIN(i, xrow)`, `i` the line the outer `:g` stands on) -/
def inner_global_leaves_nothing_behind_full : Prop :=
  ∀ (f d : Nat) (loc cmd arg : Bytes) (ed ed' : Ed) (r : Int) (lb lb' : Lb) (dep : Nat),
    C15.quietLine d (reRead arg).2 = true → dep < 8 → ed.xgdep = dep → ed.lb = some lb → GlobLen lb → 0 ≤ ed.xrow →
    CleanBelow lb dep (ed.xrow.toNat + 1) → ecGlob f ed loc cmd arg = some (r, ed') → ed'.lb = some lb' →
    CleanBelow lb' dep (min ed.xrow ed'.xrow).toNat

/-- the run of the witness on the model itself -/
theorem wEd_ecGlob (f : Nat) : ∃ ed' lb', ecGlob (f + 3) wEd [37] [103] [47, 98, 47, 100] = some (0, ed') ∧
    ed'.lb = some lb' ∧ ed'.xrow = 2 ∧ ed'.xgdep = 1 ∧ lb'.lines = [[99, 10], [109, 10]] ∧ lb'.glob = [0, 2] := by
  obtain ⟨h1, h2, h3⟩ := wEd_run
  obtain ⟨⟨r, ed'⟩, hx, hv⟩ := Option.map_eq_some_iff.1 h1
  simp only [Prod.mk.injEq] at hv
  obtain ⟨rfl, hrow, hdepth⟩ := hv
  rw [hx] at h2 h3
  obtain ⟨lb', hl', hlines⟩ := Option.map_eq_some_iff.1 (Option.some.inj h2)
  have h3 : ed'.lb.map (·.glob) = some [0, 2] := Option.some.inj h3
  rw [hl'] at h3
  exact ⟨ed', lb', ecGlobF_sound wEd [37] [103] [47, 98, 47, 100]
    (by rw [show (reRead [47, 98, 47, 100]).2 = [100] by decide +kernel]; exact delF_runs f) _ hx,
    hl', hrow, hdepth, hlines, Option.some.inj h3⟩

end Neatvi.Lemmas.C15b
