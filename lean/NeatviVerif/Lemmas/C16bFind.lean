import NeatviVerif.Lemmas.C16bUtf8
/-!
# C16b, part 2: `rset_find` / `rstr_find` report offsets on character boundaries (the regex engine path)
-/
namespace Neatvi.Props.C16b
open Neatvi Neatvi.Spec Neatvi.Regex Neatvi.Rset Neatvi.Ex Neatvi.Props.C11b Neatvi.Props.C14

theorem offB_pair_getD {cs : List Nat} {subs : List (Int × Int)}
    (h : ∀ so eo, (so, eo) ∈ subs → OffB cs so ∧ OffB cs eo) (k : Nat) :
    OffB cs (subs.getD k (-1, -1)).1 ∧ OffB cs (subs.getD k (-1, -1)).2 := by
  rw [List.getD_eq_getElem?_getD]
  cases hk : subs[k]? with
  | none => exact ⟨Or.inl rfl, Or.inl rfl⟩
  | some p =>
    obtain ⟨so, eo⟩ := p
    exact h so eo (List.mem_of_getElem? hk)

theorem find_offs_boundary (r : RSet) (ps cs : List Nat) (hvp : Valid ps) (hvs : Valid cs) (cflg : Nat)
    (hc : regcomp (encStr ps) cflg = some (some r.prog)) (n flg nd ngrps : Nat) (res : Int)
    (offs : List Int) (c : Nat) (h : Rset.find r (encStr cs) n flg nd ngrps = some (res, offs, c)) :
    ∀ x ∈ offs, OffB cs x := by
  unfold Rset.find at h
  split at h
  · cases h; intro x hx; cases hx
  · dsimp only at h
    split at h
    · cases h
    · cases h; intro x hx; cases hx
    · rename_i m c' subs hex
      split at h
      · cases h; intro x hx; cases hx
      · simp only [Option.some.injEq, Prod.mk.injEq] at h
        obtain ⟨_, ho, _⟩ := h
        have hb := (offsets_on_boundaries ps cs hvp hvs cflg _ _ nd ngrps r.prog hc m c' subs hex).2
        subst ho
        intro x hx
        simp only [List.mem_flatMap, List.mem_range] at hx
        obtain ⟨i, _, hi⟩ := hx
        split at hi
        · have := offB_pair_getD hb
          simp only [List.mem_cons, List.not_mem_nil, or_false] at hi
          rcases hi with rfl | rfl
          · exact (this _).1
          · exact (this _).2
        · simp only [List.mem_cons, List.not_mem_nil, or_false, or_self] at hi
          exact Or.inl hi

theorem offBd_getD_neg {s : Bytes} {offs : List Int} (h : ∀ x ∈ offs, OffBd s x) (i : Nat) :
    OffBd s (offs.getD i (-1)) := by
  rw [List.getD_eq_getElem?_getD]
  cases hi : offs[i]? with
  | none => exact Or.inl rfl
  | some x => exact h x (List.mem_of_getElem? hi)

theorem isBd_getD_toNat {s : Bytes} {offs : List Int} (hs : IsU8 s) (h : ∀ x ∈ offs, OffBd s x) (i : Nat) :
    IsBd s (offs.getD i 0).toNat := by
  rw [List.getD_eq_getElem?_getD]
  cases hi : offs[i]? with
  | none => exact isBd_zero hs
  | some x => exact isBd_toNat hs (h x (List.mem_of_getElem? hi))

theorem rsFind_some {re : RStr} {s : Bytes} {nb : Bool} {so eo : Nat} {offs : List Int}
    (h : rsFind re s nb = some (some (so, eo, offs))) :
    ∃ res c, rstrFind re s 16 (if nb then RE_NOTBOL else 0) ND NG = some (res, offs, c) ∧ 0 ≤ res ∧
      so = (offs.getD 0 0).toNat ∧ eo = (offs.getD 1 0).toNat := by
  unfold rsFind at h
  split at h
  · cases h
  · rename_i res offs' c hr
    split at h
    · cases h
    · rename_i hres
      simp only [Option.some.injEq, Prod.mk.injEq] at h
      obtain ⟨h1, h2, h3⟩ := h
      subst h3
      exact ⟨res, c, hr, by omega, h1.symm, h2.symm⟩

theorem boundary_of_offs {re : RStr} {s : Bytes} {nb : Bool} {so eo : Nat} {offs : List Int} (hs : IsU8 s)
    (h : rsFind re s nb = some (some (so, eo, offs))) (ho : ∀ x ∈ offs, OffBd s x) :
    IsBd s so ∧ IsBd s eo ∧ ∀ d : Nat, OffBd s (grpSo offs d) ∧ OffBd s (grpEo offs d) := by
  obtain ⟨res, c, _, _, rfl, rfl⟩ := rsFind_some h
  exact ⟨isBd_getD_toNat hs ho 0, isBd_getD_toNat hs ho 1,
    fun d => ⟨offBd_getD_neg ho _, offBd_getD_neg ho _⟩⟩

theorem rsFind_rs_offs (re : RStr) (r : RSet) (hrs : re.rs = some r) (ps : List Nat) (hvp : Valid ps)
    (cflg : Nat) (hc : regcomp (encStr ps) cflg = some (some r.prog)) {s : Bytes} {nb : Bool} {so eo : Nat}
    {offs : List Int} (hs : IsU8 s) (h : rsFind re s nb = some (some (so, eo, offs))) :
    ∀ x ∈ offs, OffBd s x := by
  obtain ⟨res, c, hr, _, _, _⟩ := rsFind_some h
  obtain ⟨cs, hv, rfl⟩ := hs
  unfold rstrFind at hr
  simp only [hrs] at hr
  intro x hx
  exact offBd_of_offB hv (find_offs_boundary r ps cs hvp hv cflg hc _ _ _ _ res offs c hr x hx)

theorem combined_single_enc (ps : List Nat) :
    combined [some (encStr ps)] = encStr ([40, 40] ++ ps ++ [41, 41]) := by
  rw [C12.combined_one, encStr_append, encStr_append]
  rfl

theorem valid_combined {ps : List Nat} (h : Valid ps) : Valid ([40, 40] ++ ps ++ [41, 41]) :=
  valid_append.mpr ⟨valid_append.mpr ⟨by decide, h⟩, by decide⟩

theorem rstrMake_cases {pat : Bytes} {flg : Nat} {re : RStr} (h : rstrMake pat flg = some (some re)) :
    (re.rs = none ∧ ∃ lbeg wbeg wend lend lit, simple pat = some (lbeg, wbeg, wend, lend, lit) ∧
        re.str = some lit ∧ re.lbeg = lbeg ∧ re.lend = lend ∧ re.wbeg = wbeg ∧ re.wend = wend) ∨
    (∃ r cflg, re.rs = some r ∧ regcomp (combined [some pat]) cflg = some (some r.prog)) := by
  obtain ⟨lbeg, wbeg, wend, lend, lit, hsim, rfl⟩ | ⟨-, r, hm, rfl⟩ := C12.rstrMake_some h
  · exact Or.inl ⟨rfl, lbeg, wbeg, wend, lend, lit, hsim, rfl, rfl, rfl, rfl, rfl⟩
  · exact Or.inr ⟨r, _, rfl, (C12.make_single hm).1⟩

end Neatvi.Props.C16b
