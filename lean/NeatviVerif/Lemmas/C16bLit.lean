import NeatviVerif.Lemmas.C16bFind
import NeatviVerif.Lemmas.C12Literal
import NeatviVerif.Lemmas.C12Utf8
/-!
# C16b, part 3: the literal fast path of `rstr_find` reports offsets on character boundaries
-/
namespace Neatvi.Props.C16b
open Neatvi Neatvi.Uc Neatvi.Spec Neatvi.Rset Neatvi.Ex Neatvi.Props.C11b Neatvi.Props.C14
open Neatvi.C12

/-! ## the literal `rstr_simple` cuts out of a valid pattern is valid -/

theorem isU8_takeWhile {p : Nat → Bool} (hp : ∀ c, p c = false → c < 128) (cs : List Nat) (hv : Valid cs) :
    IsU8 ((encStr cs).takeWhile p) := by
  induction cs with
  | nil => exact isU8_nil
  | cons c cs ih =>
    have hc := (valid_cons.mp hv).1
    rw [encStr_cons]
    by_cases hall : ∀ x ∈ enc c, p x = true
    · rw [List.takeWhile_append_of_pos hall]
      exact isU8_append (isU8_enc hc) (ih (valid_cons.mp hv).2)
    · have : ∃ x ∈ enc c, p x = false := by
        apply Classical.byContradiction
        intro hn
        apply hall
        intro x hx
        cases hpx : p x with
        | true => rfl
        | false => exact absurd ⟨x, hx, hpx⟩ hn
      obtain ⟨x, hx, hpx⟩ := this
      have hx128 := hp x hpx
      have hc128 : c < 128 := by
        apply Classical.byContradiction
        intro hge
        have := enc_high (by omega) hc.2 x hx
        omega
      rw [enc_low hc128] at hx ⊢
      simp only [List.mem_cons, List.not_mem_nil, or_false] at hx
      subst hx
      simp only [List.cons_append, List.nil_append, List.takeWhile_cons, hpx, Bool.false_eq_true, if_false]
      exact isU8_nil

theorem isStop_ascii (c : Nat) (h : (!isStop c) = false) : c < 128 := by
  simp [isStop, Gen.rstrStop] at h
  omega

theorem isU8_drop_two {r : Bytes} (h : IsU8 r) (h1 : r.headD 0 = 92) (h2 : r.getD 1 0 = 60) : IsU8 (r.drop 2) := by
  cases r with
  | nil => exact isU8_nil
  | cons a t =>
    have h1' : a = 92 := h1
    have ht := isU8_ascii_cons h (by omega)
    cases t with
    | nil => exact isU8_nil
    | cons b u =>
      have h2' : b = 60 := h2
      exact isU8_ascii_cons ht (by omega)

theorem simple_lit_valid {pat : Bytes} (hp : IsU8 pat) {lbeg wbeg wend lend : Bool} {lit : Bytes}
    (h : simple pat = some (lbeg, wbeg, wend, lend, lit)) : IsU8 lit := by
  unfold simple at h
  dsimp only at h
  rw [Option.ite_none_right_eq_some] at h
  · have h := h.2
    simp only [Option.some.injEq, Prod.mk.injEq] at h
    obtain ⟨_, _, _, _, hl⟩ := h
    rw [← hl]
    have h1 : IsU8 (if (pat.headD 0 == 94) = true then pat.drop 1 else pat) := by
      split
      · rename_i hb
        exact strict_drop_one hp (by simp only [beq_iff_eq] at hb; omega)
      · exact hp
    generalize (if (pat.headD 0 == 94) = true then pat.drop 1 else pat) = re1 at h1 ⊢
    have h2 : IsU8 (if (re1.headD 0 == 92 && re1.getD 1 0 == 60) = true then re1.drop 2 else re1) := by
      split
      · rename_i hb
        simp only [Bool.and_eq_true, beq_iff_eq] at hb
        exact isU8_drop_two h1 hb.1 hb.2
      · exact h1
    generalize (if (re1.headD 0 == 92 && re1.getD 1 0 == 60) = true then re1.drop 2 else re1) = re2 at h2 ⊢
    obtain ⟨cs, hv, rfl⟩ := h2
    exact isU8_takeWhile isStop_ascii cs hv

/-! ## a literal comparison leads from a boundary to a boundary, with or without ICASE -/

theorem matchCase_boundary (ic : Bool) : ∀ (ls post : List Nat), Valid ls → Valid post →
    matchCase (encStr post) (encStr ls) ic = true →
    ∃ p1 p2, post = p1 ++ p2 ∧ (encStr p1).length = (encStr ls).length := by
  cases ic with
  | false =>
    intro ls post hl hp h
    exact prefix_code ls post hl hp ((matchCase_false_iff _ _).mp h)
  | true =>
    intro ls
    induction ls with
    | nil => intro post _ _ _; exact ⟨[], post, rfl, rfl⟩
    | cons l ls ih =>
      intro post hl hp h
      have hlv := (valid_cons.mp hl).1
      cases post with
      | nil =>
        obtain ⟨a, t, he, _⟩ := enc_chr hlv
        rw [encStr_nil, encStr_cons, he, List.cons_append, matchCase_nil_left] at h
        cases h
      | cons c post =>
        have hcv := (valid_cons.mp hp).1
        rw [encStr_cons, encStr_cons] at h
        by_cases heq : lowerB l = lowerB c
        · obtain ⟨hlen, hmc⟩ := fold_eq heq (encStr post) (encStr ls)
          rw [hmc] at h
          obtain ⟨p1, p2, e1, e2⟩ := ih post (valid_cons.mp hl).2 (valid_cons.mp hp).2 h
          refine ⟨c :: p1, p2, by rw [e1]; rfl, ?_⟩
          rw [encStr_cons, encStr_cons, List.length_append, List.length_append, e2, hlen]
        · rw [fold_ne hlv hcv heq] at h
          cases h

/-! ## the match of the fast path -/

/-- the subject ends with the newline, as every line of the buffer does -/
def EndsNl (s : Bytes) : Prop := ∃ t, s = t ++ [10]

theorem noncont_isBd {cs : List Nat} (hv : Valid cs) {r : Nat} (hr : r ≤ (encStr cs).length)
    (hnc : ¬ Props.C11b.Cont ((encStr cs).getD r 0)) : IsBd (encStr cs) r := by
  obtain ⟨pre, post, h1, h2⟩ := boundary_of_noncont cs hv r hr hnc
  exact isBd_of_boundary hv (boundary_split.mpr ⟨pre, post, h1, h2⟩)

/-- the first match of the fast path starts and ends on character boundaries.  A non-empty literal
    synchronises by itself; the empty literal (`^`, `$`, `\<`, `\>` alone) matches where the word tests
    say, at 0, or — for `$` — at the last byte, which is the newline. -/
theorem lit_match_boundary (re : RStr) (lcps cs : List Nat) (hl : Valid lcps) (hv : Valid cs)
    (hnl : EndsNl (encStr cs)) (flg r : Nat) (hm : IsLeast (FastMatch re (encStr lcps) (encStr cs) flg) r) :
    IsBd (encStr cs) r ∧ IsBd (encStr cs) (r + (encStr lcps).length) := by
  obtain ⟨⟨hin, hcand⟩, hleast⟩ := hm
  obtain ⟨hmc, hwb, hwe⟩ := hcand
  obtain ⟨hlen, hlb, hle⟩ := hin
  cases lcps with
  | cons l0 lrest =>
    have hst := sync_utf8 hv hl (by simp) re.icase r hmc
    obtain ⟨pre, post, h1, h2⟩ := boundary_of_starts hv hst
    have hdrop : (encStr cs).drop r = encStr post := by
      rw [h2, h1, encStr_append, List.drop_left' rfl]
    rw [hdrop] at hmc
    have hpost : Valid post := (valid_append.mp (h1 ▸ hv)).2
    obtain ⟨p1, p2, e1, e2⟩ := matchCase_boundary re.icase _ post hl hpost hmc
    refine ⟨isBd_of_boundary hv (boundary_split.mpr ⟨pre, post, h1, h2⟩),
      isBd_of_boundary hv (boundary_split.mpr ⟨pre ++ p1, p2, by rw [h1, e1]; simp, ?_⟩)⟩
    rw [encStr_append, List.length_append, h2, e2]
  | nil =>
    simp only [encStr_nil, List.length_nil, Nat.add_zero] at hlen hlb hle hwe hleast ⊢
    suffices IsBd (encStr cs) r from ⟨this, this⟩
    have hr : r < (encStr cs).length := by omega
    by_cases hr0 : r = 0
    · subst hr0; exact isBd_zero (isU8_encStr hv)
    apply noncont_isBd hv (by omega)
    intro hcont
    by_cases hwb' : re.wbeg = true
    · obtain ⟨h1, _⟩ := hwb hwb'
      rcases h1 with h1 | h1
      · exact hr0 h1
      · have := (contPrev_encStr cs hv r hr hcont).2
        rw [isWordB_high this] at h1
        cases h1
    · by_cases hwe' : re.wend = true
      · obtain ⟨_, _, h3⟩ := hwe hwe'
        rcases h3 with h3 | h3
        · have := hcont.1; omega
        · rw [isWordB_high hcont.1] at h3
          cases h3
      · by_cases hle' : re.lend = true
        · have hlast := hle hle'
          obtain ⟨t, ht⟩ := hnl
          have hrl : r = t.length := by
            have := congrArg List.length ht
            simp only [List.length_append, List.length_cons, List.length_nil] at this
            omega
          have h10 : (encStr cs).getD r 0 = 10 := by
            rw [ht, hrl]; simp [List.getD_eq_getElem?_getD]
          have := hcont.1
          omega
        · apply hleast 0 (by omega)
          unfold FastMatch InRange Cand
          simp only [List.length_nil, Nat.add_zero]
          exact ⟨⟨by omega, fun h => ⟨trivial, (hlb h).2⟩, fun h => absurd h hle'⟩, matchCase_nil _ _,
            fun h => absurd h hwb', fun h => absurd h hwe'⟩

theorem rsFind_lit_offs (re : RStr) (lit : Bytes) (hrs : re.rs = none) (hstr : re.str = some lit) (hlit : IsU8 lit)
    {s : Bytes} {nb : Bool} {so eo : Nat} {offs : List Int} (hs : IsU8 s) (hnl : EndsNl s)
    (h : rsFind re s nb = some (some (so, eo, offs))) : ∀ x ∈ offs, OffBd s x := by
  obtain ⟨res, c, hr, hres, _, _⟩ := rsFind_some h
  obtain ⟨lcps, hl, rfl⟩ := hlit
  obtain ⟨cs, hv, rfl⟩ := hs
  rcases rstrFind_literal re _ (encStr cs) hrs hstr 16 (if nb then RE_NOTBOL else 0) ND NG with
    ⟨r, hm, hf⟩ | ⟨_, hf⟩
  · rw [hf] at hr
    simp only [Option.some.injEq, Prod.mk.injEq] at hr
    obtain ⟨_, ho, _⟩ := hr
    subst ho
    obtain ⟨b1, b2⟩ := lit_match_boundary re lcps cs hl hv hnl _ r hm
    intro x hx
    unfold fastGroups at hx
    rw [if_pos (by decide)] at hx
    simp only [List.mem_append, List.mem_cons, List.not_mem_nil, or_false, List.mem_replicate] at hx
    rcases hx with (hx | hx) | ⟨_, hx⟩ <;> subst hx
    · exact Or.inr ⟨r, rfl, b1⟩
    · exact Or.inr ⟨_, rfl, b2⟩
    · exact Or.inl rfl
  · rw [hf] at hr
    simp only [Option.some.injEq, Prod.mk.injEq] at hr
    omega

end Neatvi.Props.C16b
