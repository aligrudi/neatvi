import NeatviVerif.Props.C14
import NeatviVerif.Props.C11b
import NeatviVerif.Lemmas.C12Utf8
/-!
# C16b, part 1: valid UTF-8 byte strings, byte-level character boundaries, slices, and the
  expansion of a replacement text
-/
namespace Neatvi.Props.C16b
open Neatvi Neatvi.Uc Neatvi.Spec Neatvi.Props.C11b Neatvi.Props.C14

/-- a byte string is valid UTF-8: the encoding of code points U+0001 .. U+10FFFF
    (this is `C11b.StrictLit`, under the name the property uses) -/
def IsU8 (s : Bytes) : Prop := ∃ cs, Valid cs ∧ s = encStr cs

theorem isU8_iff_strictLit (s : Bytes) : IsU8 s ↔ StrictLit s := Iff.rfl

theorem isU8_nil : IsU8 [] := ⟨[], valid_nil, rfl⟩

theorem isU8_encStr {cs : List Nat} (h : Valid cs) : IsU8 (encStr cs) := ⟨cs, h, rfl⟩

theorem isU8_enc {c : Nat} (h : ValidCp c) : IsU8 (enc c) :=
  ⟨[c], valid_cons.mpr ⟨h, valid_nil⟩, by simp⟩

theorem isU8_append {a b : Bytes} (ha : IsU8 a) (hb : IsU8 b) : IsU8 (a ++ b) := by
  obtain ⟨x, hx, rfl⟩ := ha
  obtain ⟨y, hy, rfl⟩ := hb
  exact ⟨x ++ y, valid_append.mpr ⟨hx, hy⟩, (encStr_append x y).symm⟩

theorem isU8_flatMap {α : Type} (l : List α) (f : α → Bytes) (h : ∀ x ∈ l, IsU8 (f x)) :
    IsU8 (l.flatMap f) := by
  induction l with
  | nil => exact isU8_nil
  | cons x l ih =>
    rw [List.flatMap_cons]
    exact isU8_append (h x (by simp)) (ih (fun y hy => h y (by simp [hy])))

theorem isU8_wf {s : Bytes} (h : IsU8 s) : Bytes.wf s := by
  obtain ⟨cs, hv, rfl⟩ := h
  exact encStr_wf hv

theorem isU8_no_nul {s : Bytes} (h : IsU8 s) : ∀ b ∈ s, b ≠ 0 := by
  intro b hb
  have := (isU8_wf h b hb).1
  omega

theorem isU8_cancel_left {p q : List Nat} {x : Bytes} (hp : Valid p) (hq : Valid q)
    (h : encStr p = encStr q ++ x) : IsU8 x := by
  have ht : (encStr p).take (encStr q).length = encStr q := by
    rw [h, List.take_left' rfl]
  obtain ⟨p1, p2, e1, e2⟩ := prefix_code q p hq hp ht
  rw [e1, encStr_append] at h
  have := List.append_inj h e2
  exact ⟨p2, (valid_append.mp (e1 ▸ hp)).2, this.2.symm⟩

/-! ## character boundaries of a byte string -/

/-- `k` is a character boundary of the byte string `s`: the bytes before and the bytes from `k` on are
    both valid UTF-8.  (For `k ≥ s.length` this says that `s` is valid.) -/
def IsBd (s : Bytes) (k : Nat) : Prop := IsU8 (s.take k) ∧ IsU8 (s.drop k)

theorem IsBd.isU8 {s : Bytes} {k : Nat} (h : IsBd s k) : IsU8 s := by
  rw [← List.take_append_drop k s]
  exact isU8_append h.1 h.2

theorem isBd_zero {s : Bytes} (h : IsU8 s) : IsBd s 0 := ⟨by simpa using isU8_nil, by simpa using h⟩

theorem isBd_of_ge {s : Bytes} {k : Nat} (h : IsU8 s) (hk : s.length ≤ k) : IsBd s k :=
  ⟨by rw [List.take_of_length_le hk]; exact h, by rw [List.drop_eq_nil_of_le hk]; exact isU8_nil⟩

theorem isBd_of_boundary {cs : List Nat} {k : Nat} (hv : Valid cs) (hb : Boundary cs k) :
    IsBd (encStr cs) k := strict_take_drop hv hb

theorem boundary_of_isBd {cs : List Nat} {k : Nat} (hv : Valid cs) (hk : k ≤ (encStr cs).length)
    (h : IsBd (encStr cs) k) : Boundary cs k := by
  obtain ⟨q, hq, eq⟩ := h.1
  have hlen : (encStr q).length = k := by
    rw [← eq, List.length_take]; omega
  obtain ⟨p1, p2, e1, e2⟩ := prefix_code q cs hq hv (by rw [hlen]; exact eq)
  exact boundary_split.mpr ⟨p1, p2, e1, by omega⟩

theorem isBd_iff_boundary {cs : List Nat} {k : Nat} (hv : Valid cs) (hk : k ≤ (encStr cs).length) :
    IsBd (encStr cs) k ↔ Boundary cs k :=
  ⟨boundary_of_isBd hv hk, isBd_of_boundary hv⟩

theorem isU8_slice {s : Bytes} {k k' : Nat} (h1 : IsBd s k) (h2 : IsBd s k') (hle : k ≤ k') :
    IsU8 ((s.drop k).take (k' - k)) := by
  obtain ⟨q, hq, eq⟩ := h1.1
  obtain ⟨p, hp, ep⟩ := h2.1
  have hsplit : s.take k' = s.take k ++ (s.drop k).take (k' - k) := by
    rw [← List.take_add]
    congr 1
    omega
  rw [ep, eq] at hsplit
  exact isU8_cancel_left hp hq hsplit

/-- the same slice, written as `ec_substitute` cuts the matched text -/
theorem isU8_slice' {s : Bytes} {k k' : Nat} (h1 : IsBd s k) (h2 : IsBd s k') (hle : k ≤ k') :
    IsU8 ((s.take k').drop k) := by
  have : (s.take k').drop k = (s.drop k).take (k' - k) := by
    rw [List.drop_take]
  rw [this]
  exact isU8_slice h1 h2 hle

theorem isBd_drop {s : Bytes} {k j : Nat} (h1 : IsBd s k) (h2 : IsBd (s.drop k) j) : IsBd s (k + j) := by
  refine ⟨?_, ?_⟩
  · rw [List.take_add]
    exact isU8_append h1.1 h2.1
  · rw [← List.drop_drop]
    exact h2.2

theorem isU8_head_char {s : Bytes} (h : IsU8 s) :
    ucLen (s.headD 0) ≤ s.length ∧ IsU8 (s.take (ucLen (s.headD 0))) ∧ IsU8 (s.drop (ucLen (s.headD 0))) := by
  obtain ⟨cs, hv, rfl⟩ := h
  cases cs with
  | nil =>
    have : ucLen 0 = 0 := by decide
    simp only [encStr_nil, List.headD_nil, this, List.take_nil, List.drop_nil]
    exact ⟨Nat.le_refl _, isU8_nil, isU8_nil⟩
  | cons c cs =>
    have hc := (valid_cons.mp hv).1
    have hcs := (valid_cons.mp hv).2
    have hhd : (encStr (c :: cs)).headD 0 = Bytes.hd (enc c) := by
      rw [encStr_cons]
      exact C12.hd_enc_append hc _
    rw [hhd, C16.len_enc hc, encStr_cons]
    refine ⟨by simp, ?_, ?_⟩
    · rw [List.take_left' rfl]; exact isU8_enc hc
    · rw [List.drop_left' rfl]; exact isU8_encStr hcs

/-- at a boundary, the next character ends on a boundary -/
theorem isBd_next {s : Bytes} {k : Nat} (h : IsBd s k) : IsBd s (k + ucLen ((s.drop k).headD 0)) := by
  obtain ⟨_, h2, h3⟩ := isU8_head_char h.2
  exact isBd_drop h ⟨h2, h3⟩

/-! ## what valid strings look like at the front (used to refute validity) -/

theorem isU8_ascii_cons {a : Nat} {r : Bytes} (h : IsU8 (a :: r)) (ha : a < 128) : IsU8 r :=
  strict_drop_one h ha

theorem isU8_lead_cont {a : Nat} {r : Bytes} (h : IsU8 (a :: r)) (ha : 192 ≤ a) :
    128 ≤ r.headD 0 ∧ r.headD 0 < 192 := by
  obtain ⟨cs, hv, e⟩ := h
  cases cs with
  | nil => simp at e
  | cons c cs =>
    have hc := (valid_cons.mp hv).1
    rw [encStr_cons] at e
    unfold enc at e
    split at e
    · simp at e; omega
    · split at e
      · simp at e; obtain ⟨_, e2⟩ := e; rw [e2]; simp; omega
      · split at e
        · simp at e; obtain ⟨_, e2⟩ := e; rw [e2]; simp; omega
        · simp at e; obtain ⟨_, e2⟩ := e; rw [e2]; simp; omega

theorem isU8_not_cont {a : Nat} {r : Bytes} (h : IsU8 (a :: r)) : ¬ (128 ≤ a ∧ a < 192) := by
  obtain ⟨cs, hv, e⟩ := h
  exact encStr_not_cont hv e.symm

/-! ## offsets as `regexec` reports them -/

/-- an offset is unset (`-1`) or a character boundary (the byte-level form of `C11b.OffB`) -/
def OffBd (s : Bytes) (x : Int) : Prop := x = -1 ∨ ∃ k : Nat, x = (k : Int) ∧ IsBd s k

theorem offBd_of_offB {cs : List Nat} {x : Int} (hv : Valid cs) (h : OffB cs x) : OffBd (encStr cs) x := by
  rcases h with h | ⟨k, hk, hb⟩
  · exact Or.inl h
  · exact Or.inr ⟨k, hk, isBd_of_boundary hv hb⟩

/-- whatever a boundary offset is, its `toNat` (how `ec_substitute` uses `offs[0]`, `offs[1]`) is a
    boundary: `-1` becomes `0` -/
theorem isBd_toNat {s : Bytes} {x : Int} (hs : IsU8 s) (h : OffBd s x) : IsBd s x.toNat := by
  rcases h with h | ⟨k, hk, hb⟩
  · rw [h]; exact isBd_zero hs
  · rw [hk]; exact hb

theorem grpText_valid {ln : Bytes} {offs : List Int} {d : Nat} (hok : GrpOk ln offs d)
    (h1 : OffBd ln (grpSo offs d)) (h2 : OffBd ln (grpEo offs d)) : IsU8 (grpText ln offs d) := by
  unfold grpText
  rcases hok with he | ⟨h0, hle, _⟩
  · have : (grpEo offs d - grpSo offs d).toNat = 0 := by omega
    rw [this, List.take_zero]
    exact isU8_nil
  · rcases h1 with h1 | ⟨k, hk, hb⟩
    · omega
    · rcases h2 with h2 | ⟨k', hk', hb'⟩
      · omega
      · have e1 : (grpSo offs d).toNat = k := by omega
        have e2 : (grpEo offs d - grpSo offs d).toNat = k' - k := by omega
        rw [e1, e2]
        exact isU8_slice hb hb' (by omega)

/-! ## the expansion of the replacement -/

theorem expandRef_noesc (t r ln : Bytes) (offs : List Int) (ht : ∀ x ∈ t, x ≠ 92) :
    expandRef (t ++ r) ln offs = t ++ expandRef r ln offs := by
  induction t with
  | nil => rfl
  | cons a t ih =>
    rw [List.cons_append, expandRef_other _ _ _ _ (ht a (by simp)), ih (fun x hx => ht x (by simp [hx]))]
    rfl

theorem refs_noesc (t r : Bytes) (ht : ∀ x ∈ t, x ≠ 92) : refs (t ++ r) = refs r := by
  induction t with
  | nil => rfl
  | cons a t ih =>
    rw [List.cons_append, refs_other _ _ (ht a (by simp)), ih (fun x hx => ht x (by simp [hx]))]

theorem chr_tail_noesc {a : Nat} {t : Bytes} (h : Chr a t) : ∀ x ∈ t, x ≠ 92 := by
  intro x hx
  have := h.tl x hx
  omega

theorem isU8_backslash : IsU8 [92] := ⟨[92], by decide, by decide⟩

/-- the expansion of a valid replacement with valid group texts is valid.  A backslash before the lead
    byte of a multi-byte character drops the backslash only: the continuation bytes follow as ordinary
    bytes, so the character stays whole. -/
theorem expandRef_valid_aux (ln : Bytes) (offs : List Int) : ∀ (n : Nat) (rs : List Nat), rs.length ≤ n →
    Valid rs → (∀ d ∈ refs (encStr rs), IsU8 (grpText ln offs d)) →
    IsU8 (expandRef (encStr rs) ln offs) := by
  intro n
  induction n using Nat.strongRecOn with
  | _ n ih =>
    intro rs hn hv hg
    cases rs with
    | nil => exact isU8_nil
    | cons c rs =>
      have hc := (valid_cons.mp hv).1
      have hrs := (valid_cons.mp hv).2
      obtain ⟨a, t, he, hch⟩ := enc_chr hc
      have htn := chr_tail_noesc hch
      simp only [List.length_cons] at hn
      by_cases ha : a = 92
      · -- an escape
        obtain ⟨hca, ht⟩ := C12.enc_lead_low hc he (by omega)
        subst ht
        subst ha
        rw [encStr_cons, he] at hg ⊢
        cases rs with
        | nil => simpa [expandRef] using isU8_backslash
        | cons d rs =>
          have hd := (valid_cons.mp hrs).1
          have hrs' := (valid_cons.mp hrs).2
          obtain ⟨a', t', he', hch'⟩ := enc_chr hd
          have htn' := chr_tail_noesc hch'
          simp only [List.length_cons] at hn
          rw [encStr_cons, he'] at hg ⊢
          simp only [List.cons_append, List.nil_append] at hg ⊢
          by_cases hdg : isDigit a'
          · obtain ⟨_, ht'⟩ := C12.enc_lead_low hd he' (by unfold isDigit at hdg; omega)
            subst ht'
            simp only [List.nil_append] at hg ⊢
            rw [expandRef_group _ _ _ _ hdg]
            rw [refs_group _ _ hdg] at hg
            exact isU8_append (hg _ (by simp))
              (ih (n - 2) (by omega) rs (by omega) hrs' (fun d' hd' => hg d' (by simp [hd'])))
          · rw [expandRef_esc _ _ _ _ hdg, expandRef_noesc _ _ _ _ htn']
            rw [refs_esc _ _ hdg, refs_noesc _ _ htn'] at hg
            have := isU8_append (isU8_enc hd) (ih (n - 2) (by omega) rs (by omega) hrs' hg)
            rw [he'] at this
            simpa using this
      · rw [encStr_cons, he] at hg ⊢
        simp only [List.cons_append] at hg ⊢
        rw [expandRef_other _ _ _ _ ha, expandRef_noesc _ _ _ _ htn]
        rw [refs_other _ _ ha, refs_noesc _ _ htn] at hg
        have := isU8_append (isU8_enc hc) (ih (n - 1) (by omega) rs (by omega) hrs hg)
        rw [he] at this
        simpa using this

theorem expandRef_valid {rep ln : Bytes} {offs : List Int} (hrep : IsU8 rep)
    (hg : ∀ d ∈ refs rep, IsU8 (grpText ln offs d)) : IsU8 (expandRef rep ln offs) := by
  obtain ⟨rs, hv, rfl⟩ := hrep
  exact expandRef_valid_aux ln offs rs.length rs (Nat.le_refl _) hv hg

end Neatvi.Props.C16b
