import NeatviVerif.Lemmas.C16cEdC
import NeatviVerif.Lemmas.C02bCmd
import NeatviVerif.Props.C14
import NeatviVerif.Props.C15
/-!
# C16c, part 6: which commands the roll-up covers (`okH`); `ec_write` and the loop of `:q` over the buffers keep the
  editor state valid UTF-8

`substOk` is the check on the argument of `:s`; `substPrep_ok`: what it checks is what the prologue of `:s` (`Props/C14`
`substPrep`) remembers, in every state.  The branch of the dispatcher is `runCmd_subst_ok` in `Lemmas/C16cRun.lean`, read off
`C05e.ecSubst_run`.
-/
set_option linter.unusedSimpArgs false
set_option linter.unusedVariables false
namespace Neatvi.Lemmas.C16c
open Neatvi Neatvi.Uc Neatvi.Spec Neatvi.Lbuf Neatvi.LbufIo Neatvi.Ex Neatvi.Rset Neatvi.Props.C11b Neatvi.Props.C16b

/-- the pattern and the replacement `ec_substitute` reads from its argument are there, the pattern is not
empty (so it is not the remembered keyword that is used), and both are valid UTF-8 as they are stored
(cut at `EXLEN - 1` bytes) -/
def substOk (arg : Bytes) : Bool :=
  match (reRead arg).1 with
  | none => false
  | some p =>
    !p.isEmpty && u8chk (p.take (Gen.EXLEN - 1)) &&
      u8chk (((if !(reRead arg).2.isEmpty then (reRead ([arg.headD 0] ++ (reRead arg).2)).1 else none).getD []).take (Gen.EXLEN - 1))


open Neatvi.Props in
theorem substPrep_ok (ed : Ed) {arg : Bytes} (hs : substOk arg = true) :
    core (C14.substPrep ed arg).1 = core ed ∧ IsU8 (C14.substPrep ed arg).1.xkwd ∧ IsU8 (C14.substPrep ed arg).1.xrep := by
  unfold substOk at hs
  unfold C14.substPrep
  generalize hrr : reRead arg = rr at hs ⊢
  obtain ⟨pat, s⟩ := rr
  simp only [] at hs ⊢
  cases pat with
  | none => cases hs
  | some p =>
    simp only [Bool.and_eq_true, Bool.not_eq_true', Option.isSome_some, Bool.true_and, Bool.true_or, if_true] at hs ⊢
    obtain ⟨⟨hne, hp⟩, hrep⟩ := hs
    rw [hne]
    simp only [Bool.not_false, if_true]
    refine ⟨rfl, ?_, ?_⟩
    · exact (u8chk_iff _).mp hp
    · have := (u8chk_iff _).mp hrep
      cases hse : s.isEmpty
      · simp only [hse, if_true] at this ⊢
        exact this
      · simp only [hse, Bool.true_eq_false, if_false] at this ⊢
        exact this

/-- the handler `h`, called with the command word `cmd` and the argument `arg`, is one the roll-up covers:
* not `@` / `ra` (they run the text of a register as a command line);
* `g` / `v` with a command list that `body` accepts;
* `e` with a valid argument and without a `+command`;
* `s` with `substOk`;
* `!`, `r`, `w`, `q`/`wq`/`x` with a valid argument (a path name or a shell command). -/
def okH (body : Bytes → Bool) (h : String) (arg : Bytes) : Bool :=
  if h == "ec_at" then false
  else if h == "ec_glob" then body (reRead arg).2
  else if h == "ec_edit" then u8chk arg && ((arg.dropWhile (· == 32)).headD 0 != 43)
  else if h == "ec_substitute" then substOk arg
  else if h == "ec_exec" || h == "ec_read" || h == "ec_write" || h == "ec_quit" then u8chk arg
  else true

theorem okH_at {body : Bytes → Bool} {arg : Bytes} : okH body "ec_at" arg = false := rfl
theorem okH_glob {body : Bytes → Bool} {arg : Bytes} (h : okH body "ec_glob" arg = true) : body (reRead arg).2 = true := h
theorem okH_edit {body : Bytes → Bool} {arg : Bytes} (h : okH body "ec_edit" arg = true) :
    IsU8 arg ∧ (arg.dropWhile (· == 32)).headD 0 ≠ 43 := by
  have h' : (u8chk arg && ((arg.dropWhile (· == 32)).headD 0 != 43)) = true := h
  simp only [Bool.and_eq_true, bne_iff_ne, ne_eq] at h'
  exact ⟨(u8chk_iff _).mp h'.1, h'.2⟩
theorem okH_subst {body : Bytes → Bool} {arg : Bytes} (h : okH body "ec_substitute" arg = true) : substOk arg = true := h
theorem okH_exec {body : Bytes → Bool} {arg : Bytes} (h : okH body "ec_exec" arg = true) : IsU8 arg := (u8chk_iff _).mp h
theorem okH_write {body : Bytes → Bool} {arg : Bytes} (h : okH body "ec_write" arg = true) : IsU8 arg := (u8chk_iff _).mp h
theorem okH_quit {body : Bytes → Bool} {arg : Bytes} (h : okH body "ec_quit" arg = true) : IsU8 arg := (u8chk_iff _).mp h

theorem pathArg_ok {ed ed1 : Ed} {arg : Bytes} {path : Option Bytes} (h : EdOk ed) (ha : IsU8 arg)
    (hp : (if (!arg.isEmpty) = true then pathExpand ed arg true else some (ed.cur.map (·.path), ed)) = some (path, ed1)) :
    EdOk ed1 ∧ IsU8 (path.getD []) := by
  split at hp
  · obtain ⟨a, b⟩ := pathExpand_ok h ha hp
    refine ⟨h.to b, ?_⟩
    cases path with
    | none => exact isU8_nil
    | some x => exact a x rfl
  · cases hp
    refine ⟨h, ?_⟩
    cases hc : ed.cur with
    | none => exact isU8_nil
    | some b => exact (h.cur hc).2

theorem writeFinish_ok {ed ed' : Ed} {cur : Buf} {path : Bytes} {b e r : Int} (h : EdOk ed) (hg : LbOk cur.lb ∧ IsU8 cur.path)
    (hp : IsU8 path) (hw : Lemmas.C02Ex.writeFinish ed cur path b e = some (r, ed')) : EdOk ed' := by
  obtain ⟨c3, ed6, hl, h6, hc⟩ := Lemmas.C02Ex.writeFinish_cases hw
  have h6' : EdOk ed6 ∧ IsU8 c3.path := by
    rcases h6 with ⟨rfl, rfl⟩ | ⟨rfl, rfl⟩
    · exact ⟨h, hg.2⟩
    · exact ⟨h.withRegs (h.regs.put _ hp _), hp⟩
  rcases hc with ⟨_, _, _, rfl⟩ | rfl | rfl
  · exact h6'.1.setCur (by show LbOk (modified (savedCore c3.lb false)).2; rw [hl]; exact modified_ok (savedCore_ok hg.1 false)) h6'.2
  · exact h6'.1.setCur (by show LbOk (unsavedMark c3.lb); rw [hl]; exact unsavedMark_ok hg.1) h6'.2
  · exact h.setCur hg.1 hg.2

theorem ecWrite_ok {ed ed' : Ed} {loc cmd arg : Bytes} {r : Int} (h : EdOk ed) (ha : IsU8 arg)
    (hw : ecWrite ed loc cmd arg = some (r, ed')) : EdOk ed' := by
  obtain ⟨path, ed1, hp, ed2, h2, h3⟩ := Lemmas.C02b.ecWrite_cases hw
  obtain ⟨h1, hpv⟩ := pathArg_ok h ha hp
  have hk2 : EdOk ed2 := by
    rcases h2 with rfl | ⟨_, rfl⟩
    · exact h1
    · exact h1.modifiedAt 0
  rcases h3 with rfl | ⟨rg, ed3, hr, h3⟩
  · exact hk2
  have hk3 : EdOk ed3 := hk2.region hr
  rcases h3 with rfl | ⟨p, cur, b, e, rfl, hcur, hs⟩
  · exact hk3
  rcases Lemmas.C02b.writeSave_cases hcur hs with ⟨_, rfl | ⟨m, rfl⟩⟩ | ⟨_, ts, x, ed4, hsv, hx⟩
  · exact hk3
  · exact EdOk.ite ((hk3.show m).to rfl) (hk3.show m)
  · have hk4 : EdOk ed4 := lbufSaveP_ok hk3 (hk3.cur hcur).1.lines hsv
    rcases hx with ⟨err, _, rfl⟩ | ⟨_, m, hf⟩
    · exact hk4.show _
    · exact writeFinish_ok (hk4.show m) (hk3.cur hcur) hpv hf

theorem each_ok (cmd : Bytes) (all : Bool) (g i : Nat) (ed ed' : Ed) (r : Bool) (hi : EdOk ed)
    (h : runCmd.each cmd all g i ed = some (r, ed')) : EdOk ed' :=
  Lemmas.C02b.each_rel (Rel := fun a b => EdOk a → EdOk b) (fun _ h => h) (fun h1 h2 h => h2 (h1 h))
    (fun hm h => bufsModified_ok h hm) (fun _ _ _ h => h.bufsSwitch _)
    (fun hb hs h => lbufSaveP_ok h (h.getD hb).1.lines hs) (fun _ _ h => h.show _) cmd all g i ed ed' r h hi

end Neatvi.Lemmas.C16c
