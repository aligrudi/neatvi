import NeatviVerif.Lemmas.C16cLbuf
import NeatviVerif.Lemmas.ExFrame
import NeatviVerif.Lemmas.C02Ex
import NeatviVerif.Lemmas.C08Regs
import NeatviVerif.Lemmas.C20bTable
/-!
# C16c, part 3: the editor state of `ex.c` — valid registers (`RegsValid`), the invariant `EdOk` (buffers,
  registers, input, shell oracle, files), the fields it reads (`core`, `Frame`), and the updates of the current
  buffer that keep it
-/
set_option linter.unusedSimpArgs false
set_option linter.unusedVariables false
namespace Neatvi.Lemmas.C16c
open Neatvi Neatvi.Uc Neatvi.Spec Neatvi.Lbuf Neatvi.LbufIo Neatvi.Ex Neatvi.Props.C11b Neatvi.Props.C16b

/-- **`RegsValid`: every register holds valid UTF-8** -/
def RegsValid (r : Regs) : Prop := ∀ o ∈ r.buf, OptValid o

instance (r : Regs) : Decidable (RegsValid r) := by unfold RegsValid; exact inferInstance

theorem regsValid_init : RegsValid {} := by
  intro o ho
  have : o = none := by
    simp only [List.mem_replicate] at ho
    exact ho.2
  subst this; exact optValid_none

theorem getD_mem_or_none {α : Type} (l : List (Option α)) (i : Nat) : l.getD i none ∈ l ∨ l.getD i none = none := by
  unfold List.getD
  cases h : l[i]? with
  | none => right; rfl
  | some o => left; exact List.mem_of_getElem? h

theorem getD_optValid {l : List (Option Bytes)} (h : ∀ o ∈ l, OptValid o) (i : Nat) : OptValid (l.getD i none) := by
  rcases getD_mem_or_none l i with h1 | h1
  · exact h _ h1
  · rw [h1]; exact optValid_none

theorem RegsValid.getRaw {r : Regs} (h : RegsValid r) (c : Nat) : OptValid (r.getRaw c).1 := getD_optValid h c

theorem RegsValid.putRaw {r : Regs} (h : RegsValid r) (c : Nat) {s : Bytes} (hs : IsU8 s) (ln : Nat) :
    RegsValid (r.putRaw c s ln) :=
  Lemmas.C08.regsAll_iff_mem.mp (Lemmas.C08.RegsAll.putRaw isU8_nil isU8_append (Lemmas.C08.regsAll_iff_mem.mpr h) c hs ln)

theorem RegsValid.put {r : Regs} (h : RegsValid r) (c : Nat) {s : Bytes} (hs : IsU8 s) (ln : Nat) :
    RegsValid (r.put c s ln) :=
  Lemmas.C08.regsAll_iff_mem.mp (Lemmas.C08.RegsAll.put isU8_nil isU8_append (Lemmas.C08.regsAll_iff_mem.mpr h) c hs ln)

/-- everything the ex layer can copy into a buffer is valid UTF-8: the lines and undo histories of all
buffers, their path names, the registers, the input lines `ex_read` will serve, the outputs of the shell
oracle, the files; and no system-call fault is scheduled (a failed write leaves a truncated file) -/
structure EdOk (ed : Ed) : Prop where
  bufs : ∀ b ∈ ed.bufs, ∀ x, b = some x → LbOk x.lb ∧ IsU8 x.path
  regs : RegsValid ed.regs
  input : ∀ l ∈ ed.input, IsU8 l
  pipes : ∀ p ∈ ed.pipes, OptValid p.2.2
  files : ∀ f ∈ ed.files, IsU8 f.data
  nofault : ed.faults = []

/-- a slot of the buffer table is empty or holds a valid buffer -/
def SlotOk (b : Option Buf) : Prop := match b with | some x => LbOk x.lb ∧ IsU8 x.path | none => True

instance (b : Option Buf) : Decidable (SlotOk b) := by
  cases b with
  | none => exact isTrue trivial
  | some x => unfold SlotOk; exact inferInstance

instance (ed : Ed) : Decidable (EdOk ed) :=
  decidable_of_iff ((∀ b ∈ ed.bufs, SlotOk b) ∧ RegsValid ed.regs ∧
      (∀ l ∈ ed.input, IsU8 l) ∧ (∀ p ∈ ed.pipes, OptValid p.2.2) ∧ (∀ f ∈ ed.files, IsU8 f.data) ∧ ed.faults = [])
    ⟨fun h => ⟨fun b hb x hx => by have := h.1 b hb; rw [hx] at this; exact this, h.2.1, h.2.2.1, h.2.2.2.1, h.2.2.2.2.1, h.2.2.2.2.2⟩,
     fun h => ⟨fun b hb => by cases b with | none => trivial | some x => exact h.bufs _ hb x rfl,
       h.regs, h.input, h.pipes, h.files, h.nofault⟩⟩

/-- the fields `EdOk` reads (another projection than `ExStep.core` of `Lemmas/ExLeaf.lean`, which is what the steps of the ex
    layer keep; the leaf lemmas `exRegion_core`, `setOpt_core`, `pathExpand_core` of `Lemmas/C16cEdB.lean` are about this one) -/
def core (ed : Ed) : List (Option Buf) × Regs × List Bytes × List (Bytes × Bytes × Option Bytes) × List File × List (Nat × Nat) :=
  (ed.bufs, ed.regs, ed.input, ed.pipes, ed.files, ed.faults)

/-- `ed'` differs from `ed` only in fields the invariant does not read (cursor, options, keyword, output …) -/
def Frame (ed ed' : Ed) : Prop := core ed' = core ed

theorem Frame.refl (ed : Ed) : Frame ed ed := rfl
theorem Frame.trans {a b c : Ed} (h1 : Frame a b) (h2 : Frame b c) : Frame a c := by
  unfold Frame at *; rw [h2, h1]

theorem Frame.bufs {ed ed' : Ed} (h : Frame ed ed') : ed'.bufs = ed.bufs := congrArg (·.1) h
theorem Frame.regs {ed ed' : Ed} (h : Frame ed ed') : ed'.regs = ed.regs := congrArg (·.2.1) h
theorem Frame.input {ed ed' : Ed} (h : Frame ed ed') : ed'.input = ed.input := congrArg (·.2.2.1) h
theorem Frame.pipes {ed ed' : Ed} (h : Frame ed ed') : ed'.pipes = ed.pipes := congrArg (·.2.2.2.1) h
theorem Frame.files {ed ed' : Ed} (h : Frame ed ed') : ed'.files = ed.files := congrArg (·.2.2.2.2.1) h
theorem Frame.faults {ed ed' : Ed} (h : Frame ed ed') : ed'.faults = ed.faults := congrArg (·.2.2.2.2.2) h

theorem EdOk.frame {ed ed' : Ed} (h : EdOk ed) (hf : Frame ed ed') : EdOk ed' :=
  ⟨by rw [hf.bufs]; exact h.bufs, by rw [hf.regs]; exact h.regs, by rw [hf.input]; exact h.input,
   by rw [hf.pipes]; exact h.pipes, by rw [hf.files]; exact h.files, by rw [hf.faults]; exact h.nofault⟩

theorem EdOk.to {ed ed' : Ed} (h : EdOk ed) (hf : core ed' = core ed) : EdOk ed' := h.frame hf

/-- split a hypothesis `h : (nested matches) = some (_, ed')` into its leaves and close those in which
    `ed'` is syntactically an update of `ed` outside the fields of `core` -/
macro "core_split" h:ident : tactic => `(tactic| (
  repeat' (split at $h:ident)
  all_goals (try (simp only [Option.some.injEq, Prod.mk.injEq, reduceCtorEq] at $h:ident))
  all_goals (try (have h2 := And.right $h:ident; subst h2))
  all_goals (first | rfl | skip)))

/-- `ite_cases h`, for `h : (if c then a else b) = x`: two goals, `h : a = x` and `h : b = x`.  Unlike `split at h`
it does not rewrite `h`, which matters when `a` and `b` are whole handler bodies: the step costs the same
however large they are. -/
macro "ite_cases " h:ident : tactic =>
  `(tactic| (replace $h:ident := Lemmas.C06.ite_eq_cases $h:ident; rcases $h:ident with ⟨-, $h:ident⟩ | ⟨-, $h:ident⟩))

theorem EdOk.ite {c : Prop} [Decidable c] {a b : Ed} (ha : EdOk a) (hb : EdOk b) : EdOk (if c then a else b) := by
  split
  · exact ha
  · exact hb

theorem EdOk.withRegs {ed : Ed} (h : EdOk ed) {r : Regs} (hr : RegsValid r) : EdOk { ed with regs := r } :=
  ⟨h.bufs, hr, h.input, h.pipes, h.files, h.nofault⟩

theorem EdOk.withBufs {ed : Ed} (h : EdOk ed) {bs : List (Option Buf)}
    (hb : ∀ b ∈ bs, ∀ x, b = some x → LbOk x.lb ∧ IsU8 x.path) : EdOk { ed with bufs := bs } :=
  ⟨hb, h.regs, h.input, h.pipes, h.files, h.nofault⟩

theorem EdOk.allB {ed : Ed} (h : EdOk ed) : Lemmas.C20b.AllB (fun x => LbOk x.lb ∧ IsU8 x.path) ed.bufs :=
  fun x hx => h.bufs _ hx x rfl

theorem EdOk.ofAllB {ed : Ed} (h : EdOk ed) {bs : List (Option Buf)}
    (hb : Lemmas.C20b.AllB (fun x => LbOk x.lb ∧ IsU8 x.path) bs) : EdOk { ed with bufs := bs } :=
  h.withBufs fun _ ho x hx => hb x (hx ▸ ho)

theorem EdOk.getD {ed : Ed} (h : EdOk ed) {i : Nat} {b : Buf} (hc : ed.bufs.getD i none = some b) : LbOk b.lb ∧ IsU8 b.path := by
  rcases getD_mem_or_none ed.bufs i with h1 | h1
  · exact h.bufs _ h1 b hc
  · rw [h1] at hc; cases hc

theorem EdOk.cur {ed : Ed} (h : EdOk ed) {b : Buf} (hc : ed.cur = some b) : LbOk b.lb ∧ IsU8 b.path := h.getD (i := 0) hc

theorem EdOk.lb {ed : Ed} (h : EdOk ed) {lb : Lb} (hl : ed.lb = some lb) : LbOk lb := by
  obtain ⟨b, hc, rfl⟩ := Option.map_eq_some_iff.mp hl
  exact (h.cur hc).1

theorem EdOk.setAt {ed : Ed} (h : EdOk ed) (i : Nat) {b : Buf} (hb : LbOk b.lb) (hp : IsU8 b.path) :
    EdOk { ed with bufs := ed.bufs.set i (some b) } := by
  apply h.withBufs
  intro o ho x hx
  rcases List.mem_or_eq_of_mem_set ho with h1 | h1
  · exact h.bufs o h1 x hx
  · subst h1; injection hx with hx; subst hx; exact ⟨hb, hp⟩

theorem EdOk.setCur {ed : Ed} (h : EdOk ed) {b : Buf} (hb : LbOk b.lb) (hp : IsU8 b.path) : EdOk (ed.setCur b) :=
  h.setAt 0 hb hp

theorem EdOk.setLb {ed : Ed} (h : EdOk ed) {lb : Lb} (hb : LbOk lb) : EdOk (ed.setLb lb) := by
  unfold Ed.setLb
  cases hc : ed.cur with
  | none => exact h
  | some b => exact h.setCur (b := { b with lb := lb }) hb (h.cur hc).2

theorem EdOk.updLb {ed : Ed} (h : EdOk ed) (F : Lb → Lb) (hF : ∀ lb, LbOk lb → LbOk (F lb)) :
    EdOk (match ed.lb with | some lb => ed.setLb (F lb) | none => ed) := by
  cases hl : ed.lb with
  | none => exact h
  | some lb => exact h.setLb (hF lb (h.lb hl))

theorem EdOk.edit {ed ed' : Ed} (h : EdOk ed) {s : Option Bytes} (hs : OptValid s) {b e : Int}
    (he : ed.edit s b e = some ed') : EdOk ed' := by
  obtain ⟨_, _, lb, lb', hl, hed, rfl, _⟩ := Lemmas.ExFrame.Ed_edit_some he
  exact h.setLb (edit_ok (h.lb hl) hs hed)

theorem EdOk.cp {ed : Ed} (h : EdOk ed) (b e : Int) : IsU8 (ed.cp b e) := by
  unfold Ed.cp
  cases hl : ed.lb with
  | none => exact isU8_nil
  | some lb => exact cp_valid lb (h.lb hl).lines _ _

theorem EdOk.line {ed : Ed} (h : EdOk ed) {i : Int} {l : Bytes} (hl : ed.line i = some l) : IsU8 l ∧ EndsNl l := by
  unfold Ed.line at hl
  split at hl
  · cases hl
  · obtain ⟨lb, hb, hl⟩ := Option.bind_eq_some_iff.mp hl
    have hm := List.mem_of_getElem? hl
    exact ⟨(h.lb hb).lines l hm, (h.lb hb).nl l hm⟩

theorem EdOk.show {ed : Ed} (h : EdOk ed) (m : Bytes) : EdOk (ed.show m) := h.to rfl
theorem EdOk.print {ed : Ed} (h : EdOk ed) (m : Bytes) : EdOk (ed.print m) := h.to rfl
theorem EdOk.kwdSet {ed : Ed} (h : EdOk ed) (k : Option Bytes) (d : Int) : EdOk (ed.kwdSet k d) := h.to rfl

theorem EdOk.modifiedAt {ed : Ed} (h : EdOk ed) (idx : Nat) : EdOk (ed.modifiedAt idx).2 :=
  Lemmas.C02Ex.modifiedAt_cases ed idx h fun b hg =>
    h.setAt idx (b := { b with lb := (modified b.lb).2 }) (modified_ok (h.getD hg).1) (h.getD hg).2

theorem core_modifiedAt_rest (ed : Ed) (idx : Nat) :
    (ed.modifiedAt idx).2.regs = ed.regs ∧ (ed.modifiedAt idx).2.files = ed.files ∧ (ed.modifiedAt idx).2.faults = ed.faults := by
  rw [Lemmas.C02Ex.modifiedAt_fields]; exact ⟨rfl, rfl, rfl⟩

end Neatvi.Lemmas.C16c
