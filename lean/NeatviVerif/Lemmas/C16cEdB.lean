import NeatviVerif.Lemmas.ExDid
import NeatviVerif.Lemmas.C16cEd
import NeatviVerif.Lemmas.C20cStages
/-!
# C16c, part 4: helpers of `ex.c` — addresses, path expansion, `ex_txt`, `re_read`, the buffer table
-/
set_option linter.unusedSimpArgs false
set_option linter.unusedVariables false
namespace Neatvi.Lemmas.C16c
open Neatvi Neatvi.Uc Neatvi.Spec Neatvi.Lbuf Neatvi.LbufIo Neatvi.Ex Neatvi.Props.C11b Neatvi.Props.C16b

theorem exRegion_core {ed ed' : Ed} {loc : Bytes} {r : Nat × Int × Int}
    (h : exRegion ed loc = some (r, ed')) : core ed' = core ed := by
  obtain ⟨_, _, _, rfl⟩ := Lemmas.C02Ex.exRegion_addr h
  rfl

theorem EdOk.region {ed ed' : Ed} (h : EdOk ed) {loc : Bytes} {r : Nat × Int × Int}
    (hr : exRegion ed loc = some (r, ed')) : EdOk ed' := h.to (exRegion_core hr)

theorem setOpt_core (ed : Ed) (v : String) (val : Int) : core (setOpt ed v val) = core ed := by
  obtain ⟨_, _, _, _, _, _, _, e⟩ := Lemmas.ExDid.Shown.opt ed v val
  rw [e]; rfl

theorem isU8_remove_ascii {a b : Bytes} {c : Nat} (h : IsU8 (a ++ c :: b)) (hc : c < 128) : IsU8 (a ++ b) := by
  obtain ⟨h1, h2⟩ := isU8_split_ascii h hc
  exact isU8_append h1 h2

theorem reRead_go_valid (delim : Nat) (hd : delim < 128) : ∀ (f : Nat) (s acc : Bytes), IsU8 (acc ++ s) →
    IsU8 (reRead.go delim f s acc).1 ∧ IsU8 (reRead.go delim f s acc).2 ∨ s.length ≥ f := by
  intro f
  induction f with
  | zero => intro s acc _; right; omega
  | succ f ih =>
    intro s acc h
    rw [reRead.go.eq_def]
    simp only []
    cases s with
    | nil => left; simp only []; exact ⟨by simpa using h, isU8_nil⟩
    | cons c r =>
      simp only []
      split
      · rename_i hc
        have hc' : c = delim := by
          simp only [Bool.and_eq_true, beq_iff_eq] at hc
          exact hc.1
        subst hc'
        left
        exact isU8_split_ascii h hd
      · split
        · rename_i hb
          simp only [Bool.and_eq_true, beq_iff_eq, Bool.not_eq_true', List.isEmpty_eq_false_iff] at hb
          obtain ⟨hb1, hb2⟩ := hb
          subst hb1
          cases r with
          | nil => exact absurd rfl hb2
          | cons d r' =>
            by_cases hdd : (!((d :: r').headD 0 == delim && decide (delim < 128))) = true
            · rw [if_pos hdd]
              show IsU8 (reRead.go delim f r' (acc ++ [92, d])).1 ∧ IsU8 (reRead.go delim f r' (acc ++ [92, d])).2 ∨ _
              have hv : IsU8 ((acc ++ [92, d]) ++ r') := by simpa using h
              rcases ih r' (acc ++ [92, d]) hv with h1 | h1
              · left; exact h1
              · right; simp at h1 ⊢; omega
            · rw [if_neg hdd]
              show IsU8 (reRead.go delim f r' (acc ++ [d])).1 ∧ IsU8 (reRead.go delim f r' (acc ++ [d])).2 ∨ _
              have hv : IsU8 ((acc ++ [d]) ++ r') := by
                have := isU8_remove_ascii (a := acc) (b := d :: r') (c := 92) h (by decide)
                simpa using this
              rcases ih r' (acc ++ [d]) hv with h1 | h1
              · left; exact h1
              · right; simp at h1 ⊢; omega
        · have hv : IsU8 ((acc ++ [c]) ++ r) := by simpa using h
          rcases ih r (acc ++ [c]) hv with h1 | h1
          · left; exact h1
          · right; simp at h1 ⊢; omega

/-- **`re_read` on a valid text that starts with an ASCII delimiter**: the pattern and what follows it are valid -/
theorem reRead_valid {src : Bytes} (h : IsU8 src) (hd : src.headD 0 < 128) :
    OptValid (reRead src).1 ∧ IsU8 (reRead src).2 := by
  unfold reRead
  cases src with
  | nil => exact ⟨optValid_none, isU8_nil⟩
  | cons delim s =>
    simp only []
    have hs : IsU8 s := isU8_ascii_cons h hd
    rcases reRead_go_valid delim hd (s.length + 1) s [] (by simpa using hs) with h1 | h1
    · exact ⟨optValid_some.mpr h1.1, h1.2⟩
    · omega

theorem find_rev_range {n i : Nat} {p : Nat → Bool} (h : (List.range n).reverse.find? p = some i) : i < n ∧ p i = true := by
  have h1 := List.mem_of_find?_eq_some h
  have h2 := List.find?_some h
  simp only [List.mem_reverse, List.mem_range] at h1
  exact ⟨h1, h2⟩

theorem pathExpand_go_valid (ed : Ed) (hok : EdOk ed) (sp : Bool) : ∀ (f : Nat) (src dst p : Bytes), src.length < f →
    IsU8 (dst ++ src) → pathExpand.go ed sp f src dst = some (some p) → IsU8 p := by
  intro f
  induction f with
  | zero => intro src dst p hf; omega
  | succ f ih =>
    intro src dst p hf hv h
    rw [pathExpand.go.eq_def] at h
    simp only [] at h
    cases src with
    | nil =>
      simp only [Option.some.injEq] at h
      subst h
      simpa using hv
    | cons c r =>
      simp only [] at h
      have hf' : r.length < f := by simp at hf; omega
      split at h
      · rename_i hc
        simp only [Option.some.injEq] at h
        subst h
        have hc' : c < 128 := by
          simp only [Bool.or_eq_true, beq_iff_eq, Bool.and_eq_true, Bool.not_eq_true'] at hc
          rcases hc with hc | ⟨_, hc | hc⟩ <;> omega
        exact (isU8_split_ascii hv hc').1
      · split at h
        · rename_i hc
          have hc' : c < 128 := by
            simp only [Bool.or_eq_true, beq_iff_eq] at hc
            rcases hc with hc | hc <;> omega
          obtain ⟨h1, h2⟩ := isU8_split_ascii hv hc'
          split at h
          · cases h
          · rename_i b hb
            apply ih r _ p hf' _ h
            exact isU8_append (isU8_append h1 (isU8_ite (isU8_single (by decide) (by decide)) (hok.getD hb).2)) h2
        · split at h
          · rename_i hc
            simp only [Bool.and_eq_true, List.isEmpty_iff, beq_iff_eq] at hc
            obtain ⟨hd, hc⟩ := hc
            subst hd; subst hc
            have hr : IsU8 r := isU8_ascii_cons (by simpa using hv) (by decide)
            split at h
            · rename_i b hb
              split at h
              · rename_i i hi
                apply ih r _ p hf' _ h
                obtain ⟨hi1, hi2⟩ := find_rev_range hi
                have hbd : IsBd b.path i := by
                  apply isBd_of_noncont (hok.cur hb).2 (by omega)
                  have : b.path.getD i 0 = 47 := by simpa using hi2
                  rw [this]; omega
                exact isU8_append (isU8_append hbd.1 (isU8_single (by decide) (by decide))) hr
              · exact ih r _ p hf' (by simpa using hr) h
            · exact ih r _ p hf' (by simpa using hr) h
          · split at h
            · rename_i hc
              simp only [Bool.and_eq_true, beq_iff_eq, Bool.not_eq_true', List.isEmpty_eq_false_iff] at hc
              obtain ⟨hc1, hc2⟩ := hc
              subst hc1
              cases r with
              | nil => exact absurd rfl hc2
              | cons d r' =>
                simp only [List.headD_cons, List.drop_succ_cons, List.drop_zero] at h
                apply ih r' _ p (by simp at hf' ⊢; omega) _ h
                have := isU8_remove_ascii (a := dst) (b := d :: r') (c := 92) hv (by decide)
                simpa using this
            · exact ih r _ p hf' (by simpa using hv) h

theorem pathExpand_core {ed ed' : Ed} {src : Bytes} {sp : Bool} {r : Option Bytes}
    (h : pathExpand ed src sp = some (r, ed')) : core ed' = core ed := by
  rcases Lemmas.C02Ex.pathExpand_state ed ed' src sp r h with rfl | ⟨m, rfl⟩ <;> rfl

theorem pathExpand_ok {ed ed' : Ed} (hok : EdOk ed) {src : Bytes} (hs : IsU8 src) {sp : Bool} {r : Option Bytes}
    (h : pathExpand ed src sp = some (r, ed')) : OptValid r ∧ core ed' = core ed := by
  refine ⟨?_, pathExpand_core h⟩
  cases r with
  | none => exact optValid_none
  | some p =>
    exact optValid_some.mpr (pathExpand_go_valid ed hok sp _ src [] p (by omega) (by simpa using hs)
      (Lemmas.C20c.pathExpand_go_of h).1)

theorem exTxt_rd_valid : ∀ (f : Nat) (inp : List Bytes) (acc : Bytes), IsU8 acc → (∀ l ∈ inp, IsU8 l) →
    IsU8 (exTxt.rd f inp acc).1 ∧ ∀ l ∈ (exTxt.rd f inp acc).2, IsU8 l := by
  intro f
  induction f with
  | zero => intro inp acc ha hi; rw [exTxt.rd.eq_def]; exact ⟨ha, hi⟩
  | succ f ih =>
    intro inp acc ha hi
    rw [exTxt.rd.eq_def]
    simp only []
    cases inp with
    | nil => exact ⟨ha, by intro l hl; simp at hl⟩
    | cons l r =>
      simp only []
      have hr : ∀ x ∈ r, IsU8 x := fun x hx => hi x (by simp [hx])
      split
      · exact ⟨ha, hr⟩
      · exact ih r _ (isU8_append (isU8_append ha (hi l (by simp))) isU8_nl) hr

/-- `ex_txt`: the state stays valid, and the text is valid when the inline text (which does not depend on the state)
is, since the input lines are valid -/
theorem exTxt_ok {ed : Ed} (hok : EdOk ed) (src ex : Bytes) :
    EdOk (exTxt ed src ex).2 ∧ (OptValid (exTxt {} src ex).1.1 → OptValid (exTxt ed src ex).1.1) := by
  unfold exTxt
  simp only []
  generalize (if (List.headD ex 0 != 0) = true then List.getD ex 1 0 else 0) = c1
  by_cases hc1 : (List.headD ex 0 == 114 && c1 == 115 && !List.isEmpty src) = true
  · rw [if_pos hc1, if_pos hc1]
    exact ⟨hok, id⟩
  · rw [if_neg hc1, if_neg hc1]
    by_cases hc2 : (List.headD ex 0 == 114 && c1 == 115 || c1 == 0 && (List.headD ex 0 == 105 || List.headD ex 0 == 97 || List.headD ex 0 == 99)) = true
    · rw [if_pos hc2, if_pos hc2]
      have := exTxt_rd_valid (ed.input.length + 1) ed.input [] isU8_nil hok.input
      exact ⟨⟨hok.bufs, hok.regs, this.2, hok.pipes, hok.files, hok.nofault⟩, fun _ => optValid_some.mpr this.1⟩
    · rw [if_neg hc2, if_neg hc2]
      exact ⟨hok, fun _ => optValid_none⟩

theorem normPath_valid {p : Bytes} (h : IsU8 p) : IsU8 (normPath p) := by
  unfold normPath; split
  · exact isU8_nil
  · exact h

theorem EdOk.bufsLoad {ed : Ed} (h : EdOk ed) : EdOk ed.bufsLoad := by
  unfold Ed.bufsLoad
  split
  · rename_i b hc
    exact ⟨h.bufs, h.regs.put _ (h.cur hc).2 _, h.input, h.pipes, h.files, h.nofault⟩
  · exact ⟨h.bufs, h.regs.put _ isU8_nil _, h.input, h.pipes, h.files, h.nofault⟩

theorem EdOk.bufsSwitch {ed : Ed} (h : EdOk ed) (idx : Nat) : EdOk (ed.bufsSwitch idx) := by
  have ht := Lemmas.C20b.AllB.bufsSwitch idx (Lemmas.C20b.AllB.leftBufs (Q := fun x => LbOk x.lb ∧ IsU8 x.path)
    (fun _ h0 => ⟨modified_ok (h.getD h0).1, (h.getD h0).2⟩) (h.allB.sub fun _ => List.mem_of_mem_drop))
  rw [Props.C20.switch_eq] at ht ⊢
  rw [Props.C20.bufsLoad_bufs] at ht
  exact (h.ofAllB ht).bufsLoad

theorem EdOk.bufsOpen {ed : Ed} (h : EdOk ed) {p : Bytes} (hp : IsU8 p) : EdOk (ed.bufsOpen p).2 := by
  unfold Ed.bufsOpen
  simp only []
  have := h.setAt ed.findRoom (b := { path := normPath p, lb := Lbuf.make, id := ed.bufsCnt + 1 }) lbOk_make (normPath_valid hp)
  exact this.to rfl

theorem EdOk.bufsShift {ed : Ed} (h : EdOk ed) : EdOk ed.bufsShift := by
  have ht := Lemmas.C20b.AllB.bufsShift (h.allB.sub fun _ => List.mem_of_mem_drop)
  unfold Ed.bufsShift at ht ⊢
  rw [Props.C20.bufsLoad_bufs] at ht
  exact (h.ofAllB ht).bufsLoad

end Neatvi.Lemmas.C16c
