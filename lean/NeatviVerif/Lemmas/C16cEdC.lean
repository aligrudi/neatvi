import NeatviVerif.Lemmas.C16cEdB
import NeatviVerif.Lemmas.C05fStr
import NeatviVerif.Props.C03
import NeatviVerif.Lemmas.C06cExec
/-!
# C16c, part 5: saving (`lbuf_save` without scheduled faults writes valid files), the modified-buffer
  guard, the shell oracle, the registers as `reg_get` serves them (the decimal numbers the editor prints — `intStr`, the
  registers `#` and `^` — are ASCII, `Lemmas/C05fStr.lean`, hence valid UTF-8)
-/
set_option linter.unusedSimpArgs false
set_option linter.unusedVariables false
namespace Neatvi.Lemmas.C16c
open Neatvi Neatvi.Uc Neatvi.Spec Neatvi.Lbuf Neatvi.LbufIo Neatvi.Ex Neatvi.Props.C11b Neatvi.Props.C16b
open Neatvi.Props.C03 (GuardsPass afterOpen afterWrite oldData endLine schedOf fuelOf NoErr)

theorem intStr_valid (n : Int) : IsU8 (intStr n) := isU8_ascii (C05f.intStr_ascii n)

theorem EdOk.putFile {ed : Ed} (h : EdOk ed) {f : File} (hf : IsU8 f.data) : EdOk (ed.putFile f) := by
  unfold Ed.putFile
  split
  · refine ⟨h.bufs, h.regs, h.input, h.pipes, ?_, h.nofault⟩
    intro g hg
    simp only [List.mem_map] at hg
    obtain ⟨g0, hg0, rfl⟩ := hg
    split
    · exact hf
    · exact h.files g0 hg0
  · refine ⟨h.bufs, h.regs, h.input, h.pipes, ?_, h.nofault⟩
    intro g hg
    simp only [List.mem_append, List.mem_singleton] at hg
    rcases hg with hg | rfl
    · exact h.files g hg
    · exact hf

theorem EdOk.findFile {ed : Ed} (h : EdOk ed) {p : Bytes} {f : File} (hf : ed.findFile p = some f) : IsU8 f.data :=
  h.files f (List.mem_of_find?_eq_some hf)

theorem EdOk.oldData {ed : Ed} (h : EdOk ed) (p : Bytes) : IsU8 (oldData ed p) := by
  unfold Props.C03.oldData
  cases hf : ed.findFile p with
  | none => exact isU8_nil
  | some f => exact h.findFile hf

theorem nextFault_fst {ed : Ed} (h : ed.faults = []) : ed.nextFault.1 = 0 := by
  unfold Ed.nextFault
  simp [h]

theorem EdOk.nextFault {ed : Ed} (h : EdOk ed) : EdOk ed.nextFault.2 := h.to rfl

theorem EdOk.noErr {ed : Ed} (h : EdOk ed) : NoErr ed := by
  intro f hf; rw [h.nofault] at hf; simp at hf

theorem EdOk.afterOpen {ed : Ed} (h : EdOk ed) (path : Bytes) : EdOk (afterOpen ed path) := by
  unfold Props.C03.afterOpen
  simp only []
  exact (h.nextFault.putFile (f := ⟨path, Props.C03.oldData ed.nextFault.2 path, ed.nextFault.2.clock + 1⟩)
    (h.nextFault.oldData path)).to rfl

theorem lbufSave_ok {ed ed' : Ed} (h : EdOk ed) {lb : Lb} (hl : BufValid lb) {b : Nat} {e : Int} {path : Bytes}
    {force : Bool} {ts : Int} {r : Option Bytes} (hs : lbufSave ed lb b e path force ts = some (r, ed')) : EdOk ed' := by
  refine Props.C03.lbufSave_elim (P := fun _ ed' => EdOk ed') hs (fun _ _ => h) (fun _ _ => h.nextFault.to rfl)
    (fun _ _ st hw => ?_)
  have h2 := h.afterOpen path
  have hok : st.ok = true := by
    by_cases he : endLine lb e ≤ lb.lines.length
    · obtain ⟨st', hw', hok'⟩ := Props.C03.wrFinal_completes (Props.C03.afterOpen ed path) lb b (endLine lb e) h2.noErr he
      rw [hw] at hw'; injection hw' with hw'; subst hw'; exact hok'
    · unfold wrFinal at hw
      rw [if_pos (by omega)] at hw; cases hw
  obtain ⟨e1, e2, _⟩ := Props.C03.wrFinal_ok_exact _ _ _ _ _ _ _ hw hok
  refine EdOk.nextFault ?_
  unfold Props.C03.afterWrite
  simp only []
  refine (h2.putFile (f := ⟨path, _, _⟩) ?_).to rfl
  simp only [hok, if_true]
  rw [e2, ← e1, Props.C01.wr_file, e1]
  apply isU8_flatten
  intro l hl'
  exact hl l ((List.drop_sublist b _).subset ((List.take_sublist _ _).subset hl'))

theorem lbufSaveP_ok {ed ed' : Ed} (h : EdOk ed) {lb : Lb} (hl : BufValid lb) {b : Nat} {e : Int} {path : Bytes}
    {force : Bool} {ts : Int} {r : Option Bytes} (hs : lbufSaveP ed lb b e path force ts = some (r, ed')) : EdOk ed' := by
  unfold lbufSaveP at hs
  split at hs
  · simp only [] at hs
    injection hs with hs; injection hs with _ hs; subst hs
    split
    · exact h.nextFault.to rfl
    · exact h.nextFault
  · exact lbufSave_ok h hl hs

theorem bufsModified_ok {ed ed' : Ed} (h : EdOk ed) {idx : Nat} {msg : Option Bytes} {r : Bool}
    (hm : bufsModified ed idx msg = some (r, ed')) : EdOk ed' :=
  Lemmas.C02Ex.bufsModified_rel (Rel := fun a b => EdOk a → EdOk b) (fun _ h => h) (fun h1 h2 h => h2 (h1 h))
    (fun hb hs h => lbufSave_ok h (h.getD hb).1.lines hs) (fun _ _ h => h.show _) (fun _ h => h.modifiedAt idx) hm h

theorem guard_ok {ed ed' : Ed} {c : Prop} [Decidable c] {idx : Nat} {msg : Option Bytes} {r : Bool} (hi : EdOk ed)
    (h : (if c then bufsModified ed idx msg else some (false, ed) : R Bool) = some (r, ed')) : EdOk ed' := by
  split at h
  · exact bufsModified_ok hi h
  · cases h; exact hi

theorem map_upper_valid {s : Bytes} (h : IsU8 s) : IsU8 (s.map Lemmas.C06c.upperC) := by
  obtain ⟨cs, hv, rfl⟩ := h
  induction cs with
  | nil => exact isU8_nil
  | cons c cs ih =>
    have hc := (valid_cons.mp hv).1
    have hcs := (valid_cons.mp hv).2
    rw [encStr_cons, List.map_append]
    refine isU8_append ?_ (ih hcs)
    by_cases hlt : c < 128
    · rw [C12.enc_low hlt]
      simp only [List.map_cons, List.map_nil]
      apply isU8_single
      · unfold Lemmas.C06c.upperC; split
        · rename_i hc'; simp only [Bool.and_eq_true, decide_eq_true_eq] at hc'; omega
        · exact hc.1
      · unfold Lemmas.C06c.upperC; split <;> omega
    · have hhi := C12.enc_high (c := c) (by omega) hc.2
      have : (enc c).map Lemmas.C06c.upperC = enc c := by
        have hm : ∀ (l : Bytes), (∀ x ∈ l, 128 ≤ x) → l.map Lemmas.C06c.upperC = l := by
          intro l
          induction l with
          | nil => intro _; rfl
          | cons a t iht =>
            intro hl'
            rw [List.map_cons, iht (fun x hx => hl' x (by simp [hx]))]
            congr 1
            have := hl' a (by simp)
            unfold Lemmas.C06c.upperC
            rw [if_neg]
            simp only [Bool.and_eq_true, decide_eq_true_eq]; omega
        exact hm _ hhi
      rw [this]; exact isU8_enc hc

theorem builtinPipe_valid (cmd : Bytes) {input : Bytes} (h : IsU8 input) : IsU8 (builtinPipe cmd input) :=
  isU8_ite h (isU8_ite (map_upper_valid h) (isU8_ite (isU8_single (by decide) (by decide))
    (isU8_ite (isU8_ite (isU8_append (isU8_takeWhile_nl h) isU8_nl) (isU8_takeWhile_nl h)) isU8_nil)))

theorem EdOk.pipe {ed : Ed} (h : EdOk ed) (cmd : Bytes) {input : Bytes} (hi : IsU8 input) {o : Option Bytes}
    (hp : ed.pipe cmd input = some o) : OptValid o := by
  unfold Ed.pipe at hp
  split at hp
  · rename_i p hf
    injection hp with hp; subst hp
    exact h.pipes p (List.mem_of_find?_eq_some hf)
  · injection hp with hp; subst hp
    exact optValid_some.mpr (builtinPipe_valid cmd hi)

/-- the register `;` — the current line without its newline — is valid, whatever the length of the line
(`reg_get` copies the whole line; cut at 1023 bytes, possibly inside a character, it would not be:
`Props/C16c.pu_semicolon_whole`) -/
theorem regGet_line_valid {ed : Ed} (h : EdOk ed) : OptValid (regGet ed 59) := by
  unfold regGet
  simp only []
  rw [if_pos (by decide)]
  apply optValid_some.mpr
  have hl : IsU8 ((ed.line ed.xrow).getD []) := by
    cases hx : ed.line ed.xrow with
    | none => exact isU8_nil
    | some l => exact (h.line hx).1
  exact isU8_takeWhile_nl hl

theorem regGet_valid {ed : Ed} (h : EdOk ed) (c : Nat) : OptValid (regGet ed c) := by
  have hline := regGet_line_valid h
  unfold regGet at hline ⊢
  simp only [] at hline ⊢
  generalize (if (c == 34) = true then 0 else c) = c'
  split
  · rw [if_pos (by decide)] at hline
    exact hline
  · split
    · exact optValid_some.mpr (intStr_valid _)
    · split
      · exact optValid_some.mpr (intStr_valid _)
      · exact h.regs.getRaw c'

end Neatvi.Lemmas.C16c
