import NeatviVerif.Lemmas.C16cOps
import NeatviVerif.Props.C08e
/-!
# C16c, part 11: `c` given valid typed text; typed lines are valid text
-/
set_option linter.unusedSimpArgs false
set_option linter.unusedVariables false
namespace Neatvi.Lemmas.C16c
open Neatvi Neatvi.Uc Neatvi.Spec Neatvi.Lbuf Neatvi.Ex Neatvi.Mot Neatvi.Vi Neatvi.Props.C11b Neatvi.Props.C16b
open Neatvi.Lemmas.C08 (bind_apply pure_apply get_apply liftO_some liftO_none regPut_apply setPos_apply setRow_apply setOff_apply edEdit_apply)

open Neatvi.Lemmas.ViPres (Tr)

/-- `let x ← if p then m₁ else m₂` in a `do` block: both branches call the rest of the block, which is looked at once
(belongs in `Lemmas/ViPres.lean`) -/
theorem Tr.ite_bind {α β : Type} {P : VS → Prop} {R : α → VS → Prop} {Q : β → VS → Prop} {p : Prop} [Decidable p]
    {m₁ m₂ : M α} {k : α → M β} (h₁ : Tr P m₁ R) (h₂ : Tr P m₂ R) (hk : ∀ a, Tr (R a) (k a) Q) :
    Tr P (if p then m₁ >>= k else m₂ >>= k) Q :=
  Tr.ite (Tr.bind h₁ hk) (Tr.bind h₂ hk)

theorem tok_drawfixTop (r : Int) (p : Bool) : Tr TOk (drawfixTop r p) (fun _ => TOk) := by
  unfold drawfixTop
  exact Tr.bind_get' fun s _ => Tr.ite (tok_withEd fun _ h => EdOk.to h rfl) (Tr.pure _ fun _ h => h)

theorem presT_viChange (r1 o1 r2 o2 : Int) (ln : Bool) : PresT (viChange r1 o1 r2 o2 ln) := by
  refine presT_iff.mpr ?_
  unfold viChange
  refine Tr.bind_get' fun s hs => ?_
  refine Tr.bind (Tr.liftO fun region hreg => hs.1.region hreg) fun region => Tr.pre fun hreg => ?_
  refine Tr.bind (tok_withEd fun ed he => he.withRegs (he.regs.put _ hreg _)) fun _ => ?_
  refine Tr.ite_bind (R := fun a s => IsU8 a ∧ TOk s) (Tr.pure' (viIndents_valid _ (hs.1.lineOfOpt _)))
    (Tr.liftO fun a ha => subI_valid (hs.1.lineE _) ha) fun pref => Tr.pre fun hpref => ?_
  refine Tr.ite_bind (R := fun a s => IsU8 a ∧ TOk s) (Tr.pure' isU8_nl)
    (Tr.liftO fun a ha => subI_valid (hs.1.lineE _) ha) fun post => Tr.pre fun hpost => ?_
  refine Tr.bind (tok_setRow _) fun _ => Tr.bind (tok_drawfixTop _ _) fun _ => ?_
  refine Tr.bind (viInput_typed hpref hpost) fun r => Tr.pre fun hr => ?_
  show ViPres.Pres VsOk _
  pres_walk [vpres_edEdit_some, (pres_setPos _ _).v]

open Neatvi.Lemmas.C08e (loopText keepB aiNext lnBlanks TLine TKey inputTextB)
open Neatvi.Lemmas.C08d (dropB lineKeys)
open Neatvi.Lemmas.C08b (aiOf prefRest aiOf_append_prefRest)
open Neatvi.Lemmas.C09 (pending)

theorem isU8_blanks {l : Bytes} (h : ∀ c ∈ l, isBlankC c = true) : IsU8 l :=
  isU8_ascii (fun b hb => isBlankC_ascii (h b hb))

theorem dropB_valid (b : Bool) {post : Bytes} (h : IsU8 post) : IsU8 (dropB b post) := by
  unfold dropB
  cases b
  · simpa using h
  · simp only [if_true]
    rw [Basics.drop_takeWhile_length]
    exact isU8_dropWhile_ascii h _ (fun _ hc => (isBlankC_ascii hc).2)

theorem isU8_getD {o : Option Bytes} (h : OptValid o) : IsU8 (o.getD []) := by
  cases o with
  | none => exact isU8_nil
  | some x => exact h x rfl

theorem loopText_valid (b : Bool) : ∀ (ls : List Bytes) (pref : Option Bytes) (post ai last : Bytes),
    OptValid pref → IsU8 post → (∀ c ∈ ai, isBlankC c = true) → (∀ l ∈ ls, IsU8 l) → IsU8 last →
    IsU8 (loopText b pref post ai ls last) := by
  intro ls
  induction ls with
  | nil =>
    intro pref post ai last hp hq ha _ hl
    unfold loopText
    have hpv := isU8_getD hp
    refine isU8_append (isU8_append (isU8_append ?_ hpv) hl) hq
    split
    · exact isU8_blanks ha
    · exact isU8_nil
  | cons l ls ih =>
    intro pref post ai last hp hq ha hls hl
    unfold loopText
    have hpv := isU8_getD hp
    refine isU8_append (isU8_append (isU8_append (isU8_append ?_ hpv) (hls l (by simp))) isU8_nl) ?_
    · split
      · exact isU8_blanks ha
      · exact isU8_nil
    · exact ih none _ _ last optValid_none (dropB_valid b hq) (Lemmas.C08e.aiNext_blank b _ _ l ha) (fun x hx => hls x (by simp [hx])) hl

theorem aiOf_blank (pref : Bytes) : ∀ c ∈ aiOf pref, isBlankC c = true := by
  intro c hc
  unfold aiOf at hc
  exact Basics.mem_takeWhile ((List.take_sublist _ _).subset hc)

theorem inputText_valid (xai : Bool) {pref post : Bytes} (hp : IsU8 pref) (hq : IsU8 post) (ls : List (List Nat)) (last : List Nat)
    (hv : ∀ l ∈ last :: ls, ∀ c ∈ l, ValidCp c) : IsU8 (Props.C08e.inputText xai pref post ls last) := by
  unfold Props.C08e.inputText inputTextB
  apply loopText_valid
  · apply optValid_some.mpr
    have h := aiOf_append_prefRest pref
    exact isU8_of_append_right (by rw [h]; exact hp) (isU8_blanks (aiOf_blank pref))
  · exact hq
  · exact aiOf_blank pref
  · intro l hl
    simp only [Props.C08e.encLines, List.mem_map] at hl
    obtain ⟨l0, h0, rfl⟩ := hl
    exact isU8_encStr (hv l0 (by simp [h0]))
  · exact isU8_encStr (hv last (by simp))

/-- **typed lines**: when the keys to come are lines of printable characters and tabs (any valid code points
≥ U+0020 but DEL), each ended by a newline, the last by ESC, under the default keymap, the text insert mode
returns is valid UTF-8 -/
theorem typedTextValid_of_lines (s : VS) (ls : List (List Nat)) (last : List Nat) (rest : Bytes)
    (hp : pending s = (ls.map (fun l => encStr l ++ [10])).flatten ++ encStr last ++ [27] ++ rest)
    (hpl : ∀ l ∈ last :: ls, TLine l) (hlen : ls.length < 100000) (hk : s.xkmap = 0) : TypedTextValid s := by
  intro sI pref post r sJ hsI _ hpv hqv hin
  have hpI : pending sI = (ls.map (fun l => encStr l ++ [10])).flatten ++ encStr last ++ [27] ++ rest := by
    rw [hsI]; exact hp
  have hkI : sI.xkmap = 0 := by rw [hsI]; exact hk
  obtain ⟨s2, h1, _, _⟩ := Props.C08e.ledInput_lines_general pref post sI ls last rest hpI hpl hlen hkI
  unfold viInput at hin
  rw [bind_apply, h1] at hin
  dsimp only at hin
  cases hin
  exact inputText_valid _ hpv hqv ls last (fun l hl => (hpl l hl).valid)

end Neatvi.Lemmas.C16c
