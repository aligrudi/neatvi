import NeatviVerif.Lemmas.C06Lbuf
import NeatviVerif.Lemmas.C16cUtf8
/-!
# C16c, part 2: `lbuf.c` — every primitive that changes a line buffer keeps it valid UTF-8
-/
set_option linter.unusedSimpArgs false
set_option linter.unusedVariables false
namespace Neatvi.Lemmas.C16c
open Neatvi Neatvi.Uc Neatvi.Spec Neatvi.Lbuf Neatvi.LbufIo Neatvi.Props.C11b Neatvi.Props.C16b

/-- an optional text (NULL or a string) is valid -/
def OptValid (o : Option Bytes) : Prop := ∀ x, o = some x → IsU8 x

theorem optValid_none : OptValid none := by intro x h; cases h
theorem optValid_some {x : Bytes} : OptValid (some x) ↔ IsU8 x :=
  ⟨fun h => h x rfl, fun h y hy => by injection hy with hy; subst hy; exact h⟩

instance (o : Option Bytes) : Decidable (OptValid o) :=
  match o with
  | none => isTrue optValid_none
  | some x => decidable_of_iff _ optValid_some.symm

/-- **`BufValid`: every line of the buffer is valid UTF-8** -/
def BufValid (lb : Lb) : Prop := ∀ l ∈ lb.lines, IsU8 l

/-- every line of the buffer ends with its newline -/
def LinesNl (lb : Lb) : Prop := ∀ l ∈ lb.lines, EndsNl l

/-- every text the undo history holds (inserted or deleted) is valid UTF-8 -/
def HistValid (lb : Lb) : Prop := ∀ e ∈ lb.hist, OptValid e.ins ∧ OptValid e.del

/-- the invariant of a line buffer: lines and undo history are valid UTF-8, every line ends with its newline -/
structure LbOk (lb : Lb) : Prop where
  lines : BufValid lb
  nl : LinesNl lb
  hist : HistValid lb

instance (lb : Lb) : Decidable (BufValid lb) := by unfold BufValid; exact inferInstance
instance (s : Bytes) : Decidable (EndsNl s) :=
  decidable_of_iff (s.getLast? = some 10) (by
    constructor
    · intro h
      rcases List.eq_nil_or_concat s with rfl | ⟨t, x, rfl⟩
      · simp at h
      · simp at h; subst h; exact ⟨t, by simp⟩
    · rintro ⟨t, rfl⟩; simp)
instance (lb : Lb) : Decidable (LinesNl lb) := by unfold LinesNl; exact inferInstance
instance (lb : Lb) : Decidable (HistValid lb) := by unfold HistValid; exact inferInstance
instance (lb : Lb) : Decidable (LbOk lb) :=
  decidable_of_iff (BufValid lb ∧ LinesNl lb ∧ HistValid lb)
    ⟨fun h => ⟨h.1, h.2.1, h.2.2⟩, fun h => ⟨h.lines, h.nl, h.hist⟩⟩

theorem lbOk_make : LbOk Lbuf.make :=
  ⟨by intro l hl; simp [Lbuf.make] at hl, by intro l hl; simp [Lbuf.make] at hl, by intro e he; simp [Lbuf.make] at he⟩

/-! ## fields the invariant does not read -/

theorem lbOk_congr {lb lb' : Lb} (h : LbOk lb) (h1 : lb'.lines = lb.lines) (h2 : lb'.hist = lb.hist) : LbOk lb' :=
  ⟨by unfold BufValid; rw [h1]; exact h.lines, by unfold LinesNl; rw [h1]; exact h.nl,
    by unfold HistValid; rw [h2]; exact h.hist⟩

theorem setMark_ok {lb : Lb} (h : LbOk lb) (c : Nat) (p o : Int) : LbOk (setMark lb c p o) :=
  lbOk_congr h (Props.C01.setMark_lines lb c p o) (Lemmas.Hist.setMark_hist lb c p o)

theorem globSet_ok {lb : Lb} (h : LbOk lb) (p d : Nat) : LbOk (globSet lb p d) := lbOk_congr h rfl rfl
theorem globGet_ok {lb : Lb} (h : LbOk lb) (p d : Nat) : LbOk (globGet lb p d).2 := lbOk_congr h rfl rfl
theorem modified_ok {lb : Lb} (h : LbOk lb) : LbOk (modified lb).2 := lbOk_congr h rfl rfl
theorem unsavedMark_ok {lb : Lb} (h : LbOk lb) : LbOk (unsavedMark lb) := lbOk_congr h rfl rfl

theorem savedCore_ok {lb : Lb} (h : LbOk lb) (clear : Bool) : LbOk (savedCore lb clear) := by
  unfold savedCore
  cases clear
  · exact lbOk_congr h rfl rfl
  · exact ⟨h.lines, h.nl, by intro e he; simp at he⟩

theorem loadPos_ok {lb : Lb} (h : LbOk lb) (e : Entry) : LbOk (loadPos lb e) := lbOk_congr h rfl rfl

theorem loadMarks_ok {lb : Lb} (h : LbOk lb) (e : Entry) : LbOk (loadMarks lb e) := by
  unfold loadMarks
  split
  · exact h
  · exact lbOk_congr h rfl rfl

theorem endsNl_of_wf {l : Bytes} (h : Props.C01.WfLine l) : EndsNl l := by
  obtain ⟨w, rfl, _⟩ := h
  exact ⟨w, rfl⟩

theorem replace_ok {lb lb' : Lb} {s : Option Bytes} {pos nDel : Nat} (h : LbOk lb) (hs : OptValid s)
    (hr : replace lb s pos nDel = some lb') : LbOk lb' := by
  unfold replace at hr
  simp only [] at hr
  split at hr
  · injection hr with hr
    subst hr
    apply setMark_ok
    apply setMark_ok
    have hnew : ∀ l ∈ (match s with | none => [] | some x => splitLines x), IsU8 l ∧ EndsNl l := by
      intro l hl
      cases s with
      | none => simp at hl
      | some x => exact ⟨splitLines_valid (hs x rfl) l hl, endsNl_of_wf (Props.C01.lines_wf x l hl)⟩
    refine ⟨?_, ?_, h.hist⟩
    · intro l hl
      exact (Basics.mem_splice hl).elim (h.lines l) (fun h1 => (hnew l h1).1)
    · intro l hl
      exact (Basics.mem_splice hl).elim (h.nl l) (fun h1 => (hnew l h1).2)
  · cases hr

theorem opt_ok {lb : Lb} (h : LbOk lb) {buf : Option Bytes} (hb : OptValid buf) (pos nDel : Nat) :
    LbOk (opt lb buf pos nDel) := by
  refine ⟨h.lines, h.nl, ?_⟩
  intro e he
  unfold opt at he
  simp only [List.mem_append, List.mem_singleton] at he
  rcases he with he | he
  · exact h.hist e ((List.take_sublist _ _).subset he)
  · subst he
    refine ⟨hb, ?_⟩
    simp only []
    split
    · exact optValid_some.mpr (cp_valid lb h.lines _ _)
    · exact optValid_none

theorem edit_ok {lb lb' : Lb} {buf : Option Bytes} {b e : Nat} (h : LbOk lb) (hb : OptValid buf)
    (hr : Lbuf.edit lb buf b e = some lb') : LbOk lb' := by
  obtain ⟨_, ⟨_, _, rfl⟩ | hr⟩ := Lemmas.C06.edit_cases hr
  · exact h
  · exact replace_ok (opt_ok h hb _ _) hb hr

/-- `lbuf_undo` and `lbuf_redo` put back texts of the history, which are valid -/
theorem lbOk_replRel : Lemmas.C15b.ReplRel (fun lb lb' => LbOk lb → LbOk lb') :=
  .ofParts
    (refl := fun _ h => h)
    (trans := fun h1 h2 h => h2 (h1 h))
    (repl := fun {lb _ u _ _ _ _} he hs hr h =>
      replace_ok (lb := { lb with histU := u }) (lbOk_congr h rfl rfl)
        (by rcases hs with rfl | rfl; exact (h.hist _ he).2; exact (h.hist _ he).1) hr)
    (pos := fun _ e h => loadPos_ok h e)
    (marks := fun _ e h => loadMarks_ok h e)

theorem undo_ok {lb lb' : Lb} {rc : Nat} (h : LbOk lb) (hr : Lbuf.undo lb = some (rc, lb')) : LbOk lb' :=
  Lemmas.C15b.undo_rel lbOk_replRel hr h

theorem redo_ok {lb lb' : Lb} {rc : Nat} (h : LbOk lb) (hr : Lbuf.redo lb = some (rc, lb')) : LbOk lb' :=
  Lemmas.C15b.redo_rel lbOk_replRel hr h

theorem rd_ok {lb lb' : Lb} {chunks : List Bytes} {finErr : Bool} {b e rc : Nat} (h : LbOk lb)
    (hc : IsU8 chunks.flatten) (hr : LbufIo.rd lb chunks finErr b e = some (rc, lb')) : LbOk lb' := by
  rw [Props.C01.rd_eq] at hr
  split at hr
  · cases hr; exact h
  · obtain ⟨l, he, hl⟩ := Option.map_eq_some_iff.1 hr
    cases hl
    rw [cstr_valid hc] at he
    exact edit_ok h (optValid_some.mpr hc) he

end Neatvi.Lemmas.C16c
