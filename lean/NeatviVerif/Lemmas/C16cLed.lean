import NeatviVerif.Lemmas.C16cSpec
import NeatviVerif.Lemmas.C16d
/-!
# C16c, part 13: the line editor `led_line`, insert mode and `vi_char` on *any* valid key stream (no `^V`): the text
  they return is valid UTF-8 — backspace, `^U ^W ^T ^D`, the registers (`^P`, `^R` with any register name, also a
  multi-byte one), digraphs (`^K` with any two characters), keymaps (`^F ^E`), multi-byte characters.

The statements are triples of `Lemmas/ViPres.lean` over `KOk` (state and keys to come valid), proved along the loop
bodies: `term_read` leaves `KRead c` (it returned the first byte of a character, whose continuation bytes are the next
keys); a branch for an ASCII key gets `KOk` back (`KRead.asc`); `led_readchar` reads the rest of the character
(`readCharS_tr`).
-/
set_option linter.unusedSimpArgs false
set_option linter.unusedVariables false
namespace Neatvi.Lemmas.C16c
open Neatvi Neatvi.Uc Neatvi.Spec Neatvi.Lbuf Neatvi.Ex Neatvi.Mot Neatvi.Vi Neatvi.Props.C11b Neatvi.Props.C16b
open Neatvi.Lemmas.C09 (pending)
open Neatvi.Lemmas.C08b (Reads setKmapOf ledLine_eq)
open Neatvi.Lemmas.ViPres (Tr)

theorem digraphs_valid : ∀ d ∈ Gen.digraphs, u8chk d.2 = true := by decide +kernel
theorem kmaps_valid : ∀ km ∈ Gen.kmaps, ∀ e ∈ km, u8chk e.2 = true := by decide +kernel

theorem kmapMap_valid (kmap c : Nat) (h0 : 0 < c) (hc : c < 128) : IsU8 (kmapMap kmap c) := by
  unfold kmapMap
  rw [if_neg (by simp; omega)]
  split
  · rename_i e he
    have hm := List.mem_of_find?_eq_some he
    unfold List.getD at hm
    cases hk : Gen.kmaps[kmap]? with
    | none => rw [hk] at hm; simp at hm
    | some km =>
      rw [hk] at hm
      exact (u8chk_iff _).mp (kmaps_valid km (List.mem_of_getElem? hk) e (by simpa using hm))
  · exact isU8_single (by omega) (by omega)

/-- **the keys to come are valid UTF-8 and hold no `^V`** (which inserts a raw byte) -/
def KeysOk (s : VS) : Prop := ∃ cs, Valid cs ∧ 22 ∉ cs ∧ pending s = encStr cs

instance (s : VS) : Decidable (KeysOk s) :=
  decidable_of_iff (u8chk (pending s) = true ∧ 22 ∉ pending s) (by
    constructor
    · rintro ⟨h1, h2⟩
      obtain ⟨cs, hv, e⟩ := (u8chk_iff _).mp h1
      refine ⟨cs, hv, ?_, e⟩
      intro hm
      apply h2
      rw [e]
      obtain ⟨a, b, rfl⟩ := List.append_of_mem hm
      rw [encStr_append, encStr_cons, C12.enc_low (by decide)]
      simp
    · rintro ⟨cs, hv, h22, e⟩
      refine ⟨(u8chk_iff _).mpr ⟨cs, hv, e⟩, ?_⟩
      rw [e]
      intro hm
      clear e
      induction cs with
      | nil => simp at hm
      | cons c cs ih =>
        rw [encStr_cons] at hm
        rcases List.mem_append.mp hm with h1 | h1
        · by_cases hlt : c < 128
          · rw [C12.enc_low hlt] at h1
            simp at h1
            exact h22 (by simp [h1])
          · have := C12.enc_high (c := c) (by omega) (valid_cons.mp hv).1.2 22 h1
            omega
        · exact ih (valid_cons.mp hv).2 (fun h => h22 (by simp [h])) h1)

theorem enc_shape {c : Nat} (hc : ValidCp c) : ∃ k t, enc c = k :: t ∧ t.length = ucLen k - 1 ∧ 0 < k ∧ k < 256 ∧
    (c < 128 → k = c ∧ t = []) ∧ (128 ≤ c → 192 ≤ k) ∧ (∀ x ∈ t, 128 ≤ x ∧ x < 192) := by
  obtain ⟨a, t, he, hch⟩ := enc_chr hc
  have hl := Props.C16.len_enc hc
  rw [he] at hl
  simp only [Bytes.hd_cons, List.length_cons] at hl
  refine ⟨a, t, he, by omega, hch.pos, hch.lt, ?_, ?_, hch.tl⟩
  · intro hlt
    rw [C12.enc_low hlt] at he
    injection he with h1 h2
    exact ⟨h1.symm, h2.symm⟩
  · intro hge
    have := C12.enc_high (c := c) hge hc.2 a (by rw [he]; simp)
    rcases hch.lead with ⟨h1, _⟩ | h1
    · omega
    · exact h1

/-- a key stream that starts with the continuation bytes `t` of a character whose lead byte was read -/
def KeysMid (t : Bytes) (s : VS) : Prop := ∃ cs, Valid cs ∧ 22 ∉ cs ∧ pending s = t ++ encStr cs

theorem KeysOk.of_mid_nil {s : VS} (h : KeysMid [] s) : KeysOk s := by
  obtain ⟨cs, a, b, c⟩ := h; exact ⟨cs, a, b, by simpa using c⟩

theorem KeysMid.congr {t : Bytes} {s s' : VS} (h : KeysMid t s) (hp : pending s' = pending s) : KeysMid t s' := by
  obtain ⟨cs, a, b, c⟩ := h; exact ⟨cs, a, b, by rw [hp]; exact c⟩
theorem KeysOk.congr {s s' : VS} (h : KeysOk s) (hp : pending s' = pending s) : KeysOk s' := by
  obtain ⟨cs, a, b, c⟩ := h; exact ⟨cs, a, b, by rw [hp]; exact c⟩

theorem KeysOk.head {s : VS} (h : KeysOk s) (hne : pending s ≠ []) :
    ∃ c k t rest, ValidCp c ∧ c ≠ 22 ∧ enc c = k :: t ∧ pending s = k :: (t ++ rest) ∧ t.length = ucLen k - 1 ∧
      0 < k ∧ k < 256 ∧ (c < 128 → k = c ∧ t = []) ∧ (128 ≤ c → 192 ≤ k) ∧
      (∀ s', pending s' = rest → KeysOk s') ∧ (∀ x ∈ t, 128 ≤ x ∧ x < 192) := by
  obtain ⟨cs, hv, h22, e⟩ := h
  cases cs with
  | nil => exact absurd e hne
  | cons c cs =>
    have hc := (valid_cons.mp hv).1
    have hcs := (valid_cons.mp hv).2
    obtain ⟨k, t, he, hl, h0, h256, hlo, hhi, htl⟩ := enc_shape hc
    refine ⟨c, k, t, encStr cs, hc, fun h => h22 (by simp [h]), he, ?_, hl, h0, h256, hlo, hhi, ?_, htl⟩
    · rw [e, encStr_cons, he]; rfl
    · intro s' hp; exact ⟨cs, hcs, fun h => h22 (by simp [h]), hp⟩

theorem readKey_keysOk (s s' : VS) (c : Int) (h : KeysOk s) (hr : readKey s = Res.ok c s') : KeysOk s' := by
  obtain ⟨k, rest, hp, hc, hp', hlen⟩ := Lemmas.C16d.readKey_key s s' c hr
  obtain ⟨c0, k0, t, rest0, hv, _, he, hp0, hl, _, _, hlo, hhi, hok, _⟩ := h.head (by rw [hp]; simp)
  rw [hp] at hp0
  injection hp0 with e1 e2
  subst e1
  apply hok
  rw [hp', e2]
  by_cases hlt : c0 < 128
  · obtain ⟨e3, e4⟩ := hlo hlt
    subst e4
    rw [if_neg (by omega)]; simp
  · have := hhi (by omega)
    rw [if_pos this, ← hl]; simp

theorem Reads.vsOk {ins : Bool} {used : Bytes} {s s' : VS} (h : Reads ins used s s') (hs : VsOk s) : VsOk s' := by
  obtain ⟨ib, ip, ty, xl, rfl, _⟩ := h
  exact EdOk.to hs rfl


/-- backspace: the last character goes, whole -/
theorem take_lastChar_valid {sb : Bytes} (h : IsU8 sb) : IsU8 (sb.take (lastChar sb)) := by
  obtain ⟨cs, hv, rfl⟩ := h
  rcases List.eq_nil_or_concat cs with rfl | ⟨pre, c, rfl⟩
  · exact isU8_nil
  · rw [List.concat_eq_append] at hv ⊢
    have hv' := valid_append.mp hv
    have hc : ValidCp c := hv'.2 c (by simp)
    rw [encStr_append, show encStr [c] = enc c by simp, Lemmas.C08b.take_lastChar_enc _ c hc]
    exact isU8_encStr hv'.1

/-- `^W`: the cut is at the start of a character -/
theorem take_lastWord_valid {sb : Bytes} (h : IsU8 sb) : IsU8 (sb.take (lastWord sb)) := by
  obtain ⟨cs, hv, rfl⟩ := h
  unfold lastWord
  split
  · exact isU8_nil
  · dsimp only
    generalize hidx : lastWord.back2 _ _ _ _ = idx
    rw [Props.C16.chop_spec hv]
    unfold List.getD
    cases hg : ((List.range (cs.length + 1)).map (byteOff cs)).dropLast[idx]? with
    | none => simpa using isU8_nil
    | some x =>
      simp only [Option.getD_some]
      have hm := (List.dropLast_sublist _).subset (List.mem_of_getElem? hg)
      simp only [List.mem_map, List.mem_range] at hm
      obtain ⟨j, _, rfl⟩ := hm
      exact (cut_codepoints hv j).1

/-- what the loop keeps: the text valid, the auto-indent made of blanks, the state valid, the keys to come valid -/
def LedPost (r : Bytes × Int × Bytes) (s' : VS) : Prop :=
  IsU8 r.1 ∧ (∀ c ∈ r.2.2, isBlankC c = true) ∧ VsOk s' ∧ KeysOk s'

theorem blank_dropLast {ai : Bytes} (h : ∀ c ∈ ai, isBlankC c = true) : ∀ c ∈ ai.dropLast, isBlankC c = true :=
  fun c hc => h c ((List.dropLast_sublist _).subset hc)

theorem setKmapOf_spec (ex : Bool) (v : Option Nat) (s : VS) :
    ∃ s2, setKmapOf ex v s = Res.ok () s2 ∧ s2.ed = s.ed ∧ pending s2 = pending s := by
  unfold setKmapOf Vi.modify
  dsimp only
  split
  · exact ⟨_, rfl, rfl, rfl⟩
  · exact ⟨_, rfl, rfl, rfl⟩

theorem VsOk.of_ed {s s2 : VS} (h : VsOk s) (he : s2.ed = s.ed) : VsOk s2 := by unfold VsOk; rw [he]; exact h

/-- the state and the keys to come are valid -/
def KOk (s : VS) : Prop := VsOk s ∧ KeysOk s

/-- what `term_read` leaves of a valid key stream: it returned the first byte `k` of a character `cp`, whose
continuation bytes `t` are the next keys -/
def KRead (c : Int) (s : VS) : Prop :=
  VsOk s ∧ ∃ cp k t rest, ValidCp cp ∧ cp ≠ 22 ∧ enc cp = k :: t ∧ Chr k t ∧ c = (k : Int) ∧ t.length = ucLen k - 1 ∧
    (cp < 128 → k = cp) ∧ pending s = t ++ rest ∧ ∀ s', pending s' = rest → KeysOk s'

theorem termRead_tr : Tr KOk termRead KRead := by
  intro s c s' ⟨hs, hq⟩ h
  by_cases hne : pending s = []
  · rw [Lemmas.C09.termRead_eof s hne] at h; cases h
  · obtain ⟨cp, k, t, rest, hcv, hc22, he, hp, hl, hk0, hk256, hlo, hhi, hok, htl⟩ := hq.head hne
    obtain ⟨h1, h2, h3⟩ := Lemmas.C08b.termRead_afterRead s k (t ++ rest) hp
    rw [h1] at h
    cases h
    refine ⟨Reads.vsOk h3 hs, cp, k, t, rest, hcv, hc22, he, ⟨hk0, hk256, ?_, htl⟩, rfl, hl, fun h => (hlo h).1, h2, hok⟩
    by_cases hlt : cp < 128
    · exact Or.inl ⟨by have := (hlo hlt).1; omega, (hlo hlt).2⟩
    · exact Or.inr (hhi (by omega))

theorem KRead.ascii {c : Int} {s : VS} (h : KRead c s) (hc : c < 192) : KOk s := by
  obtain ⟨hs, cp, k, t, rest, -, -, -, hch, rfl, -, -, hp, hok⟩ := h
  rcases hch.lead with ⟨-, rfl⟩ | h192
  · exact ⟨hs, hok s (by simpa using hp)⟩
  · omega

theorem KRead.congr {c : Int} {s s' : VS} (h : KRead c s) (he : s'.ed = s.ed) (hp : pending s' = pending s) : KRead c s' := by
  obtain ⟨hs, cp, k, t, rest, a1, a2, a3, a4, a5, a6, a7, a8, a9⟩ := h
  exact ⟨hs.of_ed he, cp, k, t, rest, a1, a2, a3, a4, a5, a6, a7, hp.trans a8, a9⟩

theorem readKey_tr : Tr KOk readKey (fun _ => KOk) :=
  fun s c s' hs h => ⟨pres_readKey s c s' hs.1 h, readKey_keysOk s s' c hs.2 h⟩

theorem digraph_find_valid (p : Bytes × Bytes → Bool) : OptValid ((Gen.digraphs.find? p).map (·.2)) := by
  intro x hx
  cases hf : Gen.digraphs.find? p with
  | none => rw [hf] at hx; cases hx
  | some d =>
    rw [hf] at hx
    cases hx
    exact (u8chk_iff _).mp (digraphs_valid d (List.mem_of_find?_eq_some hf))

theorem readCharS_ascii_tr (k kmap : Nat) (h0 : 0 < k) (hk : k < 128) (h22 : k ≠ 22) :
    Tr KOk (readCharS (k : Int) kmap) (fun r s => OptValid r ∧ KOk s) := by
  unfold readCharS
  refine Tr.ite_dec (fun hc => absurd (by simp at hc; omega) h22) fun _ => ?_
  refine Tr.ite ?_ (Tr.ite_dec (fun hc => absurd hc (by simp; omega)) fun _ =>
    Tr.pure _ fun s hs => ⟨optValid_some.mpr (by rw [Int.toNat_natCast]; exact kmapMap_valid kmap k h0 hk), hs⟩)
  refine Tr.bind readKey_tr fun c1 => Tr.ite (Tr.pure _ fun s hs => ⟨optValid_none, hs⟩)
    (Tr.ite (Tr.pure _ fun s hs => ⟨optValid_some.mpr isU8_nil, hs⟩) ?_)
  exact Tr.bind readKey_tr fun c2 => Tr.ite (Tr.pure _ fun s hs => ⟨optValid_none, hs⟩)
    (Tr.pure _ fun s hs => ⟨digraph_find_valid _, hs⟩)

theorem readCharS_tr (c : Int) (kmap : Nat) : Tr (KRead c) (readCharS c kmap) (fun r s => OptValid r ∧ KOk s) := by
  intro s r s' ⟨hs, cp, k, t, rest, hcv, hc22, he, hch, hc, hl, hlo, hp, hok⟩ h
  subst hc
  rcases hch.lead with ⟨hlt, rfl⟩ | h192
  · have hcp : cp = k := by
      rw [C12.enc_low (c := cp) (by
        apply Classical.byContradiction; intro hge
        have := C12.enc_high (c := cp) (by omega) hcv.2 k (by rw [he]; simp); omega)] at he
      injection he
    subst hcp
    exact readCharS_ascii_tr cp kmap hch.pos hlt hc22 s r s' ⟨hs, hok s (by simpa using hp)⟩ h
  · obtain ⟨s2, e1, e2, e3⟩ := Lemmas.C08b.readCharS_multi k kmap s t rest h192 hp hl
    rw [e1] at h
    cases h
    rw [Lemmas.C08b.chr_bytes hch, ← he]
    exact ⟨optValid_some.mpr (isU8_enc hcv), Reads.vsOk e2 hs, hok _ e3⟩

theorem viChar_go_tr : ∀ f : Nat, Tr KOk (viChar.go f) (fun r s => OptValid r ∧ KOk s)
  | 0 => by unfold viChar.go; exact Tr.pure _ fun s hs => ⟨optValid_none, hs⟩
  | f + 1 => by
    unfold viChar.go
    refine Tr.bind termRead_tr fun c => ?_
    refine Tr.ite_dec (fun hc => Tr.pure _ fun s hs => ⟨optValid_none, hs.ascii ?_⟩) fun _ => ?_
    · unfold tkInt at hc; simp at hc; omega
    refine Tr.ite_dec (fun hc => Tr.bind (R := fun _ => KOk) ?_ fun _ => viChar_go_tr f) fun _ => ?_
    · intro s _ s' hs h; cases h
      exact (hs.congr (s' := { s with xkmap := s.xkmapAlt }) rfl rfl).ascii (by simp at hc; omega)
    refine Tr.ite_dec (fun hc => Tr.bind (R := fun _ => KOk) ?_ fun _ => viChar_go_tr f) fun _ => ?_
    · intro s _ s' hs h; cases h
      exact (hs.congr (s' := { s with xkmap := 0 }) rfl rfl).ascii (by simp at hc; omega)
    exact Tr.bind_get' fun s _ => readCharS_tr c s.xkmap

theorem KRead.asc {α : Type} {c : Int} {m : M α} {Q : α → VS → Prop} (hc : c < 192) (h : Tr KOk m Q) : Tr (KRead c) m Q :=
  h.conseq (fun s hs => hs.ascii hc) (fun _ _ h => h)

theorem ledLine_go_tr (post : Bytes) (aiMax : Nat) (im pe : Bool) (setKmap : Option Nat → M Unit) (getKmap : M Nat)
    (redraw : Bytes → Bytes → Bytes → M Unit) (h1 : ∀ k, Tr KOk (setKmap k) (fun _ => KOk))
    (h2 : ∀ P : VS → Prop, Tr P getKmap (fun _ => P)) (h3 : ∀ a b c, Tr KOk (redraw a b c) (fun _ => KOk)) :
    ∀ (f : Nat) (sb ai : Bytes) (c1 : Int), IsU8 sb → (∀ c ∈ ai, isBlankC c = true) →
      Tr KOk (ledLine.go post aiMax im pe setKmap getKmap redraw f sb ai c1) LedPost
  | 0, sb, ai, c1, hsb, hai => by
    unfold ledLine.go
    exact Tr.pure _ fun s hs => ⟨hsb, hai, hs.1, hs.2⟩
  | f + 1, sb, ai, c1, hsb, hai => by
    have ih := ledLine_go_tr post aiMax im pe setKmap getKmap redraw h1 h2 h3 f
    unfold ledLine.go
    refine Tr.bind (h3 _ _ _) fun _ => Tr.bind termRead_tr fun c => ?_
    -- the branches of the model's `if` chain in its order: `^F ^E`, backspace, `^U ^W ^T ^D ^P ^R ^A`, newline,
    -- ESC/`^C` (all ASCII: `KRead.asc`), then a text key
    refine Tr.ite_dec (fun hc => KRead.asc (by simp at hc; omega) (Tr.bind (h1 _) fun _ => ih _ _ _ hsb hai)) fun _ => ?_
    refine Tr.ite_dec (fun hc => KRead.asc (by simp at hc; omega) (Tr.bind (h1 _) fun _ => ih _ _ _ hsb hai)) fun _ => ?_
    refine Tr.ite_dec (fun hc => KRead.asc (by simp at hc; omega) (ih _ _ _ (isU8_ite hsb (take_lastChar_valid hsb)) hai)) fun _ => ?_
    refine Tr.ite_dec (fun hc => KRead.asc (by simp at hc; omega) (ih _ _ _ isU8_nil hai)) fun _ => ?_
    refine Tr.ite_dec (fun hc => KRead.asc (by simp at hc; omega) (ih _ _ _ (isU8_ite hsb (take_lastWord_valid hsb)) hai)) fun _ => ?_
    refine Tr.ite_dec (fun hc => KRead.asc (by simp at hc; omega) (ih _ _ _ hsb ?_)) fun _ => ?_
    · split
      · intro x hx
        rcases List.mem_append.mp hx with h | h
        · exact hai x h
        · simp at h; subst h; rfl
      · exact hai
    refine Tr.ite_dec (fun hc => KRead.asc (by simp at hc; omega) (ih _ _ _ ?_ (blank_dropLast hai))) fun _ => ?_
    · split
      · rename_i hb
        simp only [Bool.and_eq_true] at hb
        exact isU8_drop_one_ascii hsb (isBlankC_ascii hb.2).2
      · exact hsb
    refine Tr.ite_dec (fun hc => KRead.asc (by simp at hc; omega) (Tr.bind_get' fun s hs =>
      ih _ _ _ (isU8_append hsb (isU8_getD (regGet_valid hs.1 _))) hai)) fun _ => ?_
    refine Tr.ite_dec (fun hc => KRead.asc (by simp at hc; omega) (Tr.bind readKey_tr fun y => Tr.bind_get' fun s hs =>
      ih _ _ _ (isU8_ite (isU8_append hsb (isU8_getD (regGet_valid hs.1 _))) hsb) hai)) fun _ => ?_
    refine Tr.ite_dec (fun hc => KRead.asc (by simp at hc; omega)
      (Tr.ite_seq (fun s _ s' hs h => by cases h; exact ⟨hs.1.of_ed rfl, hs.2.congr rfl⟩) fun _ => ih _ _ _ hsb hai)) fun _ => ?_
    refine Tr.ite_dec (fun hc => KRead.asc (by simp at hc; omega)
      (Tr.bind (h3 _ _ _) fun _ => Tr.pure _ fun s hs => ⟨hsb, hai, hs.1, hs.2⟩)) fun _ => ?_
    refine Tr.ite_dec (fun hc => KRead.asc (by unfold tkInt at hc; simp at hc; omega)
      (Tr.pure _ fun s hs => ⟨hsb, hai, hs.1, hs.2⟩)) fun _ => ?_
    refine Tr.bind (h2 _) fun km => Tr.bind (readCharS_tr c km) fun r => ?_
    cases r with
    | none => exact (ih _ _ _ hsb hai).conseq (fun s hs => hs.2) (fun _ _ h => h)
    | some cs => exact Tr.pre fun hr => ih _ _ _ (isU8_append hsb (hr cs rfl)) hai

theorem ledLine_tr (pref post ai0 : Bytes) (aiMax : Nat) (ins ex : Bool) (hai : ∀ c ∈ ai0, isBlankC c = true) :
    Tr KOk (ledLine pref post ai0 aiMax ins ex) LedPost := by
  rw [ledLine_eq]
  refine ledLine_go_tr _ _ _ _ _ _ _ (fun k s _ s' hs h => ?_) (fun P s _ s' hs h => by cases h; exact hs)
    (fun a b c s _ s' hs h => ?_) _ _ _ _ isU8_nil hai
  · obtain ⟨s2, e1, e2, e3⟩ := setKmapOf_spec ex k s
    rw [e1] at h; cases h
    exact ⟨hs.1.of_ed e2, hs.2.congr e3⟩
  · rw [Lemmas.C08b.redrawOf_apply] at h; cases h
    obtain ⟨g1, g2⟩ := Lemmas.C08b.reads_afterRedraw pref ins a b c s
    exact ⟨Reads.vsOk g1 hs.1, hs.2.congr g2⟩

theorem viNextlineR_tr : Tr KOk viNextlineR (fun _ => KOk) := by
  unfold viNextlineR
  refine Tr.bind_get' fun s _ => ?_
  intro s1 _ s' hs h
  cases h
  refine ⟨EdOk.to hs.1 ?_, hs.2.congr rfl⟩
  dsimp only
  split <;> rfl

theorem ledInput_loop_tr (xai : Bool) : ∀ (f : Nat) (sb : Bytes) (pref : Option Bytes) (post ai : Bytes),
    IsU8 sb → OptValid pref → IsU8 post → (∀ c ∈ ai, isBlankC c = true) →
    Tr KOk (ledInput.loop xai f sb pref post ai) (fun r s' => IsU8 r.1 ∧ KOk s') := by
  intro f
  induction f with
  | zero =>
    intro sb pref post ai hsb hp hpost hai
    unfold ledInput.loop
    exact Tr.pure _ fun s hs => ⟨isU8_append hsb hpost, hs⟩
  | succ f ih =>
    intro sb pref post ai hsb hp hpost hai
    unfold ledInput.loop
    dsimp only
    refine Tr.bind (ledLine_tr _ _ _ _ _ _ hai) fun ⟨ln, key, ai1⟩ => ?_
    dsimp only
    refine Tr.conseq (P' := fun s => (IsU8 ln ∧ ∀ c ∈ ai1, isBlankC c = true) ∧ KOk s) (Tr.pre fun ⟨hln, hai1⟩ => ?_)
      (fun s h => ⟨⟨h.1, h.2.1⟩, h.2.2⟩) (fun _ _ h => h)
    have hpv := isU8_getD hp
    have hsb' : ∀ b : Bool, IsU8 ((if b = true then sb ++ ai1 else sb) ++ pref.getD [] ++ ln ++
          (if (key == 10) = true then [10] else [])) := fun b =>
      isU8_append (isU8_append (isU8_append (isU8_ite (isU8_append hsb (isU8_blanks hai1)) hsb) hpv) hln)
        (isU8_ite isU8_nl isU8_nil)
    have hai' : ∀ b : Bool, ∀ c ∈ (if (!xai) = true then []
        else if (!b) = true then ai1 ++ ln.take (min (ln.takeWhile isBlankC).length (127 - ai1.length)) else ai1),
        isBlankC c = true := by
      intro b
      split
      · intro c hc; simp at hc
      · split
        · intro c hc
          rcases List.mem_append.mp hc with h1 | h1
          · exact hai1 c h1
          · rw [Lemmas.C08e.take_min_blanks] at h1
            exact Lemmas.C08b.blanks_takeWhile ln c (List.mem_of_mem_take h1)
        · exact hai1
    refine Tr.bind (Tr.repeatM _ viNextlineR_tr) fun _ => Tr.ite (Tr.pure _ fun s hs => ⟨isU8_append (hsb' _) hpost, hs⟩) ?_
    refine ih _ none _ _ (hsb' _) optValid_none ?_ (hai' _)
    split
    · rw [Basics.drop_takeWhile_length]
      exact isU8_dropWhile_ascii hpost _ (fun _ hc => (isBlankC_ascii hc).2)
    · simpa using hpost


theorem viInput_tr (pref post : Bytes) (hp : IsU8 pref) (hpost : IsU8 post) :
    Tr KOk (viInput pref post) (fun r s' => IsU8 r.1 ∧ KOk s') := by
  unfold viInput ledInput
  refine Tr.bind (R := fun r s' => IsU8 r.1 ∧ KOk s') (Tr.bind_get' fun s _ => ?_) fun r => Tr.pure _ fun _ h => h
  refine ledInput_loop_tr _ _ _ _ _ _ isU8_nil (optValid_some.mpr ?_) hpost (aiOf_blank pref)
  have h1 := Lemmas.C08b.aiOf_append_prefRest pref
  exact isU8_of_append_right (a := Lemmas.C08b.aiOf pref) (b := Lemmas.C08b.prefRest pref)
    (by rw [h1]; exact hp) (isU8_blanks (aiOf_blank pref))

theorem typedTextValid_of_keys {s : VS} (hq : KeysOk s) : TypedTextValid s := by
  intro sI pref post r sJ hsI hsv hp hpost hin
  exact (viInput_tr pref post hp hpost sI r sJ ⟨hsv, hq.congr (by rw [hsI]; rfl)⟩ hin).1

end Neatvi.Lemmas.C16c
