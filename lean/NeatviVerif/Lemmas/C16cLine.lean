import NeatviVerif.Lemmas.C16cRun
/-!
# C16c, part 8: `:g`, `:e`, whole command lines, `ex_command`; the checker `okLine` and the induction on the fuel
-/
set_option linter.unusedSimpArgs false
set_option linter.unusedVariables false
namespace Neatvi.Lemmas.C16c
open Neatvi Neatvi.Uc Neatvi.Spec Neatvi.Lbuf Neatvi.LbufIo Neatvi.Ex Neatvi.Rset Neatvi.Props.C11b Neatvi.Props.C16b

/-- running the command line `s` with fuel `f` keeps the state valid -/
def LineOkAt (f : Nat) (s : Bytes) : Prop := ∀ ed r ed', EdOk ed → exExec f ed s = some (r, ed') → EdOk ed'

theorem adv_ok (dep : Nat) : ∀ (h : Nat) (ed : Ed) (i : Int), EdOk ed → EdOk (ecGlob.scan.adv dep h ed i).1 :=
  fun h ed i hi => Lemmas.ExFrame.adv_inv (P := fun e _ => EdOk e)
    (fun _ _ _ hlb hp => hp.setLb (globGet_ok (hp.lb hlb) _ _)) (fun _ _ hp => hp) h ed i hi

theorem scan_ok (f : Nat) (neg : Bool) (s : Bytes) (re : RStr) (dep : Nat) (hbody : LineOkAt f s) :
    ∀ (g : Nat) (ed : Ed) (i : Int) (ed' : Ed), EdOk ed → ecGlob.scan f neg s re dep g ed i = some ed' → EdOk ed' :=
  Lemmas.C05d.scan_inv (fun {e i _ _ _} h hs => by
      rcases (Props.C15.globStep_cases hs).2 with ⟨_, rfl, _⟩ | ⟨r, hx, _⟩
      · exact h
      · exact hbody { e with xrow := i } _ _ (h.to rfl) hx)
    (fun h i hp => adv_ok dep h _ i hp)

open Neatvi.Props.C15 in
theorem ecGlob_ok (f : Nat) (ed ed' : Ed) (loc cmd arg : Bytes) (r : Int) (hbody : LineOkAt f (reRead arg).2) (hi : EdOk ed)
    (h : ecGlob (f + 1) ed loc cmd arg = some (r, ed')) : EdOk ed' := by
  rcases ecGlob_cases h with ⟨_, _, rfl⟩ | ⟨_, rc, b, e, ed1, hr, h⟩
  · exact hi.to (by rfl)
  have e1 : EdOk ed1 := hi.region hr
  have e2 : EdOk (globPrep ed1 arg) := by
    obtain ⟨_, _, _, he⟩ := globPrep_addrOnly ed1 arg
    rw [he]; exact e1.to rfl
  rcases h with ⟨_, rfl | rfl⟩ | ⟨re, ed2, _, _, _, hscan, _, rfl⟩
  · exact e1
  · exact e2
  have e4 : EdOk (globMark (globPrep ed1 arg) b e ((globPrep ed1 arg).xgdep + 1)) := by
    unfold globMark
    refine Basics.foldl_inv EdOk _ ?_ _ _ (e2.to (by rfl))
    intro s k hs
    exact hs.updLb (fun lb => globSet lb (b.toNat + 1 + k) ((globPrep ed1 arg).xgdep + 1)) (fun lb hl => globSet_ok hl _ _)
  have e5 : EdOk (globSweep ed2 ((globPrep ed1 arg).xgdep + 1)) := by
    unfold globSweep
    exact (scan_ok f _ _ _ _ hbody _ _ _ _ e4 hscan).updLb (fun lb => (List.range lb.lines.length).foldl
        (fun lb k => (globGet lb k ((globPrep ed1 arg).xgdep + 1)).2) lb)
      (fun lb hl => Basics.foldl_inv LbOk _ (fun s k hs => globGet_ok hs _ _) _ _ hl)
  exact e5.to (by rfl)

open Neatvi.Lemmas.C02c in
theorem editRead_ok {ed ed' : Ed} {b : Buf} (h : EdOk ed) (hb : ed.cur = some b) (hr : editRead ed b = some ed') : EdOk ed' := by
  rcases editRead_cases hr with ⟨rfl, _⟩ | ⟨fl, u, lb, m, hfl, _, hrd, rfl⟩
  · exact h
  · exact (h.setLb (rd_ok (h.cur hb).1 (by simpa using h.findFile hfl) hrd)).show _

open Neatvi.Lemmas.C02c in
theorem editFinish_ok {ed ed' : Ed} {path : Bytes} (h : EdOk ed) (hf : editFinish ed path = some ed') : EdOk ed' := by
  obtain ⟨b, ed5, b5, X, hb, hrd, hb5, rfl, rfl⟩ := editFinish_cases hf
  have e5 := editRead_ok h hb hrd
  have e6 : EdOk (ed5.setCur { b5 with lb := (modified (savedCore b5.lb (!path.isEmpty))).2, mtime := ed5.mtimeOf b5.path }) :=
    e5.setCur (modified_ok (savedCore_ok (e5.cur hb5).1 _)) (e5.cur hb5).2
  exact e6.to rfl

open Neatvi.Lemmas.C02c in
theorem ecEdit_ok (f : Nat) (ed ed' : Ed) (cmd arg : Bytes) (r : Int) (ha : IsU8 arg)
    (hplus : (arg.dropWhile (· == 32)).headD 0 ≠ 43) (hi : EdOk ed)
    (h : ecEdit (f + 1) ed cmd arg = some (r, ed')) : EdOk ed' := by
  have hpl : ((List.dropWhile (fun x => x == 32) arg).headD 0 == 43) = false := by simpa using hplus
  have hps : plusSplit arg = ([], arg.dropWhile (· == 32)) := by
    unfold plusSplit; simp only [hpl, Bool.false_eq_true, if_false]
  have ha' : IsU8 (plusSplit arg).2 := by
    rw [hps]; exact isU8_dropWhile_ascii ha _ (by intro b hb; simp at hb; omega)
  have key : ∀ {x}, Lemmas.C05d.editStage ed cmd arg = some x → EdOk (x.elim (·.2) id) := fun hs =>
    Lemmas.C05d.editStage_inv (Pth := IsU8) (fun h hg => guard_ok h hg)
      (fun h hp => ⟨h.to (pathExpand_ok h ha' hp).2, (pathExpand_ok h ha' hp).1⟩)
      (fun e p h => by unfold Props.C20.ewPre; split; exact h.bufsSwitch _; exact h)
      (fun e p h _ => h.bufsSwitch _)
      (fun e p hp h => by unfold editOpen; split; exact (h.bufsOpen hp).bufsSwitch _; exact h)
      (fun h hf => editFinish_ok h hf) hi hs
  rw [Lemmas.C05d.ecEdit_stage] at h
  split at h
  · cases h
  · rename_i hs
    cases h
    exact key hs
  · rename_i hs
    rw [hps] at h
    cases h
    exact key hs

/-- the optional text is valid (as a Boolean) -/
def optChk (o : Option Bytes) : Bool := decide (OptValid o)

/-- every command `ex_exec` will dispatch on the line (the split of a line into commands does not depend
on the editor state) is accepted by `okH`, and its inline text, if any, is valid UTF-8 -/
def okCmds (body : Bytes → Bool) : Nat → Bytes → Bool
  | 0, _ => true
  | g + 1, ln =>
    if ln.isEmpty then true else
    let (_, ln) := exLoc ln
    let (cmd, ln) := exCmd ln
    let idx := exIdx cmd
    let abbr := match idx with | some (a, _) => a | none => strOf "unknown"
    let (arg, ln) := exArg ln abbr
    let txt := (exTxt {} ln abbr).1.1
    let ln := (exTxt {} ln abbr).1.2
    match idx with
    | none => okCmds body g ln
    | some (_, h) => okH body h arg && optChk txt && okCmds body g ln

/-- **the hypothesis on a command line**, decidable by evaluation: the line is split as `ex_exec` splits it,
and every command is one `okH` accepts, with `:g` nested at most `d` deep -/
def okLine : Nat → Bytes → Bool
  | 0, ln => okCmds (fun _ => false) (ln.length + 1) ln
  | d + 1, ln => okCmds (okLine d) (ln.length + 1) ln

open Neatvi.Lemmas.C06b (parse1 abbrOf restOf) in
theorem okCmds_succ (body : Bytes → Bool) (g : Nat) (ln : Bytes) :
    okCmds body (g + 1) ln =
      if ln.isEmpty then true else
      (match (parse1 ln).idx with
        | none => true
        | some (_, h) => okH body h (parse1 ln).arg && optChk (exTxt {} (parse1 ln).rest (abbrOf (parse1 ln).idx)).1.1) &&
        okCmds body g (restOf ln) := by
  rw [okCmds]
  split
  · rfl
  · unfold restOf parse1 abbrOf
    rcases exLoc ln with ⟨loc, l1⟩
    simp only []
    rcases exCmd l1 with ⟨cmd, l2⟩
    simp only []
    rcases exIdx cmd with _ | ⟨a, h⟩ <;> simp only [Bool.true_and]

open Neatvi.Lemmas.C06b (parse1 restOf) in
theorem cmds_ok (f : Nat) (body : Bytes → Bool)
    (hrun : ∀ ed h loc cmd arg txt r ed', okH body h arg = true → OptValid txt → EdOk ed →
      runCmd f ed h loc cmd arg txt = some (r, ed') → EdOk ed')
    (g : Nat) (ed : Ed) (ln : Bytes) (ret r : Int) (ed' : Ed) (hq : okCmds body g ln = true) (hi : EdOk ed)
    (h : exExec.cmds f g ed ln ret = some (r, ed')) : EdOk ed' := by
  have hcut := fun g ln (hne : ¬ ln.isEmpty = true) (hq : okCmds body (g + 1) ln = true) => by
    rw [okCmds_succ, if_neg hne, Bool.and_eq_true] at hq
    exact hq
  refine (Lemmas.ExDid.cmds_run (C := False) f EdOk (fun g ln => okCmds body g ln = true)
    (fun g ln hne hq => (hcut g ln hne hq).2) (fun e src a p => (exTxt_ok p src a).1) (fun e m p => p.show m) ?_
    g ed ln ret hi hq).post _ h
  intro g e ln a hd h0 h1 hq hne hidx
  have hm := (hcut g ln hne hq).1
  rw [hidx] at hm
  simp only [Bool.and_eq_true] at hm
  exact ⟨fun p hp => hrun _ _ _ _ _ _ _ _ hm.1 ((exTxt_ok h0 _ a).2 (of_decide_eq_true hm.2)) h1 hp, False.elim⟩

theorem runCmd_ok_of {f : Nat} {body : Bytes → Bool} (hbody : ∀ s, body s = true → ∀ f', f' < f → LineOkAt f' s)
    {ed ed' : Ed} {hd : String} {loc cmd arg : Bytes} {txt : Option Bytes} {r : Int}
    (hok : okH body hd arg = true) (htxt : OptValid txt) (hi : EdOk ed)
    (h : runCmd f ed hd loc cmd arg txt = some (r, ed')) : EdOk ed' := by
  cases f with
  | zero => rw [runCmd] at h; cases h
  | succ f1 =>
    apply runCmd_ok1 f1 body ed ed' hd loc cmd arg txt r ?_ ?_ hok htxt hi h
    · intro he ed2 r2 ed2' hi2 hglob
      subst he
      cases f1 with
      | zero => rw [ecGlob] at hglob; cases hglob
      | succ f2 => exact ecGlob_ok f2 ed2 ed2' loc cmd arg r2 (hbody _ (okH_glob hok) f2 (by omega)) hi2 hglob
    · intro he ed2 r2 ed2' hi2 hedit
      subst he
      cases f1 with
      | zero => rw [ecEdit] at hedit; cases hedit
      | succ f2 => exact ecEdit_ok f2 ed2 ed2' cmd arg r2 (okH_edit hok).1 (okH_edit hok).2 hi2 hedit

theorem exExec_ok : ∀ (f d : Nat) (ln : Bytes), okLine d ln = true → LineOkAt f ln := by
  intro f
  induction f using Nat.strongRecOn with
  | _ f ih =>
    intro d ln hq ed r ed' hi h
    cases f with
    | zero => rw [exExec] at h; cases h
    | succ f =>
      rw [exExec] at h
      split at h
      · cases h; exact hi.show _
      · have key : ∀ (body : Bytes → Bool), (∀ s, body s = true → ∀ f', f' < f + 1 → LineOkAt f' s) →
            okCmds body (ln.length + 1) ln = true → EdOk ed' := fun body hbody hqc =>
          cmds_ok f body (fun _ _ _ _ _ _ _ _ hqh htxt hi' hrun =>
            runCmd_ok_of (fun s hs f' hf' => hbody s hs f' (Nat.lt_succ_of_lt hf')) hqh htxt hi' hrun) _ _ _ _ _ _ hqc hi h
        cases d with
        | zero =>
          exact key (fun _ => false) (fun s hs => by cases hs) hq
        | succ d =>
          exact key (okLine d) (fun s hs f' hf' => ih f' hf' d s hs) hq

theorem runCmd_ok {f d : Nat} {ed ed' : Ed} {hd : String} {loc cmd arg : Bytes} {txt : Option Bytes} {r : Int}
    (hok : okH (okLine d) hd arg = true) (htxt : OptValid txt) (hi : EdOk ed)
    (h : runCmd f ed hd loc cmd arg txt = some (r, ed')) : EdOk ed' :=
  runCmd_ok_of (fun s hs f' _ => exExec_ok f' d s hs) hok htxt hi h

theorem exCommand_ok {f d : Nat} {ed ed' : Ed} {ln : Bytes} {r : Int} (hq : okLine d ln = true) (hi : EdOk ed)
    (h : exCommand f ed ln = some (r, ed')) : EdOk ed' := by
  cases f with
  | zero => rw [exCommand] at h; cases h
  | succ f =>
    rw [exCommand] at h
    split at h
    · cases h
    · rename_i r1 ed1 he
      cases h
      exact (exExec_ok f d ln hq _ _ _ hi he).modifiedAt 0

end Neatvi.Lemmas.C16c
