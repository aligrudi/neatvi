import NeatviVerif.Lemmas.C16cVi
import NeatviVerif.Lemmas.C08bChange
/-!
# C16c, part 10: the operators and commands of `vi.c` keep the state valid UTF-8 — for all arguments.
  `Pres m` unfolds to `ViPres.Pres VsOk m`, that is `ViPres.Tr VsOk m (fun _ => VsOk)`: the walks use the rules of the triple
  where a step hands a fact to the rest (`get`, `liftO`), then `pres_walk` with the leaves the rest calls (`show ViPres.Pres VsOk _`
  first: the rules match `ViPres.Pres` syntactically); `vi_yank` and `vi_delete` are read off their normal forms
  (`Lemmas/C08Vi.lean`).
-/
set_option linter.unusedSimpArgs false
set_option linter.unusedVariables false
namespace Neatvi.Lemmas.C16c
open Neatvi Neatvi.Uc Neatvi.Spec Neatvi.Lbuf Neatvi.Ex Neatvi.Mot Neatvi.Vi Neatvi.Props.C11b Neatvi.Props.C16b
open Neatvi.Lemmas.C08 (bind_apply pure_apply get_apply liftO_some liftO_none regPut_apply setPos_apply setRow_apply setOff_apply edEdit_apply)
open Neatvi.Lemmas.C08b (changeTail changeSt changeTail_eq)
open Neatvi.Lemmas.ViPres (Tr)

theorem Pres.bind_val {α β : Type} {m : M α} {f : α → M β} (Q : α → Prop)
    (hm : ∀ s a s', VsOk s → m s = Res.ok a s' → VsOk s' ∧ Q a) (hf : ∀ a, Q a → Pres (f a)) : Pres (m >>= f) := by
  intro s b s' hs h
  obtain ⟨a, s1, h1, h2⟩ := Lemmas.C07.bind_inv _ _ s b s' h
  obtain ⟨k1, k2⟩ := hm _ _ _ hs h1
  exact hf a k2 _ _ _ k1 h2

theorem pres_viYank (r1 o1 r2 o2 : Int) (ln : Bool) : Pres (viYank r1 o1 r2 o2 ln) := by
  intro s a s' hs h
  obtain ⟨region, hreg, rfl, -⟩ := Lemmas.C08.viYank_eq r1 o1 r2 o2 ln s s' a h
  exact EdOk.to (hs.withRegs (hs.regs.put _ (hs.region hreg) _)) rfl

theorem pres_viDelete (r1 o1 r2 o2 : Int) (ln : Bool) : Pres (viDelete r1 o1 r2 o2 ln) := by
  intro s a s' hs h
  cases ln
  · obtain ⟨region, pref, post, ed', hreg, hp, hq, he, rfl, -⟩ := Lemmas.C08.viDelete_char_eq r1 o1 r2 o2 s s' a h
    exact EdOk.to (EdOk.edit (hs.withRegs (hs.regs.put _ (hs.region hreg) _))
      (optValid_some.mpr (isU8_append (subI_valid (hs.lineE r1) hp) (subI_valid (hs.lineE r2) hq))) he) rfl
  · obtain ⟨region, ed', hreg, he, rfl, -⟩ := Lemmas.C08.viDelete_line_eq r1 o1 r2 o2 s s' a h
    exact EdOk.to (EdOk.edit (hs.withRegs (hs.regs.put _ (hs.region hreg) _)) optValid_none he) rfl

theorem pres_viCase (r1 o1 r2 o2 : Int) (ln : Bool) (cmd : Nat) : Pres (viCase r1 o1 r2 o2 ln cmd) := by
  unfold viCase
  refine Tr.bind_get' fun s hs => ?_
  refine Tr.bind (Tr.liftO fun region hreg => caseMap_valid cmd (hs.region hreg)) fun region => Tr.pre fun hc => ?_
  dsimp only
  show Pres _
  split
  · refine Tr.bind (Tr.liftO fun pref hp => subI_valid (hs.lineE r1) hp) fun pref => Tr.pre fun hp => ?_
    refine Tr.bind (Tr.liftO fun post hq => subI_valid (hs.lineE r2) hq) fun post => Tr.pre fun hq => ?_
    show ViPres.Pres VsOk _
    pres_walk [vpres_edEdit_some, isU8_append, (pres_setPos _ _).v]
  · show ViPres.Pres VsOk _
    pres_walk [vpres_edEdit_some, (pres_setPos _ _).v]

theorem pres_viShift_go (r2 dir : Int) (f : Nat) (i : Int) : Pres (viShift.go r2 dir f i) := by
  induction f generalizing i with
  | zero => unfold viShift.go; exact ViPres.Pres.pure _
  | succ f ih =>
    unfold viShift.go
    show Pres _
    split
    · exact ViPres.Pres.pure _
    · refine Tr.bind_get' fun s hs => ?_
      show Pres _
      split
      · exact ih _
      · rename_i l hl
        have hv := hs.lineOf hl
        refine ViPres.Pres.bind (pres_edEdit (optValid_some.mpr ?_) _ _) (fun _ => ih _)
        split
        · split
          · exact isU8_cons_ascii (by decide) (by decide) hv
          · exact hv
        · split
          · rename_i hb
            exact isU8_drop_one_ascii hv (isBlankC_ascii hb).2
          · exact hv

theorem pres_viShift (r1 r2 dir : Int) : Pres (viShift r1 r2 dir) := by
  show ViPres.Pres VsOk _
  unfold viShift
  pres_walk [(pres_viShift_go _ _ _ _).v, (pres_setPos _ _).v]

theorem joinGo_valid (s : VS) (hs : VsOk s) (beg e : Int) : ∀ (f : Nat) (i : Int) (sb : Bytes) (off : Int), IsU8 sb →
    IsU8 (vcJoin.go s beg e f i sb off).1 := by
  intro f
  induction f with
  | zero => intro i sb off h; unfold vcJoin.go; exact h
  | succ f ih =>
    intro i sb off h
    unfold vcJoin.go
    split
    · exact h
    · dsimp only
      apply ih
      have hl := hs.lineE i
      have hl' : IsU8 (if i > beg then (Vi.lineE s i).dropWhile isBlankC else Vi.lineE s i) :=
        isU8_ite (isU8_dropWhile_ascii hl _ (fun _ hb => (isBlankC_ascii hb).2)) hl
      exact isU8_append (isU8_append h (isU8_replicate (by decide) (by decide) _))
        (isU8_takeWhile_nl hl')

theorem pres_vcJoin : Pres vcJoin := by
  unfold vcJoin
  refine Tr.bind_get' fun s hs => ?_
  dsimp only
  generalize (if s.arg1 ≤ 1 then 2 else s.arg1 : Int) = cnt
  show Pres _
  split
  · exact ViPres.Pres.pure _
  · show ViPres.Pres VsOk _
    pres_walk [(pres_edEdit (optValid_some.mpr (isU8_append (joinGo_valid s hs _ _ _ _ _ _ isU8_nil) isU8_nl)) _ _).v, (pres_setOff _).v]

theorem isU8_replicate_flatten {buf : Bytes} (h : IsU8 buf) (n : Nat) : IsU8 (List.replicate n buf).flatten := by
  apply isU8_flatten
  intro l hl
  rw [List.mem_replicate] at hl
  rw [hl.2]; exact h

theorem regGetLn_fst (ed : Ed) (c : Nat) : (regGetLn ed c).1 = regGet ed c := by
  unfold regGetLn
  dsimp only
  repeat' split
  all_goals rfl

/-- **`vc_put`** (`p`, `P`, any count, line-wise and character-wise, from any register: the stored ones, the
current line `";`, the numbers `"#` `"^`) -/
theorem pres_vcPut (cmd : Nat) : Pres (vcPut cmd) := by
  unfold vcPut
  refine Tr.bind_get' fun s hs => ?_
  have hreg : OptValid (regGetLn s.ed s.ybuf).1 := by rw [regGetLn_fst]; exact regGet_valid hs _
  have hln : IsU8 (if s.ed.xrow < lenOf s then Vi.lineE s s.ed.xrow else [10]) := isU8_ite (hs.lineE _) isU8_nl
  dsimp only
  generalize regGetLn s.ed s.ybuf = p at hreg
  obtain ⟨buf, lnmode⟩ := p
  cases buf with
  | none => exact ViPres.Pres.pure _
  | some buf =>
    have hrep := isU8_replicate_flatten (hreg buf rfl) (max 1 s.arg1).toNat
    refine ViPres.Pres.ite (ViPres.Pres.pure _) ?_
    cases lnmode with
    | none => show ViPres.Pres VsOk _; pres_walk [pres_unmodelled.v]
    | some lnm =>
    refine ViPres.Pres.ite ?_ ?_
    · show ViPres.Pres VsOk _
      pres_walk [vpres_edEdit_some, isU8_nl, (pres_setRow _).v, (pres_setOff _).v]
    · refine Tr.bind (Tr.liftO fun x hx => subI_valid hln hx) fun x => Tr.pre fun hx => ?_
      refine Tr.bind (Tr.liftO fun y hy => subI_valid hln hy) fun y => Tr.pre fun hy => ?_
      show ViPres.Pres VsOk _
      pres_walk [vpres_edEdit_some, isU8_append, (pres_setOff _).v]

theorem vcReplace_ok (s s' : VS) (a : Nat) (hs : VsOk s)
    (hchar : ∀ cs s1, viChar s = Res.ok (some cs) s1 → IsU8 cs)
    (h : vcReplace s = Res.ok a s') : VsOk s' := by
  refine (?_ : Tr (fun s0 => s0 = s) vcReplace (fun _ => VsOk)) s a s' rfl h
  unfold vcReplace
  refine Tr.bind_get fun s0 h0 => ?_
  subst h0
  refine Tr.bind (R := fun cs s1 => VsOk s1 ∧ ∀ x, cs = some x → IsU8 x) ?_ fun cs => ?_
  · intro s1 cs s2 h1 hv
    subst h1
    exact ⟨pres_viChar _ cs s2 hs hv, fun x hx => hchar x s2 (hx ▸ hv)⟩
  refine Tr.conseq (P' := fun s1 => (∀ x, cs = some x → IsU8 x) ∧ VsOk s1) (Tr.pre fun hcv => ?_) (fun _ h => ⟨h.2, h.1⟩)
    (fun _ _ h => h)
  show Pres _
  split
  · rename_i ln cs' hl
    have hlv := hs.lineOf hl
    dsimp only
    refine ViPres.Pres.ite (ViPres.Pres.pure _) ?_
    · refine Tr.bind (Tr.liftO fun x hx => subI_valid hlv hx) fun x => Tr.pre fun hx => ?_
      refine Tr.bind (Tr.liftO fun y hy => subI_valid hlv hy) fun y => Tr.pre fun hy => ?_
      show ViPres.Pres VsOk _
      pres_walk [(pres_edEdit (optValid_some.mpr (isU8_append (isU8_append hx (isU8_replicate_flatten (hcv _ rfl) _)) hy)) _ _).v, (pres_setPos _ _).v, (pres_setOff _).v]
  · exact ViPres.Pres.pure _

theorem changeTail_ok (pref post : Bytes) (r1 r2 : Int) (S s' : VS) (a : Nat) (hS : VsOk S)
    (h : changeTail pref post r1 r2 S = Res.ok a s') :
    ∃ sI rep row off sJ, VsOk sI ∧ sI = { S with ed := sI.ed } ∧
      viInput pref post sI = Res.ok (rep, row, off) sJ ∧ (IsU8 rep → VsOk s') := by
  rw [changeTail_eq] at h
  have hI : VsOk (changeSt S r1) := by
    unfold changeSt
    show EdOk _
    split
    · exact EdOk.to hS rfl
    · exact EdOk.to hS rfl
  obtain ⟨res, sJ, hin, h⟩ := Lemmas.C07.bind_inv _ _ _ _ _ h
  obtain ⟨rep, row, off⟩ := res
  refine ⟨changeSt S r1, rep, row, off, sJ, hI, rfl, hin, ?_⟩
  intro hrep
  have hsJ : VsOk sJ := pres_viInput pref post _ _ sJ hI hin
  dsimp only at h
  refine (?_ : ViPres.Pres VsOk _) sJ a s' hsJ h
  pres_walk [vpres_edEdit_some, (pres_setPos _ _).v]

theorem viChange_red (r1 o1 r2 o2 : Int) (ln : Bool) (s s' : VS) (a : Nat) (hs : VsOk s)
    (h : viChange r1 o1 r2 o2 ln s = Res.ok a s') :
    ∃ region pref post, IsU8 region ∧ IsU8 pref ∧ IsU8 post ∧
      changeTail pref post r1 r2 { s with ed := { s.ed with regs := s.ed.regs.put s.ybuf region (if ln then 1 else 0) } } = Res.ok a s' := by
  unfold viChange at h
  rw [bind_apply, get_apply] at h
  dsimp only at h
  obtain ⟨region, hreg, h⟩ := Lemmas.C08.of_liftO_bind_ok h
  rw [bind_apply, regPut_apply] at h
  dsimp only at h
  have hrv := hs.region hreg
  generalize hS1 : ({ s with ed := { s.ed with regs := s.ed.regs.put s.ybuf region (if ln = true then 1 else 0) } } : VS) = S1 at h
  have fin : ∀ pref post, IsU8 pref → IsU8 post → changeTail pref post r1 r2 S1 = Res.ok a s' →
      ∃ region pref post, IsU8 region ∧ IsU8 pref ∧ IsU8 post ∧
        changeTail pref post r1 r2 { s with ed := { s.ed with regs := s.ed.regs.put s.ybuf region (if ln then 1 else 0) } } = Res.ok a s' := by
    intro pref post h1 h2 h3
    exact ⟨region, pref, post, hrv, h1, h2, by rw [hS1]; exact h3⟩
  split at h
  · rw [bind_apply, pure_apply] at h
    dsimp only at h
    split at h
    · rw [bind_apply, pure_apply] at h
      exact fin _ _ (viIndents_valid _ (hs.lineOfOpt r1)) isU8_nl h
    · obtain ⟨post, hq, h⟩ := Lemmas.C08.of_liftO_bind_ok h
      exact fin _ _ (viIndents_valid _ (hs.lineOfOpt r1)) (subI_valid (hs.lineE r2) hq) h
  · obtain ⟨pref, hp, h⟩ := Lemmas.C08.of_liftO_bind_ok h
    split at h
    · rw [bind_apply, pure_apply] at h
      exact fin _ _ (subI_valid (hs.lineE r1) hp) isU8_nl h
    · obtain ⟨post, hq, h⟩ := Lemmas.C08.of_liftO_bind_ok h
      exact fin _ _ (subI_valid (hs.lineE r1) hp) (subI_valid (hs.lineE r2) hq) h

/-- the text insert mode returns is valid UTF-8 — in `s` and in every state that differs from `s` in the
editor record only (the key queues, keymaps and options are those of `s`), when it is given valid text around
the insertion point.  A hypothesis on the keys to come. -/
def TypedTextValid (s : VS) : Prop :=
  ∀ sI pref post r sJ, sI = { s with ed := sI.ed } → VsOk sI → IsU8 pref → IsU8 post →
    viInput pref post sI = Res.ok r sJ → IsU8 r.1

theorem TypedTextValid.ed {s : VS} (h : TypedTextValid s) (ed : Ed) : TypedTextValid { s with ed := ed } := by
  intro sI pref post r sJ hsI
  exact h sI pref post r sJ (by rw [hsI])

/-- from a valid state in which the typed text will be valid, a normal return leaves a valid state -/
def PresT {α : Type} (m : M α) : Prop := ∀ s a s', VsOk s → TypedTextValid s → m s = Res.ok a s' → VsOk s'

/-- a step that changes the editor record only, keeping it valid -/
def Prel {α : Type} (m : M α) : Prop := ∀ s a s', m s = Res.ok a s' → (VsOk s → VsOk s') ∧ s' = { s with ed := s'.ed }

theorem Prel.pure {α : Type} (a : α) : Prel (Pure.pure a : M α) := by
  intro s b s' h; cases h; exact ⟨id, rfl⟩
theorem Prel.ite {α : Type} {p : Prop} [Decidable p] {a b : M α} (ha : Prel a) (hb : Prel b) : Prel (if p then a else b) := by
  split <;> assumption
theorem prel_setPos (r o : Int) : Prel (setPos r o) := fun s a s' h => by cases h; exact ⟨fun hs => EdOk.to hs rfl, rfl⟩
theorem prel_setTop (o : Int) : Prel (setTop o) := fun s a s' h => by cases h; exact ⟨fun hs => EdOk.to hs rfl, rfl⟩
theorem prel_edEdit {txt : Option Bytes} (h : OptValid txt) (b e : Int) : Prel (edEdit txt b e) := by
  intro s a s' hm
  rw [edEdit_apply] at hm
  split at hm
  · rename_i ed he
    cases hm
    exact ⟨fun hs => EdOk.edit hs h he, rfl⟩
  · cases hm

theorem PresT.of_pres {α : Type} {m : M α} (h : Pres m) : PresT m := fun s a s' hs _ hm => h s a s' hs hm

/-! ### with the triple of `Lemmas/ViPres.lean`: `PresT m` is `Tr TOk m (fun _ => VsOk)` -/

/-- the state is valid and the text typed next will be -/
def TOk (s : VS) : Prop := VsOk s ∧ TypedTextValid s

theorem presT_iff {α : Type} {m : M α} : PresT m ↔ Tr TOk m (fun _ => VsOk) :=
  ⟨fun h s a s' hs hm => h s a s' hs.1 hs.2 hm, fun h s a s' h1 h2 hm => h s a s' ⟨h1, h2⟩ hm⟩

theorem tok_withEd {f : Ed → Ed} (hf : ∀ ed, EdOk ed → EdOk (f ed)) : Tr TOk (Vi.withEd f) (fun _ => TOk) :=
  ViPres.Pres.withEd fun s hs => ⟨hf _ hs.1, hs.2.ed _⟩

theorem tok_setOff (o : Int) : Tr TOk (setOff o) (fun _ => TOk) := tok_withEd fun _ h => EdOk.to h rfl
theorem tok_setRow (o : Int) : Tr TOk (setRow o) (fun _ => TOk) := tok_withEd fun _ h => EdOk.to h rfl

theorem tok_viNextlineR : Tr TOk viNextlineR (fun _ => TOk) := by
  unfold viNextlineR
  refine Tr.bind_get' fun s _ => tok_withEd fun ed h => EdOk.to h ?_
  split <;> rfl

theorem viInput_typed {pref post : Bytes} (hp : IsU8 pref) (hq : IsU8 post) :
    Tr TOk (viInput pref post) (fun r s' => IsU8 r.1 ∧ VsOk s') :=
  fun s r s' hs h => ⟨hs.2 s pref post r s' rfl hs.1 hp hq h, pres_viInput pref post s r s' hs.1 h⟩

theorem vcInsert_tr (cmd : Nat) : Tr TOk (vcInsert cmd) (fun _ => VsOk) := by
  unfold vcInsert
  refine Tr.bind_get' fun s hs => ?_
  refine Tr.ite_seq (tok_setOff _) fun _ => ?_
  refine Tr.ite_seq (tok_setOff _) fun _ => ?_
  refine Tr.bind_get' fun _ _ => ?_
  refine Tr.bind (tok_setOff _) fun _ => ?_
  refine Tr.ite_seq tok_viNextlineR fun _ => ?_
  refine Tr.bind (R := fun a s => IsU8 a ∧ TOk s) ?_ fun pref => Tr.pre fun hpref => ?_
  · split
    · rename_i hl
      exact Tr.ite (Tr.liftO fun a ha => subI_valid (hs.1.lineOf hl) ha) (Tr.pure' (viIndents_valid _ (hs.1.lineOfOpt _)))
    · exact Tr.pure' isU8_nil
  refine Tr.bind (R := fun a s => IsU8 a ∧ TOk s) ?_ fun post => Tr.pre fun hpost => ?_
  · split
    · rename_i hl
      exact Tr.ite (Tr.liftO fun a ha => subI_valid (hs.1.lineOf hl) ha) (Tr.pure' isU8_nl)
    · exact Tr.pure' isU8_nl
  refine Tr.bind (viInput_typed hpref hpost) fun r => Tr.pre fun hr => ?_
  show ViPres.Pres VsOk _
  pres_walk [vpres_edEdit_some, isU8_nl, (pres_setOff _).v]

theorem presT_vcInsert (cmd : Nat) : PresT (vcInsert cmd) := presT_iff.mpr (vcInsert_tr cmd)

end Neatvi.Lemmas.C16c
