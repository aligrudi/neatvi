import NeatviVerif.Lemmas.C16cCmd
import NeatviVerif.Lemmas.C20Dispatch
import NeatviVerif.Lemmas.ExHandlers
/-!
# C16c, part 7: the dispatcher `runCmd` keeps the editor state valid

The handlers on the current buffer are read off their walks in `Lemmas/ExHandlers.lean`: the steps of `Did` keep `EdOk`
when the texts they may write in a valid state are valid (`Did.edOk`; `local_edOk`, `ecRead_ok`, `runCmd_subst_ok` off
`ecSubst_run`, and `ecHist_ok` off `ecHist_run`).  The other handlers (`:!`, `:q`, the buffer table; `:w` in
`Lemmas/C16cCmd.lean`) have a lemma each, under the names `Lemmas/C20Dispatch.lean` gives the branches of `runCmd`; `runCmd_ok1` puts them together.
-/
set_option linter.unusedSimpArgs false
set_option linter.unusedVariables false

namespace Neatvi.Lemmas.ExDid
open Neatvi Neatvi.Ex Neatvi.Props.C16b Neatvi.Lemmas.C16c

/-- the steps of the handlers on the current buffer keep the state valid UTF-8 when the texts they may write in a valid
state (with the replacement text of `:s` it started with) are -/
theorem Did.edOk {T : Ed → Bytes → Prop} {L : Prop} {n : Int} {e : Bool} {a b : Ed} (h : Did T L n a e b)
    (hT : ∀ b t, EdOk b → b.xrep = a.xrep → T b t → IsU8 t) (h0 : EdOk a) : EdOk b := by
  induction h with
  | refl => exact h0
  | addr _ ha _ _ ih => obtain ⟨_, _, _, rfl⟩ := ha; exact ih.to rfl
  | look _ hs ih => obtain ⟨_, _, _, _, _, _, _, rfl⟩ := hs; exact ih.to rfl
  | edit s x y hd _ _ hs he ih => exact ih.edit (fun t ht => hT _ t ih hd.xrep (hs t ht)) he
  | yank k x y i _ ih => exact ih.withRegs (ih.regs.put _ (ih.cp _ _) _)
  | reg k t i hd ht ih => exact ih.withRegs (ih.regs.put _ (ht.elim (fun h => h ▸ isU8_nil) (hT _ t ih hd.xrep)) _)
  | mark c p o _ hl _ _ ih => exact ih.setLb (setMark_ok (ih.lb hl) _ _ _)
  | row r _ _ _ ih => exact ih.to rfl
  | down _ _ ih => exact ih.to rfl
  | col o _ _ ih => exact ih.to rfl

end Neatvi.Lemmas.ExDid

namespace Neatvi.Lemmas.C16c
open Neatvi Neatvi.Uc Neatvi.Spec Neatvi.Lbuf Neatvi.LbufIo Neatvi.Ex Neatvi.Rset Neatvi.Props.C11b Neatvi.Props.C16b
open Neatvi.Lemmas.C20 Neatvi.Lemmas.C20c Neatvi.Props.C20b
open Neatvi.Props.C20 (bufferGuard)

theorem local_edOk {f : Nat} {ed ed' : Ed} {hd : String} {loc cmd arg : Bytes} {txt : Option Bytes} {r : Int}
    (hn : hd ∉ ["ec_undo", "ec_redo", "ec_at", "ec_glob", "ec_edit", "ec_substitute", "ec_exec", "ec_read", "ec_write",
      "ec_quit", "ec_buffer"]) (hi : EdOk ed) (htxt : OptValid txt)
    (h : runCmd (f + 1) ed hd loc cmd arg txt = some (r, ed')) : EdOk ed' :=
  ((Lemmas.C05e.local_run f ed hd loc cmd arg txt hn).post _ h).1.edOk
    (fun _ t _ _ ht => ht.elim (fun h => htxt t h.2) (fun h => regGet_valid hi _ t h.2)) hi

theorem ecHist_ok {op : Lb → Option (Nat × Lb)} (hop : ∀ lb rc lb', LbOk lb → op lb = some (rc, lb') → LbOk lb')
    {ed ed' : Ed} {r : Int} (hi : EdOk ed) (h : ecHist op ed = some (r, ed')) : EdOk ed' := by
  obtain ⟨lb, rc, lb', hl, hu, hp⟩ := (Lemmas.C05e.ecHist_run ed False (fun h => h.elim)).post _ h
  cases hp
  exact hi.setLb (hop _ _ _ (hi.lb hl) hu)

theorem runCmd_subst_ok (f : Nat) (ed ed' : Ed) (loc cmd arg : Bytes) (txt : Option Bytes) (r : Int)
    (hs : substOk arg = true) (hi : EdOk ed)
    (h : runCmd (f + 1) ed "ec_substitute" loc cmd arg txt = some (r, ed')) : EdOk ed' := by
  obtain ⟨ed1, hd, hq⟩ := (Lemmas.C05e.ecSubst_run
    (fun b t => ∃ pat flg re, IsU8 pat ∧ rstrMake pat flg = some (some re) ∧ Lemmas.C05e.SubstOf re b t) f ed loc cmd arg txt
    (fun ed1 flg re _ _ hm ht => ⟨_, flg, re, (substPrep_ok ed1 hs).2.1, hm, ht⟩)).post _ h
  have e1 : EdOk ed1 := (hd (fun _ _ => False) 0 false).edOk (fun _ _ _ _ h => h.elim) hi
  rcases hq with hq | hq
  · cases hq; exact e1
  obtain ⟨hc, -, hrep⟩ := substPrep_ok ed1 hs
  refine (hq 0).edOk (fun b t hb hx ht => ?_) (e1.to hc)
  obtain ⟨pat, flg, re, hp, hre, g, row, ln, hln, hsub⟩ := ht
  exact Props.C16b.subst_keeps_valid hp hre _ g ln t (hx ▸ hrep) (hb.line hln).1 (hb.line hln).2 hsub

theorem ecExec_ok {ed ed' : Ed} {loc arg : Bytes} {r : Int} (hi : EdOk ed)
    (h : ecExec ed loc arg = some (r, ed')) : EdOk ed' := by
  obtain ⟨g, edg, hg, h⟩ := Lemmas.C02b.ecExec_cases h
  have e0 : EdOk edg := guard_ok hi hg
  rcases h with ⟨_, _, rfl⟩ | ⟨_, p, edp, hp, h⟩
  · exact e0
  have e1 : EdOk edp := e0.to (pathExpand_core hp)
  rcases h with ⟨_, _, rfl⟩ | ⟨ecmd, _, ⟨_, _, rfl⟩ | ⟨_, rc, b, e, ed1, hr, h⟩⟩
  · exact e1
  · exact e1.to rfl
  have e2 : EdOk ed1 := e1.region hr
  rcases h with ⟨_, _, rfl⟩ | ⟨_, _, ⟨_, rfl⟩ | ⟨_, rfl⟩ | ⟨rep, hpipe, hx⟩⟩
  · exact e2
  · exact e2.to rfl
  · exact e2
  · exact e2.edit (e2.pipe ecmd (e2.cp b e) hpipe) hx

theorem ecRead_ok {ed ed' : Ed} {loc arg : Bytes} {r : Int} (hi : EdOk ed)
    (h : ecRead ed loc arg = some (r, ed')) : EdOk ed' := by
  refine ((Lemmas.C05e.ecRead_run Lemmas.C05e.ReadOf (fun _ _ h => h) ed loc arg).post _ h).1.edOk (fun b t hb _ ht => ?_) hi
  rcases ht with ⟨cmd, hp⟩ | ⟨path, fl, hf, rfl⟩
  · exact hb.pipe _ isU8_nil hp t rfl
  · rw [cstr_valid (hb.findFile hf)]; exact hb.findFile hf

theorem ecQuit_ok {ed ed' : Ed} {cmd arg : Bytes} {r : Int} (hi : EdOk ed) (ha : IsU8 arg)
    (h : ecQuit ed cmd arg = some (r, ed')) : EdOk ed' := by
  unfold ecQuit at h
  split at h
  · cases h
  · rename_i rc ed1 hw
    have h1 : EdOk ed1 := by
      split at hw
      · exact ecWrite_ok hi ha hw
      · cases hw; exact hi
    ite_cases h
    · cases h; exact h1
    split at h
    · cases h
    · rename_i he; cases h; exact each_ok _ _ _ _ _ _ _ h1 he
    · rename_i he; cases h; exact (each_ok _ _ _ _ _ _ _ h1 he).to rfl

theorem listEd_ok {ed : Ed} (hi : EdOk ed) : EdOk (listEd ed) := by
  refine Basics.foldl_inv (fun st : Bool × Ed => EdOk st.2) _ ?_ _ _ hi
  intro st i hst
  obtain ⟨go, ed0⟩ := st
  unfold listStep
  simp only [] at hst ⊢
  split
  · exact hst
  · split
    · exact hst
    · have hm := hst.modifiedAt i
      generalize ed0.modifiedAt i = p at hm
      obtain ⟨m, ed1⟩ := p
      exact hm.print _

theorem ecBuffer_ok {f : Nat} {ed ed' : Ed} {loc cmd arg : Bytes} {txt : Option Bytes} {r : Int} (hi : EdOk ed)
    (h : runCmd (f + 1) ed "ec_buffer" loc cmd arg txt = some (r, ed')) : EdOk ed' := by
  cases h0 : arg.isEmpty
  · by_cases h33 : arg.headD 0 = 33
    · rw [runCmd_b_delete f ed loc cmd arg txt h33] at h
      cases h
      unfold delEd
      split
      · exact (hi.bufsShift.setAt 0 (b := freshBuf ed.bufsShift) lbOk_make isU8_nil).to rfl
      · exact hi.bufsShift
    by_cases h126 : arg.headD 0 = 126
    · rw [runCmd_b_renumber f ed loc cmd arg txt h126] at h
      cases h
      exact (hi.ofAllB (Lemmas.C20b.AllB.renumFold (fun _ _ hx => hx) hi.allB)).to rfl
    obtain ⟨idx, hs⟩ := runCmd_b_switch f ed loc cmd arg txt h0 h33 h126
    rw [hs] at h
    unfold switchTo bufferGuard at h
    split at h
    · split at h
      · cases h
      · rename_i hg; cases h; exact guard_ok hi hg
      · rename_i hg; cases h; exact (guard_ok hi hg).bufsSwitch _
    · cases h; exact hi.show _
  · rw [runCmd_b_list f ed loc cmd arg txt h0] at h
    cases h
    exact listEd_ok hi

theorem runCmd_ok1 (f : Nat) (body : Bytes → Bool) (ed ed' : Ed) (hd : String) (loc cmd arg : Bytes) (txt : Option Bytes) (r : Int)
    (hglob : hd = "ec_glob" → ∀ ed r ed', EdOk ed → ecGlob f ed loc cmd arg = some (r, ed') → EdOk ed')
    (hedit : hd = "ec_edit" → ∀ ed r ed', EdOk ed → ecEdit f ed cmd arg = some (r, ed') → EdOk ed')
    (hok : okH body hd arg = true) (htxt : OptValid txt) (hi : EdOk ed)
    (h : runCmd (f + 1) ed hd loc cmd arg txt = some (r, ed')) : EdOk ed' := by
  by_cases hn : hd ∈ ["ec_undo", "ec_redo", "ec_at", "ec_glob", "ec_edit", "ec_substitute", "ec_exec", "ec_read", "ec_write",
      "ec_quit", "ec_buffer"]
  · simp only [List.mem_cons, List.not_mem_nil, or_false] at hn
    rcases hn with rfl | rfl | rfl | rfl | rfl | rfl | rfl | rfl | rfl | rfl | rfl
    · exact ecHist_ok (fun _ _ _ => undo_ok) hi ((runCmd_undo f ed loc cmd arg txt).symm.trans h)
    · exact ecHist_ok (fun _ _ _ => redo_ok) hi ((runCmd_redo f ed loc cmd arg txt).symm.trans h)
    · rw [okH_at] at hok; cases hok
    · exact hglob rfl _ _ _ hi ((runCmd_glob f ed loc cmd arg txt).symm.trans h)
    · exact hedit rfl _ _ _ hi ((Lemmas.C02Ex.runCmd_edit f ed loc cmd arg txt).symm.trans h)
    · exact runCmd_subst_ok f ed ed' loc cmd arg txt r (okH_subst hok) hi h
    · exact ecExec_ok hi ((runCmd_exec f ed loc cmd arg txt).symm.trans h)
    · exact ecRead_ok hi ((runCmd_read f ed loc cmd arg txt).symm.trans h)
    · exact ecWrite_ok hi (okH_write hok) ((Lemmas.C02Ex.runCmd_write f ed loc cmd arg txt).symm.trans h)
    · exact ecQuit_ok hi (okH_quit hok) ((runCmd_ecQuit f ed loc cmd arg txt).symm.trans h)
    · exact ecBuffer_ok hi h
  · exact local_edOk hn hi htxt h

end Neatvi.Lemmas.C16c
