import NeatviVerif.Lemmas.C16cKeys
import NeatviVerif.Props.C08f
/-!
# C16c, part 12: the operator dispatch of `vc_motion`; consequences of the end-to-end specifications of C08f;
  cutting at and inside characters
-/
set_option linter.unusedSimpArgs false
set_option linter.unusedVariables false
namespace Neatvi.Lemmas.C16c
open Neatvi Neatvi.Uc Neatvi.Spec Neatvi.Lbuf Neatvi.Ex Neatvi.Mot Neatvi.Vi Neatvi.Props.C11b Neatvi.Props.C16b
open Neatvi.Lemmas.C08f (applyOp)

/-- **the operator dispatch of `vc_motion`** on any region: `y d ~ gu gU g~ > <` keep the state valid; `c` does
when the typed text will be valid; `!` is not modelled beyond its prompt -/
theorem applyOp_ok (cmd : Nat) (r1 o1 r2 o2 : Int) (ln : Bool) (s s' : VS) (a : Nat) (hs : VsOk s)
    (ht : cmd = 99 → TypedTextValid s) (h : applyOp cmd r1 o1 r2 o2 ln s = Res.ok a s') : VsOk s' := by
  by_cases hc : cmd = 99
  · subst hc
    exact presT_viChange _ _ _ _ _ s a s' hs (ht rfl) h
  · refine (?_ : ViPres.Pres VsOk (applyOp cmd r1 o1 r2 o2 ln)) s a s' hs h
    unfold applyOp
    refine ViPres.Pres.ite (pres_viYank _ _ _ _ _) (ViPres.Pres.ite (pres_viDelete _ _ _ _ _) ?_)
    split
    · rename_i h9
      exact absurd (by simpa using h9) hc
    · pres_walk [(pres_viCase _ _ _ _ _ _).v, (pres_viShift _ _ _).v, (pres_viPrompt _).v, pres_unmodelled.v]

theorem isU8_line_of_body {body : List Nat} (h : ∀ c ∈ body, ValidCp c) : IsU8 (encStr (body ++ [10])) :=
  isU8_encStr (by
    intro c hc
    rcases List.mem_append.mp hc with h1 | h1
    · exact h c h1
    · simp at h1; subst h1; decide)

theorem RowDeleted.valid {s sm s' : VS} {r : Int} {body : List Nat} {a b : Nat}
    (h : Props.C08f.RowDeleted s sm s' r body a b) (hb : ∀ c ∈ body, ValidCp c)
    (hl : ∀ l ∈ Vi.lines s, IsU8 l) (hr : RegsValid s.ed.regs) :
    (∀ l ∈ Vi.lines s', IsU8 l) ∧ RegsValid s'.ed.regs := by
  constructor
  · intro l hm
    rw [h.lines] at hm
    simp only [List.mem_append, List.mem_singleton] at hm
    rcases hm with (hm | hm) | hm
    · exact hl l ((List.take_sublist _ _).subset hm)
    · subst hm
      apply isU8_line_of_body
      intro c hc
      rcases List.mem_append.mp hc with h1 | h1
      · exact hb c ((List.take_sublist _ _).subset h1)
      · exact hb c ((List.drop_sublist _ _).subset h1)
    · exact hl l ((List.drop_sublist _ _).subset hm)
  · rw [h.regs]
    exact hr.put _ (isU8_encStr (fun c hc => hb c ((List.take_sublist _ _).subset ((List.drop_sublist _ _).subset hc)))) _

theorem yankedRows_valid (s sm : VS) (lo hi : Int) (hl : ∀ l ∈ Vi.lines s, IsU8 l) (hr : RegsValid s.ed.regs) :
    (∀ l ∈ Vi.lines (Props.C08f.yankedRows s sm lo hi), IsU8 l) ∧ RegsValid (Props.C08f.yankedRows s sm lo hi).ed.regs := by
  refine ⟨hl, hr.put _ ?_ _⟩
  unfold Lemmas.C08f.rowsText
  apply isU8_flatten
  intro l hm
  exact hl l ((List.drop_sublist _ _).subset ((List.take_sublist _ _).subset hm))

theorem LineDeleted.valid {s sm s' : VS} {lo hi : Int} (h : Props.C08f.LineDeleted s sm s' lo hi)
    (hl : ∀ l ∈ Vi.lines s, IsU8 l) (hr : RegsValid s.ed.regs) :
    (∀ l ∈ Vi.lines s', IsU8 l) ∧ RegsValid s'.ed.regs := by
  constructor
  · intro l hm
    rw [h.lines] at hm
    rcases List.mem_append.mp hm with hm | hm
    · exact hl l ((List.take_sublist _ _).subset hm)
    · exact hl l ((List.drop_sublist _ _).subset hm)
  · rw [h.regs]
    exact (yankedRows_valid s sm lo hi hl hr).2


/-- a character-wise yank inside one row (`Props/C08f.yankedSpan`) -/
theorem yankedSpan_valid (s sm : VS) (body : List Nat) (a b : Nat) (hb : ∀ c ∈ body, ValidCp c)
    (hl : ∀ l ∈ Vi.lines s, IsU8 l) (hr : RegsValid s.ed.regs) :
    (∀ l ∈ Vi.lines (Props.C08f.yankedSpan s sm body a b), IsU8 l) ∧ RegsValid (Props.C08f.yankedSpan s sm body a b).ed.regs :=
  ⟨hl, hr.put _ (isU8_encStr (fun c hc => hb c ((List.take_sublist _ _).subset ((List.drop_sublist _ _).subset hc)))) _⟩

/-- **cutting a valid string inside it**: each of the two pieces is valid exactly when the cut is at a character
boundary -/
theorem cut_valid_iff {s : Bytes} (h : IsU8 s) {k : Nat} (hk : k < s.length) :
    (IsU8 (s.take k) ↔ IsBd s k) ∧ (IsU8 (s.drop k) ↔ IsBd s k) := by
  refine ⟨⟨fun ht => isBd_of_take h ht, fun hb => hb.1⟩, ⟨fun hd => ?_, fun hb => hb.2⟩⟩
  apply isBd_of_noncont h (by omega)
  have hne : s.drop k = s.getD k 0 :: s.drop (k + 1) := by
    rw [List.drop_eq_getElem_cons hk]
    simp [List.getD, List.getElem?_eq_getElem hk]
  rw [hne] at hd
  exact isU8_not_cont hd

theorem cut_codepoints {cs : List Nat} (hv : Valid cs) (j : Nat) :
    IsU8 ((encStr cs).take (byteOff cs j)) ∧ IsU8 ((encStr cs).drop (byteOff cs j)) := by
  by_cases hj : j ≤ cs.length
  · exact isBd_of_boundary hv ⟨j, hj, rfl⟩
  · have : cs.take j = cs := List.take_of_length_le (by omega)
    unfold byteOff
    rw [this]
    exact isBd_of_ge (isU8_encStr hv) (Nat.le_refl _)

end Neatvi.Lemmas.C16c
