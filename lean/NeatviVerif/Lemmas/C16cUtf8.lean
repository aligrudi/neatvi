import NeatviVerif.Lemmas.Basics
import NeatviVerif.Lemmas.Hist
import NeatviVerif.Props.C16b
import NeatviVerif.Lemmas.C07cBuf
import NeatviVerif.Props.C01
/-!
# C16c, part 1: the toolbox — a checker for valid UTF-8, cuts at bytes that are not continuation bytes,
  lines (`splitLines`, `flatten`), character offsets (`uc_chr`, `uc_sub`)
-/
set_option linter.unusedSimpArgs false
set_option linter.unusedVariables false
namespace Neatvi.Lemmas.C16c
open Neatvi Neatvi.Uc Neatvi.Spec Neatvi.Lbuf Neatvi.Props.C11b Neatvi.Props.C16b

/-- executable validity check: decode with the reference decoder, check the code points, re-encode
    (the check the test harness uses, `Drive/ExSpec.validU8`, plus the range of the code points) -/
def u8chk (s : Bytes) : Bool :=
  decide (Valid (decodeStr s.length s)) && (encStr (decodeStr s.length s) == s)

theorem u8chk_iff (s : Bytes) : u8chk s = true ↔ IsU8 s := by
  unfold u8chk
  constructor
  · intro h
    simp only [Bool.and_eq_true, decide_eq_true_eq, beq_iff_eq] at h
    exact ⟨_, h.1, h.2.symm⟩
  · rintro ⟨cs, hv, rfl⟩
    have := Lemmas.C07c.decodeStr_encStr hv _ (Nat.le_refl (encStr cs).length)
    rw [this]
    simp [hv]

instance (s : Bytes) : Decidable (IsU8 s) := decidable_of_iff _ (u8chk_iff s)

theorem isU8_ascii {s : Bytes} (h : ∀ b ∈ s, 0 < b ∧ b < 128) : IsU8 s :=
  ⟨s, fun c hc => ⟨(h c hc).1, by have := (h c hc).2; omega⟩, (encStr_ascii (fun b hb => (h b hb).2)).symm⟩

theorem isU8_single {b : Nat} (h0 : 0 < b) (h1 : b < 128) : IsU8 [b] :=
  isU8_ascii (by intro x hx; simp at hx; subst hx; exact ⟨h0, h1⟩)

theorem isU8_nl : IsU8 [10] := isU8_single (by decide) (by decide)

theorem isU8_replicate {b : Nat} (h0 : 0 < b) (h1 : b < 128) (n : Nat) : IsU8 (List.replicate n b) :=
  isU8_ascii (by intro x hx; rw [List.mem_replicate] at hx; rw [hx.2]; exact ⟨h0, h1⟩)

theorem isU8_cons_ascii {b : Nat} {r : Bytes} (h0 : 0 < b) (h1 : b < 128) (h : IsU8 r) : IsU8 (b :: r) :=
  isU8_append (isU8_single h0 h1) h

theorem isBd_of_noncont {s : Bytes} (h : IsU8 s) {k : Nat} (hk : k ≤ s.length)
    (hnc : ¬ (128 ≤ s.getD k 0 ∧ s.getD k 0 < 192)) : IsBd s k := by
  obtain ⟨cs, hv, rfl⟩ := h
  exact noncont_isBd hv hk hnc

theorem isU8_drop_of_take {s : Bytes} {k : Nat} (h : IsU8 s) (ht : IsU8 (s.take k)) : IsU8 (s.drop k) := by
  obtain ⟨p, hp, rfl⟩ := h
  obtain ⟨q, hq, eq⟩ := ht
  refine isU8_cancel_left hp hq (x := (encStr p).drop k) ?_
  rw [← eq, List.take_append_drop]

theorem isBd_of_take {s : Bytes} {k : Nat} (h : IsU8 s) (ht : IsU8 (s.take k)) : IsBd s k :=
  ⟨ht, isU8_drop_of_take h ht⟩

theorem isU8_split_ascii {a b : Bytes} {c : Nat} (h : IsU8 (a ++ c :: b)) (hc : c < 128) : IsU8 a ∧ IsU8 b := by
  have hb : IsBd (a ++ c :: b) a.length := by
    apply isBd_of_noncont h (by simp)
    rw [show (a ++ c :: b).getD a.length 0 = c by simp [List.getD]]
    omega
  have h1 : IsU8 a := by simpa using hb.1
  have h2 : IsU8 (c :: b) := by simpa using hb.2
  exact ⟨h1, isU8_ascii_cons h2 hc⟩

theorem isU8_of_append_left {a b : Bytes} (h : IsU8 (a ++ b)) (hb : ¬ (128 ≤ b.headD 0 ∧ b.headD 0 < 192)) : IsU8 a := by
  have hbd : IsBd (a ++ b) a.length := by
    apply isBd_of_noncont h (by simp)
    have : (a ++ b).getD a.length 0 = b.headD 0 := by
      cases b <;> simp [List.getD]
    rw [this]; exact hb
  simpa using hbd.1

theorem isU8_of_append_right {a b : Bytes} (h : IsU8 (a ++ b)) (ha : IsU8 a) : IsU8 b := by
  have := isU8_drop_of_take (k := a.length) h (by simpa using ha)
  simpa using this

theorem getD_takeWhile_length (p : Nat → Bool) (s : Bytes) :
    s.getD (s.takeWhile p).length 0 = (s.dropWhile p).headD 0 := by
  induction s with
  | nil => rfl
  | cons a r ih =>
    rw [List.takeWhile_cons, List.dropWhile_cons]
    split
    · simpa [List.getD] using ih
    · simp [List.getD]

theorem isBd_takeWhile_stop {s : Bytes} (h : IsU8 s) (p : Nat → Bool)
    (hp : ∀ b, p b = false → ¬ (128 ≤ b ∧ b < 192)) : IsBd s (s.takeWhile p).length := by
  apply isBd_of_noncont h (List.takeWhile_sublist p).length_le
  rw [getD_takeWhile_length]
  cases hd : s.dropWhile p with
  | nil => simp
  | cons x r =>
    have hx : p x = false := by
      have := List.head_dropWhile_not p (l := s) (by rw [hd]; simp)
      simpa [hd] using this
    simpa using hp x hx

theorem take_takeWhile_length {α : Type} (p : α → Bool) (s : List α) : s.take (s.takeWhile p).length = s.takeWhile p :=
  List.append_cancel_right (bs := s.drop (s.takeWhile p).length) <| by
    rw [List.take_append_drop, Basics.drop_takeWhile_length, List.takeWhile_append_dropWhile]

theorem isU8_takeWhile_stop {s : Bytes} (h : IsU8 s) (p : Nat → Bool)
    (hp : ∀ b, p b = false → ¬ (128 ≤ b ∧ b < 192)) : IsU8 (s.takeWhile p) := by
  have := (isBd_takeWhile_stop h p hp).1
  rwa [take_takeWhile_length] at this

theorem isU8_takeWhile_nl {s : Bytes} (h : IsU8 s) : IsU8 (s.takeWhile (· != 10)) :=
  isU8_takeWhile_stop h _ (by intro b hb; simp at hb; omega)

theorem isU8_dropWhile_stop {s : Bytes} (h : IsU8 s) (p : Nat → Bool)
    (hp : ∀ b, p b = false → ¬ (128 ≤ b ∧ b < 192)) : IsU8 (s.dropWhile p) := by
  have := (isBd_takeWhile_stop h p hp).2
  rwa [Basics.drop_takeWhile_length] at this

theorem isU8_ite {c : Prop} [Decidable c] {a b : Bytes} (ha : IsU8 a) (hb : IsU8 b) : IsU8 (if c then a else b) := by
  split <;> assumption

theorem isU8_takeWhile_ascii {s : Bytes} (h : IsU8 s) (p : Nat → Bool)
    (hp : ∀ b, p b = true → b < 128) : IsU8 (s.takeWhile p) := by
  apply isU8_ascii
  intro b hb
  have hm := Basics.mem_takeWhile hb
  have hs : b ∈ s := (List.takeWhile_sublist p).subset hb
  exact ⟨(isU8_wf h b hs).1, hp b hm⟩

theorem isU8_dropWhile_ascii {s : Bytes} (h : IsU8 s) (p : Nat → Bool)
    (hp : ∀ b, p b = true → b < 128) : IsU8 (s.dropWhile p) := by
  have := isU8_drop_of_take (k := (s.takeWhile p).length) h (by rw [take_takeWhile_length]; exact isU8_takeWhile_ascii h p hp)
  rwa [Basics.drop_takeWhile_length] at this

theorem isU8_drop_one_ascii {s : Bytes} (h : IsU8 s) (ha : s.headD 0 < 128) : IsU8 (s.drop 1) := by
  cases s with
  | nil => exact isU8_nil
  | cons a r => exact isU8_ascii_cons h ha

theorem isU8_dropLast_ascii {s : Bytes} (h : IsU8 s) (ha : ∀ x, s.getLast? = some x → x < 128) : IsU8 s.dropLast := by
  rcases List.eq_nil_or_concat s with rfl | ⟨t, x, rfl⟩
  · exact isU8_nil
  · have hx : x < 128 := ha x (by simp)
    have : IsU8 (t ++ x :: []) := by simpa using h
    simpa using (isU8_split_ascii this hx).1

theorem isU8_flatten {L : List Bytes} (h : ∀ l ∈ L, IsU8 l) : IsU8 L.flatten := by
  have := isU8_flatMap L id (by simpa using h)
  simpa [List.flatMap_id] using this

theorem splitLines_valid {s : Bytes} (h : IsU8 s) : ∀ l ∈ splitLines s, IsU8 l :=
  Hist.splitAux_all (fun ha => isU8_append ha isU8_nl) (fun hab => isU8_split_ascii hab (by decide)) s []
    (by simpa using h)

theorem cp_valid (lb : Lb) (h : ∀ l ∈ lb.lines, IsU8 l) (b e : Nat) : IsU8 (cp lb b e) := by
  unfold cp
  apply isU8_flatten
  intro l hl
  exact h l ((List.drop_sublist b _).subset ((List.take_sublist _ _).subset hl))

theorem cstr_valid {s : Bytes} (h : IsU8 s) : LbufIo.cstr s = s := by
  unfold LbufIo.cstr
  apply Props.C01.takeWhile_all
  intro x hx
  have := isU8_no_nul h x hx
  simpa using this

theorem ucChr_isBd {s : Bytes} (h : IsU8 s) {k i : Nat} (hc : ucChr s k = some i) : IsBd s i := by
  obtain ⟨cs, hv, rfl⟩ := h
  rw [Props.C16.chr_spec hv] at hc
  split at hc
  · rename_i hk
    injection hc with hc
    subst hc
    exact isBd_of_boundary hv ⟨k, hk, rfl⟩
  · cases hc

theorem chrI_isBd {s : Bytes} (h : IsU8 s) {off : Int} {i : Nat} (hc : Vi.chrI s off = some i) : IsBd s i := by
  unfold Vi.chrI at hc
  split at hc
  · injection hc with hc
    subst hc
    exact isBd_of_ge h (Nat.le_refl _)
  · exact ucChr_isBd h hc

theorem subI_valid {s : Bytes} (h : IsU8 s) {b e : Int} {x : Bytes} (hs : Vi.subI s b e = some x) : IsU8 x := by
  unfold Vi.subI at hs
  split at hs
  · rename_i ib ie h1 h2
    injection hs with hs
    subst hs
    split
    · rename_i hle
      exact isU8_slice (chrI_isBd h h1) (chrI_isBd h h2) hle
    · exact isU8_nil
  · cases hs

theorem ucSub_valid {s : Bytes} (h : IsU8 s) (b e : Nat) : IsU8 (ucSub s b e) := by
  unfold ucSub
  split
  · rename_i ib ie h1 h2
    split
    · rename_i hle
      exact isU8_slice (ucChr_isBd h h1) (ucChr_isBd h h2) hle
    · exact isU8_nil
  · exact isU8_nil

theorem isU8_take_of_isBd {s : Bytes} {k : Nat} (h : IsBd s k) : IsU8 (s.take k) := h.1
theorem isU8_drop_of_isBd {s : Bytes} {k : Nat} (h : IsBd s k) : IsU8 (s.drop k) := h.2

theorem isU8_take_ge {s : Bytes} (h : IsU8 s) {k : Nat} (hk : s.length ≤ k) : IsU8 (s.take k) := by
  rw [List.take_of_length_le hk]; exact h

end Neatvi.Lemmas.C16c
