import NeatviVerif.Lemmas.C16cLine
import NeatviVerif.Lemmas.C08Vi
import NeatviVerif.Lemmas.C08bCase
import NeatviVerif.Lemmas.C07Frame
import NeatviVerif.Lemmas.ViPres
/-!
# C16c, part 9: vi level — the invariant `VsOk`, computations that keep it (`Pres`, which unfolds to `ViPres.Pres VsOk`: the
  key layer, the cursor and the window are instances of `Lemmas/ViPres.lean`), the pieces of text the operators cut
  (`lbuf_region`, `uc_sub`, the case loop)
-/
set_option linter.unusedSimpArgs false
set_option linter.unusedVariables false
namespace Neatvi.Lemmas.C16c
open Neatvi Neatvi.Uc Neatvi.Spec Neatvi.Lbuf Neatvi.Ex Neatvi.Mot Neatvi.Vi Neatvi.Props.C11b Neatvi.Props.C16b
open Neatvi.Lemmas.C08 (edEdit_apply)

/-- the invariant of the vi state: its editor record is valid (`EdOk`) -/
def VsOk (s : VS) : Prop := EdOk s.ed

instance (s : VS) : Decidable (VsOk s) := by unfold VsOk; exact inferInstance

theorem VsOk.lines {s : VS} (h : VsOk s) : ∀ l ∈ Vi.lines s, IsU8 l := by
  unfold Vi.lines
  cases hl : s.ed.lb with
  | none => intro l hl'; simp at hl'
  | some lb => exact (EdOk.lb h hl).lines

theorem VsOk.lineOf {s : VS} (h : VsOk s) {r : Int} {l : Bytes} (hl : Vi.lineOf s r = some l) : IsU8 l := by
  unfold Vi.lineOf Mot.lineAt at hl
  split at hl
  · cases hl
  · exact h.lines l (List.mem_of_getElem? hl)

theorem VsOk.lineE {s : VS} (h : VsOk s) (r : Int) : IsU8 (Vi.lineE s r) := by
  unfold Vi.lineE
  cases hl : Vi.lineOf s r with
  | none => exact isU8_nil
  | some l => exact h.lineOf hl

/-- **`lbuf_region` of a valid buffer is valid**, for all rows and offsets -/
theorem VsOk.region {s : VS} (h : VsOk s) {r1 o1 r2 o2 : Int} {x : Bytes} (hr : lbufRegion s r1 o1 r2 o2 = some x) : IsU8 x := by
  unfold lbufRegion at hr
  split at hr
  · exact subI_valid (h.lineE r1) hr
  · split at hr
    · rename_i s1 s3 h1 h3
      injection hr with hr; subst hr
      exact isU8_append (isU8_append (subI_valid (h.lineE r1) h1) (EdOk.cp h _ _)) (subI_valid (h.lineE r2) h3)
    · cases hr

/-- **the case loop (`~`, `gu`, `gU`, `g~`) on valid UTF-8**: only ASCII letters change, the result is valid -/
theorem caseMap_valid (cmd : Nat) {x : Bytes} (h : IsU8 x) : IsU8 (caseMap cmd (x.length + 1) x) := by
  obtain ⟨cs, hv, rfl⟩ := h
  rw [Lemmas.C08b.caseMap_enc cmd cs _ hv (by have := C12.length_le_encStr cs; omega)]
  exact ⟨cs.map (Lemmas.C08b.caseCp cmd), by
    intro c hc
    simp only [List.mem_map] at hc
    obtain ⟨c0, h0, rfl⟩ := hc
    exact Lemmas.C08b.caseCp_valid cmd c0 (hv c0 h0), rfl⟩

theorem VsOk.lineOfOpt {s : VS} (h : VsOk s) (r : Int) : OptValid (Vi.lineOf s r) := fun _ hx => h.lineOf hx

theorem isBlankC_ascii {c : Nat} (h : isBlankC c = true) : 0 < c ∧ c < 128 := by
  unfold isBlankC at h
  simp only [Bool.or_eq_true, beq_iff_eq] at h
  rcases h with h | h <;> omega

theorem viIndents_valid (s : VS) {ln : Option Bytes} (h : OptValid ln) : IsU8 (viIndents s ln) := by
  unfold viIndents
  cases ln with
  | none => exact isU8_nil
  | some l =>
    dsimp only
    split
    · exact isU8_takeWhile_ascii (h l rfl) _ (fun _ hb => (isBlankC_ascii hb).2)
    · exact isU8_nil

/-- a computation that returns normally from a valid state leaves a valid state -/
def Pres {α : Type} (m : M α) : Prop := ∀ s a s', VsOk s → m s = Res.ok a s' → VsOk s'

namespace Pres

theorem trap {α : Type} : Pres (Vi.trap : M α) := by intro s a s' _ h; cases h

theorem modify {f : VS → VS} (hf : ∀ s, (f s).ed = s.ed) : Pres (Vi.modify f) := by
  intro s a s' hs h; cases h; unfold VsOk; rw [hf]; exact hs

theorem withEd' {f : Ed → Ed} (hf : ∀ ed, EdOk ed → EdOk (f ed)) : Pres (Vi.withEd f) := by
  intro s a s' hs h; cases h; exact hf _ hs

theorem liftO {α : Type} (o : Option α) : Pres (Vi.liftO o) := ViPres.Pres.liftO o

end Pres

/-- `VsOk` reads the editor record only, which reading keys leaves alone -/
theorem vsOk_blind : ViPres.Blind VsOk := fun s s' e hs => by
  have h : s'.ed = s.ed := show (ViPres.quiet s').ed = (ViPres.quiet s).ed from congrArg VS.ed e
  unfold VsOk; rw [h]; exact hs

/-- nor does it read the cursor and the top of the window -/
theorem vsOk_cblind : ViPres.CBlind VsOk := fun s s' e hs =>
  EdOk.to hs (show core (ViPres.cquiet s').ed = core (ViPres.cquiet s).ed from congrArg (fun t : VS => core t.ed) e)

/-! ### reading keys, characters and lines, moving the cursor and the window never change what the invariant reads
  (`Lemmas/ViPres.lean`) -/

theorem pres_termCmd : Pres termCmd := ViPres.pres_termCmd vsOk_blind
theorem pres_termPush (x : Bytes) : Pres (termPush x) := ViPres.pres_termPush vsOk_blind x
theorem pres_unmodelled : Pres Vi.unmodelled := ViPres.pres_unmodelled vsOk_blind
theorem pres_viYankbuf : Pres viYankbuf := ViPres.pres_viYankbuf vsOk_blind
theorem pres_viPrefix : Pres viPrefix := ViPres.pres_viPrefix vsOk_blind
theorem pres_readKey : Pres readKey := ViPres.pres_readKey vsOk_blind
theorem pres_viChar : Pres viChar := ViPres.pres_viChar vsOk_blind
/-- **the line editor `led_line`** changes nothing the invariant reads (only key queues, keymaps, `xleft`) -/
theorem pres_ledLine (pref post ai0 : Bytes) (aiMax : Nat) (im ex : Bool) :
    Pres (ledLine pref post ai0 aiMax im ex) :=
  ViPres.pres_ledLine vsOk_blind _ _ _ _ _ _ fun _ _ _ hs => EdOk.to hs rfl
theorem pres_viPrompt (ex : Bool) : Pres (viPrompt ex) := ViPres.pres_viPrompt vsOk_blind ex
theorem pres_viMotionln (row cmd : Int) : Pres (viMotionln row cmd) := ViPres.pres_viMotionln vsOk_blind row cmd

theorem pres_setMsg (m : Bytes) : Pres (setMsg m) := Pres.modify (fun _ => rfl)
theorem pres_setPos (r o : Int) : Pres (setPos r o) := ViPres.pres_setPos vsOk_cblind r o
theorem pres_setRow (r : Int) : Pres (setRow r) := ViPres.pres_setRow vsOk_cblind r
theorem pres_setOff (o : Int) : Pres (setOff o) := ViPres.pres_setOff vsOk_cblind o
theorem pres_markSet (c : Nat) (r o : Int) : Pres (markSet c r o) := by
  apply Pres.withEd'
  intro ed h
  exact h.updLb (fun lb => setMark lb c r o) (fun lb hl => setMark_ok hl _ _ _)
theorem pres_lbufModified : Pres lbufModified := by
  apply Pres.withEd'
  intro ed h
  exact h.updLb (fun lb => (Lbuf.modified lb).2) (fun lb hl => modified_ok hl)
theorem pres_viNextline : Pres viNextline := ViPres.pres_viNextline vsOk_cblind
theorem pres_drawfixTop (r : Int) (p : Bool) : Pres (drawfixTop r p) := ViPres.pres_drawfixTop vsOk_cblind r p
theorem pres_scrollForward (cnt : Int) : Pres (scrollForward cnt) := ViPres.pres_scrollForward vsOk_cblind cnt
theorem pres_scrollBackward (cnt : Int) : Pres (scrollBackward cnt) := ViPres.pres_scrollBackward vsOk_cblind cnt
theorem pres_viWfix : Pres viWfix := ViPres.pres_viWfix vsOk_cblind

theorem pres_edEdit {txt : Option Bytes} (h : OptValid txt) (b e : Int) : Pres (edEdit txt b e) := by
  intro s a s' hs hm
  rw [edEdit_apply] at hm
  split at hm
  · rename_i ed he
    cases hm
    exact EdOk.edit hs h he
  · cases hm

/-- the walks are those of `Lemmas/ViPres.lean` (`pres_walk`): a leaf stated with `Pres` is handed over with `.v` -/
theorem Pres.v {α : Type} {m : M α} (h : Pres m) : ViPres.Pres VsOk m := h

/-- `lbuf_edit` in a walk: the text, if any, is left as a goal `IsU8 _` -/
theorem vpres_edEdit_some {t : Bytes} (h : IsU8 t) (b e : Int) : ViPres.Pres VsOk (edEdit (some t) b e) :=
  pres_edEdit (optValid_some.mpr h) b e

theorem vpres_withEd {f : Ed → Ed} (hf : ∀ ed, core (f ed) = core ed) : ViPres.Pres VsOk (Vi.withEd f) :=
  ViPres.Pres.withEd fun _ hs => EdOk.to hs (hf _)

theorem pres_markSave : Pres markSave := by
  show ViPres.Pres VsOk _
  unfold markSave
  pres_walk [(pres_markSet _ _ _).v]

/-- **insert mode (`vi_input`)** changes nothing the invariant reads: the text it returns is put into the
buffer by its caller -/
theorem pres_viInput (pref post : Bytes) : Pres (viInput pref post) :=
  ViPres.pres_viInput vsOk_cblind pres_ledLine pref post

theorem pres_viWait : Pres viWait := by
  show ViPres.Pres VsOk _
  unfold viWait
  pres_walk [(pres_ledLine _ _ _ _ _ _).v, vpres_withEd]

end Neatvi.Lemmas.C16c
