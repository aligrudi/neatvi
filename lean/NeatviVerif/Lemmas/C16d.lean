import NeatviVerif.Lemmas.C09KeyEq
import NeatviVerif.Lemmas.ViPres
import NeatviVerif.Lemmas.C16bUtf8
/-!
# C16d helper lemmas: `led_readkey()` on the pending key stream

* `readKey` (= `led_readkey()`, the argument reader of ^K and ^R): what it does to the pending stream,
  the queue invariant, the `icmd` bound — each from the corresponding fact about `termRead` by induction
  on the `more` loop.
* the register `;` as an equation (`regGet_line`).
-/
namespace Neatvi.Lemmas.C16d
open Neatvi Neatvi.Uc Neatvi.Vi Neatvi.Ex Neatvi.Lemmas.C09

/-- `s'` is `s` up to the key queue (`ibuf`, `ibufPos`, `typed`) and the recording `icmd` -/
def QFrame (s s' : VS) : Prop :=
  { s' with ibuf := s.ibuf, ibufPos := s.ibufPos, typed := s.typed, icmd := s.icmd } = s

theorem QFrame.refl (s : VS) : QFrame s s := rfl

theorem QFrame.trans {s t u : VS} (h1 : QFrame s t) (h2 : QFrame t u) : QFrame s u := by
  unfold QFrame at *
  rw [← h1, ← h2]

theorem QFrame.ed {s s' : VS} (h : QFrame s s') : s'.ed = s.ed := by
  have := congrArg VS.ed h
  exact this

theorem icmdAfter_bounded (ic : Bytes) (k : Nat) (h : ic.length ≤ 4096) : (icmdAfter ic k).length ≤ 4096 := by
  unfold icmdAfter
  split
  · simp only [List.length_append, List.length_singleton]; omega
  · exact h

theorem readKey_more_zero (s : VS) : readKey.more 0 s = Res.ok () s := rfl

theorem readKey_more_succ (k : Nat) (s : VS) :
    readKey.more (k + 1) s = match termRead s with
      | Res.ok _ s' => readKey.more k s'
      | Res.eof => Res.eof
      | Res.trap => Res.trap := by
  rw [readKey.more, bind_apply]
  cases termRead s <;> rfl

theorem readKey_eq (s : VS) :
    readKey s = match termRead s with
      | Res.ok c s1 =>
        if c ≥ 192 then
          (match readKey.more (ucLen c.toNat - 1) s1 with
          | Res.ok _ s' => Res.ok c s'
          | Res.eof => Res.eof
          | Res.trap => Res.trap)
        else Res.ok c s1
      | Res.eof => Res.eof
      | Res.trap => Res.trap := by
  show (termRead >>= _) s = _
  rw [bind_apply]
  cases termRead s with
  | ok c s1 =>
    simp only []
    split
    · rw [bind_apply]
      cases readKey.more (ucLen c.toNat - 1) s1 <;> rfl
    · rfl
  | eof => rfl
  | trap => rfl

theorem readKey_ok (s s' : VS) (c : Int) (h : readKey s = Res.ok c s') :
    ∃ s1, termRead s = Res.ok c s1 ∧
      ((c ≥ 192 ∧ readKey.more (ucLen c.toNat - 1) s1 = Res.ok () s') ∨ (¬ c ≥ 192 ∧ s' = s1)) := by
  rw [readKey_eq] at h
  cases ht : termRead s with
  | ok c1 s1 =>
    rw [ht] at h
    simp only [] at h
    split at h
    · rename_i hc
      cases hm : readKey.more (ucLen c1.toNat - 1) s1 with
      | ok u s2 =>
        rw [hm] at h
        cases h
        exact ⟨s1, rfl, Or.inl ⟨hc, hm⟩⟩
      | eof => rw [hm] at h; cases h
      | trap => rw [hm] at h; cases h
    · rename_i hc
      cases h
      exact ⟨_, rfl, Or.inr ⟨hc, rfl⟩⟩
  | eof => rw [ht] at h; cases h
  | trap => rw [ht] at h; cases h

theorem qwf_termRead (s s' : VS) (c : Int) (h : termRead s = Res.ok c s') : QWf s' := by
  obtain ⟨k, rest, hp, -, -⟩ := termRead_key s s' c h
  obtain ⟨s1, h1, -, h3, -⟩ := termRead_pending s k rest hp
  rw [h1] at h
  injection h with _ hs
  exact hs ▸ h3

theorem icmd_bounded_termRead (s s' : VS) (c : Int) (h : termRead s = Res.ok c s')
    (hb : s.icmd.length ≤ 4096) : s'.icmd.length ≤ 4096 := by
  cases hp : pending s with
  | nil => rw [termRead_eof s hp] at h; cases h
  | cons k rest =>
    obtain ⟨ib, ip, ty, h1, -⟩ := termRead_ok s k rest hp
    rw [h1] at h
    injection h with _ hs
    subst hs
    exact icmdAfter_bounded _ _ hb

theorem ibuf_bounded_termRead (n : Nat) (hn : 1 ≤ n) (s s' : VS) (c : Int) (h : termRead s = Res.ok c s')
    (hb : s.ibuf.length ≤ n) : s'.ibuf.length ≤ n := by
  cases hp : pending s with
  | nil => rw [termRead_eof s hp] at h; cases h
  | cons k rest =>
    obtain ⟨ib, ip, ty, h1, -, -, h4, h5⟩ := termRead_ok s k rest hp
    rw [h1] at h
    injection h with _ hs
    subst hs
    show ib.length ≤ n
    by_cases hlt : s.ibufPos < s.ibuf.length
    · rw [(h4 hlt).1]; exact hb
    · rw [(h5 (by omega)).1]; exact hn

theorem termRead_step (s : VS) (k : Nat) (rest : Bytes) (h : pending s = k :: rest) :
    ∃ s', termRead s = Res.ok (k : Int) s' ∧ pending s' = rest ∧ QWf s' ∧
      s'.icmd = icmdAfter s.icmd k ∧ QFrame s s' := by
  obtain ⟨s', h1, h2, h3, h4, h5⟩ := termRead_pending s k rest h
  exact ⟨s', h1, h2, h3, h4, h5⟩

theorem readKey_more_pending : ∀ (k : Nat) (s : VS) (xs rest : Bytes), xs.length = k → QWf s →
    pending s = xs ++ rest →
    ∃ s', readKey.more k s = Res.ok () s' ∧ pending s' = rest ∧ QWf s' ∧
      s'.icmd = Lemmas.C08b.icmdAfterL s.icmd xs ∧ QFrame s s' := by
  intro k
  induction k with
  | zero =>
    intro s xs rest hl hq hp
    have : xs = [] := List.eq_nil_of_length_eq_zero hl
    subst this
    exact ⟨s, rfl, hp, hq, rfl, QFrame.refl s⟩
  | succ k ih =>
    intro s xs rest hl hq hp
    cases xs with
    | nil => cases hl
    | cons x xs =>
      obtain ⟨s1, h1, h2, h3, h4, h5⟩ := termRead_step s x (xs ++ rest) hp
      obtain ⟨s2, g1, g2, g3, g4, g5⟩ := ih s1 xs rest (by simpa using hl) h3 h2
      refine ⟨s2, ?_, g2, g3, ?_, h5.trans g5⟩
      · rw [readKey_more_succ, h1]; exact g1
      · rw [g4, h4]; rfl

/-- the `more` loop on a stream that ends too early: end of input (the C code then sees `term_read()`
return -1 for every missing byte) -/
theorem readKey_more_short : ∀ (k : Nat) (s : VS), (pending s).length < k → readKey.more k s = Res.eof := by
  intro k
  induction k with
  | zero => intro s h; omega
  | succ k ih =>
    intro s h
    rw [readKey_more_succ]
    cases hp : pending s with
    | nil => rw [termRead_eof s hp]
    | cons x r =>
      obtain ⟨s1, h1, h2, -⟩ := termRead_step s x r hp
      rw [h1]
      exact ih s1 (by rw [h2]; rw [hp] at h; simpa using h)

theorem readKey_single (s : VS) (k : Nat) (rest : Bytes) (hk : k < 192) (h : pending s = k :: rest) :
    readKey s = termRead s := by
  obtain ⟨s1, h1, -⟩ := termRead_step s k rest h
  rw [readKey_eq, h1]
  simp only []
  rw [if_neg (by omega)]

theorem readKey_eof (s : VS) (h : pending s = []) : readKey s = Res.eof := by
  rw [readKey_eq, termRead_eof s h]

/-- **`led_readkey()` reads the whole character**: a lead byte `c ≥ 192` followed in the pending stream
by the `ucLen c − 1` further bytes `conts` of its character is returned as the key, and all of
`c :: conts` is consumed -/
theorem readKey_lead (s : VS) (c : Nat) (conts rest : Bytes) (hc : 192 ≤ c)
    (hl : conts.length = ucLen c - 1) (h : pending s = c :: (conts ++ rest)) :
    ∃ s', readKey s = Res.ok (c : Int) s' ∧ pending s' = rest ∧ QWf s' ∧
      s'.icmd = Lemmas.C08b.icmdAfterL s.icmd (c :: conts) ∧ QFrame s s' := by
  obtain ⟨s1, h1, h2, h3, h4, h5⟩ := termRead_step s c (conts ++ rest) h
  obtain ⟨s2, g1, g2, g3, g4, g5⟩ := readKey_more_pending (ucLen c - 1) s1 conts rest hl h3 h2
  refine ⟨s2, ?_, g2, g3, ?_, h5.trans g5⟩
  · rw [readKey_eq, h1]
    simp only []
    rw [if_pos (by omega), Int.toNat_natCast, g1]
  · rw [g4, h4]; rfl

theorem readKey_lead_short (s : VS) (c : Nat) (rest : Bytes) (hc : 192 ≤ c)
    (hl : rest.length < ucLen c - 1) (h : pending s = c :: rest) : readKey s = Res.eof := by
  obtain ⟨s1, h1, h2, -⟩ := termRead_step s c rest h
  rw [readKey_eq, h1]
  simp only []
  rw [if_pos (by omega), Int.toNat_natCast, readKey_more_short _ s1 (by rw [h2]; exact hl)]

theorem readKey_key (s s' : VS) (c : Int) (h : readKey s = Res.ok c s') :
    ∃ k rest, pending s = k :: rest ∧ c = (k : Int) ∧
      pending s' = rest.drop (if 192 ≤ k then ucLen k - 1 else 0) ∧
      (if 192 ≤ k then ucLen k - 1 else 0) ≤ rest.length := by
  cases hp : pending s with
  | nil => rw [readKey_eof s hp] at h; cases h
  | cons k rest =>
    refine ⟨k, rest, rfl, ?_⟩
    by_cases hk : 192 ≤ k
    · rw [if_pos hk]
      by_cases hl : rest.length < ucLen k - 1
      · rw [readKey_lead_short s k rest hk hl hp] at h; cases h
      · have hsplit : rest = rest.take (ucLen k - 1) ++ rest.drop (ucLen k - 1) := (List.take_append_drop _ _).symm
        obtain ⟨s2, g1, g2, -⟩ := readKey_lead s k (rest.take (ucLen k - 1)) (rest.drop (ucLen k - 1)) hk
          (by rw [List.length_take]; omega) (by rw [← hsplit]; exact hp)
        rw [g1] at h
        injection h with e1 e2
        subst e2
        exact ⟨e1.symm, g2, by omega⟩
    · rw [if_neg hk]
      obtain ⟨s1, h1, h2, -⟩ := termRead_step s k rest hp
      rw [readKey_single s k rest (by omega) hp, h1] at h
      injection h with e1 e2
      subst e2
      exact ⟨e1.symm, by simpa using h2, Nat.zero_le _⟩

theorem regGet_line (ed : Ed) : regGet ed 59 = some (((ed.line ed.xrow).getD []).takeWhile (· != 10)) := rfl

end Neatvi.Lemmas.C16d
