import NeatviVerif.Lemmas.C17bSpec
/-! Helper lemmas for C17b: `ren_off` on a character's own column, and the cell computed by the
tail of `ren_cursor`. -/
namespace Neatvi.Lemmas.C17b
open Neatvi Neatvi.Ren

theorem IsLeast.congr {pos : List Nat} {n : Nat} {P Q : Nat → Prop} (h : ∀ x, P x ↔ Q x) {i : Nat}
    (hi : IsLeast pos n P i) : IsLeast pos n Q i :=
  ⟨hi.1, (h _).mp hi.2.1, fun j hj hq => hi.2.2 j hj ((h _).mpr hq)⟩

theorem IsGreatest.congr {pos : List Nat} {n : Nat} {P Q : Nat → Prop} (h : ∀ x, P x ↔ Q x) {i : Nat}
    (hi : IsGreatest pos n P i) : IsGreatest pos n Q i :=
  ⟨hi.1, (h _).mp hi.2.1, fun j hj hq => hi.2.2 j hj ((h _).mpr hq)⟩

theorem NoCol.congr {pos : List Nat} {n : Nat} {P Q : Nat → Prop} (h : ∀ x, P x ↔ Q x)
    (hi : NoCol pos n P) : NoCol pos n Q := fun j hj hq => hi j hj ((h _).mpr hq)

theorem nextP_false_nat (a x : Nat) : NextP (a : Int) false x ↔ a < x := by
  unfold NextP; simp

theorem prevP_false_nat (a x : Nat) : PrevP (a : Int) false x ↔ x < a := by
  unfold PrevP; simp

theorem prevP_true_nat (a x : Nat) : PrevP (a : Int) true x ↔ x ≤ a := by
  unfold PrevP; simp

theorem nextP_neg_one (cur : Bool) (x : Nat) : NextP (-1) cur x ↔ True := by
  unfold NextP; cases cur <;> simp <;> omega

theorem prevP_neg_one (cur : Bool) (x : Nat) : PrevP (-1) cur x ↔ False := by
  unfold PrevP; cases cur <;> simp <;> omega

theorem IsGreatest.unique {pos : List Nat} {n : Nat} (h : ColTable pos n) {P : Nat → Prop} {i j : Nat}
    (hi : IsGreatest pos n P i) (hj : IsGreatest pos n P j) : i = j :=
  h.inj i j hi.1 hj.1 (Nat.le_antisymm (hj.2.2 i hi.1 hi.2.1) (hi.2.2 j hj.1 hj.2.1))

theorem IsLeast.unique {pos : List Nat} {n : Nat} (h : ColTable pos n) {P : Nat → Prop} {i j : Nat}
    (hi : IsLeast pos n P i) (hj : IsLeast pos n P j) : i = j :=
  h.inj i j hi.1 hj.1 (Nat.le_antisymm (hi.2.2 j hj.1 hj.2.1) (hj.2.2 i hi.1 hi.2.1))

theorem isGreatest_self {pos : List Nat} {n : Nat} (i : Nat) (hi : i < n) :
    IsGreatest pos n (PrevP (pos.getD i 0 : Int) true) i :=
  ⟨hi, (prevP_true_nat _ _).mpr (Nat.le_refl _), fun _ _ hP => (prevP_true_nat _ _).mp hP⟩

theorem renOffT_of_greatest {pos : List Nat} {n : Nat} (h : ColTable pos n) (p : Int) (i : Nat)
    (hi : IsGreatest pos n (PrevP p true) i) : renOffT pos n p = i := by
  rcases renOffT_spec_gen pos n p (by rw [h.len]; omega) with ⟨hg, _⟩ | ⟨hno, _⟩
  · exact IsGreatest.unique h hg hi
  · exact absurd hi.2.1 (hno i hi.1)

theorem renOffT_col {pos : List Nat} {n : Nat} (h : ColTable pos n) (i : Nat) (hi : i < n) :
    renOffT pos n (pos.getD i 0 : Int) = i :=
  renOffT_of_greatest h _ i (isGreatest_self i hi)

theorem renOffT_of_none {pos : List Nat} {n : Nat} (hn : n ≤ pos.length) (p : Int)
    (hno : NoCol pos n (PrevP p true)) : renOffT pos n p = 0 := by
  rcases renOffT_spec_gen pos n p hn with ⟨hg, _⟩ | ⟨_, he⟩
  · exact absurd hg.2.1 (hno _ hg.1)
  · exact he

theorem renOffT_neg_one {pos : List Nat} {n : Nat} (hn : n ≤ pos.length) : renOffT pos n (-1) = 0 :=
  renOffT_of_none hn _ (fun _ _ hP => (prevP_neg_one true _).mp hP)

/-- `c` is the last cell before the next occupied column to the right of character `i`
    (before the end column when no character is displayed further right) -/
def LastCellOf (pos : List Nat) (n : Nat) (i : Nat) (c : Int) : Prop :=
  (∃ j, IsLeast pos n (fun x => pos.getD i 0 < x) j ∧ c + 1 = (pos.getD j 0 : Int)) ∨
  (NoCol pos n (fun x => pos.getD i 0 < x) ∧ c + 1 = (pos.getD n 0 : Int))

/-- the tail of `ren_cursor`: from the column `p2` of the character to show the cursor on -/
def cursorCell (pos : List Nat) (n : Nat) (p2 : Int) : Int :=
  let next := posNext pos n p2 false
  let r := (if next ≥ 0 then next else (pos.getD n 0 : Int)) - 1
  if r ≥ 0 then r else 0

theorem renCursorT_eq (s : Bytes) (pos : List Nat) (n : Nat) (p : Int) :
    renCursorT s pos n p = cursorCell pos n
      (if chrHd s (renOffT pos n (posPrev pos n p true)) == 10
        then posPrev pos n (posPrev pos n p true) false else posPrev pos n p true) := rfl

theorem cursorCell_char {pos : List Nat} {n : Nat} (h : ColTable pos n) (i : Nat) (hi : i < n) :
    (pos.getD i 0 : Int) ≤ cursorCell pos n (pos.getD i 0 : Int) ∧
    LastCellOf pos n i (cursorCell pos n (pos.getD i 0 : Int)) := by
  have hn : n ≤ pos.length := by rw [h.len]; omega
  unfold cursorCell LastCellOf
  rcases posNext_spec pos n (pos.getD i 0 : Int) false hn with ⟨j, hj, he⟩ | ⟨hno, he⟩
  · have hj' := IsLeast.congr (nextP_false_nat _) hj
    have hlt : pos.getD i 0 < pos.getD j 0 := hj'.2.1
    rw [he]
    simp only []
    have e1 : (if (pos.getD j 0 : Int) ≥ 0 then (pos.getD j 0 : Int) else (pos.getD n 0 : Int)) = (pos.getD j 0 : Int) :=
      if_pos (by omega)
    rw [e1, if_pos (by omega)]
    refine ⟨by omega, Or.inl ⟨j, hj', by omega⟩⟩
  · have hno' := NoCol.congr (nextP_false_nat _) hno
    have hlt := h.lt_end i hi
    rw [he]
    simp only []
    have e1 : (if (-1 : Int) ≥ 0 then (-1 : Int) else (pos.getD n 0 : Int)) = (pos.getD n 0 : Int) :=
      if_neg (by decide)
    rw [e1, if_pos (by omega)]
    refine ⟨by omega, Or.inr ⟨hno', by omega⟩⟩

theorem cursorCell_neg_one {pos : List Nat} {n : Nat} (hn : n ≤ pos.length) (i : Nat)
    (hi : IsLeast pos n (fun _ => True) i) :
    cursorCell pos n (-1) = if pos.getD i 0 = 0 then 0 else (pos.getD i 0 : Int) - 1 := by
  unfold cursorCell
  rw [posNext_of_least pos n (-1) false hn i (IsLeast.congr (fun x => (nextP_neg_one false x).symm) hi)]
  simp only []
  have e1 : (if (pos.getD i 0 : Int) ≥ 0 then (pos.getD i 0 : Int) else (pos.getD n 0 : Int)) = (pos.getD i 0 : Int) :=
    if_pos (by omega)
  rw [e1]
  split <;> split <;> omega

end Neatvi.Lemmas.C17b
