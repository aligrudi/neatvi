import NeatviVerif.Lemmas.Ren
/-! Helper lemmas for C17b: the arg-max / arg-min folds of `pos_prev` and `pos_next` for both
values of `cur`, and the last-match fold of `ren_off`. -/
namespace Neatvi.Lemmas.C17b
open Neatvi Neatvi.Ren

/-- one step of the loops of `pos_prev` / `pos_next`: `ok` selects the admissible columns and
    `better a b` says column `a` replaces the current best `b` -/
def optStep (pos : List Nat) (ok : Nat → Bool) (better : Nat → Nat → Bool) (ret : Option Nat) (i : Nat) : Option Nat :=
  match (pos[i]? : Option Nat) with
  | none => ret
  | some pi => if ok pi && (match ret with | none => true | some r => better pi (pos.getD r 0)) then some i else ret

def prevOk (p : Int) (cur : Bool) (pi : Nat) : Bool := Int.ofNat pi + (if cur then 0 else 1) ≤ p
def nextOk (p : Int) (cur : Bool) (pi : Nat) : Bool := Int.ofNat pi - (if cur then 0 else 1) ≥ p

theorem posPrev_eq_opt (pos : List Nat) (n : Nat) (p : Int) (cur : Bool) :
    posPrev pos n p cur = match (List.range n).foldl (optStep pos (prevOk p cur) (fun a b => decide (a > b))) none with
      | some i => (pos.getD i 0 : Int) | none => -1 := rfl

theorem posNext_eq_opt (pos : List Nat) (n : Nat) (p : Int) (cur : Bool) :
    posNext pos n p cur = match (List.range n).foldl (optStep pos (nextOk p cur) (fun a b => decide (a < b))) none with
      | some i => (pos.getD i 0 : Int) | none => -1 := rfl

theorem opt_inv (pos : List Nat) (ok : Nat → Bool) (better : Nat → Nat → Bool)
    (hrefl : ∀ a, better a a = false)
    (htrans : ∀ a b c, better a b = false → better c b = true → better a c = false)
    (k : Nat) (hk : k ≤ pos.length) :
    match (List.range k).foldl (optStep pos ok better) none with
    | some i => i < k ∧ ok (pos.getD i 0) = true ∧
        ∀ j, j < k → ok (pos.getD j 0) = true → better (pos.getD j 0) (pos.getD i 0) = false
    | none => ∀ j, j < k → ok (pos.getD j 0) = false := by
  induction k with
  | zero => simp
  | succ k ih =>
    have ih := ih (by omega)
    rw [List.range_succ, List.foldl_append]
    simp only [List.foldl_cons, List.foldl_nil]
    have hkk : k < pos.length := by omega
    have hgd : pos.getD k 0 = pos[k] := by
      rw [List.getD_eq_getElem?_getD, List.getElem?_eq_getElem hkk]; rfl
    generalize (List.range k).foldl (optStep pos ok better) none = r at ih ⊢
    simp only [optStep, List.getElem?_eq_getElem hkk]
    rw [← hgd]
    cases r with
    | none =>
      simp only [Bool.and_true] at ih ⊢
      by_cases hc : ok (pos.getD k 0) = true
      · rw [if_pos hc]
        refine ⟨by omega, hc, ?_⟩
        intro j hj hjo
        by_cases hjk : j < k
        · rw [ih j hjk] at hjo; cases hjo
        · have : j = k := by omega
          subst this; exact hrefl _
      · rw [if_neg hc]
        intro j hj
        by_cases hjk : j < k
        · exact ih j hjk
        · have : j = k := by omega
          subst this; simpa using hc
    | some r0 =>
      obtain ⟨h1, h2, h3⟩ := ih
      simp only [] at h1 h2 h3 ⊢
      by_cases hc : (ok (pos.getD k 0) && better (pos.getD k 0) (pos.getD r0 0)) = true
      · rw [if_pos hc]
        simp only [Bool.and_eq_true] at hc
        refine ⟨by omega, hc.1, ?_⟩
        intro j hj hjo
        by_cases hjk : j < k
        · exact htrans _ _ _ (h3 j hjk hjo) hc.2
        · have : j = k := by omega
          subst this; exact hrefl _
      · rw [if_neg hc]
        refine ⟨by omega, h2, ?_⟩
        intro j hj hjo
        by_cases hjk : j < k
        · exact h3 j hjk hjo
        · have : j = k := by omega
          subst this
          simp only [Bool.and_eq_true, not_and, Bool.not_eq_true] at hc
          exact hc hjo

theorem off_last (pos : List Nat) (v : Int) (k : Nat) :
    match (List.range k).foldl (offStep pos v) none with
    | some i => i < k ∧ (pos.getD i 0 : Int) = v ∧ ∀ j, j < k → (pos.getD j 0 : Int) = v → j ≤ i
    | none => ∀ j, j < k → (pos.getD j 0 : Int) ≠ v := by
  induction k with
  | zero => simp
  | succ k ih =>
    rw [List.range_succ, List.foldl_append]
    simp only [List.foldl_cons, List.foldl_nil]
    generalize (List.range k).foldl (offStep pos v) none = r at ih ⊢
    simp only [offStep]
    by_cases hc : (pos.getD k 0 : Int) = v
    · have hb : ((pos.getD k 0 : Int) == v) = true := by simpa using hc
      rw [if_pos hb]
      exact ⟨by omega, hc, fun j hj _ => by omega⟩
    · have hb : ¬ ((pos.getD k 0 : Int) == v) = true := by simpa using hc
      rw [if_neg hb]
      cases r with
      | none =>
        intro j hj
        by_cases hjk : j < k
        · exact ih j hjk
        · have : j = k := by omega
          subst this; exact hc
      | some r0 =>
        obtain ⟨h1, h2, h3⟩ := ih
        refine ⟨by omega, h2, ?_⟩
        intro j hj hjv
        by_cases hjk : j < k
        · exact h3 j hjk hjv
        · have : j = k := by omega
          subst this; exact absurd hjv hc

end Neatvi.Lemmas.C17b
