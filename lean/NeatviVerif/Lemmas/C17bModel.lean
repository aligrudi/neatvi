import NeatviVerif.Lemmas.C17bTiling
import NeatviVerif.Props.C17
import NeatviVerif.Lemmas.C17bWidth
/-! Helper lemmas for C17b: on a valid UTF-8 line the characters `chrs` (their first bytes `chrHd`: `Lemmas/C07Ren.lean`);
the definition of an increasing table (`StrictInc`).  The tables the model computes (`renPositionFast`,
`renPositionReorder` for a permutation) are tiled by the widths `ren_cwid` of their characters (`TiledW`), for any bytes:
read through the visual order they are the left-to-right table of the characters in that order.  On a
valid UTF-8 line `ren_cwid` is the reference width (`C17.cwid_spec`), which gives `Tiled`. -/
namespace Neatvi.Lemmas.C17b
open Neatvi Neatvi.Uc Neatvi.Spec Neatvi.Ren Neatvi.Props

theorem chrs_enc {cs : List Nat} (h : ∀ c ∈ cs, ValidCp c) :
    chrs (encStr cs) = (List.range cs.length).map (fun k => enc (cs.getD k 0) ++ encStr (cs.drop (k + 1))) := by
  unfold chrs
  rw [C16.chop_spec h, List.range_succ, List.map_append]
  simp only [List.map_cons, List.map_nil, List.dropLast_concat, List.map_map]
  apply List.map_congr_left
  intro k hk
  have hk' : k < cs.length := by simpa using hk
  simp only [Function.comp]
  rw [encStr_drop_byteOff, C07.encStr_drop cs k hk']

theorem chrs_enc_length {cs : List Nat} (h : ∀ c ∈ cs, ValidCp c) : (chrs (encStr cs)).length = cs.length := by
  rw [chrs_enc h]; simp

theorem chrs_enc_getD {cs : List Nat} (h : ∀ c ∈ cs, ValidCp c) (k : Nat) (hk : k < cs.length) :
    (chrs (encStr cs)).getD k [] = enc (cs.getD k 0) ++ encStr (cs.drop (k + 1)) := by
  rw [chrs_enc h, List.getD_eq_getElem?_getD, List.getElem?_map, List.getElem?_range hk]
  rfl

/-! ### increasing tables; the widths on a valid line; the reordered table read through its visual order -/

/-- the table has `n + 1` entries and is strictly increasing, the end entry included -/
def StrictInc (pos : List Nat) (n : Nat) : Prop :=
  pos.length = n + 1 ∧ ∀ i j, i < j → j ≤ n → pos.getD i 0 < pos.getD j 0

theorem getD_mem_of_lt {cps : List Nat} {k : Nat} (hk : k < cps.length) : cps.getD k 0 ∈ cps := by
  rw [List.getD_eq_getElem?_getD, List.getElem?_eq_getElem hk]; exact List.getElem_mem _

theorem range_getD (n k : Nat) (hk : k < n) : (List.range n).getD k 0 = k := by
  rw [List.getD_eq_getElem?_getD, List.getElem?_range hk]; rfl

theorem cwid_chr {cps : List Nat} (hv : ∀ c ∈ cps, ValidCp c) (k : Nat) (hk : k < cps.length) (col : Nat) :
    renCwid ((chrs (encStr cps)).getD k []) col = cellWidth (cps.getD k 0) col := by
  rw [chrs_enc_getD hv k hk]
  exact C17.cwid_spec (hv _ (getD_mem_of_lt hk)) _ col

/-- so a statement about character `i` of a valid line and its width can be read with the
    reference width of code point `i` -/
theorem width_iff {cps : List Nat} (hv : ∀ c ∈ cps, ValidCp c) (i col : Nat) (Q : Nat → Prop) :
    (i < (chrs (encStr cps)).length ∧ Q (renCwid ((chrs (encStr cps)).getD i []) col)) ↔
      (i < cps.length ∧ Q (cellWidth (cps.getD i 0) col)) := by
  rw [chrs_enc_length hv]
  exact ⟨fun ⟨a, r⟩ => ⟨a, cwid_chr hv i a col ▸ r⟩, fun ⟨a, r⟩ => ⟨a, (cwid_chr hv i a col).symm ▸ r⟩⟩

/-- what `C17.reorder_tiling_cs` says, in `getD` form: the reordered table, read through the
    visual order `vis`, is the left-to-right table of the characters `vc` taken in visual order -/
theorem reorder_vis (cs : List Bytes) (ord : List Nat) (hperm : ord.Perm (List.range cs.length))
    (pos : List Nat) (h : renPositionReorderCs cs ord = some pos) :
    ∃ (vis : List Nat) (vc : List Bytes),
      vc.length = cs.length ∧ pos.length = cs.length + 1 ∧
      (∀ i, i < cs.length → ∃ k, k < cs.length ∧ vis.getD k 0 = i) ∧
      (∀ k, k < cs.length → vis.getD k 0 < cs.length) ∧
      (∀ k, k < cs.length → vc.getD k [] = cs.getD (vis.getD k 0) []) ∧
      (∀ k, k < cs.length → pos.getD (vis.getD k 0) 0 = (layout vc 0 ++ [layoutEnd vc 0]).getD k 0) ∧
      pos.getD cs.length 0 = (layout vc 0 ++ [layoutEnd vc 0]).getD cs.length 0 := by
  have hl : ord.length = cs.length := by rw [hperm.length_eq]; simp
  have hnd : ord.Nodup := hperm.nodup_iff.mpr List.nodup_range
  have hlt : ∀ v ∈ ord, v < cs.length := by
    intro v hvm; simpa using (hperm.mem_iff.mp hvm)
  have hsurj : ∀ v, v < cs.length → v ∈ ord := by
    intro v hvl; exact hperm.mem_iff.mpr (by simpa using hvl)
  obtain ⟨ps, he, hpl, hget⟩ := C17.reorder_tiling_cs cs ord hl hnd hlt hsurj
  rw [he] at h
  have hpos : pos = ps ++ [layoutEnd ((visOf ord cs.length).map (fun k => cs.getD k [])) 0] :=
    (Option.some.inj h).symm
  generalize hvis : visOf ord cs.length = vis at hget hpos
  generalize hvc : vis.map (fun k => cs.getD k []) = vc at hget hpos
  have hvlen : vis.length = cs.length := by simp [← hvis, visOf]
  have hvclen : vc.length = cs.length := by simp [← hvc, hvlen]
  have hvlt : ∀ k, k < cs.length → vis.getD k 0 < cs.length := by
    intro k hk
    rw [← hvis]
    simp only [visOf, List.getD_eq_getElem?_getD, List.getElem?_map, List.getElem?_range hk,
      Option.map_some, Option.getD_some]
    have := List.idxOf_lt_length_of_mem (hsurj k hk)
    omega
  refine ⟨vis, vc, hvclen, by rw [hpos]; simp [hpl], ?_, hvlt, ?_, ?_, ?_⟩
  · intro i hi
    have hoi : ord[i]'(by rw [hl]; exact hi) < cs.length := hlt _ (List.getElem_mem _)
    refine ⟨ord[i]'(by rw [hl]; exact hi), hoi, ?_⟩
    rw [← hvis]
    simp only [visOf, List.getD_eq_getElem?_getD, List.getElem?_map, List.getElem?_range hoi,
      Option.map_some, Option.getD_some]
    exact hnd.idxOf_getElem i (by rw [hl]; exact hi)
  · intro k hk
    rw [← hvc]
    simp only [List.getD_eq_getElem?_getD, List.getElem?_map,
      List.getElem?_eq_getElem (show k < vis.length by omega), Option.map_some, Option.getD_some]
  · intro k hk
    have := hget k hk
    rw [hpos, List.getD_eq_getElem?_getD, List.getElem?_append_left (by rw [hpl]; exact hvlt k hk), this,
      List.getD_eq_getElem?_getD, List.getElem?_append_left (by rw [layout_length, hvclen]; exact hk)]
  · rw [hpos, List.getD_eq_getElem?_getD, List.getElem?_append_right (by omega),
      List.getD_eq_getElem?_getD, List.getElem?_append_right (by rw [layout_length]; omega)]
    simp [hpl, layout_length, hvclen]

/-! ### the model's tables are tiled -/

/-- the width of character `i` of `cs` at a column, as the model computes it -/
abbrev cwidOf (cs : List Bytes) (i col : Nat) : Nat := renCwid (cs.getD i []) col

theorem fast_tiledW (cs : List Bytes) : TiledW (cwidOf cs) (layout cs 0 ++ [layoutEnd cs 0]) cs.length := by
  have hinc := fastTable_inc cs 0
  apply tiledW_of_vis _ _ _ (List.range cs.length) cs.length hinc hinc.1
  · intro i hi; exact ⟨i, hi, range_getD _ _ hi⟩
  · intro k hk; rw [range_getD _ _ hk]; exact hk
  · intro k hk; rw [range_getD _ _ hk]
  · rfl
  · intro k hk; rw [range_getD _ _ hk, fastTable_step _ 0 k hk]

theorem reorder_tiledW (cs : List Bytes) (ord : List Nat) (hperm : ord.Perm (List.range cs.length))
    (pos : List Nat) (h : renPositionReorderCs cs ord = some pos) : TiledW (cwidOf cs) pos cs.length := by
  obtain ⟨vis, vc, hvclen, hplen, hsurj, hvlt, hvc, hpos, hend⟩ := reorder_vis cs ord hperm pos h
  have hinc := fastTable_inc vc 0
  rw [hvclen] at hinc
  apply tiledW_of_vis _ pos _ vis cs.length hinc hplen hsurj hvlt hpos hend
  intro k hk
  rw [fastTable_step vc 0 k (by omega), hvc k hk]

theorem TiledW.valid {cps pos : List Nat} (hv : ∀ c ∈ cps, ValidCp c)
    (h : TiledW (cwidOf (chrs (encStr cps))) pos (chrs (encStr cps)).length) : Tiled cps pos := by
  rw [chrs_enc_length hv] at h
  exact (h.congr fun i hi col => cwid_chr hv i hi col).tiled

end Neatvi.Lemmas.C17b
