import NeatviVerif.Lemmas.C17bFold
/-! Helper lemmas for C17b: the vocabulary of the specifications (greatest / least admissible
column of a table) and the specifications of `pos_prev`, `pos_next`, `ren_off`. -/
namespace Neatvi.Lemmas.C17b
open Neatvi Neatvi.Ren

/-- the invariant a tiling guarantees for the table `pos` of a line of `n` characters:
    `n + 1` entries, the characters' columns pairwise distinct, and the end column (entry `n`)
    beyond every character's column -/
structure ColTable (pos : List Nat) (n : Nat) : Prop where
  len : pos.length = n + 1
  inj : ∀ i j, i < n → j < n → pos.getD i 0 = pos.getD j 0 → i = j
  lt_end : ∀ i, i < n → pos.getD i 0 < pos.getD n 0

/-- character `i` has the greatest column among the characters `0..n-1` whose column satisfies `P` -/
def IsGreatest (pos : List Nat) (n : Nat) (P : Nat → Prop) (i : Nat) : Prop :=
  i < n ∧ P (pos.getD i 0) ∧ ∀ j, j < n → P (pos.getD j 0) → pos.getD j 0 ≤ pos.getD i 0

/-- character `i` has the least column among the characters `0..n-1` whose column satisfies `P` -/
def IsLeast (pos : List Nat) (n : Nat) (P : Nat → Prop) (i : Nat) : Prop :=
  i < n ∧ P (pos.getD i 0) ∧ ∀ j, j < n → P (pos.getD j 0) → pos.getD i 0 ≤ pos.getD j 0

/-- no character's column satisfies `P` -/
def NoCol (pos : List Nat) (n : Nat) (P : Nat → Prop) : Prop := ∀ j, j < n → ¬ P (pos.getD j 0)

/-- the columns `pos_prev(.., p, cur)` accepts: `≤ p` for `cur`, `< p` otherwise -/
def PrevP (p : Int) (cur : Bool) (x : Nat) : Prop := if cur then (x : Int) ≤ p else (x : Int) < p
/-- the columns `pos_next(.., p, cur)` accepts: `≥ p` for `cur`, `> p` otherwise -/
def NextP (p : Int) (cur : Bool) (x : Nat) : Prop := if cur then p ≤ (x : Int) else p < (x : Int)

theorem prevOk_iff (p : Int) (cur : Bool) (x : Nat) : prevOk p cur x = true ↔ PrevP p cur x := by
  unfold prevOk PrevP
  cases cur <;> simp <;> omega

theorem nextOk_iff (p : Int) (cur : Bool) (x : Nat) : nextOk p cur x = true ↔ NextP p cur x := by
  unfold nextOk NextP
  cases cur <;> simp <;> omega

theorem opt_spec (pos : List Nat) (ok : Nat → Bool) (better : Nat → Nat → Bool)
    (hrefl : ∀ a, better a a = false)
    (htrans : ∀ a b c, better a b = false → better c b = true → better a c = false)
    (n : Nat) (hn : n ≤ pos.length) (P : Nat → Prop) (hP : ∀ x, ok x = true ↔ P x) :
    (∃ i, (List.range n).foldl (optStep pos ok better) none = some i ∧ i < n ∧ P (pos.getD i 0) ∧
      ∀ j, j < n → P (pos.getD j 0) → better (pos.getD j 0) (pos.getD i 0) = false) ∨
    ((List.range n).foldl (optStep pos ok better) none = none ∧ NoCol pos n P) := by
  have := opt_inv pos ok better hrefl htrans n hn
  cases hr : (List.range n).foldl (optStep pos ok better) none with
  | none =>
    rw [hr] at this
    refine Or.inr ⟨rfl, fun j hj hj' => ?_⟩
    have h1 := this j hj
    rw [(hP _).mpr hj'] at h1
    cases h1
  | some i =>
    rw [hr] at this
    obtain ⟨h1, h2, h3⟩ := this
    exact Or.inl ⟨i, rfl, h1, (hP _).mp h2, fun j hj hj' => h3 j hj ((hP _).mpr hj')⟩

theorem posPrev_spec (pos : List Nat) (n : Nat) (p : Int) (cur : Bool) (hn : n ≤ pos.length) :
    (∃ i, IsGreatest pos n (PrevP p cur) i ∧ posPrev pos n p cur = (pos.getD i 0 : Int)) ∨
    (NoCol pos n (PrevP p cur) ∧ posPrev pos n p cur = -1) := by
  rw [posPrev_eq_opt]
  rcases opt_spec pos (prevOk p cur) (fun a b => decide (a > b)) (by simp) (by intro a b c; simp; omega) n hn
    (PrevP p cur) (prevOk_iff p cur) with ⟨i, hr, h1, h2, h3⟩ | ⟨hr, hno⟩
  · rw [hr]
    exact Or.inl ⟨i, ⟨h1, h2, fun j hj hj' => by have := of_decide_eq_false (h3 j hj hj'); omega⟩, rfl⟩
  · rw [hr]
    exact Or.inr ⟨hno, rfl⟩

theorem posNext_spec (pos : List Nat) (n : Nat) (p : Int) (cur : Bool) (hn : n ≤ pos.length) :
    (∃ i, IsLeast pos n (NextP p cur) i ∧ posNext pos n p cur = (pos.getD i 0 : Int)) ∨
    (NoCol pos n (NextP p cur) ∧ posNext pos n p cur = -1) := by
  rw [posNext_eq_opt]
  rcases opt_spec pos (nextOk p cur) (fun a b => decide (a < b)) (by simp) (by intro a b c; simp; omega) n hn
    (NextP p cur) (nextOk_iff p cur) with ⟨i, hr, h1, h2, h3⟩ | ⟨hr, hno⟩
  · rw [hr]
    exact Or.inl ⟨i, ⟨h1, h2, fun j hj hj' => by have := of_decide_eq_false (h3 j hj hj'); omega⟩, rfl⟩
  · rw [hr]
    exact Or.inr ⟨hno, rfl⟩

theorem posPrev_of_greatest (pos : List Nat) (n : Nat) (p : Int) (cur : Bool) (hn : n ≤ pos.length)
    (i : Nat) (h : IsGreatest pos n (PrevP p cur) i) : posPrev pos n p cur = (pos.getD i 0 : Int) := by
  rcases posPrev_spec pos n p cur hn with ⟨i', h', he⟩ | ⟨h', _⟩
  · rw [he]
    have a := h.2.2 i' h'.1 h'.2.1
    have b := h'.2.2 i h.1 h.2.1
    omega
  · exact absurd h.2.1 (h' i h.1)

theorem posPrev_of_none (pos : List Nat) (n : Nat) (p : Int) (cur : Bool) (hn : n ≤ pos.length)
    (h : NoCol pos n (PrevP p cur)) : posPrev pos n p cur = -1 := by
  rcases posPrev_spec pos n p cur hn with ⟨i', h', _⟩ | ⟨_, he⟩
  · exact absurd h'.2.1 (h i' h'.1)
  · exact he

theorem posNext_of_least (pos : List Nat) (n : Nat) (p : Int) (cur : Bool) (hn : n ≤ pos.length)
    (i : Nat) (h : IsLeast pos n (NextP p cur) i) : posNext pos n p cur = (pos.getD i 0 : Int) := by
  rcases posNext_spec pos n p cur hn with ⟨i', h', he⟩ | ⟨h', _⟩
  · rw [he]
    have a := h.2.2 i' h'.1 h'.2.1
    have b := h'.2.2 i h.1 h.2.1
    omega
  · exact absurd h.2.1 (h' i h.1)

theorem posNext_of_none (pos : List Nat) (n : Nat) (p : Int) (cur : Bool) (hn : n ≤ pos.length)
    (h : NoCol pos n (NextP p cur)) : posNext pos n p cur = -1 := by
  rcases posNext_spec pos n p cur hn with ⟨i', h', _⟩ | ⟨_, he⟩
  · exact absurd h'.2.1 (h i' h'.1)
  · exact he

/-- `ren_off` of a column: the last character with the greatest column `≤ p`; 0 if there is none -/
theorem renOffT_spec_gen (pos : List Nat) (n : Nat) (p : Int) (hn : n ≤ pos.length) :
    (IsGreatest pos n (PrevP p true) (renOffT pos n p) ∧
      ∀ j, j < n → pos.getD j 0 = pos.getD (renOffT pos n p) 0 → j ≤ renOffT pos n p) ∨
    (NoCol pos n (PrevP p true) ∧ renOffT pos n p = 0) := by
  rw [renOffT_eq]
  rcases posPrev_spec pos n p true hn with ⟨i, hi, he⟩ | ⟨hno, he⟩
  · left
    rw [he]
    have := off_last pos (pos.getD i 0 : Int) n
    cases hr : (List.range n).foldl (offStep pos (pos.getD i 0 : Int)) none with
    | none =>
      rw [hr] at this
      exact absurd rfl (this i hi.1)
    | some o =>
      rw [hr] at this
      obtain ⟨h1, h2, h3⟩ := this
      have h2' : pos.getD o 0 = pos.getD i 0 := by exact_mod_cast h2
      simp only [Option.getD_some]
      refine ⟨⟨h1, by rw [h2']; exact hi.2.1, ?_⟩, ?_⟩
      · intro j hj hP; rw [h2']; exact hi.2.2 j hj hP
      · intro j hj hje; exact h3 j hj (by rw [hje, h2'])
  · right
    refine ⟨hno, ?_⟩
    rw [he]
    have := off_last pos (-1) n
    cases hr : (List.range n).foldl (offStep pos (-1)) none with
    | none => rfl
    | some o =>
      rw [hr] at this
      omega

end Neatvi.Lemmas.C17b
