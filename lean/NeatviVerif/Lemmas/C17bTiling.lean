import NeatviVerif.Lemmas.C17bCursor
import NeatviVerif.Spec.Layout
/-! Helper lemmas for C17b: `Tiled` (distinct columns, the end column, the successor of each character in visual
order) and the same for an abstract width, `TiledW`.  A table gets them from one description: read through a visual order
it is an increasing table whose steps are the widths (`tiledW_of_vis`).  The check `isTiling` says exactly that of
`visualOrder` (`go_table`), hence `tiled_of_isTiling`. -/
namespace Neatvi.Lemmas.C17b
open Neatvi Neatvi.Spec

theorem go_nil (cps pos : List Nat) (n col : Nat) :
    isTiling.go cps pos n [] col = (pos.getD n 0 == col) := by simp [isTiling.go]

theorem go_cons (cps pos : List Nat) (n i : Nat) (r : List Nat) (col : Nat) :
    isTiling.go cps pos n (i :: r) col =
      (pos.getD i 0 == col && isTiling.go cps pos n r (col + cellWidth (cps.getD i 0) col)) := by
  simp [isTiling.go]

/-! ### the visual order lists exactly `0..n-1` -/

def visStep (pos : List Nat) (acc : List Nat) (i : Nat) : List Nat :=
  let pi := pos.getD i 0
  let (a, b) := acc.span (fun j => pos.getD j 0 ≤ pi)
  a ++ i :: b

theorem visualOrder_eq (pos : List Nat) (n : Nat) :
    visualOrder pos n = (List.range n).foldl (visStep pos) [] := rfl

theorem span_loop_append {α : Type} (p : α → Bool) (as acc : List α) :
    (List.span.loop p as acc).1 ++ (List.span.loop p as acc).2 = acc.reverse ++ as := by
  induction as generalizing acc with
  | nil => simp [List.span.loop]
  | cons a as ih =>
    unfold List.span.loop
    cases p a with
    | true => simp only []; rw [ih]; simp
    | false => simp

theorem span_append {α : Type} (p : α → Bool) (l : List α) : (l.span p).1 ++ (l.span p).2 = l := by
  unfold List.span
  rw [span_loop_append]; simp

theorem visStep_eq (pos acc : List Nat) (i : Nat) :
    visStep pos acc i = (acc.span (fun j => decide (pos.getD j 0 ≤ pos.getD i 0))).1 ++
      i :: (acc.span (fun j => decide (pos.getD j 0 ≤ pos.getD i 0))).2 := rfl

/-- the visual order is a permutation of the characters: `visStep` puts `i` somewhere into `acc` -/
theorem visualOrder_perm (pos : List Nat) (n : Nat) : (visualOrder pos n).Perm (List.range n) := by
  rw [visualOrder_eq]
  induction n with
  | zero => exact .refl _
  | succ n ih =>
    rw [List.range_succ, List.foldl_append]
    simp only [List.foldl_cons, List.foldl_nil]
    rw [visStep_eq]
    refine List.perm_middle.trans (.trans (.cons n ?_) (List.perm_append_singleton n _).symm)
    rw [span_append]
    exact ih

theorem mem_visualOrder (pos : List Nat) (n x : Nat) : x ∈ visualOrder pos n ↔ x < n := by
  rw [(visualOrder_perm pos n).mem_iff, List.mem_range]

theorem visualOrder_length (pos : List Nat) (n : Nat) : (visualOrder pos n).length = n := by
  rw [(visualOrder_perm pos n).length_eq, List.length_range]

/-! ### the tiling check -/

/-- the check run along `l` from column `col`: the columns `T` it goes through; character `l[k]` stands at `T[k]`,
    the next column is one cell width further, and the end entry of the table is the last -/
theorem go_table (cps pos : List Nat) (n : Nat) (l : List Nat) : ∀ col, isTiling.go cps pos n l col = true →
    ∃ T : List Nat, T.length = l.length + 1 ∧ T.getD 0 0 = col ∧
      (∀ k, k < l.length → pos.getD (l.getD k 0) 0 = T.getD k 0 ∧
        T.getD (k + 1) 0 = T.getD k 0 + cellWidth (cps.getD (l.getD k 0) 0) (T.getD k 0)) ∧
      pos.getD n 0 = T.getD l.length 0 := by
  induction l with
  | nil =>
    intro col h
    rw [go_nil] at h
    exact ⟨[col], rfl, rfl, fun k hk => absurd hk (Nat.not_lt_zero _), by simpa using h⟩
  | cons i r ih =>
    intro col h
    rw [go_cons, Bool.and_eq_true] at h
    obtain ⟨T, hl, h0, hT, hend⟩ := ih _ h.2
    have h1 : pos.getD i 0 = col := by simpa using h.1
    refine ⟨col :: T, by simp [hl], rfl, ?_, hend⟩
    intro k hk
    cases k with
    | zero => exact ⟨h1, by rw [List.getD_cons_succ, h0]; rfl⟩
    | succ k => exact hT k (by simpa using hk)

/-- the leftmost column of a non-empty tiling is 0 -/
theorem tiling_zero (cps pos : List Nat) (h : isTiling cps pos = true) (hn : 0 < cps.length) :
    ∃ i, i < cps.length ∧ pos.getD i 0 = 0 := by
  unfold isTiling at h
  simp only [Bool.and_eq_true, beq_iff_eq] at h
  obtain ⟨_, hg⟩ := h
  cases hv : visualOrder pos cps.length with
  | nil =>
    have := (mem_visualOrder pos cps.length 0).mpr hn
    rw [hv] at this; cases this
  | cons i r =>
    rw [hv, go_cons, Bool.and_eq_true] at hg
    refine ⟨i, (mem_visualOrder pos cps.length i).mp (by rw [hv]; simp), by simpa using hg.1⟩

/-! ### the facts a tiling provides, as a proposition -/

/-- `pos` tiles the cells of the characters `cps`: the table invariant, every cell at least one
    column wide, every other character starts at or before character `i` or at or after the end of
    `i`'s cell range, and where `i`'s range ends another character starts, or the line ends -/
structure Tiled (cps pos : List Nat) : Prop where
  table : ColTable pos cps.length
  width_pos : ∀ i, i < cps.length → 1 ≤ cellWidth (cps.getD i 0) (pos.getD i 0)
  apart : ∀ i k, i < cps.length → k < cps.length → pos.getD k 0 ≤ pos.getD i 0 ∨
    pos.getD i 0 + cellWidth (cps.getD i 0) (pos.getD i 0) ≤ pos.getD k 0
  succ : ∀ i, i < cps.length →
    (∃ j, j < cps.length ∧ pos.getD j 0 = pos.getD i 0 + cellWidth (cps.getD i 0) (pos.getD i 0)) ∨
    pos.getD cps.length 0 = pos.getD i 0 + cellWidth (cps.getD i 0) (pos.getD i 0)

/-- `Tiled` for any width function: `w i col` is the width of character `i` when it stands at column
    `col`.  The model's tables have it with `w = ren_cwid` for every line; `Tiled` is the case of the
    reference width of the code points. -/
structure TiledW (w : Nat → Nat → Nat) (pos : List Nat) (n : Nat) : Prop where
  table : ColTable pos n
  width_pos : ∀ i, i < n → 1 ≤ w i (pos.getD i 0)
  apart : ∀ i k, i < n → k < n → pos.getD k 0 ≤ pos.getD i 0 ∨ pos.getD i 0 + w i (pos.getD i 0) ≤ pos.getD k 0
  succ : ∀ i, i < n →
    (∃ j, j < n ∧ pos.getD j 0 = pos.getD i 0 + w i (pos.getD i 0)) ∨ pos.getD n 0 = pos.getD i 0 + w i (pos.getD i 0)

theorem TiledW.tiled {cps pos : List Nat} (h : TiledW (fun i col => cellWidth (cps.getD i 0) col) pos cps.length) :
    Tiled cps pos := ⟨h.table, h.width_pos, h.apart, h.succ⟩

theorem Tiled.toW {cps pos : List Nat} (h : Tiled cps pos) :
    TiledW (fun i col => cellWidth (cps.getD i 0) col) pos cps.length := ⟨h.table, h.width_pos, h.apart, h.succ⟩

theorem TiledW.congr {w w' : Nat → Nat → Nat} {pos : List Nat} {n : Nat} (h : TiledW w pos n)
    (e : ∀ i, i < n → ∀ col, w i col = w' i col) : TiledW w' pos n :=
  ⟨h.table, fun i hi => e i hi _ ▸ h.width_pos i hi, fun i k hi hk => e i hi _ ▸ h.apart i k hi hk,
   fun i hi => e i hi _ ▸ h.succ i hi⟩

theorem TiledW.disjoint {w : Nat → Nat → Nat} {pos : List Nat} {n : Nat} (h : TiledW w pos n) (i k : Nat)
    (hi : i < n) (hk : k < n) (hik : i ≠ k) :
    pos.getD i 0 + w i (pos.getD i 0) ≤ pos.getD k 0 ∨ pos.getD k 0 + w k (pos.getD k 0) ≤ pos.getD i 0 := by
  rcases h.apart i k hi hk with h1 | h1
  · rcases h.apart k i hk hi with h2 | h2
    · exact absurd (h.table.inj i k hi hk (by omega)) hik
    · exact Or.inr h2
  · exact Or.inl h1

theorem tiledW_of_vis (w : Nat → Nat → Nat) (pos T vis : List Nat) (n : Nat)
    (hT : T.length = n + 1 ∧ ∀ i j, i < j → j ≤ n → T.getD i 0 < T.getD j 0)
    (hlen : pos.length = n + 1)
    (hsurj : ∀ i, i < n → ∃ k, k < n ∧ vis.getD k 0 = i)
    (hvlt : ∀ k, k < n → vis.getD k 0 < n)
    (hpos : ∀ k, k < n → pos.getD (vis.getD k 0) 0 = T.getD k 0)
    (hend : pos.getD n 0 = T.getD n 0)
    (hstep : ∀ k, k < n → T.getD (k + 1) 0 = T.getD k 0 + w (vis.getD k 0) (T.getD k 0)) :
    TiledW w pos n := by
  have hmono : ∀ a b, a ≤ b → b ≤ n → T.getD a 0 ≤ T.getD b 0 := by
    intro a b hab hb
    by_cases h : a = b
    · subst h; omega
    · have := hT.2 a b (by omega) hb; omega
  refine ⟨⟨hlen, ?_, ?_⟩, ?_, ?_, ?_⟩
  · intro i j hi hj he
    obtain ⟨a, ha, rfl⟩ := hsurj i hi
    obtain ⟨b, hb, rfl⟩ := hsurj j hj
    rw [hpos a ha, hpos b hb] at he
    by_cases h1 : a < b
    · have := hT.2 a b h1 (by omega); omega
    · by_cases h2 : b < a
      · have := hT.2 b a h2 (by omega); omega
      · have : a = b := by omega
        rw [this]
  · intro i hi
    obtain ⟨a, ha, rfl⟩ := hsurj i hi
    rw [hpos a ha, hend]
    exact hT.2 a n ha (Nat.le_refl _)
  · intro i hi
    obtain ⟨a, ha, rfl⟩ := hsurj i hi
    rw [hpos a ha]
    have := hstep a ha
    have := hT.2 a (a + 1) (by omega) (by omega)
    omega
  · intro i k hi hk
    obtain ⟨a, ha, rfl⟩ := hsurj i hi
    obtain ⟨b, hb, rfl⟩ := hsurj k hk
    rw [hpos a ha, hpos b hb]
    by_cases h1 : b ≤ a
    · left; exact hmono b a h1 (by omega)
    · right
      rw [← hstep a ha]
      exact hmono (a + 1) b (by omega) (by omega)
  · intro i hi
    obtain ⟨a, ha, rfl⟩ := hsurj i hi
    rw [hpos a ha, ← hstep a ha]
    by_cases h1 : a + 1 < n
    · left
      exact ⟨vis.getD (a + 1) 0, hvlt _ h1, hpos _ h1⟩
    · right
      rw [hend, show a + 1 = n by omega]

/-- a table that passes the check is tiled: the check says it is, read through `visualOrder`, the table `go_table`
    gives, which increases because every cell is at least one column wide -/
theorem tiled_of_isTiling (cps pos : List Nat)
    (hw : ∀ k, k < cps.length → ∀ col, 1 ≤ cellWidth (cps.getD k 0) col)
    (h : isTiling cps pos = true) : Tiled cps pos := by
  unfold isTiling at h
  simp only [Bool.and_eq_true, beq_iff_eq] at h
  obtain ⟨hl, hg⟩ := h
  obtain ⟨T, hTl, _, hT, hend⟩ := go_table cps pos cps.length _ 0 hg
  rw [visualOrder_length] at hTl hT hend
  have hvlt : ∀ k, k < cps.length → (visualOrder pos cps.length).getD k 0 < cps.length := by
    intro k hk
    rw [List.getD_eq_getElem?_getD, List.getElem?_eq_getElem (by rw [visualOrder_length]; exact hk)]
    exact (mem_visualOrder _ _ _).mp (List.getElem_mem _)
  refine (tiledW_of_vis _ pos T (visualOrder pos cps.length) cps.length ⟨hTl, ?_⟩ hl ?_ hvlt
    (fun k hk => (hT k hk).1) hend (fun k hk => (hT k hk).2)).tiled
  · apply Ren.steps_strict (f := fun i => T.getD i 0)
    intro k hk
    have := hw _ (hvlt k hk) (T.getD k 0)
    have := (hT k hk).2
    show T.getD k 0 < T.getD (k + 1) 0
    omega
  · intro i hi
    obtain ⟨k, hk, e⟩ := List.getElem_of_mem ((mem_visualOrder pos cps.length i).mpr hi)
    rw [visualOrder_length] at hk
    exact ⟨k, hk, by rw [List.getD_eq_getElem?_getD, List.getElem?_eq_getElem (by rw [visualOrder_length]; exact hk), e]; rfl⟩

end Neatvi.Lemmas.C17b
