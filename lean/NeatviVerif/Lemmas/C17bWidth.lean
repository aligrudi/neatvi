import NeatviVerif.Lemmas.Ren
import NeatviVerif.Lemmas.C07Ren
/-! Helper lemmas for C17b, for arbitrary byte strings (not only valid UTF-8): every display cell
`ren_cwid` computes is at least one column wide; the left-to-right table `layout cs col ++ [layoutEnd cs col]`
through its recurrence (each entry is the previous one plus a `ren_cwid`), hence increasing; and `uc_chop`
lists `uc_slen` characters. -/
namespace Neatvi.Lemmas.C17b
open Neatvi Neatvi.Uc Neatvi.Ren

private theorem ph_wid_pos : Gen.placeholders.all (fun p => decide (1 ≤ p.2.2)) = true := by decide +kernel

theorem renPlaceholder_cases (s : Bytes) :
    (∃ p, p ∈ Gen.placeholders ∧ renPlaceholder s = some (p.2.1, p.2.2)) ∨
    (renPlaceholder s = if ucIsBell s == some true then some ([0xef, 0xbf, 0xbd], 1) else none) := by
  unfold renPlaceholder
  simp only []
  generalize hh : (if Bytes.hd s &&& phBits == phBits then
      Gen.placeholders.find? (fun p => Bytes.hd p.1 == Bytes.hd s && ucCode p.1 == ucCode s)
    else none) = hit
  cases hit with
  | none => right; rfl
  | some p =>
    left
    refine ⟨p, ?_, rfl⟩
    split at hh
    · exact List.mem_of_find?_eq_some hh
    · cases hh

/-- the "printable ASCII, blank, tab, newline" test of `uc_isbell` on a first byte -/
def plainB (b : Nat) : Bool := b == 32 || b == 9 || b == 10 || (b ≥ 0x20 && b < 0x7f)

theorem ucCode_plain (s : Bytes) (h : plainB (Bytes.hd s) = true) : ucCode s = some (Bytes.hd s) := by
  have hlt : Bytes.hd s < 0x7f := by
    unfold plainB at h
    simp only [Bool.or_eq_true, Bool.and_eq_true, beq_iff_eq, decide_eq_true_eq] at h
    omega
  have hand : Bytes.hd s &&& 0xc0 ≤ Bytes.hd s := Nat.and_le_left
  unfold ucCode
  simp only []
  rw [if_pos]
  simp only [bne_iff_ne, ne_eq]
  omega

/-- every display cell is at least one column wide, for any bytes: a zero-width code point is
    drawn as the width-1 "bell" placeholder -/
theorem renCwid_pos (s : Bytes) (col : Nat) : 1 ≤ renCwid s col := by
  unfold renCwid
  split
  · have : col &&& 7 = col % 8 := Nat.and_two_pow_sub_one_eq_mod col 3
    omega
  · rcases renPlaceholder_cases s with ⟨p, hp, he⟩ | he
    · rw [he]
      simp only []
      have := List.all_eq_true.mp ph_wid_pos p hp
      simpa using this
    · rw [he]
      by_cases hb : (ucIsBell s == some true) = true
      · rw [if_pos hb]; exact Nat.le_refl 1
      · rw [if_neg hb]
        simp only []
        unfold ucWid
        cases hc : ucCode s with
        | none => simp
        | some c =>
          simp only [Option.map_some, Option.getD_some]
          unfold ucWidC
          by_cases hz : ucIsZw c = true
          · exfalso
            apply hb
            unfold ucIsBell
            simp only []
            by_cases hpl : plainB (Bytes.hd s) = true
            · have := ucCode_plain s hpl
              rw [hc] at this
              have hc' : c = Bytes.hd s := Option.some.inj this
              have hlt : Bytes.hd s < 0x7f := by
                unfold plainB at hpl
                simp only [Bool.or_eq_true, Bool.and_eq_true, beq_iff_eq, decide_eq_true_eq] at hpl
                omega
              unfold ucIsZw at hz
              simp only [Bool.and_eq_true, decide_eq_true_eq] at hz
              omega
            · unfold plainB at hpl
              rw [if_neg hpl, hc]
              simp only [Option.map_some]
              unfold ucIsBellC
              rw [if_neg hpl, hz]
              simp
          · rw [if_neg hz]
            split <;> omega

/-! ### the left-to-right table `layout cs col ++ [layoutEnd cs col]`: its recurrence, and what follows from it -/

theorem fastTable_zero (cs : List Bytes) (col : Nat) : (layout cs col ++ [layoutEnd cs col]).getD 0 0 = col := by
  cases cs <;> rfl

theorem fastTable_step (cs : List Bytes) (col : Nat) (i : Nat) (hi : i < cs.length) :
    (layout cs col ++ [layoutEnd cs col]).getD (i + 1) 0 =
      (layout cs col ++ [layoutEnd cs col]).getD i 0 +
        renCwid (cs.getD i []) ((layout cs col ++ [layoutEnd cs col]).getD i 0) := by
  induction cs generalizing col i with
  | nil => simp at hi
  | cons c r ih =>
    cases i with
    | zero =>
      cases r with
      | nil => simp [layout, layoutEnd]
      | cons d r' => simp [layout]
    | succ i =>
      simp only [layout, layoutEnd, List.cons_append, List.getD_cons_succ]
      exact ih _ i (by simpa using hi)

theorem fastTable_lt (cs : List Bytes) (col : Nat) {i : Nat} (hi : i < cs.length) :
    (layout cs col ++ [layoutEnd cs col]).getD i 0 = (layout cs col).getD i 0 := by
  rw [List.getD_eq_getElem?_getD, List.getElem?_append_left (by rw [layout_length]; exact hi),
    List.getD_eq_getElem?_getD]

theorem fastTable_end (cs : List Bytes) (col : Nat) :
    (layout cs col ++ [layoutEnd cs col]).getD cs.length 0 = layoutEnd cs col := by
  rw [List.getD_eq_getElem?_getD, List.getElem?_append_right (by rw [layout_length]; omega), layout_length]
  simp

theorem fastTable_inc (cs : List Bytes) (col : Nat) :
    (layout cs col ++ [layoutEnd cs col]).length = cs.length + 1 ∧
    ∀ i j, i < j → j ≤ cs.length →
      (layout cs col ++ [layoutEnd cs col]).getD i 0 < (layout cs col ++ [layoutEnd cs col]).getD j 0 :=
  ⟨by simp [layout_length], Ren.steps_strict (f := fun i => (layout cs col ++ [layoutEnd cs col]).getD i 0) fun i hi => by
    have := renCwid_pos (cs.getD i []) ((layout cs col ++ [layoutEnd cs col]).getD i 0)
    simp only [fastTable_step cs col i hi]; omega⟩

theorem chopF_length (f : Nat) (s : Bytes) (hz : 0 ∉ s) (base : Nat) :
    (ucChopF f s base).length = ucSlenF f s + 1 := by
  induction f generalizing s base with
  | zero => simp [ucChopF, ucSlenF]
  | succ f ih =>
    unfold ucChopF ucSlenF
    by_cases h0 : (Bytes.hd s == 0) = true
    · rw [if_pos h0, if_pos h0]; rfl
    · rw [if_neg h0, if_neg h0, List.length_cons, Lemmas.C07.drop_next_eq s hz]
      rw [ih _ (fun hm => hz (List.mem_of_mem_drop hm))]

theorem chrs_length (s : Bytes) (hz : 0 ∉ s) : (chrs s).length = ucSlen s := by
  unfold chrs ucChop ucSlen
  rw [List.length_map, List.length_dropLast, chopF_length _ s hz]
  omega

end Neatvi.Lemmas.C17b
