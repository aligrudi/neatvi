import NeatviVerif.Model.Dir
/-!
# C18: the equations of `dir_fix`, and the law of an in-range matcher

What the lemma files of C18b take from C18: `dirFix` on an empty slice, on a slice without a match and on a
match (`dirFix_empty`, `dirFix_none`, `dirFix_match`), `Lawful`, and `C18c.LawfulOn M n`, the law on the slices that end
inside `[0, n]` — which is all an induction over `dirFix` on such a slice asks about; `Lawful.on` reads one as the other.
-/
namespace Neatvi.Props.C18
open Neatvi Neatvi.Dir

theorem dirFix_empty (M : Matcher) (fuel : Nat) (ord : List Nat) (dir : Int) {b e : Nat} (hbe : ¬ b < e) :
    dirFix M fuel ord dir b e = some ord := by
  cases fuel <;> simp only [dirFix, if_neg hbe]

theorem dirFix_match {M : Matcher} {dir : Int} {b e : Nat} {m : DMatch} (hbe : b < e)
    (h : M b e dir = some (some m)) (fuel : Nat) (ord : List Nat) :
    dirFix M (fuel + 1) ord dir b e =
      ((revIf (decide (dir < 0)) ord m.rBeg m.rEnd).bind fun ord1 =>
        (revIf (decide (m.cDir < 0)) ord1 m.cBeg m.cEnd).bind fun ord2 =>
          (if m.cRec then dirFix M fuel ord2 m.cDir (if m.cBeg == m.rBeg then m.cBeg + 1 else m.cBeg) m.cEnd
            else some ord2).bind fun ord3 => dirFix M fuel ord3 dir m.rEnd e) := by
  simp only [dirFix, if_pos hbe, h]

theorem dirFix_none {M : Matcher} {dir : Int} {b e : Nat} (h : M b e dir = some none) (fuel : Nat) (ord : List Nat) :
    dirFix M (fuel + 1) ord dir b e = some ord := by
  simp only [dirFix]
  split
  · rw [h]
  · rfl

/-- the law the concrete matcher satisfies (spans inside the searched slice, non-empty match) -/
def Lawful (M : Matcher) : Prop :=
  ∀ b e dir, b < e → ∃ r, M b e dir = some r ∧
    ∀ m, r = some m → b ≤ m.rBeg ∧ m.rBeg < m.rEnd ∧ m.rEnd ≤ e ∧
      m.rBeg ≤ m.cBeg ∧ m.cBeg ≤ m.cEnd ∧ m.cEnd ≤ m.rEnd

end Neatvi.Props.C18

namespace Neatvi.Props.C18c
open Neatvi Neatvi.Dir Neatvi.Props.C18

/-- `C18.Lawful` restricted to slices that end inside the first `n` positions -/
def LawfulOn (M : Matcher) (n : Nat) : Prop :=
  ∀ b e dir, b < e → e ≤ n → ∃ r, M b e dir = some r ∧
    ∀ m, r = some m → b ≤ m.rBeg ∧ m.rBeg < m.rEnd ∧ m.rEnd ≤ e ∧
      m.rBeg ≤ m.cBeg ∧ m.cBeg ≤ m.cEnd ∧ m.cEnd ≤ m.rEnd

theorem _root_.Neatvi.Props.C18.Lawful.on {M : Matcher} (h : Lawful M) (n : Nat) : LawfulOn M n :=
  fun b e dir hbe _ => h b e dir hbe

end Neatvi.Props.C18c
