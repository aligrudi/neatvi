import NeatviVerif.Lemmas.C18bRuns
/-!
# C18b helpers: nested groups — one round with recursion, the index map of the whole `dirFix`
-/
namespace Neatvi.Props.C18b
open Neatvi Neatvi.Dir Neatvi.Props.C18
open Neatvi.Props.C18c (LawfulOn)

/-- where the recursive scan of the group starts (`if (c_beg == r_beg) c_beg++`) -/
def recBeg (m : DMatch) : Nat := if m.cBeg == m.rBeg then m.cBeg + 1 else m.cBeg

/-- where the element at position `p` of the result of `dirFix` comes from; independent of `ord` -/
def fixIdx (M : Matcher) : (fuel : Nat) → Int → Nat → Nat → Nat → Nat
  | 0, _, _, _, p => p
  | fuel + 1, dir, b, e, p =>
    if b < e then
      match M b e dir with
      | some (some m) =>
        let q := fixIdx M fuel dir m.rEnd e p
        let q' := if m.cRec then fixIdx M fuel m.cDir (recBeg m) m.cEnd q else q
        stepIdx (decide (dir < 0)) m q'
      | _ => p
    else p

theorem fixIdx_match {M : Matcher} {dir : Int} {b e : Nat} {m : DMatch} (hbe : b < e)
    (h : M b e dir = some (some m)) (fuel p : Nat) :
    fixIdx M (fuel + 1) dir b e p = stepIdx (decide (dir < 0)) m
      (if m.cRec then fixIdx M fuel m.cDir (recBeg m) m.cEnd (fixIdx M fuel dir m.rEnd e p)
        else fixIdx M fuel dir m.rEnd e p) := by
  simp only [fixIdx, if_pos hbe, h]

theorem fixIdx_none {M : Matcher} {dir : Int} {b e : Nat} (h : M b e dir = some none) (fuel p : Nat) :
    fixIdx M fuel dir b e p = p := by
  cases fuel with
  | zero => rfl
  | succ f => simp only [fixIdx, h]; split <;> rfl

theorem fixIdx_empty {M : Matcher} {dir : Int} {b e : Nat} (hbe : ¬ b < e) (fuel p : Nat) :
    fixIdx M fuel dir b e p = p := by
  cases fuel with
  | zero => rfl
  | succ f => simp only [fixIdx, if_neg hbe]

theorem recBeg_bounds {m : DMatch} {b e : Nat} (hr : InRange m b e) :
    m.cBeg ≤ recBeg m ∧ b < recBeg m ∧ m.rBeg ≤ recBeg m := by
  unfold InRange at hr
  unfold recBeg
  split
  · omega
  · next hne =>
    have : m.cBeg ≠ m.rBeg := by simpa using hne
    omega

theorem fix_step (M : Matcher) (fuel : Nat) (ord : List Nat) (dir : Int) (b e : Nat) (m : DMatch)
    (hbe : b < e) (h : M b e dir = some (some m)) (hr : InRange m b e) (he : e ≤ ord.length) :
    dirFix M (fuel + 1) ord dir b e =
      ((if m.cRec then dirFix M fuel (stepRev (decide (dir < 0)) ord m) m.cDir (recBeg m) m.cEnd
        else some (stepRev (decide (dir < 0)) ord m)).bind fun o3 => dirFix M fuel o3 dir m.rEnd e) := by
  rw [dirFix_match hbe h, ← Option.bind_assoc, round_eq hr he, Option.bind_some]
  rfl

/-- `run_step` generalised to a nested match -/
theorem fix_step_rec (M : Matcher) (fuel : Nat) (ord : List Nat) (dir : Int) (b e : Nat) (m : DMatch)
    (hbe : b < e) (h : M b e dir = some (some m)) (hr : InRange m b e) (he : e ≤ ord.length)
    (hrec : m.cRec = true) :
    dirFix M (fuel + 1) ord dir b e =
      ((dirFix M fuel (stepRev (decide (dir < 0)) ord m) m.cDir (recBeg m) m.cEnd).bind
        fun o3 => dirFix M fuel o3 dir m.rEnd e) := by
  rw [fix_step M fuel ord dir b e m hbe h hr he, if_pos hrec]

/-- `f` moves positions only inside `[b, e)` -/
def Within (b e : Nat) (f : Nat → Nat) : Prop :=
  ∀ p, (¬ (b ≤ p ∧ p < e) → f p = p) ∧ (b ≤ p → p < e → b ≤ f p ∧ f p < e)

theorem within_mono {b e b' e' : Nat} {f : Nat → Nat} (h : Within b e f) (hb : b' ≤ b) (he : e ≤ e') :
    Within b' e' f := by
  intro p
  constructor
  · intro hp; exact (h p).1 (by omega)
  · intro h1 h2
    by_cases hin : b ≤ p ∧ p < e
    · have := (h p).2 hin.1 hin.2; omega
    · rw [(h p).1 hin]; exact ⟨h1, h2⟩

theorem within_id (b e : Nat) : Within b e (fun p => p) :=
  fun _ => ⟨fun _ => rfl, fun h1 h2 => ⟨h1, h2⟩⟩

theorem within_comp {b e : Nat} {f g : Nat → Nat} (hf : Within b e f) (hg : Within b e g) :
    Within b e (fun p => f (g p)) := by
  intro p
  constructor
  · intro hp
    show f (g p) = p
    rw [(hg p).1 hp, (hf p).1 hp]
  · intro h1 h2
    have := (hg p).2 h1 h2
    exact (hf _).2 this.1 this.2

theorem stepIdx_within {neg : Bool} {m : DMatch} {b e : Nat} (hr : InRange m b e) :
    Within m.rBeg m.rEnd (stepIdx neg m) := by
  intro p
  exact ⟨fun h => stepIdx_out hr h, fun h1 h2 => stepIdx_range hr h1 h2⟩

/-- one round (the rescan of the group by `G` when nested, then the two mirrors) stays inside the match -/
theorem round_within {m : DMatch} {b e : Nat} (hr : InRange m b e) (neg : Bool) {G : Nat → Nat}
    (hG : Within (recBeg m) m.cEnd G) (q : Nat) :
    (¬ (m.rBeg ≤ q ∧ q < m.rEnd) → stepIdx neg m (if m.cRec then G q else q) = q) ∧
      (m.rBeg ≤ q → q < m.rEnd → m.rBeg ≤ stepIdx neg m (if m.cRec then G q else q) ∧
        stepIdx neg m (if m.cRec then G q else q) < m.rEnd) := by
  have hr' := hr
  unfold InRange at hr'
  have w2 : Within m.rBeg m.rEnd (fun q => if m.cRec then G q else q) := by
    by_cases hrec : m.cRec = true
    · simp only [hrec, if_true]
      exact within_mono hG (recBeg_bounds hr).2.2 (by omega)
    · simp only [hrec]
      exact within_id _ _
  exact within_comp (stepIdx_within hr) w2 q

theorem fixIdx_within {M : Matcher} {n : Nat} (hM : LawfulOn M n) : ∀ (fuel : Nat) (dir : Int) (b e : Nat), e ≤ n →
    Within b e (fixIdx M fuel dir b e) := by
  intro fuel
  induction fuel with
  | zero => intro dir b e _; exact within_id b e
  | succ f ih =>
    intro dir b e hen p
    by_cases hbe : b < e
    · obtain ⟨r, hr, hlaw⟩ := hM b e dir hbe hen
      cases r with
      | none => rw [fixIdx_none hr]; exact within_id b e p
      | some m =>
        have hin : InRange m b e := hlaw m rfl
        have hin' := hin
        unfold InRange at hin'
        rw [fixIdx_match hbe hr]
        -- the rest of the scan, then one round: each inside `[b, e)`
        have w1 := within_mono (ih dir m.rEnd e hen) (by omega : b ≤ m.rEnd) (Nat.le_refl e)
        have w2 := within_mono (round_within hin (decide (dir < 0)) (ih m.cDir (recBeg m) m.cEnd (by omega)))
          hin'.1 hin'.2.2.1
        exact within_comp w2 w1 p
    · rw [fixIdx_empty hbe]; exact within_id b e p

theorem fix_idx_on {M : Matcher} {n : Nat} (hM : LawfulOn M n) : ∀ (fuel : Nat) (ord : List Nat) (dir : Int) (b e : Nat),
    e ≤ n → e - b ≤ fuel → e ≤ ord.length →
    ∃ ord', dirFix M fuel ord dir b e = some ord' ∧ ord'.length = ord.length ∧
      ∀ p, ord'[p]? = ord[fixIdx M fuel dir b e p]? := by
  intro fuel
  induction fuel with
  | zero =>
    intro ord dir b e _ hf he
    exact ⟨ord, dirFix_empty M 0 ord dir (by omega), rfl, fun _ => rfl⟩
  | succ f ih =>
    intro ord dir b e hen hf he
    by_cases hbe : b < e
    · obtain ⟨r, hr, hlaw⟩ := hM b e dir hbe hen
      cases r with
      | none =>
        exact ⟨ord, dirFix_none hr f ord, rfl, fun p => by rw [fixIdx_none hr]⟩
      | some m =>
        have hin : InRange m b e := hlaw m rfl
        have hin' := hin
        unfold InRange at hin'
        obtain ⟨rb1, rb2, rb3⟩ := recBeg_bounds hin
        rw [fix_step M f ord dir b e m hbe hr hin he]
        have hl2 := stepRev_length (neg := decide (dir < 0)) hin he
        have s3 : ∃ o3, (if m.cRec = true then
              dirFix M f (stepRev (decide (dir < 0)) ord m) m.cDir (recBeg m) m.cEnd
            else some (stepRev (decide (dir < 0)) ord m)) = some o3 ∧ o3.length = ord.length ∧
            ∀ q, o3[q]? = ord[stepIdx (decide (dir < 0)) m
              (if m.cRec = true then fixIdx M f m.cDir (recBeg m) m.cEnd q else q)]? := by
          split
          · obtain ⟨o3, h1, h2, h3⟩ := ih (stepRev (decide (dir < 0)) ord m) m.cDir (recBeg m) m.cEnd
              (by omega) (by omega) (by omega)
            refine ⟨o3, h1, by omega, ?_⟩
            intro q; rw [h3 q, stepRev_getElem? hin he]
          · exact ⟨_, rfl, hl2, fun q => stepRev_getElem? hin he q⟩
        obtain ⟨o3, e3, n3, g3⟩ := s3
        rw [e3]
        simp only [Option.bind_some]
        obtain ⟨o4, e4, n4, g4⟩ := ih o3 dir m.rEnd e hen (by omega) (by omega)
        refine ⟨o4, e4, by omega, ?_⟩
        intro p
        rw [g4 p, g3, fixIdx_match hbe hr]
    · exact ⟨ord, dirFix_empty M _ ord dir hbe, rfl, fun p => by rw [fixIdx_empty hbe]⟩

/-- whole line, nesting allowed, any lawful matcher: `dirFix` does not trap, keeps the length, and
    the element at `p` of the result is the element at `fixIdx … p` of the input -/
theorem fix_idx {M : Matcher} (hM : Lawful M) : ∀ (fuel : Nat) (ord : List Nat) (dir : Int) (b e : Nat),
    e - b ≤ fuel → e ≤ ord.length →
    ∃ ord', dirFix M fuel ord dir b e = some ord' ∧ ord'.length = ord.length ∧
      ∀ p, ord'[p]? = ord[fixIdx M fuel dir b e p]? :=
  fun fuel ord dir b e => fix_idx_on (hM.on e) fuel ord dir b e (Nat.le_refl e)

theorem fixIdx_fuel {M : Matcher} {n : Nat} (hM : LawfulOn M n) : ∀ (f1 f2 : Nat) (dir : Int) (b e p : Nat),
    e ≤ n → e - b ≤ f1 → e - b ≤ f2 → fixIdx M f1 dir b e p = fixIdx M f2 dir b e p := by
  intro f1
  induction f1 with
  | zero => intro f2 dir b e p _ h1 _; rw [fixIdx_empty (by omega), fixIdx_empty (by omega)]
  | succ f ih =>
    intro f2 dir b e p hen h1 h2
    by_cases hbe : b < e
    · obtain ⟨g, rfl⟩ : ∃ g, f2 = g + 1 := ⟨f2 - 1, by omega⟩
      obtain ⟨r, hr, hlaw⟩ := hM b e dir hbe hen
      cases r with
      | none => rw [fixIdx_none hr, fixIdx_none hr]
      | some m =>
        have hin : InRange m b e := hlaw m rfl
        have hin' := hin
        unfold InRange at hin'
        obtain ⟨rb1, rb2, rb3⟩ := recBeg_bounds hin
        rw [fixIdx_match hbe hr, fixIdx_match hbe hr, ih g dir m.rEnd e p hen (by omega) (by omega)]
        cases m.cRec with
        | false => rfl
        | true => simp only [if_true, ih g m.cDir (recBeg m) m.cEnd _ (by omega) (by omega) (by omega)]
    · rw [fixIdx_empty hbe, fixIdx_empty hbe]

theorem fixIdx_scan {M : Matcher} {n : Nat} (hM : LawfulOn M n) {dir : Int} {e b : Nat} {ms : List DMatch}
    (hen : e ≤ n) (hs : Scan M dir e b ms) : ∀ (fuel : Nat), e - b ≤ fuel → ∀ p,
      (∀ m ∈ ms, m.rBeg ≤ p → p < m.rEnd →
        fixIdx M fuel dir b e p = stepIdx (decide (dir < 0)) m
          (if m.cRec then fixIdx M fuel m.cDir (recBeg m) m.cEnd p else p)) ∧
      ((∀ m ∈ ms, ¬ (m.rBeg ≤ p ∧ p < m.rEnd)) → fixIdx M fuel dir b e p = p) := by
  induction hs with
  | @done b hbe =>
    intro fuel _ p
    exact ⟨fun m hm => (by cases hm), fun _ => fixIdx_empty hbe fuel p⟩
  | @stop b hbe hm =>
    intro fuel hf p
    exact ⟨fun m hm => (by cases hm), fun _ => fixIdx_none hm fuel p⟩
  | @next b m ms hbe hm hs' ih =>
    intro fuel hf p
    obtain ⟨r, hr, hlaw⟩ := hM b e dir hbe hen
    rw [hm] at hr; cases hr
    have hin : InRange m b e := hlaw m rfl
    have hin' := hin
    unfold InRange at hin'
    have hc := scan_chained hM hen hs'
    cases fuel with
    | zero => omega
    | succ f =>
      have hrest := fixIdx_within hM f dir m.rEnd e hen p
      have ihp := ih f (by omega) p
      have hround := round_within hin (decide (dir < 0)) (fixIdx_within hM f m.cDir (recBeg m) m.cEnd (by omega))
      have hfu : ∀ (m' : DMatch), InRange m' b e → ∀ q,
          fixIdx M f m'.cDir (recBeg m') m'.cEnd q = fixIdx M (f + 1) m'.cDir (recBeg m') m'.cEnd q := by
        intro m' hr' q
        have := recBeg_bounds hr'
        unfold InRange at hr'
        exact fixIdx_fuel hM f (f + 1) m'.cDir (recBeg m') m'.cEnd q (by omega) (by omega) (by omega)
      rw [fixIdx_match hbe hm]
      constructor
      · intro m' hm' h1 h2
        rcases List.mem_cons.mp hm' with rfl | hm''
        · -- `p` in the first match: the rest of the scan does not move it
          rw [hrest.1 (by omega)]
          simp only [hfu m' hin]
        · -- `p` in a later match: the first round does not move where it comes from
          have hr0 := chained_mem hc m' hm''
          have hr' := hr0
          unfold InRange at hr'
          have hw := hrest.2 (by omega) (by omega)
          rw [(hround _).1 (by omega), ihp.1 m' hm'' h1 h2]
          simp only [hfu m' (by unfold InRange; omega)]
      · intro hp
        rw [ihp.2 (fun m' hm' => hp m' (List.mem_cons_of_mem _ hm')), (hround p).1 (hp m List.mem_cons_self)]

theorem fix_frame_on {M : Matcher} {n : Nat} (hM : LawfulOn M n) (fuel : Nat) (ord : List Nat) (dir : Int)
    (b e : Nat) (hn : e ≤ n) (hf : e - b ≤ fuel) (he : e ≤ ord.length) :
    ∃ ord', dirFix M fuel ord dir b e = some ord' ∧ ord'.length = ord.length ∧
      ord'.take b = ord.take b ∧ ord'.drop e = ord.drop e := by
  obtain ⟨ord', h, hl, hg⟩ := fix_idx_on hM fuel ord dir b e hn hf he
  have hout : ∀ p, ¬ (b ≤ p ∧ p < e) → ord'[p]? = ord[p]? := fun p hp => by
    rw [hg p, (fixIdx_within hM fuel dir b e hn p).1 hp]
  refine ⟨ord', h, hl, List.ext_getElem? fun p => ?_, List.ext_getElem? fun p => ?_⟩
  · rw [List.getElem?_take, List.getElem?_take]
    split
    · exact hout p (by omega)
    · rfl
  · rw [List.getElem?_drop, List.getElem?_drop]
    exact hout (e + p) (by omega)

theorem fix_nested_pos_on {M : Matcher} {n : Nat} (hM : LawfulOn M n) {dir : Int} {e b : Nat}
    {ms : List DMatch} (hn : e ≤ n) (hs : Scan M dir e b ms) (fuel : Nat) (ord : List Nat)
    (he : e ≤ ord.length) (hf : e - b ≤ fuel) :
    ∃ ord', dirFix M fuel ord dir b e = some ord' ∧ ord'.length = ord.length ∧
      (∀ m ∈ ms, ∀ p, m.rBeg ≤ p → p < m.rEnd →
        ord'[p]? = ord[stepIdx (decide (dir < 0)) m
          (if m.cRec then fixIdx M fuel m.cDir (recBeg m) m.cEnd p else p)]?) ∧
      (∀ p, (∀ m ∈ ms, ¬ (m.rBeg ≤ p ∧ p < m.rEnd)) → ord'[p]? = ord[p]?) := by
  obtain ⟨ord', h1, h2, h3⟩ := fix_idx_on hM fuel ord dir b e hn hf he
  refine ⟨ord', h1, h2, ?_, ?_⟩
  · intro m hm p hp1 hp2
    rw [h3 p, (fixIdx_scan hM hn hs fuel hf p).1 m hm hp1 hp2]
  · intro p hp
    rw [h3 p, (fixIdx_scan hM hn hs fuel hf p).2 hp]

end Neatvi.Props.C18b
