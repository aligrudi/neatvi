import NeatviVerif.Lemmas.C18Fix
/-!
# C18b helpers: slice reversal as a total function and its position-wise description
-/
namespace Neatvi.Props.C18b
open Neatvi Neatvi.Dir

/-- total version of `dirReverse` (the value it returns whenever it does not trap) -/
def revSlice (ord : List Nat) (b e : Nat) : List Nat :=
  if b < e then ord.take b ++ ((ord.drop b).take (e - b)).reverse ++ ord.drop e else ord

/-- position `p` mirrored inside `[b, e)`; positions outside stay -/
def mirror (b e p : Nat) : Nat := if b ≤ p ∧ p < e then b + e - 1 - p else p

theorem mirror_in {b e p : Nat} (h1 : b ≤ p) (h2 : p < e) : mirror b e p = b + e - 1 - p := by
  unfold mirror; rw [if_pos ⟨h1, h2⟩]

theorem mirror_out {b e p : Nat} (h : ¬ (b ≤ p ∧ p < e)) : mirror b e p = p := by
  unfold mirror; rw [if_neg h]

theorem mirror_range {b e p : Nat} (h1 : b ≤ p) (h2 : p < e) : b ≤ mirror b e p ∧ mirror b e p < e := by
  rw [mirror_in h1 h2]; omega

theorem mirror_mirror (b e p : Nat) : mirror b e (mirror b e p) = p := by
  unfold mirror
  by_cases h : b ≤ p ∧ p < e
  · rw [if_pos h, if_pos (by omega)]; omega
  · rw [if_neg h, if_neg h]

theorem dirReverse_eq {ord : List Nat} {b e : Nat} (h : e ≤ ord.length ∨ e ≤ b) :
    dirReverse ord b e = some (revSlice ord b e) := by
  unfold dirReverse revSlice
  by_cases hbe : b < e
  · rw [if_pos hbe, if_pos hbe, if_pos (by omega)]
  · rw [if_neg hbe, if_neg hbe]

theorem revSlice_length {ord : List Nat} {b e : Nat} (h : e ≤ ord.length) :
    (revSlice ord b e).length = ord.length := by
  unfold revSlice
  split
  · simp only [List.length_append, List.length_take, List.length_reverse, List.length_drop]
    omega
  · rfl

theorem revSlice_getElem? {ord : List Nat} {b e : Nat} (h : e ≤ ord.length) (p : Nat) :
    (revSlice ord b e)[p]? = ord[mirror b e p]? := by
  unfold revSlice
  by_cases hbe : b < e
  · have hl : (ord.take b).length = b := by rw [List.length_take]; omega
    have hm : ((ord.drop b).take (e - b)).length = e - b := by
      rw [List.length_take, List.length_drop]; omega
    have hlm : (ord.take b ++ ((ord.drop b).take (e - b)).reverse).length = e := by
      rw [List.length_append, List.length_reverse, hl, hm]; omega
    rw [if_pos hbe]
    by_cases h1 : p < b
    · rw [mirror_out (by omega), List.append_assoc, List.getElem?_append_left (by omega),
        List.getElem?_take_of_lt h1]
    · by_cases h2 : p < e
      · rw [mirror_in (by omega) h2, List.getElem?_append_left (by omega),
          List.getElem?_append_right (by omega), hl, List.getElem?_reverse (by omega), hm,
          List.getElem?_take_of_lt (by omega), List.getElem?_drop]
        congr 1; omega
      · rw [mirror_out (by omega), List.getElem?_append_right (by omega), List.getElem?_drop, hlm]
        congr 1; omega
  · rw [if_neg hbe, mirror_out (by omega)]

end Neatvi.Props.C18b
