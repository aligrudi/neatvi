import NeatviVerif.Lemmas.C18bRev
/-!
# C18b helpers: the list of matches of a scan, one round as a total function, the index map
-/
namespace Neatvi.Props.C18b
open Neatvi Neatvi.Dir
open Neatvi.Props.C18c (LawfulOn)

/-! ### definitions -/

def revSliceIf (c : Bool) (ord : List Nat) (b e : Nat) : List Nat := if c then revSlice ord b e else ord
def mirrorIf (c : Bool) (b e p : Nat) : Nat := if c then mirror b e p else p

/-- the two conditional reversals of one round of `dir_fix` (`neg` = the context is right-to-left):
    the match range if `neg`, then the group if its direction is right-to-left -/
def stepRev (neg : Bool) (ord : List Nat) (m : DMatch) : List Nat :=
  revSliceIf (decide (m.cDir < 0)) (revSliceIf neg ord m.rBeg m.rEnd) m.cBeg m.cEnd

/-- where the element at position `p` after `stepRev` comes from -/
def stepIdx (neg : Bool) (m : DMatch) (p : Nat) : Nat :=
  mirrorIf neg m.rBeg m.rEnd (mirrorIf (decide (m.cDir < 0)) m.cBeg m.cEnd p)

/-- all rounds of a scan without nesting -/
def applyRuns (neg : Bool) : List Nat → List DMatch → List Nat
  | ord, [] => ord
  | ord, m :: ms => applyRuns neg (stepRev neg ord m) ms

/-- where the element at position `p` after `applyRuns` comes from -/
def runIdx (neg : Bool) : List DMatch → Nat → Nat
  | [], p => p
  | m :: ms, p => if m.rBeg ≤ p ∧ p < m.rEnd then stepIdx neg m p else runIdx neg ms p

/-- the spans of `m` lie inside the searched slice `[b, e)` (the conclusion of `Lawful`) -/
def InRange (m : DMatch) (b e : Nat) : Prop :=
  b ≤ m.rBeg ∧ m.rBeg < m.rEnd ∧ m.rEnd ≤ e ∧ m.rBeg ≤ m.cBeg ∧ m.cBeg ≤ m.cEnd ∧ m.cEnd ≤ m.rEnd

/-- successive matches: each inside the slice that starts at the end of the previous one -/
def Chained (e : Nat) : Nat → List DMatch → Prop
  | _, [] => True
  | b, m :: ms => InRange m b e ∧ Chained e m.rEnd ms

/-- the successive top-level matches of the scan of `[b, e)` in context `dir`:
    `M b e dir = m₁`, `M m₁.rEnd e dir = m₂`, … until no match or the slice is exhausted -/
inductive Scan (M : Matcher) (dir : Int) (e : Nat) : Nat → List DMatch → Prop
  | done {b : Nat} : ¬ b < e → Scan M dir e b []
  | stop {b : Nat} : b < e → M b e dir = some none → Scan M dir e b []
  | next {b : Nat} {m : DMatch} {ms : List DMatch} : b < e → M b e dir = some (some m) →
      Scan M dir e m.rEnd ms → Scan M dir e b (m :: ms)

/-- the same as a function (`none` = trap or out of fuel) -/
def matchesFrom (M : Matcher) (dir : Int) : (fuel : Nat) → Nat → Nat → Option (List DMatch)
  | 0, b, e => if b < e then none else some []
  | fuel + 1, b, e =>
    if b < e then
      match M b e dir with
      | none => none
      | some none => some []
      | some (some m) => (matchesFrom M dir fuel m.rEnd e).map (m :: ·)
    else some []

/-! ### scans -/

theorem scan_of_matchesFrom (M : Matcher) (dir : Int) : ∀ (fuel b e : Nat) (ms : List DMatch),
    matchesFrom M dir fuel b e = some ms → Scan M dir e b ms := by
  intro fuel
  induction fuel with
  | zero =>
    intro b e ms h
    simp only [matchesFrom] at h
    split at h
    · cases h
    · next hbe => cases h; exact Scan.done hbe
  | succ f ih =>
    intro b e ms h
    simp only [matchesFrom] at h
    split at h
    · next hbe =>
      split at h
      · cases h
      · next hm => cases h; exact Scan.stop hbe hm
      · next m hm =>
        cases h1 : matchesFrom M dir f m.rEnd e with
        | none => rw [h1] at h; cases h
        | some ms' =>
          rw [h1] at h; cases h
          exact Scan.next hbe hm (ih _ _ _ h1)
    · next hbe => cases h; exact Scan.done hbe

theorem scan_unique {M : Matcher} {dir : Int} {e b : Nat} {ms ms' : List DMatch}
    (h : Scan M dir e b ms) (h' : Scan M dir e b ms') : ms = ms' := by
  induction h generalizing ms' with
  | done hbe =>
    cases h' with
    | done _ => rfl
    | stop h1 _ => exact absurd h1 hbe
    | next h1 _ _ => exact absurd h1 hbe
  | stop hbe hm =>
    cases h' with
    | done h1 => exact absurd hbe h1
    | stop _ _ => rfl
    | next _ h2 _ => rw [hm] at h2; cases h2
  | next hbe hm _ ih =>
    cases h' with
    | done h1 => exact absurd hbe h1
    | stop _ h2 => rw [hm] at h2; cases h2
    | next _ h2 h3 =>
      rw [hm] at h2; cases h2
      rw [ih h3]

theorem scan_chained {M : Matcher} {n : Nat} (hM : LawfulOn M n) {dir : Int} {e b : Nat} {ms : List DMatch}
    (he : e ≤ n) (h : Scan M dir e b ms) : Chained e b ms := by
  induction h with
  | done _ => trivial
  | stop _ _ => trivial
  | next hbe hm _ ih =>
    obtain ⟨r, hr, hlaw⟩ := hM _ _ dir hbe he
    rw [hm] at hr; cases hr
    exact ⟨hlaw _ rfl, ih⟩

theorem matchesFrom_total {M : Matcher} {n : Nat} (hM : LawfulOn M n) (dir : Int) : ∀ (fuel b e : Nat),
    e ≤ n → e - b ≤ fuel → ∃ ms, matchesFrom M dir fuel b e = some ms := by
  intro fuel
  induction fuel with
  | zero =>
    intro b e _ hf
    simp only [matchesFrom]
    rw [if_neg (by omega)]; exact ⟨_, rfl⟩
  | succ f ih =>
    intro b e hen hf
    simp only [matchesFrom]
    by_cases hbe : b < e
    · rw [if_pos hbe]
      obtain ⟨r, hr, hlaw⟩ := hM b e dir hbe hen
      rw [hr]
      cases r with
      | none => exact ⟨_, rfl⟩
      | some m =>
        obtain ⟨l1, l2, l3, _⟩ := hlaw m rfl
        obtain ⟨ms, hms⟩ := ih m.rEnd e hen (by omega)
        exact ⟨m :: ms, by simp [hms]⟩
    · rw [if_neg hbe]; exact ⟨_, rfl⟩

theorem chained_mono {e : Nat} : ∀ {ms : List DMatch} {b b' : Nat}, b' ≤ b → Chained e b ms → Chained e b' ms
  | [], _, _, _, _ => trivial
  | _ :: _, _, _, hb, ⟨⟨h1, h2⟩, h3⟩ => ⟨⟨Nat.le_trans hb h1, h2⟩, h3⟩

theorem chained_mem {e : Nat} : ∀ {ms : List DMatch} {b : Nat}, Chained e b ms → ∀ m ∈ ms, InRange m b e
  | [], _, _, _, hm => by cases hm
  | m0 :: ms, b, ⟨h0, h1⟩, m, hm => by
    rcases List.mem_cons.mp hm with rfl | hm'
    · exact h0
    · have := chained_mem h1 m hm'
      unfold InRange at this h0 ⊢
      omega

/-- the match ranges (hence the groups) are pairwise disjoint and increasing -/
theorem chained_pairwise {e : Nat} : ∀ {ms : List DMatch} {b : Nat}, Chained e b ms →
    ms.Pairwise (fun m m' => m.rEnd ≤ m'.rBeg)
  | [], _, _ => List.Pairwise.nil
  | m0 :: ms, _, ⟨_, h1⟩ => by
    refine List.Pairwise.cons ?_ (chained_pairwise h1)
    intro m hm
    exact (chained_mem h1 m hm).1

/-! ### one round -/

theorem revIf_eq {c : Bool} {ord : List Nat} {b e : Nat} (h : e ≤ ord.length) :
    revIf c ord b e = some (revSliceIf c ord b e) := by
  unfold revIf revSliceIf
  cases c
  · rfl
  · simp only [if_true]; exact dirReverse_eq (Or.inl h)

theorem revSliceIf_length {c : Bool} {ord : List Nat} {b e : Nat} (h : e ≤ ord.length) :
    (revSliceIf c ord b e).length = ord.length := by
  unfold revSliceIf
  cases c
  · rfl
  · exact revSlice_length h

theorem revSliceIf_getElem? {c : Bool} {ord : List Nat} {b e : Nat} (h : e ≤ ord.length) (p : Nat) :
    (revSliceIf c ord b e)[p]? = ord[mirrorIf c b e p]? := by
  unfold revSliceIf mirrorIf
  cases c
  · rfl
  · exact revSlice_getElem? h p

theorem stepRev_length {neg : Bool} {ord : List Nat} {m : DMatch} {b e : Nat} (hr : InRange m b e)
    (he : e ≤ ord.length) : (stepRev neg ord m).length = ord.length := by
  unfold InRange at hr
  unfold stepRev
  rw [revSliceIf_length (by rw [revSliceIf_length (by omega)]; omega), revSliceIf_length (by omega)]

theorem stepRev_getElem? {neg : Bool} {ord : List Nat} {m : DMatch} {b e : Nat} (hr : InRange m b e)
    (he : e ≤ ord.length) (p : Nat) : (stepRev neg ord m)[p]? = ord[stepIdx neg m p]? := by
  unfold InRange at hr
  unfold stepRev stepIdx
  rw [revSliceIf_getElem? (by rw [revSliceIf_length (by omega)]; omega), revSliceIf_getElem? (by omega)]

/-- the non-recursive part of a round of `dirFix` never traps for an in-range match -/
theorem round_eq {dir : Int} {ord : List Nat} {m : DMatch} {b e : Nat} (hr : InRange m b e)
    (he : e ≤ ord.length) :
    ((revIf (decide (dir < 0)) ord m.rBeg m.rEnd).bind fun o1 =>
      revIf (decide (m.cDir < 0)) o1 m.cBeg m.cEnd) = some (stepRev (decide (dir < 0)) ord m) := by
  unfold InRange at hr
  rw [revIf_eq (by omega)]
  simp only [Option.bind_some]
  rw [revIf_eq (by rw [revSliceIf_length (by omega)]; omega)]
  rfl

theorem mirrorIf_range {c : Bool} {b e p : Nat} (h1 : b ≤ p) (h2 : p < e) :
    b ≤ mirrorIf c b e p ∧ mirrorIf c b e p < e := by
  unfold mirrorIf
  cases c
  · exact ⟨h1, h2⟩
  · exact mirror_range h1 h2

theorem mirrorIf_out {c : Bool} {b e p : Nat} (h : ¬ (b ≤ p ∧ p < e)) : mirrorIf c b e p = p := by
  unfold mirrorIf
  cases c
  · rfl
  · exact mirror_out h

theorem stepIdx_out {neg : Bool} {m : DMatch} {b e : Nat} (hr : InRange m b e) {p : Nat}
    (h : ¬ (m.rBeg ≤ p ∧ p < m.rEnd)) : stepIdx neg m p = p := by
  unfold InRange at hr
  unfold stepIdx
  rw [mirrorIf_out (c := decide (m.cDir < 0)) (b := m.cBeg) (e := m.cEnd) (p := p) (by omega), mirrorIf_out h]

theorem stepIdx_range {neg : Bool} {m : DMatch} {b e : Nat} (hr : InRange m b e) {p : Nat}
    (h1 : m.rBeg ≤ p) (h2 : p < m.rEnd) : m.rBeg ≤ stepIdx neg m p ∧ stepIdx neg m p < m.rEnd := by
  unfold InRange at hr
  unfold stepIdx
  have hq : m.rBeg ≤ mirrorIf (decide (m.cDir < 0)) m.cBeg m.cEnd p ∧
      mirrorIf (decide (m.cDir < 0)) m.cBeg m.cEnd p < m.rEnd := by
    by_cases hc : m.cBeg ≤ p ∧ p < m.cEnd
    · have := mirrorIf_range (c := decide (m.cDir < 0)) hc.1 hc.2
      omega
    · rw [mirrorIf_out hc]; exact ⟨h1, h2⟩
  exact mirrorIf_range hq.1 hq.2

/-! ### the index map of a chain -/

theorem runIdx_lt {neg : Bool} {e : Nat} : ∀ {ms : List DMatch} {b : Nat}, Chained e b ms →
    ∀ {p : Nat}, p < b → runIdx neg ms p = p
  | [], _, _, _, _ => rfl
  | m :: ms, b, ⟨h0, h1⟩, p, hp => by
    unfold InRange at h0
    simp only [runIdx]
    rw [if_neg (by omega)]
    exact runIdx_lt h1 (by omega)

theorem runIdx_ge {neg : Bool} {e : Nat} : ∀ {ms : List DMatch} {b : Nat}, Chained e b ms →
    ∀ {p : Nat}, b ≤ p → b ≤ runIdx neg ms p
  | [], _, _, _, hp => hp
  | m :: ms, b, ⟨h0, h1⟩, p, hp => by
    simp only [runIdx]
    split
    · next hin =>
      have := stepIdx_range (neg := neg) h0 hin.1 hin.2
      unfold InRange at h0; omega
    · next hout =>
      by_cases hp2 : p < m.rEnd
      · rw [runIdx_lt h1 hp2]; exact hp
      · have := runIdx_ge (neg := neg) h1 (p := p) (by omega)
        unfold InRange at h0; omega

theorem runIdx_mem {neg : Bool} {e : Nat} : ∀ {ms : List DMatch} {b : Nat}, Chained e b ms →
    ∀ m ∈ ms, ∀ {p : Nat}, m.rBeg ≤ p → p < m.rEnd → runIdx neg ms p = stepIdx neg m p
  | [], _, _, _, hm, _, _, _ => by cases hm
  | m0 :: ms, b, ⟨h0, h1⟩, m, hm, p, hp1, hp2 => by
    simp only [runIdx]
    rcases List.mem_cons.mp hm with rfl | hm'
    · rw [if_pos ⟨hp1, hp2⟩]
    · have hr := chained_mem h1 m hm'
      unfold InRange at hr
      rw [if_neg (by omega)]
      exact runIdx_mem h1 m hm' hp1 hp2

theorem runIdx_not_mem {neg : Bool} : ∀ {ms : List DMatch} {p : Nat},
    (∀ m ∈ ms, ¬ (m.rBeg ≤ p ∧ p < m.rEnd)) → runIdx neg ms p = p
  | [], _, _ => rfl
  | m0 :: ms, p, h => by
    simp only [runIdx]
    rw [if_neg (h m0 List.mem_cons_self)]
    exact runIdx_not_mem (fun m hm => h m (List.mem_cons_of_mem _ hm))

theorem applyRuns_length {neg : Bool} {e : Nat} : ∀ {ms : List DMatch} {b : Nat} {ord : List Nat},
    Chained e b ms → e ≤ ord.length → (applyRuns neg ord ms).length = ord.length
  | [], _, _, _, _ => rfl
  | m :: ms, b, ord, ⟨h0, h1⟩, he => by
    simp only [applyRuns]
    rw [applyRuns_length h1 (by rw [stepRev_length h0 he]; exact he), stepRev_length h0 he]

theorem applyRuns_getElem? {neg : Bool} {e : Nat} : ∀ {ms : List DMatch} {b : Nat} {ord : List Nat},
    Chained e b ms → e ≤ ord.length → ∀ p, (applyRuns neg ord ms)[p]? = ord[runIdx neg ms p]?
  | [], _, _, _, _, _ => rfl
  | m :: ms, b, ord, ⟨h0, h1⟩, he, p => by
    simp only [applyRuns, runIdx]
    rw [applyRuns_getElem? h1 (by rw [stepRev_length h0 he]; exact he), stepRev_getElem? h0 he]
    by_cases hp : p < m.rEnd
    · rw [runIdx_lt h1 hp]
      split
      · rfl
      · next hout => rw [stepIdx_out h0 hout]
    · have hge := runIdx_ge (neg := neg) h1 (p := p) (by omega)
      rw [if_neg (by omega), stepIdx_out h0 (by omega)]

end Neatvi.Props.C18b
