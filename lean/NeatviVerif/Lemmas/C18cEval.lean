import NeatviVerif.Model.Vi
import NeatviVerif.Lemmas.C10Eval
import NeatviVerif.Lemmas.C18cParse
import NeatviVerif.Lemmas.C12Exec
/-!
# C18c helpers: `Vi.dirOracle` through `rset_make` / `rset_find`, and a kernel-computable `rset_find`

`Vi.dirOracle` is `rset_find` on three sets that `rset_make` builds from the tables of `conf.h`
(`dirSets_eq_some`, `dirOracle_eq`).  `Regex.regexec` runs the VM, which is defined by well-founded
recursion; `Lemmas.C10.regexecF` is its fuel-bounded copy with `regexecF_sound`.  `makeFindF pats` is
`rset_find` over `regexecF` on the set made from `pats`, so that `decide +kernel` can run one of the
editor's sets on a concrete subject (`makeFindF_sound`).  The combined pattern is compiled through
`parseW` (Lemmas/C18cParse.lean); `compiles pats` says that it compiles (`make_of_compiles`).
-/
namespace Neatvi.Props.C18c
open Neatvi Neatvi.Regex Neatvi.Rset Neatvi.Lemmas.C10

/-- what `rset_find` does with the result of `regexec` -/
def findPost (rs : RSet) (n : Nat) (r : ExecRes × List (Int × Int)) : Option (Int × List Int × Nat) :=
  match r with
  | (ExecRes.trap, _) => none
  | (ExecRes.nomatch c, _) => some (-1, [], c)
  | (ExecRes.found _ c, subs) =>
    let set : Int := (List.range rs.n).foldl (fun (acc : Int) i =>
      let g := rs.grp.getD i (-1)
      if g ≥ 0 && (subs.getD g.toNat (-1, -1)).1 ≥ 0 then (i : Int) else acc) (-1)
    if set < 0 then some (-1, [], c) else
    let base := (rs.grp.getD set.toNat 0).toNat
    let cnt := rs.setgrpcnt.getD set.toNat 0
    let out := (List.range n).flatMap (fun i =>
      if i < cnt + 1 then let so := subs.getD (base + i) (-1, -1); [so.1, so.2] else [-1, -1])
    some (set, out, c)

theorem find_eq (rs : RSet) (s : Bytes) (n flg nd ngrps : Nat) :
    Rset.find rs s n flg nd ngrps =
      if rs.grpcnt ≤ 2 then some (-1, [], 0)
      else findPost rs n (regexec rs.prog s rs.grpcnt (C12.findFlags flg) nd ngrps) := by
  rfl

/-- `rset_find` over the fuel-bounded VM; the outer `none` = out of fuel -/
def findF (fuel : Nat) (rs : RSet) (s : Bytes) (n flg nd ngrps : Nat) : Option (Option (Int × List Int × Nat)) :=
  if rs.grpcnt ≤ 2 then some (some (-1, [], 0))
  else (regexecF fuel rs.prog s rs.grpcnt (C12.findFlags flg) nd ngrps).map (findPost rs n)

theorem findF_sound {fuel : Nat} {rs : RSet} {s : Bytes} {n flg nd ngrps : Nat}
    {r : Option (Int × List Int × Nat)} (h : findF fuel rs s n flg nd ngrps = some r) :
    Rset.find rs s n flg nd ngrps = r := by
  rw [find_eq]
  unfold findF at h
  by_cases hc : rs.grpcnt ≤ 2
  · rw [if_pos hc] at h ⊢
    exact Option.some.inj h
  · rw [if_neg hc] at h ⊢
    obtain ⟨x, hx, rfl⟩ := Option.map_eq_some_iff.mp h
    rw [regexecF_sound hx]

/-- `rset_find` over the fuel-bounded VM on the set `rset_make(.., 0)` builds from `pats`; the outer
    `none` = no set or out of fuel -/
def makeFindF (fuel : Nat) (pats : List (Option Bytes)) (s : Bytes) (n flg : Nat) :
    Option (Option (Int × List Int × Nat)) :=
  match compOf (parseW (combined pats)) 1 with
  | some (some p) => findF fuel (C12.setOf pats p) s n flg Gen.NDEPT Gen.NGRPS
  | _ => none

theorem makeFindF_sound {fuel : Nat} {pats : List (Option Bytes)} {rs : RSet} {s : Bytes} {n flg : Nat}
    {r : Option (Int × List Int × Nat)} (hm : Rset.make pats 0 = some (some rs))
    (h : makeFindF fuel pats s n flg = some r) : Rset.find rs s n flg Gen.NDEPT Gen.NGRPS = r := by
  obtain ⟨hp, hrs⟩ := C12.make_some hm
  have hp' : compOf (parseW (combined pats)) 1 = some (some rs.prog) := regcomp_eq _ _ ▸ hp
  unfold makeFindF at h
  rw [hp'] at h
  rw [hrs]
  exact findF_sound h

/-- the combined pattern of `pats` compiles -/
def compiles (pats : List (Option Bytes)) : Bool := (compOf (parseW (combined pats)) 1).join.isSome

theorem make_of_compiles {pats : List (Option Bytes)} (h : compiles pats = true) :
    ∃ rs, Rset.make pats 0 = some (some rs) := by
  obtain ⟨p, hp⟩ := Option.isSome_iff_exists.mp h
  refine ⟨C12.setOf pats p, ?_⟩
  rw [C12.make_eq]
  show (regcomp (combined pats) 1).map _ = _
  rw [regcomp_eq, Option.join_eq_some_iff.mp hp]
  rfl

/-! ### the three sets of `dir_init` -/

def lrPats : List (Option Bytes) := Gen.dirmarks.map (fun m => if m.1 ≥ 0 then some m.2.2.2 else none)
def rlPats : List (Option Bytes) := Gen.dirmarks.map (fun m => if m.1 ≤ 0 then some m.2.2.2 else none)
def cxPats : List (Option Bytes) := Gen.dircontexts.map (fun m => some m.2)

/-- `Vi.dirSets` for any three pattern lists.  It is written with the matcher of `Vi.dirSets` itself: the
    kernel compares a constant with a `match` by evaluating the discriminants (here: compiling the three
    sets) unless both sides unfold to the same term at once. -/
def setsOf (lr rl cx : List (Option Bytes)) : Option (RSet × RSet × RSet) :=
  Vi.dirSets.match_1 (fun _ _ _ => Option (RSet × RSet × RSet)) (Rset.make lr 0) (Rset.make rl 0)
    (Rset.make cx 0) (fun a b c => some (a, b, c)) (fun _ _ _ => none)

theorem setsOf_eq_some {lr rl cx : List (Option Bytes)} {a b c : RSet} : setsOf lr rl cx = some (a, b, c) ↔
    Rset.make lr 0 = some (some a) ∧ Rset.make rl 0 = some (some b) ∧ Rset.make cx 0 = some (some c) := by
  unfold setsOf
  constructor
  · intro h
    split at h
    · next ha hb hc => cases h; exact ⟨ha, hb, hc⟩
    · cases h
  · rintro ⟨ha, hb, hc⟩
    rw [ha, hb, hc]

attribute [local irreducible] Rset.make in
theorem dirSets_eq_some {a b c : RSet} : Vi.dirSets = some (a, b, c) ↔
    Rset.make lrPats 0 = some (some a) ∧ Rset.make rlPats 0 = some (some b) ∧
      Rset.make cxPats 0 = some (some c) := by
  -- for the lists as `Vi.dirSets` spells them, for the same reason
  have e : Vi.dirSets = setsOf _ _ _ := rfl
  rw [e]
  exact setsOf_eq_some

theorem dirOracle_eq {a b c : RSet} (hd : Vi.dirSets = some (a, b, c)) (which : Nat) (s : Bytes) (flg : Nat) :
    Vi.dirOracle which s flg =
      match Rset.find (if which == 0 then a else if which == 1 then b else c) s
          (if which == 2 then 0 else 16) flg Gen.NDEPT Gen.NGRPS with
      | some (set, grps, _) => if set < 0 then none else some (set.toNat, grps)
      | none => none := by
  -- unfolded as a function: applied to its arguments it is a `match` on `Vi.dirSets`, which the kernel
  -- would evaluate
  generalize hF : Vi.dirOracle = F
  delta Vi.dirOracle at hF
  subst hF
  rw [hd]
  rfl

/-- for a concrete `which`: `hrs` and `hn` hold by `rfl` -/
theorem dirOracle_of_find {a b c : RSet} (hd : Vi.dirSets = some (a, b, c)) {which n flg : Nat} {s : Bytes}
    {rs : RSet} {set : Int} {out : List Int} {cuts : Nat}
    (hf : Rset.find rs s n flg Gen.NDEPT Gen.NGRPS = some (set, out, cuts))
    (hrs : (if which == 0 then a else if which == 1 then b else c) = rs)
    (hn : (if which == 2 then 0 else 16) = n) :
    Vi.dirOracle which s flg = if set < 0 then none else some (set.toNat, out) := by
  subst hrs hn
  rw [dirOracle_eq hd, hf]

end Neatvi.Props.C18c
