import NeatviVerif.Lemmas.C18cParse
import NeatviVerif.Lemmas.C18cNested
import NeatviVerif.Lemmas.C05eR6
/-!
# C18c helpers: the offsets `rset_find` hands out are ordered like nested groups

For a set made from patterns `pats` whose combined tree `((p0)|(p1)|…)` passes the computable check
`setCheck` (the top-level alternatives are groups taken once, none writes the marks of another, and
the group table of `rset_make` points at them): `find_nested`.
-/
namespace Neatvi.Props.C18c
open Neatvi Neatvi.Regex Neatvi.Rset Neatvi.Props.C10

/-- the numbered tree of the combined pattern (through `parseW`: this is what the kernel evaluates) -/
def setTree (pats : List (Option Bytes)) : RNode :=
  (grpnum (((parseW (combined pats)).getD none).getD RNode.nul) 1).1

/-- the top-level alternatives are groups taken once, numbered ≥ 2 and below `ngrps / 2`, none writes
    the marks of another one, and every entry of the group table of `rset_make` is one of them -/
def setCheck (ngrps : Nat) (pats : List (Option Bytes)) : Bool :=
  match topGroups (setTree pats) with
  | none => false
  | some l =>
    altsOk ngrps l && decide ((C12.tables pats).1.length = pats.length) &&
      (C12.tables pats).1.all (fun g => decide (g < 0) || (l.map Prod.fst).contains g.toNat)

/-- no top-level alternative can match the empty string -/
def setConsumes (pats : List (Option Bytes)) : Bool :=
  match topGroups (setTree pats) with
  | none => false
  | some l => l.all (fun x => consumes x.2)

/-- **the offsets of `rset_find` are ordered like nested groups**: `out[0] ≤ out[1]`, every offset is
    unset or inside `[out[0], out[1]]`, no group pair is inverted; and `out[0] < out[1]` when no
    pattern of the set can match the empty string -/
theorem find_nested {pats : List (Option Bytes)} {flg0 : Nat} {rs : RSet}
    (hmk : Rset.make pats flg0 = some (some rs)) {ngrps : Nat} (hev : ngrps % 2 = 0) (hng : 1 < ngrps)
    (hchk : setCheck ngrps pats = true) {str : Bytes} {n flg nd : Nat} (hn : 0 < n) {set : Int}
    {out : List Int} {c : Nat} (h : Rset.find rs str n flg nd ngrps = some (set, out, c)) (hset : 0 ≤ set) :
    out.getD 0 (-1) ≤ out.getD 1 (-1) ∧
    (∀ k, out.getD k (-1) < 0 ∨ (out.getD 0 (-1) ≤ out.getD k (-1) ∧ out.getD k (-1) ≤ out.getD 1 (-1))) ∧
    (∀ g, 0 ≤ out.getD (g * 2) (-1) → 0 ≤ out.getD (g * 2 + 1) (-1) →
      out.getD (g * 2) (-1) ≤ out.getD (g * 2 + 1) (-1)) ∧
    (setConsumes pats = true → out.getD 0 (-1) < out.getD 1 (-1)) := by
  obtain ⟨rflg, m, c', offs, B, hex, hlt, hgB, hso, hp0, hpairs⟩ := find_pairs rs str n flg nd ngrps set out c h hset
  obtain ⟨hcomp, hrs⟩ := C12.make_some hmk
  have hrn : rs.n = pats.length := congrArg RSet.n hrs
  have hgrp : rs.grp = (C12.tables pats).1 ++ [((C12.tables pats).2.2 : Int)] := congrArg RSet.grp hrs
  obtain ⟨t0, s, p, m1, hparse, hM, hm, _⟩ :=
    regexec_sound hcomp str rs.grpcnt rflg nd ngrps hng m c' offs hex
  have hoffs : ∀ j, offs.getD j (-1, -1) = (-1, -1) ∨ offs.getD j (-1, -1) = (mk m (2 * j), mk m (2 * j + 1)) :=
    regexec_offs _ _ _ _ _ _ _ _ _ hex
  have htree : setTree pats = (grpnum t0 1).1 := by unfold setTree; rw [← parse_eq, hparse]; rfl
  unfold setCheck at hchk
  rw [htree] at hchk
  split at hchk
  · cases hchk
  next l ht =>
  simp only [Bool.and_eq_true, decide_eq_true_eq] at hchk
  obtain ⟨⟨hok, hlen⟩, hall⟩ := hchk
  obtain ⟨G, hG, hsp, e0, e1, hoth, hmin, hlt⟩ := top_marks (grpnum_fresh t0 1) (fun i hi => (markIdx_grpnum t0 1 i hi).1) ht hok hM
  rw [← hm] at e0 e1 hoth hmin
  -- the selected base group is `G`
  have hidx : set.toNat < (C12.tables pats).1.length := by omega
  have hbmem : (B : Int) ∈ (C12.tables pats).1 := by
    rw [hgrp, List.getElem?_append_left hidx] at hgB
    exact List.mem_of_getElem? hgB
  have hbl : B ∈ l.map Prod.fst := by
    have := List.all_eq_true.mp hall _ hbmem
    simp only [Bool.or_eq_true, decide_eq_true_eq, List.contains_eq_mem, Int.toNat_natCast] at this
    rcases this with h1 | h1
    · omega
    · exact h1
  have hbG : G = B := by
    apply Decidable.byContradiction
    intro hne
    have hne : B ≠ G := fun e => hne e.symm
    have h1 := hoth _ hbl hne
    rcases hoffs B with h2 | h2
    · rw [h2] at hso; simp at hso
    · rw [h2] at hso; simp only at hso; omega
  subst hbG
  have hoG : offs.getD G (-1, -1) = ((s : Int), (p : Int)) := by
    rcases hoffs G with h2 | h2
    · rw [h2] at hso; simp at hso
    · rw [h2, e0, e1]
  have hpair : ∀ j, (offs.getD j (-1, -1) = (-1, -1)) ∨
      (offs.getD j (-1, -1) = (mk m (2 * j), mk m (2 * j + 1))) := hoffs
  have hin : ∀ j, ((offs.getD j (-1, -1)).1 = -1 ∨ ((s : Int) ≤ (offs.getD j (-1, -1)).1 ∧ (offs.getD j (-1, -1)).1 ≤ (p : Int))) ∧
      ((offs.getD j (-1, -1)).2 = -1 ∨ ((s : Int) ≤ (offs.getD j (-1, -1)).2 ∧ (offs.getD j (-1, -1)).2 ≤ (p : Int))) := by
    intro j
    rcases hpair j with h2 | h2
    · rw [h2]; exact ⟨Or.inl rfl, Or.inl rfl⟩
    · rw [h2]; exact ⟨hmin _, hmin _⟩
  -- a group pair is unset or ordered: `C05e.regexec_marks`
  obtain ⟨K, rfl⟩ : ∃ K, ngrps = 2 * K := ⟨ngrps / 2, by omega⟩
  obtain ⟨_, hmarks⟩ := Lemmas.C05e.regexec_marks hcomp str rs.grpcnt rflg nd K (by omega) m c' offs hex
  have hord : ∀ j, 1 ≤ j → 0 ≤ (offs.getD j (-1, -1)).1 → 0 ≤ (offs.getD j (-1, -1)).2 →
      (offs.getD j (-1, -1)).1 ≤ (offs.getD j (-1, -1)).2 := by
    intro j hj
    rcases hpair j with h2 | h2
    · rw [h2]; intro h3; simp at h3
    · rw [h2]
      by_cases hl : 2 * j + 1 < m.length
      · exact fun _ _ => (Lemmas.C05e.pair_getD (hmarks j hj hl)).1
      · intro _ h4
        have : mk m (2 * j + 1) = -1 := by rw [mk_eq, List.getElem?_eq_none (by omega)]; rfl
        simp only [this] at h4
        omega
  have h01 := hp0 hn
  rw [hoG] at h01
  have h0 : out.getD 0 (-1) = (s : Int) := congrArg Prod.fst h01
  have h1 : out.getD 1 (-1) = (p : Int) := congrArg Prod.snd h01
  have hG2 : 2 ≤ G := by
    obtain ⟨x, hx, rfl⟩ := List.mem_map.mp hG
    have := List.all_eq_true.mp hok x hx
    simp only [Bool.and_eq_true, decide_eq_true_eq] at this
    exact this.1.1
  rw [h0, h1]
  refine ⟨by omega, ?_, ?_, ?_⟩
  rotate_left 2
  · intro hcons
    unfold setConsumes at hcons
    rw [htree, ht] at hcons
    have := hlt hcons
    omega
  · intro k
    have hk : k = 2 * (k / 2) ∨ k = 2 * (k / 2) + 1 := by omega
    have hp : (out.getD (2 * (k / 2)) (-1) = -1 ∨ ((s : Int) ≤ out.getD (2 * (k / 2)) (-1) ∧ out.getD (2 * (k / 2)) (-1) ≤ (p : Int))) ∧
        (out.getD (2 * (k / 2) + 1) (-1) = -1 ∨
          ((s : Int) ≤ out.getD (2 * (k / 2) + 1) (-1) ∧ out.getD (2 * (k / 2) + 1) (-1) ≤ (p : Int))) := by
      rcases hpairs (k / 2) with e | e
      · exact ⟨Or.inl (congrArg Prod.fst e), Or.inl (congrArg Prod.snd e)⟩
      · rw [show out.getD (2 * (k / 2)) (-1) = _ from congrArg Prod.fst e,
          show out.getD (2 * (k / 2) + 1) (-1) = _ from congrArg Prod.snd e]
        exact hin _
    rcases hk with hk | hk
    · rw [hk]
      rcases hp.1 with h2 | h2
      · left; omega
      · right; exact h2
    · rw [hk]
      rcases hp.2 with h2 | h2
      · left; omega
      · right; exact h2
  · intro g
    rw [Nat.mul_comm g 2]
    rcases hpairs g with e | e
    · rw [show out.getD (2 * g) (-1) = -1 from congrArg Prod.fst e]
      intro h3; simp at h3
    · rw [show out.getD (2 * g) (-1) = _ from congrArg Prod.fst e,
        show out.getD (2 * g + 1) (-1) = _ from congrArg Prod.snd e]
      exact hord _ (by omega)

end Neatvi.Props.C18c
