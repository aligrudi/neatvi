import NeatviVerif.Props.C10
import NeatviVerif.Lemmas.C12Simple
import NeatviVerif.Lemmas.C05eR4
/-!
# C18c helpers: the marks of a match of `((p0)|(p1)|…)`, from the declarative semantics `C10.Matches`

* `mk m i`: mark `i` as `regexec` reads it;
* `consumes t`: a computable check that `t` cannot match the empty string, and `matches_lt`: then a match of `t` moves the
  position (`atomMatch_lt`, `iter_lt`);
* `altGroups`, `topGroups`, `altsOk`: the shape `((p0)|(p1)|…)` and the computable check on it; `top_marks`: on such a tree
  exactly one alternative's group is written, with the entry and exit positions of the whole match, and every mark is unset
  or inside the match.  (That a group pair is unset or ordered is `Lemmas.C05e.regexec_marks`, for any pattern.)
-/
namespace Neatvi.Props.C18c
open Neatvi Neatvi.Regex Neatvi.Lemmas.C10 Neatvi.Props.C10

/-- mark `i` as `regexec` reads it -/
def mk (m : Marks) (i : Nat) : Int := m.getD i (-1)

theorem mk_eq (m : Marks) (i : Nat) : mk m i = (m[i]?).getD (-1) := List.getD_eq_getElem?_getD ..

theorem mk_congr {m m' : Marks} {i : Nat} (h : m'[i]? = m[i]?) : mk m' i = mk m i := by
  rw [mk_eq, mk_eq, h]

theorem mk_setMk_ne {ngrps : Nat} (m : Marks) (k pos i : Nat) (h : i ≠ k) : mk (setMk ngrps m k pos) i = mk m i :=
  mk_congr (setMk_get_ne _ _ _ _ _ h)

theorem mk_setMk_self {ngrps : Nat} (m : Marks) (k pos : Nat) (h1 : k < ngrps) (h2 : k < m.length) :
    mk (setMk ngrps m k pos) k = (pos : Int) := by
  rw [mk_eq, setMk_get_self _ _ _ _ h1 h2]; rfl

/-! ### patterns that cannot match the empty string -/

theorem ucCode_hd_zero (s : Bytes) (h : Bytes.hd s = 0) : Uc.ucCode s = some 0 := by
  simp [Uc.ucCode, h]

theorem rxLen_pos {subj : Bytes} {pos : Nat} (hp : pos < subj.length) (hx : subj[pos]'hp ≠ 0) :
    0 < rxLen subj pos :=
  C12.rxLen_pos hp (by rwa [List.getD_eq_getElem?_getD, List.getElem?_eq_getElem hp])

theorem atomMatch_lt {a : Atom} {subj : Bytes} {flg pos pos' : Nat} (hk : a.k = AK.any ∨ a.k = AK.brk)
    (h : atomMatch a subj flg pos = AR.ok pos') : pos < pos' := by
  unfold atomMatch at h
  simp only [] at h
  split at h
  · cases h
  · next cur hcur =>
    have hcur' : cur ≠ 0 → ∃ hp : pos < subj.length, subj[pos]'hp = cur := by
      intro hc
      unfold rdb at hcur
      split at hcur
      · next hp =>
        rw [List.getElem?_eq_getElem hp] at hcur
        exact ⟨hp, Option.some.inj hcur⟩
      · split at hcur
        · cases hcur; exact absurd rfl hc
        · cases hcur
    rcases hk with hk | hk
    · rw [hk] at h
      simp only at h
      split at h
      · cases h
      · next hc =>
        simp only [Bool.or_eq_true, beq_iff_eq, not_or] at hc
        obtain ⟨hp, hx⟩ := hcur' hc.1
        injection h with h
        have := rxLen_pos hp (by rw [hx]; exact hc.1)
        omega
    · rw [hk] at h
      simp only at h
      split at h
      · cases h
      · next c hdec =>
        split at h
        · cases h
        · next hc =>
          simp only [Bool.or_eq_true, beq_iff_eq, not_or] at hc
          have hcne : cur ≠ 0 := by
            intro h0
            subst h0
            -- then the decoded character is 0
            have hd0 : Bytes.hd (subj.drop pos) = 0 := by
              unfold rdb at hcur
              unfold Bytes.hd
              split at hcur
              · next hp =>
                rw [List.getElem?_eq_getElem hp] at hcur
                have : subj[pos] = 0 := Option.some.inj hcur
                rw [List.drop_eq_getElem_cons hp, this]; rfl
              · next hp => rw [List.drop_eq_nil_of_le (by omega)]; rfl
            unfold decAt at hdec
            split at hdec
            · rw [ucCode_hd_zero _ hd0] at hdec
              exact hc.1 (Option.some.inj hdec).symm
            · cases hdec
          obtain ⟨hp, hx⟩ := hcur' hcne
          have hpos := rxLen_pos hp (by rw [hx]; exact hcne)
          split at h
          · cases h
          · injection h with h; omega
          · cases h

/-- the tree cannot match the empty string: on every path there is a `.` or a bracket expression
    taken at least once -/
def consumes : RNode → Bool
  | .nul => false
  | .atom a mn _ => (a.k == AK.any || a.k == AK.brk) && decide (1 ≤ mn)
  | .cat a b => consumes a || consumes b
  | .alt a b => consumes a && consumes b
  | .grp a _ mn _ => decide (1 ≤ mn) && consumes a

theorem repOk_pos {mn mx : Int} {k : Nat} (h : RepOk mn mx k) (hmn : 1 ≤ mn) : 1 ≤ k := by
  unfold RepOk at h
  split at h
  · omega
  · split at h
    · omega
    · rcases h with h | h
      · omega
      · omega

section consume
variable {subj : Bytes} {flg ngrps : Nat}

theorem iter_lt {t : RNode} (hle : ∀ r s, One subj flg ngrps t r s → r.1 ≤ s.1)
    (hlt : ∀ r s, One subj flg ngrps t r s → r.1 < s.1) :
    ∀ k r r', Iter subj flg ngrps t (k + 1) r r' → r.1 < r'.1 := by
  intro k r r' h
  cases h with
  | succ h1 h2 =>
    have h3 := Lemmas.C05e.iter_pres (P := fun q => r.1 < q.1) (fun a b hab hq => Nat.lt_of_lt_of_le hq (hle a b hab)) _ _ _ h2
      (hlt _ _ h1)
    exact h3

theorem matches_lt (t : RNode) : consumes t = true → ∀ r r', Matches subj flg ngrps t r r' → r.1 < r'.1 := by
  induction t with
  | nul => intro hc; simp [consumes] at hc
  | atom a mn mx =>
    intro hc r r' h
    simp only [consumes, Bool.and_eq_true, Bool.or_eq_true, beq_iff_eq, decide_eq_true_eq] at hc
    cases h with
    | atom hk hi =>
      rename_i k
      obtain ⟨k', rfl⟩ : ∃ k', k = k' + 1 := ⟨k - 1, by have := repOk_pos hk hc.2; omega⟩
      refine iter_lt ?_ ?_ _ _ _ hi
      · intro r s h1; cases h1 with | atom hm => exact atomMatch_le hm
      · intro r s h1; cases h1 with | atom hm => exact atomMatch_lt hc.1 hm
  | cat a b iha ihb =>
    intro hc r r' h
    simp only [consumes, Bool.or_eq_true] at hc
    cases h with
    | cat h1 h2 =>
      have s1 := (matches_span a _ _ h1).1
      have s2 := (matches_span b _ _ h2).1
      rcases hc with hc | hc
      · have := iha hc _ _ h1; omega
      · have := ihb hc _ _ h2; omega
  | alt a b iha ihb =>
    intro hc r r' h
    simp only [consumes, Bool.and_eq_true] at hc
    cases h with
    | altl h1 => exact iha hc.1 _ _ h1
    | altr h1 => exact ihb hc.2 _ _ h1
  | grp a g mn mx iha =>
    intro hc r r' h
    simp only [consumes, Bool.and_eq_true, decide_eq_true_eq] at hc
    cases h with
    | grp hk hi =>
      rename_i k
      obtain ⟨k', rfl⟩ : ∃ k', k = k' + 1 := ⟨k - 1, by have := repOk_pos hk hc.1; omega⟩
      refine iter_lt ?_ ?_ _ _ _ hi
      · intro r s h1; exact (one_grp_span h1).le
      · intro r s h1
        cases h1 with
        | grp hm =>
          have := iha hc.2 _ _ hm
          exact this

end consume

/-! ### the shape `((p0)|(p1)|…)` -/

/-- the alternatives of `(p0)|(p1)|…`: each a group taken exactly once; `(number, body)` -/
def altGroups : RNode → Option (List (Nat × RNode))
  | .alt a b =>
    match altGroups a, altGroups b with
    | some x, some y => some (x ++ y)
    | _, _ => none
  | .grp a g mn mx => if mn = 1 ∧ mx = 1 then some [(g, a)] else none
  | _ => none

/-- the alternatives of `((p0)|(p1)|…)` numbered from 1 -/
def topGroups : RNode → Option (List (Nat × RNode))
  | .grp A g mn mx => if g = 1 ∧ mn = 1 ∧ mx = 1 then altGroups A else none
  | _ => none

/-- the numbers are at least 2 and fit, and no alternative writes the marks of another one -/
def altsOk (ngrps : Nat) (l : List (Nat × RNode)) : Bool :=
  l.all (fun x => decide (2 ≤ x.1) && decide (2 * x.1 + 1 < ngrps) &&
    l.all (fun y => y.1 == x.1 || !(markIdx x.2).contains (2 * y.1)))

section top
variable {subj : Bytes} {flg ngrps : Nat}

theorem matches_once {a : RNode} {g : Nat} {r r' : Nat × Marks}
    (h : Matches subj flg ngrps (RNode.grp a g 1 1) r r') : One subj flg ngrps (RNode.grp a g 1 1) r r' := by
  cases h with
  | grp hk hi =>
    rename_i k
    have : k = 1 := by simpa [RepOk] using hk
    subst this
    cases hi with
    | succ h1 h2 => cases h2; exact h1

theorem alt_choice : ∀ (t : RNode) (l : List (Nat × RNode)), altGroups t = some l → ∀ r r',
    Matches subj flg ngrps t r r' → ∃ x ∈ l, One subj flg ngrps (RNode.grp x.2 x.1 1 1) r r' := by
  intro t
  induction t with
  | nul => intro l h; simp [altGroups] at h
  | atom a mn mx => intro l h; simp [altGroups] at h
  | cat a b _ _ => intro l h; simp [altGroups] at h
  | alt a b iha ihb =>
    intro l h r r' hm
    simp only [altGroups] at h
    split at h
    · next x y hx hy =>
      cases h
      cases hm with
      | altl h1 =>
        obtain ⟨z, hz, ho⟩ := iha x hx _ _ h1
        exact ⟨z, List.mem_append_left _ hz, ho⟩
      | altr h1 =>
        obtain ⟨z, hz, ho⟩ := ihb y hy _ _ h1
        exact ⟨z, List.mem_append_right _ hz, ho⟩
    · cases h
  | grp a g mn mx _ =>
    intro l h r r' hm
    simp only [altGroups] at h
    split at h
    · next hc =>
      cases h
      obtain ⟨rfl, rfl⟩ := hc
      exact ⟨(g, a), List.mem_singleton.mpr rfl, matches_once hm⟩
    · cases h

theorem altGroups_fresh : ∀ (t : RNode) (l : List (Nat × RNode)), altGroups t = some l → GrpFresh t →
    ∀ x ∈ l, 2 * x.1 ∉ markIdx x.2 ∧ 2 * x.1 + 1 ∉ markIdx x.2 ∧ GrpFresh x.2 := by
  intro t
  induction t with
  | nul => intro l h; simp [altGroups] at h
  | atom a mn mx => intro l h; simp [altGroups] at h
  | cat a b _ _ => intro l h; simp [altGroups] at h
  | alt a b iha ihb =>
    intro l h hf z hz
    simp only [altGroups] at h
    split at h
    · next x y hx hy =>
      cases h
      rcases List.mem_append.mp hz with hz | hz
      · exact iha x hx hf.1 z hz
      · exact ihb y hy hf.2 z hz
    · cases h
  | grp a g mn mx _ =>
    intro l h hf z hz
    simp only [altGroups] at h
    split at h
    · cases h
      cases List.mem_singleton.mp hz
      exact hf
    · cases h

theorem mk_set_ne (m : Marks) (k i : Nat) (v : Int) (h : i ≠ k) : mk (m.set k v) i = mk m i :=
  mk_congr (List.getElem?_set_ne (by omega))

theorem mk_marks0 (n i : Nat) : mk (marks0 n) i = -1 := by
  rw [mk_eq]
  unfold marks0
  rw [List.getElem?_replicate]
  split <;> rfl

/-- **the marks of a match of `((p0)|(p1)|…)`** from the initial marks of `regexec`: one alternative `G`
    carries the entry and exit positions of the whole match, the groups of the other alternatives
    are unset, every mark is unset or inside the match -/
theorem top_marks {t : RNode} {l : List (Nat × RNode)} (hf : GrpFresh t)
    (hge : ∀ i ∈ markIdx t, 2 ≤ i) (ht : topGroups t = some l) (hok : altsOk ngrps l = true) {s p : Nat} {m1 : Marks}
    (h : Matches subj flg ngrps t (s, (marks0 ngrps).set 0 (s : Int)) (p, m1)) :
    ∃ G, G ∈ l.map Prod.fst ∧ s ≤ p ∧
      mk (m1.set 1 (p : Int)) (2 * G) = (s : Int) ∧ mk (m1.set 1 (p : Int)) (2 * G + 1) = (p : Int) ∧
      (∀ G' ∈ l.map Prod.fst, G' ≠ G → mk (m1.set 1 (p : Int)) (2 * G') = -1) ∧
      (∀ i, mk (m1.set 1 (p : Int)) i = -1 ∨ ((s : Int) ≤ mk (m1.set 1 (p : Int)) i ∧ mk (m1.set 1 (p : Int)) i ≤ (p : Int))) ∧
      (l.all (fun x => consumes x.2) = true → s < p) := by
  have hsp := matches_span t _ _ h
  have hl0 : ((marks0 ngrps).set 0 (s : Int)).length = 2 * ngrps := by simp [marks0]
  have hl1 : m1.length = 2 * ngrps := by have := hsp.2.1; simp only at this; omega
  have hm0 : ∀ i, i ≠ 0 → mk ((marks0 ngrps).set 0 (s : Int)) i = -1 := by
    intro i hi; rw [mk_set_ne _ _ _ _ hi, mk_marks0]
  have hin : ∀ i, mk (m1.set 1 (p : Int)) i = -1 ∨
      ((s : Int) ≤ mk (m1.set 1 (p : Int)) i ∧ mk (m1.set 1 (p : Int)) i ≤ (p : Int)) := by
    intro i
    have hsle := hsp.1
    simp only at hsle
    by_cases hi : i = 1
    · subst hi
      by_cases h1 : 1 < m1.length
      · right
        rw [mk_eq, List.getElem?_set_self h1]
        show (s : Int) ≤ (p : Int) ∧ (p : Int) ≤ (p : Int)
        omega
      · left
        rw [mk_eq, List.getElem?_eq_none (by simp; omega)]; rfl
    · rw [mk_set_ne _ _ _ _ hi]
      rcases hsp.2.2 i with e | ⟨v, e, h1, h2⟩
      · simp only at e
        rw [mk_congr e]
        by_cases h0 : i = 0
        · subst h0
          by_cases hz : 0 < (marks0 ngrps).length
          · right
            rw [mk_eq, List.getElem?_set_self hz]
            show (s : Int) ≤ (s : Int) ∧ (s : Int) ≤ (p : Int)
            omega
          · left
            rw [mk_eq, List.getElem?_eq_none (by rw [List.length_set]; omega)]; rfl
        · exact Or.inl (hm0 i h0)
      · simp only at e h1 h2
        right
        rw [mk_eq, e]
        show (s : Int) ≤ (v : Int) ∧ (v : Int) ≤ (p : Int)
        omega
  -- peel the outer group and the alternative
  cases t with
  | grp A g mn mx =>
    simp only [topGroups] at ht
    split at ht
    · next hc =>
      obtain ⟨rfl, rfl, rfl⟩ := hc
      have ho := matches_once h
      cases ho with
      | grp hA =>
        rename_i m'
        obtain ⟨x, hx, hone⟩ := alt_choice A l ht _ _ hA
        obtain ⟨G, a⟩ := x
        obtain ⟨fr0, fr1, _⟩ := altGroups_fresh A l ht hf.2.2 (G, a) hx
        simp only at fr0 fr1
        have hchk := List.all_eq_true.mp hok (G, a) hx
        simp only [Bool.and_eq_true, decide_eq_true_eq] at hchk
        obtain ⟨⟨hG2, hGn⟩, hdis⟩ := hchk
        cases hone with
        | grp ha =>
          rename_i m''
          have hsa := matches_span a _ _ ha
          have hlen'' : m''.length = 2 * ngrps := by
            have := hsa.2.1
            simp only [setMk_length] at this
            omega
          refine ⟨G, List.mem_map.mpr ⟨(G, a), hx, rfl⟩, hsp.1, ?_, ?_, ?_, hin,
            fun hcons => matches_lt a (List.all_eq_true.mp hcons (G, a) hx) _ _ ha⟩
          · -- mark 2G = s
            rw [mk_set_ne _ _ _ _ (by omega)]
            show mk (setMk ngrps (setMk ngrps m'' (2 * G + 1) p) (2 * 1 + 1) p) (2 * G) = _
            rw [mk_setMk_ne _ _ _ _ (by omega), mk_setMk_ne _ _ _ _ (by omega),
              mk_congr (matches_frame a _ _ ha _ fr0)]
            exact mk_setMk_self _ _ _ (by omega) (by simp only [setMk_length]; omega)
          · rw [mk_set_ne _ _ _ _ (by omega)]
            show mk (setMk ngrps (setMk ngrps m'' (2 * G + 1) p) (2 * 1 + 1) p) (2 * G + 1) = _
            rw [mk_setMk_ne _ _ _ _ (by omega)]
            exact mk_setMk_self _ _ _ hGn (by omega)
          · intro G' hG' hne
            obtain ⟨y, hy, rfl⟩ := List.mem_map.mp hG'
            have hd := List.all_eq_true.mp hdis y hy
            simp only [Bool.or_eq_true, beq_iff_eq, Bool.not_eq_true', List.contains_eq_mem,
              decide_eq_false_iff_not] at hd
            have hnm : 2 * y.1 ∉ markIdx a := by
              rcases hd with hd | hd
              · exact absurd hd hne
              · exact hd
            have hy2 : 2 ≤ y.1 := by
              have := List.all_eq_true.mp hok y hy
              simp only [Bool.and_eq_true, decide_eq_true_eq] at this
              exact this.1.1
            rw [mk_set_ne _ _ _ _ (by omega)]
            show mk (setMk ngrps (setMk ngrps m'' (2 * G + 1) p) (2 * 1 + 1) p) (2 * y.1) = _
            rw [mk_setMk_ne _ _ _ _ (by omega), mk_setMk_ne _ _ _ _ (by omega),
              mk_congr (matches_frame a _ _ ha _ hnm),
              mk_setMk_ne _ _ _ _ (by omega), mk_setMk_ne _ _ _ _ (by omega)]
            exact hm0 _ (by omega)
    · cases ht
  | _ => simp [topGroups] at ht

end top

end Neatvi.Props.C18c
