import NeatviVerif.Props.C18b
/-!
# C18c helpers: matchers that are lawful only on slices ending inside `[0, n]`

`dir_match` is in range only when asked about a slice of the line; `C18.Lawful` asks for every slice.
`LawfulOn M n` (Lemmas/C18Fix.lean) is the restricted law.  The lemmas of C18b about `dirFix`, `fixIdx` and `Scan` are stated
for it and a slice ending inside `[0, n]` (`scan_chained`, `fix_idx_on`, `fixIdx_scan`, `fix_frame_on`, `fix_nested_pos_on`);
the statements about `Lawful` matchers are their case `n := e`.
-/
namespace Neatvi.Props.C18c
open Neatvi Neatvi.Dir Neatvi.Props.C18 Neatvi.Props.C18b

theorem lawfulOn_mono {M : Matcher} {n n' : Nat} (h : LawfulOn M n) (hn : n' ≤ n) : LawfulOn M n' :=
  fun b e dir hbe he => h b e dir hbe (Nat.le_trans he hn)

theorem lawful_iff_on (M : Matcher) : Lawful M ↔ ∀ n, LawfulOn M n :=
  ⟨fun h _ b e dir hbe _ => h b e dir hbe, fun h b e dir hbe => h e b e dir hbe (Nat.le_refl _)⟩

theorem scan_exists_on {M : Matcher} {n : Nat} (hM : LawfulOn M n) (dir : Int) {e : Nat} (he : e ≤ n) (b : Nat) :
    ∃ ms, Scan M dir e b ms := by
  obtain ⟨ms, h⟩ := matchesFrom_total hM dir (e - b) b e he (Nat.le_refl _)
  exact ⟨ms, scan_of_matchesFrom _ _ _ _ _ _ h⟩

end Neatvi.Props.C18c
