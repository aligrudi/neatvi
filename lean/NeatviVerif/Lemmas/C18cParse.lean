import NeatviVerif.Lemmas.C18cRset
/-!
# C18c: the parser with `brk_len` walking the text

`Regex.brkLen` reads the bracket expression by index (`s.getD n 0` at every step), which makes the
kernel's evaluation of `Regex.parse` quadratic in the length of a bracket expression; those of
`dirmarks` are over a hundred characters long.  `brkLenW` is the same function on the remaining text,
`parseW` the parser that calls it (`parse_eq`), `compOf` what `regcomp` does with the parse tree
(`regcomp_eq`).  Evaluation goes through these; nothing else uses them.
-/
namespace Neatvi.Props.C18c
open Neatvi Neatvi.Regex

/-- `brkLenLoop` on the remaining text `t = s.drop n` (same fuel, same cases) -/
def brkFrom : Nat → Bytes → Nat → Nat
  | 0, _, n => n
  | f + 1, t, n =>
    let c := t.headD 0
    if c != 0 && c != 93 then
      let k := if c == 91 && ((t.drop 1).headD 0 == 58 || (t.drop 1).headD 0 == 61) then
          (t.takeWhile (fun b => b != 93)).length else 0
      let k2 := if (t.drop k).headD 0 != 0 then k + 1 else k
      brkFrom f (t.drop k2) (n + k2)
    else n

theorem brkLenLoop_eq (s : Bytes) : ∀ f n, brkLenLoop s f n = brkFrom f (s.drop n) n := by
  intro f
  induction f with
  | zero => intro n; rfl
  | succ f ih =>
    intro n
    rw [brkLenLoop, brkFrom]
    simp only [C12.headD_drop, List.drop_drop]
    by_cases h1 : (s.getD n 0 != 0 && s.getD n 0 != 93) = true
    · rw [if_pos h1, if_pos h1]
      by_cases h2 : (s.getD n 0 == 91 && (s.getD (n + 1) 0 == 58 || s.getD (n + 1) 0 == 61)) = true
      · rw [if_pos h2, if_pos h2]
        by_cases h3 : (s.getD (n + ((s.drop n).takeWhile (fun b => b != 93)).length) 0 != 0) = true
        · rw [if_pos h3, if_pos h3, ih, Nat.add_assoc]
        · rw [if_neg h3, if_neg h3, ih]
      · rw [if_neg h2, if_neg h2]
        simp only [Nat.add_zero, Nat.zero_add]
        by_cases h3 : (s.getD n 0 != 0) = true
        · rw [if_pos h3, if_pos h3, ih]
        · rw [if_neg h3, if_neg h3, ih, Nat.add_zero]
    · rw [if_neg h1, if_neg h1]

/-- `brk_len` walking the text -/
def brkLenW (s : Bytes) : Nat :=
  let n := 1
  let n := if (s.drop n).headD 0 == 94 then n + 1 else n
  let n := if (s.drop n).headD 0 == 93 then n + 1 else n
  let n := brkFrom (s.length + 1) (s.drop n) n
  if (s.drop n).headD 0 == 93 then n + 1 else n

theorem brkLen_eq (s : Bytes) : brkLen s = brkLenW s := by
  unfold brkLen brkLenW
  simp only [C12.headD_drop, brkLenLoop_eq]

/-- `ratom_read` with `brkLenW` for the one case that reads a bracket expression -/
def ratomReadW (p : Bytes) : Option (Atom × Bytes) :=
  if p.headD 0 == 91 then some (⟨AK.brk, p.take (brkLenW p)⟩, p.drop (brkLenW p)) else ratomRead p

theorem ratomRead_eq (p : Bytes) : ratomRead p = ratomReadW p := by
  unfold ratomReadW
  split
  · next h =>
    cases p with
    | nil => cases h
    | cons c r =>
      have hc : c = 91 := by simpa using h
      subst hc
      rw [← brkLen_eq]
      rfl
  · rfl

mutual
/-- `parseAlt` … `parseGrp` (Model/Regex.lean) word for word, with `ratomReadW` -/
def parseAltW : Nat → Bytes → Option (Option RNode × Bytes)
  | 0, _ => none
  | f + 1, p =>
    match parseSeqW f p with
    | none => none
    | some (c1, p1) =>
      if p1.headD 0 != 124 then some (c1, p1)
      else
        match parseAltW f (p1.drop 1) with
        | none => none
        | some (c2, p2) =>
          match c2 with
          | none => some (c1, p2)
          | some b => some (some (RNode.alt (c1.getD RNode.nul) b), p2)

def parseSeqW : Nat → Bytes → Option (Option RNode × Bytes)
  | 0, _ => none
  | f + 1, p =>
    match parseAtomW f p with
    | none => none
    | some (none, p1) => some (none, p1)
    | some (some c1, p1) =>
      match parseSeqW f p1 with
      | none => none
      | some (none, p2) => some (some c1, p2)
      | some (some c2, p2) => some (some (RNode.cat c1 c2), p2)

def parseAtomW : Nat → Bytes → Option (Option RNode × Bytes)
  | 0, _ => none
  | f + 1, p =>
    let c := p.headD 0
    if c == 0 || c == 124 || c == 41 then some (none, p)
    else if c == 40 then
      match parseGrpW f p with
      | none => none
      | some (none, p1) => some (none, p1)
      | some (some n, p1) => readRep n p1
    else
      match ratomReadW p with
      | none => none
      | some (a, p1) => readRep (RNode.atom a 1 1) p1

def parseGrpW : Nat → Bytes → Option (Option RNode × Bytes)
  | 0, _ => none
  | f + 1, p =>
    let p1 := p.drop 1
    if p1.headD 0 != 41 then
      match parseAltW f p1 with
      | none => none
      | some (none, p2) => some (none, p2)
      | some (some n, p2) =>
        if p2.headD 0 != 41 then some (none, p2) else some (some (RNode.grp n 0 1 1), p2.drop 1)
    else some (some (RNode.grp RNode.nul 0 1 1), p1.drop 1)
end

theorem parseW_eq : ∀ f, parseAlt f = parseAltW f ∧ parseSeq f = parseSeqW f ∧
    parseAtom f = parseAtomW f ∧ parseGrp f = parseGrpW f := by
  intro f
  induction f with
  | zero => exact ⟨funext fun _ => rfl, funext fun _ => rfl, funext fun _ => rfl, funext fun _ => rfl⟩
  | succ f ih =>
    obtain ⟨a, b, c, d⟩ := ih
    refine ⟨funext fun p => ?_, funext fun p => ?_, funext fun p => ?_, funext fun p => ?_⟩
    -- after the calls are rewritten the two sides differ only in the names of their `match` functions
    · rw [parseAlt, parseAltW, a, b]; rfl
    · rw [parseSeq, parseSeqW, c, b]; rfl
    · rw [parseAtom, parseAtomW, d, ratomRead_eq]; rfl
    · rw [parseGrp, parseGrpW, a]; rfl

/-- `rnode_parse` with `brk_len` walking the text -/
def parseW (p : Bytes) : Option (Option RNode) := (parseAltW (parseFuel p) p).map (·.1)

theorem parse_eq (p : Bytes) : parse p = parseW p := by
  unfold parse parseW
  rw [(parseW_eq _).1]

/-- what `regcomp` does with the result of the parser -/
def compOf (t : Option (Option RNode)) (flg : Nat) : Option (Option Prog) :=
  match t with
  | none => none
  | some none => some none
  | some (some t) =>
    if countSat t + 3 > (Gen.NCODE : Int) then some none else
    some (some { code := [Inst.mark 0] ++ emit (grpnum t 1).1 1 ++ [Inst.mark 1, Inst.mtch],
                 alloc := countSat t + 3, flg := flg })

theorem regcomp_eq (pat : Bytes) (flg : Nat) : regcomp pat flg = compOf (parseW pat) flg := by
  rw [← parse_eq]
  rfl

end Neatvi.Props.C18c
