import NeatviVerif.Model.Rset
import NeatviVerif.Props.C11
import NeatviVerif.Props.C11b
/-!
# C18c helpers: what `regexec` / `rset_find` report, as far as C11 / C11b give it

`regexec_range`: every reported offset is `-1` or in `[0, length]` (C11 `offsets_in_range` at the start position
`C10.leftmost_vm` gives); `regexec_offs`: offset pair `j` is unset or the marks `2j`, `2j+1`.  `find_spec`: the list
`rset_find` hands out, entry by entry, in terms of the offsets of `regexec`; `find_pairs`: the same pair by pair (pair `g`
is unset or the offsets of group `G + g`, `G` the first group of the pattern found), which is what `find_offsets`,
`find_nested` (Lemmas/C18cFind.lean) and `C05e.find_offsOk` (Lemmas/C05eR6.lean) read.  `find_offsets`: the same entry by entry with the
predicate a variable (every entry is `-1` or satisfies what every offset of `regexec` satisfies: the range here, the
boundary clause of C11b `offsets_on_boundaries` in `Props/C18c.lean`), and `0 ≤ out[0]`, `set < n` for `rset_find`.  (What `rset_make` builds: `C12.make_eq` in Lemmas/C12Simple.lean.)
-/
namespace Neatvi.Props.C18c
open Neatvi Neatvi.Regex Neatvi.Rset

/-- `x` is unset or an offset into a subject of `len` bytes -/
def InSubj (len : Nat) (x : Int) : Prop := x = -1 ∨ (0 ≤ x ∧ x ≤ (len : Int))

theorem regexec_range (prog : Prog) (subj : Bytes) (nsub eflg nd ngrps : Nat) (m : Marks) (c : Nat)
    (offs : List (Int × Int)) (h : regexec prog subj nsub eflg nd ngrps = (ExecRes.found m c, offs)) :
    ∀ so eo, (so, eo) ∈ offs → InSubj subj.length so ∧ InSubj subj.length eo := by
  obtain ⟨_, hex, rfl⟩ := Lemmas.C10.regexec_found h
  obtain ⟨s, cuts, p, hf, hp⟩ := Props.C10.leftmost_vm _ _ _ _ _ _ hex
  have hr : ∀ x ∈ m, InSubj subj.length x := fun x hx =>
    (C11.offsets_in_range _ s cuts p m c (hf.le (Nat.zero_le _)) hp).2.2 x hx |>.imp id fun h1 => ⟨by omega, h1.2⟩
  have hget : ∀ k, InSubj subj.length (m.getD k (-1)) := by
    intro k
    rw [List.getD_eq_getElem?_getD]
    cases hk : m[k]? with
    | none => exact Or.inl rfl
    | some x => exact hr x (List.mem_of_getElem? hk)
  intro so eo hmem
  simp only [List.mem_map, List.mem_range] at hmem
  obtain ⟨i, _, hi⟩ := hmem
  split at hi
  · cases hi; exact ⟨hget _, hget _⟩
  · cases hi; exact ⟨Or.inl rfl, Or.inl rfl⟩

theorem regexec_offs (prog : Prog) (subj : Bytes) (nsub eflg nd ngrps : Nat) (m : Marks) (c : Nat)
    (offs : List (Int × Int)) (h : regexec prog subj nsub eflg nd ngrps = (ExecRes.found m c, offs)) :
    ∀ j, offs.getD j (-1, -1) = (-1, -1) ∨ offs.getD j (-1, -1) = (m.getD (2 * j) (-1), m.getD (2 * j + 1) (-1)) := by
  obtain ⟨_, _, rfl⟩ := Lemmas.C10.regexec_found h
  intro j
  rw [List.getD_eq_getElem?_getD, List.getElem?_map]
  by_cases hj : j < nsub
  · rw [List.getElem?_range hj]
    simp only [Option.map_some, Option.getD_some]
    split
    · right; rw [Nat.mul_comm j 2]
    · left; rfl
  · rw [List.getElem?_eq_none (by simp; omega)]
    left; rfl

/-- the pattern-selection fold of `rset_find` returns `-1` or an index that passed the test -/
theorem selFold (P : Nat → Bool) : ∀ (l : List Nat) (acc : Int),
    let r := l.foldl (fun (acc : Int) i => if P i then (i : Int) else acc) acc
    r = acc ∨ ∃ i ∈ l, r = (i : Int) ∧ P i = true := by
  intro l
  induction l with
  | nil => intro acc; exact Or.inl rfl
  | cons a l ih =>
    intro acc
    simp only [List.foldl_cons]
    rcases ih (if P a then (a : Int) else acc) with h | ⟨i, hi, h1, h2⟩
    · by_cases hp : P a = true
      · rw [if_pos hp] at h
        exact Or.inr ⟨a, List.mem_cons_self, by rw [if_pos hp]; exact h, hp⟩
      · rw [if_neg hp] at h
        exact Or.inl (by rw [if_neg hp]; exact h)
    · exact Or.inr ⟨i, List.mem_cons_of_mem _ hi, h1, h2⟩

theorem flatMap_pair_get {α : Type} (f h : Nat → α) : ∀ (l : List Nat) (j : Nat),
    (l.flatMap (fun i => [f i, h i]))[2 * j]? = (l[j]?).map f ∧
    (l.flatMap (fun i => [f i, h i]))[2 * j + 1]? = (l[j]?).map h
  | [], j => by simp
  | a :: l, 0 => by simp
  | a :: l, j + 1 => by
    have := flatMap_pair_get f h l j
    simp only [List.flatMap_cons, List.cons_append, List.nil_append]
    rw [show 2 * (j + 1) = 2 * j + 1 + 1 by omega, show 2 * j + 1 + 1 + 1 = (2 * j + 1) + 1 + 1 by omega]
    simp only [List.getElem?_cons_succ]
    exact this

theorem ite_pair {α : Type} (c : Prop) [Decidable c] (a b d : α) :
    (if c then [a, b] else [d, d]) = [if c then a else d, if c then b else d] := by
  split <;> rfl

/-- what `rset_find` reports when it finds pattern `set`: the offsets of the `setgrpcnt[set] + 1` groups
    from `grp[set]` on, then `-1`s, `n` pairs in all -/
theorem find_spec (rs : RSet) (s : Bytes) (n flg nd ngrps : Nat) (set : Int) (out : List Int) (c : Nat)
    (h : Rset.find rs s n flg nd ngrps = some (set, out, c)) (hset : 0 ≤ set) :
    ∃ rflg m c' offs, regexec rs.prog s rs.grpcnt rflg nd ngrps = (ExecRes.found m c', offs) ∧
      set.toNat < rs.n ∧ 0 ≤ rs.grp.getD set.toNat (-1) ∧
      0 ≤ (offs.getD (rs.grp.getD set.toNat (-1)).toNat (-1, -1)).1 ∧
      ∀ i, out.getD (2 * i) (-1) = (if i < n then
            if i < rs.setgrpcnt.getD set.toNat 0 + 1 then
              (offs.getD ((rs.grp.getD set.toNat 0).toNat + i) (-1, -1)).1 else -1
          else -1) ∧
        out.getD (2 * i + 1) (-1) = (if i < n then
            if i < rs.setgrpcnt.getD set.toNat 0 + 1 then
              (offs.getD ((rs.grp.getD set.toNat 0).toNat + i) (-1, -1)).2 else -1
          else -1) := by
  unfold Rset.find at h
  split at h
  · cases h; omega
  · dsimp only at h
    split at h
    · cases h
    · cases h; omega
    · next m c' offs hex =>
      split at h
      · cases h; omega
      · next hneg =>
        simp only [Option.some.injEq, Prod.mk.injEq] at h
        obtain ⟨h1, h2, _⟩ := h
        refine ⟨_, m, c', offs, hex, ?_⟩
        have hsel := selFold (fun i => decide (rs.grp.getD i (-1) ≥ 0) &&
          decide ((offs.getD (rs.grp.getD i (-1)).toNat (-1, -1)).1 ≥ 0)) (List.range rs.n) (-1)
        dsimp only at hsel
        rw [h1] at hsel h2
        rcases hsel with hs | ⟨i, hi, hs1, hs2⟩
        · omega
        · have hi' : set.toNat = i := by omega
          simp only [Bool.and_eq_true, decide_eq_true_eq] at hs2
          rw [hi']
          refine ⟨List.mem_range.mp hi, hs2.1, hs2.2, ?_⟩
          intro j
          simp only [ite_pair] at h2
          rw [List.getD_eq_getElem?_getD (l := out), List.getD_eq_getElem?_getD (l := out), ← h2, hi',
            (flatMap_pair_get _ _ _ j).1, (flatMap_pair_get _ _ _ j).2]
          by_cases hj : j < n
          · rw [List.getElem?_range hj, if_pos hj, if_pos hj]; exact ⟨rfl, rfl⟩
          · rw [List.getElem?_eq_none (by simp; omega), if_neg hj, if_neg hj]; exact ⟨rfl, rfl⟩

theorem find_pairs (rs : RSet) (s : Bytes) (n flg nd ngrps : Nat) (set : Int) (out : List Int) (c : Nat)
    (h : Rset.find rs s n flg nd ngrps = some (set, out, c)) (hset : 0 ≤ set) :
    ∃ rflg m c' offs, ∃ G : Nat, regexec rs.prog s rs.grpcnt rflg nd ngrps = (ExecRes.found m c', offs) ∧
      set.toNat < rs.n ∧ rs.grp[set.toNat]? = some (G : Int) ∧ 0 ≤ (offs.getD G (-1, -1)).1 ∧
      (0 < n → (out.getD 0 (-1), out.getD 1 (-1)) = offs.getD G (-1, -1)) ∧
      ∀ g, (out.getD (2 * g) (-1), out.getD (2 * g + 1) (-1)) = (-1, -1) ∨
        (out.getD (2 * g) (-1), out.getD (2 * g + 1) (-1)) = offs.getD (G + g) (-1, -1) := by
  obtain ⟨rflg, m, c', offs, hex, hlt, hg0, hso, hout⟩ := find_spec rs s n flg nd ngrps set out c h hset
  simp only [List.getD_eq_getElem?_getD (l := rs.grp)] at hg0 hso hout
  cases hg : rs.grp[set.toNat]? with
  | none => rw [hg] at hg0; simp at hg0
  | some b =>
    simp only [hg, Option.getD_some] at hout hg0 hso
    obtain ⟨G, rfl⟩ : ∃ G : Nat, b = (G : Int) := ⟨b.toNat, by omega⟩
    rw [Int.toNat_natCast] at hso
    simp only [Int.toNat_natCast] at hout
    refine ⟨rflg, m, c', offs, G, hex, hlt, rfl, hso, fun hn => ?_, fun g => ?_⟩
    · have h0 := hout 0
      rw [Nat.mul_zero, if_pos hn, if_pos (Nat.succ_pos _), if_pos hn, if_pos (Nat.succ_pos _), Nat.add_zero] at h0
      exact Prod.ext h0.1 h0.2
    · rw [(hout g).1, (hout g).2]
      by_cases h1 : g < n ∧ g < rs.setgrpcnt.getD set.toNat 0 + 1
      · rw [if_pos h1.1, if_pos h1.2, if_pos h1.1, if_pos h1.2]
        exact Or.inr rfl
      · left
        split
        · split
          · exact absurd ⟨‹_›, ‹_›⟩ h1
          · rfl
        · rfl

theorem getD_pair_mem {offs : List (Int × Int)} (k : Nat) (P : Int → Prop) (h1 : P (-1))
    (h : ∀ so eo, (so, eo) ∈ offs → P so ∧ P eo) :
    P (offs.getD k (-1, -1)).1 ∧ P (offs.getD k (-1, -1)).2 := by
  rw [List.getD_eq_getElem?_getD]
  cases hk : offs[k]? with
  | none => exact ⟨h1, h1⟩
  | some x => exact h x.1 x.2 (List.mem_of_getElem? hk)

theorem find_offsets (rs : RSet) (s : Bytes) (n flg nd ngrps : Nat) (set : Int) (out : List Int) (c : Nat)
    (h : Rset.find rs s n flg nd ngrps = some (set, out, c)) (hset : 0 ≤ set) :
    ∃ rflg m c' offs, regexec rs.prog s rs.grpcnt rflg nd ngrps = (ExecRes.found m c', offs) ∧
      set.toNat < rs.n ∧ (0 < n → 0 ≤ out.getD 0 (-1)) ∧
      ∀ P : Int → Prop, P (-1) → (∀ so eo, (so, eo) ∈ offs → P so ∧ P eo) → ∀ k, P (out.getD k (-1)) := by
  obtain ⟨rflg, m, c', offs, G, hex, h1, _, h3, h4, h5⟩ := find_pairs rs s n flg nd ngrps set out c h hset
  refine ⟨rflg, m, c', offs, hex, h1, fun hn => ?_, fun P hP hoffs k => ?_⟩
  · rw [show out.getD 0 (-1) = (offs.getD G (-1, -1)).1 from congrArg Prod.fst (h4 hn)]
    exact h3
  · have hk : k = 2 * (k / 2) ∨ k = 2 * (k / 2) + 1 := by omega
    have hp : P (out.getD (2 * (k / 2)) (-1)) ∧ P (out.getD (2 * (k / 2) + 1) (-1)) := by
      rcases h5 (k / 2) with e | e
      · rw [show out.getD (2 * (k / 2)) (-1) = -1 from congrArg Prod.fst e,
          show out.getD (2 * (k / 2) + 1) (-1) = -1 from congrArg Prod.snd e]
        exact ⟨hP, hP⟩
      · rw [show out.getD (2 * (k / 2)) (-1) = _ from congrArg Prod.fst e,
          show out.getD (2 * (k / 2) + 1) (-1) = _ from congrArg Prod.snd e]
        exact getD_pair_mem _ P hP hoffs
    rcases hk with hk | hk
    · rw [hk]; exact hp.1
    · rw [hk]; exact hp.2

end Neatvi.Props.C18c
