import NeatviVerif.Props.C16
import NeatviVerif.Model.Dir
/-!
# C18c helpers: `slice`, `ucChop`, `ucOff` on a valid UTF-8 line

`byteOff cs k` (Spec) is the byte offset of character `k` of `encStr cs`.  A *boundary* of `encStr cs`
is an offset of the form `byteOff cs k` with `k ≤ cs.length` (the same predicate as `C11b.Boundary`,
which unfolds `byteOff`).
-/
namespace Neatvi.Props.C18c
open Neatvi Neatvi.Uc Neatvi.Spec Neatvi.Dir

/-- all code points valid (the same predicate as `C11b.Valid` of `Lemmas/C11bUtf8.lean`) -/
def ValidStr (cs : List Nat) : Prop := ∀ c ∈ cs, ValidCp c

instance (cs : List Nat) : Decidable (ValidStr cs) := by unfold ValidStr; exact inferInstance

/-- `off` is a character boundary of `encStr cs` -/
def IsBoundary (cs : List Nat) (off : Nat) : Prop := ∃ k, k ≤ cs.length ∧ off = byteOff cs k

theorem validStr_sub {cs : List Nat} (h : ValidStr cs) (b e : Nat) : ValidStr ((cs.take e).drop b) :=
  fun c hc => h c (List.mem_of_mem_take (List.mem_of_mem_drop hc))

theorem byteOff_strict (cs : List Nat) {j k : Nat} (h : j < k) (hk : k ≤ cs.length) :
    byteOff cs j < byteOff cs k := by
  obtain ⟨d, rfl⟩ := Nat.exists_eq_add_of_le (Nat.le_of_lt h)
  rw [byteOff_add]
  have h1 := Uc.length_le_encStr ((cs.drop j).take d)
  rw [List.length_take, List.length_drop] at h1
  have : 0 < min d (cs.length - j) := by omega
  omega

theorem byteOff_le_iff (cs : List Nat) {j k : Nat} (hj : j ≤ cs.length) :
    byteOff cs j ≤ byteOff cs k ↔ j ≤ k := by
  constructor
  · intro h
    apply Decidable.byContradiction
    intro hn
    have := byteOff_strict cs (show k < j by omega) hj
    omega
  · exact byteOff_mono cs

theorem byteOff_length (cs : List Nat) : byteOff cs cs.length = (encStr cs).length := by
  unfold byteOff; rw [List.take_length]

theorem chop_length {cs : List Nat} (h : ValidStr cs) : (ucChop (encStr cs)).length = cs.length + 1 := by
  rw [C16.chop_spec h]; simp

theorem chop_get {cs : List Nat} (h : ValidStr cs) {k : Nat} (hk : k ≤ cs.length) :
    (ucChop (encStr cs))[k]? = some (byteOff cs k) := by
  rw [C16.chop_spec h, List.getElem?_map, List.getElem?_range (by omega)]
  rfl

theorem slice_spec {cs : List Nat} (h : ValidStr cs) {b e : Nat} (hbe : b ≤ e) (he : e ≤ cs.length) :
    slice (encStr cs) (ucChop (encStr cs)) b e = some (encStr ((cs.take e).drop b)) := by
  unfold slice
  rw [chop_get h (show b ≤ cs.length by omega), chop_get h he]
  have hs := C16.sub_spec h b e hbe he
  unfold ucSub at hs
  rw [C16.chr_spec h, C16.chr_spec h, if_pos (by omega), if_pos he] at hs
  simp only [byteOff_mono cs hbe, if_true] at hs
  simp only [hs]

theorem ucOff_boundary {cs : List Nat} (h : ValidStr cs) {off : Nat} (hb : IsBoundary cs off) :
    ∃ k, k ≤ cs.length ∧ off = byteOff cs k ∧ ucOff (encStr cs) off = k := by
  obtain ⟨k, hk, rfl⟩ := hb
  exact ⟨k, hk, rfl, C16.off_chr_roundtrip h k hk⟩

theorem ucOff_le_length {cs : List Nat} (h : ValidStr cs) {off : Nat} (hb : IsBoundary cs off) :
    ucOff (encStr cs) off ≤ cs.length := by
  obtain ⟨k, hk, _, e⟩ := ucOff_boundary h hb
  omega

theorem ucOff_le_iff {cs : List Nat} (h : ValidStr cs) {x y : Nat} (hx : IsBoundary cs x) (hy : IsBoundary cs y) :
    ucOff (encStr cs) x ≤ ucOff (encStr cs) y ↔ x ≤ y := by
  obtain ⟨j, hj, rfl, e1⟩ := ucOff_boundary h hx
  obtain ⟨k, hk, rfl, e2⟩ := ucOff_boundary h hy
  rw [e1, e2, byteOff_le_iff cs hj]

theorem ucOff_lt_iff {cs : List Nat} (h : ValidStr cs) {x y : Nat} (hx : IsBoundary cs x) (hy : IsBoundary cs y) :
    ucOff (encStr cs) x < ucOff (encStr cs) y ↔ x < y := by
  rw [← Nat.not_le, ← Nat.not_le, ucOff_le_iff h hy hx]

end Neatvi.Props.C18c
