import NeatviVerif.Lemmas.C19Screen
/-!
# C19, `vi_drawfix`: the screen after a partial redraw, row by row
-/
namespace Neatvi.Lemmas.C19
open Neatvi Neatvi.Mot Neatvi.Screen

/-- `term_room` on a freshly painted screen, with integer conditions only -/
theorem room_repaint_getElem? (old : Lines) (xtop xleft r a : Int) (rows j : Nat)
    (hr0 : 0 ≤ r) (hr : r < (rows : Int)) (hj : j < rows) :
    (room (repaint old xtop xleft rows) r a)[j]? =
      if (j : Int) < r then some (some (img old xleft (xtop + (j : Int))))
      else if a < 0 then
        (if (j : Int) - a < (rows : Int) then some (some (img old xleft (xtop + (j : Int) - a))) else some none)
      else if (j : Int) < r + a then some none
      else some (some (img old xleft (xtop + (j : Int) - a))) := by
  obtain ⟨r', rfl⟩ : ∃ r' : Nat, r = (r' : Int) := ⟨r.toNat, by omega⟩
  have hl := repaint_length old xtop xleft rows
  by_cases h1 : (j : Int) < (r' : Int)
  · rw [if_pos h1]
    by_cases ha : a < 0
    · rw [room_del_getElem? _ _ _ (by omega) ha, if_pos (by omega), repaint_getElem _ _ _ _ _ hj]
    · by_cases ha' : 0 < a
      · rw [room_ins_getElem? _ _ _ (by omega) ha', if_pos (by omega), repaint_getElem _ _ _ _ _ hj]
      · rw [show a = 0 by omega, room_zero, repaint_getElem _ _ _ _ _ hj]
  · rw [if_neg h1]
    by_cases ha : a < 0
    · rw [if_pos ha, room_del_getElem? _ _ _ (by omega) ha, if_neg (by omega), hl]
      by_cases h2 : (j : Int) - a < (rows : Int)
      · rw [if_pos h2, if_pos (by omega), repaint_getElem _ _ _ _ _ (by omega)]
        congr 3; omega
      · rw [if_neg h2, if_neg (by omega), if_pos hj]
    · rw [if_neg ha]
      by_cases ha' : 0 < a
      · rw [room_ins_getElem? _ _ _ (by omega) ha', if_neg (by omega), hl]
        by_cases h2 : (j : Int) < (r' : Int) + a
        · rw [if_pos h2, if_pos (by omega)]
        · rw [if_neg h2, if_neg (by omega), if_pos hj, repaint_getElem _ _ _ _ _ (by omega)]
          congr 3; omega
      · rw [show a = 0 by omega, room_zero, repaint_getElem _ _ _ _ _ hj, if_neg (by omega)]
        congr 3; omega

/-- the routine as it was before the repair (`vi_drawfix` without the guard for a range that starts
    above the window); kept to state what was wrong with it -/
def drawFixOld (s : Scr) (ls : Lines) (xtop xleft : Int) (r1 r2 n : Int) (preview : Bool) : Scr × Int :=
  let xrows : Int := s.length
  let dis := n - (r2 - r1 + 1)
  let xtop := if preview && r1 < xtop then r1 else xtop
  let r1 := min (max r1 xtop) (xtop + xrows - 1)
  let r2 := min (max r2 xtop) (xtop + xrows - 1)
  let s := room s (r1 - xtop) (r1 - r2 - 1 + n)
  let s :=
    if dis < 0 && r1 + n < xtop + xrows then
      let xt := xtop + (if preview then -dis else 0)
      let from_ := r1 + n + (if preview then -dis else 0)
      drawRows s ls xt xleft ((List.range (xt + xrows - from_).toNat).map (fun (i : Nat) => from_ + (i : Int)))
    else s
  let s := drawRows s ls xtop xleft ((List.range (xtop + xrows - r1).toNat).filterMap (fun (i : Nat) =>
    let row := r1 + (i : Int); if row < r1 + n then some row else none))
  (s, xtop)

/-- the repaired routine is the old one behind a guard -/
theorem drawFix_eq (s : Scr) (ls : Lines) (xtop xleft r1 r2 n : Int) (p : Bool) :
    drawFix s ls xtop xleft r1 r2 n p =
      if r1 < (if p && r1 < xtop then r1 else xtop) then
        (drawRows s ls (if p && r1 < xtop then r1 else xtop) xleft
          ((List.range s.length).map (fun (k : Nat) => (if p && r1 < xtop then r1 else xtop) + (k : Int))),
         if p && r1 < xtop then r1 else xtop)
      else drawFixOld s ls xtop xleft r1 r2 n p := by
  unfold drawFix drawFixOld
  simp only []

theorem drawRows_all (s : Scr) (ls : Lines) (xtop xleft : Int) :
    drawRows s ls xtop xleft ((List.range s.length).map (fun (k : Nat) => xtop + (k : Int))) =
      repaint ls xtop xleft s.length := by
  rw [eq_repaint_iff]
  refine ⟨drawRows_length .., fun k hk => ?_⟩
  rw [drawRows_getElem?, if_pos ⟨hk, (mem_rangeMap ..).mpr ⟨by omega, by omega⟩⟩]

/-- in preview mode the guard never fires -/
theorem drawFix_preview_eq (s : Scr) (ls : Lines) (xtop xleft r1 r2 n : Int) :
    drawFix s ls xtop xleft r1 r2 n true = drawFixOld s ls xtop xleft r1 r2 n true := by
  rw [drawFix_eq, if_neg]
  simp only [Bool.true_and, decide_eq_true_eq]
  split <;> omega

theorem length_ite {α : Type} (c : Prop) [Decidable c] (a b : List α) (m : Nat)
    (h1 : a.length = m) (h2 : b.length = m) : (if c then a else b).length = m := by
  split <;> assumption

theorem drawFixOld_length (s : Scr) (ls : Lines) (xtop xleft r1 r2 n : Int) (p : Bool) :
    (drawFixOld s ls xtop xleft r1 r2 n p).1.length = s.length := by
  unfold drawFixOld
  simp only []
  rw [drawRows_length]
  apply length_ite
  · rw [drawRows_length, room_length]
  · rw [room_length]

theorem drawFixOld_snd (s : Scr) (ls : Lines) (xtop xleft r1 r2 n : Int) (p : Bool) :
    (drawFixOld s ls xtop xleft r1 r2 n p).2 = if p && r1 < xtop then r1 else xtop := rfl

theorem img_congr {a b : Lines} {i j : Int} (xleft : Int) (h : lineAt a i = lineAt b j) :
    (some (some (img a xleft i)) : Option (Option Img)) = some (some (img b xleft j)) := by
  unfold img; rw [h]

/-- the old routine row by row: the `n` new lines from `c1` on are drawn; when lines were lost and
    the window reaches below them, so are the rows from `c1 + n` on (in preview mode as if the lost
    lines were already gone); every other row is what `term_room` left there -/
theorem drawFixOld_getElem? (s : Scr) (ls : Lines) (xtop xleft r1 r2 n : Int) (p : Bool) (k : Nat)
    (t c1 c2 d : Int) (ht : t = if p && r1 < xtop then r1 else xtop)
    (hc1 : c1 = min (max r1 t) (t + (s.length : Int) - 1)) (hc2 : c2 = min (max r2 t) (t + (s.length : Int) - 1))
    (hd : d = if p then -(n - (r2 - r1 + 1)) else 0) :
    (drawFixOld s ls xtop xleft r1 r2 n p).1[k]? =
      if k < s.length ∧ c1 ≤ t + (k : Int) ∧ t + (k : Int) < c1 + n then some (some (img ls xleft (t + (k : Int))))
      else if k < s.length ∧ (n - (r2 - r1 + 1) < 0 ∧ c1 + n < t + (s.length : Int)) ∧ c1 + n ≤ t + (k : Int) then
        some (some (img ls xleft (t + d + (k : Int))))
      else (room s (c1 - t) (c1 - c2 - 1 + n))[k]? := by
  subst ht
  unfold drawFixOld
  simp only []
  rw [← hc1, ← hc2, ← hd]
  clear hc1 hc2 hd
  generalize (if (p && decide (r1 < xtop)) = true then r1 else xtop) = t
  by_cases hB : n - (r2 - r1 + 1) < 0 ∧ c1 + n < t + (s.length : Int)
  · have hB' : (decide (n - (r2 - r1 + 1) < 0) && decide (c1 + n < t + (s.length : Int))) = true := by
      simp only [Bool.and_eq_true, decide_eq_true_eq]; exact hB
    rw [if_pos hB', drawRows_getElem?_iff _ _ _ _ _ _ _ (mem_rangeFilterMap ..), drawRows_length, room_length,
      drawRows_getElem?_iff _ _ _ _ _ _ _ (mem_rangeMap ..), room_length]
    by_cases h1 : k < s.length ∧ c1 ≤ t + (k : Int) ∧ t + (k : Int) < c1 + n
    · rw [if_pos (by omega), if_pos h1]
    · rw [if_neg (by omega), if_neg h1]
      by_cases h2 : k < s.length ∧ c1 + n ≤ t + (k : Int)
      · rw [if_pos (by omega), if_pos ⟨h2.1, hB, h2.2⟩]
      · rw [if_neg (by omega), if_neg (fun h => h2 ⟨h.1, h.2.2⟩)]
  · have hB' : ¬ (decide (n - (r2 - r1 + 1) < 0) && decide (c1 + n < t + (s.length : Int))) = true := by
      simp only [Bool.and_eq_true, decide_eq_true_eq]; exact hB
    rw [if_neg hB', drawRows_getElem?_iff _ _ _ _ _ _ _ (mem_rangeFilterMap ..), room_length]
    by_cases h1 : k < s.length ∧ c1 ≤ t + (k : Int) ∧ t + (k : Int) < c1 + n
    · rw [if_pos (by omega), if_pos h1]
    · rw [if_neg (by omega), if_neg h1, if_neg (fun h => hB h.2.1)]

/-- the clamp of `vi_drawfix` brings `x` into the window `[lo, lo + rows)`; it moves `x` down only
    when `x` is below the window -/
theorem clamp_spec (x lo : Int) (rows : Nat) (h : 0 < rows) :
    lo ≤ min (max x lo) (lo + (rows : Int) - 1) ∧ min (max x lo) (lo + (rows : Int) - 1) < lo + (rows : Int) ∧
      (lo < min (max x lo) (lo + (rows : Int) - 1) → min (max x lo) (lo + (rows : Int) - 1) ≤ x) := by
  omega

/-- when no line is lost and the new lines end inside the window, `term_room` is called with the
    displacement, and the first line was not clamped down — provided the range does not start above
    the window, or is one of the harmless cases of the routine before the repair -/
theorem room_amount (xtop r1 r2 n : Int) (rows : Nat) (h12 : r1 ≤ r2)
    (hwin : xtop ≤ r1 ∨ n < r2 - r1 + 1 ∨ r1 = r2 ∨ (rows : Int) ≤ n ∨ xtop + (rows : Int) ≤ r2)
    (hd : 0 ≤ n - (r2 - r1 + 1))
    (hfit : min (max r1 xtop) (xtop + (rows : Int) - 1) + n < xtop + (rows : Int)) :
    min (max r1 xtop) (xtop + (rows : Int) - 1) - min (max r2 xtop) (xtop + (rows : Int) - 1) - 1 + n =
        n - (r2 - r1 + 1) ∧
      r1 ≤ min (max r1 xtop) (xtop + (rows : Int) - 1) := by
  omega

theorem drawFixOld_repaint_of_shift (old new : Lines) (xtop xleft r1 r2 n : Int) (rows : Nat)
    (h12 : r1 ≤ r2) (hn : 0 ≤ n)
    (hlo : ∀ i, i < r1 → lineAt new i = lineAt old i)
    (hhi : ∀ i, r1 + n ≤ i → lineAt new i = lineAt old (i - (n - (r2 - r1 + 1))))
    (hwin : xtop ≤ r1 ∨ n < r2 - r1 + 1 ∨ r1 = r2 ∨ (rows : Int) ≤ n ∨ xtop + (rows : Int) ≤ r2) :
    (drawFixOld (repaint old xtop xleft rows) new xtop xleft r1 r2 n false).1 = repaint new xtop xleft rows := by
  rw [eq_repaint_iff]
  refine ⟨by rw [drawFixOld_length, repaint_length], fun k hk => ?_⟩
  rw [drawFixOld_getElem? _ new xtop xleft r1 r2 n false k xtop _ _ 0 rfl rfl rfl rfl, repaint_length]
  obtain ⟨c1a, c1b, c1c⟩ := clamp_spec r1 xtop rows (by omega)
  have hroom := room_amount xtop r1 r2 n rows h12 hwin
  clear hwin
  generalize min (max r1 xtop) (xtop + (rows : Int) - 1) = c1 at *
  generalize min (max r2 xtop) (xtop + (rows : Int) - 1) = c2 at *
  by_cases h1 : k < rows ∧ c1 ≤ xtop + (k : Int) ∧ xtop + (k : Int) < c1 + n
  · rw [if_pos h1]
  · rw [if_neg h1]
    by_cases h2 : k < rows ∧ (n - (r2 - r1 + 1) < 0 ∧ c1 + n < xtop + (rows : Int)) ∧ c1 + n ≤ xtop + (k : Int)
    · rw [if_pos h2, Int.add_zero]
    · rw [if_neg h2, room_repaint_getElem? old xtop xleft (c1 - xtop) (c1 - c2 - 1 + n) rows k (by omega) (by omega) hk]
      by_cases h3 : (k : Int) < c1 - xtop
      · rw [if_pos h3]
        exact (img_congr xleft (hlo _ (by omega))).symm
      · obtain ⟨ha, hb⟩ := hroom (by omega) (by omega)
        rw [if_neg h3, if_neg (by omega), if_neg (by omega), ha]
        exact (img_congr xleft (hhi _ (by omega))).symm

/-- the preview redraw of `c`: the buffer is unchanged, the screen is drawn as if the lines after
    `r1 + n - 1` up to `r2` were already gone -/
theorem drawFix_preview_getElem? (ls : Lines) (xtop xleft r1 r2 n : Int) (rows : Nat)
    (h12 : r1 ≤ r2) (hn : 0 ≤ n) (hvis : r1 < xtop + (rows : Int))
    (hwin : xtop ≤ r1 ∨ n < r2 - r1 + 1 ∨ (rows : Int) ≤ n) (k : Nat) (hk : k < rows) :
    (drawFix (repaint ls xtop xleft rows) ls xtop xleft r1 r2 n true).1[k]? =
      some (some (img ls xleft
        (if min xtop r1 + (k : Int) < r1 + n then min xtop r1 + (k : Int)
         else min xtop r1 + (k : Int) - (n - (r2 - r1 + 1))))) := by
  rw [drawFix_preview_eq]
  have ht : min xtop r1 = if (true && decide (r1 < xtop)) = true then r1 else xtop := by
    simp only [Bool.true_and, decide_eq_true_eq]
    split <;> omega
  rw [drawFixOld_getElem? _ ls xtop xleft r1 r2 n true k (min xtop r1) _ _ (-(n - (r2 - r1 + 1))) ht rfl rfl rfl,
    repaint_length]
  clear ht
  -- the window now starts at `t = min xtop r1 ≤ r1`, so `r1` is not clamped
  have hc1 : min (max r1 (min xtop r1)) (min xtop r1 + (rows : Int) - 1) = r1 := by omega
  have hmin : min xtop r1 ≤ r1 ∧ (min xtop r1 = xtop ∨ min xtop r1 = r1 ∧ r1 < xtop) := by omega
  have hroom := room_amount (min xtop r1) r1 r2 n rows h12 (Or.inl hmin.1)
  rw [hc1] at hroom ⊢
  clear hc1
  generalize min xtop r1 = t at *
  generalize min (max r2 t) (t + (rows : Int) - 1) = c2 at *
  by_cases h1 : k < rows ∧ r1 ≤ t + (k : Int) ∧ t + (k : Int) < r1 + n
  · rw [if_pos h1, if_pos h1.2.2]
  · rw [if_neg h1]
    by_cases h2 : k < rows ∧ (n - (r2 - r1 + 1) < 0 ∧ r1 + n < t + (rows : Int)) ∧ r1 + n ≤ t + (k : Int)
    · rw [if_pos h2, if_neg (by omega)]
      congr 3; omega
    · rw [if_neg h2, room_repaint_getElem? ls xtop xleft (r1 - t) (r1 - c2 - 1 + n) rows k (by omega) (by omega) hk]
      by_cases h3 : (k : Int) < r1 - t
      · rw [if_pos h3, if_pos (by omega)]
        congr 3; omega
      · obtain ⟨ha, _⟩ := hroom (by omega) (by omega)
        rw [if_neg h3, if_neg (by omega), if_neg (by omega), if_neg (by omega), ha]
        congr 3; omega

/-- the repaired routine without preview, abstract form: `new` agrees with `old` above `r1` and, from `r1 + n` on,
    up to the displacement `n - (r2 - r1 + 1)`; the `n` lines in between are arbitrary.  No hypothesis on where
    the window is. -/
theorem drawFix_repaint_of_shift (old new : Lines) (xtop xleft r1 r2 n : Int) (rows : Nat)
    (h12 : r1 ≤ r2) (hn : 0 ≤ n)
    (hlo : ∀ i, i < r1 → lineAt new i = lineAt old i)
    (hhi : ∀ i, r1 + n ≤ i → lineAt new i = lineAt old (i - (n - (r2 - r1 + 1)))) :
    drawFix (repaint old xtop xleft rows) new xtop xleft r1 r2 n false = (repaint new xtop xleft rows, xtop) := by
  rw [drawFix_eq]
  simp only [Bool.false_and, Bool.false_eq_true, if_false]
  split
  · rw [drawRows_all, repaint_length]
  · apply Prod.ext
    · exact drawFixOld_repaint_of_shift old new xtop xleft r1 r2 n rows h12 hn hlo hhi (Or.inl (by omega))
    · rfl

theorem drawFix_length (s : Scr) (ls : Lines) (xtop xleft r1 r2 n : Int) (p : Bool) :
    (drawFix s ls xtop xleft r1 r2 n p).1.length = s.length := by
  rw [drawFix_eq]
  by_cases h : r1 < (if p && r1 < xtop then r1 else xtop)
  · rw [if_pos h, drawRows_length]
  · rw [if_neg h]; exact drawFixOld_length ..

theorem drawFix_snd (s : Scr) (ls : Lines) (xtop xleft r1 r2 n : Int) (p : Bool) :
    (drawFix s ls xtop xleft r1 r2 n p).2 = if p && r1 < xtop then r1 else xtop := by
  rw [drawFix_eq]
  by_cases h : r1 < (if p && r1 < xtop then r1 else xtop)
  · rw [if_pos h]
  · rw [if_neg h]; rfl

theorem lineAt_splice_lo (old mid : Lines) (a b : Nat) (ha : a ≤ old.length) (i : Int) (hi : i < (a : Int)) :
    lineAt (old.take a ++ mid ++ old.drop b) i = lineAt old i := by
  unfold lineAt
  split
  · rfl
  · rw [List.append_assoc, List.getElem?_append_left (by rw [List.length_take]; omega),
      List.getElem?_take, if_pos (by omega)]

theorem lineAt_splice_hi (old mid : Lines) (a b : Nat) (ha : a ≤ old.length) (i : Int)
    (hi : (a : Int) + (mid.length : Int) ≤ i) :
    lineAt (old.take a ++ mid ++ old.drop b) i = lineAt old (i - ((a : Int) + (mid.length : Int)) + (b : Int)) := by
  unfold lineAt
  rw [if_neg (by omega), if_neg (by omega)]
  have hl : (old.take a ++ mid).length = a + mid.length := by
    rw [List.length_append, List.length_take]; omega
  rw [List.getElem?_append_right (by rw [hl]; omega), hl, List.getElem?_drop]
  congr 1; omega

end Neatvi.Lemmas.C19
