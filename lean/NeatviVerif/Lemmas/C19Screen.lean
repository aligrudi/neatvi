import NeatviVerif.Model.Screen
/-!
# C19, pointwise description of the screen primitives (`room`, `drawRow`, `drawRows`, `repaint`) and of `vi_drawagain`
  and `vi_drawupdate`
-/
namespace Neatvi.Lemmas.C19
open Neatvi Neatvi.Mot Neatvi.Screen

theorem blank_length (k : Nat) : (blank k).length = k := by simp [blank]

theorem blank_getElem? (k j : Nat) : (blank k)[j]? = if j < k then some none else none := by
  simp [blank, List.getElem?_replicate]

/-! ### `room` -/

theorem room_length (s : Scr) (r n : Int) : (room s r n).length = s.length := by
  unfold room
  by_cases hc : (decide (r < 0) || decide (r ≥ (s.length : Int))) = true
  · rw [if_pos hc]
  · rw [if_neg hc]
    simp only []
    have hr : r.toNat ≤ s.length := by
      simp only [Bool.or_eq_true, decide_eq_true_eq] at hc
      omega
    clear hc
    generalize r.toNat = r' at hr ⊢
    by_cases hn : n < 0
    · rw [if_pos hn]
      have hk := Nat.min_le_right (-n).toNat (s.length - r')
      generalize min (-n).toNat (s.length - r') = k at hk ⊢
      rw [List.length_append, List.length_append, List.length_take, List.length_drop, blank_length,
        Nat.min_eq_left hr]
      omega
    · rw [if_neg hn]
      by_cases hp : n > 0
      · rw [if_pos hp]
        have hk := Nat.min_le_right n.toNat (s.length - r')
        generalize min n.toNat (s.length - r') = k at hk ⊢
        rw [List.length_append, List.length_append, List.length_take, List.length_take, List.length_drop,
          blank_length, Nat.min_eq_left hr, Nat.min_eq_left (by omega)]
        omega
      · rw [if_neg hp]
theorem room_zero (s : Scr) (r : Int) : room s r 0 = s := by
  unfold room; simp

theorem room_outside (s : Scr) (r n : Int) (h : r < 0 ∨ (s.length : Int) ≤ r) : room s r n = s := by
  unfold room
  rw [if_pos]
  simp only [Bool.or_eq_true, decide_eq_true_eq]; omega

/-- deleting rows: the rows below move up, blanks enter at the bottom -/
theorem room_del_getElem? (s : Scr) (r : Nat) (n : Int) (hr : r < s.length) (hn : n < 0) (j : Nat) :
    (room s (r : Int) n)[j]? =
      if j < r then s[j]?
      else if j + min (-n).toNat (s.length - r) < s.length then s[j + min (-n).toNat (s.length - r)]?
      else if j < s.length then some none else none := by
  unfold room
  rw [if_neg (by simp only [Bool.or_eq_true, decide_eq_true_eq]; omega)]
  simp only [Int.toNat_natCast]
  rw [if_pos hn]
  generalize hk : min (-n).toNat (s.length - r) = k
  have hk' : k ≤ s.length - r := by omega
  by_cases h1 : j < r
  · rw [if_pos h1, List.append_assoc, List.getElem?_append_left (by simp; omega)]
    simp [h1]
  · rw [if_neg h1, List.append_assoc, List.getElem?_append_right (by simp; omega)]
    simp only [List.length_take]
    rw [show min r s.length = r by omega]
    by_cases h2 : j + k < s.length
    · rw [if_pos h2, List.getElem?_append_left (by simp; omega), List.getElem?_drop]
      congr 1; omega
    · rw [if_neg h2, List.getElem?_append_right (by simp; omega), blank_getElem?]
      simp only [List.length_drop]
      by_cases h3 : j < s.length
      · rw [if_pos h3, if_pos (by omega)]
      · rw [if_neg h3, if_neg (by omega)]

/-- inserting rows: blanks enter at the cursor row, the rows below move down and fall off -/
theorem room_ins_getElem? (s : Scr) (r : Nat) (n : Int) (hr : r < s.length) (hn : 0 < n) (j : Nat) :
    (room s (r : Int) n)[j]? =
      if j < r then s[j]?
      else if j < r + min n.toNat (s.length - r) then some none
      else if j < s.length then s[j - min n.toNat (s.length - r)]? else none := by
  unfold room
  rw [if_neg (by simp only [Bool.or_eq_true, decide_eq_true_eq]; omega)]
  simp only [Int.toNat_natCast]
  rw [if_neg (by omega), if_pos hn]
  generalize hk : min n.toNat (s.length - r) = k
  have hk' : k ≤ s.length - r := by omega
  by_cases h1 : j < r
  · rw [if_pos h1, List.append_assoc, List.getElem?_append_left (by simp; omega)]
    simp [h1]
  · rw [if_neg h1, List.append_assoc, List.getElem?_append_right (by simp; omega)]
    simp only [List.length_take]
    rw [show min r s.length = r by omega]
    by_cases h2 : j < r + k
    · rw [if_pos h2, List.getElem?_append_left (by simp [blank]; omega), blank_getElem?, if_pos (by omega)]
    · rw [if_neg h2, List.getElem?_append_right (by simp [blank]; omega), blank_length]
      by_cases h3 : j < s.length
      · rw [if_pos h3, List.getElem?_take, if_pos (by omega), List.getElem?_drop]
        congr 1; omega
      · rw [if_neg h3, List.getElem?_take, if_neg (by omega)]

/-! ### `drawRow`, `drawRows` -/

theorem drawRow_length (s : Scr) (ls : Lines) (xtop xleft i : Int) :
    (drawRow s ls xtop xleft i).length = s.length := by
  unfold drawRow
  simp only []
  split <;> simp

theorem drawRow_getElem? (s : Scr) (ls : Lines) (xtop xleft i : Int) (j : Nat) :
    (drawRow s ls xtop xleft i)[j]? =
      if j < s.length ∧ i = xtop + (j : Int) then some (some (img ls xleft i)) else s[j]? := by
  unfold drawRow
  simp only []
  split
  · rename_i h
    simp only [Bool.or_eq_true, decide_eq_true_eq] at h
    rw [if_neg (by omega)]
  · rename_i h
    simp only [Bool.or_eq_true, decide_eq_true_eq] at h
    rw [List.getElem?_set]
    by_cases h1 : (i - xtop).toNat = j
    · rw [if_pos h1, if_pos (by omega), if_pos (by omega)]
    · rw [if_neg h1, if_neg (by omega)]

theorem drawRows_length (s : Scr) (ls : Lines) (xtop xleft : Int) (is : List Int) :
    (drawRows s ls xtop xleft is).length = s.length := by
  unfold drawRows
  induction is generalizing s with
  | nil => rfl
  | cons i is ih => rw [List.foldl_cons, ih, drawRow_length]

theorem drawRows_nil (s : Scr) (ls : Lines) (xtop xleft : Int) : drawRows s ls xtop xleft [] = s := rfl

theorem drawRows_cons (s : Scr) (ls : Lines) (xtop xleft i : Int) (is : List Int) :
    drawRows s ls xtop xleft (i :: is) = drawRows (drawRow s ls xtop xleft i) ls xtop xleft is := rfl

theorem drawRows_append (s : Scr) (ls : Lines) (xtop xleft : Int) (is js : List Int) :
    drawRows s ls xtop xleft (is ++ js) = drawRows (drawRows s ls xtop xleft is) ls xtop xleft js := by
  unfold drawRows; rw [List.foldl_append]

/-- the order of the rows does not matter: a text row shows the line it stands for iff that line
    was among the rows drawn -/
theorem drawRows_getElem? (s : Scr) (ls : Lines) (xtop xleft : Int) (is : List Int) (j : Nat) :
    (drawRows s ls xtop xleft is)[j]? =
      if j < s.length ∧ xtop + (j : Int) ∈ is then some (some (img ls xleft (xtop + (j : Int)))) else s[j]? := by
  induction is generalizing s with
  | nil => simp [drawRows_nil]
  | cons i is ih =>
    rw [drawRows_cons, ih, drawRow_length, drawRow_getElem?]
    by_cases h1 : j < s.length ∧ xtop + (j : Int) ∈ is
    · rw [if_pos h1, if_pos ⟨h1.1, List.mem_cons_of_mem _ h1.2⟩]
    · rw [if_neg h1]
      by_cases h2 : j < s.length ∧ i = xtop + (j : Int)
      · rw [if_pos h2, if_pos ⟨h2.1, by rw [h2.2]; exact List.mem_cons_self⟩, h2.2]
      · rw [if_neg h2, if_neg]
        intro ⟨h3, h4⟩
        rcases List.mem_cons.mp h4 with h5 | h5
        · exact h2 ⟨h3, h5.symm⟩
        · exact h1 ⟨h3, h5⟩

theorem drawRows_getElem?_iff (s : Scr) (ls : Lines) (xtop xleft : Int) (is : List Int) (j : Nat)
    (P : Prop) [Decidable P] (h : xtop + (j : Int) ∈ is ↔ P) :
    (drawRows s ls xtop xleft is)[j]? =
      if j < s.length ∧ P then some (some (img ls xleft (xtop + (j : Int)))) else s[j]? := by
  rw [drawRows_getElem?]
  by_cases hp : P
  · simp only [h, hp]
  · simp only [h, hp]

/-! ### `repaint` -/

theorem repaint_length (ls : Lines) (top left : Int) (rows : Nat) : (repaint ls top left rows).length = rows := by
  simp [repaint]

theorem repaint_getElem (ls : Lines) (top left : Int) (rows k : Nat) (h : k < rows) :
    (repaint ls top left rows)[k]? = some (some (img ls left (top + (k : Int)))) := by
  simp [repaint, h]

theorem repaint_getElem_ge (ls : Lines) (top left : Int) (rows k : Nat) (h : rows ≤ k) :
    (repaint ls top left rows)[k]? = none := by
  simp [repaint, h]

theorem eq_repaint_iff (s : Scr) (ls : Lines) (top left : Int) (rows : Nat) :
    s = repaint ls top left rows ↔
      s.length = rows ∧ ∀ k, k < rows → s[k]? = some (some (img ls left (top + (k : Int)))) := by
  constructor
  · intro h; subst h
    exact ⟨repaint_length .., fun k hk => repaint_getElem _ _ _ _ _ hk⟩
  · intro ⟨hl, hk⟩
    apply List.ext_getElem?
    intro k
    by_cases h : k < rows
    · rw [hk k h, repaint_getElem _ _ _ _ _ h]
    · rw [repaint_getElem_ge _ _ _ _ _ (by omega), List.getElem?_eq_none (by omega)]

/-! ### membership in the row lists the routines build -/

theorem mem_rangeMap (a x : Int) (m : Nat) :
    x ∈ (List.range m).map (fun (i : Nat) => a + (i : Int)) ↔ a ≤ x ∧ x < a + (m : Int) := by
  simp only [List.mem_map, List.mem_range]
  constructor
  · rintro ⟨i, hi, rfl⟩; omega
  · intro ⟨h1, h2⟩; exact ⟨(x - a).toNat, by omega, by omega⟩

theorem mem_rangeFilterMap (a b x : Int) (m : Nat) :
    x ∈ (List.range m).filterMap (fun (i : Nat) =>
        let row := a + (i : Int); if row < b then some row else none) ↔
      a ≤ x ∧ x < a + (m : Int) ∧ x < b := by
  simp only [List.mem_filterMap, List.mem_range]
  constructor
  · rintro ⟨i, hi, h⟩
    split at h
    · cases h; omega
    · cases h
  · intro ⟨h1, h2, h3⟩
    refine ⟨(x - a).toNat, by omega, ?_⟩
    rw [if_pos (by omega)]; congr 1; omega

theorem mem_againRows (xtop row x : Int) (m : Nat) :
    x ∈ ((List.range m).map (fun (k : Nat) => xtop + (k : Int))).filter (fun i => row < 0 || i == row) ↔
      xtop ≤ x ∧ x < xtop + (m : Int) ∧ (row < 0 ∨ x = row) := by
  rw [List.mem_filter, mem_rangeMap]
  simp only [Bool.or_eq_true, decide_eq_true_eq, beq_iff_eq]
  constructor
  · intro ⟨⟨h1, h2⟩, h3⟩; exact ⟨h1, h2, h3⟩
  · intro ⟨h1, h2, h3⟩; exact ⟨⟨h1, h2⟩, h3⟩

theorem drawAgain_length (s : Scr) (ls : Lines) (xtop xleft row : Int) :
    (drawAgain s ls xtop xleft row).length = s.length := by
  unfold drawAgain; rw [drawRows_length]

theorem drawAgain_getElem? (s : Scr) (ls : Lines) (xtop xleft row : Int) (j : Nat) :
    (drawAgain s ls xtop xleft row)[j]? =
      if j < s.length ∧ (row < 0 ∨ xtop + (j : Int) = row) then some (some (img ls xleft (xtop + (j : Int))))
      else s[j]? := by
  unfold drawAgain
  rw [drawRows_getElem?]
  by_cases h : j < s.length ∧ (row < 0 ∨ xtop + (j : Int) = row)
  · rw [if_pos h, if_pos ⟨h.1, (mem_againRows ..).mpr ⟨by omega, by omega, h.2⟩⟩]
  · rw [if_neg h, if_neg]
    intro ⟨h1, h2⟩
    exact h ⟨h1, ((mem_againRows ..).mp h2).2.2⟩

theorem drawUpdate_length (s : Scr) (ls : Lines) (otop xtop xleft : Int) :
    (drawUpdate s ls otop xtop xleft).length = s.length := by
  unfold drawUpdate
  simp only []
  split
  · rfl
  · split <;> rw [drawRows_length, room_length]

end Neatvi.Lemmas.C19
