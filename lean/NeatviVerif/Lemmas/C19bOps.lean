import NeatviVerif.Props.C19
/-!
# C19b, the logged operations of `vi_drawfix`: definitions, fold lemmas, membership

`drawFixOps` (in `Model/Screen.lean`) lists the primitive operations of `vi_drawfix` with *screen* rows, as
the harness logs them.  To replay them on the abstract terminal one has to know which buffer row a screen
row stands for, i.e. the `xtop` in force when the row is drawn: in preview mode the first loop of
`vi_drawfix` runs with `xtop` shifted by `-dis`.  `drawFixOpsX` is the same list with that `xtop` attached
to every operation; `applyOpAt` replays one such pair; `mem_drawFixOpsX` says what its members are, branch by branch.
-/
namespace Neatvi.Lemmas.C19b
open Neatvi Neatvi.Mot Neatvi.Screen Neatvi.Lemmas.C19 Neatvi.Props.C19

/-- the effect of one logged operation, given the `xtop` in force when it was performed:
    `Op.row k` draws the buffer row `xt + k` on the text row `k` -/
def applyOpAt (ls : Lines) (xleft : Int) (s : Scr) : Op × Int → Scr
  | (Op.room r n, _) => room s r n
  | (Op.row k, xt) => drawRow s ls xt xleft (xt + k)

/-- `drawFixOps` with the `xtop` in force attached to every operation -/
def drawFixOpsX (rows : Nat) (xtop : Int) (r1 r2 n : Int) (preview : Bool) : List (Op × Int) :=
  let xrows : Int := rows
  let dis := n - (r2 - r1 + 1)
  let xtop := if preview && r1 < xtop then r1 else xtop
  if r1 < xtop then (List.range rows).map (fun (k : Nat) => (Op.row (k : Int), xtop)) else
  let r1 := min (max r1 xtop) (xtop + xrows - 1)
  let r2 := min (max r2 xtop) (xtop + xrows - 1)
  [(Op.room (r1 - xtop) (r1 - r2 - 1 + n), xtop)] ++
  (if dis < 0 && r1 + n < xtop + xrows then
    let xt := xtop + (if preview then -dis else 0)
    let from_ := r1 + n + (if preview then -dis else 0)
    (List.range (xt + xrows - from_).toNat).map (fun (i : Nat) => (Op.row (from_ + (i : Int) - xt), xt))
   else []) ++
  ((List.range (xtop + xrows - r1).toNat).filterMap (fun (i : Nat) =>
    let row := r1 + (i : Int); if row < r1 + n then some (Op.row (row - xtop), xtop) else none))

theorem applyOpAt_eq_applyOp (ls : Lines) (xtop xleft : Int) (s : Scr) (o : Op) :
    applyOpAt ls xleft s (o, xtop) = applyOp ls xtop xleft s o := by
  cases o <;> rfl

theorem foldl_applyOpAt_const (ls : Lines) (xtop xleft : Int) (l : List Op) (s : Scr) :
    (l.map (fun o => (o, xtop))).foldl (applyOpAt ls xleft) s = l.foldl (applyOp ls xtop xleft) s := by
  rw [List.foldl_map]
  congr 1
  funext s o
  exact applyOpAt_eq_applyOp ls xtop xleft s o

theorem foldl_applyOpAt_rows (ls : Lines) (xt xleft : Int) (f g : Nat → Int) (l : List Nat) (s : Scr)
    (h : ∀ i, xt + g i = f i) :
    (l.map (fun i => (Op.row (g i), xt))).foldl (applyOpAt ls xleft) s = drawRows s ls xt xleft (l.map f) := by
  rw [← foldl_applyOp_rows ls xt xleft f g l s h, ← foldl_applyOpAt_const, List.map_map]; rfl

theorem foldl_applyOpAt_filterMap (ls : Lines) (xt xleft : Int) (f g : Nat → Int) (c : Nat → Prop)
    [DecidablePred c] (l : List Nat) (s : Scr) (h : ∀ i, xt + g i = f i) :
    (l.filterMap (fun i => if c i then some (Op.row (g i), xt) else none)).foldl (applyOpAt ls xleft) s =
      drawRows s ls xt xleft (l.filterMap (fun i => if c i then some (f i) else none)) := by
  induction l generalizing s with
  | nil => rfl
  | cons a l ih =>
    by_cases hc : c a
    · rw [List.filterMap_cons_some (by rw [if_pos hc]), List.filterMap_cons_some (by rw [if_pos hc]),
        List.foldl_cons, drawRows_cons, ih]
      simp only [applyOpAt, h]
    · rw [List.filterMap_cons_none (by rw [if_neg hc]), List.filterMap_cons_none (by rw [if_neg hc]), ih]

/-- the extended replay of `drawFixOpsX`, for both values of `preview` -/
theorem drawFix_opsX (s : Scr) (ls : Lines) (xtop xleft r1 r2 n : Int) (p : Bool) :
    (drawFix s ls xtop xleft r1 r2 n p).1 =
      (drawFixOpsX s.length xtop r1 r2 n p).foldl (applyOpAt ls xleft) s := by
  unfold drawFix drawFixOpsX
  simp only []
  generalize (if (p && decide (r1 < xtop)) = true then r1 else xtop) = t
  by_cases hg : r1 < t
  · rw [if_pos hg, if_pos hg]
    exact (foldl_applyOpAt_rows ls t xleft (fun k => t + (k : Int)) (fun k => (k : Int)) _ s (fun _ => rfl)).symm
  · rw [if_neg hg, if_neg hg, List.foldl_append, List.foldl_append, List.foldl_cons, List.foldl_nil]
    simp only [applyOpAt]
    generalize min (max r1 t) (t + (s.length : Int) - 1) = c1
    generalize min (max r2 t) (t + (s.length : Int) - 1) = c2
    generalize room s (c1 - t) (c1 - c2 - 1 + n) = s1
    rw [foldl_applyOpAt_filterMap ls t xleft (fun i => c1 + (i : Int)) (fun i => c1 + (i : Int) - t)
      (fun i => c1 + (i : Int) < c1 + n) _ _ (fun i => by omega)]
    congr 1
    split
    · rw [foldl_applyOpAt_rows]
      intro i; omega
    · rfl

/-- forgetting the attached `xtop` gives the list the harness compares -/
theorem drawFixOps_eq_map_fst (rows : Nat) (xtop r1 r2 n : Int) (p : Bool) :
    drawFixOps rows xtop r1 r2 n p = (drawFixOpsX rows xtop r1 r2 n p).map Prod.fst := by
  unfold drawFixOps drawFixOpsX
  simp only []
  generalize (if (p && decide (r1 < xtop)) = true then r1 else xtop) = t
  by_cases hg : r1 < t
  · rw [if_pos hg, if_pos hg, List.map_map]; rfl
  · rw [if_neg hg, if_neg hg, List.map_append, List.map_append, List.map_filterMap]
    congr 1
    · congr 1
      split
      · rw [List.map_map]; rfl
      · rfl
    · congr 1
      funext i
      split <;> rfl

/-- the members of `drawFixOpsX`, with `t` the `xtop` the routine works under, `c1`, `c2` the clamped range and `d` the
    shift of the first loop: all text rows under the guard; else the `term_room`, the rows of the first loop (a
    shrinking range whose new lines end inside the window), and the rows of the new lines -/
theorem mem_drawFixOpsX {rows : Nat} {xtop r1 r2 n : Int} {p : Bool} {x : Op × Int}
    (hx : x ∈ drawFixOpsX rows xtop r1 r2 n p) :
    ∃ t c1 c2 d : Int, t = (if p && r1 < xtop then r1 else xtop) ∧
      c1 = min (max r1 t) (t + (rows : Int) - 1) ∧ c2 = min (max r2 t) (t + (rows : Int) - 1) ∧
      d = (if p then -(n - (r2 - r1 + 1)) else 0) ∧
      ((r1 < t ∧ ∃ k : Nat, k < rows ∧ x = (Op.row (k : Int), t)) ∨
       (¬ r1 < t ∧ x = (Op.room (c1 - t) (c1 - c2 - 1 + n), t)) ∨
       (¬ r1 < t ∧ n - (r2 - r1 + 1) < 0 ∧ c1 + n < t + rows ∧
          ∃ i : Nat, (i : Int) < t + rows - (c1 + n) ∧ x = (Op.row (c1 + n + d + (i : Int) - (t + d)), t + d)) ∨
       (¬ r1 < t ∧ ∃ i : Nat, (i : Int) < t + rows - c1 ∧ (i : Int) < n ∧ x = (Op.row (c1 + (i : Int) - t), t))) := by
  unfold drawFixOpsX at hx
  simp only [] at hx
  refine ⟨_, _, _, _, rfl, rfl, rfl, rfl, ?_⟩
  generalize (if (p && decide (r1 < xtop)) = true then r1 else xtop) = t at hx ⊢
  by_cases hg : r1 < t
  · rw [if_pos hg] at hx
    simp only [List.mem_map, List.mem_range] at hx
    obtain ⟨i, hi, rfl⟩ := hx
    exact Or.inl ⟨hg, i, hi, rfl⟩
  · rw [if_neg hg] at hx
    simp only [List.mem_append, List.mem_singleton, List.mem_filterMap, List.mem_range] at hx
    rcases hx with (rfl | hx) | ⟨i, hi, hx⟩
    · exact Or.inr (Or.inl ⟨hg, rfl⟩)
    · split at hx
      · rename_i hB
        simp only [Bool.and_eq_true, decide_eq_true_eq] at hB
        simp only [List.mem_map, List.mem_range] at hx
        obtain ⟨i, hi, rfl⟩ := hx
        exact Or.inr (Or.inr (Or.inl ⟨hg, hB.1, hB.2, i, by omega, rfl⟩))
      · cases hx
    · split at hx
      · rename_i hc
        cases hx
        exact Or.inr (Or.inr (Or.inr ⟨hg, i, by omega, by omega, rfl⟩))
      · cases hx

theorem row_mem_rangeMap (g : Nat → Int) (m : Nat) (k : Int) :
    Op.row k ∈ (List.range m).map (fun (i : Nat) => Op.row (g i)) ↔ ∃ i, i < m ∧ g i = k := by
  simp only [List.mem_map, List.mem_range, Op.row.injEq]

theorem row_mem_rangeFilterMap (g : Nat → Int) (c : Nat → Prop) [DecidablePred c] (m : Nat) (k : Int) :
    Op.row k ∈ (List.range m).filterMap (fun (i : Nat) => if c i then some (Op.row (g i)) else none) ↔
      ∃ i, i < m ∧ c i ∧ g i = k := by
  simp only [List.mem_filterMap, List.mem_range]
  constructor
  · rintro ⟨i, hi, h⟩
    split at h
    · rename_i hc
      simp only [Option.some.injEq, Op.row.injEq] at h
      exact ⟨i, hi, hc, h⟩
    · cases h
  · rintro ⟨i, hi, hc, h⟩
    exact ⟨i, hi, by rw [if_pos hc, h]⟩

end Neatvi.Lemmas.C19b
