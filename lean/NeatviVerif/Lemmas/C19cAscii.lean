import NeatviVerif.Model.Render
import NeatviVerif.Lemmas.UcBits
import NeatviVerif.Lemmas.C17bWidth
import NeatviVerif.Lemmas.C07Scan
/-!
# C19c lemmas: lines of bytes below 128, and of printable ASCII (and the newline)

A line of bytes in `(0, 128)` (tabs included; `Lemmas/C19dTabs.lean` uses these): its characters are its one-byte suffixes
(`chrs_low`), `ren_position` does not reorder it (`renPosition_low`), the context is left-to-right (`dirContext_nonneg`).
For a line of printable ASCII and newlines (`LineBytes`) moreover every character is one cell wide, has no placeholder,
and the left-to-right table is the identity (`fast_line`).
-/
namespace Neatvi.Lemmas.C19c
open Neatvi Neatvi.Uc Neatvi.Ren

/-- the bytes handled here: printable ASCII and the newline -/
def lineByte (b : Nat) : Bool := b == 10 || (32 ≤ b && b ≤ 126)

/-- every byte of the line is printable ASCII or the newline -/
def LineBytes (s : Bytes) : Prop := ∀ b ∈ s, lineByte b = true

/-- what a byte of the line shows as: the newline as a blank -/
def disp (b : Nat) : Nat := if b = 10 then 32 else b

private theorem asciiTable : (List.range 128).all (fun b => !lineByte b ||
    ((renPlaceholder [b]).isNone && (ucWid [b] == some 1) && (ucLen b == 1) && !(ucR2L b) &&
     (ucIsPrint b == (b != 10)) && (b != 9))) = true := by decide +kernel

theorem lineByte_lt {b : Nat} (h : lineByte b = true) : 0 < b ∧ b < 128 := by
  unfold lineByte at h
  simp only [Bool.or_eq_true, Bool.and_eq_true, beq_iff_eq, decide_eq_true_eq] at h
  omega

theorem lineByte_facts {b : Nat} (h : lineByte b = true) :
    renPlaceholder [b] = none ∧ ucWid [b] = some 1 ∧ ucLen b = 1 ∧ ucR2L b = false ∧
    ucIsPrint b = (b != 10) ∧ b ≠ 9 := by
  have hb := lineByte_lt h
  have := List.all_eq_true.mp asciiTable b (by simpa using hb.2)
  rw [h] at this
  simp only [Bool.not_true, Bool.false_or, Bool.and_eq_true, beq_iff_eq, Bool.not_eq_true', bne_iff_ne, ne_eq,
    Option.isNone_iff_eq_none] at this
  obtain ⟨⟨⟨⟨⟨h1, h2⟩, h3⟩, h4⟩, h5⟩, h6⟩ := this
  exact ⟨h1, h2, h3, h4, h5, h6⟩

theorem lineBytes_append {a b : Bytes} (ha : LineBytes a) (hb : LineBytes b) : LineBytes (a ++ b) := by
  intro x hx
  rcases List.mem_append.mp hx with h | h
  · exact ha x h
  · exact hb x h

theorem lineBytes_of_printable (w : Bytes) (hw : ∀ b ∈ w, 32 ≤ b ∧ b ≤ 126) : LineBytes (w ++ [10]) := by
  apply lineBytes_append
  · intro b hb
    have := hw b hb
    unfold lineByte
    simp only [Bool.or_eq_true, Bool.and_eq_true, beq_iff_eq, decide_eq_true_eq]; omega
  · intro b hb
    simp only [List.mem_singleton] at hb
    subst hb; rfl

theorem lineBytes_no_zero {s : Bytes} (h : LineBytes s) : 0 ∉ s := by
  intro hm
  have := lineByte_lt (h 0 hm)
  omega

/-! ### chopping -/

theorem ucCode_lt {t : Bytes} (h : Bytes.hd t < 128) : ucCode t = some (Bytes.hd t) :=
  Lemmas.C07.ucCode_low t h

/-- the characters of an ASCII line are its suffixes: an ASCII line is its own encoding
    (`Lemmas.C07.Ascii.enc`), and `uc_chop` of an encoded line lists the byte offsets of its characters -/
theorem chrs_low (s : Bytes) (hs : ∀ b ∈ s, 0 < b ∧ b < 128) :
    chrs s = (List.range s.length).map (fun k => s.drop k) := by
  have ha : Lemmas.C07.Ascii s := hs
  have hc : ucChop s = (List.range (s.length + 1)).map (Spec.byteOff s) := by
    have := Props.C16.chop_spec ha.valid
    rwa [ha.enc] at this
  unfold chrs
  rw [hc, List.range_succ, List.map_append]
  simp only [List.map_cons, List.map_nil, List.dropLast_concat, List.map_map]
  apply List.map_congr_left
  intro k hk
  simp only [Function.comp, byteOff_ascii (fun c hc => (hs c hc).2) (Nat.le_of_lt (List.mem_range.mp hk))]

theorem chrs_low_length (s : Bytes) (hs : ∀ b ∈ s, 0 < b ∧ b < 128) : (chrs s).length = s.length := by
  rw [chrs_low s hs]; simp

theorem chrs_low_getD (s : Bytes) (hs : ∀ b ∈ s, 0 < b ∧ b < 128) (k : Nat) (hk : k < s.length) :
    (chrs s).getD k [] = s.drop k := by
  rw [chrs_low s hs, List.getD_eq_getElem?_getD, List.getElem?_map, List.getElem?_range hk]
  rfl

theorem ucSlen_low (s : Bytes) (hs : ∀ b ∈ s, 0 < b ∧ b < 128) : ucSlen s = s.length :=
  Lemmas.C07.ucSlen_ascii s hs

/-- an ASCII line has no multi-byte character, so with `xorder` 0 or 1 `ren_position` does not
    reorder: the table is the left-to-right one -/
theorem renPosition_low (orc : Dir.Oracle) (o : Opts) (s : Bytes) (hs : ∀ b ∈ s, 0 < b ∧ b < 128)
    (ho : o.xorder = 0 ∨ o.xorder = 1) : renPosition orc o s = some (renPositionFast s) := by
  unfold renPosition
  simp only [ucSlen_low s hs]
  rw [if_neg]
  rcases ho with h | h <;> simp [h]

theorem dirContext_nonneg (orc : Dir.Oracle) (xtd : Int) (s : Bytes)
    (h : xtd ≥ 2 ∨ (xtd = 0 ∧ Bytes.hd s < 128)) : Dir.dirContext orc xtd s ≥ 0 := by
  unfold Dir.dirContext
  rcases h with h | ⟨h, hb⟩
  · rw [if_pos (by omega)]; omega
  · subst h
    have h80 := and80 (Bytes.hd s) (by omega)
    simp only [h80, decide_eq_true hb]
    simp

theorem dirContext_nonneg_low (orc : Dir.Oracle) (xtd : Int) (s : Bytes) (hs : ∀ b ∈ s, 0 < b ∧ b < 128)
    (htd : xtd ≥ 2 ∨ xtd = 0) : Dir.dirContext orc xtd s ≥ 0 := by
  refine dirContext_nonneg orc xtd s (htd.imp id fun h => ⟨h, ?_⟩)
  cases s with
  | nil => decide
  | cons a r => exact (hs a List.mem_cons_self).2

theorem hd_drop_getD (s : Bytes) (k : Nat) : Bytes.hd (s.drop k) = s.getD k 0 :=
  Lemmas.C07.hd_drop_getD s k

theorem getD_mem {s : Bytes} {k : Nat} (hk : k < s.length) : s.getD k 0 ∈ s := Basics.getD_mem 0 hk

/-! ### cells -/

/-- `ren_placeholder` looks at the first byte and the code point only -/
theorem renPlaceholder_low (s : Bytes) (h : Bytes.hd s < 128) : renPlaceholder s = renPlaceholder [Bytes.hd s] := by
  have h1 := ucCode_lt h
  have h2 : ucCode [Bytes.hd s] = some (Bytes.hd s) := ucCode_lt (t := [Bytes.hd s]) h
  unfold renPlaceholder ucIsBell
  simp only [h1, h2, Bytes.hd_cons]
  rfl

theorem renPlaceholder_line (s : Bytes) (h : lineByte (Bytes.hd s) = true) : renPlaceholder s = none := by
  rw [renPlaceholder_low s (lineByte_lt h).2]
  exact (lineByte_facts h).1

theorem renCwid_line (s : Bytes) (h : lineByte (Bytes.hd s) = true) (col : Nat) : renCwid s col = 1 := by
  have hf := lineByte_facts h
  have hlt := (lineByte_lt h).2
  unfold renCwid
  have h9 : ¬ (Bytes.hd s == 9) = true := by simpa using hf.2.2.2.2.2
  rw [if_neg h9, renPlaceholder_line s h]
  simp only []
  have h2 := hf.2.1
  unfold ucWid at h2 ⊢
  rw [ucCode_lt (t := [Bytes.hd s]) hlt] at h2
  rw [ucCode_lt hlt]
  simp only [Option.map_some, Bytes.hd_cons] at h2 ⊢
  rw [Option.some.inj h2]; rfl

/-- the left-to-right table of a line of printable ASCII is the identity: it starts at 0 and every step
    (`fastTable_step`) is one cell -/
theorem fast_line (s : Bytes) (hs : LineBytes s) : renPositionFast s = List.range (s.length + 1) := by
  have hlow : ∀ b ∈ s, 0 < b ∧ b < 128 := fun b hb => lineByte_lt (hs b hb)
  have hlen := chrs_low_length s hlow
  have hT : ∀ k, k ≤ s.length → (renPositionFast s).getD k 0 = k := by
    intro k hk
    induction k with
    | zero => exact C17b.fastTable_zero (chrs s) 0
    | succ k ih =>
      show (layout (chrs s) 0 ++ [layoutEnd (chrs s) 0]).getD (k + 1) 0 = k + 1
      rw [C17b.fastTable_step (chrs s) 0 k (by omega)]
      show (renPositionFast s).getD k 0 + renCwid ((chrs s).getD k []) ((renPositionFast s).getD k 0) = k + 1
      rw [ih (by omega), chrs_low_getD s hlow k (by omega),
        renCwid_line _ (by rw [hd_drop_getD]; exact hs _ (getD_mem (by omega)))]
  apply List.ext_getElem ((C17b.fastTable_inc (chrs s) 0).1.trans (by rw [hlen, List.length_range]))
  intro k h1 h2
  have := hT k (by rw [List.length_range] at h2; omega)
  rw [List.getD_eq_getElem?_getD, List.getElem?_eq_getElem (show k < (renPositionFast s).length from h1)] at this
  rw [List.getElem_range]
  exact this

end Neatvi.Lemmas.C19c
