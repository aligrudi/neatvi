import NeatviVerif.Lemmas.C19dEmit
/-!
# C19d lemmas, part 3: where a run sits in the list, and the cells of the emitted row
-/
namespace Neatvi.Lemmas.C19d
open Neatvi Neatvi.Ren

/-! ### where a run sits -/

theorem adjNe_tail {α : Type} (p : α × Nat) (t : List (α × Nat)) (h : AdjNe (p :: t)) : AdjNe t := by
  cases t with
  | nil => trivial
  | cons q t' => exact h.2

theorem adjNe_append_right {α : Type} (r1 r2 : List (α × Nat)) (h : AdjNe (r1 ++ r2)) : AdjNe r2 := by
  induction r1 with
  | nil => exact h
  | cons p r1 ih => exact ih (adjNe_tail p _ h)

theorem expand_length_concat {α : Type} (r : List (α × Nat)) (b : α) (m : Nat) :
    (expand (r ++ [(b, m)])).length = (expand r).length + m := by
  rw [expand_append, expand_cons, expand_nil, List.append_nil, List.length_append, List.length_replicate]

/-- a run of `runs L` is a maximal stretch of equal entries of `L` -/
theorem runs_mem_spec {α : Type} [DecidableEq α] (L : List α) (v : α) (n : Nat) (h : (v, n) ∈ runs L) :
    ∃ a, 1 ≤ n ∧ a + n ≤ L.length ∧ (∀ j, j < n → L[a + j]? = some v) ∧
      (∀ a', a' + 1 = a → L[a']? ≠ some v) ∧ L[a + n]? ≠ some v := by
  obtain ⟨r1, r2, hr⟩ := List.append_of_mem h
  have hn : 1 ≤ n := runs_pos L (v, n) h
  have hadj : AdjNe (r1 ++ (v, n) :: r2) := hr ▸ runs_adjNe L
  have hpos : ∀ q ∈ r1 ++ (v, n) :: r2, 1 ≤ q.2 := hr ▸ runs_pos L
  have hL : L = expand r1 ++ (List.replicate n v ++ expand r2) := by
    rw [← runs_expand L, hr, expand_append, expand_cons]
  refine ⟨(expand r1).length, hn, ?_, ?_, ?_, ?_⟩
  · rw [hL]; simp only [List.length_append, List.length_replicate]; omega
  · intro j hj
    rw [hL, List.getElem?_append_right (by omega), Nat.add_sub_cancel_left,
      List.getElem?_append_left (by simpa using hj), List.getElem?_replicate, if_pos hj]
  · intro a' ha'
    rcases List.eq_nil_or_concat r1 with h0 | ⟨r1', q, rfl⟩
    · subst h0
      simp at ha'
    · obtain ⟨b, m⟩ := q
      rw [List.concat_eq_append] at hadj hpos hL ha'
      have hm : 1 ≤ m := hpos (b, m) (by simp)
      have hbv : b ≠ v := by
        rw [List.append_assoc] at hadj
        exact (adjNe_append_right r1' _ hadj).1
      rw [expand_length_concat] at ha'
      rw [hL, expand_append, expand_cons, expand_nil, List.append_nil, List.append_assoc,
        List.getElem?_append_right (by omega),
        List.getElem?_append_left (by rw [List.length_replicate]; omega), List.getElem?_replicate,
        if_pos (by omega)]
      intro he
      exact hbv (Option.some.inj he)
  · rw [hL, List.getElem?_append_right (by omega), Nat.add_sub_cancel_left,
      List.getElem?_append_right (by rw [List.length_replicate]; omega), List.length_replicate, Nat.sub_self]
    cases r2 with
    | nil => simp
    | cons q t =>
      obtain ⟨b, m⟩ := q
      have hm : 1 ≤ m := hpos (b, m) (by simp)
      have hvb : v ≠ b := (adjNe_append_right r1 _ hadj).1
      obtain ⟨m', rfl⟩ : ∃ m', m = m' + 1 := ⟨m - 1, by omega⟩
      rw [expand_cons]
      simp only [List.replicate_succ, List.cons_append, List.getElem?_cons_zero, ne_eq, Option.some.injEq]
      exact fun he => hvb he.symm

theorem run_len_of_interval {α : Type} [DecidableEq α] (L : List α) (v : α) (p c : Nat)
    (hint : ∀ k, L[k]? = some v ↔ p ≤ k ∧ k < p + c) (n : Nat) (h : (v, n) ∈ runs L) : n = c := by
  obtain ⟨a, hn, _, h1, h2, h3⟩ := runs_mem_spec L v n h
  have ha := (hint a).mp (by simpa using h1 0 (by omega))
  have hap : a = p := by
    apply Nat.le_antisymm _ ha.1
    apply Nat.le_of_not_lt
    intro hlt
    exact h2 (a - 1) (by omega) ((hint (a - 1)).mpr (by omega))
  have hl := (hint (a + (n - 1))).mp (h1 (n - 1) (by omega))
  have hr : ¬ (p ≤ a + n ∧ a + n < p + c) := fun hh => h3 ((hint (a + n)).mpr hh)
  omega

theorem run_unique_of_interval {α : Type} [DecidableEq α] (L : List α) (v : α) (p c : Nat)
    (hint : ∀ k, L[k]? = some v ↔ p ≤ k ∧ k < p + c) (n : Nat) (h : (v, n) ∈ runs L) :
    1 ≤ c ∧ p + c ≤ L.length := by
  have hc := run_len_of_interval L v p c hint n h
  have hn : 1 ≤ n := runs_pos L (v, n) h
  subst hc
  refine ⟨hn, ?_⟩
  have := (hint (p + n - 1)).mpr (by omega)
  have hlt : p + n - 1 < L.length := by
    apply Nat.lt_of_not_le
    intro hle
    rw [List.getElem?_eq_none hle] at this
    cases this
  omega

theorem runs_count_le_one {α : Type} [DecidableEq α] (L : List α) (v : α)
    (hc : ∀ k1 k k2 : Nat, k1 ≤ k → k ≤ k2 → L[k1]? = some v → L[k2]? = some v → L[k]? = some v) :
    ((runs L).filter (fun p => decide (p.1 = v))).length ≤ 1 := by
  induction L with
  | nil => exact Nat.zero_le _
  | cons x r ih =>
    have hcr : ∀ k1 k k2 : Nat, k1 ≤ k → k ≤ k2 → r[k1]? = some v → r[k2]? = some v → r[k]? = some v := by
      intro k1 k k2 h1 h2 e1 e2
      have := hc (k1 + 1) (k + 1) (k2 + 1) (by omega) (by omega) (by simpa using e1) (by simpa using e2)
      simpa using this
    have ih' := ih hcr
    cases h : runs r with
    | nil => rw [runs_cons_nil x r h]; simp only [List.filter_cons]; split <;> simp
    | cons q t =>
      obtain ⟨b, n⟩ := q
      rw [h] at ih'
      by_cases hxb : x = b
      · subst hxb
        rw [runs_cons_eq x r n t h]
        simp only [List.filter_cons] at ih' ⊢
        by_cases hxv : x = v
        · rw [if_pos (by simpa using hxv)] at ih' ⊢
          exact ih'
        · rw [if_neg (by simpa using hxv)] at ih' ⊢
          exact ih'
      · rw [runs_cons_ne x b r n t h hxb]
        by_cases hxv : x = v
        · subst hxv
          have hall : ∀ p ∈ runs r, p.1 ≠ x := by
            intro p hp hpx
            obtain ⟨pv, m⟩ := p
            simp only at hpx
            subst hpx
            obtain ⟨a, hm, _, h1, _, _⟩ := runs_mem_spec r pv m hp
            have e2 : (pv :: r)[a + 1]? = some pv := by simpa using h1 0 hm
            have := hc 0 1 (a + 1) (by omega) (by omega) (by simp) e2
            have hh : r.head? = some pv := by
              rw [List.head?_eq_getElem?]
              simpa using this
            rw [← runs_head r, h] at hh
            simp only [List.head?_cons, Option.map_some, Option.some.injEq] at hh
            exact hxb hh.symm
          rw [h] at hall
          rw [List.filter_cons, if_pos (by simp)]
          have : ((b, n) :: t).filter (fun p => decide (p.1 = x)) = [] := by
            rw [List.filter_eq_nil_iff]
            intro p hp
            simpa using hall p hp
          rw [this]
          exact Nat.le_refl _
        · rw [List.filter_cons, if_neg (by simpa using hxv)]
          exact ih'

/-! ### the covered part of the table -/

theorem occ_le_shown (off : List (Option Nat)) (cbeg cend : Int) : occ off ≤ shown off cbeg cend := by
  unfold shown; split <;> omega

theorem shown_le (off : List (Option Nat)) (cbeg cend : Int) (hlen : off.length = (cend - cbeg).toNat) :
    shown off cbeg cend ≤ off.length := by
  have := occ_le off
  unfold shown; split <;> omega

/-- the covered part of the table holds every occupied column -/
theorem take_shown_getD (off : List (Option Nat)) (cbeg cend : Int) (k : Nat) :
    (off.take (shown off cbeg cend)).getD k none = off.getD k none := by
  by_cases hk : k < shown off cbeg cend
  · rw [List.getD_eq_getElem?_getD, List.getD_eq_getElem?_getD, List.getElem?_take_of_lt hk]
  · rw [occ_none_after off k (by have := occ_le_shown off cbeg cend; omega), List.getD_eq_getElem?_getD,
      List.getElem?_take, if_neg hk]
    rfl

theorem getD_eq_some_iff (L : List (Option Nat)) (k i : Nat) : L[k]? = some (some i) ↔ L.getD k none = some i := by
  rw [List.getD_eq_getElem?_getD]
  cases L[k]? with
  | none => simp
  | some x => simp

/-- the columns the emitted items take on the screen when every character takes its own width
    `ren_cwid` and every blank one column -/
def glyphCells (chs : List Bytes) (pos : List Nat) (its : List (Option Nat × Nat)) : List (Option Nat) :=
  its.flatMap (fun p =>
    match p.1 with
    | none => List.replicate p.2 none
    | some i => List.replicate (renCwid (chs.getD i []) (pos.getD i 0)) (some i))

theorem glyphCells_eq_expand (chs : List Bytes) (pos : List Nat) (its : List (Option Nat × Nat))
    (h : ∀ i n, (some i, n) ∈ its → n = renCwid (chs.getD i []) (pos.getD i 0)) :
    glyphCells chs pos its = expand its := by
  induction its with
  | nil => rfl
  | cons p t ih =>
    unfold glyphCells at ih ⊢
    rw [List.flatMap_cons, expand_cons, ih (fun i n hm => h i n (List.mem_cons_of_mem _ hm))]
    congr 1
    obtain ⟨a, n⟩ := p
    cases a with
    | none => rfl
    | some i =>
      simp only []
      rw [← h i n (List.mem_cons_self)]

end Neatvi.Lemmas.C19d
