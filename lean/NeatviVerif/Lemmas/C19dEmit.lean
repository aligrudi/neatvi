import NeatviVerif.Model.Render
import NeatviVerif.Lemmas.C19dRuns
/-!
# C19d lemmas, part 2: the emission loop of `led_render` on an arbitrary table

The reference row `rowRef`, and `emit_runs`: from any column on, `renderRow.emit` appends the texts of the runs
of the rest of the covered part of the table (`Props.C19d.emit_eq_rowRef` is the case "from `cbeg` on").
-/
namespace Neatvi.Lemmas.C19d
open Neatvi Neatvi.Uc Neatvi.Ren Neatvi.Render

/-! ### the reference -/

/-- the text `led_render` writes for character `i` when it occupies `n` columns: its placeholder or
    shaped form, itself if printable, else `n` blanks -/
def charText (shape : Bool) (chs : List Bytes) (codes : List Nat) (i n : Nat) : Bytes :=
  match translate shape chs codes i with
  | some t => t
  | none =>
    if ucIsPrint (Bytes.hd (chs.getD i [])) then
      (chs.getD i []).take (max 1 (ucLen (Bytes.hd (chs.getD i []))))
    else List.replicate n 32

/-- the text of one run of the table: blanks for unoccupied columns, the character's text otherwise -/
def runText (shape : Bool) (chs : List Bytes) (codes : List Nat) : Option Nat × Nat → Bytes
  | (none, n) => List.replicate n 32
  | (some i, n) => charText shape chs codes i n

/-- the text of a list of runs -/
def rowText (shape : Bool) (chs : List Bytes) (codes : List Nat) (rs : List (Option Nat × Nat)) : Bytes :=
  rs.flatMap (runText shape chs codes)

/-- the occupied columns among the first `j`: one more than the last occupied column, 0 if none -/
def occN (off : List (Option Nat)) (j : Nat) : Nat :=
  (List.range j).foldl (fun m k => if (off.getD k none).isSome then k + 1 else m) 0

/-- one more than the last occupied column of the table, 0 if there is none -/
def occ (off : List (Option Nat)) : Nat := occN off off.length

/-- the number of window columns the row covers: up to the last occupied column; when no column is
    occupied `led_render`'s `clast` is 0 and the columns `cbeg ≤ c < cend` with `c ≤ 0` are covered -/
def shown (off : List (Option Nat)) (cbeg cend : Int) : Nat :=
  if occ off = 0 then (min cend 1 - cbeg).toNat else occ off

/-- the items `led_render` emits, in order, each with the number of columns it stands for:
    the maximal runs of the covered part of the table -/
def items (off : List (Option Nat)) (cbeg cend : Int) : List (Option Nat × Nat) :=
  runs (off.take (shown off cbeg cend))

/-- the reference row -/
def rowRef (chs : List Bytes) (codes : List Nat) (shape : Bool) (off : List (Option Nat)) (cbeg cend : Int) : Bytes :=
  rowText shape chs codes (items off cbeg cend)

/-- `clast` of `led_render` -/
def lastCol (off : List (Option Nat)) (cbeg : Int) (w : Nat) : Int :=
  (List.range w).foldl (fun (cl : Int) k => if (off.getD k none).isSome then cbeg + k else cl) 0

/-! ### the last occupied column -/

theorem occN_succ (off : List (Option Nat)) (j : Nat) :
    occN off (j + 1) = if (off.getD j none).isSome then j + 1 else occN off j := by
  unfold occN
  rw [List.range_succ, List.foldl_append]
  rfl

theorem occN_spec (off : List (Option Nat)) (j : Nat) :
    occN off j ≤ j ∧ (∀ k, occN off j ≤ k → k < j → off.getD k none = none) ∧
    (0 < occN off j → (off.getD (occN off j - 1) none).isSome = true) := by
  induction j with
  | zero => exact ⟨Nat.le_refl _, fun k _ hk => absurd hk (Nat.not_lt_zero _), fun h => absurd h (Nat.lt_irrefl _)⟩
  | succ j ih =>
    obtain ⟨h1, h2, h3⟩ := ih
    rw [occN_succ]
    by_cases hs : (off.getD j none).isSome = true
    · rw [if_pos hs]
      exact ⟨Nat.le_refl _, fun k a b => by omega, fun _ => hs⟩
    · rw [if_neg hs]
      refine ⟨by omega, ?_, h3⟩
      intro k a b
      by_cases hkj : k = j
      · subst hkj
        cases hg : off.getD k none with
        | none => rfl
        | some x => rw [hg] at hs; exact absurd rfl hs
      · exact h2 k a (by omega)

theorem lastCol_eq (off : List (Option Nat)) (cbeg : Int) (j : Nat) :
    lastCol off cbeg j = if occN off j = 0 then 0 else cbeg + (occN off j : Int) - 1 := by
  induction j with
  | zero => rfl
  | succ j ih =>
    rw [occN_succ]
    unfold lastCol at ih ⊢
    rw [List.range_succ, List.foldl_append, ih]
    simp only [List.foldl_cons, List.foldl_nil]
    by_cases hs : (off.getD j none).isSome = true
    · rw [if_pos hs, if_pos hs, if_neg (by omega)]
      omega
    · rw [if_neg hs, if_neg hs]

theorem occ_le (off : List (Option Nat)) : occ off ≤ off.length := (occN_spec off off.length).1

theorem occ_none_after (off : List (Option Nat)) (k : Nat) (hk : occ off ≤ k) : off.getD k none = none := by
  by_cases hl : k < off.length
  · exact (occN_spec off off.length).2.1 k hk hl
  · rw [List.getD_eq_getElem?_getD, List.getElem?_eq_none (by omega)]; rfl

theorem occ_last_some (off : List (Option Nat)) (h : 0 < occ off) : (off.getD (occ off - 1) none).isSome = true :=
  (occN_spec off off.length).2.2 h

/-! ### texts -/

theorem rowText_nil (shape : Bool) (chs : List Bytes) (codes : List Nat) : rowText shape chs codes [] = [] := rfl

theorem rowText_cons (shape : Bool) (chs : List Bytes) (codes : List Nat) (p : Option Nat × Nat)
    (rs : List (Option Nat × Nat)) :
    rowText shape chs codes (p :: rs) = runText shape chs codes p ++ rowText shape chs codes rs := by
  unfold rowText; rw [List.flatMap_cons]

theorem rowText_append (shape : Bool) (chs : List Bytes) (codes : List Nat) (a b : List (Option Nat × Nat)) :
    rowText shape chs codes (a ++ b) = rowText shape chs codes a ++ rowText shape chs codes b := by
  unfold rowText; rw [List.flatMap_append]

theorem rowText_runs_none (shape : Bool) (chs : List Bytes) (codes : List Nat) (r : List (Option Nat)) :
    rowText shape chs codes (runs (none :: r)) = 32 :: rowText shape chs codes (runs r) := by
  cases h : runs r with
  | nil => rw [runs_cons_nil none r h]; rfl
  | cons q t =>
    obtain ⟨b, n⟩ := q
    cases b with
    | none =>
      rw [runs_cons_eq none r n t h, rowText_cons, rowText_cons]
      show List.replicate (n + 1) 32 ++ _ = 32 :: (List.replicate n 32 ++ _)
      rw [List.replicate_succ, List.cons_append]
    | some i =>
      rw [runs_cons_ne none (some i) r n t h (by simp), rowText_cons]
      rfl

/-! ### the loop -/

theorem toNat_sub_add (a b : Int) (k : Nat) : (a - (b + (k : Int))).toNat = (a - b).toNat - k := by
  omega

theorem emit_runs (shape : Bool) (cbeg cend : Int) (chs : List Bytes) (codes : List Nat)
    (off : List (Option Nat)) (clast : Int) (n : Nat)
    (hn : n ≤ off.length) (hnW : n ≤ (cend - cbeg).toNat)
    (htail : ∀ k, n ≤ k → off.getD k none = none)
    (hcl : ∀ k : Nat, cbeg + (k : Int) < cend → (cbeg + (k : Int) ≤ clast ↔ k < n)) :
    ∀ (fuel k : Nat) (acc : Bytes), n - k ≤ fuel →
      renderRow.emit shape cbeg cend chs codes off clast fuel (cbeg + (k : Int)) acc =
        acc ++ rowText shape chs codes (runs ((off.take n).drop k)) := by
  have hLlen : (off.take n).length = n := by rw [List.length_take]; omega
  have hLget : ∀ j, j < n → (off.take n).getD j none = off.getD j none := by
    intro j hj
    rw [List.getD_eq_getElem?_getD, List.getD_eq_getElem?_getD, List.getElem?_take_of_lt hj]
  intro fuel
  induction fuel using Nat.strongRecOn with
  | _ fuel ih =>
    intro k acc hf
    by_cases hk : k < n
    · obtain ⟨f, rfl⟩ : ∃ f, fuel = f + 1 := ⟨fuel - 1, by omega⟩
      have hkw : k < off.length := by omega
      rw [renderRow.emit]
      have hcond : (decide (cbeg + (k : Int) < cend) && decide (cbeg + (k : Int) ≤ clast)) = true := by
        simp only [Bool.and_eq_true, decide_eq_true_eq]
        exact ⟨by omega, (hcl k (by omega)).mpr hk⟩
      have htn : (cbeg + (k : Int) - cbeg).toNat = k := by omega
      rw [if_pos hcond, htn]
      have hkL : k < (off.take n).length := by omega
      have hLk : (off.take n)[k] = off.getD k none := by
        have := hLget k hk
        rw [List.getD_eq_getElem?_getD, List.getElem?_eq_getElem hkL] at this
        exact this
      cases hg : off.getD k none with
      | none =>
        simp only []
        rw [show cbeg + (k : Int) + 1 = cbeg + ((k + 1 : Nat) : Int) by omega,
          ih f (Nat.lt_succ_self _) (k + 1) _ (by omega)]
        rw [List.drop_eq_getElem_cons hkL, hLk, hg, rowText_runs_none, List.append_assoc]
        rfl
      | some oc =>
        simp only []
        -- the span
        rw [toNat_sub_add]
        obtain ⟨s1, s2, s3⟩ := takeWhile_range_spec (fun d => off.getD (k + d) none == some oc) ((cend - cbeg).toNat - k)
        generalize hsp : ((List.range ((cend - cbeg).toNat - k)).takeWhile
          (fun d => off.getD (k + d) none == some oc)).length = s at s1 s2 s3 ⊢
        have s2' : ∀ d, d < s → off.getD (k + d) none = some oc := fun d hd => by simpa using s2 d hd
        have hs1 : 1 ≤ s := by
          apply Nat.pos_of_ne_zero
          intro h0
          subst h0
          have := s3 (by omega)
          rw [Nat.add_zero, hg] at this
          simp at this
        have hsn : k + s ≤ n := by
          apply Nat.le_of_not_lt
          intro hlt
          have h1 := s2' (s - 1) (by omega)
          have h2 := htail (k + (s - 1)) (by omega)
          rw [h1] at h2
          cases h2
        rw [show cbeg + (k : Int) + ((max 1 s : Nat) : Int) = cbeg + ((k + s : Nat) : Int) by
          rw [Nat.max_eq_right hs1]; omega]
        rw [ih f (Nat.lt_succ_self _) (k + s) _ (by omega)]
        -- the reference
        have hdrop := drop_eq_replicate_append (none : Option Nat) (off.take n) (some oc) k s (by omega)
          (fun j hj => by rw [hLget _ (by omega)]; exact s2' j hj)
        have hhead : ((off.take n).drop (k + s)).head? ≠ some (some oc) := by
          rw [List.head?_drop]
          by_cases hlt : k + s < n
          · rw [List.getElem?_take_of_lt hlt]
            have := s3 (by omega)
            intro he
            rw [List.getD_eq_getElem?_getD, he] at this
            simp at this
          · rw [List.getElem?_eq_none (by omega)]
            exact fun h => by cases h
        rw [hdrop, runs_replicate_append (some oc) s hs1 _ hhead, rowText_cons, List.append_assoc]
        rfl
    · have hdn : (off.take n).drop k = [] := List.drop_eq_nil_of_le (by omega)
      rw [hdn]
      show _ = acc ++ []
      rw [List.append_nil]
      cases fuel with
      | zero => rw [renderRow.emit]
      | succ f =>
        rw [renderRow.emit]
        have hcond : ¬ (decide (cbeg + (k : Int) < cend) && decide (cbeg + (k : Int) ≤ clast)) = true := by
          simp only [Bool.and_eq_true, decide_eq_true_eq]
          intro h
          have := (hcl k h.1).mp h.2
          omega
        rw [if_neg hcond]

/-- `renderRow`, with its local definitions named -/
theorem renderRow_eq (orc : Dir.Oracle) (o : Opts) (shape : Bool) (s0 : Bytes) (cbeg cend : Int) :
    renderRow orc o shape s0 cbeg cend =
      (renPosition orc o s0).map (fun pos =>
        renderRow.emit shape cbeg cend (chrs s0) ((chrs s0).map (fun c => (ucCode c).getD 0))
          (offTable (chrs s0) pos (Dir.dirContext orc o.xtd s0) cbeg cend)
          (lastCol (offTable (chrs s0) pos (Dir.dirContext orc o.xtd s0) cbeg cend) cbeg (cend - cbeg).toNat)
          ((cend - cbeg).toNat + 2) cbeg []) := by
  unfold renderRow
  cases renPosition orc o s0 with
  | none => rfl
  | some pos => rfl

end Neatvi.Lemmas.C19d
