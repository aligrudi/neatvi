/-!
# C19d lemmas, part 1: the maximal runs of equal consecutive entries of a list

`runs l` is the list of `(value, length)` of the maximal runs of `l`.  It is characterised by
`runs_expand` (expanding every run gives `l` back), `runs_pos` (no run is empty), `runs_adjNe`
(neighbouring runs have different values) and `runs_unique` (any list of runs with these
properties is `runs` of its expansion).
-/
namespace Neatvi.Lemmas.C19d

/-- the maximal runs of equal consecutive entries, as `(value, length)` -/
def runs {α : Type} [DecidableEq α] : List α → List (α × Nat)
  | [] => []
  | a :: r =>
    match runs r with
    | [] => [(a, 1)]
    | (b, n) :: t => if a = b then (a, n + 1) :: t else (a, 1) :: (b, n) :: t

/-- every run written out over its length -/
def expand {α : Type} (rs : List (α × Nat)) : List α := rs.flatMap (fun p => List.replicate p.2 p.1)

/-- neighbouring runs carry different values -/
def AdjNe {α : Type} : List (α × Nat) → Prop
  | [] => True
  | [_] => True
  | p :: q :: t => p.1 ≠ q.1 ∧ AdjNe (q :: t)

@[simp] theorem expand_nil {α : Type} : expand ([] : List (α × Nat)) = [] := rfl

theorem expand_cons {α : Type} (p : α × Nat) (rs : List (α × Nat)) :
    expand (p :: rs) = List.replicate p.2 p.1 ++ expand rs := by
  unfold expand; rw [List.flatMap_cons]

theorem expand_append {α : Type} (a b : List (α × Nat)) : expand (a ++ b) = expand a ++ expand b := by
  unfold expand; rw [List.flatMap_append]

variable {α : Type} [DecidableEq α]

theorem runs_cons_nil (a : α) (r : List α) (h : runs r = []) : runs (a :: r) = [(a, 1)] := by
  rw [runs, h]

theorem runs_cons_eq (a : α) (r : List α) (n : Nat) (t : List (α × Nat)) (h : runs r = (a, n) :: t) :
    runs (a :: r) = (a, n + 1) :: t := by
  rw [runs, h]; simp

theorem runs_cons_ne (a b : α) (r : List α) (n : Nat) (t : List (α × Nat)) (h : runs r = (b, n) :: t)
    (hab : a ≠ b) : runs (a :: r) = (a, 1) :: (b, n) :: t := by
  rw [runs, h]; simp [hab]

theorem runs_expand (l : List α) : expand (runs l) = l := by
  induction l with
  | nil => rfl
  | cons a r ih =>
    cases h : runs r with
    | nil =>
      rw [runs_cons_nil a r h]
      rw [h] at ih
      rw [expand_cons, ← ih]; rfl
    | cons p t =>
      obtain ⟨b, n⟩ := p
      rw [h] at ih
      by_cases hab : a = b
      · subst hab
        rw [runs_cons_eq a r n t h, expand_cons]
        rw [expand_cons] at ih
        rw [← ih]; rfl
      · rw [runs_cons_ne a b r n t h hab, expand_cons, ih]; rfl

theorem runs_pos (l : List α) : ∀ p ∈ runs l, 1 ≤ p.2 := by
  induction l with
  | nil => intro p hp; cases hp
  | cons a r ih =>
    cases h : runs r with
    | nil =>
      rw [runs_cons_nil a r h]
      intro p hp
      simp only [List.mem_singleton] at hp
      subst hp; exact Nat.le_refl _
    | cons q t =>
      obtain ⟨b, n⟩ := q
      rw [h] at ih
      by_cases hab : a = b
      · subst hab
        rw [runs_cons_eq a r n t h]
        intro p hp
        rcases List.mem_cons.mp hp with rfl | hp
        · exact Nat.succ_le_succ (Nat.zero_le _)
        · exact ih p (List.mem_cons_of_mem _ hp)
      · rw [runs_cons_ne a b r n t h hab]
        intro p hp
        rcases List.mem_cons.mp hp with rfl | hp
        · exact Nat.le_refl _
        · exact ih p hp

theorem runs_head (l : List α) : (runs l).head?.map Prod.fst = l.head? := by
  cases l with
  | nil => rfl
  | cons a r =>
    cases h : runs r with
    | nil => rw [runs_cons_nil a r h]; rfl
    | cons q t =>
      obtain ⟨b, n⟩ := q
      by_cases hab : a = b
      · subst hab; rw [runs_cons_eq a r n t h]; rfl
      · rw [runs_cons_ne a b r n t h hab]; rfl

theorem runs_eq_nil (l : List α) : runs l = [] ↔ l = [] := by
  constructor
  · intro h
    have := runs_expand l
    rw [h] at this
    exact this.symm
  · rintro rfl; rfl

theorem runs_adjNe (l : List α) : AdjNe (runs l) := by
  induction l with
  | nil => trivial
  | cons a r ih =>
    cases h : runs r with
    | nil => rw [runs_cons_nil a r h]; trivial
    | cons q t =>
      obtain ⟨b, n⟩ := q
      rw [h] at ih
      by_cases hab : a = b
      · subst hab
        rw [runs_cons_eq a r n t h]
        cases t with
        | nil => trivial
        | cons q' t' => exact ih
      · rw [runs_cons_ne a b r n t h hab]
        exact ⟨hab, ih⟩

theorem runs_replicate_append (a : α) (n : Nat) (hn : 1 ≤ n) (r : List α) (hr : r.head? ≠ some a) :
    runs (List.replicate n a ++ r) = (a, n) :: runs r := by
  obtain ⟨m, rfl⟩ : ∃ m, n = m + 1 := ⟨n - 1, by omega⟩
  clear hn
  induction m with
  | zero =>
    show runs (a :: r) = _
    cases h : runs r with
    | nil => rw [runs_cons_nil a r h]
    | cons q t =>
      obtain ⟨b, k⟩ := q
      have hab : a ≠ b := by
        intro hab
        apply hr
        rw [← runs_head r, h, hab]; rfl
      rw [runs_cons_ne a b r k t h hab]
  | succ m ih =>
    rw [List.replicate_succ, List.cons_append, runs_cons_eq a _ (m + 1) (runs r) ih]

theorem runs_unique (rs : List (α × Nat)) (hpos : ∀ p ∈ rs, 1 ≤ p.2) (hadj : AdjNe rs) :
    runs (expand rs) = rs := by
  induction rs with
  | nil => rfl
  | cons p t ih =>
    obtain ⟨a, n⟩ := p
    have ht := ih (fun q hq => hpos q (List.mem_cons_of_mem _ hq))
      (by cases t with
          | nil => trivial
          | cons q t' => exact hadj.2)
    rw [expand_cons, runs_replicate_append a n (hpos (a, n) (List.mem_cons_self)) _ ?_, ht]
    cases t with
    | nil => simp
    | cons q t' =>
      obtain ⟨b, m⟩ := q
      have hm : 1 ≤ m := hpos (b, m) (by simp)
      obtain ⟨m', rfl⟩ : ∃ m', m = m' + 1 := ⟨m - 1, by omega⟩
      rw [expand_cons]
      simp only [List.replicate_succ, List.cons_append, List.head?_cons, ne_eq, Option.some.injEq]
      exact fun h => hadj.1 h.symm

/-! ### a stretch of equal entries inside a list -/

theorem drop_eq_replicate_append {β : Type} (d : β) (L : List β) (a : β) (k s : Nat) (hks : k + s ≤ L.length)
    (h : ∀ j, j < s → L.getD (k + j) d = a) : L.drop k = List.replicate s a ++ L.drop (k + s) := by
  induction s generalizing k with
  | zero => rfl
  | succ s ih =>
    have hk : k < L.length := by omega
    rw [List.drop_eq_getElem_cons hk, List.replicate_succ, List.cons_append]
    have h0 := h 0 (by omega)
    rw [Nat.add_zero, List.getD_eq_getElem?_getD, List.getElem?_eq_getElem hk] at h0
    have := ih (k + 1) (by omega) (fun j hj => by
      have := h (j + 1) (by omega)
      rw [show k + (j + 1) = k + 1 + j by omega] at this
      exact this)
    rw [this, show k + 1 + s = k + (s + 1) by omega]
    congr 1

theorem takeWhile_range'_spec (p : Nat → Bool) (a N : Nat) :
    ((List.range' a N).takeWhile p).length ≤ N ∧
    (∀ d, d < ((List.range' a N).takeWhile p).length → p (a + d) = true) ∧
    (((List.range' a N).takeWhile p).length < N → p (a + ((List.range' a N).takeWhile p).length) = false) := by
  induction N generalizing a with
  | zero => simp
  | succ N ih =>
    rw [List.range'_succ, List.takeWhile_cons]
    by_cases hp : p a = true
    · rw [if_pos hp]
      obtain ⟨h1, h2, h3⟩ := ih (a + 1)
      simp only [List.length_cons]
      refine ⟨by omega, ?_, ?_⟩
      · intro d hd
        cases d with
        | zero => exact hp
        | succ d =>
          have := h2 d (by omega)
          rw [show a + 1 + d = a + (d + 1) by omega] at this
          exact this
      · intro hlt
        have := h3 (by omega)
        rw [Nat.add_assoc, Nat.add_comm 1] at this
        exact this
    · rw [if_neg hp]
      simp only [List.length_nil, Nat.add_zero]
      exact ⟨Nat.zero_le _, fun d hd => absurd hd (Nat.not_lt_zero _), fun _ => by simpa using hp⟩

theorem takeWhile_range_spec (p : Nat → Bool) (N : Nat) :
    ((List.range N).takeWhile p).length ≤ N ∧
    (∀ d, d < ((List.range N).takeWhile p).length → p d = true) ∧
    (((List.range N).takeWhile p).length < N → p ((List.range N).takeWhile p).length = false) := by
  have := takeWhile_range'_spec p 0 N
  rw [← List.range_eq_range'] at this
  simpa using this

end Neatvi.Lemmas.C19d
