import NeatviVerif.Lemmas.C19dCells
import NeatviVerif.Lemmas.C19cOff
import NeatviVerif.Lemmas.C19cAscii
import NeatviVerif.Lemmas.Ren
/-!
# C19d lemmas, part 4: lines of printable ASCII, tabs and newlines laid out left to right

The tab-expanded line `tabExpand s col` and how the left-to-right layout of `s` tiles it; the text of a character of
such a line is its cells' bytes (`charText_tab`, `rowText_cells`).  At the end, in `Lemmas.C19c`, the case without tabs:
`translate_line`, and `emit_line`, the instance of `C19d.emit_runs` on the table of a line of printable ASCII.
-/
namespace Neatvi.Lemmas.C19d
open Neatvi Neatvi.Uc Neatvi.Ren Neatvi.Render Neatvi.Lemmas.C19c

/-- the bytes handled here: the tab, printable ASCII and the newline -/
def tabByte (b : Nat) : Bool := b == 9 || lineByte b

/-- every byte of the line is a tab, printable ASCII or the newline -/
def TabBytes (s : Bytes) : Prop := ∀ b ∈ s, tabByte b = true

/-- what a cell of the byte `b` shows: a blank for the tab and the newline -/
def vis (b : Nat) : Nat := if b = 9 ∨ b = 10 then 32 else b

/-- the number of cells of byte `b` at column `col` -/
def cwb (b col : Nat) : Nat := if b = 9 then 8 - col % 8 else 1

/-- the line with every tab expanded to the next multiple of 8 (and the newline shown as a blank),
    starting at column `col` -/
def tabExpand : Bytes → Nat → Bytes
  | [], _ => []
  | b :: r, col =>
    if b = 9 then List.replicate (8 - col % 8) 32 ++ tabExpand r (col + (8 - col % 8))
    else disp b :: tabExpand r (col + 1)

theorem tabExpand_cons (b : Nat) (r : Bytes) (col : Nat) :
    tabExpand (b :: r) col = List.replicate (cwb b col) (vis b) ++ tabExpand r (col + cwb b col) := by
  unfold cwb vis
  rw [tabExpand]
  by_cases h9 : b = 9
  · rw [if_pos h9, if_pos h9, if_pos (Or.inl h9)]
  · rw [if_neg h9, if_neg h9]
    unfold disp
    by_cases h10 : b = 10
    · rw [if_pos h10, if_pos (Or.inr h10)]; rfl
    · rw [if_neg h10, if_neg (by omega)]; rfl

theorem tabByte_cases {b : Nat} (h : tabByte b = true) : b = 9 ∨ lineByte b = true := by
  unfold tabByte at h
  simpa using h

theorem tabByte_lt {b : Nat} (h : tabByte b = true) : 0 < b ∧ b < 128 := by
  rcases tabByte_cases h with h | h
  · omega
  · exact lineByte_lt h

theorem cwb_pos (b col : Nat) : 1 ≤ cwb b col := by
  unfold cwb; split <;> omega

private theorem tabFacts : renPlaceholder [9] = none ∧ ucIsPrint 9 = false ∧ ucR2L 9 = false := by decide +kernel

theorem tabByte_facts {b : Nat} (h : tabByte b = true) :
    renPlaceholder [b] = none ∧ ucR2L b = false ∧ ucIsPrint b = (b != 10 && b != 9) ∧ ucLen b = 1 := by
  rcases tabByte_cases h with h | h
  · subst h
    exact ⟨tabFacts.1, tabFacts.2.2, tabFacts.2.1, by decide⟩
  · have hf := lineByte_facts h
    refine ⟨hf.1, hf.2.2.2.1, ?_, hf.2.2.1⟩
    rw [hf.2.2.2.2.1]
    have : (b != 9) = true := by simpa using hf.2.2.2.2.2
    rw [this, Bool.and_true]

theorem renCwid_tab (c : Bytes) (h : tabByte (Bytes.hd c) = true) (col : Nat) :
    renCwid c col = cwb (Bytes.hd c) col := by
  unfold cwb
  rcases tabByte_cases h with h9 | hl
  · unfold renCwid
    rw [if_pos (by simpa using h9), if_pos h9]
    have : col &&& 7 = col % 8 := Nat.and_two_pow_sub_one_eq_mod col 3
    rw [this]
  · rw [renCwid_line c hl col, if_neg (lineByte_facts hl).2.2.2.2.2]

/-! ### the characters -/

theorem chrs_cons_low (b : Nat) (r : Bytes) (h : ∀ x ∈ b :: r, 0 < x ∧ x < 128) :
    chrs (b :: r) = (b :: r) :: chrs r := by
  rw [chrs_low (b :: r) h, chrs_low r (fun x hx => h x (List.mem_cons_of_mem _ hx)), List.length_cons,
    List.range_succ_eq_map, List.map_cons, List.map_map]
  rfl

/-- column of character `i` of `s` laid out from `col` -/
def P (s : Bytes) (col i : Nat) : Nat := (layout (chrs s) col).getD i 0
/-- its width -/
def W (s : Bytes) (col i : Nat) : Nat := renCwid ((chrs s).getD i []) (P s col i)

theorem P_zero (b : Nat) (r : Bytes) (h : TabBytes (b :: r)) (col : Nat) : P (b :: r) col 0 = col := by
  unfold P
  rw [chrs_cons_low b r (fun x hx => tabByte_lt (h x hx))]
  rfl

theorem P_succ (b : Nat) (r : Bytes) (h : TabBytes (b :: r)) (col i : Nat) :
    P (b :: r) col (i + 1) = P r (col + cwb b col) i := by
  unfold P
  rw [chrs_cons_low b r (fun x hx => tabByte_lt (h x hx)), layout, List.getD_cons_succ,
    renCwid_tab (b :: r) (h b (List.mem_cons_self)) col]
  rfl

theorem W_zero (b : Nat) (r : Bytes) (h : TabBytes (b :: r)) (col : Nat) : W (b :: r) col 0 = cwb b col := by
  unfold W
  rw [P_zero b r h col, chrs_cons_low b r (fun x hx => tabByte_lt (h x hx))]
  exact renCwid_tab (b :: r) (h b (List.mem_cons_self)) col

theorem W_succ (b : Nat) (r : Bytes) (h : TabBytes (b :: r)) (col i : Nat) :
    W (b :: r) col (i + 1) = W r (col + cwb b col) i := by
  unfold W
  rw [P_succ b r h col i, chrs_cons_low b r (fun x hx => tabByte_lt (h x hx)), List.getD_cons_succ]

/-- the left-to-right layout of the line tiles the tab-expanded line: every character lies inside,
    is one cell wide unless it is a tab, the characters follow each other, and every cell of the
    expanded line belongs to a character and shows its byte -/
theorem tab_layout (s : Bytes) (hs : TabBytes s) : ∀ col,
    (∀ i, i < s.length → col ≤ P s col i ∧ P s col i + W s col i ≤ col + (tabExpand s col).length ∧
      1 ≤ W s col i ∧ (s.getD i 0 ≠ 9 → W s col i = 1)) ∧
    (∀ i j, i < j → j < s.length → P s col i + W s col i ≤ P s col j) ∧
    (∀ x, col ≤ x → x < col + (tabExpand s col).length →
      ∃ i, i < s.length ∧ P s col i ≤ x ∧ x < P s col i + W s col i ∧
        (tabExpand s col)[x - col]? = some (vis (s.getD i 0))) := by
  induction s with
  | nil =>
    intro col
    refine ⟨fun i hi => absurd hi (Nat.not_lt_zero _), fun i j _ hj => absurd hj (Nat.not_lt_zero _), ?_⟩
    intro x h1 h2
    simp [tabExpand] at h2
    omega
  | cons b r ih =>
    intro col
    have hr : TabBytes r := fun x hx => hs x (List.mem_cons_of_mem _ hx)
    obtain ⟨ih1, ih2, ih3⟩ := ih hr (col + cwb b col)
    have hcw := cwb_pos b col
    have hlen : (tabExpand (b :: r) col).length = cwb b col + (tabExpand r (col + cwb b col)).length := by
      rw [tabExpand_cons, List.length_append, List.length_replicate]
    refine ⟨?_, ?_, ?_⟩
    · intro i hi
      cases i with
      | zero =>
        rw [P_zero b r hs, W_zero b r hs, hlen]
        refine ⟨Nat.le_refl _, by omega, hcw, ?_⟩
        intro h9
        rw [List.getD_cons_zero] at h9
        unfold cwb; rw [if_neg h9]
      | succ i =>
        rw [P_succ b r hs, W_succ b r hs, hlen, List.getD_cons_succ]
        obtain ⟨a1, a2, a3, a4⟩ := ih1 i (by simpa using hi)
        exact ⟨by omega, by omega, a3, a4⟩
    · intro i j hij hj
      cases j with
      | zero => omega
      | succ j =>
        rw [P_succ b r hs col j]
        cases i with
        | zero =>
          rw [P_zero b r hs, W_zero b r hs]
          exact (ih1 j (by simpa using hj)).1
        | succ i =>
          rw [P_succ b r hs, W_succ b r hs]
          exact ih2 i j (by omega) (by simpa using hj)
    · intro x h1 h2
      rw [hlen] at h2
      by_cases hx : x < col + cwb b col
      · refine ⟨0, by simp, ?_, ?_, ?_⟩
        · rw [P_zero b r hs]; exact h1
        · rw [P_zero b r hs, W_zero b r hs]; exact hx
        · rw [tabExpand_cons, List.getElem?_append_left (by rw [List.length_replicate]; omega),
            List.getElem?_replicate, if_pos (by omega), List.getD_cons_zero]
      · obtain ⟨i, hi, a1, a2, a3⟩ := ih3 x (by omega) (by omega)
        refine ⟨i + 1, by simpa using hi, ?_, ?_, ?_⟩
        · rw [P_succ b r hs]; exact a1
        · rw [P_succ b r hs, W_succ b r hs]; exact a2
        · rw [tabExpand_cons, List.getElem?_append_right (by rw [List.length_replicate]; omega),
            List.length_replicate, List.getD_cons_succ, ← a3]
          congr 1
          omega

theorem fast_getD (s : Bytes) (hs : TabBytes s) (i : Nat) (hi : i < s.length) :
    (renPositionFast s).getD i 0 = P s 0 i := by
  have hlow : ∀ b ∈ s, 0 < b ∧ b < 128 := fun b hb => tabByte_lt (hs b hb)
  unfold renPositionFast P
  simp only []
  rw [List.getD_eq_getElem?_getD, List.getD_eq_getElem?_getD,
    List.getElem?_append_left (by rw [layout_length, chrs_low_length s hlow]; exact hi)]

/-! ### translation -/

theorem translate_tab (shape : Bool) (s : Bytes) (hs : TabBytes s) (k : Nat) (hk : k < s.length) :
    translate shape (chrs s) ((chrs s).map (fun c => (ucCode c).getD 0)) k = none := by
  have hlow : ∀ b ∈ s, 0 < b ∧ b < 128 := fun b hb => tabByte_lt (hs b hb)
  have hb : tabByte (s.getD k 0) = true := hs _ (getD_mem hk)
  have hf := tabByte_facts hb
  unfold translate
  rw [chrs_low_getD s hlow k hk, renPlaceholder_low _ (by rw [hd_drop_getD]; exact (tabByte_lt hb).2), hd_drop_getD,
    hf.1]
  simp only []
  cases shape with
  | false => rfl
  | true =>
    simp only [if_true]
    have hcode : ((chrs s).map (fun c => (ucCode c).getD 0)).getD k 0 = s.getD k 0 := by
      rw [List.getD_eq_getElem?_getD, List.getElem?_map,
        List.getElem?_eq_getElem (by rw [chrs_low_length s hlow]; exact hk)]
      simp only [Option.map_some, Option.getD_some]
      have : (chrs s)[k]'(by rw [chrs_low_length s hlow]; exact hk) = s.drop k := by
        have := chrs_low_getD s hlow k hk
        rw [List.getD_eq_getElem?_getD, List.getElem?_eq_getElem (by rw [chrs_low_length s hlow]; exact hk)] at this
        exact this
      rw [this, ucCode_lt (by rw [hd_drop_getD]; exact (tabByte_lt hb).2), hd_drop_getD]
      rfl
    unfold ucShapeAt
    simp only [hcode, hf.2.1]
    simp

/-- the text of character `i` of such a line over `n` columns: `n` times what its cells show,
    provided a character that is not a tab stands for one column -/
theorem charText_tab (shape : Bool) (s : Bytes) (hs : TabBytes s) (i n : Nat) (hi : i < s.length)
    (hn : s.getD i 0 ≠ 9 → n = 1) :
    charText shape (chrs s) ((chrs s).map (fun c => (ucCode c).getD 0)) i n = List.replicate n (vis (s.getD i 0)) := by
  have hlow : ∀ b ∈ s, 0 < b ∧ b < 128 := fun b hb => tabByte_lt (hs b hb)
  have hb : tabByte (s.getD i 0) = true := hs _ (getD_mem hi)
  have hf := tabByte_facts hb
  unfold charText
  rw [translate_tab shape s hs i hi]
  simp only []
  rw [chrs_low_getD s hlow i hi, hd_drop_getD, hf.2.2.1, hf.2.2.2]
  unfold vis
  by_cases h9 : s.getD i 0 = 9
  · rw [h9]; simp
  · by_cases h10 : s.getD i 0 = 10
    · rw [h10]; simp
    · have hp : (s.getD i 0 != 10 && s.getD i 0 != 9) = true := by
        rw [Bool.and_eq_true]; exact ⟨by simpa using h10, by simpa using h9⟩
      rw [hp, if_pos rfl, if_neg (by omega), hn h9]
      show List.take 1 (s.drop i) = [s.getD i 0]
      rw [List.drop_eq_getElem_cons hi, List.take_succ_cons, List.take_zero, List.getD_eq_getElem?_getD,
        List.getElem?_eq_getElem hi]
      rfl

/-- what a column of the table shows for such a line -/
def cellByte (s : Bytes) : Option Nat → Nat
  | none => 32
  | some i => vis (s.getD i 0)

theorem rowText_cells (shape : Bool) (chs : List Bytes) (codes : List Nat) (s : Bytes)
    (rs : List (Option Nat × Nat))
    (h : ∀ i n, (some i, n) ∈ rs → charText shape chs codes i n = List.replicate n (vis (s.getD i 0))) :
    rowText shape chs codes rs = (expand rs).map (cellByte s) := by
  induction rs with
  | nil => rfl
  | cons p t ih =>
    rw [rowText_cons, expand_cons, List.map_append, ih (fun i n hm => h i n (List.mem_cons_of_mem _ hm))]
    congr 1
    obtain ⟨a, n⟩ := p
    cases a with
    | none => simp [runText, cellByte]
    | some i =>
      show charText shape chs codes i n = _
      rw [h i n (List.mem_cons_self)]
      simp [cellByte]

end Neatvi.Lemmas.C19d

/-! ### a line of printable ASCII: no tab, one cell a character -/
namespace Neatvi.Lemmas.C19c
open Neatvi Neatvi.Uc Neatvi.Ren Neatvi.Render

theorem translate_line (shape : Bool) (s : Bytes) (hs : LineBytes s) (k : Nat) (hk : k < s.length) :
    translate shape (chrs s) ((chrs s).map (fun c => (ucCode c).getD 0)) k = none :=
  C19d.translate_tab shape s (fun b hb => by unfold C19d.tabByte; rw [hs b hb, Bool.or_true]) k hk

/-- the emission loop on the table of such a line, from any column on: `C19d.emit_runs`, where every run is one
    character and its text the byte it shows as -/
theorem emit_line (shape : Bool) (s0 : Bytes) (hs : LineBytes s0) (cbeg cend : Int) (c m : Nat)
    (off : List (Option Nat)) (clast : Int)
    (hc : cbeg = (c : Int))
    (hoff : ∀ k, off.getD k none = if k < m then some (c + k) else none)
    (hcl : ∀ k : Nat, cbeg + (k : Int) ≤ clast ↔ k < m)
    (hmW : cbeg + (m : Int) ≤ cend)
    (hmL : ∀ k, k < m → c + k < s0.length) :
    ∀ (fuel k : Nat) (acc : Bytes), m - k ≤ fuel →
      renderRow.emit shape cbeg cend (chrs s0) ((chrs s0).map (fun c => (ucCode c).getD 0)) off clast
          fuel (cbeg + (k : Int)) acc =
        acc ++ ((s0.map disp).drop (c + k)).take (m - k) := by
  intro fuel k acc hf
  have ht : C19d.TabBytes s0 := fun b hb => by unfold C19d.tabByte; rw [hs b hb, Bool.or_true]
  have hml : m ≤ off.length := by
    apply Nat.le_of_not_lt
    intro h
    have := hoff (m - 1)
    rw [if_pos (by omega), List.getD_eq_getElem?_getD, List.getElem?_eq_none (by omega)] at this
    cases this
  rw [C19d.emit_runs shape cbeg cend _ _ off clast m hml (by omega) (fun j hj => by rw [hoff j, if_neg (by omega)])
    (fun j _ => hcl j) fuel k acc hf]
  congr 1
  have hL : ∀ j, ((off.take m).drop k)[j]? = if k + j < m then some (some (c + (k + j))) else none := by
    intro j
    rw [List.getElem?_drop, List.getElem?_take]
    split
    · rename_i h
      rw [C19d.getD_eq_some_iff, hoff, if_pos h]
    · rfl
  rw [C19d.rowText_cells shape _ _ s0 _ ?_, C19d.runs_expand]
  · apply List.ext_getElem?
    intro j
    rw [List.getElem?_map, hL, List.getElem?_take, List.getElem?_drop, List.getElem?_map]
    by_cases h : k + j < m
    · have hl := hmL (k + j) h
      have h9 := (lineByte_facts (hs _ (getD_mem hl))).2.2.2.2.2
      rw [if_pos h, if_pos (by omega), show c + k + j = c + (k + j) by omega, List.getElem?_eq_getElem hl]
      show some (C19d.vis (s0.getD (c + (k + j)) 0)) = some (disp s0[c + (k + j)])
      rw [List.getD_eq_getElem?_getD, List.getElem?_eq_getElem hl] at h9 ⊢
      unfold C19d.vis disp
      simp only [Option.getD_some] at h9 ⊢
      simp only [h9, false_or]
    · rw [if_neg h, if_neg (by omega)]
      rfl
  · intro i n hmem
    obtain ⟨a, hn, _, h1, _, _⟩ := C19d.runs_mem_spec _ _ _ hmem
    have e0 := h1 0 hn
    rw [hL] at e0
    have hn1 : n = 1 := by
      apply Nat.le_antisymm _ hn
      apply Nat.le_of_not_lt
      intro h2
      have e1 := h1 1 h2
      rw [hL] at e1
      split at e0 <;> split at e1 <;> simp at e0 e1
      omega
    subst hn1
    split at e0
    · rename_i h
      simp at e0
      subst e0
      exact C19d.charText_tab shape s0 ht _ 1 (hmL _ h) (fun _ => rfl)
    · cases e0

end Neatvi.Lemmas.C19c
