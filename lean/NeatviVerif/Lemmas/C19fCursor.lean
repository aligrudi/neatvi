import NeatviVerif.Lemmas.C19fPost
import NeatviVerif.Props.C17b
import NeatviVerif.Props.C19e
import NeatviVerif.Lemmas.C08Uc
import NeatviVerif.Lemmas.C07cPair
/-!
# C19f helper lemmas: the cursor cell

`vi()` ends an iteration with `term_pos(xrow - xtop, vi_pos(ln, ren_cursor(ln, xcol)))` (vi.c:1895).
The model has no terminal cursor, so it is defined here from the model's `ren_cursor` / `led_pos`:

* `cursorCol s` — `ren_cursor(ln, xcol)`, the visual column the cursor is put on;
* `termCursor s` — `vi_pos(ln, cursorCol)`, the cell of the window (`led_pos` with the window
  `[xleft, xleft + xcols)`, mirrored in a right-to-left context);
* `colCell s` — `vi_pos(ln, xcol)`, the cell of the sticky column itself.

`cursor_columns`, `cursor_cells`: when `xcol` is the column of the cursor character `off` of a valid UTF-8 line
(`xcol = vi_off2col(xrow, xoff)`, which `viPost` establishes when `mod ≠ 0`), `xcol` is the lowest
visual column of the character, every column of its cell range maps back to `off`, `ren_cursor` is
its highest visual column; and when all its cells are inside the window both `colCell` and
`termCursor` are cells of the window and the rendered row shows character `off` there.
-/
set_option linter.unusedSimpArgs false
set_option linter.unusedVariables false

namespace Neatvi.Lemmas.C19f
open Neatvi Neatvi.Uc Neatvi.Spec Neatvi.Ren Neatvi.Render Neatvi.Vi
open Neatvi.Lemmas.C17b Neatvi.Lemmas.C19d Neatvi.Lemmas.C19c
open Neatvi.Props.C19d (showsAt)
open Neatvi.Props.C19e (visCol)

/-- `ren_cursor(lbuf_get(xb, xrow), xcol)` (0 for a missing line) -/
def cursorCol (s : VS) : Int := match lineOf s s.ed.xrow with
  | none => 0
  | some ln => renCursorT ln (posTab s ln) (ucSlen ln) s.xcol

/-- the context direction of the cursor line (`dir_context(ln ? ln : "")`) -/
def curCtx (s : VS) : Int := dirCtx s ((lineOf s s.ed.xrow).getD [])

/-- `vi_pos(ln, p)`: the window cell of visual column `p` -/
def viPos (s : VS) (p : Int) : Int := ledPos (curCtx s) p s.ed.xleft (s.ed.xleft + s.xcols)

/-- the terminal column of the cursor: `vi_pos(ln, ren_cursor(ln, xcol))` -/
def termCursor (s : VS) : Int := viPos s (cursorCol s)

/-- the window cell of the sticky column: `vi_pos(ln, xcol)` -/
def colCell (s : VS) : Int := viPos s s.xcol

/-- what the cells of the row of the cursor line show (`C19d.showsAt` on the window
    `[xleft, xleft + xcols)` with the table and the context of the line) -/
def rowShows (s : VS) (ln : Bytes) (k : Nat) : Option Nat :=
  showsAt (chrs ln) (posTab s ln)
    (items (offTable (chrs ln) (posTab s ln) (dirCtx s ln) s.ed.xleft (s.ed.xleft + s.xcols))
      s.ed.xleft (s.ed.xleft + s.xcols)) k

/-- whether `ren_position` succeeds or the model falls back on the left-to-right table -/
theorem posTab_tiledW (s : VS) (ln : Bytes) (hz : 0 ∉ ln) :
    TiledW (cwidOf (chrs ln)) (posTab s ln) (chrs ln).length := by
  unfold posTab
  cases h : renPosition dirOracle (renOpts s) ln with
  | none => exact fast_tiledW _
  | some pos => exact Props.C17b.renPosition_tiledW dirOracle (renOpts s) ln hz pos h

theorem posTab_tiled (s : VS) (cps : List Nat) (hv : ∀ c ∈ cps, ValidCp c) : Tiled cps (posTab s (encStr cps)) :=
  (posTab_tiledW s _ (Props.C17b.not_mem_encStr_0 hv)).valid hv

theorem posTab_disjoint (s : VS) (cps : List Nat) (hv : ∀ c ∈ cps, ValidCp c) :
    Props.C19e.Disjoint (chrs (encStr cps)) (posTab s (encStr cps)) :=
  (posTab_tiledW s _ (Props.C17b.not_mem_encStr_0 hv)).disjoint

theorem off2col_eq (s : VS) (cps : List Nat) (hv : ∀ c ∈ cps, ValidCp c)
    (hln : lineOf s s.ed.xrow = some (encStr cps)) (off : Nat) (hoff : off < cps.length) :
    off2col s s.ed.xrow (off : Int) = ((posTab s (encStr cps)).getD off 0 : Nat) := by
  unfold off2col
  rw [hln]
  simp only [renPosT, Props.C16.slen_spec hv, Int.toNat_natCast, hoff, if_true]

theorem ledPos_range (ctx p beg end_ : Int) (h1 : beg ≤ p) (h2 : p < end_) :
    0 ≤ ledPos ctx p beg end_ ∧ ledPos ctx p beg end_ < end_ - beg := by
  unfold ledPos
  split <;> omega

theorem rowShows_at (s : VS) (cps : List Nat) (hv : ∀ c ∈ cps, ValidCp c) (hc : 0 < s.xcols)
    (i : Nat) (hi : i < cps.length) (p : Int)
    (hp1 : ((posTab s (encStr cps)).getD i 0 : Nat) ≤ p)
    (hp2 : p < ((posTab s (encStr cps)).getD i 0 : Nat) +
      (cellWidth (cps.getD i 0) ((posTab s (encStr cps)).getD i 0) : Int))
    (hin1 : s.ed.xleft ≤ ((posTab s (encStr cps)).getD i 0 : Nat))
    (hin2 : ((posTab s (encStr cps)).getD i 0 : Nat) +
      (cellWidth (cps.getD i 0) ((posTab s (encStr cps)).getD i 0) : Int) ≤ s.ed.xleft + s.xcols) :
    let k := ledPos (dirCtx s (encStr cps)) p s.ed.xleft (s.ed.xleft + s.xcols)
    0 ≤ k ∧ k < s.xcols ∧ rowShows s (encStr cps) k.toNat = some i := by
  intro k
  obtain ⟨k0, k1⟩ := ledPos_range (dirCtx s (encStr cps)) p s.ed.xleft (s.ed.xleft + s.xcols) (by omega) (by omega)
  refine ⟨k0, by omega, ?_⟩
  unfold rowShows
  rw [Props.C19e.showsAt_spec_any _ _ _ _ _ (by omega) (posTab_disjoint s cps hv),
    Props.C19e.visCol_ledPos _ _ _ _ k0, chrs_enc_length hv, cwid_chr hv i hi]
  exact ⟨hi, hp1, hp2, hin1, hin2⟩

theorem col_on_char (s : VS) (cps : List Nat) (hv : ∀ c ∈ cps, ValidCp c)
    (hln : lineOf s s.ed.xrow = some (encStr cps)) (i : Nat) (hi : i < cps.length) (hnl : cps.getD i 0 ≠ 10)
    (p : Int) (h1 : ((posTab s (encStr cps)).getD i 0 : Nat) ≤ p) (h2 : p < ((posTab s (encStr cps)).getD i 0 : Nat) + (cellWidth (cps.getD i 0) ((posTab s (encStr cps)).getD i 0) : Int)) :
    col2off s s.ed.xrow p = (i : Nat) ∧
    renCursorT (encStr cps) (posTab s (encStr cps)) (ucSlen (encStr cps)) p = ((posTab s (encStr cps)).getD i 0 : Nat) + (cellWidth (cps.getD i 0) ((posTab s (encStr cps)).getD i 0) : Int) - 1 := by
  have key := Props.C17b.renCursorT_tiled (encStr cps) (posTab_tiled s cps hv) i hi
    (fun hc => hnl ((C07.chrHd_enc_eq_10 hv i hi).mp hc)) p h1 h2
  rw [← Props.C16.slen_spec hv] at key
  refine ⟨?_, key.2⟩
  unfold col2off
  rw [hln]
  show ((renOffT (posTab s (encStr cps)) (ucSlen (encStr cps)) p : Nat) : Int) = _
  rw [key.1]

theorem cursorCol_on_char (s : VS) (cps : List Nat) (hv : ∀ c ∈ cps, ValidCp c)
    (hln : lineOf s s.ed.xrow = some (encStr cps)) (i : Nat) (hi : i < cps.length) (hnl : cps.getD i 0 ≠ 10)
    (h1 : ((posTab s (encStr cps)).getD i 0 : Nat) ≤ s.xcol)
    (h2 : s.xcol < ((posTab s (encStr cps)).getD i 0 : Nat) +
      (cellWidth (cps.getD i 0) ((posTab s (encStr cps)).getD i 0) : Int)) :
    cursorCol s = ((posTab s (encStr cps)).getD i 0 : Nat) +
      (cellWidth (cps.getD i 0) ((posTab s (encStr cps)).getD i 0) : Int) - 1 ∧
    col2off s s.ed.xrow s.xcol = (i : Nat) := by
  obtain ⟨a, b⟩ := col_on_char s cps hv hln i hi hnl s.xcol h1 h2
  refine ⟨?_, a⟩
  unfold cursorCol
  rw [hln]
  exact b

theorem cursor_cells_on_char (s : VS) (cps : List Nat) (hv : ∀ c ∈ cps, ValidCp c) (hc : 0 < s.xcols)
    (hln : lineOf s s.ed.xrow = some (encStr cps)) (i : Nat) (hi : i < cps.length) (hnl : cps.getD i 0 ≠ 10)
    (h1 : ((posTab s (encStr cps)).getD i 0 : Nat) ≤ s.xcol)
    (h2 : s.xcol < ((posTab s (encStr cps)).getD i 0 : Nat) +
      (cellWidth (cps.getD i 0) ((posTab s (encStr cps)).getD i 0) : Int))
    (hin1 : s.ed.xleft ≤ ((posTab s (encStr cps)).getD i 0 : Nat))
    (hin2 : ((posTab s (encStr cps)).getD i 0 : Nat) +
      (cellWidth (cps.getD i 0) ((posTab s (encStr cps)).getD i 0) : Int) ≤ s.ed.xleft + s.xcols) :
    0 ≤ colCell s ∧ colCell s < s.xcols ∧ rowShows s (encStr cps) (colCell s).toNat = some i ∧
    0 ≤ termCursor s ∧ termCursor s < s.xcols ∧ rowShows s (encStr cps) (termCursor s).toNat = some i := by
  have hw := (posTab_tiled s cps hv).width_pos i hi
  obtain ⟨hcc, _⟩ := cursorCol_on_char s cps hv hln i hi hnl h1 h2
  have hctx : curCtx s = dirCtx s (encStr cps) := by unfold curCtx; rw [hln]; rfl
  have a := rowShows_at s cps hv hc i hi s.xcol h1 h2 hin1 hin2
  have b := rowShows_at s cps hv hc i hi (cursorCol s) (by omega) (by omega) hin1 hin2
  simp only [] at a b
  unfold colCell termCursor viPos
  rw [hctx]
  exact ⟨a.1, a.2.1, a.2.2, b.1, b.2.1, b.2.2⟩

/-- **the columns of the cursor character.**  For a state whose sticky column is the column of the
    cursor character `off` (not the newline) of the valid UTF-8 line under the cursor, with `pos` the
    model's position table and `w` the reference cell width of the character:
    * `xcol = pos[off]`: the lowest visual column of the character, and `1 ≤ w`;
    * every column `p` of the cell range `[pos[off], pos[off] + w)` maps back to the character
      (`vi_col2off(p) = off`) and has `ren_cursor(p) = pos[off] + w - 1`;
    * so `cursorCol = xcol + w - 1`: the terminal cursor is put on the highest visual column of the
      character. -/
theorem cursor_columns (s : VS) (cps : List Nat) (hv : ∀ c ∈ cps, ValidCp c)
    (hln : lineOf s s.ed.xrow = some (encStr cps)) (off : Nat) (hxo : s.ed.xoff = (off : Int))
    (hoff : off < cps.length) (hnl : cps.getD off 0 ≠ 10)
    (hx : s.xcol = off2col s s.ed.xrow s.ed.xoff) :
    let pos := posTab s (encStr cps)
    let w := cellWidth (cps.getD off 0) (pos.getD off 0)
    s.xcol = (pos.getD off 0 : Nat) ∧ 1 ≤ w ∧
    (∀ p : Int, (pos.getD off 0 : Nat) ≤ p → p < (pos.getD off 0 : Nat) + (w : Int) →
      col2off s s.ed.xrow p = (off : Nat) ∧
      renCursorT (encStr cps) pos (ucSlen (encStr cps)) p = (pos.getD off 0 : Nat) + (w : Int) - 1) ∧
    cursorCol s = s.xcol + (w : Int) - 1 := by
  intro pos w
  have hw : 1 ≤ cellWidth (cps.getD off 0) ((posTab s (encStr cps)).getD off 0) :=
    (posTab_tiled s cps hv).width_pos off hoff
  have hxc : s.xcol = ((posTab s (encStr cps)).getD off 0 : Nat) := by
    rw [hx, hxo]; exact off2col_eq s cps hv hln off hoff
  refine ⟨hxc, hw, col_on_char s cps hv hln off hoff hnl, ?_⟩
  rw [(cursorCol_on_char s cps hv hln off hoff hnl (by omega) (by omega)).1, hxc]

/-- **the cells of the cursor.**  Under the hypotheses of `cursor_columns`, when the sticky column is
    inside the window and all cells of the cursor character are (`xcol + w ≤ xleft + xcols`): the
    cell of the sticky column and the cell of the terminal cursor are cells of the window, and the
    rendered row shows the cursor character in both.  In a left-to-right context the sticky column
    is the leftmost cell of the character and the terminal cursor its rightmost cell
    (`termCursor = colCell + (w - 1)`); in a right-to-left context the window is mirrored: the sticky
    column is the rightmost cell and the terminal cursor the leftmost (`termCursor = colCell - (w - 1)`). -/
theorem cursor_cells (s : VS) (cps : List Nat) (hv : ∀ c ∈ cps, ValidCp c) (hc : 0 < s.xcols)
    (hln : lineOf s s.ed.xrow = some (encStr cps)) (off : Nat) (hxo : s.ed.xoff = (off : Int))
    (hoff : off < cps.length) (hnl : cps.getD off 0 ≠ 10)
    (hx : s.xcol = off2col s s.ed.xrow s.ed.xoff)
    (hl : s.ed.xleft ≤ s.xcol)
    (hr : s.xcol + (cellWidth (cps.getD off 0) ((posTab s (encStr cps)).getD off 0) : Int) ≤ s.ed.xleft + s.xcols) :
    let w : Int := cellWidth (cps.getD off 0) ((posTab s (encStr cps)).getD off 0)
    0 ≤ colCell s ∧ colCell s < s.xcols ∧ rowShows s (encStr cps) (colCell s).toNat = some off ∧
    0 ≤ termCursor s ∧ termCursor s < s.xcols ∧ rowShows s (encStr cps) (termCursor s).toNat = some off ∧
    (0 ≤ curCtx s → termCursor s = colCell s + (w - 1)) ∧
    (curCtx s < 0 → termCursor s = colCell s - (w - 1)) := by
  intro w
  obtain ⟨hxc, hw, _, hcc⟩ := cursor_columns s cps hv hln off hxo hoff hnl hx
  obtain ⟨a1, a2, a3, b1, b2, b3⟩ := cursor_cells_on_char s cps hv hc hln off hoff hnl
    (by omega) (by omega) (by omega) (by omega)
  refine ⟨a1, a2, a3, b1, b2, b3, fun h0 => ?_, fun h0 => ?_⟩
  · unfold termCursor colCell viPos ledPos
    rw [if_pos h0, if_pos h0, hcc]
    omega
  · unfold termCursor colCell viPos ledPos
    rw [if_neg (by omega), if_neg (by omega), hcc]
    omega

theorem body_line (body : List Nat) (hv : ∀ c ∈ body, ValidCp c) (h10 : 10 ∉ body) (hne : body ≠ []) :
    (∀ c ∈ body ++ [10], ValidCp c) ∧ C07.WfLine (encStr (body ++ [10])) ∧ 0 ∉ encStr (body ++ [10]) ∧
    encStr (body ++ [10]) ≠ [10] :=
  ⟨valid_line hv, ⟨encStr body, by rw [encStr_append]; rfl, C08.ten_notin_encStr h10⟩,
    Props.C17b.not_mem_encStr_0 (valid_line hv), mt (C07c.blank_line_iff body).mp hne⟩

/-- on a buffer line other than the empty line, a valid cursor with a non-negative offset is on a
    character of the line that is not its newline -/
theorem valid_cursor_char (s : VS) (hcv : Props.C07.CursorValid s) (h0 : 0 ≤ s.ed.xoff)
    (body : List Nat) (hv : ∀ c ∈ body, ValidCp c) (h10 : 10 ∉ body) (hne : body ≠ [])
    (hln : lineOf s s.ed.xrow = some (encStr (body ++ [10]))) :
    s.ed.xoff = (s.ed.xoff.toNat : Int) ∧ s.ed.xoff.toNat < body.length ∧
    (body ++ [10]).getD s.ed.xoff.toNat 0 ≠ 10 := by
  obtain ⟨hvc, hw, hz, hn1⟩ := body_line body hv h10 hne
  obtain ⟨a, _, c⟩ := Props.C07.cursor_on_character s hcv h0 _ hln hw hz
  rw [Props.C16.slen_spec hvc] at a
  have hlt : s.ed.xoff.toNat < (body ++ [10]).length := by omega
  have hnl : (body ++ [10]).getD s.ed.xoff.toNat 0 ≠ 10 := fun h10' =>
    hn1 (c ((C07.chrHd_enc_eq_10 hvc _ hlt).mpr h10')).1
  refine ⟨by omega, ?_, hnl⟩
  by_cases hb : s.ed.xoff.toNat < body.length
  · exact hb
  · exfalso
    apply hnl
    have : s.ed.xoff.toNat = body.length := by simp at hlt; omega
    rw [this]
    simp

end Neatvi.Lemmas.C19f
