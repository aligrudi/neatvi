import NeatviVerif.Lemmas.C19fRun
/-!
# C19f: concrete states (evaluated by the kernel)

* `exSt`: the file of the recorded finding `sticky_column_keeps_xleft_beyond_the_cursor`
  (`"short\n"`, a line of 120 `a`s) on an 80-column window;
* `tabSt`: a line with a tab that straddles the right edge of a 10-column window;
* `negSt`, `farSt`, `zeroSt`: the states that refute the unconditioned forms of `viPost_col_in_window`.
-/
namespace Neatvi.Lemmas.C19f
open Neatvi Neatvi.Uc Neatvi.Lbuf Neatvi.Ex Neatvi.Vi Neatvi.Render
open Neatvi.Props.C05c (iterate)

/-- `"short\n"` -/
def shortLn : Bytes := [115, 104, 111, 114, 116, 10]
/-- 120 `a`s and the newline -/
def longLn : Bytes := List.replicate 120 97 ++ [10]
/-- the buffer of the recorded finding -/
def exEd : Ed := { bufs := [some { path := [], lb := { lines := [shortLn, longLn] } }] }
/-- ... with the cursor at `(row, off)`, the keys to come, an 80-column window -/
def exSt (keys : Bytes) (row off : Int) : VS := { ed := { exEd with xrow := row, xoff := off }, typed := keys }

/-- what the checks below look at -/
def view (s : VS) : List Int :=
  [s.ed.xrow, s.ed.xoff, s.xcol, s.ed.xleft, cursorCol s, termCursor s, colCell s]

def viewAfter (n : Nat) (s : VS) : Option (List Int) := (iterate n s).map view

/-- what `ex_after_j_dollar_k_row` asks of the state after `j$k` -/
def rowCheck (s : VS) : Bool :=
  decide (ColWin s) && decide (s.xcols = 80) && decide (s.ed.xquit = false) &&
    decide (lineOf s s.ed.xrow = some shortLn) &&
    decide (off2col s s.ed.xrow s.ed.xoff = 4) && decide (off2col s s.ed.xrow s.ed.xoff < s.ed.xleft) &&
    decide (renderRow dirOracle (renOpts s) true shortLn s.ed.xleft (s.ed.xleft + s.xcols) = some []) &&
    (List.range 80).all (fun k => rowShows s shortLn k == none)

/-- the run `j`, `$`, `k` of the finding, evaluated once: the kernel keeps what it has computed while it
    checks one declaration, so the three states are reached once for all that is asked of them -/
theorem ex_run_checks :
    viewAfter 2 (exSt [106, 36, 107] 0 0) = some [1, 119, 119, 79, 119, 40, 40] ∧
    viewAfter 3 (exSt [106, 36, 107] 0 0) = some [0, 4, 119, 79, 4, -75, 40] ∧
    (iterate 3 (exSt [106, 36, 107] 0 0)).any rowCheck = true ∧
    (iterate 1 (exSt [106, 36, 107] 0 0)).all (fun t => decide (t.ed.xquit = false)) = true ∧
    (iterate 2 (exSt [106, 36, 107] 0 0)).all (fun t => decide (t.ed.xquit = false)) = true := by
  decide +kernel

/-- the keys `j`, `$`: the cursor is on the last `a` (offset 119), `xcol = 119`, the window has
    scrolled to `xleft = 79`, the terminal cursor is in cell 40 -/
theorem ex_after_j_dollar : viewAfter 2 (exSt [106, 36, 107] 0 0) = some [1, 119, 119, 79, 119, 40, 40] :=
  ex_run_checks.1

/-- then `k`: the cursor is on the `t` of `short` (offset 4, column 4); `xcol` is still 119 and `xleft`
    still 79; `ren_cursor(xcol)` is column 4, i.e. window cell `4 - 79 = -75` (`term_pos` clamps it to
    column 0) -/
theorem ex_after_j_dollar_k : viewAfter 3 (exSt [106, 36, 107] 0 0) = some [0, 4, 119, 79, 4, -75, 40] :=
  ex_run_checks.2.1

/-- in that state: the column window holds (of the *sticky* column), the column of the cursor
    character is 4, left of `xleft`, and the row of the cursor line is drawn empty -/
theorem ex_after_j_dollar_k_row :
    (match iterate 3 (exSt [106, 36, 107] 0 0) with
     | some s => decide (ColWin s) && decide (s.xcols = 80) && decide (s.ed.xquit = false) &&
         decide (lineOf s s.ed.xrow = some shortLn) &&
         decide (off2col s s.ed.xrow s.ed.xoff = 4) && decide (off2col s s.ed.xrow s.ed.xoff < s.ed.xleft) &&
         decide (renderRow dirOracle (renOpts s) true shortLn s.ed.xleft (s.ed.xleft + s.xcols) = some []) &&
         (List.range 80).all (fun k => rowShows s shortLn k == none)
     | none => false) = true := by
  have h := ex_run_checks.2.2.1
  cases hi : iterate 3 (exSt [106, 36, 107] 0 0) with
  | none => rw [hi] at h; cases h
  | some s => rw [hi] at h; exact h

/-- `aaaaaaaaa<TAB>b`: the tab takes columns 9–15 -/
def tabLn : Bytes := List.replicate 9 97 ++ [9, 98, 10]
def tabSt (keys : Bytes) : VS :=
  { ed := { bufs := [some { path := [], lb := { lines := [tabLn] } }] }, typed := keys, xcols := 10 }

/-- `$h` on a 10-column window: the cursor is on the tab (offset 9), `xcol = 9` is inside the window
    `[0, 10)` and `xleft = 0`; `ren_cursor` is the tab's last column 15, cell 15 — outside the window -/
theorem tab_after_dollar_h : viewAfter 2 (tabSt [36, 104]) = some [0, 9, 9, 0, 15, 15, 9] := by decide +kernel

/-- ... and the row does not show the tab at all (its cells are not all inside the window) -/
theorem tab_after_dollar_h_row :
    (match iterate 2 (tabSt [36, 104]) with
     | some s => decide (ColWin s) && decide (s.xcol = off2col s s.ed.xrow s.ed.xoff) &&
         decide (renderRow dirOracle (renOpts s) true tabLn s.ed.xleft (s.ed.xleft + s.xcols) =
           some [97, 97, 97, 97, 97, 97, 97, 97, 97]) &&
         decide (rowShows s tabLn 9 = none)
     | none => false) = true := by
  decide +kernel

/-! ### the hypotheses of `viPost_col_in_window` are needed -/

/-- a negative sticky column (no state of a run has one) -/
def negSt : VS := { exSt [] 0 0 with xcol := -1, ed := { exEd with xleft := 5 } }
/-- a negative `xleft` -/
def farSt : VS := { exSt [] 0 0 with xcol := 0, ed := { exEd with xleft := -100 } }
/-- a window without columns -/
def zeroSt : VS := { exSt [] 0 0 with xcols := 0 }

def postView (mod : Nat) (s : VS) : Option (Int × Int × Int × Bool) :=
  match viPost (some mod) s with
  | Res.ok _ s' => some (s'.xcol, s'.ed.xleft, s'.xcols, s'.ed.xquit)
  | _ => none

theorem negSt_post : postView 0 negSt = some (-1, 0, 80, false) := by decide +kernel
theorem farSt_post : postView 0 farSt = some (0, -40, 80, false) := by decide +kernel
theorem zeroSt_post : postView 1 zeroSt = some (0, 0, 0, false) := by decide +kernel

theorem postView_some (mod : Nat) (s : VS) (v : Int × Int × Int × Bool) (h : postView mod s = some v) :
    ∃ s', viPost (some mod) s = Res.ok () s' ∧ v = (s'.xcol, s'.ed.xleft, s'.xcols, s'.ed.xquit) := by
  unfold postView at h
  split at h
  · rename_i u s' hr
    exact ⟨s', hr, by cases h; rfl⟩
  · cases h

/-- a satisfiable instance of the hypotheses of `viPost_col_in_window` and of `cursor_on_character`:
    `viPost (some 1)` on the state the `$` of the finding has reached before the end of its iteration (the cursor on the
    last `a` of the long line, `xcol = 3` and `xleft = 0` not yet adjusted; after the iteration it is `stickySt`) -/
def midSt : VS := { exSt [] 1 119 with xcol := 3, ed := { exEd with xrow := 1, xoff := 119, xleft := 0 } }
/-- `viPost (some 1) midSt`, evaluated once for both checks -/
theorem midSt_checks : postView 1 midSt = some (119, 79, 80, false) ∧
    (match viPost (some 1) midSt with
     | Res.ok _ s' => decide (lineOf s' s'.ed.xrow = some (Spec.encStr (List.replicate 120 97 ++ [10])))
     | _ => false) = true := by decide +kernel

theorem midSt_post : postView 1 midSt = some (119, 79, 80, false) := midSt_checks.1

/-- the line under the cursor after `viPost (some 1) midSt` is the long line, as code points -/
theorem midSt_line :
    (match viPost (some 1) midSt with
     | Res.ok _ s' => decide (lineOf s' s'.ed.xrow = some (Spec.encStr (List.replicate 120 97 ++ [10])))
     | _ => false) = true := midSt_checks.2

theorem longBody_valid : ∀ c ∈ List.replicate 120 97, Spec.ValidCp c := by
  intro c hc
  rw [List.eq_of_mem_replicate hc]
  decide
theorem longBody_no10 : 10 ∉ List.replicate 120 97 := by
  intro h
  have := List.eq_of_mem_replicate h
  omega
theorem longBody_ne : List.replicate 120 97 ≠ ([] : List Nat) := by simp

/-- the state of the finding after `j$` (cursor on the last `a` of the long line, `xcol = 119`,
    `xleft = 79`), from which `k` is a vertical motion to the line `short` -/
def stickySt : VS := { exSt [] 1 119 with xcol := 119, ed := { exEd with xrow := 1, xoff := 119, xleft := 79 } }

/-- the code points of `short` -/
def shortBody : List Nat := [115, 104, 111, 114, 116]
theorem shortLn_enc : Spec.encStr (shortBody ++ [10]) = shortLn := by decide

/-- the state `motionTail 107 0 _ stickySt` ends in (`motionTail_jk`) -/
def stickyMid : VS :=
  { stickySt with ed := { stickySt.ed with xrow := 0, xoff := noeol stickySt 0 (col2off stickySt 0 stickySt.xcol) } }
theorem stickyMid_post : postView 0 stickyMid = some (119, 79, 80, false) := by decide +kernel

/-- the run of the finding: none of the three states after `j`, `$`, `k` is quitting -/
theorem ex_alive : Lemmas.C19f.Alive 3 (exSt [106, 36, 107] 0 0) := by
  intro k t hk0 hk ht
  have e1 := ex_run_checks.2.2.2.1
  have e2 := ex_run_checks.2.2.2.2
  have e3 := ex_after_j_dollar_k_row
  have : k = 1 ∨ k = 2 ∨ k = 3 := by omega
  rcases this with rfl | rfl | rfl
  · rw [ht] at e1; simpa using e1
  · rw [ht] at e2; simpa using e2
  · rw [ht] at e3
    simp only [Bool.and_eq_true, decide_eq_true_eq] at e3
    exact e3.1.1.1.1.1.2

theorem ex_good : Good 80 (exSt [106, 36, 107] 0 0) :=
  ⟨rfl, Int.le_refl 0, Int.le_refl 0, ⟨Int.le_refl 0, (by decide : (0 : Int) ≤ 999999999), Int.le_refl 0,
    (by decide : (0 : Int) ≤ 999999999)⟩, fun h => by cases h⟩

theorem ex_colWin : ColWin (exSt [106, 36, 107] 0 0) := by decide

theorem ex_iterate_some : (iterate 3 (exSt [106, 36, 107] 0 0)).isSome = true := by
  have h := ex_after_j_dollar_k
  unfold viewAfter at h
  cases hi : iterate 3 (exSt [106, 36, 107] 0 0) with
  | none => rw [hi] at h; cases h
  | some s => rfl

/-- the cursor on the fourth `a` of the long line, `xcol = 3`, `xleft = 0`: `k` goes to the `r` of `short` -/
def nearSt : VS := { exSt [] 1 3 with xcol := 3, ed := { exEd with xrow := 1, xoff := 3, xleft := 0 } }
def nearMid : VS :=
  { nearSt with ed := { nearSt.ed with xrow := 0, xoff := noeol nearSt 0 (col2off nearSt 0 nearSt.xcol) } }
/-- the hypotheses of `sticky_cursor_on_character` about the final state hold of it (character `i = 3`) -/
theorem nearMid_post :
    (match viPost (some 0) nearMid with
     | Res.ok _ s3 =>
       decide (((posTab s3 (Spec.encStr (shortBody ++ [10]))).getD 3 0 : Nat) ≤ s3.xcol) &&
       decide (s3.xcol < ((posTab s3 (Spec.encStr (shortBody ++ [10]))).getD 3 0 : Nat) +
         (Spec.cellWidth ((shortBody ++ [10]).getD 3 0) ((posTab s3 (Spec.encStr (shortBody ++ [10]))).getD 3 0) : Int)) &&
       decide (s3.ed.xleft ≤ ((posTab s3 (Spec.encStr (shortBody ++ [10]))).getD 3 0 : Nat)) &&
       decide (((posTab s3 (Spec.encStr (shortBody ++ [10]))).getD 3 0 : Nat) +
         (Spec.cellWidth ((shortBody ++ [10]).getD 3 0) ((posTab s3 (Spec.encStr (shortBody ++ [10]))).getD 3 0) : Int) ≤
           s3.ed.xleft + s3.xcols) &&
       decide (view s3 = [0, 3, 3, 0, 3, 3, 3])
     | _ => false) = true := by decide +kernel

end Neatvi.Lemmas.C19f
