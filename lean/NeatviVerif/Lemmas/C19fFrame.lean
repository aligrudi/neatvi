import NeatviVerif.Lemmas.C05cFrame
import NeatviVerif.Lemmas.C07Step
import NeatviVerif.Lemmas.C09Queue
import NeatviVerif.Props.C05b
import NeatviVerif.Lemmas.C19gEx
/-!
# C19f helper lemmas: invariants of the monadic functions of the vi loop

`Pres P m`: a computation that returns normally takes a state with `P` to a state with `P`; it is
`ViPres.Pres P m` (`pres_iff`), with the rules of that.  Two families of predicates are carried
through the functions of `Model/Vi.lean` / `Model/ViCmd.lean` by `pres_walk` of `Lemmas/ViPres.lean` (which is given
the lemmas about the functions the text calls; the lemmas of the C19f files are stated with `ViPres.Pres`, a few with this
`Pres`, which is the same proposition):

* `Hz v` — the *horizontal snapshot* `hsnap s = (xcol, xcols, xleft, xtd, xquit)` has the value `v`:
  with `v` arbitrary this is the frame fact "the function leaves these five alone".  It holds of the
  prefixes and the motion of an iteration (`viPre`), of `vi_wfix`, `vi_wait`, `lbuf_modified`.
* `GoodB b c` — `xcols = c`, `0 ≤ xcol`, `0 ≤ vi_pcol` and both counts within `[0, 999999999]`
  (`CountsFit` of C05b), and, when `b`, `0 ≤ xcols` and no negative `xleft`, current or saved in the
  buffer table (`LOk`): an invariant of *every* function, `viStep` included (`Lemmas/C19fGood.lean` up to
  `motionTail`, then `C19fPost.lean`, `C19fTail.lean`) — for `b = true` because the ex layer keeps
  `LOk` (`C19g.exKeepsLeft`, `Lemmas/C19gEx.lean`; `LOk` is declared in `Lemmas/C19gFrame.lean`).
  `Good c` is `GoodB false c`.

`HG P` says `P` is one of these.  Either passes from a state to one that agrees with it on the snapshot,
the `|` column and the counts and has `LOk` if the first has (`Keep`, `HG.keep`); the lemmas about the
functions both families need are stated for `HG P` and rest on that alone, except where a count or
`vi_pcol` is assigned (`pres_viMotion`, `pres_arg1`, `pres_arg2` of `Lemmas/C19fGood.lean`, by cases on `HG P`).
-/
set_option linter.unusedSimpArgs false
set_option linter.unusedVariables false

namespace Neatvi.Lemmas.C19f
open Neatvi Neatvi.Uc Neatvi.Lbuf Neatvi.Ex Neatvi.Mot Neatvi.Vi
open Neatvi.Lemmas.C05b (CountsFit)
open Neatvi.Lemmas.C05c (bind_inv)

/-- a computation that returns normally keeps `P` -/
def Pres {α : Type} (P : VS → Prop) (m : M α) : Prop :=
  ∀ s a s', P s → m s = Res.ok a s' → P s'

theorem pres_iff {α : Type} {P : VS → Prop} {m : M α} : Pres P m ↔ ViPres.Pres P m := Iff.rfl

namespace Pres

theorem pure {α : Type} {P : VS → Prop} (a : α) : Pres P (Pure.pure a : M α) := ViPres.Pres.pure a

theorem bind {α β : Type} {P : VS → Prop} {m : M α} {f : α → M β} (hm : Pres P m) (hf : ∀ a, Pres P (f a)) :
    Pres P (m >>= f) := ViPres.Pres.bind hm hf

/-- after `get` the continuation may use that the state it was handed has `P` -/
theorem bind_get {β : Type} {P : VS → Prop} {f : VS → M β} (hf : ∀ s0, P s0 → Pres P (f s0)) :
    Pres P (Vi.get >>= f) := ViPres.Pres.bind_get hf

theorem get {P : VS → Prop} : Pres P Vi.get := ViPres.Pres.get

theorem trap {α : Type} {P : VS → Prop} : Pres P (Vi.trap : M α) := ViPres.Pres.trap

theorem modify {P : VS → Prop} {f : VS → VS} (hf : ∀ s, P s → P (f s)) : Pres P (Vi.modify f) := ViPres.Pres.modify hf

theorem withEd {P : VS → Prop} {f : Ed → Ed} (hf : ∀ s : VS, P s → P { s with ed := f s.ed }) :
    Pres P (Vi.withEd f) := modify hf

theorem ite {α : Type} {P : VS → Prop} {p : Prop} [Decidable p] {a b : M α} (ha : Pres P a) (hb : Pres P b) :
    Pres P (if p then a else b) := ViPres.Pres.ite ha hb

theorem liftO {α : Type} {P : VS → Prop} (o : Option α) : Pres P (Vi.liftO o) := ViPres.Pres.liftO o

theorem repeatM {P : VS → Prop} (n : Nat) {m : M Unit} (hm : Pres P m) : Pres P (Vi.repeatM n m) :=
  ViPres.Pres.repeatM n hm

/-- a function whose result state agrees with the start state on everything `P` looks at -/
theorem of_eq {α : Type} {P : VS → Prop} {m : M α} (h : ∀ s a s', m s = Res.ok a s' → P s → P s') : Pres P m :=
  ViPres.Pres.of_rel h

end Pres

/-! ### the two families of predicates -/

/-- the horizontal snapshot: sticky column, window width, first visible column, text direction, quit flag -/
def hsnap (s : VS) : Int × Int × Int × Int × Bool := (s.xcol, s.xcols, s.ed.xleft, s.ed.xtd, s.ed.xquit)

/-- the snapshot has the value `v` -/
def Hz (v : Int × Int × Int × Int × Bool) (s : VS) : Prop := hsnap s = v

/-- `Good c`, and when `b` also `0 ≤ xcols` and `LOk` -/
def GoodB (b : Bool) (c : Int) (s : VS) : Prop :=
  s.xcols = c ∧ 0 ≤ s.xcol ∧ 0 ≤ s.pcol ∧ CountsFit s ∧ (b = true → 0 ≤ s.xcols ∧ LOk s.ed)

/-- window width `c`, non-negative sticky column and `|` column, counts within bounds -/
abbrev Good (c : Int) (s : VS) : Prop := GoodB false c s

/-- `P` is one of the predicates of the two families -/
inductive HG : (VS → Prop) → Prop
  | hz (v : Int × Int × Int × Int × Bool) : HG (Hz v)
  | good (b : Bool) (c : Int) : HG (GoodB b c)

theorem hsnap_fields {s s' : VS} (h : hsnap s' = hsnap s) :
    s'.xcol = s.xcol ∧ s'.xcols = s.xcols ∧ s'.ed.xleft = s.ed.xleft ∧ s'.ed.xtd = s.ed.xtd ∧
    s'.ed.xquit = s.ed.xquit := by
  unfold hsnap at h
  simp only [Prod.mk.injEq] at h
  exact h

theorem hz_frame {α : Type} {m : M α} (h : ∀ v, ViPres.Pres (Hz v) m) (s : VS) (a : α) (s' : VS)
    (hm : m s = Res.ok a s') : hsnap s' = hsnap s :=
  h (hsnap s) s a s' rfl hm

/-! ### what both families read -/

/-- `s'` has the horizontal snapshot, the `|` column and the counts of `s`, and `LOk` if `s` has it -/
def Keep (s s' : VS) : Prop :=
  hsnap s' = hsnap s ∧ s'.pcol = s.pcol ∧ s'.arg1 = s.arg1 ∧ s'.arg2 = s.arg2 ∧ (LOk s.ed → LOk s'.ed)

theorem HG.keep {P : VS → Prop} (hP : HG P) {s s' : VS} (h : Keep s s') (hs : P s) : P s' := by
  obtain ⟨hv, hp, h1, h2, hl⟩ := h
  cases hP with
  | hz v => exact hv.trans hs
  | good b c =>
    obtain ⟨e0, e1, -⟩ := hsnap_fields hv
    unfold GoodB CountsFit at *
    rw [e0, e1, hp, h1, h2]
    exact ⟨hs.1, hs.2.1, hs.2.2.1, hs.2.2.2.1, fun hb => ⟨(hs.2.2.2.2 hb).1, hl (hs.2.2.2.2 hb).2⟩⟩

/-- what `Keep` compares: the snapshot, the `|` column, the counts, the buffer table -/
def kept (s : VS) : (Int × Int × Int × Int × Bool) × Int × Int × Int × List (Option Buf) :=
  (hsnap s, s.pcol, s.arg1, s.arg2, s.ed.bufs)

theorem Keep.of_kept {s s' : VS} (h : kept s' = kept s) : Keep s s' := by
  unfold kept at h
  simp only [Prod.mk.injEq] at h
  obtain ⟨hv, hp, h1, h2, hb⟩ := h
  refine ⟨hv, hp, h1, h2, fun hl => ?_⟩
  unfold LOk at *
  rw [(hsnap_fields hv).2.2.1, hb]
  exact hl

theorem HG.reads {P : VS → Prop} (hP : HG P) : ViPres.Reads kept P := fun _ _ e => hP.keep (Keep.of_kept e)

/-- an update of fields neither family reads: the side condition is closed by `fun _ => rfl` -/
theorem pres_modify {P : VS → Prop} (hP : HG P) {f : VS → VS} (hf : ∀ s, kept (f s) = kept s) :
    ViPres.Pres P (Vi.modify f) := hP.reads.modify hf

theorem pres_withEd {P : VS → Prop} (hP : HG P) {f : Ed → Ed} (hf : ∀ s : VS, kept { s with ed := f s.ed } = kept s) :
    ViPres.Pres P (Vi.withEd f) := hP.reads.modify hf

/-! ### the primitives -/

/-- neither family reads what reading keys or a motion changes (the `|` column apart), nor the cursor and the top of
    the window -/
theorem HG.mblind {P : VS → Prop} (hP : HG P) : ViPres.MBlind P := hP.reads.factor fun _ => rfl
theorem HG.blind {P : VS → Prop} (hP : HG P) : ViPres.Blind P := hP.reads.factor fun _ => rfl
theorem HG.cblind {P : VS → Prop} (hP : HG P) : ViPres.CBlind P := hP.reads.factor fun _ => rfl

theorem pres_viRead {P : VS → Prop} (hP : HG P) : ViPres.Pres P viRead := ViPres.pres_viRead hP.blind
theorem pres_termCmd {P : VS → Prop} (hP : HG P) : ViPres.Pres P termCmd := ViPres.pres_termCmd hP.blind

theorem setLb_hz (ed : Ed) (lb : Lb) :
    (ed.setLb lb).xleft = ed.xleft ∧ (ed.setLb lb).xtd = ed.xtd ∧ (ed.setLb lb).xquit = ed.xquit := by
  unfold Ed.setLb
  cases ed.cur <;> exact ⟨rfl, rfl, rfl⟩

theorem lOk_setLb (ed : Ed) (lb : Lb) (h : LOk ed) : LOk (ed.setLb lb) := C19g.lk_setLb (P := (0 ≤ ·)) ed lb h

theorem keep_setLb (s : VS) (lb : Lb) : Keep s { s with ed := s.ed.setLb lb } := by
  obtain ⟨a, b, c⟩ := setLb_hz s.ed lb
  refine ⟨?_, rfl, rfl, rfl, lOk_setLb s.ed lb⟩
  unfold hsnap
  rw [a, b, c]

/-- undo / redo: the current line buffer is replaced -/
theorem pres_setLbRaw {P : VS → Prop} (hP : HG P) (lb : Lb) : ViPres.Pres P (Vi.withEd fun ed => ed.setLb lb) :=
  ViPres.Pres.withEd fun s => hP.keep (keep_setLb s lb)

theorem pres_setLb {P : VS → Prop} (hP : HG P) (g : Lb → Lb) :
    ViPres.Pres P (Vi.withEd fun ed => match ed.lb with | some lb => ed.setLb (g lb) | none => ed) := by
  refine ViPres.Pres.withEd fun s => hP.keep ?_
  cases s.ed.lb with
  | none => exact Keep.of_kept rfl
  | some lb => exact keep_setLb s (g lb)

theorem pres_markSet {P : VS → Prop} (hP : HG P) (k : Nat) (r o : Int) : ViPres.Pres P (markSet k r o) :=
  pres_setLb hP (fun lb => setMark lb k r o)

theorem pres_lbufModified {P : VS → Prop} (hP : HG P) : ViPres.Pres P lbufModified :=
  pres_setLb hP (fun lb => (Lbuf.modified lb).2)

theorem pres_viBack {P : VS → Prop} (hP : HG P) (c : Int) : ViPres.Pres P (viBack c) := ViPres.pres_viBack hP.blind c
theorem pres_termPush {P : VS → Prop} (hP : HG P) (x : Bytes) : ViPres.Pres P (termPush x) := ViPres.pres_termPush hP.blind x
theorem pres_unmodelled {P : VS → Prop} (hP : HG P) : ViPres.Pres P Vi.unmodelled := ViPres.pres_unmodelled hP.blind
theorem pres_setPos {P : VS → Prop} (hP : HG P) (r o : Int) : ViPres.Pres P (setPos r o) := ViPres.pres_setPos hP.cblind r o
theorem pres_setRow {P : VS → Prop} (hP : HG P) (r : Int) : ViPres.Pres P (setRow r) := ViPres.pres_setRow hP.cblind r
theorem pres_setOff {P : VS → Prop} (hP : HG P) (o : Int) : ViPres.Pres P (setOff o) := ViPres.pres_setOff hP.cblind o
theorem pres_setTop {P : VS → Prop} (hP : HG P) (t : Int) : ViPres.Pres P (setTop t) := ViPres.pres_setTop hP.cblind t
theorem pres_regPut {P : VS → Prop} (hP : HG P) (k : Nat) (txt : Bytes) (ln : Nat) : ViPres.Pres P (regPut k txt ln) :=
  pres_withEd hP fun _ => rfl

theorem pres_viNextline (b : Bool) (c : Int) : Pres (GoodB b c) viNextline := by
  refine ViPres.Pres.withEd (fun s hs => ?_)
  refine ⟨hs.1, hs.2.1, hs.2.2.1, hs.2.2.2.1, fun hb => ⟨(hs.2.2.2.2 hb).1, ?_⟩⟩
  have hl := (hs.2.2.2.2 hb).2
  show LOk (if _ then _ else _)
  split <;> exact hl

/-! ### prefixes, characters, prompts (both families) -/

theorem pres_viYankbuf {P : VS → Prop} (hP : HG P) : ViPres.Pres P viYankbuf := ViPres.pres_viYankbuf hP.blind
theorem pres_viPrefix {P : VS → Prop} (hP : HG P) : ViPres.Pres P viPrefix := ViPres.pres_viPrefix hP.blind
theorem pres_viChar {P : VS → Prop} (hP : HG P) : ViPres.Pres P viChar := ViPres.pres_viChar hP.blind

theorem pres_ledLine_go {P : VS → Prop} (hP : HG P) (post : Bytes) (aiMax : Nat) (im pe : Bool)
    (setKmap : Option Nat → M Unit) (getKmap : M Nat) (redraw : Bytes → Bytes → Bytes → M Unit)
    (h1 : ∀ k, ViPres.Pres P (setKmap k)) (h2 : ViPres.Pres P getKmap) (h3 : ∀ a b c, ViPres.Pres P (redraw a b c))
    (f : Nat) (sb ai : Bytes) (c1 : Int) :
    ViPres.Pres P (ledLine.go post aiMax im pe setKmap getKmap redraw f sb ai c1) :=
  ViPres.pres_ledLine_go hP.blind _ _ _ _ _ _ _ h1 h2 h3 _ _ _ _

/-- `led_line` outside insert mode (the prompts): the redraw does not move the window -/
theorem pres_ledLine_prompt {P : VS → Prop} (hP : HG P) (pref post ai0 : Bytes) (aiMax : Nat) (ex : Bool) :
    ViPres.Pres P (ledLine pref post ai0 aiMax false ex) := ViPres.pres_ledLine_prompt hP.blind _ _ _ _ _

theorem pres_viPrompt {P : VS → Prop} (hP : HG P) (ex : Bool) : ViPres.Pres P (viPrompt ex) := ViPres.pres_viPrompt hP.blind ex

theorem pres_viSearch {P : VS → Prop} (hP : HG P) (cmd : Nat) (cnt r o : Int) : ViPres.Pres P (viSearch cmd cnt r o) :=
  ViPres.pres_viSearch hP.mblind cmd cnt r o

theorem pres_viMotionln {P : VS → Prop} (hP : HG P) (row cmd : Int) : ViPres.Pres P (viMotionln row cmd) :=
  ViPres.pres_viMotionln hP.blind row cmd

end Neatvi.Lemmas.C19f
