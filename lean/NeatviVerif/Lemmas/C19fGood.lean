import NeatviVerif.Lemmas.C19fFrame
/-!
# C19f helper lemmas: `viPre` keeps the horizontal snapshot; `GoodB bl c` is an invariant of the
functions of an iteration up to `motionTail`

* `pres_viMotion`, `pres_viPre` (both families): the prefixes and the motion of an iteration leave
  `xcol`, `xcols`, `xleft`, `xtd`, `xquit` alone (`Hz`), and keep `GoodB bl c` — the only assignments
  they make to the fields of `Good` are `vi_arg2 = 0`, `vi_arg1 = vi_prefix()` (C05b) and
  `vi_pcol = vi_cnt() - 1`, where `vi_cnt() ≥ 1` because the counts are within bounds.
* `good_*`: the other functions of an iteration, up to `good_motionTail`.
-/
set_option linter.unusedSimpArgs false
set_option linter.unusedVariables false

namespace Neatvi.Lemmas.C19f
open Neatvi Neatvi.Uc Neatvi.Lbuf Neatvi.Ex Neatvi.Mot Neatvi.Vi
open Neatvi.Lemmas.C05b (CountsFit)
open Neatvi.Lemmas.C05c (bind_inv)

theorem pres_viMotion {P : VS → Prop} (hP : HG P) (row off : Int) : ViPres.Pres P (viMotion row off) := by
  refine ViPres.pres_viMotion hP.mblind row off fun s0 hs0 => ViPres.Pres.modify fun s hs => ?_
  cases hP with
  | hz v => exact hs
  | good bl c =>
    have hc := (Props.C05b.cntOf_bounded_of_fit s0 hs0.2.2.2.1).1
    exact ⟨hs.1, hs.2.1, (by show 0 ≤ cntOf s0 - 1; omega), hs.2.2.2⟩

/-! ### the three places that assign a count -/

/-- `vi_arg1 = a` for a count `vi_prefix()` can deliver -/
theorem pres_arg1 {P : VS → Prop} (hP : HG P) {a : Int} (ha : 0 ≤ a ∧ a ≤ 999999999) :
    ViPres.Pres P (Vi.modify fun s => { s with arg1 := a }) := by
  refine ViPres.Pres.modify fun s hs => ?_
  cases hP with
  | hz v => exact hs
  | good bl c => exact ⟨hs.1, hs.2.1, hs.2.2.1, ⟨ha.1, ha.2, hs.2.2.2.1.2.2⟩, hs.2.2.2.2⟩

theorem pres_arg2 {P : VS → Prop} (hP : HG P) {a : Int} (ha : 0 ≤ a ∧ a ≤ 999999999) :
    ViPres.Pres P (Vi.modify fun s => { s with arg2 := a }) := by
  refine ViPres.Pres.modify fun s hs => ?_
  cases hP with
  | hz v => exact hs
  | good bl c => exact ⟨hs.1, hs.2.1, hs.2.2.1, ⟨hs.2.2.2.1.1, hs.2.2.2.1.2.1, ha.1, ha.2⟩, hs.2.2.2.2⟩

/-- what follows `vi_prefix()` may use that its result is a count -/
theorem pres_prefix {P : VS → Prop} (hP : HG P) {β : Type} {f : Int → M β}
    (hf : ∀ a, 0 ≤ a ∧ a ≤ 999999999 → ViPres.Pres P (f a)) : ViPres.Pres P (viPrefix >>= f) := by
  intro s b s' hs h
  obtain ⟨a, s1, h1, h2⟩ := bind_inv _ _ _ _ _ h
  exact hf a (Props.C05b.viPrefix_bounded _ _ _ h1) _ _ _ (pres_viPrefix hP s a s1 hs h1) h2

theorem pres_viPre {P : VS → Prop} (hP : HG P) : ViPres.Pres P viPre := by
  unfold viPre
  refine ViPres.Pres.bind ViPres.Pres.get fun s0 => ViPres.Pres.bind (pres_termCmd hP) fun _ =>
    ViPres.Pres.bind (pres_arg2 hP ⟨Int.le_refl 0, by decide⟩) fun _ => ViPres.Pres.bind (pres_viYankbuf hP) fun yb =>
    ViPres.Pres.bind (pres_modify hP fun _ => rfl) fun _ => pres_prefix hP fun a ha => ?_
  pres_walk [pres_arg1 hP, pres_viYankbuf hP, pres_modify hP, pres_viMotion hP]

theorem viPre_hsnap (s : VS) (r : Int × Int × Int) (s' : VS) (h : viPre s = Res.ok r s') : hsnap s' = hsnap s :=
  hz_frame (fun v => pres_viPre (HG.hz v)) s r s' h

/-! ### `GoodB bl c` through the commands (nothing below mentions a field of `Good` except the sticky
column assignments at the end) -/

theorem good_edEdit (bl : Bool) (c : Int) (txt : Option Bytes) (b e : Int) : ViPres.Pres (GoodB bl c) (edEdit txt b e) := by
  intro s a s' hs h
  unfold edEdit at h
  split at h
  · rename_i ed he
    cases h
    refine ⟨hs.1, hs.2.1, hs.2.2.1, hs.2.2.2.1, fun hb => ⟨(hs.2.2.2.2 hb).1, ?_⟩⟩
    exact C19g.lk_edit (P := (0 ≤ ·)) he (hs.2.2.2.2 hb).2
  · cases h

/-- the ex commands entered through `:` (and `ZZ`): they work on `VS.ed`, and the ex layer keeps `LOk`
    (`C19g.exKeepsLeft`) -/
theorem good_exCommandV (bl : Bool) (c : Int) (ln : Bytes) :
    ViPres.Pres (GoodB bl c) (exCommandV ln) := by
  intro s rc s' hs h
  rcases C09.exCommandV_inv h with rfl | ⟨a, u, ed, he, rfl⟩
  · exact hs
  · exact ⟨hs.1, hs.2.1, hs.2.2.1, hs.2.2.2.1, fun hb =>
      ⟨(hs.2.2.2.2 hb).1, C19g.exKeepsLeft _ ed ln _ he (hs.2.2.2.2 hb).2⟩⟩

theorem pres_markSave {P : VS → Prop} (hP : HG P) : ViPres.Pres P markSave := by
  unfold markSave
  pres_walk [pres_markSet hP]

/-- the `*left` update of `led_printparts` keeps `xleft` non-negative -/
theorem ledLeft_nonneg (s : VS) (ai pref main post : Bytes) (left : Int) (hc : 0 ≤ s.xcols) (hl : 0 ≤ left) :
    0 ≤ ledLeft s ai pref main post left := by
  unfold ledLeft
  simp only []
  (repeat' split) <;> omega

/-- `led_line` in any mode: the redraw of insert mode moves `xleft`, which `Good` does not mention; for `GoodB true` it
    stays non-negative (`ledLeft_nonneg`) -/
theorem good_ledLine (bl : Bool) (c : Int) (pref post ai0 : Bytes) (aiMax : Nat) (im ex : Bool) :
    ViPres.Pres (GoodB bl c) (ledLine pref post ai0 aiMax im ex) := by
  refine pres_ledLine_go (HG.good bl c) _ _ _ _ _ _ _ (fun k => ?_) ?_ (fun a b d => ?_) _ _ _ _
  · refine pres_modify (HG.good bl c) fun s => ?_
    cases ex <;> exact rfl
  · intro s a s' hs h
    cases h
    exact hs
  · split
    · refine ViPres.Pres.modify (fun s hs => ?_)
      refine ⟨hs.1, hs.2.1, hs.2.2.1, hs.2.2.2.1, fun hb => ⟨(hs.2.2.2.2 hb).1, ?_, (hs.2.2.2.2 hb).2.2⟩⟩
      exact ledLeft_nonneg s _ _ _ _ _ (hs.2.2.2.2 hb).1 (hs.2.2.2.2 hb).2.1
    · exact ViPres.Pres.pure _

/-- what insert mode and the operators are made of keeps `GoodB bl c` -/
theorem good_ops (bl : Bool) (c : Int) : ViPres.OpLeaves (GoodB bl c) :=
  ⟨(HG.good bl c).cblind, good_edEdit bl c, pres_regPut (HG.good bl c), good_ledLine bl c⟩

theorem good_vcMotion (bl : Bool) (c : Int) (cmd : Nat) : ViPres.Pres (GoodB bl c) (vcMotion cmd) := by
  unfold vcMotion
  refine ViPres.Pres.bind ViPres.Pres.get fun s0 => pres_prefix (HG.good bl c) fun a ha => ?_
  pres_walk [pres_arg2 (HG.good bl c), pres_viMotionln (HG.good bl c), pres_viMotion (HG.good bl c), pres_viRead (HG.good bl c), ViPres.pres_viYank (good_ops bl c), ViPres.pres_viDelete (good_ops bl c),
    ViPres.pres_viChange (good_ops bl c), ViPres.pres_viCase (good_ops bl c), ViPres.pres_viShift (good_ops bl c), pres_viPrompt (HG.good bl c), pres_unmodelled (HG.good bl c)]

theorem good_vcInsert (bl : Bool) (c : Int) (cmd : Nat) : ViPres.Pres (GoodB bl c) (vcInsert cmd) :=
  ViPres.pres_vcInsert (good_ops bl c) cmd
theorem good_vcPut (bl : Bool) (c : Int) (cmd : Nat) : ViPres.Pres (GoodB bl c) (vcPut cmd) :=
  ViPres.pres_vcPut (good_ops bl c) cmd
theorem good_vcJoin (bl : Bool) (c : Int) : ViPres.Pres (GoodB bl c) vcJoin :=
  ViPres.pres_vcJoin (good_ops bl c)
theorem good_vcReplace (bl : Bool) (c : Int) : ViPres.Pres (GoodB bl c) vcReplace :=
  ViPres.pres_vcReplace (good_ops bl c)
theorem good_scrollForward (bl : Bool) (c : Int) (cnt : Int) : ViPres.Pres (GoodB bl c) (scrollForward cnt) :=
  ViPres.pres_scrollForward (HG.good bl c).cblind cnt
theorem good_scrollBackward (bl : Bool) (c : Int) (cnt : Int) : ViPres.Pres (GoodB bl c) (scrollBackward cnt) :=
  ViPres.pres_scrollBackward (HG.good bl c).cblind cnt
theorem pres_viWait {P : VS → Prop} (hP : HG P) : ViPres.Pres P viWait := by
  unfold viWait
  pres_walk [pres_ledLine_prompt hP, pres_withEd hP]

/-! ### the sticky column assignments -/

theorem off2col_nonneg (s : VS) (r o : Int) : 0 ≤ off2col s r o := by
  unfold off2col
  split <;> omega

/-- `xcol = vi_off2col(..)`: a column is not negative -/
theorem good_xcol_off2col (bl : Bool) (c : Int) (g : VS → Int × Int) :
    Pres (GoodB bl c) (Vi.modify fun s => { s with xcol := off2col s (g s).1 (g s).2 }) := by
  refine ViPres.Pres.modify (fun s hs => ?_)
  exact ⟨hs.1, off2col_nonneg _ _ _, hs.2.2.1, hs.2.2.2⟩

theorem good_xcol_pcol (bl : Bool) (c : Int) : ViPres.Pres (GoodB bl c) (Vi.modify fun s => { s with xcol := s.pcol }) := by
  refine ViPres.Pres.modify (fun s hs => ?_)
  exact ⟨hs.1, hs.2.2.1, hs.2.2.1, hs.2.2.2⟩

/-- what `vi()` does around the commands keeps `GoodB bl c` -/
theorem good_loop (bl : Bool) (c : Int) : ViPres.LoopLeaves (GoodB bl c) :=
  ⟨(HG.good bl c).cblind, good_ledLine bl c, pres_markSet (HG.good bl c), pres_withEd (HG.good bl c) fun _ => rfl,
    fun _ => pres_modify (HG.good bl c) fun _ => rfl, fun r o => good_xcol_off2col bl c fun _ => (r, o), good_xcol_pcol bl c⟩

theorem good_motionTail (bl : Bool) (c : Int) (mv nrow noff : Int) : ViPres.Pres (GoodB bl c) (motionTail mv nrow noff) :=
  ViPres.pres_motionTail (good_loop bl c) mv nrow noff

theorem good_vcExecute (bl : Bool) (c : Int) : ViPres.Pres (GoodB bl c) vcExecute := ViPres.pres_vcExecute (good_loop bl c)

theorem good_vcRepeat (bl : Bool) (c : Int) : ViPres.Pres (GoodB bl c) vcRepeat := ViPres.pres_vcRepeat (good_loop bl c)

end Neatvi.Lemmas.C19f
