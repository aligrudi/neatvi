import NeatviVerif.Lemmas.C19fExamples
import NeatviVerif.Lemmas.C07dCol
/-!
# C19f: the main theorems, from the helper files

The end of an iteration (`viPost_col_in_window`), the cursor cell (`C19g.state_cursor_on_character` about one state,
`cursor_on_character` its reading at the end of an iteration), the sticky
column after `j` / `k` (`sticky_after_vertical_motion`, `sticky_cursor_on_character`), the two findings by
evaluation, and the initial state of `vi()`.  `Props/C19f.lean` states them with their documentation.
-/
set_option linter.unusedSimpArgs false
set_option linter.unusedVariables false

namespace Neatvi.Lemmas.C19f
open Neatvi Neatvi.Uc Neatvi.Spec Neatvi.Ren Neatvi.Render Neatvi.Lbuf Neatvi.Ex Neatvi.Mot Neatvi.Vi
open Neatvi.Lemmas.C05b (CountsFit)
open Neatvi.Lemmas.C17b (StrictInc Tiled)
open Neatvi.Lemmas.C07 (lbText)
open Neatvi.Props.C05c (iterate)

theorem viPost_col_in_window (s s' : VS) (mod : Nat) (hc : 0 < s.xcols) (hx : mod ≠ 0 ∨ 0 ≤ s.xcol)
    (h : viPost (some mod) s = Res.ok () s') (hq : s'.ed.xquit = false) :
    s'.ed.xleft ≤ s'.xcol ∧ s'.xcol < s'.ed.xleft + s'.xcols ∧ 0 ≤ s'.xcol ∧ s'.xcols = s.xcols ∧
    (0 ≤ s.ed.xleft → 0 ≤ s'.ed.xleft) ∧
    (s.ed.xleft ≤ s'.xcol → s'.xcol < s.ed.xleft + s.xcols → s'.ed.xleft = s.ed.xleft) ∧
    s'.ed.xleft = postLeft s'.xcol s.ed.xleft s.xcols ∧
    (mod ≠ 0 → s'.xcol = off2col s' s'.ed.xrow s'.ed.xoff) ∧ (mod = 0 → s'.xcol = s.xcol) := by
  obtain ⟨⟨w1, w2⟩, w3, w4⟩ := viPost_colWin mod s s' hc hx h hq
  have hq0 := viPost_quit_before mod s s' h hq
  have a8 := ((viPost_run mod s s' h).2 hq0).2.2.2.2.2.2.2
  refine ⟨w1, w2, w3, w4, fun hl => ?_, fun h1 h2 => ?_, a8, fun hm => viPost_xcol_mod mod hm s s' h hq0, fun hm => ?_⟩
  · rw [a8]; exact postLeft_nonneg _ _ _ (by omega) hl
  · rw [a8]; exact postLeft_same _ _ _ h1 h2
  · subst hm; exact viPost_xcol_zero s s' h hq0

/-- **the cursor is on its character, as a statement about one state.**  A state with a valid cursor
    (`C07.CursorValid`), a non-negative offset, a window of at least one column that contains the
    sticky column, whose sticky column is the column of the cursor character, on a buffer line
    `body ++ "\n"` of valid code points with a non-empty body: the conclusions of
    `cursor_on_character` below, which is this at the state `viPost` ends in. -/
theorem _root_.Neatvi.Lemmas.C19g.state_cursor_on_character (s' : VS) (hcv : Props.C07.CursorValid s') (hc' : 0 < s'.xcols) (hw : ColWin s')
    (h0 : 0 ≤ s'.ed.xoff) (hx : s'.xcol = off2col s' s'.ed.xrow s'.ed.xoff)
    (body : List Nat) (hv : ∀ c ∈ body, ValidCp c) (h10 : 10 ∉ body) (hne : body ≠ [])
    (hln : lineOf s' s'.ed.xrow = some (encStr (body ++ [10]))) :
    let cps := body ++ [10]
    let off := s'.ed.xoff.toNat
    let pos := posTab s' (encStr cps)
    let w : Int := cellWidth (cps.getD off 0) (pos.getD off 0)
    (s'.ed.xoff = (off : Int) ∧ off < body.length) ∧
    (s'.xcol = (pos.getD off 0 : Nat) ∧ 1 ≤ w) ∧
    (∀ p : Int, s'.xcol ≤ p → p < s'.xcol + w → col2off s' s'.ed.xrow p = (off : Nat)) ∧
    cursorCol s' = s'.xcol + w - 1 ∧
    (0 ≤ colCell s' ∧ colCell s' < s'.xcols) ∧
    (s'.xcol + w ≤ s'.ed.xleft + s'.xcols →
      rowShows s' (encStr cps) (colCell s').toNat = some off ∧
      0 ≤ termCursor s' ∧ termCursor s' < s'.xcols ∧
      rowShows s' (encStr cps) (termCursor s').toNat = some off ∧
      (0 ≤ curCtx s' → termCursor s' = colCell s' + (w - 1)) ∧
      (curCtx s' < 0 → termCursor s' = colCell s' - (w - 1))) := by
  intro cps off pos w
  obtain ⟨e1, e2, e3⟩ := valid_cursor_char s' hcv h0 body hv h10 hne hln
  have hvc := (body_line body hv h10 hne).1
  have hlt : off < cps.length := by show s'.ed.xoff.toNat < (body ++ [10]).length; simp; omega
  obtain ⟨w1, w2⟩ := hw
  obtain ⟨c1, c2, c3, c4⟩ := cursor_columns s' cps hvc hln off e1 hlt e3 hx
  obtain ⟨k0, k1⟩ := ledPos_range (curCtx s') s'.xcol s'.ed.xleft (s'.ed.xleft + s'.xcols) w1 w2
  refine ⟨⟨e1, e2⟩, ⟨c1, (by show (1 : Int) ≤ ((cellWidth (cps.getD off 0) (pos.getD off 0) : Nat) : Int); exact_mod_cast c2)⟩, ?_, c4, ⟨k0, by unfold colCell viPos; omega⟩, ?_⟩
  · intro p hp1 hp2
    exact (c3 p (by omega) (by rw [← c1]; exact hp2)).1
  · intro hr
    obtain ⟨d1, d2, d3, d4, d5, d6, d7, d8⟩ := cursor_cells s' cps hvc hc' hln off e1 hlt e3 hx w1 hr
    exact ⟨d3, d4, d5, d6, d7, d8⟩

theorem cursor_on_character (s s' : VS) (mod : Nat) (hmod : mod ≠ 0) (hc : 0 < s.xcols)
    (h : viPost (some mod) s = Res.ok () s') (hq : s'.ed.xquit = false) (h0 : 0 ≤ s.ed.xoff)
    (body : List Nat) (hv : ∀ c ∈ body, ValidCp c) (h10 : 10 ∉ body) (hne : body ≠ [])
    (hln : lineOf s' s'.ed.xrow = some (encStr (body ++ [10]))) :
    let cps := body ++ [10]
    let off := s'.ed.xoff.toNat
    let pos := posTab s' (encStr cps)
    let w : Int := cellWidth (cps.getD off 0) (pos.getD off 0)
    (s'.ed.xoff = (off : Int) ∧ off < body.length) ∧
    (s'.xcol = off2col s' s'.ed.xrow s'.ed.xoff ∧ s'.xcol = (pos.getD off 0 : Nat) ∧ 1 ≤ w) ∧
    (∀ p : Int, s'.xcol ≤ p → p < s'.xcol + w → col2off s' s'.ed.xrow p = (off : Nat)) ∧
    cursorCol s' = s'.xcol + w - 1 ∧
    (s'.ed.xleft ≤ s'.xcol ∧ s'.xcol < s'.ed.xleft + s'.xcols ∧ 0 ≤ colCell s' ∧ colCell s' < s'.xcols) ∧
    (s'.xcol + w ≤ s'.ed.xleft + s'.xcols →
      rowShows s' (encStr cps) (colCell s').toNat = some off ∧
      0 ≤ termCursor s' ∧ termCursor s' < s'.xcols ∧
      rowShows s' (encStr cps) (termCursor s').toNat = some off ∧
      (0 ≤ curCtx s' → termCursor s' = colCell s' + (w - 1)) ∧
      (curCtx s' < 0 → termCursor s' = colCell s' - (w - 1))) := by
  intro cps off pos w
  have hq0 := viPost_quit_before mod s s' h hq
  obtain ⟨hcv, hoff0, _, _⟩ := Props.C07.viPost_cursor_valid mod s s' h
  have hx := viPost_xcol_mod mod hmod s s' h hq0
  obtain ⟨w1, w2, _, w4, _⟩ := viPost_col_in_window s s' mod hc (Or.inl hmod) h hq
  obtain ⟨a, b, c, d, e, f⟩ := C19g.state_cursor_on_character s' hcv (by rw [w4]; exact hc) ⟨w1, w2⟩ (hoff0 h0) hx
    body hv h10 hne hln
  exact ⟨a, ⟨hx, b.1, b.2⟩, c, d, ⟨w1, w2, e.1, e.2⟩, f⟩

theorem sticky_after_vertical_motion (mv nrow noff : Int) (hjk : mv = 106 ∨ mv = 107) (s s2 s3 : VS) (c : Option Nat)
    (h1 : motionTail mv nrow noff s = Res.ok c s2) (h2 : viPost c s2 = Res.ok () s3)
    (hq : s.ed.xquit = false) (body : List Nat) (hv : ∀ c ∈ body, ValidCp c) (h10 : 10 ∉ body) (hne : body ≠ [])
    (hln : lineOf s nrow = some (encStr (body ++ [10]))) :
    let cps := body ++ [10]
    let pos := posTab s3 (encStr cps)
    let off := s3.ed.xoff.toNat
    let w : Int := cellWidth (cps.getD off 0) (pos.getD off 0)
    let col : Int := off2col s3 s3.ed.xrow s3.ed.xoff
    (s3.xcol = s.xcol ∧ s3.ed.xrow = nrow ∧ lineOf s3 nrow = some (encStr cps) ∧
      s3.ed.xleft = postLeft s.xcol s.ed.xleft s.xcols) ∧
    (s3.ed.xoff = (off : Int) ∧ off < body.length ∧ col = (pos.getD off 0 : Nat)) ∧
    (∀ i, i < body.length → (pos.getD i 0 : Nat) ≤ s3.xcol →
      s3.xcol < (pos.getD i 0 : Nat) + (cellWidth (cps.getD i 0) (pos.getD i 0) : Int) → off = i) ∧
    (StrictInc pos cps.length → (pos.getD 0 0 : Nat) ≤ s3.xcol →
      col ≤ s3.xcol ∧
      (s3.xcol < (pos.getD body.length 0 : Nat) → s3.xcol < col + w) ∧
      ((pos.getD body.length 0 : Nat) ≤ s3.xcol → off + 1 = body.length ∧ col + w ≤ s3.xcol)) := by
  intro cps pos off w col
  have hwf := wfCps_of_body body hv h10 hne
  obtain ⟨a1, a2, a3, a4, a5, a6, a7, a8⟩ := jk_run mv nrow noff hjk s s2 s3 c h1 h2 hq cps hwf hln
  have hpos : pos = posTab s (encStr cps) := posTab_congr a6 _
  have hl3 : lineOf s3 nrow = some (encStr cps) := by rw [C07.lineOf_of_lbText a5]; exact hln
  have hcl : cps.length = body.length + 1 := by simp [cps]
  have ht : Tiled cps pos := posTab_tiled s3 cps hwf.valid
  have hslt := stickyOff_lt pos cps hwf (by rw [ht.table.len]; omega) s.xcol
  have hoff : off = stickyOff pos cps.length s.xcol := by
    show s3.ed.xoff.toNat = _
    rw [a3, ← hpos]; simp
  have hxo : s3.ed.xoff = (off : Int) := by rw [a3, hoff, hpos]
  have hcol : col = (pos.getD off 0 : Nat) := by
    show off2col s3 s3.ed.xrow s3.ed.xoff = _
    rw [hxo]
    exact off2col_eq s3 cps hwf.valid (by rw [a2]; exact hl3) off (by omega)
  refine ⟨⟨a1, a2, hl3, a4⟩, ⟨hxo, by omega, hcol⟩, ?_, ?_⟩
  · intro i hi hp1 hp2
    rw [hoff]
    rw [a1] at hp1 hp2
    exact stickyOff_on_char cps pos ht hwf s.xcol i (by omega) hp1 hp2
  · intro hinc hp0
    rw [a1] at hp0
    have key := stickyOff_inc cps pos ht hinc hwf s.xcol hp0
    simp only [] at key
    rw [← hoff] at key
    obtain ⟨k1, k2, k3⟩ := key
    have e : cps.length - 1 = body.length := by omega
    rw [e] at k2 k3
    rw [a1, hcol]
    refine ⟨k1, k2, fun hge => ?_⟩
    obtain ⟨k4, k5⟩ := k3 hge
    exact ⟨by omega, k5⟩

theorem sticky_cursor_on_character (mv nrow noff : Int) (hjk : mv = 106 ∨ mv = 107) (s s2 s3 : VS) (c : Option Nat)
    (h1 : motionTail mv nrow noff s = Res.ok c s2) (h2 : viPost c s2 = Res.ok () s3)
    (hq : s.ed.xquit = false) (hc : 0 < s.xcols)
    (body : List Nat) (hv : ∀ c ∈ body, ValidCp c) (h10 : 10 ∉ body) (hne : body ≠ [])
    (hln : lineOf s nrow = some (encStr (body ++ [10])))
    (i : Nat) (hi : i < body.length)
    (hp1 : ((posTab s3 (encStr (body ++ [10]))).getD i 0 : Nat) ≤ s3.xcol)
    (hp2 : s3.xcol < ((posTab s3 (encStr (body ++ [10]))).getD i 0 : Nat) +
      (cellWidth ((body ++ [10]).getD i 0) ((posTab s3 (encStr (body ++ [10]))).getD i 0) : Int))
    (hin1 : s3.ed.xleft ≤ ((posTab s3 (encStr (body ++ [10]))).getD i 0 : Nat))
    (hin2 : ((posTab s3 (encStr (body ++ [10]))).getD i 0 : Nat) +
      (cellWidth ((body ++ [10]).getD i 0) ((posTab s3 (encStr (body ++ [10]))).getD i 0) : Int) ≤
        s3.ed.xleft + s3.xcols) :
    s3.ed.xoff = (i : Nat) ∧
    cursorCol s3 = ((posTab s3 (encStr (body ++ [10]))).getD i 0 : Nat) +
      (cellWidth ((body ++ [10]).getD i 0) ((posTab s3 (encStr (body ++ [10]))).getD i 0) : Int) - 1 ∧
    0 ≤ colCell s3 ∧ colCell s3 < s3.xcols ∧ rowShows s3 (encStr (body ++ [10])) (colCell s3).toNat = some i ∧
    0 ≤ termCursor s3 ∧ termCursor s3 < s3.xcols ∧
    rowShows s3 (encStr (body ++ [10])) (termCursor s3).toNat = some i := by
  have hwf := wfCps_of_body body hv h10 hne
  obtain ⟨_, a2, _, _, _, _, a7, _⟩ := jk_run mv nrow noff hjk s s2 s3 c h1 h2 hq _ hwf hln
  have key := sticky_after_vertical_motion mv nrow noff hjk s s2 s3 c h1 h2 hq body hv h10 hne hln
  simp only [] at key
  obtain ⟨⟨_, _, hl3, _⟩, ⟨hxo, _, _⟩, hon, _⟩ := key
  have hoi := hon i hi hp1 hp2
  have hl3' : lineOf s3 s3.ed.xrow = some (encStr (body ++ [10])) := by rw [a2]; exact hl3
  have hil : i < (body ++ [10]).length := by simp; omega
  have hnl : (body ++ [10]).getD i 0 ≠ 10 := hwf.inner i (by simp; omega)
  obtain ⟨c1, _⟩ := cursorCol_on_char s3 _ hwf.valid hl3' i hil hnl hp1 hp2
  obtain ⟨d1, d2, d3, d4, d5, d6⟩ := cursor_cells_on_char s3 _ hwf.valid (by rw [a7]; exact hc) hl3' i hil hnl
    hp1 hp2 hin1 hin2
  exact ⟨by rw [hxo, hoi], c1, d1, d2, d3, d4, d5, d6⟩

theorem sticky_column_finding :
    viewAfter 2 (exSt [106, 36, 107] 0 0) = some [1, 119, 119, 79, 119, 40, 40] ∧
    viewAfter 3 (exSt [106, 36, 107] 0 0) = some [0, 4, 119, 79, 4, -75, 40] ∧
    (match iterate 3 (exSt [106, 36, 107] 0 0) with
     | some s => decide (ColWin s) && decide (s.xcols = 80) && decide (s.ed.xquit = false) &&
         decide (lineOf s s.ed.xrow = some shortLn) &&
         decide (off2col s s.ed.xrow s.ed.xoff = 4) && decide (off2col s s.ed.xrow s.ed.xoff < s.ed.xleft) &&
         decide (renderRow dirOracle (renOpts s) true shortLn s.ed.xleft (s.ed.xleft + s.xcols) = some []) &&
         (List.range 80).all (fun k => rowShows s shortLn k == none)
     | none => false) = true :=
  ⟨ex_after_j_dollar, ex_after_j_dollar_k, ex_after_j_dollar_k_row⟩

theorem wide_character_at_edge_finding :
    viewAfter 2 (tabSt [36, 104]) = some [0, 9, 9, 0, 15, 15, 9] ∧
    (match iterate 2 (tabSt [36, 104]) with
     | some s => decide (ColWin s) && decide (s.xcol = off2col s s.ed.xrow s.ed.xoff) &&
         decide (renderRow dirOracle (renOpts s) true tabLn s.ed.xleft (s.ed.xleft + s.xcols) =
           some [97, 97, 97, 97, 97, 97, 97, 97, 97]) &&
         decide (rowShows s tabLn 9 = none)
     | none => false) = true :=
  ⟨tab_after_dollar_h, tab_after_dollar_h_row⟩

/-- the column window of the initial state: `xleft ≤ vi_off2col(xrow, 0) < xleft + cols` -/
theorem colWin_viInit_iff (ed : Ed) (keys : Bytes) (rows cols : Int) :
    ColWin (viInit ed keys rows cols) ↔
      ed.xleft ≤ (viInit ed keys rows cols).xcol ∧ (viInit ed keys rows cols).xcol < ed.xleft + cols := Iff.rfl

/-- the sticky column of the initial state is column 0 when the cursor line (if any) is laid out left
    to right (single-byte characters only, or more than 256 characters) -/
theorem viInit_xcol_zero (ed : Ed) (keys : Bytes) (rows cols : Int)
    (hline : ∀ ln, lineOf (viInit ed keys rows cols) ed.xrow = some ln → ucSlen ln = ln.length ∨ 256 < ucSlen ln) :
    (viInit ed keys rows cols).xcol = 0 := by
  have hx : (viInit ed keys rows cols).xcol = off2col (viInit ed keys rows cols) ed.xrow 0 := rfl
  rw [hx]
  unfold off2col
  cases hl : lineOf (viInit ed keys rows cols) ed.xrow with
  | none => rfl
  | some ln =>
    simp only []
    rw [C07d.posTab_fast _ ln (hline ln hl)]
    unfold renPosT
    split
    · rw [show (0 : Int).toNat = 0 from rfl, fast_getD_zero]; rfl
    · rfl

/-- the full invariant of (1), `0 ≤ xleft` included, in every state of a run that starts with no
    negative `xleft`, current or saved in the buffer table (`LOk`; `:e`, `:b` restore a saved one) -/
def col_invariant_reachable_full : Prop :=
  ∀ (c : Int), 0 < c → ∀ (n : Nat) (s₀ s : VS), Good c s₀ → ColWin s₀ → LOk s₀.ed →
    iterate n s₀ = some s → Alive n s₀ → ColWin s ∧ 0 ≤ s.ed.xleft

/-- the full invariant follows from the one fact about the ex layer that is not proved here (`C19g.exKeepsLeft` proves it) -/
theorem col_invariant_reachable_of_ex (hX : ExKeepsLeft) : col_invariant_reachable_full := by
  intro c hc n s₀ s hg hw hl h ha
  exact ⟨(colWin_reachable c hc n s₀ s hg hw h ha).1, (lOk_reachable hX c (by omega) n s₀ s hg hl h).1⟩

end Neatvi.Lemmas.C19f
