import NeatviVerif.Lemmas.C19fGood
import NeatviVerif.Props.C07
import NeatviVerif.Lemmas.ViStages
/-!
# C19f helper lemmas: the end of an iteration of `vi()` in closed form

`viPost (some mod)` is `vi_wfix()`, then (unless the editor is quitting) `xcol = vi_off2col(..)` when
`mod ≠ 0`, the adjustment of `xleft`, and `vi_wait()`, `lbuf_modified()` twice — which leave the
horizontal snapshot, the text and the cursor alone.

* `postLeft_window`, `postLeft_nonneg`, `postLeft_same`: the arithmetic of the `xleft` adjustment `postLeft` of
  `Lemmas/ViStages.lean`.
* `viPost_run`: the state `viPost (some mod)` ends in (from `viPostRest_run` of `Lemmas/ViStages.lean`); `good_viPost`:
  it keeps `GoodB`.
-/
set_option linter.unusedSimpArgs false
set_option linter.unusedVariables false

namespace Neatvi.Lemmas.C19f
open Neatvi Neatvi.Uc Neatvi.Lbuf Neatvi.Ex Neatvi.Mot Neatvi.Vi
open Neatvi.Lemmas.C05b (CountsFit bind_apply)
open Neatvi.Lemmas.C05c (bind_inv)
open Neatvi.Lemmas.C07 (lbText viPostRest viPost_some lines_of_lbText lineOf_of_lbText)

theorem postLeft_window (x l c : Int) (hc : 0 < c) (hx : 0 ≤ x) :
    postLeft x l c ≤ x ∧ x < postLeft x l c + c := by
  unfold postLeft
  simp only []
  omega

theorem postLeft_nonneg (x l c : Int) (hc : 0 ≤ c) (hl : 0 ≤ l) : 0 ≤ postLeft x l c := by
  unfold postLeft
  simp only []
  omega

/-- no gratuitous horizontal scrolling: a column inside the old window leaves `xleft` alone -/
theorem postLeft_same (x l c : Int) (h1 : l ≤ x) (h2 : x < l + c) : postLeft x l c = l := by
  unfold postLeft
  simp only []
  omega

/-- when the column is right of the window, or left of it and at least a window's width from column
    0, it ends up in the middle of the new window; left of the window and near column 0, the window
    returns to column 0 -/
theorem postLeft_moved (x l c : Int) :
    (l + c ≤ x → 0 ≤ c → postLeft x l c = x - c / 2) ∧
    (x < l → c ≤ x → 0 ≤ c → postLeft x l c = x - c / 2) ∧
    (x < l → x < c → 0 ≤ c → postLeft x l c = 0) := by
  unfold postLeft
  simp only []
  omega

theorem pres_postEnd {P : VS → Prop} (hP : HG P) : ViPres.Pres P postEnd := by
  unfold postEnd
  exact ViPres.Pres.bind (pres_viWait hP) (fun _ => ViPres.Pres.bind (pres_lbufModified hP) (fun _ => pres_lbufModified hP))

theorem postCol_nonneg (mod : Nat) (s : VS) (h : mod ≠ 0 ∨ 0 ≤ s.xcol) : 0 ≤ postCol mod s := by
  unfold postCol
  split
  · exact off2col_nonneg _ _ _
  · rename_i hm
    exact h.resolve_left (fun hx => hm (by simpa using hx))

/-- the end of an iteration keeps `GoodB`: the recomputed sticky column is a column, and the adjusted
    `xleft` is not negative when the old one was not -/
theorem good_viPost (bl : Bool) (c : Int) (cont : Option Nat) : ViPres.Pres (GoodB bl c) (viPost cont) := by
  cases cont with
  | none => exact ViPres.Pres.pure _
  | some mod =>
    rw [viPost_some]
    refine ViPres.Pres.bind (ViPres.pres_viWfix (HG.good bl c).cblind) (fun _ s r s' hs h => ?_)
    cases hq : s.ed.xquit with
    | true =>
      rw [viPostRest_quit mod s hq] at h
      cases h
      exact hs
    | false =>
      rw [viPostRest_run mod s hq] at h
      refine pres_postEnd (HG.good bl c) _ () s' ?_ h
      exact ⟨hs.1, postCol_nonneg mod s (Or.inr hs.2.1), hs.2.2.1, hs.2.2.2.1, fun hb =>
        ⟨(hs.2.2.2.2 hb).1, postLeft_nonneg _ _ _ (hs.2.2.2.2 hb).1 (hs.2.2.2.2 hb).2.1, (hs.2.2.2.2 hb).2.2⟩⟩

theorem postEnd_hsnap (s s' : VS) (h : postEnd s = Res.ok () s') : hsnap s' = hsnap s :=
  hz_frame (fun v => pres_postEnd (HG.hz v)) s () s' h

theorem keeps_postEnd : C07.Keeps true postEnd := by
  unfold postEnd
  exact C07.Keeps.bind C07.keeps_viWait (fun _ => C07.Keeps.bind C07.keeps_lbufModified (fun _ => C07.keeps_lbufModified))

theorem off2col_congr {s s' : VS} (ht : lbText s' = lbText s) (hd : s'.ed.xtd = s.ed.xtd) (r o : Int) :
    off2col s' r o = off2col s r o := by
  unfold off2col posTab renOpts
  rw [lineOf_of_lbText ht, hd]

theorem col2off_congr {s s' : VS} (ht : lbText s' = lbText s) (hd : s'.ed.xtd = s.ed.xtd) (r c : Int) :
    col2off s' r c = col2off s r c := by
  unfold col2off posTab renOpts
  rw [lineOf_of_lbText ht, hd]

theorem posTab_congr {s s' : VS} (hd : s'.ed.xtd = s.ed.xtd) (ln : Bytes) : posTab s' ln = posTab s ln := by
  unfold posTab renOpts
  rw [hd]

/-- the state after `vi_wfix()` -/
def wfixState (s : VS) : VS :=
  { s with ed := { s.ed with xrow := Props.C07.wfixRow s, xtop := Props.C07.wfixTop s, xoff := Props.C07.wfixOff s } }

theorem wfixState_hsnap (s : VS) : hsnap (wfixState s) = hsnap s := rfl
theorem wfixState_lbText (s : VS) : lbText (wfixState s) = lbText s := rfl

/-- **`viPost (some mod)` in closed form**: the window fix; then nothing if the editor is quitting;
    otherwise the sticky column is `postCol` (recomputed from the fixed cursor when `mod ≠ 0`),
    `xleft` is `postLeft` of it, and the text, the cursor, the text direction and the window width
    are those after the window fix -/
theorem viPost_run (mod : Nat) (s s' : VS) (h : viPost (some mod) s = Res.ok () s') :
    (s.ed.xquit = true → s' = wfixState s) ∧
    (s.ed.xquit = false →
      s'.ed.xquit = false ∧ s'.xcols = s.xcols ∧ s'.ed.xtd = s.ed.xtd ∧ lbText s' = lbText s ∧
      s'.ed.xrow = Props.C07.wfixRow s ∧ s'.ed.xoff = Props.C07.wfixOff s ∧
      s'.xcol = postCol mod (wfixState s) ∧
      s'.ed.xleft = postLeft s'.xcol s.ed.xleft s.xcols) := by
  rw [viPost_some] at h
  obtain ⟨u, sw, hw, hrest⟩ := bind_inv _ _ _ _ _ h
  rw [Props.C07.viWfix_eq] at hw
  cases hw
  change viPostRest mod (wfixState s) = Res.ok () s' at hrest
  constructor
  · intro hq
    rw [viPostRest_quit mod (wfixState s) hq] at hrest
    cases hrest
    rfl
  · intro hq
    rw [viPostRest_run mod (wfixState s) hq] at hrest
    obtain ⟨e1, e2, e3, e4, e5⟩ := hsnap_fields (postEnd_hsnap _ _ hrest)
    have ht := keeps_postEnd.text hrest
    have hcur := keeps_postEnd.cursor hrest
    unfold C07.curOf at hcur
    simp only [Prod.mk.injEq] at hcur
    refine ⟨e5.trans hq, e2, e4, ht, hcur.1, hcur.2.1, e1, ?_⟩
    rw [e3, e1]
    rfl

theorem viPost_xcol_mod (mod : Nat) (hmod : mod ≠ 0) (s s' : VS) (h : viPost (some mod) s = Res.ok () s')
    (hq : s.ed.xquit = false) : s'.xcol = off2col s' s'.ed.xrow s'.ed.xoff := by
  obtain ⟨_, a2, a3, a4, a5, a6, a7, _⟩ := (viPost_run mod s s' h).2 hq
  rw [a7, a5, a6]
  unfold postCol
  have : (mod != 0) = true := by simpa using hmod
  rw [if_pos this]
  rw [off2col_congr (s := wfixState s) (s' := s') (by rw [a4]; rfl) (by rw [a3]; rfl)]
  rfl

theorem viPost_xcol_zero (s s' : VS) (h : viPost (some 0) s = Res.ok () s') (hq : s.ed.xquit = false) :
    s'.xcol = s.xcol := by
  obtain ⟨_, _, _, _, _, _, a7, _⟩ := (viPost_run 0 s s' h).2 hq
  rw [a7]
  rfl

theorem viPost_quit_before (mod : Nat) (s s' : VS) (h : viPost (some mod) s = Res.ok () s')
    (hq : s'.ed.xquit = false) : s.ed.xquit = false := by
  cases hb : s.ed.xquit with
  | false => rfl
  | true =>
    have := (viPost_run mod s s' h).1 hb
    rw [this] at hq
    exact hq.symm.trans hb |>.symm ▸ rfl

end Neatvi.Lemmas.C19f
