import NeatviVerif.Lemmas.C19fSticky
import NeatviVerif.Lemmas.C19fTail
import NeatviVerif.Props.C05c
/-!
# C19f helper lemmas: the column window is an invariant of the command loop

`ColWin s`: `xleft ≤ xcol < xleft + xcols`.  One iteration of `viStep` from a state with `Good c`
(`c > 0`) and `ColWin` ends, unless the editor is then quitting, in a state with `ColWin`: either the
iteration went through the end of the loop body (`viPost (some mod)`), which establishes it, or the
command switch returned `none` (the `continue` of the C loop), and then `xcol`, `xleft`, `xcols` are
untouched (`nk_stepCont`).

A predicate with that property — kept by an iteration unless the editor is then quitting — holds of
every state reached by `iterate` while `Alive` (`alive_inv`, a reading of `iterate_inv` of `Lemmas/ViRun.lean`) and of every
state the driver records (`runModel_inv` there).
-/
set_option linter.unusedSimpArgs false
set_option linter.unusedVariables false

namespace Neatvi.Lemmas.C19f
open Neatvi Neatvi.Uc Neatvi.Lbuf Neatvi.Ex Neatvi.Mot Neatvi.Vi
open Neatvi.Lemmas.C05b (CountsFit bind_apply)
open Neatvi.Lemmas.C05c (bind_inv)
open Neatvi.Props.C05c (iterate iterate_succ)

/-- the sticky column is inside the horizontal window -/
def ColWin (s : VS) : Prop := s.ed.xleft ≤ s.xcol ∧ s.xcol < s.ed.xleft + s.xcols

instance (s : VS) : Decidable (ColWin s) := by unfold ColWin; exact inferInstance

theorem colWin_of_hsnap {s s' : VS} (h : hsnap s' = hsnap s) (hw : ColWin s) : ColWin s' := by
  obtain ⟨a, b, c, _, _⟩ := hsnap_fields h
  unfold ColWin at *
  rw [a, b, c]
  exact hw

/-- the end of the loop body establishes the window, whatever `xleft` was -/
theorem viPost_colWin (mod : Nat) (s s' : VS) (hc : 0 < s.xcols) (hx : mod ≠ 0 ∨ 0 ≤ s.xcol)
    (h : viPost (some mod) s = Res.ok () s') (hq : s'.ed.xquit = false) :
    ColWin s' ∧ 0 ≤ s'.xcol ∧ s'.xcols = s.xcols := by
  have hq0 := viPost_quit_before mod s s' h hq
  obtain ⟨_, a2, _, _, _, _, a7, a8⟩ := (viPost_run mod s s' h).2 hq0
  have hx0 : 0 ≤ s'.xcol := by rw [a7]; exact postCol_nonneg mod _ hx
  obtain ⟨w1, w2⟩ := postLeft_window s'.xcol s.ed.xleft s.xcols hc hx0
  refine ⟨⟨by rw [a8]; exact w1, by rw [a8, a2]; exact w2⟩, hx0, a2⟩

/-- **one iteration and the column window**, from any state with `Good c`, `c > 0` — whether or not
    the window holds there: if the iteration reaches the end of the loop body and the editor is not
    quitting, `xleft ≤ xcol < xleft + xcols` afterwards; if it hits `continue` (no key, an unknown
    command key), `xcol`, `xcols`, `xleft` are what they were -/
theorem viStep_colWin_or (c : Int) (hc : 0 < c) (s s' : VS) (hg : Good c s)
    (h : viStep s = Res.ok () s') (hq : s'.ed.xquit = false) : ColWin s' ∨ hsnap s' = hsnap s := by
  rw [viStep_unfold] at h
  obtain ⟨r, s1, hpre, h⟩ := bind_inv _ _ _ _ _ h
  obtain ⟨cont, s2, hcont, hpost⟩ := bind_inv _ _ _ _ _ h
  have g1 : Good c s1 := pres_viPre (HG.good false c) s r s1 hg hpre
  have g2 : Good c s2 := good_stepCont false c r.1 r.2.1 r.2.2 s1 cont s2 g1 hcont
  have hs1 := viPre_hsnap s r s1 hpre
  cases cont with
  | none =>
    cases hpost
    rcases nk_stepCont r.1 r.2.1 r.2.2 s1 none s' hcont rfl with hquit | hk
    · rw [hquit] at hq; cases hq
    · exact Or.inr (hk.trans hs1)
  | some mod =>
    exact Or.inl (viPost_colWin mod s2 s' (by rw [g2.1]; exact hc) (Or.inr g2.2.1) hpost hq).1

/-- **one iteration of the command loop keeps the column window**, from a state with `Good c`, unless the editor is
    then quitting -/
theorem viStep_colWin (c : Int) (hc : 0 < c) (s s' : VS) (hg : Good c s) (hw : ColWin s)
    (h : viStep s = Res.ok () s') (hq : s'.ed.xquit = false) : ColWin s' :=
  (viStep_colWin_or c hc s s' hg h hq).elim id fun hk => colWin_of_hsnap hk hw

/-- the loop of `vi()` runs an iteration only when the editor is not quitting: none of the first
    `n` states reached from `s₀` (itself aside) has `xquit` set -/
def Alive (n : Nat) (s₀ : VS) : Prop := ∀ k t, 0 < k → k ≤ n → iterate k s₀ = some t → t.ed.xquit = false

theorem alive_step (n : Nat) (s₀ s1 : VS) (h1 : viStep s₀ = Res.ok () s1) (ha : Alive (n + 1) s₀) :
    s1.ed.xquit = false ∧ Alive n s1 := by
  refine ⟨ha 1 s1 (by omega) (by omega) ?_, fun k t hk0 hk ht => ha (k + 1) t (by omega) (by omega) ?_⟩
  · rw [iterate_succ 0 s₀ s1 () h1]; rfl
  · rw [iterate_succ k s₀ s1 () h1]; exact ht

theorem alive_inv {P : VS → Prop}
    (hstep : ∀ (s : VS) (u : Unit) (s' : VS), P s → viStep s = Res.ok u s' → s'.ed.xquit = false → P s') :
    ∀ (n : Nat) (s₀ s : VS), P s₀ → iterate n s₀ = some s → Alive n s₀ → P s :=
  fun n s₀ s h0 h ha => Props.C05c.iterate_inv (H := fun t => t.ed.xquit = false) hstep n s₀ s h0 ha h

/-- **the column window holds after every iteration**: from a state with `Good c`, `c > 0`, and the
    sticky column inside the window, every state reached by iterating `viStep` while the editor is
    not quitting has the sticky column inside the window (and `Good c`) -/
theorem colWin_reachable (c : Int) (hc : 0 < c) : ∀ (n : Nat) (s₀ s : VS), Good c s₀ → ColWin s₀ →
    iterate n s₀ = some s → Alive n s₀ → ColWin s ∧ Good c s :=
  fun n s₀ s hg hw h ha => alive_inv (P := fun s => ColWin s ∧ Good c s)
    (fun s u s' hp h1 hq => ⟨viStep_colWin c hc s s' hp.2 hp.1 h1 hq, good_viStep c s u s' hp.2 h1⟩)
    n s₀ s ⟨hw, hg⟩ h ha

theorem good_viInit (ed : Ed) (keys : Bytes) (rows cols : Int) : Good cols (viInit ed keys rows cols) :=
  ⟨rfl, off2col_nonneg _ _ _, Int.le_refl 0, Props.C05c.countsFit_viInit ed keys rows cols, fun h => by cases h⟩

theorem goodB_of (c : Int) (s : VS) (hg : Good c s) (hc : 0 ≤ c) (hl : LOk s.ed) : GoodB true c s :=
  ⟨hg.1, hg.2.1, hg.2.2.1, hg.2.2.2.1, fun _ => ⟨by rw [hg.1]; exact hc, hl⟩⟩

/-- every state reached by iterating `viStep` from a state with `Good c`, `0 ≤ c` and `LOk` has `LOk`: `0 ≤ xleft`,
    and no negative `left` in the buffer table (`hX` is `C19g.exKeepsLeft`; the proof does not need it) -/
theorem lOk_reachable (hX : ExKeepsLeft) (c : Int) (hc : 0 ≤ c) : ∀ (n : Nat) (s₀ s : VS), Good c s₀ → LOk s₀.ed →
    iterate n s₀ = some s → LOk s.ed := by
  have key : ∀ (n : Nat) (s₀ s : VS), GoodB true c s₀ → iterate n s₀ = some s → GoodB true c s :=
    Props.C05c.iterate_keeps (goodB_viStep true c)
  intro n s₀ s hg hl h
  exact ((key n s₀ s (goodB_of c s₀ hg hc hl) h).2.2.2.2 rfl).2

end Neatvi.Lemmas.C19f
