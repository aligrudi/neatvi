import NeatviVerif.Lemmas.C19fCursor
/-!
# C19f helper lemmas: the sticky column after a vertical motion

`j` / `k` (`mv = 106 / 107` in `motionTail`) put the cursor on `vi_col2off(row, xcol)` and do *not*
reassign `xcol`; the end of the iteration (`viPost (some 0)`) keeps it too and adjusts `xleft` to
`xcol`, not to the column of the cursor character.

* `motionTail_jk`: the cursor update of `j` / `k` in closed form;
* `stickyOff pos n xcol`: the offset the cursor ends on — the character at or before column `xcol`,
  or the one before it if that is the newline; `jk_run`: the state after `j` / `k` and the end of the
  iteration;
* `stickyOff_on_char`: when `xcol` falls on a cell of a character other than the newline, that is
  the cursor character (any table of the model, reordered or not);
* `stickyOff_inc`: on a table that increases with the offset (no reordering): the column of the
  cursor character is `≤ xcol`; `xcol` is one of its cells when `xcol` is left of the end of the text;
  otherwise the cursor is on the last character and *all* its cells are left of `xcol`.
-/
set_option linter.unusedSimpArgs false
set_option linter.unusedVariables false

namespace Neatvi.Lemmas.C19f
open Neatvi Neatvi.Uc Neatvi.Spec Neatvi.Ren Neatvi.Render Neatvi.Vi Neatvi.Mot
open Neatvi.Lemmas.C17b
open Neatvi.Lemmas.C07 (lbText motionTail_eq)

theorem strHas_jk : strHas "'`GHML/?{}[]nN" 106 = false ∧ strHas "'`GHML/?{}[]nN" 107 = false := by
  decide +kernel

theorem motionTail_jk (mv nrow noff : Int) (hjk : mv = 106 ∨ mv = 107) (s : VS) :
    motionTail mv nrow noff s = Res.ok (some 0)
      { s with ed := { s.ed with xrow := nrow, xoff := noeol s nrow (col2off s nrow s.xcol) } } := by
  rw [motionTail_eq]
  rcases hjk with rfl | rfl
  · rw [strHas_jk.1]; rfl
  · rw [strHas_jk.2]; rfl

/-- the code points of a buffer line with at least one character before its newline: valid code
    points, the last one the newline, no other newline -/
structure WfCps (cps : List Nat) : Prop where
  valid : ∀ c ∈ cps, ValidCp c
  two : 2 ≤ cps.length
  last : cps.getD (cps.length - 1) 0 = 10
  inner : ∀ i, i + 1 < cps.length → cps.getD i 0 ≠ 10

theorem wfCps_of_body (body : List Nat) (hv : ∀ c ∈ body, ValidCp c) (h10 : 10 ∉ body) (hne : body ≠ []) :
    WfCps (body ++ [10]) := by
  have hlen : 0 < body.length := List.length_pos_iff.mpr hne
  refine ⟨(body_line body hv h10 hne).1, by simp; omega, by simp, ?_⟩
  intro i hi
  have hib : i < body.length := by simp at hi; omega
  rw [List.getD_eq_getElem?_getD, List.getElem?_append_left hib, List.getElem?_eq_getElem hib]
  intro hc
  exact h10 (by simp only [Option.getD_some] at hc; rw [← hc]; exact List.getElem_mem _)

/-- the offset `j` / `k` leave the cursor on: the character at or before the sticky column, or the one
    before it when that is the newline (the last character of the line) -/
def stickyOff (pos : List Nat) (n : Nat) (xcol : Int) : Nat :=
  let i := renOffT pos n xcol
  if i + 1 = n then i - 1 else i

theorem lineOf_some_range (s : VS) (r : Int) (ln : Bytes) (h : lineOf s r = some ln) : 0 ≤ r ∧ r < lenOf s := by
  unfold lineOf lineAt at h
  split at h
  · cases h
  · rename_i hr
    have := (List.getElem?_eq_some_iff.mp h).1
    unfold lenOf
    omega

theorem renNoeol_enc (cps : List Nat) (h : WfCps cps) (i : Nat) (hi : i < cps.length) :
    renNoeol (encStr cps) (i : Int) = ((if i + 1 = cps.length then i - 1 else i : Nat) : Int) := by
  have h2 := h.two
  rw [C07.renNoeol_enc h.valid i hi]
  by_cases hl : i + 1 = cps.length
  · rw [if_pos hl, if_pos ⟨by omega, by rw [show i = cps.length - 1 by omega]; exact h.last⟩]; omega
  · rw [if_neg hl, if_neg fun hh => h.inner i (by omega) hh.2]

theorem renOffT_lt (pos : List Nat) (n : Nat) (p : Int) (hn : n ≤ pos.length) (h0 : 0 < n) : renOffT pos n p < n := by
  rcases Props.C17b.renOffT_spec pos n p hn with ⟨hg, _⟩ | ⟨_, he⟩
  · exact hg.1
  · omega

theorem stickyOff_lt (pos : List Nat) (cps : List Nat) (h : WfCps cps) (hn : cps.length ≤ pos.length) (xcol : Int) :
    stickyOff pos cps.length xcol + 1 < cps.length := by
  have h2 := h.two
  have := renOffT_lt pos cps.length xcol hn (by omega)
  unfold stickyOff
  simp only []
  split <;> omega

/-- the offset `ren_noeol(ren_noeol(vi_col2off(xcol)))` of `j` / `k` followed by `vi_wfix()` -/
theorem noeol_sticky (pos : List Nat) (cps : List Nat) (h : WfCps cps) (hn : cps.length ≤ pos.length) (xcol : Int) :
    renNoeol (encStr cps) (renNoeol (encStr cps) ((renOffT pos cps.length xcol : Nat) : Int)) =
      (stickyOff pos cps.length xcol : Nat) := by
  have h2 := h.two
  have hlt := renOffT_lt pos cps.length xcol hn (by omega)
  have hs := stickyOff_lt pos cps h hn xcol
  rw [renNoeol_enc cps h _ hlt]
  change renNoeol (encStr cps) ((stickyOff pos cps.length xcol : Nat) : Int) = _
  rw [renNoeol_enc cps h _ (by omega), if_neg (by omega)]

/-- **`j` / `k` then the end of the iteration**, on a target line with at least one character: the
    sticky column is unchanged, the cursor is on `stickyOff`, and `xleft` is adjusted to the *sticky
    column* -/
theorem jk_run (mv nrow noff : Int) (hjk : mv = 106 ∨ mv = 107) (s s2 s3 : VS) (c : Option Nat)
    (h1 : motionTail mv nrow noff s = Res.ok c s2) (h2 : viPost c s2 = Res.ok () s3)
    (hq : s.ed.xquit = false) (cps : List Nat) (hwf : WfCps cps) (hln : lineOf s nrow = some (encStr cps)) :
    s3.xcol = s.xcol ∧ s3.ed.xrow = nrow ∧
    s3.ed.xoff = (stickyOff (posTab s (encStr cps)) cps.length s.xcol : Nat) ∧
    s3.ed.xleft = postLeft s.xcol s.ed.xleft s.xcols ∧
    lbText s3 = lbText s ∧ s3.ed.xtd = s.ed.xtd ∧ s3.xcols = s.xcols ∧ s3.ed.xquit = false := by
  rw [motionTail_jk mv nrow noff hjk] at h1
  cases h1
  obtain ⟨r0, r1⟩ := lineOf_some_range s nrow _ hln
  obtain ⟨a1, a2, a3, a4, a5, a6, a7, a8⟩ := (viPost_run 0 _ s3 h2).2 hq
  have hrow : Props.C07.wfixRow
      { s with ed := { s.ed with xrow := nrow, xoff := noeol s nrow (col2off s nrow s.xcol) } } = nrow :=
    Props.C07.wfixRow_of_range _ r0 r1
  have hxc : s3.xcol = s.xcol := by rw [a7]; rfl
  refine ⟨hxc, by rw [a5, hrow], ?_, by rw [a8, hxc], a4, a3, a2, a1⟩
  rw [a6]
  unfold Props.C07.wfixOff
  rw [hrow]
  have hl2 : lineOf { s with ed := { s.ed with xrow := nrow, xoff := noeol s nrow (col2off s nrow s.xcol) } } nrow
      = some (encStr cps) := hln
  rw [hl2]
  show renNoeol (encStr cps) (noeol s nrow (col2off s nrow s.xcol)) = _
  have hct := (posTab_tiled s cps hwf.valid).table
  unfold noeol col2off
  rw [hln]
  simp only [Props.C16.slen_spec hwf.valid]
  exact noeol_sticky _ cps hwf (by rw [hct.len]; omega) s.xcol

theorem stickyOff_on_char (cps pos : List Nat) (ht : Tiled cps pos) (hwf : WfCps cps) (xcol : Int)
    (i : Nat) (hi : i + 1 < cps.length) (h1 : (pos.getD i 0 : Nat) ≤ xcol)
    (h2 : xcol < (pos.getD i 0 : Nat) + (cellWidth (cps.getD i 0) (pos.getD i 0) : Int)) :
    stickyOff pos cps.length xcol = i := by
  have := (Props.C17b.renCursorT_tiled (encStr cps) ht i (by omega)
    (fun hc => hwf.inner i hi ((C07.chrHd_enc_eq_10 hwf.valid i (by omega)).mp hc)) xcol h1 h2).1
  unfold stickyOff
  simp only []
  rw [this, if_neg (by omega)]

theorem inc_adjacent (cps pos : List Nat) (ht : Tiled cps pos) (hinc : StrictInc pos cps.length)
    (i : Nat) (hi : i + 1 < cps.length) :
    pos.getD (i + 1) 0 = pos.getD i 0 + cellWidth (cps.getD i 0) (pos.getD i 0) := by
  have hw := ht.width_pos i (by omega)
  have hlt := hinc.2 i (i + 1) (by omega) (by omega)
  have hap := ht.apart i (i + 1) (by omega) hi
  have hge : pos.getD i 0 + cellWidth (cps.getD i 0) (pos.getD i 0) ≤ pos.getD (i + 1) 0 := by omega
  rcases ht.succ i (by omega) with ⟨j, hj, he⟩ | he
  · have hji : i < j := by
      by_cases hc : j ≤ i
      · by_cases hc2 : j = i
        · subst hc2; omega
        · have := hinc.2 j i (by omega) (by omega); omega
      · omega
    by_cases hc : j = i + 1
    · subst hc; omega
    · have := hinc.2 (i + 1) j (by omega) (by omega); omega
  · have := hinc.2 (i + 1) cps.length hi (Nat.le_refl _); omega

/-- **the cursor character and the sticky column after `j` / `k`, without reordering.**  On a tiled
    table that increases with the offset, whose first column is `≤ xcol`: with `off = stickyOff`,
    * the column of the cursor character is `≤ xcol`;
    * if `xcol` is left of the newline's column (the width of the text) then `xcol` is a cell of the
      cursor character — with equality `pos[off] = xcol` exactly when `xcol` is its first cell;
    * otherwise (the line is not as wide as the sticky column) the cursor is on the last character of
      the line and every cell of it is left of `xcol`. -/
theorem stickyOff_inc (cps pos : List Nat) (ht : Tiled cps pos) (hinc : StrictInc pos cps.length)
    (hwf : WfCps cps) (xcol : Int) (h0 : (pos.getD 0 0 : Nat) ≤ xcol) :
    let off := stickyOff pos cps.length xcol
    let w := cellWidth (cps.getD off 0) (pos.getD off 0)
    (pos.getD off 0 : Nat) ≤ xcol ∧
    (xcol < (pos.getD (cps.length - 1) 0 : Nat) → xcol < (pos.getD off 0 : Nat) + (w : Int)) ∧
    ((pos.getD (cps.length - 1) 0 : Nat) ≤ xcol →
      off + 2 = cps.length ∧ (pos.getD off 0 : Nat) + (w : Int) ≤ xcol) := by
  intro off w
  have hwd : cellWidth (cps.getD off 0) (pos.getD off 0) = w := rfl
  clear_value w
  have h2 := hwf.two
  have hn : cps.length ≤ pos.length := by rw [ht.table.len]; omega
  have hex : ¬ NoCol pos cps.length (PrevP xcol true) := fun hno =>
    hno 0 (by omega) (by unfold PrevP; simpa using h0)
  rcases Props.C17b.renOffT_spec pos cps.length xcol hn with ⟨hg, _⟩ | ⟨hno, _⟩
  · obtain ⟨gi, gp, gm⟩ := hg
    have gp' : (pos.getD (renOffT pos cps.length xcol) 0 : Nat) ≤ xcol := by unfold PrevP at gp; simpa using gp
    by_cases hl : renOffT pos cps.length xcol + 1 = cps.length
    · have hoff : off = renOffT pos cps.length xcol - 1 := by
        show stickyOff pos cps.length xcol = _
        unfold stickyOff; simp only []; rw [if_pos hl]
      have hadj := inc_adjacent cps pos ht hinc off (by omega)
      have e1 : off + 1 = cps.length - 1 := by omega
      have e2 : renOffT pos cps.length xcol = cps.length - 1 := by omega
      rw [e1, hwd] at hadj
      rw [e2] at gp'
      exact ⟨by omega, fun hlt => by omega, fun _ => ⟨by omega, by omega⟩⟩
    · have hoff : off = renOffT pos cps.length xcol := by
        show stickyOff pos cps.length xcol = _
        unfold stickyOff; simp only []; rw [if_neg hl]
      have hi1 : off + 1 < cps.length := by omega
      have hadj := inc_adjacent cps pos ht hinc off hi1
      rw [hwd] at hadj
      have hnext : xcol < (pos.getD (off + 1) 0 : Nat) := by
        by_cases hc : (pos.getD (off + 1) 0 : Nat) ≤ xcol
        · have := gm (off + 1) hi1 (by unfold PrevP; simpa using hc)
          have := hinc.2 off (off + 1) (by omega) (by omega)
          rw [← hoff] at *
          omega
        · omega
      have hmono : pos.getD (off + 1) 0 ≤ pos.getD (cps.length - 1) 0 := by
        by_cases hc : off + 1 = cps.length - 1
        · rw [hc]; exact Nat.le_refl _
        · have := hinc.2 (off + 1) (cps.length - 1) (by omega) (by omega); omega
      rw [← hoff] at gp'
      exact ⟨gp', fun _ => by omega, fun hge => by omega⟩
  · exact absurd hno hex

theorem fast_getD_zero (ln : Bytes) : (renPositionFast ln).getD 0 0 = 0 := C17b.fastTable_zero (chrs ln) 0

end Neatvi.Lemmas.C19f
