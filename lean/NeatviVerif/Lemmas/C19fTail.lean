import NeatviVerif.Lemmas.C19fPost
import NeatviVerif.Lemmas.ViPresCmd
/-!
# C19f helper lemmas: the command switch of `vi()`

* `good_commandTail`, `goodB_viStep`, `good_viStep`: one iteration of the command loop keeps `GoodB bl c`
  (`Good c`); the command switch by `pres_commandTail` of `Lemmas/ViPresCmd` from what the commands keep (`good_leaves`).
* `NK m`: when `m` returns `none` (the `continue` of the C loop: no window fix, no redraw), the editor is quitting
  (for most programs from any state: `nq_tac`) or the horizontal snapshot
  (`xcol`, `xcols`, `xleft`, `xtd`, `xquit`) is unchanged.  `nk_commandTail`: the command switch has
  `NK` — it returns `none` only for a key `≤ 0`, an unknown command key, or a `:` command that quits
  (walked along `commandTailF` of `Lemmas/ViStages`, with `finRec` as a leaf).
-/
set_option linter.unusedSimpArgs false
set_option linter.unusedVariables false

namespace Neatvi.Lemmas.C19f
open Neatvi Neatvi.Uc Neatvi.Lbuf Neatvi.Ex Neatvi.Mot Neatvi.Vi
open Neatvi.Lemmas.C05b (CountsFit bind_apply)
open Neatvi.Lemmas.C05c (bind_inv)
open Neatvi.Lemmas.ViPres (cmdSwitch commandTailF commandTail_eq)
open Neatvi.Lemmas.C09 (finRec)

/-! ### `GoodB bl c` -/

/-- the commands keep `GoodB bl c` -/
theorem good_leaves (bl : Bool) (c : Int) : ViPres.CmdLeaves (GoodB bl c) where
  ops := good_ops bl c
  loop := good_loop bl c
  repCmd := fun _ => pres_modify (HG.good bl c) fun _ => rfl
  scroll := fun _ => pres_modify (HG.good bl c) fun _ => rfl
  setLb := pres_setLbRaw (HG.good bl c)
  xtd := fun _ => ViPres.Pres.withEd fun _ hs => hs
  lbufModified := pres_lbufModified (HG.good bl c)
  exCommandV := good_exCommandV bl c
  vcMotion := good_vcMotion bl c

theorem good_commandTail (bl : Bool) (c : Int) : ViPres.Pres (GoodB bl c) commandTail :=
  ViPres.pres_commandTail (good_leaves bl c)

theorem viStep_unfold : viStep = (viPre >>= fun r => (if r.1 > 0 then motionTail r.1 r.2.1 r.2.2
      else if r.1 == 0 then commandTail else pure (some 0)) >>= viPost) := rfl

theorem good_stepCont (bl : Bool) (c : Int) (mv nrow noff : Int) :
    Pres (GoodB bl c) (C07.stepCont mv nrow noff) := by
  unfold C07.stepCont
  exact Pres.ite (good_motionTail bl c _ _ _) (Pres.ite (good_commandTail bl c) (Pres.pure _))

theorem goodB_viStep (bl : Bool) (c : Int) : ViPres.Pres (GoodB bl c) viStep := by
  rw [C07.viStep_eq]
  exact ViPres.Pres.bind (pres_viPre (HG.good bl c)) fun r =>
    ViPres.Pres.bind (good_stepCont bl c _ _ _) (good_viPost bl c)

theorem good_viStep (c : Int) : ViPres.Pres (Good c) viStep := goodB_viStep false c

/-! ### when the command switch returns `none` -/

/-- `m` returns `none` only when the editor is quitting or with the horizontal snapshot unchanged -/
def NK (m : M (Option Nat)) : Prop :=
  ∀ s r s', m s = Res.ok r s' → r = none → s'.ed.xquit = true ∨ hsnap s' = hsnap s

section
open ViPres (Tr)

theorem NK.of_tr {m : M (Option Nat)}
    (h : ∀ v, Tr (Hz v) m fun r s' => r = none → s'.ed.xquit = true ∨ Hz v s') : NK m :=
  fun s r s' hm hr => h (hsnap s) s r s' rfl hm hr

theorem NK.tr {m : M (Option Nat)} (h : NK m) (v : Int × Int × Int × Int × Bool) :
    Tr (Hz v) m fun r s' => r = none → s'.ed.xquit = true ∨ Hz v s' :=
  fun s r s' hs hm hr => (h s r s' hm hr).imp id fun e => e.trans hs

theorem tr_of_quits {P : VS → Prop} {v : Int × Int × Int × Int × Bool} {m : M (Option Nat)}
    (h : Tr (fun _ => True) m fun r s' => r = none → s'.ed.xquit = true) :
    Tr P m fun r s' => r = none → s'.ed.xquit = true ∨ Hz v s' :=
  Tr.conseq h (fun _ _ => trivial) fun _ _ hq e => Or.inl (hq e)

/-- `if (xquit) continue;` -/
theorem tr_quit {g : VS → M (Option Nat)}
    (hg : ∀ s0, Tr (fun _ => True) (g s0) fun r s' => r = none → s'.ed.xquit = true) :
    Tr (fun _ => True) (Vi.get >>= fun s0 => if s0.ed.xquit = true then Pure.pure none else g s0)
      fun r s' => r = none → s'.ed.xquit = true := by
  intro s r s' _ h hr
  change (if s.ed.xquit = true then Pure.pure none else g s) s = Res.ok r s' at h
  split at h
  · rename_i hq
    cases h
    exact hq
  · exact hg s _ _ _ trivial h hr

/-- `finRec` returns a redraw class -/
theorem tr_finRec (c k : Int) (mod : Nat) :
    Tr (fun _ => True) (finRec c k mod) fun r s' => r = none → s'.ed.xquit = true := by
  unfold finRec
  refine Tr.bind_top fun _ => Tr.ite ?_ (Tr.pure _ fun _ _ => nofun)
  exact Tr.bind_top fun _ => Tr.bind_top fun _ => Tr.bind_top fun _ => Tr.pure _ fun _ _ => nofun

/-- a program whose every branch ends in `finRec`, a redraw class, a trap, or a `continue` after `xquit` returns `none`
    only when the editor is quitting; what it does to the state on the way is not looked at -/
macro "nq_tac" : tactic => `(tactic| repeat' first
  | with_reducible refine tr_quit (fun _ => ?_)
  | with_reducible refine Tr.bind_top (fun _ => ?_)
  | with_reducible exact tr_finRec _ _ _
  | with_reducible refine Tr.ite ?_ ?_
  | with_reducible exact Tr.pure _ fun _ _ => nofun
  | with_reducible exact Tr.trap
  | dsimp only
  | split)

/-- **the command switch returns `none` only when the editor quits or with `xcol`, `xcols`, `xleft`,
    `xtd` untouched** (a key `≤ 0`, an unknown command key) -/
theorem nk_commandTail : NK commandTail := by
  refine NK.of_tr fun v => ?_
  rw [commandTail_eq]
  unfold commandTailF cmdSwitch
  have hn : Tr (Hz v) (Pure.pure none : M (Option Nat)) fun r s' => r = none → s'.ed.xquit = true ∨ Hz v s' :=
    Tr.pure _ fun _ hs _ => Or.inr hs
  refine Tr.bind_pres (pres_viRead (HG.hz v)) fun c => Tr.ite hn ?_
  refine Tr.bind_get' fun s _ => Tr.bind_pres (pres_markSet (HG.hz v) _ _ _) fun _ => Tr.bind_get' fun s _ => ?_
  -- the chain of `if c == …`: every branch but the last returns `none` only after `:q`
  repeat' first
    | exact hn
    | with_reducible apply Tr.ite
    | exact tr_of_quits (by nq_tac)

/-- the cursor update after a motion always returns a redraw class -/
theorem nq_motionTail (mv nrow noff : Int) :
    Tr (fun _ => True) (motionTail mv nrow noff) fun r s' => r = none → s'.ed.xquit = true := by
  intro s r s' _ h hr
  obtain ⟨e, _⟩ := C07.motionTail_run mv nrow noff s r s' h
  rw [e] at hr
  cases hr

theorem nk_stepCont (mv nrow noff : Int) : NK (C07.stepCont mv nrow noff) := by
  unfold C07.stepCont
  exact NK.of_tr fun v => Tr.ite (tr_of_quits (nq_motionTail _ _ _))
    (Tr.ite (nk_commandTail.tr v) (tr_of_quits (Tr.pure _ fun _ _ => nofun)))

end

end Neatvi.Lemmas.C19f
