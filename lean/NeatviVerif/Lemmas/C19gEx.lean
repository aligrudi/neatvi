import NeatviVerif.Lemmas.C19gFrame
import NeatviVerif.Lemmas.ExRel
/-!
# C19g helper lemmas: every ex command line keeps `LOk` (`ExKeepsLeft`)

The ex commands other than `:e`, `:b`, `:q`, `:g`, `:@` never assign `xleft` and change the current record through
its line buffer, its path and its time stamp only (`:w`): the saved `left` of every entry is what it was.  So
`LK P` meets the closure conditions of `Lemmas/ExRel.lean` (`lk_rel`), and its reading `ofLStep` of the steps of a
command gives every such command.

`LK P` is kept by every step on the current buffer (`lk_rel`) and, when `P 0`, by the operations on the buffer
table (`lk_table`): a record of the table changes with its `left` kept, `bufs_switch` / `bufs_shift` copy `xleft`
into the table and back, a new entry has `left = 0`, `:b~` changes numbers only.  `LK P` does not look at the
counters `:g` and `:@` keep.  So it holds along the steps of which every command line is made
(`ExRelTable.ofXStep`, Lemmas/ExRel.lean): every handler, `ex_exec`, `ex_command`, the round of `ex()`, `ex_init`,
whatever the fuel.
-/
namespace Neatvi.Lemmas.C19g

section
open Neatvi Neatvi.Lemmas.ExRel

theorem lk_rel {P : Int → Prop} : ExRel (LK P) where
  trans := LK.trans
  ofCore h := LK.of_same ⟨congrArg (·.bufs) h, congrArg (·.xleft) h⟩
  io h := by obtain ⟨_, _, _, _, rfl⟩ := h; exact LK.of_same ⟨rfl, rfl⟩
  cur _ _ _ _ _ h := lk_setCur h rfl

theorem ecWrite_lk {P : Int → Prop} {ed ed' : Ex.Ed} {loc cmd arg : Bytes} {r : Int}
    (hw : Ex.ecWrite ed loc cmd arg = some (r, ed')) : LK P ed ed' := lk_rel.ofLStep (.ecWrite hw)
theorem runCmd_local_lk {P : Int → Prop} (f : Nat) (ed ed' : Ex.Ed) (hd : String) (loc cmd arg : Bytes)
    (txt : Option Bytes) (r : Int) (hl : C20c.tableHandler hd = false)
    (h : Ex.runCmd (f + 1) ed hd loc cmd arg txt = some (r, ed')) : LK P ed ed' :=
  C20c.runCmd_local_rel lk_rel hl h

end

open Neatvi Neatvi.Ex
open Neatvi.Lemmas.C19f (ExKeepsLeft)
open Neatvi.Lemmas.ExRel

variable {P : Int → Prop} [HasZero P]

theorem lk_table : ExRelTable (LK P) where
  toExRel := lk_rel
  slot _ _ _ _ h := lk_slot h rfl
  switch := lk_bufsSwitch
  shift := lk_bufsShift
  opened := lk_bufsOpen
  fresh := lk_fresh
  renum := lk_renum
  quitFlag _ := LK.of_same ⟨rfl, rfl⟩

/-- every command line is a composition of steps (`Lemmas/ExStepTable.lean`), and every step keeps `LK P` -/
theorem lk_ofXStep {ed ed' : Ed} (hs : Lemmas.ExStep.XStep ed ed') : LK P ed ed' :=
  lk_table.ofXStep (lk_rel.atBracket (fun _ _ => LK.of_same ⟨rfl, rfl⟩))
    (lk_rel.globBracket (fun _ _ => LK.of_same ⟨rfl, rfl⟩)) hs

theorem all_lk (f : Nat) : ExRel.Exec (LK P) f ∧ ExRel.Cmd (LK P) f ∧ ExRel.Run (LK P) f ∧ ExRel.Run (LK P) (f + 1) :=
  lk_table.all (lk_rel.atBracket (fun _ _ => LK.of_same ⟨rfl, rfl⟩)) (lk_rel.globBracket (fun _ _ => LK.of_same ⟨rfl, rfl⟩)) f

theorem exExec_lk {f : Nat} {ed ed' : Ed} {ln : Bytes} {r : Int} (h : exExec f ed ln = some (r, ed')) : LK P ed ed' :=
  (all_lk f).1 _ _ _ _ h

theorem exCommand_lk {f : Nat} {ed ed' : Ed} {ln : Bytes} {r : Int} (h : exCommand f ed ln = some (r, ed')) : LK P ed ed' :=
  (all_lk f).2.1 _ _ _ _ h

theorem runCmd_lk_all {f : Nat} {ed ed' : Ed} {hd : String} {loc cmd arg : Bytes} {txt : Option Bytes} {r : Int}
    (h : runCmd f ed hd loc cmd arg txt = some (r, ed')) : LK P ed ed' :=
  (all_lk f).2.2.1 _ _ _ _ _ _ _ _ h

/-- `ec_edit`, also with a `+cmd` -/
theorem ecEdit_lk_all {f : Nat} {ed ed' : Ed} {cmd arg : Bytes} {r : Int}
    (h : ecEdit f ed cmd arg = some (r, ed')) : LK P ed ed' := lk_ofXStep (Lemmas.ExStep.XStep.ecEditAny h)

theorem exStep_lk {ed ed' : Ed} {r : Int} (h : exStep ed = some (r, ed')) : LK P ed ed' :=
  lk_ofXStep (Lemmas.ExStep.XStep.exStep h)

theorem exInit_lk {ed ed' : Ed} {files : List Bytes} {r : Int} (h : exInit ed files = some (r, ed')) : LK P ed ed' :=
  ecEdit_lk_all h

/-- **`ExKeepsLeft`**: the hypothesis of `C19f.col_invariant_reachable_of_ex` -/
theorem exKeepsLeft : ExKeepsLeft := fun _ _ _ _ h hl => exCommand_lk (P := fun x : Int => 0 ≤ x) h hl

end Neatvi.Lemmas.C19g
