import NeatviVerif.Lemmas.C19gRun
import NeatviVerif.Props.C06b
/-!
# C19g: concrete states and runs

* `edTwo`: two buffers with different horizontal scroll positions — "a" current with `xleft = 79`, "b"
  parked with `left = 5`; `:b 2` stepped through `ex_command` by hand (the functions of the mutual
  block of `Model/ExCmd.lean` are defined by well-founded recursion, the kernel does not evaluate
  them): `xleft` becomes 5, the table remembers 79 for "a";
* `tabInit`: the state `vi()` starts in on the file `"\tabc\n"`, with `td = 0` (see `tabEd`) — the finding about the
  first terminal cursor position;
* `#guard` checks (evaluated by the interpreter when the file is compiled — a regression check of
  the evaluation the conjectures were tested with, not a proof): the whole run
  `$`, `:e fb`, `:b 1`, `:b 2` from `ex_init` on a file with a 120-character line;
* runs the kernel evaluates from `initState` on `twoFile` and on `"\tabc\n"` (`ex_init` by its stages; `stepModOf`: one
  iteration with its redraw class), each as one batched check (`two_checks`, `two_x_check`, `tab_checks`, `near_check`)
  with its projections, then the same as statements about named states (`two_states`, `two_x_step`), and the two
  findings (`ex_keeps_xleft_value_is_false`, `first_cursor_cell_finding`).
-/
set_option linter.unusedSimpArgs false
set_option linter.unusedVariables false

namespace Neatvi.Lemmas.C19g
open Neatvi Neatvi.Uc Neatvi.Lbuf Neatvi.Ex Neatvi.Vi Neatvi.Render
open Neatvi.Lemmas.C19f
open Neatvi.Props.C06b (exExec_single)
open Neatvi.Lemmas.C06b Neatvi.Props.C06b
open Neatvi.Props.C05c (iterate)

/-! ### `:b 2` between two buffers with different `xleft` -/

/-- "a" (a 120-character line, cursor on its last character, window scrolled to column 79) is
    current, "b" is parked with the window it was left with at column 5; `wa` is set so that the
    unsaved-changes guard of `:b` passes -/
def edTwo : Ed :=
  { bufs := [some { path := [97], lb := { lines := [longLn] }, id := 1 },
             some { path := [98], lb := { lines := [longLn, shortLn] }, id := 2, row := 1, left := 5 }],
    bufsCnt := 2, xoff := 119, xleft := 79, xwa := 1 }

theorem edTwo_lOk : LOk edTwo := by
  refine ⟨by decide, fun bf hbf => ?_⟩
  simp only [edTwo, List.mem_cons, Option.some.injEq, List.not_mem_nil, or_false] at hbf
  rcases hbf with rfl | rfl <;> decide

/-- `:b 2` as a command line -/
theorem edTwo_line (f : Nat) : exExec (f + 2) edTwo [98, 32, 50] = some (0, edTwo.bufsSwitch 1) := by
  refine exExec_single (f + 1) edTwo (edTwo.bufsSwitch 1) _ [98] "ec_buffer" 0 (by decide) (by decide) (by decide +kernel) (by decide)
    (by decide +kernel) ?_
  rw [show (parse1 [98, 32, 50]).arg = [50] by decide +kernel]
  exact Props.C20.b_number f edTwo edTwo _ _ [50] none 1
    { path := [98], lb := { lines := [longLn, shortLn] }, id := 2, row := 1, left := 5 }
    (by decide) rfl (by decide +kernel)
    (by
      intro j b' hj hb'
      have : j = 0 := by omega
      subst this
      have e : b' = { path := [97], lb := { lines := [longLn] }, id := 1 } := by
        have : edTwo.bufs.getD 0 none = some { path := [97], lb := { lines := [longLn] }, id := 1 } := rfl
        rw [this] at hb'; cases hb'; rfl
      rw [e]; decide +kernel)
    rfl

/-- ... and through `ex_command` with the fuel the vi level gives it -/
theorem edTwo_command : exCommand 64 edTwo [98, 32, 50] = some (0, ((edTwo.bufsSwitch 1).modifiedAt 0).2) := by
  rw [exCommand, edTwo_line 61]

/-- after `:b 2`: `xleft` is the 5 saved for "b", and the table remembers 79 for "a" -/
theorem edTwo_after :
    (((edTwo.bufsSwitch 1).modifiedAt 0).2.xleft,
      ((edTwo.bufsSwitch 1).modifiedAt 0).2.bufs.map (fun b => b.map (fun x => (x.path, x.left)))) =
      (5, [some ([98], 5), some ([97], 79)]) := by decide +kernel

theorem edTwo_xleft : ((edTwo.bufsSwitch 1).modifiedAt 0).2.xleft = 5 := congrArg Prod.fst edTwo_after

/-! ### the first terminal cursor position -/

/-- the buffer of the file `"\tabc\n"` as `ex_init` delivers it (`xleft = 0`, row 0) — but with `td = 0`
    instead of `td = 1`, so that `dir_context` of an ASCII line is decided without the regex engine (which
    the kernel does not evaluate); for the state `ex_init` really delivers the interpreter gives the
    same view (the last `#guard` below) -/
def tabEd : Ed := { bufs := [some { path := [102, 97], lb := { lines := [[9, 97, 98, 99, 10]] }, id := 1 }], bufsCnt := 1 }

/-- the state `vi()` starts in on `tabEd` (`td = 0`), the key `0` to come -/
def tabInit : VS := viInit tabEd [48] 23 80

/-- `[xrow, xoff, xcol, xleft, ren_cursor(xcol), vi_pos(ren_cursor(xcol)), vi_pos(xcol)]` at the start and
    after `0`: the same state as far as the cursor goes; the tab takes columns 0–7 -/
theorem tabInit_views : view tabInit = [0, 0, 0, 0, 7, 7, 0] ∧ viewAfter 1 tabInit = some [0, 0, 0, 0, 7, 7, 0] := by
  constructor <;> decide +kernel

/-! ### whole runs, evaluated -/

/-- a 120-character line and `short` -/
def twoFile : Bytes := List.replicate 120 97 ++ [10] ++ [115, 104, 111, 114, 116, 10]

/-- `[xrow, xoff, xcol, xleft]` and the `left`s saved in the table -/
def lview (s : VS) : List Int × List Int :=
  ([s.ed.xrow, s.ed.xoff, s.xcol, s.ed.xleft], s.ed.bufs.filterMap (fun b => b.map (·.left)))

/-- the state after `n` commands of the run of `keys` on the file (`ex_init`, `viInit`, `viStep`s) -/
def lviewAfter (file : Bytes) (keys : Bytes) (n : Nat) : Option (List Int × List Int) :=
  (initState (some file) keys 24 80).bind (fun s0 => (iterate n s0).map lview)

/-- `$`, `:e fb`, `:b 1`, `:b 2` -/
def twoKeys : Bytes := strOf "$:e fb\n:b 1\n:b 2\n"

-- start: nothing scrolled
#guard lviewAfter twoFile twoKeys 0 == some ([0, 0, 0, 0], [0])
-- `$`: the window scrolls to column 79
#guard lviewAfter twoFile twoKeys 1 == some ([0, 119, 119, 79], [0])
-- `:e fb`: a new buffer, `xleft = 0`; the table remembers 79 for "fa"
#guard lviewAfter twoFile twoKeys 2 == some ([0, 0, 0, 0], [0, 79])
-- `:b 1`: back to "fa" and to column 79
#guard lviewAfter twoFile twoKeys 3 == some ([0, 119, 119, 79], [79, 0])
-- `:b 2`: "fb" again, column 0
#guard lviewAfter twoFile twoKeys 4 == some ([0, 0, 0, 0], [0, 79])
-- the column window and `0 ≤ xleft` in every one of these states
#guard (List.range 5).all (fun n =>
  match (initState (some twoFile) twoKeys 24 80).bind (fun s0 => iterate n s0) with
  | some s => decide (ColWin s) && decide (0 ≤ s.ed.xleft)
  | none => false)
-- `ex_init` on `"\tabc\n"` delivers the state of the finding, as far as `view` looks
#guard (initState (some [9, 97, 98, 99, 10]) [48] 24 80).map view == some (view tabInit)

/-! ### runs the kernel evaluates: `ex_init` by its stages, then vi commands that do not enter the ex layer -/

/-- `ex_init` on one file is `ec_edit` with the fuel written as a successor, so that
    `C02c.ecEdit_stages` applies; the stages are not recursive and the kernel evaluates them -/
theorem exInit_eq (ed : Ed) (p : Bytes) :
    exInit ed [p] = ecEdit ((FUEL - 1) + 1) ed (strOf "e")
      (p.flatMap (fun c => if c == 32 || c == 37 || c == 35 || c == 61 then [92, c] else [c])) := by
  unfold exInit
  rfl

/-- one iteration that reaches the end of the loop body: its redraw class and its final state -/
def stepModOf (s : VS) : Option (Nat × VS) :=
  match viPre s with
  | Res.ok r s1 =>
    match C07.stepCont r.1 r.2.1 r.2.2 s1 with
    | Res.ok (some mod) s2 =>
      match viPost (some mod) s2 with
      | Res.ok _ s' => some (mod, s')
      | _ => none
    | _ => none
  | _ => none

theorem stepModOf_via (s s' : VS) (mod : Nat) (h : stepModOf s = some (mod, s')) : StepVia s s' (some mod) := by
  unfold stepModOf at h
  split at h
  · rename_i r s1 hpre
    split at h
    · rename_i m s2 hcont
      split at h
      · rename_i u s'' hpost
        cases h
        exact ⟨r, s1, s2, hpre, hcont, hpost⟩
      · cases h
    · cases h
  · cases h

open Neatvi.Drive.ViD in
/-- the checks of the run `$`, `j`, `k` on `twoFile` below, in one statement: the kernel keeps what it has
    evaluated while it checks one declaration, so the run is evaluated once for all of them -/
theorem two_checks :
    (initState (some twoFile) [36, 106, 107] 24 80).map lview = some ([0, 0, 0, 0], [0]) ∧
    (List.range 4).map (fun n => (initState (some twoFile) [36, 106, 107] 24 80).bind (fun s0 => (iterate n s0).map lview)) =
      [some ([0, 0, 0, 0], [0]), some ([0, 119, 119, 79], [0]), some ([1, 4, 119, 79], [0]), some ([0, 119, 119, 79], [0])] ∧
    (List.range 4).all (fun n =>
      match (initState (some twoFile) [36, 106, 107] 24 80).bind (fun s0 => iterate n s0) with
      | some s => !s.ed.xquit
      | none => false) = true ∧
    (match (initState (some twoFile) [36, 106, 107] 24 80).bind (fun s0 => iterate 1 s0) with
     | some s =>
       (match viPre s with
        | Res.ok r _ => decide (r.1 = 106) && decide (r.2.1 = 1)
        | _ => false) && !s.ed.xquit && decide (lineOf s 1 = some (Spec.encStr (shortBody ++ [10])))
     | none => false) = true ∧
    (match initState (some twoFile) [36, 106, 107] 24 80 with
     | some s =>
       (match viPre s with
        | Res.ok r _ => decide (r.1 = 36) && decide (r.2.1 = 0)
        | _ => false) && !s.ed.xquit && decide (lineOf s 0 = some (Spec.encStr (List.replicate 120 97 ++ [10])))
     | none => false) = true ∧
    (match initState (some twoFile) [36, 106, 107] 24 80 with
     | some s0 => (lineOf s0 s0.ed.xrow).all (fun ln => decide (ucSlen ln = ln.length))
     | none => false) = true ∧
    (runModel (some twoFile) [36, 106, 107] 24 80).isSome = true := by
  unfold initState runModel
  simp only [exInit_eq, C02c.ecEdit_stages]
  decide +kernel

/-- the state `vi()` starts in on `twoFile`, the keys `$`, `j`, `k` to come: nothing scrolled -/
theorem two_init : (initState (some twoFile) [36, 106, 107] 24 80).map lview = some ([0, 0, 0, 0], [0]) :=
  two_checks.1

/-- ... and the states after `$`, `$j`, `$jk`: the sticky column 119 and `xleft = 79` stay while the
    cursor visits `short` (offset 4) -/
theorem two_run :
    (List.range 4).map (fun n => (initState (some twoFile) [36, 106, 107] 24 80).bind (fun s0 => (iterate n s0).map lview)) =
      [some ([0, 0, 0, 0], [0]), some ([0, 119, 119, 79], [0]), some ([1, 4, 119, 79], [0]), some ([0, 119, 119, 79], [0])] :=
  two_checks.2.1

/-- none of these states is quitting -/
theorem two_alive :
    (List.range 4).all (fun n =>
      match (initState (some twoFile) [36, 106, 107] 24 80).bind (fun s0 => iterate n s0) with
      | some s => !s.ed.xquit
      | none => false) = true :=
  two_checks.2.2.1

/-- the second iteration of that run is the vertical motion `j` to row 1, the line `short` -/
theorem two_j_check :
    (match (initState (some twoFile) [36, 106, 107] 24 80).bind (fun s0 => iterate 1 s0) with
     | some s =>
       (match viPre s with
        | Res.ok r _ => decide (r.1 = 106) && decide (r.2.1 = 1)
        | _ => false) && !s.ed.xquit && decide (lineOf s 1 = some (Spec.encStr (shortBody ++ [10])))
     | none => false) = true :=
  two_checks.2.2.2.1

/-- the run of `x` on the same file: the first iteration reaches the end of the loop body with a
    redraw class `≠ 0`, not quitting, with a non-negative offset, on the line of 119 `a`s -/
theorem two_x_check :
    (match initState (some twoFile) [120] 24 80 with
     | some s0 =>
       (match stepModOf s0 with
        | some (mod, s') => decide (mod ≠ 0) && !s'.ed.xquit && decide (0 ≤ s'.ed.xoff) &&
            decide (lineOf s' s'.ed.xrow = some (Spec.encStr (List.replicate 119 97 ++ [10])))
        | none => false)
     | none => false) = true := by
  unfold initState
  simp only [exInit_eq, C02c.ecEdit_stages]
  decide +kernel


/-- `ex_init` on `"\tabc\n"`: the sticky column is 0, `ren_cursor(0)` is 7 (the tab takes columns 0–7); and the
    statement of `tab_line_check` below, so that the kernel evaluates `ex_init` once for both -/
theorem tab_checks :
    (match initState (some [9, 97, 98, 99, 10]) [48] 24 80 with
     | some s0 => decide (s0.xcol = 0) && decide (cursorCol s0 = 7) && decide (s0.ed.xleft = 0) && decide (s0.xcols = 80) &&
         (match iterate 1 s0 with
          | some s1 => decide (s1.xcol = 0) && decide (cursorCol s1 = 7) && decide (s1.ed.xleft = 0) && decide (s1.ed.xoff = 0)
          | none => false)
     | none => false) = true ∧
    (match initState (some [9, 97, 98, 99, 10]) [48] 24 80 with
     | some s0 => decide (lineOf s0 s0.ed.xrow = some (Spec.encStr ([9, 97, 98, 99] ++ [10])))
     | none => false) = true := by
  unfold initState
  simp only [exInit_eq, C02c.ecEdit_stages]
  decide +kernel

/-- the cell the terminal cursor is first put on (`vi_pos(xcol)`, vi.c:1528) is not the cell it is put on
    after every command (`vi_pos(ren_cursor(xcol))`, vi.c:1895): on `"\tabc\n"` they are 7 cells apart,
    whatever the context direction -/
theorem first_cursor_cell (s0 : VS) (h : initState (some [9, 97, 98, 99, 10]) [48] 24 80 = some s0) :
    s0.xcol = 0 ∧ cursorCol s0 = 7 ∧ (termCursor s0 - colCell s0 = 7 ∨ colCell s0 - termCursor s0 = 7) := by
  have e := tab_checks.1
  rw [h] at e
  simp only [Bool.and_eq_true, decide_eq_true_eq] at e
  obtain ⟨⟨⟨⟨e1, e2⟩, e3⟩, e4⟩, _⟩ := e
  refine ⟨e1, e2, ?_⟩
  unfold termCursor colCell viPos Render.ledPos
  rw [e1, e2]
  split
  · left; omega
  · right; omega

/-- the first iteration of the run `$`, `j`, `k` is the horizontal motion `$` on row 0, the line of 120 `a`s -/
theorem two_dollar_check :
    (match initState (some twoFile) [36, 106, 107] 24 80 with
     | some s =>
       (match viPre s with
        | Res.ok r _ => decide (r.1 = 36) && decide (r.2.1 = 0)
        | _ => false) && !s.ed.xquit && decide (lineOf s 0 = some (Spec.encStr (List.replicate 120 97 ++ [10])))
     | none => false) = true :=
  two_checks.2.2.2.2.1


/-- the cursor line of the state `vi()` starts in on `twoFile` has single-byte characters only -/
theorem two_ascii_check :
    (match initState (some twoFile) [36, 106, 107] 24 80 with
     | some s0 => (lineOf s0 s0.ed.xrow).all (fun ln => decide (ucSlen ln = ln.length))
     | none => false) = true :=
  two_checks.2.2.2.2.2.1

/-- the cursor line of the state `vi()` starts in on `"\tabc\n"`, as code points -/
theorem tab_line_check :
    (match initState (some [9, 97, 98, 99, 10]) [48] 24 80 with
     | some s0 => decide (lineOf s0 s0.ed.xrow = some (Spec.encStr ([9, 97, 98, 99] ++ [10])))
     | none => false) = true :=
  tab_checks.2

open Neatvi.Drive.ViD in
/-- the driver runs `$`, `j`, `k` on `twoFile` -/
theorem two_runModel_some : (runModel (some twoFile) [36, 106, 107] 24 80).isSome = true :=
  two_checks.2.2.2.2.2.2

/-- the run `l`, `l`, `l`, `j` on `twoFile`: the fourth iteration is `j` from column 3 to the `r` of `short`;
    the hypotheses of `run_sticky_cursor_on_character` about the final state hold of it (character
    `i = 3`), and `lview` of it is `([1, 3, 3, 0], [0])`: row 1, offset 3, `xcol = 3`, `xleft = 0`, the one saved `left` 0 -/
theorem near_check :
    (match (initState (some twoFile) [108, 108, 108, 106] 24 80).bind (fun s0 => iterate 3 s0) with
     | some s =>
       (match viPre s with
        | Res.ok r _ => decide (r.1 = 106) && decide (r.2.1 = 1)
        | _ => false) && !s.ed.xquit && decide (lineOf s 1 = some (Spec.encStr (shortBody ++ [10]))) &&
       (match viStep s with
        | Res.ok _ s3 =>
          decide (((posTab s3 (Spec.encStr (shortBody ++ [10]))).getD 3 0 : Nat) ≤ s3.xcol) &&
          decide (s3.xcol < ((posTab s3 (Spec.encStr (shortBody ++ [10]))).getD 3 0 : Nat) +
            (Spec.cellWidth ((shortBody ++ [10]).getD 3 0) ((posTab s3 (Spec.encStr (shortBody ++ [10]))).getD 3 0) : Int)) &&
          decide (s3.ed.xleft ≤ ((posTab s3 (Spec.encStr (shortBody ++ [10]))).getD 3 0 : Nat)) &&
          decide (((posTab s3 (Spec.encStr (shortBody ++ [10]))).getD 3 0 : Nat) +
            (Spec.cellWidth ((shortBody ++ [10]).getD 3 0) ((posTab s3 (Spec.encStr (shortBody ++ [10]))).getD 3 0) : Int) ≤
              s3.ed.xleft + s3.xcols) &&
          decide (lview s3 = ([1, 3, 3, 0], [0]))
        | _ => false)
     | none => false) = true := by
  unfold initState
  simp only [exInit_eq, C02c.ecEdit_stages]
  decide +kernel


/-! ### the checks above, as statements about named states -/

/-- the motion test of the `*_check` statements -/
theorem pre_of_check {s : VS} {a b : Int}
    (h : (match viPre s with
          | Res.ok r _ => decide (r.1 = a) && decide (r.2.1 = b)
          | _ => false) = true) : ∃ noff s1, viPre s = Res.ok (a, b, noff) s1 := by
  cases hp : viPre s with
  | ok r s1 =>
    rw [hp] at h
    simp only [Bool.and_eq_true, decide_eq_true_eq] at h
    obtain ⟨mv, nrow, noff⟩ := r
    obtain ⟨rfl, rfl⟩ := h
    exact ⟨noff, s1, rfl⟩
  | eof => rw [hp] at h; cases h
  | trap => rw [hp] at h; cases h

/-- the states of the run `$`, `j`, `k` on `twoFile` (`two_run`) -/
theorem two_states : ∃ s0 s1 s2 s3 : VS, initState (some twoFile) [36, 106, 107] 24 80 = some s0 ∧
    iterate 1 s0 = some s1 ∧ iterate 2 s0 = some s2 ∧ iterate 3 s0 = some s3 ∧ lview s2 = ([1, 4, 119, 79], [0]) := by
  have e := two_run
  simp only [List.range, List.range.loop, List.map_cons, List.map_nil, List.cons.injEq] at e
  obtain ⟨_, e1, e2, e3, _⟩ := e
  cases h0 : initState (some twoFile) [36, 106, 107] 24 80 with
  | none => rw [h0] at e1; cases e1
  | some s0 =>
    rw [h0] at e1 e2 e3
    simp only [Option.bind_some, Option.map_eq_some_iff] at e1 e2 e3
    obtain ⟨s1, h1, _⟩ := e1
    obtain ⟨s2, h2, v2⟩ := e2
    obtain ⟨s3, h3, _⟩ := e3
    exact ⟨s0, s1, s2, s3, rfl, h1, h2, h3, v2⟩

/-- `two_x_check`: the iteration of `x` from the state `vi()` starts in on `twoFile` -/
theorem two_x_step : ∃ (s0 s' : VS) (mod : Nat), initState (some twoFile) [120] 24 80 = some s0 ∧
    StepVia s0 s' (some mod) ∧ mod ≠ 0 ∧ s'.ed.xquit = false ∧ 0 ≤ s'.ed.xoff ∧
    lineOf s' s'.ed.xrow = some (Spec.encStr (List.replicate 119 97 ++ [10])) := by
  have e := two_x_check
  cases h0 : initState (some twoFile) [120] 24 80 with
  | none => rw [h0] at e; cases e
  | some s0 =>
    rw [h0] at e
    simp only [] at e
    cases h1 : stepModOf s0 with
    | none => rw [h1] at e; cases e
    | some p =>
      obtain ⟨mod, s'⟩ := p
      rw [h1] at e
      simp only [Bool.and_eq_true, decide_eq_true_eq, Bool.not_eq_true'] at e
      obtain ⟨⟨⟨hm, hq⟩, hoff⟩, hln⟩ := e
      exact ⟨s0, s', mod, rfl, stepModOf_via s0 s' mod h1, hm, hq, hoff, hln⟩

/-- an ex command does not always leave `xleft` alone (the conjecture `Props.C19g.ex_keeps_xleft_value` is false) -/
theorem ex_keeps_xleft_value_is_false :
    ¬ ∀ (ed ed' : Ed) (ln : Bytes) (rc : Int), exCommand 64 ed ln = some (rc, ed') → ed'.xleft = ed.xleft := by
  intro h
  have := h _ _ _ _ edTwo_command
  rw [edTwo_xleft] at this
  revert this
  decide

/-- CONJECTURE (false): the terminal cursor is first put where it is put after every command, on
    `vi_pos(ren_cursor(xcol))` -/
def first_cursor_is_command_cursor : Prop :=
  ∀ (file : Option Bytes) (keys : Bytes) (rows cols : Int) (s0 : VS),
    initState file keys rows cols = some s0 → colCell s0 = termCursor s0

theorem first_cursor_cell_finding : ¬ first_cursor_is_command_cursor := by
  intro hall
  cases h : initState (some [9, 97, 98, 99, 10]) [48] 24 80 with
  | none => have := tab_checks.1; rw [h] at this; cases this
  | some s0 =>
    have e := hall _ _ _ _ s0 h
    obtain ⟨_, _, h7⟩ := first_cursor_cell s0 h
    omega

end Neatvi.Lemmas.C19g
