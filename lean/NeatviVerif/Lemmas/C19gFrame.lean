import NeatviVerif.Lemmas.Basics
import NeatviVerif.Lemmas.C20cRun
/-!
# C19g helper lemmas: the ex layer and `xleft` — frames

`C19f.LOk` (no negative `xleft`, current or saved) and `C19f.ExKeepsLeft` are declared here, in front of the vi layer's
walk (`Lemmas/C19fFrame.lean` …), which uses `exKeepsLeft` of `Lemmas/C19gEx.lean`.  `LP P ed`: `xleft` and every `left` saved in the buffer table have the property `P` (`C19f.LOk` is
`LP (0 ≤ ·)`).  `LK P a b` says the step from `a` to `b` keeps it.  The ex layer writes `xleft` in one
place only, `bufs_load()` (from the saved `left` of the buffer that becomes current, or 0), and a
saved `left` in two, `bufs_save()` (from `xleft`) and `bufs_init()` (0).  Hence `LP P` is kept whenever
`P 0` (`HasZero P`).  Everything else leaves both alone:

* `SameL a b`: the buffer table and `xleft` are untouched — in particular by every step that leaves the
  `core` of `Lemmas/ExLeaf.lean` alone (address parser, path expansion, `:se`, the message and output
  functions);
* `Quiet` (C20c: sequence counters only) and `IoOnly` (C20c: the file system only) steps;
* updates of a record of the table that keep its `left` (`lk_slot`; the current record: `lk_setCur`, `setLb`,
  `Ed.edit`);
* the table operations `bufs_switch`, `bufs_open`, `bufs_shift`, the fresh buffer of `:b !`, `:b ~`.
-/
set_option linter.unusedSimpArgs false
set_option linter.unusedVariables false

namespace Neatvi.Lemmas.C19f
open Neatvi Neatvi.Ex

/-- no negative `xleft`: the current one and those saved in the buffer table (`ex.c` `bufs[].left`) -/
def LOk (ed : Ed) : Prop := 0 ≤ ed.xleft ∧ ∀ bf, some bf ∈ ed.bufs → 0 ≤ bf.left

/-- the ex layer keeps `LOk`: `:e`, `:b`, … save `xleft` into the table and restore a saved one.
    (A statement about `Model/ExCmd.lean` alone; not proved in C19f.) -/
def ExKeepsLeft : Prop :=
  ∀ (ed ed' : Ed) (ln : Bytes) (rc : Int), exCommand 64 ed ln = some (rc, ed') → LOk ed → LOk ed'

end Neatvi.Lemmas.C19f

namespace Neatvi.Lemmas.C19g
open Neatvi Neatvi.Lbuf Neatvi.Ex Neatvi.Rset
open Neatvi.Lemmas.C19f (LOk)
open Neatvi.Lemmas.C20c (Quiet IoOnly coreB)
open Neatvi.Lemmas.ExFrame
open Neatvi.Lemmas.C20b (AllB)

/-- `xleft` and every `left` saved in the buffer table have the property `P`.  `LOk` is
    `LP (0 ≤ ·)`; `LP (· = 0)` says the window has never been scrolled sideways in any buffer. -/
def LP (P : Int → Prop) (ed : Ed) : Prop := P ed.xleft ∧ ∀ bf, some bf ∈ ed.bufs → P bf.left

/-- a property of `xleft` values that 0 has: the ex layer creates the value 0 (a new buffer, an empty
    slot becoming current) and otherwise only copies `xleft` into the table and back -/
class HasZero (P : Int → Prop) : Prop where
  zero : P 0

instance : HasZero (fun x : Int => 0 ≤ x) := ⟨Int.le_refl 0⟩
instance : HasZero (fun x : Int => x = 0) := ⟨rfl⟩

theorem lOk_iff (ed : Ed) : LOk ed ↔ LP (fun x : Int => 0 ≤ x) ed := Iff.rfl

def LK (P : Int → Prop) (a b : Ed) : Prop := LP P a → LP P b

variable {P : Int → Prop}

theorem LK.refl (a : Ed) : LK P a a := fun h => h
theorem LK.trans {a b c : Ed} (h1 : LK P a b) (h2 : LK P b c) : LK P a c := fun h => h2 (h1 h)

def SameL (a b : Ed) : Prop := b.bufs = a.bufs ∧ b.xleft = a.xleft

theorem LK.of_same {a b : Ed} (h : SameL a b) : LK P a b := by
  intro hl
  unfold LP at *
  rw [h.1, h.2]
  exact hl

theorem LK.same {a b c : Ed} (h1 : LK P a b) (h2 : SameL b c) : LK P a c := h1.trans (LK.of_same h2)

theorem LK.to {a b c : Ed} (h1 : LK P a b) (hb : c.bufs = b.bufs) (hx : c.xleft = b.xleft) : LK P a c :=
  h1.same ⟨hb, hx⟩

theorem LK.ite {a x y : Ed} (c : Prop) [Decidable c] (hx : LK P a x) (hy : LK P a y) :
    LK P a (if c then x else y) := by
  split <;> assumption

/-! ### one entry of the table -/

theorem getD_mem_some {α : Type} {l : List (Option α)} {i : Nat} {x : α} (h : l.getD i none = some x) : some x ∈ l :=
  (Basics.mem_of_getD_some l i x h).1

theorem lk_set {ed : Ed} {i : Nat} {b' : Buf} (hl : LP P ed → P b'.left) :
    LK P ed { ed with bufs := ed.bufs.set i (some b') } := by
  intro h
  refine ⟨h.1, fun bf hbf => ?_⟩
  rcases List.mem_or_eq_of_mem_set hbf with h1 | h1
  · exact h.2 bf h1
  · cases h1
    exact hl h

theorem lk_slot {ed : Ed} {i : Nat} {b b' : Buf} (hc : ed.bufs.getD i none = some b) (hl : b'.left = b.left) :
    LK P ed { ed with bufs := ed.bufs.set i (some b') } :=
  lk_set fun h => hl ▸ h.2 b (getD_mem_some hc)

theorem lk_setCur {ed : Ed} {b b' : Buf} (hc : ed.cur = some b) (hl : b'.left = b.left) : LK P ed (ed.setCur b') :=
  lk_slot hc hl

theorem lk_setLb (ed : Ed) (lb : Lb) : LK P ed (ed.setLb lb) := by
  unfold Ed.setLb
  cases hc : ed.cur with
  | none => exact LK.refl _
  | some b => exact lk_setCur (b := b) (b' := { b with lb := lb }) hc rfl

theorem lk_edit {ed ed' : Ed} {s : Option Bytes} {b e : Int} (h : ed.edit s b e = some ed') : LK P ed ed' := by
  obtain ⟨_, _, lb, lb', _, _, he, _⟩ := Ed_edit_some h
  rw [he]; exact lk_setLb ed lb'

/-! ### quiet steps, the file system -/

theorem lk_quiet {a b : Ed} (h : Quiet a b) : LK P a b := by
  intro hl
  refine ⟨by rw [h.xleft]; exact hl.1, fun bf hbf => ?_⟩
  obtain ⟨i, hi, hget⟩ := List.getElem_of_mem hbf
  have hg' : b.bufs.getD i none = some bf := by
    rw [List.getD_eq_getElem?_getD, List.getElem?_eq_getElem hi, hget]; rfl
  have hq := h.getD i
  rw [hg'] at hq
  cases ha : a.bufs.getD i none with
  | none => rw [ha] at hq; cases hq
  | some x =>
    rw [ha] at hq
    simp only [Option.map_some, Option.some.injEq] at hq
    have hlf : (coreB bf).left = (coreB x).left := by rw [hq]
    have : bf.left = x.left := hlf
    rw [this]
    exact hl.2 x (getD_mem_some ha)

theorem lk_bufsModified {ed ed' : Ed} {idx : Nat} {msg : Option Bytes} {r : Bool}
    (h : bufsModified ed idx msg = some (r, ed')) : LK P ed ed' := lk_quiet (C20c.quiet_bufsModified h)
theorem lk_guard {ed ed' : Ed} {c : Prop} [Decidable c] {idx : Nat} {msg : Option Bytes} {r : Bool}
    (h : (if c then bufsModified ed idx msg else some (false, ed) : R Bool) = some (r, ed')) : LK P ed ed' :=
  lk_quiet (C20c.quiet_guard h)
theorem lk_modifiedAt (ed : Ed) (i : Nat) : LK P ed (ed.modifiedAt i).2 := lk_quiet (C20c.quiet_modifiedAt ed i)
theorem sameL_io {a b : Ed} (h : IoOnly a b) : SameL a b := ⟨h.same.1, h.view.2.2.2.1⟩

theorem lk_io {a b : Ed} (h : IoOnly a b) : LK P a b := LK.of_same (sameL_io h)

/-- as `same_split` of `Lemmas/C20cFrame.lean` -/
macro "samel_split" h:ident : tactic => `(tactic| (
  repeat' (split at $h:ident)
  all_goals (try (simp only [Option.some.injEq, Prod.mk.injEq, reduceCtorEq] at $h:ident))
  all_goals (try (have h2 := And.right $h:ident; subst h2))
  all_goals (first | exact ⟨rfl, rfl⟩ | skip)))

/-! ### the table operations -/

/-- `bufs_load()`: `xleft` becomes the saved `left` of the current entry, or 0 -/
theorem lk_bufsLoad [HasZero P] (ed : Ed) : LK P ed ed.bufsLoad := by
  intro h
  unfold Ed.bufsLoad
  cases hc : ed.cur with
  | none => exact ⟨HasZero.zero, h.2⟩
  | some b => exact ⟨h.2 b (getD_mem_some hc), h.2⟩

/-- `bufs_switch(idx)`: the record that is left takes `xleft`, the table is rotated, `xleft` is loaded -/
theorem lk_bufsSwitch [HasZero P] (ed : Ed) (idx : Nat) : LK P ed (ed.bufsSwitch idx) := by
  intro h
  have ht : AllB (fun b => P b.left) (ed.bufsSwitch idx).bufs :=
    AllB.bufsSwitch idx (AllB.leftBufs (fun _ _ => h.1) (AllB.sub (Q := fun b => P b.left) h.2 fun _ => List.mem_of_mem_drop))
  rw [Props.C20.switch_eq] at ht ⊢
  rw [Props.C20.bufsLoad_bufs] at ht
  exact lk_bufsLoad _ ⟨h.1, ht⟩

/-- `bufs_open(path)`: the new entry has `left = 0` -/
theorem lk_bufsOpen [HasZero P] (ed : Ed) (p : Bytes) : LK P ed (ed.bufsOpen p).2 :=
  (lk_set (i := ed.findRoom) fun _ => HasZero.zero).to rfl rfl

theorem lk_bufsShift [HasZero P] (ed : Ed) : LK P ed ed.bufsShift := by
  intro h
  have ht : AllB (fun b => P b.left) ed.bufsShift.bufs :=
    AllB.bufsShift (AllB.sub (Q := fun b => P b.left) h.2 fun _ => List.mem_of_mem_drop)
  unfold Ed.bufsShift at ht ⊢
  rw [Props.C20.bufsLoad_bufs] at ht
  exact lk_bufsLoad _ ⟨h.1, ht⟩

/-- the fresh buffer of `:b !` -/
theorem lk_fresh [HasZero P] (ed : Ed) :
    LK P ed { ed with bufs := ed.bufs.set 0 (some (Props.C20b.freshBuf ed)), bufsCnt := ed.bufsCnt + 1 } :=
  (lk_set fun _ => HasZero.zero).to rfl rfl

theorem lk_delEd [HasZero P] (ed : Ed) : LK P ed (Props.C20b.delEd ed) :=
  LK.ite _ ((lk_bufsShift ed).trans (lk_fresh _)) (lk_bufsShift ed)

/-- `:b ~` changes numbers only -/
theorem lk_renum (ed : Ed) : LK P ed (Props.C20b.renumEd ed) :=
  fun h => ⟨h.1, AllB.renumFold (Q := fun b => P b.left) (fun _ _ hx => hx) h.2⟩

end Neatvi.Lemmas.C19g
