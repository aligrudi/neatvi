import NeatviVerif.Lemmas.C19gRun
/-!
# C19g helper lemmas: the sticky column after a horizontal motion

A motion other than `j`, `k`, `|` assigns `xcol = vi_off2col(xrow, xoff)` in the motion branch of
`vi()` (vi.c:1559–1560), *before* `vi_wfix()`; the redraw class of a motion is 0, so the end of the
iteration does not recompute it.  When the target row exists and its line is a buffer line,
`vi_wfix()` changes neither the row nor the offset (`ren_noeol` is idempotent on buffer lines), so at
the next command boundary the sticky column is the column of the cursor character and the offset
is not negative: `run_cursor_on_character` applies to every such iteration.
-/
set_option linter.unusedSimpArgs false
set_option linter.unusedVariables false

namespace Neatvi.Lemmas.C19g
open Neatvi Neatvi.Uc Neatvi.Spec Neatvi.Ren Neatvi.Render Neatvi.Lbuf Neatvi.Ex Neatvi.Mot Neatvi.Vi
open Neatvi.Lemmas.C19f
open Neatvi.Lemmas.C05c (bind_inv)
open Neatvi.Lemmas.C07 (lbText motionTail_eq motionRest motionOff)

theorem hz_markSave (v : Int × Int × Int × Int × Bool) : Pres (Hz v) markSave := pres_markSave (HG.hz v)

theorem motionRest_h (mv nrow noff : Int) (h1 : mv ≠ 106) (h2 : mv ≠ 107) (h3 : mv ≠ 124) (s : VS) :
    ∃ s', motionRest mv nrow noff s = Res.ok (some 0) s' ∧ s'.ed.xrow = nrow ∧
      s'.ed.xoff = noeol s nrow (motionOff s mv nrow noff) ∧ lbText s' = lbText s ∧ s'.ed.xtd = s.ed.xtd ∧
      s'.ed.xquit = s.ed.xquit ∧ s'.xcol = off2col s' s'.ed.xrow s'.ed.xoff := by
  unfold motionRest motionOff
  have b2 : (mv == 124) = false := by simpa using h3
  have jk : (mv == 106 || mv == 107) = false := by simp [h1, h2]
  simp only [b2, jk]
  exact ⟨_, rfl, rfl, rfl, rfl, rfl, rfl, rfl⟩

/-- **after a horizontal motion the sticky column is the column of the cursor character**: a motion
    other than `j`, `k`, `|` to a row `nrow` whose line is a buffer line (its only newline is its last
    byte), followed by the end of the iteration, from a state that is not quitting -/
theorem hmotion_onChar (mv nrow noff : Int) (h1 : mv ≠ 106) (h2 : mv ≠ 107) (h3 : mv ≠ 124) (s s2 s3 : VS)
    (c : Option Nat) (hm : motionTail mv nrow noff s = Res.ok c s2) (hp : viPost c s2 = Res.ok () s3)
    (hq : s.ed.xquit = false) (ln : Bytes) (hln : lineOf s nrow = some ln) (hwf : C07.WfLine ln) :
    s3.xcol = off2col s3 s3.ed.xrow s3.ed.xoff ∧ 0 ≤ s3.ed.xoff ∧ s3.ed.xrow = nrow ∧ s3.ed.xquit = false ∧
    lineOf s3 s3.ed.xrow = some ln := by
  rw [motionTail_eq] at hm
  obtain ⟨u, sa, ha, hb⟩ := bind_inv _ _ _ _ _ hm
  have hka : lbText sa = lbText s ∧ hsnap sa = hsnap s := by
    split at ha
    · exact ⟨(C07.markSaveOpt_run true s u sa (by simpa using ha)).2, hz_frame hz_markSave s u sa ha⟩
    · cases ha; exact ⟨rfl, rfl⟩
  obtain ⟨hta, hsa⟩ := hka
  obtain ⟨_, _, _, hda, hqa⟩ := hsnap_fields hsa
  obtain ⟨s', e0, e1, e2, e3, e4, e5, e6⟩ := motionRest_h mv nrow noff h1 h2 h3 sa
  rw [e0] at hb
  cases hb
  have hq2 : s2.ed.xquit = false := by rw [e5, hqa]; exact hq
  obtain ⟨a1, a2, a3, a4, a5, a6, a7, a8⟩ := (viPost_run 0 s2 s3 hp).2 hq2
  have ht2 : lbText s2 = lbText s := e3.trans hta
  have hln2 : lineOf s2 nrow = some ln := by rw [C07.lineOf_of_lbText ht2]; exact hln
  obtain ⟨r0, r1⟩ := lineOf_some_range s2 nrow ln hln2
  have hrow : Props.C07.wfixRow s2 = nrow := by
    rw [← e1]; exact Props.C07.wfixRow_of_range s2 (by rw [e1]; exact r0) (by rw [e1]; exact r1)
  have hlna : lineOf sa nrow = some ln := by rw [C07.lineOf_of_lbText hta]; exact hln
  have hoff2 : s2.ed.xoff = renNoeol ln (motionOff sa mv nrow noff) := by
    rw [e2]; unfold noeol; rw [hlna]
  have hoff : Props.C07.wfixOff s2 = s2.ed.xoff := by
    unfold Props.C07.wfixOff
    rw [hrow, hln2]
    simp only [Option.getD_some]
    rw [hoff2]
    exact Props.C07.renNoeol_idem_wf ln hwf _
  have hx3 : s3.xcol = s2.xcol := by rw [a7]; rfl
  have h0 : 0 ≤ s2.ed.xoff := by
    rw [e2]; exact C07.noeol_nonneg _ _ _ (C07.motionOff_nonneg _ _ _ _)
  refine ⟨?_, by rw [a6, hoff]; exact h0, by rw [a5, hrow], a1, ?_⟩
  · rw [hx3, e6, a5, a6, hrow, hoff, e1]
    exact (off2col_congr a4 a3 _ _).symm
  · rw [a5, hrow, C07.lineOf_of_lbText a4]; exact hln2

/-- ... for the iteration of a state of a run: the motion `viPre` returns is `mv > 0`, not `j`, `k`, `|`,
    to a row whose line is a buffer line -/
theorem stepVia_hmotion (s s1 s3 : VS) (mv nrow noff : Int) (hpos : 0 < mv) (h1 : mv ≠ 106) (h2 : mv ≠ 107)
    (h3 : mv ≠ 124) (hq : s.ed.xquit = false)
    (hpre : viPre s = Res.ok (mv, nrow, noff) s1) (h : viStep s = Res.ok () s3)
    (ln : Bytes) (hln : lineOf s nrow = some ln) (hwf : C07.WfLine ln) :
    StepVia s s3 (some 0) ∧ s3.xcol = off2col s3 s3.ed.xrow s3.ed.xoff ∧ 0 ≤ s3.ed.xoff ∧ s3.ed.xrow = nrow ∧
    s3.ed.xquit = false ∧ lineOf s3 s3.ed.xrow = some ln := by
  rw [C07.viStep_of_pre s s1 mv nrow noff hpre] at h
  obtain ⟨cont, s2, hcont, hpost⟩ := bind_inv _ _ _ _ _ h
  have hcont' := hcont
  unfold C07.stepCont at hcont
  rw [if_pos hpos] at hcont
  have hc0 := (C07.motionTail_run mv nrow noff s1 cont s2 hcont).1
  obtain ⟨f1, f2, f3, f4, f5, f6⟩ := viPre_frame s s1 _ hpre
  obtain ⟨k1, k2, k3, k4, k5⟩ := hmotion_onChar mv nrow noff h1 h2 h3 s1 s2 s3 cont hcont hpost (by rw [f6]; exact hq)
    ln (by rw [f1]; exact hln) hwf
  subst hc0
  exact ⟨⟨(mv, nrow, noff), s1, s2, hpre, hcont', hpost⟩, k1, k2, k3, k4, k5⟩

end Neatvi.Lemmas.C19g
