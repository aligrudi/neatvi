import NeatviVerif.Lemmas.C19gEx
import NeatviVerif.Lemmas.C19fMain
/-!
# C19g helper lemmas: whole runs of `vi()`

* `col_invariant_reachable`: `C19f.col_invariant_reachable_full` is a theorem (`exKeepsLeft`);
* the state `vi()` starts in (`initState`: `ex_init`, then `viInit`): `xleft = 0` and every saved
  `left` is 0 (`LP (· = 0)`, an invariant of the ex layer like `LOk`), `Good cols`, the sticky column is
  the column of the first character of the cursor line;
* `viStep_window` (`C19f.viStep_colWin_or` of `Lemmas/C19fRun.lean` under the name the statements of C19g use): one
  iteration either goes through the end of the loop body — then the column window holds afterwards *whatever it was
  before* — or it hits `continue`, and then `xcol`, `xcols`, `xleft` are untouched;
* `RunInv`, `run_window`, `runModel_states`: every state at a command boundary of every run;
* `StepVia`: the three phases of an iteration; `stepVia_cursor_on_character`, `stepVia_sticky`,
  `stepVia_sticky_cursor`: the statements of C19f about one iteration from a state with the invariant of a
  run (`GoodB true c`).
-/
set_option linter.unusedSimpArgs false
set_option linter.unusedVariables false

namespace Neatvi.Lemmas.C19g
open Neatvi Neatvi.Uc Neatvi.Spec Neatvi.Ren Neatvi.Render Neatvi.Lbuf Neatvi.Ex Neatvi.Mot Neatvi.Vi
open Neatvi.Lemmas.C19f
open Neatvi.Lemmas.C05b (CountsFit bind_apply)
open Neatvi.Lemmas.C05c (bind_inv)
open Neatvi.Lemmas.C17b (StrictInc)
open Neatvi.Props.C05c (iterate iterate_succ)

/-! ### the full invariant -/

/-- **`col_invariant_reachable_full` is a theorem**: from a state with `Good c`, `c > 0`, the sticky
    column inside the window and no negative `xleft`, current or saved, every state reached while the
    editor is not quitting has `xleft ≤ xcol < xleft + xcols` and `0 ≤ xleft` -/
theorem col_invariant_reachable : col_invariant_reachable_full := col_invariant_reachable_of_ex exKeepsLeft

theorem goodT_iterate (c : Int) : ∀ (n : Nat) (s₀ s : VS), GoodB true c s₀ → iterate n s₀ = some s → GoodB true c s :=
  Props.C05c.iterate_keeps (goodB_viStep true c)

/-- the `n + 1`-st state of a run is one iteration after the `n`-th -/
theorem iterate_snoc : ∀ (n : Nat) (s0 s : VS), iterate n s0 = some s →
    iterate (n + 1) s0 = (match viStep s with | Res.ok _ s' => some s' | _ => none) := by
  intro n
  induction n with
  | zero =>
    intro s0 s h
    unfold iterate at h
    cases h
    conv => lhs; unfold iterate
    cases viStep s0 with
    | ok u s' => simp only []; unfold iterate; rfl
    | eof => rfl
    | trap => rfl
  | succ n ih =>
    intro s0 s h
    unfold iterate at h
    split at h
    · rename_i u s1 h1
      rw [iterate_succ (n + 1) s0 s1 u h1]
      exact ih s1 s h
    · cases h

theorem viStep_of_iterate {n : Nat} {s0 s s' : VS} (h : iterate n s0 = some s) (h' : iterate (n + 1) s0 = some s') :
    viStep s = Res.ok () s' := by
  rw [iterate_snoc n s0 s h] at h'
  cases hv : viStep s with
  | ok u s3 => rw [hv] at h'; cases h'; rfl
  | eof => rw [hv] at h'; cases h'
  | trap => rw [hv] at h'; cases h'

/-! ### the state `vi()` starts in -/

/-- the editor before `ex_init`: an empty buffer table, `xleft = 0` -/
theorem lp_start {P : Int → Prop} [HasZero P] (ed0 : Ed) (hb : ed0.bufs = List.replicate Gen.NBUFS none)
    (hx : ed0.xleft = 0) : LP P ed0 := by
  refine ⟨by rw [hx]; exact HasZero.zero, fun bf hbf => ?_⟩
  rw [hb] at hbf
  have := List.eq_of_mem_replicate hbf
  cases this

theorem initState_some (file : Option Bytes) (keys : Bytes) (rows cols : Int) (s0 : VS)
    (h : initState file keys rows cols = some s0) :
    ∃ ed0 rc ed, ed0.bufs = List.replicate Gen.NBUFS none ∧ ed0.xleft = 0 ∧
      exInit ed0 [strOf "fa"] = some (rc, ed) ∧ s0 = viInit ed keys (rows - 1) cols := by
  unfold initState at h
  extract_lets ed0 at h
  have hb : ed0.bufs = List.replicate Gen.NBUFS none ∧ ed0.xleft = 0 := by
    cases file <;> exact ⟨rfl, rfl⟩
  clear_value ed0
  cases he : exInit ed0 [strOf "fa"] with
  | none => rw [he] at h; cases h
  | some p =>
    rw [he] at h
    cases h
    exact ⟨ed0, p.1, p.2, hb.1, hb.2, he, rfl⟩

/-- **the state `vi()` starts in**, for every file, key sequence and window size:
    `xleft = 0` and every `left` saved in the buffer table is 0; `Good cols` (window width `cols`,
    `0 ≤ xcol`, counts 0); the cursor offset is 0 and the sticky column is the column of the first
    character of the cursor line — `vi()` computes it and does *not* adjust `xleft` before the first
    command (vi.c:1523–1528) — so the column window holds exactly when that column is `< cols`. -/
theorem initState_spec (file : Option Bytes) (keys : Bytes) (rows cols : Int) (s0 : VS)
    (h : initState file keys rows cols = some s0) :
    LP (fun x : Int => x = 0) s0.ed ∧ LOk s0.ed ∧ Good cols s0 ∧ s0.xcols = cols ∧ s0.ed.xoff = 0 ∧
    s0.xcol = off2col s0 s0.ed.xrow s0.ed.xoff ∧ 0 ≤ s0.xcol ∧ (ColWin s0 ↔ s0.xcol < cols) := by
  obtain ⟨ed0, rc, ed, hb, hx, he, rfl⟩ := initState_some file keys rows cols s0 h
  have hz : LP (fun x : Int => x = 0) ed := exInit_lk he (lp_start ed0 hb hx)
  have hl : LOk ed := exInit_lk (P := fun x : Int => 0 ≤ x) he (lp_start ed0 hb hx)
  have hg := good_viInit ed keys (rows - 1) cols
  have hxl : (viInit ed keys (rows - 1) cols).ed.xleft = 0 := hz.1
  refine ⟨hz, hl, hg, rfl, rfl, rfl, hg.2.1, ?_⟩
  unfold ColWin
  rw [hxl]
  have h0 := hg.2.1
  show _ ∧ _ < 0 + cols ↔ _
  constructor
  · intro hw; omega
  · intro hw; exact ⟨h0, by omega⟩

/-! ### one iteration -/

/-- the three phases of an iteration of `vi()`: the prefixes and the motion (`viPre`), the cursor
    update of a motion or the command switch (`stepCont`; `cont = none` is the `continue` of the C
    loop), the end of the loop body (`viPost`; `cont = some mod` carries the redraw class) -/
def StepVia (s s' : VS) (cont : Option Nat) : Prop :=
  ∃ r s1 s2, viPre s = Res.ok r s1 ∧ C07.stepCont r.1 r.2.1 r.2.2 s1 = Res.ok cont s2 ∧ viPost cont s2 = Res.ok () s'

theorem viStep_via (s s' : VS) : viStep s = Res.ok () s' ↔ ∃ cont, StepVia s s' cont := by
  constructor
  · intro h
    rw [viStep_unfold] at h
    obtain ⟨r, s1, hpre, h⟩ := bind_inv _ _ _ _ _ h
    obtain ⟨cont, s2, hcont, hpost⟩ := bind_inv _ _ _ _ _ h
    exact ⟨cont, r, s1, s2, hpre, hcont, hpost⟩
  · rintro ⟨cont, r, s1, s2, hpre, hcont, hpost⟩
    rw [viStep_unfold]
    rw [bind_apply, hpre]
    show ((C07.stepCont r.1 r.2.1 r.2.2 >>= viPost) s1) = _
    rw [bind_apply, hcont]
    exact hpost

theorem stepVia_mid (c : Int) (s s' : VS) (cont : Option Nat) (hg : GoodB true c s) (h : StepVia s s' cont) :
    ∃ s2, viPost cont s2 = Res.ok () s' ∧ GoodB true c s2 := by
  obtain ⟨r, s1, s2, hpre, hcont, hpost⟩ := h
  have g1 := pres_viPre (HG.good true c) s r s1 hg hpre
  have g2 := good_stepCont true c r.1 r.2.1 r.2.2 s1 cont s2 g1 hcont
  exact ⟨s2, hpost, g2⟩

/-- `C19f.viStep_colWin_or`: one iteration establishes the column window or moves nothing horizontal -/
theorem viStep_window (c : Int) (hc : 0 < c) (s s' : VS) (hg : Good c s)
    (h : viStep s = Res.ok () s') (hq : s'.ed.xquit = false) : ColWin s' ∨ hsnap s' = hsnap s :=
  viStep_colWin_or c hc s s' hg h hq

/-! ### every state of a run -/

/-- the invariant of a run that starts in `s₀`: `Good c`, `0 ≤ xleft` and no negative saved `left`, and
    the column window — or nothing horizontal has moved since the start -/
def RunInv (c : Int) (s₀ s : VS) : Prop := GoodB true c s ∧ (ColWin s ∨ hsnap s = hsnap s₀)

theorem runInv_start (c : Int) (hc : 0 ≤ c) (s₀ : VS) (hg : Good c s₀) (hl : LOk s₀.ed) : RunInv c s₀ s₀ :=
  ⟨goodB_of c s₀ hg hc hl, Or.inr rfl⟩

theorem good_of_goodT {c : Int} {s : VS} (h : GoodB true c s) : Good c s :=
  ⟨h.1, h.2.1, h.2.2.1, h.2.2.2.1, fun hb => by cases hb⟩

theorem runInv_step (c : Int) (hc : 0 < c) (s₀ s s' : VS) (hi : RunInv c s₀ s)
    (h : viStep s = Res.ok () s') (hq : s'.ed.xquit = false) : RunInv c s₀ s' := by
  refine ⟨goodB_viStep true c s () s' hi.1 h, ?_⟩
  rcases viStep_window c hc s s' (good_of_goodT hi.1) h hq with hw | hk
  · exact Or.inl hw
  · rcases hi.2 with hw | hk0
    · exact Or.inl (colWin_of_hsnap hk hw)
    · exact Or.inr (hk.trans hk0)

theorem runInv_iterate (c : Int) (hc : 0 < c) (s₀ : VS) : ∀ (n : Nat) (t s : VS), RunInv c s₀ t →
    iterate n t = some s → Alive n t → RunInv c s₀ s :=
  alive_inv fun s _ s' hi h hq => runInv_step c hc s₀ s s' hi h hq

theorem runInv_spec (c : Int) (s₀ s : VS) (h : RunInv c s₀ s) :
    s.xcols = c ∧ 0 ≤ s.xcol ∧ 0 ≤ s.ed.xleft ∧ (∀ bf, some bf ∈ s.ed.bufs → 0 ≤ bf.left) ∧
    (ColWin s ∨ (s.xcol = s₀.xcol ∧ s.ed.xleft = s₀.ed.xleft)) ∧ (ColWin s₀ → ColWin s) := by
  obtain ⟨hg, hw⟩ := h
  have hl := (hg.2.2.2.2 rfl).2
  refine ⟨hg.1, hg.2.1, hl.1, hl.2, ?_, ?_⟩
  · rcases hw with hw | hk
    · exact Or.inl hw
    · obtain ⟨a, _, b, _⟩ := hsnap_fields hk
      exact Or.inr ⟨a, b⟩
  · intro h0
    rcases hw with hw | hk
    · exact hw
    · exact colWin_of_hsnap hk h0

open Neatvi.Drive.ViD in
/-- the driver's runs: `runModel` starts in `initState` and records the states at the command
    boundaries -/
theorem runModel_states (file : Option Bytes) (keys : Bytes) (rows cols : Int) (run : Run) (hc : 0 < cols)
    (h : runModel file keys rows cols = some run) :
    ∃ s0, initState file keys rows cols = some s0 ∧ ∀ t ∈ run.states, RunInv cols s0 t := by
  obtain ⟨ed, hi, hr⟩ := Props.C05c.runModel_inv h
  obtain ⟨_, hl, hg, _⟩ := initState_spec file keys rows cols _ hi
  exact ⟨_, hi, hr (fun s _ s' hp h1 hq => runInv_step cols hc _ s s' hp h1 hq) (runInv_start cols (by omega) _ hg hl)⟩


/-! ### runs from the state `vi()` starts in -/

/-- every state of a run of `vi()` has `GoodB true cols`: window width `cols`, `0 ≤ xcol`, `0 ≤ xleft`, no
    negative saved `left`, counts within bounds -/
theorem run_goodT (file : Option Bytes) (keys : Bytes) (rows cols : Int) (hc : 0 < cols) (s0 : VS)
    (hi : initState file keys rows cols = some s0) (n : Nat) (s : VS) (hn : iterate n s0 = some s) :
    GoodB true cols s := by
  obtain ⟨_, hl, hg, _⟩ := initState_spec file keys rows cols s0 hi
  exact goodT_iterate cols n s0 s (goodB_of cols s0 hg (by omega) hl) hn

/-- **every command boundary of every run**: after `n` iterations from the state `vi()` starts in, none
    of which left the editor quitting -/
theorem run_window (file : Option Bytes) (keys : Bytes) (rows cols : Int) (hc : 0 < cols) (s0 : VS)
    (hi : initState file keys rows cols = some s0) (n : Nat) (s : VS) (hn : iterate n s0 = some s)
    (ha : Alive n s0) :
    s.xcols = cols ∧ 0 ≤ s.xcol ∧ 0 ≤ s.ed.xleft ∧ (∀ bf, some bf ∈ s.ed.bufs → 0 ≤ bf.left) ∧
    (ColWin s ∨ (s.xcol = s0.xcol ∧ s.ed.xleft = 0)) ∧ (s0.xcol < cols → ColWin s) := by
  obtain ⟨hz, hl, hg, _, _, _, _, hw⟩ := initState_spec file keys rows cols s0 hi
  have hr := runInv_iterate cols hc s0 n s0 s (runInv_start cols (by omega) s0 hg hl) hn ha
  obtain ⟨a, b, c, d, e, f⟩ := runInv_spec cols s0 s hr
  have hx0 : s0.ed.xleft = 0 := hz.1
  exact ⟨a, b, c, d, by rw [hx0] at e; exact e, fun h => f (hw.mpr h)⟩

/-! ### before the first command -/

/-- **the first command boundary.**  `vi()` computes `xcol = vi_off2col(xrow, 0)` and puts the terminal
    cursor on `vi_pos(xcol)` (vi.c:1525–1528) — with `xleft = 0`, which it does not adjust, and without
    `ren_cursor`: the cell is that of the *lowest* visual column of the first character, `xcol` itself
    in a left-to-right context, `cols - 1 - xcol` in a right-to-left one; it is a cell of the window
    exactly when `xcol < cols`. -/
theorem first_boundary (file : Option Bytes) (keys : Bytes) (rows cols : Int) (s0 : VS)
    (hi : initState file keys rows cols = some s0) :
    s0.ed.xleft = 0 ∧ s0.ed.xoff = 0 ∧ s0.xcols = cols ∧ s0.xcol = off2col s0 s0.ed.xrow s0.ed.xoff ∧ 0 ≤ s0.xcol ∧
    (ColWin s0 ↔ s0.xcol < cols) ∧
    (0 ≤ curCtx s0 → colCell s0 = s0.xcol) ∧ (curCtx s0 < 0 → colCell s0 = cols - s0.xcol - 1) ∧
    (lineOf s0 s0.ed.xrow = none → s0.xcol = 0) := by
  obtain ⟨hz, _, _, h1, h2, h3, h4, h5⟩ := initState_spec file keys rows cols s0 hi
  have hx0 : s0.ed.xleft = 0 := hz.1
  refine ⟨hx0, h2, h1, h3, h4, h5, fun hctx => ?_, fun hctx => ?_, fun hl => ?_⟩
  · unfold colCell viPos Render.ledPos
    rw [if_pos hctx, hx0]; omega
  · unfold colCell viPos Render.ledPos
    rw [if_neg (by omega), hx0, h1]; omega
  · rw [h3]; unfold off2col; rw [hl]

/-! ### the cursor character at a command boundary (`state_cursor_on_character` is in `Lemmas/C19fMain.lean`) -/

/-- after an iteration with `mod ≠ 0` that does not leave the editor quitting, the sticky column is the
    column of the cursor character -/
theorem stepVia_onChar (s s' : VS) (mod : Nat) (hmod : mod ≠ 0) (h : StepVia s s' (some mod))
    (hq : s'.ed.xquit = false) : s'.xcol = off2col s' s'.ed.xrow s'.ed.xoff := by
  obtain ⟨r, s1, s2, _, _, hpost⟩ := h
  exact viPost_xcol_mod mod hmod s2 s' hpost (viPost_quit_before mod s2 s' hpost hq)

/-- **the cursor is on its character at the command boundaries of a run.**  `s` is a state with the
    invariant of a run (`GoodB true c`, `c > 0`); the iteration from `s` reaches the end of the loop
    body with redraw class `mod` and ends in `s'`, not quitting, with a non-negative offset; the
    sticky column of `s'` is the column of its cursor character (always when `mod ≠ 0`:
    `stepVia_onChar`); the cursor line is `body ++ "\n"`.  Then `0 ≤ xleft` and the conclusions of
    `C19f.cursor_on_character` hold of `s'`. -/
theorem stepVia_cursor_on_character (c : Int) (hc : 0 < c) (s s' : VS) (mod : Nat) (hg : GoodB true c s)
    (hstep : StepVia s s' (some mod)) (hq : s'.ed.xquit = false) (h0 : 0 ≤ s'.ed.xoff)
    (hx : mod ≠ 0 ∨ s'.xcol = off2col s' s'.ed.xrow s'.ed.xoff)
    (body : List Nat) (hv : ∀ c ∈ body, ValidCp c) (h10 : 10 ∉ body) (hne : body ≠ [])
    (hln : lineOf s' s'.ed.xrow = some (encStr (body ++ [10]))) :
    let cps := body ++ [10]
    let off := s'.ed.xoff.toNat
    let pos := posTab s' (encStr cps)
    let w : Int := cellWidth (cps.getD off 0) (pos.getD off 0)
    0 ≤ s'.ed.xleft ∧ s'.xcols = c ∧
    (s'.ed.xoff = (off : Int) ∧ off < body.length) ∧
    (s'.xcol = off2col s' s'.ed.xrow s'.ed.xoff ∧ s'.xcol = (pos.getD off 0 : Nat) ∧ 1 ≤ w) ∧
    (∀ p : Int, s'.xcol ≤ p → p < s'.xcol + w → col2off s' s'.ed.xrow p = (off : Nat)) ∧
    cursorCol s' = s'.xcol + w - 1 ∧
    (s'.ed.xleft ≤ s'.xcol ∧ s'.xcol < s'.ed.xleft + s'.xcols ∧ 0 ≤ colCell s' ∧ colCell s' < s'.xcols) ∧
    (s'.xcol + w ≤ s'.ed.xleft + s'.xcols →
      rowShows s' (encStr cps) (colCell s').toNat = some off ∧
      0 ≤ termCursor s' ∧ termCursor s' < s'.xcols ∧
      rowShows s' (encStr cps) (termCursor s').toNat = some off ∧
      (0 ≤ curCtx s' → termCursor s' = colCell s' + (w - 1)) ∧
      (curCtx s' < 0 → termCursor s' = colCell s' - (w - 1))) := by
  intro cps off pos w
  have hx' : s'.xcol = off2col s' s'.ed.xrow s'.ed.xoff := by
    rcases hx with hm | hx
    · exact stepVia_onChar s s' mod hm hstep hq
    · exact hx
  obtain ⟨s2, hpost, g2⟩ := stepVia_mid c s s' (some mod) hg hstep
  have g3 := good_viPost true c (some mod) s2 () s' g2 hpost
  -- the iteration ended with `vi_wfix()` and the window adjustment: the cursor is valid, the column in the window
  obtain ⟨hcv, _⟩ := Props.C07.viPost_cursor_valid mod s2 s' hpost
  obtain ⟨w1, w2, _⟩ := viPost_col_in_window s2 s' mod (by rw [g2.1]; exact hc) (Or.inr g2.2.1) hpost hq
  obtain ⟨k1, k2, k3, k4, k5, k6⟩ := state_cursor_on_character s' hcv (by rw [g3.1]; exact hc) ⟨w1, w2⟩ h0 hx'
    body hv h10 hne hln
  exact ⟨(g3.2.2.2.2 rfl).2.1, g3.1, k1, ⟨hx', k2.1, k2.2⟩, k3, k4, ⟨w1, w2, k5.1, k5.2⟩, k6⟩

/-! ### vertical motions -/

theorem jk_stepVia (s s1 s3 : VS) (mv nrow noff : Int) (hjk : mv = 106 ∨ mv = 107)
    (hpre : viPre s = Res.ok (mv, nrow, noff) s1) (h : viStep s = Res.ok () s3) :
    ∃ s2, motionTail mv nrow noff s1 = Res.ok (some 0) s2 ∧ viPost (some 0) s2 = Res.ok () s3 := by
  rw [C07.viStep_of_pre s s1 mv nrow noff hpre] at h
  obtain ⟨cont, s2, hcont, hpost⟩ := bind_inv _ _ _ _ _ h
  have hmv : mv > 0 := by rcases hjk with rfl | rfl <;> decide
  unfold C07.stepCont at hcont
  rw [if_pos hmv] at hcont
  have := motionTail_jk mv nrow noff hjk s1
  rw [this] at hcont
  cases hcont
  exact ⟨_, this, hpost⟩

theorem viPre_frame (s s1 : VS) (r : Int × Int × Int) (hpre : viPre s = Res.ok r s1) :
    (∀ k, lineOf s1 k = lineOf s k) ∧ s1.xcol = s.xcol ∧ s1.xcols = s.xcols ∧ s1.ed.xleft = s.ed.xleft ∧
    s1.ed.xtd = s.ed.xtd ∧ s1.ed.xquit = s.ed.xquit := by
  obtain ⟨a, b, c, d, e⟩ := hsnap_fields (viPre_hsnap s r s1 hpre)
  have hl := (Props.C07.viPre_lines s r s1 hpre).1
  exact ⟨fun k => by unfold lineOf; rw [hl], a, b, c, d, e⟩

/-- **`j` / `k` in a run**: `C19f.sticky_after_vertical_motion` for the iteration of a state `s` of a
    run (`GoodB true c`, `c > 0`, not quitting) whose motion is `j` or `k` to the row `nrow`, stated
    about `s` and the state `s3` at the next command boundary; and the column window and `0 ≤ xleft`
    hold of `s3`. -/
theorem stepVia_sticky (c : Int) (hc : 0 < c) (s s1 s3 : VS) (mv nrow noff : Int) (hjk : mv = 106 ∨ mv = 107)
    (hg : GoodB true c s) (hq : s.ed.xquit = false)
    (hpre : viPre s = Res.ok (mv, nrow, noff) s1) (h : viStep s = Res.ok () s3)
    (body : List Nat) (hv : ∀ c ∈ body, ValidCp c) (h10 : 10 ∉ body) (hne : body ≠ [])
    (hln : lineOf s nrow = some (encStr (body ++ [10]))) :
    let cps := body ++ [10]
    let pos := posTab s3 (encStr cps)
    let off := s3.ed.xoff.toNat
    let w : Int := cellWidth (cps.getD off 0) (pos.getD off 0)
    let col : Int := off2col s3 s3.ed.xrow s3.ed.xoff
    (s3.ed.xquit = false ∧ ColWin s3 ∧ 0 ≤ s3.ed.xleft ∧ s3.xcols = c) ∧
    (s3.xcol = s.xcol ∧ s3.ed.xrow = nrow ∧ lineOf s3 nrow = some (encStr cps) ∧
      s3.ed.xleft = postLeft s.xcol s.ed.xleft s.xcols) ∧
    (s3.ed.xoff = (off : Int) ∧ off < body.length ∧ col = (pos.getD off 0 : Nat)) ∧
    (∀ i, i < body.length → (pos.getD i 0 : Nat) ≤ s3.xcol →
      s3.xcol < (pos.getD i 0 : Nat) + (cellWidth (cps.getD i 0) (pos.getD i 0) : Int) → off = i) ∧
    (StrictInc pos cps.length → (pos.getD 0 0 : Nat) ≤ s3.xcol →
      col ≤ s3.xcol ∧
      (s3.xcol < (pos.getD body.length 0 : Nat) → s3.xcol < col + w) ∧
      ((pos.getD body.length 0 : Nat) ≤ s3.xcol → off + 1 = body.length ∧ col + w ≤ s3.xcol)) := by
  intro cps pos off w col
  obtain ⟨s2, h1, h2⟩ := jk_stepVia s s1 s3 mv nrow noff hjk hpre h
  obtain ⟨f1, f2, f3, f4, f5, f6⟩ := viPre_frame s s1 _ hpre
  have hq1 : s1.ed.xquit = false := by rw [f6]; exact hq
  have hln1 : lineOf s1 nrow = some (encStr (body ++ [10])) := by rw [f1]; exact hln
  have key := sticky_after_vertical_motion mv nrow noff hjk s1 s2 s3 (some 0) h1 h2 hq1 body hv h10 hne hln1
  simp only [] at key
  obtain ⟨⟨k1, k2, k3, k4⟩, k5, k6, k7⟩ := key
  have hwf := wfCps_of_body body hv h10 hne
  obtain ⟨_, _, _, _, _, _, a7, a8⟩ := jk_run mv nrow noff hjk s1 s2 s3 (some 0) h1 h2 hq1 _ hwf hln1
  have g3 := goodB_viStep true c s () s3 hg h
  have g1 := pres_viPre (HG.good true c) s _ s1 hg hpre
  have g2 := good_motionTail true c mv nrow noff s1 _ s2 g1 h1
  have hw := (viPost_colWin 0 s2 s3 (by rw [g2.1]; exact hc) (Or.inr g2.2.1) h2 a8).1
  refine ⟨⟨a8, hw, (g3.2.2.2.2 rfl).2.1, g3.1⟩, ⟨by rw [k1, f2], k2, k3, by rw [k4, f2, f3, f4]⟩, k5, k6, k7⟩

/-- **... and then the cursor is on its character**: `C19f.sticky_cursor_on_character` for the iteration
    of a state of a run -/
theorem stepVia_sticky_cursor (c : Int) (hc : 0 < c) (s s1 s3 : VS) (mv nrow noff : Int) (hjk : mv = 106 ∨ mv = 107)
    (hg : GoodB true c s) (hq : s.ed.xquit = false)
    (hpre : viPre s = Res.ok (mv, nrow, noff) s1) (h : viStep s = Res.ok () s3)
    (body : List Nat) (hv : ∀ c ∈ body, ValidCp c) (h10 : 10 ∉ body) (hne : body ≠ [])
    (hln : lineOf s nrow = some (encStr (body ++ [10])))
    (i : Nat) (hi : i < body.length) :
    let p : Int := ((posTab s3 (encStr (body ++ [10]))).getD i 0 : Nat)
    let w : Int := cellWidth ((body ++ [10]).getD i 0) ((posTab s3 (encStr (body ++ [10]))).getD i 0)
    p ≤ s3.xcol → s3.xcol < p + w → s3.ed.xleft ≤ p → p + w ≤ s3.ed.xleft + s3.xcols →
    s3.ed.xoff = (i : Nat) ∧ cursorCol s3 = p + w - 1 ∧
    0 ≤ colCell s3 ∧ colCell s3 < s3.xcols ∧ rowShows s3 (encStr (body ++ [10])) (colCell s3).toNat = some i ∧
    0 ≤ termCursor s3 ∧ termCursor s3 < s3.xcols ∧
    rowShows s3 (encStr (body ++ [10])) (termCursor s3).toNat = some i := by
  intro p w hp1 hp2 hin1 hin2
  obtain ⟨s2, h1, h2⟩ := jk_stepVia s s1 s3 mv nrow noff hjk hpre h
  obtain ⟨f1, f2, f3, f4, f5, f6⟩ := viPre_frame s s1 _ hpre
  have g1 := pres_viPre (HG.good true c) s _ s1 hg hpre
  exact sticky_cursor_on_character mv nrow noff hjk s1 s2 s3 (some 0) h1 h2 (by rw [f6]; exact hq)
    (by rw [g1.1]; exact hc) body hv h10 hne (by rw [f1]; exact hln) i hi hp1 hp2 hin1 hin2

end Neatvi.Lemmas.C19g
