import NeatviVerif.Model.ExCmd
/-!
# The dispatcher `runCmd`, handler by handler

`runCmd` is one definition of some 270 lines; unfolding it is what is slow to check.  Here each
branch gets a name (`ecInsert`, `ecPrint`, … after the C functions `ec_insert`, `ec_print`, …; the
branches that are functions of the model already — `ecAt`, `ecGlob`, `ecEdit`, `ecWrite` — keep
theirs), `runCmd_eq` says once that `runCmd` is the chain of tests on the handler's name over these,
and `runCmd_insert`, `runCmd_at`, `runCmd_echo`, … read off the branch of a given handler: a proof about one command
rewrites with its reading, unfolds the branch by name (`rw [runCmd_insert, ecInsert]`) and never sees the others.

The names go where their users look for them, so the file declares into three namespaces: the handlers and
`runCmd_eq` into `Lemmas.C20` (with the readings `runCmd_print`/`_put`/`_subst`), the listing of `:b` and the other
readings into `Lemmas.C20c`, `ecBufferTail` and `runCmd_buffer` into `Props.C20b`.
-/
namespace Neatvi.Lemmas.C20c
open Neatvi Neatvi.Lbuf Neatvi.LbufIo Neatvi.Ex Neatvi.Rset

/-- one round of the listing loop of `:b` -/
def listStep (st : Bool × Ed) (i : Nat) : Bool × Ed :=
  let (go, ed) := st
  if !go then st else
  match ed.bufs.getD i none with
  | none => (false, ed)
  | some b =>
    let (m, ed) := ed.modifiedAt i
    let alias := (strOf "%#^").getD i 32
    let idstr := intStr b.id
    let line := (List.replicate (2 - idstr.length) 32) ++ idstr ++ [32, alias, 32] ++ b.path ++ [32, if m then 42 else 32]
    (true, ed.print (line.take 127))

/-- the state after `:b` without an argument -/
def listEd (ed : Ed) : Ed := ((List.range ed.bufs.length).foldl listStep (true, ed)).2

end Neatvi.Lemmas.C20c

namespace Neatvi.Props.C20b
open Neatvi Neatvi.Lbuf Neatvi.Ex

/-- `ec_buffer` with an argument: `!` deletes, `~` renumbers, anything else names a slot to switch to -/
def ecBufferTail (ed : Ed) (cmd arg : Bytes) : R Int :=
  if arg.headD 0 == 33 then
    let ed := ed.bufsShift
    if ed.cur.isNone then
      let b : Buf := { path := [], lb := Lbuf.make, id := ed.bufsCnt + 1 }
      some (0, { ed with bufs := ed.bufs.set 0 (some b), bufsCnt := ed.bufsCnt + 1 })
    else some (0, ed)
  else if arg.headD 0 == 126 then
    let (bufs, n) := ed.bufs.foldl (fun (acc : List (Option Buf) × Int) b =>
      match b with
      | some x => (acc.1 ++ [some { x with id := acc.2 + 1 }], acc.2 + 1)
      | none => (acc.1 ++ [none], acc.2)) ([], 0)
    some (0, { ed with bufs := bufs, bufsCnt := n })
  else
    let id := exAtoi arg
    let curId := (ed.cur.map (·.id)).getD 0
    let idOf (i : Nat) : Option Int := (ed.bufs.getD i none).map (·.id)
    let idx : Int :=
      if isDigitC (arg.headD 0) then
        (match (List.range ed.bufs.length).find? (fun i => idOf i == some id) with | some i => i | none => ed.bufs.length)
      else if arg.headD 0 == 45 then
        (List.range ed.bufs.length).foldl (fun (best : Int) i =>
          match idOf i with
          | some x => if x < curId && (best < 0 || x > (idOf best.toNat).getD 0) then i else best
          | none => best) (-1)
      else if arg.headD 0 == 43 then
        (List.range ed.bufs.length).foldl (fun (best : Int) i =>
          match idOf i with
          | some x => if x > curId && (best < 0 || x < (idOf best.toNat).getD 0) then i else best
          | none => best) (-1)
      else match (List.range 3).find? (fun i => (strOf "%#^").getD i 0 == arg.headD 0) with
        | some i => i
        | none => -1
    if idx ≥ 0 && idx < ed.bufs.length && (ed.bufs.getD idx.toNat none).isSome then
      let guard : R Bool := if ed.xwa == 0 && !hasBang cmd then bufsModified ed 0 (some (strOf "buffer modified")) else some (false, ed)
      match guard with
      | none => none
      | some (true, ed) => some (1, ed)
      | some (false, ed) => some (0, ed.bufsSwitch idx.toNat)
    else some (1, ed.show (strOf "no such buffer"))

end Neatvi.Props.C20b

namespace Neatvi.Lemmas.C20
open Neatvi Neatvi.Lbuf Neatvi.LbufIo Neatvi.Ex Neatvi.Rset Neatvi.Lemmas.C20c Neatvi.Props.C20b

/-- the end of `ec_insert` and `ec_put`: put the text in, leave the cursor on its last line -/
def insertAt (ed : Ed) (s : Option Bytes) (b e : Int) : R Int :=
  match ed.edit s b e with
  | none => none
  | some ed' => some (0, { ed' with xrow := min (ed'.len - 1) (e + ed'.len - ed.len - 1) })

def ecInsert (ed : Ed) (loc cmd : Bytes) (txt : Option Bytes) : R Int :=
  match exRegion ed loc with
  | none => none
  | some ((rc, b, e), ed) =>
    if rc != 0 && (b != 0 || e != 0) then some (1, ed) else
    let b := if cmd.headD 0 == 97 then e else b
    insertAt ed txt b (if cmd.headD 0 != 99 then b else e)

def ecPrint (ed : Ed) (loc cmd : Bytes) : R Int :=
  if cmd.isEmpty && loc.isEmpty && ed.xrow ≥ ed.len then some (1, ed) else
  match exRegion ed loc with
  | none => none
  | some ((rc, b, e), ed) =>
    if rc != 0 then some (1, ed) else
    let ed := (List.range (e - b).toNat).foldl (fun (ed : Ed) (k : Nat) =>
      match ed.line (b + (k : Int)) with | some l => ed.print l | none => ed) ed
    some (0, { ed with xrow := max b (e - 1), xoff := 0 })

/-- `ec_null` in vi mode (in ex mode it moves down a line and prints) -/
def ecNullVi (ed : Ed) (loc : Bytes) : R Int :=
  match exRegion ed loc with
  | none => none
  | some ((rc, b, e), ed) => if rc != 0 then some (1, ed) else some (0, { ed with xrow := max b (e - 1), xoff := 0 })

/-- `ec_delete`, and `ec_yank` (`yank`), which stops after filling the register -/
def ecDelete (yank : Bool) (ed : Ed) (loc arg : Bytes) : R Int :=
  match exRegion ed loc with
  | none => none
  | some ((rc, b, e), ed) =>
    if rc != 0 || ed.len == 0 then some (1, ed) else
    let ed := { ed with regs := ed.regs.put (regName arg) (ed.cp b e) 1 }
    if yank then some (0, ed) else
    match ed.edit none b e with
    | none => none
    | some ed => some (0, { ed with xrow := b })

def ecPut (ed : Ed) (loc arg : Bytes) : R Int :=
  match regGet ed (regName arg) with
  | none => some (1, ed)
  | some buf =>
    match exRegion ed loc with
    | none => none
    | some ((rc, b, e), ed) => if rc != 0 && (b != 0 || e != 0) then some (1, ed) else insertAt ed (some buf) e e

def ecLnum (ed : Ed) (loc : Bytes) : R Int :=
  match exRegion ed loc with
  | none => none
  | some ((rc, _, e), ed) => if rc != 0 then some (1, ed) else some (0, ed.print (intStr e ++ [10]))

/-- `ec_undo` and `ec_redo`: a step `op` in the history of the current text -/
def ecHist (op : Lb → Option (Nat × Lb)) (ed : Ed) : R Int :=
  match ed.lb.bind op with
  | none => none
  | some (rc, lb) => some (rc, ed.setLb lb)

def ecMark (ed : Ed) (loc arg : Bytes) : R Int :=
  match exRegion ed loc with
  | none => none
  | some ((rc, b, e), ed) =>
    if rc != 0 || e ≤ b then some (1, ed) else
    match ed.lb with
    | none => none
    | some lb => some (0, ed.setLb (setMark lb (arg.headD 0) (e - 1) 0))

def ecSubst (ed : Ed) (loc arg : Bytes) : R Int :=
  match exRegion ed loc with
  | none => none
  | some ((rc, b, e), ed) =>
    if rc != 0 then some (1, ed) else
    let (pat, s) := reRead arg
    let ed := match pat with | some p => if !p.isEmpty then ed.kwdSet (some p) 1 else ed | none => ed
    let (rep, s) := if pat.isSome && !s.isEmpty then
        let delim := arg.headD 0
        let (r, s') := reRead ([delim] ++ s)
        (r, s')
      else (none, s)
    let ed := if pat.isSome || rep.isSome then { ed with xrep := (rep.getD []).take (Gen.EXLEN - 1) } else ed
    if ed.xkwddir == 0 then some (1, ed) else
    match ed.mkRe ed.xkwd with
    | none => none
    | some none => some (1, ed)
    | some (some re) =>
      let g := s.contains 103
      let res := (List.range (e - b).toNat).foldl (fun (acc : Option (Ed × Int)) (k : Nat) =>
        match acc with
        | none => none
        | some (ed, sh) =>
          let row := b + (k : Int) + sh
          match ed.line row with
          | none => none
          | some ln =>
            match substLine re ed.xrep g ln with
            | none => none
            | some none => some (ed, sh)
            | some (some nl) =>
              match ed.edit (some nl) row (row + 1) with
              | none => none
              | some ed' => some (ed', sh + (ed'.len - ed.len))) (some (ed, 0))
      match res with
      | none => none
      | some (ed, _) => some (0, ed)

def ecExec (ed : Ed) (loc arg : Bytes) : R Int :=
  let guard : R Bool := if ed.xwa == 0 then bufsModified ed 0 (some (strOf "buffer modified")) else some (false, ed)
  match guard with
  | none => none
  | some (true, ed) => some (1, ed)
  | some (false, ed) =>
    match pathExpand ed arg true with
    | none => none
    | some (none, ed) => some (1, ed)
    | some (some ecmd, ed) =>
      if loc.isEmpty then some (0, { ed with unmodelled := true }) else
      match exRegion ed loc with
      | none => none
      | some ((rc, b, e), ed) =>
        if rc != 0 then some (1, ed) else
        match ed.pipe ecmd (ed.cp b e) with
        | none => some (0, { ed with unmodelled := true })
        | some none => some (0, ed)
        | some (some rep) => (ed.edit (some rep) b e).map (fun ed => (0, ed))

/-- the end of `ec_read`: the cursor goes to the last line read, the message says how many there are -/
def readDone (ed : Ed) (path : Bytes) (e n : Int) : R Int :=
  some (0, ({ ed with xrow := e + ed.len - n - 1 }).show ([34] ++ path ++ strOf "\"  [=" ++ intStr (ed.len - n) ++ strOf "]  [r]"))

/-- `:r !cmd` -/
def readPipe (ed : Ed) (path : Bytes) (pos e n : Int) : R Int :=
  if path.length < 2 then some (1, ed) else
  match ed.pipe (path.drop 1) [] with
  | none => some (0, { ed with unmodelled := true })
  | some obuf =>
    let ed' := match obuf with | some o => ed.edit (some o) pos pos | none => some ed
    match ed' with
    | none => none
    | some ed => readDone ed path e n

/-- `:r path` -/
def readFile (ed : Ed) (path : Bytes) (pos e n : Int) : R Int :=
  match ed.findFile path with
  | none => some (1, ed.show (strOf "read failed"))
  | some fl =>
    match ed.lb.bind (fun lb => rd lb [fl.data] false pos.toNat pos.toNat) with
    | none => none
    | some (_, lb) => readDone (ed.setLb lb) path e n

def ecRead (ed : Ed) (loc arg : Bytes) : R Int :=
  let n := ed.len
  let pr : R (Option Bytes) := if !arg.isEmpty then pathExpand ed arg true else some (ed.cur.map (·.path), ed)
  match pr with
  | none => none
  | some (path, ed) =>
    match exRegion ed loc with
    | none => none
    | some ((rc, _, e), ed) =>
      if rc != 0 || path.isNone then some (1, ed) else
      let path := path.getD []
      let pos := if ed.len != 0 then e else 0
      if path.headD 0 == 33 then readPipe ed path pos e n else readFile ed path pos e n

def ecQuit (ed : Ed) (cmd arg : Bytes) : R Int :=
  match (if cmd.headD 0 == 119 || cmd.headD 0 == 120 then ecWrite ed [] cmd arg else some (0, ed) : R Int) with
  | none => none
  | some (rc, ed) =>
    if rc != 0 then some (1, ed) else
    match runCmd.each cmd (cmd.contains 97) (ed.bufs.length + 1) 0 ed with
    | none => none
    | some (true, ed) => some (0, ed)
    | some (false, ed) => some (0, { ed with xquit := true })

def ecSet (ed : Ed) (arg : Bytes) : R Int :=
  if arg.isEmpty then some (0, ed) else
  let tok := (arg.dropWhile isSpaceC).takeWhile (fun c => !isSpaceC c)
  let (opt, val) : Bytes × Int :=
    if tok.headD 0 == 110 && tok.getD 1 0 == 111 then (tok.drop 2, 0)
    else if tok.contains 61 then (tok.takeWhile (· != 61), atoi ((tok.dropWhile (· != 61)).drop 1))
    else (tok, 1)
  match optVar opt with
  | some v => some (0, setOpt ed v val)
  | none => some (1, ed.show (strOf "unknown option"))

theorem runCmd_eq (f : Nat) (ed : Ed) (hd : String) (loc cmd arg : Bytes) (txt : Option Bytes) :
    runCmd (f + 1) ed hd loc cmd arg txt =
      if hd == "ec_insert" then ecInsert ed loc cmd txt
      else if hd == "ec_print" then ecPrint ed loc cmd
      else if hd == "ec_null" then
        if !ed.xvis then
          runCmd f { ed with xrow := if ed.xrow + 1 < ed.len then ed.xrow + 1 else ed.xrow } "ec_print" loc cmd arg txt
        else ecNullVi ed loc
      else if hd == "ec_delete" || hd == "ec_yank" then ecDelete (hd == "ec_yank") ed loc arg
      else if hd == "ec_put" then ecPut ed loc arg
      else if hd == "ec_lnum" then ecLnum ed loc
      else if hd == "ec_undo" then ecHist Lbuf.undo ed
      else if hd == "ec_redo" then ecHist Lbuf.redo ed
      else if hd == "ec_mark" then ecMark ed loc arg
      else if hd == "ec_rs" then some (0, { ed with regs := ed.regs.put (regName arg) (txt.getD []) 1 })
      else if hd == "ec_at" then ecAt f ed loc cmd arg
      else if hd == "ec_glob" then ecGlob f ed loc cmd arg
      else if hd == "ec_edit" then ecEdit f ed cmd arg
      else if hd == "ec_substitute" then ecSubst ed loc arg
      else if hd == "ec_exec" then ecExec ed loc arg
      else if hd == "ec_read" then ecRead ed loc arg
      else if hd == "ec_write" then ecWrite ed loc cmd arg
      else if hd == "ec_quit" then ecQuit ed cmd arg
      else if hd == "ec_buffer" then
        if arg.isEmpty then some (0, listEd ed) else ecBufferTail ed cmd arg
      else if hd == "ec_set" then ecSet ed arg
      else if hd == "ec_echo" then some (0, ed.print arg)
      else some (1, { ed with unmodelled := true }) := by
  rw [runCmd.eq_2]
  rfl

theorem runCmd_print (f : Nat) (ed : Ed) (loc cmd arg : Bytes) (txt : Option Bytes) :
    runCmd (f + 1) ed "ec_print" loc cmd arg txt = ecPrint ed loc cmd := by
  rw [runCmd_eq]
  rfl

theorem runCmd_put (f : Nat) (ed : Ed) (loc cmd arg : Bytes) (txt : Option Bytes) :
    runCmd (f + 1) ed "ec_put" loc cmd arg txt = ecPut ed loc arg := by
  rw [runCmd_eq]
  rfl

theorem runCmd_subst (f : Nat) (ed : Ed) (loc cmd arg : Bytes) (txt : Option Bytes) :
    runCmd (f + 1) ed "ec_substitute" loc cmd arg txt = ecSubst ed loc arg := by
  rw [runCmd_eq]
  rfl

end Neatvi.Lemmas.C20

namespace Neatvi.Lemmas.C20c
open Neatvi Neatvi.Ex Neatvi.Lemmas.C20

theorem runCmd_at (f : Nat) (ed : Ed) (loc cmd arg : Bytes) (txt : Option Bytes) :
    runCmd (f + 1) ed "ec_at" loc cmd arg txt = ecAt f ed loc cmd arg := by
  rw [runCmd_eq]
  rfl

theorem runCmd_glob (f : Nat) (ed : Ed) (loc cmd arg : Bytes) (txt : Option Bytes) :
    runCmd (f + 1) ed "ec_glob" loc cmd arg txt = ecGlob f ed loc cmd arg := by
  rw [runCmd_eq]
  rfl

theorem runCmd_insert (f : Nat) (ed : Ed) (loc cmd arg : Bytes) (txt : Option Bytes) :
    runCmd (f + 1) ed "ec_insert" loc cmd arg txt = ecInsert ed loc cmd txt := by
  rw [runCmd_eq]
  rfl

theorem runCmd_null (f : Nat) (ed : Ed) (loc cmd arg : Bytes) (txt : Option Bytes) :
    runCmd (f + 1) ed "ec_null" loc cmd arg txt =
      if !ed.xvis then
        runCmd f { ed with xrow := if ed.xrow + 1 < ed.len then ed.xrow + 1 else ed.xrow } "ec_print" loc cmd arg txt
      else ecNullVi ed loc := by
  rw [runCmd_eq]
  rfl

theorem runCmd_delete (f : Nat) (ed : Ed) (loc cmd arg : Bytes) (txt : Option Bytes) :
    runCmd (f + 1) ed "ec_delete" loc cmd arg txt = ecDelete false ed loc arg := by
  rw [runCmd_eq]
  rfl

theorem runCmd_yank (f : Nat) (ed : Ed) (loc cmd arg : Bytes) (txt : Option Bytes) :
    runCmd (f + 1) ed "ec_yank" loc cmd arg txt = ecDelete true ed loc arg := by
  rw [runCmd_eq]
  rfl

-- from here on down the chain the tests on the name are decided by `simp`: a bare `rfl` leaves them to the kernel
theorem runCmd_lnum (f : Nat) (ed : Ed) (loc cmd arg : Bytes) (txt : Option Bytes) :
    runCmd (f + 1) ed "ec_lnum" loc cmd arg txt = ecLnum ed loc := by
  rw [runCmd_eq]
  simp only [String.reduceBEq, Bool.false_eq_true, ↓reduceIte, Bool.or_self]

theorem runCmd_mark (f : Nat) (ed : Ed) (loc cmd arg : Bytes) (txt : Option Bytes) :
    runCmd (f + 1) ed "ec_mark" loc cmd arg txt = ecMark ed loc arg := by
  rw [runCmd_eq]
  simp only [String.reduceBEq, Bool.false_eq_true, ↓reduceIte, Bool.or_self]

theorem runCmd_rs (f : Nat) (ed : Ed) (loc cmd arg : Bytes) (txt : Option Bytes) :
    runCmd (f + 1) ed "ec_rs" loc cmd arg txt =
      some (0, { ed with regs := ed.regs.put (regName arg) (txt.getD []) 1 }) := by
  rw [runCmd_eq]
  simp only [String.reduceBEq, Bool.false_eq_true, ↓reduceIte, Bool.or_self]

theorem runCmd_undo (f : Nat) (ed : Ed) (loc cmd arg : Bytes) (txt : Option Bytes) :
    runCmd (f + 1) ed "ec_undo" loc cmd arg txt = ecHist Lbuf.undo ed := by
  rw [runCmd_eq]
  rfl

theorem runCmd_redo (f : Nat) (ed : Ed) (loc cmd arg : Bytes) (txt : Option Bytes) :
    runCmd (f + 1) ed "ec_redo" loc cmd arg txt = ecHist Lbuf.redo ed := by
  rw [runCmd_eq]
  rfl

theorem runCmd_exec (f : Nat) (ed : Ed) (loc cmd arg : Bytes) (txt : Option Bytes) :
    runCmd (f + 1) ed "ec_exec" loc cmd arg txt = ecExec ed loc arg := by
  rw [runCmd_eq]
  rfl

theorem runCmd_read (f : Nat) (ed : Ed) (loc cmd arg : Bytes) (txt : Option Bytes) :
    runCmd (f + 1) ed "ec_read" loc cmd arg txt = ecRead ed loc arg := by
  rw [runCmd_eq]
  rfl

theorem runCmd_ecQuit (f : Nat) (ed : Ed) (loc cmd arg : Bytes) (txt : Option Bytes) :
    runCmd (f + 1) ed "ec_quit" loc cmd arg txt = ecQuit ed cmd arg := by
  rw [runCmd_eq]
  rfl

theorem runCmd_echo (f : Nat) (ed : Ed) (loc cmd arg : Bytes) (txt : Option Bytes) :
    runCmd (f + 1) ed "ec_echo" loc cmd arg txt = some (0, ed.print arg) := by
  rw [runCmd_eq]
  rfl

theorem runCmd_b_list (f : Nat) (ed : Ed) (loc cmd arg : Bytes) (txt : Option Bytes) (h : arg.isEmpty = true) :
    runCmd (f + 1) ed "ec_buffer" loc cmd arg txt = some (0, listEd ed) := by
  rw [runCmd_eq, if_pos h]
  rfl

end Neatvi.Lemmas.C20c

namespace Neatvi.Props.C20b
open Neatvi Neatvi.Ex Neatvi.Lemmas.C20

theorem runCmd_buffer (f : Nat) (ed : Ed) (loc cmd arg : Bytes) (txt : Option Bytes) (h : arg.isEmpty = false) :
    runCmd (f + 1) ed "ec_buffer" loc cmd arg txt = ecBufferTail ed cmd arg := by
  rw [runCmd_eq, h]
  rfl

end Neatvi.Props.C20b
