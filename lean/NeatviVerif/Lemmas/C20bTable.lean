import NeatviVerif.Lemmas.Basics
import NeatviVerif.Props.C20
/-!
# C20b lemmas: the buffer table as a list — shifting, setting a slot, renumbering, unique ids,
  occupied prefix, a statement about every record (`AllB`) under the table operations, and the "best so far" fold of
  `:b +` / `:b -`
-/
namespace Neatvi.Lemmas.C20b
open Neatvi Neatvi.Lbuf Neatvi.Ex

abbrev Tab := List (Option Buf)

/-! ### slots of a shifted table, of a table with one slot set -/

/-- `bufs_shift()` on the table: slot `i` holds what slot `i + 1` held; this covers the last slot
    (it becomes empty) and everything beyond the table (empty on both sides) -/
theorem getD_shift (L : Tab) (i : Nat) : (L.drop 1 ++ [none]).getD i none = L.getD (i + 1) none := by
  simp only [List.getD_eq_getElem?_getD]
  by_cases h : i < (L.drop 1).length
  · rw [List.getElem?_append_left h, List.getElem?_drop, Nat.add_comm]
  · rw [List.getElem?_append_right (by omega)]
    have h2 : L.length ≤ i + 1 := by simp at h; omega
    rw [List.getElem?_eq_none h2]
    cases hk : i - (L.drop 1).length with
    | zero => rfl
    | succ k => rfl

theorem length_shift (L : Tab) (h : 0 < L.length) : (L.drop 1 ++ [none]).length = L.length := by
  simp; omega

theorem getD_set (L : Tab) (k i : Nat) (x : Option Buf) :
    (L.set k x).getD i none = if i = k ∧ k < L.length then x else L.getD i none := by
  rw [Basics.getD_set]
  simp only [eq_comm (a := k)]

/-! ### unique buffer numbers -/

/-- the numbers of a table are within `1..c` and pairwise different (`0 ≤ c`: the counter never goes
    below zero — needed so that the next number `c + 1` is at least 1 when the table is empty) -/
def IdsOkL (L : Tab) (c : Int) : Prop :=
  0 ≤ c ∧
  (∀ i b, L.getD i none = some b → 1 ≤ b.id ∧ b.id ≤ c) ∧
  (∀ i j bi bj, i ≠ j → L.getD i none = some bi → L.getD j none = some bj → bi.id ≠ bj.id)

theorem idsOkL_transfer {old new : Tab} {c c' : Int} (σ : Nat → Nat) (hσ : ∀ i j, σ i = σ j → i = j)
    (hc : c ≤ c')
    (h : ∀ i b, new.getD i none = some b → ∃ b', old.getD (σ i) none = some b' ∧ b'.id = b.id)
    (hok : IdsOkL old c) : IdsOkL new c' := by
  obtain ⟨h0, h1, h2⟩ := hok
  refine ⟨by omega, ?_, ?_⟩
  · intro i b hb
    obtain ⟨b', hb', hid⟩ := h i b hb
    have := h1 _ _ hb'
    omega
  · intro i j bi bj hij hbi hbj
    obtain ⟨bi', hbi', hidi⟩ := h i bi hbi
    obtain ⟨bj', hbj', hidj⟩ := h j bj hbj
    have := h2 (σ i) (σ j) bi' bj' (fun e => hij (hσ i j e)) hbi' hbj'
    omega

theorem idsOkL_set_fresh {L : Tab} {c : Int} (k : Nat) (b : Buf) (hb : b.id = c + 1)
    (hok : IdsOkL L c) : IdsOkL (L.set k (some b)) (c + 1) := by
  obtain ⟨h0, h1, h2⟩ := hok
  refine ⟨by omega, ?_, ?_⟩
  · intro i x hx
    rw [getD_set] at hx
    split at hx
    · cases hx; omega
    · have := h1 i x hx; omega
  · intro i j bi bj hij hbi hbj
    rw [getD_set] at hbi hbj
    split at hbi
    · next hi =>
      split at hbj
      · next hj => omega
      · cases hbi
        have := h1 j bj hbj; omega
    · split at hbj
      · cases hbj
        have := h1 i bi hbi; omega
      · exact h2 i j bi bj hij hbi hbj

theorem idsOkL_shift {L : Tab} {c : Int} (hok : IdsOkL L c) : IdsOkL (L.drop 1 ++ [none]) c :=
  idsOkL_transfer (fun i => i + 1) (fun i j e => by omega) (Int.le_refl _)
    (fun i b hb => ⟨b, by rw [← getD_shift]; exact hb, rfl⟩) hok

/-! ### the occupied slots form a prefix -/

def PackedL (L : Tab) : Prop :=
  ∀ i j, i ≤ j → (L.getD j none).isSome = true → (L.getD i none).isSome = true

theorem packedL_shift {L : Tab} (h : PackedL L) : PackedL (L.drop 1 ++ [none]) := by
  intro i j hij hj
  rw [getD_shift] at hj ⊢
  exact h (i + 1) (j + 1) (by omega) hj

theorem packedL_set {L : Tab} (k : Nat) (b : Buf)
    (hbefore : ∀ j, j < k → (L.getD j none).isSome = true) (h : PackedL L) :
    PackedL (L.set k (some b)) := by
  intro i j hij hj
  rw [getD_set] at hj ⊢
  by_cases hik : i = k ∧ k < L.length
  · rw [if_pos hik]; rfl
  · rw [if_neg hik]
    by_cases hlt : i < k
    · exact hbefore i hlt
    · split at hj
      · next hjk =>
        have : i = k := by omega
        exact absurd ⟨this, hjk.2⟩ hik
      · exact h i j hij hj

/-! ### renumbering -/

/-- the number of occupied slots -/
def occ : Tab → Nat
  | [] => 0
  | none :: r => occ r
  | some _ :: r => occ r + 1

/-- `:b ~` on the table: the occupied slots get the numbers `k + 1, k + 2, …` in slot order -/
def renumFrom (k : Int) : Tab → Tab
  | [] => []
  | none :: r => none :: renumFrom k r
  | some x :: r => some { x with id := k + 1 } :: renumFrom (k + 1) r

/-- the step of the fold of `:b ~` in `ec_buffer` -/
def renumStep (acc : Tab × Int) (b : Option Buf) : Tab × Int :=
  match b with
  | some x => (acc.1 ++ [some { x with id := acc.2 + 1 }], acc.2 + 1)
  | none => (acc.1 ++ [none], acc.2)

theorem renum_fold (L : Tab) (acc : Tab) (k : Int) :
    L.foldl renumStep (acc, k) = (acc ++ renumFrom k L, k + occ L) := by
  induction L generalizing acc k with
  | nil => simp [renumFrom, occ]
  | cons a r ih =>
    cases a with
    | none =>
      simp only [List.foldl_cons, renumStep, renumFrom, occ]
      rw [ih]; simp
    | some x =>
      simp only [List.foldl_cons, renumStep, renumFrom, occ]
      rw [ih]; simp; omega

theorem renumFrom_length (k : Int) (L : Tab) : (renumFrom k L).length = L.length := by
  induction L generalizing k with
  | nil => rfl
  | cons a r ih => cases a <;> simp [renumFrom, ih]

theorem renumFrom_getD (k : Int) (L : Tab) (i : Nat) :
    (renumFrom k L).getD i none =
      (L.getD i none).map (fun x => { x with id := k + (occ (L.take (i + 1)) : Nat) }) := by
  induction L generalizing k i with
  | nil => simp [renumFrom]
  | cons a r ih =>
    cases a with
    | none =>
      cases i with
      | zero => simp [renumFrom]
      | succ i =>
        simp only [renumFrom, List.getD_cons_succ, List.take_succ_cons, occ]
        exact ih k i
    | some x =>
      cases i with
      | zero => simp [renumFrom, occ]
      | succ i =>
        simp only [renumFrom, List.getD_cons_succ, List.take_succ_cons, occ]
        rw [ih (k + 1) i]
        congr 1
        funext y
        congr 1
        omega

theorem occ_take_le (L : Tab) (m : Nat) : occ (L.take m) ≤ occ L := by
  induction L generalizing m with
  | nil => simp [occ]
  | cons a r ih =>
    cases m with
    | zero => simp [occ]
    | succ m =>
      cases a with
      | none => simpa [occ] using ih m
      | some x => simpa [occ] using ih m

theorem occ_take_pos (L : Tab) (j : Nat) (h : (L.getD j none).isSome = true) : 1 ≤ occ (L.take (j + 1)) := by
  induction L generalizing j with
  | nil => simp at h
  | cons a r ih =>
    cases j with
    | zero =>
      cases a with
      | none => simp at h
      | some x => simp [occ]
    | succ j =>
      have := ih j (by simpa using h)
      cases a with
      | none => simpa [occ] using this
      | some x => simp only [List.take_succ_cons, occ]; omega

/-- the numbers given by `:b ~` grow strictly with the slot -/
theorem occ_take_lt (L : Tab) (i j : Nat) (hij : i < j) (h : (L.getD j none).isSome = true) :
    occ (L.take (i + 1)) < occ (L.take (j + 1)) := by
  induction L generalizing i j with
  | nil => simp at h
  | cons a r ih =>
    cases j with
    | zero => omega
    | succ j =>
      have hj : (r.getD j none).isSome = true := by simpa using h
      cases i with
      | zero =>
        have := occ_take_pos r j hj
        cases a with
        | none => simp only [List.take_succ_cons, occ, List.take_zero]; omega
        | some x => simp only [List.take_succ_cons, occ, List.take_zero]; omega
      | succ i =>
        have := ih i j (by omega) hj
        cases a with
        | none => simpa [occ] using this
        | some x => simpa [occ] using this

theorem occ_take_packed (L : Tab) (i : Nat) (h : ∀ j, j ≤ i → (L.getD j none).isSome = true) :
    occ (L.take (i + 1)) = i + 1 := by
  induction L generalizing i with
  | nil => have := h 0 (by omega); simp at this
  | cons a r ih =>
    cases a with
    | none => have := h 0 (by omega); simp at this
    | some x =>
      cases i with
      | zero => simp [occ]
      | succ i =>
        simp only [List.take_succ_cons, occ]
        rw [ih i (fun j hj => by simpa using h (j + 1) (by omega))]

theorem packed_isSome_iff (L : Tab) (hp : PackedL L) (i : Nat) :
    (L.getD i none).isSome = true ↔ i < occ L := by
  constructor
  · intro h
    have h1 := occ_take_packed L i (fun j hj => hp j i hj h)
    have h2 := occ_take_le L (i + 1)
    omega
  · induction L generalizing i with
    | nil => simp [occ]
    | cons a r ih =>
      have hpr : PackedL r := fun i j hij hj => by
        have := hp (i + 1) (j + 1) (by omega) (by simpa using hj)
        simpa using this
      cases a with
      | none =>
        -- slot 0 free: a packed table is then empty of buffers
        intro h
        exfalso
        have hnone : ∀ j, (r.getD j none).isSome = false := by
          intro j
          cases hx : (r.getD j none).isSome with
          | false => rfl
          | true =>
            have := hp 0 (j + 1) (by omega) (by simpa using hx)
            simp at this
        have : occ r = 0 := by
          clear ih hp hpr h
          induction r with
          | nil => rfl
          | cons b s ihs =>
            cases b with
            | none =>
              simp only [occ]
              exact ihs (fun j => by simpa using hnone (j + 1))
            | some y => have := hnone 0; simp at this
        simp only [occ] at h
        omega
      | some x =>
        intro h
        cases i with
        | zero => simp
        | succ i =>
          simp only [occ] at h
          simpa using ih hpr i (by omega)

theorem idsOkL_renum (L : Tab) : IdsOkL (renumFrom 0 L) (occ L) := by
  refine ⟨by omega, ?_, ?_⟩
  · intro i b hb
    rw [renumFrom_getD] at hb
    cases hx : L.getD i none with
    | none => rw [hx] at hb; cases hb
    | some x =>
      rw [hx] at hb
      simp only [Option.map_some, Option.some.injEq] at hb
      subst hb
      have h1 := occ_take_pos L i (by rw [hx]; rfl)
      have h2 := occ_take_le L (i + 1)
      simp only
      omega
  · intro i j bi bj hij hbi hbj
    rw [renumFrom_getD] at hbi hbj
    cases hx : L.getD i none with
    | none => rw [hx] at hbi; cases hbi
    | some x =>
      cases hy : L.getD j none with
      | none => rw [hy] at hbj; cases hbj
      | some y =>
        rw [hx] at hbi; rw [hy] at hbj
        simp only [Option.map_some, Option.some.injEq] at hbi hbj
        subst hbi; subst hbj
        simp only
        rcases Nat.lt_or_gt_of_ne hij with hlt | hlt
        · have := occ_take_lt L i j hlt (by rw [hy]; rfl); omega
        · have := occ_take_lt L j i hlt (by rw [hx]; rfl); omega

/-! ### a statement about every record of the table -/

/-- every record of a table satisfies `Q`.  What the table operations do to such a statement is said here, once;
    `C02b.TabStrong`, `C02d.Core`, `C05d.TabPos`, the `left` of `C19g.LK` are instances -/
def AllB (Q : Buf → Prop) (l : List (Option Buf)) : Prop := ∀ b, some b ∈ l → Q b

theorem AllB.sub {Q : Buf → Prop} {l l' : List (Option Buf)} (h : AllB Q l) (hs : ∀ b, some b ∈ l' → some b ∈ l) :
    AllB Q l' := fun b hb => h b (hs b hb)

theorem AllB.set {Q : Buf → Prop} {l : List (Option Buf)} {b : Buf} (h : AllB Q l) (i : Nat) (hb : Q b) :
    AllB Q (l.set i (some b)) := by
  intro b' hb'
  rcases List.mem_or_eq_of_mem_set hb' with hm | he
  · exact h b' hm
  · cases he; exact hb

theorem AllB.leftBufs {Q : Buf → Prop} {ed : Ed}
    (h0 : ∀ b0, ed.bufs.getD 0 none = some b0 → Q (Props.C20.leftRec ed b0)) (ht : AllB Q (ed.bufs.drop 1)) :
    AllB Q (Props.C20.leftBufs ed) := by
  intro b hb
  rcases Props.C20.mem_leftBufs ed b hb with ⟨b0, hb0, rfl⟩ | hm
  · exact h0 b0 hb0
  · exact ht b hm

theorem AllB.bufsSwitch {Q : Buf → Prop} {ed : Ed} (idx : Nat) (h : AllB Q (Props.C20.leftBufs ed)) :
    AllB Q (ed.bufsSwitch idx).bufs :=
  h.sub fun b => (Props.C20.mem_bufsSwitch_iff ed idx b).1

theorem AllB.bufsShift {Q : Buf → Prop} {ed : Ed} (h : AllB Q (ed.bufs.drop 1)) : AllB Q ed.bufsShift.bufs := by
  show AllB Q ({ ed with bufs := ed.bufs.drop 1 ++ [none] } : Ed).bufsLoad.bufs
  rw [Props.C20.bufsLoad_bufs]
  intro b hb
  simp only [List.mem_append, List.mem_singleton, reduceCtorEq, or_false] at hb
  exact h b hb

theorem AllB.congr {α : Type} {Q : Buf → Prop} (V : Buf → α) (hQ : ∀ b b', V b' = V b → Q b → Q b')
    {l l' : List (Option Buf)} (hm : l'.map (Option.map V) = l.map (Option.map V)) (h : AllB Q l) : AllB Q l' := by
  intro b' hb'
  have h1 : some (V b') ∈ l'.map (Option.map V) := List.mem_map.2 ⟨some b', hb', rfl⟩
  rw [hm] at h1
  obtain ⟨x, hx, hxe⟩ := List.mem_map.1 h1
  cases x with
  | none => cases hxe
  | some b =>
    simp only [Option.map_some, Option.some.injEq] at hxe
    exact hQ b b' hxe.symm (h b hx)


theorem renumFrom_map {α : Type} (V : Buf → α) (hV : ∀ (x : Buf) (k : Int), V { x with id := k } = V x) :
    ∀ (L : Tab) (k : Int), (renumFrom k L).map (Option.map V) = L.map (Option.map V) := by
  intro L
  induction L with
  | nil => intro k; rfl
  | cons a r ih =>
    intro k
    cases a with
    | none => simp only [renumFrom, List.map_cons, ih]
    | some x => simp only [renumFrom, List.map_cons, ih, Option.map_some, hV]

theorem AllB.renumFold {Q : Buf → Prop} (hQ : ∀ (x : Buf) (k : Int), Q x → Q { x with id := k }) {L : Tab}
    (h : AllB Q L) : AllB Q (L.foldl renumStep ([], 0)).1 := by
  rw [renum_fold]
  exact AllB.congr (V := fun b : Buf => { b with id := 0 }) (fun b b' e hb => by
    have : b' = { ({ b with id := 0 } : Buf) with id := b'.id } := by rw [← e]
    rw [this]; exact hQ _ _ (hQ _ _ hb)) (by rw [List.nil_append]; exact renumFrom_map _ (fun _ _ => rfl) L 0) h

/-! ### the fold of `:b +` and `:b -` -/

/-- the loop of `ec_buffer` for `+` and `-`: `P` selects the candidates (number above / below the
    current one), `R x y` says that `x` beats the best number `y` found so far -/
def pickFold (idOf : Nat → Option Int) (P : Int → Bool) (R : Int → Int → Bool) (n : Nat) : Int :=
  (List.range n).foldl (fun (best : Int) i =>
    match idOf i with
    | some x => if P x && (decide (best < 0) || R x ((idOf best.toNat).getD 0)) then (i : Int) else best
    | none => best) (-1)

theorem pickFold_succ (idOf : Nat → Option Int) (P : Int → Bool) (R : Int → Int → Bool) (n : Nat) :
    pickFold idOf P R (n + 1) =
      match idOf n with
      | some x => if P x && (decide (pickFold idOf P R n < 0) || R x ((idOf (pickFold idOf P R n).toNat).getD 0))
          then (n : Int) else pickFold idOf P R n
      | none => pickFold idOf P R n := by
  unfold pickFold
  rw [List.range_succ, List.foldl_append]
  rfl

theorem pickFold_spec (idOf : Nat → Option Int) (P : Int → Bool) (R : Int → Int → Bool)
    (hirr : ∀ x, R x x = false)
    (htrans : ∀ x y z, R x y = true → R z y = false → R z x = false) (n : Nat) :
    (pickFold idOf P R n = -1 ∧ ∀ i x, i < n → idOf i = some x → P x = false) ∨
    (∃ k : Nat, ∃ y, pickFold idOf P R n = (k : Int) ∧ k < n ∧ idOf k = some y ∧ P y = true ∧
      ∀ i x, i < n → idOf i = some x → P x = true → R x y = false) := by
  induction n with
  | zero => left; exact ⟨rfl, fun i x hi => by omega⟩
  | succ n ih =>
    rw [pickFold_succ]
    cases hn : idOf n with
    | none =>
      simp only
      rcases ih with ⟨h1, h2⟩ | ⟨k, y, h1, hk, hy, hpy, hbest⟩
      · left
        refine ⟨h1, fun i x hi hx => ?_⟩
        by_cases hin : i = n
        · subst hin; rw [hn] at hx; cases hx
        · exact h2 i x (by omega) hx
      · right
        refine ⟨k, y, h1, by omega, hy, hpy, fun i x hi hx hp => ?_⟩
        by_cases hin : i = n
        · subst hin; rw [hn] at hx; cases hx
        · exact hbest i x (by omega) hx hp
    | some xn =>
      simp only
      rcases ih with ⟨h1, h2⟩ | ⟨k, y, h1, hk, hy, hpy, hbest⟩
      · rw [h1]
        simp only [show decide ((-1 : Int) < 0) = true by decide, Bool.true_or, Bool.and_true]
        cases hp : P xn with
        | false =>
          left
          simp only [Bool.false_eq_true, if_false]
          refine ⟨trivial, fun i x hi hx => ?_⟩
          by_cases hin : i = n
          · subst hin; rw [hn] at hx; cases hx; exact hp
          · exact h2 i x (by omega) hx
        | true =>
          right
          simp only [if_true]
          refine ⟨n, xn, rfl, by omega, hn, hp, fun i x hi hx hpx => ?_⟩
          by_cases hin : i = n
          · subst hin; rw [hn] at hx; cases hx; exact hirr _
          · have := h2 i x (by omega) hx; rw [this] at hpx; cases hpx
      · rw [h1]
        have hneg : decide ((k : Int) < 0) = false := by simp
        simp only [hneg, Bool.false_or, Int.toNat_natCast, hy, Option.getD_some]
        right
        cases hc : (P xn && R xn y) with
        | true =>
          simp only [if_true]
          simp only [Bool.and_eq_true] at hc
          refine ⟨n, xn, rfl, by omega, hn, hc.1, fun i x hi hx hpx => ?_⟩
          by_cases hin : i = n
          · subst hin; rw [hn] at hx; cases hx; exact hirr _
          · exact htrans xn y x hc.2 (hbest i x (by omega) hx hpx)
        | false =>
          simp only [Bool.false_eq_true, if_false]
          refine ⟨k, y, rfl, by omega, hy, hpy, fun i x hi hx hpx => ?_⟩
          by_cases hin : i = n
          · subst hin; rw [hn] at hx; cases hx
            rw [hpx] at hc
            simpa using hc
          · exact hbest i x (by omega) hx hpx

/-! ### checking the invariants on a concrete table -/

def checkIds (L : Tab) (c : Int) : Bool :=
  decide (0 ≤ c) &&
  (List.range L.length).all (fun i =>
    match L.getD i none with
    | none => true
    | some b => decide (1 ≤ b.id) && decide (b.id ≤ c) &&
        (List.range L.length).all (fun j => i == j ||
          (match L.getD j none with
           | none => true
           | some b' => b.id != b'.id)))

theorem idsOkL_of_check (L : Tab) (c : Int) (h : checkIds L c = true) : IdsOkL L c := by
  unfold checkIds at h
  simp only [Bool.and_eq_true, List.all_eq_true, List.mem_range, decide_eq_true_eq] at h
  obtain ⟨h0, hall⟩ := h
  refine ⟨h0, ?_, ?_⟩
  · intro i b hb
    have := hall i (Props.C20.mem_of_getD _ _ _ hb).2
    rw [hb] at this
    simp only [Bool.and_eq_true, decide_eq_true_eq] at this
    exact this.1
  · intro i j bi bj hij hbi hbj
    have := hall i (Props.C20.mem_of_getD _ _ _ hbi).2
    rw [hbi] at this
    simp only [Bool.and_eq_true, decide_eq_true_eq, List.all_eq_true, List.mem_range] at this
    have := this.2 j (Props.C20.mem_of_getD _ _ _ hbj).2
    rw [hbj] at this
    simpa [hij] using this

def checkPacked (L : Tab) : Bool :=
  (List.range L.length).all (fun j => (L.getD j none).isNone || (List.range j).all (fun i => (L.getD i none).isSome))

theorem packedL_of_check (L : Tab) (h : checkPacked L = true) : PackedL L := by
  unfold checkPacked at h
  simp only [List.all_eq_true, List.mem_range, Bool.or_eq_true] at h
  intro i j hij hj
  by_cases he : i = j
  · rw [he]; exact hj
  · cases hb : L.getD j none with
    | none => rw [hb] at hj; cases hj
    | some b =>
      rcases h j (Props.C20.mem_of_getD _ _ _ hb).2 with h1 | h1
      · rw [hb] at h1; cases h1
      · exact h1 i (by omega)

end Neatvi.Lemmas.C20b
