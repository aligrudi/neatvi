import NeatviVerif.Lemmas.C20cMore
import NeatviVerif.Props.C06b
/-!
# C20c lemmas: concrete runs (for the non-vacuity examples of `Props/C20c.lean`)
-/
namespace Neatvi.Lemmas.C20c
open Neatvi Neatvi.Lbuf Neatvi.Ex Neatvi.Props.C20 Neatvi.Props.C20b Neatvi.Lemmas.C20b
open Neatvi.Lemmas.C06b Neatvi.Props.C06b

/-- three buffers "a" (current, viewed at 5/2), "b", "c" with numbers 1, 2, 3; option `wa` set, so
    that the unsaved-changes guard of `:b` does not interfere -/
def edS : Ed := { exEd with xwa := 1 }

/-- the script `:b 2`, `:ec hi`, `:b`, `:b !` -/
def scriptS : List Bytes := [[98, 32, 50], [101, 99, 32, 104, 105], [98], [98, 32, 33]]

def edS1 : Ed := edS.bufsSwitch 1
def edS2 : Ed := edS1.print [104, 105]
def edS3 : Ed := listEd edS2
def edS4 : Ed := delEd edS3

theorem line1 : exExec 2 edS [98, 32, 50] = some (0, edS1) := by
  refine exExec_single 1 edS edS1 _ [98] "ec_buffer" 0 (by decide) (by decide) (by decide +kernel) (by decide)
    (by decide +kernel) ?_
  rw [show (parse1 [98, 32, 50]).arg = [50] by decide +kernel]
  exact b_number 0 edS edS _ _ [50] none 1 { path := [98], lb := { lines := [[121, 10], [122, 10]] }, id := 2, row := 1, off := 3 }
    (by decide) rfl (by decide +kernel)
    (by
      intro j b' hj hb'
      have : j = 0 := by omega
      subst this
      have e : b' = { path := [97], lb := { lines := [[120, 10]] }, id := 1, row := 0, off := 0 } := by
        have : edS.bufs.getD 0 none = some { path := [97], lb := { lines := [[120, 10]] }, id := 1, row := 0, off := 0 } := rfl
        rw [this] at hb'; cases hb'; rfl
      rw [e]; decide +kernel)
    rfl

theorem line2 : exExec 2 edS1 [101, 99, 32, 104, 105] = some (0, edS2) := by
  refine exExec_single 1 edS1 edS2 _ [101, 99] "ec_echo" 0 (by decide) (by decide) (by decide +kernel) (by decide)
    (by decide +kernel) ?_
  rw [show (parse1 [101, 99, 32, 104, 105]).arg = [104, 105] by decide +kernel]
  exact runCmd_echo 0 edS1 _ _ _ none

theorem line3 : exExec 2 edS2 [98] = some (0, edS3) := by
  refine exExec_single 1 edS2 edS3 _ [98] "ec_buffer" 0 (by decide) (by decide) (by decide +kernel) (by decide)
    (by decide +kernel) ?_
  exact runCmd_b_list 0 edS2 _ _ _ none (by decide +kernel)

theorem line4 : exExec 2 edS3 [98, 32, 33] = some (0, edS4) := by
  refine exExec_single 1 edS3 edS4 _ [98] "ec_buffer" 0 (by decide) (by decide) (by decide +kernel) (by decide)
    (by decide +kernel) ?_
  exact runCmd_b_delete 0 edS3 _ _ _ none (by decide +kernel)

theorem scriptS_runs : runLines 2 edS scriptS = some edS4 := by
  simp only [scriptS, runLines, line1, line2, line3, line4]

/-- at the end "a" is current again, with the view it was left with, "c" is parked, "b" is gone; the
    sequence counters have moved -/
theorem scriptS_result :
    (edS4.bufs.take 3).map exView = [some ([97], [[120, 10]], 5, 2, 1), some ([99], [], 7, 0, 3), none] ∧
    (edS4.xrow, edS4.xoff) = (5, 2) ∧
    (edS4.bufs.take 2).map (fun b => b.map (·.lb.useq)) = [some 3, some 2] ∧
    (edS.bufs.take 3).map (fun b => b.map (·.lb.useq)) = [some 1, some 1, some 1] := by
  refine ⟨?_, ?_, ?_, ?_⟩ <;> decide +kernel

/-! ### a chain written out: switch to "b", delete its first line, switch back -/

theorem edS1_edit_isSome : (edS1.edit none 0 1).isSome = true := by decide +kernel

/-- "b" current with its first line deleted -/
def edE : Ed := (edS1.edit none 0 1).get edS1_edit_isSome

theorem edE_loc : Loc edS1 edE := loc_edit (Option.some_get edS1_edit_isSome).symm

/-- switch to slot 1 ("b"), a local step (the deletion), switch to slot 1 again (back to "a") -/
def chainE : Trace := [(edS, .sw 1, edS1), (edS1, .loc, edE), (edE, .sw 1, edE.bufsSwitch 1)]

theorem chainE_ok : Chain edS chainE (edE.bufsSwitch 1) :=
  ⟨rfl, ⟨rfl, fun _ => by decide +kernel⟩, rfl, edE_loc, rfl, ⟨rfl, fun _ => by decide +kernel⟩, rfl⟩

end Neatvi.Lemmas.C20c
