import NeatviVerif.Lemmas.C02Ex
import NeatviVerif.Lemmas.ExLeaf
/-!
# C20c lemmas: frames of the helpers of the ex layer

* `Same ed ed'`: the buffer table and the counter of buffer numbers are untouched (what the address
  parser, the path expansion, the file writer … leave alone);
* `IoOnly ed ed'`: only the file system, the clock and the fault schedule counters moved
  (`lbuf_save`).

What the address parser, the path expansion and `lbuf_save` do to the state is taken from `Lemmas/C02Ex.lean`;
`bufsModified_shape` says what `bufs_modified` leaves, case by case.
-/
namespace Neatvi.Lemmas.C20c
open Neatvi Neatvi.Lbuf Neatvi.LbufIo Neatvi.Ex Neatvi.Rset

def Same (ed ed' : Ed) : Prop := ed'.bufs = ed.bufs ∧ ed'.bufsCnt = ed.bufsCnt

theorem Same.refl (ed : Ed) : Same ed ed := ⟨rfl, rfl⟩
theorem Same.trans {a b c : Ed} (h1 : Same a b) (h2 : Same b c) : Same a c :=
  ⟨h2.1.trans h1.1, h2.2.trans h1.2⟩

/-! ### `IoOnly`: what `lbuf_save` may move -/

/-- only the file system, the clock and the counters of the fault schedule differ: `C02Ex.IoEq` -/
def IoOnly (ed ed' : Ed) : Prop :=
  ∃ fs c k fi, ed' = { ed with files := fs, clock := c, calls := k, fired := fi }

theorem IoOnly.refl (ed : Ed) : IoOnly ed ed := C02Ex.IoEq.refl ed

theorem IoOnly.trans {a b c : Ed} (h1 : IoOnly a b) (h2 : IoOnly b c) : IoOnly a c := C02Ex.IoEq.trans h1 h2

theorem IoOnly.same {ed ed' : Ed} (h : IoOnly ed ed') : Same ed ed' := by
  obtain ⟨_, _, _, _, e⟩ := h; subst e; exact ⟨rfl, rfl⟩

theorem IoOnly.view {ed ed' : Ed} (h : IoOnly ed ed') :
    ed'.xrow = ed.xrow ∧ ed'.xoff = ed.xoff ∧ ed'.xtop = ed.xtop ∧ ed'.xleft = ed.xleft ∧ ed'.xtd = ed.xtd := by
  obtain ⟨_, _, _, _, e⟩ := h; subst e; exact ⟨rfl, rfl, rfl, rfl, rfl⟩

theorem IoOnly.opts {ed ed' : Ed} (h : IoOnly ed ed') :
    ed'.xaw = ed.xaw ∧ ed'.xwa = ed.xwa ∧ ed'.xquit = ed.xquit ∧ ed'.msg = ed.msg := by
  obtain ⟨_, _, _, _, e⟩ := h; subst e; exact ⟨rfl, rfl, rfl, rfl⟩

theorem lbufSaveP_io (ed ed' : Ed) (lb : Lb) (b : Nat) (e : Int) (path : Bytes) (force : Bool) (ts : Int)
    (r : Option Bytes) (h : lbufSaveP ed lb b e path force ts = some (r, ed')) : IoOnly ed ed' :=
  C02Ex.lbufSaveP_io h

open Neatvi.Lemmas.C02Ex (bumpAt showOpt) in
theorem bufsModified_shape (ed ed' : Ed) (idx : Nat) (msg : Option Bytes) (r : Bool)
    (h : bufsModified ed idx msg = some (r, ed')) :
    (ed.bufs.getD idx none = none ∧ ed' = ed ∧ r = false) ∨
    ∃ b, ed.bufs.getD idx none = some b ∧
      ((ed' = bumpAt ed idx b ∧ r = (modified b.lb).1 ∧ r = false) ∨
       (r = true ∧ (modified b.lb).1 = true ∧ (ed.xaw = 0 ∨ b.path.isEmpty = true) ∧ ed' = showOpt (bumpAt ed idx b) msg) ∨
       ((modified b.lb).1 = true ∧ ed.xaw ≠ 0 ∧ IoOnly (bumpAt ed idx b) ed')) := by
  cases hb : ed.bufs.getD idx none with
  | none =>
    unfold bufsModified at h
    simp only [hb] at h
    cases h
    exact Or.inl ⟨rfl, rfl, rfl⟩
  | some b =>
    refine Or.inr ⟨b, rfl, ?_⟩
    rw [C02Ex.bufsModified_eq ed idx msg b hb] at h
    by_cases hm : (modified b.lb).1 = false
    · rw [if_pos hm] at h
      cases h
      exact Or.inl ⟨rfl, hm.symm, rfl⟩
    · rw [if_neg hm] at h
      have hm' : (modified b.lb).1 = true := by simpa using hm
      by_cases hc : (ed.xaw != 0 && !b.path.isEmpty) = true
      · rw [if_pos hc] at h
        simp only [Bool.and_eq_true, bne_iff_ne, ne_eq] at hc
        cases hs : lbufSave (bumpAt ed idx b) (modified b.lb).2 0 (-1) b.path false b.mtime with
        | none => rw [hs] at h; cases h
        | some p =>
          rw [hs] at h
          cases h
          exact Or.inr (Or.inr ⟨hm', hc.1, C02Ex.lbufSave_io hs⟩)
      · rw [if_neg hc] at h
        cases h
        refine Or.inr (Or.inl ⟨rfl, hm', ?_, rfl⟩)
        simp only [Bool.and_eq_true, bne_iff_ne, ne_eq, Bool.not_eq_true', not_and, Bool.not_eq_false] at hc
        by_cases hx : ed.xaw = 0
        · exact Or.inl hx
        · exact Or.inr (hc hx)

/-! ### `Same`: the helpers that leave the table alone -/

/-- as `frame_split` of `Lemmas/ExFrame.lean`, closing the leaves with `Same.refl`-like facts -/
macro "same_split" h:ident : tactic => `(tactic| (
  repeat' (split at $h:ident)
  all_goals (try (simp only [Option.some.injEq, Prod.mk.injEq, reduceCtorEq] at $h:ident))
  all_goals (try (have h2 := And.right $h:ident; subst h2))
  all_goals (first | exact ⟨rfl, rfl⟩ | skip)))

theorem same_of_core {ed ed' : Ed} (e : ExStep.core ed' = ExStep.core ed) : Same ed ed' :=
  ⟨congrArg (·.bufs) e, congrArg (·.bufsCnt) e⟩

theorem exRegion_same {ed ed' : Ed} {loc : Bytes} {r : Nat × Int × Int}
    (h : exRegion ed loc = some (r, ed')) : Same ed ed' := same_of_core (ExStep.region_core h)

theorem pathExpand_same {ed ed' : Ed} {src : Bytes} {sp : Bool} {r : Option Bytes}
    (h : pathExpand ed src sp = some (r, ed')) : Same ed ed' := same_of_core (ExStep.pathExpand_core h)

theorem exTxt_same (ed : Ed) (src ex : Bytes) : Same ed (exTxt ed src ex).2 := same_of_core (ExStep.exTxt_core ed src ex)

end Neatvi.Lemmas.C20c
