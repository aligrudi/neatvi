import NeatviVerif.Lemmas.C20cRun
/-!
# C20c lemmas: the table invariants hold along every command line

`TableOk` (16 slots, unique numbers within `1..bufsCnt`, occupied slots a prefix) is kept by every
atomic step, hence (by `exExec_T`) by every ex command line, `ex_command`, `ex_init`, and one round
of the `ex()` loop.
-/
namespace Neatvi.Lemmas.C20c
open Neatvi Neatvi.Lbuf Neatvi.Ex Neatvi.Rset Neatvi.Props.C20 Neatvi.Props.C20b Neatvi.Lemmas.C20b
open Neatvi.Lemmas.ExFrame Neatvi.Lemmas.C02Ex

theorem Loc.idAt {ed ed' : Ed} (h : Loc ed ed') (i : Nat) :
    (ed'.bufs.getD i none).map (·.id) = (ed.bufs.getD i none).map (·.id) := by
  cases i with
  | zero => exact h.id0
  | succ i => rw [h.getD (i + 1) (by omega)]

theorem Quiet.idAt {ed ed' : Ed} (h : Quiet ed ed') (i : Nat) :
    (ed'.bufs.getD i none).map (·.id) = (ed.bufs.getD i none).map (·.id) := by
  have := congrArg (fun o => o.map (fun b : Buf => b.id)) (h.getD i)
  simpa [Option.map_map, Function.comp_def, coreB] using this

theorem tableOk_of_ids {ed ed' : Ed} (hlen : ed'.bufs.length = ed.bufs.length) (hcnt : ed'.bufsCnt = ed.bufsCnt)
    (hid : ∀ i, (ed'.bufs.getD i none).map (·.id) = (ed.bufs.getD i none).map (·.id))
    (h : TableOk ed) : TableOk ed' :=
  ⟨hlen.trans h.1, idsOk_of_ids hcnt hid h.2.1, packed_of_ids hid h.2.2⟩

theorem tableOk_loc {ed ed' : Ed} (h : Loc ed ed') (hok : TableOk ed) : TableOk ed' :=
  tableOk_of_ids h.len h.cnt h.idAt hok

theorem tableOk_quiet {ed ed' : Ed} (h : Quiet ed ed') (hok : TableOk ed) : TableOk ed' :=
  tableOk_of_ids h.len h.cnt h.idAt hok

theorem lt_of_isSome {ed : Ed} {i : Nat} (h : (ed.bufs.getD i none).isSome = true) : i < ed.bufs.length := by
  cases hb : ed.bufs.getD i none with
  | none => rw [hb] at h; cases h
  | some b => exact (mem_of_getD _ _ _ hb).2

theorem tableOk_switch (ed : Ed) (idx : Nat) (hocc : (ed.bufs.getD idx none).isSome = true) (hok : TableOk ed) :
    TableOk (ed.bufsSwitch idx) := by
  have hlt := lt_of_isSome hocc
  exact ⟨(switch_length ed idx hlt).trans hok.1, idsOk_switch ed idx hok.2.1, packed_switch ed idx hocc hok.2.2⟩

theorem nbufs_pos : 0 < Gen.NBUFS := by decide

theorem tableOk_open (ed : Ed) (p : Bytes) (hok : TableOk ed) : TableOk (ed.bufsOpen p).2 := by
  refine ⟨?_, idsOk_open ed p hok.2.1, packed_open ed p hok.2.2⟩
  rw [(open_uses_free_slot ed p).2.1, List.length_set]; exact hok.1

theorem tableOk_shift (ed : Ed) (hok : TableOk ed) : TableOk ed.bufsShift := by
  refine ⟨?_, idsOk_shift ed hok.2.1, packed_shift ed hok.2.2⟩
  rw [(bufsShift_spec ed).2.1 (by rw [hok.1]; exact nbufs_pos)]; exact hok.1

theorem tableOk_fresh (ed : Ed) (hok : TableOk ed) :
    TableOk { ed with bufs := ed.bufs.set 0 (some (freshBuf ed)), bufsCnt := ed.bufsCnt + 1 } := by
  refine ⟨?_, ?_, ?_⟩
  · show (ed.bufs.set 0 _).length = _
    rw [List.length_set]; exact hok.1
  · exact idsOkL_set_fresh 0 (freshBuf ed) rfl hok.2.1
  · exact packedL_set 0 _ (fun j hj => by omega) hok.2.2

theorem tableOk_renum (ed : Ed) (hok : TableOk ed) : TableOk (renumEd ed) := by
  refine ⟨?_, idsOk_renumber ed, packed_renumber ed hok.2.2⟩
  rw [renumEd_eq]
  show (renumFrom 0 ed.bufs).length = _
  rw [renumFrom_length]; exact hok.1

theorem tableOk_closed : StepClosed (fun ed ed' => TableOk ed → TableOk ed') where
  refl := fun _ h => h
  trans := fun h1 h2 h => h2 (h1 h)
  loc := fun h hok => tableOk_loc h hok
  cmd := fun hl h hok => tableOk_loc (runCmd_local_any _ _ _ _ _ _ _ _ _ hl h) hok
  quiet := fun h hok => tableOk_quiet h hok
  sw := fun ed idx hp hok => tableOk_switch ed idx (hp hok) hok
  opn := fun ed p hok => tableOk_open ed p hok
  shift := fun ed hok => tableOk_shift ed hok
  fresh := fun ed _ hok => tableOk_fresh ed hok
  renum := fun ed hok => tableOk_renum ed hok

/-- the table before the first `:e`: 16 empty slots, counter 0 (whatever the rest of the editor) -/
theorem tableOk_init (ed : Ed) (hb : ed.bufs = List.replicate Gen.NBUFS none) (hc : ed.bufsCnt = 0) : TableOk ed := by
  refine ⟨by rw [hb]; simp, ?_, ?_⟩
  · refine ⟨by rw [hc]; decide, ?_, ?_⟩
    · intro i b h; rw [hb, getD_replicate_none] at h; cases h
    · intro i j bi bj _ h; rw [hb, getD_replicate_none] at h; cases h
  · intro i j _ h; rw [hb, getD_replicate_none] at h; cases h

/-! ### reachable editor states -/

/-- the states of a running editor: from an empty table, by `ex_init`, ex command lines
    (`ex_exec`, `ex_command`, one round of `ex()`), and any local step (whatever edits the current
    buffer, moves the cursor, sets options, changes the environment) -/
inductive Reach : Ed → Prop
  | init (ed : Ed) : ed.bufs = List.replicate Gen.NBUFS none → ed.bufsCnt = 0 → Reach ed
  | exInit {ed ed' : Ed} {files : List Bytes} {r : Int} : Reach ed → Ex.exInit ed files = some (r, ed') → Reach ed'
  | exec {ed ed' : Ed} {f : Nat} {ln : Bytes} {r : Int} : Reach ed → exExec f ed ln = some (r, ed') → Reach ed'
  | command {ed ed' : Ed} {f : Nat} {ln : Bytes} {r : Int} : Reach ed → exCommand f ed ln = some (r, ed') → Reach ed'
  | step {ed ed' : Ed} {r : Int} : Reach ed → exStep ed = some (r, ed') → Reach ed'
  | loc {ed ed' : Ed} : Reach ed → Loc ed ed' → Reach ed'

/-- running a list of command lines one after the other (`ex_exec` on each; the return values are
    dropped, a trap or a hang stops the run) -/
def runLines (f : Nat) : Ed → List Bytes → Option Ed
  | ed, [] => some ed
  | ed, ln :: rest =>
    match exExec f ed ln with
    | none => none
    | some (_, ed1) => runLines f ed1 rest

theorem runLines_T {T : Ed → Ed → Prop} (hT : StepClosed T) (f : Nat) :
    ∀ (lines : List Bytes) (ed ed' : Ed), runLines f ed lines = some ed' → T ed ed' := by
  intro lines
  induction lines with
  | nil => intro ed ed' h; cases h; exact hT.refl _
  | cons ln rest ih =>
    intro ed ed' h
    rw [runLines] at h
    split at h
    · cases h
    · rename_i r ed1 he
      exact hT.trans (exExec_T hT he) (ih _ _ h)

theorem runLines_reach (f : Nat) : ∀ (lines : List Bytes) (ed ed' : Ed), Reach ed →
    runLines f ed lines = some ed' → Reach ed' := by
  intro lines
  induction lines with
  | nil => intro ed ed' hr h; cases h; exact hr
  | cons ln rest ih =>
    intro ed ed' hr h
    rw [runLines] at h
    split at h
    · cases h
    · rename_i r ed1 he
      exact ih _ _ (Reach.exec hr he) h

end Neatvi.Lemmas.C20c
