import NeatviVerif.Lemmas.C20cMore
/-!
# C20c lemmas: what `:b` without an argument prints
-/
namespace Neatvi.Lemmas.C20c
open Neatvi Neatvi.Lbuf Neatvi.Ex Neatvi.Props.C20 Neatvi.Props.C20b Neatvi.Lemmas.C20b
open Neatvi.Lemmas.C02Ex

/-- the line `:b` prints for the buffer `b` in slot `i`: the number right-aligned in two columns,
    the alias (`%` current, `#` alternate, `^` third, else a blank), the path, `*` when modified;
    cut at 127 bytes -/
def listLine (i : Nat) (b : Buf) : Bytes :=
  ((List.replicate (2 - (intStr b.id).length) 32) ++ intStr b.id ++ [32, (strOf "%#^").getD i 32, 32] ++ b.path ++
    [32, if (modified b.lb).1 then 42 else 32]).take 127

/-- `ex_print`: the line, and a newline unless it ends in one -/
def withNl (l : Bytes) : Bytes := l ++ (if l.getLast? == some 10 then [] else [10])

/-- the listing from slot `i` on (at most `g` slots): it stops at the first empty slot -/
def listFrom : Nat → Nat → Ed → Ed
  | 0, _, ed => ed
  | g + 1, i, ed =>
    match ed.bufs.getD i none with
    | none => ed
    | some b => listFrom g (i + 1) ((bumpAt ed i b).print (listLine i b))

/-- what the listing prints, from slot `i` on -/
def listOut : Nat → Nat → List (Option Buf) → Bytes
  | 0, _, _ => []
  | g + 1, i, L =>
    match L.getD i none with
    | none => []
    | some b => withNl (listLine i b) ++ listOut g (i + 1) L

theorem listStep_false (ed : Ed) (i : Nat) : listStep (false, ed) i = (false, ed) := rfl

theorem foldl_listStep_false : ∀ (l : List Nat) (ed : Ed), l.foldl listStep (false, ed) = (false, ed) := by
  intro l
  induction l with
  | nil => intro ed; rfl
  | cons i l ih => intro ed; rw [List.foldl_cons, listStep_false, ih]

theorem listStep_true (ed : Ed) (i : Nat) :
    listStep (true, ed) i =
      match ed.bufs.getD i none with
      | none => (false, ed)
      | some b => (true, (bumpAt ed i b).print (listLine i b)) := by
  unfold listStep
  cases hb : ed.bufs.getD i none with
  | none => simp only [Bool.not_true, Bool.false_eq_true, if_false, hb]
  | some b =>
    simp only [Bool.not_true, Bool.false_eq_true, if_false, hb, Ed.modifiedAt]
    rfl

theorem foldl_listStep : ∀ (g i : Nat) (ed : Ed),
    ((List.range' i g).foldl listStep (true, ed)).2 = listFrom g i ed := by
  intro g
  induction g with
  | zero => intro i ed; rfl
  | succ g ih =>
    intro i ed
    rw [List.range'_succ, List.foldl_cons, listStep_true, listFrom]
    cases hb : ed.bufs.getD i none with
    | none => simp only []; rw [foldl_listStep_false]
    | some b => simp only []; exact ih (i + 1) _

theorem listEd_eq (ed : Ed) : listEd ed = listFrom ed.bufs.length 0 ed := by
  unfold listEd
  rw [List.range_eq_range']
  exact foldl_listStep _ 0 ed

/-- only the table and the output differ -/
def OutOnly (ed ed' : Ed) : Prop := ∃ bufs out, ed' = { ed with bufs := bufs, out := out }

theorem OutOnly.refl (ed : Ed) : OutOnly ed ed := ⟨_, _, rfl⟩
theorem OutOnly.trans {a b c : Ed} (h1 : OutOnly a b) (h2 : OutOnly b c) : OutOnly a c := by
  obtain ⟨_, _, e1⟩ := h1
  obtain ⟨_, _, e2⟩ := h2
  subst e1; subst e2
  exact ⟨_, _, rfl⟩

theorem listFrom_outOnly : ∀ (g i : Nat) (ed : Ed), OutOnly ed (listFrom g i ed) := by
  intro g
  induction g with
  | zero => intro i ed; exact OutOnly.refl _
  | succ g ih =>
    intro i ed
    rw [listFrom]
    split
    · exact OutOnly.refl _
    · exact OutOnly.trans ⟨_, _, rfl⟩ (ih _ _)

theorem listOut_congr : ∀ (g i : Nat) (L L' : List (Option Buf)),
    (∀ k, i ≤ k → L'.getD k none = L.getD k none) → listOut g i L' = listOut g i L := by
  intro g
  induction g with
  | zero => intro i L L' _; rfl
  | succ g ih =>
    intro i L L' h
    rw [listOut, listOut, h i (Nat.le_refl _)]
    cases L.getD i none with
    | none => rfl
    | some b =>
      simp only []
      rw [ih (i + 1) L L' (fun k hk => h k (by omega))]

theorem listFrom_out : ∀ (g i : Nat) (ed : Ed), (listFrom g i ed).out = ed.out ++ listOut g i ed.bufs := by
  intro g
  induction g with
  | zero => intro i ed; simp [listFrom, listOut]
  | succ g ih =>
    intro i ed
    rw [listFrom, listOut]
    cases hb : ed.bufs.getD i none with
    | none => simp
    | some b =>
      simp only []
      rw [ih]
      have h1 : ((bumpAt ed i b).print (listLine i b)).out = ed.out ++ withNl (listLine i b) := by
        simp [Ed.print, bumpAt, withNl, List.append_assoc]
      have h2 : listOut g (i + 1) ((bumpAt ed i b).print (listLine i b)).bufs = listOut g (i + 1) ed.bufs := by
        apply listOut_congr
        intro k hk
        show (ed.bufs.set i _).getD k none = _
        exact C02Ex.getD_set_ne _ _ _ _ (by omega)
      rw [h1, h2, List.append_assoc]

end Neatvi.Lemmas.C20c
