import NeatviVerif.Lemmas.C20cTrace
/-!
# C20c lemmas: traces, continued (Lemmas/C20cTrace.lean) — the steps of `:b !`, the projection `own` consists of local
  steps of the run, a buffer followed by its number (`slotOf`, `locality_by_number`); and every form of `:b` keeps
  `IdsOk` and `Packed`
-/
namespace Neatvi.Lemmas.C20c
open Neatvi Neatvi.Lbuf Neatvi.Ex Neatvi.Rset Neatvi.Props.C20 Neatvi.Props.C20b Neatvi.Lemmas.C20b
open Neatvi.Lemmas.ExFrame Neatvi.Lemmas.C02Ex

/-- **every form of `:b`** — the listing (no argument), `:b !`, `:b ~`, `:b +`, `:b -`, `:b N`,
    `:b %|#|^`, and any other argument ("no such buffer") — keeps the buffer numbers unique and
    within `1..bufsCnt`, and keeps the occupied slots a prefix, whatever its outcome -/
theorem ec_buffer_invariants_all (f : Nat) (ed ed' : Ed) (loc cmd arg : Bytes) (txt : Option Bytes) (r : Int)
    (h : runCmd (f + 1) ed "ec_buffer" loc cmd arg txt = some (r, ed')) :
    (IdsOk ed → IdsOk ed') ∧ (Packed ed → Packed ed') := by
  cases h0 : arg.isEmpty
  · exact ec_buffer_invariants f ed ed' loc cmd arg txt r h0 h
  · rw [runCmd_b_list f ed loc cmd arg txt h0] at h
    cases h
    have hq := quiet_listEd ed
    exact ⟨idsOk_of_ids hq.cnt hq.idAt, packed_of_ids hq.idAt⟩

/-! ### `:b !` removes the current buffer only -/

theorem delEd_steps (ed : Ed) :
    (ed.bufs.getD 1 none ≠ none ∧ StepOk ed .shift (delEd ed)) ∨
    (ed.bufs.getD 1 none = none ∧ StepOk ed .shift ed.bufsShift ∧ StepOk ed.bufsShift .fresh (delEd ed)) := by
  cases h1 : ed.bufs.getD 1 none with
  | some b1 =>
    left
    refine ⟨by simp, ?_⟩
    rw [delEd_second ed b1 h1]; rfl
  | none =>
    right
    refine ⟨rfl, rfl, ?_⟩
    have hc : ed.bufsShift.cur = none := by rw [bufsShift_cur]; exact h1
    refine ⟨hc, ?_⟩
    unfold delEd
    rw [hc]
    rfl

/-! ### the projection consists of local steps of the run -/

theorem own_mem : ∀ (tr : Trace) (i : Nat) (s : Ed × Ev × Ed), s ∈ own tr i → s ∈ tr ∧ s.2.1.isOwn = true := by
  intro tr
  induction tr with
  | nil => intro i s h; simp [own] at h
  | cons x tr ih =>
    intro i s h
    obtain ⟨a, ev, b⟩ := x
    simp only [own] at h
    cases hm : ev.move i with
    | none => rw [hm] at h; simp at h
    | some m =>
      rw [hm] at h
      simp only [List.mem_append] at h
      rcases h with h | h
      · split at h
        · next hl =>
          simp only [List.mem_singleton] at h
          subst h
          exact ⟨List.mem_cons_self, hl.1⟩
        · simp at h
      · exact ⟨List.mem_cons_of_mem _ (ih m s h).1, (ih m s h).2⟩

theorem chain_mem : ∀ (tr : Trace) (ed ed' : Ed), Chain ed tr ed' → ∀ s ∈ tr, StepOk s.1 s.2.1 s.2.2 := by
  intro tr
  induction tr with
  | nil => intro ed ed' _ s hs; simp at hs
  | cons x tr ih =>
    intro ed ed' h s hs
    obtain ⟨a, ev, b⟩ := x
    obtain ⟨_, hs1, hc⟩ := h
    rcases List.mem_cons.1 hs with e | hm
    · subst e; exact hs1
    · exact ih b ed' hc s hm

theorem own_loc (tr : Trace) (ed ed' : Ed) (h : Chain ed tr ed') (i : Nat) (s : Ed × Ev × Ed) (hs : s ∈ own tr i) :
    Loc s.1 s.2.2 :=
  stepOk_loc (chain_mem tr ed ed' h _ (own_mem tr i s hs).1) (own_mem tr i s hs).2

/-! ### buffers by number -/

/-- the slot of the buffer numbered `n` (the first one, should there be several) -/
def slotOf (ed : Ed) (n : Int) : Option Nat := (List.range ed.bufs.length).find? (fun i => idAt ed i == some n)

theorem idAt_lt {ed : Ed} {i : Nat} {n : Int} (h : idAt ed i = some n) : i < ed.bufs.length := by
  unfold idAt at h
  cases hb : ed.bufs.getD i none with
  | none => rw [hb] at h; cases h
  | some b => exact (mem_of_getD _ _ _ hb).2

theorem slotOf_eq_some_iff {ed : Ed} (hok : IdsOk ed) (n : Int) (i : Nat) :
    slotOf ed n = some i ↔ idAt ed i = some n := by
  unfold slotOf
  rw [List.find?_range_eq_some]
  constructor
  · intro h; simpa using h.1
  · intro h
    refine ⟨by simpa using h, by simpa using idAt_lt h, ?_⟩
    intro j hj
    cases hx : idAt ed j with
    | none => simp
    | some m =>
      have hne : m ≠ n := by
        intro e
        subst e
        unfold idAt at h hx
        cases hbi : ed.bufs.getD i none with
        | none => rw [hbi] at h; cases h
        | some bi =>
          cases hbj : ed.bufs.getD j none with
          | none => rw [hbj] at hx; cases hx
          | some bj =>
            rw [hbi] at h; rw [hbj] at hx
            simp only [Option.map_some, Option.some.injEq] at h hx
            exact hok.2.2 j i bj bi (by omega) hbj hbi (by omega)
      simpa using hne

/-- **locality, by buffer number.**  On a well-formed table, along a run that does not renumber
    (`:b ~`): the buffer numbered `n`, if it is still there, is still numbered `n`, is found in the
    slot the tracking says, and its state is linked to its initial state through its own steps. -/
theorem locality_by_number (tr : Trace) (ed ed' : Ed) (hok : TableOk ed) (hc : Chain ed tr ed')
    (hre : ∀ s ∈ tr, s.2.1 ≠ Ev.renum) (n : Int) (i j : Nat) (hs : slotOf ed n = some i)
    (ht : track tr i = some j) :
    slotOf ed' n = some j ∧ Linked (obsAt ed i) (own tr i) (obsAt ed' j) := by
  have hok' := chain_tableOk tr ed ed' hc hok
  refine ⟨?_, locality tr ed ed' i j hc ht⟩
  rw [slotOf_eq_some_iff hok'.2.1, track_idAt tr ed ed' i j hc ht hre]
  exact (slotOf_eq_some_iff hok.2.1 n i).1 hs

end Neatvi.Lemmas.C20c
