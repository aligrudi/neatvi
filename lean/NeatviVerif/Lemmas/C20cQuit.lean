import NeatviVerif.Lemmas.C20cStep
import NeatviVerif.Lemmas.C06cCongr
/-!
# C20c lemmas: `:q` with a dirty buffer somewhere; `:e path` of an open path and the file system
-/
namespace Neatvi.Lemmas.C20c
open Neatvi Neatvi.Lbuf Neatvi.Ex Neatvi.Rset Neatvi.Props.C20 Neatvi.Props.C20b Neatvi.Lemmas.C20b
open Neatvi.Lemmas.ExFrame Neatvi.Lemmas.C02Ex Neatvi.Lemmas.C02c

/-! ### the loop of `ec_quit` stops at the first dirty buffer in table order -/

/-- only the table differs -/
def TableOnly (ed ed' : Ed) : Prop := ∃ bufs, ed' = { ed with bufs := bufs }

theorem TableOnly.refl (ed : Ed) : TableOnly ed ed := ⟨ed.bufs, rfl⟩
theorem TableOnly.trans {a b c : Ed} (h1 : TableOnly a b) (h2 : TableOnly b c) : TableOnly a c := by
  obtain ⟨_, e1⟩ := h1
  obtain ⟨_, e2⟩ := h2
  subst e1; subst e2
  exact ⟨_, rfl⟩

theorem tableOnly_bumpAt (ed : Ed) (i : Nat) (b : Buf) : TableOnly ed (bumpAt ed i b) := ⟨_, rfl⟩

/-- without `!` and without `a`, no autowrite: the loop passes the clean slots before `j` (bumping
    their sequence counters), refuses at the dirty slot `j` with the message, and switches to it -/
theorem each_first_dirty (cmd : Bytes) (hbang : hasBang cmd = false) (j : Nat) (bj : Buf)
    (hdj : (modified bj.lb).1 = true) : ∀ (g i : Nat) (ed : Ed), ed.xaw = 0 → i ≤ j → j < i + g →
    ed.bufs.getD j none = some bj →
    (∀ k b, i ≤ k → k < j → ed.bufs.getD k none = some b → (modified b.lb).1 = false) →
    ∃ ed1, runCmd.each cmd false g i ed = some (true, (ed1.show (strOf "buffer modified")).bufsSwitch j) ∧
      Quiet ed ed1 ∧ TableOnly ed ed1 := by
  intro g
  induction g with
  | zero => intro i ed _ h1 h2; omega
  | succ g ih =>
    intro i ed haw hij hjg hbj hclean
    obtain ⟨hjlt, _⟩ := getD_some hbj
    rw [runCmd.each.eq_2]
    have hi : ¬ i ≥ ed.bufs.length := by omega
    simp only [hi, if_false]
    by_cases heq : i = j
    · subst heq
      simp only [hbj, hbang, Bool.not_false, Bool.and_self, if_true]
      rw [guard_refuses_at ed i bj _ hbj hdj haw]
      exact ⟨bumpAt ed i bj, rfl, quiet_bumpAt ed i bj hbj, tableOnly_bumpAt ed i bj⟩
    · cases hbi : ed.bufs.getD i none with
      | none => exact ih (i + 1) ed haw (by omega) (by omega) hbj (fun k b hk => hclean k b (by omega))
      | some b =>
        simp only [hbang, Bool.not_false, Bool.and_self, if_true]
        rw [guard_passes_at ed i b _ hbi (hclean i b (Nat.le_refl _) (by omega) hbi)]
        simp only [Bool.false_eq_true, if_false]
        obtain ⟨ed1, he, hq, ht⟩ := ih (i + 1) (bumpAt ed i b) haw (by omega) (by omega)
          (by simp only [bumpAt]; rw [C02Ex.getD_set_ne _ _ _ _ heq]; exact hbj)
          (by
            intro k b' hk hkj hb'
            simp only [bumpAt] at hb'
            rw [C02Ex.getD_set_ne _ _ _ _ (by omega)] at hb'
            exact hclean k b' (by omega) hkj hb')
        exact ⟨ed1, he, (quiet_bumpAt ed i b hbi).trans hq, (tableOnly_bumpAt ed i b).trans ht⟩

theorem bufsSwitch_msg (ed : Ed) (idx : Nat) : (ed.bufsSwitch idx).msg = ed.msg := by
  obtain ⟨_, _, _, _, _, _, _, e⟩ := bufsSwitch_frame ed idx
  rw [e]

/-- `:q` / `:quit` (no `!`, no `a`, not `:wq` / `:x`), no autowrite, with a dirty buffer somewhere;
    `j` is the first dirty slot in table order (0 = current, 1 = alternate, …) -/
theorem quit_first_dirty (f : Nat) (ed : Ed) (loc cmd arg : Bytes) (txt : Option Bytes)
    (hw : cmd.headD 0 ≠ 119 ∧ cmd.headD 0 ≠ 120) (hbang : hasBang cmd = false) (hall : cmd.contains 97 = false)
    (haw : ed.xaw = 0) (j : Nat) (bj : Buf) (hbj : ed.bufs.getD j none = some bj)
    (hdj : (modified bj.lb).1 = true)
    (hfirst : ∀ k b, k < j → ed.bufs.getD k none = some b → (modified b.lb).1 = false) :
    ∃ ed1, runCmd (f + 1) ed "ec_quit" loc cmd arg txt =
        some (0, (ed1.show (strOf "buffer modified")).bufsSwitch j) ∧
      Quiet ed ed1 ∧ TableOnly ed ed1 := by
  rw [runCmd_quit]
  have h1 : (cmd.headD 0 == 119 || cmd.headD 0 == 120) = false := by
    rw [Bool.or_eq_false_iff]
    exact ⟨beq_eq_false_iff_ne.mpr hw.1, beq_eq_false_iff_ne.mpr hw.2⟩
  simp only [h1, Bool.false_eq_true, if_false, hall]
  obtain ⟨hjlt, _⟩ := getD_some hbj
  obtain ⟨ed1, he, hq, ht⟩ := each_first_dirty cmd hbang j bj hdj (ed.bufs.length + 1) 0 ed haw (by omega) (by omega) hbj
    (fun k b _ hk hb => hfirst k b hk hb)
  refine ⟨ed1, ?_, hq, ht⟩
  simp only [show ((0 : Int) != 0) = false by decide, Bool.false_eq_true, if_false, he]

/-! ### replacing the file system -/

/-- the editor with another file system -/
def withFiles (fs : List File) (ed : Ed) : Ed := { ed with files := fs }

theorem bufsModified_withFiles (fs : List File) (ed : Ed) (idx : Nat) (msg : Option Bytes) (haw : ed.xaw = 0) :
    bufsModified (withFiles fs ed) idx msg = (bufsModified ed idx msg).map (fun p => (p.1, withFiles fs p.2)) := by
  cases hb : ed.bufs.getD idx none with
  | none =>
    unfold bufsModified
    have : (withFiles fs ed).bufs.getD idx none = none := hb
    simp only [this, hb]
    rfl
  | some b =>
    have hx : (withFiles fs ed).xaw = 0 := haw
    rw [C02Ex.bufsModified_eq ed idx msg b hb, C02Ex.bufsModified_eq (withFiles fs ed) idx msg b hb, hx, haw]
    split
    · rfl
    · rw [if_neg (by simp), if_neg (by simp)]
      cases msg <;> rfl

theorem pathExpand_withFiles (fs : List File) (ed : Ed) (src : Bytes) (sp : Bool) :
    pathExpand (withFiles fs ed) src sp = (pathExpand ed src sp).map (fun p => (p.1, withFiles fs p.2)) := by
  rw [pathExpand_eq, pathExpand_eq, C06c.pathExpand_go_congr (x := ed) (y := withFiles fs ed) (fun _ _ => rfl)]
  unfold pathFin
  repeat' split
  all_goals rfl

theorem bufsLoad_withFiles (fs : List File) (ed : Ed) : (withFiles fs ed).bufsLoad = withFiles fs ed.bufsLoad := by
  unfold Ed.bufsLoad
  have : (withFiles fs ed).cur = ed.cur := rfl
  rw [this]
  cases ed.cur <;> rfl

theorem bufsSwitch_withFiles (fs : List File) (ed : Ed) (idx : Nat) :
    (withFiles fs ed).bufsSwitch idx = withFiles fs (ed.bufsSwitch idx) := by
  rw [switch_eq, switch_eq, show leftBufs (withFiles fs ed) = leftBufs ed from rfl]
  exact bufsLoad_withFiles fs { ed with bufs := _ }

theorem ewPre_withFiles (fs : List File) (ed : Ed) (cmd path : Bytes) :
    ewPre (withFiles fs ed) cmd path = withFiles fs (ewPre ed cmd path) := by
  unfold ewPre
  have : (withFiles fs ed).bufsFind path = ed.bufsFind path := rfl
  rw [this]
  split
  · exact bufsSwitch_withFiles fs ed 1
  · rfl

end Neatvi.Lemmas.C20c
