import NeatviVerif.Lemmas.ExRel
import NeatviVerif.Lemmas.ExStepTable
/-!
# C20c lemmas: every ex command line is a sequence of atomic table steps

`StepClosed T`: a relation between editor states that contains the atomic steps — a local step, a
quiet step, `bufs_switch`, `bufs_open`, `bufs_shift`, the fresh buffer of `:b !`, `:b ~` — and every command other than
`:e :b :q :g :@` as a whole (`cmd`), and is reflexive and transitive.  Every command line is a composition of steps (`XStep`, Lemmas/ExStepTable.lean), and
each of those is one of these or a sequence of them (`StepClosed.ofXStep`).  `exExec_T`: every such relation
contains every run of `ex_exec`, whatever the line (`|`-lists, `:g`, `:@`, `:e +cmd`, …) and the fuel.

First the local step itself: whatever a command other than `:e :b :q :g :@` does (`:w`, `:r`, `:s`, `:d`, `:pu`, `:u`, `:!`, …),
every parked buffer record is exactly what it was (`runCmd_local`: `Loc`), because `Loc` is kept by every step on the
current buffer (`loc_rel`) and such a command is a composition of those (`LStep.run`, Lemmas/ExStepTable.lean).
-/
namespace Neatvi.Lemmas.C20c
open Neatvi Neatvi.Lbuf Neatvi.Ex Neatvi.Rset Neatvi.Props.C20 Neatvi.Props.C20b Neatvi.Lemmas.C20b
open Neatvi.Lemmas.ExFrame Neatvi.Lemmas.C02Ex Neatvi.Lemmas.C02b Neatvi.Lemmas.C02c
open Neatvi.Lemmas.ExRel

theorem loc_rel : ExRel Loc where
  trans := Loc.trans
  ofCore h := Loc.of_same ⟨congrArg (·.bufs) h, congrArg (·.bufsCnt) h⟩
  io h := by obtain ⟨_, _, _, _, rfl⟩ := h; exact Loc.of_same ⟨rfl, rfl⟩
  cur _ _ _ _ _ h := loc_setCur h rfl

theorem runCmd_local_rel {R : Ed → Ed → Prop} (hR : ExRel R) {f : Nat} {ed ed' : Ed} {hd : String} {loc cmd arg : Bytes}
    {txt : Option Bytes} {r : Int} (hl : tableHandler hd = false)
    (h : runCmd (f + 1) ed hd loc cmd arg txt = some (r, ed')) : R ed ed' :=
  hR.ofLStep (Lemmas.ExStep.LStep.run hl h)

theorem runCmd_local (f : Nat) (ed ed' : Ed) (hd : String) (loc cmd arg : Bytes) (txt : Option Bytes) (r : Int)
    (hl : tableHandler hd = false)
    (h : runCmd (f + 1) ed hd loc cmd arg txt = some (r, ed')) : Loc ed ed' :=
  runCmd_local_rel loc_rel hl h

theorem runCmd_local_any (f : Nat) (ed ed' : Ed) (hd : String) (loc cmd arg : Bytes) (txt : Option Bytes) (r : Int)
    (hl : tableHandler hd = false) (h : runCmd f ed hd loc cmd arg txt = some (r, ed')) : Loc ed ed' := by
  cases f with
  | zero => rw [runCmd] at h; cases h
  | succ f => exact runCmd_local f ed ed' hd loc cmd arg txt r hl h

/-- the table of a running editor: 16 slots, unique buffer numbers within `1..bufsCnt`, the occupied
    slots a prefix -/
def TableOk (ed : Ed) : Prop := ed.bufs.length = Gen.NBUFS ∧ IdsOk ed ∧ Packed ed

/-- `T` contains the atomic steps and is reflexive and transitive.  The switch carries what its call
    sites know: on a well-formed table the slot switched to is occupied. -/
structure StepClosed (T : Ed → Ed → Prop) : Prop where
  refl : ∀ ed, T ed ed
  trans : ∀ {a b c}, T a b → T b c → T a c
  loc : ∀ {ed ed'}, Loc ed ed' → T ed ed'
  cmd : ∀ {f ed hd loc cmd arg txt r ed'}, tableHandler hd = false →
    runCmd f ed hd loc cmd arg txt = some (r, ed') → T ed ed'
  quiet : ∀ {ed ed'}, Quiet ed ed' → T ed ed'
  sw : ∀ ed idx, (TableOk ed → (ed.bufs.getD idx none).isSome = true) → T ed (ed.bufsSwitch idx)
  opn : ∀ ed p, T ed (ed.bufsOpen p).2
  shift : ∀ ed, T ed ed.bufsShift
  fresh : ∀ ed, ed.cur = none →
    T ed { ed with bufs := ed.bufs.set 0 (some (freshBuf ed)), bufsCnt := ed.bufsCnt + 1 }
  renum : ∀ ed, T ed (renumEd ed)

/-! ### the listing form of `:b` -/

theorem quiet_listStep (st : Bool × Ed) (i : Nat) : Quiet st.2 (listStep st i).2 := by
  obtain ⟨go, ed⟩ := st
  unfold listStep
  simp only []
  split
  · exact Quiet.refl _
  · split
    · exact Quiet.refl _
    · have hm := quiet_modifiedAt ed i
      generalize ed.modifiedAt i = p at hm
      obtain ⟨m, ed1⟩ := p
      exact hm.trans (quiet_print _ _)

theorem quiet_foldl_listStep : ∀ (l : List Nat) (st : Bool × Ed), Quiet st.2 (l.foldl listStep st).2 := by
  intro l
  induction l with
  | nil => intro st; exact Quiet.refl _
  | cons i l ih => intro st; rw [List.foldl_cons]; exact (quiet_listStep st i).trans (ih _)

/-- `:b` without an argument changes no buffer, no number, no view: it bumps sequence counters and
    prints -/
theorem quiet_listEd (ed : Ed) : Quiet ed (listEd ed) := quiet_foldl_listStep _ (true, ed)

theorem editFinish_loc (ed ed' : Ed) (path : Bytes) (h : editFinish ed path = some ed') : Loc ed ed' := by
  obtain ⟨b, ed5, b5, _, hb, hrd, hb5, rfl, rfl⟩ := Lemmas.C02c.editFinish_cases h
  refine (Loc.trans (loc_rel.ofStep (Lemmas.ExStep.editRead_step hb hrd)) (loc_setCur (b' := { b5 with
    lb := (modified (savedCore b5.lb (!path.isEmpty))).2, mtime := ed5.mtimeOf b5.path }) hb5 rfl)).to ?_ ?_ <;> rfl

section generic
variable {T : Ed → Ed → Prop} (hT : StepClosed T)
include hT

theorem StepClosed.ofXStep {ed ed' : Ed} (hs : Lemmas.ExStep.XStep ed ed') : T ed ed' := by
  induction hs with
  | quiet hq => exact hT.loc (loc_rel.ofStep hq)
  | trans _ _ ih1 ih2 => exact hT.trans ih1 ih2
  | cmd hl hr => exact hT.cmd hl hr
  | bump i => exact hT.quiet (quiet_modifiedAt _ i)
  | guard hm => exact hT.quiet (quiet_bufsModified hm)
  | switch i ho => exact hT.sw _ i (fun hok => ho hok.1 hok.2.2)
  | shift => exact hT.shift _
  | opened p => exact hT.opn _ p
  | fresh hc => exact hT.fresh _ hc
  | renum => exact hT.renum _
  | quitFlag => exact hT.loc (Loc.of_same ⟨rfl, rfl⟩)
  | save hs => exact hT.loc (Loc.of_same (lbufSaveP_io _ _ _ _ _ _ _ _ _ hs).same)
  | loaded hf => exact hT.loc (editFinish_loc _ _ _ hf)
  | @atBracket e1 e2 _ ih =>
    have l1 : Loc e1 { e1 with atDepth := e1.atDepth + 1 } := Loc.of_same ⟨rfl, rfl⟩
    have l2 : Loc e2 { e2 with atDepth := e2.atDepth - 1 } := Loc.of_same ⟨rfl, rfl⟩
    exact hT.trans (hT.trans (hT.loc l1) ih) (hT.loc l2)
  | @globBracket e0 ed2 b e _ ih =>
    have l0 : Loc e0 { e0 with xgdep := e0.xgdep + 1 } := Loc.of_same ⟨rfl, rfl⟩
    have l1 : Loc e0 (Props.C15.globMark e0 b e (e0.xgdep + 1)) :=
      l0.trans (loc_rel.ofStep (Lemmas.ExStep.globMark_step trivial e0 b e))
    have l2 : Loc ed2 { Props.C15.globSweep ed2 (e0.xgdep + 1) with xgdep := e0.xgdep + 1 - 1 } :=
      (loc_rel.ofStep (Lemmas.ExStep.globSweep_step trivial ed2)).trans (Loc.of_same ⟨rfl, rfl⟩)
    exact hT.trans (hT.trans (hT.loc l1) ih) (hT.loc l2)

theorem buffer_T (f : Nat) (ed ed' : Ed) (loc cmd arg : Bytes) (txt : Option Bytes) (r : Int)
    (h : runCmd (f + 1) ed "ec_buffer" loc cmd arg txt = some (r, ed')) : T ed ed' :=
  hT.ofXStep (Lemmas.ExStep.XStep.buffer h)

/-- **every run of `ex_exec` is a sequence of atomic table steps** -/
theorem exExec_T {f : Nat} {ed ed' : Ed} {ln : Bytes} {r : Int} (h : exExec f ed ln = some (r, ed')) : T ed ed' :=
  hT.ofXStep (Lemmas.ExStep.XStep.exExec h)

theorem exCommand_T {f : Nat} {ed ed' : Ed} {ln : Bytes} {r : Int} (h : exCommand f ed ln = some (r, ed')) : T ed ed' :=
  hT.ofXStep (Lemmas.ExStep.XStep.exCommand h)

theorem runCmd_T_all {f : Nat} {ed ed' : Ed} {hd : String} {loc cmd arg : Bytes} {txt : Option Bytes} {r : Int}
    (h : runCmd f ed hd loc cmd arg txt = some (r, ed')) : T ed ed' :=
  hT.ofXStep (Lemmas.ExStep.XStep.runCmd h)

theorem exStep_T {ed ed' : Ed} {r : Int} (h : exStep ed = some (r, ed')) : T ed ed' :=
  hT.ofXStep (Lemmas.ExStep.XStep.exStep h)

theorem exInit_T {ed ed' : Ed} {files : List Bytes} {r : Int} (h : exInit ed files = some (r, ed')) : T ed ed' :=
  hT.ofXStep (Lemmas.ExStep.XStep.exInit h)

end generic

end Neatvi.Lemmas.C20c
