import NeatviVerif.Lemmas.C20cMore
import NeatviVerif.Lemmas.C20cSoloC
import NeatviVerif.Lemmas.C06bExec
/-!
# C20c lemmas: a command line made of local commands does not look at the parked buffers (`exExec_withTail`,
  `exExec_local`), and the commands of the projection act on the buffer as if it were alone (`solo`, `AsIfAlone`)
-/
namespace Neatvi.Lemmas.C20c
open Neatvi Neatvi.Lbuf Neatvi.LbufIo Neatvi.Ex Neatvi.Rset Neatvi.Props.C20 Neatvi.Props.C20b Neatvi.Lemmas.C20b
open Neatvi.Lemmas.ExFrame Neatvi.Lemmas.C02Ex
open Neatvi.Lemmas.C06b (Parsed parse1 restOf)
open Neatvi.Lemmas.ExCong (okCmds exExec_rel runCmd_rel)

/-- the commands `ex_exec` will dispatch on the line (the split of a line into commands does not
    depend on the editor state) are all local: none of `:e`, `:b`, `:q`/`:wq`/`:x`, `:g`/`:v`, `:@` -/
def localCmds : Nat → Bytes → Bool
  | 0, _ => true
  | g + 1, ln =>
    if ln.isEmpty then true else
    let (_, ln) := exLoc ln
    let (cmd, ln) := exCmd ln
    let idx := exIdx cmd
    let abbr := match idx with | some (a, _) => a | none => strOf "unknown"
    let (_, ln) := exArg ln abbr
    let ln := (exTxt {} ln abbr).1.2
    match idx with
    | none => localCmds g ln
    | some (_, h) => !tableHandler h && localCmds g ln

/-- a line of local commands -/
def localLine (ln : Bytes) : Bool := localCmds (ln.length + 1) ln

/-- whether the command is one of the local ones (an unknown command is) -/
def localOne (p : Parsed) : Bool :=
  match p.idx with
  | none => true
  | some (_, h) => !tableHandler h

theorem localCmds_succ (g : Nat) (ln : Bytes) :
    localCmds (g + 1) ln =
      if ln.isEmpty then true else localOne (parse1 ln) && localCmds g (restOf ln) := by
  rw [localCmds]
  split
  · rfl
  · unfold localOne Lemmas.C06b.restOf parse1
    simp only []
    cases exIdx (exCmd (exLoc ln).2).1 with
    | none => rfl
    | some ah => rfl

theorem localCmds_ok : ∀ (g : Nat) (ln : Bytes), okCmds (fun h => !tableHandler h) g ln = localCmds g ln := by
  intro g
  induction g with
  | zero => intro ln; rfl
  | succ g ih =>
    intro ln
    rw [localCmds_succ, okCmds, ih]
    rfl

/-- **a line of local commands does not look at the parked buffers**: with the parked slots replaced
    by any list `L` naming the same alternate file, `ex_exec` returns the same value and leaves the
    same editor — current buffer, view, registers, options, files, output, messages — with `L` in
    place of the parked slots -/
theorem exExec_withTail (L : List (Option Buf)) (f : Nat) (ed : Ed) (ln : Bytes) (hA : Alt L ed)
    (hq : localLine ln = true) : exExec f (withTail L ed) ln = tailR L (exExec f ed ln) := by
  cases f with
  | zero => rw [exExec, exExec]; rfl
  | succ f =>
    refine commute_of_r2 (exExec_rel (tail_cong L) f (fun h => !tableHandler h) ?_ (edG_withTail L ed hA) ln ?_)
    · intro hd hok a b loc cmd arg txt h
      have hl : tableHandler hd = false := by simpa using hok
      exact runCmd_rel (tail_cong L) h f hd loc cmd arg txt hl
    · rw [localCmds_ok]; exact hq

theorem cmds_local (f g : Nat) (ed : Ed) (ln : Bytes) (ret r : Int) (ed' : Ed) (hq : localCmds g ln = true)
    (h : exExec.cmds f g ed ln ret = some (r, ed')) : Loc ed ed' := by
  have hcut : ∀ g ln, ¬ ln.isEmpty = true → localCmds (g + 1) ln = true →
      localOne (parse1 ln) = true ∧ localCmds g (restOf ln) = true := fun g ln hne hq => by
    rw [localCmds_succ, if_neg hne, Bool.and_eq_true] at hq
    exact hq
  refine (Lemmas.ExDid.cmds_run (C := False) f (Loc ed) (fun g ln => localCmds g ln = true)
    (fun g ln hne hq => (hcut g ln hne hq).2) (fun e src a p => p.trans (Loc.of_same (exTxt_same _ _ _)))
    (fun e m p => Loc.to p rfl rfl) ?_ g ed ln ret (Loc.refl _) hq).post _ h
  intro g e ln a hd _ p hq hne hi
  have hl := (hcut g ln hne hq).1
  unfold localOne at hl
  rw [hi] at hl
  exact ⟨fun x hx => p.trans (runCmd_local_any f _ _ hd _ _ _ _ _ (by simpa using hl) hx), False.elim⟩

/-- **a line of local commands is a local step**: every parked buffer record is exactly what it was -/
theorem exExec_local (f : Nat) (ed ed' : Ed) (ln : Bytes) (r : Int) (hq : localLine ln = true)
    (h : exExec f ed ln = some (r, ed')) : Loc ed ed' := by
  cases f with
  | zero => rw [exExec] at h; cases h
  | succ f =>
    rw [exExec] at h
    split at h
    · cases h; exact Loc.of_same ⟨rfl, rfl⟩
    · exact cmds_local f _ ed ln 0 r ed' hq h

/-- a list for the parked slots that holds nothing but a stub naming the alternate file (`#`) -/
def altStub (ed : Ed) : List (Option Buf) :=
  [(ed.bufs.getD 1 none).map (fun b => { path := b.path, lb := Lbuf.make })]

/-- the current buffer alone: the editor with the other buffers removed (a stub keeps the name of
    the alternate file); the view, registers, options, files, search pattern, … are the editor's -/
def solo (ed : Ed) : Ed := withTail (altStub ed) ed

theorem alt_altStub (ed : Ed) : Alt (altStub ed) ed := by
  unfold Alt altStub
  cases ed.bufs.getD 1 none <;> rfl

theorem altStub_loc {ed ed' : Ed} (h : Loc ed ed') : altStub ed' = altStub ed := by
  unfold altStub; rw [h.getD 1 (by omega)]

/-- the step is the dispatch of a local command, and the command does the same with any other
    buffers parked (naming the same alternate file) — in particular with none (`solo`) -/
def AsIfAlone (s : Ed × Ev × Ed) : Prop :=
  match s.2.1 with
  | .cmd f hd loc cmd arg txt =>
    ∃ r, runCmd f s.1 hd loc cmd arg txt = some (r, s.2.2) ∧
      (∀ L, Alt L s.1 → runCmd f (withTail L s.1) hd loc cmd arg txt = some (r, withTail L s.2.2)) ∧
      runCmd f (solo s.1) hd loc cmd arg txt = some (r, solo s.2.2)
  | _ => True

theorem stepOk_alone {ed ed' : Ed} {ev : Ev} (h : StepOk ed ev ed') : AsIfAlone (ed, ev, ed') := by
  cases ev with
  | cmd f hd loc cmd arg txt =>
    obtain ⟨hl, r, hr⟩ := h
    refine ⟨r, hr, fun L hA => ?_, ?_⟩
    · rw [runCmd_withTail_any L f ed hA hd loc cmd arg txt hl, hr]; rfl
    · unfold solo
      rw [runCmd_withTail_any _ f ed (alt_altStub ed) hd loc cmd arg txt hl, hr,
        altStub_loc (runCmd_local_any _ _ _ _ _ _ _ _ _ hl hr)]
      rfl
  | _ => trivial

end Neatvi.Lemmas.C20c
