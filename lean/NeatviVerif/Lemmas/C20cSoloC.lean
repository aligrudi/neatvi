import NeatviVerif.Lemmas.C20cStep
import NeatviVerif.Lemmas.C20cRun
import NeatviVerif.Lemmas.ExCong
/-!
# C20c lemmas: the parked buffers do not influence a command that works on the current buffer

`withTail L ed`: the editor `ed` with the parked slots (1, 2, …) replaced by the list `L`.  What the editor shows
of its current buffer and of the fields outside the table does not change.

`ed` and `withTail L ed` are two runs of the editor that differ in the parked slots only; `L` has to name the same
alternate file (`Alt`: `#` in a file name reads the path of slot 1).  That is a relation given by what it knows of the
buffer table (`TailB`, an instance of `ExCong.BCong` with equality on the texts), so the two-run congruence of the ex
layer applies: every such command returns the same value and leaves `withTail L` of the same state
(`commute_of_r2`); so does every ex command other than `:e`, `:b`, `:q`, `:g`, `:@` (`runCmd_withTail_any`).
-/
namespace Neatvi.Lemmas.C20c

section
open Neatvi Neatvi.Lbuf Neatvi.Ex Neatvi.Rset Neatvi.Props.C20 Neatvi.Props.C20b Neatvi.Lemmas.C20b
open Neatvi.Lemmas.ExFrame Neatvi.Lemmas.C02Ex

/-- the editor with the parked slots replaced by `L` -/
def withTail (L : List (Option Buf)) (ed : Ed) : Ed := { ed with bufs := ed.bufs.getD 0 none :: L }

/-- `(r, ed) ↦ (r, withTail L ed)` on results -/
def tailR {α : Type} (L : List (Option Buf)) (x : R α) : R α := x.map (fun p => (p.1, withTail L p.2))

@[simp] theorem tailR_none {α : Type} (L : List (Option Buf)) : tailR L (none : R α) = none := rfl
@[simp] theorem tailR_some {α : Type} (L : List (Option Buf)) (a : α) (ed : Ed) :
    tailR L (some (a, ed)) = some (a, withTail L ed) := rfl

theorem withTail_cur (L : List (Option Buf)) (ed : Ed) : (withTail L ed).cur = ed.cur := rfl
theorem withTail_lb (L : List (Option Buf)) (ed : Ed) : (withTail L ed).lb = ed.lb := rfl
theorem withTail_len (L : List (Option Buf)) (ed : Ed) : (withTail L ed).len = ed.len := rfl
theorem withTail_line (L : List (Option Buf)) (ed : Ed) (i : Int) : (withTail L ed).line i = ed.line i := rfl
theorem withTail_cp (L : List (Option Buf)) (ed : Ed) (b e : Int) : (withTail L ed).cp b e = ed.cp b e := rfl
theorem withTail_show (L : List (Option Buf)) (ed : Ed) (m : Bytes) : withTail L (ed.show m) = (withTail L ed).show m := rfl
theorem withTail_print (L : List (Option Buf)) (ed : Ed) (m : Bytes) : withTail L (ed.print m) = (withTail L ed).print m := rfl
theorem withTail_kwdSet (L : List (Option Buf)) (ed : Ed) (k : Option Bytes) (d : Int) :
    withTail L (ed.kwdSet k d) = (withTail L ed).kwdSet k d := rfl
theorem withTail_mkRe (L : List (Option Buf)) (ed : Ed) (p : Bytes) : (withTail L ed).mkRe p = ed.mkRe p := rfl
theorem withTail_pipe (L : List (Option Buf)) (ed : Ed) (c i : Bytes) : (withTail L ed).pipe c i = ed.pipe c i := rfl
theorem withTail_findFile (L : List (Option Buf)) (ed : Ed) (p : Bytes) : (withTail L ed).findFile p = ed.findFile p := rfl
theorem withTail_mtimeOf (L : List (Option Buf)) (ed : Ed) (p : Bytes) : (withTail L ed).mtimeOf p = ed.mtimeOf p := rfl

end

open Neatvi Neatvi.Lbuf Neatvi.Ex Neatvi.Lemmas.ExCong
open Neatvi.Lemmas.C09 (EdG Bufs)
open Neatvi.Lemmas.C09c (ORel)

/-- the replacement tail names the same alternate file -/
def Alt (L : List (Option Buf)) (ed : Ed) : Prop :=
  (L.getD 0 none).map (·.path) = (ed.bufs.getD 1 none).map (·.path)

theorem regGet_withTail (L : List (Option Buf)) (ed : Ed) (c : Nat) : regGet (withTail L ed) c = regGet ed c := rfl

/-- the second table is the first with its parked slots replaced by `L`, which names the same alternate file -/
def TailB (L : Bufs) (x y : Bufs) : Prop :=
  y = x.getD 0 none :: L ∧ (L.getD 0 none).map (·.path) = (x.getD 1 none).map (·.path)

theorem orel_rfl {α : Type} {R : α → α → Prop} (hR : ∀ a, R a a) (x : Option α) : ORel R x x := by
  cases x
  · trivial
  · exact hR _

theorem lbCong_eq : LbCong (· = ·) where
  lines := fun h => by rw [h]
  jump := fun h c => by rw [h]
  edit := fun h buf x y => by rw [h]; exact orel_rfl (fun _ => rfl) _
  undo := fun h => by rw [h]; exact orel_rfl (fun _ => ⟨rfl, rfl⟩) _
  redo := fun h => by rw [h]; exact orel_rfl (fun _ => ⟨rfl, rfl⟩) _
  setMark := fun h c p o => by rw [h]
  rd := fun h chunks fe x y => by rw [h]; exact orel_rfl (fun _ => ⟨rfl, rfl⟩) _
  modified := fun h => by rw [h]; exact ⟨rfl, rfl⟩
  savedCore := fun h clear => by rw [h]
  unsavedMark := fun h => by rw [h]

theorem tail_cong (L : Bufs) : BCong (TailB L) (· = ·) where
  toLbCong := lbCong_eq
  cur :=
    { get := by
        rintro x y ⟨rfl, _⟩
        exact orel_rfl (fun _ => ⟨rfl, rfl⟩) _
      set := by
        rintro x y p0 q0 p q ⟨rfl, h⟩ hx _ ⟨hl, hpq⟩
        have hpq' : p = q := by
          rw [← hpq]
          cases p; cases q; simp only [] at hl; subst hl; rfl
        subst hpq'
        have hlt : 0 < x.length := (C02Ex.getD_some hx).1
        refine ⟨?_, ?_⟩
        · rw [C02Ex.getD_set_self _ _ _ hlt]; rfl
        · rw [h]
          cases x with
          | nil => cases hlt
          | cons a r => rfl }
  alt := by
    rintro x y ⟨rfl, h⟩
    exact h.symm

theorem edG_tail {L : Bufs} {a b : Ed} (h : EdG (TailB L) a b) : b = withTail L a := by
  obtain ⟨h0, h1, h2, h3, h4, h5, h6, h7, h8, h9, h10, h11, h12, h13, h14, h15, h16, h17, h18, h19, h20, h21, h22,
    h23, h24, h25, h26, h27⟩ := h
  cases a; cases b
  simp only [withTail] at *
  obtain ⟨h0, _⟩ := h0
  subst h0 h1 h2 h3 h4 h5 h6 h7 h8 h9 h10 h11 h12 h13 h14 h15 h16 h17 h18 h19 h20 h21 h22 h23 h24 h25 h26 h27
  rfl

theorem edG_withTail (L : Bufs) (ed : Ed) (hA : Alt L ed) : EdG (TailB L) ed (withTail L ed) :=
  ⟨⟨rfl, hA⟩, rfl, rfl, rfl, rfl, rfl, rfl, rfl, rfl, rfl, rfl, rfl, rfl, rfl, rfl, rfl, rfl, rfl, rfl, rfl, rfl, rfl,
    rfl, rfl, rfl, rfl, rfl, rfl⟩

theorem commute_of_r2 {α : Type} {L : Bufs} {x y : R α} (h : R2 (TailB L) x y) : y = tailR L x := by
  rcases h.cases with ⟨rfl, rfl⟩ | ⟨v, a, b, rfl, rfl, hab⟩
  · rfl
  · rw [edG_tail hab]; rfl

theorem runCmd_withTail_any (L : List (Option Buf)) (f : Nat) (ed : Ed) (hA : Alt L ed) (hd : String)
    (loc cmd arg : Bytes) (txt : Option Bytes) (hl : tableHandler hd = false) :
    runCmd f (withTail L ed) hd loc cmd arg txt = tailR L (runCmd f ed hd loc cmd arg txt) :=
  commute_of_r2 (runCmd_rel (tail_cong L) (edG_withTail L ed hA) f hd loc cmd arg txt hl)

end Neatvi.Lemmas.C20c
