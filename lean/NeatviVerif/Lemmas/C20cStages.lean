import NeatviVerif.Model.ExCmd
import NeatviVerif.Lemmas.C02Ex
/-!
# C20c lemmas: the helpers of the ex layer, and `ec_write`, in stages; `ec_exec`, `ec_at` by the ways they return

`ex_pathexpand` and `ec_write` are long definitions.  Each is cut here into stages that are functions of
their own, with one equation (`pathExpand_eq`, `ecWrite_eq`) saying that the definition is their
composition, so that a fact about one of them can be proved stage by stage.  The other helpers are cut elsewhere:
`ex_search` and `ex_lineno` in `Lemmas/C06Ex.lean` (`C06.kwEd`, `exSearch_eq`, `exSearch_cases`;
`C05b.exLinenoBase`, `exLineno_eq`, `exLinenoBase_cases`), `lbuf_save` in `Props/C03.lean`
(`lbufSave_eq`, `lbufSave_elim`).  An invariant of `ec_write` reads how it returns (`C02b.ecWrite_cases`,
`C02b.writeSave_cases`: declared at the end of this file, in the namespace `Lemmas.C02b`; then
`C02Ex.writeFinish_cases`) and says what each return does to it; likewise `ec_exec` (`C02b.ecExec_cases`) and `ec_at` (`C02b.ecAt_cases`, whose last
case is the nested `ex_command` as the constructor `C05d.VAt.cmd` quotes it).
-/
namespace Neatvi.Lemmas.C20c
open Neatvi Neatvi.Lbuf Neatvi.LbufIo Neatvi.Ex Neatvi.Rset

/-! ### `ex_pathexpand` -/

/-- the end of `ex_pathexpand` -/
def pathFin (ed : Ed) (x : Option (Option Bytes)) : R (Option Bytes) :=
  match x with
  | none => none
  | some none => some (none, ed.show (strOf "pathname \"%\" or \"#\" is not set"))
  | some (some p) => if p.length ≥ 1000 then none else some (some p, ed)

theorem pathExpand_eq (ed : Ed) (src : Bytes) (sp : Bool) :
    pathExpand ed src sp = pathFin ed (pathExpand.go ed sp (src.length + 1) src []) := by
  unfold pathExpand pathFin
  rfl

theorem pathFin_some (ed : Ed) {p : Bytes} (h : p.length < 1000) : pathFin ed (some (some p)) = some (some p, ed) :=
  if_neg (by omega)

/-- the end of `ex_pathexpand` delivers a path: the copy loop did, below the size the model follows; the state stays -/
theorem pathFin_some_iff {ed ed' : Ed} {o : Option (Option Bytes)} {p : Bytes} :
    pathFin ed o = some (some p, ed') ↔ o = some (some p) ∧ p.length < 1000 ∧ ed' = ed := by
  constructor
  · intro h
    unfold pathFin at h
    split at h
    · cases h
    · cases h
    · split at h
      · cases h
      · cases h; exact ⟨rfl, by omega, rfl⟩
  · rintro ⟨rfl, hl, rfl⟩
    exact pathFin_some _ hl

/-- the end of `ex_pathexpand` delivers no path: the copy loop met an unset `%` or `#` -/
theorem pathFin_none_iff {ed : Ed} {o : Option (Option Bytes)} : (∃ ed', pathFin ed o = some (none, ed')) ↔ o = some none := by
  constructor
  · rintro ⟨ed', h⟩
    unfold pathFin at h
    split at h
    · cases h
    · rfl
    · split at h <;> cases h
  · rintro rfl
    exact ⟨_, rfl⟩

/-- `ex_pathexpand` returns what the copy loop delivered, a path only below the size the model follows (what becomes of
    the state: `C06b.pathExpand_cases`) -/
theorem pathExpand_go_of {ed ed' : Ed} {src : Bytes} {sp : Bool} {r : Option Bytes} (h : pathExpand ed src sp = some (r, ed')) :
    pathExpand.go ed sp (src.length + 1) src [] = some r ∧ ∀ p, r = some p → p.length < 1000 := by
  rw [pathExpand_eq] at h
  cases hg : pathExpand.go ed sp (src.length + 1) src [] with
  | none => rw [hg] at h; cases h
  | some o =>
    rw [hg] at h
    cases o with
    | none => cases h; exact ⟨rfl, fun _ hp => nomatch hp⟩
    | some q =>
      by_cases hl : q.length < 1000
      · rw [pathFin_some ed hl] at h; cases h; exact ⟨rfl, fun _ hp => by cases hp; exact hl⟩
      · rw [show pathFin ed (some (some q)) = none from if_pos (by omega)] at h; cases h

/-! ### `ec_write` -/

/-- `ec_write` from the save on -/
def writeSave (ed : Ed) (cur : Buf) (cmd path : Bytes) (be : Int × Int) : R Int :=
  match be with
  | (b, e) =>
    if path.headD 0 == 33 then
      if path.length < 2 then some (1, ed) else
      let ed := ed.show ([34] ++ path ++ strOf "\"  [=" ++ intStr (e - b) ++ strOf "]  [w]")
      some (0, if ed.xvis then { ed with unmodelled := true } else ed)
    else
      let ts := if cur.path == path then cur.mtime else 0
      match lbufSaveP ed cur.lb b.toNat e path (hasBang cmd) ts with
      | none => none
      | some (some err, ed) => some (1, ed.show err)
      | some (none, ed) =>
        let ed := ed.show ([34] ++ path ++ strOf "\"  [=" ++ intStr (e - b) ++ strOf "]  [w]")
        match ed.cur with
        | none => none
        | some cur => Lemmas.C02Ex.writeFinish ed cur path b e

/-- `ec_write` from the address on -/
def writeRegion (ed : Ed) (loc cmd : Bytes) (path : Option Bytes) : R Int :=
  match exRegion ed loc with
  | none => none
  | some ((rc, b, e), ed) =>
    if rc != 0 || path.isNone then some (1, ed) else
    match ed.cur with
    | none => none
    | some cur => writeSave ed cur cmd (path.getD []) (if loc.isEmpty then ((0 : Int), ed.len) else (b, e))

/-- `ec_write` after the `:x` check -/
def writeAfterX (loc cmd : Bytes) (path : Option Bytes) (xchk : Option (Bool × Ed)) : R Int :=
  match xchk with
  | none => none
  | some (false, ed) => some (0, ed)
  | some (true, ed) => writeRegion ed loc cmd path

/-- `ec_write` after the path is known -/
def writeAfterPath (loc cmd : Bytes) (pr : R (Option Bytes)) : R Int :=
  match pr with
  | none => none
  | some (path, ed) => writeAfterX loc cmd path (if cmd.headD 0 == 120 then some (ed.modifiedAt 0) else some (true, ed))

theorem ecWrite_eq (ed : Ed) (loc cmd arg : Bytes) :
    ecWrite ed loc cmd arg =
      writeAfterPath loc cmd (if !arg.isEmpty then pathExpand ed arg true else some (ed.cur.map (·.path), ed)) := by
  unfold ecWrite writeAfterPath writeAfterX writeRegion writeSave Lemmas.C02Ex.writeFinish
  rfl

end Neatvi.Lemmas.C20c

namespace Neatvi.Lemmas.C02b
open Neatvi Neatvi.Lbuf Neatvi.LbufIo Neatvi.Ex Neatvi.Lemmas.C02Ex
open Neatvi.Lemmas.C20c (writeSave writeRegion writeAfterX writeAfterPath ecWrite_eq)

/-- how `writeSave` returns: the pipe; a failed save; a save and `writeFinish` -/
theorem writeSave_cases {ed ed' : Ed} {cmd path : Bytes} {cur : Buf} {b e r : Int} (hc : ed.cur = some cur)
    (h : writeSave ed cur cmd path (b, e) = some (r, ed')) :
    (path.headD 0 = 33 ∧ (ed' = ed ∨ ∃ m, ed' = if ed.xvis then { ed.show m with unmodelled := true } else ed.show m)) ∨
    (path.headD 0 ≠ 33 ∧ ∃ ts x ed1, lbufSaveP ed cur.lb b.toNat e path (hasBang cmd) ts = some (x, ed1) ∧
      ((∃ err, x = some err ∧ ed' = ed1.show err) ∨
       (x = none ∧ ∃ m, writeFinish (ed1.show m) cur path b e = some (r, ed')))) := by
  unfold writeSave at h
  dsimp only at h
  split at h
  · rename_i h33
    refine Or.inl ⟨by simpa using h33, ?_⟩
    split at h
    · cases h; exact Or.inl rfl
    · cases h; exact Or.inr ⟨_, rfl⟩
  · rename_i h33
    refine Or.inr ⟨by simpa using h33, if cur.path == path then cur.mtime else 0, ?_⟩
    split at h
    · cases h
    · rename_i err ed1 hs
      cases h
      exact ⟨_, ed1, hs, Or.inl ⟨err, rfl, rfl⟩⟩
    · rename_i ed1 hs
      refine ⟨_, ed1, hs, Or.inr ⟨rfl, [34] ++ path ++ strOf "\"  [=" ++ intStr (e - b) ++ strOf "]  [w]", ?_⟩⟩
      have hc1 : ∀ m, (ed1.show m).cur = some cur := fun m =>
        (cur_congr (lbufSaveP_bufs _ _ _ _ _ _ _ _ _ hs)).trans hc
      rw [hc1] at h
      exact h

/-- how `ec_write` returns: after the path (`ed1`) and the `:x` test (`ed2`) nothing to do, or after the
    region (`ed3`) an error, or `writeSave` on the current buffer -/
theorem ecWrite_cases {ed ed' : Ed} {loc cmd arg : Bytes} {r : Int} (hw : ecWrite ed loc cmd arg = some (r, ed')) :
    ∃ path ed1, (if !arg.isEmpty then pathExpand ed arg true else some (ed.cur.map (·.path), ed)) = some (path, ed1) ∧
    ∃ ed2, (ed2 = ed1 ∨ cmd.headD 0 = 120 ∧ ed2 = (ed1.modifiedAt 0).2) ∧
      (ed' = ed2 ∨ ∃ rg ed3, exRegion ed2 loc = some (rg, ed3) ∧
        (ed' = ed3 ∨ ∃ p cur b e, path = some p ∧ ed3.cur = some cur ∧
          writeSave ed3 cur cmd p (b, e) = some (r, ed'))) := by
  rw [ecWrite_eq] at hw
  unfold writeAfterPath writeAfterX at hw
  split at hw
  · cases hw
  · rename_i path ed1 hp
    refine ⟨path, ed1, hp, ?_⟩
    have hx : ∀ {m ed2}, (if cmd.headD 0 == 120 then some (ed1.modifiedAt 0) else some (true, ed1) : Option (Bool × Ed))
        = some (m, ed2) → ed2 = ed1 ∨ cmd.headD 0 = 120 ∧ ed2 = (ed1.modifiedAt 0).2 := by
      intro m ed2 hx
      split at hx
      · rename_i h120
        exact Or.inr ⟨by simpa using h120, (congrArg Prod.snd (Option.some.inj hx)).symm⟩
      · cases hx; exact Or.inl rfl
    split at hw
    · cases hw
    · rename_i ed2 h2
      exact ⟨ed2, hx h2, Or.inl (Prod.mk.inj (Option.some.inj hw)).2.symm⟩
    · rename_i ed2 h2
      refine ⟨ed2, hx h2, Or.inr ?_⟩
      unfold writeRegion at hw
      split at hw
      · cases hw
      · rename_i ed3 hr
        refine ⟨_, ed3, hr, ?_⟩
        split at hw
        · cases hw; exact Or.inl rfl
        · rename_i hc
          split at hw
          · cases hw
          · rename_i cur hcur
            cases path with
            | none => simp at hc
            | some p => exact Or.inr ⟨p, cur, _, _, rfl, hcur, hw⟩

/-- how `ec_exec` returns: the guard refuses; the command text does not expand; without an address the command is run
    for its output (not modelled); the address is bad; or the pipe oracle is asked about the addressed lines and its
    answer, if any, replaces them -/
theorem ecExec_cases {ed ed' : Ed} {loc arg : Bytes} {r : Int} (h : Lemmas.C20.ecExec ed loc arg = some (r, ed')) :
    ∃ g edg, (if ed.xwa == 0 then bufsModified ed 0 (some (strOf "buffer modified")) else some (false, ed) : R Bool) = some (g, edg) ∧
    ((g = true ∧ r = 1 ∧ ed' = edg) ∨ g = false ∧ ∃ p edp, pathExpand edg arg true = some (p, edp) ∧
      ((p = none ∧ r = 1 ∧ ed' = edp) ∨ ∃ ecmd, p = some ecmd ∧
        ((loc.isEmpty = true ∧ r = 0 ∧ ed' = { edp with unmodelled := true }) ∨ loc.isEmpty = false ∧
          ∃ rc b e ed1, exRegion edp loc = some ((rc, b, e), ed1) ∧
            ((rc ≠ 0 ∧ r = 1 ∧ ed' = ed1) ∨ rc = 0 ∧ r = 0 ∧
              ((ed1.pipe ecmd (ed1.cp b e) = none ∧ ed' = { ed1 with unmodelled := true }) ∨
               (ed1.pipe ecmd (ed1.cp b e) = some none ∧ ed' = ed1) ∨
               ∃ rep, ed1.pipe ecmd (ed1.cp b e) = some (some rep) ∧ ed1.edit (some rep) b e = some ed'))))) := by
  unfold Lemmas.C20.ecExec at h
  simp only [] at h
  split at h
  · cases h
  · rename_i edg hg
    cases h
    exact ⟨true, _, hg, .inl ⟨rfl, rfl, rfl⟩⟩
  · rename_i edg hg
    refine ⟨false, edg, hg, .inr ⟨rfl, ?_⟩⟩
    split at h
    · cases h
    · rename_i edp hp
      cases h
      exact ⟨none, _, hp, .inl ⟨rfl, rfl, rfl⟩⟩
    · rename_i ecmd edp hp
      refine ⟨some ecmd, edp, hp, .inr ⟨ecmd, rfl, ?_⟩⟩
      split at h
      · rename_i hl
        cases h
        exact .inl ⟨hl, rfl, rfl⟩
      · rename_i hl
        refine .inr ⟨by simpa using hl, ?_⟩
        split at h
        · cases h
        · rename_i rc b e ed1 hr
          refine ⟨rc, b, e, ed1, hr, ?_⟩
          split at h
          · rename_i hrc
            cases h
            exact .inl ⟨by simpa using hrc, rfl, rfl⟩
          · rename_i hrc
            refine .inr ⟨by simpa using hrc, ?_⟩
            split at h
            · rename_i hpipe
              cases h
              exact ⟨rfl, .inl ⟨hpipe, rfl⟩⟩
            · rename_i hpipe
              cases h
              exact ⟨rfl, .inr (.inl ⟨hpipe, rfl⟩)⟩
            · rename_i rep hpipe
              simp only [Option.map_eq_some_iff] at h
              obtain ⟨edx, hx, hx2⟩ := h
              cases hx2
              exact ⟨rfl, .inr (.inr ⟨rep, hpipe, hx⟩)⟩

/-- `ec_at` by the ways it returns: no such register; the region rejected; sixteen registers executing; `:ra`; or
    the register ran as a command line from the first row of the region, one level deeper (`Props.C06c.ec_at_spec` is
    this with what address evaluation leaves alone) -/
theorem ecAt_cases {f : Nat} {ed ed' : Ed} {loc cmd arg : Bytes} {r : Int} (h : ecAt (f + 1) ed loc cmd arg = some (r, ed')) :
    (regGet ed (regName arg) = none ∧ r = 1 ∧ ed' = ed) ∨
    ∃ buf rc b e ed1, regGet ed (regName arg) = some buf ∧ exRegion ed loc = some ((rc, b, e), ed1) ∧
      (((rc != 0) = true ∧ r = 1 ∧ ed' = ed1) ∨
       ((rc != 0) = false ∧
        ((ed1.atDepth ≥ 16 ∧ r = 1 ∧ ed' = ed1.show (strOf "register recursion too deep")) ∨
         (ed1.atDepth < 16 ∧
          (((cmd.headD 0 == 114 && cmd.getD 1 0 == 97) = true ∧ r = 1 ∧ ed' = { ed1 with xrow := b, unmodelled := true }) ∨
           ((cmd.headD 0 == 114 && cmd.getD 1 0 == 97) = false ∧ ∃ ed2,
              exCommand f { ed1 with xrow := b, atDepth := ed1.atDepth + 1 } buf = some (r, ed2) ∧
              ed' = { ed2 with atDepth := ed2.atDepth - 1 })))))) := by
  rw [ecAt] at h
  split at h
  · cases h; exact .inl ⟨‹_›, rfl, rfl⟩
  · rename_i buf hreg
    split at h
    · cases h
    · rename_i rc b e ed1 hr
      refine .inr ⟨buf, rc, b, e, ed1, hreg, hr, ?_⟩
      by_cases hrc : (rc != 0) = true
      · rw [if_pos hrc] at h; cases h; exact .inl ⟨hrc, rfl, rfl⟩
      rw [if_neg hrc] at h
      refine .inr ⟨by simpa using hrc, ?_⟩
      by_cases hdp : ed1.atDepth ≥ 16
      · rw [if_pos hdp] at h; cases h; exact .inl ⟨hdp, rfl, rfl⟩
      rw [if_neg hdp] at h
      refine .inr ⟨by omega, ?_⟩
      simp only [] at h
      by_cases hra : (cmd.headD 0 == 114 && cmd.getD 1 0 == 97) = true
      · rw [if_pos hra] at h; cases h; exact .inl ⟨hra, rfl, rfl⟩
      rw [if_neg hra] at h
      refine .inr ⟨by simpa using hra, ?_⟩
      split at h
      · cases h
      · rename_i hx
        cases h
        exact ⟨_, hx, rfl⟩

end Neatvi.Lemmas.C02b
