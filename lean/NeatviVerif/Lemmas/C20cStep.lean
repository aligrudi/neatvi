import NeatviVerif.Props.C20b
import NeatviVerif.Props.C15
import NeatviVerif.Lemmas.C02cTable
/-!
# C20c lemmas: local steps (`Loc`) and quiet steps (`Quiet`)
-/
namespace Neatvi.Lemmas.C20c
open Neatvi Neatvi.Lbuf Neatvi.Ex Neatvi.Rset Neatvi.Props.C20 Neatvi.Props.C20b Neatvi.Lemmas.C20b
open Neatvi.Lemmas.ExFrame Neatvi.Lemmas.C02Ex

/-! ### `Loc` -/

/-- a step that acts on the current buffer only: the parked slots are exactly as they were, slot 0
    keeps its occupation and its number, the counter of numbers and the length of the table stay -/
structure Loc (ed ed' : Ed) : Prop where
  rest : ed'.bufs.drop 1 = ed.bufs.drop 1
  id0 : ed'.cur.map (·.id) = ed.cur.map (·.id)
  cnt : ed'.bufsCnt = ed.bufsCnt
  len : ed'.bufs.length = ed.bufs.length

theorem Loc.refl (ed : Ed) : Loc ed ed := ⟨rfl, rfl, rfl, rfl⟩

theorem Loc.trans {a b c : Ed} (h1 : Loc a b) (h2 : Loc b c) : Loc a c :=
  ⟨h2.rest.trans h1.rest, h2.id0.trans h1.id0, h2.cnt.trans h1.cnt, h2.len.trans h1.len⟩

theorem cur_of_bufs {ed ed' : Ed} (h : ed'.bufs = ed.bufs) : ed'.cur = ed.cur := by
  unfold Ed.cur; rw [h]

theorem Loc.of_same {ed ed' : Ed} (h : Same ed ed') : Loc ed ed' :=
  ⟨by rw [h.1], by rw [cur_of_bufs h.1], h.2, by rw [h.1]⟩

theorem Loc.same {a b c : Ed} (h1 : Loc a b) (h2 : Same b c) : Loc a c := h1.trans (Loc.of_same h2)

theorem Loc.to {a b c : Ed} (h1 : Loc a b) (hb : c.bufs = b.bufs) (hc : c.bufsCnt = b.bufsCnt) : Loc a c :=
  h1.same ⟨hb, hc⟩

theorem loc_setCur {ed : Ed} {b b' : Buf} (h : ed.cur = some b) (hid : b'.id = b.id) : Loc ed (ed.setCur b') := by
  refine ⟨Lemmas.C02c.setCur_drop ed b', ?_, rfl, by simp [Ed.setCur]⟩
  rw [cur_some_set ed b b' h, h]
  simp [hid]

theorem loc_setLb (ed : Ed) (lb : Lb) : Loc ed (ed.setLb lb) := by
  unfold Ed.setLb
  cases h : ed.cur with
  | none => exact Loc.refl _
  | some b => exact loc_setCur h rfl

theorem loc_edit {ed ed' : Ed} {s : Option Bytes} {b e : Int} (h : ed.edit s b e = some ed') : Loc ed ed' := by
  obtain ⟨_, _, lb, lb', _, _, he, _⟩ := Ed_edit_some h
  rw [he]; exact loc_setLb ed lb'

theorem Loc.getD {ed ed' : Ed} (h : Loc ed ed') (i : Nat) (hi : 0 < i) :
    ed'.bufs.getD i none = ed.bufs.getD i none := by
  cases i with
  | zero => omega
  | succ i =>
    rw [← Lemmas.C02c.getD_drop_one, ← Lemmas.C02c.getD_drop_one, h.rest]

/-! ### `Quiet` -/

/-- a buffer record without the sequence counter of its text (`lbuf_modified` bumps that counter
    whenever the dirty state is asked for) -/
def coreB (b : Buf) : Buf := { b with lb := { b.lb with useq := 0 } }

theorem coreB_bump (b : Buf) : coreB { b with lb := (modified b.lb).2 } = coreB b := rfl

/-- nothing observable moved: every slot holds the same record up to the sequence counter, the
    counter of numbers and the view are the same -/
structure Quiet (ed ed' : Ed) : Prop where
  slots : ed'.bufs.map (·.map coreB) = ed.bufs.map (·.map coreB)
  cnt : ed'.bufsCnt = ed.bufsCnt
  xrow : ed'.xrow = ed.xrow
  xoff : ed'.xoff = ed.xoff
  xtop : ed'.xtop = ed.xtop
  xleft : ed'.xleft = ed.xleft
  xtd : ed'.xtd = ed.xtd

theorem Quiet.refl (ed : Ed) : Quiet ed ed := ⟨rfl, rfl, rfl, rfl, rfl, rfl, rfl⟩

theorem Quiet.trans {a b c : Ed} (h1 : Quiet a b) (h2 : Quiet b c) : Quiet a c :=
  ⟨h2.slots.trans h1.slots, h2.cnt.trans h1.cnt, h2.xrow.trans h1.xrow, h2.xoff.trans h1.xoff,
    h2.xtop.trans h1.xtop, h2.xleft.trans h1.xleft, h2.xtd.trans h1.xtd⟩

theorem Quiet.len {ed ed' : Ed} (h : Quiet ed ed') : ed'.bufs.length = ed.bufs.length := by
  have := congrArg List.length h.slots
  simpa using this

theorem Quiet.getD {ed ed' : Ed} (h : Quiet ed ed') (i : Nat) :
    (ed'.bufs.getD i none).map coreB = (ed.bufs.getD i none).map coreB := by
  have := congrArg (fun l => l[i]?) h.slots
  simp only [List.getElem?_map] at this
  simp only [List.getD_eq_getElem?_getD]
  cases h1 : ed'.bufs[i]? <;> cases h2 : ed.bufs[i]? <;> rw [h1, h2] at this <;> simp_all

theorem quiet_io {ed ed' : Ed} (h : IoOnly ed ed') : Quiet ed ed' := by
  obtain ⟨_, _, _, _, e⟩ := h; subst e; exact ⟨rfl, rfl, rfl, rfl, rfl, rfl, rfl⟩

theorem quiet_show (ed : Ed) (m : Bytes) : Quiet ed (ed.show m) := ⟨rfl, rfl, rfl, rfl, rfl, rfl, rfl⟩
theorem quiet_print (ed : Ed) (m : Bytes) : Quiet ed (ed.print m) := ⟨rfl, rfl, rfl, rfl, rfl, rfl, rfl⟩

theorem map_set_same {α β} (f : α → β) (l : List α) (i : Nat) (x y : α) (hx : l[i]? = some x) (hf : f y = f x) :
    (l.set i y).map f = l.map f := by
  apply List.ext_getElem?
  intro n
  by_cases hn : i = n
  · subst hn
    obtain ⟨hlt, hgi⟩ := List.getElem?_eq_some_iff.1 hx
    simp [hlt, hf, hgi]
  · simp [List.getElem?_set_ne hn]

theorem quiet_bumpAt (ed : Ed) (i : Nat) (b : Buf) (hb : ed.bufs.getD i none = some b) :
    Quiet ed (bumpAt ed i b) := by
  refine ⟨?_, rfl, rfl, rfl, rfl, rfl, rfl⟩
  exact map_set_same _ _ _ _ _ (getD_some hb).2 rfl

theorem quiet_modifiedAt (ed : Ed) (i : Nat) : Quiet ed (ed.modifiedAt i).2 :=
  modifiedAt_cases (P := Quiet ed) ed i (Quiet.refl _) (quiet_bumpAt ed i)

theorem quiet_showOpt (ed : Ed) (m : Option Bytes) : Quiet ed (showOpt ed m) := by
  cases m
  · exact Quiet.refl _
  · exact quiet_show _ _

theorem quiet_bufsModified {ed ed' : Ed} {idx : Nat} {msg : Option Bytes} {r : Bool}
    (h : bufsModified ed idx msg = some (r, ed')) : Quiet ed ed' := by
  rcases bufsModified_shape ed ed' idx msg r h with ⟨_, he, _⟩ | ⟨b, hb, h1 | h1 | h1⟩
  · rw [he]; exact Quiet.refl _
  · rw [h1.1]; exact quiet_bumpAt ed idx b hb
  · rw [h1.2.2.2]; exact (quiet_bumpAt ed idx b hb).trans (quiet_showOpt _ _)
  · exact (quiet_bumpAt ed idx b hb).trans (quiet_io h1.2.2)

theorem quiet_guard {ed ed' : Ed} {c : Prop} [Decidable c] {idx : Nat} {msg : Option Bytes} {r : Bool}
    (h : (if c then bufsModified ed idx msg else some (false, ed) : R Bool) = some (r, ed')) : Quiet ed ed' := by
  split at h
  · exact quiet_bufsModified h
  · cases h; exact Quiet.refl _

end Neatvi.Lemmas.C20c
