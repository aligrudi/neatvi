import NeatviVerif.Lemmas.Basics
import NeatviVerif.Lemmas.C20cInv
/-!
# C20c lemmas: traces of atomic steps, tracking a buffer through them, locality

* `Ev`, `StepOk`, `Chain`: a run as a list of atomic steps `(before, event, after)`;
* `Ev.move`: where the record of slot `i` goes in one step (`none`: it is deleted);
* `obsAt ed i`: what a user sees of the buffer in slot `i`: path, text with its history and marks
  (without the sequence counter), position (the editor's when current, the stored one when
  parked), time stamp — the dirty flag is a function of it;
* `slotV ed i`: the record of slot `i` as it is seen, without the sequence counter only; `obsAt` is it without the
  number, `idAt` its number, so the switch and the single step are walked once (`switch_slotV`, `step_slotV`);
* `own tr i`: the projection of the run onto the buffer that starts in slot `i`: the local steps
  taken while it is current;
* `locality`: the final state of the buffer is linked to its initial state through its own steps
  alone.
-/
namespace Neatvi.Lemmas.C20c
open Neatvi Neatvi.Lbuf Neatvi.Ex Neatvi.Rset Neatvi.Props.C20 Neatvi.Props.C20b Neatvi.Lemmas.C20b
open Neatvi.Lemmas.ExFrame Neatvi.Lemmas.C02Ex

/-! ### events, steps, chains -/

inductive Ev where
  /-- a step acting on the current buffer (a guard, the text of `:a`, marks of `:g`, …) -/
  | loc
  /-- the dispatch of one ex command other than `:e`, `:b`, `:q`, `:g`, `:@` -/
  | cmd (f : Nat) (hd : String) (loc cmd arg : Bytes) (txt : Option Bytes)
  /-- nothing observable: sequence counters bumped, messages, files written by autowrite -/
  | quiet
  /-- `bufs_switch(idx)` -/
  | sw (idx : Nat)
  /-- `bufs_open(path)` into slot `k` -/
  | opn (k : Nat)
  /-- `bufs_shift()`: slot 0 is deleted -/
  | shift
  /-- `bufs_init(0, "")` after the last buffer was deleted -/
  | fresh
  /-- `bufs_number()` -/
  | renum
deriving DecidableEq, Repr

/-- one atomic step -/
def StepOk (ed : Ed) : Ev → Ed → Prop
  | .loc, ed' => Loc ed ed'
  | .cmd f hd loc cmd arg txt, ed' => tableHandler hd = false ∧ ∃ r, runCmd f ed hd loc cmd arg txt = some (r, ed')
  | .quiet, ed' => Quiet ed ed'
  | .sw idx, ed' => ed' = ed.bufsSwitch idx ∧ (TableOk ed → (ed.bufs.getD idx none).isSome = true)
  | .opn k, ed' => k = ed.findRoom ∧ ∃ p, ed' = (ed.bufsOpen p).2
  | .shift, ed' => ed' = ed.bufsShift
  | .fresh, ed' => ed.cur = none ∧
      ed' = { ed with bufs := ed.bufs.set 0 (some (freshBuf ed)), bufsCnt := ed.bufsCnt + 1 }
  | .renum, ed' => ed' = renumEd ed

abbrev Trace := List (Ed × Ev × Ed)

/-- `tr` is a run from `ed` to `ed'`: consecutive steps fit, each is an atomic step -/
def Chain : Ed → Trace → Ed → Prop
  | ed, [], ed' => ed = ed'
  | ed, (a, ev, b) :: tr, ed' => a = ed ∧ StepOk a ev b ∧ Chain b tr ed'

theorem chain_append : ∀ (t1 : Trace) (t2 : Trace) (a b c : Ed), Chain a t1 b → Chain b t2 c → Chain a (t1 ++ t2) c := by
  intro t1
  induction t1 with
  | nil => intro t2 a b c h1 h2; cases h1; exact h2
  | cons s t1 ih =>
    intro t2 a b c h1 h2
    obtain ⟨x, ev, y⟩ := s
    exact ⟨h1.1, h1.2.1, ih t2 y b c h1.2.2 h2⟩

/-- `ed'` is reached from `ed` by atomic steps -/
def Steps (ed ed' : Ed) : Prop := ∃ tr, Chain ed tr ed'

theorem steps_one {ed ed' : Ed} (ev : Ev) (h : StepOk ed ev ed') : Steps ed ed' := ⟨[(ed, ev, ed')], rfl, h, rfl⟩

theorem steps_closed : StepClosed Steps where
  refl := fun _ => ⟨[], rfl⟩
  trans := fun ⟨t1, h1⟩ ⟨t2, h2⟩ => ⟨t1 ++ t2, chain_append _ _ _ _ _ h1 h2⟩
  loc := fun h => steps_one .loc h
  cmd := fun {f _ hd loc cmd arg txt r _} hl h => steps_one (.cmd f hd loc cmd arg txt) ⟨hl, r, h⟩
  quiet := fun h => steps_one .quiet h
  sw := fun _ idx hp => steps_one (.sw idx) ⟨rfl, hp⟩
  opn := fun ed p => steps_one (.opn ed.findRoom) ⟨rfl, p, rfl⟩
  shift := fun _ => steps_one .shift rfl
  fresh := fun _ h => steps_one .fresh ⟨h, rfl⟩
  renum := fun _ => steps_one .renum rfl

theorem stepOk_T {T : Ed → Ed → Prop} (hT : StepClosed T) {ed ed' : Ed} {ev : Ev} (h : StepOk ed ev ed') : T ed ed' := by
  cases ev with
  | loc => exact hT.loc h
  | cmd f hd loc cmd arg txt => obtain ⟨hl, r, hr⟩ := h; exact hT.cmd hl hr
  | quiet => exact hT.quiet h
  | sw idx => obtain ⟨e, hp⟩ := h; rw [e]; exact hT.sw ed idx hp
  | opn k => obtain ⟨_, p, e⟩ := h; rw [e]; exact hT.opn ed p
  | shift => rw [show ed' = ed.bufsShift from h]; exact hT.shift ed
  | fresh => obtain ⟨hc, e⟩ := h; rw [e]; exact hT.fresh ed hc
  | renum => rw [show ed' = renumEd ed from h]; exact hT.renum ed

/-- every step-closed relation contains every chain: `Steps` is the least of them -/
theorem chain_T {T : Ed → Ed → Prop} (hT : StepClosed T) : ∀ (tr : Trace) (ed ed' : Ed), Chain ed tr ed' → T ed ed' := by
  intro tr
  induction tr with
  | nil => intro ed ed' h; cases h; exact hT.refl _
  | cons s tr ih =>
    intro ed ed' h
    obtain ⟨a, ev, b⟩ := s
    obtain ⟨e, hs, hc⟩ := h
    subst e
    exact hT.trans (stepOk_T hT hs) (ih _ _ hc)

theorem chain_tableOk (tr : Trace) (ed ed' : Ed) (h : Chain ed tr ed') : TableOk ed → TableOk ed' :=
  chain_T tableOk_closed tr ed ed' h

/-! ### where a slot goes -/

/-- the slot the record of slot `i` is in after the step; `none`: the record is gone -/
def Ev.move : Ev → Nat → Option Nat
  | .loc, i => some i
  | .cmd .., i => some i
  | .quiet, i => some i
  | .sw idx, i => some (if i = idx then 0 else if i < idx then i + 1 else i)
  | .opn k, i => if i = k then none else some i
  | .shift, i => if i = 0 then none else some (i - 1)
  | .fresh, i => if i = 0 then none else some i
  | .renum, i => some i

theorem some_of_ite_none {c : Prop} [Decidable c] {a j : Nat} (h : (if c then none else some a) = some j) :
    ¬ c ∧ a = j :=
  (Basics.ite_eq_cases h).elim (fun h1 => nomatch h1.2) fun h2 => ⟨h2.1, Option.some.inj h2.2⟩

/-- a record disappears only by `:b !` on it (`bufs_shift` deletes slot 0), or by `bufs_open` taking
    its slot -/
theorem move_none_iff (ev : Ev) (i : Nat) :
    ev.move i = none ↔ (ev = .shift ∧ i = 0) ∨ (ev = .fresh ∧ i = 0) ∨ ev = .opn i := by
  cases ev <;> simp [Ev.move]
  · rename_i k; exact eq_comm

/-! ### what is observed of a buffer -/

/-- the record with the editor's view in place of the stored one when it is the current buffer -/
def viewed (ed : Ed) (i : Nat) (b : Buf) : Buf :=
  if i = 0 then { b with row := ed.xrow, off := ed.xoff, top := ed.xtop, left := ed.xleft, td := ed.xtd } else b

/-- the record without its number and without the sequence counter of its text -/
def obsB (b : Buf) : Buf := { b with id := 0, lb := { b.lb with useq := 0 } }

/-- what is observed of the buffer in slot `i` -/
def obsAt (ed : Ed) (i : Nat) : Option Buf := (ed.bufs.getD i none).map (fun b => obsB (viewed ed i b))

/-- the dirty flag (`lbuf_modified`) is a function of what is observed -/
theorem dirty_obsB (b : Buf) : (modified (obsB b).lb).1 = (modified b.lb).1 := rfl

theorem dirty_viewed (ed : Ed) (i : Nat) (b : Buf) : (modified (viewed ed i b).lb).1 = (modified b.lb).1 := by
  unfold viewed; split <;> rfl

/-- the record of slot `i` as it is seen (the editor's view when current) without the sequence counter of its text:
    what is observed (`obsAt`) is this without the number, the number (`idAt`) is its `id` -/
def slotV (ed : Ed) (i : Nat) : Option Buf := (ed.bufs.getD i none).map (fun b => coreB (viewed ed i b))

theorem obsAt_slotV (ed : Ed) (i : Nat) : obsAt ed i = (slotV ed i).map (fun b => { b with id := 0 }) := by
  unfold obsAt slotV
  cases ed.bufs.getD i none <;> rfl

theorem idAt_slotV (ed : Ed) (i : Nat) : idAt ed i = (slotV ed i).map (·.id) := by
  unfold idAt slotV viewed
  cases ed.bufs.getD i none with
  | none => rfl
  | some b => simp only [Option.map_some]; split <;> rfl

theorem coreB_viewed_core (ed : Ed) (i : Nat) (b : Buf) : coreB (viewed ed i (coreB b)) = coreB (viewed ed i b) := by
  unfold viewed; split <;> rfl

theorem coreB_viewed_congr {ed ed' : Ed} (i : Nat) (b : Buf)
    (h1 : ed'.xrow = ed.xrow) (h2 : ed'.xoff = ed.xoff) (h3 : ed'.xtop = ed.xtop) (h4 : ed'.xleft = ed.xleft)
    (h5 : ed'.xtd = ed.xtd) : coreB (viewed ed' i b) = coreB (viewed ed i b) := by
  unfold viewed; rw [h1, h2, h3, h4, h5]

theorem slotV_congr {ed ed' : Ed} (i j : Nat) (hb : ed'.bufs.getD j none = ed.bufs.getD i none) (hij : j = 0 ↔ i = 0)
    (h1 : ed'.xrow = ed.xrow) (h2 : ed'.xoff = ed.xoff) (h3 : ed'.xtop = ed.xtop) (h4 : ed'.xleft = ed.xleft)
    (h5 : ed'.xtd = ed.xtd) : slotV ed' j = slotV ed i := by
  unfold slotV
  rw [hb]
  congr 1
  funext b
  unfold viewed
  by_cases hi : i = 0
  · rw [if_pos hi, if_pos (hij.2 hi), h1, h2, h3, h4, h5]
  · rw [if_neg hi, if_neg (fun h => hi (hij.1 h))]

/-! ### `bufs_switch`, slot by slot -/

theorem switch_view (ed : Ed) (idx : Nat) (b : Buf) (h : (ed.bufsSwitch idx).bufs.getD 0 none = some b) :
    (ed.bufsSwitch idx).xrow = b.row ∧ (ed.bufsSwitch idx).xoff = b.off ∧ (ed.bufsSwitch idx).xtop = b.top ∧
    (ed.bufsSwitch idx).xleft = b.left ∧ (ed.bufsSwitch idx).xtd = b.td := by
  rw [switch_def] at h ⊢
  rw [bufsLoad_bufs] at h
  exact (bufsLoad_view _ b h).2

theorem coreB_leftRec (ed : Ed) (b : Buf) : coreB (leftRec ed b) = coreB (viewed ed 0 b) := rfl

/-- **a switch moves records, it does not change them**: what is observed of the record of slot `i`
    is observed in the slot it moved to — for the buffer left (its view is stored), for the buffer
    reached (its stored position becomes the view), for all others -/
theorem switch_slotV (ed : Ed) (idx i : Nat) :
    slotV (ed.bufsSwitch idx) (if i = idx then 0 else if i < idx then i + 1 else i) = slotV ed i := by
  by_cases h1 : i = idx
  · -- the buffer reached
    rw [if_pos h1]
    subst h1
    have hg := switch_getD ed i 0
    rw [show switchSrc i 0 = i from by simp [switchSrc]] at hg
    unfold slotV
    cases i with
    | zero =>
      cases hb : ed.bufs.getD 0 none with
      | none => rw [hg, leftBufs_zero_none ed hb]; rfl
      | some b0 =>
        rw [leftBufs_zero ed b0 hb] at hg
        obtain ⟨v1, v2, v3, v4, v5⟩ := switch_view ed 0 _ hg
        rw [hg]
        simp only [Option.map_some, Option.some.injEq]
        unfold viewed
        simp only [if_true]
        rw [v1, v2, v3, v4, v5]
        rfl
    | succ i =>
      rw [leftBufs_getD ed (i + 1) (by omega)] at hg
      cases hb : ed.bufs.getD (i + 1) none with
      | none => rw [hg, hb]; rfl
      | some b =>
        rw [hb] at hg
        obtain ⟨v1, v2, v3, v4, v5⟩ := switch_view ed (i + 1) _ hg
        rw [hg]
        simp only [Option.map_some, Option.some.injEq]
        unfold viewed
        simp only [if_true, if_neg (show ¬ (i + 1 = 0) by omega)]
        rw [v1, v2, v3, v4, v5]
  · rw [if_neg h1]
    by_cases h2 : i < idx
    · rw [if_pos h2]
      have hg := switch_getD ed idx (i + 1)
      rw [show switchSrc idx (i + 1) = i from by simp [switchSrc]; omega] at hg
      unfold slotV
      rw [hg]
      cases i with
      | zero =>
        cases hb : ed.bufs.getD 0 none with
        | none => rw [leftBufs_zero_none ed hb]; rfl
        | some b0 =>
          rw [leftBufs_zero ed b0 hb]
          simp only [Option.map_some, Option.some.injEq]
          rw [show viewed (ed.bufsSwitch idx) (0 + 1) (leftRec ed b0) = leftRec ed b0 from rfl]
          exact coreB_leftRec ed b0
      | succ i =>
        rw [leftBufs_getD ed (i + 1) (by omega)]
        congr 1
    · rw [if_neg h2]
      have hg := switch_getD ed idx i
      rw [switchSrc_gt idx i (by omega), leftBufs_getD ed i (by omega)] at hg
      unfold slotV
      rw [hg]
      congr 1
      funext b
      unfold viewed
      rw [if_neg (by omega), if_neg (by omega)]

theorem switch_obs (ed : Ed) (idx i : Nat) :
    obsAt (ed.bufsSwitch idx) (if i = idx then 0 else if i < idx then i + 1 else i) = obsAt ed i := by
  rw [obsAt_slotV, obsAt_slotV, switch_slotV]

theorem switch_idAt (ed : Ed) (idx i : Nat) :
    idAt (ed.bufsSwitch idx) (if i = idx then 0 else if i < idx then i + 1 else i) = idAt ed i := by
  rw [idAt_slotV, idAt_slotV, switch_slotV]

/-! ### one step -/

theorem bufsOpen_view (ed : Ed) (p : Bytes) :
    (ed.bufsOpen p).2.xrow = ed.xrow ∧ (ed.bufsOpen p).2.xoff = ed.xoff ∧ (ed.bufsOpen p).2.xtop = ed.xtop ∧
    (ed.bufsOpen p).2.xleft = ed.xleft ∧ (ed.bufsOpen p).2.xtd = ed.xtd := ⟨rfl, rfl, rfl, rfl, rfl⟩

/-- the events that act on the current buffer -/
def Ev.isOwn : Ev → Bool
  | .loc => true
  | .cmd .. => true
  | _ => false

theorem stepOk_loc {ed ed' : Ed} {ev : Ev} (h : StepOk ed ev ed') (hown : ev.isOwn = true) : Loc ed ed' := by
  cases ev with
  | loc => exact h
  | cmd f hd loc cmd arg txt =>
    obtain ⟨hl, r, hr⟩ := h
    exact runCmd_local_any _ _ _ _ _ _ _ _ _ hl hr
  | _ => cases hown

theorem loc_slotV {ed ed' : Ed} (h : Loc ed ed') (i : Nat) (hi : i ≠ 0) : slotV ed' i = slotV ed i := by
  unfold slotV
  rw [Loc.getD h i (by omega)]
  congr 1
  funext b
  unfold viewed
  rw [if_neg hi, if_neg hi]

/-- **one atomic step other than `:b ~` moves the records it does not delete and leaves them as they are seen**, except
    the current one in a step that acts on the current buffer -/
theorem step_slotV {ed ed' : Ed} {ev : Ev} (h : StepOk ed ev ed') (i j : Nat) (hm : ev.move i = some j)
    (hloc : ev.isOwn = true → i ≠ 0) (hre : ev ≠ .renum) : slotV ed' j = slotV ed i := by
  cases ev with
  | loc =>
    cases hm
    exact loc_slotV h i (hloc rfl)
  | cmd f hd loc cmd arg txt =>
    cases hm
    exact loc_slotV (stepOk_loc h rfl) i (hloc rfl)
  | quiet =>
    cases hm
    have hq : Quiet ed ed' := h
    have hg := hq.getD i
    unfold slotV
    cases h1 : ed'.bufs.getD i none with
    | none =>
      cases h2 : ed.bufs.getD i none with
      | none => rfl
      | some b => rw [h1, h2] at hg; cases hg
    | some b' =>
      cases h2 : ed.bufs.getD i none with
      | none => rw [h1, h2] at hg; cases hg
      | some b =>
        rw [h1, h2] at hg
        simp only [Option.map_some, Option.some.injEq] at hg ⊢
        rw [← coreB_viewed_core ed' i b', hg, coreB_viewed_core]
        exact coreB_viewed_congr i b hq.xrow hq.xoff hq.xtop hq.xleft hq.xtd
  | sw idx =>
    cases hm
    rw [h.1]
    exact switch_slotV ed idx i
  | opn k =>
    obtain ⟨hk, p, e⟩ := h
    obtain ⟨hik, rfl⟩ := some_of_ite_none hm
    rw [e]
    refine slotV_congr (ed := ed) i i ?_ Iff.rfl rfl rfl rfl rfl rfl
    exact (open_uses_free_slot ed p).2.2.2.2.2.2.1 i (by rw [← hk]; exact hik)
  | shift =>
    obtain ⟨hi0, rfl⟩ := some_of_ite_none hm
    rw [show ed' = ed.bufsShift from h]
    have hg : ed.bufsShift.bufs.getD (i - 1) none = ed.bufs.getD i none := by
      rw [bufsShift_getD]; congr 1; omega
    by_cases hi1 : i = 1
    · subst hi1
      unfold slotV
      rw [hg]
      cases hb : ed.bufs.getD 1 none with
      | none => rfl
      | some b =>
        obtain ⟨_, v1, v2, v3, v4, v5⟩ := (bufsShift_spec ed).2.2.2.2.2.2.2.1 b hb
        simp only [Option.map_some, Option.some.injEq]
        unfold viewed
        simp only [if_true, if_neg (show ¬ (1 = 0) by omega)]
        rw [v1, v2, v3, v4, v5]
    · unfold slotV
      rw [hg]
      congr 1
      funext b
      unfold viewed
      rw [if_neg (by omega), if_neg (by omega)]
  | fresh =>
    obtain ⟨_, e⟩ := h
    obtain ⟨hi0, rfl⟩ := some_of_ite_none hm
    rw [e]
    refine slotV_congr (ed := ed) i i ?_ Iff.rfl rfl rfl rfl rfl rfl
    exact getD_set_ne _ _ _ _ _ hi0
  | renum => exact absurd rfl hre

/-- **one atomic step keeps what is observed of every record it does not delete**, except the
    current one in a step that acts on the current buffer -/
theorem step_obs {ed ed' : Ed} {ev : Ev} (h : StepOk ed ev ed') (i j : Nat) (hm : ev.move i = some j)
    (hloc : ev.isOwn = true → i ≠ 0) : obsAt ed' j = obsAt ed i := by
  by_cases hre : ev = .renum
  · subst hre
    cases hm
    rw [show ed' = renumEd ed from h, renumEd_eq]
    unfold obsAt
    show ((renumFrom 0 ed.bufs).getD i none).map _ = _
    rw [renumFrom_getD]
    cases ed.bufs.getD i none with
    | none => rfl
    | some b =>
      simp only [Option.map_some, Option.some.injEq]
      unfold viewed
      split <;> rfl
  · rw [obsAt_slotV, obsAt_slotV, step_slotV h i j hm hloc hre]

theorem step_idAt {ed ed' : Ed} {ev : Ev} (h : StepOk ed ev ed') (i j : Nat) (hm : ev.move i = some j)
    (hre : ev ≠ .renum) : idAt ed' j = idAt ed i := by
  by_cases hloc : ev.isOwn = true → i ≠ 0
  · rw [idAt_slotV, idAt_slotV, step_slotV h i j hm hloc hre]
  · have hown : ev.isOwn = true := Classical.byContradiction fun hn => hloc (fun h => absurd h hn)
    have hij : j = i := by
      cases ev <;> simp [Ev.isOwn] at hown <;> simp only [Ev.move, Option.some.injEq] at hm <;> exact hm.symm
    rw [hij]
    exact Loc.idAt (stepOk_loc h hown) i

/-! ### a whole run -/

/-- the slot the record of slot `i` is in at the end of the run; `none`: deleted on the way -/
def track : Trace → Nat → Option Nat
  | [], i => some i
  | (_, ev, _) :: tr, i => (ev.move i).bind (track tr)

/-- **the projection of a run onto one buffer**: the steps (state before, event, state after) that
    act on the current buffer, taken while the record that starts in slot `i` is the current buffer -/
def own : Trace → Nat → Trace
  | [], _ => []
  | (a, ev, b) :: tr, i =>
    match ev.move i with
    | none => []
    | some j => (if ev.isOwn = true ∧ i = 0 then [(a, ev, b)] else []) ++ own tr j

/-- `o'` is obtained from `o` by the steps of the list, each applied to the current buffer: every
    step starts with the buffer as the previous one left it -/
def Linked : Option Buf → Trace → Option Buf → Prop
  | o, [], o' => o = o'
  | o, (a, _, b) :: l, o' => o = obsAt a 0 ∧ Linked (obsAt b 0) l o'

theorem chain_track_cons {ed ed' a b : Ed} {ev : Ev} {tr : Trace} {i j : Nat}
    (h : Chain ed ((a, ev, b) :: tr) ed') (ht : track ((a, ev, b) :: tr) i = some j) :
    a = ed ∧ StepOk a ev b ∧ Chain b tr ed' ∧ ∃ m, ev.move i = some m ∧ track tr m = some j := by
  obtain ⟨e, hs, hc⟩ := h
  refine ⟨e, hs, hc, ?_⟩
  simp only [track] at ht
  cases hm : ev.move i with
  | none => rw [hm] at ht; cases ht
  | some m => rw [hm] at ht; exact ⟨m, rfl, ht⟩

/-- **locality.** Along any run, the state of a buffer at the end is linked to its state at the
    start through its own steps alone: whatever happens while another buffer is current — edits,
    writes, undo, switches, listings, opening and deleting other buffers — leaves it as it was. -/
theorem locality : ∀ (tr : Trace) (ed ed' : Ed) (i j : Nat), Chain ed tr ed' → track tr i = some j →
    Linked (obsAt ed i) (own tr i) (obsAt ed' j) := by
  intro tr
  induction tr with
  | nil =>
    intro ed ed' i j h ht
    cases h
    simp only [track, Option.some.injEq] at ht
    subst ht
    exact rfl
  | cons s tr ih =>
    intro ed ed' i j h ht
    obtain ⟨a, ev, b⟩ := s
    obtain ⟨rfl, hs, hc, m, hm, ht⟩ := chain_track_cons h ht
    have ih' := ih b ed' m j hc ht
    simp only [own, hm]
    by_cases hl : ev.isOwn = true ∧ i = 0
    · rw [if_pos hl]
      obtain ⟨h1, h2⟩ := hl
      subst h2
      have hm0 : m = 0 := by
        cases ev <;> simp [Ev.isOwn] at h1 <;> simp only [Ev.move, Option.some.injEq] at hm <;> exact hm.symm
      subst hm0
      exact ⟨rfl, ih'⟩
    · rw [if_neg hl, List.nil_append]
      rw [← step_obs hs i m hm (fun e hi => hl ⟨e, hi⟩)]
      exact ih'

/-- a buffer that is never the current one during a local step ends as it started -/
theorem untouched (tr : Trace) (ed ed' : Ed) (i j : Nat) (h : Chain ed tr ed') (ht : track tr i = some j)
    (hown : own tr i = []) : obsAt ed' j = obsAt ed i := by
  have := locality tr ed ed' i j h ht
  rw [hown] at this
  exact this.symm

/-- the number of a buffer stays its number as long as `:b ~` is not used -/
theorem track_idAt : ∀ (tr : Trace) (ed ed' : Ed) (i j : Nat), Chain ed tr ed' → track tr i = some j →
    (∀ s ∈ tr, s.2.1 ≠ Ev.renum) → idAt ed' j = idAt ed i := by
  intro tr
  induction tr with
  | nil =>
    intro ed ed' i j h ht _
    cases h
    simp only [track, Option.some.injEq] at ht
    subst ht
    rfl
  | cons s tr ih =>
    intro ed ed' i j h ht hre
    obtain ⟨a, ev, b⟩ := s
    obtain ⟨rfl, hs, hc, m, hm, ht⟩ := chain_track_cons h ht
    rw [ih b ed' m j hc ht (fun s hs => hre s (List.mem_cons_of_mem _ hs))]
    exact step_idAt hs i m hm (hre _ List.mem_cons_self)

end Neatvi.Lemmas.C20c
