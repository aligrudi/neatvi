import NeatviVerif.Lemmas.ViStages
import NeatviVerif.Lemmas.C20cTrace
import NeatviVerif.Model.ViCmd
/-!
# C20c lemmas: ex commands given from vi mode (`:` and the shortcuts that call `ex_command`)
-/
namespace Neatvi.Lemmas.C20c
open Neatvi Neatvi.Lbuf Neatvi.Ex Neatvi.Vi

theorem exCommandV_T {T : Ed → Ed → Prop} (hT : StepClosed T) (ln : Bytes) (s s' : VS) (rc : Int)
    (h : exCommandV ln s = Res.ok rc s') : T s.ed s'.ed := by
  rcases Lemmas.C09.exCommandV_inv h with rfl | ⟨a, u, ed, he, rfl⟩
  · exact hT.refl _
  · refine hT.trans ?_ (exCommand_T hT he)
    exact hT.loc (Loc.of_same ⟨rfl, rfl⟩)

end Neatvi.Lemmas.C20c
