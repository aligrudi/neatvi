import NeatviVerif.Model.ExCmd
/-!
# Two runs of the editor side by side: the shapes of the relations

`EdG B a b`: two `ex` states whose buffer tables are related by `B` and whose other fields are equal.
`ORel R`: two optional results, both absent or both present and related by `R`.
`EdG` is declared in `namespace Neatvi.Lemmas.C09`, `ORel` and `PRel` in `Neatvi.Lemmas.C09c`.
-/
namespace Neatvi.Lemmas.C09
open Neatvi Neatvi.Ex

abbrev Bufs := List (Option Buf)

/-- two `ex` states: the buffer tables related by `B`, every other field equal -/
structure EdG (B : Bufs → Bufs → Prop) (a b : Ed) : Prop where
  bufs : B a.bufs b.bufs
  bufsCnt : a.bufsCnt = b.bufsCnt
  xrow : a.xrow = b.xrow
  xoff : a.xoff = b.xoff
  xtop : a.xtop = b.xtop
  xleft : a.xleft = b.xleft
  xtd : a.xtd = b.xtd
  xquit : a.xquit = b.xquit
  xvis : a.xvis = b.xvis
  xaw : a.xaw = b.xaw
  xwa : a.xwa = b.xwa
  xic : a.xic = b.xic
  xkwd : a.xkwd = b.xkwd
  xrep : a.xrep = b.xrep
  xkwddir : a.xkwddir = b.xkwddir
  xgdep : a.xgdep = b.xgdep
  atDepth : a.atDepth = b.atDepth
  regs : a.regs = b.regs
  files : a.files = b.files
  clock : a.clock = b.clock
  faults : a.faults = b.faults
  calls : a.calls = b.calls
  fired : a.fired = b.fired
  input : a.input = b.input
  out : a.out = b.out
  msg : a.msg = b.msg
  pipes : a.pipes = b.pipes
  unmodelled : a.unmodelled = b.unmodelled

theorem kwdSet_g {B : Bufs → Bufs → Prop} {a b : Ed} (h : EdG B a b) (k : Option Bytes) (d : Int) :
    EdG B (a.kwdSet k d) (b.kwdSet k d) :=
  { h with xkwd := by show (match k with | some k => _ | none => a.xkwd) = (match k with | some k => _ | none => b.xkwd); rw [h.xkwd]
           xkwddir := rfl }

end Neatvi.Lemmas.C09

namespace Neatvi.Lemmas.C09c
open Neatvi Neatvi.Lbuf Neatvi.Ex

/-- both fail, or both succeed with related results -/
def ORel {α β : Type} (R : α → β → Prop) : Option α → Option β → Prop
  | none, none => True
  | some a, some b => R a b
  | _, _ => False

theorem ORel.cases {α β : Type} {R : α → β → Prop} {x : Option α} {y : Option β} (h : ORel R x y) :
    (x = none ∧ y = none) ∨ ∃ a b, x = some a ∧ y = some b ∧ R a b := by
  cases x <;> cases y
  · exact Or.inl ⟨rfl, rfl⟩
  · exact h.elim
  · exact h.elim
  · exact Or.inr ⟨_, _, rfl, rfl, h⟩

/-- `(rc, lb)` results -/
def PRel (R : Lb → Lb → Prop) (x y : Nat × Lb) : Prop := x.1 = y.1 ∧ R x.2 y.2

end Neatvi.Lemmas.C09c
