import NeatviVerif.Lemmas.EdG
import NeatviVerif.Lemmas.C15Quiet
import NeatviVerif.Lemmas.C06bProgress
import NeatviVerif.Lemmas.C20Dispatch
import NeatviVerif.Lemmas.C20cStages
import NeatviVerif.Lemmas.C06cCongr
import NeatviVerif.Lemmas.C02Ex
import NeatviVerif.Props.C03
/-!
# The ex layer run twice: a congruence for relations given by what they know of the buffer table

Two editor states `a`, `b` with `EdG B a b`: every field equal but the buffer tables, which are related by `B`.
`BCong B S` says what the handlers that work on the current buffer need of `B`: it knows slot 0 (`Slot B S 0`: the
records there agree in everything but their texts, which are related by `S`, and `B` is kept when they are replaced by
such records), and the alternate buffer has the same path.  What is said of `bufs_modified` holds of every slot `B` knows.  `LbCong S` says what they need of `S`: the calls of the lbuf API
map related texts to equal values and related texts.  Then every such handler returns the same value and related
states (`R2`).  Instances: equality of the current record with the parked slots arbitrary (the commuting form
`X (withTail L ed) = tailR L (X ed)` of C20c), and equality up to a renumbering of undo sequence numbers (C09c).
What the programs of vi.c need of `B` (`C09.BSimS B`, `Lemmas/C09Walk.lean`) is `BCong B S` together with "the ex layer
keeps `EdG B`" (`C09c.bsimS_of_cong`, `Lemmas/C09cVi.lean`).
-/
namespace Neatvi.Lemmas.ExCong
open Neatvi Neatvi.Lbuf Neatvi.Ex Neatvi.Lemmas.C20
open Neatvi.Lemmas.C09 (EdG Bufs)
open Neatvi.Lemmas.C09c (ORel PRel)

/-- what the handlers need of a relation between line buffers -/
structure LbCong (S : Lb → Lb → Prop) : Prop where
  lines : ∀ {a b}, S a b → a.lines = b.lines
  jump : ∀ {a b}, S a b → ∀ c, jump a c = jump b c
  edit : ∀ {a b}, S a b → ∀ buf x y, ORel S (Lbuf.edit a buf x y) (Lbuf.edit b buf x y)
  undo : ∀ {a b}, S a b → ORel (PRel S) (Lbuf.undo a) (Lbuf.undo b)
  redo : ∀ {a b}, S a b → ORel (PRel S) (Lbuf.redo a) (Lbuf.redo b)
  setMark : ∀ {a b}, S a b → ∀ c p o, S (setMark a c p o) (setMark b c p o)
  rd : ∀ {a b}, S a b → ∀ chunks fe x y, ORel (PRel S) (LbufIo.rd a chunks fe x y) (LbufIo.rd b chunks fe x y)
  modified : ∀ {a b}, S a b → (modified a).1 = (modified b).1 ∧ S (modified a).2 (modified b).2
  savedCore : ∀ {a b}, S a b → ∀ clear, S (savedCore a clear) (savedCore b clear)
  unsavedMark : ∀ {a b}, S a b → S (unsavedMark a) (unsavedMark b)

/-- two records that differ in their texts only, and these are related by `S` -/
def BufS (S : Lb → Lb → Prop) (p q : Buf) : Prop := S p.lb q.lb ∧ { p with lb := q.lb } = q

/-- slot `i` of related tables holds records that differ in their `S`-related texts only, and may be given such records -/
structure Slot (B : Bufs → Bufs → Prop) (S : Lb → Lb → Prop) (i : Nat) : Prop where
  get : ∀ {x y}, B x y → ORel (BufS S) (x.getD i none) (y.getD i none)
  set : ∀ {x y p0 q0 p q}, B x y → x.getD i none = some p0 → y.getD i none = some q0 → BufS S p q →
    B (x.set i (some p)) (y.set i (some q))

/-- what the handlers that work on the current buffer need of a relation between buffer tables: it knows slot 0, and
    the path in slot 1 -/
structure BCong (B : Bufs → Bufs → Prop) (S : Lb → Lb → Prop) : Prop extends LbCong S where
  cur : Slot B S 0
  alt : ∀ {x y}, B x y → (x.getD 1 none).map (·.path) = (y.getD 1 none).map (·.path)

/-- related results: both fail, or the same value and related states -/
def R2 (B : Bufs → Bufs → Prop) {α : Type} (x y : R α) : Prop := ORel (fun p q => p.1 = q.1 ∧ EdG B p.2 q.2) x y

section
variable {B : Bufs → Bufs → Prop} {S : Lb → Lb → Prop}

theorem R2.cases {α : Type} {x y : R α} (h : R2 B x y) :
    (x = none ∧ y = none) ∨ ∃ v a b, x = some (v, a) ∧ y = some (v, b) ∧ EdG B a b := by
  rcases ORel.cases h with h | ⟨⟨v, a⟩, ⟨v', b⟩, h1, h2, h3, h4⟩
  · exact Or.inl h
  · simp only at h3; subst h3
    exact Or.inr ⟨v, a, b, h1, h2, h4⟩

theorem R2.none {α : Type} : R2 B (none : R α) none := trivial
theorem R2.some {α : Type} {v : α} {a b : Ed} (h : EdG B a b) : R2 B (some (v, a)) (some (v, b)) := ⟨rfl, h⟩

theorem R2.ite {α : Type} {c : Prop} [Decidable c] {x x' y y' : R α} (h1 : c → R2 B x x') (h2 : ¬ c → R2 B y y') :
    R2 B (if c then x else y) (if c then x' else y') := by
  split
  · exact h1 ‹_›
  · exact h2 ‹_›

theorem R2.iteB {α : Type} {c c' : Bool} (hc : c = c') {x x' y y' : R α} (h1 : c = true → R2 B x x')
    (h2 : ¬ c = true → R2 B y y') : R2 B (if c = true then x else y) (if c' = true then x' else y') := by
  subst hc
  exact R2.ite h1 h2

/-- read the result of a related call: both fail, or both return the same value and related states -/
macro "r2_cases " t:term " with " v:rcasesPat a:rcasesPat b:rcasesPat h:rcasesPat : tactic =>
  `(tactic| (rcases R2.cases $t with ⟨r1, r2⟩ | ⟨$v:rcasesPat, $a:rcasesPat, $b:rcasesPat, r1, r2, $h:rcasesPat⟩ <;> rw [r1, r2]))

variable (C : BCong B S) {a b : Ed}
include C

/-! ### what related states show alike -/

theorem _root_.Neatvi.Lemmas.C09.EdG.lb_cases (h : EdG B a b) :
    (a.lb = none ∧ b.lb = none) ∨ ∃ la lb, a.lb = some la ∧ b.lb = some lb ∧ S la lb := by
  unfold Ed.lb Ed.cur
  rcases (C.cur.get h.bufs).cases with ⟨r1, r2⟩ | ⟨p, q, r1, r2, hpq⟩
  · rw [r1, r2]; exact Or.inl ⟨rfl, rfl⟩
  · rw [r1, r2]; exact Or.inr ⟨_, _, rfl, rfl, hpq.1⟩

theorem _root_.Neatvi.Lemmas.C09.EdG.len_eq (h : EdG B a b) : a.len = b.len := by
  unfold Ed.len
  rcases h.lb_cases C with ⟨r1, r2⟩ | ⟨la, lb, r1, r2, hl⟩
  · rw [r1, r2]
  · rw [r1, r2]; simp only [C.lines hl]

theorem _root_.Neatvi.Lemmas.C09.EdG.line_eq (h : EdG B a b) (i : Int) : a.line i = b.line i := by
  unfold Ed.line
  rcases h.lb_cases C with ⟨r1, r2⟩ | ⟨la, lb, r1, r2, hl⟩
  · rw [r1, r2]
  · rw [r1, r2]; simp only [Option.bind_some, C.lines hl]

theorem _root_.Neatvi.Lemmas.C09.EdG.cp_eq (h : EdG B a b) (x y : Int) : a.cp x y = b.cp x y := by
  unfold Ed.cp
  rcases h.lb_cases C with ⟨r1, r2⟩ | ⟨la, lb, r1, r2, hl⟩
  · rw [r1, r2]
  · rw [r1, r2]; simp only [Lbuf.cp, C.lines hl]

theorem _root_.Neatvi.Lemmas.C09.EdG.jump_eq (h : EdG B a b) (c : Nat) :
    a.lb.bind (fun l => jump l c) = b.lb.bind (fun l => jump l c) := by
  rcases h.lb_cases C with ⟨r1, r2⟩ | ⟨la, lb, r1, r2, hl⟩
  · rw [r1, r2]
  · rw [r1, r2]; simp only [Option.bind_some, C.jump hl]

omit C in
theorem _root_.Neatvi.Lemmas.C09.EdG.findFile_eq (h : EdG B a b) (p : Bytes) : a.findFile p = b.findFile p := by
  unfold Ed.findFile; rw [h.files]

omit C in
theorem _root_.Neatvi.Lemmas.C09.EdG.mtimeOf_eq (h : EdG B a b) (p : Bytes) : a.mtimeOf p = b.mtimeOf p := by
  unfold Ed.mtimeOf; rw [h.findFile_eq]

omit C in
theorem _root_.Neatvi.Lemmas.C09.EdG.mkRe_eq (h : EdG B a b) (p : Bytes) : a.mkRe p = b.mkRe p := by
  unfold Ed.mkRe; rw [h.xic]

omit C in
theorem _root_.Neatvi.Lemmas.C09.EdG.pipe_eq (h : EdG B a b) (c i : Bytes) : a.pipe c i = b.pipe c i := by
  unfold Ed.pipe; rw [h.pipes]

theorem _root_.Neatvi.Lemmas.C09.EdG.regGet_eq (h : EdG B a b) (c : Nat) : regGet a c = regGet b c := by
  unfold regGet
  rw [h.line_eq C, h.xrow, h.xoff, h.regs]

theorem _root_.Neatvi.Lemmas.C09.EdG.cur_cases (h : EdG B a b) :
    (a.cur = none ∧ b.cur = none) ∨ ∃ p q, a.cur = some p ∧ b.cur = some q ∧ BufS S p q :=
  (C.cur.get h.bufs).cases

omit C in
theorem BufS.path {p q : Buf} (h : BufS S p q) : p.path = q.path := by rw [← h.2]
omit C in
theorem BufS.mtime {p q : Buf} (h : BufS S p q) : p.mtime = q.mtime := by rw [← h.2]

omit C in
theorem BufS.setLb {p q : Buf} (h : BufS S p q) {la lb : Lb} (hl : S la lb) :
    BufS S { p with lb := la } { q with lb := lb } := by
  refine ⟨hl, ?_⟩
  rw [← h.2]

omit C in
theorem BufS.setLbMtime {p q : Buf} (h : BufS S p q) {la lb : Lb} (hl : S la lb) (m : Int) :
    BufS S { p with lb := la, mtime := m } { q with lb := lb, mtime := m } := by
  refine ⟨hl, ?_⟩
  rw [← h.2]

omit C in
theorem BufS.setPath {p q : Buf} (h : BufS S p q) (pa : Bytes) : BufS S { p with path := pa } { q with path := pa } := by
  refine ⟨h.1, ?_⟩
  rw [← h.2]

theorem _root_.Neatvi.Lemmas.C09.EdG.cur_path (h : EdG B a b) : a.cur.map (·.path) = b.cur.map (·.path) := by
  rcases h.cur_cases C with ⟨r1, r2⟩ | ⟨p, q, r1, r2, hpq⟩
  · rw [r1, r2]
  · rw [r1, r2]; simp only [Option.map_some, hpq.path]

/-- the paths `ex_pathexpand` reads -/
theorem _root_.Neatvi.Lemmas.C09.EdG.paths (h : EdG B a b) (i : Nat) (hi : i ≤ 1) :
    (b.bufs.getD i none).map (·.path) = (a.bufs.getD i none).map (·.path) := by
  cases i with
  | zero => exact (h.cur_path C).symm
  | succ i =>
    have : i = 0 := by omega
    subst this
    exact (C.alt h.bufs).symm

/-! ### what keeps the relation -/

theorem setCur_rel (h : EdG B a b) {p0 q0 p q : Buf} (ha : a.cur = some p0) (hb : b.cur = some q0) (hpq : BufS S p q) :
    EdG B (a.setCur p) (b.setCur q) :=
  { h with bufs := C.cur.set h.bufs ha hb hpq }

theorem setLb_rel (h : EdG B a b) {la lb : Lb} (hl : S la lb) : EdG B (a.setLb la) (b.setLb lb) := by
  unfold Ed.setLb Ed.cur
  rcases (C.cur.get h.bufs).cases with ⟨r1, r2⟩ | ⟨p, q, r1, r2, hpq⟩
  · rw [r1, r2]; exact h
  · rw [r1, r2]
    refine { h with bufs := C.cur.set h.bufs r1 r2 ⟨hl, ?_⟩ }
    have := hpq.2
    rw [← this]

theorem edit_rel (h : EdG B a b) (s : Option Bytes) (x y : Int) : ORel (EdG B) (a.edit s x y) (b.edit s x y) := by
  unfold Ed.edit
  split
  · trivial
  · rcases h.lb_cases C with ⟨r1, r2⟩ | ⟨la, lb, r1, r2, hl⟩
    · rw [r1, r2]; trivial
    · rw [r1, r2]
      simp only []
      rcases (C.edit hl s x.toNat y.toNat).cases with ⟨s1, s2⟩ | ⟨la', lb', s1, s2, hl'⟩
      · rw [s1, s2]; trivial
      · rw [s1, s2]; exact setLb_rel C h hl'

omit C in
theorem print_rel (h : EdG B a b) (m : Bytes) : EdG B (a.print m) (b.print m) := by
  unfold Ed.print
  rw [h.out]
  exact { h with out := rfl }

omit C in
theorem show_rel (h : EdG B a b) (m : Bytes) : EdG B (a.show m) (b.show m) := by
  unfold Ed.show
  rw [h.msg]
  exact { h with msg := rfl }

theorem foldl_print_rel (x : Int) : ∀ (l : List Nat) (a b : Ed), EdG B a b →
    EdG B (l.foldl (fun (ed : Ed) (k : Nat) => match ed.line (x + (k : Int)) with | some l => ed.print l | none => ed) a)
      (l.foldl (fun (ed : Ed) (k : Nat) => match ed.line (x + (k : Int)) with | some l => ed.print l | none => ed) b) := by
  intro l
  induction l with
  | nil => intro a b h; exact h
  | cons k l ih =>
    intro a b h
    rw [List.foldl_cons, List.foldl_cons]
    apply ih
    rw [h.line_eq C]
    cases b.line (x + (k : Int)) with
    | none => exact h
    | some m => exact print_rel h m

/-! ### fields outside the table -/

omit C in
theorem putFile_rel (h : EdG B a b) (f : File) : EdG B (a.putFile f) (b.putFile f) := by
  unfold Ed.putFile
  rw [h.files]
  split
  · exact { h with files := rfl }
  · exact { h with files := rfl }

omit C in
theorem nextFault_rel (h : EdG B a b) : a.nextFault.1 = b.nextFault.1 ∧ EdG B a.nextFault.2 b.nextFault.2 := by
  constructor
  · show ((a.faults.find? _).map _).getD 0 = ((b.faults.find? _).map _).getD 0
    rw [h.faults, h.calls]
  · exact { h with calls := by show a.calls + 1 = b.calls + 1; rw [h.calls] }

omit C in
theorem _root_.Neatvi.Lemmas.C09.EdG.ite {c c' : Bool} (hc : c = c') {x x' y y' : Ed} (h1 : EdG B x x') (h2 : EdG B y y') :
    EdG B (if c = true then x else y) (if c' = true then x' else y') := by
  subst hc; split <;> assumption

omit C in
theorem setOpt_rel (h : EdG B a b) (v : String) (n : Int) : EdG B (setOpt a v n) (setOpt b v n) :=
  EdG.ite rfl { h with xaw := rfl } (EdG.ite rfl { h with xwa := rfl }
    (EdG.ite rfl { h with xic := rfl } (EdG.ite rfl { h with xtd := rfl } h)))

/-! ### `ex_pathexpand` (`C06c.pathExpand_go_congr`) -/

theorem pathExpand_rel (h : EdG B a b) (src : Bytes) (sp : Bool) : R2 B (pathExpand a src sp) (pathExpand b src sp) := by
  rw [C20c.pathExpand_eq, C20c.pathExpand_eq, ← C06c.pathExpand_go_congr (x := a) (y := b) (h.paths C)]
  unfold C20c.pathFin
  cases pathExpand.go b sp (src.length + 1) src [] with
  | none => trivial
  | some o =>
    cases o with
    | none => exact R2.some (show_rel h _)
    | some p =>
      simp only []
      split
      · trivial
      · exact R2.some h

theorem pathOrCur_rel (h : EdG B a b) (arg : Bytes) :
    R2 B (if (!arg.isEmpty) = true then pathExpand a arg true else some (a.cur.map (·.path), a))
      (if (!arg.isEmpty) = true then pathExpand b arg true else some (b.cur.map (·.path), b)) :=
  R2.ite (fun _ => pathExpand_rel C h arg true) fun _ => by rw [h.cur_path C]; exact R2.some h

/-! ### `lbuf_save` -/

open Neatvi.Props.C03 (schedOf afterOpen afterWrite oldData saveClose lbufSave_eq)

omit C in
theorem afterOpen_rel (h : EdG B a b) (path : Bytes) : EdG B (afterOpen a path) (afterOpen b path) := by
  have hn := (nextFault_rel h).2
  unfold afterOpen oldData
  simp only []
  rw [hn.findFile_eq, hn.clock]
  exact { putFile_rel hn _ with clock := rfl }

omit C in
theorem afterWrite_rel (h : EdG B a b) (path old : Bytes) (n : Nat) (st : LbufIo.WrState) :
    EdG B (afterWrite a path old n st) (afterWrite b path old n st) := by
  have hs : schedOf a n = schedOf b n := by unfold schedOf; rw [h.faults, h.calls]
  unfold afterWrite
  rw [hs, h.clock, h.calls]
  exact { putFile_rel h _ with clock := rfl, calls := rfl }

omit C in
theorem lbufSave_rel (h : EdG B a b) {la lb : Lb} (hl : la.lines = lb.lines) (x : Nat) (e : Int)
    (path : Bytes) (force : Bool) (ts : Int) :
    R2 B (lbufSave a la x e path force ts) (lbufSave b lb x e path force ts) := by
  rw [lbufSave_eq, lbufSave_eq]
  have hn := nextFault_rel h
  have ho := afterOpen_rel h path
  have hs : schedOf (afterOpen a path) = schedOf (afterOpen b path) := by
    funext n; unfold schedOf; rw [ho.faults, ho.calls]
  have hel : Props.C03.endLine la e = Props.C03.endLine lb e := by unfold Props.C03.endLine; rw [hl]
  have hfu : Props.C03.fuelOf la = Props.C03.fuelOf lb := by unfold Props.C03.fuelOf; rw [hl]
  have hod : oldData a.nextFault.2 path = oldData b.nextFault.2 path := by unfold oldData; rw [hn.2.findFile_eq]
  rw [h.mtimeOf_eq, hn.1, hl, hel, hfu, hs, hod]
  refine R2.ite (fun _ => R2.some h) fun _ => R2.ite (fun _ => R2.some h) fun _ => R2.ite (fun _ => ?_) fun _ => ?_
  · exact ⟨rfl, { hn.2 with fired := by show a.nextFault.2.fired + 1 = b.nextFault.2.fired + 1; rw [hn.2.fired] }⟩
  · split
    · trivial
    · rename_i st _
      have hw := afterWrite_rel ho path (oldData b.nextFault.2 path) (Props.C03.endLine lb e - x) st
      have hc := nextFault_rel hw
      unfold saveClose
      rw [hc.1]
      exact R2.ite (fun _ => ⟨rfl, hc.2⟩) fun _ => R2.ite (fun _ => ⟨rfl, hc.2⟩) fun _ => ⟨rfl, hc.2⟩

omit C in
theorem lbufSaveP_rel (h : EdG B a b) {la lb : Lb} (hl : la.lines = lb.lines) (x : Nat) (e : Int)
    (path : Bytes) (force : Bool) (ts : Int) :
    R2 B (lbufSaveP a la x e path force ts) (lbufSaveP b lb x e path force ts) := by
  unfold lbufSaveP
  split
  · have hn := nextFault_rel h
    simp only []
    rw [hn.1]
    refine ⟨rfl, ?_⟩
    show EdG B (if _ then _ else _) (if _ then _ else _)
    split
    · exact { hn.2 with fired := by show a.nextFault.2.fired + 1 = b.nextFault.2.fired + 1; rw [hn.2.fired] }
    · exact hn.2
  · exact lbufSave_rel h hl x e path force ts

/-! ### `bufs_modified` on a slot the relation knows -/

theorem modifiedAt_rel {i : Nat} (K : Slot B S i) (h : EdG B a b) :
    (a.modifiedAt i).1 = (b.modifiedAt i).1 ∧ EdG B (a.modifiedAt i).2 (b.modifiedAt i).2 := by
  unfold Ed.modifiedAt
  rcases (K.get h.bufs).cases with ⟨r1, r2⟩ | ⟨p, q, r1, r2, hpq⟩
  · rw [r1, r2]; exact ⟨rfl, h⟩
  · rw [r1, r2]
    have hm := C.modified hpq.1
    refine ⟨hm.1, ?_⟩
    show EdG B { a with bufs := a.bufs.set i (some { p with lb := (modified p.lb).2 }) }
      { b with bufs := b.bufs.set i (some { q with lb := (modified q.lb).2 }) }
    exact { h with bufs := K.set h.bufs r1 r2 (hpq.setLb hm.2) }

theorem bufsModified_rel {i : Nat} (K : Slot B S i) (h : EdG B a b) (msg : Option Bytes) :
    R2 B (bufsModified a i msg) (bufsModified b i msg) := by
  unfold bufsModified
  rcases (K.get h.bufs).cases with ⟨r1, r2⟩ | ⟨p, q, r1, r2, _⟩
  · rw [r1, r2]; exact ⟨rfl, h⟩
  · rw [r1, r2]
    simp only []
    have hm := modifiedAt_rel C K h
    rw [hm.1]
    split
    · exact ⟨rfl, hm.2⟩
    · rcases (K.get hm.2.bufs).cases with ⟨s1, s2⟩ | ⟨p', q', s1, s2, hpq'⟩
      · rw [s1, s2]; trivial
      · rw [s1, s2]
        simp only []
        rw [hm.2.xaw, hpq'.path, hpq'.mtime]
        split
        · rcases (lbufSave_rel hm.2 (C.lines hpq'.1) 0 (-1) q'.path false q'.mtime).cases with ⟨t1, t2⟩ | ⟨v, a1, b1, t1, t2, hab⟩
          · rw [t1, t2]; trivial
          · rw [t1, t2]; exact ⟨rfl, hab⟩
        · refine ⟨rfl, ?_⟩
          cases msg with
          | none => exact hm.2
          | some m => exact show_rel hm.2 m

/-- `bufs_modified` as a guard that an option or `!` switches off -/
theorem guard_rel {i : Nat} (K : Slot B S i) (h : EdG B a b) (c : Bool) (msg : Option Bytes) :
    R2 B (if c = true then bufsModified a i msg else some (false, a))
      (if c = true then bufsModified b i msg else some (false, b)) :=
  R2.ite (fun _ => bufsModified_rel C K h msg) fun _ => R2.some h

/-! ### `ex_region`: the region depends on the state through the address observations only (`C06c.exRegion_congr`) -/

theorem exRegion_rel (h : EdG B a b) (loc : Bytes) : R2 B (exRegion a loc) (exRegion b loc) := by
  rw [C06c.exRegion_congr (x := a) (y := b)
    ⟨h.xrow.symm, h.xkwd.symm, h.xkwddir.symm, h.xic.symm, (h.len_eq C).symm, fun i => (h.line_eq C i).symm,
      fun c => (h.jump_eq C c).symm⟩]
  cases hr : exRegion a loc with
  | none => trivial
  | some p =>
    obtain ⟨r, a'⟩ := p
    obtain ⟨x, k, d, rfl⟩ := C02Ex.exRegion_addr hr
    exact ⟨rfl, { h with xrow := rfl, xkwd := rfl, xkwddir := rfl }⟩

/-! ### the handlers -/

theorem insertAt_rel (h : EdG B a b) (s : Option Bytes) (x y : Int) : R2 B (insertAt a s x y) (insertAt b s x y) := by
  unfold insertAt
  rw [h.len_eq C]
  rcases (edit_rel C h s x y).cases with ⟨s1, s2⟩ | ⟨a2, b2, s1, s2, h2⟩
  · rw [s1, s2]; trivial
  · rw [s1, s2]
    simp only []
    rw [h2.len_eq C]
    exact R2.some { h2 with xrow := rfl }

theorem ecInsert_rel (h : EdG B a b) (loc cmd : Bytes) (txt : Option Bytes) :
    R2 B (ecInsert a loc cmd txt) (ecInsert b loc cmd txt) := by
  unfold ecInsert
  r2_cases exRegion_rel C h loc with v a1 b1 h1
  · trivial
  · obtain ⟨rc, x, e⟩ := v
    exact R2.ite (fun _ => R2.some h1) fun _ => insertAt_rel C h1 _ _ _

theorem ecPrint_rel (h : EdG B a b) (loc cmd : Bytes) : R2 B (ecPrint a loc cmd) (ecPrint b loc cmd) := by
  unfold ecPrint
  rw [h.xrow, h.len_eq C]
  refine R2.ite (fun _ => R2.some h) fun _ => ?_
  r2_cases exRegion_rel C h loc with v a1 b1 h1
  · trivial
  · obtain ⟨rc, x, e⟩ := v
    refine R2.ite (fun _ => R2.some h1) fun _ => ?_
    exact R2.some { foldl_print_rel C x _ _ _ h1 with xrow := rfl, xoff := rfl }

theorem ecDelete_rel (h : EdG B a b) (yank : Bool) (loc arg : Bytes) :
    R2 B (ecDelete yank a loc arg) (ecDelete yank b loc arg) := by
  unfold ecDelete
  r2_cases exRegion_rel C h loc with v a1 b1 h1
  · trivial
  · obtain ⟨rc, x, e⟩ := v
    simp only []
    rw [h1.len_eq C, h1.regs, h1.cp_eq C]
    have h2 : EdG B { a1 with regs := b1.regs.put (regName arg) (b1.cp x e) 1 }
        { b1 with regs := b1.regs.put (regName arg) (b1.cp x e) 1 } := { h1 with regs := rfl }
    refine R2.ite (fun _ => R2.some h1) fun _ => R2.ite (fun _ => R2.some h2) fun _ => ?_
    rcases (edit_rel C h2 none x e).cases with ⟨s1, s2⟩ | ⟨a2, b2, s1, s2, h3⟩
    · rw [s1, s2]; trivial
    · rw [s1, s2]; exact R2.some { h3 with xrow := rfl }

theorem ecLnum_rel (h : EdG B a b) (loc : Bytes) : R2 B (ecLnum a loc) (ecLnum b loc) := by
  unfold ecLnum
  r2_cases exRegion_rel C h loc with v a1 b1 h1
  · trivial
  · obtain ⟨rc, x, e⟩ := v
    exact R2.ite (fun _ => R2.some h1) fun _ => R2.some (print_rel h1 _)

theorem ecHist_rel {u : Lb → Option (Nat × Lb)} (hu : ∀ la lb, S la lb → ORel (PRel S) (u la) (u lb))
    (h : EdG B a b) : R2 B (ecHist u a) (ecHist u b) := by
  unfold ecHist
  rcases h.lb_cases C with ⟨r1, r2⟩ | ⟨la, lb, r1, r2, hl⟩
  · rw [r1, r2]; trivial
  · rw [r1, r2]
    simp only [Option.bind_some]
    rcases (hu la lb hl).cases with ⟨s1, s2⟩ | ⟨⟨n, la'⟩, ⟨n', lb'⟩, s1, s2, hn, hl'⟩
    · rw [s1, s2]; trivial
    · simp only at hn hl'
      subst hn
      rw [s1, s2]
      exact R2.some (setLb_rel C h hl')

theorem ecMark_rel (h : EdG B a b) (loc arg : Bytes) : R2 B (ecMark a loc arg) (ecMark b loc arg) := by
  unfold ecMark
  r2_cases exRegion_rel C h loc with v a1 b1 h1
  · trivial
  · obtain ⟨rc, x, e⟩ := v
    refine R2.ite (fun _ => R2.some h1) fun _ => ?_
    rcases h1.lb_cases C with ⟨s1, s2⟩ | ⟨la, lb, s1, s2, hl⟩
    · rw [s1, s2]; trivial
    · rw [s1, s2]
      exact R2.some (setLb_rel C h1 (C.setMark hl _ _ _))

/-! ### `ec_write` over its stages (`C20c.ecWrite_eq`) -/

open Neatvi.Lemmas.C02Ex (writeFinish)
open Neatvi.Lemmas.C20c (writeSave writeRegion writeAfterX writeAfterPath ecWrite_eq)

theorem writeFinish_rel (h : EdG B a b) {p0 q0 ca cb : Buf} (ha : a.cur = some p0) (hb : b.cur = some q0)
    (hc : BufS S ca cb) (path : Bytes) (x e : Int) : R2 B (writeFinish a ca path x e) (writeFinish b cb path x e) := by
  unfold writeFinish
  simp only []
  rw [hc.path]
  have key : ∀ (a' b' : Ed) (ca' cb' : Buf), EdG B a' b' → a'.cur = some p0 → b'.cur = some q0 → BufS S ca' cb' →
      R2 B (if (ca'.path == path && x == 0 && e == a'.len) = true then
          some ((0 : Int), a'.setCur { ca' with lb := (modified (savedCore ca'.lb false)).2, mtime := a'.mtimeOf path })
        else if (ca'.path == path) = true then some (0, a'.setCur { ca' with lb := unsavedMark ca'.lb, mtime := a'.mtimeOf path })
        else some (0, a'.setCur ca'))
        (if (cb'.path == path && x == 0 && e == b'.len) = true then
          some ((0 : Int), b'.setCur { cb' with lb := (modified (savedCore cb'.lb false)).2, mtime := b'.mtimeOf path })
        else if (cb'.path == path) = true then some (0, b'.setCur { cb' with lb := unsavedMark cb'.lb, mtime := b'.mtimeOf path })
        else some (0, b'.setCur cb')) := by
    intro a' b' ca' cb' h' ha' hb' hc'
    rw [show (ca'.path == path) = (cb'.path == path) from by rw [hc'.path], h'.len_eq C, h'.mtimeOf_eq]
    refine R2.ite (fun _ => ?_) fun _ => R2.ite (fun _ => ?_) fun _ => R2.some (setCur_rel C h' ha' hb' hc')
    · exact R2.some (setCur_rel C h' ha' hb' (hc'.setLbMtime (C.modified (C.savedCore hc'.1 false)).2 _))
    · exact R2.some (setCur_rel C h' ha' hb' (hc'.setLbMtime (C.unsavedMark hc'.1) _))
  split
  · exact key _ _ _ _ { h with regs := by show a.regs.put 37 path 0 = b.regs.put 37 path 0; rw [h.regs] } ha hb
      (hc.setPath path)
  · exact key _ _ _ _ h ha hb hc

theorem writeSave_rel (h : EdG B a b) {ca cb : Buf} (hc : BufS S ca cb) (cmd path : Bytes)
    (be : Int × Int) : R2 B (writeSave a ca cmd path be) (writeSave b cb cmd path be) := by
  obtain ⟨x, e⟩ := be
  unfold writeSave
  simp only []
  refine R2.ite (fun _ => R2.ite (fun _ => R2.some h) fun _ => ?_) fun _ => ?_
  · refine R2.some ?_
    have hs := show_rel h ([34] ++ path ++ strOf "\"  [=" ++ intStr (e - x) ++ strOf "]  [w]")
    exact EdG.ite hs.xvis { hs with unmodelled := rfl } hs
  · rw [hc.path, hc.mtime]
    r2_cases lbufSaveP_rel h (C.lines hc.1) x.toNat e path (hasBang cmd) (if (cb.path == path) = true then cb.mtime else 0)
      with v a1 b1 h1
    · trivial
    · cases v with
      | some err => exact R2.some (show_rel h1 err)
      | none =>
        simp only []
        have hs := show_rel h1 ([34] ++ path ++ strOf "\"  [=" ++ intStr (e - x) ++ strOf "]  [w]")
        rcases hs.cur_cases C with ⟨s1, s2⟩ | ⟨p, q, s1, s2, hpq⟩
        · rw [s1, s2]; trivial
        · rw [s1, s2]
          exact writeFinish_rel C hs s1 s2 hpq path x e

theorem writeRegion_rel (h : EdG B a b) (loc cmd : Bytes) (path : Option Bytes) :
    R2 B (writeRegion a loc cmd path) (writeRegion b loc cmd path) := by
  unfold writeRegion
  r2_cases exRegion_rel C h loc with v a1 b1 h1
  · trivial
  · obtain ⟨rc, x, e⟩ := v
    simp only []
    split
    · exact R2.some h1
    · rcases h1.cur_cases C with ⟨s1, s2⟩ | ⟨p, q, s1, s2, hpq⟩
      · rw [s1, s2]; trivial
      · rw [s1, s2]
        simp only []
        rw [h1.len_eq C]
        exact writeSave_rel C h1 hpq cmd _ _

theorem ecWrite_rel (h : EdG B a b) (loc cmd arg : Bytes) : R2 B (ecWrite a loc cmd arg) (ecWrite b loc cmd arg) := by
  rw [ecWrite_eq, ecWrite_eq]
  unfold writeAfterPath
  r2_cases pathOrCur_rel C h arg with path a1 b1 h1
  · trivial
  · simp only []
    have hx : R2 B (if (cmd.headD 0 == 120) = true then some (a1.modifiedAt 0) else some (true, a1))
        (if (cmd.headD 0 == 120) = true then some (b1.modifiedAt 0) else some (true, b1)) := by
      split
      · exact modifiedAt_rel C C.cur h1
      · exact R2.some h1
    r2_cases hx with v a2 b2 h2
    · trivial
    · unfold writeAfterX
      cases v with
      | false => exact R2.some h2
      | true => exact writeRegion_rel C h2 loc cmd path

/-! ### `:s` over its loop (`Props.C14.runCmd_subst_eq`) -/

open Neatvi.Props.C14 (substPrep substStep substLoop substLoop_succ)

omit C in
theorem substPrep_rel (h : EdG B a b) (arg : Bytes) :
    EdG B (substPrep a arg).1 (substPrep b arg).1 ∧ (substPrep a arg).2 = (substPrep b arg).2 := by
  have h1 : EdG B
      (match (reRead arg).1 with | some p => if (!p.isEmpty) = true then a.kwdSet (some p) 1 else a | none => a)
      (match (reRead arg).1 with | some p => if (!p.isEmpty) = true then b.kwdSet (some p) 1 else b | none => b) := by
    cases (reRead arg).1 with
    | none => exact h
    | some p => exact EdG.ite rfl (C09.kwdSet_g h _ _) h
  refine ⟨?_, rfl⟩
  unfold substPrep
  simp only []
  exact EdG.ite rfl { h1 with xrep := rfl } h1

theorem substStep_rel (re : Rset.RStr) (g : Bool) (i : Int) (h : EdG B a b) :
    ORel (EdG B) (substStep re g i a) (substStep re g i b) := by
  unfold substStep
  rw [h.line_eq C, h.xrep]
  cases b.line i with
  | none => trivial
  | some ln =>
    simp only []
    cases substLine re b.xrep g ln with
    | none => trivial
    | some o =>
      cases o with
      | none => exact h
      | some nl => exact edit_rel C h (some nl) i (i + 1)

theorem substLoop_rel (re : Rset.RStr) (g : Bool) (x : Int) (h : EdG B a b) : ∀ n : Nat,
    ORel (EdG B) (substLoop re g x n a) (substLoop re g x n b) := by
  intro n
  induction n with
  | zero => exact h
  | succ n ih =>
    rw [substLoop_succ, substLoop_succ]
    rcases ih.cases with ⟨r1, r2⟩ | ⟨a1, b1, r1, r2, h1⟩
    · rw [r1, r2]; trivial
    · rw [r1, r2]
      simp only [Option.bind_some]
      rw [h1.len_eq C, h.len_eq C]
      exact substStep_rel C re g _ h1

theorem ecSubst_rel (h : EdG B a b) (loc arg : Bytes) : R2 B (ecSubst a loc arg) (ecSubst b loc arg) := by
  rw [← runCmd_subst 0 a loc [] arg none, ← runCmd_subst 0 b loc [] arg none, Props.C14.runCmd_subst_eq,
    Props.C14.runCmd_subst_eq]
  r2_cases exRegion_rel C h loc with v a1 b1 h1
  · trivial
  · obtain ⟨rc, x, e⟩ := v
    simp only []
    refine R2.ite (fun _ => R2.some h1) fun _ => ?_
    obtain ⟨hp, hg⟩ := substPrep_rel h1 arg
    rw [hp.xkwddir, hp.mkRe_eq, hp.xkwd, hg]
    refine R2.ite (fun _ => R2.some hp) fun _ => ?_
    cases (substPrep b1 arg).1.mkRe (substPrep b1 arg).1.xkwd with
    | none => trivial
    | some o =>
      cases o with
      | none => exact R2.some hp
      | some re =>
        simp only []
        rcases (substLoop_rel C re (substPrep b1 arg).2 x hp (e - x).toNat).cases with ⟨s1, s2⟩ | ⟨a2, b2, s1, s2, h2⟩
        · rw [s1, s2]; trivial
        · rw [s1, s2]; exact R2.some h2

/-! ### the other handlers -/

theorem ecNullVi_rel (h : EdG B a b) (loc : Bytes) : R2 B (ecNullVi a loc) (ecNullVi b loc) := by
  unfold ecNullVi
  r2_cases exRegion_rel C h loc with v a1 b1 h1
  · trivial
  · obtain ⟨rc, x, e⟩ := v
    exact R2.ite (fun _ => R2.some h1) fun _ => R2.some { h1 with xrow := rfl, xoff := rfl }

theorem ecPut_rel (h : EdG B a b) (loc arg : Bytes) : R2 B (ecPut a loc arg) (ecPut b loc arg) := by
  unfold ecPut
  rw [h.regGet_eq C]
  cases regGet b (regName arg) with
  | none => exact R2.some h
  | some buf =>
    simp only []
    r2_cases exRegion_rel C h loc with v a1 b1 h1
    · trivial
    · obtain ⟨rc, x, e⟩ := v
      exact R2.ite (fun _ => R2.some h1) fun _ => insertAt_rel C h1 _ _ _

theorem ecExec_rel (h : EdG B a b) (loc arg : Bytes) : R2 B (ecExec a loc arg) (ecExec b loc arg) := by
  unfold ecExec
  simp only []
  rw [h.xwa]
  r2_cases guard_rel C C.cur h (b.xwa == 0) (some (strOf "buffer modified")) with v a1 b1 h1
  · trivial
  · cases v with
    | true => exact R2.some h1
    | false =>
      simp only []
      r2_cases pathExpand_rel C h1 arg true with p a2 b2 h2
      · trivial
      · cases p with
        | none => exact R2.some h2
        | some ecmd =>
          refine R2.ite (fun _ => R2.some { h2 with unmodelled := rfl }) fun _ => ?_
          r2_cases exRegion_rel C h2 loc with v a3 b3 h3
          · trivial
          · obtain ⟨rc, x, e⟩ := v
            refine R2.ite (fun _ => R2.some h3) fun _ => ?_
            rw [h3.pipe_eq, h3.cp_eq C]
            cases b3.pipe ecmd (b3.cp x e) with
            | none => exact R2.some { h3 with unmodelled := rfl }
            | some o =>
              cases o with
              | none => exact R2.some h3
              | some rep =>
                simp only []
                rcases (edit_rel C h3 (some rep) x e).cases with ⟨s1, s2⟩ | ⟨a4, b4, s1, s2, h4⟩
                · rw [s1, s2]; trivial
                · rw [s1, s2]; exact R2.some h4

theorem readDone_rel (h : EdG B a b) (path : Bytes) (e n : Int) : R2 B (readDone a path e n) (readDone b path e n) := by
  unfold readDone
  rw [h.len_eq C]
  have h' : EdG B { a with xrow := e + b.len - n - 1 } { b with xrow := e + b.len - n - 1 } := { h with xrow := rfl }
  exact R2.some (show_rel h' _)

theorem readPipe_rel (h : EdG B a b) (path : Bytes) (pos e n : Int) :
    R2 B (readPipe a path pos e n) (readPipe b path pos e n) := by
  unfold readPipe
  refine R2.ite (fun _ => R2.some h) fun _ => ?_
  rw [h.pipe_eq]
  cases b.pipe (path.drop 1) [] with
  | none => exact R2.some { h with unmodelled := rfl }
  | some obuf =>
    cases obuf with
    | none => exact readDone_rel C h path e n
    | some o =>
      simp only []
      rcases (edit_rel C h (some o) pos pos).cases with ⟨s1, s2⟩ | ⟨a3, b3, s1, s2, h3⟩
      · rw [s1, s2]; trivial
      · rw [s1, s2]; exact readDone_rel C h3 path e n

theorem readFile_rel (h : EdG B a b) (path : Bytes) (pos e n : Int) :
    R2 B (readFile a path pos e n) (readFile b path pos e n) := by
  unfold readFile
  rw [h.findFile_eq]
  cases b.findFile path with
  | none => exact R2.some (show_rel h _)
  | some fl =>
    simp only []
    rcases h.lb_cases C with ⟨s1, s2⟩ | ⟨la, lb, s1, s2, hl⟩
    · rw [s1, s2]; trivial
    · rw [s1, s2]
      simp only [Option.bind_some]
      rcases (C.rd hl [fl.data] false pos.toNat pos.toNat).cases with ⟨t1, t2⟩ | ⟨⟨n1, la'⟩, ⟨n2, lb'⟩, t1, t2, _, hl'⟩
      · rw [t1, t2]; trivial
      · rw [t1, t2]
        simp only at hl'
        exact readDone_rel C (setLb_rel C h hl') path e n

theorem ecRead_rel (h : EdG B a b) (loc arg : Bytes) : R2 B (ecRead a loc arg) (ecRead b loc arg) := by
  unfold ecRead
  simp only []
  rw [h.len_eq C]
  r2_cases pathOrCur_rel C h arg with path a1 b1 h1
  · trivial
  · simp only []
    r2_cases exRegion_rel C h1 loc with v a2 b2 h2
    · trivial
    · obtain ⟨rc, x, e⟩ := v
      simp only []
      refine R2.ite (fun _ => R2.some h2) fun _ => ?_
      rw [h2.len_eq C]
      exact R2.ite (fun _ => readPipe_rel C h2 _ _ _ _) fun _ => readFile_rel C h2 _ _ _ _

omit C in
theorem ecSet_rel (h : EdG B a b) (arg : Bytes) : R2 B (ecSet a arg) (ecSet b arg) := by
  unfold ecSet
  refine R2.ite (fun _ => R2.some h) fun _ => ?_
  simp only []
  generalize optVar _ = o
  cases o with
  | some v => exact R2.some (setOpt_rel h _ _)
  | none => exact R2.some (show_rel h _)


/-! ### the dispatcher, on the handlers that work on the current buffer -/

theorem runCmd_rel (h : EdG B a b) (f : Nat) (hd : String) (loc cmd arg : Bytes) (txt : Option Bytes)
    (hl : (hd == "ec_edit" || hd == "ec_buffer" || hd == "ec_quit" || hd == "ec_glob" || hd == "ec_at") = false) :
    R2 B (runCmd f a hd loc cmd arg txt) (runCmd f b hd loc cmd arg txt) := by
  cases f with
  | zero => rw [runCmd, runCmd]; trivial
  | succ f =>
    simp only [Bool.or_eq_false_iff] at hl
    obtain ⟨⟨⟨⟨he, hbuf⟩, hq⟩, hglob⟩, hat⟩ := hl
    rw [runCmd_eq, runCmd_eq, he, hbuf, hq, hglob, hat]
    refine R2.ite (fun _ => ecInsert_rel C h loc cmd txt) fun _ => R2.ite (fun _ => ecPrint_rel C h loc cmd) fun _ => ?_
    refine R2.ite (fun _ => R2.iteB (by rw [h.xvis]) (fun _ => ?_) fun _ => ecNullVi_rel C h loc) fun _ => ?_
    · have h' : EdG B { a with xrow := if a.xrow + 1 < a.len then a.xrow + 1 else a.xrow }
          { b with xrow := if b.xrow + 1 < b.len then b.xrow + 1 else b.xrow } :=
        { h with xrow := (by
            show (if a.xrow + 1 < a.len then a.xrow + 1 else a.xrow) = (if b.xrow + 1 < b.len then b.xrow + 1 else b.xrow)
            rw [h.xrow, h.len_eq C]) }
      cases f with
      | zero => rw [runCmd, runCmd]; trivial
      | succ f => rw [runCmd_print, runCmd_print]; exact ecPrint_rel C h' loc cmd
    refine R2.ite (fun _ => ecDelete_rel C h _ loc arg) fun _ => R2.ite (fun _ => ecPut_rel C h loc arg) fun _ => ?_
    refine R2.ite (fun _ => ecLnum_rel C h loc) fun _ => ?_
    refine R2.ite (fun _ => ecHist_rel C (fun _ _ hl => C.undo hl) h) fun _ => ?_
    refine R2.ite (fun _ => ecHist_rel C (fun _ _ hl => C.redo hl) h) fun _ => ?_
    refine R2.ite (fun _ => ecMark_rel C h loc arg) fun _ => R2.ite (fun _ => ?_) fun _ => ?_
    · rw [h.regs]; exact R2.some { h with regs := rfl }
    refine R2.ite (fun c => absurd c (by simp)) fun _ => R2.ite (fun c => absurd c (by simp)) fun _ => ?_
    refine R2.ite (fun c => absurd c (by simp)) fun _ => ?_
    refine R2.ite (fun _ => ecSubst_rel C h loc arg) fun _ => R2.ite (fun _ => ecExec_rel C h loc arg) fun _ => ?_
    refine R2.ite (fun _ => ecRead_rel C h loc arg) fun _ => R2.ite (fun _ => ecWrite_rel C h loc cmd arg) fun _ => ?_
    refine R2.ite (fun c => absurd c (by simp)) fun _ => R2.ite (fun c => absurd c (by simp)) fun _ => ?_
    refine R2.ite (fun _ => ecSet_rel h arg) fun _ => R2.ite (fun _ => R2.some (print_rel h _)) fun _ => ?_
    exact R2.some { h with unmodelled := rfl }

/-! ### a command line: `ex_txt`, one command, the loop of `ex_exec` -/

open Neatvi.Lemmas.C06b (Parsed parse1 runOne abbrOf cmds_succ)

omit C in
theorem exTxt_rel (h : EdG B a b) (src excmd : Bytes) :
    (exTxt a src excmd).1 = (exTxt b src excmd).1 ∧ EdG B (exTxt a src excmd).2 (exTxt b src excmd).2 := by
  unfold exTxt
  simp only []
  rw [h.input]
  repeat' split
  all_goals first | exact ⟨rfl, h⟩ | exact ⟨rfl, { h with input := rfl }⟩ | (exfalso; contradiction)

omit C in
theorem runOne_rel (f : Nat) (ok : String → Bool)
    (hr : ∀ hd, ok hd = true → ∀ a b loc cmd arg txt, EdG B a b → R2 B (runCmd f a hd loc cmd arg txt) (runCmd f b hd loc cmd arg txt))
    (h : EdG B a b) (p : Parsed) (ret : Int) (hp : ∀ x hh, p.idx = some (x, hh) → ok hh = true) :
    ORel (fun (u v : (Int × Ed) × Bytes) => u.1.1 = v.1.1 ∧ EdG B u.1.2 v.1.2 ∧ u.2 = v.2)
      (runOne f a p ret) (runOne f b p ret) := by
  obtain ⟨loc, cmd, idx, arg, rest⟩ := p
  unfold runOne
  have ht := exTxt_rel h rest (abbrOf idx)
  cases idx with
  | none =>
    simp only []
    exact ⟨rfl, show_rel ht.2 _, by rw [ht.1]⟩
  | some ah =>
    obtain ⟨ab, hh⟩ := ah
    simp only []
    rw [ht.1]
    r2_cases hr hh (hp ab hh rfl) _ _ loc cmd arg (exTxt b rest (abbrOf (some (ab, hh)))).1.1 ht.2 with r a1 b1 h1
    · trivial
    · exact ⟨rfl, h1, rfl⟩

/-- the commands `ex_exec` will dispatch on the line all have handlers in `ok` (the split of a line into commands does
    not depend on the editor state) -/
def okCmds (ok : String → Bool) : Nat → Bytes → Bool
  | 0, _ => true
  | g + 1, ln =>
    if ln.isEmpty then true else
    (match (parse1 ln).idx with | none => true | some (_, h) => ok h) &&
      okCmds ok g (exTxt {} (parse1 ln).rest (abbrOf (parse1 ln).idx)).1.2

omit C in
theorem okCmds_true : ∀ (g : Nat) (ln : Bytes), okCmds (fun _ => true) g ln = true := by
  intro g
  induction g with
  | zero => intro ln; rfl
  | succ g ih =>
    intro ln
    rw [okCmds, ih]
    split
    · rfl
    · cases (parse1 ln).idx <;> rfl

theorem cmds_rel (f : Nat) (ok : String → Bool)
    (hr : ∀ hd, ok hd = true → ∀ a b loc cmd arg txt, EdG B a b → R2 B (runCmd f a hd loc cmd arg txt) (runCmd f b hd loc cmd arg txt)) :
    ∀ (g : Nat) (a b : Ed) (ln : Bytes) (ret : Int), EdG B a b → okCmds ok g ln = true →
      R2 B (exExec.cmds f g a ln ret) (exExec.cmds f g b ln ret) := by
  intro g
  induction g with
  | zero => intro a b ln ret h _; rw [exExec.cmds, exExec.cmds]; exact R2.some h
  | succ g ih =>
    intro a b ln ret h hq
    rw [cmds_succ, cmds_succ]
    rw [okCmds] at hq
    split
    · exact R2.some h
    · rename_i hne
      rw [if_neg hne, Bool.and_eq_true] at hq
      have hp : ∀ x hh, (parse1 ln).idx = some (x, hh) → ok hh = true := by
        intro x hh e; have := hq.1; rw [e] at this; exact this
      rcases (runOne_rel f ok hr h (parse1 ln) ret hp).cases with
        ⟨r1, r2⟩ | ⟨⟨⟨r, a1⟩, rest⟩, ⟨⟨r', b1⟩, rest'⟩, r1, r2, e1, h1, e2⟩
      · rw [r1, r2]; trivial
      · simp only at e1 h1 e2
        subst e1 e2
        rw [r1, r2]
        refine ih _ _ _ _ h1 ?_
        rw [show rest = (exTxt {} (parse1 ln).rest (abbrOf (parse1 ln).idx)).1.2 from
          Lemmas.C06b.runOne_rest f a ln ret _ rest r1]
        exact hq.2

theorem exExec_rel (f : Nat) (ok : String → Bool)
    (hr : ∀ hd, ok hd = true → ∀ a b loc cmd arg txt, EdG B a b → R2 B (runCmd f a hd loc cmd arg txt) (runCmd f b hd loc cmd arg txt))
    (h : EdG B a b) (ln : Bytes) (hq : okCmds ok (ln.length + 1) ln = true) :
    R2 B (exExec (f + 1) a ln) (exExec (f + 1) b ln) := by
  rw [exExec, exExec]
  split
  · exact R2.some (show_rel h _)
  · exact cmds_rel C f ok hr _ a b ln 0 h hq

end

end Neatvi.Lemmas.ExCong
