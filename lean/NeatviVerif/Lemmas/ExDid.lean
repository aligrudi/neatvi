import NeatviVerif.Lemmas.C06Ex
import NeatviVerif.Lemmas.C20Dispatch
import NeatviVerif.Lemmas.ExFrame
import NeatviVerif.Lemmas.Basics
import NeatviVerif.Lemmas.C06bProgress
/-!
# One judgement for a call of the ex layer, and what a handler on the current buffer did

`Run C Q x` (`x` any `Option`): whatever `x` returns has `Q`, and under `C` it does return.  The handlers are walked once for this
judgement, on the goal: at a `match` on a callee, `cases hx : callee` leaves `Run.none` (refute `C`: the callee is
total) and the branch with the equation `hx` (read what the callee did off it).  "never traps" is `Run.tot`, a
partial-correctness fact is `Run.post`.

`Did T L n a e b`: `b` comes from `a` by the steps the handlers on the current buffer take, each with the guard
under which the handlers take it.  What an invariant needs of a handler it needs of these steps.
-/
namespace Neatvi.Lemmas.ExDid
open Neatvi Neatvi.Lbuf Neatvi.Ex Neatvi.Lemmas.ExFrame Neatvi.Lemmas.C06

def Tot {β : Type} (Q : β → Prop) (x : Option β) : Prop := ∃ p, x = some p ∧ Q p

structure Run {β : Type} (C : Prop) (Q : β → Prop) (x : Option β) : Prop where
  post : ∀ p, x = some p → Q p
  live : C → x ≠ none

variable {β : Type} {C : Prop} {Q : β → Prop}

theorem Run.none (h : ¬ C) : Run C Q none := ⟨fun _ hp => (nomatch hp), fun hC => absurd hC h⟩

theorem Run.some {p : β} (h : Q p) : Run C Q (some p) := ⟨fun _ hp => (Option.some.inj hp) ▸ h, fun _ h => (nomatch h)⟩

theorem Run.ite {c : Prop} [Decidable c] {x y : Option β} (hx : c → Run C Q x) (hy : ¬ c → Run C Q y) :
    Run C Q (if c then x else y) := Basics.ite_elim hx hy

theorem Run.tot {x : Option β} (h : Run C Q x) (hC : C) : Tot Q x := by
  cases hx : x with
  | none => exact absurd hx (h.live hC)
  | some p => exact ⟨p, rfl, h.post p hx⟩

theorem Run.mono {C' : Prop} {Q' : β → Prop} {x : Option β} (h : Run C Q x) (hC : C' → C) (hQ : ∀ p, Q p → Q' p) :
    Run C' Q' x := ⟨fun p hp => hQ p (h.post p hp), fun hC' => h.live (hC hC')⟩

/-- output, messages, options and the "not modelled" flag only -/
def Shown (b c : Ed) : Prop :=
  ∃ out msg um aw wa ic td, c = { b with out := out, msg := msg, unmodelled := um, xaw := aw, xwa := wa, xic := ic, xtd := td }

theorem Shown.print (b : Ed) (m : Bytes) : Shown b (b.print m) := ⟨_, _, _, _, _, _, _, rfl⟩
theorem Shown.show (b : Ed) (m : Bytes) : Shown b (b.show m) := ⟨_, _, _, _, _, _, _, rfl⟩
theorem Shown.flag (b : Ed) : Shown b { b with unmodelled := true } := ⟨_, _, _, _, _, _, _, rfl⟩
theorem Shown.ite {b x y : Ed} {c : Prop} [Decidable c] (hx : Shown b x) (hy : Shown b y) : Shown b (if c then x else y) := by
  split <;> assumption

theorem Shown.opt (b : Ed) (v : String) (x : Int) : Shown b (setOpt b v x) :=
  .ite ⟨b.out, b.msg, b.unmodelled, x, b.xwa, b.xic, b.xtd, rfl⟩ (.ite ⟨b.out, b.msg, b.unmodelled, b.xaw, x, b.xic, b.xtd, rfl⟩
    (.ite ⟨b.out, b.msg, b.unmodelled, b.xaw, b.xwa, x, b.xtd, rfl⟩ (.ite ⟨b.out, b.msg, b.unmodelled, b.xaw, b.xwa, b.xic, x, rfl⟩
      ⟨b.out, b.msg, b.unmodelled, b.xaw, b.xwa, b.xic, b.xtd, rfl⟩)))

/-- the steps of the handlers that work on the current buffer.  `T b t`: the text `t` may be written in the state `b` (the
    text lines of `:a`, the register of `:pu`, what `:s` makes of a line of `b`), `L`: the address is a C string, `n`: the length of the buffer the handler
    leaves (the row it sets is inside that buffer), `e`: a line may have been edited (the undo history is open
    afterwards) -/
inductive Did (T : Ed → Bytes → Prop) (L : Prop) (n : Int) (a : Ed) : Bool → Ed → Prop
  | refl {e} : Did T L n a e a
  /-- `ex_region`: the row stays or is a line number of the address; the keyword is a pattern of the address -/
  | addr {e b c} : Did T L n a e b → AddrOnly b c → (c.xrow = b.xrow ∨ (-1 ≤ c.xrow ∧ c.xrow ≤ NUMMAX)) →
      (L → 0 ∉ b.xkwd → 0 ∉ c.xkwd) → Did T L n a e c
  | look {e b c} : Did T L n a e b → Shown b c → Did T L n a e c
  /-- `lbuf_edit` with an ordered range, of a text from outside or of none -/
  | edit {e b c} (s : Option Bytes) (x y : Int) : Did T L n a e b → 0 ≤ x → x ≤ y → (∀ t, s = some t → T b t) →
      b.edit s x y = some c → Did T L n a true c
  /-- lines of the buffer go to a register -/
  | yank {e b} (k : Nat) (x y : Int) (i : Nat) : Did T L n a e b →
      Did T L n a e { b with regs := b.regs.put k (b.cp x y) i }
  /-- a text from outside (or the empty one) goes to a register -/
  | reg {e b} (k : Nat) (t : Bytes) (i : Nat) : Did T L n a e b → (t = [] ∨ T b t) →
      Did T L n a e { b with regs := b.regs.put k t i }
  /-- a mark is put on a row of the buffer -/
  | mark {e b l} (c : Nat) (p o : Int) : Did T L n a e b → b.lb = some l → -1 ≤ p → p ≤ l.lines.length →
      Did T L n a e (b.setLb (setMark l c p o))
  /-- the row is put inside the buffer the handler leaves -/
  | row {e b} (r : Int) : Did T L n a e b → -1 ≤ r → r ≤ n → Did T L n a e { b with xrow := r }
  /-- the row moves down a line (`ec_null` in ex mode) -/
  | down {e b} : Did T L n a e b → b.xrow + 1 < n → Did T L n a e { b with xrow := b.xrow + 1 }
  | col {e b} (o : Int) : Did T L n a e b → 0 ≤ o → Did T L n a e { b with xoff := o }

theorem setLb_xrep (ed : Ed) (lb : Lb) : (ed.setLb lb).xrep = ed.xrep := by unfold Ed.setLb; split <;> rfl

theorem edit_xrep {ed ed' : Ed} {t : Option Bytes} {b e : Int} (h : ed.edit t b e = some ed') : ed'.xrep = ed.xrep := by
  obtain ⟨_, _, lb, lb', _, _, rfl, _⟩ := Ed_edit_some h
  exact setLb_xrep _ _

namespace Did
variable {T : Ed → Bytes → Prop} {L : Prop} {n : Int} {e : Bool} {a b c : Ed}

theorem print (m : Bytes) (h : Did T L n a e b) : Did T L n a e (b.print m) := .look h (.print b m)
theorem msg (m : Bytes) (h : Did T L n a e b) : Did T L n a e (b.show m) := .look h (.show b m)
theorem flag (h : Did T L n a e b) : Did T L n a e { b with unmodelled := true } := .look h (.flag b)
theorem opt (v : String) (x : Int) (h : Did T L n a e b) : Did T L n a e (setOpt b v x) := .look h (.opt b v x)

theorem weaken (h : Did T L n a e b) : Did T L n a true b := by
  induction h with
  | refl => exact .refl
  | addr _ ha hr hk ih => exact .addr ih ha hr hk
  | look _ hs ih => exact .look ih hs
  | edit s x y _ h0 hxy hs he ih => exact .edit s x y ih h0 hxy hs he
  | yank k x y i _ ih => exact .yank k x y i ih
  | reg k t i _ ht ih => exact .reg k t i ih ht
  | mark c p o _ hl h0 h1 ih => exact .mark c p o ih hl h0 h1
  | row r _ h0 h1 ih => exact .row r ih h0 h1
  | down _ h1 ih => exact .down ih h1
  | col o _ h0 ih => exact .col o ih h0

theorem trans {e' : Bool} (h1 : Did T L n a e b) (h2 : Did T L n b e' c) : Did T L n a (e || e') c := by
  induction h2 with
  | @refl e' => cases e <;> cases e' <;> first | exact h1 | exact h1.weaken
  | addr _ ha hr hk ih => exact .addr ih ha hr hk
  | look _ hs ih => exact .look ih hs
  | edit s x y _ h0 hxy hs he ih => rw [Bool.or_true]; exact .edit s x y ih h0 hxy hs he
  | yank k x y i _ ih => exact .yank k x y i ih
  | reg k t i _ ht ih => exact .reg k t i ih ht
  | mark c p o _ hl h0 h1 ih => exact .mark c p o ih hl h0 h1
  | row r _ h0 h1 ih => exact .row r ih h0 h1
  | down _ h1 ih => exact .down ih h1
  | col o _ h0 ih => exact .col o ih h0

theorem len_eq (h : Did T L n a false b) : b.len = a.len := by
  generalize he : false = e at h
  induction h with
  | refl => rfl
  | addr _ ha _ _ ih => exact (len_of_bufs ha.bufs).trans (ih he)
  | look _ hs ih => obtain ⟨_, _, _, _, _, _, _, rfl⟩ := hs; exact ih he
  | edit => cases he
  | yank k x y i _ ih => exact ih he
  | reg k t i _ _ ih => exact ih he
  | mark c p o _ hl _ _ ih =>
    rw [← ih he]
    unfold Ed.len
    rw [C06.setLb_lb _ _ _ hl, hl]
    exact congrArg (fun t : List Bytes => (t.length : Int)) (Props.C01.setMark_lines _ _ _ _)
  | row r _ _ _ ih => exact ih he
  | down _ _ ih => exact ih he
  | col o _ _ ih => exact ih he

theorem xrep (h : Did T L n a e b) : b.xrep = a.xrep := by
  induction h with
  | refl => rfl
  | addr _ ha _ _ ih => obtain ⟨_, _, _, rfl⟩ := ha; exact ih
  | look _ hs ih => obtain ⟨_, _, _, _, _, _, _, rfl⟩ := hs; exact ih
  | edit s x y _ _ _ _ he ih => exact (edit_xrep he).trans ih
  | yank k x y i _ ih => exact ih
  | reg k t i _ _ ih => exact ih
  | mark c p o _ _ _ _ ih => exact (setLb_xrep _ _).trans ih
  | row r _ _ _ ih => exact ih
  | down _ _ ih => exact ih
  | col o _ _ ih => exact ih

end Did

open Neatvi.Lemmas.C06b in
/-- **the loop of `ex_exec`, walked once** (`Run C`: whatever it returns has `I`, and under `C` it returns): `I` is an
    invariant of the states (`ex_txt` and the message for an unknown name keep it, `hT`, `hS`), `Q g` a condition on the
    line left when `g` rounds are left, and every command of such a line runs so from the state `ex_txt` leaves, with
    the text it fetched -/
theorem cmds_run (f : Nat) (I : Ed → Prop) (Q : Nat → Bytes → Prop)
    (hQ : ∀ g ln, ¬ ln.isEmpty = true → Q (g + 1) ln → Q g (restOf ln))
    (hT : ∀ ed src a, I ed → I (exTxt ed src a).2) (hS : ∀ ed m, I ed → I (ed.show m))
    (hrun : ∀ g ed ln a hd, I ed → I (exTxt ed (parse1 ln).rest a).2 → Q (g + 1) ln → ¬ ln.isEmpty = true →
      (parse1 ln).idx = some (a, hd) →
      Run C (fun p : Int × Ed => I p.2) (runCmd f (exTxt ed (parse1 ln).rest a).2 hd (parse1 ln).loc (parse1 ln).cmd
        (parse1 ln).arg (exTxt ed (parse1 ln).rest a).1.1)) :
    ∀ (g : Nat) (ed : Ed) (ln : Bytes) (ret : Int), I ed → Q g ln →
      Run C (fun p : Int × Ed => I p.2) (exExec.cmds f g ed ln ret) := by
  intro g
  induction g with
  | zero => intro ed ln ret h _; rw [exExec.cmds]; exact Run.some h
  | succ g ih =>
    intro ed ln ret h hq
    rw [cmds_succ]
    refine Run.ite (fun _ => Run.some h) (fun hne => ?_)
    have hone : Run C (fun x : (Int × Ed) × Bytes => I x.1.2) (runOne f ed (parse1 ln) ret) := by
      unfold runOne
      cases hi : (parse1 ln).idx with
      | none => exact Run.some (hS _ _ (hT _ _ _ h))
      | some ah =>
        obtain ⟨a, hd⟩ := ah
        have hr := hrun g ed ln a hd h (hT ed (parse1 ln).rest a h) hq hne hi
        dsimp only
        cases hx : runCmd f (exTxt ed (parse1 ln).rest (abbrOf (some (a, hd)))).2 hd (parse1 ln).loc (parse1 ln).cmd
            (parse1 ln).arg (exTxt ed (parse1 ln).rest (abbrOf (some (a, hd)))).1.1 with
        | none => exact Run.none (fun hC => hr.live hC hx)
        | some p => exact Run.some (hr.post p hx)
    cases hro : runOne f ed (parse1 ln) ret with
    | none => exact Run.none (fun hC => hone.live hC hro)
    | some x =>
      obtain ⟨⟨r, ed1⟩, rest⟩ := x
      dsimp only
      rw [runOne_rest f ed ln ret _ rest hro]
      exact ih ed1 _ r (hone.post _ hro) (hQ g ln hne hq)

end Neatvi.Lemmas.ExDid
