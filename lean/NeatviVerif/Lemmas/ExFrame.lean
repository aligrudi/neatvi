import NeatviVerif.Model.ExCmd
import NeatviVerif.Lemmas.Hist
import NeatviVerif.Lemmas.C06Ex
/-!
# Frame lemmas for the ex layer

What the address parser and the small helpers leave alone: the buffer table (the parser's part follows from `AddrOnly`
of `Lemmas/C06Ex.lean`); what `bufs_load` and `bufs_shift` write (`bufsLoad_frame`, `bufsShift_frame`); the one induction
over the advance of `:g` to the next marked line (`adv_inv`); what a successful `lbuf_edit` does to the lines of the
current buffer.
-/
namespace Neatvi.Lemmas.ExFrame
open Neatvi Neatvi.Lbuf Neatvi.Ex Neatvi.Rset

theorem cur_some_set (ed : Ed) (b b' : Buf) (h : ed.cur = some b) :
    (ed.setCur b').cur = some b' := by
  unfold Ed.cur Ed.setCur at *
  cases hb : ed.bufs with
  | nil => rw [hb] at h; simp at h
  | cons x r => simp

theorem setLb_lb (ed : Ed) (lb : Lb) : (ed.setLb lb).lb = ed.lb.map (fun _ => lb) := C06.setLb_lb_map ed lb

/-- `lbuf_modified` on the current buffer (the end of `ex_command`, the guards) is `setLb` of the bump -/
theorem modifiedAt0_eq (ed : Ed) :
    (ed.modifiedAt 0).2 = match ed.lb with | some lb => ed.setLb (modified lb).2 | none => ed := by
  unfold Ed.modifiedAt Ed.lb Ed.setLb Ed.cur Ed.setCur
  cases h : ed.bufs.getD 0 none <;> rfl

theorem modifiedAt0_lb (ed : Ed) : (ed.modifiedAt 0).2.lb = ed.lb.map (fun lb => (modified lb).2) := by
  rw [modifiedAt0_eq]
  cases hl : ed.lb with
  | none => exact hl
  | some lb => rw [setLb_lb, hl]; rfl

/-- `bufs_load` reads the view and register `%` off the current record, nothing else -/
theorem bufsLoad_frame (ed : Ed) :
    ∃ regs r o t l d, ed.bufsLoad = { ed with regs := regs, xrow := r, xoff := o, xtop := t, xleft := l, xtd := d } := by
  unfold Ed.bufsLoad
  split <;> exact ⟨_, _, _, _, _, _, rfl⟩

/-- `bufs_shift` writes the table, register `%` and the view, nothing else -/
theorem bufsShift_frame (ed : Ed) :
    ∃ regs r o t l d, ed.bufsShift =
      { ed with bufs := ed.bufs.drop 1 ++ [none], regs := regs, xrow := r, xoff := o, xtop := t, xleft := l, xtd := d } := by
  obtain ⟨regs, r, o, t, l, d, e⟩ := bufsLoad_frame { ed with bufs := ed.bufs.drop 1 ++ [none] }
  exact ⟨regs, r, o, t, l, d, e⟩

/-- the advance of `:g` to the next marked line: the one induction, for every invariant of the state and the row
    that a look at a mark (`lbuf_globget`) and the step to the next row keep -/
theorem adv_inv {dep : Nat} {P : Ed → Int → Prop}
    (hget : ∀ ed i lb, ed.lb = some lb → P ed i → P (ed.setLb (globGet lb i.toNat dep).2) i)
    (hnext : ∀ ed i, P ed i → P ed (i + 1)) :
    ∀ (h : Nat) (ed : Ed) (i : Int), P ed i → P (ecGlob.scan.adv dep h ed i).1 (ecGlob.scan.adv dep h ed i).2 := by
  intro h
  induction h with
  | zero => intro ed i hp; rw [ecGlob.scan.adv]; exact hp
  | succ h ih =>
    intro ed i hp
    rw [ecGlob.scan.adv]
    split
    · exact hp
    · split
      · exact hp
      · rename_i lb hlb
        simp only []
        split
        · exact hget ed i lb hlb hp
        · exact ih _ _ (hnext _ _ (hget ed i lb hlb hp))

theorem lb_of_bufs {ed ed' : Ed} (h : ed'.bufs = ed.bufs) : ed'.lb = ed.lb := by
  unfold Ed.lb Ed.cur; rw [h]

theorem len_of_bufs {ed ed' : Ed} (h : ed'.bufs = ed.bufs) : ed'.len = ed.len := by
  unfold Ed.len; rw [lb_of_bufs h]

theorem line_of_bufs {ed ed' : Ed} (h : ed'.bufs = ed.bufs) (i : Int) : ed'.line i = ed.line i := by
  unfold Ed.line; rw [lb_of_bufs h]

@[simp] theorem kwdSet_bufs (ed : Ed) (k : Option Bytes) (d : Int) : (ed.kwdSet k d).bufs = ed.bufs := rfl
@[simp] theorem show_bufs (ed : Ed) (m : Bytes) : (ed.show m).bufs = ed.bufs := rfl
@[simp] theorem print_bufs (ed : Ed) (m : Bytes) : (ed.print m).bufs = ed.bufs := rfl

/-- split a hypothesis `h : (nested matches) = some (_, ed')` into its leaves and close those in which
    `ed'` is syntactically an update of `ed` that keeps `bufs` -/
macro "frame_split" h:ident : tactic => `(tactic| (
  repeat' (split at $h:ident)
  all_goals (try (simp only [Option.some.injEq, Prod.mk.injEq, reduceCtorEq] at $h:ident))
  all_goals (try (have h2 := And.right $h:ident; subst h2))
  all_goals (first | rfl | skip)))

theorem exSearch_bufs {ed ed' : Ed} {loc : Bytes} {r : Int × Bytes}
    (h : exSearch ed loc = some (r, ed')) : ed'.bufs = ed.bufs :=
  (C06.exSearch_addrOnly _ _ _ _ h).bufs

theorem exLineno_bufs {ed ed' : Ed} {loc : Bytes} {r : Int × Bytes}
    (h : exLineno ed loc = some (r, ed')) : ed'.bufs = ed.bufs :=
  (C06.exLineno_addrOnly _ _ _ _ h).bufs

theorem exRegion_go_bufs : ∀ (f : Nat) (ed : Ed) (loc : Bytes) (na : Nat) (b e : Int) (r : Int × Int) (ed' : Ed),
    exRegion.go f ed loc na b e = some (r, ed') → ed'.bufs = ed.bufs :=
  fun _ _ _ _ _ _ _ _ h => (C06.go_addrOnly _ _ _ _ _ _ _ _ h).bufs

theorem exRegion_bufs {ed ed' : Ed} {loc : Bytes} {r : Nat × Int × Int}
    (h : exRegion ed loc = some (r, ed')) : ed'.bufs = ed.bufs :=
  (C06.region_all _ _ _ _ _ _ h).1.bufs

open Neatvi.Lemmas.Hist Neatvi.Spec Neatvi.Props.C01

theorem replace_lines {lb lb' : Lb} {s : Option Bytes} {pos nDel : Nat} (h : replace lb s pos nDel = some lb') :
    pos + nDel ≤ lb.lines.length ∧ lb'.lines = lb.lines.take pos ++ optLines s ++ lb.lines.drop (pos + nDel) ∧
      lb'.useq = lb.useq := by
  by_cases hb : pos + nDel ≤ lb.lines.length
  · obtain ⟨lb2, h1, h2, _, _, h5⟩ := replace_spec lb s pos nDel hb
    rw [h] at h1; cases h1
    exact ⟨hb, h2, h5⟩
  · unfold replace at h
    simp only [hb, if_false] at h
    cases h

theorem edit_lines {lb lb' : Lb} {buf : Option Bytes} {b e : Nat} (h : edit lb buf b e = some lb') (_hbe : b ≤ e) :
    lb'.lines = lb.lines.take (min b lb.lines.length) ++ optLines buf ++ lb.lines.drop (min e lb.lines.length) := by
  obtain ⟨_, h⟩ := C06.edit_cases h
  rcases h with ⟨hc, rfl, rfl⟩ | h
  · rw [← hc]
    simp [optLines]
  · obtain ⟨_, h2, _⟩ := replace_lines h
    rw [h2, opt_lines]
    congr 2
    omega

theorem edit_useq {lb lb' : Lb} {buf : Option Bytes} {b e : Nat} (h : edit lb buf b e = some lb') :
    lb'.useq = lb.useq := by
  obtain ⟨_, h⟩ := C06.edit_cases h
  rcases h with ⟨_, _, rfl⟩ | h
  · rfl
  · obtain ⟨_, _, h3⟩ := replace_lines h
    rw [h3]
    rfl

theorem Ed_edit_some {ed ed' : Ed} {s : Option Bytes} {b e : Int} (h : ed.edit s b e = some ed') :
    0 ≤ b ∧ 0 ≤ e ∧ ∃ lb lb', ed.lb = some lb ∧ Lbuf.edit lb s b.toNat e.toNat = some lb' ∧
      ed' = ed.setLb lb' ∧ ed'.lb = some lb' := by
  unfold Ed.edit at h
  split at h
  · cases h
  · rename_i hneg
    simp only [Bool.or_eq_true, decide_eq_true_eq, not_or, Int.not_lt] at hneg
    split at h
    · cases h
    · rename_i lb hlb
      cases he : Lbuf.edit lb s b.toNat e.toNat with
      | none => rw [he] at h; cases h
      | some lb' =>
        rw [he] at h
        simp only [Option.map_some, Option.some.injEq] at h
        refine ⟨hneg.1, hneg.2, lb, lb', hlb, he, h.symm, ?_⟩
        rw [← h, setLb_lb, hlb]; rfl

end Neatvi.Lemmas.ExFrame
