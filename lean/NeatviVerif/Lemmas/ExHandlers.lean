import NeatviVerif.Lemmas.C05eA
import NeatviVerif.Lemmas.C05dEd
import NeatviVerif.Lemmas.ExDid
import NeatviVerif.Lemmas.C05eDec
import NeatviVerif.Lemmas.C06dLineno
import NeatviVerif.Lemmas.C06bRead
/-!
# The handlers on the current buffer, walked once

Each handler gets one statement `Run (Live ed ∧ 0 ∉ loc) (Did … ed ·) (handler …)`: what it returns comes from `ed` by
steps of `Did`, and from a state with a current buffer and a C-string keyword, on an address that is a C string, it
returns.  "never traps" (`Lemmas/C05eB.lean`), the position invariant (`Lemmas/C05dCmd.lean`), the line invariant
(`Lemmas/C05jA.lean`), valid UTF-8 (`Lemmas/C16cRun.lean`) and the quiet steps (`Did.qstep`, `Lemmas/ExStep.lean`) read it through
`Run.tot` / `Run.post` and their lemma about the steps.
Everything here is declared in `namespace Neatvi.Lemmas.C05e`.
-/
namespace Neatvi.Lemmas.C05e
open Neatvi Neatvi.Lbuf Neatvi.LbufIo Neatvi.Ex Neatvi.Rset
open Neatvi.Lemmas.ExFrame Neatvi.Lemmas.C06 Neatvi.Lemmas.ExDid

/-- what the handlers need to return: a current buffer, and a remembered keyword that is a C string -/
structure Live (ed : Ed) : Prop where
  lb : ∃ lb, ed.lb = some lb
  kwd : 0 ∉ ed.xkwd

theorem setLb_xkwd (ed : Ed) (lb : Lb) : (ed.setLb lb).xkwd = ed.xkwd := by
  unfold Ed.setLb; split <;> rfl

theorem rc_zero {rc : Nat} (hc : ¬ (rc != 0) = true) : rc = 0 := by simpa using hc

theorem rc_zero_or {rc : Nat} {x : Bool} (hc : ¬ (rc != 0 || x) = true) : rc = 0 := rc_zero (fun h => hc (by rw [h]; rfl))

theorem _root_.Neatvi.Lemmas.ExDid.Did.live {T : Ed → Bytes → Prop} {L : Prop} {n : Int} {e : Bool} {a b : Ed}
    (h : Did T L n a e b) (hL : L) (hs : Live a) : Live b := by
  induction h with
  | refl => exact hs
  | addr _ ha _ hk ih => exact ⟨by rw [lb_of_bufs ha.bufs]; exact ih.lb, hk hL ih.kwd⟩
  | look _ hs ih => obtain ⟨_, _, _, _, _, _, _, rfl⟩ := hs; exact ⟨ih.lb, ih.kwd⟩
  | edit s x y _ _ _ _ he ih =>
    obtain ⟨_, _, lb, lb', hlb, _, rfl, hl'⟩ := Ed_edit_some he
    exact ⟨⟨lb', hl'⟩, by rw [setLb_xkwd]; exact ih.kwd⟩
  | yank k x y i _ ih => exact ⟨ih.lb, ih.kwd⟩
  | reg k t i _ _ ih => exact ⟨ih.lb, ih.kwd⟩
  | mark c p o _ hl _ _ ih => exact ⟨⟨_, C06.setLb_lb _ _ _ hl⟩, by rw [setLb_xkwd]; exact ih.kwd⟩
  | row r _ _ _ ih => exact ⟨ih.lb, ih.kwd⟩
  | down _ _ ih => exact ⟨ih.lb, ih.kwd⟩
  | col o _ _ ih => exact ⟨ih.lb, ih.kwd⟩

/-- `ex_region` is an `addr` step that delivers a checked range; on a C string, from a safe state, it returns -/
theorem region_run (ed : Ed) (loc : Bytes) :
    Run (Live ed ∧ 0 ∉ loc)
      (fun p => (∀ T n e, Did T (0 ∉ loc) n ed e p.2) ∧ (p.1.1 = 0 ∨ p.1.1 = 1) ∧
        (p.1.1 = 0 → 0 ≤ p.1.2.1 ∧ p.1.2.1 ≤ p.1.2.2 ∧ p.1.2.2 ≤ p.2.len) ∧
        (p.1.1 = 1 → p.1.2.1 = 0 → p.1.2.2 = 0 → p.2.len = 0))
      (exRegion ed loc) where
  post := by
    intro ⟨⟨rc, b, e⟩, ed1⟩ hx
    obtain ⟨ha, h1, h2, h3⟩ := region_all ed loc rc b e ed1 hx
    refine ⟨fun T n e => .addr .refl ha (Lemmas.C05d.exRegion_ok hx).1.2.2 (fun h0 hk => ?_), h1,
      fun h0 => ⟨(h2 h0).1, (h2 h0).2.1, (h2 h0).2.2.1⟩, h3⟩
    obtain ⟨_, hr, hk'⟩ := exRegion_total ed loc h0 hk
    rw [hx] at hr; cases hr; exact hk'
  live := by
    intro ⟨hs, h0⟩ hx
    obtain ⟨_, hr, _⟩ := exRegion_total ed loc h0 hs.kwd
    rw [hx] at hr; cases hr


/-- what a handler on the current buffer returns: a state reached by steps of `Did` (`e`: it may have edited a line);
    `sets`: and when it succeeds the row is inside the buffer -/
def Out (T : Ed → Bytes → Prop) (L : Prop) (e sets : Bool) (ed : Ed) (p : Int × Ed) : Prop :=
  Did T L p.2.len ed e p.2 ∧ (sets = true → p.1 = 0 → -1 ≤ p.2.xrow ∧ p.2.xrow ≤ p.2.len)

theorem Out.failed {T : Ed → Bytes → Prop} {L : Prop} {e sets : Bool} {ed ed' : Ed} (h : Did T L ed'.len ed e ed') :
    Out T L e sets ed (1, ed') := ⟨h, fun _ h1 => absurd h1 (show ¬ (1 : Int) = 0 by decide)⟩

theorem Out.plain {T : Ed → Bytes → Prop} {L : Prop} {e : Bool} {ed ed' : Ed} {r : Int} (h : Did T L ed'.len ed e ed') :
    Out T L e false ed (r, ed') := ⟨h, fun h0 => nomatch h0⟩

section walks
variable (T : Ed → Bytes → Prop) (ed : Ed) (loc cmd arg : Bytes)

theorem insertAt_run {T : Ed → Bytes → Prop} {L : Prop} {ed0 ed : Ed} {s : Option Bytes} {b e : Int}
    (hd : ∀ n, Did T L n ed0 true ed) (hs : ∀ t, s = some t → T ed t) (hb : 0 ≤ b) (hbe : b ≤ e) :
    Run (Live ed) (Out T L true true ed0) (Lemmas.C20.insertAt ed s b e) := by
  unfold Lemmas.C20.insertAt
  cases he : ed.edit s b e with
  | none =>
    refine .none (fun h => ?_)
    obtain ⟨lb, hl⟩ := h.lb
    obtain ⟨_, h'⟩ := ed_edit_total ed lb s b e hl hb hbe
    rw [he] at h'; cases h'
  | some ed2 =>
    obtain ⟨_, _, _, hlen⟩ := Lemmas.C05d.edit_len he
    have l1 := Lemmas.C06.len_nonneg ed
    have l2 := Lemmas.C06.len_nonneg ed2
    have r0 : -1 ≤ min (ed2.len - 1) (e + ed2.len - ed.len - 1) := by omega
    have r1 : min (ed2.len - 1) (e + ed2.len - ed.len - 1) ≤ ed2.len := by omega
    exact .some ⟨.row _ (.edit s b e (hd _) hb hbe hs he) r0 r1, fun _ _ => ⟨r0, r1⟩⟩

theorem ecInsert_run (txt : Option Bytes) (hT : ∀ b t, txt = some t → T b t) :
    Run (Live ed ∧ 0 ∉ loc) (Out T (0 ∉ loc) true true ed) (Lemmas.C20.ecInsert ed loc cmd txt) := by
  unfold Lemmas.C20.ecInsert
  cases hx : exRegion ed loc with
  | none => exact .none (fun hC => (region_run ed loc).live hC hx)
  | some p =>
    obtain ⟨⟨rc, b, e⟩, ed1⟩ := p
    obtain ⟨hd, hrc, hin, h00⟩ := (region_run ed loc).post _ hx
    dsimp only at hd hrc hin h00 ⊢
    refine Run.ite (fun _ => .some (.failed (hd _ _ _))) (fun hc => ?_)
    have hbe : 0 ≤ b ∧ b ≤ e := by
      rcases hrc with h0 | h1'
      · exact ⟨(hin h0).1, (hin h0).2.1⟩
      · subst h1'
        simp at hc
        omega
    exact (insertAt_run (fun n => hd _ n _) (hT _) (by split <;> omega) (by repeat' split <;> omega)).mono
      (fun hC => (hd (fun _ _ => True) 0 true).live hC.2 hC.1) (fun _ h => h)

theorem ecPrint_run : Run (Live ed ∧ 0 ∉ loc) (Out T (0 ∉ loc) false true ed) (Lemmas.C20.ecPrint ed loc cmd) := by
  unfold Lemmas.C20.ecPrint
  refine Run.ite (fun _ => .some (.failed .refl)) (fun _ => ?_)
  cases hx : exRegion ed loc with
  | none => exact .none (fun hC => (region_run ed loc).live hC hx)
  | some p =>
    obtain ⟨⟨rc, b, e⟩, ed1⟩ := p
    obtain ⟨hd, _, hin, _⟩ := (region_run ed loc).post _ hx
    dsimp only at hd hin ⊢
    refine Run.ite (fun _ => .some (.failed (hd _ _ _))) (fun hc => ?_)
    obtain ⟨hb0, hbe, hel⟩ := hin (rc_zero hc)
    have hf : ∀ n, Did T (0 ∉ loc) n ed false ((List.range (e - b).toNat).foldl (fun (ed : Ed) (k : Nat) =>
        match ed.line (b + (k : Int)) with | some l => ed.print l | none => ed) ed1) := fun n =>
      Basics.foldl_inv (Did T (0 ∉ loc) n ed false) _ (fun s k hs => by split; exact hs.print _; exact hs) _ _ (hd _ _ _)
    have hl := ((hf 0).len_eq).trans ((hd T 0 false).len_eq).symm
    generalize (List.range (e - b).toNat).foldl _ ed1 = ed2 at hf hl ⊢
    have r1 : max b (e - 1) ≤ ed2.len := by omega
    exact .some ⟨.col 0 (.row _ (hf _) (by omega) r1) (Int.le_refl 0), fun _ _ => ⟨by show -1 ≤ max b (e - 1); omega, r1⟩⟩

theorem ecNullVi_run : Run (Live ed ∧ 0 ∉ loc) (Out T (0 ∉ loc) false true ed) (Lemmas.C20.ecNullVi ed loc) := by
  unfold Lemmas.C20.ecNullVi
  cases hx : exRegion ed loc with
  | none => exact .none (fun hC => (region_run ed loc).live hC hx)
  | some p =>
    obtain ⟨⟨rc, b, e⟩, ed1⟩ := p
    obtain ⟨hd, _, hin, _⟩ := (region_run ed loc).post _ hx
    dsimp only at hd hin ⊢
    refine Run.ite (fun _ => .some (.failed (hd _ _ _))) (fun hc => ?_)
    obtain ⟨hb0, hbe, hel⟩ := hin (rc_zero hc)
    have r1 : max b (e - 1) ≤ ed1.len := by omega
    exact .some ⟨.col 0 (.row _ (hd _ _ _) (by omega) r1) (Int.le_refl 0), fun _ _ => ⟨by show -1 ≤ max b (e - 1); omega, r1⟩⟩

/-- `:d` and `:y` (`yank`): the lines go to the register; `:d` then cuts them and puts the row on the first -/
theorem ecDelete_run (yank : Bool) :
    Run (Live ed ∧ 0 ∉ loc) (Out T (0 ∉ loc) (!yank) (!yank) ed) (Lemmas.C20.ecDelete yank ed loc arg) := by
  unfold Lemmas.C20.ecDelete
  cases hx : exRegion ed loc with
  | none => exact .none (fun hC => (region_run ed loc).live hC hx)
  | some p =>
    obtain ⟨⟨rc, b, e⟩, ed1⟩ := p
    obtain ⟨hd, hrc, hin, h00⟩ := (region_run ed loc).post _ hx
    dsimp only at hd hrc hin h00 ⊢
    refine Run.ite (fun _ => .some (.failed (hd _ _ _))) (fun hc => ?_)
    obtain ⟨hb0, hbe, hel⟩ := hin (rc_zero_or hc)
    refine Run.ite (fun hy => .some ⟨.yank _ _ _ _ (hd _ _ _), fun h => by rw [hy] at h; cases h⟩) (fun hy => ?_)
    rw [show (!yank) = true by simpa using hy]
    cases he : ({ ed1 with regs := ed1.regs.put (regName arg) (ed1.cp b e) 1 } : Ed).edit none b e with
    | none =>
      refine .none (fun hC => ?_)
      obtain ⟨lb, hl⟩ := ((hd (fun _ _ => True) 0 true).live hC.2 hC.1).lb
      obtain ⟨_, h'⟩ := ed_edit_total { ed1 with regs := ed1.regs.put (regName arg) (ed1.cp b e) 1 } lb none b e hl hb0 hbe
      rw [he] at h'; cases h'
    | some ed2 =>
      obtain ⟨_, _, _, hlen⟩ := Lemmas.C05d.edit_len he
      have hlen' : ed2.len = ed1.len - (min e ed1.len - min b ed1.len) + ((Lemmas.Hist.optLines none).length : Int) := hlen
      simp only [Lemmas.Hist.optLines, List.length_nil] at hlen'
      have r1 : b ≤ ed2.len := by omega
      exact .some ⟨.row _ (.edit none b e (.yank (e := false) _ _ _ _ (hd _ _ _)) hb0 hbe (fun _ h => nomatch h) he)
        (by omega) r1, fun _ _ => ⟨by show -1 ≤ b; omega, r1⟩⟩

theorem ecPut_run (hT : ∀ b t, regGet ed (regName arg) = some t → T b t) :
    Run (Live ed ∧ 0 ∉ loc) (Out T (0 ∉ loc) true true ed) (Lemmas.C20.ecPut ed loc arg) := by
  unfold Lemmas.C20.ecPut
  cases hg : regGet ed (regName arg) with
  | none => exact .some (.failed .refl)
  | some buf =>
    dsimp only
    cases hx : exRegion ed loc with
    | none => exact .none (fun hC => (region_run ed loc).live hC hx)
    | some p =>
      obtain ⟨⟨rc, b, e⟩, ed1⟩ := p
      obtain ⟨hd, hrc, hin, h00⟩ := (region_run ed loc).post _ hx
      dsimp only at hd hrc hin h00 ⊢
      refine Run.ite (fun _ => .some (.failed (hd _ _ _))) (fun hc => ?_)
      have he0 : 0 ≤ e := by
        rcases hrc with h0 | h1'
        · have := hin h0; omega
        · subst h1'; simp at hc; omega
      exact (insertAt_run (fun n => hd _ n _) (fun t h => hT _ t (by cases h; exact hg)) he0 (Int.le_refl _)).mono
        (fun hC => (hd (fun _ _ => True) 0 true).live hC.2 hC.1) (fun _ h => h)

theorem ecLnum_run : Run (Live ed ∧ 0 ∉ loc) (Out T (0 ∉ loc) false false ed) (Lemmas.C20.ecLnum ed loc) := by
  unfold Lemmas.C20.ecLnum
  cases hx : exRegion ed loc with
  | none => exact .none (fun hC => (region_run ed loc).live hC hx)
  | some p =>
    obtain ⟨⟨rc, b, e⟩, ed1⟩ := p
    obtain ⟨hd, -⟩ := (region_run ed loc).post _ hx
    exact Run.ite (fun _ => .some (.plain (hd _ _ _))) (fun _ => .some (.plain ((hd _ _ _).print _)))

theorem ecMark_run : Run (Live ed ∧ 0 ∉ loc) (Out T (0 ∉ loc) false false ed) (Lemmas.C20.ecMark ed loc arg) := by
  unfold Lemmas.C20.ecMark
  cases hx : exRegion ed loc with
  | none => exact .none (fun hC => (region_run ed loc).live hC hx)
  | some p =>
    obtain ⟨⟨rc, b, e⟩, ed1⟩ := p
    obtain ⟨hd, _, hin, _⟩ := (region_run ed loc).post _ hx
    dsimp only at hd hin ⊢
    refine Run.ite (fun _ => .some (.plain (hd _ _ _))) (fun hc => ?_)
    cases hl : ed1.lb with
    | none =>
      refine .none (fun hC => ?_)
      obtain ⟨_, hl'⟩ := ((hd (fun _ _ => True) 0 true).live hC.2 hC.1).lb
      rw [hl] at hl'; cases hl'
    | some lb =>
      have hlen : ed1.len = lb.lines.length := by unfold Ed.len; rw [hl]
      simp only [Bool.or_eq_true, bne_iff_ne, ne_eq, decide_eq_true_eq, not_or, Decidable.not_not, Int.not_le] at hc
      obtain ⟨_, _, hel⟩ := hin hc.1
      exact .some (.plain (.mark _ _ _ (hd _ _ _) hl (by omega) (by omega)))

/-- `:se`: an option is set, or a message shown; nothing can fail -/
theorem ecSet_run (L C : Prop) : Run C (Out T L false false ed) (Lemmas.C20.ecSet ed arg) := by
  unfold Lemmas.C20.ecSet
  refine Run.ite (fun _ => .some (.plain .refl)) (fun _ => ?_)
  dsimp only
  split
  · exact .some (.plain (Did.refl.opt _ _))
  · exact .some (.plain (Did.refl.msg _))

/-- `:u`, `:redo`: a step `op` in the history of the current buffer, when there is one to take -/
theorem ecHist_run {op : Lb → Option (Nat × Lb)} (C : Prop) (hC : C → ed.lb.bind op ≠ none) :
    Run C (fun p => ∃ lb rc lb', ed.lb = some lb ∧ op lb = some (rc, lb') ∧ p = ((rc : Int), ed.setLb lb'))
      (Lemmas.C20.ecHist op ed) := by
  unfold Lemmas.C20.ecHist
  cases hb : ed.lb.bind op with
  | none => exact .none (fun h => hC h hb)
  | some x =>
    obtain ⟨rc, lb'⟩ := x
    cases hl : ed.lb with
    | none => rw [hl] at hb; cases hb
    | some lb =>
      rw [hl] at hb
      exact .some ⟨lb, rc, lb', rfl, hb, rfl⟩

/-- the empty command in ex mode: the row moves down a line if there is one, then `:p` -/
theorem ecNullEx_run : Run (Live ed ∧ 0 ∉ loc) (Out T (0 ∉ loc) false true ed)
    (Lemmas.C20.ecPrint { ed with xrow := if ed.xrow + 1 < ed.len then ed.xrow + 1 else ed.xrow } loc cmd) := by
  by_cases hlt : ed.xrow + 1 < ed.len
  · rw [if_pos hlt]
    refine (ecPrint_run T _ loc cmd).mono (fun hC => ⟨⟨hC.1.lb, hC.1.kwd⟩, hC.2⟩) (fun p hp => ⟨?_, hp.2⟩)
    have hl : p.2.len = ed.len := hp.1.len_eq
    exact (Did.down (e := false) .refl (by rw [hl]; exact hlt)).trans hp.1
  · rw [if_neg hlt]
    exact ecPrint_run T ed loc cmd

end walks

/-! ### `:s` -/

/-- the texts `:s` writes with the regular expression `re`: what `substLine` makes of a line of the state with its
    remembered replacement -/
def SubstOf (re : RStr) (b : Ed) (t : Bytes) : Prop :=
  ∃ g row ln, b.line row = some ln ∧ substLine re b.xrep g ln = some (some t)

/-- the loop of `:s` over `n` lines from row `b`: every round is an edit of one line or nothing; the buffer is
    `sh` lines longer afterwards, `sh ≥ -n`, which keeps the row of the next round inside it -/
theorem sLoop_run {T : Ed → Bytes → Prop} {L : Prop} {pat : Bytes} {flg : Nat} {re : RStr}
    (hm : rstrMake pat flg = some (some re)) (hT : ∀ b t, SubstOf re b t → T b t) (g : Bool) (b : Int) (hb : 0 ≤ b) (ed : Ed) :
    ∀ n : Nat, Run (Live ed ∧ L ∧ b + n ≤ ed.len)
      (fun p => (∀ m, Did T L m ed true p.1) ∧ p.1.len = ed.len + p.2 ∧ -(n : Int) ≤ p.2) (sLoop re g b n ed) := by
  intro n
  induction n with
  | zero => exact .some ⟨fun _ => .refl, (Int.add_zero _).symm, Int.le_refl _⟩
  | succ n ih =>
    rw [sLoop_succ]
    cases hl : sLoop re g b n ed with
    | none => exact .none (fun hC => ih.live ⟨hC.1, hC.2.1, by omega⟩ hl)
    | some q =>
      obtain ⟨edn, sh⟩ := q
      obtain ⟨hd, hlen, hsh⟩ := ih.post _ hl
      dsimp only at hd hlen hsh
      unfold sStep
      dsimp only
      cases hln : edn.line (b + (n : Int) + sh) with
      | none =>
        refine .none (fun hC => ?_)
        obtain ⟨_, h'⟩ := Lemmas.C06d.line_some edn (b + (n : Int) + sh) (by omega) (by omega)
        rw [hln] at h'; cases h'
      | some ln =>
        dsimp only
        cases hx : substLine re edn.xrep g ln with
        | none =>
          refine .none (fun _ => ?_)
          obtain ⟨_, h'⟩ := substLine_total hm edn.xrep g ln
          rw [hx] at h'; cases h'
        | some x =>
          cases x with
          | none => exact .some ⟨hd, hlen, by omega⟩
          | some nl =>
            dsimp only
            cases he : edn.edit (some nl) (b + (n : Int) + sh) (b + (n : Int) + sh + 1) with
            | none =>
              refine .none (fun hC => ?_)
              obtain ⟨lb, hlb⟩ := ((hd 0).live hC.2.1 hC.1).lb
              obtain ⟨_, h'⟩ := ed_edit_total edn lb (some nl) (b + (n : Int) + sh) (b + (n : Int) + sh + 1) hlb (by omega) (by omega)
              rw [he] at h'; cases h'
            | some ed' =>
              obtain ⟨_, _, _, hl'⟩ := Lemmas.C05d.edit_len he
              have l1 := Lemmas.C06.len_nonneg edn
              have hlen' : ed'.len = ed.len + (sh + (ed'.len - edn.len)) := by omega
              have hsh' : -((n + 1 : Nat) : Int) ≤ sh + (ed'.len - edn.len) := by omega
              exact .some ⟨fun m => .edit (some nl) _ _ (hd m) (by omega) (by omega)
                (fun t ht => hT _ t ⟨g, _, ln, hln, by cases ht; exact hx⟩) he, hlen', hsh'⟩

theorem sPrep_shape (ed : Ed) (arg : Bytes) : ∃ r, (substPrep ed arg).1 = { kwEd ed (reRead arg).1 1 with xrep := r } :=
  have aux : ∀ (c : Prop) [Decidable c] (x : Bytes) (e0 : Ed), ∃ r, (if c then { e0 with xrep := x } else e0) = { e0 with xrep := r } :=
    fun c _ x e0 => by
      split
      · exact ⟨x, rfl⟩
      · exact ⟨e0.xrep, rfl⟩
  aux _ _ _

theorem sPrep_kwd (ed : Ed) (arg : Bytes) (h0 : 0 ∉ arg) (hk : 0 ∉ ed.xkwd) : 0 ∉ (substPrep ed arg).1.xkwd := by
  obtain ⟨r, e⟩ := sPrep_shape ed arg
  rw [e]
  exact kwEd_nul ed arg 1 h0 hk

/-- **`:s`**: the address, the prologue, then the loop from the state the prologue leaves; the regular expression is
    compiled from the keyword the prologue remembers -/
theorem ecSubst_run (T : Ed → Bytes → Prop) (f : Nat) (ed : Ed) (loc cmd arg : Bytes) (txt : Option Bytes)
    (hT : ∀ ed1 flg re b t, rstrMake (substPrep ed1 arg).1.xkwd flg = some (some re) → SubstOf re b t → T b t) :
    Run (Live ed ∧ 0 ∉ loc ∧ 0 ∉ arg)
      (fun p => ∃ ed1, (∀ T n e, Did T (0 ∉ loc) n ed e ed1) ∧
        (p = (1, ed1) ∨ ∀ m, Did T (0 ∉ loc) m (substPrep ed1 arg).1 true p.2))
      (runCmd (f + 1) ed "ec_substitute" loc cmd arg txt) := by
  rw [runCmd_subst_eq']
  cases hx : exRegion ed loc with
  | none => exact .none (fun hC => (region_run ed loc).live ⟨hC.1, hC.2.1⟩ hx)
  | some p =>
    obtain ⟨⟨rc, b, e⟩, ed1⟩ := p
    obtain ⟨hd, _, hin, _⟩ := (region_run ed loc).post _ hx
    dsimp only at hd hin ⊢
    refine Run.ite (fun _ => .some ⟨ed1, hd, .inl rfl⟩) (fun hc => ?_)
    obtain ⟨hb0, hbe, hel⟩ := hin (rc_zero hc)
    have hlive : Live ed ∧ 0 ∉ loc ∧ 0 ∉ arg → Live (substPrep ed1 arg).1 := fun hC => by
      have h1 := (hd (fun _ _ => True) 0 true).live hC.2.1 hC.1
      obtain ⟨r, e⟩ := sPrep_shape ed1 arg
      exact ⟨by rw [e]; exact (lb_of_bufs (kw_addrOnly ed1 _ 1).bufs) ▸ h1.lb, sPrep_kwd ed1 arg hC.2.2 h1.kwd⟩
    have hlen : (substPrep ed1 arg).1.len = ed1.len := by
      obtain ⟨r, e⟩ := sPrep_shape ed1 arg
      rw [e]; exact len_of_bufs (kw_addrOnly ed1 _ 1).bufs
    generalize hsp : substPrep ed1 arg = sp at hlive hlen ⊢
    have ret : ∀ x, (∀ m, Did T (0 ∉ loc) m sp.1 true x) → ∀ m, Did T (0 ∉ loc) m (substPrep ed1 arg).1 true x :=
      fun x h => hsp ▸ h
    refine Run.ite (fun _ => .some ⟨ed1, hd, .inr (ret _ fun _ => .refl)⟩) (fun _ => ?_)
    cases hmk : sp.1.mkRe sp.1.xkwd with
    | none =>
      refine .none (fun hC => ?_)
      rcases mkRe_total sp.1 sp.1.xkwd (hlive hC).kwd with h | ⟨_, h⟩ <;> rw [hmk] at h <;> cases h
    | some o =>
      cases o with
      | none => exact .some ⟨ed1, hd, .inr (ret _ fun _ => .refl)⟩
      | some re =>
        dsimp only
        have hl := sLoop_run (T := T) (L := 0 ∉ loc) hmk (fun b t => hT ed1 _ re b t (hsp ▸ hmk)) sp.2 b hb0 sp.1 (e - b).toNat
        cases hs : sLoop re sp.2 b (e - b).toNat sp.1 with
        | none => exact .none (fun hC => hl.live ⟨hlive hC, hC.2.1, by omega⟩ hs)
        | some q => exact .some ⟨ed1, hd, .inr (ret _ (hl.post _ hs).1)⟩

/-! ### `:r` -/

/-- the texts `:r` writes: the output the oracle holds for a shell command, or a file of the state as a C string -/
def ReadOf (b : Ed) (t : Bytes) : Prop :=
  (∃ cmd, b.pipe cmd [] = some (some t)) ∨ ∃ path fl, b.findFile path = some fl ∧ t = cstr fl.data

theorem readDone_out {T : Ed → Bytes → Prop} {L : Prop} {ed0 ed : Ed} (path : Bytes) {e n : Int}
    (hd : ∀ m, Did T L m ed0 true ed) (he0 : 0 ≤ e) (he : e ≤ n) (hn : n ≤ ed.len) :
    Out T L true true ed0 (0, ({ ed with xrow := e + ed.len - n - 1 }).show
      ([34] ++ path ++ strOf "\"  [=" ++ intStr (ed.len - n) ++ strOf "]  [r]")) :=
  have r0 : -1 ≤ e + ed.len - n - 1 := by omega
  have r1 : e + ed.len - n - 1 ≤ ed.len := by omega
  ⟨(Did.row _ (hd _) r0 r1).msg _, fun _ _ => ⟨r0, r1⟩⟩

/-- **`:r`**: the path, the address, then one edit at a point of what the shell or the file gives -/
theorem ecRead_run (T : Ed → Bytes → Prop) (hT : ∀ b t, ReadOf b t → T b t) (ed : Ed) (loc arg : Bytes) :
    Run (Live ed ∧ 0 ∉ loc ∧ (arg.isEmpty = false → pathExpand ed arg true ≠ none)) (Out T (0 ∉ loc) true true ed)
      (Lemmas.C20.ecRead ed loc arg) := by
  unfold Lemmas.C20.ecRead
  dsimp only
  cases hp : (if (!arg.isEmpty) = true then pathExpand ed arg true else some (ed.cur.map (·.path), ed) : R (Option Bytes)) with
  | none =>
    refine .none (fun hC => ?_)
    split at hp
    · rename_i ha
      exact hC.2.2 (by simpa using ha) hp
    · cases hp
  | some q =>
    obtain ⟨path, ed1⟩ := q
    have d0 : ∀ m e, Did T (0 ∉ loc) m ed e ed1 := fun m e => by
      split at hp
      · rcases Lemmas.C02Ex.pathExpand_state ed ed1 arg true path hp with rfl | ⟨_, rfl⟩
        · exact .refl
        · exact Did.refl.msg _
      · cases hp; exact .refl
    dsimp only
    cases hx : exRegion ed1 loc with
    | none =>
      exact .none (fun hC => (region_run ed1 loc).live ⟨(d0 0 true).live hC.2.1 hC.1, hC.2.1⟩ hx)
    | some p =>
      obtain ⟨⟨rc, b, e⟩, ed2⟩ := p
      obtain ⟨hd1, _, hin, _⟩ := (region_run ed1 loc).post _ hx
      dsimp only at hd1 hin ⊢
      have hd : ∀ m e, Did T (0 ∉ loc) m ed e ed2 := fun m e => by
        have := (d0 m e).trans (hd1 T m e)
        rwa [Bool.or_self] at this
      refine Run.ite (fun _ => .some (.failed (hd _ _))) (fun hc => ?_)
      obtain ⟨hb0, hbe, hel⟩ := hin (rc_zero_or hc)
      have hn : ed.len = ed2.len := ((hd 0 false).len_eq).symm
      have hpos : 0 ≤ (if (ed2.len != 0) = true then e else 0) := by split <;> omega
      rw [hn]
      generalize (if (ed2.len != 0) = true then e else 0) = pos at hpos
      refine Run.ite (fun _ => ?_) (fun _ => ?_)
      · unfold Lemmas.C20.readPipe
        refine Run.ite (fun _ => .some (.failed (hd _ _))) (fun _ => ?_)
        cases hpi : ed2.pipe ((path.getD []).drop 1) [] with
        | none => unfold Ed.pipe at hpi; split at hpi <;> cases hpi
        | some obuf =>
          cases obuf with
          | none =>
            dsimp only
            exact .some (readDone_out _ (hd · true) (by omega) hel (Int.le_refl _))
          | some o =>
            dsimp only
            cases he : ed2.edit (some o) pos pos with
            | none =>
              refine .none (fun hC => ?_)
              obtain ⟨lb, hl⟩ := ((hd 0 true).live hC.2.1 hC.1).lb
              obtain ⟨_, h'⟩ := ed_edit_total ed2 lb (some o) pos pos hl hpos (Int.le_refl _)
              rw [he] at h'; cases h'
            | some ed3 =>
              obtain ⟨_, _, _, hl'⟩ := Lemmas.C05d.edit_len he
              exact .some (readDone_out _ (fun m => .edit (some o) pos pos (hd m true) hpos (Int.le_refl _)
                (fun t ht => hT _ t (.inl ⟨_, by cases ht; exact hpi⟩)) he) (by omega) hel (by omega))
      · unfold Lemmas.C20.readFile
        cases hf : ed2.findFile (path.getD []) with
        | none => exact .some (.failed ((hd _ _).msg _))
        | some fl =>
          dsimp only
          cases hrd : ed2.lb.bind (fun lb => LbufIo.rd lb [fl.data] false pos.toNat pos.toNat) with
          | none =>
            refine .none (fun hC => ?_)
            obtain ⟨lb, hl⟩ := ((hd 0 true).live hC.2.1 hC.1).lb
            obtain ⟨_, h'⟩ := Lemmas.C06b.read_step_total ed2 lb fl.data pos hl
            rw [hrd] at h'; cases h'
          | some q =>
            obtain ⟨rc', lb'⟩ := q
            dsimp only
            obtain ⟨_, he⟩ := Lemmas.C06b.read_step ed2 fl.data pos hpos rc' lb' hrd
            obtain ⟨_, _, _, hl'⟩ := Lemmas.C05d.edit_len he
            exact .some (readDone_out _ (fun m => .edit _ pos pos (hd m true) hpos (Int.le_refl _)
              (fun t ht => hT _ t (.inr ⟨_, fl, hf, by cases ht; rfl⟩)) he) (by omega) hel (by omega))

/-- the handlers that edit a line: the undo history is open after them -/
def editing (hd : String) : Bool := hd == "ec_insert" || hd == "ec_delete" || hd == "ec_put"

/-- the handlers that put the row inside the buffer when they succeed -/
def setsRow (hd : String) : Bool :=
  hd == "ec_insert" || hd == "ec_print" || hd == "ec_null" || hd == "ec_delete" || hd == "ec_put"

/-- the texts a handler takes from outside the buffer: the text lines of `:a :i :c :rs`, the register of `:pu` -/
def Src (hd : String) (ed : Ed) (arg : Bytes) (txt : Option Bytes) (_ : Ed) (t : Bytes) : Prop :=
  ((hd = "ec_insert" ∨ hd = "ec_rs") ∧ txt = some t) ∨ (hd = "ec_put" ∧ regGet ed (regName arg) = some t)

/-- **the dispatcher on the handlers above**, the unknown names included (`:u :redo` are `ecHist_run`): fuel 2 is
    what the empty command needs -/
theorem local_run (f : Nat) (ed : Ed) (hd : String) (loc cmd arg : Bytes) (txt : Option Bytes)
    (hn : hd ∉ ["ec_undo", "ec_redo", "ec_at", "ec_glob", "ec_edit", "ec_substitute", "ec_exec", "ec_read", "ec_write",
      "ec_quit", "ec_buffer"]) :
    Run (Live ed ∧ 0 ∉ loc ∧ 0 < f) (Out (Src hd ed arg txt) (0 ∉ loc) (editing hd) (setsRow hd) ed)
      (runCmd (f + 1) ed hd loc cmd arg txt) := by
  simp only [List.mem_cons, List.not_mem_nil, or_false, not_or] at hn
  obtain ⟨n1, n2, n3, n4, n5, n6, n7, n8, n9, n10, n11⟩ := hn
  have no : ∀ {s : String} {x : R Int}, hd ≠ s → (hd == s) = true →
      Run (Live ed ∧ 0 ∉ loc ∧ 0 < f) (Out (Src hd ed arg txt) (0 ∉ loc) (editing hd) (setsRow hd) ed) x :=
    fun hne h => absurd (beq_iff_eq.1 h) hne
  have hC : Live ed ∧ 0 ∉ loc ∧ 0 < f → Live ed ∧ 0 ∉ loc := fun h => ⟨h.1, h.2.1⟩
  rw [Lemmas.C20.runCmd_eq]
  refine Run.ite (fun h => ?_) (fun _ => ?_)
  · obtain rfl := beq_iff_eq.1 h
    exact (ecInsert_run _ ed loc cmd txt (fun _ _ h => .inl ⟨.inl rfl, h⟩)).mono hC (fun _ h => h)
  refine Run.ite (fun h => ?_) (fun _ => ?_)
  · obtain rfl := beq_iff_eq.1 h
    exact (ecPrint_run _ ed loc cmd).mono hC (fun _ h => h)
  refine Run.ite (fun h => ?_) (fun _ => ?_)
  · obtain rfl := beq_iff_eq.1 h
    refine Run.ite (fun _ => ?_) (fun _ => (ecNullVi_run _ ed loc).mono hC (fun _ h => h))
    cases f with
    | zero =>
      rw [runCmd]
      exact .none (fun h => Nat.lt_irrefl 0 h.2.2)
    | succ f =>
      rw [Lemmas.C20.runCmd_print]
      exact (ecNullEx_run _ ed loc cmd).mono hC (fun _ h => h)
  refine Run.ite (fun h => ?_) (fun _ => ?_)
  · rcases Bool.or_eq_true _ _ ▸ h with h | h
    · obtain rfl := beq_iff_eq.1 h
      exact (ecDelete_run _ ed loc arg false).mono hC (fun _ h => h)
    · obtain rfl := beq_iff_eq.1 h
      exact (ecDelete_run _ ed loc arg true).mono hC (fun _ h => h)
  refine Run.ite (fun h => ?_) (fun _ => ?_)
  · obtain rfl := beq_iff_eq.1 h
    exact (ecPut_run _ ed loc arg (fun _ _ h => .inr ⟨rfl, h⟩)).mono hC (fun _ h => h)
  refine Run.ite (fun h => ?_) (fun _ => ?_)
  · obtain rfl := beq_iff_eq.1 h
    exact (ecLnum_run _ ed loc).mono hC (fun _ h => h)
  refine Run.ite (no n1) (fun _ => ?_)
  refine Run.ite (no n2) (fun _ => ?_)
  refine Run.ite (fun h => ?_) (fun _ => ?_)
  · obtain rfl := beq_iff_eq.1 h
    exact (ecMark_run _ ed loc arg).mono hC (fun _ h => h)
  refine Run.ite (fun h => ?_) (fun _ => ?_)
  · obtain rfl := beq_iff_eq.1 h
    refine .some (.plain (.reg _ _ _ .refl ?_))
    cases txt with
    | none => exact .inl rfl
    | some t => exact .inr (.inl ⟨.inr rfl, rfl⟩)
  refine Run.ite (no n3) (fun _ => ?_)
  refine Run.ite (no n4) (fun _ => ?_)
  refine Run.ite (no n5) (fun _ => ?_)
  refine Run.ite (no n6) (fun _ => ?_)
  refine Run.ite (no n7) (fun _ => ?_)
  refine Run.ite (no n8) (fun _ => ?_)
  refine Run.ite (no n9) (fun _ => ?_)
  refine Run.ite (no n10) (fun _ => ?_)
  refine Run.ite (no n11) (fun _ => ?_)
  refine Run.ite (fun h => ?_) (fun _ => ?_)
  · obtain rfl := beq_iff_eq.1 h
    exact ecSet_run _ ed arg _ _
  refine Run.ite (fun h => ?_) (fun _ => ?_)
  · obtain rfl := beq_iff_eq.1 h
    exact .some (.plain (Did.refl.print _))
  exact .some (.failed Did.refl.flag)

end Neatvi.Lemmas.C05e
