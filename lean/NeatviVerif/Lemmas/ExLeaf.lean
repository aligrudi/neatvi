import NeatviVerif.Lemmas.C06bRead
import NeatviVerif.Lemmas.C06bExec
import NeatviVerif.Lemmas.ExDid
/-!
# What the helpers of the ex handlers leave alone

`core ed`: the fields through which anything can be observed later in a buffer, a file or a counter (buffer table and its
counter, `xleft`, `xvis`, the two depth counters, the pipe oracle, files, clock, the quit flag).  The helpers of the handlers (`ex_region`,
`ex_pathexpand`, `:set`, `ex_txt`, the print loop) assign cursor, search state, options, input, messages and output only:
`region_core` … `foldl_print_core`, each from the finest statement there is of the helper (`C06.region_all`,
`C06b.pathExpand_cases`, `ExDid.Shown.opt`, `C06b.exTxt_input`).  "The helper keeps field X" is a projection of these.
Everything here is declared in `namespace Neatvi.Lemmas.ExStep`.
-/
namespace Neatvi.Lemmas.ExStep
open Neatvi Neatvi.Ex

/-- the fields that only lbuf calls on the current buffer, saves and the operations on the buffer table change -/
structure Core where
  bufs : List (Option Buf)
  bufsCnt : Int
  xleft : Int
  xvis : Bool
  xgdep : Nat
  atDepth : Nat
  pipes : List (Bytes × Bytes × Option Bytes)
  files : List File
  clock : Int
  xquit : Bool

def core (ed : Ed) : Core := ⟨ed.bufs, ed.bufsCnt, ed.xleft, ed.xvis, ed.xgdep, ed.atDepth, ed.pipes, ed.files, ed.clock, ed.xquit⟩

theorem _root_.Neatvi.Lemmas.C06.AddrOnly.core {a b : Ed} (h : Lemmas.C06.AddrOnly a b) : core b = core a := by
  obtain ⟨_, _, _, rfl⟩ := h
  rfl

theorem region_core {ed ed' : Ed} {loc : Bytes} {r : Nat × Int × Int} (h : exRegion ed loc = some (r, ed')) :
    core ed' = core ed := (Lemmas.C06.region_all ed loc r.1 r.2.1 r.2.2 ed' h).1.core

theorem pathExpand_core {ed ed' : Ed} {src : Bytes} {sp : Bool} {r : Option Bytes}
    (h : pathExpand ed src sp = some (r, ed')) : core ed' = core ed := by
  obtain ⟨h1, h2⟩ := Lemmas.C06b.pathExpand_cases h
  cases r with
  | none => rw [h2 rfl]; rfl
  | some p => rw [h1 rfl]

theorem _root_.Neatvi.Lemmas.ExDid.Shown.core {b c : Ed} (h : Lemmas.ExDid.Shown b c) : core c = core b := by
  obtain ⟨_, _, _, _, _, _, _, rfl⟩ := h
  rfl

theorem setOpt_core (ed : Ed) (v : String) (x : Int) : core (setOpt ed v x) = core ed := (Lemmas.ExDid.Shown.opt ed v x).core

theorem exTxt_core (ed : Ed) (src ex : Bytes) : core (exTxt ed src ex).2 = core ed := by
  obtain ⟨inp, h⟩ := Lemmas.C06b.exTxt_input ed src ex
  rw [h]
  rfl

theorem foldl_print_core (b : Int) : ∀ (l : List Nat) (ed : Ed),
    core (l.foldl (fun (ed : Ed) (k : Nat) => match ed.line (b + (k : Int)) with | some l => ed.print l | none => ed) ed)
      = core ed := by
  intro l
  induction l with
  | nil => intro ed; rfl
  | cons k l ih =>
    intro ed
    rw [List.foldl_cons, ih]
    split <;> rfl

end Neatvi.Lemmas.ExStep
