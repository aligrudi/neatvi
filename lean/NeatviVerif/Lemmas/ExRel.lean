import NeatviVerif.Lemmas.C02cTable
import NeatviVerif.Lemmas.ExStepTable
/-!
# Relations on editor states that every ex command keeps

Many properties of the ex layer have the form "whatever the command does, `R ed ed'` holds between the state it
was called in and the state it returns": a counter is unchanged, the parked buffers are what they were, the saved
`left` of every record is what it was.  Such an `R` is transitive, holds between states that differ only outside
`core` (Lemmas/ExLeaf.lean) or in what `lbuf_save` writes, and is kept by the few other ways in which the handlers change the state: `ExRel R` says that for the
handlers that work on the current buffer, `ExRelTable R` adds the operations on the buffer table.

An invariant `I` fits as `R ed ed' := I ed → I ed'` only when it meets the same conditions: `I ed` depends on
`core ed` alone (`ofCore`) and survives ANY new line buffer, path and time stamp on the current record (`cur`).
That is an invariant of the shape of the buffer table and of the other fields of its records.  One that speaks of
the text or the history of a buffer, of the file system or of its clock does not fit (`cur` and `ofCore` fail
for it); for those see `Kept` in `Lemmas/C02bCmd.lean`, whose conditions name the steps on a line buffer and the
saves that occur.

Every command line is a composition of steps (`QStep`, `LStep`, `XStep` of Lemmas/ExStep.lean, ExStepTable.lean); this
file says what each step does to `R`: `ExRel.ofStep` for the handlers off the buffer table, `ExRel.ofLStep` with `:!` and
`:w`, `ExRelTable.ofXStep` for every command line, given what `R` makes of the two counters that go up and down around
a nested command line (`ExRel.atBracket`, `globBracket` when `R` does not look at the counter).  `ExRelTable.all` is
`XStep.all` read through it.
-/
namespace Neatvi.Lemmas.ExRel
open Neatvi Neatvi.Lbuf Neatvi.LbufIo Neatvi.Ex Neatvi.Rset Neatvi.Lemmas.ExFrame
open Neatvi.Lemmas.ExStep (QStep core LStep XStep)

/-- `R` is kept by every step on the current buffer -/
structure ExRel (R : Ed → Ed → Prop) : Prop where
  trans : ∀ {a b c : Ed}, R a b → R b c → R a c
  ofCore : ∀ {a b : Ed}, core b = core a → R a b
  /-- `lbuf_save`: the file system, its clock and the fault counters -/
  io : ∀ {a b : Ed}, Lemmas.C02Ex.IoEq a b → R a b
  /-- the current record gets a new line buffer (`lbuf_edit`, `lbuf_undo`, marks, `lbuf_saved`, `lbuf_modified`)
      and, in `:w` and `:e`, a path and a time stamp -/
  cur : ∀ (ed : Ed) (b : Buf) (p : Bytes) (lb : Lb) (m : Int), ed.cur = some b →
    R ed (ed.setCur { b with path := p, lb := lb, mtime := m })

/-- `R` is kept by the operations on the buffer table as well -/
structure ExRelTable (R : Ed → Ed → Prop) : Prop extends ExRel R where
  slot : ∀ (ed : Ed) (i : Nat) (b : Buf) (lb : Lb), ed.bufs.getD i none = some b →
    R ed { ed with bufs := ed.bufs.set i (some { b with lb := lb }) }
  switch : ∀ (ed : Ed) (i : Nat), R ed (ed.bufsSwitch i)
  shift : ∀ ed : Ed, R ed ed.bufsShift
  opened : ∀ (ed : Ed) (p : Bytes), R ed (ed.bufsOpen p).2
  /-- `:b!` on the last buffer: an empty unnamed buffer takes the first slot -/
  fresh : ∀ ed : Ed, R ed { ed with bufs := ed.bufs.set 0 (some (Props.C20b.freshBuf ed)), bufsCnt := ed.bufsCnt + 1 }
  /-- `:b~`: the buffers are numbered anew -/
  renum : ∀ ed : Ed, R ed (Props.C20b.renumEd ed)
  /-- the end of `ec_quit` -/
  quitFlag : ∀ ed : Ed, R ed { ed with xquit := true }

namespace ExRel
variable {R : Ed → Ed → Prop} (hR : ExRel R)
include hR

theorem refl (ed : Ed) : R ed ed := hR.ofCore rfl

theorem step {a b c : Ed} (h : R a b) (e : core c = core b) : R a c := hR.trans h (hR.ofCore e)

theorem setLb (ed : Ed) (lb : Lb) : R ed (ed.setLb lb) := by
  unfold Ed.setLb
  split
  · rename_i b hb
    exact hR.cur ed b b.path lb b.mtime hb
  · exact hR.refl ed

theorem ofStep {ed ed' : Ed} (hs : QStep ed ed') : R ed ed' := by
  induction hs with
  | same e => exact hR.ofCore e
  | setLb _ _ => exact hR.setLb _ _
  | trans _ _ ih1 ih2 => exact hR.trans ih1 ih2

theorem modifiedAt0 (ed : Ed) : R ed (ed.modifiedAt 0).2 :=
  Lemmas.C02Ex.modifiedAt_cases (P := R ed) ed 0 (hR.refl ed) fun b hb => hR.cur ed b b.path (modified b.lb).2 b.mtime hb

theorem bufsModified {idx : Nat} (hm : ∀ ed : Ed, R ed (ed.modifiedAt idx).2) {ed ed' : Ed} {msg : Option Bytes}
    {r : Bool} (h : bufsModified ed idx msg = some (r, ed')) : R ed ed' :=
  Lemmas.C02Ex.bufsModified_rel hR.refl hR.trans (fun _ hs => hR.io (Lemmas.C02Ex.lbufSave_io hs)) (fun _ _ => hR.ofCore rfl) hm h

/-- the end of `ec_write` puts the current record back with a new path, line buffer and time stamp -/
theorem written {ed ed' : Ed} {cur : Buf} {path : Bytes} {b e r : Int} (hc : ed.cur = some cur)
    (hf : Lemmas.C02Ex.writeFinish ed cur path b e = some (r, ed')) : R ed ed' := by
  obtain ⟨c3, ed6, _, h6, h⟩ := Lemmas.C02Ex.writeFinish_cases hf
  have key : ∀ (lb : Lb) (m : Int), R ed (ed6.setCur { c3 with lb := lb, mtime := m }) := by
    intro lb m
    rcases h6 with ⟨e3, e6⟩ | ⟨e3, e6⟩ <;> rw [e3, e6]
    · exact hR.cur _ cur _ _ _ hc
    · exact hR.trans (hR.step (c := { ed with regs := ed.regs.put 37 path 0 }) (hR.refl ed) rfl) (hR.cur _ cur _ _ _ hc)
  rcases h with ⟨_, _, _, rfl⟩ | rfl | rfl
  · exact key _ _
  · exact key _ _
  · exact hR.cur ed cur cur.path cur.lb cur.mtime hc

theorem ofLStep {ed ed' : Ed} (hs : LStep ed ed') : R ed ed' := by
  induction hs with
  | quiet hq => exact hR.ofStep hq
  | trans _ _ ih1 ih2 => exact hR.trans ih1 ih2
  | bump0 => exact hR.modifiedAt0 _
  | guard0 hm => exact hR.bufsModified hR.modifiedAt0 hm
  | save hs => exact hR.io (Lemmas.C02Ex.lbufSaveP_io hs)
  | written hc hs hf =>
    refine hR.trans (hR.step (c := _) (hR.io (Lemmas.C02Ex.lbufSaveP_io hs)) ?_) (hR.written ?_ hf)
    · rfl
    · exact (Lemmas.C02Ex.cur_congr (Lemmas.C02Ex.lbufSaveP_bufs _ _ _ _ _ _ _ _ _ hs)).trans hc

/-- what `:@` does around the command line of the register, for a relation that does not look at `atDepth` -/
theorem atBracket (hd : ∀ (ed : Ed) (n : Nat), R ed { ed with atDepth := n }) (e1 e2 : Ed)
    (h : R { e1 with atDepth := e1.atDepth + 1 } e2) : R e1 { e2 with atDepth := e2.atDepth - 1 } :=
  hR.trans (hR.trans (hd e1 _) h) (hd e2 _)

/-- what `:g` does around its loop, for a relation that does not look at `xgdep` -/
theorem globBracket (hg : ∀ (ed : Ed) (n : Nat), R ed { ed with xgdep := n }) (e0 ed2 : Ed) (b e : Int)
    (h : R (Props.C15.globMark e0 b e (e0.xgdep + 1)) ed2) :
    R e0 { Props.C15.globSweep ed2 (e0.xgdep + 1) with xgdep := e0.xgdep + 1 - 1 } :=
  hR.trans (hR.trans (hR.trans (hR.trans (hg e0 _) (hR.ofStep (Lemmas.ExStep.globMark_step trivial e0 b e))) h)
    (hR.ofStep (Lemmas.ExStep.globSweep_step trivial ed2))) (hg _ _)

/-- `R` holds across every call of `ex_exec` / `ex_command` / `runCmd` with fuel `f` -/
def Exec (R : Ed → Ed → Prop) (f : Nat) : Prop := ∀ ed ln r ed', exExec f ed ln = some (r, ed') → R ed ed'
def Cmd (R : Ed → Ed → Prop) (f : Nat) : Prop := ∀ ed ln r ed', exCommand f ed ln = some (r, ed') → R ed ed'
def Run (R : Ed → Ed → Prop) (f : Nat) : Prop := ∀ ed h loc cmd arg txt r ed',
  Ex.runCmd f ed h loc cmd arg txt = some (r, ed') → R ed ed'

end ExRel

namespace ExRelTable
variable {R : Ed → Ed → Prop} (hT : ExRelTable R)
include hT

theorem modifiedAt (ed : Ed) (i : Nat) : R ed (ed.modifiedAt i).2 :=
  Lemmas.C02Ex.modifiedAt_cases (P := R ed) ed i (hT.refl ed) fun b hb => hT.slot ed i b _ hb

theorem bufsModified {ed ed' : Ed} {idx : Nat} {msg : Option Bytes} {r : Bool}
    (h : bufsModified ed idx msg = some (r, ed')) : R ed ed' :=
  hT.toExRel.bufsModified (fun ed => hT.modifiedAt ed idx) h

/-- `bufs_modified` behind a test (`!` not given, `:x`, …) -/
theorem guard {c : Prop} [Decidable c] {ed ed' : Ed} {idx : Nat} {msg : Option Bytes} {r : Bool}
    (h : (if c then Ex.bufsModified ed idx msg else some (false, ed)) = some (r, ed')) : R ed ed' := by
  split at h
  · exact hT.bufsModified h
  · cases h; exact hT.refl ed

theorem editFinish {ed ed' : Ed} {path : Bytes} (h : Lemmas.C02c.editFinish ed path = some ed') : R ed ed' := by
  obtain ⟨b, ed5, b5, _, hb, hrd, hb5, rfl, rfl⟩ := Lemmas.C02c.editFinish_cases h
  exact hT.step (hT.trans (hT.toExRel.ofStep (Lemmas.ExStep.editRead_step hb hrd)) (hT.cur ed5 b5 b5.path _ _ hb5)) rfl

theorem ofXStep
    (hd : ∀ e1 e2 : Ed, R { e1 with atDepth := e1.atDepth + 1 } e2 → R e1 { e2 with atDepth := e2.atDepth - 1 })
    (hg : ∀ (e0 ed2 : Ed) (b e : Int), R (Props.C15.globMark e0 b e (e0.xgdep + 1)) ed2 →
      R e0 { Props.C15.globSweep ed2 (e0.xgdep + 1) with xgdep := e0.xgdep + 1 - 1 })
    {ed ed' : Ed} (hs : XStep ed ed') : R ed ed' := by
  induction hs with
  | quiet hq => exact hT.toExRel.ofStep hq
  | trans _ _ ih1 ih2 => exact hT.trans ih1 ih2
  | cmd hl hr => exact hT.toExRel.ofLStep (LStep.run hl hr)
  | bump i => exact hT.modifiedAt _ i
  | guard hm => exact hT.bufsModified hm
  | switch i _ => exact hT.switch _ i
  | shift => exact hT.shift _
  | opened p => exact hT.opened _ p
  | fresh _ => exact hT.fresh _
  | renum => exact hT.renum _
  | quitFlag => exact hT.quitFlag _
  | save hs => exact hT.io (Lemmas.C02Ex.lbufSaveP_io hs)
  | loaded hf => exact hT.editFinish hf
  | atBracket _ ih => exact hd _ _ ih
  | globBracket _ ih => exact hg _ _ _ _ ih

/-- every `ex_exec`, `ex_command` and handler call keeps `R`, whatever the fuel -/
theorem all
    (hd : ∀ e1 e2 : Ed, R { e1 with atDepth := e1.atDepth + 1 } e2 → R e1 { e2 with atDepth := e2.atDepth - 1 })
    (hg : ∀ (e0 ed2 : Ed) (b e : Int), R (Props.C15.globMark e0 b e (e0.xgdep + 1)) ed2 →
      R e0 { Props.C15.globSweep ed2 (e0.xgdep + 1) with xgdep := e0.xgdep + 1 - 1 }) (f : Nat) :
    ExRel.Exec R f ∧ ExRel.Cmd R f ∧ ExRel.Run R f ∧ ExRel.Run R (f + 1) :=
  have h := XStep.all f
  ⟨fun _ _ _ _ he => hT.ofXStep hd hg (h.1 _ _ _ _ he), fun _ _ _ _ he => hT.ofXStep hd hg (h.2.1 _ _ _ _ he),
   fun _ _ _ _ _ _ _ _ he => hT.ofXStep hd hg (h.2.2.1 _ _ _ _ _ _ _ _ he),
   fun _ _ _ _ _ _ _ _ he => hT.ofXStep hd hg (h.2.2.2 _ _ _ _ _ _ _ _ he)⟩

end ExRelTable
end Neatvi.Lemmas.ExRel
