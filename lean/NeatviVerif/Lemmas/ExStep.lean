import NeatviVerif.Lemmas.C15Quiet
import NeatviVerif.Lemmas.ExHandlers
/-!
# The ex handlers off the buffer table as compositions of steps

A handler other than `:e :b :w :q :! :@ :g` does two things to the fields through which anything can be observed
later in a buffer, a file or a counter (`core`): nothing (it assigns cursor, options, registers, messages, search
state, input), or it replaces the current line buffer by what lbuf calls other than `lbuf_saved` and
`lbuf_modified` make of it (`LbStepAt K`, the marks of `:g` moving at depths in `K` only).  `QStepAt K ed ed'` says that
`ed'` comes from `ed` by such steps.  Each handler is shown to be one, once and with no property in sight: the handlers
on the current buffer are walked in Lemmas/ExHandlers.lean for the steps `Did` with their data, and those are steps of
this kind (`Did.qstep`): `runCmd_quiet_cases` for the dispatcher.  A property of the ex layer then only
says what a step does to it: `ExRel.ofStep` (Lemmas/ExRel.lean), `Quiet.ofStep` (Lemmas/C02bKeep.lean),
`StableAt.ofStep` (Lemmas/C15Stable.lean).

The helpers of the handlers leave `core` alone (`Lemmas/ExLeaf.lean`; here the preparation of `:s`).
-/
namespace Neatvi.Lemmas.ExStep
open Neatvi Neatvi.Lbuf Neatvi.LbufIo Neatvi.Ex Neatvi.Rset Neatvi.Props Neatvi.Lemmas.ExFrame

/-- `lb'` comes from `lb` by calls of the lbuf API that leave the saved state and the sequence counter alone; the
    marks of `:g` are touched at depths in `K` only -/
inductive LbStepAt (K : Nat → Prop) (lb : Lb) : Lb → Prop
  | refl : LbStepAt K lb lb
  | edit {lb1 lb'} (buf : Option Bytes) (b e : Nat) : LbStepAt K lb lb1 → Lbuf.edit lb1 buf b e = some lb' → LbStepAt K lb lb'
  | undo {lb1 rc lb'} : LbStepAt K lb lb1 → Lbuf.undo lb1 = some (rc, lb') → LbStepAt K lb lb'
  | redo {lb1 rc lb'} : LbStepAt K lb lb1 → Lbuf.redo lb1 = some (rc, lb') → LbStepAt K lb lb'
  | setMark {lb1} (c : Nat) (p o : Int) : LbStepAt K lb lb1 → LbStepAt K lb (Lbuf.setMark lb1 c p o)
  | globSet {lb1} (pos dep : Nat) : K dep → LbStepAt K lb lb1 → LbStepAt K lb (Lbuf.globSet lb1 pos dep)
  | globGet {lb1} (pos dep : Nat) : K dep → LbStepAt K lb lb1 → LbStepAt K lb (Lbuf.globGet lb1 pos dep).2

abbrev LbStep := LbStepAt (fun _ => True)

/-- `lbuf_rd` is `lbuf_edit` (or nothing) -/
theorem LbStepAt.rd {K : Nat → Prop} {lb lb' : Lb} {chunks : List Bytes} {fe : Bool} {b e rc : Nat}
    (hr : LbufIo.rd lb chunks fe b e = some (rc, lb')) : LbStepAt K lb lb' := by
  rcases Lemmas.C06.rd_cases hr with rfl | ⟨_, he⟩
  · exact .refl
  · exact .edit _ _ _ .refl he

/-- what a handler off the buffer table does -/
inductive QStepAt (K : Nat → Prop) : Ed → Ed → Prop
  | same {ed ed'} : core ed' = core ed → QStepAt K ed ed'
  | setLb {ed lb lb'} : ed.lb = some lb → LbStepAt K lb lb' → QStepAt K ed (ed.setLb lb')
  | trans {a b c} : QStepAt K a b → QStepAt K b c → QStepAt K a c

abbrev QStep := QStepAt (fun _ => True)

variable {K : Nat → Prop}

namespace QStepAt

theorem refl (ed : Ed) : QStepAt K ed ed := .same rfl

theorem to {a b c : Ed} (h : QStepAt K a b) (e : core c = core b) : QStepAt K a c := h.trans (.same e)

theorem edit {ed ed' : Ed} {s : Option Bytes} {b e : Int} (h : ed.edit s b e = some ed') : QStepAt K ed ed' := by
  obtain ⟨_, _, lb, lb', hlb, hed, rfl, _⟩ := Ed_edit_some h
  exact .setLb hlb (.edit _ _ _ .refl hed)

theorem updLb (ed : Ed) (F : Lb → Lb) (hF : ∀ lb, LbStepAt K lb (F lb)) :
    QStepAt K ed (match ed.lb with | some lb => ed.setLb (F lb) | none => ed) := by
  cases hl : ed.lb with
  | none => exact refl ed
  | some lb => exact .setLb hl (hF lb)

end QStepAt

theorem substPrep_core (ed : Ed) (arg : Bytes) : core (C14.substPrep ed arg).1 = core ed := by
  obtain ⟨r, e⟩ := Lemmas.C05e.sPrep_shape ed arg
  rw [e]
  exact (Lemmas.C06.kw_addrOnly ed (reRead arg).1 1).core

theorem region_step {ed ed' : Ed} {loc : Bytes} {r : Nat × Int × Int} (h : exRegion ed loc = some (r, ed')) :
    QStepAt K ed ed' := .same (region_core h)

section handlers
open Neatvi.Lemmas.C20
variable {f : Nat} {ed ed' : Ed} {loc cmd arg : Bytes} {txt : Option Bytes} {r : Int}

theorem _root_.Neatvi.Lemmas.ExDid.Did.qstep {T : Ed → Bytes → Prop} {L : Prop} {n : Int} {e : Bool} {a b : Ed}
    (h : Lemmas.ExDid.Did T L n a e b) : QStepAt K a b := by
  induction h with
  | refl => exact .refl _
  | addr _ ha _ _ ih => exact ih.to (by obtain ⟨_, _, _, rfl⟩ := ha; rfl)
  | look _ hs ih => obtain ⟨_, _, _, _, _, _, _, rfl⟩ := hs; exact ih.to rfl
  | edit s x y _ _ _ _ he ih => exact ih.trans (.edit he)
  | yank k x y i _ ih => exact ih.to rfl
  | reg k t i _ _ ih => exact ih.to rfl
  | mark c p o _ hl _ _ ih => exact ih.trans (.setLb hl (.setMark c p o .refl))
  | row r _ _ _ ih => exact ih.to rfl
  | down _ _ ih => exact ih.to rfl
  | col o _ _ ih => exact ih.to rfl

theorem ecHist_step {op : Lb → Option (Nat × Lb)} (hop : ∀ {lb rc lb'}, op lb = some (rc, lb') → LbStepAt K lb lb')
    (h : ecHist op ed = some (r, ed')) : QStepAt K ed ed' := by
  obtain ⟨lb, rc, lb', hl, hu, e⟩ := (Lemmas.C05e.ecHist_run ed False (fun h => h.elim)).post _ h
  cases e
  exact .setLb hl (hop hu)

theorem subst_step (h : runCmd (f + 1) ed "ec_substitute" loc cmd arg txt = some (r, ed')) : QStepAt K ed ed' := by
  obtain ⟨ed1, hd, hq⟩ := (Lemmas.C05e.ecSubst_run (fun _ _ => True) f ed loc cmd arg txt (fun _ _ _ _ _ _ _ => trivial)).post _ h
  have q1 : QStepAt K ed ed1 := (hd (fun _ _ => True) 0 false).qstep
  rcases hq with hq | hq
  · cases hq; exact q1
  · exact (q1.to (substPrep_core ed1 arg)).trans (hq 0).qstep

theorem ecRead_step (h : ecRead ed loc arg = some (r, ed')) : QStepAt K ed ed' :=
  ((Lemmas.C05e.ecRead_run (fun _ _ => True) (fun _ _ _ => trivial) ed loc arg).post _ h).1.qstep

/-- **a command off the buffer table and the file system is a composition of quiet steps, or it is `:g`**: `:u`, `:redo`,
    `:s`, `:r` here, the other handlers on the current buffer through their one walk (`C05e.local_run`,
    Lemmas/ExHandlers.lean) -/
theorem runCmd_quiet_cases {hd : String} (hq : C15.noisy hd = false)
    (h : runCmd (f + 1) ed hd loc cmd arg txt = some (r, ed')) :
    QStepAt K ed ed' ∨ (hd = "ec_glob" ∧ ecGlob f ed loc cmd arg = some (r, ed')) := by
  by_cases h1 : hd = "ec_undo"
  · subst h1
    rw [runCmd_eq] at h
    exact .inl (ecHist_step (fun hu => .undo .refl hu) h)
  by_cases h2 : hd = "ec_redo"
  · subst h2
    rw [runCmd_eq] at h
    exact .inl (ecHist_step (fun hu => .redo .refl hu) h)
  by_cases h3 : hd = "ec_glob"
  · subst h3
    rw [Lemmas.C20c.runCmd_glob] at h
    exact .inr ⟨rfl, h⟩
  by_cases h4 : hd = "ec_substitute"
  · subst h4; exact .inl (subst_step h)
  by_cases h5 : hd = "ec_read"
  · subst h5
    rw [Lemmas.C20c.runCmd_read] at h
    exact .inl (ecRead_step h)
  simp only [C15.noisy, Bool.or_eq_false_iff, beq_eq_false_iff_ne, ne_eq] at hq
  obtain ⟨⟨⟨⟨⟨q1, q2⟩, q3⟩, q4⟩, q5⟩, q6⟩ := hq
  refine .inl ((Lemmas.C05e.local_run f ed hd loc cmd arg txt ?_).post _ h).1.qstep
  simp only [List.mem_cons, List.not_mem_nil, or_false, not_or]
  exact ⟨h1, h2, q1, h3, q2, h4, q3, h5, q4, q5, q6⟩

end handlers

/-! The three loops of `:g` over the marks of depth `dep`. -/

theorem adv_step {dep : Nat} (hk : K dep) : ∀ (h : Nat) (ed : Ed) (i : Int), QStepAt K ed (ecGlob.scan.adv dep h ed i).1 :=
  fun h ed i => adv_inv (P := fun e _ => QStepAt K ed e)
    (fun _ _ _ hlb hp => hp.trans (.setLb hlb (.globGet _ _ hk .refl))) (fun _ _ hp => hp) h ed i (.refl ed)

/-- what the loop does to the current line buffer is `lbuf_globget` at depth `dep`, again and again -/
theorem adv_lb {dep : Nat} {Q : Lb → Prop} (hQ : ∀ lb p, Q lb → Q (globGet lb p dep).2) :
    ∀ (h : Nat) (ed : Ed) (i : Int) (l l' : Lb), ed.lb = some l → (ecGlob.scan.adv dep h ed i).1.lb = some l' → Q l → Q l' :=
  fun h ed i l l' hl hl' hq =>
    adv_inv (P := fun e _ => ∀ l', e.lb = some l' → Q l')
      (fun e j lb hlb hp l' hl' => by
        have hs : (e.setLb (globGet lb j.toNat dep).2).lb = some (globGet lb j.toNat dep).2 := by
          rw [setLb_lb, hlb]; rfl
        rw [hs] at hl'; cases hl'; exact hQ _ _ (hp lb hlb))
      (fun _ _ hp => hp) h ed i (fun l0 hl0 => by rw [hl] at hl0; cases hl0; exact hq) l' hl'

theorem foldl_step {α : Type} (F : Ed → α → Ed) (hF : ∀ ed a, QStepAt K ed (F ed a)) :
    ∀ (l : List α) (ed : Ed), QStepAt K ed (l.foldl F ed) := by
  intro l
  induction l with
  | nil => intro ed; exact .refl ed
  | cons a l ih => intro ed; rw [List.foldl_cons]; exact (hF ed a).trans (ih _)

/-- the marking loop, from the state in which `xgdep` has been counted up -/
theorem globMark_step {dep : Nat} (hk : K dep) (ed : Ed) (b e : Int) :
    QStepAt K { ed with xgdep := dep } (C15.globMark ed b e dep) := by
  unfold C15.globMark
  refine foldl_step _ (fun s k => ?_) _ _
  exact QStepAt.updLb s (fun lb => globSet lb (b.toNat + 1 + k) dep) (fun lb => .globSet _ _ hk .refl)

theorem globSweep_step {dep : Nat} (hk : K dep) (ed : Ed) : QStepAt K ed (C15.globSweep ed dep) := by
  unfold C15.globSweep
  refine QStepAt.updLb ed (fun lb => (List.range lb.lines.length).foldl (fun lb k => (globGet lb k dep).2) lb) (fun lb => ?_)
  exact Basics.foldl_inv (LbStepAt K lb) _ (fun _ k hs => hs.globGet k dep hk) _ _ .refl

end Neatvi.Lemmas.ExStep
