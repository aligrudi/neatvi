import NeatviVerif.Lemmas.ExStep
import NeatviVerif.Lemmas.C06bProgress
/-!
# The quiet command lines as compositions of steps

A quiet line (`C15.quietLine d ln`: none of `:e :b :w :q :! :@`, also inside the command lists of `:g`s nested at most
`d` deep) is a composition of the quiet steps of `Lemmas/ExStep.lean` and of brackets of `:g`: the lines are marked at
depth `xgdep + 1`, the command list runs, the marks are swept (`GStepAt K`, the depths in `K`).  `Guard K G`: a condition
`G` on the state that no command loses and under which a `:g` that passes its depth check works at a depth in `K`.
`GStepAt.exExec`: `ex_exec` of a quiet line started in a state with `G` is such a composition, whatever the fuel.
Its readings: `StableAt.ofGStep` (Lemmas/C15Stable.lean), `Quiet.ofGStep` (Lemmas/C02bKeep.lean).
-/
namespace Neatvi.Props.C15
open Neatvi Neatvi.Lbuf Neatvi.Ex Neatvi.Rset

/-- what the depth has to do with it: `G` holds along every run, and a `:g` entered with `G` that passes its depth
    check works at a depth in `K` -/
structure Guard (K : Nat → Prop) (G : Ed → Prop) : Prop where
  depth : ∀ {ed ed1 loc x arg}, G ed → ¬ ed.xgdep ≥ 7 → exRegion ed loc = some (x, ed1) → K ((globPrep ed1 arg).xgdep + 1)
  mark : ∀ {ed ed1 loc rc b e arg}, G ed → exRegion ed loc = some ((rc, b, e), ed1) →
    G (globMark (globPrep ed1 arg) b e ((globPrep ed1 arg).xgdep + 1))
  xrow : ∀ {ed} (i : Int), G ed → G { ed with xrow := i }
  adv : ∀ {ed} dep h i, G ed → G (ecGlob.scan.adv dep h ed i).1
  txt : ∀ {ed} src ex, G ed → G (exTxt ed src ex).2
  msg : ∀ {ed} m, G ed → G (ed.show m)
  run : ∀ {f ed h loc cmd arg txt r ed'}, G ed → runCmd f ed h loc cmd arg txt = some (r, ed') → G ed'
  exec : ∀ {f ed s r ed'}, G ed → exExec f ed s = some (r, ed') → G ed'

theorem Guard.any : Guard (fun _ => True) (fun _ => True) where
  depth := fun _ _ _ => trivial
  mark := fun _ _ => trivial
  xrow := fun _ _ => trivial
  adv := fun _ _ _ _ => trivial
  txt := fun _ _ _ => trivial
  msg := fun _ _ => trivial
  run := fun _ _ => trivial
  exec := fun _ _ => trivial

end Neatvi.Props.C15

namespace Neatvi.Lemmas.ExStep
open Neatvi Neatvi.Lbuf Neatvi.Ex Neatvi.Rset Neatvi.Props Neatvi.Props.C15
open Neatvi.Lemmas.C06 (ite_eq_cases)
open Neatvi.Lemmas.C06b (Parsed parse1 abbrOf)

inductive GStepAt (K : Nat → Prop) : Ed → Ed → Prop
  | quiet {a b} : QStepAt K a b → GStepAt K a b
  | trans {a b c} : GStepAt K a b → GStepAt K b c → GStepAt K a c
  /-- `:g`: the lines are marked at depth `xgdep + 1`, the command list runs, the marks are swept -/
  | globBracket {e0 ed2 : Ed} {b e : Int} : K (e0.xgdep + 1) → GStepAt K (globMark e0 b e (e0.xgdep + 1)) ed2 →
      GStepAt K e0 { globSweep ed2 (e0.xgdep + 1) with xgdep := e0.xgdep + 1 - 1 }

variable {K : Nat → Prop} {G : Ed → Prop}

theorem quietCmds_succ (body : Bytes → Bool) (g : Nat) (ln : Bytes) :
    quietCmds body (g + 1) ln =
      if ln.isEmpty then true else
      (match (parse1 ln).idx with | none => true | some (_, h) => quietH body h (parse1 ln).arg) &&
        quietCmds body g (exTxt {} (parse1 ln).rest (abbrOf (parse1 ln).idx)).1.2 := by
  rw [quietCmds]
  split
  · rfl
  · unfold parse1 abbrOf
    rcases exLoc ln with ⟨loc, l1⟩
    simp only []
    rcases exCmd l1 with ⟨cmd, l2⟩
    simp only []
    rcases exIdx cmd with _ | ⟨a, h⟩ <;> simp only [Bool.true_and]

namespace GStepAt

theorem refl (ed : Ed) : GStepAt K ed ed := .quiet (.same rfl)

theorem to {a b c : Ed} (h : GStepAt K a b) (e : core c = core b) : GStepAt K a c := h.trans (.quiet (.same e))

/-- running line `s` with fuel `f` from a state with `G` -/
def Line (K : Nat → Prop) (G : Ed → Prop) (f : Nat) (s : Bytes) : Prop :=
  ∀ ed r ed', G ed → exExec f ed s = some (r, ed') → GStepAt K ed ed'

theorem globStep (W : Guard K G) {f : Nat} {neg : Bool} {s : Bytes} {re : RStr} {ed ed2 : Ed}
    {i i2 : Int} {stop : Bool} (hbody : Line K G f s) (hG : G ed)
    (h : Lemmas.C05d.globStep f neg s re ed i = some (stop, ed2, i2)) : G ed2 ∧ GStepAt K ed ed2 := by
  rcases (globStep_cases h).2 with ⟨_, rfl, _⟩ | ⟨r, hx, _⟩
  · exact ⟨hG, refl _⟩
  · refine ⟨W.exec (W.xrow i hG) hx, GStepAt.trans (.quiet (.same ?_)) (hbody _ _ _ (W.xrow i hG) hx)⟩
    rfl

theorem scan (W : Guard K G) (f : Nat) (neg : Bool) (s : Bytes) (re : RStr) (dep : Nat)
    (hk : K dep) (hbody : Line K G f s) :
    ∀ (g : Nat) (ed : Ed) (i : Int) (ed' : Ed), G ed → ecGlob.scan f neg s re dep g ed i = some ed' → GStepAt K ed ed' :=
  fun g ed i ed' hG h => (Lemmas.C05d.scan_inv (P := fun e => G e ∧ GStepAt K ed e)
    (fun p hs => ⟨(globStep W hbody p.1 hs).1, p.2.trans (globStep W hbody p.1 hs).2⟩)
    (fun _ _ p => ⟨W.adv _ _ _ p.1, p.2.trans (.quiet (adv_step hk _ _ _))⟩) g ed i ed' ⟨hG, refl _⟩ h).2

theorem ecGlob (W : Guard K G) {f : Nat} {ed ed' : Ed} {loc cmd arg : Bytes} {r : Int}
    (hbody : Line K G f (reRead arg).2) (hG : G ed)
    (h : ecGlob (f + 1) ed loc cmd arg = some (r, ed')) : GStepAt K ed ed' := by
  rcases ecGlob_cases h with ⟨_, _, rfl⟩ | ⟨hguard, rc, b, e, ed1, hr, h⟩
  · exact (refl _).to rfl
  have e1 : GStepAt K ed ed1 := .quiet (region_step hr)
  have e2 : GStepAt K ed (globPrep ed1 arg) := e1.to (globPrep_core ed1 arg)
  rcases h with ⟨_, rfl | rfl⟩ | ⟨re, ed2, _, _, _, hscan, _, rfl⟩
  · exact e1
  · exact e2
  · exact e2.trans (.globBracket (W.depth hG hguard hr) (scan W f _ _ _ _ (W.depth hG hguard hr) hbody _ _ _ _ (W.mark hG hr) hscan))

theorem cmds (W : Guard K G) (f : Nat) (body : Bytes → Bool)
    (hrun : ∀ ed h loc cmd arg txt r ed', quietH body h arg = true → G ed →
      runCmd f ed h loc cmd arg txt = some (r, ed') → GStepAt K ed ed')
    (g : Nat) (ed : Ed) (ln : Bytes) (ret r : Int) (ed' : Ed) (hq : quietCmds body g ln = true) (hG : G ed)
    (h : exExec.cmds f g ed ln ret = some (r, ed')) : GStepAt K ed ed' := by
  have hcut : ∀ g ln, ¬ ln.isEmpty = true → quietCmds body (g + 1) ln = true →
      (match (parse1 ln).idx with | none => true | some (_, h) => quietH body h (parse1 ln).arg) = true ∧
        quietCmds body g (Lemmas.C06b.restOf ln) = true := fun g ln hne hq => by
    rw [quietCmds_succ, if_neg hne, Bool.and_eq_true] at hq
    exact hq
  refine ((ExDid.cmds_run (C := False) f (fun e => G e ∧ GStepAt K ed e) (fun g ln => quietCmds body g ln = true)
    (fun g ln hne hq => (hcut g ln hne hq).2)
    (fun e src a p => ⟨W.txt src a p.1, p.2.trans (.quiet (.same (exTxt_core e _ _)))⟩)
    (fun e m p => ⟨W.msg m p.1, p.2.to rfl⟩) ?_ g ed ln ret ⟨hG, refl _⟩ hq).post _ h).2
  intro g e ln a hd _ p hq hne hi
  have hH := (hcut g ln hne hq).1
  rw [hi] at hH
  exact ⟨fun x hx => ⟨W.run p.1 hx, p.2.trans (hrun _ _ _ _ _ _ _ _ hH p.1 hx)⟩, False.elim⟩

/-- **`ex_exec` of a quiet line, started in a state with `G`, is a composition of quiet steps and `:g` brackets at
    depths in `K`, whatever the fuel** -/
theorem exExec (W : Guard K G) : ∀ (f d : Nat) (ln : Bytes), quietLine d ln = true → Line K G f ln := by
  intro f
  induction f using Nat.strongRecOn with
  | _ f ih =>
    intro d ln hq ed r ed' hG h
    cases f with
    | zero => rw [Ex.exExec] at h; cases h
    | succ f =>
      rw [Ex.exExec] at h
      split at h
      · cases h; exact (refl _).to rfl
      · -- `body` is the check for nested command lists; it implies `Line` at every smaller fuel
        have key : ∀ (body : Bytes → Bool), (∀ s, body s = true → ∀ f', f' < f + 1 → Line K G f' s) →
            quietCmds body (ln.length + 1) ln = true → GStepAt K ed ed' := by
          intro body hbody hqc
          apply cmds W f body ?_ _ _ _ _ _ _ hqc hG h
          intro ed hdl loc cmd arg txt r ed' hqh hG1 hrun
          obtain ⟨hn, hg⟩ := quietH_cases hqh
          cases f with
          | zero => rw [runCmd] at hrun; cases hrun
          | succ f1 =>
            rcases runCmd_quiet_cases (K := K) hn hrun with hs | ⟨he, hglob⟩
            · exact .quiet hs
            · cases f1 with
              | zero => rw [Ex.ecGlob] at hglob; cases hglob
              | succ f2 => exact ecGlob W (hbody _ (hg he) f2 (by omega)) hG1 hglob
        cases d with
        | zero => exact key (fun _ => false) (fun s hs => by cases hs) hq
        | succ d => exact key (quietLine d) (fun s hs f' hf' => ih f' hf' d s hs) hq

end GStepAt
end Neatvi.Lemmas.ExStep
