import NeatviVerif.Lemmas.ExStep
import NeatviVerif.Lemmas.C02cStages
import NeatviVerif.Lemmas.C20cStep
import NeatviVerif.Lemmas.C06bExec
/-!
# Every ex command as a composition of steps

`LStep`: what a command other than `:e :b :q :g :@` does: the quiet steps of `Lemmas/ExStep.lean`, the bump and the
"modified" test of the current buffer, a save, the end of `ec_write` (`LStep.run`).  `XStep`: what a command line does:
such a command as a whole, the operations on the buffer table, a save, the end of `ec_edit`, and the two counters that
go up and down around a nested command line.  `XStep.all`: every `ex_exec`, `ex_command` and handler call is such a
composition, whatever the fuel; `XStep.exInit`, `exStep`, `exRun` for `ex_init` and the loop of `ex()`.

A property of the ex layer is proved by saying what each step does to it: `Kept.ofXStep` (Lemmas/C02bCmd.lean),
`ExRel.ofLStep`, `ExRelTable.ofXStep` (Lemmas/ExRel.lean), `StepClosed.ofXStep` (Lemmas/C20cRun.lean).

`ec_write` and `ec_at` are read by how they return (`C02b.ecWrite_cases`, `C02b.ecAt_cases`, Lemmas/C20cStages.lean), `ec_edit` before its `+cmd` and the loop of
`:g` through their one walk (`C05d.editStage_inv`, `C05d.scan_inv`), the loop of `ec_quit` by `C02b.each_rel` (Lemmas/C02Ex.lean).
-/
namespace Neatvi.Lemmas.C02b

theorem some_pair_inj {α β} {a a' : α} {b b' : β} (h : some (a, b) = some (a', b')) : a = a' ∧ b = b' := by
  cases h; exact ⟨rfl, rfl⟩

end Neatvi.Lemmas.C02b

namespace Neatvi.Lemmas.ExStep
open Neatvi Neatvi.Lbuf Neatvi.LbufIo Neatvi.Ex Neatvi.Rset Neatvi.Props Neatvi.Lemmas.ExFrame Neatvi.Lemmas.C02Ex
open Neatvi.Lemmas.C02c Neatvi.Lemmas.C02b Neatvi.Props.C20 Neatvi.Props.C20b
open Neatvi.Lemmas.C06 (ite_eq_cases)

/-- the handlers that work on the buffer table or run other command lines -/
def _root_.Neatvi.Lemmas.C20c.tableHandler (h : String) : Bool :=
  h == "ec_edit" || h == "ec_buffer" || h == "ec_quit" || h == "ec_glob" || h == "ec_at"

/-- what a command other than `:e :b :q :g :@` does -/
inductive LStep : Ed → Ed → Prop
  | quiet {a b} : QStep a b → LStep a b
  | trans {a b c} : LStep a b → LStep b c → LStep a c
  | bump0 {ed : Ed} : LStep ed (ed.modifiedAt 0).2
  | guard0 {ed ed' msg r} : bufsModified ed 0 msg = some (r, ed') → LStep ed ed'
  | save {ed ed' lb b e path force ts r} : lbufSaveP ed lb b e path force ts = some (r, ed') → LStep ed ed'
  /-- the end of `ec_write`: the current buffer has been saved to `path` -/
  | written {ed ed1 ed' : Ed} {cur : Buf} {path : Bytes} {b e : Int} {force : Bool} {ts : Int} {m : Bytes} {r : Int} :
      ed.cur = some cur → lbufSaveP ed cur.lb b.toNat e path force ts = some (none, ed1) →
      writeFinish (ed1.show m) cur path b e = some (r, ed') → LStep ed ed'

/-- what the call sites of `bufs_switch` know of slot `i`: on a full, packed table it is occupied -/
def Occ (ed : Ed) (i : Nat) : Prop :=
  ed.bufs.length = Gen.NBUFS → Packed ed → (ed.bufs.getD i none).isSome = true

theorem Occ.of {ed : Ed} {i : Nat} (h : (ed.bufs.getD i none).isSome = true) : Occ ed i := fun _ _ => h

/-- what a command line does -/
inductive XStep : Ed → Ed → Prop
  | quiet {a b} : QStep a b → XStep a b
  | trans {a b c} : XStep a b → XStep b c → XStep a c
  /-- a command other than `:e :b :q :g :@`, as a whole -/
  | cmd {f : Nat} {ed : Ed} {hd : String} {loc cmd arg : Bytes} {txt : Option Bytes} {r : Int} {ed' : Ed} :
      C20c.tableHandler hd = false → runCmd f ed hd loc cmd arg txt = some (r, ed') → XStep ed ed'
  | bump {ed : Ed} (i : Nat) : XStep ed (ed.modifiedAt i).2
  | guard {ed ed' idx msg r} : bufsModified ed idx msg = some (r, ed') → XStep ed ed'
  | switch {ed : Ed} (i : Nat) : Occ ed i → XStep ed (ed.bufsSwitch i)
  | shift {ed : Ed} : XStep ed ed.bufsShift
  | opened {ed : Ed} (p : Bytes) : XStep ed (ed.bufsOpen p).2
  /-- `:b !` on the last buffer -/
  | fresh {ed : Ed} : ed.cur = none →
      XStep ed { ed with bufs := ed.bufs.set 0 (some (freshBuf ed)), bufsCnt := ed.bufsCnt + 1 }
  | renum {ed : Ed} : XStep ed (renumEd ed)
  /-- the end of `ec_quit` -/
  | quitFlag {ed : Ed} : XStep ed { ed with xquit := true }
  | save {ed ed' lb b e path force ts r} : lbufSaveP ed lb b e path force ts = some (r, ed') → XStep ed ed'
  /-- the end of `ec_edit`: the file is read and the buffer marked saved -/
  | loaded {ed ed' path} : editFinish ed path = some ed' → XStep ed ed'
  /-- `:@`: `atDepth` goes up and down around the command line of the register -/
  | atBracket {e1 e2 : Ed} : XStep { e1 with atDepth := e1.atDepth + 1 } e2 → XStep e1 { e2 with atDepth := e2.atDepth - 1 }
  /-- `:g`: the lines are marked at depth `xgdep + 1`, the command list runs, the marks are swept -/
  | globBracket {e0 ed2 : Ed} {b e : Int} : XStep (C15.globMark e0 b e (e0.xgdep + 1)) ed2 →
      XStep e0 { C15.globSweep ed2 (e0.xgdep + 1) with xgdep := e0.xgdep + 1 - 1 }

/-- reading the file into the current buffer is `lbuf_rd` and a message -/
theorem editRead_step {K : Nat → Prop} {ed ed' : Ed} {b : Buf} (hb : ed.cur = some b) (hr : editRead ed b = some ed') :
    QStepAt K ed ed' := by
  rcases editRead_cases hr with ⟨rfl, _⟩ | ⟨_, _, _, _, _, _, hrd, rfl⟩
  · exact .refl _
  · exact (QStepAt.setLb (by unfold Ed.lb; rw [hb]; rfl) (.rd hrd)).to rfl

namespace LStep

theorem refl (ed : Ed) : LStep ed ed := .quiet (.same rfl)

theorem to {a b c : Ed} (h : LStep a b) (e : core c = core b) : LStep a c := h.trans (.quiet (.same e))

theorem guardIf {ed ed' : Ed} {c : Prop} [Decidable c] {msg : Option Bytes} {r : Bool}
    (h : (if c then bufsModified ed 0 msg else some (false, ed) : R Bool) = some (r, ed')) : LStep ed ed' := by
  split at h
  · exact .guard0 h
  · cases h; exact refl _

theorem ecWrite {ed ed' : Ed} {loc cmd arg : Bytes} {r : Int} (hw : Ex.ecWrite ed loc cmd arg = some (r, ed')) :
    LStep ed ed' := by
  obtain ⟨path, ed1, hp, ed2, h2, h⟩ := ecWrite_cases hw
  have e1 : LStep ed ed1 := by
    split at hp
    · exact .quiet (.same (pathExpand_core hp))
    · cases hp; exact refl _
  have e2 : LStep ed ed2 := by
    rcases h2 with rfl | ⟨_, rfl⟩
    · exact e1
    · exact e1.trans .bump0
  rcases h with rfl | ⟨rg, ed3, hr, h⟩
  · exact e2
  have e3 : LStep ed ed3 := e2.to (region_core hr)
  rcases h with rfl | ⟨p, cur, b, e, _, hcur, h⟩
  · exact e3
  rcases writeSave_cases hcur h with ⟨_, rfl | ⟨m, rfl⟩⟩ | ⟨_, ts, x, ed4, hs, h⟩
  · exact e3
  · refine e3.to ?_
    split <;> rfl
  · rcases h with ⟨err, rfl, rfl⟩ | ⟨rfl, m, hf⟩
    · exact (e3.trans (.save hs)).to rfl
    · exact e3.trans (.written hcur hs hf)

theorem exec {f : Nat} {ed ed' : Ed} {loc cmd arg : Bytes} {txt : Option Bytes} {r : Int}
    (h : runCmd (f + 1) ed "ec_exec" loc cmd arg txt = some (r, ed')) : LStep ed ed' := by
  rw [Lemmas.C20c.runCmd_exec] at h
  obtain ⟨g, edg, hg, h⟩ := ecExec_cases h
  have e0 : LStep ed edg := guardIf hg
  rcases h with ⟨_, _, rfl⟩ | ⟨_, p, edp, hp, h⟩
  · exact e0
  have e1 : LStep ed edp := e0.to (pathExpand_core hp)
  rcases h with ⟨_, _, rfl⟩ | ⟨ecmd, _, ⟨_, _, rfl⟩ | ⟨_, rc, b, e, ed1, hr, h⟩⟩
  · exact e1
  · exact e1.to rfl
  have e2 : LStep ed ed1 := e1.to (region_core hr)
  rcases h with ⟨_, _, rfl⟩ | ⟨_, _, ⟨_, rfl⟩ | ⟨_, rfl⟩ | ⟨rep, _, hx⟩⟩
  · exact e2
  · exact e2.to rfl
  · exact e2
  · exact e2.trans (.quiet (.edit hx))

/-- **a command other than `:e :b :q :g :@` is a composition of local steps** -/
theorem run {f : Nat} {ed ed' : Ed} {hd : String} {loc cmd arg : Bytes} {txt : Option Bytes} {r : Int}
    (hl : C20c.tableHandler hd = false) (h : runCmd f ed hd loc cmd arg txt = some (r, ed')) : LStep ed ed' := by
  cases f with
  | zero => rw [runCmd] at h; cases h
  | succ f =>
    simp only [C20c.tableHandler, Bool.or_eq_false_iff, beq_eq_false_iff_ne, ne_eq] at hl
    obtain ⟨⟨⟨⟨he, hbuf⟩, hq⟩, hglob⟩, hat⟩ := hl
    cases hn : C15.noisy hd with
    | false =>
      rcases runCmd_quiet_cases (K := fun _ => True) hn h with hs | ⟨hg, _⟩
      · exact .quiet hs
      · exact absurd hg hglob
    | true =>
      simp only [C15.noisy, Bool.or_eq_true, beq_iff_eq] at hn
      rcases hn with ((((e | e) | rfl) | rfl) | e) | e
      · exact absurd e hat
      · exact absurd e he
      · exact exec h
      · rw [runCmd_write] at h; exact ecWrite h
      · exact absurd e hq
      · exact absurd e hbuf

end LStep

namespace XStep

theorem refl (ed : Ed) : XStep ed ed := .quiet (.same rfl)

theorem to {a b c : Ed} (h : XStep a b) (e : core c = core b) : XStep a c := h.trans (.quiet (.same e))

theorem guardIf {ed ed' : Ed} {c : Prop} [Decidable c] {idx : Nat} {msg : Option Bytes} {r : Bool}
    (h : (if c then bufsModified ed idx msg else some (false, ed) : R Bool) = some (r, ed')) : XStep ed ed' := by
  split at h
  · exact .guard h
  · cases h; exact refl _

theorem each {cmd : Bytes} {all : Bool} {g i : Nat} {ed ed' : Ed} {r : Bool}
    (h : runCmd.each cmd all g i ed = some (r, ed')) : XStep ed ed' :=
  Lemmas.C02b.each_rel refl .trans .guard (fun _ i ho => .switch i (Occ.of ho)) (fun _ hs => .save hs) (fun _ _ => .quiet (.same rfl))
    cmd all g i ed ed' r h

section handlers
variable {f : Nat} {ed ed' : Ed} {loc cmd arg : Bytes} {txt : Option Bytes} {r : Int}

theorem quit (h : runCmd (f + 1) ed "ec_quit" loc cmd arg txt = some (r, ed')) : XStep ed ed' := by
  rw [runCmd_quit] at h
  split at h
  · cases h
  · rename_i rc ed1 hw
    have h1 : XStep ed ed1 := by
      split at hw
      · exact .cmd (hd := "ec_write") rfl ((runCmd_write 0 ed [] cmd arg none).trans hw)
      · cases hw; exact refl _
    split at h
    · cases h; exact h1
    · split at h
      · cases h
      · rename_i he; cases h; exact h1.trans (each he)
      · rename_i he; cases h; exact (h1.trans (each he)).trans .quitFlag

theorem switchTo {idx : Int} (h : Props.C20b.switchTo ed cmd idx = some (r, ed')) : XStep ed ed' := by
  unfold Props.C20b.switchTo at h
  split at h
  · next hc =>
    simp only [Bool.and_eq_true, decide_eq_true_eq] at hc
    split at h
    · cases h
    · next hg => cases h; unfold bufferGuard at hg; exact guardIf hg
    · next hg =>
      cases h
      unfold bufferGuard at hg
      exact (guardIf hg).trans (.switch _ (Occ.of (by rw [Lemmas.C02b.guardIf_isSome hg]; exact hc.2)))
  · cases h; exact (refl _).to rfl

theorem delEd (ed : Ed) : XStep ed (Props.C20b.delEd ed) := by
  unfold Props.C20b.delEd
  split
  · next hc => exact XStep.shift.trans (.fresh (by simpa using hc))
  · exact .shift

theorem listStep (st : Bool × Ed) (i : Nat) : XStep st.2 (Lemmas.C20c.listStep st i).2 := by
  obtain ⟨go, ed0⟩ := st
  unfold Lemmas.C20c.listStep
  simp only []
  split
  · exact refl _
  · split
    · exact refl _
    · exact (XStep.bump i).to rfl

theorem foldl_pair {α : Type} (F : Bool × Ed → α → Bool × Ed) (hF : ∀ st a, XStep st.2 (F st a).2) :
    ∀ (l : List α) (st : Bool × Ed), XStep st.2 (l.foldl F st).2 := by
  intro l
  induction l with
  | nil => intro st; exact refl st.2
  | cons a l ih => intro st; rw [List.foldl_cons]; exact (hF st a).trans (ih _)

theorem buffer (h : runCmd (f + 1) ed "ec_buffer" loc cmd arg txt = some (r, ed')) : XStep ed ed' := by
  cases h0 : arg.isEmpty
  · by_cases h33 : arg.headD 0 = 33
    · rw [runCmd_b_delete f ed loc cmd arg txt h33] at h; cases h; exact delEd ed
    · by_cases h126 : arg.headD 0 = 126
      · rw [runCmd_b_renumber f ed loc cmd arg txt h126] at h; cases h; exact .renum
      · obtain ⟨idx, hs⟩ := runCmd_b_switch f ed loc cmd arg txt h0 h33 h126
        rw [hs] at h
        exact switchTo h
  · rw [Lemmas.C20c.runCmd_b_list f ed loc cmd arg txt h0] at h
    cases h
    exact foldl_pair _ listStep _ (true, ed)

end handlers

/-- the steps across every call of `ex_exec` / `ex_command` / `runCmd` with fuel `f` -/
def Exec (f : Nat) : Prop := ∀ ed ln r ed', exExec f ed ln = some (r, ed') → XStep ed ed'
def Cmd (f : Nat) : Prop := ∀ ed ln r ed', exCommand f ed ln = some (r, ed') → XStep ed ed'
def Run (f : Nat) : Prop := ∀ ed h loc cmd arg txt r ed', Ex.runCmd f ed h loc cmd arg txt = some (r, ed') → XStep ed ed'

theorem globStep {f : Nat} (hbody : Exec f) {neg : Bool} {s : Bytes} {re : RStr} {ed ed2 : Ed} {i i2 : Int} {stop : Bool}
    (h : Lemmas.C05d.globStep f neg s re ed i = some (stop, ed2, i2)) : XStep ed ed2 := by
  rcases (C15.globStep_cases h).2 with ⟨_, rfl, _⟩ | ⟨r, hx, _⟩
  · exact refl _
  · refine XStep.trans (.quiet (.same ?_)) (hbody _ _ _ _ hx)
    rfl

theorem scan (f : Nat) (neg : Bool) (s : Bytes) (re : RStr) (dep : Nat) (hbody : Exec f) :
    ∀ (g : Nat) (ed : Ed) (i : Int) (ed' : Ed), ecGlob.scan f neg s re dep g ed i = some ed' → XStep ed ed' :=
  fun g ed i ed' h => Lemmas.C05d.scan_inv (P := XStep ed) (fun p hs => p.trans (globStep hbody hs))
    (fun _ _ p => p.trans (.quiet (adv_step trivial _ _ _))) g ed i ed' (refl _) h

theorem ecGlob {f : Nat} (hbody : Exec f) {ed ed' : Ed} {loc cmd arg : Bytes} {r : Int}
    (h : ecGlob (f + 1) ed loc cmd arg = some (r, ed')) : XStep ed ed' := by
  rcases C15.ecGlob_cases h with ⟨_, _, rfl⟩ | ⟨_, rc, b, e, ed1, hr, h⟩
  · exact (refl _).to rfl
  have e1 : XStep ed ed1 := .quiet (region_step hr)
  have e2 : XStep ed (C15.globPrep ed1 arg) := e1.to (C15.globPrep_core ed1 arg)
  rcases h with ⟨_, rfl | rfl⟩ | ⟨re, ed2, _, _, _, hscan, _, rfl⟩
  · exact e1
  · exact e2
  · exact e2.trans (.globBracket (scan _ _ _ _ _ hbody _ _ _ _ hscan))

theorem ecAt {f : Nat} (hcmd : Cmd f) {ed ed' : Ed} {loc cmd arg : Bytes} {r : Int}
    (h : ecAt (f + 1) ed loc cmd arg = some (r, ed')) : XStep ed ed' := by
  rcases ecAt_cases h with ⟨_, _, rfl⟩ | ⟨buf, rc, b, e, ed1, _, hr, h⟩
  · exact refl _
  have e1 : XStep ed ed1 := .quiet (region_step hr)
  rcases h with ⟨_, _, rfl⟩ | ⟨_, ⟨_, _, rfl⟩ | ⟨_, ⟨_, _, rfl⟩ | ⟨_, ed2, hx, rfl⟩⟩⟩
  · exact e1
  · exact e1.to rfl
  · exact e1.to rfl
  · exact (e1.to (c := { ed1 with xrow := b }) rfl).trans (.atBracket (hcmd _ _ _ _ hx))

theorem findRoom_set_isSome (ed : Ed) (p : Bytes) (hl : 0 < ed.bufs.length) :
    ((ed.bufsOpen p).2.bufs.getD (ed.bufsOpen p).1 none).isSome = true := by
  show ((ed.bufsOpen p).2.bufs.getD ed.findRoom none).isSome = true
  rw [(open_uses_free_slot ed p).2.2.2.2.2.2.2 hl]; rfl

theorem occ_found {ed : Ed} {path : Bytes} (h : ed.bufsFind path ≥ 0) : Occ ed (ed.bufsFind path).toNat := by
  obtain ⟨_, ⟨b, hb, _⟩, _⟩ := find_by_path ed path _ rfl h
  exact Occ.of (by rw [hb]; rfl)

theorem ewPre (ed : Ed) (cmd path : Bytes) : XStep ed (Props.C20.ewPre ed cmd path) := by
  unfold Props.C20.ewPre
  split
  · next hc =>
    simp only [Bool.and_eq_true, decide_eq_true_eq] at hc
    refine .switch _ (fun _ hp => ?_)
    obtain ⟨_, ⟨b, hb, _⟩, _⟩ := find_by_path ed path _ rfl (by omega)
    refine hp 1 _ ?_ (by rw [hb]; rfl)
    omega
  · exact refl _

theorem editOpen (ed : Ed) (path : Bytes) : XStep ed (Lemmas.C02c.editOpen ed path) := by
  unfold Lemmas.C02c.editOpen
  split
  · refine XStep.trans (.opened path) (.switch _ (fun hl _ => ?_))
    apply findRoom_set_isSome
    have : (ed.bufsOpen path).2.bufs.length = ed.bufs.length := by
      rw [(open_uses_free_slot ed path).2.1, List.length_set]
    have hl' : (ed.bufsOpen path).2.bufs.length = Gen.NBUFS := hl
    have : 0 < Gen.NBUFS := by decide
    omega
  · exact refl _

theorem editStage {ed : Ed} {cmd arg : Bytes} {x : Sum (Int × Ed) Ed} (h : Lemmas.C05d.editStage ed cmd arg = some x) :
    XStep ed (x.elim (·.2) id) :=
  Lemmas.C05d.editStage_inv (P := XStep ed) (Pth := fun _ => True) (fun h hg => h.trans (guardIf hg))
    (fun h hp => ⟨h.to (pathExpand_core hp), fun _ _ => trivial⟩)
    (fun e p h => h.trans (XStep.ewPre e cmd p))
    (fun _ _ h hc => h.trans (.switch _ (occ_found hc)))
    (fun e p _ h => h.trans (XStep.editOpen e p))
    (fun h hf => h.trans (.loaded hf)) (refl ed) h

theorem ecEdit {f : Nat} (hcmd : Cmd f) {ed ed' : Ed} {cmd arg : Bytes} {r : Int}
    (h : ecEdit (f + 1) ed cmd arg = some (r, ed')) : XStep ed ed' := by
  rw [Lemmas.C05d.ecEdit_stage] at h
  split at h
  · cases h
  · rename_i hs
    cases h
    exact editStage hs
  · rename_i hs
    refine (editStage hs).trans ?_
    unfold editPlus at h
    split at h
    · exact hcmd _ _ _ _ h
    · cases h; exact refl _

theorem run (f : Nat) (hat : ∀ ed loc cmd arg r ed', Ex.ecAt f ed loc cmd arg = some (r, ed') → XStep ed ed')
    (hglob : ∀ ed loc cmd arg r ed', Ex.ecGlob f ed loc cmd arg = some (r, ed') → XStep ed ed')
    (hedit : ∀ ed cmd arg r ed', Ex.ecEdit f ed cmd arg = some (r, ed') → XStep ed ed') : Run (f + 1) := by
  intro ed hd loc cmd arg txt r ed' h
  cases hl : C20c.tableHandler hd
  · exact .cmd hl h
  · simp only [C20c.tableHandler, Bool.or_eq_true, beq_iff_eq] at hl
    rcases hl with (((he | hb) | hq) | hg) | ha
    · subst he; rw [runCmd_edit] at h; exact hedit _ _ _ _ _ h
    · subst hb; exact buffer h
    · subst hq; exact quit h
    · subst hg; rw [Lemmas.C20c.runCmd_glob] at h; exact hglob _ _ _ _ _ _ h
    · subst ha; rw [Lemmas.C20c.runCmd_at] at h; exact hat _ _ _ _ _ _ h

theorem cmds (f : Nat) (hrun : Run f) (g : Nat) (ed : Ed) (ln : Bytes) (ret r : Int) (ed' : Ed)
    (h : exExec.cmds f g ed ln ret = some (r, ed')) : XStep ed ed' :=
  (ExDid.cmds_run (C := False) f (XStep ed) (fun _ _ => True) (fun _ _ _ _ => trivial)
    (fun e _ _ p => p.trans (.quiet (.same (exTxt_core e _ _)))) (fun _ _ p => p.to rfl)
    (fun _ _ _ _ _ _ p _ _ _ => ⟨fun _ hq => p.trans (hrun _ _ _ _ _ _ _ _ hq), False.elim⟩)
    g ed ln ret (refl ed) trivial).post _ h

/-- **every `ex_exec`, `ex_command` and handler call is a composition of steps, whatever the fuel** -/
theorem all : ∀ f : Nat, Exec f ∧ Cmd f ∧ Run f ∧ Run (f + 1) := by
  intro f
  induction f with
  | zero =>
    refine ⟨?_, ?_, ?_, run 0 ?_ ?_ ?_⟩
    · intro ed ln r ed' h; rw [Ex.exExec] at h; cases h
    · intro ed ln r ed' h; rw [Ex.exCommand] at h; cases h
    · intro ed hd loc cmd arg txt r ed' h; rw [Ex.runCmd] at h; cases h
    · intro ed loc cmd arg r ed' h; rw [Ex.ecAt] at h; cases h
    · intro ed loc cmd arg r ed' h; rw [Ex.ecGlob] at h; cases h
    · intro ed cmd arg r ed' h; rw [Ex.ecEdit] at h; cases h
  | succ f ih =>
    obtain ⟨hx, hc, hr0, hr1⟩ := ih
    refine ⟨?_, ?_, hr1, run (f + 1) (fun _ _ _ _ _ _ => ecAt hc) (fun _ _ _ _ _ _ => ecGlob hx) (fun _ _ _ _ _ => ecEdit hc)⟩
    · intro ed ln r ed' h
      rw [Ex.exExec] at h
      split at h
      · cases h; exact (refl _).to rfl
      · exact cmds f hr0 _ _ _ _ _ _ h
    · intro ed ln r ed' h
      rw [Ex.exCommand] at h
      split at h
      · cases h
      · rename_i he
        cases h
        exact (hx _ _ _ _ he).trans (.bump 0)

theorem exExec {f : Nat} {ed ed' : Ed} {ln : Bytes} {r : Int} (h : Ex.exExec f ed ln = some (r, ed')) : XStep ed ed' :=
  (all f).1 _ _ _ _ h

theorem exCommand {f : Nat} {ed ed' : Ed} {ln : Bytes} {r : Int} (h : Ex.exCommand f ed ln = some (r, ed')) :
    XStep ed ed' := (all f).2.1 _ _ _ _ h

theorem runCmd {f : Nat} {ed ed' : Ed} {hd : String} {loc cmd arg : Bytes} {txt : Option Bytes} {r : Int}
    (h : Ex.runCmd f ed hd loc cmd arg txt = some (r, ed')) : XStep ed ed' := (all f).2.2.1 _ _ _ _ _ _ _ _ h

theorem ecEditAny {f : Nat} {ed ed' : Ed} {cmd arg : Bytes} {r : Int} (h : Ex.ecEdit f ed cmd arg = some (r, ed')) :
    XStep ed ed' := by
  cases f with
  | zero => rw [Ex.ecEdit] at h; cases h
  | succ f => exact ecEdit (all f).2.1 h

theorem exInit {ed ed' : Ed} {files : List Bytes} {r : Int} (h : Ex.exInit ed files = some (r, ed')) : XStep ed ed' :=
  ecEditAny h

/-- a round of the `ex()` loop is `ex_command` on the first line of the input, between two record updates -/
theorem exStep {ed ed' : Ed} {r : Int} (h : Ex.exStep ed = some (r, ed')) : XStep ed ed' := by
  unfold Ex.exStep at h
  split at h
  · cases h
  · simp only [] at h
    split at h
    · cases h
    · rename_i hc
      cases h
      refine (XStep.trans (.quiet (.same ?_)) (exCommand hc)).to rfl
      rfl

theorem exRun : ∀ (n : Nat) (ed ed' : Ed), Props.C02.Ex.exRun n ed = some ed' → XStep ed ed' := by
  intro n
  induction n with
  | zero => intro ed ed' h; cases h; exact refl _
  | succ n ih =>
    intro ed ed' h
    rw [Props.C02.Ex.exRun] at h
    split at h
    · cases h; exact refl _
    · split at h
      · cases h
      · rename_i hs
        exact (exStep hs).trans (ih _ _ h)

end XStep
end Neatvi.Lemmas.ExStep
