import NeatviVerif.Model.Lbuf
import NeatviVerif.Spec.Zipper
import NeatviVerif.Props.C01
/-!
# The undo history of the line buffer: splices, history entries, one run of undo / redo

The splitter (`refLines_eq`; `splitAux_all`: its lines keep what survives cutting at newlines), splices and their inverses
(`splice_all`: the lines after a splice are old or new ones), frame lemmas of `replace`, faithful history entries (`EntOk`,
`Chain`, `applyFwd`), the walk of `undoGo` / `redoGo` over one run of equal sequence numbers (`undoGo_run`, `redoGo_run`).
The invariant built on these is in `Lemmas/HistInv.lean`.

At the end, declared into the namespace `Lemmas.C15b` (`C15b.ReplRel`, `C15b.undo_rel`, …): `ReplRel R`, a preorder that the steps of `lbuf_undo` / `lbuf_redo` respect, relates the buffer
before and after (`undo_rel`, `redo_rel`); "undo and redo keep X" is an instance: the saved-state fields (`C02Frame`), the
records and the counter (`C15bUndo`), the marks of `:g` travelling with their lines (`C15bCarry`, `C05eN`), valid text (`C16cLbuf`),
positions inside the text (`C05dLb`, which needs the step as a whole; the others respect its parts: `ReplRel.ofParts`).
-/
namespace Neatvi.Lemmas.Hist
open Neatvi Neatvi.Lbuf Neatvi.Spec Neatvi.Props.C01

/-- lines of an optional C string (`NULL` has none) -/
def optLines (o : Option Bytes) : Text := match o with | none => [] | some x => splitLines x

theorem optLines_wf (o : Option Bytes) : ∀ l ∈ optLines o, WfLine l := by
  cases o with
  | none => intro l hl; simp [optLines] at hl
  | some x => exact lines_wf x

theorem lineCount_eq (o : Option Bytes) : lineCount o = (optLines o).length := by
  cases o <;> rfl

/-! ### the reference splitter is the model's splitter -/

theorem refLines_go_eq (s cur : Bytes) : refLines.go s cur = splitAux s cur := by
  induction s generalizing cur with
  | nil => cases cur <;> simp [refLines.go, splitAux]
  | cons b r ih =>
    simp only [refLines.go, splitAux, ih]
    by_cases hb : b = 10 <;> simp [hb]

theorem refLines_eq (s : Bytes) : refLines s = splitLines s := refLines_go_eq s []

/-- `splitAux` cuts at the newlines and ends every line with one: the lines have whatever property of byte strings
    survives that (no NUL byte; valid UTF-8) -/
theorem splitAux_all {P : Bytes → Prop} (nl : ∀ {a : Bytes}, P a → P (a ++ [10]))
    (cut : ∀ {a b : Bytes}, P (a ++ 10 :: b) → P a ∧ P b) :
    ∀ (s cur : Bytes), P (cur ++ s) → ∀ l ∈ splitAux s cur, P l
  | [], cur, h => by
    intro l hl
    unfold splitAux at hl
    split at hl
    · simp at hl
    · simp only [List.mem_singleton] at hl
      subst hl
      exact nl (by simpa using h)
  | b :: r, cur, h => by
    intro l hl
    unfold splitAux at hl
    split at hl
    · rename_i hb
      subst hb
      obtain ⟨h1, h2⟩ := cut h
      rcases List.mem_cons.mp hl with rfl | hl
      · exact nl h1
      · exact splitAux_all nl cut r [] (by simpa using h2) l hl
    · exact splitAux_all nl cut r (cur ++ [b]) (by simpa using h) l hl

/-! ### splices -/

theorem splice_length (t : Text) (pos n : Nat) (ins : Text) (h : pos + n ≤ t.length) :
    (splice t pos n ins).length = t.length - n + ins.length := by
  unfold splice
  simp only [List.length_append, List.length_take, List.length_drop]
  omega

theorem splice_inverse (t : Text) (pos ndel : Nat) (ins : Text) (h : pos + ndel ≤ t.length) :
    splice (splice t pos ndel ins) pos ins.length ((t.drop pos).take ndel) = t := by
  unfold splice
  have h1 : (t.take pos ++ ins ++ t.drop (pos + ndel)).take pos = t.take pos := by
    rw [List.append_assoc, List.take_append_of_le_length (by simp; omega)]
    simp [List.take_take]
  have h2 : (t.take pos ++ ins ++ t.drop (pos + ndel)).drop (pos + ins.length) = t.drop (pos + ndel) := by
    have : (t.take pos ++ ins).length = pos + ins.length := by simp; omega
    rw [← this, List.drop_left]
  rw [h1, h2]
  have : (t.drop pos).take ndel ++ t.drop (pos + ndel) = t.drop pos := by
    rw [← List.drop_drop]; exact List.take_append_drop _ _
  rw [List.append_assoc, this, List.take_append_drop]

theorem splice_all {Q : Bytes → Prop} {t ins : Text} {pos n : Nat} (ht : ∀ l ∈ t, Q l) (hi : ∀ l ∈ ins, Q l) :
    ∀ l ∈ splice t pos n ins, Q l :=
  fun l hl => (Basics.mem_splice hl).elim (ht l) (hi l)

theorem splice_wf (t : Text) (pos n : Nat) (ins : Text)
    (ht : ∀ l ∈ t, WfLine l) (hi : ∀ l ∈ ins, WfLine l) : ∀ l ∈ splice t pos n ins, WfLine l :=
  splice_all ht hi

theorem splice_noop (t : Text) (pos : Nat) : splice t pos 0 [] = t := by
  unfold splice
  simp

/-! ### frame lemmas: marks do not touch text or history -/

theorem setMark_hist (lb : Lb) (c : Nat) (p o : Int) : (setMark lb c p o).hist = lb.hist := by
  unfold setMark; split <;> rfl
theorem setMark_histU (lb : Lb) (c : Nat) (p o : Int) : (setMark lb c p o).histU = lb.histU := by
  unfold setMark; split <;> rfl
theorem setMark_useq (lb : Lb) (c : Nat) (p o : Int) : (setMark lb c p o).useq = lb.useq := by
  unfold setMark; split <;> rfl

theorem loadMarks_lines (lb : Lb) (e : Entry) : (loadMarks lb e).lines = lb.lines := by
  unfold loadMarks; split <;> rfl
theorem loadMarks_hist (lb : Lb) (e : Entry) : (loadMarks lb e).hist = lb.hist := by
  unfold loadMarks; split <;> rfl
theorem loadMarks_histU (lb : Lb) (e : Entry) : (loadMarks lb e).histU = lb.histU := by
  unfold loadMarks; split <;> rfl
theorem loadMarks_useq (lb : Lb) (e : Entry) : (loadMarks lb e).useq = lb.useq := by
  unfold loadMarks; split <;> rfl

/-- `lbuf_replace` within bounds never traps, splices the text, and leaves the history alone -/
theorem replace_spec (lb : Lb) (s : Option Bytes) (pos nDel : Nat) (h : pos + nDel ≤ lb.lines.length) :
    ∃ lb', replace lb s pos nDel = some lb' ∧ lb'.lines = splice lb.lines pos nDel (optLines s) ∧
      lb'.hist = lb.hist ∧ lb'.histU = lb.histU ∧ lb'.useq = lb.useq := by
  unfold replace
  simp only [h, if_true]
  refine ⟨_, rfl, ?_, ?_, ?_, ?_⟩
  · rw [setMark_lines, setMark_lines]; rfl
  · rw [setMark_hist, setMark_hist]
  · rw [setMark_histU, setMark_histU]
  · rw [setMark_useq, setMark_useq]

/-! ### faithful entries and chains of them -/

/-- the splice an entry records, replayed forwards -/
def fwd (e : Entry) (t : Text) : Text := splice t e.pos e.nDel (optLines e.ins)

/-- entry `e` is a faithful record of a splice applied to `t` -/
def EntOk (e : Entry) (t : Text) : Prop :=
  e.pos + e.nDel ≤ t.length ∧ e.nIns = (optLines e.ins).length ∧ optLines e.del = (t.drop e.pos).take e.nDel

def applyFwd (t : Text) : List Entry → Text
  | [] => t
  | e :: r => applyFwd (fwd e t) r

/-- every entry is faithful with respect to the text before it -/
def Chain : Text → List Entry → Prop
  | _, [] => True
  | t, e :: r => EntOk e t ∧ Chain (fwd e t) r

theorem applyFwd_append (t : Text) (a b : List Entry) : applyFwd t (a ++ b) = applyFwd (applyFwd t a) b := by
  induction a generalizing t with
  | nil => rfl
  | cons e r ih => simp only [List.cons_append, applyFwd, ih]

theorem chain_append (t : Text) (a b : List Entry) :
    Chain t (a ++ b) ↔ Chain t a ∧ Chain (applyFwd t a) b := by
  induction a generalizing t with
  | nil => simp [Chain, applyFwd]
  | cons e r ih => simp [Chain, applyFwd, ih, and_assoc]

theorem chain_single (t : Text) (e : Entry) : Chain t [e] ↔ EntOk e t := by
  simp [Chain]

theorem applyFwd_single (t : Text) (e : Entry) : applyFwd t [e] = fwd e t := rfl

theorem fwd_inverse (e : Entry) (t : Text) (h : EntOk e t) :
    splice (fwd e t) e.pos e.nIns (optLines e.del) = t := by
  obtain ⟨h1, h2, h3⟩ := h
  rw [h2, h3]
  exact splice_inverse t e.pos e.nDel (optLines e.ins) h1

theorem fwd_bound (e : Entry) (t : Text) (h : EntOk e t) : e.pos + e.nIns ≤ (fwd e t).length := by
  obtain ⟨h1, h2, _⟩ := h
  unfold fwd
  rw [splice_length _ _ _ _ h1, h2]
  omega

/-! ### one entry undone / redone -/

theorem undo_entry (lb : Lb) (e : Entry) (t : Text) (u : Nat) (hok : EntOk e t) (hl : lb.lines = fwd e t) :
    ∃ lb1, replace { lb with histU := u } e.del e.pos e.nIns = some lb1 ∧
      (loadMarks (loadPos lb1 e) e).lines = t ∧ (loadMarks (loadPos lb1 e) e).hist = lb.hist ∧
      (loadMarks (loadPos lb1 e) e).histU = u ∧ (loadMarks (loadPos lb1 e) e).useq = lb.useq := by
  have hb : e.pos + e.nIns ≤ ({ lb with histU := u } : Lb).lines.length := by
    show e.pos + e.nIns ≤ lb.lines.length
    rw [hl]; exact fwd_bound e t hok
  obtain ⟨lb1, h1, h2, h3, h4, h5⟩ := replace_spec { lb with histU := u } e.del e.pos e.nIns hb
  refine ⟨lb1, h1, ?_, ?_, ?_, ?_⟩
  · rw [loadMarks_lines]
    show lb1.lines = t
    rw [h2]
    show splice lb.lines e.pos e.nIns (optLines e.del) = t
    rw [hl]; exact fwd_inverse e t hok
  · rw [loadMarks_hist]; exact h3
  · rw [loadMarks_histU]; exact h4
  · rw [loadMarks_useq]; exact h5

theorem redo_entry (lb : Lb) (e : Entry) (u : Nat) (hok : EntOk e lb.lines) :
    ∃ lb1, replace { lb with histU := u } e.ins e.pos e.nDel = some lb1 ∧
      (loadPos lb1 e).lines = fwd e lb.lines ∧ (loadPos lb1 e).hist = lb.hist ∧
      (loadPos lb1 e).histU = u ∧ (loadPos lb1 e).useq = lb.useq := by
  obtain ⟨lb1, h1, h2, h3, h4, h5⟩ := replace_spec { lb with histU := u } e.ins e.pos e.nDel hok.1
  exact ⟨lb1, h1, h2, h3, h4, h5⟩

/-! ### the loops walk over exactly one run -/

/-- `undoGo` over the run `G` (given reversed) that sits between `P` and `F` -/
theorem undoGo_run (T0 : Text) (s : Nat) (Gr : List Entry) :
    ∀ (fuel : Nat) (P F : List Entry) (lb : Lb),
      lb.hist = P ++ Gr.reverse ++ F → lb.histU = (P ++ Gr.reverse).length →
      Chain T0 (P ++ Gr.reverse) → lb.lines = applyFwd T0 (P ++ Gr.reverse) →
      (∀ e ∈ Gr, e.seq = s) → (∀ p ∈ P, p.seq ≠ s) → Gr.length ≤ fuel →
      ∃ lb', undoGo s fuel lb = some lb' ∧ lb'.lines = applyFwd T0 P ∧ lb'.hist = lb.hist ∧
        lb'.histU = P.length ∧ lb'.useq = lb.useq := by
  induction Gr with
  | nil =>
    intro fuel P F lb hh hu _ hl _ hP _
    simp only [List.reverse_nil, List.append_nil] at hh hu hl
    cases fuel with
    | zero => exact ⟨lb, rfl, hl, rfl, hu, rfl⟩
    | succ f =>
      cases hU : lb.histU with
      | zero => exact ⟨lb, by simp [undoGo, hU], hl, rfl, hu ▸ hU ▸ rfl, rfl⟩
      | succ u =>
        have hlt : u < P.length := by omega
        have hget : lb.hist[u]? = P[u]? := by rw [hh]; exact List.getElem?_append_left hlt
        have hp : P[u]? = some P[u] := List.getElem?_eq_getElem hlt
        have hne : P[u].seq ≠ s := hP _ (List.getElem_mem hlt)
        refine ⟨lb, ?_, hl, rfl, hu, rfl⟩
        simp [undoGo, hU, hget, hp, hne]
  | cons e Gr ih =>
    intro fuel P F lb hh hu hc hl hG hP hf
    simp only [List.reverse_cons, ← List.append_assoc] at hh hu hc hl
    cases fuel with
    | zero => simp at hf
    | succ f =>
      have hU : lb.histU = (P ++ Gr.reverse).length + 1 := by rw [hu]; simp; omega
      have hget : lb.hist[(P ++ Gr.reverse).length]? = some e := by
        rw [hh, List.append_assoc (P ++ Gr.reverse)]
        rw [List.getElem?_append_right (Nat.le_refl _)]
        simp
      have hes : e.seq = s := hG e (by simp)
      rw [chain_append] at hc
      have hok : EntOk e (applyFwd T0 (P ++ Gr.reverse)) := (chain_single _ _).1 hc.2
      rw [applyFwd_append, applyFwd_single] at hl
      obtain ⟨lb1, h1, h2, h3, h4, h5⟩ := undo_entry lb e _ (P ++ Gr.reverse).length hok hl
      obtain ⟨lb', g1, g2, g3, g4, g5⟩ := ih f P ([e] ++ F) (loadMarks (loadPos lb1 e) e)
        (by rw [h3, hh]; simp) h4 hc.1 h2 (fun x hx => hG x (by simp [hx])) hP (by simp at hf; omega)
      refine ⟨lb', ?_, g2, by rw [g3, h3], g4, by rw [g5, h5]⟩
      rw [undoGo]
      simp only [hU, hget, hes, if_true, h1]
      exact g1

/-- `redoGo` over the run `G` that sits between `P` and `F` -/
theorem redoGo_run (T0 : Text) (s : Nat) (G : List Entry) :
    ∀ (fuel : Nat) (P F : List Entry) (lb : Lb),
      lb.hist = P ++ G ++ F → lb.histU = P.length →
      Chain (applyFwd T0 P) G → lb.lines = applyFwd T0 P →
      (∀ e ∈ G, e.seq = s) → (∀ p ∈ F, p.seq ≠ s) → G.length ≤ fuel →
      ∃ lb', redoGo s fuel lb = some lb' ∧ lb'.lines = applyFwd T0 (P ++ G) ∧ lb'.hist = lb.hist ∧
        lb'.histU = (P ++ G).length ∧ lb'.useq = lb.useq := by
  induction G with
  | nil =>
    intro fuel P F lb hh hu _ hl _ hF _
    simp only [List.append_nil] at hh ⊢
    cases fuel with
    | zero => exact ⟨lb, rfl, hl, rfl, hu, rfl⟩
    | succ f =>
      refine ⟨lb, ?_, hl, rfl, hu, rfl⟩
      rw [redoGo]
      by_cases hlt : lb.histU < lb.hist.length
      · have hlt' : lb.histU - P.length < F.length := by rw [hh] at hlt; simp at hlt; omega
        have hget : lb.hist[lb.histU]? = some F[lb.histU - P.length] := by
          rw [hh, List.getElem?_append_right (by omega)]
          exact List.getElem?_eq_getElem hlt'
        have hne : F[lb.histU - P.length].seq ≠ s := hF _ (List.getElem_mem hlt')
        simp only [hlt, if_true, hget, hne, if_false]
      · simp only [hlt, if_false]
  | cons e G ih =>
    intro fuel P F lb hh hu hc hl hG hF hf
    cases fuel with
    | zero => simp at hf
    | succ f =>
      have hlt : lb.histU < lb.hist.length := by rw [hh, hu]; simp
      have hget : lb.hist[lb.histU]? = some e := by
        rw [hh, hu, List.append_assoc, List.getElem?_append_right (Nat.le_refl _)]
        simp
      have hes : e.seq = s := hG e (by simp)
      have hok : EntOk e lb.lines := by rw [hl]; exact hc.1
      obtain ⟨lb1, h1, h2, h3, h4, h5⟩ := redo_entry lb e (lb.histU + 1) hok
      obtain ⟨lb', g1, g2, g3, g4, g5⟩ := ih f (P ++ [e]) F (loadPos lb1 e)
        (by rw [h3, hh]; simp) (by rw [h4, hu]; simp)
        (by rw [applyFwd_append, applyFwd_single]; exact hc.2)
        (by rw [h2, hl, applyFwd_append, applyFwd_single])
        (fun x hx => hG x (by simp [hx])) hF (by simp at hf; omega)
      refine ⟨lb', ?_, by rw [g2]; simp, by rw [g3, h3], by rw [g4]; simp, by rw [g5, h5]⟩
      rw [redoGo]
      simp only [hlt, if_true, hget, hes, h1]
      exact g1

/-! ### a logging `lbuf_edit` -/

theorem opt_spec (lb : Lb) (buf : Option Bytes) (pos nDel : Nat) :
    ∃ en : Entry, (opt lb buf pos nDel).hist = lb.hist.take lb.histU ++ [en] ∧
      (opt lb buf pos nDel).histU = (lb.hist.take lb.histU).length + 1 ∧
      (opt lb buf pos nDel).useq = lb.useq ∧ (opt lb buf pos nDel).lines = lb.lines ∧
      en.pos = pos ∧ en.nDel = nDel ∧ en.ins = buf ∧ en.nIns = lineCount buf ∧ en.seq = lb.useq ∧
      en.del = (if nDel > 0 then some (cp lb pos (pos + nDel)) else none) := by
  unfold opt
  exact ⟨_, rfl, rfl, rfl, rfl, rfl, rfl, rfl, rfl, rfl, rfl⟩

theorem del_faithful (lb : Lb) (pos nDel : Nat) (hwf : ∀ l ∈ lb.lines, WfLine l) :
    optLines (if nDel > 0 then some (cp lb pos (pos + nDel)) else none) = (lb.lines.drop pos).take nDel := by
  by_cases h : nDel > 0
  · rw [if_pos h]
    show splitLines (cp lb pos (pos + nDel)) = _
    unfold cp
    rw [show pos + nDel - pos = nDel by omega]
    apply split_of_join
    intro l hl
    exact hwf l (List.mem_of_mem_drop (List.mem_of_mem_take hl))
  · rw [if_neg h]
    have : nDel = 0 := by omega
    subst this
    simp [optLines]

/-- an `lbuf_edit` that is not the no-op case never traps, appends one faithful entry carrying the
    current sequence number after the undone-to position, and splices the text -/
theorem edit_log (lb : Lb) (buf : Option Bytes) (b e : Nat) (A B : List Entry)
    (hh : lb.hist = A ++ B) (hu : lb.histU = A.length) (hwf : ∀ l ∈ lb.lines, WfLine l) (hbe : b ≤ e)
    (hlog : ¬ (min b lb.lines.length = min e lb.lines.length ∧ buf = none)) :
    ∃ lb' en, edit lb buf b e = some lb' ∧ lb'.hist = A ++ [en] ∧ lb'.histU = A.length + 1 ∧
      en.seq = lb.useq ∧ EntOk en lb.lines ∧ lb'.lines = fwd en lb.lines ∧
      fwd en lb.lines = splice lb.lines (min b lb.lines.length)
        (min e lb.lines.length - min b lb.lines.length) (optLines buf) ∧
      lb'.useq = lb.useq := by
  generalize hb' : min b lb.lines.length = b' at *
  generalize he' : min e lb.lines.length = e' at *
  have hle : b' ≤ e' := by omega
  have hen : e' ≤ lb.lines.length := by omega
  obtain ⟨en, o1, o2, o3, o4, p1, p2, p3, p4, p5, p6⟩ := opt_spec lb buf b' (e' - b')
  have hbound : b' + (e' - b') ≤ (opt lb buf b' (e' - b')).lines.length := by rw [o4]; omega
  obtain ⟨lb', r1, r2, r3, r4, r5⟩ := replace_spec (opt lb buf b' (e' - b')) buf b' (e' - b') hbound
  have htake : lb.hist.take lb.histU = A := by rw [hh, hu]; exact List.take_left
  have hfwd : fwd en lb.lines = splice lb.lines b' (e' - b') (optLines buf) := by
    unfold fwd; rw [p1, p2, p3]
  refine ⟨lb', en, ?_, ?_, ?_, p5, ?_, ?_, hfwd, ?_⟩
  · unfold edit
    simp only [hb', he']
    rw [if_neg (by omega)]
    have hc : (b' == e' && buf.isNone) = false := by
      cases buf with
      | none =>
        have : b' ≠ e' := fun h => hlog ⟨h, rfl⟩
        simp [this]
      | some x => simp
    rw [hc]
    exact r1
  · rw [r3, o1, htake]
  · rw [r4, o2, htake]
  · refine ⟨by rw [p1, p2]; omega, by rw [p4, p3]; exact lineCount_eq buf, ?_⟩
    rw [p6, p1, p2]
    exact del_faithful lb b' (e' - b') hwf
  · rw [r2, o4, hfwd]
  · rw [r5, o3]

/-- the no-op case of `lbuf_edit` -/
theorem edit_noop (lb : Lb) (b e : Nat)
    (h : min b lb.lines.length = min e lb.lines.length) : edit lb none b e = some lb := by
  unfold edit
  simp only [h]
  simp

end Neatvi.Lemmas.Hist

namespace Neatvi.Lemmas.C15b
open Neatvi Neatvi.Lbuf

/-- `lbuf_undo` and `lbuf_redo` are sequences of steps: `lbuf_replace` (on the buffer with `hist_u` moved) puts back a text
    of an entry of the history at the entry's position, then the cursor position of the entry is reloaded and, for undo,
    its marks: a preorder that these steps respect relates the buffer before and after -/
structure ReplRel (R : Lb → Lb → Prop) : Prop where
  refl : ∀ lb, R lb lb
  trans : ∀ {a b c}, R a b → R b c → R a c
  undo : ∀ {lb lb1 : Lb} {u : Nat} {e : Entry}, e ∈ lb.hist →
    replace { lb with histU := u } e.del e.pos e.nIns = some lb1 → R lb (loadMarks (loadPos lb1 e) e)
  redo : ∀ {lb lb1 : Lb} {u : Nat} {e : Entry}, e ∈ lb.hist →
    replace { lb with histU := u } e.ins e.pos e.nDel = some lb1 → R lb (loadPos lb1 e)

theorem ReplRel.ofParts {R : Lb → Lb → Prop} (refl : ∀ lb, R lb lb) (trans : ∀ {a b c}, R a b → R b c → R a c)
    (repl : ∀ {lb lb1 : Lb} {u : Nat} {e : Entry} {s : Option Bytes} {pos n : Nat}, e ∈ lb.hist → s = e.del ∨ s = e.ins →
      replace { lb with histU := u } s pos n = some lb1 → R lb lb1)
    (pos : ∀ lb e, R lb (loadPos lb e)) (marks : ∀ lb e, R lb (loadMarks lb e)) : ReplRel R :=
  ⟨refl, trans, fun he hr => trans (trans (repl he (Or.inl rfl) hr) (pos _ _)) (marks _ _),
    fun he hr => trans (repl he (Or.inr rfl) hr) (pos _ _)⟩

theorem undoGo_rel {R : Lb → Lb → Prop} (H : ReplRel R) (seq : Nat) : ∀ (f : Nat) (lb lb' : Lb),
    undoGo seq f lb = some lb' → R lb lb' := by
  intro f
  induction f with
  | zero => intro lb lb' h; cases h; exact H.refl _
  | succ f ih =>
    intro lb lb' h
    rw [undoGo] at h
    split at h
    · cases h; exact H.refl _
    · split at h
      · cases h
      · split at h
        · split at h
          · cases h
          · rename_i hr
            exact H.trans (H.undo (List.mem_of_getElem? ‹_›) hr) (ih _ _ h)
        · cases h; exact H.refl _

theorem redoGo_rel {R : Lb → Lb → Prop} (H : ReplRel R) (seq : Nat) : ∀ (f : Nat) (lb lb' : Lb),
    redoGo seq f lb = some lb' → R lb lb' := by
  intro f
  induction f with
  | zero => intro lb lb' h; cases h; exact H.refl _
  | succ f ih =>
    intro lb lb' h
    rw [redoGo] at h
    split at h
    · split at h
      · cases h
      · split at h
        · split at h
          · cases h
          · rename_i hr
            exact H.trans (H.redo (List.mem_of_getElem? ‹_›) hr) (ih _ _ h)
        · cases h; exact H.refl _
    · cases h; exact H.refl _

theorem undo_rel {R : Lb → Lb → Prop} (H : ReplRel R) {lb lb' : Lb} {rc : Nat} (h : Lbuf.undo lb = some (rc, lb')) :
    R lb lb' := by
  unfold Lbuf.undo at h
  split at h
  · cases h; exact H.refl _
  · split at h
    · cases h
    · rename_i e _
      cases hg : undoGo e.seq lb.histU lb with
      | none => rw [hg] at h; cases h
      | some l => rw [hg] at h; cases h; exact undoGo_rel H _ _ _ _ hg

theorem redo_rel {R : Lb → Lb → Prop} (H : ReplRel R) {lb lb' : Lb} {rc : Nat} (h : Lbuf.redo lb = some (rc, lb')) :
    R lb lb' := by
  unfold Lbuf.redo at h
  split at h
  · cases h; exact H.refl _
  · split at h
    · cases h
    · rename_i e _
      cases hg : redoGo e.seq (lb.hist.length - lb.histU) lb with
      | none => rw [hg] at h; cases h
      | some l => rw [hg] at h; cases h; exact redoGo_rel H _ _ _ _ hg

end Neatvi.Lemmas.C15b
