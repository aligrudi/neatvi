import NeatviVerif.Lemmas.C06Lbuf
/-!
# The history invariant of the line buffer and its simulation by the zipper of texts

The history is a list of *groups* (maximal runs of entries with one sequence number): `pg` are the
groups below `hist_u` (nearest first), `fg` those above it (nearest first).  The ghost texts are
`applyFwd T0 (prefix of hist)`; the zipper holds the ghost texts at the group boundaries.

`C02b.HInv` is the part of the invariant that does not mention the zipper.  It holds at any point of a command
line, also where the zipper is out of step (after `:d|u` the group carrying the current sequence number sits above
the cursor).  What `lbuf_undo`, `lbuf_redo` and `lbuf_edit` do to the groups is proved for it (`hinv_undo`, `hinv_redo`,
`hinv_edit_log` with the groups after it spelt out as `pushGroup`); the lemmas about `Inv` add the move of the zipper
(`Inv.ofH`: `Inv` is `HInv` and five clauses about the zipper).
The file alternates between two namespaces: `Lemmas.Hist` (`Inv`, `inv_*`) and `Lemmas.C02b` (`HInv`, `hinv_*`).
-/
namespace Neatvi.Lemmas.Hist
open Neatvi Neatvi.Lbuf Neatvi.Spec Neatvi.Props.C01

/-- a run of history entries with one sequence number -/
abbrev Group := Nat × List Entry

def ents (gs : List Group) : List Entry := (gs.map Prod.snd).flatten

@[simp] theorem ents_nil : ents [] = [] := rfl
@[simp] theorem ents_cons (g : Group) (gs : List Group) : ents (g :: gs) = g.2 ++ ents gs := rfl
@[simp] theorem ents_append (a b : List Group) : ents (a ++ b) = ents a ++ ents b := by
  simp [ents]

theorem mem_ents (e : Entry) (gs : List Group) : e ∈ ents gs ↔ ∃ g ∈ gs, e ∈ g.2 := by
  induction gs with
  | nil => simp
  | cons g gs ih => simp [ih]

/-- texts at the group boundaries below the cursor, nearest first -/
def pastTexts (T0 : Text) : List Group → List Text
  | [] => []
  | _ :: ps => applyFwd T0 (ents ps.reverse) :: pastTexts T0 ps

/-- texts at the group boundaries above the cursor, nearest first -/
def futTexts (t : Text) : List Group → List Text
  | [] => []
  | g :: fs => applyFwd t g.2 :: futTexts (applyFwd t g.2) fs

theorem applyFwd_wf (t : Text) (es : List Entry) (h : ∀ l ∈ t, WfLine l) : ∀ l ∈ applyFwd t es, WfLine l := by
  induction es generalizing t with
  | nil => exact h
  | cons e r ih => exact ih (fwd e t) (splice_wf t _ _ _ h (optLines_wf e.ins))

structure Inv (T0 : Text) (lb : Lb) (z : Zipper) (pg fg : List Group) : Prop where
  hist : lb.hist = ents pg.reverse ++ ents fg
  histU : lb.histU = (ents pg.reverse).length
  gok : ∀ g ∈ pg ++ fg, g.2 ≠ [] ∧ ∀ e ∈ g.2, e.seq = g.1
  sorted : (pg.reverse ++ fg).Pairwise (fun a b => a.1 < b.1)
  le : ∀ g ∈ pg ++ fg, g.1 ≤ lb.useq
  closed : z.open_ = false → ∀ g ∈ pg ++ fg, g.1 < lb.useq
  opened : z.open_ = true → fg = [] ∧ ∃ g ps, pg = g :: ps ∧ g.1 = lb.useq
  chain : Chain T0 lb.hist
  lines : lb.lines = applyFwd T0 (ents pg.reverse)
  wf0 : ∀ l ∈ T0, WfLine l
  present : z.present = lb.lines
  past : z.past = pastTexts T0 pg
  future : z.future = futTexts lb.lines fg

theorem Inv.wf {T0 lb z pg fg} (h : Inv T0 lb z pg fg) : ∀ l ∈ lb.lines, WfLine l := by
  rw [h.lines]; exact applyFwd_wf _ _ h.wf0

theorem inv_make : Inv [] Lbuf.make {} [] [] where
  hist := rfl
  histU := rfl
  gok := by intro g hg; simp at hg
  sorted := by simp
  le := by intro g hg; simp at hg
  closed := by intro _ g hg; simp at hg
  opened := by intro h; simp at h
  chain := trivial
  lines := rfl
  wf0 := by intro l hl; simp at hl
  present := rfl
  past := rfl
  future := rfl

end Neatvi.Lemmas.Hist

namespace Neatvi.Lemmas.C02b
open Neatvi Neatvi.Lbuf Neatvi.Spec Neatvi.Lemmas.Hist Neatvi.Props.C01

structure HInv (T0 : Text) (lb : Lb) (pg fg : List Group) : Prop where
  hist : lb.hist = ents pg.reverse ++ ents fg
  histU : lb.histU = (ents pg.reverse).length
  gok : ∀ g ∈ pg ++ fg, g.2 ≠ [] ∧ ∀ e ∈ g.2, e.seq = g.1
  sorted : (pg.reverse ++ fg).Pairwise (fun a b => a.1 < b.1)
  le : ∀ g ∈ pg ++ fg, g.1 ≤ lb.useq
  chain : Chain T0 lb.hist
  lines : lb.lines = applyFwd T0 (ents pg.reverse)
  wf0 : ∀ l ∈ T0, WfLine l

theorem HInv.wf {T0 lb pg fg} (h : HInv T0 lb pg fg) : ∀ l ∈ lb.lines, WfLine l := by
  rw [h.lines]; exact applyFwd_wf _ _ h.wf0

theorem hinv_of_inv {T0 lb z pg fg} (h : Inv T0 lb z pg fg) : HInv T0 lb pg fg :=
  ⟨h.hist, h.histU, h.gok, h.sorted, h.le, h.chain, h.lines, h.wf0⟩

/-- the invariant reads four fields -/
theorem hinv_congr {T0 lb lb' pg fg} (h : HInv T0 lb pg fg)
    (h1 : lb'.hist = lb.hist) (h2 : lb'.histU = lb.histU) (h3 : lb'.useq = lb.useq)
    (h4 : lb'.lines = lb.lines) : HInv T0 lb' pg fg where
  hist := by rw [h1]; exact h.hist
  histU := by rw [h2]; exact h.histU
  gok := h.gok
  sorted := h.sorted
  le := by rw [h3]; exact h.le
  chain := by rw [h1]; exact h.chain
  lines := by rw [h4]; exact h.lines
  wf0 := h.wf0

theorem hinv_bump {T0 lb pg fg} (h : HInv T0 lb pg fg) : HInv T0 (modified lb).2 pg fg where
  hist := h.hist
  histU := h.histU
  gok := h.gok
  sorted := h.sorted
  le := fun g hg => Nat.le_succ_of_le (h.le g hg)
  chain := h.chain
  lines := h.lines
  wf0 := h.wf0

/-- `lbuf_saved(lb, 1)`: the history is dropped -/
theorem hinv_clear {T0 lb pg fg} (h : HInv T0 lb pg fg) :
    HInv lb.lines (modified (savedCore lb true)).2 [] [] where
  hist := by simp [savedCore, modified]
  histU := by simp [savedCore, modified]
  gok := by intro g hg; simp at hg
  sorted := by simp
  le := by intro g hg; simp at hg
  chain := by simp [savedCore, modified, Chain]
  lines := by simp [savedCore, modified, applyFwd]
  wf0 := h.wf

end Neatvi.Lemmas.C02b

namespace Neatvi.Lemmas.Hist
open Neatvi Neatvi.Lbuf Neatvi.Spec Neatvi.Props.C01 Neatvi.Lemmas.C02b

theorem Inv.ofH {T0 lb z pg fg} (h : HInv T0 lb pg fg) (closed : z.open_ = false → ∀ g ∈ pg ++ fg, g.1 < lb.useq)
    (opened : z.open_ = true → fg = [] ∧ ∃ g ps, pg = g :: ps ∧ g.1 = lb.useq) (present : z.present = lb.lines)
    (past : z.past = pastTexts T0 pg) (future : z.future = futTexts lb.lines fg) : Inv T0 lb z pg fg :=
  ⟨h.hist, h.histU, h.gok, h.sorted, h.le, closed, opened, h.chain, h.lines, h.wf0, present, past, future⟩

theorem Inv.congr {T0 : Text} {lb lb' : Lb} {z : Zipper} {pg fg : List Group} (h : Inv T0 lb z pg fg)
    (h1 : lb'.hist = lb.hist) (h2 : lb'.histU = lb.histU) (h3 : lb'.useq = lb.useq)
    (h4 : lb'.lines = lb.lines) : Inv T0 lb' z pg fg :=
  Inv.ofH (hinv_congr (hinv_of_inv h) h1 h2 h3 h4) (by rw [h3]; exact h.closed) (by rw [h3]; exact h.opened)
    (by rw [h4]; exact h.present) h.past (by rw [h4]; exact h.future)

/-- the command boundary: bump the counter, close the zipper's command -/
theorem inv_bump {T0 lb z pg fg} (h : Inv T0 lb z pg fg) : Inv T0 (modified lb).2 z.commit pg fg :=
  Inv.ofH (hinv_bump (hinv_of_inv h)) (fun _ g hg => Nat.lt_succ_of_le (h.le g hg))
    (by intro ho; simp [Zipper.commit] at ho) h.present h.past h.future

end Neatvi.Lemmas.Hist

namespace Neatvi.Lemmas.C02b
open Neatvi Neatvi.Lbuf Neatvi.Spec Neatvi.Lemmas.Hist Neatvi.Props.C01

theorem HInv.below {T0 lb g ps fg} (h : HInv T0 lb (g :: ps) fg) :
    ∃ G' e, g.2 = G' ++ [e] ∧ e.seq = g.1 ∧ lb.histU = (ents ps.reverse ++ G').length + 1 ∧
      lb.hist[(ents ps.reverse ++ G').length]? = some e := by
  have hgok := h.gok g (by simp)
  obtain ⟨G', e, hG⟩ : ∃ G' e, g.2 = G' ++ [e] := by
    rcases List.eq_nil_or_concat g.2 with h0 | ⟨l', b, hb⟩
    · exact absurd h0 hgok.1
    · exact ⟨l', b, by rw [hb, List.concat_eq_append]⟩
  refine ⟨G', e, hG, hgok.2 e (by rw [hG]; simp), ?_, ?_⟩
  · rw [h.histU, List.reverse_cons, ents_append, ents_cons, ents_nil, List.append_nil, hG, ← List.append_assoc,
      List.length_append (bs := [e])]
    rfl
  · rw [h.hist, List.reverse_cons, ents_append, ents_cons, ents_nil, List.append_nil, hG, ← List.append_assoc,
      List.append_assoc (ents ps.reverse ++ G'), List.getElem?_append_right (Nat.le_refl _)]
    simp


theorem hinv_undo {T0 lb pg fg} (h : HInv T0 lb pg fg) :
    (pg = [] ∧ undo lb = some (1, lb)) ∨
    (∃ g ps lb', pg = g :: ps ∧ undo lb = some (0, lb') ∧ lb'.useq = lb.useq ∧ HInv T0 lb' ps (g :: fg)) := by
  cases pg with
  | nil =>
    left
    have hU : lb.histU = 0 := by rw [h.histU]; rfl
    exact ⟨rfl, by simp [undo, hU]⟩
  | cons g ps =>
    right
    have hgok := h.gok g (by simp)
    have hhist : lb.hist = ents ps.reverse ++ g.2 ++ ents fg := by rw [h.hist]; simp
    have hhU : lb.histU = (ents ps.reverse ++ g.2).length := by rw [h.histU]; simp
    have hlines : lb.lines = applyFwd T0 (ents ps.reverse ++ g.2) := by rw [h.lines]; simp
    have hchain : Chain T0 (ents ps.reverse ++ g.2) := by
      have := h.chain; rw [hhist, chain_append] at this; exact this.1
    have hsorted : (ps.reverse ++ g :: fg).Pairwise (fun a b => a.1 < b.1) := by
      have := h.sorted; simpa using this
    have hP : ∀ p ∈ ents ps.reverse, p.seq ≠ g.1 := by
      intro p hp
      obtain ⟨q, hq, hpq⟩ := (mem_ents p _).1 hp
      have h1 : p.seq = q.1 := (h.gok q (by simp at hq; simp [hq])).2 p hpq
      rw [List.pairwise_append] at hsorted
      have := hsorted.2.2 q hq g (by simp)
      omega
    obtain ⟨G', e, hG, hes, hU, hget⟩ := h.below
    obtain ⟨lb', g1, g2, g3, g4, g5⟩ := undoGo_run T0 g.1 g.2.reverse ((ents ps.reverse ++ G').length + 1)
      (ents ps.reverse) (ents fg) lb (by rw [List.reverse_reverse]; exact hhist)
      (by rw [List.reverse_reverse]; exact hhU) (by rw [List.reverse_reverse]; exact hchain)
      (by rw [List.reverse_reverse]; exact hlines) (fun x hx => hgok.2 x (by simpa using hx)) hP
      (by rw [hG]; simp)
    have hmem : ∀ x, x ∈ ps ++ g :: fg → x ∈ g :: ps ++ fg := by
      intro x hx
      simp only [List.mem_append, List.mem_cons] at hx ⊢
      rcases hx with hx | hx | hx
      · exact Or.inl (Or.inr hx)
      · exact Or.inl (Or.inl hx)
      · exact Or.inr hx
    refine ⟨g, ps, lb', rfl, ?_, g5, ?_⟩
    · simp only [undo, hU, hget, hes, g1]
      rfl
    · exact
        { hist := by rw [g3, hhist]; simp
          histU := g4
          gok := fun x hx => h.gok x (hmem x hx)
          sorted := hsorted
          le := fun x hx => by rw [g5]; exact h.le x (hmem x hx)
          chain := by rw [g3]; exact h.chain
          lines := g2
          wf0 := h.wf0 }

theorem hinv_redo {T0 lb pg fg} (h : HInv T0 lb pg fg) :
    (fg = [] ∧ redo lb = some (1, lb)) ∨
    (∃ g fs lb', fg = g :: fs ∧ redo lb = some (0, lb') ∧ lb'.useq = lb.useq ∧ HInv T0 lb' (g :: pg) fs) := by
  cases fg with
  | nil =>
    left
    have hU : lb.histU = lb.hist.length := by rw [h.histU, h.hist]; simp
    exact ⟨rfl, by simp [redo, hU]⟩
  | cons g fs =>
    right
    have hgok := h.gok g (by simp)
    have hhist : lb.hist = ents pg.reverse ++ g.2 ++ ents fs := by rw [h.hist]; simp
    have hchain : Chain (applyFwd T0 (ents pg.reverse)) g.2 := by
      have := h.chain
      rw [hhist, List.append_assoc, chain_append, chain_append] at this
      exact this.2.1
    have hF : ∀ p ∈ ents fs, p.seq ≠ g.1 := by
      intro p hp
      obtain ⟨q, hq, hpq⟩ := (mem_ents p _).1 hp
      have h1 : p.seq = q.1 := (h.gok q (by simp [hq])).2 p hpq
      have hs := h.sorted
      rw [List.pairwise_append, List.pairwise_cons] at hs
      have := hs.2.1.1 q hq
      omega
    obtain ⟨e, G', hG⟩ : ∃ e G', g.2 = e :: G' := by
      cases hg2 : g.2 with
      | nil => exact absurd hg2 hgok.1
      | cons e G' => exact ⟨e, G', rfl⟩
    have hes : e.seq = g.1 := hgok.2 e (by rw [hG]; simp)
    have hne : lb.histU ≠ lb.hist.length := by rw [h.histU, hhist, hG]; simp
    have hget : lb.hist[lb.histU]? = some e := by
      rw [hhist, h.histU, hG, List.append_assoc, List.getElem?_append_right (Nat.le_refl _)]
      simp
    obtain ⟨lb', g1, g2, g3, g4, g5⟩ := redoGo_run T0 g.1 g.2 (lb.hist.length - lb.histU)
      (ents pg.reverse) (ents fs) lb hhist h.histU hchain h.lines hgok.2 hF
      (by rw [h.histU, hhist]; simp)
    have hmem : ∀ x, x ∈ g :: pg ++ fs → x ∈ pg ++ g :: fs := by
      intro x hx
      simp only [List.mem_append, List.mem_cons] at hx ⊢
      rcases hx with (hx | hx) | hx
      · exact Or.inr (Or.inl hx)
      · exact Or.inl hx
      · exact Or.inr (Or.inr hx)
    refine ⟨g, fs, lb', rfl, ?_, g5, ?_⟩
    · simp only [redo, hne, if_false, hget, hes, g1]
      rfl
    · exact
        { hist := by rw [g3, hhist]; simp
          histU := by rw [g4]; simp
          gok := fun x hx => h.gok x (hmem x hx)
          sorted := by have := h.sorted; simpa using this
          le := fun x hx => by rw [g5]; exact h.le x (hmem x hx)
          chain := by rw [g3]; exact h.chain
          lines := by rw [g2]; simp
          wf0 := h.wf0 }


/-- a logging `lbuf_edit` seen from the groups: its entry `en` joins `G` (the entries of the open group; none when
    there is none) on top of the groups `base` below it, and everything above the cursor is dropped -/
theorem hinv_push {T0 lb lb' pg fg} (h : HInv T0 lb pg fg) {en : Entry}
    (e2 : lb'.hist = ents pg.reverse ++ [en]) (e3 : lb'.histU = (ents pg.reverse).length + 1)
    (e4 : en.seq = lb.useq) (e5 : EntOk en lb.lines) (e6 : lb'.lines = fwd en lb.lines) (e8 : lb'.useq = lb.useq)
    (G : List Entry) (base : List Group) (hA : ents pg.reverse = ents base.reverse ++ G)
    (hG : ∀ x ∈ G, x.seq = lb.useq) (hbase : ∀ a ∈ base, a ∈ pg ∧ a.1 < lb.useq)
    (hsort : base.reverse.Pairwise (fun a b => a.1 < b.1)) :
    HInv T0 lb' ((lb.useq, G ++ [en]) :: base) [] := by
  have hchainA : Chain T0 (ents pg.reverse) := by
    have := h.chain; rw [h.hist, chain_append] at this; exact this.1
  have hgrp : ents ((lb.useq, G ++ [en]) :: base).reverse = ents pg.reverse ++ [en] := by
    rw [hA]; simp
  refine
    { hist := by rw [e2, hgrp]; simp
      histU := by rw [e3, hgrp]; simp
      gok := ?_, sorted := ?_, le := ?_
      chain := by
        rw [e2, chain_append]; refine ⟨hchainA, ?_⟩
        rw [chain_single, ← h.lines]; exact e5
      lines := by rw [hgrp, applyFwd_append, applyFwd_single, ← h.lines]; exact e6
      wf0 := h.wf0 }
  · intro g hg
    simp only [List.append_nil, List.mem_cons] at hg
    rcases hg with rfl | hg
    · refine ⟨by simp, ?_⟩
      intro x hx
      rcases List.mem_append.1 hx with hx | hx
      · exact hG x hx
      · rw [List.mem_singleton.1 hx]; exact e4
    · exact h.gok g (List.mem_append_left _ (hbase g hg).1)
  · simp only [List.reverse_cons, List.append_nil]
    rw [List.pairwise_append]
    refine ⟨hsort, by simp, ?_⟩
    intro a ha c hc
    rw [List.mem_singleton.1 hc]
    exact (hbase a (List.mem_reverse.1 ha)).2
  · intro g hg
    simp only [List.append_nil, List.mem_cons] at hg
    rw [e8]
    rcases hg with rfl | hg
    · exact Nat.le_refl _
    · exact Nat.le_of_lt (hbase g hg).2

/-- the shape of the groups after a logging `lbuf_edit` -/
def pushGroup (useq : Nat) (en : Entry) : List Group → List Group
  | [] => [(useq, [en])]
  | g :: ps => if g.1 = useq then (useq, g.2 ++ [en]) :: ps else (useq, [en]) :: g :: ps

theorem hinv_edit_log {T0 lb pg fg} (h : HInv T0 lb pg fg) (buf : Option Bytes) (b e : Nat) (hbe : b ≤ e)
    (hlog : ¬ (min b lb.lines.length = min e lb.lines.length ∧ buf = none)) :
    ∃ lb' en, edit lb buf b e = some lb' ∧ lb'.useq = lb.useq ∧
      lb'.lines = splice lb.lines (min b lb.lines.length) (min e lb.lines.length - min b lb.lines.length)
        (optLines buf) ∧
      lb'.hist = ents pg.reverse ++ [en] ∧ HInv T0 lb' (pushGroup lb.useq en pg) [] := by
  obtain ⟨lb', en, e1, e2, e3, e4, e5, e6, e7, e8⟩ :=
    edit_log lb buf b e (ents pg.reverse) (ents fg) h.hist h.histU h.wf hbe hlog
  refine ⟨lb', en, e1, e8, by rw [e6, e7], e2, ?_⟩
  have hsP : pg.reverse.Pairwise (fun a b => a.1 < b.1) := by
    have := h.sorted; rw [List.pairwise_append] at this; exact this.1
  have newgrp : (∀ g ∈ pg, g.1 < lb.useq) → HInv T0 lb' ((lb.useq, [en]) :: pg) [] := fun hlt =>
    hinv_push h e2 e3 e4 e5 e6 e8 [] pg (by simp) (by simp) (fun a ha => ⟨ha, hlt a ha⟩) hsP
  cases pg with
  | nil => exact newgrp (by intro g hg; simp at hg)
  | cons g ps =>
    simp only [List.reverse_cons] at hsP
    rw [List.pairwise_append] at hsP
    by_cases hgu : g.1 = lb.useq
    · simp only [pushGroup, hgu, if_true]
      refine hinv_push h e2 e3 e4 e5 e6 e8 g.2 ps (by simp) (fun x hx => by rw [(h.gok g (by simp)).2 x hx, hgu])
        (fun a ha => ⟨List.mem_cons_of_mem _ ha, ?_⟩) hsP.1
      have := hsP.2.2 a (List.mem_reverse.2 ha) g (by simp)
      omega
    · simp only [pushGroup, hgu, if_false]
      apply newgrp
      intro a ha
      have hgle := h.le g (by simp)
      rcases List.mem_cons.1 ha with rfl | ha
      · omega
      · have := hsP.2.2 a (List.mem_reverse.2 ha) g (by simp)
        omega

end Neatvi.Lemmas.C02b

namespace Neatvi.Lemmas.Hist
open Neatvi Neatvi.Lbuf Neatvi.Spec Neatvi.Props.C01 Neatvi.Lemmas.C02b

theorem inv_edit_group {T0 lb z pg fg} (h : Inv T0 lb z pg fg) (buf : Option Bytes) (b e : Nat) (hbe : b ≤ e)
    (hlog : ¬ (min b lb.lines.length = min e lb.lines.length ∧ buf = none))
    (f : Text → Text)
    (hf : f lb.lines = splice lb.lines (min b lb.lines.length)
      (min e lb.lines.length - min b lb.lines.length) (optLines buf)) :
    ∃ lb' es en, edit lb buf b e = some lb' ∧ lb'.useq = lb.useq ∧ lb'.lines = f lb.lines ∧
      lb'.hist = ents pg.reverse ++ [en] ∧
      Inv T0 lb' (z.edit f) ((lb.useq, es) :: if z.open_ then pg.tail else pg) [] := by
  obtain ⟨lb', en, e1, e8, e6, e2, hc⟩ := hinv_edit_log (hinv_of_inv h) buf b e hbe hlog
  have hlines : lb'.lines = f lb.lines := by rw [hf, e6]
  have hpres : f z.present = lb'.lines := by rw [h.present, hlines]
  -- the zipper's test "a command is in progress" is the test of `pushGroup`
  cases ho : z.open_ with
  | false =>
    have hp : pushGroup lb.useq en pg = (lb.useq, [en]) :: pg := by
      cases pg with
      | nil => rfl
      | cons g ps => simp [pushGroup, Nat.ne_of_lt (h.closed ho g (by simp))]
    rw [hp] at hc
    rw [if_neg Bool.false_ne_true]
    refine ⟨lb', _, en, e1, e8, hlines, e2,
      Inv.ofH hc (by simp [Zipper.edit, ho]) (fun _ => ⟨rfl, _, _, rfl, e8.symm⟩) ?_ ?_ ?_⟩
      <;> simp only [Zipper.edit, ho, Bool.false_eq_true, if_false]
    · exact hpres
    · rw [h.present, h.past, h.lines]; rfl
    · rfl
  | true =>
    obtain ⟨rfl, ⟨gs, ges⟩, ps, rfl, hg1⟩ := h.opened ho
    simp only at hg1
    subst hg1
    have hp : pushGroup lb.useq en ((lb.useq, ges) :: ps) = (lb.useq, ges ++ [en]) :: ps := by simp [pushGroup]
    rw [hp] at hc
    rw [if_pos rfl, List.tail_cons]
    refine ⟨lb', _, en, e1, e8, hlines, e2,
      Inv.ofH hc (by simp [Zipper.edit, ho]) (fun _ => ⟨rfl, _, _, rfl, e8.symm⟩) ?_ ?_ ?_⟩
      <;> simp only [Zipper.edit, ho, if_true]
    · exact hpres
    · rw [h.past]; rfl
    · rw [h.future]; rfl

theorem inv_edit_log {T0 lb z pg fg} (h : Inv T0 lb z pg fg) (buf : Option Bytes) (b e : Nat) (hbe : b ≤ e)
    (hlog : ¬ (min b lb.lines.length = min e lb.lines.length ∧ buf = none))
    (f : Text → Text)
    (hf : f lb.lines = splice lb.lines (min b lb.lines.length)
      (min e lb.lines.length - min b lb.lines.length) (optLines buf)) :
    ∃ lb' pg', edit lb buf b e = some lb' ∧ lb'.useq = lb.useq ∧ Inv T0 lb' (z.edit f) pg' [] := by
  obtain ⟨lb', es, _, h1, h2, _, _, h3⟩ := inv_edit_group h buf b e hbe hlog f hf
  exact ⟨lb', _, h1, h2, h3⟩

theorem Inv.below {T0 lb z g ps fg} (h : Inv T0 lb z (g :: ps) fg) :
    ∃ G' e, g.2 = G' ++ [e] ∧ e.seq = g.1 ∧ lb.histU = (ents ps.reverse ++ G').length + 1 ∧
      lb.hist[(ents ps.reverse ++ G').length]? = some e := (hinv_of_inv h).below

/-- `lbuf_undo` at a command boundary: `hinv_undo` and the zipper's move (`Zipper.undo`, spelt out) -/
theorem inv_undo {T0 lb z pg fg} (h : Inv T0 lb z pg fg) (ho : z.open_ = false) :
    (pg = [] ∧ z.past = [] ∧ undo lb = some (1, lb)) ∨
    (∃ g ps p pt lb', pg = g :: ps ∧ z.past = p :: pt ∧ undo lb = some (0, lb') ∧ lb'.lines = p ∧
      lb'.useq = lb.useq ∧ Inv T0 lb' ⟨pt, p, z.present :: z.future, false⟩ ps (g :: fg)) := by
  rcases hinv_undo (hinv_of_inv h) with ⟨rfl, hu⟩ | ⟨g, ps, lb', rfl, hu, hus, hc⟩
  · exact Or.inl ⟨rfl, by rw [h.past]; rfl, hu⟩
  · right
    have hback : applyFwd lb'.lines g.2 = lb.lines := by
      rw [hc.lines, ← applyFwd_append, h.lines]; simp
    have hmem : ∀ x, x ∈ ps ++ g :: fg → x ∈ g :: ps ++ fg := by
      intro x hx
      simp only [List.mem_append, List.mem_cons] at hx ⊢
      rcases hx with hx | hx | hx
      · exact Or.inl (Or.inr hx)
      · exact Or.inl (Or.inl hx)
      · exact Or.inr hx
    refine ⟨g, ps, applyFwd T0 (ents ps.reverse), pastTexts T0 ps, lb', rfl, by rw [h.past]; rfl, hu, hc.lines, hus, ?_⟩
    refine Inv.ofH hc (fun _ x hx => by rw [hus]; exact h.closed ho x (hmem x hx)) (by intro hc; simp at hc)
      hc.lines.symm rfl ?_
    show z.present :: z.future = futTexts lb'.lines (g :: fg)
    rw [h.present, h.future]
    simp only [futTexts, hback]

/-- `lbuf_redo` at a command boundary: `hinv_redo` and the zipper's move (`Zipper.redo`, spelt out) -/
theorem inv_redo {T0 lb z pg fg} (h : Inv T0 lb z pg fg) (ho : z.open_ = false) :
    (fg = [] ∧ z.future = [] ∧ redo lb = some (1, lb)) ∨
    (∃ g fs n nt lb', fg = g :: fs ∧ z.future = n :: nt ∧ redo lb = some (0, lb') ∧ lb'.lines = n ∧
      lb'.useq = lb.useq ∧ Inv T0 lb' ⟨z.present :: z.past, n, nt, false⟩ (g :: pg) fs) := by
  rcases hinv_redo (hinv_of_inv h) with ⟨rfl, hu⟩ | ⟨g, fs, lb', rfl, hu, hus, hc⟩
  · exact Or.inl ⟨rfl, by rw [h.future]; rfl, hu⟩
  · right
    have hnew : applyFwd lb.lines g.2 = lb'.lines := by
      rw [hc.lines, h.lines, ← applyFwd_append]; simp
    have hmem : ∀ x, x ∈ g :: pg ++ fs → x ∈ pg ++ g :: fs := by
      intro x hx
      simp only [List.mem_append, List.mem_cons] at hx ⊢
      rcases hx with (hx | hx) | hx
      · exact Or.inr (Or.inl hx)
      · exact Or.inl hx
      · exact Or.inr (Or.inr hx)
    refine ⟨g, fs, applyFwd lb.lines g.2, futTexts (applyFwd lb.lines g.2) fs, lb', rfl, by rw [h.future]; rfl, hu,
      hnew.symm, hus, ?_⟩
    refine Inv.ofH hc (fun _ x hx => by rw [hus]; exact h.closed ho x (hmem x hx)) (by intro hc; simp at hc)
      hnew ?_ ?_
    · show z.present :: z.past = pastTexts T0 (g :: pg)
      rw [h.present, h.past, h.lines]; rfl
    · show futTexts (applyFwd lb.lines g.2) fs = futTexts lb'.lines fs
      rw [hnew]

end Neatvi.Lemmas.Hist
