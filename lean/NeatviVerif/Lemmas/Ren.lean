import NeatviVerif.Model.Ren
import NeatviVerif.Lemmas.Tables
import NeatviVerif.Lemmas.Utf8
/-! Helper lemmas for C17: sequences of array writes (`writes`; `writes_get_of_mem` is the rule, `writes_get` its
reading for distinct positions); `steps_strict`: a sequence that grows at every step increases; the two loops of
`ren_position_reorder`; `layout_length`; and `ren_off` as a fold. -/
namespace Neatvi.Ren
open Neatvi

/-! ### array writes -/
def writes {α : Type} (a : List α) (xs : List (Nat × α)) : List α :=
  xs.foldl (fun a x => a.set x.1 x.2) a

@[simp] theorem writes_nil {α : Type} (a : List α) : writes a [] = a := rfl
@[simp] theorem writes_cons {α : Type} (a : List α) (x : Nat × α) (xs : List (Nat × α)) :
    writes a (x :: xs) = writes (a.set x.1 x.2) xs := rfl

@[simp] theorem writes_length {α : Type} (a : List α) (xs : List (Nat × α)) : (writes a xs).length = a.length := by
  induction xs generalizing a with
  | nil => rfl
  | cons x xs ih => simp [ih]

theorem writes_get_of_not_mem {α : Type} (a : List α) (xs : List (Nat × α)) (j : Nat)
    (h : j ∉ xs.map (·.1)) : (writes a xs)[j]? = a[j]? := by
  induction xs generalizing a with
  | nil => rfl
  | cons x xs ih =>
    simp at h
    rw [writes_cons, ih _ (by simpa using h.2)]
    rw [List.getElem?_set_ne (by omega)]

theorem writes_get_of_mem {α : Type} (a : List α) (xs : List (Nat × α)) (k : Nat) (v : α) (hk : k < a.length)
    (hex : ∃ x ∈ xs, x.1 = k) (hv : ∀ x ∈ xs, x.1 = k → x.2 = v) : (writes a xs)[k]? = some v := by
  induction xs generalizing a with
  | nil => obtain ⟨_, hx, _⟩ := hex; cases hx
  | cons x xs ih =>
    rw [writes_cons]
    by_cases h : ∃ y ∈ xs, y.1 = k
    · exact ih _ (by rw [List.length_set]; exact hk) h (fun y hy => hv y (List.mem_cons_of_mem _ hy))
    · have hx : x.1 = k := by
        obtain ⟨y, hy, e⟩ := hex
        rcases List.mem_cons.mp hy with rfl | hy
        · exact e
        · exact absurd ⟨y, hy, e⟩ h
      rw [writes_get_of_not_mem _ _ _ (by simpa using h), ← hx, List.getElem?_set_self (by rw [hx]; exact hk),
        hv x List.mem_cons_self hx]

theorem writes_get {α : Type} (a : List α) (xs : List (Nat × α)) (hnd : (xs.map (·.1)).Nodup)
    (k : Nat) (hk : k < xs.length) (hlt : (xs[k]).1 < a.length) :
    (writes a xs)[(xs[k]).1]? = some (xs[k]).2 := by
  apply writes_get_of_mem a xs _ _ hlt ⟨_, List.getElem_mem hk, rfl⟩
  intro x hx he
  obtain ⟨j, hj, rfl⟩ := List.getElem_of_mem hx
  have h1 := hnd.idxOf_getElem j (by simpa using hj)
  have h2 := hnd.idxOf_getElem k (by simpa using hk)
  simp only [List.getElem_map] at h1 h2
  have : j = k := by rw [← h1, he, h2]
  subst this; rfl

theorem steps_strict {f : Nat → Nat} {n : Nat} (h : ∀ i, i < n → f i < f (i + 1)) :
    ∀ i j, i < j → j ≤ n → f i < f j := by
  intro i j hij hj
  induction j with
  | zero => omega
  | succ j ih =>
    by_cases e : i = j
    · subst e; exact h i (by omega)
    · exact Nat.lt_trans (ih (by omega) (by omega)) (h j (by omega))

/-! ### the two loops of `ren_position_reorder` -/
def invStep (pos : List Nat) (n : Nat) (acc : Option (List (Option Nat))) (i : Nat) : Option (List (Option Nat)) := do
  let a ← acc
  let p ← pos[i]?
  if p < n then some (a.set p (some i)) else none

theorem invert_eq_foldl (pos : List Nat) (n : Nat) :
    invert pos n = (List.range n).foldl (invStep pos n) (some (List.replicate n none)) := rfl

theorem invert_go (pos : List Nat) (n : Nat) (is : List Nat) (a : List (Option Nat))
    (h : ∀ i ∈ is, ∃ p, pos[i]? = some p ∧ p < n) :
    is.foldl (invStep pos n) (some a) = some (writes a (is.map (fun i => (pos.getD i 0, some i)))) := by
  induction is generalizing a with
  | nil => rfl
  | cons i is ih =>
    obtain ⟨p, hp, hlt⟩ := h i (by simp)
    simp only [List.foldl_cons, List.map_cons, writes_cons]
    have : invStep pos n (some a) i = some (a.set p (some i)) := by
      simp [invStep, hp, hlt]
    rw [this, ih _ (fun j hj => h j (by simp [hj]))]
    have : pos.getD i 0 = p := by simp [List.getD, hp]
    rw [this]

/-- the visual order: `vis[v]` is the logical index shown at visual index `v` -/
def visOf (ord : List Nat) (n : Nat) : List Nat := (List.range n).map (fun v => ord.idxOf v)

theorem invert_perm (ord : List Nat) (n : Nat) (hl : ord.length = n) (hnd : ord.Nodup) (hlt : ∀ v ∈ ord, v < n)
    (hsurj : ∀ v, v < n → v ∈ ord) :
    invert ord n = some ((visOf ord n).map some) := by
  rw [invert_eq_foldl, invert_go]
  · congr 1
    apply List.ext_getElem?
    intro v
    by_cases hv : v < n
    · have hmem := hsurj v hv
      have hk : ord.idxOf v < ord.length := List.idxOf_lt_length_of_mem hmem
      have hget : ord[ord.idxOf v] = v := List.getElem_idxOf hk
      let xs := (List.range n).map (fun i => (ord.getD i 0, some i))
      have hxl : xs.length = n := by simp [xs]
      have hk' : ord.idxOf v < xs.length := by omega
      have hxk : xs[ord.idxOf v] = (v, some (ord.idxOf v)) := by
        simp only [xs, List.getElem_map, List.getElem_range]
        have : ord.getD (ord.idxOf v) 0 = v := by
          rw [List.getD_eq_getElem?_getD, List.getElem?_eq_getElem hk, hget]; rfl
        rw [this]
      have hnd' : (xs.map (·.1)).Nodup := by
        have : xs.map (·.1) = ord := by
          apply List.ext_getElem (by simp [xs, hl])
          intro i h1 h2
          simp only [xs, List.map_map, List.getElem_map, List.getElem_range, Function.comp]
          rw [List.getD_eq_getElem?_getD, List.getElem?_eq_getElem h2]; rfl
        rw [this]; exact hnd
      have := writes_get (List.replicate n none) xs hnd' (ord.idxOf v) hk' (by rw [hxk]; simpa using hv)
      rw [hxk] at this
      simp only [] at this
      rw [this]
      simp [visOf, hv]
    · have h1 : (writes (List.replicate n none) ((List.range n).map (fun i => (ord.getD i 0, some i))))[v]? = none := by
        apply List.getElem?_eq_none; simp; omega
      have h2 : ((visOf ord n).map some)[v]? = none := by
        apply List.getElem?_eq_none; simp [visOf]; omega
      rw [h1, h2]
  · intro i hi
    have hi' : i < n := by simpa using hi
    refine ⟨ord[i]'(by omega), List.getElem?_eq_getElem (by omega), hlt _ (List.getElem_mem _)⟩

theorem assign_eq (cs : List Bytes) (vis : List Nat) (pos : List (Option Nat)) (cpos : Nat)
    (h : ∀ k ∈ vis, k < cs.length) :
    assign cs (vis.map some) pos cpos =
      some (writes pos (vis.zip ((layout (vis.map (fun k => cs.getD k [])) cpos).map some)),
            layoutEnd (vis.map (fun k => cs.getD k [])) cpos) := by
  induction vis generalizing pos cpos with
  | nil => rfl
  | cons k vis ih =>
    have hk := h k (by simp)
    simp only [List.map_cons, assign, layout, layoutEnd, List.zip_cons_cons, writes_cons]
    rw [List.getElem?_eq_getElem hk]
    simp only []
    have : cs.getD k [] = cs[k] := by
      rw [List.getD_eq_getElem?_getD, List.getElem?_eq_getElem hk]; rfl
    rw [this]
    exact ih _ _ (fun j hj => h j (by simp [hj]))

theorem layout_length (cs : List Bytes) (col : Nat) : (layout cs col).length = cs.length := by
  induction cs generalizing col with
  | nil => rfl
  | cons c r ih => simp [layout, ih]

/-! ### the fold of `ren_off` -/

/-- the fold step of `ren_off` (`Lemmas.C19c.offStep` is another thing: the loop body of `offTable`) -/
def offStep (pos : List Nat) (v : Int) (o : Option Nat) (j : Nat) : Option Nat :=
  if (pos.getD j 0 : Int) == v then some j else o

theorem renOffT_eq (pos : List Nat) (n : Nat) (p : Int) :
    renOffT pos n p = ((List.range n).foldl (offStep pos (posPrev pos n p true)) none).getD 0 := rfl

end Neatvi.Ren
