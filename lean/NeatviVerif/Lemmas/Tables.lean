import NeatviVerif.Model.Uc
import NeatviVerif.Spec.Layout
/-! Bisection over sorted disjoint range tables equals linear membership. -/
namespace Neatvi.Uc
open Neatvi Neatvi.Spec

def sortedDisj : Tab → Bool
  | [] => true
  | [a] => a.1 ≤ a.2
  | a :: b :: r => a.1 ≤ a.2 && a.2 < b.1 && sortedDisj (b :: r)

theorem sorted_row {t : Tab} (hs : sortedDisj t = true) : ∀ i (hi : i < t.length), (t[i]).1 ≤ (t[i]).2 := by
  induction t with
  | nil => intro i hi; simp at hi
  | cons a r ih =>
    intro i hi
    cases r with
    | nil =>
      have : i = 0 := by simp at hi; omega
      subst this; simpa [sortedDisj] using hs
    | cons b r' =>
      simp [sortedDisj] at hs
      cases i with
      | zero => exact hs.1.1
      | succ i' => exact ih hs.2 i' (by simp at hi ⊢; omega)

theorem sorted_lt {t : Tab} (hs : sortedDisj t = true) : ∀ i j (hi : i < j) (hj : j < t.length),
    (t[i]'(by omega)).2 < (t[j]).1 := by
  induction t with
  | nil => intro i j hi hj; simp at hj
  | cons a r ih =>
    intro i j hi hj
    cases r with
    | nil => simp at hj; omega
    | cons b r' =>
      have hs' := hs
      simp [sortedDisj] at hs
      obtain ⟨⟨h1, h2⟩, h3⟩ := hs
      have ihr := ih h3
      cases i with
      | zero =>
        cases j with
        | zero => omega
        | succ j' =>
          cases j' with
          | zero => simpa using h2
          | succ j'' =>
            have := ihr 0 (j'' + 1) (by omega) (by simp at hj ⊢; omega)
            have hb := sorted_row h3 0 (by simp)
            simp at this hb ⊢; omega
      | succ i' =>
        cases j with
        | zero => omega
        | succ j' =>
          have := ihr i' j' (by omega) (by simp at hj ⊢; omega)
          simpa using this

def InRow (c : Nat) (r : Nat × Nat) : Prop := r.1 ≤ c ∧ c ≤ r.2

theorem bis_iff {t : Tab} (hs : sortedDisj t = true) (c : Nat) :
    ∀ fuel l h, h ≤ t.length → h - l ≤ fuel →
      (bis t c fuel l h = true ↔ ∃ i, ∃ (hi : i < t.length), l ≤ i ∧ i < h ∧ InRow c t[i]) := by
  intro fuel
  induction fuel with
  | zero =>
    intro l h _ hf
    simp only [bis]
    constructor
    · intro hh; cases hh
    · rintro ⟨i, _, h1, h2, _⟩; omega
  | succ f ih =>
    intro l h hh hf
    simp only [bis]
    by_cases hlh : l < h
    · simp only [hlh, if_true]
      have hm1 : l ≤ (l + h - 1) / 2 := by omega
      have hm2 : (l + h - 1) / 2 < h := by omega
      generalize (l + h - 1) / 2 = m at hm1 hm2 ⊢
      have hmlen : m < t.length := by omega
      rw [List.getElem?_eq_getElem hmlen]
      simp only []
      by_cases hin : (t[m]).1 ≤ c ∧ c ≤ (t[m]).2
      · have : ((t[m]).1 ≤ c && c ≤ (t[m]).2) = true := by simp [hin]
        simp only [this, if_true, true_iff]
        exact ⟨_, hmlen, hm1, hm2, hin⟩
      · have : ((t[m]).1 ≤ c && c ≤ (t[m]).2) = false := by
          simp only [Bool.and_eq_false_iff, decide_eq_false_iff_not]
          by_cases h1 : (t[m]).1 ≤ c
          · right; intro h2; exact hin ⟨h1, h2⟩
          · left; exact h1
        simp only [this, Bool.false_eq_true, if_false]
        by_cases hlt : c < (t[m]).1
        · simp only [hlt, if_true]
          rw [ih l _ (by omega) (by omega)]
          constructor
          · rintro ⟨i, hi, h1, h2, h3⟩; exact ⟨i, hi, h1, by omega, h3⟩
          · rintro ⟨i, hi, h1, h2, h3⟩
            refine ⟨i, hi, h1, ?_, h3⟩
            by_cases him : i < m
            · exact him
            · exfalso
              by_cases heq : i = m
              · subst heq; exact hin h3
              · have := sorted_lt hs (m) i (by omega) hi
                have hr := sorted_row hs _ hmlen
                unfold InRow at h3; omega
        · simp only [hlt, if_false]
          rw [ih _ h hh (by omega)]
          have hgt : (t[m]).2 < c := by
            by_cases h2 : c ≤ (t[m]).2
            · exact absurd ⟨by omega, h2⟩ hin
            · omega
          constructor
          · rintro ⟨i, hi, h1, h2, h3⟩; exact ⟨i, hi, by omega, h2, h3⟩
          · rintro ⟨i, hi, h1, h2, h3⟩
            refine ⟨i, hi, ?_, h2, h3⟩
            by_cases him : m < i
            · omega
            · exfalso
              by_cases heq : i = m
              · subst heq; exact hin h3
              · have := sorted_lt hs i (m) (by omega) hmlen
                unfold InRow at h3; omega
    · simp only [hlh, if_false]
      constructor
      · intro hh; cases hh
      · rintro ⟨i, _, h1, h2, _⟩; omega

theorem memTab_iff (c : Nat) (t : Tab) :
    memTab c t = true ↔ ∃ i, ∃ (hi : i < t.length), InRow c t[i] := by
  unfold memTab InRow
  rw [List.any_eq_true]
  constructor
  · rintro ⟨r, hr, h⟩
    obtain ⟨i, hi, rfl⟩ := List.mem_iff_getElem.mp hr
    exact ⟨i, hi, by simpa using h⟩
  · rintro ⟨i, hi, h⟩
    exact ⟨t[i], List.getElem_mem hi, by simpa using h⟩

/-- `find` of uc.c is linear membership, on every sorted table of disjoint ranges -/
theorem find_eq_mem {t : Tab} (hs : sortedDisj t = true) (c : Nat) : find c t = memTab c t := by
  cases t with
  | nil => simp [find, memTab]
  | cons r0 r =>
    simp only [find]
    by_cases hc : c < r0.1
    · simp only [hc, if_true]
      symm
      rw [Bool.eq_false_iff]
      intro hm
      obtain ⟨i, hi, h1, h2⟩ := (memTab_iff c _).mp hm
      cases i with
      | zero => simp at h1; omega
      | succ i' =>
        have := sorted_lt hs 0 (i' + 1) (by omega) hi
        have hr := sorted_row hs 0 (by simp)
        simp at this hr h1; omega
    · simp only [hc, if_false]
      have := bis_iff hs c (r0 :: r).length 0 (r0 :: r).length (Nat.le_refl _) (by omega)
      rw [Bool.eq_iff_iff, this, memTab_iff]
      constructor
      · rintro ⟨i, hi, _, _, h⟩; exact ⟨i, hi, h⟩
      · rintro ⟨i, hi, h⟩; exact ⟨i, hi, Nat.zero_le _, hi, h⟩

theorem dw_sorted : sortedDisj Gen.dwchars = true := by decide +kernel
theorem zw_sorted : sortedDisj Gen.zwchars = true := by decide +kernel
theorem b_sorted : sortedDisj Gen.bchars = true := by decide +kernel

end Neatvi.Uc
