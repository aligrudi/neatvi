import NeatviVerif.Lemmas.UcBits
/-!
# `uc_next`, `uc_slen`, `uc_chr`, `uc_off` on arbitrary byte strings (no UTF-8 validity assumed)

`uc_chr`, `uc_slen` and `uc_off` are used through their recursion equations (`chr_zero`, `chr_nul`, `chr_succ`; `slen_nul`,
`slen_chr`; `off_stop`, `off_step`), never through their fuel.  Everything is declared in `namespace Neatvi.Lemmas.C08`, the last section
in `Neatvi.Lemmas.C13`.
-/
namespace Neatvi.Lemmas.C08
open Neatvi Neatvi.Uc

/-! ### one character -/

theorem contB_ne_zero {b : Nat} (h : contB b = true) : b ≠ 0 := by
  intro h0; subst h0; simp [contB] at h

theorem hd_drop_contRun : ∀ (r : Bytes) (c : Nat), c ≠ 0 → Bytes.hd ((c :: r).drop (contRun r)) ≠ 0 := by
  intro r
  induction r with
  | nil => intro c hc; simpa [contRun] using hc
  | cons b r ih =>
    intro c hc
    unfold contRun
    split
    · rename_i hb
      rw [List.drop_succ_cons]
      exact ih b (contB_ne_zero hb)
    · simpa using hc

theorem ucEnd_lt (c : Nat) (r : Bytes) : ucEnd (c :: r) < (c :: r).length := by
  have := contRun_le r
  have h2 := contRun_le (c :: r)
  simp only [ucEnd, List.length_cons] at *
  split
  · omega
  · split <;> omega

theorem hd_drop_ucEnd (c : Nat) (r : Bytes) (hc : c ≠ 0) : Bytes.hd ((c :: r).drop (ucEnd (c :: r))) ≠ 0 := by
  simp only [ucEnd]
  split
  · simpa using hc
  · split
    · rw [show 1 + contRun r - 1 = contRun r by omega]
      exact hd_drop_contRun r c hc
    · by_cases hb : contB c = true
      · have : contRun (c :: r) = contRun r + 1 := by simp [contRun, hb]
        rw [this, show contRun r + 1 - 1 = contRun r by omega]
        exact hd_drop_contRun r c hc
      · have : contRun (c :: r) = 0 := by simp [contRun, hb]
        rw [this]
        simpa using hc

theorem ucNext_eq (s : Bytes) (h : Bytes.hd s ≠ 0) : ucNext s = ucEnd s + 1 := by
  cases s with
  | nil => simp at h
  | cons c r =>
    unfold ucNext
    have := hd_drop_ucEnd c r (by simpa using h)
    simp [this]

theorem ucNext_pos (s : Bytes) (h : Bytes.hd s ≠ 0) : 0 < ucNext s := by rw [ucNext_eq s h]; omega

theorem ucNext_le (s : Bytes) (h : Bytes.hd s ≠ 0) : ucNext s ≤ s.length := by
  rw [ucNext_eq s h]
  cases s with
  | nil => simp at h
  | cons c r => have := ucEnd_lt c r; omega

/-! ### fuel independence -/

theorem ucSlenF_fuel : ∀ (f g : Nat) (s : Bytes), s.length ≤ f → s.length ≤ g → ucSlenF f s = ucSlenF g s := by
  intro f
  induction f with
  | zero =>
    intro g s hf _
    have : s = [] := List.eq_nil_of_length_eq_zero (Nat.le_zero.mp hf)
    subst this
    cases g <;> simp [ucSlenF]
  | succ f ih =>
    intro g s hf hg
    cases g with
    | zero =>
      have : s = [] := List.eq_nil_of_length_eq_zero (Nat.le_zero.mp hg)
      subst this
      simp [ucSlenF]
    | succ g =>
      simp only [ucSlenF]
      by_cases h0 : Bytes.hd s = 0
      · simp [h0]
      · have hp := ucNext_pos s h0
        rw [ucNext_eq s h0] at hp
        simp only [beq_iff_eq, h0, if_false]
        rw [ih g _ (by simp; omega) (by simp; omega)]

theorem ucChrF_fuel : ∀ (f g : Nat) (s : Bytes) (i off : Nat), s.length ≤ f → s.length ≤ g →
    ucChrF f s i off = ucChrF g s i off := by
  intro f
  induction f with
  | zero =>
    intro g s i off hf _
    have : s = [] := List.eq_nil_of_length_eq_zero (Nat.le_zero.mp hf)
    subst this
    cases g <;> simp [ucChrF]
  | succ f ih =>
    intro g s i off hf hg
    cases g with
    | zero =>
      have : s = [] := List.eq_nil_of_length_eq_zero (Nat.le_zero.mp hg)
      subst this
      simp [ucChrF]
    | succ g =>
      simp only [ucChrF]
      by_cases h0 : Bytes.hd s = 0
      · simp [h0]
      · have hp := ucNext_pos s h0
        simp only [beq_iff_eq, h0, if_false]
        rw [ih g _ _ _ (by simp; omega) (by simp; omega)]

theorem ucOffF_fuel : ∀ (f g : Nat) (s : Bytes) (rem : Nat), s.length ≤ f → s.length ≤ g → ucOffF f s rem = ucOffF g s rem := by
  intro f
  induction f with
  | zero =>
    intro g s rem hf _
    have : s = [] := List.eq_nil_of_length_eq_zero (Nat.le_zero.mp hf)
    subst this
    cases g <;> simp [ucOffF]
  | succ f ih =>
    intro g s rem hf hg
    cases g with
    | zero =>
      have : s = [] := List.eq_nil_of_length_eq_zero (Nat.le_zero.mp hg)
      subst this
      simp [ucOffF]
    | succ g =>
      simp only [ucOffF]
      by_cases h0 : Bytes.hd s = 0
      · simp [h0]
      · have hp := ucNext_pos s h0
        rw [ih g _ _ (by simp; omega) (by simp; omega)]

theorem ucChrF_shift : ∀ (f : Nat) (s : Bytes) (i off : Nat), ucChrF f s (i + 1) (off + 1) = ucChrF f s i off := by
  intro f
  induction f with
  | zero => intro s i off; simp [ucChrF]
  | succ f ih =>
    intro s i off
    simp only [ucChrF]
    rw [ih]
    simp

/-! ### recursion equations -/

theorem slen_nul (s : Bytes) (h : Bytes.hd s = 0) : ucSlen s = 0 := by
  unfold ucSlen
  cases hl : s.length <;> simp [ucSlenF, h]

theorem slen_chr (s : Bytes) (h : Bytes.hd s ≠ 0) : ucSlen s = ucSlen (s.drop (ucNext s)) + 1 := by
  unfold ucSlen
  have hp := ucNext_pos s h
  have hle := ucNext_le s h
  cases hl : s.length with
  | zero => omega
  | succ n =>
    simp only [ucSlenF, beq_iff_eq, h, if_false]
    rw [← ucNext_eq s h]
    rw [ucSlenF_fuel n (s.drop (ucNext s)).length _ (by simp; omega) (Nat.le_refl _)]

theorem off_stop (s : Bytes) (rem : Nat) (h : rem = 0 ∨ Bytes.hd s = 0) : ucOff s rem = 0 := by
  unfold ucOff
  cases hl : s.length with
  | zero => rfl
  | succ n => rcases h with h | h <;> simp [ucOffF, h]

theorem off_step (s : Bytes) (rem : Nat) (hr : 0 < rem) (h : Bytes.hd s ≠ 0) :
    ucOff s rem = ucOff (s.drop (ucNext s)) (rem - ucNext s) + 1 := by
  unfold ucOff
  have hp := ucNext_pos s h
  have hle := ucNext_le s h
  cases hl : s.length with
  | zero => omega
  | succ n =>
    simp only [ucOffF]
    rw [ucOffF_fuel n _ _ _ (by simp; omega) (Nat.le_refl _)]
    simp [hr, h]

theorem chr_zero (s : Bytes) : ucChr s 0 = some 0 := by
  unfold ucChr
  cases s with
  | nil => simp [ucChrF]
  | cons c r => simp [ucChrF]

theorem chr_nul (s : Bytes) (k : Nat) (h : Bytes.hd s = 0) : ucChr s (k + 1) = none := by
  unfold ucChr
  cases s.length <;> simp [ucChrF, h]

theorem chr_succ (s : Bytes) (k : Nat) (h : Bytes.hd s ≠ 0) :
    ucChr s (k + 1) = (ucChr (s.drop (ucNext s)) k).map (· + ucNext s) := by
  unfold ucChr
  have hp := ucNext_pos s h
  have hle := ucNext_le s h
  cases hl : s.length with
  | zero => omega
  | succ n =>
    simp only [ucChrF, beq_iff_eq, h, if_false]
    rw [if_neg (by omega), ucChrF_shift]
    rw [ucChrF_fuel n (s.drop (ucNext s)).length _ _ _ (by simp; omega) (Nat.le_refl _)]

/-! ### offsets within the string -/

theorem chr_some_of_le : ∀ (k : Nat) (s : Bytes), k ≤ ucSlen s → ∃ i, ucChr s k = some i := by
  intro k
  induction k with
  | zero => intro s _; exact ⟨0, chr_zero s⟩
  | succ k ih =>
    intro s hk
    by_cases h0 : Bytes.hd s = 0
    · rw [slen_nul s h0] at hk; omega
    · rw [slen_chr s h0] at hk
      obtain ⟨i, hi⟩ := ih (s.drop (ucNext s)) (by omega)
      exact ⟨i + ucNext s, by rw [chr_succ s k h0, hi]; rfl⟩

theorem chr_le_slen : ∀ (k : Nat) (s : Bytes) (i : Nat), ucChr s k = some i → k ≤ ucSlen s := by
  intro k
  induction k with
  | zero => intro s i _; omega
  | succ k ih =>
    intro s i hi
    by_cases h0 : Bytes.hd s = 0
    · rw [chr_nul s k h0] at hi; cases hi
    · rw [chr_succ s k h0] at hi
      rw [slen_chr s h0]
      cases hc : ucChr (s.drop (ucNext s)) k with
      | none => rw [hc] at hi; cases hi
      | some j => have := ih _ _ hc; omega

theorem chr_le_length : ∀ (k : Nat) (s : Bytes) (i : Nat), ucChr s k = some i → i ≤ s.length := by
  intro k
  induction k with
  | zero => intro s i hi; rw [chr_zero] at hi; cases hi; omega
  | succ k ih =>
    intro s i hi
    by_cases h0 : Bytes.hd s = 0
    · rw [chr_nul s k h0] at hi; cases hi
    · rw [chr_succ s k h0] at hi
      have hle := ucNext_le s h0
      cases hc : ucChr (s.drop (ucNext s)) k with
      | none => rw [hc] at hi; cases hi
      | some j =>
        rw [hc] at hi
        simp only [Option.map_some, Option.some.injEq] at hi
        have := ih _ _ hc
        simp only [List.length_drop] at this
        omega

/-- an offset before the terminator lies strictly inside the string -/
theorem chr_lt_length : ∀ (k : Nat) (s : Bytes) (i : Nat), ucChr s k = some i → k < ucSlen s → i < s.length := by
  intro k
  induction k with
  | zero =>
    intro s i hi hk
    rw [chr_zero] at hi; cases hi
    by_cases h0 : Bytes.hd s = 0
    · rw [slen_nul s h0] at hk; omega
    · cases s with
      | nil => simp at h0
      | cons c r => simp
  | succ k ih =>
    intro s i hi hk
    by_cases h0 : Bytes.hd s = 0
    · rw [chr_nul s k h0] at hi; cases hi
    · rw [chr_succ s k h0] at hi
      rw [slen_chr s h0] at hk
      have hle := ucNext_le s h0
      cases hc : ucChr (s.drop (ucNext s)) k with
      | none => rw [hc] at hi; cases hi
      | some j =>
        rw [hc] at hi
        simp only [Option.map_some, Option.some.injEq] at hi
        have := ih _ _ hc (by omega)
        simp only [List.length_drop] at this
        omega

theorem chr_mono : ∀ (k k' : Nat) (s : Bytes) (i i' : Nat), k ≤ k' → ucChr s k = some i → ucChr s k' = some i' → i ≤ i' := by
  intro k
  induction k with
  | zero => intro k' s i i' _ hi _; rw [chr_zero] at hi; cases hi; omega
  | succ k ih =>
    intro k' s i i' hk hi hi'
    cases k' with
    | zero => omega
    | succ k' =>
      by_cases h0 : Bytes.hd s = 0
      · rw [chr_nul s k h0] at hi; cases hi
      · rw [chr_succ s k h0] at hi
        rw [chr_succ s k' h0] at hi'
        cases hc : ucChr (s.drop (ucNext s)) k with
        | none => rw [hc] at hi; cases hi
        | some j =>
          cases hc' : ucChr (s.drop (ucNext s)) k' with
          | none => rw [hc'] at hi'; cases hi'
          | some j' =>
            rw [hc] at hi; rw [hc'] at hi'
            simp only [Option.map_some, Option.some.injEq] at hi hi'
            have := ih k' _ j j' (by omega) hc hc'
            omega

theorem chr_succ_lt (s : Bytes) (k a b : Nat) (ha : ucChr s k = some a) (hb : ucChr s (k + 1) = some b) :
    a < b ∧ Bytes.hd (s.drop a) ≠ 0 := by
  induction k generalizing s a b with
  | zero =>
    rw [chr_zero] at ha
    cases ha
    by_cases h0 : Bytes.hd s = 0
    · rw [chr_nul s 0 h0] at hb; cases hb
    · rw [chr_succ s 0 h0, chr_zero] at hb
      simp only [Option.map_some, Option.some.injEq] at hb
      exact ⟨by have := ucNext_pos s h0; omega, by simpa using h0⟩
  | succ k ih =>
    by_cases h0 : Bytes.hd s = 0
    · rw [chr_nul s k h0] at ha; cases ha
    · rw [chr_succ s k h0] at ha
      rw [chr_succ s (k + 1) h0] at hb
      simp only [Option.map_eq_some_iff] at ha hb
      obtain ⟨a', ha', rfl⟩ := ha
      obtain ⟨b', hb', rfl⟩ := hb
      obtain ⟨h1, h2⟩ := ih _ _ _ ha' hb'
      refine ⟨by omega, ?_⟩
      rw [Nat.add_comm, ← List.drop_drop]
      exact h2

theorem chr_hd_ne_zero : ∀ (k : Nat) (s : Bytes), k < ucSlen s →
    ∃ j, ucChr s k = some j ∧ Bytes.hd (s.drop j) ≠ 0 := by
  intro k
  induction k with
  | zero =>
    intro s hk
    by_cases h0 : Bytes.hd s = 0
    · rw [slen_nul s h0] at hk; omega
    · exact ⟨0, chr_zero s, by simpa using h0⟩
  | succ k ih =>
    intro s hk
    by_cases h0 : Bytes.hd s = 0
    · rw [slen_nul s h0] at hk; omega
    · rw [slen_chr s h0] at hk
      obtain ⟨j, hj, hh⟩ := ih (s.drop (ucNext s)) (by omega)
      refine ⟨j + ucNext s, by rw [chr_succ s k h0, hj]; rfl, ?_⟩
      rw [Nat.add_comm, ← List.drop_drop]
      exact hh

end Neatvi.Lemmas.C08

namespace Neatvi.Lemmas.C13
open Neatvi Neatvi.Uc

theorem ucChr_le {s : Bytes} {k b : Nat} (h : ucChr s k = some b) : b ≤ s.length := C08.chr_le_length k s b h

theorem ucOff_ge_of_chr {s : Bytes} {k b : Nat} (h : ucChr s k = some b) (x : Nat) : k ≤ ucOff s (b + x) := by
  induction k generalizing s b with
  | zero => exact Nat.zero_le _
  | succ k ih =>
    by_cases h0 : Bytes.hd s = 0
    · rw [C08.chr_nul s k h0] at h; cases h
    · rw [C08.chr_succ s k h0, Option.map_eq_some_iff] at h
      obtain ⟨b', hb', rfl⟩ := h
      have hpos := C08.ucNext_pos s h0
      rw [C08.off_step s _ (by omega) h0, show b' + ucNext s + x - ucNext s = b' + x by omega]
      exact Nat.succ_le_succ (ih hb')

end Neatvi.Lemmas.C13
