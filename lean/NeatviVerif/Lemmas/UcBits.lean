import NeatviVerif.Model.Uc
import NeatviVerif.Spec.Utf8
/-! Byte-level facts about the masks used in `uc.c`, by kernel evaluation over all 256 bytes,
and the arithmetic of `enc`. -/
namespace Neatvi.Uc
open Neatvi Neatvi.Spec

theorem byte_facts : ∀ a : Fin 256,
    ((a.val &&& 0x80 == 0) = decide (a.val < 128)) ∧
    ((a.val &&& 0xc0 == 0xc0) = decide (192 ≤ a.val)) ∧
    ((a.val &&& 0xc0 != 0xc0) = decide (a.val < 192)) ∧
    (contB a.val = decide (128 ≤ a.val ∧ a.val < 192)) ∧
    ((a.val &&& 0x20 == 0) = decide (a.val % 64 < 32)) ∧
    ((a.val &&& 0x10 == 0) = decide (a.val % 32 < 16)) ∧
    ((a.val &&& 0x08 == 0) = decide (a.val % 16 < 8)) := by decide +kernel

theorem ucLen_spec_fin : ∀ a : Fin 256, ucLen a.val = specLen a.val := by decide +kernel

theorem ucLen_spec (b : Nat) (h : b < 256) : ucLen b = specLen b := ucLen_spec_fin ⟨b, h⟩

theorem and80 (a : Nat) (h : a < 256) : (a &&& 0x80 == 0) = decide (a < 128) := (byte_facts ⟨a, h⟩).1
theorem andc0 (a : Nat) (h : a < 256) : (a &&& 0xc0 == 0xc0) = decide (192 ≤ a) := (byte_facts ⟨a, h⟩).2.1
theorem andc0n (a : Nat) (h : a < 256) : (a &&& 0xc0 != 0xc0) = decide (a < 192) := (byte_facts ⟨a, h⟩).2.2.1
theorem contB_eq (a : Nat) (h : a < 256) : contB a = decide (128 ≤ a ∧ a < 192) := (byte_facts ⟨a, h⟩).2.2.2.1
theorem and20 (a : Nat) (h : a < 256) : (a &&& 0x20 == 0) = decide (a % 64 < 32) := (byte_facts ⟨a, h⟩).2.2.2.2.1
theorem and10 (a : Nat) (h : a < 256) : (a &&& 0x10 == 0) = decide (a % 32 < 16) := (byte_facts ⟨a, h⟩).2.2.2.2.2.1
theorem and08 (a : Nat) (h : a < 256) : (a &&& 0x08 == 0) = decide (a % 16 < 8) := (byte_facts ⟨a, h⟩).2.2.2.2.2.2

theorem contRun_le (r : Bytes) : contRun r ≤ r.length := by
  induction r with
  | nil => simp [contRun]
  | cons b r ih => simp only [contRun]; split <;> simp <;> omega

end Neatvi.Uc
