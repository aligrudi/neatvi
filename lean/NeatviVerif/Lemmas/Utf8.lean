import NeatviVerif.Lemmas.Uc
/-!
# The scanning functions of `uc.c` on encoded strings

One step of each scanner over one encoded character (`Chr a t`: a lead byte and its continuation bytes), read off the facts
about arbitrary bytes of `Lemmas/Uc.lean`; then `enc`, `encStr`, `byteOff` as lists of bytes (bounds, ASCII, newline).
-/
namespace Neatvi.Uc
open Neatvi Neatvi.Spec

/-- shape of one encoded character: lead `a`, continuation bytes `t` -/
structure Chr (a : Nat) (t : Bytes) : Prop where
  pos : 0 < a
  lt : a < 256
  lead : a < 128 ∧ t = [] ∨ 192 ≤ a
  tl : ∀ x ∈ t, 128 ≤ x ∧ x < 192

/-- the next character (or the terminator) does not start with a continuation byte -/
def StartOk (r : Bytes) : Prop := ¬ (128 ≤ Bytes.hd r ∧ Bytes.hd r < 192)

theorem startOk_nil : StartOk [] := by simp [StartOk]

theorem enc_chr {c : Nat} (h : ValidCp c) : ∃ a t, enc c = a :: t ∧ Chr a t := by
  obtain ⟨h0, h1⟩ := h
  unfold enc
  split
  · exact ⟨c, [], rfl, ⟨h0, by omega, Or.inl ⟨by omega, rfl⟩, by simp⟩⟩
  split
  · refine ⟨_, _, rfl, ⟨by omega, by omega, Or.inr (by omega), ?_⟩⟩
    intro x hx; simp at hx; omega
  split
  · refine ⟨_, _, rfl, ⟨by omega, by omega, Or.inr (by omega), ?_⟩⟩
    intro x hx; simp at hx; omega
  · refine ⟨_, _, rfl, ⟨by omega, by omega, Or.inr (by omega), ?_⟩⟩
    intro x hx; simp at hx; omega

theorem enc_ne_nil (c : Nat) : enc c ≠ [] := by unfold enc; split <;> (try split) <;> (try split) <;> simp

theorem enc_length_pos (c : Nat) : 0 < (enc c).length := by
  have := enc_ne_nil c; cases h : enc c <;> simp_all

theorem startOk_enc {c : Nat} (h : ValidCp c) (r : Bytes) : StartOk (enc c ++ r) := by
  obtain ⟨a, t, he, hc⟩ := enc_chr h
  rw [he]; simp [StartOk]; intro h1; rcases hc.lead with ⟨h2, _⟩ | h2 <;> omega

theorem startOk_encStr {cs : List Nat} (h : ∀ c ∈ cs, ValidCp c) : StartOk (encStr cs) := by
  cases cs with
  | nil => exact startOk_nil
  | cons c r => rw [encStr_cons]; exact startOk_enc (h c (by simp)) _

theorem contRun_tail (t r : Bytes) (ht : ∀ x ∈ t, 128 ≤ x ∧ x < 192) (hb : ∀ x ∈ t ++ r, x < 256) (hr : StartOk r) :
    contRun (t ++ r) = t.length := by
  induction t with
  | nil =>
    cases r with
    | nil => rfl
    | cons b r' =>
      have hb' : b < 256 := hb b (by simp)
      simp [StartOk] at hr
      simp [contRun, contB_eq b hb']; omega
  | cons x t ih =>
    have hx := ht x (by simp)
    have hx' : x < 256 := by omega
    simp [contRun, contB_eq x hx', hx]
    exact ih (fun y hy => ht y (by simp [hy])) (fun y hy => hb y (by simp at hy ⊢; right; exact hy))

theorem ucEnd_chr {a : Nat} {t r : Bytes} (hc : Chr a t) (hb : ∀ x ∈ r, x < 256) (hr : StartOk r) :
    ucEnd (a :: t ++ r) = t.length := by
  simp only [ucEnd, List.cons_append]
  rw [and80 a hc.lt, andc0 a hc.lt]
  rcases hc.lead with ⟨h1, h2⟩ | h1
  · simp [h1, h2]
  · have : ¬ a < 128 := by omega
    simp [this, h1]
    have hb2 : ∀ x ∈ t ++ r, x < 256 := by
      intro x hx; simp at hx; rcases hx with hx | hx
      · have := hc.tl x hx; omega
      · exact hb x hx
    rw [contRun_tail t r hc.tl hb2 hr]

theorem chr_pos {a : Nat} {t : Bytes} (hc : Chr a t) : ∀ x ∈ a :: t, 0 < x := by
  intro x hx; simp at hx; rcases hx with rfl | hx
  · exact hc.pos
  · have := hc.tl x hx; omega

theorem ucNext_chr {a : Nat} {t r : Bytes} (hc : Chr a t) (hb : ∀ x ∈ r, x < 256) (hr : StartOk r) :
    ucNext (a :: t ++ r) = t.length + 1 := by
  rw [Lemmas.C08.ucNext_eq _ (by have := hc.pos; simp only [List.cons_append, Bytes.hd_cons]; omega), ucEnd_chr hc hb hr]

theorem enc_lt {c : Nat} (h : ValidCp c) : ∀ x ∈ enc c, x < 256 := by
  obtain ⟨a, t, he, hc⟩ := enc_chr h
  rw [he]; intro x hx; simp at hx; rcases hx with rfl | hx
  · exact hc.lt
  · have := hc.tl x hx; omega

theorem enc_pos {c : Nat} (h : ValidCp c) : ∀ x ∈ enc c, 0 < x := by
  obtain ⟨a, t, he, hc⟩ := enc_chr h
  rw [he]; exact chr_pos hc

theorem encStr_wf {cs : List Nat} (h : ∀ c ∈ cs, ValidCp c) : Bytes.wf (encStr cs) := by
  induction cs with
  | nil => simp [Bytes.wf]
  | cons c r ih =>
    intro x hx; rw [encStr_cons] at hx; simp at hx; rcases hx with hx | hx
    · exact ⟨enc_pos (h c (by simp)) x hx, enc_lt (h c (by simp)) x hx⟩
    · exact ih (fun d hd => h d (by simp [hd])) x hx

theorem encStr_lt {cs : List Nat} (h : ∀ c ∈ cs, ValidCp c) : ∀ x ∈ encStr cs, x < 256 :=
  fun x hx => (encStr_wf h x hx).2

theorem ucNext_enc {c : Nat} {cs : List Nat} (hc : ValidCp c) (hcs : ∀ d ∈ cs, ValidCp d) :
    ucNext (enc c ++ encStr cs) = (enc c).length := by
  obtain ⟨a, t, he, hch⟩ := enc_chr hc
  rw [he]; simp
  exact ucNext_chr hch (encStr_lt hcs) (startOk_encStr hcs)

theorem ucEnd_enc {c : Nat} {cs : List Nat} (hc : ValidCp c) (hcs : ∀ d ∈ cs, ValidCp d) :
    ucEnd (enc c ++ encStr cs) + 1 = (enc c).length := by
  obtain ⟨a, t, he, hch⟩ := enc_chr hc
  rw [he]; simp
  exact ucEnd_chr hch (encStr_lt hcs) (startOk_encStr hcs)

theorem hd_enc_ne_zero {c : Nat} (hc : ValidCp c) (r : Bytes) : Bytes.hd (enc c ++ r) ≠ 0 := by
  obtain ⟨a, t, he, hch⟩ := enc_chr hc
  rw [he]; simp; have := hch.pos; omega

/-! ### the encoding of a list of code points: lengths, suffixes, the newline at the end -/

theorem length_le_encStr (cs : List Nat) : cs.length ≤ (encStr cs).length := by
  induction cs with
  | nil => simp
  | cons c r ih =>
    rw [encStr_cons, List.length_append, List.length_cons]
    have := enc_length_pos c; omega

theorem encStr_drop_byteOff (cs : List Nat) (k : Nat) : (encStr cs).drop (byteOff cs k) = encStr (cs.drop k) := by
  have e : encStr cs = encStr (cs.take k) ++ encStr (cs.drop k) := by
    rw [← encStr_append, List.take_append_drop]
  unfold byteOff
  rw [e, List.drop_left]

theorem valid_line {w : List Nat} (h : ∀ c ∈ w, ValidCp c) : ∀ c ∈ w ++ [10], ValidCp c := by
  intro c hc
  rcases List.mem_append.mp hc with hc | hc
  · exact h c hc
  · rw [List.mem_singleton.mp hc]; decide

theorem byteOff_add (cs : List Nat) (j d : Nat) :
    byteOff cs (j + d) = byteOff cs j + (encStr ((cs.drop j).take d)).length := by
  unfold byteOff
  rw [List.take_add, encStr_append, List.length_append]

theorem byteOff_mono (cs : List Nat) {j k : Nat} (h : j ≤ k) : byteOff cs j ≤ byteOff cs k := by
  obtain ⟨d, rfl⟩ := Nat.exists_eq_add_of_le h
  rw [byteOff_add]; omega

/-! ### ASCII: a byte below 128 is its own encoding -/

theorem enc_ascii {c : Nat} (h : c < 128) : enc c = [c] := by unfold enc; rw [if_pos h]

theorem encStr_ascii {w : List Nat} (h : ∀ c ∈ w, c < 128) : encStr w = w := by
  induction w with
  | nil => rfl
  | cons c r ih =>
    rw [encStr_cons, enc_ascii (h c (by simp)), ih (fun d hd => h d (by simp [hd]))]; rfl

theorem byteOff_ascii {w : List Nat} (h : ∀ c ∈ w, c < 128) {k : Nat} (hk : k ≤ w.length) : byteOff w k = k := by
  unfold byteOff
  rw [encStr_ascii (fun c hc => h c (List.mem_of_mem_take hc)), List.length_take]; omega

end Neatvi.Uc

namespace Neatvi.Lemmas.C08
open Neatvi Neatvi.Spec

/-! ### the newline byte occurs in an encoding only as the newline character -/

theorem ten_mem_enc {c : Nat} (h : 10 ∈ enc c) : c = 10 := by
  unfold enc at h
  by_cases h1 : c < 0x80
  · rw [if_pos h1] at h
    exact (List.mem_singleton.mp h).symm
  · -- every byte of a longer form is at least `0x80`
    rw [if_neg h1] at h
    by_cases h2 : c < 0x800
    · rw [if_pos h2] at h
      simp only [List.mem_cons, List.not_mem_nil, or_false] at h
      omega
    · rw [if_neg h2] at h
      by_cases h3 : c < 0x10000
      · rw [if_pos h3] at h
        simp only [List.mem_cons, List.not_mem_nil, or_false] at h
        omega
      · rw [if_neg h3] at h
        simp only [List.mem_cons, List.not_mem_nil, or_false] at h
        omega

theorem ten_notin_encStr {cs : List Nat} (h : 10 ∉ cs) : 10 ∉ encStr cs := by
  induction cs with
  | nil => simp
  | cons c r ih =>
    rw [encStr_cons]
    simp only [List.mem_append, not_or]
    simp only [List.mem_cons, not_or] at h
    refine ⟨fun hm => h.1 (ten_mem_enc hm).symm, ih h.2⟩

end Neatvi.Lemmas.C08
