import NeatviVerif.Model.ViCmd
/-!
# Invariants of the programs of the vi layer: one carrier, one walk

`bind_apply` unfolds `>>=` of the vi monad; `bind_ok` and `bind_inv` read it in the two directions (namespace `C07`).

`Pres P m`: a computation that returns normally from a state with `P` ends in a state with `P`.  Every
"`m` keeps X" of the vi layer is this for some `P`: an invariant as it stands (`CountsFit`, `VsOk`, `GoodB b c`), a
frame fact "`m` leaves the projection `π` alone" as `∀ v, Pres (fun s => π s = v) m` (`frame_iff`).
The rules are proved once, and `pres_walk [l₁, …]` follows a `do` block with them.

`Reads π P`: `P` reads the state only through the projection `π`.  `Blind P` is `Reads quiet P`: `P` does not read what
reading keys changes (the key queues, the keymaps, the `unmodelled` flag); the functions that only read keys keep every
such `P`, proved once per function, below.  `CBlind` (cursor and window) and `MBlind` (searching and motions) are `Reads` of
the maps `cquiet`, `mquiet` that blank more; a predicate that reads the state through a projection of its own (the counts,
C05c; `kept`, C19f) is `Blind`, `CBlind`, `MBlind` by `Reads.factor`.
-/
namespace Neatvi.Lemmas.C07
open Neatvi Neatvi.Vi

theorem bind_apply {α β : Type} (m : M α) (f : α → M β) (s : VS) :
    (m >>= f) s = match m s with
      | Res.ok a s' => f a s'
      | Res.eof => Res.eof
      | Res.trap => Res.trap := rfl

theorem pure_apply {α : Type} (a : α) (s : VS) : (pure a : M α) s = Res.ok a s := rfl

theorem bind_assoc {α β γ : Type} (m : M α) (f : α → M β) (g : β → M γ) :
    (m >>= f) >>= g = m >>= fun a => f a >>= g := by
  funext s
  simp only [bind_apply]
  cases m s <;> rfl

theorem bind_ok {α β : Type} (m : M α) (f : α → M β) (s : VS) (a : α) (s1 : VS) (h : m s = Res.ok a s1) :
    (m >>= f) s = f a s1 := by
  rw [bind_apply, h]

theorem bind_inv {α β : Type} (m : M α) (f : α → M β) (s : VS) (b : β) (s' : VS) (h : (m >>= f) s = Res.ok b s') :
    ∃ a s1, m s = Res.ok a s1 ∧ f a s1 = Res.ok b s' := by
  rw [bind_apply] at h
  split at h
  · rename_i a s1 h1; exact ⟨a, s1, h1, h⟩
  · cases h
  · cases h

/-- `vi_read()` hands out a key that `vi_back()` put back, or reads the terminal -/
theorem viRead_cases (s : VS) (c : Int) (s' : VS) (h : viRead s = Res.ok c s') :
    (∃ r, s' = { s with vibuf := r }) ∨ termRead s = Res.ok c s' := by
  unfold viRead at h
  split at h
  · cases h; exact Or.inl ⟨_, rfl⟩
  · exact Or.inr h

end Neatvi.Lemmas.C07

namespace Neatvi.Lemmas.ViPres
open Neatvi Neatvi.Uc Neatvi.Lbuf Neatvi.Ex Neatvi.Mot Neatvi.Vi
open Neatvi.Lemmas.C07 (bind_inv viRead_cases)

/-- partial correctness: a computation that returns normally from a state with `P` returns `a` in a state with `Q a` -/
def Tr {α : Type} (P : VS → Prop) (m : M α) (Q : α → VS → Prop) : Prop :=
  ∀ s a s', P s → m s = Res.ok a s' → Q a s'

/-- a computation that returns normally keeps `P` (a definition of its own, not an abbreviation of `Tr`: the rules of
    the walk then match `Pres P _` syntactically, which is a fifth cheaper; its rules are those of `Tr` at the
    postcondition `fun _ => P`) -/
def Pres {α : Type} (P : VS → Prop) (m : M α) : Prop :=
  ∀ s a s', P s → m s = Res.ok a s' → P s'

theorem pres_iff_tr {α : Type} (P : VS → Prop) (m : M α) : Pres P m ↔ Tr P m (fun _ => P) := Iff.rfl

namespace Tr
variable {P : VS → Prop}

theorem pure {α : Type} {Q : α → VS → Prop} (a : α) (h : ∀ s, P s → Q a s) : Tr P (Pure.pure a : M α) Q := by
  intro s b s' hs e
  cases e
  exact h s hs

theorem bind {α β : Type} {m : M α} {f : α → M β} {R : α → VS → Prop} {Q : β → VS → Prop} (hm : Tr P m R)
    (hf : ∀ a, Tr (R a) (f a) Q) : Tr P (m >>= f) Q := by
  intro s b s' hs h
  obtain ⟨a, s1, h1, h2⟩ := bind_inv _ _ _ _ _ h
  exact hf a _ _ _ (hm _ _ _ hs h1) h2

theorem bind_pres {α β : Type} {m : M α} {f : α → M β} {Q : β → VS → Prop} (hm : Pres P m)
    (hf : ∀ a, Tr P (f a) Q) : Tr P (m >>= f) Q := bind hm hf

theorem conseq {α : Type} {m : M α} {P' : VS → Prop} {Q Q' : α → VS → Prop} (h : Tr P' m Q')
    (hp : ∀ s, P s → P' s) (hq : ∀ a s, Q' a s → Q a s) : Tr P m Q :=
  fun s a s' hs hm => hq a s' (h s a s' (hp s hs) hm)

theorem ite {α : Type} {p : Prop} [Decidable p] {a b : M α} {Q : α → VS → Prop} (ha : Tr P a Q) (hb : Tr P b Q) :
    Tr P (if p then a else b) Q := by
  split <;> assumption

theorem top {α : Type} (m : M α) : Pres (fun _ => True) m := fun _ _ _ _ _ => trivial

theorem bind_top {α β : Type} {m : M α} {f : α → M β} {Q : β → VS → Prop} (hf : ∀ a, Tr (fun _ => True) (f a) Q) :
    Tr (fun _ => True) (m >>= f) Q := bind (top m) hf

theorem trap {α : Type} {Q : α → VS → Prop} : Tr P (Vi.trap : M α) Q := by
  intro s a s' _ h
  cases h

theorem bind_get {β : Type} {f : VS → M β} {Q : β → VS → Prop} (hf : ∀ s0, P s0 → Tr (fun s => s = s0) (f s0) Q) :
    Tr P (Vi.get >>= f) Q :=
  fun s b s' hs h => hf s hs s b s' rfl h

end Tr

namespace Tr
variable {α β : Type} {P P' : VS → Prop} {Q Q' : α → VS → Prop}

theorem pre {φ : Prop} {m : M α} (h : φ → Tr P m Q) : Tr (fun s => φ ∧ P s) m Q :=
  fun s a s' hs hm => h hs.1 s a s' hs.2 hm

theorem repeatM (n : Nat) {m : M Unit} (hm : Tr P m (fun _ => P)) : Tr P (Vi.repeatM n m) (fun _ => P) := by
  induction n with
  | zero => exact pure _ fun _ h => h
  | succ n ih => exact bind hm fun _ => ih

theorem bind_get' {f : VS → M β} {R : β → VS → Prop} (hf : ∀ s0, P s0 → Tr P (f s0) R) : Tr P (Vi.get >>= f) R :=
  fun s b s' hs h => hf s hs s b s' hs h

theorem ite_seq {c : Prop} [Decidable c] {x : M Unit} {k : Unit → M β} {R : β → VS → Prop} (hx : Tr P x (fun _ => P))
    (hk : ∀ u, Tr P (k u) R) : Tr P (if c then x >>= k else k ()) R :=
  ite (bind hx hk) (hk ())

theorem liftO {o : Option α} {φ : α → Prop} (h : ∀ a, o = some a → φ a) : Tr P (Vi.liftO o) (fun a s => φ a ∧ P s) := by
  intro s a s' hs hm
  cases o with
  | none => cases hm
  | some x => cases hm; exact ⟨h _ rfl, hs⟩

theorem pure' {a : α} {φ : α → Prop} (h : φ a) : Tr P (Pure.pure a : M α) (fun a s => φ a ∧ P s) :=
  pure _ fun _ hs => ⟨h, hs⟩

theorem ite_dec {p : Prop} [Decidable p] {a b : M α} (ha : p → Tr P a Q) (hb : ¬ p → Tr P b Q) :
    Tr P (if p then a else b) Q := by
  split
  · exact ha ‹_›
  · exact hb ‹_›

end Tr

theorem frame_iff {α σ : Type} (π : VS → σ) (m : M α) :
    (∀ s a s', m s = Res.ok a s' → π s' = π s) ↔ ∀ v, Pres (fun s => π s = v) m :=
  ⟨fun h _ s a s' hs hm => (h s a s' hm).trans hs, fun h s a s' hm => h (π s) s a s' rfl hm⟩

namespace Pres
variable {P : VS → Prop}

theorem pure {α : Type} (a : α) : Pres P (Pure.pure a : M α) := Tr.pure a fun _ h => h

theorem bind {α β : Type} {m : M α} {f : α → M β} (hm : Pres P m) (hf : ∀ a, Pres P (f a)) :
    Pres P (m >>= f) := Tr.bind hm hf

theorem bind_get {β : Type} {f : VS → M β} (hf : ∀ s0, P s0 → Pres P (f s0)) : Pres P (Vi.get >>= f) :=
  Tr.bind_get' hf

theorem get : Pres P Vi.get := by
  intro s a s' hs h
  cases h
  exact hs

theorem trap {α : Type} : Pres P (Vi.trap : M α) := Tr.trap

theorem modify {f : VS → VS} (hf : ∀ s, P s → P (f s)) : Pres P (Vi.modify f) := by
  intro s a s' hs h
  cases h
  exact hf s hs

theorem withEd {f : Ed → Ed} (hf : ∀ s : VS, P s → P { s with ed := f s.ed }) : Pres P (Vi.withEd f) := modify hf

theorem ite {α : Type} {p : Prop} [Decidable p] {a b : M α} (ha : Pres P a) (hb : Pres P b) :
    Pres P (if p then a else b) := Tr.ite ha hb

/-- `if c then x` without `else`, followed by `k`, in a `do` block: `k` is a local function of the block, called at
    the end of both branches, and is looked at once -/
theorem ite_seq {α : Type} {c : Prop} [Decidable c] {x : M Unit} {k : Unit → M α}
    (hx : Pres P x) (hk : ∀ r, Pres P (k r)) : Pres P (if c then x >>= k else k ()) :=
  ite (bind hx hk) (hk ())

theorem liftO {α : Type} (o : Option α) : Pres P (Vi.liftO o) :=
  fun s a s' hs h => (Tr.liftO (φ := fun _ => True) (fun _ _ => trivial) s a s' hs h).2

theorem repeatM (n : Nat) {m : M Unit} (hm : Pres P m) : Pres P (Vi.repeatM n m) := Tr.repeatM n hm

/-- an update that leaves the projection alone (the side goal is `rfl` when `f` writes fields `π` does not read) -/
theorem modify_proj {σ : Type} {π : VS → σ} {v : σ} {f : VS → VS} (hf : ∀ s, π (f s) = π s) :
    Pres (fun s => π s = v) (Vi.modify f) := modify fun s hs => (hf s).trans hs

theorem withEd_proj {σ : Type} {π : VS → σ} {v : σ} {f : Ed → Ed} (hf : ∀ s : VS, π { s with ed := f s.ed } = π s) :
    Pres (fun s => π s = v) (Vi.withEd f) := modify_proj hf

theorem of_rel {α : Type} {m : M α} (h : ∀ s a s', m s = Res.ok a s' → P s → P s') : Pres P m :=
  fun s a s' hs hm => h s a s' hm hs

theorem weaken {α : Type} {P' : VS → Prop} {m : M α} (h : Pres P' m) (h1 : ∀ s, P s → P' s) (h2 : ∀ s s', P s → P' s' → P s') :
    Pres P m := fun s a s' hs hm => h2 s s' hs (h s a s' (h1 s hs) hm)

end Pres

/-- `pres_walk [l₁, …]` proves `Pres P m` along the text of `m`.  One step tries, in this order: the rules for the text
    itself (`Pres.bind`; `Pres.ite_seq` and `Pres.ite` for an `if` without and with `else`; `intro`; the ends of a block
    `Pres.pure`, `Pres.get`, `Pres.trap`, `Pres.liftO`), which up to reducible unfolding fail at once on a call; then the
    given lemmas `lᵢ` in the order given (a lemma about `P` gets its hypothesis in the list, `counts_setPos hP`, so that
    no side goal is left); then a hypothesis (an induction hypothesis, a side goal about `P`): it compares the goal with
    everything in the context and so stands behind the lemmas; then `rfl` for a side goal `quiet (f s) = quiet s` or
    `π (f s) = π s`; last `dsimp only` (the value of a `let`) and `split` (a `match`), the dear steps. -/
macro "pres_walk" "[" ls:term,* "]" : tactic => `(tactic| repeat' first
  | with_reducible refine Pres.bind ?_ fun _ => ?_
  | with_reducible apply Pres.ite_seq
  | with_reducible apply Pres.ite
  | with_reducible intro _
  | with_reducible exact Pres.pure _
  | with_reducible exact Pres.get
  | with_reducible exact Pres.trap
  | with_reducible exact Pres.liftO _
  $[| with_reducible apply $ls]*
  | with_reducible assumption
  | rfl
  | dsimp only
  | split)

/-! ### predicates that read the state through a projection -/

/-- `P` reads the state only through `π`: it cannot tell two states with the same `π`.  (`m` leaves `π` alone iff it
    keeps every such `P`: `frame_iff` at `P := (π · = v)`, `Pres.of_rel` back.) -/
def Reads {σ : Type} (π : VS → σ) (P : VS → Prop) : Prop := ∀ s s', π s' = π s → P s → P s'

theorem proj_eq {σ : Type} {n : VS → VS} (π : VS → σ) (h : ∀ s, π s = π (n s)) {s s' : VS} (e : n s' = n s) :
    π s' = π s := by
  rw [h s', e, ← h s]

namespace Reads
variable {σ : Type} {π : VS → σ} {P : VS → Prop}

theorem factor (hP : Reads π P) {n : VS → VS} (h : ∀ s, π s = π (n s)) : Reads n P :=
  fun s s' e => hP s s' (proj_eq π h e)

theorem eq (π : VS → σ) (v : σ) : Reads π (fun s => π s = v) := fun _ _ e hs => e.trans hs

theorem of_proj (n : VS → VS) (h : ∀ s, π s = π (n s)) (v : σ) : Reads n (fun s => π s = v) := (eq π v).factor h

theorem modify (hP : Reads π P) {f : VS → VS} (hf : ∀ s, π (f s) = π s) : Pres P (Vi.modify f) :=
  Pres.modify fun s => hP s (f s) (hf s)

theorem withEd (hP : Reads π P) {f : Ed → Ed} (hf : ∀ s : VS, π { s with ed := f s.ed } = π s) : Pres P (Vi.withEd f) :=
  hP.modify hf

end Reads

/-! ### the functions that only read keys -/

/-- the state with what reading keys changes blanked out: the key queues, the keymaps, the `unmodelled` flag -/
def quiet (s : VS) : VS :=
  { s with typed := [], ibuf := [], ibufPos := 0, icmd := [], vibuf := [], xkmap := 0, exKmap := 0, unmodelled := false }

/-- `P` does not read the fields that reading keys changes -/
abbrev Blind (P : VS → Prop) : Prop := Reads quiet P

/-! what reads keys only through `termRead` keeps what `termRead` keeps -/

theorem pres_more_of {P : VS → Prop} (h : Pres P termRead) (k : Nat) (acc : Bytes) : Pres P (readCharS.more k acc) := by
  induction k generalizing acc with
  | zero => exact Pres.pure _
  | succ k ih => unfold readCharS.more; pres_walk [h, ih]

theorem pres_readKey_more_of {P : VS → Prop} (h : Pres P termRead) (k : Nat) : Pres P (readKey.more k) := by
  induction k with
  | zero => exact Pres.pure _
  | succ k ih => unfold readKey.more; pres_walk [ih, h]

theorem pres_readKey_of {P : VS → Prop} (h : Pres P termRead) : Pres P readKey := by
  unfold readKey
  pres_walk [h, pres_readKey_more_of h]

section keys
variable {P : VS → Prop} (hP : Blind P)
include hP

theorem pres_termRead : Pres P termRead := by
  intro s c s' hs h
  refine hP s s' ?_ hs
  unfold termRead at h
  simp only [] at h
  split at h
  · cases h
  · cases h
    split <;> rfl

theorem pres_viRead : Pres P viRead := by
  intro s c s' hs h
  rcases viRead_cases s c s' h with ⟨r, rfl⟩ | h
  · exact hP s _ rfl hs
  · exact pres_termRead hP _ _ _ hs h

theorem pres_termCmd : Pres P termCmd := by
  intro s a s' hs h
  cases h
  exact hP s _ rfl hs

theorem pres_viBack (c : Int) : Pres P (viBack c) := hP.modify fun _ => rfl
theorem pres_termPush (x : Bytes) : Pres P (termPush x) := hP.modify fun _ => rfl
theorem pres_unmodelled : Pres P Vi.unmodelled := hP.modify fun _ => rfl

theorem pres_viYankbuf : Pres P viYankbuf := by
  unfold viYankbuf
  pres_walk [pres_viRead hP, pres_viBack hP]

theorem pres_digits (f : Nat) (n c : Int) : Pres P (viPrefix.digits f n c) := by
  induction f generalizing n c with
  | zero => unfold viPrefix.digits; pres_walk [pres_viBack hP]
  | succ f ih => unfold viPrefix.digits; pres_walk [pres_viRead hP, pres_viBack hP, ih]

theorem pres_viPrefix : Pres P viPrefix := by
  unfold viPrefix
  pres_walk [pres_viRead hP, pres_viBack hP, pres_digits hP]

/-- `led_readkey()` touches only the key queue, like `termRead` -/
theorem pres_readKey : Pres P readKey := pres_readKey_of (pres_termRead hP)

theorem pres_readCharS (c : Int) (kmap : Nat) : Pres P (readCharS c kmap) := by
  unfold readCharS
  pres_walk [pres_readKey hP, pres_termRead hP, pres_more_of (pres_termRead hP)]

theorem pres_viChar_go (f : Nat) : Pres P (viChar.go f) := by
  induction f with
  | zero => exact Pres.pure _
  | succ f ih =>
    unfold viChar.go
    pres_walk [ih, pres_termRead hP, pres_readCharS hP, hP.modify]

theorem pres_viChar : Pres P viChar := pres_viChar_go hP _

/-- the loop of `led_line`, given that the redraw keeps `P` (it moves `xleft` in insert mode) -/
theorem pres_ledLine_go (post : Bytes) (aiMax : Nat) (im pe : Bool)
    (setKmap : Option Nat → M Unit) (getKmap : M Nat) (redraw : Bytes → Bytes → Bytes → M Unit)
    (h1 : ∀ k, Pres P (setKmap k)) (h2 : Pres P getKmap) (h3 : ∀ a b c, Pres P (redraw a b c))
    (f : Nat) (sb ai : Bytes) (c1 : Int) :
    Pres P (ledLine.go post aiMax im pe setKmap getKmap redraw f sb ai c1) := by
  induction f generalizing sb ai c1 with
  | zero => exact Pres.pure _
  | succ f ih =>
    unfold ledLine.go
    pres_walk [ih, h3, pres_termRead hP, h1, pres_readKey hP, pres_readCharS hP, pres_unmodelled hP]

/-- `led_line`, given that `P` survives the `xleft` update of the redraw of insert mode -/
theorem pres_ledLine (pref post ai0 : Bytes) (aiMax : Nat) (im ex : Bool)
    (hl : im = true → ∀ (s : VS) (x : Int), P s → P { s with ed := { s.ed with xleft := x } }) :
    Pres P (ledLine pref post ai0 aiMax im ex) := by
  refine pres_ledLine_go hP _ _ _ _ _ _ _ (fun k => ?_) ?_ (fun a b c => ?_) _ _ _ _
  · refine hP.modify fun s => ?_
    cases ex <;> rfl
  · intro s a s' hs h
    cases h
    exact hs
  · split
    · rename_i hi
      exact Pres.modify fun s hs => hl hi s _ hs
    · exact Pres.pure _

/-- `led_line` outside insert mode (the prompts): the redraw does not move the window -/
theorem pres_ledLine_prompt (pref post ai0 : Bytes) (aiMax : Nat) (ex : Bool) :
    Pres P (ledLine pref post ai0 aiMax false ex) :=
  pres_ledLine hP _ _ _ _ _ _ (fun h => by cases h)

theorem pres_viPrompt (ex : Bool) : Pres P (viPrompt ex) := by
  unfold viPrompt
  pres_walk [pres_ledLine_prompt hP]

theorem pres_viMotionln (row cmd : Int) : Pres P (viMotionln row cmd) := by
  unfold viMotionln
  pres_walk [pres_viRead hP, pres_viBack hP]

end keys

/-! ### the cursor and the window -/

/-- the state with the cursor and the top of the window blanked out too -/
def cquiet (s : VS) : VS := { quiet s with ed := { s.ed with xrow := 0, xoff := 0, xtop := 0 } }

/-- `P` reads neither what reading keys changes nor the cursor (`xrow`, `xoff`) and the top of the window (`xtop`) -/
abbrev CBlind (P : VS → Prop) : Prop := Reads cquiet P

theorem CBlind.blind {P : VS → Prop} (hP : CBlind P) : Blind P := hP.factor fun _ => rfl

section cursor
variable {P : VS → Prop} (hP : CBlind P)
include hP

theorem pres_setPos (r o : Int) : Pres P (setPos r o) := hP.withEd fun _ => rfl
theorem pres_setRow (r : Int) : Pres P (setRow r) := hP.withEd fun _ => rfl
theorem pres_setOff (o : Int) : Pres P (setOff o) := hP.withEd fun _ => rfl
theorem pres_setTop (t : Int) : Pres P (setTop t) := hP.withEd fun _ => rfl

theorem pres_viNextline : Pres P viNextline := hP.withEd fun _ => by
  split <;> rfl

theorem pres_viNextlineR : Pres P viNextlineR := by
  unfold viNextlineR
  refine Pres.bind Pres.get fun s0 => hP.withEd fun s => ?_
  split <;> rfl

theorem pres_drawfixTop (r : Int) (p : Bool) : Pres P (drawfixTop r p) := by
  unfold drawfixTop
  pres_walk [pres_setTop hP]

theorem pres_scrollForward (cnt : Int) : Pres P (scrollForward cnt) := by
  unfold scrollForward
  pres_walk [hP.withEd]

theorem pres_scrollBackward (cnt : Int) : Pres P (scrollBackward cnt) := by
  unfold scrollBackward
  pres_walk [hP.withEd]

theorem pres_viWfix : Pres P viWfix := by
  unfold viWfix
  pres_walk [pres_setOff hP, hP.withEd]

end cursor

/-! ### insert mode: the line editor and the cursor -/

theorem pres_ledInput_loop {P : VS → Prop} (hc : CBlind P)
    (hl : ∀ pref post ai n im ex, Pres P (ledLine pref post ai n im ex))
    (xai : Bool) (f : Nat) (sb : Bytes) (pref : Option Bytes) (post ai : Bytes) :
    Pres P (ledInput.loop xai f sb pref post ai) := by
  induction f generalizing sb pref post ai with
  | zero => exact Pres.pure _
  | succ f ih =>
    unfold ledInput.loop
    pres_walk [hl, pres_viNextlineR hc, ih, Pres.repeatM]

theorem pres_ledInput {P : VS → Prop} (hc : CBlind P) (hl : ∀ pref post ai n im ex, Pres P (ledLine pref post ai n im ex))
    (pref post : Bytes) : Pres P (ledInput pref post) := by
  unfold ledInput
  pres_walk [pres_ledInput_loop hc hl]

theorem pres_viInput {P : VS → Prop} (hc : CBlind P) (hl : ∀ pref post ai n im ex, Pres P (ledLine pref post ai n im ex))
    (pref post : Bytes) : Pres P (viInput pref post) := by
  unfold viInput
  pres_walk [pres_ledInput hc hl]

/-! ### searching and motions -/

/-- the state with what a motion changes blanked out: what reading keys changes, and the last `f`/`t` character, the
    search offset, the message, the search keyword and the registers (the `|` column is left: `viMotion` assigns it, and
    that one assignment is a hypothesis of `pres_viMotion`) -/
def mquiet (s : VS) : VS :=
  { quiet s with charlast := [], charcmd := 0, soset := false, so := 0, msg := [],
                 ed := { s.ed with xkwd := [], xkwddir := 0, regs := {} } }

/-- `P` reads none of the fields that a motion changes -/
abbrev MBlind (P : VS → Prop) : Prop := Reads mquiet P

theorem MBlind.blind {P : VS → Prop} (hP : MBlind P) : Blind P := hP.factor fun _ => rfl

section motions
variable {P : VS → Prop} (hP : MBlind P)
include hP

theorem pres_setMsg (m : Bytes) : Pres P (setMsg m) := hP.modify fun _ => rfl

theorem pres_viSearch (cmd : Nat) (cnt r o : Int) : Pres P (viSearch cmd cnt r o) := by
  unfold viSearch
  pres_walk [pres_viPrompt hP.blind, pres_setMsg hP, hP.withEd, hP.modify]

/-- a motion, given the one assignment to the `|` column (`vi_pcol = vi_cnt() - 1`, from a state with `P`) -/
theorem pres_viMotion (row off : Int)
    (hc : ∀ s0, P s0 → Pres P (Vi.modify fun s => { s with pcol := cntOf s0 - 1 })) : Pres P (viMotion row off) := by
  unfold viMotion
  refine Pres.bind_get fun s0 hs0 => ?_
  have hc0 := hc s0 hs0
  pres_walk [pres_viRead hP.blind, pres_viMotionln hP.blind, pres_viChar hP.blind, pres_viSearch hP, hc0,
    pres_unmodelled hP.blind, pres_viBack hP.blind, hP.withEd, hP.modify]

end motions

end Neatvi.Lemmas.ViPres
