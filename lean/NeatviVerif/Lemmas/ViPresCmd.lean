import NeatviVerif.Lemmas.ViStages
/-!
# The command switch of `vi()` keeps what the commands it calls keep

The switch is followed in the form `commandTailF` / `cmdSwitch` of `Lemmas/ViStages.lean`, its `fin` (`C09.finRec`) a leaf.
* `OpLeaves P`: what insert mode and the operators are made of; each of them keeps every such `P`.
* `LoopLeaves P`: what `vi()` does around the commands; `markSave`, `viWait`, `vcExecute`, `vcRepeat`, `motionTail` keep every
  such `P`.
* `CmdLeaves P`: `P` is kept by every function the switch calls; `pres_commandTail`: then the switch keeps `P`.  The
  switch is walked here once, for every `P`.
-/
set_option linter.unusedSimpArgs false
set_option linter.unusedVariables false

namespace Neatvi.Lemmas.ViPres
open Neatvi Neatvi.Uc Neatvi.Lbuf Neatvi.Ex Neatvi.Mot Neatvi.Vi
open Neatvi.Lemmas.C09 (finRec)

/-! ### insert mode and the operators, for every predicate -/

/-- `P` does not read the cursor and is kept by the edits of the buffer, the stores into a register and the line
    editor: what insert mode and the operators are made of -/
structure OpLeaves (P : VS → Prop) : Prop where
  cur : CBlind P
  edEdit : ∀ t b e, Pres P (edEdit t b e)
  regPut : ∀ k t l, Pres P (regPut k t l)
  ledLine : ∀ pref post ai n im ex, Pres P (ledLine pref post ai n im ex)

section
variable {P : VS → Prop} (h : OpLeaves P)
include h

theorem pres_viYank (r1 o1 r2 o2 : Int) (ln : Bool) : Pres P (viYank r1 o1 r2 o2 ln) := by
  unfold viYank
  pres_walk [h.regPut, pres_setPos h.cur]

theorem pres_viDelete (r1 o1 r2 o2 : Int) (ln : Bool) : Pres P (viDelete r1 o1 r2 o2 ln) := by
  unfold viDelete
  pres_walk [h.regPut, h.edEdit, pres_setPos h.cur]

theorem pres_viChange (r1 o1 r2 o2 : Int) (ln : Bool) : Pres P (viChange r1 o1 r2 o2 ln) := by
  unfold viChange
  pres_walk [h.regPut, pres_setRow h.cur, pres_drawfixTop h.cur, pres_viInput h.cur h.ledLine, h.edEdit, pres_setPos h.cur]

theorem pres_viCase (r1 o1 r2 o2 : Int) (ln : Bool) (cmd : Nat) : Pres P (viCase r1 o1 r2 o2 ln cmd) := by
  unfold viCase
  pres_walk [h.edEdit, pres_setPos h.cur]

theorem pres_viShift_go (r2 dir : Int) (f : Nat) (i : Int) : Pres P (viShift.go r2 dir f i) := by
  induction f generalizing i with
  | zero => exact Pres.pure _
  | succ f ih =>
    unfold viShift.go
    pres_walk [h.edEdit, ih]

theorem pres_viShift (r1 r2 dir : Int) : Pres P (viShift r1 r2 dir) := by
  unfold viShift
  pres_walk [pres_viShift_go h, pres_setPos h.cur]

theorem pres_vcInsert (cmd : Nat) : Pres P (vcInsert cmd) := by
  unfold vcInsert
  pres_walk [pres_setOff h.cur, pres_viNextlineR h.cur, pres_viInput h.cur h.ledLine, h.edEdit]

theorem pres_vcPut (cmd : Nat) : Pres P (vcPut cmd) := by
  unfold vcPut
  pres_walk [pres_unmodelled h.cur.blind, h.edEdit, pres_setRow h.cur, pres_setOff h.cur]

theorem pres_vcJoin : Pres P vcJoin := by
  unfold vcJoin
  pres_walk [h.edEdit, pres_setOff h.cur]

theorem pres_vcReplace : Pres P vcReplace := by
  unfold vcReplace
  pres_walk [pres_viChar h.cur.blind, h.edEdit, pres_setPos h.cur, pres_setOff h.cur]

end

/-- `P` does not read the cursor and is kept by what `vi()` does around the commands: the line editor (a prompt), the
    marks, the pending output, the register of `@`, the sticky column after a motion -/
structure LoopLeaves (P : VS → Prop) : Prop where
  cur : CBlind P
  ledLine : ∀ pref post ai n im ex, Pres P (ledLine pref post ai n im ex)
  markSet : ∀ k r o, Pres P (markSet k r o)
  out : Pres P (Vi.withEd fun ed => { ed with out := [] })
  execReg : ∀ x, Pres P (Vi.modify fun s => { s with execReg := x })
  xcolOff : ∀ r o, Pres P (Vi.modify fun s => { s with xcol := off2col s r o })
  xcolP : Pres P (Vi.modify fun s => { s with xcol := s.pcol })

section
variable {P : VS → Prop} (h : LoopLeaves P)
include h

theorem pres_markSave : Pres P markSave := by
  unfold markSave
  pres_walk [h.markSet]

theorem pres_viWait : Pres P viWait := by
  unfold viWait
  pres_walk [h.ledLine, h.out]

theorem pres_vcExecute : Pres P vcExecute := by
  unfold vcExecute
  pres_walk [pres_viRead h.cur.blind, h.execReg, Pres.repeatM, pres_termPush h.cur.blind]

theorem pres_vcRepeat : Pres P vcRepeat := by
  unfold vcRepeat
  pres_walk [Pres.repeatM, pres_termPush h.cur.blind]

theorem pres_motionTail (mv nrow noff : Int) : Pres P (motionTail mv nrow noff) := by
  unfold motionTail
  pres_walk [pres_markSave h, pres_setRow h.cur, pres_setOff h.cur, h.xcolOff, h.xcolP]

end

/-- `P` is kept by what the command switch does besides insert mode and the operators (`ops`) and what `vi()` does
    around the commands (`loop`) -/
structure CmdLeaves (P : VS → Prop) : Prop where
  ops : OpLeaves P
  loop : LoopLeaves P
  repCmd : ∀ x, Pres P (Vi.modify fun s => { s with repCmd := x })
  scroll : ∀ a, Pres P (Vi.modify fun s => { s with scroll := a })
  setLb : ∀ lb, Pres P (Vi.withEd fun ed => ed.setLb lb)
  xtd : ∀ x, Pres P (Vi.withEd fun ed => { ed with xtd := x })
  lbufModified : Pres P lbufModified
  exCommandV : ∀ ln, Pres P (exCommandV ln)
  vcMotion : ∀ c, Pres P (vcMotion c)

section
variable {P : VS → Prop} (h : CmdLeaves P)
include h

theorem pres_finRec (c k : Int) (mod : Nat) : Pres P (finRec c k mod) := by
  unfold finRec
  pres_walk [pres_termCmd h.ops.cur.blind, h.repCmd, h.ops.regPut]

/-- **the command switch keeps every predicate that the commands keep** -/
theorem pres_commandTail : Pres P commandTail := by
  rw [commandTail_eq]
  unfold commandTailF cmdSwitch
  have hb := h.ops.cur.blind
  have hc := h.ops.cur
  pres_walk [pres_finRec h, pres_viRead hb, h.vcMotion, pres_viBack hb, pres_setOff hc, pres_setTop hc,
    pres_unmodelled hb, h.loop.markSet, pres_scrollForward hc, pres_scrollBackward hc, pres_setRow hc, h.scroll, h.exCommandV,
    h.setLb, pres_setPos hc, h.lbufModified, pres_viPrompt hb, h.ops.regPut, pres_vcInsert h.ops, pres_vcJoin h.ops,
    pres_vcPut h.ops, h.xtd, pres_vcReplace h.ops, pres_vcRepeat h.loop, pres_vcExecute h.loop]

end

end Neatvi.Lemmas.ViPres
