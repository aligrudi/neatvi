import NeatviVerif.Drive.Vi
/-!
# Runs of the vi loop

`iterate n s`: the state after `n` completed iterations of `viStep`.  An invariant is proved for one `viStep` and carried along
`iterate` (`iterate_inv`, `iterate_keeps`) and along the loop of the driver (`loop_inv`: the states it records, and a run that
ends in a trap; `loop_states_inv`).  `runModel` itself starts that loop in `C19f.initState` (`runModel_inv`).
-/
namespace Neatvi.Props.C05c
open Neatvi Neatvi.Vi

/-- the state after `n` successful iterations of the command loop (`none`: the keys ran out inside a
    command, or the model trapped); the driver's `runModel.loop` is this iteration, stopped at `xquit` -/
def iterate : Nat → VS → Option VS
  | 0, s => some s
  | n + 1, s => match viStep s with
    | Res.ok _ s' => iterate n s'
    | _ => none

theorem iterate_succ (n : Nat) (s s1 : VS) (u : Unit) (h : viStep s = Res.ok u s1) :
    iterate (n + 1) s = iterate n s1 := by
  conv => lhs; unfold iterate
  rw [h]

theorem iterate_inv {P H : VS → Prop}
    (step : ∀ (s : VS) (u : Unit) (s' : VS), P s → viStep s = Res.ok u s' → H s' → P s') :
    ∀ (n : Nat) (s₀ s : VS), P s₀ → (∀ k t, 0 < k → k ≤ n → iterate k s₀ = some t → H t) → iterate n s₀ = some s → P s := by
  intro n
  induction n with
  | zero => intro s₀ s h0 _ h; cases h; exact h0
  | succ n ih =>
    intro s₀ s h0 hh h
    cases hst : viStep s₀ with
    | ok u s1 =>
      rw [iterate_succ n s₀ s1 u hst] at h
      have hh1 : ∀ k t, k ≤ n → iterate k s1 = some t → H t := fun k t hk ht =>
        hh (k + 1) t (by omega) (by omega) (by rw [iterate_succ k s₀ s1 u hst]; exact ht)
      exact ih s1 s (step s₀ u s1 h0 hst (hh1 0 s1 (by omega) rfl)) (fun k t _ => hh1 k t) h
    | eof => unfold iterate at h; rw [hst] at h; cases h
    | trap => unfold iterate at h; rw [hst] at h; cases h

theorem iterate_keeps {P : VS → Prop} (step : ∀ (s : VS) (u : Unit) (s' : VS), P s → viStep s = Res.ok u s' → P s')
    (n : Nat) (s₀ s : VS) (h0 : P s₀) (h : iterate n s₀ = some s) : P s :=
  iterate_inv (H := fun _ => True) (fun s u s' hs hm _ => step s u s' hs hm) n s₀ s h0 (fun _ _ _ _ _ => trivial) h

open Neatvi.Drive.ViD in
theorem loop_states_mem (n : Nat) : ∀ (f : Nat) (s : VS) (bds : List Bd) (sts : List VS) (um : Option Nat) (t : VS),
    (0 < f ∧ t = s) ∨ t ∈ sts → t ∈ (runModel.loop n f s bds sts um).states := by
  intro f
  induction f with
  | zero =>
    intro s bds sts um t ht
    unfold runModel.loop
    exact List.mem_reverse.mpr (ht.resolve_left (fun h => absurd h.1 (Nat.lt_irrefl 0)))
  | succ f ih =>
    intro s bds sts um t ht
    have hm : t ∈ (s :: sts).reverse :=
      List.mem_reverse.mpr (ht.elim (fun h => h.2 ▸ List.mem_cons_self) (List.mem_cons_of_mem _))
    unfold runModel.loop
    dsimp only
    split
    · split
      · exact hm
      · exact ih _ _ _ _ t (Or.inr (List.mem_reverse.mp hm))
    · exact hm
    · exact hm

open Neatvi.Drive.ViD in
/-- **the loop of the driver**: a predicate `P` that an iteration keeps unless the editor is quitting, given `H` of the
    state it starts from, holds of every state the loop records (beyond those it was handed), when these have `H`; and a
    run that ends in a trap has recorded a state with `P` and `H` from which an iteration traps -/
theorem loop_inv {P H : VS → Prop}
    (hstep : ∀ (s : VS) (u : Unit) (s' : VS), P s → H s → viStep s = Res.ok u s' → s'.ed.xquit = false → P s') (n : Nat) :
    ∀ (f : Nat) (s : VS) (bds : List Bd) (sts : List VS) (um : Option Nat),
    P s → (∀ t ∈ (runModel.loop n f s bds sts um).states, H t) →
      (∀ t ∈ (runModel.loop n f s bds sts um).states, t ∈ sts ∨ P t) ∧
      ((runModel.loop n f s bds sts um).fin = End.trap → ∃ t, P t ∧ H t ∧ viStep t = Res.trap) := by
  intro f
  induction f with
  | zero =>
    intro s bds sts um hs hh
    unfold runModel.loop
    exact ⟨fun t ht => Or.inl (List.mem_reverse.mp ht), fun h => by cases h⟩
  | succ f ih =>
    intro s bds sts um hs hh
    have hHs : H s := hh s (loop_states_mem n _ _ _ _ _ s (Or.inl ⟨Nat.succ_pos f, rfl⟩))
    have hall : ∀ t ∈ (s :: sts).reverse, t ∈ sts ∨ P t := fun t ht =>
      (List.mem_cons.mp (List.mem_reverse.mp ht)).elim (fun e => Or.inr (e ▸ hs)) Or.inl
    unfold runModel.loop at hh ⊢
    dsimp only at hh ⊢
    cases hst : viStep s with
    | ok u s' =>
      rw [hst] at hh
      dsimp only at hh ⊢
      by_cases hq : s'.ed.xquit = true
      · rw [if_pos hq]; exact ⟨hall, fun h => by cases h⟩
      · rw [if_neg hq] at hh ⊢
        obtain ⟨h1, h2⟩ := ih s' _ _ _ (hstep s u s' hs hHs hst (by simpa using hq)) hh
        exact ⟨fun t ht => (h1 t ht).elim (fun hm => hall t (List.mem_reverse.mpr hm)) Or.inr, h2⟩
    | eof => exact ⟨hall, fun h => by cases h⟩
    | trap => exact ⟨hall, fun _ => ⟨s, hs, hHs, hst⟩⟩

open Neatvi.Drive.ViD in
theorem loop_states_inv {P : VS → Prop}
    (hstep : ∀ (s : VS) (u : Unit) (s' : VS), P s → viStep s = Res.ok u s' → s'.ed.xquit = false → P s') (n : Nat)
    (f : Nat) (s : VS) (bds : List Bd) (sts : List VS) (um : Option Nat)
    (hs : P s) (hst : ∀ t ∈ sts, P t) (t : VS) (ht : t ∈ (runModel.loop n f s bds sts um).states) : P t :=
  ((loop_inv (H := fun _ => True) (fun s u s' h _ => hstep s u s' h) n f s bds sts um hs (fun _ _ => trivial)).1 t ht).elim
    (hst t) id

end Neatvi.Props.C05c

namespace Neatvi.Lemmas.C19f
open Neatvi Neatvi.Ex Neatvi.Vi

/-- the state `vi()` starts in, as `Drive.ViD.runModel` builds it -/
def initState (file : Option Bytes) (keys : Bytes) (rows cols : Int) : Option VS :=
  let ed0 : Ed := match file with
    | some d => { ({} : Ed).putFile ⟨strOf "fa", d, 1001⟩ with clock := 1001 }
    | none => {}
  match exInit ed0 [strOf "fa"] with
  | none => none
  | some (_, ed) => some (viInit ed keys (rows - 1) cols)

end Neatvi.Lemmas.C19f

namespace Neatvi.Props.C05c
open Neatvi Neatvi.Ex Neatvi.Vi Neatvi.Drive.ViD

/-- **the driver's runs**: `runModel` starts in `initState`, and a predicate that an iteration keeps unless the editor is then
    quitting passes from there to every state it records -/
theorem runModel_inv {file : Option Bytes} {keys : Bytes} {rows cols : Int} {run : Run}
    (h : runModel file keys rows cols = some run) :
    ∃ ed, Lemmas.C19f.initState file keys rows cols = some (viInit ed keys (rows - 1) cols) ∧ ∀ {P : VS → Prop},
      (∀ (s : VS) (u : Unit) (s' : VS), P s → viStep s = Res.ok u s' → s'.ed.xquit = false → P s') →
      P (viInit ed keys (rows - 1) cols) → ∀ t ∈ run.states, P t := by
  unfold runModel at h
  dsimp only at h
  split at h
  · cases h
  · rename_i rc ed he
    cases h
    refine ⟨ed, ?_, fun hstep h0 => loop_states_inv hstep _ _ _ _ _ _ h0 (fun t ht => by cases ht)⟩
    unfold Lemmas.C19f.initState
    cases file <;> (dsimp only at he ⊢; rw [he])

end Neatvi.Props.C05c
