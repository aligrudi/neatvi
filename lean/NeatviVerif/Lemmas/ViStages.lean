import NeatviVerif.Lemmas.ViPres
/-!
# The programs of `vi()` cut into the pieces their walkers use

Every description of `commandTail`, `viPost` or `viStep` (what they keep, that they do not trap, two runs of them, what
a key does) starts from the same cuts; they are here, with the equations that say they are cuts, and nowhere else
(one exception: `C08g.commandTail_g` unfolds `commandTail` itself, since `g` reads its second key inside the switch).

* the command switch: `C09.finRec` (its local `fin`: `term_cmd`, the record for `.`), `ViPres.cmdSwitch c s` (the switch
  proper: the command `c` from the state `s` in which the mark `^` has been set), `ViPres.commandTailF` and
  `commandTail_eq : commandTail = commandTailF`; `commandTail_key`: what `commandTail` is once the key has been read, given
  what the switch does on that key (the per-key lemmas `commandTail_x`, `commandTail_op`, `commandTail_dot_key` … are its
  instances); `C09b.marked` is the state in which the switch runs (the no-trap lemmas
  of C05f call the same function `C05f.markCaret`).
* the end of an iteration: `C07.viPostRest` (`viPost_some`: what follows `vi_wfix()`), and its closed form unless the
  editor is quitting: the assignment of the sticky column (`C19f.postCol`) and of `xleft` (`postLeft`) as one state
  `postState mod s`, then `postEnd` (`viPostRest_run`, `viPostRest_quit`).
* one iteration: `viStep = viPre`, then `C07.stepCont` (the cursor update of a motion, or the switch), then `viPost`
  (`C07.viStep_eq`, `viStep_of_pre`); `C09b.stepMid` is `stepCont` under the name the statements of C09b use.
* `ex_command` called from vi: `C09.exSet` (the `:se` shortcut), then `C09.exTail` (`C09.exCommandV_eq`); `exCommandV_inv` is what a
  run that returns says of its final state, for the one-state walks.
-/
set_option linter.unusedSimpArgs false

namespace Neatvi.Lemmas.C09
open Neatvi Neatvi.Vi Neatvi.Ex

/-- the local `fin` of `commandTail` (the tail of the `switch` of `vi()`): `term_cmd`, and for a
repeatable command the keys are copied to `rep_cmd` and to register `.` -/
def finRec (c k : Int) (mod : Nat) : M (Option Nat) := do
  let cmd ← termCmd
  if isRepeatable c k && cmd.length + 1 < 4096 then
    Vi.modify fun s => { s with repCmd := cmd.takeWhile (· != 0) }
    Vi.modify fun s => { s with repCmd := cmd }
    regPut 46 (cmd.takeWhile (· != 0)) 0
  pure (some mod)

end Neatvi.Lemmas.C09

namespace Neatvi.Lemmas.ViPres
open Neatvi Neatvi.Uc Neatvi.Lbuf Neatvi.Ex Neatvi.Mot Neatvi.Vi
open Neatvi.Lemmas.C09 (finRec)

/-- the switch proper: the command `c`, run in the state `s` in which the mark `^` has just been set -/
def cmdSwitch (c : Int) (s : VS) : M (Option Nat) :=
  let a1 := s.arg1
  if c == 2 then do        -- ^B
    if ← scrollBackward (min (max 1 a1) (lenOf s) * (s.xrows - 1)) then finRec c 0 0 else
    let s ← get
    setOff (indents (lines s) s.ed.xrow)
    finRec c 0 VC_COL
  else if c == 6 then do   -- ^F
    if ← scrollForward (min (max 1 a1) (lenOf s) * (s.xrows - 1)) then finRec c 0 0 else
    let s ← get
    setOff (indents (lines s) s.ed.xrow)
    finRec c 0 VC_COL
  else if c == 5 then do   -- ^E
    if ← scrollForward (max 1 a1) then finRec c 0 0 else
    let s ← get
    setOff (col2off s s.ed.xrow s.xcol)
    finRec c 0 0
  else if c == 25 then do  -- ^Y
    if ← scrollBackward (max 1 a1) then finRec c 0 0 else
    let s ← get
    setOff (col2off s s.ed.xrow s.xcol)
    finRec c 0 0
  else if c == 21 then do  -- ^U
    if s.ed.xrow == 0 then finRec c 0 0 else
    if a1 != 0 then modify fun s => { s with scroll := a1 }
    let s ← get
    let n := if s.scroll != 0 then s.scroll else s.xrows / 2
    setRow (max 0 (s.ed.xrow - n))
    if s.ed.xtop > 0 then setTop (max 0 (s.ed.xtop - n))
    let s ← get
    setOff (indents (lines s) s.ed.xrow)
    finRec c 0 VC_COL
  else if c == 4 then do   -- ^D
    if s.ed.xrow == lenOf s - 1 then finRec c 0 0 else
    if a1 != 0 then modify fun s => { s with scroll := a1 }
    let s ← get
    let n := if s.scroll != 0 then s.scroll else s.xrows / 2
    setRow (min (max 0 (lenOf s - 1)) (s.ed.xrow + n))
    if s.ed.xtop < lenOf s - s.xrows then setTop (min (lenOf s - s.xrows) (s.ed.xtop + n))
    let s ← get
    setOff (indents (lines s) s.ed.xrow)
    finRec c 0 VC_COL
  else if c == 117 || c == 18 then do   -- u / ^R
    match s.ed.lb with
    | none => finRec c 0 0
    | some lb =>
      match (if c == 117 then Lbuf.undo lb else Lbuf.redo lb) with
      | none => trap
      | some (rc, lb') =>
        if rc == 0 then do
          withEd fun ed => ed.setLb lb'
          match jump lb' 94 with
          | some (r, o) => setPos r o
          | none => pure ()
          finRec c 0 VC_WIN
        else do
          withEd fun ed => ed.setLb lb'
          finRec c 0 0
  else if c == 7 then do    -- ^G
    lbufModified
    finRec c 0 0
  else if c == 58 then do   -- :
    match ← viPrompt true with
    | some ln =>
      if ln.isEmpty then finRec c 0 0 else
      let ln := if ln.headD 0 != 58 then 58 :: ln else ln
      let rc ← exCommandV ln
      regPut 58 ln 1
      let s ← get
      if s.ed.xquit then pure none else
      finRec c 0 (if rc == 0 && ln != [58, 119] then VC_ALL else 0)
    | none => finRec c 0 0
  else if c == 99 || c == 100 || c == 121 || c == 33 || c == 62 || c == 60 then do
    let m ← vcMotion c.toNat
    finRec c 0 m
  else if c == 105 || c == 73 || c == 97 || c == 65 || c == 111 || c == 79 then do
    let m ← vcInsert c.toNat
    finRec c 0 m
  else if c == 74 then do let m ← vcJoin; finRec c 0 m
  else if c == 12 then finRec c 0 VC_ALL
  else if c == 109 then do
    let m ← viRead
    if m > 0 && 97 ≤ m && m ≤ 122 then markSet m.toNat s.ed.xrow s.ed.xoff
    finRec c 0 0
  else if c == 112 || c == 80 then do let m ← vcPut c.toNat; finRec c 0 m
  else if c == 122 then do
    let k ← viRead
    if k == 10 then do setTop (if a1 != 0 then a1 else s.ed.xrow); finRec c k 0
    else if k == 46 then do setTop (max 0 ((if a1 != 0 then a1 else s.ed.xrow) - s.xrows / 2)); finRec c k 0
    else if k == 45 then do setTop (max 0 ((if a1 != 0 then a1 else s.ed.xrow) - s.xrows + 1)); finRec c k 0
    else if k == 62 || k == 60 then do
      let td : Int := if k == 62 then 1 else -1
      withEd fun ed => { ed with xtd := td + (if a1 > 1 then td else 0) }
      finRec c k VC_WIN
    else if k == 101 then finRec c k 0
    else if k == 102 then do unmodelled; finRec c k 0
    else if k == 106 || k == 107 || k == 74 || k == 75 || k == 68 then do unmodelled; finRec c k 0
    else finRec c k 0
  else if c == 103 then do
    let k ← viRead
    if k == 126 || k == 117 || k == 85 then do let m ← vcMotion k.toNat; finRec c k m
    else if k == 97 then finRec c k 0
    else if k == 100 || k == 102 || k == 108 then do unmodelled; finRec c k 0
    else finRec c k 0
  else if c == 120 then do viBack 32; let m ← vcMotion 100; finRec c 0 m
  else if c == 88 then do viBack 8; let m ← vcMotion 100; finRec c 0 m
  else if c == 67 then do viBack 36; let m ← vcMotion 99; finRec c 0 m
  else if c == 68 then do viBack 36; let m ← vcMotion 100; finRec c 0 m
  else if c == 114 then do let m ← vcReplace; finRec c 0 m
  else if c == 115 then do viBack 32; let m ← vcMotion 99; finRec c 0 m
  else if c == 83 then do viBack 99; let m ← vcMotion 99; finRec c 0 m
  else if c == 89 then do viBack 121; let m ← vcMotion 121; finRec c 0 m
  else if c == 90 then do
    let k ← viRead
    if k == 90 then do
      let rc ← exCommandV (strOf "x")
      finRec c k (if rc == 0 then VC_WIN else 0)
    else finRec c k 0
  else if c == 126 then do viBack 32; let m ← vcMotion 126; finRec c 0 m
  else if c == 46 then do vcRepeat; finRec c 0 0
  else if c == 64 then do vcExecute; finRec c 0 0
  else if c == 26 || c == 30 || c == 29 || c == 20 || c == 23 || c == 113 then do
    unmodelled; finRec c 0 0
  else pure none

/-- `commandTail` with `fin` lifted out and the switch named -/
def commandTailF : M (Option Nat) := do
  let c ← viRead
  if c ≤ 0 then pure none else
  let s ← get
  markSet 94 s.ed.xrow s.ed.xoff
  let s ← get
  cmdSwitch c s

theorem commandTail_eq : commandTail = commandTailF := by
  unfold commandTail commandTailF cmdSwitch finRec
  rfl

/-- `commandTail` once the key `c` has been read: the mark `^`, then what the switch does on `c` (`hf`: for a literal key
`rfl`, which evaluates the key tests of `cmdSwitch`) -/
theorem commandTail_key (c : Int) (hc : 0 < c) (f : M (Option Nat)) (hf : ∀ t, cmdSwitch c t = f) (s s1 : VS)
    (hk : viRead s = Res.ok c s1) : commandTail s = (do markSet 94 s1.ed.xrow s1.ed.xoff; f : M (Option Nat)) s1 := by
  rw [commandTail_eq]
  unfold commandTailF
  rw [Lemmas.C07.bind_ok _ _ _ _ _ hk, if_neg (Int.not_le.mpr hc)]
  simp only [hf]
  rfl

end Neatvi.Lemmas.ViPres

namespace Neatvi.Lemmas.C09b
open Neatvi Neatvi.Vi Neatvi.Ex

/-- the state after `lbuf_mark(xb, '^', xrow, xoff)` -/
def marked (s : VS) : VS :=
  { s with ed := match s.ed.lb with
      | some lb => s.ed.setLb (Lbuf.setMark lb 94 s.ed.xrow s.ed.xoff)
      | none => s.ed }

end Neatvi.Lemmas.C09b

namespace Neatvi.Lemmas.C07
open Neatvi Neatvi.Uc Neatvi.Lbuf Neatvi.Ex Neatvi.Mot Neatvi.Vi

/-- what `viPost (some mod)` does after `vi_wfix()` -/
def viPostRest (mod : Nat) : M Unit := do
  let s ← get
  if s.ed.xquit then pure () else
  if mod != 0 then modify fun s => { s with xcol := off2col s s.ed.xrow s.ed.xoff }
  let s ← get
  let xcol := s.xcol
  if xcol ≥ s.ed.xleft + s.xcols then withEd fun ed => { ed with xleft := xcol - s.xcols / 2 }
  let s ← get
  if xcol < s.ed.xleft then withEd fun ed => { ed with xleft := if xcol < s.xcols then 0 else xcol - s.xcols / 2 }
  viWait
  lbufModified
  lbufModified

theorem viPost_some (mod : Nat) : viPost (some mod) = (viWfix >>= fun _ => viPostRest mod) := rfl
theorem viPost_none : viPost none = pure () := rfl

/-- the continuation of one iteration once the prefix and the motion have been read -/
def stepCont (mv nrow noff : Int) : M (Option Nat) :=
  if mv > 0 then motionTail mv nrow noff
  else if mv == 0 then commandTail
  else pure (some 0)

theorem viStep_eq : viStep = (viPre >>= fun r => stepCont r.1 r.2.1 r.2.2 >>= viPost) := rfl

theorem viStep_of_pre (s s1 : VS) (mv r o : Int) (h : viPre s = Res.ok (mv, r, o) s1) :
    viStep s = (stepCont mv r o >>= viPost) s1 := by
  unfold viStep
  rw [bind_ok _ _ _ _ _ h]
  rfl

end Neatvi.Lemmas.C07

namespace Neatvi.Lemmas.C09b
open Neatvi Neatvi.Vi Neatvi.Ex

/-- the part of an iteration between `viPre` and `viPost` -/
def stepMid (mv nrow noff : Int) : M (Option Nat) :=
  if mv > 0 then motionTail mv nrow noff
  else if mv == 0 then commandTail
  else pure (some 0)

theorem viStep_eq_mid : viStep = (viPre >>= fun r => stepMid r.1 r.2.1 r.2.2 >>= viPost) := rfl

end Neatvi.Lemmas.C09b

namespace Neatvi.Lemmas.C19f
open Neatvi Neatvi.Uc Neatvi.Lbuf Neatvi.Ex Neatvi.Mot Neatvi.Vi
open Neatvi.Lemmas.C07 (bind_apply viPostRest)

/-- the adjustment of `xleft` at the end of an iteration (vi.c:1848–1851) -/
def postLeft (xcol xleft xcols : Int) : Int :=
  let l1 := if xcol ≥ xleft + xcols then xcol - xcols / 2 else xleft
  if xcol < l1 then (if xcol < xcols then 0 else xcol - xcols / 2) else l1

/-- the sticky column at the end of an iteration: recomputed from the cursor when `mod ≠ 0` -/
def postCol (mod : Nat) (s : VS) : Int := if mod != 0 then off2col s s.ed.xrow s.ed.xoff else s.xcol

/-- `vi_wait(); lbuf_modified(xb); lbuf_modified(xb)` -/
def postEnd : M Unit := viWait >>= fun _ => lbufModified >>= fun _ => lbufModified

/-- the state after the assignments to the sticky column and to `xleft` -/
def postState (mod : Nat) (s : VS) : VS :=
  { s with xcol := postCol mod s, ed := { s.ed with xleft := postLeft (postCol mod s) s.ed.xleft s.xcols } }

theorem viPostRest_run (mod : Nat) (s : VS) (hq : s.ed.xquit = false) :
    viPostRest mod s = postEnd (postState mod s) := by
  unfold viPostRest
  simp only [bind_apply, Vi.get]
  rw [if_neg (ne_true_of_eq_false hq)]
  unfold postState postCol postLeft
  -- the conditions of `postLeft` are those of the two `if`s of the text: each `split` decides both sides
  cases (mod != 0) <;>
  simp only [bind_apply, Vi.get, Vi.modify, Vi.withEd, Bool.false_eq_true, ↓reduceIte] <;>
  split <;> simp only [bind_apply, Vi.get, Vi.modify, Vi.withEd] <;> split <;> rfl

theorem viPostRest_quit (mod : Nat) (s : VS) (hq : s.ed.xquit = true) : viPostRest mod s = Res.ok () s := by
  unfold viPostRest
  simp only [bind_apply, Vi.get, hq, if_true]
  rfl

end Neatvi.Lemmas.C19f

namespace Neatvi.Lemmas.C09
open Neatvi Neatvi.Vi Neatvi.Ex

/-! ### `ex_command` from vi: the `:set` part and the rest -/

def exSet (ln : Bytes) (s : VS) : VS := match setOf ln with
  | some (v, val) =>
    if v == "xai" then { s with xai := val != 0 }
    else if v == "xaw" || v == "xwa" || v == "xic" || v == "xtd" then s
    else { s with unmodelled := true }
  | none => s

def exTail (ln : Bytes) (s : VS) : Res Int :=
  match exCommand 64 { s.ed with out := [], msg := [], input := [], xvis := true } ln with
  | none => Res.trap
  | some (rc, ed) => Res.ok rc { s with ed := ed, unmodelled := s.unmodelled || ed.unmodelled }

theorem exCommandV_eq (ln : Bytes) (s : VS) :
    exCommandV ln s = if exWantsInput ln then Res.ok 1 { s with unmodelled := true }
      else exTail ln (exSet ln s) := by
  unfold exCommandV
  rfl

theorem exSet_eq (ln : Bytes) (s : VS) : ∃ a u, exSet ln s = { s with xai := a, unmodelled := u } := by
  unfold exSet
  (repeat' split) <;> exact ⟨_, _, rfl⟩

/-- `ex_command` from the vi loop, when it returns: it asked for input (not modelled), or `xai` / `unmodelled` have been set and
    `ex_command` has run on `VS.ed` with the output, the message and the input cleared -/
theorem exCommandV_inv {ln : Bytes} {s s' : VS} {rc : Int} (h : exCommandV ln s = Res.ok rc s') :
    s' = { s with unmodelled := true } ∨
    ∃ a u ed, exCommand 64 { s.ed with out := [], msg := [], input := [], xvis := true } ln = some (rc, ed) ∧
      s' = { s with xai := a, ed := ed, unmodelled := u || ed.unmodelled } := by
  rw [exCommandV_eq] at h
  split at h
  · cases h; exact Or.inl rfl
  · obtain ⟨a, u, hs⟩ := exSet_eq ln s
    rw [hs] at h
    unfold exTail at h
    split at h
    · cases h
    · rename_i rc1 ed he
      cases h
      exact Or.inr ⟨a, u, ed, he, rfl⟩

end Neatvi.Lemmas.C09
