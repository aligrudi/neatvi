import NeatviVerif.Lemmas.Basics
import NeatviVerif.Model.LbufIo
/-!
# C01  Write-out equals buffer text; read-then-write reproduces the file byte for byte
-/
namespace Neatvi.Props.C01
open Neatvi Neatvi.Lbuf Neatvi.LbufIo Neatvi.Sbuf

/-- does the string lack a final newline (and is non-empty)? -/
def needNl : Bytes → Bool
  | [] => false
  | [b] => b != 10
  | _ :: r => needNl r

theorem needNl_append (a b : Bytes) : needNl (a ++ b) = if b = [] then needNl a else needNl b := by
  induction a with
  | nil => cases b <;> simp [needNl]
  | cons x a ih =>
    cases a with
    | nil =>
      cases b with
      | nil => simp
      | cons y b => simp [needNl]
    | cons y a =>
      simp only [List.cons_append, needNl] at ih ⊢
      exact ih

theorem needNl_no10 (cur : Bytes) (h : 10 ∉ cur) (hne : cur ≠ []) : needNl cur = true := by
  induction cur with
  | nil => exact absurd rfl hne
  | cons x r ih =>
    cases r with
    | nil => simp [needNl]; intro hx; subst hx; simp at h
    | cons y r =>
      simp only [needNl]
      exact ih (fun hm => h (by simp [hm])) (by simp)

/-- the stored lines, concatenated, are the text read, with one newline appended only when the
    last line lacked one -/
theorem split_join_aux (s cur : Bytes) (h : 10 ∉ cur) :
    (splitAux s cur).flatten = cur ++ s ++ (if needNl (cur ++ s) then [10] else []) := by
  induction s generalizing cur with
  | nil =>
    simp only [splitAux]
    by_cases hc : cur = []
    · subst hc; simp [needNl]
    · simp [hc, needNl_no10 cur h hc]
  | cons b r ih =>
    simp only [splitAux]
    by_cases hb : b = 10
    · subst hb
      simp only [if_true, List.flatten_cons]
      rw [ih [] (by simp)]
      simp only [List.nil_append]
      rw [needNl_append cur (10 :: r)]
      simp only [List.cons_ne_nil, if_false]
      cases r with
      | nil => simp [needNl]
      | cons y r => simp [needNl]; try rfl
    · simp only [hb, if_false]
      rw [ih (cur ++ [b]) (by simp; exact ⟨h, fun h' => hb h'.symm⟩)]
      simp

theorem split_join (s : Bytes) :
    (splitLines s).flatten = s ++ (if needNl s then [10] else []) := by
  have := split_join_aux s [] (by simp)
  simpa [splitLines] using this

/-- a stored line: bytes without newline followed by exactly one newline -/
def WfLine (l : Bytes) : Prop := ∃ w, l = w ++ [10] ∧ 10 ∉ w

theorem lines_wf_aux (s cur : Bytes) (h : 10 ∉ cur) : ∀ l ∈ splitAux s cur, WfLine l := by
  induction s generalizing cur with
  | nil =>
    simp only [splitAux]
    split
    · simp
    · intro l hl; simp at hl; exact ⟨cur, hl, h⟩
  | cons b r ih =>
    simp only [splitAux]
    split
    · intro l hl
      simp at hl
      rcases hl with hl | hl
      · exact ⟨cur, hl, h⟩
      · exact ih [] (by simp) l hl
    · next hb => exact ih (cur ++ [b]) (by simp; exact ⟨h, fun h' => hb h'.symm⟩)

/-- every line the buffer stores ends in exactly one newline and contains no other -/
theorem lines_wf (s : Bytes) : ∀ l ∈ splitLines s, WfLine l := lines_wf_aux s [] (by simp)

theorem splitAux_prefix (w s cur : Bytes) (hw : 10 ∉ w) : splitAux (w ++ s) cur = splitAux s (cur ++ w) := by
  induction w generalizing cur with
  | nil => simp
  | cons x w ih =>
    have hx : x ≠ 10 := fun h => hw (by simp [h])
    simp only [List.cons_append, splitAux, hx, if_false]
    rw [ih (cur ++ [x]) (fun h => hw (by simp [h]))]
    simp

/-- re-splitting the concatenation of stored lines gives the same lines back
    (this is what undo and redo rely on) -/
theorem split_of_join (L : List Bytes) (h : ∀ l ∈ L, WfLine l) : splitLines L.flatten = L := by
  induction L with
  | nil => rfl
  | cons l L ih =>
    obtain ⟨w, hl, hw⟩ := h l (by simp)
    subst hl
    simp only [splitLines, List.flatten_cons, List.append_assoc]
    rw [splitAux_prefix w _ [] hw]
    simp only [List.nil_append, List.singleton_append, splitAux, if_true]
    congr 1
    exact ih (fun l hl => h l (by simp [hl]))

/-! ### sbuf: the read buffer never overflows -/

def SbInv (sb : Sb) : Prop := sb.s.length + 1 ≤ sb.sz ∨ (sb.sz = 0 ∧ sb.s = [])

theorem sbufsz_pow2 : Gen.SBUFSZ = 2 ^ 7 := by decide

theorem alignUp_ge (n : Nat) : n ≤ alignUp n Gen.SBUFSZ := by
  unfold alignUp
  have h : 0 < Gen.SBUFSZ := by decide
  have := Nat.mod_lt (n + Gen.SBUFSZ - 1) h
  omega

theorem mem_ok (sb : Sb) (x : Bytes) (h : SbInv sb) :
    ∃ sb', Sbuf.mem sb x = some sb' ∧ sb'.s = sb.s ++ x ∧ SbInv sb' := by
  unfold Sbuf.mem
  simp only []
  by_cases hc : sb.s.length + x.length + 1 ≥ sb.sz
  · simp only [hc, if_true]
    have h1 := alignUp_ge (max (sb.sz * 2) (sb.sz + (x.length + 1)))
    have h2 : sb.s.length ≤ sb.sz := by rcases h with h | ⟨h, h'⟩ <;> simp_all <;> omega
    have h3 : sb.s.length + x.length + 1 ≤ nextSz sb.sz (x.length + 1) := by unfold nextSz; omega
    rw [if_pos (by omega)]
    exact ⟨_, rfl, rfl, Or.inl (by simp; omega)⟩
  · simp only [hc, if_false]
    rw [if_pos (by omega)]
    exact ⟨_, rfl, rfl, Or.inl (by simp; omega)⟩

theorem rdAcc_ok (chunks : List Bytes) (sb : Sb) (h : SbInv sb) :
    ∃ sb', rdAcc chunks sb = some sb' ∧ sb'.s = sb.s ++ chunks.flatten ∧ SbInv sb' := by
  induction chunks generalizing sb with
  | nil => exact ⟨sb, rfl, by simp, h⟩
  | cons c r ih =>
    obtain ⟨sb1, h1, h2, h3⟩ := mem_ok sb c h
    obtain ⟨sb2, h4, h5, h6⟩ := ih sb1 h3
    refine ⟨sb2, ?_, ?_, h6⟩
    · simp only [rdAcc, h1]; exact h4
    · rw [h5, h2]; simp

theorem buf_ok (sb : Sb) (h : SbInv sb) : Sbuf.buf sb = some sb.s := by
  unfold Sbuf.buf
  simp only []
  rcases h with h | ⟨h1, h2⟩
  · have : sb.sz ≠ 0 := by omega
    simp only [this, if_false]; rw [if_pos (by omega)]
  · simp [h1, h2]

theorem takeWhile_all {α : Type} (p : α → Bool) (s : List α) (h : ∀ x ∈ s, p x = true) : s.takeWhile p = s :=
  Basics.takeWhile_all p s h

theorem setMark_lines (lb : Lb) (c : Nat) (p o : Int) : (setMark lb c p o).lines = lb.lines := by
  unfold setMark; split <;> rfl

theorem opt_lines (lb : Lb) (buf : Option Bytes) (pos n : Nat) : (opt lb buf pos n).lines = lb.lines := rfl

/-- `lbuf_rd`, closed form: the string buffer never overflows, so but for a read error it is `lbuf_edit` of the C string
    the chunks make up -/
theorem rd_eq (lb : Lb) (chunks : List Bytes) (fe : Bool) (b e : Nat) :
    rd lb chunks fe b e =
      if fe then some (1, lb) else (edit lb (some (cstr chunks.flatten)) b e).map (fun l => (0, l)) := by
  obtain ⟨sb, h1, h2, h3⟩ := rdAcc_ok chunks {} (Or.inr ⟨rfl, rfl⟩)
  have hs : sb.s = chunks.flatten := by rw [h2]; rfl
  unfold rd
  simp only [h1, buf_ok sb h3, hs]
  cases fe
  · cases edit lb (some (cstr chunks.flatten)) b e <;> rfl
  · rfl

/-- reading a NUL-free file into an empty buffer, for *any* way the kernel chunks the reads,
    stores exactly the lines of the file and never overflows the string buffer -/
theorem rd_any_chunking (chunks : List Bytes) (s : Bytes) (hs : chunks.flatten = s) (hnul : 0 ∉ s) :
    ∃ lb, rd Lbuf.make chunks false 0 0 = some (0, lb) ∧ lb.lines = splitLines s := by
  have hcstr : cstr s = s := by
    unfold cstr
    apply takeWhile_all
    intro x hx; simp; intro h0; subst h0; exact hnul hx
  rw [rd_eq, hs, hcstr, if_neg Bool.false_ne_true]
  unfold edit
  simp only [Lbuf.make, List.length_nil, Nat.min_self, Nat.lt_irrefl, if_false, Option.isNone_some,
    Bool.and_false, Bool.false_eq_true]
  unfold replace
  simp [setMark_lines, opt_lines]

/-! ### writing -/

/-! for every schedule: as long as no write has failed, what reached the file is what was given -/

theorem writeFully_true : ∀ (fuel : Nat) (buf : Bytes) (sched : List WOut) (w : Bytes) (r : List WOut),
    writeFully fuel buf sched = some (true, w, r) → w = buf := by
  intro fuel
  induction fuel with
  | zero =>
    intro buf sched w r h
    simp only [writeFully] at h
    split at h
    · next hb => cases h; exact hb.symm
    · cases h
  | succ f ih =>
    intro buf sched w r h
    simp only [writeFully] at h
    split at h
    · next hb => cases h; exact hb.symm
    · cases sched with
      | nil => cases h; rfl
      | cons o rest =>
        cases o with
        | err => cases h
        | cnt k =>
          simp only [] at h
          cases h1 : writeFully f (buf.drop (min k buf.length)) rest with
          | none => rw [h1] at h; cases h
          | some res =>
            obtain ⟨ok, w', r'⟩ := res
            rw [h1] at h
            simp only [Option.some.injEq, Prod.mk.injEq] at h
            obtain ⟨hok, hw, _⟩ := h
            subst hok
            have := ih _ _ _ _ h1
            rw [← hw, this]
            exact List.take_append_drop _ _

/-- loop invariant of `lbuf_wr` for arbitrary schedules: as long as no write failed, the bytes
    passed on plus the coalescing buffer are the lines processed -/
def OkInv (done : Bytes) (st : WrState) : Prop :=
  st.ok = true → st.out ++ st.buf = done ∧ st.sz = done.length

theorem flush_inv (fuel : Nat) (st st1 : WrState) (done : Bytes) (h : flush fuel st = some st1)
    (hi : st.out ++ st.buf = done ∧ st.sz = done.length) :
    st1.ok = true → st1.out = done ∧ st1.buf = [] ∧ st1.sz = done.length := by
  unfold flush at h
  cases h1 : writeFully fuel st.buf st.sched with
  | none => rw [h1] at h; cases h
  | some res =>
    obtain ⟨ok, w, r⟩ := res
    rw [h1] at h
    cases h
    intro hok
    cases hok
    cases writeFully_true _ _ _ _ _ h1
    exact ⟨hi.1, rfl, hi.2⟩

theorem direct_inv (fuel : Nat) (st st1 : WrState) (ln : Bytes) (h : direct fuel st ln = some st1) :
    st1.ok = true → st1.out = st.out ++ ln ∧ st1.buf = st.buf ∧ st1.sz = st.sz := by
  unfold direct at h
  cases h1 : writeFully fuel ln st.sched with
  | none => rw [h1] at h; cases h
  | some res =>
    obtain ⟨ok, w, r⟩ := res
    rw [h1] at h
    cases h
    intro hok
    cases hok
    cases writeFully_true _ _ _ _ _ h1
    exact ⟨rfl, rfl, rfl⟩

theorem wrStep_inv (batch fuel : Nat) (done : Bytes) (st st' : WrState) (ln : Bytes)
    (h : wrStep batch fuel st ln = some st') (hi : OkInv done st) : OkInv (done ++ ln) st' := by
  unfold wrStep at h
  cases hok : st.ok with
  | false =>
    simp only [hok, Bool.not_false, if_true, Option.some.injEq] at h
    subst h
    intro h'; rw [hok] at h'; cases h'
  | true =>
    have hi0 := hi hok
    simp only [hok, Bool.not_true, Bool.false_eq_true, if_false] at h
    have s1 : ∀ r, (if (decide (st.buf.length > 0) && decide (st.buf.length + ln.length > batch)) = true
          then flush fuel st else some st) = r →
        r = none ∨ ∃ st1, r = some st1 ∧ (st1.ok = true → st1.out ++ st1.buf = done ∧ st1.sz = done.length ∧
          (ln.length ≥ batch → st1.buf = [])) := by
      intro r hr
      by_cases hc : (decide (st.buf.length > 0) && decide (st.buf.length + ln.length > batch)) = true
      · rw [if_pos hc] at hr
        cases hf : flush fuel st with
        | none => left; rw [← hr, hf]
        | some st1 =>
          right
          refine ⟨st1, by rw [← hr, hf], ?_⟩
          intro h1
          obtain ⟨a, b', c⟩ := flush_inv fuel st st1 done hf hi0 h1
          exact ⟨by rw [a, b']; simp, c, fun _ => b'⟩
      · rw [if_neg hc] at hr
        right
        refine ⟨st, hr.symm, fun _ => ⟨hi0.1, hi0.2, ?_⟩⟩
        intro hbig
        simp only [Bool.and_eq_true, decide_eq_true_eq, not_and] at hc
        cases hb : st.buf with
        | nil => rfl
        | cons x xs =>
          have := hc (by rw [hb]; simp)
          rw [hb] at this; simp at this; omega
    rcases s1 _ rfl with h0 | ⟨st1, h1, hi1⟩
    · rw [h0] at h; cases h
    · rw [h1] at h
      simp only [] at h
      cases hok1 : st1.ok with
      | false =>
        simp only [hok1, Bool.not_false, if_true, Option.some.injEq] at h
        subst h
        intro h'; rw [hok1] at h'; cases h'
      | true =>
        obtain ⟨hb1, hs1, he1⟩ := hi1 hok1
        simp only [hok1, Bool.not_true, Bool.false_eq_true, if_false] at h
        by_cases hbig : ln.length ≥ batch
        · rw [if_pos hbig] at h
          cases hd : direct fuel st1 ln with
          | none => rw [hd] at h; cases h
          | some st2 =>
            rw [hd] at h
            simp only [] at h
            cases hok2 : st2.ok with
            | false =>
              simp only [hok2, Bool.not_false, if_true, Option.some.injEq] at h
              subst h
              intro h'; rw [hok2] at h'; cases h'
            | true =>
              simp only [hok2, Bool.not_true, Bool.false_eq_true, if_false, Option.some.injEq] at h
              subst h
              obtain ⟨a, b', c⟩ := direct_inv fuel st1 st2 ln hd hok2
              intro _
              have he := he1 hbig
              simp only [a, b', c, he, List.append_nil] at hb1 ⊢
              exact ⟨by rw [hb1], by simp [hs1]⟩
        · rw [if_neg hbig] at h
          by_cases hroom : st1.buf.length + ln.length ≤ batch
          · rw [if_pos hroom] at h
            simp only [Bool.not_true, Bool.false_eq_true, if_false, Option.some.injEq] at h
            subst h
            intro _
            exact ⟨by simp only []; rw [← List.append_assoc, hb1], by simp [hs1]⟩
          · rw [if_neg hroom] at h; cases h

theorem wrLoop_inv (batch fuel : Nat) (ls : List Bytes) :
    ∀ (done : Bytes) (st st' : WrState), wrLoop batch fuel ls st = some st' → OkInv done st →
      OkInv (done ++ ls.flatten) st' := by
  induction ls with
  | nil => intro done st st' h hi; simp only [wrLoop, Option.some.injEq] at h; subst h; simpa using hi
  | cons l ls ih =>
    intro done st st' h hi
    simp only [wrLoop] at h
    cases h1 : wrStep batch fuel st l with
    | none => rw [h1] at h; cases h
    | some st1 =>
      rw [h1] at h
      have := ih (done ++ l) st1 st' h (wrStep_inv batch fuel done st st1 l h1 hi)
      simpa using this

/-- for *every* schedule of write outcomes (short counts, zero counts, errors): if the loop of
    `lbuf_wr` and its final flush end without a failed write, the bytes that reached the
    descriptor are exactly the lines and the recorded size is their length -/
theorem wrFinal_exact (lines : List Bytes) (b e batch fuel : Nat) (sched : List WOut) (st : WrState)
    (h : wrFinal lines b e batch fuel sched = some st) (hok : st.ok = true) :
    st.out = ((lines.drop b).take (e - b)).flatten ∧ st.sz = ((lines.drop b).take (e - b)).flatten.length ∧
      e ≤ lines.length := by
  unfold wrFinal at h
  by_cases he : e > lines.length
  · rw [if_pos he] at h; cases h
  · rw [if_neg he] at h
    cases h1 : wrLoop batch fuel ((lines.drop b).take (e - b)) ({ sched := sched } : WrState) with
    | none => rw [h1] at h; cases h
    | some st0 =>
      rw [h1] at h
      have hi := wrLoop_inv batch fuel _ [] _ st0 h1 (fun _ => ⟨rfl, rfl⟩)
      simp only [List.nil_append] at hi
      simp only [] at h
      cases hok0 : st0.ok with
      | false =>
        simp only [hok0, Bool.not_false, if_true, Option.some.injEq] at h
        subst h; rw [hok0] at hok; cases hok
      | true =>
        obtain ⟨hb, hs⟩ := hi hok0
        simp only [hok0, Bool.not_true, Bool.false_eq_true, if_false] at h
        by_cases hbuf : st0.buf.length > 0
        · rw [if_pos hbuf] at h
          obtain ⟨a, _, c⟩ := flush_inv fuel st0 st _ h ⟨hb, hs⟩ hok
          exact ⟨a, c, by omega⟩
        · rw [if_neg hbuf] at h
          simp only [Option.some.injEq] at h
          subst h
          have : st0.buf = [] := by cases hb' : st0.buf <;> simp_all
          rw [this] at hb; simp at hb
          exact ⟨hb, hs, by omega⟩

/-! under a schedule whose counts make progress the write loop returns; with no error scheduled no write fails -/

/-- schedules without errors whose counts make progress -/
def GoodSched (sched : List WOut) : Prop := ∀ o ∈ sched, ∃ k, o = WOut.cnt k ∧ 1 ≤ k

/-- schedules whose counts make progress (errors allowed) -/
def ProgSched (sched : List WOut) : Prop := ∀ k, WOut.cnt k ∈ sched → 1 ≤ k

theorem ProgSched.tail {o : WOut} {r : List WOut} (h : ProgSched (o :: r)) : ProgSched r :=
  fun k hk => h k (by simp [hk])

theorem GoodSched.prog {s : List WOut} (h : GoodSched s) : ProgSched s ∧ WOut.err ∉ s := by
  refine ⟨fun k hk => ?_, fun he => ?_⟩
  · obtain ⟨k', e, h1⟩ := h _ hk; cases e; exact h1
  · obtain ⟨k', e, _⟩ := h _ he; cases e

theorem writeFully_total : ∀ (fuel : Nat) (buf : Bytes) (sched : List WOut), ProgSched sched → buf.length ≤ fuel →
    ∃ ok w r, writeFully fuel buf sched = some (ok, w, r) ∧ ProgSched r ∧
      (WOut.err ∉ sched → ok = true ∧ WOut.err ∉ r) := by
  intro fuel
  induction fuel with
  | zero =>
    intro buf sched hs hf
    have : buf = [] := by cases buf <;> simp_all
    subst this; exact ⟨true, [], sched, by simp [writeFully], hs, fun h => ⟨rfl, h⟩⟩
  | succ f ih =>
    intro buf sched hs hf
    by_cases hb : buf = []
    · subst hb; exact ⟨true, [], sched, by simp [writeFully], hs, fun h => ⟨rfl, h⟩⟩
    · simp only [writeFully, hb, if_false]
      cases sched with
      | nil => exact ⟨_, _, [], rfl, by intro k hk; simp at hk, fun _ => ⟨rfl, by simp⟩⟩
      | cons o rest =>
        cases o with
        | err => exact ⟨_, _, rest, rfl, hs.tail, fun h => absurd List.mem_cons_self h⟩
        | cnt k =>
          have hk1 : 1 ≤ k := hs k (by simp)
          have hpos : 0 < buf.length := by cases buf <;> simp_all
          simp only []
          obtain ⟨ok, w, r, h1, h2, h3⟩ := ih (buf.drop (min k buf.length)) rest hs.tail (by simp; omega)
          rw [h1]
          exact ⟨_, _, r, rfl, h2, fun h => h3 (fun he => h (List.mem_cons_of_mem _ he))⟩

/-- what the loop of `lbuf_wr` keeps under a schedule that makes progress, also after a failed write -/
structure WrOk (batch : Nat) (st : WrState) : Prop where
  fits : st.buf.length ≤ batch
  sched : ProgSched st.sched

/-- no write has failed and none is scheduled to -/
def Clean (st : WrState) : Prop := st.ok = true ∧ WOut.err ∉ st.sched

theorem wrStep_total (batch fuel : Nat) (hf : batch ≤ fuel) (st : WrState) (ln : Bytes)
    (hl : ln.length ≤ fuel) (h : WrOk batch st) :
    ∃ st', wrStep batch fuel st ln = some st' ∧ WrOk batch st' ∧ (Clean st → Clean st') := by
  obtain ⟨hfits, hsched⟩ := h
  unfold wrStep
  by_cases hok : st.ok = true
  · simp only [hok, Bool.not_true, Bool.false_eq_true, if_false]
    have s1 : ∃ st1, (if (decide (st.buf.length > 0) && decide (st.buf.length + ln.length > batch)) = true
          then flush fuel st else some st) = some st1 ∧ WrOk batch st1 ∧ (Clean st → Clean st1) ∧
          (st1.buf.length + ln.length ≤ batch ∨ st1.buf = []) := by
      by_cases hc : (decide (st.buf.length > 0) && decide (st.buf.length + ln.length > batch)) = true
      · rw [if_pos hc]
        obtain ⟨ok, w, r, h1, h2, h3⟩ := writeFully_total fuel st.buf st.sched hsched (by omega)
        refine ⟨{ st with buf := [], out := st.out ++ w, sched := r, ok := ok }, ?_, ⟨by simp, h2⟩,
          fun hcl => h3 hcl.2, Or.inr rfl⟩
        simp [flush, h1]
      · rw [if_neg hc]
        refine ⟨st, rfl, ⟨hfits, hsched⟩, id, ?_⟩
        simp only [Bool.and_eq_true, decide_eq_true_eq, not_and] at hc
        by_cases h0 : st.buf.length > 0
        · left; have := hc h0; omega
        · right; cases hbuf : st.buf <;> simp_all
    obtain ⟨st1, e1, ⟨hfits1, hsched1⟩, hcl1, hroom⟩ := s1
    rw [e1]
    simp only []
    by_cases hok1 : st1.ok = true
    · simp only [hok1, Bool.not_true, Bool.false_eq_true, if_false]
      by_cases hbig : ln.length ≥ batch
      · rw [if_pos hbig]
        obtain ⟨ok, w, r, h1, h2, h3⟩ := writeFully_total fuel ln st1.sched hsched1 hl
        simp only [direct, h1]
        cases ok with
        | true => exact ⟨_, rfl, ⟨hfits1, h2⟩, fun hcl => ⟨rfl, (h3 (hcl1 hcl).2).2⟩⟩
        | false => exact ⟨_, rfl, ⟨hfits1, h2⟩, fun hcl => nomatch (h3 (hcl1 hcl).2).1⟩
      · rw [if_neg hbig]
        have hroom' : st1.buf.length + ln.length ≤ batch := by
          rcases hroom with h | h
          · exact h
          · rw [h]; simp; omega
        rw [if_pos hroom']
        simp only [Bool.not_true, Bool.false_eq_true, if_false]
        exact ⟨_, rfl, ⟨by simpa using hroom', hsched1⟩, fun hcl => ⟨rfl, (hcl1 hcl).2⟩⟩
    · have : st1.ok = false := by cases h : st1.ok <;> simp_all
      simp only [this, Bool.not_false, if_true]
      exact ⟨st1, rfl, ⟨hfits1, hsched1⟩, hcl1⟩
  · have : st.ok = false := by cases h : st.ok <;> simp_all
    simp only [this, Bool.not_false, if_true]
    exact ⟨st, rfl, ⟨hfits, hsched⟩, id⟩

theorem wrLoop_total (batch fuel : Nat) (hf : batch ≤ fuel) (ls : List Bytes) (hl : ∀ l ∈ ls, l.length ≤ fuel) :
    ∀ (st : WrState), WrOk batch st →
      ∃ st', wrLoop batch fuel ls st = some st' ∧ WrOk batch st' ∧ (Clean st → Clean st') := by
  induction ls with
  | nil => intro st h; exact ⟨st, rfl, h, id⟩
  | cons l ls ih =>
    intro st h
    obtain ⟨st1, h1, h2, c1⟩ := wrStep_total batch fuel hf st l (hl l (by simp)) h
    obtain ⟨st2, h3, h4, c2⟩ := ih (fun x hx => hl x (by simp [hx])) st1 h2
    refine ⟨st2, ?_, h4, c2 ∘ c1⟩
    simp only [wrLoop, h1]; exact h3

/-- with fuel that covers the batch and the longest line, under a schedule that makes progress the loop of
    `lbuf_wr` and its final flush return; with no error scheduled no write fails -/
theorem wrFinal_total (lines : List Bytes) (b e batch fuel : Nat) (sched : List WOut)
    (he : e ≤ lines.length) (hf : batch ≤ fuel) (hl : ∀ l ∈ lines, l.length ≤ fuel) (hs : ProgSched sched) :
    ∃ st, wrFinal lines b e batch fuel sched = some st ∧ (WOut.err ∉ sched → st.ok = true) := by
  unfold wrFinal
  rw [if_neg (by omega)]
  have hl' : ∀ l ∈ (lines.drop b).take (e - b), l.length ≤ fuel :=
    fun l h => hl l (List.mem_of_mem_drop (List.mem_of_mem_take h))
  obtain ⟨st, h1, ⟨hfits, hsched⟩, hcl⟩ := wrLoop_total batch fuel hf _ hl' { sched := sched } ⟨by simp, hs⟩
  rw [h1]
  simp only []
  split
  · exact ⟨_, rfl, fun hn => (hcl ⟨rfl, hn⟩).1⟩
  · split
    · obtain ⟨ok, w, r, h2, _, h3⟩ := writeFully_total fuel st.buf st.sched hsched (by omega)
      exact ⟨{ st with buf := [], out := st.out ++ w, sched := r, ok := ok }, by simp [flush, h2],
        fun hn => (h3 (hcl ⟨rfl, hn⟩).2).1⟩
    · exact ⟨_, rfl, fun hn => (hcl ⟨rfl, hn⟩).1⟩

theorem wrFinal_ok (lines : List Bytes) (b e batch fuel : Nat) (sched : List WOut)
    (he : e ≤ lines.length) (hf : batch ≤ fuel) (hl : ∀ l ∈ lines, l.length ≤ fuel) (hs : GoodSched sched) :
    ∃ st, wrFinal lines b e batch fuel sched = some st ∧ st.ok = true := by
  obtain ⟨st, h1, h2⟩ := wrFinal_total lines b e batch fuel sched he hf hl hs.prog.1
  exact ⟨st, h1, h2 hs.prog.2⟩

/-- the bytes produced by writing lines `[b, e)` are exactly their concatenation and the recorded
    size is its length — for every batch size, every schedule of short writes, every fuel that
    covers the longest line -/
theorem wr_stream (lines : List Bytes) (b e batch fuel : Nat) (sched : List WOut)
    (he : e ≤ lines.length) (hb : 1 ≤ batch) (hf : batch ≤ fuel) (hl : ∀ l ∈ lines, l.length ≤ fuel)
    (hs : GoodSched sched) :
    wr lines b e batch fuel sched =
      some (0, ((lines.drop b).take (e - b)).flatten, some ((lines.drop b).take (e - b)).flatten.length) := by
  obtain ⟨st, hw, hok⟩ := wrFinal_ok lines b e batch fuel sched he hf hl hs
  obtain ⟨h1, h2, _⟩ := wrFinal_exact lines b e batch fuel sched st hw hok
  unfold wr
  rw [hw]
  simp only [hok, Bool.not_true, Bool.false_eq_true, if_false]
  rw [h1, h2]

/-- whatever the target file held before (shorter, equal, longer), afterwards it holds exactly
    the bytes written -/
theorem wr_file (old out : Bytes) : fileAfter old out (some out.length) = out := by
  unfold fileAfter
  simp

/-- read any NUL-free file, under any chunking, and write it back unedited, under any schedule of
    short writes, over any previous content: the result is the file plus one newline iff its last
    line lacked one -/
theorem roundtrip (chunks : List Bytes) (s old : Bytes) (batch fuel : Nat) (sched : List WOut)
    (hs : chunks.flatten = s) (hnul : 0 ∉ s) (hb : 1 ≤ batch) (hf : batch ≤ fuel) (hfl : s.length + 1 ≤ fuel)
    (hg : GoodSched sched) :
    ∃ lb out, rd Lbuf.make chunks false 0 0 = some (0, lb) ∧
      wr lb.lines 0 lb.lines.length batch fuel sched = some (0, out, some out.length) ∧
      fileAfter old out (some out.length) = s ++ (if needNl s then [10] else []) := by
  obtain ⟨lb, h1, h2⟩ := rd_any_chunking chunks s hs hnul
  have hlen : ∀ l ∈ lb.lines, l.length ≤ fuel := by
    intro l hl
    have hsum : l.length ≤ lb.lines.flatten.length := by
      obtain ⟨a, c, hac⟩ := List.append_of_mem hl
      rw [hac]; simp; omega
    rw [h2, split_join] at hsum
    have : (if needNl s = true then [10] else ([] : Bytes)).length ≤ 1 := by split <;> simp
    simp at hsum; omega
  have hw := wr_stream lb.lines 0 lb.lines.length batch fuel sched (Nat.le_refl _) hb hf hlen hg
  simp only [List.drop_zero, Nat.sub_zero, List.take_length] at hw
  refine ⟨lb, lb.lines.flatten, h1, hw, ?_⟩
  rw [wr_file, h2, split_join]

/-! ### non-vacuity -/
example : splitLines [97, 10, 98] = [[97, 10], [98, 10]] ∧ needNl [97, 10, 98] = true := by decide +kernel
example : GoodSched [WOut.cnt 1, WOut.cnt 7] := by
  intro o ho; simp at ho; rcases ho with rfl | rfl
  · exact ⟨1, rfl, by omega⟩
  · exact ⟨7, rfl, by omega⟩
example : wr [[97, 10], [98, 99, 10]] 0 2 4 10 [WOut.cnt 1, WOut.cnt 1] = some (0, [97, 10, 98, 99, 10], some 5) := by decide +kernel

end Neatvi.Props.C01
