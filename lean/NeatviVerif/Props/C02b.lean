import NeatviVerif.Lemmas.C02bRun
import NeatviVerif.Lemmas.C02bQuiet
import NeatviVerif.Props.C02
/-!
# C02b  The bridge between the editor and Part A of C02

Part A of C02 proves, for a line buffer driven through the lbuf API by a history of commands, that
the dirty flag never reports clean while the text and the last whole write differ.  Part B is about
what `:q`, `:e`, `:b`, `:w` do given the flag.  C02 left open that the buffers of a reachable editor
state ARE buffers Part A speaks about (`Ex.editor_buffers_satisfy_invariant_full`).  This file
closes it, for every handler of the dispatcher and every command line:

* `LbReach lb d` (Lemmas/C02bMark): `lb` was built from `lbuf_make()` by calls of the lbuf API in
  any order — `lbuf_edit` (any arguments), `lbuf_undo`, `lbuf_redo`, the bump `lbuf_modified`,
  `lbuf_saved(lb, 0|1)` + bump, `lbuf_unsaved`, `lbuf_mark`, `lbuf_globset`, `lbuf_globget` — and `d`
  is the text the buffer had at the most recent `lbuf_saved` among them (`none` after `lbuf_unsaved`).
  Unlike the histories `SOp` of Part A, the calls need not respect command boundaries: the ex layer
  undoes, redoes and saves in the middle of a command line (`:d|u|w|d`).
* `LbReach lb d → LbInvG lb d` (`LbReach.inv`): the zipper-free form of Part A's invariant, which
  holds at any point of a command; at a command boundary (`Closed`) it is Part A's `SInv`.
* `EdInv` / `EdStrong`: every buffer of the table is `LbReach`, the non-current ones (at a command
  boundary: all of them) closed.  Kept by every `ec_*` handler, `ex_exec`, `ex_command`, `exStep`, `exInit`.
-/
namespace Neatvi.Props.C02b
open Neatvi Neatvi.Lbuf Neatvi.Ex Neatvi.Spec Neatvi.Lemmas.C02 Neatvi.Lemmas.C02b Neatvi.Lemmas.C02Ex

export Neatvi.Lemmas.C02b (LbReach LbInvG HInv Closed GoodLb EdInv EdStrong Closed0 TabInv TabStrong CurGhost QuietRun)

/-! ## 1. line buffers -/

/-- the invariant holds for a fresh buffer and is preserved by every primitive of the lbuf API the ex
    layer uses, in any order and with any arguments; the ghost changes at `lbuf_saved` / `lbuf_unsaved` only -/
theorem lb_invariant_preserved :
    LbInvG Lbuf.make (some []) ∧
    (∀ lb d buf b e lb', LbInvG lb d → Lbuf.edit lb buf b e = some lb' → LbInvG lb' d) ∧
    (∀ lb d rc lb', LbInvG lb d → Lbuf.undo lb = some (rc, lb') → LbInvG lb' d) ∧
    (∀ lb d rc lb', LbInvG lb d → Lbuf.redo lb = some (rc, lb') → LbInvG lb' d) ∧
    (∀ lb d, LbInvG lb d → LbInvG (modified lb).2 d) ∧
    (∀ lb d, LbInvG lb d → LbInvG (modified (savedCore lb false)).2 (some lb.lines)) ∧
    (∀ lb d, LbInvG lb d → LbInvG (modified (savedCore lb true)).2 (some lb.lines)) ∧
    (∀ lb d, LbInvG lb d → LbInvG (unsavedMark lb) none) ∧
    (∀ lb d c p o, LbInvG lb d → LbInvG (setMark lb c p o) d) ∧
    (∀ lb d p k, LbInvG lb d → LbInvG (globSet lb p k) d) ∧
    (∀ lb d p k, LbInvG lb d → LbInvG (globGet lb p k).2 d) :=
  ⟨lbInv_make, fun _ _ buf b e _ h he => lbInv_edit h buf b e _ he, fun _ _ _ _ h hu => lbInv_undo h _ _ hu,
    fun _ _ _ _ h hu => lbInv_redo h _ _ hu, fun _ _ h => lbInv_bump h, fun _ _ h => lbInv_saved h,
    fun _ _ h => lbInv_savedClear h, fun _ _ h => lbInv_partial h, fun _ _ c p o h => lbInv_setMark h c p o,
    fun _ _ p k h => lbInv_globSet h p k, fun _ _ p k h => lbInv_globGet h p k⟩

/-- `lbuf_rd` into a fresh buffer followed by `lbuf_saved(lb, 1)`: the ghost is the text read -/
theorem load_invariant (chunks : List Bytes) (rc : Nat) (lb : Lb)
    (h : LbufIo.rd Lbuf.make chunks false 0 0 = some (rc, lb)) :
    LbReach (modified (savedCore lb true)).2 (some lb.lines) :=
  (LbReach.make.rd h).savedClear

/-- **clean is sound, for every buffer the API can build**: if `lbuf_modified` reports clean, the text
    is the text at the most recent `lbuf_saved` and no `lbuf_unsaved` happened since — whatever
    sequence of API calls (`d` ranges over the ghosts of ALL of them) built the buffer -/
theorem clean_sound (lb : Lb) (d : Option Text) (h : LbReach lb d) (hc : (modified lb).1 = false) :
    d = some lb.lines := h.inv.clean_text hc

theorem dirty_if_differs (lb : Lb) (d : Option Text) (h : LbReach lb d) (hne : d ≠ some lb.lines) :
    (modified lb).1 = true := by
  cases hm : (modified lb).1 with
  | true => rfl
  | false => exact absurd (clean_sound lb d h hm) hne

/-- at a command boundary the invariant is Part A's, so `SInv.clean_iff` / `SInv.clean_text` apply -/
theorem sinv_of_reach (lb : Lb) (d : Option Text) (h : LbReach lb d) (hc : Closed lb) : ∃ r, SInv lb r d :=
  h.inv.sinv hc

/-- Part A's histories are API call sequences: every buffer `srun` produces is `LbReach`, with Part
    A's ghost -/
theorem reach_of_srunD (ops : List SOp) : ∀ (lb : Lb) (d : Option Text), LbReach lb d →
    ∀ lb' d', srunD ops (lb, d) = some (lb', d') → LbReach lb' d' := by
  induction ops with
  | nil => intro lb d h lb' d' hr; cases hr; exact h
  | cons op ops ih =>
    intro lb d h lb' d' hr
    simp only [srunD] at hr
    split at hr
    · cases hr
    · rename_i lb1 hs
      refine ih lb1 _ ?_ lb' d' hr
      cases op with
      | cmd ss =>
        simp only [sstep, Option.map_eq_some_iff] at hs
        obtain ⟨l, hl, rfl⟩ := hs
        have := applySplices_rel (R := fun lb l => LbReach lb d → LbReach l d) (fun _ => id) (fun f g => g ∘ f)
          (fun he h => h.edit _ _ _ he) ss lb l hl
        exact (this h).bump
      | undo =>
        simp only [sstep, Option.map_eq_some_iff] at hs
        obtain ⟨⟨rc, l⟩, hl, rfl⟩ := hs
        exact (h.undo hl).bump
      | redo =>
        simp only [sstep, Option.map_eq_some_iff] at hs
        obtain ⟨⟨rc, l⟩, hl, rfl⟩ := hs
        exact (h.redo hl).bump
      | query => cases hs; exact h.bump
      | saved => cases hs; exact h.saved
      | savedClear => cases hs; exact h.savedClear
      | partialWrite => cases hs; exact h.partialWrite

/-! ## 2. the editor -/

/-- every `ec_*` handler keeps the invariant of the buffer table, for every fuel -/
theorem runCmd_keeps (f : Nat) (ed ed' : Ed) (hd : String) (loc cmd arg : Bytes) (txt : Option Bytes) (r : Int)
    (hi : EdInv ed) (h : runCmd f ed hd loc cmd arg txt = some (r, ed')) : EdInv ed' :=
  (edInv_kept.all f).2.2.1 _ _ _ _ _ _ _ _ hi h

theorem exExec_keeps (f : Nat) (ed ed' : Ed) (ln : Bytes) (r : Int) (hi : EdInv ed)
    (h : exExec f ed ln = some (r, ed')) : EdInv ed' := edInv_kept.exExec hi h

/-- `ex_command` ends at a command boundary: every buffer closed -/
theorem exCommand_keeps (f : Nat) (ed ed' : Ed) (ln : Bytes) (r : Int) (hi : EdInv ed)
    (h : exCommand f ed ln = some (r, ed')) : EdStrong ed' :=
  edStrong_of (edInv_kept.exCommand hi h) (closed0_exCommand hi h)

theorem exStep_keeps (ed ed' : Ed) (r : Int) (hi : EdInv ed) (h : exStep ed = some (r, ed')) : EdStrong ed' := by
  obtain ⟨ln, rest, ed1, _, hc, rfl⟩ := exStep_cases h
  exact (exCommand_keeps _ _ _ _ _ (hi.to (by rfl)) hc : EdStrong ed1)

theorem exInit_keeps (ed ed' : Ed) (files : List Bytes) (r : Int) (hi : EdStrong ed)
    (h : exInit ed files = some (r, ed')) : EdStrong ed' := by
  unfold exInit at h
  exact edStrong_of (ecEdit_edInv hi.inv h) (ecEdit_closed0 _ _ _ _ _ _ hi.inv hi.closed0 h)

theorem exRun_keeps : ∀ (n : Nat) (ed ed' : Ed), EdStrong ed → C02.Ex.exRun n ed = some ed' → EdStrong ed' :=
  exRun_keeps_of fun hi hs => exStep_keeps _ _ _ hi.inv hs

theorem empty_table_strong (ed0 : Ed) (h0 : ed0.bufs = List.replicate Gen.NBUFS none) : EdStrong ed0 := by
  intro b hb
  rw [h0] at hb
  simp [List.mem_replicate] at hb

/-- **every buffer of every reachable editor state was built by the lbuf API and is closed** -/
theorem editor_buffers_reach (ed0 : Ed) (files : List Bytes) (n : Nat) (rc : Int) (ed1 ed : Ed)
    (h0 : ed0.bufs = List.replicate Gen.NBUFS none) (hinit : exInit ed0 files = some (rc, ed1))
    (hrun : C02.Ex.exRun n ed1 = some ed) : EdStrong ed :=
  exRun_keeps n ed1 ed (exInit_keeps ed0 ed1 files rc (empty_table_strong ed0 h0) hinit) hrun

/-- **the statement C02 left open**: every buffer of every state reached by `exInit` and `exStep`s
    satisfies Part A's invariant -/
theorem editor_buffers_satisfy_invariant_full : C02.Ex.editor_buffers_satisfy_invariant_full := by
  intro ed0 files n rc ed1 ed h0 hinit hrun i b hb
  obtain ⟨⟨d, hd⟩, hc⟩ := editor_buffers_reach ed0 files n rc ed1 ed h0 hinit hrun b (C20.mem_of_getD _ _ _ hb).1
  obtain ⟨r, hr⟩ := sinv_of_reach b.lb d hd hc
  exact ⟨r, d, hr⟩

/-- **the dirty indicator at the editor level**: in every reachable state, for every buffer of the
    table: it was built by lbuf API calls (there is a ghost `d`: the text at the last `lbuf_saved`), and
    for every such ghost, if the buffer reports clean then its text is that ghost text, and the flag is
    the reference's (Part A) -/
theorem editor_clean_sound (ed0 : Ed) (files : List Bytes) (n : Nat) (rc : Int) (ed1 ed : Ed)
    (h0 : ed0.bufs = List.replicate Gen.NBUFS none) (hinit : exInit ed0 files = some (rc, ed1))
    (hrun : C02.Ex.exRun n ed1 = some ed) (i : Nat) (b : Buf) (hb : ed.bufs.getD i none = some b) :
    (∃ d, LbReach b.lb d) ∧
    (∀ d, LbReach b.lb d → (modified b.lb).1 = false → d = some b.lb.lines) ∧
    (∀ d, LbReach b.lb d → ∃ r, SInv b.lb r d ∧
      ((modified b.lb).1 = false ↔ r.mark = some r.z.past.length)) := by
  obtain ⟨hg, hc⟩ := editor_buffers_reach ed0 files n rc ed1 ed h0 hinit hrun b (C20.mem_of_getD _ _ _ hb).1
  refine ⟨hg, fun d hd hcl => clean_sound b.lb d hd hcl, ?_⟩
  intro d hd
  obtain ⟨r, hr⟩ := sinv_of_reach b.lb d hd hc
  exact ⟨r, hr, hr.clean_iff⟩

/-- within a command line too (before the final bump): every state `ex_exec` reaches from a state
    satisfying the invariant satisfies it, so a buffer that reports clean has its ghost text -/
theorem midline_clean_sound (f : Nat) (ed ed' : Ed) (ln : Bytes) (r : Int) (hi : EdInv ed)
    (h : exExec f ed ln = some (r, ed')) (i : Nat) (b : Buf) (hb : ed'.bufs.getD i none = some b) :
    (∃ d, LbReach b.lb d) ∧ ∀ d, LbReach b.lb d → (modified b.lb).1 = false → d = some b.lb.lines :=
  ⟨(edInv_kept.exExec hi h i b hb).1, fun d hd hcl => clean_sound b.lb d hd hcl⟩

/-! ## 3. the ghost and the file system

A successful `:w` of the whole buffer to its own file makes the ghost the text whose bytes are in
the file; command lines without `:e`/`:b`/`:w`/`:q`/`:!`/`:@` change neither the ghost of the current
buffer nor any file.  So as long as only such lines run, a clean flag means: the text is the
concatenation of the file's lines. -/

/-- a whole write to the own path (the hypotheses are those of `C02.Ex.write_marks_clean_only_if_whole`):
    `ec_write` returns 0, the new current buffer is clean, its ghost is its text, and the file at `path`
    holds exactly the bytes of that text -/
theorem whole_write_sets_ghost (ed ed1 ed2 ed3 ed4 : Ed) (loc cmd arg path : Bytes)
    (b0 e0 : Int) (cur : Buf) (d : Option Text)
    (hpr : (if !arg.isEmpty then pathExpand ed arg true else some (ed.cur.map (·.path), ed)) = some (some path, ed1))
    (hx : (if cmd.headD 0 == 120 then some (ed1.modifiedAt 0) else some (true, ed1) : Option (Bool × Ed)) = some (true, ed2))
    (hr : exRegion ed2 loc = some ((0, b0, e0), ed3))
    (hc : ed3.cur = some cur) (hsh : path.headD 0 ≠ 33)
    (hbe : (if loc.isEmpty then ((0 : Int), ed3.len) else (b0, e0)) = (0, ed3.len)) (hpne : path ≠ [])
    (hs : lbufSave ed3 cur.lb 0 ed3.len path (hasBang cmd) (if cur.path == path then cur.mtime else 0) = some (none, ed4))
    (hown : cur.path = path ∨ cur.path = []) (hreach : LbReach cur.lb d) :
    ∃ ed5 c5, ecWrite ed loc cmd arg = some (0, ed5) ∧ ed5.cur = some c5 ∧ (modified c5.lb).1 = false ∧
      c5.lb.lines = cur.lb.lines ∧
      CurGhost ed5.files c5.path (some c5.lb.lines) ed5 ∧
      (ed5.findFile path).map (·.data) = some c5.lb.lines.flatten := by
  obtain ⟨ed5, c5, h1, h2, h3, _, h5, h6, _, _⟩ :=
    C02.Ex.write_marks_clean_only_if_whole ed ed1 ed2 ed3 ed4 loc cmd arg path b0 e0 0 ed3.len cur hpr hx hr hc hsh hbe hpne
      (by simpa using hs)
  obtain ⟨hlb, hclean⟩ := h6 hown ⟨rfl, rfl⟩
  have hlines : c5.lb.lines = cur.lb.lines := by rw [hlb]; rfl
  have hre : LbReach c5.lb (some c5.lb.lines) := by
    rw [hlines, hlb]; exact hreach.saved
  refine ⟨ed5, c5, h1, h2, hclean, hlines, ⟨rfl, c5, h2, rfl, hre⟩, ?_⟩
  have hfile := C03.success_exact _ _ _ _ _ _ _ _ hs
  have hlen : ed3.len = (cur.lb.lines.length : Int) := by
    unfold Ed.len Ed.lb; rw [hc]; rfl
  have hend : C03.endLine cur.lb ed3.len = cur.lb.lines.length := by
    unfold C03.endLine
    rw [hlen]
    simp
  rw [hend] at hfile
  simp only [List.drop_zero, Nat.sub_zero, List.take_length] at hfile
  unfold Ed.findFile at hfile ⊢
  rw [h3, hfile, hlines]

theorem quiet_run_keeps_ghost (F : List File) (p : Bytes) (d : Option Text) (dep : Nat) (ed ed' : Ed)
    (hq : QuietRun dep ed ed') (h : CurGhost F p d ed) : CurGhost F p d ed' :=
  quietRun_quiet (curGhost_quiet F p d) hq h

/-- one quiet command line through `ex_command` -/
theorem quiet_command_keeps_ghost (F : List File) (p : Bytes) (d : Option Text) (f dep : Nat) (ed ed' : Ed)
    (ln : Bytes) (r : Int) (hq : C15.quietLine dep ln = true) (h : CurGhost F p d ed)
    (hc : exCommand f ed ln = some (r, ed')) : CurGhost F p d ed' :=
  exCommand_quiet (curGhost_quiet F p d) f dep ed ed' ln r hq h hc

/-- **the C02 clause at the editor level, against the virtual file system**: after a successful whole
    `:w` (state `ed5`), however many quiet command lines run (edits, undo, redo, `:g`, `:s`, `:r`, marks, …),
    if the current buffer reports clean then the file it was written to holds exactly the bytes of its
    text; contrapositive: while text and file differ, the flag says dirty -/
theorem clean_means_file_is_text (ed5 ed' : Ed) (c5 : Buf) (path : Bytes) (dep : Nat)
    (hghost : CurGhost ed5.files c5.path (some c5.lb.lines) ed5)
    (hfile : (ed5.findFile path).map (·.data) = some c5.lb.lines.flatten)
    (hq : QuietRun dep ed5 ed') :
    ∃ b', ed'.cur = some b' ∧ b'.path = c5.path ∧ ed'.files = ed5.files ∧
      ((modified b'.lb).1 = false → b'.lb.lines = c5.lb.lines ∧
        (ed'.findFile path).map (·.data) = some b'.lb.lines.flatten) := by
  obtain ⟨hf, b', hc, hp, hr⟩ := quiet_run_keeps_ghost _ _ _ dep ed5 ed' hq hghost
  refine ⟨b', hc, hp, hf, ?_⟩
  intro hcl
  have := clean_sound b'.lb _ hr hcl
  simp only [Option.some.injEq] at this
  refine ⟨this.symm, ?_⟩
  unfold Ed.findFile at hfile ⊢
  rw [hf, hfile, this]

theorem dirty_while_file_differs (ed5 ed' : Ed) (c5 : Buf) (path : Bytes) (dep : Nat)
    (hghost : CurGhost ed5.files c5.path (some c5.lb.lines) ed5)
    (hfile : (ed5.findFile path).map (·.data) = some c5.lb.lines.flatten)
    (hq : QuietRun dep ed5 ed') (b' : Buf) (hb : ed'.cur = some b')
    (hne : (ed'.findFile path).map (·.data) ≠ some b'.lb.lines.flatten) : (modified b'.lb).1 = true := by
  obtain ⟨b2, hc2, _, _, himp⟩ := clean_means_file_is_text ed5 ed' c5 path dep hghost hfile hq
  rw [hb] at hc2; cases hc2
  cases hm : (modified b'.lb).1 with
  | true => rfl
  | false => exact absurd (himp hm).2 hne

/-! ## 4. non-vacuity -/

/-- `:d|u|w|d`-like sequences at the API: edit, undo, save (no bump between edit and undo), edit — the
    invariant of Part A does not cover the middle states, `LbReach` does -/
example : ∃ lb1 lb2, Lbuf.edit Lbuf.make (some [97, 10]) 0 0 = some lb1 ∧ Lbuf.undo lb1 = some (0, lb2) ∧
    LbReach (modified (savedCore lb2 false)).2 (some []) ∧ (modified (modified (savedCore lb2 false)).2).1 = false := by
  refine ⟨_, _, rfl, rfl, ?_, by decide⟩
  exact ((LbReach.make.edit (some [97, 10]) 0 0 rfl).undo (rc := 0) rfl).saved

/-- the example editor of C02 (one buffer `f`, built by edit / save / edit) satisfies the invariant -/
example : ∃ lb, C02.srun [C02.ins 97, .saved, C02.ins 98] Lbuf.make = some lb ∧ EdInv (C02.Ex.edOf lb) := by
  cases h : C02.srun [C02.ins 97, .saved, C02.ins 98] Lbuf.make with
  | none => exact absurd h (by decide)
  | some lb =>
    refine ⟨lb, rfl, ?_⟩
    unfold C02.srun at h
    simp only [Option.map_eq_some_iff] at h
    obtain ⟨⟨lb', d'⟩, hr, rfl⟩ := h
    have hre := reach_of_srunD _ _ _ LbReach.make _ _ hr
    intro i b hb
    match i, hb with
    | 0, hb =>
      have hb' : some ({ path := [102], lb := lb' } : Buf) = some b := hb
      cases hb'
      exact ⟨⟨_, hre⟩, fun h0 => absurd rfl h0⟩
    | 1, hb => have hb' : (none : Option Buf) = some b := hb; cases hb'
    | (n + 2), hb => have hb' : (none : Option Buf) = some b := hb; cases hb'

end Neatvi.Props.C02b
