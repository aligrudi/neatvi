import NeatviVerif.Lemmas.C02cEdit
/-!
# C02c  `:e` never drops a buffer with unsaved changes to make room

When all 16 slots of the buffer table are in use, `bufs_open` reuses the last slot (`Ed.findRoom`,
`C20.room_policy`, `C20.open_full_evicts_last`).  Before calling it `ec_edit` (`ecEdit`, the stage
`editGuard2`) asks `bufs_modified(bufs_findroom(), "last buffer modified")` — unless `writeany` is set —
and returns 1 when that reports a modified buffer that could not be written.

* F1 `bufsOpen_drops_only_findRoom`: `bufs_open` changes slot `findRoom` only.
* F2 `ecEdit_refuses_to_drop_modified`: the buffer `bufs_open` would drop is modified ⇒ `:e` returns 1,
  nothing is opened, every slot keeps its buffer (id, path, text, dirty flag), no file changes.
* F3 `ecEdit_keeps_modified_buffers_noplus`: for EVERY result of `:e` (any command word, `!` or not, any
  argument without `+cmd`): every modified buffer other than the current one is still in the table,
  with its id, path, text and dirty flag.  `ecEdit_keeps_modified_buffers_upto_plus`: with a `+cmd` the
  same holds of the state in which `ec_edit` hands over to `ex_command(+cmd)`.  The statement for the
  final state of `:e +cmd path` is FALSE, because the `+cmd` may be any command line, e.g. `:b !`
  (`bufs_shift`, which drops the current buffer without asking): see `plus_cmd_may_drop` and
  `ecEdit_keeps_modified_buffers_full_is_false` below.
* F4 concrete editors with 16 buffers.
-/
namespace Neatvi.Props.C02c
open Neatvi Neatvi.Lbuf Neatvi.Ex Neatvi.Lemmas.C02Ex Neatvi.Lemmas.C02c

export Neatvi.Lemmas.C02c (plusSplit editGuard2 editOpen editRead editFinish editPlus ecEdit_stages
  bufView slotView SameTable)

/-! ## F1: `bufs_open` changes the slot `bufs_findroom()` chose, and no other -/

theorem bufsOpen_drops_only_findRoom (ed : Ed) (p : Bytes) :
    (ed.bufsOpen p).1 = ed.findRoom ∧
    (ed.bufsOpen p).2.bufs.length = ed.bufs.length ∧
    (∀ j, j ≠ ed.findRoom → (ed.bufsOpen p).2.bufs.getD j none = ed.bufs.getD j none) ∧
    (0 < ed.bufs.length → (ed.bufsOpen p).2.bufs.getD ed.findRoom none = some (C20.newBuf ed p)) := by
  obtain ⟨h1, h2, _, _, _, _, h7, h8⟩ := C20.open_uses_free_slot ed p
  exact ⟨h1, by rw [h2, List.length_set], h7, h8⟩

/-- so a buffer is dropped by `bufs_open` only if it sat in slot `findRoom` -/
theorem bufsOpen_keeps_other_slots (ed : Ed) (p : Bytes) (j : Nat) (b : Buf) (hj : j ≠ ed.findRoom)
    (hb : ed.bufs.getD j none = some b) : (ed.bufsOpen p).2.bufs.getD j none = some b := by
  rw [(bufsOpen_drops_only_findRoom ed p).2.2.1 j hj, hb]

/-! ## F2: the second guard -/

/-- every slot of `ed'` holds what it held in `ed`: empty stays empty, a buffer keeps its path, id,
    text and dirty flag (sequence counters may have been bumped by `lbuf_modified`) -/
def SlotsKept (ed ed' : Ed) : Prop :=
  ed'.bufs.length = ed.bufs.length ∧
  ∀ i, (ed.bufs.getD i none = none → ed'.bufs.getD i none = none) ∧
    ∀ b, ed.bufs.getD i none = some b →
      ∃ b', ed'.bufs.getD i none = some b' ∧ b'.path = b.path ∧ b'.id = b.id ∧ b'.lb.lines = b.lb.lines ∧
        (modified b'.lb).1 = (modified b.lb).1

theorem slotsKept_of_sameTable {ed ed' : Ed} (h : SameTable ed ed') : SlotsKept ed ed' := by
  refine ⟨h.length, fun i => ⟨?_, ?_⟩⟩
  · intro hn
    have := h.slots i
    rw [hn] at this
    cases hx : ed'.bufs.getD i none with
    | none => rfl
    | some x => rw [hx] at this; cases this
  · intro b hb
    have := h.slots i
    rw [hb] at this
    obtain ⟨b', hb', hv⟩ := slotView_some this
    simp only [bufView, Prod.mk.injEq] at hv
    exact ⟨b', hb', hv.2.1, hv.1, hv.2.2.1, hv.2.2.2⟩

/-- the general form, on the state `ed2` that reaches the second guard: the first guard passed (`hg`:
    the current buffer is clean, or `!`, or there is none), the path expanded to a non-empty `path`
    (`hp`, `hne`) which no open buffer has (`hf`), and the slot `bufs_open` would reuse holds a modified
    buffer `b`.  Then `ec_edit` returns 1 in the state `ed2` with that buffer's counter bumped and the
    message "last buffer modified" shown; compared with the INITIAL state `ed` every slot keeps its
    buffer and no file changes. -/
theorem ecEdit_refuses_at_guard2 (f : Nat) (ed ed1 ed2 : Ed) (cmd arg path : Bytes) (b : Buf)
    (hwa : ed.xwa = 0) (haw : ed.xaw = 0)
    (hg : C20.editGuard ed cmd = some (false, ed1))
    (hp : pathExpand ed1 (plusSplit arg).2 false = some (some path, ed2))
    (hne : path ≠ []) (hf : ed2.bufsFind path < 0)
    (hb : ed2.bufs.getD ed2.findRoom none = some b) (hd : (modified b.lb).1 = true) :
    ecEdit (f + 1) ed cmd arg = some (1, (bumpAt ed2 ed2.findRoom b).show (strOf "last buffer modified")) ∧
    SameTable ed ((bumpAt ed2 ed2.findRoom b).show (strOf "last buffer modified")) := by
  have T2 : SameTable ed ed2 :=
    (editGuard_sameTable _ _ _ _ haw hg).trans (pathExpand_sameTable _ _ _ _ _ hp)
  have hpre : C20.ewPre ed2 cmd path = ed2 := ewPre_of_notFound _ _ _ hf
  have hfind : (!path.isEmpty && decide (ed2.bufsFind path ≥ 0)) = false := by
    have : decide (ed2.bufsFind path ≥ 0) = false := by rw [decide_eq_false_iff_not]; omega
    rw [this, Bool.and_false]
  refine ⟨?_, T2.trans ((sameTable_bumpAt _ _ _ hb).trans (sameTable_show _ _))⟩
  rw [ecEdit_stages]
  simp only [hg, hp, hpre, hfind, Bool.false_eq_true, if_false,
    editGuard2_refuses ed2 path b (by rw [T2.xwa, hwa]) (by rw [T2.xaw, haw]) (Or.inl hne) hb hd]

/-- **F2**: stated on the initial state `ed`.  `writeany` and `autowrite` off.  The earlier stages pass:
    the first guard lets the command through (`hg`; `ed1` is `ed` with at most the counter of slot 0
    bumped) and the argument expands to a non-empty path (`hp`, `hne`) that no open buffer has (`hf`).
    The slot `bufs_findroom()` designates holds a buffer `b` with unsaved changes.  Then `:e` returns 1:
    * the slot still holds that buffer: same text, same path, same id, still modified;
    * nothing was opened: every slot keeps its buffer (`SlotsKept`), no file changed;
    * the message "last buffer modified" is the last one shown. -/
theorem ecEdit_refuses_to_drop_modified (f : Nat) (ed ed1 ed2 : Ed) (cmd arg path : Bytes) (b : Buf)
    (hwa : ed.xwa = 0) (haw : ed.xaw = 0)
    (hg : C20.editGuard ed cmd = some (false, ed1))
    (hp : pathExpand ed1 (plusSplit arg).2 false = some (some path, ed2))
    (hne : path ≠ []) (hf : ed.bufsFind path < 0)
    (hb : ed.bufs.getD ed.findRoom none = some b) (hd : (modified b.lb).1 = true) :
    ∃ ed' b', ecEdit (f + 1) ed cmd arg = some (1, ed') ∧
      ed'.bufs.getD ed.findRoom none = some b' ∧
      b'.lb.lines = b.lb.lines ∧ b'.path = b.path ∧ b'.id = b.id ∧ (modified b'.lb).1 = true ∧
      SlotsKept ed ed' ∧ ed'.files = ed.files ∧ ed'.bufsCnt = ed.bufsCnt ∧
      ed'.msg = ed2.msg ++ strOf "last buffer modified" ++ [10] := by
  have T2 : SameTable ed ed2 :=
    (editGuard_sameTable _ _ _ _ haw hg).trans (pathExpand_sameTable _ _ _ _ _ hp)
  have hfr : ed2.findRoom = ed.findRoom := T2.findRoom
  have hv2 : slotView (ed2.bufs.getD ed2.findRoom none) = some (bufView b) := by
    rw [hfr, T2.slots, hb]; rfl
  obtain ⟨b2, hb2, hview⟩ := slotView_some hv2
  simp only [bufView, Prod.mk.injEq] at hview
  have hd2 : (modified b2.lb).1 = true := by rw [hview.2.2.2, hd]
  obtain ⟨he, T⟩ := ecEdit_refuses_at_guard2 f ed ed1 ed2 cmd arg path b2 hwa haw hg hp hne
    (by rw [T2.bufsFind]; exact hf) hb2 hd2
  have hcnt : ed2.bufsCnt = ed.bufsCnt := by
    have h1 : ed1.bufsCnt = ed.bufsCnt := by
      unfold C20.editGuard at hg
      split at hg
      · rcases bufsModified_cases _ _ _ _ _ haw hg with ⟨_, _, rfl⟩ | ⟨_, _, _, _, rfl⟩ | ⟨_, _, _, hr, _⟩
        · rfl
        · rfl
        · cases hr
      · cases hg; rfl
    rcases pathExpand_cases _ _ _ _ _ hp with rfl | ⟨m, rfl⟩
    · exact h1
    · exact h1
  obtain ⟨hlt, _⟩ := getD_some hb2
  refine ⟨_, { b2 with lb := (modified b2.lb).2 }, he, ?_, hview.2.2.1, hview.2.1, hview.1, hd2,
    slotsKept_of_sameTable T, T.files, hcnt, rfl⟩
  rw [← hfr]
  exact getD_set_self _ _ _ hlt

/-! ## F3: no form of `:e` loses a modified buffer other than the current one -/

/-- `ed` shows in some slot a buffer with the id, path, text and dirty flag of `b` -/
def HoldsCopy (ed : Ed) (b : Buf) : Prop :=
  ∃ k b', ed.bufs.getD k none = some b' ∧ b'.id = b.id ∧ b'.path = b.path ∧ b'.lb.lines = b.lb.lines ∧
    (modified b'.lb).1 = (modified b.lb).1

theorem holdsCopy_of_held {ed : Ed} {b : Buf} (h : Held ed (bufView b)) : HoldsCopy ed b := by
  obtain ⟨k, hk⟩ := h.getD
  obtain ⟨b', hb', hv⟩ := slotView_some hk
  simp only [bufView, Prod.mk.injEq] at hv
  exact ⟨k, b', hb', hv.1, hv.2.1, hv.2.2.1, hv.2.2.2⟩

/-- **F3, up to the `+cmd`**: `writeany` and `autowrite` off, any command word (`e`, `e!`, `ew`, …), any
    argument.  For every result of `:e` and every modified buffer `b` in a slot `i ≥ 1`: there is a state
    `edm` that still holds `b` (id, path, text, dirty flag), and either `edm` is the final state, or the
    argument had a `+cmd` and the final state is what `ex_command(cmd)` makes of `edm`. -/
theorem ecEdit_keeps_modified_buffers_upto_plus (f : Nat) (ed ed' : Ed) (cmd arg : Bytes) (rc : Int)
    (hwa : ed.xwa = 0) (haw : ed.xaw = 0) (h : ecEdit (f + 1) ed cmd arg = some (rc, ed'))
    (i : Nat) (b : Buf) (hi : 1 ≤ i) (hb : ed.bufs.getD i none = some b) (hd : (modified b.lb).1 = true) :
    ∃ edm, HoldsCopy edm b ∧
      (ed' = edm ∨
        ((plusSplit arg).1.headD 0 = 43 ∧ exCommand f edm ((plusSplit arg).1.drop 1) = some (rc, ed'))) := by
  have hheld : HeldTail ed (bufView b) := heldTail_of_getD (k := i) (by omega) (by rw [hb]; rfl)
  obtain ⟨edm, hm, hor⟩ := ecEdit_core f ed ed' cmd arg rc (bufView b) hwa haw hd hheld h
  refine ⟨edm, holdsCopy_of_held hm, ?_⟩
  rcases hor with hor | hor
  · exact Or.inl hor
  · unfold editPlus at hor
    split at hor
    · rename_i h43
      exact Or.inr ⟨by simpa using h43, hor⟩
    · cases hor; exact Or.inl rfl

/-- **F3, no `+cmd`** (the argument does not start with `+`): `writeany` and `autowrite` off.  For EVERY
    result `ecEdit (f+1) ed cmd arg = some (rc, ed')` — whatever the command word, with or without `!`,
    whether the command succeeded, was refused or failed — and every slot `i ≥ 1` holding a buffer `b`
    with unsaved changes: some slot `k` of `ed'` holds a buffer with the same id, path and text, still
    modified.  `:e` never makes a modified non-current buffer disappear or change. -/
theorem ecEdit_keeps_modified_buffers_noplus (f : Nat) (ed ed' : Ed) (cmd arg : Bytes) (rc : Int)
    (hwa : ed.xwa = 0) (haw : ed.xaw = 0) (hplus : (arg.dropWhile (· == 32)).headD 0 ≠ 43)
    (h : ecEdit (f + 1) ed cmd arg = some (rc, ed'))
    (i : Nat) (b : Buf) (hi : 1 ≤ i) (hb : ed.bufs.getD i none = some b) (hd : (modified b.lb).1 = true) :
    ∃ k b', ed'.bufs.getD k none = some b' ∧ b'.id = b.id ∧ b'.path = b.path ∧ b'.lb.lines = b.lb.lines ∧
      (modified b'.lb).1 = true := by
  obtain ⟨edm, ⟨k, b', h1, h2, h3, h4, h5⟩, hor⟩ :=
    ecEdit_keeps_modified_buffers_upto_plus f ed ed' cmd arg rc hwa haw h i b hi hb hd
  have hed : ed' = edm := by
    rcases hor with hor | ⟨h43, _⟩
    · exact hor
    · rw [plusSplit_noplus arg hplus] at h43
      exact absurd h43 (by decide)
  subst hed
  exact ⟨k, b', h1, h2, h3, h4, by rw [h5, hd]⟩

/-- the same through the dispatcher: `:e`, `:e!`, `:ew`, … as `ex_exec` runs them -/
theorem e_keeps_modified_buffers_noplus (f : Nat) (ed ed' : Ed) (loc cmd arg : Bytes) (txt : Option Bytes) (rc : Int)
    (hwa : ed.xwa = 0) (haw : ed.xaw = 0) (hplus : (arg.dropWhile (· == 32)).headD 0 ≠ 43)
    (h : runCmd (f + 2) ed "ec_edit" loc cmd arg txt = some (rc, ed'))
    (i : Nat) (b : Buf) (hi : 1 ≤ i) (hb : ed.bufs.getD i none = some b) (hd : (modified b.lb).1 = true) :
    ∃ k b', ed'.bufs.getD k none = some b' ∧ b'.id = b.id ∧ b'.path = b.path ∧ b'.lb.lines = b.lb.lines ∧
      (modified b'.lb).1 = true := by
  rw [runCmd_edit] at h
  exact ecEdit_keeps_modified_buffers_noplus f ed ed' cmd arg rc hwa haw hplus h i b hi hb hd

/- OPEN PART, and why it stays open.  The full statement

     theorem ecEdit_keeps_modified_buffers (f ed ed' cmd arg rc) (hwa : ed.xwa = 0) (haw : ed.xaw = 0)
       (h : ecEdit (f + 1) ed cmd arg = some (rc, ed')) (i b) (hi : 1 ≤ i)
       (hb : ed.bufs.getD i none = some b) (hd : (modified b.lb).1 = true) :
       ∃ k b', ed'.bufs.getD k none = some b' ∧ b'.id = b.id ∧ b'.path = b.path ∧
         b'.lb.lines = b.lb.lines ∧ (modified b'.lb).1 = true

   is FALSE in the model (and in the C code): the `+cmd` of `:e +cmd path` is an arbitrary command
   line handed to `ex_command`, and `:b !` (`bufs_shift`) drops the current buffer without any guard, and
   `:b ~` renumbers the ids.  `plus_cmd_may_drop` below is the counterexample and
   `ecEdit_keeps_modified_buffers_full_is_false` the refutation.  What holds for the `+cmd`
   forms is `ecEdit_keeps_modified_buffers_upto_plus`: `ec_edit` itself loses nothing; what happens
   afterwards is the business of the command given after `+`. -/

/-- the current buffer: without `!` (and `writeany`, `autowrite` off) a modified current buffer makes
    `:e` return 1 at the first guard; the state differs from the initial one only by the bumped counter
    of slot 0 and the message "buffer modified" (this is `C02.Ex.edit_refused_when_dirty`); with `!`
    the user asked for the changes to be discarded -/
theorem ecEdit_refuses_modified_current (f : Nat) (ed : Ed) (cmd arg : Bytes) (b : Buf)
    (hb : ed.bufs.getD 0 none = some b) (hd : (modified b.lb).1 = true)
    (haw : ed.xaw = 0) (hwa : ed.xwa = 0) (hbang : hasBang cmd = false) :
    ecEdit (f + 1) ed cmd arg = some (1, (bumpAt ed 0 b).show (strOf "buffer modified")) ∧
    SlotsKept ed ((bumpAt ed 0 b).show (strOf "buffer modified")) ∧
    ((bumpAt ed 0 b).show (strOf "buffer modified")).files = ed.files :=
  ⟨C02.Ex.edit_refused_when_dirty f ed cmd arg b hb hd haw hwa hbang,
    slotsKept_of_sameTable ((sameTable_bumpAt ed 0 b hb).trans (sameTable_show _ _)), rfl⟩

/-- altogether, without `!` and without `+cmd`: EVERY modified buffer of the table — the current one
    included — is still in the table after `:e`, whatever its result -/
theorem ecEdit_keeps_all_modified_buffers_nobang_noplus (f : Nat) (ed ed' : Ed) (cmd arg : Bytes) (rc : Int)
    (hwa : ed.xwa = 0) (haw : ed.xaw = 0) (hbang : hasBang cmd = false)
    (hplus : (arg.dropWhile (· == 32)).headD 0 ≠ 43)
    (h : ecEdit (f + 1) ed cmd arg = some (rc, ed'))
    (i : Nat) (b : Buf) (hb : ed.bufs.getD i none = some b) (hd : (modified b.lb).1 = true) :
    ∃ k b', ed'.bufs.getD k none = some b' ∧ b'.id = b.id ∧ b'.path = b.path ∧ b'.lb.lines = b.lb.lines ∧
      (modified b'.lb).1 = true := by
  cases i with
  | succ j => exact ecEdit_keeps_modified_buffers_noplus f ed ed' cmd arg rc hwa haw hplus h (j + 1) b (by omega) hb hd
  | zero =>
    obtain ⟨he, hk, _⟩ := ecEdit_refuses_modified_current f ed cmd arg b hb hd haw hwa hbang
    rw [he] at h
    cases h
    obtain ⟨b', h1, h2, h3, h4, h5⟩ := (hk.2 0).2 b hb
    exact ⟨0, b', h1, h3, h2, h4, by rw [h5, hd]⟩

/-! ## F4: non-vacuity

The mutual block of `ecEdit` is compiled by well-founded recursion; `ecEdit_stages` turns a call into
its (kernel-evaluable) stages first. -/

/-- buffer number `i`: path the letter `a + i`, one line of text, id `i + 1`; `dirty`: `lbuf_unsaved` -/
def mkBuf (i : Nat) (dirty : Bool) : Buf :=
  { path := [97 + i], lb := if dirty then unsavedMark { lines := [[120, 10]] } else { lines := [[120, 10]] },
    id := i + 1 }

/-- sixteen named buffers `a` … `p`, all slots in use; the last one (`p`) modified or not -/
def ed16 (lastDirty : Bool) : Ed :=
  { bufs := (List.range 16).map (fun i => some (mkBuf i (i == 15 && lastDirty))), bufsCnt := 16 }

/-- what the examples observe of a result: return code and message; (path, id, dirty) slot by slot; the
    text slot by slot -/
def exRc (r : Int × Ed) : Int × Bytes := (r.1, r.2.msg)
def exTab (r : Int × Ed) : List (Option (Bytes × Int × Bool)) :=
  r.2.bufs.map (·.map (fun b => (b.path, b.id, (modified b.lb).1)))
def exTexts (r : Int × Ed) : List (Option (List Bytes)) := r.2.bufs.map (·.map (fun b => b.lb.lines))

-- the table is full: `bufs_findroom()` answers the last slot, which holds the modified `p`; no buffer `z`
example : (ed16 true).findRoom = 15 ∧
    ((ed16 true).bufs.getD 15 none).map (fun b => (b.path, (modified b.lb).1)) = some ([112], true) ∧
    (ed16 true).bufsFind [122] = -1 := by decide +kernel

-- `:e z` with the last buffer modified: return code 1, "last buffer modified", all 16 buffers as they were
example :
    (ecEdit 5 (ed16 true) (strOf "e") (strOf "z")).map exRc = some (1, strOf "last buffer modified\n") ∧
    (ecEdit 5 (ed16 true) (strOf "e") (strOf "z")).map exTab =
      some ((List.range 16).map (fun i => some ([97 + i], Int.ofNat (i + 1), i == 15))) ∧
    (ecEdit 5 (ed16 true) (strOf "e") (strOf "z")).map exTexts = some (List.replicate 16 (some [[120, 10]])) := by
  rw [ecEdit_stages]; decide +kernel

example : (runCmd 6 (ed16 true) "ec_edit" [] (strOf "e") (strOf "z") none).map
    (fun r => (r.1, r.2.msg, (r.2.bufs.getD 15 none).map (fun b => (b.path, (modified b.lb).1)))) =
    some (1, strOf "last buffer modified\n", some ([112], true)) := by
  rw [runCmd_edit, ecEdit_stages]; decide +kernel

-- `:e! z` does not override the second guard: `!` is about the current buffer
example : (ecEdit 5 (ed16 true) (strOf "e!") (strOf "z")).map (fun r => (r.1, r.2.msg)) =
    some (1, strOf "last buffer modified\n") := by rw [ecEdit_stages]; decide +kernel

-- with `writeany` the user has asked not to be asked: the last buffer goes
example : (ecEdit 5 { ed16 true with xwa := 1 } (strOf "e") (strOf "z")).map
    (fun r => (r.1, r.2.bufs.map (·.map (·.path)))) =
    some (0, some [122] :: (List.range 15).map (fun i => some [97 + i])) := by
  rw [ecEdit_stages]; decide +kernel

-- the last buffer unmodified: `:e z` succeeds, the new buffer `z` (id 17) is current, `a` … `o` are
-- shifted down by one, `p` — which sat in the last slot — has been replaced
example :
    (ecEdit 5 (ed16 false) (strOf "e") (strOf "z")).map exRc = some (0, []) ∧
    (ecEdit 5 (ed16 false) (strOf "e") (strOf "z")).map exTab =
      some (some ([122], 17, false) :: (List.range 15).map (fun i => some ([97 + i], Int.ofNat (i + 1), false))) ∧
    (ecEdit 5 (ed16 false) (strOf "e") (strOf "z")).map exTexts =
      some (some [] :: List.replicate 15 (some [[120, 10]])) := by
  rw [ecEdit_stages]; decide +kernel

-- the hypotheses of F2 (`ecEdit_refuses_to_drop_modified`) all hold for `:e z` (`e` = 101, `z` = 122)
-- in `ed16 true`
example : ∃ ed1 ed2 path b,
    (ed16 true).xwa = 0 ∧ (ed16 true).xaw = 0 ∧
    C20.editGuard (ed16 true) [101] = some (false, ed1) ∧
    pathExpand ed1 (plusSplit [122]).2 false = some (some path, ed2) ∧
    path ≠ [] ∧ (ed16 true).bufsFind path < 0 ∧
    (ed16 true).bufs.getD (ed16 true).findRoom none = some b ∧ (modified b.lb).1 = true :=
  ⟨bumpAt (ed16 true) 0 (mkBuf 0 false), bumpAt (ed16 true) 0 (mkBuf 0 false), [122], mkBuf 15 true,
    rfl, rfl, rfl, rfl, by decide, by decide +kernel, rfl, by decide +kernel⟩

example : ∃ ed' b', ecEdit 5 (ed16 true) [101] [122] = some (1, ed') ∧
    ed'.bufs.getD 15 none = some b' ∧ b'.lb.lines = [[120, 10]] ∧ b'.path = [112] ∧ b'.id = 16 ∧
    (modified b'.lb).1 = true ∧ SlotsKept (ed16 true) ed' ∧ ed'.files = [] := by
  obtain ⟨ed', b', h1, h2, h3, h4, h5, h6, h7, h8, _⟩ :=
    ecEdit_refuses_to_drop_modified 4 (ed16 true) (bumpAt (ed16 true) 0 (mkBuf 0 false))
      (bumpAt (ed16 true) 0 (mkBuf 0 false)) [101] [122] [122] (mkBuf 15 true)
      rfl rfl rfl rfl (by decide) (by decide +kernel) rfl (by decide +kernel)
  exact ⟨ed', b', h1, h2, h3, h4, h5, h6, h7, h8⟩

/-- three buffers, the second one (`b`, not current) modified -/
def ed3 : Ed :=
  { bufs := [some (mkBuf 0 false), some (mkBuf 1 true), some (mkBuf 2 false)] ++ List.replicate 13 none,
    bufsCnt := 3 }

-- F3 at work where something does happen: `:e! c` (a switch) and `:e z` (a new buffer) keep the modified `b`
example : (ecEdit 5 ed3 (strOf "e!") (strOf "c")).map
    (fun r => (r.1, (r.2.bufs.take 4).map (·.map (fun b => (b.path, (modified b.lb).1))))) =
    some (0, [some ([99], false), some ([97], false), some ([98], true), none]) := by
  rw [ecEdit_stages]; decide +kernel
example : (ecEdit 5 ed3 (strOf "e") (strOf "z")).map
    (fun r => (r.1, (r.2.bufs.take 5).map (·.map (fun b => (b.path, (modified b.lb).1))))) =
    some (0, [some ([122], false), some ([97], false), some ([98], true), some ([99], false), none]) := by
  rw [ecEdit_stages]; decide +kernel

/-- **why F3 stops at the `+cmd`**: `:e +b\ !\|b\ !\|b\ ! z` opens `z` and then runs `:b !` three times;
    `bufs_shift` drops `z`, `a` and the modified `b` without asking.  `writeany` and `autowrite` are off,
    `b` sits in slot 1 ≥ 1 with unsaved changes, the command returns 0, and the only buffer left is `c`:
    the conclusion of F3 fails for the final state (it holds for the state handed to the `+cmd`,
    `ecEdit_keeps_modified_buffers_upto_plus`). -/
theorem plus_cmd_may_drop :
    ed3.xwa = 0 ∧ ed3.xaw = 0 ∧
    (ed3.bufs.getD 1 none).map (fun b => (b.path, (modified b.lb).1)) = some ([98], true) ∧
    (ecEdit 8 ed3 (strOf "e") (strOf "+b\\ !\\|b\\ !\\|b\\ ! z")).map
      (fun r => (r.1, r.2.bufs.map (·.map (·.path)))) =
      some (0, some [99] :: List.replicate 15 none) := by
  refine ⟨rfl, rfl, by decide +kernel, ?_⟩
  have hps : (plusSplit (strOf "+b\\ !\\|b\\ !\\|b\\ ! z")).1 = 43 :: bang3 := by decide +kernel
  rw [ecEdit_stages, hps]
  simp only [editPlus, List.headD_cons, List.drop_succ_cons, List.drop_zero, beq_self_eq_true, if_true,
    exCommand_bang3]
  decide +kernel

/-- the full statement of F3 — for every argument, `+cmd` included — does not hold -/
theorem ecEdit_keeps_modified_buffers_full_is_false :
    ¬ (∀ (f : Nat) (ed ed' : Ed) (cmd arg : Bytes) (rc : Int), ed.xwa = 0 → ed.xaw = 0 →
        ecEdit (f + 1) ed cmd arg = some (rc, ed') →
        ∀ (i : Nat) (b : Buf), 1 ≤ i → ed.bufs.getD i none = some b → (modified b.lb).1 = true →
          ∃ k b', ed'.bufs.getD k none = some b' ∧ b'.id = b.id ∧ b'.path = b.path ∧
            b'.lb.lines = b.lb.lines ∧ (modified b'.lb).1 = true) := by
  intro H
  obtain ⟨_, _, _, hres⟩ := plus_cmd_may_drop
  cases hr : ecEdit 8 ed3 (strOf "e") (strOf "+b\\ !\\|b\\ !\\|b\\ ! z") with
  | none => rw [hr] at hres; cases hres
  | some r =>
    obtain ⟨rc, ed'⟩ := r
    rw [hr] at hres
    simp only [Option.map_some, Option.some.injEq, Prod.mk.injEq] at hres
    obtain ⟨k, b', hb', _, hp, _, _⟩ := H 7 ed3 ed' _ _ rc rfl rfl hr 1 (mkBuf 1 true) (by omega) rfl (by decide)
    have hm : some b' ∈ ed'.bufs := (C20.mem_of_getD _ _ _ hb').1
    have hm2 : some [98] ∈ ed'.bufs.map (·.map (·.path)) :=
      List.mem_map.2 ⟨some b', hm, by simp [hp, mkBuf]⟩
    rw [hres.2] at hm2
    exact absurd hm2 (by decide)

end Neatvi.Props.C02c
