import NeatviVerif.Lemmas.C02dPipe
import NeatviVerif.Props.C02b
/-!
# C02d  A clean buffer is on disk: every buffer of the table, across `:e`, `:b`, `:w`, `:r`, `:q`

C02 / C02b prove that a buffer the editor considers clean has the text of its most recent `lbuf_saved`
(the "ghost"), and — for the current buffer, as long as no command line switches buffers — that this
text is what the file holds.  This file closes the gap for EVERY buffer of the table (current and
parked) and EVERY command line: an invariant `Inv` over the ex model that relates the ghost of each
buffer to the virtual file system `Ed.files`, kept by `:e`, `:e!`, `:e #`, `:b …`, `:w`, `:w other`,
`:w! other`, `:r`, `:q`, `:wq`, `:x`, `:xa`, `:g`, `:@`, the line commands, and lifted to all states
reachable by whole scripts (`exInit`, then `exStep`s over the input queue).

## What "nobody but the editor wrote the path" means in the model

In the model the only writer of `Ed.files` is `lbufSave` (the editor's own `lbuf_save`); every successful
`open` stamps the file with a fresh value of the virtual clock.  A buffer records in `Buf.mtime` the
stamp of its file when it was loaded (`:e`) or last written to its own path (`:w`).  So

    ed.mtimeOf b.path = b.mtime            ("fresh")

says exactly: nobody — no other process (which would change the stamp in the real world), and no OTHER
BUFFER of the editor (`:w other`, `:w! other`, `autowrite`, `:xa`) — wrote the path since this buffer
was loaded or saved.  `save_makes_stale`: whenever a save changes the file system, every buffer of the
table attached to that path is stale afterwards.

## The statement (`clean_means_file_is_text`, `editor_clean_means_file_is_text`)

For every buffer `b` of every reachable state: if `b` reports clean, has a name, is fresh, and its file
exists, then the file holds the buffer's text (`FileIs`: byte for byte, or — after loading — the text is
what `lbuf_rd` makes of the bytes; for a file without NUL that is empty or ends in a newline both mean
`data = lines.flatten`, `clean_text_file_is_exact`).

## What is FALSE (each refuted by a concrete session run in the kernel)

* without "fresh" (`clean_invariant_without_freshness_is_false`, session 1, no `!` anywhere): an unnamed
  buffer written with `:w p` takes the name `p` although another buffer of the table has that name;
  that one reports clean (it is empty and was never touched) while the file holds something else.
* the forced variant (`forced_write_over_open_buffer`, session 2): `:w! p` from another buffer overwrites
  what buffer `p` saved; `p` still reports clean, `:q` quits.  The buffer is stale (1002 ≠ 1003), which
  is what the editor "knows": an unforced `:w` from `p` would be refused (`C03.guard_newer`).
* for a buffer whose file does NOT exist (`clean_invariant_for_missing_files_is_false`, session 3):
  `:e!` on a buffer whose file does not exist keeps the text and calls `lbuf_saved` all the same (so does
  the C: `ec_edit` calls `lbuf_saved` whether or not `open` succeeded).  The buffer reports clean with
  a non-empty text and no file; `:q` quits.  The invariant therefore says nothing about a buffer whose
  file does not exist.

## The user-level corollary (`quit_saved`, `final_q_saved`, `script_final_q_saved`)

If a quit command without `!` (`q`, `wq`, `x`, `xa`) makes the editor quit, then every buffer of the
table is `SavedAt`: it reports clean (so by C02b its text is the text of its last save/load) and, if it
is named, fresh and its file exists, the file holds its text; or it was written by this very command
(`autowrite`, `:xa`) and its file holds its text byte for byte.  Buffers the user dropped earlier with
`:b !`, or told the editor to overwrite with `!`, are outside this statement.

## Scope

* `FsOk` (initial clock ≥ -1, initial files stamped within `[0, clock]`) is needed: a file stamped in the
  future can receive, from a later write, exactly the stamp a buffer recorded for it
  (`clean_invariant_without_fsOk_is_false`, session 7).
* `:w !cmd` (an unnamed buffer used to take the name `!cmd` and be marked saved, although no file was
  written — repaired in the C, 0e9d7ad) is modelled in ex mode: `pipe_write_saves_nothing`.  In vi mode the
  "press a key" protocol after the command's output is not modelled (`Ed.unmodelled`).
-/
namespace Neatvi.Props.C02d
open Neatvi Neatvi.Lbuf Neatvi.LbufIo Neatvi.Ex Neatvi.Props.C01 Neatvi.Lemmas.C02b Neatvi.Lemmas.C02Ex
open Neatvi.Lemmas.C02d

export Neatvi.Lemmas.C02d (FileIs FsOk findF mtimeF Agrees BufOk Core Inv SaveEff CleanSync Held SavedAt
  quitWords sessionS script1 script2 script3 script4 ed5 ed7 runLines edPipe)

/-! ## 1. a file holding a text -/

/-- `FileIs data t` for a text file in the usual sense — no NUL byte; empty or ending in a newline —
    means: the file is the concatenation of the buffer's lines, byte for byte -/
theorem fileIs_exact {data : Bytes} {t : List Bytes} (h : FileIs data t) (h0 : 0 ∉ data)
    (hnl : needNl data = false) : data = t.flatten := by
  rcases h with h | h
  · rw [h, Lemmas.C06b.cstr_nulfree data h0, split_join, hnl]
    simp
  · exact h

/-- both readings are instances: what a whole write leaves, and what loading leaves -/
theorem fileIs_cases (data : Bytes) (t : List Bytes) :
    FileIs data t ↔ (t = splitLines (cstr data) ∨ data = t.flatten) := Iff.rfl

-- a file without its final newline: loaded, the text has one more byte than the file
example : FileIs [97, 98, 99] [[97, 98, 99, 10]] ∧ [97, 98, 99] ≠ [[97, 98, 99, 10]].flatten :=
  ⟨Or.inl (by decide), by decide⟩

/-! ## 2. the invariant and its preservation -/

/-- the invariant, spelled out: the file system has sane time stamps (`FsOk`: clock ≥ -1, every file
    stamped within `[0, clock]`), and every buffer `b` of the table — current or parked —
    * recorded a time stamp not beyond the clock,
    * was built by the lbuf API with some ghost `d` (`LbReach`, C02b: `d` is the text at its most recent
      `lbuf_saved`, `none` after `lbuf_unsaved`), and
    * if `d = some t`, `b` has a name, and `mtime(b.path) = b.mtime`, then the file `b.path`, if it
      exists, holds `t`. -/
theorem inv_iff (ed : Ed) :
    Inv ed ↔
      ((-1 ≤ ed.clock ∧ ∀ f ∈ ed.files, 0 ≤ f.mtime ∧ f.mtime ≤ ed.clock) ∧
        ∀ b, some b ∈ ed.bufs →
          b.mtime ≤ ed.clock ∧
          ∃ d, LbReach b.lb d ∧
            ∀ t, d = some t → b.path ≠ [] → ed.mtimeOf b.path = b.mtime →
              ∀ fl, ed.findFile b.path = some fl → FileIs fl.data t) := Iff.rfl

/-- an editor that has not opened anything yet, over any file system with sane stamps -/
theorem inv_initial (ed0 : Ed) (h0 : ed0.bufs = List.replicate Gen.NBUFS none) (hfs : FsOk ed0.files ed0.clock) :
    Inv ed0 := inv_empty_table ed0 h0 hfs

/-- **every `ec_*` handler keeps the invariant, for every fuel**: `:e`, `:e!`, `:e #`, `:ew` (`ec_edit`),
    `:b …` (`ec_buffer`), `:w`, `:w other`, `:w! other` (`ec_write`), `:r` (`ec_read`), `:q`, `:wq`, `:x`,
    `:xa` with or without `!` (`ec_quit`), `:g`, `:@`, `:!`, `:s`, `:d`, `:pu`, `:u`, … -/
theorem runCmd_keeps (f : Nat) (ed ed' : Ed) (hd : String) (loc cmd arg : Bytes) (txt : Option Bytes) (r : Int)
    (hi : Inv ed) (h : runCmd f ed hd loc cmd arg txt = some (r, ed')) : Inv ed' :=
  Lemmas.C02d.runCmd_keeps hi h

/-- `:e` in all its forms, also with a `+cmd` -/
theorem ecEdit_keeps (f : Nat) (ed ed' : Ed) (cmd arg : Bytes) (r : Int) (hi : Inv ed)
    (h : ecEdit f ed cmd arg = some (r, ed')) : Inv ed' := Lemmas.C02d.ecEdit_keeps hi h

/-- `:w` in all its forms: to the own path, to another path, forced, a range, by an unnamed buffer -/
theorem ecWrite_keeps (ed ed' : Ed) (loc cmd arg : Bytes) (r : Int) (hi : Inv ed)
    (h : ecWrite ed loc cmd arg = some (r, ed')) : Inv ed' := inv_kept.ecWrite hi h

/-- a whole command line, at every point the caller can observe (also inside `:g` and `:@`) -/
theorem exExec_keeps (f : Nat) (ed ed' : Ed) (ln : Bytes) (r : Int) (hi : Inv ed)
    (h : exExec f ed ln = some (r, ed')) : Inv ed' := Lemmas.C02d.exExec_keeps hi h

theorem exCommand_keeps (f : Nat) (ed ed' : Ed) (ln : Bytes) (r : Int) (hi : Inv ed)
    (h : exCommand f ed ln = some (r, ed')) : Inv ed' := inv_kept.exCommand hi h

/-- one round of the `ex()` loop -/
theorem exStep_keeps (ed ed' : Ed) (r : Int) (hi : Inv ed) (h : exStep ed = some (r, ed')) : Inv ed' :=
  Lemmas.C02d.exStep_keeps hi h

theorem exInit_keeps (ed ed' : Ed) (files : List Bytes) (r : Int) (hi : Inv ed)
    (h : exInit ed files = some (r, ed')) : Inv ed' := Lemmas.C02d.exInit_keeps hi h

/-- **whole scripts**: every state reached by starting the editor on any files and running any number
    of rounds of the `ex()` loop over any input queue satisfies the invariant — like
    `C02b.editor_buffers_satisfy_invariant_full`, now with the file system -/
theorem editor_files_invariant (ed0 : Ed) (files : List Bytes) (n : Nat) (rc : Int) (ed1 ed : Ed)
    (h0 : ed0.bufs = List.replicate Gen.NBUFS none) (hfs : FsOk ed0.files ed0.clock)
    (hinit : exInit ed0 files = some (rc, ed1)) (hrun : C02.Ex.exRun n ed1 = some ed) : Inv ed :=
  reachable_inv ed0 files n rc ed1 ed h0 hfs hinit hrun

/-- the same for a list of command lines run through `ex_command` one after the other (`runLines`), from
    any state satisfying the invariant -/
theorem runLines_keeps (f : Nat) (lns : List Bytes) (ed ed' : Ed) (hi : Inv ed)
    (h : runLines f lns ed = some ed') : Inv ed' := by
  induction lns generalizing ed with
  | nil => cases h; exact hi
  | cons ln r ih =>
    rw [runLines] at h
    split at h
    · cases h
    · rename_i hc
      exact ih _ (inv_kept.exCommand hi hc) h

-- the hypotheses are met: the default editor state with the script of session 4 in its queue
example : ∃ rc ed1 ed, ({ input := script4 } : Ed).bufs = List.replicate Gen.NBUFS none ∧
    FsOk ({ input := script4 } : Ed).files ({ input := script4 } : Ed).clock ∧
    exInit { input := script4 } [[112]] = some (rc, ed1) ∧ C02.Ex.exRun 2 ed1 = some ed := by
  obtain ⟨rc, ed1, ed, _, _, h1, h2, _⟩ := session4
  exact ⟨rc, ed1, ed, rfl, fsOk_default, h1, h2⟩

/-! ## 3. clean means: the file is the text -/

/-- **the clean flag is sound against the file system, for every buffer of the table**: in a state that
    satisfies the invariant, a buffer (in any slot) that reports clean, has a name, and whose file still
    carries the time stamp the buffer recorded, has the text the file holds — if the file exists -/
theorem clean_means_file_is_text (ed : Ed) (hi : Inv ed) (i : Nat) (b : Buf) (hb : ed.bufs.getD i none = some b)
    (hc : (modified b.lb).1 = false) (hne : b.path ≠ []) (hfresh : ed.mtimeOf b.path = b.mtime)
    (fl : File) (hfl : ed.findFile b.path = some fl) : FileIs fl.data b.lb.lines :=
  (cleanSync_of_inv hi (C20.mem_of_getD _ _ _ hb).1 hc).2 hne hfresh fl hfl

/-- the same for every state a script can reach -/
theorem editor_clean_means_file_is_text (ed0 : Ed) (files : List Bytes) (n : Nat) (rc : Int) (ed1 ed : Ed)
    (h0 : ed0.bufs = List.replicate Gen.NBUFS none) (hfs : FsOk ed0.files ed0.clock)
    (hinit : exInit ed0 files = some (rc, ed1)) (hrun : C02.Ex.exRun n ed1 = some ed)
    (i : Nat) (b : Buf) (hb : ed.bufs.getD i none = some b)
    (hc : (modified b.lb).1 = false) (hne : b.path ≠ []) (hfresh : ed.mtimeOf b.path = b.mtime)
    (fl : File) (hfl : ed.findFile b.path = some fl) : FileIs fl.data b.lb.lines :=
  clean_means_file_is_text ed (editor_files_invariant ed0 files n rc ed1 ed h0 hfs hinit hrun) i b hb hc hne hfresh fl hfl

/-- contrapositive: while the (fresh, existing) file and the text differ, the flag says dirty — so `:q`,
    `:e`, `:b` refuse (C02 Part B) -/
theorem dirty_while_file_differs (ed : Ed) (hi : Inv ed) (i : Nat) (b : Buf) (hb : ed.bufs.getD i none = some b)
    (hne : b.path ≠ []) (hfresh : ed.mtimeOf b.path = b.mtime) (fl : File) (hfl : ed.findFile b.path = some fl)
    (hdiff : ¬ FileIs fl.data b.lb.lines) : (modified b.lb).1 = true :=
  Lemmas.C02d.dirty_while_file_differs ed hi i b hb hne hfresh fl hfl hdiff

-- session 6 (`vi p`, `:a x .`, `:w`, `:a y .`): fresh, the file holds `x\n`, the text is `x\n y\n`: the
-- hypotheses hold and the flag does say dirty
example : ∃ ed b fl, Inv ed ∧ ed.bufs.getD 0 none = some b ∧ b.path ≠ [] ∧ ed.mtimeOf b.path = b.mtime ∧
    ed.findFile b.path = some fl ∧ ¬ FileIs fl.data b.lb.lines ∧ (modified b.lb).1 = true := by
  obtain ⟨rc, ed1, ed, b, fl, h1, h2, hb, hp, hl, hd, hf, hfl, hdat⟩ := session6
  refine ⟨ed, b, fl, editor_files_invariant _ _ _ _ _ _ rfl fsOk_default h1 h2, hb, by rw [hp]; decide, hf, hfl, ?_, hd⟩
  rw [hdat, hl]
  intro h
  rcases h with h | h
  · exact absurd h (by decide)
  · exact absurd h (by decide)

/-- for a text file (no NUL; empty or newline-terminated) the conclusion is equality of bytes -/
theorem clean_text_file_is_exact (ed : Ed) (hi : Inv ed) (i : Nat) (b : Buf) (hb : ed.bufs.getD i none = some b)
    (hc : (modified b.lb).1 = false) (hne : b.path ≠ []) (hfresh : ed.mtimeOf b.path = b.mtime)
    (fl : File) (hfl : ed.findFile b.path = some fl) (h0 : 0 ∉ fl.data) (hnl : needNl fl.data = false) :
    fl.data = b.lb.lines.flatten :=
  fileIs_exact (clean_means_file_is_text ed hi i b hb hc hne hfresh fl hfl) h0 hnl

-- session 4 (`vi p`, `:a x .`, `:w`): all hypotheses hold in the state reached, and the conclusion is
-- what one expects: the file `p` holds `x\n`
example : ∃ ed b fl, Inv ed ∧ ed.bufs.getD 0 none = some b ∧ (modified b.lb).1 = false ∧ b.path ≠ [] ∧
    ed.mtimeOf b.path = b.mtime ∧ ed.findFile b.path = some fl ∧ fl.data = [120, 10] ∧ b.lb.lines = [[120, 10]] := by
  obtain ⟨rc, ed1, ed, b, fl, h1, h2, _, _, _, hb, hp, hl, hd, hf, hfl, hdat⟩ := session4
  exact ⟨ed, b, fl, editor_files_invariant _ _ _ _ _ _ rfl fsOk_default h1 h2, hb, hd, by rw [hp]; decide, hf, hfl, hdat, hl⟩

-- session 5 (a file `abc` without final newline, loaded): the hypotheses hold, `FileIs` holds through its
-- first alternative, and the bytes differ
example : ∃ ed b fl, Inv ed ∧ ed.bufs.getD 0 none = some b ∧ (modified b.lb).1 = false ∧ b.path ≠ [] ∧
    ed.mtimeOf b.path = b.mtime ∧ ed.findFile b.path = some fl ∧ FileIs fl.data b.lb.lines ∧
    fl.data ≠ b.lb.lines.flatten := by
  obtain ⟨rc, ed1, ed, b, fl, h1, h2, hb, hp, hl, hd, hf, hfl, hdat⟩ := session5
  have hi := editor_files_invariant _ _ _ _ _ _ rfl fsOk_ed5 h1 h2
  have hne : b.path ≠ [] := by rw [hp]; decide
  exact ⟨ed, b, fl, hi, hb, hd, hne, hf, hfl, clean_means_file_is_text ed hi 0 b hb hd hne hf fl hfl,
    by rw [hdat, hl]; decide⟩

/-! ### how the premises come about -/

/-- **loading**: the read-and-`lbuf_saved` stage of `:e` (`C02c.editFinish`: a buffer just opened, or the
    current one re-read) leaves the current buffer clean, with the file's stamp recorded ("fresh"), and —
    if it has a name and the file exists — with the text `lbuf_rd` makes of the file -/
theorem load_establishes (ed ed' : Ed) (path : Bytes) (hi : Inv ed) (hf : Lemmas.C02c.editFinish ed path = some ed') :
    ∃ b, ed'.cur = some b ∧ (modified b.lb).1 = false ∧ ed'.mtimeOf b.path = b.mtime ∧
      (b.path ≠ [] → ∀ fl, ed'.findFile b.path = some fl → b.lb.lines = splitLines (cstr fl.data)) := by
  obtain ⟨b, ed5, b5, _, hb, hrd, hb5, rfl, rfl⟩ := Lemmas.C02c.editFinish_cases hf
  obtain ⟨e5, hfl5, hcl5, b', hb', hp', hlines⟩ := editRead_spec hi hb hrd
  rw [hb'] at hb5
  obtain rfl := Option.some.inj hb5
  refine ⟨{ b' with lb := (modified (savedCore b'.lb (!path.isEmpty))).2, mtime := ed5.mtimeOf b'.path }, ?_,
    savedBump_clean _ _, rfl, ?_⟩
  · exact Lemmas.ExFrame.cur_some_set ed5 b' _ hb'
  · intro hne fl hfl
    have hne' : b.path ≠ [] := by rw [← hp']; exact hne
    have hfl' : ed.findFile b.path = some fl := by
      rw [← hp']
      unfold Ed.findFile
      rw [← hfl5]
      exact hfl
    have hl : (modified (savedCore b'.lb (!path.isEmpty))).2.lines = b'.lb.lines := by
      cases (!path.isEmpty) <;> rfl
    show (modified (savedCore b'.lb (!path.isEmpty))).2.lines = _
    rw [hl]
    exact hlines hne' fl hfl'

/-- **writing**: the tail of `ec_write` after a successful `lbuf_save` (`C02.Ex.writeFinish`, see
    `C02.Ex.write_marks_clean_only_if_whole` for how `ec_write` gets there) of the whole buffer to the path
    it has — or takes, if it had none — leaves the current buffer clean and fresh, with its text -/
theorem whole_write_establishes (ed : Ed) (cur : Buf) (path : Bytes) (r : Int) (ed' : Ed)
    (hcur : ed.cur = some cur) (hown : cur.path = path ∨ cur.path = [])
    (hw : writeFinish ed cur path 0 ed.len = some (r, ed')) :
    ∃ c, ed'.cur = some c ∧ c.path = path ∧ c.lb.lines = cur.lb.lines ∧ (modified c.lb).1 = false ∧
      ed'.mtimeOf c.path = c.mtime ∧ ed'.files = ed.files := by
  unfold writeFinish at hw
  by_cases hp : cur.path.isEmpty = true
  · have hlen : Ed.len { ed with regs := ed.regs.put 37 path 0 } = ed.len := rfl
    simp only [hp, if_true, beq_self_eq_true, Bool.true_and, hlen] at hw
    cases hw
    exact ⟨_, Lemmas.ExFrame.cur_some_set _ cur _ hcur, rfl, rfl, savedBump_clean _ false, rfl, rfl⟩
  · have hne : cur.path ≠ [] := fun h => hp (List.isEmpty_iff.2 h)
    have hpp : cur.path = path := by
      rcases hown with h | h
      · exact h
      · exact absurd h hne
    subst hpp
    simp only [hp, Bool.false_eq_true, if_false, beq_self_eq_true, Bool.and_self, if_true] at hw
    cases hw
    exact ⟨_, Lemmas.ExFrame.cur_some_set _ cur _ hcur, rfl, rfl, savedBump_clean _ false, rfl, rfl⟩

/-! ## 4. a write and the other buffers of the same path -/

/-- what a save may change: the file at `path` (which then carries a stamp beyond the old clock), the
    clock (forward), nothing of the buffer table, not the quit flag; files at other paths stay -/
theorem lbufSave_footprint (ed ed' : Ed) (lb : Lb) (b : Nat) (e : Int) (path : Bytes) (force : Bool) (ts : Int)
    (r : Option Bytes) (h : lbufSave ed lb b e path force ts = some (r, ed')) :
    ed'.bufs = ed.bufs ∧ ed.clock ≤ ed'.clock ∧ (∀ q, q ≠ path → ed'.findFile q = ed.findFile q) ∧
    ((ed'.files = ed.files ∧ ed'.clock = ed.clock) ∨ ∃ fl, ed'.findFile path = some fl ∧ ed.clock < fl.mtime) ∧
    ed'.xquit = ed.xquit := by
  have he := lbufSave_eff ed ed' lb b e path force ts r h
  exact ⟨he.bufs, he.clock, he.other, he.self, he.xquit⟩

/-- **`:w other`, `:w! other`, `autowrite`, `:xa` seen from the other buffers**: whenever a save changes the
    file system, every buffer of the table has a recorded stamp older than the file's new one; a
    buffer attached to that path is not "fresh" any more, the invariant makes no claim about it, and
    an unforced `:w` from it is refused (`C03.guard_newer`) -/
theorem save_makes_stale (ed ed' : Ed) (lb : Lb) (b0 : Nat) (e : Int) (path : Bytes) (force : Bool) (ts : Int)
    (r : Option Bytes) (hi : Inv ed) (h : lbufSave ed lb b0 e path force ts = some (r, ed'))
    (hch : ed'.files ≠ ed.files) : ∀ b, some b ∈ ed'.bufs → b.mtime < ed'.mtimeOf path := by
  have he := lbufSave_eff _ _ _ _ _ _ _ _ _ h
  intro b hb
  rw [he.bufs] at hb
  rcases he.self with ⟨hf, _⟩ | ⟨fl, hfl, hgt⟩
  · exact absurd hf hch
  · have h1 : ed'.mtimeOf path = fl.mtime := mtimeF_some hfl
    have := (hi.mem hb).1
    omega

/-- a one-buffer editor: a fresh buffer named `f`, nothing on disk -/
def edOne : Ed := { bufs := [some { path := [102], lb := Lbuf.make }] ++ List.replicate 15 none }

-- the hypotheses of `save_makes_stale` are met: the invariant holds of `edOne`, and saving creates the file
example : Inv edOne ∧ ∃ ed', lbufSave edOne Lbuf.make 0 (-1) [102] false (-1) = some (none, ed') ∧ ed'.files ≠ edOne.files := by
  refine ⟨⟨fsOk_default, ?_⟩, ?_⟩
  · intro b hb
    have : b = { path := [102], lb := Lbuf.make } := by
      simp only [edOne, List.cons_append, List.nil_append, List.mem_cons, Option.some.injEq, List.mem_replicate,
        reduceCtorEq, and_false, or_false] at hb
      exact hb
    subst this
    exact bufOk_fresh fsOk_default _ rfl rfl
  · have hobs : (lbufSave edOne Lbuf.make 0 (-1) [102] false (-1)).map (fun p => (p.1, p.2.files.length)) = some (none, 1) := by
      decide +kernel
    cases hs : lbufSave edOne Lbuf.make 0 (-1) [102] false (-1) with
    | none => rw [hs] at hobs; cases hobs
    | some p =>
      obtain ⟨r, ed'⟩ := p
      rw [hs] at hobs
      simp only [Option.map_some, Option.some.injEq, Prod.mk.injEq] at hobs
      obtain ⟨rfl, hlen⟩ := hobs
      refine ⟨ed', rfl, ?_⟩
      intro heq
      rw [heq] at hlen
      exact absurd hlen (by decide)

/-- **`:w !cmd` saves nothing** (`ec_write` with an argument that starts with `!`, under any command word of
    `ec_write` / `ec_quit`: `w`, `w!`, `wq`, `x`, …; any address; every state; every outcome): no file changes,
    the clock does not move, the quit flag, the id counter and the registers stay, and the buffer table keeps
    its length, its empty slots and every buffer with its path (no buffer is renamed), id, recorded time
    stamp, text and dirty state (no buffer is marked saved).  Unless the command word is `x…` — which tests
    the dirty flag of the current buffer first and thereby bumps its sequence counter — the table is
    unchanged altogether.  What does change: the message, the address side effects (`xrow`, the search
    keyword), and `unmodelled` in vi mode. -/
theorem pipe_write_saves_nothing (ed ed' : Ed) (loc cmd arg : Bytes) (r : Int) (harg : arg.headD 0 = 33)
    (h : ecWrite ed loc cmd arg = some (r, ed')) :
    ed'.files = ed.files ∧ ed'.clock = ed.clock ∧ ed'.xquit = ed.xquit ∧ ed'.bufsCnt = ed.bufsCnt ∧ ed'.regs = ed.regs ∧
    (cmd.headD 0 ≠ 120 → ed'.bufs = ed.bufs) ∧
    ed'.bufs.length = ed.bufs.length ∧
    ∀ i, (ed.bufs.getD i none = none → ed'.bufs.getD i none = none) ∧
      ∀ b, ed.bufs.getD i none = some b → ∃ b', ed'.bufs.getD i none = some b' ∧ b'.path = b.path ∧ b'.id = b.id ∧
        b'.mtime = b.mtime ∧ b'.lb.lines = b.lb.lines ∧ (modified b'.lb).1 = (modified b.lb).1 :=
  Lemmas.C02d.pipe_write_saves_nothing ed ed' loc cmd arg r harg h

-- the hypotheses are met by `:w !cat` on an unnamed buffer with unsaved text (`edPipe`): return code 0, the
-- message `"!cat"  [=1]  [w]`, and — what the theorem says — the buffer is still unnamed and still dirty
example : ∃ ed', [33, 99, 97, 116].headD 0 = 33 ∧ ecWrite edPipe [] [119] [33, 99, 97, 116] = some (0, ed') ∧
    ∃ b', ed'.bufs.getD 0 none = some b' ∧ b'.path = [] ∧ (modified b'.lb).1 = true := by
  have hobs := edPipe_obs
  cases hw : ecWrite edPipe [] [119] [33, 99, 97, 116] with
  | none => rw [hw] at hobs; cases hobs
  | some p =>
    obtain ⟨r, ed'⟩ := p
    rw [hw] at hobs
    simp only [Option.map_some, Option.some.injEq, Prod.mk.injEq] at hobs
    obtain ⟨rfl, _, _, _⟩ := hobs
    obtain ⟨_, _, _, _, _, _, _, hs⟩ := pipe_write_saves_nothing edPipe ed' [] [119] [33, 99, 97, 116] 0 rfl hw
    obtain ⟨b', hb', hp, _, _, _, hd⟩ := (hs 0).2 _ rfl
    exact ⟨ed', rfl, rfl, b', hb', hp, hd⟩

/-! ## 5. what does not hold -/

/-- the statement without "fresh": a clean named buffer whose file exists has the file's text -/
def clean_means_file_is_text_without_freshness_full : Prop :=
  ∀ (ed0 : Ed) (files : List Bytes) (n : Nat) (rc : Int) (ed1 ed : Ed),
    ed0.bufs = List.replicate Gen.NBUFS none → FsOk ed0.files ed0.clock →
    exInit ed0 files = some (rc, ed1) → C02.Ex.exRun n ed1 = some ed →
    ∀ i b, ed.bufs.getD i none = some b → (modified b.lb).1 = false → b.path ≠ [] →
      ∀ fl, ed.findFile b.path = some fl → FileIs fl.data b.lb.lines

/-- **FALSE**, by session 1 — `vi`; `:e p`; `:b #`; `:a` / `x` / `.`; `:w p` — in which no `!` occurs: the
    unnamed buffer is written to the new file `p` and takes that name, while the table already has a
    buffer `p` (empty, clean, recorded stamp -1).  That one is clean, named, its file exists and holds
    `x\n`, its text is empty.  (Nothing is lost here: the buffer never had any text.  The editor could
    refuse the name; it does not, and neither does the C.) -/
theorem clean_invariant_without_freshness_is_false : ¬ clean_means_file_is_text_without_freshness_full := by
  intro H
  obtain ⟨rc, ed1, ed, b, fl, h1, h2, hb, hp, hl, hd, _, hfl, hdat, _⟩ := session1
  have := H { input := script1 } [] 4 rc ed1 ed rfl fsOk_default h1 h2 1 b hb hd (by rw [hp]; decide) fl
    (by rw [hp]; exact hfl)
  rw [hdat, hl] at this
  rcases this with h | h
  · exact absurd h (by decide)
  · exact absurd h (by decide)

/-- the corrected statement is `editor_clean_means_file_is_text`; in session 1 its hypothesis "fresh"
    fails for the buffer in slot 1: it recorded -1, the file carries 1002 -/
theorem session1_slot1_is_stale :
    ∃ rc ed1 ed b, exInit { input := script1 } [] = some (rc, ed1) ∧ C02.Ex.exRun 4 ed1 = some ed ∧
      ed.bufs.getD 1 none = some b ∧ (modified b.lb).1 = false ∧ ed.mtimeOf b.path ≠ b.mtime := by
  obtain ⟨rc, ed1, ed, b, fl, h1, h2, hb, hp, _, hd, hm, hfl, _, hmt⟩ := session1
  refine ⟨rc, ed1, ed, b, h1, h2, hb, hd, ?_⟩
  rw [hp, hm, mtimeOf_eq, mtimeF_some hfl, hmt]
  decide

/-- **a forced write over a file another buffer of the table is attached to** (session 2: `vi p`;
    `:a` / `x` / `.`; `:w`; `:e r`; `:w! p`; `q`): before the `q`, buffer `p` (slot 1) reports clean with the
    text `x\n` it saved, the file `p` is empty, and the buffer is stale (1002 against 1003).  Then `q`
    quits (return code 0, quit flag set), the files are as they were and the table holds the same (path,
    text) pairs: the text `x\n` is in no file.  This is what the user asked for with `!`; without `!` the
    write is refused (`C03.foreign_refused`). -/
theorem forced_write_over_open_buffer :
    ∃ rc ed1 ed b fl ed', exInit { input := script2 } [[112]] = some (rc, ed1) ∧ C02.Ex.exRun 4 ed1 = some ed ∧
      ed.xquit = false ∧ ed.input = [[113]] ∧
      ed.bufs.getD 1 none = some b ∧ b.path = [112] ∧ b.lb.lines = [[120, 10]] ∧ (modified b.lb).1 = false ∧
      ed.findFile [112] = some fl ∧ fl.data = [] ∧ ed.mtimeOf b.path ≠ b.mtime ∧
      exStep ed = some (0, ed') ∧ ed'.xquit = true ∧ ed'.files = ed.files ∧
      (ed'.bufs.map bufKey).Perm (ed.bufs.map bufKey) := by
  obtain ⟨rc, ed1, ed, b, fl, ed', h1, h2, hq, hin, hb, hp, hl, hd, hm, hfl, hdat, hmt, hs, hq', hf', hperm⟩ := session2
  refine ⟨rc, ed1, ed, b, fl, ed', h1, h2, hq, hin, hb, hp, hl, hd, hfl, hdat, ?_, hs, hq', hf', hperm⟩
  rw [hp, hm, mtimeOf_eq, mtimeF_some hfl, hmt]
  decide

/-- the statement one would like for a buffer whose file does not exist: clean, named, fresh, no file ⇒
    the text is empty -/
def clean_means_empty_when_file_missing_full : Prop :=
  ∀ (ed0 : Ed) (files : List Bytes) (n : Nat) (rc : Int) (ed1 ed : Ed),
    ed0.bufs = List.replicate Gen.NBUFS none → FsOk ed0.files ed0.clock →
    exInit ed0 files = some (rc, ed1) → C02.Ex.exRun n ed1 = some ed →
    ∀ i b, ed.bufs.getD i none = some b → (modified b.lb).1 = false → b.path ≠ [] →
      ed.mtimeOf b.path = b.mtime → ed.findFile b.path = none → b.lb.lines = []

/-- **FALSE**, by session 3 — `vi p` (no such file); `:a` / `x` / `.`; `:e!` — : `ec_edit` without a path
    re-reads the file of the current buffer if `open` succeeds, and calls `lbuf_saved` in any case.  With
    no file the text `x\n` stays and is marked saved. -/
theorem clean_invariant_for_missing_files_is_false : ¬ clean_means_empty_when_file_missing_full := by
  intro H
  obtain ⟨rc, ed1, ed, b, ed', h1, h2, _, _, hb, hp, hl, hd, hm, hmt, hfiles, _⟩ := session3
  have hnone : ed.findFile b.path = none := by unfold Ed.findFile; rw [hfiles]; rfl
  have := H { input := script3 } [[112]] 2 rc ed1 ed rfl fsOk_default h1 h2 0 b hb hd (by rw [hp]; decide)
    (by rw [hp, hmt, hm]) hnone
  rw [hl] at this
  exact absurd this (by decide)

/-- … and the `q` that follows quits: the text `x\n` of session 3 is discarded with no file written,
    after the user's `:e!` -/
theorem reload_of_missing_file_then_quit :
    ∃ rc ed1 ed b ed', exInit { input := script3 } [[112]] = some (rc, ed1) ∧ C02.Ex.exRun 2 ed1 = some ed ∧
      ed.xquit = false ∧ ed.input = [[113]] ∧
      ed.bufs.getD 0 none = some b ∧ b.path = [112] ∧ b.lb.lines = [[120, 10]] ∧ (modified b.lb).1 = false ∧
      ed.files = [] ∧ exStep ed = some (0, ed') ∧ ed'.xquit = true ∧ ed'.files = [] := by
  obtain ⟨rc, ed1, ed, b, ed', h1, h2, hq, hin, hb, hp, hl, hd, _, _, hfiles, hs, hq', hf'⟩ := session3
  exact ⟨rc, ed1, ed, b, ed', h1, h2, hq, hin, hb, hp, hl, hd, hfiles, hs, hq', hf'⟩

/-- the main statement without the hypothesis on the initial time stamps -/
def clean_means_file_is_text_without_fsOk_full : Prop :=
  ∀ (ed0 : Ed) (files : List Bytes) (n : Nat) (rc : Int) (ed1 ed : Ed),
    ed0.bufs = List.replicate Gen.NBUFS none →
    exInit ed0 files = some (rc, ed1) → C02.Ex.exRun n ed1 = some ed →
    ∀ i b, ed.bufs.getD i none = some b → (modified b.lb).1 = false → b.path ≠ [] →
      ed.mtimeOf b.path = b.mtime → ∀ fl, ed.findFile b.path = some fl → FileIs fl.data b.lb.lines

/-- **FALSE**, by session 7: the file `p` is stamped 1001 while the clock stands at 1000; `vi p`; `:e r`;
    `:w! p`.  The forced write of the empty buffer stamps the file with clock + 1 = 1001, the very stamp
    buffer `p` recorded: `p` looks fresh, is clean, has the text `a\n`, and the file is empty.  Hence the
    hypothesis `FsOk` (no file stamped beyond the clock) in `editor_files_invariant`. -/
theorem clean_invariant_without_fsOk_is_false : ¬ clean_means_file_is_text_without_fsOk_full := by
  intro H
  obtain ⟨rc, ed1, ed, b, fl, h1, h2, hb, hp, hl, hd, hf, hfl, hdat⟩ := session7
  have := H ed7 [[112]] 2 rc ed1 ed rfl h1 h2 1 b hb hd (by rw [hp]; decide) hf fl hfl
  rw [hdat, hl] at this
  rcases this with h | h
  · exact absurd h (by decide)
  · exact absurd h (by decide)

/-! ## 6. quitting without `!` -/

/-- `SavedAt ed b`, spelled out -/
theorem savedAt_iff (ed : Ed) (b : Buf) :
    SavedAt ed b ↔
      (((modified b.lb).1 = false ∧
        (b.path ≠ [] → ed.mtimeOf b.path = b.mtime → ∀ fl, ed.findFile b.path = some fl → FileIs fl.data b.lb.lines)) ∨
       (∃ fl, ed.findFile b.path = some fl ∧ fl.data = b.lb.lines.flatten)) := Iff.rfl

/-- **a quit command without `!` that quits leaves nothing unsaved in the table**: any command word of
    `ec_quit` without `!` (`q`, `wq`, `x`, `xa`), any address and argument, from a state that satisfies the
    invariant and has the quit flag clear.  If the flag is set afterwards then the invariant still holds
    and every buffer of the table — current or parked — is `SavedAt`: it reports clean and, if named, fresh
    and with an existing file, that file holds its text; or this command wrote it (`autowrite`, `:xa`) and
    its file holds its text byte for byte. -/
theorem quit_saved (f : Nat) (ed ed' : Ed) (loc cmd arg : Bytes) (txt : Option Bytes) (rc : Int)
    (hi : Inv ed) (hbang : hasBang cmd = false) (hq0 : ed.xquit = false)
    (h : runCmd (f + 1) ed "ec_quit" loc cmd arg txt = some (rc, ed')) (hq : ed'.xquit = true) :
    Inv ed' ∧ ∀ j b, ed'.bufs.getD j none = some b → SavedAt ed' b := by
  rw [runCmd_quit] at h
  split at h
  · cases h
  · rename_i rc1 ed1 hw
    have h1 : Inv ed1 ∧ ed1.xquit = false := by
      split at hw
      · exact ⟨inv_kept.ecWrite hi hw, (ecWrite_xquit hw).trans hq0⟩
      · cases hw; exact ⟨hi, hq0⟩
    split at h
    · cases h
      rw [h1.2] at hq; cases hq
    · split at h
      · cases h
      · rename_i ed2 he
        cases h
        rw [each_xquit _ _ _ _ _ _ _ he, h1.2] at hq; cases hq
      · rename_i ed2 he
        cases h
        obtain ⟨hinv2, hdone⟩ := each_done cmd hbang _ _ 0 ed1 ed2 ⟨h1.1, fun j b hj => by omega⟩ (by omega) he
        refine ⟨hinv2.to (by rfl) (by rfl) (by rfl), ?_⟩
        intro j b hb
        exact done_savedAt hinv2 (C20.mem_of_getD _ _ _ hb).1 (hdone j b hb)

-- the hypotheses of `quit_saved` are met by `:q` in the one-buffer editor `edOne` (its buffer is clean)
example : ∃ ed', Inv edOne ∧ hasBang [113] = false ∧ edOne.xquit = false ∧
    runCmd 2 edOne "ec_quit" [] [113] [] none = some (0, ed') ∧ ed'.xquit = true ∧
    ∀ j b, ed'.bufs.getD j none = some b → SavedAt ed' b := by
  have hinv : Inv edOne := by
    refine ⟨fsOk_default, fun b hb => ?_⟩
    have : b = { path := [102], lb := Lbuf.make } := by
      simp only [edOne, List.cons_append, List.nil_append, List.mem_cons, Option.some.injEq, List.mem_replicate,
        reduceCtorEq, and_false, or_false] at hb
      exact hb
    subst this
    exact bufOk_fresh fsOk_default _ rfl rfl
  obtain ⟨e1, hr, _⟩ := C02.Ex.quit_allowed_when_clean 1 edOne [] [113] [] none (by decide) (by decide) (by decide)
    (by decide) (allClean_spec (by decide))
  exact ⟨_, hinv, by decide, rfl, hr, rfl, (quit_saved 1 edOne _ [] [113] [] none 0 hinv (by decide) rfl hr rfl).2⟩

/-- **the final `q` of a script**: one round of the `ex()` loop whose line is `q` (or `wq`, `x`, `xa`) -/
theorem final_q_saved (ed ed' : Ed) (r : Int) (ln : Bytes) (rest : List Bytes) (hi : Inv ed)
    (hq0 : ed.xquit = false) (hin : ed.input = ln :: rest) (hln : ln ∈ quitWords)
    (h : exStep ed = some (r, ed')) (hq : ed'.xquit = true) :
    ∀ j b, ed'.bufs.getD j none = some b → SavedAt ed' b := by
  have hinv' : Inv ed' := exStep_keeps ed ed' r hi h
  obtain ⟨e1, hr, he⟩ := exStep_quit ed ed' r ln rest hin hln h
  have hq1 : e1.xquit = true := by
    rw [he] at hq
    have : (e1.modifiedAt 0).2.xquit = true := hq
    rw [modifiedAt_xquit] at this
    exact this
  obtain ⟨_, hsaved⟩ := quit_saved (FUEL - 3) { ed with input := rest, out := [], msg := [], calls := 0, fired := 0 } e1 [] ln []
    none r (hi.to (by rfl) (by rfl) (by rfl)) (hasBang_quitWords hln) hq0 hr hq1
  intro j b hb
  refine settled_savedAt hinv' (C20.mem_of_getD _ _ _ hb).1 ?_
  have hb' : (e1.modifiedAt 0).2.bufs.getD j none = some b := by rw [he] at hb; exact hb
  obtain ⟨b0, hb0, hp, _, hl, hm⟩ := modifiedAt_slot e1 0 j b hb'
  have hfiles : ed'.files = e1.files := by rw [he]; exact modifiedAt_files e1 0
  rcases (hsaved j b0 hb0).settled with hc | ⟨fl, hfl, hd⟩
  · exact Or.inl (hm.trans hc)
  · refine Or.inr ⟨fl, ?_, by rw [hl]; exact hd⟩
    unfold Ed.findFile
    rw [hfiles, hp]
    exact hfl

/-- **for every script**: start the editor on any files over any file system with sane stamps, run any
    number of rounds of the `ex()` loop over any input; if the next line is `q` (`wq`, `x`, `xa`) and it makes
    the editor quit, every buffer of the table is `SavedAt` — nothing unsaved is discarded by that quit -/
theorem script_final_q_saved (ed0 : Ed) (files : List Bytes) (n : Nat) (rc : Int) (ed1 ed ed' : Ed) (r : Int)
    (ln : Bytes) (rest : List Bytes)
    (h0 : ed0.bufs = List.replicate Gen.NBUFS none) (hfs : FsOk ed0.files ed0.clock)
    (hinit : exInit ed0 files = some (rc, ed1)) (hrun : C02.Ex.exRun n ed1 = some ed)
    (hq0 : ed.xquit = false) (hin : ed.input = ln :: rest) (hln : ln ∈ quitWords)
    (h : exStep ed = some (r, ed')) (hq : ed'.xquit = true) :
    ∀ j b, ed'.bufs.getD j none = some b → SavedAt ed' b :=
  final_q_saved ed ed' r ln rest (editor_files_invariant ed0 files n rc ed1 ed h0 hfs hinit hrun) hq0 hin hln h hq

/-- `q`, `wq`, `x`, `xa` as byte strings -/
theorem quitWords_eq : quitWords = [strOf "q", strOf "wq", strOf "x", strOf "xa"] := by decide +kernel

-- session 4 (`vi p`, `:a x .`, `:w`, then `q`): the hypotheses of `script_final_q_saved` are all met — the
-- `q` does quit — and so every buffer of the final table is `SavedAt`
example : ∃ rc ed1 ed ed', exInit { input := script4 } [[112]] = some (rc, ed1) ∧ C02.Ex.exRun 2 ed1 = some ed ∧
    ed.xquit = false ∧ ed.input = [113] :: [] ∧ [113] ∈ quitWords ∧ exStep ed = some (0, ed') ∧ ed'.xquit = true ∧
    ∀ j b, ed'.bufs.getD j none = some b → SavedAt ed' b := by
  obtain ⟨rc, ed1, ed, b, fl, h1, h2, hq, hin, hcl, _⟩ := session4
  obtain ⟨ed', hs, hq', _, _⟩ := q_quits_when_all_clean ed [] hin hcl
  exact ⟨rc, ed1, ed, ed', h1, h2, hq, hin, by decide, hs, hq',
    script_final_q_saved _ _ _ _ _ _ _ _ _ _ rfl fsOk_default h1 h2 hq hin (by decide) hs hq'⟩

end Neatvi.Props.C02d
