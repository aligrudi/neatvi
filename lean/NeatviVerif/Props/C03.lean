import NeatviVerif.Lemmas.Basics
import NeatviVerif.Model.ExCmd
import NeatviVerif.Props.C01
import NeatviVerif.Lemmas.C02Ex
/-!
# C03  Writes never clobber foreign or newer files; failures surface and stay dirty

`lbuf_save` is described here once, for the lemma files as well (`Lemmas/ExCong.lean`, `C05eA`, `C02dFs`, `C16cEdC` import
this file): its stages (`afterOpen`, `schedOf`, `fuelOf`, `afterWrite`, `saveClose`), the equation `lbufSave_eq`, and
`lbufSave_elim`, the three ways it can end.
-/
namespace Neatvi.Props.C03
open Neatvi Neatvi.Lbuf Neatvi.LbufIo Neatvi.Ex Neatvi.Props.C01

/-! ### names for the intermediate values of `lbufSave` -/

/-- the end line `lbuf_save` uses: a negative `end` means "to the last line" -/
def endLine (lb : Lb) (e : Int) : Nat := if e < 0 then lb.lines.length else e.toNat

/-- both guards of `lbuf_save` let the write through -/
def GuardsPass (ed : Ed) (path : Bytes) (force : Bool) (ts : Int) : Prop :=
  force = true ∨ (¬ ed.mtimeOf path > ts ∧ ¬ (ts ≤ 0 ∧ ed.mtimeOf path ≥ 0))

/-- what the target held before the write -/
def oldData (ed : Ed) (path : Bytes) : Bytes := ((ed.findFile path).map (·.data)).getD []

/-- the state after a successful `open(O_WRONLY | O_CREAT)` -/
def afterOpen (ed : Ed) (path : Bytes) : Ed :=
  let ed1 := ed.nextFault.2
  { ed1.putFile ⟨path, oldData ed1 path, ed1.clock + 1⟩ with clock := ed1.clock + 1 }

/-- the outcomes scheduled for the write calls -/
def schedOf (ed : Ed) (n : Nat) : List WOut :=
  (List.range (n + 8)).map (fun k =>
    match (ed.faults.find? (fun f => f.1 == ed.calls + k)).map (·.2) with
    | some 101 => WOut.err
    | some d => if 49 ≤ d && d ≤ 57 then WOut.cnt (d - 48) else WOut.cnt 1000000000
    | none => WOut.cnt 1000000000)

/-- the fuel the model gives `write_fully` -/
def fuelOf (lb : Lb) : Nat := (lb.lines.foldl (fun m l => max m l.length) Gen.WR_BATCH + 8) * 2

/-- the state after the write calls ended in `st` -/
def afterWrite (ed2 : Ed) (path old : Bytes) (n : Nat) (st : WrState) : Ed :=
  let used := (schedOf ed2 n).length - st.sched.length
  let okCalls := used - (if st.ok then 0 else 1)
  { ed2.putFile ⟨path, fileAfter old st.out (if st.ok then some st.sz else none), ed2.clock + okCalls⟩ with
    clock := ed2.clock + okCalls, calls := ed2.calls + used }

theorem GuardsPass.tests {ed : Ed} {path : Bytes} {force : Bool} {ts : Int} (hg : GuardsPass ed path force ts) :
    (!force && decide (ed.mtimeOf path > ts)) = false ∧
      (!force && decide (ts ≤ 0) && decide (ed.mtimeOf path ≥ 0)) = false := by
  rcases hg with h | ⟨h1, h2⟩
  · subst h
    exact ⟨rfl, rfl⟩
  · refine ⟨by simp [h1], ?_⟩
    simp only [Bool.and_eq_false_iff, decide_eq_false_iff_not, Bool.and_assoc]
    by_cases h3 : ts ≤ 0
    · exact Or.inr (Or.inr fun h4 => h2 ⟨h3, h4⟩)
    · exact Or.inr (Or.inl h3)

/-- the `close` after the write calls ended in `st`, in the state `ed3` they left -/
def saveClose (ed3 : Ed) (st : WrState) : R (Option Bytes) :=
  if !st.ok then some (some (strOf "write failed"), ed3.nextFault.2)
  else if ed3.nextFault.1 == 101 then some (some (strOf "write failed"), ed3.nextFault.2)
     else some (none, ed3.nextFault.2)

/-- `lbufSave` in stages: the two guards, the `open` (`afterOpen`), the write calls (`afterWrite`), the `close` -/
theorem lbufSave_eq (ed : Ed) (lb : Lb) (b : Nat) (e : Int) (path : Bytes) (force : Bool) (ts : Int) :
    lbufSave ed lb b e path force ts =
      if !force && ed.mtimeOf path > ts then some (some (strOf "write failed: file changed"), ed)
      else if !force && ts ≤ 0 && ed.mtimeOf path ≥ 0 then some (some (strOf "write failed: file exists"), ed)
      else if ed.nextFault.1 == 101 then
        some (some (strOf "write failed: cannot create file"), { ed.nextFault.2 with fired := ed.nextFault.2.fired + 1 })
      else
      match wrFinal lb.lines b (endLine lb e) Gen.WR_BATCH (fuelOf lb) (schedOf (afterOpen ed path) (endLine lb e - b)) with
      | none => none
      | some st => saveClose (afterWrite (afterOpen ed path) path (oldData ed.nextFault.2 path) (endLine lb e - b) st) st := by
  unfold lbufSave saveClose
  rfl

theorem lbufSave_eq' (ed : Ed) (lb : Lb) (b : Nat) (e : Int) (path : Bytes) (force : Bool) (ts : Int)
    (hg : GuardsPass ed path force ts) :
    lbufSave ed lb b e path force ts =
      if ed.nextFault.1 == 101 then
        some (some (strOf "write failed: cannot create file"), { ed.nextFault.2 with fired := ed.nextFault.2.fired + 1 })
      else
      match wrFinal lb.lines b (endLine lb e) Gen.WR_BATCH (fuelOf lb) (schedOf (afterOpen ed path) (endLine lb e - b)) with
      | none => none
      | some st =>
        let ed3 := afterWrite (afterOpen ed path) path (oldData ed.nextFault.2 path) (endLine lb e - b) st
        if !st.ok then some (some (strOf "write failed"), ed3.nextFault.2)
        else if ed3.nextFault.1 == 101 then some (some (strOf "write failed"), ed3.nextFault.2)
           else some (none, ed3.nextFault.2) := by
  obtain ⟨h1, h2⟩ := hg.tests
  rw [lbufSave_eq, if_neg (by rw [h1]; exact Bool.false_ne_true), if_neg (by rw [h2]; exact Bool.false_ne_true)]
  rfl

/-- the three ways `lbufSave` can end once the guards and the open have passed -/
theorem lbufSave_cases (ed : Ed) (lb : Lb) (b : Nat) (e : Int) (path : Bytes) (force : Bool) (ts : Int)
    (hg : GuardsPass ed path force ts) (ho : ed.nextFault.1 ≠ 101) :
    (wrFinal lb.lines b (endLine lb e) Gen.WR_BATCH (fuelOf lb) (schedOf (afterOpen ed path) (endLine lb e - b)) = none ∧
      lbufSave ed lb b e path force ts = none) ∨
    ∃ st, wrFinal lb.lines b (endLine lb e) Gen.WR_BATCH (fuelOf lb) (schedOf (afterOpen ed path) (endLine lb e - b)) = some st ∧
      let ed3 := afterWrite (afterOpen ed path) path (oldData ed.nextFault.2 path) (endLine lb e - b) st
      ((st.ok = false ∧ lbufSave ed lb b e path force ts = some (some (strOf "write failed"), ed3.nextFault.2)) ∨
       (st.ok = true ∧ ed3.nextFault.1 = 101 ∧
          lbufSave ed lb b e path force ts = some (some (strOf "write failed"), ed3.nextFault.2)) ∨
       (st.ok = true ∧ ed3.nextFault.1 ≠ 101 ∧ lbufSave ed lb b e path force ts = some (none, ed3.nextFault.2))) := by
  rw [lbufSave_eq' ed lb b e path force ts hg, if_neg (fun h => ho (eq_of_beq h))]
  cases hw : wrFinal lb.lines b (endLine lb e) Gen.WR_BATCH (fuelOf lb) (schedOf (afterOpen ed path) (endLine lb e - b)) with
  | none => left; exact ⟨rfl, rfl⟩
  | some st =>
    right
    refine ⟨st, rfl, ?_⟩
    simp only []
    cases hok : st.ok with
    | false => left; simp
    | true =>
      right
      by_cases hc : (afterWrite (afterOpen ed path) path (oldData ed.nextFault.2 path) (endLine lb e - b) st).nextFault.1 = 101
      · left; simp [hc]
      · right; simp [hc]

/-- once the guards and the open have passed and the write calls have ended in `st`, the save succeeds
    exactly when no write failed and the `close` does not fail -/
theorem lbufSave_written (ed : Ed) (lb : Lb) (b : Nat) (e : Int) (path : Bytes) (force : Bool) (ts : Int)
    (hg : GuardsPass ed path force ts) (ho : ed.nextFault.1 ≠ 101) (st : WrState)
    (hw : wrFinal lb.lines b (endLine lb e) Gen.WR_BATCH (fuelOf lb)
      (schedOf (afterOpen ed path) (endLine lb e - b)) = some st) :
    lbufSave ed lb b e path force ts =
      some (if st.ok = true ∧
            (afterWrite (afterOpen ed path) path (oldData ed.nextFault.2 path) (endLine lb e - b) st).nextFault.1 ≠ 101
          then none else some (strOf "write failed"),
        (afterWrite (afterOpen ed path) path (oldData ed.nextFault.2 path) (endLine lb e - b) st).nextFault.2) := by
  rw [lbufSave_eq' ed lb b e path force ts hg, if_neg (fun h => ho (eq_of_beq h)), hw]
  cases hok : st.ok with
  | false => simp [hok]
  | true =>
    by_cases hc : (afterWrite (afterOpen ed path) path (oldData ed.nextFault.2 path) (endLine lb e - b) st).nextFault.1 = 101
    · simp [hok, hc]
    · simp [hok, hc]

/-! ### 1-3: the guards and the open -/

/-- a file that is newer than the buffer's time stamp is never overwritten without `!`: the save is
    refused and nothing changes -/
theorem guard_newer (ed : Ed) (lb : Lb) (b : Nat) (e : Int) (path : Bytes) (ts : Int)
    (h : ed.mtimeOf path > ts) :
    lbufSave ed lb b e path false ts = some (some (strOf "write failed: file changed"), ed) := by
  unfold lbufSave
  simp [h]

/-- a file that exists and was not read by this buffer (`ts ≤ 0`) is never overwritten without `!`:
    the save is refused and nothing changes -/
theorem guard_foreign (ed : Ed) (lb : Lb) (b : Nat) (e : Int) (path : Bytes) (ts : Int)
    (hts : ts ≤ 0) (hex : ed.mtimeOf path ≥ 0) (hn : ¬ ed.mtimeOf path > ts) :
    lbufSave ed lb b e path false ts = some (some (strOf "write failed: file exists"), ed) := by
  unfold lbufSave
  simp [hts, hex, hn]

/-- when the guards do not pass, the save is refused with the state (hence the file system) unchanged -/
theorem guards_fail (ed : Ed) (lb : Lb) (b : Nat) (e : Int) (path : Bytes) (force : Bool) (ts : Int)
    (h : ¬ GuardsPass ed path force ts) :
    ∃ msg, lbufSave ed lb b e path force ts = some (some msg, ed) := by
  unfold GuardsPass at h
  have hf : force = false := by cases force <;> simp_all
  subst hf
  by_cases h1 : ed.mtimeOf path > ts
  · exact ⟨_, guard_newer ed lb b e path ts h1⟩
  · have h2 : ts ≤ 0 ∧ ed.mtimeOf path ≥ 0 := by
      apply Classical.byContradiction
      intro h3; exact h (Or.inr ⟨h1, h3⟩)
    exact ⟨_, guard_foreign ed lb b e path ts h2.1 h2.2 h1⟩

/-- a failing `open` is reported and leaves every file as it was -/
theorem open_failure_surfaces (ed : Ed) (lb : Lb) (b : Nat) (e : Int) (path : Bytes) (force : Bool) (ts : Int)
    (hg : GuardsPass ed path force ts) (ho : ed.nextFault.1 = 101) :
    ∃ ed', lbufSave ed lb b e path force ts = some (some (strOf "write failed: cannot create file"), ed') ∧
      ed'.files = ed.files ∧ ed'.clock = ed.clock ∧ ed'.bufs = ed.bufs := by
  rw [lbufSave_eq' ed lb b e path force ts hg, if_pos (by rw [ho]; rfl)]
  exact ⟨_, rfl, rfl, rfl, rfl⟩

/-- every way `lbufSave` can end, as one rule: a guard refuses (state untouched), the `open` fails, or the
    write calls end in some `st` and the `close` follows -/
theorem lbufSave_elim {P : Option Bytes → Ed → Prop} {ed ed' : Ed} {lb : Lb} {b : Nat} {e : Int} {path : Bytes}
    {force : Bool} {ts : Int} {r : Option Bytes} (h : lbufSave ed lb b e path force ts = some (r, ed'))
    (refused : ¬ GuardsPass ed path force ts → ∀ msg, P (some msg) ed)
    (noOpen : GuardsPass ed path force ts → ed.nextFault.1 = 101 →
      P (some (strOf "write failed: cannot create file")) { ed.nextFault.2 with fired := ed.nextFault.2.fired + 1 })
    (written : GuardsPass ed path force ts → ed.nextFault.1 ≠ 101 → ∀ st,
      wrFinal lb.lines b (endLine lb e) Gen.WR_BATCH (fuelOf lb) (schedOf (afterOpen ed path) (endLine lb e - b)) = some st →
      P (if st.ok = true ∧
            (afterWrite (afterOpen ed path) path (oldData ed.nextFault.2 path) (endLine lb e - b) st).nextFault.1 ≠ 101
          then none else some (strOf "write failed"))
        (afterWrite (afterOpen ed path) path (oldData ed.nextFault.2 path) (endLine lb e - b) st).nextFault.2) :
    P r ed' := by
  by_cases hg : GuardsPass ed path force ts
  · by_cases ho : ed.nextFault.1 = 101
    · rw [lbufSave_eq' ed lb b e path force ts hg, if_pos (by rw [ho]; rfl)] at h
      cases h
      exact noOpen hg ho
    · cases hw : wrFinal lb.lines b (endLine lb e) Gen.WR_BATCH (fuelOf lb)
          (schedOf (afterOpen ed path) (endLine lb e - b)) with
      | none =>
        rw [lbufSave_eq' ed lb b e path force ts hg, if_neg (fun h => ho (eq_of_beq h)), hw] at h
        cases h
      | some st =>
        rw [lbufSave_written ed lb b e path force ts hg ho st hw] at h
        cases h
        exact written hg ho st hw
  · obtain ⟨msg, h1⟩ := guards_fail ed lb b e path force ts hg
    rw [h1] at h
    cases h
    exact refused hg msg

/-! ### 4: failing writes and a failing close are reported -/

/-- a failing `write` is reported: if the write loop ends with `ok = false` the command never
    reports success -/
theorem write_failure_surfaces (ed : Ed) (lb : Lb) (b : Nat) (e : Int) (path : Bytes) (force : Bool) (ts : Int)
    (hg : GuardsPass ed path force ts) (ho : ed.nextFault.1 ≠ 101) (st : WrState)
    (hw : wrFinal lb.lines b (endLine lb e) Gen.WR_BATCH (fuelOf lb)
      (schedOf (afterOpen ed path) (endLine lb e - b)) = some st)
    (hok : st.ok = false) :
    ∃ ed', lbufSave ed lb b e path force ts = some (some (strOf "write failed"), ed') := by
  rw [lbufSave_written ed lb b e path force ts hg ho st hw, if_neg (fun h => by rw [hok] at h; cases h.1)]
  exact ⟨_, rfl⟩

/-- a failing `close` after a complete write is reported as well -/
theorem close_failure_surfaces (ed : Ed) (lb : Lb) (b : Nat) (e : Int) (path : Bytes) (force : Bool) (ts : Int)
    (hg : GuardsPass ed path force ts) (ho : ed.nextFault.1 ≠ 101) (st : WrState)
    (hw : wrFinal lb.lines b (endLine lb e) Gen.WR_BATCH (fuelOf lb)
      (schedOf (afterOpen ed path) (endLine lb e - b)) = some st)
    (hc : (afterWrite (afterOpen ed path) path (oldData ed.nextFault.2 path) (endLine lb e - b) st).nextFault.1 = 101) :
    ∃ ed', lbufSave ed lb b e path force ts = some (some (strOf "write failed"), ed') := by
  rw [lbufSave_written ed lb b e path force ts hg ho st hw, if_neg (fun h => h.2 hc)]
  exact ⟨_, rfl⟩

/-! ### 5: success means the file holds exactly the lines -/

theorem wrFinal_ok_exact (lines : List Bytes) (b e batch fuel : Nat) (sched : List WOut) (st : WrState)
    (h : wrFinal lines b e batch fuel sched = some st) (hok : st.ok = true) :
    st.out = ((lines.drop b).take (e - b)).flatten ∧ st.sz = ((lines.drop b).take (e - b)).flatten.length ∧
      e ≤ lines.length :=
  wrFinal_exact lines b e batch fuel sched st h hok

theorem find_put_aux (fs : List File) (f : File) :
    (if fs.any (fun g => g.path == f.path) then fs.map (fun g => if g.path == f.path then f else g)
      else fs ++ [f]).find? (fun g => g.path == f.path) = some f := by
  induction fs with
  | nil => simp
  | cons g fs ih =>
    by_cases hg : (g.path == f.path) = true
    · simp only [List.any_cons, hg, Bool.true_or, if_true, List.map_cons]
      rw [List.find?_cons_of_pos (by simp)]
    · have hg' : (g.path == f.path) = false := by simpa using hg
      simp only [List.any_cons, hg', Bool.false_or, List.map_cons, Bool.false_eq_true, if_false,
        List.cons_append]
      by_cases ha : fs.any (fun g => g.path == f.path) = true
      · rw [if_pos ha] at ih ⊢
        rw [List.find?_cons_of_neg (by simpa using hg')]
        exact ih
      · rw [if_neg ha] at ih ⊢
        rw [List.find?_cons_of_neg (by simpa using hg')]
        exact ih

theorem findFile_putFile (ed : Ed) (f : File) : (ed.putFile f).findFile f.path = some f := by
  have := find_put_aux ed.files f
  unfold Ed.putFile Ed.findFile
  by_cases ha : ed.files.any (fun g => g.path == f.path) = true
  · rw [if_pos ha] at this ⊢; exact this
  · rw [if_neg ha] at this ⊢; exact this

theorem putFile_faults (ed : Ed) (f : File) : (ed.putFile f).faults = ed.faults := by
  unfold Ed.putFile; split <;> rfl
theorem putFile_calls (ed : Ed) (f : File) : (ed.putFile f).calls = ed.calls := by
  unfold Ed.putFile; split <;> rfl
theorem putFile_clock (ed : Ed) (f : File) : (ed.putFile f).clock = ed.clock := by
  unfold Ed.putFile; split <;> rfl
theorem putFile_bufs (ed : Ed) (f : File) : (ed.putFile f).bufs = ed.bufs := by
  unfold Ed.putFile; split <;> rfl

theorem findFile_afterWrite (ed2 : Ed) (path old : Bytes) (n : Nat) (st : WrState) :
    ∃ t, ed2.clock ≤ t ∧ ((afterWrite ed2 path old n st).nextFault.2).findFile path =
      some ⟨path, fileAfter old st.out (if st.ok then some st.sz else none), t⟩ := by
  unfold afterWrite
  extract_lets used okCalls
  exact ⟨_, Int.le_add_of_nonneg_right (Int.natCast_nonneg okCalls), findFile_putFile ed2 ⟨path, _, _⟩⟩

/-- whenever `lbuf_save` reports success, the file holds exactly the written lines, whatever it
    held before and whatever short counts the `write` calls returned -/
theorem success_exact (ed ed' : Ed) (lb : Lb) (b : Nat) (e : Int) (path : Bytes) (force : Bool) (ts : Int)
    (h : lbufSave ed lb b e path force ts = some (none, ed')) :
    (ed'.findFile path).map (·.data) = some (((lb.lines.drop b).take (endLine lb e - b)).flatten) := by
  refine lbufSave_elim (P := fun r ed' => r = none →
      (ed'.findFile path).map (·.data) = some (((lb.lines.drop b).take (endLine lb e - b)).flatten)) h
    (fun _ _ hr => by cases hr) (fun _ _ hr => by cases hr) (fun _ _ st hw hr => ?_) rfl
  have hok : st.ok = true := Classical.byContradiction fun hn => by rw [if_neg (fun h => hn h.1)] at hr; cases hr
  obtain ⟨t, _, ht⟩ := findFile_afterWrite (afterOpen ed path) path (oldData ed.nextFault.2 path) (endLine lb e - b) st
  obtain ⟨h2, h3, _⟩ := wrFinal_ok_exact _ _ _ _ _ _ _ hw hok
  rw [ht]
  simp only [hok, if_true, Option.map_some, Option.some.injEq]
  rw [h3, ← h2, wr_file]

/-! ### 6: short writes are completed -/

/-- no error is scheduled for any call of the command (short counts and other kinds may be) -/
def NoErr (ed : Ed) : Prop := ∀ f ∈ ed.faults, f.2 ≠ 101

theorem nextFault_ne (ed : Ed) (h : NoErr ed) : ed.nextFault.1 ≠ 101 := by
  show (((ed.faults.find? (fun f => f.1 == ed.calls)).map (·.2)).getD 0) ≠ 101
  cases hf : ed.faults.find? (fun f => f.1 == ed.calls) with
  | none => simp
  | some f => simpa using h f (List.mem_of_find?_eq_some hf)

theorem afterOpen_faults (ed : Ed) (path : Bytes) : (afterOpen ed path).faults = ed.faults := by
  unfold afterOpen
  exact putFile_faults ed.nextFault.2 _

theorem afterOpen_clock (ed : Ed) (path : Bytes) : (afterOpen ed path).clock = ed.clock + 1 := rfl

theorem afterOpen_bufs (ed : Ed) (path : Bytes) : (afterOpen ed path).bufs = ed.bufs := by
  unfold afterOpen
  exact putFile_bufs ed.nextFault.2 _

theorem afterWrite_faults (ed2 : Ed) (path old : Bytes) (n : Nat) (st : WrState) :
    (afterWrite ed2 path old n st).faults = ed2.faults := by
  unfold afterWrite
  exact putFile_faults ed2 _

theorem afterWrite_bufs (ed2 : Ed) (path old : Bytes) (n : Nat) (st : WrState) :
    (afterWrite ed2 path old n st).nextFault.2.bufs = ed2.bufs := by
  unfold afterWrite
  exact putFile_bufs ed2 _

/-- without scheduled errors, every scheduled write outcome is a count of at least one byte -/
theorem schedOf_good (ed : Ed) (n : Nat) (h : NoErr ed) : GoodSched (schedOf ed n) := by
  intro o ho
  unfold schedOf at ho
  simp only [List.mem_map, List.mem_range] at ho
  obtain ⟨k, _, hk⟩ := ho
  cases hf : ed.faults.find? (fun f => f.1 == ed.calls + k) with
  | none =>
    rw [hf] at hk
    exact ⟨1000000000, hk.symm, by omega⟩
  | some f =>
    rw [hf] at hk
    have hne : f.2 ≠ 101 := h f (List.mem_of_find?_eq_some hf)
    simp only [Option.map_some] at hk
    split at hk
    · next hd =>
      simp only [Bool.and_eq_true, decide_eq_true_eq] at hd
      exact ⟨f.2 - 48, hk.symm, by omega⟩
    · exact ⟨1000000000, hk.symm, by omega⟩

theorem foldmax_ge (ls : List Bytes) : ∀ init : Nat,
    init ≤ ls.foldl (fun m l => max m l.length) init ∧
    ∀ l ∈ ls, l.length ≤ ls.foldl (fun m l => max m l.length) init :=
  Basics.foldl_max_length_ge ls

theorem fuelOf_covers (lb : Lb) : Gen.WR_BATCH ≤ fuelOf lb ∧ ∀ l ∈ lb.lines, l.length ≤ fuelOf lb := by
  obtain ⟨h1, h2⟩ := foldmax_ge lb.lines Gen.WR_BATCH
  unfold fuelOf
  refine ⟨by omega, ?_⟩
  intro l hl
  have := h2 l hl
  omega

/-- with no error scheduled, the write loop of `lbuf_save` finishes with every byte delivered, for
    all short counts and with the fuel the model supplies -/
theorem wrFinal_completes (ed2 : Ed) (lb : Lb) (b e' : Nat) (h : NoErr ed2) (he : e' ≤ lb.lines.length) :
    ∃ st, wrFinal lb.lines b e' Gen.WR_BATCH (fuelOf lb) (schedOf ed2 (e' - b)) = some st ∧ st.ok = true := by
  obtain ⟨hf, hl⟩ := fuelOf_covers lb
  exact wrFinal_ok lb.lines b e' Gen.WR_BATCH (fuelOf lb) _ he hf hl (schedOf_good ed2 _ h)

/-- short writes are retried until the data is out: if no call of the command has an error
    scheduled, the guards pass and the range lies inside the buffer, `lbuf_save` succeeds -/
theorem short_writes_complete (ed : Ed) (lb : Lb) (b : Nat) (e : Int) (path : Bytes) (force : Bool) (ts : Int)
    (hg : GuardsPass ed path force ts) (hne : NoErr ed) (he : endLine lb e ≤ lb.lines.length) :
    ∃ ed', lbufSave ed lb b e path force ts = some (none, ed') := by
  have ho := nextFault_ne ed hne
  have hne2 : NoErr (afterOpen ed path) := by unfold NoErr; rw [afterOpen_faults]; exact hne
  obtain ⟨st, hw, hok⟩ := wrFinal_completes (afterOpen ed path) lb b (endLine lb e) hne2 he
  have hc := nextFault_ne (afterWrite (afterOpen ed path) path (oldData ed.nextFault.2 path) (endLine lb e - b) st)
    (by unfold NoErr; rw [afterWrite_faults]; exact hne2)
  rw [lbufSave_written ed lb b e path force ts hg ho st hw, if_pos ⟨hok, hc⟩]
  exact ⟨_, rfl⟩

/-- `lbuf_save` never touches the buffer table, whatever its outcome -/
theorem lbufSave_bufs (ed ed' : Ed) (lb : Lb) (b : Nat) (e : Int) (path : Bytes) (force : Bool) (ts : Int)
    (r : Option Bytes) (h : lbufSave ed lb b e path force ts = some (r, ed')) : ed'.bufs = ed.bufs :=
  Lemmas.C02Ex.lbufSave_bufs ed ed' lb b e path force ts r h

/-! ### 7: retrying after a failure -/

theorem mtimeOf_congr (ed1 ed2 : Ed) (path : Bytes) (h : ed1.files = ed2.files) :
    ed1.mtimeOf path = ed2.mtimeOf path := by
  unfold Ed.mtimeOf Ed.findFile; rw [h]

theorem GuardsPass_congr (ed1 ed2 : Ed) (path : Bytes) (force : Bool) (ts : Int) (h : ed1.files = ed2.files) :
    GuardsPass ed1 path force ts → GuardsPass ed2 path force ts := by
  unfold GuardsPass; rw [mtimeOf_congr ed1 ed2 path h]; exact id

/-- a save that fails before or at `open` (a guard refuses, or `open` fails) leaves the file system
    and the clock as they were -/
theorem failure_before_write_keeps_files (ed : Ed) (lb : Lb) (b : Nat) (e : Int) (path : Bytes) (force : Bool) (ts : Int)
    (h : ¬ GuardsPass ed path force ts ∨ ed.nextFault.1 = 101) :
    ∃ msg ed', lbufSave ed lb b e path force ts = some (some msg, ed') ∧ ed'.files = ed.files ∧ ed'.clock = ed.clock := by
  by_cases hg : GuardsPass ed path force ts
  · rcases h with h | h
    · exact absurd hg h
    · obtain ⟨ed', h1, h2, h3, _⟩ := open_failure_surfaces ed lb b e path force ts hg h
      exact ⟨_, ed', h1, h2, h3⟩
  · obtain ⟨msg, h1⟩ := guards_fail ed lb b e path force ts hg
    exact ⟨msg, ed, h1, rfl, rfl⟩

/-- after a failed `open` a retry with the same time stamp succeeds: in any later state with the
    same files and no error scheduled the guards pass again and the save goes through -/
theorem retry_after_open_error_succeeds (ed : Ed) (lb : Lb) (b : Nat) (e : Int) (path : Bytes) (force : Bool) (ts : Int)
    (hg : GuardsPass ed path force ts) (ho : ed.nextFault.1 = 101) (he : endLine lb e ≤ lb.lines.length) :
    ∃ ed', lbufSave ed lb b e path force ts = some (some (strOf "write failed: cannot create file"), ed') ∧
      ∀ ed2 : Ed, ed2.files = ed'.files → NoErr ed2 →
        ∃ ed3, lbufSave ed2 lb b e path force ts = some (none, ed3) := by
  obtain ⟨ed', h1, h2, _, _⟩ := open_failure_surfaces ed lb b e path force ts hg ho
  refine ⟨ed', h1, ?_⟩
  intro ed2 hf hne
  exact short_writes_complete ed2 lb b e path force ts
    (GuardsPass_congr ed ed2 path force ts (by rw [hf, h2]) hg) hne he

/-- once `open` has succeeded the editor itself has stamped the file: whatever happens afterwards
    (success, failed write, failed close), the file's modification time is beyond the old clock -/
theorem mtime_advanced (ed ed' : Ed) (lb : Lb) (b : Nat) (e : Int) (path : Bytes) (force : Bool) (ts : Int)
    (hg : GuardsPass ed path force ts) (ho : ed.nextFault.1 ≠ 101) (r : Option Bytes)
    (h : lbufSave ed lb b e path force ts = some (r, ed')) : ed'.mtimeOf path > ed.clock := by
  have key : ∀ st, (afterWrite (afterOpen ed path) path (oldData ed.nextFault.2 path) (endLine lb e - b) st).nextFault.2.mtimeOf path
      > ed.clock := by
    intro st
    obtain ⟨t, ht, hf⟩ :=
      findFile_afterWrite (afterOpen ed path) path (oldData ed.nextFault.2 path) (endLine lb e - b) st
    unfold Ed.mtimeOf
    rw [hf]
    rw [afterOpen_clock] at ht
    show t > ed.clock
    omega
  exact lbufSave_elim (P := fun _ ed' => ed'.mtimeOf path > ed.clock) h (fun hn => absurd hg hn) (fun _ h1 => absurd h1 ho)
    (fun _ _ st _ => key st)

/-- **the true retry statement of the model (and of the C)**: after a save that failed during
    `write` or `close`, the file carries a time stamp set by the editor itself; since `ec_write`
    passes the buffer's recorded `mtime`, which is updated on success only, a plain retry with the
    old time stamp (any `ts` not beyond the old clock) is refused as "file changed" with nothing
    written; with `!` the retry goes through when no error is scheduled -/
theorem retry_after_write_error_needs_force (ed ed' : Ed) (lb : Lb) (b : Nat) (e : Int) (path : Bytes) (force : Bool)
    (ts : Int) (msg : Bytes)
    (hg : GuardsPass ed path force ts) (ho : ed.nextFault.1 ≠ 101) (hts : ts ≤ ed.clock)
    (h : lbufSave ed lb b e path force ts = some (some msg, ed')) :
    (∀ ed2 : Ed, ed2.files = ed'.files →
      lbufSave ed2 lb b e path false ts = some (some (strOf "write failed: file changed"), ed2)) ∧
    (∀ ed2 : Ed, ed2.files = ed'.files → NoErr ed2 → endLine lb e ≤ lb.lines.length →
      ∃ ed3, lbufSave ed2 lb b e path true ts = some (none, ed3)) := by
  have hm := mtime_advanced ed ed' lb b e path force ts hg ho _ h
  constructor
  · intro ed2 hf
    apply guard_newer
    rw [mtimeOf_congr ed2 ed' path hf]
    omega
  · intro ed2 _ hne he
    exact short_writes_complete ed2 lb b e path true ts (Or.inl rfl) hne he

/-! ### the guards protect every existing file that is not the buffer's own -/

/-- a file that exists is never overwritten by a buffer that did not read it (`ts ≤ 0`) unless
    `!` is given; the state is unchanged.  (The message is "file changed" unless the file's time stamp
    is exactly 0: see `guard_foreign_range`.) -/
theorem foreign_refused (ed : Ed) (lb : Lb) (b : Nat) (e : Int) (path : Bytes) (ts : Int)
    (hts : ts ≤ 0) (hex : ed.mtimeOf path ≥ 0) :
    ∃ msg, lbufSave ed lb b e path false ts = some (some msg, ed) ∧
      (msg = strOf "write failed: file changed" ∨ msg = strOf "write failed: file exists") := by
  by_cases h : ed.mtimeOf path > ts
  · exact ⟨_, guard_newer ed lb b e path ts h, Or.inl rfl⟩
  · exact ⟨_, guard_foreign ed lb b e path ts hts hex h, Or.inr rfl⟩

/-- the second guard ("file exists") is reached only for a file whose time stamp is 0 and `ts = 0`;
    every other existing foreign file is caught by the first guard -/
theorem guard_foreign_range (ed : Ed) (path : Bytes) (ts : Int)
    (hts : ts ≤ 0) (hex : ed.mtimeOf path ≥ 0) (hn : ¬ ed.mtimeOf path > ts) : ed.mtimeOf path = 0 ∧ ts = 0 := by
  omega

/-! ### the `ec_write` level -/

/-- the file system and the buffer table are the same in both states -/
def Frame (ed ed' : Ed) : Prop := ed'.files = ed.files ∧ ed'.bufs = ed.bufs

theorem Frame.refl (ed : Ed) : Frame ed ed := ⟨rfl, rfl⟩
theorem Frame.trans {a b c : Ed} (h1 : Frame a b) (h2 : Frame b c) : Frame a c :=
  ⟨h2.1.trans h1.1, h2.2.trans h1.2⟩

theorem kwdSet_frame (ed : Ed) (k : Option Bytes) (d : Int) : Frame ed (ed.kwdSet k d) := ⟨rfl, rfl⟩

theorem exRegion_frame (ed ed' : Ed) (loc : Bytes) (r : Nat × Int × Int) (h : exRegion ed loc = some (r, ed')) :
    Frame ed ed' := by
  obtain ⟨_, _, _, rfl⟩ := Lemmas.C02Ex.exRegion_addr h
  exact ⟨rfl, rfl⟩

theorem pathExpand_frame (ed ed' : Ed) (src : Bytes) (sp : Bool) (r : Option Bytes)
    (h : pathExpand ed src sp = some (r, ed')) : Frame ed ed' := by
  rcases Lemmas.C02Ex.pathExpand_state ed ed' src sp r h with rfl | ⟨m, rfl⟩ <;> exact ⟨rfl, rfl⟩

/-- the path `ec_write` resolves -/
def writePath (ed : Ed) (arg : Bytes) : R (Option Bytes) :=
  if !arg.isEmpty then pathExpand ed arg true else some (ed.cur.map (·.path), ed)

/-- the line range `ec_write` passes to `lbuf_save` -/
def writeRange (ed : Ed) (loc : Bytes) (b e : Int) : Int × Int :=
  if loc.isEmpty then ((0 : Int), ed.len) else (b, e)

theorem writePath_frame (ed ed1 : Ed) (arg : Bytes) (r : Option Bytes) (h : writePath ed arg = some (r, ed1)) :
    Frame ed ed1 := by
  unfold writePath at h
  split at h
  · exact pathExpand_frame _ _ _ _ _ h
  · cases h; exact Frame.refl _

/-- failures surface and the buffer stays dirty, in the shape of the model: `ec_write` calls `lbuf_save`
    with a path that may be empty (`lbufSaveP`); when that call fails inside `:w`, the command
    returns 1 with the error text shown, and the buffer table is exactly what it was before the
    command (no `lbuf_saved`).  No assumption on the path. -/
theorem ecWrite_failureP (ed ed1 ed2 ed3 : Ed) (loc cmd arg path err : Bytes) (b e : Int) (cur : Buf)
    (hp : writePath ed arg = some (some path, ed1)) (hx : cmd.headD 0 ≠ 120)
    (hr : exRegion ed1 loc = some ((0, b, e), ed2)) (hc : ed2.cur = some cur) (hsh : path.headD 0 ≠ 33)
    (hs : lbufSaveP ed2 cur.lb (writeRange ed2 loc b e).1.toNat (writeRange ed2 loc b e).2 path (hasBang cmd)
      (if cur.path == path then cur.mtime else 0) = some (some err, ed3)) :
    ecWrite ed loc cmd arg = some (1, ed3.show err) ∧ (ed3.show err).bufs = ed.bufs := by
  have f1 := writePath_frame _ _ _ _ hp
  have f2 := exRegion_frame _ _ _ _ hr
  have f3 := Lemmas.C02Ex.lbufSaveP_bufs _ _ _ _ _ _ _ _ _ hs
  refine ⟨?_, ?_⟩
  · have hx' : ¬ (cmd.headD 0 == 120) = true := by simpa using hx
    rw [Lemmas.C02Ex.ecWrite_save (b := (writeRange ed2 loc b e).1) (e := (writeRange ed2 loc b e).2)
      hp (if_neg hx') hr hc hsh rfl]
    simp only [hs]
  · show ed3.bufs = ed.bufs
    rw [f3, f2.2, f1.2]

/-- failures surface and the buffer stays dirty: when `lbuf_save` fails inside `:w` (to a file that
    has a name), the command returns 1 with the error text shown, and the buffer table — the text, the
    undo state that decides `modified`, and the recorded `mtime` of every buffer — is exactly what it
    was before the command (no `lbuf_saved`) -/
theorem ecWrite_failure (ed ed1 ed2 ed3 : Ed) (loc cmd arg path err : Bytes) (b e : Int) (cur : Buf)
    (hp : writePath ed arg = some (some path, ed1)) (hx : cmd.headD 0 ≠ 120)
    (hr : exRegion ed1 loc = some ((0, b, e), ed2)) (hc : ed2.cur = some cur) (hsh : path.headD 0 ≠ 33)
    (hpne : path ≠ [])
    (hs : lbufSave ed2 cur.lb (writeRange ed2 loc b e).1.toNat (writeRange ed2 loc b e).2 path (hasBang cmd)
      (if cur.path == path then cur.mtime else 0) = some (some err, ed3)) :
    ecWrite ed loc cmd arg = some (1, ed3.show err) ∧ (ed3.show err).bufs = ed.bufs :=
  ecWrite_failureP ed ed1 ed2 ed3 loc cmd arg path err b e cur hp hx hr hc hsh
    (by rw [Lemmas.C02Ex.lbufSaveP_of_ne hpne]; exact hs)

/-- **`:w` in a buffer without a name fails**: when the path `ec_write` resolves is empty (no argument
    and the current buffer has no file name), `open("")` fails; the command returns 1, shows
    "write failed: cannot create file", and neither the buffer table nor the file system changes —
    nothing is marked saved, the buffer stays dirty.  (Only a scheduled call is consumed.) -/
theorem ecWrite_unnamed_fails (ed ed1 ed2 : Ed) (loc cmd arg : Bytes) (b e : Int) (cur : Buf)
    (hp : writePath ed arg = some (some [], ed1)) (hx : cmd.headD 0 ≠ 120)
    (hr : exRegion ed1 loc = some ((0, b, e), ed2)) (hc : ed2.cur = some cur) :
    ∃ ed', ecWrite ed loc cmd arg = some (1, ed') ∧
      ed' = (Lemmas.C02Ex.unnamedFail ed2).show (strOf "write failed: cannot create file") ∧
      ed'.msg = ed2.msg ++ strOf "write failed: cannot create file" ++ [10] ∧
      ed'.bufs = ed.bufs ∧ ed'.files = ed.files := by
  have f1 := writePath_frame _ _ _ _ hp
  have f2 := exRegion_frame _ _ _ _ hr
  have h := ecWrite_failureP ed ed1 ed2 (Lemmas.C02Ex.unnamedFail ed2) loc cmd arg [] _ b e cur hp hx hr hc
    (by decide) (Lemmas.C02Ex.lbufSaveP_empty _ _ _ _ _ _)
  refine ⟨_, h.1, rfl, ?_, h.2, ?_⟩
  · show (Lemmas.C02Ex.unnamedFail ed2).msg ++ _ ++ _ = _
    have : (Lemmas.C02Ex.unnamedFail ed2).msg = ed2.msg := by
      unfold Lemmas.C02Ex.unnamedFail; split <;> rfl
    rw [this]
  · show (Lemmas.C02Ex.unnamedFail ed2).files = ed.files
    rw [Lemmas.C02Ex.unnamedFail_files, f2.1, f1.1]

/-- the instance the property speaks about: plain `:w` (no argument) when the current buffer has no
    file name -/
theorem w_unnamed_fails (ed ed2 : Ed) (loc cmd : Bytes) (b e : Int) (c0 cur : Buf)
    (h0 : ed.cur = some c0) (hpath : c0.path = []) (hx : cmd.headD 0 ≠ 120)
    (hr : exRegion ed loc = some ((0, b, e), ed2)) (hc : ed2.cur = some cur) :
    ∃ ed', ecWrite ed loc cmd [] = some (1, ed') ∧
      ed'.msg = ed2.msg ++ strOf "write failed: cannot create file" ++ [10] ∧
      ed'.bufs = ed.bufs ∧ ed'.files = ed.files := by
  have hp : writePath ed [] = some (some [], ed) := by
    unfold writePath
    simp [h0, hpath]
  obtain ⟨ed', h1, _, h3, h4, h5⟩ := ecWrite_unnamed_fails ed ed ed2 loc cmd [] b e cur hp hx hr hc
  exact ⟨ed', h1, h3, h4, h5⟩

/-- `:w path` without `!` never overwrites an existing file that is not the current buffer's own:
    the command fails with the file system and the buffers unchanged -/
theorem ecWrite_foreign_refused (ed ed1 ed2 : Ed) (loc cmd arg path : Bytes) (b e : Int) (cur : Buf)
    (hp : writePath ed arg = some (some path, ed1)) (hx : cmd.headD 0 ≠ 120)
    (hr : exRegion ed1 loc = some ((0, b, e), ed2)) (hc : ed2.cur = some cur) (hsh : path.headD 0 ≠ 33)
    (hbang : hasBang cmd = false) (hforeign : cur.path ≠ path) (hex : ed.mtimeOf path ≥ 0) :
    ∃ ed', ecWrite ed loc cmd arg = some (1, ed') ∧ ed'.files = ed.files ∧ ed'.bufs = ed.bufs := by
  by_cases hpne : path = []
  · -- the empty path: `open("")` fails before anything is written
    subst hpne
    obtain ⟨ed', h1, _, _, h4, h5⟩ := ecWrite_unnamed_fails ed ed1 ed2 loc cmd arg b e cur hp hx hr hc
    exact ⟨ed', h1, h5, h4⟩
  have f1 := writePath_frame _ _ _ _ hp
  have f2 := exRegion_frame _ _ _ _ hr
  have hex2 : ed2.mtimeOf path ≥ 0 := by
    rw [mtimeOf_congr ed2 ed path (by rw [f2.1, f1.1])]; exact hex
  have hts : (if cur.path == path then cur.mtime else 0) = (0 : Int) := by
    have : (cur.path == path) = false := by simpa using hforeign
    simp [this]
  obtain ⟨msg, hs, _⟩ := foreign_refused ed2 cur.lb (writeRange ed2 loc b e).1.toNat (writeRange ed2 loc b e).2 path 0
    (Int.le_refl 0) hex2
  have := ecWrite_failure ed ed1 ed2 ed2 loc cmd arg path msg b e cur hp hx hr hc hsh hpne (by rw [hbang, hts]; exact hs)
  exact ⟨_, this.1, by show ed2.files = ed.files; rw [f2.1, f1.1], this.2⟩

/-! ### non-vacuity -/

def exLb : Lb := { lines := [[97, 10], [98, 99, 10]] }
def exEd : Ed := { files := [⟨[102], [120, 10], 1500⟩, ⟨[103], [], 0⟩], clock := 2000 }
def exView (r : Option Bytes × Ed) : Option Bytes × List File := (r.1, r.2.files)

-- refused: the file is newer than the buffer's time stamp
example : (lbufSave exEd exLb 0 (-1) [102] false 1200).map exView =
    some (some (strOf "write failed: file changed"), exEd.files) := by decide +kernel
-- refused: a foreign file
example : (lbufSave exEd exLb 0 (-1) [102] false 0).map exView =
    some (some (strOf "write failed: file changed"), exEd.files) := by decide +kernel
example : (lbufSave exEd exLb 0 (-1) [103] false 0).map exView =
    some (some (strOf "write failed: file exists"), exEd.files) := by decide +kernel
-- success replaces the content, whatever it was
example : (lbufSave exEd exLb 0 (-1) [102] false 1500).map exView =
    some (none, [⟨[102], [97, 10, 98, 99, 10], 2002⟩, ⟨[103], [], 0⟩]) := by decide +kernel
-- short counts (1 byte, then 2 bytes) are completed
example : (lbufSave { exEd with faults := [(1, 49), (2, 50)] } exLb 0 (-1) [102] false 1500).map exView =
    some (none, [⟨[102], [97, 10, 98, 99, 10], 2004⟩, ⟨[103], [], 0⟩]) := by decide +kernel
-- an `open` error
example : (lbufSave { exEd with faults := [(0, 101)] } exLb 0 (-1) [102] false 1500).map exView =
    some (some (strOf "write failed: cannot create file"), exEd.files) := by decide +kernel
-- a write error after one byte: reported; the file is damaged and stamped
example : (lbufSave { exEd with faults := [(1, 49), (2, 101)] } exLb 0 (-1) [102] false 1500).map exView =
    some (some (strOf "write failed"), [⟨[102], [97, 10], 2002⟩, ⟨[103], [], 0⟩]) := by decide +kernel
-- a close error: reported although the data is complete
example : (lbufSave { exEd with faults := [(2, 101)] } exLb 0 (-1) [102] false 1500).map exView =
    some (some (strOf "write failed"), [⟨[102], [97, 10, 98, 99, 10], 2002⟩, ⟨[103], [], 0⟩]) := by decide +kernel
-- the retry with the old time stamp is refused, the forced retry goes through
example : ((lbufSave { exEd with faults := [(1, 49), (2, 101)] } exLb 0 (-1) [102] false 1500).bind
      (fun r => lbufSave { r.2 with faults := [], calls := 0 } exLb 0 (-1) [102] false 1500)).map exView =
    some (some (strOf "write failed: file changed"), [⟨[102], [97, 10], 2002⟩, ⟨[103], [], 0⟩]) := by decide +kernel
example : ((lbufSave { exEd with faults := [(1, 49), (2, 101)] } exLb 0 (-1) [102] false 1500).bind
      (fun r => lbufSave { r.2 with faults := [], calls := 0 } exLb 0 (-1) [102] true 1500)).map exView =
    some (none, [⟨[102], [97, 10, 98, 99, 10], 2004⟩, ⟨[103], [], 0⟩]) := by decide +kernel

/-- the same at the `:w` level: buffer "f" read at time 1500 -/
def exEd2 : Ed := { bufs := [some { path := [102], lb := exLb, mtime := 1500 }] ++ List.replicate 15 none,
                    files := [⟨[102], [120, 10], 1500⟩, ⟨[103], [], 0⟩], clock := 2000 }
def exView2 (r : Int × Ed) : Int × Bytes × List File × Option Int :=
  (r.1, r.2.msg, r.2.files, r.2.cur.map (·.mtime))

-- `:w` with a write error: rc 1, message, recorded mtime still 1500
example : (ecWrite { exEd2 with faults := [(1, 49), (2, 101)] } [] (strOf "w") []).map exView2 =
    some (1, strOf "write failed\n", [⟨[102], [97, 10], 2002⟩, ⟨[103], [], 0⟩], some 1500) := by decide +kernel
-- a second `:w` is refused: the editor's own partial write made the file "newer"
example : ((ecWrite { exEd2 with faults := [(1, 49), (2, 101)] } [] (strOf "w") []).bind
     (fun r => ecWrite { r.2 with faults := [], calls := 0, msg := [] } [] (strOf "w") [])).map exView2 =
    some (1, strOf "write failed: file changed\n", [⟨[102], [97, 10], 2002⟩, ⟨[103], [], 0⟩], some 1500) := by
  decide +kernel
-- `:w!` repairs the file
example : ((ecWrite { exEd2 with faults := [(1, 49), (2, 101)] } [] (strOf "w") []).bind
     (fun r => ecWrite { r.2 with faults := [], calls := 0, msg := [] } [] (strOf "w!") [])).map exView2 =
    some (0, strOf "\"f\"  [=2]  [w]\n", [⟨[102], [97, 10, 98, 99, 10], 2004⟩, ⟨[103], [], 0⟩], some 2004) := by
  decide +kernel
-- `:w g` onto an existing foreign file is refused
example : (ecWrite exEd2 [] (strOf "w") [103]).map exView2 =
    some (1, strOf "write failed: file exists\n", exEd2.files, some 1500) := by decide +kernel

/-- a buffer without a name (never read from, never written to a file), two lines of text -/
def exEd3 : Ed := { bufs := [some { path := [], lb := exLb }] ++ List.replicate 15 none,
                    files := [⟨[102], [120, 10], 1500⟩, ⟨[103], [], 0⟩], clock := 2000 }

-- the hypotheses of `ecWrite_unnamed_fails` (and of `w_unnamed_fails`) are met by `:w` on that buffer
example : ∃ ed1 ed2 b e cur, writePath exEd3 [] = some (some [], ed1) ∧ (strOf "w").headD 0 ≠ 120 ∧
    exRegion ed1 [] = some ((0, b, e), ed2) ∧ ed2.cur = some cur :=
  ⟨exEd3, exEd3, 0, 1, { path := [], lb := exLb }, rfl, by decide +kernel, rfl, rfl⟩
example : ∃ c0 ed2 b e cur, exEd3.cur = some c0 ∧ c0.path = [] ∧ (strOf "w").headD 0 ≠ 120 ∧
    exRegion exEd3 [] = some ((0, b, e), ed2) ∧ ed2.cur = some cur :=
  ⟨{ path := [], lb := exLb }, exEd3, 0, 1, { path := [], lb := exLb }, rfl, rfl, by decide +kernel, rfl, rfl⟩
-- `:w` in a buffer without a name: rc 1, the message, no file touched, nothing recorded as saved
example : (ecWrite exEd3 [] (strOf "w") []).map exView2 =
    some (1, strOf "write failed: cannot create file\n", exEd3.files, some (-1)) := by decide +kernel
-- ... and the buffer is as dirty as it was (the table is untouched)
example : ((ecWrite exEd3 [] (strOf "w") []).map (fun r => r.2.bufs.map (·.map (fun b => (b.path, b.lb.lines, (modified b.lb).1))))) =
    some (exEd3.bufs.map (·.map (fun b => (b.path, b.lb.lines, (modified b.lb).1)))) := by decide +kernel
-- `:w!` does not help either, and a scheduled `open` error changes nothing visible
example : (ecWrite { exEd3 with faults := [(0, 101)] } [] (strOf "w!") []).map exView2 =
    some (1, strOf "write failed: cannot create file\n", exEd3.files, some (-1)) := by decide +kernel
-- `:w f` from the unnamed buffer still works and gives the buffer its name
example : (ecWrite exEd3 [] (strOf "w!") [102]).map exView2 =
    some (0, strOf "\"f\"  [=2]  [w]\n", [⟨[102], [97, 10, 98, 99, 10], 2002⟩, ⟨[103], [], 0⟩], some 2002) := by
  decide +kernel
example : (ecWrite exEd3 [] (strOf "w!") [102]).bind (fun r => r.2.cur.map (·.path)) = some [102] := by
  decide +kernel

end Neatvi.Props.C03
