import NeatviVerif.Lemmas.HistInv
/-!
# C04  Undo and redo restore exact earlier texts, one step per command

For *every* history of commands (unbounded; proved by an invariant, not by enumeration) the model
of `lbuf.c` never traps and behaves like a zipper of whole texts (`Spec.Zipper`).
-/
namespace Neatvi.Props.C04
open Neatvi Neatvi.Lbuf Neatvi.Spec Neatvi.Lemmas.Hist

/-- one `lbuf_edit(lb, buf, beg, end)` call: `(beg, end, buf)` -/
abbrev Splice := Nat × Nat × Option Bytes

/-- one top-level editor command at the lbuf API -/
inductive HOp where
  | cmd (splices : List (Nat × Nat × Option Bytes))   -- lbuf_edit(buf, beg, end) calls, then the sequence counter is bumped
  | undo                                                -- lbuf_undo, then bump
  | redo                                                -- lbuf_redo, then bump

/-! ### the model run -/

def applySplices : List Splice → Lb → Option Lb
  | [], lb => some lb
  | s :: r, lb =>
    match edit lb s.2.2 s.1 s.2.1 with
    | none => none
    | some lb1 => applySplices r lb1

/-- `(C return code, state)`; `none` = trap -/
def step (lb : Lb) : HOp → Option (Nat × Lb)
  | .cmd ss => (applySplices ss lb).map (fun l => (0, (modified l).2))
  | .undo => (undo lb).map (fun r => (r.1, (modified r.2).2))
  | .redo => (redo lb).map (fun r => (r.1, (modified r.2).2))

def run : List HOp → Lb → Option (List Nat × Lb)
  | [], lb => some ([], lb)
  | op :: r, lb =>
    match step lb op with
    | none => none
    | some x => (run r x.2).map (fun y => (x.1 :: y.1, y.2))

/-! ### the reference run on the zipper of texts -/

/-- does `lbuf_edit` log a history entry for this splice on text `t`? -/
def logsAt (t : Text) (s : Splice) : Bool :=
  !(min s.1 t.length == min s.2.1 t.length && s.2.2.isNone)

/-- the text after the splice (positions clamped to the text) -/
def spliceText (t : Text) (s : Splice) : Text :=
  splice t (min s.1 t.length) (min s.2.1 t.length - min s.1 t.length)
    (match s.2.2 with | none => [] | some x => refLines x)

def refSplice (z : Zipper) (s : Splice) : Zipper :=
  if logsAt z.present s then z.edit (fun t => spliceText t s) else z

def refStep (z : Zipper) : HOp → Nat × Zipper
  | .cmd ss => (0, (ss.foldl refSplice z).commit)
  | .undo => match z.undo with | some z' => (0, z') | none => (1, z)
  | .redo => match z.redo with | some z' => (0, z') | none => (1, z)

def refRun : List HOp → Zipper → List Nat × Zipper
  | [], z => ([], z)
  | op :: r, z => ((refStep z op).1 :: (refRun r (refStep z op).2).1, (refRun r (refStep z op).2).2)

/-- callers never pass an inverted range -/
def GoodOp : HOp → Prop
  | .cmd ss => ∀ s ∈ ss, s.1 ≤ s.2.1
  | _ => True

instance : DecidablePred GoodOp := fun op => by
  cases op <;> unfold GoodOp <;> infer_instance

def Good (ops : List HOp) : Prop := ∀ op ∈ ops, GoodOp op

instance : DecidablePred Good := fun ops => by unfold Good; infer_instance

/-! ### what the reference `cmd` does, spelled out -/

/-- does at least one splice of the command log a history entry (starting from text `t`)? -/
def cmdLogs (t : Text) : List Splice → Bool
  | [] => false
  | s :: r => logsAt t s || cmdLogs (spliceText t s) r

theorem spliceText_nolog (t : Text) (s : Splice) (h : logsAt t s = false) : spliceText t s = t := by
  obtain ⟨b, e, buf⟩ := s
  simp only [logsAt, Bool.not_eq_false', Bool.and_eq_true, beq_iff_eq, Option.isNone_iff_eq_none] at h
  obtain ⟨h1, h2⟩ := h
  subst h2
  simp only [spliceText, h1, Nat.sub_self]
  exact splice_noop t _

theorem refSplice_present (z : Zipper) (s : Splice) : (refSplice z s).present = spliceText z.present s := by
  unfold refSplice
  cases hl : logsAt z.present s with
  | true =>
    simp only [if_true, Zipper.edit]
    cases z.open_ <;> rfl
  | false =>
    simp only [Bool.false_eq_true, if_false]
    exact (spliceText_nolog _ _ hl).symm

theorem fold_present (ss : List Splice) (z : Zipper) :
    (ss.foldl refSplice z).present = ss.foldl spliceText z.present := by
  induction ss generalizing z with
  | nil => rfl
  | cons s r ih => simp only [List.foldl_cons, ih, refSplice_present]

theorem fold_open (ss : List Splice) (z : Zipper) (ho : z.open_ = true) :
    (ss.foldl refSplice z).open_ = true ∧ (ss.foldl refSplice z).past = z.past ∧
      (ss.foldl refSplice z).future = z.future := by
  induction ss generalizing z with
  | nil => exact ⟨ho, rfl, rfl⟩
  | cons s r ih =>
    simp only [List.foldl_cons]
    have h1 : (refSplice z s).open_ = true ∧ (refSplice z s).past = z.past ∧ (refSplice z s).future = z.future := by
      unfold refSplice
      split
      · simp [Zipper.edit, ho]
      · exact ⟨ho, rfl, rfl⟩
    obtain ⟨a, b, c⟩ := ih (refSplice z s) h1.1
    exact ⟨a, by rw [b, h1.2.1], by rw [c, h1.2.2]⟩

theorem fold_nolog (ss : List Splice) (z : Zipper) (h : cmdLogs z.present ss = false) :
    ss.foldl refSplice z = z := by
  induction ss generalizing z with
  | nil => rfl
  | cons s r ih =>
    simp only [cmdLogs, Bool.or_eq_false_iff] at h
    have hz : refSplice z s = z := by simp [refSplice, h.1]
    simp only [List.foldl_cons, hz]
    apply ih
    rw [← spliceText_nolog _ _ h.1]; exact h.2

theorem fold_log (ss : List Splice) (z : Zipper) (ho : z.open_ = false) (h : cmdLogs z.present ss = true) :
    (ss.foldl refSplice z).open_ = true ∧ (ss.foldl refSplice z).past = z.present :: z.past ∧
      (ss.foldl refSplice z).future = [] := by
  induction ss generalizing z with
  | nil => simp [cmdLogs] at h
  | cons s r ih =>
    simp only [List.foldl_cons]
    cases hl : logsAt z.present s with
    | true =>
      have h1 : (refSplice z s).open_ = true ∧ (refSplice z s).past = z.present :: z.past ∧
          (refSplice z s).future = [] := by
        simp [refSplice, hl, Zipper.edit, ho]
      obtain ⟨a, b, c⟩ := fold_open r (refSplice z s) h1.1
      exact ⟨a, by rw [b, h1.2.1], by rw [c, h1.2.2]⟩
    | false =>
      have hz : refSplice z s = z := by simp [refSplice, hl]
      rw [hz]
      apply ih z ho
      simp only [cmdLogs, hl, Bool.false_or] at h
      rw [← spliceText_nolog _ _ hl]; exact h

theorem commit_closed (z : Zipper) (h : z.open_ = false) : z.commit = z := by
  cases z; simp_all [Zipper.commit]

/-- a command that logged at least one entry pushes the old text on `past`, clears `future`, and
    its new present is the old text with all the splices applied -/
theorem refStep_cmd_logs (z : Zipper) (ss : List Splice) (ho : z.open_ = false)
    (h : cmdLogs z.present ss = true) :
    refStep z (.cmd ss) =
      (0, { past := z.present :: z.past, present := ss.foldl spliceText z.present, future := [], open_ := false }) := by
  obtain ⟨_, b, c⟩ := fold_log ss z ho h
  have d := fold_present ss z
  simp only [refStep, Zipper.commit]
  rw [b, c, d]

/-- a command that logged nothing leaves the zipper unchanged -/
theorem refStep_cmd_nolog (z : Zipper) (ss : List Splice) (ho : z.open_ = false)
    (h : cmdLogs z.present ss = false) : refStep z (.cmd ss) = (0, z) := by
  simp only [refStep, fold_nolog ss z h, commit_closed z ho]

/-! ### simulation -/

/-- the state of the model at a command boundary is simulated by the zipper `z` -/
def RunInv (lb : Lb) (z : Zipper) : Prop := z.open_ = false ∧ ∃ pg fg, Inv [] lb z pg fg

theorem RunInv.lines {lb z} (h : RunInv lb z) : lb.lines = z.present := by
  obtain ⟨_, pg, fg, hi⟩ := h; exact hi.present.symm

theorem runInv_make : RunInv Lbuf.make {} := ⟨rfl, [], [], inv_make⟩

theorem inv_bump_closed {T0 lb z pg fg} (h : Inv T0 lb z pg fg) (ho : z.open_ = false) :
    Inv T0 (modified lb).2 z pg fg := by
  have := inv_bump h
  rw [commit_closed z ho] at this
  exact this

theorem RunInv.bump {lb z} (h : RunInv lb z) : RunInv (modified lb).2 z := by
  obtain ⟨ho, pg, fg, hi⟩ := h
  exact ⟨ho, pg, fg, inv_bump_closed hi ho⟩

theorem optLines_ref (buf : Option Bytes) :
    (match buf with | none => [] | some x => refLines x) = optLines buf := by
  cases buf with
  | none => rfl
  | some x => exact refLines_eq x

theorem edit_open (z : Zipper) (f : Text → Text) : (z.edit f).open_ = true := by
  unfold Zipper.edit; split <;> simp_all

/-- a whole command's splices: either nothing was logged and nothing changed, or exactly one new
    group with the current sequence number sits on top of the groups that were below the cursor -/
theorem splices_group (T0 : Text) (ss : List Splice) : ∀ (lb : Lb) (z : Zipper) (pg fg : List Group),
    Inv T0 lb z pg fg → (∀ s ∈ ss, s.1 ≤ s.2.1) →
    ∃ lb', applySplices ss lb = some lb' ∧ lb'.useq = lb.useq ∧
      ((cmdLogs z.present ss = false ∧ lb' = lb) ∨
       (cmdLogs z.present ss = true ∧
          ∃ es, Inv T0 lb' (ss.foldl refSplice z) ((lb.useq, es) :: if z.open_ then pg.tail else pg) [])) := by
  induction ss with
  | nil => intro lb z pg fg _ _; exact ⟨lb, rfl, rfl, Or.inl ⟨rfl, rfl⟩⟩
  | cons s r ih =>
    intro lb z pg fg h hg
    obtain ⟨b, e, buf⟩ := s
    have hbe : b ≤ e := hg (b, e, buf) (by simp)
    have hr : ∀ s ∈ r, s.1 ≤ s.2.1 := fun s hs => hg s (by simp [hs])
    simp only [List.foldl_cons, applySplices]
    cases hl : logsAt z.present (b, e, buf) with
    | true =>
      have hlog : ¬ (min b lb.lines.length = min e lb.lines.length ∧ buf = none) := by
        intro hc
        rw [h.present] at hl
        simp [logsAt, hc.1, hc.2] at hl
      obtain ⟨lb1, es1, _, e1, u1, _, _, i1⟩ := inv_edit_group h buf b e hbe hlog (fun t => spliceText t (b, e, buf))
        (by simp only [spliceText, optLines_ref])
      have hz1 : refSplice z (b, e, buf) = z.edit (fun t => spliceText t (b, e, buf)) := by
        simp only [refSplice, hl, if_true]
      have hopen := edit_open z (fun t => spliceText t (b, e, buf))
      obtain ⟨lb', a1, a2, a4⟩ := ih lb1 _ _ [] i1 hr
      refine ⟨lb', ?_, a2.trans u1, Or.inr ⟨by simp [cmdLogs, hl], ?_⟩⟩
      · rw [e1]; exact a1
      · rw [hz1]
        rcases a4 with ⟨_, rfl⟩ | ⟨_, es, hi⟩
        · refine ⟨es1, ?_⟩
          have : r.foldl refSplice (z.edit fun t => spliceText t (b, e, buf)) = z.edit fun t => spliceText t (b, e, buf) := by
            apply fold_nolog; assumption
          rw [this]; exact i1
        · refine ⟨es, ?_⟩
          simp only [hopen, if_true, List.tail_cons, u1] at hi
          exact hi
    | false =>
      have hz : refSplice z (b, e, buf) = z := by simp [refSplice, hl]
      have hst := spliceText_nolog _ _ hl
      have hcl : cmdLogs z.present ((b, e, buf) :: r) = cmdLogs z.present r := by
        simp only [cmdLogs, hl, Bool.false_or, hst]
      rw [h.present] at hl
      simp only [logsAt, Bool.not_eq_false', Bool.and_eq_true, beq_iff_eq, Option.isNone_iff_eq_none] at hl
      obtain ⟨h1, h2⟩ := hl
      subst h2
      obtain ⟨lb', a1, a2, a4⟩ := ih lb z pg fg h hr
      refine ⟨lb', ?_, a2, ?_⟩
      · rw [edit_noop lb b e h1]; exact a1
      · rw [hz, hcl]; exact a4

theorem step_undo {lb z} (h : RunInv lb z) :
    (z.past = [] ∧ step lb .undo = some (1, (modified lb).2)) ∨
    (∃ p ps lb', z.past = p :: ps ∧ step lb .undo = some (0, lb') ∧ lb'.lines = p ∧
      RunInv lb' ⟨ps, p, z.present :: z.future, false⟩) := by
  obtain ⟨ho, pg, fg, hi⟩ := h
  rcases inv_undo hi ho with ⟨_, hp, hu⟩ | ⟨g, ps, p, pt, lb', _, hp, hu, hl, _, hi'⟩
  · exact Or.inl ⟨hp, by simp [step, hu]⟩
  · exact Or.inr ⟨p, pt, (modified lb').2, hp, by simp [step, hu], hl, rfl, ps, g :: fg, inv_bump_closed hi' rfl⟩

theorem step_redo {lb z} (h : RunInv lb z) :
    (z.future = [] ∧ step lb .redo = some (1, (modified lb).2)) ∨
    (∃ f fs lb', z.future = f :: fs ∧ step lb .redo = some (0, lb') ∧ lb'.lines = f ∧
      RunInv lb' ⟨z.present :: z.past, f, fs, false⟩) := by
  obtain ⟨ho, pg, fg, hi⟩ := h
  rcases inv_redo hi ho with ⟨_, hp, hu⟩ | ⟨g, fs, n, nt, lb', _, hp, hu, hl, _, hi'⟩
  · exact Or.inl ⟨hp, by simp [step, hu]⟩
  · exact Or.inr ⟨n, nt, (modified lb').2, hp, by simp [step, hu], hl, rfl, g :: pg, fs, inv_bump_closed hi' rfl⟩

theorem step_cmd {lb z} (h : RunInv lb z) (ss : List Splice) (hg : ∀ s ∈ ss, s.1 ≤ s.2.1) :
    ∃ lb', step lb (.cmd ss) = some (0, lb') ∧ RunInv lb' (refStep z (.cmd ss)).2 := by
  obtain ⟨_, pg, fg, hi⟩ := h
  obtain ⟨lb1, a1, _, a2⟩ := splices_group [] ss lb z pg fg hi hg
  refine ⟨(modified lb1).2, by simp [step, a1], rfl, ?_⟩
  rcases a2 with ⟨hn, rfl⟩ | ⟨_, es, a2⟩
  · exact ⟨pg, fg, by rw [refStep, fold_nolog ss z hn]; exact inv_bump hi⟩
  · exact ⟨_, _, inv_bump a2⟩

theorem step_inv {lb z} (h : RunInv lb z) (op : HOp) (hg : GoodOp op) :
    ∃ lb', step lb op = some ((refStep z op).1, lb') ∧ RunInv lb' (refStep z op).2 := by
  cases op with
  | cmd ss => exact step_cmd h ss hg
  | undo =>
    rcases step_undo h with ⟨hp, hs⟩ | ⟨p, ps, lb', hp, hs, _, hi⟩
    · have hb := h.bump
      refine ⟨(modified lb).2, ?_, ?_⟩ <;> simp only [refStep, Zipper.undo, hp]
      · exact hs
      · exact hb
    · refine ⟨lb', ?_, ?_⟩ <;> simp only [refStep, Zipper.undo, hp]
      · exact hs
      · exact hi
  | redo =>
    rcases step_redo h with ⟨hp, hs⟩ | ⟨p, ps, lb', hp, hs, _, hi⟩
    · have hb := h.bump
      refine ⟨(modified lb).2, ?_, ?_⟩ <;> simp only [refStep, Zipper.redo, hp]
      · exact hs
      · exact hb
    · refine ⟨lb', ?_, ?_⟩ <;> simp only [refStep, Zipper.redo, hp]
      · exact hs
      · exact hi

theorem run_inv (ops : List HOp) : ∀ (lb : Lb) (z : Zipper), RunInv lb z → Good ops →
    ∃ lb', run ops lb = some ((refRun ops z).1, lb') ∧ RunInv lb' (refRun ops z).2 := by
  induction ops with
  | nil => intro lb z h _; exact ⟨lb, rfl, h⟩
  | cons op r ih =>
    intro lb z h hg
    obtain ⟨lb1, s1, i1⟩ := step_inv h op (hg op (by simp))
    obtain ⟨lb', s2, i2⟩ := ih lb1 _ i1 (fun o ho => hg o (by simp [ho]))
    refine ⟨lb', ?_, i2⟩
    simp only [run, s1, s2, refRun]
    rfl

/-! ### the property -/

/-- **Main theorem.**  For every history of commands (with non-inverted ranges) the model never
    traps, its return codes are those of the zipper of texts, and its text is the zipper's present. -/
theorem refines_zipper (ops : List HOp) (hg : Good ops) :
    ∃ lb, run ops Lbuf.make = some ((refRun ops {}).1, lb) ∧ lb.lines = (refRun ops {}).2.present := by
  obtain ⟨lb, h1, h2⟩ := run_inv ops Lbuf.make {} runInv_make hg
  exact ⟨lb, h1, h2.lines⟩

theorem reached_inv (ops : List HOp) (hg : Good ops) (rcs : List Nat) (lb : Lb)
    (hr : run ops Lbuf.make = some (rcs, lb)) : RunInv lb (refRun ops {}).2 := by
  obtain ⟨lb', h1, h2⟩ := run_inv ops Lbuf.make {} runInv_make hg
  rw [hr] at h1
  simp only [Option.some.injEq, Prod.mk.injEq] at h1
  rw [h1.2]; exact h2

/-- after any history, an undo that has something to undo succeeds and restores exactly the text
    before the most recent not-yet-undone modifying command (the head of the zipper's past) -/
theorem undo_exact (ops : List HOp) (hg : Good ops) (rcs : List Nat) (lb : Lb)
    (hr : run ops Lbuf.make = some (rcs, lb)) (p : Text) (ps : List Text)
    (hp : (refRun ops {}).2.past = p :: ps) :
    ∃ lb', step lb .undo = some (0, lb') ∧ lb'.lines = p := by
  rcases step_undo (reached_inv ops hg rcs lb hr) with ⟨h0, _⟩ | ⟨p', ps', lb', h1, h2, h3, _⟩
  · rw [hp] at h0; simp at h0
  · rw [hp] at h1
    simp only [List.cons.injEq] at h1
    exact ⟨lb', h2, by rw [h3, h1.1]⟩

/-- after any history, a redo that has something to redo succeeds and restores exactly the text
    after the most recently undone command (the head of the zipper's future) -/
theorem redo_exact (ops : List HOp) (hg : Good ops) (rcs : List Nat) (lb : Lb)
    (hr : run ops Lbuf.make = some (rcs, lb)) (f : Text) (fs : List Text)
    (hf : (refRun ops {}).2.future = f :: fs) :
    ∃ lb', step lb .redo = some (0, lb') ∧ lb'.lines = f := by
  rcases step_redo (reached_inv ops hg rcs lb hr) with ⟨h0, _⟩ | ⟨f', fs', lb', h1, h2, h3, _⟩
  · rw [hf] at h0; simp at h0
  · rw [hf] at h1
    simp only [List.cons.injEq] at h1
    exact ⟨lb', h2, by rw [h3, h1.1]⟩

/-- with nothing below the cursor, undo returns 1 and changes nothing (but the bump) -/
theorem undo_at_bottom_fails_unchanged (ops : List HOp) (hg : Good ops) (rcs : List Nat) (lb : Lb)
    (hr : run ops Lbuf.make = some (rcs, lb)) (hp : (refRun ops {}).2.past = []) :
    step lb .undo = some (1, (modified lb).2) ∧ (modified lb).2.lines = lb.lines := by
  rcases step_undo (reached_inv ops hg rcs lb hr) with ⟨_, h⟩ | ⟨p', ps', lb', h1, _⟩
  · exact ⟨h, rfl⟩
  · rw [hp] at h1; simp at h1

/-- with nothing above the cursor, redo returns 1 and changes nothing (but the bump) -/
theorem redo_at_top_fails_unchanged (ops : List HOp) (hg : Good ops) (rcs : List Nat) (lb : Lb)
    (hr : run ops Lbuf.make = some (rcs, lb)) (hf : (refRun ops {}).2.future = []) :
    step lb .redo = some (1, (modified lb).2) ∧ (modified lb).2.lines = lb.lines := by
  rcases step_redo (reached_inv ops hg rcs lb hr) with ⟨_, h⟩ | ⟨f', fs', lb', h1, _⟩
  · exact ⟨h, rfl⟩
  · rw [hf] at h1; simp at h1

theorem after_cmd (ops : List HOp) (hg : Good ops) (rcs : List Nat) (lb : Lb)
    (hr : run ops Lbuf.make = some (rcs, lb)) (ss : List Splice) (hs : ∀ s ∈ ss, s.1 ≤ s.2.1)
    (hl : cmdLogs lb.lines ss = true) :
    ∃ lb1, step lb (.cmd ss) = some (0, lb1) ∧
      RunInv lb1 { past := lb.lines :: (refRun ops {}).2.past, present := ss.foldl spliceText lb.lines,
                   future := [], open_ := false } := by
  have hi := reached_inv ops hg rcs lb hr
  obtain ⟨lb1, h1, h2⟩ := step_cmd hi ss hs
  have hpres := hi.lines
  rw [refStep_cmd_logs _ ss hi.1 (by rw [← hpres]; exact hl), ← hpres] at h2
  exact ⟨lb1, h1, h2⟩

/-- after a modifying command the redo branch is gone: redo returns 1 and changes nothing -/
theorem edit_truncates_future (ops : List HOp) (hg : Good ops) (rcs : List Nat) (lb : Lb)
    (hr : run ops Lbuf.make = some (rcs, lb)) (ss : List Splice) (hs : ∀ s ∈ ss, s.1 ≤ s.2.1)
    (hl : cmdLogs lb.lines ss = true) :
    ∃ lb1, step lb (.cmd ss) = some (0, lb1) ∧ step lb1 .redo = some (1, (modified lb1).2) ∧
      (modified lb1).2.lines = lb1.lines := by
  obtain ⟨lb1, h1, h2⟩ := after_cmd ops hg rcs lb hr ss hs hl
  refine ⟨lb1, h1, ?_, rfl⟩
  rcases step_redo h2 with ⟨_, h⟩ | ⟨f', fs', lb', h3, _⟩
  · exact h
  · simp at h3

/-- a command made of any number of splices, at least one of which logs, is ONE undo step:
    a single undo returns 0 and restores exactly the text before the command (and a redo then
    restores exactly the text after it) -/
theorem compound_is_one_step (ops : List HOp) (hg : Good ops) (rcs : List Nat) (lb : Lb)
    (hr : run ops Lbuf.make = some (rcs, lb)) (ss : List Splice) (hs : ∀ s ∈ ss, s.1 ≤ s.2.1)
    (hl : cmdLogs lb.lines ss = true) :
    ∃ lb1 lb2 lb3, step lb (.cmd ss) = some (0, lb1) ∧ lb1.lines = ss.foldl spliceText lb.lines ∧
      step lb1 .undo = some (0, lb2) ∧ lb2.lines = lb.lines ∧
      step lb2 .redo = some (0, lb3) ∧ lb3.lines = lb1.lines := by
  obtain ⟨lb1, h1, h2⟩ := after_cmd ops hg rcs lb hr ss hs hl
  have hl1 : lb1.lines = ss.foldl spliceText lb.lines := h2.lines
  rcases step_undo h2 with ⟨h0, _⟩ | ⟨p, ps, lb2, h3, h4, h5, h6⟩
  · simp at h0
  · simp only [List.cons.injEq] at h3
    rcases step_redo h6 with ⟨h0, _⟩ | ⟨f, fs, lb3, h7, h8, h9, _⟩
    · simp at h0
    · simp only [List.cons.injEq] at h7
      exact ⟨lb1, lb2, lb3, h1, hl1, h4, by rw [h5, ← h3.1], h8, by rw [h9, ← h7.1, hl1]⟩

/-! ### non-vacuity: a concrete history with a compound command, undo, redo, and a truncating edit -/

def demo : List HOp :=
  [ .cmd [(0, 0, some [97, 10, 98, 10, 99])],                    -- insert a, b, c
    .cmd [(1, 2, none), (0, 0, none), (5, 9, some [100])],       -- delete b; no-op; append d (one command)
    .undo, .undo, .undo, .redo,
    .cmd [(0, 1, some [120, 10])],                               -- replace a by x: drops the redo branch
    .redo, .undo ]

example : Good demo := by decide +kernel

example : (refRun demo {}).1 = [0, 0, 0, 0, 1, 0, 0, 1, 0] ∧
    (refRun demo {}).2.present = [[97, 10], [98, 10], [99, 10]] := by decide +kernel

example : (run demo Lbuf.make).map (fun r => (r.1, r.2.lines)) =
    some ([0, 0, 0, 0, 1, 0, 0, 1, 0], [[97, 10], [98, 10], [99, 10]]) := by decide +kernel

end Neatvi.Props.C04
