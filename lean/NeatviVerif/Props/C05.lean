import NeatviVerif.Props.C01
import NeatviVerif.Props.C04
import NeatviVerif.Props.C06
import NeatviVerif.Props.C07
import NeatviVerif.Props.C09
import NeatviVerif.Props.C11
/-!
# C05 (roll-up): the safety obligations behind "no out-of-bounds access, no crash, no hang"

The model makes every access the C code performs through an index or a length explicit: where the C
code would read or write outside an object, or loop for ever, the model returns its trap value
(`none` / `Res.trap`).  This file gathers, under one namespace, the theorems that discharge the
mechanisms the property names.  Each is proved here from, or is a restatement of, a theorem proved
for another property; the unbounded claim "for every stream" is carried by these per-mechanism
theorems plus the sanitizer runs of the check (see MANIFEST level_note), not by a single theorem
about the whole editor.
-/
namespace Neatvi.Props.C05
open Neatvi Neatvi.Vi

/-! ### pushback is bounded by the remaining room (term.c `term_push`, `icmd`) -/

/-- the input buffer of term.c never holds more than its 4096 bytes, whatever is pushed -/
theorem ibuf_bounded (x : Bytes) (s s' : VS) (h : termPush x s = Res.ok () s') (hb : s.ibuf.length ≤ 4096) :
    s'.ibuf.length ≤ 4096 := by
  simp only [termPush, Vi.modify] at h
  injection h with _ hs
  subst hs
  simp only [List.length_append, List.length_take]
  omega

/-- reading a key never grows the recording buffer beyond 4096 bytes -/
theorem icmd_bounded (s s' : VS) (c : Int) (h : termRead s = Res.ok c s') (hb : s.icmd.length ≤ 4096) :
    s'.icmd.length ≤ 4096 := Lemmas.C16d.icmd_bounded_termRead s s' c h hb

/-- a drained key queue yields end of input, never a read outside the buffer -/
theorem read_drained_is_eof (s : VS) (h : Lemmas.C09.pending s = []) : termRead s = Res.eof :=
  Lemmas.C09.termRead_eof s h

/-! ### the cursor is re-clamped into the buffer after every vi command (`vi_wfix`, `ren_noeol`) -/

/-- `vi_wfix` never fails -/
theorem wfix_total (s : VS) : ∃ s', viWfix s = Res.ok () s' := C07.viWfix_ok s

/-- after `vi_wfix` the row is inside the buffer (0 on an empty one) -/
theorem cursor_row_in_buffer (s s' : VS) (h : viWfix s = Res.ok () s') :
    (lenOf s' = 0 → s'.ed.xrow = 0) ∧ (lenOf s' ≠ 0 → 0 ≤ s'.ed.xrow ∧ s'.ed.xrow < lenOf s') := by
  have hv := C07.wfix_cursor_valid s s' h
  exact ⟨hv.2.2.1, fun hne => ⟨(hv.2.2.2.1 hne).1, (hv.2.2.2.1 hne).2.1⟩⟩

/-- the window holds the cursor row -/
theorem cursor_row_in_window (s s' : VS) (h : viWfix s = Res.ok () s') (hrows : 0 < s.xrows) :
    s'.ed.xtop ≤ s'.ed.xrow ∧ s'.ed.xrow < s'.ed.xtop + s.xrows :=
  ⟨(C07.wfix_window s s' h hrows).1, (C07.wfix_window s s' h hrows).2.1⟩

/-! ### ranges are validated before any command touches lines (`ex_region`) -/

/-- an accepted range lies inside the buffer -/
theorem range_validated (ed ed' : Ex.Ed) (loc : Bytes) (b e : Int)
    (h : Ex.exRegion ed loc = some ((0, b, e), ed')) : 0 ≤ b ∧ b ≤ e ∧ e ≤ ed'.len :=
  ⟨(C06.region_valid ed ed' loc b e h).1, (C06.region_valid ed ed' loc b e h).2.1, (C06.region_valid ed ed' loc b e h).2.2.1⟩

/-! ### the line buffer and its undo history never index out of range (`lbuf.c`) -/

/-- every history of edits, undos and redos runs to completion -/
theorem lbuf_history_total (ops : List C04.HOp) (hg : C04.Good ops) :
    ∃ rcs lb, C04.run ops Lbuf.make = some (rcs, lb) := by
  obtain ⟨lb, h, _⟩ := C04.refines_zipper ops hg
  exact ⟨_, lb, h⟩

/-! ### the regular-expression engine stays inside its program and its subject (`regex.c`) -/

/-- on a compiled program the matcher takes no out-of-range jump -/
theorem regex_no_wild_jump (cx : Regex.Ctx) (hwf : C11.WfProg cx.prog)
    (hat : ∀ a pos, Regex.atomMatch a cx.subj cx.flg pos ≠ Regex.AR.trap)
    (dep pc pos : Nat) (m : Regex.Marks) (cuts : Nat) (hpc : pc < cx.prog.length) :
    Regex.loop cx dep pc pos m cuts ≠ Regex.Res.trap :=
  (C11.no_edge_trap cx hwf hat dep pc pos m cuts hpc).1

/-! ### the command line is length-checked once (`ex_exec`) -/

/-- a command line that does not fit `EXLEN` is rejected before any of its parts is copied -/
theorem exec_line_checked (f : Nat) (ed : Ex.Ed) (ln : Bytes) (h : ln.length ≥ Gen.EXLEN) :
    Ex.exExec (f + 1) ed ln = some (1, ed.show (Ex.strOf "command too long")) := by
  rw [Ex.exExec]
  simp [h]

/-! ### line accessors return NULL outside the buffer (`lbuf_get`) -/

/-- a row outside the buffer yields no line (and a row inside yields that line): no wild index -/
theorem line_accessor_total (ls : Mot.Lines) (r : Int) :
    (Mot.lineAt ls r = none ↔ (r < 0 ∨ (ls.length : Int) ≤ r)) := by
  unfold Mot.lineAt
  split
  · simp_all
  · rename_i h
    simp only [List.getElem?_eq_none_iff]
    constructor
    · intro hh; right; omega
    · intro hh; rcases hh with hh | hh <;> omega

end Neatvi.Props.C05
