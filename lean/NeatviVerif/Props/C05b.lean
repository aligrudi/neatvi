import NeatviVerif.Lemmas.C05cFrame
import NeatviVerif.Lemmas.C05bEx
import NeatviVerif.Lemmas.C05bRegion
/-!
# C05b: the numbers a user can type stay inside `int`

The model computes in unbounded `Int`, the C code in 32-bit `int`.  At three places a number typed by the
user would reach `int` arithmetic unchecked; the C code saturates there and the model mirrors it:

* `vi_prefix()` stops accumulating digits at `n ≥ 100000000` (`viPrefix`);
* `vi_cnt()` forms the product of the two counts in `long long` and saturates at 999999999 (`cntOf`);
  `^F` / `^B` scroll by `min (max 1 a1) len * (rows - 1)` lines;
* `ex_num(s, max)` is `strtoll` saturated at `±max`; `ex_atoi()` is `ex_num(·, NUMMAX)`, `NUMMAX = 2^29`;
  `ex_lineno()` saturates every number of an address at `±TERMMAX = ±2^40`, adds them in `long long` without
  clamping in between, and saturates the result at `±NUMMAX`: the arithmetic is exact for numbers below
  `2^40` (`2+4294967298-4294967298` is line 2) and the result cannot leave `int`.

The theorems below say that these bounds do what they are for: every integer the C code computes at
these places is a value of `int` (`|x| < 2^31`; for the product of `vi_cnt()` and the sum of `ex_lineno()`,
of `long long`).

`FitsInt x` is `-2^31 ≤ x ≤ 2^31 - 1`, `FitsLL x` is `-2^63 ≤ x ≤ 2^63 - 1`.  `viPrefixChk`, `digitsChk`,
`offsChk` (`exLinenoChk`) are the loops of the model with an explicit failure wherever an operation of the
C code would leave `int` (`long long` for `offsChk`); they are proved equal to the loops of the model,
which is the precise form of "no operation overflows, whatever is typed".
Byte strings are lists of character codes: `[52, 50]` = `"42"`.
-/
namespace Neatvi.Props.C05b
open Neatvi Neatvi.Vi Neatvi.Ex Neatvi.Lbuf
open Neatvi.Lemmas.C05b
open Neatvi.Lemmas.C06 (AddrOnly)

/-! ## B1. the count prefix of a vi command -/

/-- the invariant of the digit loop: an accumulator in `[0, 999999999]` stays there -/
theorem viPrefix_digits_bounded (f : Nat) (n c : Int) (s s' : VS) (m : Int) (h0 : 0 ≤ n) (h1 : n ≤ 999999999)
    (h : viPrefix.digits f n c s = Res.ok m s') : 0 ≤ m ∧ m ≤ 999999999 :=
  digits_bounded f n c s s' m h0 h1 h

/-- the one computation of the loop, `n * 10 + c - '0'`, happens for `n < 100000000` and a digit `c` only;
    then the product, the C intermediate `n * 10 + c` and the result are below `2^31` and the result has at
    most nine digits -/
theorem viPrefix_step_fits (n c : Int) (h0 : 0 ≤ n) (hn : n < 100000000) (hc0 : 48 ≤ c) (hc1 : c ≤ 57) :
    0 ≤ n * 10 ∧ n * 10 < 2 ^ 31 ∧ 0 ≤ n * 10 + c ∧ n * 10 + c < 2 ^ 31 ∧
    0 ≤ n * 10 + (c - 48) ∧ n * 10 + (c - 48) < 2 ^ 31 ∧ n * 10 + (c - 48) ≤ 999999999 := by
  rw [two_pow_31]
  omega

/-- `vi_prefix()` returns a count of at most nine digits, for every state and every typed key sequence -/
theorem viPrefix_bounded (s s' : VS) (n : Int) (h : viPrefix s = Res.ok n s') : 0 ≤ n ∧ n ≤ 999999999 :=
  Lemmas.C05b.viPrefix_bounded s s' n h

/-- `vi_prefix()` with the range of `int` checked at every arithmetic operation (trap on a violation) is
    `vi_prefix()`: no check ever fires -/
theorem viPrefix_no_overflow : viPrefixChk = viPrefix := by
  unfold viPrefixChk viPrefix
  simp only [digitsChk_eq 64 0 _ (Int.le_refl 0) (by omega)]

/-! ## B2. `vi_cnt()` -/

/-- with both counts as `vi_prefix()` delivers them, `vi_cnt()` is in `[1, 999999999]` and the product it
    forms is a `long long` -/
theorem cntOf_bounded (s : VS) (h10 : 0 ≤ s.arg1) (h11 : s.arg1 ≤ 999999999) (h20 : 0 ≤ s.arg2)
    (h21 : s.arg2 ≤ 999999999) :
    1 ≤ cntOf s ∧ cntOf s ≤ 999999999 ∧
    1 ≤ (if s.arg1 != 0 then s.arg1 else 1) * (if s.arg2 != 0 then s.arg2 else 1) ∧
    (if s.arg1 != 0 then s.arg1 else 1) * (if s.arg2 != 0 then s.arg2 else 1) < 2 ^ 63 := by
  obtain ⟨a0, a1⟩ := factor_bounded s.arg1 h10 h11
  obtain ⟨b0, b1⟩ := factor_bounded s.arg2 h20 h21
  obtain ⟨p0, p1⟩ := prod_bounded _ _ a0 a1 b0 b1
  rw [two_pow_63]
  unfold cntOf
  refine ⟨by omega, by omega, p0, by omega⟩

/-- below the limit `vi_cnt()` is the product of the counts: nothing changes for ordinary counts -/
theorem cntOf_small (s : VS)
    (h : (if s.arg1 != 0 then s.arg1 else 1) * (if s.arg2 != 0 then s.arg2 else 1) ≤ 999999999) :
    cntOf s = (if s.arg1 != 0 then s.arg1 else 1) * (if s.arg2 != 0 then s.arg2 else 1) := by
  unfold cntOf; omega

/-- the hypothesis of `cntOf_bounded` is kept at the three places the model (as `vi.c`) assigns a count:
    `vi_arg1 = vi_prefix()` (`viPre`), `vi_arg2 = vi_prefix()` (`vcMotion`) and `vi_arg2 = 0` (`viPre`).
    `CountsFit s` is `0 ≤ s.arg1 ≤ 999999999 ∧ 0 ≤ s.arg2 ≤ 999999999`; it holds of the initial state
    (both counts 0). -/
theorem countsFit_assign (s s1 : VS) (a : Int) (hs : CountsFit s) (h : viPrefix s = Res.ok a s1) :
    CountsFit { s1 with arg1 := a } ∧ CountsFit { s1 with arg2 := a } ∧ CountsFit { s with arg2 := 0 } := by
  obtain ⟨a0, a1⟩ := Lemmas.C05b.viPrefix_bounded s s1 a h
  obtain ⟨e1, e2⟩ := Lemmas.C05c.same_viPrefix s a s1 h
  obtain ⟨h1, h2, h3, h4⟩ := hs
  refine ⟨⟨a0, a1, ?_, ?_⟩, ⟨?_, ?_, a0, a1⟩, ⟨h1, h2, Int.le_refl 0, (by decide : (0 : Int) ≤ 999999999)⟩⟩
  · show 0 ≤ s1.arg2; omega
  · show s1.arg2 ≤ 999999999; omega
  · show 0 ≤ s1.arg1; omega
  · show s1.arg1 ≤ 999999999; omega

theorem cntOf_bounded_of_fit (s : VS) (h : CountsFit s) : 1 ≤ cntOf s ∧ cntOf s ≤ 999999999 :=
  let ⟨a, b, _, _⟩ := cntOf_bounded s h.1 h.2.1 h.2.2.1 h.2.2.2
  ⟨a, b⟩

/-! ## B3. the page count of `^F` / `^B` -/

/-- under the standing assumption that `len * rows` fits in `int` the number of lines `^F` / `^B` scroll by
    cannot overflow, whatever count was typed -/
theorem page_scroll_bounded (a1 len rows : Int) (_ha0 : 0 ≤ a1) (_ha1 : a1 ≤ 999999999) (hlen : 0 ≤ len)
    (hrows : 1 ≤ rows) (hfit : len * rows < 2 ^ 31) :
    0 ≤ min (max 1 a1) len * (rows - 1) ∧ min (max 1 a1) len * (rows - 1) < 2 ^ 31 := by
  rw [two_pow_31] at *
  obtain ⟨h1, h2, _, _⟩ := page_bounded a1 len rows hlen hrows hfit
  exact ⟨h1, h2⟩

/-- the same for the expression as it stands in `commandTail` (`lenOf s`, `s.xrows`) -/
theorem page_scroll_bounded_vs (s : VS) (a1 : Int) (hrows : 1 ≤ s.xrows) (hfit : lenOf s * s.xrows < 2 ^ 31) :
    0 ≤ min (max 1 a1) (lenOf s) * (s.xrows - 1) ∧ min (max 1 a1) (lenOf s) * (s.xrows - 1) < 2 ^ 31 := by
  rw [two_pow_31] at *
  have hlen : 0 ≤ lenOf s := by unfold lenOf; omega
  obtain ⟨h1, h2, _, _⟩ := page_bounded a1 (lenOf s) s.xrows hlen hrows hfit
  exact ⟨h1, h2⟩

/-! ## B4. numbers in ex addresses -/

theorem NUMMAX_eq : NUMMAX = 2 ^ 29 := by decide
theorem TERMMAX_eq : TERMMAX = 2 ^ 40 := by decide

/-- `ex_num(s, mx)` is within `±mx`, for every byte string -/
theorem exNum_bounded (s : Bytes) (mx : Int) (h : 0 ≤ mx) : -mx ≤ exNum s mx ∧ exNum s mx ≤ mx :=
  Lemmas.C05b.exNum_bounded s mx h

/-- `ex_atoi` is within `±NUMMAX`, for every byte string -/
theorem exAtoi_bounded (s : Bytes) : -NUMMAX ≤ exAtoi s ∧ exAtoi s ≤ NUMMAX :=
  Lemmas.C05b.exAtoi_bounded s

/-- the offset loop of `ex_lineno` started at `n` on the text `s` (`f` is its fuel): the result `m` differs
    from `n` by at most `TERMMAX` for every offset applied (`offsCount f s` of them), and every offset
    consumes at least one byte, so `|m - n| ≤ s.length * TERMMAX` -/
theorem exLineno_offs_bounded (f : Nat) (n : Int) (s : Bytes) :
    n - offsCount f s * TERMMAX ≤ (exLineno.offs f n s).1 ∧
    (exLineno.offs f n s).1 ≤ n + offsCount f s * TERMMAX ∧
    offsCount f s ≤ s.length ∧
    n - s.length * TERMMAX ≤ (exLineno.offs f n s).1 ∧ (exLineno.offs f n s).1 ≤ n + s.length * TERMMAX :=
  ⟨(offs_bounded f n s).1, (offs_bounded f n s).2, offsCount_le_length f s,
    (offs_bounded_length f n s).1, (offs_bounded_length f n s).2⟩

/-- an address of at most `EXLEN` (512) bytes and a base within `±(TERMMAX + 1)`: the sum is below `2^63` in
    absolute value — the `long long` of the C code cannot overflow -/
theorem exLineno_sum_fits64 (f : Nat) (n : Int) (s : Bytes) (hs : s.length ≤ Gen.EXLEN)
    (h0 : -TERMMAX - 1 ≤ n) (h1 : n ≤ TERMMAX + 1) :
    -(2 ^ 63) < (exLineno.offs f n s).1 ∧ (exLineno.offs f n s).1 < 2 ^ 63 := by
  rw [two_pow_63]
  exact offs_fits64 f n s hs h0 h1

/-- the offset loop of `ex_lineno` with every addition checked against `long long` is the loop of the model:
    not only the result, every sum on the way is inside -/
theorem exLineno_offs_no_overflow (f : Nat) (n : Int) (s : Bytes) (hs : s.length ≤ Gen.EXLEN)
    (h0 : -TERMMAX - 1 ≤ n) (h1 : n ≤ TERMMAX + 1) : offsChk f n s = some (exLineno.offs f n s) :=
  offsChk_eq f n s hs h0 h1

/-- the same for the whole of `ex_lineno` (`exLinenoChk` is `exLineno` with `offsChk` for the loop): with
    what it reads from the state in range (`AddrFits ed`: `-NUMMAX - 1 ≤ xrow ≤ NUMMAX`, `len ≤ NUMMAX`,
    every mark `≤ NUMMAX`) the base is within `[-NUMMAX - 1, TERMMAX - 1]`, what is left of the text is not
    longer than the text, and no addition overflows -/
theorem exLineno_no_overflow (ed : Ed) (loc : Bytes) (hf : AddrFits ed) (hlen : loc.length ≤ Gen.EXLEN) :
    exLinenoChk ed loc = exLineno ed loc := by
  rw [exLineno_eq]
  unfold exLinenoChk
  cases hb : exLinenoBase ed loc with
  | none => rfl
  | some x =>
    obtain ⟨⟨n, rest⟩, ed1⟩ := x
    have hr := (exLinenoBase_rest_suffix hb).length_le
    obtain ⟨k0, k1⟩ := exLineno_base_bounded ed loc hf n rest ed1 hb
    have hchk := offsChk_eq (rest.length + 1) n rest (Nat.le_trans hr hlen)
      (by unfold NUMMAX TERMMAX at *; omega) (by omega)
    simp only [hchk]

/-- `ex_lineno` returns a number within `±NUMMAX` — the failure marker `-2` is one of these — whatever the
    state and the text: the sum is clamped once, at the end.  (`AddrFits ed` is what `exLineno_no_overflow`
    needs; the bound on the result holds without it.) -/
theorem exLineno_bounded (ed ed' : Ed) (loc rest : Bytes) (n : Int)
    (h : exLineno ed loc = some ((n, rest), ed')) : -NUMMAX ≤ n ∧ n ≤ NUMMAX :=
  Lemmas.C05b.exLineno_bounded ed loc n rest ed' h

/-- the natural situation implies `AddrFits`: current row and marks inside a buffer of at most `NUMMAX`
    lines -/
theorem addrFits_of_inside (ed : Ed) (h0 : -1 ≤ ed.xrow) (h1 : ed.xrow ≤ ed.len) (h2 : ed.len ≤ NUMMAX)
    (hm : ∀ lb c p o, ed.lb = some lb → jump lb c = some (p, o) → p ≤ ed.len) : AddrFits ed :=
  ⟨by unfold NUMMAX at *; omega, by omega, h2, fun lb c p o hl hj => Int.le_trans (hm lb c p o hl hj) h2⟩

/-- `AddrFits` is an invariant of address evaluation (`ex_lineno` changes the search keyword only, `;` sets
    the current row to a bounded value), so inside `ex_region` every call of `ex_lineno` is covered by
    `exLineno_no_overflow`; `ex_region` computes `ln + 1`, `end0 - 1`, `*end - 1` from results `ln` in
    `[-1, NUMMAX]`: the `beg` / `end` delivered are within `[-1, NUMMAX + 1]`, values of `int` -/
theorem exRegion_bounded (ed ed' : Ed) (loc : Bytes) (rc : Nat) (b e : Int) (hf : AddrFits ed)
    (h : exRegion ed loc = some ((rc, b, e), ed')) :
    AddrFits ed' ∧ -1 ≤ b ∧ b ≤ NUMMAX ∧ -1 ≤ e ∧ e ≤ NUMMAX + 1 :=
  Lemmas.C05b.exRegion_bounded ed loc rc b e ed' hf h

theorem exLineno_fits (ed ed' : Ed) (loc : Bytes) (r : Int × Bytes) (hf : AddrFits ed)
    (h : exLineno ed loc = some (r, ed')) : AddrFits ed' :=
  Lemmas.C05b.exLineno_fits ed loc r ed' hf h

/-- a search address yields `-1` or a row of the buffer -/
theorem exSearch_bounded (ed ed' : Ed) (loc rest : Bytes) (n : Int)
    (h : exSearch ed loc = some ((n, rest), ed')) : n = -1 ∨ (0 ≤ n ∧ n < ed.len) :=
  Lemmas.C05b.exSearch_bounded ed loc n rest ed' h

/-! ## B5. saturation changes nothing for ordinary addresses and rejects the others -/

/-- inside `±mx`, `ex_num` is `atoi` -/
theorem exNum_small (s : Bytes) (mx : Int) (h0 : -mx ≤ atoi s) (h1 : atoi s ≤ mx) : exNum s mx = atoi s :=
  Lemmas.C05b.exNum_small s mx h0 h1

/-- inside `±NUMMAX`, `ex_atoi` is `atoi` -/
theorem exAtoi_small (s : Bytes) (h0 : -NUMMAX ≤ atoi s) (h1 : atoi s ≤ NUMMAX) : exAtoi s = atoi s :=
  Lemmas.C05b.exAtoi_small s h0 h1

/-- for a string of digits of value at most `NUMMAX`, `ex_atoi` is the decimal value -/
theorem exAtoi_small_digits (s : Bytes) (hd : ∀ d ∈ s, isDigitC d = true) (h : decVal s ≤ NUMMAX) :
    exAtoi s = decVal s := by
  have h1 := atoi_digits s hd
  have h2 := decVal_nonneg s hd
  rw [Lemmas.C05b.exAtoi_small s (by rw [h1]; unfold NUMMAX; omega) (by rw [h1]; exact h), h1]

/-- beyond `NUMMAX`, `ex_atoi` is `NUMMAX`: no wrap-around -/
theorem exAtoi_huge (s : Bytes) (h : atoi s > NUMMAX) : exAtoi s = NUMMAX :=
  Lemmas.C05b.exAtoi_huge s h

theorem exAtoi_huge_neg (s : Bytes) (h : atoi s < -NUMMAX) : exAtoi s = -NUMMAX :=
  exNum_huge_neg s NUMMAX h

/-- address arithmetic is exact.  The address is a number (the digits `c :: r`), offsets `l` (each a sign,
    `true` for `-`, and digits; `offsText l` is their text, `offsSum l` their exact sum) and a rest `t` that
    does not go on with a sign or a digit; every number is at most `TERMMAX = 2^40` (`OffsOk l`).  Then
    `ex_lineno` returns the exact value `number - 1 + offsets`, clamped to `±NUMMAX` once, and leaves `t` -/
theorem exLineno_numeric_offsets (ed : Ed) (c : Nat) (r : Bytes) (l : List (Bool × Bytes)) (t : Bytes)
    (hd : ∀ d ∈ c :: r, isDigitC d = true) (hv : decVal (c :: r) ≤ TERMMAX) (hl : OffsOk l) (ht : NoOffs t) :
    exLineno ed ((c :: r) ++ (offsText l ++ t)) =
      some ((max (-NUMMAX) (min (decVal (c :: r) - 1 + offsSum l) NUMMAX), t), ed) :=
  Lemmas.C05b.exLineno_numeric_offsets ed c r l t hd hv hl ht

/-- hence, when the exact value is a line number (within `±NUMMAX`), `ex_lineno` returns it: no saturation
    is visible, however large the numbers in between are (up to `2^40`) -/
theorem exLineno_exact (ed : Ed) (c : Nat) (r : Bytes) (l : List (Bool × Bytes)) (t : Bytes)
    (hd : ∀ d ∈ c :: r, isDigitC d = true) (hv : decVal (c :: r) ≤ TERMMAX) (hl : OffsOk l) (ht : NoOffs t)
    (h0 : -NUMMAX ≤ decVal (c :: r) - 1 + offsSum l) (h1 : decVal (c :: r) - 1 + offsSum l ≤ NUMMAX) :
    exLineno ed ((c :: r) ++ (offsText l ++ t)) = some ((decVal (c :: r) - 1 + offsSum l, t), ed) := by
  rw [exLineno_numeric_offsets ed c r l t hd hv hl ht]
  have : max (-NUMMAX) (min (decVal (c :: r) - 1 + offsSum l) NUMMAX) = decVal (c :: r) - 1 + offsSum l := by
    omega
  rw [this]

/-- a purely numeric address `k` with `k - 1 ≥ len` is rejected (`ex_region` returns 1 and leaves the
    state alone), however large `k` is: `beg` is `k - 1` saturated at `NUMMAX`, `end` one more; `len < NUMMAX`
    is the standing assumption on buffer sizes -/
theorem numeric_address_beyond_rejected (ed : Ed) (loc : Bytes) (hne : loc ≠ [])
    (hd : ∀ d ∈ loc, isDigitC d = true) (hlen : ed.len < NUMMAX) (hk : atoi loc - 1 ≥ ed.len) :
    exRegion ed loc = some ((1, min (atoi loc - 1) NUMMAX, min (atoi loc - 1) NUMMAX + 1), ed) := by
  cases loc with
  | nil => exact absurd rfl hne
  | cons c r =>
    have hl := Lemmas.C06.len_nonneg ed
    have hc := hd c (List.mem_cons_self ..)
    have hc' := hc
    simp only [isDigitC, Bool.and_eq_true, decide_eq_true_eq] at hc'
    have hx : min (atoi (c :: r) - 1) NUMMAX ≥ ed.len := by omega
    have h37 : ((c :: r) == [37]) = false := by
      cases r with
      | nil =>
        have : c ≠ 37 := by omega
        simpa using this
      | cons _ _ => simp
    unfold exRegion
    simp only [h37, Bool.false_eq_true, ↓reduceIte, List.isEmpty_cons, List.length_cons]
    rw [exRegion.go]
    simp only [List.isEmpty_cons, Bool.false_eq_true, ↓reduceIte, exLineno_numeric ed c r hd,
      List.dropWhile_nil, List.isEmpty_nil]
    generalize min (atoi (c :: r) - 1) NUMMAX = x at hx
    simp
    have p1 : ¬ (x = -7 ∧ x + 1 = -7) := by omega
    have p2 : ¬ (x + 1 ≤ x) := by omega
    have p3 : ¬ (x < 0 ∧ x + 1 = 0) := by omega
    have p4 : x < 0 ∨ ed.len ≤ x := Or.inr (by omega)
    have p0 : ¬ (x < -1) := by omega
    simp only [if_neg p0, if_neg p1, if_neg p2, if_neg p3, if_pos p4]

/-! ## B6. non-vacuity -/

/-- the keys `99999999999x`: eleven nines give 999999999 -/
example : (match viPrefix { ed := {}, typed := [57, 57, 57, 57, 57, 57, 57, 57, 57, 57, 57, 120] } with
    | Res.ok n s' => n == 999999999 && s'.vibuf == [120]
    | _ => false) = true := by decide +kernel

/-- the keys `12x`: an ordinary count is untouched -/
example : (match viPrefix { ed := {}, typed := [49, 50, 120] } with
    | Res.ok n _ => n == 12
    | _ => false) = true := by decide +kernel

/-- `"4294967297"` (2^32 + 1, which wraps to 1 in `int`) -/
example : exAtoi [52, 50, 57, 52, 57, 54, 55, 50, 57, 55] = 536870912 := by decide +kernel
example : atoi [52, 50, 57, 52, 57, 54, 55, 50, 57, 55] = 4294967297 := by decide +kernel
example : exAtoi [52, 50] = 42 := by decide +kernel

example : cntOf { ed := {}, arg1 := 99999, arg2 := 99999 } = 999999999 := by decide +kernel
example : cntOf { ed := {}, arg1 := 3, arg2 := 0 } = 3 := by decide +kernel

/-- `:4294967297` on an empty editor state is rejected; `ex_lineno` gives `NUMMAX` for it -/
example : (exRegion {} [52, 50, 57, 52, 57, 54, 55, 50, 57, 55]).map (·.1) = some (1, 536870912, 536870913) := by
  decide +kernel
example : (exLineno {} [52, 50, 57, 52, 57, 54, 55, 50, 57, 55]).map (·.1) = some (536870912, []) := by
  decide +kernel

/-- the hypothesis of `exLineno_no_overflow` and `exRegion_bounded` holds of the initial editor state -/
example : AddrFits {} :=
  addrFits_of_inside {} (by decide +kernel) (by decide +kernel) (by decide +kernel)
    (fun lb c p o hl _ => by
      have : ({} : Ed).lb = none := by decide +kernel
      rw [this] at hl; cases hl)

/-- `1+4294967296` and `$-99999999999` saturate (the result does; the numbers are below `2^40`) -/
example : (exLineno {} [49, 43, 52, 50, 57, 52, 57, 54, 55, 50, 57, 54]).map (·.1) = some (536870912, []) := by
  decide +kernel
example : (exLineno {} [36, 45, 57, 57, 57, 57, 57, 57, 57, 57, 57, 57, 57]).map (·.1) = some (-536870912, []) := by
  decide +kernel

/-- `2+4294967298-4294967298` is line 2 (row 1): the arithmetic is exact.  By evaluation … -/
example : (exLineno {} [50, 43, 52, 50, 57, 52, 57, 54, 55, 50, 57, 56, 45, 52, 50, 57, 52, 57, 54, 55, 50, 57, 56]).map
    (·.1) = some (1, []) := by
  decide +kernel

/-- … and as an instance of `exLineno_exact`, in any state -/
example (ed : Ed) :
    exLineno ed [50, 43, 52, 50, 57, 52, 57, 54, 55, 50, 57, 56, 45, 52, 50, 57, 52, 57, 54, 55, 50, 57, 56] =
      some ((1, []), ed) :=
  exLineno_exact ed 50 [] [(false, [52, 50, 57, 52, 57, 54, 55, 50, 57, 56]), (true, [52, 50, 57, 52, 57, 54, 55, 50, 57, 56])]
    [] (by decide) (by decide +kernel) (by decide +kernel) noOffs_nil (by decide +kernel) (by decide +kernel)

/-- a number beyond `2^40` is saturated before it is added: `1+2199023255552-1099511627776-1099511627776`
    (`1 + 2^41 - 2^40 - 2^40`, exactly line 1) is computed as `1 + 2^40 - 2^40 - 2^40` and saturates to
    `-NUMMAX`: out of range, rejected.  Beyond `2^40` the arithmetic is saturating, not exact (and not
    wrapping): `1+2199023255552-1099511627776` (exactly `2^40 + 1`, out of range) is row 0 -/
example : (exLineno {} [49, 43, 50, 49, 57, 57, 48, 50, 51, 50, 53, 53, 53, 53, 50, 45, 49, 48, 57, 57, 53, 49, 49, 54,
    50, 55, 55, 55, 54, 45, 49, 48, 57, 57, 53, 49, 49, 54, 50, 55, 55, 55, 54]).map (·.1) = some (-536870912, []) := by
  decide +kernel

example : (exLineno {} [49, 43, 50, 49, 57, 57, 48, 50, 51, 50, 53, 53, 53, 53, 50, 45, 49, 48, 57, 57, 53, 49, 49, 54,
    50, 55, 55, 55, 54]).map (·.1) = some (0, []) := by
  decide +kernel

/-- the checked loop on the text `+4294967298-4294967298` -/
example : offsChk 100 1 [43, 52, 50, 57, 52, 57, 54, 55, 50, 57, 56, 45, 52, 50, 57, 52, 57, 54, 55, 50, 57, 56] =
    some (1, []) := by
  decide +kernel

end Neatvi.Props.C05b
