import NeatviVerif.Lemmas.C05cFrame
import NeatviVerif.Lemmas.ViPresCmd
import NeatviVerif.Lemmas.C08fCore
import NeatviVerif.Props.C05b
import NeatviVerif.Props.C08b
import NeatviVerif.Lemmas.ViRun
/-!
# C05c: the counts of a vi command stay within their bounds in every state the editor reaches

`C05b` proves that `vi_prefix()` returns a number in `[0, 999999999]`, that the three places which assign
`vi_arg1` / `vi_arg2` keep `CountsFit` (both counts in `[0, 999999999]`) and that `vi_cnt()` cannot overflow
when `CountsFit` holds.  It leaves open that `CountsFit` is an *invariant*.  This file closes the gap.

* `PresFit m`: a computation that returns normally takes a state with `CountsFit` to a state with
  `CountsFit`.  It is closed under `pure`, bind, `if`, `match`, recursion by fuel; every function that does
  not mention the counts has it through the stronger frame fact `Same` of `Lemmas/C05cFrame.lean`
  (the counts are *unchanged*).  Of the three assignment sites `vc_motion` has it because
  the count it stores is a result of `vi_prefix()` (`vcMotion_counts`), and the two of `viPre` need no
  hypothesis at all (`viPre_establishes_fit`).
* `presFit_viStep`: one iteration of the command loop of `vi()` keeps `CountsFit` — for every command,
  including the ex commands entered through `:` (`exCommandV` works on `VS.ed`).
* `viStep_establishes_fit`: in fact every completed iteration *establishes* `CountsFit`, whatever the
  state before (`vi_arg2 = 0`, `vi_arg1 = vi_prefix()` at the start of every iteration).
* `countsFit_reachable`, `count_arithmetic_fits`: every state reached by iterating `viStep` from a state
  with `CountsFit` has `CountsFit`, hence `1 ≤ vi_cnt() ≤ 999999999` and the product `vi_cnt()` forms is a
  `long long`.

The driver iterates `viStep` in `Drive/Vi.lean` (`runModel.loop`: stop at `eof` / `trap` / `xquit`);
`iterate n` (`Lemmas/ViRun.lean`) is that iteration without the bookkeeping of the driver (the state after `n` successful
`viStep`s), and `countsFit_runModel` is the statement for the driver's own loop: every state it records.
-/

namespace Neatvi.Props.C05c
open Neatvi Neatvi.Uc Neatvi.Lbuf Neatvi.Ex Neatvi.Mot Neatvi.Vi
open Neatvi.Lemmas.C05b Neatvi.Lemmas.C05c

/-! ## K1. the invariance predicate and its closure lemmas -/

/-- a computation that returns normally keeps both counts within `[0, 999999999]` -/
def PresFit {α : Type} (m : M α) : Prop :=
  ∀ s a s', CountsFit s → m s = Res.ok a s' → CountsFit s'

theorem countsFit_of_args {s s' : VS} (h1 : s'.arg1 = s.arg1) (h2 : s'.arg2 = s.arg2) (h : CountsFit s) :
    CountsFit s' := by
  unfold CountsFit at *
  rw [h1, h2]
  exact h

theorem countsOnly_fit : CountsOnly CountsFit := fun _ _ e h => countsFit_of_args (Prod.mk.inj e).1 (Prod.mk.inj e).2 h

namespace PresFit

theorem of_same {α : Type} {m : M α} (h : Same m) : PresFit m := h.pres countsOnly_fit

theorem pure {α : Type} (a : α) : PresFit (Pure.pure a : M α) := Lemmas.ViPres.Pres.pure a

theorem bind {α β : Type} {m : M α} {f : α → M β} (hm : PresFit m) (hf : ∀ a, PresFit (f a)) :
    PresFit (m >>= f) := Lemmas.ViPres.Pres.bind hm hf

theorem get : PresFit Vi.get := Lemmas.ViPres.Pres.get

theorem trap {α : Type} : PresFit (Vi.trap : M α) := Lemmas.ViPres.Pres.trap

/-- a state update that leaves the counts alone -/
theorem modify {f : VS → VS} (hf : ∀ s, (f s).arg1 = s.arg1 ∧ (f s).arg2 = s.arg2) : PresFit (Vi.modify f) :=
  of_same (Same.modify hf)

theorem withEd (f : Ed → Ed) : PresFit (Vi.withEd f) := countsOnly_fit.withEd f

theorem ite {α : Type} {p : Prop} [Decidable p] {a b : M α} (ha : PresFit a) (hb : PresFit b) :
    PresFit (if p then a else b) := Lemmas.ViPres.Pres.ite ha hb

/-- `match` on an option (the general `match` is handled by `split` in the tactic) -/
theorem matchOption {α β : Type} (o : Option β) {a : M α} {b : β → M α} (ha : PresFit a) (hb : ∀ x, PresFit (b x)) :
    PresFit (match o with | none => a | some x => b x) := by
  cases o
  · exact ha
  · exact hb _

/-- recursion by fuel: `repeatM` -/
theorem repeatM (n : Nat) {m : M Unit} (hm : PresFit m) : PresFit (Vi.repeatM n m) := Lemmas.ViPres.Pres.repeatM n hm

/-- recursion by fuel, in general: a family `F fuel x` whose step calls `F` with less fuel only through
    a context that keeps `PresFit` -/
theorem fuel {α ι : Type} (F : Nat → ι → M α) (h0 : ∀ x, PresFit (F 0 x))
    (hs : ∀ f, (∀ x, PresFit (F f x)) → ∀ x, PresFit (F (f + 1) x)) : ∀ f x, PresFit (F f x) := by
  intro f
  induction f with
  | zero => exact h0
  | succ f ih => exact hs f ih

end PresFit

/-! ## K2. every function `viStep` calls -/

/-! ### the leaves: they do not mention the counts (frame facts of `Lemmas/C05cFrame`) -/

theorem presFit_termRead : PresFit termRead := Lemmas.ViPres.pres_termRead countsOnly_fit.blind
theorem presFit_termPush (x : Bytes) : PresFit (termPush x) := Lemmas.ViPres.pres_termPush countsOnly_fit.blind x
theorem presFit_termCmd : PresFit termCmd := Lemmas.ViPres.pres_termCmd countsOnly_fit.blind
theorem presFit_viRead : PresFit viRead := Lemmas.ViPres.pres_viRead countsOnly_fit.blind
theorem presFit_viBack (c : Int) : PresFit (viBack c) := Lemmas.ViPres.pres_viBack countsOnly_fit.blind c
theorem presFit_unmodelled : PresFit Vi.unmodelled := Lemmas.ViPres.pres_unmodelled countsOnly_fit.blind
theorem presFit_setMsg (m : Bytes) : PresFit (setMsg m) := counts_setMsg countsOnly_fit m
theorem presFit_liftO {α : Type} (o : Option α) : PresFit (liftO o) := Lemmas.ViPres.Pres.liftO o
theorem presFit_edEdit (txt : Option Bytes) (b e : Int) : PresFit (edEdit txt b e) := counts_edEdit countsOnly_fit txt b e
theorem presFit_setPos (r o : Int) : PresFit (setPos r o) := Lemmas.ViPres.pres_setPos countsOnly_fit.cblind r o
theorem presFit_setRow (r : Int) : PresFit (setRow r) := Lemmas.ViPres.pres_setRow countsOnly_fit.cblind r
theorem presFit_setOff (o : Int) : PresFit (setOff o) := Lemmas.ViPres.pres_setOff countsOnly_fit.cblind o
theorem presFit_setTop (t : Int) : PresFit (setTop t) := Lemmas.ViPres.pres_setTop countsOnly_fit.cblind t
theorem presFit_markSet (c : Nat) (r o : Int) : PresFit (markSet c r o) := counts_markSet countsOnly_fit c r o
theorem presFit_markSave : PresFit markSave := Lemmas.ViPres.pres_markSave countsOnly_fit.loop
theorem presFit_regPut (c : Nat) (txt : Bytes) (ln : Nat) : PresFit (regPut c txt ln) := counts_regPut countsOnly_fit c txt ln
theorem presFit_drawfixTop (r : Int) (p : Bool) : PresFit (drawfixTop r p) := Lemmas.ViPres.pres_drawfixTop countsOnly_fit.cblind r p
theorem presFit_viNextline : PresFit viNextline := Lemmas.ViPres.pres_viNextline countsOnly_fit.cblind
theorem presFit_viNextlineR : PresFit viNextlineR := Lemmas.ViPres.pres_viNextlineR countsOnly_fit.cblind
theorem presFit_lbufModified : PresFit lbufModified := counts_lbufModified countsOnly_fit

/-! ### prefixes, prompts, motions -/

theorem presFit_viYankbuf : PresFit viYankbuf := Lemmas.ViPres.pres_viYankbuf countsOnly_fit.blind
theorem presFit_viPrefix : PresFit viPrefix := Lemmas.ViPres.pres_viPrefix countsOnly_fit.blind
theorem presFit_readCharS (c : Int) (kmap : Nat) : PresFit (readCharS c kmap) := Lemmas.ViPres.pres_readCharS countsOnly_fit.blind c kmap
theorem presFit_ledLine (pref post ai0 : Bytes) (aiMax : Nat) (im ex : Bool) :
    PresFit (ledLine pref post ai0 aiMax im ex) := counts_ledLine countsOnly_fit pref post ai0 aiMax im ex
theorem presFit_viPrompt (ex : Bool) : PresFit (viPrompt ex) := Lemmas.ViPres.pres_viPrompt countsOnly_fit.blind ex
theorem presFit_viChar : PresFit viChar := Lemmas.ViPres.pres_viChar countsOnly_fit.blind
theorem presFit_viSearch (cmd : Nat) (cnt r o : Int) : PresFit (viSearch cmd cnt r o) :=
  Lemmas.ViPres.pres_viSearch countsOnly_fit.mblind cmd cnt r o
theorem presFit_viMotionln (row cmd : Int) : PresFit (viMotionln row cmd) := Lemmas.ViPres.pres_viMotionln countsOnly_fit.blind row cmd
theorem presFit_viMotion (row off : Int) : PresFit (viMotion row off) := counts_viMotion countsOnly_fit row off

/-! ### insert mode, operators, the other commands -/

theorem presFit_ledInput (pref post : Bytes) : PresFit (ledInput pref post) := Lemmas.ViPres.pres_ledInput countsOnly_fit.cblind (counts_ledLine countsOnly_fit) pref post
theorem presFit_viInput (pref post : Bytes) : PresFit (viInput pref post) := Lemmas.ViPres.pres_viInput countsOnly_fit.cblind (counts_ledLine countsOnly_fit) pref post
theorem presFit_viYank (r1 o1 r2 o2 : Int) (ln : Bool) : PresFit (viYank r1 o1 r2 o2 ln) := Lemmas.ViPres.pres_viYank countsOnly_fit.ops _ _ _ _ _
theorem presFit_viDelete (r1 o1 r2 o2 : Int) (ln : Bool) : PresFit (viDelete r1 o1 r2 o2 ln) := Lemmas.ViPres.pres_viDelete countsOnly_fit.ops _ _ _ _ _
theorem presFit_viChange (r1 o1 r2 o2 : Int) (ln : Bool) : PresFit (viChange r1 o1 r2 o2 ln) := Lemmas.ViPres.pres_viChange countsOnly_fit.ops _ _ _ _ _
theorem presFit_viCase (r1 o1 r2 o2 : Int) (ln : Bool) (cmd : Nat) : PresFit (viCase r1 o1 r2 o2 ln cmd) :=
  Lemmas.ViPres.pres_viCase countsOnly_fit.ops _ _ _ _ _ _
theorem presFit_viShift (r1 r2 dir : Int) : PresFit (viShift r1 r2 dir) := Lemmas.ViPres.pres_viShift countsOnly_fit.ops _ _ _
theorem presFit_vcInsert (cmd : Nat) : PresFit (vcInsert cmd) := Lemmas.ViPres.pres_vcInsert countsOnly_fit.ops cmd
theorem presFit_vcPut (cmd : Nat) : PresFit (vcPut cmd) := Lemmas.ViPres.pres_vcPut countsOnly_fit.ops cmd
theorem presFit_vcJoin : PresFit vcJoin := Lemmas.ViPres.pres_vcJoin countsOnly_fit.ops
theorem presFit_vcReplace : PresFit vcReplace := Lemmas.ViPres.pres_vcReplace countsOnly_fit.ops
theorem presFit_scrollForward (cnt : Int) : PresFit (scrollForward cnt) := Lemmas.ViPres.pres_scrollForward countsOnly_fit.cblind cnt
theorem presFit_scrollBackward (cnt : Int) : PresFit (scrollBackward cnt) := Lemmas.ViPres.pres_scrollBackward countsOnly_fit.cblind cnt
theorem presFit_viWfix : PresFit viWfix := Lemmas.ViPres.pres_viWfix countsOnly_fit.cblind
theorem presFit_viWait : PresFit viWait := Lemmas.ViPres.pres_viWait countsOnly_fit.loop
theorem presFit_vcExecute : PresFit vcExecute := Lemmas.ViPres.pres_vcExecute countsOnly_fit.loop
theorem presFit_vcRepeat : PresFit vcRepeat := Lemmas.ViPres.pres_vcRepeat countsOnly_fit.loop

/-- the ex commands entered through `:` (and `ZZ`): they work on `VS.ed` and never see the counts -/
theorem presFit_exCommandV (ln : Bytes) : PresFit (exCommandV ln) := counts_exCommandV countsOnly_fit ln

/-! ### an operator with its motion: the second count is assigned here -/

/-- `vc_motion` after its count (`Lemmas.C08f.vcCore`: motion, region, operator) keeps what reads only the counts -/
theorem counts_vcCore {P : VS → Prop} (hP : CountsOnly P) (cmd : Nat) (r1 o1 : Int) :
    Lemmas.ViPres.Pres P (Lemmas.C08f.vcCore cmd r1 o1) := by
  unfold Lemmas.C08f.vcCore Lemmas.C08f.readMotion Lemmas.C08f.applyOp
  pres_walk [Lemmas.ViPres.pres_viMotionln hP.blind, counts_viMotion hP, Lemmas.ViPres.pres_viRead hP.blind,
    Lemmas.ViPres.pres_viYank hP.ops, Lemmas.ViPres.pres_viDelete hP.ops, Lemmas.ViPres.pres_viChange hP.ops,
    Lemmas.ViPres.pres_viCase hP.ops, Lemmas.ViPres.pres_viShift hP.ops, Lemmas.ViPres.pres_viPrompt hP.blind,
    Lemmas.ViPres.pres_unmodelled hP.blind]

/-- an operator leaves the first count alone, and the second count is what its `vi_prefix()` returned -/
theorem vcMotion_counts (cmd : Nat) (s s' : VS) (m : Nat) (h : vcMotion cmd s = Res.ok m s') :
    s'.arg1 = s.arg1 ∧ 0 ≤ s'.arg2 ∧ s'.arg2 ≤ 999999999 ∧ ∃ s1, viPrefix s = Res.ok s'.arg2 s1 := by
  rw [Lemmas.C08.vcMotion_eq, Lemmas.C08f.vcMotion'_eq_core] at h
  obtain ⟨s0, t0, h0, h⟩ := bind_inv _ _ _ _ _ h
  cases h0
  obtain ⟨a2, t1, h1, h⟩ := bind_inv _ _ _ _ _ h
  obtain ⟨_, t2, h2, h⟩ := bind_inv _ _ _ _ _ h
  cases h2
  obtain ⟨e1, e2⟩ := Same.of_counts
    (fun hP => Lemmas.ViPres.Pres.ite (Lemmas.ViPres.Pres.pure 0) (counts_vcCore hP cmd _ _)) _ _ _ h
  obtain ⟨b0, b1⟩ := C05b.viPrefix_bounded _ _ _ h1
  have e3 : s'.arg2 = a2 := e2
  have e4 : s'.arg1 = t1.arg1 := e1
  refine ⟨e4.trans (same_viPrefix _ _ _ h1).1, by omega, by omega, t1, ?_⟩
  rw [e3]; exact h1

theorem presFit_vcMotion (cmd : Nat) : PresFit (vcMotion cmd) := by
  intro s m s' hs h
  obtain ⟨e1, b0, b1, _⟩ := vcMotion_counts cmd s s' m h
  exact ⟨e1 ▸ hs.1, e1 ▸ hs.2.1, b0, b1⟩

/-! ### the start of an iteration *establishes* the bounds

`vi()` starts an iteration with `vi_arg2 = 0` and `vi_arg1 = vi_prefix()`: the counts left by the command
before are gone by the time anything reads them.  So the motion of a command, the command switch, and the
end of the iteration run in states with `CountsFit` whatever the state at the start of the iteration. -/

/-- what `viPre` does after both counts have been assigned: the second try at a register name, the motion -/
def viPreRest (yb : Nat) (nrow noff : Int) : M (Int × Int × Int) := do
  if yb == 0 then do
    let yb ← viYankbuf
    modify fun s => { s with ybuf := yb }
  viMotion nrow noff

theorem counts_viPreRest {P : VS → Prop} (hP : CountsOnly P) (yb : Nat) (nrow noff : Int) :
    Lemmas.ViPres.Pres P (viPreRest yb nrow noff) := by
  unfold viPreRest
  pres_walk [hP.modify, Lemmas.ViPres.pres_viYankbuf hP.blind, counts_viMotion hP]

/-- `viPre` from any state: the counts are within bounds (`vi_arg2 = 0`) when the rest starts -/
theorem viPre_split (s s' : VS) (r : Int × Int × Int) (h : viPre s = Res.ok r s') :
    ∃ yb s1, CountsFit s1 ∧ s1.arg2 = 0 ∧
      viPreRest yb s.ed.xrow (noeol s s.ed.xrow s.ed.xoff) s1 = Res.ok r s' := by
  unfold viPre at h
  obtain ⟨s0, t0, h0, h⟩ := bind_inv _ _ _ _ _ h
  cases h0
  dsimp only at h
  obtain ⟨_, t1, h1, h⟩ := bind_inv _ _ _ _ _ h
  obtain ⟨_, t2, h2, h⟩ := bind_inv _ _ _ _ _ h
  obtain ⟨yb, t3, h3, h⟩ := bind_inv _ _ _ _ _ h
  obtain ⟨_, t4, h4, h⟩ := bind_inv _ _ _ _ _ h
  obtain ⟨a1, t5, h5, h⟩ := bind_inv _ _ _ _ _ h
  obtain ⟨_, t6, h6, h⟩ := bind_inv _ _ _ _ _ h
  cases h2
  cases h4
  cases h6
  have e1 : t5.arg2 = t3.arg2 := (same_viPrefix _ _ _ h5).2
  have e2 : t3.arg2 = 0 := (Same.of_counts (fun hP => Lemmas.ViPres.pres_viYankbuf hP.blind) _ _ _ h3).2
  obtain ⟨b0, b1⟩ := C05b.viPrefix_bounded _ _ _ h5
  refine ⟨yb, _, ⟨b0, b1, ?_, ?_⟩, ?_, h⟩
  · show 0 ≤ t5.arg2; omega
  · show t5.arg2 ≤ 999999999; omega
  · show t5.arg2 = 0; omega

/-- the motion of a command — the place that evaluates `vi_cnt()` — starts in a state with `CountsFit`,
    whatever the state at the start of the iteration -/
theorem viPre_motion_at_fit (s s' : VS) (r : Int × Int × Int) (h : viPre s = Res.ok r s') :
    ∃ s2, CountsFit s2 ∧ s2.arg2 = 0 ∧ viMotion s.ed.xrow (noeol s s.ed.xrow s.ed.xoff) s2 = Res.ok r s' := by
  obtain ⟨yb, s1, hf, h0, hr⟩ := viPre_split s s' r h
  unfold viPreRest at hr
  split at hr
  · obtain ⟨yb', s2, h1, hr⟩ := bind_inv _ _ _ _ _ hr
    obtain ⟨_, s3, h2, hr⟩ := bind_inv _ _ _ _ _ hr
    cases h2
    obtain ⟨e1, e2⟩ := Same.of_counts (fun hP => Lemmas.ViPres.pres_viYankbuf hP.blind) _ _ _ h1
    exact ⟨{ s2 with ybuf := yb' }, countsFit_of_args (s' := { s2 with ybuf := yb' }) e1 e2 hf, e2.trans h0, hr⟩
  · exact ⟨s1, hf, h0, hr⟩

theorem viPre_establishes_fit (s s' : VS) (r : Int × Int × Int) (h : viPre s = Res.ok r s') : CountsFit s' := by
  obtain ⟨yb, s1, hf, _, hr⟩ := viPre_split s s' r h
  exact counts_viPreRest countsOnly_fit _ _ _ _ _ _ hf hr

theorem presFit_viPre : PresFit viPre := fun s r s' _ h => viPre_establishes_fit s s' r h

/-! ### the rest of an iteration, and the iteration -/

theorem presFit_motionTail (mv nrow noff : Int) : PresFit (motionTail mv nrow noff) :=
  Lemmas.ViPres.pres_motionTail countsOnly_fit.loop mv nrow noff

/-- the commands keep `CountsFit`: of all that the command switch calls only `vcMotion` assigns a count -/
theorem presFit_leaves : Lemmas.ViPres.CmdLeaves CountsFit where
  ops := countsOnly_fit.ops
  loop := countsOnly_fit.loop
  repCmd := fun _ => PresFit.modify fun _ => ⟨rfl, rfl⟩
  scroll := fun _ => PresFit.modify fun _ => ⟨rfl, rfl⟩
  setLb := fun _ => PresFit.withEd _
  xtd := fun _ => PresFit.withEd _
  lbufModified := presFit_lbufModified
  exCommandV := presFit_exCommandV
  vcMotion := presFit_vcMotion

/-- the command switch of `vi()` -/
theorem presFit_commandTail : PresFit commandTail := Lemmas.ViPres.pres_commandTail presFit_leaves

theorem presFit_viPost (cont : Option Nat) : PresFit (viPost cont) := counts_viPost countsOnly_fit cont

/-- what an iteration does once the prefixes and the motion have been read (`Lemmas.C07.stepCont`, then `viPost`) -/
theorem presFit_stepCont (mv nrow noff : Int) : PresFit (Lemmas.C07.stepCont mv nrow noff >>= viPost) := by
  unfold Lemmas.C07.stepCont
  refine PresFit.bind ?_ presFit_viPost
  exact PresFit.ite (presFit_motionTail _ _ _) (PresFit.ite presFit_commandTail (PresFit.pure _))

/-- **one iteration of the command loop of `vi()` keeps both counts within `[0, 999999999]`** -/
theorem presFit_viStep : PresFit viStep := by
  rw [Lemmas.C07.viStep_eq]
  exact PresFit.bind presFit_viPre (fun r => presFit_stepCont _ _ _)

/-- the command switch and the end of an iteration start in a state with `CountsFit` -/
theorem viStep_rest_at_fit (s s' : VS) (u : Unit) (h : viStep s = Res.ok u s') :
    ∃ mv nrow noff s1, viPre s = Res.ok (mv, nrow, noff) s1 ∧ CountsFit s1 ∧
      (Lemmas.C07.stepCont mv nrow noff >>= viPost) s1 = Res.ok u s' := by
  rw [Lemmas.C07.viStep_eq] at h
  obtain ⟨r, s1, h1, h2⟩ := bind_inv _ _ _ _ _ h
  exact ⟨r.1, r.2.1, r.2.2, s1, h1, viPre_establishes_fit _ _ _ h1, h2⟩

/-- **every completed iteration of the command loop establishes `CountsFit`**, whatever the state before -/
theorem viStep_establishes_fit (s s' : VS) (u : Unit) (h : viStep s = Res.ok u s') : CountsFit s' := by
  obtain ⟨mv, nrow, noff, s1, _, hf, h2⟩ := viStep_rest_at_fit s s' u h
  exact presFit_stepCont _ _ _ _ _ _ hf h2

/-! ## K3. the states the editor reaches -/

/-- **`CountsFit` is an invariant of the editor**: it holds of every state reached by iterating `viStep`
    from a state in which it holds (the initial state: both counts 0) -/
theorem countsFit_reachable (s₀ : VS) (h0 : CountsFit s₀) : ∀ (n : Nat) (s : VS), iterate n s₀ = some s → CountsFit s :=
  fun n s h => iterate_keeps presFit_viStep n s₀ s h0 h

/-- after at least one completed command the hypothesis on the initial state is not needed -/
theorem countsFit_after_command (s₀ : VS) (n : Nat) (s : VS) (h : iterate (n + 1) s₀ = some s) : CountsFit s := by
  unfold iterate at h
  split at h
  · rename_i u s1 h1
    exact countsFit_reachable s1 (viStep_establishes_fit _ _ _ h1) n s h
  · cases h

/-- **the arithmetic of `vi_cnt()` fits in every reachable state**: the count is in `[1, 999999999]` and the
    product of the two factors, which the C code forms in `long long`, is below `2^63` -/
theorem count_arithmetic_fits (s₀ : VS) (h0 : CountsFit s₀) (n : Nat) (s : VS) (h : iterate n s₀ = some s) :
    1 ≤ cntOf s ∧ cntOf s ≤ 999999999 ∧
    1 ≤ (if s.arg1 != 0 then s.arg1 else 1) * (if s.arg2 != 0 then s.arg2 else 1) ∧
    (if s.arg1 != 0 then s.arg1 else 1) * (if s.arg2 != 0 then s.arg2 else 1) < 2 ^ 63 := by
  have hf := countsFit_reachable s₀ h0 n s h
  exact C05b.cntOf_bounded s hf.1 hf.2.1 hf.2.2.1 hf.2.2.2

/-- the same inside a command: where the motion of the (n+1)-th command starts — the state in which
    `viMotion` / `viMotionln` evaluate `vi_cnt()` — the count is in `[1, 999999999]` -/
theorem count_arithmetic_fits_at_motion (s₀ : VS) (n : Nat) (s s' : VS) (r : Int × Int × Int)
    (_h : iterate n s₀ = some s) (hp : viPre s = Res.ok r s') :
    ∃ s2, viMotion s.ed.xrow (noeol s s.ed.xrow s.ed.xoff) s2 = Res.ok r s' ∧
      1 ≤ cntOf s2 ∧ cntOf s2 ≤ 999999999 := by
  obtain ⟨s2, hf, _, hm⟩ := viPre_motion_at_fit s s' r hp
  exact ⟨s2, hm, C05b.cntOf_bounded_of_fit s2 hf⟩

/-! ### the iteration of the driver

`Drive/Vi.lean` runs the model with `runModel`: `ex_init`, `viInit`, then `runModel.loop`, which iterates
`viStep` until the keys run out, the model traps, `xquit` is set or the fuel is used up, and records every
state at a command boundary in `Run.states`. -/

/-- the initial state of `vi()` (`viInit`): both counts are 0 -/
theorem countsFit_viInit (ed : Ed) (keys : Bytes) (rows cols : Int) : CountsFit (viInit ed keys rows cols) :=
  ⟨Int.le_refl 0, (by decide : (0 : Int) ≤ 999999999), Int.le_refl 0, (by decide : (0 : Int) ≤ 999999999)⟩

open Neatvi.Drive.ViD in
/-- **every state at a command boundary of a run of the driver has `CountsFit`**: for every file, every
    key sequence and every window size -/
theorem countsFit_runModel (file : Option Bytes) (keys : Bytes) (rows cols : Int) (run : Run)
    (h : runModel file keys rows cols = some run) : ∀ s ∈ run.states, CountsFit s := by
  obtain ⟨ed, _, hr⟩ := runModel_inv h
  exact hr (fun s u s' hs hm _ => presFit_viStep s u s' hs hm) (countsFit_viInit _ _ _ _)

open Neatvi.Drive.ViD in
/-- ... hence `vi_cnt()` is in `[1, 999999999]` and its product a `long long` in every one of them -/
theorem count_arithmetic_fits_runModel (file : Option Bytes) (keys : Bytes) (rows cols : Int) (run : Run)
    (h : runModel file keys rows cols = some run) (s : VS) (hs : s ∈ run.states) :
    1 ≤ cntOf s ∧ cntOf s ≤ 999999999 ∧
    1 ≤ (if s.arg1 != 0 then s.arg1 else 1) * (if s.arg2 != 0 then s.arg2 else 1) ∧
    (if s.arg1 != 0 then s.arg1 else 1) * (if s.arg2 != 0 then s.arg2 else 1) < 2 ^ 63 := by
  have hf := countsFit_runModel file keys rows cols run h s hs
  exact C05b.cntOf_bounded s hf.1 hf.2.1 hf.2.2.1 hf.2.2.2

/-! ## K4. non-vacuity -/

/-- the initial states of the examples of `Props/C08b.lean`: both counts are 0 -/
theorem countsFit_exSt (keys : Bytes) (row off : Int) : CountsFit (C08b.exSt keys row off) :=
  ⟨Int.le_refl 0, (by decide : (0 : Int) ≤ 999999999), Int.le_refl 0, (by decide : (0 : Int) ≤ 999999999)⟩

/-- the keys `99999999999d99999999999d` -/
def hugeKeys : Bytes :=
  [57, 57, 57, 57, 57, 57, 57, 57, 57, 57, 57, 100, 57, 57, 57, 57, 57, 57, 57, 57, 57, 57, 57, 100]

/-- one iteration on `99999999999d99999999999d` (computed by the kernel): both counts saturate at
    999999999, `vi_cnt()` is 999999999, the two lines of the buffer are deleted and all keys consumed -/
example : (match viStep (C08b.exSt hugeKeys 0 0) with
    | Res.ok _ s' => (s'.arg1, s'.arg2, cntOf s', lines s', s'.typed)
    | _ => (-1, -1, -1, [], [])) = (999999999, 999999999, 999999999, [], []) := by decide +kernel

/-- ... and the state after it satisfies `CountsFit`: by the theorem -/
example : ∀ u s', viStep (C08b.exSt hugeKeys 0 0) = Res.ok u s' → CountsFit s' :=
  fun _ _ h => presFit_viStep _ _ _ (countsFit_exSt _ _ _) h

/-- ... and by computation -/
example : (match viStep (C08b.exSt hugeKeys 0 0) with
    | Res.ok _ s' => decide (0 ≤ s'.arg1) && decide (s'.arg1 ≤ 999999999) && decide (0 ≤ s'.arg2) && decide (s'.arg2 ≤ 999999999)
    | _ => false) = true := by decide +kernel

/-- `iterate` reaches a state on these keys (the hypothesis of `countsFit_reachable` is satisfiable) -/
example : (iterate 1 (C08b.exSt hugeKeys 0 0)).isSome = true := by decide +kernel

/-- `2y3l` (computed by the kernel): the two counts are 2 and 3, `vi_cnt()` is 6, six characters are yanked -/
example : (match viStep (C08b.exSt [50, 121, 51, 108] 0 0) with
    | Res.ok _ s' => (s'.arg1, s'.arg2, cntOf s', regGet s'.ed 0)
    | _ => (-1, -1, 0, none)) = (2, 3, 6, some [104, 101, 108, 108, 111, 32]) := by decide +kernel

/-- the `:` prompt with a count before it, left with ESC: `5:1<ESC>` (the kernel cannot evaluate
    `ex_command` inside `viStep` in reasonable space, so the ex commands themselves are covered by the
    theorem only: see the next example) -/
example : (match viStep (C08b.exSt [53, 58, 49, 27] 0 0) with
    | Res.ok _ s' => (s'.arg1, s'.arg2, (lines s').length, s'.typed)
    | _ => (-1, -1, 0, [])) = (5, 0, 2, []) := by decide +kernel

/-- whatever ex command is entered through `:`, and whatever it does to the editor state, the counts are
    as before -/
example (ln : Bytes) (s s' : VS) (rc : Int) (h : exCommandV ln s = Res.ok rc s') :
    s'.arg1 = s.arg1 ∧ s'.arg2 = s.arg2 := Same.of_counts (counts_exCommandV · ln) s rc s' h

/-- `PresFit` is not trivially true: a computation that stores an arbitrary number in a count fails it -/
example : ¬ PresFit (Vi.modify fun s => { s with arg1 := 1000000000 }) := by
  intro h
  have := h (C08b.exSt [] 0 0) () _ (countsFit_exSt _ _ _) rfl
  exact absurd this.2.1 (by decide)

end Neatvi.Props.C05c
