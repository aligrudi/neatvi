import NeatviVerif.Lemmas.C05dWitness
/-!
# C05d: the positions the ex layer keeps — current row, marks, parked rows — and `AddrFits` as an invariant

`C05b` proves that address evaluation cannot overflow `int` when `AddrFits ed` holds (current row and marks within
`±NUMMAX`, buffer length `≤ NUMMAX`) and that address evaluation itself keeps `AddrFits`.  It leaves open that the ex
commands keep it.  This file closes the gap — with a correction: the conjectured law "the current row is inside the
buffer" is FALSE, in the model and in the C code alike.

**What the ex layer really maintains** (`PosOk none ed`, an invariant of every command, no side condition):
* `-1 ≤ xrow` and `0 ≤ xoff`;
* in every buffer of the table (the current one included) every mark — `'a`–`'z`, `''`, `'*`, `'[`, `']`, `'^` — is
  unset (`-1`) or a row `0 … len` of that buffer, every stored line is well formed, and the marks saved in an undo
  record lie among the lines the record puts back (`LbPos`);
* the row and column parked in every slot of the buffer table by `bufs_save()` are `≥ -1` and `≥ 0`.

**What it does not maintain** (section 5, each with a concrete state and checked on `/repo/vi`):
* `xrow ≤ len`: `:u`, `:redo`, `:!cmd` (filter) and `:s` change the number of lines and leave `xrow` where it was;
  an address `N;` sets `xrow = N - 1` before the address is checked (`:9;p` on a three-line buffer fails and leaves
  `xrow = 8`);
* `0 ≤ xrow`: `:c` with no text on a buffer that becomes empty — and `:1c` with no text — set `xrow = -1`.
Address evaluation copes (`ex_region` clamps the row for an empty address, and a `.` out of range is rejected), so
this is not a memory error; but no bound on `xrow` follows from the length of the buffer *now*.

**The upper bound** therefore needs the length to have stayed small: `PosOk (some m) ed` adds `xrow ≤ m` and
`row ≤ m` for every parked row (`m ≥ NUMMAX`, the largest row an address can set).  It is kept by a handler call
when the buffer is at most `m` lines long afterwards (`runCmd_keeps_capped`), and by a command line, a round of the
`ex()` loop, a script when that holds of every state *visited* (`VCommand`, `VStep`, `VScript`: the states handler
calls return — at any depth: `:g`, `:@`, `:e +cmd` run command lines of their own —, the states at the start of
the rounds of `:g`, the state a `+cmd` starts from; for a script also the states before its lines); and then every
visited state has the invariant with the cap, too.  That the hypothesis cannot be weakened to the states between the
lines of the script is `cap_between_lines_is_false` (`:$r g|u`).  With `m = NUMMAX`: along every script during which
the current buffer never exceeds `NUMMAX` lines, `AddrFits` holds in every one of these states
(`script_addrFits_everywhere`), so no address evaluated there overflows (`script_addresses_fit`) — the size bound
is the one hypothesis the C code needs as well.

Byte strings are lists of character codes.
-/
namespace Neatvi.Props.C05d
open Neatvi Neatvi.Lbuf Neatvi.LbufIo Neatvi.Ex
open Neatvi.Lemmas.C05d
open Neatvi.Props.C02.Ex (exRun)
open Neatvi.Lemmas.C05b (AddrFits)

export Neatvi.Lemmas.C05d (MarkIn MarksIn EntPos LbPos RowOk LenLe BufPos TabPos PosOk VCommand VExec VCmds VRun VAt VEdit
  VGlob VScan VStep VScript initArg stepStart RowIn xrow_inside_full)

/-! ## 1. line buffers: the marks stay inside -/

/-- the invariant holds for a fresh buffer and is kept by every primitive of the lbuf API the ex layer uses, with
    any arguments: `lbuf_edit`, `lbuf_rd`, `lbuf_undo`, `lbuf_redo`, `lbuf_modified`, `lbuf_saved`, `lbuf_unsaved`,
    the glob marks, and `lbuf_mark` when the position given is `-1 … len` -/
theorem lb_marks_preserved :
    LbPos Lbuf.make ∧
    (∀ lb buf b e lb', LbPos lb → Lbuf.edit lb buf b e = some lb' → LbPos lb') ∧
    (∀ lb chunks fe b e rc lb', LbPos lb → rd lb chunks fe b e = some (rc, lb') → LbPos lb') ∧
    (∀ lb rc lb', LbPos lb → Lbuf.undo lb = some (rc, lb') → LbPos lb') ∧
    (∀ lb rc lb', LbPos lb → Lbuf.redo lb = some (rc, lb') → LbPos lb') ∧
    (∀ lb, LbPos lb → LbPos (modified lb).2) ∧
    (∀ lb c, LbPos lb → LbPos (savedCore lb c)) ∧
    (∀ lb, LbPos lb → LbPos (unsavedMark lb)) ∧
    (∀ lb c p o, LbPos lb → MarkIn lb.lines.length p → LbPos (setMark lb c p o)) ∧
    (∀ lb p k, LbPos lb → LbPos (globSet lb p k)) ∧
    (∀ lb p k, LbPos lb → LbPos (globGet lb p k).2) :=
  ⟨lbPos_make, fun _ buf b e _ h he => lbPos_edit h buf b e he, fun _ c fe b e rc _ h hr => lbPos_rd h c fe b e rc hr,
    fun _ _ _ h hu => lbPos_undo h hu, fun _ _ _ h hu => lbPos_redo h hu, fun _ h => lbPos_modified h,
    fun _ c h => lbPos_savedCore h c, fun _ h => lbPos_unsavedMark h, fun _ c p o h hp => lbPos_setMark h c p o hp,
    fun _ p k h => lbPos_globSet h p k, fun _ p k h => lbPos_globGet h p k⟩

/-- what `'x` in an address reads: a mark that is set is a row `0 … len` of the buffer (`len` itself when the tail
    of the buffer was deleted under it) -/
theorem mark_inside (lb : Lb) (c : Nat) (p o : Int) (h : LbPos lb) (hj : jump lb c = some (p, o)) :
    0 ≤ p ∧ p ≤ lb.lines.length := h.jump hj

/-- the current buffer of a state with the invariant -/
theorem current_marks_inside (M : Option Int) (ed : Ed) (lb : Lb) (c : Nat) (p o : Int) (h : PosOk M ed)
    (hl : ed.lb = some lb) (hj : jump lb c = some (p, o)) : 0 ≤ p ∧ p ≤ ed.len := by
  have := mark_inside lb c p o (h.lbPos hl) hj
  have hlen : ed.len = lb.lines.length := by unfold Ed.len; rw [hl]
  rw [hlen]; exact this

/-! ## 2. the editor: every command keeps the invariant -/

/-- the state `ex_init` starts from: an empty buffer table, row and column `0` -/
theorem posOk_initial (ed0 : Ed) (h0 : ed0.bufs = List.replicate Gen.NBUFS none) (hr : ed0.xrow = 0)
    (ho : ed0.xoff = 0) : PosOk none ed0 :=
  posOk_start ed0 _ (fun _ h => by cases h) h0 hr ho

/-- every `ec_*` handler keeps the invariant, for every fuel, whatever the arguments and the return code -/
theorem runCmd_keeps (f : Nat) (ed ed' : Ed) (hd : String) (loc cmd arg : Bytes) (txt : Option Bytes) (r : Int)
    (hi : PosOk none ed) (h : runCmd f ed hd loc cmd arg txt = some (r, ed')) : PosOk none ed' :=
  (runCmd_pos' hi h (lenLe_none _) (fun _ _ => lenLe_none _)).1

/-- `ex_exec`: a command line `c1|c2|…` -/
theorem exExec_keeps (f : Nat) (ed ed' : Ed) (ln : Bytes) (r : Int) (hi : PosOk none ed)
    (h : exExec f ed ln = some (r, ed')) : PosOk none ed' := (exExec_pos' hi h (fun _ _ => lenLe_none _)).1

/-- `ex_command` -/
theorem exCommand_keeps (f : Nat) (ed ed' : Ed) (ln : Bytes) (r : Int) (hi : PosOk none ed)
    (h : exCommand f ed ln = some (r, ed')) : PosOk none ed' := (exCommand_pos' hi h (fun _ _ => lenLe_none _)).1

/-- `ec_edit`, also with a `+cmd` -/
theorem ecEdit_keeps (f : Nat) (ed ed' : Ed) (cmd arg : Bytes) (r : Int) (hi : PosOk none ed)
    (h : ecEdit f ed cmd arg = some (r, ed')) : PosOk none ed' := (ecEdit_pos' hi h (fun _ _ => lenLe_none _)).1

/-- one round of the `ex()` loop -/
theorem exStep_keeps (ed ed' : Ed) (r : Int) (hi : PosOk none ed) (h : exStep ed = some (r, ed')) : PosOk none ed' :=
  (exStep_pos hi h (fun _ _ => lenLe_none _)).1

theorem exInit_keeps (ed ed' : Ed) (files : List Bytes) (r : Int) (hi : PosOk none ed)
    (h : exInit ed files = some (r, ed')) : PosOk none ed' := exInit_pos hi h (fun _ _ => lenLe_none _)

theorem exRun_keeps (n : Nat) (ed ed' : Ed) (hi : PosOk none ed) (h : exRun n ed = some ed') : PosOk none ed' :=
  (exRun_pos n ed ed' hi h (fun _ _ => lenLe_none _)).1

/-- **every state the editor reaches by `ex_init` and any number of command lines has the invariant**: the current
    row is at least `-1`, the column at least `0`, every mark of every buffer is unset or a row `0 … len` of its
    buffer, every parked row is at least `-1` -/
theorem editor_positions (ed0 : Ed) (files : List Bytes) (n : Nat) (rc : Int) (ed1 ed : Ed)
    (h0 : ed0.bufs = List.replicate Gen.NBUFS none) (hr : ed0.xrow = 0) (ho : ed0.xoff = 0)
    (hinit : exInit ed0 files = some (rc, ed1)) (hrun : exRun n ed1 = some ed) : PosOk none ed :=
  exRun_keeps n ed1 ed (exInit_keeps ed0 ed1 files rc (posOk_initial ed0 h0 hr ho) hinit) hrun

/-- the same, spelled out -/
theorem editor_positions_spelled (ed0 : Ed) (files : List Bytes) (n : Nat) (rc : Int) (ed1 ed : Ed)
    (h0 : ed0.bufs = List.replicate Gen.NBUFS none) (hr : ed0.xrow = 0) (ho : ed0.xoff = 0)
    (hinit : exInit ed0 files = some (rc, ed1)) (hrun : exRun n ed1 = some ed) :
    -1 ≤ ed.xrow ∧ 0 ≤ ed.xoff ∧
    ∀ i b, ed.bufs.getD i none = some b → -1 ≤ b.row ∧ 0 ≤ b.off ∧
      ∀ c p o, jump b.lb c = some (p, o) → 0 ≤ p ∧ p ≤ b.lb.lines.length := by
  have h := editor_positions ed0 files n rc ed1 ed h0 hr ho hinit hrun
  refine ⟨h.xrow.1, h.xoff, fun i b hb => ?_⟩
  have hb' := tabPos_getD h.tab hb
  exact ⟨hb'.row.1, hb'.off, fun c p o hj => mark_inside b.lb c p o hb'.lb hj⟩

/-- **the commands that set the current row set it inside the buffer**: after a successful (return code 0) `:p` or
    empty command, `:d`, `:a` / `:i` / `:c`, `:pu`, `:r` the row is `-1 … len` (`RowIn`; `-1` after `:1c` with no text,
    `len` after `:$d`).  The commands of section 5 — `:u`, `:redo`, `:s`, `:!` — and failing commands leave it where it
    was or where an address `N;` put it -/
theorem setting_commands_row_inside (f : Nat) (ed ed' : Ed) (hd : String) (loc cmd arg : Bytes) (txt : Option Bytes)
    (hh : hd = "ec_insert" ∨ hd = "ec_print" ∨ hd = "ec_null" ∨ hd = "ec_delete" ∨ hd = "ec_put" ∨ hd = "ec_read")
    (hi : PosOk none ed) (h : runCmd (f + 1) ed hd loc cmd arg txt = some (0, ed')) :
    -1 ≤ ed'.xrow ∧ ed'.xrow ≤ ed'.len :=
  runCmd_row_in f ed ed' hd loc cmd arg txt hh hi h

/-! ## 3. the upper bound: rows under a cap while the buffer stays under it -/

/-- the invariant with the cap `m` is the invariant, `m ≥ NUMMAX`, and `xrow ≤ m`, `row ≤ m` for every parked row -/
theorem posOk_cap_iff (ed : Ed) (m : Int) :
    PosOk (some m) ed ↔ PosOk none ed ∧ NUMMAX ≤ m ∧ ed.xrow ≤ m ∧ ∀ b, some b ∈ ed.bufs → b.row ≤ m :=
  ⟨fun h => ⟨h.uncap, h.cap m rfl, h.cap_xrow, h.cap_rows⟩, fun ⟨h, a, b, c⟩ => posOk_cap h a b c⟩

/-- one handler call other than `:@`, `:g`, `:e`: the rows stay under the cap when the current buffer is at most `m`
    lines long after the call -/
theorem runCmd_keeps_capped (m : Int) (f : Nat) (ed ed' : Ed) (hd : String) (loc cmd arg : Bytes) (txt : Option Bytes)
    (r : Int) (h1 : hd ≠ "ec_at") (h2 : hd ≠ "ec_glob") (h3 : hd ≠ "ec_edit") (hi : PosOk (some m) ed)
    (h : runCmd f ed hd loc cmd arg txt = some (r, ed')) (hl : ed'.len ≤ m) : PosOk (some m) ed' :=
  (runCmd_pos' hi h (fun _ hk => by cases hk; exact hl) (fun _ hs => absurd hs (vrun_atomic h1 h2 h3))).1

/-- any handler call: the buffer has to be under the cap in every state the call visits, too; then the state it
    returns and every state it visits have the invariant with the cap -/
theorem runCmd_keeps_capped_visits (m : Int) (f : Nat) (ed ed' : Ed) (hd : String) (loc cmd arg : Bytes)
    (txt : Option Bytes) (r : Int) (hi : PosOk (some m) ed) (h : runCmd f ed hd loc cmd arg txt = some (r, ed'))
    (hl : ed'.len ≤ m) (hv : ∀ s, VRun f ed hd loc cmd arg txt s → s.len ≤ m) :
    PosOk (some m) ed' ∧ ∀ s, VRun f ed hd loc cmd arg txt s → PosOk (some m) s :=
  runCmd_pos' hi h (fun _ hk => by cases hk; exact hl) (fun s hs _ hk => by cases hk; exact hv s hs)

/-- `:e` needs no bound at all unless it runs a `+cmd`: it clamps the row it finds -/
theorem ecEdit_keeps_capped (m : Int) (f : Nat) (ed ed' : Ed) (cmd arg : Bytes) (r : Int) (hi : PosOk (some m) ed)
    (h : ecEdit f ed cmd arg = some (r, ed')) (hp : (arg.dropWhile (· == 32)).headD 0 ≠ 43) : PosOk (some m) ed' :=
  (ecEdit_pos' hi h (fun _ hs => absurd hs (vedit_noplus hp))).1

/-- a command line through `ex_command`: the final state and every visited state -/
theorem exCommand_keeps_capped (m : Int) (f : Nat) (ed ed' : Ed) (ln : Bytes) (r : Int) (hi : PosOk (some m) ed)
    (h : exCommand f ed ln = some (r, ed')) (hv : ∀ s, VCommand f ed ln s → s.len ≤ m) :
    PosOk (some m) ed' ∧ ∀ s, VCommand f ed ln s → PosOk (some m) s :=
  exCommand_pos' hi h (fun s hs _ hk => by cases hk; exact hv s hs)

/-- one round of the `ex()` loop -/
theorem exStep_keeps_capped (m : Int) (ed ed' : Ed) (r : Int) (hi : PosOk (some m) ed) (h : exStep ed = some (r, ed'))
    (hv : ∀ s, VStep ed s → s.len ≤ m) : PosOk (some m) ed' ∧ ∀ s, VStep ed s → PosOk (some m) s :=
  exStep_pos hi h (fun s hs _ hk => by cases hk; exact hv s hs)

/-- `ex_init` with a file name that does not start with `+` -/
theorem exInit_keeps_capped (m : Int) (ed ed' : Ed) (files : List Bytes) (r : Int) (hi : PosOk (some m) ed)
    (h : exInit ed files = some (r, ed')) (hp : ((initArg files).dropWhile (· == 32)).headD 0 ≠ 43) :
    PosOk (some m) ed' := exInit_pos_noplus hi h hp

/-- a script: `VScript n ed s` are the states before every line and the states the lines visit; all of them, and the
    final state, have the invariant with the cap -/
theorem exRun_keeps_capped (m : Int) (n : Nat) (ed ed' : Ed) (hi : PosOk (some m) ed) (h : exRun n ed = some ed')
    (hv : ∀ s, VScript n ed s → s.len ≤ m) : PosOk (some m) ed' ∧ ∀ s, VScript n ed s → PosOk (some m) s :=
  exRun_pos n ed ed' hi h (fun s hs _ hk => by cases hk; exact hv s hs)

/-- how the hypothesis on the visited states is discharged for an ordinary line: a line holding one command that is
    not `:@`, `:g`, `:e` (nothing is left of the line after it: `runOne … = some (_, [])`) visits exactly one state, the
    one that command returns -/
theorem plain_line_visits_one_state (ed ed1 s : Ed) (ln : Bytes) (rest0 : List Bytes) (r : Int)
    (hin : ed.input = ln :: rest0)
    (hone : Lemmas.C06b.runOne (FUEL - 2) (stepStart ed rest0) (Lemmas.C06b.parse1 ln) 0 = some ((r, ed1), []))
    (hat : ∀ a h, (Lemmas.C06b.parse1 ln).idx = some (a, h) → h ≠ "ec_at" ∧ h ≠ "ec_glob" ∧ h ≠ "ec_edit")
    (hv : VStep ed s) : s = ed1 := vstep_single hin hone hat hv

theorem exRun_visits_result (n : Nat) (ed ed' : Ed) (h : exRun n ed = some ed') : VScript n ed ed' := by
  induction n generalizing ed with
  | zero => cases h; exact VScript.start
  | succ n ih =>
    rw [exRun] at h
    split at h
    · cases h; exact VScript.start
    · rename_i hne
      split at h
      · cases h
      · rename_i r1 ed1 hs
        exact VScript.next (by simpa using hne) hs (ih ed1 h)

theorem vscript_prefix (k n : Nat) (ed s : Ed) (hk : k ≤ n) (h : VScript k ed s) : VScript n ed s := by
  induction h generalizing n with
  | start => exact VScript.start
  | line hs =>
    cases n with
    | zero => omega
    | succ n => exact VScript.line hs
  | next h1 h2 _ ih =>
    cases n with
    | zero => omega
    | succ n => exact VScript.next h1 h2 (ih n (by omega))

/-! ## 4. `AddrFits` along scripts -/

/-- with the cap `NUMMAX` and the current buffer at most `NUMMAX` lines long, everything address evaluation reads
    from the state is inside the range of line numbers: `C05b.exLineno_no_overflow` and `C05b.exRegion_bounded`
    apply -/
theorem addrFits_of_invariant (ed : Ed) (h : PosOk (some NUMMAX) ed) (hl : ed.len ≤ NUMMAX) : AddrFits ed :=
  addrFits_of_posOk h hl

/-- **`AddrFits` along a script**: from the state `ex_init` leaves, along a script during which the current buffer
    never has more than `NUMMAX` lines — in the states before the lines and in the visited states — EVERY one of these
    states has `AddrFits`: the state before every line, the state every handler call returns (at any depth), the
    state at the start of every round of a `:g`, the state a `+cmd` starts from -/
theorem script_addrFits_everywhere (ed0 : Ed) (files : List Bytes) (n : Nat) (rc : Int) (ed1 ed : Ed)
    (h0 : ed0.bufs = List.replicate Gen.NBUFS none) (hr : ed0.xrow = 0) (ho : ed0.xoff = 0)
    (hp : ((initArg files).dropWhile (· == 32)).headD 0 ≠ 43)
    (hinit : exInit ed0 files = some (rc, ed1)) (hrun : exRun n ed1 = some ed)
    (hv : ∀ s, VScript n ed1 s → s.len ≤ NUMMAX) : ∀ s, VScript n ed1 s → AddrFits s := by
  have p0 : PosOk (some NUMMAX) ed0 := posOk_start ed0 _ (fun _ hk => by cases hk; exact Int.le_refl _) h0 hr ho
  have p1 := exInit_pos_noplus p0 hinit hp
  have p := (exRun_pos n ed1 ed p1 hrun (fun s hs _ hk => by cases hk; exact hv s hs)).2
  exact fun s hs => addrFits_of_posOk (p s hs) (hv s hs)

/-- in particular the final state -/
theorem script_addrFits (ed0 : Ed) (files : List Bytes) (n : Nat) (rc : Int) (ed1 ed : Ed)
    (h0 : ed0.bufs = List.replicate Gen.NBUFS none) (hr : ed0.xrow = 0) (ho : ed0.xoff = 0)
    (hp : ((initArg files).dropWhile (· == 32)).headD 0 ≠ 43)
    (hinit : exInit ed0 files = some (rc, ed1)) (hrun : exRun n ed1 = some ed)
    (hv : ∀ s, VScript n ed1 s → s.len ≤ NUMMAX) : AddrFits ed :=
  script_addrFits_everywhere ed0 files n rc ed1 ed h0 hr ho hp hinit hrun hv ed (exRun_visits_result n ed1 ed hrun)

/-- and the state after every number `k ≤ n` of lines -/
theorem script_addrFits_along (ed0 : Ed) (files : List Bytes) (n : Nat) (rc : Int) (ed1 : Ed)
    (h0 : ed0.bufs = List.replicate Gen.NBUFS none) (hr : ed0.xrow = 0) (ho : ed0.xoff = 0)
    (hp : ((initArg files).dropWhile (· == 32)).headD 0 ≠ 43)
    (hinit : exInit ed0 files = some (rc, ed1))
    (hv : ∀ s, VScript n ed1 s → s.len ≤ NUMMAX) (k : Nat) (hk : k ≤ n) (edk : Ed) (hrun : exRun k ed1 = some edk) :
    AddrFits edk :=
  script_addrFits ed0 files k rc ed1 edk h0 hr ho hp hinit hrun (fun s hs => hv s (vscript_prefix k n ed1 s hk hs))

/-- hence no address evaluated in one of these states overflows: `ex_lineno` with the range of `long long`
    checked at every addition is `ex_lineno`, and `ex_region` delivers `beg`, `end` within `[-1, NUMMAX + 1]` -/
theorem script_addresses_fit (ed0 : Ed) (files : List Bytes) (n : Nat) (rc : Int) (ed1 ed : Ed)
    (h0 : ed0.bufs = List.replicate Gen.NBUFS none) (hr : ed0.xrow = 0) (ho : ed0.xoff = 0)
    (hp : ((initArg files).dropWhile (· == 32)).headD 0 ≠ 43)
    (hinit : exInit ed0 files = some (rc, ed1)) (hrun : exRun n ed1 = some ed)
    (hv : ∀ s, VScript n ed1 s → s.len ≤ NUMMAX) (s : Ed) (hs : VScript n ed1 s) :
    (∀ loc : Bytes, loc.length ≤ Gen.EXLEN → Lemmas.C05b.exLinenoChk s loc = exLineno s loc) ∧
    (∀ (loc : Bytes) (k : Nat) (b e : Int) (s' : Ed), exRegion s loc = some ((k, b, e), s') →
      AddrFits s' ∧ -1 ≤ b ∧ b ≤ NUMMAX ∧ -1 ≤ e ∧ e ≤ NUMMAX + 1) :=
  have hf := script_addrFits_everywhere ed0 files n rc ed1 ed h0 hr ho hp hinit hrun hv s hs
  ⟨fun loc hl => Props.C05b.exLineno_no_overflow s loc hf hl,
    fun loc k b e s' h => Props.C05b.exRegion_bounded s s' loc k b e hf h⟩

/-- the states of section 3 are the states the loop of `ex_exec` is in between two commands; a handler is entered
    from such a state after `ex_txt` took the text lines of an `:a` / `:i` / `:c` from the input, which touches neither
    the table nor the row: `AddrFits` carries over to the state the handler (and its `ex_region`) starts in -/
theorem addrFits_at_handler_entry (s : Ed) (src abbr : Bytes) (h : AddrFits s) : AddrFits (exTxt s src abbr).2 :=
  addrFits_fr (fr_exTxt s src abbr) h

/-- and in a round of `:g` the handler starts with the row on the line of the round, a line of the buffer -/
theorem addrFits_at_glob_line (s : Ed) (i : Int) (h : AddrFits s) (h0 : 0 ≤ i) (h1 : i < s.len) :
    AddrFits { s with xrow := i } :=
  h.set_xrow i (by unfold NUMMAX; omega) (by have := h.len_hi; omega)

/-! ## 5. what is false: the current row is not kept inside the buffer -/

/-- the conjecture `xrow_inside_full`: a handler call takes a state with the row inside the buffer
    (`0 ≤ xrow ≤ max 0 (len - 1)`) to a state with the row inside.  It is false: `:u` after two lines were appended to a
    one-line buffer (row on the last of three lines) leaves one line and the row `2` — not even `xrow ≤ len` holds
    afterwards -/
theorem xrow_inside_is_false : ¬ xrow_inside_full := by
  intro hc
  obtain ⟨r, ed', h, hx, hl⟩ := extract w_undo
  have := (hc 1 wEd ed' "ec_undo" [] [117] [] none r wEd_posOk (by decide +kernel) (by decide +kernel) h).2
  rw [hx, hl] at this
  exact absurd this (by decide)

/-- the weakest form, `xrow ≤ len`, is false as well, and no undo is needed: the address `9;` sets the row to `8`
    on a buffer of three lines before `:9;p` is rejected -/
theorem xrow_le_len_is_false :
    ¬ (∀ (f : Nat) (ed ed' : Ed) (loc cmd arg : Bytes) (txt : Option Bytes) (r : Int),
      PosOk none ed → 0 ≤ ed.xrow → ed.xrow < ed.len → runCmd f ed "ec_print" loc cmd arg txt = some (r, ed') →
      ed'.xrow ≤ ed'.len) := by
  intro hc
  obtain ⟨r, ed', h, hx, hl⟩ := extract w_semicolon
  have := hc 1 wEd ed' [57, 59] [112] [] none r wEd_posOk (by decide +kernel) (by decide +kernel) h
  rw [hx, hl] at this
  exact absurd this (by decide)

/-- `0 ≤ xrow` is not an invariant either: `:c` with no text on an empty buffer sets the row to `-1` (so does `:1c`
    with no text on any buffer); `-1 ≤ xrow` is the law (and `-1 … len` after the commands of
    `setting_commands_row_inside`) -/
theorem xrow_nonneg_is_false :
    ¬ (∀ (f : Nat) (ed ed' : Ed) (hd : String) (loc cmd arg : Bytes) (txt : Option Bytes) (r : Int),
      PosOk none ed → 0 ≤ ed.xrow → runCmd f ed hd loc cmd arg txt = some (r, ed') → 0 ≤ ed'.xrow) := by
  intro hc
  obtain ⟨r, ed', h, hx, _⟩ := extract w_change_empty
  have := hc 1 wEd0 ed' "ec_insert" [] [99] [] (some []) r wEd0_posOk (by decide +kernel) h
  rw [hx] at this
  exact absurd this (by decide)

/-- the cap on the length has to hold in the states *between* the commands of a line, not only before and after
    the line: `:$r g` then `:u` (as in `:$r g|u`) start and end with three lines and a row `≤ 3`, the five lines in
    between are what lets the row reach `4` -/
theorem cap_between_lines_is_false :
    ¬ (∀ (m : Int) (ed ed1 ed2 : Ed) (r1 r2 : Int), PosOk none ed → ed.xrow ≤ m → ed.len ≤ m →
      runCmd 1 ed "ec_read" [36] [114] [103] none = some (r1, ed1) →
      runCmd 1 ed1 "ec_undo" [] [117] [] none = some (r2, ed2) → ed2.len ≤ m → ed2.xrow ≤ m) := by
  intro hc
  have hw := w_read_undo
  cases h1 : runCmd 1 wEd "ec_read" [36] [114] [103] none with
  | none => rw [h1] at hw; cases hw
  | some x1 =>
    rw [h1] at hw
    simp only [Option.bind_some] at hw
    obtain ⟨r2, ed2, h2, hx, hl⟩ := extract hw
    have := hc 3 wEd x1.2 ed2 x1.1 r2 wEd_posOk (by decide +kernel) (by decide +kernel) h1 h2 (by rw [hl]; decide)
    rw [hx] at this
    exact absurd this (by decide)

/-! ## 6. non-vacuity

`wEd`: a buffer of three lines `a`, `b`, `c` built by `lbuf_edit`, a command boundary, `lbuf_edit`, a command boundary
(so the last two lines are one undo step), the row on the last line, a file `g` of two lines; `wEdIn`: `wEd` about to
read the line `$r g`; `wEd0`: an empty buffer; `wEdStart`: no buffer yet and a file `f` of three lines. -/

/-- the initial state -/
example : PosOk none ({} : Ed) := posOk_initial {} rfl rfl rfl

/-- the hypotheses of `runCmd_keeps`: the witness state has the invariant, and so has what `:u` makes of it (one
    line, row `2`) -/
example : PosOk none wEd ∧ wEd.len = 3 ∧ wEd.xrow = 2 := ⟨wEd_posOk, wEd_inside⟩
example : ∃ r ed', runCmd 1 wEd "ec_undo" [] [117] [] none = some (r, ed') ∧ PosOk none ed' ∧ ed'.xrow = 2 ∧ ed'.len = 1 :=
  ex_undo

/-- the hypotheses of `runCmd_keeps_capped` on a concrete call: `:$r g` on the witness state, cap `NUMMAX`; the state
    after it has `AddrFits` -/
example : ∃ r ed', runCmd 1 wEd "ec_read" [36] [114] [103] none = some (r, ed') ∧ PosOk (some NUMMAX) ed' ∧
    ed'.xrow = 4 ∧ ed'.len = 5 ∧ AddrFits ed' := ex_read_capped

/-- the hypotheses of `exStep_keeps_capped` and `exRun_keeps_capped` on a concrete round: the line `$r g` typed at the
    witness state is run (it succeeds) and visits one state, of five lines (`wEdIn_visits`); the state after it has the
    invariant with the cap `NUMMAX` and `AddrFits` -/
example : ∀ s, VStep wEdIn s → s.len = 5 := wEdIn_visits
example : ∃ r ed', exStep wEdIn = some (r, ed') ∧ ed'.len = 5 ∧ PosOk (some NUMMAX) ed' ∧ AddrFits ed' := ex_step_capped
example : ∃ ed', exRun 1 wEdIn = some ed' ∧ ed'.len = 5 ∧ PosOk none ed' := ex_run

/-- the hypotheses of `editor_positions` (and `exInit_keeps`): `ex_init` on a file of three lines -/
example : ∃ rc ed1, exInit wEdStart [[102]] = some (rc, ed1) ∧ ed1.len = 3 ∧ PosOk none ed1 := ex_init

/-- the hypothesis `hp` of `script_addrFits`: the file name `f` does not start with `+` -/
example : ((initArg [[102]]).dropWhile (· == 32)).headD 0 ≠ 43 := by decide

/-- `setting_commands_row_inside` on a concrete call: `:$r g` leaves the row (4) inside the five lines -/
example : ∃ ed', runCmd 1 wEd "ec_read" [36] [114] [103] none = some (0, ed') ∧ -1 ≤ ed'.xrow ∧ ed'.xrow ≤ ed'.len :=
  ex_read_row_in

end Neatvi.Props.C05d
