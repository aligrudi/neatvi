import NeatviVerif.Lemmas.C05eW
/-!
# C05e: no trap of the ex layer is reachable

In the ex-level model the result `none` of `runCmd` / `exExec` / `exCommand` / `exStep` stands for a place where the C
code would dereference NULL, index out of bounds, step over a terminator or loop without bound.  This file proves,
handler by handler and then for command lines, rounds of the `ex()` loop and scripts, that **from a safe state none
of them is reached** — and says exactly which `none`s are left and why.

**The invariant** (`Safe ed`): every buffer of the table was built by the lbuf API (`EdInv` of C02b: the undo
history is consistent with the text, so `lbuf_undo` / `lbuf_redo` index inside it), there is a current buffer, and
the remembered search keyword is a C string (no NUL byte).  Nothing about the row, the marks or the registers is
needed: `ex_region` validates every address before a line is touched.  Every theorem below is total correctness:
the call *returns* and the state it returns is `Safe` again, at the same `:@` depth (`Ret d x`).

**Hypotheses that remain, all explicit**
* `0 ∉ loc`, `0 ∉ arg`: the pieces of a command line are C strings.  (A NUL inside a pattern, `\` NUL, makes the
  model's `ratom_read` see a backslash at the end of the text: `rstrMake_nul_traps`.  Not a C behaviour.)
* `PathFits ed arg sp`: the path expansion stays under the 1000 bytes the model follows.  `ex_pathexpand` truncates
  at 1023 bytes, safely; the model answers `none` instead (`path_limit_traps`).  It holds
  for every argument without `%`, `#`, `=` (`pathFits_plain`), and `pathExpand_none_only_by_size` says that is the only
  `none` of the path expansion.
* for `:g`: the scan does not exhaust the step budget of the model (`scanT … ≠ budget`).  All other failures of the
  scan are proved impossible (`glob_scan_no_trap`).  The budget is the model's stand-in for "the loop does not
  end"; it can be exceeded in the model by marks an earlier `:g` left in another buffer, while the C loop ends
  (200 lines `x` in `A`, one line `y` in `B`: `:g/x/e! B` then `:g/y/e! A` — the second scan walks the 199 stale marks
  of `A` with the budget of the one-line buffer: `none` in the model, fine in `/repo/vi`).
* for `:@`, `:g`, `:e +cmd`: the command line they run returns (`at_no_trap`, `glob_no_trap`, `edit_no_trap`).  The
  fuel they need is that of the command line plus 3 resp. 4: `need K d ln = 4 * nest ln + 3 + (16 - d) * K`
  (`exExec_no_trap_cond`), where `nest` counts the bytes `g`, `v`, `+` of the line and `d` is the `:@` depth, which the
  repaired `ec_at` bounds by 16.

**Unconditional results**: every handler that runs no command line (`runCmd_no_trap`, and per handler with the
weaker `PathFits`); every *flat* line (`exExec_flat_no_trap`: no `:@`, no `:g`, no `+cmd`; a decidable check on the
line as `ex_exec` cuts it); **`:g` over a command list that acts on the current buffer** (`glob_local_no_trap`,
`exExec_gflat_no_trap`: the handlers of such a list add no mark, `local_handlers_add_no_mark`, hence the scan ends
within its budget, `glob_budget_suffices`); every *plain* line with enough fuel (`exExec_plain_no_trap`: no byte of
`@ % # = g v`, `+cmd` nested at will); one round of the `ex()` loop and whole scripts over such lines
(`exStep_no_trap`, `exRun_no_trap`), from `ex_init` (`exInit_no_trap`, `session_no_trap`).  The regular-expression
layer is trap-free without any hypothesis but "the pattern is a C string" (`rstr_make_no_trap`,
`rstr_find_no_trap`, `group_offsets_sane`, `atom_no_trap`).

**Repairs the results rest on** (real defects of the editor, repaired in /repo and in the model): unbounded recursion of
`:@a` on a register holding `@a` (stack overflow); `:s` after an empty match stepping over the terminator of a line
that ends in a truncated multi-byte character; `:g` resuming at row `-1` (`ln_glob[-1]`, read and write); `:@a` whose
text rewrites register `a` (use after free; the model has no heap).

Byte strings are lists of character codes.
-/
namespace Neatvi.Props.C05e
open Neatvi Neatvi.Lbuf Neatvi.LbufIo Neatvi.Ex Neatvi.Rset Neatvi.Regex
open Neatvi.Lemmas.C05e Neatvi.Lemmas.C02b Neatvi.Lemmas.C06b
open Neatvi.Props.C02.Ex (exRun)

export Neatvi.Lemmas.C05e (Safe Ret RetM MLe markCnt PathFits PathsEq OffsOk LineCond need nest Plain plainB flatCmd
  flatLine lflatCmd lflatLine gflatCmd gflatLine localHandler plainArg pathHandler LineOk NameOk ScanRes scanT ScanGood ScanFin
  plusOf PlusOk Pre gBudget)

/-! ## 1. the primitives under the handlers -/

/-- `lbuf_undo` and `lbuf_redo` never index outside the history of a buffer the lbuf API built -/
theorem undo_redo_no_trap (lb : Lb) (h : GoodLb lb) : Lbuf.undo lb ≠ none ∧ Lbuf.redo lb ≠ none := by
  obtain ⟨_, _, h1⟩ := undo_total h
  obtain ⟨_, _, h2⟩ := redo_total h
  exact ⟨ne_none_of_eq h1, ne_none_of_eq h2⟩

/-- `lbuf_rd` with an ordered range never overflows its string buffer, whatever the chunks the kernel delivers -/
theorem rd_no_trap (lb : Lb) (chunks : List Bytes) (fe : Bool) (b e : Nat) (hbe : b ≤ e) : rd lb chunks fe b e ≠ none := by
  obtain ⟨_, _, h⟩ := rd_total lb chunks fe b e hbe
  exact ne_none_of_eq h

/-- `lbuf_save` never traps, whatever system-call faults are scheduled (short writes, failed writes, failed open or
    close), for an end that is `-1` (the whole buffer) or inside it; neither does `bufs_modified` -/
theorem save_no_trap (ed : Ed) (lb : Lb) (b : Nat) (e : Int) (path : Bytes) (force : Bool) (ts : Int)
    (he : e < 0 ∨ e ≤ lb.lines.length) (idx : Nat) (msg : Option Bytes) :
    lbufSave ed lb b e path force ts ≠ none ∧ lbufSaveP ed lb b e path force ts ≠ none ∧ bufsModified ed idx msg ≠ none := by
  obtain ⟨_, _, h1⟩ := lbufSave_total ed lb b e path force ts he
  obtain ⟨_, _, h2⟩ := lbufSaveP_total ed lb b e path force ts he
  obtain ⟨_, _, h3⟩ := bufsModified_total ed idx msg
  exact ⟨ne_none_of_eq h1, ne_none_of_eq h2, ne_none_of_eq h3⟩

/-- address evaluation (`ex_region`, with searches `/re/`, `?re?`, marks, offsets) never traps on an address text
    that is a C string; the state it leaves is safe -/
theorem exRegion_no_trap (ed : Ed) (h : Safe ed) (loc : Bytes) (h0 : 0 ∉ loc) :
    ∃ rc b e ed1, exRegion ed loc = some ((rc, b, e), ed1) ∧ Safe ed1 ∧ (rc = 0 → 0 ≤ b ∧ b ≤ e ∧ e ≤ ed1.len) := by
  obtain ⟨rc, b, e, ed1, hr, h1, _, _, hin, _⟩ := region_cases h loc h0
  exact ⟨rc, b, e, ed1, hr, h1, hin⟩

/-- the only `none` of `ex_pathexpand` is the size limit of the model -/
theorem pathExpand_none_only_by_size (ed : Ed) (src : Bytes) (sp : Bool) : pathExpand ed src sp = none ↔ ¬ PathFits ed src sp := by
  constructor
  · intro h hf
    obtain ⟨_, _, h1, _⟩ := pathExpand_total hf
    rw [h] at h1; cases h1
  · intro h
    obtain ⟨o, ho⟩ := pathGo_some ed sp (src.length + 1) src []
    rw [Lemmas.C20c.pathExpand_eq, ho]
    cases o with
    | none => exact absurd (fun p hp => by rw [ho] at hp; cases hp) h
    | some p =>
      by_cases hl : p.length ≥ 1000
      · exact if_pos hl
      · exact absurd (fun q hq => by rw [ho] at hq; cases hq; omega) h

/-- an argument without `%`, `#`, `=` shorter than 1000 bytes fits, in every state -/
theorem plain_path_fits (ed : Ed) (src : Bytes) (sp : Bool) (hs : ∀ c ∈ src, c ≠ 37 ∧ c ≠ 35 ∧ c ≠ 61)
    (hl : src.length < 1000) : PathFits ed src sp := pathFits_plain ed src sp hs hl

/-! ## 2. the regular-expression layer -/

/-- `rstr_make` (the literal fast path or `regcomp` of `((pat))`) never traps on a pattern that is a C string: the
    recursive descent has fuel enough and neither `ratom_read` nor the `{m,n}` reader steps over the terminator -/
theorem rstr_make_no_trap (pat : Bytes) (h0 : 0 ∉ pat) (flg : Nat) : rstrMake pat flg ≠ none := rstrMake_ne_none pat flg h0

/-- `ratom_match` never traps at a position inside the subject — every atom, every bracket expression and literal
    (arbitrary bytes), with and without ICASE -/
theorem atom_no_trap (a : Atom) (subj : Bytes) (flg pos : Nat) (hp : pos ≤ subj.length) :
    atomMatch a subj flg pos ≠ AR.trap := atomMatch_no_trap a subj flg pos hp

/-- `rstr_find` of what `rstr_make` made never traps, on any subject, with any flags and limits -/
theorem rstr_find_no_trap (pat : Bytes) (flg : Nat) (re : RStr) (h : rstrMake pat flg = some (some re))
    (s : Bytes) (n fl nd ngrps : Nat) : rstrFind re s n fl nd ngrps ≠ none := by
  obtain ⟨x, hx⟩ := rstrFind_total h s n fl nd ngrps
  exact ne_none_of_eq hx

/-- the offsets `rstr_find` reports for the groups `\0`–`\9` are an empty pair (`-1, -1` when unset) or a range
    `0 ≤ so ≤ eo ≤ length`: `replace()` of `:s` never copies a negative or out-of-line length -/
theorem group_offsets_sane (pat : Bytes) (flg : Nat) (re : RStr) (s : Bytes) (fl : Nat) (r : Int) (offs : List Int) (c : Nat)
    (hm : rstrMake pat flg = some (some re)) (hf : rstrFind re s 16 fl ND NG = some (r, offs, c)) (h0 : 0 ≤ r) :
    OffsOk s offs := reGroups pat flg re s fl r offs c hm hf h0

/-- the marks of a successful VM run stay paired through every tree numbered by `grpnum` -/
theorem marks_paired (pat : Bytes) (flg : Nat) (prog : Prog) (hc : regcomp pat flg = some (some prog))
    (subj : Bytes) (nsub eflg nd K : Nat) (hK : 1 ≤ K) (m : Marks) (c : Nat) (subs : List (Int × Int))
    (hr : regexec prog subj nsub eflg nd (2 * K) = (ExecRes.found m c, subs)) :
    ∀ j, 1 ≤ j → 2 * j + 1 < m.length → PairAt m subj.length j :=
  (regexec_marks hc subj nsub eflg nd K hK m c subs hr).2

/-! ## 3. the handlers that run no command line -/

/-- **every handler other than `ec_at`, `ec_glob`, `ec_edit +cmd`** — `:a :i :c :p :d :y :pu := :u :redo :k :rs :s
    :! :r :w :q :wq :x :xa :b :se :ec`, the empty command, and every name the model does not know — returns from a
    safe state, for every address, name and argument that are C strings, every text, every fuel `≥ 2`; a file-name
    argument has to be free of `%`, `#`, `=` (or see the per-handler theorems with `PathFits`) -/
theorem runCmd_no_trap (f : Nat) (ed : Ed) (h : Safe ed) (hd : String) (loc cmd arg : Bytes) (txt : Option Bytes)
    (hflat : flatCmd ⟨loc, cmd, some ([], hd), arg, []⟩ = true) (hl : arg.length < 1000) :
    Ret ed.atDepth (runCmd (f + 2) ed hd loc cmd arg txt) :=
  runCmd_flat f h ⟨loc, cmd, some ([], hd), arg, []⟩ [] hd rfl hflat hl txt

/-- in particular the result is not `none` -/
theorem runCmd_ne_none (f : Nat) (ed : Ed) (h : Safe ed) (hd : String) (loc cmd arg : Bytes) (txt : Option Bytes)
    (hflat : flatCmd ⟨loc, cmd, some ([], hd), arg, []⟩ = true) (hl : arg.length < 1000) :
    runCmd (f + 2) ed hd loc cmd arg txt ≠ none := (runCmd_no_trap f ed h hd loc cmd arg txt hflat hl).ne_none

/-- `:s`: the row stays inside the buffer whatever the replacements do to the number of lines, the matcher does not
    trap, the group offsets are sane, `lbuf_edit` gets an ordered range -/
theorem subst_no_trap (f : Nat) (ed : Ed) (h : Safe ed) (loc cmd arg : Bytes) (txt : Option Bytes) (hloc : 0 ∉ loc)
    (harg : 0 ∉ arg) : Ret ed.atDepth (runCmd (f + 1) ed "ec_substitute" loc cmd arg txt) :=
  (run_subst f h loc cmd arg txt hloc harg).ret

/-- `substLine` itself, on any line (also one that is not valid UTF-8: the character copied after
    an empty match is clamped to the bytes left) -/
theorem substLine_no_trap (pat : Bytes) (flg : Nat) (re : RStr) (hm : rstrMake pat flg = some (some re)) (rep : Bytes)
    (g : Bool) (line : Bytes) : substLine re rep g line ≠ none := by
  obtain ⟨x, hx⟩ := substLine_total hm rep g line
  exact ne_none_of_eq hx

/-- `:w`, `:r`, `:!`, `:q` and relatives under the weaker hypothesis that the path expansion fits -/
theorem write_no_trap (f : Nat) (ed : Ed) (h : Safe ed) (loc cmd arg : Bytes) (txt : Option Bytes) (hloc : 0 ∉ loc)
    (hp : PathFits ed arg true) : Ret ed.atDepth (runCmd (f + 1) ed "ec_write" loc cmd arg txt) :=
  (run_write f h loc cmd arg txt hloc hp).ret

theorem read_no_trap (f : Nat) (ed : Ed) (h : Safe ed) (loc cmd arg : Bytes) (txt : Option Bytes) (hloc : 0 ∉ loc)
    (hp : PathFits ed arg true) : Ret ed.atDepth (runCmd (f + 1) ed "ec_read" loc cmd arg txt) :=
  (run_read f h loc cmd arg txt hloc hp).ret

theorem filter_no_trap (f : Nat) (ed : Ed) (h : Safe ed) (loc cmd arg : Bytes) (txt : Option Bytes) (hloc : 0 ∉ loc)
    (hp : PathFits ed arg true) : Ret ed.atDepth (runCmd (f + 1) ed "ec_exec" loc cmd arg txt) :=
  (run_exec f h loc cmd arg txt hloc hp).ret

theorem quit_no_trap (f : Nat) (ed : Ed) (h : Safe ed) (loc cmd arg : Bytes) (txt : Option Bytes)
    (hp : PathFits ed arg true) : Ret ed.atDepth (runCmd (f + 1) ed "ec_quit" loc cmd arg txt) :=
  run_quit f h loc cmd arg txt hp

/-- handler names outside the model are answered "not modelled" (return code 1) -/
theorem unknown_handler (f : Nat) (ed : Ed) (hd : String) (hn : hd ∉ modelled) (loc cmd arg : Bytes) (txt : Option Bytes) :
    runCmd (f + 1) ed hd loc cmd arg txt = some (1, { ed with unmodelled := true }) := by
  simp only [modelled, List.mem_cons, List.not_mem_nil, or_false, not_or] at hn
  obtain ⟨h1, h2, h3, h4, h5, h6, h7, h8, h9, h10, h11, h12, h13, h14, h15, h16, h17, h18, h19, h20, h21, h22⟩ := hn
  rw [runCmd]
  simp only [↓reduceIte, beq_iff_eq, h1, h2, h3, h4, h5, h6, h7, h8, h9, h10, h11, h12, h13, h14, h15, h16, h17, h18, h19,
    h20, h21, h22, Bool.or_eq_true, or_self]

/-! ## 4. the handlers that run command lines: a trap of theirs is a trap (or the fuel) of the line they run -/

/-- `:@r` (and `:ra`): total when the command line in the register returns one level deeper; at depth 16 the
    repaired `ec_at` refuses ("register recursion too deep"), so the recursion is bounded -/
theorem at_no_trap (f : Nat) (ed : Ed) (h : Safe ed) (loc cmd arg : Bytes) (txt : Option Bytes) (hloc : 0 ∉ loc)
    (hC : ∀ (ed' : Ed) (buf : Bytes), Safe ed' → ed'.atDepth = ed.atDepth + 1 → ed.atDepth < 16 →
      ¬ ((cmd.headD 0 == 114 && cmd.getD 1 0 == 97) = true) → Ret (ed.atDepth + 1) (exCommand f ed' buf)) :
    Ret ed.atDepth (runCmd (f + 2) ed "ec_at" loc cmd arg txt) := run_at f h loc cmd arg txt hloc hC

/-- `:e` (also `:e!`, `:ew`): total when the path expansion fits and the `+cmd`, if any, returns -/
theorem edit_no_trap (f : Nat) (ed : Ed) (h : Safe ed) (loc cmd arg : Bytes) (txt : Option Bytes)
    (hp : PathFits ed (plusOf arg).2 false) (hC : PlusOk f ed.atDepth (plusOf arg).1) :
    Ret ed.atDepth (runCmd (f + 2) ed "ec_edit" loc cmd arg txt) := run_edit f h loc cmd arg txt hp hC

/-- the scan of `:g` never traps: from a safe state and a row `≥ 0` (the repaired scan resumes at
    `MAX(0, MIN(i, xrow))`) every line it looks at exists, the matcher does not trap, and it ends (`done`, in a safe
    state) or stops for the step budget of the model — given that the command line it runs returns -/
theorem glob_scan_no_trap (pat : Bytes) (flg : Nat) (re : RStr) (hm : rstrMake pat flg = some (some re))
    (f : Nat) (neg : Bool) (s : Bytes) (dep d : Nat)
    (hbody : ∀ (ed' : Ed) (i' : Int), Safe ed' → ed'.atDepth = d → Ret d (exExec f { ed' with xrow := i' } s))
    (g : Nat) (ed : Ed) (i : Int) (h : Safe ed) (hd : ed.atDepth = d) (hi : 0 ≤ i) :
    ScanGood d (scanT f neg s re dep g ed i) ∧ ecGlob.scan f neg s re dep g ed i = (scanT f neg s re dep g ed i).toOption :=
  ⟨scanT_no_trap hm f neg s dep d hbody g ed i h hd hi, scan_eq f neg s re dep g ed i⟩

/-- `:g`, `:g!`, `:v`: total when the command line it runs returns and no scan exhausts the step budget -/
theorem glob_no_trap (f : Nat) (ed : Ed) (h : Safe ed) (loc cmd arg : Bytes) (txt : Option Bytes) (hloc : 0 ∉ loc)
    (harg : 0 ∉ arg)
    (hbody : ∀ (ed' : Ed) (i' : Int), Safe ed' → ed'.atDepth = ed.atDepth →
      Ret ed.atDepth (exExec f { ed' with xrow := i' } (reRead arg).2))
    (hbud : ∀ (re : RStr) (dep : Nat) (ed0 : Ed) (b : Int), Safe ed0 → ed0.atDepth = ed.atDepth → dep ≤ 7 → 0 ≤ b →
      scanT f (hasBang cmd || cmd.headD 0 == 118) (reRead arg).2 re dep (gBudget ed0) ed0 b ≠ ScanRes.budget) :
    Ret ed.atDepth (runCmd (f + 2) ed "ec_glob" loc cmd arg txt) := run_glob f h loc cmd arg txt hloc harg hbody hbud

/-- the scan ends within its step budget when the command list never raises the number of lines of the current buffer
    that carry the mark (`markCnt`): every round that does not end the scan clears a mark.  (`dep ≤ 7`: `ec_glob`
    refuses an eighth level of `:g`.) -/
theorem glob_budget_suffices (f : Nat) (neg : Bool) (s : Bytes) (re : RStr) (dep d : Nat) (hdep : dep ≤ 7)
    (hmu : ∀ (ed' : Ed) (i' : Int) (r : Int) (ed'' : Ed), Safe ed' → ed'.atDepth = d →
      exExec f { ed' with xrow := i' } s = some (r, ed'') → Safe ed'' ∧ ed''.atDepth = d ∧ markCnt dep ed'' ≤ markCnt dep ed')
    (ed : Ed) (i : Int) (h : Safe ed) (hd : ed.atDepth = d) (hi : 0 ≤ i) :
    scanT f neg s re dep (gBudget ed) ed i ≠ ScanRes.budget :=
  scanT_within f neg s re dep d hdep hmu (gBudget ed) ed i h hd hi (Or.inr (by
    have := markCnt_le_len h dep
    have := budget_ge ed.len.toNat
    unfold gBudget
    omega))

/-- no handler that acts on the current buffer adds a mark (and each returns): `:a :i :c :p :d :y :pu := :u :redo :k :rs
    :s :! :r :w :se :ec`, the empty command, names outside the model — as one statement about a local flat command -/
theorem local_handlers_add_no_mark (k : Nat) (ed : Ed) (h : Safe ed) (p : Parsed) (a : Bytes) (hd : String)
    (hi : p.idx = some (a, hd)) (hf : lflatCmd p = true) (hl : p.arg.length < 1000) (txt : Option Bytes) :
    RetM ed (runCmd (k + 2) ed hd p.loc p.cmd p.arg txt) := runCmd_lflat k h p a hd hi hf hl txt

/-- **`:g` over a command list that acts on the current buffer** (`g/pat/s/a/b/|d`, `v/pat/p`, …): no trap and no
    hypothesis left — the command list returns and adds no mark, so the scan ends within its budget -/
theorem glob_local_no_trap (k : Nat) (ed : Ed) (h : Safe ed) (loc cmd arg : Bytes) (txt : Option Bytes)
    (hloc : 0 ∉ loc) (harg : 0 ∉ arg) (hfl : lflatLine ((reRead arg).2.length + 1) (reRead arg).2 = true) :
    Ret ed.atDepth (runCmd (k + 5) ed "ec_glob" loc cmd arg txt) := run_glob_lflat k h loc cmd arg txt hloc harg hfl

/-! ## 5. command lines -/

/-- **a flat line never traps** — the check `flatLine` cuts the line as `ex_exec` does and asks of every command: address
    and argument are C strings, the handler is not `ec_at` / `ec_glob`, `:e` has no `+cmd`, a file-name argument has no
    `%`, `#`, `=`.  Every fuel `≥ 3`. -/
theorem exExec_flat_no_trap (k : Nat) (ed : Ed) (h : Safe ed) (ln : Bytes) (hfl : flatLine (ln.length + 1) ln = true) :
    Ret ed.atDepth (exExec (k + 3) ed ln) := exec_flat k h ln hfl

/-- **flat commands mixed with `:g` over local flat command lists**: every fuel `≥ 6` -/
theorem exExec_gflat_no_trap (k : Nat) (ed : Ed) (h : Safe ed) (ln : Bytes) (hfl : gflatLine (ln.length + 1) ln = true) :
    Ret ed.atDepth (exExec (k + 6) ed ln) := exec_gflat k h ln hfl

/-- **the general induction over the fuel**: under a side condition on the text of the lines (`LineCond A K`) `ex_exec`
    returns as soon as the fuel covers `need K d ln = 4 * nest ln + 3 + (16 - d) * K` -/
theorem exExec_no_trap_cond (A : Bytes → Prop) (K : Nat) (hA : LineCond A K) (f : Nat) (ed : Ed) (ln : Bytes) (h : Safe ed)
    (hAl : A ln) (hf : need K ed.atDepth ln ≤ f) : Ret ed.atDepth (exExec f ed ln) :=
  exec_ret hA (need K ed.atDepth ln) f ed ln h hAl (Nat.le_refl _) hf

/-- **a plain line never traps** (no byte of `NUL @ % # = g v`; `:e +cmd` nested at will): fuel `4 * (number of +) + 3` -/
theorem exExec_plain_no_trap (f : Nat) (ed : Ed) (ln : Bytes) (h : Safe ed) (hp : Plain ln) (hf : 4 * nest ln + 3 ≤ f) :
    Ret ed.atDepth (exExec f ed ln) :=
  exExec_no_trap_cond Plain 0 lineCond_plain f ed ln h hp (by unfold need; simp only [Nat.mul_zero, Nat.add_zero]; exact hf)

/-- `ex_command` needs one unit more -/
theorem exCommand_no_trap (ed : Ed) (h : Safe ed) (hd : ed.atDepth = 0) (l : Bytes) (hl : LineOk l) :
    Ret 0 (exCommand FUEL ed l) := command_ok h hd l hl

/-! ## 6. the `ex()` loop, scripts, `ex_init` -/

/-- **one round of the `ex()` loop** (fuel `FUEL = 200`) on a covered line (`LineOk`): flat; or flat commands mixed
    with `:g` over local flat command lists; or plain with at most 49 `+` (`4 * nest l + 4 ≤ FUEL`) -/
theorem exStep_no_trap (ed : Ed) (h : Safe ed) (hd : ed.atDepth = 0) (l : Bytes) (rest : List Bytes)
    (hin : ed.input = l :: rest) (hl : LineOk l) : ∃ r ed', exStep ed = some (r, ed') ∧ Safe ed' ∧ ed'.atDepth = 0 :=
  step_ok h hd l rest hin hl

/-- **scripts**: `n` rounds of the loop never trap when every line the loop reads (text lines of `:a`, `:i`, `:c` are
    consumed by those commands and are not read as command lines) is covered -/
theorem exRun_no_trap (n : Nat) (ed : Ed) (h : Safe ed) (hd : ed.atDepth = 0)
    (hl : ∀ k edk l rest, k < n → exRun k ed = some edk → edk.input = l :: rest → LineOk l) :
    ∃ ed', exRun n ed = some ed' ∧ Safe ed' ∧ ed'.atDepth = 0 := by
  induction n generalizing ed with
  | zero => exact ⟨ed, rfl, h, hd⟩
  | succ n ih =>
    rw [exRun]
    cases hin : ed.input with
    | nil => exact ⟨ed, by simp, h, hd⟩
    | cons l rest =>
      rw [if_neg (by simp)]
      obtain ⟨r, ed1, hs, h1, hd1⟩ := step_ok h hd l rest hin (hl 0 ed l rest (by omega) rfl hin)
      rw [hs]
      dsimp only
      refine ih ed1 h1 hd1 ?_
      intro k edk l' rest' hk hr hi
      refine hl (k + 1) edk l' rest' (by omega) ?_ hi
      rw [exRun, hin, if_neg (by simp), hs]
      exact hr

/-- **`ex_init`** from the empty table with no file or a file name without blank, `%`, `#`, `=`, not starting with `+`:
    it returns and leaves a safe state (a current buffer exists from then on) -/
theorem exInit_no_trap (ed0 : Ed) (files : List Bytes) (h0 : ed0.bufs = List.replicate Gen.NBUFS none) (hk : 0 ∉ ed0.xkwd)
    (hd : ed0.atDepth = 0) (hn : NameOk files) :
    ∃ rc ed1, exInit ed0 files = some (rc, ed1) ∧ Safe ed1 ∧ ed1.atDepth = 0 := init_ok ed0 files h0 hk hd hn

/-- **a whole session**: `ex_init`, then any number of rounds over covered lines: no trap anywhere -/
theorem session_no_trap (ed0 : Ed) (files : List Bytes) (n : Nat) (h0 : ed0.bufs = List.replicate Gen.NBUFS none)
    (hk : 0 ∉ ed0.xkwd) (hd : ed0.atDepth = 0) (hn : NameOk files)
    (hl : ∀ rc ed1, exInit ed0 files = some (rc, ed1) →
      ∀ k edk l rest, k < n → exRun k ed1 = some edk → edk.input = l :: rest → LineOk l) :
    ∃ rc ed1 ed, exInit ed0 files = some (rc, ed1) ∧ exRun n ed1 = some ed ∧ Safe ed := by
  obtain ⟨rc, ed1, hi, h1, hd1⟩ := exInit_no_trap ed0 files h0 hk hd hn
  obtain ⟨ed, hr, h2, _⟩ := exRun_no_trap n ed1 h1 hd1 (hl rc ed1 hi)
  exact ⟨rc, ed1, ed, hi, hr, h2⟩

/-! ## 7. the traps of the model that are left — none of them is a trap of the C code -/

/-- the path-size limit: `%%` with a 500-byte path (the C code truncates at 1023 bytes) -/
theorem path_limit_traps : Safe edLong ∧ pathExpand edLong [37, 37] true = none ∧
    runCmd 5 edLong "ec_write" [] (strOf "w") [37, 37] none = none :=
  ⟨edLong_safe, pathExpand_limit_traps, write_of_path_none 4 edLong [] _ 37 [37] none pathExpand_limit_traps⟩

/-- a NUL byte after a backslash in a pattern (not a C string) -/
theorem nul_pattern_traps : rstrMake [92, 0] 0 = none := rstrMake_nul_traps

/-! ## 8. non-vacuity -/

/-- the witness state (two lines `ab`, `c d` built by `lbuf_edit`, a register, a file) is safe -/
example : Safe wEd := wEd_safe

/-- `runCmd_no_trap` applies to `:s/a/b/g` on it -/
example : Ret wEd.atDepth (runCmd 2 wEd "ec_substitute" [] (strOf "s") (strOf "/a/b/g") none) :=
  runCmd_no_trap 0 wEd wEd_safe "ec_substitute" [] (strOf "s") (strOf "/a/b/g") none (by decide +kernel) (by decide +kernel)

/-- the lines `s/a/b/g` and `1,2d|w out|e other` are flat; `g/a/p` is not; `e +2d other` is plain with one `+` -/
example : flatLine 9 (strOf "s/a/b/g") = true ∧ flatLine 20 (strOf "1,2d|w out|e other") = true ∧
    flatLine 9 (strOf "g/a/p") = false ∧ Plain (strOf "e +2d other") ∧ nest (strOf "e +2d other") = 1 :=
  ⟨flat_subst, flat_bar, flat_not_glob, plain_plus.1, plain_plus.2⟩

/-- `exExec_plain_no_trap` applies to `e +2d other` (one `+`: fuel 7) on the witness state -/
example : Ret wEd.atDepth (exExec 7 wEd (strOf "e +2d other")) :=
  exExec_plain_no_trap 7 wEd (strOf "e +2d other") wEd_safe plain_plus.1 (by rw [plain_plus.2]; decide)

/-- `exRegion_no_trap` applies to the address `1,/c/` on the witness state -/
example : ∃ rc b e ed1, exRegion wEd (strOf "1,/c/") = some ((rc, b, e), ed1) ∧ Safe ed1 ∧ (rc = 0 → 0 ≤ b ∧ b ≤ e ∧ e ≤ ed1.len) :=
  exRegion_no_trap wEd wEd_safe (strOf "1,/c/") (by decide +kernel)

/-- `exStep_no_trap` applies: the round that reads `1,2d|w out|e other` returns -/
example : ∃ r ed', exStep (wEdIn [strOf "1,2d|w out|e other"]) = some (r, ed') ∧ Safe ed' :=
  let ⟨r, ed', h, hs, _⟩ := exStep_no_trap (wEdIn [strOf "1,2d|w out|e other"]) (wEdIn_safe _) rfl
    (strOf "1,2d|w out|e other") [] rfl (Or.inl (by decide +kernel))
  ⟨r, ed', h, hs⟩

/-- the lines `g/a/s/b/X/|d` and `1d|v/x/p` are covered (`gflatLine`); `g/a/e other` (the command list switches
    buffers) is not -/
example : gflatLine ((strOf "g/a/s/b/X/|d").length + 1) (strOf "g/a/s/b/X/|d") = true ∧
    gflatLine ((strOf "1d|v/x/p").length + 1) (strOf "1d|v/x/p") = true ∧
    gflatLine ((strOf "g/a/e other").length + 1) (strOf "g/a/e other") = false := ⟨gflat_glob, gflat_mixed, gflat_not_switch⟩

/-- `exStep_no_trap` applies to a round that reads `g/a/s/b/X/|d` -/
example : ∃ r ed', exStep (wEdIn [strOf "g/a/s/b/X/|d"]) = some (r, ed') ∧ Safe ed' :=
  let ⟨r, ed', h, hs, _⟩ := exStep_no_trap (wEdIn [strOf "g/a/s/b/X/|d"]) (wEdIn_safe _) rfl
    (strOf "g/a/s/b/X/|d") [] rfl (Or.inr (Or.inl gflat_glob))
  ⟨r, ed', h, hs⟩

/-- `exInit_no_trap` applies to the editor started on the file `f` -/
example : ∃ rc ed1, exInit ({} : Ed) [strOf "f"] = some (rc, ed1) ∧ Safe ed1 ∧ ed1.atDepth = 0 :=
  exInit_no_trap {} [strOf "f"] rfl (by decide) rfl (nameOk_of_check (by decide +kernel))

end Neatvi.Props.C05e
