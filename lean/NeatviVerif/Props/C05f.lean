import NeatviVerif.Lemmas.C05fU
/-!
# C05f: no trap is reachable in vi mode

`Res.trap` is the model's value for a place where the C code would read or write out of bounds, dereference
NULL, compare pointers into different objects or loop without bound.  This file proves that, from a state
with the invariant `ViOk`, **one iteration of the command loop of `vi()` never traps and re-establishes the
invariant** — for *every* key sequence, command by command (all motions; the operators `d y c > < ! g~ gu gU`;
`x X D C s S Y ~ p P J r`; the inserts `i a I A o O` with everything that can be typed in insert mode; `.` `@`;
`u ^R`; the scrolls `^F ^B ^D ^U ^E ^Y z`; marks and jumps; the searches `/ ? n N ^A`; `:` and `ZZ`) — hence no
trap along any run (`iterate`, and the loop of the driver `runModel`).

**The invariant** `ViOk s` (at the start of every iteration): the current buffer exists; every line ends in its
newline, has no other newline and no NUL; the undo history is consistent (`Lemmas/HistInv`) with no command in
progress, and all texts it can bring back are free of NUL; no register holds a NUL; the cursor row is a row of
the buffer (row 0 of an empty one) and the cursor column is not beyond its line; both counts are in
`[0, 999999999]`.  Valid UTF-8 is *not* needed: the theorems hold for arbitrary bytes in the lines and the keys.

**No assumption about the regular-expression layer is left**: for a pattern without NUL, `rstr_make` and `rstr_find` do
not trap (`engine_no_trap`, proved from `Lemmas/C05e`), and a hit of `lbuf_search` lies on an existing line at a
column `≤` the number of its characters (`search_hit_in`, proved outright).  The hypothesis `EngineOk` is false
(`Props/C05h.lean`); it, `ExNoTrap` and `ExKeeps` are *defined* (C05h states its refutations about them) but no
theorem here uses them.

**Hypotheses per state an iteration starts from** (`StepHyp`; none is an invariant of `ViOk`, see section 5):
* `MarksIn` (also after the caret mark is set): a mark whose row lies beyond the buffer has column `≤ 0`.  It fails
  after the undo of an append at the end of the buffer (the marks `` `* `` `` `^ `` become `(len, column)`); an
  operator with the motion `` `* `` then traps *in the model*.  The C code is safe there (`lbuf_get` = NULL, both
  `uc_chr` return the same `""`): the model is stricter than the code — reported.
* `SearchOk`, three clauses:
  `slash` — no counted `/` search that can be typed from the pending keys has a first match that reaches the end
  of its line.  Otherwise `lbuf_search` is restarted beyond the line; `uc_chr` returns its static `""` and the
  pointer difference `"" - s` is formed (undefined, harmless at run time: `2/w[[:space:]]<CR>`);
  `kwd` — the remembered pattern has no NUL (in truth an invariant of the editor, part of C05e's `Safe`; C05f's `SOk`
  does not carry it and C05h's `sok_not_safe` pins that down.  Needed: `\` NUL makes `rstr_make` trap);
  `pos` — the pattern in force after the prompt of a search `? n N ^A` typed from the pending keys matches *inside*
  every line (`PatIn`: decidable, per pattern and line).  Needed only to *restart* a repeated search (`2n`) from its
  previous hit: on a line that ends in a truncated multi-byte character `x*$` matches on the terminator, and the
  second search of `2n` then starts beyond the line (witness: `Props/C05i.lean`, `repeated_search_overrun`).
* `ColonOk` — the ex command the `:` prompt returns for the pending keys (and the `x` of `ZZ`) does not trap and keeps
  the buffer / register part of the invariant (`ExCallOk line state`).  `Props/C05i.lean` derives the first half from
  C05e for the lines of its class `ColonLineOk`.

**Repairs in the C code (and the model) that the proofs rest on** — both defects were real
crashes (SIGSEGV in `uc_sub`): an operator with the motion `` `x `` when the marked line had become shorter
(``$ma0Dd`a``), and a NUL key inside an operator's motion (`$d2^@l`: the row moved, the column did not).  With the
repairs (`` `x `` clamps the column; `vi_motionln` takes the doubled operator letter only for `cmd != 0`) the
positive statements below hold without any hypothesis about them: see `motion_no_trap`.

Byte strings are lists of character codes.
-/
set_option linter.unusedSimpArgs false
set_option linter.unusedVariables false

namespace Neatvi.Props.C05f
open Neatvi Neatvi.Uc Neatvi.Lbuf Neatvi.Ex Neatvi.Mot Neatvi.Vi Neatvi.Rset
open Neatvi.Lemmas.C05f
open Neatvi.Props.C05c (iterate)

export Neatvi.Lemmas.C05f (wp NoNul LineOk HistOk BufsOk RegsOk SOk RowOk CursorOk ViOk StepHyp EngineOk ExNoTrap
  ExKeeps ReOk ReTot HitIn PatIn hitInside MarksIn SearchOk SearchAt searchKeys specialKeys SlashAt ExCallOk ColonOk ColonAt
  CurOk PosIn markCaret allQ OpPost CtPost isTrap oneLine trapsAfter NotTrap sPre)

/-! ## 1. one iteration -/

/-- **one iteration of the loop of `vi()`** from a state with the invariant: it does not trap, and unless the
    editor is quitting the invariant holds again — for every key sequence -/
theorem step_safe {s : VS} (hv : ViOk s) (hm1 : MarksIn s) (hm2 : MarksIn (markCaret s)) (hsl : SearchOk s)
    (hcol : ColonOk s) : wp viStep (fun _ s' => s'.ed.xquit = false → ViOk s') s :=
  viStep_safe hv hm1 hm2 hsl hcol

/-- **no trap**: `ViOk s → viStep s ≠ Res.trap` -/
theorem step_no_trap {s : VS} (hv : ViOk s) (hm1 : MarksIn s) (hm2 : MarksIn (markCaret s)) (hsl : SearchOk s)
    (hcol : ColonOk s) : viStep s ≠ Res.trap :=
  wp_no_trap (viStep_safe hv hm1 hm2 hsl hcol)

/-- **preservation**: `ViOk s → viStep s = Res.ok () s' → ViOk s'` (unless the editor is quitting: then `vi()`
    leaves its loop) -/
theorem step_keeps {s s' : VS} (hv : ViOk s) (hm1 : MarksIn s) (hm2 : MarksIn (markCaret s)) (hsl : SearchOk s)
    (hcol : ColonOk s) (h : viStep s = Res.ok () s') (hq : s'.ed.xquit = false) : ViOk s' :=
  wp_post (viStep_safe hv hm1 hm2 hsl hcol) h hq

/-! ## 2. runs -/

/-- **the invariant holds along every run** whose iterations start from states with `StepHyp` -/
theorem run_invariant (n : Nat) (s₀ s : VS) (h0 : ViOk s₀)
    (hh : ∀ k t, k ≤ n → iterate k s₀ = some t → StepHyp t) (h : iterate n s₀ = some s) : ViOk s :=
  (Props.C05c.iterate_inv (P := fun s => ViOk s ∧ StepHyp s) (fun _ _ _ hp hst hs' =>
    ⟨wp_post (hp.2.step hp.1) hst hs'.noquit, hs'⟩) n s₀ s
    ⟨h0, hh 0 s₀ (by omega) rfl⟩ (fun k t _ => hh k t) h).1

/-- **no trap along any run**: the state after `n` completed commands does not trap on the next one -/
theorem run_no_trap (n : Nat) (s₀ s : VS) (h0 : ViOk s₀)
    (hh : ∀ k t, k ≤ n → iterate k s₀ = some t → StepHyp t) (h : iterate n s₀ = some s) : viStep s ≠ Res.trap :=
  wp_no_trap ((hh n s (Nat.le_refl _) h).step (run_invariant n s₀ s h0 hh h))

open Neatvi.Drive.ViD in
/-- **the loop of the driver** (`runModel.loop`: stop at end of keys, trap, `xquit` or out of fuel) never ends in a
    trap, when the states it records satisfy `StepHyp` -/
theorem driver_no_trap (n f : Nat) (s : VS) (bds : List Bd)
    (sts : List VS) (um : Option Nat) (hv : ViOk s)
    (hh : ∀ t ∈ (runModel.loop n f s bds sts um).states, StepHyp t) : NotTrap (runModel.loop n f s bds sts um).fin := by
  have h := (Props.C05c.loop_inv (P := ViOk) (H := StepHyp)
    (fun s u s' hv hs hst hq => wp_post (hs.step hv) hst hq) n f s bds sts um hv hh).2
  cases hfin : (runModel.loop n f s bds sts um).fin with
  | trap => obtain ⟨t, hv', hs', ht⟩ := h hfin; exact wp_no_trap (hs'.step hv') ht
  | _ => trivial

/-! ## 3. command by command -/

/-- **the regular-expression layer on C strings** (`EngineOk` is false; this much holds, proved from `Lemmas/C05e`):
    compiling a pattern without NUL does not trap, and its matcher never traps, on any subject -/
theorem engine_no_trap (kw : Bytes) (flg : Nat) (h0 : NoNul kw) :
    ∃ r, rstrMake kw flg = some r ∧ ∀ re, r = some re → ReTot re := engine_c_strings kw flg h0

/-- **`lbuf_search`** with a pattern without NUL, started on an existing character, never traps — whatever the bytes
    of the lines -/
theorem lbuf_search_no_trap (ls : Lines) (kw : Bytes) (ic : Bool) (dir r o : Int) (h0 : NoNul kw) (ho : o < slenAt ls r) :
    search ls kw ic dir r o ≠ none := by
  obtain ⟨res, h⟩ := search_total_c ls kw ic dir r o h0 ho
  rw [h]; exact fun h => by cases h

/-- **a hit of `lbuf_search`** lies on an existing line at a column `≤` the number of its characters (no hypothesis;
    `=` is possible: C05h `search_hit_beyond_last_char`; `vi` then clamps the column) -/
theorem search_hit_in (ls : Lines) (kw : Bytes) (ic : Bool) (dir r o : Int) (res : Option (Int × Int × Int))
    (h : search ls kw ic dir r o = some res) : HitIn ls res := Lemmas.C05f.search_hit_in ls kw ic dir r o res h

/-- … and on a character of its line when the pattern matches inside the lines (`PatIn`, decidable) -/
theorem search_hit_strict (ls : Lines) (kw : Bytes) (ic : Bool) (dir r o : Int) (hl : ∀ l ∈ ls, LineOk l)
    (hp : PatIn kw ic ls) (res : Option (Int × Int × Int)) (h : search ls kw ic dir r o = some res) :
    ∀ r' o' len, res = some (r', o', len) → 0 ≤ r' ∧ r' < ls.length ∧ 0 ≤ o' ∧ o' < slenAt ls r' :=
  Lemmas.C05f.search_hit_strict ls kw ic dir r o hl hp res h

/-- **every motion** (`h j k l w b e W B E 0 ^ $ | f t F T ; , { } [[ ]] % G H L M + - _ ' ` / ? n N ^A space DEL`,
    and "no motion"): no trap, and a motion that succeeds returns a position inside the buffer -/
theorem motion_no_trap (row off : Int) (s : VS) {c : Prop} (hs : SOk s c) (hcur : CurOk s row off)
    (hmk : MarksIn s) (hsl : SearchOk s) :
    viMotion row off s ≠ Res.trap ∧
    ∀ mv r o s', viMotion row off s = Res.ok (mv, r, o) s' → 0 < mv → PosIn (lines s) r o := by
  have h := wp_viMotion row off s hs hcur hmk hsl (fun res s' => 0 < res.1 → PosIn (lines s) res.2.1 res.2.2)
    (fun mv r o s' _ hp _ => hp)
  exact ⟨wp_no_trap h, fun mv r o s' hm hpos => wp_post h hm hpos⟩

/-- **the searches** `/ ? n N ^A` started on the cursor, with a remembered pattern without NUL: the traps are the
    counted `/` (hypothesis `hsl`) and the restart of a repeated `? n N` from a hit on the end of its line (`hpos`) -/
theorem search_no_trap (cmd : Nat) (cnt r o : Int) (s : VS) {c : Prop} (hs : SOk s c) (hkw : NoNul s.ed.xkwd)
    (hp : PosIn (lines s) r o) (ho : lenOf s ≠ 0 → o < slenAt (lines s) r)
    (hsl : cmd = 47 → 2 ≤ cnt → viSearch cmd cnt r o s ≠ Res.trap)
    (hpos : cmd ≠ 47 → 2 ≤ cnt → ∀ ab s1, sPre cmd s = Res.ok ab s1 → ∀ ic, PatIn s1.ed.xkwd ic (lines s)) :
    viSearch cmd cnt r o s ≠ Res.trap :=
  wp_no_trap (wp_viSearch cmd cnt r o s hs hkw hp ho hsl hpos (fun _ _ => True) (fun _ _ _ _ _ => trivial))

/-- … in particular **no search without a count ever traps** (`/ ? n N ^A`): the only hypothesis is that the
    remembered pattern is a C string -/
theorem search_no_trap_uncounted (cmd : Nat) (cnt r o : Int) (s : VS) {c : Prop} (hs : SOk s c) (hkw : NoNul s.ed.xkwd)
    (hp : PosIn (lines s) r o) (ho : lenOf s ≠ 0 → o < slenAt (lines s) r) (h : cnt ≤ 1) :
    viSearch cmd cnt r o s ≠ Res.trap :=
  search_no_trap cmd cnt r o s hs hkw hp ho (fun _ h2 => by omega) (fun _ h2 => by omega)

/-- **an operator with its motion** (`d y c > < ! g~ gu gU`, and through them `x X D C s S Y ~`) -/
theorem operator_no_trap (cmd : Nat) {s : VS} {c : Prop} (hs : SOk s c) (hr : RowOk s)
    (hmk : MarksIn s) (hsl : SearchOk s) : wp (vcMotion cmd) (fun _ s' => SOk s' False) s :=
  wp_vcMotion cmd hs hr hmk hsl _ (fun _ _ h => h.1)

/-- the operators on any region inside the buffer -/
theorem operators_on_region {s : VS} {c : Prop} (hs : SOk s c) (cmd : Nat) (r1 o1 r2 o2 : Int) (ln : Bool)
    (hr1 : 0 ≤ r1) (hr : r1 ≤ r2) (h1 : o1 ≤ slenAt (lines s) r1) (h2 : o2 ≤ slenAt (lines s) r2) :
    viYank r1 o1 r2 o2 ln s ≠ Res.trap ∧ viDelete r1 o1 r2 o2 ln s ≠ Res.trap ∧ viChange r1 o1 r2 o2 ln s ≠ Res.trap ∧
    viCase r1 o1 r2 o2 ln cmd s ≠ Res.trap ∧ viShift r1 r2 1 s ≠ Res.trap ∧ viShift r1 r2 (-1) s ≠ Res.trap :=
  ⟨wp_no_trap (wp_viYank hs _ _ _ _ _ h1 h2 (fun _ _ => True) (fun _ _ _ => trivial)),
   wp_no_trap (wp_viDelete hs _ _ _ _ _ hr1 hr h1 h2 (fun _ _ => True) (fun _ _ _ => trivial)),
   wp_no_trap (wp_viChange hs _ _ _ _ _ hr1 hr h1 h2 (fun _ _ => True) (fun _ _ _ => trivial)),
   wp_no_trap (wp_viCase hs _ _ _ _ _ _ hr1 hr h1 h2 (fun _ _ => True) (fun _ _ _ => trivial)),
   wp_no_trap (wp_viShift hs _ _ _ hr1 (fun _ _ => True) (fun _ _ _ => trivial)),
   wp_no_trap (wp_viShift hs _ _ _ hr1 (fun _ _ => True) (fun _ _ _ => trivial))⟩

/-- **`i a I A o O`**, whatever is typed in insert mode -/
theorem insert_no_trap (cmd : Nat) {s : VS} {c : Prop} (hs : SOk s c) (hr : RowOk s) :
    wp (vcInsert cmd) (fun _ s' => SOk s' False) s := wp_vcInsert cmd hs hr _ (fun _ _ h => h.1)

/-- **`p P`** from any register, **`J`**, **`r`** with any character -/
theorem put_join_replace_no_trap (cmd : Nat) {s : VS} {c : Prop} (hs : SOk s c) (hr : RowOk s) :
    wp (vcPut cmd) (fun _ s' => SOk s' False) s ∧ wp vcJoin (fun _ s' => SOk s' False) s ∧
    wp vcReplace (fun _ s' => SOk s' False) s :=
  ⟨wp_vcPut cmd hs hr _ (fun _ _ h => h.1), wp_vcJoin hs hr _ (fun _ _ h => h.1), wp_vcReplace hs hr _ (fun _ _ h => h.1)⟩

/-- **the command switch** (everything that is not a plain motion, including `u ^R . @ : ZZ m z ^F ^B ^D ^U ^E ^Y`) -/
theorem command_switch_no_trap {s : VS} (hs : SOk s True) (hr : RowOk s)
    (hoff : s.ed.xoff ≤ slenAt (lines s) s.ed.xrow) (hmk : MarksIn (markCaret s)) (hsl : SearchOk s) (hcol : ColonOk s) :
    wp commandTail CtPost s := wp_commandTail hs hr hoff hmk hsl hcol _ (fun _ _ h => h)

/-- **`vi_wfix()`** never traps and puts the cursor back into the buffer, from any row and column -/
theorem wfix_restores_cursor {s : VS} {c : Prop} (hs : SOk s c) :
    wp viWfix (fun _ s' => SOk s' c ∧ CursorOk s') s := wp_viWfix hs _ (fun _ h1 h2 _ => ⟨h1, h2⟩)

/-- **the text typed in insert mode or at a prompt holds no NUL**, whatever the keys are (`^V`, `^K`, `^P`, `^R`,
    keymaps, raw bytes …) -/
theorem typed_text_has_no_nul (pref post ai0 : Bytes) (aiMax : Nat) (im ex : Bool) (s : VS) {c : Prop} (hs : SOk s c)
    (hai : NoNul ai0) (hnl : 10 ∉ ai0) : wp (ledLine pref post ai0 aiMax im ex) (fun r _ => NoNul r.1 ∧ NoNul r.2.2) s :=
  wp_ledLine pref post ai0 aiMax im ex s hs.paste hai hnl _ (fun _ _ _ _ _ h1 h2 _ => ⟨h1, h2⟩)

/-- **the bookkeeping of insert mode**: the rows `vi_nextline()` goes down match the newlines of the text, so that
    `vc_insert` and `vi_change` hand `lbuf_edit` a row that is not negative -/
theorem insert_rows_match_newlines (pref post : Bytes) (s : VS) {c : Prop} (hs : SOk s c) (hp : NoNul pref) (hq : NoNul post) :
    wp (viInput pref post) (fun r s' => NoNul r.1 ∧
      (s'.ed.xrow : Int) - r.2.1 = s.ed.xrow - nlCount pref - nlCount post) s :=
  wp_viInput pref post s hs.textOk hp hq _ (fun _ _ _ _ _ h1 h2 => ⟨h1, h2⟩)

/-! ## 4. the hypotheses are satisfiable -/

/-- the example state of `Props/C08b.lean` (lines `hello w`, `b`; cursor at the start) has the invariant … -/
theorem example_state_ok (keys : Bytes) : ViOk (Props.C08b.exSt keys 0 0) := exSt_viOk keys

/-- … and the per-state hypotheses, for every key sequence without the keys `/ ? n N ^A : Z` -/
theorem example_state_hyp (keys : Bytes) (h : ∀ k ∈ specialKeys, k ∉ keys) : StepHyp (Props.C08b.exSt keys 0 0) :=
  exSt_stepHyp keys h

/-- so — **without any assumption on another layer** — no such key sequence makes the first command trap -/
theorem example_first_step (keys : Bytes) (h : ∀ k ∈ specialKeys, k ∉ keys) :
    viStep (Props.C08b.exSt keys 0 0) ≠ Res.trap :=
  wp_no_trap ((exSt_stepHyp keys h).step (exSt_viOk keys))

example : viStep (Props.C08b.exSt [100, 119, 120] 0 0) ≠ Res.trap := example_first_step _ (by decide)

/-- a buffer whose history is empty (a fresh literal buffer) with well-formed lines has the history invariant -/
theorem fresh_buffer_ok (lb : Lb) (hh : lb.hist = []) (hu : lb.histU = 0) (hl : ∀ l ∈ lb.lines, LineOk l) :
    HistOk lb True := histOk_of_no_hist lb hh hu hl

/-- `SearchOk` holds when no search key (`/ ? n N ^A`) is pending and the remembered pattern has no NUL -/
theorem searchOk_without_search {s : VS} (h : ∀ k ∈ searchKeys, k ∉ allQ s) (hk : NoNul s.ed.xkwd) : SearchOk s :=
  searchOk_of_no_search h hk

/-- `ColonOk` holds when neither `:` nor `Z` is pending -/
theorem colonOk_without_colon {s : VS} (h1 : (58 : Int) ∉ allQ s) (h2 : (90 : Int) ∉ allQ s) : ColonOk s :=
  colonOk_of_no_colon h1 h2

/-- `MarksIn` survives setting the caret mark when the cursor is inside its line (mark tables of equal length) -/
theorem marksIn_after_caret {s : VS} {c : Prop} (hs : SOk s c) (hm : MarksIn s)
    (hlen : ∀ lb, s.ed.lb = some lb → lb.mark.length = lb.markOff.length)
    (hoff : s.ed.xoff ≤ slenAt (lines s) s.ed.xrow) : MarksIn (markCaret s) := marksIn_caret hs hm hlen hoff

/-- on the literal fast path of `rstr.c` — a pattern without regular-expression characters (`rstr_simple`; the word
    search of `^A` is one) — matches start inside the subject: the position clause that fails in general -/
theorem literal_matches_inside (kw : Bytes) (flg : Nat) (h : (simple kw).isSome = true) :
    ∃ r, rstrMake kw flg = some r ∧ ∀ re, r = some re → ReOk re := by
  unfold rstrMake
  cases hs : simple kw with
  | none => rw [hs] at h; cases h
  | some x =>
    obtain ⟨a, b, c, d, e⟩ := x
    dsimp only
    exact ⟨_, rfl, fun re hre => by cases hre; exact reOk_of_literal _ rfl⟩

/-! ## 5. the traps that remain in the model -/

/-- **witness 1** (kernel-checked): ``$ oxyz<ESC> u d`*`` on the one-line buffer `hello w` — the fourth command
    traps in the model (`MarksIn` fails after the undo); the first three do not.  `/repo/vi` does *not* crash here:
    the line is NULL and both `uc_chr` return `""`; the model is stricter than the C code -/
theorem mark_beyond_buffer_traps :
    trapsAfter 3 (oneLine [36, 111, 120, 121, 122, 27, 117, 100, 96, 42]) = true ∧
    trapsAfter 2 (oneLine [36, 111, 120, 121, 122, 27, 117, 100, 96, 42]) = false := by
  decide +kernel

/-- **witness 2**: a search restarted beyond the end of a line traps (`uc_chr` returns its static `""`) … -/
theorem search_beyond_line_traps (ls : Lines) (kw : Bytes) (ic : Bool) (r o : Int) (l : Bytes) (re : RStr)
    (hre : rstrMake kw (if ic then RE_ICASE else 0) = some (some re))
    (hl : lineAt ls r = some l) (ho : (ucSlen l : Int) ≤ o) : search ls kw ic 1 r o = none :=
  Lemmas.C05f.search_beyond_line_traps ls kw ic r o l re hre hl ho

/-- … so a `/` with a count ≥ 2 traps whenever its first match reaches the end of its line — `2/w[[:space:]]<CR>`
    on `hello w` (the match `w\n` is characters 6–7 of 8); on `/repo/vi` this is harmless at run time (rc 0, clean
    under valgrind), the pointer difference `"" - s` is undefined behaviour only on paper -/
theorem counted_slash_overrun (cnt : Int) (s : VS) (kwd : Bytes) (r o r' o' len : Int) (l : Bytes) (hcnt : 2 ≤ cnt)
    (h1 : search (lines s) kwd (s.ed.xic != 0) 1 r o = some (some (r', o', len)))
    (hl : lineAt (lines s) r' = some l) (hend : (ucSlen l : Int) ≤ o' + len) :
    viSearch.rep 47 cnt s kwd 1 (cnt.toNat + 1) r o 0 = none := by
  obtain ⟨re, hre⟩ := Lemmas.C13.search_some_compiled h1
  have h2 := search_beyond_line_traps (lines s) kwd (s.ed.xic != 0) r' (o' + len) l re hre hl hend
  -- the count loop: the first search hits, the second starts at the end of the match
  obtain ⟨k, hk⟩ : ∃ k, cnt.toNat = k + 2 := ⟨cnt.toNat - 2, by omega⟩
  rw [Lemmas.C13.rep_eq_count _ _ _ _ _ _ _ _ _ (by omega), Int.sub_zero, hk, Lemmas.C13.countSearch_succ,
    Lemmas.C13.searchStep_def, h1]
  dsimp only
  rw [Lemmas.C13.countSearch_succ, Lemmas.C13.searchStep_def, if_pos (by simp), h2]

end Neatvi.Props.C05f
