import NeatviVerif.Lemmas.C05gSubst
import NeatviVerif.Lemmas.C05gGlob
import NeatviVerif.Lemmas.C05gBound
import NeatviVerif.Props.C06c
import NeatviVerif.Props.C07d
import NeatviVerif.Props.C08
/-!
# C05g: what six repairs bought

Six defects of ex.c / vi.c are repaired in /repo; the model follows the repaired code.  This file states, for each
repair, the property that holds with it (and fails without).

1. **`:s` and a truncated character** (`ec_substitute` advances by `MIN(uc_len(ln), strlen(ln))` after an empty
   match): `substLine_never_traps_on_char` — the per-line loop returns `none` only where the matcher or the
   expansion of the replacement does (`go_none_iff` is the exact statement for one round);
   `substLine_total`; `subst_truncated_char` is a line on which the unrepaired code reads past the terminator.
2. **`:g` and a negative index** (the scan resumes at `MAX(0, MIN(i, xrow))`): `glob_scan_index_nonneg` — every
   index at which the loop reads `ln_glob[]` is non-negative; `glob_scan_check_never_fires`.
3. **`@r` and unbounded recursion** (`ec_at` refuses beyond 16 levels): `atDepth_restored` — every command line,
   command and handler returns with the count of executing registers it was called with;
   `ecAt_depth_bounded` — in every state visited along an execution the count is at most 16;
   `ecAt_at_limit` / `ecAt_at_limit_runs_nothing` — at 16 the handler returns 1 and runs nothing.
4. **the mark motion `` ` `` and a line that got shorter** (the column is clamped): `backtick_lands`,
   `backtick_in_line` — the offset returned is at most `uc_slen(ln) - 1`, `uc_chr` finds it, and `uc_sub` with it
   as an end does not compare pointers into different objects.
5. **the NUL key** (`vi_motionln` recognises the doubled operator letter only for `cmd != 0`):
   `nul_key_no_motion`.
6. **`:g` inside `:g` … and the bits of a `char`** (`ec_glob` refuses an eighth nesting level: the marks of a line
   are the bits `1 << xgdep` of a `char`, undefined from depth 31 on and wrong from 8 on): `xgdep_restored`,
   `glob_depth_bounded` — in every state visited along an execution the level is at most 7, and at level 7 the
   handler returns 1 with the message and the buffer untouched (`glob_at_limit`, `glob_at_limit_runs_nothing`).
-/
namespace Neatvi.Props.C05g
open Neatvi Neatvi.Uc Neatvi.Lbuf Neatvi.Ex Neatvi.Rset Neatvi.Mot Neatvi.Vi
open Neatvi.Lemmas.C05g Neatvi.Lemmas.C05d

/-! ## 1. `:s`: no trap on a truncated character -/

/-- **substLine_never_traps_on_char**: for every regex, replacement, flag and line, if the per-line loop of
    `ec_substitute` fails then on some suffix of the line either the matcher failed (`rstr_find` = `none`: its own
    traps) or it found a match whose replacement cannot be expanded (`substExpand` = `none`: a referenced group
    with garbage offsets).  There is no third source: the copy of one character after an empty match takes at most
    what is left of the line. -/
theorem substLine_never_traps_on_char (re : RStr) (rep : Bytes) (g : Bool) (line : Bytes)
    (h : substLine re rep g line = none) : ∃ k first, TrapAt re rep (line.drop k) first := by
  unfold substLine at h
  cases hgo : substLine.go re rep g (line.length + 2) line none true with
  | none => exact go_none_sources re rep g _ _ _ _ hgo
  | some t =>
    rw [hgo] at h
    obtain ⟨a, rest⟩ := t
    cases a <;> cases h

/-- conversely a source on the whole line, in the first round, makes the loop fail -/
theorem substLine_traps_at_source (re : RStr) (rep : Bytes) (g : Bool) (line : Bytes)
    (h : TrapAt re rep line true) : substLine re rep g line = none := by
  unfold substLine
  rw [(go_none_iff re rep g (line.length + 1) line none true).2 (Or.inl h)]

/-- one round, exactly (restated from `Lemmas/C05gSubst.lean`) -/
theorem substLine_round_none_iff (re : RStr) (rep : Bytes) (g : Bool) (f : Nat) (ln : Bytes) (r : Option Bytes)
    (first : Bool) :
    substLine.go re rep g (f + 1) ln r first = none ↔
      TrapAt re rep ln first ∨
      ∃ res offs c x, rstrFind re ln 16 (if first then 0 else RE_NOTBOL) ND NG = some (res, offs, c) ∧ 0 ≤ res ∧
        substExpand rep ln offs = some x ∧
        ((nextRest ln offs).isEmpty || (nextRest ln offs).headD 0 == 10 || !g) = false ∧
        substLine.go re rep g f (nextRest ln offs) (some (nextAcc r ln offs x)) false = none :=
  go_none_iff re rep g f ln r first

/-- a matcher that never fails and a replacement whose expansion never fails: `:s` on a line never fails -/
theorem substLine_total (re : RStr) (rep : Bytes) (g : Bool) (line : Bytes)
    (hm : ∀ s flg, rstrFind re s 16 flg ND NG ≠ none) (hx : ∀ s offs, substExpand rep s offs ≠ none) :
    substLine re rep g line ≠ none := by
  intro h
  obtain ⟨k, first, ht⟩ := substLine_never_traps_on_char re rep g line h
  rcases ht with ht | ⟨_, offs, _, _, _, ht⟩
  · exact hm _ _ ht
  · exact hx _ _ ht

/-- the witness: `:s/^/x/` on the "line" `0xc3` (the first byte of a two-byte character, and nothing after it):
    the empty match at offset 0 is followed by the copy of one character, `uc_len` = 2 bytes of a 1-byte string.
    The repaired code copies the one byte there is. -/
theorem subst_truncated_char :
    (rstrMake [94] 0).bind (fun r => r.bind (fun re => substLine re [120] false [0xc3])) =
      some (some [120, 0xc3]) := by decide

/-! ## 2. `:g`: no negative index -/

/-- **glob_scan_index_nonneg**: in the scan of `ec_glob` started at a non-negative index (it is started at the
    first line of the resolved region, `glob_start_nonneg`), every index `j` at which the loop reads the mark bit
    `ln_glob[j]` (`ScanReads`: the calls `globGet lb j.toNat dep` of `ecGlob.scan.adv`, round after round) is
    non-negative -/
theorem glob_scan_index_nonneg {f : Nat} {neg : Bool} {body : Bytes} {re : RStr} {dep g : Nat} {ed : Ed} {i j : Int}
    (h0 : 0 ≤ i) (h : ScanReads f neg body re dep g ed i j) : 0 ≤ j := by
  induction h with
  | round _ hs ha =>
    have := globStep_index_nonneg hs h0
    have := advReads_ge ha
    omega
  | @later g ed ed2 i i2 j _ hs _ ih =>
    have h1 := globStep_index_nonneg hs h0
    have h2 := adv_index_ge dep (ed2.len.toNat + 1) ed2 i2
    exact ih (by omega)

/-- the index a round hands on: after the command list ran it is `MAX(0, MIN(i, xrow))` -/
theorem glob_step_index {f : Nat} {neg : Bool} {body : Bytes} {re : RStr} {ed ed2 : Ed} {i i2 : Int} {st : Bool}
    (h : globStep f neg body re ed i = some (st, ed2, i2)) (h0 : 0 ≤ i) : 0 ≤ i2 :=
  globStep_index_nonneg h h0

/-- **the model's check `if i < 0 then none` never fires**: from a non-negative index a round of the scan is the
    round without the check -/
theorem glob_scan_check_never_fires (f : Nat) (neg : Bool) (body : Bytes) (re : RStr) (dep g : Nat) (ed : Ed) (i : Int)
    (h0 : 0 ≤ i) :
    ecGlob.scan f neg body re dep (g + 1) ed i =
      if i ≥ ed.len then some ed else
      match globStep f neg body re ed i with
      | none => none
      | some (true, ed, _) => some ed
      | some (false, ed, i) =>
        ecGlob.scan f neg body re dep g (ecGlob.scan.adv dep (ed.len.toNat + 1) ed i).1
          (ecGlob.scan.adv dep (ed.len.toNat + 1) ed i).2 := by
  rw [scan_succ]
  split
  · rfl
  · cases hs : globStep f neg body re ed i with
    | none => rfl
    | some z =>
      obtain ⟨st, ed2, i2⟩ := z
      cases st with
      | true => rfl
      | false =>
        simp only []
        have := globStep_index_nonneg hs h0
        rw [if_neg (by omega)]

/-- and the scan goes on at a non-negative index -/
theorem glob_scan_next_nonneg {f : Nat} {neg : Bool} {body : Bytes} {re : RStr} {dep : Nat} {ed ed2 : Ed} {i i2 : Int}
    (h : globStep f neg body re ed i = some (false, ed2, i2)) (h0 : 0 ≤ i) :
    0 ≤ (ecGlob.scan.adv dep (ed2.len.toNat + 1) ed2 i2).2 := by
  have h1 := globStep_index_nonneg h h0
  have h2 := adv_index_ge dep (ed2.len.toNat + 1) ed2 i2
  omega

/-- the scan of `ec_glob` starts at the first line of a resolved region: a non-negative index -/
theorem glob_start_nonneg {ed ed1 : Ed} {loc : Bytes} {b e : Int}
    (h : exRegion ed loc = some ((0, b, e), ed1)) : 0 ≤ b :=
  ((exRegion_ok h).2.1 rfl).1

/-! ## 3. `@r`: the count of executing registers -/

/-- **atDepth_restored**: whatever the fuel, a command (`ex_command`), a command line (`ex_exec`) and a handler
    call (`runCmd`) return with the count of executing registers they were called with -/
theorem atDepth_restored :
    (∀ f ed ln r ed', exCommand f ed ln = some (r, ed') → ed'.atDepth = ed.atDepth) ∧
    (∀ f ed ln r ed', exExec f ed ln = some (r, ed') → ed'.atDepth = ed.atDepth) ∧
    (∀ f ed h loc cmd arg txt r ed', runCmd f ed h loc cmd arg txt = some (r, ed') → ed'.atDepth = ed.atDepth) :=
  ⟨fun f => (all_keeps Counter.at f).2.1, fun f => (all_keeps Counter.at f).1, fun f => (all_keeps Counter.at f).2.2.1⟩

theorem exCommand_atDepth {f : Nat} {ed ed' : Ed} {ln : Bytes} {r : Int} (h : exCommand f ed ln = some (r, ed')) :
    ed'.atDepth = ed.atDepth := (all_keeps Counter.at f).2.1 _ _ _ _ h

theorem exExec_atDepth {f : Nat} {ed ed' : Ed} {ln : Bytes} {r : Int} (h : exExec f ed ln = some (r, ed')) :
    ed'.atDepth = ed.atDepth := (all_keeps Counter.at f).1 _ _ _ _ h

theorem runCmd_atDepth {f : Nat} {ed ed' : Ed} {hd : String} {loc cmd arg : Bytes} {txt : Option Bytes} {r : Int}
    (h : runCmd f ed hd loc cmd arg txt = some (r, ed')) : ed'.atDepth = ed.atDepth :=
  (all_keeps Counter.at f).2.2.1 _ _ _ _ _ _ _ _ h

/-- a round of the `ex()` loop, and `ex_init` -/
theorem exStep_atDepth {ed ed' : Ed} {r : Int} (h : exStep ed = some (r, ed')) : ed'.atDepth = ed.atDepth :=
  keeps_ofXStep Counter.at (Lemmas.ExStep.XStep.exStep h)

theorem exInit_atDepth {ed ed' : Ed} {files : List Bytes} {r : Int} (h : exInit ed files = some (r, ed')) :
    ed'.atDepth = ed.atDepth := keeps_ofXStep Counter.at (Lemmas.ExStep.XStep.exInit h)

/-- **ecAt_depth_bounded**: along any execution of a command that starts with at most 16 registers executing, in
    every state visited (`VCommand`: the states the nested handler calls return, the states at the start of the
    rounds of `:g`, the states a `+cmd` starts from) the count lies between the count at the start and 16 -/
theorem ecAt_depth_bounded {f : Nat} {ed s : Ed} {ln : Bytes} (hd : ed.atDepth ≤ 16) (hv : VCommand f ed ln s) :
    ed.atDepth ≤ s.atDepth ∧ s.atDepth ≤ 16 :=
  (all_bound Counter.at f).2.1 ed ln s hd hv

/-- the same for the states visited inside one handler call -/
theorem run_depth_bounded {f : Nat} {ed s : Ed} {hd : String} {loc cmd arg : Bytes} {txt : Option Bytes}
    (h16 : ed.atDepth ≤ 16) (hv : VRun f ed hd loc cmd arg txt s) : ed.atDepth ≤ s.atDepth ∧ s.atDepth ≤ 16 :=
  (all_bound Counter.at f).2.2.1 ed hd loc cmd arg txt s h16 hv

/-- the editor starts at 0, so on the whole run: at most 16 -/
theorem depth_bounded_from_start {f : Nat} {ed s : Ed} {ln : Bytes} (hd : ed.atDepth = 0) (hv : VCommand f ed ln s) :
    s.atDepth ≤ 16 :=
  (ecAt_depth_bounded (by omega) hv).2

/-- **at the limit the register is not run**: with 16 registers executing, `@r` is the register lookup and the
    address evaluation (which may trap: `none`), and then returns 1 — `exCommand` does not occur -/
theorem ecAt_at_limit (f : Nat) (ed : Ed) (loc cmd arg : Bytes) (txt : Option Bytes) (hd : 16 ≤ ed.atDepth) :
    runCmd (f + 2) ed "ec_at" loc cmd arg txt =
      match regGet ed (regName arg) with
      | none => some (1, ed)
      | some _ =>
        match exRegion ed loc with
        | none => none
        | some ((rc, _, _), ed1) =>
          some (1, if rc != 0 then ed1 else ed1.show (strOf "register recursion too deep")) := by
  rw [C06c.ec_at_dispatch, ecAt]
  cases regGet ed (regName arg) with
  | none => rfl
  | some buf =>
    simp only []
    cases hr : exRegion ed loc with
    | none => rfl
    | some z =>
      obtain ⟨⟨rc, b, e⟩, ed1⟩ := z
      have e1 := exRegion_depth hr
      simp only []
      split
      · rfl
      · rw [if_pos (by omega)]

/-- whatever it returns at the limit, the return code is 1 -/
theorem ecAt_at_limit_returns_1 (f : Nat) (ed ed' : Ed) (loc cmd arg : Bytes) (txt : Option Bytes) (r : Int)
    (hd : 16 ≤ ed.atDepth) (h : runCmd (f + 2) ed "ec_at" loc cmd arg txt = some (r, ed')) : r = 1 := by
  rw [ecAt_at_limit f ed loc cmd arg txt hd] at h
  split at h
  · cases h; rfl
  · split at h
    · cases h
    · cases h; rfl

/-- and no state is visited inside the call: nothing is run -/
theorem ecAt_at_limit_runs_nothing (f : Nat) (ed s : Ed) (loc cmd arg : Bytes) (hd : 16 ≤ ed.atDepth) :
    ¬ VAt f ed loc cmd arg s := by
  intro hv
  cases hv with
  | cmd hreg hr hrc hdp hra hvc =>
    have := exRegion_depth hr
    omega

/-! ## 4. the mark motion `` ` `` -/

/-- **backtick_lands**: the motion `` `m `` to a set mark `m` whose line `p` exists: the row is the mark's row and
    the column is the mark's column `q` clamped to the line as it is now; both keys are consumed and nothing else
    changes (`s2` is what `vi_read` left) -/
theorem backtick_lands (row off : Int) (s s1 s2 : VS) (m p q : Int) (ln : Bytes)
    (hrd : viRead s = Res.ok 96 s1) (hrd2 : viRead s1 = Res.ok m s2) (hm : 0 < m)
    (hj : s1.ed.lb.bind (fun lb => jump lb m.toNat) = some (p, q)) (hl : lineAt (lines s1) p = some ln) :
    viMotion row off s = Res.ok (96, p, min q (max 0 ((ucSlen ln : Int) - 1))) s2 := by
  have h1 := C07d.viMotionln_char_key row s s1 96 hrd (by decide) (by decide) (by decide) (by decide)
  have hm' : ¬ m ≤ 0 := by omega
  unfold viMotion
  show (viMotionln row 0 >>= _) s = _
  rw [Lemmas.C08.bind_apply, h1]
  show (viRead >>= _) _ = _
  rw [Lemmas.C08.bind_apply, C07d.viRead_back]
  simp only [Int.reduceBEq, Bool.or_self, Bool.false_eq_true, ↓reduceIte, BEq.rfl, hrd2, hm', hj, hl, pure, bind, Vi.get]

/-- **backtick_in_line**: the offset `o` the motion returns is at most `uc_slen(ln) - 1` (0 on a line without
    characters), so — for a mark column `q ≥ 0` — `0 ≤ o ≤ uc_slen(ln)`: `uc_chr(ln, o)` is a position of the line
    (`chrI`), and `uc_sub` with `o` as an end, or from `o` to the end of the line, does not trap (without the clamp:
    `q` itself, and `subI ln b q = none` as soon as `uc_slen(ln) < q`, `C08.subI_out_of_range`) -/
theorem backtick_in_line (ln : Bytes) (q : Int) :
    let o := min q (max 0 ((ucSlen ln : Int) - 1))
    o ≤ max 0 ((ucSlen ln : Int) - 1) ∧ o ≤ ucSlen ln ∧ (0 ≤ q → 0 ≤ o) ∧
    (1 ≤ ucSlen ln → o < ucSlen ln) ∧
    (∃ i, chrI ln o = some i ∧ i ≤ ln.length) ∧
    (∀ b, 0 ≤ b → b ≤ o → ∃ x, subI ln b o = some x) ∧
    (∀ e, 0 ≤ o → o ≤ e → e ≤ ucSlen ln → ∃ x, subI ln o e = some x) ∧
    (0 ≤ o → ∃ x, subI ln o (-1) = some x) := by
  intro o
  have ho1 : o ≤ max 0 ((ucSlen ln : Int) - 1) := Int.min_le_right _ _
  have ho2 : o ≤ ucSlen ln := by omega
  refine ⟨ho1, ho2, fun h => by omega, fun h => by omega, ?_, ?_, ?_, ?_⟩
  · by_cases hn : o < 0
    · exact ⟨ln.length, Lemmas.C08.chrI_neg ln o hn, Nat.le_refl _⟩
    · obtain ⟨ib, ie, _, h2, _, h4, _⟩ := C08.subI_spec ln o o (by omega) (Int.le_refl _) ho2
      exact ⟨ie, by rw [Lemmas.C08.chrI_nonneg ln o (by omega)]; exact h2, h4⟩
  · intro b hb hbo
    obtain ⟨ib, ie, _, _, _, _, h⟩ := C08.subI_spec ln b o hb hbo ho2
    exact ⟨_, h⟩
  · intro e ho hoe he
    obtain ⟨ib, ie, _, _, _, _, h⟩ := C08.subI_spec ln o e ho hoe he
    exact ⟨_, h⟩
  · intro ho
    obtain ⟨ib, _, _, h⟩ := C08.subI_tail_spec ln o ho ho2
    exact ⟨_, h⟩

/-- the two together: after `` `m `` the returned position is inside the line it names -/
theorem backtick_position_valid (row off : Int) (s s1 s2 : VS) (m p q : Int) (ln : Bytes)
    (hrd : viRead s = Res.ok 96 s1) (hrd2 : viRead s1 = Res.ok m s2) (hm : 0 < m)
    (hj : s1.ed.lb.bind (fun lb => jump lb m.toNat) = some (p, q)) (hl : lineAt (lines s1) p = some ln) (hq : 0 ≤ q) :
    ∃ o, viMotion row off s = Res.ok (96, p, o) s2 ∧ 0 ≤ o ∧ o < max 1 (ucSlen ln : Int) ∧
      lineAt (lines s2) p = some ln ∧ ∃ i, chrI ln o = some i := by
  refine ⟨_, backtick_lands row off s s1 s2 m p q ln hrd hrd2 hm hj hl, ?_, ?_, ?_, ?_⟩
  · omega
  · omega
  · rw [(C07d.viRead_frame s1 s2 m hrd2).lines]; exact hl
  · obtain ⟨_, _, _, _, ⟨i, hi, _⟩, _⟩ := backtick_in_line ln q
    exact ⟨i, hi⟩

/-! ## 5. the NUL key -/

/-- **nul_key_no_motion**: at top level (`vi_motionln(row, 0)`, the call from `vi_motion`) a pending NUL key is
    not a line motion: `(0, row)` is returned — no motion, the row untouched — and the key is pushed back (it is
    the next key `vi_read` delivers).  Without the test `cmd != 0` the key is taken for the "doubled operator letter"
    and moves the row by the count. -/
theorem nul_key_no_motion (row : Int) (s s1 : VS) (hrd : viRead s = Res.ok 0 s1) :
    viMotionln row 0 s = Res.ok (0, row) { s1 with vibuf := 0 :: s1.vibuf } ∧
    viRead { s1 with vibuf := 0 :: s1.vibuf } = Res.ok 0 s1 :=
  ⟨C07d.viMotionln_other row 0 s s1 0 hrd (by decide) (by decide) (fun h => absurd rfl h) (fun h => by cases h),
   C07d.viRead_back s1 0⟩

/-- the same for a NUL byte typed at the terminal: it stays the next key, `rest` still follows it -/
theorem nul_key_no_motion_pending (row : Int) (s : VS) (rest : Bytes) (hv : s.vibuf = [])
    (hp : Lemmas.C09.pending s = 0 :: rest) :
    ∃ s1, viMotionln row 0 s = Res.ok (0, row) s1 ∧ s1.vibuf = [0] ∧ Lemmas.C09.pending s1 = rest ∧
      viRead s1 = Res.ok 0 { s1 with vibuf := [] } := by
  obtain ⟨s1, h1, h2, h3, h4, _⟩ := C07d.viMotionln_other_pending row 0 s 0 rest hv hp (by decide) (by decide)
    (fun h => absurd rfl h) (fun h => by cases h)
  exact ⟨s1, h1, h2, h3, h4⟩

/-- with an operator pending (`cmd ≠ 0`) the doubled letter is still the line motion -/
theorem doubled_letter_still_a_motion (row cmd : Int) (s s1 : VS) (hrd : viRead s = Res.ok cmd s1) (hc : cmd ≠ 0)
    (hnk : C07d.lineKeyBefore cmd = false) (h0 : 0 ≤ row) (h1 : row < lenOf s) (hcnt : 1 ≤ cntOf s) :
    viMotionln row cmd s = Res.ok (cmd, min (row + cntOf s - 1) (lenOf s - 1)) s1 :=
  C07d.viMotionln_doubled row cmd s s1 hrd hc hnk h0 h1 hcnt

/-! ## 6. `:g`: the nesting level -/

/-- **xgdep_restored**: whatever the fuel, a command, a command line and a handler call return with the nesting
    level of `:g` they were called with (`ec_glob` counts it up for its scan and down again) -/
theorem xgdep_restored :
    (∀ f ed ln r ed', exCommand f ed ln = some (r, ed') → ed'.xgdep = ed.xgdep) ∧
    (∀ f ed ln r ed', exExec f ed ln = some (r, ed') → ed'.xgdep = ed.xgdep) ∧
    (∀ f ed h loc cmd arg txt r ed', runCmd f ed h loc cmd arg txt = some (r, ed') → ed'.xgdep = ed.xgdep) :=
  ⟨fun f => (all_keeps Counter.glob f).2.1, fun f => (all_keeps Counter.glob f).1,
    fun f => (all_keeps Counter.glob f).2.2.1⟩

theorem exStep_xgdep {ed ed' : Ed} {r : Int} (h : exStep ed = some (r, ed')) : ed'.xgdep = ed.xgdep :=
  keeps_ofXStep Counter.glob (Lemmas.ExStep.XStep.exStep h)

/-- **at the limit `:g` does nothing**: with seven `:g` nested, the handler returns 1 at once, with the message;
    the buffer table (every buffer's text, marks, history), the files and the cursor are untouched -/
theorem glob_at_limit (f : Nat) (ed : Ed) (loc cmd arg : Bytes) (txt : Option Bytes) (hd : 7 ≤ ed.xgdep) :
    runCmd (f + 2) ed "ec_glob" loc cmd arg txt = some (1, ed.show (strOf "global commands nested too deep")) ∧
    (ed.show (strOf "global commands nested too deep")).bufs = ed.bufs ∧
    Lemmas.C06.lines (ed.show (strOf "global commands nested too deep")) = Lemmas.C06.lines ed ∧
    (ed.show (strOf "global commands nested too deep")).files = ed.files ∧
    (ed.show (strOf "global commands nested too deep")).xrow = ed.xrow ∧
    (ed.show (strOf "global commands nested too deep")).xgdep = ed.xgdep := by
  refine ⟨?_, rfl, rfl, rfl, rfl, rfl⟩
  rw [Lemmas.C20c.runCmd_glob, ecGlob, if_pos hd]

/-- and no state is visited inside the call: no command list is run -/
theorem glob_at_limit_runs_nothing (f : Nat) (ed s : Ed) (loc cmd arg : Bytes) (hd : 7 ≤ ed.xgdep) :
    ¬ VGlob f ed loc cmd arg s := by
  intro hv
  cases hv with
  | scan hlt _ _ _ _ _ => omega

/-- **glob_depth_bounded**: along any execution of a command that starts with at most seven `:g` nested, in every
    state visited (`VCommand`) the nesting level lies between the level at the start and 7 — so the mark bit
    `1 << xgdep` of `ec_glob` is one of the eight bits of a `char` — and with `xgdep = 7` the handler of `:g` returns
    `some (1, _)` leaving the buffer untouched -/
theorem glob_depth_bounded :
    (∀ {f : Nat} {ed s : Ed} {ln : Bytes}, ed.xgdep ≤ 7 → VCommand f ed ln s → ed.xgdep ≤ s.xgdep ∧ s.xgdep ≤ 7) ∧
    (∀ (f : Nat) (ed : Ed) (loc cmd arg : Bytes) (txt : Option Bytes), ed.xgdep = 7 →
      ∃ ed', runCmd (f + 2) ed "ec_glob" loc cmd arg txt = some (1, ed') ∧ ed'.bufs = ed.bufs ∧
        Lemmas.C06.lines ed' = Lemmas.C06.lines ed) := by
  refine ⟨fun hd hv => (all_bound Counter.glob _).2.1 _ _ _ hd hv, ?_⟩
  intro f ed loc cmd arg txt h7
  obtain ⟨h1, h2, h3, _⟩ := glob_at_limit f ed loc cmd arg txt (by omega)
  exact ⟨_, h1, h2, h3⟩

/-- the same for the states visited inside one handler call -/
theorem run_gdepth_bounded {f : Nat} {ed s : Ed} {hd : String} {loc cmd arg : Bytes} {txt : Option Bytes}
    (h7 : ed.xgdep ≤ 7) (hv : VRun f ed hd loc cmd arg txt s) : ed.xgdep ≤ s.xgdep ∧ s.xgdep ≤ 7 :=
  (all_bound Counter.glob f).2.2.1 ed hd loc cmd arg txt s h7 hv

/-- the editor starts at level 0, so on the whole run: at most 7 -/
theorem gdepth_bounded_from_start {f : Nat} {ed s : Ed} {ln : Bytes} (hd : ed.xgdep = 0) (hv : VCommand f ed ln s) :
    s.xgdep ≤ 7 :=
  (glob_depth_bounded.1 (by omega) hv).2

end Neatvi.Props.C05g
