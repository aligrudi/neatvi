import NeatviVerif.Lemmas.C05hC
/-!
# C05h: connecting "no trap in the ex layer" (C05e) with "no trap in the vi loop" (C05f) — what connects, and what does not

C05f defines three global hypotheses: `EngineOk` (the regular-expression layer) and `ExNoTrap` / `ExKeeps` (ex commands
entered from vi).  This module shows that they cannot be discharged from C05e (`EngineOk` and `ExNoTrap` are false) and
what C05e gives instead; the theorems of `Props/C05f.lean` use none of them, only the per-state `StepHyp`.  In detail:

**1. `EngineOk` is false** (`engineOk_is_false`), for three independent reasons, each with a kernel-checked witness:
  * it quantifies over patterns that are not C strings (`\` NUL makes `rstr_make` trap in the model);
  * restricted to C-string patterns and to well-formed lines (`engineOk_on_lines_is_false`): the line `a`, `E2`,
    newline ends in a truncated multi-byte character, the start-position loop of `regexec` advances by `uc_len` from
    `E2` over the newline, and `x*$` matches *on the terminator*: the match starts at `s.length`, which `EngineOk`
    excludes.  `lbuf_search` then reports column 3 on a line of 3 characters (`search_hit_beyond_last_char`), which
    the conclusion `HitOk` of C05f's `search_ok` excludes.  The editor itself does nothing wrong there (`vi` clamps
    the column; evaluated runs with `/x*$`, `n`, `d/x*$` end normally) — it is C05f's *hypothesis* that is too strong;
  * restricted to C-string patterns and ASCII subjects (`engineOk_on_ascii_is_false`): a subject that is not
    newline-terminated (`bc`) — `EngineOk` quantifies over every subject, `lbuf_search` only passes rests of lines.
  What C05e does give (`engine_on_c_strings`, `search_never_traps`): for a pattern that is a C string, compiling and
  matching never trap, on any subject; hence `lbuf_search` started on an existing character never traps, whatever
  the bytes of the lines are.  The remaining hypothesis on the keyword is exactly `0 ∉ kw`.  The *position* half
  of `EngineOk` ("a match starts before the terminator") needs, besides, a subject that is a newline-terminated line
  whose character boundaries reach the newline (true for valid UTF-8; not provable from C05e, whose
  `group_offsets_sane` bounds non-empty groups only and is stated for 16 groups, not 1).
**2. `ExNoTrap` is false** (`exNoTrap_is_false`): it quantifies over every NUL-free line; `:w %%` with a 500-byte
  file name traps in the model (C05e's path limit; the C code truncates).  For the lines C05e covers the lift through
  `exCommandV` is proved (`colon_no_trap`, `colon_keeps_safe`) — from C05e's invariant `Safe`, not from C05f's `SOk`:
  the two are **incomparable** (`sok_not_safe`: `SOk` does not say that the remembered pattern is a C string, nor
  anything about the other buffers or the `:@` depth; `safe_not_sok`: `Safe` does not say that lines are NUL-free and
  newline-terminated).  `ExKeeps` (an ex command keeps the *line* invariant of C05f: no NUL, final newline, NUL-free
  registers and history) is not a consequence of any C05e theorem; it has to be proved handler by handler — and
  as stated it is false *in the model* too (evaluated, not proved here): `:r !x` where the shell oracle `Ed.pipes`
  answers `b NUL c ⏎ d` inserts the line `b NUL c` (`Model/ExCmd.lean`, handler `ec_read`, hands the whole byte list to
  `Ed.edit`), whereas `ec_read` of `/repo/ex.c` passes `obuf` to `lbuf_edit` as a C string, which ends at the NUL:
  here the model disagrees with the C code (only for command output containing a NUL byte).
**3. the initial state**: `ex_init` followed by `viInit` yields a state with C05e's invariant (`initial_state_safe`).
**4. `MarksIn` is not an invariant** (`marksIn_not_invariant`): it holds initially and fails after `$ oxyz<ESC> u`
  (C05f's own witness, here as a statement about the predicate).  So `StepHyp` cannot be reduced to `SearchOk`.

**Therefore a theorem that assumes `EngineOk` or `ExNoTrap` is vacuously true** (`Lemmas.C05f.search_ok` / `search_hit`
are).  `Props/C05f.lean` uses in their place: `0 ∉ xkwd` and `PatIn` in `SearchOk`, the weaker conclusion `HitIn`
(`o' ≤ slenAt`), and the per-call `ExCallOk`, whose no-trap half `Props/C05i.lean` derives from C05e's `Safe` for
`ColonLineOk` lines (`vi_run_no_trap`).

Byte strings are lists of character codes.
-/
namespace Neatvi.Props.C05h
open Neatvi Neatvi.Uc Neatvi.Lbuf Neatvi.Ex Neatvi.Mot Neatvi.Vi Neatvi.Rset
open Neatvi.Lemmas.C05e Neatvi.Lemmas.C05f Neatvi.Lemmas.C05h
open Neatvi.Props.C05c (iterate)

export Neatvi.Lemmas.C05h (EngineOkOn ColonLineOk EdSafe findWith sLong sKwd badMark)

/-! ## 1. the regular-expression layer -/

/-- `C05f.EngineOk` is `EngineOkOn` without restriction on patterns and subjects -/
theorem engineOk_unrestricted : EngineOk ↔ EngineOkOn (fun _ => True) (fun _ => True) := by
  constructor
  · intro h kw flg _
    obtain ⟨r, h1, h2⟩ := h kw flg
    exact ⟨r, h1, fun re hre s f _ => h2 re hre s f⟩
  · intro h kw flg
    obtain ⟨r, h1, h2⟩ := h kw flg trivial
    exact ⟨r, h1, fun re hre s f => h2 re hre s f trivial⟩

/-- **`C05f.EngineOk` is false**: the pattern `\` NUL makes `rstr_make` trap in the model -/
theorem engineOk_is_false : ¬ EngineOk := Lemmas.C05h.engineOk_is_false

/-- … and stays false for patterns that are C strings and subjects that are well-formed lines (C05f's `LineOk`):
    on `a`, `E2`, newline the pattern `x*$` matches at byte 3, the terminator -/
theorem engineOk_on_lines_is_false : ¬ EngineOkOn NoNul Lemmas.C05f.LineOk :=
  engineOkOn_false_of (kw := [120, 42, 36]) (s := [97, 226, 10]) (n := 3) (by decide) ⟨[97, 226], rfl, by decide, by decide⟩
    truncated_char_match (by decide)

/-- … and for C-string patterns and ASCII subjects that are not newline-terminated (`x*$` on `bc`) -/
theorem engineOk_on_ascii_is_false : ¬ EngineOkOn NoNul (fun s => ∀ c ∈ s, 0 < c ∧ c < 128) :=
  engineOkOn_false_of (kw := [120, 42, 36]) (s := [98, 99]) (n := 2) (by decide) (by decide) unterminated_match (by decide)

/-- the two matches, as the matcher reports them: `(0, [so, eo], cuts)` with `so` = the length of the subject -/
theorem matches_on_the_terminator :
    findWith [120, 42, 36] 0 [97, 226, 10] 0 = some (0, [3, 3], 0) ∧
    findWith [120, 42, 36] 0 [98, 99] 0 = some (0, [2, 2], 0) := ⟨truncated_char_match, unterminated_match⟩

/-- one level up: searching `x*$` forward from the `a` of the line `a`, `E2`, newline reports column 3 of a line of
    3 characters — the conclusion `HitOk` of C05f's `search_ok` / `search_hit` fails for a C-string pattern on a
    well-formed line -/
theorem search_hit_beyond_last_char :
    search [[97, 226, 10]] [120, 42, 36] false 1 0 0 = some (some (0, 3, 0)) ∧ slenAt [[97, 226, 10]] 0 = 3 ∧
    ¬ HitOk [[97, 226, 10]] (some (0, 3, 0)) := by
  have h2 : slenAt [[97, 226, 10]] 0 = 3 := by decide
  refine ⟨?_, h2, ?_⟩
  · obtain ⟨re, hm, hf⟩ := findWith_spec truncated_char_match_rest
    unfold search
    simp only [Bool.false_eq_true, if_false]
    rw [hm]
    dsimp only
    have hl : lineAt [[97, 226, 10]] 0 = some [97, 226, 10] := by decide
    have hc : ucChr [97, 226, 10] ((0 : Int) + 1).toNat = some 1 := by decide
    have hd : List.drop 1 [97, 226, 10] = [226, 10] := rfl
    simp (config := {decide := true}) only [search.rows, search.go, hl, hc, hd, hf, List.length_cons, List.length_nil,
      List.getD_cons_zero, List.getD_cons_succ, if_true, if_false, beq_self_eq_true]
  · intro h
    have h1 := (h 0 3 0 rfl).2.2.2
    rw [h2] at h1
    omega

/-- **what holds**: for a pattern that is a C string, `rstr_make` does not trap and the matcher it yields never
    traps, on any subject with any flags and limits.  The one hypothesis on the keyword is `0 ∉ kw` (what is typed at
    the `/` prompt has it: `C05f.typed_text_has_no_nul`) -/
theorem engine_on_c_strings (kw : Bytes) (flg : Nat) (h0 : NoNul kw) :
    ∃ r, rstrMake kw flg = some r ∧
      ∀ re, r = some re → ∀ (s : Bytes) (n f nd ng : Nat), ∃ x, rstrFind re s n f nd ng = some x :=
  engine_total kw flg h0

example : ∃ r, rstrMake [120, 42, 36] 0 = some r ∧
    ∀ re, r = some re → ∀ (s : Bytes) (n f nd ng : Nat), ∃ x, rstrFind re s n f nd ng = some x :=
  engine_on_c_strings [120, 42, 36] 0 (by decide)

/-- **`lbuf_search` with a C-string pattern, started on an existing character, never traps** — no hypothesis on the
    bytes of the lines (the no-trap half of C05f's `search_ok`, without `EngineOk`) -/
theorem search_never_traps (ls : Lines) (kw : Bytes) (ic : Bool) (dir r o : Int) (h0 : NoNul kw)
    (ho : o < slenAt ls r) : search ls kw ic dir r o ≠ none := by
  obtain ⟨res, h⟩ := search_total_c ls kw ic dir r o h0 ho
  rw [h]; exact fun h => by cases h

example : search [[97, 226, 10]] [120, 42, 36] false 1 0 0 ≠ none :=
  search_never_traps _ _ _ _ _ _ (by decide) (by decide)

/-! ## 2. ex commands entered from vi -/

/-- **`C05f.ExNoTrap` is false**: `:w %%` on the empty buffer whose file name is 500 bytes long — a state with C05f's
    invariant and C05e's — traps in the model (the path limit of C05e; not a trap of the C code) -/
theorem exNoTrap_is_false : ¬ ExNoTrap := Lemmas.C05h.exNoTrap_is_false

/-- the witness: the state has both invariants, the line is NUL-free, `exCommandV` traps -/
theorem exNoTrap_witness :
    SOk sLong True ∧ RowOk sLong ∧ EdSafe sLong ∧ NoNul [119, 32, 37, 37] ∧ exCommandV [119, 32, 37, 37] sLong = Res.trap :=
  ⟨sLong_sok, sLong_rowOk, sLong_edSafe, by decide, sLong_traps⟩

/-- **`:` on a covered line never traps** — `ColonLineOk` is C05e's decidable class with the fuel `vi` gives
    `ex_command` (64): a flat line; or flat commands mixed with `:g` over local flat command lists; or a plain line
    with at most 15 `+`.  The state has to be `EdSafe`: C05e's `Safe` at `:@` depth 0 -/
theorem colon_no_trap (ln : Bytes) (s : VS) (h : EdSafe s) (hl : ColonLineOk ln) : exCommandV ln s ≠ Res.trap := by
  obtain ⟨rc, s', he, _⟩ := exCommandV_safe ln s h hl
  rw [he]; exact fun h => by cases h

/-- … and leaves a state that is `EdSafe` again -/
theorem colon_keeps_safe (ln : Bytes) (s : VS) (h : EdSafe s) (hl : ColonLineOk ln) :
    ∃ rc s', exCommandV ln s = Res.ok rc s' ∧ EdSafe s' := exCommandV_safe ln s h hl

/-- the hypotheses are satisfiable: `:1,2d|w out` on the witness state -/
example : exCommandV (strOf "1,2d|w out") sLong ≠ Res.trap :=
  colon_no_trap _ _ sLong_edSafe (Or.inl (by decide +kernel))

/-- `:w %%` is outside the covered class -/
theorem w_percent_not_covered : ¬ ColonLineOk [119, 32, 37, 37] := by
  intro h
  exact colon_no_trap _ _ sLong_edSafe h sLong_traps

/-- **the invariants differ, 1**: a state with C05f's buffer/register invariant and a valid row that is not `Safe`
    (the remembered pattern `\` NUL is not a C string; `SOk` has no clause about `xkwd`, the other buffers, `atDepth`) -/
theorem sok_not_safe : SOk sKwd True ∧ RowOk sKwd ∧ ¬ Safe sKwd.ed :=
  ⟨sLong_sok, sLong_rowOk, fun h => h.kwd (by decide)⟩

/-- **the invariants differ, 2**: a state that is `Safe` at depth 0 with a valid row and without C05f's invariant
    (a line `a NUL b` built by `lbuf_edit`; `Safe` has no clause about the bytes of the lines) -/
theorem safe_not_sok : ∃ s : VS, EdSafe s ∧ RowOk s ∧ ∀ c, ¬ SOk s c := by
  have hne : Lbuf.edit Lbuf.make (some [97, 0, 98, 10]) 0 0 ≠ none := by decide +kernel
  cases he : Lbuf.edit Lbuf.make (some [97, 0, 98, 10]) 0 0 with
  | none => exact absurd he hne
  | some lb =>
    have hl : lb.lines = [[97, 0, 98, 10]] := by
      have h : (Lbuf.edit Lbuf.make (some [97, 0, 98, 10]) 0 0).map Lb.lines = some [[97, 0, 98, 10]] := by decide +kernel
      rw [he] at h
      exact Option.some.inj h
    have hg : Lemmas.C02b.GoodLb lb := Lemmas.C02b.goodLb_make.edit he
    refine ⟨{ ed := { bufs := some { path := [], lb := lb } :: List.replicate 15 none } }, ?_, ?_, ?_⟩
    · exact ⟨safe_single _ { path := [], lb := lb } hg rfl (by show (0 : Nat) ∉ ([] : Bytes); simp), rfl⟩
    · refine ⟨Int.le_refl 0, fun _ => ?_⟩
      show (0 : Int) < ((lb.lines.length : Nat) : Int)
      rw [hl]; decide
    · intro c h
      obtain ⟨b, hb, hh⟩ := h.1
      have hb' : b = { path := [], lb := lb } := by
        have : (some ({ path := [], lb := lb } : Buf)) = some b := hb
        exact (Option.some.inj this).symm
      subst hb'
      have := hh.lines [97, 0, 98, 10] (by show [97, 0, 98, 10] ∈ lb.lines; rw [hl]; simp)
      exact this.noNul (by decide)

/-! ## 3. the initial state -/

/-- **the state `vi` starts from** (`ex_init` on the empty buffer table, then `viInit`) is `EdSafe`: for every file
    name C05e covers (`NameOk`), every content of the file system, every key stream and window size -/
theorem initial_state_safe (ed0 : Ed) (files : List Bytes) (h0 : ed0.bufs = List.replicate Gen.NBUFS none)
    (hk : 0 ∉ ed0.xkwd) (hd : ed0.atDepth = 0) (hn : NameOk files) (keys : Bytes) (rows cols : Int) :
    ∃ rc ed1, exInit ed0 files = some (rc, ed1) ∧ EdSafe (viInit ed1 keys rows cols) := by
  obtain ⟨rc, ed1, hi, h1, hd1⟩ := init_ok ed0 files h0 hk hd hn
  exact ⟨rc, ed1, hi, h1.of_bufs rfl, hd1⟩

example (keys : Bytes) : ∃ rc ed1, exInit ({} : Ed) [strOf "f"] = some (rc, ed1) ∧ EdSafe (viInit ed1 keys 23 80) :=
  initial_state_safe {} [strOf "f"] rfl (by decide) rfl (nameOk_of_check (by decide +kernel)) keys 23 80

/-! ## 4. `MarksIn` -/

/-- **`MarksIn` is not preserved by the loop**: on the one-line buffer `hello w` it holds at the start and fails after
    the three commands `$`, `oxyz<ESC>`, `u` (the undo of the append leaves the mark `*` at `(1, 3)` in a buffer of one
    line).  `StepHyp` can therefore not be reduced to `SearchOk` alone -/
theorem marksIn_not_invariant :
    MarksIn (oneLine [36, 111, 120, 121, 122, 27, 117, 100, 96, 42]) ∧
    ∃ t, iterate 3 (oneLine [36, 111, 120, 121, 122, 27, 117, 100, 96, 42]) = some t ∧ ¬ MarksIn t := by
  constructor
  · refine marksIn_of_no_marks ?_
    intro lb hlb i
    have h : (oneLine [36, 111, 120, 121, 122, 27, 117, 100, 96, 42]).ed.lb =
        some { lines := [[104, 101, 108, 108, 111, 32, 119, 10]] } := rfl
    rw [h] at hlb
    cases hlb
    exact getD_replicate Gen.NMARKS (-1) i
  · have h := bad_after_undo
    cases ht : iterate 3 (oneLine [36, 111, 120, 121, 122, 27, 117, 100, 96, 42]) with
    | none => rw [ht] at h; cases h
    | some t =>
      rw [ht] at h
      exact ⟨t, rfl, not_marksIn_of_bad h⟩

end Neatvi.Props.C05h
