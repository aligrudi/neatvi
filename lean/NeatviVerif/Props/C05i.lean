import NeatviVerif.Props.C05h
/-!
# C05i: the vi loop never traps — C05f connected with C05e through C05h

`Props/C05f.lean` assumes nothing about the regular-expression layer, and its hypothesis about the ex layer is a
statement about the single calls `ex_command(line)` the key stream makes (`ExCallOk line state`, collected per
iteration in `ColonOk`).  This module discharges the no-trap half of `ExCallOk` from C05e (via `C05h.colon_no_trap`) and
states the end-to-end theorem `vi_run_no_trap`.

What remains assumed, and why (each with a witness or an instance below):
* `EdSafe` of the state a `:` command is entered in (C05e's invariant `Safe`: every buffer built by the lbuf API, the
  remembered pattern a C string, no `:@` running).  It holds initially (`C05h.initial_state_safe`) and is kept by every
  covered `:` command (`C05h.colon_keeps_safe`); that the *other* vi commands keep it is not proved anywhere
  (C05f's `ViOk` and C05e's `Safe` are incomparable: `C05h.sok_not_safe`, `safe_not_sok`), so it stays a hypothesis.
* `KeepsSOk line state` — the ex command keeps C05f's line invariant (lines NUL-free and newline-terminated, history and
  registers NUL-free).  Not a consequence of C05e; false in the model for `:r !cmd` when the oracle's output holds a NUL
  (C05h, header).  Trivially true for the lines the model does not run (`a i c g v @ ! …`: `keepsSOk_of_wantsInput`).
* `ColonLineOk line` — C05e's covered class; `:w %%` with a long path is outside it and traps in the model
  (`C05h.exNoTrap_witness`).
-/
namespace Neatvi.Props.C05i
open Neatvi Neatvi.Uc Neatvi.Lbuf Neatvi.Ex Neatvi.Mot Neatvi.Vi Neatvi.Rset
open Neatvi.Lemmas.C05e Neatvi.Lemmas.C05f Neatvi.Lemmas.C05h
open Neatvi.Props.C05c (iterate)

/-! ## 1. one ex command entered from vi -/

/-- the residual preservation hypothesis: the command keeps the buffer / register part of C05f's invariant -/
def KeepsSOk (ln : Bytes) (s : VS) : Prop := ∀ rc s', exCommandV ln s = Res.ok rc s' → SOk s' False

/-- **`ExCallOk` from C05e**: on a state with C05e's invariant a covered line does not trap; with `KeepsSOk` that is all
    the vi loop needs of the call -/
theorem exCallOk_of_covered {ln : Bytes} {s : VS} (h : EdSafe s) (hl : ColonLineOk ln) (hk : KeepsSOk ln s) :
    ExCallOk ln s := ⟨C05h.colon_no_trap ln s h hl, hk⟩

/-- the lines the model does not run (`exWantsInput`: `a i c g v @ ! kmap …` — the state is only flagged
    `unmodelled`) keep the invariant -/
theorem keepsSOk_of_wantsInput {ln : Bytes} {s : VS} (hs : SOk s True) (h : exWantsInput ln = true) : KeepsSOk ln s := by
  intro rc s' hm
  unfold exCommandV at hm
  rw [if_pos h] at hm
  cases hm
  exact ⟨hs.1.weaken, hs.2⟩

/-- … and do not trap, whatever the state: `ExCallOk` without any hypothesis on the ex layer -/
theorem exCallOk_of_wantsInput {ln : Bytes} {s : VS} (hs : SOk s True) (h : exWantsInput ln = true) : ExCallOk ln s := by
  refine ⟨?_, keepsSOk_of_wantsInput hs h⟩
  unfold exCommandV
  rw [if_pos h]
  exact fun h => by cases h

/-- instance: `:g/a/d` typed on the example buffer of C08b -/
example (keys : Bytes) : ExCallOk (strOf ":g/a/d") (Props.C08b.exSt keys 0 0) :=
  exCallOk_of_wantsInput (exSt_sok keys 0 0) (by decide +kernel)

/-- the lines `:s/a/b/`, `:1d`, `:1,2d|w out` and the `x` of `ZZ` are in the covered class -/
example : ColonLineOk (strOf ":s/a/b/") ∧ ColonLineOk (strOf ":1d") ∧ ColonLineOk (strOf "1,2d|w out") ∧
    ColonLineOk (strOf "x") :=
  ⟨Or.inl (by decide +kernel), Or.inl (by decide +kernel), Or.inl (by decide +kernel), Or.inl (by decide +kernel)⟩

/-- … so on C05h's witness state (which is `EdSafe`) `:s/a/b/` and `:1d` do not trap -/
example : exCommandV (strOf ":s/a/b/") sLong ≠ Res.trap ∧ exCommandV (strOf ":1d") sLong ≠ Res.trap :=
  ⟨C05h.colon_no_trap _ _ sLong_edSafe (Or.inl (by decide +kernel)),
   C05h.colon_no_trap _ _ sLong_edSafe (Or.inl (by decide +kernel))⟩

/-! ## 2. the hypothesis `ColonOk` of an iteration, from the lines the key stream types -/

/-- **`ColonOk` from the class of the typed lines**: if every line the `:` prompt returns for the pending keys is
    covered, is entered in an `EdSafe` state and keeps the line invariant — and likewise the `x` of `ZZ` — the
    hypothesis `ColonOk` of C05f holds -/
theorem colonOk_of_typed_lines {s : VS}
    (hc : ∀ (s0 : VS) (ln : Bytes) (s1 : VS), ColonAt 58 s s0 → viPrompt true s0 = Res.ok (some ln) s1 → ln.isEmpty = false →
      ColonLineOk (if ln.headD 0 != 58 then 58 :: ln else ln) ∧ EdSafe s1 ∧
        KeepsSOk (if ln.headD 0 != 58 then 58 :: ln else ln) s1)
    (hz : ∀ s0, ColonAt 90 s s0 → EdSafe s0 ∧ KeepsSOk (strOf "x") s0) : ColonOk s :=
  ⟨fun s0 ln s1 hat hm he => by
      obtain ⟨a, b, c⟩ := hc s0 ln s1 hat hm he
      exact exCallOk_of_covered b a c,
   fun s0 hat => by
      obtain ⟨b, c⟩ := hz s0 hat
      exact exCallOk_of_covered b (Or.inl (by decide +kernel)) c⟩

/-! ## 3. the run from the initial state -/

/-- **`vi_run_no_trap`**: for every file name C05e covers (`NameOk`), every file system content, window size and key
    stream: `ex_init` returns, the state `vi` starts from is `EdSafe`, and — if that state has C05f's invariant `ViOk`
    (the file's lines are NUL-free: `lbuf_rd` cuts a file at its first NUL in C, the model's reader keeps the bytes, so
    this is a hypothesis on the content; see `fresh_buffer_ok` for the history part) and `StepHyp` holds at every
    boundary of the run — no iteration of the loop traps and the invariant holds at every boundary.
    `StepHyp.colon` is obtained from `colonOk_of_typed_lines`: every `:` line typed is `ColonLineOk`, entered in an
    `EdSafe` state, and keeps the line invariant. -/
theorem vi_run_no_trap (ed0 : Ed) (files : List Bytes) (h0 : ed0.bufs = List.replicate Gen.NBUFS none)
    (hk : 0 ∉ ed0.xkwd) (hd : ed0.atDepth = 0) (hn : NameOk files) (keys : Bytes) (rows cols : Int) :
    ∃ rc ed1, exInit ed0 files = some (rc, ed1) ∧ EdSafe (viInit ed1 keys rows cols) ∧
      (ViOk (viInit ed1 keys rows cols) → ∀ (n : Nat) (s : VS),
        (∀ k t, k ≤ n → iterate k (viInit ed1 keys rows cols) = some t → StepHyp t) →
        iterate n (viInit ed1 keys rows cols) = some s → ViOk s ∧ viStep s ≠ Res.trap) := by
  obtain ⟨rc, ed1, hi, hs⟩ := C05h.initial_state_safe ed0 files h0 hk hd hn keys rows cols
  exact ⟨rc, ed1, hi, hs, fun hv n s hh h =>
    ⟨Props.C05f.run_invariant n _ s hv hh h, Props.C05f.run_no_trap n _ s hv hh h⟩⟩

/-- instance of the hypotheses on the initial data: the file name `f` -/
example (keys : Bytes) : ∃ rc ed1, exInit ({} : Ed) [strOf "f"] = some (rc, ed1) ∧ EdSafe (viInit ed1 keys 23 80) := by
  obtain ⟨rc, ed1, h1, h2, _⟩ := vi_run_no_trap {} [strOf "f"] rfl (by decide) rfl (nameOk_of_check (by decide +kernel)) keys 23 80
  exact ⟨rc, ed1, h1, h2⟩

/-- **a run with nothing assumed about other layers**: on the example buffer (`hello w`, `b`), for every key stream
    without `/ ? n N ^A : Z`, the first command does not trap (`ViOk` and `StepHyp` proved, not assumed) -/
example (keys : Bytes) (h : ∀ k ∈ specialKeys, k ∉ keys) : viStep (Props.C08b.exSt keys 0 0) ≠ Res.trap :=
  Props.C05f.run_no_trap 0 _ _ (exSt_viOk keys) (fun k t hk ht => by
    have : k = 0 := by omega
    subst this
    unfold iterate at ht
    cases ht
    exact exSt_stepHyp keys h) rfl

/-! ## 4. the residual position hypothesis `PatIn`: an instance, and why it cannot be dropped -/

/-- instance: the pattern `w` matches inside the lines `hello w`, `b` (decided by the kernel) -/
example : PatIn [119] false [[104, 101, 108, 108, 111, 32, 119, 10], [98, 10]] := by decide +kernel

/-- `x*$` does **not** match inside the line `a`, `E2`, newline (the match C05h found on the terminator) -/
theorem patIn_fails_on_truncated_char : ¬ PatIn [120, 42, 36] false [[97, 226, 10]] := by
  intro h
  obtain ⟨re, hm, hf⟩ := findWith_spec truncated_char_match_rest
  have := hitInside_spec (h [97, 226, 10] (by simp)) (re := re) hm 1 0 [2, 2] 0 (by decide) hf (by decide)
  revert this
  decide

/-- the buffer with that one line (`noic`) -/
def sTrunc : VS := { ed := { bufs := [some { path := [], lb := { lines := [[97, 226, 10]] } }], xic := 0 } }

/-- **witness: without `PatIn` the repeated search traps in the model** — `2n` with the pattern `x*$` from the start of
    the line `a`, `E2`, newline: the first hit is column 3 of 3, the second search starts beyond the line -/
theorem repeated_search_overrun : viSearch.rep 110 2 sTrunc [120, 42, 36] 1 3 0 0 0 = none := by
  have hl : lines sTrunc = [[97, 226, 10]] := rfl
  have hx : (sTrunc.ed.xic != 0) = false := rfl
  have h1 : search (lines sTrunc) [120, 42, 36] (sTrunc.ed.xic != 0) 1 0 0 = some (some (0, 3, 0)) := by
    rw [hl, hx]; exact C05h.search_hit_beyond_last_char.1
  obtain ⟨re, hm, _⟩ := findWith_spec truncated_char_match_rest
  have h2 : search (lines sTrunc) [120, 42, 36] (sTrunc.ed.xic != 0) 1 0 3 = none := by
    rw [hl, hx]
    exact Lemmas.C05f.search_beyond_line_traps _ _ false 0 3 [97, 226, 10] re hm (by decide) (by decide)
  rw [Lemmas.C13.rep_eq_count _ _ _ _ _ _ _ _ _ (by decide), show ((2 : Int) - 0).toNat = 1 + 1 from rfl,
    Lemmas.C13.countSearch_succ, Lemmas.C13.searchStep_def, h1]
  dsimp only
  rw [Lemmas.C13.countSearch_succ, Lemmas.C13.searchStep_def, if_neg (by decide), h2]

end Neatvi.Props.C05i
