import NeatviVerif.Lemmas.C05jF
/-!
# C05j: the `:` commands keep the line/register invariant of the vi loop (`KeepsSOk` of C05i), handler by handler

`Props/C05i.lean` leaves `KeepsSOk line state` as a hypothesis: the ex command entered from vi keeps `SOk` — every line
of the current buffer ends in its newline, holds no other newline and no NUL; the undo history is consistent and
NUL-free; no register holds a NUL.  This module proves it for the line commands, lifts it to `|`-lists, `ex_command`
and `exCommandV`, and discharges the `:`-clause of `ColonOk`.

**Proved** (`EOk ed c` is `SOk` stated on the ex state):
* unconditionally, from any state with the invariant: `:p`, the empty command, `:d`, `:y`, `:pu` (also from the
  computed registers), `:=`, `:k`, `:se`, `:ec`, every name the model does not run (`keepsSOk_of_tail_handler`);
* `:s` with a NUL-free argument, when the remembered replacement `xrep` is NUL-free (`substitute_keeps`; what is
  written for a line is made of bytes of the line and of the replacement: `substLine_has_no_nul`; a newline in the
  replacement splits the line — `lbuf_edit` cuts the text at its newlines, so the shape is kept);
* `:u`, `:redo` at a command boundary (`keepsSOk_of_handler`);
* `:a :i :c` with a NUL-free text block and `:rs` (`insert_keeps`, `rs_keeps`);
* `|`-lists whose first command is one of the above (not `a i c rs`) and whose other commands are of the first group
  (`keepsSOk_of_line`, the decidable class `sokLine`), through `ex_command` (which closes the undo step) and
  `exCommandV`; hence `ColonOk`'s first clause (`colonOk_of_covered_lines`).

**Second part** (sections 2–4): `xrep` is written by `:s` only among the covered handlers (`xrep_frame`), so the list
induction carries `NoNul xrep` and `:s` may follow a `|` (`sokLine'`); a covered `:` line entered from vi keeps
`SOk … True` and `NoNul xrep` (`colon_keeps_invariants`) and, for C05e's class from an `EdSafe` state, `EdSafe` and
`NoNul xkwd` (`colon_keeps_safe_kwd`); the line invariant holds at the state the `:` prompt returns in
(`sok_at_colon_prompt`); the run theorem `vi_run_no_trap'_partial` with `StepHyp'` in place of `StepHyp`.

**Not proved here**: `:w :q :e :b :r file` (they need, besides, that every buffer of the table — not only the
current one — has the history invariant and that buffer paths are NUL-free: neither is part of `SOk`), hence the `x`
of `ZZ`; `:g` over command lists; `:u` / `:redo` after a `|` (the list induction does not carry "no command in
progress"); **layer (b)**: that the vi commands other than `:` keep `EdSafe` (and `NoNul xrep`, `atDepth = 0`) — no
vi model file mentions `xrep` or `atDepth`, and `bufs` / `xkwd` are written at eight places only (`edEdit`, `markSet`,
`lbufModified`, `u`/`^R`, the two `kwdSet` of `/ ?` and `^A`, the two `exCommandV`); it is a statement of the form
`ViPres.Pres P viStep` (the walk of every monadic function of `Model/Vi.lean` / `Model/ViCmd.lean` for a predicate given by
its leaves is `Lemmas/ViPres.lean`, `Lemmas/ViPresCmd.lean`), and no instance for `EdSafe` is proved; therefore `EdSafe` and
`NoNul xrep` of the state a `:` line is entered in stay hypotheses of `StepHyp'`, and `vi_run_no_trap'_full` is stated, not
proved.
**Excluded for good**: `:r !cmd` and `:!cmd` on a range — the model hands the oracle's output to `lbuf_edit` as a
byte list, a NUL in it lands in a line (C05h, header; the C code stops at the NUL).  Evaluated: with the oracle entry
`("x", [], "b NUL c ⏎")`, `ex_command("r !x")` on the empty buffer leaves line 0 = `[98, 0, 99, 10]`; likewise `1!x`.

Byte strings are lists of character codes.
-/
set_option linter.unusedVariables false
namespace Neatvi.Props.C05j
open Neatvi Neatvi.Uc Neatvi.Lbuf Neatvi.Ex Neatvi.Mot Neatvi.Vi Neatvi.Rset
open Neatvi.Lemmas.C05f Neatvi.Lemmas.C05h Neatvi.Lemmas.C05j

export Neatvi.Lemmas.C05j (EOk tailHandler headHandler sokLine sokTail XOk sokLine' sokTail' StepHyp')
open Neatvi.Props.C05c (iterate)

/-- `EOk` is C05f's `SOk` read on the ex state -/
theorem sok_is_eok (s : VS) (c : Prop) : SOk s c ↔ EOk s.ed c := Iff.rfl

/-- **`:p`, the empty command, `:d :y :pu := :k :se :ec`, names outside the model** keep the invariant from every state
    that has it (a command may be in progress), for every address, name, argument and text -/
theorem keepsSOk_of_tail_handler (k : Nat) {ed ed' : Ed} {c : Prop} (h : EOk ed c) (hd : String)
    (ht : tailHandler hd = true) (loc cmd arg : Bytes) (txt : Option Bytes) (r : Int)
    (hr : runCmd (k + 2) ed hd loc cmd arg txt = some (r, ed')) : EOk ed' False :=
  (keeps_tailHandler k hd ht loc cmd arg txt r hr).1 c h

/-- **`keepsSOk_of_handler`**: besides, `:s` with a NUL-free argument (pattern, replacement, flags) when the remembered
    replacement is NUL-free, and `:u`, `:redo` when no command is in progress -/
theorem keepsSOk_of_handler (k : Nat) {ed ed' : Ed} (h : EOk ed True) (hx : NoNul ed.xrep) (hd : String)
    (ht : headHandler hd = true) (loc cmd arg : Bytes) (harg : NoNul arg) (txt : Option Bytes) (r : Int)
    (hr : runCmd (k + 2) ed hd loc cmd arg txt = some (r, ed')) : EOk ed' False :=
  (keeps_headHandler k h hx hd ht loc cmd arg harg txt r hr).1

/-- the hypotheses are satisfiable: `:s/a/b/` on C05h's witness state -/
example : EOk sLong.ed True ∧ NoNul sLong.ed.xrep ∧ headHandler "ec_substitute" = true ∧ NoNul (strOf "/a/b/") :=
  ⟨sLong_sok, by decide, by decide, by decide +kernel⟩

/-- **`:s`** also hands on that the remembered replacement is NUL-free -/
theorem substitute_keeps (f : Nat) {ed ed' : Ed} {c : Prop} (h : EOk ed c) (hrep : NoNul ed.xrep) (loc cmd arg : Bytes)
    (txt : Option Bytes) (harg : NoNul arg) (r : Int)
    (hr : runCmd (f + 1) ed "ec_substitute" loc cmd arg txt = some (r, ed')) : EOk ed' False ∧ NoNul ed'.xrep :=
  keeps_subst f h hrep loc cmd arg txt harg r hr

/-- **what `:s` writes for one line**: NUL-free when the line and the replacement are (any pattern, with and without `g`) -/
theorem substLine_has_no_nul {re : RStr} {rep : Bytes} {g : Bool} {line nl : Bytes} (hrep : NoNul rep) (hl : NoNul line)
    (h : substLine re rep g line = some (some nl)) : NoNul nl := substLine_noNul hrep hl h

/-- **`:a :i :c`** with a text block without NUL (what is typed has none: `C05f.typed_text_has_no_nul`) -/
theorem insert_keeps (f : Nat) {ed ed' : Ed} {c : Prop} (h : EOk ed c) (loc cmd arg : Bytes) (txt : Option Bytes)
    (ht : NoNulO txt) (r : Int) (hr : runCmd (f + 1) ed "ec_insert" loc cmd arg txt = some (r, ed')) : EOk ed' False :=
  (keeps_insert f loc cmd arg txt r hr).1 ht c h

/-- **`:rs`** (a register set from a text block without NUL) -/
theorem rs_keeps (f : Nat) {ed ed' : Ed} {c : Prop} (h : EOk ed c) (loc cmd arg : Bytes) (txt : Option Bytes)
    (ht : NoNulO txt) (r : Int) (hr : runCmd (f + 1) ed "ec_rs" loc cmd arg txt = some (r, ed')) : EOk ed' c :=
  (keeps_rs f loc cmd arg txt r hr).1 ht c h

/-- **`ex_exec` on a covered `|`-list** (`sokLine`: the first command has a `headHandler` and a NUL-free argument, the
    others a `tailHandler`), every fuel `≥ 3` -/
theorem exExec_keeps (k : Nat) {ed ed' : Ed} (h : EOk ed True) (hx : NoNul ed.xrep) (ln : Bytes) (hl : sokLine ln = true)
    (r : Int) (hr : exExec (k + 3) ed ln = some (r, ed')) : EOk ed' False :=
  (exec_sok' k h hx ln (sokLine_sub hl) r hr).1

/-- **`ex_command`** closes the undo step: the invariant holds again with no command in progress -/
theorem exCommand_keeps (k : Nat) {ed ed' : Ed} (h : EOk ed True) (hx : NoNul ed.xrep) (ln : Bytes) (hl : sokLine ln = true)
    (r : Int) (hr : exCommand (k + 4) ed ln = some (r, ed')) : EOk ed' True :=
  (command_sok' k h hx ln (sokLine_sub hl) r hr).1

/-- **`KeepsSOk` of C05i for the covered lines**: entered from vi in a state with the invariant and a NUL-free
    remembered replacement, the command keeps the invariant -/
theorem keepsSOk_of_line {ln : Bytes} {s : VS} (hs : SOk s True) (hx : NoNul s.ed.xrep) (hl : sokLine ln = true) :
    Props.C05i.KeepsSOk ln s := keepsSOk_of_sokLine' hs hx (sokLine_sub hl)

/-- the class: `:s/a/b/`, `:1d`, `1,2d|p`, `s/a/b/g|2d|pu`, `u` are covered; `1d|u`, `w out`, `r !ls`, `1,2!sort`,
    `g/a/d`, `x` are not -/
example : sokLine (strOf ":s/a/b/") = true ∧ sokLine (strOf ":1d") = true ∧ sokLine (strOf "1,2d|p") = true ∧
    sokLine (strOf "s/a/b/g|2d|pu") = true ∧ sokLine (strOf "u") = true ∧ sokLine (strOf "1d|u") = false ∧
    sokLine (strOf "w out") = false ∧ sokLine (strOf "r !ls") = false ∧ sokLine (strOf "1,2!sort") = false ∧
    sokLine (strOf "g/a/d") = false ∧ sokLine (strOf "x") = false := by
  decide +kernel

/-- instance: `:s/a/b/` and `1,2d|p` entered on C05h's witness state -/
example : Props.C05i.KeepsSOk (strOf ":s/a/b/") sLong ∧ Props.C05i.KeepsSOk (strOf "1,2d|p") sLong :=
  ⟨keepsSOk_of_line sLong_sok (by decide) (by decide +kernel), keepsSOk_of_line sLong_sok (by decide) (by decide +kernel)⟩

/-- **`ExCallOk` without `KeepsSOk`**: a line of both classes, entered in a state with both invariants -/
theorem exCallOk_of_covered {ln : Bytes} {s : VS} (h : EdSafe s) (hs : SOk s True) (hx : NoNul s.ed.xrep)
    (hl : ColonLineOk ln) (hk : sokLine ln = true) : ExCallOk ln s :=
  Props.C05i.exCallOk_of_covered h hl (keepsSOk_of_line hs hx hk)

example : ExCallOk (strOf ":s/a/b/") sLong :=
  exCallOk_of_covered sLong_edSafe sLong_sok (by decide) (Or.inl (by decide +kernel)) (by decide +kernel)

/-- **`ColonOk` from the class of the typed lines**: `KeepsSOk` is not a hypothesis for the `:` lines — every
    line the prompt returns is in both decidable classes and is entered in a state that is `EdSafe`, has the line
    invariant and a NUL-free remembered replacement.  The `x` of `ZZ` (`ec_quit`, not covered here) keeps its clause. -/
theorem colonOk_of_covered_lines {s : VS}
    (hc : ∀ (s0 : VS) (ln : Bytes) (s1 : VS), ColonAt 58 s s0 → viPrompt true s0 = Res.ok (some ln) s1 → ln.isEmpty = false →
      ColonLineOk (if ln.headD 0 != 58 then 58 :: ln else ln) ∧ sokLine (if ln.headD 0 != 58 then 58 :: ln else ln) = true ∧
        EdSafe s1 ∧ SOk s1 True ∧ NoNul s1.ed.xrep)
    (hz : ∀ s0, ColonAt 90 s s0 → EdSafe s0 ∧ Props.C05i.KeepsSOk (strOf "x") s0) : ColonOk s :=
  Props.C05i.colonOk_of_typed_lines (fun s0 ln s1 hat hm he => by
    obtain ⟨a, b, c, d, e⟩ := hc s0 ln s1 hat hm he
    exact ⟨a, c, keepsSOk_of_line d e b⟩) hz

/-! ## 2. the remembered replacement: written by `:s` only -/

/-- **frame**: `:p`, the empty command, `:d :y :pu := :k :se :ec` and the names outside the model do not write `xrep` -/
theorem xrep_frame (k : Nat) {ed ed' : Ed} (hd : String) (ht : tailHandler hd = true)
    (loc cmd arg : Bytes) (txt : Option Bytes) (r : Int)
    (hr : runCmd (k + 2) ed hd loc cmd arg txt = some (r, ed')) : ed'.xrep = ed.xrep :=
  (keeps_tailHandler k hd ht loc cmd arg txt r hr).2

/-- … nor do `:a :i :c`, `:rs`, `:u`, `:redo` -/
theorem xrep_frame_text (f : Nat) {ed ed' : Ed} (loc cmd arg : Bytes) (txt : Option Bytes) (r : Int) :
    (runCmd (f + 1) ed "ec_insert" loc cmd arg txt = some (r, ed') → ed'.xrep = ed.xrep) ∧
    (runCmd (f + 1) ed "ec_rs" loc cmd arg txt = some (r, ed') → ed'.xrep = ed.xrep) ∧
    (runCmd (f + 1) ed "ec_undo" loc cmd arg txt = some (r, ed') → ed'.xrep = ed.xrep) ∧
    (runCmd (f + 1) ed "ec_redo" loc cmd arg txt = some (r, ed') → ed'.xrep = ed.xrep) :=
  ⟨fun hr => (keeps_insert f loc cmd arg txt r hr).2, fun hr => (keeps_rs f loc cmd arg txt r hr).2,
    fun hr => (keeps_undo f loc cmd arg txt r hr).2, fun hr => (keeps_redo f loc cmd arg txt r hr).2⟩

/-- `sokLine'` extends `sokLine`: `:s` with a NUL-free argument may also follow a `|` -/
theorem sokLine_le {ln : Bytes} (h : sokLine ln = true) : sokLine' ln = true := sokLine_sub h

example : sokLine' (strOf "1d|s/a/b/") = true ∧ sokLine (strOf "1d|s/a/b/") = false ∧ sokLine' (strOf "1d|u") = false ∧
    sokLine' (strOf "w out") = false := by
  decide +kernel

/-- **`ex_command` on a line of the larger class**: the invariant again, no command in progress, and the remembered
    replacement NUL-free -/
theorem exCommand_keeps' (k : Nat) {ed ed' : Ed} (h : EOk ed True) (hx : NoNul ed.xrep) (ln : Bytes)
    (hl : sokLine' ln = true) (r : Int) (hr : exCommand (k + 4) ed ln = some (r, ed')) : XOk ed' True :=
  command_sok' k h hx ln hl r hr

/-! ## 3. `NoNul xrep`, `NoNul xkwd` and `EdSafe` across a covered `:` line -/

/-- **a covered `:` line entered from vi** keeps the line invariant (no command in progress afterwards) and the
    NUL-freeness of the remembered replacement -/
theorem colon_keeps_invariants {ln : Bytes} {s s' : VS} {rc : Int} (hs : SOk s True) (hx : NoNul s.ed.xrep)
    (hl : sokLine' ln = true) (hm : exCommandV ln s = Res.ok rc s') : SOk s' True ∧ NoNul s'.ed.xrep :=
  colon_keeps_xok hs hx hl hm

/-- … and, for a line of C05e's class entered in an `EdSafe` state: `EdSafe` again, the remembered pattern a C string -/
theorem colon_keeps_safe_kwd {ln : Bytes} {s s' : VS} {rc : Int} (h : EdSafe s) (hl : ColonLineOk ln)
    (hm : exCommandV ln s = Res.ok rc s') : EdSafe s' ∧ NoNul s'.ed.xkwd := by
  obtain ⟨rc1, s1, he, h1⟩ := exCommandV_safe ln s h hl
  rw [he] at hm
  cases hm
  exact ⟨h1, h1.1.kwd⟩

example : ∃ rc s', exCommandV (strOf "1d|s/a/b/") sLong = Res.ok rc s' ∧ EdSafe s' ∧ NoNul s'.ed.xkwd ∧ SOk s' True ∧
    NoNul s'.ed.xrep := by
  obtain ⟨rc, s', he, _⟩ := Props.C05h.colon_keeps_safe (strOf "1d|s/a/b/") sLong sLong_edSafe (Or.inl (by decide +kernel))
  obtain ⟨a, b⟩ := colon_keeps_safe_kwd sLong_edSafe (Or.inl (by decide +kernel)) he
  obtain ⟨c, d⟩ := colon_keeps_invariants sLong_sok (by decide) (by decide +kernel) he
  exact ⟨rc, s', he, a, b, c, d⟩

/-- the line invariant holds in the state the `:` prompt returns in (the caret mark and the prompt change neither the
    lines nor the registers): `SOk` at the `:` call is no hypothesis -/
theorem sok_at_colon_prompt {s s0 s1 : VS} {r : Option Bytes} (hs : SOk s True) (hat : ColonAt 58 s s0)
    (hp : viPrompt true s0 = Res.ok r s1) : SOk s1 True := sok_at_colon hs hat hp

/-! ## 4. the run -/

/-- C05f's `StepHyp` from `StepHyp'` (the `:`-clause: every line typed is `ColonLineOk ∧ sokLine'`, entered in an `EdSafe`
    state with a NUL-free remembered replacement) and the invariant -/
theorem stepHyp_of_reduced {s : VS} (hv : ViOk s) (h : StepHyp' s) : StepHyp s := stepHyp_of hv h

/-- the full target: as the partial theorem below, with `EdSafe s1 ∧ NoNul s1.ed.xrep` removed from the
    `typed` clause of `StepHyp'` and the `zz` clause removed.  **Stated, not proved**: it needs layer (b) (the vi commands
    keep `EdSafe`, `atDepth = 0`, `NoNul xrep`) and `KeepsSOk` for `ec_quit`. -/
def vi_run_no_trap'_full : Prop :=
  ∀ (ed0 : Ed) (files : List Bytes), ed0.bufs = List.replicate Gen.NBUFS none → 0 ∉ ed0.xkwd → ed0.atDepth = 0 →
    NoNul ed0.xrep → Lemmas.C05e.NameOk files → ∀ (keys : Bytes) (rows cols : Int),
    ∃ rc ed1, exInit ed0 files = some (rc, ed1) ∧
      (ViOk (viInit ed1 keys rows cols) → ∀ (n : Nat) (s : VS),
        (∀ k t, k ≤ n → iterate k (viInit ed1 keys rows cols) = some t →
          t.ed.xquit = false ∧ MarksIn t ∧ MarksIn (markCaret t) ∧ SearchOk t ∧
          ∀ (s0 : VS) (ln : Bytes) (s1 : VS), ColonAt 58 t s0 → viPrompt true s0 = Res.ok (some ln) s1 → ln.isEmpty = false →
            ColonLineOk (if ln.headD 0 != 58 then 58 :: ln else ln) ∧
              sokLine' (if ln.headD 0 != 58 then 58 :: ln else ln) = true) →
        iterate n (viInit ed1 keys rows cols) = some s → ViOk s ∧ viStep s ≠ Res.trap)

/-- **`vi_run_no_trap'_partial`**: for every file name C05e covers, every file system content, window size and key
    stream: `ex_init` returns, the state `vi` starts from is `EdSafe`, and — if it has C05f's invariant `ViOk` and
    `StepHyp'` holds at every boundary of the run — no iteration traps and the invariant holds at every boundary.
    With respect to `C05i.vi_run_no_trap`, `KeepsSOk` and `SOk` of the `:` call state are gone; missing with respect to
    `vi_run_no_trap'_full`: `EdSafe` and `NoNul xrep` of the `:` call state (layer (b)) and the `ZZ` clause. -/
theorem vi_run_no_trap'_partial (ed0 : Ed) (files : List Bytes) (h0 : ed0.bufs = List.replicate Gen.NBUFS none)
    (hk : 0 ∉ ed0.xkwd) (hd : ed0.atDepth = 0) (hn : Lemmas.C05e.NameOk files) (keys : Bytes) (rows cols : Int) :
    ∃ rc ed1, exInit ed0 files = some (rc, ed1) ∧ EdSafe (viInit ed1 keys rows cols) ∧
      (ViOk (viInit ed1 keys rows cols) → ∀ (n : Nat) (s : VS),
        (∀ k t, k ≤ n → iterate k (viInit ed1 keys rows cols) = some t → StepHyp' t) →
        iterate n (viInit ed1 keys rows cols) = some s → ViOk s ∧ viStep s ≠ Res.trap) := by
  obtain ⟨rc, ed1, hi, hs⟩ := Props.C05h.initial_state_safe ed0 files h0 hk hd hn keys rows cols
  exact ⟨rc, ed1, hi, hs, fun hv n s hh h => run_ok' n _ hv hh s h⟩

/-- the run theorem from any start state -/
theorem run_no_trap' (n : Nat) (s₀ s : VS) (h0 : ViOk s₀) (hh : ∀ k t, k ≤ n → iterate k s₀ = some t → StepHyp' t)
    (h : iterate n s₀ = some s) : ViOk s ∧ viStep s ≠ Res.trap := run_ok' n s₀ h0 hh s h

/-- the hypotheses are satisfiable: the example state of C08b (lines `hello w`, `b`) with any keys without
    `/ ? n N ^A : Z` has `ViOk` and `StepHyp'`; so its first command does not trap -/
example (keys : Bytes) (h : ∀ k ∈ specialKeys, k ∉ keys) :
    ViOk (Props.C08b.exSt keys 0 0) ∧ StepHyp' (Props.C08b.exSt keys 0 0) ∧ viStep (Props.C08b.exSt keys 0 0) ≠ Res.trap :=
  ⟨exSt_viOk keys, exSt_stepHyp' keys h,
    (run_no_trap' 0 _ _ (exSt_viOk keys) (fun k t hk ht => by
      have : k = 0 := by omega
      subst this
      unfold iterate at ht
      cases ht
      exact exSt_stepHyp' keys h) rfl).2⟩

/-- the `typed` clause of `StepHyp'` is satisfiable on a state where a `:` line is entered: C05h's witness state is
    `EdSafe`, has the line invariant and a NUL-free remembered replacement, and `:1d|s/a/b/` is in both classes -/
example : ColonLineOk (strOf ":1d|s/a/b/") ∧ sokLine' (strOf ":1d|s/a/b/") = true ∧ EdSafe sLong ∧ NoNul sLong.ed.xrep :=
  ⟨Or.inl (by decide +kernel), by decide +kernel, sLong_edSafe, by decide⟩

end Neatvi.Props.C05j
