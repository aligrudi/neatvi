import NeatviVerif.Lemmas.C06bRead
import NeatviVerif.Lemmas.C06bLine
import NeatviVerif.Lemmas.C06bProgress
import NeatviVerif.Props.C06
import NeatviVerif.Props.C04
/-!
# C06b: ex line commands, continued: `:r`, the bare address, `:u` / `:redo`, command lines `c1|c2`, scripts

Everything is stated on the model (`Model/Ex.lean`, `Model/ExCmd.lean`), for all states and inputs; vocabulary of
`Props/C06.lean` (`lines ed`, `AddrOnly`, `optLines`).

1. `ec_read_spec` (+ `ec_read_ok`, `ec_read_file`, `ec_read_after_current`, `ec_read_addr0`, `ec_read_nofile`,
   `ec_read_invalid_region`, `ec_read_nopath`): `:r file` and `:r !cmd`.
2. `ec_null_spec`, `ec_null_enter`, `ec_null_vi_spec` (bare address); `ec_undo_spec`, `ec_redo_spec`;
   `ec_undo_zipper`, `ec_redo_zipper`, `ex_undo_is_step`, `ex_redo_is_step` (link with C04).
3. `exExec_stops_never`, `exExec_unfold`, `exExec_seq` (every line: first command, then the rest, whatever the
   return code); `exExec_line`, `exExec_two`, `exExec_two_dispatch` (lines of simple commands joined by `|`).
4. `cmd_splice`, `script_frame` (parsed commands), `script_frame_lines` (one command per line through
   `ex_command`), `script_frame_bar` (lines `c1|c2|…`), `splice_frame`.
-/
set_option linter.unusedSimpArgs false

namespace Neatvi.Props.C06b
open Neatvi Neatvi.Lbuf Neatvi.LbufIo Neatvi.Ex Neatvi.Lemmas.C06 Neatvi.Lemmas.C06b
open Neatvi.Lemmas.Hist (optLines)

/-- the file name `:r` uses: the expanded argument (`%`, `#`, `=`, backslash pairs; spaces allowed), or, without
    an argument, the path of the current buffer (`none` = `NULL`: `%` or `#` not set, or no buffer) -/
def readPath (ed : Ed) (arg : Bytes) : R (Option Bytes) :=
  if !arg.isEmpty then pathExpand ed arg true else some (ed.cur.map (·.path), ed)

/-- the message `"path"  [=n]  [r]` -/
def readMsg (path : Bytes) (n : Int) : Bytes := [34] ++ path ++ strOf "\"  [=" ++ intStr n ++ strOf "]  [r]"

theorem runCmd_ec_read (f : Nat) (ed : Ed) (loc cmd arg : Bytes) (txt : Option Bytes) :
    runCmd (f + 1) ed "ec_read" loc cmd arg txt =
    match readPath ed arg with
    | none => none
    | some (path, ed0) =>
      match exRegion ed0 loc with
      | none => none
      | some ((rc, _, e), ed1) =>
        if rc != 0 || path.isNone then some (1, ed1) else
        let path := path.getD []
        let pos := if ed1.len != 0 then e else 0
        if path.headD 0 == 33 then
          if path.length < 2 then some (1, ed1) else
          match ed1.pipe (path.drop 1) [] with
          | none => some (0, { ed1 with unmodelled := true })
          | some obuf =>
            match (match obuf with | some o => ed1.edit (some o) pos pos | none => some ed1) with
            | none => none
            | some ed2 =>
              some (0, ({ ed2 with xrow := e + ed2.len - ed.len - 1 }).show (readMsg path (ed2.len - ed.len)))
        else
          match ed1.findFile path with
          | none => some (1, ed1.show (strOf "read failed"))
          | some fl =>
            match ed1.lb.bind (fun lb => rd lb [fl.data] false pos.toNat pos.toNat) with
            | none => none
            | some (_, lb) =>
              some (0, ({ ed1.setLb lb with xrow := e + (ed1.setLb lb).len - ed.len - 1 }).show
                (readMsg path ((ed1.setLb lb).len - ed.len))) := by
  rw [Lemmas.C20.runCmd_eq]
  simp only [String.reduceBEq, Bool.false_eq_true, ↓reduceIte, Bool.or_self]
  rfl

/-- everything but the buffer table, the current row, the search keyword and the message line is the same
    (in particular the files, the registers, the printed output, the pending input) -/
def Touched (ed ed' : Ed) : Prop :=
  ed' = { ed with bufs := ed'.bufs, xrow := ed'.xrow, xkwd := ed'.xkwd, xkwddir := ed'.xkwddir, msg := ed'.msg }

theorem Touched.files {ed ed' : Ed} (h : Touched ed ed') : ed'.files = ed.files := by rw [h]
theorem Touched.regs {ed ed' : Ed} (h : Touched ed ed') : ed'.regs = ed.regs := by rw [h]
theorem Touched.out {ed ed' : Ed} (h : Touched ed ed') : ed'.out = ed.out := by rw [h]
theorem Touched.input {ed ed' : Ed} (h : Touched ed ed') : ed'.input = ed.input := by rw [h]

theorem readPath_some {ed ed0 : Ed} {arg path : Bytes} (h : readPath ed arg = some (some path, ed0)) : ed0 = ed := by
  unfold readPath at h
  split at h
  · exact (pathExpand_cases h).1 rfl
  · simp only [Option.some.injEq, Prod.mk.injEq] at h
    exact h.2.symm

theorem readPath_quiet {ed ed0 : Ed} {arg : Bytes} {p : Option Bytes} (h : readPath ed arg = some (p, ed0)) :
    Quiet ed ed0 := by
  unfold readPath at h
  split at h
  · exact pathExpand_quiet h
  · cases h; exact Quiet.refl _

theorem insert_at {ed0 ed1 ed2 : Ed} {s : Bytes} {e : Int} (hq : Quiet ed0 ed1) (he0 : 0 ≤ e) (he : e ≤ ed1.len)
    (hed : ed1.edit (some s) e e = some ed2) :
    lines ed2 = (lines ed0).take e.toNat ++ splitLines s ++ (lines ed0).drop e.toNat ∧
    ed2.len = ed0.len + (splitLines s).length ∧ ed2 = { ed1 with bufs := ed2.bufs } ∧ OnlyLb ed0 ed2 := by
  have hfr := ed_edit_frame _ _ _ _ _ he0 (Int.le_refl e) he hed
  rw [hq.lines, hq.len] at hfr
  obtain ⟨bb, lb', k1, k2⟩ := edit_onlyLb hed
  refine ⟨hfr.1, by rw [hfr.2]; simp only [optLines]; omega, edit_fields _ _ _ _ _ hed, bb, lb', ?_, ?_⟩
  · rw [← k1]; unfold Ed.cur; rw [hq.bufs]
  · rw [k2, hq.bufs]

/-- where `ec_read` inserts: at `end`, which is 0 anyway on an empty buffer -/
theorem read_pos {len e : Int} (h0 : 0 ≤ e) (h : e ≤ len) : (if (len != 0) = true then e else 0) = e := by
  by_cases hz : len = 0
  · simp [hz]; omega
  · simp [hz]

/-- the end of `ec_read`, `n` lines having been inserted: the current row goes to the last of them, the message
    tells their number -/
theorem read_done {ed0 ed1 ed2 ed' : Ed} {n : Nat} (ha : AddrOnly ed0 ed1) (h2 : ed2 = { ed1 with bufs := ed2.bufs })
    (hn : ed2.len = ed0.len + n) (p : Bytes) (e : Int)
    (hd : ed' = ({ ed2 with xrow := e + ed2.len - ed0.len - 1 } : Ed).show (readMsg p (ed2.len - ed0.len))) :
    ed'.xrow = e + n - 1 ∧ ed'.msg = ed0.msg ++ readMsg p n ++ [10] ∧ Touched ed0 ed' := by
  subst hd
  have hx : ed2.len - ed0.len = n := by omega
  refine ⟨by show e + ed2.len - ed0.len - 1 = _; omega, ?_, ?_⟩
  · show ed2.msg ++ _ ++ [10] = _
    rw [hx, h2]
    obtain ⟨_, _, _, rfl⟩ := ha
    rfl
  · unfold Touched
    rw [h2]
    obtain ⟨_, _, _, rfl⟩ := ha
    rfl

/-- **`:r`.**  `ec_read` first expands the file name, then evaluates the address; the text goes after line
    `end - 1` of the resolved region (so: no address → after the current line; `N` → after line `N`; `0` →
    before the first line).

    * return 0, plain file: the file exists in `ed.files`, the buffer receives the lines of its content up to
      the first NUL byte (`cstr`; all of it for a NUL-free file) at `end`, nothing else in the buffer table
      changes (`OnlyLb`), files / registers / output are untouched (`Touched`), the current row is the last line
      read (`end + k - 1`; for an empty file this is `end - 1`, which is `-1` for `:0r`), and the message
      `"path"  [=k]  [r]` is shown;
    * return 0, `:r !cmd` (the expanded name starts with `!` and has at least two bytes): the model asks the pipe
      oracle `ed.pipe cmd ""`; no oracle entry → only the flag `unmodelled` is raised; entry `NULL` → no text;
      entry `o` → the lines of `o` are inserted at `end` exactly as for a file;
    * return 1: the text is unchanged and only the address side effects / the message line differ (`Quiet`). -/
theorem ec_read_spec (f : Nat) (ed ed' : Ed) (loc cmd arg : Bytes) (txt : Option Bytes) (rc : Int)
    (h : runCmd (f + 1) ed "ec_read" loc cmd arg txt = some (rc, ed')) :
    (rc = 0 ∨ rc = 1) ∧
    (rc = 0 → ∃ path b e ed1, readPath ed arg = some (some path, ed) ∧ exRegion ed loc = some ((0, b, e), ed1) ∧
      0 ≤ e ∧ e ≤ ed.len ∧
      (path.headD 0 ≠ 33 → ∃ fl, ed.findFile path = some fl ∧
        lines ed' = (lines ed).take e.toNat ++ splitLines (cstr fl.data) ++ (lines ed).drop e.toNat ∧
        ed'.xrow = e + (splitLines (cstr fl.data)).length - 1 ∧
        ed'.msg = ed.msg ++ readMsg path (splitLines (cstr fl.data)).length ++ [10] ∧
        OnlyLb ed ed' ∧ Touched ed ed') ∧
      (path.headD 0 = 33 → 2 ≤ path.length ∧
        (ed.pipe (path.drop 1) [] = none → ed' = { ed1 with unmodelled := true }) ∧
        (∀ o, ed.pipe (path.drop 1) [] = some o →
          lines ed' = (lines ed).take e.toNat ++ optLines o ++ (lines ed).drop e.toNat ∧
          ed'.xrow = e + (optLines o).length - 1 ∧
          ed'.msg = ed.msg ++ readMsg path (optLines o).length ++ [10] ∧
          (o = none → ed'.bufs = ed.bufs) ∧ (o.isSome → OnlyLb ed ed') ∧ Touched ed ed'))) ∧
    (rc = 1 → lines ed' = lines ed ∧ Quiet ed ed') := by
  rw [runCmd_ec_read] at h
  split at h
  · cases h
  · rename_i path ed0 hpr'
    have hq0 := readPath_quiet hpr'
    replace h := region_strict_or h
    rcases h with ⟨rfl, ha, _⟩ | ⟨b, e, ed1, hreg, ha, v1, v2, v3, hc2, h⟩
    · have hq1 := hq0.trans (Quiet.of_addrOnly ha)
      exact ⟨Or.inr rfl, fun h => by omega, fun _ => ⟨hq1.lines, hq1⟩⟩
    have hq1 : Quiet ed ed1 := hq0.trans (Quiet.of_addrOnly ha)
    obtain ⟨p, rfl⟩ : ∃ p, path = some p := by cases path with | none => cases hc2 | some p => exact ⟨p, rfl⟩
    have h0 := readPath_some hpr'
    subst h0
    have hlen1 : ed1.len = ed0.len := ha.len
    have he0 : 0 ≤ e := by omega
    simp only [Option.getD_some, read_pos he0 v3] at h
    replace h := ite_eq_cases h
    rcases h with ⟨hbang, h⟩ | ⟨hbang, h⟩
    · -- `:r !cmd`
      simp only [beq_iff_eq] at hbang
      replace h := ite_eq_cases h
      rcases h with ⟨_, h⟩ | ⟨hlen, h⟩
      · cases h
        exact ⟨Or.inr rfl, fun h => by omega, fun _ => ⟨hq1.lines, hq1⟩⟩
      · have hlen2 : 2 ≤ p.length := by omega
        have hpipe1 : ed1.pipe (p.drop 1) [] = ed0.pipe (p.drop 1) [] := by
          unfold Ed.pipe; rw [hq1.pipes]
        split at h
        · rename_i hp
          cases h
          refine ⟨Or.inl rfl, fun _ => ⟨p, b, e, ed1, hpr', hreg, he0, by rw [← hlen1]; exact v3,
            fun hne => absurd hbang hne, fun _ => ⟨hlen2, fun _ => rfl, fun o ho => ?_⟩⟩, fun h => by omega⟩
          rw [← hpipe1, hp] at ho; cases ho
        · rename_i obuf hp
          split at h
          · cases h
          · rename_i ed2 hed2
            cases h
            refine ⟨Or.inl rfl, fun _ => ⟨p, b, e, ed1, hpr', hreg, he0, by rw [← hlen1]; exact v3,
              fun hne => absurd hbang hne, fun _ => ⟨hlen2, fun hn => ?_, fun o ho => ?_⟩⟩, fun h => by omega⟩
            · rw [← hpipe1, hp] at hn; cases hn
            · rw [← hpipe1, hp] at ho
              cases ho
              have key : lines ed2 = (lines ed0).take e.toNat ++ optLines obuf ++ (lines ed0).drop e.toNat ∧
                  ed2.len = ed0.len + (optLines obuf).length ∧ ed2 = { ed1 with bufs := ed2.bufs } ∧
                  (obuf = none → ed2.bufs = ed0.bufs) ∧ (obuf.isSome → OnlyLb ed0 ed2) := by
                cases obuf with
                | none =>
                  simp only [Option.some.injEq] at hed2
                  subst hed2
                  refine ⟨?_, by simp [optLines, hlen1], rfl, fun _ => hq1.bufs, fun h => by cases h⟩
                  simp [optLines, hq1.lines]
                | some o =>
                  obtain ⟨m1, m2, m3, m4⟩ := insert_at hq1 he0 v3 hed2
                  exact ⟨m1, m2, m3, fun h => (by cases h), fun _ => m4⟩
              obtain ⟨k1, k2, k3, k4, k5⟩ := key
              obtain ⟨r1, r2, r3⟩ := read_done ha k3 k2 p e rfl
              exact ⟨k1, r1, r2, k4, k5, r3⟩
    · -- a plain file
      simp only [beq_iff_eq] at hbang
      have hfind : ed1.findFile p = ed0.findFile p := by unfold Ed.findFile; rw [hq1.files]
      split at h
      · cases h
        exact ⟨Or.inr rfl, fun h => by omega,
          fun _ => ⟨(Quiet.show _ _).lines.trans hq1.lines, hq1.trans (Quiet.show _ _)⟩⟩
      · rename_i fl hfl
        split at h
        · cases h
        · rename_i r lb' hrd
          obtain ⟨_, hed2⟩ := read_step ed1 fl.data e he0 r lb' hrd
          cases h
          obtain ⟨m1, m2, k3, m4⟩ := insert_at hq1 he0 v3 hed2
          obtain ⟨r1, r2, r3⟩ := read_done ha k3 m2 p e rfl
          exact ⟨Or.inl rfl, fun _ => ⟨p, b, e, ed1, hpr', hreg, he0, by rw [← hlen1]; exact v3,
            fun _ => ⟨fl, by rw [← hfind]; exact hfl, m1, r1, r2, m4, r3⟩, fun he => absurd he hbang⟩,
            fun h => by omega⟩

/-- `:r` never traps on an existing file: with a current buffer, a file name, a valid address and the file
    present, the command returns 0 (and `ec_read_spec` says what the state is) -/
theorem ec_read_ok (f : Nat) (ed ed1 : Ed) (loc cmd arg path : Bytes) (txt : Option Bytes) (b e : Int) (fl : File) (lb : Lb)
    (hp : readPath ed arg = some (some path, ed)) (hreg : exRegion ed loc = some ((0, b, e), ed1))
    (hbang : path.headD 0 ≠ 33) (hfl : ed.findFile path = some fl) (hlb : ed.lb = some lb) :
    ∃ ed', runCmd (f + 1) ed "ec_read" loc cmd arg txt = some (0, ed') := by
  obtain ⟨ha, _, hv, _⟩ := region_all _ _ _ _ _ _ hreg
  obtain ⟨v1, v2, v3, _⟩ := hv rfl
  have hpos := read_pos (Int.le_trans v1 v2) v3
  have hfind : ed1.findFile path = some fl := by
    rw [← hfl]; obtain ⟨_, _, _, rfl⟩ := ha; rfl
  obtain ⟨lb', hrd⟩ := read_step_total ed1 lb fl.data e (by rw [ha.lb]; exact hlb)
  rw [runCmd_ec_read, hp]
  simp only [hreg]
  simp only [bne_self_eq_false, Option.isNone_some, Bool.or_self, Bool.false_eq_true, ↓reduceIte, Option.getD_some,
    hpos, hfind, hrd]
  have hb2 : (path.headD 0 == 33) = false := by simpa using hbang
  simp only [hb2, Bool.false_eq_true, ↓reduceIte]
  exact ⟨_, rfl⟩

theorem ec_read_file (f : Nat) (ed ed1 : Ed) (loc cmd arg path : Bytes) (txt : Option Bytes) (b e : Int) (fl : File) (lb : Lb)
    (hp : readPath ed arg = some (some path, ed)) (hreg : exRegion ed loc = some ((0, b, e), ed1))
    (hbang : path.headD 0 ≠ 33) (hfl : ed.findFile path = some fl) (hlb : ed.lb = some lb) (hnul : 0 ∉ fl.data) :
    ∃ ed', runCmd (f + 1) ed "ec_read" loc cmd arg txt = some (0, ed') ∧
      lines ed' = (lines ed).take e.toNat ++ splitLines fl.data ++ (lines ed).drop e.toNat ∧
      ed'.xrow = e + (splitLines fl.data).length - 1 ∧ OnlyLb ed ed' ∧ Touched ed ed' := by
  obtain ⟨ed', hrun⟩ := ec_read_ok f ed ed1 loc cmd arg path txt b e fl lb hp hreg hbang hfl hlb
  obtain ⟨p', b', e', ed1', h1, h2, _, _, h5, _⟩ := (ec_read_spec f ed ed' loc cmd arg txt 0 hrun).2.1 rfl
  rw [hp] at h1
  rw [hreg] at h2
  simp only [Option.some.injEq, Prod.mk.injEq] at h1 h2
  obtain ⟨⟨_, rfl, rfl⟩, rfl⟩ := h2
  obtain ⟨rfl, _⟩ := h1
  obtain ⟨fl', k1, k2, k3, _, k5, k6⟩ := h5 hbang
  rw [hfl] at k1
  cases k1
  rw [cstr_nulfree _ hnul] at k2 k3
  exact ⟨ed', hrun, k2, k3, k5, k6⟩

theorem region_noaddr (ed : Ed) (h0 : 0 ≤ ed.xrow) (h1 : ed.xrow < ed.len) :
    exRegion ed [] = some ((0, ed.xrow, ed.xrow + 1), ed) := by
  have hb : max 0 (min ed.xrow ed.len) = ed.xrow := by omega
  rw [exRegion_nil, hb, if_neg (by simp; omega)]

/-- `:r file` without an address: the lines of the file go right after the current line -/
theorem ec_read_after_current (f : Nat) (ed : Ed) (cmd arg path : Bytes) (txt : Option Bytes) (fl : File) (lb : Lb)
    (hp : readPath ed arg = some (some path, ed)) (h0 : 0 ≤ ed.xrow) (h1 : ed.xrow < ed.len)
    (hbang : path.headD 0 ≠ 33) (hfl : ed.findFile path = some fl) (hlb : ed.lb = some lb) (hnul : 0 ∉ fl.data) :
    ∃ ed', runCmd (f + 1) ed "ec_read" [] cmd arg txt = some (0, ed') ∧
      lines ed' = (lines ed).take (ed.xrow + 1).toNat ++ splitLines fl.data ++ (lines ed).drop (ed.xrow + 1).toNat ∧
      ed'.xrow = ed.xrow + (splitLines fl.data).length := by
  obtain ⟨ed', k1, k2, k3, _⟩ := ec_read_file f ed ed [] cmd arg path txt _ _ fl lb hp (region_noaddr ed h0 h1) hbang hfl hlb hnul
  exact ⟨ed', k1, k2, by rw [k3]; omega⟩

/-- `:0r file` on a non-empty buffer: the lines of the file go before the first line -/
theorem ec_read_addr0 (f : Nat) (ed : Ed) (cmd arg path : Bytes) (txt : Option Bytes) (fl : File) (lb : Lb)
    (hp : readPath ed arg = some (some path, ed)) (hne : 0 < ed.len)
    (hbang : path.headD 0 ≠ 33) (hfl : ed.findFile path = some fl) (hlb : ed.lb = some lb) (hnul : 0 ∉ fl.data) :
    ∃ ed', runCmd (f + 1) ed "ec_read" [48] cmd arg txt = some (0, ed') ∧
      lines ed' = splitLines fl.data ++ lines ed ∧ ed'.xrow = ((splitLines fl.data).length : Int) - 1 := by
  have hr := C06.region_zero ed
  rw [if_neg (by omega)] at hr
  obtain ⟨ed', k1, k2, k3, _⟩ := ec_read_file f ed ed [48] cmd arg path txt _ _ fl lb hp hr hbang hfl hlb hnul
  exact ⟨ed', k1, by simpa using k2, by rw [k3]; omega⟩

/-- no such file: return 1, the message `read failed`, nothing else -/
theorem ec_read_nofile (f : Nat) (ed ed1 : Ed) (loc cmd arg path : Bytes) (txt : Option Bytes) (b e : Int)
    (hp : readPath ed arg = some (some path, ed)) (hreg : exRegion ed loc = some ((0, b, e), ed1))
    (hbang : path.headD 0 ≠ 33) (hfl : ed.findFile path = none) :
    runCmd (f + 1) ed "ec_read" loc cmd arg txt = some (1, ed1.show (strOf "read failed")) ∧
      lines (ed1.show (strOf "read failed")) = lines ed := by
  obtain ⟨ha, _, _, _⟩ := region_all _ _ _ _ _ _ hreg
  have hfind : ed1.findFile path = none := by
    rw [← hfl]; obtain ⟨_, _, _, rfl⟩ := ha; rfl
  refine ⟨?_, ha.lines⟩
  rw [runCmd_ec_read, hp]
  simp only [hreg]
  have hb2 : (path.headD 0 == 33) = false := by simpa using hbang
  simp only [bne_self_eq_false, Option.isNone_some, Bool.or_self, Bool.false_eq_true, ↓reduceIte, Option.getD_some,
    hfind, hb2]

/-- an address that does not resolve: return 1, text unchanged -/
theorem ec_read_invalid_region (f : Nat) (ed ed0 ed1 : Ed) (loc cmd arg : Bytes) (txt : Option Bytes) (p : Option Bytes)
    (b e : Int) (hp : readPath ed arg = some (p, ed0)) (hreg : exRegion ed0 loc = some ((1, b, e), ed1)) :
    runCmd (f + 1) ed "ec_read" loc cmd arg txt = some (1, ed1) ∧ lines ed1 = lines ed := by
  have hq := (readPath_quiet hp).trans (Quiet.of_addrOnly (region_all _ _ _ _ _ _ hreg).1)
  refine ⟨?_, hq.lines⟩
  rw [runCmd_ec_read, hp]
  simp only [hreg]
  simp

/-- no file name (`%` / `#` not set, or no argument and no buffer): return 1, text unchanged -/
theorem ec_read_nopath (f : Nat) (ed ed0 ed1 : Ed) (loc cmd arg : Bytes) (txt : Option Bytes) (rc0 : Nat)
    (b e : Int) (hp : readPath ed arg = some (none, ed0)) (hreg : exRegion ed0 loc = some ((rc0, b, e), ed1)) :
    runCmd (f + 1) ed "ec_read" loc cmd arg txt = some (1, ed1) ∧ lines ed1 = lines ed := by
  have hq := (readPath_quiet hp).trans (Quiet.of_addrOnly (region_all _ _ _ _ _ _ hreg).1)
  refine ⟨?_, hq.lines⟩
  rw [runCmd_ec_read, hp]
  simp only [hreg]
  simp

/-- the state in which `ec_null` (ex mode) evaluates its address: the current row moved one line down if
    there is one -/
def nullMoved (ed : Ed) : Ed := { ed with xrow := if ed.xrow + 1 < ed.len then ed.xrow + 1 else ed.xrow }

/-- a bare address in ex mode (`xvis` off) is `:p` run one row further down (one level of fuel is spent on
    the dispatch) -/
theorem ec_null_ex (f : Nat) (ed : Ed) (loc cmd arg : Bytes) (txt : Option Bytes) (hv : ed.xvis = false) :
    runCmd (f + 2) ed "ec_null" loc cmd arg txt = runCmd (f + 1) (nullMoved ed) "ec_print" loc cmd arg txt := by
  rw [Lemmas.C20c.runCmd_null, if_pos (by rw [hv]; rfl)]
  rfl

theorem nullMoved_addrOnly (ed : Ed) : AddrOnly ed (nullMoved ed) := ⟨_, _, _, rfl⟩

/-- **bare address, ex mode**: the text never changes; on success the lines of the region (evaluated after the
    move) are printed in order and the current row is the last one printed -/
theorem ec_null_spec (f : Nat) (ed ed' : Ed) (loc cmd arg : Bytes) (txt : Option Bytes) (rc : Int)
    (hv : ed.xvis = false) (h : runCmd (f + 2) ed "ec_null" loc cmd arg txt = some (rc, ed')) :
    (rc = 0 ∨ rc = 1) ∧ lines ed' = lines ed ∧
    (rc = 0 → ∃ b e ed1, exRegion (nullMoved ed) loc = some ((0, b, e), ed1) ∧ 0 ≤ b ∧ b ≤ e ∧ e ≤ ed.len ∧
      ed'.out = ed.out ++ (((lines ed).drop b.toNat).take (e.toNat - b.toNat)).flatMap printed ∧
      ed'.xrow = max b (e - 1)) ∧
    (rc = 1 → ed'.out = ed.out ∧ AddrOnly ed ed') := by
  rw [ec_null_ex f ed loc cmd arg txt hv] at h
  obtain ⟨h1, h2, h3, h4⟩ := C06.ec_print_spec f (nullMoved ed) ed' loc cmd arg txt rc h
  refine ⟨h1, h2, fun h0 => ?_, fun h0 => ?_⟩
  · obtain ⟨b, e, ed1, k1, k2, k3, k4, k5, k6⟩ := h3 h0
    exact ⟨b, e, ed1, k1, k2, k3, k4, k5, k6⟩
  · obtain ⟨k1, k2⟩ := h4 h0
    exact ⟨k1, (nullMoved_addrOnly ed).trans k2⟩

/-- Enter on an empty line in ex mode, with a line below the current one: that line is printed and becomes
    the current line -/
theorem ec_null_enter (f : Nat) (ed : Ed) (arg : Bytes) (txt : Option Bytes) (hv : ed.xvis = false)
    (h0 : 0 ≤ ed.xrow) (h1 : ed.xrow + 1 < ed.len) :
    ∃ ed' l, runCmd (f + 2) ed "ec_null" [] [] arg txt = some (0, ed') ∧ lines ed' = lines ed ∧
      (lines ed)[(ed.xrow + 1).toNat]? = some l ∧ ed'.out = ed.out ++ printed l ∧ ed'.xrow = ed.xrow + 1 := by
  have hm : nullMoved ed = { ed with xrow := ed.xrow + 1 } := by unfold nullMoved; rw [if_pos h1]
  have hlen : (nullMoved ed).len = ed.len := (nullMoved_addrOnly ed).len
  have hreg : exRegion (nullMoved ed) [] = some ((0, ed.xrow + 1, ed.xrow + 1 + 1), nullMoved ed) := by
    have := region_noaddr (nullMoved ed) (by rw [hm]; show 0 ≤ ed.xrow + 1; omega) (by rw [hlen, hm]; exact h1)
    rw [this, hm]
  have hlenl := len_eq ed
  obtain ⟨l, hl⟩ : ∃ l, (lines ed)[(ed.xrow + 1).toNat]? = some l := ⟨_, List.getElem?_eq_getElem (by omega)⟩
  have hx : ¬ ((nullMoved ed).xrow ≥ (nullMoved ed).len) := by rw [hlen, hm]; show ¬ (ed.xrow + 1 ≥ ed.len); omega
  obtain ⟨ed', hrun⟩ : ∃ ed', runCmd (f + 2) ed "ec_null" [] [] arg txt = some (0, ed') := by
    rw [ec_null_ex f ed [] [] arg txt hv, Lemmas.C20.runCmd_print, Lemmas.C20.ecPrint, if_neg (by simpa using hx), hreg]
    exact ⟨_, rfl⟩
  obtain ⟨_, k2, k3, _⟩ := ec_null_spec f ed ed' [] [] arg txt 0 hv hrun
  obtain ⟨b, e, ed1, r1, _, _, _, r5, r6⟩ := k3 rfl
  rw [hreg] at r1
  simp only [Option.some.injEq, Prod.mk.injEq] at r1
  obtain ⟨⟨_, rfl, rfl⟩, _⟩ := r1
  refine ⟨ed', l, hrun, k2, hl, ?_, by rw [r6]; omega⟩
  rw [r5]
  have : ((lines ed).drop (ed.xrow + 1).toNat).take ((ed.xrow + 1 + 1).toNat - (ed.xrow + 1).toNat) = [l] := by
    rw [show (ed.xrow + 1 + 1).toNat - (ed.xrow + 1).toNat = 1 by omega, List.take_one, List.head?_drop, hl]
    rfl
  rw [this]
  simp

/-- **bare address, visual mode** (`xvis` on): nothing is printed, the current row becomes the last line of
    the region -/
theorem ec_null_vi_spec (f : Nat) (ed ed' : Ed) (loc cmd arg : Bytes) (txt : Option Bytes) (rc : Int)
    (hv : ed.xvis = true) (h : runCmd (f + 1) ed "ec_null" loc cmd arg txt = some (rc, ed')) :
    (rc = 0 ∨ rc = 1) ∧ lines ed' = lines ed ∧ ed'.out = ed.out ∧
    (rc = 0 → ∃ b e ed1, exRegion ed loc = some ((0, b, e), ed1) ∧ ed' = { ed1 with xrow := max b (e - 1), xoff := 0 }) ∧
    (rc = 1 → AddrOnly ed ed') := by
  rw [Lemmas.C20c.runCmd_null] at h
  simp only [hv, Bool.not_true, Bool.false_eq_true, ↓reduceIte] at h
  rcases region_strict h with ⟨rfl, ha, _⟩ | ⟨b, e, ed1, hreg, ha, _, _, _, h⟩
  · exact ⟨Or.inr rfl, ha.lines, ha.out, fun h => by omega, fun _ => ha⟩
  cases h
  exact ⟨Or.inl rfl, ha.lines, ha.out, fun _ => ⟨b, e, ed1, hreg, rfl⟩, fun h => by omega⟩

theorem undo_rc {lb lb' : Lb} {r : Nat} (h : Lbuf.undo lb = some (r, lb')) : r = 0 ∨ (r = 1 ∧ lb' = lb) := by
  unfold Lbuf.undo at h
  split at h
  · cases h; exact Or.inr ⟨rfl, rfl⟩
  · split at h
    · cases h
    · simp only [Option.map_eq_some_iff, Prod.mk.injEq] at h
      obtain ⟨_, _, h2, _⟩ := h
      exact Or.inl h2.symm

theorem redo_rc {lb lb' : Lb} {r : Nat} (h : Lbuf.redo lb = some (r, lb')) : r = 0 ∨ (r = 1 ∧ lb' = lb) := by
  unfold Lbuf.redo at h
  split at h
  · cases h; exact Or.inr ⟨rfl, rfl⟩
  · split at h
    · cases h
    · simp only [Option.map_eq_some_iff, Prod.mk.injEq] at h
      obtain ⟨_, _, h2, _⟩ := h
      exact Or.inl h2.symm

/-- what `:u` and `:redo` share: `op` (`lbuf_undo`, `lbuf_redo`) runs on the line buffer of the current buffer and
    returns 1 only when it changes nothing -/
theorem hist_spec {op : Lb → Option (Nat × Lb)}
    (hop : ∀ {lb lb' r}, op lb = some (r, lb') → r = 0 ∨ (r = 1 ∧ lb' = lb)) {ed ed' : Ed} {rc : Int}
    (h : (match ed.lb.bind op with | none => none | some (r, lb) => some ((r : Int), ed.setLb lb)) = some (rc, ed')) :
    ∃ lb r lb', ed.lb = some lb ∧ op lb = some (r, lb') ∧ rc = (r : Int) ∧
      ed' = ed.setLb lb' ∧ ed'.lb = some lb' ∧ lines ed' = lb'.lines ∧ OnlyLb ed ed' ∧
      (rc = 0 ∨ rc = 1) ∧ (rc = 1 → ed' = ed) := by
  cases hlb : ed.lb with
  | none => rw [hlb] at h; cases h
  | some lb =>
    rw [hlb, Option.bind_some] at h
    cases hu : op lb with
    | none => rw [hu] at h; cases h
    | some p =>
      obtain ⟨r, lb'⟩ := p
      rw [hu] at h
      cases h
      have hl' := setLb_lb ed lb lb' hlb
      refine ⟨lb, r, lb', rfl, hu, rfl, rfl, hl', lines_of_lb hl', setLb_onlyLb ed lb lb' hlb, ?_, ?_⟩
      · rcases hop hu with k | ⟨k, _⟩ <;> subst k
        · exact Or.inl rfl
        · exact Or.inr rfl
      · intro h1
        rcases hop hu with k | ⟨_, k⟩
        · subst k; simp at h1
        · subst k; exact setLb_same ed lb' hlb

/-- **`:u`** at the ex level is `lbuf_undo` on the current buffer: the return code is its return code, the new
    text is the text it produces, nothing but the line buffer of the current buffer changes; when there is
    nothing to undo the return code is 1 and the whole state is unchanged -/
theorem ec_undo_spec (f : Nat) (ed ed' : Ed) (loc cmd arg : Bytes) (txt : Option Bytes) (rc : Int)
    (h : runCmd (f + 1) ed "ec_undo" loc cmd arg txt = some (rc, ed')) :
    ∃ lb r lb', ed.lb = some lb ∧ Lbuf.undo lb = some (r, lb') ∧ rc = (r : Int) ∧
      ed' = ed.setLb lb' ∧ ed'.lb = some lb' ∧ lines ed' = lb'.lines ∧ OnlyLb ed ed' ∧
      (rc = 0 ∨ rc = 1) ∧ (rc = 1 → ed' = ed) := by
  rw [Lemmas.C20c.runCmd_undo, Lemmas.C20.ecHist] at h
  exact hist_spec undo_rc h

/-- **`:redo`**, likewise with `lbuf_redo` -/
theorem ec_redo_spec (f : Nat) (ed ed' : Ed) (loc cmd arg : Bytes) (txt : Option Bytes) (rc : Int)
    (h : runCmd (f + 1) ed "ec_redo" loc cmd arg txt = some (rc, ed')) :
    ∃ lb r lb', ed.lb = some lb ∧ Lbuf.redo lb = some (r, lb') ∧ rc = (r : Int) ∧
      ed' = ed.setLb lb' ∧ ed'.lb = some lb' ∧ lines ed' = lb'.lines ∧ OnlyLb ed ed' ∧
      (rc = 0 ∨ rc = 1) ∧ (rc = 1 → ed' = ed) := by
  rw [Lemmas.C20c.runCmd_redo, Lemmas.C20.ecHist] at h
  exact hist_spec redo_rc h

open Neatvi.Spec in
/-- **`:u` against the zipper of texts of C04.**  If the line buffer of the current buffer is simulated by the
    zipper `z` at a command boundary (`C04.RunInv`, which holds after any history of commands by
    `C04.reached_inv`), then `:u` never traps and:
    * with an empty past it returns 1 and changes nothing;
    * otherwise it returns 0, the text becomes exactly the previous text `p` (the head of `z.past`), and the new
      line buffer is simulated by the zipper moved one step back. -/
theorem ec_undo_zipper (f : Nat) (ed : Ed) (lb : Lb) (z : Zipper) (loc cmd arg : Bytes) (txt : Option Bytes)
    (hlb : ed.lb = some lb) (hinv : C04.RunInv lb z) :
    (z.past = [] ∧ runCmd (f + 1) ed "ec_undo" loc cmd arg txt = some (1, ed)) ∨
    (∃ p ps lb', z.past = p :: ps ∧ runCmd (f + 1) ed "ec_undo" loc cmd arg txt = some (0, ed.setLb lb') ∧
      (ed.setLb lb').lb = some lb' ∧ lines (ed.setLb lb') = p ∧
      C04.RunInv lb' ⟨ps, p, z.present :: z.future, false⟩) := by
  obtain ⟨ho, pg, fg, hi⟩ := hinv
  have hrun : ∀ r lb', Lbuf.undo lb = some (r, lb') →
      runCmd (f + 1) ed "ec_undo" loc cmd arg txt = some ((r : Int), ed.setLb lb') := by
    intro r lb' hu
    rw [Lemmas.C20c.runCmd_undo, Lemmas.C20.ecHist, hlb, Option.bind_some, hu]
  rcases Lemmas.Hist.inv_undo hi ho with ⟨_, hp, hu⟩ | ⟨g, ps, p, pt, lb', _, hp, hu, hl, _, hi'⟩
  · exact Or.inl ⟨hp, by rw [hrun _ _ hu, setLb_same ed lb hlb]; rfl⟩
  · have hl' := setLb_lb ed lb lb' hlb
    exact Or.inr ⟨p, pt, lb', hp, by rw [hrun _ _ hu]; rfl, hl', by rw [lines_of_lb hl', hl], rfl, ps, g :: fg, hi'⟩

open Neatvi.Spec in
/-- **`:redo` against the zipper of texts of C04** -/
theorem ec_redo_zipper (f : Nat) (ed : Ed) (lb : Lb) (z : Zipper) (loc cmd arg : Bytes) (txt : Option Bytes)
    (hlb : ed.lb = some lb) (hinv : C04.RunInv lb z) :
    (z.future = [] ∧ runCmd (f + 1) ed "ec_redo" loc cmd arg txt = some (1, ed)) ∨
    (∃ n ns lb', z.future = n :: ns ∧ runCmd (f + 1) ed "ec_redo" loc cmd arg txt = some (0, ed.setLb lb') ∧
      (ed.setLb lb').lb = some lb' ∧ lines (ed.setLb lb') = n ∧
      C04.RunInv lb' ⟨z.present :: z.past, n, ns, false⟩) := by
  obtain ⟨ho, pg, fg, hi⟩ := hinv
  have hrun : ∀ r lb', Lbuf.redo lb = some (r, lb') →
      runCmd (f + 1) ed "ec_redo" loc cmd arg txt = some ((r : Int), ed.setLb lb') := by
    intro r lb' hu
    rw [Lemmas.C20c.runCmd_redo, Lemmas.C20.ecHist, hlb, Option.bind_some, hu]
  rcases Lemmas.Hist.inv_redo hi ho with ⟨_, hp, hu⟩ | ⟨g, fs, n, nt, lb', _, hp, hu, hl, _, hi'⟩
  · exact Or.inl ⟨hp, by rw [hrun _ _ hu, setLb_same ed lb hlb]; rfl⟩
  · have hl' := setLb_lb ed lb lb' hlb
    exact Or.inr ⟨n, nt, lb', hp, by rw [hrun _ _ hu]; rfl, hl', by rw [lines_of_lb hl', hl], rfl, g :: pg, fs, hi'⟩

/-! ## 3. command lines: `c1|c2|…`

`parse1 ln` is the first command of the line as `ex_exec` splits it (`ex_loc`, `ex_cmd`, `ex_arg`), `runOne` one
iteration of its loop (fetch the text with `ex_txt`, dispatch with `runCmd`; an unknown command only shows a
message and keeps the previous return code). -/

theorem exExec_short (f : Nat) (ed : Ed) (ln : Bytes) (h : ln.length < Gen.EXLEN) :
    exExec (f + 1) ed ln = exExec.cmds f (ln.length + 1) ed ln 0 := by
  rw [exExec, if_neg (by omega)]

/-- a line of `EXLEN` bytes or more is rejected as a whole -/
theorem exExec_too_long (f : Nat) (ed : Ed) (ln : Bytes) (h : Gen.EXLEN ≤ ln.length) :
    exExec (f + 1) ed ln = some (1, ed.show (strOf "command too long")) := by
  rw [exExec, if_pos h]

/-- **`ex_exec` never stops early.**  One iteration of the loop, for every line and every state: the first
    command is run, and *whatever it returned* (`r` is not inspected) the loop goes on with the rest of the line;
    only a trap of the command (`none`) ends the run.  The value returned at the end of the line is the return
    code of the last command that was dispatched (an unknown command hands on the code it received; 0 at the
    start of the line). -/
theorem exExec_stops_never (f g : Nat) (ed : Ed) (ln : Bytes) (ret : Int) (hne : ln ≠ []) :
    exExec.cmds f (g + 1) ed ln ret =
      match runOne f ed (parse1 ln) ret with
      | none => none
      | some ((r, ed1), rest) => exExec.cmds f g ed1 rest r := by
  have hne' : ¬ (ln.isEmpty = true) := by
    cases ln with
    | nil => exact absurd rfl hne
    | cons x xs => simp
  rw [cmds_succ, if_neg hne']
  cases runOne f ed (parse1 ln) ret with
  | none => rfl
  | some x => rfl

/-- at the end of the line the loop returns the code of the last command -/
theorem exExec_end (f g : Nat) (ed : Ed) (ret : Int) : exExec.cmds f g ed [] ret = some (ret, ed) := cmds_nil f g ed ret

/-- a line of commands joined by `|`, each split correctly: all of them run, in order -/
theorem _root_.Neatvi.Lemmas.C06d.exExec_line_gen (f : Nat) (ed : Ed) (cs : List Cmd1) (hok : Lemmas.C06d.LineParses cs)
    (hlen : (joinBar cs).length < Gen.EXLEN) : exExec (f + 1) ed (joinBar cs) = runLine f ed cs 0 := by
  rw [exExec_short f ed _ hlen]
  exact Lemmas.C06d.cmds_line_gen f cs _ ed 0 hok (joinBar_length cs)

/-- **a line of simple commands joined by `|` runs all of them in order** (`runLine`): for commands made of an
    address over `.$0-9+-,;%`, a name, blanks and an argument without newline, `|`, `"`, backslash, whose
    argument parser stops at `|` (`plainAbbr`: every table entry except `!`, `g`, `g!`, `v`, `s`, and `r`/`w`
    with a `!` argument) and that are not `rs` -/
theorem exExec_line (f : Nat) (ed : Ed) (cs : List Cmd1) (hok : LineOk cs) (hlen : (joinBar cs).length < Gen.EXLEN) :
    exExec (f + 1) ed (joinBar cs) = runLine f ed cs 0 :=
  Lemmas.C06d.exExec_line_gen f ed cs hok.parses hlen

/-- **`c1|c2`**: the line runs `c1`, then — whatever `c1` returned — `c2` in the state `c1` left, and returns what
    `c2` returns (`c2` a known command) -/
theorem exExec_two (f : Nat) (ed : Ed) (c1 c2 : Cmd1) (h1 : c1.Ok (124 :: c2.bytes)) (h2 : c2.Ok [])
    (hne : c2.bytes ≠ []) (hknown : (exIdx c2.cmd).isSome)
    (hlen : (c1.bytes ++ 124 :: c2.bytes).length < Gen.EXLEN) :
    exExec (f + 1) ed (c1.bytes ++ 124 :: c2.bytes) =
      match runOne f ed (c1.parsed c2.bytes) 0 with
      | none => none
      | some ((_, ed1), _) => exExec (f + 1) ed1 c2.bytes := by
  have hl := exExec_line f ed [c1, c2] ⟨h1, h2, hne⟩ hlen
  simp only [joinBar] at hl
  rw [hl]
  simp only [runLine, joinBar]
  cases hr : runOne f ed (c1.parsed c2.bytes) 0 with
  | none => rfl
  | some x =>
    obtain ⟨⟨r1, ed1⟩, rest⟩ := x
    have hl2 := exExec_line f ed1 [c2] ⟨h2, hne⟩ (by simp only [joinBar]; simp at hlen; omega)
    simp only [joinBar] at hl2
    simp only [hl2, runLine, joinBar]
    rw [runOne_ret f ed1 (c2.parsed []) r1 0 hknown]

/-- and with commands that take no text (`d`, `y`, `pu`, `k`, `=`, `p`, `r`, …) both steps are plain dispatches -/
theorem exExec_two_dispatch (f : Nat) (ed : Ed) (c1 c2 : Cmd1) (h1 : c1.Ok (124 :: c2.bytes)) (h2 : c2.Ok [])
    (hne : c2.bytes ≠ []) (a1 a2 : Bytes) (hd1 hd2 : String)
    (hi1 : exIdx c1.cmd = some (a1, hd1)) (hi2 : exIdx c2.cmd = some (a2, hd2))
    (ht1 : takesText a1 = false) (ht2 : takesText a2 = false)
    (hlen : (c1.bytes ++ 124 :: c2.bytes).length < Gen.EXLEN) :
    exExec (f + 1) ed (c1.bytes ++ 124 :: c2.bytes) =
      match runCmd f ed hd1 c1.loc c1.cmd c1.arg none with
      | none => none
      | some (_, ed1) => runCmd f ed1 hd2 c2.loc c2.cmd c2.arg none := by
  have hl := exExec_line f ed [c1, c2] ⟨h1, h2, hne⟩ hlen
  simp only [joinBar] at hl
  rw [hl]
  simp only [runLine, joinBar]
  rw [runOne_known f ed (c1.parsed c2.bytes) 0 a1 hd1 hi1 ht1]
  simp only [Cmd1.parsed]
  cases hr : runCmd f ed hd1 c1.loc c1.cmd c1.arg none with
  | none => rfl
  | some x =>
    obtain ⟨r1, ed1⟩ := x
    simp only [Option.map_some]
    have := runOne_known f ed1 (c2.parsed []) r1 a2 hd2 hi2 ht2
    simp only [Cmd1.parsed] at this
    rw [this]
    cases runCmd f ed1 hd2 c2.loc c2.cmd c2.arg none with
    | none => rfl
    | some y => rfl

/-! ### every line: the loop of `ex_exec` as a recursion over the commands of the line

Each iteration shortens the line (`restOf_lt`), so the fuel of the loop never runs out (`cmds_fuel`) and the
loop can be restated without it. -/

/-- `ex_exec` on the rest of a line, `ret` being the return code so far -/
def execFrom (f : Nat) (ed : Ed) (ln : Bytes) (ret : Int) : R Int := exExec.cmds f (ln.length + 1) ed ln ret

theorem exExec_eq_execFrom (f : Nat) (ed : Ed) (ln : Bytes) (h : ln.length < Gen.EXLEN) :
    exExec (f + 1) ed ln = execFrom f ed ln 0 := exExec_short f ed ln h

theorem execFrom_nil (f : Nat) (ed : Ed) (ret : Int) : execFrom f ed [] ret = some (ret, ed) := cmds_nil _ _ _ _

/-- **`ex_exec`, for every line**: run the first command (`parse1`, `runOne`), then the rest of the line from
    the state it left, with its return code as the code so far — no condition on that code: all the commands of
    a line are executed even after a failure, and the value returned is the code of the last command dispatched -/
theorem exExec_unfold (f : Nat) (ed : Ed) (ln : Bytes) (ret : Int) (hne : ln ≠ []) :
    execFrom f ed ln ret =
      match runOne f ed (parse1 ln) ret with
      | none => none
      | some ((r, ed1), rest) => execFrom f ed1 rest r := by
  unfold execFrom
  rw [exExec_stops_never f ln.length ed ln ret hne]
  cases hr : runOne f ed (parse1 ln) ret with
  | none => rfl
  | some y =>
    obtain ⟨⟨r, ed1⟩, rest⟩ := y
    have hrest := runOne_rest f ed ln ret (r, ed1) rest hr
    have hlt := restOf_lt ln hne
    rw [← hrest] at hlt
    simp only []
    exact cmds_fuel f rest.length rest (Nat.le_refl _) _ _ ed1 r (by omega) (by omega)

theorem execFrom_known (f : Nat) (ed : Ed) (ln : Bytes) (ret : Int) (hne : ln ≠ []) (hk : (parse1 ln).idx.isSome) :
    execFrom f ed ln ret = execFrom f ed ln 0 := by
  rw [exExec_unfold f ed ln ret hne, exExec_unfold f ed ln 0 hne, runOne_ret f ed (parse1 ln) ret 0 hk]

/-- **`ex_exec` of a line = its first command, then `ex_exec` of the rest** (the rest starting with a command of
    the table, or being empty) -/
theorem exExec_seq (f : Nat) (ed ed1 : Ed) (ln rest : Bytes) (r : Int) (hne : ln ≠ []) (hlen : ln.length < Gen.EXLEN)
    (hr : runOne f ed (parse1 ln) 0 = some ((r, ed1), rest)) (hk : rest = [] ∨ (parse1 rest).idx.isSome) :
    exExec (f + 1) ed ln = if rest = [] then some (r, ed1) else exExec (f + 1) ed1 rest := by
  rw [exExec_eq_execFrom f ed ln hlen, exExec_unfold f ed ln 0 hne, hr]
  simp only []
  have hrest := runOne_rest f ed ln 0 (r, ed1) rest hr
  have hlt := restOf_lt ln hne
  rw [← hrest] at hlt
  by_cases h0 : rest = []
  · subst h0; rw [if_pos rfl, execFrom_nil]
  · rw [if_neg h0, exExec_eq_execFrom f ed1 rest (by omega)]
    rcases hk with hk | hk
    · exact absurd hk h0
    · exact execFrom_known f ed1 rest r h0 hk

theorem exExec_single (f : Nat) (ed ed1 : Ed) (ln a : Bytes) (hd : String) (r : Int) (hne : ln ≠ [])
    (hlen : ln.length < Gen.EXLEN) (hi : (parse1 ln).idx = some (a, hd)) (ht : takesText a = false)
    (hrest : (parse1 ln).rest = [])
    (hr : runCmd f ed hd (parse1 ln).loc (parse1 ln).cmd (parse1 ln).arg none = some (r, ed1)) :
    exExec (f + 1) ed ln = some (r, ed1) := by
  have h1 : runOne f ed (parse1 ln) 0 = some ((r, ed1), []) := by
    rw [runOne_known f ed (parse1 ln) 0 a hd hi ht, hr, hrest]; rfl
  rw [exExec_seq f ed ed1 ln [] r hne hlen h1 (Or.inl rfl)]
  simp

/-! ## 4. scripts: the text after a script is the initial text put through the splices of its commands -/

/-- a parsed line command as `runCmd` receives it -/
structure LineCmd where
  hd : String
  loc : Bytes
  cmd : Bytes
  arg : Bytes
  txt : Option Bytes

/-- the handlers of `a`, `i`, `c`, `d`, `y`, `pu`, `k`, `=`, `p`, `r` (and `rs`) -/
def covered : List String :=
  ["ec_insert", "ec_delete", "ec_yank", "ec_put", "ec_print", "ec_lnum", "ec_mark", "ec_rs", "ec_read"]

/-- replace lines `b..e` by `new` -/
abbrev Splice := Nat × Nat × List Bytes

def applySplice (t : List Bytes) (s : Splice) : List Bytes := t.take s.1 ++ s.2.2 ++ t.drop s.2.1

def applySplices (t : List Bytes) (ss : List Splice) : List Bytes := ss.foldl applySplice t

/-- every splice lies inside the text it is applied to -/
def SplicesOk : List Bytes → List Splice → Prop
  | _, [] => True
  | t, s :: r => s.1 ≤ s.2.1 ∧ s.2.1 ≤ t.length ∧ SplicesOk (applySplice t s) r

/-- the region `ex_region` resolves the address to in state `ed` -/
def regionOf (ed : Ed) (loc : Bytes) : Int × Int :=
  match exRegion ed loc with
  | some ((_, b, e), _) => (b, e)
  | none => (0, 0)

/-- the lines `:r` inserts: those of the file (up to a NUL byte), or of the oracle's answer for `!cmd` -/
def readLines (ed : Ed) (arg : Bytes) : List Bytes :=
  match readPath ed arg with
  | some (some path, _) =>
    if path.headD 0 = 33 then
      (match ed.pipe (path.drop 1) [] with | some o => optLines o | none => [])
    else (match ed.findFile path with | some fl => splitLines (cstr fl.data) | none => [])
  | _ => []

/-- **the reference**: the splice a line command performs in state `ed`, from its resolved region `beg..end`
    (`rc` its return code: a failing command changes no line):
    `d` removes `beg..end`; `a` / `i` / `c` put the text at `end..end` / `beg..beg` / `beg..end`; `pu` puts the
    register at `end..end`; `r` puts the file at `end..end`; `y`, `k`, `=`, `p`, `rs` change no line -/
def spliceOf (ed : Ed) (c : LineCmd) (rc : Int) : Splice :=
  if rc != 0 then (0, 0, []) else
  let b := (regionOf ed c.loc).1
  let e := (regionOf ed c.loc).2
  if c.hd == "ec_delete" then (b.toNat, e.toNat, [])
  else if c.hd == "ec_insert" then
    let p := if c.cmd.headD 0 = 97 then e else b
    let q := if c.cmd.headD 0 = 99 then e else p
    (p.toNat, q.toNat, optLines c.txt)
  else if c.hd == "ec_put" then
    (e.toNat, e.toNat, match regGet ed (regName c.arg) with | some buf => splitLines buf | none => [])
  else if c.hd == "ec_read" then (e.toNat, e.toNat, readLines ed c.arg)
  else (0, 0, [])

theorem applySplice_id (t : List Bytes) : applySplice t (0, 0, []) = t := by simp [applySplice]

theorem applySplice_same (t : List Bytes) (e : Nat) : applySplice t (e, e, []) = t := by simp [applySplice]

theorem splices_cons {t t1 t' : List Bytes} {s : Splice} {ss : List Splice} {n : Nat}
    (hs : s.1 ≤ s.2.1 ∧ s.2.1 ≤ t.length ∧ t1 = applySplice t s)
    (ih : t' = applySplices t1 ss ∧ ss.length = n ∧ SplicesOk t1 ss) :
    t' = applySplices t (s :: ss) ∧ (s :: ss).length = n + 1 ∧ SplicesOk t (s :: ss) := by
  obtain ⟨k1, k2, rfl⟩ := hs
  obtain ⟨i1, i2, i3⟩ := ih
  exact ⟨i1, by rw [List.length_cons, i2], k1, k2, i3⟩

/-- **a run that collects one splice per step**: `run` goes through a list, at each item `step` gives the splice and the next
    state (it may look at the items to come); if, from a state with `I`, the splice of every covered step lies in the text and
    yields the next text, and the next state has `I` again, the text at the end is the text at the start put through the
    splices, each inside the text it applies to, and `I` holds at the end -/
theorem splices_run_inv {σ ι : Type} (txt : σ → List Bytes) (I : σ → Prop) (run : σ → List ι → Option (List Splice × σ))
    (step : σ → ι → List ι → Option (Splice × σ)) (Cov : ι → Prop)
    (hnil : ∀ s, run s [] = some ([], s))
    (hcons : ∀ s c cs, run s (c :: cs) = (step s c cs).bind (fun p => (run p.2 cs).map (fun x => (p.1 :: x.1, x.2))))
    (hstep : ∀ s c cs a s1, I s → Cov c → step s c cs = some (a, s1) →
      (a.1 ≤ a.2.1 ∧ a.2.1 ≤ (txt s).length ∧ txt s1 = applySplice (txt s) a) ∧ I s1) :
    ∀ (script : List ι) (s s' : σ) (ss : List Splice), I s → (∀ c ∈ script, Cov c) → run s script = some (ss, s') →
      (txt s' = applySplices (txt s) ss ∧ ss.length = script.length ∧ SplicesOk (txt s) ss) ∧ I s' := by
  intro script
  induction script with
  | nil =>
    intro s s' ss h0 _ h
    rw [hnil] at h
    cases h
    exact ⟨⟨rfl, rfl, trivial⟩, h0⟩
  | cons c cs ih =>
    intro s s' ss h0 hcov h
    rw [hcons] at h
    cases hs : step s c cs with
    | none => rw [hs] at h; cases h
    | some y =>
      obtain ⟨a, s1⟩ := y
      rw [hs] at h
      simp only [Option.bind_some, Option.map_eq_some_iff, Prod.mk.injEq] at h
      obtain ⟨⟨ss1, s2⟩, h1, rfl, rfl⟩ := h
      obtain ⟨k, h1'⟩ := hstep s c cs a s1 h0 (hcov c (by simp)) hs
      obtain ⟨i, hI⟩ := ih s1 s2 ss1 h1' (fun x hx => hcov x (by simp [hx])) h1
      exact ⟨splices_cons k i, hI⟩

theorem splices_run {σ ι : Type} (txt : σ → List Bytes) (run : σ → List ι → Option (List Splice × σ))
    (step : σ → ι → List ι → Option (Splice × σ)) (Cov : ι → Prop)
    (hnil : ∀ s, run s [] = some ([], s))
    (hcons : ∀ s c cs, run s (c :: cs) = (step s c cs).bind (fun p => (run p.2 cs).map (fun x => (p.1 :: x.1, x.2))))
    (hstep : ∀ s c cs a s1, Cov c → step s c cs = some (a, s1) →
      a.1 ≤ a.2.1 ∧ a.2.1 ≤ (txt s).length ∧ txt s1 = applySplice (txt s) a)
    (script : List ι) (s s' : σ) (ss : List Splice) (hcov : ∀ c ∈ script, Cov c) (h : run s script = some (ss, s')) :
    txt s' = applySplices (txt s) ss ∧ ss.length = script.length ∧ SplicesOk (txt s) ss :=
  (splices_run_inv txt (fun _ => True) run step Cov hnil hcons (fun s c cs a s1 _ hc h => ⟨hstep s c cs a s1 hc h, trivial⟩)
    script s s' ss trivial hcov h).1

theorem ec_read_lines {f : Nat} {ed ed' : Ed} {loc cmd arg : Bytes} {txt : Option Bytes}
    (h : runCmd (f + 1) ed "ec_read" loc cmd arg txt = some (0, ed')) :
    ∃ path b e ed1, readPath ed arg = some (some path, ed) ∧ exRegion ed loc = some ((0, b, e), ed1) ∧
      0 ≤ e ∧ e ≤ ed.len ∧ lines ed' = (lines ed).take e.toNat ++ readLines ed arg ++ (lines ed).drop e.toNat := by
  obtain ⟨path, b, e, ed1, k0, k1, k2, k3, k4, k5⟩ := (ec_read_spec f ed ed' loc cmd arg txt 0 h).2.1 rfl
  refine ⟨path, b, e, ed1, k0, k1, k2, k3, ?_⟩
  simp only [readLines, k0]
  by_cases hbang : path.headD 0 = 33
  · obtain ⟨_, m1, m2⟩ := k5 hbang
    simp only [hbang, if_true]
    cases hp : ed.pipe (path.drop 1) [] with
    | none =>
      rw [m1 hp]
      have : lines ({ ed1 with unmodelled := true } : Ed) = lines ed1 := rfl
      rw [this, (region_all _ _ _ _ _ _ k1).1.lines]
      simp
    | some o => exact (m2 o hp).1
  · obtain ⟨fl, m1, m2, _⟩ := k4 hbang
    simp only [hbang, if_false, m1]
    exact m2

/-- **one command is one splice**: the text after a covered line command is the text before it with the
    command's splice applied, and the splice lies inside the text -/
theorem cmd_splice (f : Nat) (ed ed' : Ed) (c : LineCmd) (rc : Int) (hc : c.hd ∈ covered)
    (h : runCmd (f + 1) ed c.hd c.loc c.cmd c.arg c.txt = some (rc, ed')) :
    (spliceOf ed c rc).1 ≤ (spliceOf ed c rc).2.1 ∧ (spliceOf ed c rc).2.1 ≤ (lines ed).length ∧
      lines ed' = applySplice (lines ed) (spliceOf ed c rc) := by
  obtain ⟨hd, loc, cmd, arg, txt⟩ := c
  simp only [] at hc h ⊢
  have hlen := len_eq ed
  have hid : lines ed' = lines ed → spliceOf ed ⟨hd, loc, cmd, arg, txt⟩ rc = (0, 0, []) →
      (spliceOf ed ⟨hd, loc, cmd, arg, txt⟩ rc).1 ≤ (spliceOf ed ⟨hd, loc, cmd, arg, txt⟩ rc).2.1 ∧
      (spliceOf ed ⟨hd, loc, cmd, arg, txt⟩ rc).2.1 ≤ (lines ed).length ∧
      lines ed' = applySplice (lines ed) (spliceOf ed ⟨hd, loc, cmd, arg, txt⟩ rc) := by
    intro h1 h2
    rw [h2, applySplice_id]
    exact ⟨Nat.le_refl _, Nat.zero_le _, h1⟩
  simp only [covered, List.mem_cons, List.not_mem_nil, or_false] at hc
  rcases hc with rfl | rfl | rfl | rfl | rfl | rfl | rfl | rfl | rfl
  · obtain ⟨h1, h2, h3⟩ := C06.ec_insert_spec f ed ed' loc cmd arg txt rc h
    rcases h1 with rfl | rfl
    · obtain ⟨r, b, e, ed1, k1, _, k3, k4, k5, k6⟩ := h2 rfl
      obtain ⟨k7, _, _⟩ := k6 _ _ rfl rfl
      have hb : (regionOf ed loc) = (b, e) := by simp [regionOf, k1]
      simp only [spliceOf, hb, String.reduceBEq, Bool.false_eq_true, ↓reduceIte, bne_self_eq_false, applySplice]
      have := C06.insert_range (cmd.headD 0) k4
      exact ⟨by omega, by omega, k7⟩
    · exact hid (h3 rfl).1 (by simp [spliceOf])
  · obtain ⟨h1, h2, h3⟩ := C06.ec_delete_spec f ed ed' loc cmd arg txt rc h
    rcases h1 with rfl | rfl
    · obtain ⟨b, e, ed1, k1, k2, k3, k4, k5, _⟩ := h2 rfl
      have hb : (regionOf ed loc) = (b, e) := by simp [regionOf, k1]
      simp only [spliceOf, hb, String.reduceBEq, Bool.false_eq_true, ↓reduceIte, bne_self_eq_false, applySplice,
        List.append_nil]
      exact ⟨by omega, by omega, k5⟩
    · exact hid (h3 rfl).1 (by simp [spliceOf])
  · exact hid (C06.ec_yank_spec f ed ed' loc cmd arg txt rc h).2.1 (by simp [spliceOf])
  · obtain ⟨h1, h2, h3, _⟩ := C06.ec_put_spec f ed ed' loc cmd arg txt rc h
    rcases h1 with rfl | rfl
    · obtain ⟨buf, r0, b, e, ed1, k0, k1, _, k2, k3, k4, _⟩ := h2 rfl
      have hb : (regionOf ed loc) = (b, e) := by simp [regionOf, k1]
      simp only [spliceOf, hb, String.reduceBEq, Bool.false_eq_true, ↓reduceIte, bne_self_eq_false, applySplice, k0]
      exact ⟨Nat.le_refl _, by omega, k4⟩
    · exact hid (h3 rfl).1 (by simp [spliceOf])
  · exact hid (C06.ec_print_spec f ed ed' loc cmd arg txt rc h).2.1 (by simp [spliceOf])
  · exact hid (C06.ec_lnum_spec f ed ed' loc cmd arg txt rc h).2.1 (by simp [spliceOf])
  · exact hid (C06.ec_mark_spec f ed ed' loc cmd arg txt rc h).2.1 (by simp [spliceOf])
  · exact hid (C06.ec_rs_spec f ed ed' loc cmd arg txt rc h).2.1 (by simp [spliceOf])
  · obtain ⟨h1, _, h3⟩ := ec_read_spec f ed ed' loc cmd arg txt rc h
    rcases h1 with rfl | rfl
    · obtain ⟨path, b, e, ed1, _, k1, k2, k3, k4⟩ := ec_read_lines h
      have hb : (regionOf ed loc) = (b, e) := by simp [regionOf, k1]
      simp only [spliceOf, hb, String.reduceBEq, Bool.false_eq_true, ↓reduceIte, bne_self_eq_false, applySplice]
      exact ⟨Nat.le_refl _, by omega, k4⟩
    · exact hid (h3 rfl).1 (by simp [spliceOf])

/-- run a script of parsed line commands (as `ex_exec` does: every command, whatever the previous one
    returned), collecting the splices `spliceOf` (each at the region `ex_region` resolves the address to) -/
def runScript (f : Nat) : Ed → List LineCmd → Option (List Splice × Ed)
  | ed, [] => some ([], ed)
  | ed, c :: cs =>
    match runCmd (f + 1) ed c.hd c.loc c.cmd c.arg c.txt with
    | none => none
    | some (rc, ed1) => (runScript f ed1 cs).map (fun x => (spliceOf ed c rc :: x.1, x.2))

/-- **script_frame**: after a script of covered line commands (`a i c d y pu k = p r rs`, any addresses, any
    return codes) the text of the buffer is the initial text put through the sequence of splices
    `take b ++ new ++ drop e` given by each command's resolved region — one splice per command, each inside the
    text it applies to -/
theorem script_frame (f : Nat) : ∀ (script : List LineCmd) (ed ed' : Ed) (ss : List Splice),
    (∀ c ∈ script, c.hd ∈ covered) → runScript f ed script = some (ss, ed') →
    lines ed' = applySplices (lines ed) ss ∧ ss.length = script.length ∧ SplicesOk (lines ed) ss :=
  splices_run lines (runScript f)
    (fun ed c _ => (runCmd (f + 1) ed c.hd c.loc c.cmd c.arg c.txt).map (fun r => (spliceOf ed c r.1, r.2))) _
    (fun _ => rfl) (fun ed c cs => by rw [runScript]; cases runCmd (f + 1) ed c.hd c.loc c.cmd c.arg c.txt <;> rfl)
    (fun ed c _ a ed1 hc h => by
      obtain ⟨⟨rc, ed2⟩, hr, rfl, rfl⟩ := Option.map_eq_some_iff.mp h
      exact cmd_splice f ed ed2 c rc hc hr)

/-- what a splice leaves alone: the lines above `b` keep their place, the lines from `e` on keep their order
    and bytes, shifted by the change of length -/
theorem splice_frame (t : List Bytes) (s : Splice) (h1 : s.1 ≤ s.2.1) (h2 : s.2.1 ≤ t.length) :
    (∀ m, m < s.1 → (applySplice t s)[m]? = t[m]?) ∧
    (∀ m, s.2.1 ≤ m → (applySplice t s)[m + s.2.2.length - (s.2.1 - s.1)]? = t[m]?) :=
  ⟨fun m hm => frame_get_before t s.2.2 s.1 s.2.1 m hm (by omega),
   fun m hm => frame_get_after t s.2.2 s.1 s.2.1 m h1 hm h2⟩

theorem exTxt_lines (ed : Ed) (src abbr : Bytes) : lines (exTxt ed src abbr).2 = lines ed := by
  obtain ⟨inp, h⟩ := exTxt_input ed src abbr
  rw [h]
  rfl

/-- a command line holding one command of the table that `ex_exec` splits correctly: `ex_command` fetches its text
    (`ex_txt`: for `a`, `i`, `c` the pending input lines up to a lone `.`), dispatches it, and bumps the sequence
    counter -/
theorem _root_.Neatvi.Lemmas.C06d.exCommand_line_gen (f : Nat) (ed : Ed) (c : Cmd1) (a : Bytes) (hd : String)
    (hok : Lemmas.C06d.Parses c []) (hne : c.bytes ≠ [])
    (hlen : c.bytes.length < Gen.EXLEN) (hi : exIdx c.cmd = some (a, hd)) :
    exCommand (f + 2) ed c.bytes =
      (runCmd f (exTxt ed [] a).2 hd c.loc c.cmd c.arg (exTxt ed [] a).1.1).map
        (fun x => (x.1, (x.2.modifiedAt 0).2)) := by
  have hl := Lemmas.C06d.exExec_line_gen f ed [c] ⟨hok, hne⟩ (by simpa only [joinBar] using hlen)
  simp only [joinBar] at hl
  rw [exCommand, hl]
  simp only [runLine, joinBar, runOne, Cmd1.parsed, hi, abbrOf]
  cases runCmd f (exTxt ed [] a).2 hd c.loc c.cmd c.arg (exTxt ed [] a).1.1 with
  | none => rfl
  | some x => rfl

theorem exCommand_line (f : Nat) (ed : Ed) (c : Cmd1) (a : Bytes) (hd : String) (hok : c.Ok []) (hne : c.bytes ≠ [])
    (hlen : c.bytes.length < Gen.EXLEN) (hi : exIdx c.cmd = some (a, hd)) :
    exCommand (f + 2) ed c.bytes =
      (runCmd f (exTxt ed [] a).2 hd c.loc c.cmd c.arg (exTxt ed [] a).1.1).map
        (fun x => (x.1, (x.2.modifiedAt 0).2)) :=
  Lemmas.C06d.exCommand_line_gen f ed c a hd hok.parses hne hlen hi

/-- the parsed command and the state `runCmd` sees for the one-command line `c` -/
def lineCmd (ed : Ed) (c : Cmd1) : LineCmd × Ed :=
  match exIdx c.cmd with
  | some (a, hd) => (⟨hd, c.loc, c.cmd, c.arg, (exTxt ed [] a).1.1⟩, (exTxt ed [] a).2)
  | none => (⟨"", c.loc, c.cmd, c.arg, none⟩, ed)

/-- run a script of one-command lines through `ex_command`, collecting the splices `spliceOf` (regions by `ex_region`) -/
def runLines (f : Nat) : Ed → List Cmd1 → Option (List Splice × Ed)
  | ed, [] => some ([], ed)
  | ed, c :: cs =>
    match exCommand (f + 3) ed c.bytes with
    | none => none
    | some (rc, ed1) =>
      (runLines f ed1 cs).map (fun x => (spliceOf (lineCmd ed c).2 (lineCmd ed c).1 rc :: x.1, x.2))

/-- a script line the theorem covers: one simple command of the table, among `a i c d y pu k = p r` -/
def CoveredLine (c : Cmd1) : Prop :=
  c.Ok [] ∧ c.bytes ≠ [] ∧ c.bytes.length < Gen.EXLEN ∧ ∃ a hd, exIdx c.cmd = some (a, hd) ∧ hd ∈ covered

theorem lineCmd_splice (f : Nat) (ed edr : Ed) (c : Cmd1) (a : Bytes) (hd : String) (rc : Int)
    (hi : exIdx c.cmd = some (a, hd)) (hc : hd ∈ covered)
    (hr : runCmd (f + 1) (exTxt ed [] a).2 hd c.loc c.cmd c.arg (exTxt ed [] a).1.1 = some (rc, edr)) :
    (spliceOf (lineCmd ed c).2 (lineCmd ed c).1 rc).1 ≤ (spliceOf (lineCmd ed c).2 (lineCmd ed c).1 rc).2.1 ∧
    (spliceOf (lineCmd ed c).2 (lineCmd ed c).1 rc).2.1 ≤ (lines ed).length ∧
    lines edr = applySplice (lines ed) (spliceOf (lineCmd ed c).2 (lineCmd ed c).1 rc) := by
  have hlc : lineCmd ed c = (⟨hd, c.loc, c.cmd, c.arg, (exTxt ed [] a).1.1⟩, (exTxt ed [] a).2) := by
    simp only [lineCmd, hi]
  have k := cmd_splice f (exTxt ed [] a).2 edr ⟨hd, c.loc, c.cmd, c.arg, (exTxt ed [] a).1.1⟩ rc hc hr
  rw [exTxt_lines] at k
  rw [hlc]
  exact k

theorem line_cmd {f : Nat} {ed ed1 : Ed} {c : Cmd1} {rc : Int}
    (hcov : Lemmas.C06d.Parses c [] ∧ c.bytes ≠ [] ∧ c.bytes.length < Gen.EXLEN ∧
      ∃ a hd, exIdx c.cmd = some (a, hd) ∧ hd ∈ covered)
    (h : exCommand (f + 3) ed c.bytes = some (rc, ed1)) :
    ∃ a hd edr, exIdx c.cmd = some (a, hd) ∧ hd ∈ covered ∧
      runCmd (f + 1) (exTxt ed [] a).2 hd c.loc c.cmd c.arg (exTxt ed [] a).1.1 = some (rc, edr) ∧
      ed1 = (edr.modifiedAt 0).2 := by
  obtain ⟨hok, hne, hlen, a, hd, hi, hc⟩ := hcov
  rw [Lemmas.C06d.exCommand_line_gen (f + 1) ed c a hd hok hne hlen hi] at h
  obtain ⟨⟨rc', edr⟩, hr, rfl, rfl⟩ := Option.map_eq_some_iff.mp h
  exact ⟨a, hd, edr, hi, hc, hr, rfl⟩

theorem script_frame_lines_of (f : Nat) : ∀ (script : List Cmd1) (ed ed' : Ed) (ss : List Splice),
    (∀ c ∈ script, Lemmas.C06d.Parses c [] ∧ c.bytes ≠ [] ∧ c.bytes.length < Gen.EXLEN ∧
      ∃ a hd, exIdx c.cmd = some (a, hd) ∧ hd ∈ covered) →
    runLines f ed script = some (ss, ed') →
    lines ed' = applySplices (lines ed) ss ∧ ss.length = script.length ∧ SplicesOk (lines ed) ss :=
  splices_run lines (runLines f)
    (fun ed c _ => (exCommand (f + 3) ed c.bytes).map (fun r => (spliceOf (lineCmd ed c).2 (lineCmd ed c).1 r.1, r.2))) _
    (fun _ => rfl) (fun ed c cs => by rw [runLines]; cases exCommand (f + 3) ed c.bytes <;> rfl)
    (fun ed c _ sp ed1 hcov h => by
      obtain ⟨⟨rc, ed2⟩, hrun, rfl, rfl⟩ := Option.map_eq_some_iff.mp h
      obtain ⟨a, hd, edr, hi, hc, hr, rfl⟩ := line_cmd hcov hrun
      rw [modifiedAt0_lines]
      exact lineCmd_splice f ed edr c a hd rc hi hc hr)

/-- **script_frame for command lines**: a script of command lines `[addr]cmd [arg]` with `cmd` among
    `a i c d y pu k = p r`, each run through `ex_command`: the final text is the initial text put through one
    splice per line, the one given by the line's resolved region -/
theorem script_frame_lines (f : Nat) : ∀ (script : List Cmd1) (ed ed' : Ed) (ss : List Splice),
    (∀ c ∈ script, CoveredLine c) → runLines f ed script = some (ss, ed') →
    lines ed' = applySplices (lines ed) ss ∧ ss.length = script.length ∧ SplicesOk (lines ed) ss :=
  fun script ed ed' ss hcov =>
    script_frame_lines_of f script ed ed' ss fun c hc => ⟨(hcov c hc).1.parses, (hcov c hc).2⟩

/-- except for `rs`, the text `ex_txt` fetches and the state it leaves do not depend on the rest of the line -/
theorem exTxt_src_indep (ed : Ed) (src a : Bytes) (h : isRs a = false) :
    (exTxt ed src a).1.1 = (exTxt ed [] a).1.1 ∧ (exTxt ed src a).2 = (exTxt ed [] a).2 := by
  rw [exTxt_eq, exTxt_eq, h, Bool.false_and, Bool.false_and, if_neg Bool.false_ne_true, if_neg Bool.false_ne_true]
  split <;> exact ⟨rfl, rfl⟩

/-- the commands of one line `c1|c2|…` in order (as `runLine`), collecting the splices `spliceOf` (regions by `ex_region`) -/
def runBar (f : Nat) : Ed → List Cmd1 → Int → Option (List Splice × Int × Ed)
  | ed, [], ret => some ([], ret, ed)
  | ed, c :: cs, ret =>
    match runOne (f + 1) ed (c.parsed (joinBar cs)) ret with
    | none => none
    | some ((r, ed1), _) =>
      (runBar f ed1 cs r).map (fun x => (spliceOf (lineCmd ed c).2 (lineCmd ed c).1 r :: x.1, x.2))

theorem runBar_runLine (f : Nat) : ∀ (cs : List Cmd1) (ed : Ed) (ret : Int),
    (runBar f ed cs ret).map (fun x => x.2) = runLine (f + 1) ed cs ret := by
  intro cs
  induction cs with
  | nil => intro ed ret; rfl
  | cons c cs ih =>
    intro ed ret
    simp only [runBar, runLine]
    cases runOne (f + 1) ed (c.parsed (joinBar cs)) ret with
    | none => rfl
    | some y =>
      obtain ⟨⟨r, ed1⟩, rest⟩ := y
      simp only [Option.map_map]
      rw [← ih ed1 r]
      rfl

theorem applySplices_append (t : List Bytes) (a b : List Splice) :
    applySplices t (a ++ b) = applySplices (applySplices t a) b := by
  simp [applySplices, List.foldl_append]

theorem splicesOk_append : ∀ (a b : List Splice) (t : List Bytes), SplicesOk t a → SplicesOk (applySplices t a) b →
    SplicesOk t (a ++ b) := by
  intro a
  induction a with
  | nil => intro b t _ h; exact h
  | cons s r ih =>
    intro b t h1 h2
    obtain ⟨k1, k2, k3⟩ := h1
    exact ⟨k1, k2, ih b _ k3 h2⟩

/-- a command of a script line: not `rs`, in the table, among `a i c d y pu k = p r` -/
def CoveredCmd (c : Cmd1) : Prop :=
  isRs (abbrOf (exIdx c.cmd)) = false ∧ ∃ a hd, exIdx c.cmd = some (a, hd) ∧ hd ∈ covered

theorem bar_cmd {f : Nat} {ed ed1 : Ed} {c : Cmd1} {cs : List Cmd1} {ret r1 : Int} {rest : Bytes} (hcov : CoveredCmd c)
    (h : runOne (f + 1) ed (c.parsed (joinBar cs)) ret = some ((r1, ed1), rest)) :
    ∃ a hd, exIdx c.cmd = some (a, hd) ∧ hd ∈ covered ∧
      runCmd (f + 1) (exTxt ed [] a).2 hd c.loc c.cmd c.arg (exTxt ed [] a).1.1 = some (r1, ed1) := by
  obtain ⟨hrs, a, hd, hi, hc⟩ := hcov
  have hrs' : isRs a = false := by simpa only [hi, abbrOf] using hrs
  obtain ⟨e1, e2⟩ := exTxt_src_indep ed (joinBar cs) a hrs'
  have := runOne_cmd (p := c.parsed (joinBar cs)) hi h
  simp only [Cmd1.parsed, e1, e2] at this
  exact ⟨a, hd, hi, hc, this⟩

theorem runBar_frame (f : Nat) (cs : List Cmd1) (ed ed' : Ed) (ret r : Int) (ss : List Splice)
    (hcov : ∀ c ∈ cs, CoveredCmd c) (h : runBar f ed cs ret = some (ss, r, ed')) :
    lines ed' = applySplices (lines ed) ss ∧ ss.length = cs.length ∧ SplicesOk (lines ed) ss :=
  splices_run (σ := Int × Ed) (fun s => lines s.2) (fun s cs => runBar f s.2 cs s.1)
    (fun s c cs => (runOne (f + 1) s.2 (c.parsed (joinBar cs)) s.1).map
      (fun y => (spliceOf (lineCmd s.2 c).2 (lineCmd s.2 c).1 y.1.1, y.1.1, y.1.2))) _
    (fun _ => rfl)
    (fun s c cs => by rw [runBar]; cases runOne (f + 1) s.2 (c.parsed (joinBar cs)) s.1 <;> rfl)
    (fun s c cs sp s1 hcov h => by
      obtain ⟨⟨⟨r1, ed1⟩, rest⟩, hrun, rfl, rfl⟩ := Option.map_eq_some_iff.mp h
      obtain ⟨a, hd, hi, hc, hcmd⟩ := bar_cmd hcov hrun
      exact lineCmd_splice f s.2 ed1 c a hd r1 hi hc hcmd)
    cs (ret, ed) (r, ed') ss hcov h

/-- `ex_command` on a line of commands joined by `|` -/
theorem _root_.Neatvi.Lemmas.C06d.exCommand_bar_gen (f : Nat) (ed : Ed) (cs : List Cmd1) (hok : Lemmas.C06d.LineParses cs)
    (hlen : (joinBar cs).length < Gen.EXLEN) :
    exCommand (f + 3) ed (joinBar cs) = (runBar f ed cs 0).map (fun x => (x.2.1, (x.2.2.modifiedAt 0).2)) := by
  rw [exCommand, Lemmas.C06d.exExec_line_gen (f + 1) ed cs hok hlen, ← runBar_runLine f cs ed 0]
  cases runBar f ed cs 0 with
  | none => rfl
  | some x => rfl

/-- run a script of lines `c1|c2|…` through `ex_command`, collecting the splices `spliceOf` (regions by `ex_region`) -/
def runBarLines (f : Nat) : Ed → List (List Cmd1) → Option (List Splice × Ed)
  | ed, [] => some ([], ed)
  | ed, l :: ls =>
    match runBar f ed l 0 with
    | none => none
    | some (ss, _, ed1) => (runBarLines f (ed1.modifiedAt 0).2 ls).map (fun x => (ss ++ x.1, x.2))

/-- `runBarLines` is the run of the lines through `ex_command` -/
theorem runBarLines_exCommand (f : Nat) (ed : Ed) (l : List Cmd1) (ls : List (List Cmd1)) (hok : LineOk l)
    (hlen : (joinBar l).length < Gen.EXLEN) :
    runBarLines f ed (l :: ls) =
      match runBar f ed l 0, exCommand (f + 3) ed (joinBar l) with
      | some (ss, _, _), some (_, ed1) => (runBarLines f ed1 ls).map (fun x => (ss ++ x.1, x.2))
      | _, _ => none := by
  rw [Lemmas.C06d.exCommand_bar_gen f ed l hok.parses hlen]
  simp only [runBarLines]
  cases runBar f ed l 0 with
  | none => rfl
  | some x => rfl

/-- **script_frame for lines `c1|c2|…`**: a script whose lines are simple commands joined by `|`, all among
    `a i c d y pu k = p r`, run line by line through `ex_command` (`runBarLines_exCommand`): the final text is the
    initial text put through one splice per command, in order -/
theorem script_frame_bar (f : Nat) : ∀ (script : List (List Cmd1)) (ed ed' : Ed) (ss : List Splice),
    (∀ l ∈ script, ∀ c ∈ l, CoveredCmd c) → runBarLines f ed script = some (ss, ed') →
    lines ed' = applySplices (lines ed) ss ∧ ss.length = (script.map List.length).sum ∧ SplicesOk (lines ed) ss := by
  intro script
  induction script with
  | nil =>
    intro ed ed' ss _ h
    simp only [runBarLines, Option.some.injEq, Prod.mk.injEq] at h
    obtain ⟨rfl, rfl⟩ := h
    exact ⟨rfl, rfl, trivial⟩
  | cons l ls ih =>
    intro ed ed' ss hcov h
    simp only [runBarLines] at h
    split at h
    · cases h
    · rename_i ss0 r0 ed1 hrun
      simp only [Option.map_eq_some_iff, Prod.mk.injEq] at h
      obtain ⟨⟨ss1, ed2⟩, h1, rfl, rfl⟩ := h
      obtain ⟨k1, k2, k3⟩ := runBar_frame f l ed ed1 0 r0 ss0 (hcov l (by simp)) hrun
      obtain ⟨i1, i2, i3⟩ := ih _ ed2 ss1 (fun x hx => hcov x (by simp [hx])) h1
      rw [modifiedAt0_lines, k1] at i1 i3
      refine ⟨by rw [applySplices_append]; exact i1, by simp [k2, i2], splicesOk_append _ _ _ k3 i3⟩

def cmdU : Cmd1 := ⟨[], [117], [], [], []⟩
def cmdRedo : Cmd1 := ⟨[], [114, 101, 100, 111], [], [], []⟩

theorem cmdU_ok : cmdU.Ok [] :=
  Cmd1.ok_name (by decide) (Or.inl rfl)

theorem cmdRedo_ok : cmdRedo.Ok [] :=
  Cmd1.ok_name (by decide) (Or.inl rfl)

theorem setLb_modifiedAt_lb (ed : Ed) (lb lb' : Lb) (h : ed.lb = some lb) :
    ((ed.setLb lb').modifiedAt 0).2.lb = some (modified lb').2 := by
  rw [Lemmas.ExFrame.modifiedAt0_lb, Lemmas.ExFrame.setLb_lb, h]
  rfl

/-- the command line `u`, run through `ex_command`, is exactly the step `.undo` of the history machine of C04
    on the line buffer of the current buffer (so `C04.refines_zipper`, `C04.undo_exact`, … apply to ex scripts) -/
theorem ex_undo_is_step (f : Nat) (ed : Ed) (lb : Lb) (hlb : ed.lb = some lb) :
    (exCommand (f + 3) ed [117]).map (fun x => (x.1, x.2.lb)) =
      (C04.step lb .undo).map (fun r => ((r.1 : Int), some r.2)) := by
  have h := exCommand_line (f + 1) ed cmdU [117] "ec_undo" cmdU_ok (by decide) (by decide) (by decide)
  have ht : exTxt ed [] [117] = ((none, []), ed) := exTxt_noText ed [] [117] (by decide)
  simp only [cmdU, Cmd1.bytes, Cmd1.cmd, List.append_nil, List.nil_append, ht] at h
  rw [h, Lemmas.C20c.runCmd_undo, Lemmas.C20.ecHist]
  simp only [hlb, Option.bind_some, C04.step]
  cases hu : Lbuf.undo lb with
  | none => rfl
  | some x =>
    obtain ⟨r, lb'⟩ := x
    simp only [Option.map_some, setLb_modifiedAt_lb ed lb lb' hlb]

/-- likewise `redo` -/
theorem ex_redo_is_step (f : Nat) (ed : Ed) (lb : Lb) (hlb : ed.lb = some lb) :
    (exCommand (f + 3) ed [114, 101, 100, 111]).map (fun x => (x.1, x.2.lb)) =
      (C04.step lb .redo).map (fun r => ((r.1 : Int), some r.2)) := by
  have h := exCommand_line (f + 1) ed cmdRedo [114, 101, 100, 111] "ec_redo" cmdRedo_ok (by decide) (by decide) (by decide)
  have ht : exTxt ed [] [114, 101, 100, 111] = ((none, []), ed) := exTxt_noText ed [] _ (by decide)
  simp only [cmdRedo, Cmd1.bytes, Cmd1.cmd, List.append_nil, List.nil_append, ht] at h
  rw [h, Lemmas.C20c.runCmd_redo, Lemmas.C20.ecHist]
  simp only [hlb, Option.bind_some, C04.step]
  cases hu : Lbuf.redo lb with
  | none => rfl
  | some x =>
    obtain ⟨r, lb'⟩ := x
    simp only [Option.map_some, setLb_modifiedAt_lb ed lb lb' hlb]

/-! ## examples on a three-line buffer `a`, `b`, `c` and a file `f` holding `x\ny` -/

def edF : Ed := { bufs := [some { path := [], lb := { lines := [[97, 10], [98, 10], [99, 10]] } }],
                  files := [⟨[102], [120, 10, 121], 0⟩] }

/-- `1r f` -/
example : (runCmd 1 edF "ec_read" [49] [114] [102] none).map (fun r => (r.1, lines r.2, r.2.xrow)) =
    some (0, [[97, 10], [120, 10], [121, 10], [98, 10], [99, 10]], 2) := by
  rw [runCmd_ec_read]
  decide +kernel

/-- `0r f` -/
example : (runCmd 1 edF "ec_read" [48] [114] [102] none).map (fun r => (r.1, lines r.2, r.2.xrow)) =
    some (0, [[120, 10], [121, 10], [97, 10], [98, 10], [99, 10]], 1) := by
  rw [runCmd_ec_read]
  decide +kernel

/-- `r g`: no such file -/
example : (runCmd 1 edF "ec_read" [] [114] [103] none).map (fun r => (r.1, lines r.2)) =
    some (1, [[97, 10], [98, 10], [99, 10]]) := by
  rw [runCmd_ec_read]
  decide +kernel

/-- Enter in ex mode prints the next line -/
example : (runCmd 2 edF "ec_null" [] [] [] none).map (fun r => (r.1, r.2.out, r.2.xrow)) =
    some (0, [98, 10], 1) := by
  rw [Lemmas.C20c.runCmd_null, if_pos (by decide), Lemmas.C20.runCmd_print]
  decide +kernel

/-- `2d`, the command boundary, then `u` -/
example : ((runCmd 1 edF "ec_delete" [50] [100] [] none).bind (fun r =>
      runCmd 1 ((r.2.modifiedAt 0).2) "ec_undo" [] [117] [] none)).map (fun r => (r.1, lines r.2)) =
    some (0, [[97, 10], [98, 10], [99, 10]]) := by
  simp only [Lemmas.C20c.runCmd_delete, Lemmas.C20c.runCmd_undo]
  decide +kernel

/-- a script: `2d`, `0r f`, `5d` (rejected), `$a` with the text `z`; its splices and its result -/
example : (runScript 0 edF [⟨"ec_delete", [50], [100], [], none⟩, ⟨"ec_read", [48], [114], [102], none⟩,
      ⟨"ec_delete", [53], [100], [], none⟩, ⟨"ec_insert", [36], [97], [], some [122, 10]⟩]).map
      (fun r => (r.1, lines r.2)) =
    some ([(1, 2, []), (0, 0, [[120, 10], [121, 10]]), (0, 0, []), (4, 4, [[122, 10]])],
      [[120, 10], [121, 10], [97, 10], [99, 10], [122, 10]]) := by
  simp only [runScript, Lemmas.C20c.runCmd_delete, runCmd_ec_read, Lemmas.C20c.runCmd_insert]
  decide +kernel

def cmd1d : Cmd1 := ⟨[49], [100], [], [], []⟩
def cmd2d : Cmd1 := ⟨[50], [100], [], [], []⟩

theorem cmd1d_ok : cmd1d.Ok (124 :: cmd2d.bytes) :=
  Cmd1.ok_name (by decide) (Or.inr ⟨_, rfl⟩)

theorem cmd2d_ok : cmd2d.Ok [] :=
  Cmd1.ok_name (by decide) (Or.inl rfl)

/-- the line `1d|2d` (through `exExec_two_dispatch`): `a` goes, then the second of the two lines left -/
example : (exExec 2 edF [49, 100, 124, 50, 100]).map (fun r => (r.1, lines r.2)) = some (0, [[98, 10]]) := by
  have := exExec_two_dispatch 1 edF cmd1d cmd2d cmd1d_ok cmd2d_ok (by decide) [100] [100] "ec_delete" "ec_delete"
    (by decide) (by decide) (by decide) (by decide) (by decide)
  simp only [cmd1d, cmd2d, Cmd1.bytes, Cmd1.cmd, List.append_nil, List.cons_append, List.nil_append] at this
  rw [this]
  simp only [Lemmas.C20c.runCmd_delete]
  decide +kernel

end Neatvi.Props.C06b
