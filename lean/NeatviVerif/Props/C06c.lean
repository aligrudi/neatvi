import NeatviVerif.Lemmas.C06cExec
import NeatviVerif.Lemmas.C06cCongr
import NeatviVerif.Props.C06b
/-!
# C06c: ex line commands, continued: the filter `[range]!cmd` and the register execute `[addr]@r`

Everything is stated on the model (`Model/Ex.lean`, `Model/ExCmd.lean`), for all states and inputs; vocabulary of
`Props/C06.lean` and `Props/C06b.lean` (`lines ed`, `AddrOnly`, `Quiet`, `OnlyLb`, `Splice`, `applySplice`).

1. `ec_exec_spec` (the filter, in the order the model runs it: guard, expansion of the command text, address, pipe
   oracle, `lbuf_edit`), `ec_exec_noaddr` (`:!cmd` is `unmodelled`), `ec_exec_ok` (no trap on a valid range).
   `execGuard` is the unsaved-changes guard, `GuardFrame` what it may change (`Lemmas/C06cGuard.lean`), `Refused`
   what a rejected filter may have changed.
2. the closed shell of the harnesses (`builtinPipe`): `filter_builtin`, `filter_cat_identity`, `filter_tr_upper`,
   `filter_true_deletes`, `filter_unknown_deletes`, `filter_sed_first`, `filter_printf`.
3. `ec_at_spec`, `ec_at_runs`, `ec_at_too_deep`, `ec_at_dispatch`, `at_runs_covered_line`: `[addr]@r` is typing the
   register's text as a command line at the first addressed line, one level deeper in the count of executing
   registers (`Ed.atDepth`, counted down again afterwards); with sixteen registers executing it returns 1 instead.
4. `invalid_region_rejected_exec_at`, `ec_exec_guard_refuses`, `ec_exec_noexpand`, `ec_exec_invalid_region`.
4b. `filter_splice`, `filter_invalid_region_rejected`: the same on the state *before* the command (the guard's bump is
   invisible to `ex_region` and `ex_pathexpand`: `Lemmas/C06cCongr.lean`); `cmd_splice_x`, `script_frame_x`: scripts
   of `a i c d y pu k = p r rs` and filters are sequences of splices.
5. `exCommand_one`, `filter_line`: whole command lines through `ex_command`.
-/
set_option linter.unusedSimpArgs false

namespace Neatvi.Props.C06c
open Neatvi Neatvi.Lbuf Neatvi.LbufIo Neatvi.Ex Neatvi.Lemmas.C06 Neatvi.Lemmas.C06b Neatvi.Lemmas.C06c
open Neatvi.Lemmas.Hist (optLines)
open Neatvi.Props.C01 (WfLine)

/-- what a refused filter may have changed: the guard's side effects (`GuardFrame`: the sequence counter of the
    current buffer, with autowrite the file system, the message `buffer modified`), then the address side effects
    and the message line (`Quiet`) -/
def Refused (ed ed' : Ed) : Prop := ∃ edg, GuardFrame ed edg ∧ Quiet edg ed'

theorem Refused.lines {ed ed' : Ed} (h : Refused ed ed') : lines ed' = lines ed := by
  obtain ⟨edg, h1, h2⟩ := h
  rw [h2.lines, h1.lines]

theorem Refused.regs {ed ed' : Ed} (h : Refused ed ed') : ed'.regs = ed.regs := by
  obtain ⟨edg, h1, h2⟩ := h
  rw [h2.regs, h1.regs]

theorem Refused.out {ed ed' : Ed} (h : Refused ed ed') : ed'.out = ed.out := by
  obtain ⟨edg, h1, h2⟩ := h
  rw [h2.out, h1.out]

theorem cp_of_lines {ed ed' : Ed} (h : lines ed' = lines ed) (b e : Int) : ed'.cp b e = ed.cp b e := by
  rw [C06.cp_eq, C06.cp_eq, h]

/-- **the filter `[range]!cmd`** (`ec_exec` with a non-empty address).  The model runs, in this order:

    1. the unsaved-changes guard `execGuard` (`bufs_modified(0, "buffer modified")` unless `wa` is set), which leaves
       the state `edg`; whatever it answers, `GuardFrame ed edg`: it only bumps the sequence counter of the current
       buffer, with autowrite writes the file, and may show its message — the text, the registers, the pipe table
       are the same.  If it refuses: return 1, `ed' = edg`;
    2. `ex_pathexpand` on the command text (`%`, `#`, a leading `=`, backslash pairs; spaces allowed).  If `%` / `#`
       is not set: return 1, `ed'` is `edg` with the message.  Otherwise the state is untouched (`edp = edg`);
    3. the address, `exRegion edg loc`.  If it does not resolve to existing lines: return 1, `ed' = ed1`, the state
       after the address side effects;
    4. the pipe oracle on the text of lines `b..e-1` (`ed.cp b e`, the lines joined: `C06.cp_eq`), then `lbuf_edit`.

    * return 0: the region is valid, `0 ≤ b ≤ e ≤ len` (`region_all`), and either the oracle says "no output at all"
      (`some none`: `cmd_pipe` returned `NULL`) and nothing but the address side effects happened, or it answers
      `out` and **`lines ed' = take b ++ splitLines out ++ drop e`**: exactly the addressed range is replaced by the
      command's output, every other line keeps its bytes and order; only the line buffer of the current buffer
      differs from `ed1` (`OnlyLb`, and no other field: `ed' = { ed1 with bufs := ed'.bufs }`);
    * return 1: the text is unchanged and `Refused ed ed'`.

    (`filter_splice` below restates the success case with the region and the command text evaluated in `ed`.) -/
theorem ec_exec_spec (f : Nat) (ed ed' : Ed) (loc cmd arg : Bytes) (txt : Option Bytes) (rc : Int)
    (hloc : loc ≠ [])
    (h : runCmd (f + 1) ed "ec_exec" loc cmd arg txt = some (rc, ed')) :
    (rc = 0 ∨ rc = 1) ∧
    (∃ g edg, execGuard ed = some (g, edg) ∧ GuardFrame ed edg ∧
      (g = true → rc = 1 ∧ ed' = edg) ∧
      (g = false → ∃ p edp, pathExpand edg arg true = some (p, edp) ∧
        (p = none → rc = 1 ∧ ed' = edp ∧ edp = edg.show (strOf "pathname \"%\" or \"#\" is not set")) ∧
        (∀ ecmd, p = some ecmd → edp = edg ∧ ∃ r b e ed1, exRegion edg loc = some ((r, b, e), ed1) ∧
          (r ≠ 0 → rc = 1 ∧ ed' = ed1) ∧ (r = 0 → rc = 0)))) ∧
    (rc = 0 → ∃ edg ecmd b e ed1, execGuard ed = some (false, edg) ∧ GuardFrame ed edg ∧
      pathExpand edg arg true = some (some ecmd, edg) ∧
      exRegion edg loc = some ((0, b, e), ed1) ∧ 0 ≤ b ∧ b ≤ e ∧ e ≤ ed.len ∧
      ((ed.pipe ecmd (ed.cp b e) = some none ∧ ed' = ed1) ∨
       (∃ out, ed.pipe ecmd (ed.cp b e) = some (some out) ∧
          lines ed' = (lines ed).take b.toNat ++ splitLines out ++ (lines ed).drop e.toNat ∧
          ed'.len = ed.len - (e - b) + (splitLines out).length ∧
          OnlyLb ed1 ed' ∧ ed' = { ed1 with bufs := ed'.bufs }))) ∧
    (rc = 1 → lines ed' = lines ed ∧ Refused ed ed') := by
  have hle : loc.isEmpty = false := List.isEmpty_eq_false_iff.2 hloc
  rw [Lemmas.C20c.runCmd_exec] at h
  obtain ⟨g, edg, hg, hcase⟩ := Lemmas.C02b.ecExec_cases h
  have hg : execGuard ed = some (g, edg) := hg
  have hgf := execGuard_frame _ _ _ hg
  rcases hcase with ⟨rfl, rfl, he⟩ | ⟨rfl, p, edp, hpe, hcase⟩
  · have hr : Refused ed ed' := ⟨edg, hgf, he ▸ Quiet.refl _⟩
    exact ⟨Or.inr rfl, ⟨true, edg, hg, hgf, fun _ => ⟨rfl, he⟩, fun h => by cases h⟩, (fun h => by omega),
      fun _ => ⟨hr.lines, hr⟩⟩
  rcases hcase with ⟨rfl, rfl, he⟩ | ⟨ecmd, rfl, hcase⟩
  · have hr : Refused ed ed' := ⟨edg, hgf, he ▸ pathExpand_quiet hpe⟩
    exact ⟨Or.inr rfl, ⟨false, edg, hg, hgf, (fun h => by cases h),
      fun _ => ⟨none, edp, hpe, fun _ => ⟨rfl, he, (pathExpand_cases hpe).2 rfl⟩, fun _ h => by cases h⟩⟩,
      (fun h => by omega), fun _ => ⟨hr.lines, hr⟩⟩
  obtain rfl : edp = edg := (pathExpand_cases hpe).1 rfl
  rcases hcase with ⟨hl, _⟩ | ⟨_, r, b, e, ed1, hreg, hcase⟩
  · rw [hle] at hl; cases hl
  obtain ⟨ha, hrc, hv, _⟩ := region_all _ _ _ _ _ _ hreg
  rcases hcase with ⟨hr0, rfl, rfl⟩ | ⟨rfl, rfl, hcase⟩
  · have hr : Refused ed ed' := ⟨edp, hgf, Quiet.of_addrOnly ha⟩
    exact ⟨Or.inr rfl, ⟨false, edp, hg, hgf, (fun h => by cases h),
      fun _ => ⟨some ecmd, edp, hpe, (fun h => by cases h),
        fun c hc => ⟨rfl, r, b, e, ed', hreg, fun _ => ⟨rfl, rfl⟩, fun h => absurd h hr0⟩⟩⟩,
      (fun h => by omega), fun _ => ⟨hr.lines, hr⟩⟩
  obtain ⟨v1, v2, v3, _⟩ := hv rfl
  have hl1 : lines ed1 = lines ed := ha.lines.trans hgf.lines
  have hlen1 : ed1.len = ed.len := ha.len.trans hgf.len
  have hpipe : ed1.pipe ecmd (ed1.cp b e) = ed.pipe ecmd (ed.cp b e) := by
    rw [cp_of_lines hl1]
    apply pipe_congr
    obtain ⟨_, _, _, rfl⟩ := ha
    exact hgf.pipes
  rw [hpipe] at hcase
  rcases hcase with ⟨hpp, _⟩ | ⟨hpp, rfl⟩ | ⟨out, hpp, hed⟩
  · exact absurd hpp (pipe_ne_none _ _ _)
  · exact ⟨Or.inl rfl, ⟨false, edp, hg, hgf, (fun h => by cases h),
      fun _ => ⟨some ecmd, edp, hpe, (fun h => by cases h),
        fun c hc => ⟨rfl, 0, b, e, ed', hreg, fun h => absurd rfl h, fun _ => rfl⟩⟩⟩,
      fun _ => ⟨edp, ecmd, b, e, ed', hg, hgf, hpe, hreg, v1, v2, by rw [← hlen1]; exact v3,
        Or.inl ⟨hpp, rfl⟩⟩,
      fun h => by omega⟩
  · have hfr := ed_edit_frame _ _ _ _ _ v1 v2 v3 hed
    rw [hl1, hlen1] at hfr
    exact ⟨Or.inl rfl, ⟨false, edp, hg, hgf, (fun h => by cases h),
      fun _ => ⟨some ecmd, edp, hpe, (fun h => by cases h),
        fun c hc => ⟨rfl, 0, b, e, ed1, hreg, fun h => absurd rfl h, fun _ => rfl⟩⟩⟩,
      fun _ => ⟨edp, ecmd, b, e, ed1, hg, hgf, hpe, hreg, v1, v2, by rw [← hlen1]; exact v3,
        Or.inr ⟨out, hpp, hfr.1, hfr.2, edit_onlyLb hed, edit_fields _ _ _ _ _ hed⟩⟩,
      fun h => by omega⟩

/-- `:!cmd` without an address: the model does not describe what the command prints; it only raises the flag
    `unmodelled` (after the same guard and the same expansion of the command text).  The text never changes. -/
theorem ec_exec_noaddr (f : Nat) (ed ed' : Ed) (cmd arg : Bytes) (txt : Option Bytes) (rc : Int)
    (h : runCmd (f + 1) ed "ec_exec" [] cmd arg txt = some (rc, ed')) :
    (rc = 0 ∨ rc = 1) ∧ lines ed' = lines ed ∧
    (rc = 0 → ∃ edg ecmd, execGuard ed = some (false, edg) ∧ GuardFrame ed edg ∧
      pathExpand edg arg true = some (some ecmd, edg) ∧ ed' = { edg with unmodelled := true }) ∧
    (rc = 1 → Refused ed ed') := by
  rw [Lemmas.C20c.runCmd_exec] at h
  obtain ⟨g, edg, hg, hcase⟩ := Lemmas.C02b.ecExec_cases h
  have hg : execGuard ed = some (g, edg) := hg
  have hgf := execGuard_frame _ _ _ hg
  rcases hcase with ⟨rfl, rfl, he⟩ | ⟨rfl, p, edp, hpe, hcase⟩
  · have hr : Refused ed ed' := ⟨edg, hgf, he ▸ Quiet.refl _⟩
    exact ⟨Or.inr rfl, hr.lines, (fun h => by omega), fun _ => hr⟩
  rcases hcase with ⟨rfl, rfl, he⟩ | ⟨ecmd, rfl, hcase⟩
  · have hr : Refused ed ed' := ⟨edg, hgf, he ▸ pathExpand_quiet hpe⟩
    exact ⟨Or.inr rfl, hr.lines, (fun h => by omega), fun _ => hr⟩
  obtain rfl : edp = edg := (pathExpand_cases hpe).1 rfl
  rcases hcase with ⟨_, rfl, rfl⟩ | ⟨hl, _⟩
  · exact ⟨Or.inl rfl, hgf.lines, fun _ => ⟨edp, ecmd, hg, hgf, hpe, rfl⟩, fun h => by omega⟩
  · cases hl

/-- with a current buffer, the guard passed, a command text that expands and a valid range, the filter returns 0
    (and `ec_exec_spec` says what the state is) -/
theorem ec_exec_ok (f : Nat) (ed edg ed1 : Ed) (loc cmd arg ecmd : Bytes) (txt : Option Bytes) (b e : Int) (lb : Lb)
    (hloc : loc ≠ []) (hg : execGuard ed = some (false, edg)) (hpe : pathExpand edg arg true = some (some ecmd, edg))
    (hreg : exRegion edg loc = some ((0, b, e), ed1)) (hlb : ed.lb = some lb) :
    ∃ ed', runCmd (f + 1) ed "ec_exec" loc cmd arg txt = some (0, ed') := by
  have hle : loc.isEmpty = false := List.isEmpty_eq_false_iff.2 hloc
  obtain ⟨ha, _, hv, _⟩ := region_all _ _ _ _ _ _ hreg
  obtain ⟨v1, v2, _, _⟩ := hv rfl
  have hgf := execGuard_frame _ _ _ hg
  rw [ec_exec_eq, hg]
  simp only [hpe, hle, Bool.false_eq_true, if_false, hreg, bne_self_eq_false]
  cases hpp : ed1.pipe ecmd (ed1.cp b e) with
  | none => exact absurd hpp (pipe_ne_none _ _ _)
  | some o =>
    cases o with
    | none => exact ⟨_, rfl⟩
    | some out =>
      have hlb1 : ∃ lb1, ed1.lb = some lb1 := by
        have h1 : lines ed1 = lines ed := ha.lines.trans hgf.lines
        rw [ha.lb]
        rcases hgf.bufs with hb | hb
        · exact ⟨lb, by rw [Lemmas.ExFrame.lb_of_bufs hb]; exact hlb⟩
        · rw [Lemmas.ExFrame.lb_of_bufs hb]
          unfold Ed.lb Ed.cur at hlb ⊢
          unfold Ed.modifiedAt
          cases hbs : ed.bufs with
          | nil => rw [hbs] at hlb; simp at hlb
          | cons x xs =>
            rw [hbs] at hlb
            cases x with
            | none => simp at hlb
            | some bb => simp
      obtain ⟨lb1, hlb1⟩ := hlb1
      obtain ⟨ed2, hed⟩ := ed_edit_total ed1 lb1 (some out) b e hlb1 v1 v2
      exact ⟨ed2, by simp [hed]⟩

/-! ## 2. the closed shell of the harnesses

When the table `ed.pipes` has no entry for the command, the model answers with `builtinPipe`, the closed shell
the test harnesses install in place of `/bin/sh` (`verif_shell` in `harness/common.h`): it interprets `cat`,
`tr a-z A-Z`, `sed 1q`, `printf x` and nothing else — every other command, `true` included, produces no output.
The corollaries below are statements about that shell, not about `/bin/sh`. -/

/-- the lines `b..e-1` of the buffer -/
def rangeLines (ed : Ed) (b e : Int) : List Bytes := ((lines ed).drop b.toNat).take (e.toNat - b.toNat)

theorem range_split (l : List Bytes) (b e : Nat) (hbe : b ≤ e) :
    l.take b ++ (l.drop b).take (e - b) ++ l.drop e = l := by
  have : l.drop e = (l.drop b).drop (e - b) := by rw [List.drop_drop]; congr 1; omega
  rw [this, List.append_assoc, List.take_append_drop, List.take_append_drop]

theorem rangeLines_wf {ed : Ed} (hwf : ∀ l ∈ lines ed, WfLine l) (b e : Int) : ∀ l ∈ rangeLines ed b e, WfLine l :=
  fun l hl => hwf l (List.mem_of_mem_drop (List.mem_of_mem_take hl))

/-- **a filter through the closed shell** (a command text `ex_pathexpand` copies as it is, no table entry): on
    success the addressed range is replaced by the lines of `builtinPipe arg (text of the range)` -/
theorem filter_builtin (f : Nat) (ed ed' : Ed) (loc cmd arg : Bytes) (txt : Option Bytes)
    (hloc : loc ≠ []) (hp : PlainArg arg) (hl : arg.length < 1000) (hne : NoEntry ed arg)
    (h : runCmd (f + 1) ed "ec_exec" loc cmd arg txt = some (0, ed')) :
    ∃ edg b e ed1, execGuard ed = some (false, edg) ∧ exRegion edg loc = some ((0, b, e), ed1) ∧
      0 ≤ b ∧ b ≤ e ∧ e ≤ ed.len ∧
      lines ed' = (lines ed).take b.toNat ++ splitLines (builtinPipe arg (rangeLines ed b e).flatten) ++
        (lines ed).drop e.toNat := by
  obtain ⟨edg, ecmd, b, e, ed1, k1, k2, k3, k4, k5, k6, k7, k8⟩ := (ec_exec_spec f ed ed' loc cmd arg txt 0 hloc h).2.2.1 rfl
  rw [pathExpand_plain edg arg hp hl] at k3
  simp only [Option.some.injEq, Prod.mk.injEq, and_true] at k3
  subst k3
  rw [pipe_noEntry hne, C06.cp_eq] at k8
  refine ⟨edg, b, e, ed1, k1, k4, k5, k6, k7, ?_⟩
  rcases k8 with ⟨k8, _⟩ | ⟨out, k8, k9, _⟩
  · cases k8
  · simp only [Option.some.injEq] at k8
    rw [k9, ← k8]
    rfl

theorem filter_refused (f : Nat) (ed ed' : Ed) (loc cmd arg : Bytes) (txt : Option Bytes)
    (hloc : loc ≠ []) (h : runCmd (f + 1) ed "ec_exec" loc cmd arg txt = some (1, ed')) : lines ed' = lines ed :=
  ((ec_exec_spec f ed ed' loc cmd arg txt 1 hloc h).2.2.2 rfl).1

/-- **`[range]!cat` is the identity on the text** (on a buffer whose lines all end in their newline, which is what
    `lbuf_replace` stores: `C01.lines_wf`), whatever the address and whether or not the command was refused -/
theorem filter_cat_identity (f : Nat) (ed ed' : Ed) (loc cmd : Bytes) (txt : Option Bytes) (rc : Int)
    (hloc : loc ≠ []) (hwf : ∀ l ∈ lines ed, WfLine l) (hne : NoEntry ed (strOf "cat"))
    (h : runCmd (f + 1) ed "ec_exec" loc cmd (strOf "cat") txt = some (rc, ed')) : lines ed' = lines ed := by
  rcases (ec_exec_spec f ed ed' loc cmd _ txt rc hloc h).1 with rfl | rfl
  · obtain ⟨edg, b, e, ed1, _, _, k1, k2, k3, k4⟩ :=
      filter_builtin f ed ed' loc cmd _ txt hloc plain_cat (by rw [strOf_cat]; decide) hne h
    rw [k4, builtin_cat, Props.C01.split_of_join _ (rangeLines_wf hwf b e)]
    exact range_split _ _ _ (by omega)
  · exact filter_refused f ed ed' loc cmd _ txt hloc h

/-- **`[range]!tr a-z A-Z`**: the addressed lines are replaced by their upper-cased bytes, line by line — the same
    number of lines, every other line in place -/
theorem filter_tr_upper (f : Nat) (ed ed' : Ed) (loc cmd : Bytes) (txt : Option Bytes)
    (hloc : loc ≠ []) (hwf : ∀ l ∈ lines ed, WfLine l) (hne : NoEntry ed (strOf "tr a-z A-Z"))
    (h : runCmd (f + 1) ed "ec_exec" loc cmd (strOf "tr a-z A-Z") txt = some (0, ed')) :
    ∃ edg b e ed1, execGuard ed = some (false, edg) ∧ exRegion edg loc = some ((0, b, e), ed1) ∧
      0 ≤ b ∧ b ≤ e ∧ e ≤ ed.len ∧
      lines ed' = (lines ed).take b.toNat ++ (rangeLines ed b e).map (fun l => l.map upperC) ++
        (lines ed).drop e.toNat ∧
      (lines ed').length = (lines ed).length := by
  obtain ⟨edg, b, e, ed1, k0, k0', k1, k2, k3, k4⟩ :=
    filter_builtin f ed ed' loc cmd _ txt hloc plain_tr (by rw [strOf_tr]; decide) hne h
  rw [builtin_tr, split_tr _ (rangeLines_wf hwf b e)] at k4
  refine ⟨edg, b, e, ed1, k0, k0', k1, k2, k3, k4, ?_⟩
  have := congrArg List.length (range_split (lines ed) b.toNat e.toNat (by omega))
  rw [k4]
  simp only [List.length_append, List.length_map, rangeLines] at this ⊢
  exact this

/-- **a command outside the closed shell's table behaves like `true`**: it produces no output, so the addressed
    lines are deleted.  This is a statement about the harnesses' closed shell (`builtinPipe`: every command it does
    not interpret exits with status 127 and no output), *not* a claim about `/bin/sh`; with a real shell the
    outcome is whatever the table `ed.pipes` records for the command (`ec_exec_spec`). -/
theorem filter_unknown_deletes (f : Nat) (ed ed' : Ed) (loc cmd arg : Bytes) (txt : Option Bytes)
    (hloc : loc ≠ []) (hp : PlainArg arg) (hl : arg.length < 1000) (hu : Unknown arg) (hne : NoEntry ed arg)
    (h : runCmd (f + 1) ed "ec_exec" loc cmd arg txt = some (0, ed')) :
    ∃ edg b e ed1, execGuard ed = some (false, edg) ∧ exRegion edg loc = some ((0, b, e), ed1) ∧
      0 ≤ b ∧ b ≤ e ∧ e ≤ ed.len ∧ lines ed' = (lines ed).take b.toNat ++ (lines ed).drop e.toNat := by
  obtain ⟨edg, b, e, ed1, k0, k0', k1, k2, k3, k4⟩ := filter_builtin f ed ed' loc cmd arg txt hloc hp hl hne h
  rw [builtin_unknown hu] at k4
  exact ⟨edg, b, e, ed1, k0, k0', k1, k2, k3, by simpa [splitLines, splitAux] using k4⟩

/-- **`[range]!true`** deletes the addressed lines (`ed.pipes = []` is enough for `NoEntry`: `noEntry_of_nil`) -/
theorem filter_true_deletes (f : Nat) (ed ed' : Ed) (loc cmd : Bytes) (txt : Option Bytes)
    (hloc : loc ≠ []) (hne : NoEntry ed (strOf "true"))
    (h : runCmd (f + 1) ed "ec_exec" loc cmd (strOf "true") txt = some (0, ed')) :
    ∃ edg b e ed1, execGuard ed = some (false, edg) ∧ exRegion edg loc = some ((0, b, e), ed1) ∧
      0 ≤ b ∧ b ≤ e ∧ e ≤ ed.len ∧ lines ed' = (lines ed).take b.toNat ++ (lines ed).drop e.toNat :=
  filter_unknown_deletes f ed ed' loc cmd _ txt hloc plain_true (by rw [strOf_true]; decide) unknown_true hne h

/-- **`[range]!sed 1q`** keeps the first addressed line only -/
theorem filter_sed_first (f : Nat) (ed ed' : Ed) (loc cmd : Bytes) (txt : Option Bytes)
    (hloc : loc ≠ []) (hwf : ∀ l ∈ lines ed, WfLine l) (hne : NoEntry ed (strOf "sed 1q"))
    (h : runCmd (f + 1) ed "ec_exec" loc cmd (strOf "sed 1q") txt = some (0, ed')) :
    ∃ edg b e ed1, execGuard ed = some (false, edg) ∧ exRegion edg loc = some ((0, b, e), ed1) ∧
      0 ≤ b ∧ b ≤ e ∧ e ≤ ed.len ∧
      lines ed' = (lines ed).take b.toNat ++ (rangeLines ed b e).take 1 ++ (lines ed).drop e.toNat := by
  obtain ⟨edg, b, e, ed1, k0, k0', k1, k2, k3, k4⟩ :=
    filter_builtin f ed ed' loc cmd _ txt hloc plain_sed (by rw [strOf_sed]; decide) hne h
  rw [builtin_sed, split_sed _ (rangeLines_wf hwf b e)] at k4
  exact ⟨edg, b, e, ed1, k0, k0', k1, k2, k3, k4⟩

/-- **`[range]!printf x`** replaces the addressed lines by the one line `x` -/
theorem filter_printf (f : Nat) (ed ed' : Ed) (loc cmd : Bytes) (txt : Option Bytes)
    (hloc : loc ≠ []) (hne : NoEntry ed (strOf "printf x"))
    (h : runCmd (f + 1) ed "ec_exec" loc cmd (strOf "printf x") txt = some (0, ed')) :
    ∃ edg b e ed1, execGuard ed = some (false, edg) ∧ exRegion edg loc = some ((0, b, e), ed1) ∧
      0 ≤ b ∧ b ≤ e ∧ e ≤ ed.len ∧
      lines ed' = (lines ed).take b.toNat ++ [[120, 10]] ++ (lines ed).drop e.toNat := by
  obtain ⟨edg, b, e, ed1, k0, k0', k1, k2, k3, k4⟩ :=
    filter_builtin f ed ed' loc cmd _ txt hloc plain_printf (by rw [strOf_printf]; decide) hne h
  rw [builtin_printf] at k4
  exact ⟨edg, b, e, ed1, k0, k0', k1, k2, k3, by simpa [splitLines, splitAux] using k4⟩

/-- the `ra` variant (`@` with the register's text edited first), which the model does not describe -/
def isRa (cmd : Bytes) : Bool := cmd.headD 0 == 114 && cmd.getD 1 0 == 97

/-- `runCmd` hands `ec_at` over to `ecAt` (one level of fuel) -/
theorem ec_at_dispatch (f : Nat) (ed : Ed) (loc cmd arg : Bytes) (txt : Option Bytes) :
    runCmd (f + 1) ed "ec_at" loc cmd arg txt = ecAt f ed loc cmd arg :=
  Lemmas.C20c.runCmd_at f ed loc cmd arg txt

/-- **`[addr]@r`.**  The register is looked up first (`reg_get`, computed registers included), then the address is
    evaluated.
    * register unset: return 1, the state is unchanged;
    * the address does not resolve to existing lines: return 1, only the address side effects happened
      (`AddrOnly`), the text is unchanged;
    * sixteen registers are already executing (`atDepth ≥ 16`): return 1 with the message "register recursion too
      deep", the text is unchanged, the register is not run;
    * otherwise the current line becomes the first addressed line `b` and the register's text is run as a command
      line one level deeper: the result is that of `exCommand f { ed1 with xrow := b, atDepth := ed1.atDepth + 1 } buf`
      with the depth counted down again — executing a register is typing its text at that line (`ed1` the state
      after the address evaluation, which differs from `ed` by `AddrOnly`).
      For the `ra` variant the model only raises `unmodelled` and returns 1. -/
theorem ec_at_spec (f : Nat) (ed ed' : Ed) (loc cmd arg : Bytes) (rc : Int)
    (h : ecAt (f + 1) ed loc cmd arg = some (rc, ed')) :
    (regGet ed (regName arg) = none → rc = 1 ∧ ed' = ed) ∧
    (∀ buf, regGet ed (regName arg) = some buf →
      ∃ r b e ed1, exRegion ed loc = some ((r, b, e), ed1) ∧ AddrOnly ed ed1 ∧
        (r ≠ 0 → rc = 1 ∧ ed' = ed1 ∧ lines ed' = lines ed) ∧
        (r = 0 → 0 ≤ b ∧ b ≤ e ∧ e ≤ ed.len ∧
          (16 ≤ ed1.atDepth → rc = 1 ∧ ed' = ed1.show (strOf "register recursion too deep") ∧ lines ed' = lines ed) ∧
          (ed1.atDepth < 16 →
            (isRa cmd = true → rc = 1 ∧ ed' = { ed1 with xrow := b, unmodelled := true } ∧ lines ed' = lines ed) ∧
            (isRa cmd = false → ∃ ed2,
              exCommand f { ed1 with xrow := b, atDepth := ed1.atDepth + 1 } buf = some (rc, ed2) ∧
              ed' = { ed2 with atDepth := ed2.atDepth - 1 })))) := by
  rcases Lemmas.C02b.ecAt_cases h with ⟨hn, rfl, rfl⟩ | ⟨buf, r, b, e, ed1, hreg, hr, h⟩
  · exact ⟨fun _ => ⟨rfl, rfl⟩, fun _ hb => by rw [hn] at hb; cases hb⟩
  refine ⟨fun hn => (by rw [hn] at hreg; cases hreg), fun buf' hb => ?_⟩
  rw [hreg] at hb; cases hb
  obtain ⟨ha, _, hv, _⟩ := region_all _ _ _ _ _ _ hr
  refine ⟨r, b, e, ed1, hr, ha, fun hr0 => ?_, fun hr0 => ?_⟩
  · rcases h with ⟨_, rfl, rfl⟩ | ⟨hrc, _⟩
    · exact ⟨rfl, rfl, ha.lines⟩
    · exact absurd (by simpa using hrc) hr0
  · subst hr0
    obtain ⟨v1, v2, v3, _⟩ := hv rfl
    rcases h with ⟨hrc, _⟩ | ⟨_, h⟩
    · exact absurd hrc (by decide)
    refine ⟨v1, v2, by rw [← ha.len]; exact v3, fun hd => ?_, fun hd => ?_⟩
    · rcases h with ⟨_, rfl, rfl⟩ | ⟨hd', _⟩
      · exact ⟨rfl, rfl, ha.lines⟩
      · omega
    · rcases h with ⟨hd', _⟩ | ⟨_, h⟩
      · omega
      unfold isRa
      rcases h with ⟨hra, rfl, rfl⟩ | ⟨hra, h⟩
      · exact ⟨fun _ => ⟨rfl, rfl, ha.lines⟩, fun c => by rw [hra] at c; cases c⟩
      · exact ⟨fun c => (by rw [hra] at c; cases c), fun _ => h⟩

/-- the forward reading: a set register, a valid address and fewer than sixteen registers executing make `@r` the
    run of the register's text one level deeper (the depth is counted down again afterwards) -/
theorem ec_at_runs (f : Nat) (ed ed1 : Ed) (loc cmd arg buf : Bytes) (b e : Int)
    (hg : regGet ed (regName arg) = some buf) (hr : exRegion ed loc = some ((0, b, e), ed1)) (hra : isRa cmd = false)
    (hd : ed1.atDepth < 16) :
    ecAt (f + 1) ed loc cmd arg =
      (exCommand f { ed1 with xrow := b, atDepth := ed1.atDepth + 1 } buf).map
        (fun x => (x.1, { x.2 with atDepth := x.2.atDepth - 1 })) := by
  unfold isRa at hra
  rw [ecAt, hg]
  simp only [hr, bne_self_eq_false, Bool.false_eq_true, if_false]
  rw [if_neg (by omega), if_neg (by rw [hra]; simp)]
  cases exCommand f { ed1 with xrow := b, atDepth := ed1.atDepth + 1 } buf with
  | none => rfl
  | some y => rfl

/-- at the limit the register is not run -/
theorem ec_at_too_deep (f : Nat) (ed ed1 : Ed) (loc cmd arg buf : Bytes) (b e : Int)
    (hg : regGet ed (regName arg) = some buf) (hr : exRegion ed loc = some ((0, b, e), ed1))
    (hd : 16 ≤ ed1.atDepth) :
    ecAt (f + 1) ed loc cmd arg = some (1, ed1.show (strOf "register recursion too deep")) := by
  rw [ecAt, hg]
  simp only [hr, bne_self_eq_false, Bool.false_eq_true, if_false]
  rw [if_pos hd]

/-- **a register holding one covered line command** (`a i c d y pu k = p r` with a plain address and argument,
    `C06b.CoveredLine`; the register holds the bytes of the command without a trailing newline): `@r` performs
    that command's splice, computed in the state where the current line is the first addressed line (one level
    deeper in the count of executing registers) -/
theorem at_runs_covered_line (f : Nat) (ed ed1 ed' : Ed) (loc cmd arg : Bytes) (c : Cmd1) (b e : Int) (rc : Int)
    (hc : C06b.CoveredLine c) (hg : regGet ed (regName arg) = some c.bytes)
    (hr : exRegion ed loc = some ((0, b, e), ed1)) (hra : isRa cmd = false) (hd : ed1.atDepth < 16)
    (h : ecAt (f + 4) ed loc cmd arg = some (rc, ed')) :
    let ed2 : Ed := { ed1 with xrow := b, atDepth := ed1.atDepth + 1 }
    let s := C06b.spliceOf (C06b.lineCmd ed2 c).2 (C06b.lineCmd ed2 c).1 rc
    lines ed' = C06b.applySplice (lines ed) s ∧ s.1 ≤ s.2.1 ∧ s.2.1 ≤ (lines ed).length := by
  intro ed2 s
  have ha := (region_all _ _ _ _ _ _ hr).1
  have hl2 : lines ed2 = lines ed := ha.lines
  rw [ec_at_runs (f + 3) ed ed1 loc cmd arg c.bytes b e hg hr hra hd] at h
  cases hx : exCommand (f + 3) ed2 c.bytes with
  | none => rw [show exCommand (f + 3) { ed1 with xrow := b, atDepth := ed1.atDepth + 1 } c.bytes = none from hx] at h; cases h
  | some y =>
  obtain ⟨rc2, ed3⟩ := y
  rw [show exCommand (f + 3) { ed1 with xrow := b, atDepth := ed1.atDepth + 1 } c.bytes = some (rc2, ed3) from hx] at h
  simp only [Option.map_some, Option.some.injEq, Prod.mk.injEq] at h
  obtain ⟨rfl, rfl⟩ := h
  have hl3 : lines ({ ed3 with atDepth := ed3.atDepth - 1 } : Ed) = lines ed3 := rfl
  rw [hl3]
  have hrun : C06b.runLines f ed2 [c] = some ([s], ed3) := by
    simp only [C06b.runLines]
    rw [hx]
    rfl
  obtain ⟨k1, _, k3⟩ := C06b.script_frame_lines f [c] ed2 ed3 [s] (by intro x hx; simp at hx; subst hx; exact hc) hrun
  rw [hl2] at k1 k3
  simp only [C06b.applySplices, List.foldl_cons, List.foldl_nil] at k1
  exact ⟨k1, k3.1, k3.2.1⟩

/-- **the filter and the register execute join the family of `C06.invalid_region_rejected`**: when the address
    does not resolve to existing lines (`ex_region` returns 1), the command returns 1 and the text is unchanged.
    For the filter the address is evaluated after the guard and the expansion of the command text: `edg` is the
    state the guard left (`GuardFrame`); a refusing guard or a failing expansion reject the command even earlier
    (`ec_exec_spec`).  For `@r` an unset register rejects the command before the address is looked at. -/
theorem invalid_region_rejected_exec_at (f : Nat) (ed edg ed1 : Ed) (hd : String) (loc cmd arg : Bytes)
    (txt : Option Bytes) (b e : Int) (hh : hd ∈ ["ec_exec", "ec_at"])
    (hstate : (hd = "ec_exec" → loc ≠ [] ∧ execGuard ed = some (false, edg) ∧ ∃ ecmd, pathExpand edg arg true = some (some ecmd, edg)) ∧
              (hd = "ec_at" → edg = ed))
    (hreg : exRegion edg loc = some ((1, b, e), ed1)) :
    ∃ ed', runCmd (f + 2) ed hd loc cmd arg txt = some (1, ed') ∧ lines ed' = lines ed := by
  have ha := (region_all _ _ _ _ _ _ hreg).1
  simp only [List.mem_cons, List.not_mem_nil, or_false] at hh
  rcases hh with rfl | rfl
  · obtain ⟨hloc, hg, ecmd, hpe⟩ := hstate.1 rfl
    have hle : loc.isEmpty = false := List.isEmpty_eq_false_iff.2 hloc
    refine ⟨ed1, ?_, ha.lines.trans (execGuard_frame _ _ _ hg).lines⟩
    rw [ec_exec_eq, hg]
    simp only [hpe, hle, Bool.false_eq_true, if_false, hreg]
    rfl
  · have := hstate.2 rfl
    subst this
    rw [ec_at_dispatch]
    cases hg : regGet edg (regName arg) with
    | none => exact ⟨edg, by rw [ecAt, hg], rfl⟩
    | some buf =>
      refine ⟨ed1, ?_, ha.lines⟩
      rw [ecAt, hg]
      simp only [hreg]
      rfl

/-- the three ways a filter is rejected, each with the text unchanged -/
theorem ec_exec_guard_refuses (f : Nat) (ed edg : Ed) (loc cmd arg : Bytes) (txt : Option Bytes)
    (hg : execGuard ed = some (true, edg)) :
    runCmd (f + 1) ed "ec_exec" loc cmd arg txt = some (1, edg) ∧ lines edg = lines ed := by
  refine ⟨by rw [ec_exec_eq, hg], (execGuard_frame _ _ _ hg).lines⟩

theorem ec_exec_noexpand (f : Nat) (ed edg edp : Ed) (loc cmd arg : Bytes) (txt : Option Bytes)
    (hg : execGuard ed = some (false, edg)) (hpe : pathExpand edg arg true = some (none, edp)) :
    runCmd (f + 1) ed "ec_exec" loc cmd arg txt = some (1, edp) ∧ lines edp = lines ed := by
  refine ⟨by rw [ec_exec_eq, hg]; simp only [hpe], ?_⟩
  rw [(pathExpand_quiet hpe).lines, (execGuard_frame _ _ _ hg).lines]

theorem ec_exec_invalid_region (f : Nat) (ed edg ed1 : Ed) (loc cmd arg ecmd : Bytes) (txt : Option Bytes) (b e : Int)
    (hloc : loc ≠ []) (hg : execGuard ed = some (false, edg))
    (hpe : pathExpand edg arg true = some (some ecmd, edg)) (hreg : exRegion edg loc = some ((1, b, e), ed1)) :
    runCmd (f + 1) ed "ec_exec" loc cmd arg txt = some (1, ed1) ∧ lines ed1 = lines ed := by
  have hle : loc.isEmpty = false := List.isEmpty_eq_false_iff.2 hloc
  refine ⟨?_, ((region_all _ _ _ _ _ _ hreg).1).lines.trans (execGuard_frame _ _ _ hg).lines⟩
  rw [ec_exec_eq, hg]
  simp only [hpe, hle, Bool.false_eq_true, if_false, hreg]
  rfl

/-! ## 4b. the filter stated on the state before the command; scripts with filters

The guard only bumps a sequence counter (and, with autowrite, writes the file): address evaluation and
`ex_pathexpand` do not see that (`exRegion_congr`, `pathExpand_congr`), so the region and the expanded command are
those of the state *before* the command, as for every other line command of C06. -/

/-- **the filter is a splice of the region resolved in the state before the command**: on success the command
    text expands in `ed`, the address resolves in `ed` to `b..e` inside the buffer, and either the oracle says
    "no output at all" and the text is unchanged, or lines `b..e-1` are replaced by the lines of its answer;
    on failure the text is unchanged -/
theorem filter_splice (f : Nat) (ed ed' : Ed) (loc cmd arg : Bytes) (txt : Option Bytes) (rc : Int)
    (hloc : loc ≠ []) (h : runCmd (f + 1) ed "ec_exec" loc cmd arg txt = some (rc, ed')) :
    (rc = 0 ∨ rc = 1) ∧
    (rc = 0 → ∃ ecmd b e ed1, pathExpand ed arg true = some (some ecmd, ed) ∧
      exRegion ed loc = some ((0, b, e), ed1) ∧ 0 ≤ b ∧ b ≤ e ∧ e ≤ ed.len ∧
      ((ed.pipe ecmd (ed.cp b e) = some none ∧ lines ed' = lines ed) ∨
       (∃ out, ed.pipe ecmd (ed.cp b e) = some (some out) ∧
          lines ed' = (lines ed).take b.toNat ++ splitLines out ++ (lines ed).drop e.toNat))) ∧
    (rc = 1 → lines ed' = lines ed) := by
  obtain ⟨h1, _, h3, h4⟩ := ec_exec_spec f ed ed' loc cmd arg txt rc hloc h
  refine ⟨h1, fun h0 => ?_, fun h0 => (h4 h0).1⟩
  obtain ⟨edg, ecmd, b, e, ed1g, k1, k2, k3, k4, k5, k6, k7, k8⟩ := h3 h0
  have hpe := (pathExpand_congr k2.samePaths arg true ecmd).1 k3
  rw [exRegion_congr k2.sameAddr] at k4
  cases hr : exRegion ed loc with
  | none => rw [hr] at k4; cases k4
  | some z =>
    obtain ⟨⟨r, b', e'⟩, ed1⟩ := z
    rw [hr] at k4
    simp only [Option.map_some, Option.some.injEq, Prod.mk.injEq] at k4
    obtain ⟨⟨rfl, rfl, rfl⟩, hc⟩ := k4
    refine ⟨ecmd, b', e', ed1, hpe, rfl, k5, k6, k7, ?_⟩
    rcases k8 with ⟨m1, m2⟩ | ⟨out, m1, m2, _⟩
    · left
      refine ⟨m1, ?_⟩
      rw [m2, ← hc]
      exact ((carry_addrOnly edg ed1).lines).trans k2.lines
    · exact Or.inr ⟨out, m1, m2⟩

/-- an address that does not resolve in the state before the command: the filter is rejected whatever the guard
    and the expansion do, text unchanged -/
theorem filter_invalid_region_rejected (f : Nat) (ed ed1 ed' : Ed) (loc cmd arg : Bytes) (txt : Option Bytes) (rc : Int)
    (b e : Int) (hloc : loc ≠ []) (hreg : exRegion ed loc = some ((1, b, e), ed1))
    (h : runCmd (f + 1) ed "ec_exec" loc cmd arg txt = some (rc, ed')) : rc = 1 ∧ lines ed' = lines ed := by
  obtain ⟨h1, h2, h3⟩ := filter_splice f ed ed' loc cmd arg txt rc hloc h
  rcases h1 with rfl | rfl
  · obtain ⟨_, _, _, _, _, k, _⟩ := h2 rfl
    rw [hreg] at k
    simp at k
  · exact ⟨rfl, h3 rfl⟩

/-- the splice a filter performs in state `ed` (`rc` its return code) -/
def execSplice (ed : Ed) (loc arg : Bytes) (rc : Int) : C06b.Splice :=
  if rc != 0 then (0, 0, []) else
  match pathExpand ed arg true with
  | some (some ecmd, _) =>
    (match ed.pipe ecmd (ed.cp (C06b.regionOf ed loc).1 (C06b.regionOf ed loc).2) with
    | some (some out) => ((C06b.regionOf ed loc).1.toNat, (C06b.regionOf ed loc).2.toNat, splitLines out)
    | _ => (0, 0, []))
  | _ => (0, 0, [])

/-- the splice of a line command at the region `ex_region` resolves its address to, filters included -/
def spliceOfX (ed : Ed) (c : C06b.LineCmd) (rc : Int) : C06b.Splice :=
  if c.hd == "ec_exec" then execSplice ed c.loc c.arg rc else C06b.spliceOf ed c rc

/-- a line command covered here: one of `a i c d y pu k = p r rs`, or a filter with an address -/
def CoveredX (c : C06b.LineCmd) : Prop := c.hd ∈ C06b.covered ∨ (c.hd = "ec_exec" ∧ c.loc ≠ [])

/-- **one command is one splice**, filters included -/
theorem cmd_splice_x (f : Nat) (ed ed' : Ed) (c : C06b.LineCmd) (rc : Int) (hc : CoveredX c)
    (h : runCmd (f + 1) ed c.hd c.loc c.cmd c.arg c.txt = some (rc, ed')) :
    (spliceOfX ed c rc).1 ≤ (spliceOfX ed c rc).2.1 ∧ (spliceOfX ed c rc).2.1 ≤ (lines ed).length ∧
      lines ed' = C06b.applySplice (lines ed) (spliceOfX ed c rc) := by
  rcases hc with hc | ⟨hc, hloc⟩
  · have hne : (c.hd == "ec_exec") = false := by
      simp only [C06b.covered, List.mem_cons, List.not_mem_nil, or_false] at hc
      rcases hc with k | k | k | k | k | k | k | k | k <;> rw [k] <;> decide
    unfold spliceOfX
    rw [hne]
    exact C06b.cmd_splice f ed ed' c rc hc h
  · obtain ⟨hd, loc, cmd, arg, txt⟩ := c
    simp only [] at hc hloc h
    subst hc
    have hlen := len_eq ed
    obtain ⟨h1, h2, h3⟩ := filter_splice f ed ed' loc cmd arg txt rc hloc h
    simp only [spliceOfX, beq_self_eq_true, if_true, execSplice]
    rcases h1 with rfl | rfl
    · obtain ⟨ecmd, b, e, ed1, k1, k2, k3, k4, k5, k6⟩ := h2 rfl
      have hb : C06b.regionOf ed loc = (b, e) := by simp [C06b.regionOf, k2]
      simp only [bne_self_eq_false, Bool.false_eq_true, if_false, k1, hb]
      rcases k6 with ⟨m1, m2⟩ | ⟨out, m1, m2⟩
      · rw [m1, C06b.applySplice_id]
        exact ⟨Nat.le_refl _, Nat.zero_le _, m2⟩
      · rw [m1]
        exact ⟨by simp only []; omega, by simp only []; omega, m2⟩
    · rw [if_pos (by decide), C06b.applySplice_id]
      exact ⟨Nat.le_refl _, Nat.zero_le _, h3 rfl⟩

/-- run a script of parsed line commands (every command, whatever the previous one returned), collecting the
    splices `spliceOfX` (regions by `ex_region`) -/
def runScriptX (f : Nat) : Ed → List C06b.LineCmd → Option (List C06b.Splice × Ed)
  | ed, [] => some ([], ed)
  | ed, c :: cs =>
    match runCmd (f + 1) ed c.hd c.loc c.cmd c.arg c.txt with
    | none => none
    | some (rc, ed1) => (runScriptX f ed1 cs).map (fun x => (spliceOfX ed c rc :: x.1, x.2))

/-- **script_frame with filters**: after a script of `a i c d y pu k = p r rs` and filters `[range]!cmd` (any
    addresses, any return codes, any pipe oracle) the text is the initial text put through one splice
    `take b ++ new ++ drop e` per command, each inside the text it applies to: only the addressed range is
    replaced, every other line keeps its bytes and order -/
theorem script_frame_x (f : Nat) : ∀ (script : List C06b.LineCmd) (ed ed' : Ed) (ss : List C06b.Splice),
    (∀ c ∈ script, CoveredX c) → runScriptX f ed script = some (ss, ed') →
    lines ed' = C06b.applySplices (lines ed) ss ∧ ss.length = script.length ∧ C06b.SplicesOk (lines ed) ss :=
  C06b.splices_run lines (runScriptX f)
    (fun ed c _ => (runCmd (f + 1) ed c.hd c.loc c.cmd c.arg c.txt).map (fun r => (spliceOfX ed c r.1, r.2))) _
    (fun _ => rfl) (fun ed c cs => by rw [runScriptX]; cases runCmd (f + 1) ed c.hd c.loc c.cmd c.arg c.txt <;> rfl)
    (fun ed c _ a ed1 hc h => by
      obtain ⟨⟨rc, ed2⟩, hr, rfl, rfl⟩ := Option.map_eq_some_iff.mp h
      exact cmd_splice_x f ed ed2 c rc hc hr)

/-- a command line holding one command (nothing is left after its argument and text): `ex_command` parses it
    (`parse1`), runs it (`runOne`) and bumps the sequence counter -/
theorem exCommand_one (f : Nat) (ed : Ed) (ln : Bytes) (hne : ln ≠ []) (hlen : ln.length < Gen.EXLEN)
    (hrest : restOf ln = []) :
    exCommand (f + 2) ed ln = (runOne f ed (parse1 ln) 0).map (fun x => (x.1.1, (x.1.2.modifiedAt 0).2)) := by
  rw [exCommand, C06b.exExec_eq_execFrom _ _ _ hlen, C06b.exExec_unfold _ _ _ _ hne]
  cases hr : runOne f ed (parse1 ln) 0 with
  | none => rfl
  | some y =>
    obtain ⟨⟨r, ed1⟩, rest⟩ := y
    have := runOne_rest f ed ln 0 (r, ed1) rest hr
    rw [hrest] at this
    subst this
    simp only [C06b.execFrom_nil, Option.map_some]

/-- **a filter line `[range]!cmd` through `ex_command`**: if the line splits into the address `loc`, the name `!`
    and the argument `arg` with nothing left, the text after the line is the text `ec_exec` leaves
    (`ec_exec_spec`) — the final bump of the sequence counter does not touch it -/
theorem filter_line (f : Nat) (ed ed' : Ed) (ln loc arg : Bytes) (rc : Int) (hne : ln ≠ [])
    (hlen : ln.length < Gen.EXLEN)
    (hparse : parse1 ln = ⟨loc, [33], some ([33], "ec_exec"), arg, []⟩) (hrest : restOf ln = [])
    (h : exCommand (f + 3) ed ln = some (rc, ed')) :
    ∃ ed1, runCmd (f + 1) ed "ec_exec" loc [33] arg none = some (rc, ed1) ∧ lines ed' = lines ed1 := by
  rw [exCommand_one (f + 1) ed ln hne hlen hrest, hparse,
    runOne_known _ _ _ _ [33] "ec_exec" rfl (by decide)] at h
  simp only [Option.map_map, Option.map_eq_some_iff, Function.comp, Prod.mk.injEq] at h
  obtain ⟨⟨r, ed1⟩, h1, rfl, rfl⟩ := h
  exact ⟨ed1, h1, modifiedAt0_lines _⟩

/-! ## examples on a four-line buffer `a`, `b`, `c`, `d` (closed shell, no table entry) -/

def ed4 : Ed := { bufs := [some { path := [], lb := { lines := [[97, 10], [98, 10], [99, 10], [100, 10]] } }] }

/-- the same with register `a` holding the command `1d` -/
def ed4a : Ed := { ed4 with regs := ed4.regs.put 97 [49, 100] 0 }

/-- the same with unsaved changes -/
def ed4d : Ed :=
  { bufs := [some { path := [], lb := { lines := [[97, 10], [98, 10], [99, 10], [100, 10]], unsaved := true } }] }

/-- `2,3!tr a-z A-Z` -/
example : (runCmd 1 ed4 "ec_exec" [50, 44, 51] [33] (strOf "tr a-z A-Z") none).map (fun r => (r.1, lines r.2)) =
    some (0, [[97, 10], [66, 10], [67, 10], [100, 10]]) := by rw [ec_exec_eq]; decide +kernel

/-- `2!true` -/
example : (runCmd 1 ed4 "ec_exec" [50] [33] (strOf "true") none).map (fun r => (r.1, lines r.2)) =
    some (0, [[97, 10], [99, 10], [100, 10]]) := by rw [ec_exec_eq]; decide +kernel

/-- `%!cat` -/
example : (runCmd 1 ed4 "ec_exec" [37] [33] (strOf "cat") none).map (fun r => (r.1, lines r.2)) =
    some (0, [[97, 10], [98, 10], [99, 10], [100, 10]]) := by rw [ec_exec_eq]; decide +kernel

/-- `2,3!sed 1q` -/
example : (runCmd 1 ed4 "ec_exec" [50, 44, 51] [33] (strOf "sed 1q") none).map (fun r => (r.1, lines r.2)) =
    some (0, [[97, 10], [98, 10], [100, 10]]) := by rw [ec_exec_eq]; decide +kernel

/-- `2,3!printf x` -/
example : (runCmd 1 ed4 "ec_exec" [50, 44, 51] [33] (strOf "printf x") none).map (fun r => (r.1, lines r.2)) =
    some (0, [[97, 10], [120, 10], [100, 10]]) := by rw [ec_exec_eq]; decide +kernel

/-- `9!cat`: past the end, rejected -/
example : (runCmd 1 ed4 "ec_exec" [57] [33] (strOf "cat") none).map (fun r => (r.1, lines r.2)) =
    some (1, [[97, 10], [98, 10], [99, 10], [100, 10]]) := by rw [ec_exec_eq]; decide +kernel

/-- `2!true` on a buffer with unsaved changes: the guard refuses with its message -/
example : (runCmd 1 ed4d "ec_exec" [50] [33] (strOf "true") none).map (fun r => (r.1, lines r.2, r.2.msg)) =
    some (1, [[97, 10], [98, 10], [99, 10], [100, 10]], strOf "buffer modified" ++ [10]) := by rw [ec_exec_eq]; decide +kernel

/-- `:!cat` without an address: unmodelled -/
example : (runCmd 1 ed4 "ec_exec" [] [33] (strOf "cat") none).map (fun r => (r.1, lines r.2, r.2.unmodelled)) =
    some (0, [[97, 10], [98, 10], [99, 10], [100, 10]], true) := by rw [ec_exec_eq]; decide +kernel

/-- a table entry wins over the closed shell: `2!cat` with the oracle answering `x\ny` for the input `b` -/
example : (runCmd 1 { ed4 with pipes := [(strOf "cat", [98, 10], some [120, 10, 121])] } "ec_exec" [50] [33]
      (strOf "cat") none).map (fun r => (r.1, lines r.2)) =
    some (0, [[97, 10], [120, 10], [121, 10], [99, 10], [100, 10]]) := by rw [ec_exec_eq]; decide +kernel

/-- the same with `wa` set: the guard is off -/
def ed4w : Ed := { ed4 with xwa := 1 }

/-- a script with filters (`wa` set): `2,3!tr a-z A-Z`, `1d`, `9!cat` (rejected), `$!printf x`; its splices and
    its result -/
example : (runScriptX 0 ed4w [⟨"ec_exec", [50, 44, 51], [33], strOf "tr a-z A-Z", none⟩,
      ⟨"ec_delete", [49], [100], [], none⟩, ⟨"ec_exec", [57], [33], strOf "cat", none⟩,
      ⟨"ec_exec", [36], [33], strOf "printf x", none⟩]).map (fun r => (r.1, lines r.2)) =
    some ([(1, 3, [[66, 10], [67, 10]]), (0, 1, []), (0, 0, []), (2, 3, [[120, 10]])],
      [[66, 10], [67, 10], [120, 10]]) := by
  simp only [runScriptX, ec_exec_eq, Lemmas.C20c.runCmd_delete]
  decide +kernel

/-- the same script without `wa`: after the first filter the buffer has unsaved changes, so the guard refuses the
    last one (the third is rejected by the guard as well, before its address is looked at) -/
example : (runScriptX 0 ed4 [⟨"ec_exec", [50, 44, 51], [33], strOf "tr a-z A-Z", none⟩,
      ⟨"ec_delete", [49], [100], [], none⟩, ⟨"ec_exec", [57], [33], strOf "cat", none⟩,
      ⟨"ec_exec", [36], [33], strOf "printf x", none⟩]).map (fun r => (r.1, lines r.2)) =
    some ([(1, 3, [[66, 10], [67, 10]]), (0, 1, []), (0, 0, []), (0, 0, [])],
      [[66, 10], [67, 10], [100, 10]]) := by
  simp only [runScriptX, ec_exec_eq, Lemmas.C20c.runCmd_delete]
  decide +kernel

/-- the command `1d` as a simple command line -/
def cmd1d : Cmd1 := ⟨[49], [100], [], [], []⟩

theorem cmd1d_ok : cmd1d.Ok [] :=
  Cmd1.ok_name (by decide) (Or.inl rfl)

/-- the hypothesis of `at_runs_covered_line` can be met -/
theorem cmd1d_covered : C06b.CoveredLine cmd1d :=
  ⟨cmd1d_ok, by decide, by decide, [100], "ec_delete", by decide, by decide⟩

theorem ed4a_reg : regGet ed4a (regName [97]) = some cmd1d.bytes := by decide +kernel

/-- `@a` with register `a` holding `1d`: through `ec_at_runs` (the register's text is run as a command line at the
    current line) and `C06b.exCommand_line` -/
example : (runCmd 5 ed4a "ec_at" [] [64] [97] none).map (fun r => (r.1, lines r.2)) =
    some (0, [[98, 10], [99, 10], [100, 10]]) := by
  rw [ec_at_dispatch, ec_at_runs 3 ed4a ed4a [] [64] [97] cmd1d.bytes _ _ ed4a_reg
      (C06b.region_noaddr ed4a (by decide) (by decide)) (by decide) (by decide),
    C06b.exCommand_line 1 _ cmd1d [100] "ec_delete" cmd1d_ok (by decide) (by decide) (by decide), Lemmas.C20c.runCmd_delete]
  decide +kernel

/-- the address `3` on this buffer -/
theorem region_ed4a_3 : exRegion ed4a [51] = some ((0, 2, 3), ed4a) := by
  cases hr : exRegion ed4a [51] with
  | none =>
    have : (exRegion ed4a [51]).isSome = true := by decide +kernel
    rw [hr] at this; cases this
  | some z =>
    obtain ⟨⟨r, b, e⟩, ed1⟩ := z
    have hv : (exRegion ed4a [51]).map (fun x => (x.1, x.2.xrow, x.2.xkwd, x.2.xkwddir)) =
        some ((0, 2, 3), 0, [], 0) := by decide +kernel
    rw [hr] at hv
    simp only [Option.map_some, Option.some.injEq, Prod.mk.injEq] at hv
    obtain ⟨⟨rfl, rfl, rfl⟩, h1, h2, h3⟩ := hv
    obtain ⟨r', k', d', rfl⟩ := (region_all _ _ _ _ _ _ hr).1
    simp only [] at h1 h2 h3
    subst h1 h2 h3
    rfl

/-- `3@a`: the current line moves to line 3 first, then `1d` runs (and leaves the current line at 0) -/
example : (runCmd 5 ed4a "ec_at" [51] [64] [97] none).map (fun r => (r.1, lines r.2, r.2.xrow)) =
    some (0, [[98, 10], [99, 10], [100, 10]], 0) := by
  rw [ec_at_dispatch, ec_at_runs 3 ed4a ed4a [51] [64] [97] cmd1d.bytes _ _ ed4a_reg region_ed4a_3 (by decide) (by decide),
    C06b.exCommand_line 1 _ cmd1d [100] "ec_delete" cmd1d_ok (by decide) (by decide) (by decide), Lemmas.C20c.runCmd_delete]
  decide +kernel

/-- `9@a`: rejected -/
example : (runCmd 5 ed4a "ec_at" [57] [64] [97] none).map (fun r => (r.1, lines r.2)) =
    some (1, [[97, 10], [98, 10], [99, 10], [100, 10]]) := by
  rw [ec_at_dispatch, ecAt]; decide +kernel

/-- `@b` with register `b` unset: rejected -/
example : (runCmd 5 ed4a "ec_at" [] [64] [98] none).map (fun r => (r.1, lines r.2)) =
    some (1, [[97, 10], [98, 10], [99, 10], [100, 10]]) := by
  rw [ec_at_dispatch, ecAt]; decide +kernel

/-- `2,3!tr a-z A-Z` as a line -/
def lineTr : Bytes := [50, 44, 51, 33, 116, 114, 32, 97, 45, 122, 32, 65, 45, 90]

theorem parse_lineTr : parse1 lineTr = ⟨[50, 44, 51], [33], some ([33], "ec_exec"), strOf "tr a-z A-Z", []⟩ := by
  have h : (parse1 lineTr).loc = [50, 44, 51] ∧ (parse1 lineTr).cmd = [33] ∧
      (parse1 lineTr).idx = some ([33], "ec_exec") ∧ (parse1 lineTr).arg = strOf "tr a-z A-Z" ∧
      (parse1 lineTr).rest = [] := by decide +kernel
  cases hp : parse1 lineTr
  rw [hp] at h
  simp only [] at h
  obtain ⟨rfl, rfl, rfl, rfl, rfl⟩ := h
  rfl

/-- the whole line through `ex_command` -/
example : (exCommand 3 ed4 lineTr).map (fun r => (r.1, lines r.2)) =
    some (0, [[97, 10], [66, 10], [67, 10], [100, 10]]) := by
  rw [exCommand_one 1 _ _ (by decide) (by decide) (by decide +kernel),
    parse_lineTr, runOne_known _ _ _ _ [33] "ec_exec" rfl (by decide), ec_exec_eq]
  decide +kernel

end Neatvi.Props.C06c
