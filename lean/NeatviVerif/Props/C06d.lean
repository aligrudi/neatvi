import NeatviVerif.Lemmas.C06dSubst
import NeatviVerif.Lemmas.C06dParseLoc
import NeatviVerif.Lemmas.C06dScriptRef
import NeatviVerif.Props.C05b
/-!
# C06d: ex line commands with arbitrary addresses — the reference address semantics, the frame law, scripts

`Props/C06` … `C06c` state what each line command does *given the region `ex_region` returns*; their script theorems
(`C06b.script_frame_lines`, `_bar`) assume addresses over `.$0-9+-,;%` and arguments without `|`, `"`, backslash.
This file removes those assumptions.

## The syntactic class

An address is a tree (`Lemmas/C06dRef.lean`, which does not import the model of `ex.c`):

* `Loc` = `%` (`whole`) | nothing (`current`) | `list` of `(Addr, Sep)` with `Sep` = `,` | `;` | end;
* `Addr` = a `Base`, offsets `+n` / `-n` (digits optional), and *junk*: bytes `ex_lineno` skips up to the next
  separator (as in `1%2,3` or `.5`);
* `Base` = nothing | `.` | `$` | `'c` | a `'` that ends the text | `/re/` `?re?` (a list of plain bytes and backslash
  pairs; the closing delimiter may be missing at the very end, and then a lone backslash may end it) | a number.

`Loc.render` is its text.  `Loc.Ok` says the tree is the parse of its text (digits are digits, plain pattern bytes are
not the delimiter or a backslash, junk holds no `,` `;` and does not continue the address, only the last item ends the
list, an empty last address is the "trailing separator" form).  **Every byte string is the text of such a
tree** (that there is only one is not stated): `parseLoc_total` / `parseLoc_sound` (`parseLoc` is a checked parser), so §1 covers every input of `ex_region`
(`exRegion_every_text`).

For the command-line level (`ex_loc`, §3) additionally `Loc.Lex`: patterns are closed, marks are not named `/` or `?`,
no `'` ends the text, junk bytes are among `.$0-9+-%`.  Arguments (`GenCmd`) are plain bytes and backslash pairs `\x`
(any `x`, e.g. `\|`); `:s` arguments (`SubstCmd`) are `/pat/rep/flags` with any delimiter `ex_arg` accepts, `|` allowed
inside `pat`, `rep`.
-/
namespace Neatvi.Props.C06d
open Neatvi Neatvi.Lbuf Neatvi.Ex Neatvi.Lemmas.C06 Neatvi.Lemmas.C06b Neatvi.Lemmas.C06d
open Neatvi.Lemmas.Hist (optLines)
open Neatvi.Props.C06b (Splice applySplice applySplices SplicesOk LineCmd covered CoveredCmd runLines)

/-! ## 1. `ex_region` is the reference address semantics -/

/-- **`ex_region` = reference.**  `worldOf ed` is what an address reads from the state (number of lines, marks, the
    search oracle: does keyword `kw` compile, does line `row` match it), `cursorOf ed` what it may change (current
    row, remembered search keyword and direction).  For every well-formed location tree, `ex_region` on its text
    returns exactly the reference's `(return code, beg, end)` — acceptances and rejections alike — and leaves the state
    with the reference's cursor and nothing else changed; it traps (`none`) exactly when the reference does (the
    matcher or the pattern compiler gave up). -/
theorem exRegion_is_reference (ed : Ed) (loc : Loc) (hok : loc.Ok) (hx : ed.xrow ≠ -1000000) :
    exRegion ed loc.render =
      (refRegion (worldOf ed) (cursorOf ed) loc).map (fun r => (r.1, withCursor ed r.2)) :=
  exRegion_ref ed loc hok hx

/-- `parseLoc` (a checked parser from text to tree) never fails: every byte string is the text of a well-formed tree -/
theorem parseLoc_total (s : Bytes) : ∃ loc, parseLoc s = some loc := by
  unfold parseLoc
  by_cases h1 : s = [37]
  · exact ⟨_, if_pos h1⟩
  · rw [if_neg h1]
    by_cases h2 : s = []
    · exact ⟨_, if_pos h2⟩
    · rw [if_neg h2]
      obtain ⟨k1, k2⟩ := rawParse_spec (s.length + 1) s h2 (Nat.lt_succ_self _)
      refine ⟨_, if_pos ⟨k1, k2, ?_⟩⟩
      rw [k1]; exact h1

/-- and the tree it returns renders back to the text -/
theorem parseLoc_sound (s : Bytes) (loc : Loc) (h : parseLoc s = some loc) : loc.render = s ∧ loc.Ok := by
  unfold parseLoc at h
  split at h
  · rename_i h1; cases h; exact ⟨h1.symm, trivial⟩
  · split at h
    · rename_i h2; cases h; exact ⟨h2.symm, trivial⟩
    · simp only [] at h
      split at h
      · rename_i h3; cases h; exact h3
      · cases h

/-- **`ex_region` on every address text**: for every byte string `s` there is a well-formed tree with text `s`
    (the one `parseLoc` finds), and `ex_region ed s` is the reference evaluation of that tree -/
theorem exRegion_every_text (ed : Ed) (s : Bytes) (hx : ed.xrow ≠ -1000000) :
    ∃ loc, parseLoc s = some loc ∧ loc.render = s ∧ loc.Ok ∧
      exRegion ed s = (refRegion (worldOf ed) (cursorOf ed) loc).map (fun r => (r.1, withCursor ed r.2)) := by
  obtain ⟨loc, h⟩ := parseLoc_total s
  obtain ⟨h1, h2⟩ := parseLoc_sound s loc h
  refine ⟨loc, h, h1, h2, ?_⟩
  rw [← h1]
  exact exRegion_ref ed loc h2 hx

/-- the text `1,/a\/b;c/+2-;'x-1.5` (junk `.5` after the last address) as a tree -/
example : parseLoc [49, 44, 47, 97, 92, 47, 98, 59, 99, 47, 43, 50, 45, 59, 39, 120, 45, 49, 46, 53] =
    some (.list [(⟨.num [49], [], []⟩, .comma),
      (⟨.search false [.ch 97, .esc 47, .ch 98, .ch 59, .ch 99] true, [⟨false, [50]⟩, ⟨true, []⟩], []⟩, .semi),
      (⟨.mark 120, [⟨true, [49]⟩], [46, 53]⟩, .fin)]) := by decide

/-- the hypothesis `xrow ≠ -1000000` cannot be dropped: the model uses `-1000000` as an in-band failure marker for
    the base of an address, so with that (unreachable) current row `.+1000000` is rejected by the model while it
    designates line 1.  `ex_lineno` of `ex.c` has no such marker (it returns `-2` at once): this is an artefact of
    the model, outside every reachable state (`xrow_invariant`: `-1 ≤ xrow` is kept by the commands). -/
theorem exRegion_needs_marker_hyp_is_false :
    ¬ ∀ (ed : Ed) (loc : Loc), loc.Ok →
      exRegion ed loc.render = (refRegion (worldOf ed) (cursorOf ed) loc).map (fun r => (r.1, withCursor ed r.2)) := by
  intro h
  have h1 := h { bufs := [some { path := [], lb := { lines := [[97, 10]] } }], xrow := -1000000 }
    (.list [(⟨.dot, [⟨false, [49, 48, 48, 48, 48, 48, 48]⟩], []⟩, .fin)]) (by decide)
  have h2 := congrArg (Option.map (fun r => r.1)) h1
  revert h2
  decide +kernel

example : (Loc.list [(⟨.mark 97, [⟨true, [49]⟩], []⟩, .comma),
    (⟨.search false [.ch 120, .esc 47, .ch 121] true, [⟨false, []⟩, ⟨false, [50]⟩], [37]⟩, .semi),
    (⟨.dollar, [], []⟩, .fin)]).Ok := by decide

/-- the same within the bounds of `C05b.AddrFits` (current row, length, marks within `±2^29`), a current row of at
    least `-1`: the reference's cursor again satisfies both, and `beg`, `end` are within `[-1, 2^29 + 1]` -/
theorem exRegion_is_reference_fits (ed : Ed) (loc : Loc) (hok : loc.Ok) (hf : Lemmas.C05b.AddrFits ed)
    (h0 : -1 ≤ ed.xrow) (r : (Nat × Int × Int) × Cursor)
    (h : refRegion (worldOf ed) (cursorOf ed) loc = some r) :
    exRegion ed loc.render = some (r.1, withCursor ed r.2) ∧
    Lemmas.C05b.AddrFits (withCursor ed r.2) ∧ -1 ≤ (withCursor ed r.2).xrow ∧
    -1 ≤ r.1.2.1 ∧ r.1.2.1 ≤ NUMMAX ∧ -1 ≤ r.1.2.2 ∧ r.1.2.2 ≤ NUMMAX + 1 := by
  have he : exRegion ed loc.render = some (r.1, withCursor ed r.2) := by
    rw [exRegion_ref ed loc hok (by omega), h]; rfl
  obtain ⟨⟨rc, b, e⟩, c1⟩ := r
  obtain ⟨k1, k2, k3, k4, k5⟩ := C05b.exRegion_bounded ed _ loc.render rc b e hf he
  exact ⟨he, k1, exRegion_xrow _ _ _ _ h0 he, k2, k3, k4, k5⟩

/-! ### exact arithmetic -/

/-- an offset whose number is at most `2^40` adds exactly that number -/
theorem off_val_exact (o : Off) (hd : ∀ d ∈ o.ds, isDigit d = true) (h : digitsVal o.ds ≤ termMax) :
    o.val = if o.neg then -digitsVal o.ds else digitsVal o.ds := by
  have := digitsVal_nonneg o.ds hd
  unfold Off.val
  apply sat_id
  · split <;> (unfold termMax at *; omega)
  · split <;> (unfold termMax at *; omega)

/-- the line number `n ≤ 2^40` is row `n - 1` -/
theorem num_eval_exact (w : World) (c : Cursor) (ds : Bytes) (hd : ∀ d ∈ ds, isDigit d = true)
    (h : digitsVal ds ≤ termMax) : (Base.num ds).eval w c = some (some (digitsVal ds - 1), c) := by
  have := digitsVal_nonneg ds hd
  simp only [Base.eval]
  rw [sat_id _ _ (by unfold termMax at *; omega) h]

/-- an address whose exact value lies within `±2^29` has that value -/
theorem addr_eval_exact (w : World) (c c1 : Cursor) (a : Addr) (v : Int) (hb : a.base.eval w c = some (some v, c1))
    (h0 : -numMax ≤ v + offsVal a.offs) (h1 : v + offsVal a.offs ≤ numMax) :
    a.eval w c = some (some (v + offsVal a.offs), c1) := by
  unfold Addr.eval
  rw [hb]
  simp only [sat_id _ _ h0 h1]

/-! ### the search -/

/-- `/re/` finds the first matching line after the current one: every line in between does not match; the search
    does not wrap around the end of the buffer -/
theorem nearest_forward (hit : Int → Option Bool) (len : Int) (k : Nat) (row r : Int)
    (h : nearest hit len 1 k row = some (some r)) :
    row ≤ r ∧ 0 ≤ r ∧ r < len ∧ hit r = some true ∧ ∀ j, row ≤ j → j < r → hit j = some false := by
  obtain ⟨n, rfl, h0, h1, h2, h3⟩ := nearest_some hit len 1 k row r h
  simp only [Int.mul_one] at h0 h1 h2 h3 ⊢
  refine ⟨by omega, h0, h1, h2, fun j hj hjr => ?_⟩
  obtain ⟨m, rfl⟩ : ∃ m : Nat, j = row + m := ⟨(j - row).toNat, by omega⟩
  exact h3 m (by omega)

/-- `?re?` finds the last matching line before the current one -/
theorem nearest_backward (hit : Int → Option Bool) (len : Int) (k : Nat) (row r : Int)
    (h : nearest hit len (-1) k row = some (some r)) :
    r ≤ row ∧ 0 ≤ r ∧ r < len ∧ hit r = some true ∧ ∀ j, r < j → j ≤ row → hit j = some false := by
  obtain ⟨n, rfl, h0, h1, h2, h3⟩ := nearest_some hit len (-1) k row r h
  simp only [Int.mul_neg, Int.mul_one] at h0 h1 h2 h3 ⊢
  refine ⟨by omega, h0, h1, h2, fun j hjr hj => ?_⟩
  obtain ⟨m, rfl⟩ : ∃ m : Nat, j = row + -(m : Int) := ⟨(row - j).toNat, by omega⟩
  exact h3 m (by omega)

/-- when no line matches, the search does not resolve -/
theorem nearest_forward_none (hit : Int → Option Bool) (len : Int)
    (hnone : ∀ j, 0 ≤ j → j < len → hit j = some false) (k : Nat) (row : Int) :
    nearest hit len 1 k row = some none := by
  induction k generalizing row with
  | zero => rw [nearest]
  | succ k ih =>
    rw [nearest]
    split
    · rfl
    · rename_i hr
      rw [hnone row (by omega) (by omega)]
      exact ih _

/-! ### acceptance and the rejection cases (facts about the reference; by `exRegion_is_reference`, about `ex_region`) -/

/-- a region `beg, end` is accepted iff it is not reversed and lies inside the buffer (`0`, i.e. `beg = -1, end = 0`,
    counting as the empty range at the top) -/
theorem verdict_accept (len b e : Int) :
    (verdict len b e).1 = 0 ↔
      b < e ∧ 0 ≤ (if b < 0 ∧ e = 0 then 0 else b) ∧ (if b < 0 ∧ e = 0 then 0 else b) < len ∧ e ≤ len := by
  unfold verdict
  by_cases h1 : e ≤ b
  · rw [if_pos h1]
    constructor
    · intro h; cases h
    · intro h; omega
  · rw [if_neg h1]
    simp only []
    by_cases h2 : 0 ≤ (if b < 0 ∧ e = 0 then 0 else b) ∧ (if b < 0 ∧ e = 0 then 0 else b) < len ∧ e ≤ len
    · rw [if_pos h2]
      exact ⟨fun _ => ⟨by omega, h2⟩, fun _ => rfl⟩
    · rw [if_neg h2]
      constructor
      · intro h; cases h
      · intro h; exact absurd h.2 h2

/-- reversed range (`4,2`): rejected, `beg = end = -1` -/
theorem verdict_reversed (len b e : Int) (h : e ≤ b) : verdict len b e = (1, -1, -1) := by
  unfold verdict; rw [if_pos h]

/-- an address beyond the last line: rejected -/
theorem verdict_beyond (len b e : Int) (h0 : 0 ≤ b) (h1 : b < e) (h : len < e) : verdict len b e = (1, b, e) := by
  have hb : (if b < 0 ∧ e = 0 then 0 else b) = b := if_neg (by omega)
  unfold verdict
  rw [if_neg (by omega)]
  simp only [hb]
  rw [if_neg (by omega)]

/-- address `0`: `beg = end = 0`, accepted iff the buffer is not empty (so `ex_region` does *not* reject `0` for the
    commands that "do not take it": see `zero_delete`) -/
theorem verdict_zero (len : Int) : verdict len (-1) 0 = (if 0 < len then 0 else 1, 0, 0) := by
  unfold verdict
  by_cases h : 0 < len
  · have h2 : (0 : Int) ≤ len := by omega
    simp [h, h2]
  · simp [h]

/-- a mark that is not set does not resolve -/
theorem eval_mark_unset (w : World) (c : Cursor) (m : Nat) (offs : List Off) (junk : Bytes) (h : w.mark m = none) :
    (Addr.mk (.mark m) offs junk).eval w c = some (none, c) := by
  simp [Addr.eval, Base.eval, h]

/-- `//` without a previous search does not resolve -/
theorem eval_search_noprev (w : World) (c : Cursor) (back cl : Bool) (h : c.dir = 0) :
    (Base.search back [] cl).eval w c = some (none, c) := by
  simp [Base.eval, cookedPat, h]

/-- an unresolved address rejects the whole location, `beg = end = -1` -/
theorem evalList_unresolved (w : World) (c c1 : Cursor) (a : Addr) (s : Sep) (r : AddrList)
    (h : a.eval w c = some (none, c1)) : evalList w c ((a, s) :: r) = some (none, c1) := by
  simp [evalList, h]

theorem refRegion_unresolved (w : World) (c c1 : Cursor) (l : AddrList) (h : evalList w c l = some (none, c1)) :
    refRegion w c (.list l) = some ((1, -1, -1), c1) := by
  simp [refRegion, h]

/-- the single address `n` is the region `n-1 .. n` -/
theorem refRegion_num (w : World) (c : Cursor) (ds : Bytes) (hd : ∀ d ∈ ds, isDigit d = true)
    (h : digitsVal ds - 1 ≤ numMax) :
    refRegion w c (.list [(⟨.num ds, [], []⟩, .fin)]) = some (verdict w.len (digitsVal ds - 1) (digitsVal ds), c) := by
  have h0 := digitsVal_nonneg ds hd
  have ht : digitsVal ds ≤ termMax := by unfold termMax numMax at *; omega
  have hev : (Addr.mk (.num ds) [] []).eval w c = some (some (digitsVal ds - 1), c) := by
    have := addr_eval_exact w c c ⟨.num ds, [], []⟩ (digitsVal ds - 1) (num_eval_exact w c ds hd ht)
      (by simp [offsVal]; unfold numMax; omega) (by simpa [offsVal] using h)
    simpa [offsVal] using this
  simp only [refRegion, evalList, hev]
  rw [if_neg (by omega)]
  simp [begOf, endOf]

/-! ## 2. the frame law, the region given by the reference -/

/-- the frame law of the reference line editor: above `b` nothing moves, from `e` on every line keeps its bytes and
    order -/
theorem lineOp_frame (op : LineOp) (t : List Bytes) (b e : Nat) (hbe : b ≤ e) (he : e ≤ t.length) :
    (∀ m, m < b → (op.apply t b e)[m]? = t[m]?) ∧
    (∀ m, e ≤ m → (op.apply t b e)[m + (op.apply t b e).length - t.length]? = t[m]?) := by
  -- every operation but `keep` puts new lines between `take p` and `drop q` for some `b ≤ p ≤ q ≤ e`
  have key : ∀ (p q : Nat) (new : List Bytes), b ≤ p → p ≤ q → q ≤ e →
      (∀ m, m < b → (t.take p ++ new ++ t.drop q)[m]? = t[m]?) ∧
      (∀ m, e ≤ m → (t.take p ++ new ++ t.drop q)[m + (t.take p ++ new ++ t.drop q).length - t.length]? = t[m]?) := by
    intro p q new hp hpq hq
    refine ⟨fun m hm => frame_get_before t new p q m (by omega) (by omega), fun m hm => ?_⟩
    have hl : (t.take p ++ new ++ t.drop q).length = p + new.length + (t.length - q) := by
      simp only [List.length_append, List.length_take, List.length_drop]
      omega
    have hi : m + (p + new.length + (t.length - q)) - t.length = m + new.length - (q - p) := by omega
    rw [hl, hi]
    exact frame_get_after t new p q m hpq (by omega) (by omega)
  cases op with
  | keep => exact ⟨fun _ _ => rfl, fun m _ => by simp [LineOp.apply]⟩
  | delete => simpa only [LineOp.apply, List.append_nil] using key b e [] (Nat.le_refl b) hbe (Nat.le_refl e)
  | append new => exact key e e new hbe (Nat.le_refl e) (Nat.le_refl e)
  | insert new => exact key b b new (Nat.le_refl b) (Nat.le_refl b) hbe
  | change new => exact key b e new (Nat.le_refl b) hbe (Nat.le_refl e)

/-- **every covered line command is its reference operation on the reference region.**  `c` is a parsed command
    among `a i c d y pu k = p r rs` or a filter `[range]!cmd`; its address is the text of the tree `loc`.  If it
    returns 0 the new text is `LineOp.apply` of the command's operation (`opOf`: `d` deletes `b..e-1`; `a`/`pu`/`r` add
    after line `e-1`; `i` adds before line `b`; `c` and the filter replace `b..e-1`; `y k = p rs` keep) at the region
    the *reference* evaluator computes; otherwise the text is unchanged. -/
theorem cmd_ref (f : Nat) (ed ed' : Ed) (c : LineCmd) (rc : Int) (loc : Loc)
    (hloc : c.loc = loc.render) (hok : loc.Ok) (hx : ed.xrow ≠ -1000000) (hc : C06c.CoveredX c)
    (h : runCmd (f + 1) ed c.hd c.loc c.cmd c.arg c.txt = some (rc, ed')) :
    (rc = 0 → lines ed' = (opOf ed c (refRegionOf ed loc).1 (refRegionOf ed loc).2).apply (lines ed)
        (refRegionOf ed loc).1.toNat (refRegionOf ed loc).2.toNat) ∧
    (rc ≠ 0 → lines ed' = lines ed) :=
  Lemmas.C06d.cmd_ref f ed ed' c rc loc hloc hok hx hc h

/-- `:d` -/
theorem delete_ref (f : Nat) (ed ed' : Ed) (loc : Loc) (cmd arg : Bytes) (txt : Option Bytes) (rc : Int)
    (hok : loc.Ok) (hx : ed.xrow ≠ -1000000)
    (h : runCmd (f + 1) ed "ec_delete" loc.render cmd arg txt = some (rc, ed')) :
    (rc = 0 ∨ rc = 1) ∧
    (rc = 0 → ∃ b e c1, refOf ed loc = some ((0, b, e), c1) ∧ 0 ≤ b ∧ b ≤ e ∧ e ≤ ed.len ∧
      lines ed' = (lines ed).take b.toNat ++ (lines ed).drop e.toNat ∧ ed'.xrow = b ∧
      ed'.regs = ed.regs.put (regName arg) (((lines ed).drop b.toNat).take (e.toNat - b.toNat)).flatten 1) ∧
    (rc = 1 → lines ed' = lines ed ∧ ed'.regs = ed.regs) := by
  obtain ⟨h1, h2, h3⟩ := Props.C06.ec_delete_spec f ed ed' loc.render cmd arg txt rc h
  refine ⟨h1, fun h0 => ?_, fun h0 => ⟨(h3 h0).1, (h3 h0).2.1⟩⟩
  obtain ⟨b, e, ed1, k1, k2, k3, k4, k5, k6, k7⟩ := h2 h0
  obtain ⟨c1, m1, _⟩ := region_transfer ed loc hok hx 0 b e ed1 k1
  exact ⟨b, e, c1, m1, k2, k3, k4, k5, k6, k7⟩

/-- `:y` -/
theorem yank_ref (f : Nat) (ed ed' : Ed) (loc : Loc) (cmd arg : Bytes) (txt : Option Bytes) (rc : Int)
    (hok : loc.Ok) (hx : ed.xrow ≠ -1000000)
    (h : runCmd (f + 1) ed "ec_yank" loc.render cmd arg txt = some (rc, ed')) :
    (rc = 0 ∨ rc = 1) ∧ lines ed' = lines ed ∧
    (rc = 0 → ∃ b e c1, refOf ed loc = some ((0, b, e), c1) ∧ 0 ≤ b ∧ b ≤ e ∧ e ≤ ed.len ∧
      ed'.regs = ed.regs.put (regName arg) (((lines ed).drop b.toNat).take (e.toNat - b.toNat)).flatten 1) ∧
    (rc = 1 → ed'.regs = ed.regs) := by
  obtain ⟨h1, h2, h3, h4⟩ := Props.C06.ec_yank_spec f ed ed' loc.render cmd arg txt rc h
  refine ⟨h1, h2, fun h0 => ?_, fun h0 => (h4 h0).1⟩
  obtain ⟨b, e, ed1, k1, k2, k3, k4, k5⟩ := h3 h0
  obtain ⟨c1, m1, _⟩ := region_transfer ed loc hok hx 0 b e ed1 k1
  exact ⟨b, e, c1, m1, k2, k3, k4, k5⟩

/-- `:a`, `:i`, `:c` (`p..q` = `e..e`, `b..b`, `b..e`) -/
theorem insert_ref (f : Nat) (ed ed' : Ed) (loc : Loc) (cmd arg : Bytes) (txt : Option Bytes) (rc : Int)
    (hok : loc.Ok) (hx : ed.xrow ≠ -1000000)
    (h : runCmd (f + 1) ed "ec_insert" loc.render cmd arg txt = some (rc, ed')) :
    (rc = 0 ∨ rc = 1) ∧
    (rc = 0 → ∃ r b e c1, refOf ed loc = some ((r, b, e), c1) ∧ (r = 0 ∨ (b = 0 ∧ e = 0)) ∧
      0 ≤ b ∧ b ≤ e ∧ e ≤ ed.len ∧
      ∀ p q, p = (if cmd.headD 0 = 97 then e else b) → q = (if cmd.headD 0 = 99 then e else p) →
        lines ed' = (lines ed).take p.toNat ++ optLines txt ++ (lines ed).drop q.toNat ∧
        ed'.xrow = min (ed'.len - 1) (p + (optLines txt).length - 1)) ∧
    (rc = 1 → lines ed' = lines ed) := by
  obtain ⟨h1, h2, h3⟩ := Props.C06.ec_insert_spec f ed ed' loc.render cmd arg txt rc h
  refine ⟨h1, fun h0 => ?_, fun h0 => (h3 h0).1⟩
  obtain ⟨r, b, e, ed1, k1, k2, k3, k4, k5, k6⟩ := h2 h0
  obtain ⟨c1, m1, _⟩ := region_transfer ed loc hok hx r b e ed1 k1
  exact ⟨r, b, e, c1, m1, k2, k3, k4, k5, fun p q hp hq => ⟨(k6 p q hp hq).1, (k6 p q hp hq).2.2⟩⟩

/-- `:pu` -/
theorem put_ref (f : Nat) (ed ed' : Ed) (loc : Loc) (cmd arg : Bytes) (txt : Option Bytes) (rc : Int)
    (hok : loc.Ok) (hx : ed.xrow ≠ -1000000)
    (h : runCmd (f + 1) ed "ec_put" loc.render cmd arg txt = some (rc, ed')) :
    (rc = 0 ∨ rc = 1) ∧
    (rc = 0 → ∃ buf r b e c1, regGet ed (regName arg) = some buf ∧ refOf ed loc = some ((r, b, e), c1) ∧
      (r = 0 ∨ (b = 0 ∧ e = 0)) ∧ 0 ≤ e ∧ e ≤ ed.len ∧
      lines ed' = (lines ed).take e.toNat ++ splitLines buf ++ (lines ed).drop e.toNat ∧
      ed'.xrow = min (ed'.len - 1) (e + (splitLines buf).length - 1)) ∧
    (rc = 1 → lines ed' = lines ed) := by
  obtain ⟨h1, h2, h3, _⟩ := Props.C06.ec_put_spec f ed ed' loc.render cmd arg txt rc h
  refine ⟨h1, fun h0 => ?_, fun h0 => (h3 h0).1⟩
  obtain ⟨buf, r, b, e, ed1, k0, k1, k2, k3, k4, k5, k6⟩ := h2 h0
  obtain ⟨c1, m1, _⟩ := region_transfer ed loc hok hx r b e ed1 k1
  exact ⟨buf, r, b, e, c1, k0, m1, k2, k3, k4, k5, k6⟩

/-- `:k` -/
theorem mark_ref (f : Nat) (ed ed' : Ed) (loc : Loc) (cmd arg : Bytes) (txt : Option Bytes) (rc : Int)
    (hok : loc.Ok) (hx : ed.xrow ≠ -1000000)
    (h : runCmd (f + 1) ed "ec_mark" loc.render cmd arg txt = some (rc, ed')) :
    (rc = 0 ∨ rc = 1) ∧ lines ed' = lines ed ∧
    (rc = 0 → ∃ b e c1 lb, refOf ed loc = some ((0, b, e), c1) ∧ 0 ≤ e - 1 ∧ e - 1 < ed.len ∧ ed.lb = some lb ∧
      ed'.lb = some (setMark lb (arg.headD 0) (e - 1) 0)) := by
  obtain ⟨h1, h2, h3, _⟩ := Props.C06.ec_mark_spec f ed ed' loc.render cmd arg txt rc h
  refine ⟨h1, h2, fun h0 => ?_⟩
  obtain ⟨b, e, ed1, lb, k1, k2, k3, k4, k5⟩ := h3 h0
  obtain ⟨c1, m1, _⟩ := region_transfer ed loc hok hx 0 b e ed1 k1
  exact ⟨b, e, c1, lb, m1, k2, k3, k4, k5⟩

/-- `:p` -/
theorem print_ref (f : Nat) (ed ed' : Ed) (loc : Loc) (cmd arg : Bytes) (txt : Option Bytes) (rc : Int)
    (hok : loc.Ok) (hx : ed.xrow ≠ -1000000)
    (h : runCmd (f + 1) ed "ec_print" loc.render cmd arg txt = some (rc, ed')) :
    (rc = 0 ∨ rc = 1) ∧ lines ed' = lines ed ∧
    (rc = 0 → ∃ b e c1, refOf ed loc = some ((0, b, e), c1) ∧ 0 ≤ b ∧ b ≤ e ∧ e ≤ ed.len ∧
      ed'.out = ed.out ++ (((lines ed).drop b.toNat).take (e.toNat - b.toNat)).flatMap printed ∧
      ed'.xrow = max b (e - 1)) ∧
    (rc = 1 → ed'.out = ed.out) := by
  obtain ⟨h1, h2, h3, h4⟩ := Props.C06.ec_print_spec f ed ed' loc.render cmd arg txt rc h
  refine ⟨h1, h2, fun h0 => ?_, fun h0 => (h4 h0).1⟩
  obtain ⟨b, e, ed1, k1, k2, k3, k4, k5, k6⟩ := h3 h0
  obtain ⟨c1, m1, _⟩ := region_transfer ed loc hok hx 0 b e ed1 k1
  exact ⟨b, e, c1, m1, k2, k3, k4, k5, k6⟩

/-- `:r` (file or `!cmd`): the lines read go after line `e - 1` -/
theorem read_ref (f : Nat) (ed ed' : Ed) (loc : Loc) (cmd arg : Bytes) (txt : Option Bytes) (rc : Int)
    (hok : loc.Ok) (hx : ed.xrow ≠ -1000000)
    (h : runCmd (f + 1) ed "ec_read" loc.render cmd arg txt = some (rc, ed')) :
    (rc = 0 ∨ rc = 1) ∧
    (rc = 0 → ∃ path b e c1, C06b.readPath ed arg = some (some path, ed) ∧ refOf ed loc = some ((0, b, e), c1) ∧
      0 ≤ e ∧ e ≤ ed.len ∧
      lines ed' = (lines ed).take e.toNat ++ C06b.readLines ed arg ++ (lines ed).drop e.toNat) ∧
    (rc = 1 → lines ed' = lines ed) := by
  obtain ⟨h1, _, h3⟩ := Props.C06b.ec_read_spec f ed ed' loc.render cmd arg txt rc h
  refine ⟨h1, fun h0 => ?_, fun h0 => (h3 h0).1⟩
  subst h0
  obtain ⟨path, b, e, ed1, k0, k1, k2, k3, k4⟩ := Props.C06b.ec_read_lines h
  obtain ⟨c1, m1, _⟩ := region_transfer ed loc hok hx 0 b e ed1 k1
  exact ⟨path, b, e, c1, k0, m1, k2, k3, k4⟩

/-- `:w` (any address text, any argument, any outcome) changes no line -/
theorem write_ref (f : Nat) (ed ed' : Ed) (loc cmd arg : Bytes) (txt : Option Bytes) (rc : Int)
    (h : runCmd (f + 1) ed "ec_write" loc cmd arg txt = some (rc, ed')) : lines ed' = lines ed :=
  Lemmas.C06d.write_ref f ed ed' loc cmd arg txt rc h

/-- the filter `[range]!cmd` -/
theorem filter_ref (f : Nat) (ed ed' : Ed) (loc : Loc) (cmd arg : Bytes) (txt : Option Bytes) (rc : Int)
    (hok : loc.Ok) (hx : ed.xrow ≠ -1000000) (hloc : loc.render ≠ [])
    (h : runCmd (f + 1) ed "ec_exec" loc.render cmd arg txt = some (rc, ed')) :
    (rc = 0 ∨ rc = 1) ∧
    (rc = 0 → ∃ ecmd b e c1, pathExpand ed arg true = some (some ecmd, ed) ∧
      refOf ed loc = some ((0, b, e), c1) ∧ 0 ≤ b ∧ b ≤ e ∧ e ≤ ed.len ∧
      ((ed.pipe ecmd (ed.cp b e) = some none ∧ lines ed' = lines ed) ∨
       (∃ out, ed.pipe ecmd (ed.cp b e) = some (some out) ∧
          lines ed' = (lines ed).take b.toNat ++ splitLines out ++ (lines ed).drop e.toNat))) ∧
    (rc = 1 → lines ed' = lines ed) := by
  obtain ⟨h1, h2, h3⟩ := Props.C06c.filter_splice f ed ed' loc.render cmd arg txt rc hloc h
  refine ⟨h1, fun h0 => ?_, h3⟩
  obtain ⟨ecmd, b, e, ed1, k0, k1, k2, k3, k4, k5⟩ := h2 h0
  obtain ⟨c1, m1, _⟩ := region_transfer ed loc hok hx 0 b e ed1 k1
  exact ⟨ecmd, b, e, c1, k0, m1, k2, k3, k4, k5⟩

/-- **`:s` is a splice of the addressed range** (the loop follows the lines it pushes down: `i += n; end += n`).  On
    return 0: the region `b..e` is valid, the remembered pattern compiles to `re`, and lines `b..e-1` are replaced, each
    by the lines of its rewritten text (`rewriteLine`: the line itself when nothing matched, several lines when the
    replacement brought newlines); every other line keeps its bytes and order.  On return 1 the text is unchanged.
    (`substPrepD` is the prologue of `ec_substitute`: the pattern and the replacement it remembers, the `g` flag.) -/
theorem subst_splice (f : Nat) (ed ed' : Ed) (loc cmd arg : Bytes) (txt : Option Bytes) (rc : Int)
    (h : runCmd (f + 1) ed "ec_substitute" loc cmd arg txt = some (rc, ed')) :
    (rc = 0 ∨ rc = 1) ∧
    (rc = 0 → ∃ b e ed1 re, exRegion ed loc = some ((0, b, e), ed1) ∧ 0 ≤ b ∧ b ≤ e ∧ e ≤ ed.len ∧
      (substPrepD ed1 arg).1.mkRe (substPrepD ed1 arg).1.xkwd = some (some re) ∧
      lines ed' = (lines ed).take b.toNat ++
        rewriteAll re (substPrepD ed1 arg).1.xrep (substPrepD ed1 arg).2 (((lines ed).drop b.toNat).take (e.toNat - b.toNat)) ++
        (lines ed).drop e.toNat) ∧
    (rc = 1 → lines ed' = lines ed) :=
  Lemmas.C06d.subst_splice f ed ed' loc cmd arg txt rc h

/-- `:s` with the region of the reference evaluator: the reference operation `change` on the reference region -/
theorem subst_ref (f : Nat) (ed ed' : Ed) (loc : Loc) (cmd arg : Bytes) (txt : Option Bytes) (rc : Int)
    (hok : loc.Ok) (hx : ed.xrow ≠ -1000000)
    (h : runCmd (f + 1) ed "ec_substitute" loc.render cmd arg txt = some (rc, ed')) :
    (rc = 0 ∨ rc = 1) ∧
    (rc = 0 → ∃ b e c1 re, refRegion (worldOf ed) (cursorOf ed) loc = some ((0, b, e), c1) ∧ 0 ≤ b ∧ b ≤ e ∧ e ≤ ed.len ∧
      (substPrepD (withCursor ed c1) arg).1.mkRe (substPrepD (withCursor ed c1) arg).1.xkwd = some (some re) ∧
      lines ed' = (LineOp.change (rewriteAll re (substPrepD (withCursor ed c1) arg).1.xrep (substPrepD (withCursor ed c1) arg).2
        (((lines ed).drop b.toNat).take (e.toNat - b.toNat)))).apply (lines ed) b.toNat e.toNat) ∧
    (rc = 1 → lines ed' = lines ed) := by
  obtain ⟨h1, h2, h3⟩ := subst_splice f ed ed' loc.render cmd arg txt rc h
  refine ⟨h1, fun h0 => ?_, h3⟩
  obtain ⟨b, e, ed1, re, k1, k2, k3, k4, k5, k6⟩ := h2 h0
  obtain ⟨c1, m1, m2⟩ := region_transfer ed loc hok hx 0 b e ed1 k1
  subst m2
  exact ⟨b, e, c1, re, m1, k2, k3, k4, k5, k6⟩

/-- one command is one splice — `a i c d y pu k = p r rs`, filters, `:s`, `:w` — with the splice inside the text -/
theorem cmd_splice_s (f : Nat) (ed ed' : Ed) (c : LineCmd) (rc : Int) (hc : CoveredS c)
    (h : runCmd (f + 1) ed c.hd c.loc c.cmd c.arg c.txt = some (rc, ed')) :
    (spliceOfS ed c rc).1 ≤ (spliceOfS ed c rc).2.1 ∧ (spliceOfS ed c rc).2.1 ≤ (lines ed).length ∧
      lines ed' = applySplice (lines ed) (spliceOfS ed c rc) := by
  rcases hc with hc | hc | hc
  · have hne : ∀ s : String, s ∉ covered ∧ s ≠ "ec_exec" → (c.hd == s) = false := by
      intro s hs
      rw [beq_eq_false_iff_ne]
      intro he
      rcases hc with hc | ⟨hc, _⟩
      · exact hs.1 (he ▸ hc)
      · exact hs.2 (he ▸ hc)
    have hne1 := hne "ec_substitute" (by decide)
    have hne2 := hne "ec_write" (by decide)
    unfold spliceOfS
    rw [hne1, hne2]
    exact C06c.cmd_splice_x f ed ed' c rc hc h
  · obtain ⟨hd, loc, cmd, arg, txt⟩ := c
    simp only [] at hc h
    subst hc
    have hlen := len_eq ed
    obtain ⟨h1, h2, h3⟩ := subst_splice f ed ed' loc cmd arg txt rc h
    simp only [spliceOfS, beq_self_eq_true, if_true, substSplice]
    rcases h1 with rfl | rfl
    · obtain ⟨b, e, ed1, re, k1, k2, k3, k4, k5, k6⟩ := h2 rfl
      simp only [bne_self_eq_false, Bool.false_eq_true, if_false, k1, k5]
      exact ⟨by omega, by omega, k6⟩
    · rw [if_pos (by decide), C06b.applySplice_id]
      exact ⟨Nat.le_refl _, Nat.zero_le _, h3 rfl⟩
  · obtain ⟨hd, loc, cmd, arg, txt⟩ := c
    simp only [] at hc h
    subst hc
    have : spliceOfS ed ⟨"ec_write", loc, cmd, arg, txt⟩ rc = (0, 0, []) := by
      unfold spliceOfS
      simp only []
      rw [if_neg (by decide), if_pos (by decide)]
    rw [this, C06b.applySplice_id]
    refine ⟨Nat.le_refl _, Nat.zero_le _, ?_⟩
    rw [Lemmas.C02Ex.runCmd_write] at h
    exact ecWrite_lines ed ed' loc cmd arg rc h

/-- **script_frame with `:s` and `:w`**: a script of parsed commands `a i c d y pu k = p r rs`, filters, substitutes,
    writes, with any address texts and return codes, is a sequence of splices of the addressed ranges -/
theorem script_frame_s (f : Nat) (script : List LineCmd) (ed ed' : Ed) (ss : List Splice)
    (hcov : ∀ c ∈ script, CoveredS c) (h : runScriptS f ed script = some (ss, ed')) :
    lines ed' = applySplices (lines ed) ss ∧ ss.length = script.length ∧ SplicesOk (lines ed) ss :=
  C06b.splices_run lines (runScriptS f)
    (fun ed c _ => (runCmd (f + 1) ed c.hd c.loc c.cmd c.arg c.txt).map (fun r => (spliceOfS ed c r.1, r.2))) _
    (fun _ => rfl) (fun ed c cs => by rw [runScriptS]; cases runCmd (f + 1) ed c.hd c.loc c.cmd c.arg c.txt <;> rfl)
    (fun ed c _ a ed1 hc h => by
      obtain ⟨⟨rc, ed2⟩, hr, rfl, rfl⟩ := Option.map_eq_some_iff.mp h
      exact cmd_splice_s f ed ed2 c rc hc hr)
    script ed ed' ss hcov h

/-- a location the reference rejects (address beyond the end, reversed range, mark unset, search without match, …)
    makes `a i c d y pu p = k` return 1 with the text unchanged (`a i c pu` let `beg = end = 0` through: `0` on an
    empty buffer) -/
theorem rejected_ref (f : Nat) (ed : Ed) (hd : String) (loc : Loc) (cmd arg : Bytes) (txt : Option Bytes)
    (b e : Int) (c1 : Cursor) (hok : loc.Ok) (hx : ed.xrow ≠ -1000000)
    (hh : hd ∈ ["ec_insert", "ec_delete", "ec_yank", "ec_put", "ec_print", "ec_lnum", "ec_mark"])
    (href : refOf ed loc = some ((1, b, e), c1)) (hins : hd = "ec_insert" ∨ hd = "ec_put" → ¬ (b = 0 ∧ e = 0)) :
    ∃ ed', runCmd (f + 1) ed hd loc.render cmd arg txt = some (1, ed') ∧ lines ed' = lines ed :=
  Props.C06.invalid_region_rejected f ed (withCursor ed c1) hd loc.render cmd arg txt b e hh
    (by rw [exRegion_ref ed loc hok hx, show refRegion (worldOf ed) (cursorOf ed) loc = _ from href]; rfl) hins

/-- address `0` is not rejected for `:d`: on a non-empty buffer `0d` returns 0, changes no line, but overwrites the
    register with the empty text and moves to row 0 (what `ex.c` does: `ec_delete` only tests `ex_region`'s return
    value) -/
theorem zero_delete (f : Nat) (ed : Ed) (lb : Lb) (cmd arg : Bytes) (txt : Option Bytes)
    (hlb : ed.lb = some lb) (hne : 0 < ed.len) :
    ∃ ed', runCmd (f + 1) ed "ec_delete" [48] cmd arg txt = some (0, ed') ∧ lines ed' = lines ed ∧ ed'.xrow = 0 ∧
      ed'.regs = ed.regs.put (regName arg) [] 1 := by
  have hr := Props.C06.region_zero ed
  rw [if_neg (by omega)] at hr
  have hlb3 : ({ ed with regs := ed.regs.put (regName arg) (ed.cp 0 0) 1 } : Ed).lb = some lb := hlb
  obtain ⟨ed4, hed4⟩ := ed_edit_total _ lb none 0 0 hlb3 (by omega) (by omega)
  have hl0 : (ed.len == 0) = false := by simp; omega
  have hrun : runCmd (f + 1) ed "ec_delete" [48] cmd arg txt = some (0, { ed4 with xrow := 0 }) := by
    rw [Lemmas.C20c.runCmd_delete, Lemmas.C20.ecDelete, hr]
    simp only [bne_self_eq_false, hl0, Bool.or_self, Bool.false_eq_true, if_false, hed4]
  obtain ⟨_, s2, _⟩ := Props.C06.ec_delete_spec f ed _ [48] cmd arg txt 0 hrun
  obtain ⟨b, e, ed1, k1, _, _, _, k5, k6, k7⟩ := s2 rfl
  rw [hr] at k1
  simp only [Option.some.injEq, Prod.mk.injEq] at k1
  obtain ⟨⟨_, rfl, rfl⟩, _⟩ := k1
  refine ⟨_, hrun, ?_, rfl, ?_⟩
  · rw [k5]; simp
  · rw [k7]; simp

/-- `-1 ≤ xrow` is kept by address evaluation and by every covered command (so `xrow ≠ -1000000` holds all along) -/
theorem xrow_invariant (f : Nat) (ed ed' : Ed) (c : LineCmd) (rc : Int) (hc : C06c.CoveredX c) (h0 : -1 ≤ ed.xrow)
    (h : runCmd (f + 1) ed c.hd c.loc c.cmd c.arg c.txt = some (rc, ed')) : -1 ≤ ed'.xrow :=
  runCmd_xrow f ed ed' c rc hc h0 h

/-! ## 3. command lines and scripts -/

/-- **`ex_loc` takes exactly the address** off the front of a command line: the text of any location tree (marks,
    closed patterns with `,` `;` `|` inside, offsets, separators), when what follows is no address byte -/
theorem exLoc_render (loc : Loc) (r : Bytes) (hok : loc.Ok) (hlex : loc.Lex)
    (hr : locChars.contains (r.headD 0) = false)
    (hstart : loc.render = [] → r.headD 0 ≠ 58 ∧ r.headD 0 ≠ 32 ∧ r.headD 0 ≠ 9) :
    exLoc (loc.render ++ r) = (loc.render, r) := Lemmas.C06d.exLoc_render loc r hok hlex hr hstart

/-- **`ex_arg` keeps backslash pairs**: a plain argument made of bytes other than newline, `|`, `"`, backslash and of
    pairs `\x` is copied as it is (backslashes included) up to the first unquoted `|` -/
theorem exArg_toks (abbr sp : Bytes) (toks : List PTok) (t : Bytes) (hsp : ∀ c ∈ sp, c = 32 ∨ c = 9)
    (harg : ∀ tk ∈ toks, TokCopied argStop tk) (hstart : (rawPat toks).headD 0 ≠ 32 ∧ (rawPat toks).headD 0 ≠ 9)
    (ht : t = [] ∨ ∃ c2, t = 124 :: c2) (hp : plainAbbr abbr (rawPat toks) = true) :
    exArg (sp ++ rawPat toks ++ t) abbr = (rawPat toks, t.drop 1) :=
  Lemmas.C06d.exArg_toks abbr sp toks t hsp harg hstart ht hp

/-- **`:s/pat/rep/flags`**: a `|` inside the pattern or the replacement belongs to the argument; the `|` after the
    flags ends the command -/
theorem exArg_subst (abbr sp : Bytes) (delim : Nat) (pat rep : List PTok) (flags t : Bytes)
    (hab : substAbbr abbr = true) (hsp : ∀ c ∈ sp, c = 32 ∨ c = 9)
    (hdl : delim ≠ 0 ∧ delim ≠ 10 ∧ delim ≠ 124 ∧ delim ≠ 92 ∧ delim ≠ 34 ∧ delim ≠ 32 ∧ delim ≠ 9)
    (hpat : ∀ tk ∈ pat, TokSub delim tk) (hrep : ∀ tk ∈ rep, TokSub delim tk)
    (hfl : ∀ c ∈ flags, c ≠ 10 ∧ c ≠ 124 ∧ c ≠ 34 ∧ c ≠ 92)
    (ht : t = [] ∨ ∃ c2, t = 124 :: c2) :
    exArg (sp ++ (delim :: (rawPat pat ++ delim :: (rawPat rep ++ delim :: (flags ++ t))))) abbr =
      (delim :: (rawPat pat ++ delim :: (rawPat rep ++ delim :: flags)), t.drop 1) :=
  Lemmas.C06d.exArg_subst abbr sp delim pat rep flags t hab hsp hdl hpat hrep hfl ht

/-- **`:g`, `:v`, `:!`** take the rest of the line, `|` included -/
theorem exArg_rest (abbr sp : Bytes) (toks : List PTok) (t : Bytes) (hab : restAbbr abbr = true)
    (hsp : ∀ c ∈ sp, c = 32 ∨ c = 9) (harg : ∀ tk ∈ toks, TokCopied (fun c => c == 10) tk)
    (hstart : (rawPat toks).headD 0 ≠ 32 ∧ (rawPat toks).headD 0 ≠ 9) (hz : rawPat toks ≠ [0, 0, 0, 0])
    (ht : t = [] ∨ ∃ c2, t = 10 :: c2) :
    exArg (sp ++ rawPat toks ++ t) abbr = (rawPat toks, t.drop 1) := by
  unfold exArg
  have hlen := toks_le_raw toks
  have hsrc : (sp ++ rawPat toks ++ t).dropWhile (fun c => c == 32 || c == 9) = rawPat toks ++ t := by
    rw [List.append_assoc]
    exact exArg_skip sp _ hsp (arg_head _ t 10 hstart (by decide) ht)
  have hab' : (abbr.headD 0 == 33 || abbr.headD 0 == 103 || abbr.headD 0 == 118) = true := hab
  simp only [hsrc, hab', Bool.true_or, if_true]
  rw [copyUntil_toks (fun c => c == 10) (by decide) toks [] t _ harg
      (by
        rcases ht with rfl | ⟨c2, rfl⟩
        · exact Or.inl rfl
        · right; rfl)
      (by simp only [List.length_append]; omega)]
  have hne : (([] ++ rawPat toks) == [0, 0, 0, 0]) = false := by simpa using hz
  simp only [hne, Bool.false_eq_true, if_false]
  rcases ht with rfl | ⟨c2, rfl⟩
  · rw [copyUntil]; simp
  · rw [copyUntil]; simp

/-- the split of one command: address tree, name, blanks, argument pieces, then `|…` or nothing -/
theorem parse1_gen {loc : Loc} {w sfx sp : Bytes} {arg : List PTok} {t : Bytes} (h : GenCmd loc w sfx sp arg t)
    (hp : plainAbbr (abbrOf (exIdx (w ++ sfx))) (rawPat arg) = true) :
    parse1 (loc.render ++ w ++ sfx ++ sp ++ rawPat arg ++ t) =
      ⟨loc.render, w ++ sfx, exIdx (w ++ sfx), rawPat arg, t.drop 1⟩ := Lemmas.C06d.parse1_gen h hp

/-- the split of `[addr]s/pat/rep/flags` -/
theorem parse1_subst {loc : Loc} {w sp : Bytes} {delim : Nat} {pat rep : List PTok} {flags t : Bytes}
    (h : SubstCmd loc w sp delim pat rep flags t) :
    parse1 (loc.render ++ (w ++ (sp ++ (substArg delim pat rep flags ++ t)))) =
      ⟨loc.render, w, exIdx w, substArg delim pat rep flags, t.drop 1⟩ := Lemmas.C06d.parse1_subst h

/-- a line `c1|c2|…` of commands with address trees and arguments with backslash pairs runs all of them in order -/
theorem exExec_line_x (f : Nat) (ed : Ed) (cs : List CmdX) (hok : LineOkX cs) (hlen : (joinBarX cs).length < Gen.EXLEN) :
    exExec (f + 1) ed (joinBarX cs) = runLine f ed (cs.map CmdX.cmd1) 0 :=
  exExec_line_gen f ed _ (lineParses_of_okX cs hok) hlen

/-- `[addr]s/a|b/c/|rest`: the substitute gets the whole delimited argument; afterwards, whatever it returned, the
    rest of the line runs -/
theorem exExec_subst (f : Nat) (ed : Ed) {loc : Loc} {w sp : Bytes} {delim : Nat} {pat rep : List PTok} {flags t : Bytes}
    (h : SubstCmd loc w sp delim pat rep flags t) (a : Bytes) (hi : exIdx w = some (a, "ec_substitute"))
    (ht : takesText a = false)
    (hlen : (loc.render ++ (w ++ (sp ++ (substArg delim pat rep flags ++ t)))).length < Gen.EXLEN)
    (hk : t.drop 1 = [] ∨ (parse1 (t.drop 1)).idx.isSome) :
    exExec (f + 1) ed (loc.render ++ (w ++ (sp ++ (substArg delim pat rep flags ++ t)))) =
      match runCmd f ed "ec_substitute" loc.render w (substArg delim pat rep flags) none with
      | none => none
      | some (r, ed1) => if t.drop 1 = [] then some (r, ed1) else exExec (f + 1) ed1 (t.drop 1) := by
  have hp := parse1_subst h
  have hne : loc.render ++ (w ++ (sp ++ (substArg delim pat rep flags ++ t))) ≠ [] := by
    cases hw : w with
    | nil => exact absurd hw h.w_ne
    | cons c w' => simp
  have hone : ∀ ret, runOne f ed (parse1 (loc.render ++ (w ++ (sp ++ (substArg delim pat rep flags ++ t))))) ret =
      (runCmd f ed "ec_substitute" loc.render w (substArg delim pat rep flags) none).map (fun x => (x, t.drop 1)) := by
    intro ret
    rw [hp]
    exact runOne_known f ed _ ret a "ec_substitute" hi ht
  cases hr : runCmd f ed "ec_substitute" loc.render w (substArg delim pat rep flags) none with
  | none =>
    rw [C06b.exExec_eq_execFrom f ed _ hlen, C06b.exExec_unfold f ed _ 0 hne, hone, hr]
    rfl
  | some x =>
    obtain ⟨r, ed1⟩ := x
    exact C06b.exExec_seq f ed ed1 _ (t.drop 1) r hne hlen (by rw [hone, hr]; rfl) hk

/-- **script_frame with reference regions** (parsed commands `a i c d y pu k = p r rs` and filters `[range]!cmd`, each
    with the tree of its address): started with `-1 ≤ xrow`, the final text is the initial text put through one
    reference splice per command (`spliceRef`: the command's `LineOp` at the region the reference evaluator gives in
    the state before the command) -/
theorem script_frame_ref (f : Nat) (script : List (LineCmd × Loc)) (ed ed' : Ed) (ss : List Splice)
    (hcov : ∀ p ∈ script, CoveredRef p) (h0 : -1 ≤ ed.xrow) (h : runScriptRef f ed script = some (ss, ed')) :
    lines ed' = applySplices (lines ed) ss ∧ ss.length = script.length ∧ SplicesOk (lines ed) ss ∧ -1 ≤ ed'.xrow := by
  obtain ⟨⟨k1, k2, k3⟩, k4⟩ := C06b.splices_run_inv lines (fun ed => -1 ≤ ed.xrow) (runScriptRef f)
    (fun ed p _ => (runCmd (f + 1) ed p.1.hd p.1.loc p.1.cmd p.1.arg p.1.txt).map (fun r => (spliceRef ed p.1 p.2 r.1, r.2)))
    CoveredRef (fun _ => rfl)
    (fun ed p cs => by rw [runScriptRef]; cases runCmd (f + 1) ed p.1.hd p.1.loc p.1.cmd p.1.arg p.1.txt <;> rfl)
    (fun ed p _ a ed1 h0 hcov h => by
      obtain ⟨⟨rc, ed2⟩, hr, rfl, rfl⟩ := Option.map_eq_some_iff.mp h
      rw [← spliceOfX_ref ed p.1 p.2 rc hcov.2.1 hcov.2.2 (by omega)]
      exact ⟨C06c.cmd_splice_x f ed ed2 p.1 rc hcov.1 hr, runCmd_xrow f ed ed2 p.1 rc hcov.1 h0 hr⟩)
    script ed ed' ss h0 hcov h
  exact ⟨k1, k2, k3, k4⟩

/-- **script_frame_lines, any correctly split line** (`CoveredLineG`: the line is one command of the table among
    `a i c d y pu k = p r`, and `ex_exec` splits it into its pieces — which `C06b.Cmd1.Ok` and `CmdX.Ok` both
    guarantee): one splice per line, given by the line's resolved region -/
theorem script_frame_lines_x (f : Nat) (script : List Cmd1) (ed ed' : Ed) (ss : List Splice)
    (hcov : ∀ c ∈ script, CoveredLineG c) (h : runLines f ed script = some (ss, ed')) :
    lines ed' = applySplices (lines ed) ss ∧ ss.length = script.length ∧ SplicesOk (lines ed) ss :=
  script_frame_lines_gen f script ed ed' ss hcov h

/-- **script_frame_lines with address trees and reference regions.**  A script of lines `[addr]cmd [arg]`, `cmd` among
    `a i c d y pu k = p r`, the address any `Loc` tree (`Loc.Ok`, `Loc.Lex`), the argument with backslash pairs, run
    line by line through `ex_command` from a state with `-1 ≤ xrow`: the final text is the initial text put through
    one splice per line, *the command's reference operation on the region the reference evaluator gives in the
    state before the line* (`spliceRef`); each splice lies inside the text it applies to -/
theorem script_frame_lines_ref (f : Nat) (script : List CmdX) (ed ed' : Ed) (ss : List Splice)
    (hcov : ∀ c ∈ script, CoveredLineX c) (h0 : -1 ≤ ed.xrow) (h : runLinesRef f ed script = some (ss, ed')) :
    lines ed' = applySplices (lines ed) ss ∧ ss.length = script.length ∧ SplicesOk (lines ed) ss ∧ -1 ≤ ed'.xrow :=
  Lemmas.C06d.script_frame_lines_ref f script ed ed' ss hcov h0 h

/-- the same for lines `c1|c2|…` -/
theorem script_frame_bar_ref (f : Nat) (script : List (List CmdX)) (ed ed' : Ed) (ss : List Splice)
    (hcov : ∀ l ∈ script, ∀ c ∈ l, CoveredCmdX c) (h0 : -1 ≤ ed.xrow)
    (h : runBarLinesRef f ed script = some (ss, ed')) :
    lines ed' = applySplices (lines ed) ss ∧ ss.length = (script.map List.length).sum ∧ SplicesOk (lines ed) ss ∧
      -1 ≤ ed'.xrow :=
  Lemmas.C06d.script_frame_bar_ref f script ed ed' ss hcov h0 h

/-- `runBarLinesRef` is the run of the lines through `ex_command` (for lines `ex_exec` splits correctly, `LineOkX`) -/
theorem runBarLinesRef_exCommand (f : Nat) (ed : Ed) (l : List CmdX) (ls : List (List CmdX)) (hok : LineOkX l)
    (hlen : (joinBarX l).length < Gen.EXLEN) :
    runBarLinesRef f ed (l :: ls) =
      match runBarRef f ed l 0, exCommand (f + 3) ed (joinBarX l) with
      | some (ss, _, _), some (_, ed1) => (runBarLinesRef f ed1 ls).map (fun x => (ss ++ x.1, x.2))
      | _, _ => none := by
  have hp := lineParses_of_okX l hok
  unfold joinBarX at hlen ⊢
  rw [exCommand_bar_gen f ed _ hp hlen]
  simp only [runBarLinesRef]
  have hk := runBarRef_snd f l ed 0
  cases h1 : runBarRef f ed l 0 with
  | none => rfl
  | some z =>
    obtain ⟨ss, r, ed1⟩ := z
    rw [h1] at hk
    cases h2 : C06b.runBar f ed (l.map CmdX.cmd1) 0 with
    | none => rw [h2] at hk; cases hk
    | some z' =>
      obtain ⟨ss', r', ed1'⟩ := z'
      rw [h2] at hk
      simp only [Option.map_some, Option.some.injEq, Prod.mk.injEq] at hk
      obtain ⟨rfl, rfl⟩ := hk
      rfl

/-! ## examples: a five-line buffer `a`, `b`, `c/`, `d`, `ab`, mark `a` on line 4, current line 2 -/

def ed5 : Ed :=
  { bufs := [some { path := [], lb := Lbuf.setMark { lines := [[97, 10], [98, 10], [99, 47, 10], [100, 10], [97, 98, 10]] } 97 3 0 }],
    xrow := 1 }

/-- `'a-1,$` is lines 3–5 -/
example : (refRegion (worldOf ed5) (cursorOf ed5)
    (.list [(⟨.mark 97, [⟨true, [49]⟩], []⟩, .comma), (⟨.dollar, [], []⟩, .fin)])).map (·.1) = some (0, 2, 5) := by
  decide +kernel

/-- `/c\//` (forward search for `c/`) is line 3; `?a?` from line 2 is line 1; `?d?` from line 2 finds nothing -/
example : (refRegion (worldOf ed5) (cursorOf ed5)
    (.list [(⟨.search false [.ch 99, .esc 47] true, [], []⟩, .fin)])).map (·.1) = some (0, 2, 3) := by
  decide +kernel

example : (refRegion (worldOf ed5) (cursorOf ed5)
    (.list [(⟨.search true [.ch 97] true, [], []⟩, .fin)])).map (·.1) = some (0, 0, 1) := by
  decide +kernel

example : (refRegion (worldOf ed5) (cursorOf ed5)
    (.list [(⟨.search true [.ch 100] true, [], []⟩, .fin)])).map (·.1) = some (1, -1, -1) := by
  decide +kernel

/-- `+1;+1` is lines 3–4 (`;` moves the current line), `+1,+1` is line 3 only -/
example : (refRegion (worldOf ed5) (cursorOf ed5)
    (.list [(⟨.implicit, [⟨false, [49]⟩], []⟩, .semi), (⟨.implicit, [⟨false, [49]⟩], []⟩, .fin)])).map (·.1) =
    some (0, 2, 4) := by decide +kernel

/-- and `ex_region` agrees (an instance of `exRegion_is_reference`) -/
example : (exRegion ed5 (Loc.render (.list [(⟨.mark 97, [⟨true, [49]⟩], []⟩, .comma), (⟨.dollar, [], []⟩, .fin)]))).map (·.1) =
    some (0, 2, 5) := by
  rw [exRegion_is_reference ed5 _ (by decide) (by decide)]
  decide +kernel

/-- `2,5s/b/X<newline>Y/` on `a b c/ d ab`: line 2 becomes the two lines `X`, `Y`, and the loop still reaches the old
    line 5 (`ab` becomes `aX`, `Y`): an instance of `subst_splice` with a replacement that adds lines -/
example : (runCmd 1 ed5 "ec_substitute" [50, 44, 53] [115] [47, 98, 47, 88, 10, 89, 47] none).map (fun r => (r.1, lines r.2)) =
    some (0, [[97, 10], [88, 10], [89, 10], [99, 47, 10], [100, 10], [97, 88, 10], [89, 10]]) := by
  rw [runCmd]; decide +kernel

/-- `'a-1,$d`: an instance of `delete_ref` (the reference gives `2..5`, see above) -/
example : (runCmd 1 ed5 "ec_delete" (Loc.render (.list [(⟨.mark 97, [⟨true, [49]⟩], []⟩, .comma), (⟨.dollar, [], []⟩, .fin)]))
    [100] [] none).map (fun r => (r.1, lines r.2, r.2.xrow)) = some (0, [[97, 10], [98, 10]], 2) := by
  rw [runCmd]; decide +kernel

/-- a script for `script_frame_ref`: `'a-1,$d` then `?a?a` with the text `x` -/
def exScript : List (LineCmd × Loc) :=
  [(⟨"ec_delete", Loc.render (.list [(⟨.mark 97, [⟨true, [49]⟩], []⟩, .comma), (⟨.dollar, [], []⟩, .fin)]), [100], [], none⟩,
      .list [(⟨.mark 97, [⟨true, [49]⟩], []⟩, .comma), (⟨.dollar, [], []⟩, .fin)]),
   (⟨"ec_insert", Loc.render (.list [(⟨.search true [.ch 97] true, [], []⟩, .fin)]), [97], [], some [120, 10]⟩,
      .list [(⟨.search true [.ch 97] true, [], []⟩, .fin)])]

example : ∀ p ∈ exScript, CoveredRef p := by
  intro p hp
  simp only [exScript, List.mem_cons, List.not_mem_nil, or_false] at hp
  rcases hp with rfl | rfl <;> exact ⟨Or.inl (by decide), rfl, by decide⟩

example : (runScriptRef 0 ed5 exScript).map (fun r => (r.1, lines r.2)) =
    some ([(2, 5, []), (1, 1, [[120, 10]])], [[97, 10], [120, 10], [98, 10]]) := by
  simp only [runScriptRef, exScript]
  unfold runCmd
  decide +kernel

/-- the hypotheses of the script theorems are satisfiable: the line `'a,/x\/y/+1d|$pu \|` -/
def exC1 : CmdX :=
  ⟨.list [(⟨.mark 97, [], []⟩, .comma), (⟨.search false [.ch 120, .esc 47, .ch 121] true, [⟨false, [49]⟩], []⟩, .fin)],
    [100], [], [], []⟩
def exC2 : CmdX := ⟨.list [(⟨.dollar, [], []⟩, .fin)], [112, 117], [], [32], [.esc 124]⟩

theorem exC2_ok : exC2.Ok [] where
  gen := {
    loc_ok := by decide
    loc_lex := by decide
    w_alpha := by decide
    w_len := by decide
    w_k := by decide
    sfx_ok := by decide
    sp_ok := by decide
    arg_ok := by decide
    arg_start := by decide
    t_ok := Or.inl rfl
    name_end := by decide
    bare := by intro h; cases h }
  plain := by decide
  notRs := by decide

theorem exC1_ok : exC1.Ok (124 :: joinBarX [exC2]) where
  gen := {
    loc_ok := by decide
    loc_lex := by decide
    w_alpha := by decide
    w_len := by decide
    w_k := by decide
    sfx_ok := by decide
    sp_ok := by decide
    arg_ok := by decide
    arg_start := by decide
    t_ok := Or.inr ⟨_, rfl⟩
    name_end := by decide
    bare := by intro h; cases h }
  plain := by decide
  notRs := by decide

example : LineOkX [exC1, exC2] := ⟨exC1_ok, exC2_ok, by decide⟩

example : CoveredLineX exC2 := ⟨exC2_ok, by decide, by decide, [112, 117], "ec_put", by decide, by decide⟩

example : CoveredCmdX exC1 := ⟨⟨by decide, [100], "ec_delete", by decide, by decide⟩, by decide⟩

/-- `2,3s/a|b/X/g|4d` is a `SubstCmd` followed by `|4d` -/
example : SubstCmd (.list [(⟨.num [50], [], []⟩, .comma), (⟨.num [51], [], []⟩, .fin)]) [115] [] 47
    [.ch 97, .ch 124, .ch 98] [.ch 88] [103] [124, 52, 100] where
  loc_ok := by decide
  loc_lex := by decide
  w_ne := by decide
  w_alpha := by decide
  w_len := by decide
  w_k := by decide
  abbr := by decide
  sp_ok := by decide
  delim_ok := by decide
  delim_name := by decide
  pat_ok := by decide
  rep_ok := by decide
  flags_ok := by decide
  t_ok := Or.inr ⟨_, rfl⟩

end Neatvi.Props.C06d
