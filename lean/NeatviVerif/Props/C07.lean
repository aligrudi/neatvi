import NeatviVerif.Lemmas.C07Step
import NeatviVerif.Lemmas.C07Find
import NeatviVerif.Lemmas.C07cFind
/-!
# C07: vi cursor motions

"After every motion the cursor is on an existing character of an existing line (never on the line
terminator of a non-empty line), and motions never change the text; each motion lands where the
reference semantics say."

Everything is stated on the model (`Model/Vi.lean`, `Model/ViCmd.lean`, `Model/Mot.lean`), for all states.

* §1 `renNoeol_spec`: `ren_noeol`;
* §2 `viWfix_ok`, `wfix_cursor_valid`, `wfix_window`: what `vi_wfix()` establishes;
* §3 `*_lines`, `motion_keeps_text`, `viStep_motion_keeps_text`: motions never change the text;
  `viStep_motion_cursor_valid`: after an iteration of the vi loop that is a motion the cursor is valid;
* §4 scanner specifications (`Mot.eol`, `Mot.indents`, `Mot.findchar`, `Mot.paragraphbeg`, `Mot.next`);
* §5 examples on a two-line buffer.

Findings recorded here (they are facts of the model, which follows the C code):
* `vi_wfix()` does not repair a negative `xoff`: `ren_noeol` returns a negative offset unchanged
  (`renNoeol_neg`, `wfix_keeps_negative_xoff`); `0 ≤ xoff` after `vi_wfix()` needs `0 ≤ xoff` before;
* `ren_noeol` is idempotent, and its result is off the newline, only on lines that do not have two
  consecutive newline characters (`renNoeol_not_idem_example`); every line of a buffer (`WfLine`) is such
  a line (`wfLine_noNlNl`).
-/
set_option linter.unusedVariables false

namespace Neatvi.Props.C07
open Neatvi Neatvi.Uc Neatvi.Lbuf Neatvi.Ex Neatvi.Mot Neatvi.Vi Neatvi.Lemmas.C07

/-! ## 1. `ren_noeol` -/

/-- `ren_noeol(ln, o)` for `o ≥ 0`: a valid offset not beyond `o`; idempotent on lines without two
    consecutive newline characters -/
theorem renNoeol_spec (ln : Bytes) (o : Int) (ho : 0 ≤ o) :
    0 ≤ Ren.renNoeol ln o ∧ Ren.renNoeol ln o ≤ o ∧ Ren.renNoeol ln o < max 1 (ucSlen ln : Int) ∧
    (NoNlNl ln → Ren.renNoeol ln (Ren.renNoeol ln o) = Ren.renNoeol ln o) :=
  ⟨renNoeol_nonneg ln o ho, renNoeol_le ln o ho, renNoeol_lt ln o, renNoeol_idem ln o⟩

/-- a buffer line (its only newline is its last byte) has no two consecutive newline characters
    (`wfLine_noNlNl`), so on buffer lines `ren_noeol` is idempotent for every offset -/
theorem renNoeol_idem_wf (ln : Bytes) (h : WfLine ln) (o : Int) :
    Ren.renNoeol ln (Ren.renNoeol ln o) = Ren.renNoeol ln o := renNoeol_idem ln o (wfLine_noNlNl ln h)

/-- the result is never on the newline of a buffer line, unless the line is just the newline -/
theorem renNoeol_off_newline (ln : Bytes) (h : WfLine ln) (o : Int) (hp : 0 < Ren.renNoeol ln o) :
    Ren.chrHd ln (Ren.renNoeol ln o).toNat ≠ 10 := renNoeol_not_nl ln o (wfLine_noNlNl ln h) hp

/-- negative offsets pass through -/
theorem renNoeol_negative (ln : Bytes) (o : Int) (h : o < 0) : Ren.renNoeol ln o = o := renNoeol_neg ln o h

/-- idempotence fails on the string `"a\n\n"` (not a buffer line) -/
theorem renNoeol_not_idem_example :
    Ren.renNoeol [97, 10, 10] 2 = 1 ∧ Ren.renNoeol [97, 10, 10] 1 = 0 := by decide

/-! ## 2. `vi_wfix()` -/

/-- the row `vi_wfix()` settles on -/
def wfixRow (s : VS) : Int :=
  if s.ed.xrow < 0 || s.ed.xrow ≥ lenOf s then (if lenOf s != 0 then lenOf s - 1 else 0) else s.ed.xrow

/-- the top of the window `vi_wfix()` settles on -/
def wfixTop (s : VS) : Int :=
  let xrow := wfixRow s
  let xrows := s.xrows
  let xtop := s.ed.xtop
  let xtop := if xtop > xrow then (if xtop - xrows / 2 > xrow then max 0 (xrow - xrows / 2) else xrow) else xtop
  if xtop + xrows ≤ xrow then (if xtop + xrows + xrows / 2 ≤ xrow then xrow - xrows / 2 else xrow - xrows + 1) else xtop

/-- the offset `vi_wfix()` settles on (`""` stands for the missing line of an empty buffer) -/
def wfixOff (s : VS) : Int := Ren.renNoeol ((lineOf s (wfixRow s)).getD []) s.ed.xoff

/-- `vi_wfix()` in closed form: it only assigns `xrow`, `xtop`, `xoff` -/
theorem viWfix_eq (s : VS) :
    viWfix s = Res.ok () { s with ed := { s.ed with xrow := wfixRow s, xtop := wfixTop s, xoff := wfixOff s } } := by
  have h : (match lineOf s (wfixRow s) with
      | some l => Ren.renNoeol l s.ed.xoff | none => Ren.renNoeol [] s.ed.xoff) = wfixOff s := by
    unfold wfixOff; cases lineOf s (wfixRow s) <;> rfl
  rw [← h]
  rfl

/-- `vi_wfix()` never traps and never waits for a key -/
theorem viWfix_ok (s : VS) : ∃ s', viWfix s = Res.ok () s' := ⟨_, viWfix_eq s⟩

theorem lenOf_nonneg (s : VS) : 0 ≤ lenOf s := by unfold lenOf; omega

theorem wfixRow_range (s : VS) :
    (lenOf s = 0 → wfixRow s = 0) ∧ (lenOf s ≠ 0 → 0 ≤ wfixRow s ∧ wfixRow s < lenOf s) := by
  have := lenOf_nonneg s
  unfold wfixRow
  simp only [Bool.or_eq_true, decide_eq_true_eq, bne_iff_ne, ne_eq, ite_not]
  omega

theorem wfixRow_nonneg (s : VS) : 0 ≤ wfixRow s := by
  have := wfixRow_range s
  omega

theorem wfixTop_bounds (s : VS) (hrows : 0 < s.xrows) :
    wfixTop s ≤ wfixRow s ∧ wfixRow s < wfixTop s + s.xrows ∧ (0 ≤ s.ed.xtop → 0 ≤ wfixTop s) := by
  have h0 := wfixRow_nonneg s
  unfold wfixTop
  simp only []
  generalize wfixRow s = x at *
  generalize s.ed.xtop = t
  generalize s.xrows = R at *
  omega

theorem lineOf_isSome (s : VS) (r : Int) (h0 : 0 ≤ r) (h1 : r < lenOf s) : ∃ ln, lineOf s r = some ln := by
  unfold lineOf lineAt
  rw [if_neg (by omega)]
  unfold lenOf at h1
  exact ⟨(lines s)[r.toNat]'(by omega), List.getElem?_eq_getElem (by omega)⟩

theorem lineOf_none_of_empty (s : VS) (r : Int) (h : lenOf s = 0) : lineOf s r = none := by
  unfold lineOf lineAt
  split
  · rfl
  · unfold lenOf at h
    have : (lines s).length = 0 := by omega
    rw [List.getElem?_eq_none (by omega)]

/-- **`vi_wfix()` leaves a valid cursor.**  For every state `s`:
    * the text is unchanged;
    * the row is 0 in an empty buffer and an existing row otherwise;
    * with `ln` the line under the cursor: `xoff' = ren_noeol(ln, xoff)`, `xoff' < max 1 (uc_slen ln)`;
      `0 ≤ xoff'` and `xoff' ≤ xoff` **provided `0 ≤ xoff` before** (a negative `xoff` is kept as it is);
      if `ln` has no two consecutive newline characters (every buffer line, `wfLine_noNlNl`) then `xoff'`
      is a fixed point of `ren_noeol` and, when positive, is not on a newline;
    * in an empty buffer `xoff' = 0` provided `0 ≤ xoff` before. -/
theorem wfix_cursor_valid (s s' : VS) (h : viWfix s = Res.ok () s') :
    lines s' = lines s ∧ lbText s' = lbText s ∧
    (lenOf s' = 0 → s'.ed.xrow = 0) ∧
    (lenOf s' ≠ 0 → 0 ≤ s'.ed.xrow ∧ s'.ed.xrow < lenOf s' ∧ ∃ ln, lineOf s' s'.ed.xrow = some ln) ∧
    (∀ ln, lineOf s' s'.ed.xrow = some ln →
      s'.ed.xoff = Ren.renNoeol ln s.ed.xoff ∧
      s'.ed.xoff < max 1 (ucSlen ln : Int) ∧
      (0 ≤ s.ed.xoff → 0 ≤ s'.ed.xoff ∧ s'.ed.xoff ≤ s.ed.xoff) ∧
      (s.ed.xoff < 0 → s'.ed.xoff = s.ed.xoff) ∧
      (0 < s'.ed.xoff → Ren.chrHd ln s'.ed.xoff.toNat ≠ 10 ∨ Ren.chrHd ln (s'.ed.xoff.toNat + 1) = 10) ∧
      (NoNlNl ln → Ren.renNoeol ln s'.ed.xoff = s'.ed.xoff ∧
        (0 < s'.ed.xoff → Ren.chrHd ln s'.ed.xoff.toNat ≠ 10))) ∧
    (lineOf s' s'.ed.xrow = none → s'.ed.xoff = Ren.renNoeol [] s.ed.xoff ∧ (0 ≤ s.ed.xoff → s'.ed.xoff = 0)) := by
  rw [viWfix_eq] at h
  cases h
  have hl : ∀ r, lineOf { s with ed := { s.ed with xrow := wfixRow s, xtop := wfixTop s, xoff := wfixOff s } } r
      = lineOf s r := fun _ => rfl
  obtain ⟨hr0, hr1⟩ := wfixRow_range s
  refine ⟨rfl, rfl, hr0, ?_, ?_, ?_⟩
  · intro hne
    obtain ⟨a, b⟩ := hr1 hne
    exact ⟨a, b, lineOf_isSome s _ a b⟩
  · intro ln hln
    have hln' : lineOf s (wfixRow s) = some ln := hln
    have hx : wfixOff s = Ren.renNoeol ln s.ed.xoff := by unfold wfixOff; rw [hln']; rfl
    dsimp only
    rw [hx]
    refine ⟨rfl, renNoeol_lt ln _, fun h0 => ⟨renNoeol_nonneg ln _ h0, renNoeol_le ln _ h0⟩,
      fun h0 => renNoeol_neg ln _ h0, fun hp => renNoeol_not_nl_gen ln _ hp,
      fun hn => ⟨renNoeol_idem ln _ hn, fun hp => renNoeol_not_nl ln _ hn hp⟩⟩
  · intro hnone
    have hnone' : lineOf s (wfixRow s) = none := hnone
    have hx : wfixOff s = Ren.renNoeol [] s.ed.xoff := by unfold wfixOff; rw [hnone']; rfl
    dsimp only
    rw [hx]
    refine ⟨rfl, fun h0 => ?_⟩
    have h1 := renNoeol_nonneg [] _ h0
    have h2 := renNoeol_lt [] s.ed.xoff
    have : (ucSlen [] : Int) = 0 := by decide
    omega

/-- `0 ≤ xoff` is *not* established by `vi_wfix()`: a negative offset survives -/
theorem wfix_keeps_negative_xoff (s s' : VS) (h : viWfix s = Res.ok () s') (hneg : s.ed.xoff < 0) :
    s'.ed.xoff = s.ed.xoff := by
  rw [viWfix_eq] at h
  cases h
  show wfixOff s = _
  unfold wfixOff
  exact renNoeol_neg _ _ hneg

/-- **the cursor row is inside the window after `vi_wfix()`** (for a window of at least one row; no
    hypothesis on the old `xtop`) -/
theorem wfix_window (s s' : VS) (h : viWfix s = Res.ok () s') (hrows : 0 < s.xrows) :
    s'.ed.xtop ≤ s'.ed.xrow ∧ s'.ed.xrow < s'.ed.xtop + s.xrows ∧ s'.xrows = s.xrows := by
  rw [viWfix_eq] at h
  cases h
  obtain ⟨a, b, _⟩ := wfixTop_bounds s hrows
  exact ⟨a, b, rfl⟩

/-- the top of the window stays non-negative -/
theorem wfix_top_nonneg (s s' : VS) (h : viWfix s = Res.ok () s') (htop : 0 ≤ s.ed.xtop) (hrows : 0 < s.xrows) :
    0 ≤ s'.ed.xtop := by
  rw [viWfix_eq] at h
  cases h
  exact (wfixTop_bounds s hrows).2.2 htop

/-! ## 3. motions never change the text

`Keeps cb m` (`Lemmas/C07Frame`): whenever `m` returns normally the text of the line buffer is the same
(marks, undo history and sequence numbers may differ), and for `cb = true` so are `xrow`, `xoff`, `xtop`
and the height of the window. -/

/-- the text of the whole line buffer, and hence its list of lines -/
theorem keeps_text {α : Type} {cb : Bool} {m : M α} (hk : Keeps cb m) {s : VS} {a : α} {s' : VS}
    (h : m s = Res.ok a s') :
    lines s' = lines s ∧ s'.ed.lb.map (·.lines) = s.ed.lb.map (·.lines) :=
  ⟨lines_of_lbText (hk.text h), hk.text h⟩

theorem termRead_lines (s : VS) (a : Int) (s' : VS) (h : termRead s = Res.ok a s') :
    lines s' = lines s ∧ s'.ed.lb.map (·.lines) = s.ed.lb.map (·.lines) := keeps_text (keeps_termRead (c := true)) h
theorem viRead_lines (s : VS) (a : Int) (s' : VS) (h : viRead s = Res.ok a s') :
    lines s' = lines s ∧ s'.ed.lb.map (·.lines) = s.ed.lb.map (·.lines) := keeps_text (keeps_viRead (c := true)) h
theorem viBack_lines (c : Int) (s : VS) (a : Unit) (s' : VS) (h : viBack c s = Res.ok a s') :
    lines s' = lines s ∧ s'.ed.lb.map (·.lines) = s.ed.lb.map (·.lines) := keeps_text (keeps_viBack (c := true) c) h
theorem termCmd_lines (s : VS) (a : Bytes) (s' : VS) (h : termCmd s = Res.ok a s') :
    lines s' = lines s ∧ s'.ed.lb.map (·.lines) = s.ed.lb.map (·.lines) := keeps_text (keeps_termCmd (c := true)) h
theorem viYankbuf_lines (s : VS) (a : Nat) (s' : VS) (h : viYankbuf s = Res.ok a s') :
    lines s' = lines s ∧ s'.ed.lb.map (·.lines) = s.ed.lb.map (·.lines) := keeps_text (keeps_viYankbuf (cb := true)) h
theorem viPrefix_lines (s : VS) (a : Int) (s' : VS) (h : viPrefix s = Res.ok a s') :
    lines s' = lines s ∧ s'.ed.lb.map (·.lines) = s.ed.lb.map (·.lines) := keeps_text (keeps_viPrefix (cb := true)) h
theorem ledLine_lines (pref post ai0 : Bytes) (aiMax : Nat) (im ex : Bool) (s : VS) (a : Bytes × Int × Bytes) (s' : VS)
    (h : ledLine pref post ai0 aiMax im ex s = Res.ok a s') :
    lines s' = lines s ∧ s'.ed.lb.map (·.lines) = s.ed.lb.map (·.lines) :=
  keeps_text (keeps_ledLine (cb := false) pref post ai0 aiMax im ex) h
theorem viPrompt_lines (ex : Bool) (s : VS) (a : Option Bytes) (s' : VS) (h : viPrompt ex s = Res.ok a s') :
    lines s' = lines s ∧ s'.ed.lb.map (·.lines) = s.ed.lb.map (·.lines) := keeps_text (keeps_viPrompt (cb := false) ex) h
theorem viChar_lines (s : VS) (a : Option Bytes) (s' : VS) (h : viChar s = Res.ok a s') :
    lines s' = lines s ∧ s'.ed.lb.map (·.lines) = s.ed.lb.map (·.lines) := keeps_text (keeps_viChar (cb := true)) h
theorem markSet_lines (c : Nat) (r o : Int) (s : VS) (a : Unit) (s' : VS) (h : markSet c r o s = Res.ok a s') :
    lines s' = lines s ∧ s'.ed.lb.map (·.lines) = s.ed.lb.map (·.lines) := keeps_text (keeps_markSet (c := true) c r o) h
theorem markSave_lines (s : VS) (a : Unit) (s' : VS) (h : markSave s = Res.ok a s') :
    lines s' = lines s ∧ s'.ed.lb.map (·.lines) = s.ed.lb.map (·.lines) := keeps_text (keeps_markSave (cb := true)) h
theorem setRow_lines (r : Int) (s : VS) (a : Unit) (s' : VS) (h : setRow r s = Res.ok a s') :
    lines s' = lines s ∧ s'.ed.lb.map (·.lines) = s.ed.lb.map (·.lines) := keeps_text (keeps_setRow r) h
theorem setOff_lines (o : Int) (s : VS) (a : Unit) (s' : VS) (h : setOff o s = Res.ok a s') :
    lines s' = lines s ∧ s'.ed.lb.map (·.lines) = s.ed.lb.map (·.lines) := keeps_text (keeps_setOff o) h
theorem lbufModified_lines (s : VS) (a : Unit) (s' : VS) (h : lbufModified s = Res.ok a s') :
    lines s' = lines s ∧ s'.ed.lb.map (·.lines) = s.ed.lb.map (·.lines) := keeps_text (keeps_lbufModified (c := true)) h
theorem viWait_lines (s : VS) (a : Unit) (s' : VS) (h : viWait s = Res.ok a s') :
    lines s' = lines s ∧ s'.ed.lb.map (·.lines) = s.ed.lb.map (·.lines) := keeps_text (keeps_viWait (cb := true)) h

/-- `vi_motionln` -/
theorem viMotionln_lines (row cmd : Int) (s : VS) (a : Int × Int) (s' : VS) (h : viMotionln row cmd s = Res.ok a s') :
    lines s' = lines s ∧ s'.ed.lb.map (·.lines) = s.ed.lb.map (·.lines) :=
  keeps_text (keeps_viMotionln (cb := true) row cmd) h

/-- `vi_search` (it sets the search keyword, register `/` and the message, never the text) -/
theorem viSearch_lines (cmd : Nat) (cnt r o : Int) (s : VS) (a : Option (Int × Int)) (s' : VS)
    (h : viSearch cmd cnt r o s = Res.ok a s') :
    lines s' = lines s ∧ s'.ed.lb.map (·.lines) = s.ed.lb.map (·.lines) :=
  keeps_text (keeps_viSearch (cb := true) cmd cnt r o) h

/-- `vi_motion`: every motion, including the failing ones and "no motion" -/
theorem viMotion_lines (row off : Int) (s : VS) (a : Int × Int × Int) (s' : VS) (h : viMotion row off s = Res.ok a s') :
    lines s' = lines s ∧ s'.ed.lb.map (·.lines) = s.ed.lb.map (·.lines) :=
  keeps_text (keeps_viMotion (cb := true) row off) h

/-- the prefixes and the motion of an iteration of the vi loop -/
theorem viPre_lines (s : VS) (a : Int × Int × Int) (s' : VS) (h : viPre s = Res.ok a s') :
    lines s' = lines s ∧ s'.ed.lb.map (·.lines) = s.ed.lb.map (·.lines) := keeps_text (keeps_viPre (cb := true)) h

/-- moreover reading the prefixes and the motion moves neither the cursor nor the window: the motion
    only *returns* the target -/
theorem viPre_cursor (s : VS) (a : Int × Int × Int) (s' : VS) (h : viPre s = Res.ok a s') :
    s'.ed.xrow = s.ed.xrow ∧ s'.ed.xoff = s.ed.xoff ∧ s'.ed.xtop = s.ed.xtop ∧ s'.xrows = s.xrows :=
  (keeps_viPre (cb := true)).cursor_eqs h

/-- **a motion keeps the text**: prefixes and motion, the cursor update, and the end of the iteration -/
theorem motion_keeps_text (s s1 s2 s3 : VS) (mv r o : Int) (c : Option Nat)
    (hpre : viPre s = Res.ok (mv, r, o) s1) (hmv : mv > 0)
    (htail : motionTail mv r o s1 = Res.ok c s2) (hpost : viPost c s2 = Res.ok () s3) :
    lines s3 = lines s ∧ s3.ed.lb.map (·.lines) = s.ed.lb.map (·.lines) := by
  have : lbText s3 = lbText s := ((keeps_viPost c).text hpost).trans
    (((keeps_motionTail mv r o).text htail).trans ((keeps_viPre (cb := false)).text hpre))
  exact ⟨lines_of_lbText this, this⟩

/-- one iteration of the vi loop whose key sequence is a motion (`mv > 0`) or a failed motion (`mv < 0`):
    the text is unchanged -/
theorem viStep_motion_keeps_text (s s1 s3 : VS) (mv r o : Int)
    (hpre : viPre s = Res.ok (mv, r, o) s1) (hmv : mv ≠ 0) (h : viStep s = Res.ok () s3) :
    lines s3 = lines s ∧ s3.ed.lb.map (·.lines) = s.ed.lb.map (·.lines) := by
  rw [viStep_of_pre s s1 mv r o hpre] at h
  have : lbText s3 = lbText s := ((Keeps.bind (keeps_stepCont r o hmv) keeps_viPost).text h).trans
    ((keeps_viPre (cb := false)).text hpre)
  exact ⟨lines_of_lbText this, this⟩

/-! ### after a motion the cursor is valid -/

/-- what `vi_wfix()` establishes: the cursor row is an existing line (row 0 of an empty buffer); on that line
    the offset is below the number of characters and, on a buffer line, a fixed point of `ren_noeol`, hence not
    on the line terminator when positive; the cursor row is inside the window.  Nothing bounds the offset from
    below (`wfix_keeps_negative_xoff`), and nothing bounds it in an empty buffer: together with `0 ≤ xoff` the
    cursor rests on an existing character (`cursor_on_character`). -/
structure CursorValid (s : VS) : Prop where
  /-- an empty buffer: row 0 -/
  row_empty : lenOf s = 0 → s.ed.xrow = 0
  /-- otherwise an existing line -/
  row : lenOf s ≠ 0 → 0 ≤ s.ed.xrow ∧ s.ed.xrow < lenOf s ∧ ∃ ln, lineOf s s.ed.xrow = some ln
  /-- the offset is below the number of characters of the line (0 on a line without characters) -/
  off_lt : ∀ ln, lineOf s s.ed.xrow = some ln → s.ed.xoff < max 1 (ucSlen ln : Int)
  /-- on a buffer line the offset is a fixed point of `ren_noeol` and is not on the newline, unless the
      line is just the newline (then the offset is 0) -/
  off_nl : ∀ ln, lineOf s s.ed.xrow = some ln → NoNlNl ln →
    Ren.renNoeol ln s.ed.xoff = s.ed.xoff ∧ (0 < s.ed.xoff → Ren.chrHd ln s.ed.xoff.toNat ≠ 10)
  /-- the window contains the cursor row -/
  window : 0 < s.xrows → s.ed.xtop ≤ s.ed.xrow ∧ s.ed.xrow < s.ed.xtop + s.xrows

/-- `vi_wfix()` establishes `CursorValid`, and the rest of `viPost` preserves it -/
theorem viPost_cursor_valid (mod : Nat) (s s' : VS) (h : viPost (some mod) s = Res.ok () s') :
    CursorValid s' ∧ (0 ≤ s.ed.xoff → 0 ≤ s'.ed.xoff) ∧ lines s' = lines s ∧ s'.ed.xrow = wfixRow s := by
  rw [viPost_some] at h
  obtain ⟨u, sw, hw, hrest⟩ := bind_inv _ _ _ _ _ h
  have hk := keeps_viPostRest (cb := true) mod
  obtain ⟨c1, c2, c3, c4⟩ := hk.cursor_eqs hrest
  have ht := hk.text hrest
  obtain ⟨w1, w2, w3, w4, w5, w6⟩ := wfix_cursor_valid s sw hw
  have hlen : lenOf s' = lenOf sw := lenOf_of_lbText ht
  have hline : ∀ r, lineOf s' r = lineOf sw r := lineOf_of_lbText ht
  refine ⟨⟨?_, ?_, ?_, ?_, ?_⟩, ?_, ?_, ?_⟩
  · rw [hlen, c1]; exact w3
  · rw [hlen, c1, hline]; exact w4
  · intro ln; rw [c1, c2, hline]; intro hl; exact (w5 ln hl).2.1
  · intro ln; rw [c1, c2, hline]; intro hl hn; exact (w5 ln hl).2.2.2.2.2 hn
  · rw [c1, c3, c4]
    intro hr
    have hx : sw.xrows = s.xrows := by rw [viWfix_eq] at hw; cases hw; rfl
    obtain ⟨a, b, _⟩ := wfix_window s sw hw (by rw [← hx]; exact hr)
    rw [hx]; exact ⟨a, b⟩
  · intro h0
    rw [c2]
    cases hl : lineOf sw sw.ed.xrow with
    | none => rw [(w6 hl).2 h0]; omega
    | some ln => exact ((w5 ln hl).2.2.1 h0).1
  · rw [lines_of_lbText ht]; exact w1
  · rw [c1]; rw [viWfix_eq] at hw; cases hw; rfl

theorem wfixRow_of_range (s : VS) (h0 : 0 ≤ s.ed.xrow) (h1 : s.ed.xrow < lenOf s) : wfixRow s = s.ed.xrow := by
  unfold wfixRow
  rw [if_neg]
  simp only [Bool.or_eq_true, decide_eq_true_eq]
  omega

/-- **After an iteration of the vi loop that is a motion (`mv > 0`) or a failed motion (`mv < 0`) the
    cursor is valid**, for every start state: the text is unchanged, the cursor is on an existing line
    (row 0 of an empty buffer), on an existing character of it and not on its terminator, and inside the
    window.  After a successful motion `0 ≤ xoff` holds unconditionally and the row is the target row
    when that row exists; after a failed motion `0 ≤ xoff` is inherited and a valid row is kept. -/
theorem viStep_motion_cursor_valid (s s1 s3 : VS) (mv r o : Int)
    (hpre : viPre s = Res.ok (mv, r, o) s1) (hmv : mv ≠ 0) (h : viStep s = Res.ok () s3) :
    CursorValid s3 ∧ lines s3 = lines s ∧
    (0 < mv → 0 ≤ s3.ed.xoff ∧ (0 ≤ r → r < lenOf s → s3.ed.xrow = r)) ∧
    (mv < 0 → (0 ≤ s.ed.xoff → 0 ≤ s3.ed.xoff) ∧
      (0 ≤ s.ed.xrow → s.ed.xrow < lenOf s → s3.ed.xrow = s.ed.xrow)) := by
  have htext := (viStep_motion_keeps_text s s1 s3 mv r o hpre hmv h).1
  rw [viStep_of_pre s s1 mv r o hpre] at h
  obtain ⟨c, s2, hc, hpost⟩ := bind_inv _ _ _ _ _ h
  obtain ⟨p1, p2, p3, p4⟩ := viPre_cursor _ _ _ hpre
  have t1 : lbText s1 = lbText s := (viPre_lines _ _ _ hpre).2
  unfold stepCont at hc
  by_cases hp : mv > 0
  · rw [if_pos hp] at hc
    obtain ⟨e0, e1, e2, e3, e4, e5⟩ := motionTail_run _ _ _ _ _ _ hc
    subst e0
    obtain ⟨v, vx, _, vr⟩ := viPost_cursor_valid 0 s2 s3 hpost
    refine ⟨v, htext, fun _ => ⟨vx e2, fun r0 r1 => ?_⟩, fun hn => by omega⟩
    rw [vr, wfixRow_of_range s2 (by rw [e1]; exact r0) (by rw [e1, lenOf_of_lbText e5, lenOf_of_lbText t1]; exact r1), e1]
  · rw [if_neg hp, if_neg (by simpa using hmv)] at hc
    cases hc
    obtain ⟨v, vx, _, vr⟩ := viPost_cursor_valid 0 s1 s3 hpost
    refine ⟨v, htext, fun hpos => absurd hpos hp, fun _ => ⟨fun h0 => vx (by rw [p2]; exact h0), fun r0 r1 => ?_⟩⟩
    rw [vr, wfixRow_of_range s1 (by rw [p1]; exact r0) (by rw [p1, lenOf_of_lbText t1]; exact r1), p1]

/-- **the cursor is on an existing character, never on the line terminator of a non-empty line**: in a
    state with a valid cursor and `0 ≤ xoff`, on a buffer line without NUL bytes, the character under
    the cursor exists (its first byte is not the terminating NUL), and it is the newline only when the
    line is just the newline (then the offset is 0) -/
theorem cursor_on_character (s : VS) (hv : CursorValid s) (h0 : 0 ≤ s.ed.xoff) (ln : Bytes)
    (hl : lineOf s s.ed.xrow = some ln) (hw : WfLine ln) (hz : 0 ∉ ln) :
    s.ed.xoff < (ucSlen ln : Int) ∧ Ren.chrHd ln s.ed.xoff.toNat ≠ 0 ∧
    (Ren.chrHd ln s.ed.xoff.toNat = 10 → ln = [10] ∧ s.ed.xoff = 0) := by
  obtain ⟨w, rfl, hw10⟩ := hw
  have hne : w ++ [10] ≠ [] := by simp
  have hpos := ucSlen_pos _ (hd_ne_zero_of_not_mem _ hz hne)
  have hlt := hv.off_lt _ hl
  have hlt' : s.ed.xoff < (ucSlen (w ++ [10]) : Int) := by omega
  refine ⟨hlt', chrHd_exists _ hz _ (by omega), fun h10 => ?_⟩
  have hnn := (hv.off_nl _ hl (wfLine_noNlNl _ ⟨w, rfl, hw10⟩)).2
  have hx0 : s.ed.xoff = 0 := by
    by_cases hp : 0 < s.ed.xoff
    · exact absurd h10 (hnn hp)
    · omega
  refine ⟨?_, hx0⟩
  rw [hx0] at h10
  have : Bytes.hd (w ++ [10]) = 10 := by rw [← chrHd_zero]; exact h10
  cases w with
  | nil => rfl
  | cons a t =>
    simp [Bytes.hd] at this
    subst this
    exact absurd (by simp) hw10

/-! ## 4. the scanners of `mot.c`

Lines are byte strings that end in a newline.  Where the reference semantics (`Spec/Motion.lean`, over
code points of the line *without* its newline) is used, the line is ASCII and a byte is its code point. -/

/-- `lbuf_eol`: the offset of the last character (that is the newline of a buffer line), 0 on a line
    without characters and on a missing line -/
theorem eol_spec (ls : Lines) (r : Int) :
    eol ls r = max 0 (slenAt ls r - 1) ∧
    (∀ ln, lineAt ls r = some ln → eol ls r = ((ucSlen ln - 1 : Nat) : Int)) ∧
    (lineAt ls r = none → eol ls r = 0) :=
  ⟨eol_closed ls r, fun ln h => eol_of_line ls r ln h, eol_of_none ls r⟩

/-- on an ASCII line `w ++ "\n"`: `lbuf_eol` is the offset of the newline, and what `$` lands on after
    `ren_noeol` is the reference's last column -/
theorem eol_ascii (ls : Lines) (r : Int) (w : Bytes) (hline : lineAt ls r = some (w ++ [10])) (hw : Ascii w) :
    eol ls r = w.length ∧ Ren.renNoeol (w ++ [10]) (eol ls r) = Spec.Motion.lastCol w := by
  have he := (ascii_snoc_nl hw).enc
  have := Lemmas.C07c.eol_enc ls r w (by rw [he]; exact hline) hw.valid
  rwa [he] at this

/-- a blank is an indentation byte: a C-locale space other than the newline -/
theorem isBlank_indent (b : Nat) (h : Spec.Motion.isBlank b = true) : (b != 10 && ucIsSpace b) = true := by
  unfold Spec.Motion.isBlank at h
  simp only [Bool.or_eq_true, beq_iff_eq] at h
  rcases h with h | h <;> subst h <;> decide

/-- `lbuf_indents`: the number of leading C-locale space bytes before the newline, 0 for a missing line -/
theorem indents_spec (ls : Lines) (r : Int) :
    (lineAt ls r = none → indents ls r = 0) ∧
    (∀ ln, lineAt ls r = some ln → indents ls r = ((ln.takeWhile (fun c => c != 10 && ucIsSpace c)).length : Nat)) := by
  unfold indents
  constructor
  · intro h; rw [h]
  · intro ln h; rw [h]

/-- a line with a non-space character after leading blanks (space / tab): `lbuf_indents` is the number of
    leading blanks, which is the reference's `firstNonBlank` -/
theorem indents_firstNonBlank (ls : Lines) (r : Int) (pre rest : Bytes) (x : Nat)
    (hline : lineAt ls r = some (pre ++ x :: rest ++ [10]))
    (hpre : ∀ b ∈ pre, Spec.Motion.isBlank b = true) (hx : ucIsSpace x = false) :
    indents ls r = pre.length ∧ Spec.Motion.firstNonBlank (pre ++ x :: rest) = pre.length := by
  constructor
  · rw [(indents_spec ls r).2 _ hline]
    rw [show pre ++ x :: rest ++ [10] = pre ++ x :: (rest ++ [10]) by simp]
    rw [takeWhile_pre _ pre x _ (fun b hb => isBlank_indent b (hpre b hb)) (by simp [hx])]
  · refine Lemmas.C07c.firstNonBlank_pre pre rest x hpre ?_
    cases h : Spec.Motion.isBlank x with
    | false => rfl
    | true => have := isBlank_indent x h; rw [hx, Bool.and_false] at this; cases this

/-- a line of blanks only: `lbuf_indents` stops at the newline (then `ren_noeol` brings the cursor back to
    the last blank) -/
theorem indents_blank_line (ls : Lines) (r : Int) (w : Bytes) (hline : lineAt ls r = some (w ++ [10]))
    (hw : ∀ b ∈ w, Spec.Motion.isBlank b = true) : indents ls r = w.length := by
  rw [(indents_spec ls r).2 _ hline]
  rw [takeWhile_pre _ w 10 [] (fun b hb => isBlank_indent b (hw b hb)) (by decide)]

/-- `lbuf_findchar` on an ASCII line, for `f` (102), `F` (70), `t` (116), `T` (84), a positive count, an
    ASCII character other than the newline, and the cursor on the line: it agrees with the reference
    `findChar` on the line without its newline, and a found offset is non-negative -/
theorem findchar_spec (ls : Lines) (r : Int) (w : Bytes) (hline : lineAt ls r = some (w ++ [10])) (hw : Ascii w)
    (c : Nat) (hc : c < 128) (hc10 : c ≠ 10) (cmd : Nat) (hcmd : cmd = 102 ∨ cmd = 70 ∨ cmd = 116 ∨ cmd = 84)
    (n : Int) (hn : 0 < n) (o : Int) (ho : 0 ≤ o) (ho' : o ≤ w.length) :
    (findchar ls [c] cmd n r o).map Int.toNat =
      Spec.Motion.findChar w o.toNat c (cmd == 102 || cmd == 116) (cmd == 116 || cmd == 84) n.toNat ∧
    ∀ p, findchar ls [c] cmd n r o = some p → 0 ≤ p := by
  have := Lemmas.C07c.findchar_allU ls r w (by rw [(ascii_snoc_nl hw).enc]; exact hline) hw.valid c
    (Nat.lt_trans hc (by decide)) cmd hcmd n (by omega) o ho (fun h => absurd h hc10)
  rw [Uc.enc_ascii hc, decide_eq_true hn, show n.natAbs = n.toNat by omega] at this
  simpa using this

/-- what is left for the general case: a negative count (`,`), multi-byte characters (offsets are then
    character indices of the UTF-8 decoding), and an offset beyond the line; proved in `Props/C07c.lean`
    (`findchar_spec_full_utf8`) -/
def findchar_spec_full : Prop :=
  ∀ (ls : Lines) (r : Int) (cps : List Nat) (c : Nat) (cmd : Nat) (n o : Int),
    (∀ x ∈ c :: cps, Spec.ValidCp x ∧ x ≠ 0 ∧ x ≠ 10) →
    lineAt ls r = some (Spec.encStr cps ++ [10]) →
    (cmd = 102 ∨ cmd = 70 ∨ cmd = 116 ∨ cmd = 84) → n ≠ 0 → 0 ≤ o →
    (findchar ls (Spec.enc c) cmd n r o).map Int.toNat =
      Spec.Motion.findChar cps o.toNat c ((cmd == 102 || cmd == 116) == decide (0 < n)) (cmd == 116 || cmd == 84)
        n.natAbs

/-- `lbuf_paragraphbeg`: the row is an existing row (0 in an empty buffer), the offset is 0 -/
theorem paragraphbeg_range (ls : Lines) (dir r : Int) :
    (paragraphbeg ls dir r).2 = 0 ∧ 0 ≤ (paragraphbeg ls dir r).1 ∧
    (ls ≠ [] → (paragraphbeg ls dir r).1 < ls.length) ∧ (ls = [] → (paragraphbeg ls dir r).1 = 0) := by
  unfold paragraphbeg
  simp only []
  refine ⟨trivial, by omega, ?_, ?_⟩
  · intro h
    have : 0 < ls.length := List.length_pos_iff.mpr h
    omega
  · intro h
    subst h
    simp only [List.length_nil]
    omega

/-- `lbuf_next`: with `r0` the start row (`r`, or the last row when moving backward from beyond the
    buffer), a result is either the neighbouring offset on the same line, inside the line, or — when
    that offset is outside the line — the first / last (`lbuf_eol`) offset of the neighbouring line, which
    exists; there is no result exactly when both fail -/
theorem next_spec (ls : Lines) (dir r o : Int) :
    let r0 := if dir < 0 ∧ r ≥ ls.length then max 0 ((ls.length : Int) - 1) else r
    (∀ r' o', next ls dir r o = some (r', o') →
      (r' = r0 ∧ o' = o + dir ∧ 0 ≤ o' ∧ o' < slenAt ls r0 ∧ (lineAt ls r0).isSome) ∨
      (r' = r0 + dir ∧ (lineAt ls r').isSome ∧ o' = (if dir > 0 then 0 else eol ls r') ∧
        (o + dir < 0 ∨ (lineAt ls r0).isNone ∨ o + dir ≥ slenAt ls r0))) ∧
    (next ls dir r o = none →
      (lineAt ls (r0 + dir)).isNone ∧ (o + dir < 0 ∨ (lineAt ls r0).isNone ∨ o + dir ≥ slenAt ls r0)) := by
  intro r0
  have hr0 : (if (decide (dir < 0) && decide (r ≥ ls.length)) = true then max 0 ((ls.length : Int) - 1) else r) = r0 := by
    simp only [Bool.and_eq_true, decide_eq_true_eq]; rfl
  unfold next lnNext
  simp only []
  rw [hr0]
  by_cases hc : o + dir < 0 ∨ (lineAt ls r0).isNone ∨ o + dir ≥ slenAt ls r0
  · rw [if_pos (by simpa [or_assoc] using hc)]
    simp only []
    by_cases hn : (lineAt ls (r0 + dir)).isNone = true
    · rw [if_pos hn]
      exact ⟨fun _ _ h => (by cases h), fun _ => ⟨hn, hc⟩⟩
    · rw [if_neg hn]
      refine ⟨fun r' o' h => ?_, fun h => by cases h⟩
      simp only [Option.some.injEq, Prod.mk.injEq] at h
      obtain ⟨h1, h2⟩ := h
      subst h1
      exact Or.inr ⟨rfl, by simpa [Option.isSome_iff_ne_none] using hn, h2.symm, hc⟩
  · rw [if_neg (by simpa [or_assoc] using hc)]
    simp only []
    obtain ⟨h1, h2, h3⟩ : ¬ o + dir < 0 ∧ ¬ (lineAt ls r0).isNone = true ∧ ¬ o + dir ≥ slenAt ls r0 := by
      simpa [not_or] using hc
    refine ⟨fun r' o' h => ?_, fun h => by cases h⟩
    simp only [Option.some.injEq, Prod.mk.injEq] at h
    obtain ⟨e1, e2⟩ := h
    exact Or.inl ⟨e1.symm, e2.symm, by omega, by omega, by simpa [Option.isSome_iff_ne_none] using h2⟩

/-! ## 5. examples on the two-line buffer `ab cb`, `x` -/

def ed2 : Ed := { bufs := [some { path := [], lb := { lines := [[97, 98, 32, 99, 98, 10], [120, 10]] } }] }
/-- cursor at (0, 0), a window of 23 rows, the given keys waiting at the terminal -/
def vs2 (keys : Bytes) : VS := { ed := ed2, typed := keys }

def resVal {α : Type} : Res α → Option α
  | Res.ok a _ => some a
  | _ => none
/-- (xrow, xoff, xtop, text) of the final state -/
def resCur {α : Type} : Res α → Option (Int × Int × Int × List Bytes)
  | Res.ok _ s => some (s.ed.xrow, s.ed.xoff, s.ed.xtop, lines s)
  | _ => none

theorem res_ok_of {α : Type} (r : Res α) (a : α) (h : resVal r = some a) : ∃ s', r = Res.ok a s' := by
  cases r with
  | ok b s => simp [resVal] at h; subst h; exact ⟨s, rfl⟩
  | eof => simp [resVal] at h
  | trap => simp [resVal] at h

/-- the lines of the example are buffer lines, ASCII, and without two consecutive newlines -/
example : WfLine [97, 98, 32, 99, 98, 10] ∧ WfLine [120, 10] ∧ Ascii [97, 98, 32, 99, 98] :=
  ⟨⟨[97, 98, 32, 99, 98], rfl, by decide⟩, ⟨[120], rfl, by decide⟩, by unfold Ascii; decide⟩
example : NoNlNl [97, 98, 32, 99, 98, 10] := wfLine_noNlNl _ ⟨[97, 98, 32, 99, 98], rfl, by decide⟩

/-- the hypotheses of `wfix_window` / `wfix_top_nonneg` hold in the example state -/
example : 0 < (vs2 []).xrows ∧ 0 ≤ (vs2 []).ed.xtop := by decide

/-- `vi_wfix()` on a cursor far outside the buffer: last row, its only character; the window follows -/
example : resCur (viWfix { vs2 [] with ed := { ed2 with xrow := 70, xoff := 9 } }) =
    some (1, 0, 0, [[97, 98, 32, 99, 98, 10], [120, 10]]) := by decide +kernel
/-- a negative offset survives `vi_wfix()` -/
example : resCur (viWfix { vs2 [] with ed := { ed2 with xoff := -3 } }) =
    some (0, -3, 0, [[97, 98, 32, 99, 98, 10], [120, 10]]) := by decide +kernel
/-- on an empty buffer -/
example : resCur (viWfix { ed := { bufs := [some { path := [], lb := {} }], xrow := 4, xoff := 2 } }) =
    some (0, 0, 0, []) := by decide +kernel

/-- `$`: `viPre` returns the motion `$` with target (0, 5) (the newline), the step lands on (0, 4) -/
example : resVal (viPre (vs2 [36])) = some (36, 0, 5) := by decide +kernel
example : resCur (viStep (vs2 [36])) = some (0, 4, 0, [[97, 98, 32, 99, 98, 10], [120, 10]]) := by decide +kernel
/-- `2fb`, `j`, and the failing `Fq` (`mv = -1`, the cursor stays) -/
example : resCur (viStep (vs2 [50, 102, 98])) = some (0, 4, 0, [[97, 98, 32, 99, 98, 10], [120, 10]]) := by
  decide +kernel
example : resCur (viStep (vs2 [106])) = some (1, 0, 0, [[97, 98, 32, 99, 98, 10], [120, 10]]) := by decide +kernel
example : resVal (viPre (vs2 [70, 113])) = some (-1, 0, 0) := by decide +kernel
example : resCur (viStep (vs2 [70, 113])) = some (0, 0, 0, [[97, 98, 32, 99, 98, 10], [120, 10]]) := by
  decide +kernel

/-- the hypotheses of `viStep_motion_keeps_text` / `viStep_motion_cursor_valid` are satisfiable: the
    step `$` from the example state, and what the theorems then give -/
example : ∃ s1 s3, viPre (vs2 [36]) = Res.ok (36, 0, 5) s1 ∧ viStep (vs2 [36]) = Res.ok () s3 ∧
    lines s3 = lines (vs2 [36]) ∧ CursorValid s3 ∧ 0 ≤ s3.ed.xoff ∧ s3.ed.xrow = 0 := by
  obtain ⟨s1, h1⟩ := res_ok_of (viPre (vs2 [36])) (36, 0, 5) (by decide +kernel)
  obtain ⟨s3, h3⟩ := res_ok_of (viStep (vs2 [36])) () (by decide +kernel)
  obtain ⟨v, t, a, _⟩ := viStep_motion_cursor_valid _ s1 s3 36 0 5 h1 (by decide) h3
  exact ⟨s1, s3, h1, h3, t, v, (a (by decide)).1, (a (by decide)).2 (by decide) (by decide)⟩

/-- and for a failed motion -/
example : ∃ s1 s3, viPre (vs2 [70, 113]) = Res.ok (-1, 0, 0) s1 ∧ viStep (vs2 [70, 113]) = Res.ok () s3 ∧
    lines s3 = lines (vs2 [70, 113]) ∧ CursorValid s3 := by
  obtain ⟨s1, h1⟩ := res_ok_of (viPre (vs2 [70, 113])) (-1, 0, 0) (by decide +kernel)
  obtain ⟨s3, h3⟩ := res_ok_of (viStep (vs2 [70, 113])) () (by decide +kernel)
  obtain ⟨v, t, _, _⟩ := viStep_motion_cursor_valid _ s1 s3 (-1) 0 0 h1 (by decide) h3
  exact ⟨s1, s3, h1, h3, t, v⟩

/-- the scanners on the example lines, and the reference on the same input -/
example : findchar [[97, 98, 32, 99, 98, 10], [120, 10]] [98] 102 2 0 0 = some 4 ∧
    Spec.Motion.findChar [97, 98, 32, 99, 98] 0 98 true false 2 = some 4 := by decide
example : findchar [[97, 98, 32, 99, 98, 10], [120, 10]] [98] 84 1 0 4 = some 2 ∧
    Spec.Motion.findChar [97, 98, 32, 99, 98] 4 98 false true 1 = some 2 := by decide
example : eol [[97, 98, 32, 99, 98, 10], [120, 10]] 0 = 5 ∧ indents [[32, 9, 120, 10]] 0 = 2 ∧
    indents [[32, 32, 10]] 0 = 2 ∧ indents [[10]] 0 = 0 ∧ Mot.next [[97, 10], [120, 10]] 1 0 1 = some (1, 0) ∧
    Mot.next [[97, 10], [120, 10]] (-1) 1 0 = some (0, 1) ∧
    paragraphbeg [[97, 10], [10], [120, 10]] 1 0 = (1, 0) := by decide

end Neatvi.Props.C07
