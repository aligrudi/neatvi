import NeatviVerif.Lemmas.C07cEnc
import NeatviVerif.Lemmas.C07cAscii
/-!
# C07b: the word scanners of `mot.c` against the reference semantics, on ASCII buffers

Setting: `AsciiBuf ls` — every line of the buffer is ASCII text (bytes below 128, no NUL, no newline)
followed by its newline.  The reference buffer is `refBuf ls` (every line without its newline; a byte is
its code point), `flat (refBuf ls)` is the reference's sequence of all characters *including the newline
that ends each line*, and `idx ls r o = some i` says that the model position `(r, o)` is the `i`-th
element of that sequence (`Spec.Motion.indexOf`).

* §1 `flat_next`, `flat_class`: `lbuf_next` is "index ± 1" and the character classes agree;
* §2 `wordbeg_spec`: one `w` / `W` step is `nextWhere … wordStart`;
* §3 `wordend_fwd_spec`: one `e` / `E` step is `nextWhere … wordEnd`;
  `wordend_back_spec`: one `b` / `B` step is `prevWhere wordStart`, else index 0;
  `wordbeg_wordFwdRaw`, `wordend_wordEndFwdRaw`, `wordend_wordBackRaw`: hence one step of the scanner
  lands where the reference motion with count 1 lands (`wordFwdRaw`, `wordEndFwdRaw`, `wordBackRaw`);
* §4 `paragraphbeg_spec`: `lbuf_paragraphbeg` is `paraFwd` / `paraBack` on the rows of the buffer
  (`paraBack_invalid_row`: not for a row beyond the buffer);
* §5 `pair_spec`: `lbuf_pair` is `pairOf`, from every character of the buffer;
* §6 examples: the hypotheses are satisfiable.

How: an ASCII buffer is the encoding of `refBuf ls` (`AsciiBuf.enc`: a byte below 128 is its own encoding), and every
result here is the theorem of `Lemmas/C07cEnc` about an encoded buffer, read at `refBuf ls`; on an ASCII line the
length in characters is the length in bytes (`AsciiBuf.slen`).

No disagreement between the scanners and the reference was found on ASCII buffers.  The one point
where the return value is not "target found": going backward the scanner returns 1 exactly when it
stops on the very first character of the buffer (`wordend_back_spec`), also when that character does
start a word; the reference (`wordBackRaw`) goes to index 0 in both cases.
-/
set_option linter.unusedVariables false

namespace Neatvi.Props.C07b
open Neatvi Neatvi.Uc Neatvi.Mot Neatvi.Lemmas.C07 Neatvi.Lemmas.C07b Neatvi.Spec.Motion

/-- flat index of a model position (`none`: not a character of the buffer) -/
def idx (ls : Lines) (r o : Int) : Option Nat :=
  if r < 0 ∨ o < 0 then none else indexOf (flat (refBuf ls)) ⟨r.toNat, o.toNat⟩

theorem rep_iff_idx (b : Buf) (r o : Int) (i : Nat) :
    Rep b r o i ↔ (0 ≤ r ∧ 0 ≤ o ∧ indexOf (flat b) ⟨r.toNat, o.toNat⟩ = some i) :=
  rep_iff_indexOf b r o i

theorem idx_iff_rep (ls : Lines) (r o : Int) (i : Nat) :
    idx ls r o = some i ↔ Rep (refBuf ls) r o i :=
  idxB_iff_rep

/-- the positions with an index are exactly the characters of the lines, newline included -/
theorem idx_isSome_iff (ls : Lines) (h : AsciiBuf ls) (r o : Int) :
    (∃ i, idx ls r o = some i) ↔ ∃ ln, lineAt ls r = some ln ∧ 0 ≤ o ∧ o < ln.length := by
  refine (h.enc.idx_isSome_iff r o).trans ?_
  constructor <;> rintro ⟨ln, h1, h2, h3⟩ <;> exact ⟨ln, h1, h2, by rw [h.slen h1] at *; exact h3⟩

theorem idx_inj (ls : Lines) (h : AsciiBuf ls) {r o r' o' : Int} {i : Nat} (h1 : idx ls r o = some i)
    (h2 : idx ls r' o' = some i) : r = r' ∧ o = o' :=
  idxB_inj h1 h2

/-! ## 1. `lbuf_next` and the character classes on the flat sequence -/

/-- **`lbuf_next` is the successor / predecessor in `flat`**: forward it yields the position of index
    `i + 1` and fails exactly on the last element; backward the position of index `i - 1`, failing
    exactly on the first element -/
theorem flat_next (ls : Lines) (h : AsciiBuf ls) (r o : Int) (i : Nat) (hi : idx ls r o = some i) :
    (∀ r' o', Mot.next ls 1 r o = some (r', o') ↔ idx ls r' o' = some (i + 1)) ∧
    (Mot.next ls 1 r o = none ↔ i + 1 = (flat (refBuf ls)).length) ∧
    (∀ r' o', Mot.next ls (-1) r o = some (r', o') ↔ (0 < i ∧ idx ls r' o' = some (i - 1))) ∧
    (Mot.next ls (-1) r o = none ↔ i = 0) :=
  h.enc.next hi

/-- **the tests of the scanners are the reference's classes of `cpAt (flat b) i`**: `uc_kind` is `cls`
    (the newline is of class 0, blank), `uc_isspace` is "class 0", `uc_code` is the code point; and the
    `i`-th element of `flat` is the position itself -/
theorem flat_class (ls : Lines) (h : AsciiBuf ls) (r o : Int) (i : Nat) (hi : idx ls r o = some i) :
    kindAt ls r o = cls (cpAt (flat (refBuf ls)) i) ∧
    isSpaceAt ls r o = (cls (cpAt (flat (refBuf ls)) i) == 0) ∧
    codeAt ls r o = cpAt (flat (refBuf ls)) i ∧
    (codeAt ls r o = 10 ↔ ∃ ln, lineAt ls r = some ln ∧ o + 1 = ln.length) ∧
    posAt (flat (refBuf ls)) i = ⟨r.toNat, o.toNat⟩ := by
  obtain ⟨c1, c2, _, c4, c5, c6⟩ := h.enc.class hi
  refine ⟨c1, c2, c4, c5.trans ?_, c6⟩
  constructor <;> rintro ⟨ln, h1, h2⟩ <;> exact ⟨ln, h1, by rw [h.slen h1] at *; exact h2⟩

/-! ## 2–3. the word motions -/

theorem nextWhere_congr (n : Nat) (p q : Nat → Bool) (i : Nat) (h : ∀ j, j < n → p j = q j) :
    nextWhere n p i = nextWhere n q i :=
  Lemmas.C07b.nextWhere_congr n p q i h

theorem prevWhere_congr (p q : Nat → Bool) (i : Nat) (h : ∀ j, j < i → p j = q j) :
    prevWhere p i = prevWhere q i :=
  Lemmas.C07b.prevWhere_congr p q i h

theorem kk_eq (big : Bool) : kk big = (if big then clsBig else cls) := Lemmas.C07b.kk_eq big

/-- **one `w` / `W` step** (`lbuf_wordbeg`, forward) from the character of flat index `i`: the target is
    the least index after `i` that starts a word (an empty line counts), and the scanner returns 0; if
    there is no such index the scanner returns 1 and stops on the last element of `flat` (the newline of
    the last line).  `k` is `clsBig` for `W` and `cls` for `w`. -/
theorem wordbeg_spec (ls : Lines) (h : AsciiBuf ls) (big : Bool) (r o : Int) (i : Nat) (hi : idx ls r o = some i) :
    ∃ fl r' o', wordbeg ls big 1 r o = (fl, r', o') ∧
      match nextWhere (flat (refBuf ls)).length (wordStart (if big then clsBig else cls) (flat (refBuf ls))) i with
      | some j => fl = false ∧ idx ls r' o' = some j
      | none => fl = true ∧ idx ls r' o' = some ((flat (refBuf ls)).length - 1) := by
  obtain ⟨fl, r', o', e, h1, h2⟩ := h.enc.wordbeg big hi
  refine ⟨fl, r', o', e, ?_⟩
  cases hn : nextWhere (flat (refBuf ls)).length (wordStart (if big then clsBig else cls) (flat (refBuf ls))) i with
  | some j => exact h1 j hn
  | none => exact h2 hn

/-- **one `e` / `E` step** (`lbuf_wordend`, forward): the least index after `i` that ends a word (an
    empty line counts), returning 0; if there is none the scanner returns 1 on the last element of `flat` -/
theorem wordend_fwd_spec (ls : Lines) (h : AsciiBuf ls) (big : Bool) (r o : Int) (i : Nat) (hi : idx ls r o = some i) :
    ∃ fl r' o', wordend ls big 1 r o = (fl, r', o') ∧
      match nextWhere (flat (refBuf ls)).length (wordEnd (if big then clsBig else cls) (flat (refBuf ls))) i with
      | some j => fl = false ∧ idx ls r' o' = some j
      | none => fl = true ∧ idx ls r' o' = some ((flat (refBuf ls)).length - 1) := by
  obtain ⟨fl, r', o', e, h1, h2⟩ := h.enc.wordend_fwd big hi
  refine ⟨fl, r', o', e, ?_⟩
  cases hn : nextWhere (flat (refBuf ls)).length (wordEnd (if big then clsBig else cls) (flat (refBuf ls))) i with
  | some j => exact h1 j hn
  | none => exact h2 hn

/-- **one `b` / `B` step** (`lbuf_wordend`, backward): the target is the greatest index before `i` that
    starts a word, and index 0 if there is none (this is the step of the reference's `wordBackRaw`); the
    scanner returns 1 exactly when the target is index 0 — whether or not a word starts there -/
theorem wordend_back_spec (ls : Lines) (h : AsciiBuf ls) (big : Bool) (r o : Int) (i : Nat) (hi : idx ls r o = some i) :
    ∃ fl r' o', wordend ls big (-1) r o = (fl, r', o') ∧
      idx ls r' o' =
        some ((prevWhere (wordStart (if big then clsBig else cls) (flat (refBuf ls))) i).getD 0) ∧
      (fl = true ↔ (prevWhere (wordStart (if big then clsBig else cls) (flat (refBuf ls))) i).getD 0 = 0) :=
  h.enc.wordend_back big hi

/-! ### one step of the scanner is the reference motion with count 1 -/

/-- `w` / `W` with count 1: the scanner stops where the reference motion (before clamping to the line)
    lands, whether or not it reports failure -/
theorem wordbeg_wordFwdRaw (ls : Lines) (h : AsciiBuf ls) (big : Bool) (r o : Int) (i : Nat) (hi : idx ls r o = some i) :
    ∃ fl r' o', wordbeg ls big 1 r o = (fl, r', o') ∧ 0 ≤ r' ∧ 0 ≤ o' ∧
      wordFwdRaw big (refBuf ls) ⟨r.toNat, o.toNat⟩ 1 = ⟨r'.toNat, o'.toNat⟩ :=
  h.enc.wordFwdRaw_one big hi

/-- `e` / `E` with count 1 -/
theorem wordend_wordEndFwdRaw (ls : Lines) (h : AsciiBuf ls) (big : Bool) (r o : Int) (i : Nat)
    (hi : idx ls r o = some i) :
    ∃ fl r' o', wordend ls big 1 r o = (fl, r', o') ∧ 0 ≤ r' ∧ 0 ≤ o' ∧
      wordEndFwdRaw big (refBuf ls) ⟨r.toNat, o.toNat⟩ 1 = ⟨r'.toNat, o'.toNat⟩ :=
  h.enc.wordEndFwdRaw_one big hi

/-- `b` / `B` with count 1 -/
theorem wordend_wordBackRaw (ls : Lines) (h : AsciiBuf ls) (big : Bool) (r o : Int) (i : Nat)
    (hi : idx ls r o = some i) :
    ∃ fl r' o', wordend ls big (-1) r o = (fl, r', o') ∧ 0 ≤ r' ∧ 0 ≤ o' ∧
      wordBackRaw big (refBuf ls) ⟨r.toNat, o.toNat⟩ 1 = ⟨r'.toNat, o'.toNat⟩ :=
  h.enc.wordBackRaw_one big hi

/-! ## 4. `lbuf_paragraphbeg` -/

/-- **`}` and `{`** (`lbuf_paragraphbeg`): forward from a row of the buffer (or from the row just after
    it) the result is `paraFwd`, backward from a row of the buffer it is `paraBack`; the offset is 0.
    Both include the clamps: forward the last row when no blank line follows, backward row 0. -/
theorem paragraphbeg_spec (ls : Lines) (h : AsciiBuf ls) (r : Nat) :
    (r ≤ ls.length → paragraphbeg ls 1 (r : Int) = (((paraFwd (refBuf ls) r : Nat) : Int), 0)) ∧
    (r < ls.length → paragraphbeg ls (-1) (r : Int) = (((paraBack (refBuf ls) r : Nat) : Int), 0)) :=
  h.enc.paragraphbeg r

/-- the same for every buffer whose lines are a text followed by a newline (ASCII is not needed) -/
theorem paragraphbeg_spec_lines (b : Buf) (r : Nat) :
    (r ≤ b.length → paragraphbeg (lsOf b) 1 (r : Int) = (((paraFwd b r : Nat) : Int), 0)) ∧
    (r < b.length → paragraphbeg (lsOf b) (-1) (r : Int) = (((paraBack b r : Nat) : Int), 0)) :=
  ⟨paragraphbeg_fwd b r, paragraphbeg_bwd b r⟩

/-- backward the hypothesis "a row of the buffer" is needed: from the row after the last one the scanner
    clamps to the last row at once, while `paraBack` starts to search there (buffer: an empty line,
    then `(`) -/
theorem paraBack_invalid_row :
    paragraphbeg [[10], [40, 10]] (-1) 2 = (1, 0) ∧ paraBack [[], [40]] 2 = 0 ∧
    AsciiBuf [[10], [40, 10]] ∧ refBuf [[10], [40, 10]] = [[], [40]] := by
  refine ⟨by decide, by decide, ?_, rfl⟩
  intro l hl
  simp only [List.mem_cons, List.not_mem_nil, or_false] at hl
  rcases hl with rfl | rfl
  · exact ⟨[], rfl, by unfold AsciiW; decide⟩
  · exact ⟨[40], rfl, by unfold AsciiW; decide⟩

/-! ## 5. `lbuf_pair` -/

/-- **`%`** (`lbuf_pair`) from any character `(r, o)` of the buffer (the newline included): the result is
    the reference's `pairOf` — the first bracket `( ) [ ] { }` at or after the cursor on its line, and
    the bracket that balances it, searched over the whole buffer; `none` when there is no bracket on the
    rest of the line or no balancing partner -/
theorem pair_spec (ls : Lines) (h : AsciiBuf ls) (r o : Int) (i : Nat) (hi : idx ls r o = some i) :
    Mot.pair ls r o = (pairOf (refBuf ls) ⟨r.toNat, o.toNat⟩).map (fun p => ((p.row : Int), (p.col : Int))) :=
  h.enc.pair hi

/-! ## 6. examples: the buffer `ab c` / (empty line) / `(x)` -/

def exLs : Lines := [[97, 98, 32, 99, 10], [10], [40, 120, 41, 10]]

theorem exLs_ascii : AsciiBuf exLs := by
  intro l hl
  simp only [exLs, List.mem_cons, List.not_mem_nil, or_false] at hl
  rcases hl with rfl | rfl | rfl
  · exact ⟨[97, 98, 32, 99], rfl, by unfold AsciiW; decide⟩
  · exact ⟨[], rfl, by unfold AsciiW; decide⟩
  · exact ⟨[40, 120, 41], rfl, by unfold AsciiW; decide⟩

example : refBuf exLs = [[97, 98, 32, 99], [], [40, 120, 41]] := rfl
example : idx exLs 0 0 = some 0 ∧ idx exLs 0 4 = some 4 ∧ idx exLs 1 0 = some 5 ∧ idx exLs 2 3 = some 9 ∧
    idx exLs 0 5 = none ∧ idx exLs 3 0 = none := by decide +kernel
/-- `w` from `a`: to `c`; from `c`: to the empty line; from the last `)`: failure on the last newline -/
example : wordbeg exLs false 1 0 0 = (false, 0, 3) ∧ wordbeg exLs false 1 0 3 = (false, 1, 0) ∧
    wordbeg exLs false 1 2 2 = (true, 2, 3) := by decide +kernel
example : nextWhere 10 (wordStart cls (flat (refBuf exLs))) 0 = some 3 ∧
    nextWhere 10 (wordStart cls (flat (refBuf exLs))) 3 = some 5 ∧
    nextWhere 10 (wordStart cls (flat (refBuf exLs))) 8 = none := by decide +kernel
/-- `e` from `a`: to `b`; `b` from `c`: to `a`, reported as failure since that is index 0 -/
example : wordend exLs false 1 0 0 = (false, 0, 1) ∧ wordend exLs false (-1) 0 3 = (true, 0, 0) ∧
    wordend exLs false (-1) 2 1 = (false, 2, 0) := by decide +kernel
example : paragraphbeg exLs 1 0 = (1, 0) ∧ paragraphbeg exLs (-1) 2 = (1, 0) ∧
    Mot.pair exLs 2 0 = some (2, 2) ∧ Mot.pair exLs 2 2 = some (2, 0) ∧ Mot.pair exLs 0 0 = none := by decide +kernel
/-- the theorems instantiated -/
example : ∃ fl r' o', wordbeg exLs false 1 0 0 = (fl, r', o') ∧ 0 ≤ r' ∧ 0 ≤ o' ∧
    wordFwdRaw false (refBuf exLs) ⟨0, 0⟩ 1 = ⟨r'.toNat, o'.toNat⟩ :=
  wordbeg_wordFwdRaw exLs exLs_ascii false 0 0 0 (by decide +kernel)

end Neatvi.Props.C07b
