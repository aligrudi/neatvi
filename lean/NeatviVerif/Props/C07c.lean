import NeatviVerif.Props.C07b
import NeatviVerif.Lemmas.C07cFind
import NeatviVerif.Props.C07
/-!
# C07c: the scanners of `mot.c` against the reference semantics, on valid UTF-8 buffers

C07b proves that `lbuf_wordbeg`, `lbuf_wordend`, `lbuf_pair`, `lbuf_paragraphbeg` (and C07 that
`lbuf_findchar`) land where the reference semantics of `Spec/Motion.lean` say, on ASCII buffers, where a
character is a byte.  Here the same theorems are proved for every buffer of valid UTF-8 lines: multi-byte,
wide and combining characters included.  Positions are (row, *character* offset) as in `mot.c`.

Setting: `Utf8Buf ls` — every line is `encStr (body ++ [10])` for a body of valid code points
(`0 < c < 0x110000`) other than the newline.  `refBufU ls` is the reference buffer (every line decoded
with `Spec.decodeStr`, without its newline; `refBufU_bodies`: the list of the bodies), `idxU ls r o = some i`
says that the model position `(r, o)` is the `i`-th element of `flat (refBufU ls)`.  On an ASCII buffer
these are the `refBuf` / `idx` of C07b (`asciiBuf_utf8Buf`, `idxU_ascii`).

* §0 the setting; `idxU_isSome_iff`: the indexed positions are the offsets `0 ≤ o < uc_slen(line)`;
* §1 `class_enc`: `uc_kind` / `uc_isspace` (functions of the *first byte*) and `uc_code` on the encoding of
  any valid code point agree with `cls` / `clsBig` / the code point; `flat_next_utf8`, `flat_lnNext_utf8`:
  `lbuf_next` / `lbuf_lnnext` are "index ± 1"; `flat_class_utf8`: the tests of the scanners at `(r, o)`
  are the reference's classes of `cpAt (flat b) i`;
* §2–3 `wordbeg_spec_utf8`, `wordend_fwd_spec_utf8`, `wordend_back_spec_utf8` and the corollaries
  `wordbeg_wordFwdRaw_utf8`, `wordend_wordEndFwdRaw_utf8`, `wordend_wordBackRaw_utf8` (count 1): the
  statements of C07b with `AsciiBuf` / `refBuf` / `idx` replaced by `Utf8Buf` / `refBufU` / `idxU`;
  `wordbeg_count_wordFwdRaw_utf8`, `wordend_count_wordEndFwdRaw_utf8`, `wordend_count_wordBackRaw_utf8`:
  with any count, for the loop `runWord` of the vi model (`viMotion_go_runWord`);
* §4 `findchar_spec_utf8` (`f F t T` with a multi-byte target), `findchar_spec_full_utf8`: the statement
  `C07.findchar_spec_full` left open in C07 (negative counts, offsets beyond the line);
  `paragraphbeg_spec_utf8` (`paragraphbeg_spec_enc`: no validity needed at all), `pair_spec_utf8`;
  §4b `eol_utf8`, `indents_firstNonBlank_utf8`;
* §5 examples on the buffer `naïve 中文 x́y` / (empty line) / `(é)`.

How: every scanner is compared with the reference once, in `Lemmas/C07cEnc`, for lines `ls` that are the encoding
of a reference buffer `b` (`Enc ls b`); the theorems here read those at `b = refBufU ls` (`Utf8Buf.enc`), those of
Props/C07b at `b = refBuf ls`.  The flat sequence, `Rep`, `idxB` (`Lemmas/C07bFlat`), the index scanners `wl` / `wb` /
`we` / `pgo` and what they compute (`wb_fwd`, `we_fwd`, `we_bwd`, `pgo_*_eq` of `Lemmas/C07bWord`, `C07bWordEnd`,
`C07bPair`) are about the reference buffer alone.  The scanners test only the first byte of a character (and
`uc_code == '\n'`), so they run on the *projected* text `cpp b = prj ∘ cp b` (`prj x = x` below 128, the letter `a`
beyond), which has the same classes and the same newlines as the code points (`cls_prj`, `prj_beq_ten`) and
satisfies `Txt`.  The model enters through the access lemmas of `Lemmas/C07cBuf` (via C16: `slen_spec`, `chr_spec`,
`code_enc`), `lbuf_next` on such buffers and the simulations of `Lemmas/C07cSim` — with two fuels, because the
model's fuel counts bytes and the index scanners' fuel counts characters —, `Lemmas/C07cFind`, `Lemmas/C07cPair`.

Findings: none.  No valid code point is classified differently by the model and by the reference: the
reference puts every code point above 127 into class 1, and the model does so because the first byte of
a multi-byte character is a lead byte ≥ 0xC0 (`class_enc`; in particular U+00A0, U+2000…U+200A, U+3000 are
word characters, not blanks, for both, and a combining accent is a word character of its own).  As on
ASCII buffers, going backward the scanner returns 1 exactly when it stops at index 0.
-/
set_option linter.unusedVariables false

namespace Neatvi.Props.C07c
open Neatvi Neatvi.Uc Neatvi.Mot Neatvi.Spec Neatvi.Lemmas.C07 Neatvi.Lemmas.C07b Neatvi.Lemmas.C07c Neatvi.Spec.Motion

export Neatvi.Lemmas.C07c (Utf8Buf Utf8B Utf8W lsOfU refBufU decLine stepFwd stepBwd)

/-! ## 0. the setting -/

theorem utf8Buf_iff (ls : Lines) :
    Utf8Buf ls ↔ ∀ l ∈ ls, ∃ body, l = encStr (body ++ [10]) ∧ (∀ c ∈ body, ValidCp c) ∧ 10 ∉ body := Iff.rfl

theorem refBufU_eq (ls : Lines) : refBufU ls = ls.map (fun l => (decodeStr l.length l).dropLast) := rfl

/-- the reference buffer of a UTF-8 buffer is the list of the bodies of its lines -/
theorem refBufU_bodies (bodies : List (List Nat)) (h : ∀ w ∈ bodies, (∀ c ∈ w, ValidCp c) ∧ 10 ∉ w) :
    refBufU (bodies.map (fun w => encStr (w ++ [10]))) = bodies := refBufU_lsOfU h

/-- a UTF-8 buffer is the encoding of its reference buffer -/
theorem utf8Buf_enc (ls : Lines) (h : Utf8Buf ls) :
    ls = (refBufU ls).map (fun w => encStr (w ++ [10])) ∧ ∀ w ∈ refBufU ls, (∀ c ∈ w, ValidCp c) ∧ 10 ∉ w :=
  utf8Buf_eq ls h

/-- every ASCII buffer of C07b is a UTF-8 buffer, with the same reference buffer -/
theorem asciiBuf_utf8Buf (ls : Lines) (h : AsciiBuf ls) : Utf8Buf ls ∧ refBufU ls = refBuf ls := by
  have e := AsciiBuf.enc h
  exact ⟨by rw [e.eq]; exact utf8Buf_lsOfU e.valid, refBufU_ascii h⟩

/-- flat index of a model position (`none`: not a character of the buffer); offsets count characters -/
def idxU (ls : Lines) (r o : Int) : Option Nat :=
  if r < 0 ∨ o < 0 then none else indexOf (flat (refBufU ls)) ⟨r.toNat, o.toNat⟩

theorem idxU_iff_rep (ls : Lines) (r o : Int) (i : Nat) : idxU ls r o = some i ↔ Rep (refBufU ls) r o i :=
  idxB_iff_rep

/-- on an ASCII buffer this is the index of C07b -/
theorem idxU_ascii (ls : Lines) (h : AsciiBuf ls) (r o : Int) : idxU ls r o = C07b.idx ls r o := by
  unfold idxU C07b.idx; rw [(asciiBuf_utf8Buf ls h).2]

/-- the positions with an index are exactly the characters of the lines, newline included: offsets
    below the length of the line in characters (`uc_slen`) -/
theorem idxU_isSome_iff (ls : Lines) (h : Utf8Buf ls) (r o : Int) :
    (∃ i, idxU ls r o = some i) ↔ ∃ ln, lineAt ls r = some ln ∧ 0 ≤ o ∧ o < ucSlen ln :=
  (Utf8Buf.enc h).idx_isSome_iff r o

theorem idxU_inj (ls : Lines) {r o r' o' : Int} {i : Nat} (h1 : idxU ls r o = some i)
    (h2 : idxU ls r' o' = some i) : r = r' ∧ o = o' :=
  idxB_inj h1 h2

/-! ## 1. `lbuf_next` and the character classes on the flat sequence -/

/-- **the classifier of the scanners on any valid code point**: `uc_kind` and `uc_isspace` look at the
    first byte of the encoding only, and that agrees with the reference's class of the code point —
    every code point beyond 127 is a word character for both (also U+00A0, U+2000.., U+3000) -/
theorem class_enc {c : Nat} (h : ValidCp c) (rest : Bytes) :
    ucKind (Bytes.hd (enc c ++ rest)) = cls c ∧ ucIsSpace (Bytes.hd (enc c ++ rest)) = (cls c == 0) ∧
    (if ucKind (Bytes.hd (enc c ++ rest)) = 0 then 0 else 1) = clsBig c ∧
    ucCode (enc c ++ rest) = some c := by
  have h1 : ucKind (Bytes.hd (enc c ++ rest)) = cls c := by
    rw [ucKind_hd_enc h, ucKind_cls _ (prj_lt c), cls_prj]
  refine ⟨h1, ?_, ?_, C16.code_enc h rest⟩
  · rw [ucIsSpace_hd_enc h, ucIsSpace_cls _ (prj_lt c), cls_prj]
  · rw [h1]; unfold clsBig
    by_cases hc : cls c = 0
    · simp [hc]
    · simp [hc]

/-- **`lbuf_next` is the successor / predecessor in `flat`** (offsets are character offsets) -/
theorem flat_next_utf8 (ls : Lines) (h : Utf8Buf ls) (r o : Int) (i : Nat) (hi : idxU ls r o = some i) :
    (∀ r' o', Mot.next ls 1 r o = some (r', o') ↔ idxU ls r' o' = some (i + 1)) ∧
    (Mot.next ls 1 r o = none ↔ i + 1 = (flat (refBufU ls)).length) ∧
    (∀ r' o', Mot.next ls (-1) r o = some (r', o') ↔ (0 < i ∧ idxU ls r' o' = some (i - 1))) ∧
    (Mot.next ls (-1) r o = none ↔ i = 0) :=
  (Utf8Buf.enc h).next hi

/-- `lbuf_lnnext` inside a line: the neighbouring flat index when it is on the same row, else failure -/
theorem flat_lnNext_utf8 (ls : Lines) (h : Utf8Buf ls) (r o : Int) (i : Nat) (hi : idxU ls r o = some i) :
    (∀ o', lnNext ls 1 r o = some o' ↔ idxU ls r o' = some (i + 1)) ∧
    (∀ o', lnNext ls (-1) r o = some o' ↔ (0 < i ∧ idxU ls r o' = some (i - 1))) :=
  (Utf8Buf.enc h).lnNext hi

/-- **the tests of the scanners are the reference's classes of `cpAt (flat b) i`**: `uc_kind` (of the
    first byte) is `cls` of the code point, `uc_isspace` is "class 0", `uc_code` is the code point; the
    newline is exactly the last character of a line; the `i`-th element of `flat` is the position -/
theorem flat_class_utf8 (ls : Lines) (h : Utf8Buf ls) (r o : Int) (i : Nat) (hi : idxU ls r o = some i) :
    kindAt ls r o = cls (cpAt (flat (refBufU ls)) i) ∧
    isSpaceAt ls r o = (cls (cpAt (flat (refBufU ls)) i) == 0) ∧
    (if kindAt ls r o = 0 then 0 else 1) = clsBig (cpAt (flat (refBufU ls)) i) ∧
    codeAt ls r o = cpAt (flat (refBufU ls)) i ∧
    (codeAt ls r o = 10 ↔ ∃ ln, lineAt ls r = some ln ∧ o + 1 = ucSlen ln) ∧
    posAt (flat (refBufU ls)) i = ⟨r.toNat, o.toNat⟩ :=
  (Utf8Buf.enc h).class hi

/-! ## 2–3. the word motions -/

/-- the `match` of the statements below, as its two cases -/
theorem fwd_spec {x : Option Nat} {P : Nat → Prop} {Q : Prop} :
    (match x with
      | some j => P j
      | none => Q) ↔ (∀ j, x = some j → P j) ∧ (x = none → Q) := by
  cases x with
  | some j => exact ⟨fun h => ⟨fun j' e => (by cases e; exact h), fun e => (by cases e)⟩, fun h => h.1 j rfl⟩
  | none => exact ⟨fun h => ⟨fun j e => (by cases e), fun _ => h⟩, fun h => h.2 rfl⟩

/-- **one `w` / `W` step** (`lbuf_wordbeg`, forward) on a valid UTF-8 buffer, from the character of flat
    index `i`: the target is the least index after `i` that starts a word (an empty line counts), and the
    scanner returns 0; if there is no such index the scanner returns 1 and stops on the last element of
    `flat` (the newline of the last line).  Offsets are character offsets; multi-byte, wide and combining
    characters are single word characters. -/
theorem wordbeg_spec_utf8 (ls : Lines) (h : Utf8Buf ls) (big : Bool) (r o : Int) (i : Nat)
    (hi : idxU ls r o = some i) :
    ∃ fl r' o', wordbeg ls big 1 r o = (fl, r', o') ∧
      match nextWhere (flat (refBufU ls)).length (wordStart (if big then clsBig else cls) (flat (refBufU ls))) i with
      | some j => fl = false ∧ idxU ls r' o' = some j
      | none => fl = true ∧ idxU ls r' o' = some ((flat (refBufU ls)).length - 1) := by
  obtain ⟨fl, r', o', e, h1, h2⟩ := (Utf8Buf.enc h).wordbeg big hi
  exact ⟨fl, r', o', e, fwd_spec.2 ⟨h1, h2⟩⟩

/-- **one `e` / `E` step** (`lbuf_wordend`, forward) on a valid UTF-8 buffer -/
theorem wordend_fwd_spec_utf8 (ls : Lines) (h : Utf8Buf ls) (big : Bool) (r o : Int) (i : Nat)
    (hi : idxU ls r o = some i) :
    ∃ fl r' o', wordend ls big 1 r o = (fl, r', o') ∧
      match nextWhere (flat (refBufU ls)).length (wordEnd (if big then clsBig else cls) (flat (refBufU ls))) i with
      | some j => fl = false ∧ idxU ls r' o' = some j
      | none => fl = true ∧ idxU ls r' o' = some ((flat (refBufU ls)).length - 1) := by
  obtain ⟨fl, r', o', e, h1, h2⟩ := (Utf8Buf.enc h).wordend_fwd big hi
  exact ⟨fl, r', o', e, fwd_spec.2 ⟨h1, h2⟩⟩

/-- **one `b` / `B` step** (`lbuf_wordend`, backward) on a valid UTF-8 buffer: the greatest index before
    `i` that starts a word, and index 0 if there is none; the scanner returns 1 exactly when the target is
    index 0 — whether or not a word starts there -/
theorem wordend_back_spec_utf8 (ls : Lines) (h : Utf8Buf ls) (big : Bool) (r o : Int) (i : Nat)
    (hi : idxU ls r o = some i) :
    ∃ fl r' o', wordend ls big (-1) r o = (fl, r', o') ∧
      idxU ls r' o' =
        some ((prevWhere (wordStart (if big then clsBig else cls) (flat (refBufU ls))) i).getD 0) ∧
      (fl = true ↔ (prevWhere (wordStart (if big then clsBig else cls) (flat (refBufU ls))) i).getD 0 = 0) :=
  (Utf8Buf.enc h).wordend_back big hi

/-! ### positions and flat indices -/

theorem idxU_indexOf (ls : Lines) {r o : Int} {i : Nat} (hi : idxU ls r o = some i) :
    indexOf (flat (refBufU ls)) ⟨r.toNat, o.toNat⟩ = some i :=
  idxB_indexOf hi

theorem idxU_lt (ls : Lines) {r o : Int} {i : Nat} (hi : idxU ls r o = some i) :
    i < (flat (refBufU ls)).length :=
  idxB_lt hi

/-! ### counts: the loop of `vi_motion` over the scanners is the reference motion with that count -/

/-- the loop of `vi.c` for `w W e E b B` with a count (`Vi.lean`, the `go` of the word motions): repeat the
    scanner, stop at the first failure keeping the position it reached -/
def runWord (step : Int → Int → Bool × Int × Int) : Nat → Int → Int → Int × Int
  | 0, r, o => (r, o)
  | j + 1, r, o =>
    let (failed, r', o') := step r o
    if failed then (r', o') else runWord step j r' o'

/-- `runWord` is the loop of the vi model (`Vi.viMotion`, the motions `w W e E b B`) -/
theorem viMotion_go_runWord (mv : Int) (ls : Lines) (big : Bool) : ∀ cnt r o,
    Vi.viMotion.go mv ls big cnt r o =
      runWord (fun r o => if mv == 87 || mv == 119 then wordbeg ls big 1 r o
        else wordend ls big (if mv == 66 || mv == 98 then -1 else 1) r o) cnt r o := by
  intro cnt
  induction cnt with
  | zero => intro r o; rfl
  | succ j ih =>
    intro r o
    unfold Vi.viMotion.go runWord
    simp only []
    generalize (if (mv == 87 || mv == 119) = true then wordbeg ls big 1 r o
        else wordend ls big (if (mv == 66 || mv == 98) = true then -1 else 1) r o) = x
    obtain ⟨fl, r', o'⟩ := x
    simp only []
    cases fl
    · simp only [Bool.false_eq_true, if_false]; exact ih r' o'
    · rfl

theorem iter_none {s : Nat → Option Nat} {i : Nat} (h : s i = none) : ∀ cnt, iter s cnt i = i := by
  intro cnt
  cases cnt with
  | zero => rfl
  | succ cnt => simp only [iter, h]

/-- a scanner that follows an index step `s` (staying put where `s` has no answer) and reports failure only
    where `s` has no answer from the new index: its loop follows `iter s` -/
theorem run_iter (ls : Lines) (step : Int → Int → Bool × Int × Int) (s : Nat → Option Nat)
    (hstep : ∀ r o i, idxU ls r o = some i → ∃ fl r' o', step r o = (fl, r', o') ∧
      idxU ls r' o' = some ((s i).getD i) ∧ (fl = true → s ((s i).getD i) = none)) :
    ∀ cnt r o i, idxU ls r o = some i →
      ∃ r' o', runWord step cnt r o = (r', o') ∧ idxU ls r' o' = some (iter s cnt i) := by
  intro cnt
  induction cnt with
  | zero => intro r o i hi; exact ⟨r, o, rfl, hi⟩
  | succ cnt ih =>
    intro r o i hi
    obtain ⟨fl, r', o', e, hj, hfl⟩ := hstep r o i hi
    have hit : iter s (cnt + 1) i = iter s cnt ((s i).getD i) := by
      cases hs : s i with
      | some j => simp only [iter, hs, Option.getD_some]
      | none => simp only [iter, hs, Option.getD_none]; exact (iter_none hs cnt).symm
    unfold runWord
    rw [e, hit]
    cases fl with
    | true => exact ⟨r', o', rfl, by rw [hj, iter_none (hfl rfl)]⟩
    | false => exact ih r' o' _ hj

theorem run_fwd (ls : Lines) (step : Int → Int → Bool × Int × Int) (p : Nat → Bool) (N : Nat)
    (hN : ∀ r o i, idxU ls r o = some i → i < N)
    (hstep : ∀ r o i, idxU ls r o = some i → ∃ fl r' o', step r o = (fl, r', o') ∧
      match nextWhere N p i with
      | some j => fl = false ∧ idxU ls r' o' = some j
      | none => fl = true ∧ idxU ls r' o' = some (N - 1)) :
    ∀ cnt r o i, idxU ls r o = some i →
      ∃ r' o', runWord step cnt r o = (r', o') ∧ idxU ls r' o' = some (iter (stepFwd p N) cnt i) := by
  refine run_iter ls step (stepFwd p N) (fun r o i hi => ?_)
  obtain ⟨fl, r', o', e, hm⟩ := hstep r o i hi
  exact ⟨fl, r', o', e, stepFwd_of_cases (P := fun j => idxU ls r' o' = some j) (hN r o i hi)
    (fwd_spec.1 hm).1 (fwd_spec.1 hm).2⟩

theorem run_bwd (ls : Lines) (step : Int → Int → Bool × Int × Int) (p : Nat → Bool)
    (hstep : ∀ r o i, idxU ls r o = some i → ∃ fl r' o', step r o = (fl, r', o') ∧
      idxU ls r' o' = some ((prevWhere p i).getD 0) ∧ (fl = true ↔ (prevWhere p i).getD 0 = 0)) :
    ∀ cnt r o i, idxU ls r o = some i →
      ∃ r' o', runWord step cnt r o = (r', o') ∧ idxU ls r' o' = some (iter (stepBwd p) cnt i) := by
  refine run_iter ls step (stepBwd p) (fun r o i hi => ?_)
  obtain ⟨fl, r', o', e, hj, hfl⟩ := hstep r o i hi
  rw [← stepBwd_getD] at hj hfl
  exact ⟨fl, r', o', e, hj, fun h => by rw [hfl.1 h]; exact stepBwd_zero p⟩

theorem idxU_pos (ls : Lines) (h : Utf8Buf ls) {r o : Int} {i : Nat} (hi : idxU ls r o = some i) :
    0 ≤ r ∧ 0 ≤ o ∧ posAt (flat (refBufU ls)) i = ⟨r.toNat, o.toNat⟩ :=
  idxB_pos hi

/-- **`w` / `W` with any count** on a valid UTF-8 buffer: the loop of `vi_motion` over `lbuf_wordbeg` stops
    where the reference motion `wordFwdRaw` with that count lands -/
theorem wordbeg_count_wordFwdRaw_utf8 (ls : Lines) (h : Utf8Buf ls) (big : Bool) (cnt : Nat) (r o : Int) (i : Nat)
    (hi : idxU ls r o = some i) :
    ∃ r' o', runWord (wordbeg ls big 1) cnt r o = (r', o') ∧ 0 ≤ r' ∧ 0 ≤ o' ∧
      wordFwdRaw big (refBufU ls) ⟨r.toNat, o.toNat⟩ cnt = ⟨r'.toNat, o'.toNat⟩ := by
  obtain ⟨r', o', e, hj⟩ := run_fwd ls (wordbeg ls big 1)
    (wordStart (if big then clsBig else cls) (flat (refBufU ls))) (flat (refBufU ls)).length
    (fun r o i hi => idxU_lt ls hi) (fun r o i hi => wordbeg_spec_utf8 ls h big r o i hi) cnt r o i hi
  obtain ⟨p1, p2, p3⟩ := idxU_pos ls h hj
  exact ⟨r', o', e, p1, p2, by rw [wordFwdRaw_eq big hi]; exact p3⟩

/-- **`e` / `E` with any count** on a valid UTF-8 buffer -/
theorem wordend_count_wordEndFwdRaw_utf8 (ls : Lines) (h : Utf8Buf ls) (big : Bool) (cnt : Nat) (r o : Int)
    (i : Nat) (hi : idxU ls r o = some i) :
    ∃ r' o', runWord (wordend ls big 1) cnt r o = (r', o') ∧ 0 ≤ r' ∧ 0 ≤ o' ∧
      wordEndFwdRaw big (refBufU ls) ⟨r.toNat, o.toNat⟩ cnt = ⟨r'.toNat, o'.toNat⟩ := by
  obtain ⟨r', o', e, hj⟩ := run_fwd ls (wordend ls big 1)
    (wordEnd (if big then clsBig else cls) (flat (refBufU ls))) (flat (refBufU ls)).length
    (fun r o i hi => idxU_lt ls hi) (fun r o i hi => wordend_fwd_spec_utf8 ls h big r o i hi) cnt r o i hi
  obtain ⟨p1, p2, p3⟩ := idxU_pos ls h hj
  exact ⟨r', o', e, p1, p2, by rw [wordEndFwdRaw_eq big hi]; exact p3⟩

/-- **`b` / `B` with any count** on a valid UTF-8 buffer -/
theorem wordend_count_wordBackRaw_utf8 (ls : Lines) (h : Utf8Buf ls) (big : Bool) (cnt : Nat) (r o : Int)
    (i : Nat) (hi : idxU ls r o = some i) :
    ∃ r' o', runWord (wordend ls big (-1)) cnt r o = (r', o') ∧ 0 ≤ r' ∧ 0 ≤ o' ∧
      wordBackRaw big (refBufU ls) ⟨r.toNat, o.toNat⟩ cnt = ⟨r'.toNat, o'.toNat⟩ := by
  obtain ⟨r', o', e, hj⟩ := run_bwd ls (wordend ls big (-1))
    (wordStart (if big then clsBig else cls) (flat (refBufU ls)))
    (fun r o i hi => wordend_back_spec_utf8 ls h big r o i hi) cnt r o i hi
  obtain ⟨p1, p2, p3⟩ := idxU_pos ls h hj
  exact ⟨r', o', e, p1, p2, by rw [wordBackRaw_eq big hi]; exact p3⟩

/-! ### count 1: one step of the scanner is the reference motion with count 1 -/

/-- `w` / `W` with count 1 on a valid UTF-8 buffer: the scanner stops where the reference motion (before
    clamping to the line) lands, whether or not it reports failure -/
theorem wordbeg_wordFwdRaw_utf8 (ls : Lines) (h : Utf8Buf ls) (big : Bool) (r o : Int) (i : Nat)
    (hi : idxU ls r o = some i) :
    ∃ fl r' o', wordbeg ls big 1 r o = (fl, r', o') ∧ 0 ≤ r' ∧ 0 ≤ o' ∧
      wordFwdRaw big (refBufU ls) ⟨r.toNat, o.toNat⟩ 1 = ⟨r'.toNat, o'.toNat⟩ :=
  (Utf8Buf.enc h).wordFwdRaw_one big hi

/-- `e` / `E` with count 1 on a valid UTF-8 buffer -/
theorem wordend_wordEndFwdRaw_utf8 (ls : Lines) (h : Utf8Buf ls) (big : Bool) (r o : Int) (i : Nat)
    (hi : idxU ls r o = some i) :
    ∃ fl r' o', wordend ls big 1 r o = (fl, r', o') ∧ 0 ≤ r' ∧ 0 ≤ o' ∧
      wordEndFwdRaw big (refBufU ls) ⟨r.toNat, o.toNat⟩ 1 = ⟨r'.toNat, o'.toNat⟩ :=
  (Utf8Buf.enc h).wordEndFwdRaw_one big hi

/-- `b` / `B` with count 1 on a valid UTF-8 buffer -/
theorem wordend_wordBackRaw_utf8 (ls : Lines) (h : Utf8Buf ls) (big : Bool) (r o : Int) (i : Nat)
    (hi : idxU ls r o = some i) :
    ∃ fl r' o', wordend ls big (-1) r o = (fl, r', o') ∧ 0 ≤ r' ∧ 0 ≤ o' ∧
      wordBackRaw big (refBufU ls) ⟨r.toNat, o.toNat⟩ 1 = ⟨r'.toNat, o'.toNat⟩ :=
  (Utf8Buf.enc h).wordBackRaw_one big hi

/-! ## 4. `lbuf_findchar` with a multi-byte target, `lbuf_paragraphbeg`, `lbuf_pair` -/

/-- **`f` / `F` / `t` / `T`** (`lbuf_findchar`, commands 102, 70, 116, 84) on a valid UTF-8 line, for a
    positive count, any valid target code point other than the newline (handed over as its UTF-8
    encoding, as `vi.c` does), and the cursor on the line: the result is the reference `findChar` on the
    code points of the line, in character offsets -/
theorem findchar_spec_utf8 (ls : Lines) (r : Int) (body : List Nat)
    (hline : lineAt ls r = some (encStr (body ++ [10]))) (hv : ∀ c ∈ body, ValidCp c) (h10 : 10 ∉ body)
    (c : Nat) (hc : ValidCp c) (hc10 : c ≠ 10) (cmd : Nat) (hcmd : cmd = 102 ∨ cmd = 70 ∨ cmd = 116 ∨ cmd = 84)
    (n : Int) (hn : 0 < n) (o : Int) (ho : 0 ≤ o) (ho' : o ≤ body.length) :
    (findchar ls (enc c) cmd n r o).map Int.toNat =
      findChar body o.toNat c (cmd == 102 || cmd == 116) (cmd == 116 || cmd == 84) n.toNat ∧
    ∀ p, findchar ls (enc c) cmd n r o = some p → 0 ≤ p := by
  have hw : Utf8W body := ⟨hv, h10⟩
  have := findchar_allU ls r body hline hv c hc.2 cmd hcmd n (by omega) o ho (fun h => absurd h hc10)
  have hd : decide (0 < n) = true := by simp; omega
  rw [hd, show n.natAbs = n.toNat by omega] at this
  simpa using this

/-- **`lbuf_findchar` in full** — the statement left open as `C07.findchar_spec_full`: any non-zero count
    (a negative count is the reversed search of `,`), any non-negative offset (also beyond the line, where
    `uc_chr` yields `""`), target and line any valid code points other than the newline -/
theorem findchar_spec_full_utf8 : C07.findchar_spec_full := by
  intro ls r cps c cmd n o hval hline hcmd hn ho
  have hw : Utf8W cps :=
    ⟨fun x hx => (hval x (by simp [hx])).1, fun h10 => (hval 10 (by simp [h10])).2.2 rfl⟩
  have hc := hval c (by simp)
  have hline' : lineAt ls r = some (encStr (cps ++ [10])) := by
    rw [hline, encStr_append]; rfl
  exact (findchar_allU ls r cps hline' hw.1 c hc.1.2 cmd hcmd n hn o ho (fun h => absurd h hc.2.2)).1

/-- in the full form, with the sign of the result: the same hypotheses as `findchar_spec_full`, on a line
    given by its body -/
theorem findchar_spec_utf8_full (ls : Lines) (r : Int) (body : List Nat)
    (hline : lineAt ls r = some (encStr (body ++ [10]))) (hv : ∀ c ∈ body, ValidCp c) (h10 : 10 ∉ body)
    (c : Nat) (hc : ValidCp c) (hc10 : c ≠ 10) (cmd : Nat) (hcmd : cmd = 102 ∨ cmd = 70 ∨ cmd = 116 ∨ cmd = 84)
    (n : Int) (hn : n ≠ 0) (o : Int) (ho : 0 ≤ o) :
    (findchar ls (enc c) cmd n r o).map Int.toNat =
      findChar body o.toNat c ((cmd == 102 || cmd == 116) == decide (0 < n)) (cmd == 116 || cmd == 84) n.natAbs ∧
    ∀ p, findchar ls (enc c) cmd n r o = some p → 0 ≤ p :=
  findchar_allU ls r body hline hv c hc.2 cmd hcmd n hn o ho (fun h => absurd h hc10)

/-- the same on a row of a valid UTF-8 buffer, against the row of the reference buffer -/
theorem findchar_spec_utf8_buf (ls : Lines) (h : Utf8Buf ls) (r : Nat) (hr : r < ls.length)
    (c : Nat) (hc : ValidCp c) (hc10 : c ≠ 10) (cmd : Nat) (hcmd : cmd = 102 ∨ cmd = 70 ∨ cmd = 116 ∨ cmd = 84)
    (n : Int) (hn : 0 < n) (o : Int) (ho : 0 ≤ o) (ho' : o ≤ ((refBufU ls).getD r []).length) :
    (findchar ls (enc c) cmd n (r : Int) o).map Int.toNat =
      findChar ((refBufU ls).getD r []) o.toNat c (cmd == 102 || cmd == 116) (cmd == 116 || cmd == 84) n.toNat ∧
    ∀ p, findchar ls (enc c) cmd n (r : Int) o = some p → 0 ≤ p := by
  obtain ⟨e, hb⟩ := utf8Buf_eq ls h
  have hr' : r < (refBufU ls).length := by simp [refBufU]; exact hr
  have hline : lineAt ls (r : Int) = some (encStr (rowOf (refBufU ls) r ++ [10])) := by
    conv => lhs; rw [e]
    exact lineAt_repU _ r hr'
  have hw := rowOf_utf8 hb hr'
  exact findchar_spec_utf8 ls r _ hline hw.1 hw.2 c hc hc10 cmd hcmd n hn o ho ho'

theorem refBufU_length (ls : Lines) : (refBufU ls).length = ls.length := by simp [refBufU]

/-- **`}` and `{`** (`lbuf_paragraphbeg`) on a valid UTF-8 buffer: `paraFwd` / `paraBack` on the rows -/
theorem paragraphbeg_spec_utf8 (ls : Lines) (h : Utf8Buf ls) (r : Nat) :
    (r ≤ ls.length → paragraphbeg ls 1 (r : Int) = (((paraFwd (refBufU ls) r : Nat) : Int), 0)) ∧
    (r < ls.length → paragraphbeg ls (-1) (r : Int) = (((paraBack (refBufU ls) r : Nat) : Int), 0)) :=
  (Utf8Buf.enc h).paragraphbeg r

/-- `lbuf_paragraphbeg` does not depend on the encoding: the same for every buffer whose lines are the
    encoding of code points followed by a newline (validity is not needed; compare the byte-wise
    `paragraphbeg_spec_lines` of C07b) -/
theorem paragraphbeg_spec_enc (b : Buf) (r : Nat) :
    (r ≤ b.length → paragraphbeg (lsOfU b) 1 (r : Int) = (((paraFwd b r : Nat) : Int), 0)) ∧
    (r < b.length → paragraphbeg (lsOfU b) (-1) (r : Int) = (((paraBack b r : Nat) : Int), 0)) := by
  rw [paragraphbeg_lsOfU, paragraphbeg_lsOfU]
  exact ⟨paragraphbeg_fwd b r, paragraphbeg_bwd b r⟩

/-- **`%`** (`lbuf_pair`) from any character `(r, o)` of a valid UTF-8 buffer (the newline included): the
    reference's `pairOf` on code points — the first bracket `( ) [ ] { }` at or after the cursor on its
    line, and the bracket that balances it, searched over the whole buffer; offsets are character offsets
    (the scanner compares first bytes, and no multi-byte character starts with a bracket byte) -/
theorem pair_spec_utf8 (ls : Lines) (h : Utf8Buf ls) (r o : Int) (i : Nat) (hi : idxU ls r o = some i) :
    Mot.pair ls r o = (pairOf (refBufU ls) ⟨r.toNat, o.toNat⟩).map (fun p => ((p.row : Int), (p.col : Int))) :=
  (Utf8Buf.enc h).pair hi

/-! ## 4b. `lbuf_eol` and `lbuf_indents` -/

/-- `lbuf_eol` on a valid UTF-8 line: the character offset of the newline (the number of code points of
    the body), and what `$` lands on after `ren_noeol` is the reference's last column -/
theorem eol_utf8 (ls : Lines) (r : Int) (body : List Nat) (hline : lineAt ls r = some (encStr (body ++ [10])))
    (hv : ∀ c ∈ body, ValidCp c) :
    eol ls r = body.length ∧ Ren.renNoeol (encStr (body ++ [10])) (eol ls r) = lastCol body :=
  eol_enc ls r body hline hv

/-- `lbuf_indents` on a UTF-8 line with a non-blank character `x` (any valid code point that is not a
    C-locale space, e.g. a multi-byte one) after leading blanks: the number of leading blanks — a byte
    count that is also the character offset — which is the reference's `firstNonBlank` -/
theorem indents_firstNonBlank_utf8 (ls : Lines) (r : Int) (pre rest : List Nat) (x : Nat)
    (hline : lineAt ls r = some (encStr (pre ++ x :: rest ++ [10])))
    (hpre : ∀ b ∈ pre, isBlank b = true) (hx : ValidCp x) (hxs : cls x ≠ 0) :
    indents ls r = pre.length ∧ firstNonBlank (pre ++ x :: rest) = pre.length := by
  have hpre128 : ∀ b ∈ pre, b < 128 := fun b hb => (isBlank_ascii (hpre b hb)).2
  have hxb : isBlank x = false := by
    cases h : isBlank x with
    | false => rfl
    | true =>
      unfold isBlank at h
      simp only [Bool.or_eq_true, beq_iff_eq] at h
      rcases h with h | h <;> subst h <;> exact absurd (by decide) hxs
  constructor
  · rw [(C07.indents_spec ls r).2 _ hline]
    rw [show pre ++ x :: rest ++ [10] = pre ++ x :: (rest ++ [10]) by simp, encStr_append, encStr_ascii hpre128,
      encStr_cons]
    obtain ⟨a, t, he, hch⟩ := enc_chr hx
    have hsp : ucIsSpace a = false := by
      have := (class_enc hx (encStr (rest ++ [10]))).2.1
      rw [he] at this
      simp only [List.cons_append, Bytes.hd_cons] at this
      rw [this]; simpa using hxs
    rw [he]
    show ((List.takeWhile (fun c => c != 10 && ucIsSpace c) (pre ++ a :: (t ++ encStr (rest ++ [10])))).length : Int) = _
    rw [takeWhile_pre _ pre a _ (fun b hb => C07.isBlank_indent b (hpre b hb)) (by simp [hsp])]
  · exact firstNonBlank_pre pre rest x hpre hxb

/-! ## 5. examples: the buffer `naïve 中文 x́y` / (empty line) / `(é)`

`ï` U+00EF and `é` U+00E9 take two bytes, `中` U+4E2D and `文` U+6587 three (and two cells on the screen),
U+0301 after `x` is a combining accent (two bytes, no cell): each of them is one character for the
scanners and one element of `flat`. -/

def exU : Lines :=
  [[110, 97, 195, 175, 118, 101, 32, 228, 184, 173, 230, 150, 135, 32, 120, 204, 129, 121, 10], [10],
   [40, 195, 169, 41, 10]]

theorem exU_utf8 : Utf8Buf exU := by
  intro l hl
  simp only [exU, List.mem_cons, List.not_mem_nil, or_false] at hl
  rcases hl with rfl | rfl | rfl
  · exact ⟨[110, 97, 0xef, 118, 101, 32, 0x4e2d, 0x6587, 32, 120, 0x301, 121], by decide, by decide, by decide⟩
  · exact ⟨[], by decide, by decide, by decide⟩
  · exact ⟨[40, 0xe9, 41], by decide, by decide, by decide⟩

example : refBufU exU = [[110, 97, 0xef, 118, 101, 32, 0x4e2d, 0x6587, 32, 120, 0x301, 121], [], [40, 0xe9, 41]] := by
  decide +kernel
example : (flat (refBufU exU)).length = 18 := by decide +kernel
/-- not an ASCII buffer -/
example : ¬ AsciiBuf exU := by
  intro h
  obtain ⟨w, e, hw⟩ := h _ (List.mem_cons_self)
  have h1 : w = [110, 97, 195, 175, 118, 101, 32, 228, 184, 173, 230, 150, 135, 32, 120, 204, 129, 121] := by
    have := congrArg List.dropLast e
    simpa using this.symm
  subst h1
  have := (hw 195 (by decide)).2.1
  omega
/-- offsets are character offsets: `中` is character 6 (byte 7), `y` is character 11 (byte 17) -/
example : idxU exU 0 0 = some 0 ∧ idxU exU 0 6 = some 6 ∧ idxU exU 0 11 = some 11 ∧ idxU exU 0 12 = some 12 ∧
    idxU exU 1 0 = some 13 ∧ idxU exU 2 1 = some 15 ∧ idxU exU 2 3 = some 17 ∧
    idxU exU 0 13 = none ∧ idxU exU 3 0 = none := by decide +kernel
/-- the classes of the model at `ï`, `中`, the combining accent, and the non-ASCII blanks of §1 -/
example : kindAt exU 0 2 = 1 ∧ kindAt exU 0 6 = 1 ∧ kindAt exU 0 10 = 1 ∧ isSpaceAt exU 0 10 = false ∧
    codeAt exU 0 6 = 0x4e2d ∧ codeAt exU 0 10 = 0x301 ∧ codeAt exU 0 12 = 10 := by decide +kernel
example : cls 0xa0 = 1 ∧ cls 0x2000 = 1 ∧ cls 0x3000 = 1 ∧
    ucKind (Bytes.hd (enc 0xa0)) = 1 ∧ ucKind (Bytes.hd (enc 0x2000)) = 1 ∧ ucKind (Bytes.hd (enc 0x3000)) = 1 ∧
    ucIsSpace (Bytes.hd (enc 0xa0)) = false ∧ ucIsSpace (Bytes.hd (enc 0x3000)) = false := by decide +kernel
/-- `w` from `n`: to `中`; from `中`: to `x` (the accent does not start a word); from `x`, its accent or
    `y`: to the empty line; from the empty line: to `(`; from `(`: to `é`; from `)`: failure -/
example : wordbeg exU false 1 0 0 = (false, 0, 6) ∧ wordbeg exU false 1 0 6 = (false, 0, 9) ∧
    wordbeg exU false 1 0 9 = (false, 1, 0) ∧ wordbeg exU false 1 0 10 = (false, 1, 0) ∧
    wordbeg exU false 1 1 0 = (false, 2, 0) ∧ wordbeg exU false 1 2 0 = (false, 2, 1) ∧
    wordbeg exU false 1 2 2 = (true, 2, 3) := by decide +kernel
example : nextWhere 18 (wordStart cls (flat (refBufU exU))) 0 = some 6 ∧
    nextWhere 18 (wordStart cls (flat (refBufU exU))) 6 = some 9 ∧
    nextWhere 18 (wordStart cls (flat (refBufU exU))) 9 = some 13 ∧
    nextWhere 18 (wordStart cls (flat (refBufU exU))) 13 = some 14 ∧
    nextWhere 18 (wordStart cls (flat (refBufU exU))) 14 = some 15 ∧
    nextWhere 18 (wordStart cls (flat (refBufU exU))) 16 = none := by decide +kernel
/-- `e` from `n`: to `e`; from `中`: to `文`; from `x`: to `y`, over the accent;
    `b` from `x`: to `中`; from the accent: to `x`; from `中`: to `n`, reported as failure (index 0) -/
example : wordend exU false 1 0 0 = (false, 0, 4) ∧ wordend exU false 1 0 6 = (false, 0, 7) ∧
    wordend exU false 1 0 9 = (false, 0, 11) ∧ wordend exU false (-1) 0 9 = (false, 0, 6) ∧
    wordend exU false (-1) 0 10 = (false, 0, 9) ∧ wordend exU false (-1) 0 6 = (true, 0, 0) := by decide +kernel
/-- counts: `3w` from `n` lands on the empty line, `2b` from `y` on `中`, `9e` runs to the end -/
example : runWord (wordbeg exU false 1) 3 0 0 = (1, 0) ∧ wordFwdRaw false (refBufU exU) ⟨0, 0⟩ 3 = ⟨1, 0⟩ ∧
    runWord (wordend exU false (-1)) 2 0 11 = (0, 6) ∧ wordBackRaw false (refBufU exU) ⟨0, 11⟩ 2 = ⟨0, 6⟩ ∧
    runWord (wordend exU false 1) 9 0 0 = (2, 3) ∧ wordEndFwdRaw false (refBufU exU) ⟨0, 0⟩ 9 = ⟨2, 3⟩ := by
  decide +kernel
/-- `f中`, `t文`, `Fï` and `Tï` from `y`, `f` + the combining accent, `2f␣` -/
example : findchar exU (enc 0x4e2d) 102 1 0 0 = some 6 ∧ findchar exU (enc 0x6587) 116 1 0 0 = some 6 ∧
    findchar exU (enc 0xef) 70 1 0 11 = some 2 ∧ findchar exU (enc 0xef) 84 1 0 11 = some 3 ∧
    findchar exU (enc 0x301) 102 1 0 0 = some 10 ∧ findchar exU (enc 32) 102 2 0 0 = some 8 ∧
    findchar exU (enc 0x4e2d) 102 2 0 0 = none := by decide +kernel
/-- a negative count searches the other way (`,`): `f` with count -1 from `y` finds `ï` backward; an offset
    beyond the line: nothing forward, everything backward -/
example : findchar exU (enc 0xef) 102 (-1) 0 11 = some 2 ∧ findchar exU (enc 0xef) 70 (-1) 0 0 = some 2 ∧
    findchar exU (enc 121) 102 1 0 40 = none ∧ findchar exU (enc 121) 70 1 0 40 = some 11 ∧
    findChar ((refBufU exU).getD 0 []) 40 121 false false 1 = some 11 := by decide +kernel
/-- `$`: `lbuf_eol` is the character offset of the newline, 12 on the first line (17 bytes of text) -/
example : eol exU 0 = 12 ∧ eol exU 1 = 0 ∧ eol exU 2 = 3 := by decide +kernel
/-- `%` on `(`, on `é` (the next bracket is `)`), on `)`; `}` and `{` -/
example : Mot.pair exU 2 0 = some (2, 2) ∧ Mot.pair exU 2 1 = some (2, 0) ∧ Mot.pair exU 2 2 = some (2, 0) ∧
    Mot.pair exU 0 0 = none ∧ paragraphbeg exU 1 0 = (1, 0) ∧ paragraphbeg exU (-1) 2 = (1, 0) := by
  decide +kernel

/-- the theorems instantiated: `w` from `n` lands on `中`, `b` from `x` on `中`, `e` from `x` on `y` -/
example : ∃ fl r' o', wordbeg exU false 1 0 0 = (fl, r', o') ∧ 0 ≤ r' ∧ 0 ≤ o' ∧
    wordFwdRaw false (refBufU exU) ⟨0, 0⟩ 1 = ⟨r'.toNat, o'.toNat⟩ :=
  wordbeg_wordFwdRaw_utf8 exU exU_utf8 false 0 0 0 (by decide +kernel)
example : wordFwdRaw false (refBufU exU) ⟨0, 0⟩ 1 = ⟨0, 6⟩ ∧ wordBackRaw false (refBufU exU) ⟨0, 9⟩ 1 = ⟨0, 6⟩ ∧
    wordEndFwdRaw false (refBufU exU) ⟨0, 9⟩ 1 = ⟨0, 11⟩ := by decide +kernel
example : ∃ fl r' o', wordend exU false (-1) 0 9 = (fl, r', o') ∧ 0 ≤ r' ∧ 0 ≤ o' ∧
    wordBackRaw false (refBufU exU) ⟨0, 9⟩ 1 = ⟨r'.toNat, o'.toNat⟩ :=
  wordend_wordBackRaw_utf8 exU exU_utf8 false 0 9 9 (by decide +kernel)
example : (findchar exU (enc 0x4e2d) 102 1 (0 : Nat) 0).map Int.toNat =
    findChar ((refBufU exU).getD 0 []) 0 0x4e2d true false 1 :=
  (findchar_spec_utf8_buf exU exU_utf8 0 (by decide) 0x4e2d (by decide) (by decide) 102 (Or.inl rfl) 1 (by decide) 0
    (by decide) (by decide +kernel)).1
example : findChar ((refBufU exU).getD 0 []) 0 0x4e2d true false 1 = some 6 := by decide +kernel
example : Mot.pair exU 2 1 = (pairOf (refBufU exU) ⟨2, 1⟩).map (fun p => ((p.row : Int), (p.col : Int))) :=
  pair_spec_utf8 exU exU_utf8 2 1 15 (by decide +kernel)
example : pairOf (refBufU exU) ⟨2, 1⟩ = some ⟨2, 0⟩ := by decide +kernel

end Neatvi.Props.C07c
