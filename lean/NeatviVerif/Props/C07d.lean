import NeatviVerif.Lemmas.Basics
import NeatviVerif.Props.C07c
import NeatviVerif.Props.C08b
import NeatviVerif.Props.C17b
import NeatviVerif.Props.C19c
import NeatviVerif.Lemmas.C07dCol
import NeatviVerif.Lemmas.C08fMotion
import NeatviVerif.Lemmas.C09Cmd
/-!
# C07d  Where the dispatchers `vi_motionln` and `vi_motion` land, key by key

C07 / C07b / C07c prove the scanners of mot.c against the reference.  This file is about the keys
that do not go through a scanner: what `viMotionln` (the LINE motions) and `viMotion` (the CHARACTER
motions) of `Model/Vi.lean` return for them.

The key that the dispatcher reads is described by the hypothesis `viRead s = Res.ok c s1`: this
covers a key pushed back on `vi_buf` as well as a key delivered by the terminal; §0 gives the two
ways to establish it (`Lemmas.C08f.viRead_vibuf`, `viRead_pending`) and says what `s1` is (`viRead_frame`: only
the key-queue fields `vibuf ibuf ibufPos typed icmd` differ from `s`).  Every landing theorem has the
form `viMotionln row cmd s = Res.ok (c, <row>) s1` resp. `viMotion row off s = Res.ok (c, row, <off>) s1`
with the very same `s1`, so "the key is consumed and nothing else of the state changes" is part of
each statement.

* §0 reading a key: `KeyFrame`, `viRead_pending`, `viRead_frame`, `viRead_back`
* §1 the line motions: `viMotionln_down` (`j + RET`), `viMotionln_up` (`k -`), `viMotionln_under` (`_`),
  `viMotionln_doubled` (`dd`, `yy` …), `viMotionln_G`, `viMotionln_H`, `viMotionln_L`, `viMotionln_M`,
  also `viMotionln_percent` (`N%`) and `viMotionln_mark` (`'m`); `viMotionln_rest` (what is left of
  `vi_motionln` for a key that is none of these) and from it `viMotionln_other` (any other key is pushed back).
  The count is `cntOf s`; the hypothesis `1 ≤ cntOf s` is `C05b.cntOf_bounded_of_fit`.
  None of these proofs unfolds `viMotionln`: `(bind_ok … hrd).trans …` (`Lemmas/ViPres`) steps over the
  `vi_read` — the unifier computes the `do` block down to the `>>=` whose first part `hrd` is about — and
  evaluates the tests on the key.
* §2 the reference `refLine` (with `clampI`, `refH`, `refL`, `refM`), `clampRow_eq` /
  `refLine_clampRow` (it is `Spec.Motion.clampRow`), `refLine_valid`, the window facts `refH_window`,
  `refL_window`, `refM_window`, `refHLM_short`, and **`motion_lands_ln`**, from which
  `viMotionln_row_valid` (the row returned is a row of the buffer), `motion_lands_ln_pending`,
  `viMotionln_other_pending`
* §3 the character motions: `viMotion_zero`, `viMotion_dollar`, `viMotion_caret`
  (+ `_indents`, `_blank`), `viMotion_l`, `viMotion_h` (+ `viMotion_hl_eq`, `viMotion_l_rtl_context`,
  `ascii_line_ltr`), `viMotion_l_visual`, `viMotion_h_visual` (one step on any layout),
  `viMotion_space`, `viMotion_backspace`, `viMotion_bar`.  What `vi_motion` computes for a key before any fact about
  the line is used is read off the model by `Lemmas.C08f.viMotion_key` (`Lemmas/C08fMotion.lean`, which has the keys
  `SPC BS $ 0` and the classes `h l`, `f F t T`, `B E W b e w` by name; here `viMotion_hl_eq`, `viMotion_backspace_eq`,
  `viMotion_caret_indents`, `viMotion_bar_eq` for what it lacks)
* §4 examples on the states of `Props/C08b.lean`

What the model does differently from what one might expect (each recorded at the theorem):
* `H` / `L` with a count beyond the window leave the window (`NH` goes below it, `NL` above it, down
  to row 0); only the buffer bounds stop them.  `M` ignores the count.
* `l` and `h` never fail: at the last / first character they return the motion with the same position.
* `SPC` steps onto the offset of the newline (`l` does not); `$`, `^` on a line of blanks and `|` with a
  large count also return that offset; the command loop's `ren_noeol` then rests the cursor on the last
  character (stated as the second conjunct of those theorems).
* `^` on a line of blanks: `vi_motion` returns the newline's offset and the cursor rests on the last blank,
  `lastCol`, which is also what the reference function `firstNonBlank` gives for such a line.
* `|` also sets `vi_pcol`.
* the NUL key is not taken by `vi_motionln(row, 0)` as the "doubled operator letter" (the test is
  `cmd != 0 && c == cmd`): `viMotionln_doubled` needs `cmd ≠ 0`, and with `cmd = 0` the NUL key is
  pushed back like any other key (`viMotionln_other`; `Props/C05g.lean` `nul_key_no_motion`).

Not proved here (these are statements that are absent; every theorem in the file is complete):
* the closed form of `Nl` / `Nh` (`min (off + N) lastCol`, `off - N`) is proved for increasing position
  tables (`StrictInc`, i.e. no reordering: all lines without multi-byte characters, all lines longer
  than 256 characters).  For a line with multi-byte characters `ren_position` runs `dir_reorder` with
  the regex sets of dir.c; that this yields the left-to-right table on left-to-right text is not
  proved, so for such lines only the single step (`viMotion_l_visual`, `viMotion_h_visual`: to the
  character displayed immediately to the right / left in the model's own table) is available.
* `'m`: the row is the stored row of the mark (`viMotionln_mark`); that it is a row of the buffer is
  an invariant of `lbuf.c`'s mark maintenance and is not part of this file (hence `mv ≠ 39` in
  `viMotionln_row_valid`).
-/
namespace Neatvi.Props.C07d
open Neatvi Neatvi.Uc Neatvi.Mot Neatvi.Vi Neatvi.Spec Neatvi.Spec.Motion Neatvi.Lemmas.C09 Neatvi.Lemmas.C07d
open Neatvi.Lemmas.C17b (StrictInc)
open Neatvi.Lemmas.C07 (bind_ok bind_inv)

/-! ## 0. reading a key -/

/-- `s'` differs from `s` at most in the key-queue fields (`vi_buf`, term.c's `ibuf`, the keys not yet
    delivered, and the record `icmd` of the keys read): the text, the registers, the cursor fields, the
    counts, the options are the same -/
def KeyFrame (s s' : VS) : Prop :=
  ∃ vb ib ip ty ic, s' = { s with vibuf := vb, ibuf := ib, ibufPos := ip, typed := ty, icmd := ic }

theorem KeyFrame.refl (s : VS) : KeyFrame s s := ⟨_, _, _, _, _, rfl⟩

theorem KeyFrame.trans {a b c : VS} (h1 : KeyFrame a b) (h2 : KeyFrame b c) : KeyFrame a c := by
  obtain ⟨vb, ib, ip, ty, ic, rfl⟩ := h1
  obtain ⟨vb', ib', ip', ty', ic', rfl⟩ := h2
  exact ⟨vb', ib', ip', ty', ic', rfl⟩

/-- what `KeyFrame` preserves, field by field -/
theorem KeyFrame.fields {s s' : VS} (h : KeyFrame s s') :
    s'.ed = s.ed ∧ s'.xcol = s.xcol ∧ s'.arg1 = s.arg1 ∧ s'.arg2 = s.arg2 ∧
    s'.ybuf = s.ybuf ∧ s'.charlast = s.charlast ∧ s'.charcmd = s.charcmd ∧ s'.pcol = s.pcol ∧
    s'.soset = s.soset ∧ s'.so = s.so ∧ s'.scroll = s.scroll ∧ s'.repCmd = s.repCmd ∧
    s'.execReg = s.execReg ∧ s'.msg = s.msg ∧ s'.xrows = s.xrows ∧ s'.xcols = s.xcols ∧
    s'.xai = s.xai ∧ s'.xkmap = s.xkmap ∧ s'.exKmap = s.exKmap ∧ s'.xkmapAlt = s.xkmapAlt ∧
    s'.unmodelled = s.unmodelled := by
  obtain ⟨vb, ib, ip, ty, ic, rfl⟩ := h
  simp

theorem KeyFrame.lines {s s' : VS} (h : KeyFrame s s') : lines s' = lines s := by
  obtain ⟨vb, ib, ip, ty, ic, rfl⟩ := h; rfl

theorem KeyFrame.lenOf {s s' : VS} (h : KeyFrame s s') : lenOf s' = lenOf s := by
  obtain ⟨vb, ib, ip, ty, ic, rfl⟩ := h; rfl

theorem KeyFrame.cntOf {s s' : VS} (h : KeyFrame s s') : cntOf s' = cntOf s := by
  obtain ⟨vb, ib, ip, ty, ic, rfl⟩ := h; rfl

theorem ok_pair {α β : Type} {a a' : α} {b b' : β} {s s' : VS} (h : Res.ok (a, b) s = Res.ok (a', b') s') :
    a = a' ∧ b = b' := by
  injection h with h _
  injection h with h1 h2
  exact ⟨h1, h2⟩

/-- with nothing pushed back, the next key is the head `k` of the pending stream of term.c: reading
    it leaves `rest` pending, records `k` in `icmd` and changes nothing else -/
theorem viRead_pending (s : VS) (k : Nat) (rest : Bytes) (hv : s.vibuf = []) (hp : pending s = k :: rest) :
    ∃ s1, viRead s = Res.ok (k : Int) s1 ∧ pending s1 = rest ∧ s1.vibuf = [] ∧
      ∃ ib ip ty, s1 = { s with ibuf := ib, ibufPos := ip, typed := ty, icmd := icmdAfter s.icmd k } := by
  obtain ⟨ib, ip, ty, h1, h2, -⟩ := termRead_ok s k rest hp
  exact ⟨{ s with ibuf := ib, ibufPos := ip, typed := ty, icmd := icmdAfter s.icmd k },
    by rw [viRead_nil s hv]; exact h1, h2, hv, ib, ip, ty, rfl⟩

/-- whatever key `vi_read` returns, only the key-queue fields change -/
theorem viRead_frame (s s1 : VS) (c : Int) (h : viRead s = Res.ok c s1) : KeyFrame s s1 := by
  obtain ⟨ib, ip, ty, ic, vb, rfl⟩ := Lemmas.C08g.viRead_qonly s s1 c h
  exact ⟨vb, ib, ip, ty, ic, rfl⟩

/-- pushing the key back and reading again gives the same key and the same state -/
theorem viRead_back (s1 : VS) (c : Int) :
    viRead { s1 with vibuf := c :: s1.vibuf } = Res.ok c s1 :=
  Lemmas.C08f.viRead_back s1 c

/-! ## 1. the line motions -/

/-- a count was typed (`vi_arg1` or `vi_arg2` is set) -/
def hasCount (s : VS) : Bool := s.arg1 != 0 || s.arg2 != 0

/-- every line motion ends with `*row = MAX(0, r)` -/
theorem fin_max (c r : Int) (s : VS) :
    (pure (c, if r < 0 then 0 else r) : M (Int × Int)) s = Res.ok (c, max 0 r) s := by
  have e : (if r < 0 then 0 else r) = max 0 r := by split <;> omega
  rw [e]; rfl

theorem fin_nonneg (c r : Int) (s : VS) (h : 0 ≤ r) :
    (pure (c, if r < 0 then 0 else r) : M (Int × Int)) s = Res.ok (c, r) s := by
  rw [fin_max, Int.max_eq_right h]

/-- `j` (106), `+` (43), RET (10): `cnt` lines down, stopping at the last line -/
theorem viMotionln_down (row cmd : Int) (s s1 : VS) (c : Int) (hrd : viRead s = Res.ok c s1)
    (hc : c = 106 ∨ c = 43 ∨ c = 10) (h0 : 0 ≤ row) (h1 : row < lenOf s) (hcnt : 1 ≤ cntOf s) :
    viMotionln row cmd s = Res.ok (c, min (row + cntOf s) (lenOf s - 1)) s1 := by
  refine (bind_ok _ _ _ _ _ hrd).trans ?_
  rcases hc with rfl | rfl | rfl
  all_goals exact fin_nonneg _ _ _ (by omega)

/-- `k` (107), `-` (45): `cnt` lines up, stopping at the first line -/
theorem viMotionln_up (row cmd : Int) (s s1 : VS) (c : Int) (hrd : viRead s = Res.ok c s1)
    (hc : c = 107 ∨ c = 45) :
    viMotionln row cmd s = Res.ok (c, max (row - cntOf s) 0) s1 := by
  refine (bind_ok _ _ _ _ _ hrd).trans ?_
  rcases hc with rfl | rfl
  all_goals exact fin_nonneg _ _ _ (by omega)

/-- `_` (95): `cnt - 1` lines down, stopping at the last line -/
theorem viMotionln_under (row cmd : Int) (s s1 : VS) (hrd : viRead s = Res.ok 95 s1)
    (h0 : 0 ≤ row) (h1 : row < lenOf s) (hcnt : 1 ≤ cntOf s) :
    viMotionln row cmd s = Res.ok (95, min (row + cntOf s - 1) (lenOf s - 1)) s1 :=
  (bind_ok _ _ _ _ _ hrd).trans (fin_nonneg _ _ _ (by omega))

/-- the keys `vi_motionln` tests before it compares the key with the operator letter -/
def lineKeyBefore (c : Int) : Bool :=
  c == 10 || c == 43 || c == 45 || c == 95 || c == 39 || c == 106 || c == 107 || c == 71 || c == 72 ||
  c == 76 || c == 77

/-- a key that is none of those reaches the last three tests of `vi_motionln`: the operator letter,
    `N%`, and else the key is pushed back -/
theorem viMotionln_rest (row cmd : Int) (s s1 : VS) (c : Int) (hrd : viRead s = Res.ok c s1)
    (hnk : lineKeyBefore c = false) :
    viMotionln row cmd s =
      (if cmd != 0 && c == cmd then
        (pure (c, if min (row + cntOf s - 1) (lenOf s - 1) < 0 then 0 else min (row + cntOf s - 1) (lenOf s - 1)) :
          M (Int × Int))
      else if c == 37 && hasCount s then
        if cntOf s > 100 then pure (-1, row)
        else pure (c, if max 0 (lenOf s - 1) * cntOf s / 100 < 0 then 0 else max 0 (lenOf s - 1) * cntOf s / 100)
      else do viBack c; pure (0, row)) s1 :=
  Lemmas.C08f.viMotionln_rest row cmd s s1 c hrd hnk

/-- the doubled operator letter (`dd`, `yy`, `>>` …: the key equals `cmd`, and is none of the keys
    tested first): like `_`.  With `cmd = 0` (the call from `vi_motion`) there is no operator letter: a NUL
    key is not a motion (`hcmd0`; it is pushed back, `viMotionln_other`). -/
theorem viMotionln_doubled (row cmd : Int) (s s1 : VS) (hrd : viRead s = Res.ok cmd s1) (hcmd0 : cmd ≠ 0)
    (hnk : lineKeyBefore cmd = false) (h0 : 0 ≤ row) (h1 : row < lenOf s) (hcnt : 1 ≤ cntOf s) :
    viMotionln row cmd s = Res.ok (cmd, min (row + cntOf s - 1) (lenOf s - 1)) s1 := by
  rw [viMotionln_rest row cmd s s1 cmd hrd hnk, if_pos (by simpa using hcmd0)]
  exact fin_nonneg _ _ _ (by omega)

/-- `G` (71): with a count to line `cnt` (row `cnt - 1`), stopping at the last line; without a count
    to the last line -/
theorem viMotionln_G (row cmd : Int) (s s1 : VS) (hrd : viRead s = Res.ok 71 s1)
    (hn : 0 < lenOf s) (hcnt : 1 ≤ cntOf s) :
    viMotionln row cmd s =
      Res.ok (71, if hasCount s then min (cntOf s - 1) (lenOf s - 1) else lenOf s - 1) s1 := by
  refine (bind_ok _ _ _ _ _ hrd).trans (fin_nonneg _ _ _ ?_)
  split <;> omega

/-- `H` (72): the `cnt`-th line of the window, i.e. row `xtop + cnt - 1`, stopping at the last line
    of the buffer (and at row 0 should `xtop` be negative).  The model does not stop at the bottom of
    the window: with `cnt > xrows` it lands below the window. -/
theorem viMotionln_H (row cmd : Int) (s s1 : VS) (hrd : viRead s = Res.ok 72 s1) :
    viMotionln row cmd s =
      Res.ok (72, max 0 (min (s.ed.xtop + cntOf s - 1) (lenOf s - 1))) s1 :=
  (bind_ok _ _ _ _ _ hrd).trans (fin_max _ _ _)

/-- `L` (76): the `cnt`-th line from the bottom of the window: row `xtop + xrows - 1 - cnt + 1`
    `= xtop + xrows - cnt`, stopping at the last line of the buffer and at row 0.  The model does not
    stop at the top of the window: with `cnt > xrows` it lands above the window. -/
theorem viMotionln_L (row cmd : Int) (s s1 : VS) (hrd : viRead s = Res.ok 76 s1) :
    viMotionln row cmd s =
      Res.ok (76, max 0 (min (s.ed.xtop + s.xrows - cntOf s) (lenOf s - 1))) s1 := by
  rw [show s.ed.xtop + s.xrows - cntOf s = s.ed.xtop + s.xrows - 1 - cntOf s + 1 by omega]
  exact (bind_ok _ _ _ _ _ hrd).trans (fin_max _ _ _)

/-- `M` (77): the middle line of the window, row `xtop + xrows / 2` (the count is ignored), stopping
    at the last line of the buffer -/
theorem viMotionln_M (row cmd : Int) (s s1 : VS) (hrd : viRead s = Res.ok 77 s1) :
    viMotionln row cmd s =
      Res.ok (77, max 0 (min (s.ed.xtop + s.xrows / 2) (lenOf s - 1))) s1 :=
  (bind_ok _ _ _ _ _ hrd).trans (fin_max _ _ _)

/-- `N%` (37 with a count; not the doubled operator letter): to the line at `cnt` percent of the
    buffer, row `(n - 1) * cnt / 100`; it fails (`mv = -1`, the row handed back) for `cnt > 100`.
    Without a count `%` is not a line motion (it is pushed back, `viMotionln_other`). -/
theorem viMotionln_percent (row cmd : Int) (s s1 : VS) (hrd : viRead s = Res.ok 37 s1)
    (hcmd : cmd ≠ 37) (hcount : hasCount s = true) (hn : 0 < lenOf s) (hcnt : 1 ≤ cntOf s) :
    viMotionln row cmd s =
      if cntOf s > 100 then Res.ok (-1, row) s1 else Res.ok (37, (lenOf s - 1) * cntOf s / 100) s1 := by
  have hcmd' : ¬ (cmd != 0 && (37 : Int) == cmd) = true := by simp; omega
  rw [viMotionln_rest row cmd s s1 37 hrd (by decide), if_neg hcmd', hcount, if_pos (show ((37 : Int) == 37 && true) = true from rfl),
    Int.max_eq_right (by omega)]
  split
  · rfl
  · exact fin_nonneg _ _ _ (Int.ediv_nonneg (Int.mul_nonneg (by omega) (by omega)) (by omega))

/-- `'m` (39 and a mark name): the row of the mark, `mv = -1` and the row handed back when the name is
    an interrupt key / NUL or the mark is not set -/
theorem viMotionln_mark (row cmd : Int) (s s1 s2 : VS) (m : Int) (hrd : viRead s = Res.ok 39 s1)
    (hrd2 : viRead s1 = Res.ok m s2) :
    viMotionln row cmd s =
      if m ≤ 0 then Res.ok (-1, row) s2 else
      match s.ed.lb.bind (fun lb => Lbuf.jump lb m.toNat) with
      | none => Res.ok (-1, row) s2
      | some (p, _) => Res.ok (39, max 0 p) s2 := by
  refine (bind_ok _ _ _ _ _ hrd).trans ((bind_ok _ _ _ _ _ hrd2).trans ?_)
  by_cases hm : m ≤ 0
  · rw [if_pos hm, if_pos hm]; rfl
  · rw [if_neg hm, if_neg hm]
    cases s.ed.lb.bind (fun lb => Lbuf.jump lb m.toNat) with
    | none => rfl
    | some pq => exact fin_max _ _ _

/-- the keys that are line motions whatever the operator and the count -/
def isLineKey (c : Int) : Bool :=
  c == 106 || c == 43 || c == 10 || c == 107 || c == 45 || c == 95 || c == 71 || c == 72 || c == 76 || c == 77

theorem isLineKey_iff (c : Int) : isLineKey c = true ↔
    (c = 106 ∨ c = 43 ∨ c = 10) ∨ (c = 107 ∨ c = 45) ∨ c = 95 ∨ c = 71 ∨ c = 72 ∨ c = 76 ∨ c = 77 := by
  unfold isLineKey
  simp only [Bool.or_eq_true, beq_iff_eq, or_assoc]

theorem lineKeyBefore_of_not (c : Int) (hk : isLineKey c = false) (h39 : c ≠ 39) : lineKeyBefore c = false := by
  unfold isLineKey at hk
  unfold lineKeyBefore
  simp only [Bool.or_eq_false_iff, beq_eq_false_iff_ne, ne_eq] at hk ⊢
  omega

/-- **a key that is not a line motion is pushed back** and `(0, row)` returned: not one of
    `j + RET k - _ G H L M '`, not the operator letter (when there is one: with `cmd = 0` every such key is
    pushed back, the NUL key included), and `%` only without a count -/
theorem viMotionln_other (row cmd : Int) (s s1 : VS) (c : Int) (hrd : viRead s = Res.ok c s1)
    (hk : isLineKey c = false) (h39 : c ≠ 39) (hcmd : cmd ≠ 0 → c ≠ cmd) (h37 : c = 37 → hasCount s = false) :
    viMotionln row cmd s = Res.ok (0, row) { s1 with vibuf := c :: s1.vibuf } := by
  have a12 : ¬ (cmd != 0 && c == cmd) = true := by
    intro h
    simp only [Bool.and_eq_true, bne_iff_ne, ne_eq, beq_iff_eq] at h
    exact hcmd h.1 h.2
  have a13 : ¬ (c == 37 && hasCount s) = true := by
    intro h
    simp only [Bool.and_eq_true, beq_iff_eq] at h
    rw [h37 h.1] at h
    exact absurd h.2 (by decide)
  rw [viMotionln_rest row cmd s s1 c hrd (lineKeyBefore_of_not c hk h39), if_neg a12, if_neg a13]
  rfl

/-! ## 2. the reference for the line motions, and `motion_lands_ln` -/

/-- a row clamped into the buffer of `n` lines -/
def clampI (n r : Int) : Int := max 0 (min r (n - 1))

/-- `clampI` is the reference's `clampRow` (`Spec/Motion.lean`) on a non-empty buffer -/
theorem clampRow_eq (b : Motion.Buf) (r : Int) (hb : 0 < b.length) :
    (clampRow b r : Int) = clampI (b.length : Int) r := by
  unfold clampRow clampI
  split <;> omega

/-- in particular on the reference buffer of the model's lines -/
theorem clampRow_refBufU (s : VS) (r : Int) (hn : 0 < lenOf s) :
    (clampRow (Lemmas.C07c.refBufU (lines s)) r : Int) = clampI (lenOf s) r := by
  have hl : (Lemmas.C07c.refBufU (lines s)).length = (lines s).length := C07c.refBufU_length _
  have hpos : 0 < (Lemmas.C07c.refBufU (lines s)).length := by
    rw [hl]; unfold lenOf at hn; omega
  rw [clampRow_eq _ _ hpos, hl]; rfl

theorem clampI_range (n r : Int) (hn : 0 < n) : 0 ≤ clampI n r ∧ clampI n r < n := by
  unfold clampI; omega

theorem clampI_eq_min {n r : Int} (h : 0 ≤ min r (n - 1)) : min r (n - 1) = clampI n r := by
  unfold clampI; omega

theorem clampI_eq_max {n r : Int} (h : r < n) : max r 0 = clampI n r := by
  unfold clampI; omega

theorem ok_row {c x y : Int} {s : VS} (h : x = y) : (Res.ok (c, x) s : Res (Int × Int)) = Res.ok (c, y) s := by
  rw [h]

set_option linter.unusedVariables false in
/-- `H`: the `cnt`-th line of the window that starts at row `top` (`rows` is not used: the model does
    not stop at the bottom of the window) -/
def refH (top rows cnt n : Int) : Int := clampI n (top + cnt - 1)
/-- `L`: the `cnt`-th line from the bottom of the window of `rows` lines that starts at row `top` -/
def refL (top rows cnt n : Int) : Int := clampI n (top + rows - cnt)
/-- `M`: the middle line of the window -/
def refM (top rows n : Int) : Int := clampI n (top + rows / 2)

/-- when the window `[top, top + rows - 1]` lies inside the buffer and `cnt ≤ rows`, `H` lands on
    line `cnt` of the window ... -/
theorem refH_window (top rows cnt n : Int) (ht : 0 ≤ top) (hw : top + rows ≤ n) (hc1 : 1 ≤ cnt) (hc : cnt ≤ rows) :
    refH top rows cnt n = top + cnt - 1 ∧ top ≤ refH top rows cnt n ∧ refH top rows cnt n ≤ top + rows - 1 := by
  unfold refH clampI; omega

/-- ... `L` on line `cnt` from its bottom ... -/
theorem refL_window (top rows cnt n : Int) (ht : 0 ≤ top) (hw : top + rows ≤ n) (hc1 : 1 ≤ cnt) (hc : cnt ≤ rows) :
    refL top rows cnt n = top + rows - cnt ∧ top ≤ refL top rows cnt n ∧ refL top rows cnt n ≤ top + rows - 1 := by
  unfold refL clampI; omega

/-- ... and `M` on its middle line -/
theorem refM_window (top rows n : Int) (ht : 0 ≤ top) (hw : top + rows ≤ n) (hr : 1 ≤ rows) :
    refM top rows n = top + rows / 2 ∧ top ≤ refM top rows n ∧ refM top rows n ≤ top + rows - 1 := by
  unfold refM clampI; omega

/-- when the buffer ends inside the window (`top ≤ n - 1 < top + rows - 1`, a short buffer), the three
    still land inside the part of the window that shows lines, `[top, n - 1]` -/
theorem refHLM_short (top rows cnt n : Int) (ht : 0 ≤ top) (htn : top < n) (hc1 : 1 ≤ cnt) (hc : cnt ≤ rows) :
    (top ≤ refH top rows cnt n ∧ refH top rows cnt n ≤ n - 1) ∧
    (top ≤ refL top rows cnt n ∧ refL top rows cnt n ≤ n - 1) ∧
    (top ≤ refM top rows n ∧ refM top rows n ≤ n - 1) := by
  unfold refH refL refM clampI; omega

/-- **the reference for the line motions**: the row on which key `k` lands from `row`, in a buffer of
    `n` lines, with the window of `rows` lines starting at `top`.  `k` is one of `j + RET` (down),
    `k -` (up), `_` (and the doubled operator letter, which is looked up as `_`), `G`, `H`, `L`, `M`. -/
def refLine (k : Int) (cnt row n top rows : Int) (hasCount : Bool) : Int :=
  if k = 106 ∨ k = 43 ∨ k = 10 then clampI n (row + cnt)
  else if k = 107 ∨ k = 45 then clampI n (row - cnt)
  else if k = 95 then clampI n (row + cnt - 1)
  else if k = 71 then (if hasCount then clampI n (cnt - 1) else n - 1)
  else if k = 72 then refH top rows cnt n
  else if k = 76 then refL top rows cnt n
  else if k = 77 then refM top rows n
  else row

theorem ite_ind {α : Type} {P : α → Prop} {c : Prop} [Decidable c] {a b : α} (ha : P a) (hb : P b) :
    P (if c then a else b) :=
  Basics.ite_elim (fun _ => ha) fun _ => hb

/-- every value of `refLine` is a clamped row, the last row or the row given -/
theorem refLine_cases {P : Int → Prop} (k cnt row n top rows : Int) (hc : Bool)
    (hclamp : ∀ r, P (clampI n r)) (hlast : P (n - 1)) (hrow : P row) : P (refLine k cnt row n top rows hc) :=
  ite_ind (hclamp _) (ite_ind (hclamp _) (ite_ind (hclamp _) (ite_ind (ite_ind (hclamp _) hlast)
    (ite_ind (hclamp _) (ite_ind (hclamp _) (ite_ind (hclamp _) hrow))))))

/-- the reference row is a row of the buffer -/
theorem refLine_valid (k cnt row n top rows : Int) (hc : Bool) (hn : 0 < n) (h0 : 0 ≤ row) (h1 : row < n) :
    0 ≤ refLine k cnt row n top rows hc ∧ refLine k cnt row n top rows hc < n :=
  refLine_cases (P := fun r => 0 ≤ r ∧ r < n) k cnt row n top rows hc (fun r => clampI_range n r hn) (by omega) ⟨h0, h1⟩

theorem refLine_down {k : Int} (hk : k = 106 ∨ k = 43 ∨ k = 10) (cnt row n top rows : Int) (hc : Bool) :
    refLine k cnt row n top rows hc = clampI n (row + cnt) := if_pos hk

theorem refLine_up {k : Int} (hk : k = 107 ∨ k = 45) (cnt row n top rows : Int) (hc : Bool) :
    refLine k cnt row n top rows hc = clampI n (row - cnt) := by
  unfold refLine
  rw [if_neg (by omega), if_pos hk]

theorem refLine_under (cnt row n top rows : Int) (hc : Bool) :
    refLine 95 cnt row n top rows hc = clampI n (row + cnt - 1) := by
  unfold refLine
  rw [if_neg (by decide), if_neg (by decide), if_pos rfl]

theorem refLine_G (cnt row n top rows : Int) (hc : Bool) :
    refLine 71 cnt row n top rows hc = if hc then clampI n (cnt - 1) else n - 1 := by
  unfold refLine
  rw [if_neg (by decide), if_neg (by decide), if_neg (by decide), if_pos rfl]

theorem refLine_H (cnt row n top rows : Int) (hc : Bool) : refLine 72 cnt row n top rows hc = refH top rows cnt n := by
  unfold refLine
  rw [if_neg (by decide), if_neg (by decide), if_neg (by decide), if_neg (by decide), if_pos rfl]

theorem refLine_L (cnt row n top rows : Int) (hc : Bool) : refLine 76 cnt row n top rows hc = refL top rows cnt n := by
  unfold refLine
  rw [if_neg (by decide), if_neg (by decide), if_neg (by decide), if_neg (by decide), if_neg (by decide), if_pos rfl]

theorem refLine_M (cnt row n top rows : Int) (hc : Bool) : refLine 77 cnt row n top rows hc = refM top rows n := by
  unfold refLine
  rw [if_neg (by decide), if_neg (by decide), if_neg (by decide), if_neg (by decide), if_neg (by decide),
    if_neg (by decide), if_pos rfl]

/-- the reference in the vocabulary of `Spec/Motion.lean`: `j + RET` is `clampRow (row + cnt)`,
    `k -` is `clampRow (row - cnt)`, `_` is `clampRow (row + cnt - 1)`, `NG` is `clampRow (N - 1)` -/
theorem refLine_clampRow (b : Motion.Buf) (hb : 0 < b.length) (cnt row top rows : Int) (hc : Bool) :
    (∀ k, k = 106 ∨ k = 43 ∨ k = 10 → refLine k cnt row b.length top rows hc = clampRow b (row + cnt)) ∧
    (∀ k, k = 107 ∨ k = 45 → refLine k cnt row b.length top rows hc = clampRow b (row - cnt)) ∧
    refLine 95 cnt row b.length top rows hc = clampRow b (row + cnt - 1) ∧
    refLine 71 cnt row b.length top rows true = clampRow b (cnt - 1) ∧
    refLine 71 cnt row b.length top rows false = (b.length : Int) - 1 := by
  refine ⟨?_, ?_, ?_, ?_, ?_⟩
  · intro k hk; rw [refLine_down hk, clampRow_eq b _ hb]
  · intro k hk; rw [refLine_up hk, clampRow_eq b _ hb]
  · rw [refLine_under, clampRow_eq b _ hb]
  · rw [refLine_G, clampRow_eq b _ hb]; rfl
  · rw [refLine_G]; rfl

/-- the key to look up in `refLine`: a line key is itself, the doubled operator letter is `_` -/
def refKey (c : Int) : Int := if isLineKey c then c else 95

/-- **`motion_lands_ln`**: for each of the line-motion keys `j + RET k - _ G H L M` and for the
    doubled operator letter, `vi_motionln` returns the key as the motion and lands on the row the
    reference `refLine` defines from the row it was given, the count `vi_cnt()`, the number of lines and
    the window; the key is consumed (the final state is the one `vi_read` left, see `viRead_frame`) and
    nothing else changes.  The motion never fails (these keys have no failing case in the reference:
    they stop at the first / last line). -/
theorem motion_lands_ln (row cmd : Int) (s s1 : VS) (c : Int) (hrd : viRead s = Res.ok c s1)
    (hk : isLineKey c = true ∨ (c = cmd ∧ c ≠ 39 ∧ c ≠ 0))
    (h0 : 0 ≤ row) (h1 : row < lenOf s) (hcnt : 1 ≤ cntOf s) :
    viMotionln row cmd s =
      Res.ok (c, refLine (refKey c) (cntOf s) row (lenOf s) s.ed.xtop s.xrows (hasCount s)) s1 := by
  have hn : 0 < lenOf s := by omega
  by_cases hlk : isLineKey c = true
  · rw [show refKey c = c from if_pos hlk]
    rcases (isLineKey_iff c).1 hlk with hd | hu | rfl | rfl | rfl | rfl | rfl
    · rw [refLine_down hd, ← clampI_eq_min (by omega)]
      exact viMotionln_down row cmd s s1 c hrd hd h0 h1 hcnt
    · rw [refLine_up hu, ← clampI_eq_max (by omega)]
      exact viMotionln_up row cmd s s1 c hrd hu
    · rw [refLine_under, ← clampI_eq_min (by omega)]
      exact viMotionln_under row cmd s s1 hrd h0 h1 hcnt
    · rw [refLine_G, viMotionln_G row cmd s s1 hrd hn hcnt, ← clampI_eq_min (by omega)]
    · rw [refLine_H]; exact viMotionln_H row cmd s s1 hrd
    · rw [refLine_L]; exact viMotionln_L row cmd s s1 hrd
    · rw [refLine_M]; exact viMotionln_M row cmd s s1 hrd
  · have hlk' : isLineKey c = false := by simpa using hlk
    rcases hk with hk | ⟨rfl, h39, hc0⟩
    · exact absurd hk hlk
    · rw [show refKey c = 95 by unfold refKey; rw [if_neg hlk]]
      exact (viMotionln_doubled row c s s1 hrd hc0 (lineKeyBefore_of_not c hlk' h39) h0 h1 hcnt).trans
        (ok_row (clampI_eq_min (by omega)))

/-- **`viMotionln_row_valid`**: whatever the key (the mark motion `'` aside, whose row is the stored
    row of the mark), the row returned lies in the buffer, provided the row given does -/
theorem viMotionln_row_valid (row cmd : Int) (s s' : VS) (mv r : Int)
    (h : viMotionln row cmd s = Res.ok (mv, r) s') (hmv : mv ≠ 39)
    (h0 : 0 ≤ row) (h1 : row < lenOf s) (hcnt : 1 ≤ cntOf s) :
    0 ≤ r ∧ r < lenOf s := by
  have hn : 0 < lenOf s := by omega
  obtain ⟨c, s1, hrd, hk⟩ := bind_inv viRead _ _ _ _ h
  by_cases hl : isLineKey c = true ∨ (c = cmd ∧ c ≠ 39 ∧ c ≠ 0)
  · rw [motion_lands_ln row cmd s s1 c hrd hl h0 h1 hcnt] at h
    rw [← (ok_pair h).2]
    exact refLine_valid _ _ _ _ _ _ _ hn h0 h1
  have hik : isLineKey c = false := by
    cases hh : isLineKey c with
    | false => rfl
    | true => exact absurd (Or.inl hh) hl
  by_cases c8 : c = 39
  · subst c8
    obtain ⟨m, s2, hrd2, -⟩ := bind_inv viRead _ _ _ _ hk
    rw [viMotionln_mark row cmd s s1 s2 m hrd hrd2] at h
    split at h
    · have := (ok_pair h).2; omega
    · split at h
      · have := (ok_pair h).2; omega
      · exact absurd (ok_pair h).1.symm hmv
  by_cases c10 : c = 37 ∧ hasCount s = true
  · obtain ⟨c10, hc⟩ := c10
    subst c10
    rw [viMotionln_percent row cmd s s1 hrd (fun e => hl (Or.inr ⟨e.symm, by decide, by decide⟩)) hc hn hcnt] at h
    split at h
    · have := (ok_pair h).2; omega
    · have h := (ok_pair h).2
      have hx : 0 ≤ (lenOf s - 1) * cntOf s := Int.mul_nonneg (by omega) (by omega)
      have hy : (lenOf s - 1) * cntOf s ≤ (lenOf s - 1) * 100 :=
        Int.mul_le_mul_of_nonneg_left (by omega) (by omega)
      generalize (lenOf s - 1) * cntOf s = X at *
      omega
  · rw [viMotionln_other row cmd s s1 c hrd hik c8 (fun e0 e => hl (Or.inr ⟨e, c8, by omega⟩)) (fun e => by
      cases hh : hasCount s with
      | false => rfl
      | true => exact absurd ⟨e, hh⟩ c10)] at h
    have := (ok_pair h).2; omega

/-- `motion_lands_ln` for a key typed at the terminal: with nothing pushed back and `k :: rest`
    pending, the motion is `k`, the row is the reference's, `rest` is pending afterwards, and the final
    state is `s` with `k` moved from the queue to `icmd` -/
theorem motion_lands_ln_pending (row cmd : Int) (s : VS) (k : Nat) (rest : Bytes)
    (hv : s.vibuf = []) (hp : pending s = k :: rest)
    (hk : isLineKey (k : Int) = true ∨ ((k : Int) = cmd ∧ k ≠ 39 ∧ k ≠ 0))
    (h0 : 0 ≤ row) (h1 : row < lenOf s) (hcnt : 1 ≤ cntOf s) :
    ∃ s1, viMotionln row cmd s =
        Res.ok ((k : Int), refLine (refKey k) (cntOf s) row (lenOf s) s.ed.xtop s.xrows (hasCount s)) s1 ∧
      pending s1 = rest ∧ s1.vibuf = [] ∧
      ∃ ib ip ty, s1 = { s with ibuf := ib, ibufPos := ip, typed := ty, icmd := icmdAfter s.icmd k } := by
  obtain ⟨s1, h1', h2, h3, h4⟩ := viRead_pending s k rest hv hp
  refine ⟨s1, motion_lands_ln row cmd s s1 k h1' ?_ h0 h1 hcnt, h2, h3, h4⟩
  rcases hk with hk | ⟨hk, h39, hk0⟩
  · exact Or.inl hk
  · exact Or.inr ⟨hk, by omega, by omega⟩

/-- a key that is not a line motion, typed at the terminal: it is pushed back (so it is the next key
    again), `(0, row)` is returned, and `rest` is still what follows it -/
theorem viMotionln_other_pending (row cmd : Int) (s : VS) (k : Nat) (rest : Bytes)
    (hv : s.vibuf = []) (hp : pending s = k :: rest)
    (hk : isLineKey (k : Int) = false) (h39 : k ≠ 39) (hcmd : cmd ≠ 0 → (k : Int) ≠ cmd)
    (h37 : k = 37 → hasCount s = false) :
    ∃ s1, viMotionln row cmd s = Res.ok (0, row) s1 ∧ s1.vibuf = [(k : Int)] ∧ pending s1 = rest ∧
      viRead s1 = Res.ok (k : Int) { s1 with vibuf := [] } ∧
      ∃ ib ip ty, s1 = { s with vibuf := [(k : Int)], ibuf := ib, ibufPos := ip, typed := ty,
                                icmd := icmdAfter s.icmd k } := by
  obtain ⟨s1, h1', h2, h3, ib, ip, ty, h4⟩ := viRead_pending s k rest hv hp
  refine ⟨_, viMotionln_other row cmd s s1 k h1' hk (by omega) hcmd (fun e => h37 (by omega)), ?_, ?_, ?_, ?_⟩
  · simp only [h3]
  · exact h2
  · rw [Lemmas.C08f.viRead_vibuf _ (k : Int) [] (by simp only [h3])]
  · refine ⟨ib, ip, ty, ?_⟩
    subst h4
    simp only [hv]

/-! ## 3. the character motions that do not use a word / character / bracket scanner

`vi_motion` first calls `vi_motionln(row, 0)`, which pushes a key that is not a line motion back, and
reads it again: the state in which the key is dispatched is the `s1` that `vi_read` left. -/

theorem KeyFrame.nextcol {s s' : VS} (h : KeyFrame s s') : nextcol s' = nextcol s := by
  obtain ⟨vb, ib, ip, ty, ic, rfl⟩ := h; rfl

theorem KeyFrame.col2off {s s' : VS} (h : KeyFrame s s') : col2off s' = col2off s := by
  obtain ⟨vb, ib, ip, ty, ic, rfl⟩ := h; rfl

/-- a character-motion key goes through `vi_motionln(row, 0)` unchanged: it is pushed back -/
theorem viMotionln_char_key (row : Int) (s s1 : VS) (mv : Int) (hrd : viRead s = Res.ok mv s1)
    (hk : isLineKey mv = false) (h39 : mv ≠ 39) (h0 : mv ≠ 0) (h37 : mv ≠ 37) :
    viMotionln row 0 s = Res.ok (0, row) { s1 with vibuf := mv :: s1.vibuf } :=
  viMotionln_other row 0 s s1 mv hrd hk h39 (fun _ => h0) (fun h => absurd h h37)

/-- `0` (48): to offset 0; the offset given does not matter -/
theorem viMotion_zero (row off : Int) (s s1 : VS) (hrd : viRead s = Res.ok 48 s1) :
    viMotion row off s = Res.ok (48, row, 0) s1 :=
  Lemmas.C08f.viMotion_zero row off s s1 hrd

/-- **`$`** on a valid UTF-8 line `body ++ "\n"`: `vi_motion` returns the offset of the newline,
    `body.length` (`C07c.eol_utf8`); the cursor the command loop then rests on (`ren_noeol`) is the
    reference's last column `lastCol body` -/
theorem viMotion_dollar (row off : Int) (s s1 : VS) (body : List Nat) (hrd : viRead s = Res.ok 36 s1)
    (hline : lineAt (lines s) row = some (encStr (body ++ [10]))) (hb : ∀ c ∈ body, ValidCp c) :
    viMotion row off s = Res.ok (36, row, (body.length : Int)) s1 ∧
      Ren.renNoeol (encStr (body ++ [10])) (body.length : Int) = lastCol body := by
  obtain ⟨e1, e2⟩ := C07c.eol_utf8 (lines s) row body hline hb
  rw [Lemmas.C08f.viMotion_dollar row off s s1 hrd, (viRead_frame s s1 _ hrd).lines, e1]
  rw [e1] at e2
  exact ⟨rfl, e2⟩

/-- `^` (94): to `lbuf_indents` of the row -/
theorem viMotion_caret_indents (row off : Int) (s s1 : VS) (hrd : viRead s = Res.ok 94 s1) :
    viMotion row off s = Res.ok (94, row, indents (lines s) row) s1 := by
  rw [← (viRead_frame s s1 _ hrd).lines]
  exact (Lemmas.C08f.viMotion_key row s s1 94 hrd rfl _ _ rfl).trans rfl

/-- **`^`** on a UTF-8 line with a non-blank character `x` after the leading blanks `pre`: the offset
    of `x`, which is the reference's `firstNonBlank` (`C07c.indents_firstNonBlank_utf8`) -/
theorem viMotion_caret (row off : Int) (s s1 : VS) (pre rest : List Nat) (x : Nat)
    (hrd : viRead s = Res.ok 94 s1)
    (hline : lineAt (lines s) row = some (encStr (pre ++ x :: rest ++ [10])))
    (hpre : ∀ b ∈ pre, isBlank b = true) (hx : ValidCp x) (hxs : cls x ≠ 0) :
    viMotion row off s = Res.ok (94, row, ((firstNonBlank (pre ++ x :: rest) : Nat) : Int)) s1 ∧
      firstNonBlank (pre ++ x :: rest) = pre.length := by
  obtain ⟨e1, e2⟩ := C07c.indents_firstNonBlank_utf8 (lines s) row pre rest x hline hpre hx hxs
  rw [viMotion_caret_indents row off s s1 hrd, e1, e2]
  exact ⟨rfl, rfl⟩

/-- `^` on a line `w ++ "\n"` of blanks only: `vi_motion` returns the offset of the newline, `w.length`
    (`C07.indents_blank_line`), and the cursor then rests (`ren_noeol`) on the last blank, `lastCol w`:
    the value of the reference function `firstNonBlank` on a line of blanks ("its last column"), and what
    vi does. -/
theorem viMotion_caret_blank (row off : Int) (s s1 : VS) (w : Bytes) (hrd : viRead s = Res.ok 94 s1)
    (hline : lineAt (lines s) row = some (w ++ [10])) (hw : ∀ b ∈ w, isBlank b = true) :
    viMotion row off s = Res.ok (94, row, (w.length : Int)) s1 ∧
      Ren.renNoeol (w ++ [10]) (w.length : Int) = lastCol w := by
  have e1 := C07.indents_blank_line (lines s) row w hline hw
  rw [viMotion_caret_indents row off s s1 hrd, e1]
  refine ⟨rfl, ?_⟩
  have hv : ∀ c ∈ w, ValidCp c := fun c hc => by
    have := Lemmas.C07c.isBlank_ascii (hw c hc)
    unfold ValidCp; omega
  have henc : encStr (w ++ [10]) = w ++ [10] :=
    Lemmas.C07c.encStr_line_ascii (fun b hb => (Lemmas.C07c.isBlank_ascii (hw b hb)).2)
  have hline' : lineAt (lines s) row = some (encStr (w ++ [10])) := by rw [henc]; exact hline
  obtain ⟨a1, a2⟩ := C07c.eol_utf8 (lines s) row w hline' hv
  rw [a1, henc] at a2
  exact a2

/-! ### `l` and `h`: through `vi_nextcol` and the position table -/

/-- `l` (108) and `h` (104) repeat `vi_nextcol` `cnt` times, `l` in the direction of the line's
    context (`dir_context`), `h` against it, and stop at the first failure; they never fail -/
theorem viMotion_hl_eq (row off : Int) (s s1 : VS) (mv : Int) (hmv : mv = 104 ∨ mv = 108)
    (hrd : viRead s = Res.ok mv s1) :
    viMotion row off s =
      Res.ok (mv, repeatMove (fun r o => (nextcol s
          (if mv = 104 then -(if dirCtx s ((lineOf s row).getD []) ≥ 0 then 1 else -1)
           else (if dirCtx s ((lineOf s row).getD []) ≥ 0 then 1 else -1)) r o).map (fun o' => (r, o')))
        (cntOf s).toNat row off) s1 := by
  rw [← (viRead_frame s s1 _ hrd).nextcol]
  rcases hmv with rfl | rfl
  · exact (Lemmas.C08f.viMotion_key row s s1 104 hrd rfl _ _ rfl).trans rfl
  · exact (Lemmas.C08f.viMotion_key row s s1 108 hrd rfl _ _ rfl).trans rfl

/-- `cnt` steps of `vi_nextcol` to the right on a line laid out left to right: stopping at the last character -/
theorem repeatMove_nextcol_right (s : VS) (row : Int) (body : List Nat)
    (hl : lineOf s row = some (encStr (body ++ [10]))) (hb : ∀ c ∈ body, ValidCp c) (hb10 : 10 ∉ body)
    (hinc : StrictInc (posTab s (encStr (body ++ [10]))) (body.length + 1)) (dir : Int) (hdir : dir ≥ 0)
    (k off : Nat) (hoff : off ≤ lastCol body) :
    repeatMove (fun r o => (nextcol s dir r o).map (fun o' => (r, o'))) k row off =
      (row, ((min (off + k) (lastCol body) : Nat) : Int)) :=
  repeatMove_fwd _ row (lastCol body) (fun o ho => by
    unfold lastCol at ho ⊢
    rw [nextcol_right s row body hl hb hb10 hinc dir hdir o (by omega)]
    by_cases h : o + 1 < body.length
    · rw [if_pos h, if_pos (by omega)]; rfl
    · rw [if_neg h, if_neg (by omega)]; rfl) k off hoff

/-- ... and to the left: stopping at the first -/
theorem repeatMove_nextcol_left (s : VS) (row : Int) (body : List Nat)
    (hl : lineOf s row = some (encStr (body ++ [10]))) (hb : ∀ c ∈ body, ValidCp c) (hb10 : 10 ∉ body)
    (hinc : StrictInc (posTab s (encStr (body ++ [10]))) (body.length + 1)) (dir : Int) (hdir : dir < 0)
    (k off : Nat) (hoff : off ≤ body.length) :
    repeatMove (fun r o => (nextcol s dir r o).map (fun o' => (r, o'))) k row off =
      (row, ((off - k : Nat) : Int)) :=
  repeatMove_bwd _ row body.length (fun o ho => by
    rw [nextcol_left s row body hl hb hb10 hinc dir hdir o ho]
    by_cases h : 0 < o
    · rw [if_pos h, if_pos h]; rfl
    · rw [if_neg h, if_neg h]; rfl) k off hoff

/-- **`l`** with a count on a valid UTF-8 line laid out left to right (the position table is
    increasing: no reordering — `posTab_inc` gives this for every line without multi-byte characters
    and every line of more than 256 characters) in a left-to-right context: from the character `off`
    it moves `min cnt (lastCol body - off)` characters right, i.e. to `min (off + cnt) (lastCol body)`.
    It stops at the last character and **never fails** (the model returns `mv = 108` and the same
    position when the cursor is on the last character already; vi's `l` fails there). -/
theorem viMotion_l (row : Int) (off : Nat) (s s1 : VS) (body : List Nat) (hrd : viRead s = Res.ok 108 s1)
    (hline : lineAt (lines s) row = some (encStr (body ++ [10])))
    (hb : ∀ c ∈ body, ValidCp c) (hb10 : 10 ∉ body)
    (hinc : StrictInc (posTab s (encStr (body ++ [10]))) (body.length + 1))
    (hctx : 0 ≤ dirCtx s (encStr (body ++ [10]))) (hoff : off ≤ lastCol body) :
    viMotion row off s = Res.ok (108, row, ((min (off + (cntOf s).toNat) (lastCol body) : Nat) : Int)) s1 ∧
      min (off + (cntOf s).toNat) (lastCol body) = off + min (cntOf s).toNat (lastCol body - off) := by
  refine ⟨?_, by omega⟩
  have hl : lineOf s row = some (encStr (body ++ [10])) := hline
  rw [viMotion_hl_eq row off s s1 108 (Or.inr rfl) hrd, hl]
  simp only [Option.getD_some, ge_iff_le, hctx, if_true, show ¬ ((108 : Int) = 104) by decide, if_false]
  rw [repeatMove_nextcol_right s row body hl hb hb10 hinc 1 (by omega) _ off hoff]

/-- **`h`** with a count, same hypotheses: from the character `off` (or from the newline's offset) it
    moves `min cnt off` characters left; it stops at the first character and never fails -/
theorem viMotion_h (row : Int) (off : Nat) (s s1 : VS) (body : List Nat) (hrd : viRead s = Res.ok 104 s1)
    (hline : lineAt (lines s) row = some (encStr (body ++ [10])))
    (hb : ∀ c ∈ body, ValidCp c) (hb10 : 10 ∉ body)
    (hinc : StrictInc (posTab s (encStr (body ++ [10]))) (body.length + 1))
    (hctx : 0 ≤ dirCtx s (encStr (body ++ [10]))) (hoff : off ≤ body.length) :
    viMotion row off s = Res.ok (104, row, ((off - (cntOf s).toNat : Nat) : Int)) s1 ∧
      off - (cntOf s).toNat = off - min (cntOf s).toNat off := by
  refine ⟨?_, by omega⟩
  have hl : lineOf s row = some (encStr (body ++ [10])) := hline
  rw [viMotion_hl_eq row off s s1 104 (Or.inl rfl) hrd, hl]
  simp only [Option.getD_some, ge_iff_le, hctx, if_true]
  rw [repeatMove_nextcol_left s row body hl hb hb10 hinc (-1) (by omega) _ off hoff]

/-- in a right-to-left context (`dir_context < 0`) with the same left-to-right table, `l` and `h`
    swap: `l` moves towards offset 0 -/
theorem viMotion_l_rtl_context (row : Int) (off : Nat) (s s1 : VS) (body : List Nat)
    (hrd : viRead s = Res.ok 108 s1)
    (hline : lineAt (lines s) row = some (encStr (body ++ [10])))
    (hb : ∀ c ∈ body, ValidCp c) (hb10 : 10 ∉ body)
    (hinc : StrictInc (posTab s (encStr (body ++ [10]))) (body.length + 1))
    (hctx : dirCtx s (encStr (body ++ [10])) < 0) (hoff : off ≤ body.length) :
    viMotion row off s = Res.ok (108, row, ((off - (cntOf s).toNat : Nat) : Int)) s1 := by
  have hl : lineOf s row = some (encStr (body ++ [10])) := hline
  rw [viMotion_hl_eq row off s s1 108 (Or.inr rfl) hrd, hl]
  simp only [Option.getD_some, ge_iff_le, show ¬ (0 ≤ dirCtx s (encStr (body ++ [10]))) by omega, if_false,
    show ¬ ((108 : Int) = 104) by decide]
  rw [repeatMove_nextcol_left s row body hl hb hb10 hinc (-1) (by omega) _ off hoff]

/-- the hypotheses of `viMotion_l` / `viMotion_h` hold on every ASCII line when `td` is 0 (the
    default) or `≥ 2` -/
theorem ascii_line_ltr (s : VS) (body : List Nat) (hb : ∀ c ∈ body, 0 < c ∧ c < 128)
    (htd : s.ed.xtd = 0 ∨ s.ed.xtd ≥ 2) :
    StrictInc (posTab s (encStr (body ++ [10]))) (body.length + 1) ∧
      0 ≤ dirCtx s (encStr (body ++ [10])) := by
  have hv : ∀ c ∈ body, ValidCp c := fun c hc => by have := hb c hc; unfold ValidCp; omega
  have hlen := ascii_line_length body (fun c hc => (hb c hc).2)
  constructor
  · have := posTab_inc s (body ++ [10]) (Uc.valid_line hv) (Or.inl hlen)
    simpa using this
  · unfold dirCtx
    apply C19c.dirContext_nonneg
    rcases htd with h | h
    · right
      refine ⟨h, ?_⟩
      rw [Lemmas.C07c.encStr_line_ascii (fun b hb' => (hb b hb').2)]
      cases body with
      | nil => decide
      | cons c t => simp only [List.cons_append, Bytes.hd_cons]; exact (hb c (by simp)).2
    · left; exact h

/-! ### `l` / `h` on any valid UTF-8 line (reordered or not), one step

With the table `ren_position` computes for the line — whatever it is: for lines with multi-byte
characters `dir_reorder` runs — a single `l` in a left-to-right context goes to the character displayed
immediately to the right, a single `h` to the one displayed immediately to the left (`IsLeast` /
`IsGreatest` / `NoCol` of `Lemmas/C17bSpec.lean`).  With a count the step is repeated from the new
character; the closed form `min (off + cnt) lastCol` is proved above for increasing tables only. -/

theorem repeatMove_one (step : Int → Int → Option (Int × Int)) (r o : Int) :
    repeatMove step 1 r o = (step r o).getD (r, o) := by
  unfold repeatMove repeatMove
  cases step r o <;> rfl

open Neatvi.Lemmas.C17b (IsLeast IsGreatest NoCol) in
/-- a single `l` (count 1) from character `i` in a left-to-right context: to the character `j`
    displayed immediately to its right; it stays (and does not fail) when `j` is the newline or when
    nothing is displayed to the right -/
theorem viMotion_l_visual (row : Int) (i : Nat) (s s1 : VS) (body : List Nat) (hrd : viRead s = Res.ok 108 s1)
    (hline : lineAt (lines s) row = some (encStr (body ++ [10])))
    (hb : ∀ c ∈ body, ValidCp c) (hb10 : 10 ∉ body)
    (hctx : 0 ≤ dirCtx s (encStr (body ++ [10]))) (hcnt : cntOf s = 1) (hi : i ≤ body.length) :
    (∀ j, IsLeast (posTab s (encStr (body ++ [10]))) (body.length + 1)
        (fun x => (posTab s (encStr (body ++ [10]))).getD i 0 < x) j →
      viMotion row i s = Res.ok (108, row, if j = body.length then (i : Int) else (j : Int)) s1) ∧
    (NoCol (posTab s (encStr (body ++ [10]))) (body.length + 1)
        (fun x => (posTab s (encStr (body ++ [10]))).getD i 0 < x) →
      viMotion row i s = Res.ok (108, row, (i : Int)) s1) := by
  have hl : lineOf s row = some (encStr (body ++ [10])) := hline
  have hred := viMotion_hl_eq row i s s1 108 (Or.inr rfl) hrd
  rw [hl, hcnt] at hred
  simp only [Option.getD_some, ge_iff_le, hctx, if_true, show ¬ ((108 : Int) = 104) by decide, if_false, Int.reduceToNat] at hred
  constructor
  · intro j hj
    rw [hred, repeatMove_one, nextcol_visual_right s row body hl hb hb10 1 (by omega) i j hi hj]
    by_cases he : j = body.length
    · rw [if_pos he, if_pos he]; rfl
    · rw [if_neg he, if_neg he]; rfl
  · intro hno
    rw [hred, repeatMove_one, nextcol_visual_right_none s row body hl hb 1 (by omega) i hi hno]
    rfl

open Neatvi.Lemmas.C17b (IsLeast IsGreatest NoCol) in
/-- a single `h` from character `i` in a left-to-right context: to the character displayed immediately
    to its left; it stays when there is none (or when that is the newline) -/
theorem viMotion_h_visual (row : Int) (i : Nat) (s s1 : VS) (body : List Nat) (hrd : viRead s = Res.ok 104 s1)
    (hline : lineAt (lines s) row = some (encStr (body ++ [10])))
    (hb : ∀ c ∈ body, ValidCp c) (hb10 : 10 ∉ body)
    (hctx : 0 ≤ dirCtx s (encStr (body ++ [10]))) (hcnt : cntOf s = 1) (hi : i ≤ body.length) :
    (∀ j, IsGreatest (posTab s (encStr (body ++ [10]))) (body.length + 1)
        (fun x => x < (posTab s (encStr (body ++ [10]))).getD i 0) j →
      viMotion row i s = Res.ok (104, row, if j = body.length then (i : Int) else (j : Int)) s1) ∧
    (NoCol (posTab s (encStr (body ++ [10]))) (body.length + 1)
        (fun x => x < (posTab s (encStr (body ++ [10]))).getD i 0) →
      viMotion row i s = Res.ok (104, row, (i : Int)) s1) := by
  have hl : lineOf s row = some (encStr (body ++ [10])) := hline
  have hred := viMotion_hl_eq row i s s1 104 (Or.inl rfl) hrd
  rw [hl, hcnt] at hred
  simp only [Option.getD_some, ge_iff_le, hctx, if_true, Int.reduceToNat] at hred
  constructor
  · intro j hj
    rw [hred, repeatMove_one, nextcol_visual_left s row body hl hb hb10 (-1) (by omega) i j hi hj]
    by_cases he : j = body.length
    · rw [if_pos he, if_pos he]; rfl
    · rw [if_neg he, if_neg he]; rfl
  · intro hno
    rw [hred, repeatMove_one, nextcol_visual_left_none s row body hl hb (-1) (by omega) i hi hno]
    rfl

/-! ### SPC and BS / DEL: by offsets, not through the position table -/

theorem slenAt_line (ls : Lines) (r : Int) (body : List Nat) (hline : lineAt ls r = some (encStr (body ++ [10])))
    (hb : ∀ c ∈ body, ValidCp c) : slenAt ls r = ((body.length + 1 : Nat) : Int) := by
  unfold slenAt; rw [hline]; simp only [line_slen hb]

/-- BS (8) and DEL (127) repeat "one offset left, unless that is before the line" `cnt` times -/
theorem viMotion_backspace_eq (row off : Int) (s s1 : VS) (mv : Int) (hmv : mv = 8 ∨ mv = 127)
    (hrd : viRead s = Res.ok mv s1) :
    viMotion row off s = Res.ok (mv, repeatMove (fun r o =>
        if o - 1 < 0 || (lineAt (lines s) r).isNone || o - 1 ≥ slenAt (lines s) r then none else some (r, o - 1))
      (cntOf s).toNat row off) s1 := by
  rw [← (viRead_frame s s1 _ hrd).lines]
  rcases hmv with rfl | rfl
  · exact Lemmas.C08f.viMotion_bs row off s s1 hrd
  · exact (Lemmas.C08f.viMotion_key row s s1 127 hrd rfl _ _ rfl).trans rfl

/-- **SPC** (32) with a count on a valid UTF-8 line: `cnt` offsets right, whatever the layout of the
    line.  Unlike `l` it steps onto the newline's offset `body.length` (from which the command loop's
    `ren_noeol` brings the cursor back to the last character): it lands on `min (off + cnt) body.length`,
    and never fails. -/
theorem viMotion_space (row : Int) (off : Nat) (s s1 : VS) (body : List Nat) (hrd : viRead s = Res.ok 32 s1)
    (hline : lineAt (lines s) row = some (encStr (body ++ [10]))) (hb : ∀ c ∈ body, ValidCp c)
    (hoff : off ≤ body.length) :
    viMotion row off s = Res.ok (32, row, ((min (off + (cntOf s).toNat) body.length : Nat) : Int)) s1 := by
  have hsl := slenAt_line (lines s) row body hline hb
  rw [Lemmas.C08f.viMotion_spc row off s s1 hrd, (viRead_frame s s1 _ hrd).lines, repeatMove_fwd _ row body.length (fun o ho => by
    unfold Lemmas.C08f.stepSpc
    simp only [hline, hsl]
    by_cases h : o < body.length
    · rw [if_pos h, if_neg (by simp; omega)]; rfl
    · rw [if_neg h, if_pos (by simp; omega)]) _ off hoff]

/-- **BS** (8) and **DEL** (127) with a count: `min cnt off` offsets left, stopping at offset 0, never
    failing -/
theorem viMotion_backspace (row : Int) (off : Nat) (s s1 : VS) (body : List Nat) (mv : Int)
    (hmv : mv = 8 ∨ mv = 127) (hrd : viRead s = Res.ok mv s1)
    (hline : lineAt (lines s) row = some (encStr (body ++ [10]))) (hb : ∀ c ∈ body, ValidCp c)
    (hoff : off ≤ body.length) :
    viMotion row off s = Res.ok (mv, row, ((off - (cntOf s).toNat : Nat) : Int)) s1 := by
  have hsl := slenAt_line (lines s) row body hline hb
  rw [viMotion_backspace_eq row off s s1 mv hmv hrd, repeatMove_bwd _ row body.length (fun o ho => by
    simp only [hline, hsl]
    by_cases h : 0 < o
    · rw [if_pos h, if_neg (by simp; omega)]
      congr 2; omega
    · rw [if_neg h, if_pos (by simp; omega)]) _ off hoff]

/-- `|` (124) with count `cnt`: `vi_col2off(row, cnt - 1)` — the character at or before screen column
    `cnt - 1` in the position table of the row (`C17b.renOffT_spec`) —, and `vi_pcol` is set to
    `cnt - 1`: this is the one motion here that changes something besides the key queue. -/
theorem viMotion_bar_eq (row off : Int) (s s1 : VS) (hrd : viRead s = Res.ok 124 s1) :
    viMotion row off s =
      Res.ok (124, row, col2off s row (cntOf s - 1)) { s1 with pcol := cntOf s - 1 } := by
  rw [← (viRead_frame s s1 _ hrd).col2off]
  exact (Lemmas.C08f.viMotion_key row s s1 124 hrd rfl _ _ rfl).trans rfl

/-- a body of printable ASCII (no tabs, no control characters): every character is one cell wide -/
def Printable (body : List Nat) : Prop := ∀ b ∈ body, 32 ≤ b ∧ b ≤ 126

theorem printable_line (body : List Nat) (hp : Printable body) :
    encStr (body ++ [10]) = body ++ [10] ∧ Lemmas.C19c.LineBytes (body ++ [10]) ∧
      (∀ c ∈ body, ValidCp c) ∧ 10 ∉ body := by
  refine ⟨?_, Lemmas.C19c.lineBytes_of_printable body hp, ?_, ?_⟩
  · exact Lemmas.C07c.encStr_line_ascii (fun b hb => by have := hp b hb; omega)
  · intro c hc; have := hp c hc; unfold ValidCp; omega
  · intro h; have := hp 10 h; omega

/-- **`|`** with a count on a line of printable ASCII without tabs: `vi_motion` returns column
    `cnt - 1` as the offset, but at most the offset `body.length` of the newline; the cursor then rests
    (`ren_noeol`) on `min (cnt - 1) (lastCol body)`: column `cnt - 1` clamped to the last character.
    (On a line with tabs or wide characters the offset is that of the character whose cell range
    contains the column, see `viMotion_bar_eq`.) -/
theorem viMotion_bar (row off : Int) (s s1 : VS) (body : List Nat) (hrd : viRead s = Res.ok 124 s1)
    (hline : lineAt (lines s) row = some (encStr (body ++ [10]))) (hp : Printable body)
    (hcnt : 1 ≤ cntOf s) :
    viMotion row off s =
      Res.ok (124, row, ((min (cntOf s - 1).toNat body.length : Nat) : Int)) { s1 with pcol := cntOf s - 1 } ∧
    Ren.renNoeol (encStr (body ++ [10])) ((min (cntOf s - 1).toNat body.length : Nat) : Int) =
      ((min (cntOf s - 1).toNat (lastCol body) : Nat) : Int) := by
  obtain ⟨henc, hlb, hv, h10⟩ := printable_line body hp
  have hl : lineOf s row = some (encStr (body ++ [10])) := hline
  constructor
  · rw [viMotion_bar_eq row off s s1 hrd]
    unfold col2off
    rw [hl]
    simp only [line_slen hv]
    have hlen := ascii_line_length body (fun c hc => by have := hp c hc; omega)
    rw [posTab_fast s _ (Or.inl (by rw [line_slen hv, ← hlen]; simp))]
    rw [henc, Lemmas.C19c.fast_line _ hlb]
    have hk : cntOf s - 1 = (((cntOf s - 1).toNat : Nat) : Int) := by omega
    have hlen' : (body ++ [10]).length = body.length + 1 := by simp
    rw [hlen']
    conv => lhs; rw [hk]
    rw [renOffT_range (body.length + 1) (by omega) (cntOf s - 1).toNat]
    simp
    omega
  · by_cases hk : (cntOf s - 1).toNat < body.length
    · rw [Nat.min_eq_left (by omega), Lemmas.C08b.renNoeol_body body hv h10 _ hk]
      unfold lastCol
      congr 1; omega
    · rw [Nat.min_eq_right (by omega)]
      have := (C07c.eol_utf8 (lines s) row body hline hv)
      rw [this.1] at this
      rw [this.2]
      unfold lastCol
      congr 1; omega

/-! ## 4. examples: the states `exSt keys row off` of `Props/C08b.lean`

The buffer is `hello w` / `b` (two lines), the window is 23 rows from row 0, `keys` wait at the
terminal.  A count is given through `arg1`, as `vi_prefix` leaves it. -/

open Neatvi.Props.C08b (exSt) in
/-- `3j` on the last line stays; `j` from the first line moves; `2k` from the last line stops at the
    first; `k` on the first line stays -/
example : C07.resVal (viMotionln 1 0 { exSt [106] 1 0 with arg1 := 3 }) = some (106, 1) ∧
    C07.resVal (viMotionln 0 0 (exSt [106] 0 0)) = some (106, 1) ∧
    C07.resVal (viMotionln 1 0 { exSt [107] 1 0 with arg1 := 2 }) = some (107, 0) ∧
    C07.resVal (viMotionln 0 0 (exSt [107] 0 0)) = some (107, 0) := by decide +kernel

open Neatvi.Props.C08b (exSt) in
/-- `G` goes to the last line, `2G` to the second, `1G` to the first, `7G` stops at the last; `_` stays;
    `2_` and `2dd` (operator `d` = 100) move one line down; `x` is not a line motion -/
example : C07.resVal (viMotionln 0 0 (exSt [71] 0 0)) = some (71, 1) ∧
    C07.resVal (viMotionln 0 0 { exSt [71] 0 0 with arg1 := 2 }) = some (71, 1) ∧
    C07.resVal (viMotionln 1 0 { exSt [71] 1 0 with arg1 := 1 }) = some (71, 0) ∧
    C07.resVal (viMotionln 0 0 { exSt [71] 0 0 with arg1 := 7 }) = some (71, 1) ∧
    C07.resVal (viMotionln 0 0 (exSt [95] 0 0)) = some (95, 0) ∧
    C07.resVal (viMotionln 0 0 { exSt [95] 0 0 with arg1 := 2 }) = some (95, 1) ∧
    C07.resVal (viMotionln 0 100 { exSt [100] 0 0 with arg1 := 2 }) = some (100, 1) ∧
    C07.resVal (viMotionln 0 0 (exSt [120] 0 0)) = some (0, 0) := by decide +kernel

open Neatvi.Props.C08b (exSt) in
/-- `H`, `M`, `L` with the 23-row window on the 2-line buffer: `H` the first line, `M` and `L` stop at
    the last line; `30L` (a count beyond the window) would be row -7 and is clamped to row 0 -/
example : C07.resVal (viMotionln 1 0 (exSt [72] 1 0)) = some (72, 0) ∧
    C07.resVal (viMotionln 0 0 (exSt [77] 0 0)) = some (77, 1) ∧
    C07.resVal (viMotionln 0 0 (exSt [76] 0 0)) = some (76, 1) ∧
    C07.resVal (viMotionln 1 0 { exSt [76] 1 0 with arg1 := 30 }) = some (76, 0) ∧
    refL 0 23 30 2 = 0 ∧ refH 0 23 1 2 = 0 ∧ refM 0 23 2 = 1 := by decide +kernel

open Neatvi.Props.C08b (exSt) in
/-- `$` returns the newline's offset 7 (the cursor then rests on 6), `^` and `0` offset 0;
    `2l` from offset 5 and from the last character 6 ends on 6; `2h` from 1 on 0;
    `2 SPC` from 6 steps onto the newline's offset 7; `4|` is offset 3, `40|` offset 7 -/
example : C07.resVal (viMotion 0 3 (exSt [36] 0 3)) = some (36, 0, 7) ∧
    Ren.renNoeol [104, 101, 108, 108, 111, 32, 119, 10] 7 = 6 ∧
    C07.resVal (viMotion 0 3 (exSt [94] 0 3)) = some (94, 0, 0) ∧
    C07.resVal (viMotion 0 3 (exSt [48] 0 3)) = some (48, 0, 0) ∧
    C07.resVal (viMotion 0 5 { exSt [108] 0 5 with arg1 := 2 }) = some (108, 0, 6) ∧
    C07.resVal (viMotion 0 6 { exSt [108] 0 6 with arg1 := 2 }) = some (108, 0, 6) ∧
    C07.resVal (viMotion 0 1 { exSt [104] 0 1 with arg1 := 2 }) = some (104, 0, 0) ∧
    C07.resVal (viMotion 0 6 { exSt [32] 0 6 with arg1 := 2 }) = some (32, 0, 7) ∧
    C07.resVal (viMotion 0 1 { exSt [124] 0 1 with arg1 := 4 }) = some (124, 0, 3) ∧
    C07.resVal (viMotion 0 1 { exSt [124] 0 1 with arg1 := 40 }) = some (124, 0, 7) := by decide +kernel

open Neatvi.Props.C08b (exSt) in
/-- the theorems instantiated on the example: `3j` from the last line through `motion_lands_ln_pending`,
    and `2l` from the last character through `viMotion_l` -/
example : ∃ s1, viMotionln 1 0 { exSt [106] 1 0 with arg1 := 3 } = Res.ok (106, 1) s1 ∧ pending s1 = [] := by
  obtain ⟨s1, h1, h2, -⟩ := motion_lands_ln_pending 1 0 { exSt [106] 1 0 with arg1 := 3 } 106 [] rfl
    (by decide +kernel) (Or.inl (by decide)) (by decide) (by decide +kernel) (by decide +kernel)
  refine ⟨s1, ?_, h2⟩
  rw [h1]
  have : refLine (refKey ((106 : Nat) : Int)) (cntOf { exSt [106] 1 0 with arg1 := 3 }) 1
      (lenOf { exSt [106] 1 0 with arg1 := 3 }) ({ exSt [106] 1 0 with arg1 := 3 } : VS).ed.xtop
      ({ exSt [106] 1 0 with arg1 := 3 } : VS).xrows (hasCount { exSt [106] 1 0 with arg1 := 3 }) = 1 := by
    decide +kernel
  rw [this]; rfl

open Neatvi.Props.C08b (exSt) in
example : ∃ s1, viMotion 0 (6 : Nat) { exSt [108] 0 6 with arg1 := 2 } = Res.ok (108, 0, ((6 : Nat) : Int)) s1 := by
  obtain ⟨s1, h1, -⟩ := viRead_pending { exSt [108] 0 6 with arg1 := 2 } 108 [] rfl (by decide +kernel)
  obtain ⟨hinc, hctx⟩ := ascii_line_ltr { exSt [108] 0 6 with arg1 := 2 } [104, 101, 108, 108, 111, 32, 119]
    (by decide) (Or.inl (by decide +kernel))
  have := (viMotion_l 0 6 { exSt [108] 0 6 with arg1 := 2 } s1 [104, 101, 108, 108, 111, 32, 119] h1
    (by decide +kernel) (by decide) (by decide) hinc hctx (by decide)).1
  refine ⟨s1, ?_⟩
  rw [this]
  have e : min (6 + (cntOf { exSt [108] 0 6 with arg1 := 2 }).toNat) (lastCol [104, 101, 108, 108, 111, 32, 119]) = 6 := by
    decide +kernel
  rw [e]

end Neatvi.Props.C07d
