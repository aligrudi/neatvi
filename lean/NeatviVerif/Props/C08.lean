import NeatviVerif.Lemmas.C08Round
import NeatviVerif.Lemmas.C08Motion
import NeatviVerif.Lemmas.C07Scan
/-!
# C08: operators, regions, registers and puts

Part A: `reg_put` (`reg.c`).  Part B: `uc_sub` / `lbuf_region`.  Part C: `vi_yank`, `vi_delete`, `vc_put`.
-/
namespace Neatvi.Props.C08
open Neatvi Neatvi.Ex Neatvi.Uc Neatvi.Vi Neatvi.Lbuf Neatvi.Spec Neatvi.Lemmas.C08

/-! ## A. registers -/

/-- the name `"` designates the unnamed register -/
theorem put_quote_is_unnamed (r : Regs) (s : Bytes) (ln : Nat) : r.put 34 s ln = r.put 0 s ln := rfl

/-- every other name designates itself (`regTarget c = c`) -/
theorem regTarget_spec (c : Nat) : regTarget c = if c = 34 then 0 else c := by
  unfold regTarget; simp

/-- a register name that is not an upper-case letter receives exactly the text and the line mode,
    whatever the rotation did before (`regTarget c` is `c`, and `0` for `"`) -/
theorem put_stores (r : Regs) (c : Nat) (s : Bytes) (ln : Nat) (h : RegsWf r) (hc : c < 256)
    (hu : isUpperC c = false) :
    (r.put c s ln).getRaw (regTarget c) = (some s, ln) :=
  put_getRaw_target r c s ln h hc hu

theorem put_stores_self (r : Regs) (c : Nat) (s : Bytes) (ln : Nat) (h : RegsWf r) (hc : c < 256)
    (hu : isUpperC c = false) (h34 : c ≠ 34) :
    (r.put c s ln).getRaw c = (some s, ln) := by
  have := put_stores r c s ln h hc hu
  rwa [regTarget_ne h34] at this

/-- an upper-case name appends to the lower-case register (and stores there when it was unset) -/
theorem put_upper_appends (r : Regs) (c : Nat) (s : Bytes) (ln : Nat) (h : RegsWf r)
    (h1 : 65 ≤ c) (h2 : c ≤ 90) :
    (r.put c s ln).getRaw (c + 32) = (some (((r.getRaw (c + 32)).1).getD [] ++ s), ln) := by
  have hu : isUpperC c = true := by unfold isUpperC; simp; omega
  rw [put_get r c (c + 32) s ln h (by omega), regTarget_ne (by omega), lowerC_of_upper hu, if_pos rfl]
  unfold rawText
  rw [hu, if_pos rfl, lowerC_of_upper hu, beforeFinal_get r c (c + 32) s ln h]
  have e1 : ¬ (c + 32 = 49) := by omega
  have e2 : ¬ (50 ≤ c + 32 ∧ c + 32 ≤ 57) := by omega
  simp only [e1, e2, if_false, ite_self]

theorem put_upper_appends_set (r : Regs) (c : Nat) (s old : Bytes) (ln l : Nat) (h : RegsWf r)
    (h1 : 65 ≤ c) (h2 : c ≤ 90) (hold : r.getRaw (c + 32) = (some old, l)) :
    (r.put c s ln).getRaw (c + 32) = (some (old ++ s), ln) := by
  rw [put_upper_appends r c s ln h h1 h2, hold]; rfl

theorem put_upper_appends_unset (r : Regs) (c : Nat) (s : Bytes) (ln l : Nat) (h : RegsWf r)
    (h1 : 65 ≤ c) (h2 : c ≤ 90) (hold : r.getRaw (c + 32) = (none, l)) :
    (r.put c s ln).getRaw (c + 32) = (some s, ln) := by
  rw [put_upper_appends r c s ln h h1 h2, hold]; rfl

/-- the rotation happens for a line-mode or multi-line text put into the unnamed or a letter register -/
theorem shifts_iff (c : Nat) (s : Bytes) (ln : Nat) :
    shifts c s ln = true ↔ (ln ≠ 0 ∨ 10 ∈ s) ∧ (c = 0 ∨ isAlphaC c = true) := by
  unfold shifts
  simp

/-- a rotating put (`shifts` on the resolved name): `"1` receives the text, `"2`..`"9` receive their
    predecessor when that was set (and keep their value when it was not) -/
theorem put_shifts_numbered (r : Regs) (c : Nat) (s : Bytes) (ln : Nat) (h : RegsWf r) (hc : c < 256)
    (hs : shifts (regTarget c) s ln = true) :
    (r.put c s ln).getRaw 49 = (some s, ln) ∧
    ∀ d, 50 ≤ d → d ≤ 57 → (r.put c s ln).getRaw d =
      match r.getRaw (d - 1) with
      | (some x, l) => (some x, l)
      | (none, _) => r.getRaw d := by
  have hl := shifts_lower_not_digit hs
  constructor
  · rw [put_get r c 49 s ln h hc, if_neg (by omega), beforeFinal_get r _ 49 s ln h, if_pos hs, if_pos rfl]
  · intro d hd1 hd2
    rw [put_get r c d s ln h hc, if_neg (by omega), beforeFinal_get r _ d s ln h, if_pos hs, if_neg (by omega),
      if_pos ⟨hd1, hd2⟩]
    rfl

/-- in particular a set `"i` moves to `"(i+1)` -/
theorem put_shifts_numbered_set (r : Regs) (c : Nat) (s x : Bytes) (ln l : Nat) (h : RegsWf r) (hc : c < 256)
    (hs : shifts (regTarget c) s ln = true) (i : Nat) (hi1 : 1 ≤ i) (hi2 : i ≤ 8)
    (hx : r.getRaw (48 + i) = (some x, l)) :
    (r.put c s ln).getRaw (48 + i + 1) = (some x, l) := by
  rw [(put_shifts_numbered r c s ln h hc hs).2 (48 + i + 1) (by omega) (by omega),
    show 48 + i + 1 - 1 = 48 + i by omega, hx]

/-- every register other than the target is unchanged, except the numbered ones under a rotation -/
theorem put_frame (r : Regs) (c d : Nat) (s : Bytes) (ln : Nat) (h : RegsWf r) (hc : c < 256)
    (hd : d ≠ lowerC (regTarget c)) (hn : shifts (regTarget c) s ln = false ∨ d < 49 ∨ 57 < d) :
    (r.put c s ln).getRaw d = r.getRaw d := by
  rw [put_get r c d s ln h hc, if_neg hd, beforeFinal_get r _ d s ln h]
  by_cases hs : shifts (regTarget c) s ln = true
  · rw [if_pos hs, if_neg (by rcases hn with hn | hn | hn <;> simp_all <;> omega),
      if_neg (by rcases hn with hn | hn | hn <;> simp_all <;> omega)]
  · rw [if_neg hs]

/-- without the rotation the numbered registers other than the target are unchanged -/
theorem put_no_shift_numbered (r : Regs) (c d : Nat) (s : Bytes) (ln : Nat) (h : RegsWf r) (hc : c < 256)
    (hs : shifts (regTarget c) s ln = false) (hd : d ≠ lowerC (regTarget c)) :
    (r.put c s ln).getRaw d = r.getRaw d :=
  put_frame r c d s ln h hc hd (Or.inl hs)

/-- the 256 slots stay -/
theorem put_wf (r : Regs) (c : Nat) (s : Bytes) (ln : Nat) (h : RegsWf r) : RegsWf (r.put c s ln) :=
  Lemmas.C08.put_wf r c s ln h

/-! ## B. regions -/

/-- `uc_sub(s, b, e)` for character offsets `0 ≤ b ≤ e ≤ uc_slen(s)`: both ends have byte offsets
    (`uc_chr`), ordered and inside the string, and the result is the byte slice between them -/
theorem subI_spec (ln : Bytes) (b e : Int) (hb : 0 ≤ b) (hbe : b ≤ e) (he : e ≤ ucSlen ln) :
    ∃ ib ie, ucChr ln b.toNat = some ib ∧ ucChr ln e.toNat = some ie ∧ ib ≤ ie ∧ ie ≤ ln.length ∧
      subI ln b e = some ((ln.drop ib).take (ie - ib)) := by
  obtain ⟨ib, h1⟩ := chr_some_of_le b.toNat ln (by omega)
  obtain ⟨ie, h2⟩ := chr_some_of_le e.toNat ln (by omega)
  have hle := chr_mono _ _ _ _ _ (show b.toNat ≤ e.toNat by omega) h1 h2
  exact ⟨ib, ie, h1, h2, hle, chr_le_length _ _ _ h2, subI_chr ln b e ib ie hb (by omega) h1 h2 hle⟩

/-- `uc_sub(s, b, -1)` is the tail from character `b` -/
theorem subI_tail_spec (ln : Bytes) (b : Int) (hb : 0 ≤ b) (he : b ≤ ucSlen ln) :
    ∃ ib, ucChr ln b.toNat = some ib ∧ ib ≤ ln.length ∧ subI ln b (-1) = some (ln.drop ib) := by
  obtain ⟨ib, h1⟩ := chr_some_of_le b.toNat ln (by omega)
  exact ⟨ib, h1, chr_le_length _ _ _ h1, subI_tail ln b ib hb h1⟩

/-- an end beyond the terminator: the C code compares pointers into different objects (modelled as `none`) -/
theorem subI_out_of_range (ln : Bytes) (b e : Int) (he : (ucSlen ln : Int) < e) : subI ln b e = none := by
  unfold subI
  rw [chrI_nonneg ln e (by omega)]
  cases hc : ucChr ln e.toNat with
  | none => cases chrI ln b <;> rfl
  | some i => have := chr_le_slen _ _ _ hc; omega

/-- the split law: head, region and tail give back the line -/
theorem subI_split (ln : Bytes) (b e : Int) (hb : 0 ≤ b) (hbe : b ≤ e) (he : e ≤ ucSlen ln) :
    ∃ x y z, subI ln 0 b = some x ∧ subI ln b e = some y ∧ subI ln e (-1) = some z ∧ x ++ y ++ z = ln := by
  obtain ⟨ib, ie, h1, h2, hle, hlen, hs⟩ := subI_spec ln b e hb hbe he
  refine ⟨ln.take ib, (ln.drop ib).take (ie - ib), ln.drop ie, subI_head ln b ib hb h1, hs,
    subI_tail ln e ie (by omega) h2, ?_⟩
  have : ln.drop ie = (ln.drop ib).drop (ie - ib) := by rw [List.drop_drop]; congr 1; omega
  rw [this, List.append_assoc, List.take_append_drop, List.take_append_drop]

/-- on valid UTF-8 the region is the encoding of the code points `b..e-1` -/
theorem subI_enc_spec {cs : List Nat} (h : ∀ c ∈ cs, ValidCp c) (b e : Nat) (hbe : b ≤ e) (he : e ≤ cs.length) :
    subI (encStr cs) 0 (b : Int) = some (encStr (cs.take b)) ∧
    subI (encStr cs) (b : Int) (e : Int) = some (encStr ((cs.take e).drop b)) ∧
    subI (encStr cs) (e : Int) (-1) = some (encStr (cs.drop e)) :=
  ⟨subI_enc_head h b (by omega), subI_enc h b e hbe he, subI_enc_tail h e he⟩

/-- `lbuf_region` on one row -/
theorem lbufRegion_single (s : VS) (r o1 o2 : Int) : lbufRegion s r o1 r o2 = subI (lineE s r) o1 o2 :=
  Lemmas.C08.lbufRegion_single s r o1 o2

/-- `lbuf_region` across rows: the tail of the first line, the lines between, the head of the last line -/
theorem lbufRegion_multi (s : VS) (r1 o1 r2 o2 : Int) (hne : r1 ≠ r2) (t hd : Bytes)
    (h1 : subI (lineE s r1) o1 (-1) = some t) (h2 : subI (lineE s r2) 0 o2 = some hd) :
    lbufRegion s r1 o1 r2 o2 =
      some (t ++ (((lines s).drop (r1 + 1).toNat).take (r2.toNat - (r1 + 1).toNat)).flatten ++ hd) :=
  Lemmas.C08.lbufRegion_multi s r1 o1 r2 o2 hne t hd h1 h2

/-- the line-mode region `(r1, 0) .. (r2, -1)` is the whole lines `r1..r2` -/
theorem lbufRegion_lines (s : VS) (r1 r2 : Int) (h0 : 0 ≤ r1) (h12 : r1 ≤ r2) (h2 : r2 < lenOf s) :
    lbufRegion s r1 0 r2 (-1) = some (((lines s).drop r1.toNat).take (r2.toNat - r1.toNat + 1)).flatten :=
  Lemmas.C08.lbufRegion_lines s r1 r2 h0 h12 h2

/-! ## C. operators -/

/-- `vi_yank`: the text is unchanged, the register named by the prefix receives the region through
    `reg_put` with the line-mode flag, the cursor goes to the start of the region (the column is kept
    in line mode); nothing else changes -/
theorem viYank_spec (r1 o1 r2 o2 : Int) (lnmode : Bool) (s s' : VS) (a : Nat)
    (h : viYank r1 o1 r2 o2 lnmode s = Res.ok a s') :
    ∃ region, lbufRegion s r1 (if lnmode then 0 else o1) r2 (if lnmode then -1 else o2) = some region ∧
      lines s' = lines s ∧
      s'.ed.regs = s.ed.regs.put s.ybuf region (if lnmode then 1 else 0) ∧
      s'.ed.xrow = r1 ∧ s'.ed.xoff = (if lnmode then s.ed.xoff else o1) ∧ a = VC_COL ∧
      s' = { s with ed := { s.ed with regs := s'.ed.regs, xrow := s'.ed.xrow, xoff := s'.ed.xoff } } := by
  obtain ⟨region, hreg, rfl, rfl⟩ := viYank_eq r1 o1 r2 o2 lnmode s s' a h
  exact ⟨region, hreg, rfl, rfl, rfl, rfl, rfl, rfl⟩

/-- charwise `vi_delete` on a valid region: the rows `r1..r2` are replaced by the characters before
    `o1` of row `r1` followed by the characters from `o2` of row `r2`; the register receives the region;
    the cursor is `(r1, o1)` -/
theorem viDelete_char_spec (r1 o1 r2 o2 : Int) (s s' : VS) (a : Nat)
    (h : viDelete r1 o1 r2 o2 false s = Res.ok a s') (h0 : 0 ≤ r1) (h12 : r1 ≤ r2) (h2 : r2 < lenOf s) :
    ∃ region pref post, lbufRegion s r1 o1 r2 o2 = some region ∧
      subI (lineE s r1) 0 o1 = some pref ∧ subI (lineE s r2) o2 (-1) = some post ∧
      lines s' = (lines s).take r1.toNat ++ splitLines (pref ++ post) ++ (lines s).drop (r2.toNat + 1) ∧
      s'.ed.regs = s.ed.regs.put s.ybuf region 0 ∧ s'.ed.xrow = r1 ∧ s'.ed.xoff = o1 ∧ a = VC_OK ∧
      s'.ybuf = s.ybuf ∧ s'.arg1 = s.arg1 := by
  obtain ⟨region, pref, post, ed', hreg, hp, hq, he, rfl, rfl⟩ := viDelete_char_eq r1 o1 r2 o2 s s' a h
  refine ⟨region, pref, post, hreg, hp, hq, ?_, (edit_regs he).1, rfl, rfl, rfl, rfl, rfl⟩
  have hlen : ({ s.ed with regs := s.ed.regs.put s.ybuf region 0 } : Ed).len = lenOf s := by rw [lenOf_eq]; rfl
  have hf := (Lemmas.C06.ed_edit_frame _ ed' _ r1 (r2 + 1) h0 (by omega) (by rw [hlen]; omega) he).1
  rw [show (r2 + 1).toNat = r2.toNat + 1 by omega] at hf
  exact hf

/-- the joined line is one well-formed line when both cuts lie before the newlines -/
theorem wf_join (l1 l2 : Bytes) (ib ie : Nat) (h1 : Props.C01.WfLine l1) (h2 : Props.C01.WfLine l2)
    (hib : ib < l1.length) (hie : ie < l2.length) : Props.C01.WfLine (l1.take ib ++ l2.drop ie) := by
  obtain ⟨w1, rfl, hw1⟩ := h1
  obtain ⟨w2, rfl, hw2⟩ := h2
  simp only [List.length_append, List.length_singleton] at hib hie
  refine ⟨w1.take ib ++ w2.drop ie, ?_, ?_⟩
  · rw [List.take_append_of_le_length (by omega), List.drop_append_of_le_length (by omega), List.append_assoc]
  · intro hm
    rcases List.mem_append.mp hm with hm | hm
    · exact hw1 (List.mem_of_mem_take hm)
    · exact hw2 (List.mem_of_mem_drop hm)

/-- … and then exactly one line replaces the rows `r1..r2` -/
theorem viDelete_char_spec_wf (r1 o1 r2 o2 : Int) (s s' : VS) (a : Nat)
    (h : viDelete r1 o1 r2 o2 false s = Res.ok a s') (h0 : 0 ≤ r1) (h12 : r1 ≤ r2) (h2 : r2 < lenOf s)
    (hw : ∀ pref post, subI (lineE s r1) 0 o1 = some pref → subI (lineE s r2) o2 (-1) = some post →
      Props.C01.WfLine (pref ++ post)) :
    ∃ pref post, subI (lineE s r1) 0 o1 = some pref ∧ subI (lineE s r2) o2 (-1) = some post ∧
      lines s' = (lines s).take r1.toNat ++ [pref ++ post] ++ (lines s).drop (r2.toNat + 1) := by
  obtain ⟨region, pref, post, _, hp, hq, hl, _⟩ := viDelete_char_spec r1 o1 r2 o2 s s' a h h0 h12 h2
  refine ⟨pref, post, hp, hq, ?_⟩
  rw [hl, splitLines_wf _ (hw pref post hp hq)]

/-- linewise `vi_delete`: the rows `r1..r2` disappear, the register receives the whole lines in line
    mode, the cursor goes to the first non-blank of the row now at `r1` (the last row when the tail of
    the buffer was deleted) -/
theorem viDelete_line_spec (r1 o1 r2 o2 : Int) (s s' : VS) (a : Nat)
    (h : viDelete r1 o1 r2 o2 true s = Res.ok a s') (h0 : 0 ≤ r1) (h12 : r1 ≤ r2) (h2 : r2 < lenOf s) :
    lines s' = (lines s).take r1.toNat ++ (lines s).drop (r2.toNat + 1) ∧
    s'.ed.regs = s.ed.regs.put s.ybuf (((lines s).drop r1.toNat).take (r2.toNat - r1.toNat + 1)).flatten 1 ∧
    s'.ed.xrow = min r1 (max 0 (lenOf s' - 1)) ∧ s'.ed.xoff = Mot.indents (lines s') s'.ed.xrow ∧ a = VC_OK ∧
    s'.ybuf = s.ybuf ∧ s'.arg1 = s.arg1 := by
  obtain ⟨region, ed', hreg, he, rfl, rfl⟩ := viDelete_line_eq r1 o1 r2 o2 s s' a h
  rw [Lemmas.C08.lbufRegion_lines s r1 r2 h0 h12 h2] at hreg
  cases hreg
  refine ⟨?_, (edit_regs he).1, rfl, rfl, rfl, rfl, rfl⟩
  have hlen : ∀ r : Regs, ({ s.ed with regs := r } : Ed).len = lenOf s := fun r => by rw [lenOf_eq]; rfl
  have hf := (Lemmas.C06.ed_edit_frame _ ed' _ r1 (r2 + 1) h0 (by omega) (by rw [hlen]; omega) he).1
  rw [show (r2 + 1).toNat = r2.toNat + 1 by omega] at hf
  rw [show Lemmas.Hist.optLines none = [] from rfl, List.append_nil] at hf
  exact hf

/-- charwise `vi_case` (`~`, `gu`, `gU`, `g~`): the region is replaced by its case-mapped bytes, the
    text around it and the registers are untouched, the cursor goes to the end of the region -/
theorem viCase_char_spec (r1 o1 r2 o2 : Int) (cmd : Nat) (s s' : VS) (a : Nat)
    (h : viCase r1 o1 r2 o2 false cmd s = Res.ok a s') (h0 : 0 ≤ r1) (h12 : r1 ≤ r2) (h2 : r2 < lenOf s) :
    ∃ region pref post, lbufRegion s r1 o1 r2 o2 = some region ∧
      subI (lineE s r1) 0 o1 = some pref ∧ subI (lineE s r2) o2 (-1) = some post ∧
      lines s' = (lines s).take r1.toNat ++
        splitLines (pref ++ caseMap cmd (region.length + 1) region ++ post) ++ (lines s).drop (r2.toNat + 1) ∧
      s'.ed.regs = s.ed.regs ∧ s'.ed.xrow = r2 ∧ s'.ed.xoff = o2 ∧ a = VC_OK := by
  obtain ⟨region, pref, post, ed', hreg, hp, hq, he, rfl, rfl⟩ := viCase_char_eq r1 o1 r2 o2 cmd s s' a h
  refine ⟨region, pref, post, hreg, hp, hq, ?_, (edit_regs he).1, rfl, rfl, rfl⟩
  have hf := (Lemmas.C06.ed_edit_frame _ ed' _ r1 (r2 + 1) h0 (by omega) (by rw [← lenOf_eq]; omega) he).1
  rw [show (r2 + 1).toNat = r2.toNat + 1 by omega] at hf
  exact hf

/-- what a later `reg_get` of the operator's register returns: the region and its mode
    (plain register names: not upper-case, not the computed `;`, `#`, `^`) -/
theorem yank_readback (ed : Ed) (r : Regs) (c : Nat) (t : Bytes) (l : Nat) (hr : ed.regs = r.put c t l)
    (h : RegsWf r) (hc : c < 256) (hu : isUpperC c = false)
    (h59 : c ≠ 59) (h35 : c ≠ 35) (h94 : c ≠ 94) :
    regGetLn ed c = (some t, some l) :=
  regGetLn_of_put ed r c t l hr h hc hu h59 h35 h94

/-- linewise `P`: `max 1 arg1` copies of the register are inserted as lines before the current row,
    the cursor stays on that row at its first non-blank -/
theorem vcPut_line_P_spec (s s' : VS) (a : Nat) (buf : Bytes) (lnm : Nat)
    (hreg : regGetLn s.ed s.ybuf = (some buf, some lnm)) (hne : buf ≠ []) (hl : lnm ≠ 0) (hlen : lenOf s ≠ 0)
    (h0 : 0 ≤ s.ed.xrow) (h1 : s.ed.xrow ≤ lenOf s)
    (h : vcPut 80 s = Res.ok a s') :
    lines s' = (lines s).take s.ed.xrow.toNat ++ splitLines (putRep s buf) ++ (lines s).drop s.ed.xrow.toNat ∧
    s'.ed.xrow = s.ed.xrow ∧ s'.ed.xoff = Mot.indents (lines s') s.ed.xrow ∧ s'.ed.regs = s.ed.regs ∧ a = VC_OK := by
  obtain ⟨ed', he, rfl, rfl⟩ := vcPut_line_P_eq s s' a buf lnm hreg hne hl hlen h
  have hf := (Lemmas.C06.ed_edit_frame _ ed' _ _ _ h0 (Int.le_refl _) (by rw [← lenOf_eq]; exact h1) he).1
  have hx := (edit_regs he).2.1
  refine ⟨hf, hx, ?_, (edit_regs he).1, rfl⟩
  show Mot.indents (Lemmas.C06.lines ed') ed'.xrow = Mot.indents (Lemmas.C06.lines ed') s.ed.xrow
  rw [hx]

/-- linewise `p`: the copies are inserted after the current row and the cursor moves to the first of them -/
theorem vcPut_line_p_spec (s s' : VS) (a : Nat) (buf : Bytes) (lnm : Nat)
    (hreg : regGetLn s.ed s.ybuf = (some buf, some lnm)) (hne : buf ≠ []) (hl : lnm ≠ 0) (hlen : lenOf s ≠ 0)
    (h0 : 0 ≤ s.ed.xrow) (h1 : s.ed.xrow < lenOf s)
    (h : vcPut 112 s = Res.ok a s') :
    lines s' = (lines s).take (s.ed.xrow.toNat + 1) ++ splitLines (putRep s buf) ++ (lines s).drop (s.ed.xrow.toNat + 1) ∧
    s'.ed.xrow = s.ed.xrow + 1 ∧ s'.ed.xoff = Mot.indents (lines s') (s.ed.xrow + 1) ∧ s'.ed.regs = s.ed.regs ∧
    a = VC_OK := by
  obtain ⟨ed', he, rfl, rfl⟩ := vcPut_line_p_eq s s' a buf lnm hreg hne hl hlen h
  have hlen' : ({ s.ed with xrow := s.ed.xrow + 1 } : Ed).len = lenOf s := by rw [lenOf_eq]; rfl
  have hf := (Lemmas.C06.ed_edit_frame _ ed' _ _ _ (by omega) (Int.le_refl _) (by rw [hlen']; omega) he).1
  rw [show (s.ed.xrow + 1).toNat = s.ed.xrow.toNat + 1 by omega] at hf
  have hx := (edit_regs he).2.1
  refine ⟨hf, hx, ?_, (edit_regs he).1, rfl⟩
  show Mot.indents (Lemmas.C06.lines ed') ed'.xrow = Mot.indents (Lemmas.C06.lines ed') (s.ed.xrow + 1)
  rw [hx]

/-- charwise put on an existing row: the copies go into the current line at character offset
    `putOff` (the cursor for `P`, one past it for `p`), the cursor ends on the last inserted character -/
theorem vcPut_char_spec (cmd : Nat) (s s' : VS) (a : Nat) (buf : Bytes)
    (hreg : regGetLn s.ed s.ybuf = (some buf, some 0)) (hne : buf ≠ [])
    (h0 : 0 ≤ s.ed.xrow) (h1 : s.ed.xrow < lenOf s)
    (h : vcPut cmd s = Res.ok a s') :
    ∃ x y, subI (lineE s s.ed.xrow) 0 (putOff cmd s) = some x ∧ subI (lineE s s.ed.xrow) (putOff cmd s) (-1) = some y ∧
      lines s' = (lines s).take s.ed.xrow.toNat ++ splitLines (x ++ putRep s buf ++ y) ++ (lines s).drop (s.ed.xrow.toNat + 1) ∧
      s'.ed.xrow = s.ed.xrow ∧
      s'.ed.xoff = putOff cmd s + (ucSlen buf : Int) * ((max 1 s.arg1).toNat : Int) - 1 ∧
      s'.ed.regs = s.ed.regs ∧ a = VC_OK := by
  obtain ⟨x, y, ed', hx, hy, he, rfl, rfl⟩ := vcPut_char_eq cmd s s' a buf hreg hne h
  have hL : putLine s = lineE s s.ed.xrow := by unfold putLine; rw [if_pos h1]
  rw [hL] at hx hy
  have hf := (Lemmas.C06.ed_edit_frame _ ed' _ _ _ h0 (by omega) (by rw [← lenOf_eq]; omega) he).1
  rw [show (s.ed.xrow + 1).toNat = s.ed.xrow.toNat + 1 by omega] at hf
  exact ⟨x, y, hx, hy, hf, (edit_regs he).2.1, rfl, (edit_regs he).1, rfl⟩

/-! ## the text deleted is exactly what a later put inserts -/

/-- after linewise `d` over the rows `r1..r2` of a buffer of well-formed lines into the unnamed register,
    without a count: the text left, its length, the cursor row, and what a put will find -/
theorem viDelete_line_then (s s1 : VS) (a : Nat) (r1 o1 r2 o2 : Int)
    (hwf : RegsWf s.ed.regs) (hy : s.ybuf = 0) (ha : s.arg1 ≤ 1)
    (h0 : 0 ≤ r1) (h12 : r1 ≤ r2) (h2 : r2 < lenOf s) (hlines : ∀ l ∈ lines s, Props.C01.WfLine l)
    (hd : viDelete r1 o1 r2 o2 true s = Res.ok a s1) :
    lines s1 = (lines s).take r1.toNat ++ (lines s).drop (r1.toNat + (r2.toNat - r1.toNat + 1)) ∧
    lenOf s1 = r1 + (lenOf s - (r2 + 1)) ∧ s1.ed.xrow = min r1 (max 0 (lenOf s1 - 1)) ∧
    regGetLn s1.ed s1.ybuf = (some (((lines s).drop r1.toNat).take (r2.toNat - r1.toNat + 1)).flatten, some 1) ∧
    (((lines s).drop r1.toNat).take (r2.toNat - r1.toNat + 1)).flatten ≠ [] ∧
    splitLines (putRep s1 (((lines s).drop r1.toNat).take (r2.toNat - r1.toNat + 1)).flatten) =
      ((lines s).drop r1.toNat).take (r2.toNat - r1.toNat + 1) := by
  obtain ⟨hl1, hregs1, hx1, _, _, hy1, ha1⟩ := viDelete_line_spec r1 o1 r2 o2 s s1 a hd h0 h12 h2
  have hL : lenOf s = ((lines s).length : Int) := rfl
  rw [show r2.toNat + 1 = r1.toNat + (r2.toNat - r1.toNat + 1) by omega] at hl1
  refine ⟨hl1, ?_, hx1, put_of_rows s1 s.ed.regs 0 (lines s) r1.toNat (r2.toNat - r1.toNat)
    (by rw [hy1, hy]) (by rw [hregs1, hy]) hwf (by omega) (by decide) (by decide) (by decide) (by decide)
    (by rw [ha1]; exact ha) hlines (by omega)⟩
  clear hx1
  show ((lines s1).length : Int) = _
  rw [hl1, hL, length_take_append_drop _ _ _ (by omega)]
  omega

/-- linewise: `d` over the rows `r1..r2` into the unnamed register, then `P` on the resulting state,
    restores the text.  Side conditions: the register file has its 256 slots, no count, every line of
    the buffer is well formed (ends in its only newline), and a line follows the deleted rows (so
    the cursor stays on row `r1`; the other case is `delete_put_roundtrip_line_tail`). -/
theorem delete_put_roundtrip_line (s s1 s2 : VS) (a b : Nat) (r1 o1 r2 o2 : Int)
    (hwf : RegsWf s.ed.regs) (hy : s.ybuf = 0) (ha : s.arg1 ≤ 1)
    (h0 : 0 ≤ r1) (h12 : r1 ≤ r2) (h2 : r2 + 1 < lenOf s)
    (hlines : ∀ l ∈ lines s, Props.C01.WfLine l)
    (hd : viDelete r1 o1 r2 o2 true s = Res.ok a s1)
    (hp : vcPut 80 s1 = Res.ok b s2) :
    lines s2 = lines s ∧ s2.ed.xrow = r1 := by
  obtain ⟨hl1, hlen1, hx1, hrd, hne, hsplit⟩ :=
    viDelete_line_then s s1 a r1 o1 r2 o2 hwf hy ha h0 h12 (by omega) hlines hd
  have hL : lenOf s = ((lines s).length : Int) := rfl
  have hrow : s1.ed.xrow = r1 := by rw [hx1, hlen1]; omega
  clear hx1
  obtain ⟨hl2, hx2, _⟩ := vcPut_line_P_spec s1 s2 b _ 1 hrd hne (by decide)
    (by rw [hlen1]; omega) (by rw [hrow]; exact h0) (by rw [hrow, hlen1]; omega) hp
  refine ⟨?_, by rw [hx2, hrow]⟩
  rw [hl2, hsplit, hrow, hl1]
  exact splice_restore (lines s) r1.toNat _ (by omega)

/-- linewise, the tail of the buffer: after `d` over the rows `r1..len-1` (with `0 < r1`) the cursor is
    on the new last row `r1 - 1`, and it is `p` that restores the text. -/
theorem delete_put_roundtrip_line_tail (s s1 s2 : VS) (a b : Nat) (r1 o1 r2 o2 : Int)
    (hwf : RegsWf s.ed.regs) (hy : s.ybuf = 0) (ha : s.arg1 ≤ 1)
    (h0 : 0 < r1) (h12 : r1 ≤ r2) (h2 : r2 + 1 = lenOf s)
    (hlines : ∀ l ∈ lines s, Props.C01.WfLine l)
    (hd : viDelete r1 o1 r2 o2 true s = Res.ok a s1)
    (hp : vcPut 112 s1 = Res.ok b s2) :
    lines s2 = lines s ∧ s2.ed.xrow = r1 := by
  have e : (r1 - 1).toNat + 1 = r1.toNat := by omega
  obtain ⟨hl1, hlen1, hx1, hrd, hne, hsplit⟩ :=
    viDelete_line_then s s1 a r1 o1 r2 o2 hwf hy ha (by omega) h12 (by omega) hlines hd
  have hL : lenOf s = ((lines s).length : Int) := rfl
  have hrow : s1.ed.xrow = r1 - 1 := by rw [hx1, hlen1]; omega
  clear hx1
  obtain ⟨hl2, hx2, _⟩ := vcPut_line_p_spec s1 s2 b _ 1 hrd hne (by decide)
    (by rw [hlen1]; omega) (by rw [hrow]; omega) (by rw [hrow, hlen1]; omega) hp
  refine ⟨?_, by rw [hx2, hrow]; omega⟩
  rw [hl2, hsplit, hrow, hl1, e]
  exact splice_restore (lines s) r1.toNat _ (by omega)

/-- charwise `d` from character `n1` of row `r1` up to (not including) character `n2` of row `r2 ≥ r1`
    into the unnamed register, then `P`: the text is restored and the cursor ends on the last restored
    character.  Rows `r1` and `r2` are valid UTF-8 (`body1`, `body2` and the newline); `n1` may be the
    newline of row `r1`, `n2` is a character of `body2`, so the cursor of the joined line is on a character
    and `ren_noeol` leaves it there.  What depends on whether the rows are one or several is asked for:
    the region, that it is not empty, and that the cut line with the region back in is the rows `r1..r2`. -/
theorem delete_put_char (s s1 s2 : VS) (a b : Nat) (r1 r2 : Int) (n1 n2 : Nat) (body1 body2 : List Nat)
    (region : Bytes) (hwf : RegsWf s.ed.regs) (hy : s.ybuf = 0) (ha : s.arg1 ≤ 1)
    (h0 : 0 ≤ r1) (h12 : r1 ≤ r2) (h2 : r2 < lenOf s)
    (hl1 : (lines s)[r1.toNat]? = some (encStr (body1 ++ [10])))
    (hl2 : (lines s)[r2.toNat]? = some (encStr (body2 ++ [10])))
    (hv1 : ∀ c ∈ body1, ValidCp c) (hv2 : ∀ c ∈ body2, ValidCp c) (h10a : 10 ∉ body1) (h10b : 10 ∉ body2)
    (hn1 : n1 ≤ body1.length) (hn2 : n2 < body2.length)
    (hreg : lbufRegion s r1 n1 r2 n2 = some region) (hne : region ≠ [])
    (hjoin : splitLines (encStr (body1.take n1) ++ region ++ encStr (body2.drop n2 ++ [10])) =
      ((lines s).drop r1.toNat).take (r2.toNat - r1.toNat + 1))
    (hd : viDelete r1 n1 r2 n2 false s = Res.ok a s1) (hp : vcPut 80 s1 = Res.ok b s2) :
    lines s2 = lines s ∧ s2.ed.xrow = r1 ∧ s2.ed.xoff = (n1 : Int) + (ucSlen region : Int) - 1 := by
  have hL : lenOf s = ((lines s).length : Int) := rfl
  have h02 : 0 ≤ r2 := by omega
  have hr12 : r1.toNat ≤ r2.toNat := by omega
  have hr2 : r2.toNat < (lines s).length := by omega
  have hcnt : (max 1 s.arg1).toNat = 1 := by omega
  have hten : ∀ c ∈ [10], ValidCp c := by decide
  have hva : ∀ c ∈ body1 ++ [10], ValidCp c := fun c hc => (List.mem_append.mp hc).elim (hv1 c) (hten c)
  have hvb : ∀ c ∈ body2 ++ [10], ValidCp c := fun c hc => (List.mem_append.mp hc).elim (hv2 c) (hten c)
  obtain ⟨_, pref, post, hreg', hpref, hpost, hls1, hregs1, hx1, hoff1, _, hy1, ha1⟩ :=
    viDelete_char_spec r1 n1 r2 n2 s s1 a hd h0 h12 h2
  rw [hreg] at hreg'
  rw [lineE_eq s r1 h0 _ hl1, subI_enc_head hva n1 (by simp; omega), List.take_append_of_le_length hn1] at hpref
  rw [lineE_eq s r2 h02 _ hl2, subI_enc_tail hvb n2 (by simp; omega),
    List.drop_append_of_le_length (by omega)] at hpost
  cases hreg'; cases hpref; cases hpost
  -- the joined line
  rw [← encStr_append, ← List.append_assoc] at hls1
  generalize hb' : body1.take n1 ++ body2.drop n2 = body' at hls1
  have hnl' : 10 ∉ body' := by
    rw [← hb']
    exact fun hm => (List.mem_append.mp hm).elim (fun h => h10a (List.mem_of_mem_take h))
      (fun h => h10b (List.mem_of_mem_drop h))
  have hvalid' : ∀ c ∈ body' ++ [10], ValidCp c := by
    rw [← hb']
    exact fun c hc => (List.mem_append.mp hc).elim
      (fun h => (List.mem_append.mp h).elim (fun h => hv1 c (List.mem_of_mem_take h))
        (fun h => hv2 c (List.mem_of_mem_drop h))) (hten c)
  have t4 : (body' ++ [10]).take n1 = body1.take n1 := by
    rw [← hb', List.append_assoc, take_cut _ _ _ hn1]
  have t5 : (body' ++ [10]).drop n1 = body2.drop n2 ++ [10] := by
    rw [← hb', List.append_assoc, drop_cut _ _ _ hn1]
  have hc0 : (body' ++ [10])[n1]? = some (body2[n2]'hn2) := by
    rw [show (body' ++ [10])[n1]? = ((body' ++ [10]).drop n1)[0]? by rw [List.getElem?_drop]; rfl, t5,
      List.getElem?_append_left (by rw [List.length_drop]; exact Nat.sub_pos_of_lt hn2), List.getElem?_drop]
    exact List.getElem?_eq_getElem hn2
  have hc10 : body2[n2]'hn2 ≠ 10 := fun he => h10b (he ▸ List.getElem_mem hn2)
  have hb'len : n1 ≤ (body' ++ [10]).length := by
    have := congrArg List.length t4
    rw [List.length_take, List.length_take] at this
    omega
  rw [splitLines_wf _ (wfLine_enc hnl')] at hls1
  -- the state before the put
  have hL1 : r1 < lenOf s1 := by
    show r1 < ((lines s1).length : Int)
    rw [hls1]
    exact (Int.toNat_lt h0).mp (splice_lt _ _ _ _ (by omega))
  have hlineE1 : lineE s1 r1 = encStr (body' ++ [10]) :=
    lineE_eq s1 r1 h0 _ (by rw [hls1]; exact splice_get _ _ _ _ (by omega))
  have hrd : regGetLn s1.ed s1.ybuf = (some region, some 0) := by
    rw [hy1, hy]
    exact yank_readback s1.ed s.ed.regs 0 _ 0 (by rw [hregs1, hy]) hwf (by omega) (by decide)
      (by decide) (by decide) (by decide)
  obtain ⟨x, y, hx, hy', hls2, hx2, hoff2, _⟩ := vcPut_char_spec 80 s1 s2 b _ hrd hne
    (by rw [hx1]; exact h0) (by rw [hx1]; exact hL1) hp
  -- the put inserts where the delete cut
  have hoff : putOff 80 s1 = (n1 : Int) := by
    unfold putOff putLine
    rw [hx1, if_pos hL1, hlineE1, hoff1, renNoeol_keep hvalid' n1 _ hc0 hc10]
    simp
  rw [hx1, hlineE1, hoff] at hx hy'
  rw [subI_enc_head hvalid' n1 hb'len, t4] at hx
  rw [subI_enc_tail hvalid' n1 hb'len, t5] at hy'
  cases hx; cases hy'
  rw [putRep_one s1 _ (by rw [ha1]; exact ha), hjoin, hx1, hls1] at hls2
  refine ⟨?_, by rw [hx2, hx1], ?_⟩
  · rw [hls2]
    exact splice_restore_rows (lines s) r1.toNat r2.toNat _ hr12 hr2
  · rw [hoff2, hoff, ha1, hcnt]
    omega

/-- charwise within one line of valid UTF-8: `d` over the characters `o1..o2-1` of row `r` into the
    unnamed register, then `P`, restores the text; the cursor ends on the last restored character.
    Side conditions: 256 register slots, no count, the line is the encoding of `body` followed by the
    newline, the region is non-empty and a character remains between it and the newline (otherwise
    `ren_noeol` pulls the cursor back by one and `P` inserts before the last character). -/
theorem delete_put_roundtrip_char (s s1 s2 : VS) (a b : Nat) (r : Int) (o1 o2 : Nat) (body : List Nat)
    (hwf : RegsWf s.ed.regs) (hy : s.ybuf = 0) (ha : s.arg1 ≤ 1)
    (h0 : 0 ≤ r) (h2 : r < lenOf s)
    (hline : (lines s)[r.toNat]? = some (encStr (body ++ [10])))
    (hvalid : ∀ c ∈ body, ValidCp c) (hnl : 10 ∉ body)
    (ho12 : o1 < o2) (ho2 : o2 < body.length)
    (hd : viDelete r o1 r o2 false s = Res.ok a s1)
    (hp : vcPut 80 s1 = Res.ok b s2) :
    lines s2 = lines s ∧ s2.ed.xrow = r ∧ s2.ed.xoff = (o2 : Int) - 1 := by
  have hlineE : lineE s r = encStr (body ++ [10]) := lineE_eq s r h0 _ hline
  have hten : ∀ c ∈ [10], ValidCp c := by decide
  have hvcs : ∀ c ∈ body ++ [10], ValidCp c := fun c hc => (List.mem_append.mp hc).elim (hvalid c) (hten c)
  have hreg : lbufRegion s r o1 r o2 = some (encStr ((body.take o2).drop o1)) := by
    rw [lbufRegion_single, hlineE, subI_enc hvcs o1 o2 (by omega) (by simp; omega),
      List.take_append_of_le_length (by omega)]
  have hmid : (body.take o2).drop o1 ≠ [] := by
    intro he; have := congrArg List.length he; simp at this; omega
  have hne : encStr ((body.take o2).drop o1) ≠ [] := by
    cases hc : (body.take o2).drop o1 with
    | nil => exact absurd hc hmid
    | cons c t =>
      rw [encStr_cons]
      exact fun he => enc_ne_nil c (List.append_eq_nil_iff.mp he).1
  have hjoin : splitLines (encStr (body.take o1) ++ encStr ((body.take o2).drop o1) ++ encStr (body.drop o2 ++ [10])) =
      ((lines s).drop r.toNat).take (r.toNat - r.toNat + 1) := by
    rw [Nat.sub_self, rows_one _ _ _ hline, ← encStr_append, ← encStr_append, ← List.append_assoc,
      show body.take o1 = (body.take o2).take o1 by rw [List.take_take, Nat.min_eq_left (by omega)],
      List.take_append_drop, List.take_append_drop, splitLines_wf _ (wfLine_enc hnl)]
  obtain ⟨h1, h2', h3⟩ := delete_put_char s s1 s2 a b r r o1 o2 body body _ hwf hy ha h0 (Int.le_refl _) h2 hline hline
    hvalid hvalid hnl hnl (by omega) ho2 hreg hne hjoin hd hp
  refine ⟨h1, h2', ?_⟩
  rw [h3, Props.C16.slen_spec (fun c hc => hvalid c (List.mem_of_mem_take (List.mem_of_mem_drop hc)))]
  simp only [List.length_drop, List.length_take]
  omega

/-- not proved here (`Props/C08c.lean` proves it): the charwise round trip across several rows (the register then holds
    newlines and the charwise `P` splits the line again) -/
def delete_put_roundtrip_char_full : Prop :=
  ∀ (s s1 s2 : VS) (a b : Nat) (r1 o1 r2 o2 : Int),
    RegsWf s.ed.regs → s.ybuf = 0 → s.arg1 ≤ 1 → 0 ≤ r1 → r1 < r2 → r2 < lenOf s →
    (∀ l ∈ lines s, ∃ body, l = encStr (body ++ [10]) ∧ (∀ c ∈ body, ValidCp c) ∧ 10 ∉ body) →
    0 ≤ o1 → o1 + 1 < ucSlen (lineE s r1) → 0 ≤ o2 → o2 + 1 < ucSlen (lineE s r2) →
    viDelete r1 o1 r2 o2 false s = Res.ok a s1 → vcPut 80 s1 = Res.ok b s2 →
    lines s2 = lines s

/-! ## the region `vc_motion` hands to the operators -/

/-- `vc_motion` is, literally, the model with its normalisation steps collected in `normRegion`
    (`vcMotion'` in `Lemmas/C08Motion.lean` is the same text with that one call) -/
theorem vcMotion_uses_normRegion (cmd : Nat) : vcMotion cmd = vcMotion' cmd := vcMotion_eq cmd

/-- the normalised region: its rows are in order, and on one row its start is `noeol` of an offset at or
    before its end (the two offsets, swapped into order) -/
theorem normRegion_row (s : VS) (lnmode : Bool) (r1 o1 r2 o2 : Int) :
    (normRegion s lnmode r1 o1 r2 o2).1 ≤ (normRegion s lnmode r1 o1 r2 o2).2.2.1 ∧
    ((normRegion s lnmode r1 o1 r2 o2).1 = (normRegion s lnmode r1 o1 r2 o2).2.2.1 →
      ∃ a, a ≤ (normRegion s lnmode r1 o1 r2 o2).2.2.2 ∧
        (normRegion s lnmode r1 o1 r2 o2).2.1 = noeol s (normRegion s lnmode r1 o1 r2 o2).2.2.1 a) := by
  have he := Lemmas.C07.eol_nonneg (lines s) r2
  unfold normRegion
  simp only []
  cases lnmode <;> simp only [Bool.false_eq_true, if_false, if_true]
  all_goals
    by_cases h1 : r1 > r2 <;> simp only [h1, if_true, if_false]
  all_goals
    refine ⟨by omega, fun heq => ?_⟩
    try omega
  all_goals
    have hr : r1 = r2 := heq
    subst hr
    simp only [beq_self_eq_true, Bool.true_and, decide_eq_true_eq]
    split
    · exact ⟨_, by omega, rfl⟩
    · exact ⟨_, by omega, rfl⟩

/-- the normalised region is ordered: `r1 ≤ r2`, and `o1 ≤ o2` when it lies on one row
    (before the `+1` of the inclusive motions `f t e E %`, which only moves `o2`) -/
theorem vcMotion_normalises (s : VS) (lnmode : Bool) (r1 o1 r2 o2 : Int) :
    (normRegion s lnmode r1 o1 r2 o2).1 ≤ (normRegion s lnmode r1 o1 r2 o2).2.2.1 ∧
    ((normRegion s lnmode r1 o1 r2 o2).1 = (normRegion s lnmode r1 o1 r2 o2).2.2.1 →
      (normRegion s lnmode r1 o1 r2 o2).2.1 ≤ (normRegion s lnmode r1 o1 r2 o2).2.2.2) := by
  obtain ⟨h1, h2⟩ := normRegion_row s lnmode r1 o1 r2 o2
  refine ⟨h1, fun heq => ?_⟩
  obtain ⟨a, ha, e⟩ := h2 heq
  rw [e]
  exact Int.le_trans (noeol_le _ _ _) ha

/-- not proved here (`Props/C08c.lean` proves it): the order on one row also survives the adjustment of `o2` for the inclusive motions
    (`noeol s r2 o2 + 1`, which needs `ren_noeol` to be monotone in the offset) -/
def vcMotion_normalises_full : Prop :=
  ∀ (s : VS) (mv : Int) (lnmode : Bool) (r1 o1 r2 o2 : Int),
    let t := normRegion s lnmode r1 o1 r2 o2
    let o2' := if !lnmode && strHas "fteE%" mv && t.2.2.2 < Mot.eol (lines s) t.2.2.1 then noeol s t.2.2.1 t.2.2.2 + 1 else t.2.2.2
    t.1 = t.2.2.1 → t.2.1 ≤ o2'

/-! ## a yank is what a later put inserts -/

/-- linewise: `y` over the rows `r1..r2` into a plain register `c` (not upper-case, not `;` `#` `^`),
    then `"cp`: the yanked lines appear once more below row `r1`, the cursor on the first of them -/
theorem yank_put_line (s s1 s2 : VS) (a b : Nat) (r1 o1 r2 o2 : Int)
    (hwf : RegsWf s.ed.regs) (hc : s.ybuf < 256) (hu : isUpperC s.ybuf = false)
    (h59 : s.ybuf ≠ 59) (h35 : s.ybuf ≠ 35) (h94 : s.ybuf ≠ 94) (ha : s.arg1 ≤ 1)
    (h0 : 0 ≤ r1) (h12 : r1 ≤ r2) (h2 : r2 < lenOf s)
    (hlines : ∀ l ∈ lines s, Props.C01.WfLine l)
    (hyk : viYank r1 o1 r2 o2 true s = Res.ok a s1)
    (hp : vcPut 112 s1 = Res.ok b s2) :
    lines s2 = (lines s).take (r1.toNat + 1) ++ ((lines s).drop r1.toNat).take (r2.toNat - r1.toNat + 1) ++
      (lines s).drop (r1.toNat + 1) ∧
    s2.ed.xrow = r1 + 1 := by
  obtain ⟨region, hreg, hs1, _⟩ := viYank_eq r1 o1 r2 o2 true s s1 a hyk
  rw [if_pos rfl, if_pos rfl, Lemmas.C08.lbufRegion_lines s r1 r2 h0 h12 h2] at hreg
  cases hreg
  have hL : lenOf s = ((lines s).length : Int) := rfl
  have hl1 : lines s1 = lines s := by rw [hs1]; rfl
  have hx1 : s1.ed.xrow = r1 := by rw [hs1]
  have hL1 : lenOf s1 = lenOf s := by unfold lenOf; rw [hl1]
  obtain ⟨hrd, hne, hsplit⟩ := put_of_rows s1 s.ed.regs s.ybuf (lines s) r1.toNat (r2.toNat - r1.toNat)
    (by rw [hs1]) (by rw [hs1]; rfl) hwf hc hu h59 h35 h94 (by rw [hs1]; exact ha) hlines (by omega)
  obtain ⟨hl2, hx2, _⟩ := vcPut_line_p_spec s1 s2 b _ 1 hrd hne (by decide)
    (by rw [hL1]; omega) (by rw [hx1]; exact h0) (by rw [hx1, hL1]; omega) hp
  refine ⟨?_, by rw [hx2, hx1]⟩
  rw [hl2, hsplit, hx1, hl1]

/-! ## D. concrete instances -/

/-- the two lines `hello w`, `b` -/
def ed2 : Ed := { bufs := [some { path := [], lb := { lines := [[104, 101, 108, 108, 111, 32, 119, 10], [98, 10]] } }] }
def vs2 : VS := { ed := ed2 }

def linesAfter (r : Res Nat) : List Bytes := match r with | Res.ok _ s => lines s | _ => []
def stateAfter (r : Res Nat) : VS := match r with | Res.ok _ s => s | _ => vs2
def reg (s : VS) (c : Nat) : Option Bytes × Nat := s.ed.regs.getRaw c

-- `dw` at the start of row 0 deletes the characters 0..5 (`hello `) into the unnamed register …
example : linesAfter (viDelete 0 0 0 6 false vs2) = [[119, 10], [98, 10]] := by decide +kernel
example : reg (stateAfter (viDelete 0 0 0 6 false vs2)) 0 = (some [104, 101, 108, 108, 111, 32], 0) := by decide +kernel
-- … and `P` puts them back
example : linesAfter (vcPut 80 (stateAfter (viDelete 0 0 0 6 false vs2))) = lines vs2 := by decide +kernel

-- `"ayy` on row 0, then `"Ayy` on row 1: the second yank appends, the text is untouched
def y1 : VS := stateAfter (viYank 0 0 0 0 true { vs2 with ybuf := 97 })
def y2 : VS := stateAfter (viYank 1 0 1 0 true { y1 with ybuf := 65 })
example : reg y1 97 = (some [104, 101, 108, 108, 111, 32, 119, 10], 1) := by decide +kernel
example : reg y2 97 = (some [104, 101, 108, 108, 111, 32, 119, 10, 98, 10], 1) := by decide +kernel
example : lines y2 = lines vs2 := by decide +kernel

-- `dd` twice: the first deleted line moves from `"1` to `"2`
def d1 : VS := stateAfter (viDelete 0 0 0 0 true vs2)
def d2 : VS := stateAfter (viDelete 0 0 0 0 true d1)
example : reg d1 49 = (some [104, 101, 108, 108, 111, 32, 119, 10], 1) ∧ lines d1 = [[98, 10]] := by decide +kernel
example : reg d2 49 = (some [98, 10], 1) ∧ reg d2 50 = (some [104, 101, 108, 108, 111, 32, 119, 10], 1) ∧
    reg d2 0 = (some [98, 10], 1) ∧ lines d2 = [] := by decide +kernel
-- `dd` on row 0 then `P` restores the two lines
example : linesAfter (vcPut 80 d1) = lines vs2 := by decide +kernel
-- `""yy` stores into the unnamed register
example : reg (stateAfter (viYank 1 0 1 0 true { vs2 with ybuf := 34 })) 0 = (some [98, 10], 1) := by decide +kernel

end Neatvi.Props.C08
