import NeatviVerif.Lemmas.C08bCase
import NeatviVerif.Lemmas.C08bWord
import NeatviVerif.Lemmas.C08eOne
/-!
# C08 (second part): insert mode and the remaining editing commands

The line editor `led_line`, run on a key stream, computes the reference semantics `runScript` of the
insert-mode keys (`ledLine_script`); `led_input` / `vi_input` put the typed text between the prefix and the
rest of the line (`Inputs K cs`: the keys `K` type the text `cs`).  On top of that `vc_insert`
(`i a I A o O`) and `vi_change` are specified on lines of valid UTF-8, and beside them the commands that
do not enter insert mode: `vc_join`, `vc_replace`, the case commands, `vi_shift`.  What is not proved is
stated at the end (`*_full`), before some concrete runs.

All statements are about the model (`Model/Vi.lean`, `Model/ViCmd.lean`), total (the command returns
`Res.ok`, no trap), for every state satisfying the stated hypotheses.

Vocabulary (`Lemmas/C08bLed.lean`, `Lemmas/C08bSim.lean`):
* `pending s`: the key stream the editor is going to see (C09);
* `Reads ins used s s'`: `s'` is `s` after reading the keys `used`: only the queue fields
  (`ibuf`, `ibufPos`, `typed`), `icmd` (= `icmdAfterL s.icmd used`: the keys appended, up to the 4096
  limit of `term.c`) and, when `ins`, `ed.xleft` differ (`reads_iff`);
* `Ev`, `runScript`: the events of an insert session and their reference semantics.
-/
namespace Neatvi.Props.C08b
open Neatvi Neatvi.Uc Neatvi.Vi Neatvi.Ex Neatvi.Spec Neatvi.Lemmas.C08 Neatvi.Lemmas.C08b Neatvi.Lemmas.C09

/-! ## 1. `led_line` -/

/-- what `Reads` says, field by field -/
theorem reads_iff (ins : Bool) (used : Bytes) (s s' : VS) : Reads ins used s s' ↔
    ∃ ib ip ty xl, s' = { s with ibuf := ib, ibufPos := ip, typed := ty, icmd := icmdAfterL s.icmd used,
                                 ed := { s.ed with xleft := xl } } ∧ (ins = false → xl = s.ed.xleft) := Iff.rfl

/-- below the 4096 limit `icmd` simply grows by the keys read -/
theorem reads_icmd {ins : Bool} {used : Bytes} {s s' : VS} (h : Reads ins used s s')
    (hl : s.icmd.length + used.length ≤ 4096) : s'.icmd = s.icmd ++ used := by
  obtain ⟨ib, ip, ty, xl, rfl, -⟩ := h
  exact icmdAfterL_room _ _ hl

/-- **the line editor computes the reference semantics of the editing keys.**  If the pending keys are
those of the edit script `evs` followed by an ending key `e` (newline, ESC or `^C`), under the default
keymap, `led_line` returns the text and auto-indent `runScript` computes from `([], ai0)`, with the
ending key; the keys up to and including `e` are consumed and nothing else changes.
(`scriptSteps evs < 100000`: the bound of the model's loop.) -/
theorem ledLine_script (pref post ai0 : Bytes) (aiMax : Nat) (ins ex : Bool) (s : VS) (evs : List Ev)
    (e : Nat) (rest : Bytes)
    (hp : pending s = scriptKeys evs ++ e :: rest) (hok : ∀ ev ∈ evs, ev.ok) (he : e = 10 ∨ e = 27 ∨ e = 3)
    (hfuel : scriptSteps evs < 100000) (hk : (if ex then s.exKmap else s.xkmap) = 0) :
    ∃ s', ledLine pref post ai0 aiMax ins ex s =
        Res.ok ((runScript pref.isEmpty aiMax evs ([], ai0)).1, (e : Int), (runScript pref.isEmpty aiMax evs ([], ai0)).2) s' ∧
      pending s' = rest ∧ Reads ins (scriptKeys evs ++ [e]) s s' :=
  Lemmas.C08b.ledLine_script pref post ai0 aiMax ins ex s evs e rest hp hok he hfuel hk

/-- `ledLine_plain`: printable ASCII text and ESC -/
theorem ledLine_plain (pref post ai : Bytes) (aiMax : Nat) (ins : Bool) (s : VS) (txt rest : Bytes)
    (hp : pending s = txt ++ [27] ++ rest) (hpl : ∀ b ∈ txt, 32 ≤ b ∧ b < 127)
    (hlen : txt.length < 100000) (hk : s.xkmap = 0) :
    ∃ s', ledLine pref post ai aiMax ins false s = Res.ok (txt, 27, ai) s' ∧ pending s' = rest ∧
      Reads ins (txt ++ [27]) s s' := by
  have henc : encStr txt = txt := Uc.encStr_ascii (fun b hb => by have := hpl b hb; omega)
  have := ledLine_text pref post ai aiMax ins false s txt 27 rest (by rw [henc, hp]; simp)
    (fun c hc => Or.inl (typable_of_plain (hpl c hc))) (Or.inr (Or.inl rfl)) hlen hk
  rw [henc] at this
  exact this

/-- the same for valid UTF-8 text: the code points `cs` (valid, ≥ 32, not DEL) sent as their encoding -/
theorem ledLine_utf8 (pref post ai : Bytes) (aiMax : Nat) (ins : Bool) (s : VS) (cs : List Nat) (rest : Bytes)
    (hp : pending s = encStr cs ++ [27] ++ rest) (hpl : ∀ c ∈ cs, ValidCp c ∧ 32 ≤ c ∧ c ≠ 127)
    (hlen : cs.length < 100000) (hk : s.xkmap = 0) :
    ∃ s', ledLine pref post ai aiMax ins false s = Res.ok (encStr cs, 27, ai) s' ∧ pending s' = rest ∧
      Reads ins (encStr cs ++ [27]) s s' :=
  ledLine_text pref post ai aiMax ins false s cs 27 rest (by rw [hp]; simp) (fun c hc => Or.inl (hpl c hc)) (Or.inr (Or.inl rfl)) hlen hk

/-- `ledLine_backspace`: `^H` (or DEL) after the text `cs ++ [c]` removes the character `c`; typing
goes on after it.  (ASCII: the last byte is removed, `take_lastChar_ascii`.) -/
theorem ledLine_backspace (pref post ai : Bytes) (aiMax : Nat) (ins : Bool) (s : VS) (cs : List Nat) (c : Nat)
    (cs2 : List Nat) (k : Nat) (rest : Bytes) (hkey : k = 8 ∨ k = 127)
    (hp : pending s = encStr (cs ++ [c]) ++ [k] ++ encStr cs2 ++ [27] ++ rest)
    (hpl : ∀ d ∈ cs ++ [c] ++ cs2, ValidCp d ∧ 32 ≤ d ∧ d ≠ 127)
    (hlen : cs.length + cs2.length + 2 < 100000) (hk : s.xkmap = 0) :
    ∃ s', ledLine pref post ai aiMax ins false s = Res.ok (encStr (cs ++ cs2), 27, ai) s' ∧ pending s' = rest ∧
      Reads ins (encStr (cs ++ [c]) ++ [k] ++ encStr cs2 ++ [27]) s s' := by
  have hc : ValidCp c := (hpl c (by simp)).1
  have hok : ∀ d ∈ (cs ++ [c]) ++ cs2, Typable d := hpl
  have hrun : (encStr (cs ++ [c])).take (lastChar (encStr (cs ++ [c]))) = encStr cs := by
    rw [encStr_append, encStr_cons, encStr_nil, List.append_nil, take_lastChar_enc _ c hc]
  rw [encStr_append cs cs2, ← hrun]
  rcases hkey with rfl | rfl
  · exact ledLine_text_key_text Ev.bs trivial rfl pref post ai aiMax ins s (cs ++ [c]) cs2 rest hp hok (by simp; omega) hk
  · exact ledLine_text_key_text Ev.del trivial rfl pref post ai aiMax ins s (cs ++ [c]) cs2 rest hp hok (by simp; omega) hk

/-- `ledLine_killline`: `^U` empties the text typed so far -/
theorem ledLine_killline (pref post ai : Bytes) (aiMax : Nat) (ins : Bool) (s : VS) (cs cs2 : List Nat) (rest : Bytes)
    (hp : pending s = encStr cs ++ [21] ++ encStr cs2 ++ [27] ++ rest)
    (hpl : ∀ d ∈ cs ++ cs2, ValidCp d ∧ 32 ≤ d ∧ d ≠ 127)
    (hlen : cs.length + cs2.length + 1 < 100000) (hk : s.xkmap = 0) :
    ∃ s', ledLine pref post ai aiMax ins false s = Res.ok (encStr cs2, 27, ai) s' ∧ pending s' = rest ∧
      Reads ins (encStr cs ++ [21] ++ encStr cs2 ++ [27]) s s' :=
  ledLine_text_key_text Ev.killLine trivial rfl pref post ai aiMax ins s cs cs2 rest hp hpl hlen hk

/-- `ledLine_killword`: `^W` cuts the text at `led_lastword` (see `lastWord_ascii` for what that is) -/
theorem ledLine_killword (pref post ai : Bytes) (aiMax : Nat) (ins : Bool) (s : VS) (cs cs2 : List Nat) (rest : Bytes)
    (hp : pending s = encStr cs ++ [23] ++ encStr cs2 ++ [27] ++ rest)
    (hpl : ∀ d ∈ cs ++ cs2, ValidCp d ∧ 32 ≤ d ∧ d ≠ 127)
    (hlen : cs.length + cs2.length + 1 < 100000) (hk : s.xkmap = 0) :
    ∃ s', ledLine pref post ai aiMax ins false s =
        Res.ok ((encStr cs).take (lastWord (encStr cs)) ++ encStr cs2, 27, ai) s' ∧ pending s' = rest ∧
      Reads ins (encStr cs ++ [23] ++ encStr cs2 ++ [27]) s s' :=
  ledLine_text_key_text Ev.killWord trivial rfl pref post ai aiMax ins s cs cs2 rest hp hpl hlen hk

/-- `led_lastword` on ASCII text: from the end, skip the white space, then the run of characters of the
same kind (word characters / punctuation) as the last non-blank (`lastWordRef`) -/
theorem lastWord_ascii (s : Bytes) (h : ∀ b ∈ s, 0 < b ∧ b < 128) : lastWord s = lastWordRef s := by
  cases hs : s with
  | nil => rfl
  | cons x t =>
    rw [← hs]
    have hne : s.isEmpty = false := by rw [hs]; rfl
    have hpos : 0 < s.length := by rw [hs]; simp
    obtain ⟨hlen, hget⟩ := chop_ascii s h
    unfold lastWord
    rw [hne]
    simp only [Bool.false_eq_true, if_false, hlen]
    have hS : ∀ i, i < s.length →
        (fun i => ucIsSpace (s.getD ((ucChop s).dropLast.getD i 0) 0)) i = ucIsSpace (s.getD i 0) := by
      intro i hi; simp only [hget i hi]
    have hK : ∀ i, i < s.length →
        (fun i => ucKind (s.getD ((ucChop s).dropLast.getD i 0) 0)) i = ucKind (s.getD i 0) := by
      intro i hi; simp only [hget i hi]
    have h1 := back1_spec _ s hS (s.length - 1) s.length (by omega) (by omega)
    rw [show s.length - 1 + 1 = s.length by omega, List.take_length] at h1
    rw [h1]
    have hd := reverse_dropWhile_eq s ucIsSpace
    have hL : (s.reverse.dropWhile ucIsSpace).length ≤ s.length := by
      have := (List.dropWhile_sublist ucIsSpace (l := s.reverse)).length_le
      simpa using this
    unfold lastWordRef
    generalize hLdef : (s.reverse.dropWhile ucIsSpace).length = L at hd hL h1 ⊢
    cases L with
    | zero =>
      have : s.reverse.dropWhile ucIsSpace = [] := List.eq_nil_of_length_eq_zero hLdef
      rw [this]
      simp only [Nat.zero_sub, Nat.lt_irrefl, if_false, gt_iff_lt]
      rw [back2_spec _ 0 s hK 0 s.length (by omega) (by omega)]
      have h00 := hget 0 hpos
      simpa using h00
    | succ r =>
      rw [take_succ_reverse s r (by omega)] at hd
      rw [hd]
      simp only [Nat.add_sub_cancel]
      have hr : r < s.length := by omega
      by_cases hr0 : r = 0
      · subst hr0
        simp only [Nat.lt_irrefl, if_false, gt_iff_lt, List.take_zero, List.reverse_nil,
          List.dropWhile_nil, List.length_nil]
        rw [back2_spec _ 0 s hK 0 s.length (by omega) (by omega)]
        have h00 := hget 0 hpos
        simpa using h00
      · have hgt : r > 0 := by omega
        simp only [hgt, if_true, hget r hr]
        rw [back2_spec _ _ s hK r s.length (by omega) (by omega)]
        have hle : ((s.take r).reverse.dropWhile (fun x => ucKind x == ucKind (s.getD r 0))).length ≤ r := by
          have := (List.dropWhile_sublist (fun x => ucKind x == ucKind (s.getD r 0)) (l := (s.take r).reverse)).length_le
          simp only [List.length_reverse, List.length_take] at this
          omega
        rw [hget _ (by omega)]

/-- `^W` on printable ASCII text: the text is cut at `lastWordRef` -/
theorem ledLine_killword_ascii (pref post ai : Bytes) (aiMax : Nat) (ins : Bool) (s : VS) (txt txt2 rest : Bytes)
    (hp : pending s = txt ++ [23] ++ txt2 ++ [27] ++ rest)
    (hpl : ∀ b ∈ txt ++ txt2, 32 ≤ b ∧ b < 127)
    (hlen : txt.length + txt2.length + 1 < 100000) (hk : s.xkmap = 0) :
    ∃ s', ledLine pref post ai aiMax ins false s = Res.ok (txt.take (lastWordRef txt) ++ txt2, 27, ai) s' ∧
      pending s' = rest ∧ Reads ins (txt ++ [23] ++ txt2 ++ [27]) s s' := by
  have h1 : encStr txt = txt := Uc.encStr_ascii (fun b hb => by have := hpl b (List.mem_append_left _ hb); omega)
  have h2 : encStr txt2 = txt2 := Uc.encStr_ascii (fun b hb => by have := hpl b (List.mem_append_right _ hb); omega)
  have := ledLine_killword pref post ai aiMax ins s txt txt2 rest (by rw [h1, h2]; exact hp)
    (fun d hd => by have := hpl d hd; exact ⟨⟨by omega, by omega⟩, by omega, by omega⟩) hlen hk
  rw [h1, h2, lastWord_ascii txt (fun b hb => by have := hpl b (List.mem_append_left _ hb); omega)] at this
  exact this

-- `foo bar  ` ^W → `foo `;  `foo.bar` ^W → `foo.`;  `   ` ^W → nothing left
example : lastWordRef [102, 111, 111, 32, 98, 97, 114, 32, 32] = 4 := by decide
example : lastWordRef [102, 111, 111, 46, 98, 97, 114] = 4 := by decide
example : lastWordRef [32, 32, 32] = 0 := by decide

/-- `ledLine_literal`: `^V d` inserts the byte `d` (any key but NUL, also ESC or an editing key) -/
theorem ledLine_literal (pref post ai : Bytes) (aiMax : Nat) (ins : Bool) (s : VS) (cs cs2 : List Nat) (d : Nat)
    (rest : Bytes) (hd : 0 < d ∧ d < 256)
    (hp : pending s = encStr cs ++ [22, d] ++ encStr cs2 ++ [27] ++ rest)
    (hpl : ∀ d ∈ cs ++ cs2, ValidCp d ∧ 32 ≤ d ∧ d ≠ 127)
    (hlen : cs.length + cs2.length + 1 < 100000) (hk : s.xkmap = 0) :
    ∃ s', ledLine pref post ai aiMax ins false s = Res.ok (encStr cs ++ [d] ++ encStr cs2, 27, ai) s' ∧
      pending s' = rest ∧ Reads ins (encStr cs ++ [22, d] ++ encStr cs2 ++ [27]) s s' := by
  have := ledLine_text_key_text (Ev.lit d) trivial rfl pref post ai aiMax ins s cs cs2 rest hp hpl hlen hk
  simp only [Ev.apply] at this
  rw [show d % 256 = d by omega, if_neg (by simp; omega)] at this
  exact this

/-! ## 2. `led_input`, `vi_input`: an insertion ended by ESC on its first line

`aiOf pref` is the auto-indent (the leading blanks of `pref`, at most 127), `prefRest pref` the rest;
`inputLine pref post ln ai = (if keepAi pref post ln then ai else []) ++ prefRest pref ++ ln ++ post`. -/

/-- the auto-indent and the rest make up the prefix -/
theorem aiOf_prefRest (pref : Bytes) : aiOf pref ++ prefRest pref = pref := aiOf_append_prefRest pref

/-- the auto-indent is dropped only for a blank typed line, after an all-blank prefix, with nothing but
(at most) the newline after it -/
theorem keepAi_eq_false_iff (pref post ln : Bytes) : keepAi pref post ln = false ↔
    (ln.takeWhile isBlankC).length = ln.length ∧ prefRest pref = [] ∧ (post = [] ∨ post.headD 0 = 10) := by
  have hle : (ln.takeWhile isBlankC).length ≤ ln.length := (List.takeWhile_sublist _).length_le
  unfold keepAi
  cases hpr : prefRest pref <;> cases post <;> simp <;> omega

/-- with the auto-indent kept, the text is prefix ++ typed line ++ rest of the line -/
theorem inputLine_keep (pref post ln : Bytes) (h : keepAi pref post ln = true) :
    inputLine pref post ln (aiOf pref) = pref ++ ln ++ post := Lemmas.C08b.inputLine_keep pref post ln h

/-- a typed line that starts with a non-blank keeps the auto-indent -/
theorem keepAi_of_nonblank (pref post : Bytes) (b : Nat) (t : Bytes) (hb : isBlankC b = false) :
    keepAi pref post (b :: t) = true := by
  unfold keepAi
  simp [hb]

/-- `led_input` for an edit script ended by ESC / `^C` (no literal newline in the resulting line):
the line returned by `led_line` is put between the prefix and the rest of the line -/
theorem ledInput_single_line_script (pref post : Bytes) (s : VS) (evs : List Ev) (e : Nat) (rest : Bytes)
    (hp : pending s = scriptKeys evs ++ e :: rest) (hok : ∀ ev ∈ evs, ev.ok) (he : e = 27 ∨ e = 3)
    (hfuel : scriptSteps evs < 100000) (hk : s.xkmap = 0)
    (hnl : nlCount (runScript (prefRest pref).isEmpty 127 evs ([], aiOf pref)).1 = 0) :
    ∃ s', ledInput pref post s =
        Res.ok (inputLine pref post (runScript (prefRest pref).isEmpty 127 evs ([], aiOf pref)).1
                  (runScript (prefRest pref).isEmpty 127 evs ([], aiOf pref)).2, post) s' ∧
      pending s' = rest ∧ Reads true (scriptKeys evs ++ [e]) s s' :=
  ledInput_script pref post s evs e rest hp hok he hfuel hk hnl

/-- `ledInput_single_line`: typed text `cs` (valid UTF-8, no control characters) and ESC -/
theorem ledInput_single_line (pref post : Bytes) (s : VS) (cs : List Nat) (rest : Bytes)
    (hp : pending s = encStr cs ++ [27] ++ rest) (hpl : ∀ c ∈ cs, ValidCp c ∧ 32 ≤ c ∧ c ≠ 127)
    (hlen : cs.length < 100000) (hk : s.xkmap = 0) :
    ∃ s', ledInput pref post s = Res.ok (inputLine pref post (encStr cs) (aiOf pref), post) s' ∧
      pending s' = rest ∧ Reads true (encStr cs ++ [27]) s s' :=
  ledInput_text pref post s cs rest hp hpl hlen hk

/-- `viInput_single_line`: prefix `encStr ps` (no newline), rest of the line `encStr qs`, typed text
`cs`, auto-indent kept: the replacement text is prefix ++ text ++ rest, the row count is the number of
newlines of the rest (1 for the rest of a buffer line), the offset that of the last typed character -/
theorem viInput_single_line (ps qs : List Nat) (s : VS) (cs : List Nat) (rest : Bytes)
    (hps : ∀ c ∈ ps, ValidCp c) (hqs : ∀ c ∈ qs, ValidCp c) (hps10 : 10 ∉ ps)
    (hp : pending s = encStr cs ++ [27] ++ rest) (hpl : ∀ c ∈ cs, ValidCp c ∧ 32 ≤ c ∧ c ≠ 127)
    (hlen : cs.length < 100000) (hk : s.xkmap = 0)
    (hkeep : keepAi (encStr ps) (encStr qs) (encStr cs) = true) :
    ∃ s', viInput (encStr ps) (encStr qs) s =
        Res.ok (encStr (ps ++ cs ++ qs), (nlCount (encStr qs) : Int),
          if ((ps.length + cs.length : Nat) : Int) - 1 < 0 then 0 else ((ps.length + cs.length : Nat) : Int) - 1) s' ∧
      pending s' = rest ∧ Reads true (encStr cs ++ [27]) s s' :=
  viInput_single_line_aux ps qs s _ cs rest hps hqs hps10 (inputs_text cs hpl hlen) hp (fun c hc => (hpl c hc).1)
    (fun h => by have := hpl 10 h; omega) hk hkeep

/-- `ledInput_two_lines`: text, newline, text, ESC.  `led_input` returns prefix ++ first line ++ newline ++
auto-indent ++ second line ++ rest, where with `autoindent` the auto-indent is `aiOf pref` and the rest of
the line loses its leading blanks (`aiAfterNl`, `postAfterNl`; without it: none, unchanged).  The cursor
row has moved down by one (`vi_nextline`); the text and the registers are untouched. -/
theorem ledInput_two_lines (pref post : Bytes) (s : VS) (cs1 cs2 : List Nat) (rest : Bytes)
    (hp : pending s = encStr cs1 ++ [10] ++ encStr cs2 ++ [27] ++ rest)
    (hpl : ∀ c ∈ cs1 ++ cs2, ValidCp c ∧ 32 ≤ c ∧ c ≠ 127)
    (hne1 : cs1.head? ≠ none ∧ cs1.head? ≠ some 32) (hne2 : cs2.head? ≠ none ∧ cs2.head? ≠ some 32)
    (hlen1 : cs1.length < 100000) (hlen2 : cs2.length < 100000) (hk : s.xkmap = 0) :
    ∃ s', ledInput pref post s =
        Res.ok (pref ++ encStr cs1 ++ [10] ++ aiAfterNl s pref ++ encStr cs2 ++ postAfterNl s post, postAfterNl s post) s' ∧
      pending s' = rest ∧ ReadsEd (encStr cs1 ++ [10] ++ encStr cs2 ++ [27]) s s' ∧
      lines s' = lines s ∧ s'.ed.xrow = s.ed.xrow + 1 ∧ s'.ed.regs = s.ed.regs :=
  Lemmas.C08b.ledInput_two_lines pref post s cs1 cs2 rest hp hpl hne1 hne2 hlen1 hlen2 hk

/-! ### the keys of an insertion

`Inputs K cs`: on every state whose pending keys start with `K` (default keymap), `led_input` consumes
exactly `K` and returns the text `cs` between the prefix and the rest of the line.  The commands below
are stated for any such `K`. -/

/-- what `Inputs` says -/
theorem inputs_iff (K : Bytes) (cs : List Nat) : Inputs K cs ↔
    ∀ (pref post : Bytes) (s : VS) (rest : Bytes), pending s = K ++ rest → s.xkmap = 0 →
      ∃ s', ledInput pref post s = Res.ok (inputLine pref post (encStr cs) (aiOf pref), post) s' ∧
        pending s' = rest ∧ Reads true K s s' := Iff.rfl

/-- plain text (valid UTF-8, no control characters) and ESC -/
theorem inputs_text (cs : List Nat) (hpl : ∀ c ∈ cs, ValidCp c ∧ 32 ≤ c ∧ c ≠ 127) (hlen : cs.length < 100000) :
    Inputs (encStr cs ++ [27]) cs := Lemmas.C08b.inputs_text cs hpl hlen

/-- any script of text / `^H` / DEL / `^U` / `^W` / `^V c` events that types `cs` (`Types evs cs`: the
events are well formed, fewer than 100000 loop iterations, and `runScript` leaves the encoding of `cs`),
followed by ESC -/
theorem inputs_script (evs : List Ev) (cs : List Nat) (hty : Types evs cs) (h10 : 10 ∉ cs) :
    Inputs (scriptKeys evs ++ [27]) cs := by
  intro pref post s rest hp hk
  obtain ⟨hok, hfuel, htxt⟩ := hty
  have hrun := runScript_noIndent (prefRest pref).isEmpty 127 evs [] (aiOf pref) (fun ev hev => (hok ev hev).2)
  have htxt' : (runScript false 127 evs ([], [])).1 = encStr cs := htxt
  obtain ⟨s', h1, h2, h3⟩ := ledInput_script pref post s evs 27 rest (by rw [hp]; simp)
    (fun ev hev => (hok ev hev).1) (Or.inl rfl) hfuel hk
    (by rw [hrun, htxt']; exact nlCount_encStr h10)
  rw [hrun, htxt'] at h1
  exact ⟨s', h1, h2, h3⟩

/-- e.g. text, a backspace, more text -/
theorem types_backspace (cs : List Nat) (c : Nat) (cs2 : List Nat)
    (h : ∀ d ∈ cs ++ [c] ++ cs2, ValidCp d ∧ 32 ≤ d ∧ d ≠ 127) (hlen : cs.length + cs2.length + 2 < 100000) :
    Types [Ev.text (cs ++ [c]), Ev.bs, Ev.text cs2] (cs ++ cs2) := by
  refine ⟨?_, by simp [scriptSteps, Ev.steps]; omega, ?_⟩
  · intro ev hev
    simp only [List.mem_cons, List.not_mem_nil, or_false] at hev
    rcases hev with rfl | rfl | rfl
    · exact ⟨fun d hd => h d (List.mem_append_left _ hd), trivial⟩
    · exact ⟨trivial, trivial⟩
    · exact ⟨fun d hd => h d (List.mem_append_right _ hd), trivial⟩
  · show (Ev.apply false 127 (Ev.text cs2) (Ev.apply false 127 Ev.bs (Ev.apply false 127 (Ev.text (cs ++ [c])) ([], [])))).1 = _
    simp only [Ev.apply, List.nil_append]
    rw [encStr_append, encStr_cons, encStr_nil, List.append_nil,
      take_lastChar_enc _ c (h c (by simp)).1, encStr_append]

/-! ## 3. `vc_insert`: `i a I A` on an existing line

The line under the cursor is `encStr (body ++ [10])` (valid UTF-8; ASCII is the special case
`encStr_ascii`).  The keys `K` type the text `cs` and leave insert mode (`Inputs K cs`): e.g. the plain
text `cs` and ESC (`inputs_text`), or any script of text / `^H` / DEL / `^U` / `^W` / `^V c` events whose
net result is `cs`, and ESC (`inputs_script`).  `cs` is non-empty and does not start with a blank.
`Inserted used s s' r new del row off`: the rows `r .. r+del-1` of `s` were replaced by the lines `new`,
the cursor is `(row, off)`, the registers are unchanged, and apart from the editor record only the key
queue and `icmd` (the keys `used`) differ. -/

/-- what `Inserted` says -/
theorem inserted_iff (used : Bytes) (s s' : VS) (r : Int) (new : List Bytes) (del : Nat) (row off : Int) :
    Inserted used s s' r new del row off ↔
      lines s' = (lines s).take r.toNat ++ new ++ (lines s).drop (r.toNat + del) ∧
      s'.ed.xrow = row ∧ s'.ed.xoff = off ∧ s'.ed.regs = s.ed.regs ∧
      ∃ ib ip ty, s' = { s with ibuf := ib, ibufPos := ip, typed := ty, icmd := icmdAfterL s.icmd used, ed := s'.ed } :=
  ⟨fun h => ⟨h.lines, h.xrow, h.xoff, h.regs, h.frame⟩, fun h => ⟨h.1, h.2.1, h.2.2.1, h.2.2.2.1, h.2.2.2.2⟩⟩

/-- `vcInsert_i_spec`: `i` with the cursor on character `o` inserts the text before that character;
the cursor ends on the last typed character -/
theorem vcInsert_i_spec (s : VS) (body cs : List Nat) (o : Nat) (K rest : Bytes)
    (hr0 : 0 ≤ s.ed.xrow) (hline : (lines s)[s.ed.xrow.toNat]? = some (encStr (body ++ [10])))
    (hb : ∀ c ∈ body, ValidCp c) (hb10 : 10 ∉ body) (ho : s.ed.xoff = (o : Int)) (hol : o < body.length)
    (hin : Inputs K cs) (hp : pending s = K ++ rest) (hpl : ∀ c ∈ cs, ValidCp c) (h10 : 10 ∉ cs)
    (hne : cs.head? ≠ none ∧ cs.head? ≠ some 32 ∧ cs.head? ≠ some 9) (hk : s.xkmap = 0) :
    ∃ s', vcInsert 105 s = Res.ok VC_OK s' ∧ pending s' = rest ∧
      Inserted K s s' s.ed.xrow [encStr (body.take o ++ cs ++ (body.drop o ++ [10]))] 1 s.ed.xrow
        ((o : Int) + cs.length - 1) :=
  vcInsert_at 105 (Or.inl rfl) s body cs o K rest hr0 hline hb hb10 (insOff_i s body o hb hb10 ho hol) (by omega) hin hp
    hpl h10 hne hk

/-- `vcInsert_a_spec`: `a` inserts after the cursor character -/
theorem vcInsert_a_spec (s : VS) (body cs : List Nat) (o : Nat) (K rest : Bytes)
    (hr0 : 0 ≤ s.ed.xrow) (hline : (lines s)[s.ed.xrow.toNat]? = some (encStr (body ++ [10])))
    (hb : ∀ c ∈ body, ValidCp c) (hb10 : 10 ∉ body) (ho : s.ed.xoff = (o : Int)) (hol : o < body.length)
    (hin : Inputs K cs) (hp : pending s = K ++ rest) (hpl : ∀ c ∈ cs, ValidCp c) (h10 : 10 ∉ cs)
    (hne : cs.head? ≠ none ∧ cs.head? ≠ some 32 ∧ cs.head? ≠ some 9) (hk : s.xkmap = 0) :
    ∃ s', vcInsert 97 s = Res.ok VC_OK s' ∧ pending s' = rest ∧
      Inserted K s s' s.ed.xrow
        [encStr (body.take (o + 1) ++ cs ++ (body.drop (o + 1) ++ [10]))] 1 s.ed.xrow ((o : Int) + cs.length) := by
  have := vcInsert_at 97 (Or.inr (Or.inl rfl)) s body cs (o + 1) K rest hr0 hline hb hb10 (insOff_a s body o hb hb10 ho hol)
    (by omega) hin hp hpl h10 hne hk
  rw [show ((o + 1 : Nat) : Int) + cs.length - 1 = (o : Int) + cs.length by omega] at this
  exact this

/-- `vcInsert_A_spec`: `A` appends at the end of the (non-empty) line, wherever the cursor is -/
theorem vcInsert_A_spec (s : VS) (body cs : List Nat) (K rest : Bytes)
    (hr0 : 0 ≤ s.ed.xrow) (hline : (lines s)[s.ed.xrow.toNat]? = some (encStr (body ++ [10])))
    (hb : ∀ c ∈ body, ValidCp c) (hb10 : 10 ∉ body) (hbne : body ≠ [])
    (hin : Inputs K cs) (hp : pending s = K ++ rest) (hpl : ∀ c ∈ cs, ValidCp c) (h10 : 10 ∉ cs)
    (hne : cs.head? ≠ none ∧ cs.head? ≠ some 32 ∧ cs.head? ≠ some 9) (hk : s.xkmap = 0) :
    ∃ s', vcInsert 65 s = Res.ok VC_OK s' ∧ pending s' = rest ∧
      Inserted K s s' s.ed.xrow [encStr (body ++ cs ++ [10])] 1 s.ed.xrow
        ((body.length : Int) + cs.length - 1) := by
  have := vcInsert_at 65 (Or.inr (Or.inr (Or.inr rfl))) s body cs body.length K rest hr0 hline hb hb10
    (insOff_A s body hr0 hline hb hb10 hbne) (Nat.le_refl _) hin hp hpl h10 hne hk
  rw [List.take_length, List.drop_length, List.nil_append] at this
  exact this

/-- `vcInsert_I_spec`: `I` inserts before the first non-blank character (at character offset `k`, the
number of leading white-space characters; the line is not all blank) -/
theorem vcInsert_I_spec (s : VS) (body cs : List Nat) (K rest : Bytes)
    (hr0 : 0 ≤ s.ed.xrow) (hline : (lines s)[s.ed.xrow.toNat]? = some (encStr (body ++ [10])))
    (hb : ∀ c ∈ body, ValidCp c) (hb10 : 10 ∉ body)
    (hk' : (body.takeWhile ucIsSpace).length < body.length)
    (hin : Inputs K cs) (hp : pending s = K ++ rest) (hpl : ∀ c ∈ cs, ValidCp c) (h10 : 10 ∉ cs)
    (hne : cs.head? ≠ none ∧ cs.head? ≠ some 32 ∧ cs.head? ≠ some 9) (hk : s.xkmap = 0) :
    ∃ s', vcInsert 73 s = Res.ok VC_OK s' ∧ pending s' = rest ∧
      Inserted K s s' s.ed.xrow
        [encStr (body.take (body.takeWhile ucIsSpace).length ++ cs ++ (body.drop (body.takeWhile ucIsSpace).length ++ [10]))]
        1 s.ed.xrow (((body.takeWhile ucIsSpace).length : Int) + cs.length - 1) := by
  exact vcInsert_at 73 (Or.inr (Or.inr (Or.inl rfl))) s body cs _ K rest hr0 hline hb hb10
    (insOff_I s body hr0 hline hb hb10 hk') (Nat.le_of_lt hk') hin hp hpl h10 hne hk

/-- on an empty line `i`, `a`, `I`, `A` all type the text at its start -/
theorem vcInsert_emptyline_spec (cmd : Nat) (hcmd : cmd = 105 ∨ cmd = 97 ∨ cmd = 73 ∨ cmd = 65)
    (s : VS) (cs : List Nat) (K rest : Bytes)
    (hr0 : 0 ≤ s.ed.xrow) (hline : (lines s)[s.ed.xrow.toNat]? = some [10])
    (hin : Inputs K cs) (hp : pending s = K ++ rest) (hpl : ∀ c ∈ cs, ValidCp c) (h10 : 10 ∉ cs)
    (hne : cs.head? ≠ none ∧ cs.head? ≠ some 32 ∧ cs.head? ≠ some 9) (hk : s.xkmap = 0) :
    ∃ s', vcInsert cmd s = Res.ok VC_OK s' ∧ pending s' = rest ∧
      Inserted K s s' s.ed.xrow [encStr (cs ++ [10])] 1 s.ed.xrow ((cs.length : Int) - 1) := by
  have := vcInsert_at cmd hcmd s [] cs 0 K rest hr0 hline (by simp) (by simp) rfl (Nat.le_refl _) hin hp hpl h10 hne hk
  simpa using this

/-- `vcInsert_i_plain`: the ASCII form.  The line is `w ++ [10]` (bytes 1..127, no newline), the cursor
is on byte `o`, the keys are the printable text `txt` (non-empty, not starting with a space) and ESC:
the line becomes `w.take o ++ txt ++ w.drop o ++ [10]`, the other lines are unchanged, the cursor ends
on the last typed character -/
theorem vcInsert_i_plain (s : VS) (w txt : Bytes) (o : Nat) (rest : Bytes)
    (hr0 : 0 ≤ s.ed.xrow) (hline : (lines s)[s.ed.xrow.toNat]? = some (w ++ [10]))
    (hw : ∀ b ∈ w, 0 < b ∧ b < 128 ∧ b ≠ 10) (ho : s.ed.xoff = (o : Int)) (hol : o < w.length)
    (hp : pending s = txt ++ [27] ++ rest) (hpl : ∀ b ∈ txt, 32 ≤ b ∧ b < 127)
    (hne : txt ≠ [] ∧ txt.head? ≠ some 32) (hlen : txt.length < 100000) (hk : s.xkmap = 0) :
    ∃ s', vcInsert 105 s = Res.ok VC_OK s' ∧ pending s' = rest ∧
      lines s' = (lines s).take s.ed.xrow.toNat ++ [w.take o ++ txt ++ w.drop o ++ [10]] ++
        (lines s).drop (s.ed.xrow.toNat + 1) ∧
      s'.ed.xrow = s.ed.xrow ∧ s'.ed.xoff = (o : Int) + txt.length - 1 ∧ s'.ed.regs = s.ed.regs := by
  have hw7 : ∀ b ∈ w, b < 128 := fun b hb => (hw b hb).2.1
  have ht7 : ∀ b ∈ txt, b < 128 := fun b hb => by have := hpl b hb; omega
  have hn7 : ∀ b ∈ [10], b < 128 := by simp
  have e1 : encStr (w ++ [10]) = w ++ [10] := Uc.encStr_ascii (List.forall_mem_append.mpr ⟨hw7, hn7⟩)
  have e2 : encStr txt = txt := Uc.encStr_ascii ht7
  have e3 : encStr (w.take o ++ txt ++ (w.drop o ++ [10])) = w.take o ++ txt ++ w.drop o ++ [10] := by
    rw [Uc.encStr_ascii (List.forall_mem_append.mpr ⟨List.forall_mem_append.mpr
      ⟨fun b hb => hw7 b (List.mem_of_mem_take hb), ht7⟩,
      List.forall_mem_append.mpr ⟨fun b hb => hw7 b (List.mem_of_mem_drop hb), hn7⟩⟩)]
    simp
  have hplv : ∀ c ∈ txt, ValidCp c ∧ 32 ≤ c ∧ c ≠ 127 := fun c hc => by
    have := hpl c hc; exact ⟨⟨by omega, by omega⟩, by omega, by omega⟩
  obtain ⟨s', h1, h2, h3⟩ := vcInsert_i_spec s w txt o (txt ++ [27]) rest hr0 (by rw [e1]; exact hline)
    (fun c hc => ⟨(hw c hc).1, by have := (hw c hc).2.1; omega⟩) (fun h => (hw 10 h).2.2 rfl) ho hol
    (by have := inputs_text txt hplv hlen; rw [e2] at this; exact this) (by rw [hp])
    (fun c hc => (hplv c hc).1) (fun h => by have := hpl 10 h; omega)
    (by
      obtain ⟨b, t, rfl⟩ := List.exists_cons_of_ne_nil hne.1
      have := hpl b (by simp)
      exact ⟨by simp, hne.2, by simp; omega⟩) hk
  rw [e3] at h3
  exact ⟨s', h1, h2, h3.lines, h3.xrow, h3.xoff, h3.regs⟩

/-- an instance with an editing key: `i`, the text `cs ++ [c]`, `^H`, the text `cs2`, ESC inserts `cs ++ cs2` -/
theorem vcInsert_i_backspace (s : VS) (body cs : List Nat) (c : Nat) (cs2 : List Nat) (o : Nat) (rest : Bytes)
    (hr0 : 0 ≤ s.ed.xrow) (hline : (lines s)[s.ed.xrow.toNat]? = some (encStr (body ++ [10])))
    (hb : ∀ c ∈ body, ValidCp c) (hb10 : 10 ∉ body) (ho : s.ed.xoff = (o : Int)) (hol : o < body.length)
    (hp : pending s = encStr (cs ++ [c]) ++ [8] ++ encStr cs2 ++ [27] ++ rest)
    (hpl : ∀ d ∈ cs ++ [c] ++ cs2, ValidCp d ∧ 32 ≤ d ∧ d ≠ 127)
    (hne : (cs ++ cs2).head? ≠ none ∧ (cs ++ cs2).head? ≠ some 32)
    (hlen : cs.length + cs2.length + 2 < 100000) (hk : s.xkmap = 0) :
    ∃ s', vcInsert 105 s = Res.ok VC_OK s' ∧ pending s' = rest ∧
      Inserted (encStr (cs ++ [c]) ++ [8] ++ encStr cs2 ++ [27]) s s' s.ed.xrow
        [encStr (body.take o ++ (cs ++ cs2) ++ (body.drop o ++ [10]))] 1 s.ed.xrow
        ((o : Int) + (cs ++ cs2).length - 1) := by
  have hmem : ∀ d ∈ cs ++ cs2, d ∈ cs ++ [c] ++ cs2 := fun d hd =>
    (List.mem_append.mp hd).elim (fun h => List.mem_append_left _ (List.mem_append_left _ h)) (List.mem_append_right _)
  have h10 : 10 ∉ cs ++ cs2 := fun h => by have := hpl 10 (hmem 10 h); omega
  have hin := inputs_script _ _ (types_backspace cs c cs2 hpl hlen) h10
  have hkeys : scriptKeys [Ev.text (cs ++ [c]), Ev.bs, Ev.text cs2] ++ [27] =
      encStr (cs ++ [c]) ++ [8] ++ encStr cs2 ++ [27] := by simp [scriptKeys, Ev.keys]
  rw [hkeys] at hin
  exact vcInsert_i_spec s body (cs ++ cs2) o _ rest hr0 hline hb hb10 ho hol hin (by rw [hp])
    (fun d hd => (hpl d (hmem d hd)).1) h10
    (by
      refine ⟨hne.1, hne.2, ?_⟩
      cases hh : (cs ++ cs2) with
      | nil => simp
      | cons b t =>
        have := hpl b (hmem b (by rw [hh]; simp))
        simp; omega) hk

/-- `vcInsert_i_newline_spec`: `i`, text, newline, text, ESC splits the line at the cursor: the row
becomes head ++ first text, and a new row below holds auto-indent ++ second text ++ tail, where with
`autoindent` the auto-indent is the leading blanks of the head (at most 127) and the tail loses its leading
blanks (`aiCp`, `postCp`); the cursor goes to the last typed character on the new row -/
theorem vcInsert_i_newline_spec (s : VS) (body cs1 cs2 : List Nat) (o : Nat) (rest : Bytes)
    (hr0 : 0 ≤ s.ed.xrow) (hline : (lines s)[s.ed.xrow.toNat]? = some (encStr (body ++ [10])))
    (hb : ∀ c ∈ body, ValidCp c) (hb10 : 10 ∉ body) (ho : s.ed.xoff = (o : Int)) (hol : o < body.length)
    (hp : pending s = encStr cs1 ++ [10] ++ encStr cs2 ++ [27] ++ rest)
    (hpl : ∀ c ∈ cs1 ++ cs2, ValidCp c ∧ 32 ≤ c ∧ c ≠ 127)
    (hne1 : cs1.head? ≠ none ∧ cs1.head? ≠ some 32) (hne2 : cs2.head? ≠ none ∧ cs2.head? ≠ some 32)
    (hlen1 : cs1.length < 100000) (hlen2 : cs2.length < 100000) (hk : s.xkmap = 0) :
    ∃ s', vcInsert 105 s = Res.ok VC_OK s' ∧ pending s' = rest ∧
      Inserted (encStr cs1 ++ [10] ++ encStr cs2 ++ [27]) s s' s.ed.xrow
        [encStr (body.take o ++ cs1 ++ [10]),
         encStr (aiCp s (body.take o) ++ cs2 ++ (postCp s (body.drop o) ++ [10]))] 1 (s.ed.xrow + 1)
        (((aiCp s (body.take o)).length : Int) + cs2.length - 1) := by
  rw [vcInsert_cut 105 (Or.inl rfl) s body o hr0 hline hb (insOff_i s body o hb hb10 ho hol) (by omega)]
  obtain ⟨s', h1, h2, h3⟩ := insertTail_two (body.take o) (body.drop o) cs1 cs2
    { s with ed := { s.ed with xoff := Ren.renNoeol (encStr (body ++ [10])) (insCol 105 s) } } rest _ hr0 hline
    (fun d hd => hb d (List.mem_of_mem_take hd)) (fun d hd => hb d (List.mem_of_mem_drop hd))
    (fun h => hb10 (List.mem_of_mem_take h)) (fun h => hb10 (List.mem_of_mem_drop h)) hp hpl hne1 hne2 hlen1 hlen2 hk
  exact ⟨s', h1, h2, h3.of_ed rfl rfl⟩

/-! ### `o`, `O` -/

/-- `vcInsert_o_spec`: `o` opens a line below the current one, containing the indentation of the
current line (`indentOf`: its leading blanks when `autoindent` is set) followed by the text; the cursor
goes to the new line, on the last typed character -/
theorem vcInsert_o_spec (s : VS) (body cs : List Nat) (K rest : Bytes)
    (hr0 : 0 ≤ s.ed.xrow) (hline : (lines s)[s.ed.xrow.toNat]? = some (encStr (body ++ [10])))
    (hb : ∀ c ∈ body, ValidCp c) (hb10 : 10 ∉ body)
    (hin : Inputs K cs) (hp : pending s = K ++ rest) (hpl : ∀ c ∈ cs, ValidCp c) (h10 : 10 ∉ cs)
    (hne : cs.head? ≠ none ∧ cs.head? ≠ some 32 ∧ cs.head? ≠ some 9) (hk : s.xkmap = 0) :
    ∃ s', vcInsert 111 s = Res.ok VC_OK s' ∧ pending s' = rest ∧
      Inserted K s s' (s.ed.xrow + 1) [encStr (indentOf s body ++ cs ++ [10])] 0 (s.ed.xrow + 1)
        (((indentOf s body).length : Int) + cs.length - 1) := by
  obtain ⟨hi, hi10⟩ := indentOf_valid s body hb hb10
  rw [vcInsert_o_red s _ (lineOf_of_get s _ _ hr0 hline), viIndents_line s body hb]
  obtain ⟨ed1, he1, hx1, hb1, hr1⟩ := nextlineSt_eq { s with ed := { s.ed with xoff := Ren.renNoeol (encStr (body ++ [10])) s.ed.xoff } }
  rw [he1]
  exact openTail_at s ed1 _ (indentOf s body) cs K rest _ hr0 hline hb1 hr1 hx1 (Or.inr rfl) hi hi10 hin hp hpl h10 hne hk

/-- `O` opens the line above -/
theorem vcInsert_O_spec (s : VS) (body cs : List Nat) (K rest : Bytes)
    (hr0 : 0 ≤ s.ed.xrow) (hline : (lines s)[s.ed.xrow.toNat]? = some (encStr (body ++ [10])))
    (hb : ∀ c ∈ body, ValidCp c) (hb10 : 10 ∉ body)
    (hin : Inputs K cs) (hp : pending s = K ++ rest) (hpl : ∀ c ∈ cs, ValidCp c) (h10 : 10 ∉ cs)
    (hne : cs.head? ≠ none ∧ cs.head? ≠ some 32 ∧ cs.head? ≠ some 9) (hk : s.xkmap = 0) :
    ∃ s', vcInsert 79 s = Res.ok VC_OK s' ∧ pending s' = rest ∧
      Inserted K s s' s.ed.xrow [encStr (indentOf s body ++ cs ++ [10])] 0 s.ed.xrow
        (((indentOf s body).length : Int) + cs.length - 1) := by
  obtain ⟨hi, hi10⟩ := indentOf_valid s body hb hb10
  rw [vcInsert_O_red s _ (lineOf_of_get s _ _ hr0 hline), viIndents_line s body hb]
  exact openTail_at s _ _ (indentOf s body) cs K rest _ hr0 hline rfl rfl rfl (Or.inl rfl) hi hi10 hin hp hpl h10 hne hk

/-! ## 4. `vi_change` (`c`, and through it `s`, `C`) -/

/-- `viChange_char_spec`: `c` over the characters `o1 .. o2-1` of one line.  The register named by the
prefix receives the region (character mode); then the text is typed in place of the region: the line
becomes head ++ text ++ tail, the cursor ends on the last typed character.  (`Inserted` is stated from the
state with the register already set.) -/
theorem viChange_char_spec (s : VS) (r : Int) (body cs : List Nat) (o1 o2 : Nat) (K rest : Bytes)
    (hr0 : 0 ≤ r) (hline : (lines s)[r.toNat]? = some (encStr (body ++ [10])))
    (hb : ∀ c ∈ body, ValidCp c) (hb10 : 10 ∉ body) (ho12 : o1 ≤ o2) (ho2 : o2 ≤ body.length)
    (hin : Inputs K cs) (hp : pending s = K ++ rest) (hpl : ∀ c ∈ cs, ValidCp c) (h10 : 10 ∉ cs)
    (hne : cs.head? ≠ none ∧ cs.head? ≠ some 32 ∧ cs.head? ≠ some 9) (hk : s.xkmap = 0) :
    ∃ s', viChange r o1 r o2 false s = Res.ok VC_OK s' ∧ pending s' = rest ∧
      s'.ed.regs = s.ed.regs.put s.ybuf (encStr ((body.take o2).drop o1)) 0 ∧
      Inserted K
        { s with ed := { s.ed with regs := s.ed.regs.put s.ybuf (encStr ((body.take o2).drop o1)) 0 } } s' r
        [encStr (body.take o1 ++ cs ++ (body.drop o2 ++ [10]))] 1 r ((o1 : Int) + cs.length - 1) := by
  obtain ⟨s', h1, h2, h3, h4⟩ := Lemmas.C08e.viChange_char_lines s r r body body o1 o2 _ [] cs K rest hr0 (Int.le_refl _)
    hline hline hb hb hb10 hb10 (by omega) ho2 (region_line s r body o1 o2 hr0 hline hb ho12 ho2).1
    (Lemmas.C08e.inputsL_of_inputs hin hpl h10) hp hk
  refine ⟨s', h1, h2, h3, ?_⟩
  rw [Lemmas.C08e.rowsG_one _ _ _ _ hne, Lemmas.C08e.offG_one _ _ _ _ hne, List.length_take, Nat.min_eq_left (by omega),
    show r.toNat - r.toNat + 1 = 1 by omega] at h4
  simpa only [Lemmas.C08d.rowLines, List.map_cons, List.map_nil, List.append_assoc, List.length_nil, Int.natCast_zero,
    Int.add_zero] using h4

/-- `viChange_line_spec`: line-wise `c` on one row (`cc`, `S`): the register receives the whole line in
line mode, the row becomes the indentation of the old line followed by the text -/
theorem viChange_line_spec (s : VS) (r o1 o2 : Int) (body cs : List Nat) (K rest : Bytes)
    (hr0 : 0 ≤ r) (hline : (lines s)[r.toNat]? = some (encStr (body ++ [10])))
    (hb : ∀ c ∈ body, ValidCp c) (hb10 : 10 ∉ body)
    (hin : Inputs K cs) (hp : pending s = K ++ rest) (hpl : ∀ c ∈ cs, ValidCp c) (h10 : 10 ∉ cs)
    (hne : cs.head? ≠ none ∧ cs.head? ≠ some 32 ∧ cs.head? ≠ some 9) (hk : s.xkmap = 0) :
    ∃ s', viChange r o1 r o2 true s = Res.ok VC_OK s' ∧ pending s' = rest ∧
      s'.ed.regs = s.ed.regs.put s.ybuf (encStr (body ++ [10])) 1 ∧
      Inserted K
        { s with ed := { s.ed with regs := s.ed.regs.put s.ybuf (encStr (body ++ [10])) 1 } } s' r
        [encStr (indentOf s body ++ cs ++ [10])] 1 r (((indentOf s body).length : Int) + cs.length - 1) := by
  obtain ⟨s', h1, h2, h3, h4⟩ := viChange_rows_spec s r r o1 o2 body cs K rest hr0 (Int.le_refl _) (row_lt_len hr0 hline)
    hline hb hb10 hin hp hpl h10 hne hk
  have hrow : (((lines s).drop r.toNat).take (r.toNat - r.toNat + 1)).flatten = encStr (body ++ [10]) := by
    rw [show r.toNat - r.toNat + 1 = 1 by omega, List.take_one, List.head?_drop, hline]
    simp
  rw [hrow] at h3 h4
  rw [show r.toNat - r.toNat + 1 = 1 by omega] at h4
  exact ⟨s', h1, h2, h3, h4⟩

/-! ## 5. `vc_join` (`J`) -/

/-- `join_spaces(prev, next)`: no space when the first line is empty, ends in a space, or the second
starts with `)`; two after a full stop; else one -/
theorem joinSpaces_spec (prev next : Bytes) :
    (prev = [] → joinSpaces prev next = 0) ∧
    (prev ≠ [] → (prev.getLast? = some 32 ∨ next.headD 0 = 41) → joinSpaces prev next = 0) ∧
    (prev ≠ [] → prev.getLast? ≠ some 32 → next.headD 0 ≠ 41 → prev.getLast? = some 46 → joinSpaces prev next = 2) ∧
    (prev ≠ [] → prev.getLast? ≠ some 32 → next.headD 0 ≠ 41 → prev.getLast? ≠ some 46 → joinSpaces prev next = 1) := by
  unfold joinSpaces
  refine ⟨fun h => by rw [h]; rfl, fun h hc => ?_, fun h h32 h41 h46 => ?_, fun h h32 h41 h46 => ?_⟩
  all_goals rw [if_neg (by simpa using h)]
  · rw [if_pos (by simpa using hc)]
  · rw [if_neg (by rw [beq_false_of_ne h32, beq_false_of_ne h41]; decide), if_pos (by simpa using h46)]
  · rw [if_neg (by rw [beq_false_of_ne h32, beq_false_of_ne h41]; decide), if_neg (by simpa using h46)]

/-- `vcJoin_count_spec`: `J` with any count.  The rows `a`, `ws` (`max 2 count` of them, all existing)
become the one row `joinRows a ws`: each further row is appended without its leading blanks after
`join_spaces` spaces; the cursor goes to the character where the last joined row starts (`joinOff`). -/
theorem vcJoin_count_spec (s : VS) (a : Bytes) (ws : List Bytes) (hr0 : 0 ≤ s.ed.xrow)
    (hcnt : (if s.arg1 ≤ 1 then 2 else s.arg1) = ((ws.length + 1 : Nat) : Int))
    (hrows : ((lines s).drop s.ed.xrow.toNat).take (ws.length + 1) = (a :: ws).map (· ++ [10]))
    (h10 : ∀ w ∈ a :: ws, 10 ∉ w) :
    ∃ s', vcJoin s = Res.ok VC_OK s' ∧
      lines s' = (lines s).take s.ed.xrow.toNat ++ [joinRows a ws ++ [10]] ++
        (lines s).drop (s.ed.xrow.toNat + (ws.length + 1)) ∧
      s'.ed.xoff = joinOff a ws 0 ∧ s'.ed.xrow = s.ed.xrow ∧ s'.ed.regs = s.ed.regs ∧
      s' = { s with ed := s'.ed } := by
  have hrow : ∀ k (hk : k < (a :: ws).length), (lines s)[s.ed.xrow.toNat + k]? = some ((a :: ws)[k] ++ [10]) := by
    intro k hk
    have := row_of_block (lines s) s.ed.xrow.toNat (ws.length + 1) _ hrows k (by simpa using hk)
    rw [this, List.getElem_map]
  have hwpos : 1 ≤ ws.length := by
    split at hcnt
    · have : ((ws.length + 1 : Nat) : Int) = 2 := hcnt.symm
      omega
    · omega
  have h1 := hrow 0 (by simp)
  simp only [Nat.add_zero, List.getElem_cons_zero] at h1
  have hlast := hrow ws.length (by simp)
  have hl1 : lineOf s s.ed.xrow = some (a ++ [10]) := lineOf_of_get s _ _ hr0 h1
  have hl2 := lineOf_of_get s (s.ed.xrow + ((ws.length + 1 : Nat) : Int) - 1) _ (by omega) (by
    rw [show (s.ed.xrow + ((ws.length + 1 : Nat) : Int) - 1).toNat = s.ed.xrow.toNat + ws.length by omega]
    exact hlast)
  have hE1 : lineE s s.ed.xrow = a ++ [10] := lineE_eq s _ hr0 _ h1
  have hEk : ∀ k (hk : k < ws.length), lineE s (s.ed.xrow + 1 + k) = ws[k] ++ [10] := by
    intro k hk
    have := hrow (k + 1) (by simp; omega)
    simp only [List.getElem_cons_succ] at this
    exact lineE_eq s _ (by omega) _ (by
      rw [show (s.ed.xrow + 1 + (k : Int)).toNat = s.ed.xrow.toNat + (k + 1) by omega]; exact this)
  obtain ⟨lb, hlb⟩ := lb_of_line s _ _ h1
  have hlt : s.ed.xrow.toNat + ws.length < (lines s).length := (List.getElem?_eq_some_iff.mp hlast).1
  have ha := h10 a (by simp)
  have hgo : vcJoin.go s s.ed.xrow (s.ed.xrow + ((ws.length + 1 : Nat) : Int)) (ws.length + 1 + 1) s.ed.xrow [] 0 =
      (joinRows a ws, joinOff a ws 0) :=
    join_go_first s _ _ a ws (ws.length + 1) (by omega) (by omega) hE1 ha hEk (fun w hw => h10 w (by simp [hw]))
  obtain ⟨ed', he1, he2, hx, hrg, -⟩ := edEdit_reads (Reads.refl false s) (joinRows a ws ++ [10]) s.ed.xrow
    (s.ed.xrow + ((ws.length + 1 : Nat) : Int)) lb hlb hr0 (by omega) (by show _ ≤ ((lines s).length : Int); omega)
  refine ⟨{ s with ed := { ed' with xoff := joinOff a ws 0 } }, ?_, ?_, rfl, hx, hrg, rfl⟩
  · unfold vcJoin
    simp only [bind_apply, get_apply, hcnt, hl1, hl2, Option.isNone_some, Bool.or_self, Bool.false_eq_true,
      if_false, Int.toNat_natCast, hgo, he1, setOff_apply, pure_apply]
  · show Lemmas.C06.lines ed' = _
    rw [he2, splitLines_wf _ ⟨_, rfl, joinRows_no_ten ws a ha (fun w hw => h10 w (by simp [hw]))⟩]
    rw [show (s.ed.xrow + ((ws.length + 1 : Nat) : Int)).toNat = s.ed.xrow.toNat + (ws.length + 1) by omega]

/-- `vcJoin_spec`: `J` (count ≤ 2) on the rows `a ++ [10]`, `b ++ [10]`: they become the one row
`a ++ spaces ++ (b without its leading blanks) ++ [10]`; the cursor goes to the character after `a`;
nothing but the buffer and the cursor offset changes -/
theorem vcJoin_spec (s : VS) (a b : Bytes) (hr0 : 0 ≤ s.ed.xrow)
    (h1 : (lines s)[s.ed.xrow.toNat]? = some (a ++ [10]))
    (h2 : (lines s)[s.ed.xrow.toNat + 1]? = some (b ++ [10])) (ha : 10 ∉ a) (hb : 10 ∉ b) (harg : s.arg1 ≤ 1) :
    ∃ s', vcJoin s = Res.ok VC_OK s' ∧
      lines s' = (lines s).take s.ed.xrow.toNat ++
        [a ++ List.replicate (joinSpaces a (b.dropWhile isBlankC ++ [10])) 32 ++ b.dropWhile isBlankC ++ [10]] ++
        (lines s).drop (s.ed.xrow.toNat + 2) ∧
      s'.ed.xoff = (ucSlen a : Int) ∧ s'.ed.xrow = s.ed.xrow ∧ s'.ed.regs = s.ed.regs ∧
      s' = { s with ed := s'.ed } :=
  vcJoin_count_spec s a [b] hr0 (by rw [if_pos harg]; rfl)
    (by
      show ((lines s).drop s.ed.xrow.toNat).take (0 + 1 + 1) = _
      rw [List.take_add_one, List.take_add_one, List.take_zero, List.getElem?_drop, List.getElem?_drop, Nat.add_zero, h1, h2]
      rfl)
    (by
      intro w hw
      simp only [List.mem_cons, List.not_mem_nil, or_false] at hw
      rcases hw with rfl | rfl
      · exact ha
      · exact hb)

/-- not enough lines: `J` does nothing and reports failure (returns 0) -/
theorem vcJoin_short (s : VS) (h : lineOf s s.ed.xrow = none ∨ lineOf s (s.ed.xrow + (if s.arg1 ≤ 1 then 2 else s.arg1) - 1) = none) :
    vcJoin s = Res.ok 0 s := by
  unfold vcJoin
  simp only [bind_apply, get_apply]
  rw [if_pos (by rcases h with h | h <;> simp [h])]
  rfl

/-! ## 6. `vc_replace` (`r`), the case loop (`~`, `gu`, `gU`, `g~`), `vi_shift` (`<`, `>`) -/

/-- `vcReplace_spec`: `r` followed by the typable character `c` (sent as its UTF-8 bytes), cursor on
character `o`, `n = max 1 count`.  If `n` characters remain from the cursor on, they are replaced by
`n` copies of `c` and the cursor goes to the last of them; otherwise the command fails (returns 0)
having only consumed the key. -/
theorem vcReplace_spec (s : VS) (body : List Nat) (c o : Nat) (rest : Bytes)
    (hr0 : 0 ≤ s.ed.xrow) (hline : (lines s)[s.ed.xrow.toNat]? = some (encStr (body ++ [10])))
    (hb : ∀ d ∈ body, ValidCp d) (hb10 : 10 ∉ body) (ho : s.ed.xoff = (o : Int)) (hol : o < body.length)
    (hc : ValidCp c ∧ 32 ≤ c ∧ c ≠ 127) (hp : pending s = enc c ++ rest) (hk : s.xkmap = 0) :
    (o + (max 1 s.arg1).toNat ≤ body.length →
      ∃ s', vcReplace s = Res.ok VC_OK s' ∧ pending s' = rest ∧
        Inserted (enc c) s s' s.ed.xrow
          [encStr (body.take o ++ List.replicate (max 1 s.arg1).toNat c ++ (body.drop (o + (max 1 s.arg1).toNat) ++ [10]))]
          1 s.ed.xrow ((o : Int) + (max 1 s.arg1).toNat - 1)) ∧
    (body.length < o + (max 1 s.arg1).toNat →
      ∃ s', vcReplace s = Res.ok 0 s' ∧ pending s' = rest ∧ Reads false (enc c) s s') := by
  obtain ⟨s1, hch, hp1, hr1⟩ := viChar_enc s c rest hc hp hk
  obtain ⟨hfit, hno⟩ := vcReplace_run s s1 body o (enc c) (enc c) hr0 hline hb hb10 ho hol hch hr1
  refine ⟨fun h => ?_, fun h => ⟨s1, hno h, hp1, hr1⟩⟩
  obtain ⟨ed', h1, h2, hx, hrg, hfr⟩ := hfit h
  rw [headD_enc_ne_ten c hc, if_neg Bool.false_ne_true] at h1
  have h10c : c ≠ 10 := by have := hc.2.1; omega
  refine ⟨_, h1, hp1, ?_, hx, ?_, hrg, hfr _⟩
  · show Lemmas.C06.lines ed' = _
    rw [h2, flatten_replicate_enc, ← encStr_append, ← encStr_append, splitLines_wf _ (wfLine_enc_snoc
      (fun hm => (List.mem_append.mp hm).elim (fun h => hb10 (List.mem_of_mem_take h))
        (fun h => h10c (List.eq_of_mem_replicate h).symm))
      (fun h => hb10 (List.mem_of_mem_drop h)))]
  · show (o : Int) + max 1 s.arg1 - 1 = _
    rw [Int.toNat_of_nonneg (by omega)]

/-- the code-point map of the case commands: `gu` (117) lowers `A..Z`, `gU` (85) raises `a..z`, `~` / `g~`
(126) toggles; every other code point — in particular every non-ASCII one — is left alone -/
theorem caseCp_spec (c : Nat) :
    caseCp 117 c = (if 65 ≤ c ∧ c ≤ 90 then c + 32 else c) ∧
    caseCp 85 c = (if 97 ≤ c ∧ c ≤ 122 then c - 32 else c) ∧
    caseCp 126 c = (if 97 ≤ c ∧ c ≤ 122 then c - 32 else if 65 ≤ c ∧ c ≤ 90 then c + 32 else c) ∧
    (127 < c → ∀ cmd, caseCp cmd c = c) := by
  refine ⟨?_, ?_, ?_, ?_⟩
  · unfold caseCp lowerB
    by_cases h : c ≤ 127
    · simp [h]
    · rw [if_neg h, if_neg (by omega)]
  · unfold caseCp upperB
    by_cases h : c ≤ 127
    · simp [h]
    · rw [if_neg h, if_neg (by omega)]
  · unfold caseCp upperB lowerB
    by_cases h : c ≤ 127
    · simp only [h, if_true, show ((126 : Nat) == 117) = false from rfl, show ((126 : Nat) == 85) = false from rfl,
        show ((126 : Nat) == 126) = true from rfl, Bool.false_eq_true, if_false]
      by_cases h1 : 97 ≤ c ∧ c ≤ 122
      · simp [h1]
      · have : (decide (97 ≤ c) && decide (c ≤ 122)) = false := by simpa using fun a => by omega
        simp only [this, Bool.false_eq_true, if_false, h1]
        simp
    · rw [if_neg h, if_neg (by omega), if_neg (by omega)]
  · intro h cmd
    have := caseCp_cases cmd c
    omega

/-- `caseMap_spec`: on valid UTF-8 the case loop maps code point by code point with `caseCp`
(so multi-byte characters are untouched), and it preserves the length in bytes -/
theorem caseMap_spec (cmd : Nat) (cs : List Nat) (hv : ∀ c ∈ cs, ValidCp c) :
    caseMap cmd ((encStr cs).length + 1) (encStr cs) = encStr (cs.map (caseCp cmd)) ∧
    (caseMap cmd ((encStr cs).length + 1) (encStr cs)).length = (encStr cs).length := by
  have hlen : cs.length ≤ (encStr cs).length + 1 := by
    have := Props.C16.slen_spec hv
    have h2 : ∀ (l : List Nat), l.length ≤ (encStr l).length := by
      intro l
      induction l with
      | nil => simp
      | cons c t ih =>
        rw [encStr_cons, List.length_append, List.length_cons]
        have := enc_length_pos c
        omega
    have := h2 cs
    omega
  have h1 := caseMap_enc cmd cs _ hv hlen
  refine ⟨h1, ?_⟩
  rw [h1]
  clear h1 hlen
  induction cs with
  | nil => rfl
  | cons c t ih =>
    rw [List.map_cons, encStr_cons, encStr_cons, List.length_append, List.length_append,
      ih (fun d hd => hv d (by simp [hd]))]
    congr 1
    by_cases hlt : c < 128
    · have := caseCp_lt cmd c hlt
      rw [enc_ascii hlt, enc_ascii this.1]
      rfl
    · have : caseCp cmd c = c := (caseCp_spec c).2.2.2 (by omega) cmd
      rw [this]

/-- what `>` and `<` do to one (well-formed) line -/
theorem shiftLine_spec (w : Bytes) :
    (w ≠ [] → w.headD 0 ≠ 10 → shiftLine 1 (w ++ [10]) = 9 :: w ++ [10]) ∧
    shiftLine 1 [10] = [10] ∧
    (∀ b t, w = b :: t → isBlankC b = true → shiftLine (-1) (w ++ [10]) = t ++ [10]) ∧
    (isBlankC ((w ++ [10]).headD 0) = false → shiftLine (-1) (w ++ [10]) = w ++ [10]) := by
  refine ⟨?_, rfl, ?_, ?_⟩
  · intro hne hh
    cases w with
    | nil => exact absurd rfl hne
    | cons b t =>
      have hh' : ((b :: t ++ [10]).headD 0 != 10) = true := by simpa using hh
      unfold shiftLine
      rw [if_pos (by omega), if_pos hh']
      rfl
  · intro b t hw hb
    subst hw
    have hb' : isBlankC ((b :: t ++ [10]).headD 0) = true := hb
    unfold shiftLine
    rw [if_neg (by omega), if_pos hb']
    rfl
  · intro hb
    unfold shiftLine
    rw [if_neg (by omega), hb]
    rfl

/-- `viShift_spec`: `>` / `<` over the rows `r1..r2` (all existing, the buffer well formed): every row
of the range is mapped by `shiftLine`, the other rows are untouched; the cursor goes to the first
non-blank of row `r1`; nothing but the buffer and the cursor changes -/
theorem viShift_spec (s : VS) (r1 r2 dir : Int) (h0 : 0 ≤ r1) (h12 : r1 ≤ r2) (h2 : r2 < lenOf s)
    (hwf : ∀ l ∈ lines s, Props.C01.WfLine l) :
    ∃ s', viShift r1 r2 dir s = Res.ok VC_OK s' ∧
      lines s' = (lines s).take r1.toNat ++
        (((lines s).drop r1.toNat).take (r2.toNat - r1.toNat + 1)).map (shiftLine dir) ++
        (lines s).drop (r2.toNat + 1) ∧
      s'.ed.xrow = r1 ∧ s'.ed.xoff = Mot.indents (lines s') r1 ∧ s'.ed.regs = s.ed.regs ∧
      s' = { s with ed := s'.ed } := by
  obtain ⟨s1, h1, hl, he, hs⟩ := shift_go r2 dir (r2.toNat - r1.toNat + 1) ((r2 - r1).toNat + 1) r1 s h0 (by omega)
    (by omega) h2 hwf
  refine ⟨{ s1 with ed := { s1.ed with xrow := r1, xoff := Mot.indents (lines s1) r1 } }, ?_, ?_, rfl, rfl, ?_, ?_⟩
  · unfold viShift
    simp only [bind_apply, h1, get_apply, setPos_apply, pure_apply]
  · show lines s1 = _
    rw [hl, show r1.toNat + (r2.toNat - r1.toNat + 1) = r2.toNat + 1 by omega]
  · show s1.ed.regs = s.ed.regs
    rw [he]
  · rw [hs]

/-- `viCase_line_spec`: `~` / `gu` / `gU` / `g~` over the characters `o1 .. o2-1` of one line of valid
UTF-8: exactly these characters are mapped by `caseCp`, the rest of the buffer, the registers and
everything outside the editor record are untouched; the cursor goes to the end of the region
(`~` itself is this with `o2 = o1 + 1`) -/
theorem viCase_line_spec (s : VS) (r : Int) (cmd : Nat) (body : List Nat) (o1 o2 : Nat)
    (hr0 : 0 ≤ r) (hline : (lines s)[r.toNat]? = some (encStr (body ++ [10])))
    (hb : ∀ c ∈ body, ValidCp c) (hb10 : 10 ∉ body) (ho12 : o1 ≤ o2) (ho2 : o2 ≤ body.length) :
    ∃ s', viCase r o1 r o2 false cmd s = Res.ok VC_OK s' ∧
      lines s' = (lines s).take r.toNat ++
        [encStr (body.take o1 ++ ((body.take o2).drop o1).map (caseCp cmd) ++ (body.drop o2 ++ [10]))] ++
        (lines s).drop (r.toNat + 1) ∧
      s'.ed.xrow = r ∧ s'.ed.xoff = (o2 : Int) ∧ s'.ed.regs = s.ed.regs ∧ s' = { s with ed := s'.ed } := by
  obtain ⟨lb, hlb⟩ := lb_of_line s _ _ hline
  obtain ⟨hreg, e1, e2⟩ := region_line s r body o1 o2 hr0 hline hb ho12 ho2
  have hmidv : ∀ c ∈ (body.take o2).drop o1, ValidCp c :=
    fun c hc => hb c (List.mem_of_mem_take (List.mem_of_mem_drop hc))
  have hcm := (caseMap_spec cmd _ hmidv).1
  have hjoin : encStr (body.take o1) ++ encStr (((body.take o2).drop o1).map (caseCp cmd)) ++ encStr (body.drop o2 ++ [10]) =
      encStr (body.take o1 ++ ((body.take o2).drop o1).map (caseCp cmd) ++ (body.drop o2 ++ [10])) := by
    simp only [encStr_append, List.append_assoc]
  have h10m : 10 ∉ ((body.take o2).drop o1).map (caseCp cmd) := by
    intro hm
    obtain ⟨c, hc, hcc⟩ := List.mem_map.mp hm
    have hc10 : c ≠ 10 := fun h => hb10 (h ▸ List.mem_of_mem_take (List.mem_of_mem_drop hc))
    have := caseCp_cases cmd c
    omega
  obtain ⟨ed', he1, he2, -, hrg, -⟩ := edEdit_reads (Reads.refl false s)
    (encStr (body.take o1 ++ ((body.take o2).drop o1).map (caseCp cmd) ++ (body.drop o2 ++ [10]))) r (r + 1) lb hlb
    hr0 (by omega) (row_lt_len hr0 hline)
  refine ⟨{ s with ed := { ed' with xrow := r, xoff := (o2 : Int) } }, ?_, ?_, rfl, rfl, hrg, rfl⟩
  · unfold viCase
    simp only [bind_apply, get_apply, Bool.false_eq_true, if_false, hreg, liftO_some, Bool.not_false, if_true,
      e1, e2, hcm, hjoin, he1, setPos_apply, pure_apply]
  · show Lemmas.C06.lines ed' = _
    rw [he2, splitLines_wf _ (wfLine_enc_snoc
      (fun hm => (List.mem_append.mp hm).elim (fun h => hb10 (List.mem_of_mem_take h)) h10m)
      (fun h => hb10 (List.mem_of_mem_drop h)))]
    rw [show (r + 1).toNat = r.toNat + 1 by omega]

/-! ## 7. not proved in this file, and concrete runs -/

/-- not proved here (`ledInput_multi_line` in `Props/C08d.lean` proves it): `led_input` over any number of lines
(here: one line, `ledInput_single_line_script`, and two lines of plain text, `ledInput_two_lines`); stated for
plain lines without leading blanks -/
def ledInput_multi_line_full : Prop :=
  ∀ (pref post : Bytes) (s : VS) (ls : List (List Nat)) (last : List Nat) (rest : Bytes),
    pending s = (ls.map (fun l => encStr l ++ [10])).flatten ++ encStr last ++ [27] ++ rest →
    (∀ l ∈ last :: ls, (∀ c ∈ l, ValidCp c ∧ 32 < c ∧ c ≠ 127) ∧ l ≠ [] ∧ l.length < 100000) →
    ls.length < 100000 → s.xkmap = 0 →
    ∃ s', ledInput pref post s =
        Res.ok (pref ++ (ls.map (fun l => encStr l ++ [10] ++ aiAfterNl s pref)).flatten ++ encStr last ++
          (if ls = [] then post else postAfterNl s post), if ls = [] then post else postAfterNl s post) s' ∧
      pending s' = rest ∧ lines s' = lines s ∧ s'.ed.xrow = s.ed.xrow + ls.length

/-- not proved, and false as stated (`vcInsert_full_false` in `Props/C08d.lean`): `vc_insert` / `vi_change` with an insertion of more than two lines (two lines after `i`:
`vcInsert_i_newline_spec`), with a text that starts with a blank or is empty (then the auto-indent rule `keepAi` and `ren_noeol` interfere), and `vi_change` over a
region that spans rows (`changeTail_spec` in `Lemmas/C08eOne.lean` covers the tail of that case) -/
def vcInsert_full : Prop :=
  ∀ (cmd : Nat) (s : VS) (K rest : Bytes) (cs : List Nat), cmd = 105 ∨ cmd = 97 ∨ cmd = 73 ∨ cmd = 65 ∨ cmd = 111 ∨ cmd = 79 →
    Inputs K cs → pending s = K ++ rest → s.xkmap = 0 → lineOf s s.ed.xrow ≠ none →
    ∃ s', vcInsert cmd s = Res.ok VC_OK s' ∧ pending s' = rest

/-- not proved here (`Props/C08c.lean` proves it): `r` followed by a newline (splits the line); `r` followed by
`^V c` or by a digraph is not covered -/
def vcReplace_newline_full : Prop :=
  ∀ (s : VS) (body : List Nat) (o : Nat) (rest : Bytes), 0 ≤ s.ed.xrow →
    (lines s)[s.ed.xrow.toNat]? = some (encStr (body ++ [10])) → (∀ d ∈ body, ValidCp d) → 10 ∉ body →
    s.ed.xoff = (o : Int) → o < body.length → s.arg1 ≤ 1 → pending s = 10 :: rest → s.xkmap = 0 →
    ∃ s', vcReplace s = Res.ok VC_OK s' ∧
      lines s' = (lines s).take s.ed.xrow.toNat ++ [encStr (body.take o ++ [10]), encStr (body.drop (o + 1) ++ [10])] ++
        (lines s).drop (s.ed.xrow.toNat + 1)

section Examples

/-- the two lines `hello w`, `b`; the cursor at `(row, off)`; the keys to come -/
def exEd : Ed := { bufs := [some { path := [], lb := { lines := [[104, 101, 108, 108, 111, 32, 119, 10], [98, 10]] } }] }
def exSt (keys : Bytes) (row off : Int) : VS := { ed := { exEd with xrow := row, xoff := off }, typed := keys }
def linesOf (r : Res Nat) : List Bytes := match r with | Res.ok _ s => lines s | _ => []
def cursorOf (r : Res Nat) : Int × Int := match r with | Res.ok _ s => (s.ed.xrow, s.ed.xoff) | _ => (-1, -1)

-- `iXY<ESC>` on the first `l` of `hello w` (`vcInsert_i_spec`: `heXYllo w`, cursor on the `Y`)
example : linesOf (vcInsert 105 (exSt [88, 89, 27] 0 2)) = [[104, 101, 88, 89, 108, 108, 111, 32, 119, 10], [98, 10]] := by decide +kernel
example : cursorOf (vcInsert 105 (exSt [88, 89, 27] 0 2)) = (0, 3) := by decide +kernel
-- `iXZ^HY<ESC>`: the same text (`vcInsert_i_backspace`)
example : linesOf (vcInsert 105 (exSt [88, 90, 8, 89, 27] 0 2)) = [[104, 101, 88, 89, 108, 108, 111, 32, 119, 10], [98, 10]] := by decide +kernel
-- `iX<CR>Y<ESC>` splits the line (`vcInsert_i_newline_spec`)
example : linesOf (vcInsert 105 (exSt [88, 10, 89, 27] 0 2)) = [[104, 101, 88, 10], [89, 108, 108, 111, 32, 119, 10], [98, 10]] := by decide +kernel
example : cursorOf (vcInsert 105 (exSt [88, 10, 89, 27] 0 2)) = (1, 0) := by decide +kernel
-- `aXY<ESC>`, `AXY<ESC>`
example : linesOf (vcInsert 97 (exSt [88, 89, 27] 0 2)) = [[104, 101, 108, 88, 89, 108, 111, 32, 119, 10], [98, 10]] := by decide +kernel
example : linesOf (vcInsert 65 (exSt [88, 89, 27] 0 2)) = [[104, 101, 108, 108, 111, 32, 119, 88, 89, 10], [98, 10]] := by decide +kernel
-- `oXY<ESC>`: a new row below, cursor on the `Y`
example : linesOf (vcInsert 111 (exSt [88, 89, 27] 0 2)) = [[104, 101, 108, 108, 111, 32, 119, 10], [88, 89, 10], [98, 10]] := by decide +kernel
example : cursorOf (vcInsert 111 (exSt [88, 89, 27] 0 2)) = (1, 1) := by decide +kernel
-- `c` over `ll` typed `XY` (`viChange_char_spec`)
example : linesOf (viChange 0 2 0 4 false (exSt [88, 89, 27] 0 2)) = [[104, 101, 88, 89, 111, 32, 119, 10], [98, 10]] := by decide +kernel
-- `J`: one space between the rows (`vcJoin_spec`), `rX`, `~` on `l`, `>` on both rows
example : linesOf (vcJoin (exSt [] 0 2)) = [[104, 101, 108, 108, 111, 32, 119, 32, 98, 10]] := by decide +kernel
-- `3J` on `a.`, `  b`, `)c`: two spaces after the full stop, none before `)`; the cursor where `)c` starts
example : linesOf (vcJoin { ed := { bufs := [some { path := [], lb := { lines := [[97, 46, 10], [32, 32, 98, 10], [41, 99, 10]] } }] }, arg1 := 3 }) =
    [[97, 46, 32, 32, 98, 41, 99, 10]] := by decide +kernel
example : joinRows [97, 46] [[32, 32, 98], [41, 99]] = [97, 46, 32, 32, 98, 41, 99] ∧ joinOff [97, 46] [[32, 32, 98], [41, 99]] 0 = 5 := by decide +kernel
example : linesOf (vcReplace (exSt [88] 0 2)) = [[104, 101, 88, 108, 111, 32, 119, 10], [98, 10]] := by decide +kernel
example : linesOf (viCase 0 2 0 3 false 126 (exSt [] 0 2)) = [[104, 101, 76, 108, 111, 32, 119, 10], [98, 10]] := by decide +kernel
example : linesOf (viShift 0 1 1 (exSt [] 0 2)) = [[9, 104, 101, 108, 108, 111, 32, 119, 10], [9, 98, 10]] := by decide +kernel

end Examples

end Neatvi.Props.C08b
