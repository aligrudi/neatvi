import NeatviVerif.Lemmas.C08cRound
/-!
# C08 (third part): the three statements `Props/C08.lean` and `Props/C08b.lean` only state
-/
namespace Neatvi.Props.C08c
open Neatvi Neatvi.Uc Neatvi.Vi Neatvi.Ex Neatvi.Spec Neatvi.Lemmas.C08 Neatvi.Lemmas.C08b Neatvi.Lemmas.C09
open Neatvi.Lemmas.C08c

/-! ## 3. `r` followed by a newline -/

/-- `r<CR>` (no count) on character `o` of a line of valid UTF-8: the character is replaced by a line
break; the keys consumed are the newline, the cursor goes to the start of the new row -/
theorem vcReplace_newline_spec (s : VS) (body : List Nat) (o : Nat) (rest : Bytes) (hr0 : 0 ≤ s.ed.xrow)
    (hline : (lines s)[s.ed.xrow.toNat]? = some (encStr (body ++ [10]))) (hb : ∀ d ∈ body, ValidCp d)
    (hb10 : 10 ∉ body) (ho : s.ed.xoff = (o : Int)) (hol : o < body.length) (ha : s.arg1 ≤ 1)
    (hp : pending s = 10 :: rest) (hk : s.xkmap = 0) :
    ∃ s', vcReplace s = Res.ok VC_OK s' ∧
      lines s' = (lines s).take s.ed.xrow.toNat ++ [encStr (body.take o ++ [10]), encStr (body.drop (o + 1) ++ [10])] ++
        (lines s).drop (s.ed.xrow.toNat + 1) ∧
      pending s' = rest ∧ s'.ed.xrow = s.ed.xrow + 1 ∧ s'.ed.xoff = 0 ∧ s'.ed.regs = s.ed.regs := by
  obtain ⟨s1, hch, hp1, hr1⟩ := viChar_newline s rest hp hk
  have hmax : max 1 s.arg1 = 1 := by omega
  obtain ⟨ed', h1, h2, -, hrg, -⟩ := (vcReplace_run s s1 body o [10] [10] hr0 hline hb hb10 ho hol hch hr1).1
    (by rw [hmax]; exact hol)
  rw [hmax] at h1 h2
  refine ⟨_, h1, ?_, hp1, rfl, rfl, hrg⟩
  show Lemmas.C06.lines ed' = _
  rw [h2]
  exact congrArg (fun x => _ ++ x ++ _)
    (split_two _ _ (fun h => hb10 (List.mem_of_mem_take h)) (fun h => hb10 (List.mem_of_mem_drop h)))

/-- **statement 3** (`Props/C08b.lean`): proved as stated -/
theorem vcReplace_newline_full : Neatvi.Props.C08b.vcReplace_newline_full := by
  intro s body o rest hr0 hline hb hb10 ho hol ha hp hk
  obtain ⟨s', h1, h2, -⟩ := vcReplace_newline_spec s body o rest hr0 hline hb hb10 ho hol ha hp hk
  exact ⟨s', h1, h2⟩

/-! ## 1. the normalised region after the inclusive-motion adjustment -/

/-- `ren_noeol` keeps the order of two offsets up to its one step back -/
theorem noeol_mono1 (s : VS) (r o1 o2 : Int) (h : o1 ≤ o2) : noeol s r o1 ≤ noeol s r o2 + 1 :=
  Lemmas.C08c.noeol_mono1 s r o1 o2 h

/-- on one row, the start of the normalised region is at most `noeol s r o2 + 1`, the end the inclusive
motions use (whatever the motion and whether or not `o2` lies before the end of the line) -/
theorem normRegion_incl (s : VS) (r1 o1 r2 o2 : Int) :
    (normRegion s false r1 o1 r2 o2).1 = (normRegion s false r1 o1 r2 o2).2.2.1 →
    (normRegion s false r1 o1 r2 o2).2.1 ≤
      noeol s (normRegion s false r1 o1 r2 o2).2.2.1 (normRegion s false r1 o1 r2 o2).2.2.2 + 1 := by
  intro heq
  obtain ⟨a, ha, e⟩ := (Props.C08.normRegion_row s false r1 o1 r2 o2).2 heq
  rw [e]
  exact Lemmas.C08c.noeol_mono1 _ _ _ _ ha

/-- `ren_noeol` is in fact monotone in the offset (what the comment at `vcMotion_normalises_full` asks for) -/
theorem noeol_mono (s : VS) (r o1 o2 : Int) (h : o1 ≤ o2) : noeol s r o1 ≤ noeol s r o2 :=
  Lemmas.C08c.noeol_mono s r o1 o2 h

/-- hence the region an inclusive motion (`f t e E %`) hands to the operator on one row is never empty:
its start lies strictly before the adjusted end -/
theorem normRegion_incl_nonempty (s : VS) (r1 o1 r2 o2 : Int) :
    (normRegion s false r1 o1 r2 o2).1 = (normRegion s false r1 o1 r2 o2).2.2.1 →
    (normRegion s false r1 o1 r2 o2).2.1 <
      noeol s (normRegion s false r1 o1 r2 o2).2.2.1 (normRegion s false r1 o1 r2 o2).2.2.2 + 1 := by
  intro heq
  obtain ⟨a, ha, e⟩ := (Props.C08.normRegion_row s false r1 o1 r2 o2).2 heq
  rw [e]
  exact Int.lt_add_one_of_le (Lemmas.C08c.noeol_mono _ _ _ _ ha)

/-- **statement 1** (`Props/C08.lean`): proved as stated -/
theorem vcMotion_normalises_full : Neatvi.Props.C08.vcMotion_normalises_full := by
  intro s mv lnmode r1 o1 r2 o2 t o2' heq
  by_cases hc : (!lnmode && strHas "fteE%" mv && t.2.2.2 < Mot.eol (lines s) t.2.2.1) = true
  · have hl : lnmode = false := by
      cases lnmode
      · rfl
      · simp at hc
    subst hl
    show t.2.1 ≤ if (!false && strHas "fteE%" mv && t.2.2.2 < Mot.eol (lines s) t.2.2.1) = true then _ else _
    rw [if_pos hc]
    exact normRegion_incl s r1 o1 r2 o2 heq
  · show t.2.1 ≤ if (!lnmode && strHas "fteE%" mv && t.2.2.2 < Mot.eol (lines s) t.2.2.1) = true then _ else _
    rw [if_neg hc]
    exact (Props.C08.vcMotion_normalises s lnmode r1 o1 r2 o2).2 heq

/-! ## 2. the charwise delete / put round trip across rows -/

/-- charwise across rows: `d` from character `n1` of row `r1` up to (not including) character `n2` of
row `r2 > r1` into the unnamed register, then `P`, restores the text; the cursor row is `r1`.
Only the rows `r1` and `r2` have to be valid UTF-8, the others just well formed; `n1` may also be the
newline of row `r1` (`n1 = |body1|`). -/
theorem delete_put_roundtrip_char_multi (s s1 s2 : VS) (a b : Nat) (r1 r2 : Int) (n1 n2 : Nat)
    (body1 body2 : List Nat)
    (hwf : RegsWf s.ed.regs) (hy : s.ybuf = 0) (ha : s.arg1 ≤ 1)
    (h0 : 0 ≤ r1) (h12 : r1 < r2) (h2 : r2 < lenOf s)
    (hlines : ∀ l ∈ lines s, Props.C01.WfLine l)
    (hl1 : (lines s)[r1.toNat]? = some (encStr (body1 ++ [10])))
    (hl2 : (lines s)[r2.toNat]? = some (encStr (body2 ++ [10])))
    (hv1 : ∀ c ∈ body1, ValidCp c) (hv2 : ∀ c ∈ body2, ValidCp c) (h10a : 10 ∉ body1) (h10b : 10 ∉ body2)
    (hn1 : n1 ≤ body1.length) (hn2 : n2 < body2.length)
    (hd : viDelete r1 n1 r2 n2 false s = Res.ok a s1)
    (hp : vcPut 80 s1 = Res.ok b s2) :
    lines s2 = lines s ∧ s2.ed.xrow = r1 :=
  Lemmas.C08c.delete_put_roundtrip_char_multi s s1 s2 a b r1 r2 n1 n2 body1 body2 hwf hy ha h0 h12 h2 hlines
    hl1 hl2 hv1 hv2 h10a h10b hn1 hn2 hd hp

/-- **statement 2** (`Props/C08.lean`): proved as stated -/
theorem delete_put_roundtrip_char_full : Neatvi.Props.C08.delete_put_roundtrip_char_full := by
  intro s s1 s2 a b r1 o1 r2 o2 hwf hy ha h0 h12 h2 hlines ho1 ho1' ho2 ho2' hd hp
  have hL : lenOf s = ((lines s).length : Int) := rfl
  have hr1 : r1.toNat < (lines s).length := by omega
  have hr2 : r2.toNat < (lines s).length := by omega
  obtain ⟨body1, e1, hv1, h10a⟩ := hlines _ (List.getElem_mem hr1)
  obtain ⟨body2, e2, hv2, h10b⟩ := hlines _ (List.getElem_mem hr2)
  have hl1 : (lines s)[r1.toNat]? = some (encStr (body1 ++ [10])) := by rw [← e1]; exact List.getElem?_eq_getElem hr1
  have hl2 : (lines s)[r2.toNat]? = some (encStr (body2 ++ [10])) := by rw [← e2]; exact List.getElem?_eq_getElem hr2
  rw [lineE_eq s r1 h0 _ hl1, Props.C16.slen_spec (valid_snoc_ten hv1)] at ho1'
  rw [lineE_eq s r2 (by omega) _ hl2, Props.C16.slen_spec (valid_snoc_ten hv2)] at ho2'
  simp only [List.length_append, List.length_singleton] at ho1' ho2'
  have hwfl : ∀ l ∈ lines s, Props.C01.WfLine l := by
    intro l hl
    obtain ⟨body, e, -, h10⟩ := hlines l hl
    rw [e]; exact wfLine_enc h10
  obtain ⟨n1, rfl⟩ : ∃ n : Nat, o1 = (n : Int) := ⟨o1.toNat, by omega⟩
  obtain ⟨n2, rfl⟩ : ∃ n : Nat, o2 = (n : Int) := ⟨o2.toNat, by omega⟩
  exact (delete_put_roundtrip_char_multi s s1 s2 a b r1 r2 n1 n2 body1 body2 hwf hy ha h0 h12 h2 hwfl hl1 hl2 hv1 hv2
    h10a h10b (by omega) (by omega) hd hp).1

/-! ## concrete instances (the hypotheses above are satisfiable; the runs are what the theorems say) -/

section Examples
open Neatvi.Props.C08b (exSt linesOf cursorOf)
open Neatvi.Props.C08 (linesAfter stateAfter)

-- `r<CR>` on the first `l` of `hello w`: `he` / `lo w`, the cursor at the start of the new row
example : linesOf (vcReplace (exSt [10] 0 2)) = [[104, 101, 10], [108, 111, 32, 119, 10], [98, 10]] := by decide +kernel
example : cursorOf (vcReplace (exSt [10] 0 2)) = (1, 0) := by decide +kernel
-- on the last character of the line: an empty second line
example : linesOf (vcReplace (exSt [10] 0 6)) = [[104, 101, 108, 108, 111, 32, 10], [10], [98, 10]] := by decide +kernel
-- the hypotheses of `vcReplace_newline_spec` on that state
example : ∃ s', vcReplace (exSt [10, 65] 0 2) = Res.ok VC_OK s' ∧ pending s' = [65] := by
  obtain ⟨s', h1, -, h3, -⟩ := vcReplace_newline_spec (exSt [10, 65] 0 2) [104, 101, 108, 108, 111, 32, 119] 2 [65]
    (by decide) (by decide +kernel) (by decide) (by decide) rfl (by decide) (by decide) (by decide +kernel) rfl
  exact ⟨s', h1, h3⟩

/-- four lines `hel`, `bc`, `aéb`, `x` -/
def ex4 : VS := { ed := { bufs := [some { path := [], lb := { lines := [[104, 101, 108, 10], [98, 99, 10], [97, 195, 169, 98, 10], [120, 10]] } }] } }

-- the side conditions of `delete_put_roundtrip_char_full` hold of `ex4` with the region `(0, 2) .. (2, 1)`
example : RegsWf ex4.ed.regs ∧ ex4.ybuf = 0 ∧ ex4.arg1 ≤ 1 ∧ (2 : Int) < lenOf ex4 ∧
    (∀ l ∈ lines ex4, ∃ body, l = encStr (body ++ [10]) ∧ (∀ c ∈ body, ValidCp c) ∧ 10 ∉ body) ∧
    (2 : Int) + 1 < ucSlen (lineE ex4 0) ∧ (1 : Int) + 1 < ucSlen (lineE ex4 2) := by
  refine ⟨regsWf_default, rfl, by decide, by decide +kernel, ?_, by decide +kernel, by decide +kernel⟩
  intro l hl
  have hl' : l ∈ ([[104, 101, 108, 10], [98, 99, 10], [97, 195, 169, 98, 10], [120, 10]] : List Bytes) := hl
  simp only [List.mem_cons, List.not_mem_nil, or_false] at hl'
  rcases hl' with rfl | rfl | rfl | rfl
  · exact ⟨[104, 101, 108], by decide +kernel, by decide, by decide⟩
  · exact ⟨[98, 99], by decide +kernel, by decide, by decide⟩
  · exact ⟨[97, 233, 98], by decide +kernel, by decide, by decide⟩
  · exact ⟨[120], by decide +kernel, by decide, by decide⟩
-- the delete joins `he` and `éb` …
example : linesAfter (viDelete 0 2 2 1 false ex4) = [[104, 101, 195, 169, 98, 10], [120, 10]] := by decide +kernel
-- … the register holds `l`, newline, `bc`, newline, `a` …
example : Props.C08.reg (stateAfter (viDelete 0 2 2 1 false ex4)) 0 = (some [108, 10, 98, 99, 10, 97], 0) := by decide +kernel
-- … and `P` restores the four lines
example : linesAfter (vcPut 80 (stateAfter (viDelete 0 2 2 1 false ex4))) = lines ex4 := by decide +kernel
-- the empty pieces: from the start of row 1 to the start of row 3
example : linesAfter (vcPut 80 (stateAfter (viDelete 1 0 3 0 false ex4))) = lines ex4 := by decide +kernel

end Examples

end Neatvi.Props.C08c
