import NeatviVerif.Props.C08b
/-!
# C08 (fourth part): insert mode over any number of typed lines

1. `led_input` over the typed lines `l₀ ⏎ l₁ ⏎ … ⏎ l_k ESC`: `ledInput_lines_spec` (plain text lines that do
   not start with a blank; with the full frame `Typed`), and `ledInput_multi_line`, which proves the
   statement `ledInput_multi_line_full` left open in `Props/C08b.lean` as written;
2. `vc_insert` for `i a I A` with such a text: `vcInsert_{i,a,A,I}_lines_spec`, `vcInsert_emptyline_lines_spec`
   (the generalisation of `vcInsert_i_newline_spec` from two lines to any number);
3. the same for `o`, `O`: `vcInsert_{o,O}_lines_spec`;
4. checks: the two-line theorems of `Props/C08b.lean` as instances, concrete runs;
5. `vcInsert_full` (the other open statement of `Props/C08b.lean`) is false as written: `vcInsert_full_false`.

All statements are about the model (`Model/Vi.lean`, `Model/ViCmd.lean`), total (`Res.ok`, no trap).
-/
namespace Neatvi.Props.C08d
open Neatvi Neatvi.Uc Neatvi.Vi Neatvi.Ex Neatvi.Spec Neatvi.Lemmas.C08 Neatvi.Lemmas.C08b Neatvi.Lemmas.C09
open Neatvi.Lemmas.C08d Neatvi.Props.C08b

/-! ## 1. `led_input` over any number of lines -/

/-- a typed line (`PlainLine`): valid code points, no control characters, not DEL; not empty and not
starting with a blank (blanks inside and at the end are allowed); within the bound of the model's loop -/
theorem plainLine_iff (l : List Nat) : PlainLine l ↔
    (∀ c ∈ l, ValidCp c ∧ 32 ≤ c ∧ c ≠ 127) ∧ (l.head? ≠ none ∧ l.head? ≠ some 32) ∧ l.length < 100000 :=
  Iff.rfl

/-- in particular a non-empty line without any blank, as `ledInput_multi_line_full` has it -/
theorem plainLine_of_noblank {l : List Nat}
    (h : (∀ c ∈ l, ValidCp c ∧ 32 < c ∧ c ≠ 127) ∧ l ≠ [] ∧ l.length < 100000) : PlainLine l :=
  Lemmas.C08d.plainLine_of_noblank h

/-- what `Typed` says, field by field: `s'` is `s` after the keys `used` were read (`ReadsEd`: outside the
editor record only the key queue and `icmd` differ), with the same buffers and registers, and the
cursor `n` rows further down -/
theorem typed_iff (used : Bytes) (n : Nat) (s s' : VS) : Typed used n s s' ↔
    ReadsEd used s s' ∧ s'.ed.bufs = s.ed.bufs ∧ s'.ed.xrow = s.ed.xrow + (n : Int) ∧ s'.ed.regs = s.ed.regs :=
  ⟨fun h => ⟨h.frame, h.bufs, h.xrow, h.regs⟩, fun h => ⟨h.1, h.2.1, h.2.2.1, h.2.2.2⟩⟩

/-- in particular the buffer lines are the same -/
theorem typed_lines {used : Bytes} {n : Nat} {s s' : VS} (h : Typed used n s s') : lines s' = lines s := h.lines

/-- the keys of an insertion of the lines `ls`, `last` -/
theorem lineKeys_eq (ls : List (List Nat)) (last : List Nat) :
    lineKeys ls last = (ls.map (fun l => encStr l ++ [10])).flatten ++ encStr last ++ [27] := rfl

/-- **`led_input` over any number of typed lines, with the frame.**  The pending keys are the lines `ls`,
each followed by a newline, then the line `last` and ESC; every line is `PlainLine`.  `led_input` returns
prefix ++ each line of `ls` followed by the newline and the auto-indent (`aiAfterNl`: the leading blanks of
the prefix, at most 127, with `autoindent`; else nothing) ++ `last` ++ the rest of the line, which after a
newline has lost its leading blanks when `autoindent` is set (`postAfterNl`).  The keys are consumed; the
cursor row moved down by the number of newlines; the buffers, the registers and all state outside the
editor record and the key queue are untouched.
(`ledInput_two_lines` of `Props/C08b.lean` is the case `ls = [cs1]`.) -/
theorem ledInput_lines_spec (pref post : Bytes) (s : VS) (ls : List (List Nat)) (last : List Nat) (rest : Bytes)
    (hp : pending s = (ls.map (fun l => encStr l ++ [10])).flatten ++ encStr last ++ [27] ++ rest)
    (hpl : ∀ l ∈ last :: ls, PlainLine l) (hlen : ls.length < 100000) (hk : s.xkmap = 0) :
    ∃ s', ledInput pref post s =
        Res.ok (pref ++ (ls.map (fun l => encStr l ++ [10] ++ aiAfterNl s pref)).flatten ++ encStr last ++
          (if ls = [] then post else postAfterNl s post), if ls = [] then post else postAfterNl s post) s' ∧
      pending s' = rest ∧ Typed ((ls.map (fun l => encStr l ++ [10])).flatten ++ encStr last ++ [27]) ls.length s s' :=
  ledInput_lines pref post s ls last rest hp hpl hlen hk

/-- the statement left open in `Props/C08b.lean` §7 holds as written (concrete instances: `section Examples`
below) -/
theorem ledInput_multi_line : ledInput_multi_line_full := by
  intro pref post s ls last rest hp hpl hlen hk
  obtain ⟨s', h1, h2, h3⟩ := ledInput_lines_spec pref post s ls last rest hp
    (fun l hl => plainLine_of_noblank (hpl l hl)) hlen hk
  exact ⟨s', h1, h2, h3.lines, h3.xrow⟩

/-! ## 2. `vc_insert` with a text of any number of lines: `i a I A`

The line under the cursor is `encStr (body ++ [10])`; the keys are the lines `ls` (each ended by a newline),
the line `last` and ESC (`lineKeys ls last`); every typed line is `PlainLine` (`plainLine_iff`).  The row is
replaced by the rows `rowsOf hd ai ls last tail`:

* without a newline (`ls = []`): the one row `hd ++ last ++ tail` (`vcInsert_i_spec`);
* else `hd ++ l₀`, `ai ++ l₁`, …, `ai ++ l_{k-1}`, `ai ++ last ++ tail`

where `hd`, `tail` are the line before / from the insertion point, `ai = aiCp s hd` is the auto-indent (the
leading blanks of `hd`, at most 127, with `autoindent`; else empty) and after a newline the tail has lost
its leading blanks when `autoindent` is set (`tailOf`, `postCp`).  The cursor ends on the last typed
character, `ls.length` rows further down. -/

theorem rowsOf_nil (hd ai last tail : List Nat) : rowsOf hd ai [] last tail = [hd ++ last ++ tail] := rfl

theorem rowsOf_cons (hd ai l : List Nat) (ls : List (List Nat)) (last tail : List Nat) :
    rowsOf hd ai (l :: ls) last tail = (hd ++ l) :: (ls.map (fun x => ai ++ x) ++ [ai ++ last ++ tail]) := rfl

theorem rowLines_eq (rows : List (List Nat)) : rowLines rows = rows.map (fun r => encStr (r ++ [10])) := rfl

theorem tailOf_nil (s : VS) (qs : List Nat) : tailOf s [] qs = qs := rfl
theorem tailOf_cons (s : VS) (l : List Nat) (ls : List (List Nat)) (qs : List Nat) : tailOf s (l :: ls) qs = postCp s qs := rfl
theorem lastHd_nil (hd ai : List Nat) : lastHd hd ai [] = hd := rfl
theorem lastHd_cons (hd ai l : List Nat) (ls : List (List Nat)) : lastHd hd ai (l :: ls) = ai := rfl

/-- the number of rows: one more than the newlines typed -/
theorem rowsOf_length (hd ai : List Nat) (ls : List (List Nat)) (last tail : List Nat) :
    (rowsOf hd ai ls last tail).length = ls.length + 1 := Lemmas.C08d.rowsOf_length hd ai ls last tail

/-- `i` with the cursor on character `o`, then the lines `l₀ ⏎ … ⏎ l_k ESC`:
the row becomes the rows `body.take o ++ l₀`, `ai ++ l₁`, …, `ai ++ l_k ++ tail`; all other rows, the
registers and the state outside the editor record and the key queue are unchanged (`Inserted`) -/
theorem vcInsert_i_lines_spec (s : VS) (body : List Nat) (ls : List (List Nat)) (last : List Nat) (o : Nat) (rest : Bytes)
    (hr0 : 0 ≤ s.ed.xrow) (hline : (lines s)[s.ed.xrow.toNat]? = some (encStr (body ++ [10])))
    (hb : ∀ c ∈ body, ValidCp c) (hb10 : 10 ∉ body) (ho : s.ed.xoff = (o : Int)) (hol : o < body.length)
    (hp : pending s = lineKeys ls last ++ rest) (hpl : ∀ l ∈ last :: ls, PlainLine l)
    (hlen : ls.length < 100000) (hk : s.xkmap = 0) :
    ∃ s', vcInsert 105 s = Res.ok VC_OK s' ∧ pending s' = rest ∧
      Inserted (lineKeys ls last) s s' s.ed.xrow
        (rowLines (rowsOf (body.take o) (aiCp s (body.take o)) ls last (tailOf s ls (body.drop o)))) 1
        (s.ed.xrow + (ls.length : Int))
        (((lastHd (body.take o) (aiCp s (body.take o)) ls).length : Int) + last.length - 1) := by
  exact Lemmas.C08e.vcInsert_lines_at_plain 105 (Or.inl rfl) s body o ls last rest hr0 hline hb hb10
    (insOff_i s body o hb hb10 ho hol) (Nat.le_of_lt hol) hp hpl hlen hk

/-- `a`: the same after the cursor character -/
theorem vcInsert_a_lines_spec (s : VS) (body : List Nat) (ls : List (List Nat)) (last : List Nat) (o : Nat) (rest : Bytes)
    (hr0 : 0 ≤ s.ed.xrow) (hline : (lines s)[s.ed.xrow.toNat]? = some (encStr (body ++ [10])))
    (hb : ∀ c ∈ body, ValidCp c) (hb10 : 10 ∉ body) (ho : s.ed.xoff = (o : Int)) (hol : o < body.length)
    (hp : pending s = lineKeys ls last ++ rest) (hpl : ∀ l ∈ last :: ls, PlainLine l)
    (hlen : ls.length < 100000) (hk : s.xkmap = 0) :
    ∃ s', vcInsert 97 s = Res.ok VC_OK s' ∧ pending s' = rest ∧
      Inserted (lineKeys ls last) s s' s.ed.xrow
        (rowLines (rowsOf (body.take (o + 1)) (aiCp s (body.take (o + 1))) ls last (tailOf s ls (body.drop (o + 1))))) 1
        (s.ed.xrow + (ls.length : Int))
        (((lastHd (body.take (o + 1)) (aiCp s (body.take (o + 1))) ls).length : Int) + last.length - 1) := by
  exact Lemmas.C08e.vcInsert_lines_at_plain 97 (Or.inr (Or.inl rfl)) s body (o + 1) ls last rest hr0 hline hb hb10
    (insOff_a s body o hb hb10 ho hol) hol hp hpl hlen hk

/-- `A`: at the end of the (non-empty) line; nothing is left for the last row but the typed text -/
theorem vcInsert_A_lines_spec (s : VS) (body : List Nat) (ls : List (List Nat)) (last : List Nat) (rest : Bytes)
    (hr0 : 0 ≤ s.ed.xrow) (hline : (lines s)[s.ed.xrow.toNat]? = some (encStr (body ++ [10])))
    (hb : ∀ c ∈ body, ValidCp c) (hb10 : 10 ∉ body) (hbne : body ≠ [])
    (hp : pending s = lineKeys ls last ++ rest) (hpl : ∀ l ∈ last :: ls, PlainLine l)
    (hlen : ls.length < 100000) (hk : s.xkmap = 0) :
    ∃ s', vcInsert 65 s = Res.ok VC_OK s' ∧ pending s' = rest ∧
      Inserted (lineKeys ls last) s s' s.ed.xrow (rowLines (rowsOf body (aiCp s body) ls last [])) 1
        (s.ed.xrow + (ls.length : Int)) (((lastHd body (aiCp s body) ls).length : Int) + last.length - 1) := by
  have h := Lemmas.C08e.vcInsert_lines_at_plain 65 (Or.inr (Or.inr (Or.inr rfl))) s body body.length ls last rest hr0 hline
    hb hb10 (insOff_A s body hr0 hline hb hb10 hbne) (Nat.le_refl _) hp hpl hlen hk
  rwa [List.take_length, List.drop_length, tailOf_empty] at h

/-- `I`: before the first non-blank character (the line is not all blank) -/
theorem vcInsert_I_lines_spec (s : VS) (body : List Nat) (ls : List (List Nat)) (last : List Nat) (rest : Bytes)
    (hr0 : 0 ≤ s.ed.xrow) (hline : (lines s)[s.ed.xrow.toNat]? = some (encStr (body ++ [10])))
    (hb : ∀ c ∈ body, ValidCp c) (hb10 : 10 ∉ body)
    (hk' : (body.takeWhile ucIsSpace).length < body.length)
    (hp : pending s = lineKeys ls last ++ rest) (hpl : ∀ l ∈ last :: ls, PlainLine l)
    (hlen : ls.length < 100000) (hk : s.xkmap = 0) :
    ∃ s', vcInsert 73 s = Res.ok VC_OK s' ∧ pending s' = rest ∧
      Inserted (lineKeys ls last) s s' s.ed.xrow
        (rowLines (rowsOf (body.take (body.takeWhile ucIsSpace).length)
          (aiCp s (body.take (body.takeWhile ucIsSpace).length)) ls last
          (tailOf s ls (body.drop (body.takeWhile ucIsSpace).length)))) 1
        (s.ed.xrow + (ls.length : Int))
        (((lastHd (body.take (body.takeWhile ucIsSpace).length)
          (aiCp s (body.take (body.takeWhile ucIsSpace).length)) ls).length : Int) + last.length - 1) := by
  exact Lemmas.C08e.vcInsert_lines_at_plain 73 (Or.inr (Or.inr (Or.inl rfl))) s body _ ls last rest hr0 hline hb hb10
    (insOff_I s body hr0 hline hb hb10 hk') (Nat.le_of_lt hk') hp hpl hlen hk

/-- on an empty line `i`, `a`, `I`, `A` all put the typed lines in its place -/
theorem vcInsert_emptyline_lines_spec (cmd : Nat) (hcmd : cmd = 105 ∨ cmd = 97 ∨ cmd = 73 ∨ cmd = 65)
    (s : VS) (ls : List (List Nat)) (last : List Nat) (rest : Bytes)
    (hr0 : 0 ≤ s.ed.xrow) (hline : (lines s)[s.ed.xrow.toNat]? = some [10])
    (hp : pending s = lineKeys ls last ++ rest) (hpl : ∀ l ∈ last :: ls, PlainLine l)
    (hlen : ls.length < 100000) (hk : s.xkmap = 0) :
    ∃ s', vcInsert cmd s = Res.ok VC_OK s' ∧ pending s' = rest ∧
      Inserted (lineKeys ls last) s s' s.ed.xrow (rowLines (ls ++ [last])) 1
        (s.ed.xrow + (ls.length : Int)) ((last.length : Int) - 1) := by
  have hai : aiCp s [] = [] := by unfold aiCp; split <;> rfl
  have hrows : rowsOf [] [] ls last [] = ls ++ [last] := by cases ls <;> simp [rowsOf]
  have hlh : lastHd ([] : List Nat) [] ls = [] := by unfold lastHd; split <;> rfl
  have h := Lemmas.C08e.vcInsert_lines_at_plain cmd hcmd s [] 0 ls last rest hr0 hline (by simp) (by simp) rfl
    (Nat.le_refl _) hp hpl hlen hk
  simp only [List.take_nil, List.drop_nil, hai, tailOf_empty, hrows, hlh, List.length_nil] at h
  simpa using h

/-! ## 3. `o`, `O` with a text of any number of lines

The new rows start with the indentation of the current line (`indentOf`: its leading blanks with
`autoindent`), the continuation rows with the auto-indent computed from it (the same blanks, at most 127:
`aiCp_indentOf`); nothing follows the last typed line. -/

/-- the auto-indent of the continuation rows after `o` / `O`: the indentation, cut at 127 blanks -/
theorem aiCp_indentOf (s : VS) (body : List Nat) : aiCp s (indentOf s body) = (indentOf s body).take 127 := by
  unfold aiCp indentOf
  cases s.xai
  · rfl
  · simp only [if_true]
    rw [takeWhile_all isBlankC _ (blanks_takeWhile body)]

/-- `o`, then the lines `l₀ ⏎ … ⏎ l_k ESC`: the rows `ind ++ l₀`, `ai ++ l₁`, …,
`ai ++ l_k` are inserted below the current row; the cursor ends on the last typed character of the last -/
theorem vcInsert_o_lines_spec (s : VS) (body : List Nat) (ls : List (List Nat)) (last : List Nat) (rest : Bytes)
    (hr0 : 0 ≤ s.ed.xrow) (hline : (lines s)[s.ed.xrow.toNat]? = some (encStr (body ++ [10])))
    (hb : ∀ c ∈ body, ValidCp c) (hb10 : 10 ∉ body)
    (hp : pending s = lineKeys ls last ++ rest) (hpl : ∀ l ∈ last :: ls, PlainLine l)
    (hlen : ls.length < 100000) (hk : s.xkmap = 0) :
    ∃ s', vcInsert 111 s = Res.ok VC_OK s' ∧ pending s' = rest ∧
      Inserted (lineKeys ls last) s s' (s.ed.xrow + 1)
        (rowLines (rowsOf (indentOf s body) (aiCp s (indentOf s body)) ls last [])) 0
        (s.ed.xrow + 1 + (ls.length : Int))
        (((lastHd (indentOf s body) (aiCp s (indentOf s body)) ls).length : Int) + last.length - 1) := by
  have h := Lemmas.C08e.vcInsert_o_lines s body ls last _ rest hr0 hline hb hb10
    (Lemmas.C08e.inputsL_lines ls last (fun l hl => Lemmas.C08e.tline_of_plain (hpl l hl)) hlen) hp hk
  rwa [Lemmas.C08e.rowsG_plain s _ ls last _ hpl, Lemmas.C08e.offG_plain s _ ls last _ hpl, tailOf_empty] at h

/-- `O`: the same above the current row -/
theorem vcInsert_O_lines_spec (s : VS) (body : List Nat) (ls : List (List Nat)) (last : List Nat) (rest : Bytes)
    (hr0 : 0 ≤ s.ed.xrow) (hline : (lines s)[s.ed.xrow.toNat]? = some (encStr (body ++ [10])))
    (hb : ∀ c ∈ body, ValidCp c) (hb10 : 10 ∉ body)
    (hp : pending s = lineKeys ls last ++ rest) (hpl : ∀ l ∈ last :: ls, PlainLine l)
    (hlen : ls.length < 100000) (hk : s.xkmap = 0) :
    ∃ s', vcInsert 79 s = Res.ok VC_OK s' ∧ pending s' = rest ∧
      Inserted (lineKeys ls last) s s' s.ed.xrow
        (rowLines (rowsOf (indentOf s body) (aiCp s (indentOf s body)) ls last [])) 0
        (s.ed.xrow + (ls.length : Int))
        (((lastHd (indentOf s body) (aiCp s (indentOf s body)) ls).length : Int) + last.length - 1) := by
  have h := Lemmas.C08e.vcInsert_O_lines s body ls last _ rest hr0 hline hb hb10
    (Lemmas.C08e.inputsL_lines ls last (fun l hl => Lemmas.C08e.tline_of_plain (hpl l hl)) hlen) hp hk
  rwa [Lemmas.C08e.rowsG_plain s _ ls last _ hpl, Lemmas.C08e.offG_plain s _ ls last _ hpl, tailOf_empty] at h

/-! ## 4. checks: the two-line theorem of `Props/C08b.lean` as an instance, and concrete runs -/

/-- the hypotheses of the two-line theorems give `PlainLine` -/
theorem plainLine_of_two (cs1 cs2 : List Nat) (hpl : ∀ c ∈ cs1 ++ cs2, ValidCp c ∧ 32 ≤ c ∧ c ≠ 127)
    (hne1 : cs1.head? ≠ none ∧ cs1.head? ≠ some 32) (hne2 : cs2.head? ≠ none ∧ cs2.head? ≠ some 32)
    (hlen1 : cs1.length < 100000) (hlen2 : cs2.length < 100000) : ∀ l ∈ cs2 :: [cs1], PlainLine l :=
  Lemmas.C08b.plainLine_two cs1 cs2 hpl hne1 hne2 hlen1 hlen2

/-- `ledInput_two_lines` (`Props/C08b.lean`), under its own hypotheses, is the instance `ls = [cs1]`,
`last = cs2` of `ledInput_lines_spec` -/
example (pref post : Bytes) (s : VS) (cs1 cs2 : List Nat) (rest : Bytes)
    (hp : pending s = encStr cs1 ++ [10] ++ encStr cs2 ++ [27] ++ rest)
    (hpl : ∀ c ∈ cs1 ++ cs2, ValidCp c ∧ 32 ≤ c ∧ c ≠ 127)
    (hne1 : cs1.head? ≠ none ∧ cs1.head? ≠ some 32) (hne2 : cs2.head? ≠ none ∧ cs2.head? ≠ some 32)
    (hlen1 : cs1.length < 100000) (hlen2 : cs2.length < 100000) (hk : s.xkmap = 0) :
    ∃ s', ledInput pref post s =
        Res.ok (pref ++ encStr cs1 ++ [10] ++ aiAfterNl s pref ++ encStr cs2 ++ postAfterNl s post, postAfterNl s post) s' ∧
      pending s' = rest ∧ ReadsEd (encStr cs1 ++ [10] ++ encStr cs2 ++ [27]) s s' ∧
      lines s' = lines s ∧ s'.ed.xrow = s.ed.xrow + 1 ∧ s'.ed.regs = s.ed.regs := by
  obtain ⟨s', a1, a2, a3⟩ := ledInput_lines_spec pref post s [cs1] cs2 rest (by rw [hp]; simp)
    (plainLine_of_two cs1 cs2 hpl hne1 hne2 hlen1 hlen2) (by simp) hk
  refine ⟨s', ?_, a2, ?_, a3.lines, a3.xrow, a3.regs⟩
  · rw [a1]; simp
  · have := a3.frame
    simpa using this

/-- `vcInsert_i_newline_spec` (`Props/C08b.lean`), under its own hypotheses, is the instance `ls = [cs1]`,
`last = cs2` of `vcInsert_i_lines_spec` -/
example (s : VS) (body cs1 cs2 : List Nat) (o : Nat) (rest : Bytes)
    (hr0 : 0 ≤ s.ed.xrow) (hline : (lines s)[s.ed.xrow.toNat]? = some (encStr (body ++ [10])))
    (hb : ∀ c ∈ body, ValidCp c) (hb10 : 10 ∉ body) (ho : s.ed.xoff = (o : Int)) (hol : o < body.length)
    (hp : pending s = encStr cs1 ++ [10] ++ encStr cs2 ++ [27] ++ rest)
    (hpl : ∀ c ∈ cs1 ++ cs2, ValidCp c ∧ 32 ≤ c ∧ c ≠ 127)
    (hne1 : cs1.head? ≠ none ∧ cs1.head? ≠ some 32) (hne2 : cs2.head? ≠ none ∧ cs2.head? ≠ some 32)
    (hlen1 : cs1.length < 100000) (hlen2 : cs2.length < 100000) (hk : s.xkmap = 0) :
    ∃ s', vcInsert 105 s = Res.ok VC_OK s' ∧ pending s' = rest ∧
      Inserted (encStr cs1 ++ [10] ++ encStr cs2 ++ [27]) s s' s.ed.xrow
        [encStr (body.take o ++ cs1 ++ [10]),
         encStr (aiCp s (body.take o) ++ cs2 ++ (postCp s (body.drop o) ++ [10]))] 1 (s.ed.xrow + 1)
        (((aiCp s (body.take o)).length : Int) + cs2.length - 1) := by
  obtain ⟨s', a1, a2, a3⟩ := vcInsert_i_lines_spec s body [cs1] cs2 o rest hr0 hline hb hb10 ho hol
    (by rw [hp]; simp [lineKeys]) (plainLine_of_two cs1 cs2 hpl hne1 hne2 hlen1 hlen2) (by simp) hk
  refine ⟨s', a1, a2, ?_⟩
  have e : lineKeys [cs1] cs2 = encStr cs1 ++ [10] ++ encStr cs2 ++ [27] := by simp [lineKeys]
  rw [e] at a3
  simpa [rowLines, rowsOf, tailOf, lastHd, List.append_assoc] using a3

section Examples

/-- a state with `autoindent` on or off, the buffer `  hello w`, `b`, the cursor at `(0, off)` -/
def exEdAi : Ed := { bufs := [some { path := [], lb := { lines := [[32, 32, 104, 101, 108, 108, 111, 32, 119, 10], [98, 10]] } }] }
def exStAi (ai : Bool) (keys : Bytes) (off : Int) : VS := { ed := { exEdAi with xrow := 0, xoff := off }, typed := keys, xai := ai }

/-- the text `led_input` returns -/
def inputOf (r : Res (Bytes × Bytes)) : Bytes × Bytes := match r with | Res.ok x _ => x | _ => ([], [])
def rowOf (r : Res (Bytes × Bytes)) : Int := match r with | Res.ok _ s => s.ed.xrow | _ => -1

-- three typed lines `X ⏎ YZ ⏎ W ESC` after the prefix `␣␣h`, before `␣l ⏎`, with `autoindent`: the
-- continuation lines get the two blanks, the rest of the line loses its blank (the value `ledInput_multi_line` gives)
example : inputOf (ledInput [32, 32, 104] [32, 108, 10] (exStAi true [88, 10, 89, 90, 10, 87, 27, 120] 0)) =
    ([32, 32, 104, 88, 10, 32, 32, 89, 90, 10, 32, 32, 87, 108, 10], [108, 10]) := by decide +kernel
example : rowOf (ledInput [32, 32, 104] [32, 108, 10] (exStAi true [88, 10, 89, 90, 10, 87, 27, 120] 0)) = 2 := by decide +kernel
-- without `autoindent`: no indent, the rest of the line as it was
example : inputOf (ledInput [32, 32, 104] [32, 108, 10] (exStAi false [88, 10, 89, 90, 10, 87, 27, 120] 0)) =
    ([32, 32, 104, 88, 10, 89, 90, 10, 87, 32, 108, 10], [32, 108, 10]) := by decide +kernel
-- `post` empty, prefix without blanks
example : inputOf (ledInput [104] [] (exStAi true [88, 10, 89, 90, 10, 87, 27] 0)) =
    ([104, 88, 10, 89, 90, 10, 87], []) := by decide +kernel

/-- the hypotheses of `ledInput_multi_line` are met by a concrete state (three typed lines, `autoindent`),
and the theorem gives the value computed above -/
example : ∃ s', ledInput [32, 32, 104] [32, 108, 10] (exStAi true [88, 10, 89, 90, 10, 87, 27, 120] 0) =
      Res.ok ([32, 32, 104, 88, 10, 32, 32, 89, 90, 10, 32, 32, 87, 108, 10], [108, 10]) s' ∧ pending s' = [120] ∧
      lines s' = lines (exStAi true [88, 10, 89, 90, 10, 87, 27, 120] 0) ∧ s'.ed.xrow = 2 := by
  obtain ⟨s', h1, h2, h3, h4⟩ := ledInput_multi_line [32, 32, 104] [32, 108, 10] (exStAi true [88, 10, 89, 90, 10, 87, 27, 120] 0)
    [[88], [89, 90]] [87] [120] (by decide +kernel) (by decide +kernel) (by decide) rfl
  refine ⟨s', ?_, h2, h3, h4⟩
  rw [h1]
  have e : (([32, 32, 104] : Bytes) ++ (([[88], [89, 90]] : List (List Nat)).map (fun l => encStr l ++ [10] ++
      aiAfterNl (exStAi true [88, 10, 89, 90, 10, 87, 27, 120] 0) [32, 32, 104])).flatten ++ encStr [87] ++
      (if ([[88], [89, 90]] : List (List Nat)) = [] then [32, 108, 10]
        else postAfterNl (exStAi true [88, 10, 89, 90, 10, 87, 27, 120] 0) [32, 108, 10]),
      if ([[88], [89, 90]] : List (List Nat)) = [] then ([32, 108, 10] : Bytes)
        else postAfterNl (exStAi true [88, 10, 89, 90, 10, 87, 27, 120] 0) [32, 108, 10]) =
      (([32, 32, 104, 88, 10, 32, 32, 89, 90, 10, 32, 32, 87, 108, 10] : Bytes), ([108, 10] : Bytes)) := by decide +kernel
  rw [e]

-- `i X ⏎ YZ ⏎ W ESC` on the `l` (offset 4) of `␣␣hello w`, with `autoindent`: three rows, cursor on the `W`
example : linesOf (vcInsert 105 (exStAi true [88, 10, 89, 90, 10, 87, 27] 4)) =
    [[32, 32, 104, 101, 88, 10], [32, 32, 89, 90, 10], [32, 32, 87, 108, 108, 111, 32, 119, 10], [98, 10]] := by decide +kernel
example : cursorOf (vcInsert 105 (exStAi true [88, 10, 89, 90, 10, 87, 27] 4)) = (2, 2) := by decide +kernel
-- the rows `vcInsert_i_lines_spec` names for it
example : rowLines (rowsOf [32, 32, 104, 101] (aiCp (exStAi true [] 4) [32, 32, 104, 101]) [[88], [89, 90]] [87]
      (tailOf (exStAi true [] 4) [[88], [89, 90]] [108, 108, 111, 32, 119])) =
    [[32, 32, 104, 101, 88, 10], [32, 32, 89, 90, 10], [32, 32, 87, 108, 108, 111, 32, 119, 10]] := by decide +kernel
-- the same without `autoindent`
example : linesOf (vcInsert 105 (exStAi false [88, 10, 89, 90, 10, 87, 27] 4)) =
    [[32, 32, 104, 101, 88, 10], [89, 90, 10], [87, 108, 108, 111, 32, 119, 10], [98, 10]] := by decide +kernel
-- `o X ⏎ Y ⏎ Z ESC`: three new rows below, indented like the current one
example : linesOf (vcInsert 111 (exStAi true [88, 10, 89, 10, 90, 27] 4)) =
    [[32, 32, 104, 101, 108, 108, 111, 32, 119, 10], [32, 32, 88, 10], [32, 32, 89, 10], [32, 32, 90, 10], [98, 10]] := by decide +kernel
example : cursorOf (vcInsert 111 (exStAi true [88, 10, 89, 10, 90, 27] 4)) = (3, 2) := by decide +kernel
-- `O`: above
example : linesOf (vcInsert 79 (exStAi true [88, 10, 89, 27] 4)) =
    [[32, 32, 88, 10], [32, 32, 89, 10], [32, 32, 104, 101, 108, 108, 111, 32, 119, 10], [98, 10]] := by decide +kernel

-- typed lines with blanks inside and at the end: `iA B ⏎ C␣ ESC`
example : linesOf (vcInsert 105 (exStAi true [65, 32, 66, 10, 67, 32, 27] 4)) =
    [[32, 32, 104, 101, 65, 32, 66, 10], [32, 32, 67, 32, 108, 108, 111, 32, 119, 10], [98, 10]] := by decide +kernel

/-- the hypotheses of `vcInsert_i_lines_spec` are met by a concrete state (three typed lines, one with a
blank inside, `autoindent`): the theorem gives the three rows computed above for the buffer -/
example : ∃ s', vcInsert 105 (exStAi true [88, 10, 89, 32, 90, 10, 87, 27] 4) = Res.ok VC_OK s' ∧ pending s' = [] ∧
    lines s' = [[32, 32, 104, 101, 88, 10], [32, 32, 89, 32, 90, 10], [32, 32, 87, 108, 108, 111, 32, 119, 10], [98, 10]] ∧
    s'.ed.xrow = 2 ∧ s'.ed.xoff = 2 := by
  obtain ⟨s', h1, h2, h3⟩ := vcInsert_i_lines_spec (exStAi true [88, 10, 89, 32, 90, 10, 87, 27] 4)
    [32, 32, 104, 101, 108, 108, 111, 32, 119] [[88], [89, 32, 90]] [87] 4 []
    (by decide) (by decide +kernel) (by decide) (by decide) rfl (by decide) (by decide +kernel) (by decide +kernel) (by decide) rfl
  refine ⟨s', h1, h2, ?_, ?_, ?_⟩
  · rw [h3.lines]; decide +kernel
  · rw [h3.xrow]; decide +kernel
  · rw [h3.xoff]; decide +kernel

end Examples

/-! ## 5. the other open statement of `Props/C08b.lean`, `vcInsert_full`, is false as written

`vcInsert_full` asks `vc_insert` to return for every state with a line under the cursor.  It has no
hypothesis on that line; on lines that `lbuf` never holds the model traps (the C code would read outside
the string): a line that does not end in a newline, a line with an inner newline, a line with a NUL byte.
(On 34560 runs over well-formed NUL-free buffers — valid and invalid UTF-8, blank lines, every command,
offsets from -2 to 9, typed texts empty / blank / starting with a blank — the model returned `VC_OK` with
the keys consumed; `vcInsert_full_candidate` is the statement these runs support.  It is not proved here.) -/

def isOk (r : Res Nat) : Bool := match r with | Res.ok _ _ => true | _ => false

/-- a buffer whose only line is the NUL byte and a newline; `aX<ESC>` with `x` to follow -/
def nulSt : VS := { ed := { bufs := [some { path := [], lb := { lines := [[0, 10]] } }], xrow := 0, xoff := 0 }, typed := [88, 27, 120] }

/-- `vcInsert_full` is false: `a` on a line holding a NUL byte traps -/
theorem vcInsert_full_false : ¬ vcInsert_full := by
  intro h
  obtain ⟨s', h1, -⟩ := h 97 nulSt (encStr [88] ++ [27]) [120] [88] (by decide)
    (Props.C08b.inputs_text [88] (by decide) (by decide)) (by decide +kernel) rfl (by decide +kernel)
  have h2 : isOk (vcInsert 97 nulSt) = false := by decide +kernel
  rw [h1] at h2
  exact Bool.noConfusion h2

/-- the same with a line that does not end in a newline (here: the empty byte string) -/
example : isOk (vcInsert 97 { ed := { bufs := [some { path := [], lb := { lines := [[]] } }] }, typed := [88, 27, 120] }) = false := by
  decide +kernel

/-- the candidate correction (supported by the runs above, not proved): the line under the cursor is a
well-formed `lbuf` line without NUL bytes, and the typed text has no newline -/
def vcInsert_full_candidate : Prop :=
  ∀ (cmd : Nat) (s : VS) (K rest : Bytes) (cs : List Nat) (w : Bytes), cmd = 105 ∨ cmd = 97 ∨ cmd = 73 ∨ cmd = 65 ∨ cmd = 111 ∨ cmd = 79 →
    Inputs K cs → 10 ∉ cs → pending s = K ++ rest → s.xkmap = 0 →
    lineOf s s.ed.xrow = some (w ++ [10]) → 10 ∉ w → 0 ∉ w →
    ∃ s', vcInsert cmd s = Res.ok VC_OK s' ∧ pending s' = rest

end Neatvi.Props.C08d
