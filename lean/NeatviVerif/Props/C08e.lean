import NeatviVerif.Props.C08
import NeatviVerif.Props.C08d
import NeatviVerif.Lemmas.C08eCmd
/-!
# C08 (fifth part): insert mode with typed lines that are empty or start with blanks

1. `led_input` over the typed lines `l₀ ⏎ l₁ ⏎ … ⏎ l_k ESC` where every line may be empty, consist of blanks
   only, or start with blanks / tabs: `ledInput_lines_general`.  The text is `inputText` (a recursive
   function of the typed lines: `inputText_nil`, `inputText_cons`, `contText_nil`, `contText_cons`); the
   auto-indent the model computes is `aiNext` / `aiSeq` (closed form: `contText_eq`), never longer than 127
   bytes (`aiNext_length`, `aiSeq_length_le`).  `ledInput_lines_spec` of `Props/C08d.lean` is the special case
   of lines that do not start with a blank (`inputText_plain`); its formula is false for blank lines
   (`ledInput_lines_spec_blank_false`), and so is the naive auto-indent rule (`aiNext_naive_false`; the rule that
   holds: `aiNext_row`).
2. `vc_insert` (`i a I A o O`) with such a text: `vcInsert_{i,a,A,I,o,O}_lines_general` (`i a I A` are
   `vcInsert_lines_at` at the offset where the command cuts the line), the rows `insRows`
   (`rowsG_nil`, `rowsG_cons`) and the cursor offset `insOff`; the theorems of `Props/C08d.lean` are instances
   (`insRows_plain`, `insOff_plain`).
3. `c` over several rows: `viChange_multi_spec`, `viChange_multi_lines`, `viChange_multi_regs`.

All statements are about the model (`Model/Vi.lean`, `Model/ViCmd.lean`), total (`Res.ok`, no trap).
-/
namespace Neatvi.Props.C08e
open Neatvi Neatvi.Uc Neatvi.Vi Neatvi.Ex Neatvi.Spec Neatvi.Lemmas.C08 Neatvi.Lemmas.C08b Neatvi.Lemmas.C09
open Neatvi.Lemmas.C08d Neatvi.Lemmas.C08e Neatvi.Props.C08b Neatvi.Props.C08d

/-! ## 1. `led_input` over lines that may be empty or start with blanks -/

/-- a typed key (`TKey`): a valid code point, not a control character other than TAB, not DEL; a typed line
(`TLine`): such keys — blanks and tabs anywhere, also an empty line — within the bound of the model's loop -/
theorem tline_iff (l : List Nat) : TLine l ↔
    (∀ c ∈ l, ValidCp c ∧ (32 ≤ c ∨ c = 9) ∧ c ≠ 127) ∧ l.length < 100000 := Iff.rfl

/-- the lines of `Props/C08d.lean` are such lines -/
theorem tline_of_plainLine {l : List Nat} (h : PlainLine l) : TLine l := tline_of_plain h

/-- **the rule for writing the auto-indent** (`keepB pne lastNE ln`): the auto-indent is written in front of
the typed line `ln` iff the line has a non-blank character, or text precedes it on its row (`pne`: only
possible on the first line), or it is the last line and is followed by more than the newline (`lastNE`) -/
theorem keepB_iff (pne lastNE : Bool) (ln : Bytes) : keepB pne lastNE ln = true ↔
    (ln.takeWhile isBlankC).length < ln.length ∨ pne = true ∨ lastNE = true := by
  unfold keepB lnBlanks
  simp [or_assoc]

/-- **the auto-indent rule** (`aiNext xai pne ai ln`), the auto-indent after the typed line `ln` when it was
`ai` before: nothing without `autoindent`; unchanged when text preceded the line on its row; else `ai`
followed by the leading blanks of `ln`, cut so that the whole does not exceed 127 bytes -/
theorem aiNext_eq (xai pne : Bool) (ai ln : Bytes) : aiNext xai pne ai ln =
    if xai = false then [] else if pne = true then ai else ai ++ (ln.takeWhile isBlankC).take (127 - ai.length) := by
  unfold aiNext lnBlanks
  cases xai <;> simp

/-- the 127-byte clamp: the auto-indent never exceeds 127 bytes -/
theorem aiNext_length (xai pne : Bool) (ai ln : Bytes) (h : ai.length ≤ 127) : (aiNext xai pne ai ln).length ≤ 127 :=
  Lemmas.C08e.aiNext_length xai pne ai ln h

/-- the auto-indent after a line typed at the start of its row is the leading blanks of that row as written
(auto-indent ++ typed line), at most 127 of them — also when the row is blank and the auto-indent was in fact
not written (`keepB`) -/
theorem aiNext_row (ai ln : Bytes) (hb : ∀ c ∈ ai, isBlankC c = true) (hl : ai.length ≤ 127) :
    aiNext true false ai ln = ((ai ++ ln).takeWhile isBlankC).take 127 := by
  rw [aiNext_eq, List.takeWhile_append_of_pos hb, List.take_append, List.take_of_length_le hl]
  simp

/-- the naive reading of the rule — "the next auto-indent is the leading blanks of the line just typed, or the
inherited one if that line has none" — is not what the model computes: the typed blanks are *added* to the
inherited auto-indent (`o` on a line indented by `␣␣`, then `␣␣x ⏎ y`: the row of `y` is indented by four) -/
def aiNaive (ai ln : Bytes) : Bytes :=
  if (ln.takeWhile isBlankC).isEmpty then ai else (ln.takeWhile isBlankC).take 127

theorem aiNext_naive_false : ¬ ∀ (ai ln : Bytes), ai.length ≤ 127 → aiNext true false ai ln = aiNaive ai ln := by
  intro h
  have := h [32, 32] [32, 32, 120] (by decide)
  revert this
  decide

/-- the typed lines as `led_line` returns them -/
abbrev encLines (ls : List (List Nat)) : List Bytes := ls.map encStr

/-- the text of the lines typed after the first newline: `post` is the rest of the line (already without its
leading blanks when `autoindent` is set), `ai` the auto-indent in force -/
def contText (xai : Bool) (post ai : Bytes) (ls : List (List Nat)) (last : List Nat) : Bytes :=
  loopText xai none post ai (encLines ls) (encStr last)

/-- **the text `led_input` returns** for the prefix `pref`, the rest of the line `post`, the typed lines `ls`
(each ended by a newline) and `last` (ended by ESC) -/
def inputText (xai : Bool) (pref post : Bytes) (ls : List (List Nat)) (last : List Nat) : Bytes :=
  inputTextB xai pref post (encLines ls) (encStr last)

/-- no newline typed: the auto-indent split off the prefix (`aiOf pref`: its leading blanks, at most 127), if
kept, the rest of the prefix, the typed line, the rest of the line -/
theorem inputText_nil (xai : Bool) (pref post : Bytes) (last : List Nat) :
    inputText xai pref post [] last =
      (if keepB (!(prefRest pref).isEmpty) (!post.isEmpty && post.headD 0 != 10) (encStr last) then aiOf pref else []) ++
        prefRest pref ++ encStr last ++ post := rfl

/-- the first typed line goes after the prefix; the text continues after the newline with the rest of the
line without its leading blanks (with `autoindent`: `dropB`) and the next auto-indent -/
theorem inputText_cons (xai : Bool) (pref post : Bytes) (l : List Nat) (ls : List (List Nat)) (last : List Nat) :
    inputText xai pref post (l :: ls) last =
      (if keepB (!(prefRest pref).isEmpty) false (encStr l) then aiOf pref else []) ++ prefRest pref ++ encStr l ++ [10] ++
        contText xai (dropB xai post) (aiNext xai (!(prefRest pref).isEmpty) (aiOf pref) (encStr l)) ls last := rfl

theorem contText_nil (xai : Bool) (post ai : Bytes) (last : List Nat) :
    contText xai post ai [] last =
      (if keepB false (!post.isEmpty && post.headD 0 != 10) (encStr last) then ai else []) ++ encStr last ++ post := by
  simp [contText, loopText, pneOf, postNE]

theorem contText_cons (xai : Bool) (post ai : Bytes) (l : List Nat) (ls : List (List Nat)) (last : List Nat) :
    contText xai post ai (l :: ls) last =
      (if keepB false false (encStr l) then ai else []) ++ encStr l ++ [10] ++
        contText xai (dropB xai post) (aiNext xai false ai (encStr l)) ls last := by
  simp [contText, loopText, pneOf]
  rfl

/-- `aiSeq xai pne ai ls`: the auto-indents in force when each of the lines `ls` is typed, and after them -/
theorem aiSeq_nil (xai pne : Bool) (ai : Bytes) : aiSeq xai pne ai [] = [ai] := rfl
theorem aiSeq_cons (xai pne : Bool) (ai l : Bytes) (ls : List Bytes) :
    aiSeq xai pne ai (l :: ls) = ai :: aiSeq xai false (aiNext xai pne ai l) ls := rfl

/-- its `k`-th entry is the auto-indent after the first `k` lines; every entry is at most 127 bytes long -/
theorem aiSeq_getElem (xai pne : Bool) (ai : Bytes) (ls : List Bytes) (k : Nat) (hk : k ≤ ls.length) :
    (aiSeq xai pne ai ls)[k]? = some (aiAfter xai pne ai (ls.take k)) := Lemmas.C08e.aiSeq_getElem xai ls pne ai k hk

theorem aiSeq_length_le (xai pne : Bool) (ai : Bytes) (ls : List Bytes) (h : ai.length ≤ 127) :
    ∀ a ∈ aiSeq xai pne ai ls, a.length ≤ 127 := by
  intro a ha
  obtain ⟨k, hk, rfl⟩ := List.getElem_of_mem ha
  have hk' : k ≤ ls.length := by rw [Lemmas.C08e.aiSeq_length] at hk; omega
  have := aiSeq_getElem xai pne ai ls k hk'
  rw [List.getElem?_eq_getElem hk] at this
  rw [Option.some.inj this]
  exact aiAfter_length xai _ pne ai h

/-- **closed form**: every line typed after the first newline is written after its auto-indent from `aiSeq`
(unless it is blank), the last one also when text follows it -/
theorem contText_eq (xai : Bool) (post ai : Bytes) (ls : List (List Nat)) (last : List Nat) :
    contText xai post ai ls last =
      (List.zipWith (fun a l => (if keepB false false l then a else []) ++ l ++ [10])
        (aiSeq xai false ai (encLines ls)) (encLines ls)).flatten ++
      (if keepB false (postNE (if ls = [] then post else dropB xai post)) (encStr last)
        then aiAfter xai false ai (encLines ls) else []) ++
      encStr last ++ (if ls = [] then post else dropB xai post) := by
  unfold contText
  rw [loopText_none]
  simp only [encLines, List.map_eq_nil_iff]

/-- **`led_input` over typed lines that may be empty or start with blanks, with the frame.**  The pending keys
are the lines `ls`, each followed by a newline, then the line `last` and ESC; every line is a `TLine`.
`led_input` returns the text `inputText` and the rest of the line (after a newline without its leading blanks,
with `autoindent`); the keys are consumed; the cursor row moved down by the number of newlines; the buffers,
the registers and all state outside the editor record and the key queue are untouched (`Typed`). -/
theorem ledInput_lines_general (pref post : Bytes) (s : VS) (ls : List (List Nat)) (last : List Nat) (rest : Bytes)
    (hp : pending s = (ls.map (fun l => encStr l ++ [10])).flatten ++ encStr last ++ [27] ++ rest)
    (hpl : ∀ l ∈ last :: ls, TLine l) (hlen : ls.length < 100000) (hk : s.xkmap = 0) :
    ∃ s', ledInput pref post s =
        Res.ok (inputText s.xai pref post ls last, if ls = [] then post else postAfterNl s post) s' ∧
      pending s' = rest ∧ Typed ((ls.map (fun l => encStr l ++ [10])).flatten ++ encStr last ++ [27]) ls.length s s' :=
  ledInput_lines_gen pref post s ls last rest hp hpl hlen hk

/-- for lines that do not start with a blank the text is the one of `ledInput_lines_spec` (`Props/C08d.lean`):
the auto-indent stays the one of the prefix -/
theorem inputText_plain (s : VS) (pref post : Bytes) (ls : List (List Nat)) (last : List Nat)
    (hpl : ∀ l ∈ last :: ls, PlainLine l) :
    inputText s.xai pref post ls last =
      pref ++ (ls.map (fun l => encStr l ++ [10] ++ aiAfterNl s pref)).flatten ++ encStr last ++
        (if ls = [] then post else postAfterNl s post) :=
  inputTextB_plain s pref post ls last hpl

/-- `ledInput_lines_spec` (`Props/C08d.lean`) is an instance of `ledInput_lines_general` -/
example (pref post : Bytes) (s : VS) (ls : List (List Nat)) (last : List Nat) (rest : Bytes)
    (hp : pending s = (ls.map (fun l => encStr l ++ [10])).flatten ++ encStr last ++ [27] ++ rest)
    (hpl : ∀ l ∈ last :: ls, PlainLine l) (hlen : ls.length < 100000) (hk : s.xkmap = 0) :
    ∃ s', ledInput pref post s =
        Res.ok (pref ++ (ls.map (fun l => encStr l ++ [10] ++ aiAfterNl s pref)).flatten ++ encStr last ++
          (if ls = [] then post else postAfterNl s post), if ls = [] then post else postAfterNl s post) s' ∧
      pending s' = rest ∧ Typed ((ls.map (fun l => encStr l ++ [10])).flatten ++ encStr last ++ [27]) ls.length s s' := by
  obtain ⟨s', h1, h2, h3⟩ := ledInput_lines_general pref post s ls last rest hp
    (fun l hl => tline_of_plainLine (hpl l hl)) hlen hk
  exact ⟨s', by rw [h1, inputText_plain s pref post ls last hpl], h2, h3⟩

/-- the formula of `ledInput_lines_spec` (`Props/C08d.lean`: every continuation line after the auto-indent of
the prefix) does not extend to blank lines: it is false as soon as `PlainLine` is weakened to `TLine`.
After the prefix `␣␣`, typed `⏎ ESC` gives two empty rows, not two rows of two blanks. -/
theorem ledInput_lines_spec_blank_false :
    ¬ ∀ (pref post : Bytes) (s : VS) (ls : List (List Nat)) (last : List Nat) (rest : Bytes),
      pending s = (ls.map (fun l => encStr l ++ [10])).flatten ++ encStr last ++ [27] ++ rest →
      (∀ l ∈ last :: ls, TLine l) → ls.length < 100000 → s.xkmap = 0 →
      ∃ s', ledInput pref post s =
        Res.ok (pref ++ (ls.map (fun l => encStr l ++ [10] ++ aiAfterNl s pref)).flatten ++ encStr last ++
          (if ls = [] then post else postAfterNl s post), if ls = [] then post else postAfterNl s post) s' := by
  intro h
  obtain ⟨s', h1⟩ := h [32, 32] [10] (exStAi true [10, 27, 120] 0) [[]] [] [120] (by decide +kernel) (by decide)
    (by decide) rfl
  have h2 : inputOf (ledInput [32, 32] [10] (exStAi true [10, 27, 120] 0)) = ([10, 10], [10]) := by decide +kernel
  rw [h1] at h2
  have h3 : (([32, 32] : Bytes) ++ (([[]] : List (List Nat)).map (fun l => encStr l ++ [10] ++
      aiAfterNl (exStAi true [10, 27, 120] 0) [32, 32])).flatten ++ encStr [] ++
      (if ([[]] : List (List Nat)) = [] then [10] else postAfterNl (exStAi true [10, 27, 120] 0) [10]),
      if ([[]] : List (List Nat)) = [] then ([10] : Bytes) else postAfterNl (exStAi true [10, 27, 120] 0) [10]) =
      (([10, 10] : Bytes), ([10] : Bytes)) := h2
  exact absurd h3 (by decide +kernel)

section Examples

/-- the keys of the typed lines `ls`, `last`, then `x` -/
def keysOf (ls : List (List Nat)) (last : List Nat) : Bytes := lineKeys ls last ++ [120]

-- typed `␣␣x ⏎ ⏎ y ESC` after the prefix `␣␣h`, before `␣l ⏎`, with `autoindent`: the prefix is not empty, so
-- the auto-indent stays `␣␣`; the empty line gets none; `y` gets it; the rest of the line loses its blank
example : inputOf (ledInput [32, 32, 104] [32, 108, 10] (exStAi true (keysOf [[32, 32, 120], []] [121]) 0)) =
    ([32, 32, 104, 32, 32, 120, 10, 10, 32, 32, 121, 108, 10], [108, 10]) := by decide +kernel
example : inputText true [32, 32, 104] [32, 108, 10] [[32, 32, 120], []] [121] =
    [32, 32, 104, 32, 32, 120, 10, 10, 32, 32, 121, 108, 10] := by decide +kernel
-- the same after the all-blank prefix `␣␣` (as after `o` on an indented line): the auto-indent grows by the
-- blanks of the first line: `y` is indented by four
example : inputOf (ledInput [32, 32] [10] (exStAi true (keysOf [[32, 32, 120], []] [121]) 0)) =
    ([32, 32, 32, 32, 120, 10, 10, 32, 32, 32, 32, 121, 10], [10]) := by decide +kernel
example : inputText true [32, 32] [10] [[32, 32, 120], []] [121] =
    [32, 32, 32, 32, 120, 10, 10, 32, 32, 32, 32, 121, 10] := by decide +kernel
-- without `autoindent`: the first line still follows the blanks of the prefix, the others get nothing
example : inputOf (ledInput [32, 32] [10] (exStAi false (keysOf [[32, 32, 120], []] [121]) 0)) =
    ([32, 32, 32, 32, 120, 10, 10, 121, 10], [10]) := by decide +kernel
example : inputText false [32, 32] [10] [[32, 32, 120], []] [121] = [32, 32, 32, 32, 120, 10, 10, 121, 10] := by
  decide +kernel
-- two empty lines and an empty last line after an all-blank prefix: the blanks of the prefix are dropped
-- (also without `autoindent`), three empty rows result
example : inputOf (ledInput [32, 32] [10] (exStAi true (keysOf [[], []] []) 0)) = ([10, 10, 10], [10]) := by decide +kernel
example : inputOf (ledInput [32, 32] [10] (exStAi false (keysOf [[], []] []) 0)) = ([10, 10, 10], [10]) := by decide +kernel
example : inputText true [32, 32] [10] [[], []] [] = [10, 10, 10] ∧ inputText false [32, 32] [10] [[], []] [] = [10, 10, 10] := by
  decide +kernel
-- … but before further text (`post` = `l ⏎`) the last line keeps the auto-indent
example : inputOf (ledInput [32, 32] [108, 10] (exStAi true (keysOf [[], []] []) 0)) = ([10, 10, 32, 32, 108, 10], [108, 10]) := by
  decide +kernel
example : inputText true [32, 32] [108, 10] [[], []] [] = [10, 10, 32, 32, 108, 10] := by decide +kernel
-- a line of 130 blanks, then `x`: the blank line is written as typed (130 blanks, no auto-indent), the
-- auto-indent of the next line is cut at 127 blanks
example : inputOf (ledInput [] [10] (exStAi true (keysOf [List.replicate 130 32] [120]) 0)) =
    (List.replicate 130 32 ++ [10] ++ List.replicate 127 32 ++ [120, 10], [10]) := by decide +kernel
example : inputText true [] [10] [List.replicate 130 32] [120] =
    List.replicate 130 32 ++ [10] ++ List.replicate 127 32 ++ [120, 10] := by decide +kernel
example : aiSeq true false [] (encLines [List.replicate 130 32]) = [[], List.replicate 127 32] := by decide +kernel
-- after the prefix `␣␣` the auto-indent is `␣␣` and 125 of the 130 blanks
example : inputText true [32, 32] [10] [List.replicate 130 32] [120] =
    List.replicate 130 32 ++ [10] ++ List.replicate 127 32 ++ [120, 10] := by decide +kernel
-- without `autoindent` nothing is carried over
example : inputOf (ledInput [] [10] (exStAi false (keysOf [List.replicate 130 32] [120]) 0)) =
    (List.replicate 130 32 ++ [10, 120, 10], [10]) := by decide +kernel
example : inputText false [] [10] [List.replicate 130 32] [120] = List.replicate 130 32 ++ [10, 120, 10] := by
  decide +kernel

/-- the hypotheses of `ledInput_lines_general` are met by a concrete state (typed `␣␣x ⏎ ⏎ y ESC`, `autoindent`),
and the theorem gives the value computed above -/
example : ∃ s', ledInput [32, 32] [10] (exStAi true (keysOf [[32, 32, 120], []] [121]) 0) =
      Res.ok ([32, 32, 32, 32, 120, 10, 10, 32, 32, 32, 32, 121, 10], [10]) s' ∧ pending s' = [120] ∧ s'.ed.xrow = 2 := by
  obtain ⟨s', h1, h2, h3⟩ := ledInput_lines_general [32, 32] [10] (exStAi true (keysOf [[32, 32, 120], []] [121]) 0)
    [[32, 32, 120], []] [121] [120] (by decide +kernel) (by decide +kernel) (by decide) rfl
  refine ⟨s', ?_, h2, h3.xrow⟩
  rw [h1]
  have e : (inputText (exStAi true (keysOf [[32, 32, 120], []] [121]) 0).xai [32, 32] [10] [[32, 32, 120], []] [121],
      if ([[32, 32, 120], []] : List (List Nat)) = [] then ([10] : Bytes)
        else postAfterNl (exStAi true (keysOf [[32, 32, 120], []] [121]) 0) [10]) =
      (([32, 32, 32, 32, 120, 10, 10, 32, 32, 32, 32, 121, 10] : Bytes), ([10] : Bytes)) := by decide +kernel
  rw [e]

end Examples

/-! ## 2. `vc_insert` with such a text: `i a I A o O`

The line under the cursor is `encStr (body ++ [10])`; the keys are the typed lines `ls` (each ended by a
newline), the line `last` and ESC; every typed line is a `TLine`.  With `ps` what precedes the insertion
point on the line (`body.take o` for `i`; the indentation `indentOf s body` for `o`, `O`) and `tail` what
follows it, the row is replaced by (`i a I A`) / the new rows are (`o O`) `insRows s ps ls last tail`:
`led_input` splits `ps` into its leading blanks `aiRaw ps` (at most 127: the first auto-indent) and the rest
`hdRest ps`; every typed line is written after the auto-indent in force unless the row would hold nothing but
blanks (`keepCp`); the auto-indent grows by the leading blanks of each typed line up to 127 characters
(`aiNextCp`), or is empty without `autoindent`; at the first newline the tail loses its leading blanks with
`autoindent` (`dropCp`).  The cursor ends on the last character before the tail on the last row (`insOff`),
`ls.length` rows further down. -/

/-- the rows (without their newlines) of an insertion of the lines `ls`, `last` between `ps` and `tail` -/
def insRows (s : VS) (ps : List Nat) (ls : List (List Nat)) (last tail : List Nat) : List (List Nat) :=
  rowsG s.xai (hdRest ps) (aiRaw ps) ls last tail

/-- the cursor offset after it -/
def insOff (s : VS) (ps : List Nat) (ls : List (List Nat)) (last tail : List Nat) : Int :=
  offG (lastPreG s.xai (hdRest ps) (aiRaw ps) ls last tail).length

/-- `ps` is its leading blanks (at most 127 of them) and the rest -/
theorem aiRaw_append_hdRest (ps : List Nat) : aiRaw ps ++ hdRest ps = ps := aiRaw_hdRest ps
theorem aiRaw_eq (ps : List Nat) : aiRaw ps = (ps.takeWhile isBlankC).take 127 := rfl

/-- the recursion of the rows -/
theorem rowsG_nil (xai : Bool) (hd ai last tail : List Nat) :
    rowsG xai hd ai [] last tail = [(if keepCp (!hd.isEmpty) (!tail.isEmpty) last then ai else []) ++ hd ++ last ++ tail] := rfl
theorem rowsG_cons (xai : Bool) (hd ai l : List Nat) (ls : List (List Nat)) (last tail : List Nat) :
    rowsG xai hd ai (l :: ls) last tail =
      ((if keepCp (!hd.isEmpty) false l then ai else []) ++ hd ++ l) ::
        rowsG xai [] (aiNextCp xai (!hd.isEmpty) ai l) ls last (dropCp xai tail) := rfl

theorem keepCp_iff (pne lastNE : Bool) (l : List Nat) : keepCp pne lastNE l = true ↔
    (l.takeWhile isBlankC).length < l.length ∨ pne = true ∨ lastNE = true := by
  unfold keepCp blanksCp
  simp [or_assoc]

theorem aiNextCp_eq (xai pne : Bool) (ai l : List Nat) : aiNextCp xai pne ai l =
    if xai = false then [] else if pne = true then ai else ai ++ (l.takeWhile isBlankC).take (127 - ai.length) := by
  unfold aiNextCp blanksCp
  cases xai <;> simp

/-- the 127-character clamp on rows: every auto-indent used is at most 127 characters long -/
theorem aiNextCp_length (xai pne : Bool) (ai l : List Nat) (h : ai.length ≤ 127) : (aiNextCp xai pne ai l).length ≤ 127 :=
  aiNext_length xai pne ai l h

theorem aiRaw_length_le (ps : List Nat) : (aiRaw ps).length ≤ 127 := aiRaw_length ps

/-- one more row than newlines typed -/
theorem insRows_length (s : VS) (ps : List Nat) (ls : List (List Nat)) (last tail : List Nat) :
    (insRows s ps ls last tail).length = ls.length + 1 := rowsG_length s.xai last ls _ _ tail

/-- for lines that do not start with a blank: the rows and the offset of `Props/C08d.lean` -/
theorem insRows_plain (s : VS) (ps : List Nat) (ls : List (List Nat)) (last tail : List Nat)
    (hpl : ∀ l ∈ last :: ls, PlainLine l) :
    insRows s ps ls last tail = rowsOf ps (aiCp s ps) ls last (tailOf s ls tail) := rowsG_plain s ps ls last tail hpl

theorem insOff_plain (s : VS) (ps : List Nat) (ls : List (List Nat)) (last tail : List Nat)
    (hpl : ∀ l ∈ last :: ls, PlainLine l) :
    insOff s ps ls last tail = ((lastHd ps (aiCp s ps) ls).length : Int) + last.length - 1 :=
  offG_plain s ps ls last tail hpl

/-- **`vcInsert_i_lines_general`**: `i` with the cursor on character `o`, then the typed lines -/
theorem vcInsert_i_lines_general (s : VS) (body : List Nat) (ls : List (List Nat)) (last : List Nat) (o : Nat) (rest : Bytes)
    (hr0 : 0 ≤ s.ed.xrow) (hline : (lines s)[s.ed.xrow.toNat]? = some (encStr (body ++ [10])))
    (hb : ∀ c ∈ body, ValidCp c) (hb10 : 10 ∉ body) (ho : s.ed.xoff = (o : Int)) (hol : o < body.length)
    (hp : pending s = lineKeys ls last ++ rest) (hpl : ∀ l ∈ last :: ls, TLine l)
    (hlen : ls.length < 100000) (hk : s.xkmap = 0) :
    ∃ s', vcInsert 105 s = Res.ok VC_OK s' ∧ pending s' = rest ∧
      Inserted (lineKeys ls last) s s' s.ed.xrow (rowLines (insRows s (body.take o) ls last (body.drop o))) 1
        (s.ed.xrow + (ls.length : Int)) (insOff s (body.take o) ls last (body.drop o)) :=
  vcInsert_lines_at 105 (Or.inl rfl) s body o ls last _ rest hr0 hline hb hb10 (insOff_i s body o hb hb10 ho hol)
    (Nat.le_of_lt hol) (inputsL_lines ls last hpl hlen) hp hk

/-- `a`: the same after the cursor character -/
theorem vcInsert_a_lines_general (s : VS) (body : List Nat) (ls : List (List Nat)) (last : List Nat) (o : Nat) (rest : Bytes)
    (hr0 : 0 ≤ s.ed.xrow) (hline : (lines s)[s.ed.xrow.toNat]? = some (encStr (body ++ [10])))
    (hb : ∀ c ∈ body, ValidCp c) (hb10 : 10 ∉ body) (ho : s.ed.xoff = (o : Int)) (hol : o < body.length)
    (hp : pending s = lineKeys ls last ++ rest) (hpl : ∀ l ∈ last :: ls, TLine l)
    (hlen : ls.length < 100000) (hk : s.xkmap = 0) :
    ∃ s', vcInsert 97 s = Res.ok VC_OK s' ∧ pending s' = rest ∧
      Inserted (lineKeys ls last) s s' s.ed.xrow
        (rowLines (insRows s (body.take (o + 1)) ls last (body.drop (o + 1)))) 1
        (s.ed.xrow + (ls.length : Int)) (insOff s (body.take (o + 1)) ls last (body.drop (o + 1))) := by
  exact vcInsert_lines_at 97 (Or.inr (Or.inl rfl)) s body (o + 1) ls last _ rest hr0 hline hb hb10
    (insOff_a s body o hb hb10 ho hol) hol (inputsL_lines ls last hpl hlen) hp hk

/-- `A`: at the end of the (non-empty) line -/
theorem vcInsert_A_lines_general (s : VS) (body : List Nat) (ls : List (List Nat)) (last : List Nat) (rest : Bytes)
    (hr0 : 0 ≤ s.ed.xrow) (hline : (lines s)[s.ed.xrow.toNat]? = some (encStr (body ++ [10])))
    (hb : ∀ c ∈ body, ValidCp c) (hb10 : 10 ∉ body) (hbne : body ≠ [])
    (hp : pending s = lineKeys ls last ++ rest) (hpl : ∀ l ∈ last :: ls, TLine l)
    (hlen : ls.length < 100000) (hk : s.xkmap = 0) :
    ∃ s', vcInsert 65 s = Res.ok VC_OK s' ∧ pending s' = rest ∧
      Inserted (lineKeys ls last) s s' s.ed.xrow (rowLines (insRows s body ls last [])) 1
        (s.ed.xrow + (ls.length : Int)) (insOff s body ls last []) := by
  have h := vcInsert_lines_at 65 (Or.inr (Or.inr (Or.inr rfl))) s body body.length ls last _ rest hr0 hline hb hb10
    (insOff_A s body hr0 hline hb hb10 hbne) (Nat.le_refl _) (inputsL_lines ls last hpl hlen) hp hk
  rwa [List.take_length, List.drop_length] at h

/-- `I`: before the first non-blank character (the line is not all blank) -/
theorem vcInsert_I_lines_general (s : VS) (body : List Nat) (ls : List (List Nat)) (last : List Nat) (rest : Bytes)
    (hr0 : 0 ≤ s.ed.xrow) (hline : (lines s)[s.ed.xrow.toNat]? = some (encStr (body ++ [10])))
    (hb : ∀ c ∈ body, ValidCp c) (hb10 : 10 ∉ body)
    (hk' : (body.takeWhile ucIsSpace).length < body.length)
    (hp : pending s = lineKeys ls last ++ rest) (hpl : ∀ l ∈ last :: ls, TLine l)
    (hlen : ls.length < 100000) (hk : s.xkmap = 0) :
    ∃ s', vcInsert 73 s = Res.ok VC_OK s' ∧ pending s' = rest ∧
      Inserted (lineKeys ls last) s s' s.ed.xrow
        (rowLines (insRows s (body.take (body.takeWhile ucIsSpace).length) ls last
          (body.drop (body.takeWhile ucIsSpace).length))) 1
        (s.ed.xrow + (ls.length : Int))
        (insOff s (body.take (body.takeWhile ucIsSpace).length) ls last (body.drop (body.takeWhile ucIsSpace).length)) := by
  exact vcInsert_lines_at 73 (Or.inr (Or.inr (Or.inl rfl))) s body _ ls last _ rest hr0 hline hb hb10
    (insOff_I s body hr0 hline hb hb10 hk') (Nat.le_of_lt hk') (inputsL_lines ls last hpl hlen) hp hk

/-- **`vcInsert_o_lines_general`**: `o`, then the typed lines: the rows `insRows s (indentOf s body) ls last []` are
inserted below the current row (the first auto-indent is the indentation of the current line with `autoindent`) -/
theorem vcInsert_o_lines_general (s : VS) (body : List Nat) (ls : List (List Nat)) (last : List Nat) (rest : Bytes)
    (hr0 : 0 ≤ s.ed.xrow) (hline : (lines s)[s.ed.xrow.toNat]? = some (encStr (body ++ [10])))
    (hb : ∀ c ∈ body, ValidCp c) (hb10 : 10 ∉ body)
    (hp : pending s = lineKeys ls last ++ rest) (hpl : ∀ l ∈ last :: ls, TLine l)
    (hlen : ls.length < 100000) (hk : s.xkmap = 0) :
    ∃ s', vcInsert 111 s = Res.ok VC_OK s' ∧ pending s' = rest ∧
      Inserted (lineKeys ls last) s s' (s.ed.xrow + 1) (rowLines (insRows s (indentOf s body) ls last [])) 0
        (s.ed.xrow + 1 + (ls.length : Int)) (insOff s (indentOf s body) ls last []) := by
  exact vcInsert_o_lines s body ls last _ rest hr0 hline hb hb10 (inputsL_lines ls last hpl hlen) hp hk

/-- `O`: the same above the current row -/
theorem vcInsert_O_lines_general (s : VS) (body : List Nat) (ls : List (List Nat)) (last : List Nat) (rest : Bytes)
    (hr0 : 0 ≤ s.ed.xrow) (hline : (lines s)[s.ed.xrow.toNat]? = some (encStr (body ++ [10])))
    (hb : ∀ c ∈ body, ValidCp c) (hb10 : 10 ∉ body)
    (hp : pending s = lineKeys ls last ++ rest) (hpl : ∀ l ∈ last :: ls, TLine l)
    (hlen : ls.length < 100000) (hk : s.xkmap = 0) :
    ∃ s', vcInsert 79 s = Res.ok VC_OK s' ∧ pending s' = rest ∧
      Inserted (lineKeys ls last) s s' s.ed.xrow (rowLines (insRows s (indentOf s body) ls last [])) 0
        (s.ed.xrow + (ls.length : Int)) (insOff s (indentOf s body) ls last []) := by
  exact vcInsert_O_lines s body ls last _ rest hr0 hline hb hb10 (inputsL_lines ls last hpl hlen) hp hk

/-- `vcInsert_i_lines_spec` and `vcInsert_o_lines_spec` (`Props/C08d.lean`) are instances -/
example (s : VS) (body : List Nat) (ls : List (List Nat)) (last : List Nat) (o : Nat) (rest : Bytes)
    (hr0 : 0 ≤ s.ed.xrow) (hline : (lines s)[s.ed.xrow.toNat]? = some (encStr (body ++ [10])))
    (hb : ∀ c ∈ body, ValidCp c) (hb10 : 10 ∉ body) (ho : s.ed.xoff = (o : Int)) (hol : o < body.length)
    (hp : pending s = lineKeys ls last ++ rest) (hpl : ∀ l ∈ last :: ls, PlainLine l)
    (hlen : ls.length < 100000) (hk : s.xkmap = 0) :
    ∃ s', vcInsert 105 s = Res.ok VC_OK s' ∧ pending s' = rest ∧
      Inserted (lineKeys ls last) s s' s.ed.xrow
        (rowLines (rowsOf (body.take o) (aiCp s (body.take o)) ls last (tailOf s ls (body.drop o)))) 1
        (s.ed.xrow + (ls.length : Int))
        (((lastHd (body.take o) (aiCp s (body.take o)) ls).length : Int) + last.length - 1) := by
  obtain ⟨s', h1, h2, h3⟩ := vcInsert_i_lines_general s body ls last o rest hr0 hline hb hb10 ho hol hp
    (fun l hl => tline_of_plainLine (hpl l hl)) hlen hk
  rw [insRows_plain s _ ls last _ hpl, insOff_plain s _ ls last _ hpl] at h3
  exact ⟨s', h1, h2, h3⟩

example (s : VS) (body : List Nat) (ls : List (List Nat)) (last : List Nat) (rest : Bytes)
    (hr0 : 0 ≤ s.ed.xrow) (hline : (lines s)[s.ed.xrow.toNat]? = some (encStr (body ++ [10])))
    (hb : ∀ c ∈ body, ValidCp c) (hb10 : 10 ∉ body)
    (hp : pending s = lineKeys ls last ++ rest) (hpl : ∀ l ∈ last :: ls, PlainLine l)
    (hlen : ls.length < 100000) (hk : s.xkmap = 0) :
    ∃ s', vcInsert 111 s = Res.ok VC_OK s' ∧ pending s' = rest ∧
      Inserted (lineKeys ls last) s s' (s.ed.xrow + 1)
        (rowLines (rowsOf (indentOf s body) (aiCp s (indentOf s body)) ls last [])) 0
        (s.ed.xrow + 1 + (ls.length : Int))
        (((lastHd (indentOf s body) (aiCp s (indentOf s body)) ls).length : Int) + last.length - 1) := by
  obtain ⟨s', h1, h2, h3⟩ := vcInsert_o_lines_general s body ls last rest hr0 hline hb hb10 hp
    (fun l hl => tline_of_plainLine (hpl l hl)) hlen hk
  rw [insRows_plain s _ ls last _ hpl, insOff_plain s _ ls last _ hpl, tailOf_empty] at h3
  exact ⟨s', h1, h2, h3⟩

section Examples2

-- `i ␣␣X ⏎ ⏎ Y ESC` on the `l` (offset 4) of `␣␣hello w`, with `autoindent`: the head `␣␣he` is not blank, so the
-- auto-indent stays `␣␣`; the empty typed line gives an empty row; the tail follows `␣␣Y`
example : linesOf (vcInsert 105 (exStAi true (lineKeys [[32, 32, 88], []] [89]) 4)) =
    [[32, 32, 104, 101, 32, 32, 88, 10], [10], [32, 32, 89, 108, 108, 111, 32, 119, 10], [98, 10]] := by decide +kernel
example : cursorOf (vcInsert 105 (exStAi true (lineKeys [[32, 32, 88], []] [89]) 4)) = (2, 2) := by decide +kernel
example : rowLines (insRows (exStAi true [] 4) [32, 32, 104, 101] [[32, 32, 88], []] [89] [108, 108, 111, 32, 119]) =
    [[32, 32, 104, 101, 32, 32, 88, 10], [10], [32, 32, 89, 108, 108, 111, 32, 119, 10]] ∧
    insOff (exStAi true [] 4) [32, 32, 104, 101] [[32, 32, 88], []] [89] [108, 108, 111, 32, 119] = 2 := by decide +kernel
-- `o ␣␣X ⏎ ⏎ Y ESC` on that line: the indentation `␣␣` is the auto-indent, the typed blanks are added to it
example : linesOf (vcInsert 111 (exStAi true (lineKeys [[32, 32, 88], []] [89]) 4)) =
    [[32, 32, 104, 101, 108, 108, 111, 32, 119, 10], [32, 32, 32, 32, 88, 10], [10], [32, 32, 32, 32, 89, 10], [98, 10]] := by
  decide +kernel
example : cursorOf (vcInsert 111 (exStAi true (lineKeys [[32, 32, 88], []] [89]) 4)) = (3, 4) := by decide +kernel
example : rowLines (insRows (exStAi true [] 4) [32, 32] [[32, 32, 88], []] [89] []) =
    [[32, 32, 32, 32, 88, 10], [10], [32, 32, 32, 32, 89, 10]] ∧
    insOff (exStAi true [] 4) [32, 32] [[32, 32, 88], []] [89] [] = 4 := by decide +kernel
-- `o ⏎ ⏎ ESC`: three empty rows (the indentation is dropped), the cursor at offset 0
example : linesOf (vcInsert 111 (exStAi true (lineKeys [[], []] []) 4)) =
    [[32, 32, 104, 101, 108, 108, 111, 32, 119, 10], [10], [10], [10], [98, 10]] := by decide +kernel
example : cursorOf (vcInsert 111 (exStAi true (lineKeys [[], []] []) 4)) = (3, 0) := by decide +kernel
example : rowLines (insRows (exStAi true [] 4) [32, 32] [[], []] [] []) = [[10], [10], [10]] ∧
    insOff (exStAi true [] 4) [32, 32] [[], []] [] [] = 0 := by decide +kernel
-- without `autoindent`
example : linesOf (vcInsert 111 (exStAi false (lineKeys [[32, 32, 88], []] [89]) 4)) =
    [[32, 32, 104, 101, 108, 108, 111, 32, 119, 10], [32, 32, 88, 10], [10], [89, 10], [98, 10]] := by decide +kernel
example : rowLines (insRows (exStAi false [] 4) [] [[32, 32, 88], []] [89] []) = [[32, 32, 88, 10], [10], [89, 10]] := by
  decide +kernel
-- `o`, a line of 130 blanks, `X`: the next row is indented by 127 blanks
example : linesOf (vcInsert 111 (exStAi true (lineKeys [List.replicate 130 32] [88]) 4)) =
    [[32, 32, 104, 101, 108, 108, 111, 32, 119, 10], List.replicate 130 32 ++ [10], List.replicate 127 32 ++ [88, 10], [98, 10]] := by
  decide +kernel
example : rowLines (insRows (exStAi true [] 4) [32, 32] [List.replicate 130 32] [88] []) =
    [List.replicate 130 32 ++ [10], List.replicate 127 32 ++ [88, 10]] := by decide +kernel

/-- the hypotheses of `vcInsert_o_lines_general` are met by a concrete state: the theorem gives the rows
computed above -/
example : ∃ s', vcInsert 111 (exStAi true (lineKeys [[32, 32, 88], []] [89]) 4) = Res.ok VC_OK s' ∧ pending s' = [] ∧
    lines s' = [[32, 32, 104, 101, 108, 108, 111, 32, 119, 10], [32, 32, 32, 32, 88, 10], [10], [32, 32, 32, 32, 89, 10], [98, 10]] ∧
    s'.ed.xrow = 3 ∧ s'.ed.xoff = 4 := by
  obtain ⟨s', h1, h2, h3⟩ := vcInsert_o_lines_general (exStAi true (lineKeys [[32, 32, 88], []] [89]) 4)
    [32, 32, 104, 101, 108, 108, 111, 32, 119] [[32, 32, 88], []] [89] []
    (by decide) (by decide +kernel) (by decide) (by decide) (by decide +kernel) (by decide +kernel) (by decide) rfl
  refine ⟨s', h1, h2, ?_, ?_, ?_⟩
  · rw [h3.lines]; decide +kernel
  · rw [h3.xrow]; decide +kernel
  · rw [h3.xoff]; decide +kernel

end Examples2

/-! ## 3. `c` over several rows

`vi_change` shares its first steps with `vi_delete` (`Model/ViCmd.lean`: `lbuf_region`, then
`reg_put(vi_ybuf, region, lnmode)`), so the registers are those of a multi-row delete: `regs.put ybuf region 0`,
with the rotation of the numbered registers because the region contains a newline (`put_shifts_numbered` of
`Props/C08.lean`). -/

/-- the text between `(r1, o1)` and `(r2, o2)`, `r1 < r2`: the tail of the first row with its newline, the rows
between, the head of the last row -/
def changeRegion (s : VS) (r1 r2 : Int) (b1 b2 : List Nat) (o1 o2 : Nat) : Bytes :=
  encStr (b1.drop o1 ++ [10]) ++ (((lines s).drop (r1 + 1).toNat).take (r2.toNat - (r1 + 1).toNat)).flatten ++
    encStr (b2.take o2)

theorem ten_mem_changeRegion (s : VS) (r1 r2 : Int) (b1 b2 : List Nat) (o1 o2 : Nat) :
    10 ∈ changeRegion s r1 r2 b1 b2 o1 o2 := by
  unfold changeRegion
  rw [encStr_append]
  simp [show encStr [10] = [10] from rfl]

/-- **`viChange_multi_spec`**: `c` over the character-wise region `(r1, o1) – (r2, o2)` with `r1 < r2`, then the
text `cs` typed on one line (`Inputs K cs`: e.g. plain text and ESC).  The rows `r1 .. r2` are replaced by the
single row head of `r1` ++ text ++ tail of `r2`; the register named by the prefix receives the region in
character mode; the cursor ends on the last typed character of row `r1`.  (`Inserted` is stated from the
state with the register already set.) -/
theorem viChange_multi_spec (s : VS) (r1 r2 : Int) (b1 b2 cs : List Nat) (o1 o2 : Nat) (K rest : Bytes)
    (hr0 : 0 ≤ r1) (hr12 : r1 < r2)
    (hl1 : (lines s)[r1.toNat]? = some (encStr (b1 ++ [10]))) (hl2 : (lines s)[r2.toNat]? = some (encStr (b2 ++ [10])))
    (hb1 : ∀ c ∈ b1, ValidCp c) (hb2 : ∀ c ∈ b2, ValidCp c) (h10a : 10 ∉ b1) (h10b : 10 ∉ b2)
    (ho1 : o1 ≤ b1.length) (ho2 : o2 ≤ b2.length)
    (hin : Inputs K cs) (hp : pending s = K ++ rest) (hpl : ∀ c ∈ cs, ValidCp c) (h10 : 10 ∉ cs)
    (hne : cs.head? ≠ none ∧ cs.head? ≠ some 32 ∧ cs.head? ≠ some 9) (hk : s.xkmap = 0) :
    ∃ s', viChange r1 o1 r2 o2 false s = Res.ok VC_OK s' ∧ pending s' = rest ∧
      s'.ed.regs = s.ed.regs.put s.ybuf (changeRegion s r1 r2 b1 b2 o1 o2) 0 ∧
      Inserted K
        { s with ed := { s.ed with regs := s.ed.regs.put s.ybuf (changeRegion s r1 r2 b1 b2 o1 o2) 0 } } s' r1
        [encStr (b1.take o1 ++ cs ++ (b2.drop o2 ++ [10]))] (r2.toNat - r1.toNat + 1) r1
        ((o1 : Int) + cs.length - 1) := by
  have hlE1 : lineE s r1 = encStr (b1 ++ [10]) := lineE_eq s r1 hr0 _ hl1
  have hlE2 : lineE s r2 = encStr (b2 ++ [10]) := lineE_eq s r2 (by omega) _ hl2
  have hreg : lbufRegion s r1 o1 r2 o2 = some (changeRegion s r1 r2 b1 b2 o1 o2) :=
    Props.C08.lbufRegion_multi s r1 o1 r2 o2 (by omega) _ _ (by rw [hlE1]; exact (subI_line b1 hb1 o1 ho1).2)
      (by rw [hlE2]; exact (subI_line b2 hb2 o2 ho2).1)
  obtain ⟨s', h1, h2, h3, h4⟩ := viChange_char_lines s r1 r2 b1 b2 o1 o2 _ [] cs K rest hr0 (by omega) hl1 hl2 hb1 hb2
    h10a h10b ho1 ho2 hreg (inputsL_of_inputs hin hpl h10) hp hk
  refine ⟨s', h1, h2, h3, ?_⟩
  rw [rowsG_one _ _ _ _ hne, offG_one _ _ _ _ hne, List.length_take, Nat.min_eq_left ho1] at h4
  simpa only [rowLines, List.map_cons, List.map_nil, List.append_assoc, List.length_nil, Int.natCast_zero, Int.add_zero]
    using h4

/-- the buffer after it, spelled out -/
theorem viChange_multi_lines (s : VS) (r1 r2 : Int) (b1 b2 cs : List Nat) (o1 o2 : Nat) (K rest : Bytes)
    (hr0 : 0 ≤ r1) (hr12 : r1 < r2)
    (hl1 : (lines s)[r1.toNat]? = some (encStr (b1 ++ [10]))) (hl2 : (lines s)[r2.toNat]? = some (encStr (b2 ++ [10])))
    (hb1 : ∀ c ∈ b1, ValidCp c) (hb2 : ∀ c ∈ b2, ValidCp c) (h10a : 10 ∉ b1) (h10b : 10 ∉ b2)
    (ho1 : o1 ≤ b1.length) (ho2 : o2 ≤ b2.length)
    (hin : Inputs K cs) (hp : pending s = K ++ rest) (hpl : ∀ c ∈ cs, ValidCp c) (h10 : 10 ∉ cs)
    (hne : cs.head? ≠ none ∧ cs.head? ≠ some 32 ∧ cs.head? ≠ some 9) (hk : s.xkmap = 0) :
    ∃ s', viChange r1 o1 r2 o2 false s = Res.ok VC_OK s' ∧ pending s' = rest ∧
      lines s' = (lines s).take r1.toNat ++ [encStr (b1.take o1 ++ cs ++ (b2.drop o2 ++ [10]))] ++
        (lines s).drop (r2.toNat + 1) ∧
      s'.ed.xrow = r1 ∧ s'.ed.xoff = (o1 : Int) + cs.length - 1 := by
  obtain ⟨s', h1, h2, -, h4⟩ := viChange_multi_spec s r1 r2 b1 b2 cs o1 o2 K rest hr0 hr12 hl1 hl2 hb1 hb2 h10a h10b
    ho1 ho2 hin hp hpl h10 hne hk
  refine ⟨s', h1, h2, ?_, h4.xrow, h4.xoff⟩
  rw [h4.lines, show r1.toNat + (r2.toNat - r1.toNat + 1) = r2.toNat + 1 by omega]
  rfl

/-- **the registers after it are those of a multi-row delete**: with a register name that is not an
upper-case letter, the register (the unnamed one for no name / `"`) holds the region in character mode; when
it is the unnamed register or a letter, `"1` holds the region too and `"2`..`"9` received their predecessors
(`put_stores`, `put_shifts_numbered` of `Props/C08.lean`, as for `vi_delete`) -/
theorem viChange_multi_regs (s s' : VS) (r1 r2 : Int) (b1 b2 : List Nat) (o1 o2 : Nat)
    (hregs : s'.ed.regs = s.ed.regs.put s.ybuf (changeRegion s r1 r2 b1 b2 o1 o2) 0)
    (hwf : Lemmas.C08.RegsWf s.ed.regs) (hy : s.ybuf < 256) (hu : isUpperC s.ybuf = false) :
    s'.ed.regs.getRaw (Lemmas.C08.regTarget s.ybuf) = (some (changeRegion s r1 r2 b1 b2 o1 o2), 0) ∧
    ((s.ybuf = 0 ∨ s.ybuf = 34 ∨ isAlphaC s.ybuf = true) →
      s'.ed.regs.getRaw 49 = (some (changeRegion s r1 r2 b1 b2 o1 o2), 0) ∧
      ∀ d, 50 ≤ d → d ≤ 57 → s'.ed.regs.getRaw d =
        match s.ed.regs.getRaw (d - 1) with
        | (some x, l) => (some x, l)
        | (none, _) => s.ed.regs.getRaw d) := by
  rw [hregs]
  refine ⟨Props.C08.put_stores _ _ _ _ hwf hy hu, fun hc => ?_⟩
  apply Props.C08.put_shifts_numbered _ _ _ _ hwf hy
  rw [Props.C08.shifts_iff]
  refine ⟨Or.inr (ten_mem_changeRegion s r1 r2 b1 b2 o1 o2), ?_⟩
  rw [Props.C08.regTarget_spec]
  rcases hc with h | h | h
  · rw [h]; simp
  · rw [h]; simp
  · by_cases h34 : s.ybuf = 34
    · rw [h34]; simp
    · rw [if_neg h34]; exact Or.inr h

section Examples3

-- `c` from the second `l` of `hello w` (row 0, offset 3) up to offset 1 of row 1 (the `b` is in the region), typed `XY`:
-- one row `helXY` ++ rest of row 1
example : linesOf (viChange 0 3 1 1 false (exSt [88, 89, 27] 0 3)) = [[104, 101, 108, 88, 89, 10]] := by decide +kernel
example : cursorOf (viChange 0 3 1 1 false (exSt [88, 89, 27] 0 3)) = (0, 4) := by decide +kernel
-- the unnamed register and `"1` hold the deleted text `lo w ⏎ b`, in character mode
def regsOf (r : Res Nat) (c : Nat) : Option Bytes × Nat := match r with | Res.ok _ s => s.ed.regs.getRaw c | _ => (none, 0)
example : regsOf (viChange 0 3 1 1 false (exSt [88, 89, 27] 0 3)) 0 = (some [108, 111, 32, 119, 10, 98], 0) ∧
    regsOf (viChange 0 3 1 1 false (exSt [88, 89, 27] 0 3)) 49 = (some [108, 111, 32, 119, 10, 98], 0) := by decide +kernel
example : changeRegion (exSt [] 0 3) 0 1 [104, 101, 108, 108, 111, 32, 119] [98] 3 1 = [108, 111, 32, 119, 10, 98] := by
  decide +kernel

end Examples3

end Neatvi.Props.C08e
