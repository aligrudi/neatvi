import NeatviVerif.Lemmas.C08fWord
import NeatviVerif.Lemmas.C08fCol
import NeatviVerif.Lemmas.C09Cmd
import NeatviVerif.Props.C08b
import NeatviVerif.Props.C07c
import NeatviVerif.Props.C07d
/-!
# C08f: operator + motion, end to end

C08 proves what the operator *functions* (`vi_delete`, `vi_yank`, …) do to a given region, and that
`vc_motion` normalises the region it hands them; C07c proves that the scanners land where the reference
motions say.  Here the pieces are composed: typing an operator followed by a motion deletes / yanks
exactly the reference span.

* §1 `vcMotion_unfold` (`vcMotion_unfold_prog`): `vc_motion` = count prefix, `readMotion`, `opRegion`,
  `applyOp`; `vcMotion_no_motion`: an absent or failed motion leaves the text alone;
* §2 line-wise operators: `vcMotion_line`, the rows any operator receives from a line-motion key (`lnTarget`,
  `lnTarget_table`); `line_delete` / `line_yank`, and by name `dd_spec d_underscore_spec dj_spec d_plus_spec
  d_return_spec dk_spec d_minus_spec dG_spec`, `yy_spec yj_spec yk_spec`; `line_registers`: the unnamed register and `"1`..`"9`;
* §3 character-wise operators on one row: `vcMotion_row`, the span any operator receives from a motion that lands
  on the row (the reference `span`); `row_delete` / `row_yank`, and by name `x_spec X_spec D_spec d0_spec`
  (`y_spc_spec y_dollar_spec y0_spec`), `de_spec` / `de_spec_fwd`, `dw_spec` (`ye_spec yw_spec`),
  `dfc_spec dtc_spec` (`dfind_spec`), `dl_spec dh_spec`;
* §4 the shorthands `x X D C s S Y` of the command dispatcher (`commandTail_x` …), and `x_key_spec`: the key
  `x` from the dispatcher to the text;
* §5 concrete runs.

Counts: the theorems of §2–§3 are stated for `Prefixed s a2 k s1` — `vi_prefix` returns the second count
`a2` and the key `k` follows —, the count being `opCount s a2` (the saturated product of the counts before
and after the operator).  `prefixed_none`: no second count (the key is not a digit); `prefixed_digit`: a
one-digit count (`d3j`); `prefixed_of_viPrefix` / `viPrefix_spec`: whatever `vi_prefix` read, the count is
not negative, only the key queues moved, and a key follows.

Not covered: motions that leave the row character-wise (`dw` onto the next line, `d/`, `d}` …), the cursor
on an empty line.  `c`, the case operators and `<` `>` with these motions: `Props/C08g.lean`.

Where a key comes from is abstracted as `viRead s = Res.ok k s1`: the push-back stack (`viRead_vibuf`,
as for `x` = SPC pushed back) or the terminal queue (`viRead_pending`).
-/
set_option linter.unusedSimpArgs false
set_option linter.unusedVariables false

namespace Neatvi.Props.C08f
open Neatvi Neatvi.Uc Neatvi.Vi Neatvi.Ex Neatvi.Lbuf Neatvi.Mot Neatvi.Spec
open Neatvi.Lemmas.C08 Neatvi.Lemmas.C08b Neatvi.Lemmas.C08f
open Neatvi.Lemmas.C09 (finRec pending)
open Neatvi.Props.C07c (Utf8Buf refBufU)

export Neatvi.Lemmas.C08f (applyOp inclusive opRegion readMotion vcCore lnTarget isLnKey rowsText KeyFrame
  viRead_vibuf viRead_pending viRead_frame span)

/-! ## 1. `vc_motion`, stage by stage -/

/-- what `applyOp` says: the dispatch of `vc_motion` on the operator letter -/
theorem applyOp_eq (cmd : Nat) (r1 o1 r2 o2 : Int) (lnmode : Bool) :
    applyOp cmd r1 o1 r2 o2 lnmode =
      if cmd == 121 then viYank r1 o1 r2 o2 lnmode
      else if cmd == 100 then viDelete r1 o1 r2 o2 lnmode
      else if cmd == 99 then viChange r1 o1 r2 o2 lnmode
      else if cmd == 126 || cmd == 117 || cmd == 85 then viCase r1 o1 r2 o2 lnmode cmd
      else if cmd == 62 || cmd == 60 then viShift r1 r2 (if cmd == 62 then 1 else -1)
      else if cmd == 33 then (do let _ ← viPrompt; unmodelled; pure VC_WIN)
      else pure 0 := rfl

/-- what `opRegion` says: `normRegion` (C08: `vcMotion_normalises_full`), then the end of an inclusive
motion is moved one character on unless it is the end of its line -/
theorem opRegion_eq (s : VS) (mv r1 o1 r2 o2 : Int) :
    opRegion s mv r1 o1 r2 o2 =
      let lnmode : Bool := o2 < 0
      let n := normRegion s lnmode r1 o1 r2 o2
      (n.1, n.2.1, n.2.2.1,
        (if !lnmode && inclusive s mv && n.2.2.2 < eol (lines s) n.2.2.1 then noeol s n.2.2.1 n.2.2.2 + 1 else n.2.2.2),
        lnmode) := rfl

/-- what `readMotion` says: the line motion first (`vi_motionln`, with the operator letter as the
"doubled" key), else `vi_motion`; when that finds no motion either, the key is dropped -/
theorem readMotion_eq (cmd : Nat) (r1 o1 : Int) :
    readMotion cmd r1 o1 = (do
      let (mvl, r2l) ← viMotionln r1 cmd
      if mvl != 0 then pure (some (mvl, r2l, (-1 : Int))) else do
        let (mv, r2, o2) ← viMotion r1 o1
        if mv == 0 then do
          let _ ← viRead
          pure none
        else pure (some (mv, r2, o2))) := rfl

/-- **S1, `vcMotion_unfold`.**  `vc_motion(cmd)` on the state `s`: read the second count (`vi_prefix`,
stored in `arg2`); read the motion from the cursor `(xrow, ren_noeol(xoff))`; if there is none (`none`) or
it fails (`mv < 0`) return 0 — the text is then unchanged, `vcMotion_no_motion` —; otherwise hand the
region `opRegion` to the operator `applyOp cmd`. -/
theorem vcMotion_unfold (cmd : Nat) (s : VS) : vcMotion cmd s =
    match viPrefix s with
    | Res.ok a2 sp =>
      if a2 < 0 then Res.ok 0 { sp with arg2 := a2 }
      else
        match readMotion cmd s.ed.xrow (noeol s s.ed.xrow s.ed.xoff) { sp with arg2 := a2 } with
        | Res.ok none sm => Res.ok 0 sm
        | Res.ok (some (mv, r2, o2)) sm =>
          if mv < 0 then Res.ok 0 sm
          else
            let g := opRegion sm mv s.ed.xrow (noeol s s.ed.xrow s.ed.xoff) r2 o2
            applyOp cmd g.1 g.2.1 g.2.2.1 g.2.2.2.1 g.2.2.2.2 sm
        | Res.eof => Res.eof
        | Res.trap => Res.trap
    | Res.eof => Res.eof
    | Res.trap => Res.trap := by
  rw [vcMotion_apply]
  cases viPrefix s with
  | ok a2 sp =>
    simp only []
    split
    · rfl
    · rw [vcCore_apply]
      rfl
  | eof => rfl
  | trap => rfl

/-- the same as one equation of programs -/
theorem vcMotion_unfold_prog (cmd : Nat) : vcMotion cmd = (do
    let s0 ← get
    let a2 ← viPrefix
    modify fun s => { s with arg2 := a2 }
    if a2 < 0 then pure 0 else vcCore cmd s0.ed.xrow (noeol s0 s0.ed.xrow s0.ed.xoff)) := by
  rw [vcMotion_eq, vcMotion'_eq_core]

theorem readMotion_lines (cmd : Nat) (r1 o1 : Int) (s sm : VS) (res : Option (Int × Int × Int))
    (h : readMotion cmd r1 o1 s = Res.ok res sm) : lines sm = lines s :=
  (Props.C07.keeps_text (cb := true) (Lemmas.C07.Keeps.bind (Lemmas.C07.keeps_viMotionln _ _) fun _ => .ite (.pure _)
    (.bind (Lemmas.C07.keeps_viMotion _ _) fun _ => .ite (.bind Lemmas.C07.keeps_viRead fun _ => .pure _) (.pure _))) h).1

/-- a motion that is absent (`none`) or fails (`mv < 0`): `vc_motion` returns 0 and the text is unchanged -/
theorem vcMotion_no_motion (cmd : Nat) (s sp sm : VS) (a2 : Int) (res : Option (Int × Int × Int))
    (hp : viPrefix s = Res.ok a2 sp) (ha : 0 ≤ a2)
    (hr : readMotion cmd s.ed.xrow (noeol s s.ed.xrow s.ed.xoff) { sp with arg2 := a2 } = Res.ok res sm)
    (hfail : res = none ∨ ∃ mv r2 o2, res = some (mv, r2, o2) ∧ mv < 0) :
    vcMotion cmd s = Res.ok 0 sm ∧ lines sm = lines s := by
  have hl : lines sm = lines s := by
    rw [readMotion_lines _ _ _ _ _ _ hr]
    exact (Props.C07.viPrefix_lines _ _ _ hp).1
  refine ⟨?_, hl⟩
  rw [vcMotion_unfold, hp]
  simp only []
  rw [if_neg (by omega), hr]
  rcases hfail with rfl | ⟨mv, r2, o2, rfl, hmv⟩
  · rfl
  · simp only []
    rw [if_pos hmv]

/-! ## 2. line-wise operators, end to end

`s` is the state when `vc_motion` starts (the operator letter has been read, the first count is in
`arg1`).  `Prefixed s a2 k s1`: `vi_prefix` reads the second count `a2` (0: none) and the next key is `k`,
`s1` being the state after that key was read.  `opCount s a2` is the count (the product of the two,
saturated), `lnTarget` the target row `t` of the line motion `k` from the cursor row.  The operator acts
on the rows `[min r t, max r t]`. -/

/-- the state `vc_motion` works on once the second count has been read -/
def setArg2 (a2 : Int) (s : VS) : VS := { s with arg2 := a2 }

/-- the count of the command: the product of the counts given before and after the operator (each 1 when
absent), saturated — `vi_cnt()` -/
def opCount (s : VS) (a2 : Int) : Int := cntOf (setArg2 a2 s)

theorem opCount_eq (s : VS) (a2 : Int) :
    opCount s a2 = min ((if s.arg1 != 0 then s.arg1 else 1) * (if a2 != 0 then a2 else 1)) 999999999 := rfl

/-- without a second count: `arg1`, or 1 -/
theorem opCount_zero (s : VS) : opCount s 0 = min (if s.arg1 != 0 then s.arg1 else 1) 999999999 := by
  rw [opCount_eq]
  simp

theorem opCount_pos (s : VS) (a2 : Int) (h : 0 ≤ s.arg1) (h2 : 0 ≤ a2) : 1 ≤ opCount s a2 := by
  rw [opCount_eq]
  have h1 : 0 < (if s.arg1 != 0 then s.arg1 else 1) := by
    by_cases h0 : s.arg1 = 0
    · simp [h0]
    · have : (s.arg1 != 0) = true := by simpa using h0
      rw [if_pos this]; omega
  have h3 : 0 < (if a2 != 0 then a2 else 1) := by
    by_cases h0 : a2 = 0
    · simp [h0]
    · have : (a2 != 0) = true := by simpa using h0
      rw [if_pos this]; omega
  have := Int.mul_pos h1 h3
  omega

/-- `vi_prefix` returns the second count `a2` and the next key is `k` (read in `s1`) -/
def Prefixed (s : VS) (a2 k : Int) (s1 : VS) : Prop :=
  ∃ sp, viPrefix s = Res.ok a2 sp ∧ viRead sp = Res.ok k s1

/-- no second count: the next key is not a digit `1`..`9` -/
theorem prefixed_none (s s1 : VS) (k : Int) (hk : viRead s = Res.ok k s1) (hd : ¬ (49 ≤ k ∧ k ≤ 57)) :
    Prefixed s 0 k s1 :=
  ⟨_, viPrefix_nondigit s s1 k hk hd, viRead_back s1 k⟩

/-- a one-digit second count `d` followed by the key `k` (not a digit): `d3j`, `d2w` … -/
theorem prefixed_digit (s s1 s2 : VS) (d k : Int) (hd : viRead s = Res.ok d s1) (h1 : 49 ≤ d) (h2 : d ≤ 57)
    (hk : viRead s1 = Res.ok k s2) (hnd : ¬ (48 ≤ k ∧ k ≤ 57)) : Prefixed s (d - 48) k s2 :=
  ⟨_, viPrefix_digit s s1 s2 d k hd h1 h2 hk hnd, viRead_back s2 k⟩

/-- whatever `vi_prefix` read, a key follows (the one that ended the number, pushed back) -/
theorem prefixed_of_viPrefix (s sp : VS) (a2 : Int) (h : viPrefix s = Res.ok a2 sp) : ∃ k s1, Prefixed s a2 k s1 := by
  obtain ⟨_, _, k, s1, hk, _⟩ := viPrefix_spec s sp a2 h
  exact ⟨k, s1, sp, h, hk⟩

theorem Prefixed.nonneg {s s1 : VS} {a2 k : Int} (h : Prefixed s a2 k s1) : 0 ≤ a2 := by
  obtain ⟨sp, hp, hk⟩ := h
  exact (viPrefix_spec s sp a2 hp).1

/-- reading the count and the key changes the key queues (and `icmd`) only -/
theorem Prefixed.frame {s s1 : VS} {a2 k : Int} (h : Prefixed s a2 k s1) : KeyFrame s s1 := by
  obtain ⟨sp, hp, hk⟩ := h
  exact (viPrefix_spec s sp a2 hp).2.1.trans (viRead_frame sp s1 k hk)

/-- the state in which `vi_motion` reads the motion: the key pushed back by `vi_motionln` -/
def motionSt (a2 : Int) (s1 : VS) (k : Int) : VS := { setArg2 a2 s1 with vibuf := k :: s1.vibuf }

theorem viRead_motionSt (a2 : Int) (s1 : VS) (k : Int) : viRead (motionSt a2 s1 k) = Res.ok k (setArg2 a2 s1) :=
  viRead_back (setArg2 a2 s1) k

/-- `vc_motion` after the count prefix: `vcCore` runs from the cursor, on a state `sp'` from which the key
`k` is read next -/
theorem vcMotion_prefixed (cmd : Nat) (s s1 : VS) (a2 k : Int) (h : Prefixed s a2 k s1) :
    ∃ sp, vcMotion cmd s = vcCore cmd s.ed.xrow (noeol s s.ed.xrow s.ed.xoff) (setArg2 a2 sp) ∧
      viRead (setArg2 a2 sp) = Res.ok k (setArg2 a2 s1) ∧ KeyFrame s sp := by
  have hn := h.nonneg
  obtain ⟨sp, hp, hk⟩ := h
  refine ⟨sp, ?_, viRead_arg2 sp s1 k a2 hk, (viPrefix_spec s sp a2 hp).2.1⟩
  rw [vcMotion_apply, hp]
  simp only []
  rw [if_neg (by omega)]
  rfl

/-- `lnTarget` reads the counts, the number of lines, the window top and height only -/
theorem lnTarget_congr (s s' : VS) (row cmd k : Int) (h1 : s'.ed = s.ed) (h2 : s'.arg1 = s.arg1)
    (h3 : s'.arg2 = s.arg2) (h4 : s'.xrows = s.xrows) : lnTarget s' row cmd k = lnTarget s row cmd k := by
  have hl : lenOf s' = lenOf s := by unfold lenOf Vi.lines; rw [h1]
  have hc : cntOf s' = cntOf s := by unfold cntOf; rw [h2, h3]
  unfold lnTarget
  rw [hl, hc, h1, h2, h3, h4]

/-- the target rows, key by key: `j + RET` down `count` rows, `k -` up, `_` and the doubled operator
letter down `count - 1` rows, `G` to line `count` (the last line without a count); all clamped to the buffer -/
theorem lnTarget_table (s : VS) (row cmd : Int) :
    lnTarget s row cmd 106 = some (min (row + cntOf s) (lenOf s - 1)) ∧
    lnTarget s row cmd 43 = some (min (row + cntOf s) (lenOf s - 1)) ∧
    lnTarget s row cmd 10 = some (min (row + cntOf s) (lenOf s - 1)) ∧
    lnTarget s row cmd 107 = some (max (row - cntOf s) 0) ∧
    lnTarget s row cmd 45 = some (max (row - cntOf s) 0) ∧
    lnTarget s row cmd 95 = some (min (row + cntOf s - 1) (lenOf s - 1)) ∧
    lnTarget s row cmd 71 = some (if s.arg1 != 0 || s.arg2 != 0 then min (cntOf s - 1) (lenOf s - 1) else lenOf s - 1) ∧
    lnTarget s row 100 100 = some (min (row + cntOf s - 1) (lenOf s - 1)) ∧
    lnTarget s row 121 121 = some (min (row + cntOf s - 1) (lenOf s - 1)) ∧
    lnTarget s row 99 99 = some (min (row + cntOf s - 1) (lenOf s - 1)) :=
  ⟨rfl, rfl, rfl, rfl, rfl, rfl, rfl, rfl, rfl, rfl⟩

/-- `LineDeleted s sm s' lo hi`: from `s` the rows `lo..hi` were deleted:
they are gone from the text, the register named by the prefix received them in line mode, the cursor is
on the first non-blank of the row now at `lo` (the last row when the tail of the buffer went), and
apart from the editor record the state is `sm`, the state after the count and the key were read -/
structure LineDeleted (s sm s' : VS) (lo hi : Int) : Prop where
  lines : lines s' = (lines s).take lo.toNat ++ (lines s).drop (hi.toNat + 1)
  regs : s'.ed.regs = s.ed.regs.put s.ybuf (rowsText (Vi.lines s) lo hi) 1
  xrow : s'.ed.xrow = min lo (max 0 (lenOf s' - 1))
  xoff : s'.ed.xoff = Mot.indents (Vi.lines s') s'.ed.xrow
  frame : s' = { sm with ed := s'.ed }

/-- what `LineDeleted` says -/
theorem lineDeleted_iff (s sm s' : VS) (lo hi : Int) : LineDeleted s sm s' lo hi ↔
    lines s' = (lines s).take lo.toNat ++ (lines s).drop (hi.toNat + 1) ∧
    s'.ed.regs = s.ed.regs.put s.ybuf (((lines s).drop lo.toNat).take (hi.toNat - lo.toNat + 1)).flatten 1 ∧
    s'.ed.xrow = min lo (max 0 (lenOf s' - 1)) ∧ s'.ed.xoff = Mot.indents (lines s') s'.ed.xrow ∧
    s' = { sm with ed := s'.ed } :=
  ⟨fun h => ⟨h.lines, h.regs, h.xrow, h.xoff, h.frame⟩, fun h => ⟨h.1, h.2.1, h.2.2.1, h.2.2.2.1, h.2.2.2.2⟩⟩

/-- the number of lines left -/
theorem LineDeleted.lenOf {s sm s' : VS} {lo hi : Int} (h : LineDeleted s sm s' lo hi) (h0 : 0 ≤ lo)
    (h1 : lo ≤ hi) (h2 : hi < lenOf s) : lenOf s' = lenOf s - (hi - lo + 1) := by
  unfold Vi.lenOf at h2 ⊢
  rw [h.lines, List.length_append, List.length_take, List.length_drop]
  omega

/-- **an operator with a line motion**: with `t` the target row of the motion `k` from the cursor row `r`,
`vc_motion` hands the rows `[min r t, max r t]` to the operator, in line mode, in the state after the key -/
theorem vcMotion_line (cmd : Nat) (s s1 : VS) (a2 k t : Int) (hk : Prefixed s a2 k s1) (hkpos : 0 < k)
    (ht : lnTarget (setArg2 a2 s) s.ed.xrow cmd k = some t) (ht0 : 0 ≤ t) :
    ∃ a b, vcMotion cmd s = applyOp cmd (min s.ed.xrow t) a (max s.ed.xrow t) b true (setArg2 a2 s1) := by
  obtain ⟨sp, e, hk', hf⟩ := vcMotion_prefixed cmd s s1 a2 k hk
  have hlt : lnTarget (setArg2 a2 sp) s.ed.xrow cmd k = some t := by
    rw [← ht]
    exact lnTarget_congr _ _ _ _ _ hf.ed hf.arg1 rfl hf.xrows
  obtain ⟨a, b, hop⟩ := opRegion_line (setArg2 a2 s1) k s.ed.xrow (noeol s s.ed.xrow s.ed.xoff) t
  refine ⟨a, b, ?_⟩
  rw [e, vcCore_apply, readMotion_line cmd _ _ _ _ k t hk' hlt (by omega)]
  simp only []
  rw [if_neg (by omega), if_neg (by omega), hop]

/-- line-wise `vi_delete` in a state `sm` that has the editor record and the register name of `s` -/
theorem viDelete_lineDeleted (s sm : VS) (lo hi a b : Int) (lb : Lb) (hlb : s.ed.lb = some lb)
    (hed : sm.ed = s.ed) (hyb : sm.ybuf = s.ybuf) (h0 : 0 ≤ lo) (h12 : lo ≤ hi) (h2 : hi < lenOf s) :
    ∃ s', viDelete lo a hi b true sm = Res.ok VC_OK s' ∧ LineDeleted s sm s' lo hi := by
  have hl : lines sm = lines s := by unfold Vi.lines; rw [hed]
  obtain ⟨s', e1, e2, e3, e4, e5, e6⟩ := viDelete_line_total sm lo a hi b lb (by rw [hed]; exact hlb) h0 h12
    (by unfold Vi.lenOf; rw [hl]; exact h2)
  rw [hl] at e2
  rw [hl, hed, hyb] at e3
  exact ⟨s', e1, e2, e3, e4, e5, e6⟩

/-- the state a line-wise yank of the rows `lo..hi` leaves -/
def yankedRows (s sm : VS) (lo hi : Int) : VS :=
  { sm with ed := { s.ed with regs := s.ed.regs.put s.ybuf (rowsText (lines s) lo hi) 1, xrow := lo } }

/-- line-wise `vi_yank` in such a state: the text is unchanged, the register receives the rows, the cursor
goes to the first of them (the column is kept) -/
theorem viYank_yankedRows (s sm : VS) (lo hi a b : Int) (hed : sm.ed = s.ed) (hyb : sm.ybuf = s.ybuf)
    (h0 : 0 ≤ lo) (h12 : lo ≤ hi) (h2 : hi < lenOf s) :
    viYank lo a hi b true sm = Res.ok VC_COL (yankedRows s sm lo hi) := by
  have hl : lines sm = lines s := by unfold Vi.lines; rw [hed]
  unfold yankedRows
  rw [viYank_line_total sm lo a hi b h0 h12 (by unfold Vi.lenOf; rw [hl]; exact h2), hl, ← hed, ← hyb]

/-- **S2, delete with a line motion** (`dd d_ dj dk dG d+ d-` …): with `t` the target row of the motion
`k` from the cursor row `r` (`lnTarget`, `lnTarget_table`), the rows `[min r t, max r t]` are deleted -/
theorem line_delete (s s1 : VS) (a2 : Int) (k t : Int) (lb : Lb) (hlb : s.ed.lb = some lb)
    (hk : Prefixed s a2 k s1) (hkpos : 0 < k)
    (ht : lnTarget (setArg2 a2 s) s.ed.xrow 100 k = some t)
    (h0 : 0 ≤ s.ed.xrow) (h1 : s.ed.xrow < lenOf s) (ht0 : 0 ≤ t) (ht1 : t < lenOf s) :
    ∃ s', vcMotion 100 s = Res.ok VC_OK s' ∧ LineDeleted s (setArg2 a2 s1) s' (min s.ed.xrow t) (max s.ed.xrow t) := by
  obtain ⟨a, b, e⟩ := vcMotion_line 100 s s1 a2 k t hk hkpos ht ht0
  rw [e]
  exact viDelete_lineDeleted s (setArg2 a2 s1) _ _ a b lb hlb hk.frame.ed hk.frame.ybuf (by omega) (by omega) (by omega)

/-- **S2, yank with a line motion** (`yy Y yj yk yG` …): the text is unchanged, the register receives the
rows `[min r t, max r t]` in line mode, the cursor goes to the first of them and keeps its column -/
theorem line_yank (s s1 : VS) (a2 : Int) (k t : Int)
    (hk : Prefixed s a2 k s1) (hkpos : 0 < k)
    (ht : lnTarget (setArg2 a2 s) s.ed.xrow 121 k = some t)
    (h0 : 0 ≤ s.ed.xrow) (h1 : s.ed.xrow < lenOf s) (ht0 : 0 ≤ t) (ht1 : t < lenOf s) :
    vcMotion 121 s = Res.ok VC_COL
      { setArg2 a2 s1 with ed := { s.ed with
          regs := s.ed.regs.put s.ybuf (rowsText (lines s) (min s.ed.xrow t) (max s.ed.xrow t)) 1,
          xrow := min s.ed.xrow t } } := by
  obtain ⟨a, b, e⟩ := vcMotion_line 121 s s1 a2 k t hk hkpos ht ht0
  rw [e]
  exact viYank_yankedRows s (setArg2 a2 s1) _ _ a b hk.frame.ed hk.frame.ybuf (by omega) (by omega) (by omega)

/-- … so the text, and everything but the register, the cursor row and the key queue, is as before -/
theorem line_yank_lines (s s1 s' : VS) (a2 : Int) (k t : Int) (a : Nat)
    (hk : Prefixed s a2 k s1) (hkpos : 0 < k)
    (ht : lnTarget (setArg2 a2 s) s.ed.xrow 121 k = some t)
    (h0 : 0 ≤ s.ed.xrow) (h1 : s.ed.xrow < lenOf s) (ht0 : 0 ≤ t) (ht1 : t < lenOf s)
    (h : vcMotion 121 s = Res.ok a s') :
    lines s' = lines s ∧ s'.ed.xoff = s.ed.xoff ∧ s'.ed.xrow = min s.ed.xrow t ∧
      s'.ed.regs = s.ed.regs.put s.ybuf (rowsText (lines s) (min s.ed.xrow t) (max s.ed.xrow t)) 1 := by
  rw [line_yank s s1 a2 k t hk hkpos ht h0 h1 ht0 ht1] at h
  injection h with _ h
  subst h
  exact ⟨rfl, rfl, rfl, rfl⟩

/-- the registers after a line-wise delete or yank without a register prefix (`ybuf = 0`): the unnamed
register and `"1` hold the rows in line mode, and `"1`..`"8` moved on to `"2`..`"9` -/
theorem line_registers (r : Regs) (txt : Bytes) (h : RegsWf r) :
    (r.put 0 txt 1).getRaw 0 = (some txt, 1) ∧ (r.put 0 txt 1).getRaw 49 = (some txt, 1) ∧
    ∀ d, 50 ≤ d → d ≤ 57 → (r.put 0 txt 1).getRaw d =
      match r.getRaw (d - 1) with
      | (some x, l) => (some x, l)
      | (none, _) => r.getRaw d := by
  have hs : shifts (regTarget 0) txt 1 = true := by
    rw [Props.C08.shifts_iff]; exact ⟨Or.inl (by omega), Or.inl rfl⟩
  obtain ⟨a, b⟩ := Props.C08.put_shifts_numbered r 0 txt 1 h (by omega) hs
  exact ⟨Props.C08.put_stores_self r 0 txt 1 h (by omega) (by decide) (by omega), a, b⟩

/-- `line_delete` / `line_yank` with the rows given as `lo..hi`: the cursor row and the target row, in order -/
theorem line_delete_rows (s s1 : VS) (a2 k t lo hi : Int) (lb : Lb) (hlb : s.ed.lb = some lb)
    (hk : Prefixed s a2 k s1) (hkpos : 0 < k) (ht : lnTarget (setArg2 a2 s) s.ed.xrow 100 k = some t)
    (hdir : lo = s.ed.xrow ∧ hi = t ∨ lo = t ∧ hi = s.ed.xrow) (hle : lo ≤ hi) (h0 : 0 ≤ lo) (h1 : hi < lenOf s) :
    ∃ s', vcMotion 100 s = Res.ok VC_OK s' ∧ LineDeleted s (setArg2 a2 s1) s' lo hi := by
  obtain ⟨rfl, rfl⟩ : lo = min s.ed.xrow t ∧ hi = max s.ed.xrow t := by omega
  exact line_delete s s1 a2 k t lb hlb hk hkpos ht (by omega) (by omega) (by omega) (by omega)

theorem line_yank_rows (s s1 : VS) (a2 k t lo hi : Int)
    (hk : Prefixed s a2 k s1) (hkpos : 0 < k) (ht : lnTarget (setArg2 a2 s) s.ed.xrow 121 k = some t)
    (hdir : lo = s.ed.xrow ∧ hi = t ∨ lo = t ∧ hi = s.ed.xrow) (hle : lo ≤ hi) (h0 : 0 ≤ lo) (h1 : hi < lenOf s) :
    vcMotion 121 s = Res.ok VC_COL (yankedRows s (setArg2 a2 s1) lo hi) := by
  obtain ⟨rfl, rfl⟩ : lo = min s.ed.xrow t ∧ hi = max s.ed.xrow t := by omega
  exact line_yank s s1 a2 k t hk hkpos ht (by omega) (by omega) (by omega) (by omega)

/-! ### the commands by name

`r = s.ed.xrow` the cursor row, `n = lenOf s` the number of lines (`0 ≤ r < n`), `c = opCount s a2` the count. -/

theorem target_down1 (r c n : Int) (hc : 1 ≤ c) (h1 : r < n) :
    r ≤ min (r + c - 1) (n - 1) ∧ min (r + c - 1) (n - 1) < n := by omega

theorem target_down (r c n : Int) (hc : 1 ≤ c) (h1 : r < n) : r ≤ min (r + c) (n - 1) ∧ min (r + c) (n - 1) < n := by
  omega

theorem target_up (r c : Int) (hc : 1 ≤ c) (h0 : 0 ≤ r) : max (r - c) 0 ≤ r := by omega

/-- **`dd`** (`[count]dd`): the rows `r .. min (r + c - 1) (n - 1)` are deleted -/
theorem dd_spec (s s1 : VS) (a2 : Int) (lb : Lb) (hlb : s.ed.lb = some lb) (hk : Prefixed s a2 100 s1) (ha : 0 ≤ s.arg1)
    (h0 : 0 ≤ s.ed.xrow) (h1 : s.ed.xrow < lenOf s) :
    ∃ s', vcMotion 100 s = Res.ok VC_OK s' ∧
      LineDeleted s (setArg2 a2 s1) s' s.ed.xrow (min (s.ed.xrow + opCount s a2 - 1) (lenOf s - 1)) := by
  obtain ⟨hle, hlt⟩ := target_down1 s.ed.xrow (opCount s a2) (lenOf s) (opCount_pos s a2 ha hk.nonneg) h1
  exact line_delete_rows s s1 a2 100 (min (s.ed.xrow + opCount s a2 - 1) (lenOf s - 1)) _ _ lb hlb hk (by decide) rfl
    (Or.inl ⟨rfl, rfl⟩) hle h0 hlt

/-- **`d_`**: as `dd` -/
theorem d_underscore_spec (s s1 : VS) (a2 : Int) (lb : Lb) (hlb : s.ed.lb = some lb) (hk : Prefixed s a2 95 s1) (ha : 0 ≤ s.arg1)
    (h0 : 0 ≤ s.ed.xrow) (h1 : s.ed.xrow < lenOf s) :
    ∃ s', vcMotion 100 s = Res.ok VC_OK s' ∧
      LineDeleted s (setArg2 a2 s1) s' s.ed.xrow (min (s.ed.xrow + opCount s a2 - 1) (lenOf s - 1)) := by
  obtain ⟨hle, hlt⟩ := target_down1 s.ed.xrow (opCount s a2) (lenOf s) (opCount_pos s a2 ha hk.nonneg) h1
  exact line_delete_rows s s1 a2 95 (min (s.ed.xrow + opCount s a2 - 1) (lenOf s - 1)) _ _ lb hlb hk (by decide) rfl
    (Or.inl ⟨rfl, rfl⟩) hle h0 hlt

/-- **`dj`**: the rows `r .. min (r + c) (n - 1)` are deleted (on the last line: that line alone) -/
theorem dj_spec (s s1 : VS) (a2 : Int) (lb : Lb) (hlb : s.ed.lb = some lb) (hk : Prefixed s a2 106 s1) (ha : 0 ≤ s.arg1)
    (h0 : 0 ≤ s.ed.xrow) (h1 : s.ed.xrow < lenOf s) :
    ∃ s', vcMotion 100 s = Res.ok VC_OK s' ∧
      LineDeleted s (setArg2 a2 s1) s' s.ed.xrow (min (s.ed.xrow + opCount s a2) (lenOf s - 1)) := by
  obtain ⟨hle, hlt⟩ := target_down s.ed.xrow (opCount s a2) (lenOf s) (opCount_pos s a2 ha hk.nonneg) h1
  exact line_delete_rows s s1 a2 106 (min (s.ed.xrow + opCount s a2) (lenOf s - 1)) _ _ lb hlb hk (by decide) rfl
    (Or.inl ⟨rfl, rfl⟩) hle h0 hlt

/-- **`d+`**: as `dj` -/
theorem d_plus_spec (s s1 : VS) (a2 : Int) (lb : Lb) (hlb : s.ed.lb = some lb) (hk : Prefixed s a2 43 s1) (ha : 0 ≤ s.arg1)
    (h0 : 0 ≤ s.ed.xrow) (h1 : s.ed.xrow < lenOf s) :
    ∃ s', vcMotion 100 s = Res.ok VC_OK s' ∧
      LineDeleted s (setArg2 a2 s1) s' s.ed.xrow (min (s.ed.xrow + opCount s a2) (lenOf s - 1)) := by
  obtain ⟨hle, hlt⟩ := target_down s.ed.xrow (opCount s a2) (lenOf s) (opCount_pos s a2 ha hk.nonneg) h1
  exact line_delete_rows s s1 a2 43 (min (s.ed.xrow + opCount s a2) (lenOf s - 1)) _ _ lb hlb hk (by decide) rfl
    (Or.inl ⟨rfl, rfl⟩) hle h0 hlt

/-- **`d RET`**: as `dj` -/
theorem d_return_spec (s s1 : VS) (a2 : Int) (lb : Lb) (hlb : s.ed.lb = some lb) (hk : Prefixed s a2 10 s1) (ha : 0 ≤ s.arg1)
    (h0 : 0 ≤ s.ed.xrow) (h1 : s.ed.xrow < lenOf s) :
    ∃ s', vcMotion 100 s = Res.ok VC_OK s' ∧
      LineDeleted s (setArg2 a2 s1) s' s.ed.xrow (min (s.ed.xrow + opCount s a2) (lenOf s - 1)) := by
  obtain ⟨hle, hlt⟩ := target_down s.ed.xrow (opCount s a2) (lenOf s) (opCount_pos s a2 ha hk.nonneg) h1
  exact line_delete_rows s s1 a2 10 (min (s.ed.xrow + opCount s a2) (lenOf s - 1)) _ _ lb hlb hk (by decide) rfl
    (Or.inl ⟨rfl, rfl⟩) hle h0 hlt

/-- **`dk`**: the rows `max (r - c) 0 .. r` are deleted -/
theorem dk_spec (s s1 : VS) (a2 : Int) (lb : Lb) (hlb : s.ed.lb = some lb) (hk : Prefixed s a2 107 s1) (ha : 0 ≤ s.arg1)
    (h0 : 0 ≤ s.ed.xrow) (h1 : s.ed.xrow < lenOf s) :
    ∃ s', vcMotion 100 s = Res.ok VC_OK s' ∧
      LineDeleted s (setArg2 a2 s1) s' (max (s.ed.xrow - opCount s a2) 0) s.ed.xrow := by
  exact line_delete_rows s s1 a2 107 (max (s.ed.xrow - opCount s a2) 0) _ _ lb hlb hk (by decide) rfl
    (Or.inr ⟨rfl, rfl⟩) (target_up _ _ (opCount_pos s a2 ha hk.nonneg) h0) (Int.le_max_right _ _) h1

/-- **`d-`**: as `dk` -/
theorem d_minus_spec (s s1 : VS) (a2 : Int) (lb : Lb) (hlb : s.ed.lb = some lb) (hk : Prefixed s a2 45 s1) (ha : 0 ≤ s.arg1)
    (h0 : 0 ≤ s.ed.xrow) (h1 : s.ed.xrow < lenOf s) :
    ∃ s', vcMotion 100 s = Res.ok VC_OK s' ∧
      LineDeleted s (setArg2 a2 s1) s' (max (s.ed.xrow - opCount s a2) 0) s.ed.xrow := by
  exact line_delete_rows s s1 a2 45 (max (s.ed.xrow - opCount s a2) 0) _ _ lb hlb hk (by decide) rfl
    (Or.inr ⟨rfl, rfl⟩) (target_up _ _ (opCount_pos s a2 ha hk.nonneg) h0) (Int.le_max_right _ _) h1

/-- **`dG`**: with a count (before or after the `d`) the rows between the cursor row and line `c` (row
`min (c - 1) (n - 1)`), without a count the rows from the cursor row to the end of the buffer -/
theorem dG_spec (s s1 : VS) (a2 : Int) (lb : Lb) (hlb : s.ed.lb = some lb) (hk : Prefixed s a2 71 s1) (ha : 0 ≤ s.arg1)
    (h0 : 0 ≤ s.ed.xrow) (h1 : s.ed.xrow < lenOf s) :
    (s.arg1 ≠ 0 ∨ a2 ≠ 0 → ∃ s', vcMotion 100 s = Res.ok VC_OK s' ∧
      LineDeleted s (setArg2 a2 s1) s' (min s.ed.xrow (min (opCount s a2 - 1) (lenOf s - 1)))
        (max s.ed.xrow (min (opCount s a2 - 1) (lenOf s - 1)))) ∧
    (s.arg1 = 0 ∧ a2 = 0 → ∃ s', vcMotion 100 s = Res.ok VC_OK s' ∧
      LineDeleted s (setArg2 a2 s1) s' s.ed.xrow (lenOf s - 1)) := by
  have hc := opCount_pos s a2 ha hk.nonneg
  have ht : lnTarget (setArg2 a2 s) s.ed.xrow 100 71 =
      some (if (s.arg1 != 0 || a2 != 0) = true then min (opCount s a2 - 1) (lenOf s - 1) else lenOf s - 1) := rfl
  constructor
  · intro hne
    rw [if_pos (by simpa using hne)] at ht
    exact line_delete s s1 a2 71 _ lb hlb hk (by decide) ht h0 h1 (by omega) (by omega)
  · intro he
    rw [if_neg (by simp [he.1, he.2])] at ht
    exact line_delete_rows s s1 a2 71 _ _ _ lb hlb hk (by decide) ht (Or.inl ⟨rfl, rfl⟩) (by omega) h0 (by omega)

theorem yankedRows_spec (s sm : VS) (lo hi : Int) :
    lines (yankedRows s sm lo hi) = lines s ∧
    (yankedRows s sm lo hi).ed.regs =
      s.ed.regs.put s.ybuf (((lines s).drop lo.toNat).take (hi.toNat - lo.toNat + 1)).flatten 1 ∧
    (yankedRows s sm lo hi).ed.xrow = lo ∧ (yankedRows s sm lo hi).ed.xoff = s.ed.xoff ∧
    yankedRows s sm lo hi = { sm with ed := (yankedRows s sm lo hi).ed } := ⟨rfl, rfl, rfl, rfl, rfl⟩

/-- **`yy`** (`[count]yy`; `Y` is `yy`, §4): the rows `r .. min (r + c - 1) (n - 1)` go to the register, the
text is unchanged -/
theorem yy_spec (s s1 : VS) (a2 : Int) (hk : Prefixed s a2 121 s1) (ha : 0 ≤ s.arg1)
    (h0 : 0 ≤ s.ed.xrow) (h1 : s.ed.xrow < lenOf s) :
    vcMotion 121 s = Res.ok VC_COL (yankedRows s (setArg2 a2 s1) s.ed.xrow (min (s.ed.xrow + opCount s a2 - 1) (lenOf s - 1))) := by
  obtain ⟨hle, hlt⟩ := target_down1 s.ed.xrow (opCount s a2) (lenOf s) (opCount_pos s a2 ha hk.nonneg) h1
  exact line_yank_rows s s1 a2 121 (min (s.ed.xrow + opCount s a2 - 1) (lenOf s - 1)) _ _ hk (by decide) rfl
    (Or.inl ⟨rfl, rfl⟩) hle h0 hlt

/-- **`yj`**: the rows `r .. min (r + c) (n - 1)` -/
theorem yj_spec (s s1 : VS) (a2 : Int) (hk : Prefixed s a2 106 s1) (ha : 0 ≤ s.arg1)
    (h0 : 0 ≤ s.ed.xrow) (h1 : s.ed.xrow < lenOf s) :
    vcMotion 121 s = Res.ok VC_COL (yankedRows s (setArg2 a2 s1) s.ed.xrow (min (s.ed.xrow + opCount s a2) (lenOf s - 1))) := by
  obtain ⟨hle, hlt⟩ := target_down s.ed.xrow (opCount s a2) (lenOf s) (opCount_pos s a2 ha hk.nonneg) h1
  exact line_yank_rows s s1 a2 106 (min (s.ed.xrow + opCount s a2) (lenOf s - 1)) _ _ hk (by decide) rfl
    (Or.inl ⟨rfl, rfl⟩) hle h0 hlt

/-- **`yk`**: the rows `max (r - c) 0 .. r`; the cursor moves up to the first of them -/
theorem yk_spec (s s1 : VS) (a2 : Int) (hk : Prefixed s a2 107 s1) (ha : 0 ≤ s.arg1)
    (h0 : 0 ≤ s.ed.xrow) (h1 : s.ed.xrow < lenOf s) :
    vcMotion 121 s = Res.ok VC_COL (yankedRows s (setArg2 a2 s1) (max (s.ed.xrow - opCount s a2) 0) s.ed.xrow) := by
  exact line_yank_rows s s1 a2 107 (max (s.ed.xrow - opCount s a2) 0) _ _ hk (by decide) rfl
    (Or.inr ⟨rfl, rfl⟩) (target_up _ _ (opCount_pos s a2 ha hk.nonneg) h0) (Int.le_max_right _ _) h1

/-! ## 3. character-wise operators on one row, end to end

The cursor is on character `o` of the row `r = s.ed.xrow`, whose line is `encStr (body ++ [10])` (valid code
points, `o < |body|`).  The motion lands on the same row at character offset `t ≤ |body|`.  The
affected characters are the reference span `[a, b) = span incl o t |body|`: `[min o t, max o t)` for an
exclusive motion, one character more for an inclusive one. -/

/-- `RowDeleted s sm s' r body a b`: the characters `[a, b)` of the row `r` (line `body`) were deleted:
the line is `body.take a ++ body.drop b`, the register named by the prefix received `body[a, b)` in
character mode, the cursor is on `(r, a)` (the window fix of `vi()` then clamps it to the new line), and
apart from the editor record the state is `sm`, the state after the motion -/
structure RowDeleted (s sm s' : VS) (r : Int) (body : List Nat) (a b : Nat) : Prop where
  lines : lines s' = (lines s).take r.toNat ++ [encStr (body.take a ++ body.drop b ++ [10])] ++ (lines s).drop (r.toNat + 1)
  regs : s'.ed.regs = s.ed.regs.put s.ybuf (encStr ((body.take b).drop a)) 0
  xrow : s'.ed.xrow = r
  xoff : s'.ed.xoff = a
  frame : s' = { sm with ed := s'.ed }

/-- what `RowDeleted` says -/
theorem rowDeleted_iff (s sm s' : VS) (r : Int) (body : List Nat) (a b : Nat) : RowDeleted s sm s' r body a b ↔
    lines s' = (lines s).take r.toNat ++ [encStr (body.take a ++ body.drop b ++ [10])] ++ (lines s).drop (r.toNat + 1) ∧
    s'.ed.regs = s.ed.regs.put s.ybuf (encStr ((body.take b).drop a)) 0 ∧
    s'.ed.xrow = r ∧ s'.ed.xoff = a ∧ s' = { sm with ed := s'.ed } :=
  ⟨fun h => ⟨h.lines, h.regs, h.xrow, h.xoff, h.frame⟩, fun h => ⟨h.1, h.2.1, h.2.2.1, h.2.2.2.1, h.2.2.2.2⟩⟩

/-- the hypotheses on the row under the cursor -/
structure OnRow (s : VS) (body : List Nat) (o : Nat) : Prop where
  row0 : 0 ≤ s.ed.xrow
  line : (lines s)[s.ed.xrow.toNat]? = some (encStr (body ++ [10]))
  valid : ∀ c ∈ body, ValidCp c
  no10 : 10 ∉ body
  off : s.ed.xoff = (o : Int)
  onChar : o < body.length

theorem OnRow.lb {s : VS} {body : List Nat} {o : Nat} (h : OnRow s body o) : ∃ lb : Lb, s.ed.lb = some lb :=
  lb_of_line s _ _ h.line

theorem OnRow.noeol {s : VS} {body : List Nat} {o : Nat} (h : OnRow s body o) :
    noeol s s.ed.xrow s.ed.xoff = (o : Int) := by
  rw [h.off]; exact noeol_line s _ body o h.row0 h.valid h.no10 h.line h.onChar

theorem cntOf_motionSt (s s1 : VS) (a2 k : Int) (hf : KeyFrame s s1) : cntOf (motionSt a2 s1 k) = opCount s a2 := by
  unfold opCount cntOf motionSt setArg2
  simp only []
  rw [hf.arg1]

/-- **an operator with a motion on the row**: when the motion `k` (not a line motion) lands on `(r, t)` in the
state `sm`, `vc_motion` hands the reference span to the operator, in character mode, in that state -/
theorem vcMotion_row (cmd : Nat) (s s1 sm : VS) (a2 : Int) (k mv : Int) (body : List Nat) (o t : Nat)
    (hk : Prefixed s a2 k s1) (hn : isLnKey cmd k = false) (hrow : OnRow s body o)
    (hm : viMotion s.ed.xrow o (motionSt a2 s1 k) = Res.ok (mv, s.ed.xrow, (t : Int)) sm) (hmv : 0 < mv)
    (hed : sm.ed = s.ed) (ht : t ≤ body.length) :
    vcMotion cmd s = applyOp cmd s.ed.xrow ((span (inclusive sm mv) o t body.length).1 : Nat)
      s.ed.xrow ((span (inclusive sm mv) o t body.length).2 : Nat) false sm := by
  obtain ⟨sp, e, hk', hf⟩ := vcMotion_prefixed cmd s s1 a2 k hk
  have hl : lines sm = lines s := by unfold Vi.lines; rw [hed]
  rw [e, hrow.noeol, vcCore_apply, readMotion_char cmd _ _ _ (setArg2 a2 s1) sm k mv _ _ hk' hn hm (by omega)]
  simp only []
  rw [if_neg (by omega), opRegion_span sm mv s.ed.xrow body o t hrow.row0 hrow.valid hrow.no10
    (by rw [hl]; exact hrow.line) hrow.onChar ht]

/-- character-wise `vi_delete` on the row `r` in a state `sm` that has the editor record and the register name
of `s` -/
theorem viDelete_rowDeleted (s sm : VS) (r : Int) (body : List Nat) (a b : Nat) (lb : Lb) (hlb : s.ed.lb = some lb)
    (hed : sm.ed = s.ed) (hyb : sm.ybuf = s.ybuf)
    (hr0 : 0 ≤ r) (hline : (lines s)[r.toNat]? = some (encStr (body ++ [10])))
    (hb : ∀ c ∈ body, ValidCp c) (hb10 : 10 ∉ body) (hab : a ≤ b) (hbl : b ≤ body.length) :
    ∃ s', viDelete r a r b false sm = Res.ok VC_OK s' ∧ RowDeleted s sm s' r body a b := by
  have hl : lines sm = lines s := by unfold Vi.lines; rw [hed]
  obtain ⟨s', e1, e2, e3, e4, e5, e6⟩ := viDelete_row_total sm r body a b lb (by rw [hed]; exact hlb) hr0
    (by rw [hl]; exact hline) hb hb10 hab hbl
  rw [hl] at e2
  rw [hed, hyb] at e3
  exact ⟨s', e1, e2, e3, e4, e5, e6⟩

/-- the state a character-wise yank of `[a, b)` leaves -/
def yankedSpan (s sm : VS) (body : List Nat) (a b : Nat) : VS :=
  { sm with ed := { s.ed with regs := s.ed.regs.put s.ybuf (encStr ((body.take b).drop a)) 0, xoff := (a : Int) } }

/-- character-wise `vi_yank` on the cursor row in such a state: the text is unchanged, the register receives the
span, the cursor goes to its start -/
theorem viYank_yankedSpan (s sm : VS) (body : List Nat) (a b : Nat) (hed : sm.ed = s.ed) (hyb : sm.ybuf = s.ybuf)
    (hr0 : 0 ≤ s.ed.xrow) (hline : (lines s)[s.ed.xrow.toNat]? = some (encStr (body ++ [10])))
    (hb : ∀ c ∈ body, ValidCp c) (hab : a ≤ b) (hbl : b ≤ body.length) :
    viYank s.ed.xrow a s.ed.xrow b false sm = Res.ok VC_COL (yankedSpan s sm body a b) := by
  have hl : lines sm = lines s := by unfold Vi.lines; rw [hed]
  unfold yankedSpan
  rw [viYank_row_total sm s.ed.xrow body a b hr0 (by rw [hl]; exact hline) hb hab hbl, ← hed, ← hyb]

/-- **S3, generic**: delete with a motion `k` (not a line motion) that lands on `(r, t)` -/
theorem row_delete (s s1 sm : VS) (a2 : Int) (k mv : Int) (body : List Nat) (o t : Nat)
    (hk : Prefixed s a2 k s1) (hn : isLnKey 100 k = false) (hrow : OnRow s body o)
    (hm : viMotion s.ed.xrow o (motionSt a2 s1 k) = Res.ok (mv, s.ed.xrow, (t : Int)) sm) (hmv : 0 < mv)
    (hed : sm.ed = s.ed) (hyb : sm.ybuf = s.ybuf) (ht : t ≤ body.length) :
    ∃ s', vcMotion 100 s = Res.ok VC_OK s' ∧
      RowDeleted s sm s' s.ed.xrow body (span (inclusive sm mv) o t body.length).1 (span (inclusive sm mv) o t body.length).2 := by
  obtain ⟨lb, hlb⟩ := hrow.lb
  obtain ⟨h1, h2⟩ := span_le (inclusive sm mv) o t body.length (Nat.le_of_lt hrow.onChar) ht
  rw [vcMotion_row 100 s s1 sm a2 k mv body o t hk hn hrow hm hmv hed ht]
  exact viDelete_rowDeleted s sm s.ed.xrow body _ _ lb hlb hed hyb hrow.row0 hrow.line hrow.valid hrow.no10 h1 h2

theorem yankedSpan_spec (s sm : VS) (body : List Nat) (a b : Nat) :
    lines (yankedSpan s sm body a b) = lines s ∧
    (yankedSpan s sm body a b).ed.regs = s.ed.regs.put s.ybuf (encStr ((body.take b).drop a)) 0 ∧
    (yankedSpan s sm body a b).ed.xrow = s.ed.xrow ∧ (yankedSpan s sm body a b).ed.xoff = a ∧
    yankedSpan s sm body a b = { sm with ed := (yankedSpan s sm body a b).ed } := ⟨rfl, rfl, rfl, rfl, rfl⟩

/-- **S3, generic**: yank with such a motion -/
theorem row_yank (s s1 sm : VS) (a2 : Int) (k mv : Int) (body : List Nat) (o t : Nat)
    (hk : Prefixed s a2 k s1) (hn : isLnKey 121 k = false) (hrow : OnRow s body o)
    (hm : viMotion s.ed.xrow o (motionSt a2 s1 k) = Res.ok (mv, s.ed.xrow, (t : Int)) sm) (hmv : 0 < mv)
    (hed : sm.ed = s.ed) (hyb : sm.ybuf = s.ybuf) (ht : t ≤ body.length) :
    vcMotion 121 s = Res.ok VC_COL
      (yankedSpan s sm body (span (inclusive sm mv) o t body.length).1 (span (inclusive sm mv) o t body.length).2) := by
  obtain ⟨h1, h2⟩ := span_le (inclusive sm mv) o t body.length (Nat.le_of_lt hrow.onChar) ht
  rw [vcMotion_row 121 s s1 sm a2 k mv body o t hk hn hrow hm hmv hed ht]
  exact viYank_yankedSpan s sm body _ _ hed hyb hrow.row0 hrow.line hrow.valid h1 h2

/-- `row_delete` / `row_yank` for an exclusive motion `k` that reads no further key: the characters `[a, b)`, the
cursor and the target, in order -/
theorem row_delete_excl (s s1 : VS) (a2 k : Int) (body : List Nat) (o t a b : Nat)
    (hk : Prefixed s a2 k s1) (hn : isLnKey 100 k = false) (hrow : OnRow s body o)
    (hm : viMotion s.ed.xrow o (motionSt a2 s1 k) = Res.ok (k, s.ed.xrow, (t : Int)) (setArg2 a2 s1)) (hkpos : 0 < k)
    (hex : inclusive (setArg2 a2 s1) k = false) (hdir : a = o ∧ b = t ∨ a = t ∧ b = o) (hle : a ≤ b)
    (ht : t ≤ body.length) :
    ∃ s', vcMotion 100 s = Res.ok VC_OK s' ∧ RowDeleted s (setArg2 a2 s1) s' s.ed.xrow body a b := by
  obtain ⟨rfl, rfl⟩ : a = min o t ∧ b = max o t := by omega
  have h := row_delete s s1 (setArg2 a2 s1) a2 k k body o t hk hn hrow hm hkpos hk.frame.ed hk.frame.ybuf ht
  rwa [hex, span_excl] at h

theorem row_yank_excl (s s1 : VS) (a2 k : Int) (body : List Nat) (o t a b : Nat)
    (hk : Prefixed s a2 k s1) (hn : isLnKey 121 k = false) (hrow : OnRow s body o)
    (hm : viMotion s.ed.xrow o (motionSt a2 s1 k) = Res.ok (k, s.ed.xrow, (t : Int)) (setArg2 a2 s1)) (hkpos : 0 < k)
    (hex : inclusive (setArg2 a2 s1) k = false) (hdir : a = o ∧ b = t ∨ a = t ∧ b = o) (hle : a ≤ b)
    (ht : t ≤ body.length) :
    vcMotion 121 s = Res.ok VC_COL (yankedSpan s (setArg2 a2 s1) body a b) := by
  obtain ⟨rfl, rfl⟩ : a = min o t ∧ b = max o t := by omega
  rw [row_yank s s1 (setArg2 a2 s1) a2 k k body o t hk hn hrow hm hkpos hk.frame.ed hk.frame.ybuf ht, hex, span_excl]

/-! ### the motions `SPC` (`x`), `BS` (`X`), `$` (`D`), `0` -/

theorem OnRow.linesSt {s s1 : VS} {body : List Nat} {o : Nat} {a2 : Int} (h : OnRow s body o)
    (hf : KeyFrame s s1) : (lines (setArg2 a2 s1))[s.ed.xrow.toNat]? = some (encStr (body ++ [10])) := by
  have : lines (setArg2 a2 s1) = lines s := hf.lines
  rw [this]; exact h.line

/-- the row under the cursor as `Props/C07d.lean` wants it, in the state in which `vi_motion` reads the key -/
theorem OnRow.lineAtSt {s s1 : VS} {body : List Nat} {o : Nat} {a2 k : Int} (h : OnRow s body o) (hf : KeyFrame s s1) :
    lineAt (lines (motionSt a2 s1 k)) s.ed.xrow = some (encStr (body ++ [10])) :=
  have hl : (lines (setArg2 a2 s1))[s.ed.xrow.toNat]? = some (encStr (body ++ [10])) := h.linesSt hf
  lineAt_of_get _ _ _ h.row0 hl

/-- the motion `SPC` with count `c`: to `min (o + c) |body|` -/
theorem viMotion_spc_row (s s1 : VS) (a2 : Int) (body : List Nat) (o : Nat) (hk : Prefixed s a2 32 s1) (hrow : OnRow s body o) :
    viMotion s.ed.xrow o (motionSt a2 s1 32) =
      Res.ok (32, s.ed.xrow, ((min (o + (opCount s a2).toNat) body.length : Nat) : Int)) (setArg2 a2 s1) := by
  rw [Props.C07d.viMotion_space s.ed.xrow o _ (setArg2 a2 s1) body (viRead_motionSt a2 s1 32) (hrow.lineAtSt hk.frame)
    hrow.valid (Nat.le_of_lt hrow.onChar), cntOf_motionSt s s1 a2 32 hk.frame]

/-- the motion `BS` with count `c`: to `o - c` (0 when `c > o`) -/
theorem viMotion_bs_row (s s1 : VS) (a2 : Int) (body : List Nat) (o : Nat) (hk : Prefixed s a2 8 s1) (hrow : OnRow s body o) :
    viMotion s.ed.xrow o (motionSt a2 s1 8) =
      Res.ok (8, s.ed.xrow, ((o - (opCount s a2).toNat : Nat) : Int)) (setArg2 a2 s1) := by
  rw [Props.C07d.viMotion_backspace s.ed.xrow o _ (setArg2 a2 s1) body 8 (Or.inl rfl) (viRead_motionSt a2 s1 8)
    (hrow.lineAtSt hk.frame) hrow.valid (Nat.le_of_lt hrow.onChar), cntOf_motionSt s s1 a2 8 hk.frame]

/-- the motion `$`: to the newline, offset `|body|` -/
theorem viMotion_dollar_row (s s1 : VS) (a2 : Int) (body : List Nat) (o : Nat) (hk : Prefixed s a2 36 s1) (hrow : OnRow s body o) :
    viMotion s.ed.xrow o (motionSt a2 s1 36) = Res.ok (36, s.ed.xrow, ((body.length : Nat) : Int)) (setArg2 a2 s1) := by
  exact (Props.C07d.viMotion_dollar s.ed.xrow o _ (setArg2 a2 s1) body (viRead_motionSt a2 s1 36) (hrow.lineAtSt hk.frame)
    hrow.valid).1

/-- the motion `0` -/
theorem viMotion_zero_row (s s1 : VS) (a2 : Int) (o : Nat) (hk : Prefixed s a2 48 s1) :
    viMotion s.ed.xrow o (motionSt a2 s1 48) = Res.ok (48, s.ed.xrow, ((0 : Nat) : Int)) (setArg2 a2 s1) := by
  rw [viMotion_zero _ _ _ (setArg2 a2 s1) (viRead_motionSt a2 s1 48)]
  rfl

/-- **`x`** (= `d SPC`, §4; `[count]x`): the characters `[o, min (o + c) |body|)` are deleted — `min c (|body| - o)`
characters from the cursor on -/
theorem x_spec (s s1 : VS) (a2 : Int) (body : List Nat) (o : Nat) (hk : Prefixed s a2 32 s1) (hrow : OnRow s body o) :
    ∃ s', vcMotion 100 s = Res.ok VC_OK s' ∧
      RowDeleted s (setArg2 a2 s1) s' s.ed.xrow body o (min (o + (opCount s a2).toNat) body.length) := by
  have ho := hrow.onChar
  exact row_delete_excl s s1 a2 32 body o _ _ _ hk (by decide) hrow (viMotion_spc_row s s1 a2 body o hk hrow) (by decide)
    (inclusive_false _ 32 (by simp)) (Or.inl ⟨rfl, rfl⟩) (Nat.le_min.mpr ⟨Nat.le_add_right _ _, Nat.le_of_lt ho⟩) (Nat.min_le_right _ _)

/-- **`X`** (= `d BS`; `[count]X`): the characters `[o - c, o)` before the cursor are deleted, the cursor moves
onto the first of them -/
theorem X_spec (s s1 : VS) (a2 : Int) (body : List Nat) (o : Nat) (hk : Prefixed s a2 8 s1) (hrow : OnRow s body o) :
    ∃ s', vcMotion 100 s = Res.ok VC_OK s' ∧
      RowDeleted s (setArg2 a2 s1) s' s.ed.xrow body (o - (opCount s a2).toNat) o := by
  have ho := hrow.onChar
  exact row_delete_excl s s1 a2 8 body o _ _ _ hk (by decide) hrow (viMotion_bs_row s s1 a2 body o hk hrow) (by decide)
    (inclusive_false _ 8 (by simp)) (Or.inr ⟨rfl, rfl⟩) (Nat.sub_le _ _) (Nat.le_trans (Nat.sub_le _ _) (Nat.le_of_lt ho))

/-- **`D`** (= `d$`): the characters from the cursor to the end of the line are deleted -/
theorem D_spec (s s1 : VS) (a2 : Int) (body : List Nat) (o : Nat) (hk : Prefixed s a2 36 s1) (hrow : OnRow s body o) :
    ∃ s', vcMotion 100 s = Res.ok VC_OK s' ∧ RowDeleted s (setArg2 a2 s1) s' s.ed.xrow body o body.length := by
  have ho := hrow.onChar
  exact row_delete_excl s s1 a2 36 body o _ _ _ hk (by decide) hrow (viMotion_dollar_row s s1 a2 body o hk hrow) (by decide)
    (inclusive_false _ 36 (by simp)) (Or.inl ⟨rfl, rfl⟩) (Nat.le_of_lt ho) (Nat.le_refl _)

/-- **`d0`**: the characters before the cursor are deleted -/
theorem d0_spec (s s1 : VS) (a2 : Int) (body : List Nat) (o : Nat) (hk : Prefixed s a2 48 s1) (hrow : OnRow s body o) :
    ∃ s', vcMotion 100 s = Res.ok VC_OK s' ∧ RowDeleted s (setArg2 a2 s1) s' s.ed.xrow body 0 o := by
  have ho := hrow.onChar
  exact row_delete_excl s s1 a2 48 body o _ _ _ hk (by decide) hrow (viMotion_zero_row s s1 a2 o hk) (by decide)
    (inclusive_false _ 48 (by simp)) (Or.inr ⟨rfl, rfl⟩) (Nat.zero_le _) (Nat.zero_le _)

/-- a deletion that ends at the end of the line keeps the head `body.take a` -/
theorem RowDeleted.to_eol {s sm s' : VS} {r : Int} {body : List Nat} {a : Nat}
    (h : RowDeleted s sm s' r body a body.length) :
    Vi.lines s' = (Vi.lines s).take r.toNat ++ [encStr (body.take a ++ [10])] ++ (Vi.lines s).drop (r.toNat + 1) := by
  have := h.lines
  rwa [List.drop_length, List.append_nil] at this

/-- **`y SPC`, `y$`, `y0`, `y BS`**: the same spans, yanked -/
theorem y_spc_spec (s s1 : VS) (a2 : Int) (body : List Nat) (o : Nat) (hk : Prefixed s a2 32 s1) (hrow : OnRow s body o) :
    vcMotion 121 s = Res.ok VC_COL (yankedSpan s (setArg2 a2 s1) body o (min (o + (opCount s a2).toNat) body.length)) := by
  have ho := hrow.onChar
  exact row_yank_excl s s1 a2 32 body o _ _ _ hk (by decide) hrow (viMotion_spc_row s s1 a2 body o hk hrow) (by decide)
    (inclusive_false _ 32 (by simp)) (Or.inl ⟨rfl, rfl⟩) (Nat.le_min.mpr ⟨Nat.le_add_right _ _, Nat.le_of_lt ho⟩) (Nat.min_le_right _ _)

theorem y_dollar_spec (s s1 : VS) (a2 : Int) (body : List Nat) (o : Nat) (hk : Prefixed s a2 36 s1) (hrow : OnRow s body o) :
    vcMotion 121 s = Res.ok VC_COL (yankedSpan s (setArg2 a2 s1) body o body.length) := by
  have ho := hrow.onChar
  exact row_yank_excl s s1 a2 36 body o _ _ _ hk (by decide) hrow (viMotion_dollar_row s s1 a2 body o hk hrow) (by decide)
    (inclusive_false _ 36 (by simp)) (Or.inl ⟨rfl, rfl⟩) (Nat.le_of_lt ho) (Nat.le_refl _)

theorem y0_spec (s s1 : VS) (a2 : Int) (body : List Nat) (o : Nat) (hk : Prefixed s a2 48 s1) (hrow : OnRow s body o) :
    vcMotion 121 s = Res.ok VC_COL (yankedSpan s (setArg2 a2 s1) body 0 o) := by
  have ho := hrow.onChar
  exact row_yank_excl s s1 a2 48 body o _ _ _ hk (by decide) hrow (viMotion_zero_row s s1 a2 o hk) (by decide)
    (inclusive_false _ 48 (by simp)) (Or.inr ⟨rfl, rfl⟩) (Nat.zero_le _) (Nat.zero_le _)

/-! ### the word motions `e` (inclusive) and `w` (exclusive)

The whole buffer is valid UTF-8 (`Utf8Buf`, C07c: the scanners may look beyond the row), and the reference
motion of `Spec/Motion.lean` from `(r, o)` with the count stays on the row: it lands on `(r, t)`. -/

theorem viMotion_e_row (s s1 : VS) (a2 : Int) (body : List Nat) (o t : Nat) (hk : Prefixed s a2 101 s1) (hrow : OnRow s body o)
    (hu : Utf8Buf (lines s))
    (href : Motion.wordEndFwdRaw false (refBufU (lines s)) ⟨s.ed.xrow.toNat, o⟩ (opCount s a2).toNat = ⟨s.ed.xrow.toNat, t⟩) :
    viMotion s.ed.xrow o (motionSt a2 s1 101) = Res.ok (101, s.ed.xrow, (t : Int)) (setArg2 a2 s1) ∧ t ≤ body.length := by
  have hl : lines (setArg2 a2 s1) = lines s := hk.frame.lines
  obtain ⟨g1, g2⟩ := go_e_row (lines s) hu (opCount s a2).toNat s.ed.xrow o t body hrow.row0 hrow.line hrow.valid
    (Nat.le_of_lt hrow.onChar) href
  rw [viMotion_e _ _ _ (setArg2 a2 s1) (viRead_motionSt a2 s1 101), cntOf_motionSt s s1 a2 101 hk.frame, hl, g1]
  exact ⟨rfl, g2⟩

theorem viMotion_w_row (s s1 : VS) (a2 : Int) (body : List Nat) (o t : Nat) (hk : Prefixed s a2 119 s1) (hrow : OnRow s body o)
    (hu : Utf8Buf (lines s))
    (href : Motion.wordFwdRaw false (refBufU (lines s)) ⟨s.ed.xrow.toNat, o⟩ (opCount s a2).toNat = ⟨s.ed.xrow.toNat, t⟩) :
    viMotion s.ed.xrow o (motionSt a2 s1 119) = Res.ok (119, s.ed.xrow, (t : Int)) (setArg2 a2 s1) ∧ t ≤ body.length := by
  have hl : lines (setArg2 a2 s1) = lines s := hk.frame.lines
  obtain ⟨g1, g2⟩ := go_w_row (lines s) hu (opCount s a2).toNat s.ed.xrow o t body hrow.row0 hrow.line hrow.valid
    (Nat.le_of_lt hrow.onChar) href
  rw [viMotion_w _ _ _ (setArg2 a2 s1) (viRead_motionSt a2 s1 119), cntOf_motionSt s s1 a2 119 hk.frame, hl, g1]
  exact ⟨rfl, g2⟩

/-- **`de`** (`[count]de`): the span from the cursor to the end of the `c`-th word, inclusive: when the
reference target is `(r, t)`, the characters `span true o t |body|` — `[o, t + 1)` for `o ≤ t < |body|` — go -/
theorem de_spec (s s1 : VS) (a2 : Int) (body : List Nat) (o t : Nat) (hk : Prefixed s a2 101 s1) (hrow : OnRow s body o)
    (hu : Utf8Buf (lines s))
    (href : Motion.wordEndFwdRaw false (refBufU (lines s)) ⟨s.ed.xrow.toNat, o⟩ (opCount s a2).toNat = ⟨s.ed.xrow.toNat, t⟩) :
    ∃ s', vcMotion 100 s = Res.ok VC_OK s' ∧
      RowDeleted s (setArg2 a2 s1) s' s.ed.xrow body (span true o t body.length).1 (span true o t body.length).2 := by
  obtain ⟨hm, ht⟩ := viMotion_e_row s s1 a2 body o t hk hrow hu href
  have h := row_delete s s1 (setArg2 a2 s1) a2 101 101 body o t hk (by decide) hrow hm (by decide)
    hk.frame.ed hk.frame.ybuf ht
  rwa [inclusive_true _ 101 (by simp)] at h

/-- … in the usual case `o ≤ t < |body|`: the characters `[o, t + 1)` -/
theorem de_spec_fwd (s s1 : VS) (a2 : Int) (body : List Nat) (o t : Nat) (hk : Prefixed s a2 101 s1) (hrow : OnRow s body o)
    (hu : Utf8Buf (lines s))
    (href : Motion.wordEndFwdRaw false (refBufU (lines s)) ⟨s.ed.xrow.toNat, o⟩ (opCount s a2).toNat = ⟨s.ed.xrow.toNat, t⟩)
    (hot : o ≤ t) (htl : t < body.length) :
    ∃ s', vcMotion 100 s = Res.ok VC_OK s' ∧ RowDeleted s (setArg2 a2 s1) s' s.ed.xrow body o (t + 1) := by
  obtain ⟨s', e, h⟩ := de_spec s s1 a2 body o t hk hrow hu href
  rw [span_incl o t body.length (by omega), show min o t = o by omega, show max o t = t by omega] at h
  exact ⟨s', e, h⟩

/-- **`dw`** (`[count]dw`), exclusive: when the reference target (the start of the `c`-th next word) is `(r, t)` on
the same row, the characters `[min o t, max o t)` go.  (`vc_motion` has no special rule for `w`: when the
next word starts on another row, the newline is part of the region; that case is not covered here.) -/
theorem dw_spec (s s1 : VS) (a2 : Int) (body : List Nat) (o t : Nat) (hk : Prefixed s a2 119 s1) (hrow : OnRow s body o)
    (hu : Utf8Buf (lines s))
    (href : Motion.wordFwdRaw false (refBufU (lines s)) ⟨s.ed.xrow.toNat, o⟩ (opCount s a2).toNat = ⟨s.ed.xrow.toNat, t⟩) :
    ∃ s', vcMotion 100 s = Res.ok VC_OK s' ∧ RowDeleted s (setArg2 a2 s1) s' s.ed.xrow body (min o t) (max o t) := by
  obtain ⟨hm, ht⟩ := viMotion_w_row s s1 a2 body o t hk hrow hu href
  have h := row_delete s s1 (setArg2 a2 s1) a2 119 119 body o t hk (by decide) hrow hm (by decide)
    hk.frame.ed hk.frame.ybuf ht
  rwa [inclusive_false _ 119 (by simp), span_excl] at h

/-- `ye`, `yw`: the same spans, yanked -/
theorem ye_spec (s s1 : VS) (a2 : Int) (body : List Nat) (o t : Nat) (hk : Prefixed s a2 101 s1) (hrow : OnRow s body o)
    (hu : Utf8Buf (lines s))
    (href : Motion.wordEndFwdRaw false (refBufU (lines s)) ⟨s.ed.xrow.toNat, o⟩ (opCount s a2).toNat = ⟨s.ed.xrow.toNat, t⟩) :
    vcMotion 121 s = Res.ok VC_COL
      (yankedSpan s (setArg2 a2 s1) body (span true o t body.length).1 (span true o t body.length).2) := by
  obtain ⟨hm, ht⟩ := viMotion_e_row s s1 a2 body o t hk hrow hu href
  rw [row_yank s s1 (setArg2 a2 s1) a2 101 101 body o t hk (by decide) hrow hm (by decide) hk.frame.ed hk.frame.ybuf ht,
    inclusive_true _ 101 (by simp)]

theorem yw_spec (s s1 : VS) (a2 : Int) (body : List Nat) (o t : Nat) (hk : Prefixed s a2 119 s1) (hrow : OnRow s body o)
    (hu : Utf8Buf (lines s))
    (href : Motion.wordFwdRaw false (refBufU (lines s)) ⟨s.ed.xrow.toNat, o⟩ (opCount s a2).toNat = ⟨s.ed.xrow.toNat, t⟩) :
    vcMotion 121 s = Res.ok VC_COL (yankedSpan s (setArg2 a2 s1) body (min o t) (max o t)) := by
  obtain ⟨hm, ht⟩ := viMotion_w_row s s1 a2 body o t hk hrow hu href
  rw [row_yank s s1 (setArg2 a2 s1) a2 119 119 body o t hk (by decide) hrow hm (by decide) hk.frame.ed hk.frame.ybuf ht,
    inclusive_false _ 119 (by simp), span_excl]

/-! ### the finds `f c` (inclusive) and `t c` (inclusive, one short)

After the key `f` / `t` the character `c` is typed as its UTF-8 bytes (`pending s1 = enc c ++ rest`, default
keymap).  `s2` is the state after those bytes were read; the find is remembered in `charlast` / `charcmd`. -/

theorem row_fail (cmd : Nat) (s s1 sm : VS) (a2 : Int) (k r2 o2 : Int) (hk : Prefixed s a2 k s1)
    (hn : isLnKey cmd k = false)
    (hm : viMotion s.ed.xrow (noeol s s.ed.xrow s.ed.xoff) (motionSt a2 s1 k) = Res.ok (-1, r2, o2) sm) :
    vcMotion cmd s = Res.ok 0 sm := by
  obtain ⟨sp, e, hk', hf⟩ := vcMotion_prefixed cmd s s1 a2 k hk
  rw [e, vcCore_apply, readMotion_char cmd _ _ _ (setArg2 a2 s1) sm k (-1) r2 o2 hk' hn hm (by omega)]
  rfl

/-- the motions `f c` (`k` = 102) and `t c` (`k` = 116) with the count on the row: the reference `findChar` -/
theorem viMotion_find_row (k : Nat) (hkk : k = 102 ∨ k = 116) (s s1 : VS) (a2 : Int) (body : List Nat) (o c : Nat)
    (rest : Bytes) (hk : Prefixed s a2 k s1) (hrow : OnRow s body o) (ha : 0 ≤ s.arg1)
    (hc : ValidCp c ∧ 32 ≤ c ∧ c ≠ 127) (hp : pending s1 = enc c ++ rest) (hkm : s1.xkmap = 0) :
    ∃ s2, Reads false (enc c) (setArg2 a2 s1) s2 ∧ pending s2 = rest ∧
      viMotion s.ed.xrow o (motionSt a2 s1 k) =
        match Motion.findChar body o c true (k == 116) (opCount s a2).toNat with
        | none => Res.ok (-1, s.ed.xrow, (o : Int)) { s2 with charlast := enc c, charcmd := k }
        | some t => Res.ok (k, s.ed.xrow, (t : Int)) { s2 with charlast := enc c, charcmd := k } := by
  have hl : lines (setArg2 a2 s1) = lines s := hk.frame.lines
  obtain ⟨s2, h1, h2, h3⟩ := viChar_enc (setArg2 a2 s1) c rest hc hp hkm
  refine ⟨s2, h3, h2, ?_⟩
  have hcp := opCount_pos s a2 ha hk.nonneg
  rw [viMotion_find _ _ _ (setArg2 a2 s1) s2 (enc c) k (viRead_motionSt a2 s1 k) (by rcases hkk with rfl | rfl <;> rfl) h1,
    Int.toNat_natCast, cntOf_motionSt s s1 a2 k hk.frame, hl,
    findchar_row (lines s) s.ed.xrow body hrow.row0 hrow.line hrow.valid hrow.no10 c hc.1 (by omega) k hkk
      (opCount s a2) (by omega) o (Nat.le_of_lt hrow.onChar)]
  cases Motion.findChar body o c true (k == 116) (opCount s a2).toNat <;> rfl

theorem viMotion_f_row (s s1 : VS) (a2 : Int) (body : List Nat) (o c : Nat) (rest : Bytes) (hk : Prefixed s a2 102 s1)
    (hrow : OnRow s body o) (ha : 0 ≤ s.arg1) (hc : ValidCp c ∧ 32 ≤ c ∧ c ≠ 127)
    (hp : pending s1 = enc c ++ rest) (hkm : s1.xkmap = 0) :
    ∃ s2, Reads false (enc c) (setArg2 a2 s1) s2 ∧ pending s2 = rest ∧
      viMotion s.ed.xrow o (motionSt a2 s1 102) =
        match Motion.findChar body o c true false (opCount s a2).toNat with
        | none => Res.ok (-1, s.ed.xrow, (o : Int)) { s2 with charlast := enc c, charcmd := 102 }
        | some t => Res.ok (102, s.ed.xrow, (t : Int)) { s2 with charlast := enc c, charcmd := 102 } :=
  viMotion_find_row 102 (Or.inl rfl) s s1 a2 body o c rest hk hrow ha hc hp hkm

theorem viMotion_t_row (s s1 : VS) (a2 : Int) (body : List Nat) (o c : Nat) (rest : Bytes) (hk : Prefixed s a2 116 s1)
    (hrow : OnRow s body o) (ha : 0 ≤ s.arg1) (hc : ValidCp c ∧ 32 ≤ c ∧ c ≠ 127)
    (hp : pending s1 = enc c ++ rest) (hkm : s1.xkmap = 0) :
    ∃ s2, Reads false (enc c) (setArg2 a2 s1) s2 ∧ pending s2 = rest ∧
      viMotion s.ed.xrow o (motionSt a2 s1 116) =
        match Motion.findChar body o c true true (opCount s a2).toNat with
        | none => Res.ok (-1, s.ed.xrow, (o : Int)) { s2 with charlast := enc c, charcmd := 116 }
        | some t => Res.ok (116, s.ed.xrow, (t : Int)) { s2 with charlast := enc c, charcmd := 116 } :=
  viMotion_find_row 116 (Or.inr rfl) s s1 a2 body o c rest hk hrow ha hc hp hkm

/-- delete with `f c` or `t c`: the characters from the cursor up to and including the reference target `t`
(`findChar`: the `n`-th `c` to the right, or for `t c` the character before it), `[o, t + 1)`; without such a `c`
nothing changes and `vc_motion` returns 0 -/
theorem dfind_spec (k : Nat) (hkk : k = 102 ∨ k = 116) (s s1 : VS) (a2 : Int) (body : List Nat) (o c : Nat)
    (rest : Bytes) (hk : Prefixed s a2 k s1) (hrow : OnRow s body o) (ha : 0 ≤ s.arg1)
    (hc : ValidCp c ∧ 32 ≤ c ∧ c ≠ 127) (hp : pending s1 = enc c ++ rest) (hkm : s1.xkmap = 0) :
    ∃ s2, Reads false (enc c) (setArg2 a2 s1) s2 ∧ pending s2 = rest ∧
      (∀ t, Motion.findChar body o c true (k == 116) (opCount s a2).toNat = some t →
        o ≤ t ∧ t < body.length ∧
        ∃ s', vcMotion 100 s = Res.ok VC_OK s' ∧
          RowDeleted s { s2 with charlast := enc c, charcmd := k } s' s.ed.xrow body o (t + 1)) ∧
      (Motion.findChar body o c true (k == 116) (opCount s a2).toNat = none →
        vcMotion 100 s = Res.ok 0 { s2 with charlast := enc c, charcmd := k } ∧ lines s2 = lines s) := by
  have hf := hk.frame
  have hn : isLnKey 100 k = false := by rcases hkk with rfl | rfl <;> rfl
  obtain ⟨s2, h1, h2, hm⟩ := viMotion_find_row k hkk s s1 a2 body o c rest hk hrow ha hc hp hkm
  have hed2 : s2.ed = s.ed := by
    obtain ⟨ib, ip, ty, xl, rfl, hx⟩ := h1
    have := hx rfl
    subst this
    exact hf.ed
  have hyb2 : s2.ybuf = s.ybuf := by
    obtain ⟨ib, ip, ty, xl, rfl, hx⟩ := h1
    exact hf.ybuf
  refine ⟨s2, h1, h2, ?_, ?_⟩
  · intro t ht
    obtain ⟨b1, b2, _⟩ := findChar_fwd_bounds body o c _ t _ ht
    rw [ht] at hm
    refine ⟨b1, b2, ?_⟩
    have h := row_delete s s1 { s2 with charlast := enc c, charcmd := k } a2 k k body o t hk hn hrow hm
      (by rcases hkk with rfl | rfl <;> decide) hed2 hyb2 (by omega)
    rwa [inclusive_true _ k (by omega), span_incl o t body.length (by omega), show min o t = o by omega,
      show max o t = t by omega] at h
  · intro hnone
    rw [hnone] at hm
    refine ⟨row_fail 100 s s1 _ a2 k _ _ hk hn (by rw [hrow.noeol]; exact hm), ?_⟩
    unfold Vi.lines; rw [hed2]

/-- **`df c`**: the characters from the cursor up to and including the `n`-th `c` to its right, `[o, t + 1)`
with `t` the reference `findChar`; without such a `c` nothing changes and `vc_motion` returns 0 -/
theorem dfc_spec (s s1 : VS) (a2 : Int) (body : List Nat) (o c : Nat) (rest : Bytes) (hk : Prefixed s a2 102 s1)
    (hrow : OnRow s body o) (ha : 0 ≤ s.arg1) (hc : ValidCp c ∧ 32 ≤ c ∧ c ≠ 127)
    (hp : pending s1 = enc c ++ rest) (hkm : s1.xkmap = 0) :
    ∃ s2, Reads false (enc c) (setArg2 a2 s1) s2 ∧ pending s2 = rest ∧
      (∀ t, Motion.findChar body o c true false (opCount s a2).toNat = some t →
        o ≤ t ∧ t < body.length ∧
        ∃ s', vcMotion 100 s = Res.ok VC_OK s' ∧
          RowDeleted s { s2 with charlast := enc c, charcmd := 102 } s' s.ed.xrow body o (t + 1)) ∧
      (Motion.findChar body o c true false (opCount s a2).toNat = none →
        vcMotion 100 s = Res.ok 0 { s2 with charlast := enc c, charcmd := 102 } ∧ lines s2 = lines s) :=
  dfind_spec 102 (Or.inl rfl) s s1 a2 body o c rest hk hrow ha hc hp hkm

/-- **`dt c`**: as `df c`, the target being the character before that `c` (`findChar … till`): `[o, t + 1)` -/
theorem dtc_spec (s s1 : VS) (a2 : Int) (body : List Nat) (o c : Nat) (rest : Bytes) (hk : Prefixed s a2 116 s1)
    (hrow : OnRow s body o) (ha : 0 ≤ s.arg1) (hc : ValidCp c ∧ 32 ≤ c ∧ c ≠ 127)
    (hp : pending s1 = enc c ++ rest) (hkm : s1.xkmap = 0) :
    ∃ s2, Reads false (enc c) (setArg2 a2 s1) s2 ∧ pending s2 = rest ∧
      (∀ t, Motion.findChar body o c true true (opCount s a2).toNat = some t →
        o ≤ t ∧ t < body.length ∧
        ∃ s', vcMotion 100 s = Res.ok VC_OK s' ∧
          RowDeleted s { s2 with charlast := enc c, charcmd := 116 } s' s.ed.xrow body o (t + 1)) ∧
      (Motion.findChar body o c true true (opCount s a2).toNat = none →
        vcMotion 100 s = Res.ok 0 { s2 with charlast := enc c, charcmd := 116 } ∧ lines s2 = lines s) :=
  dfind_spec 116 (Or.inr rfl) s s1 a2 body o c rest hk hrow ha hc hp hkm

/-! ### the column motions `l` and `h` (`vi_nextcol`, through the renderer)

`l` / `h` move by display columns.  Here the row is laid out left to right without reordering (`LeftToRight`:
the position table of the line is the plain one, and the direction context is not right-to-left) — so for
every ASCII line (`leftToRight_ascii` gives the table; the context is a hypothesis).  Then `l` is one character to
the right, never onto the newline: unlike `x`, `dl` on the last character deletes nothing. -/

/-- the row is displayed left to right, unreordered -/
structure LeftToRight (s : VS) (body : List Nat) : Prop where
  table : posTab s (encStr (body ++ [10])) = Ren.renPositionFast (encStr (body ++ [10]))
  ctx : 0 ≤ dirCtx s (encStr (body ++ [10]))

/-- the table part holds for every ASCII line -/
theorem leftToRight_ascii (s : VS) (body : List Nat) (hb : ∀ c ∈ body, 0 < c ∧ c < 128)
    (hctx : 0 ≤ dirCtx s (encStr (body ++ [10]))) : LeftToRight s body :=
  ⟨posTab_fast_ascii s body hb, hctx⟩

theorem leftToRight_congr {s sm : VS} {body : List Nat} (hl : LeftToRight s body)
    (htd : sm.ed.xtd = s.ed.xtd) : LeftToRight sm body := by
  obtain ⟨h1, h2⟩ := hl
  constructor
  · unfold posTab renOpts at h1 ⊢; rw [htd]; exact h1
  · unfold dirCtx at h2 ⊢; rw [htd]; exact h2

/-- the motion `l` with count `c` on the row: to `min (o + c) (|body| - 1)` -/
theorem viMotion_l_row (s s1 : VS) (a2 : Int) (body : List Nat) (o : Nat) (hk : Prefixed s a2 108 s1) (hrow : OnRow s body o)
    (hltr : LeftToRight s body) :
    viMotion s.ed.xrow o (motionSt a2 s1 108) =
      Res.ok (108, s.ed.xrow, ((min (o + (opCount s a2).toNat) (body.length - 1) : Nat) : Int)) (setArg2 a2 s1) := by
  have h1 : LeftToRight (motionSt a2 s1 108) body := leftToRight_congr hltr (congrArg Ed.xtd hk.frame.ed)
  exact (Props.C07d.viMotion_l s.ed.xrow o _ (setArg2 a2 s1) body (viRead_motionSt a2 s1 108) (hrow.lineAtSt hk.frame) hrow.valid
    hrow.no10 (posTab_fast_inc _ body hrow.valid h1.table) h1.ctx (Nat.le_sub_one_of_lt hrow.onChar)).1.trans
    (by rw [cntOf_motionSt s s1 a2 108 hk.frame]; rfl)

/-- the motion `h` with count `c` on the row: to `o - c` -/
theorem viMotion_h_row (s s1 : VS) (a2 : Int) (body : List Nat) (o : Nat) (hk : Prefixed s a2 104 s1) (hrow : OnRow s body o)
    (hltr : LeftToRight s body) :
    viMotion s.ed.xrow o (motionSt a2 s1 104) =
      Res.ok (104, s.ed.xrow, ((o - (opCount s a2).toNat : Nat) : Int)) (setArg2 a2 s1) := by
  have h1 : LeftToRight (motionSt a2 s1 104) body := leftToRight_congr hltr (congrArg Ed.xtd hk.frame.ed)
  exact (Props.C07d.viMotion_h s.ed.xrow o _ (setArg2 a2 s1) body (viRead_motionSt a2 s1 104) (hrow.lineAtSt hk.frame) hrow.valid
    hrow.no10 (posTab_fast_inc _ body hrow.valid h1.table) h1.ctx (Nat.le_of_lt hrow.onChar)).1.trans
    (by rw [cntOf_motionSt s s1 a2 104 hk.frame])

/-- **`dl`** (`[count]dl`): the characters `[o, min (o + c) (|body| - 1))` are deleted -/
theorem dl_spec (s s1 : VS) (a2 : Int) (body : List Nat) (o : Nat) (hk : Prefixed s a2 108 s1) (hrow : OnRow s body o)
    (hltr : LeftToRight s body) :
    ∃ s', vcMotion 100 s = Res.ok VC_OK s' ∧
      RowDeleted s (setArg2 a2 s1) s' s.ed.xrow body o (min (o + (opCount s a2).toNat) (body.length - 1)) := by
  have ho := hrow.onChar
  exact row_delete_excl s s1 a2 108 body o _ _ _ hk (by decide) hrow (viMotion_l_row s s1 a2 body o hk hrow hltr) (by decide)
    (inclusive_false _ 108 (by simp)) (Or.inl ⟨rfl, rfl⟩) (Nat.le_min.mpr ⟨Nat.le_add_right _ _, Nat.le_sub_one_of_lt ho⟩)
    (Nat.le_trans (Nat.min_le_right _ _) (Nat.sub_le _ _))

/-- **`dh`** (`[count]dh`): the characters `[o - c, o)` are deleted (as `X`) -/
theorem dh_spec (s s1 : VS) (a2 : Int) (body : List Nat) (o : Nat) (hk : Prefixed s a2 104 s1) (hrow : OnRow s body o)
    (hltr : LeftToRight s body) :
    ∃ s', vcMotion 100 s = Res.ok VC_OK s' ∧
      RowDeleted s (setArg2 a2 s1) s' s.ed.xrow body (o - (opCount s a2).toNat) o := by
  have ho := hrow.onChar
  exact row_delete_excl s s1 a2 104 body o _ _ _ hk (by decide) hrow (viMotion_h_row s s1 a2 body o hk hrow hltr) (by decide)
    (inclusive_false _ 104 (by simp)) (Or.inr ⟨rfl, rfl⟩) (Nat.sub_le _ _) (Nat.le_trans (Nat.sub_le _ _) (Nat.le_of_lt ho))

/-! ## 4. the shorthands of the command dispatcher

`commandTail` (the `switch` of `vi()`) on the keys `x X D C s S Y`: the mark `^` is set, a motion key is
pushed back, and `vc_motion` runs with the operator letter; `finRec` (C09) is the common tail that
records the command for `.`.  Instances of `ViPres.commandTail_key`. -/

/-- `x` = `d SPC` -/
theorem commandTail_x (s s1 : VS) (hk : viRead s = Res.ok 120 s1) :
    commandTail s = (do markSet 94 s1.ed.xrow s1.ed.xoff; viBack 32; let m ← vcMotion 100; finRec 120 0 m : M (Option Nat)) s1 := by
  refine Lemmas.ViPres.commandTail_key 120 (by decide) _ (fun _ => ?_) s s1 hk
  rfl

/-- `X` = `d BS` -/
theorem commandTail_X_ (s s1 : VS) (hk : viRead s = Res.ok 88 s1) :
    commandTail s = (do markSet 94 s1.ed.xrow s1.ed.xoff; viBack 8; let m ← vcMotion 100; finRec 88 0 m : M (Option Nat)) s1 := by
  refine Lemmas.ViPres.commandTail_key 88 (by decide) _ (fun _ => ?_) s s1 hk
  rfl

/-- `D` = `d$` -/
theorem commandTail_D_ (s s1 : VS) (hk : viRead s = Res.ok 68 s1) :
    commandTail s = (do markSet 94 s1.ed.xrow s1.ed.xoff; viBack 36; let m ← vcMotion 100; finRec 68 0 m : M (Option Nat)) s1 := by
  refine Lemmas.ViPres.commandTail_key 68 (by decide) _ (fun _ => ?_) s s1 hk
  rfl

/-- `C` = `c$` -/
theorem commandTail_C_ (s s1 : VS) (hk : viRead s = Res.ok 67 s1) :
    commandTail s = (do markSet 94 s1.ed.xrow s1.ed.xoff; viBack 36; let m ← vcMotion 99; finRec 67 0 m : M (Option Nat)) s1 := by
  refine Lemmas.ViPres.commandTail_key 67 (by decide) _ (fun _ => ?_) s s1 hk
  rfl

/-- `s` = `c SPC` -/
theorem commandTail_s (s s1 : VS) (hk : viRead s = Res.ok 115 s1) :
    commandTail s = (do markSet 94 s1.ed.xrow s1.ed.xoff; viBack 32; let m ← vcMotion 99; finRec 115 0 m : M (Option Nat)) s1 := by
  refine Lemmas.ViPres.commandTail_key 115 (by decide) _ (fun _ => ?_) s s1 hk
  rfl

/-- `S` = `cc` -/
theorem commandTail_S_ (s s1 : VS) (hk : viRead s = Res.ok 83 s1) :
    commandTail s = (do markSet 94 s1.ed.xrow s1.ed.xoff; viBack 99; let m ← vcMotion 99; finRec 83 0 m : M (Option Nat)) s1 := by
  refine Lemmas.ViPres.commandTail_key 83 (by decide) _ (fun _ => ?_) s s1 hk
  rfl

/-- `Y` = `yy` -/
theorem commandTail_Y_ (s s1 : VS) (hk : viRead s = Res.ok 89 s1) :
    commandTail s = (do markSet 94 s1.ed.xrow s1.ed.xoff; viBack 121; let m ← vcMotion 121; finRec 89 0 m : M (Option Nat)) s1 := by
  refine Lemmas.ViPres.commandTail_key 89 (by decide) _ (fun _ => ?_) s s1 hk
  rfl

/-- the state in which `vc_motion` then runs has the motion key on the push-back stack: `viRead` returns it -/
theorem viBack_then_read (c : Int) (s : VS) : ∃ sb, viBack c s = Res.ok () sb ∧ viRead sb = Res.ok c s := ⟨_, rfl, rfl⟩

/-- **the key `x`, from the dispatcher to the text**: `commandTail` on the key `x` with the cursor on character
`o` of the line `body`: the mark `^` is set (state `sm`: only marks differ from `s1`), the characters
`[o, min (o + c) |body|)` are deleted as by `x_spec` (no second count: `c = opCount s1 0`), and the command is
recorded for `.` (`finRec`) -/
theorem x_key_spec (s s1 : VS) (body : List Nat) (o : Nat) (hk : viRead s = Res.ok 120 s1) (hrow : OnRow s1 body o) :
    ∃ sm s', lines sm = lines s1 ∧ sm.ed.regs = s1.ed.regs ∧ (∃ ed', sm = { s1 with ed := ed' }) ∧
      RowDeleted sm (setArg2 0 sm) s' s1.ed.xrow body o (min (o + (opCount s1 0).toNat) body.length) ∧
      commandTail s = finRec 120 0 VC_OK s' := by
  obtain ⟨B, hm, l1⟩ := markSet_bufs 94 s1.ed.xrow s1.ed.xoff s1
  have hrow' : OnRow ({ ({ s1 with ed := { s1.ed with bufs := B } } : VS) with vibuf := 32 :: s1.vibuf }) body o :=
    ⟨hrow.row0, by show (lines { s1 with ed := { s1.ed with bufs := B } })[s1.ed.xrow.toNat]? = _; rw [l1]; exact hrow.line,
     hrow.valid, hrow.no10, hrow.off, hrow.onChar⟩
  obtain ⟨s', e, h⟩ := x_spec _ { s1 with ed := { s1.ed with bufs := B } } 0 body o
    (prefixed_none _ _ 32 (viRead_back { s1 with ed := { s1.ed with bufs := B } } 32) (by decide)) hrow'
  refine ⟨_, s', l1, rfl, ⟨_, rfl⟩, ⟨h.lines, h.regs, h.xrow, h.xoff, h.frame⟩, ?_⟩
  rw [commandTail_x s s1 hk]
  simp only [bind_apply, hm]
  have hb : viBack 32 ({ s1 with ed := { s1.ed with bufs := B } } : VS) =
      Res.ok () { ({ s1 with ed := { s1.ed with bufs := B } } : VS) with vibuf := 32 :: s1.vibuf } := rfl
  rw [hb]
  simp only []
  rw [e]

/-! ## 5. concrete runs (non-vacuity)

`exSt keys row off` (C08b): the buffer `hello w` / `b`, the cursor at `(row, off)`, `keys` typed.
`exU`: the buffer `hel` / `aé中b` (2- and 3-byte characters). -/

open Neatvi.Props.C08b (exSt exEd linesOf cursorOf)

def exU (keys : Bytes) (row off : Int) : VS :=
  { ed := { bufs := [some { path := [], lb := { lines := [[104, 101, 108, 10], [97, 195, 169, 228, 184, 173, 98, 10]] } }],
            xrow := row, xoff := off }, typed := keys }
def regOf (r : Res Nat) (c : Nat) : Option Bytes × Nat := match r with | Res.ok _ s => s.ed.regs.getRaw c | _ => (none, 0)
def retOf (r : Res Nat) : Option Nat := match r with | Res.ok a _ => some a | _ => none

-- `dd` on row 0: the line goes to the unnamed register and to `"1`, in line mode
example : linesOf (vcMotion 100 (exSt [100] 0 2)) = [[98, 10]] ∧
    regOf (vcMotion 100 (exSt [100] 0 2)) 0 = (some [104, 101, 108, 108, 111, 32, 119, 10], 1) ∧
    regOf (vcMotion 100 (exSt [100] 0 2)) 49 = (some [104, 101, 108, 108, 111, 32, 119, 10], 1) ∧
    retOf (vcMotion 100 (exSt [100] 0 2)) = some VC_OK := by decide +kernel
-- `2dd`: both lines; the cursor row is `min 0 (max 0 (0 - 1)) = 0`
example : linesOf (vcMotion 100 { exSt [100] 0 2 with arg1 := 2 }) = [] ∧
    cursorOf (vcMotion 100 { exSt [100] 0 2 with arg1 := 2 }) = (0, 0) := by decide +kernel
-- `dj` on the last line deletes that line alone; the cursor goes up to the new last line
example : linesOf (vcMotion 100 (exSt [106] 1 0)) = [[104, 101, 108, 108, 111, 32, 119, 10]] ∧
    cursorOf (vcMotion 100 (exSt [106] 1 0)) = (0, 0) := by decide +kernel
-- `dk` on the last line: both lines
example : linesOf (vcMotion 100 (exSt [107] 1 0)) = [] := by decide +kernel
-- `yy`: the text stays, the register receives the line, the cursor keeps its column
example : linesOf (vcMotion 121 (exSt [121] 0 2)) = [[104, 101, 108, 108, 111, 32, 119, 10], [98, 10]] ∧
    regOf (vcMotion 121 (exSt [121] 0 2)) 0 = (some [104, 101, 108, 108, 111, 32, 119, 10], 1) ∧
    cursorOf (vcMotion 121 (exSt [121] 0 2)) = (0, 2) := by decide +kernel
-- `x` (SPC pushed back) on the 2-byte character `é`: the whole character goes
example : linesOf (vcMotion 100 { exU [] 1 1 with vibuf := [32] }) = [[104, 101, 108, 10], [97, 228, 184, 173, 98, 10]] ∧
    cursorOf (vcMotion 100 { exU [] 1 1 with vibuf := [32] }) = (1, 1) ∧
    regOf (vcMotion 100 { exU [] 1 1 with vibuf := [32] }) 0 = (some [195, 169], 0) := by decide +kernel
-- `3x` on the `o` of `hello w`: only the two characters that are left
example : linesOf (vcMotion 100 { exSt [] 0 5 with vibuf := [32], arg1 := 3 }) = [[104, 101, 108, 108, 111, 10], [98, 10]] ∧
    cursorOf (vcMotion 100 { exSt [] 0 5 with vibuf := [32], arg1 := 3 }) = (0, 5) := by decide +kernel
-- `X` with the count 5 from offset 2: the two characters before the cursor
example : linesOf (vcMotion 100 { exSt [] 0 2 with vibuf := [8], arg1 := 5 }) = [[108, 108, 111, 32, 119, 10], [98, 10]] ∧
    cursorOf (vcMotion 100 { exSt [] 0 2 with vibuf := [8], arg1 := 5 }) = (0, 0) := by decide +kernel
-- `D`
example : linesOf (vcMotion 100 { exSt [] 0 2 with vibuf := [36] }) = [[104, 101, 10], [98, 10]] ∧
    cursorOf (vcMotion 100 { exSt [] 0 2 with vibuf := [36] }) = (0, 2) := by decide +kernel
-- `d0`
example : linesOf (vcMotion 100 (exSt [48] 0 2)) = [[108, 108, 111, 32, 119, 10], [98, 10]] ∧
    cursorOf (vcMotion 100 (exSt [48] 0 2)) = (0, 0) := by decide +kernel
-- `de` (inclusive)
example : linesOf (vcMotion 100 (exSt [101] 0 0)) = [[32, 119, 10], [98, 10]] ∧
    regOf (vcMotion 100 (exSt [101] 0 0)) 0 = (some [104, 101, 108, 108, 111], 0) := by decide +kernel
-- `dfo` (inclusive)
example : linesOf (vcMotion 100 (exSt [102, 111] 0 1)) = [[104, 32, 119, 10], [98, 10]] ∧
    cursorOf (vcMotion 100 (exSt [102, 111] 0 1)) = (0, 1) := by decide +kernel
-- `dto` (up to, not including, the `o`)
example : linesOf (vcMotion 100 (exSt [116, 111] 0 1)) = [[104, 111, 32, 119, 10], [98, 10]] := by decide +kernel
-- `dw`
example : linesOf (vcMotion 100 (exSt [119] 0 0)) = [[119, 10], [98, 10]] := by decide +kernel
-- `dw` on the last word of a line: `vc_motion` has no special rule, the newline goes too
example : linesOf (vcMotion 100 (exSt [119] 0 6)) = [[104, 101, 108, 108, 111, 32, 98, 10]] := by decide +kernel
-- a failed motion (`dfz`): nothing changes, `vc_motion` returns 0
example : linesOf (vcMotion 100 (exSt [102, 122] 0 1)) = [[104, 101, 108, 108, 111, 32, 119, 10], [98, 10]] ∧
    retOf (vcMotion 100 (exSt [102, 122] 0 1)) = some 0 := by decide +kernel
-- through the dispatcher: the key `x`
example : (match commandTail (exSt [120] 0 1) with | Res.ok _ s => lines s | _ => []) =
    [[104, 108, 108, 111, 32, 119, 10], [98, 10]] := by decide +kernel

-- `dl` / `dh` (through the renderer); `dl` on the last character deletes nothing
example : linesOf (vcMotion 100 { exSt [108] 0 1 with arg1 := 2 }) = [[104, 108, 111, 32, 119, 10], [98, 10]] ∧
    linesOf (vcMotion 100 (exSt [108] 0 6)) = [[104, 101, 108, 108, 111, 32, 119, 10], [98, 10]] ∧
    linesOf (vcMotion 100 (exSt [104] 0 2)) = [[104, 108, 108, 111, 32, 119, 10], [98, 10]] := by decide +kernel
-- the hypotheses of the theorems are satisfiable: `x` on the `é` of `aé中b`
example : OnRow { exU [] 1 1 with vibuf := [32] } [97, 233, 20013, 98] 1 :=
  ⟨by decide, by decide +kernel, by decide, by decide, rfl, by decide⟩
example : ∃ s', vcMotion 100 { exU [] 1 1 with vibuf := [32] } = Res.ok VC_OK s' ∧
    lines s' = [[104, 101, 108, 10], encStr [97, 20013, 98, 10]] ∧ s'.ed.xoff = 1 := by
  obtain ⟨s', e, h⟩ := x_spec { exU [] 1 1 with vibuf := [32] } (exU [] 1 1) 0 [97, 233, 20013, 98] 1
    (prefixed_none _ _ 32 rfl (by decide)) ⟨by decide, by decide +kernel, by decide, by decide, rfl, by decide⟩
  exact ⟨s', e, h.lines, h.xoff⟩

-- a second count: `d2j` (both lines), `2d2l` (count 4), `d3x`-like `3` then SPC
example : linesOf (vcMotion 100 (exSt [50, 106] 0 0)) = [] ∧
    linesOf (vcMotion 100 { exSt [50, 108] 0 0 with arg1 := 2 }) = [[111, 32, 119, 10], [98, 10]] ∧
    linesOf (vcMotion 100 (exSt [51, 32] 0 1)) = [[104, 111, 32, 119, 10], [98, 10]] := by decide +kernel
-- … and through the theorems: `d3 SPC` on `hello w` from offset 1 deletes `[1, 4)`
example : ∃ s', vcMotion 100 (exSt [51, 32] 0 1) = Res.ok VC_OK s' ∧
    lines s' = [encStr [104, 111, 32, 119, 10], [98, 10]] ∧ s'.ed.xoff = 1 := by
  have hp : Prefixed (exSt [51, 32] 0 1) 3 32 (Lemmas.C08b.afterRead (Lemmas.C08b.afterRead (exSt [51, 32] 0 1))) :=
    prefixed_digit _ _ _ 51 32 (viRead_pending _ 51 [32] rfl rfl).1 (by decide) (by decide)
      (viRead_pending _ 32 [] rfl (viRead_pending _ 51 [32] rfl rfl).2.1).1 (by decide)
  obtain ⟨s', e, h⟩ := x_spec _ _ 3 [104, 101, 108, 108, 111, 32, 119] 1 hp
    ⟨by decide, by decide +kernel, by decide, by decide, rfl, by decide⟩
  exact ⟨s', e, h.lines, h.xoff⟩

end Neatvi.Props.C08f
