import NeatviVerif.Lemmas.C08gSteps
import NeatviVerif.Props.C08d
/-!
# C08g: change, put, join, case, replace, shift — from the keys to the text

`Props/C08f.lean` follows the delete and yank operators from the key the user types to the text.  This file does
the same for the other editing commands, whose operator-level specifications are in `Props/C08.lean`, `C08b`,
`C08d`, `C08e`: the change family, `p` / `P`, `J`, `~` and `g~ gu gU`, `r`, `>` / `<`; and it closes the loop of
`vi()` around them (`viPre`, `commandTail`, `viPost`) for the round trips `yyp`, `ddP`, `xp`, `dwP`.

Three levels, each built on the one before:

1. **`vc_motion`** (§1–§3), as in C08f: `s` is the state when `vc_motion` starts (the operator letter has been read),
   `Prefixed s a2 k s1` reads the second count `a2` and the motion key `k`, the count is `opCount s a2`.
   * §1 `Lands`: a motion from character `o` of the cursor row to character `t` of the same row, one lemma per motion
     (`lands_spc lands_bs lands_dollar lands_zero lands_e lands_w lands_l lands_h lands_f lands_t`); the generic
     theorems `row_change`, `row_case` (any such motion), `line_change`, `line_shift` (any line motion);
   * §2 the change family by name: `cw_spec ce_spec c_dollar_spec c_spc_spec cl_spec c0_spec cfc_spec ctc_spec`,
     `cc_spec cj_spec ck_spec`;
   * §3 `~ g~ gu gU` (`case_spc_spec case_w_spec case_e_spec case_dollar_spec case_zero_spec`), `>> << >j >k`
     (`shift_dbl_spec shift_j_spec shift_k_spec`), and `vc_put` made total (`vcPut_chars_p`, `vcPut_chars_P`,
     `vcPut_chars_emptyline`, `vcPut_lines_p`, `vcPut_lines_P`, `vcPut_empty`).
2. **the dispatcher `commandTail`** (§4–§6).  `viRead s = Res.ok c s1`: the command key `c` is read — typed at the
   terminal (`typed_key`) or, as in the loop of `vi()`, pushed back by `viPre` (`pushed_key`) —; `s1` is the state once
   it has been read: `s1.arg1` is the count, `s1.ybuf` the register prefix, nothing is pushed back, the rest of the
   command is pending.  The conclusion is `commandTail s = finRec c k m s'`: `finRec` (C09) records the command for `.`;
   `s'` is described relative to `s1`.
   * §4 `commandTail_op` (the dispatcher on an operator key; the other keys: `Lemmas/C08gDispatch.lean`), `keys_op`,
     `keys_short`, `keys_g`;
   * §5 the change family from the keys: `cw_keys ce_keys c_dollar_keys C_keys s_keys cl_keys c0_keys cfc_keys ctc_keys`,
     `cc_keys S_keys cj_keys ck_keys`;
   * §6 `p_chars_keys P_chars_keys p_lines_keys P_lines_keys`, with a named or numbered register `put_chars_reg_keys`
     `put_lines_reg_keys` (`regGetLn_name`), `J_keys`, `tilde_keys`,
     `g_case_w_keys g_case_dollar_keys`, `r_keys`, `shift_dbl_keys shift_j_keys`.
3. **whole iterations `viStep`** (§7–§8), for commands typed without count or register prefix, from an `Idle` state:
   `viPre_cmd`, `viPost_spec`, `viStep_via`; `yy_step dd_step x_step dw_step put_chars_step put_lines_step`,
   `cw_step Cs_step cc_step`; the round trips `yyp_steps ddP_steps xp_steps dwP_steps`.

§9: plausible conjectures that are false (`cw` is not `ce`; `cl` is not `s` on the last character; `ddP` on the last line
does not restore the text), and concrete runs.

The typed text of the change commands is one line: `TypedText K cs` — the keys `K` type the code points `cs` (valid,
no newline, not empty, not starting with a blank) and leave insert mode; `typedText_plain`: plain text and ESC.

All statements are about the model (`Model/Vi.lean`, `Model/ViCmd.lean`); every command is shown to return
(`Res.ok`, no trap) under the stated hypotheses.
-/
set_option linter.unusedSimpArgs false
set_option linter.unusedVariables false

namespace Neatvi.Props.C08g
open Neatvi Neatvi.Uc Neatvi.Vi Neatvi.Ex Neatvi.Lbuf Neatvi.Mot Neatvi.Spec
open Neatvi.Lemmas.C08 Neatvi.Lemmas.C08b Neatvi.Lemmas.C08f
open Neatvi.Lemmas.C09 (finRec pending)
open Neatvi.Props.C07c (Utf8Buf refBufU)
open Neatvi.Props.C08f

export Neatvi.Lemmas.C08g (Lands RowChanged LineChanged RowCased LineShifted PutChars PutLines Joined RowReplaced
  TypedText KeysMark KeysDone isShort isCmdKey preSt cmdSt Idle Settled StepDone RowIs CmdStart copies cnt1 wfixRow wfixOff
  PostFrame edk)

/-! ## 0. the vocabulary -/

/-- what `Lands` says: after the second count the key `k` is read; it is neither an operator letter nor a line
motion; `vi_motion` from character `o` of the cursor row answers the motion `mv > 0` and the target `(same row, t)`,
`t ≤ |body|`, in the state `sm`, which has the editor record, the register prefix and the keymap of `s` -/
theorem lands_iff (s s1 sm : VS) (a2 k mv : Int) (body : List Nat) (o t : Nat) : Lands s s1 sm a2 k mv body o t ↔
    Prefixed s a2 k s1 ∧
    (k ≠ 99 ∧ k ≠ 100 ∧ k ≠ 121 ∧ k ≠ 126 ∧ k ≠ 117 ∧ k ≠ 85 ∧ k ≠ 62 ∧ k ≠ 60 ∧ isLnKey 0 k = false) ∧
    viMotion s.ed.xrow o (motionSt a2 s1 k) = Res.ok (mv, s.ed.xrow, (t : Int)) sm ∧ 0 < mv ∧
    sm.ed = s.ed ∧ sm.ybuf = s.ybuf ∧ sm.xkmap = s.xkmap ∧ t ≤ body.length :=
  ⟨fun h => ⟨h.pre, h.key, h.motion, h.pos, h.ed, h.ybuf, h.xkmap, h.le⟩,
   fun h => ⟨h.1, h.2.1, h.2.2.1, h.2.2.2.1, h.2.2.2.2.1, h.2.2.2.2.2.1, h.2.2.2.2.2.2.1, h.2.2.2.2.2.2.2⟩⟩

/-- what `TypedText` says -/
theorem typedText_iff (K : Bytes) (cs : List Nat) : TypedText K cs ↔
    Inputs K cs ∧ (∀ c ∈ cs, ValidCp c) ∧ 10 ∉ cs ∧ (cs.head? ≠ none ∧ cs.head? ≠ some 32 ∧ cs.head? ≠ some 9) :=
  ⟨fun h => ⟨h.inputs, h.valid, h.no10, h.head⟩, fun h => ⟨h.1, h.2.1, h.2.2.1, h.2.2.2⟩⟩

/-- what `RowChanged` says: the characters `[a, b)` of the row `r` (line `body`) were replaced by `cs`; the register
named by the prefix received them in character mode; the cursor is on the last typed character; apart from the editor
record the state is `sm` (the state after the motion) with the keys `K` of the insertion read (`ReadsEd`, C08b) -/
theorem rowChanged_iff (K : Bytes) (s sm s' : VS) (r : Int) (body cs : List Nat) (a b : Nat) : RowChanged K s sm s' r body cs a b ↔
    lines s' = (lines s).take r.toNat ++ [encStr (body.take a ++ cs ++ body.drop b ++ [10])] ++ (lines s).drop (r.toNat + 1) ∧
    s'.ed.regs = s.ed.regs.put s.ybuf (encStr ((body.take b).drop a)) 0 ∧
    s'.ed.xrow = r ∧ s'.ed.xoff = (a : Int) + cs.length - 1 ∧ ReadsEd K sm s' :=
  ⟨fun h => ⟨h.lines, h.regs, h.xrow, h.xoff, h.frame⟩, fun h => ⟨h.1, h.2.1, h.2.2.1, h.2.2.2.1, h.2.2.2.2⟩⟩

/-- what `LineChanged` says: the rows `lo..hi` (the first of them `body`) were replaced by the one row
`indentation of body ++ cs`; the register received the rows in line mode; the cursor is on the last typed character -/
theorem lineChanged_iff (K : Bytes) (s sm s' : VS) (lo hi : Int) (body cs : List Nat) : LineChanged K s sm s' lo hi body cs ↔
    lines s' = (lines s).take lo.toNat ++ [encStr (indentOf s body ++ cs ++ [10])] ++ (lines s).drop (hi.toNat + 1) ∧
    s'.ed.regs = s.ed.regs.put s.ybuf (((lines s).drop lo.toNat).take (hi.toNat - lo.toNat + 1)).flatten 1 ∧
    s'.ed.xrow = lo ∧ s'.ed.xoff = ((indentOf s body).length : Int) + cs.length - 1 ∧ ReadsEd K sm s' :=
  ⟨fun h => ⟨h.lines, h.regs, h.xrow, h.xoff, h.frame⟩, fun h => ⟨h.1, h.2.1, h.2.2.1, h.2.2.2.1, h.2.2.2.2⟩⟩

/-- the indentation a line-wise change keeps: the leading blanks of the line with `autoindent`, none without -/
theorem indentOf_eq (s : VS) (body : List Nat) : indentOf s body = if s.xai then body.takeWhile isBlankC else [] := rfl

/-- what `RowCased` says -/
theorem rowCased_iff (cmd : Nat) (s sm s' : VS) (r : Int) (body : List Nat) (a b : Nat) : RowCased cmd s sm s' r body a b ↔
    lines s' = (lines s).take r.toNat ++
      [encStr (body.take a ++ ((body.take b).drop a).map (caseCp cmd) ++ (body.drop b ++ [10]))] ++ (lines s).drop (r.toNat + 1) ∧
    s'.ed.regs = s.ed.regs ∧ s'.ed.xrow = r ∧ s'.ed.xoff = (b : Int) ∧ s' = { sm with ed := s'.ed } :=
  ⟨fun h => ⟨h.lines, h.regs, h.xrow, h.xoff, h.frame⟩, fun h => ⟨h.1, h.2.1, h.2.2.1, h.2.2.2.1, h.2.2.2.2⟩⟩

/-- what `LineShifted` says -/
theorem lineShifted_iff (dir : Int) (s sm s' : VS) (lo hi : Int) : LineShifted dir s sm s' lo hi ↔
    lines s' = (lines s).take lo.toNat ++
      (((lines s).drop lo.toNat).take (hi.toNat - lo.toNat + 1)).map (shiftLine dir) ++ (lines s).drop (hi.toNat + 1) ∧
    s'.ed.regs = s.ed.regs ∧ s'.ed.xrow = lo ∧ s'.ed.xoff = Mot.indents (lines s') lo ∧ s' = { sm with ed := s'.ed } :=
  ⟨fun h => ⟨h.lines, h.regs, h.xrow, h.xoff, h.frame⟩, fun h => ⟨h.1, h.2.1, h.2.2.1, h.2.2.2.1, h.2.2.2.2⟩⟩

/-- what `PutChars` says: the text `ins` was inserted before character `p` of the row `r` (line `body`); the cursor is
on the last inserted character; the registers are untouched -/
theorem putChars_iff (s s' : VS) (r : Int) (body ins : List Nat) (p : Nat) : PutChars s s' r body ins p ↔
    lines s' = (lines s).take r.toNat ++ [encStr (body.take p ++ ins ++ body.drop p ++ [10])] ++ (lines s).drop (r.toNat + 1) ∧
    s'.ed.regs = s.ed.regs ∧ s'.ed.xrow = r ∧ s'.ed.xoff = (p : Int) + ins.length - 1 :=
  ⟨fun h => ⟨h.lines, h.regs, h.xrow, h.xoff⟩, fun h => ⟨h.1, h.2.1, h.2.2.1, h.2.2.2⟩⟩

/-- what `PutLines` says: the lines `new` were inserted before the row `r`; the cursor is on the first non-blank of
the first of them; the registers are untouched -/
theorem putLines_iff (s s' : VS) (r : Int) (new : List Bytes) : PutLines s s' r new ↔
    lines s' = (lines s).take r.toNat ++ new ++ (lines s).drop r.toNat ∧
    s'.ed.regs = s.ed.regs ∧ s'.ed.xrow = r ∧ s'.ed.xoff = Mot.indents (lines s') r :=
  ⟨fun h => ⟨h.lines, h.regs, h.xrow, h.xoff⟩, fun h => ⟨h.1, h.2.1, h.2.2.1, h.2.2.2⟩⟩

/-- `copies n l`: `n` copies of `l`, one after the other; `cnt1 s = max 1 count` -/
theorem copies_eq {α : Type} (n : Nat) (l : List α) : copies n l = (List.replicate n l).flatten := rfl
theorem cnt1_eq (s : VS) : cnt1 s = (max 1 s.arg1).toNat := rfl

/-- what `Joined` says -/
theorem joined_iff (s s' : VS) (a : Bytes) (ws : List Bytes) : Joined s s' a ws ↔
    lines s' = (lines s).take s.ed.xrow.toNat ++ [joinRows a ws ++ [10]] ++ (lines s).drop (s.ed.xrow.toNat + (ws.length + 1)) ∧
    s'.ed.regs = s.ed.regs ∧ s'.ed.xrow = s.ed.xrow ∧ s'.ed.xoff = joinOff a ws 0 :=
  ⟨fun h => ⟨h.lines, h.regs, h.xrow, h.xoff⟩, fun h => ⟨h.1, h.2.1, h.2.2.1, h.2.2.2⟩⟩

/-- what `RowReplaced` says -/
theorem rowReplaced_iff (s s' : VS) (body : List Nat) (o n c : Nat) : RowReplaced s s' body o n c ↔
    lines s' = (lines s).take s.ed.xrow.toNat ++
      [encStr (body.take o ++ List.replicate n c ++ (body.drop (o + n) ++ [10]))] ++ (lines s).drop (s.ed.xrow.toNat + 1) ∧
    s'.ed.regs = s.ed.regs ∧ s'.ed.xrow = s.ed.xrow ∧ s'.ed.xoff = (o : Int) + n - 1 :=
  ⟨fun h => ⟨h.lines, h.regs, h.xrow, h.xoff⟩, fun h => ⟨h.1, h.2.1, h.2.2.1, h.2.2.2⟩⟩

/-- what `KeysMark` says: `sm` is `s` after the keys `ks` were read from the terminal and the mark `^` was set: the
key queues moved on, `icmd` recorded the keys, the marks of the buffer may differ; nothing else does -/
theorem keysMark_iff (ks : Bytes) (s sm : VS) : KeysMark ks s sm ↔
    (∃ ib ip ty, sm =
      { s with ibuf := ib, ibufPos := ip, typed := ty, icmd := icmdAfterL s.icmd ks, ed := { s.ed with bufs := sm.ed.bufs } }) ∧
    lines sm = lines s :=
  ⟨fun h => ⟨h.eq, h.lines⟩, fun h => ⟨h.1, h.2⟩⟩

/-- what `KeysDone` says: the queue side of a command that read the keys `ks` after its command key: nothing is left
pushed back, `icmd` recorded the keys (this is what `finRec` stores for `.`), the first count and the register
prefix are untouched -/
theorem keysDone_iff (ks : Bytes) (s s' : VS) : KeysDone ks s s' ↔
    s'.vibuf = [] ∧ s'.icmd = icmdAfterL s.icmd ks ∧ s'.arg1 = s.arg1 ∧ s'.ybuf = s.ybuf :=
  ⟨fun h => ⟨h.vibuf, h.icmd, h.arg1, h.ybuf⟩, fun h => ⟨h.1, h.2.1, h.2.2.1, h.2.2.2⟩⟩

/-- what `Idle` says: the state between two commands — nothing pushed back, the editor not quitting, at most one line
of output waiting (so `vi_wait()` does not prompt) -/
theorem idle_iff (s : VS) : Idle s ↔ s.vibuf = [] ∧ s.ed.xquit = false ∧ nlCount s.ed.out ≤ 1 :=
  ⟨fun h => ⟨h.vibuf, h.xquit, h.out⟩, fun h => ⟨h.1, h.2.1, h.2.2⟩⟩

/-- the state straight after `ex_init` / `viInit` is idle when nothing was printed -/
example : Idle (Props.C08b.exSt [120] 0 0) := ⟨rfl, rfl, by decide⟩

/-- what `Settled` says: what `finRec` and `viPost` do to the state `s'` a command left — the cursor is settled by the
window fix (`wfixRow`, `wfixOff`), the output is shown, the command is recorded in register `.` (when repeatable);
the text, the other registers, the key queues, the keymap, `autoindent`, the text direction are as in `s'` -/
theorem settled_iff (s' s'' : VS) : Settled s' s'' ↔
    lines s'' = lines s' ∧ s''.ed.xrow = wfixRow s' ∧ s''.ed.xoff = wfixOff s' ∧ s''.vibuf = s'.vibuf ∧
    pending s'' = pending s' ∧ s''.ed.xquit = false ∧ s''.ed.out = [] ∧ s''.xkmap = s'.xkmap ∧ s''.xai = s'.xai ∧
    s''.ed.xtd = s'.ed.xtd ∧ (RegsWf s'.ed.regs → RegsWf s''.ed.regs) ∧
    (RegsWf s'.ed.regs → ∀ d, d ≠ 46 → s''.ed.regs.getRaw d = s'.ed.regs.getRaw d) :=
  ⟨fun h => ⟨h.lines, h.xrow, h.xoff, h.vibuf, h.pending, h.xquit, h.out, h.xkmap, h.xai, h.xtd, h.wf, h.regs⟩,
   fun h => ⟨h.1, h.2.1, h.2.2.1, h.2.2.2.1, h.2.2.2.2.1, h.2.2.2.2.2.1, h.2.2.2.2.2.2.1, h.2.2.2.2.2.2.2.1,
     h.2.2.2.2.2.2.2.2.1, h.2.2.2.2.2.2.2.2.2.1, h.2.2.2.2.2.2.2.2.2.2.1, h.2.2.2.2.2.2.2.2.2.2.2⟩⟩

/-- the row and the offset `vi_wfix()` settles on: a row outside the buffer goes to the last line; the offset is
`ren_noeol` of the line -/
theorem wfixRow_eq (s : VS) : wfixRow s =
    if s.ed.xrow < 0 || s.ed.xrow ≥ lenOf s then (if lenOf s != 0 then lenOf s - 1 else 0) else s.ed.xrow := rfl
theorem wfixOff_eq (s : VS) : wfixOff s =
    match lineOf s (wfixRow s) with | some l => Ren.renNoeol l s.ed.xoff | none => Ren.renNoeol [] s.ed.xoff := by
  unfold wfixOff
  rfl

/-- what `StepDone` says: the iteration that started in `s` returned in `s''`, idle again, the registers well formed,
the keys `rest` still to come; the keymap, `autoindent` and the text direction are untouched -/
theorem stepDone_iff (s s'' : VS) (rest : Bytes) : StepDone s s'' rest ↔
    Idle s'' ∧ RegsWf s''.ed.regs ∧ pending s'' = rest ∧ s''.xkmap = s.xkmap ∧ s''.xai = s.xai ∧ s''.ed.xtd = s.ed.xtd :=
  ⟨fun h => ⟨h.idle, h.wf, h.pending, h.xkmap, h.xai, h.xtd⟩, fun h => ⟨h.1, h.2.1, h.2.2.1, h.2.2.2.1, h.2.2.2.2.1, h.2.2.2.2.2⟩⟩

/-- `RowIs s s'' body'`: the cursor row of `s` now holds `body'`, the other rows are as they were -/
theorem rowIs_iff (s s'' : VS) (body' : List Nat) : RowIs s s'' body' ↔
    lines s'' = (lines s).take s.ed.xrow.toNat ++ [encStr (body' ++ [10])] ++ (lines s).drop (s.ed.xrow.toNat + 1) := Iff.rfl

/-- what `CmdStart` says: `sm` is the state in which the command function runs when the iteration started in `s` with a
plain command key: the text, the cursor, the registers are those of `s` (the marks may differ); no count, no register
prefix -/
theorem cmdStart_iff (s sm : VS) : CmdStart s sm ↔
    sm.ed = { s.ed with bufs := sm.ed.bufs } ∧ lines sm = lines s ∧ sm.arg1 = 0 ∧ sm.ybuf = 0 ∧ sm.xkmap = s.xkmap ∧
    sm.xai = s.xai :=
  ⟨fun h => ⟨h.ed, h.lines, h.arg1, h.ybuf, h.xkmap, h.xai⟩, fun h => ⟨h.1, h.2.1, h.2.2.1, h.2.2.2.1, h.2.2.2.2.1, h.2.2.2.2.2⟩⟩

/-- what `PostFrame` says: what `viPost` does to a state — the window fix moved the cursor to `(wfixRow, wfixOff)`; the
sticky column, the window, the output buffer and the counters of the buffer may differ; nothing else does -/
theorem postFrame_iff (s s' : VS) : PostFrame s s' ↔
    (∃ xc xt xl B, s' =
      { s with xcol := xc, ed := { s.ed with xrow := wfixRow s, xoff := wfixOff s, xtop := xt, xleft := xl, out := [], bufs := B } }) ∧
    lines s' = lines s :=
  ⟨fun h => ⟨h.eq, h.lines⟩, fun h => ⟨h.1, h.2⟩⟩

/-- the state `viPre` leaves when the plain command key `c` was typed (`preSt`), and that state once the dispatcher has
read the key back from the push-back stack (`cmdSt`): the counts and the register prefix are clear, `icmd` holds the key -/
theorem preSt_eq (s : VS) (c : Nat) (ib : Bytes) (ip : Nat) (ty : Bytes) : preSt s c ib ip ty =
    { s with ibuf := ib, ibufPos := ip, typed := ty, icmd := [c], arg1 := 0, arg2 := 0, ybuf := 0, vibuf := [(c : Int)] } := rfl
theorem cmdSt_eq (s : VS) (c : Nat) (ib : Bytes) (ip : Nat) (ty : Bytes) : cmdSt s c ib ip ty =
    { s with ibuf := ib, ibufPos := ip, typed := ty, icmd := [c], arg1 := 0, arg2 := 0, ybuf := 0, vibuf := [] } := rfl

/-- the command keys of this file: `c d y > < p P J r ~ g x X D C s S Y` -/
theorem isCmdKey_iff (c : Nat) : isCmdKey c ↔
    c = 99 ∨ c = 100 ∨ c = 121 ∨ c = 62 ∨ c = 60 ∨ c = 112 ∨ c = 80 ∨ c = 74 ∨ c = 114 ∨ c = 126 ∨ c = 103 ∨ c = 120 ∨
    c = 88 ∨ c = 68 ∨ c = 67 ∨ c = 115 ∨ c = 83 ∨ c = 89 := Iff.rfl

/-- the shorthands: the key `c` stands for the operator `op` with the motion key `k` — `x` = `d SPC`, `X` = `d BS`,
`D` = `d$`, `C` = `c$`, `s` = `c SPC`, `S` = `cc`, `Y` = `yy`, `~` = `g~ SPC` -/
theorem isShort_iff (c op : Nat) (k : Int) : isShort c op k ↔
    (c = 120 ∧ op = 100 ∧ k = 32) ∨ (c = 88 ∧ op = 100 ∧ k = 8) ∨ (c = 68 ∧ op = 100 ∧ k = 36) ∨
    (c = 67 ∧ op = 99 ∧ k = 36) ∨ (c = 115 ∧ op = 99 ∧ k = 32) ∨ (c = 83 ∧ op = 99 ∧ k = 99) ∨
    (c = 89 ∧ op = 121 ∧ k = 121) ∨ (c = 126 ∧ op = 126 ∧ k = 32) := Iff.rfl

/-- the fields of the editor record the end of an iteration looks at -/
theorem edk_eq (s : VS) : edk s = (s.ed.xquit, s.ed.out, s.ed.xtd) := rfl

/-! ## 1. motions that land on the cursor row; the generic theorems

The cursor is on character `o` of the row `r = s.ed.xrow`, whose line is `encStr (body ++ [10])` (`OnRow`, C08f). -/

/-- the motion `SPC` with the count `c`: to `min (o + c) |body|` -/
theorem lands_spc (s s1 : VS) (a2 : Int) (body : List Nat) (o : Nat) (hk : Prefixed s a2 32 s1)
    (hrow : OnRow s body o) :
    Lands s s1 (setArg2 a2 s1) a2 32 32 body o (min (o + (opCount s a2).toNat) body.length) :=
  Lemmas.C08g.lands_spc s s1 a2 body o hk hrow

/-- `BS` with the count `c`: to `o - c` -/
theorem lands_bs (s s1 : VS) (a2 : Int) (body : List Nat) (o : Nat) (hk : Prefixed s a2 8 s1) (hrow : OnRow s body o) :
    Lands s s1 (setArg2 a2 s1) a2 8 8 body o (o - (opCount s a2).toNat) :=
  Lemmas.C08g.Lands.of_motion (by simp) hk (viMotion_bs_row s s1 a2 body o hk hrow) (by have := hrow.onChar; omega)

/-- `$`: to the newline -/
theorem lands_dollar (s s1 : VS) (a2 : Int) (body : List Nat) (o : Nat) (hk : Prefixed s a2 36 s1)
    (hrow : OnRow s body o) :
    Lands s s1 (setArg2 a2 s1) a2 36 36 body o body.length :=
  Lemmas.C08g.lands_dollar s s1 a2 body o hk hrow

/-- `0`: to the first character -/
theorem lands_zero (s s1 : VS) (a2 : Int) (body : List Nat) (o : Nat) (hk : Prefixed s a2 48 s1) :
    Lands s s1 (setArg2 a2 s1) a2 48 48 body o 0 :=
  Lemmas.C08g.lands_zero s s1 a2 body o hk

/-- `e` with the count: to the reference target, when that is on the row -/
theorem lands_e (s s1 : VS) (a2 : Int) (body : List Nat) (o t : Nat) (hk : Prefixed s a2 101 s1)
    (hrow : OnRow s body o) (hu : Utf8Buf (lines s))
    (href : Motion.wordEndFwdRaw false (refBufU (lines s)) ⟨s.ed.xrow.toNat, o⟩ (opCount s a2).toNat = ⟨s.ed.xrow.toNat, t⟩) :
    Lands s s1 (setArg2 a2 s1) a2 101 101 body o t :=
  Lemmas.C08g.lands_e s s1 a2 body o t hk hrow hu href

/-- `w` with the count: to the reference target, when that is on the row -/
theorem lands_w (s s1 : VS) (a2 : Int) (body : List Nat) (o t : Nat) (hk : Prefixed s a2 119 s1)
    (hrow : OnRow s body o) (hu : Utf8Buf (lines s))
    (href : Motion.wordFwdRaw false (refBufU (lines s)) ⟨s.ed.xrow.toNat, o⟩ (opCount s a2).toNat = ⟨s.ed.xrow.toNat, t⟩) :
    Lands s s1 (setArg2 a2 s1) a2 119 119 body o t :=
  Lemmas.C08g.lands_w s s1 a2 body o t hk hrow hu href

/-- `l` with the count on a row displayed left to right: to `min (o + c) (|body| - 1)` -/
theorem lands_l (s s1 : VS) (a2 : Int) (body : List Nat) (o : Nat) (hk : Prefixed s a2 108 s1) (hrow : OnRow s body o)
    (hltr : LeftToRight s body) :
    Lands s s1 (setArg2 a2 s1) a2 108 108 body o (min (o + (opCount s a2).toNat) (body.length - 1)) :=
  Lemmas.C08g.lands_l s s1 a2 body o hk hrow hltr

/-- `h` with the count on such a row: to `o - c` -/
theorem lands_h (s s1 : VS) (a2 : Int) (body : List Nat) (o : Nat) (hk : Prefixed s a2 104 s1) (hrow : OnRow s body o)
    (hltr : LeftToRight s body) :
    Lands s s1 (setArg2 a2 s1) a2 104 104 body o (o - (opCount s a2).toNat) :=
  Lemmas.C08g.Lands.of_motion (by simp) hk (viMotion_h_row s s1 a2 body o hk hrow hltr) (by have := hrow.onChar; omega)

/-- `f c` with the count: to the `n`-th `c` to the right of the cursor, when there is one -/
theorem lands_f (s s1 : VS) (a2 : Int) (body : List Nat) (o c : Nat) (rest : Bytes) (hk : Prefixed s a2 102 s1)
    (hrow : OnRow s body o) (ha : 0 ≤ s.arg1) (hc : ValidCp c ∧ 32 ≤ c ∧ c ≠ 127) (hp : pending s1 = enc c ++ rest)
    (hkm : s1.xkmap = 0) :
    ∃ s2, Reads false (enc c) (setArg2 a2 s1) s2 ∧ pending s2 = rest ∧
      ∀ t, Motion.findChar body o c true false (opCount s a2).toNat = some t →
        o ≤ t ∧ t < body.length ∧ Lands s s1 { s2 with charlast := enc c, charcmd := 102 } a2 102 102 body o t :=
  Lemmas.C08g.lands_f s s1 a2 body o c rest hk hrow ha hc hp hkm

/-- `t c` with the count: to the character before that `c` -/
theorem lands_t (s s1 : VS) (a2 : Int) (body : List Nat) (o c : Nat) (rest : Bytes) (hk : Prefixed s a2 116 s1)
    (hrow : OnRow s body o) (ha : 0 ≤ s.arg1) (hc : ValidCp c ∧ 32 ≤ c ∧ c ≠ 127) (hp : pending s1 = enc c ++ rest)
    (hkm : s1.xkmap = 0) :
    ∃ s2, Reads false (enc c) (setArg2 a2 s1) s2 ∧ pending s2 = rest ∧
      ∀ t, Motion.findChar body o c true true (opCount s a2).toNat = some t →
        o ≤ t ∧ t < body.length ∧ Lands s s1 { s2 with charlast := enc c, charcmd := 116 } a2 116 116 body o t :=
  Lemmas.C08g.lands_t s s1 a2 body o c rest hk hrow ha hc hp hkm

/-- `vc_motion cmd` with a motion that lands on the row is the operator function applied to the reference span,
in the state the motion left -/
theorem vcMotion_lands (cmd : Nat)
    (hc : cmd = 99 ∨ cmd = 100 ∨ cmd = 121 ∨ cmd = 126 ∨ cmd = 117 ∨ cmd = 85 ∨ cmd = 62 ∨ cmd = 60) (s s1 sm : VS)
    (a2 k mv : Int) (body : List Nat) (o t : Nat) (hrow : OnRow s body o) (hl : Lands s s1 sm a2 k mv body o t) :
    vcMotion cmd s = applyOp cmd s.ed.xrow (((span (inclusive sm mv) o t body.length).1 : Nat) : Int) s.ed.xrow
      (((span (inclusive sm mv) o t body.length).2 : Nat) : Int) false sm :=
  Lemmas.C08g.vcMotion_lands cmd hc s s1 sm a2 k mv body o t hrow hl

/-- `vc_motion cmd` with a line motion `k` whose target row is `t`: the operator is applied to the rows
`[min r t, max r t]` in line mode, in the state after the count and the key were read -/
theorem vcMotion_line (cmd : Nat) (s s1 : VS) (a2 k t : Int) (hk : Prefixed s a2 k s1) (hkpos : 0 < k)
    (ht : lnTarget (setArg2 a2 s) s.ed.xrow cmd k = some t) (ht0 : 0 ≤ t) :
    ∃ a b, vcMotion cmd s = applyOp cmd (min s.ed.xrow t) a (max s.ed.xrow t) b true (setArg2 a2 s1) :=
  Lemmas.C08g.vcMotion_line cmd s s1 a2 k t hk hkpos ht ht0

/-- **generic, `c` with a motion on the row.**  `c` followed by a motion that lands on character `t` of the cursor
row (`Lands`, any of the motions of §1), then the keys `K` that type the text `cs` and leave insert mode: the
reference span of the motion — `[min o t, max o t)`, one character more for an inclusive motion — is replaced by
`cs`; the register named by the prefix receives the span; the cursor ends on the last typed character -/
theorem row_change (s s1 sm : VS) (a2 k mv : Int) (body cs : List Nat) (o t : Nat) (K rest : Bytes)
    (hrow : OnRow s body o) (hl : Lands s s1 sm a2 k mv body o t) (hin : Inputs K cs) (hp : pending sm = K ++ rest)
    (hpl : ∀ c ∈ cs, ValidCp c) (h10 : 10 ∉ cs) (hne : cs.head? ≠ none ∧ cs.head? ≠ some 32 ∧ cs.head? ≠ some 9)
    (hkm : s.xkmap = 0) :
    ∃ s', vcMotion 99 s = Res.ok VC_OK s' ∧ pending s' = rest ∧
      RowChanged K s sm s' s.ed.xrow body cs (span (inclusive sm mv) o t body.length).1
        (span (inclusive sm mv) o t body.length).2 :=
  Lemmas.C08g.row_change s s1 sm a2 k mv body cs o t K rest hrow hl hin hp hpl h10 hne hkm

/-- **generic, `c` with a line motion.**  `c` followed by a line motion `k` (`c j k + - _ G` …, target row `t`:
`lnTarget`), then the keys `K` that type `cs`: the rows `[min r t, max r t]` are replaced by the one row
`indentation of the first of them ++ cs` (the indentation only with `autoindent`); the register receives the rows
in line mode -/
theorem line_change (s s1 : VS) (a2 k t : Int) (body cs : List Nat) (K rest : Bytes) (hk : Prefixed s a2 k s1)
    (hkpos : 0 < k) (ht : lnTarget (setArg2 a2 s) s.ed.xrow 99 k = some t) (h0 : 0 ≤ s.ed.xrow)
    (h1 : s.ed.xrow < lenOf s) (ht0 : 0 ≤ t) (ht1 : t < lenOf s)
    (hline : (lines s)[(min s.ed.xrow t).toNat]? = some (encStr (body ++ [10]))) (hb : ∀ c ∈ body, ValidCp c)
    (hb10 : 10 ∉ body) (hin : Inputs K cs) (hp : pending s1 = K ++ rest) (hpl : ∀ c ∈ cs, ValidCp c) (h10 : 10 ∉ cs)
    (hne : cs.head? ≠ none ∧ cs.head? ≠ some 32 ∧ cs.head? ≠ some 9) (hkm : s.xkmap = 0) :
    ∃ s', vcMotion 99 s = Res.ok VC_OK s' ∧ pending s' = rest ∧
      LineChanged K s (setArg2 a2 s1) s' (min s.ed.xrow t) (max s.ed.xrow t) body cs :=
  Lemmas.C08g.line_change s s1 a2 k t body cs K rest hk hkpos ht h0 h1 ht0 ht1 hline hb hb10 hin hp hpl h10 hne hkm

/-- **generic, a case operator with a motion on the row.**  `cmd` is the letter `vc_motion` receives: `126` for `~`
and `g~`, `117` for `gu`, `85` for `gU`.  The reference span of the motion is case-mapped (`caseCp`: ASCII letters
only), the cursor goes to the end of the span, the registers are untouched -/
theorem row_case (cmd : Nat) (hc : cmd = 126 ∨ cmd = 117 ∨ cmd = 85) (s s1 sm : VS) (a2 k mv : Int) (body : List Nat)
    (o t : Nat) (hrow : OnRow s body o) (hl : Lands s s1 sm a2 k mv body o t) :
    ∃ s', vcMotion cmd s = Res.ok VC_OK s' ∧
      RowCased cmd s sm s' s.ed.xrow body (span (inclusive sm mv) o t body.length).1
        (span (inclusive sm mv) o t body.length).2 :=
  Lemmas.C08g.row_case cmd hc s s1 sm a2 k mv body o t hrow hl

/-- **generic, `>` / `<` with a line motion** (`cmd` = 62 / 60; `>>` is the motion `k = 62`): the rows
`[min r t, max r t]` are shifted by `shiftLine` — a tab in front of every non-empty row for `>`, one leading blank
removed for `<` —, the cursor goes to the first non-blank of the first of them -/
theorem line_shift (cmd : Nat) (hc : cmd = 62 ∨ cmd = 60) (s s1 : VS) (a2 k t : Int) (hk : Prefixed s a2 k s1)
    (hkpos : 0 < k) (ht : lnTarget (setArg2 a2 s) s.ed.xrow cmd k = some t) (h0 : 0 ≤ s.ed.xrow)
    (h1 : s.ed.xrow < lenOf s) (ht0 : 0 ≤ t) (ht1 : t < lenOf s) (hwf : ∀ l ∈ lines s, Props.C01.WfLine l) :
    ∃ s', vcMotion cmd s = Res.ok VC_OK s' ∧
      LineShifted (if cmd = 62 then 1 else -1) s (setArg2 a2 s1) s' (min s.ed.xrow t) (max s.ed.xrow t) := by
  obtain ⟨a, b, e⟩ := vcMotion_line cmd s s1 a2 k t hk hkpos ht ht0
  have hf := hk.frame
  have hls : lines (setArg2 a2 s1) = lines s := hf.lines
  have hap : applyOp cmd (min s.ed.xrow t) a (max s.ed.xrow t) b true =
      viShift (min s.ed.xrow t) (max s.ed.xrow t) (if cmd = 62 then 1 else -1) := by
    rcases hc with rfl | rfl <;> rfl
  rw [e, hap]
  obtain ⟨s', e1, e2, e3, e4, e5, e6⟩ := Props.C08b.viShift_spec (setArg2 a2 s1) (min s.ed.xrow t) (max s.ed.xrow t)
    (if cmd = 62 then 1 else -1) (by omega) (by omega)
    (by rw [show lenOf (setArg2 a2 s1) = lenOf s from hf.lenOf]; omega) (by rw [hls]; exact hwf)
  refine ⟨s', e1, ?_, ?_, e3, e4, e6⟩
  · rw [e2, hls]
  · rw [e5]; show s1.ed.regs = _; rw [hf.ed]

/-! ## 2. the change family by name, at the level of `vc_motion` -/

/-- plain text — valid code points ≥ 32, not DEL, not empty, not starting with a space — followed by ESC is a
`TypedText` -/
theorem typedText_plain (cs : List Nat) (hpl : ∀ c ∈ cs, ValidCp c ∧ 32 ≤ c ∧ c ≠ 127) (hlen : cs.length < 100000)
    (hne : cs.head? ≠ none ∧ cs.head? ≠ some 32) :
    TypedText (encStr cs ++ [27]) cs := by
  refine ⟨inputs_text cs hpl hlen, fun c hc => (hpl c hc).1, fun h => by have := hpl 10 h; omega, hne.1, hne.2, ?_⟩
  intro h
  cases cs with
  | nil => simp at h
  | cons c t =>
    simp at h
    have := hpl c (by simp)
    omega

/-- **`cw`** (`[count]cw`): the span `dw` deletes — from the cursor to the start of the `c`-th next word, when that
is on the row; the blanks before that word included: unlike in POSIX vi, `cw` is not `ce` — is replaced by the
typed text -/
theorem cw_spec (s s1 : VS) (a2 : Int) (body cs : List Nat) (o : Nat) (K rest : Bytes) (t : Nat)
    (hk : Prefixed s a2 119 s1) (hrow : OnRow s body o) (hu : Utf8Buf (lines s))
    (href : Motion.wordFwdRaw false (refBufU (lines s)) ⟨s.ed.xrow.toNat, o⟩ (opCount s a2).toNat = ⟨s.ed.xrow.toNat, t⟩)
    (ht : TypedText K cs) (hp : pending s1 = K ++ rest) (hkm : s.xkmap = 0) :
    ∃ s', vcMotion 99 s = Res.ok VC_OK s' ∧ pending s' = rest ∧
      RowChanged K s (setArg2 a2 s1) s' s.ed.xrow body cs (min o t) (max o t) :=
  Lemmas.C08g.cw_spec s s1 a2 body cs o K rest t hk hrow hu href ht hp hkm

/-- **`ce`**: the span from the cursor to the end of the `c`-th word, inclusive -/
theorem ce_spec (s s1 : VS) (a2 : Int) (body cs : List Nat) (o : Nat) (K rest : Bytes) (t : Nat)
    (hk : Prefixed s a2 101 s1) (hrow : OnRow s body o) (hu : Utf8Buf (lines s))
    (href : Motion.wordEndFwdRaw false (refBufU (lines s)) ⟨s.ed.xrow.toNat, o⟩ (opCount s a2).toNat = ⟨s.ed.xrow.toNat, t⟩)
    (ht : TypedText K cs) (hp : pending s1 = K ++ rest) (hkm : s.xkmap = 0) :
    ∃ s', vcMotion 99 s = Res.ok VC_OK s' ∧ pending s' = rest ∧
      RowChanged K s (setArg2 a2 s1) s' s.ed.xrow body cs (span true o t body.length).1 (span true o t body.length).2 :=
  Lemmas.C08g.ce_spec s s1 a2 body cs o K rest t hk hrow hu href ht hp hkm

/-- … in the usual case `o ≤ t < |body|`: the characters `[o, t + 1)` -/
theorem ce_spec_fwd (s s1 : VS) (a2 : Int) (body cs : List Nat) (o : Nat) (K rest : Bytes) (t : Nat)
    (hk : Prefixed s a2 101 s1) (hrow : OnRow s body o) (hu : Utf8Buf (lines s))
    (href : Motion.wordEndFwdRaw false (refBufU (lines s)) ⟨s.ed.xrow.toNat, o⟩ (opCount s a2).toNat = ⟨s.ed.xrow.toNat, t⟩)
    (hot : o ≤ t) (htl : t < body.length) (ht : TypedText K cs) (hp : pending s1 = K ++ rest) (hkm : s.xkmap = 0) :
    ∃ s', vcMotion 99 s = Res.ok VC_OK s' ∧ pending s' = rest ∧
      RowChanged K s (setArg2 a2 s1) s' s.ed.xrow body cs o (t + 1) :=
  Lemmas.C08g.ce_spec_fwd s s1 a2 body cs o K rest t hk hrow hu href hot htl ht hp hkm

/-- **`c$`** (= `C`): from the cursor to the end of the line -/
theorem c_dollar_spec (s s1 : VS) (a2 : Int) (body cs : List Nat) (o : Nat) (K rest : Bytes)
    (hk : Prefixed s a2 36 s1) (hrow : OnRow s body o) (ht : TypedText K cs) (hp : pending s1 = K ++ rest)
    (hkm : s.xkmap = 0) :
    ∃ s', vcMotion 99 s = Res.ok VC_OK s' ∧ pending s' = rest ∧
      RowChanged K s (setArg2 a2 s1) s' s.ed.xrow body cs o body.length :=
  Lemmas.C08g.c_dollar_spec s s1 a2 body cs o K rest hk hrow ht hp hkm

/-- **`c SPC`** (= `s`; `[count]s`): `min c (|body| - o)` characters from the cursor on -/
theorem c_spc_spec (s s1 : VS) (a2 : Int) (body cs : List Nat) (o : Nat) (K rest : Bytes) (hk : Prefixed s a2 32 s1)
    (hrow : OnRow s body o) (ht : TypedText K cs) (hp : pending s1 = K ++ rest) (hkm : s.xkmap = 0) :
    ∃ s', vcMotion 99 s = Res.ok VC_OK s' ∧ pending s' = rest ∧
      RowChanged K s (setArg2 a2 s1) s' s.ed.xrow body cs o (min (o + (opCount s a2).toNat) body.length) :=
  Lemmas.C08g.c_spc_spec s s1 a2 body cs o K rest hk hrow ht hp hkm

/-- **`cl`** on a row displayed left to right: the characters `[o, min (o + c) (|body| - 1))` — `l` never moves
onto the newline, so the last character of the line is never part of the span: `cl` is `s` only when
`o + c < |body|` (`cl_is_s_is_false`) -/
theorem cl_spec (s s1 : VS) (a2 : Int) (body cs : List Nat) (o : Nat) (K rest : Bytes) (hk : Prefixed s a2 108 s1)
    (hrow : OnRow s body o) (hltr : LeftToRight s body) (ht : TypedText K cs) (hp : pending s1 = K ++ rest)
    (hkm : s.xkmap = 0) :
    ∃ s', vcMotion 99 s = Res.ok VC_OK s' ∧ pending s' = rest ∧
      RowChanged K s (setArg2 a2 s1) s' s.ed.xrow body cs o (min (o + (opCount s a2).toNat) (body.length - 1)) :=
  Lemmas.C08g.cl_spec s s1 a2 body cs o K rest hk hrow hltr ht hp hkm

/-- **`c0`**: the characters before the cursor -/
theorem c0_spec (s s1 : VS) (a2 : Int) (body cs : List Nat) (o : Nat) (K rest : Bytes) (hk : Prefixed s a2 48 s1)
    (hrow : OnRow s body o) (ht : TypedText K cs) (hp : pending s1 = K ++ rest) (hkm : s.xkmap = 0) :
    ∃ s', vcMotion 99 s = Res.ok VC_OK s' ∧ pending s' = rest ∧
      RowChanged K s (setArg2 a2 s1) s' s.ed.xrow body cs 0 o :=
  Lemmas.C08g.c0_spec s s1 a2 body cs o K rest hk hrow ht hp hkm

/-- **`cf c`**: the characters from the cursor up to and including the `n`-th `c` to its right, `[o, t + 1)` with
`t` the reference `findChar`, are replaced by the typed text (when there is such a `c`) -/
theorem cfc_spec (s s1 : VS) (a2 : Int) (body cs : List Nat) (o : Nat) (K rest : Bytes) (c t : Nat)
    (hk : Prefixed s a2 102 s1) (hrow : OnRow s body o) (ha : 0 ≤ s.arg1) (hc : ValidCp c ∧ 32 ≤ c ∧ c ≠ 127)
    (hp : pending s1 = enc c ++ (K ++ rest)) (hkm : s.xkmap = 0)
    (hfind : Motion.findChar body o c true false (opCount s a2).toNat = some t) (ht : TypedText K cs) :
    ∃ s2 s', Reads false (enc c) (setArg2 a2 s1) s2 ∧ vcMotion 99 s = Res.ok VC_OK s' ∧ pending s' = rest ∧
      o ≤ t ∧ t < body.length ∧
      RowChanged K s { s2 with charlast := enc c, charcmd := 102 } s' s.ed.xrow body cs o (t + 1) :=
  Lemmas.C08g.cfc_spec s s1 a2 body cs o K rest c t hk hrow ha hc hp hkm hfind ht

/-- **`ct c`**: as `cf c`, up to the character before that `c` -/
theorem ctc_spec (s s1 : VS) (a2 : Int) (body cs : List Nat) (o : Nat) (K rest : Bytes) (c t : Nat)
    (hk : Prefixed s a2 116 s1) (hrow : OnRow s body o) (ha : 0 ≤ s.arg1) (hc : ValidCp c ∧ 32 ≤ c ∧ c ≠ 127)
    (hp : pending s1 = enc c ++ (K ++ rest)) (hkm : s.xkmap = 0)
    (hfind : Motion.findChar body o c true true (opCount s a2).toNat = some t) (ht : TypedText K cs) :
    ∃ s2 s', Reads false (enc c) (setArg2 a2 s1) s2 ∧ vcMotion 99 s = Res.ok VC_OK s' ∧ pending s' = rest ∧
      o ≤ t ∧ t < body.length ∧
      RowChanged K s { s2 with charlast := enc c, charcmd := 116 } s' s.ed.xrow body cs o (t + 1) :=
  Lemmas.C08g.ctc_spec s s1 a2 body cs o K rest c t hk hrow ha hc hp hkm hfind ht

/-- **`cc`** (= `S`; `[count]cc`): the rows `r .. min (r + c - 1) (n - 1)` are replaced by one row: the
indentation of the cursor row (with `autoindent`) and the typed text -/
theorem cc_spec (s s1 : VS) (a2 : Int) (body cs : List Nat) (K rest : Bytes) (hk : Prefixed s a2 99 s1)
    (ha : 0 ≤ s.arg1) (h0 : 0 ≤ s.ed.xrow) (h1 : s.ed.xrow < lenOf s)
    (hline : (lines s)[s.ed.xrow.toNat]? = some (encStr (body ++ [10]))) (hb : ∀ c ∈ body, ValidCp c)
    (hb10 : 10 ∉ body) (ht : TypedText K cs) (hp : pending s1 = K ++ rest) (hkm : s.xkmap = 0) :
    ∃ s', vcMotion 99 s = Res.ok VC_OK s' ∧ pending s' = rest ∧
      LineChanged K s (setArg2 a2 s1) s' s.ed.xrow (min (s.ed.xrow + opCount s a2 - 1) (lenOf s - 1)) body cs :=
  Lemmas.C08g.cc_spec s s1 a2 body cs K rest hk ha h0 h1 hline hb hb10 ht hp hkm

/-- **`cj`**: the rows `r .. min (r + c) (n - 1)` -/
theorem cj_spec (s s1 : VS) (a2 : Int) (body cs : List Nat) (K rest : Bytes) (hk : Prefixed s a2 106 s1)
    (ha : 0 ≤ s.arg1) (h0 : 0 ≤ s.ed.xrow) (h1 : s.ed.xrow < lenOf s)
    (hline : (lines s)[s.ed.xrow.toNat]? = some (encStr (body ++ [10]))) (hb : ∀ c ∈ body, ValidCp c)
    (hb10 : 10 ∉ body) (ht : TypedText K cs) (hp : pending s1 = K ++ rest) (hkm : s.xkmap = 0) :
    ∃ s', vcMotion 99 s = Res.ok VC_OK s' ∧ pending s' = rest ∧
      LineChanged K s (setArg2 a2 s1) s' s.ed.xrow (min (s.ed.xrow + opCount s a2) (lenOf s - 1)) body cs :=
  Lemmas.C08g.cj_spec s s1 a2 body cs K rest hk ha h0 h1 hline hb hb10 ht hp hkm

/-- **`ck`**: the rows `max (r - c) 0 .. r`; the indentation is that of the first of them (`body` is the row
`max (r - c) 0`) -/
theorem ck_spec (s s1 : VS) (a2 : Int) (body cs : List Nat) (K rest : Bytes) (hk : Prefixed s a2 107 s1)
    (ha : 0 ≤ s.arg1) (h0 : 0 ≤ s.ed.xrow) (h1 : s.ed.xrow < lenOf s)
    (hline : (lines s)[(max (s.ed.xrow - opCount s a2) 0).toNat]? = some (encStr (body ++ [10])))
    (hb : ∀ c ∈ body, ValidCp c) (hb10 : 10 ∉ body) (ht : TypedText K cs) (hp : pending s1 = K ++ rest)
    (hkm : s.xkmap = 0) :
    ∃ s', vcMotion 99 s = Res.ok VC_OK s' ∧ pending s' = rest ∧
      LineChanged K s (setArg2 a2 s1) s' (max (s.ed.xrow - opCount s a2) 0) s.ed.xrow body cs :=
  Lemmas.C08g.ck_spec s s1 a2 body cs K rest hk ha h0 h1 hline hb hb10 ht hp hkm

/-! ## 3. `~ g~ gu gU`, `> <`, and `vc_put`, at the level of `vc_motion` / `vc_put` -/

/-- **`~`** (`[count]~` = the case operator 126 with `SPC`), and `g~ SPC`, `gu SPC`, `gU SPC`: the `min c (|body| - o)`
characters from the cursor on are case-mapped, the cursor moves behind them -/
theorem case_spc_spec (cmd : Nat) (hc : cmd = 126 ∨ cmd = 117 ∨ cmd = 85) (s s1 : VS) (a2 : Int) (body : List Nat)
    (o : Nat) (hk : Prefixed s a2 32 s1) (hrow : OnRow s body o) :
    ∃ s', vcMotion cmd s = Res.ok VC_OK s' ∧
      RowCased cmd s (setArg2 a2 s1) s' s.ed.xrow body o (min (o + (opCount s a2).toNat) body.length) :=
  Lemmas.C08g.case_spc_spec cmd hc s s1 a2 body o hk hrow

/-- **`g~w`, `guw`, `gUw`**: the span of `dw` is case-mapped -/
theorem case_w_spec (cmd : Nat) (hc : cmd = 126 ∨ cmd = 117 ∨ cmd = 85) (s s1 : VS) (a2 : Int) (body : List Nat)
    (o : Nat) (t : Nat) (hk : Prefixed s a2 119 s1) (hrow : OnRow s body o) (hu : Utf8Buf (lines s))
    (href : Motion.wordFwdRaw false (refBufU (lines s)) ⟨s.ed.xrow.toNat, o⟩ (opCount s a2).toNat = ⟨s.ed.xrow.toNat, t⟩) :
    ∃ s', vcMotion cmd s = Res.ok VC_OK s' ∧ RowCased cmd s (setArg2 a2 s1) s' s.ed.xrow body (min o t) (max o t) := by
  obtain ⟨s', e1, e3⟩ := row_case cmd hc s s1 _ a2 119 119 body o t hrow (lands_w s s1 a2 body o t hk hrow hu href)
  rw [inclusive_false _ 119 (by simp), span_excl] at e3
  exact ⟨s', e1, e3⟩

/-- **`g~e`, `gue`, `gUe`**: the span of `de` (inclusive) -/
theorem case_e_spec (cmd : Nat) (hc : cmd = 126 ∨ cmd = 117 ∨ cmd = 85) (s s1 : VS) (a2 : Int) (body : List Nat)
    (o : Nat) (t : Nat) (hk : Prefixed s a2 101 s1) (hrow : OnRow s body o) (hu : Utf8Buf (lines s))
    (href : Motion.wordEndFwdRaw false (refBufU (lines s)) ⟨s.ed.xrow.toNat, o⟩ (opCount s a2).toNat = ⟨s.ed.xrow.toNat, t⟩) :
    ∃ s', vcMotion cmd s = Res.ok VC_OK s' ∧
      RowCased cmd s (setArg2 a2 s1) s' s.ed.xrow body (span true o t body.length).1 (span true o t body.length).2 := by
  obtain ⟨s', e1, e3⟩ := row_case cmd hc s s1 _ a2 101 101 body o t hrow (lands_e s s1 a2 body o t hk hrow hu href)
  rw [inclusive_true _ 101 (by simp)] at e3
  exact ⟨s', e1, e3⟩

/-- **`g~$`, `gu$`, `gU$`**: from the cursor to the end of the line -/
theorem case_dollar_spec (cmd : Nat) (hc : cmd = 126 ∨ cmd = 117 ∨ cmd = 85) (s s1 : VS) (a2 : Int) (body : List Nat)
    (o : Nat) (hk : Prefixed s a2 36 s1) (hrow : OnRow s body o) :
    ∃ s', vcMotion cmd s = Res.ok VC_OK s' ∧ RowCased cmd s (setArg2 a2 s1) s' s.ed.xrow body o body.length := by
  obtain ⟨s', e1, e3⟩ := row_case cmd hc s s1 _ a2 36 36 body o _ hrow (lands_dollar s s1 a2 body o hk hrow)
  rw [inclusive_false _ 36 (by simp), Lemmas.C08g.span_fwd _ _ _ (by have := hrow.onChar; omega)] at e3
  exact ⟨s', e1, e3⟩

/-- **`g~0`, `gu0`, `gU0`**: the characters before the cursor -/
theorem case_zero_spec (cmd : Nat) (hc : cmd = 126 ∨ cmd = 117 ∨ cmd = 85) (s s1 : VS) (a2 : Int) (body : List Nat)
    (o : Nat) (hk : Prefixed s a2 48 s1) (hrow : OnRow s body o) :
    ∃ s', vcMotion cmd s = Res.ok VC_OK s' ∧ RowCased cmd s (setArg2 a2 s1) s' s.ed.xrow body 0 o := by
  obtain ⟨s', e1, e3⟩ := row_case cmd hc s s1 _ a2 48 48 body o 0 hrow (lands_zero s s1 a2 body o hk)
  rw [inclusive_false _ 48 (by simp), Lemmas.C08g.span_bwd _ _ _ (by omega)] at e3
  exact ⟨s', e1, e3⟩

/-- **`>>`, `<<`** (`[count]>>`; the second key is the operator letter `k = cmd`): the rows
`r .. min (r + c - 1) (n - 1)` are shifted -/
theorem shift_dbl_spec (cmd : Nat) (hc : cmd = 62 ∨ cmd = 60) (s s1 : VS) (a2 : Int)
    (hk : Prefixed s a2 (cmd : Int) s1) (ha : 0 ≤ s.arg1) (h0 : 0 ≤ s.ed.xrow) (h1 : s.ed.xrow < lenOf s)
    (hwf : ∀ l ∈ lines s, Props.C01.WfLine l) :
    ∃ s', vcMotion cmd s = Res.ok VC_OK s' ∧
      LineShifted (if cmd = 62 then 1 else -1) s (setArg2 a2 s1) s' s.ed.xrow (min (s.ed.xrow + opCount s a2 - 1) (lenOf s - 1)) := by
  have hcp := opCount_pos s a2 ha hk.nonneg
  have ht : lnTarget (setArg2 a2 s) s.ed.xrow (cmd : Int) (cmd : Int) = some (min (s.ed.xrow + opCount s a2 - 1) (lenOf s - 1)) := by
    rcases hc with rfl | rfl <;> rfl
  obtain ⟨s', e1, e3⟩ := line_shift cmd hc s s1 a2 cmd _ hk (by rcases hc with rfl | rfl <;> decide) ht h0 h1 (by omega) (by omega) hwf
  have hle : s.ed.xrow ≤ min (s.ed.xrow + opCount s a2 - 1) (lenOf s - 1) := by omega
  rw [Int.min_eq_left hle, Int.max_eq_right hle] at e3
  exact ⟨s', e1, e3⟩

/-- **`>j`, `<j`**: the rows `r .. min (r + c) (n - 1)` -/
theorem shift_j_spec (cmd : Nat) (hc : cmd = 62 ∨ cmd = 60) (s s1 : VS) (a2 : Int) (hk : Prefixed s a2 106 s1)
    (ha : 0 ≤ s.arg1) (h0 : 0 ≤ s.ed.xrow) (h1 : s.ed.xrow < lenOf s) (hwf : ∀ l ∈ lines s, Props.C01.WfLine l) :
    ∃ s', vcMotion cmd s = Res.ok VC_OK s' ∧
      LineShifted (if cmd = 62 then 1 else -1) s (setArg2 a2 s1) s' s.ed.xrow (min (s.ed.xrow + opCount s a2) (lenOf s - 1)) := by
  have hcp := opCount_pos s a2 ha hk.nonneg
  have ht : lnTarget (setArg2 a2 s) s.ed.xrow (cmd : Int) 106 = some (min (s.ed.xrow + opCount s a2) (lenOf s - 1)) := by
    rcases hc with rfl | rfl <;> rfl
  obtain ⟨s', e1, e3⟩ := line_shift cmd hc s s1 a2 106 _ hk (by decide) ht h0 h1 (by omega) (by omega) hwf
  have hle : s.ed.xrow ≤ min (s.ed.xrow + opCount s a2) (lenOf s - 1) := by omega
  rw [Int.min_eq_left hle, Int.max_eq_right hle] at e3
  exact ⟨s', e1, e3⟩

/-- **`>k`, `<k`**: the rows `max (r - c) 0 .. r` -/
theorem shift_k_spec (cmd : Nat) (hc : cmd = 62 ∨ cmd = 60) (s s1 : VS) (a2 : Int) (hk : Prefixed s a2 107 s1)
    (ha : 0 ≤ s.arg1) (h0 : 0 ≤ s.ed.xrow) (h1 : s.ed.xrow < lenOf s) (hwf : ∀ l ∈ lines s, Props.C01.WfLine l) :
    ∃ s', vcMotion cmd s = Res.ok VC_OK s' ∧
      LineShifted (if cmd = 62 then 1 else -1) s (setArg2 a2 s1) s' (max (s.ed.xrow - opCount s a2) 0) s.ed.xrow := by
  have hcp := opCount_pos s a2 ha hk.nonneg
  have ht : lnTarget (setArg2 a2 s) s.ed.xrow (cmd : Int) 107 = some (max (s.ed.xrow - opCount s a2) 0) := by
    rcases hc with rfl | rfl <;> rfl
  obtain ⟨s', e1, e3⟩ := line_shift cmd hc s s1 a2 107 _ hk (by decide) ht h0 h1 (by omega) (by omega) hwf
  have hle : max (s.ed.xrow - opCount s a2) 0 ≤ s.ed.xrow := by omega
  rw [Int.min_eq_right hle, Int.max_eq_left hle] at e3
  exact ⟨s', e1, e3⟩

/-- **`p` with a character-wise register**: `max 1 count` copies go in after the cursor character -/
theorem vcPut_chars_p (s : VS) (body bs : List Nat) (o : Nat) (hrow : OnRow s body o)
    (hreg : regGetLn s.ed s.ybuf = (some (encStr bs), some 0)) (hbs : ∀ c ∈ bs, ValidCp c) (hbs10 : 10 ∉ bs)
    (hne : bs ≠ []) :
    ∃ s', vcPut 112 s = Res.ok VC_OK s' ∧ PutChars s s' s.ed.xrow body (copies (cnt1 s) bs) (o + 1) ∧ s' = { s with ed := s'.ed } :=
  Lemmas.C08g.vcPut_chars 112 s body bs o hrow hreg hbs hbs10 hne

/-- **`P` with a character-wise register**: the copies go in before the cursor character -/
theorem vcPut_chars_P (s : VS) (body bs : List Nat) (o : Nat) (hrow : OnRow s body o)
    (hreg : regGetLn s.ed s.ybuf = (some (encStr bs), some 0)) (hbs : ∀ c ∈ bs, ValidCp c) (hbs10 : 10 ∉ bs)
    (hne : bs ≠ []) :
    ∃ s', vcPut 80 s = Res.ok VC_OK s' ∧ PutChars s s' s.ed.xrow body (copies (cnt1 s) bs) o ∧ s' = { s with ed := s'.ed } :=
  Lemmas.C08g.vcPut_chars 80 s body bs o hrow hreg hbs hbs10 hne

/-- on an empty line `p` and `P` both put the text at its start -/
theorem vcPut_chars_emptyline (cmd : Nat) (s : VS) (bs : List Nat) (hr0 : 0 ≤ s.ed.xrow)
    (hline : (lines s)[s.ed.xrow.toNat]? = some [10]) (hoff0 : 0 ≤ s.ed.xoff)
    (hreg : regGetLn s.ed s.ybuf = (some (encStr bs), some 0)) (hbs : ∀ c ∈ bs, ValidCp c) (hbs10 : 10 ∉ bs)
    (hne : bs ≠ []) :
    ∃ s', vcPut cmd s = Res.ok VC_OK s' ∧ PutChars s s' s.ed.xrow [] (copies (cnt1 s) bs) 0 ∧ s' = { s with ed := s'.ed } := by
  have hrlt : s.ed.xrow.toNat < (lines s).length := (List.getElem?_eq_some_iff.mp hline).1
  have hlen : s.ed.xrow < lenOf s := by show s.ed.xrow < ((lines s).length : Int); omega
  have hlE : lineE s s.ed.xrow = [10] := lineE_eq s _ hr0 _ hline
  have hL : putLine s = [10] := by unfold putLine; rw [if_pos hlen, hlE]
  refine Lemmas.C08g.vcPut_chars_at cmd s [] bs 0 hr0 hline (by simp) (by simp) (by simp) ?_ hreg hbs hbs10 hne
  unfold putOff
  rw [hL]
  have h1 : Ren.renNoeol [10] s.ed.xoff = 0 := by
    unfold Ren.renNoeol
    have hn : ucSlen [10] = 1 := by decide
    simp only [hn]
    by_cases h : s.ed.xoff ≥ 1
    · simp [h]
    · have : s.ed.xoff = 0 := by omega
      rw [this]; decide
  rw [h1]
  rfl

/-- **`p` with a line-wise register**: the copies are inserted after the cursor row, the cursor moves onto the
first of them -/
theorem vcPut_lines_p (s : VS) (rows : List Bytes) (lnm : Nat) (lb : Lb) (hlb : s.ed.lb = some lb)
    (hreg : regGetLn s.ed s.ybuf = (some rows.flatten, some lnm)) (hl : lnm ≠ 0)
    (hrows : ∀ l ∈ rows, Props.C01.WfLine l) (hne : rows ≠ []) (h0 : 0 ≤ s.ed.xrow) (h1 : s.ed.xrow < lenOf s) :
    ∃ s', vcPut 112 s = Res.ok VC_OK s' ∧ PutLines s s' (s.ed.xrow + 1) (copies (cnt1 s) rows) ∧ s' = { s with ed := s'.ed } :=
  Lemmas.C08g.vcPut_lines_p s rows lnm lb hlb hreg hl hrows hne h0 h1

/-- **`P` with a line-wise register** holding the lines `rows`: `max 1 count` copies of them are inserted
before the cursor row; the cursor stays on that row number, on the first non-blank -/
theorem vcPut_lines_P (s : VS) (rows : List Bytes) (lnm : Nat) (lb : Lb) (hlb : s.ed.lb = some lb)
    (hreg : regGetLn s.ed s.ybuf = (some rows.flatten, some lnm)) (hl : lnm ≠ 0)
    (hrows : ∀ l ∈ rows, Props.C01.WfLine l) (hne : rows ≠ []) (hlen : lenOf s ≠ 0) (h0 : 0 ≤ s.ed.xrow)
    (h1 : s.ed.xrow ≤ lenOf s) :
    ∃ s', vcPut 80 s = Res.ok VC_OK s' ∧ PutLines s s' s.ed.xrow (copies (cnt1 s) rows) ∧ s' = { s with ed := s'.ed } :=
  Lemmas.C08g.vcPut_lines_P s rows lnm lb hlb hreg hl hrows hne hlen h0 h1

/-- an empty (or unset) register: `p` / `P` do nothing and report failure -/
theorem vcPut_empty (cmd : Nat) (s : VS) (h : (regGetLn s.ed s.ybuf).1 = none ∨ (regGetLn s.ed s.ybuf).1 = some []) :
    vcPut cmd s = Res.ok 0 s := by
  unfold vcPut
  simp only [bind_apply, get_apply]
  rcases h with h | h
  · cases hr : regGetLn s.ed s.ybuf with
    | mk a b => rw [hr] at h; simp only [] at h; subst h; rfl
  · cases hr : regGetLn s.ed s.ybuf with
    | mk a b => rw [hr] at h; simp only [] at h; subst h; rfl

/-! ## 4. the dispatcher -/

/-- a key typed at the terminal: `vi_read` delivers it -/
theorem typed_key (s : VS) (c : Nat) (more : Bytes) (hv : s.vibuf = []) (hp : pending s = c :: more) :
    ∃ s1, viRead s = Res.ok (c : Int) s1 ∧ s1.vibuf = [] ∧ pending s1 = more ∧ Reads false [c] s s1 := by
  obtain ⟨h1, h2, h3⟩ := viRead_pending s c more hv hp
  refine ⟨_, h1, ?_, h2, h3⟩
  obtain ⟨ib, ip, ty, xl, e, -⟩ := h3
  rw [e]; exact hv

/-- a key pushed back (as `viPre` leaves the command key): `vi_read` delivers it -/
theorem pushed_key (s1 : VS) (c : Int) :
    viRead { s1 with vibuf := c :: s1.vibuf } = Res.ok c s1 := rfl

/-- the dispatcher on an operator key `c d y > <`: the mark `^` is set, `vc_motion` runs with that letter, the
command is recorded for `.` -/
theorem commandTail_op (c : Int) (hc : c = 99 ∨ c = 100 ∨ c = 121 ∨ c = 62 ∨ c = 60) (s s1 : VS)
    (hk : viRead s = Res.ok c s1) :
    commandTail s = (do markSet 94 s1.ed.xrow s1.ed.xoff; let m ← vcMotion c.toNat; finRec c 0 m : M (Option Nat)) s1 :=
  Lemmas.C08g.commandTail_op c hc s s1 hk

/-- **an operator key `c d y > <` followed by a motion key `k`** (not a digit `1`..`9`: no second count).  `s1` is
the state once the operator key has been read: nothing pushed back, `k` and `more` pending.  The dispatcher runs
`vc_motion` in the state `sm` (`s1` with the mark `^` set), from which `Prefixed sm 0 k s2` reads the key `k` -/
theorem keys_op (c : Nat) (hc : c = 99 ∨ c = 100 ∨ c = 121 ∨ c = 62 ∨ c = 60) (k : Nat) (hk : ¬ (49 ≤ k ∧ k ≤ 57))
    (s s1 : VS) (more : Bytes) (hr : viRead s = Res.ok (c : Int) s1) (hv : s1.vibuf = [])
    (hp : pending s1 = k :: more) :
    ∃ sm s2, KeysMark [] s1 sm ∧ Prefixed sm 0 (k : Int) s2 ∧ Reads false [k] sm s2 ∧ pending s2 = more ∧ s2.vibuf = [] ∧
      ∀ m s', vcMotion c sm = Res.ok m s' → commandTail s = finRec (c : Int) 0 m s' :=
  Lemmas.C08g.keys_op c hc k hk s s1 more hr hv hp

/-- **a shorthand key `x X D C s S Y ~`** (`isShort`: the operator `op` and the motion key `k` it stands for; `s1`: the
state once it has been read): the dispatcher pushes the motion key `k` back and runs `vc_motion op` in the state
`{ sm with vibuf := [k] }`; `sm` is that state once `k` has been read again -/
theorem keys_short (c op : Nat) (k : Int) (hs : isShort c op k) (s s1 : VS) (hr : viRead s = Res.ok (c : Int) s1)
    (hv : s1.vibuf = []) :
    ∃ sm, KeysMark [] s1 sm ∧ sm.vibuf = [] ∧ pending sm = pending s1 ∧
      Prefixed { sm with vibuf := [k] } 0 k sm ∧
      ∀ m s', vcMotion op { sm with vibuf := [k] } = Res.ok m s' → commandTail s = finRec (c : Int) 0 m s' :=
  Lemmas.C08g.keys_short c op k hs s s1 hr hv

/-- **`g` followed by `~`, `u` or `U` and a motion key `k`** (not a digit; `s1`: the state once `g` has been read):
the dispatcher runs `vc_motion` with the second key as the operator letter -/
theorem keys_g (op : Nat) (hop : op = 126 ∨ op = 117 ∨ op = 85) (k : Nat) (hk : ¬ (49 ≤ k ∧ k ≤ 57)) (s s1 : VS)
    (more : Bytes) (hr : viRead s = Res.ok 103 s1) (hv : s1.vibuf = []) (hp : pending s1 = op :: k :: more) :
    ∃ sm s3, KeysMark [op] s1 sm ∧ Prefixed sm 0 (k : Int) s3 ∧ Reads false [k] sm s3 ∧ pending s3 = more ∧ sm.vibuf = [] ∧
      ∀ m s', vcMotion op sm = Res.ok m s' → commandTail s = finRec 103 (op : Int) m s' := by
  obtain ⟨sm0, h2, h3, h4, h5⟩ := Lemmas.C08g.read_mark s1
  rw [hv] at h4
  rw [hp] at h5
  obtain ⟨g1, g2, g3⟩ := viRead_pending sm0 op (k :: more) h4 h5
  have hkm : KeysMark [op] s1 (afterRead sm0) := h3.read g3
  have hvb : (afterRead sm0).vibuf = [] := by rw [hkm.vibuf]; exact hv
  obtain ⟨f1, f2, f3⟩ := viRead_pending (afterRead sm0) k more hvb g2
  refine ⟨afterRead sm0, _, hkm, prefixed_none _ _ k f1 (by omega), f3, f2, hvb, ?_⟩
  intro m s' hm
  rw [Lemmas.C08g.commandTail_g (op : Int) (by omega) s s1 sm0 (afterRead sm0) hr h2 g1]
  simp only [bind_apply, Int.toNat_natCast, hm]

/-! ## 5. the change family from the keys -/

/-- **the keys `cw`, text, ESC** -/
theorem cw_keys (s s1 : VS) (body cs : List Nat) (o : Nat) (K rest : Bytes) (t : Nat) (hr : viRead s = Res.ok 99 s1)
    (hv : s1.vibuf = []) (hp : pending s1 = 119 :: (K ++ rest)) (hrow : OnRow s1 body o) (hu : Utf8Buf (lines s1))
    (href : Motion.wordFwdRaw false (refBufU (lines s1)) ⟨s1.ed.xrow.toNat, o⟩ (opCount s1 0).toNat = ⟨s1.ed.xrow.toNat, t⟩)
    (ht : TypedText K cs) (hkm : s1.xkmap = 0) :
    ∃ sm s', commandTail s = finRec 99 0 VC_OK s' ∧ pending s' = rest ∧ KeysDone (119 :: K) s1 s' ∧
      RowChanged K s1 sm s' s1.ed.xrow body cs (min o t) (max o t) :=
  Lemmas.C08g.cw_keys s s1 body cs o K rest t hr hv hp hrow hu href ht hkm

/-- **the keys `ce`, text, ESC** (the usual case: the end of the word is at `t`, `o ≤ t < |body|`) -/
theorem ce_keys (s s1 : VS) (body cs : List Nat) (o : Nat) (K rest : Bytes) (t : Nat) (hr : viRead s = Res.ok 99 s1)
    (hv : s1.vibuf = []) (hp : pending s1 = 101 :: (K ++ rest)) (hrow : OnRow s1 body o) (hu : Utf8Buf (lines s1))
    (href : Motion.wordEndFwdRaw false (refBufU (lines s1)) ⟨s1.ed.xrow.toNat, o⟩ (opCount s1 0).toNat = ⟨s1.ed.xrow.toNat, t⟩)
    (hot : o ≤ t) (htl : t < body.length) (ht : TypedText K cs) (hkm : s1.xkmap = 0) :
    ∃ sm s', commandTail s = finRec 99 0 VC_OK s' ∧ pending s' = rest ∧ KeysDone (101 :: K) s1 s' ∧
      RowChanged K s1 sm s' s1.ed.xrow body cs o (t + 1) :=
  Lemmas.C08g.ce_keys s s1 body cs o K rest t hr hv hp hrow hu href hot htl ht hkm

/-- **the keys `c$`, text, ESC** -/
theorem c_dollar_keys (s s1 : VS) (body cs : List Nat) (o : Nat) (K rest : Bytes) (hr : viRead s = Res.ok 99 s1)
    (hv : s1.vibuf = []) (hp : pending s1 = 36 :: (K ++ rest)) (hrow : OnRow s1 body o) (ht : TypedText K cs)
    (hkm : s1.xkmap = 0) :
    ∃ sm s', commandTail s = finRec 99 0 VC_OK s' ∧ pending s' = rest ∧ KeysDone (36 :: K) s1 s' ∧
      RowChanged K s1 sm s' s1.ed.xrow body cs o body.length := by
  obtain ⟨s0, s2, hk0, hpre, hrd, hpend, hvb, hfin⟩ := keys_op 99 (by simp) 36 (by omega) s s1 (K ++ rest) hr hv hp
  obtain ⟨s', e1, e2, e3⟩ := c_dollar_spec s0 s2 0 body cs o K rest hpre (hk0.onRow hrow) ht hpend (by rw [hk0.xkmap]; exact hkm)
  exact ⟨_, s', hfin _ _ e1, e2, Lemmas.C08g.keysDone_op hk0 hv hrd 0 e3.frame, e3.base hk0⟩

/-- **the key `C`, text, ESC**: as `c$` -/
theorem C_keys (s s1 : VS) (body cs : List Nat) (o : Nat) (K rest : Bytes) (hr : viRead s = Res.ok 67 s1)
    (hv : s1.vibuf = []) (hp : pending s1 = (K ++ rest)) (hrow : OnRow s1 body o) (ht : TypedText K cs)
    (hkm : s1.xkmap = 0) :
    ∃ sm s', commandTail s = finRec 67 0 VC_OK s' ∧ pending s' = rest ∧ KeysDone K s1 s' ∧
      RowChanged K s1 sm s' s1.ed.xrow body cs o body.length :=
  Lemmas.C08g.C_keys s s1 body cs o K rest hr hv hp hrow ht hkm

/-- **the key `s`, text, ESC** (`[count]s`): `min c (|body| - o)` characters from the cursor on are replaced -/
theorem s_keys (s s1 : VS) (body cs : List Nat) (o : Nat) (K rest : Bytes) (hr : viRead s = Res.ok 115 s1)
    (hv : s1.vibuf = []) (hp : pending s1 = (K ++ rest)) (hrow : OnRow s1 body o) (ht : TypedText K cs)
    (hkm : s1.xkmap = 0) :
    ∃ sm s', commandTail s = finRec 115 0 VC_OK s' ∧ pending s' = rest ∧ KeysDone K s1 s' ∧
      RowChanged K s1 sm s' s1.ed.xrow body cs o (min (o + (opCount s1 0).toNat) body.length) :=
  Lemmas.C08g.s_keys s s1 body cs o K rest hr hv hp hrow ht hkm

/-- **the keys `cl`, text, ESC** on a row displayed left to right -/
theorem cl_keys (s s1 : VS) (body cs : List Nat) (o : Nat) (K rest : Bytes) (hr : viRead s = Res.ok 99 s1)
    (hv : s1.vibuf = []) (hp : pending s1 = 108 :: (K ++ rest)) (hrow : OnRow s1 body o) (hltr : LeftToRight s1 body)
    (ht : TypedText K cs) (hkm : s1.xkmap = 0) :
    ∃ sm s', commandTail s = finRec 99 0 VC_OK s' ∧ pending s' = rest ∧ KeysDone (108 :: K) s1 s' ∧
      RowChanged K s1 sm s' s1.ed.xrow body cs o (min (o + (opCount s1 0).toNat) (body.length - 1)) :=
  Lemmas.C08g.cl_keys s s1 body cs o K rest hr hv hp hrow hltr ht hkm

/-- **the keys `c0`, text, ESC** -/
theorem c0_keys (s s1 : VS) (body cs : List Nat) (o : Nat) (K rest : Bytes) (hr : viRead s = Res.ok 99 s1)
    (hv : s1.vibuf = []) (hp : pending s1 = 48 :: (K ++ rest)) (hrow : OnRow s1 body o) (ht : TypedText K cs)
    (hkm : s1.xkmap = 0) :
    ∃ sm s', commandTail s = finRec 99 0 VC_OK s' ∧ pending s' = rest ∧ KeysDone (48 :: K) s1 s' ∧
      RowChanged K s1 sm s' s1.ed.xrow body cs 0 o :=
  Lemmas.C08g.c0_keys s s1 body cs o K rest hr hv hp hrow ht hkm

/-- **the keys `cf c`, text, ESC**: the characters `[o, t + 1)`, `t` the `n`-th `c` to the right of the cursor
(`n` the count), are replaced by the typed text -/
theorem cfc_keys (s s1 : VS) (body cs : List Nat) (o : Nat) (K rest : Bytes) (c t : Nat)
    (hr : viRead s = Res.ok 99 s1) (hv : s1.vibuf = []) (hp : pending s1 = 102 :: (enc c ++ (K ++ rest)))
    (hrow : OnRow s1 body o) (ha : 0 ≤ s1.arg1) (hc : ValidCp c ∧ 32 ≤ c ∧ c ≠ 127)
    (hfind : Motion.findChar body o c true false (opCount s1 0).toNat = some t) (ht : TypedText K cs)
    (hkm : s1.xkmap = 0) :
    ∃ sm s', commandTail s = finRec 99 0 VC_OK s' ∧ pending s' = rest ∧ KeysDone (102 :: (enc c ++ K)) s1 s' ∧
      o ≤ t ∧ t < body.length ∧ RowChanged K s1 sm s' s1.ed.xrow body cs o (t + 1) :=
  Lemmas.C08g.cfc_keys s s1 body cs o K rest c t hr hv hp hrow ha hc hfind ht hkm

/-- **the keys `ct c`, text, ESC**: as `cf c`, up to the character before that `c` -/
theorem ctc_keys (s s1 : VS) (body cs : List Nat) (o : Nat) (K rest : Bytes) (c t : Nat)
    (hr : viRead s = Res.ok 99 s1) (hv : s1.vibuf = []) (hp : pending s1 = 116 :: (enc c ++ (K ++ rest)))
    (hrow : OnRow s1 body o) (ha : 0 ≤ s1.arg1) (hc : ValidCp c ∧ 32 ≤ c ∧ c ≠ 127)
    (hfind : Motion.findChar body o c true true (opCount s1 0).toNat = some t) (ht : TypedText K cs)
    (hkm : s1.xkmap = 0) :
    ∃ sm s', commandTail s = finRec 99 0 VC_OK s' ∧ pending s' = rest ∧ KeysDone (116 :: (enc c ++ K)) s1 s' ∧
      o ≤ t ∧ t < body.length ∧ RowChanged K s1 sm s' s1.ed.xrow body cs o (t + 1) :=
  Lemmas.C08g.ctc_keys s s1 body cs o K rest c t hr hv hp hrow ha hc hfind ht hkm

/-- **the keys `cc`, text, ESC** (`[count]cc`): the rows `r .. min (r + c - 1) (n - 1)` become the one row
`indentation ++ text` -/
theorem cc_keys (s s1 : VS) (body cs : List Nat) (K rest : Bytes) (hr : viRead s = Res.ok 99 s1) (hv : s1.vibuf = [])
    (hp : pending s1 = 99 :: (K ++ rest)) (ha : 0 ≤ s1.arg1) (h0 : 0 ≤ s1.ed.xrow) (h1 : s1.ed.xrow < lenOf s1)
    (hline : (lines s1)[s1.ed.xrow.toNat]? = some (encStr (body ++ [10]))) (hb : ∀ c ∈ body, ValidCp c)
    (hb10 : 10 ∉ body) (ht : TypedText K cs) (hkm : s1.xkmap = 0) :
    ∃ sm s', commandTail s = finRec 99 0 VC_OK s' ∧ pending s' = rest ∧ KeysDone (99 :: K) s1 s' ∧
      LineChanged K s1 sm s' s1.ed.xrow (min (s1.ed.xrow + opCount s1 0 - 1) (lenOf s1 - 1)) body cs :=
  Lemmas.C08g.cc_keys s s1 body cs K rest hr hv hp ha h0 h1 hline hb hb10 ht hkm

/-- **the key `S`, text, ESC**: as `cc` -/
theorem S_keys (s s1 : VS) (body cs : List Nat) (K rest : Bytes) (hr : viRead s = Res.ok 83 s1) (hv : s1.vibuf = [])
    (hp : pending s1 = (K ++ rest)) (ha : 0 ≤ s1.arg1) (h0 : 0 ≤ s1.ed.xrow) (h1 : s1.ed.xrow < lenOf s1)
    (hline : (lines s1)[s1.ed.xrow.toNat]? = some (encStr (body ++ [10]))) (hb : ∀ c ∈ body, ValidCp c)
    (hb10 : 10 ∉ body) (ht : TypedText K cs) (hkm : s1.xkmap = 0) :
    ∃ sm s', commandTail s = finRec 83 0 VC_OK s' ∧ pending s' = rest ∧ KeysDone K s1 s' ∧
      LineChanged K s1 sm s' s1.ed.xrow (min (s1.ed.xrow + opCount s1 0 - 1) (lenOf s1 - 1)) body cs :=
  Lemmas.C08g.S_keys s s1 body cs K rest hr hv hp ha h0 h1 hline hb hb10 ht hkm

/-- **the keys `cj`, text, ESC**: the rows `r .. min (r + c) (n - 1)` -/
theorem cj_keys (s s1 : VS) (body cs : List Nat) (K rest : Bytes) (hr : viRead s = Res.ok 99 s1) (hv : s1.vibuf = [])
    (hp : pending s1 = 106 :: (K ++ rest)) (ha : 0 ≤ s1.arg1) (h0 : 0 ≤ s1.ed.xrow) (h1 : s1.ed.xrow < lenOf s1)
    (hline : (lines s1)[s1.ed.xrow.toNat]? = some (encStr (body ++ [10]))) (hb : ∀ c ∈ body, ValidCp c)
    (hb10 : 10 ∉ body) (ht : TypedText K cs) (hkm : s1.xkmap = 0) :
    ∃ sm s', commandTail s = finRec 99 0 VC_OK s' ∧ pending s' = rest ∧ KeysDone (106 :: K) s1 s' ∧
      LineChanged K s1 sm s' s1.ed.xrow (min (s1.ed.xrow + opCount s1 0) (lenOf s1 - 1)) body cs :=
  Lemmas.C08g.cj_keys s s1 body cs K rest hr hv hp ha h0 h1 hline hb hb10 ht hkm

/-- **the keys `ck`, text, ESC**: the rows `max (r - c) 0 .. r` (`body` is the first of them) -/
theorem ck_keys (s s1 : VS) (body cs : List Nat) (K rest : Bytes) (hr : viRead s = Res.ok 99 s1) (hv : s1.vibuf = [])
    (hp : pending s1 = 107 :: (K ++ rest)) (ha : 0 ≤ s1.arg1) (h0 : 0 ≤ s1.ed.xrow) (h1 : s1.ed.xrow < lenOf s1)
    (hline : (lines s1)[(max (s1.ed.xrow - opCount s1 0) 0).toNat]? = some (encStr (body ++ [10])))
    (hb : ∀ c ∈ body, ValidCp c) (hb10 : 10 ∉ body) (ht : TypedText K cs) (hkm : s1.xkmap = 0) :
    ∃ sm s', commandTail s = finRec 99 0 VC_OK s' ∧ pending s' = rest ∧ KeysDone (107 :: K) s1 s' ∧
      LineChanged K s1 sm s' (max (s1.ed.xrow - opCount s1 0) 0) s1.ed.xrow body cs :=
  Lemmas.C08g.ck_keys s s1 body cs K rest hr hv hp ha h0 h1 hline hb hb10 ht hkm

/-! ## 6. put, join, case, replace, shift from the keys -/

/-- a plain register name `c` (the unnamed register 0 or `"`, a lower-case letter, a digit …: not upper-case, not
the computed `;` `#` `^`): `reg_get` returns what the table holds -/
theorem regGetLn_plain (ed : Ed) (c : Nat) (h59 : c ≠ 59) (h35 : c ≠ 35) (h94 : c ≠ 94) (h34 : c ≠ 34) :
    regGetLn ed c = ((ed.regs.getRaw c).1, some (ed.regs.getRaw c).2) :=
  Lemmas.C08g.regGetLn_plain ed c h59 h35 h94 h34

/-- **the key `p` with a character-wise register** (the unnamed one, or `"a`..`"z`, `"1`..`"9` … as chosen by the
prefix: `s1.ybuf`) holding the text `bs`: `max 1 count` copies go in after the cursor character, the cursor ends on
the last inserted character -/
theorem p_chars_keys (s s1 : VS) (body bs : List Nat) (o : Nat) (hr : viRead s = Res.ok 112 s1) (hv : s1.vibuf = [])
    (hrow : OnRow s1 body o) (hreg : regGetLn s1.ed s1.ybuf = (some (encStr bs), some 0)) (hbs : ∀ c ∈ bs, ValidCp c)
    (hbs10 : 10 ∉ bs) (hne : bs ≠ []) :
    ∃ s', commandTail s = finRec 112 0 VC_OK s' ∧ pending s' = pending s1 ∧ KeysDone [] s1 s' ∧
      PutChars s1 s' s1.ed.xrow body (copies (cnt1 s1) bs) (o + 1) :=
  Lemmas.C08g.put_chars_keys 112 (Or.inl rfl) s s1 body bs o hr hv hrow hreg hbs hbs10 hne

/-- **the key `P` with a character-wise register**: the copies go in before the cursor character -/
theorem P_chars_keys (s s1 : VS) (body bs : List Nat) (o : Nat) (hr : viRead s = Res.ok 80 s1) (hv : s1.vibuf = [])
    (hrow : OnRow s1 body o) (hreg : regGetLn s1.ed s1.ybuf = (some (encStr bs), some 0)) (hbs : ∀ c ∈ bs, ValidCp c)
    (hbs10 : 10 ∉ bs) (hne : bs ≠ []) :
    ∃ s', commandTail s = finRec 80 0 VC_OK s' ∧ pending s' = pending s1 ∧ KeysDone [] s1 s' ∧
      PutChars s1 s' s1.ed.xrow body (copies (cnt1 s1) bs) o :=
  Lemmas.C08g.put_chars_keys 80 (Or.inr rfl) s s1 body bs o hr hv hrow hreg hbs hbs10 hne

/-- **the key `p` with a line-wise register** holding the lines `rows`: `max 1 count` copies of them are inserted
below the cursor row, the cursor moves onto the first non-blank of the first of them -/
theorem p_lines_keys (s s1 : VS) (rows : List Bytes) (lnm : Nat) (hr : viRead s = Res.ok 112 s1) (hv : s1.vibuf = [])
    (hreg : regGetLn s1.ed s1.ybuf = (some rows.flatten, some lnm)) (hl : lnm ≠ 0)
    (hrows : ∀ l ∈ rows, Props.C01.WfLine l) (hne : rows ≠ []) (h0 : 0 ≤ s1.ed.xrow) (h1 : s1.ed.xrow < lenOf s1) :
    ∃ s', commandTail s = finRec 112 0 VC_OK s' ∧ pending s' = pending s1 ∧ KeysDone [] s1 s' ∧
      PutLines s1 s' (s1.ed.xrow + 1) (copies (cnt1 s1) rows) :=
  Lemmas.C08g.put_lines_keys 112 (Or.inl rfl) s s1 rows lnm hr hv hreg hl hrows hne h0 h1

/-- **the key `P` with a line-wise register**: the copies are inserted above the cursor row; the cursor keeps its
row number (now the first inserted line), on the first non-blank -/
theorem P_lines_keys (s s1 : VS) (rows : List Bytes) (lnm : Nat) (hr : viRead s = Res.ok 80 s1) (hv : s1.vibuf = [])
    (hreg : regGetLn s1.ed s1.ybuf = (some rows.flatten, some lnm)) (hl : lnm ≠ 0)
    (hrows : ∀ l ∈ rows, Props.C01.WfLine l) (hne : rows ≠ []) (h0 : 0 ≤ s1.ed.xrow) (h1 : s1.ed.xrow < lenOf s1) :
    ∃ s', commandTail s = finRec 80 0 VC_OK s' ∧ pending s' = pending s1 ∧ KeysDone [] s1 s' ∧
      PutLines s1 s' s1.ed.xrow (copies (cnt1 s1) rows) :=
  by simpa using Lemmas.C08g.put_lines_keys 80 (Or.inr rfl) s s1 rows lnm hr hv hreg hl hrows hne h0 h1

/-- any register name but the computed `;` `#` `^`: `reg_get` returns what the table holds under `regTarget c` (the name
itself; the unnamed register for `"`) -/
theorem regGetLn_name (ed : Ed) (c : Nat) (h59 : c ≠ 59) (h35 : c ≠ 35) (h94 : c ≠ 94) :
    regGetLn ed c = ((ed.regs.getRaw (regTarget c)).1, some (ed.regs.getRaw (regTarget c)).2) := by
  have hT : (if c == 34 then 0 else c) = regTarget c := rfl
  have e1 : (regTarget c == 59) = false := by unfold regTarget; split <;> simp [h59]
  have e2 : (regTarget c == 35) = false := by unfold regTarget; split <;> simp [h35]
  have e3 : (regTarget c == 94) = false := by unfold regTarget; split <;> simp [h94]
  unfold Vi.regGetLn regGet
  simp only [hT, e1, e2, e3, Bool.false_eq_true, if_false, Bool.or_self]

/-- **`p` / `P` with a named or numbered register** (`"ap`, `"1P` …: `s1.ybuf` is the name read by `viPre`; 0 without a
prefix) that holds the characters `bs` in character mode: `max 1 count` copies go in after (`p`) / before (`P`) the
cursor character -/
theorem put_chars_reg_keys (c : Nat) (hc : c = 112 ∨ c = 80) (s s1 : VS) (body bs : List Nat) (o : Nat)
    (hr : viRead s = Res.ok (c : Int) s1) (hv : s1.vibuf = []) (hrow : OnRow s1 body o)
    (hname : s1.ybuf ≠ 59 ∧ s1.ybuf ≠ 35 ∧ s1.ybuf ≠ 94)
    (hreg : s1.ed.regs.getRaw (regTarget s1.ybuf) = (some (encStr bs), 0)) (hbs : ∀ c ∈ bs, ValidCp c)
    (hbs10 : 10 ∉ bs) (hne : bs ≠ []) :
    ∃ s', commandTail s = finRec (c : Int) 0 VC_OK s' ∧ pending s' = pending s1 ∧ KeysDone [] s1 s' ∧
      PutChars s1 s' s1.ed.xrow body (copies (cnt1 s1) bs) (o + if c = 112 then 1 else 0) := by
  have hg : regGetLn s1.ed s1.ybuf = (some (encStr bs), some 0) := by
    rw [regGetLn_name _ _ hname.1 hname.2.1 hname.2.2, hreg]
  exact Lemmas.C08g.put_chars_keys c hc s s1 body bs o hr hv hrow hg hbs hbs10 hne

/-- **`p` / `P` with a named or numbered register** that holds the lines `rows` in line mode (as after `"ayy`, or `"1`
after a `dd`): `max 1 count` copies of them are inserted below (`p`) / above (`P`) the cursor row -/
theorem put_lines_reg_keys (c : Nat) (hc : c = 112 ∨ c = 80) (s s1 : VS) (rows : List Bytes) (lnm : Nat)
    (hr : viRead s = Res.ok (c : Int) s1) (hv : s1.vibuf = []) (hname : s1.ybuf ≠ 59 ∧ s1.ybuf ≠ 35 ∧ s1.ybuf ≠ 94)
    (hreg : s1.ed.regs.getRaw (regTarget s1.ybuf) = (some rows.flatten, lnm)) (hl : lnm ≠ 0)
    (hrows : ∀ l ∈ rows, Props.C01.WfLine l) (hne : rows ≠ []) (h0 : 0 ≤ s1.ed.xrow) (h1 : s1.ed.xrow < lenOf s1) :
    ∃ s', commandTail s = finRec (c : Int) 0 VC_OK s' ∧ pending s' = pending s1 ∧ KeysDone [] s1 s' ∧
      PutLines s1 s' (s1.ed.xrow + if c = 112 then 1 else 0) (copies (cnt1 s1) rows) := by
  have hg : regGetLn s1.ed s1.ybuf = (some rows.flatten, some lnm) := by
    rw [regGetLn_name _ _ hname.1 hname.2.1 hname.2.2, hreg]
  exact Lemmas.C08g.put_lines_keys c hc s s1 rows lnm hr hv hg hl hrows hne h0 h1

/-- **the key `J`** (`[count]J`): `max 2 count` rows — the cursor row `a` and the `|ws|` rows below it, which must
exist — are joined into `joinRows a ws` (C08b: each further row is appended without its leading blanks, after the
spaces `join_spaces` asks for); the cursor is where the last joined row starts -/
theorem J_keys (s s1 : VS) (a : Bytes) (ws : List Bytes) (hr : viRead s = Res.ok 74 s1) (hv : s1.vibuf = [])
    (hr0 : 0 ≤ s1.ed.xrow) (hcnt : (if s1.arg1 ≤ 1 then 2 else s1.arg1) = ((ws.length + 1 : Nat) : Int))
    (hrows : ((lines s1).drop s1.ed.xrow.toNat).take (ws.length + 1) = (a :: ws).map (· ++ [10]))
    (h10 : ∀ w ∈ a :: ws, 10 ∉ w) :
    ∃ s', commandTail s = finRec 74 0 VC_OK s' ∧ pending s' = pending s1 ∧ KeysDone [] s1 s' ∧ Joined s1 s' a ws :=
  Lemmas.C08g.J_keys s s1 a ws hr hv hr0 hcnt hrows h10

/-- too few rows below the cursor: `J` changes nothing and reports failure -/
theorem J_keys_short (s s1 : VS) (hr : viRead s = Res.ok 74 s1) (hv : s1.vibuf = [])
    (h : lineOf s1 (s1.ed.xrow + (if s1.arg1 ≤ 1 then 2 else s1.arg1) - 1) = none) :
    ∃ s', commandTail s = finRec 74 0 0 s' ∧ pending s' = pending s1 ∧ KeysDone [] s1 s' ∧ lines s' = lines s1 ∧
      s'.ed.xrow = s1.ed.xrow ∧ s'.ed.xoff = s1.ed.xoff ∧ s'.ed.regs = s1.ed.regs := by
  obtain ⟨sm, hk0, hpend, hfin⟩ := Lemmas.C08g.keys_run 74 vcJoin s s1 (Lemmas.C08g.commandTail_J_ s s1 hr)
  have hl : lineOf sm (sm.ed.xrow + (if sm.arg1 ≤ 1 then 2 else sm.arg1) - 1) = none := by
    unfold lineOf; rw [hk0.lines, hk0.xrow, hk0.arg1]; exact h
  have := Props.C08b.vcJoin_short sm (Or.inr hl)
  exact ⟨sm, hfin _ _ this, hpend, Lemmas.C08g.keysDone_one hk0 hv rfl, hk0.lines, hk0.xrow, hk0.xoff, hk0.regs⟩

/-- **the key `~`** (`[count]~`): the `min c (|body| - o)` characters from the cursor on are toggled, the cursor moves
behind them (onto the last character of the line, after the window fix, when the line ends there) -/
theorem tilde_keys (s s1 : VS) (body : List Nat) (o : Nat) (hr : viRead s = Res.ok 126 s1) (hv : s1.vibuf = [])
    (hrow : OnRow s1 body o) :
    ∃ sm s', commandTail s = finRec 126 0 VC_OK s' ∧ pending s' = pending s1 ∧ KeysDone [] s1 s' ∧
      RowCased 126 s1 sm s' s1.ed.xrow body o (min (o + (opCount s1 0).toNat) body.length) :=
  Lemmas.C08g.tilde_keys s s1 body o hr hv hrow

/-- **the keys `g~w`, `guw`, `gUw`**: the characters from the cursor to the start of the next word (`c`-th with a
count) are toggled / lowered / raised -/
theorem g_case_w_keys (op : Nat) (hop : op = 126 ∨ op = 117 ∨ op = 85) (s s1 : VS) (body : List Nat) (o t : Nat)
    (rest : Bytes) (hr : viRead s = Res.ok 103 s1) (hv : s1.vibuf = []) (hp : pending s1 = op :: 119 :: rest)
    (hrow : OnRow s1 body o) (hu : Utf8Buf (lines s1))
    (href : Motion.wordFwdRaw false (refBufU (lines s1)) ⟨s1.ed.xrow.toNat, o⟩ (opCount s1 0).toNat = ⟨s1.ed.xrow.toNat, t⟩) :
    ∃ sm s', commandTail s = finRec 103 (op : Int) VC_OK s' ∧ pending s' = rest ∧ KeysDone [op, 119] s1 s' ∧
      RowCased op s1 sm s' s1.ed.xrow body (min o t) (max o t) := by
  obtain ⟨s0, s3, hk0, hpre, hrd, hpend, hvb, hfin⟩ := keys_g op hop 119 (by omega) s s1 rest hr hv hp
  obtain ⟨s', e1, e3⟩ := case_w_spec op hop s0 s3 0 body o t hpre (hk0.onRow hrow) (by rw [hk0.lines]; exact hu)
    (by rw [hk0.lines, hk0.xrow, hk0.opCount]; exact href)
  have hpe : pending s' = rest := by rw [e3.frame]; exact hpend
  exact ⟨_, s', hfin _ _ e1, hpe, Lemmas.C08g.keysDone_op0 hk0 hv hrd 0 e3.frame, e3.base hk0⟩

/-- **the keys `g~$`, `gu$`, `gU$`** -/
theorem g_case_dollar_keys (op : Nat) (hop : op = 126 ∨ op = 117 ∨ op = 85) (s s1 : VS) (body : List Nat) (o : Nat)
    (rest : Bytes) (hr : viRead s = Res.ok 103 s1) (hv : s1.vibuf = []) (hp : pending s1 = op :: 36 :: rest)
    (hrow : OnRow s1 body o) :
    ∃ sm s', commandTail s = finRec 103 (op : Int) VC_OK s' ∧ pending s' = rest ∧ KeysDone [op, 36] s1 s' ∧
      RowCased op s1 sm s' s1.ed.xrow body o body.length := by
  obtain ⟨s0, s3, hk0, hpre, hrd, hpend, hvb, hfin⟩ := keys_g op hop 36 (by omega) s s1 rest hr hv hp
  obtain ⟨s', e1, e3⟩ := case_dollar_spec op hop s0 s3 0 body o hpre (hk0.onRow hrow)
  have hpe : pending s' = rest := by rw [e3.frame]; exact hpend
  exact ⟨_, s', hfin _ _ e1, hpe, Lemmas.C08g.keysDone_op0 hk0 hv hrd 0 e3.frame, e3.base hk0⟩

/-- **the keys `r c`** (`[count]r c`; `c` a typable character sent as its UTF-8 bytes), `n = max 1 count`: when `n`
characters remain from the cursor on they are replaced by `n` copies of `c` and the cursor is on the last of them;
otherwise nothing changes and the command reports failure -/
theorem r_keys (s s1 : VS) (body : List Nat) (c o : Nat) (rest : Bytes) (hr : viRead s = Res.ok 114 s1)
    (hv : s1.vibuf = []) (hp : pending s1 = enc c ++ rest) (hrow : OnRow s1 body o)
    (hc : ValidCp c ∧ 32 ≤ c ∧ c ≠ 127) (hkm : s1.xkmap = 0) :
    (o + cnt1 s1 ≤ body.length →
      ∃ s', commandTail s = finRec 114 0 VC_OK s' ∧ pending s' = rest ∧ KeysDone (enc c) s1 s' ∧
        RowReplaced s1 s' body o (cnt1 s1) c) ∧
    (body.length < o + cnt1 s1 →
      ∃ s', commandTail s = finRec 114 0 0 s' ∧ pending s' = rest ∧ KeysDone (enc c) s1 s' ∧ lines s' = lines s1 ∧
        s'.ed.xrow = s1.ed.xrow ∧ s'.ed.xoff = s1.ed.xoff ∧ s'.ed.regs = s1.ed.regs) :=
  Lemmas.C08g.r_keys s s1 body c o rest hr hv hp hrow hc hkm

/-- **the keys `>>`, `<<`** (`[count]>>`): the rows `r .. min (r + c - 1) (n - 1)` are shifted -/
theorem shift_dbl_keys (cmd : Nat) (hc : cmd = 62 ∨ cmd = 60) (s s1 : VS) (rest : Bytes)
    (hr : viRead s = Res.ok (cmd : Int) s1) (hv : s1.vibuf = []) (hp : pending s1 = cmd :: rest) (ha : 0 ≤ s1.arg1)
    (h0 : 0 ≤ s1.ed.xrow) (h1 : s1.ed.xrow < lenOf s1) (hwf : ∀ l ∈ lines s1, Props.C01.WfLine l) :
    ∃ sm s', commandTail s = finRec (cmd : Int) 0 VC_OK s' ∧ pending s' = rest ∧ KeysDone [cmd] s1 s' ∧
      LineShifted (if cmd = 62 then 1 else -1) s1 sm s' s1.ed.xrow (min (s1.ed.xrow + opCount s1 0 - 1) (lenOf s1 - 1)) := by
  obtain ⟨s0, s2, hk0, hpre, hrd, hpend, hvb, hfin⟩ := keys_op cmd (by omega) cmd (by omega) s s1 rest hr hv hp
  obtain ⟨s', e1, e3⟩ := shift_dbl_spec cmd hc s0 s2 0 hpre (by rw [hk0.arg1]; exact ha) (by rw [hk0.xrow]; exact h0)
    (by rw [hk0.xrow, hk0.lenOf]; exact h1) (by rw [hk0.lines]; exact hwf)
  rw [hk0.xrow, hk0.opCount, hk0.lenOf] at e3
  have hpe : pending s' = rest := by rw [e3.frame]; exact hpend
  exact ⟨_, s', hfin _ _ e1, hpe, Lemmas.C08g.keysDone_op0 hk0 hv hrd 0 e3.frame, e3.base hk0⟩

/-- **the keys `>j`, `<j`**: the rows `r .. min (r + c) (n - 1)` -/
theorem shift_j_keys (cmd : Nat) (hc : cmd = 62 ∨ cmd = 60) (s s1 : VS) (rest : Bytes)
    (hr : viRead s = Res.ok (cmd : Int) s1) (hv : s1.vibuf = []) (hp : pending s1 = 106 :: rest) (ha : 0 ≤ s1.arg1)
    (h0 : 0 ≤ s1.ed.xrow) (h1 : s1.ed.xrow < lenOf s1) (hwf : ∀ l ∈ lines s1, Props.C01.WfLine l) :
    ∃ sm s', commandTail s = finRec (cmd : Int) 0 VC_OK s' ∧ pending s' = rest ∧ KeysDone [106] s1 s' ∧
      LineShifted (if cmd = 62 then 1 else -1) s1 sm s' s1.ed.xrow (min (s1.ed.xrow + opCount s1 0) (lenOf s1 - 1)) := by
  obtain ⟨s0, s2, hk0, hpre, hrd, hpend, hvb, hfin⟩ := keys_op cmd (by omega) 106 (by omega) s s1 rest hr hv hp
  obtain ⟨s', e1, e3⟩ := shift_j_spec cmd hc s0 s2 0 hpre (by rw [hk0.arg1]; exact ha) (by rw [hk0.xrow]; exact h0)
    (by rw [hk0.xrow, hk0.lenOf]; exact h1) (by rw [hk0.lines]; exact hwf)
  rw [hk0.xrow, hk0.opCount, hk0.lenOf] at e3
  have hpe : pending s' = rest := by rw [e3.frame]; exact hpend
  exact ⟨_, s', hfin _ _ e1, hpe, Lemmas.C08g.keysDone_op0 hk0 hv hrd 0 e3.frame, e3.base hk0⟩

/-! ## 7. one whole iteration of `vi()` -/

/-- **`viPre` on a command key** (`isCmdKey`: `c d y > < p P J r ~ g x X D C s S Y`) typed without count or
register prefix: no motion (`mv = 0`); `vi_yankbuf`, `vi_prefix` and `vi_motion` each looked at the key and pushed it
back, so it is left on the push-back stack (`preSt`), the counts and the register prefix are cleared and `icmd`
restarts with the key -/
theorem viPre_cmd (c : Nat) (hc : isCmdKey c) (s : VS) (more : Bytes) (hv : s.vibuf = []) (hp : pending s = c :: more) :
    ∃ ib ip ty, viPre s = Res.ok (0, s.ed.xrow, noeol s s.ed.xrow s.ed.xoff) (preSt s c ib ip ty) ∧ ib.drop ip ++ ty = more :=
  Lemmas.C08g.viPre_cmd c hc s more hv hp

/-- **`viPost` after a command** (`mod`: what the command reported), from a state that is not quitting and has at most
one line of output waiting: it returns; the window fix settles the cursor, the sticky column and the horizontal scroll
are updated, the output is shown, `lbuf_modified` runs — nothing else changes (`PostFrame`) -/
theorem viPost_spec (mod : Nat) (s : VS) (hq : s.ed.xquit = false) (hout : nlCount s.ed.out ≤ 1) :
    ∃ s', viPost (some mod) s = Res.ok () s' ∧ PostFrame s s' :=
  Lemmas.C08g.viPost_spec mod s hq hout

/-- `finRec` then `viPost`, from a state that is not quitting and has at most one line of output to show: both return,
and the state is `Settled` -/
theorem finish_step (c k : Int) (m : Nat) (s' : VS) (hq : s'.ed.xquit = false) (hout : nlCount s'.ed.out ≤ 1) :
    ∃ sf s'', finRec c k m s' = Res.ok (some m) sf ∧ viPost (some m) sf = Res.ok () s'' ∧ Settled s' s'' :=
  Lemmas.C08g.finish_step c k m s' hq hout

/-- **one iteration on a plain command key `c`**: `s0` is the state in which the dispatcher starts (the key on the
push-back stack), `s1` the state once it has read the key.  Whatever `commandTail` does — it ends in `finRec` from
a state `s'` that kept `xquit`, `out`, `xtd` — the iteration returns, and leaves `s'` settled -/
theorem viStep_via (c : Nat) (hc : isCmdKey c) (s : VS) (more : Bytes) (hi : Idle s) (hp : pending s = c :: more) :
    ∃ s0 s1, viRead s0 = Res.ok (c : Int) s1 ∧ s1.ed = s.ed ∧ s1.vibuf = [] ∧ pending s1 = more ∧
      s1.arg1 = 0 ∧ s1.ybuf = 0 ∧ s1.xkmap = s.xkmap ∧ s1.xai = s.xai ∧ s1.icmd = [c] ∧
      ∀ (k : Int) (m : Nat) (s' : VS), commandTail s0 = finRec (c : Int) k m s' → edk s' = edk s1 →
        ∃ s'', viStep s = Res.ok () s'' ∧ Settled s' s'' :=
  Lemmas.C08g.viStep_via c hc s more hi hp

/-- **`yy` as one iteration** (no count, no register prefix): the text and the cursor row are unchanged, the unnamed
register holds the cursor line in line mode -/
theorem yy_step (s : VS) (rest : Bytes) (hi : Idle s) (hwf : RegsWf s.ed.regs) (hp : pending s = 121 :: 121 :: rest)
    (h0 : 0 ≤ s.ed.xrow) (h1 : s.ed.xrow < lenOf s) :
    ∃ s'', viStep s = Res.ok () s'' ∧ StepDone s s'' rest ∧ lines s'' = lines s ∧ s''.ed.xrow = s.ed.xrow ∧
      s''.ed.regs.getRaw 0 = (some (rowsText (lines s) s.ed.xrow s.ed.xrow), 1) :=
  Lemmas.C08g.yy_step s rest hi hwf hp h0 h1

/-- **`dd` as one iteration**: the cursor line is gone, the unnamed register holds it in line mode, the cursor is
on the line that followed (the new last line when the last line went) -/
theorem dd_step (s : VS) (rest : Bytes) (hi : Idle s) (hwf : RegsWf s.ed.regs) (hp : pending s = 100 :: 100 :: rest)
    (h0 : 0 ≤ s.ed.xrow) (h1 : s.ed.xrow < lenOf s) :
    ∃ s'', viStep s = Res.ok () s'' ∧ StepDone s s'' rest ∧
      lines s'' = (lines s).take s.ed.xrow.toNat ++ (lines s).drop (s.ed.xrow.toNat + 1) ∧
      s''.ed.xrow = min s.ed.xrow (max 0 (lenOf s - 2)) ∧
      s''.ed.regs.getRaw 0 = (some (rowsText (lines s) s.ed.xrow s.ed.xrow), 1) :=
  Lemmas.C08g.dd_step s rest hi hwf hp h0 h1

/-- **`x` as one iteration** on a character that is not the last of its line: the character is gone, the unnamed
register holds it, the cursor stays (now on the character that followed) -/
theorem x_step (s : VS) (body : List Nat) (o : Nat) (rest : Bytes) (hi : Idle s) (hwf : RegsWf s.ed.regs)
    (hp : pending s = 120 :: rest) (hrow : OnRow s body o) (hnl : o + 1 < body.length) :
    ∃ s'', viStep s = Res.ok () s'' ∧ StepDone s s'' rest ∧ RowIs s s'' (body.take o ++ body.drop (o + 1)) ∧
      s''.ed.xrow = s.ed.xrow ∧ s''.ed.xoff = (o : Int) ∧
      s''.ed.regs.getRaw 0 = (some (encStr ((body.take (o + 1)).drop o)), 0) :=
  Lemmas.C08g.x_step s body o rest hi hwf hp hrow hnl

/-- **`dw` as one iteration**, when the next word starts at `t` on the same row (`o < t < |body|`): the characters
`[o, t)` are gone, the unnamed register holds them, the cursor stays -/
theorem dw_step (s : VS) (body : List Nat) (o t : Nat) (rest : Bytes) (hi : Idle s) (hwf : RegsWf s.ed.regs)
    (hp : pending s = 100 :: 119 :: rest) (hrow : OnRow s body o) (hu : Utf8Buf (lines s))
    (href : Motion.wordFwdRaw false (refBufU (lines s)) ⟨s.ed.xrow.toNat, o⟩ 1 = ⟨s.ed.xrow.toNat, t⟩) (hot : o < t)
    (htl : t < body.length) :
    ∃ s'', viStep s = Res.ok () s'' ∧ StepDone s s'' rest ∧ RowIs s s'' (body.take o ++ body.drop t) ∧
      s''.ed.xrow = s.ed.xrow ∧ s''.ed.xoff = (o : Int) ∧
      s''.ed.regs.getRaw 0 = (some (encStr ((body.take t).drop o)), 0) :=
  Lemmas.C08g.dw_step s body o t rest hi hwf hp hrow hu href hot htl

/-- **`p` / `P` with the unnamed register holding the characters `bs` (character mode), as one iteration**: `bs` goes in
after (`p`) / before (`P`) the cursor character, the cursor ends on its last character -/
theorem put_chars_step (c : Nat) (hc : c = 112 ∨ c = 80) (s : VS) (body bs : List Nat) (o : Nat) (rest : Bytes)
    (hi : Idle s) (hwf : RegsWf s.ed.regs) (hp : pending s = c :: rest) (hrow : OnRow s body o)
    (hreg : s.ed.regs.getRaw 0 = (some (encStr bs), 0)) (hbs : ∀ c ∈ bs, ValidCp c) (hbs10 : 10 ∉ bs) (hne : bs ≠ []) :
    ∃ s'', viStep s = Res.ok () s'' ∧ StepDone s s'' rest ∧
      RowIs s s'' (body.take (o + if c = 112 then 1 else 0) ++ bs ++ body.drop (o + if c = 112 then 1 else 0)) ∧
      s''.ed.xrow = s.ed.xrow ∧ s''.ed.xoff = ((o + (if c = 112 then 1 else 0) + bs.length - 1 : Nat) : Int) ∧
      s''.ed.regs.getRaw 0 = (some (encStr bs), 0) :=
  Lemmas.C08g.put_chars_step c hc s body bs o rest hi hwf hp hrow hreg hbs hbs10 hne

/-- **`p` / `P` with the unnamed register holding the lines `rows` (line mode), as one iteration**: they are inserted
below (`p`) / above (`P`) the cursor row, the cursor goes to the first of them -/
theorem put_lines_step (c : Nat) (hc : c = 112 ∨ c = 80) (s : VS) (rows : List Bytes) (lnm : Nat) (rest : Bytes)
    (hi : Idle s) (hwf : RegsWf s.ed.regs) (hp : pending s = c :: rest) (h0 : 0 ≤ s.ed.xrow)
    (h1 : s.ed.xrow < lenOf s) (hreg : s.ed.regs.getRaw 0 = (some rows.flatten, lnm)) (hl : lnm ≠ 0)
    (hrows : ∀ l ∈ rows, Props.C01.WfLine l) (hne : rows ≠ []) :
    ∃ s'', viStep s = Res.ok () s'' ∧ StepDone s s'' rest ∧
      lines s'' = (lines s).take (s.ed.xrow + if c = 112 then 1 else 0).toNat ++ rows ++
        (lines s).drop (s.ed.xrow + if c = 112 then 1 else 0).toNat ∧
      s''.ed.xrow = s.ed.xrow + (if c = 112 then 1 else 0) ∧
      s''.ed.regs.getRaw 0 = (some rows.flatten, lnm) :=
  Lemmas.C08g.put_lines_step c hc s rows lnm rest hi hwf hp h0 h1 hreg hl hrows hne

/-- **`cw`, text, ESC as one iteration** (no count), when the next word starts at `t` on the same row: the characters
`[min o t, max o t)` are replaced by the typed text, the unnamed register holds them, the cursor is on the last typed
character -/
theorem cw_step (s : VS) (body cs : List Nat) (o t : Nat) (K rest : Bytes) (hi : Idle s) (hwf : RegsWf s.ed.regs)
    (hp : pending s = 99 :: 119 :: (K ++ rest)) (hrow : OnRow s body o) (hu : Utf8Buf (lines s))
    (href : Motion.wordFwdRaw false (refBufU (lines s)) ⟨s.ed.xrow.toNat, o⟩ 1 = ⟨s.ed.xrow.toNat, t⟩)
    (htb : t ≤ body.length) (ht : TypedText K cs) (hkm : s.xkmap = 0) :
    ∃ s'', viStep s = Res.ok () s'' ∧ StepDone s s'' rest ∧
      RowIs s s'' (body.take (min o t) ++ cs ++ body.drop (max o t)) ∧
      s''.ed.xrow = s.ed.xrow ∧ s''.ed.xoff = ((min o t + cs.length - 1 : Nat) : Int) ∧
      s''.ed.regs.getRaw 0 = (some (encStr ((body.take (max o t)).drop (min o t))), 0) :=
  Lemmas.C08g.cw_step s body cs o t K rest hi hwf hp hrow hu href htb ht hkm

/-- **`C` / `s`, text, ESC as one iteration** (no count): `C` replaces the characters from the cursor to the end of the
line, `s` the cursor character -/
theorem Cs_step (c : Nat) (hc : c = 67 ∨ c = 115) (s : VS) (body cs : List Nat) (o : Nat) (K rest : Bytes)
    (hi : Idle s) (hwf : RegsWf s.ed.regs) (hp : pending s = c :: (K ++ rest)) (hrow : OnRow s body o)
    (ht : TypedText K cs) (hkm : s.xkmap = 0) :
    ∃ s'', viStep s = Res.ok () s'' ∧ StepDone s s'' rest ∧
      RowIs s s'' (body.take o ++ cs ++ body.drop (if c = 67 then body.length else o + 1)) ∧
      s''.ed.xrow = s.ed.xrow ∧ s''.ed.xoff = ((o + cs.length - 1 : Nat) : Int) ∧
      s''.ed.regs.getRaw 0 = (some (encStr ((body.take (if c = 67 then body.length else o + 1)).drop o)), 0) := by
  have ho := hrow.onChar
  rcases hc with rfl | rfl
  · simp only [↓reduceIte]
    refine Lemmas.C08g.OpStep.change (Lemmas.C08g.OpStep.of_short (c := 67) (op := 99) (k := 36) (by simp [isShort]) hi hp)
      hwf hrow ?_ (by omega) (by omega) ht hkm
    intro sm s2 hcs hpre
    refine ⟨_, lands_dollar sm s2 0 body o hpre (hcs.onRow hrow), ?_⟩
    rw [inclusive_false _ 36 (by simp), Lemmas.C08g.span_fwd _ _ _ (by omega)]
  · simp only [Nat.reduceEqDiff, ↓reduceIte]
    refine Lemmas.C08g.OpStep.change (Lemmas.C08g.OpStep.of_short (c := 115) (op := 99) (k := 32) (by simp [isShort]) hi hp)
      hwf hrow ?_ (by omega) (by omega) ht hkm
    intro sm s2 hcs hpre
    refine ⟨_, lands_spc sm s2 0 body o hpre (hcs.onRow hrow), ?_⟩
    rw [inclusive_false _ 32 (by simp), hcs.opCount, Lemmas.C08g.span_fwd _ _ _ (by omega)]
    simp; omega

/-- **`cc`, text, ESC as one iteration** (no count): the cursor line `body` becomes `indentation ++ text`, the unnamed
register holds the old line in line mode, the cursor is on the last typed character -/
theorem cc_step (s : VS) (body cs : List Nat) (K rest : Bytes) (hi : Idle s) (hwf : RegsWf s.ed.regs)
    (hp : pending s = 99 :: 99 :: (K ++ rest)) (h0 : 0 ≤ s.ed.xrow)
    (hline : (lines s)[s.ed.xrow.toNat]? = some (encStr (body ++ [10]))) (hb : ∀ c ∈ body, ValidCp c)
    (hb10 : 10 ∉ body) (ht : TypedText K cs) (hkm : s.xkmap = 0) :
    ∃ s'', viStep s = Res.ok () s'' ∧ StepDone s s'' rest ∧ RowIs s s'' (indentOf s body ++ cs) ∧
      s''.ed.xrow = s.ed.xrow ∧ s''.ed.xoff = (((indentOf s body).length + cs.length - 1 : Nat) : Int) ∧
      s''.ed.regs.getRaw 0 = (some (encStr (body ++ [10])), 1) := by
  have hrlt : s.ed.xrow.toNat < (lines s).length := (List.getElem?_eq_some_iff.mp hline).1
  have h1 : s.ed.xrow < lenOf s := by show s.ed.xrow < ((lines s).length : Int); omega
  obtain ⟨hiv, hi10⟩ := indentOf_valid s body hb hb10
  have hcl : 0 < cs.length := List.length_pos_iff.mpr (Lemmas.C08g.typedText_ne ht)
  refine Lemmas.C08g.OpStep.rowStep (k := 99) (o' := (indentOf s body).length + cs.length - 1)
    (Lemmas.C08g.step_op 99 (by simp) 99 (by omega) s (K ++ rest) hi hp) hwf h0 hrlt ?_
    (fun c hc => (List.mem_append.mp hc).elim (hiv c) (ht.valid c)) (fun hc => (List.mem_append.mp hc).elim hi10 ht.no10)
    (by simp; omega)
  intro sm s2 hcs hpre hpend
  obtain ⟨s', hd, hpe, hld⟩ := cc_spec sm s2 0 body cs K rest hpre (by rw [hcs.arg1]; decide) (by rw [hcs.xrow]; exact h0)
    (by rw [hcs.xrow, hcs.lenOf]; exact h1) (by rw [hcs.lines, hcs.xrow]; exact hline) hb hb10 ht hpend
    (by rw [hcs.xkmap]; exact hkm)
  have hek := Lemmas.C08g.edk_line 99 (by simp) sm s2 0 99 (min (sm.ed.xrow + opCount sm 0 - 1) (lenOf sm - 1)) hpre (by decide) rfl
    (by rw [hcs.opCount, hcs.xrow, hcs.lenOf]; omega) _ _ hd
  rw [hcs.opCount, hcs.lenOf, show min (sm.ed.xrow + 1 - 1) (lenOf s - 1) = sm.ed.xrow by rw [hcs.xrow]; omega] at hld
  have hind : indentOf sm body = indentOf s body := Lemmas.C08g.indentOf_congr _ _ _ hcs.xai
  obtain ⟨f1, f2, f3⟩ := Lemmas.C08g.readsEd_frame hld.frame
  refine ⟨_, s', hd, hek, hpe, by unfold RowIs; rw [hld.lines, hind], ?_, hld.xrow, by rw [hld.xoff, hind]; omega, f1, f2, f3⟩
  rw [hld.regs, Lemmas.C08g.rowsText_one _ _ _ (by rw [hcs.xrow]; exact h0) (by rw [hcs.lines, hcs.xrow]; exact hline)]
  simp

/-! ## 8. the round trips -/

/-- **`yyp` duplicates the cursor line.**  Two iterations of `vi()` on the keys `y y p`: the line `L` under the cursor
appears a second time below itself, the cursor is on the copy -/
theorem yyp_steps (s : VS) (L : Bytes) (rest : Bytes) (hi : Idle s) (hwf : RegsWf s.ed.regs)
    (hp : pending s = 121 :: 121 :: 112 :: rest) (h0 : 0 ≤ s.ed.xrow) (hline : (lines s)[s.ed.xrow.toNat]? = some L)
    (hL : Props.C01.WfLine L) :
    ∃ s1 s2, viStep s = Res.ok () s1 ∧ viStep s1 = Res.ok () s2 ∧ StepDone s s2 rest ∧
      lines s2 = (lines s).take (s.ed.xrow.toNat + 1) ++ [L] ++ (lines s).drop (s.ed.xrow.toNat + 1) ∧
      s2.ed.xrow = s.ed.xrow + 1 :=
  Lemmas.C08g.yyp_steps s L rest hi hwf hp h0 hline hL

/-- **`ddP` restores the text** when the cursor line is not the last: two iterations on the keys `d d P` leave every
line where it was, and the cursor on its row -/
theorem ddP_steps (s : VS) (L : Bytes) (rest : Bytes) (hi : Idle s) (hwf : RegsWf s.ed.regs)
    (hp : pending s = 100 :: 100 :: 80 :: rest) (h0 : 0 ≤ s.ed.xrow) (hnl : s.ed.xrow + 1 < lenOf s)
    (hline : (lines s)[s.ed.xrow.toNat]? = some L) (hL : Props.C01.WfLine L) :
    ∃ s1 s2, viStep s = Res.ok () s1 ∧ viStep s1 = Res.ok () s2 ∧ StepDone s s2 rest ∧
      lines s1 = (lines s).take s.ed.xrow.toNat ++ (lines s).drop (s.ed.xrow.toNat + 1) ∧
      lines s2 = lines s ∧ s2.ed.xrow = s.ed.xrow :=
  Lemmas.C08g.ddP_steps s L rest hi hwf hp h0 hnl hline hL

/-- **`xp` swaps two characters.**  The cursor row is `pre ++ a :: b :: post`, the cursor on `a`: two iterations on the
keys `x p` leave `pre ++ b :: a :: post`, the cursor on `a` -/
theorem xp_steps (s : VS) (pre post : List Nat) (a b : Nat) (rest : Bytes) (hi : Idle s) (hwf : RegsWf s.ed.regs)
    (hp : pending s = 120 :: 112 :: rest) (hrow : OnRow s (pre ++ a :: b :: post) pre.length) :
    ∃ s1 s2, viStep s = Res.ok () s1 ∧ viStep s1 = Res.ok () s2 ∧ StepDone s s2 rest ∧
      RowIs s s1 (pre ++ b :: post) ∧ RowIs s s2 (pre ++ b :: a :: post) ∧
      s2.ed.xrow = s.ed.xrow ∧ s2.ed.xoff = ((pre.length + 1 : Nat) : Int) :=
  Lemmas.C08g.xp_steps s pre post a b rest hi hwf hp hrow

/-- **`dwP` restores the text** when the next word starts at `t` on the same row (`o < t < |body|`): two iterations on
the keys `d w P` leave the row as it was; the cursor is on the last character that was put back -/
theorem dwP_steps (s : VS) (body : List Nat) (o t : Nat) (rest : Bytes) (hi : Idle s) (hwf : RegsWf s.ed.regs)
    (hp : pending s = 100 :: 119 :: 80 :: rest) (hrow : OnRow s body o) (hu : Utf8Buf (lines s))
    (href : Motion.wordFwdRaw false (refBufU (lines s)) ⟨s.ed.xrow.toNat, o⟩ 1 = ⟨s.ed.xrow.toNat, t⟩) (hot : o < t)
    (htl : t < body.length) :
    ∃ s1 s2, viStep s = Res.ok () s1 ∧ viStep s1 = Res.ok () s2 ∧ StepDone s s2 rest ∧
      RowIs s s1 (body.take o ++ body.drop t) ∧ lines s2 = lines s ∧
      s2.ed.xrow = s.ed.xrow ∧ s2.ed.xoff = ((t - 1 : Nat) : Int) :=
  Lemmas.C08g.dwP_steps s body o t rest hi hwf hp hrow hu href hot htl


/-! ## 9. checks: the hypotheses are satisfiable, refuted conjectures, concrete runs -/

section Examples
open Neatvi.Props.C08b (exSt exEd)

/-- the text of `exSt`: `hello w` / `b` -/
def exLines : List Bytes := [[104, 101, 108, 108, 111, 32, 119, 10], [98, 10]]
def exBody : List Nat := [104, 101, 108, 108, 111, 32, 119]

theorem exUtf8 : Utf8Buf exLines := by
  intro l hl
  simp only [exLines, List.mem_cons, List.not_mem_nil, or_false] at hl
  rcases hl with rfl | rfl
  · exact ⟨exBody, by decide +kernel, by decide, by decide⟩
  · exact ⟨[98], by decide +kernel, by decide, by decide⟩

theorem exWf : ∀ l ∈ exLines, Props.C01.WfLine l := by
  intro l hl
  simp only [exLines, List.mem_cons, List.not_mem_nil, or_false] at hl
  rcases hl with rfl | rfl
  · exact ⟨[104, 101, 108, 108, 111, 32, 119], rfl, by decide⟩
  · exact ⟨[98], rfl, by decide⟩

/-- the command key `c` typed in `exSt`: the state `s1` once it has been read -/
theorem exKey (c : Nat) (more : Bytes) (row off : Int) :
    ∃ s1, viRead (exSt (c :: more) row off) = Res.ok (c : Int) s1 ∧ s1.vibuf = [] ∧ pending s1 = more ∧
      s1.ed = (exSt (c :: more) row off).ed ∧ s1.arg1 = 0 ∧ s1.ybuf = 0 ∧ s1.xkmap = 0 ∧ lines s1 = exLines ∧
      s1.icmd = [c] := by
  obtain ⟨s1, h1, h2, h3, h4⟩ := typed_key (exSt (c :: more) row off) c more rfl rfl
  obtain ⟨a1, a2, a3, a4, a5⟩ := Lemmas.C08g.reads_false_frame h4
  refine ⟨s1, h1, h2, h3, a1, a4, a2, a3, by unfold Vi.lines; rw [a1]; rfl, ?_⟩
  obtain ⟨ib, ip, ty, xl, e, -⟩ := h4
  rw [e]; rfl

theorem onRow_ed {s s1 : VS} {body : List Nat} {o : Nat} (h : OnRow s body o) (he : s1.ed = s.ed) : OnRow s1 body o :=
  Lemmas.C08g.onRow_congr h (by rw [he]) (by rw [he]) (by unfold Vi.lines; rw [he])

theorem exRow (keys : Bytes) (o : Nat) (ho : o < 7) : OnRow (exSt keys 0 o) exBody o :=
  ⟨Int.le_refl 0, (by show exLines[(0 : Int).toNat]? = some (encStr (exBody ++ [10])); decide +kernel), by decide, by decide, rfl, ho⟩

-- `cw` on the `h` of `hello w`, typed `XY`: the theorem gives the line `XYw` (the blank went too)
example : ∃ s', commandTail (exSt [99, 119, 88, 89, 27, 90] 0 0) = finRec 99 0 VC_OK s' ∧ pending s' = [90] ∧
    lines s' = [encStr [88, 89, 119, 10], [98, 10]] ∧ s'.ed.xoff = 1 ∧ s'.icmd = [99, 119, 88, 89, 27] := by
  obtain ⟨s1, hr, hv, hp, he, ha, hy, hk, hl, hic⟩ := exKey 99 [119, 88, 89, 27, 90] 0 0
  have hoc : opCount s1 0 = 1 := by rw [opCount_zero, ha]; rfl
  obtain ⟨sm, s', e1, e2, e3, e4⟩ := cw_keys _ s1 exBody [88, 89] 0 [88, 89, 27] [90] 6 hr hv hp (onRow_ed (exRow _ 0 (by decide)) he)
    (by rw [hl]; exact exUtf8) (by rw [hl, hoc, he]; decide +kernel)
    (typedText_plain [88, 89] (by decide) (by decide) (by decide)) hk
  refine ⟨s', e1, e2, ?_, ?_, ?_⟩
  · rw [e4.lines, hl, he]; rfl
  · rw [e4.xoff]; rfl
  · rw [e3.icmd]
    rw [hic]; rfl

-- `C` on the first `l` of `hello w`
example : ∃ s', commandTail (exSt [67, 88, 89, 27] 0 2) = finRec 67 0 VC_OK s' ∧
    lines s' = [encStr [104, 101, 88, 89, 10], [98, 10]] ∧ s'.ed.xoff = 3 ∧
    s'.ed.regs.getRaw 0 = (some (encStr [108, 108, 111, 32, 119]), 0) := by
  obtain ⟨s1, hr, hv, hp, he, ha, hy, hk, hl, hic⟩ := exKey 67 [88, 89, 27] 0 2
  obtain ⟨sm, s', e1, e2, e3, e4⟩ := C_keys _ s1 exBody [88, 89] 2 [88, 89, 27] [] hr hv hp (onRow_ed (exRow _ 2 (by decide)) he)
    (typedText_plain [88, 89] (by decide) (by decide) (by decide)) hk
  refine ⟨s', e1, ?_, ?_, ?_⟩
  · rw [e4.lines, hl, he]; rfl
  · rw [e4.xoff]; rfl
  · rw [e4.regs, hy, he]
    exact Lemmas.C08g.getRaw0_put0 _ _ _ regsWf_default

-- `cc` on row 0 (no count): the row becomes `XY`, the register holds the old line in line mode
example : ∃ s', commandTail (exSt [99, 99, 88, 89, 27] 0 2) = finRec 99 0 VC_OK s' ∧
    lines s' = [encStr [88, 89, 10], [98, 10]] ∧ s'.ed.xoff = 1 ∧
    s'.ed.regs.getRaw 0 = (some [104, 101, 108, 108, 111, 32, 119, 10], 1) := by
  obtain ⟨s1, hr, hv, hp, he, ha, hy, hk, hl, hic⟩ := exKey 99 [99, 88, 89, 27] 0 2
  have hoc : opCount s1 0 = 1 := by rw [opCount_zero, ha]; rfl
  have hx : s1.ed.xrow = 0 := by rw [he]; rfl
  have hn : lenOf s1 = 2 := by unfold Vi.lenOf; rw [hl]; rfl
  obtain ⟨sm, s', e1, e2, e3, e4⟩ := cc_keys _ s1 exBody [88, 89] [88, 89, 27] [] hr hv hp (by rw [ha]; decide) (by rw [hx]; decide)
    (by rw [hx, hn]; decide) (by rw [hl, hx]; decide +kernel) (by decide) (by decide)
    (typedText_plain [88, 89] (by decide) (by decide) (by decide)) hk
  rw [hoc, hx, hn] at e4
  have hi : indentOf s1 exBody = [] := by unfold indentOf; split <;> rfl
  refine ⟨s', e1, ?_, ?_, ?_⟩
  · rw [e4.lines, hl, hi]; rfl
  · rw [e4.xoff, hi]; rfl
  · rw [e4.regs, hy, hl, he]
    exact Lemmas.C08g.getRaw0_put0 _ _ _ regsWf_default

-- `cfo` from the `e` of `hello w`: `ello` is replaced
example : ∃ s', commandTail (exSt [99, 102, 111, 88, 89, 27] 0 1) = finRec 99 0 VC_OK s' ∧
    lines s' = [encStr [104, 88, 89, 32, 119, 10], [98, 10]] ∧ s'.ed.xoff = 2 := by
  obtain ⟨s1, hr, hv, hp, he, ha, hy, hk, hl, hic⟩ := exKey 99 [102, 111, 88, 89, 27] 0 1
  have hoc : opCount s1 0 = 1 := by rw [opCount_zero, ha]; rfl
  obtain ⟨sm, s', e1, e2, e3, b1, b2, e4⟩ := cfc_keys _ s1 exBody [88, 89] 1 [88, 89, 27] [] 111 4 hr hv hp
    (onRow_ed (exRow _ 1 (by decide)) he) (by rw [ha]; decide) (by decide) (by rw [hoc]; decide +kernel)
    (typedText_plain [88, 89] (by decide) (by decide) (by decide)) hk
  refine ⟨s', e1, ?_, ?_⟩
  · rw [e4.lines, hl, he]; rfl
  · rw [e4.xoff]; rfl

/-- a key typed at the terminal, with what reading it leaves alone -/
theorem keyOf (s : VS) (c : Nat) (more : Bytes) (hv : s.vibuf = []) (hp : pending s = c :: more) :
    ∃ s1, viRead s = Res.ok (c : Int) s1 ∧ s1.vibuf = [] ∧ pending s1 = more ∧ s1.ed = s.ed ∧ s1.arg1 = s.arg1 ∧
      s1.ybuf = s.ybuf ∧ s1.xkmap = s.xkmap := by
  obtain ⟨s1, h1, h2, h3, h4⟩ := typed_key s c more hv hp
  obtain ⟨a1, a2, a3, a4, a5⟩ := Lemmas.C08g.reads_false_frame h4
  exact ⟨s1, h1, h2, h3, a1, a4, a2, a3⟩

/-- `exSt` with the register `c` set -/
def exReg (keys : Bytes) (row off : Int) (c : Nat) (txt : Bytes) (ln : Nat) (cnt : Int) (yb : Nat) : VS :=
  { exSt keys row off with ed := { (exSt keys row off).ed with regs := (({} : Regs).put c txt ln) }, arg1 := cnt, ybuf := yb }

-- `3p` with the unnamed register holding the characters `AB`, cursor on the first `l`: `helABABABlo w`
example : ∃ s', commandTail (exReg [112] 0 2 0 [65, 66] 0 3 0) = finRec 112 0 VC_OK s' ∧
    lines s' = [encStr [104, 101, 108, 65, 66, 65, 66, 65, 66, 108, 111, 32, 119, 10], [98, 10]] ∧ s'.ed.xoff = 8 := by
  obtain ⟨s1, hr, hv, hp, he, ha, hy, hk⟩ := keyOf (exReg [112] 0 2 0 [65, 66] 0 3 0) 112 [] rfl rfl
  have hrow : OnRow s1 exBody 2 := onRow_ed (s := exReg [112] 0 2 0 [65, 66] 0 3 0)
    ⟨Int.le_refl 0, (by show exLines[(0 : Int).toNat]? = some (encStr (exBody ++ [10])); decide +kernel), by decide, by decide,
      rfl, by decide⟩ he
  obtain ⟨s', e1, e2, e3, e4⟩ := p_chars_keys _ s1 exBody [65, 66] 2 hr hv hrow
    (by rw [hy, he]; decide +kernel) (by decide) (by decide) (by decide)
  have hc : cnt1 s1 = 3 := by unfold cnt1; rw [ha]; rfl
  have hl : lines s1 = exLines := by unfold Vi.lines; rw [he]; rfl
  rw [hc] at e4
  refine ⟨s', e1, ?_, ?_⟩
  · rw [e4.lines, he, hl]; rfl
  · rw [e4.xoff]; rfl

-- `"aP` with register `a` holding the two lines `AB` / `CD` (line mode), cursor on row 1: they go in above `b`
example : ∃ s', commandTail (exReg [80] 1 0 97 [65, 66, 10, 67, 68, 10] 1 0 97) = finRec 80 0 VC_OK s' ∧
    lines s' = [[104, 101, 108, 108, 111, 32, 119, 10], [65, 66, 10], [67, 68, 10], [98, 10]] ∧ s'.ed.xrow = 1 := by
  obtain ⟨s1, hr, hv, hp, he, ha, hy, hk⟩ := keyOf (exReg [80] 1 0 97 [65, 66, 10, 67, 68, 10] 1 0 97) 80 [] rfl rfl
  have hx : s1.ed.xrow = 1 := by rw [he]; rfl
  have hl : lines s1 = exLines := by unfold Vi.lines; rw [he]; rfl
  obtain ⟨s', e1, e2, e3, e4⟩ := P_lines_keys _ s1 [[65, 66, 10], [67, 68, 10]] 1 hr hv
    (by rw [hy, he]; decide +kernel) (by decide)
    (by intro l hl; simp at hl; rcases hl with rfl | rfl
        · exact ⟨[65, 66], rfl, by decide⟩
        · exact ⟨[67, 68], rfl, by decide⟩) (by decide) (by rw [hx]; decide) (by rw [hx]; unfold Vi.lenOf; rw [hl]; decide)
  have hc : cnt1 s1 = 1 := by unfold cnt1; rw [ha]; rfl
  rw [hc, hx] at e4
  exact ⟨s', e1, by rw [e4.lines, hl]; rfl, e4.xrow⟩

-- the same through `put_lines_reg_keys`: `"ap` puts them below row 0
example : ∃ s', commandTail (exReg [112] 0 0 97 [65, 66, 10, 67, 68, 10] 1 0 97) = finRec 112 0 VC_OK s' ∧
    lines s' = [[104, 101, 108, 108, 111, 32, 119, 10], [65, 66, 10], [67, 68, 10], [98, 10]] ∧ s'.ed.xrow = 1 := by
  obtain ⟨s1, hr, hv, hp, he, ha, hy, hk⟩ := keyOf (exReg [112] 0 0 97 [65, 66, 10, 67, 68, 10] 1 0 97) 112 [] rfl rfl
  have hx : s1.ed.xrow = 0 := by rw [he]; rfl
  have hl : lines s1 = exLines := by unfold Vi.lines; rw [he]; rfl
  obtain ⟨s', e1, e2, e3, e4⟩ := put_lines_reg_keys 112 (by simp) _ s1 [[65, 66, 10], [67, 68, 10]] 1 hr hv
    (by rw [hy]; decide) (by rw [hy, he]; decide +kernel) (by decide)
    (by intro l hl; simp at hl; rcases hl with rfl | rfl
        · exact ⟨[65, 66], rfl, by decide⟩
        · exact ⟨[67, 68], rfl, by decide⟩) (by decide) (by rw [hx]; decide) (by rw [hx]; unfold Vi.lenOf; rw [hl]; decide)
  have hc : cnt1 s1 = 1 := by unfold cnt1; rw [ha]; rfl
  rw [hc, hx] at e4
  exact ⟨s', e1, by rw [e4.lines, hl]; rfl, e4.xrow⟩

-- at the level of `vc_motion`, with a second count: `c2 SPC` typed `XY` from the `e` of `hello w` replaces `el`
example : ∃ s', vcMotion 99 (exSt [50, 32, 88, 89, 27] 0 1) = Res.ok VC_OK s' ∧
    lines s' = [encStr [104, 88, 89, 108, 111, 32, 119, 10], [98, 10]] ∧ s'.ed.xoff = 2 ∧
    s'.ed.regs.getRaw 0 = (some (encStr [101, 108]), 0) := by
  have r1 := viRead_pending (exSt [50, 32, 88, 89, 27] 0 1) 50 [32, 88, 89, 27] rfl rfl
  have r2 := viRead_pending (afterRead (exSt [50, 32, 88, 89, 27] 0 1)) 32 [88, 89, 27] rfl r1.2.1
  have hp : Prefixed (exSt [50, 32, 88, 89, 27] 0 1) 2 32 (afterRead (afterRead (exSt [50, 32, 88, 89, 27] 0 1))) :=
    prefixed_digit _ _ _ 50 32 r1.1 (by decide) (by decide) r2.1 (by decide)
  obtain ⟨s', e1, e2, e3⟩ := c_spc_spec _ _ 2 exBody [88, 89] 1 [88, 89, 27] [] hp (exRow _ 1 (by decide))
    (typedText_plain [88, 89] (by decide) (by decide) (by decide)) r2.2.1 rfl
  refine ⟨s', e1, ?_, ?_, ?_⟩
  · rw [e3.lines]; rfl
  · rw [e3.xoff]; rfl
  · rw [e3.regs]; exact Lemmas.C08g.getRaw0_put0 _ _ _ regsWf_default

-- `J` on row 0: `hello w b`, the cursor on the blank that was inserted
example : ∃ s', commandTail (exSt [74] 0 2) = finRec 74 0 VC_OK s' ∧
    lines s' = [[104, 101, 108, 108, 111, 32, 119, 32, 98, 10]] ∧ s'.ed.xoff = 7 := by
  obtain ⟨s1, hr, hv, hp, he, ha, hy, hk, hl, hic⟩ := exKey 74 [] 0 2
  have hx : s1.ed.xrow = 0 := by rw [he]; rfl
  obtain ⟨s', e1, e2, e3, e4⟩ := J_keys _ s1 [104, 101, 108, 108, 111, 32, 119] [[98]] hr hv (by rw [hx]; decide)
    (by rw [ha]; decide) (by rw [hl, hx]; rfl) (by decide)
  refine ⟨s', e1, ?_, ?_⟩
  · rw [e4.lines, hl, hx]; decide +kernel
  · rw [e4.xoff]; decide +kernel

-- `~` on the `w` of `hello w` (the last character): `W`; the cursor is left behind it (the window fix steps back)
example : ∃ s', commandTail (exSt [126] 0 6) = finRec 126 0 VC_OK s' ∧
    lines s' = [encStr [104, 101, 108, 108, 111, 32, 87, 10], [98, 10]] ∧ s'.ed.xoff = 7 := by
  obtain ⟨s1, hr, hv, hp, he, ha, hy, hk, hl, hic⟩ := exKey 126 [] 0 6
  have hoc : opCount s1 0 = 1 := by rw [opCount_zero, ha]; rfl
  obtain ⟨sm, s', e1, e2, e3, e4⟩ := tilde_keys _ s1 exBody 6 hr hv (onRow_ed (exRow _ 6 (by decide)) he)
  rw [hoc] at e4
  refine ⟨s', e1, ?_, ?_⟩
  · rw [e4.lines, hl, he]; decide +kernel
  · rw [e4.xoff]; rfl

-- `rX` on the `e` of `hello w`
example : ∃ s', commandTail (exSt [114, 88] 0 1) = finRec 114 0 VC_OK s' ∧
    lines s' = [encStr [104, 88, 108, 108, 111, 32, 119, 10], [98, 10]] ∧ s'.ed.xoff = 1 := by
  obtain ⟨s1, hr, hv, hp, he, ha, hy, hk, hl, hic⟩ := exKey 114 [88] 0 1
  have hc : cnt1 s1 = 1 := by unfold cnt1; rw [ha]; rfl
  obtain ⟨s', e1, e2, e3, e4⟩ := (r_keys _ s1 exBody 88 1 [] hr hv hp (onRow_ed (exRow _ 1 (by decide)) he) (by decide) hk).1
    (by rw [hc]; decide)
  rw [hc] at e4
  refine ⟨s', e1, ?_, ?_⟩
  · rw [e4.lines, hl, he]; rfl
  · rw [e4.xoff]; rfl

-- `gUw` on the `h` of `hello w`: `HELLO w`
example : ∃ s', commandTail (exSt [103, 85, 119] 0 0) = finRec 103 85 VC_OK s' ∧
    lines s' = [encStr [72, 69, 76, 76, 79, 32, 119, 10], [98, 10]] ∧ s'.ed.xoff = 6 := by
  obtain ⟨s1, hr, hv, hp, he, ha, hy, hk, hl, hic⟩ := exKey 103 [85, 119] 0 0
  have hoc : opCount s1 0 = 1 := by rw [opCount_zero, ha]; rfl
  obtain ⟨sm, s', e1, e2, e3, e4⟩ := g_case_w_keys 85 (by simp) _ s1 exBody 0 6 [] hr hv hp (onRow_ed (exRow _ 0 (by decide)) he)
    (by rw [hl]; exact exUtf8) (by rw [hl, hoc, he]; decide +kernel)
  refine ⟨s', e1, ?_, ?_⟩
  · rw [e4.lines, hl, he]; decide +kernel
  · rw [e4.xoff]; rfl

-- `>>` on row 0
example : ∃ s', commandTail (exSt [62, 62] 0 2) = finRec 62 0 VC_OK s' ∧
    lines s' = [[9, 104, 101, 108, 108, 111, 32, 119, 10], [98, 10]] ∧ s'.ed.xrow = 0 := by
  obtain ⟨s1, hr, hv, hp, he, ha, hy, hk, hl, hic⟩ := exKey 62 [62] 0 2
  have hoc : opCount s1 0 = 1 := by rw [opCount_zero, ha]; rfl
  have hx : s1.ed.xrow = 0 := by rw [he]; rfl
  have hn : lenOf s1 = 2 := by unfold Vi.lenOf; rw [hl]; rfl
  obtain ⟨sm, s', e1, e2, e3, e4⟩ := shift_dbl_keys 62 (by simp) _ s1 [] hr hv hp (by rw [ha]; decide) (by rw [hx]; decide)
    (by rw [hx, hn]; decide) (by rw [hl]; exact exWf)
  rw [hoc, hx, hn] at e4
  refine ⟨s', e1, ?_, ?_⟩
  · rw [e4.lines, hl]; decide +kernel
  · rw [e4.xrow]

/-! ### the round trips on `hello w` / `b` -/

theorem exIdle (keys : Bytes) (row off : Int) : Idle (exSt keys row off) :=
  ⟨rfl, rfl, by show nlCount [] ≤ 1; decide⟩

-- `cwXY<ESC>` as one whole iteration of `vi()`
example : ∃ s'', viStep (exSt [99, 119, 88, 89, 27, 90] 0 0) = Res.ok () s'' ∧ pending s'' = [90] ∧
    RowIs (exSt [99, 119, 88, 89, 27, 90] 0 0) s'' [88, 89, 119] ∧ s''.ed.xoff = 1 ∧
    s''.ed.regs.getRaw 0 = (some (encStr [104, 101, 108, 108, 111, 32]), 0) := by
  obtain ⟨s'', e, d, l, x, o, r⟩ := cw_step (exSt [99, 119, 88, 89, 27, 90] 0 0) exBody [88, 89] 0 6 [88, 89, 27] [90]
    (exIdle _ _ _) regsWf_default rfl (exRow _ 0 (by decide)) exUtf8 (by decide +kernel) (by decide)
    (typedText_plain [88, 89] (by decide) (by decide) (by decide)) rfl
  exact ⟨s'', e, d.pending, l, o, r⟩

-- `yyp` on row 0
example : ∃ s1 s2, viStep (exSt [121, 121, 112] 0 2) = Res.ok () s1 ∧ viStep s1 = Res.ok () s2 ∧ pending s2 = [] ∧
    lines s2 = [[104, 101, 108, 108, 111, 32, 119, 10], [104, 101, 108, 108, 111, 32, 119, 10], [98, 10]] ∧ s2.ed.xrow = 1 := by
  obtain ⟨s1, s2, e1, e2, d, l, x⟩ := yyp_steps (exSt [121, 121, 112] 0 2) [104, 101, 108, 108, 111, 32, 119, 10] []
    (exIdle _ _ _) regsWf_default rfl (by decide) (by decide +kernel) ⟨[104, 101, 108, 108, 111, 32, 119], rfl, by decide⟩
  exact ⟨s1, s2, e1, e2, d.pending, l, x⟩

-- `ddP` on row 0 (not the last line)
example : ∃ s1 s2, viStep (exSt [100, 100, 80] 0 2) = Res.ok () s1 ∧ viStep s1 = Res.ok () s2 ∧
    lines s1 = [[98, 10]] ∧ lines s2 = exLines ∧ s2.ed.xrow = 0 := by
  obtain ⟨s1, s2, e1, e2, d, l1, l2, x⟩ := ddP_steps (exSt [100, 100, 80] 0 2) [104, 101, 108, 108, 111, 32, 119, 10] []
    (exIdle _ _ _) regsWf_default rfl (by decide) (by decide) (by decide +kernel) ⟨[104, 101, 108, 108, 111, 32, 119], rfl, by decide⟩
  exact ⟨s1, s2, e1, e2, l1, l2, x⟩

-- `xp` on the `e` of `hello w`: `hlelo w`
example : ∃ s1 s2, viStep (exSt [120, 112] 0 1) = Res.ok () s1 ∧ viStep s1 = Res.ok () s2 ∧
    RowIs (exSt [120, 112] 0 1) s2 [104, 108, 101, 108, 111, 32, 119] ∧ s2.ed.xoff = 2 := by
  obtain ⟨s1, s2, e1, e2, d, l1, l2, x, o⟩ := xp_steps (exSt [120, 112] 0 1) [104] [108, 111, 32, 119] 101 108 []
    (exIdle _ _ _) regsWf_default rfl (exRow _ 1 (by decide))
  exact ⟨s1, s2, e1, e2, l2, o⟩

-- `dwP` on the `h` of `hello w`
example : ∃ s1 s2, viStep (exSt [100, 119, 80] 0 0) = Res.ok () s1 ∧ viStep s1 = Res.ok () s2 ∧
    RowIs (exSt [100, 119, 80] 0 0) s1 [119] ∧ lines s2 = exLines ∧ s2.ed.xoff = 5 := by
  obtain ⟨s1, s2, e1, e2, d, l1, l2, x, o⟩ := dwP_steps (exSt [100, 119, 80] 0 0) exBody 0 6 []
    (exIdle _ _ _) regsWf_default rfl (exRow _ 0 (by decide)) exUtf8 (by decide +kernel) (by decide) (by decide)
  exact ⟨s1, s2, e1, e2, l1, l2, o⟩

/-- the text, the cursor, a register, the keys left after a run of the dispatcher -/
def linesT (r : Res (Option Nat)) : List Bytes := match r with | Res.ok _ s => lines s | _ => []
def cursorT (r : Res (Option Nat)) : Int × Int := match r with | Res.ok _ s => (s.ed.xrow, s.ed.xoff) | _ => (-1, -1)
def regT (r : Res (Option Nat)) (c : Nat) : Option Bytes × Nat := match r with | Res.ok _ s => s.ed.regs.getRaw c | _ => (none, 0)
def pendT (r : Res (Option Nat)) : Bytes := match r with | Res.ok _ s => pending s | _ => []
/-- two iterations of `vi()` -/
def step2 (s : VS) : Res Unit := match viStep s with | Res.ok _ s1 => viStep s1 | r => r
def linesU (r : Res Unit) : List Bytes := match r with | Res.ok _ s => lines s | _ => []
def cursorU (r : Res Unit) : Int × Int := match r with | Res.ok _ s => (s.ed.xrow, s.ed.xoff) | _ => (-1, -1)

/-- the conjecture "`cw` on a non-blank acts like `ce`" (as in POSIX vi) -/
def cw_is_ce : Prop := ∀ (s : VS) (K : Bytes),
  linesT (commandTail { s with typed := 99 :: 119 :: K }) = linesT (commandTail { s with typed := 99 :: 101 :: K })

/-- **refuted**: on `hello w` from the `h`, `cwXY<ESC>` gives `XYw` — the blank after the word goes too, as with `dw` —,
`ceXY<ESC>` gives `XY w`.  (`vc_motion` has no special case for `cw`; the C code neither: `/repo/vi` gives the same two
lines.) -/
theorem cw_is_ce_is_false : ¬ cw_is_ce := by
  intro h
  have := h (exSt [] 0 0) [88, 89, 27]
  revert this
  decide +kernel

/-- the conjecture "`cl` is `s`" -/
def cl_is_s : Prop := ∀ (s : VS) (K : Bytes),
  linesT (commandTail { s with typed := 99 :: 108 :: K }) = linesT (commandTail { s with typed := 115 :: K })

/-- **refuted**: on the last character of a line `l` does not move (never onto the newline), so `clXY<ESC>` on the `w` of
`hello w` inserts before it (`hello XYw`) while `sXY<ESC>` replaces it (`hello XY`); the C code does the same -/
theorem cl_is_s_is_false : ¬ cl_is_s := by
  intro h
  have := h (exSt [] 0 6) [88, 89, 27]
  revert this
  decide +kernel

/-- the conjecture "`ddP` restores the text" without the hypothesis that the line is not the last -/
def ddP_restores : Prop := ∀ (s : VS), Idle s → s.typed = [100, 100, 80] → s.ibuf = [] →
  linesU (step2 s) = lines s

/-- **refuted**: `dd` on the last line moves the cursor up, so `P` puts the line back above the line before it: on
`hello w` / `b` from row 1, `ddP` gives `b` / `hello w` -/
theorem ddP_restores_is_false : ¬ ddP_restores := by
  intro h
  have := h (exSt [100, 100, 80] 1 0) ⟨rfl, rfl, by show nlCount [] ≤ 1; decide⟩ rfl rfl
  revert this
  decide +kernel

-- what they do instead
example : linesT (commandTail (exSt [99, 119, 88, 89, 27] 0 0)) = [[88, 89, 119, 10], [98, 10]] ∧
    linesT (commandTail (exSt [99, 101, 88, 89, 27] 0 0)) = [[88, 89, 32, 119, 10], [98, 10]] ∧
    linesT (commandTail (exSt [99, 108, 88, 89, 27] 0 6)) = [[104, 101, 108, 108, 111, 32, 88, 89, 119, 10], [98, 10]] ∧
    linesT (commandTail (exSt [115, 88, 89, 27] 0 6)) = [[104, 101, 108, 108, 111, 32, 88, 89, 10], [98, 10]] ∧
    linesU (step2 (exSt [100, 100, 80] 1 0)) = [[98, 10], [104, 101, 108, 108, 111, 32, 119, 10]] := by decide +kernel

/-! ### concrete runs (`exSt keys row off`: the buffer `hello w` / `b`; `exU`: `hel` / `aé中b`; `exStAi`: `  hello w` / `b`) -/

def withReg (s : VS) (c : Nat) (t : Bytes) (ln : Nat) : VS := { s with ed := { s.ed with regs := s.ed.regs.put c t ln } }
def retT (r : Res (Option Nat)) : Option (Option Nat) := match r with | Res.ok a _ => some a | _ => none

-- `c$XY<ESC>`, `c0XY<ESC>`, `ctoXY<ESC>`, `c2lXY<ESC>`
example : linesT (commandTail (exSt [99, 36, 88, 89, 27] 0 2)) = [[104, 101, 88, 89, 10], [98, 10]] ∧
    regT (commandTail (exSt [99, 36, 88, 89, 27] 0 2)) 0 = (some [108, 108, 111, 32, 119], 0) ∧
    linesT (commandTail (exSt [99, 48, 88, 89, 27] 0 2)) = [[88, 89, 108, 108, 111, 32, 119, 10], [98, 10]] ∧
    linesT (commandTail (exSt [99, 116, 111, 88, 89, 27] 0 1)) = [[104, 88, 89, 111, 32, 119, 10], [98, 10]] ∧
    linesT (commandTail (exSt [99, 50, 108, 88, 89, 27] 0 1)) = [[104, 88, 89, 108, 111, 32, 119, 10], [98, 10]] := by decide +kernel
-- `2ccXY<ESC>` (both rows), `SXY<ESC>` on row 1, `cjXY<ESC>`, `ckXY<ESC>`
example : linesT (commandTail { exSt [99, 99, 88, 89, 27] 0 2 with arg1 := 2 }) = [[88, 89, 10]] ∧
    regT (commandTail { exSt [99, 99, 88, 89, 27] 0 2 with arg1 := 2 }) 0 = (some [104, 101, 108, 108, 111, 32, 119, 10, 98, 10], 1) ∧
    linesT (commandTail (exSt [83, 88, 89, 27] 1 0)) = [[104, 101, 108, 108, 111, 32, 119, 10], [88, 89, 10]] ∧
    cursorT (commandTail (exSt [83, 88, 89, 27] 1 0)) = (1, 1) ∧
    linesT (commandTail (exSt [99, 106, 88, 89, 27] 0 2)) = [[88, 89, 10]] ∧
    linesT (commandTail (exSt [99, 107, 88, 89, 27] 1 0)) = [[88, 89, 10]] := by decide +kernel
-- `cc` keeps the indentation with `autoindent`, drops it without
example : linesT (commandTail (Props.C08d.exStAi true [99, 99, 88, 89, 27] 3)) = [[32, 32, 88, 89, 10], [98, 10]] ∧
    cursorT (commandTail (Props.C08d.exStAi true [99, 99, 88, 89, 27] 3)) = (0, 3) ∧
    linesT (commandTail (Props.C08d.exStAi false [99, 99, 88, 89, 27] 3)) = [[88, 89, 10], [98, 10]] := by decide +kernel
-- `2sX<ESC>` on the `é` of `aé中b`: the two multi-byte characters go
example : linesT (commandTail { exU [115, 88, 27] 1 1 with arg1 := 2 }) = [[104, 101, 108, 10], [97, 88, 98, 10]] ∧
    regT (commandTail { exU [115, 88, 27] 1 1 with arg1 := 2 }) 0 = (some [195, 169, 228, 184, 173], 0) := by decide +kernel
-- `P` with `AB`; `"1p` with a line; `2p` of `中` after the `é`
example : linesT (commandTail (withReg (exSt [80] 0 2) 0 [65, 66] 0)) = [[104, 101, 65, 66, 108, 108, 111, 32, 119, 10], [98, 10]] ∧
    cursorT (commandTail (withReg (exSt [80] 0 2) 0 [65, 66] 0)) = (0, 3) ∧
    linesT (commandTail { withReg (exSt [112] 1 0) 49 [32, 32, 113, 10] 1 with ybuf := 49 }) =
      [[104, 101, 108, 108, 111, 32, 119, 10], [98, 10], [32, 32, 113, 10]] ∧
    cursorT (commandTail { withReg (exSt [112] 1 0) 49 [32, 32, 113, 10] 1 with ybuf := 49 }) = (2, 2) ∧
    linesT (commandTail { withReg (exU [112] 1 1) 0 [228, 184, 173] 0 with arg1 := 2 }) =
      [[104, 101, 108, 10], [97, 195, 169, 228, 184, 173, 228, 184, 173, 228, 184, 173, 98, 10]] ∧
    cursorT (commandTail { withReg (exU [112] 1 1) 0 [228, 184, 173] 0 with arg1 := 2 }) = (1, 3) := by decide +kernel
-- an empty register: `p` fails and changes nothing
example : retT (commandTail (exSt [112] 0 2)) = some (some 0) ∧ linesT (commandTail (exSt [112] 0 2)) = exLines := by decide +kernel
-- `3~`; `9~` on `aé中b` (only ASCII letters change); `3rx`; `3rx` with two characters left fails
example : linesT (commandTail { exSt [126] 0 0 with arg1 := 3 }) = [[72, 69, 76, 108, 111, 32, 119, 10], [98, 10]] ∧
    cursorT (commandTail { exSt [126] 0 0 with arg1 := 3 }) = (0, 3) ∧
    linesT (commandTail { exU [126] 1 0 with arg1 := 9 }) = [[104, 101, 108, 10], [65, 195, 169, 228, 184, 173, 66, 10]] ∧
    linesT (commandTail { exSt [114, 120] 0 1 with arg1 := 3 }) = [[104, 120, 120, 120, 111, 32, 119, 10], [98, 10]] ∧
    cursorT (commandTail { exSt [114, 120] 0 1 with arg1 := 3 }) = (0, 3) ∧
    retT (commandTail { exSt [114, 120] 0 5 with arg1 := 3 }) = some (some 0) ∧
    linesT (commandTail { exSt [114, 120] 0 5 with arg1 := 3 }) = exLines := by decide +kernel
-- `2>>`, `<j` (no leading blank: nothing changes), `<<` on `  hello w`, `gu$`, `g~~` (the doubled letter: the whole line)
example : linesT (commandTail { exSt [62, 62] 0 5 with arg1 := 2 }) = [[9, 104, 101, 108, 108, 111, 32, 119, 10], [9, 98, 10]] ∧
    cursorT (commandTail { exSt [62, 62] 0 5 with arg1 := 2 }) = (0, 1) ∧
    linesT (commandTail (exSt [60, 106] 0 5)) = exLines ∧
    linesT (commandTail (Props.C08d.exStAi true [60, 60] 3)) = [[32, 104, 101, 108, 108, 111, 32, 119, 10], [98, 10]] ∧
    linesT (commandTail (exSt [103, 117, 36] 0 2)) = exLines ∧
    linesT (commandTail (exSt [103, 126, 126] 0 2)) = [[72, 69, 76, 76, 79, 32, 87, 10], [98, 10]] := by decide +kernel
-- the round trips, run: `yyp`, `ddP`, `xp`, `dwP`
example : linesU (step2 (exSt [121, 121, 112] 0 2)) =
      [[104, 101, 108, 108, 111, 32, 119, 10], [104, 101, 108, 108, 111, 32, 119, 10], [98, 10]] ∧
    cursorU (step2 (exSt [121, 121, 112] 0 2)) = (1, 0) ∧
    linesU (step2 (exSt [100, 100, 80] 0 2)) = exLines ∧ cursorU (step2 (exSt [100, 100, 80] 0 2)) = (0, 0) ∧
    linesU (step2 (exSt [120, 112] 0 1)) = [[104, 108, 101, 108, 111, 32, 119, 10], [98, 10]] ∧
    cursorU (step2 (exSt [120, 112] 0 1)) = (0, 2) ∧
    linesU (step2 (exSt [100, 119, 80] 0 0)) = exLines ∧ cursorU (step2 (exSt [100, 119, 80] 0 0)) = (0, 5) := by decide +kernel

end Examples


end Neatvi.Props.C08g
