import NeatviVerif.Lemmas.C09RespectsCmd
import NeatviVerif.Lemmas.C16d
/-!
# C09: `.` repeats the last change as if its keys were retyped; `N.` retypes it N times; `@r` types
the register

Everything is stated on the model of `term.c` / `vi.c` (`Model/Vi.lean`, `Model/ViCmd.lean`), for all
states.  Vocabulary (defined in `Lemmas/C09Queue.lean`, `Lemmas/C09KeyEq.lean`):

* `pending s = s.ibuf.drop s.ibufPos ++ s.typed`: the key stream the editor is going to see (the
  one-key push-back stack `vibuf` aside);
* `QWf s`: `ibuf_pos ≤ ibuf_cnt`, the invariant of term.c's queue (`qwf_*`: kept by all primitives);
* `cnt1 s = max 1 vi_arg1`: the repeat count;
* `KeyEq s t`: `s` and `t` differ only in how the pending stream is split between pushed keys (`ibuf`)
  and keys of the terminal (`typed`) (`keyEq_iff`); `Respects m`: `m` cannot tell such states apart.

Results:

1. `termRead_pending`, `termPush_pending`, `push_when_drained`: the queue discipline.
2. `repeat_pushes`, `execute_pushes`, `dot_command`, `dot_equals_retyping`: `.`/`N.`/`@r` leave the
   recorded keys (N times) / the register text in front of the remaining keys, when no pushed key is
   still unread.
3. `record_is_keys_read`, `icmd_accumulates`: what is recorded is exactly the keys read since the start
   of the command (count and register prefix included: `viPre` calls `term_cmd` before reading them).
4. `*_keyEq`, `respects_*`, `viStep_keyEq`: every part of an iteration of `vi()` except the `.`/`@`
   branches is insensitive to whether keys were pushed or typed -- so after `.` the editor behaves
   exactly as if the change had been retyped.
5. `push_not_respects`, `dot_in_macro`: the exception.  `term_push` appends *behind* the unread pushed
   keys: a `.` or `@r` executed from inside a macro runs after the rest of the macro, not at its place.  This is the recorded defect
   "`.` inside a macro is appended after the rest of the macro".
-/
namespace Neatvi.Props.C09
open Neatvi Neatvi.Vi Neatvi.Ex Neatvi.Lemmas.C09

/-! ## 1. the queue -/

/-- `term_read` delivers the head of the pending stream, appends it to `icmd` (below the 4096 limit),
keeps the queue invariant, and touches nothing else. -/
theorem termRead_pending (s : VS) (k : Nat) (rest : Bytes) (h : pending s = k :: rest) :
    ∃ s', termRead s = Res.ok (k : Int) s' ∧ pending s' = rest ∧ QWf s' ∧
      s'.icmd = (if s.icmd.length < 4096 then s.icmd ++ [k] else s.icmd) ∧
      { s' with ibuf := s.ibuf, ibufPos := s.ibufPos, typed := s.typed, icmd := s.icmd } = s :=
  Lemmas.C09.termRead_pending s k rest h

/-- no pending key: end of input -/
theorem termRead_pending_nil (s : VS) (h : pending s = []) : termRead s = Res.eof :=
  termRead_eof s h

/-- pushed keys go after the not-yet-read pushed keys and before the terminal's keys -/
theorem termPush_pending (x : Bytes) (s : VS) (hwf : QWf s) :
    ∃ s', termPush x s = Res.ok () s' ∧
      s' = { s with ibuf := s.ibuf ++ x.take (4096 - s.ibuf.length) } ∧
      pending s' = s.ibuf.drop s.ibufPos ++ x.take (4096 - s.ibuf.length) ++ s.typed :=
  Lemmas.C09.termPush_pending x s hwf

/-- pushing equals typing when nothing pushed is pending and there is room -/
theorem push_when_drained (x : Bytes) (s : VS) (hwf : QWf s) (hd : s.ibufPos ≥ s.ibuf.length)
    (hroom : s.ibuf.length + x.length ≤ 4096) :
    ∃ s', termPush x s = Res.ok () s' ∧ s' = { s with ibuf := s.ibuf ++ x } ∧
      pending s' = x ++ s.typed :=
  Lemmas.C09.push_when_drained x s hwf hd hroom

/-- the invariant holds initially and is kept -/
theorem qwf_init (ed : Ed) (keys : Bytes) (rows cols : Int) : QWf (viInit ed keys rows cols) :=
  Nat.le_refl 0
theorem qwf_termRead (s s' : VS) (c : Int) (h : termRead s = Res.ok c s') : QWf s' := Lemmas.C16d.qwf_termRead s s' c h
theorem qwf_termPush (x : Bytes) (s : VS) (h : QWf s) : QWf (push x s) := push_qwf x s h

/-! ## 2. `.`, `N.`, `@r` -/

/-- `vc_repeat` is `max 1 count` pushes of the recorded change.  With the queue drained and room in
`ibuf`, this is typing the change `max 1 count` times; nothing else changes. -/
theorem repeat_pushes (s : VS) :
    vcRepeat s = Res.ok () (pushN (cnt1 s) s.repCmd s) ∧
    (Drained s → s.ibuf.length + cnt1 s * s.repCmd.length ≤ 4096 →
      pending (pushN (cnt1 s) s.repCmd s) = (List.replicate (cnt1 s) s.repCmd).flatten ++ s.typed ∧
      pushN (cnt1 s) s.repCmd s = { s with ibuf := s.ibuf ++ (List.replicate (cnt1 s) s.repCmd).flatten }) :=
  ⟨vcRepeat_eq s, fun hd hr => ⟨pending_pushN_drained _ _ _ hd hr, pushN_room _ _ _ hr⟩⟩

/-- without the drained hypothesis (queue invariant and room only): the copies are inserted between the
unread pushed keys and the terminal's keys -/
theorem repeat_pushes_general (s : VS) (hwf : QWf s)
    (hroom : s.ibuf.length + cnt1 s * s.repCmd.length ≤ 4096) :
    pending (pushN (cnt1 s) s.repCmd s) =
      s.ibuf.drop s.ibufPos ++ (List.replicate (cnt1 s) s.repCmd).flatten ++ s.typed :=
  pending_pushN_room _ _ _ hwf hroom

/-- `@r`: after the register name `r` (a plain name: not `\`, `@`, ESC, ^C) has been read from the key
stream, the register's text (as a C string) is queued `max 1 count` times in front of the remaining
keys, provided no pushed key is unread after `r` and `ibuf` has room. -/
theorem execute_pushes (s : VS) (r : Nat) (rest buf : Bytes)
    (hv : s.vibuf = []) (hp : pending s = r :: rest)
    (h92 : r ≠ 92) (h64 : r ≠ 64) (h27 : r ≠ 27) (h3 : r ≠ 3)
    (hreg : regGet s.ed r = some buf)
    (hd : s.ibuf.length ≤ s.ibufPos + 1)
    (hroom : max 1 s.ibuf.length + cnt1 s * (buf.takeWhile (· != 0)).length ≤ 4096) :
    ∃ s1 s', termRead s = Res.ok (r : Int) s1 ∧ vcExecute s = Res.ok () s' ∧
      pending s' = (List.replicate (cnt1 s) (buf.takeWhile (· != 0))).flatten ++ rest ∧
      s' = { s1 with execReg := (r : Int),
                     ibuf := s1.ibuf ++ (List.replicate (cnt1 s) (buf.takeWhile (· != 0))).flatten } := by
  obtain ⟨ib, h1, hl⟩ := termRead_ok_drained s r rest hp hd
  obtain ⟨s1, h1', -, hx⟩ := vcExecute_eq s r rest buf hv hp h92 h64 h27 h3 hreg
  rw [h1] at h1'
  injection h1' with _ hs
  subst hs
  refine ⟨_, _, h1, hx, ?_, ?_⟩
  · rw [pending_pushN_drained _ _ _ (by simp [Drained]) (by simp only []; omega)]
  · rw [pushN_room _ _ _ (by simp only []; omega)]

/-- the whole `.` command inside the command switch of `vi()` -/
theorem dot_command (s : VS) (rest : Bytes) (hv : s.vibuf = [])
    (hp : pending s = 46 :: rest) (hd : s.ibuf.length ≤ s.ibufPos + 1)
    (hroom : max 1 s.ibuf.length + cnt1 s * s.repCmd.length ≤ 4096) :
    ∃ s', commandTail s = Res.ok (some 0) s' ∧
      pending s' = (List.replicate (cnt1 s) s.repCmd).flatten ++ rest ∧
      s'.repCmd = s.repCmd ∧ s'.icmd = [] ∧ s'.vibuf = [] ∧ s'.arg1 = s.arg1 := by
  obtain ⟨ib, h1, hl⟩ := termRead_ok_drained s 46 rest hp hd
  obtain ⟨s1, h1', -, hx⟩ := commandTail_dot s rest hv hp
  rw [h1] at h1'
  injection h1' with _ hs
  subst hs
  obtain ⟨ed', hm⟩ := markSet_eq 94 s.ed.xrow s.ed.xoff
    { s with ibuf := ib, ibufPos := ib.length, typed := rest, icmd := icmdAfter s.icmd 46 }
  have hrep : isRepeatable 46 0 = false := by decide +kernel
  rw [hx]
  simp only [bind_apply, hm, vcRepeat_eq, finRec_eq, hrep, Bool.false_and, Bool.false_eq_true, if_false]
  refine ⟨_, rfl, ?_, ?_, rfl, ?_, ?_⟩
  · show pending (pushN _ _ _) = _
    rw [pending_pushN_drained _ _ _ (by simp [Drained]) (by simp only [cnt1] at hroom ⊢; omega)]
    rfl
  · simp only [cnt1]
    rw [pushN_room _ _ _ (by simp only [cnt1] at hroom ⊢; omega)]
  · rw [pushN_room _ _ _ (by simp only [cnt1] at hroom ⊢; omega)]; exact hv
  · rw [pushN_room _ _ _ (by simp only [cnt1] at hroom ⊢; omega)]

/-- **`.` equals retyping**: the state after the `.` command is `KeyEq` to the state in which the user
typed the recorded change `max 1 count` times at this point -/
theorem dot_equals_retyping (s : VS) (rest : Bytes) (hv : s.vibuf = [])
    (hp : pending s = 46 :: rest) (hd : s.ibuf.length ≤ s.ibufPos + 1)
    (hroom : max 1 s.ibuf.length + cnt1 s * s.repCmd.length ≤ 4096) :
    ∃ s', commandTail s = Res.ok (some 0) s' ∧
      KeyEq s' { s' with ibuf := [], ibufPos := 0,
                         typed := (List.replicate (cnt1 s) s.repCmd).flatten ++ rest } := by
  obtain ⟨s', h1, h2, -⟩ := dot_command s rest hv hp hd hroom
  refine ⟨s', h1, ?_⟩
  have := keyEq_norm s'
  unfold norm at this
  rw [h2] at this
  exact this

/-! ## 3. what is recorded -/

/-- reading the keys `ks` appends exactly `ks` to `icmd` -/
theorem icmd_accumulates (ks rest : Bytes) (s : VS) (hp : pending s = ks ++ rest)
    (hl : s.icmd.length + ks.length ≤ 4096) :
    ∃ s', readKeys ks.length s = Res.ok (ks.map Int.ofNat) s' ∧
      s'.icmd = s.icmd ++ ks ∧ pending s' = rest ∧
      { s' with ibuf := s.ibuf, ibufPos := s.ibufPos, typed := s.typed, icmd := s.icmd } = s :=
  Lemmas.C09.icmd_accumulates ks rest s hp hl

/-- `term_cmd` empties `icmd` and returns it -/
theorem termCmd_resets (s : VS) : termCmd s = Res.ok s.icmd { s with icmd := [] } := rfl

/-- `term_cmd`; the keys `ks` are read; the common tail of the command switch (`finRec`, the local `fin`
of `commandTail`: see `fin_is_finRec_dot`): `rep_cmd = ks` -/
theorem record_is_keys_read (c k : Int) (mod : Nat) (ks rest : Bytes) (s : VS)
    (hp : pending s = ks ++ rest) (hl : ks.length + 1 < 4096) (hr : isRepeatable c k = true) :
    ∃ s', recordRun c k mod ks.length s = Res.ok (some mod) s' ∧
      s'.repCmd = ks ∧ s'.icmd = [] ∧ pending s' = rest ∧
      (46 < s.ed.regs.buf.length → regGet s'.ed 46 = some (ks.takeWhile (· != 0))) :=
  Lemmas.C09.record_is_keys_read c k mod ks rest s hp hl hr

/-- `finRec` is the tail the model's `commandTail` runs (shown on the `.` and `@` branches) -/
theorem fin_is_finRec_dot (s : VS) (rest : Bytes) (hv : s.vibuf = []) (hp : pending s = 46 :: rest) :
    ∃ s1, termRead s = Res.ok 46 s1 ∧ pending s1 = rest ∧
      commandTail s = (do markSet 94 s.ed.xrow s.ed.xoff; vcRepeat; finRec 46 0 0 : M (Option Nat)) s1 :=
  commandTail_dot s rest hv hp

theorem fin_is_finRec_at (s : VS) (rest : Bytes) (hv : s.vibuf = []) (hp : pending s = 64 :: rest) :
    ∃ s1, termRead s = Res.ok 64 s1 ∧ pending s1 = rest ∧
      commandTail s = (do markSet 94 s.ed.xrow s.ed.xoff; vcExecute; finRec 64 0 0 : M (Option Nat)) s1 :=
  commandTail_at s rest hv hp

/-- what `finRec` does -/
theorem finRec_spec (c k : Int) (mod : Nat) (s : VS) :
    finRec c k mod s = Res.ok (some mod)
      (if isRepeatable c k && s.icmd.length + 1 < 4096 then
        { s with icmd := [], repCmd := s.icmd,
                 ed := { s.ed with regs := s.ed.regs.put 46 (s.icmd.takeWhile (· != 0)) 0 } }
       else { s with icmd := [] }) :=
  finRec_eq c k mod s

/-! ## 4. pushed or typed: the editor cannot tell -/

theorem termRead_keyEq (s t : VS) (h : KeyEq s t) : RelRes (termRead s) (termRead t) :=
  Lemmas.C09.termRead_keyEq s t h
theorem viRead_keyEq (s t : VS) (h : KeyEq s t) : RelRes (viRead s) (viRead t) :=
  respects_viRead s t h
theorem viBack_keyEq (c : Int) (s t : VS) (h : KeyEq s t) : RelRes (viBack c s) (viBack c t) :=
  respects_viBack c s t h
theorem termCmd_keyEq (s t : VS) (h : KeyEq s t) : RelRes (termCmd s) (termCmd t) :=
  Lemmas.C09.termCmd_keyEq s t h

/-- closure of `Respects` under the monad operations and the primitives -/
theorem respects_closure :
    (∀ {α : Type} (a : α), Respects (pure a : M α)) ∧
    (∀ {α β : Type} {m : M α} {f : α → M β}, Respects m → (∀ a, Respects (f a)) → Respects (m >>= f)) ∧
    Respects termRead ∧ Respects viRead ∧ (∀ c, Respects (viBack c)) ∧ Respects termCmd ∧
    (∀ {f : VS → VS}, QueueFree f → Respects (Vi.modify f)) ∧
    (∀ {β : Type} {f : VS → M β}, (∀ s, f s = f (norm s)) → (∀ s, Respects (f s)) →
      Respects (Vi.get >>= f)) :=
  ⟨respects_pure, respects_bind, respects_termRead, respects_viRead, respects_viBack, respects_termCmd,
    respects_modify, respects_get_bind⟩

/-- the readers of vi.c / led.c -/
theorem respects_readers :
    Respects viYankbuf ∧ Respects viPrefix ∧ Respects viChar ∧ (∀ c k, Respects (readCharS c k)) ∧
    (∀ p q a n i e, Respects (ledLine p q a n i e)) ∧ (∀ e, Respects (viPrompt e)) ∧
    (∀ r c, Respects (viMotionln r c)) ∧ (∀ r o, Respects (viMotion r o)) ∧
    (∀ c n r o, Respects (viSearch c n r o)) :=
  ⟨respects_viYankbuf, respects_viPrefix, respects_viChar, respects_readCharS, respects_ledLine,
    respects_viPrompt, respects_viMotionln, respects_viMotion, respects_viSearch⟩

/-- the commands and the parts of an iteration of `vi()` -/
theorem respects_commands :
    (∀ c, Respects (vcMotion c)) ∧ (∀ c, Respects (vcInsert c)) ∧ (∀ c, Respects (vcPut c)) ∧
    Respects vcJoin ∧ Respects vcReplace ∧ (∀ l, Respects (exCommandV l)) ∧
    Respects viPre ∧ (∀ m r o, Respects (motionTail m r o)) ∧ (∀ c, Respects (viPost c)) ∧
    (∀ c k m, Respects (finRec c k m)) :=
  ⟨respects_vcMotion, respects_vcInsert, respects_vcPut, respects_vcJoin, respects_vcReplace,
    respects_exCommandV, respects_viPre, respects_motionTail, respects_viPost, respects_finRec⟩

/-- the command switch, for every command key but `.` and `@` -/
theorem commandTail_keyEq (s t : VS) (h : KeyEq s t)
    (hk : ∀ s', viRead s ≠ Res.ok 46 s' ∧ viRead s ≠ Res.ok 64 s') :
    RelRes (commandTail s) (commandTail t) :=
  Lemmas.C09.commandTail_keyEq s t h hk

/-- a whole iteration of `vi()`, unless it is the command `.` or `@` -/
theorem viStep_keyEq (s t : VS) (h : KeyEq s t)
    (hk : ∀ r s1 s2, viPre s = Res.ok r s1 → r.1 = 0 →
      viRead s1 ≠ Res.ok 46 s2 ∧ viRead s1 ≠ Res.ok 64 s2) :
    RelRes (viStep s) (viStep t) :=
  Lemmas.C09.viStep_keyEq s t h hk

/-! ## 5. the exception: `term_push` -/

/-- `term_push` does not respect `KeyEq`: on states that differ only in whether the pending key `b` was
pushed or typed, pushing `a` gives `b a` resp. `a b` -/
theorem push_not_respects : ∃ (s t : VS) (x : Bytes), KeyEq s t ∧ QWf s ∧ QWf t ∧
    ∃ s' t', termPush x s = Res.ok () s' ∧ termPush x t = Res.ok () t' ∧ pending s' ≠ pending t' :=
  Lemmas.C09.push_not_respects

theorem termPush_not_respects : ¬ ∀ x, Respects (termPush x) := by
  intro h
  have := h [97] (exPushed {}) (exTyped {}) (exPushed_keyEq_exTyped _)
  rw [termPush_eq, termPush_eq] at this
  generalize ({} : Ed) = ed at this
  cases this with
  | ok _ _ _ h' => exact push_differs ed h'.pending

/-- `get` with a continuation that inspects `ibuf` does not respect `KeyEq` either -/
theorem get_not_respects : ¬ Respects (Vi.get >>= fun s => (pure s.ibuf.length : M Nat)) := by
  intro h
  have := h (exPushed {}) (exTyped {}) (exPushed_keyEq_exTyped _)
  generalize ({} : Ed) = ed at this
  simp only [bind_apply, Vi.get, pure_apply, exPushed, exTyped] at this
  cases this

/-- **`.` inside a macro**: in general the recorded change is queued behind the unread pushed keys
`s1.ibuf.drop s1.ibufPos` (the rest of the macro), not at the place of the `.` -/
theorem dot_in_macro (s : VS) (rest : Bytes) (hv : s.vibuf = [])
    (hp : pending s = 46 :: rest)
    (hroom : max 1 s.ibuf.length + cnt1 s * s.repCmd.length ≤ 4096) :
    ∃ s1 s', termRead s = Res.ok 46 s1 ∧ commandTail s = Res.ok (some 0) s' ∧
      pending s' = s1.ibuf.drop s1.ibufPos ++ (List.replicate (cnt1 s) s.repCmd).flatten ++ s1.typed ∧
      s1.ibuf.drop s1.ibufPos ++ s1.typed = rest ∧
      s'.repCmd = s.repCmd ∧ s'.icmd = [] := by
  obtain ⟨ib, ip, ty, h1, h2, h3, h4, h5⟩ := termRead_ok s 46 rest hp
  obtain ⟨s1, h1', -, hx⟩ := commandTail_dot s rest hv hp
  rw [h1] at h1'
  injection h1' with _ hs
  subst hs
  have hlen : ib.length ≤ max 1 s.ibuf.length := by
    by_cases hn : s.ibuf.length ≤ s.ibufPos
    · rw [(h5 hn).1]; simp; omega
    · rw [(h4 (by omega)).1]; omega
  obtain ⟨ed', hm⟩ := markSet_eq 94 s.ed.xrow s.ed.xoff
    { s with ibuf := ib, ibufPos := ip, typed := ty, icmd := icmdAfter s.icmd 46 }
  have hrep : isRepeatable 46 0 = false := by decide +kernel
  rw [hx]
  simp only [bind_apply, hm, vcRepeat_eq, finRec_eq, hrep, Bool.false_and, Bool.false_eq_true, if_false]
  refine ⟨_, _, h1, rfl, ?_, h2, ?_, rfl⟩
  · show pending (pushN _ _ _) = _
    rw [pending_pushN_room _ _ _ (by simp [QWf]; exact h3) (by simp only [cnt1] at hroom ⊢; omega)]
    rfl
  · simp only [cnt1]
    rw [pushN_room _ _ _ (by simp only [cnt1] at hroom ⊢; omega)]

/-! ## 6. examples -/

section Examples
variable (ed : Ed) (typed : Bytes)

private theorem max10 : (max (1 : Int) 0).toNat = 1 := by decide
private theorem max13 : (max (1 : Int) 3).toNat = 3 := by decide

/-- `.` after a recorded `x`, typed at the terminal: the next keys are `x` and then what follows -/
example : ∃ s', commandTail { ed := ed, repCmd := [120], typed := 46 :: typed } = Res.ok (some 0) s' ∧
    pending s' = [120] ++ typed ∧ s'.repCmd = [120] := by
  obtain ⟨s', h1, h2, h3, -⟩ := dot_command { ed := ed, repCmd := [120], typed := 46 :: typed } typed rfl
    (by simp [pending]) (by simp) (by simp [cnt1, max10])
  exact ⟨s', h1, by simpa [cnt1, max10] using h2, h3⟩

/-- `3.` -/
example : ∃ s', commandTail { ed := ed, repCmd := [120], arg1 := 3, typed := 46 :: typed }
      = Res.ok (some 0) s' ∧ pending s' = [120, 120, 120] ++ typed := by
  obtain ⟨s', h1, h2, -⟩ := dot_command { ed := ed, repCmd := [120], arg1 := 3, typed := 46 :: typed }
    typed rfl (by simp [pending]) (by simp) (by simp [cnt1, max13])
  exact ⟨s', h1, by simpa [cnt1, max13, List.replicate] using h2⟩

/-- `vc_repeat` alone -/
example : ∃ s', vcRepeat { ed := ed, repCmd := [120], typed := typed } = Res.ok () s' ∧
    pending s' = [120] ++ typed := by
  refine ⟨_, vcRepeat_eq _, ?_⟩
  simp [cnt1, max10, pushN, push, pending]

/-- the defect: the macro `. j` (pushed by `@r`) with `x` recorded runs `j` before `x` -/
example : ∃ s', commandTail { ed := ed, repCmd := [120], ibuf := [46, 106], typed := typed }
      = Res.ok (some 0) s' ∧ pending s' = [106, 120] ++ typed := by
  obtain ⟨s1, s', h1, h2, h3, -⟩ := dot_in_macro
    { ed := ed, repCmd := [120], ibuf := [46, 106], typed := typed } (106 :: typed) rfl
    (by simp [pending]) (by simp [cnt1, max10])
  have e1 : termRead { ed := ed, repCmd := [120], ibuf := [46, 106], typed := typed }
      = Res.ok 46 { ed := ed, repCmd := [120], ibuf := [46, 106], ibufPos := 1, icmd := [46], typed := typed } := by
    simp [termRead]
  rw [e1] at h1
  injection h1 with _ hs
  subst hs
  exact ⟨s', h2, by simpa [cnt1, max10] using h3⟩

/-- the hypotheses of `record_is_keys_read` are satisfiable: the keys `2 d w` recorded for `d` -/
example : ∃ s', recordRun 100 0 16 3 { ed := ed, typed := [50, 100, 119] ++ typed } = Res.ok (some 16) s' ∧
    s'.repCmd = [50, 100, 119] ∧ pending s' = typed := by
  obtain ⟨s', h1, h2, -, h4, -⟩ := record_is_keys_read 100 0 16 [50, 100, 119] typed
    { ed := ed, typed := [50, 100, 119] ++ typed } (by simp [pending]) (by simp) (by decide +kernel)
  exact ⟨s', h1, h2, h4⟩

end Examples

end Neatvi.Props.C09
