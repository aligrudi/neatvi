import NeatviVerif.Lemmas.C09bCount
/-!
# C09b: `.`, `N.`, `@r`, `N@r`, `@@` over WHOLE RUNS of the editor

`Props/C09.lean` proves the one-step facts on the key queue of term.c.  This file lifts them to runs:
`iterate n s` (`Lemmas/ViRun.lean`) is the state after `n` iterations of the `while (!xquit)` loop of `vi()`
(`none`: the keys ran out inside a command, or the model trapped).

Vocabulary (`Lemmas/C09bRel.lean`, `C09bRun.lean`, `C09bMain.lean`, `C09bMore.lean`):

* `Inv s`: `ibuf_pos ≤ ibuf_cnt`, `rep_len + 1 < 4096`, `icmd_pos ≤ 4096` (`inv_reachable`: hold in every state
  the editor reaches).
* `K s t`: `KeyEq s t` (C09: `s` and `t` differ only in how the pending keys are split between pushed keys
  `ibuf` and keys of the terminal `typed`), `Inv s`, and: `t` has no more unread pushed keys than `s` and no
  less room in `ibuf`.  `RelO` lifts `K` to the outcome of a run (`none` with `none`).  `sim_fields`: what
  `K` says about text, cursor, registers.
* `pushOk s n x`: no pushed key is unread in `s` and `ibuf` has room for `n` copies of `x`.
  `stepOk s : Bool` is **the proviso** at the iteration that starts in `s`: *if that iteration is the
  command `.` or `@`, then `pushOk` holds at the moment of the push* (after the command key and, for `@`, the
  register name have been read).  It is computed by running the model, so it is decidable.  `runOk n s`: the
  proviso at each of the first `n` iterations.  `proviso_needed`: without it the statements are false (the
  recorded finding `dot_inside_macro_queued_after_rest`).
* `retype s keys`: the state `s` with nothing pushed and `keys` waiting at the terminal ("the user types `keys`
  at this point").
* `EdStep 2 ed ed'`: what the iteration that executes `.` / `@` itself does to `ed`: registers and text are
  kept, the sequence number of the buffer goes up by 2 (the mark `^`, the window and `xleft` may change).

Results:

1. `run_keeps_sim`, `run_pushed_or_typed`: a whole run cannot tell pushed keys from typed keys, under the
   proviso.  `inv_reachable`: the invariants, without proviso.
2. `dot_run_general`, `dot_run`, `count_dot_run`, `decimal_count_dot_run`: after the iteration that executes `.` / `N.` the run continues
   exactly (up to `K`) as the run in which the user types the recorded keys (`N` times) at that point.
   `count_dot_keeps_recorded_count`: `3.` after `2x` is `2x2x2x` — the recorded count is *kept*, not replaced
   (`count_replaces_recorded_count_is_false`).
3. `at_run_general`, `at_run`, `count_at_run`, `decimal_count_at_run`, `atat_run`: the same for `@r`, `N@r`, `@@`.
4. `dots_replaced_run`: composition — any number of `.` / `@`, each on a drained queue: the run equals the run in
   which each has been replaced by its keys in the user's input (`iterateT`).
5. `dot_iteration_not_pure_substitution`: the strict reading of "`.` = retyping" (the state after the `.`
   iteration is the state before it with other keys) is false: the iteration bumps the buffer's sequence
   number.  `dot_retyped_observable_full` (stated, not proved): text, cursor and registers agree.
6. the 4 KiB buffers: `long_command_not_recorded`, `short_command_recorded_whole`, `icmd_saturates`,
   `push_truncates`; `dot_run` needs no room hypothesis because `rep_cmd` and `ibuf` have the same size.
-/
namespace Neatvi.Props.C09b
open Neatvi Neatvi.Vi Neatvi.Ex Neatvi.Lemmas.C09 Neatvi.Lemmas.C09b
open Neatvi.Props.C05c (iterate)

/-! ## 0. the relation and the invariants -/

/-- **what the simulation relation means for the user**: `K`-related states have the same `ed` — text,
cursor, registers, marks, undo history, every buffer —, the same sticky column, recorded change, `@@`
register, counts, and the same keys still to be read. -/
theorem sim_fields (a b : VS) (h : K a b) :
    a.ed = b.ed ∧ lines a = lines b ∧ a.ed.xrow = b.ed.xrow ∧ a.ed.xoff = b.ed.xoff ∧
    a.ed.regs = b.ed.regs ∧ a.xcol = b.xcol ∧ a.repCmd = b.repCmd ∧ a.execReg = b.execReg ∧
    a.arg1 = b.arg1 ∧ a.arg2 = b.arg2 ∧ a.icmd = b.icmd ∧ a.vibuf = b.vibuf ∧ pending a = pending b :=
  h.fields

/-- related outcomes of a run: both runs stop (`none`) or both reach `K`-related states -/
theorem relO_cases (o o' : Option VS) (h : RelO o o') :
    (o = none ∧ o' = none) ∨ ∃ a b, o = some a ∧ o' = some b ∧ K a b :=
  Lemmas.C09b.relO_cases o o' h

/-- a state is related to itself and to the state with everything pending typed at the terminal -/
theorem sim_refl_norm (s : VS) (h : Inv s) : K s s ∧ K s (retype s (pending s)) := ⟨K.refl h, K.norm h⟩

/-- the invariants hold initially -/
theorem inv_initial (ed : Ed) (keys : Bytes) (rows cols : Int) : Inv (viInit ed keys rows cols) :=
  inv_viInit ed keys rows cols

/-- **in every state the editor reaches** (no proviso): `ibuf_pos ≤ ibuf_cnt`; the recorded change with its
terminator fits the 4096 bytes of `rep_cmd`; at most 4096 keys are remembered since `term_cmd()` -/
theorem inv_reachable (ed : Ed) (keys : Bytes) (rows cols : Int) (n : Nat) (s : VS)
    (h : iterate n (viInit ed keys rows cols) = some s) :
    s.ibufPos ≤ s.ibuf.length ∧ s.repCmd.length + 1 < 4096 ∧ s.icmd.length ≤ 4096 :=
  let i := reachable_inv ed keys rows cols n s h
  ⟨i.wf, i.rep, i.icm⟩

/-- the invariants are kept by every run, from any state -/
theorem inv_run (n : Nat) (s s' : VS) (h : Inv s) (hr : iterate n s = some s') : Inv s' :=
  run_inv n s s' h hr

/-! ## 1. whole runs cannot tell pushed keys from typed keys -/

/-- what the proviso says at an iteration that is a command (`viPre` returned `mv = 0`): if the command key
is `.`, no pushed key is unread and there is room for `max 1 count` copies of the recorded change; if it
is `@` and `vc_execute()` is going to push `x` `n` times, likewise for that -/
theorem proviso_meaning (s s1 : VS) (r o : Int) (hp : viPre s = Res.ok (0, r, o) s1) (hok : stepOk s = true)
    (c : Int) (s2 : VS) (hr : viRead s1 = Res.ok c s2) :
    (c = 46 → s2.ibuf.length ≤ s2.ibufPos ∧ max 1 s2.ibuf.length + cnt1 s2 * s2.repCmd.length ≤ 4096) ∧
    (c = 64 → ∀ n x s3, execHead (marked s2) = Res.ok (some (n, x)) s3 →
      s3.ibuf.length ≤ s3.ibufPos ∧ max 1 s3.ibuf.length + n * x.length ≤ 4096) := by
  obtain ⟨h1, h2⟩ := stepOk_spec s s1 r o hp hok c s2 hr
  exact ⟨fun e => (pushOk_iff _ _ _).mp (h1 e), fun e n x s3 he => (pushOk_iff _ _ _).mp (h2 e n x s3 he)⟩

/-- a `.` typed at the terminal (nothing pushed is unread) always satisfies the proviso: the recorded
change is shorter than `ibuf` -/
theorem proviso_dot_typed (s : VS) (rest : Bytes) (hinv : Inv s) (hv : s.vibuf = [])
    (hd : s.ibuf.length ≤ s.ibufPos) (ht : s.typed = 46 :: rest) : stepOk s = true := by
  have hpre := viPre_typed s 46 (Or.inl rfl) rest hv hd ht
  have hrep := hinv.rep
  unfold stepOk
  rw [hpre]
  simp [viRead, pushOk, cnt1, afterKey, max10]
  omega

/-- **one iteration of `vi()` keeps the simulation relation** under the proviso — for every command,
including `.` and `@` -/
theorem step_keeps_sim (s t : VS) (h : K s t) (hok : stepOk s = true) : RelK (viStep s) (viStep t) :=
  viStep_K s t h (Or.inl hok)

/-- **a whole run keeps the simulation relation**: two runs that start in `K`-related states go through
`K`-related states, for as many iterations as the proviso holds along the first one, and stop together -/
theorem run_keeps_sim (n : Nat) (s t : VS) (h : K s t) (hok : runOk n s = true) :
    RelO (iterate n s) (iterate n t) :=
  run_K n s t h (Or.inl hok)

/-- **pushed or typed, a whole run cannot tell**: the run from `s` and the run from the state in which all
pending keys are at the terminal agree after every number of iterations -/
theorem run_pushed_or_typed (n : Nat) (s : VS) (h : Inv s) (hok : runOk n s = true) :
    RelO (iterate n s) (iterate n (retype s (pending s))) :=
  run_norm n s h hok

/-! ## 2. `.` and `N.` -/

/-- **`.` over a whole run, general form.**  Let the iteration that starts in `s` be the command `.` with
any register / count prefix: `viPre` returned `mv = 0` and the command key read in `s1` is `.`; `s2` is the
state after that key, `cnt1 s2 = max 1 count`.  If no pushed key is unread in `s2` and there is room, then
the iteration ends in a state `s'` whose pending keys are the recorded change `max 1 count` times followed
by the rest of the input; `ed` has only been touched as `EdStep 2` says; and for every `k` for which the
proviso holds along the run from `s'`, the state after `k + 1` iterations from `s` is `K`-related to the
state after `k` iterations from `retype s' (those keys)`. -/
theorem dot_run_general (s s1 s2 : VS) (r o : Int) (hinv : Inv s)
    (hpre : viPre s = Res.ok (0, r, o) s1) (hkey : viRead s1 = Res.ok 46 s2)
    (hok : pushOk s2 (cnt1 s2) s2.repCmd = true) (hout : nlCount s2.ed.out ≤ 1) :
    ∃ s', viStep s = Res.ok () s' ∧ Inv s' ∧
      pending s' = (List.replicate (cnt1 s2) s2.repCmd).flatten ++ s2.typed ∧
      s'.repCmd = s2.repCmd ∧ EdStep 2 s2.ed s'.ed ∧
      ∀ k, runOk k s' = true →
        RelO (iterate (k + 1) s)
          (iterate k (retype s' ((List.replicate (cnt1 s2) s2.repCmd).flatten ++ s2.typed))) :=
  dot_run_sem s s1 s2 r o hinv hpre hkey hok hout

/-- **`dot_run`: `.` typed at the terminal.**  `s`: any state at the start of an iteration with the
invariants, an empty push-back stack, no unread pushed key, no `[enter to continue]` pending, and `.`
followed by `rest` at the terminal.  Then the iteration ends in `s'` with the recorded change followed by
`rest` pending, and the run goes on as if the user had typed the recorded change there.  (No room hypothesis:
`rep_cmd` is not longer than `ibuf`.) -/
theorem dot_run (s : VS) (rest : Bytes) (hinv : Inv s) (hv : s.vibuf = [])
    (hd : s.ibuf.length ≤ s.ibufPos) (ht : s.typed = 46 :: rest) (hout : nlCount s.ed.out ≤ 1) :
    ∃ s', viStep s = Res.ok () s' ∧ Inv s' ∧ pending s' = s.repCmd ++ rest ∧
      s'.repCmd = s.repCmd ∧ EdStep 2 s.ed s'.ed ∧
      ∀ k, runOk k s' = true → RelO (iterate (k + 1) s) (iterate k (retype s' (s.repCmd ++ rest))) :=
  Lemmas.C09b.dot_run s rest hinv hv hd ht hout

/-- hence: same text, cursor and registers after every further iteration -/
theorem dot_run_same_text (s : VS) (rest : Bytes) (hinv : Inv s) (hv : s.vibuf = [])
    (hd : s.ibuf.length ≤ s.ibufPos) (ht : s.typed = 46 :: rest) (hout : nlCount s.ed.out ≤ 1) :
    ∃ s', viStep s = Res.ok () s' ∧ ∀ k a, runOk k s' = true → iterate (k + 1) s = some a →
      ∃ b, iterate k (retype s' (s.repCmd ++ rest)) = some b ∧ a.ed = b.ed ∧ lines a = lines b ∧
        a.ed.xrow = b.ed.xrow ∧ a.ed.xoff = b.ed.xoff ∧ a.ed.regs = b.ed.regs := by
  obtain ⟨s', h1, -, -, -, -, h6⟩ := dot_run s rest hinv hv hd ht hout
  refine ⟨s', h1, fun k a hk ha => ?_⟩
  have := h6 k hk
  rw [ha] at this
  obtain ⟨b, hb, hkab⟩ := relO_some_inv this
  obtain ⟨f1, f2, f3, f4, f5, -⟩ := hkab.fields
  exact ⟨b, hb, f1, f2, f3, f4, f5⟩

/-- **`count_dot_run`: `d.`** (`d` a digit 1..9; for a general count see `dot_run_general`): the recorded
change — with its own count and register prefix — `d` times -/
theorem count_dot_run (s : VS) (d : Nat) (rest : Bytes) (hinv : Inv s) (hv : s.vibuf = [])
    (hd : s.ibuf.length ≤ s.ibufPos) (hd1 : 49 ≤ d) (hd2 : d ≤ 57) (ht : s.typed = d :: 46 :: rest)
    (hout : nlCount s.ed.out ≤ 1) (hroom : 1 + (d - 48) * s.repCmd.length ≤ 4096) :
    ∃ s', viStep s = Res.ok () s' ∧ Inv s' ∧
      pending s' = (List.replicate (d - 48) s.repCmd).flatten ++ rest ∧
      s'.repCmd = s.repCmd ∧ EdStep 2 s.ed s'.ed ∧
      ∀ k, runOk k s' = true →
        RelO (iterate (k + 1) s) (iterate k (retype s' ((List.replicate (d - 48) s.repCmd).flatten ++ rest))) :=
  Lemmas.C09b.count_dot_run s d rest hinv hv hd hd1 hd2 ht hout hroom

/-- **`N.` for a decimal count `N`** written with up to nine digits `d0 ds` (`d0` in 1..9; `decVal` is the
number they denote, `isDigit d`: `48 ≤ d ≤ 57`): the recorded change `N` times.  (With `N * length` beyond the
room of `ibuf` the pushes are truncated: `push_truncates`.) -/
theorem decimal_count_dot_run (s : VS) (d0 : Nat) (ds : List Nat) (rest : Bytes) (hinv : Inv s)
    (hv : s.vibuf = []) (hd : s.ibuf.length ≤ s.ibufPos) (hd1 : 49 ≤ d0) (hd2 : d0 ≤ 57)
    (hds : ∀ d ∈ ds, isDigit d) (hlen : ds.length + 1 ≤ 9) (ht : s.typed = d0 :: (ds ++ 46 :: rest))
    (hout : nlCount s.ed.out ≤ 1) (hroom : 1 + (decVal (d0 :: ds)).toNat * s.repCmd.length ≤ 4096) :
    ∃ s', viStep s = Res.ok () s' ∧ Inv s' ∧
      pending s' = (List.replicate (decVal (d0 :: ds)).toNat s.repCmd).flatten ++ rest ∧
      s'.repCmd = s.repCmd ∧ EdStep 2 s.ed s'.ed ∧
      ∀ k, runOk k s' = true →
        RelO (iterate (k + 1) s)
          (iterate k (retype s' ((List.replicate (decVal (d0 :: ds)).toNat s.repCmd).flatten ++ rest))) :=
  decimal_dot_run s d0 ds rest hinv hv hd hd1 hd2 hds hlen ht hout hroom

/-- **`3.` after `2x` is `2x2x2x`**: `N.` repeats the recorded keys, count included, `N` times (vi would
run `3x`) -/
theorem count_dot_keeps_recorded_count (ed : Ed) (rest : Bytes) (hout : nlCount ed.out ≤ 1) :
    ∃ s', viStep { ed := ed, repCmd := [50, 120], typed := 51 :: 46 :: rest } = Res.ok () s' ∧
      pending s' = [50, 120, 50, 120, 50, 120] ++ rest :=
  Lemmas.C09b.count_dot_keeps_recorded_count ed rest hout

/-- the vi reading "the count of `N.` replaces the recorded count" is false for neatvi -/
theorem count_replaces_recorded_count_is_false :
    ¬ (∀ (s : VS) (rest : Bytes), Inv s → s.vibuf = [] → s.ibuf.length ≤ s.ibufPos →
        s.typed = 51 :: 46 :: rest → s.repCmd = [50, 120] → nlCount s.ed.out ≤ 1 →
        ∀ s', viStep s = Res.ok () s' → pending s' = [51, 120] ++ rest) :=
  Lemmas.C09b.count_replaces_recorded_count_is_false

/-! ## 3. `@r`, `N@r`, `@@` -/

/-- **`@` over a whole run, general form**: the iteration is the command `@` (any prefix), `vc_execute()`
read the register name (`execHead`, from the state after `lbuf_mark`) and is going to push `x` `n` times —
`x` is the register's text up to its first NUL, `n = max 1 count` —, no pushed key is unread then and
there is room.  Same conclusion as `dot_run_general`, with `x` `n` times. -/
theorem at_run_general (s s1 s2 s3 : VS) (r o : Int) (n : Nat) (x : Bytes) (hinv : Inv s)
    (hpre : viPre s = Res.ok (0, r, o) s1) (hkey : viRead s1 = Res.ok 64 s2)
    (hhead : execHead (marked s2) = Res.ok (some (n, x)) s3)
    (hok : pushOk s3 n x = true) (hout : nlCount s3.ed.out ≤ 1) :
    ∃ s', viStep s = Res.ok () s' ∧ Inv s' ∧
      pending s' = (List.replicate n x).flatten ++ s3.typed ∧ s'.execReg = s3.execReg ∧
      EdStep 2 s3.ed s'.ed ∧
      ∀ k, runOk k s' = true →
        RelO (iterate (k + 1) s) (iterate k (retype s' ((List.replicate n x).flatten ++ s3.typed))) :=
  at_run_sem s s1 s2 s3 r o n x hinv hpre hkey hhead hok hout

/-- **`at_run`: `@r` typed at the terminal**, `r` a plain register name (not `\`, `@`, ESC, ^C) holding `buf`:
the run goes on as if the user had typed the register's text (as a C string); `r` is remembered for `@@` -/
theorem at_run (s : VS) (r : Nat) (rest buf : Bytes) (hinv : Inv s) (hv : s.vibuf = [])
    (hd : s.ibuf.length ≤ s.ibufPos) (ht : s.typed = 64 :: r :: rest)
    (h92 : r ≠ 92) (h64 : r ≠ 64) (h27 : r ≠ 27) (h3 : r ≠ 3)
    (hreg : regGet s.ed r = some buf) (hout : nlCount s.ed.out ≤ 1)
    (hroom : 1 + (buf.takeWhile (· != 0)).length ≤ 4096) :
    ∃ s', viStep s = Res.ok () s' ∧ Inv s' ∧ pending s' = buf.takeWhile (· != 0) ++ rest ∧
      s'.execReg = (r : Int) ∧ EdStep 2 s.ed s'.ed ∧
      ∀ k, runOk k s' = true →
        RelO (iterate (k + 1) s) (iterate k (retype s' (buf.takeWhile (· != 0) ++ rest))) :=
  Lemmas.C09b.at_run s r rest buf hinv hv hd ht h92 h64 h27 h3 hreg hout hroom

/-- **`d@r`** (`d` a digit 1..9): the register's text `d` times -/
theorem count_at_run (s : VS) (d r : Nat) (rest buf : Bytes) (hinv : Inv s) (hv : s.vibuf = [])
    (hd : s.ibuf.length ≤ s.ibufPos) (hd1 : 49 ≤ d) (hd2 : d ≤ 57) (ht : s.typed = d :: 64 :: r :: rest)
    (h92 : r ≠ 92) (h64 : r ≠ 64) (h27 : r ≠ 27) (h3 : r ≠ 3)
    (hreg : regGet s.ed r = some buf) (hout : nlCount s.ed.out ≤ 1)
    (hroom : 1 + (d - 48) * (buf.takeWhile (· != 0)).length ≤ 4096) :
    ∃ s', viStep s = Res.ok () s' ∧ Inv s' ∧
      pending s' = (List.replicate (d - 48) (buf.takeWhile (· != 0))).flatten ++ rest ∧
      s'.execReg = (r : Int) ∧ EdStep 2 s.ed s'.ed ∧
      ∀ k, runOk k s' = true →
        RelO (iterate (k + 1) s)
          (iterate k (retype s' ((List.replicate (d - 48) (buf.takeWhile (· != 0))).flatten ++ rest))) :=
  Lemmas.C09b.count_at_run s d r rest buf hinv hv hd hd1 hd2 ht h92 h64 h27 h3 hreg hout hroom

/-- **`N@r` for a decimal count `N`** of up to nine digits: the register's text `N` times -/
theorem decimal_count_at_run (s : VS) (d0 : Nat) (ds : List Nat) (r : Nat) (rest buf : Bytes) (hinv : Inv s)
    (hv : s.vibuf = []) (hd : s.ibuf.length ≤ s.ibufPos) (hd1 : 49 ≤ d0) (hd2 : d0 ≤ 57)
    (hds : ∀ d ∈ ds, isDigit d) (hlen : ds.length + 1 ≤ 9) (ht : s.typed = d0 :: (ds ++ 64 :: r :: rest))
    (h92 : r ≠ 92) (h64 : r ≠ 64) (h27 : r ≠ 27) (h3 : r ≠ 3)
    (hreg : regGet s.ed r = some buf) (hout : nlCount s.ed.out ≤ 1)
    (hroom : 1 + (decVal (d0 :: ds)).toNat * (buf.takeWhile (· != 0)).length ≤ 4096) :
    ∃ s', viStep s = Res.ok () s' ∧ Inv s' ∧
      pending s' = (List.replicate (decVal (d0 :: ds)).toNat (buf.takeWhile (· != 0))).flatten ++ rest ∧
      s'.execReg = (r : Int) ∧ EdStep 2 s.ed s'.ed ∧
      ∀ k, runOk k s' = true →
        RelO (iterate (k + 1) s)
          (iterate k (retype s' ((List.replicate (decVal (d0 :: ds)).toNat (buf.takeWhile (· != 0))).flatten ++ rest))) :=
  decimal_at_run s d0 ds r rest buf hinv hv hd hd1 hd2 hds hlen ht h92 h64 h27 h3 hreg hout hroom

/-- **`@@`**: the register executed by the last `@` (`execReg ≥ 0`) -/
theorem atat_run (s : VS) (rest buf : Bytes) (hinv : Inv s) (hv : s.vibuf = [])
    (hd : s.ibuf.length ≤ s.ibufPos) (ht : s.typed = 64 :: 64 :: rest)
    (h0 : 0 ≤ s.execReg) (hreg : regGet s.ed s.execReg.toNat = some buf) (hout : nlCount s.ed.out ≤ 1)
    (hroom : 1 + (buf.takeWhile (· != 0)).length ≤ 4096) :
    ∃ s', viStep s = Res.ok () s' ∧ Inv s' ∧ pending s' = buf.takeWhile (· != 0) ++ rest ∧
      s'.execReg = s.execReg ∧ EdStep 2 s.ed s'.ed ∧
      ∀ k, runOk k s' = true →
        RelO (iterate (k + 1) s) (iterate k (retype s' (buf.takeWhile (· != 0) ++ rest))) :=
  Lemmas.C09b.atat_run s rest buf hinv hv hd ht h0 hreg hout hroom

/-! ## 4. composition -/

/-- **any number of `.` / `@`, each on a drained queue**: the run equals (up to `K`, after every number of
iterations) the run `iterateT` in which, after each iteration, whatever was pushed is moved to the
terminal side — i.e. each `.` / `@` is replaced, at its place in the user's input, by the keys it stands for -/
theorem dots_replaced_run (n : Nat) (s : VS) (h : Inv s) (hok : runOk n s = true) :
    RelO (iterate n s) (iterateT n (retype s (pending s))) :=
  run_retyped n s (Lemmas.C09.norm s) (K.norm h) hok

/-- in the replaced run no iteration starts with pushed keys: every `.` / `@` in it is executed on a
drained queue -/
theorem replaced_run_never_pushes (n : Nat) (s s' : VS) (keys : Bytes)
    (h : iterateT n (retype s keys) = some s') : s'.ibuf = [] ∧ s'.ibufPos = 0 :=
  iterateT_drained n (retype s keys) s' ⟨rfl, rfl⟩ h

/-! ## 5. the proviso is needed; the strict reading is false -/

/-- **the proviso is needed** (the finding `dot_inside_macro_queued_after_rest`): with the macro `. j`
pushed and `x` recorded, the iteration that executes `.` violates the proviso and leaves `j x` pending; with
`. j` typed at the terminal it leaves `x j`.  The two runs are `KeyEq` before and not after. -/
theorem proviso_needed (ed : Ed) (hout : nlCount ed.out ≤ 1) :
    KeyEq (exMacro ed) (retype (exMacro ed) (pending (exMacro ed))) ∧
    stepOk (exMacro ed) = false ∧
    ∃ s' t', iterate 1 (exMacro ed) = some s' ∧
      iterate 1 (retype (exMacro ed) (pending (exMacro ed))) = some t' ∧
      pending s' = [106, 120] ∧ pending t' = [120, 106] ∧ ¬ KeyEq s' t' :=
  ⟨keyEq_norm _, Lemmas.C09b.proviso_needed ed hout⟩

/-- **the strict reading of "`.` equals retyping" is false** whenever there is a buffer: the state after
the iteration that executes `.` is *not* the state before it with the recorded keys in place of the `.` —
`lbuf_modified()` has run twice (`useq + 2`; also the mark `^`, `vi_arg1`, `icmd` are those of the `.`
command).  The runs compared in `dot_run` therefore start after that iteration. -/
theorem dot_iteration_not_pure_substitution (s : VS) (rest : Bytes) (hinv : Inv s) (hv : s.vibuf = [])
    (hd : s.ibuf.length ≤ s.ibufPos) (ht : s.typed = 46 :: rest) (hout : nlCount s.ed.out ≤ 1)
    (hlb : s.ed.lb.isSome = true) (hq : s.ed.xquit = false) :
    ∃ s', viStep s = Res.ok () s' ∧ ¬ KeyEq s' (retype s (s.repCmd ++ rest)) ∧
      s'.ed.lb.map (·.useq) = (s.ed.lb.map (·.useq)).map (· + 2) :=
  Lemmas.C09b.dot_iteration_not_pure_substitution s rest hinv hv hd ht hout hlb hq

/-- a state the editor reaches -/
def Reachable (s : VS) : Prop := ∃ ed keys rows cols n, iterate n (viInit ed keys rows cols) = some s

/-- **stated, not proved**: the literal form of C09 on the observable part of the state.  For a reachable
state with a recorded change, the run on `. rest` after `k + 1` iterations and the run on `recorded rest`
after `k` iterations show the same text, cursor and registers (they differ in the sequence numbers of the
undo history, see `dot_iteration_not_pure_substitution`).  Proving it needs a relation "equal up to a
monotone renumbering of `useq`" carried through every command, `ex` commands included; the evaluation of
the model on examples (`2x3.` against `2x2x2x2x`, …) agrees with it. -/
def dot_retyped_observable_full : Prop :=
  ∀ (s : VS) (rest : Bytes) (k : Nat), Reachable s → s.vibuf = [] → s.ibuf.length ≤ s.ibufPos →
    s.repCmd ≠ [] → s.typed = 46 :: rest → nlCount s.ed.out ≤ 1 → s.ed.xquit = false →
    runOk (k + 1) s = true →
    match iterate (k + 1) s, iterate k { s with typed := s.repCmd ++ rest } with
    | some a, some b => lines a = lines b ∧ a.ed.xrow = b.ed.xrow ∧ a.ed.xoff = b.ed.xoff ∧
        a.ed.regs = b.ed.regs
    | none, none => True
    | _, _ => False

/-! ## 6. the 4 KiB buffers -/

/-- **a command of 4095 keys or more is not recorded at all** (not truncated): `term_cmd`, the keys `ks`
are read, the command finishes — `rep_cmd`, register `.` (all of `ed`) are as before, so `.` repeats the
change recorded earlier -/
theorem long_command_not_recorded (c k : Int) (mod : Nat) (ks rest : Bytes) (s : VS)
    (hp : pending s = ks ++ rest) (hl : 4096 ≤ ks.length + 1) :
    ∃ s', recordRun c k mod ks.length s = Res.ok (some mod) s' ∧
      s'.repCmd = s.repCmd ∧ s'.ed = s.ed ∧ s'.icmd = [] ∧ pending s' = rest := by
  obtain ⟨ib, ip, ty, e1, e2⟩ := readKeys_sat ks rest { s with icmd := [] } hp (by simp)
  simp only [List.nil_append] at e1
  have hlen : 4096 ≤ (ks.take 4096).length + 1 := by
    rw [List.length_take]; omega
  refine ⟨{ s with ibuf := ib, ibufPos := ip, typed := ty, icmd := [] }, ?_, rfl, rfl, rfl, e2⟩
  simp only [recordRun, bind_apply, termCmd_eq, e1]
  rw [finRec_long _ _ _ _ hlen]

/-- the same at the tail of the command switch -/
theorem long_command_tail (c k : Int) (mod : Nat) (s : VS) (h : 4096 ≤ s.icmd.length + 1) :
    finRec c k mod s = Res.ok (some mod) { s with icmd := [] } :=
  finRec_long c k mod s h

/-- **below the limit nothing is truncated**: a repeatable command of fewer than 4095 keys is recorded
whole (C09 `record_is_keys_read`) -/
theorem short_command_recorded_whole (c k : Int) (mod : Nat) (ks rest : Bytes) (s : VS)
    (hp : pending s = ks ++ rest) (hl : ks.length + 1 < 4096) (hr : isRepeatable c k = true) :
    ∃ s', recordRun c k mod ks.length s = Res.ok (some mod) s' ∧ s'.repCmd = ks ∧ pending s' = rest := by
  obtain ⟨s', h1, h2, -, h4, -⟩ := record_is_keys_read c k mod ks rest s hp hl hr
  exact ⟨s', h1, h2, h4⟩

/-- `icmd` keeps the first 4096 keys read since `term_cmd()`; later keys are not remembered -/
theorem icmd_saturates (ks rest : Bytes) (s : VS) (hp : pending s = ks ++ rest) (hl : s.icmd.length ≤ 4096) :
    ∃ s', readKeys ks.length s = Res.ok (ks.map Int.ofNat) s' ∧
      s'.icmd = (s.icmd ++ ks).take 4096 ∧ pending s' = rest := by
  obtain ⟨ib, ip, ty, h1, h2⟩ := readKeys_sat ks rest s hp hl
  exact ⟨_, h1, rfl, h2⟩

/-- **`term_push` without room**: of the `n` copies of `x` only what fits in the 4096 bytes of `ibuf` is
queued — `N.` / `N@r` with `N * length` beyond the room run a truncated key sequence -/
theorem push_truncates (n : Nat) (x : Bytes) (s : VS) :
    pushN n x s = { s with ibuf := s.ibuf ++ ((List.replicate n x).flatten).take (4096 - s.ibuf.length) } := by
  induction n generalizing s with
  | zero => simp [pushN]
  | succ n ih =>
    rw [pushN, ih]
    simp only [push, List.replicate_succ, List.flatten_cons, List.length_append, List.length_take,
      List.append_assoc, List.take_append]
    congr 2
    congr 1
    by_cases h : x.length ≤ 4096 - s.ibuf.length
    · rw [Nat.min_eq_right h]
      congr 1
      omega
    · have h' : 4096 - s.ibuf.length ≤ x.length := by omega
      rw [Nat.min_eq_left h']
      rw [show 4096 - (s.ibuf.length + (4096 - s.ibuf.length)) = 0 by omega,
        show 4096 - s.ibuf.length - x.length = 0 by omega]

/-! ## 7. the hypotheses are satisfiable -/

section Examples

/-- a state with a one-line buffer, `x` recorded, and `. j` at the terminal -/
def exDot : VS := { ed := exBuf, repCmd := [120], typed := [46, 106] }

theorem exDot_out : nlCount exDot.ed.out ≤ 1 := by
  show nlCount [] ≤ 1
  decide

/-- `dot_run` applies to `exDot`: after `.` the keys `x j` are pending -/
example : ∃ s', viStep exDot = Res.ok () s' ∧ pending s' = [120, 106] := by
  obtain ⟨s', h1, -, h3, -⟩ := dot_run exDot [106] ⟨Nat.zero_le _, by decide, by decide⟩ rfl
    (Nat.le_refl 0) rfl exDot_out
  exact ⟨s', h1, h3⟩

/-- `exDot` with the `.` pushed as the last key of a macro (`@r` has been read before) and `j` at the terminal -/
def exDotPushed : VS := { ed := exBuf, repCmd := [120], ibuf := [64, 46], ibufPos := 1, typed := [106] }

theorem inv_exDotPushed : Inv exDotPushed :=
  ⟨by show 1 ≤ 2; decide, by show 1 + 1 < 4096; decide, Nat.zero_le _⟩

/-- the proviso holds at that iteration: once the `.` has been read nothing pushed is unread -/
theorem stepOk_exDotPushed : stepOk exDotPushed = true := by
  obtain ⟨ib, ip, ty, hpre, -, -, h4, -⟩ := viPre_cmdkey exDotPushed 46 (Or.inl rfl) [106] rfl rfl
  obtain ⟨e1, e2, e3⟩ := h4 (by show 1 < 2; decide)
  rw [e1, e2, e3] at hpre
  unfold stepOk
  rw [hpre]
  simp [viRead, pushOk, cnt1, exDotPushed, max10]

/-- the hypotheses of `run_keeps_sim` / `step_keeps_sim` with `n = 1`: the pushed and the typed variant are
`K`-related and the proviso holds along the first iteration of the pushed one -/
example : K exDotPushed exDot ∧ stepOk exDotPushed = true ∧ runOk 1 exDotPushed = true := by
  refine ⟨K.norm inv_exDotPushed, stepOk_exDotPushed, ?_⟩
  unfold runOk
  rw [stepOk_exDotPushed]
  cases viStep exDotPushed <;> rfl

/-- `decimal_count_dot_run`: `12.` with `x` recorded leaves twelve `x` and then `j` pending -/
example (ed : Ed) (hout : nlCount ed.out ≤ 1) :
    ∃ s', viStep { ed := ed, repCmd := [120], typed := [49, 50, 46, 106] } = Res.ok () s' ∧
      pending s' = List.replicate 12 120 ++ [106] := by
  obtain ⟨s', h1, -, h3, -⟩ := decimal_count_dot_run { ed := ed, repCmd := [120], typed := [49, 50, 46, 106] }
    49 [50] [106] ⟨Nat.zero_le _, by show 1 + 1 < 4096; decide, Nat.zero_le _⟩ rfl (Nat.le_refl 0) (by decide)
    (by decide) (by intro d hd; rw [List.mem_singleton.mp hd]; exact ⟨by decide, by decide⟩) (by decide) rfl hout
    (by rw [decVal_example]; show 1 + 12 * 1 ≤ 4096; decide)
  refine ⟨s', h1, ?_⟩
  rw [h3, decVal_example]
  rfl

/-- `at_run`: register `a` holds `x j` -/
example (ed : Ed) (hout : nlCount ed.out ≤ 1) (hreg : regGet ed 97 = some [120, 106]) :
    ∃ s', viStep { ed := ed, typed := [64, 97, 107] } = Res.ok () s' ∧ pending s' = [120, 106, 107] ∧
      s'.execReg = 97 := by
  obtain ⟨s', h1, -, h3, h4, -⟩ := at_run { ed := ed, typed := [64, 97, 107] } 97 [107] [120, 106]
    ⟨Nat.zero_le _, by show 0 + 1 < 4096; decide, Nat.zero_le _⟩ rfl (Nat.le_refl 0) rfl (by decide) (by decide)
    (by decide) (by decide) hreg hout (by decide)
  exact ⟨s', h1, h3, h4⟩

/-- `dot_iteration_not_pure_substitution` applies to `exDot` -/
example : ∃ s', viStep exDot = Res.ok () s' ∧ ¬ KeyEq s' (retype exDot ([120] ++ [106])) := by
  obtain ⟨s', h1, h2, -⟩ := dot_iteration_not_pure_substitution exDot [106]
    ⟨Nat.zero_le _, by decide, by decide⟩ rfl (Nat.le_refl 0) rfl exDot_out exBuf_lb rfl
  exact ⟨s', h1, h2⟩

/-- `long_command_not_recorded`: 4095 keys `a` after `i` -/
example (ed : Ed) : ∃ s', recordRun 105 0 0 4095 { ed := ed, repCmd := [120], typed := List.replicate 4095 97 }
      = Res.ok (some 0) s' ∧ s'.repCmd = [120] := by
  obtain ⟨s', h1, h2, -⟩ := long_command_not_recorded 105 0 0 (List.replicate 4095 97) []
    { ed := ed, repCmd := [120], typed := List.replicate 4095 97 }
    (by show [] ++ List.replicate 4095 97 = List.replicate 4095 97 ++ []; rw [List.append_nil]; rfl)
    (by rw [List.length_replicate]; decide)
  rw [List.length_replicate] at h1
  exact ⟨s', h1, h2⟩

end Examples

end Neatvi.Props.C09b
