import NeatviVerif.Lemmas.C09cFinal
/-!
# C09c: `.` against retyping on the *observable* state — equality up to a monotone renumbering of `useq`

`Props/C09b.lean` leaves one statement open (`dot_retyped_observable_full`): the run on `. rest` and the run on
`recorded rest` show the same text, cursor and registers.  Strict equality of the states is false (the `.` iteration
bumps the undo sequence counter twice, sets the mark `^`); the numbers `lbuf.c` stamps on undo records are however
only ever *compared*.  This file

1. defines **equality up to a monotone renumbering of the sequence numbers** (`LbRel`, `EdRel`, `Sim`) and shows that
   it is exactly that: a renumbering that preserves the order of the numbers that occur — hence the groups of equal
   numbers `u` / `^R` undo together — gives a related buffer (`renumbering_is_related`); related buffers order and
   group their numbers alike and the counter is the largest number on both sides (`related_numbers`);
2. proves that **every operation of `lbuf.c`** (`lbuf_respects`), **every `ex` command line** (`ex_command_respects`,
   for every fuel: all handlers, `:g`, `:@`, `:e +cmd`, the buffer table) and **every iteration of `vi()`**
   (`vi_step_respects`: motions, operators, insert mode, `u`, `^R`, `:`, `.`, `@`) maps related states to related
   states, hence whole runs do (`run_respects`) — no proviso: the key queues of related states are equal;
3. reads the same traversal unarily: the numbers of every buffer stay below its counter (`seq_numbers_bounded`), and
   between two commands those of the current buffer lie strictly below (`between_commands`);
4. concludes **`dot_retyped_observable`**: from a state between two commands, with nothing pushed unread and `.` typed,
   the run on `. rest` after `k + 1` iterations and the run on `recorded rest` after `k` iterations stop together or
   end in states whose `ed` are related: same text, cursor, window, registers, dirty flag, buffer table, marks — except
   that for `k = 0` (right after the `.`, before the retyped command has run) the mark `^` may differ
   (`caret_differs_after_dot`: it does) — and undo histories equal up to the renumbering;
5. shows that the statement of C09b is **false as stated** (`dot_retyped_observable_full_is_false`): its `Reachable`
   starts from an arbitrary `ed`, and an undo record numbered *above* the counter makes `u` after `.` undo less than
   `u` after the retyped command.  No run of the editor produces such a record (item 3); on the real editor `.`
   followed by `u` undoes exactly what the retyped command followed by `u` does (checked on `/repo/vi` with
   `x.u`/`xxu`, `dw.uu`/`dwdwuu`, `2x3.u`/`2x2x2x2xu`, `ihello<esc>.u`, `xj.kuu`/`xjxkuu`, `x.u^R`, `ddp.uu`/`ddppuu`).
   `dot_retyped_between_commands` is the form with the hypotheses on the numbers discharged (`between_commands`).

Vocabulary (`Lemmas/C09cRel.lean`, `C09cDot.lean`, `C09cFirst.lean`):
`SeqP a b p`: `p = (n, n')` is a pair of corresponding sequence numbers of the line buffers `a`, `b` (the counters
`useq`, `useq_zero`, `useq_last`, the `seq` of the `i`-th undo records); `LbRel w a b`: `a` and `b` agree in everything
but these numbers (with `w = true`: and but the mark `^`), the pairs are ordered alike and lie below the counters;
`EdRel w a b`: every field of the `ex` state but the buffer table equal, the tables related slot by slot (`w` concerns
the current buffer); `Sim w s t`: `EdRel w` on `ed`, every other field of the `vi` state equal.
`Rel2 w E m m'`: the computations `m`, `m'` map `Sim w`-related states to the same outcome — both out of keys, both
trapped, or the same value in `Sim w`-related states (`E`: an escape for the motions that read an exempt mark).
`DotSeqOk ed`: the numbers of every buffer lie below its counter, those of the current buffer strictly;
`DotSettled s rest`: the iteration that executes `.` moves neither cursor nor window (`vi_wfix()` finds nothing to
fix); `Settled s`: the same as a condition on `s` alone (`dot_settled_of_settled`); `cmdFirst t`: the iteration that starts in `t` is a command (`viPre` finds no motion, the command key is
positive) — all three decidable.
-/
namespace Neatvi.Props.C09c
open Neatvi Neatvi.Lbuf Neatvi.LbufIo Neatvi.Ex Neatvi.Vi
open Neatvi.Lemmas.C09c
open Neatvi.Lemmas.C09b (Inv runOk retype)
open Neatvi.Props.C05c (iterate)

export Neatvi.Lemmas.C09c (SeqP LbRel EdRel Sim SeqOk SeqStrict EdSeqOk DotSeqOk DotSettled Settled cmdFirst Rel2 RR
  NoEsc RRel ORel PRel renumber SeqVal dotState typedAt)

/-! ## 1. the relation is "equal up to a monotone renumbering" -/

/-- **sufficiency.**  Replace every sequence number `n` of a line buffer (the counter, `useq_zero`, `useq_last`, the
numbers of the undo records) by `f n`, where `f` preserves the order of the numbers that occur (`x ≤ y ↔ f x ≤ f y`:
monotone *and* injective on them, so groups of equal numbers stay groups and distinct groups stay distinct).  If the
numbers lie below the counter, the result is related to the original. -/
theorem renumbering_is_related (f : Nat → Nat) (a : Lb) (hok : SeqOk a)
    (hf : ∀ x y, SeqVal a x → SeqVal a y → (x ≤ y ↔ f x ≤ f y)) : LbRel false a (renumber f a) := by
  have key : ∀ p, SeqP a (renumber f a) p → SeqVal a p.1 ∧ p.2 = f p.1 := by
    intro p hp
    rcases hp with rfl | rfl | rfl | hp
    · exact ⟨Or.inl rfl, rfl⟩
    · exact ⟨Or.inr (Or.inl rfl), rfl⟩
    · exact ⟨Or.inr (Or.inr (Or.inl rfl)), rfl⟩
    · obtain ⟨e, he, rfl⟩ := hp_map f a.hist p hp
      exact ⟨Or.inr (Or.inr (Or.inr ⟨e, he, rfl⟩)), rfl⟩
  have hle : ∀ x, SeqVal a x → x ≤ a.useq := by
    intro x hx
    obtain ⟨h1, h2, h3⟩ := hok
    rcases hx with rfl | rfl | rfl | ⟨e, he, rfl⟩
    · exact Nat.le_refl _
    · exact h1
    · exact h2
    · exact h3 e he
  refine ⟨rfl, rfl, rfl, fun _ => rfl, fun _ => rfl, rfl, rfl, rfl, all2_map f a.hist, ?_, ?_⟩
  · intro p q hp hq
    obtain ⟨p1, p2⟩ := key p hp
    obtain ⟨q1, q2⟩ := key q hq
    rw [p2, q2]
    exact hf _ _ p1 q1
  · intro p hp
    obtain ⟨p1, p2⟩ := key p hp
    refine ⟨hle _ p1, ?_⟩
    rw [p2]
    exact (hf _ _ p1 (Or.inl rfl)).mp (hle _ p1)

/-- **necessity.**  In related line buffers corresponding numbers are ordered alike, equal numbers correspond to equal
numbers (the grouping `u` / `^R` use), and the counters are the largest numbers — so the next number handed out is new
on both sides. -/
theorem related_numbers (w : Bool) (a b : Lb) (h : LbRel w a b) (p q : Nat × Nat) (hp : SeqP a b p) (hq : SeqP a b q) :
    (p.1 ≤ q.1 ↔ p.2 ≤ q.2) ∧ (p.1 = q.1 ↔ p.2 = q.2) ∧ p.1 ≤ a.useq ∧ p.2 ≤ b.useq :=
  ⟨h.ord p q hp hq, h.eq_iff hp hq, (h.top p hp).1, (h.top p hp).2⟩

/-- everything else is equal: lines, glob marks, marks, undo position, the saved flag, and the undo records but for
`seq` -/
theorem related_fields (a b : Lb) (h : LbRel false a b) :
    a.lines = b.lines ∧ a.glob = b.glob ∧ a.mark = b.mark ∧ a.markOff = b.markOff ∧ a.histU = b.histU ∧
    a.unsaved = b.unsaved ∧ a.hist.length = b.hist.length ∧
    ∀ (i : Nat) (e e' : Entry), a.hist[i]? = some e → b.hist[i]? = some e' →
      e.pos = e'.pos ∧ e.nIns = e'.nIns ∧ e.nDel = e'.nDel ∧ e.ins = e'.ins ∧ e.del = e'.del ∧ e.marks = e'.marks := by
  refine ⟨h.lines, h.glob, h.mark_eq, h.markOff_eq, h.histU, h.unsaved, h.hist.length_eq, fun i e e' h1 h2 => ?_⟩
  rcases h.hist.getElem? i with ⟨r1, _⟩ | ⟨x, y, r1, r2, hr⟩
  · rw [r1] at h1; cases h1
  · rw [r1] at h1; rw [r2] at h2; cases h1; cases h2
    exact ⟨hr.pos, hr.nIns, hr.nDel, hr.ins, hr.del, hr.marks⟩

/-- a line buffer is related to itself exactly when its numbers lie below its counter; likewise for whole states -/
theorem related_refl (a : Lb) : LbRel false a a ↔ SeqOk a := ⟨fun h => h.seqOk_left, fun h => LbRel.refl h false⟩

theorem sim_refl (s : VS) (h : EdSeqOk s.ed) : Sim false s s := Sim.refl h false

/-- **what two related states show alike**: the text of the current buffer, the cursor, the registers (all of them),
the dirty flag, the names of all buffers in table order, the window; and — without the exemption `w` — all marks -/
theorem related_observables (w : Bool) (a b : Ed) (h : EdRel w a b) :
    a.lb.map (·.lines) = b.lb.map (·.lines) ∧ a.xrow = b.xrow ∧ a.xoff = b.xoff ∧ a.regs = b.regs ∧
    a.lb.map (fun l => (modified l).1) = b.lb.map (fun l => (modified l).1) ∧
    a.bufs.map (Option.map (·.path)) = b.bufs.map (Option.map (·.path)) ∧ a.xtop = b.xtop ∧ a.xleft = b.xleft ∧
    (w = false → a.lb.map (·.mark) = b.lb.map (·.mark) ∧ a.lb.map (·.markOff) = b.lb.map (·.markOff)) :=
  h.observables

/-! ## 2. every operation respects the relation -/

/-- **`lbuf.c`**: `lbuf_mark`, `lbuf_jump`, `lbuf_replace`, `lbuf_opt` (a new undo record takes the counter's value),
`lbuf_edit`, `lbuf_undo` and `lbuf_redo` (which undo / redo the *group* of records carrying one number: both sides
undo the same records), `lbuf_modified` (bumps the counter; the dirty flags, a comparison of two numbers, agree),
`lbuf_saved`, `lbuf_unsaved`, the glob marks, `lbuf_cp`, `lbuf_rd` -/
theorem lbuf_respects (a b : Lb) (h : LbRel false a b) :
    (∀ c p o, LbRel false (setMark a c p o) (setMark b c p o)) ∧ (∀ c, jump a c = jump b c) ∧
    (∀ s pos n, ORel (LbRel false) (replace a s pos n) (replace b s pos n)) ∧
    (∀ buf pos n, LbRel false (opt a buf pos n) (opt b buf pos n)) ∧
    (∀ buf x y, ORel (LbRel false) (Lbuf.edit a buf x y) (Lbuf.edit b buf x y)) ∧
    ORel (PRel (LbRel false)) (Lbuf.undo a) (Lbuf.undo b) ∧ ORel (PRel (LbRel false)) (Lbuf.redo a) (Lbuf.redo b) ∧
    ((modified a).1 = (modified b).1 ∧ LbRel false (modified a).2 (modified b).2) ∧
    (∀ c, LbRel false (savedCore a c) (savedCore b c)) ∧ LbRel false (unsavedMark a) (unsavedMark b) ∧
    (∀ p d, LbRel false (globSet a p d) (globSet b p d)) ∧
    (∀ p d, (globGet a p d).1 = (globGet b p d).1 ∧ LbRel false (globGet a p d).2 (globGet b p d).2) ∧
    (∀ x y, cp a x y = cp b x y) ∧
    (∀ chunks fe x y, ORel (PRel (LbRel false)) (rd a chunks fe x y) (rd b chunks fe x y)) :=
  ⟨fun c p o => setMark_rel h c p o, jump_rel h, replace_rel h, opt_rel h, edit_rel h, undo_rel h, redo_rel h,
    modified_rel h, savedCore_rel h, unsavedMark_rel h, globSet_rel h, globGet_rel h, cp_rel h, rd_rel h⟩

/-- **the `ex` layer**: `ex_command(ln)` on related states fails on both or returns the same code in related states
— for every command line and every fuel: all handlers of the dispatcher, `|`-lists, `:g` / `:v`, `:@`, `:e +cmd`,
`:w`, `:q`, `:b`, the buffer table (`bufs_switch` bumps the counter of the buffer that is left) -/
theorem ex_command_respects (f : Nat) (a b : Ed) (h : EdRel false a b) (ln : Bytes) :
    RRel (exCommand f a ln) (exCommand f b ln) := exCommand_rel_all f h ln

/-- the dispatcher, handler by handler -/
theorem ex_handler_respects (f : Nat) (a b : Ed) (h : EdRel false a b) (hd : String) (loc cmd arg : Bytes)
    (txt : Option Bytes) : RRel (runCmd f a hd loc cmd arg txt) (runCmd f b hd loc cmd arg txt) :=
  (all_rel f).2.2.1 a b hd loc cmd arg txt h

/-- **one iteration of `vi()`** on related states: both runs are out of keys, both trap, or both end in related
states — every motion, operator, insert, put, join, replace, scroll, `u`, `^R`, `:` (the `ex` layer), `.`, `@` -/
theorem vi_step_respects (s t : VS) (h : Sim false s t) :
    (∃ s' t', viStep s = Res.ok () s' ∧ viStep t = Res.ok () t' ∧ Sim false s' t') ∨
    (viStep s = Res.eof ∧ viStep t = Res.eof) ∨ (viStep s = Res.trap ∧ viStep t = Res.trap) := by
  rcases (rel2_viStep s t h).noEsc_cases with ⟨a, s', t', r1, r2, h'⟩ | h' | h'
  · exact Or.inl ⟨s', t', r1, r2, h'⟩
  · exact Or.inr (Or.inl h')
  · exact Or.inr (Or.inr h')

/-- **whole runs**: after `n` iterations both runs have stopped, or the states are related -/
theorem run_respects (n : Nat) (s t : VS) (h : Sim false s t) : ORel (Sim false) (iterate n s) (iterate n t) := by
  rcases Lemmas.C09.runs_rel (R := Lemmas.C09.GSim QEq (BufsRel false)) (C := fun _ _ _ => True) (p := id) (run := iterate) (run' := iterate)
      (fun _ => rfl) (fun _ => rfl) (fun _ _ => rfl) (fun _ _ => rfl)
      (fun _ s t h _ => Lemmas.C09.g2_viStep qsim_eq bsimS_rel qpush_eq s t h)
      (fun _ _ _ _ _ _ h _ _ _ => ⟨h, trivial⟩) n s t (sim_iff.2 h) trivial with ⟨s', t', e1, e2, h'⟩ | ⟨e1, e2⟩
  · rw [e1, e2]; exact sim_iff.1 h'
  · rw [e1, e2]; trivial

/-! ## 3. the unary reading: the numbers stay below the counters -/

/-- in every state a run reaches from a state whose sequence numbers lie below the counters (e.g. an empty buffer
table, or buffers made by `lbuf_make`), the sequence numbers of every buffer lie below its counter -/
theorem seq_numbers_bounded (n : Nat) (s s' : VS) (h : EdSeqOk s.ed) (hr : iterate n s = some s') : EdSeqOk s'.ed :=
  Props.C05c.iterate_keeps (P := fun s => EdSeqOk s.ed) (fun _ u _ h h1 => seqOk_viStep h (by cases u; exact h1)) n s s' h hr

/-- a fresh line buffer, and an empty buffer table, have the property -/
theorem seq_numbers_initial : SeqOk Lbuf.make ∧ ∀ ed : Ed, ed.bufs = List.replicate Gen.NBUFS none → EdSeqOk ed :=
  ⟨seqOk_make, edSeqOk_empty⟩

/-- **between two commands** — after an iteration of `vi()` that went through its end (a motion or a command was
executed: `stepMid` returned `some mod`; the editor is not quitting) — the numbers of the current buffer lie
*strictly* below its counter (the last thing the iteration did was `lbuf_modified(xb)`, twice), those of the other
buffers below theirs, and no output is waiting: two of the hypotheses of `dot_retyped_observable` -/
theorem between_commands (s0 s1 X s : VS) (mv r o : Int) (mod : Nat) (h0 : EdSeqOk s0.ed)
    (hpre : viPre s0 = Res.ok (mv, r, o) s1) (hmid : Lemmas.C09b.stepMid mv r o s1 = Res.ok (some mod) X)
    (hq : X.ed.xquit = false) (hs : viStep s0 = Res.ok () s) : DotSeqOk s.ed ∧ s.ed.out = [] := by
  have h1 : EdSeqOk s1.ed := keeps_seqOk rel2_viPre h0 hpre
  have hX : EdSeqOk X.ed := keeps_seqOk (rel2_stepMid (E := NoEsc) mv r o) h1 hmid
  rw [Lemmas.C09b.viStep_eq_mid, Lemmas.C07.bind_apply, hpre] at hs
  simp only [] at hs
  rw [Lemmas.C07.bind_apply, hmid] at hs
  obtain ⟨Y, hy, e⟩ := viPost_end mod X s hq hX hs
  subst e
  have hy' : EdSeqOk ({ Y.ed with out := [] } : Ed) := hy
  exact ⟨dotSeqOk_bump2 hy', by show (bumpEd (bumpEd _)).out = []; rw [bumpEd_out, bumpEd_out]⟩

/-! ## 4. `.` against retyping -/

/-- **the iteration that executes `.`**, as a function of the state: the recorded keys are pushed; in `ed` the mark
`^` is set, `vi_wfix()` and the horizontal scroll run, pending output is dropped, the counter is bumped twice -/
theorem dot_iteration (s : VS) (rest : Bytes) (hinv : Inv s) (hv : s.vibuf = []) (hd : s.ibuf.length ≤ s.ibufPos)
    (ht : s.typed = 46 :: rest) (hout : nlCount s.ed.out ≤ 1) (hq : s.ed.xquit = false) :
    viStep s = Res.ok () (dotState s rest) := by
  have hp : Lemmas.C09.pending s = ((46 : Nat)) :: rest := by
    unfold Lemmas.C09.pending; rw [List.drop_eq_nil_of_le hd, ht]; rfl
  obtain ⟨ib, ip, ty, hpre, -, -, -, h5⟩ := Lemmas.C09b.viPre_cmdkey s 46 (Or.inl rfl) rest hv hp
  obtain ⟨e1, e2, e3⟩ := h5 hd
  rw [e1, e2, e3] at hpre
  rw [Lemmas.C09b.dot_step_eq s _ (Lemmas.C09b.afterKey s 46 rest) _ _ hpre rfl]
  have hc : Lemmas.C09.cnt1 (Lemmas.C09b.afterKey s 46 rest) = 1 := by simp [Lemmas.C09.cnt1, Lemmas.C09b.afterKey, Lemmas.C09b.max10]
  have hrep := hinv.rep
  rw [hc, Lemmas.C09.pushN_room 1 _ (Lemmas.C09b.marked (Lemmas.C09b.afterKey s 46 rest))
    (by show ([46] : Bytes).length + 1 * s.repCmd.length ≤ 4096; simp; omega)]
  have hX : ({ ({ Lemmas.C09b.marked (Lemmas.C09b.afterKey s 46 rest) with
        ibuf := (Lemmas.C09b.marked (Lemmas.C09b.afterKey s 46 rest)).ibuf ++ (List.replicate 1 (Lemmas.C09b.afterKey s 46 rest).repCmd).flatten } : VS) with
        icmd := [] } : VS) = dotMid s rest := by
    unfold dotMid
    simp [Lemmas.C09b.afterKey, Lemmas.C09b.marked]
  rw [hX]
  have hme : (dotMid s rest).ed = (Lemmas.C09b.marked (Lemmas.C09b.afterKey s 46 rest)).ed := rfl
  rw [viPost_zero_eq (dotMid s rest) (by rw [hme, Lemmas.C09b.marked_ed_fields]; exact hq)
    (by rw [hme, Lemmas.C09b.marked_ed_fields]; exact hout)]
  rfl

/-- **the state after `.`, with the pushed keys typed instead, is related to the state before the `.` with the recorded
keys typed** — up to the sequence numbers (the counter of the current buffer is two ahead) and the mark `^` -/
theorem dot_state_related (s : VS) (rest keys : Bytes) (hv : s.vibuf = []) (hout : s.ed.out = []) (hseq : DotSeqOk s.ed)
    (hset : DotSettled s rest) : Sim true (retype (dotState s rest) keys) (typedAt s keys) := by
  have hnb : nb (postEd (dotMid s rest)) = nb s.ed := (nb_postEd _).trans (nb_dotMid s rest)
  obtain ⟨h1, h2, h3, h4⟩ := hset
  have hed : EdRel true (postEd (dotMid s rest)) s.ed :=
    EdRel.of_nb (postEd_bufsRel s rest hseq) hnb h1 h2 h3 h4 (by rw [postEd_out, hout])
  exact { ed := hed, typed := rfl, ibuf := rfl, ibufPos := rfl, icmd := rfl, vibuf := hv.symm, xcol := rfl, arg1 := rfl,
          arg2 := rfl, ybuf := rfl, charlast := rfl, charcmd := rfl, pcol := rfl, soset := rfl, so := rfl,
          scroll := rfl, repCmd := rfl, execReg := rfl, msg := rfl, xrows := rfl, xcols := rfl, xai := rfl,
          xkmap := rfl, exKmap := rfl, xkmapAlt := rfl, unmodelled := rfl }

/-- **the mark `^` is overwritten before it is read**: from states that differ in the mark `^` (and the sequence
numbers), an iteration that is a command ends in fully related states -/
theorem command_iteration_forgets_caret (x y : VS) (h : Sim true x y) (hc : cmdFirst y = true) :
    RR false NoEsc (viStep x) (viStep y) := by
  have hp := rel2_viPre_w x y h
  rw [Lemmas.C09b.viStep_eq_mid, Lemmas.C07.bind_apply, Lemmas.C07.bind_apply]
  unfold cmdFirst at hc
  revert hp
  revert hc
  generalize viPre x = px
  generalize viPre y = py
  intro hc
  intro hp
  cases hp with
  | ok a x1 y1 h1 =>
    obtain ⟨mv, r, o⟩ := a
    simp only [Bool.and_eq_true, beq_iff_eq] at hc
    obtain ⟨hmv, hk⟩ := hc
    subst hmv
    simp only []
    rw [Lemmas.C09b.stepMid_zero]
    refine RR.bind (commandTail_weak h1 ?_) (fun cont s' t' h' => rel2_viPost cont s' t' h')
    intro c y' hy
    rw [hy] at hk
    simpa using hk
  | esc a b _ _ he =>
    obtain ⟨mv, r, o⟩ := b
    simp only [Bool.and_eq_true, beq_iff_eq] at hc
    exact absurd hc.1 he.2.2
  | eof => exact RR.eof
  | trap => exact RR.trap

/-- `viPre` overwrites `arg1`, `arg2`, `ybuf`, `icmd` before it reads them and, with nothing pushed unread, refills
`ibuf`: the iteration that starts with `keys` typed does not depend on them -/
theorem typed_state_normal (s : VS) (keys : Bytes) (hv : s.vibuf = []) (hd : s.ibuf.length ≤ s.ibufPos) :
    viStep { s with typed := keys } = viStep (typedAt s keys) := by
  rw [Lemmas.C09b.viStep_eq_mid, Lemmas.C07.bind_apply, Lemmas.C07.bind_apply, viPre_typed s keys hv hd]

/-- **`dot_retyped_observable`.**  `s`: a state at the start of an iteration with the invariants of the key queue
(`Inv`, C09b: every reachable state), an empty push-back stack, nothing pushed unread, `.` followed by `rest` at the
terminal, no output waiting, not quitting; the sequence numbers as they are between two commands (`DotSeqOk`:
`between_commands`); `vi_wfix()` with nothing to fix (`DotSettled`); the recorded keys start a command (`cmdFirst`: what
is recorded is a command with its count and register prefix); and the proviso `runOk` of C09b along the `.` run.
Then the run on `. rest` after `k + 1` iterations and the run on `recorded rest` after `k` iterations have both
stopped, or have reached states `a`, `b` with `EdRel true a.ed b.ed` — and `EdRel false a.ed b.ed` when `k ≥ 1`. -/
theorem dot_retyped_observable (s : VS) (rest : Bytes) (k : Nat) (hinv : Inv s) (hv : s.vibuf = [])
    (hd : s.ibuf.length ≤ s.ibufPos) (ht : s.typed = 46 :: rest) (hout : s.ed.out = []) (hq : s.ed.xquit = false)
    (hseq : DotSeqOk s.ed) (hset : DotSettled s rest)
    (hcmd : cmdFirst { s with typed := s.repCmd ++ rest } = true) (hok : runOk (k + 1) s = true) :
    match iterate (k + 1) s, iterate k { s with typed := s.repCmd ++ rest } with
    | some a, some b => EdRel true a.ed b.ed ∧ (0 < k → EdRel false a.ed b.ed)
    | none, none => True
    | _, _ => False := by
  have hout' : nlCount s.ed.out ≤ 1 := by rw [hout]; exact Nat.zero_le _
  have hstep := dot_iteration s rest hinv hv hd ht hout' hq
  have hsim := dot_state_related s rest (s.repCmd ++ rest) hv hout hseq hset
  cases k with
  | zero =>
    rw [Neatvi.Props.C05c.iterate_succ 0 s _ () hstep]
    exact And.intro hsim.ed fun h => absurd h (Nat.lt_irrefl 0)
  | succ n =>
    obtain ⟨s', h1, -, -, -, -, hrun⟩ := Lemmas.C09b.dot_run s rest hinv hv hd ht hout'
    have e : s' = dotState s rest := by
      rw [hstep] at h1
      cases h1
      rfl
    subst e
    have hr := hrun (n + 1) (runOk_succ hok hstep)
    -- the run from the retyped state after `.` against the run from the retyped state before it
    have hcmd0 : cmdFirst (typedAt s (s.repCmd ++ rest)) = true := by
      rw [← cmdFirst_typed s _ hv hd]; exact hcmd
    have hT : iterate (n + 1) { s with typed := s.repCmd ++ rest } = iterate (n + 1) (typedAt s (s.repCmd ++ rest)) := by
      unfold iterate
      rw [typed_state_normal s _ hv hd]
    rw [hT]
    have hmid : ORel (Sim false) (iterate (n + 1) (retype (dotState s rest) (s.repCmd ++ rest)))
        (iterate (n + 1) (typedAt s (s.repCmd ++ rest))) := by
      unfold iterate
      rcases (command_iteration_forgets_caret _ _ hsim hcmd0).noEsc_cases with ⟨u, x1, y1, r1, r2, h'⟩ | ⟨r1, r2⟩ | ⟨r1, r2⟩
      · rw [r1, r2]; exact run_respects n _ _ h'
      · rw [r1, r2]; trivial
      · rw [r1, r2]; trivial
    rcases Lemmas.C09b.relO_cases _ _ hr with ⟨o1, o2⟩ | ⟨a, b', o1, o2, hk⟩
    · rw [o1]
      rw [o2] at hmid
      cases hb : iterate (n + 1) (typedAt s (s.repCmd ++ rest)) with
      | none => trivial
      | some b => rw [hb] at hmid; exact hmid.elim
    · rw [o1]
      rw [o2] at hmid
      cases hb : iterate (n + 1) (typedAt s (s.repCmd ++ rest)) with
      | none => rw [hb] at hmid; exact hmid.elim
      | some b =>
        rw [hb] at hmid
        have hs : Sim false b' b := hmid
        have he : a.ed = b'.ed := Lemmas.C09b.keyEq_ed hk.keq
        show EdRel true a.ed b.ed ∧ (0 < n + 1 → EdRel false a.ed b.ed)
        rw [he]
        exact ⟨hs.ed.weaken, fun _ => hs.ed⟩

/-- **the literal form of C09** — the conclusion of `C09b.dot_retyped_observable_full`, and more: same text, cursor,
registers, dirty flag, buffer names, window; for `k ≥ 1` also the same marks -/
theorem dot_retyped_same_text (s : VS) (rest : Bytes) (k : Nat) (hinv : Inv s) (hv : s.vibuf = [])
    (hd : s.ibuf.length ≤ s.ibufPos) (ht : s.typed = 46 :: rest) (hout : s.ed.out = []) (hq : s.ed.xquit = false)
    (hseq : DotSeqOk s.ed) (hset : DotSettled s rest)
    (hcmd : cmdFirst { s with typed := s.repCmd ++ rest } = true) (hok : runOk (k + 1) s = true) :
    match iterate (k + 1) s, iterate k { s with typed := s.repCmd ++ rest } with
    | some a, some b => lines a = lines b ∧ a.ed.xrow = b.ed.xrow ∧ a.ed.xoff = b.ed.xoff ∧ a.ed.regs = b.ed.regs ∧
        a.ed.lb.map (fun l => (modified l).1) = b.ed.lb.map (fun l => (modified l).1) ∧
        a.ed.bufs.map (Option.map (·.path)) = b.ed.bufs.map (Option.map (·.path)) ∧
        (0 < k → a.ed.lb.map (·.mark) = b.ed.lb.map (·.mark) ∧ a.ed.lb.map (·.markOff) = b.ed.lb.map (·.markOff))
    | none, none => True
    | _, _ => False := by
  have h := dot_retyped_observable s rest k hinv hv hd ht hout hq hseq hset hcmd hok
  revert h
  cases iterate (k + 1) s <;> cases iterate k { s with typed := s.repCmd ++ rest } <;> simp only [imp_self]
  intro h
  rename_i a b
  obtain ⟨o1, o2, o3, o4, o5, o6, -, -, -⟩ := h.1.observables
  refine ⟨?_, o2, o3, o4, o5, o6, fun hk => ((h.2 hk).observables).2.2.2.2.2.2.2.2 rfl⟩
  unfold lines
  cases ha : a.ed.lb <;> cases hb : b.ed.lb <;> rw [ha, hb] at o1 <;> simp at o1 ⊢
  exact o1

/-- **`DotSettled` from a condition on the state alone**: `vi_wfix()` would put the cursor row, the top row and the
column where they are, and the sticky column is inside the horizontal window (`Settled`, decidable) -/
theorem dot_settled_of_settled (s : VS) (rest : Bytes) (h : Settled s) : DotSettled s rest := by
  obtain ⟨s1, s2, s3, s4, s5⟩ := h
  have hme : (dotMid s rest).ed = (Lemmas.C09b.marked (Lemmas.C09b.afterKey s 46 rest)).ed := rfl
  have hxr : (dotMid s rest).ed.xrow = s.ed.xrow := by rw [hme, Lemmas.C09b.marked_ed_fields]; rfl
  have hxo : (dotMid s rest).ed.xoff = s.ed.xoff := by rw [hme, Lemmas.C09b.marked_ed_fields]; rfl
  have hxt : (dotMid s rest).ed.xtop = s.ed.xtop := by rw [hme, Lemmas.C09b.marked_ed_fields]; rfl
  have hxl : (dotMid s rest).ed.xleft = s.ed.xleft := by rw [hme, Lemmas.C09b.marked_ed_fields]; rfl
  obtain ⟨w1, w2, w3⟩ := wfixEd_congr (dotMid s rest) s (lines_dotMid s rest) hxr hxt hxo rfl
  have w4 : (wfixEd (dotMid s rest)).xleft = s.ed.xleft := hxl
  have hl : leftEd (dotMid s rest).xcol (dotMid s rest).xcols (wfixEd (dotMid s rest)) = wfixEd (dotMid s rest) :=
    leftEd_keep _ _ _ (by rw [w4]; exact s4) (by rw [w4]; exact s5)
  unfold DotSettled
  show (postEd (dotMid s rest)).xrow = _ ∧ (postEd (dotMid s rest)).xoff = _ ∧ (postEd (dotMid s rest)).xtop = _ ∧
    (postEd (dotMid s rest)).xleft = _
  unfold postEd
  rw [hl]
  obtain ⟨a1, a2, a3, a4⟩ := bumpEd_nbw (bumpEd { wfixEd (dotMid s rest) with out := [] })
  obtain ⟨b1, b2, b3, b4⟩ := bumpEd_nbw { wfixEd (dotMid s rest) with out := [] }
  rw [a1, a2, a3, a4, b1, b2, b3, b4]
  exact ⟨w1.trans s1, w3.trans s3, w2.trans s2, w4⟩

/-- **`dot_retyped_observable` between two commands.**  `s` is the state after an iteration of `vi()` that went
through its end (`stepMid` returned `some mod`, not quitting), started in a state `s0` whose sequence numbers lie below
the counters (every state reached from a fresh buffer table: `seq_numbers_bounded`); `vi_wfix()` has nothing to do in
`s`; `.` followed by `rest` is typed, nothing pushed is unread.  Then `. rest` and `recorded rest` end alike. -/
theorem dot_retyped_between_commands (s0 s1 X s : VS) (mv r o : Int) (mod : Nat) (rest : Bytes) (k : Nat)
    (h0 : EdSeqOk s0.ed) (hpre : viPre s0 = Res.ok (mv, r, o) s1)
    (hmid : Lemmas.C09b.stepMid mv r o s1 = Res.ok (some mod) X) (hqX : X.ed.xquit = false)
    (hs : viStep s0 = Res.ok () s) (hinv : Inv s) (hv : s.vibuf = []) (hd : s.ibuf.length ≤ s.ibufPos)
    (ht : s.typed = 46 :: rest) (hq : s.ed.xquit = false) (hset : Settled s)
    (hcmd : cmdFirst { s with typed := s.repCmd ++ rest } = true) (hok : runOk (k + 1) s = true) :
    match iterate (k + 1) s, iterate k { s with typed := s.repCmd ++ rest } with
    | some a, some b => EdRel true a.ed b.ed ∧ (0 < k → EdRel false a.ed b.ed)
    | none, none => True
    | _, _ => False := by
  obtain ⟨hseq, hout⟩ := between_commands s0 s1 X s mv r o mod h0 hpre hmid hqX hs
  exact dot_retyped_observable s rest k hinv hv hd ht hout hq hseq (dot_settled_of_settled s rest hset) hcmd hok

/-! ## 5. what is false -/

/-- **`C09b.dot_retyped_observable_full` is false as stated.**  Its `Reachable` starts from an arbitrary `ed`.  Start:
one line `abcd`, counter 1, one undo record (restoring `zabcd`) numbered 5 — above the counter.  Keys `x u`, then `. u`
against `x u`: retyped, the second `x` is numbered 5 as well and `u` undoes both records (`zabcd`); after `.` the
counter has moved on to 7 and `u` undoes only the `x` (`abcd`).  No run of the editor from a fresh buffer table
produces such a record (`seq_numbers_bounded`); the hypothesis `DotSeqOk` of `dot_retyped_observable` excludes it. -/
theorem dot_retyped_observable_full_is_false : ¬ Neatvi.Props.C09b.dot_retyped_observable_full := by
  intro h
  have hc := wCheck_true
  cases hs : iterate 2 wInit with
  | none => rw [hs] at hc; cases hc
  | some s =>
    rw [hs] at hc
    unfold wCheck at hc
    simp only [Bool.and_eq_true, decide_eq_true_eq] at hc
    obtain ⟨⟨⟨⟨⟨⟨⟨hv, hd⟩, hrep⟩, ht⟩, hout⟩, hq⟩, hrun⟩, hdiff⟩ := hc
    have := h s [117] 2 ⟨wEd, _, 24, 80, 2, hs⟩ hv hd hrep ht hout hq hrun
    revert this hdiff
    cases iterate 3 s <;> cases iterate 2 { s with typed := s.repCmd ++ [117] } <;> simp
    intro h1 h2
    exact absurd h2 h1

/-- **right after the `.` the mark `^` does differ** (keys `x l .` on `abcd`): `.` has set it at the cursor, the state
with the recorded keys typed instead still has it where the first `x` was given.  Hence `EdRel true` for `k = 0`. -/
theorem caret_differs_after_dot :
    (match iterate 2 cInit with
     | some s => (match iterate 1 s with
        | some a => decide ((a.ed.lb.bind fun lb => jump lb 94) ≠ (s.ed.lb.bind fun lb => jump lb 94))
        | none => false)
     | none => false) = true := by decide +kernel

/-! ## 6. the hypotheses are satisfiable -/

section Examples

/-- the state after `x` on the two lines `abcd`, `ef`, with `. u j` waiting at the terminal, satisfies every hypothesis
of `dot_retyped_observable` (with `k = 2`, the recorded change `x`) -/
example : ∃ s : VS, Inv s ∧ s.vibuf = [] ∧ s.ibuf.length ≤ s.ibufPos ∧ s.typed = 46 :: [117, 106] ∧ s.ed.out = [] ∧
    s.ed.xquit = false ∧ DotSeqOk s.ed ∧ DotSettled s [117, 106] ∧
    cmdFirst { s with typed := s.repCmd ++ [117, 106] } = true ∧ runOk (2 + 1) s = true ∧ s.repCmd = [120] :=
  hypotheses_satisfiable

/-- … so the theorem applies to it: `. u j` and `x u j` end alike -/
example : ∃ s : VS, s.repCmd = [120] ∧
    match iterate (2 + 1) s, iterate 2 { s with typed := s.repCmd ++ [117, 106] } with
    | some a, some b => EdRel true a.ed b.ed ∧ (0 < 2 → EdRel false a.ed b.ed)
    | none, none => True
    | _, _ => False :=
  let ⟨s, h1, h2, h3, h4, h5, h6, h7, h8, h9, h10, h11⟩ := hypotheses_satisfiable
  ⟨s, h11, dot_retyped_observable s [117, 106] 2 h1 h2 h3 h4 h5 h6 h7 h8 h9 h10⟩

/-- `renumbering_is_related`: shifting every number from 3 on by 2 (what `.` does to the numbers handed out after it)
on a buffer with counter 4 and undo records numbered 1, 3, 3 -/
example : LbRel false exLb (renumber (fun n => if n < 3 then n else n + 2) exLb) :=
  renumbering_is_related _ _ exLb_seqOk exShift_order

/-- the state after `x` on `abcd` / `ef` is `Settled` -/
example : (match iterate 1 gInit with | some s => decide (Settled s) | none => false) = true := gSettled

/-- `vi_step_respects` / `run_respects`: a state is related to itself when its numbers lie below the counters -/
example (n : Nat) : ORel (Sim false) (iterate n gInit) (iterate n gInit) :=
  run_respects n gInit gInit (sim_refl gInit gInit_seqOk)

end Examples

end Neatvi.Props.C09c
