import NeatviVerif.Lemmas.C10bSim
import NeatviVerif.Lemmas.C10bRef
import NeatviVerif.Props.C10
/-!
# C10, completeness and priority: the VM reports the first parse of the ordered reference

`RegexSem.results env t r` lists every parse of `t` from the state `r`, best first (alternatives
prefer the left, repetitions prefer one more iteration, an iteration of an unbounded repetition that
consumes nothing ends it).

* `bt_eq_results`: if a run of the backtracker `bt` (which *is* the VM on the emitted code,
  `C10.loop_eq_bt`) ends without trap and with the cut counter it was started with — no depth cut
  happened — its result is the first success of the continuation over `results`, in order.
  `bt_sim_results` is the same with the monotonicity of the counter included.
* `vm_complete` / `vm_complete_none`: for whole programs, a run of `recmatch` without cut reports
  exactly the head of `results` (span and marks), and fails exactly when there is no parse.
* `execLoop_first` / `regexec_first`: a search that ends with the counter unchanged reports the
  first parse at the least start position tried that has any parse.
* examples: `a*`, `(a|ab)(c|bcd)`, `(a*)*`, `a{2,3}`.
-/
namespace Neatvi.Props.C10b
open Neatvi Neatvi.Regex Neatvi.Spec.RegexSem Neatvi.Lemmas.C10 Neatvi.Lemmas.C10b Neatvi.Props.C10

/-- what a run that was started with the cut counter `c` found: `bad` when it trapped or hit the
    depth limit somewhere (the counter moved) -/
def outcome (c : Nat) : Res → O3
  | Res.trap => O3.bad
  | Res.ok p m c' => if c' = c then O3.ok (p, m) else O3.bad
  | Res.fail c' => if c' = c then O3.fail else O3.bad

/-- the run ended without trap and without any depth cut -/
def NoCut (c : Nat) (res : Res) : Prop := outcome c res ≠ O3.bad

instance (c : Nat) (res : Res) : Decidable (NoCut c res) := by unfold NoCut; exact inferInstance

theorem noCut_iff {c : Nat} {res : Res} :
    NoCut c res ↔ (∃ p m, res = Res.ok p m c) ∨ res = Res.fail c := by
  unfold NoCut outcome
  cases res with
  | trap => simp
  | ok p m c' =>
    by_cases h : c' = c
    · subst h; simp
    · simp [h]
  | fail c' =>
    by_cases h : c' = c
    · subst h; simp
    · simp [h]

theorem sim_le {c : Nat} {res : Res} {o o' : O3} (h : Sim c res o) (hle : Le o o') : Sim c res o' := by
  cases res with
  | trap => trivial
  | ok p m c' =>
    refine ⟨h.1, fun e => ?_⟩
    have := h.2 e
    rw [this] at hle
    exact (hle.eq_of_ne (by simp)).symm
  | fail c' =>
    refine ⟨h.1, fun e => ?_⟩
    have := h.2 e
    rw [this] at hle
    exact (hle.eq_of_ne (by simp)).symm

theorem outcome_of_sim {c : Nat} {res : Res} {o : O3} (h : Sim c res o) (hn : NoCut c res) :
    outcome c res = o := by
  unfold NoCut at hn
  cases res with
  | trap => exact absurd rfl hn
  | ok p m c' =>
    by_cases e : c' = c
    · simp only [outcome, if_pos e]; exact (h.2 e).symm
    · simp [outcome, e] at hn
  | fail c' =>
    by_cases e : c' = c
    · simp only [outcome, if_pos e]; exact (h.2 e).symm
    · simp [outcome, e] at hn

/-- the counter of a result is not smaller than the one the run was started with -/
theorem sim_cuts_le {c : Nat} {o : O3} : ∀ {res : Res}, Sim c res o →
    match res with
    | Res.trap => True
    | Res.ok _ _ c' => c ≤ c'
    | Res.fail c' => c ≤ c'
  | Res.trap, _ => trivial
  | Res.ok _ _ _, h => h.1
  | Res.fail _, h => h.1

/-! ### the backtracker and the ordered reference -/

/-- **bt_eq_results**, relational form.  `k` is the continuation of the run, `kJ` what it computes
    when no cut happens (`KSim`), and `kJ` does not look at the marks to decide between failure and
    success (`ShK kJ kJ`: the engine has no back-references).  Then the run of `bt` on `t` either
    traps, or ends with a larger cut counter, or returns the first success of `kJ` over
    `results env t (pos, m)`, in order. -/
theorem bt_sim_results (cx : Ctx) (t : RNode) (hg : GrpsIn cx.ngrps t) (dep pos : Nat) (m : Marks)
    (cuts : Nat) (k : K) (kJ : KJ) (hk : KSim dep k kJ) (hblind : ShK kJ kJ) :
    Sim cuts (bt cx t dep pos m cuts k) (firstSome (results ⟨cx.subj, cx.flg⟩ t (pos, m)) kJ) :=
  sim_le (bt_sim cx t hg dep pos m cuts k kJ hk)
    (btJ_ref ⟨cx.subj, cx.flg⟩ cx.nd t (pos, m) kJ kJ hblind (fun _ => Le.refl _))

/-- **bt_eq_results**: when no depth cut occurs (the run ends, without trap, with the cut counter it
    was started with), running `bt` on `t` from `(pos, m)` with continuation `k` yields the first
    success of `k` over the list `results env t (pos, m)`, in order.  Side conditions: every group of
    `t` has its two marks below `cx.ngrps`; `k` behaves as `kJ` when no cut happens; `kJ` does not
    branch on the marks. -/
theorem bt_eq_results (cx : Ctx) (t : RNode) (hg : GrpsIn cx.ngrps t) (dep pos : Nat) (m : Marks)
    (cuts : Nat) (k : K) (kJ : KJ) (hk : KSim dep k kJ) (hblind : ShK kJ kJ)
    (hnc : NoCut cuts (bt cx t dep pos m cuts k)) :
    outcome cuts (bt cx t dep pos m cuts k) =
      firstSome (results ⟨cx.subj, cx.flg⟩ t (pos, m)) kJ :=
  outcome_of_sim (bt_sim_results cx t hg dep pos m cuts k kJ hk hblind) hnc

/-! ### whole programs -/

/-- the final continuation of `recmatch`: set mark 1, report the match -/
def finJ : KJ := fun r => O3.ok (r.1, setMark r.2 1 r.1)

/-- the best parse, with mark 1 set to its end -/
def headO : List R → O3
  | [] => O3.fail
  | r :: _ => O3.ok (r.1, setMark r.2 1 r.1)

theorem firstSome_fin (l : List R) : firstSome l finJ = headO l := by
  cases l <;> rfl

/-- the marks `recmatch` runs the tree from: all `-1`, mark 0 at the start position -/
def startMarks (ngrps start : Nat) : Marks := setMark (marks0 ngrps) 0 start

section whole
variable {cx : Ctx}

theorem recmatch_sim (t : RNode)
    (hp : cx.prog = [Inst.mark 0] ++ emit t 1 ++ [Inst.mark 1, Inst.mtch]) (hg1 : 1 < cx.ngrps)
    (hg : GrpsIn cx.ngrps t) (start cuts : Nat) :
    Sim cuts (recmatch cx start cuts)
      (headO (results ⟨cx.subj, cx.flg⟩ t (start, startMarks cx.ngrps start))) := by
  rw [recmatch_eq_bt t hp]
  split
  · exact ⟨by omega, fun e => absurd e (by omega)⟩
  · have e : setMk cx.ngrps (marks0 cx.ngrps) 0 start = startMarks cx.ngrps start := by
      simp [setMk, startMarks, setMark, show 0 < cx.ngrps by omega]
    rw [e, ← firstSome_fin]
    apply bt_sim_results cx t hg
    · intro d p m c _
      refine ⟨Nat.le_refl _, fun _ => ?_⟩
      simp [finJ, setMk, setMark, hg1]
    · intro s s' _; trivial

/-- **vm_complete**: if a parse exists from `start` (the reference list is not empty) and no cut
    happens, the VM run from `start` reports success with exactly the head of the list: its end
    position, and its marks with mark 1 set to the end position. -/
theorem vm_complete (t : RNode)
    (hp : cx.prog = [Inst.mark 0] ++ emit t 1 ++ [Inst.mark 1, Inst.mtch]) (hg1 : 1 < cx.ngrps)
    (hg : GrpsIn cx.ngrps t) (start cuts : Nat) (r : R) (rest : List R)
    (hres : results ⟨cx.subj, cx.flg⟩ t (start, startMarks cx.ngrps start) = r :: rest)
    (hnc : NoCut cuts (recmatch cx start cuts)) :
    recmatch cx start cuts = Res.ok r.1 (r.2.set 1 (r.1 : Int)) cuts := by
  have hs := recmatch_sim t hp hg1 hg start cuts
  have ho := outcome_of_sim hs hnc
  rw [hres] at ho
  rcases noCut_iff.mp hnc with ⟨p, m, h⟩ | h
  · rw [h] at ho ⊢
    simp only [outcome, if_true, headO, O3.ok.injEq, Prod.mk.injEq] at ho
    rw [ho.1, ho.2]; rfl
  · rw [h] at ho
    simp [outcome, headO] at ho

/-- no parse from `start`, no cut: the VM run fails -/
theorem vm_complete_none (t : RNode)
    (hp : cx.prog = [Inst.mark 0] ++ emit t 1 ++ [Inst.mark 1, Inst.mtch]) (hg1 : 1 < cx.ngrps)
    (hg : GrpsIn cx.ngrps t) (start cuts : Nat)
    (hres : results ⟨cx.subj, cx.flg⟩ t (start, startMarks cx.ngrps start) = [])
    (hnc : NoCut cuts (recmatch cx start cuts)) :
    recmatch cx start cuts = Res.fail cuts := by
  have hs := recmatch_sim t hp hg1 hg start cuts
  have ho := outcome_of_sim hs hnc
  rw [hres] at ho
  rcases noCut_iff.mp hnc with ⟨p, m, h⟩ | h
  · rw [h] at ho
    simp [outcome, headO] at ho
  · exact h

/-- conversely, a VM run without cut that fails shows there is no parse, and one that succeeds
    reports the head -/
theorem vm_fail_no_parse (t : RNode)
    (hp : cx.prog = [Inst.mark 0] ++ emit t 1 ++ [Inst.mark 1, Inst.mtch]) (hg1 : 1 < cx.ngrps)
    (hg : GrpsIn cx.ngrps t) (start cuts : Nat) (h : recmatch cx start cuts = Res.fail cuts) :
    results ⟨cx.subj, cx.flg⟩ t (start, startMarks cx.ngrps start) = [] := by
  have hs := recmatch_sim t hp hg1 hg start cuts
  rw [h] at hs
  have := hs.2 rfl
  cases hl : results ⟨cx.subj, cx.flg⟩ t (start, startMarks cx.ngrps start) with
  | nil => rfl
  | cons r rest => rw [hl] at this; simp [headO] at this

/-- `NoParseUntil env t ngrps s0 s`: no start position tried from `s0` (steps of `rxLen`) strictly
    before `s` has any parse -/
inductive NoParseUntil (env : Env) (t : RNode) (ngrps : Nat) : Nat → Nat → Prop
  | here (s : Nat) : NoParseUntil env t ngrps s s
  | step {s s' : Nat} : results env t (s, startMarks ngrps s) = [] →
      NoParseUntil env t ngrps (s + rxLen env.subj s) s' → NoParseUntil env t ngrps s s'

theorem failsUntil_noParse (t : RNode)
    (hp : cx.prog = [Inst.mark 0] ++ emit t 1 ++ [Inst.mark 1, Inst.mtch]) (hg1 : 1 < cx.ngrps)
    (hg : GrpsIn cx.ngrps t) {s0 c0 s c : Nat} (h : FailsUntil cx s0 c0 s c) :
    c0 ≤ c ∧ (c = c0 → NoParseUntil ⟨cx.subj, cx.flg⟩ t cx.ngrps s0 s) := by
  induction h with
  | here s c => exact ⟨Nat.le_refl _, fun _ => NoParseUntil.here s⟩
  | @step s1 c1 c2 s2 c3 hf _ ih =>
    have hs := recmatch_sim t hp hg1 hg s1 c1
    rw [hf] at hs
    refine ⟨by have := hs.1; omega, fun e => ?_⟩
    have e1 : c2 = c1 := by have := hs.1; omega
    have hnil : results ⟨cx.subj, cx.flg⟩ t (s1, startMarks cx.ngrps s1) = [] :=
      vm_fail_no_parse t hp hg1 hg s1 c1 (by rw [hf, e1])
    exact NoParseUntil.step hnil (ih.2 (by omega))

/-- **execLoop_first**: a search that reports a match with the cut counter it was started with (no
    cut at any start position) reports the best parse at the least start position tried that has
    any parse: no earlier position has a parse, and the marks are those of the head of the reference
    list there, with mark 1 at its end. -/
theorem execLoop_first (t : RNode)
    (hp : cx.prog = [Inst.mark 0] ++ emit t 1 ++ [Inst.mark 1, Inst.mtch]) (hg1 : 1 < cx.ngrps)
    (hg : GrpsIn cx.ngrps t) (f start0 cuts0 : Nat) (m : Marks)
    (h : execLoop cx f start0 cuts0 = ExecRes.found m cuts0) :
    ∃ s r rest, NoParseUntil ⟨cx.subj, cx.flg⟩ t cx.ngrps start0 s ∧
      results ⟨cx.subj, cx.flg⟩ t (s, startMarks cx.ngrps s) = r :: rest ∧
      m = r.2.set 1 (r.1 : Int) := by
  obtain ⟨s, cuts, p, hf, hr⟩ := leftmost_vm cx f start0 cuts0 m cuts0 h
  obtain ⟨hle, hno⟩ := failsUntil_noParse t hp hg1 hg hf
  have hs := recmatch_sim t hp hg1 hg s cuts
  rw [hr] at hs
  have e : cuts0 = cuts := by have := hs.1; omega
  have hh := hs.2 e
  cases hl : results ⟨cx.subj, cx.flg⟩ t (s, startMarks cx.ngrps s) with
  | nil => rw [hl] at hh; simp [headO] at hh
  | cons r rest =>
    rw [hl] at hh
    simp only [headO, O3.ok.injEq, Prod.mk.injEq] at hh
    exact ⟨s, r, rest, hno e.symm, hl, by rw [← hh.2]; rfl⟩

end whole

theorem grpsIn_grpnum (t : RNode) : ∀ n N, 2 * (n + (grpnum t n).2) ≤ N → GrpsIn N (grpnum t n).1 := by
  induction t with
  | nul => intro n N _; simp [grpnum, GrpsIn]
  | atom a mn mx => intro n N _; simp [grpnum, GrpsIn]
  | cat a b iha ihb =>
    intro n N h
    simp only [grpnum] at h ⊢
    exact ⟨iha n N (by omega), ihb _ N (by omega)⟩
  | alt a b iha ihb =>
    intro n N h
    simp only [grpnum] at h ⊢
    exact ⟨iha n N (by omega), ihb _ N (by omega)⟩
  | grp a g mn mx iha =>
    intro n N h
    simp only [grpnum] at h ⊢
    exact ⟨by omega, iha _ N (by omega)⟩

/-- **regexec_first** (end to end): `regcomp` accepted the pattern, the marks of all its groups are
    in range, and `regexec` reports a match with cut counter 0 (no depth cut during the whole
    search).  Then the match is at the least start position tried that has any parse of the numbered
    tree, and the marks reported are those of the highest-priority parse there (greedy, left-biased:
    the head of `results`), with marks 0/1 the span of the match. -/
theorem regexec_first {pat : Bytes} {flg : Nat} {prog : Prog} (hc : regcomp pat flg = some (some prog))
    (subj : Bytes) (nsub eflg nd ngrps : Nat) (hg1 : 1 < ngrps)
    (hgr : ∀ t0, parse pat = some (some t0) → 2 * (1 + (grpnum t0 1).2) ≤ ngrps)
    (m : Marks) (subs : List (Int × Int))
    (hr : regexec prog subj nsub eflg nd ngrps = (ExecRes.found m 0, subs)) :
    ∃ t0 s r rest, parse pat = some (some t0) ∧
      NoParseUntil ⟨subj, prog.flg ||| eflg⟩ (grpnum t0 1).1 ngrps 0 s ∧
      results ⟨subj, prog.flg ||| eflg⟩ (grpnum t0 1).1 (s, startMarks ngrps s) = r :: rest ∧
      m = r.2.set 1 (r.1 : Int) := by
  obtain ⟨t0, hparse, _, rfl⟩ := regcomp_some hc
  obtain ⟨_, hex, _⟩ := regexec_found hr
  obtain ⟨s, r, rest, hno, hres, hm⟩ := execLoop_first (cx := ⟨_, subj, flg ||| eflg, nd, ngrps⟩)
    (grpnum t0 1).1 rfl hg1 (grpsIn_grpnum t0 1 ngrps (hgr t0 hparse)) _ _ _ _ hex
  exact ⟨t0, s, r, rest, hparse, hno, hres, hm⟩

/-- the full statement of `bt_eq_results` as a proposition (proved: `bt_eq_results_holds`) -/
def bt_eq_results_full : Prop :=
  ∀ (cx : Ctx) (t : RNode), GrpsIn cx.ngrps t → ∀ (dep pos : Nat) (m : Marks) (cuts : Nat) (k : K) (kJ : KJ),
    KSim dep k kJ → ShK kJ kJ → NoCut cuts (bt cx t dep pos m cuts k) →
    outcome cuts (bt cx t dep pos m cuts k) = firstSome (results ⟨cx.subj, cx.flg⟩ t (pos, m)) kJ

theorem bt_eq_results_holds : bt_eq_results_full :=
  fun cx t hg dep pos m cuts k kJ hk hb hnc => bt_eq_results cx t hg dep pos m cuts k kJ hk hb hnc

/-! ### concrete instances: the head of the reference list is what the VM reports -/
section examples

/-- `a*` -/
def patStar : Bytes := [97, 42]
def treeStar : RNode := .atom ⟨AK.chr, [97]⟩ 0 (-1)
def codeStar : List Inst :=
  [Inst.mark 0, Inst.fork 2 4, Inst.atom ⟨AK.chr, [97]⟩, Inst.fork 2 4, Inst.mark 1, Inst.mtch]
/-- `aaab` -/
def subjStar : Bytes := [97, 97, 97, 98]

example : (parse patStar).map (·.map (fun t => (grpnum t 1).1)) = some (some treeStar) := by decide +kernel
example : (regcomp patStar 0).map (·.map (·.code)) = some (some codeStar) := by decide +kernel

/-- `a*` on `aaab`: the reference lists the parses longest first; its head is what the VM reports -/
theorem greedy_star_example :
    (results ⟨subjStar, 0⟩ treeStar (0, startMarks 4 0)).map (·.1) = [3, 2, 1, 0] ∧
    headO (results ⟨subjStar, 0⟩ treeStar (0, startMarks 4 0)) = O3.ok (3, [0, 3, -1, -1, -1, -1, -1, -1]) ∧
    regexec ⟨codeStar, 6, 0⟩ subjStar 1 0 64 4 = (ExecRes.found [0, 3, -1, -1, -1, -1, -1, -1] 0, [(0, 3)]) :=
  ⟨by decide +kernel, by decide +kernel, regexecF_sound (fuel := 40) (by decide +kernel)⟩

/-- `(a|ab)(c|bcd)` on `xabcd` from offset 1: the left alternative `a` is tried first and can only be
    continued by `bcd`; the parse `ab`·`c` comes second -/
theorem left_biased_example :
    (results ⟨subj1, 0⟩ tree1 (1, startMarks 6 1)).map (fun r => (r.1, r.2.set 1 (r.1 : Int))) =
      [(5, [1, 5, 1, 2, 2, 5, -1, -1, -1, -1, -1, -1]), (4, [1, 4, 1, 3, 3, 4, -1, -1, -1, -1, -1, -1])] ∧
    results ⟨subj1, 0⟩ tree1 (0, startMarks 6 0) = [] ∧
    regexec ⟨code1, 15, 0⟩ subj1 3 0 64 6 =
      (ExecRes.found [1, 5, 1, 2, 2, 5, -1, -1, -1, -1, -1, -1] 0, [(1, 5), (1, 2), (2, 5)]) :=
  ⟨by decide +kernel, by decide +kernel, regexecF_sound (fuel := 40) (by decide +kernel)⟩

/-- the same through the theorem: the reference list at offset 1 is not empty and the run has no
    cut, so `vm_complete` gives the VM result -/
example : recmatch ⟨code1, subj1, 0, 64, 6⟩ 1 0 =
    Res.ok 5 [1, 5, 1, 2, 2, 5, -1, -1, -1, -1, -1, -1] 0 :=
  vm_complete (cx := ⟨code1, subj1, 0, 64, 6⟩) tree1 (by decide +kernel) (by decide +kernel) (by decide +kernel) 1 0
    (5, [1, -1, 1, 2, 2, 5, -1, -1, -1, -1, -1, -1]) [(4, [1, -1, 1, 3, 3, 4, -1, -1, -1, -1, -1, -1])]
    (by decide +kernel)
    (by unfold recmatch
        rw [actF_sound (cx := ⟨code1, subj1, 0, 64, 6⟩) (f := 40)
          (r := Res.ok 5 [1, 5, 1, 2, 2, 5, -1, -1, -1, -1, -1, -1] 0) (by decide +kernel)]
        decide)

/-- `(a*)*` -/
def patStarStar : Bytes := [40, 97, 42, 41, 42]
def treeStarStar : RNode := .grp (.atom ⟨AK.chr, [97]⟩ 0 (-1)) 1 0 (-1)
def codeStarStar : List Inst :=
  [Inst.mark 0, Inst.fork 2 8, Inst.mark 2, Inst.fork 4 6, Inst.atom ⟨AK.chr, [97]⟩, Inst.fork 4 6,
   Inst.mark 3, Inst.fork 2 8, Inst.mark 1, Inst.mtch]
/-- `aab` -/
def subjStarStar : Bytes := [97, 97, 98]

example : (parse patStarStar).map (·.map (fun t => (grpnum t 1).1)) = some (some treeStarStar) := by decide +kernel
example : (regcomp patStarStar 0).map (·.map (·.code)) = some (some codeStarStar) := by decide +kernel

/-- `(a*)*` on `aab`: the second iteration of the outer star consumes nothing and ends it in the
    reference; the engine leaves that loop only through its depth limit (here 8; the run reports 2 cuts, so
    it is outside the scope of `vm_complete`), yet span and marks are those of the reference head -/
theorem nested_star_example :
    headO (results ⟨subjStarStar, 0⟩ treeStarStar (0, startMarks 4 0)) =
      O3.ok (2, [0, 2, 2, 2, -1, -1, -1, -1]) ∧
    regexec ⟨codeStarStar, 10, 0⟩ subjStarStar 2 0 8 4 =
      (ExecRes.found [0, 2, 2, 2, -1, -1, -1, -1] 2, [(0, 2), (2, 2)]) :=
  ⟨by decide +kernel, regexecF_sound (fuel := 40) (by decide +kernel)⟩

/-- `a{2,3}` -/
def patRep : Bytes := [97, 123, 50, 44, 51, 125]
def treeRep : RNode := .atom ⟨AK.chr, [97]⟩ 2 3
def codeRep : List Inst :=
  [Inst.mark 0, Inst.atom ⟨AK.chr, [97]⟩, Inst.atom ⟨AK.chr, [97]⟩, Inst.fork 4 5,
   Inst.atom ⟨AK.chr, [97]⟩, Inst.mark 1, Inst.mtch]
/-- `baaaa` -/
def subjRep : Bytes := [98, 97, 97, 97, 97]

example : (parse patRep).map (·.map (fun t => (grpnum t 1).1)) = some (some treeRep) := by decide +kernel
example : (regcomp patRep 0).map (·.map (·.code)) = some (some codeRep) := by decide +kernel

/-- `a{2,3}` on `baaaa`: no parse at offset 0; at offset 1 three copies come before two -/
theorem bounded_rep_example :
    results ⟨subjRep, 0⟩ treeRep (0, startMarks 4 0) = [] ∧
    (results ⟨subjRep, 0⟩ treeRep (1, startMarks 4 1)).map (·.1) = [4, 3] ∧
    regexec ⟨codeRep, 7, 0⟩ subjRep 1 0 64 4 = (ExecRes.found [1, 4, -1, -1, -1, -1, -1, -1] 0, [(1, 4)]) :=
  ⟨by decide +kernel, by decide +kernel, regexecF_sound (fuel := 40) (by decide +kernel)⟩

end examples

end Neatvi.Props.C10b
