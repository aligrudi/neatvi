import NeatviVerif.Lemmas.C11bVM
import NeatviVerif.Lemmas.C11bStrict
import NeatviVerif.Lemmas.C10Eval
/-!
# C11 (UTF-8 clause): on valid UTF-8 every reported offset lies on a character boundary

`Boundary cs k`: `k` is the byte offset of a character of `encStr cs` (or its end).  `Valid cs`: all
code points are in U+0001 .. U+10FFFF (the newline that ends a line is the code point 10).

* `atomMatch_boundary` (+ `_icase`, `_nonlit`): one atom leads from a boundary to a boundary.  Only
  a literal compared *without* ICASE needs a hypothesis (`WfAtom`): its bytes are the encoding of
  valid code points, or they start with a continuation byte (then it cannot match at a boundary).
  `.`, bracket sets, the anchors and the ICASE comparison advance by `uc_len` of the subject or not
  at all.  `atomMatch_needs_wf`: the hypothesis cannot be dropped.
* `parse_atoms_wf`: every atom parsed from a valid UTF-8 pattern is `WfAtom`.
  `parse_atoms_strict_full` (every literal is the encoding of whole characters) is FALSE:
  `parse_splits_character` — `a{1é` — the byte after the bounds of `{m,n` is skipped unseen
  (`++*pat`), which splits `é`.  `parse_atoms_strict`: it holds for patterns without `{`, and there
  bracket expressions are whole characters too (`brk_len` only stops at or after `]`).
* `vm_boundaries`, `vm_reach_boundaries`, `recmatch_boundaries`, `start_positions_boundaries`,
  `offsets_on_boundaries`: the VM and `regexec`.
-/
namespace Neatvi.Props.C11b
open Neatvi Neatvi.Regex Neatvi.Spec

/-! ## 1. atoms -/

/-- `ratom_match` of a well-formed atom on a valid subject leads from a character boundary to a
    character boundary — for every atom kind and all flags. -/
theorem atomMatch_boundary (a : Atom) (cs : List Nat) (flg pos pos' : Nat) (hv : Valid cs)
    (hwf : WfAtom a) (hp : Boundary cs pos)
    (h : atomMatch a (encStr cs) flg pos = AR.ok pos') : Boundary cs pos' :=
  atomMatch_boundary_aux a cs flg pos pos' hv (fun hk _ => hwf hk) hp h

/-- With ICASE no hypothesis on the atom is needed: the comparison decodes the subject character by
    character. -/
theorem atomMatch_boundary_icase (a : Atom) (cs : List Nat) (flg pos pos' : Nat) (hv : Valid cs)
    (hic : hasFlag flg REG_ICASE = true) (hp : Boundary cs pos)
    (h : atomMatch a (encStr cs) flg pos = AR.ok pos') : Boundary cs pos' :=
  atomMatch_boundary_aux a cs flg pos pos' hv (fun _ hf => by rw [hic] at hf; cases hf) hp h

/-- `.`, bracket sets (ranges, negation, classes) and the anchors `^ $ \< \>` need no hypothesis:
    they consume one character of the subject (`uc_len` of its lead byte) or nothing. -/
theorem atomMatch_boundary_nonlit (a : Atom) (cs : List Nat) (flg pos pos' : Nat) (hv : Valid cs)
    (hk : a.k ≠ AK.chr) (hp : Boundary cs pos)
    (h : atomMatch a (encStr cs) flg pos = AR.ok pos') : Boundary cs pos' :=
  atomMatch_boundary_aux a cs flg pos pos' hv (fun hk' _ => absurd hk' hk) hp h

/-- The anchors consume nothing. -/
theorem atomMatch_anchor (a : Atom) (subj : Bytes) (flg pos pos' : Nat)
    (hk : a.k = AK.beg ∨ a.k = AK.end_ ∨ a.k = AK.wbeg ∨ a.k = AK.wend)
    (h : atomMatch a subj flg pos = AR.ok pos') : pos' = pos := by
  have hm := C11.atomMatch_ok h
  rcases hk with hk | hk | hk | hk <;> rw [hk] at hm <;> exact hm

/-- The hypothesis on literals cannot be dropped: the literal `C3` (the lead byte of `é` alone)
    matches the subject `é` at 0 and ends at 1, inside the character. -/
theorem atomMatch_needs_wf :
    atomMatch ⟨AK.chr, [0xc3]⟩ (encStr [0xe9]) 0 0 = AR.ok 1 ∧ ¬ Boundary [0xe9] 1 := by
  decide +kernel

/-! ## 2. the parser -/

/-- Every atom of the tree parsed from a valid UTF-8 pattern is well formed. -/
theorem parse_atoms_wf (ps : List Nat) (hv : Valid ps) (t : RNode)
    (h : parse (encStr ps) = some (some t)) : AllAtoms WfAtom t :=
  parse_inv parseInv_sfx (sfx_of_strict ⟨ps, hv, rfl⟩) h

theorem regcomp_atoms_wf (ps : List Nat) (hv : Valid ps) (flg : Nat) (prog : Prog)
    (h : regcomp (encStr ps) flg = some (some prog)) : ∀ a, Inst.atom a ∈ prog.code → WfAtom a :=
  regcomp_atoms parseInv_sfx (sfx_of_strict ⟨ps, hv, rfl⟩) h

/-- The stronger statement — every literal is the encoding of whole characters — … -/
def parse_atoms_strict_full : Prop :=
  ∀ ps, Valid ps → ∀ t, parse (encStr ps) = some (some t) → AllAtoms StrictAtom t

/-- … is false.  The pattern `a{1é` (an unterminated bound): after the digits `rnode_atom` does
    `++*pat` whatever the byte is; here it is the lead byte `C3` of `é`, and the next literal is the
    lone continuation byte `A9`. -/
theorem parse_splits_character :
    parse (encStr [97, 123, 49, 0xe9]) =
      some (some (.cat (.atom ⟨AK.chr, [97]⟩ 1 1) (.atom ⟨AK.chr, [0xa9]⟩ 1 1))) := by
  decide +kernel

theorem not_strict_cont : ¬ StrictLit [0xa9] := by
  rintro ⟨ls, hv, e⟩
  exact encStr_not_cont hv e.symm (by decide)

theorem parse_atoms_strict_full_false : ¬ parse_atoms_strict_full := by
  intro h
  have := h [97, 123, 49, 0xe9] (by decide) _ parse_splits_character
  exact not_strict_cont (this.2 rfl)

/-- Under ICASE the lone `A9` is decoded as U+00A9: the pattern `a{1é` matches the subject `a©`
    (`61 C2 A9`) — on boundaries, `(0, 3)`, but not what any reading of the pattern means. -/
theorem split_character_matches_icase :
    (regcomp (encStr [97, 123, 49, 0xe9]) REG_ICASE).map (·.map (·.code)) =
      some (some [Inst.mark 0, Inst.atom ⟨AK.chr, [97]⟩, Inst.atom ⟨AK.chr, [0xa9]⟩, Inst.mark 1,
        Inst.mtch]) ∧
    regexec ⟨[Inst.mark 0, Inst.atom ⟨AK.chr, [97]⟩, Inst.atom ⟨AK.chr, [0xa9]⟩, Inst.mark 1,
        Inst.mtch], 5, REG_ICASE⟩ (encStr [97, 0xa9]) 1 0 100 2 =
      (ExecRes.found [0, 3, -1, -1] 0, [(0, 3)]) :=
  ⟨by decide +kernel, Lemmas.C10.regexecF_sound (fuel := 40) (by decide +kernel)⟩

/-- Corrected hypothesis: for a valid UTF-8 pattern without `{`, every literal *and every bracket
    expression* is the encoding of whole characters. -/
theorem parse_atoms_strict (ps : List Nat) (hv : Valid ps) (hnb : 123 ∉ encStr ps) (t : RNode)
    (h : parse (encStr ps) = some (some t)) : AllAtoms StrictAtom2 t :=
  parse_inv parseInv_noBrace ⟨⟨ps, hv, rfl⟩, hnb⟩ h

theorem regcomp_atoms_strict (ps : List Nat) (hv : Valid ps) (hnb : 123 ∉ encStr ps) (flg : Nat)
    (prog : Prog) (h : regcomp (encStr ps) flg = some (some prog)) :
    ∀ a, Inst.atom a ∈ prog.code → StrictAtom2 a :=
  regcomp_atoms parseInv_noBrace ⟨⟨ps, hv, rfl⟩, hnb⟩ h

/-! ## 3. the VM and `regexec` -/

/-- On a program whose atoms are well formed, run on a valid subject and entered at a character
    boundary with marks on boundaries, a successful run ends on a boundary with all marks on
    boundaries — from every `pc` and at every depth. -/
theorem vm_boundaries (cx : Ctx) (cs : List Nat) (hv : Valid cs) (hs : cx.subj = encStr cs)
    (hwf : ∀ a, Inst.atom a ∈ cx.prog → WfAtom a)
    (dep pc pos : Nat) (m : Marks) (cuts p' : Nat) (m' : Marks) (c' : Nat)
    (hp : Boundary cs pos) (hm : MarksB cs m)
    (h : loop cx dep pc pos m cuts = Res.ok p' m' c') : Boundary cs p' ∧ MarksB cs m' :=
  loop_boundary cx (atomB_of_wf cx hv hs hwf) dep pc pos m cuts p' m' c' hp hm h

/-- Every state the machine can be in (both branches of every fork, failed paths included) has its
    position and all its marks on character boundaries. -/
theorem vm_reach_boundaries (cx : Ctx) (cs : List Nat) (hv : Valid cs) (hs : cx.subj = encStr cs)
    (hwf : ∀ a, Inst.atom a ∈ cx.prog → WfAtom a) (start : Nat) (hst : Boundary cs start)
    (pc pos : Nat) (m : Marks) (h : Reach cx start pc pos m) : Boundary cs pos ∧ MarksB cs m :=
  reach_boundary cx (atomB_of_wf cx hv hs hwf) hst h

/-- One start position: the end of the match and every mark are on boundaries. -/
theorem recmatch_boundaries (ps cs : List Nat) (hvp : Valid ps) (hvs : Valid cs) (flg : Nat)
    (prog : Prog) (hc : regcomp (encStr ps) flg = some (some prog)) (cx : Ctx)
    (hprog : cx.prog = prog.code) (hs : cx.subj = encStr cs) (start cuts pos : Nat) (m : Marks)
    (c : Nat) (hst : Boundary cs start) (h : recmatch cx start cuts = Res.ok pos m c) :
    Boundary cs pos ∧ MarksB cs m :=
  recmatch_boundary cx (atomB_of_wf cx hvs hs (by rw [hprog]; exact regcomp_atoms_wf ps hvp flg prog hc))
    hst h

/-- The start positions `regexec` tries (0, then `+ uc_len` of the lead byte) are boundaries. -/
theorem start_positions_boundaries (cx : Ctx) (cs : List Nat) (hv : Valid cs)
    (hs : cx.subj = encStr cs) (i : Nat) (h : Tried cx i) : Boundary cs i :=
  tried_boundary cx hv hs h

/-- **offsets_on_boundaries**: for a pattern and a subject that are valid UTF-8, every offset
    `regexec` reports — start and end of the match, start and end of every group — is `-1` or a
    character boundary of the subject; for all compile and exec flags, depth limits and group
    counts. -/
theorem offsets_on_boundaries (ps cs : List Nat) (hvp : Valid ps) (hvs : Valid cs)
    (flg eflg nsub nd ngrps : Nat) (prog : Prog)
    (hc : regcomp (encStr ps) flg = some (some prog)) (m : Marks) (c : Nat)
    (offs : List (Int × Int))
    (h : regexec prog (encStr cs) nsub eflg nd ngrps = (ExecRes.found m c, offs)) :
    MarksB cs m ∧ ∀ so eo, (so, eo) ∈ offs → OffB cs so ∧ OffB cs eo := by
  obtain ⟨_, hex, rfl⟩ := Lemmas.C10.regexec_found h
  have hat : AtomB ⟨prog.code, encStr cs, prog.flg ||| eflg, nd, ngrps⟩ cs :=
    atomB_of_wf _ hvs rfl (regcomp_atoms_wf ps hvp flg prog hc)
  have hmb := execLoop_boundary _ hvs rfl hat _ _ _ _ _ (boundary_zero cs) hex
  refine ⟨hmb, ?_⟩
  intro so eo hmem
  simp only [List.mem_map, List.mem_range] at hmem
  obtain ⟨i, _, hi⟩ := hmem
  split at hi
  · cases hi; exact ⟨offB_getD hmb _, offB_getD hmb _⟩
  · cases hi; exact ⟨Or.inl rfl, Or.inl rfl⟩

/-- With ICASE the subject alone has to be valid: the program may be anything. -/
theorem vm_boundaries_icase (cx : Ctx) (cs : List Nat) (hv : Valid cs) (hs : cx.subj = encStr cs)
    (hic : hasFlag cx.flg REG_ICASE = true)
    (dep pc pos : Nat) (m : Marks) (cuts p' : Nat) (m' : Marks) (c' : Nat)
    (hp : Boundary cs pos) (hm : MarksB cs m)
    (h : loop cx dep pc pos m cuts = Res.ok p' m' c') : Boundary cs p' ∧ MarksB cs m' :=
  loop_boundary cx (atomB_of_icase cx hv hs hic) dep pc pos m cuts p' m' c' hp hm h

/-! ## 4. concrete instances -/

/-- `é.` compiled -/
def progE : Prog :=
  ⟨[Inst.mark 0, Inst.atom ⟨AK.chr, [0xc3, 0xa9]⟩, Inst.atom ⟨AK.any, []⟩, Inst.mark 1, Inst.mtch], 5, 0⟩

example : (regcomp (encStr [0xe9, 46]) 0).map (·.map (fun p => (p.code, p.alloc, p.flg))) =
    some (some (progE.code, progE.alloc, progE.flg)) := by decide +kernel

/-- `é.` on `aéb`: the match is `(1, 4)` — after `a`, at the end — both boundaries; 2 is not -/
example : regexec progE (encStr [97, 0xe9, 98]) 1 0 100 2 =
    (ExecRes.found [1, 4, -1, -1] 0, [(1, 4)]) :=
  Lemmas.C10.regexecF_sound (fuel := 40) (by decide +kernel)
example : Boundary [97, 0xe9, 98] 1 ∧ Boundary [97, 0xe9, 98] 4 := by decide +kernel
example : ¬ Boundary [97, 0xe9, 98] 2 := by decide +kernel

/-- `.(é)` compiled -/
def progG : Prog :=
  ⟨[Inst.mark 0, Inst.atom ⟨AK.any, []⟩, Inst.mark 2, Inst.atom ⟨AK.chr, [0xc3, 0xa9]⟩, Inst.mark 3,
    Inst.mark 1, Inst.mtch], 7, 0⟩

example : (regcomp (encStr [46, 40, 0xe9, 41]) 0).map (·.map (fun p => (p.code, p.alloc, p.flg))) =
    some (some (progG.code, progG.alloc, progG.flg)) := by decide +kernel

/-- `.(é)` on the line `aéb\n`: match `(0, 3)`, group `(1, 3)` -/
example : regexec progG (encStr [97, 0xe9, 98, 10]) 2 0 100 4 =
    (ExecRes.found [0, 3, 1, 3, -1, -1, -1, -1] 0, [(0, 3), (1, 3)]) :=
  Lemmas.C10.regexecF_sound (fuel := 40) (by decide +kernel)
example : Boundary [97, 0xe9, 98, 10] 0 ∧ Boundary [97, 0xe9, 98, 10] 1 ∧
    Boundary [97, 0xe9, 98, 10] 3 := by decide +kernel

/-- `[à-ï]` with ICASE compiled: the bracket expression is stored whole -/
def progB : Prog := ⟨[Inst.mark 0, Inst.atom ⟨AK.brk, encStr [91, 0xe0, 45, 0xef, 93]⟩, Inst.mark 1,
  Inst.mtch], 4, REG_ICASE⟩

example : (regcomp (encStr [91, 0xe0, 45, 0xef, 93]) REG_ICASE).map
    (·.map (fun p => (p.code, p.alloc, p.flg))) =
    some (some (progB.code, progB.alloc, progB.flg)) := by decide +kernel

/-- `[à-ï]` on `€éb`: the first match is `é` at `(3, 5)` -/
example : regexec progB (encStr [0x20ac, 0xe9, 98]) 1 0 100 2 =
    (ExecRes.found [3, 5, -1, -1] 0, [(3, 5)]) :=
  Lemmas.C10.regexecF_sound (fuel := 40) (by decide +kernel)
example : Boundary [0x20ac, 0xe9, 98] 3 ∧ Boundary [0x20ac, 0xe9, 98] 5 := by decide +kernel

/-- the general theorem applied to the first run -/
example : MarksB [97, 0xe9, 98] [1, 4, -1, -1] :=
  (offsets_on_boundaries [0xe9, 46] [97, 0xe9, 98] (by decide +kernel) (by decide +kernel) 0 0 1 100 2 progE
    (by rfl) _ 0 [(1, 4)] (Lemmas.C10.regexecF_sound (fuel := 40) (by decide +kernel))).1

end Neatvi.Props.C11b
