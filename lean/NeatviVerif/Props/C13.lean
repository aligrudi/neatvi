import NeatviVerif.Lemmas.C13Spec
import NeatviVerif.Lemmas.C13Vi
import NeatviVerif.Props.C16
/-!
# C13: searching (`lbuf_search`, `vi_search`)

"A forward search moves the cursor to the start of the first match that begins after the cursor
character on its line, else on the nearest following line that has one; a backward search moves to
the last of the successive matches that begin before the cursor on its line, else the last one on
the nearest preceding line that has one.  Searches do not wrap around, `n` and `N` repeat in the same
and the opposite direction, a count repeats the search, and when nothing is found the cursor stays
where it was."

The theorems are about the model `Mot.search` / `Vi.viSearch`.  The regex engine is kept out of the
way: `search_eq_generic` restates `Mot.search` as the generic scan `gSearch` at the per-line matcher
`reMatcher re` (= `rstr_find` on a *suffix* of the line, with `RE_NOTBOL` when the suffix is not the
whole line), and "first" / "successive" are relative to that matcher:

* `fwdLine m r0 o0 j s`: the matcher's first match from the byte after the cursor character (row
  `r0`) or from the line start (other rows);
* `Chain m s stop 0 l`: `l` lists the successive matches from the line start, each search starting
  after the previous match (one byte further after an empty match); `BwdLine` reports its last one.

Known limitation (stated, see `suffix_rule_differs` and `suffix_rule_real`): because the matcher sees
only the suffix, a word-boundary test at the start of the suffix does not see the preceding character.
-/
namespace Neatvi.Props.C13
open Neatvi Neatvi.Uc Neatvi.Rset Neatvi.Mot Neatvi.Lemmas.C13

/-- the flags `lbuf_search` compiles the pattern with -/
def reFlags (icase : Bool) : Nat := if icase then RE_ICASE else 0

/-! ## 0. the restatement -/

theorem search_eq_generic (ls : Lines) (kw : Bytes) (icase : Bool) (dir r0 o0 : Int) :
    search ls kw icase dir r0 o0 =
      match rstrMake kw (reFlags icase) with
      | none => none
      | some none => some none
      | some (some re) => gSearch (reMatcher re) ls dir r0 o0 := by
  rw [Lemmas.C13.search_eq_generic, reFlags]
  -- the two `match`es are different auxiliary functions: unifying them is slow, the cases are immediate
  cases rstrMake kw (if icase then RE_ICASE else 0) with
  | none => rfl
  | some x => cases x <;> rfl

theorem search_of_re {ls : Lines} {kw : Bytes} {icase : Bool} {re : RStr} (dir r0 o0 : Int)
    (hre : rstrMake kw (reFlags icase) = some (some re)) :
    search ls kw icase dir r0 o0 = gSearch (reMatcher re) ls dir r0 o0 := by
  rw [search_eq_generic, hre]

theorem search_found_compiled {ls : Lines} {kw : Bytes} {icase : Bool} {dir r0 o0 : Int} {x : Int × Int × Int}
    (h : search ls kw icase dir r0 o0 = some (some x)) : ∃ re, rstrMake kw (reFlags icase) = some (some re) :=
  search_some_compiled h

theorem search_nopat {ls : Lines} {kw : Bytes} {icase : Bool} (dir r0 o0 : Int)
    (hre : rstrMake kw (reFlags icase) = some none) : search ls kw icase dir r0 o0 = some none := by
  rw [search_eq_generic, hre]

/-- what the matcher of the compiled pattern is: `rstr_find` on the suffix -/
theorem reMatcher_some_iff (re : RStr) (s : Bytes) (off so eo : Nat) :
    reMatcher re s off = some (some (so, eo)) ↔
      ∃ res offs c, rstrFind re (s.drop off) 1 (if off ≠ 0 then RE_NOTBOL else 0) search.Ex_ND search.Ex_NG = some (res, offs, c) ∧
        0 ≤ res ∧ so = (offs.getD 0 0).toNat ∧ eo = (offs.getD 1 0).toNat := by
  unfold reMatcher
  have hflg : (if (off != 0) = true then RE_NOTBOL else 0) = (if off ≠ 0 then RE_NOTBOL else 0) := by
    by_cases h : off = 0 <;> simp [h]
  rw [hflg]
  cases rstrFind re (s.drop off) 1 (if off ≠ 0 then RE_NOTBOL else 0) search.Ex_ND search.Ex_NG with
  | none => simp
  | some x =>
    obtain ⟨res, offs, c⟩ := x
    by_cases hres : res < 0
    · simp only [hres, if_true, Option.some.injEq, reduceCtorEq, Prod.mk.injEq, false_iff]
      rintro ⟨res', offs', c', ⟨rfl, rfl, rfl⟩, h, -⟩; omega
    · simp only [hres, if_false, Option.some.injEq, Prod.mk.injEq]
      constructor
      · rintro ⟨rfl, rfl⟩; exact ⟨res, offs, c, ⟨rfl, rfl, rfl⟩, by omega, rfl, rfl⟩
      · rintro ⟨res', offs', c', ⟨rfl, rfl, rfl⟩, -, rfl, rfl⟩; exact ⟨rfl, rfl⟩

/-! ## the per-row rules, spelled out -/

theorem fwdLine_hit_iff (m : Matcher) (r0 o0 j : Int) (s : Bytes) (o len : Int) :
    fwdLine m r0 o0 j s = some (some (o, len)) ↔
      ∃ b so eo, fwdStart r0 o0 j s = some b ∧ m s b = some (some (so, eo)) ∧ (o, len) = report s (b + so) (eo - so) := by
  unfold fwdLine
  cases fwdStart r0 o0 j s with
  | none => simp
  | some b =>
    cases hm : m s b with
    | none => simp [hm]
    | some x =>
      cases x with
      | none => simp [hm]
      | some p =>
        obtain ⟨so, eo⟩ := p
        simp only [hm, Option.some.injEq]
        constructor
        · intro h; exact ⟨b, so, eo, rfl, hm, h.symm⟩
        · rintro ⟨b', so', eo', hb, hm', h⟩
          cases hb; rw [hm] at hm'; cases hm'; exact h.symm

theorem fwdLine_none_iff (m : Matcher) (r0 o0 j : Int) (s : Bytes) :
    fwdLine m r0 o0 j s = some none ↔ ∃ b, fwdStart r0 o0 j s = some b ∧ m s b = some none := by
  unfold fwdLine
  cases fwdStart r0 o0 j s with
  | none => simp
  | some b =>
    cases hm : m s b with
    | none => simp [hm]
    | some x =>
      cases x with
      | none => simp [hm]
      | some p => simp [hm]

theorem fwdStart_cursor_row (r0 o0 : Int) (s : Bytes) : fwdStart r0 o0 r0 s = ucChr s (o0 + 1).toNat := by
  simp [fwdStart]

theorem fwdStart_other_row {r0 j : Int} (o0 : Int) (s : Bytes) (h : j ≠ r0) : fwdStart r0 o0 j s = some 0 := by
  have : ¬ r0 = j := fun e => h e.symm
  simp [fwdStart, this]

/-- on a row other than the cursor's the stop rule of a backward scan never fires -/
theorem stopB_other_row {r0 j : Int} (o0 : Int) (s : Bytes) (h : j ≠ r0) (b : Nat) : stopB r0 o0 j s b = false := by
  have : ¬ r0 = j := fun e => h e.symm
  simp [stopB, this]

theorem stopB_cursor_row (r0 o0 : Int) (s : Bytes) (b : Nat) : stopB r0 o0 r0 s b = decide (o0 ≤ ((ucOff s b : Nat) : Int)) := by
  simp [stopB]

/-! ## 2. forward: the first match of the nearest row that has one -/

/-- **forward search, complete characterisation.**  The search reports `(r, o, len)` exactly when
    every row from the cursor's up to `r` (excluded) has no match under the per-row rule, and
    `(o, len)` is the matcher's first match on row `r` under that rule. -/
theorem search_forward_first_row {ls : Lines} {kw : Bytes} {icase : Bool} {re : RStr} {r0 o0 r o len : Int}
    (hre : rstrMake kw (reFlags icase) = some (some re)) (h0 : 0 ≤ r0) :
    search ls kw icase 1 r0 o0 = some (some (r, o, len)) ↔
      (r0 ≤ r ∧ r < ls.length ∧
        (∀ j s, r0 ≤ j → j < r → lineAt ls j = some s → fwdLine (reMatcher re) r0 o0 j s = some none) ∧
        ∃ s, lineAt ls r = some s ∧ fwdLine (reMatcher re) r0 o0 r s = some (some (o, len))) := by
  rw [search_of_re 1 r0 o0 hre]
  exact gSearch_fwd_found _ ls h0

/-- **forward, not found** iff no row from the cursor's to the last has a match under the per-row rule -/
theorem search_forward_not_found {ls : Lines} {kw : Bytes} {icase : Bool} {re : RStr} {r0 o0 : Int}
    (hre : rstrMake kw (reFlags icase) = some (some re)) (h0 : 0 ≤ r0) :
    search ls kw icase 1 r0 o0 = some none ↔
      ∀ j s, r0 ≤ j → lineAt ls j = some s → fwdLine (reMatcher re) r0 o0 j s = some none := by
  rw [search_of_re 1 r0 o0 hre]
  exact gSearch_fwd_none _ ls h0

/-! ## 2'. backward: the last of the successive matches of the nearest row that has one -/

/-- **backward search, complete characterisation.**  The search reports `(r, o, len)` exactly when
    every row from the cursor's down to `r` (excluded) has an empty chain of successive matches, and
    `(o, len)` is the last element of the chain of row `r`.  On the cursor's row the chain ends
    before the first match that begins at or after the cursor (`stopB`); on other rows it runs over
    the whole line. -/
theorem search_backward_last {ls : Lines} {kw : Bytes} {icase : Bool} {re : RStr} {r0 o0 r o len : Int}
    (hre : rstrMake kw (reFlags icase) = some (some re)) :
    search ls kw icase (-1) r0 o0 = some (some (r, o, len)) ↔
      (0 ≤ r ∧ r ≤ r0 ∧ r0 < ls.length ∧
        (∀ j s, r < j → j ≤ r0 → lineAt ls j = some s → Chain (reMatcher re) s (stopB r0 o0 j s) 0 []) ∧
        ∃ s l b n, lineAt ls r = some s ∧ Chain (reMatcher re) s (stopB r0 o0 r s) 0 l ∧
          l.getLast? = some (b, n) ∧ (o, len) = report s b n) := by
  rw [search_of_re (-1) r0 o0 hre]
  exact gSearch_bwd_found _ ls

/-- **backward, not found** iff every row from the cursor's down to the first has an empty chain -/
theorem search_backward_not_found {ls : Lines} {kw : Bytes} {icase : Bool} {re : RStr} {r0 o0 : Int}
    (hre : rstrMake kw (reFlags icase) = some (some re)) (hlen : r0 < ls.length) :
    search ls kw icase (-1) r0 o0 = some none ↔
      ∀ j s, j ≤ r0 → lineAt ls j = some s → Chain (reMatcher re) s (stopB r0 o0 j s) 0 [] := by
  rw [search_of_re (-1) r0 o0 hre]
  exact gSearch_bwd_none _ ls hlen

/-- an empty chain: the first search finds nothing, or (cursor's row) already begins at or after the cursor -/
theorem chain_empty_iff (m : Matcher) (s : Bytes) (stop : Nat → Bool) :
    Chain m s stop 0 [] ↔ m s 0 = some none ∨ ∃ so eo, m s 0 = some (some (so, eo)) ∧ stop so = true := by
  rw [chain_nil_iff]; simp

/-! ## 3. not found, both directions in one statement -/

/-- `search … = some none` iff the pattern did not compile, or no row in the direction of the search
    yields a match under the per-row rule -/
theorem search_not_found {ls : Lines} {kw : Bytes} {icase : Bool} {r0 o0 : Int} (h0 : 0 ≤ r0) (hlen : r0 < ls.length) :
    (search ls kw icase 1 r0 o0 = some none ↔
      rstrMake kw (reFlags icase) = some none ∨ ∃ re, rstrMake kw (reFlags icase) = some (some re) ∧
        ∀ j s, r0 ≤ j → lineAt ls j = some s → fwdLine (reMatcher re) r0 o0 j s = some none) ∧
    (search ls kw icase (-1) r0 o0 = some none ↔
      rstrMake kw (reFlags icase) = some none ∨ ∃ re, rstrMake kw (reFlags icase) = some (some re) ∧
        ∀ j s, j ≤ r0 → lineAt ls j = some s → Chain (reMatcher re) s (stopB r0 o0 j s) 0 []) := by
  cases hm : rstrMake kw (reFlags icase) with
  | none => simp [search_eq_generic, hm]
  | some y =>
    cases y with
    | none => simp [search_nopat _ _ _ hm]
    | some re =>
      rw [search_forward_not_found hm h0, search_backward_not_found hm hlen]
      simp

/-! ## 1. position: strictly after / before the cursor in reading order, no wrap-around -/

/-- a forward match lies strictly after the cursor in reading order (so the search does not wrap) -/
theorem search_forward_position {ls : Lines} {kw : Bytes} {icase : Bool} {r0 o0 r o len : Int}
    (h : search ls kw icase 1 r0 o0 = some (some (r, o, len))) (h0 : 0 ≤ r0) :
    r0 ≤ r ∧ r < ls.length ∧ (r = r0 → o0 < o) := by
  obtain ⟨re, hre⟩ := search_found_compiled h
  obtain ⟨h1, h2, -, s, hs, hl⟩ := (search_forward_first_row hre h0).mp h
  refine ⟨h1, h2, ?_⟩
  rintro rfl
  obtain ⟨b, so, eo, hb, -, hrep⟩ := (fwdLine_hit_iff _ _ _ _ _ _ _).mp hl
  rw [fwdStart_cursor_row] at hb
  have hge := ucOff_ge_of_chr hb so
  have ho := (report_eq hrep).1
  omega

/-- a backward match lies strictly before the cursor in reading order (so the search does not wrap) -/
theorem search_backward_position {ls : Lines} {kw : Bytes} {icase : Bool} {r0 o0 r o len : Int}
    (h : search ls kw icase (-1) r0 o0 = some (some (r, o, len))) :
    0 ≤ r ∧ r ≤ r0 ∧ r0 < ls.length ∧ (r = r0 → o < o0) := by
  obtain ⟨re, hre⟩ := search_found_compiled h
  obtain ⟨h1, h2, h3, -, s, l, b, n, hs, hc, hl, hrep⟩ := (search_backward_last hre).mp h
  refine ⟨h1, h2, h3, ?_⟩
  rintro rfl
  obtain ⟨off', so, eo, -, -, hp, hstop⟩ := chain_mem hc (b, n) (List.mem_of_getLast? hl)
  have hb : b = off' + so := congrArg Prod.fst hp
  rw [← hb, stopB_cursor_row] at hstop
  have ho := (report_eq hrep).1
  simp at hstop
  omega

/-! ## 4. the reported position is a match of the matcher -/

/-- the reported `(o, len)` are the character offset and the length in characters of byte offsets
    `(so, eo)` that `rstr_find` returned for the suffix at byte `off` of the reported line (`hdir`, `h0` are not needed:
    `Lemmas.C13.search_hit_match` is the statement without them) -/
theorem search_is_match {ls : Lines} {kw : Bytes} {icase : Bool} {dir r0 o0 r o len : Int}
    (hdir : dir = 1 ∨ dir = -1) (h0 : 0 ≤ r0)
    (h : search ls kw icase dir r0 o0 = some (some (r, o, len))) :
    ∃ re s off so eo, rstrMake kw (reFlags icase) = some (some re) ∧ lineAt ls r = some s ∧
      reMatcher re s off = some (some (so, eo)) ∧
      o = ((ucOff s (off + so) : Nat) : Int) ∧ len = ((ucOff (s.drop (off + so)) (eo - so) : Nat) : Int) := by
  obtain ⟨re, s, off, so, eo, hre, -, -, hs, -, hm, hrep⟩ := search_hit_match h
  exact ⟨re, s, off, so, eo, hre, hs, hm, report_eq hrep⟩

/-! ## 5. vi level: `vi_search`, `n` / `N`, the count, and a failed search -/

section vi
open Neatvi.Vi Neatvi.Ex

-- keep `whnf` from unfolding the search (and the regex compiler behind it) when it looks at a `match`
attribute [local irreducible] Neatvi.Mot.search

/-- `vi_search` never touches the text or the cursor `(xrow, xoff)` of the editor state, whatever
    it returns (it sets the keyword, its direction, register `/`, the search offset and the message) -/
theorem viSearch_keeps {cmd : Nat} {cnt r o : Int} {s s' : VS} {a : Option (Int × Int)}
    (h : viSearch cmd cnt r o s = Res.ok a s') :
    lines s' = lines s ∧ s'.ed.xrow = s.ed.xrow ∧ s'.ed.xoff = s.ed.xoff :=
  (keeps_viSearch cmd cnt r o).h s a s' h

/-- a failed `vi_search` leaves the text and the cursor of the editor state where they were -/
theorem viSearch_fail_keeps_cursor {cmd : Nat} {cnt r o : Int} {s s' : VS}
    (h : viSearch cmd cnt r o s = Res.ok none s') :
    lines s' = lines s ∧ s'.ed.xrow = s.ed.xrow ∧ s'.ed.xoff = s.ed.xoff := viSearch_keeps h

/-- the direction `n` / `N` (and `/`, `?` after the prompt has stored theirs) search in -/
def dirOf (cmd : Nat) (s : VS) : Int := if cmd == 78 then -s.ed.xkwddir else s.ed.xkwddir

/-- `vi_search` without the prompt, in closed form: `cnt` chained searches for the stored keyword in
    the direction `dirOf cmd s`, then the line offset of `/pat/+n` -/
def searchRepeat (cmd : Nat) (cnt r o : Int) : M (Option (Int × Int)) := fun s =>
  if lenOf s == 0 || s.ed.xkwddir == 0 then Res.ok none s else
  match countSearch (lines s) s.ed.xkwd (s.ed.xic != 0) (dirOf cmd s) (cmd == 47) cnt.toNat (r, o) with
  | none => Res.trap
  | some none => Res.ok none { s with msg := (([47] ++ s.ed.xkwd ++ strOf "/ not found" : Bytes)).take 511 }
  | some (some (r', o')) =>
    if s.soset then
      if r' + s.so < 0 || r' + s.so ≥ lenOf s then
        Res.ok none { s with msg := (([47] ++ s.ed.xkwd ++ strOf "/ bad offset" : Bytes)).take 511 }
      else Res.ok (some (r' + s.so, -1)) s
    else Res.ok (some (r', o')) s

/-- **the count repeats the search** (and `n`, `N` do not prompt): for a command other than `/`, `?`
    `vi_search` is `searchRepeat`, whose loop `countSearch` chains `cnt` single searches, each
    starting from the position the previous one reported -/
theorem viSearch_count {cmd : Nat} (cnt r o : Int) (h1 : cmd ≠ 47) (h2 : cmd ≠ 63) :
    viSearch cmd cnt r o = searchRepeat cmd cnt r o := by
  funext s
  unfold viSearch searchRepeat
  have hc : (cmd == 47 || cmd == 63) = false := by simp [h1, h2]
  rw [hc, if_neg Bool.false_ne_true, Lemmas.C07.bind_ok (pure false) _ s false s rfl,
    if_neg Bool.false_ne_true, Lemmas.C07.bind_ok Vi.get _ s s s rfl]
  by_cases h0 : (lenOf s == 0 || s.ed.xkwddir == 0) = true
  · rw [if_pos h0, if_pos h0]; rfl
  · rw [if_neg h0, if_neg h0]
    rw [rep_eq_count cmd cnt s s.ed.xkwd _ (cnt.toNat + 1) r o 0 (by omega), show cnt - 0 = cnt by omega]
    simp only [dirOf]
    cases countSearch (lines s) s.ed.xkwd (s.ed.xic != 0) (if (cmd == 78) = true then -s.ed.xkwddir else s.ed.xkwddir)
        (cmd == 47) cnt.toNat (r, o) with
    | none => rfl
    | some x =>
      cases x with
      | none => rfl
      | some p =>
        obtain ⟨r', o'⟩ := p
        simp only []
        by_cases hs : s.soset = true
        · rw [if_pos hs, if_pos hs]
          by_cases hb : (decide (r' + s.so < 0) || decide (r' + s.so ≥ lenOf s)) = true
          · rw [if_pos hb, if_pos hb]; rfl
          · rw [if_neg hb, if_neg hb]; rfl
        · rw [if_neg hs, if_neg hs]; rfl

/-- **`N` reverses, `n` keeps the direction** of the last `/` or `?`: both are `searchRepeat`, whose
    searches run in direction `dirOf`, and `dirOf` is the stored direction for `n`, its negation for `N` -/
theorem viSearch_N_reverses (cnt r o : Int) :
    viSearch 78 cnt r o = searchRepeat 78 cnt r o ∧ viSearch 110 cnt r o = searchRepeat 110 cnt r o ∧
      ∀ s, dirOf 78 s = -s.ed.xkwddir ∧ dirOf 110 s = s.ed.xkwddir := by
  refine ⟨viSearch_count cnt r o (by decide) (by decide), viSearch_count cnt r o (by decide) (by decide), ?_⟩
  intro s; constructor <;> simp [dirOf]

/-- for `n` / `N` the count loop is the plain `k`-fold iteration of single searches -/
def iterSearch (ls : Lines) (kwd : Bytes) (icase : Bool) (dir : Int) : Nat → Int × Int → Option (Option (Int × Int))
  | 0, p => some (some p)
  | k + 1, p =>
    match search ls kwd icase dir p.1 p.2 with
    | none => none
    | some none => some none
    | some (some (r', o', _)) => iterSearch ls kwd icase dir k (r', o')

theorem countSearch_plain (ls : Lines) (kwd : Bytes) (icase : Bool) (dir : Int) (k : Nat) (p : Int × Int) :
    countSearch ls kwd icase dir false k p = iterSearch ls kwd icase dir k p := by
  induction k generalizing p with
  | zero => rfl
  | succ k ih =>
    rw [countSearch_succ, searchStep_def]
    show _ = (match search ls kwd icase dir p.1 p.2 with
      | none => none
      | some none => some none
      | some (some (r', o', _)) => iterSearch ls kwd icase dir k (r', o'))
    cases search ls kwd icase dir p.1 p.2 with
    | none => rfl
    | some x =>
      cases x with
      | none => rfl
      | some t => obtain ⟨r', o', len⟩ := t; simp [ih]

/-- `/` with a count: every search but the last continues from the *end* of the match -/
theorem countSearch_slash_succ (ls : Lines) (kwd : Bytes) (icase : Bool) (dir : Int) (k : Nat) (p : Int × Int) :
    countSearch ls kwd icase dir true (k + 2) p =
      match search ls kwd icase dir p.1 p.2 with
      | none => none
      | some none => some none
      | some (some (r', o', len)) => countSearch ls kwd icase dir true (k + 1) (r', o' + len) := by
  rw [countSearch_succ, searchStep_def]
  cases search ls kwd icase dir p.1 p.2 with
  | none => rfl
  | some x =>
    cases x with
    | none => rfl
    | some t => obtain ⟨r', o', len⟩ := t; simp

/-- a count of one (or none) is a single search -/
theorem countSearch_one (ls : Lines) (kwd : Bytes) (icase : Bool) (dir : Int) (slash : Bool) (p : Int × Int) :
    countSearch ls kwd icase dir slash 1 p =
      match search ls kwd icase dir p.1 p.2 with
      | none => none
      | some none => some none
      | some (some (r', o', _)) => some (some (r', o')) := by
  rw [countSearch_succ, searchStep_def]
  cases search ls kwd icase dir p.1 p.2 with
  | none => rfl
  | some x =>
    cases x with
    | none => rfl
    | some t => obtain ⟨r', o', len⟩ := t; simp [countSearch_zero]

/-! ### a failed search in the command loop -/

/-- **the caller of a failed search.**  When `vi_motion` has read one of `/ ? n N` and `vi_search`
    fails, `vi_motion` returns `mv = -1` and hands back the row and offset it was given. -/
theorem viMotion_search_fail {row off r1 mv : Int} {s s1 s2 s3 : VS}
    (h1 : viMotionln row 0 s = Res.ok (0, r1) s1) (h2 : viRead s1 = Res.ok mv s2)
    (hmv : mv = 47 ∨ mv = 63 ∨ mv = 110 ∨ mv = 78)
    (h3 : viSearch mv.toNat (cntOf s) r1 off s2 = Res.ok none s3) :
    viMotion row off s = Res.ok (-1, r1, off) s3 := by
  unfold viMotion
  rw [Lemmas.C07.bind_ok Vi.get _ s s s rfl, Lemmas.C07.bind_ok _ _ _ _ _ h1]
  dsimp only
  rw [if_neg (by decide), Lemmas.C07.bind_ok _ _ _ _ _ h2, Lemmas.C07.bind_ok Vi.get _ s2 s2 s2 rfl]
  rcases hmv with rfl | rfl | rfl | rfl
  all_goals
    simp only [Int.reduceBEq, Bool.or_false, Bool.or_true, Bool.or_self, Bool.false_eq_true, ↓reduceIte]
    rw [Lemmas.C07.bind_ok _ _ _ _ _ h3]
    rfl

/-- **when nothing is found the cursor stays where it was.**  If the prefix/motion phase `viPre` of an
    iteration of `vi()` ends with a failed motion (`mv < 0`, as after a failed search), the iteration
    is just its closing phase, and that phase changes the text not at all and the cursor only by the
    clamping of `vi_wfix` -/
theorem viStep_failed_motion {s s1 s' : VS} {mv nrow noff : Int}
    (hpre : viPre s = Res.ok (mv, nrow, noff) s1) (hmv : mv < 0) (h : viStep s = Res.ok () s') :
    ∃ s2, viWfix s1 = Res.ok () s2 ∧
      lines s' = lines s2 ∧ s'.ed.xrow = s2.ed.xrow ∧ s'.ed.xoff = s2.ed.xoff := by
  unfold viStep at h
  simp only [bind, hpre] at h
  have h1 : ¬ mv > 0 := by omega
  have h2 : (mv == 0) = false := by simp; omega
  simp only [h1, h2, if_false, Bool.false_eq_true, pure] at h
  exact viPost_zero h

/-- `vi_wfix` keeps the text, keeps a cursor row that is inside the buffer, and clamps the offset
    with `ren_noeol` -/
theorem viWfix_cursor {s s2 : VS} (h : viWfix s = Res.ok () s2) (hr : 0 ≤ s.ed.xrow) (hl : s.ed.xrow < lenOf s) :
    lines s2 = lines s ∧ s2.ed.xrow = s.ed.xrow ∧
      s2.ed.xoff = (match lineOf s s.ed.xrow with
        | some l => Ren.renNoeol l s.ed.xoff
        | none => Ren.renNoeol [] s.ed.xoff) := by
  unfold viWfix at h
  have hc : (decide (s.ed.xrow < 0) || decide (s.ed.xrow ≥ lenOf s)) = false := by simp; omega
  simp only [bind, Vi.get, hc, Bool.false_eq_true, if_false, withEd, Vi.modify, setOff] at h
  cases h
  refine ⟨rfl, rfl, ?_⟩
  rfl

end vi

/-! ## 2''. the backward rule as "the matches that begin before the cursor" -/

/-- when the successive matches of the whole line can be enumerated (`full`), the chain of the
    cursor's row is the longest prefix of matches that begin before the cursor, so the search
    reports the last of those -/
theorem backward_cursor_row_takeWhile {m : Matcher} {s : Bytes} {r0 o0 : Int} {full : List (Nat × Nat)}
    (h : Chain m s (fun _ => false) 0 full) :
    Chain m s (stopB r0 o0 r0 s) 0 (full.takeWhile (fun p => decide (((ucOff s p.1 : Nat) : Int) < o0))) := by
  have := chain_stop_takeWhile (stopB r0 o0 r0 s) h
  have hf : (fun p : Nat × Nat => !stopB r0 o0 r0 s p.1) = (fun p => decide (((ucOff s p.1 : Nat) : Int) < o0)) := by
    funext p; rw [stopB_cursor_row]
    by_cases hp : o0 ≤ ((ucOff s p.1 : Nat) : Int)
    · simp [hp]
    · simp [hp]; omega
  rw [hf] at this; exact this

/-! ## 4'. valid UTF-8 lines: the report is in characters -/

/-- on a line that is the encoding of the code points `cs`, a match at the bytes of characters
    `[k, k + n)` is reported as offset `k`, length `n` -/
theorem report_valid {cs : List Nat} (h : ∀ c ∈ cs, Spec.ValidCp c) (k n : Nat) (hk : k + n ≤ cs.length) :
    report (Spec.encStr cs) (Spec.byteOff cs k) (Spec.byteOff cs (k + n) - Spec.byteOff cs k) = ((k : Int), (n : Int)) := by
  have hsplit : Spec.encStr cs = Spec.encStr (cs.take k) ++ Spec.encStr (cs.drop k) := by
    rw [← Spec.encStr_append, List.take_append_drop]
  have hdrop : (Spec.encStr cs).drop (Spec.byteOff cs k) = Spec.encStr (cs.drop k) := by
    unfold Spec.byteOff
    conv => lhs; arg 2; rw [hsplit]
    exact List.drop_left
  have hlen : Spec.byteOff cs (k + n) - Spec.byteOff cs k = Spec.byteOff (cs.drop k) n := by
    unfold Spec.byteOff
    rw [List.take_add, Spec.encStr_append, List.length_append]
    omega
  have hd : ∀ c ∈ cs.drop k, Spec.ValidCp c := fun c hc => h c (List.mem_of_mem_drop hc)
  unfold report
  rw [hdrop, hlen, Props.C16.off_chr_roundtrip h k (by omega),
    Props.C16.off_chr_roundtrip hd n (by simp; omega)]

/-! ## 6. examples: `foo` / `bar` / `foo`, pattern `o` -/

/-- "foo\n", "bar\n", "foo\n" -/
def buf3 : Lines := [[102, 111, 111, 10], [98, 97, 114, 10], [102, 111, 111, 10]]

/-- forward from (0,0): the first `o` after the cursor character -/
example : search buf3 [111] false 1 0 0 = some (some (0, 1, 1)) := by decide
/-- forward from (0,2): nothing left on row 0, none on row 1, the first `o` of row 2 -/
example : search buf3 [111] false 1 0 2 = some (some (2, 1, 1)) := by decide
/-- backward from (2,0): nothing before the cursor on row 2, none on row 1, the *last* `o` of row 0 -/
example : search buf3 [111] false (-1) 2 0 = some (some (0, 2, 1)) := by decide
/-- backward from (2,2): the last `o` that begins before the cursor on its own row -/
example : search buf3 [111] false (-1) 2 2 = some (some (2, 1, 1)) := by decide
/-- not found -/
example : search buf3 [122] false 1 0 0 = some none := by decide
/-- no wrap-around: forward from the last `o` of the buffer, backward from the first -/
example : search buf3 [111] false 1 2 2 = some none := by decide
example : search buf3 [111] false (-1) 0 1 = some none := by decide
/-- `2n`-style repetition: two chained forward searches from (0,0) -/
example : iterSearch buf3 [111] false 1 2 (0, 0) = some (some (0, 2)) := by decide
/-- `2/o`: the first search continues from the end of its match, `(0, 1 + 1)`, so the second finds row 2 -/
example : countSearch buf3 [111] false 1 true 2 (0, 0) = some (some (2, 1)) := by decide

/-! ## the known limitation: the matcher sees only the suffix -/

/-- a toy "`a` at the start of a word": the first `a` in `t` whose previous byte (`prev` for the
    first one) is not a word byte -/
def firstA : Option Nat → Bytes → Nat → Option (Nat × Nat)
  | _, [], _ => none
  | prev, c :: t, i =>
    if c == 97 && !(match prev with | some p => Regex.isWordB p | none => false) then some (i, i + 1)
    else firstA (some c) t (i + 1)

/-- the rule of `lbuf_search`: the matcher gets the suffix and nothing else -/
def sufM : Matcher := fun s off => some (firstA none (s.drop off) 0)
/-- a whole-line rule: the matcher also sees the byte before the suffix -/
def lineM : Matcher := fun s off => some (firstA (if off = 0 then none else s[off - 1]?) (s.drop off) 0)

/-- **witness.**  On the line `ba` with the cursor on `b`, a forward search under the suffix rule
    reports the `a` (it looks like the start of a word once `b` is cut off); under the whole-line rule
    there is no match. -/
theorem suffix_rule_differs :
    gSearch sufM [[98, 97, 10]] 1 0 0 = some (some (0, 1, 1)) ∧ gSearch lineM [[98, 97, 10]] 1 0 0 = some none := by
  constructor <;> decide

/-- the same with the real matcher: the pattern `\<a` on the line `ba`.  Forward from `b` the model
    (like the C) reports the `a`; backward from the end of the line, where the matcher is given the
    whole line, the same `a` is not a match. -/
theorem suffix_rule_real :
    search [[98, 97, 10]] [92, 60, 97] false 1 0 0 = some (some (0, 1, 1)) ∧
    search [[98, 97, 10]] [92, 60, 97] false (-1) 0 2 = some none := by
  constructor <;> decide

end Neatvi.Props.C13
