import NeatviVerif.Lemmas.C13bG
import NeatviVerif.Lemmas.C13bH
import NeatviVerif.Lemmas.C13bI
import NeatviVerif.Lemmas.C13bL
/-!
# C13b: when "the rest of the line" and "the whole line" are the same question

C13 (search) and C14 (`:s`) are worded "with matches judged against the whole line".  The code —
`lbuf_search` and `ec_substitute` — hands the matcher only the REST of the line (`line.drop k`: after
the cursor, after the previous match) together with the flag "not at the beginning of the line"
(`RE_NOTBOL`), so the theorems of `Props/C13.lean`, `Props/C14.lean` are relative to that suffix
matcher and the difference is a recorded finding (`Props.C13.suffix_rule_real`).  This file delimits
the finding.

* **`ContextFree t`** (on the parse tree): the pattern contains no word-boundary atom `\<`, `\>`.
  These are the only atoms that read the text *before* the position they are tried at (`prevLead`).
  `^` also looks back, but at the start of the rest `RE_NOTBOL` answers for it exactly as the whole
  line does at an offset `k > 0` — except that under `REG_NEWLINE` the whole line lets `^` match right
  after a newline byte; that cannot happen inside a line of the line buffer (`LineNl`: the only newline
  is the last byte), and is the side condition `BegOk` / `NoBeg` below.  `.`, `[...]`, literals and `$`
  look at the current character only.
* **`suffix_eq_whole`**: for a `ContextFree` pattern and an offset `k` that is a character start of the
  line, the start positions tried on the rest are the character starts of the line from `k` on, and at
  each of them the rest has exactly the parses of the whole line, in the same priority order, every
  offset shifted by `k`.  Then the same for the engines: the backtracking VM step by step
  (`vm_suffix_eq_whole`, no hypothesis on depth cuts), `regexec`, `rset_find`, the literal fast path,
  `rstr_find` (`rstrFind_suffix_eq_whole`).
* **corollaries**: `lbuf_search` is the scan of C13 at the whole-line matcher (`search_eq_whole`, and
  the C13 characterisations restated with it); the per-line loop of `ec_substitute` is the whole-line
  scan `scanW` (`substLine_whole`); the two reference scans of the test oracle coincide
  (`oracle_substRef_suffix_eq_whole`).
* **converse witnesses**: `\<`, `\>` and `^`-after-a-newline do make the two readings differ.

`PatCF kw` is the predicate on the pattern *text* (decidable: evaluate it): the literal fast path has
no `\<` / `\>` anchor, or the tree of `((kw))` is `ContextFree`; it holds for every text without the
characters `<` and `>` (`patCF_of_no_angle`).
-/
namespace Neatvi.Props.C13b
open Neatvi Neatvi.Regex Neatvi.Rset Neatvi.Mot Neatvi.Spec.RegexSem Neatvi.Lemmas.C13 Neatvi.Lemmas.C13b
open Neatvi.Props.C13 (reFlags)

/-! ## 1. the predicate -/

/-- `ContextFree` spelled out: no `\<`, no `\>` anywhere in the tree -/
theorem contextFree_iff (t : RNode) :
    ContextFree t = true ↔ TreeAtoms (fun a => a.k ≠ AK.wbeg ∧ a.k ≠ AK.wend) t := by
  induction t with
  | nul => simp [ContextFree, TreeAtoms]
  | atom a mn mx => simp [ContextFree, TreeAtoms, CFAtom]
  | cat a b iha ihb => simp [ContextFree, TreeAtoms, iha, ihb]
  | alt a b iha ihb => simp [ContextFree, TreeAtoms, iha, ihb]
  | grp a g mn mx iha => simp [ContextFree, TreeAtoms, iha]

/-- numbering the groups does not change the predicate -/
theorem contextFree_grpnum (t : RNode) (n : Nat) : ContextFree (grpnum t n).1 = ContextFree t := cf_grpnum t n

/-- **a pattern text without the characters `<` and `>` makes no word-boundary test**, whichever of
    the two engines `rstr_make` chooses for it -/
theorem patCF_of_no_angle (kw : Bytes) (h : 60 ∉ kw ∧ 62 ∉ kw) : PatCF kw = true :=
  Lemmas.C13b.patCF_of_no_angle kw h

/-- the tree the parser builds from a text without `<`, `>` is `ContextFree` -/
theorem parse_contextFree {p : Bytes} {t : RNode} (hp : 60 ∉ p ∧ 62 ∉ p) (h : parse p = some (some t)) :
    ContextFree t = true := parse_cf_of_noAngle hp h

/-- what `PatCF` gives for the compiled pattern: no `\<` / `\>` instruction in the program of the
    engine, no `\<` / `\>` anchor on the literal -/
theorem patCF_compiled {kw : Bytes} {flg : Nat} {re : RStr} (h : rstrMake kw flg = some (some re))
    (hp : PatCF kw = true) : ReCF re := reCF_of_pat h hp

/-- `(a|b)*c$` and `^x.[a-z]` are `ContextFree`; `\<a` and `x\>|y` are not; an escaped backslash
    followed by `<` is (it is not the anchor) -/
example : PatCF [40, 97, 124, 98, 41, 42, 99, 36] = true ∧ PatCF [94, 120, 46, 91, 97, 45, 122, 93] = true ∧
    PatCF [92, 60, 97] = false ∧ PatCF [120, 92, 62, 124, 121] = false ∧ PatCF [92, 92, 60, 97] = true := by decide

/-! ## 2. `suffix_eq_whole`: the reference semantics -/

/-- **one atom.**  An atom other than `\<`, `\>`, matched at position `pos` of the rest `line.drop k`
    (`0 < k ≤ line.length`, flags of the rest: `REG_NOTBOL` set, the others as for the whole line),
    gives what it gives at position `pos + k` of the whole line, the end position shifted by `k`.
    For `^` the rest must not begin right after a newline byte inside the line. -/
theorem atom_suffix_eq_whole (a : Atom) (line : Bytes) (k fw fs pos : Nat) (hcf : a.k ≠ AK.wbeg ∧ a.k ≠ AK.wend)
    (hk : k ≤ line.length) (hk0 : 0 < k) (hfl : FlagsRest fw fs) (hbol : a.k = AK.beg → NlFree line k) :
    atomMatch a line fw (pos + k) = shiftAR k (atomMatch a (line.drop k) fs pos) :=
  atomMatch_shift a line k fw fs pos (by simp [CFAtom, hcf.1, hcf.2]) hk hk0 hfl hbol

/-- adding `REG_NOTBOL` to the flags of the whole line gives flags of the rest -/
theorem flagsRest_notbol (f : Nat) : FlagsRest f (f ||| REG_NOTBOL) := flagsRest_or f

/-- **suffix_eq_whole.**  `t` is `ContextFree`; `k > 0` is a character start of the line (one of the
    positions `regexec` steps through); `^` is harmless (`BegOk`: no `^` in `t`, or the rest does not
    begin right after a newline inside the line).  Then matching the rest `line.drop k` under
    `REG_NOTBOL` yields exactly the matches of the whole line that start at or after `k`, offsets
    shifted by `k`:

    * the start positions tried on the rest are, shifted, the character starts of the line `≥ k`;
    * from each of them (and from every position `i`, with any group marks `g`) the ordered list of
      parses of the whole line is the shifted ordered list of parses of the rest.

    (For `k = 0` the rest is the line and no flag is added: nothing to prove.) -/
theorem suffix_eq_whole (t : RNode) (hcf : ContextFree t = true) (line : Bytes) (k : Nat) (hk0 : 0 < k)
    (hks : k ∈ starts line (line.length + 2) 0) (hbeg : BegOk t line k) (fw fs : Nat) (hfl : FlagsRest fw fs) :
    (starts (line.drop k) ((line.drop k).length + 2) 0).map (· + k) =
        (starts line (line.length + 2) 0).filter (fun i => decide (i ≥ k)) ∧
    ∀ (i : Nat) (g : Marks), results ⟨line, fw⟩ t (i + k, shiftM k g) =
        (results ⟨line.drop k, fs⟩ t (i, g)).map (shiftR k) :=
  ⟨starts_rest line k hks,
   fun i g => results_shift line k fw fs (starts_le line _ _ _ (Nat.zero_le _) hks) hk0 hfl t hcf hbeg (i, g)⟩

/-- the parses alone need no character boundary: any byte offset `0 < k ≤ line.length` -/
theorem suffix_eq_whole_parses (t : RNode) (hcf : ContextFree t = true) (line : Bytes) (k : Nat) (hk0 : 0 < k)
    (hk : k ≤ line.length) (hbeg : BegOk t line k) (fw fs : Nat) (hfl : FlagsRest fw fs) (r : R) :
    results ⟨line, fw⟩ t (shiftR k r) = (results ⟨line.drop k, fs⟩ t r).map (shiftR k) :=
  results_shift line k fw fs hk hk0 hfl t hcf hbeg r

/-- the hypotheses of `suffix_eq_whole` on `(b*)(c|d)`, the line `héb bc`, `k = 3` (after `é`) -/
example : ContextFree (.cat (.grp (.atom ⟨AK.chr, [98]⟩ 0 (-1)) 1 1 1)
      (.grp (.alt (.atom ⟨AK.chr, [99]⟩ 1 1) (.atom ⟨AK.chr, [100]⟩ 1 1)) 2 1 1)) = true ∧
    3 ∈ starts [104, 195, 169, 98, 32, 98, 99] 9 0 ∧
    BegOk (.cat (.grp (.atom ⟨AK.chr, [98]⟩ 0 (-1)) 1 1 1)
      (.grp (.alt (.atom ⟨AK.chr, [99]⟩ 1 1) (.atom ⟨AK.chr, [100]⟩ 1 1)) 2 1 1)) [104, 195, 169, 98, 32, 98, 99] 3 := by
  decide

/-- **first match.**  `RegexSem.firstMatch` on the rest under `REG_NOTBOL` is, shifted, the first
    character start of the whole line at or after `k` that has a parse, with its best parse
    (`firstMatchFrom`; `firstMatchFrom … 0 = firstMatch`) -/
theorem suffix_eq_whole_first (t : RNode) (hcf : ContextFree t = true) (line : Bytes) (k : Nat) (hk0 : 0 < k)
    (hks : k ∈ starts line (line.length + 2) 0) (hbeg : BegOk t line k) (fw fs : Nat) (hfl : FlagsRest fw fs)
    (nmarks : Nat) :
    firstMatchFrom t line fw nmarks k = (firstMatch t (line.drop k) fs nmarks).map (shiftFM k) :=
  firstMatch_shift line k fw fs hk0 hfl hks t hcf hbeg nmarks

theorem firstMatchFrom_zero (t : RNode) (subj : Bytes) (flg nmarks : Nat) :
    firstMatchFrom t subj flg nmarks 0 = firstMatch t subj flg nmarks := by
  unfold firstMatchFrom
  rw [firstMatch_eq, filter_ge_zero]
  rfl

/-- **the two reference matchers of the test oracle** (`Drive/ExSpec.lean`): the first match of the
    rest from `k`, told only "not at the beginning of the line" (`matchFromSuffix`), is the first match
    of the whole line at or after `k` (`matchFrom`) -/
theorem oracle_matchers_agree (t : RNode) (line : Bytes) (icase : Bool) (k : Nat)
    (hks : k ∈ starts line (line.length + 2) 0) (hcf : ContextFree t = true) (hbeg : 0 < k → BegOk t line k) :
    Drive.ExSpec.matchFromSuffix t line icase k = Drive.ExSpec.matchFrom t line icase k :=
  matchFromSuffix_eq_matchFrom t line icase k hks hcf hbeg

/-! ## 2'. `suffix_eq_whole`: the engines -/

/-- **the backtracking VM.**  For a program without `\<` / `\>` instruction (`AtomOk` of every atom
    instruction) the run of `re_rec` from `(pc, pos, marks)` on the rest `line.drop k` under
    `REG_NOTBOL` is its run from `(pc, pos + k, shifted marks)` on the whole line: same outcome, same
    cut counter, end position and marks shifted by `k`.  No hypothesis on depth cuts. -/
theorem vm_suffix_eq_whole (prog : List Inst) (line : Bytes) (k fw fs nd ngrps : Nat) (hk : k ≤ line.length)
    (hk0 : 0 < k) (hfl : FlagsRest fw fs) (hprog : CodeAtoms (AtomOk line k) prog)
    (dep pc pos : Nat) (m : Marks) (cuts : Nat) :
    loop ⟨prog, line, fw, nd, ngrps⟩ dep pc (pos + k) (shiftM k m) cuts =
      shiftRes k (loop ⟨prog, line.drop k, fs, nd, ngrps⟩ dep pc pos m cuts) :=
  loop_shift prog line k fw fs nd ngrps hk hk0 hfl hprog dep pc pos m cuts

/-- the program `regcomp` emits for a `ContextFree` tree has no `\<` / `\>` instruction (and its `^`
    instructions are harmless under `BegOk`) -/
theorem regcomp_contextFree {pat : Bytes} {flg : Nat} {prog : Prog} (hc : regcomp pat flg = some (some prog))
    (line : Bytes) (k : Nat) (ht : ∀ t, parse pat = some (some t) → ContextFree t = true ∧ BegOk t line k) :
    CodeAtoms (AtomOk line k) prog.code :=
  codeAtoms_regcomp hc (fun t h => treeAtoms_of_cf line k t (ht t h).1 (ht t h).2)

/-- **`regexec`.**  `regexec` on the rest is `regexec` on the whole line with its start-position loop
    entered at byte `k` (`regexecFrom`; `regexecFrom … 0 = regexec`): same verdict, same cut counter,
    marks and group offsets shifted by `k` -/
theorem regexec_suffix_eq_whole (p : Prog) (line : Bytes) (k nsub ew es nd ngrps : Nat)
    (hk : k ≤ line.length) (hk0 : 0 < k) (hfl : FlagsRest (p.flg ||| ew) (p.flg ||| es))
    (hprog : CodeAtoms (AtomOk line k) p.code) :
    regexecFrom p line k nsub ew nd ngrps = shiftX k (regexec p (line.drop k) nsub es nd ngrps) :=
  regexec_shift p line k nsub ew es nd ngrps hk hk0 hfl hprog

theorem regexecFrom_zero (p : Prog) (subj : Bytes) (nsub eflg nd ngrps : Nat) :
    regexecFrom p subj 0 nsub eflg nd ngrps = regexec p subj nsub eflg nd ngrps := rfl

/-- **`rstr_find`, both engines.**  For a compiled pattern that makes no word-boundary test (`ReCF`:
    no `\<` / `\>` instruction, resp. no `\<` / `\>` anchor on the literal), `rstr_find` on the rest
    with `RE_NOTBOL` returns what `rstr_find` returns on the whole line when its search starts at byte
    `k` (`rstrFindFrom`, `rstrFindFrom … 0 = rstrFind`): same result code and cut counter, the group
    offsets shifted by `k` -/
theorem rstrFind_suffix_eq_whole (re : RStr) (line : Bytes) (k n nd ngrps : Nat) (hk : k ≤ line.length)
    (hk0 : 0 < k) (hcf : ReCF re) (hbeg : ReBegOk re line k) :
    rstrFindFrom re line k n 0 nd ngrps = (rstrFind re (line.drop k) n RE_NOTBOL nd ngrps).map (shiftF k) :=
  rstrFind_shift re line k n nd ngrps hk hk0 hcf hbeg

theorem rstrFindFrom_zero (re : RStr) (s : Bytes) (n flg nd ngrps : Nat) :
    rstrFindFrom re s 0 n flg nd ngrps = rstrFind re s n flg nd ngrps :=
  Lemmas.C13b.rstrFindFrom_zero re s n flg nd ngrps

/-- **through C10b (`regexec_first`).**  `regcomp` accepted the pattern, its tree is `ContextFree`, and
    `regexec` on the rest `line.drop k` with `REG_NOTBOL` reports a match without any depth cut.  Then
    in the reference semantics of the *whole line* no start position tried from `k` up to `s + k` has
    a parse, and the marks reported, shifted by `k`, are those of the highest-priority parse there. -/
theorem regexec_rest_first_whole {pat : Bytes} {flg : Nat} {prog : Prog} (hc : regcomp pat flg = some (some prog))
    (line : Bytes) (k nsub ew es nd ngrps : Nat) (hk : k ≤ line.length) (hk0 : 0 < k)
    (hfl : FlagsRest (prog.flg ||| ew) (prog.flg ||| es)) (hg1 : 1 < ngrps)
    (hgr : ∀ t0, parse pat = some (some t0) → 2 * (1 + (grpnum t0 1).2) ≤ ngrps)
    (hcf : ∀ t0, parse pat = some (some t0) → ContextFree t0 = true ∧ BegOk t0 line k)
    (m : Marks) (subs : List (Int × Int))
    (hr : regexec prog (line.drop k) nsub es nd ngrps = (ExecRes.found m 0, subs)) :
    ∃ t0 s r rest, parse pat = some (some t0) ∧
      Props.C10b.NoParseUntil ⟨line, prog.flg ||| ew⟩ (grpnum t0 1).1 ngrps k (s + k) ∧
      results ⟨line, prog.flg ||| ew⟩ (grpnum t0 1).1 (s + k, Props.C10b.startMarks ngrps (s + k)) = r :: rest ∧
      shiftM k m = r.2.set 1 (r.1 : Int) := by
  obtain ⟨t0, s, r, rest, hp, hno, hres, hm⟩ := Props.C10b.regexec_first hc (line.drop k) nsub es nd ngrps hg1 hgr m subs hr
  obtain ⟨hcf0, hbeg0⟩ := hcf t0 hp
  have hcf1 : ContextFree (grpnum t0 1).1 = true := by rw [cf_grpnum]; exact hcf0
  have hbeg1 : BegOk (grpnum t0 1).1 line k := by
    rcases hbeg0 with h | h
    · exact Or.inl (by rw [noBeg_grpnum]; exact h)
    · exact Or.inr h
  have hsh := results_shift line k (prog.flg ||| ew) (prog.flg ||| es) hk hk0 hfl _ hcf1 hbeg1 (s, Props.C10b.startMarks ngrps s)
  simp only [shiftR, startMarks_shift] at hsh
  rw [hres] at hsh
  refine ⟨t0, s, shiftR k r, rest.map (shiftR k), hp, ?_, hsh, ?_⟩
  · have := noParseUntil_shift line k _ _ hk hk0 hfl _ hcf1 hbeg1 ngrps hno
    rw [Nat.zero_add] at this
    exact this
  · rw [hm]
    have := shiftM_setMark k r.2 1 r.1
    unfold setMark at this
    simp only [shiftR]
    exact this

/-- the hypotheses of `regexec_rest_first_whole` on `a*`, the line `baaab`, `k = 1`: the program
    `regcomp` builds, a run on the rest `aaab` under `REG_NOTBOL` that reports `[0, 3)` without cut, the
    group count, and the tree -/
example : regcomp Props.C10b.patStar 0 = some (some ⟨Props.C10b.codeStar, 6, 0⟩) ∧
    regexec ⟨Props.C10b.codeStar, 6, 0⟩ ([98, 97, 97, 97, 98].drop 1) 1 REG_NOTBOL 64 4 =
      (ExecRes.found [0, 3, -1, -1, -1, -1, -1, -1] 0, [(0, 3)]) ∧
    (∀ t0, parse Props.C10b.patStar = some (some t0) → 2 * (1 + (grpnum t0 1).2) ≤ 4) ∧
    (∀ t0, parse Props.C10b.patStar = some (some t0) → ContextFree t0 = true ∧ BegOk t0 [98, 97, 97, 97, 98] 1) := by
  have hp : parse Props.C10b.patStar = some (some (.atom ⟨AK.chr, [97]⟩ 0 (-1))) := by decide
  exact ⟨rfl, Lemmas.C10.regexecF_sound (fuel := 40) (by decide),
    fun t0 h => by rw [hp] at h; cases h; decide, fun t0 h => by rw [hp] at h; cases h; decide⟩

/-- the hypotheses of `rstrFind_suffix_eq_whole` on the compiled `b*` (it goes to the engine), the line
    ` ab`, `k = 1` -/
example : ∃ re, rstrMake [98, 42] 0 = some (some re) ∧ ReCF re ∧ ReBegOk re [32, 97, 98, 10] 1 :=
  ⟨_, rfl, patCF_compiled (kw := [98, 42]) (flg := 0) rfl (by decide), Or.inr (Or.inl (by decide))⟩

/-! ## 3. corollaries: C13 (search) under the whole-line reading -/

/-- **the matcher of `lbuf_search` is the whole-line matcher.**  `wholeMatcher re s off`: `rstr_find`
    sees the whole line `s` (no `RE_NOTBOL`) and reports the first match that starts at byte `off` or
    later.  For a compiled pattern without word-boundary test, and without `^` or on a line whose only
    newline is its last byte, it is what `lbuf_search` computes from the rest of the line. -/
theorem reMatcher_eq_whole (re : RStr) (s : Bytes) (off : Nat) (hoff : off ≤ s.length)
    (hcf : ReCF re) (hbeg : ReNoBeg re ∨ LineNl s) : reMatcher re s off = wholeMatcher re s off :=
  Lemmas.C13b.reMatcher_eq_whole re s off hoff hcf hbeg

/-- **search_eq_whole**: for a pattern text without word-boundary test `lbuf_search` *is* the scan of
    C13 (`gSearch`) at the whole-line matcher -/
theorem search_eq_whole {ls : Lines} {kw : Bytes} {icase : Bool} {re : RStr}
    (hre : rstrMake kw (reFlags icase) = some (some re)) (hcf : PatCF kw = true)
    (hbeg : PatNoBeg kw = true ∨ ∀ s ∈ ls, LineNl s) (dir r0 o0 : Int) :
    search ls kw icase dir r0 o0 = gSearch (wholeMatcher re) ls dir r0 o0 :=
  Lemmas.C13b.search_eq_whole hre hcf hbeg dir r0 o0

/-- **forward search against the whole line** (`Props.C13.search_forward_first_row` with the
    whole-line matcher): the search reports `(r, o, len)` exactly when no row from the cursor's up to
    `r` has a match of the whole line that begins after the cursor character (cursor's row) / anywhere
    (other rows), and `(o, len)` is the first such match on row `r` -/
theorem search_forward_first_row_whole {ls : Lines} {kw : Bytes} {icase : Bool} {re : RStr} {r0 o0 r o len : Int}
    (hre : rstrMake kw (reFlags icase) = some (some re)) (hcf : PatCF kw = true)
    (hbeg : PatNoBeg kw = true ∨ ∀ s ∈ ls, LineNl s) (h0 : 0 ≤ r0) :
    search ls kw icase 1 r0 o0 = some (some (r, o, len)) ↔
      (r0 ≤ r ∧ r < ls.length ∧
        (∀ j s, r0 ≤ j → j < r → lineAt ls j = some s → fwdLine (wholeMatcher re) r0 o0 j s = some none) ∧
        ∃ s, lineAt ls r = some s ∧ fwdLine (wholeMatcher re) r0 o0 r s = some (some (o, len))) :=
  Lemmas.C13b.search_forward_first_row_whole hre hcf hbeg h0

theorem search_forward_not_found_whole {ls : Lines} {kw : Bytes} {icase : Bool} {re : RStr} {r0 o0 : Int}
    (hre : rstrMake kw (reFlags icase) = some (some re)) (hcf : PatCF kw = true)
    (hbeg : PatNoBeg kw = true ∨ ∀ s ∈ ls, LineNl s) (h0 : 0 ≤ r0) :
    search ls kw icase 1 r0 o0 = some none ↔
      ∀ j s, r0 ≤ j → lineAt ls j = some s → fwdLine (wholeMatcher re) r0 o0 j s = some none := by
  rw [search_eq_whole hre hcf hbeg]
  exact gSearch_fwd_none _ ls h0

/-- **backward search against the whole line** (`Props.C13.search_backward_last` with the whole-line
    matcher): the chain of successive matches is enumerated by asking the whole line for the first
    match at or after the end of the previous one -/
theorem search_backward_last_whole {ls : Lines} {kw : Bytes} {icase : Bool} {re : RStr} {r0 o0 r o len : Int}
    (hre : rstrMake kw (reFlags icase) = some (some re)) (hcf : PatCF kw = true)
    (hbeg : PatNoBeg kw = true ∨ ∀ s ∈ ls, LineNl s) :
    search ls kw icase (-1) r0 o0 = some (some (r, o, len)) ↔
      (0 ≤ r ∧ r ≤ r0 ∧ r0 < ls.length ∧
        (∀ j s, r < j → j ≤ r0 → lineAt ls j = some s → Chain (wholeMatcher re) s (stopB r0 o0 j s) 0 []) ∧
        ∃ s l b n, lineAt ls r = some s ∧ Chain (wholeMatcher re) s (stopB r0 o0 r s) 0 l ∧
          l.getLast? = some (b, n) ∧ (o, len) = report s b n) :=
  Lemmas.C13b.search_backward_last_whole hre hcf hbeg

theorem search_backward_not_found_whole {ls : Lines} {kw : Bytes} {icase : Bool} {re : RStr} {r0 o0 : Int}
    (hre : rstrMake kw (reFlags icase) = some (some re)) (hcf : PatCF kw = true)
    (hbeg : PatNoBeg kw = true ∨ ∀ s ∈ ls, LineNl s) (hlen : r0 < ls.length) :
    search ls kw icase (-1) r0 o0 = some none ↔
      ∀ j s, j ≤ r0 → lineAt ls j = some s → Chain (wholeMatcher re) s (stopB r0 o0 j s) 0 [] := by
  rw [search_eq_whole hre hcf hbeg]
  exact gSearch_bwd_none _ ls hlen

/-- `LineNl`, decided: no newline among the bytes before the last one -/
theorem lineNl_of_bool {s : Bytes} (h : lineNlB s = true) : LineNl s := by
  intro i hi
  unfold lineNlB at h
  rw [List.all_eq_true] at h
  have hlt : i < s.dropLast.length := by rw [List.length_dropLast]; omega
  have hm : s.dropLast[i] ∈ s.dropLast := List.getElem_mem hlt
  have := h _ hm
  rw [List.getElem_dropLast] at this
  rw [List.getD_eq_getElem?_getD, List.getElem?_eq_getElem (by omega)]
  simpa using this

/-- the hypotheses of the search corollaries on the buffer `foo` / `bar` / `foo` of C13: the literal `o`,
    and the pattern `o*` that goes to the engine -/
example : (∃ re, rstrMake [111] (reFlags false) = some (some re)) ∧ PatCF [111] = true ∧ PatNoBeg [111] = true ∧
    (∃ re, rstrMake [111, 42] (reFlags false) = some (some re)) ∧ PatCF [111, 42] = true ∧
    (∀ s ∈ Props.C13.buf3, lineNlB s = true) :=
  ⟨⟨_, rfl⟩, by decide, by decide, ⟨_, rfl⟩, by decide, by decide⟩

/-! ## 3'. corollaries: C14 (`:s`) under the whole-line reading -/

/-- **the matcher of `ec_substitute` is the whole-line matcher.**  `wholeFind re line pos`: `rstr_find`
    sees the whole line and reports the first match at or after byte `pos` in absolute offsets.  It is
    what `ec_substitute` computes from the rest of the line (`Props.C14.rsFind`), read in absolute
    offsets (`liftM pos`). -/
theorem subst_matcher_eq_whole (re : RStr) (line : Bytes) (pos : Nat) (hpos : pos ≤ line.length)
    (hcf : ReCF re) (hbeg : ReNoBeg re ∨ LineNl line) :
    wholeFind re line pos = (Props.C14.rsFind re (line.drop pos) (pos != 0)).map (·.map (liftM pos)) :=
  wholeFind_eq re line pos hpos hcf hbeg

/-- the expansion of the replacement text does not depend on the reading: the groups of a match on the
    rest are, shifted, the groups of the match on the whole line -/
theorem expand_suffix_eq_whole (rep line : Bytes) (k : Nat) (hk : k ≤ line.length) (offs : List Int) :
    Props.C14.expandOpt rep (line.drop k) offs = Props.C14.expandOpt rep line (offs.map (shiftI k)) :=
  expandOpt_shift rep line k hk offs

/-- **subst_scan_eq_whole**: the reference scan of `Props.C14.subst_scan_spec` — match, cut the
    piece, go on with the *rest* — started on the rest of the line from `pos` cuts the pieces the
    whole-line scan `scanW` — the line stays, the offset moves, the matcher sees the whole line —
    cuts from `pos` -/
theorem subst_scan_eq_whole (re : RStr) (rep : Bytes) (g : Bool) (line : Bytes)
    (hcf : ReCF re) (hbeg : ReNoBeg re ∨ LineNl line) (pos : Nat) (hpos : pos ≤ line.length) :
    Props.C14.scan (Props.C14.rsFind re) rep g (line.drop pos) (pos != 0) =
      scanW (wholeFind re) rep g line (line.length - pos + 1) pos :=
  scan_eq_whole re rep g line hcf hbeg _ pos (by omega) hpos

/-- **substLine_whole**: on a line without NUL bytes the per-line loop of `ec_substitute` with a
    pattern without word-boundary test is the whole-line reference scan -/
theorem substLine_whole (re : RStr) (rep : Bytes) (g : Bool) (line : Bytes) (h0 : ∀ b ∈ line, b ≠ 0)
    (hcf : ReCF re) (hbeg : ReNoBeg re ∨ LineNl line) :
    Ex.substLine re rep g line = substRefW (wholeFind re) rep g line :=
  Lemmas.C13b.substLine_whole re rep g line h0 hcf hbeg

/-- the same from the pattern text -/
theorem substLine_whole_pat {kw : Bytes} {flg : Nat} {re : RStr} (hre : rstrMake kw flg = some (some re))
    (hcf : PatCF kw = true) (rep : Bytes) (g : Bool) (line : Bytes) (h0 : ∀ b ∈ line, b ≠ 0)
    (hbeg : PatNoBeg kw = true ∨ LineNl line) :
    Ex.substLine re rep g line = substRefW (wholeFind re) rep g line :=
  Lemmas.C13b.substLine_whole re rep g line h0 (reCF_of_pat hre hcf)
    (hbeg.elim (fun h => Or.inl (reNoBeg_of_pat hre h)) Or.inr)

/-- the hypotheses of `substLine_whole_pat` on `:s|b*|-|g` and the line ` ab` -/
example : (∃ re, rstrMake [98, 42] 0 = some (some re)) ∧ PatCF [98, 42] = true ∧
    (∀ b ∈ [32, 97, 98, 10], b ≠ 0) ∧ lineNlB [32, 97, 98, 10] = true :=
  ⟨⟨_, rfl⟩, by decide, by decide, by decide⟩

/-- **the oracle's two reference scans of `:s` coincide** (`Drive/ExSpec.lean`, `substRef` with
    `suffix := true` against `suffix := false`) for a `ContextFree` pattern, when the matches end on
    character starts of the line (`EndsOnStarts`; so do the scan positions, where `oracle_matchers_agree`
    applies) -/
theorem oracle_substRef_suffix_eq_whole (t : RNode) (rep : Bytes) (g icase : Bool) (line : Bytes)
    (hcf : ContextFree t = true) (hbeg : NoBeg t = true ∨ LineNl line) (hends : EndsOnStarts t line icase) :
    Drive.ExSpec.substRef t rep g icase line true = Drive.ExSpec.substRef t rep g icase line false :=
  substRef_suffix_eq_whole t rep g icase line hcf hbeg hends

/-- on a line of single-byte characters every byte offset is a character start and `EndsOnStarts`
    holds for every pattern -/
theorem endsOnStarts_single_byte (t : RNode) (line : Bytes) (icase : Bool)
    (hall : ∀ i, i ≤ line.length → i ∈ starts line (line.length + 2) 0) : EndsOnStarts t line icase := by
  intro pos so eo m _ hm
  obtain ⟨hso, -, hres⟩ := matchFrom_start hm
  have hsl := starts_le line _ _ _ (Nat.zero_le _) hso
  have h2 := (Lemmas.C10b.results_bounded ⟨line, Drive.ExSpec.refFlags icase false⟩ t _ _ hres).2
  simp only at h2
  exact hall eo (by omega)

/-! ## 4. the converse: what `ContextFree` excludes does make a difference -/

/-- `suffix_eq_whole` (its clause on the parses) without the hypothesis `ContextFree` -/
def suffix_eq_whole_any_pattern : Prop := Lemmas.C13b.suffix_eq_whole_any_pattern

/-- **`\<` is not context free**: on the line `ba`, `k = 1`, the rest `a` has the parse "`\<` at 0"
    (nothing is before it), the whole line has none at 1 (`b` is before it) -/
theorem suffix_eq_whole_any_pattern_is_false : ¬ suffix_eq_whole_any_pattern := by
  intro h
  have := h (.atom ⟨AK.wbeg, []⟩ 1 1) [98, 97] 1 (by decide) (by decide) (by decide) 0 REG_NOTBOL
    (flagsRest_or 0) 0 []
  revert this
  decide

/-- **`\>` is not context free** either: on `a b`, `k = 1`, the whole line has the parse "`\>` at 1"
    (the word `a` ends there), the rest ` b` has none at 0 -/
theorem wend_differs :
    results ⟨[97, 32, 98], 0⟩ (.atom ⟨AK.wend, []⟩ 1 1) (1, []) = [(1, [])] ∧
    results ⟨[32, 98], REG_NOTBOL⟩ (.atom ⟨AK.wend, []⟩ 1 1) (0, []) = [] := by
  constructor <;> decide

/-- **`^` needs its side condition**: with `REG_NEWLINE` and a newline *inside* the subject (`a⏎b`,
    `k = 2`) the whole line lets `^` match after the newline, the rest `b` under `REG_NOTBOL` does not.
    A line of the line buffer has no newline inside (`LineNl`). -/
theorem bol_after_newline_differs :
    ContextFree (.atom ⟨AK.beg, []⟩ 1 1) = true ∧ ¬ BegOk (.atom ⟨AK.beg, []⟩ 1 1) [97, 10, 98] 2 ∧
    results ⟨[97, 10, 98], REG_NEWLINE⟩ (.atom ⟨AK.beg, []⟩ 1 1) (2, []) = [(2, [])] ∧
    results ⟨[98], REG_NEWLINE ||| REG_NOTBOL⟩ (.atom ⟨AK.beg, []⟩ 1 1) (0, []) = [] := by
  refine ⟨by decide, by decide, by decide, by decide⟩

/-- **search, `\<a` on `ba`** (the finding of `Props.C13.suffix_rule_real`, at the matcher): from byte 1
    the matcher of `lbuf_search` reports the `a`, the whole-line matcher nothing; so the model's
    forward search from `b` finds the `a`, the whole-line reading does not -/
theorem search_word_anchor_differs :
    PatCF [92, 60, 97] = false ∧
    (∃ re, rstrMake [92, 60, 97] 0 = some (some re) ∧
      reMatcher re [98, 97, 10] 1 = some (some (0, 1)) ∧ wholeMatcher re [98, 97, 10] 1 = some none ∧
      search [[98, 97, 10]] [92, 60, 97] false 1 0 0 = some (some (0, 1, 1)) ∧
      gSearch (wholeMatcher re) [[98, 97, 10]] 1 0 0 = some none) :=
  ⟨by decide, _, rfl, by decide, by decide, by decide, by decide⟩

/-- **search, `\>` on `a b`**: forward from `a` the model reports the end of `b` (offset 3), the
    whole-line reading the end of `a` (offset 1) -/
theorem search_wend_differs :
    PatCF [92, 62] = false ∧
    (∃ re, rstrMake [92, 62] 0 = some (some re) ∧
      search [[97, 32, 98, 10]] [92, 62] false 1 0 0 = some (some (0, 3, 0)) ∧
      gSearch (wholeMatcher re) [[97, 32, 98, 10]] 1 0 0 = some (some (0, 1, 0))) :=
  ⟨by decide, _, rfl, by decide, by decide⟩

/-- **`:s|\<|-|g` on ` ab`**: the model (like the C) gives ` -a-b` — after the first round the rest
    `b` looks like the start of a word —, the whole-line reading ` -ab` -/
theorem subst_word_anchor_differs :
    PatCF [92, 60] = false ∧
    (∃ re, rstrMake [92, 60] 0 = some (some re) ∧
      Ex.substLine re [45] true [32, 97, 98, 10] = some (some [32, 45, 97, 45, 98, 10]) ∧
      substRefW (wholeFind re) [45] true [32, 97, 98, 10] = some (some [32, 45, 97, 98, 10])) :=
  ⟨by decide, _, rfl, by decide, by decide⟩

/-- the same pair of answers from the oracle's two reference scans, on the tree of `((\<))` -/
theorem oracle_subst_word_anchor_differs :
    (Drive.ExSpec.refTree [92, 60]).map (fun t =>
      (Drive.ExSpec.substRef t [45] true false [32, 97, 98, 10] true,
       Drive.ExSpec.substRef t [45] true false [32, 97, 98, 10] false)) =
    some ([32, 45, 97, 45, 98, 10], [32, 45, 97, 98, 10]) := by decide

/-- a character boundary is needed for the *start positions* (not for the parses): in `é!` byte 1 is
    inside `é`; the rest from there is stepped through at bytes 1, 2, 3, the whole line at 0, 2, 3 -/
theorem boundary_needed :
    starts [195, 169, 33] 5 0 = [0, 2, 3] ∧ (starts ([195, 169, 33].drop 1) 4 0).map (· + 1) = [1, 2, 3] := by
  constructor <;> decide

end Neatvi.Props.C13b
