import NeatviVerif.Lemmas.Basics
import NeatviVerif.Model.ExCmd
import NeatviVerif.Lemmas.ExFrame
import NeatviVerif.Lemmas.C12Exec
import NeatviVerif.Lemmas.C06Ex
import NeatviVerif.Lemmas.C10Eval
import NeatviVerif.Lemmas.C05eDec
/-!
# C14: `:s` — the expansion of the replacement, the per-line scan, and the frame of `ec_substitute`

Three parts, each over its own reference: `expandRef` (what `\d` and `\c` in the replacement become: `expand_spec`), `scan` for any
matcher (the pieces a line is cut into and what is put out: `subst_scan_spec`, `scan_progress`, `no_empty_match_twice`), and the loop
over the range (`substLoop`, `substLoop_lines`, `outside_range_unchanged`; its roadmap stands at "the frame of `ec_substitute`").
-/
namespace Neatvi.Props.C14
open Neatvi Neatvi.Lbuf Neatvi.Ex Neatvi.Rset Neatvi.Lemmas.ExFrame Neatvi.Lemmas.Hist

/-- start and end offset of group `d` in the offsets `rstr_find` wrote (`-1` when absent) -/
def grpSo (offs : List Int) (d : Nat) : Int := offs.getD (d * 2) (-1)
def grpEo (offs : List Int) (d : Nat) : Int := offs.getD (d * 2 + 1) (-1)

/-- the bytes `ln[so, eo)` of group `d` (empty when `so = eo`, in particular for an unset group) -/
def grpText (ln : Bytes) (offs : List Int) (d : Nat) : Bytes :=
  (ln.drop (grpSo offs d).toNat).take (grpEo offs d - grpSo offs d).toNat

/-- group `d` is usable: empty, or a proper slice of the line -/
def GrpOk (ln : Bytes) (offs : List Int) (d : Nat) : Prop :=
  grpSo offs d = grpEo offs d ∨ (0 ≤ grpSo offs d ∧ grpSo offs d ≤ grpEo offs d ∧ grpEo offs d ≤ ln.length)

instance (ln : Bytes) (offs : List Int) (d : Nat) : Decidable (GrpOk ln offs d) := by unfold GrpOk; infer_instance

def isDigit (d : Nat) : Prop := 48 ≤ d ∧ d ≤ 57
instance (d : Nat) : Decidable (isDigit d) := by unfold isDigit; infer_instance

/-- reference expansion: `\\d` ↦ group `d`, `\\c` ↦ `c`, a trailing lone backslash and every other byte ↦ itself -/
def expandRef : Bytes → Bytes → List Int → Bytes
  | [], _, _ => []
  | c :: r, ln, offs =>
    if c = 92 then
      match r with
      | [] => [92]
      | d :: r' => if isDigit d then grpText ln offs (d - 48) ++ expandRef r' ln offs else d :: expandRef r' ln offs
    else c :: expandRef r ln offs

/-- the groups the replacement text refers to (digits in escape position) -/
def refs : Bytes → List Nat
  | [] => []
  | c :: r =>
    if c = 92 then
      match r with
      | [] => []
      | d :: r' => if isDigit d then (d - 48) :: refs r' else refs r'
    else refs r

theorem expandRef_nil (ln : Bytes) (offs : List Int) : expandRef [] ln offs = [] := rfl
theorem expandRef_lone (ln : Bytes) (offs : List Int) : expandRef [92] ln offs = [92] := by simp [expandRef]
theorem expandRef_group (d : Nat) (r ln : Bytes) (offs : List Int) (hd : isDigit d) :
    expandRef (92 :: d :: r) ln offs = grpText ln offs (d - 48) ++ expandRef r ln offs := by simp [expandRef, hd]
theorem expandRef_esc (d : Nat) (r ln : Bytes) (offs : List Int) (hd : ¬ isDigit d) :
    expandRef (92 :: d :: r) ln offs = d :: expandRef r ln offs := by simp [expandRef, hd]
theorem expandRef_other (c : Nat) (r ln : Bytes) (offs : List Int) (hc : c ≠ 92) :
    expandRef (c :: r) ln offs = c :: expandRef r ln offs := by cases r <;> simp [expandRef, hc]

theorem refs_group (d : Nat) (r : Bytes) (hd : isDigit d) : refs (92 :: d :: r) = (d - 48) :: refs r := by simp [refs, hd]
theorem refs_esc (d : Nat) (r : Bytes) (hd : ¬ isDigit d) : refs (92 :: d :: r) = refs r := by simp [refs, hd]
theorem refs_other (c : Nat) (r : Bytes) (hc : c ≠ 92) : refs (c :: r) = refs r := by cases r <;> simp [refs, hc]

/-- the expansion or a trap, stated with the reference expansion -/
def expandOpt (rep ln : Bytes) (offs : List Int) : Option Bytes :=
  if ∀ d ∈ refs rep, GrpOk ln offs d then some (expandRef rep ln offs) else none

theorem expandOpt_nil (ln : Bytes) (offs : List Int) : expandOpt [] ln offs = some [] := by
  simp [expandOpt, refs, expandRef]

theorem expandOpt_lone (ln : Bytes) (offs : List Int) : expandOpt [92] ln offs = some [92] := by
  simp [expandOpt, refs, expandRef]

theorem expandOpt_group {d : Nat} (r ln : Bytes) (offs : List Int) (hd : isDigit d) :
    expandOpt (92 :: d :: r) ln offs =
      if GrpOk ln offs (d - 48) then (expandOpt r ln offs).map (grpText ln offs (d - 48) ++ ·) else none := by
  unfold expandOpt
  rw [refs_group _ _ hd, expandRef_group _ _ _ _ hd]
  by_cases hg : GrpOk ln offs (d - 48)
  · by_cases hr : ∀ d' ∈ refs r, GrpOk ln offs d'
    · rw [if_pos (List.forall_mem_cons.2 ⟨hg, hr⟩), if_pos hg, if_pos hr]; rfl
    · rw [if_neg (fun h => hr (List.forall_mem_cons.1 h).2), if_pos hg, if_neg hr]; rfl
  · rw [if_neg (fun h => hg (List.forall_mem_cons.1 h).1), if_neg hg]

theorem expandOpt_esc {d : Nat} (r ln : Bytes) (offs : List Int) (hd : ¬ isDigit d) :
    expandOpt (92 :: d :: r) ln offs = (expandOpt r ln offs).map (d :: ·) := by
  unfold expandOpt
  rw [refs_esc _ _ hd, expandRef_esc _ _ _ _ hd]
  split <;> rfl

theorem expandOpt_other {c : Nat} (r ln : Bytes) (offs : List Int) (hc : c ≠ 92) :
    expandOpt (c :: r) ln offs = (expandOpt r ln offs).map (c :: ·) := by
  unfold expandOpt
  rw [refs_other _ _ hc, expandRef_other _ _ _ _ hc]
  split <;> rfl

/-- the model's verdict on one group reference -/
theorem grp_cases (ln : Bytes) (offs : List Int) (d : Nat) :
    (GrpOk ln offs d ↔ ¬ (grpEo offs d - grpSo offs d < 0) ∧
      ((grpEo offs d - grpSo offs d == 0) = true ∨ ¬ (decide (grpSo offs d < 0) || decide (grpEo offs d > ↑ln.length)) = true)) := by
  unfold GrpOk
  simp only [beq_iff_eq, Bool.or_eq_true, decide_eq_true_eq]
  omega

theorem go_group (ln : Bytes) (offs : List Int) (f d : Nat) (r acc : Bytes) (hd : isDigit d) :
    substExpand.go ln offs (f + 1) (92 :: d :: r) acc =
      if GrpOk ln offs (d - 48) then substExpand.go ln offs f r (acc ++ grpText ln offs (d - 48)) else none := by
  have hd' : (decide (48 ≤ d) && decide (d ≤ 57)) = true := by
    simp only [Bool.and_eq_true, decide_eq_true_eq]; exact hd
  rw [substExpand.go, if_pos (show ((92 : Nat) == 92 && !(d :: r).isEmpty) = true from rfl)]
  show (if (decide (48 ≤ d) && decide (d ≤ 57)) = true then
      if grpEo offs (d - 48) - grpSo offs (d - 48) < 0 then none
      else if (grpEo offs (d - 48) - grpSo offs (d - 48) == 0) = true then substExpand.go ln offs f r acc
      else if (decide (grpSo offs (d - 48) < 0) || decide (grpEo offs (d - 48) > ↑ln.length)) = true then none
      else substExpand.go ln offs f r (acc ++ grpText ln offs (d - 48))
    else substExpand.go ln offs f r (acc ++ [d])) = _
  rw [if_pos hd']
  by_cases hg : GrpOk ln offs (d - 48)
  · obtain ⟨g1, g2⟩ := (grp_cases ln offs (d - 48)).1 hg
    rw [if_pos hg, if_neg g1]
    by_cases hz : (grpEo offs (d - 48) - grpSo offs (d - 48) == 0) = true
    · have : grpText ln offs (d - 48) = [] := by
        unfold grpText; rw [beq_iff_eq] at hz; rw [hz]; simp
      rw [if_pos hz, this, List.append_nil]
    · rcases g2 with g2 | g2
      · exact absurd g2 hz
      · rw [if_neg hz, if_neg g2]
  · have hn := (not_congr (grp_cases ln offs (d - 48))).1 hg
    rw [if_neg hg]
    split
    · rfl
    · rename_i g1
      split
      · rename_i g2; exact absurd ⟨g1, Or.inl g2⟩ hn
      · split
        · rfl
        · rename_i g3; exact absurd ⟨g1, Or.inr g3⟩ hn

theorem go_esc (ln : Bytes) (offs : List Int) (f d : Nat) (r acc : Bytes) (hd : ¬ isDigit d) :
    substExpand.go ln offs (f + 1) (92 :: d :: r) acc = substExpand.go ln offs f r (acc ++ [d]) := by
  have hd' : ¬ (decide (48 ≤ d) && decide (d ≤ 57)) = true := by
    simp only [Bool.and_eq_true, decide_eq_true_eq]; exact hd
  rw [substExpand.go, if_pos (show ((92 : Nat) == 92 && !(d :: r).isEmpty) = true from rfl)]
  show (if (decide (48 ≤ d) && decide (d ≤ 57)) = true then _ else substExpand.go ln offs f r (acc ++ [d])) = _
  rw [if_neg hd']

theorem go_other (ln : Bytes) (offs : List Int) (f c : Nat) (r acc : Bytes) (hc : c ≠ 92 ∨ r = []) :
    substExpand.go ln offs (f + 1) (c :: r) acc = substExpand.go ln offs f r (acc ++ [c]) := by
  have : ¬ ((c == 92) && !r.isEmpty) = true := by
    rcases hc with hc | rfl
    · simp [hc]
    · simp
  rw [substExpand.go, if_neg this]

theorem go_eq_expandOpt (ln : Bytes) (offs : List Int) : ∀ (f : Nat) (rep acc : Bytes), rep.length < f →
    substExpand.go ln offs f rep acc = (expandOpt rep ln offs).map (acc ++ ·) := by
  intro f
  induction f with
  | zero => intro rep acc h; omega
  | succ f ih =>
    intro rep acc hf
    cases rep with
    | nil => rw [substExpand.go, expandOpt_nil]; simp
    | cons c r =>
      have hl : r.length < f := by simp at hf; omega
      by_cases hc : c = 92
      · subst hc
        cases r with
        | nil => rw [go_other _ _ _ _ _ _ (Or.inr rfl), ih [] _ hl, expandOpt_nil, expandOpt_lone]; simp
        | cons d r' =>
          have hl' : r'.length < f := by simp at hl; omega
          by_cases hd : isDigit d
          · rw [go_group _ _ _ _ _ _ hd, expandOpt_group _ _ _ hd]
            by_cases hg : GrpOk ln offs (d - 48)
            · rw [if_pos hg, if_pos hg, ih _ _ hl']
              cases expandOpt r' ln offs <;> simp
            · rw [if_neg hg, if_neg hg]; rfl
          · rw [go_esc _ _ _ _ _ _ hd, expandOpt_esc _ _ _ hd, ih _ _ hl']
            cases expandOpt r' ln offs <;> simp
      · rw [go_other _ _ _ _ _ _ (Or.inl hc), expandOpt_other _ _ _ hc, ih _ _ hl]
        cases expandOpt r ln offs <;> simp

theorem substExpand_eq (rep ln : Bytes) (offs : List Int) : substExpand rep ln offs = expandOpt rep ln offs := by
  unfold substExpand
  rw [go_eq_expandOpt ln offs _ rep [] (by omega)]
  cases expandOpt rep ln offs <;> simp

/-- **expand_spec**: when every referenced group is empty or a proper slice of the line, the model's
    expansion succeeds and is the reference expansion -/
theorem expand_spec (rep ln : Bytes) (offs : List Int) (h : ∀ d ∈ refs rep, GrpOk ln offs d) :
    substExpand rep ln offs = some (expandRef rep ln offs) := by
  rw [substExpand_eq]
  exact if_pos h

/-- the model returns `none` (a garbage length handed to `memcpy`) exactly when some referenced group is
    neither empty nor a proper slice of the line -/
theorem expand_none_iff (rep ln : Bytes) (offs : List Int) :
    substExpand rep ln offs = none ↔ ∃ d ∈ refs rep, ¬ GrpOk ln offs d := by
  rw [substExpand_eq, expandOpt]
  constructor
  · intro h
    apply Classical.byContradiction
    intro hn
    rw [if_pos (fun d hd => Classical.byContradiction fun hb => hn ⟨d, hd, hb⟩)] at h
    cases h
  · intro ⟨d, hd, hb⟩
    rw [if_neg (fun h => hb (h d hd))]

/-- groups as `rstr_find` leaves them for a literal pattern (all unset but group 0) are fine -/
example : substExpand [120, 92, 48, 92, 49, 92, 110, 92] [97, 98, 99, 10] [1, 2, -1, -1] = some [120, 98, 110, 92] := by decide
example : expandRef [120, 92, 48, 92, 49, 92, 110, 92] [97, 98, 99, 10] [1, 2, -1, -1] = [120, 98, 110, 92] := by decide
/-- a garbage group (end before start) is a trap -/
example : substExpand [92, 49] [97, 10] [0, 1, 1, 0] = none := by decide

/-- **subst_no_match**: when the first search reports "not found" the line is left alone
    (`some none`: `ec_substitute` does not call `lbuf_edit`, so no history entry is logged for it) -/
theorem subst_no_match (re : RStr) (rep : Bytes) (g : Bool) (line : Bytes) (res : Int) (offs : List Int) (c : Nat)
    (h : rstrFind re line 16 0 ND NG = some (res, offs, c)) (hres : res < 0) :
    substLine re rep g line = some none := by
  unfold substLine
  rw [substLine.go]
  simp only [if_true, h, hres]

theorem go_found {re : RStr} {rep : Bytes} {g : Bool} {f : Nat} {ln : Bytes} {r : Option Bytes} {first : Bool}
    {res : Int} {offs : List Int} {c : Nat} {x : Bytes}
    (hf : rstrFind re ln 16 (if first then 0 else RE_NOTBOL) ND NG = some (res, offs, c)) (hres : ¬ res < 0)
    (hx : substExpand rep ln offs = some x) :
    substLine.go re rep g (f + 1) ln r first =
      let rest := ln.drop (offs.getD 1 0).toNat
      let l := if offs.getD 1 0 ≤ offs.getD 0 0 then min (Uc.ucLen (rest.headD 0)) rest.length else 0
      let acc := r.getD [] ++ ln.take (offs.getD 0 0).toNat ++ x ++ rest.take l
      if (rest.drop l).isEmpty || (rest.drop l).headD 0 == 10 || !g then some (some acc, rest.drop l)
      else substLine.go re rep g f (rest.drop l) (some acc) false := by
  rw [substLine.go]
  simp only [hf, hres, hx, ↓reduceIte]
  generalize offs.getD 1 0 = eo
  generalize offs.getD 0 0 = so
  by_cases he : eo ≤ so
  · simp only [he, ↓reduceIte]
  · simp only [he, ↓reduceIte, List.drop_zero, List.take_zero, List.append_nil]

/-- **subst_first**: without `g`, whatever the first match `[so, eo)` is, it is replaced by the expansion and
    every other byte of the line is kept.  (When the match is empty, `eo ≤ so`, one character is copied after it: at
    most what is left of the line, `MIN(uc_len(ln), strlen(ln))`, whether or not that character is complete.) -/
theorem subst_first (re : RStr) (rep line : Bytes) (res : Int) (offs : List Int) (c : Nat) (x : Bytes)
    (h : rstrFind re line 16 0 ND NG = some (res, offs, c)) (hres : 0 ≤ res)
    (hx : substExpand rep line offs = some x) :
    substLine re rep false line =
      some (some (line.take (offs.getD 0 0).toNat ++ x ++ line.drop (offs.getD 1 0).toNat)) := by
  unfold substLine
  rw [go_found (first := true) h (by omega) hx]
  simp only [Bool.not_false, Bool.or_true, ↓reduceIte, Option.getD_none, List.nil_append, List.append_assoc,
    List.take_append_drop]

/-- **subst_first_only**: without `g`, a non-empty first match `[so, eo)` is replaced by the expansion and
    every other byte of the line is kept -/
theorem subst_first_only (re : RStr) (rep line : Bytes) (res : Int) (offs : List Int) (c : Nat) (x : Bytes)
    (h : rstrFind re line 16 0 ND NG = some (res, offs, c)) (hres : 0 ≤ res)
    (heo : offs.getD 0 0 < offs.getD 1 0) (hx : substExpand rep line offs = some x) :
    substLine re rep false line =
      some (some (line.take (offs.getD 0 0).toNat ++ x ++ line.drop (offs.getD 1 0).toNat)) :=
  have _ := heo
  subst_first re rep line res offs c x h hres hx

/-- the same with the reference expansion, when the groups are usable -/
theorem subst_first_only_ref (re : RStr) (rep line : Bytes) (res : Int) (offs : List Int) (c : Nat)
    (h : rstrFind re line 16 0 ND NG = some (res, offs, c)) (hres : 0 ≤ res)
    (heo : offs.getD 0 0 < offs.getD 1 0) (hok : ∀ d ∈ refs rep, GrpOk line offs d) :
    substLine re rep false line =
      some (some (line.take (offs.getD 0 0).toNat ++ expandRef rep line offs ++ line.drop (offs.getD 1 0).toNat)) :=
  subst_first_only re rep line res offs c _ h hres heo (expand_spec rep line offs hok)

/-- an empty first match at the very start (`eo ≤ 0`): the expansion is inserted and the whole line follows
    unchanged (whether or not its first character is complete) -/
theorem subst_first_only_empty (re : RStr) (rep line : Bytes) (res : Int) (offs : List Int) (c : Nat) (x : Bytes)
    (h : rstrFind re line 16 0 ND NG = some (res, offs, c)) (hres : 0 ≤ res)
    (heo : offs.getD 1 0 ≤ 0) (hx : substExpand rep line offs = some x) :
    substLine re rep false line = some (some (line.take (offs.getD 0 0).toNat ++ x ++ line)) := by
  have h3 : (offs.getD 1 0).toNat = 0 := by omega
  have := subst_first re rep line res offs c x h hres hx
  rw [h3] at this
  exact this

/-- an abstract matcher on (rest of the line, "not at the beginning of the line"):
    `none` = trap, `some none` = not found, `some (some (so, eo, offs))` = found -/
abbrev Matcher := Bytes → Bool → Option (Option (Nat × Nat × List Int))

/-- a matcher that never traps, in the plain form -/
def Matcher.ofTotal (find : Bytes → Bool → Option (Nat × Nat × List Int)) : Matcher := fun s nb => some (find s nb)

theorem foldl_pick (cond : Nat → Bool) : ∀ (l : List Nat) (acc : Int),
    l.foldl (fun (acc : Int) i => if cond i then (i : Int) else acc) acc = acc ∨
    ∃ i : Nat, l.foldl (fun (acc : Int) i => if cond i then (i : Int) else acc) acc = (i : Int) ∧ cond i = true := by
  intro l
  induction l with
  | nil => intro acc; exact Or.inl rfl
  | cons a l ih =>
    intro acc
    rw [List.foldl_cons]
    by_cases hc : cond a = true
    · rw [if_pos hc]
      rcases ih (a : Int) with h | h
      · exact Or.inr ⟨a, h, hc⟩
      · exact Or.inr h
    · rw [if_neg hc]
      exact ih acc

/-- a match reported by `rset_find` starts at a non-negative offset: the set is chosen among those whose
    outer group has a start `≥ 0`, and `offs[0]` is that start -/
theorem find_so_nonneg (rs : RSet) (s : Bytes) (n flg nd ng : Nat) (res : Int) (offs : List Int) (c : Nat)
    (h : find rs s n flg nd ng = some (res, offs, c)) (hres : 0 ≤ res) : 0 ≤ offs.getD 0 0 := by
  unfold find at h
  rcases Lemmas.C06.ite_eq_cases h with ⟨_, h⟩ | ⟨_, h⟩
  · cases h; omega
  · simp only [] at h
    split at h
    · cases h
    · cases h; omega
    · rename_i m c' subs hx
      rcases Lemmas.C06.ite_eq_cases h with ⟨_, h⟩ | ⟨hset, h⟩
      · cases h; omega
      · simp only [Option.some.injEq, Prod.mk.injEq] at h
        obtain ⟨h1, h2, _⟩ := h
        subst h2
        cases n with
        | zero => simp
        | succ n =>
          rcases foldl_pick (fun i => rs.grp.getD i (-1) ≥ 0 && (subs.getD (rs.grp.getD i (-1)).toNat (-1, -1)).1 ≥ 0)
            (List.range rs.n) (-1) with hp | ⟨i, hp, hc⟩
          · exact absurd (by rw [hp]; omega) hset
          · rw [hp]
            simp only [Bool.and_eq_true, decide_eq_true_eq] at hc
            obtain ⟨hc1, hc2⟩ := hc
            have hg : rs.grp.getD i 0 = rs.grp.getD i (-1) := by
              simp only [List.getD_eq_getElem?_getD] at hc1 ⊢
              cases hgi : rs.grp[i]? with
              | none => rw [hgi] at hc1; simp at hc1
              | some v => rfl
            rw [List.range_succ_eq_map, List.flatMap_cons]
            simp only [Int.toNat_natCast, Nat.zero_lt_succ, if_true, Nat.add_zero, hg, List.cons_append,
              List.getD_cons_zero]
            exact hc2

/-- the same for `rstr_find` (the literal fast path reports `[r, r + len)` with `r` a position) -/
theorem rstrFind_so_nonneg (re : RStr) (s : Bytes) (n flg nd ng : Nat) (res : Int) (offs : List Int) (c : Nat)
    (h : rstrFind re s n flg nd ng = some (res, offs, c)) (hres : 0 ≤ res) : 0 ≤ offs.getD 0 0 := by
  unfold rstrFind at h
  split at h
  · exact find_so_nonneg _ _ _ _ _ _ _ _ _ h hres
  · simp only [] at h
    rcases Lemmas.C06.ite_eq_cases h with ⟨_, h⟩ | ⟨_, h⟩
    · cases h; omega
    · rcases Lemmas.C06.ite_eq_cases h with ⟨_, h⟩ | ⟨_, h⟩
      · cases h; omega
      · split at h
        · cases h
        · cases h; omega
        · rename_i r _
          simp only [Option.some.injEq, Prod.mk.injEq] at h
          obtain ⟨_, h2, _⟩ := h
          subst h2
          cases n with
          | zero => simp
          | succ n => simp

/-- `rstr_find` as `ec_substitute` calls it, seen as a matcher -/
def rsFind (re : RStr) : Matcher := fun s notbol =>
  match rstrFind re s 16 (if notbol then RE_NOTBOL else 0) ND NG with
  | none => none
  | some (res, offs, _) =>
    if res < 0 then some none else some (some ((offs.getD 0 0).toNat, (offs.getD 1 0).toNat, offs))

/-- one step of the scan: what is copied, what is dropped, what is inserted -/
structure Piece where
  /-- the bytes before the match: copied -/
  skip : Bytes
  /-- the matched bytes: dropped -/
  matched : Bytes
  /-- the expansion of the replacement: inserted -/
  sub : Bytes
  /-- the character copied after an empty match at the start of the rest -/
  ch : Bytes
deriving Repr, DecidableEq

/-- the reference scan: match, cut the piece, go on with the rest (from then on "not at the beginning") -/
def scan (find : Matcher) (rep : Bytes) (g : Bool) (ln : Bytes) (notbol : Bool) : Option (List Piece × Bytes) :=
  match find ln notbol with
  | none => none                                -- the matcher traps
  | some none => some ([], ln)                  -- no further match: the rest is kept
  | some (some (so, eo, offs)) =>
    match expandOpt rep ln offs with
    | none => none                              -- garbage group offsets
    | some x =>
      let rest := ln.drop eo
      -- after an empty match (`eo ≤ so`) one character is copied, so that the scan advances
      --   (at most what is left of the line: `MIN(uc_len(ln), strlen(ln))`; a truncated character is copied as it is)
      let l := if eo ≤ so then min (Uc.ucLen (rest.headD 0)) rest.length else 0
      let p : Piece := ⟨ln.take so, (ln.take eo).drop so, x, rest.take l⟩
      let rest' := rest.drop l
      if rest' = [] ∨ rest'.headD 0 = 10 ∨ g = false then some ([p], rest')
      else if _h : rest'.length < ln.length then
        match scan find rep g rest' true with
        | none => none
        | some (ps, r) => some (p :: ps, r)
      else none                                 -- no progress (only with a NUL byte in the line)
termination_by ln.length
decreasing_by exact _h

/-- the text the pieces were cut from, and the text they produce -/
def srcOf (ps : List Piece) (rest : Bytes) : Bytes := (ps.flatMap fun p => p.skip ++ p.matched ++ p.ch) ++ rest
def outOf (ps : List Piece) (rest : Bytes) : Bytes := (ps.flatMap fun p => p.skip ++ p.sub ++ p.ch) ++ rest

/-- reference for `substLine` -/
def substRef (find : Matcher) (rep : Bytes) (g : Bool) (line : Bytes) : Option (Option Bytes) :=
  match scan find rep g line false with
  | none => none
  | some ([], _) => some none
  | some (ps, rest) => some (some (outOf ps rest))

/-- how the accumulator of the model's loop continues -/
def comb (r : Option Bytes) (ps : List Piece) : Option Bytes :=
  match ps with
  | [] => r
  | _ => some (r.getD [] ++ ps.flatMap fun p => p.skip ++ p.sub ++ p.ch)

theorem comb_cons (r : Option Bytes) (p : Piece) (ps : List Piece) :
    comb r (p :: ps) = comb (some (r.getD [] ++ p.skip ++ p.sub ++ p.ch)) ps := by
  cases ps <;> simp [comb]

theorem stop_iff (rest : Bytes) (g : Bool) :
    (rest.isEmpty || rest.headD 0 == 10 || !g) = true ↔ (rest = [] ∨ rest.headD 0 = 10 ∨ g = false) := by
  simp [or_assoc]

theorem copied_pos {ln : Bytes} (h0 : ∀ b ∈ ln, b ≠ 0) {q : Nat} (hne : ln.drop q ≠ []) :
    0 < min (Uc.ucLen ((ln.drop q).headD 0)) (ln.drop q).length := by
  cases hd : ln.drop q with
  | nil => exact absurd hd hne
  | cons a t =>
    have ha : a ≠ 0 := h0 a (List.mem_of_mem_drop (hd ▸ List.mem_cons_self))
    have := C12.ucLen_pos (c := a) (by omega)
    simp only [List.headD_cons, List.length_cons]
    omega

/-- every round consumes a byte of a line without NUL: the match `[p, q)` itself, or the character copied after an
    empty match -/
theorem round_consumes {ln : Bytes} (h0 : ∀ b ∈ ln, b ≠ 0) {p q l : Nat}
    (hl : (if q ≤ p then min (Uc.ucLen ((ln.drop q).headD 0)) (ln.drop q).length else 0) = l)
    (hne : (ln.drop q).drop l ≠ []) : ((ln.drop q).drop l).length < ln.length := by
  have hpos : 0 < ((ln.drop q).drop l).length := List.length_pos_iff.2 hne
  have hc := copied_pos h0 (q := q) (fun hd => hne (by rw [hd, List.drop_nil]))
  rw [List.length_drop, List.length_drop] at hpos ⊢
  split at hl <;> omega

theorem go_eq_scan (re : RStr) (rep : Bytes) (g : Bool) : ∀ (n : Nat) (ln : Bytes), ln.length < n →
    ∀ (f : Nat) (r : Option Bytes) (notbol : Bool), (∀ b ∈ ln, b ≠ 0) → ln.length < f →
    substLine.go re rep g f ln r (!notbol) =
      (scan (rsFind re) rep g ln notbol).map (fun x => (comb r x.1, x.2)) := by
  intro n
  induction n with
  | zero => intro ln hn; omega
  | succ n ih =>
    intro ln hn f r notbol h0 hf
    cases f with
    | zero => omega
    | succ f =>
      have e : (if (!notbol) = true then 0 else RE_NOTBOL) = (if notbol = true then RE_NOTBOL else 0) := by
        cases notbol <;> rfl
      cases hfnd : rstrFind re ln 16 (if notbol = true then RE_NOTBOL else 0) ND NG with
      | none =>
        have hrs : rsFind re ln notbol = none := by simp only [rsFind, hfnd]
        rw [substLine.go, scan, e, hfnd, hrs]
        rfl
      | some t =>
        obtain ⟨res, offs, c⟩ := t
        by_cases hres : res < 0
        · have hrs : rsFind re ln notbol = some none := by simp only [rsFind, hfnd, hres, if_true]
          rw [substLine.go, scan, e, hfnd, hrs]
          simp [hres, comb]
        · have hrs : rsFind re ln notbol = some (some ((offs.getD 0 0).toNat, (offs.getD 1 0).toNat, offs)) := by
            simp only [rsFind, hfnd, hres, if_false]
          have hso : 0 ≤ offs.getD 0 0 := rstrFind_so_nonneg _ _ _ _ _ _ _ _ _ hfnd (by omega)
          rw [scan, hrs]
          simp only []
          cases hx : expandOpt rep ln offs with
          | none =>
            rw [substLine.go, e, hfnd]
            simp only [hres, ↓reduceIte, substExpand_eq, hx]
            rfl
          | some x =>
            rw [go_found (by rw [e]; exact hfnd) hres (by rw [substExpand_eq]; exact hx)]
            simp only []
            generalize offs.getD 0 0 = so at hso ⊢
            generalize offs.getD 1 0 = eo
            have hl : (if eo ≤ so then min (Uc.ucLen ((ln.drop eo.toNat).headD 0)) (ln.drop eo.toNat).length else 0) =
                (if eo.toNat ≤ so.toNat then min (Uc.ucLen ((ln.drop eo.toNat).headD 0)) (ln.drop eo.toNat).length else 0) := by
              by_cases he : eo ≤ so
              · rw [if_pos he, if_pos (by omega)]
              · rw [if_neg he, if_neg (by omega)]
            rw [hl]
            generalize hl' : (if eo.toNat ≤ so.toNat then min (Uc.ucLen ((ln.drop eo.toNat).headD 0)) (ln.drop eo.toNat).length else 0) = l
            generalize hrest' : (ln.drop eo.toNat).drop l = rest'
            have hlt : rest' ≠ [] → rest'.length < ln.length := fun hne => by
              rw [← hrest'] at hne ⊢
              exact round_consumes h0 hl' hne
            have h0' : ∀ b ∈ rest', b ≠ 0 := fun b hb =>
              h0 b (List.mem_of_mem_drop (List.mem_of_mem_drop (hrest' ▸ hb)))
            by_cases hstop : rest' = [] ∨ rest'.headD 0 = 10 ∨ g = false
            · rw [if_pos ((stop_iff _ _).2 hstop), if_pos hstop]
              simp [comb]
            · rw [if_neg (fun h => hstop ((stop_iff _ _).1 h)), if_neg hstop, dif_pos (hlt (fun h => hstop (Or.inl h)))]
              have := ih rest' (by have := hlt (fun h => hstop (Or.inl h)); omega) f
                (some (r.getD [] ++ ln.take so.toNat ++ x ++ (ln.drop eo.toNat).take l)) true h0'
                (by have := hlt (fun h => hstop (Or.inl h)); omega)
              simp only [Bool.not_true] at this
              rw [this]
              cases scan (rsFind re) rep g rest' true with
              | none => rfl
              | some t =>
                obtain ⟨ps, r'⟩ := t
                simp only [Option.map_some, comb_cons]

/-- **subst_scan_spec**: on a line without NUL bytes (every C string) the per-line loop of `ec_substitute`
    is the reference scan against `rstr_find` -/
theorem subst_scan_spec (re : RStr) (rep : Bytes) (g : Bool) (line : Bytes) (h0 : ∀ b ∈ line, b ≠ 0) :
    substLine re rep g line = substRef (rsFind re) rep g line := by
  unfold substLine substRef
  have := go_eq_scan re rep g (line.length + 1) line (by omega) (line.length + 2) none false h0 (by omega)
  simp only [Bool.not_false] at this
  rw [this]
  cases scan (rsFind re) rep g line false with
  | none => rfl
  | some t =>
    obtain ⟨ps, rest⟩ := t
    cases ps with
    | nil => rfl
    | cons p ps => simp [comb, outOf]

/-- the same against a matcher given in the plain form (one that never traps) -/
theorem subst_scan_spec_total (re : RStr) (rep : Bytes) (g : Bool) (line : Bytes) (h0 : ∀ b ∈ line, b ≠ 0)
    (find : Bytes → Bool → Option (Nat × Nat × List Int)) (hf : ∀ s nb, rsFind re s nb = some (find s nb)) :
    substLine re rep g line = substRef (Matcher.ofTotal find) rep g line := by
  rw [subst_scan_spec re rep g line h0]
  have : rsFind re = Matcher.ofTotal find := by
    funext s nb; exact hf s nb
  rw [this]

/-- a matcher whose matches are intervals -/
def Matcher.Ordered (find : Matcher) : Prop := ∀ s nb so eo offs, find s nb = some (some (so, eo, offs)) → so ≤ eo

theorem take_mid_drop (ln : Bytes) (so eo : Nat) (h : so ≤ eo) :
    ln.take so ++ (ln.take eo).drop so ++ ln.drop eo = ln := by
  have h1 : ln.take so = (ln.take eo).take so := by rw [List.take_take, Nat.min_eq_left h]
  rw [h1, List.take_append_drop, List.take_append_drop]

/-- inversion of a successful scan: either nothing was found, or a first piece was cut and the scan stopped, or
    went on with the rest — which then is not empty, does not start with a newline, and `g` is set -/
theorem scan_cases_go {find : Matcher} {rep : Bytes} {g : Bool} {ln : Bytes} {nb : Bool} {ps : List Piece} {rest : Bytes}
    (h : scan find rep g ln nb = some (ps, rest)) :
    (find ln nb = some none ∧ ps = [] ∧ rest = ln) ∨
    ∃ so eo offs x l ps', find ln nb = some (some (so, eo, offs)) ∧ expandOpt rep ln offs = some x ∧
      l = (if eo ≤ so then min (Uc.ucLen ((ln.drop eo).headD 0)) (ln.drop eo).length else 0) ∧ l ≤ (ln.drop eo).length ∧
      ps = ⟨ln.take so, (ln.take eo).drop so, x, (ln.drop eo).take l⟩ :: ps' ∧
      ((ps' = [] ∧ rest = (ln.drop eo).drop l) ∨
       ((ln.drop eo).drop l ≠ [] ∧ ((ln.drop eo).drop l).headD 0 ≠ 10 ∧ g = true ∧
        ((ln.drop eo).drop l).length < ln.length ∧ scan find rep g ((ln.drop eo).drop l) true = some (ps', rest))) := by
  rw [scan] at h
  split at h
  · cases h
  · rename_i hf; cases h; exact Or.inl ⟨hf, rfl, rfl⟩
  · rename_i so eo offs hf
    right
    split at h
    · cases h
    · rename_i x hx
      simp only [] at h
      generalize hl : (if eo ≤ so then min (Uc.ucLen ((ln.drop eo).headD 0)) (ln.drop eo).length else 0) = l at h
      have hle : l ≤ (ln.drop eo).length := by rw [← hl]; split <;> omega
      split at h
      · cases h
        exact ⟨so, eo, offs, x, l, [], hf, hx, hl.symm, hle, rfl, Or.inl ⟨rfl, rfl⟩⟩
      · rename_i hgo
        split at h
        · rename_i hlt
          split at h
          · cases h
          · rename_i ps' r' hs
            cases h
            refine ⟨so, eo, offs, x, l, ps', hf, hx, hl.symm, hle, rfl, Or.inr ⟨?_, ?_, ?_, hlt, hs⟩⟩
            · exact fun h => hgo (Or.inl h)
            · exact fun h => hgo (Or.inr (Or.inl h))
            · cases g
              · exact absurd (Or.inr (Or.inr rfl)) hgo
              · rfl
        · cases h

theorem scan_induct {find : Matcher} {rep : Bytes} {g : Bool} {P : Bytes → Bool → List Piece → Bytes → Prop}
    (stop : ∀ ln nb, find ln nb = some none → P ln nb [] ln)
    (piece : ∀ ln nb so eo offs x l ps' rest, find ln nb = some (some (so, eo, offs)) → expandOpt rep ln offs = some x →
      l = (if eo ≤ so then min (Uc.ucLen ((ln.drop eo).headD 0)) (ln.drop eo).length else 0) → l ≤ (ln.drop eo).length →
      ((ps' = [] ∧ rest = (ln.drop eo).drop l) ∨
       ((ln.drop eo).drop l ≠ [] ∧ ((ln.drop eo).drop l).length < ln.length ∧
        scan find rep g ((ln.drop eo).drop l) true = some (ps', rest) ∧ P ((ln.drop eo).drop l) true ps' rest)) →
      P ln nb (⟨ln.take so, (ln.take eo).drop so, x, (ln.drop eo).take l⟩ :: ps') rest)
    {ln : Bytes} {nb : Bool} {ps : List Piece} {rest : Bytes} (h : scan find rep g ln nb = some (ps, rest)) :
    P ln nb ps rest := by
  suffices ∀ n ln, ln.length < n → ∀ nb ps rest, scan find rep g ln nb = some (ps, rest) → P ln nb ps rest from
    this _ ln (Nat.lt_succ_self _) nb ps rest h
  intro n
  induction n with
  | zero => intro ln hn; omega
  | succ n ih =>
    intro ln hn nb ps rest h
    rcases scan_cases_go h with ⟨hf, rfl, rfl⟩ | ⟨so, eo, offs, x, l, ps', hf, hx, hl, hle, rfl, hrest⟩
    · exact stop _ nb hf
    · refine piece ln nb so eo offs x l ps' rest hf hx hl hle ?_
      rcases hrest with h2 | ⟨hne, _, _, hlt, hs⟩
      · exact Or.inl h2
      · exact Or.inr ⟨hne, hlt, hs, ih _ (by omega) _ _ _ hs⟩

theorem scan_src {find : Matcher} (hord : find.Ordered) {rep : Bytes} {g : Bool} {ln : Bytes} {nb : Bool} {ps : List Piece}
    {rest : Bytes} (h : scan find rep g ln nb = some (ps, rest)) : ln = srcOf ps rest := by
  refine scan_induct (P := fun ln _ ps rest => ln = srcOf ps rest) (fun _ _ _ => by simp [srcOf]) ?_ h
  intro ln nb so eo offs x l ps' rest hf _ _ _ hrest
  have hpart : ln = ln.take so ++ (ln.take eo).drop so ++ (ln.drop eo).take l ++ (ln.drop eo).drop l := by
    rw [List.append_assoc _ (List.take _ _), List.take_append_drop, take_mid_drop ln so eo (hord _ _ _ _ _ hf)]
  rcases hrest with ⟨rfl, rfl⟩ | ⟨_, _, _, ih⟩
  · simp only [srcOf, List.flatMap_cons, List.flatMap_nil, List.append_nil]
    exact hpart
  · simp only [srcOf, List.flatMap_cons, List.append_assoc] at ih ⊢
    rw [← ih]
    simp only [List.append_assoc] at hpart
    exact hpart

theorem scan_nonempty (find : Matcher) (rep : Bytes) (g : Bool) (ln : Bytes) (nb : Bool) (ps : List Piece) (rest : Bytes)
    (h : scan find rep g ln nb = some (ps, rest)) : ps = [] ↔ find ln nb = some none := by
  rcases scan_cases_go h with ⟨hf, rfl, rfl⟩ | ⟨so, eo, offs, x, l, ps', hf, _, _, _, rfl, _⟩
  · simp [hf]
  · simp [hf]

theorem substLine_scan {re : RStr} {rep : Bytes} {g : Bool} {line out : Bytes} (h0 : ∀ b ∈ line, b ≠ 0)
    (h : substLine re rep g line = some (some out)) :
    ∃ ps rest, ps ≠ [] ∧ scan (rsFind re) rep g line false = some (ps, rest) ∧ out = outOf ps rest := by
  rw [subst_scan_spec re rep g line h0] at h
  unfold substRef at h
  split at h
  · cases h
  · cases h
  · rename_i ps rest hne hs
    cases h
    exact ⟨ps, rest, fun hp => hne (hp ▸ rfl), hs, rfl⟩

/-- **output_pieces**: when a line is rewritten, it splits into pieces and a rest such that the old line is
    `skip₁ matched₁ ch₁ … skipₖ matchedₖ chₖ rest` and the new one `skip₁ sub₁ ch₁ … skipₖ subₖ chₖ rest`:
    every byte of the output is copied from the line, in order, or comes from an expansion; the matched
    intervals do not overlap and advance -/
theorem output_pieces (re : RStr) (hord : (rsFind re).Ordered) (rep : Bytes) (g : Bool) (line out : Bytes)
    (h0 : ∀ b ∈ line, b ≠ 0) (h : substLine re rep g line = some (some out)) :
    ∃ ps rest, ps ≠ [] ∧ scan (rsFind re) rep g line false = some (ps, rest) ∧
      line = srcOf ps rest ∧ out = outOf ps rest := by
  obtain ⟨ps, rest, hne, hs, ho⟩ := substLine_scan h0 h
  exact ⟨ps, rest, hne, hs, scan_src hord hs, ho⟩

theorem expandRef_mem (rep ln : Bytes) (offs : List Int) : ∀ b ∈ expandRef rep ln offs, b ∈ rep ∨ b ∈ ln := by
  fun_induction expandRef rep ln offs with
  | case1 => intro b hb; cases hb
  | case2 => intro b hb; exact Or.inl hb
  | case3 ln offs d r' hd ih =>
    intro b hb
    rcases List.mem_append.1 hb with hb | hb
    · exact Or.inr (List.mem_of_mem_drop (List.mem_of_mem_take hb))
    · exact (ih b hb).imp_left fun h => List.mem_cons_of_mem _ (List.mem_cons_of_mem _ h)
  | case4 ln offs d r' hd ih =>
    intro b hb
    rcases List.mem_cons.1 hb with rfl | hb
    · exact Or.inl (List.mem_cons_of_mem _ List.mem_cons_self)
    · exact (ih b hb).imp_left fun h => List.mem_cons_of_mem _ (List.mem_cons_of_mem _ h)
  | case5 c r ln offs hc ih =>
    intro b hb
    rcases List.mem_cons.1 hb with rfl | hb
    · exact Or.inl List.mem_cons_self
    · exact (ih b hb).imp_left (List.mem_cons_of_mem _)

/-- the output of a scan is made of bytes of the line and of the replacement: nothing else is ever written -/
theorem scan_out_mem {find : Matcher} {rep : Bytes} {g : Bool} {ln : Bytes} {nb : Bool} {ps : List Piece} {rest : Bytes}
    (h : scan find rep g ln nb = some (ps, rest)) : ∀ b ∈ outOf ps rest, b ∈ ln ∨ b ∈ rep := by
  refine scan_induct (P := fun ln _ ps rest => ∀ b ∈ outOf ps rest, b ∈ ln ∨ b ∈ rep)
    (fun _ _ _ b hb => Or.inl (by simpa [outOf] using hb)) ?_ h
  intro ln nb so eo offs x l ps' rest _ hx _ _ hrest b hb
  have hx' : x = expandRef rep ln offs := by
    unfold expandOpt at hx
    split at hx <;> cases hx
    rfl
  have htail : ∀ b ∈ outOf ps' rest, b ∈ ln ∨ b ∈ rep := by
    rcases hrest with ⟨rfl, rfl⟩ | ⟨_, _, _, ih⟩
    · exact fun b hb => Or.inl (List.mem_of_mem_drop (List.mem_of_mem_drop (by simpa [outOf] using hb)))
    · exact fun b hb => (ih b hb).imp_left fun h => List.mem_of_mem_drop (List.mem_of_mem_drop h)
  simp only [outOf, List.flatMap_cons, List.append_assoc, List.mem_append] at hb htail
  rcases hb with hb | hb | hb | hb
  · exact Or.inl (List.mem_of_mem_take hb)
  · exact (expandRef_mem rep ln offs b (hx' ▸ hb)).symm
  · exact Or.inl (List.mem_of_mem_drop (List.mem_of_mem_take hb))
  · exact htail b hb

/-- absolute intervals `[a, b)` of the matched texts, for pieces that start at offset `base` -/
def spans (base : Nat) : List Piece → List (Nat × Nat)
  | [] => []
  | p :: ps => (base + p.skip.length, base + p.skip.length + p.matched.length) ::
      spans (base + p.skip.length + p.matched.length + p.ch.length) ps

/-- each interval starts at or after `lo` and the next one at or after its end -/
def Advancing (lo : Nat) : List (Nat × Nat) → Prop
  | [] => True
  | (a, b) :: r => lo ≤ a ∧ a ≤ b ∧ Advancing b r

theorem advancing_mono {lo lo' : Nat} (h : lo ≤ lo') : ∀ l, Advancing lo' l → Advancing lo l := by
  intro l
  cases l with
  | nil => intro _; trivial
  | cons x r => obtain ⟨a, b⟩ := x; intro ⟨h1, h2, h3⟩; exact ⟨by omega, h2, h3⟩

theorem spans_advancing (base : Nat) (ps : List Piece) : Advancing base (spans base ps) := by
  induction ps generalizing base with
  | nil => trivial
  | cons p ps ih =>
    refine ⟨by omega, by omega, ?_⟩
    exact advancing_mono (by omega) _ (ih _)

/-- the text at the `i`-th interval of the old line is the `i`-th matched text -/
theorem spans_text (rest : Bytes) : ∀ (ps : List Piece) (pre : Bytes) (i : Nat) (p : Piece) (a b : Nat),
    ps[i]? = some p → (spans pre.length ps)[i]? = some (a, b) →
    ((pre ++ srcOf ps rest).drop a).take (b - a) = p.matched := by
  intro ps
  induction ps with
  | nil => intro pre i p a b h; simp at h
  | cons q ps ih =>
    intro pre i p a b hp hs
    cases i with
    | zero =>
      simp only [List.getElem?_cons_zero, Option.some.injEq] at hp
      subst hp
      simp only [spans, List.getElem?_cons_zero, Option.some.injEq, Prod.mk.injEq] at hs
      obtain ⟨rfl, rfl⟩ := hs
      simp only [srcOf, List.flatMap_cons, List.append_assoc]
      rw [← List.append_assoc pre, show pre.length + q.skip.length = (pre ++ q.skip).length by simp,
        List.drop_left]
      simp
    | succ i =>
      simp only [List.getElem?_cons_succ] at hp
      simp only [spans, List.getElem?_cons_succ] at hs
      have := ih (pre ++ q.skip ++ q.matched ++ q.ch) i p a b hp (by simpa [Nat.add_assoc] using hs)
      simpa [srcOf, List.append_assoc] using this

/-- **scan_progress**: every round but the last consumes at least one byte of the line — the skipped, the
    matched and the copied text of a piece that is not the last are not all empty.  (With the test
    `offs[1] <= offs[0]` an empty match is always followed by a copied character; a non-empty one consumes its
    own text.) -/
theorem scan_progress (find : Matcher) (rep : Bytes) (g : Bool) : ∀ (n : Nat) (ln : Bytes), ln.length < n →
    ∀ (nb : Bool) (ps : List Piece) (rest : Bytes), scan find rep g ln nb = some (ps, rest) →
    ∀ (i : Nat) (p : Piece), i + 1 < ps.length → ps[i]? = some p → p.skip ++ p.matched ++ p.ch ≠ [] := by
  intro _ ln _ nb ps rest h
  refine scan_induct (P := fun _ _ ps _ => ∀ (i : Nat) (p : Piece), i + 1 < ps.length → ps[i]? = some p →
    p.skip ++ p.matched ++ p.ch ≠ []) (fun _ _ _ i p hi => absurd hi (Nat.not_lt_zero _)) ?_ h
  intro ln nb so eo offs x l ps' rest _ _ hdef hl hrest i p hi hp
  clear hdef -- `omega` below would split on the `if` and the `min` in it
  rcases hrest with ⟨rfl, rfl⟩ | ⟨_, hlt, _, ih⟩
  · simp at hi
  · cases i with
    | zero =>
      simp only [List.getElem?_cons_zero, Option.some.injEq] at hp
      subst hp
      intro hnil
      have := congrArg List.length hnil
      simp only [List.length_append, List.length_take, List.length_drop, List.length_nil] at this hlt hl
      omega
    | succ i =>
      simp only [List.getElem?_cons_succ] at hp
      simp only [List.length_cons] at hi
      exact ih i p (by omega) hp

theorem spans_length (base : Nat) (ps : List Piece) : (spans base ps).length = ps.length := by
  induction ps generalizing base with
  | nil => rfl
  | cons p ps ih => simp only [spans, List.length_cons, ih]

/-- after an empty match that is not the last one, a character is copied (the line is a C string: no NUL) -/
theorem empty_match_then_char {find : Matcher} (hord : find.Ordered) {rep : Bytes} {g : Bool} {ln : Bytes} {nb : Bool}
    {ps : List Piece} {rest : Bytes} (h : scan find rep g ln nb = some (ps, rest)) (h0 : ∀ b ∈ ln, b ≠ 0) :
    ∀ (i : Nat) (p : Piece), i + 1 < ps.length → ps[i]? = some p → p.matched = [] → p.ch ≠ [] := by
  refine scan_induct (P := fun ln _ ps _ => (∀ b ∈ ln, b ≠ 0) → ∀ (i : Nat) (p : Piece), i + 1 < ps.length →
    ps[i]? = some p → p.matched = [] → p.ch ≠ []) (fun _ _ _ _ i p hi => by simp at hi) ?_ h h0
  intro ln nb so eo offs x l ps' rest hf _ hl hle hrest h0 i p hi hp hm
  rcases hrest with ⟨rfl, rfl⟩ | ⟨hne, hlt, _, ih⟩
  · simp at hi
  · cases i with
    | zero =>
      simp only [List.getElem?_cons_zero, Option.some.injEq] at hp
      subst hp
      simp only [] at hm ⊢
      have hso := hord _ _ _ _ _ hf
      have hm' := congrArg List.length hm
      simp only [List.length_drop, List.length_take, List.length_nil] at hm'
      have hne' : 0 < ((ln.drop eo).drop l).length := List.length_pos_iff.2 hne
      simp only [List.length_drop] at hne' hle
      have heq : eo ≤ so := by omega
      rw [if_pos heq] at hl
      have hc := copied_pos h0 (q := eo) (fun hd => hne (by rw [hd, List.drop_nil]))
      rw [← hl] at hc
      clear hl
      intro hnil
      have := congrArg List.length hnil
      simp only [List.length_take, List.length_drop, List.length_nil] at this
      omega
    | succ i =>
      simp only [List.getElem?_cons_succ] at hp
      simp only [List.length_cons] at hi
      exact ih (fun b hb => h0 b (List.mem_of_mem_drop (List.mem_of_mem_drop hb))) i p (by omega) hp hm

theorem spans_advance : ∀ (ps : List Piece),
    (∀ (i : Nat) (p : Piece), i + 1 < ps.length → ps[i]? = some p → p.matched = [] → p.ch ≠ []) →
    ∀ (base i a1 b1 a2 b2 : Nat), (spans base ps)[i]? = some (a1, b1) → (spans base ps)[i + 1]? = some (a2, b2) →
      a1 = b1 → b1 < a2 := by
  intro ps
  induction ps with
  | nil => intro _ base i a1 b1 a2 b2 h1; simp [spans] at h1
  | cons p0 ps' ih =>
    intro hch base i a1 b1 a2 b2 h1 h2 he
    cases i with
    | zero =>
      cases ps' with
      | nil => simp [spans] at h2
      | cons p1 ps'' =>
        simp only [spans, List.getElem?_cons_zero, Option.some.injEq, Prod.mk.injEq] at h1
        simp only [spans, List.getElem?_cons_succ, List.getElem?_cons_zero, Option.some.injEq, Prod.mk.injEq] at h2
        obtain ⟨rfl, rfl⟩ := h1
        have hm : p0.matched = [] := List.length_eq_zero_iff.1 (by omega)
        have hc : 0 < p0.ch.length := List.length_pos_iff.2 (hch 0 p0 (by simp) rfl hm)
        omega
    | succ i =>
      simp only [spans, List.getElem?_cons_succ] at h1 h2
      exact ih (fun i p hi hp => hch (i + 1) p (by simpa using hi) (by simpa using hp)) _ i a1 b1 a2 b2 h1 h2 he

/-- **no_empty_match_twice**: two consecutive pieces never both have an empty match at the same position
    of the line.  (With the test `offs[1] <= 0` they would: `:s` with pattern `\<`, replacement `-` and flag `g` on ` ab`
    would substitute twice at offset 1.) -/
theorem no_empty_match_twice (find : Matcher) (hord : find.Ordered) (rep : Bytes) (g : Bool) (ln : Bytes)
    (h0 : ∀ b ∈ ln, b ≠ 0) (nb : Bool) (ps : List Piece) (rest : Bytes) (h : scan find rep g ln nb = some (ps, rest))
    (base i a1 b1 a2 b2 : Nat) (h1 : (spans base ps)[i]? = some (a1, b1)) (h2 : (spans base ps)[i + 1]? = some (a2, b2)) :
    ¬ (a1 = b1 ∧ a2 = b2 ∧ a2 = a1) := by
  intro ⟨e1, _, e3⟩
  have := spans_advance ps (empty_match_then_char hord h h0) base i a1 b1 a2 b2 h1 h2 e1
  omega

/-- the same for the model's `:s` on a line: the pieces of `output_pieces` advance after every empty match -/
theorem subst_no_empty_match_twice (re : RStr) (hord : (rsFind re).Ordered) (rep : Bytes) (g : Bool) (line out : Bytes)
    (h0 : ∀ b ∈ line, b ≠ 0) (h : substLine re rep g line = some (some out)) :
    ∃ ps rest, ps ≠ [] ∧ line = srcOf ps rest ∧ out = outOf ps rest ∧
      (∀ i p, i + 1 < ps.length → ps[i]? = some p → p.skip ++ p.matched ++ p.ch ≠ []) ∧
      ∀ i a1 b1 a2 b2, (spans 0 ps)[i]? = some (a1, b1) → (spans 0 ps)[i + 1]? = some (a2, b2) →
        (a1 = b1 → b1 < a2) ∧ ¬ (a1 = b1 ∧ a2 = b2 ∧ a2 = a1) := by
  obtain ⟨ps, rest, hne, hs, h1, h2⟩ := output_pieces re hord rep g line out h0 h
  refine ⟨ps, rest, hne, h1, h2, scan_progress _ rep g _ line (Nat.lt_succ_self _) false ps rest hs, ?_⟩
  intro i a1 b1 a2 b2 e1 e2
  exact ⟨spans_advance ps (empty_match_then_char hord hs h0) 0 i a1 b1 a2 b2 e1 e2,
    no_empty_match_twice _ hord rep g line h0 false ps rest hs 0 i a1 b1 a2 b2 e1 e2⟩

/-- **anchored patterns match once**: if the matcher never matches when told "not at the beginning of the
    line" (as for `^…` patterns), the scan yields at most one piece, cut at the beginning of the line -/
theorem anchored_once (find : Matcher) (hbol : ∀ s, find s true = some none) (rep : Bytes) (g : Bool)
    (ln : Bytes) (nb : Bool) (ps : List Piece) (rest : Bytes) (h : scan find rep g ln nb = some (ps, rest)) :
    ps.length ≤ 1 := by
  rcases scan_cases_go h with ⟨_, rfl, rfl⟩ | ⟨so, eo, offs, x, l, ps', _, _, _, _, rfl, hrest⟩
  · simp
  · rcases hrest with ⟨rfl, rfl⟩ | ⟨_, _, _, _, hs⟩
    · simp
    · rcases scan_cases_go hs with ⟨_, rfl, rfl⟩ | ⟨so, eo, offs, x, l, ps', hf, _⟩
      · simp
      · rw [hbol] at hf; cases hf

/-- `rstr_find` with a literal `^`-anchored pattern never matches under `RE_NOTBOL` -/
theorem rsFind_lbeg (re : RStr) (h1 : re.rs = none) (h2 : re.lbeg = true) (s : Bytes) : rsFind re s true = some none := by
  unfold rsFind
  have hr : rstrFind re s 16 RE_NOTBOL ND NG = some (-1, [], 0) := by
    unfold rstrFind
    simp only [h1, h2]
    have : (true && (RE_NOTBOL &&& RE_NOTBOL != 0)) = true := by decide
    rw [if_pos this]
  simp only [if_true, hr]
  rfl

/-- `:s/a/b/g` on `aaa`: three pieces -/
example : (rstrMake [97] 0).bind (fun r => r.bind (fun re => substLine re [98] true [97, 97, 97, 10])) =
    some (some [98, 98, 98, 10]) := by decide
/-- without `g` only the first -/
example : (rstrMake [97] 0).bind (fun r => r.bind (fun re => substLine re [98] false [97, 97, 97, 10])) =
    some (some [98, 97, 97, 10]) := by decide
/-- `^a` with `g`: once -/
example : (rstrMake [94, 97] 0).bind (fun r => r.bind (fun re => substLine re [98] true [97, 97, 97, 10])) =
    some (some [98, 97, 97, 10]) := by decide

/-- `:s` with pattern `\<`, replacement `-` and flag `g` on ` ab`: the result is ` -a-b`.  The empty match at
    offset 1 is substituted once and `a` is copied after it (with the zero-length test `offs[1] <= 0` the next
    round would find it again: ` --ab`).  The `-` before `b` is the recorded known finding: the matcher is handed the
    rest of the line, `b`, and does not see the word character before it. -/
example : (rstrMake [92, 60] 0).bind (fun r => r.bind (fun re => substLine re [45] true [32, 97, 98, 10])) =
    some (some [32, 45, 97, 45, 98, 10]) := by decide
/-- its two pieces: empty matches at offsets 1 and 2 of the line — never twice at the same offset
    (`no_empty_match_twice`) -/
example : (rstrMake [92, 60] 0).bind (fun r => r.bind (fun re =>
    (scan (rsFind re) [45] true [32, 97, 98, 10] false).map (fun x => (spans 0 x.1, x.2)))) =
    some ([(1, 1), (2, 2)], [10]) := by decide +kernel

/-! ## the frame of `ec_substitute`

The loop over the range makes `e - b` rounds; after an edit that changes the number of lines (`lbuf_edit` puts
none, or two and more lines for the one it replaces) the index and the end move by that change, so the `k`-th
round works on the line that was at `b + k` when the loop started.  `substLoop` is that loop with the shift
computed (`ed.len` now minus `ed.len` at the start), `C05e.sLoop` (Lemmas/C05eDec.lean) the loop as the model writes it
(the shift carried in the state); `sLoop_eq` relates them, `ecSubst_cases` is the command by the ways it returns.
`substLoop_lines` is the content: the new buffer is
`lines[0, b) ++ (newLines of each line of [b, e), in order) ++ lines[e, …)`, for every replacement.
`outside_range_unchanged` states it for the command, with the frame (before `b`: unchanged; from `e` on:
unchanged up to the shift) and the single-line corollary. -/

/-- one round of the loop of `ec_substitute` on row `i` -/
def substStep (re : RStr) (g : Bool) (i : Int) (ed : Ed) : Option Ed :=
  match ed.line i with
  | none => none
  | some ln =>
    match substLine re ed.xrep g ln with
    | none => none
    | some none => some ed
    | some (some nl) => ed.edit (some nl) i (i + 1)

/-- the loop of `ec_substitute` over the `n` lines that were at `b, …, b + n - 1` when it started.  After an
    edit the index and the end move by the change of the buffer length (`i += n; end += n`), so the `k`-th
    round works on row `b + k + sh`, where `sh` — the sum of the changes so far — is how much the buffer has
    grown since the loop started -/
def substLoop (re : RStr) (g : Bool) (b : Int) (n : Nat) (ed : Ed) : Option Ed :=
  (List.range n).foldl (fun (acc : Option Ed) (k : Nat) =>
    match acc with
    | none => none
    | some em => substStep re g (b + (k : Int) + (em.len - ed.len)) em) (some ed)

theorem substLoop_succ (re : RStr) (g : Bool) (b : Int) (n : Nat) (ed : Ed) :
    substLoop re g b (n + 1) ed =
      (substLoop re g b n ed).bind (fun em => substStep re g (b + (n : Int) + (em.len - ed.len)) em) := by
  unfold substLoop
  rw [List.range_succ, List.foldl_append]
  simp only [List.foldl_cons, List.foldl_nil]
  cases List.foldl _ (some ed) (List.range n) <;> rfl

theorem substLoop_round {re : RStr} {g : Bool} {b : Int} {n : Nat} {ed em : Ed} {ln : Bytes}
    (h : substLoop re g b n ed = some em) (hl : em.line (b + (n : Int) + (em.len - ed.len)) = some ln) :
    substLoop re g b (n + 1) ed =
      match substLine re em.xrep g ln with
      | none => none
      | some none => some em
      | some (some nl) => em.edit (some nl) (b + (n : Int) + (em.len - ed.len)) (b + (n : Int) + (em.len - ed.len) + 1) := by
  rw [substLoop_succ, h, Option.bind_some, substStep, hl]

/-- the shift the model carries is the growth of the buffer: the two formulations of the loop agree -/
theorem sLoop_eq (re : RStr) (g : Bool) (b : Int) (ed : Ed) : ∀ n : Nat,
    Lemmas.C05e.sLoop re g b n ed = (substLoop re g b n ed).map (fun em => (em, em.len - ed.len)) := by
  intro n
  induction n with
  | zero =>
    show some (ed, (0 : Int)) = some (ed, ed.len - ed.len)
    rw [Int.sub_self]
  | succ n ih =>
    rw [substLoop_succ, Lemmas.C05e.sLoop_succ, ih]
    cases substLoop re g b n ed with
    | none => rfl
    | some em =>
      simp only [Option.map_some, Option.bind_some]
      unfold substStep Lemmas.C05e.sStep
      simp only []
      cases em.line (b + (n : Int) + (em.len - ed.len)) with
      | none => rfl
      | some ln =>
        simp only []
        cases substLine re em.xrep g ln with
        | none => rfl
        | some o =>
          cases o with
          | none => rfl
          | some nl =>
            simp only []
            cases em.edit (some nl) (b + (n : Int) + (em.len - ed.len)) (b + (n : Int) + (em.len - ed.len) + 1) with
            | none => rfl
            | some e2 =>
              simp only [Option.map_some, Option.some.injEq, Prod.mk.injEq, true_and]
              omega

/-- the `ec_substitute` branch of `runCmd`, in terms of the pieces above -/
theorem runCmd_subst_eq (f : Nat) (ed : Ed) (loc cmd arg : Bytes) (txt : Option Bytes) :
    runCmd (f + 1) ed "ec_substitute" loc cmd arg txt =
      match exRegion ed loc with
      | none => none
      | some ((rc, b, e), ed) =>
        if rc != 0 then some (1, ed) else
        if (substPrep ed arg).1.xkwddir == 0 then some (1, (substPrep ed arg).1) else
        match (substPrep ed arg).1.mkRe (substPrep ed arg).1.xkwd with
        | none => none
        | some none => some (1, (substPrep ed arg).1)
        | some (some re) =>
          match substLoop re (substPrep ed arg).2 b (e - b).toNat (substPrep ed arg).1 with
          | none => none
          | some ed => some (0, ed) := by
  have h2 : ∀ re g b n ed1, (match substLoop re g b n ed1 with | none => none | some ed => some ((0 : Int), ed)) =
      match Lemmas.C05e.sLoop re g b n ed1 with | none => none | some (ed, _) => some (0, ed) := by
    intro re g b n ed1
    rw [sLoop_eq]
    cases substLoop re g b n ed1 <;> rfl
  rw [Lemmas.C05e.runCmd_subst_eq']
  simp only [h2]
  rfl

/-- `:s` by the ways it returns: a bad address; no pattern, or one that does not compile, after the prologue; the loop
    over the range -/
theorem ecSubst_cases {f : Nat} {ed : Ed} {loc cmd arg : Bytes} {txt : Option Bytes} {rc : Int} {ed' : Ed}
    (h : runCmd (f + 1) ed "ec_substitute" loc cmd arg txt = some (rc, ed')) :
    ∃ r b e ed1, exRegion ed loc = some ((r, b, e), ed1) ∧
      ((r ≠ 0 ∧ rc = 1 ∧ ed' = ed1) ∨ (r = 0 ∧ rc = 1 ∧ ed' = (substPrep ed1 arg).1) ∨
       (r = 0 ∧ rc = 0 ∧ ∃ re, (substPrep ed1 arg).1.mkRe (substPrep ed1 arg).1.xkwd = some (some re) ∧
          substLoop re (substPrep ed1 arg).2 b (e - b).toNat (substPrep ed1 arg).1 = some ed')) := by
  rw [runCmd_subst_eq] at h
  split at h
  · cases h
  · rename_i r b e ed1 hr
    refine ⟨r, b, e, ed1, hr, ?_⟩
    rcases Lemmas.C06.ite_eq_cases h with ⟨hrc, h⟩ | ⟨hrc, h⟩
    · cases h; exact Or.inl ⟨by simpa using hrc, rfl, rfl⟩
    · have hr0 : r = 0 := by simpa using hrc
      rcases Lemmas.C06.ite_eq_cases h with ⟨_, h⟩ | ⟨_, h⟩
      · cases h; exact Or.inr (Or.inl ⟨hr0, rfl, rfl⟩)
      · split at h
        · cases h
        · cases h; exact Or.inr (Or.inl ⟨hr0, rfl, rfl⟩)
        · rename_i re hre
          split at h
          · cases h
          · rename_i ed2 hloop
            cases h; exact Or.inr (Or.inr ⟨hr0, rfl, re, hre, hloop⟩)

theorem setLb_xrep (ed : Ed) (lb : Lb) : (ed.setLb lb).xrep = ed.xrep := by
  unfold Ed.setLb; split <;> rfl

theorem substPrep_bufs (ed : Ed) (arg : Bytes) : (substPrep ed arg).1.bufs = ed.bufs := by
  unfold substPrep
  simp only [apply_ite Ed.bufs, ite_self]
  split <;> simp only [apply_ite Ed.bufs, kwdSet_bufs, ite_self]

/-- the lines of the current buffer (none when there is no buffer) -/
def edLines (ed : Ed) : List Bytes := match ed.lb with | some lb => lb.lines | none => []

theorem line_eq_edLines (ed : Ed) (j : Int) : ed.line j = if j < 0 then none else (edLines ed)[j.toNat]? :=
  Lemmas.C06.line_int ed j

theorem len_eq_edLines (ed : Ed) : ed.len = ((edLines ed).length : Int) := Lemmas.C06.len_eq ed

/-- what one round makes of a line of the range: the lines of its rewritten text, or the line itself when
    the pattern is not found in it -/
def newLines (re : RStr) (rep : Bytes) (g : Bool) (ln : Bytes) : List Bytes :=
  match substLine re rep g ln with
  | some (some nl) => splitLines nl
  | _ => [ln]

theorem substStep_cases {re : RStr} {g : Bool} {i : Int} {ed ed' : Ed} (h : substStep re g i ed = some ed') :
    ∃ ln, ed.line i = some ln ∧ ((substLine re ed.xrep g ln = some none ∧ ed' = ed) ∨
      ∃ nl, substLine re ed.xrep g ln = some (some nl) ∧ ed.edit (some nl) i (i + 1) = some ed') := by
  unfold substStep at h
  split at h
  · cases h
  · rename_i ln hl
    refine ⟨ln, hl, ?_⟩
    split at h
    · cases h
    · rename_i hs
      cases h
      exact Or.inl ⟨hs, rfl⟩
    · rename_i nl hs
      exact Or.inr ⟨nl, hs, h⟩

theorem substStep_lines {re : RStr} {g : Bool} {i : Int} {ed ed' : Ed} (h : substStep re g i ed = some ed') :
    0 ≤ i ∧ ed'.xrep = ed.xrep ∧ ∃ ln, (edLines ed)[i.toNat]? = some ln ∧
      edLines ed' = (edLines ed).take i.toNat ++ newLines re ed.xrep g ln ++ (edLines ed).drop (i.toNat + 1) := by
  obtain ⟨ln, hl, hc⟩ := substStep_cases h
  rw [line_eq_edLines] at hl
  have h0 : 0 ≤ i := by
    apply Classical.byContradiction
    intro hn
    rw [if_pos (by omega)] at hl
    cases hl
  rw [if_neg (by omega)] at hl
  have hlt := (List.getElem?_eq_some_iff.1 hl).1
  rcases hc with ⟨hs, rfl⟩ | ⟨nl, hs, h⟩
  · refine ⟨h0, rfl, ln, hl, ?_⟩
    unfold newLines
    rw [hs]
    exact (Basics.take_getElem_drop _ _ _ hl).symm
  · refine ⟨h0, by rw [Lemmas.C06.edit_fields _ _ _ _ _ h], ln, hl, ?_⟩
    unfold newLines
    rw [hs]
    have hf := (Lemmas.C06.ed_edit_frame ed ed' (some nl) i (i + 1) h0 (by omega)
      (by rw [len_eq_edLines]; omega) h).1
    rw [show (i + 1).toNat = i.toNat + 1 by omega] at hf
    exact hf

/-- one round leaves the lines before `i` alone, and also those after `i` and the line count when the new
    text is a single line -/
theorem substStep_frame {re : RStr} {g : Bool} {i : Int} {ed ed' : Ed} (h : substStep re g i ed = some ed') :
    ed'.xrep = ed.xrep ∧ (∀ j, j < i → ed'.line j = ed.line j) ∧
    ((∀ ln nl, ed.line i = some ln → substLine re ed.xrep g ln = some (some nl) → (splitLines nl).length = 1) →
      ed'.len = ed.len ∧ ∀ j, i < j → ed'.line j = ed.line j) := by
  obtain ⟨h0, hx, ln, hln, hL⟩ := substStep_lines h
  have hlt := (List.getElem?_eq_some_iff.1 hln).1
  obtain ⟨f1, f2, f3⟩ := Lemmas.C06.line_frame (ed := ed) (ed' := ed') hL (Nat.le_succ _) hlt
  refine ⟨hx, fun j hj => f2 j (by omega), fun hone => ?_⟩
  have h1 : (newLines re ed.xrep g ln).length = 1 := by
    unfold newLines
    split
    · rename_i nl hs
      exact hone ln nl (by rw [line_eq_edLines, if_neg (by omega)]; exact hln) hs
    · rfl
  have hlen : ed'.len = ed.len := by rw [f1, h1]; omega
  refine ⟨hlen, fun j hj => ?_⟩
  have := f3 j (by omega)
  rwa [hlen, Int.sub_self, Int.add_zero] at this

/-- **the loop rewrites each line of the range exactly once**: after `n` rounds the buffer is the lines
    before `b`, then for each of the `n` lines that were at `b, b + 1, …` what one round makes of it (`newLines`:
    the lines of its rewritten text — none, one or several — or the line itself), then the lines that were
    at `b + n` and after.  A successful loop of at least one round also shows `0 ≤ b` and `b + n ≤ len` -/
theorem substLoop_lines (re : RStr) (g : Bool) (b : Int) (ed : Ed) : ∀ (n : Nat) (ed' : Ed),
    substLoop re g b n ed = some ed' →
      ed'.xrep = ed.xrep ∧ (0 < n → 0 ≤ b ∧ b.toNat + n ≤ (edLines ed).length) ∧
      edLines ed' = (edLines ed).take b.toNat ++
        (((edLines ed).drop b.toNat).take n).flatMap (newLines re ed.xrep g) ++ (edLines ed).drop (b.toNat + n) := by
  intro n
  induction n with
  | zero =>
    intro ed' h
    cases h
    refine ⟨rfl, fun h => absurd h (by omega), ?_⟩
    simp
  | succ n ih =>
    intro ed' h
    rw [substLoop_succ] at h
    cases hm : substLoop re g b n ed with
    | none => rw [hm] at h; cases h
    | some em =>
      rw [hm] at h
      simp only [Option.bind_some] at h
      obtain ⟨x1, x2, x3⟩ := ih em hm
      obtain ⟨r0, y1, ln, hln, y2⟩ := substStep_lines h
      rw [len_eq_edLines em, len_eq_edLines ed] at r0 hln y2
      rw [x1] at y2
      generalize edLines ed = L at *
      generalize edLines em = Lm at *
      generalize edLines ed' = L' at *
      generalize hM : ((L.drop b.toNat).take n).flatMap (newLines re ed.xrep g) = M at *
      have hb : 0 ≤ b ∧ b.toNat + n ≤ L.length := by
        cases n with
        | zero =>
          simp only [List.take_zero, List.flatMap_nil] at hM
          subst hM
          simp only [List.append_nil, Nat.add_zero, List.take_append_drop] at x3
          subst x3
          have hlt := (List.getElem?_eq_some_iff.1 hln).1
          constructor
          · omega
          · omega
        | succ n => exact x2 (by omega)
      obtain ⟨hb0, hbn⟩ := hb
      have htake : (L.take b.toNat).length = b.toNat := List.length_take_of_le (by omega)
      have hlen : (Lm.length : Int) - (L.length : Int) = (M.length : Int) - (n : Int) := by
        rw [x3]
        simp only [List.length_append, htake, List.length_drop]
        omega
      have hrow : (b + (n : Int) + ((Lm.length : Int) - (L.length : Int))).toNat = (L.take b.toNat ++ M).length := by
        rw [hlen, List.length_append, htake]
        omega
      rw [hrow] at hln y2
      rw [x3] at hln y2
      rw [List.getElem?_append_right (Nat.le_refl _), Nat.sub_self, List.getElem?_drop, Nat.add_zero] at hln
      have hlt : b.toNat + n < L.length := by
        apply Classical.byContradiction
        intro hge
        rw [List.getElem?_eq_none (by omega)] at hln
        cases hln
      refine ⟨by rw [y1, x1], fun _ => ⟨hb0, by omega⟩, ?_⟩
      rw [y2, List.take_left, List.drop_append, List.drop_of_length_le (Nat.le_succ _)]
      have e1 : (L.take b.toNat ++ M).length + 1 - (L.take b.toNat ++ M).length = 1 := by omega
      rw [e1, List.drop_drop, List.nil_append]
      have e2 : ((L.drop b.toNat).take (n + 1)) = (L.drop b.toNat).take n ++ [ln] := by
        rw [List.take_add_one, List.getElem?_drop, hln]
        rfl
      rw [e2, List.flatMap_append, hM]
      simp only [List.flatMap_cons, List.flatMap_nil, List.append_nil, List.append_assoc]
      rw [show b.toNat + n + 1 = b.toNat + (n + 1) by omega]

theorem flatMap_length_one {α β : Type} (f : α → List β) : ∀ (l : List α), (∀ x ∈ l, (f x).length = 1) →
    (l.flatMap f).length = l.length := by
  intro l
  induction l with
  | nil => intro _; rfl
  | cons a l ih =>
    intro h
    rw [List.flatMap_cons, List.length_append, h a (by simp), ih (fun x hx => h x (by simp [hx]))]
    simp only [List.length_cons]
    omega

theorem substLoop_frame (re : RStr) (g : Bool) (b : Int) (n : Nat) (ed ed' : Ed)
    (h : substLoop re g b n ed = some ed') :
    ed'.xrep = ed.xrep ∧ (∀ j, j < b → ed'.line j = ed.line j) ∧
      ∀ j, b + (n : Int) ≤ j → ed'.line (j + (ed'.len - ed.len)) = ed.line j := by
  cases n with
  | zero => cases h; exact ⟨rfl, fun _ _ => rfl, fun j _ => by rw [Int.sub_self, Int.add_zero]⟩
  | succ n =>
    obtain ⟨x1, x2, x3⟩ := substLoop_lines re g b ed _ ed' h
    obtain ⟨hb0, hbn⟩ := x2 (by omega)
    obtain ⟨_, f2, f3⟩ := Lemmas.C06.line_frame (ed := ed) (ed' := ed') x3 (by omega) hbn
    exact ⟨x1, fun j hj => f2 j (by omega), fun j hj => f3 j (by omega)⟩

theorem substLoop_outside (re : RStr) (g : Bool) (b : Int) (n : Nat) (ed ed' : Ed)
    (h : substLoop re g b n ed = some ed')
    (hone : ∀ i ln nl, b ≤ i → i < b + n → ed.line i = some ln → substLine re ed.xrep g ln = some (some nl) →
      (splitLines nl).length = 1) :
    ed'.len = ed.len ∧ ∀ j, (j < b ∨ b + n ≤ j) → ed'.line j = ed.line j := by
  have hlen : ed'.len = ed.len := by
    cases n with
    | zero => cases h; rfl
    | succ n =>
      obtain ⟨x1, x2, x3⟩ := substLoop_lines re g b ed _ ed' h
      obtain ⟨hb0, hbn⟩ := x2 (by omega)
      have hM := flatMap_length_one (newLines re ed.xrep g) (((edLines ed).drop b.toNat).take (n + 1)) (by
        intro x hx
        obtain ⟨k, hk⟩ := List.mem_iff_getElem?.1 hx
        rw [List.getElem?_take] at hk
        split at hk
        · rename_i hkn
          rw [List.getElem?_drop] at hk
          unfold newLines
          split
          · rename_i nl hs
            refine hone (b + (k : Int)) x nl (by omega) (by omega) ?_ hs
            rw [line_eq_edLines, if_neg (by omega), ← hk]
            congr 1
            omega
          · rfl
        · cases hk)
      rw [len_eq_edLines, len_eq_edLines, x3]
      simp only [List.length_append, hM, List.length_take, List.length_drop]
      omega
  refine ⟨hlen, ?_⟩
  intro j hj
  rcases hj with hj | hj
  · exact (substLoop_frame re g b n ed ed' h).2.1 j hj
  · have := (substLoop_frame re g b n ed ed' h).2.2 j hj
    rw [hlen, Int.sub_self, Int.add_zero] at this
    exact this

theorem edLines_of_bufs {ed ed' : Ed} (h : ed'.bufs = ed.bufs) : edLines ed' = edLines ed := by
  unfold edLines; rw [lb_of_bufs h]

/-- **outside_range_unchanged** (the frame of `:s`, for every replacement): a successful `:s` over `[b, e)`
    * leaves every line before `b` alone;
    * keeps every line from `e` on, moved by the change `ed'.len - ed.len` of the number of lines;
    * rewrites each line of the range exactly once: the new buffer is the lines before `b`, then for each line
      that was in `[b, e)`, in order, what one round makes of it (`newLines`: the lines of its rewritten text —
      two or more when the replacement brought a newline, none when the pattern consumed the line's own
      newline and nothing is left — or the line itself when the pattern is not found), then the lines that
      were at `e` and after;
    * and (the single-line corollary) when every rewritten line is still a single line, the number of lines
      and every line from `e` on are unchanged -/
theorem outside_range_unchanged (f : Nat) (ed : Ed) (loc cmd arg : Bytes) (txt : Option Bytes) (ed' : Ed)
    (h : runCmd (f + 1) ed "ec_substitute" loc cmd arg txt = some (0, ed')) :
    ∃ b e ed1 re, exRegion ed loc = some ((0, b, e), ed1) ∧
      (substPrep ed1 arg).1.mkRe (substPrep ed1 arg).1.xkwd = some (some re) ∧
      0 ≤ b ∧ b ≤ e ∧ e ≤ ed.len ∧
      (∀ j, j < b → ed'.line j = ed.line j) ∧
      (∀ j, e ≤ j → ed'.line (j + (ed'.len - ed.len)) = ed.line j) ∧
      edLines ed' = (edLines ed).take b.toNat ++
        (((edLines ed).drop b.toNat).take (e - b).toNat).flatMap
          (newLines re (substPrep ed1 arg).1.xrep (substPrep ed1 arg).2) ++
        (edLines ed).drop e.toNat ∧
      ((∀ i ln nl, b ≤ i → i < e → ed.line i = some ln →
          substLine re (substPrep ed1 arg).1.xrep (substPrep ed1 arg).2 ln = some (some nl) →
          (splitLines nl).length = 1) →
        ed'.len = ed.len ∧ ∀ j, e ≤ j → ed'.line j = ed.line j) := by
  obtain ⟨r, b, e, ed1, hr, hc⟩ := ecSubst_cases h
  rcases hc with ⟨_, h1, _⟩ | ⟨_, h1, _⟩ | ⟨rfl, _, re, hre, hloop⟩
  · cases h1
  · cases h1
  have hb1 : ∀ j, (substPrep ed1 arg).1.line j = ed.line j := fun j => by
    rw [line_of_bufs (substPrep_bufs ed1 arg), line_of_bufs (exRegion_bufs hr)]
  have hl1 : (substPrep ed1 arg).1.len = ed.len := by
    rw [len_of_bufs (substPrep_bufs ed1 arg), len_of_bufs (exRegion_bufs hr)]
  have hL1 : edLines (substPrep ed1 arg).1 = edLines ed := by
    rw [edLines_of_bufs (substPrep_bufs ed1 arg), edLines_of_bufs (exRegion_bufs hr)]
  obtain ⟨_, _, hreg, _⟩ := Neatvi.Lemmas.C06.region_all ed loc 0 b e ed1 hr
  obtain ⟨r1, r2, r3, _⟩ := hreg rfl
  rw [len_of_bufs (exRegion_bufs hr)] at r3
  have hbn : b + (((e - b).toNat : Nat) : Int) = e := by omega
  refine ⟨b, e, ed1, re, hr, hre, r1, r2, r3, ?_, ?_, ?_, ?_⟩
  · intro j hj
    rw [(substLoop_frame re _ b _ _ _ hloop).2.1 j hj, hb1]
  · intro j hj
    have := (substLoop_frame re _ b _ _ _ hloop).2.2 j (by omega)
    rw [hl1, hb1] at this
    exact this
  · obtain ⟨_, _, x3⟩ := substLoop_lines re _ b _ _ _ hloop
    rw [hL1] at x3
    rw [x3, show b.toNat + (e - b).toNat = e.toNat by omega]
  · intro hone
    obtain ⟨c1, c2⟩ := substLoop_outside re _ b _ _ _ hloop
      (fun i ln nl h1 h2 hl hs => hone i ln nl h1 (by omega) (by rw [← hb1]; exact hl) hs)
    refine ⟨by rw [c1, hl1], ?_⟩
    intro j hj
    rw [c2 j (Or.inr (by omega)), hb1]

/-! ### the statement on concrete buffers

`a b b c d`, one letter per line.  (`#eval` of the model gives the same lists.) -/

def exBuf : Ed := { bufs := [some { path := [], lb := { lines := [[97, 10], [98, 10], [98, 10], [99, 10], [100, 10]] } }] }

/-- `:2,3s/b/X<newline>Y/`: each `b` becomes the two lines `X`, `Y`, once; `c`, `d` move down by two.
    (Without the shift the loop would substitute in rows 1 and 2 of the growing buffer, which after the first
    split are `X` and `Y`: the second `b` would never be visited.) -/
example : (runCmd 1 exBuf "ec_substitute" [50, 44, 51] [115] [47, 98, 47, 88, 10, 89, 47] none).map
    (fun r => (r.1, edLines r.2)) =
    some (0, [[97, 10], [88, 10], [89, 10], [88, 10], [89, 10], [99, 10], [100, 10]]) := by
  rw [runCmd_subst_eq]
  decide +kernel

/-- the right-hand side of the list equation of `outside_range_unchanged` for this command -/
example : (rstrMake [98] 0).map (fun r => r.map (fun re =>
    (edLines exBuf).take 1 ++ (((edLines exBuf).drop 1).take 2).flatMap (newLines re [88, 10, 89] false) ++
      (edLines exBuf).drop 3)) =
    some (some [[97, 10], [88, 10], [89, 10], [88, 10], [89, 10], [99, 10], [100, 10]]) := by decide

/-- the loop alone, on the same range -/
example : (rstrMake [98] 0).bind (fun r => r.bind (fun re =>
    (substLoop re false 1 2 { exBuf with xrep := [88, 10, 89] }).map edLines)) =
    some [[97, 10], [88, 10], [89, 10], [88, 10], [89, 10], [99, 10], [100, 10]] := by decide

/-- the same `\<` command through `runCmd`: ` ab` becomes ` -a-b` -/
example : (runCmd 1 { bufs := [some { path := [], lb := { lines := [[32, 97, 98, 10]] } }] } "ec_substitute" [] [115]
    [47, 92, 60, 47, 45, 47, 103] none).map (fun r => (r.1, edLines r.2)) = some (0, [[32, 45, 97, 45, 98, 10]]) := by
  rw [runCmd_subst_eq]
  decide +kernel

/-! `:1,4s/b\<newline>//`: the pattern consumes the line's own newline, the rewritten text is empty and the
    line vanishes.  The pattern is not a literal, so the matcher is the regex VM (defined by well-founded
    recursion): its three calls are evaluated with the fuelled `regexecF`, everything else by `decide`. -/

/-- `rset_make` of `b\<newline>` -/
def delSet : RSet := match Rset.make [some [98, 92, 10]] 0 with
  | some (some r) => r
  | _ => ⟨⟨[], 0, 0⟩, 0, [], [], 0⟩
def delRe : RStr := ⟨some delSet, none, false, false, false, false, false⟩

example : rstrMake [98, 92, 10] 0 = some (some delRe) := by rfl

open Neatvi.Regex Neatvi.Lemmas.C10 in
theorem del_find_other (c : Nat) (hc : c = 97 ∨ c = 99) : rstrFind delRe [c, 10] 16 0 ND NG = some (-1, [], 0) := by
  show find delSet [c, 10] 16 0 ND NG = _
  unfold find
  rw [if_neg (by decide)]
  have : regexec delSet.prog [c, 10] delSet.grpcnt (REG_NEWLINE ||| (if 0 &&& RE_NOTBOL != 0 then REG_NOTBOL else 0) |||
      (if 0 &&& RE_NOTEOL != 0 then REG_NOTEOL else 0)) ND NG = (ExecRes.nomatch 0, []) := by
    rcases hc with rfl | rfl <;> exact regexecF_sound (fuel := 40) (by decide)
  simp only [this]

open Neatvi.Regex Neatvi.Lemmas.C10 in
theorem del_find_b : rstrFind delRe [98, 10] 16 0 ND NG = some (0, [0, 2] ++ List.replicate 30 (-1), 0) := by
  show find delSet [98, 10] 16 0 ND NG = _
  unfold find
  rw [if_neg (by decide)]
  have := regexecF_sound (fuel := 40) (p := delSet.prog) (subj := [98, 10]) (nsub := delSet.grpcnt)
    (eflg := (REG_NEWLINE ||| (if 0 &&& RE_NOTBOL != 0 then REG_NOTBOL else 0) |||
      (if 0 &&& RE_NOTEOL != 0 then REG_NOTEOL else 0))) (nd := ND) (ngrps := NG)
    (r := (ExecRes.found ([0, 2, 0, 2, 0, 2] ++ List.replicate 122 (-1)) 0, [(0, 2), (0, 2), (0, 2)])) (by decide)
  simp only [this]
  decide

/-- a line without `b` is left alone, the line `b` is rewritten to the empty text: no line -/
theorem del_line_other (c : Nat) (hc : c = 97 ∨ c = 99) : substLine delRe [] false [c, 10] = some none :=
  subst_no_match delRe [] false [c, 10] (-1) [] 0 (del_find_other c hc) (by decide)
theorem del_line_b : substLine delRe [] false [98, 10] = some (some []) :=
  subst_first_only delRe [] [98, 10] 0 _ 0 [] del_find_b (by decide) (by decide) (by decide)

example : newLines delRe [] false [98, 10] = [] := by unfold newLines; rw [del_line_b]; rfl
example : newLines delRe [] false [97, 10] = [[97, 10]] := by unfold newLines; rw [del_line_other 97 (Or.inl rfl)]

def exBuf1 : Ed := (exBuf.edit (some []) 1 2).getD exBuf
def exBuf2 : Ed := (exBuf1.edit (some []) 1 2).getD exBuf1

/-- the four rounds work on rows 0, 1, 1, 1 (the lines `a`, `b`, `b`, `c` of the original buffer); both `b`
    vanish and `d`, outside the range, is kept.  (Without the shift the rounds would be on rows 0, 1, 2, 3 — `a`,
    `b`, `c`, and a row past the end: a trap.) -/
example : (substLoop delRe false 0 4 exBuf).map edLines = some [[97, 10], [99, 10], [100, 10]] := by
  have h0 : substLoop delRe false 0 0 exBuf = some exBuf := rfl
  have h1 : substLoop delRe false 0 1 exBuf = some exBuf := by
    rw [substLoop_round h0 (ln := [97, 10]) (by decide), show exBuf.xrep = [] from rfl, del_line_other 97 (Or.inl rfl)]
  have h2 : substLoop delRe false 0 2 exBuf = some exBuf1 := by
    rw [substLoop_round h1 (ln := [98, 10]) (by decide), show exBuf.xrep = [] from rfl, del_line_b]
    rfl
  have h3 : substLoop delRe false 0 3 exBuf = some exBuf2 := by
    rw [substLoop_round h2 (ln := [98, 10]) (by decide), show exBuf1.xrep = [] from rfl, del_line_b]
    rfl
  have h4 : substLoop delRe false 0 4 exBuf = some exBuf2 := by
    rw [substLoop_round h3 (ln := [99, 10]) (by decide), show exBuf2.xrep = [] from rfl, del_line_other 99 (Or.inr rfl)]
  rw [h4]
  decide

end Neatvi.Props.C14
