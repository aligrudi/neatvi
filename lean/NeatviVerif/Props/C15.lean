import NeatviVerif.Lemmas.Basics
import NeatviVerif.Lemmas.C15bUndo
/-!
# C15: `:g` — the marks travel with their lines, every marked line is visited once, one undo step
-/
namespace Neatvi.Props.C15
open Neatvi Neatvi.Lbuf Neatvi.Ex Neatvi.Rset Neatvi.Lemmas.ExFrame Neatvi.Lemmas.Hist Neatvi.Props.C01

/-- the table of marks is as long as the table of lines (`ln_glob` is allocated along with `ln`) -/
def GlobLen (lb : Lb) : Prop := lb.glob.length = lb.lines.length

theorem setMark_glob (lb : Lb) (c : Nat) (p o : Int) : (setMark lb c p o).glob = lb.glob := by
  unfold setMark; split <;> rfl

theorem replace_glob {lb lb' : Lb} {s : Option Bytes} {pos nDel : Nat} (h : replace lb s pos nDel = some lb') :
    lb'.glob = lb.glob.take pos ++
      ((lb.glob.drop pos).take (min (optLines s).length nDel) ++
        List.replicate ((optLines s).length - min (optLines s).length nDel) 0) ++
      lb.glob.drop (pos + nDel) := by
  unfold replace at h
  simp only [] at h
  split at h
  · cases h
    rw [setMark_glob, setMark_glob]
    cases s <;> rfl
  · cases h

/-- **glob_bits_travel**: after a successful `lbuf_replace` of `nDel` lines at `pos` by `nIns` new ones,
    * the lines before `pos` keep their marks,
    * the first `min nIns nDel` new lines inherit the marks of the slots they replace,
    * every further new line is unmarked ("a line an execution inserted is never marked"),
    * the lines after the replaced range keep their marks, shifted with them,
    * and the table of marks is still as long as the table of lines -/
theorem glob_bits_travel {lb lb' : Lb} {s : Option Bytes} {pos nDel : Nat}
    (h : replace lb s pos nDel = some lb') (hg : GlobLen lb) (nIns : Nat) (hn : nIns = (optLines s).length) :
    (∀ i, i < pos → lb'.glob[i]? = lb.glob[i]?) ∧
    (∀ i, pos ≤ i → i < pos + min nIns nDel → lb'.glob[i]? = lb.glob[i]?) ∧
    (∀ i, pos + min nIns nDel ≤ i → i < pos + nIns → lb'.glob[i]? = some 0) ∧
    (∀ k, lb'.glob[pos + nIns + k]? = lb.glob[pos + nDel + k]?) ∧
    GlobLen lb' := by
  obtain ⟨hb, hlines, _⟩ := replace_lines h
  have hgl := replace_glob h
  rw [← hn] at hgl
  unfold GlobLen at hg
  -- with a name for `min nIns nDel`, `omega` has no minimum to split on
  have hm1 : min nIns nDel ≤ nIns := Nat.min_le_left _ _
  have hm2 : min nIns nDel ≤ nDel := Nat.min_le_right _ _
  generalize min nIns nDel = m at *
  have hl1 : (lb.glob.take pos).length = pos := by simp; omega
  have hl2 : ((lb.glob.drop pos).take (m)).length = m := by simp; omega
  have hl3 : ((lb.glob.drop pos).take (m) ++ List.replicate (nIns - m) 0).length = nIns := by
    rw [List.length_append, hl2, List.length_replicate]; omega
  refine ⟨?_, ?_, ?_, ?_, ?_⟩
  · intro i hi
    rw [hgl, List.append_assoc, List.getElem?_append_left (by omega), List.getElem?_take_of_lt hi]
  · intro i h1 h2
    rw [hgl, List.append_assoc, List.getElem?_append_right (by omega), hl1,
      List.getElem?_append_left (by omega), List.getElem?_append_left (by omega),
      List.getElem?_take_of_lt (by omega), List.getElem?_drop]
    congr 1; omega
  · intro i h1 h2
    rw [hgl, List.append_assoc, List.getElem?_append_right (by omega), hl1,
      List.getElem?_append_left (by omega), List.getElem?_append_right (by omega), hl2,
      List.getElem?_replicate, if_pos (by omega)]
  · intro k
    rw [hgl, List.getElem?_append_right (by rw [List.length_append, hl1, hl3]; omega),
      List.length_append, hl1, hl3, List.getElem?_drop]
    congr 1; omega
  · unfold GlobLen
    rw [hgl, hlines]
    simp only [List.length_append, hl1, hl3, List.length_drop, List.length_take, ← hn]
    omega

/-- `lbuf_replace` never sets a bit: every mark afterwards is a mark from before, or 0 -/
theorem replace_glob_mem {lb lb' : Lb} {s : Option Bytes} {pos nDel : Nat} (h : replace lb s pos nDel = some lb') :
    ∀ x ∈ lb'.glob, x ∈ lb.glob ∨ x = 0 := by
  intro x hx
  rw [replace_glob h] at hx
  simp only [List.mem_append, List.mem_replicate] at hx
  rcases hx with (hx | hx | hx) | hx
  · exact Or.inl (List.mem_of_mem_take hx)
  · exact Or.inl (List.mem_of_mem_drop (List.mem_of_mem_take hx))
  · exact Or.inr hx.2
  · exact Or.inl (List.mem_of_mem_drop hx)

theorem glob_len_inv {lb lb' : Lb} {s : Option Bytes} {pos nDel : Nat}
    (h : replace lb s pos nDel = some lb') (hg : GlobLen lb) : GlobLen lb' := (glob_bits_travel h hg _ rfl).2.2.2.2

/-- `lbuf_edit` keeps the invariant (`lbuf_opt` does not touch the marks) -/
theorem edit_globLen {lb lb' : Lb} {buf : Option Bytes} {b e : Nat} (h : edit lb buf b e = some lb') (hg : GlobLen lb) :
    GlobLen lb' := by
  rcases (Lemmas.C06.edit_cases h).2 with ⟨_, _, rfl⟩ | h
  · exact hg
  · exact glob_len_inv h hg

theorem make_globLen : GlobLen Lbuf.make := rfl

/-- `:2,3c` with three new lines on a buffer whose lines carry the marks 1 2 4 8 16: the two replaced slots
    keep 2 and 4, the third new line is clear, 8 and 16 move down by one -/
example : (replace { lines := [[97, 10], [98, 10], [99, 10], [100, 10], [101, 10]], glob := [1, 2, 4, 8, 16] }
    (some [120, 10, 121, 10, 122, 10]) 1 2).map (·.glob) = some [1, 2, 4, 0, 8, 16] := by decide
/-- deleting two lines drops their marks -/
example : (replace { lines := [[97, 10], [98, 10], [99, 10], [100, 10]], glob := [1, 2, 4, 8] } none 1 2).map (·.glob) =
    some [1, 8] := by decide

/-- `x & ~(1 << dep)` on a `char` -/
def clr (x dep : Nat) : Nat := x &&& ((255 : Nat) ^^^ (1 <<< dep))

theorem and_two_pow_pos (x d : Nat) : (x &&& 2 ^ d > 0) ↔ x.testBit d = true := by
  constructor
  · intro h
    obtain ⟨i, hi⟩ := Nat.exists_testBit_of_ne_zero (x := x &&& 2 ^ d) (by omega)
    rw [Nat.testBit_and, Nat.testBit_two_pow] at hi
    simp only [Bool.and_eq_true, decide_eq_true_eq] at hi
    rw [hi.2]; exact hi.1
  · intro h
    apply Classical.byContradiction
    intro hn
    have h0 : x &&& 2 ^ d = 0 := by omega
    have : (x &&& 2 ^ d).testBit d = true := by
      rw [Nat.testBit_and, h, Nat.testBit_two_pow_self]; rfl
    rw [h0] at this
    simp at this

theorem clr_testBit_low (x dep k : Nat) (hk : k < 8) : (clr x dep).testBit k = (x.testBit k && k != dep) := by
  unfold clr
  rw [Nat.testBit_and, Nat.testBit_xor, Nat.one_shiftLeft, Nat.testBit_two_pow,
    show (255 : Nat) = 2 ^ 8 - 1 by rfl, Nat.testBit_two_pow_sub_one]
  by_cases hd : dep = k
  · subst hd; simp [hk]
  · have : k ≠ dep := fun h => hd h.symm
    simp [hk, hd, this]

theorem clr_lt (x dep : Nat) (hx : x < 256) : clr x dep < 256 := by
  unfold clr
  exact Nat.lt_of_le_of_lt Nat.and_le_left hx

theorem clr_testBit (x dep k : Nat) (hx : x < 256) : (clr x dep).testBit k = (x.testBit k && k != dep) := by
  by_cases hk : k < 8
  · exact clr_testBit_low x dep k hk
  · have h2 : 2 ^ 8 ≤ 2 ^ k := Nat.pow_le_pow_right (by omega) (by omega)
    rw [Nat.testBit_lt_two_pow (Nat.lt_of_lt_of_le (clr_lt x dep hx) h2), Nat.testBit_lt_two_pow (Nat.lt_of_lt_of_le hx h2)]
    rfl

theorem getD_lt_256 (l : List Nat) (hb : ∀ x ∈ l, x < 256) (i : Nat) : l.getD i 0 < 256 := by
  rw [List.getD_eq_getElem?_getD]
  cases hget : l[i]? with
  | none => simp
  | some v => exact hb v (List.mem_of_getElem? hget)

/-- clearing a clear bit of a byte changes nothing -/
theorem clr_of_clear (x dep : Nat) (hx : x < 256) (h : x.testBit dep = false) : clr x dep = x := by
  apply Nat.eq_of_testBit_eq
  intro k
  rw [clr_testBit x dep k hx]
  by_cases hk : k = dep
  · subst hk; simp [h]
  · simp [hk]

theorem set_testBit (x dep k : Nat) : (x ||| (1 <<< dep)).testBit k = (x.testBit k || k == dep) := by
  rw [Nat.testBit_or, Nat.one_shiftLeft, Nat.testBit_two_pow]
  by_cases h : dep = k
  · subst h; simp
  · have : k ≠ dep := fun h' => h h'.symm
    simp [h, this]

theorem getD_set (l : List Nat) (i j v : Nat) (h : i < l.length ∨ v = 0) :
    (l.set i v).getD j 0 = if j = i then v else l.getD j 0 := by
  rw [Basics.getD_set]
  by_cases hij : i = j
  · subst hij
    rcases h with h | rfl
    · simp [h]
    · by_cases hl : i < l.length <;> simp [hl]
  · simp [hij, Ne.symm hij]

/-- **globGet_clears** (the value read): the result is bit `dep` of entry `i` -/
theorem globGet_fst (lb : Lb) (i dep : Nat) : (globGet lb i dep).1 = (lb.glob.getD i 0).testBit dep := by
  unfold globGet
  simp only [Nat.one_shiftLeft]
  rw [Bool.eq_iff_iff, decide_eq_true_iff]
  exact and_two_pow_pos _ _

/-- **globGet_clears** (the table): entry `i` has bit `dep` cleared, every other entry is unchanged -/
theorem globGet_entry (lb : Lb) (i dep j : Nat) :
    (globGet lb i dep).2.glob.getD j 0 = if j = i then clr (lb.glob.getD i 0) dep else lb.glob.getD j 0 := by
  unfold globGet
  simp only []
  apply getD_set
  by_cases h : i < lb.glob.length
  · exact Or.inl h
  · right
    rw [List.getD_eq_getElem?_getD, List.getElem?_eq_none (by omega)]
    simp

/-- **globGet_clears** (bitwise): in the table after `lbuf_globget(lb, i, dep)`, bit `k` of entry `j` is
    what it was, except bit `dep` of entry `i`, which is clear -/
theorem globGet_clears (lb : Lb) (i dep j k : Nat) (hb : ∀ x ∈ lb.glob, x < 256) :
    ((globGet lb i dep).2.glob.getD j 0).testBit k =
      ((lb.glob.getD j 0).testBit k && !(j == i && k == dep)) := by
  rw [globGet_entry]
  by_cases hj : j = i
  · subst hj
    rw [if_pos rfl, clr_testBit _ _ _ (getD_lt_256 _ hb _)]
    by_cases hk : k = dep <;> simp [hk, bne]
  · rw [if_neg hj]
    simp [hj]

/-- nothing else in the buffer changes -/
theorem globGet_rest (lb : Lb) (i dep : Nat) :
    (globGet lb i dep).2.lines = lb.lines ∧ (globGet lb i dep).2.useq = lb.useq ∧
    (globGet lb i dep).2.hist = lb.hist ∧ (globGet lb i dep).2.histU = lb.histU ∧
    (globGet lb i dep).2.glob.length = lb.glob.length := by
  unfold globGet
  simp

/-- **globSet** sets bit `dep` of entry `pos` (when the entry exists) and nothing else -/
theorem globSet_sets (lb : Lb) (pos dep j k : Nat) (hp : pos < lb.glob.length) :
    ((globSet lb pos dep).glob.getD j 0).testBit k =
      ((lb.glob.getD j 0).testBit k || (j == pos && k == dep)) := by
  unfold globSet
  simp only []
  rw [getD_set _ _ _ _ (Or.inl hp)]
  by_cases hj : j = pos
  · subst hj
    rw [if_pos rfl, set_testBit]
    simp
  · rw [if_neg hj]
    simp [hj]

theorem globSet_rest (lb : Lb) (pos dep : Nat) :
    (globSet lb pos dep).lines = lb.lines ∧ (globSet lb pos dep).useq = lb.useq ∧
    (globSet lb pos dep).hist = lb.hist ∧ (globSet lb pos dep).histU = lb.histU ∧
    (globSet lb pos dep).glob.length = lb.glob.length := by
  unfold globSet
  simp

/-- the marks stay bytes under `lbuf_globget` -/
theorem globGet_bytes (lb : Lb) (i dep : Nat) (hb : ∀ x ∈ lb.glob, x < 256) :
    ∀ x ∈ (globGet lb i dep).2.glob, x < 256 := by
  intro x hx
  unfold globGet at hx
  simp only [] at hx
  rcases List.mem_or_eq_of_mem_set hx with h | h
  · exact hb x h
  · rw [h]
    exact clr_lt _ _ (getD_lt_256 _ hb _)

/-- the sequence counter of the current buffer -/
def useqOf (ed : Ed) : Option Nat := ed.lb.map (·.useq)

theorem useq_stable (u : Option Nat) : StableAt (fun _ => True) (fun ed => useqOf ed = u) (fun lb => some lb.useq = u) where
  to := by
    intro ed ed' h hb
    unfold useqOf at *
    rw [lb_of_bufs hb]; exact h
  getLb := by
    intro ed lb h hl
    unfold useqOf at h
    rw [hl] at h; exact h
  setLb := by
    intro ed lb h hq
    unfold useqOf at *
    rw [setLb_lb]
    cases hl : ed.lb with
    | none => rw [hl] at h; exact h
    | some l => exact hq
  edit := fun h he => by rw [edit_useq he]; exact h
  undo := fun h he => by rw [(Lemmas.C15b.undo_hist he).2]; exact h
  redo := fun h he => by rw [(Lemmas.C15b.redo_hist he).2]; exact h
  setMark := fun c p o h => by rw [setMark_useq]; exact h
  globSet := fun _ _ _ h => h
  globGet := fun _ _ _ h => h

theorem useq_upd (ed : Ed) (F : Lb → Lb) (hF : ∀ lb, (F lb).useq = lb.useq) :
    useqOf (match ed.lb with | some lb => ed.setLb (F lb) | none => ed) = useqOf ed :=
  (useq_stable (useqOf ed)).updLb F (fun lb h => by rw [hF]; exact h) rfl

theorem exExec_kept (f d : Nat) (ln : Bytes) (hq : quietLine d ln = true) (ed : Ed) (r : Int) (ed' : Ed)
    (h : exExec f ed ln = some (r, ed')) : useqOf ed' = useqOf ed :=
  exExec_stable (useq_stable (useqOf ed)) Guard.any f d ln hq ed r ed' trivial rfl h

/-- **one_undo_step**: `ex_exec` on a line without `:e`/`:b`/`:w`/`:q`/`:!`/`:@`/`:ra` commands (also inside
    nested `:g` command lists, `d` levels deep) never bumps the sequence counter of the current buffer -/
theorem one_undo_step (f d : Nat) (ed : Ed) (ln : Bytes) (hq : quietLine d ln = true) :
    (exExec f ed ln).map (fun r => r.2.lb.map (·.useq)) = (exExec f ed ln).map (fun _ => ed.lb.map (·.useq)) := by
  cases h : exExec f ed ln with
  | none => rfl
  | some x =>
    obtain ⟨r, ed'⟩ := x
    simp only [Option.map_some, Option.some.injEq]
    exact exExec_kept f d ln hq ed r ed' h

/-- so a whole `:g` with a quiet command list is one command for undo: `ex_command` bumps the counter once,
    at the end (`Props/C04`: one group of equal sequence numbers is one undo step) -/
theorem g_is_one_command (f d : Nat) (ed ed' : Ed) (ln : Bytes) (r : Int) (hq : quietLine d ln = true)
    (h : exCommand f ed ln = some (r, ed')) : useqOf ed' = (useqOf ed).map (· + 1) := by
  cases f with
  | zero => rw [exCommand] at h; cases h
  | succ f =>
    rw [exCommand] at h
    split at h
    · cases h
    · rename_i _ ed1 hx
      cases h
      rw [← exExec_kept f d ln hq ed r ed1 hx]
      unfold useqOf
      rw [Lemmas.ExFrame.modifiedAt0_lb]
      cases ed1.lb <;> rfl

/-- `:g/a/s/x/y/` and `:g/a/g/b/d` are quiet; `:g/a/w` is not -/
example : quietLine 1 [103, 47, 97, 47, 115, 47, 120, 47, 121, 47] = true := by decide +kernel
example : quietLine 2 [103, 47, 97, 47, 103, 47, 98, 47, 100] = true := by decide +kernel
example : quietLine 1 [103, 47, 97, 47, 119] = false := by decide +kernel

theorem len_of_lb {ed : Ed} {lb : Lb} (h : ed.lb = some lb) : ed.len = lb.lines.length := by
  unfold Ed.len; rw [h]

/-- **visit_once**: the advance step of the `:g` scan, started at `i`, returns the first index `j ≥ i` whose
    entry carries bit `dep` (or the number of lines if there is none); every entry in `[i, j)` had the bit
    clear; the entries in `[i, j]` have been passed through `lbuf_globget`, i.e. the bit is cleared at `j`
    as well; nothing else changes.  So a line that has been found is not found again unless the bit is set again. -/
theorem visit_once (dep : Nat) : ∀ (h : Nat) (ed : Ed) (i : Int) (lb : Lb), ed.lb = some lb → 0 ≤ i →
    lb.lines.length - i.toNat < h →
    ∃ (j : Int) (lb' : Lb), (ecGlob.scan.adv dep h ed i).2 = j ∧ (ecGlob.scan.adv dep h ed i).1.lb = some lb' ∧
      i ≤ j ∧ (i < lb.lines.length → j ≤ lb.lines.length) ∧ ((lb.lines.length : Int) ≤ i → j = i) ∧
      (∀ k, i.toNat ≤ k → k < j.toNat → (lb.glob.getD k 0).testBit dep = false) ∧
      (j < lb.lines.length → (lb.glob.getD j.toNat 0).testBit dep = true) ∧
      lb'.lines = lb.lines ∧ lb'.useq = lb.useq ∧
      (∀ k, lb'.glob.getD k 0 =
        if i.toNat ≤ k ∧ k ≤ j.toNat ∧ k < lb.lines.length then clr (lb.glob.getD k 0) dep else lb.glob.getD k 0) := by
  intro h
  induction h with
  | zero => intro ed i lb _ _ hf; omega
  | succ h ih =>
    intro ed i lb hlb hi hf
    rw [ecGlob.scan.adv]
    by_cases hge : i ≥ ed.len
    · rw [if_pos hge]
      rw [len_of_lb hlb] at hge
      refine ⟨i, lb, rfl, hlb, by omega, by omega, fun _ => rfl, by omega, by omega, rfl, rfl, ?_⟩
      intro k
      rw [if_neg (by omega)]
    · rw [if_neg hge]
      rw [len_of_lb hlb] at hge
      simp only [hlb]
      have hlb1 : (ed.setLb (globGet lb i.toNat dep).2).lb = some (globGet lb i.toNat dep).2 := by
        rw [setLb_lb, hlb]; rfl
      have hent := globGet_entry lb i.toNat dep
      by_cases hm : (globGet lb i.toNat dep).1 = true
      · rw [if_pos hm]
        refine ⟨i, (globGet lb i.toNat dep).2, rfl, hlb1, by omega, by omega, fun _ => rfl, by omega, ?_, rfl, rfl, ?_⟩
        · intro _; rw [← globGet_fst]; exact hm
        · intro k
          rw [hent k]
          by_cases hk : k = i.toNat
          · subst hk; rw [if_pos rfl, if_pos (by omega)]
          · rw [if_neg hk, if_neg (by omega)]
      · rw [if_neg hm]
        have hm' : (lb.glob.getD i.toNat 0).testBit dep = false := by
          rw [← globGet_fst]; simpa using hm
        obtain ⟨j, lb', h1, h2, h3, h4, h5, h6, h7, h8, h9, h10⟩ :=
          ih (ed.setLb (globGet lb i.toNat dep).2) (i + 1) (globGet lb i.toNat dep).2 hlb1 (by omega)
            (by show lb.lines.length - (i + 1).toNat < h; omega)
        have hl : (globGet lb i.toNat dep).2.lines = lb.lines := rfl
        rw [hl] at h4 h5 h7 h10
        refine ⟨j, lb', h1, h2, by omega, by omega, fun hc => by omega, ?_, ?_, h8, h9, ?_⟩
        · intro k hk1 hk2
          by_cases hk : k = i.toNat
          · subst hk; exact hm'
          · have := h6 k (by omega) hk2
            rw [hent k, if_neg hk] at this
            exact this
        · intro hj
          have := h7 hj
          rw [hent j.toNat, if_neg (by omega)] at this
          exact this
        · intro k
          rw [h10 k, hent k]
          by_cases hk : k = i.toNat
          · subst hk
            rw [if_pos rfl, if_neg (by omega), if_pos (by omega)]
          · rw [if_neg hk]
            by_cases hc : (i + 1).toNat ≤ k ∧ k ≤ j.toNat ∧ k < lb.lines.length
            · rw [if_pos hc, if_pos (by omega)]
            · rw [if_neg hc, if_neg (by omega)]

/-- after the advance step no entry in `[i, j]` carries the bit any more -/
theorem adv_cleared (dep h : Nat) (ed : Ed) (i : Int) (lb : Lb) (hlb : ed.lb = some lb) (hi : 0 ≤ i)
    (hf : lb.lines.length - i.toNat < h) (hb : ∀ x ∈ lb.glob, x < 256) :
    ∃ lb', (ecGlob.scan.adv dep h ed i).1.lb = some lb' ∧
      ∀ k, i.toNat ≤ k → k ≤ (ecGlob.scan.adv dep h ed i).2.toNat → k < lb.lines.length →
        (lb'.glob.getD k 0).testBit dep = false := by
  obtain ⟨j, lb', h1, h2, _, _, _, _, _, _, _, h10⟩ := visit_once dep h ed i lb hlb hi hf
  refine ⟨lb', h2, ?_⟩
  intro k hk1 hk2 hk3
  rw [h1] at hk2
  rw [h10 k, if_pos ⟨hk1, hk2, hk3⟩, clr_testBit _ _ _ (getD_lt_256 _ hb _)]
  simp

end Neatvi.Props.C15
