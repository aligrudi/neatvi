import NeatviVerif.Lemmas.C15bSweep
import NeatviVerif.Lemmas.C15bUndo
import NeatviVerif.Lemmas.C15bExample
/-!
# C15b: nested `:g` — the marks of the other depths, visiting, undo, the depth counter

`Props/C15` is about one `:g`.  Globals nest (`:g/a/g/b/s/x/y/`): `ec_glob` raises `xgdep`, marks its lines with bit
`1 << xgdep` of `ln_glob[]`, runs its command list once per marked matching line, sweeps its bit, lowers `xgdep`.
The command list of the outer `:g` may be an inner `:g` that sets, reads and clears *its* bit on the same lines while it
deletes, inserts and rewrites lines.  Here:

1. `globSet_other_depths`, `globGet_other_depths`: `lbuf_globset` / `lbuf_globget` for depth `d` leave bit `k ≠ d` of every
   line alone (bitwise; for the eight bits of a `char`).  `marks_depth_le_7`: `ec_glob` refuses an eighth
   level, so `d ≤ 7` in every call that happens; `beyond_depth_7_*` record what the two functions would do above that —
   what the guard `if (xgdep >= 7) return 1` prevents (without it the program shifts `1 << xgdep` into a `char`;
   undefined from 31 on).
2. `inner_global_keeps_outer_marks`: a complete inner `:g` — any range, any quiet command list: the line commands
   `d s a i c pu y k`, `p`, `=`, `u`, `redo`, `r`, `se`, further nested `:g`s, `|`-lists of these — leaves the marks of the
   outer depths on the surviving lines exactly as they were: there is a slot map (new slot ↦ old slot, strictly
   increasing) along which the marks travel; deleted lines are the old slots that are not hit, inserted lines carry no
   mark.  `inner_global_sweeps_own_marks`: and it leaves no mark of its own depth.
3. `nested_visit_once`: so, after the inner `:g`, the search of the outer `:g` finds the first surviving line at or
   after the restart index `MAX(0, MIN(i, xrow))` that the outer `:g` had marked; `nested_visits_in_order` / `nested_loop_invariant`:
   when nothing marked is left behind the restart index, round after round the marked surviving lines are worked on in
   their order, each once.  For an inner `:g` over *any* range that proviso can fail:
   `nested_visit_once_any_range_is_false` (`%g/b/d` from line 2 of `b b c m b`), `nested_skip_example`
   (`:g/a/s/$/!/|%g/b/d` on `b b a a b` gives `a! a`, in the model and in the program); `left_behind_is_lost`.
   `nested_example`: `:g/a/.,+1g/$/s/$/x/` on `a1 a2 a3 a4 z` gives `a1x a2xx a3xx a4xx zx`.
4. `nested_one_undo_step`: every undo record logged while a quiet command list (nested `:g`s included) runs carries
   one sequence number, the counter does not move; `nested_global_is_one_command`: `ex_command` then bumps it once;
   `nested_example_undo`: one `u` takes the eight substitutions of the example back.
5. `ecGlob_restores_depth`: `xgdep` is the same after `ec_glob` on every exit path (depth guard, bad range, no pattern, pattern
   that does not compile, `break`, normal end), for every command list whatsoever; `ecGlob_exit_paths` lists them;
   `exExec_restores_depth`: the same for every command line.
-/
namespace Neatvi.Props.C15b
open Neatvi Neatvi.Lbuf Neatvi.Ex Neatvi.Rset Neatvi.Props.C15 Neatvi.Lemmas.C15b Neatvi.Lemmas.C05d

/-! ## 1. the marks of the other depths -/

/-- **globSet_other_depths**: `lbuf_globset(lb, pos, d)` (`ln_glob[pos] |= 1 << d`) changes no bit `k ≠ d` of any
    entry `j` — for every `pos` (also beyond the table) and every `d` (also `d ≥ 8`, where the model does not truncate).
    With `=` for `|=` (the seeded regression) bit `k` of entry `pos` would be lost. -/
theorem globSet_other_depths (lb : Lb) (pos d j k : Nat) (hk : k ≠ d) :
    ((globSet lb pos d).glob.getD j 0).testBit k = (lb.glob.getD j 0).testBit k :=
  Lemmas.C15b.globSet_other_depths lb pos d j k hk

/-- **globGet_other_depths**: `lbuf_globget(lb, pos, d)` (`ln_glob[pos] &= ~(1 << d)`) changes no bit `k ≠ d` among the
    eight bits of a `char`, of any entry `j`, for every `pos` and `d` -/
theorem globGet_other_depths (lb : Lb) (pos d j k : Nat) (hk : k ≠ d) (h8 : k < 8) :
    ((globGet lb pos d).2.glob.getD j 0).testBit k = (lb.glob.getD j 0).testBit k :=
  Lemmas.C15b.globGet_other_depths lb pos d j k hk h8

/-- on a table of bytes (what `ln_glob[]` is as long as the depth stays below 8, `globSet_keeps_bytes`) no bit at all
    other than `d` changes -/
theorem globGet_other_depths_bytes (lb : Lb) (pos d j k : Nat) (hk : k ≠ d) (hb : ∀ x ∈ lb.glob, x < 256) :
    ((globGet lb pos d).2.glob.getD j 0).testBit k = (lb.glob.getD j 0).testBit k := by
  rw [globGet_clears lb pos d j k hb]
  simp [hk]

theorem globSet_keeps_bytes (lb : Lb) (pos d : Nat) (hd : d < 8) (hb : ∀ x ∈ lb.glob, x < 256) :
    ∀ x ∈ (globSet lb pos d).glob, x < 256 := by
  intro x hx
  unfold globSet at hx
  simp only [] at hx
  rcases List.mem_or_eq_of_mem_set hx with h | h
  · exact hb x h
  · rw [h]
    have h2 : 1 <<< d < 2 ^ 8 := by
      rw [Nat.one_shiftLeft]
      exact Nat.pow_lt_pow_right (by omega) hd
    exact Nat.or_lt_two_pow (n := 8) (getD_lt_256 lb.glob hb pos) h2

/-- what `lbuf_globget` returns depends on bit `d` of the entry only -/
theorem globGet_value_other_depths (lb lb2 : Lb) (pos d : Nat)
    (h : (lb2.glob.getD pos 0).testBit d = (lb.glob.getD pos 0).testBit d) : (globGet lb2 pos d).1 = (globGet lb pos d).1 :=
  Lemmas.C15b.globGet_value_other_depths lb lb2 pos d h

/-- **marks_depth_le_7**: `ec_glob` called with seven `:g` nested already returns 1 at once with the message
    "global commands nested too deep" and touches nothing else (no `lbuf_globset`, no `lbuf_globget`); and whenever
    it runs its loop (return value 0), the depth `xgdep + 1` it marks, searches and sweeps with (`ecGlob_exit_paths`)
    is at most 7.  So the two functions are only ever called with `d ≤ 7`, the marks are bits of a `char`, and the
    restriction `k < 8` of `globGet_other_depths` covers every reachable call.
    (Without the guard, at depth 8 the bit does not fit the `char` and the program works on the first line of the
    range only; forty nested `g/a/` make `1 << 40` undefined behaviour.) -/
theorem marks_depth_le_7 (f : Nat) (ed ed' : Ed) (loc cmd arg : Bytes) (r : Int)
    (h : ecGlob (f + 1) ed loc cmd arg = some (r, ed')) :
    (7 ≤ ed.xgdep → r = 1 ∧ ed' = ed.show (strOf "global commands nested too deep")) ∧
    (r = 0 → ed.xgdep + 1 ≤ 7) := Lemmas.C15b.marks_depth_le_7 f ed ed' loc cmd arg r h

/-- the hypotheses are met at the limit (`%g/b/d` with seven `:g` nested is refused) and below it (the witness of
    section 2 runs at depth 1 and returns 0) -/
example : ∃ ed', ecGlob 1 { wEd with xgdep := 7 } [37] [103] [47, 98, 47, 100] = some (1, ed') :=
  ⟨_, guard_example 0 { wEd with xgdep := 7 } rfl⟩

/-- **beyond depth 7, setting** (a call that does not happen, `marks_depth_le_7`; the record of what the guard prevents):
    `lbuf_globset` with `d ≥ 8` on an existing entry yields a value no `char` holds — the C assignment drops the bit,
    the line is not marked -/
theorem beyond_depth_7_set (lb : Lb) (pos d : Nat) (hd : 8 ≤ d) (hp : pos < lb.glob.length) :
    256 ≤ (globSet lb pos d).glob.getD pos 0 := by
  rw [globSet_entry, if_pos ⟨rfl, hp⟩]
  have h1 : 2 ^ 8 ≤ 2 ^ d := Nat.pow_le_pow_right (by omega) hd
  have h2 : 1 <<< d ≤ lb.glob.getD pos 0 ||| 1 <<< d := Nat.right_le_or
  rw [Nat.one_shiftLeft] at h2
  rw [Nat.one_shiftLeft]
  omega

/-- **beyond depth 7, reading** (not reachable either): `lbuf_globget` with `d ≥ 8` reports the bit without clearing
    it (the mask `255 ^^^ (1 <<< d)` keeps bit `d`; in C it reports 0) -/
theorem beyond_depth_7_get (lb : Lb) (pos d : Nat) (hd : 8 ≤ d) :
    ((globGet lb pos d).2.glob.getD pos 0).testBit d = (lb.glob.getD pos 0).testBit d ∧
    (globGet (globGet lb pos d).2 pos d).1 = (globGet lb pos d).1 := Lemmas.C15b.globGet_beyond lb pos d hd

/-- **beyond_depth_7_hangs**: the loop of `:g` (`ecGlob.scan`), *were it started* at a depth `≥ 8` on a line that carries
    its mark and is not selected by its pattern, would never end — whatever the step budget `g`.  This is how a
    missing guard shows in the model (run at depth 8 the loop gives `none`, while the program ends after the first
    line).  `ec_glob` does not start the loop at such a depth: `marks_depth_le_7`. -/
theorem beyond_depth_7_hangs (f : Nat) (neg : Bool) (body : Bytes) (re : RStr) (dep : Nat) (hdep : 8 ≤ dep)
    (i : Int) (hi : 0 ≤ i) (ln : Bytes) (res : Int) (x : List Int × Nat)
    (hfind : rstrFind re ln 16 0 ND NG = some (res, x)) (hsel : ((res < 0) == neg) = false)
    (g : Nat) (ed : Ed) (lb : Lb) (hl : ed.lb = some lb) (hln : lb.lines[i.toNat]? = some ln)
    (hbit : (lb.glob.getD i.toNat 0).testBit dep = true) : ecGlob.scan f neg body re dep g ed i = none := by
  induction g generalizing ed lb with
  | zero => rw [ecGlob.scan]
  | succ g ih =>
    have hlt : i.toNat < lb.lines.length := by
      apply Classical.byContradiction
      intro hge
      rw [List.getElem?_eq_none (by omega)] at hln
      cases hln
    have hlen : ed.len = lb.lines.length := len_of_lb hl
    have hline : ed.line i = some ln := by
      unfold Ed.line
      rw [if_neg (by omega), hl]
      exact hln
    have hstep : globStep f neg body re ed i = some (false, ed, i) := by
      unfold globStep
      rw [hline]
      simp only []
      rw [hfind]
      simp only []
      rw [if_neg (by rw [hsel]; decide)]
    -- `lbuf_globget` reports the mark without clearing it: the search returns the same line
    have hadv : ecGlob.scan.adv dep (ed.len.toNat + 1) ed i = (ed.setLb (globGet lb i.toNat dep).2, i) := by
      rw [ecGlob.scan.adv, if_neg (by omega)]
      simp only [hl]
      rw [if_pos (by rw [globGet_fst]; exact hbit)]
    rw [scan_succ, if_neg (by omega), hstep]
    simp only []
    rw [if_neg (by omega), hadv]
    apply ih _ (globGet lb i.toNat dep).2
    · rw [Lemmas.ExFrame.setLb_lb, hl]; rfl
    · exact hln
    · rw [(globGet_beyond lb i.toNat dep hdep).1]; exact hbit

/-- the hypotheses are met: the pattern `q` does not select the line `a1`, which carries bit 8 -/
example : ∃ (re : RStr) (res : Int) (x : List Int × Nat) (ed : Ed) (lb : Lb),
    rstrFind re [97, 49, 10] 16 0 ND NG = some (res, x) ∧ ((res < 0) == false) = false ∧
    ed.lb = some lb ∧ lb.lines[(0 : Int).toNat]? = some [97, 49, 10] ∧ (lb.glob.getD (0 : Int).toNat 0).testBit 8 = true :=
  sat_hangs

/-- marks `[2, 6, 0]`: line 0 marked for depth 1, line 1 for depths 1 and 2; asking for depth 2 on line 1 leaves depth 1 -/
example : (globGet { lines := [[10], [10], [10]], glob := [2, 6, 0] } 1 2).1 = true ∧
    (globGet { lines := [[10], [10], [10]], glob := [2, 6, 0] } 1 2).2.glob = [2, 2, 0] := by decide

/-! ## 2. an inner `:g` leaves the marks of the outer depths on their lines -/

/-- **inner_global_keeps_outer_marks**.  `ec_glob` called at depth `xgdep` (inside the command list of a `:g` of that
    depth, or at depth 0) with any range `loc`, any pattern and a quiet command list, on a buffer `lb` whose table of
    marks is as long as its table of lines: if it returns, the buffer `lb'` afterwards comes with a slot map `sm` such that
    * `sm j = none` beyond the last line; a slot with `sm j = none` holds an inserted line;
    * `sm j = some (i, _)`: slot `j` is old slot `i` (`i` a line of `lb`), and `sm` is strictly increasing: the surviving
      lines keep their order; old slots that are not hit are the deleted lines;
    * for every depth `k ≤ xgdep` (the outer `:g`s; no bound on `k` is needed: an inner `:g` works at a depth `≤ 7` or
      not at all, `marks_depth_le_7`): bit `k` of `ln_glob[j]` afterwards is bit `k` of `ln_glob[i]` before — and clear
      on inserted lines;
    * `sm j = some (i, true)`: the text of the line is unchanged (`false`: rewritten in place, as `:s` does). -/
theorem inner_global_keeps_outer_marks (f d : Nat) (loc cmd arg : Bytes) (hq : quietLine d (reRead arg).2 = true)
    (ed ed' : Ed) (r : Int) (lb : Lb) (hl : ed.lb = some lb) (hg : GlobLen lb)
    (h : ecGlob f ed loc cmd arg = some (r, ed')) :
    ∃ (lb' : Lb) (sm : Nat → Option (Nat × Bool)), ed'.lb = some lb' ∧ GlobLen lb' ∧
      (∀ j, lb'.lines.length ≤ j → sm j = none) ∧
      (∀ j p, sm j = some p → p.1 < lb.lines.length) ∧
      (∀ j j' p p', j < j' → sm j = some p → sm j' = some p' → p.1 < p'.1) ∧
      (∀ j k, k ≤ ed.xgdep → (lb'.glob.getD j 0).testBit k =
        match sm j with | some p => (lb.glob.getD p.1 0).testBit k | none => false) ∧
      (∀ j i, sm j = some (i, true) → lb'.lines[j]? = lb.lines[i]?) :=
  let ⟨lb', hl', sm, w⟩ := ecGlob_carry f d loc cmd arg hq ed ed' r lb hl hg h
  ⟨lb', sm, hl', w.len', w.dom, w.rng, w.mono, fun j k hk => w.bits j k hk, w.text⟩

/-- the same for any quiet command list (the body of the outer `:g` need not be a single `:g`) -/
theorem body_keeps_outer_marks (f d : Nat) (ln : Bytes) (hq : quietLine d ln = true) (ed ed' : Ed) (r : Int) (lb : Lb)
    (hl : ed.lb = some lb) (hg : GlobLen lb) (h : exExec f ed ln = some (r, ed')) :
    ∃ lb', ed'.lb = some lb' ∧ Carry (upTo ed.xgdep) lb lb' := exExec_carry f d ln hq ed ed' r lb hl hg h

/-- **inner_global_sweeps_own_marks**: a complete `:g` (return value 0: also after a `break`; its depth is then `≤ 7`)
    leaves no mark of its own depth on any line — the next inner `:g` of the outer loop starts from a clean bit -/
theorem inner_global_sweeps_own_marks (f d : Nat) (loc cmd arg : Bytes) (hq : quietLine d (reRead arg).2 = true)
    (ed ed' : Ed) (lb : Lb) (hl : ed.lb = some lb) (hg : GlobLen lb)
    (h : ecGlob (f + 1) ed loc cmd arg = some (0, ed')) :
    ∃ lb', ed'.lb = some lb' ∧ ∀ k, (lb'.glob.getD k 0).testBit (ed.xgdep + 1) = false := by
  obtain ⟨_, hr | ⟨_, hlt, rc, b, e, ed1, re, ed2, hreg, hscan, hd2, rfl⟩⟩ := ecGlob_outcomes_all f ed ed' loc cmd arg 0 h
  · cases hr
  · have S := carry_stable ed.xgdep lb
    have hk : ed.xgdep < ed.xgdep + 1 ∧ ed.xgdep + 1 ≤ 7 := ⟨Nat.lt_succ_self _, by omega⟩
    have p0 : OnLb (Carry (upTo ed.xgdep) lb) ed := ⟨lb, hl, Carry.refl hg⟩
    have p1 : OnLb (Carry (upTo ed.xgdep) lb) (globPrep ed1 arg) := S.to (S.to p0 (Lemmas.ExFrame.exRegion_bufs hreg)) (globPrep_bufs ed1 arg)
    have p2 := S.ofStep (Lemmas.ExStep.globMark_step hk (globPrep ed1 arg) b e) (S.to p1 (by rfl))
    have p3 : OnLb (Carry (upTo ed.xgdep) lb) ed2 :=
      S.ofGStep (Lemmas.ExStep.GStepAt.scan (depthGuard ed.xgdep) f _ _ _ _ hk
        (Lemmas.ExStep.GStepAt.exExec (depthGuard ed.xgdep) f d _ hq) _ _ _ _
        (by show ed.xgdep ≤ _; rw [Lemmas.C05g.globMark_gdep]; omega) hscan) p2
    obtain ⟨lb2, hl2, c2⟩ := p3
    refine ⟨(List.range lb2.lines.length).foldl (fun lb k => (globGet lb k (ed.xgdep + 1)).2) lb2, ?_, ?_⟩
    · show (globSweep ed2 (ed.xgdep + 1)).lb = _
      unfold globSweep
      rw [hl2]
      simp only []
      rw [Lemmas.ExFrame.setLb_lb, hl2]; rfl
    · exact sweep_clears _ (by omega) lb2 c2.globLen

/-- the command lists in question are quiet: `d`, `s/x/y/`, `a`, `i`, `c`, `pu`, `y`, `k a`, and an inner `:g` with such
    a list (one level deeper) -/
example : quietLine 0 [100] = true ∧ quietLine 0 [115, 47, 120, 47, 121, 47] = true ∧ quietLine 0 [97] = true ∧
    quietLine 0 [105] = true ∧ quietLine 0 [99] = true ∧ quietLine 0 [112, 117] = true ∧ quietLine 0 [121] = true ∧
    quietLine 0 [107, 32, 97] = true ∧ quietLine 1 lineInner = true ∧ quietLine 1 lineDel = true := by decide +kernel

/-- the hypotheses are met: `%g/b/d` at depth 1 on `b b c m b` (marks `0 0 0 2 0`) returns, with `c m` and marks `0 2` -/
example : ∃ ed' lb', wEd.lb = some { lines := [[98, 10], [98, 10], [99, 10], [109, 10], [98, 10]], glob := [0, 0, 0, 2, 0] } ∧
    GlobLen { lines := [[98, 10], [98, 10], [99, 10], [109, 10], [98, 10]], glob := [0, 0, 0, 2, 0] } ∧
    quietLine 0 (reRead [47, 98, 47, 100]).2 = true ∧
    ecGlob 3 wEd [37] [103] [47, 98, 47, 100] = some (0, ed') ∧ ed'.lb = some lb' ∧ lb'.glob = [0, 2] :=
  let ⟨ed', lb', h1, h2, _, _, _, h6⟩ := wEd_ecGlob 0
  ⟨ed', lb', rfl, rfl, by decide +kernel, h1, h2, h6⟩

/-- … and `inner_global_sweeps_own_marks` applies to the same run (depth 1, own depth 2, return value 0) -/
example : ∃ ed', ecGlob (2 + 1) wEd [37] [103] [47, 98, 47, 100] = some (0, ed') :=
  let ⟨ed', _, h1, _⟩ := wEd_ecGlob 0; ⟨ed', h1⟩

/-! ## 3. the outer `:g` after the inner one -/

/-- **nested_visit_once**.  One round of the loop of the outer `:g` (its depth `dep`) on line `i`, the command list
    `body` quiet — an inner `:g` over any range in particular — and not failing (`stop = false`); the loop is to restart at
    `i2 = MAX(0, MIN(i, xrow))`.  Then with the slot map `sm` of the command list (`CarryW`: section 2) the search
    `while (i < lbuf_len(xb) && !lbuf_globget(xb, i, xgdep)) i++` started at `i2` ends at `j` where
    * every slot passed over (`i2 ≤ k < j`) holds an inserted line or a line the outer `:g` had not marked (or no
      longer: its mark was consumed when it was worked on);
    * if `j` is a line, it is a surviving line that carried the mark of the outer `:g` before the command list ran — the
      next line the outer `:g` works on;
    * the search consumed the marks of depth `dep` in `[i2, j]` and changed nothing else; the depth is still `dep`. -/
theorem nested_visit_once (f d : Nat) (neg : Bool) (body : Bytes) (re : RStr) (dep : Nat) (ed ed2 : Ed) (i i2 : Int) (lb : Lb)
    (hq : quietLine d body = true) (hx : ed.xgdep = dep) (hl : ed.lb = some lb) (hg : GlobLen lb)
    (hstep : globStep f neg body re ed i = some (false, ed2, i2)) (hi2 : 0 ≤ i2) :
    ∃ (lb2 : Lb) (sm : Slots) (j : Int) (lb3 : Lb),
      ed2.lb = some lb2 ∧ ed2.xgdep = dep ∧ CarryW (upTo dep) lb lb2 sm ∧ i2 ≤ i ∧
      (ecGlob.scan.adv dep (ed2.len.toNat + 1) ed2 i2).2 = j ∧
      (ecGlob.scan.adv dep (ed2.len.toNat + 1) ed2 i2).1.lb = some lb3 ∧
      (ecGlob.scan.adv dep (ed2.len.toNat + 1) ed2 i2).1.xgdep = dep ∧
      i2 ≤ j ∧ (i2 < lb2.lines.length → j ≤ lb2.lines.length) ∧ ((lb2.lines.length : Int) ≤ i2 → j = i2) ∧
      (∀ k, i2.toNat ≤ k → k < j.toNat → ∀ p, sm k = some p → (lb.glob.getD p.1 0).testBit dep = false) ∧
      (j < lb2.lines.length → ∃ p, sm j.toNat = some p ∧ (lb.glob.getD p.1 0).testBit dep = true) ∧
      lb3.lines = lb2.lines ∧ GlobLen lb3 ∧
      (∀ k, lb3.glob.getD k 0 =
        if i2.toNat ≤ k ∧ k ≤ j.toNat ∧ k < lb2.lines.length then clr (lb2.glob.getD k 0) dep else lb2.glob.getD k 0) := by
  obtain ⟨hd2, hle, lb2, hl2, sm, w⟩ := globStep_carry f d neg body re ed ed2 i i2 lb hq hl hg false hstep
  rw [hx] at hd2 w
  have hlen : ed2.len.toNat + 1 = lb2.lines.length + 1 := by rw [len_of_lb hl2]; rfl
  obtain ⟨j, lb3, h1, h2, h3, h4, h5, h6, h7, h8, _, h10⟩ :=
    visit_once dep (ed2.len.toNat + 1) ed2 i2 lb2 hl2 hi2 (by rw [hlen]; omega)
  have hS : upTo dep dep := Nat.le_refl _
  refine ⟨lb2, sm, j, lb3, hl2, hd2, w, hle rfl, h1, h2, ?_, h3, h4, h5, ?_, ?_, h8, ?_, h10⟩
  · rw [adv_dep]; exact hd2
  · intro k hk1 hk2 p hp
    have := h6 k hk1 hk2
    rw [w.bits k dep hS, hp] at this
    exact this
  · intro hj
    exact (carry_bit w hS _).1 (h7 hj)
  · have hn : lb3.glob.length = lb2.glob.length :=
      Lemmas.ExStep.adv_lb (Q := fun l => l.glob.length = lb2.glob.length)
        (fun l p hq => ((globGet_rest l p dep).2.2.2.2).trans hq) _ _ _ _ _ hl2 h2 rfl
    unfold GlobLen
    rw [hn, h8]
    exact w.len'

/-- the hypotheses are met: the round of an outer `:g/c/` (depth 1) on line 2 of `b b c m b` with the inner `%g/b/d` -/
example : ∃ re ed2, wEd.mkRe [99] = some (some re) ∧ quietLine 1 lineDel = true ∧ wEd.xgdep = 1 ∧
    globStep 5 false lineDel re wEd 2 = some (false, ed2, 2) :=
  let ⟨re, ed2, _, h1, h2, _, _⟩ := wEd_globStep
  ⟨re, ed2, h1, by decide +kernel, rfl, h2⟩

/-- **nested_visits_in_order** (for the depths a loop runs at, `dep ≤ 7`: `marks_depth_le_7`).  If moreover nothing marked sits at or before the line `i` just worked on (the loop
    invariant) and the command list left nothing marked behind the restart index, then: every surviving marked line
    sits at or after the slot `j` found; the old slot of the line found lies after `i` and before the old slots of all
    other surviving marked lines (it is the *first* surviving marked line, in the order of the buffer before the inner
    `:g`); nothing marked sits at or before `j` afterwards; the marks after `j` are the ones that travelled there. -/
theorem nested_visits_in_order {dep : Nat} {lb lb2 lb3 : Lb} {sm : Slots} {i i2 j : Int} (hdep : dep < 8)
    (w : CarryW (upTo dep) lb lb2 sm)
    (hclean : CleanBelow lb dep (i.toNat + 1)) (hns : CleanBelow lb2 dep i2.toNat)
    (hpass : ∀ k, i2.toNat ≤ k → k < j.toNat → ∀ p, sm k = some p → (lb.glob.getD p.1 0).testBit dep = false)
    (h3 : ∀ k, lb3.glob.getD k 0 =
        if i2.toNat ≤ k ∧ k ≤ j.toNat ∧ k < lb2.lines.length then clr (lb2.glob.getD k 0) dep else lb2.glob.getD k 0) :
    (∀ k p, sm k = some p → (lb.glob.getD p.1 0).testBit dep = true → j.toNat ≤ k) ∧
    (∀ p, sm j.toNat = some p → (lb.glob.getD p.1 0).testBit dep = true →
      i.toNat < p.1 ∧ ∀ k p', sm k = some p' → (lb.glob.getD p'.1 0).testBit dep = true → p.1 ≤ p'.1) ∧
    CleanBelow lb3 dep (j.toNat + 1) ∧
    (∀ k, j.toNat < k → (lb3.glob.getD k 0).testBit dep = (lb2.glob.getD k 0).testBit dep) := by
  have hS : upTo dep dep := Nat.le_refl _
  have hfirst : ∀ k p, sm k = some p → (lb.glob.getD p.1 0).testBit dep = true → j.toNat ≤ k := by
    intro k p hp hb
    apply Classical.byContradiction
    intro hlt
    by_cases hk : k < i2.toNat
    · have := hns k hk
      rw [w.bits k dep hS, hp] at this
      simp only [] at this
      rw [hb] at this
      cases this
    · have := hpass k (by omega) (by omega) p hp
      rw [hb] at this; cases this
  refine ⟨hfirst, ?_, ?_, ?_⟩
  · intro p hp hb
    constructor
    · apply Classical.byContradiction
      intro hle
      have := hclean p.1 (by omega)
      rw [hb] at this; cases this
    · intro k p' hp' hb'
      have hk := hfirst k p' hp' hb'
      by_cases he : k = j.toNat
      · subst he; rw [hp] at hp'; cases hp'; exact Nat.le_refl _
      · exact Nat.le_of_lt (w.mono _ _ _ _ (by omega) hp hp')
  · intro k hk
    rw [h3 k]
    by_cases hin : i2.toNat ≤ k ∧ k ≤ j.toNat ∧ k < lb2.lines.length
    · rw [if_pos hin, clr_testBit_low _ _ _ hdep]
      simp
    · rw [if_neg hin]
      by_cases hk2 : k < i2.toNat
      · exact hns k hk2
      · have : lb2.glob.length ≤ k := by
          have := w.len'; unfold GlobLen at this; omega
        rw [getD_of_le this]; simp
  · intro k hk
    rw [h3 k, if_neg (by omega)]

/-- the hypotheses are met: marks `0 2 2`, the loop on line 0, nothing edited, the search ends on line 1 -/
example : ∃ (lb lb3 : Lb) (sm : Slots), CarryW (upTo 1) lb lb sm ∧ CleanBelow lb 1 ((0 : Int).toNat + 1) ∧
    CleanBelow lb 1 (0 : Int).toNat ∧
    (∀ k, (0 : Int).toNat ≤ k → k < (1 : Int).toNat → ∀ p, sm k = some p → (lb.glob.getD p.1 0).testBit 1 = false) ∧
    (∀ k, lb3.glob.getD k 0 =
      if (0 : Int).toNat ≤ k ∧ k ≤ (1 : Int).toNat ∧ k < lb.lines.length then clr (lb.glob.getD k 0) 1 else lb.glob.getD k 0) :=
  sat_in_order

/-- a sufficient condition for "nothing marked is left behind the restart index `n ≤ i`": no line from after the
    current line `i` has been moved in front of `n` (the command list does not delete lines before the current one,
    say: an inner `:g` over `.,+n` whose command works on the current line) -/
theorem nothing_left_behind {dep : Nat} {lb lb2 : Lb} {sm : Slots} {i : Int} {n : Nat}
    (w : CarryW (upTo dep) lb lb2 sm) (hclean : CleanBelow lb dep (i.toNat + 1))
    (hsrc : ∀ k p, k < n → sm k = some p → p.1 ≤ i.toNat) : CleanBelow lb2 dep n := by
  intro k hk
  rw [w.bits k dep (Nat.le_refl _)]
  cases hp : sm k with
  | none => rfl
  | some p => exact hclean p.1 (by have := hsrc k p hk hp; omega)

/-- **the loop starts with the invariant**: when no line carries a mark of depth `dep` (`inner_global_sweeps_own_marks`),
    `ec_glob` marks exactly the lines `beg+1 … end-1`, leaves the other depths alone, and starts on `beg` -/
theorem nested_loop_starts (ed : Ed) (b e : Int) (dep : Nat) (lb : Lb) (hl : ed.lb = some lb) (hg : GlobLen lb) (hb : 0 ≤ b)
    (hclean : ∀ k, (lb.glob.getD k 0).testBit dep = false) :
    LoopInv dep (globMark ed b e dep) b ∧
    ∃ lb1, (globMark ed b e dep).lb = some lb1 ∧ lb1.lines = lb.lines ∧
      (∀ j, (lb1.glob.getD j 0).testBit dep = decide (b.toNat + 1 ≤ j ∧ (j : Int) < e ∧ j < lb.lines.length)) ∧
      (∀ j k, k ≠ dep → (lb1.glob.getD j 0).testBit k = (lb.glob.getD j 0).testBit k) := by
  have hlb1 : (globMark ed b e dep).lb =
      some ((List.range (e - (b + 1)).toNat).foldl (fun lb x => globSet lb (b.toNat + 1 + x) dep) lb) := by
    unfold globMark
    exact foldl_setLb_lb (fun lb x => globSet lb (b.toNat + 1 + x) dep) _ _ lb
      (by rw [← hl]; exact Lemmas.ExFrame.lb_of_bufs rfl)
  have hbits := foldl_globSet_bits b.toNat dep (List.range (e - (b + 1)).toNat) lb
  have hdepbit : ∀ j, (((List.range (e - (b + 1)).toNat).foldl (fun lb x => globSet lb (b.toNat + 1 + x) dep) lb).glob.getD j 0).testBit dep
      = decide (b.toNat + 1 ≤ j ∧ (j : Int) < e ∧ j < lb.lines.length) := by
    intro j
    rw [(hbits j dep).1, hclean j]
    unfold GlobLen at hg
    simp only [Bool.false_or, beq_self_eq_true, Bool.true_and]
    by_cases hc : b.toNat + 1 ≤ j ∧ (j : Int) < e ∧ j < lb.lines.length
    · rw [decide_eq_true hc]
      simp only [Bool.and_eq_true, decide_eq_true_eq, List.any_eq_true, List.mem_range, beq_iff_eq]
      exact ⟨by omega, j - (b.toNat + 1), by omega, by omega⟩
    · rw [decide_eq_false hc]
      simp only [Bool.and_eq_false_iff, decide_eq_false_iff_not, List.any_eq_false, List.mem_range, beq_iff_eq]
      by_cases hj : j < lb.glob.length
      · right
        intro x hx hxe
        apply hc
        omega
      · left; exact hj
  refine ⟨⟨Lemmas.C05g.globMark_gdep _ _ _ _, _, hlb1, ?_, ?_⟩, _, hlb1, (hbits 0 0).2.1, hdepbit, ?_⟩
  · unfold GlobLen
    rw [(hbits 0 0).2.1, (hbits 0 0).2.2]; exact hg
  · intro k hk
    rw [hdepbit k]
    simp only [decide_eq_false_iff_not]
    omega
  · intro j k hk
    rw [(hbits j k).1]
    have : (k == dep) = false := by simpa using hk
    simp [this]

/-- **a round keeps the invariant** when the command list leaves nothing marked behind the restart index -/
theorem loop_inv_step (f d : Nat) (neg : Bool) (body : Bytes) (re : RStr) (dep : Nat) (ed ed2 : Ed) (i i2 : Int)
    (hq : quietLine d body = true) (hdep : dep < 8) (hinv : LoopInv dep ed i)
    (hstep : globStep f neg body re ed i = some (false, ed2, i2)) (hi2 : 0 ≤ i2)
    (hns : ∀ lb2, ed2.lb = some lb2 → CleanBelow lb2 dep i2.toNat) :
    LoopInv dep (ecGlob.scan.adv dep (ed2.len.toNat + 1) ed2 i2).1 (ecGlob.scan.adv dep (ed2.len.toNat + 1) ed2 i2).2 := by
  obtain ⟨hx, lb, hl, hg, hclean⟩ := hinv
  obtain ⟨lb2, sm, j, lb3, hl2, _, w, _, hj, hl3, hd3, _, _, _, hpass, _, _, hg3, h3⟩ :=
    nested_visit_once f d neg body re dep ed ed2 i i2 lb hq hx hl hg hstep hi2
  obtain ⟨_, _, hc3, _⟩ := nested_visits_in_order hdep w hclean (hns lb2 hl2) hpass h3
  rw [hj]
  exact ⟨hd3, lb3, hl3, hg3, hc3⟩

/-- **nested_loop_invariant**: in every round of the loop of a `:g` (depth `dep < 8`, quiet command list) whose command
    list never leaves a marked line behind the restart index, the loop stands on a line with nothing marked at or
    before it: each marked surviving line is worked on at most once, in the order of the lines -/
theorem nested_loop_invariant (f d : Nat) (neg : Bool) (body : Bytes) (re : RStr) (dep : Nat)
    (hq : quietLine d body = true) (hdep : dep < 8)
    (hns : ∀ ed i ed2 i2, LoopInv dep ed i → globStep f neg body re ed i = some (false, ed2, i2) →
      ∀ lb2, ed2.lb = some lb2 → CleanBelow lb2 dep i2.toNat)
    {ed s : Ed} {i j : Int} (hr : RoundStart f neg body re dep ed i s j) (hinv : LoopInv dep ed i) : LoopInv dep s j := by
  induction hr with
  | here => exact hinv
  | next _ hstep hneg _ ih =>
    exact ih (loop_inv_step f d neg body re dep _ _ _ _ hq hdep hinv hstep (by omega) (hns _ _ _ _ hinv hstep))

/-- the hypotheses are met: the empty command list is quiet and leaves nothing behind (for a run of a real nest that
    keeps the invariant see `nested_example`) -/
example (f dep : Nat) (neg : Bool) (re : RStr) : quietLine 0 [] = true ∧
    ∀ ed i ed2 i2, LoopInv dep ed i → globStep (f + 1) neg [] re ed i = some (false, ed2, i2) →
      ∀ lb2, ed2.lb = some lb2 → CleanBelow lb2 dep i2.toNat := sat_loop_invariant f dep neg re

/-- the hypotheses of `nested_loop_starts` are met by the buffer of the example: no marks at all -/
example : exEd5.lb = some { lines := [[97, 49, 10], [97, 50, 10], [97, 51, 10], [97, 52, 10], [122, 10]], glob := [0, 0, 0, 0, 0] } ∧
    GlobLen { lines := [[97, 49, 10], [97, 50, 10], [97, 51, 10], [97, 52, 10], [122, 10]], glob := [0, 0, 0, 0, 0] } ∧
    ∀ k, (([0, 0, 0, 0, 0] : List Nat).getD k 0).testBit 1 = false :=
  ⟨rfl, rfl, fun k => by
    match k with
    | 0 | 1 | 2 | 3 | 4 => decide
    | k + 5 => simp⟩

/-- the conjecture that an inner `:g` over any range never leaves a line the outer `:g` has marked behind the index
    the outer loop restarts from — which is what "the outer `:g` still visits each of its marked, surviving lines"
    needs for *any* range -/
def nested_visit_once_any_range_full : Prop := inner_global_leaves_nothing_behind_full

/-- **nested_visit_once_any_range_is_false**: `%g/b/d` run by an outer `:g` (depth 1) that stands on line 2 (`c`) of
    `b b c m b` and still has its mark on `m`: the inner `:g` deletes two lines before and one line after, ends with
    `c m`, the mark in slot 1, the current row on 2 — the outer loop restarts at `MIN(2, 2) = 2`, behind the marked line -/
theorem nested_visit_once_any_range_is_false : ¬ nested_visit_once_any_range_full := by
  intro hall
  obtain ⟨ed', lb', hrun, hl', hrow, _, _, hglob⟩ := wEd_ecGlob 0
  have := hall 3 0 [37] [103] [47, 98, 47, 100] wEd ed' 0
    { lines := [[98, 10], [98, 10], [99, 10], [109, 10], [98, 10]], glob := [0, 0, 0, 2, 0] } lb' 1
    (by decide +kernel) (by decide) rfl rfl rfl (by decide)
    (by intro k hk
        have : k = 0 ∨ k = 1 ∨ k = 2 := by
          have : k < 3 := hk
          omega
        rcases this with rfl | rfl | rfl <;> decide)
    hrun hl' 1 (by rw [hrow]; decide)
  rw [hglob] at this
  exact absurd this (by decide)

/-- **left_behind_is_lost**: a marked line in a slot before the restart index is not the line the search finds, and
    keeps its mark (until the final sweep, or until a later round restarts before it): the outer `:g` does not work on it -/
theorem left_behind_is_lost (dep h : Nat) (ed : Ed) (i : Int) (lb : Lb) (hlb : ed.lb = some lb) (hi : 0 ≤ i)
    (hf : lb.lines.length - i.toNat < h) (k : Nat) (hk : k < i.toNat) (hm : (lb.glob.getD k 0).testBit dep = true) :
    (ecGlob.scan.adv dep h ed i).2.toNat ≠ k ∧
    ∃ lb', (ecGlob.scan.adv dep h ed i).1.lb = some lb' ∧ (lb'.glob.getD k 0).testBit dep = true := by
  obtain ⟨j, lb', h1, h2, h3, _, _, _, _, _, _, h10⟩ := visit_once dep h ed i lb hlb hi hf
  refine ⟨by rw [h1]; omega, lb', h2, ?_⟩
  rw [h10 k, if_neg (by omega)]
  exact hm

/-- the hypotheses are met by the state the witness ends in: `c m`, marks `0 2`, restart index 2 -/
example : ∃ (ed : Ed) (lb : Lb), ed.lb = some lb ∧ (0 : Int) ≤ 2 ∧ lb.lines.length - (2 : Int).toNat < 3 ∧
    1 < (2 : Int).toNat ∧ (lb.glob.getD 1 0).testBit 1 = true := sat_left_behind

/-- **nested_skip_example** (the model run end to end; the program gives the same text): `:g/a/s/$/!/|%g/b/d` on
    `b b a a b` ends with `a!` and `a`: the second `a` line matched, was marked, survived, and was never worked on -/
theorem nested_skip_example (f : Nat) :
    ∃ ed', exExec (f + 8) exEdSkip lineSkip = some (0, ed') ∧ ed'.xgdep = 0 ∧
      ed'.lb.map (·.lines) = some [[97, 33, 10], [97, 10]] ∧ ed'.lb.map (·.glob) = some [0, 0] := by
  obtain ⟨h1, h2, h3⟩ := skipF_eval
  obtain ⟨⟨r, ed'⟩, hx, hv⟩ := Option.map_eq_some_iff.1 h1
  obtain ⟨rfl, hd⟩ := Prod.mk.inj hv
  rw [hx] at h2 h3
  exact ⟨ed', skipF_runs f exEdSkip 0 ed' hx, hd, Option.some.inj h2, Option.some.inj h3⟩

/-- **nested_example** (the model run end to end): `:g/a/.,+1g/$/s/$/x/` on `a1 a2 a3 a4 z` gives
    `a1x a2xx a3xx a4xx zx` — each line the outer `:g` marked is worked on once, while the inner `:g` marks, works on
    and sweeps the same lines; no mark of either depth is left, the depth is 0 again, the sequence counter unmoved.
    (`:g/a/.,+1g/./s/$/x/`, the form with `.`, evaluates to the same text, in the model and in the program; the kernel
    cannot unfold the matcher that `.` needs.) -/
theorem nested_example (f : Nat) :
    ∃ ed', exExec (f + 8) exEd5 lineOuter = some (0, ed') ∧ ed'.xgdep = 0 ∧
      ed'.lb.map (·.lines) =
        some [[97, 49, 120, 10], [97, 50, 120, 120, 10], [97, 51, 120, 120, 10], [97, 52, 120, 120, 10], [122, 120, 10]] ∧
      ed'.lb.map (·.glob) = some [0, 0, 0, 0, 0] ∧ ed'.lb.map (·.useq) = some 1 := by
  obtain ⟨h1, h2, h3, h4⟩ := outerF_eval
  obtain ⟨⟨r, ed'⟩, hx, hv⟩ := Option.map_eq_some_iff.1 h1
  obtain ⟨rfl, hd⟩ := Prod.mk.inj hv
  rw [hx] at h2 h3 h4
  exact ⟨ed', outerF_runs f exEd5 0 ed' hx, hd, Option.some.inj h2, Option.some.inj h3, Option.some.inj h4⟩

/-! ## 4. one undo step -/

/-- **nested_one_undo_step**: while a quiet command list runs — `:g` inside `:g` inside `:g` …, `d` levels — the
    sequence counter of the current buffer does not move, the undo records that were there are kept up to some point
    `k` (the redo branch is cut by the first edit, as always), and every record logged carries the one sequence number:
    `lbuf_undo` takes them back together (`Props/C04`: a group of equal sequence numbers is one undo step) -/
theorem nested_one_undo_step (f d : Nat) (ln : Bytes) (hq : quietLine d ln = true) (ed ed' : Ed) (r : Int) (lb : Lb)
    (hl : ed.lb = some lb) (h : exExec f ed ln = some (r, ed')) :
    ∃ lb', ed'.lb = some lb' ∧ lb'.useq = lb.useq ∧
      ∃ (k : Nat) (news : List Entry), lb'.hist = lb.hist.take k ++ news ∧ ∀ e ∈ news, e.seq = lb.useq :=
  exExec_oneSeq f d ln hq ed ed' r lb hl h

/-- the same for one call of `ec_glob` (the inner `:g` as the outer one sees it) -/
theorem nested_one_undo_step_glob (f d : Nat) (loc cmd arg : Bytes) (hq : quietLine d (reRead arg).2 = true)
    (ed ed' : Ed) (r : Int) (lb : Lb) (hl : ed.lb = some lb) (h : ecGlob f ed loc cmd arg = some (r, ed')) :
    ∃ lb', ed'.lb = some lb' ∧ lb'.useq = lb.useq ∧
      ∃ (k : Nat) (news : List Entry), lb'.hist = lb.hist.take k ++ news ∧ ∀ e ∈ news, e.seq = lb.useq :=
  ecGlob_oneSeq f d loc cmd arg hq ed ed' r lb hl h

/-- **nested_global_is_one_command**: `ex_command` on such a line: all the records it logged carry the old value of
    the counter, and the counter is bumped once, at the end -/
theorem nested_global_is_one_command (f d : Nat) (ln : Bytes) (hq : quietLine d ln = true) (ed ed' : Ed) (r : Int) (lb : Lb)
    (hl : ed.lb = some lb) (h : exCommand f ed ln = some (r, ed')) :
    ∃ lb', ed'.lb = some lb' ∧ lb'.useq = lb.useq + 1 ∧
      ∃ (k : Nat) (news : List Entry), lb'.hist = lb.hist.take k ++ news ∧ ∀ e ∈ news, e.seq = lb.useq := by
  cases f with
  | zero => rw [exCommand] at h; cases h
  | succ f =>
    rw [exCommand] at h
    split at h
    · cases h
    · rename_i r1 ed1 hx
      cases h
      obtain ⟨lb1, hl1, hu, k, news, hh, hs⟩ := exExec_oneSeq f d ln hq ed ed1 r lb hl hx
      refine ⟨(modified lb1).2, ?_, by show lb1.useq + 1 = _; rw [hu], k, news, hh, hs⟩
      rw [Lemmas.ExFrame.modifiedAt0_lb, hl1]
      rfl

/-- **nested_example_undo** (the model run end to end): `ex_command` on `:g/a/.,+1g/$/s/$/x/` logs eight undo records
    (one per substitution) and bumps the counter once; one `lbuf_undo` then returns 0 and the text is `a1 a2 a3 a4 z` again -/
theorem nested_example_undo (f : Nat) :
    ∃ ed', exCommand (f + 9) exEd5 lineOuter = some (0, ed') ∧
      ed'.lb.map (fun lb => (lb.hist.length, lb.useq)) = some (8, 2) ∧
      (ed'.lb.bind Lbuf.undo).map (fun y => (y.1, y.2.lines)) =
        some (0, [[97, 49, 10], [97, 50, 10], [97, 51, 10], [97, 52, 10], [122, 10]]) := by
  obtain ⟨⟨r, ed1⟩, hx, hv⟩ := Option.map_eq_some_iff.1 outerF_eval.1
  obtain ⟨rfl, _⟩ := Prod.mk.inj hv
  obtain ⟨h1, h2⟩ := outerF_undo_eval
  rw [hx] at h1 h2
  refine ⟨(ed1.modifiedAt 0).2, ?_, Option.some.inj h2, Option.some.inj h1⟩
  rw [exCommand, outerF_runs f exEd5 0 ed1 hx]

/-- the hypotheses are met by the nested example (`quietLine 2`: a `:g` whose list is a `:g` whose list is `:s`) -/
example : quietLine 2 lineOuter = true ∧ ∃ ed', exExec 8 exEd5 lineOuter = some (0, ed') :=
  ⟨by decide +kernel, let ⟨ed', h, _⟩ := nested_example 0; ⟨ed', h⟩⟩

/-! ## 5. the depth counter -/

/-- **ecGlob_restores_depth**: whenever `ec_glob` returns — for every fuel, state, range, pattern and command list
    (quiet or not: `:e`, `:b`, `:w`, `:q`, `:!`, `:@` included) — `xgdep` is what it was at the call -/
theorem ecGlob_restores_depth (f : Nat) (ed ed' : Ed) (loc cmd arg : Bytes) (r : Int)
    (h : ecGlob f ed loc cmd arg = some (r, ed')) : ed'.xgdep = ed.xgdep := ecGlob_restores_depth_all h

/-- **ecGlob_exit_paths**: `ec_glob` returns 1 — seven `:g` nested already (the depth guard), bad range, no pattern to use (`g//d` without a previous search),
    pattern that does not compile; all before `xgdep++` — or it returns 0: then `xgdep < 7`, its loop ran at depth `xgdep + 1`
    and — normal end or `break` after a failing command — ended at that depth, so that the `xgdep--` of the program is
    the `dep - 1` of the model; the result is the swept state at depth `xgdep` -/
theorem ecGlob_exit_paths (f : Nat) (ed ed' : Ed) (loc cmd arg : Bytes) (r : Int)
    (h : ecGlob (f + 1) ed loc cmd arg = some (r, ed')) :
    ed'.xgdep = ed.xgdep ∧
    (r = 1 ∨ (r = 0 ∧ ed.xgdep < 7 ∧ ∃ rc b e ed1 re ed2,
      exRegion ed (if loc.isEmpty && ed.xgdep == 0 then [37] else loc) = some ((rc, b, e), ed1) ∧
      ecGlob.scan f (hasBang cmd || cmd.headD 0 == 118) (reRead arg).2 re (ed.xgdep + 1)
        (globBudget (globMark (globPrep ed1 arg) b e (ed.xgdep + 1)))
        (globMark (globPrep ed1 arg) b e (ed.xgdep + 1)) b = some ed2 ∧
      ed2.xgdep = ed.xgdep + 1 ∧ ed' = { globSweep ed2 (ed.xgdep + 1) with xgdep := ed2.xgdep - 1 })) :=
  ecGlob_outcomes_all f ed ed' loc cmd arg r h

/-- **exExec_restores_depth**: every command line — any commands, any nesting — ends at the depth it started at -/
theorem exExec_restores_depth (f : Nat) (ed ed' : Ed) (ln : Bytes) (r : Int) (h : exExec f ed ln = some (r, ed')) :
    ed'.xgdep = ed.xgdep := exExec_dep h

theorem exCommand_restores_depth (f : Nat) (ed ed' : Ed) (ln : Bytes) (r : Int) (h : exCommand f ed ln = some (r, ed')) :
    ed'.xgdep = ed.xgdep := exCommand_dep h

/-- every handler of the dispatcher -/
theorem runCmd_restores_depth (f : Nat) (ed ed' : Ed) (hd : String) (loc cmd arg : Bytes) (txt : Option Bytes) (r : Int)
    (h : runCmd f ed hd loc cmd arg txt = some (r, ed')) : ed'.xgdep = ed.xgdep := runCmd_dep_all h

/-- the early exits, run on the model (`a1 a2 a3 a4 z`, depth 0): `g//d` without a previous pattern (the seeded regression
    leaves `xgdep` raised here), `9,10g/a/d` (bad range), `g/(a/d` (the pattern does not compile) each return 1 at depth 0 -/
theorem ecGlob_early_exit_examples :
    (∃ ed', ecGlob 3 exEd5 [] [103] [47, 47, 100] = some (1, ed') ∧ ed'.xgdep = 0) ∧
    (∃ ed', ecGlob 3 exEd5 [57, 44, 49, 48] [103] [47, 97, 47, 100] = some (1, ed') ∧ ed'.xgdep = 0) ∧
    (∃ ed', ecGlob 3 exEd5 [] [103] [47, 40, 97, 47, 100] = some (1, ed') ∧ ed'.xgdep = 0) :=
  ⟨exit_of_eval _ _ _ (by decide +kernel) exits_eval.1, exit_of_eval _ _ _ (by decide +kernel) exits_eval.2.1,
    exit_of_eval _ _ _ (by decide +kernel) exits_eval.2.2⟩

/-- the hypotheses are met: the inner `:g` of the witness returns at the depth it was called at -/
example : ∃ ed', ecGlob 3 wEd [37] [103] [47, 98, 47, 100] = some (0, ed') ∧ ed'.xgdep = wEd.xgdep :=
  let ⟨ed', _, h1, _, _, h4, _⟩ := wEd_ecGlob 0
  ⟨ed', h1, h4⟩

end Neatvi.Props.C15b
