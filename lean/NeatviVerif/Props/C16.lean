import NeatviVerif.Lemmas.Utf8
/-!
# C16  UTF-8 character arithmetic agrees with code points

Every theorem is about the model of `uc.c` (`Model/Uc.lean`) against the arithmetic reference
`Spec.enc` / `Spec.encStr`, for *all* code points `0 < c < 0x110000` and all strings of them.
-/
namespace Neatvi.Props.C16
open Neatvi Neatvi.Uc Neatvi.Spec

/-- `uc_len` is the length class of its first byte, for every byte. -/
theorem len_spec (b : Nat) (h : b < 256) : ucLen b = specLen b := ucLen_spec b h

private theorem mask5 (a : Nat) : a &&& 0x1f = a % 32 := Nat.and_two_pow_sub_one_eq_mod a 5
private theorem mask4 (a : Nat) : a &&& 0x0f = a % 16 := Nat.and_two_pow_sub_one_eq_mod a 4
private theorem mask3 (a : Nat) : a &&& 0x07 = a % 8 := Nat.and_two_pow_sub_one_eq_mod a 3
private theorem mask6 (a : Nat) : a &&& 0x3f = a % 64 := Nat.and_two_pow_sub_one_eq_mod a 6

private theorem or_add (n y k : Nat) (hy : y < 2 ^ k) (hn : n % 2 ^ k = 0) : n ||| y = n + y := by
  have h : n = (n / 2 ^ k) <<< k := by
    rw [Nat.shiftLeft_eq, Nat.div_mul_cancel (Nat.dvd_of_mod_eq_zero hn)]
  rw [h, ← Nat.shiftLeft_add_eq_or_of_lt hy]

private theorem or2 (a b : Nat) (hb : b < 64) : (a <<< 6) ||| b = a * 64 + b := by
  rw [Nat.shiftLeft_eq, or_add _ _ 6 (by omega) (by omega)]
private theorem or3 (a b c : Nat) (hb : b < 64) (hc : c < 64) :
    ((a <<< 12) ||| (b <<< 6)) ||| c = a * 4096 + b * 64 + c := by
  simp only [Nat.shiftLeft_eq]
  have h1 : a * 2 ^ 12 ||| b * 2 ^ 6 = a * 2 ^ 12 + b * 2 ^ 6 := or_add _ _ 12 (by omega) (by omega)
  rw [h1, or_add _ _ 6 (by omega) (by omega)]
private theorem or4 (a b c d : Nat) (hb : b < 64) (hc : c < 64) (hd : d < 64) :
    (((a <<< 18) ||| (b <<< 12)) ||| (c <<< 6)) ||| d = a * 262144 + b * 4096 + c * 64 + d := by
  simp only [Nat.shiftLeft_eq]
  have h1 : a * 2 ^ 18 ||| b * 2 ^ 12 = a * 2 ^ 18 + b * 2 ^ 12 := or_add _ _ 18 (by omega) (by omega)
  have h2 : (a * 2 ^ 18 + b * 2 ^ 12) ||| c * 2 ^ 6 = a * 2 ^ 18 + b * 2 ^ 12 + c * 2 ^ 6 :=
    or_add _ _ 12 (by omega) (by omega)
  rw [h1, h2, or_add _ _ 6 (by omega) (by omega)]

private theorem specLen1 {b : Nat} (h0 : 0 < b) (h : b < 192) : specLen b = 1 := by
  unfold specLen; rw [if_neg (by omega), if_pos h]
private theorem specLen2 {b : Nat} (h0 : 192 ≤ b) (h : b < 224) : specLen b = 2 := by
  unfold specLen; rw [if_neg (by omega), if_neg (by omega), if_pos h]
private theorem specLen3 {b : Nat} (h0 : 224 ≤ b) (h : b < 240) : specLen b = 3 := by
  unfold specLen; rw [if_neg (by omega), if_neg (by omega), if_neg (by omega), if_pos h]
private theorem specLen4 {b : Nat} (h0 : 240 ≤ b) (h : b < 248) : specLen b = 4 := by
  unfold specLen; rw [if_neg (by omega), if_neg (by omega), if_neg (by omega), if_neg (by omega), if_pos h]

/-- the length of an encoded character is what `uc_len` says about its first byte -/
theorem len_enc {c : Nat} (h : ValidCp c) : ucLen (Bytes.hd (enc c)) = (enc c).length := by
  obtain ⟨h0, h1⟩ := h
  unfold enc
  split
  · exact (ucLen_spec c (by omega)).trans (specLen1 h0 (by omega))
  split
  · exact (ucLen_spec (0xc0 + c / 64) (by omega)).trans (specLen2 (by omega) (by omega))
  split
  · exact (ucLen_spec (0xe0 + c / 4096) (by omega)).trans (specLen3 (by omega) (by omega))
  · exact (ucLen_spec (0xf0 + c / 262144) (by omega)).trans (specLen4 (by omega) (by omega))

/-! ### `uc_code` by the class of the lead byte -/

private theorem rd_cons1 (a b : Nat) (r : Bytes) : rd (a :: b :: r) 1 = some b := by
  unfold rd; rw [if_pos (by simp)]; rfl
private theorem rd_cons2 (a b c : Nat) (r : Bytes) : rd (a :: b :: c :: r) 2 = some c := by
  unfold rd; rw [if_pos (by simp)]; rfl
private theorem rd_cons3 (a b c d : Nat) (r : Bytes) : rd (a :: b :: c :: d :: r) 3 = some d := by
  unfold rd; rw [if_pos (by simp)]; rfl

theorem ucCode_1 {a : Nat} (r : Bytes) (h : a < 192) : ucCode (a :: r) = some a := by
  have e1 : (a &&& 0xc0 != 0xc0) = true := by rw [andc0n a (by omega)]; exact decide_eq_true h
  unfold ucCode
  simp only []
  rw [Bytes.hd_cons, if_pos e1]

theorem ucCode_2 {a b : Nat} (r : Bytes) (h0 : 192 ≤ a) (h : a < 224) :
    ucCode (a :: b :: r) = some (a % 32 * 64 + b % 64) := by
  have e1 : ¬ (a &&& 0xc0 != 0xc0) = true := by rw [andc0n a (by omega)]; simp; omega
  have e2 : (a &&& 0x20 == 0) = true := by rw [and20 a (by omega)]; simp; omega
  unfold ucCode
  simp only []
  rw [Bytes.hd_cons, if_neg e1, if_pos e2, rd_cons1]
  simp only [Option.bind_eq_bind, Option.bind_some, mask5, mask6]
  rw [or2 _ _ (by omega)]

/-- a zero byte inside the character would be the terminator: `uc_code` then returns the lead byte -/
theorem ucCode_3 {a b c : Nat} (r : Bytes) (h0 : 224 ≤ a) (h : a < 240) (hb : b ≠ 0) :
    ucCode (a :: b :: c :: r) = some (a % 16 * 4096 + b % 64 * 64 + c % 64) := by
  have e1 : ¬ (a &&& 0xc0 != 0xc0) = true := by rw [andc0n a (by omega)]; simp; omega
  have e2 : ¬ (a &&& 0x20 == 0) = true := by rw [and20 a (by omega)]; simp; omega
  have e3 : (a &&& 0x10 == 0) = true := by rw [and10 a (by omega)]; simp; omega
  unfold ucCode
  simp only []
  rw [Bytes.hd_cons, if_neg e1, if_neg e2, if_pos e3, rd_cons1, rd_cons2]
  simp only [mask4, mask6]
  rw [if_neg (by simpa using hb), or3 _ _ _ (by omega) (by omega)]

theorem ucCode_4 {a b c d : Nat} (r : Bytes) (h0 : 240 ≤ a) (h : a < 248) (hb : b ≠ 0) (hc : c ≠ 0) :
    ucCode (a :: b :: c :: d :: r) = some (a % 8 * 262144 + b % 64 * 4096 + c % 64 * 64 + d % 64) := by
  have e1 : ¬ (a &&& 0xc0 != 0xc0) = true := by rw [andc0n a (by omega)]; simp; omega
  have e2 : ¬ (a &&& 0x20 == 0) = true := by rw [and20 a (by omega)]; simp; omega
  have e3 : ¬ (a &&& 0x10 == 0) = true := by rw [and10 a (by omega)]; simp; omega
  have e4 : (a &&& 0x08 == 0) = true := by rw [and08 a (by omega)]; simp; omega
  unfold ucCode
  simp only []
  rw [Bytes.hd_cons, if_neg e1, if_neg e2, if_neg e3, if_pos e4, rd_cons1, rd_cons2, rd_cons3]
  simp only [mask3, mask6]
  rw [if_neg (by simp [hb, hc]), or4 _ _ _ _ (by omega) (by omega) (by omega)]

private theorem cont_mod (x : Nat) : (128 + x % 64) % 64 = x % 64 := by omega
private theorem enc3_val (c : Nat) : c / 4096 * 4096 + c / 64 % 64 * 64 + c % 64 = c := by omega
private theorem enc4_val (c : Nat) : c / 262144 * 262144 + c / 4096 % 64 * 4096 + c / 64 % 64 * 64 + c % 64 = c := by
  omega

/-- decoding an encoded character (followed by anything) gives the code point back -/
theorem code_enc {c : Nat} (h : ValidCp c) (r : Bytes) : ucCode (enc c ++ r) = some c := by
  obtain ⟨h0, h1⟩ := h
  unfold enc
  split
  · exact ucCode_1 r (by omega)
  split
  · rw [List.cons_append, List.cons_append, ucCode_2 _ (by omega) (by omega), cont_mod,
      show (192 + c / 64) % 32 = c / 64 by omega, Nat.div_add_mod']
  split
  · rw [List.cons_append, List.cons_append, List.cons_append, ucCode_3 _ (by omega) (by omega) (by omega),
      cont_mod, cont_mod, show (224 + c / 4096) % 16 = c / 4096 by omega, enc3_val]
  · rw [List.cons_append, List.cons_append, List.cons_append, List.cons_append,
      ucCode_4 _ (by omega) (by omega) (by omega) (by omega), cont_mod, cont_mod, cont_mod,
      show (240 + c / 262144) % 8 = c / 262144 by omega, enc4_val]

/-- on an encoded string, `uc_next` steps over exactly the first encoded character -/
theorem next_spec {c : Nat} {cs : List Nat} (hc : ValidCp c) (hcs : ∀ d ∈ cs, ValidCp d) :
    ucNext (encStr (c :: cs)) = (enc c).length := by
  rw [encStr_cons]; exact ucNext_enc hc hcs

/-- `uc_end` points at the last byte of the first character -/
theorem end_spec {c : Nat} {cs : List Nat} (hc : ValidCp c) (hcs : ∀ d ∈ cs, ValidCp d) :
    ucEnd (encStr (c :: cs)) + 1 = (enc c).length := by
  rw [encStr_cons]; exact ucEnd_enc hc hcs

theorem next_nil : ucNext [] = 0 := rfl

/-- `uc_slen` counts code points -/
theorem slen_spec {cs : List Nat} (h : ∀ c ∈ cs, ValidCp c) : ucSlen (encStr cs) = cs.length := by
  induction cs with
  | nil => exact Lemmas.C08.slen_nul [] rfl
  | cons c r ih =>
    have hc := h c (by simp)
    have hr : ∀ d ∈ r, ValidCp d := fun d hd => h d (by simp [hd])
    rw [encStr_cons, Lemmas.C08.slen_chr _ (hd_enc_ne_zero hc _), ucNext_enc hc hr, List.drop_left, ih hr, List.length_cons]

private theorem byteOff_succ (c : Nat) (r : List Nat) (k : Nat) :
    byteOff (c :: r) (k + 1) = (enc c).length + byteOff r k := by
  simp [byteOff]

/-- `uc_chr(s, k)` is the byte offset of character `k` (the terminator for `k = n`),
    and the `""` result beyond -/
theorem chr_spec {cs : List Nat} (h : ∀ c ∈ cs, ValidCp c) (k : Nat) :
    ucChr (encStr cs) k = if k ≤ cs.length then some (byteOff cs k) else none := by
  induction cs generalizing k with
  | nil =>
    cases k with
    | zero => exact Lemmas.C08.chr_zero _
    | succ k => rw [encStr_nil, Lemmas.C08.chr_nul [] k rfl]; simp
  | cons c r ih =>
    have hc := h c (by simp)
    have hr : ∀ d ∈ r, ValidCp d := fun d hd => h d (by simp [hd])
    cases k with
    | zero => rw [Lemmas.C08.chr_zero]; simp [byteOff]
    | succ k =>
      rw [encStr_cons, Lemmas.C08.chr_succ _ k (hd_enc_ne_zero hc _), ucNext_enc hc hr, List.drop_left, ih hr k]
      by_cases hk : k ≤ r.length
      · rw [if_pos hk, if_pos (by simpa using hk)]
        simp [byteOff, Nat.add_comm]
      · rw [if_neg hk, if_neg (by simpa using hk)]; rfl

/-- byte offset → character offset inverts character offset → byte offset -/
theorem off_chr_roundtrip {cs : List Nat} (h : ∀ c ∈ cs, ValidCp c) (k : Nat) (hk : k ≤ cs.length) :
    ucOff (encStr cs) (byteOff cs k) = k := by
  induction cs generalizing k with
  | nil => simp at hk; subst hk; exact Lemmas.C08.off_stop _ _ (.inl rfl)
  | cons c r ih =>
    have hc := h c (by simp)
    have hr : ∀ d ∈ r, ValidCp d := fun d hd => h d (by simp [hd])
    cases k with
    | zero => exact Lemmas.C08.off_stop _ _ (.inl (by simp [byteOff]))
    | succ k =>
      have hl := enc_length_pos c
      rw [byteOff_succ, encStr_cons, Lemmas.C08.off_step _ _ (by omega) (hd_enc_ne_zero hc _), ucNext_enc hc hr, List.drop_left,
        Nat.add_sub_cancel_left, ih hr k (by simpa using hk)]

theorem chr_off_roundtrip {cs : List Nat} (h : ∀ c ∈ cs, ValidCp c) (k : Nat) (hk : k ≤ cs.length) :
    (ucChr (encStr cs) k).map (ucOff (encStr cs)) = some k := by
  rw [chr_spec h, if_pos hk]; simp [off_chr_roundtrip h k hk]

/-- `uc_sub` cuts exactly the code points `[b, e)` -/
theorem sub_spec {cs : List Nat} (h : ∀ c ∈ cs, ValidCp c) (b e : Nat) (hbe : b ≤ e) (he : e ≤ cs.length) :
    ucSub (encStr cs) b e = encStr ((cs.take e).drop b) := by
  unfold ucSub
  rw [chr_spec h, chr_spec h, if_pos (by omega), if_pos he]
  simp only [byteOff_mono cs hbe, if_true]
  have h1 : encStr cs = encStr (cs.take b) ++ encStr ((cs.take e).drop b) ++ encStr (cs.drop e) := by
    rw [← encStr_append, ← encStr_append]
    congr 1
    have : cs.take b = (cs.take e).take b := by rw [List.take_take, Nat.min_eq_left hbe]
    rw [this, List.take_append_drop, List.take_append_drop]
  have h2 : byteOff cs e = byteOff cs b + (encStr ((cs.take e).drop b)).length := by
    unfold byteOff
    have : cs.take e = cs.take b ++ (cs.take e).drop b := by
      have : cs.take b = (cs.take e).take b := by rw [List.take_take, Nat.min_eq_left hbe]
      rw [this, List.take_append_drop]
    conv => lhs; rw [this, encStr_append]
    simp
  rw [h2]
  conv => lhs; rw [h1]
  unfold byteOff
  rw [List.append_assoc, List.drop_left]
  simp

private theorem ucBeg_tail (u : Bytes) (a : Nat) (rest : Bytes) (ha : a < 256) (hna : ¬ (128 ≤ a ∧ a < 192))
    (hu : ∀ x ∈ u, 128 ≤ x ∧ x < 192) :
    ∀ cur, (128 ≤ cur ∧ cur < 192) → ucBeg cur (u ++ a :: rest) = u.length + 1 := by
  induction u with
  | nil =>
    intro cur hcur
    have hc : cur < 256 := by omega
    simp [ucBeg, contB_eq cur hc, hcur]
    cases rest <;> simp [ucBeg, contB_eq a ha, hna]
  | cons x u ih =>
    intro cur hcur
    have hc : cur < 256 := by omega
    simp only [List.cons_append, ucBeg]
    simp [contB_eq cur hc, hcur]
    exact ih (fun y hy => hu y (by simp [hy])) x (hu x (by simp))

/-- `uc_prev` from the boundary after a character goes back over exactly that character
    (so `uc_next` undoes `uc_prev` and vice versa) -/
theorem prev_spec {c : Nat} (hc : ValidCp c) (pre : Bytes) :
    ucPrev ((enc c).reverse ++ pre) = (enc c).length := by
  obtain ⟨a, t, he, hch⟩ := enc_chr hc
  rw [he]
  have hna : ¬ (128 ≤ a ∧ a < 192) := by rcases hch.lead with ⟨h1, _⟩ | h1 <;> omega
  have hrev : (a :: t).reverse ++ pre = t.reverse ++ a :: pre := by simp
  rw [hrev]
  cases htr : t.reverse with
  | nil =>
    have : t = [] := by simpa using htr
    subst this
    simp [ucPrev]
    cases pre <;> simp [ucBeg, contB_eq a hch.lt, hna]
  | cons x u =>
    have hmem : ∀ y ∈ x :: u, 128 ≤ y ∧ y < 192 := by
      intro y hy; apply hch.tl; rw [← List.mem_reverse, htr]; exact hy
    have hlen : t.length = u.length + 1 := by
      have := congrArg List.length htr; simpa using this
    simp only [List.cons_append, ucPrev]
    rw [ucBeg_tail u a pre hch.lt hna (fun y hy => hmem y (by simp [hy])) x (hmem x (by simp))]
    simp [hlen]

private theorem chopF {cs : List Nat} (h : ∀ c ∈ cs, ValidCp c) :
    ∀ f base, (encStr cs).length ≤ f →
      ucChopF f (encStr cs) base = (List.range (cs.length + 1)).map (fun k => base + byteOff cs k) := by
  induction cs with
  | nil => intro f base _; cases f <;> simp [ucChopF, byteOff]
  | cons c r ih =>
    intro f base hf
    have hc := h c (by simp)
    have hr : ∀ d ∈ r, ValidCp d := fun d hd => h d (by simp [hd])
    have hl := enc_length_pos c
    have hne := hd_enc_ne_zero hc (encStr r)
    rw [encStr_cons] at hf ⊢
    cases f with
    | zero => rw [List.length_append] at hf; omega
    | succ f =>
      simp only [ucChopF]
      simp [hne]
      rw [ucNext_enc hc hr]; simp
      rw [ih hr f _ (by rw [List.length_append] at hf; omega)]
      rw [List.range_succ_eq_map (n := r.length + 1)]
      simp only [List.map_cons, List.map_map]
      congr 1
      simp [byteOff]
      intro a _; omega

/-- `uc_chop` returns exactly the character boundaries -/
theorem chop_spec {cs : List Nat} (h : ∀ c ∈ cs, ValidCp c) :
    ucChop (encStr cs) = (List.range (cs.length + 1)).map (byteOff cs) := by
  have := chopF h (encStr cs).length 0 (Nat.le_refl _)
  simpa [ucChop] using this

private theorem cont_byte (x : Nat) : 0x80 ||| (x &&& 0x3f) = 0x80 + x % 64 := by
  rw [mask6, or_add _ _ 7 (by omega) (by omega)]

/-- `uc_cput` (the encoder used for shaped letters) is the reference encoder -/
theorem put_enc {c : Nat} (h : ValidCp c) : ucPut c = enc c := by
  obtain ⟨h0, h1⟩ := h
  unfold ucPut enc
  simp only [Nat.shiftRight_eq_div_pow, cont_byte, Nat.reducePow]
  by_cases c1 : c > 0xffff
  · rw [if_pos c1, if_neg (by omega), if_neg (by omega), if_neg (by omega), or_add 0xf0 _ 4 (by omega) (by omega),
      Nat.mod_eq_of_lt (by omega)]
  rw [if_neg c1]
  by_cases c2 : c > 0x7ff
  · rw [if_pos c2, if_neg (by omega), if_neg (by omega), if_pos (by omega), or_add 0xe0 _ 5 (by omega) (by omega),
      Nat.mod_eq_of_lt (by omega)]
  rw [if_neg c2]
  by_cases c3 : c > 0x7f
  · rw [if_pos c3, if_neg (by omega), if_pos (by omega), or_add 0xc0 _ 6 (by omega) (by omega), Nat.mod_eq_of_lt (by omega)]
  · rw [if_neg c3, if_pos (by omega)]

/-! ### non-vacuity: the hypotheses are met by concrete multi-byte strings -/
example : (∀ c ∈ [0x61, 0xe9, 0x20ac, 0x1f600, 0x301], ValidCp c) := by decide
example : encStr [0x61, 0xe9, 0x20ac, 0x1f600] = [0x61, 0xc3, 0xa9, 0xe2, 0x82, 0xac, 0xf0, 0x9f, 0x98, 0x80] := by decide
example : ucSub (encStr [0x61, 0xe9, 0x20ac, 0x1f600]) 1 3 = [0xc3, 0xa9, 0xe2, 0x82, 0xac] := by decide

end Neatvi.Props.C16
