import NeatviVerif.Lemmas.C16bLit
/-!
# C16 (the `:s` clause): the substitute command keeps a line valid UTF-8

"… character-wise commands never split a multi-byte character: a buffer that is valid UTF-8 remains
valid UTF-8 under any command that does not itself insert raw bytes."

`IsU8 s`: `s` is the encoding of code points U+0001 .. U+10FFFF (`Lemmas/C16bUtf8`; the same as
`C11b.StrictLit`).  `IsBd s k`: `k` is a character boundary of `s` — `s.take k` and `s.drop k` are both
valid (for valid `s = encStr cs` and `k` within it this is `C11b.Boundary cs k`: `isBd_iff_boundary`).

* `BoundaryMatcher find rep` — the matcher respects boundaries: on a valid subject the start and the end
  of the match are character boundaries, and both ends of every group the replacement refers to are
  `-1` or character boundaries.  (Nothing else is needed: not `so ≤ eo`, not `eo ≤ length`, and `GrpOk`
  is what a successful scan implies anyway.)
* `scan_pieces_valid` / `scan_keeps_valid` (U1): every piece the reference scan of `:s` cuts — the
  bytes skipped, the expansion inserted, the character copied after an empty match — and the rest are
  valid UTF-8; hence so is the output.
* `substLine_keeps_valid` (U2): the model's `substLine`.
* `…_on` variants: the matcher has to respect boundaries only on a domain `D` of subjects that is
  closed under taking non-empty suffixes (e.g. "ends with a newline", needed for the literal fast
  path of `rstr_find` with `$`).
* U3, the hypothesis discharged: `boundaryMatcher_of_regcomp` (the regex engine, from
  `C11b.offsets_on_boundaries`), `boundaryMatcher_of_literal` (the fast path of `rstr.c`),
  `rstrMake_boundaryMatcher` (whatever `rstr_make` returns for a valid UTF-8 pattern), and
  `subst_keeps_valid`: pattern, replacement and line valid UTF-8, the line ending with its newline ⇒ the
  line `:s` writes back is valid UTF-8.  `subst_needs_newline`: without the newline the model's `$` splits
  a character (the last byte is taken for the newline).
* U4: non-vacuity, and the hypothesis is needed: `aéb` with a matcher that reports `so = 2` (inside `é`);
  an end-to-end run through the regex engine (`reD_subst`).
-/
namespace Neatvi.Props.C16b
open Neatvi Neatvi.Spec Neatvi.Rset Neatvi.Ex Neatvi.Props.C11b Neatvi.Props.C14

/-! ## the hypothesis on the matcher -/

/-- the matcher respects character boundaries on the valid subjects in `D` -/
def BoundaryMatcherOn (D : Bytes → Prop) (find : Matcher) (rep : Bytes) : Prop :=
  ∀ s nb so eo offs, IsU8 s → D s → find s nb = some (some (so, eo, offs)) →
    IsBd s so ∧ IsBd s eo ∧ ∀ d ∈ refs rep, OffBd s (grpSo offs d) ∧ OffBd s (grpEo offs d)

/-- the matcher respects character boundaries on every valid subject -/
def BoundaryMatcher (find : Matcher) (rep : Bytes) : Prop := BoundaryMatcherOn (fun _ => True) find rep

/-- a set of subjects closed under non-empty suffixes -/
def SuffixClosed (D : Bytes → Prop) : Prop := ∀ s k, D s → s.drop k ≠ [] → D (s.drop k)

theorem suffixClosed_true : SuffixClosed (fun _ => True) := fun _ _ _ _ => trivial

theorem BoundaryMatcher.on {find : Matcher} {rep : Bytes} (h : BoundaryMatcher find rep) (D : Bytes → Prop) :
    BoundaryMatcherOn D find rep :=
  fun s nb so eo offs hs _ hf => h s nb so eo offs hs trivial hf

/-- the form of the hypothesis with everything one expects of a matcher spelled out: an interval inside
    the subject, on boundaries, every referenced group usable and on boundaries -/
def BoundaryMatcherFull (find : Matcher) (rep : Bytes) : Prop :=
  ∀ s nb so eo offs, IsU8 s → find s nb = some (some (so, eo, offs)) →
    so ≤ eo ∧ eo ≤ s.length ∧ IsBd s so ∧ IsBd s eo ∧
    ∀ d ∈ refs rep, GrpOk s offs d ∧ OffBd s (grpSo offs d) ∧ OffBd s (grpEo offs d)

theorem BoundaryMatcherFull.weaken {find : Matcher} {rep : Bytes} (h : BoundaryMatcherFull find rep) :
    BoundaryMatcher find rep := by
  intro s nb so eo offs hs _ hf
  obtain ⟨_, _, h1, h2, h3⟩ := h s nb so eo offs hs hf
  exact ⟨h1, h2, fun d hd => (h3 d hd).2⟩

/-! ## U1: the reference scan -/

/-- every piece is made of whole characters -/
def PieceU8 (p : Piece) : Prop := IsU8 p.skip ∧ IsU8 p.sub ∧ IsU8 p.ch

theorem copied_char_valid {ln : Bytes} {so eo l : Nat} (heo : IsBd ln eo)
    (hl : l = (if eo ≤ so then min (Uc.ucLen ((ln.drop eo).headD 0)) (ln.drop eo).length else 0)) :
    IsU8 ((ln.drop eo).take l) ∧ IsU8 ((ln.drop eo).drop l) := by
  by_cases he : eo ≤ so
  · rw [if_pos he] at hl
    obtain ⟨h1, h2, h3⟩ := isU8_head_char heo.2
    rw [hl, Nat.min_eq_left h1]; exact ⟨h2, h3⟩
  · rw [if_neg he] at hl
    rw [hl]; exact ⟨by simpa using isU8_nil, by simpa using heo.2⟩

theorem expandOpt_valid {rep ln : Bytes} {offs : List Int} {x : Bytes} (hrep : IsU8 rep)
    (hx : expandOpt rep ln offs = some x)
    (hb : ∀ d ∈ refs rep, OffBd ln (grpSo offs d) ∧ OffBd ln (grpEo offs d)) : IsU8 x := by
  unfold expandOpt at hx
  split at hx
  · rename_i hok
    cases hx
    exact expandRef_valid hrep (fun d hd => grpText_valid (hok d hd) (hb d hd).1 (hb d hd).2)
  · cases hx

/-- **U1, piece by piece** (on a suffix-closed domain): against a boundary-respecting matcher and with
    a valid replacement, the scan of a valid line cuts it into valid pieces and a valid rest -/
theorem scan_pieces_valid_on (D : Bytes → Prop) (hD : SuffixClosed D) (find : Matcher) (rep : Bytes)
    (hm : BoundaryMatcherOn D find rep) (hrep : IsU8 rep) (g : Bool) (ln : Bytes) (hln : IsU8 ln) (hDln : D ln)
    (nb : Bool) (ps : List Piece) (rest : Bytes) (h : scan find rep g ln nb = some (ps, rest)) :
    (∀ p ∈ ps, PieceU8 p) ∧ IsU8 rest := by
  refine scan_induct (P := fun ln _ ps rest => IsU8 ln → D ln → (∀ p ∈ ps, PieceU8 p) ∧ IsU8 rest)
    (fun _ _ _ hln _ => ⟨by simp, hln⟩) ?_ h hln hDln
  intro ln nb so eo offs x l ps' rest hf hx hl _ hrest hln hDln
  obtain ⟨hso, heo, hgrp⟩ := hm ln nb so eo offs hln hDln hf
  have hch := copied_char_valid (so := so) heo hl
  have hp : PieceU8 ⟨ln.take so, (ln.take eo).drop so, x, (ln.drop eo).take l⟩ :=
    ⟨hso.1, expandOpt_valid hrep hx hgrp, hch.1⟩
  rcases hrest with ⟨rfl, rfl⟩ | ⟨hne, _, _, ih⟩
  · exact ⟨List.forall_mem_cons.2 ⟨hp, by simp⟩, hch.2⟩
  · obtain ⟨h1, h2⟩ := ih hch.2 (by rw [List.drop_drop] at hne ⊢; exact hD ln _ hDln hne)
    exact ⟨List.forall_mem_cons.2 ⟨hp, h1⟩, h2⟩

theorem outOf_valid {ps : List Piece} {rest : Bytes} (hps : ∀ p ∈ ps, PieceU8 p) (hr : IsU8 rest) :
    IsU8 (outOf ps rest) := by
  unfold outOf
  refine isU8_append (isU8_flatMap _ _ ?_) hr
  intro p hp
  obtain ⟨h1, h2, h3⟩ := hps p hp
  exact isU8_append (isU8_append h1 h2) h3

/-- **U1 on a domain** -/
theorem scan_keeps_valid_on (D : Bytes → Prop) (hD : SuffixClosed D) (find : Matcher) (rep : Bytes)
    (hm : BoundaryMatcherOn D find rep) (hrep : IsU8 rep) (g : Bool) (ln : Bytes) (hln : IsU8 ln) (hDln : D ln)
    (nb : Bool) (ps : List Piece) (rest : Bytes) (h : scan find rep g ln nb = some (ps, rest)) :
    IsU8 (outOf ps rest) := by
  obtain ⟨h1, h2⟩ := scan_pieces_valid_on D hD find rep hm hrep g ln hln hDln nb ps rest h
  exact outOf_valid h1 h2

/-- **U1, piece by piece**: no piece the scan cuts splits a character -/
theorem scan_pieces_valid (find : Matcher) (rep : Bytes) (hm : BoundaryMatcher find rep) (hrep : IsU8 rep)
    (g : Bool) (ln : Bytes) (hln : IsU8 ln) (nb : Bool) (ps : List Piece) (rest : Bytes)
    (h : scan find rep g ln nb = some (ps, rest)) : (∀ p ∈ ps, PieceU8 p) ∧ IsU8 rest :=
  scan_pieces_valid_on _ suffixClosed_true find rep hm hrep g ln hln trivial nb ps rest h

/-- **U1 — scan_keeps_valid**: against a boundary-respecting matcher, with a valid replacement, the
    output of the scan of a valid line is valid UTF-8 -/
theorem scan_keeps_valid (find : Matcher) (rep : Bytes) (hm : BoundaryMatcher find rep) (hrep : IsU8 rep)
    (g : Bool) (ln : Bytes) (hln : IsU8 ln) (nb : Bool) (ps : List Piece) (rest : Bytes)
    (h : scan find rep g ln nb = some (ps, rest)) : IsU8 (outOf ps rest) :=
  scan_keeps_valid_on _ suffixClosed_true find rep hm hrep g ln hln trivial nb ps rest h

/-- when the matches are intervals as well, the matched texts that are dropped are whole characters too -/
theorem scan_matched_valid (find : Matcher) (rep : Bytes) (hm : BoundaryMatcherFull find rep) (g : Bool) :
    ∀ (n : Nat) (ln : Bytes), ln.length < n → IsU8 ln →
    ∀ (nb : Bool) (ps : List Piece) (rest : Bytes), scan find rep g ln nb = some (ps, rest) →
      ∀ p ∈ ps, IsU8 p.matched := by
  intro _ ln _ hln nb ps rest h
  refine scan_induct (P := fun ln _ ps _ => IsU8 ln → ∀ p ∈ ps, IsU8 p.matched) (fun _ _ _ _ => by simp) ?_ h hln
  intro ln nb so eo offs x l ps' rest hf _ hl _ hrest hln
  obtain ⟨hle, _, hso, heo, _⟩ := hm ln nb so eo offs hln hf
  refine List.forall_mem_cons.2 ⟨isU8_slice' hso heo hle, ?_⟩
  rcases hrest with ⟨rfl, rfl⟩ | ⟨_, _, _, ih⟩
  · simp
  · exact ih (copied_char_valid (so := so) heo hl).2

/-! ## U2: the model's `substLine` -/

/-- **U2 on a domain** -/
theorem substLine_keeps_valid_on (D : Bytes → Prop) (hD : SuffixClosed D) (re : RStr) (rep : Bytes) (g : Bool)
    (line out : Bytes) (hm : BoundaryMatcherOn D (rsFind re) rep) (hrep : IsU8 rep) (hl : IsU8 line)
    (hDl : D line) (h : substLine re rep g line = some (some out)) : IsU8 out := by
  obtain ⟨ps, rest, _, hs, rfl⟩ := substLine_scan (isU8_no_nul hl) h
  exact scan_keeps_valid_on D hD (rsFind re) rep hm hrep g line hl hDl false ps rest hs

/-- **U2 — substLine_keeps_valid**: if `rstr_find` for `re` respects character boundaries, the
    replacement is valid UTF-8 and the line is valid UTF-8 (hence without NUL), then the line `:s` writes
    back is valid UTF-8 -/
theorem substLine_keeps_valid (re : RStr) (rep : Bytes) (g : Bool) (line out : Bytes)
    (hm : BoundaryMatcher (rsFind re) rep) (hrep : IsU8 rep) (hl : IsU8 line)
    (h : substLine re rep g line = some (some out)) : IsU8 out :=
  substLine_keeps_valid_on _ suffixClosed_true re rep g line out hm hrep hl trivial h

/-- U2 together with `C14.output_pieces`: the rewritten line and the old one split into the same
    skipped bytes, copied characters and rest, all of them whole characters; only matched texts are
    replaced by expansions, and those are whole characters as well -/
theorem substLine_pieces_valid (re : RStr) (hord : (rsFind re).Ordered) (rep : Bytes) (g : Bool)
    (line out : Bytes) (hm : BoundaryMatcher (rsFind re) rep) (hrep : IsU8 rep) (hl : IsU8 line)
    (h : substLine re rep g line = some (some out)) :
    ∃ ps rest, ps ≠ [] ∧ line = srcOf ps rest ∧ out = outOf ps rest ∧ (∀ p ∈ ps, PieceU8 p) ∧ IsU8 rest := by
  obtain ⟨ps, rest, hne, hs, h1, h2⟩ := output_pieces re hord rep g line out (isU8_no_nul hl) h
  exact ⟨ps, rest, hne, h1, h2, scan_pieces_valid (rsFind re) rep hm hrep g line hl false ps rest hs⟩

/-! ## U3: `rstr_find` respects character boundaries

`rstr_make` either takes the pattern as a literal (the fast path of `rstr.c`) or compiles `((pat))` with
`regcomp`.  For a valid UTF-8 pattern both report only `-1` or character boundaries on a valid subject:
the engine by `C11b.offsets_on_boundaries`, the fast path because a non-empty valid literal only compares
equal at a boundary (`C12.sync_utf8`) and ends on one (`matchCase_boundary`), and the empty literal
(`^`, `$`, `\<`, `\>` alone) matches at 0, where the word tests hold, or — `$` — at the last byte, which
is the newline.  Only that last case needs the subject to end with the newline (`EndsNl`). -/

theorem suffixClosed_endsNl : SuffixClosed EndsNl := by
  rintro s k ⟨t, rfl⟩ hne
  have hk : k ≤ t.length := by
    apply Classical.byContradiction
    intro hgt
    exact hne (List.drop_eq_nil_iff.mpr (by simp; omega))
  exact ⟨t.drop k, List.drop_append_of_le_length hk⟩

/-- **the regex engine**: a program compiled from a valid UTF-8 pattern makes `rstr_find` a
    boundary-respecting matcher — on every valid subject, for every replacement -/
theorem boundaryMatcher_of_regcomp (re : RStr) (r : RSet) (hrs : re.rs = some r) (ps : List Nat) (hvp : Valid ps)
    (cflg : Nat) (hc : Regex.regcomp (encStr ps) cflg = some (some r.prog)) (rep : Bytes) :
    BoundaryMatcher (rsFind re) rep := by
  intro s nb so eo offs hs _ hf
  obtain ⟨h1, h2, h3⟩ := boundary_of_offs hs hf (rsFind_rs_offs re r hrs ps hvp cflg hc hs hf)
  exact ⟨h1, h2, fun d _ => h3 d⟩

/-- **the literal fast path**: a valid UTF-8 literal makes `rstr_find` a boundary-respecting matcher on
    the valid subjects that end with the newline -/
theorem boundaryMatcher_of_literal (re : RStr) (lit : Bytes) (hrs : re.rs = none) (hstr : re.str = some lit)
    (hlit : IsU8 lit) (rep : Bytes) : BoundaryMatcherOn EndsNl (rsFind re) rep := by
  intro s nb so eo offs hs hnl hf
  obtain ⟨h1, h2, h3⟩ := boundary_of_offs hs hf (rsFind_lit_offs re lit hrs hstr hlit hs hnl hf)
  exact ⟨h1, h2, fun d _ => h3 d⟩

/-- **U3 — rstrMake_boundaryMatcher**: whatever `rstr_make` returns for a valid UTF-8 pattern respects
    character boundaries on the valid lines that end with the newline -/
theorem rstrMake_boundaryMatcher {pat : Bytes} {flg : Nat} {re : RStr} (hp : IsU8 pat)
    (h : rstrMake pat flg = some (some re)) (rep : Bytes) : BoundaryMatcherOn EndsNl (rsFind re) rep := by
  rcases rstrMake_cases h with ⟨hrs, lbeg, wbeg, wend, lend, lit, hsim, hstr, _⟩ | ⟨r, cflg, hrs, hc⟩
  · exact boundaryMatcher_of_literal re lit hrs hstr (simple_lit_valid hp hsim) rep
  · obtain ⟨ps, hv, rfl⟩ := hp
    rw [combined_single_enc] at hc
    exact (boundaryMatcher_of_regcomp re r hrs _ (valid_combined hv) cflg hc rep).on EndsNl

/-- when `rstr_make` compiled the pattern (it is not a plain literal), no condition on the end of the
    subject is needed -/
theorem rstrMake_boundaryMatcher_rs {pat : Bytes} {flg : Nat} {re : RStr} (hp : IsU8 pat)
    (h : rstrMake pat flg = some (some re)) (hne : re.rs ≠ none) (rep : Bytes) : BoundaryMatcher (rsFind re) rep := by
  rcases rstrMake_cases h with ⟨hrs, _⟩ | ⟨r, cflg, hrs, hc⟩
  · exact absurd hrs hne
  · obtain ⟨ps, hv, rfl⟩ := hp
    rw [combined_single_enc] at hc
    exact boundaryMatcher_of_regcomp re r hrs _ (valid_combined hv) cflg hc rep

/-- **`:s` keeps a line valid UTF-8** — no hypothesis on the matcher left: pattern, replacement and line
    are valid UTF-8 and the line ends with its newline; then the line `ec_substitute` writes back is
    valid UTF-8.  For every pattern `rstr_make` accepts, all flags, with and without `g`. -/
theorem subst_keeps_valid {pat : Bytes} {flg : Nat} {re : RStr} (hp : IsU8 pat)
    (hre : rstrMake pat flg = some (some re)) (rep : Bytes) (g : Bool) (line out : Bytes) (hrep : IsU8 rep)
    (hl : IsU8 line) (hnl : EndsNl line) (h : substLine re rep g line = some (some out)) : IsU8 out :=
  substLine_keeps_valid_on EndsNl suffixClosed_endsNl re rep g line out (rstrMake_boundaryMatcher hp hre rep)
    hrep hl hnl h

/-- the same for the regular expression the editor makes from its search keyword (`ignorecase` or not) -/
theorem subst_keeps_valid_ed (ed : Ed) {pat : Bytes} {re : RStr} (hp : IsU8 pat) (hre : ed.mkRe pat = some (some re))
    (rep : Bytes) (g : Bool) (line out : Bytes) (hrep : IsU8 rep) (hl : IsU8 line) (hnl : EndsNl line)
    (h : substLine re rep g line = some (some out)) : IsU8 out :=
  subst_keeps_valid hp hre rep g line out hrep hl hnl h

/-- the condition on the end of the line cannot be dropped in the model: `:s/$/x/` on the "line" `é`
    without a newline takes the last byte for the newline and puts `x` inside `é` -/
theorem subst_needs_newline :
    (rstrMake [36] 0).bind (fun r => r.bind (fun re => substLine re [120] false [0xc3, 0xa9])) =
      some (some [0xc3, 120, 0xa9]) := by decide

/-! ## U4: non-vacuity, and the hypothesis is needed -/

/-- the line `aéb` -/
def lineE : Bytes := [0x61, 0xc3, 0xa9, 0x62]
/-- the replacement `中` -/
def repZ : Bytes := [0xe4, 0xb8, 0xad]

theorem lineE_valid : IsU8 lineE := ⟨[0x61, 0xe9, 0x62], by decide, by decide⟩
theorem repZ_valid : IsU8 repZ := ⟨[0x4e2d], by decide, by decide⟩

/-- a matcher that finds `é` in `aéb` at `[1, 3)` and nothing anywhere else -/
def findE : Matcher := fun s _ => if s = lineE then some (some (1, 3, [1, 3])) else some none

theorem findE_boundary : BoundaryMatcher findE repZ := by
  intro s nb so eo offs _ _ hf
  unfold findE at hf
  split at hf
  · rename_i hs
    cases hf
    subst hs
    refine ⟨⟨⟨[0x61], by decide, by decide⟩, ⟨[0xe9, 0x62], by decide, by decide⟩⟩,
      ⟨⟨[0x61, 0xe9], by decide, by decide⟩, ⟨[0x62], by decide, by decide⟩⟩, ?_⟩
    intro d hd
    simp [repZ, refs] at hd
  · cases hf

/-- `é` replaced by `中`: `a中b` -/
theorem findE_scan : scan findE repZ false lineE false =
    some ([⟨[0x61], [0xc3, 0xa9], repZ, []⟩], [0x62]) := by
  rw [scan]
  have hf : findE lineE false = some (some (1, 3, [1, 3])) := by decide
  have hx : expandOpt repZ lineE [1, 3] = some repZ := by decide
  rw [hf]
  simp only [hx]
  decide
example : outOf [⟨[0x61], [0xc3, 0xa9], repZ, []⟩] [0x62] = encStr [0x61, 0x4e2d, 0x62] := by decide
/-- … which U1 says is valid -/
example : IsU8 (outOf [⟨[0x61], [0xc3, 0xa9], repZ, []⟩] [0x62]) :=
  scan_keeps_valid findE repZ findE_boundary repZ_valid false lineE lineE_valid false _ _ findE_scan

/-- a replacement with an escaped multi-byte character and a group reference: `\é[\0]` on the match `é`
    of `aéb`; the group is on boundaries -/
def repG : Bytes := [92, 0xc3, 0xa9, 91, 92, 48, 93]
example : IsU8 repG := ⟨[92, 0xe9, 91, 92, 48, 93], by decide, by decide⟩
example : refs repG = [0] := by decide
example : expandRef repG lineE [1, 3] = encStr [0xe9, 91, 0xe9, 93] := by decide
example : OffBd lineE (grpSo [1, 3] 0) ∧ OffBd lineE (grpEo [1, 3] 0) :=
  ⟨Or.inr ⟨1, by decide, ⟨[0x61], by decide, by decide⟩, ⟨[0xe9, 0x62], by decide, by decide⟩⟩,
   Or.inr ⟨3, by decide, ⟨[0x61, 0xe9], by decide, by decide⟩, ⟨[0x62], by decide, by decide⟩⟩⟩

/-- the model on the same case: the pattern `é` (the literal fast path of `rstr_find`), `:s/é/中/` -/
example : (rstrMake [0xc3, 0xa9] 0).bind (fun r => r.bind (fun re => substLine re repZ true (lineE ++ [10]))) =
    some (some (encStr [0x61, 0x4e2d, 0x62, 10])) := by decide

/-- **the hypothesis is needed.**  A matcher that reports `so = 2` — inside `é` — on `aéb`: -/
def findBad : Matcher := fun s _ => if s = lineE then some (some (2, 3, [2, 3])) else some none

/-- the scan succeeds and puts `中` between the lead byte of `é` and `b`: `61 C3 E4 B8 AD 62` -/
theorem findBad_scan : scan findBad repZ false lineE false =
    some ([⟨[0x61, 0xc3], [0xa9], repZ, []⟩], [0x62]) := by
  rw [scan]
  have hf : findBad lineE false = some (some (2, 3, [2, 3])) := by decide
  have hx : expandOpt repZ lineE [2, 3] = some repZ := by decide
  rw [hf]
  simp only [hx]
  decide

theorem findBad_out : outOf [⟨[0x61, 0xc3], [0xa9], repZ, []⟩] [0x62] = [0x61, 0xc3, 0xe4, 0xb8, 0xad, 0x62] := by
  decide

/-- that output is not valid UTF-8: the lead byte `C3` is followed by the lead byte `E4` -/
theorem findBad_invalid : ¬ IsU8 (outOf [⟨[0x61, 0xc3], [0xa9], repZ, []⟩] [0x62]) := by
  rw [findBad_out]
  intro h
  have h1 := isU8_ascii_cons h (by decide)
  have h2 := isU8_lead_cont h1 (by decide)
  simp at h2

/-- so `findBad` is not boundary-respecting (2 is not a boundary of `aéb`), and without that hypothesis
    U1 fails -/
theorem findBad_not_boundary : ¬ BoundaryMatcher findBad repZ := fun hm =>
  findBad_invalid (scan_keeps_valid findBad repZ hm repZ_valid false lineE lineE_valid false _ _ findBad_scan)

theorem not_isBd_inside : ¬ IsBd lineE 2 := by
  intro h
  have h2 : IsU8 [0xa9, 0x62] := h.2
  exact isU8_not_cont h2 (by decide)

/-- the same with a group: a valid replacement `\1` and a group `[2, 3)` that starts inside `é` — the
    expansion is the lone continuation byte `A9` -/
example : expandRef [92, 49] lineE [1, 3, 2, 3] = [0xa9] := by decide
example : ¬ IsU8 [0xa9] := fun h => isU8_not_cont h (by decide)

/-! ### end to end through the regex engine: `:s/\(.\)b/\1中\1/` on `aéb` -/

/-- what `rstr_make` returns for the pattern `(.)b` (not a literal: it is compiled as `(((.)b))`) -/
def progD : Regex.Prog := ⟨[.mark 0, .mark 2, .mark 4, .mark 6, .atom ⟨Regex.AK.any, []⟩, .mark 7,
  .atom ⟨Regex.AK.chr, [98]⟩, .mark 5, .mark 3, .mark 1, .mtch], 11, 1⟩
def rsD : RSet := ⟨progD, 1, [2, 4], [1], 4⟩
def reD : RStr := ⟨some rsD, none, false, false, false, false, false⟩
/-- the replacement `\1中\1` -/
def repD : Bytes := [92, 49, 0xe4, 0xb8, 0xad, 92, 49]

theorem reD_make : rstrMake [40, 46, 41, 98] 0 = some (some reD) := by rfl

theorem reD_exec : Regex.regexec progD (lineE ++ [10]) 4 Regex.REG_NEWLINE ND NG =
    (Regex.ExecRes.found ([1, 4, 1, 4, 1, 4, 1, 3] ++ List.replicate 120 (-1)) 0,
      [(1, 4), (1, 4), (1, 4), (1, 3)]) :=
  Lemmas.C10.regexecF_sound (fuel := 40) (by decide +kernel)

/-- `.` takes the whole `é`: the match is `[1, 4)`, group 1 is `[1, 3)` — all boundaries of `aéb` -/
theorem reD_find : rstrFind reD (lineE ++ [10]) 16 0 ND NG =
    some (0, [1, 4, 1, 3] ++ List.replicate 28 (-1), 0) := by
  unfold rstrFind
  show Rset.find rsD _ 16 0 ND NG = _
  unfold Rset.find
  have e : (Regex.REG_NEWLINE ||| (if 0 &&& RE_NOTBOL != 0 then Regex.REG_NOTBOL else 0) |||
      (if 0 &&& RE_NOTEOL != 0 then Regex.REG_NOTEOL else 0)) = Regex.REG_NEWLINE := by decide
  have e2 : rsD.prog = progD := rfl
  have e3 : rsD.grpcnt = 4 := rfl
  simp only [e, e2, e3, reD_exec]
  decide

/-- the line written back is `aé中é` … -/
theorem reD_subst : substLine reD repD false (lineE ++ [10]) = some (some (encStr [0x61, 0xe9, 0x4e2d, 0xe9, 10])) :=
  (subst_first_only_ref reD repD (lineE ++ [10]) 0 _ 0 reD_find (by decide) (by decide) (by decide)).trans
    (by decide)

/-- … and the general theorem applies to this run: every hypothesis of `subst_keeps_valid` is met -/
example : IsU8 (encStr [0x61, 0xe9, 0x4e2d, 0xe9, 10]) :=
  subst_keeps_valid (pat := [40, 46, 41, 98]) ⟨[40, 46, 41, 98], by decide, by decide⟩ reD_make repD false
    (lineE ++ [10]) _ ⟨[92, 49, 0x4e2d, 92, 49], by decide, by decide⟩
    ⟨[0x61, 0xe9, 0x62, 10], by decide, by decide⟩ ⟨lineE, rfl⟩ reD_subst

end Neatvi.Props.C16b
