import NeatviVerif.Lemmas.C16cLed
/-!
# C16c: edits keep the text valid UTF-8 — the roll-up over the editing commands

`Props/C16.lean` proves the helpers of `uc.c` against the reference encoder, `Props/C16b.lean` that `:s` keeps a
line valid.  Here: **every line of every buffer, every register, the undo history and the files stay valid
UTF-8** (`IsU8`, the predicate of C16b; decidable: `isU8_iff_check`) under the editing commands.

Vocabulary (`Lemmas/C16cLbuf`, `C16cEd`, `C16cVi`):
* `BufValid lb` — every line of the buffer is valid UTF-8; `LinesNl lb` — every line ends with its newline;
  `HistValid lb` — every text of the undo history is valid; `LbOk lb` — the three together;
* `RegsValid r` — every register holds valid UTF-8;
* `EdOk ed` — the state of `ex.c`: all buffers `LbOk` with valid path names, `RegsValid`, and valid input lines,
  shell-oracle outputs and files; no system-call fault scheduled (a failed `write` leaves a truncated file);
* `VsOk s` — the state of `vi.c`: `EdOk s.ed`.

**(a) ex** — through `exCommand`: `exCommand_valid` for every command line the decidable check `okLine d` accepts
(the line is split as `ex_exec` splits it and every command passes `okH`): all of `a i c d y pu k r rs s g v u redo
e w q wq x ! = p b se ec` and unknown commands, with `g`/`v` nested `d` deep.  Excluded (`okH`): `@`/`ra`
(run a register as commands), `e +cmd`, `s` with an empty or invalid pattern.  neatvi's ex has no `m`, `co`/`t`,
`j`, `>`, `<` commands.  Per command: `ex_*_valid` (dispatcher level).  `pu` from every register, also the
computed ones `; # ^` (`all_registers_valid`); `pu ;` puts the whole line (`pu_semicolon_whole`; cut at 1023
bytes, possibly inside a character, it would not be valid: /repo commit c41ab90).

**(b) vi** — operator level, for *all* arguments: `vi_yank_valid vi_delete_valid vi_case_valid vi_shift_valid
vc_join_valid vc_put_valid` unconditionally; `vc_replace_valid`, `vi_change_valid`, `vc_insert_valid` given that
the typed character / text is valid (`TypedTextValid`).  **Key level, every valid key stream without `^V`**
(`KeysOk`: backspace, `^U ^W ^T ^D`, `^P`, `^R` + any register, `^K` + any two characters, `^F ^E` keymaps,
multi-byte characters, newlines …): `led_line_keys_valid`, `vi_input_keys_valid`, `typed_keys_valid_text`,
`vc_insert_keys_valid` (`i a I A o O`), `vi_change_keys_valid`, `vc_replace_keys_valid`; the special case of
typed lines of printable characters: `typed_lines_valid_text`, `vc_insert_lines_valid`, `vi_change_lines_valid`,
`vc_replace_typed_valid`.  `vc_motion_valid`: any operator with any motion, given that reading the count and the
motion leaves the state valid.  From the end-to-end
specifications of C08f (text and registers only): `row_delete_valid`, `line_delete_valid`, `x_valid`, `dw_valid`,
`dd_valid`, `yy_valid`.  `u`/`^R`: `vi_undo_valid`; `:` from vi: `ex_from_vi_valid`.
Not at all: `!` filters (not modelled), the searches `/ ?` (the typed pattern goes to a register), `.` and `@`
(they replay keys).  `^K` and `^R` read their arguments as whole characters (`led_readkey`, /repo commit 90b14db;
read byte by byte they would put a lone continuation byte into the line, `i^K中`, `i^Ré`): the examples
`digraph_key_whole_char`, `register_key_whole_char`.

**(c)** `cut_valid_iff`, `cut_inside_invalid`, `cut_codepoints`, `cut_example`.

`:s` goes through `Lemmas/C16cCmd.lean` only (`ex_subst_valid`, and the `ec_substitute` case of
`ex_dispatch_valid` / `exCommand_valid`).
-/
set_option linter.unusedSimpArgs false
set_option linter.unusedVariables false

namespace Neatvi.Props.C16c
open Neatvi Neatvi.Uc Neatvi.Spec Neatvi.Lbuf Neatvi.LbufIo Neatvi.Ex Neatvi.Vi Neatvi.Props.C11b Neatvi.Props.C16b
open Neatvi.Lemmas.C16c

export Neatvi.Lemmas.C16c (BufValid LinesNl HistValid LbOk OptValid RegsValid EdOk VsOk okH okLine okCmds substOk
  TypedTextValid KeysOk u8chk)

/-! ## 0. the running example -/

/-- two buffers: `aé` / `中b` (with an undo record) and an empty one; a register holding `é`; a file; an input line -/
def exLb : Lb := { lines := [[0x61, 0xc3, 0xa9, 10], [0xe4, 0xb8, 0xad, 0x62, 10]],
                   hist := [⟨0, 1, 0, some [0xc3, 0xa9, 10], none, 1, 0, none⟩], histU := 1 }
def exEd : Ed :=
  { bufs := [some { path := [0x61, 0xc3, 0xa9], lb := exLb }, some { path := [], lb := Lbuf.make }],
    regs := ({} : Regs).put 97 [0xc3, 0xa9] 0,
    files := [⟨[102], [0xe4, 0xb8, 0xad, 10], 1⟩], input := [[0xc3, 0xa9]] }
def exVs (keys : Bytes) : VS := { ed := exEd, typed := keys }
/-- the lines of the current buffer after an ex command -/
def linesOf (r : R Int) : List Bytes := match r with | some (_, ed) => (ed.lb.map (·.lines)).getD [] | none => []
/-- the lines after a vi command -/
def linesAfter {α : Type} (r : Res α) : List Bytes := match r with | Res.ok _ s => Vi.lines s | _ => []
/-- is the state a vi command returns valid? -/
def okAfter {α : Type} (r : Res α) : Bool := match r with | Res.ok _ s => decide (VsOk s) | _ => false

theorem exEd_ok : EdOk exEd := by decide +kernel
theorem exVs_ok (keys : Bytes) : VsOk (exVs keys) := exEd_ok

/-! ## 1. valid UTF-8: the check, lines, character offsets, the case loop -/

/-- `IsU8` is decidable: a byte string is valid iff the reference decoder yields code points U+0001..U+10FFFF
whose encoding gives the string back (the check of the test harness) -/
theorem isU8_iff_check (s : Bytes) : u8chk s = true ↔ IsU8 s := u8chk_iff s

/-- a valid text cut at an ASCII byte (a newline, a blank, a delimiter): both sides are valid -/
theorem cut_at_ascii {a b : Bytes} {c : Nat} (h : IsU8 (a ++ c :: b)) (hc : c < 128) : IsU8 a ∧ IsU8 b :=
  isU8_split_ascii h hc

/-- the lines `lbuf_replace` cuts out of a valid text are valid -/
theorem splitLines_keeps_valid {s : Bytes} (h : IsU8 s) : ∀ l ∈ splitLines s, IsU8 l := splitLines_valid h

/-- `uc_chr` points at a character boundary of a valid line — for every offset -/
theorem uc_chr_boundary {s : Bytes} (h : IsU8 s) {off : Int} {i : Nat} (hc : chrI s off = some i) : IsBd s i := chrI_isBd h hc

/-- `uc_sub` of a valid line is valid — for all offsets (also reversed or out of range) -/
theorem uc_sub_valid {s : Bytes} (h : IsU8 s) {b e : Int} {x : Bytes} (hs : subI s b e = some x) : IsU8 x := subI_valid h hs

/-- the case loop of `~ gu gU g~` on valid text: only ASCII letters change, the result is valid -/
theorem case_loop_valid (cmd : Nat) {x : Bytes} (h : IsU8 x) : IsU8 (caseMap cmd (x.length + 1) x) := caseMap_valid cmd h

/-- `~` on `aéZ`: `AÉz`?  No: `Aéz` — the non-ASCII letter is left alone (its bytes are copied) -/
example : caseMap 126 5 [0x61, 0xc3, 0xa9, 0x5a] = [0x41, 0xc3, 0xa9, 0x7a] := by decide

/-! ## 2. `lbuf.c` -/

/-- `lbuf_replace` with a valid text (or NULL) -/
theorem lbuf_replace_valid {lb lb' : Lb} {s : Option Bytes} {pos nDel : Nat} (h : LbOk lb) (hs : OptValid s)
    (hr : replace lb s pos nDel = some lb') : LbOk lb' := replace_ok h hs hr

/-- `lbuf_edit` with a valid text: lines and the new undo record are valid -/
theorem lbuf_edit_valid {lb lb' : Lb} {buf : Option Bytes} {b e : Nat} (h : LbOk lb) (hb : OptValid buf)
    (hr : Lbuf.edit lb buf b e = some lb') : LbOk lb' := edit_ok h hb hr

/-- `lbuf_undo` puts back valid lines (the history holds only valid text) -/
theorem lbuf_undo_valid {lb lb' : Lb} {rc : Nat} (h : LbOk lb) (hr : Lbuf.undo lb = some (rc, lb')) : LbOk lb' := undo_ok h hr

/-- `lbuf_redo` -/
theorem lbuf_redo_valid {lb lb' : Lb} {rc : Nat} (h : LbOk lb) (hr : Lbuf.redo lb = some (rc, lb')) : LbOk lb' := redo_ok h hr

/-- `lbuf_rd` of a valid file, whatever way the kernel chunks the reads -/
theorem lbuf_rd_valid {lb lb' : Lb} {chunks : List Bytes} {finErr : Bool} {b e rc : Nat} (h : LbOk lb)
    (hc : IsU8 chunks.flatten) (hr : LbufIo.rd lb chunks finErr b e = some (rc, lb')) : LbOk lb' := rd_ok h hc hr

example : LbOk exLb := by decide +kernel
example : (Lbuf.undo exLb).isSome = true ∧ OptValid (some [0xe4, 0xb8, 0xad, 10]) := by decide +kernel

/-! ## 3. ex -/

/-- **the dispatcher** on one parsed command that `okH` accepts, with a valid text argument — every fuel -/
theorem ex_dispatch_valid {f d : Nat} {ed ed' : Ed} {hd : String} {loc cmd arg : Bytes} {txt : Option Bytes} {r : Int}
    (hok : okH (okLine d) hd arg = true) (htxt : OptValid txt) (hi : EdOk ed)
    (h : runCmd f ed hd loc cmd arg txt = some (r, ed')) : EdOk ed' := runCmd_ok hok htxt hi h

/-- `:d` — the lines go to the register, the rest stays -/
theorem ex_delete_valid {f : Nat} {ed ed' : Ed} {loc cmd arg : Bytes} {r : Int} (hi : EdOk ed)
    (h : runCmd f ed "ec_delete" loc cmd arg none = some (r, ed')) : EdOk ed' :=
  runCmd_ok (d := 0) (by rfl) optValid_none hi h

/-- a run: `:d` on the example state deletes `aé` (the dispatcher returns, so the theorem applies) -/
example : linesOf (runCmd 1 exEd "ec_delete" [] [100] [] none) = [[0xe4, 0xb8, 0xad, 0x62, 10]] := by
  rw [runCmd]
  simp (config := {decide := true}) only []

/-- `:y` -/
theorem ex_yank_valid {f : Nat} {ed ed' : Ed} {loc cmd arg : Bytes} {r : Int} (hi : EdOk ed)
    (h : runCmd f ed "ec_yank" loc cmd arg none = some (r, ed')) : EdOk ed' :=
  runCmd_ok (d := 0) (by rfl) optValid_none hi h

/-- `:pu` from any register: a stored one, the current line `;`, the numbers `#` `^` -/
theorem ex_put_valid {f : Nat} {ed ed' : Ed} {loc cmd arg : Bytes} {r : Int}
    (hi : EdOk ed) (h : runCmd f ed "ec_put" loc cmd arg none = some (r, ed')) : EdOk ed' :=
  runCmd_ok (d := 0) (by rfl) optValid_none hi h

/-- `:a`, `:i`, `:c` with a valid typed text -/
theorem ex_insert_valid {f : Nat} {ed ed' : Ed} {loc cmd arg : Bytes} {txt : Option Bytes} {r : Int} (htxt : OptValid txt)
    (hi : EdOk ed) (h : runCmd f ed "ec_insert" loc cmd arg txt = some (r, ed')) : EdOk ed' :=
  runCmd_ok (d := 0) (by rfl) htxt hi h

/-- `:r file` and `:r !cmd` with a valid argument: the files and the outputs of the shell oracle are valid -/
theorem ex_read_valid {f : Nat} {ed ed' : Ed} {loc cmd arg : Bytes} {r : Int} (harg : IsU8 arg)
    (hi : EdOk ed) (h : runCmd f ed "ec_read" loc cmd arg none = some (r, ed')) : EdOk ed' :=
  runCmd_ok (d := 0) (show okH _ "ec_read" arg = true from (u8chk_iff arg).mpr harg) optValid_none hi h

/-- `:u` -/
theorem ex_undo_valid {f : Nat} {ed ed' : Ed} {loc cmd arg : Bytes} {r : Int} (hi : EdOk ed)
    (h : runCmd f ed "ec_undo" loc cmd arg none = some (r, ed')) : EdOk ed' :=
  runCmd_ok (d := 0) (by rfl) optValid_none hi h

/-- `:redo` -/
theorem ex_redo_valid {f : Nat} {ed ed' : Ed} {loc cmd arg : Bytes} {r : Int} (hi : EdOk ed)
    (h : runCmd f ed "ec_redo" loc cmd arg none = some (r, ed')) : EdOk ed' :=
  runCmd_ok (d := 0) (by rfl) optValid_none hi h

/-- `:g` / `:v` with a command list that `okLine d` accepts -/
theorem ex_glob_valid {f d : Nat} {ed ed' : Ed} {loc cmd arg : Bytes} {r : Int} (hbody : okLine d (reRead arg).2 = true)
    (hi : EdOk ed) (h : runCmd f ed "ec_glob" loc cmd arg none = some (r, ed')) : EdOk ed' :=
  runCmd_ok (d := d) (show okH _ "ec_glob" arg = true from hbody) optValid_none hi h

/-- `:s` with a non-empty valid pattern and a valid replacement (`substOk`) — via `C16b.subst_keeps_valid_ed` -/
theorem ex_subst_valid {f : Nat} {ed ed' : Ed} {loc cmd arg : Bytes} {r : Int} (hs : substOk arg = true)
    (hi : EdOk ed) (h : runCmd f ed "ec_substitute" loc cmd arg none = some (r, ed')) : EdOk ed' :=
  runCmd_ok (d := 0) (show okH _ "ec_substitute" arg = true from hs) optValid_none hi h

/-- `:w` with a valid file name: the file written holds the (valid) lines -/
theorem ex_write_valid {f : Nat} {ed ed' : Ed} {loc cmd arg : Bytes} {r : Int} (harg : IsU8 arg)
    (hi : EdOk ed) (h : runCmd f ed "ec_write" loc cmd arg none = some (r, ed')) : EdOk ed' :=
  runCmd_ok (d := 0) (show okH _ "ec_write" arg = true from (u8chk_iff arg).mpr harg) optValid_none hi h

/-- `:!cmd` on a range: the closed shell of the harness (and every oracle entry) maps valid text to valid text -/
theorem ex_filter_valid {f : Nat} {ed ed' : Ed} {loc cmd arg : Bytes} {r : Int} (harg : IsU8 arg)
    (hi : EdOk ed) (h : runCmd f ed "ec_exec" loc cmd arg none = some (r, ed')) : EdOk ed' :=
  runCmd_ok (d := 0) (show okH _ "ec_exec" arg = true from (u8chk_iff arg).mpr harg) optValid_none hi h

/-- **`ex_command`**: a command line `okLine d` accepts, run on a valid state, leaves a valid state —
all buffers, registers, files, the undo history — for every fuel -/
theorem exCommand_valid {f d : Nat} {ed ed' : Ed} {ln : Bytes} {r : Int} (hq : okLine d ln = true) (hi : EdOk ed)
    (h : exCommand f ed ln = some (r, ed')) : EdOk ed' := exCommand_ok hq hi h

/-- one round of the `ex()` loop (`exStep`): the line read from the input is run and remembered in register `:` -/
theorem exStep_valid {d : Nat} {ed ed' : Ed} {r : Int} (hi : EdOk ed)
    (hq : ∀ ln rest, ed.input = ln :: rest → okLine d ln = true) (h : exStep ed = some (r, ed')) : EdOk ed' := by
  unfold exStep at h
  split at h
  · cases h
  · rename_i ln rest hin
    simp only [] at h
    split at h
    · cases h
    · rename_i r1 ed1 he
      cases h
      have hln : IsU8 ln := hi.input ln (by rw [hin]; simp)
      have h0 : EdOk { ed with input := rest, out := [], msg := [], calls := 0, fired := 0 } :=
        ⟨hi.bufs, hi.regs, fun l hl => hi.input l (by rw [hin]; simp [hl]), hi.pipes, hi.files, hi.nofault⟩
      have h1 := exCommand_ok (hq ln rest hin) h0 he
      exact ⟨h1.bufs, h1.regs.put _ hln _, h1.input, h1.pipes, h1.files, rfl⟩

/-- what `okLine` accepts: `g/é/d`, `1,2d|pu`, `s/é/中/g`, `g/a/s/b/é/|d`, nested `g`, `w é.txt`, `r !cat`,
`rs a` with inline text, `u|redo|ya|d x|1k a`, `pu ;` … -/
example : okLine 1 [112, 117, 32, 59] = true := by decide +kernel
example : okLine 1 [103, 47, 0xc3, 0xa9, 47, 100] = true := by decide +kernel
example : okLine 0 [49, 44, 50, 100, 124, 112, 117] = true := by decide +kernel
example : okLine 0 [115, 47, 0xc3, 0xa9, 47, 0xe4, 0xb8, 0xad, 47, 103] = true := by decide +kernel
example : okLine 2 [103, 47, 97, 47, 103, 47, 98, 47, 100] = true := by decide +kernel
example : okLine 0 [119, 32, 0xc3, 0xa9, 46, 116, 120, 116] = true := by decide +kernel
/-- … and what it refuses: `@a`, `e +3 foo`, `g` deeper than `d`, and a `:s` whose delimiter is a lead byte (a
delimiter of 0x80 and above never closes the pattern, so the pattern is the rest of the line, starting with the
continuation byte of the delimiter's character) -/
example : okLine 1 [64, 97] = false := by decide +kernel
example : okLine 0 [103, 47, 97, 47, 100] = false := by decide +kernel
example : okLine 1 [0x73, 0xc3, 0xa9, 0x2a, 0xc3, 0xa9, 0x79] = false := by decide +kernel
/-- `re_read` with the delimiter `C3` (the lead byte of `é`), on `é*éy`: as in the C code (`delim` is read as
`unsigned char`, the bytes compared with it as `char`) the second `C3` does not close the pattern — the pattern
is everything after the first byte. -/
theorem reRead_lead_byte_delimiter :
    reRead [0xc3, 0xa9, 0x2a, 0xc3, 0xa9, 0x79] = (some [0xa9, 0x2a, 0xc3, 0xa9, 0x79], []) := by decide +kernel

/-! ### the computed register `;` -/

/-- **whatever `reg_get` hands out is valid UTF-8**: the stored registers, the current line `;` (whole, whatever its
length), the numbers `#` and `^` -/
theorem all_registers_valid {ed : Ed} (h : EdOk ed) (c : Nat) : OptValid (regGet ed c) := regGet_valid h c

/-- the register `;` (the current line without its newline) is valid, whatever the length of the line -/
theorem line_register_valid {ed : Ed} (h : EdOk ed) : OptValid (regGet ed 59) := regGet_line_valid h

/-- a line of 1022 `a`, `é`, `b` -/
def longLine : Bytes := List.replicate 1022 97 ++ [0xc3, 0xa9, 98, 10]
def edLong : Ed := { bufs := [some { path := [], lb := { lines := [longLine] } }] }

theorem edLong_ok : EdOk edLong := by
  refine ⟨fun b hb x hx => ?_, regsValid_init, by decide, by decide, by decide, rfl⟩
  cases hx
  cases List.mem_singleton.mp hb
  refine ⟨⟨fun l hl => ?_, fun l hl => ?_, by decide⟩, isU8_nil⟩
  · cases List.mem_singleton.mp hl
    exact isU8_append (isU8_replicate (by decide) (by decide) _) (by decide)
  · cases List.mem_singleton.mp hl
    decide +kernel

set_option maxRecDepth 100000 in
/-- **`:pu ;` on a long line puts the whole line.**  Were `reg_get(';')` to copy the line through a buffer of 1024
bytes, on this line the cut would fall inside `é` and `:pu ;` would write `… a a C3` — invalid UTF-8 (/repo commit
c41ab90).  The second line is the first. -/
theorem pu_semicolon_whole :
    linesOf (runCmd 1 edLong "ec_put" [] [112, 117] [59] none) = [longLine, longLine] ∧ IsU8 longLine := by
  refine ⟨?_, isU8_append (isU8_replicate (by decide) (by decide) _) (by decide)⟩
  rw [runCmd]
  simp (config := {decide := true}) only [↓reduceIte]

/-! ## 4. vi -/

/-- `vi_yank` on any region -/
theorem vi_yank_valid (r1 o1 r2 o2 : Int) (ln : Bool) (s s' : VS) (a : Nat) (hs : VsOk s)
    (h : viYank r1 o1 r2 o2 ln s = Res.ok a s') : VsOk s' := pres_viYank r1 o1 r2 o2 ln s a s' hs h

/-- `vi_delete` on any region, line-wise or character-wise -/
theorem vi_delete_valid (r1 o1 r2 o2 : Int) (ln : Bool) (s s' : VS) (a : Nat) (hs : VsOk s)
    (h : viDelete r1 o1 r2 o2 ln s = Res.ok a s') : VsOk s' := pres_viDelete r1 o1 r2 o2 ln s a s' hs h

/-- `vi_case` (`~ gu gU g~`) on any region -/
theorem vi_case_valid (r1 o1 r2 o2 : Int) (ln : Bool) (cmd : Nat) (s s' : VS) (a : Nat) (hs : VsOk s)
    (h : viCase r1 o1 r2 o2 ln cmd s = Res.ok a s') : VsOk s' := pres_viCase r1 o1 r2 o2 ln cmd s a s' hs h

/-- `vi_shift` (`>` `<`) on any rows -/
theorem vi_shift_valid (r1 r2 dir : Int) (s s' : VS) (a : Nat) (hs : VsOk s)
    (h : viShift r1 r2 dir s = Res.ok a s') : VsOk s' := pres_viShift r1 r2 dir s a s' hs h

/-- `vc_join` (`J`, any count): the blanks dropped and put in are ASCII, the newline cut is ASCII -/
theorem vc_join_valid (s s' : VS) (a : Nat) (hs : VsOk s) (h : vcJoin s = Res.ok a s') : VsOk s' := pres_vcJoin s a s' hs h

/-- `vc_put` (`p P`, any count, line-wise and character-wise) from any register, also `"; "# "^` -/
theorem vc_put_valid (cmd : Nat) (s s' : VS) (a : Nat) (hs : VsOk s)
    (h : vcPut cmd s = Res.ok a s') : VsOk s' := pres_vcPut cmd s a s' hs h

/-- `vc_replace` (`r`, any count) when the character read is valid -/
theorem vc_replace_valid (s s' : VS) (a : Nat) (hs : VsOk s) (hchar : ∀ cs s1, viChar s = Res.ok (some cs) s1 → IsU8 cs)
    (h : vcReplace s = Res.ok a s') : VsOk s' := vcReplace_ok s s' a hs hchar h

/-- insert mode and the line editor only read keys: they change nothing the invariant reads -/
theorem insert_mode_keeps_state (pref post : Bytes) (s s' : VS) (r : Bytes × Int × Int) (hs : VsOk s)
    (h : viInput pref post s = Res.ok r s') : VsOk s' := pres_viInput pref post s r s' hs h

/-- `vi_change` (`c` + any region, `cc s S C`) when the typed text will be valid -/
theorem vi_change_valid (r1 o1 r2 o2 : Int) (ln : Bool) (s s' : VS) (a : Nat) (hs : VsOk s) (ht : TypedTextValid s)
    (h : viChange r1 o1 r2 o2 ln s = Res.ok a s') : VsOk s' := presT_viChange r1 o1 r2 o2 ln s a s' hs ht h

/-- `vc_insert` (`i a I A o O`) when the typed text will be valid -/
theorem vc_insert_valid (cmd : Nat) (s s' : VS) (a : Nat) (hs : VsOk s) (ht : TypedTextValid s)
    (h : vcInsert cmd s = Res.ok a s') : VsOk s' := presT_vcInsert cmd s a s' hs ht h

/-- the operator dispatch of `vc_motion` -/
theorem apply_op_valid (cmd : Nat) (r1 o1 r2 o2 : Int) (ln : Bool) (s s' : VS) (a : Nat) (hs : VsOk s)
    (ht : cmd = 99 → TypedTextValid s) (h : Lemmas.C08f.applyOp cmd r1 o1 r2 o2 ln s = Res.ok a s') : VsOk s' :=
  applyOp_ok cmd r1 o1 r2 o2 ln s s' a hs ht h

/-- `vc_motion`: any operator with any motion, given that reading the count and the motion leaves a valid state
(and, for `c`, one in which the typed text will be valid).  It does whenever the editor record is untouched: every
motion but the searches `/ ?`, which store the typed pattern in a register. -/
theorem vc_motion_valid (cmd : Nat) (s s' : VS) (a : Nat) (hs : VsOk s) (h : vcMotion cmd s = Res.ok a s')
    (hread : ∀ a2 sp res sm, viPrefix s = Res.ok a2 sp →
      Lemmas.C08f.readMotion cmd s.ed.xrow (noeol s s.ed.xrow s.ed.xoff) { sp with arg2 := a2 } = Res.ok res sm →
      VsOk sm ∧ (cmd = 99 → TypedTextValid sm)) : VsOk s' := by
  rw [Lemmas.C08f.vcMotion_apply] at h
  cases hp : viPrefix s with
  | eof => rw [hp] at h; cases h
  | trap => rw [hp] at h; cases h
  | ok a2 sp =>
    rw [hp] at h
    dsimp only at h
    have hsp : VsOk sp := pres_viPrefix s a2 sp hs hp
    split at h
    · cases h; exact hsp
    · rw [Lemmas.C08f.vcCore_apply] at h
      cases hr : Lemmas.C08f.readMotion cmd s.ed.xrow (noeol s s.ed.xrow s.ed.xoff) { sp with arg2 := a2 } with
      | eof => rw [hr] at h; cases h
      | trap => rw [hr] at h; cases h
      | ok res sm =>
        rw [hr] at h
        obtain ⟨k1, k2⟩ := hread a2 sp res sm hp hr
        cases res with
        | none => cases h; exact k1
        | some x =>
          obtain ⟨mv, r2, o2⟩ := x
          dsimp only at h
          split at h
          · cases h; exact k1
          · exact applyOp_ok cmd _ _ _ _ _ sm s' a k1 k2 h

/-- the example state after `x` was pressed: `d` with SPC pushed back -/
def exX : VS := { exVs [] with vibuf := [32] }

/-- the hypothesis of `vc_motion_valid` holds there (the motion SPC does not touch the editor record) … -/
example : ∀ a2 sp res sm, viPrefix exX = Res.ok a2 sp →
      Lemmas.C08f.readMotion 100 exX.ed.xrow (noeol exX exX.ed.xrow exX.ed.xoff) { sp with arg2 := a2 } = Res.ok res sm →
      VsOk sm ∧ ((100 : Nat) = 99 → TypedTextValid sm) := by
  intro a2 sp res sm hp hr
  refine ⟨?_, fun h => absurd h (by decide)⟩
  have e1 : viPrefix exX = Res.ok 0 exX := by rfl
  rw [e1] at hp
  cases hp
  have e2 : okAfter (Lemmas.C08f.readMotion 100 exX.ed.xrow (noeol exX exX.ed.xrow exX.ed.xoff) { exX with arg2 := 0 }) = true := by
    decide +kernel
  rw [hr] at e2
  exact of_decide_eq_true e2

/-- … and `x` on `aé` leaves `é`, valid -/
example : okAfter (vcMotion 100 exX) = true ∧
    linesAfter (vcMotion 100 exX) = [[0xc3, 0xa9, 10], [0xe4, 0xb8, 0xad, 0x62, 10]] := by decide +kernel

/-- `"ap` on the example state puts `é` after `a`; `~` on `a` gives `Aé` -/
example : okAfter (vcPut 112 { exVs [] with ybuf := 97 }) = true ∧
    linesAfter (vcPut 112 { exVs [] with ybuf := 97 }) = [[0x61, 0xc3, 0xa9, 0xc3, 0xa9, 10], [0xe4, 0xb8, 0xad, 0x62, 10]] ∧
    linesAfter (viCase 0 0 0 2 false 126 (exVs [])) = [[0x41, 0xc3, 0xa9, 10], [0xe4, 0xb8, 0xad, 0x62, 10]] := by
  decide +kernel

/-- `u` and `^R` -/
theorem vi_undo_valid (s : VS) (lb lb' : Lb) (rc : Nat) (redo : Bool) (hs : VsOk s) (hlb : s.ed.lb = some lb)
    (h : (if redo then Lbuf.redo lb else Lbuf.undo lb) = some (rc, lb')) : VsOk { s with ed := s.ed.setLb lb' } := by
  apply EdOk.setLb hs
  cases redo
  · exact undo_ok (EdOk.lb hs hlb) h
  · exact redo_ok (EdOk.lb hs hlb) h

/-- `:` from vi with a line `okLine` accepts -/
theorem ex_from_vi_valid (ln : Bytes) (d : Nat) (s s' : VS) (rc : Int) (hs : VsOk s) (hq : okLine d ln = true)
    (h : exCommandV ln s = Res.ok rc s') : VsOk s' := by
  rcases Lemmas.C09.exCommandV_inv h with rfl | ⟨a, u, ed, he, rfl⟩
  · exact hs
  · have h0 : EdOk { s.ed with out := [], msg := [], input := [], xvis := true } :=
      ⟨hs.bufs, hs.regs, by intro l hl; simp at hl, hs.pipes, hs.files, hs.nofault⟩
    exact exCommand_ok hq h0 he

/-! ### typed text -/

/-- the text insert mode returns for typed lines is valid when the text around the insertion point is -/
theorem input_text_valid (xai : Bool) {pref post : Bytes} (hp : IsU8 pref) (hq : IsU8 post) (ls : List (List Nat))
    (last : List Nat) (hv : ∀ l ∈ last :: ls, ∀ c ∈ l, ValidCp c) : IsU8 (Props.C08e.inputText xai pref post ls last) :=
  inputText_valid xai hp hq ls last hv

/-- **typed lines**: lines of printable characters and tabs (any valid code point ≥ U+0020 but DEL), each ended
by a newline, the last by ESC, under the default keymap — then `TypedTextValid` holds -/
theorem typed_lines_valid_text (s : VS) (ls : List (List Nat)) (last : List Nat) (rest : Bytes)
    (hp : Lemmas.C09.pending s = (ls.map (fun l => encStr l ++ [10])).flatten ++ encStr last ++ [27] ++ rest)
    (hpl : ∀ l ∈ last :: ls, Lemmas.C08e.TLine l) (hlen : ls.length < 100000) (hk : s.xkmap = 0) : TypedTextValid s :=
  typedTextValid_of_lines s ls last rest hp hpl hlen hk

/-- `i a I A o O`, key level: the command with such typed lines pending -/
theorem vc_insert_lines_valid (cmd : Nat) (s s' : VS) (a : Nat) (ls : List (List Nat)) (last : List Nat) (rest : Bytes)
    (hs : VsOk s)
    (hp : Lemmas.C09.pending s = (ls.map (fun l => encStr l ++ [10])).flatten ++ encStr last ++ [27] ++ rest)
    (hpl : ∀ l ∈ last :: ls, Lemmas.C08e.TLine l) (hlen : ls.length < 100000) (hk : s.xkmap = 0)
    (h : vcInsert cmd s = Res.ok a s') : VsOk s' :=
  presT_vcInsert cmd s a s' hs (typedTextValid_of_lines s ls last rest hp hpl hlen hk) h

/-- `c` on a region with such typed lines pending -/
theorem vi_change_lines_valid (r1 o1 r2 o2 : Int) (ln : Bool) (s s' : VS) (a : Nat) (ls : List (List Nat))
    (last : List Nat) (rest : Bytes) (hs : VsOk s)
    (hp : Lemmas.C09.pending s = (ls.map (fun l => encStr l ++ [10])).flatten ++ encStr last ++ [27] ++ rest)
    (hpl : ∀ l ∈ last :: ls, Lemmas.C08e.TLine l) (hlen : ls.length < 100000) (hk : s.xkmap = 0)
    (h : viChange r1 o1 r2 o2 ln s = Res.ok a s') : VsOk s' :=
  presT_viChange r1 o1 r2 o2 ln s a s' hs (typedTextValid_of_lines s ls last rest hp hpl hlen hk) h

/-- `r` followed by a printable character -/
theorem vc_replace_typed_valid (s s' : VS) (a : Nat) (c : Nat) (rest : Bytes) (hs : VsOk s)
    (hc : ValidCp c ∧ 32 ≤ c ∧ c ≠ 127) (hp : Lemmas.C09.pending s = enc c ++ rest) (hk : s.xkmap = 0)
    (h : vcReplace s = Res.ok a s') : VsOk s' := by
  obtain ⟨s1, h1, _, _⟩ := Lemmas.C08b.viChar_enc s c rest hc hp hk
  refine vcReplace_ok s s' a hs ?_ h
  intro cs s2 hv
  rw [h1] at hv
  injection hv with hv _
  injection hv with hv
  subst hv
  exact isU8_enc hc.1

/-- the hypotheses hold of a concrete run: `i`, the keys `é`, newline, tab `中`, ESC on the example state -/
example : VsOk (exVs [0xc3, 0xa9, 10, 9, 0xe4, 0xb8, 0xad, 27]) ∧
    Lemmas.C09.pending (exVs [0xc3, 0xa9, 10, 9, 0xe4, 0xb8, 0xad, 27]) =
      ([[0xe9]].map (fun l => encStr l ++ [10])).flatten ++ encStr [9, 0x4e2d] ++ [27] ++ [] ∧
    (∀ l ∈ [9, 0x4e2d] :: [[0xe9]], Lemmas.C08e.TLine l) := by decide +kernel

/-- … and the conclusion, evaluated: the buffer becomes `é` / TAB `中aé` / `中b` -/
example : (match vcInsert 105 (exVs [0xc3, 0xa9, 10, 9, 0xe4, 0xb8, 0xad, 27]) with
    | Res.ok _ s' => (Vi.lines s', decide (VsOk s'))
    | _ => ([], false)) =
    ([[0xc3, 0xa9, 10], [9, 0xe4, 0xb8, 0xad, 0x61, 0xc3, 0xa9, 10], [0xe4, 0xb8, 0xad, 0x62, 10]], true) := by
  decide +kernel

/-! ### every valid key stream without `^V` -/

/-- **the line editor `led_line`** (insert mode, the `:` prompt, the search prompt) on a valid key stream without
`^V`: the text it returns is valid UTF-8, the auto-indent is made of blanks, the state and the keys to come stay
valid — backspace, `^U ^W ^T ^D`, `^P`, `^R` + any register name, `^K` + any two characters, `^F ^E`, `^A`,
multi-byte characters -/
theorem led_line_keys_valid (pref post ai0 : Bytes) (aiMax : Nat) (ins ex : Bool) (s s' : VS) (r : Bytes × Int × Bytes)
    (hs : VsOk s) (hq : KeysOk s) (hai : ∀ c ∈ ai0, isBlankC c = true)
    (h : ledLine pref post ai0 aiMax ins ex s = Res.ok r s') :
    IsU8 r.1 ∧ (∀ c ∈ r.2.2, isBlankC c = true) ∧ VsOk s' ∧ KeysOk s' := ledLine_tr pref post ai0 aiMax ins ex hai s r s' ⟨hs, hq⟩ h

/-- **insert mode `vi_input`** on such a key stream, between valid texts: the text is valid, the keys to come stay valid -/
theorem vi_input_keys_valid (pref post : Bytes) (s s' : VS) (r : Bytes × Int × Int) (hs : VsOk s) (hq : KeysOk s)
    (hp : IsU8 pref) (hpost : IsU8 post) (h : viInput pref post s = Res.ok r s') : IsU8 r.1 ∧ VsOk s' ∧ KeysOk s' :=
  viInput_tr pref post hp hpost s r s' ⟨hs, hq⟩ h

/-- … so `TypedTextValid` holds -/
theorem typed_keys_valid_text {s : VS} (hq : KeysOk s) : TypedTextValid s := typedTextValid_of_keys hq

/-- **`i a I A o O`, key level, every valid key stream without `^V`** -/
theorem vc_insert_keys_valid (cmd : Nat) (s s' : VS) (a : Nat) (hs : VsOk s) (hq : KeysOk s)
    (h : vcInsert cmd s = Res.ok a s') : VsOk s' := presT_vcInsert cmd s a s' hs (typedTextValid_of_keys hq) h

/-- **`c` on a region**, every valid key stream without `^V` -/
theorem vi_change_keys_valid (r1 o1 r2 o2 : Int) (ln : Bool) (s s' : VS) (a : Nat) (hs : VsOk s) (hq : KeysOk s)
    (h : viChange r1 o1 r2 o2 ln s = Res.ok a s') : VsOk s' :=
  presT_viChange r1 o1 r2 o2 ln s a s' hs (typedTextValid_of_keys hq) h

/-- **`r`**, every valid key stream without `^V` (the character may come from `^K` or a keymap) -/
theorem vc_replace_keys_valid (s s' : VS) (a : Nat) (hs : VsOk s) (hq : KeysOk s) (h : vcReplace s = Res.ok a s') : VsOk s' := by
  refine vcReplace_ok s s' a hs ?_ h
  intro cs s1 hv
  unfold viChar at hv
  exact (viChar_go_tr 64 s _ s1 ⟨hs, hq⟩ hv).1 cs rfl

/-- `KeysOk` is decidable; the streams of the two examples below satisfy it -/
example : KeysOk (exVs [11, 0xe4, 0xb8, 0xad, 0x61, 27]) ∧ KeysOk (exVs [18, 0xc3, 0xa9, 27]) ∧
    ¬ KeysOk (exVs [22, 0xc3, 27]) := by decide +kernel

/-- **`^K` reads whole characters**: `i ^K 中 a ESC` takes `中` and `a` for the two digraph characters; no such
digraph: nothing is inserted.  (Were `^K` to read two *bytes*, `E4 B8`, the remaining continuation byte `AD`
would go into the line — invalid UTF-8 from a valid key stream: /repo commit 90b14db.) -/
theorem digraph_key_whole_char :
    linesAfter (vcInsert 105 (exVs [11, 0xe4, 0xb8, 0xad, 0x61, 27])) =
      [[0x61, 0xc3, 0xa9, 10], [0xe4, 0xb8, 0xad, 0x62, 10]] ∧
    okAfter (vcInsert 105 (exVs [11, 0xe4, 0xb8, 0xad, 0x61, 27])) = true := by decide +kernel

/-- **`^R` reads the register name as a whole character**: `i ^R é ESC` names the (empty) register `C3`; nothing
is inserted (with the name read as one byte, `A9` would be).  And
`^K a :` (`ä`), `^R ;` (the line), `^R #` (the line number) insert valid text. -/
theorem register_key_whole_char :
    linesAfter (vcInsert 105 (exVs [18, 0xc3, 0xa9, 27])) = [[0x61, 0xc3, 0xa9, 10], [0xe4, 0xb8, 0xad, 0x62, 10]] ∧
    linesAfter (vcInsert 105 (exVs [11, 0x61, 0x3a, 18, 0x3b, 18, 0x23, 27])) =
      [[0xc3, 0xa4, 0x61, 0xc3, 0xa9, 0x31, 0x61, 0xc3, 0xa9, 10], [0xe4, 0xb8, 0xad, 0x62, 10]] ∧
    okAfter (vcInsert 105 (exVs [11, 0x61, 0x3a, 18, 0x3b, 18, 0x23, 27])) = true := by decide +kernel

/-- `^V` is rightly excluded: it inserts the next byte raw — `i ^V C3 ESC` -/
theorem literal_key_raw_byte :
    linesAfter (vcInsert 105 (exVs [22, 0xc3, 27])) = [[0xc3, 0x61, 0xc3, 0xa9, 10], [0xe4, 0xb8, 0xad, 0x62, 10]] ∧
    ¬ IsU8 [0xc3, 0x61, 0xc3, 0xa9, 10] := by decide +kernel

/-! ### from the end-to-end specifications of C08f (text and registers) -/

/-- a deletion inside one row (`row_delete`: `x X D d0 dw de dfc dtc dl dh` …) -/
theorem row_delete_valid {s sm s' : VS} {r : Int} {body : List Nat} {a b : Nat}
    (h : Props.C08f.RowDeleted s sm s' r body a b) (hb : ∀ c ∈ body, ValidCp c)
    (hl : ∀ l ∈ Vi.lines s, IsU8 l) (hr : RegsValid s.ed.regs) :
    (∀ l ∈ Vi.lines s', IsU8 l) ∧ RegsValid s'.ed.regs := RowDeleted.valid h hb hl hr

/-- a line-wise deletion (`line_delete`: `dd d_ dj dk dG d+ d-` …) -/
theorem line_delete_valid {s sm s' : VS} {lo hi : Int} (h : Props.C08f.LineDeleted s sm s' lo hi)
    (hl : ∀ l ∈ Vi.lines s, IsU8 l) (hr : RegsValid s.ed.regs) :
    (∀ l ∈ Vi.lines s', IsU8 l) ∧ RegsValid s'.ed.regs := LineDeleted.valid h hl hr

/-- **`x`** (`[count]x`), key level -/
theorem x_valid (s s1 : VS) (a2 : Int) (body : List Nat) (o : Nat) (hk : Props.C08f.Prefixed s a2 32 s1)
    (hrow : Props.C08f.OnRow s body o) (hl : ∀ l ∈ Vi.lines s, IsU8 l) (hr : RegsValid s.ed.regs) :
    ∃ s', vcMotion 100 s = Res.ok VC_OK s' ∧ (∀ l ∈ Vi.lines s', IsU8 l) ∧ RegsValid s'.ed.regs := by
  obtain ⟨s', e, h⟩ := Props.C08f.x_spec s s1 a2 body o hk hrow
  exact ⟨s', e, RowDeleted.valid h hrow.valid hl hr⟩

/-- **`dw`** landing on the same row, key level -/
theorem dw_valid (s s1 : VS) (a2 : Int) (body : List Nat) (o t : Nat) (hk : Props.C08f.Prefixed s a2 119 s1)
    (hrow : Props.C08f.OnRow s body o) (hu : Props.C07c.Utf8Buf (Vi.lines s))
    (href : Motion.wordFwdRaw false (Props.C07c.refBufU (Vi.lines s)) ⟨s.ed.xrow.toNat, o⟩ (Props.C08f.opCount s a2).toNat =
      ⟨s.ed.xrow.toNat, t⟩)
    (hl : ∀ l ∈ Vi.lines s, IsU8 l) (hr : RegsValid s.ed.regs) :
    ∃ s', vcMotion 100 s = Res.ok VC_OK s' ∧ (∀ l ∈ Vi.lines s', IsU8 l) ∧ RegsValid s'.ed.regs := by
  obtain ⟨s', e, h⟩ := Props.C08f.dw_spec s s1 a2 body o t hk hrow hu href
  exact ⟨s', e, RowDeleted.valid h hrow.valid hl hr⟩

/-- **`dd`** (`[count]dd`), key level -/
theorem dd_valid (s s1 : VS) (a2 : Int) (lb : Lb) (hlb : s.ed.lb = some lb) (hk : Props.C08f.Prefixed s a2 100 s1)
    (ha : 0 ≤ s.arg1) (h0 : 0 ≤ s.ed.xrow) (h1 : s.ed.xrow < lenOf s)
    (hl : ∀ l ∈ Vi.lines s, IsU8 l) (hr : RegsValid s.ed.regs) :
    ∃ s', vcMotion 100 s = Res.ok VC_OK s' ∧ (∀ l ∈ Vi.lines s', IsU8 l) ∧ RegsValid s'.ed.regs := by
  obtain ⟨s', e, h⟩ := Props.C08f.dd_spec s s1 a2 lb hlb hk ha h0 h1
  exact ⟨s', e, LineDeleted.valid h hl hr⟩

/-- **`yy`**, key level: the text is unchanged, the register receives valid lines -/
theorem yy_valid (s s1 : VS) (a2 : Int) (hk : Props.C08f.Prefixed s a2 121 s1) (ha : 0 ≤ s.arg1)
    (h0 : 0 ≤ s.ed.xrow) (h1 : s.ed.xrow < lenOf s) (hl : ∀ l ∈ Vi.lines s, IsU8 l) (hr : RegsValid s.ed.regs) :
    ∃ s', vcMotion 121 s = Res.ok VC_COL s' ∧ (∀ l ∈ Vi.lines s', IsU8 l) ∧ RegsValid s'.ed.regs :=
  ⟨_, Props.C08f.yy_spec s s1 a2 hk ha h0 h1, yankedRows_valid s _ _ _ hl hr⟩

/-! ## 5. cutting at a character boundary, and inside a character -/

/-- each piece of a valid string cut inside it is valid exactly when the cut is at a character boundary -/
theorem cut_valid_iff {s : Bytes} (h : IsU8 s) {k : Nat} (hk : k < s.length) :
    (IsU8 (s.take k) ↔ IsBd s k) ∧ (IsU8 (s.drop k) ↔ IsBd s k) := Lemmas.C16c.cut_valid_iff h hk

/-- cutting inside a multi-byte character gives two invalid pieces: the invariant is not vacuous -/
theorem cut_inside_invalid {s : Bytes} (h : IsU8 s) {k : Nat} (hk : k < s.length) (hnb : ¬ IsBd s k) :
    ¬ IsU8 (s.take k) ∧ ¬ IsU8 (s.drop k) :=
  ⟨fun ht => hnb ((cut_valid_iff h hk).1.mp ht), fun hd => hnb ((cut_valid_iff h hk).2.mp hd)⟩

/-- in code points: cutting `encStr cs` at the byte offset of character `j` gives `encStr` of the two parts' bytes, both valid -/
theorem cut_codepoints {cs : List Nat} (hv : Valid cs) (j : Nat) :
    IsU8 ((encStr cs).take (byteOff cs j)) ∧ IsU8 ((encStr cs).drop (byteOff cs j)) := Lemmas.C16c.cut_codepoints hv j

/-- `aéb`: the boundaries are 0, 1, 3, 4; a cut at 2 — inside `é` — leaves `a C3` and `A9 b` -/
theorem cut_example : IsU8 C16b.lineE ∧ IsBd C16b.lineE 1 ∧ IsBd C16b.lineE 3 ∧ ¬ IsBd C16b.lineE 2 ∧
    ¬ IsU8 (C16b.lineE.take 2) ∧ ¬ IsU8 (C16b.lineE.drop 2) := by
  refine ⟨C16b.lineE_valid, ?_, ?_, C16b.not_isBd_inside, ?_, ?_⟩
  · exact ⟨by decide +kernel, by decide +kernel⟩
  · exact ⟨by decide +kernel, by decide +kernel⟩
  · decide +kernel
  · decide +kernel

end Neatvi.Props.C16c
