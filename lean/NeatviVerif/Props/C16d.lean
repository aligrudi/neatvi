import NeatviVerif.Lemmas.C16d
import NeatviVerif.Lemmas.C16cUtf8
/-!
# C16 (the ^K / ^R arguments and the register `;`): no character is split

"… character-wise commands never split a multi-byte character: a buffer that is valid UTF-8 remains
valid UTF-8 under any command that does not itself insert raw bytes."

Two places of the line editor and of the registers where a character could be split (/repo commits 90b14db, c41ab90):

* the digraph key ^K and the register key ^R read their argument with `led_readkey()` (`readKey`); read with
  `term_read()`, one byte, the continuation bytes of a multi-byte argument would be inserted into the line
  as if typed:
  `readKey_consumes_whole_character` — for a lead byte `c ≥ 192` followed in the pending key stream
  (`Lemmas.C09.pending`) by the `ucLen c − 1` further bytes of its character, `readKey` returns `c` and
  the pending stream afterwards starts after the whole character; nothing but the key queue and the
  recording `icmd` changes.  `readKey_ascii`: below 192 it is `term_read()`.  `readKey_cut_short`: a
  character cut short by the end of the input is the end of the input.  `readKey_pending`: in general.
  `digraph_multibyte_nothing`: a multi-byte argument names no digraph — `readCharS 11` returns NULL for
  it, with the whole character consumed.
* the register `;` (the current line) is not copied through a 1024-byte buffer (that would cut it at 1023 bytes,
  possibly inside a character).  `line_register_whole`: `regGet ed 59` is the current line without its
  newline, whatever its length — hence valid UTF-8 when the line is.
-/
namespace Neatvi.Props.C16d
open Neatvi Neatvi.Uc Neatvi.Vi Neatvi.Ex Neatvi.Lemmas.C09 Neatvi.Lemmas.C16d
open Neatvi.Props.C16b

/-! ## `led_readkey()` -/

/-- **`led_readkey()` reads the whole character.**  The pending key stream starts with a lead byte
`c ≥ 192` and the `ucLen c − 1` further bytes `conts` of its character; then `readKey` returns `c`, what
is pending afterwards is what followed the character, the queue invariant holds, every key read went to
the recording `icmd` (below its limit), and nothing else of the state changed. -/
theorem readKey_consumes_whole_character (s : VS) (c : Nat) (conts rest : Bytes) (hc : 192 ≤ c)
    (hl : conts.length = ucLen c - 1) (h : pending s = c :: (conts ++ rest)) :
    ∃ s', readKey s = Res.ok (c : Int) s' ∧ pending s' = rest ∧ QWf s' ∧
      s'.icmd = (c :: conts).foldl icmdAfter s.icmd ∧
      { s' with ibuf := s.ibuf, ibufPos := s.ibufPos, typed := s.typed, icmd := s.icmd } = s :=
  readKey_lead s c conts rest hc hl h

/-- below 192 (ASCII, or a stray continuation byte) `led_readkey()` is `term_read()` -/
theorem readKey_ascii (s : VS) (k : Nat) (rest : Bytes) (hk : k < 192) (h : pending s = k :: rest) :
    readKey s = termRead s :=
  readKey_single s k rest hk h

/-- a character cut short by the end of the input: the end of the input -/
theorem readKey_cut_short (s : VS) (c : Nat) (rest : Bytes) (hc : 192 ≤ c)
    (hl : rest.length < ucLen c - 1) (h : pending s = c :: rest) : readKey s = Res.eof :=
  readKey_lead_short s c rest hc hl h

/-- in general: the key returned is the head of the pending stream, and what is pending afterwards is
what was pending behind it less the `ucLen k − 1` bytes of the rest of the character -/
theorem readKey_pending (s s' : VS) (c : Int) (h : readKey s = Res.ok c s') :
    ∃ k rest, pending s = k :: rest ∧ c = (k : Int) ∧
      pending s' = rest.drop (if 192 ≤ k then ucLen k - 1 else 0) ∧
      (if 192 ≤ k then ucLen k - 1 else 0) ≤ rest.length :=
  readKey_key s s' c h

/-- the queue invariant `ibuf_pos ≤ ibuf_cnt` (as `term_read()` establishes it), the bounds of the two buffers of
term.c (the recording buffer and the input buffer hold at most 4096 bytes), never a trap -/
theorem readKey_qwf (s s' : VS) (c : Int) (h : readKey s = Res.ok c s') : QWf s' := by
  obtain ⟨s1, h1, ⟨-, hm⟩ | ⟨-, rfl⟩⟩ := readKey_ok s s' c h
  · exact Lemmas.ViPres.pres_readKey_more_of (P := QWf) (fun s c s' _ h => qwf_termRead s s' c h) _ s1 () s' (qwf_termRead s s1 c h1) hm
  · exact qwf_termRead s s' c h1
theorem readKey_icmd_bounded (s s' : VS) (c : Int) (h : readKey s = Res.ok c s')
    (hb : s.icmd.length ≤ 4096) : s'.icmd.length ≤ 4096 :=
  Lemmas.ViPres.pres_readKey_of (P := fun s => s.icmd.length ≤ 4096) (fun s c s' hs h => icmd_bounded_termRead s s' c h hs) s c s' hb h
theorem readKey_ibuf_bounded (s s' : VS) (c : Int) (h : readKey s = Res.ok c s')
    (hb : s.ibuf.length ≤ 4096) : s'.ibuf.length ≤ 4096 :=
  Lemmas.ViPres.pres_readKey_of (P := fun s => s.ibuf.length ≤ 4096)
    (fun s c s' hs h => ibuf_bounded_termRead 4096 (by decide) s s' c h hs) s c s' hb h
theorem readKey_never_traps (s : VS) : readKey s ≠ Res.trap := by
  have hm : ∀ (k : Nat) (s : VS), readKey.more k s ≠ Res.trap := by
    intro k
    induction k with
    | zero => intro s h; cases h
    | succ k ih =>
      intro s
      rw [readKey_more_succ]
      cases ht : termRead s with
      | ok c s1 => exact ih s1
      | eof => intro h; cases h
      | trap => exact absurd ht (termRead_ne_trap s)
  rw [readKey_eq]
  cases ht : termRead s with
  | ok c s1 =>
    simp only []
    split
    · cases hm' : readKey.more (ucLen c.toNat - 1) s1 with
      | ok u s2 => intro h; cases h
      | eof => intro h; cases h
      | trap => exact absurd hm' (hm _ s1)
    · intro h; cases h
  | eof => intro h; cases h
  | trap => exact absurd ht (termRead_ne_trap s)

/-- `i ^K 中 ESC`: the argument `中` (E4 B8 AD) of ^K is read as one key; the ESC is what is pending
next (read with `term_read()`: B8 AD ESC, and AD would go into the line) -/
example : ∃ s', readKey { ed := {}, typed := [0xe4, 0xb8, 0xad, 27] } = Res.ok 0xe4 s' ∧ pending s' = [27] := by
  obtain ⟨s', h1, h2, -⟩ := readKey_consumes_whole_character { ed := {}, typed := [0xe4, 0xb8, 0xad, 27] }
    0xe4 [0xb8, 0xad] [27] (by decide) (by decide) rfl
  exact ⟨s', h1, h2⟩

theorem digraphs_ascii : ∀ d ∈ Gen.digraphs, d.1.headD 0 < 128 ∧ d.1.getD 1 0 < 128 := by decide +kernel

/-- **^K with a multi-byte first argument inserts nothing**: the whole character and the second
argument are consumed, and `led_readchar` returns NULL (no digraph), so `led_line` adds nothing to the
line.  `c2` is the second argument, a single key below 192 that is not an interrupt. -/
theorem digraph_multibyte_nothing (s : VS) (kmap : Nat) (c : Nat) (conts : Bytes) (c2 : Nat) (rest : Bytes)
    (hc : 192 ≤ c) (hl : conts.length = ucLen c - 1) (h2 : c2 < 192) (hi : tkInt (c2 : Int) = false)
    (h : pending s = c :: (conts ++ c2 :: rest)) :
    ∃ s', readCharS 11 kmap s = Res.ok none s' ∧ pending s' = rest ∧ s'.ed = s.ed := by
  obtain ⟨s1, e1, p1, -, -, f1⟩ := readKey_lead s c conts (c2 :: rest) hc hl h
  obtain ⟨s2, e2, p2, -, -, f2⟩ := termRead_step s1 c2 rest p1
  have e2' : readKey s1 = Res.ok (c2 : Int) s2 := by rw [readKey_single s1 c2 rest h2 p1, e2]
  refine ⟨s2, ?_, p2, by rw [f2.ed, f1.ed]⟩
  have hint : tkInt (c : Int) = false := by
    simp only [tkInt, Bool.or_eq_false_iff, decide_eq_false_iff_not, beq_eq_false_iff_ne]
    omega
  have hne : ((c : Int) == 11) = false := by
    simp only [beq_eq_false_iff_ne]; omega
  have hfind : Gen.digraphs.find? (fun d => d.1.headD 0 == (c : Int).toNat && d.1.getD 1 0 == (c2 : Int).toNat)
      = none := by
    rw [List.find?_eq_none]
    intro d hd
    have := (digraphs_ascii d hd).1
    simp only [Int.toNat_natCast, Bool.and_eq_true, beq_iff_eq, not_and]
    intro h'; omega
  unfold readCharS
  simp only [show ((11 : Int) == 22) = false from rfl, Bool.false_eq_true, if_false,
    show ((11 : Int) == 11) = true from rfl, if_true]
  rw [bind_apply, e1]
  simp only [hint, hne, Bool.false_eq_true, if_false]
  rw [bind_apply, e2']
  simp only [hi, Bool.false_eq_true, if_false, hfind, Option.map_none]
  rfl

/-! ## the register `;` -/

/-- **the register `;` is the whole current line without its newline** — no limit on its length —
**hence valid UTF-8 when the line is.** -/
theorem line_register_whole (ed : Ed) (ln : Bytes) (h : ed.line ed.xrow = some ln) :
    regGet ed 59 = some (ln.takeWhile (· != 10)) ∧
    (∀ t, (∀ b ∈ t, b ≠ 10) → ln = t ++ [10] → regGet ed 59 = some t) ∧
    (IsU8 ln → IsU8 (ln.takeWhile (· != 10))) := by
  have h0 : regGet ed 59 = some (ln.takeWhile (· != 10)) := by rw [regGet_line, h]; rfl
  refine ⟨h0, ?_, Lemmas.C16c.isU8_takeWhile_nl⟩
  intro t ht e
  rw [h0, e, List.takeWhile_append_of_pos (fun x hx => by simpa using ht x hx)]
  simp

/-- the form used by `:pu ;` and ^R; : what the register gives is valid UTF-8 -/
theorem line_register_valid (ed : Ed) (ln : Bytes) (h : ed.line ed.xrow = some ln) (hv : IsU8 ln) :
    ∃ r, regGet ed 59 = some r ∧ IsU8 r :=
  ⟨_, (line_register_whole ed ln h).1, (line_register_whole ed ln h).2.2 hv⟩

/-- no cut at 1023 bytes: a line of `n` bytes and its newline gives all `n` bytes -/
theorem line_register_length (ed : Ed) (t : Bytes) (ht : ∀ b ∈ t, b ≠ 10) (h : ed.line ed.xrow = some (t ++ [10])) :
    ((regGet ed 59).getD []).length = t.length := by
  rw [(line_register_whole ed _ h).2.1 t ht rfl]
  rfl

end Neatvi.Props.C16d
