import NeatviVerif.Lemmas.C17bCursor
import NeatviVerif.Lemmas.C17bWidth
import NeatviVerif.Props.C16
/-!
# C17  Screen-column layout is a gap-free tiling; cursor/column mapping round-trips
-/
namespace Neatvi.Props.C17
open Neatvi Neatvi.Uc Neatvi.Spec Neatvi.Ren

/-! ### the width class of every code point is the one its tables list -/

theorem find_dw (c : Nat) : find c Gen.dwchars = memTab c Gen.dwchars := find_eq_mem dw_sorted c
theorem find_zw (c : Nat) : find c Gen.zwchars = memTab c Gen.zwchars := find_eq_mem zw_sorted c
theorem find_b (c : Nat) : find c Gen.bchars = memTab c Gen.bchars := find_eq_mem b_sorted c

private theorem zw_lower : Gen.zwchars.all (fun r => 0x300 ≤ r.1) = true := by decide +kernel
private theorem dw_lower : Gen.dwchars.all (fun r => 0x1100 ≤ r.1) = true := by decide +kernel

private theorem mem_lower {t : List (Nat × Nat)} {b c : Nat} (h : t.all (fun r => b ≤ r.1) = true)
    (hm : memTab c t = true) : b ≤ c := by
  unfold memTab at hm
  rw [List.any_eq_true] at hm
  obtain ⟨r, hr, h2⟩ := hm
  rw [List.all_eq_true] at h
  have := h r hr
  simp at this h2; omega

/-- `uc_wid` reports exactly the class the tables list: 0 for `zwchars`, 2 for `dwchars`, else 1 -/
theorem wid_is_table (c : Nat) : ucWidC c = widClass c := by
  unfold ucWidC widClass ucIsZw ucIsDw
  rw [find_zw, find_dw]
  by_cases hz : memTab c Gen.zwchars = true
  · have := mem_lower zw_lower hz
    simp [hz, this]
  · by_cases hd : memTab c Gen.dwchars = true
    · have := mem_lower dw_lower hd
      simp [hz, hd, this]
    · simp [hz, hd]

/-! ### tiling -/

/-- the fast layout is the left-to-right tiling of the characters -/
theorem fast_is_layout (s : Bytes) : renPositionFast s = layout (chrs s) 0 ++ [layoutEnd (chrs s) 0] := rfl

theorem layout_head (c : Bytes) (r : List Bytes) (col : Nat) : (layout (c :: r) col)[0]? = some col := rfl

/-- each character starts where the previous one ended -/
theorem layout_step (cs : List Bytes) (col : Nat) (i : Nat) (hi : i + 1 < cs.length) :
    (layout cs col)[i + 1]? =
      some ((layout cs col).getD i 0 + renCwid (cs.getD i []) ((layout cs col).getD i 0)) := by
  have h := Lemmas.C17b.fastTable_step cs col i (by omega)
  rw [Lemmas.C17b.fastTable_lt cs col hi, Lemmas.C17b.fastTable_lt cs col (show i < cs.length by omega)] at h
  rw [← h, List.getD_eq_getElem?_getD, List.getElem?_eq_getElem (by rw [layout_length]; exact hi)]
  rfl

/-- the last entry is where the last character ends -/
theorem layout_end (cs : List Bytes) (col : Nat) (hne : cs ≠ []) :
    layoutEnd cs col = (layout cs col).getD (cs.length - 1) 0 +
      renCwid (cs.getD (cs.length - 1) []) ((layout cs col).getD (cs.length - 1) 0) := by
  have hl : cs.length - 1 < cs.length := Nat.sub_lt (List.length_pos_iff.mpr hne) Nat.one_pos
  have h := Lemmas.C17b.fastTable_step cs col (cs.length - 1) hl
  rw [Lemmas.C17b.fastTable_lt cs col hl, show cs.length - 1 + 1 = cs.length by omega,
    Lemmas.C17b.fastTable_end] at h
  exact h

/-- reordered layout: for a permutation `ord` of `0..n-1` (as `dir_reorder` returns), the
    computed columns, read in visual order, are the left-to-right tiling of the characters in
    visual order, and the last entry is the total width. -/
theorem reorder_tiling_cs (cs : List Bytes) (ord : List Nat)
    (hl : ord.length = cs.length) (hnd : ord.Nodup) (hlt : ∀ v ∈ ord, v < cs.length)
    (hsurj : ∀ v, v < cs.length → v ∈ ord) :
    ∃ ps, renPositionReorderCs cs ord =
        some (ps ++ [layoutEnd ((visOf ord cs.length).map (fun k => cs.getD k [])) 0]) ∧
      ps.length = cs.length ∧
      ∀ k, k < cs.length → ps[(visOf ord cs.length).getD k 0]? =
        (layout ((visOf ord cs.length).map (fun k => cs.getD k [])) 0)[k]? := by
  generalize hvis : visOf ord cs.length = vis
  generalize hvc : vis.map (fun k => cs.getD k []) = visChars
  have hvlen : vis.length = cs.length := by simp [← hvis, visOf]
  have hvlt : ∀ k ∈ vis, k < cs.length := by
    intro k hk
    simp only [← hvis, visOf, List.mem_map, List.mem_range] at hk
    obtain ⟨v, hv, rfl⟩ := hk
    have := List.idxOf_lt_length_of_mem (hsurj v hv); omega
  have hvnd : vis.Nodup := by
    rw [← hvis]; simp only [visOf]
    rw [List.nodup_iff_pairwise_ne, List.pairwise_map]
    apply List.Pairwise.imp_of_mem _ (List.nodup_iff_pairwise_ne.mp (List.nodup_range (n := cs.length)))
    intro a b ha hb hab heq
    have ha' : a < cs.length := by simpa using ha
    have hb' : b < cs.length := by simpa using hb
    have h1 := List.getElem_idxOf (List.idxOf_lt_length_of_mem (hsurj a ha'))
    have h2 := List.getElem_idxOf (List.idxOf_lt_length_of_mem (hsurj b hb'))
    apply hab
    rw [← h1, ← h2]; simp [heq]
  generalize hlay : layout visChars 0 = lay
  have hlaylen : lay.length = cs.length := by rw [← hlay, layout_length, ← hvc]; simp [hvlen]
  generalize hxs : vis.zip (lay.map some) = xs
  have hxl : xs.length = cs.length := by simp [← hxs, hvlen, hlaylen]
  have hfst : xs.map (·.1) = vis := by
    rw [← hxs, List.map_fst_zip]; simp [hvlen, hlaylen]
  generalize hposd : writes (List.replicate cs.length (none : Option Nat)) xs = pos
  have hposlen : pos.length = cs.length := by simp [← hposd]
  have hpos : ∀ k, (hk : k < cs.length) → pos[vis[k]'(by omega)]? = some (some (lay[k]'(by omega))) := by
    intro k hk
    have hk' : k < xs.length := by omega
    have hxk : xs[k] = (vis[k]'(by omega), some (lay[k]'(by omega))) := by simp [← hxs]
    have := writes_get (List.replicate cs.length none) xs (by rw [hfst]; exact hvnd) k hk'
      (by rw [hxk]; simpa using hvlt _ (List.getElem_mem _))
    rw [hxk, hposd] at this; exact this
  have hall : pos.all Option.isSome = true := by
    rw [List.all_eq_true]
    intro o ho
    obtain ⟨j, hj, rfl⟩ := List.mem_iff_getElem.mp ho
    have hj' : j < cs.length := by omega
    -- j = vis[ord[j]]
    have hoj : ord[j]'(by omega) < cs.length := hlt _ (List.getElem_mem _)
    have hv : vis[ord[j]'(by omega)]'(by omega) = j := by
      simp only [← hvis, visOf, List.getElem_map, List.getElem_range]
      exact hnd.idxOf_getElem j (by omega)
    have := hpos (ord[j]'(by omega)) hoj
    rw [List.getElem?_eq_getElem (by rw [hv]; omega)] at this
    simp only [hv] at this
    have := Option.some.inj this
    rw [this]; rfl
  refine ⟨pos.map (fun x => x.getD 0), ?_, by simp [hposlen], ?_⟩
  · unfold renPositionReorderCs
    simp only []
    rw [invert_perm ord _ hl hnd hlt hsurj, hvis]
    simp only [Option.bind_eq_bind, Option.bind_some]
    rw [assign_eq _ _ _ _ hvlt, hvc, hlay, hxs, hposd]
    simp only [Option.bind_some]
    rw [if_pos hall]
  · intro k hk
    have hvk : vis.getD k 0 = vis[k]'(by omega) := by
      rw [List.getD_eq_getElem?_getD, List.getElem?_eq_getElem (by omega)]; rfl
    rw [hvk, List.getElem?_map, hpos k hk]
    simp only [Option.map_some, Option.getD_some]
    rw [List.getElem?_eq_getElem (by omega)]

/-- the same, for `ren_position_reorder(s)` -/
theorem reorder_tiling (s : Bytes) (ord : List Nat)
    (hl : ord.length = (chrs s).length) (hnd : ord.Nodup) (hlt : ∀ v ∈ ord, v < (chrs s).length)
    (hsurj : ∀ v, v < (chrs s).length → v ∈ ord) :
    ∃ ps, renPositionReorder s ord =
        some (ps ++ [layoutEnd ((visOf ord (chrs s).length).map (fun k => (chrs s).getD k [])) 0]) ∧
      ps.length = (chrs s).length ∧
      ∀ k, k < (chrs s).length → ps[(visOf ord (chrs s).length).getD k 0]? =
        (layout ((visOf ord (chrs s).length).map (fun k => (chrs s).getD k [])) 0)[k]? :=
  reorder_tiling_cs (chrs s) ord hl hnd hlt hsurj

example : renPositionReorder [0x61, 0x62, 0x0a] [1, 0, 2] = some [1, 0, 2, 3] := by decide

/-! ### offset -> column -> offset round trip -/

/-- converting a character offset to a column and back returns the same character, whenever no
    other character shares its column (which `cwid_pos` below guarantees: every cell is >= 1 wide) -/
theorem off_pos_roundtrip (pos : List Nat) (n i : Nat) (hn : n ≤ pos.length) (hi : i < n)
    (hinj : ∀ j, j < n → pos.getD j 0 = pos.getD i 0 → j = i) :
    renOffT pos n (renPosT pos n i : Nat) = i := by
  unfold renPosT
  rw [if_pos hi]
  -- `ren_off` finds a character with the greatest column `≤ pos[i]`, and that column is `pos[i]`
  rcases Lemmas.C17b.renOffT_spec_gen pos n (pos.getD i 0 : Nat) hn with ⟨⟨h1, h2, h3⟩, _⟩ | ⟨hno, _⟩
  · exact hinj _ h1 (Nat.le_antisymm ((Lemmas.C17b.prevP_true_nat _ _).mp h2)
      (h3 i hi ((Lemmas.C17b.prevP_true_nat _ _).mpr (Nat.le_refl _))))
  · exact absurd ((Lemmas.C17b.prevP_true_nat _ _).mpr (Nat.le_refl _)) (hno i hi)

/-! ### cell widths -/

private theorem ph_facts : Gen.placeholders.all (fun p =>
    decide (ValidCp (dec1 p.1)) && (p.1 == enc (dec1 p.1)) && (Bytes.hd p.1 &&& phBits == phBits) && decide (1 ≤ p.2.2)) = true := by
  decide +kernel

private theorem hd_enc_cases {c : Nat} (h : ValidCp c) (r : Bytes) :
    (c < 0x80 ∧ Bytes.hd (enc c ++ r) = c) ∨ (0x80 ≤ c ∧ 0xc0 ≤ Bytes.hd (enc c ++ r)) := by
  obtain ⟨h0, h1⟩ := h
  unfold enc
  split
  · left; exact ⟨by assumption, rfl⟩
  split
  · right; exact ⟨by omega, by simp only [List.cons_append, Bytes.hd_cons]; omega⟩
  split
  · right; exact ⟨by omega, by simp only [List.cons_append, Bytes.hd_cons]; omega⟩
  · right; exact ⟨by omega, by simp only [List.cons_append, Bytes.hd_cons]; omega⟩

private theorem find_congr {α : Type} {p q : α → Bool} {l : List α} (h : ∀ x ∈ l, p x = q x) :
    l.find? p = l.find? q := by
  induction l with
  | nil => rfl
  | cons a l ih =>
    simp only [List.find?_cons, h a (by simp)]
    rw [ih (fun x hx => h x (by simp [hx]))]

private theorem hd_enc_inj {c c' : Nat} (h : ValidCp c) (r : Bytes) (he : c' = c) :
    Bytes.hd (enc c') = Bytes.hd (enc c ++ r) := by
  subst he
  obtain ⟨a, t, hat, _⟩ := enc_chr h
  rw [hat]; rfl

/-- the placeholder lookup of `ren_placeholder` (with its common-bits shortcut) finds exactly
    the configured placeholder of the code point -/
private theorem placeholder_hit {c : Nat} (h : ValidCp c) (r : Bytes) :
    (if Bytes.hd (enc c ++ r) &&& phBits == phBits then
      Gen.placeholders.find? (fun p => Bytes.hd p.1 == Bytes.hd (enc c ++ r) && ucCode p.1 == ucCode (enc c ++ r))
     else none) = Gen.placeholders.find? (fun p => dec1 p.1 == c) := by
  have hf := List.all_eq_true.mp ph_facts
  have hpred : ∀ p ∈ Gen.placeholders,
      (Bytes.hd p.1 == Bytes.hd (enc c ++ r) && ucCode p.1 == ucCode (enc c ++ r)) = (dec1 p.1 == c) := by
    intro p hp
    have := hf p hp
    simp only [Bool.and_eq_true, decide_eq_true_eq, beq_iff_eq] at this
    obtain ⟨⟨⟨hv, hpe⟩, _⟩, _⟩ := this
    have hcode : ucCode p.1 = some (dec1 p.1) := by
      have := C16.code_enc hv []
      rw [List.append_nil, ← hpe] at this; exact this
    rw [hcode, C16.code_enc h r]
    by_cases heq : dec1 p.1 = c
    · have : Bytes.hd p.1 = Bytes.hd (enc c ++ r) := by rw [hpe]; exact hd_enc_inj h r heq
      simp [this, heq]
    · simp [heq]
  have hcongr : Gen.placeholders.find? (fun p => Bytes.hd p.1 == Bytes.hd (enc c ++ r) && ucCode p.1 == ucCode (enc c ++ r))
      = Gen.placeholders.find? (fun p => dec1 p.1 == c) := find_congr hpred
  by_cases hg : (Bytes.hd (enc c ++ r) &&& phBits == phBits) = true
  · rw [if_pos hg, hcongr]
  · rw [if_neg hg]
    symm
    rw [List.find?_eq_none]
    intro p hp hpc
    apply hg
    have := hf p hp
    simp only [Bool.and_eq_true, decide_eq_true_eq, beq_iff_eq] at this hpc
    obtain ⟨⟨⟨hv, hpe⟩, hbits⟩, _⟩ := this
    have : Bytes.hd p.1 = Bytes.hd (enc c ++ r) := by rw [hpe]; exact hd_enc_inj h r hpc
    rw [← this]; simpa using hbits

private theorem isBell_spec {c : Nat} (h : ValidCp c) (r : Bytes) :
    ucIsBell (enc c ++ r) = some (isBellCp c) := by
  unfold ucIsBell isBellCp
  rw [C16.code_enc h r]
  rcases hd_enc_cases h r with ⟨h1, h2⟩ | ⟨h1, h2⟩
  · rw [h2]
    by_cases ht : (c == 32 || c == 9 || c == 10 || (decide (c ≥ 0x20) && decide (c < 0x7f))) = true
    · simp only [ht, if_true]
    · simp only [ht, Bool.false_eq_true, if_false, Option.map_some, ucIsBellC]
      unfold ucIsZw
      rw [find_zw, find_b]
  · generalize Bytes.hd (enc c ++ r) = b at h2
    have e1 : (b == 32 || b == 9 || b == 10 || (decide (b ≥ 0x20) && decide (b < 0x7f))) = false := by
      simp; omega
    have e2 : (c == 32 || c == 9 || c == 10 || (decide (c ≥ 0x20) && decide (c < 0x7f))) = false := by
      simp; omega
    simp only [e1, e2, Bool.false_eq_true, if_false, Option.map_some, ucIsBellC]
    unfold ucIsZw
    rw [find_zw, find_b]

/-- `ren_cwid` is the reference cell width: the tab rule, else the declared width of the configured
    placeholder, else 1 for a non-printable ("bell") character, else the table class 0/1/2 -/
theorem cwid_spec {c : Nat} (h : ValidCp c) (r : Bytes) (col : Nat) :
    renCwid (enc c ++ r) col = cellWidth c col := by
  unfold renCwid cellWidth
  have htab : (Bytes.hd (enc c ++ r) == 9) = (c == 9) := by
    rcases hd_enc_cases h r with ⟨_, h2⟩ | ⟨h1, h2⟩
    · rw [h2]
    · have e1 : (Bytes.hd (enc c ++ r) == 9) = false := by
        rw [beq_eq_false_iff_ne]; omega
      have e2 : (c == 9) = false := by
        rw [beq_eq_false_iff_ne]; omega
      rw [e1, e2]
  rw [htab]
  by_cases h9 : (c == 9) = true
  · simp only [h9, if_true]
    rw [show (7 : Nat) = 2 ^ 3 - 1 by rfl, Nat.and_two_pow_sub_one_eq_mod]
  · simp only [h9, Bool.false_eq_true, if_false]
    unfold renPlaceholder placeholderWid
    simp only []
    rw [placeholder_hit h r]
    cases Gen.placeholders.find? (fun p => dec1 p.1 == c) with
    | some p => simp
    | none =>
      simp only [Option.map_none]
      rw [isBell_spec h r]
      by_cases hb : isBellCp c = true
      · simp [hb]
      · have : ¬ (some (isBellCp c) == some true) = true := by simpa using hb
        simp only [this, if_false, hb, Bool.false_eq_true]
        unfold ucWid
        rw [C16.code_enc h r]; simp [wid_is_table]

/-- every display cell is at least one column wide (zero-width code points are all drawn as a
    width-1 placeholder), so no two characters of a line share a column -/
theorem cwid_pos {c : Nat} (h : ValidCp c) (col : Nat) : 1 ≤ cellWidth c col := by
  rw [← cwid_spec h [] col]
  exact Lemmas.C17b.renCwid_pos _ _

/-- the left-to-right layout is strictly increasing, so columns are pairwise distinct: every `ren_cwid` is at least
    one cell (`renCwid_pos`, for any bytes; `cwid_pos` says it of the reference width) -/
theorem layout_strict (cps : List Nat) (h : ∀ c ∈ cps, ValidCp c) (tails : List Bytes) (col : Nat)
    (ht : tails.length = cps.length) :
    ∀ i j, i < j → j < cps.length →
      (layout (List.zipWith (fun c r => enc c ++ r) cps tails) col).getD i 0 <
      (layout (List.zipWith (fun c r => enc c ++ r) cps tails) col).getD j 0 := by
  intro i j hij hj
  have hl : (List.zipWith (fun c r => enc c ++ r) cps tails).length = cps.length := by
    rw [List.length_zipWith, ht, Nat.min_self]
  have := (Lemmas.C17b.fastTable_inc (List.zipWith (fun c r => enc c ++ r) cps tails) col).2 i j hij (by omega)
  rwa [Lemmas.C17b.fastTable_lt _ col (by omega), Lemmas.C17b.fastTable_lt _ col (by omega)] at this

/-! ### non-vacuity -/
example : renCwid [0x09, 0x61] 3 = 5 ∧ cellWidth 0x3042 0 = 2 ∧ cellWidth 0x301 4 = 1 ∧ cellWidth 0x200c 0 = 1 := by decide +kernel


end Neatvi.Props.C17
