import NeatviVerif.Lemmas.C17bModel
import NeatviVerif.Lemmas.C07Ren
import NeatviVerif.Props.C18
/-!
# C17b  The cursor / column mapping functions built on the position table

The clauses of C17 that are about `pos_prev`, `pos_next`, `ren_off`, `ren_next`, `ren_cursor`
(`Model/Ren.lean`), stated for *any* table that satisfies the invariant a tiling guarantees:

* `ColTable pos n` (`Lemmas/C17bSpec.lean`): `n + 1` entries, the columns of the `n` characters
  pairwise distinct, the end column beyond every character's column;
* `Tiled cps pos` (`Lemmas/C17bTiling.lean`): `ColTable`, plus: every cell is at least one column
  wide, no character starts inside the cell range `[pos[i], pos[i] + width)` of another, and where
  the range ends another character starts or the line ends.

§0 establishes them: `tiling_colTable`, `tiling_tiled` (every `isTiling` table of valid code points);
`renPosition_tiledW` (every table the model's `ren_position` computes, for every NUL-free line,
reordered or not, is tiled by the widths `ren_cwid`: `TiledW`); `renPosition_tiled`,
`renPosition_colTable` (on a valid UTF-8 line these are the reference widths: `Tiled`);
`renPosition_colTable_bytes` (`ColTable` for every NUL-free line, valid UTF-8 or not); `fast_strictInc`, `fast_strictInc_bytes`, `strictInc_colTable` (the
left-to-right table is increasing).

Vocabulary (`Lemmas/C17bSpec.lean`, `Lemmas/C17bCursor.lean`):
`IsGreatest pos n P i` / `IsLeast pos n P i`: character `i < n` has the greatest / least column
among the characters whose column satisfies `P`; `NoCol pos n P`: no character's column does;
`PrevP p cur x` is `x ≤ p` (`cur`) or `x < p`; `NextP p cur x` is `p ≤ x` (`cur`) or `p < x`;
`LastCellOf pos n i c`: `c + 1` is the least column to the right of character `i`, or the end column.

* §1 `posPrev_spec`, `posNext_spec` (and `_unfolded`)
* §2 `renOffT_spec`, `renOffT_eq_iff`, `renPosT_renOffT`, `renPosT_renOffT_le`, `renOffT_renPosT`
* §3 `renNextT_right`, `renNextT_left`; determined forms `renNextT_right_eq`, `renNextT_right_none`,
  `renNextT_left_eq`, `renNextT_left_none`, `renNextT_right_from_none`; `renNextT_back`;
  increasing tables: `renNextT_inc_right`, `renNextT_inc_left` (+ `_last`, `_first`),
  `renOffT_renNextT_inc`, `renOffT_renNextT_inc_left`;
  valid UTF-8 lines: `fast_next_char`, `fast_prev_char` (left-to-right table),
  `renPosition_next_right`, `renPosition_next_left` (+ `_none`) (the model's table, the judged clause)
* §4 `renCursorT_spec`, `renCursorT_spec_nl`, `renCursorT_nl_first`, `renCursorT_none`;
  tiled tables: `lastCellOf_tiled`, `renCursorT_tiled`, `renCursorT_tiling`, `renPosition_cursor`
  (the last cell of the character's cell range, for every column of the range);
  increasing tables: `renCursorT_inc`, `renCursorT_inc_nl`
* §5 `cursor_noeol`, `cursor_noeol_model`, `cells_disjoint`, `cursor_never_on_newline`: with
  `ren_noeol`, the cursor cell of a non-empty line is never the newline's
* §6 counterexamples (`decide`)

Nothing here is `_partial`: every clause is proved at the strength stated in the property, for all
tables satisfying the invariant; `ColTable` is proved for the model's tables of every NUL-free line,
`Tiled` (which mentions the reference `cellWidth` of code points) for valid UTF-8 lines, the same
restriction as C17's `cwid_spec`.
-/
namespace Neatvi.Props.C17b
open Neatvi Neatvi.Uc Neatvi.Spec Neatvi.Ren Neatvi.Lemmas.C17b

/-! ## 0. the invariant -/

/-- a gap-free tiling of valid code points satisfies the table invariant: every cell is at least
    one column wide (`C17.cwid_pos`), so the columns are pairwise distinct and below the total -/
theorem tiling_colTable (cps pos : List Nat) (hv : ∀ c ∈ cps, ValidCp c) (h : isTiling cps pos = true) :
    ColTable pos cps.length :=
  (tiled_of_isTiling cps pos (fun _ hk col => C17.cwid_pos (hv _ (getD_mem_of_lt hk)) col) h).table

/-- ... and has the facts `Tiled` (`Lemmas/C17bTiling.lean`): besides the invariant, where the cell
    range `[pos[i], pos[i] + width)` of a character ends another character starts or the line ends,
    and no character starts inside it -/
theorem tiling_tiled (cps pos : List Nat) (hv : ∀ c ∈ cps, ValidCp c) (h : isTiling cps pos = true) :
    Tiled cps pos :=
  tiled_of_isTiling cps pos (fun _ hk col => C17.cwid_pos (hv _ (getD_mem_of_lt hk)) col) h

/-- what `ren_position` returns: the left-to-right table, or the reordered table for a permutation
    of the characters (the one `dir_reorder` returns, `C18.reorder_perm`, or the identity) -/
theorem renPosition_cases (orc : Dir.Oracle) (o : Opts) (s : Bytes) (pos : List Nat)
    (h : renPosition orc o s = some pos) :
    pos = renPositionFast s ∨
      ∃ ord, ord.Perm (List.range (ucSlen s)) ∧ renPositionReorder s ord = some pos := by
  unfold renPosition at h
  simp only [] at h
  by_cases hc : ((ucSlen s : Int) ≤ o.xlim && (o.xorder == 2 || (o.xorder == 1 && ucSlen s < s.length))) = true
  · rw [if_pos hc] at h
    right
    by_cases hx : (o.xorder != 0) = true
    · rw [if_pos hx] at h
      cases hord : Dir.dirReorder orc o.xtd s (List.range (ucSlen s)) with
      | none => rw [hord] at h; cases h
      | some ord =>
        rw [hord] at h
        exact ⟨ord, C18.reorder_perm _ _ _ _ _ hord, h⟩
    · rw [if_neg hx] at h
      exact ⟨_, List.Perm.refl _, h⟩
  · rw [if_neg hc] at h
    exact Or.inl (Option.some.inj h).symm

theorem not_mem_encStr_0 {cs : List Nat} (hv : ∀ c ∈ cs, ValidCp c) : 0 ∉ encStr cs := by
  intro hm
  have := (encStr_wf hv) 0 hm
  omega

/-- every table `ren_position` computes, for any NUL-free line (valid UTF-8 or not), reordered or
    not, is tiled by the widths `ren_cwid` of its characters -/
theorem renPosition_tiledW (orc : Dir.Oracle) (o : Opts) (s : Bytes) (hz : 0 ∉ s)
    (pos : List Nat) (h : renPosition orc o s = some pos) : TiledW (cwidOf (chrs s)) pos (chrs s).length := by
  rcases renPosition_cases orc o s pos h with rfl | ⟨ord, hperm, hr⟩
  · exact fast_tiledW (chrs s)
  · rw [← chrs_length s hz] at hperm
    exact reorder_tiledW (chrs s) ord hperm pos hr

/-- every table `ren_position` computes for a valid UTF-8 line is tiled (hence satisfies the
    invariant): the left-to-right one, and the reordered one for the permutation `dir_reorder`
    returns (`C18.reorder_perm`, `C17.reorder_tiling`) -/
theorem renPosition_tiled (orc : Dir.Oracle) (o : Opts) (cps : List Nat) (hv : ∀ c ∈ cps, ValidCp c)
    (pos : List Nat) (h : renPosition orc o (encStr cps) = some pos) : Tiled cps pos :=
  (renPosition_tiledW orc o _ (not_mem_encStr_0 hv) pos h).valid hv

theorem renPosition_colTable (orc : Dir.Oracle) (o : Opts) (cps : List Nat) (hv : ∀ c ∈ cps, ValidCp c)
    (pos : List Nat) (h : renPosition orc o (encStr cps) = some pos) : ColTable pos cps.length :=
  (renPosition_tiled orc o cps hv pos h).table

/-- an increasing table satisfies the invariant -/
theorem strictInc_colTable {pos : List Nat} {n : Nat} (h : StrictInc pos n) : ColTable pos n := by
  refine ⟨h.1, ?_, fun i hi => h.2 i n hi (Nat.le_refl _)⟩
  intro i j hi hj he
  by_cases h1 : i < j
  · have := h.2 i j h1 (by omega); omega
  · by_cases h2 : j < i
    · have := h.2 j i h2 (by omega); omega
    · omega

/-- for any NUL-free bytes (valid UTF-8 or not) the left-to-right table is increasing: every cell
    `ren_cwid` computes is at least one column wide (`renCwid_pos`) -/
theorem fast_strictInc_bytes (s : Bytes) (hz : 0 ∉ s) : StrictInc (renPositionFast s) (ucSlen s) := by
  have := fastTable_inc (chrs s) 0
  rw [chrs_length s hz, ← C17.fast_is_layout] at this
  exact this

/-- in particular the left-to-right table (`ren_position` without reordering) of a valid UTF-8 line -/
theorem fast_strictInc (cps : List Nat) (hv : ∀ c ∈ cps, ValidCp c) :
    StrictInc (renPositionFast (encStr cps)) cps.length := by
  have := fast_strictInc_bytes (encStr cps) (not_mem_encStr_0 hv)
  rw [C16.slen_spec hv] at this
  exact this

/-- every table `ren_position` computes, for any NUL-free line (valid UTF-8 or not), reordered or
    not, satisfies the invariant -/
theorem renPosition_colTable_bytes (orc : Dir.Oracle) (o : Opts) (s : Bytes) (hz : 0 ∉ s)
    (pos : List Nat) (h : renPosition orc o s = some pos) : ColTable pos (ucSlen s) :=
  chrs_length s hz ▸ (renPosition_tiledW orc o s hz pos h).table

/-! ## 1. `pos_prev`, `pos_next` -/

/-- `pos_prev(pos, n, p, cur)`: the greatest column among `pos[0..n)` that is `≤ p` (`cur = 1`) or
    `< p` (`cur = 0`); -1 if there is none -/
theorem posPrev_spec (pos : List Nat) (n : Nat) (p : Int) (cur : Bool) (hn : n ≤ pos.length) :
    (∃ i, IsGreatest pos n (PrevP p cur) i ∧ posPrev pos n p cur = (pos.getD i 0 : Int)) ∨
    (NoCol pos n (PrevP p cur) ∧ posPrev pos n p cur = -1) :=
  Lemmas.C17b.posPrev_spec pos n p cur hn

/-- `pos_next(pos, n, p, cur)`: the least column among `pos[0..n)` that is `≥ p` (`cur = 1`) or
    `> p` (`cur = 0`); -1 if there is none -/
theorem posNext_spec (pos : List Nat) (n : Nat) (p : Int) (cur : Bool) (hn : n ≤ pos.length) :
    (∃ i, IsLeast pos n (NextP p cur) i ∧ posNext pos n p cur = (pos.getD i 0 : Int)) ∨
    (NoCol pos n (NextP p cur) ∧ posNext pos n p cur = -1) :=
  Lemmas.C17b.posNext_spec pos n p cur hn

/-- the same with the definitions unfolded -/
theorem posPrev_spec_unfolded (pos : List Nat) (n : Nat) (p : Int) (cur : Bool) (hn : n ≤ pos.length) :
    (∃ i, i < n ∧ posPrev pos n p cur = (pos.getD i 0 : Int) ∧
      (if cur then (pos.getD i 0 : Int) ≤ p else (pos.getD i 0 : Int) < p) ∧
      ∀ j, j < n → (if cur then (pos.getD j 0 : Int) ≤ p else (pos.getD j 0 : Int) < p) →
        pos.getD j 0 ≤ pos.getD i 0) ∨
    (posPrev pos n p cur = -1 ∧
      ∀ j, j < n → ¬ (if cur then (pos.getD j 0 : Int) ≤ p else (pos.getD j 0 : Int) < p)) := by
  rcases posPrev_spec pos n p cur hn with ⟨i, ⟨h1, h2, h3⟩, he⟩ | ⟨hno, he⟩
  · exact Or.inl ⟨i, h1, he, h2, h3⟩
  · exact Or.inr ⟨he, hno⟩

theorem posNext_spec_unfolded (pos : List Nat) (n : Nat) (p : Int) (cur : Bool) (hn : n ≤ pos.length) :
    (∃ i, i < n ∧ posNext pos n p cur = (pos.getD i 0 : Int) ∧
      (if cur then p ≤ (pos.getD i 0 : Int) else p < (pos.getD i 0 : Int)) ∧
      ∀ j, j < n → (if cur then p ≤ (pos.getD j 0 : Int) else p < (pos.getD j 0 : Int)) →
        pos.getD i 0 ≤ pos.getD j 0) ∨
    (posNext pos n p cur = -1 ∧
      ∀ j, j < n → ¬ (if cur then p ≤ (pos.getD j 0 : Int) else p < (pos.getD j 0 : Int))) := by
  rcases posNext_spec pos n p cur hn with ⟨i, ⟨h1, h2, h3⟩, he⟩ | ⟨hno, he⟩
  · exact Or.inl ⟨i, h1, he, h2, h3⟩
  · exact Or.inr ⟨he, hno⟩

/-! ## 2. `ren_off` -/

/-- `ren_off(s, p)`: the character whose column is the greatest column `≤ p`; 0 if there is none.
    (Needs no distinctness: among characters sharing that column it is the last one.) -/
theorem renOffT_spec (pos : List Nat) (n : Nat) (p : Int) (hn : n ≤ pos.length) :
    (IsGreatest pos n (PrevP p true) (renOffT pos n p) ∧
      ∀ j, j < n → pos.getD j 0 = pos.getD (renOffT pos n p) 0 → j ≤ renOffT pos n p) ∨
    (NoCol pos n (PrevP p true) ∧ renOffT pos n p = 0) :=
  renOffT_spec_gen pos n p hn

/-- with distinct columns `ren_off` is exactly "the character at or before column `p`" -/
theorem renOffT_eq_iff {pos : List Nat} {n : Nat} (h : ColTable pos n) (p : Int) (i : Nat)
    (hex : ¬ NoCol pos n (PrevP p true)) :
    renOffT pos n p = i ↔ IsGreatest pos n (PrevP p true) i := by
  constructor
  · intro he
    rcases renOffT_spec pos n p (by rw [h.len]; omega) with ⟨hg, _⟩ | ⟨hno, _⟩
    · rw [← he]; exact hg
    · exact absurd hno hex
  · exact renOffT_of_greatest h p i

/-- `ren_pos(ren_off(p))` is the greatest column `≤ p`, i.e. `pos_prev(p, 1)` -/
theorem renPosT_renOffT (pos : List Nat) (n : Nat) (p : Int) (hn : n ≤ pos.length)
    (hex : ¬ NoCol pos n (PrevP p true)) :
    (renPosT pos n (renOffT pos n p) : Int) = posPrev pos n p true := by
  rcases renOffT_spec pos n p hn with ⟨hg, _⟩ | ⟨hno, _⟩
  · unfold renPosT
    rw [if_pos hg.1, posPrev_of_greatest pos n p true hn _ hg]
  · exact absurd hno hex

/-- column -> offset -> column does not move right: `ren_pos(ren_off(p)) ≤ p` -/
theorem renPosT_renOffT_le (pos : List Nat) (n : Nat) (p : Int) (hn : n ≤ pos.length)
    (hex : ¬ NoCol pos n (PrevP p true)) :
    (renPosT pos n (renOffT pos n p) : Int) ≤ p := by
  rcases renOffT_spec pos n p hn with ⟨hg, _⟩ | ⟨hno, _⟩
  · unfold renPosT
    rw [if_pos hg.1]
    have := hg.2.1
    unfold PrevP at this
    simpa using this
  · exact absurd hno hex

/-- offset -> column -> offset (as `C17.off_pos_roundtrip`, from the invariant) -/
theorem renOffT_renPosT {pos : List Nat} {n : Nat} (h : ColTable pos n) (i : Nat) (hi : i < n) :
    renOffT pos n (renPosT pos n i : Nat) = i := by
  unfold renPosT
  rw [if_pos hi]
  exact renOffT_col h i hi

/-! ## 3. `ren_next` -/

/-- `ren_next(s, p, dir)`, `dir ≥ 0`: with `p1` the column of the character at or before `p`
    (`pos_prev(p, 1)`), the least column `> p1`; -1 if there is none or if the character there is
    the newline -/
theorem renNextT_right (s : Bytes) {pos : List Nat} {n : Nat} (h : ColTable pos n) (p dir : Int)
    (hdir : dir ≥ 0) :
    (∃ j, IsLeast pos n (NextP (posPrev pos n p true) false) j ∧
      renNextT s pos n p dir = if chrHd s j = 10 then -1 else (pos.getD j 0 : Int)) ∨
    (NoCol pos n (NextP (posPrev pos n p true) false) ∧ renNextT s pos n p dir = -1) := by
  have hn : n ≤ pos.length := by rw [h.len]; omega
  unfold renNextT
  simp only [hdir, if_true]
  rcases posNext_spec pos n (posPrev pos n p true) false hn with ⟨j, hj, he⟩ | ⟨hno, he⟩
  · left
    refine ⟨j, hj, ?_⟩
    rw [he, renOffT_col h j hj.1]
    by_cases h10 : chrHd s j = 10 <;> simp [h10]
  · right
    refine ⟨hno, ?_⟩
    rw [he]
    split <;> rfl

/-- `dir < 0`: the greatest column `< p1`; -1 if there is none or if the character there is the newline -/
theorem renNextT_left (s : Bytes) {pos : List Nat} {n : Nat} (h : ColTable pos n) (p dir : Int)
    (hdir : dir < 0) :
    (∃ j, IsGreatest pos n (PrevP (posPrev pos n p true) false) j ∧
      renNextT s pos n p dir = if chrHd s j = 10 then -1 else (pos.getD j 0 : Int)) ∨
    (NoCol pos n (PrevP (posPrev pos n p true) false) ∧ renNextT s pos n p dir = -1) := by
  have hn : n ≤ pos.length := by rw [h.len]; omega
  unfold renNextT
  have hd : ¬ dir ≥ 0 := by omega
  simp only [hd, if_false]
  rcases posPrev_spec pos n (posPrev pos n p true) false hn with ⟨j, hj, he⟩ | ⟨hno, he⟩
  · left
    refine ⟨j, hj, ?_⟩
    rw [he, renOffT_col h j hj.1]
    by_cases h10 : chrHd s j = 10 <;> simp [h10]
  · right
    refine ⟨hno, ?_⟩
    rw [he]
    split <;> rfl

/-- moving right from the character `i` at or before column `p` lands on the character `j`
    displayed immediately to its right (the judged clause `next_spec(right)`) -/
theorem renNextT_right_eq (s : Bytes) {pos : List Nat} {n : Nat} (h : ColTable pos n) (p dir : Int)
    (hdir : dir ≥ 0) (i j : Nat) (hi : IsGreatest pos n (PrevP p true) i)
    (hj : IsLeast pos n (fun x => pos.getD i 0 < x) j) :
    renNextT s pos n p dir = if chrHd s j = 10 then -1 else (pos.getD j 0 : Int) := by
  have hn : n ≤ pos.length := by rw [h.len]; omega
  have hp := posPrev_of_greatest pos n p true hn i hi
  rcases renNextT_right s h p dir hdir with ⟨j', hj', he⟩ | ⟨hno, _⟩
  · rw [hp] at hj'
    have := IsLeast.unique h (IsLeast.congr (nextP_false_nat _) hj') hj
    rw [he, this]
  · rw [hp] at hno
    exact absurd hj.2.1 (NoCol.congr (nextP_false_nat _) hno j hj.1)

/-- ... and fails when nothing is displayed to its right -/
theorem renNextT_right_none (s : Bytes) {pos : List Nat} {n : Nat} (h : ColTable pos n) (p dir : Int)
    (hdir : dir ≥ 0) (i : Nat) (hi : IsGreatest pos n (PrevP p true) i)
    (hno : NoCol pos n (fun x => pos.getD i 0 < x)) :
    renNextT s pos n p dir = -1 := by
  have hn : n ≤ pos.length := by rw [h.len]; omega
  have hp := posPrev_of_greatest pos n p true hn i hi
  rcases renNextT_right s h p dir hdir with ⟨j', hj', _⟩ | ⟨_, he⟩
  · rw [hp] at hj'
    exact absurd (IsLeast.congr (nextP_false_nat _) hj').2.1 (hno j' hj'.1)
  · exact he

/-- moving left (the judged clause `next_spec(left)`) -/
theorem renNextT_left_eq (s : Bytes) {pos : List Nat} {n : Nat} (h : ColTable pos n) (p dir : Int)
    (hdir : dir < 0) (i j : Nat) (hi : IsGreatest pos n (PrevP p true) i)
    (hj : IsGreatest pos n (fun x => x < pos.getD i 0) j) :
    renNextT s pos n p dir = if chrHd s j = 10 then -1 else (pos.getD j 0 : Int) := by
  have hn : n ≤ pos.length := by rw [h.len]; omega
  have hp := posPrev_of_greatest pos n p true hn i hi
  rcases renNextT_left s h p dir hdir with ⟨j', hj', he⟩ | ⟨hno, _⟩
  · rw [hp] at hj'
    have := IsGreatest.unique h (IsGreatest.congr (prevP_false_nat _) hj') hj
    rw [he, this]
  · rw [hp] at hno
    exact absurd hj.2.1 (NoCol.congr (prevP_false_nat _) hno j hj.1)

theorem renNextT_left_none (s : Bytes) {pos : List Nat} {n : Nat} (h : ColTable pos n) (p dir : Int)
    (hdir : dir < 0) (i : Nat) (hi : IsGreatest pos n (PrevP p true) i)
    (hno : NoCol pos n (fun x => x < pos.getD i 0)) :
    renNextT s pos n p dir = -1 := by
  have hn : n ≤ pos.length := by rw [h.len]; omega
  have hp := posPrev_of_greatest pos n p true hn i hi
  rcases renNextT_left s h p dir hdir with ⟨j', hj', _⟩ | ⟨_, he⟩
  · rw [hp] at hj'
    exact absurd (IsGreatest.congr (prevP_false_nat _) hj').2.1 (hno j' hj'.1)
  · exact he

/-- when there is no character at or before `p`, `ren_next` to the right goes to the leftmost one -/
theorem renNextT_right_from_none (s : Bytes) {pos : List Nat} {n : Nat} (h : ColTable pos n) (p dir : Int)
    (hdir : dir ≥ 0) (hno : NoCol pos n (PrevP p true)) (j : Nat) (hj : IsLeast pos n (fun _ => True) j) :
    renNextT s pos n p dir = if chrHd s j = 10 then -1 else (pos.getD j 0 : Int) := by
  have hn : n ≤ pos.length := by rw [h.len]; omega
  have hp := posPrev_of_none pos n p true hn hno
  rcases renNextT_right s h p dir hdir with ⟨j', hj', he⟩ | ⟨hno', _⟩
  · rw [hp] at hj'
    have := IsLeast.unique h (IsLeast.congr (nextP_neg_one false) hj') hj
    rw [he, this]
  · rw [hp] at hno'
    exact absurd trivial (NoCol.congr (nextP_neg_one false) hno' j hj.1)

/-- right then left returns to the starting character (unless that is the newline) -/
theorem renNextT_back (s : Bytes) {pos : List Nat} {n : Nat} (h : ColTable pos n) (i : Nat) (hi : i < n)
    (hnl : chrHd s i ≠ 10) (hmv : renNextT s pos n (pos.getD i 0 : Int) 1 ≠ -1) :
    renNextT s pos n (renNextT s pos n (pos.getD i 0 : Int) 1) (-1) = (pos.getD i 0 : Int) := by
  have hn : n ≤ pos.length := by rw [h.len]; omega
  have hself := isGreatest_self (pos := pos) i hi
  rcases renNextT_right s h (pos.getD i 0 : Int) 1 (by omega) with ⟨j, hj, he⟩ | ⟨_, he⟩
  · rw [posPrev_of_greatest pos n _ true hn i hself] at hj
    have hj' := IsLeast.congr (nextP_false_nat _) hj
    by_cases h10 : chrHd s j = 10
    · rw [if_pos h10] at he; exact absurd he hmv
    · rw [if_neg h10] at he
      rw [he]
      have hback : IsGreatest pos n (fun x => x < pos.getD j 0) i := by
        refine ⟨hi, hj'.2.1, ?_⟩
        intro k hk hlt
        by_cases hki : pos.getD i 0 < pos.getD k 0
        · have := hj'.2.2 k hk hki; omega
        · omega
      rw [renNextT_left_eq s h _ (-1) (by omega) j i (isGreatest_self j hj.1) hback, if_neg hnl]
  · exact absurd he hmv

/-! ### increasing tables (no reordering) -/

theorem inc_lt_iff {pos : List Nat} {n : Nat} (h : StrictInc pos n) {i j : Nat} (hi : i ≤ n) (hj : j ≤ n) :
    pos.getD i 0 < pos.getD j 0 ↔ i < j := by
  refine ⟨fun hlt => ?_, fun hij => h.2 i j hij hj⟩
  apply Nat.lt_of_not_le
  intro hji
  by_cases he : j = i
  · subst he; omega
  · have := h.2 j i (by omega) hi; omega

theorem inc_least {pos : List Nat} {n : Nat} (h : StrictInc pos n) (i : Nat) (hi : i + 1 < n) :
    IsLeast pos n (fun x => pos.getD i 0 < x) (i + 1) := by
  refine ⟨hi, h.2 i (i + 1) (by omega) (by omega), fun j hj hlt => ?_⟩
  have := (inc_lt_iff h (by omega) (by omega)).mp hlt
  exact Nat.le_of_not_lt (fun hc => by have := (inc_lt_iff h (by omega) (by omega)).mp hc; omega)

theorem inc_greatest {pos : List Nat} {n : Nat} (h : StrictInc pos n) (i : Nat) (hi : i + 1 < n) :
    IsGreatest pos n (fun x => x < pos.getD (i + 1) 0) i := by
  refine ⟨by omega, h.2 i (i + 1) (by omega) (by omega), fun j hj hlt => ?_⟩
  have := (inc_lt_iff h (by omega) (by omega)).mp hlt
  exact Nat.le_of_not_lt (fun hc => by have := (inc_lt_iff h (by omega) (by omega)).mp hc; omega)

theorem inc_none_right {pos : List Nat} {n : Nat} (h : StrictInc pos n) (i : Nat) (hi : i + 1 = n) :
    NoCol pos n (fun x => pos.getD i 0 < x) := by
  intro j hj hlt
  have := (inc_lt_iff h (by omega) (by omega)).mp hlt
  omega

theorem inc_none_left {pos : List Nat} {n : Nat} (h : StrictInc pos n) :
    NoCol pos n (fun x => x < pos.getD 0 0) := by
  intro j hj hlt
  have := (inc_lt_iff h (by omega) (by omega)).mp hlt
  omega

/-- in an increasing table `ren_next` to the right is the next character's column ... -/
theorem renNextT_inc_right (s : Bytes) {pos : List Nat} {n : Nat} (h : StrictInc pos n) (off : Nat)
    (hoff : off + 1 < n) (dir : Int) (hdir : dir ≥ 0) :
    renNextT s pos n (renPosT pos n off : Nat) dir =
      if chrHd s (off + 1) = 10 then -1 else (renPosT pos n (off + 1) : Int) := by
  unfold renPosT
  rw [if_pos hoff, if_pos (show off < n by omega)]
  exact renNextT_right_eq s (strictInc_colTable h) _ dir hdir off (off + 1) (isGreatest_self off (by omega))
    (inc_least h off hoff)

/-- ... and -1 on the last character -/
theorem renNextT_inc_right_last (s : Bytes) {pos : List Nat} {n : Nat} (h : StrictInc pos n) (off : Nat)
    (hoff : off + 1 = n) (dir : Int) (hdir : dir ≥ 0) :
    renNextT s pos n (renPosT pos n off : Nat) dir = -1 := by
  unfold renPosT
  rw [if_pos (by omega)]
  exact renNextT_right_none s (strictInc_colTable h) _ dir hdir off (isGreatest_self off (by omega))
    (inc_none_right h off hoff)

/-- to the left: the previous character's column, -1 on the first character -/
theorem renNextT_inc_left (s : Bytes) {pos : List Nat} {n : Nat} (h : StrictInc pos n) (off : Nat)
    (hoff : off + 1 < n) (dir : Int) (hdir : dir < 0) :
    renNextT s pos n (renPosT pos n (off + 1) : Nat) dir =
      if chrHd s off = 10 then -1 else (renPosT pos n off : Int) := by
  unfold renPosT
  rw [if_pos hoff, if_pos (show off < n by omega)]
  exact renNextT_left_eq s (strictInc_colTable h) _ dir hdir (off + 1) off (isGreatest_self (off + 1) hoff)
    (inc_greatest h off hoff)

theorem renNextT_inc_left_first (s : Bytes) {pos : List Nat} {n : Nat} (h : StrictInc pos n)
    (hn : 0 < n) (dir : Int) (hdir : dir < 0) :
    renNextT s pos n (renPosT pos n 0 : Nat) dir = -1 := by
  unfold renPosT
  rw [if_pos hn]
  exact renNextT_left_none s (strictInc_colTable h) _ dir hdir 0 (isGreatest_self 0 hn) (inc_none_left h)

/-- so `ren_next` moves exactly one character: `ren_off(ren_next(ren_pos(off), +1)) = off + 1`
    when the next character exists and is not the newline -/
theorem renOffT_renNextT_inc (s : Bytes) {pos : List Nat} {n : Nat} (h : StrictInc pos n) (off : Nat)
    (hoff : off + 1 < n) (hnl : chrHd s (off + 1) ≠ 10) (dir : Int) (hdir : dir ≥ 0) :
    renOffT pos n (renNextT s pos n (renPosT pos n off : Nat) dir) = off + 1 := by
  rw [renNextT_inc_right s h off hoff dir hdir, if_neg hnl]
  exact renOffT_renPosT (strictInc_colTable h) (off + 1) hoff

theorem renOffT_renNextT_inc_left (s : Bytes) {pos : List Nat} {n : Nat} (h : StrictInc pos n) (off : Nat)
    (hoff : off + 1 < n) (hnl : chrHd s off ≠ 10) (dir : Int) (hdir : dir < 0) :
    renOffT pos n (renNextT s pos n (renPosT pos n (off + 1) : Nat) dir) = off := by
  rw [renNextT_inc_left s h off hoff dir hdir, if_neg hnl]
  exact renOffT_renPosT (strictInc_colTable h) off (by omega)

/-! ### the left-to-right table of a valid UTF-8 line -/

/-- on a valid UTF-8 line laid out left to right, `ren_next(.., +1)` from character `off` reaches
    character `off + 1` unless that is the newline, in which case it fails -/
theorem fast_next_char (cps : List Nat) (hv : ∀ c ∈ cps, ValidCp c) (off : Nat) (hoff : off + 1 < cps.length) :
    let s := encStr cps
    let pos := renPositionFast s
    let n := ucSlen s
    (cps.getD (off + 1) 0 ≠ 10 →
      renOffT pos n (renNextT s pos n (renPosT pos n off : Nat) 1) = off + 1) ∧
    (cps.getD (off + 1) 0 = 10 → renNextT s pos n (renPosT pos n off : Nat) 1 = -1) := by
  intro s pos n
  have hn : n = cps.length := C16.slen_spec hv
  have hs : StrictInc pos n := by rw [hn]; exact fast_strictInc cps hv
  have h10 := Lemmas.C07.chrHd_enc_eq_10 hv (off + 1) hoff
  constructor
  · intro hne
    exact renOffT_renNextT_inc s hs off (by omega) (fun hc => hne (h10.mp hc)) 1 (by omega)
  · intro he
    rw [renNextT_inc_right s hs off (by omega) 1 (by omega), if_pos (h10.mpr he)]

/-- `ren_next(.., -1)` from character `off + 1` reaches character `off` (a newline is never there
    on a buffer line) -/
theorem fast_prev_char (cps : List Nat) (hv : ∀ c ∈ cps, ValidCp c) (off : Nat) (hoff : off + 1 < cps.length)
    (hnl : cps.getD off 0 ≠ 10) :
    let s := encStr cps
    let pos := renPositionFast s
    let n := ucSlen s
    renOffT pos n (renNextT s pos n (renPosT pos n (off + 1) : Nat) (-1)) = off := by
  intro s pos n
  have hn : n = cps.length := C16.slen_spec hv
  have hs : StrictInc pos n := by rw [hn]; exact fast_strictInc cps hv
  have h10 := Lemmas.C07.chrHd_enc_eq_10 hv off (by omega)
  exact renOffT_renNextT_inc_left s hs off (by omega) (fun hc => hnl (h10.mp hc)) (-1) (by omega)

/-! ### the model's own table (reordered or not): the judged clauses `next_spec(right/left)` -/

/-- on a valid UTF-8 line with the table `ren_position` computes: from the column of character `i`,
    `ren_next(+1)` is the column of the character `j` displayed immediately to the right, or -1 if
    `j` is the newline -/
theorem renPosition_next_right (orc : Dir.Oracle) (o : Opts) (cps : List Nat) (hv : ∀ c ∈ cps, ValidCp c)
    (pos : List Nat) (h : renPosition orc o (encStr cps) = some pos) (i j : Nat) (hi : i < cps.length)
    (hj : IsLeast pos cps.length (fun x => pos.getD i 0 < x) j) :
    renNextT (encStr cps) pos (ucSlen (encStr cps)) (pos.getD i 0 : Nat) 1 =
      if cps.getD j 0 = 10 then -1 else (pos.getD j 0 : Int) := by
  rw [C16.slen_spec hv]
  have hct := renPosition_colTable orc o cps hv pos h
  rw [renNextT_right_eq _ hct _ 1 (by omega) i j (isGreatest_self i hi) hj]
  by_cases h10 : cps.getD j 0 = 10
  · rw [if_pos h10, if_pos ((Lemmas.C07.chrHd_enc_eq_10 hv j hj.1).mpr h10)]
  · rw [if_neg h10, if_neg (fun hc => h10 ((Lemmas.C07.chrHd_enc_eq_10 hv j hj.1).mp hc))]

/-- ... and -1 when nothing is displayed to the right of `i` -/
theorem renPosition_next_right_none (orc : Dir.Oracle) (o : Opts) (cps : List Nat) (hv : ∀ c ∈ cps, ValidCp c)
    (pos : List Nat) (h : renPosition orc o (encStr cps) = some pos) (i : Nat) (hi : i < cps.length)
    (hno : NoCol pos cps.length (fun x => pos.getD i 0 < x)) :
    renNextT (encStr cps) pos (ucSlen (encStr cps)) (pos.getD i 0 : Nat) 1 = -1 := by
  rw [C16.slen_spec hv]
  exact renNextT_right_none _ (renPosition_colTable orc o cps hv pos h) _ 1 (by omega) i
    (isGreatest_self i hi) hno

theorem renPosition_next_left (orc : Dir.Oracle) (o : Opts) (cps : List Nat) (hv : ∀ c ∈ cps, ValidCp c)
    (pos : List Nat) (h : renPosition orc o (encStr cps) = some pos) (i j : Nat) (hi : i < cps.length)
    (hj : IsGreatest pos cps.length (fun x => x < pos.getD i 0) j) :
    renNextT (encStr cps) pos (ucSlen (encStr cps)) (pos.getD i 0 : Nat) (-1) =
      if cps.getD j 0 = 10 then -1 else (pos.getD j 0 : Int) := by
  rw [C16.slen_spec hv]
  have hct := renPosition_colTable orc o cps hv pos h
  rw [renNextT_left_eq _ hct _ (-1) (by omega) i j (isGreatest_self i hi) hj]
  by_cases h10 : cps.getD j 0 = 10
  · rw [if_pos h10, if_pos ((Lemmas.C07.chrHd_enc_eq_10 hv j hj.1).mpr h10)]
  · rw [if_neg h10, if_neg (fun hc => h10 ((Lemmas.C07.chrHd_enc_eq_10 hv j hj.1).mp hc))]

theorem renPosition_next_left_none (orc : Dir.Oracle) (o : Opts) (cps : List Nat) (hv : ∀ c ∈ cps, ValidCp c)
    (pos : List Nat) (h : renPosition orc o (encStr cps) = some pos) (i : Nat) (hi : i < cps.length)
    (hno : NoCol pos cps.length (fun x => x < pos.getD i 0)) :
    renNextT (encStr cps) pos (ucSlen (encStr cps)) (pos.getD i 0 : Nat) (-1) = -1 := by
  rw [C16.slen_spec hv]
  exact renNextT_left_none _ (renPosition_colTable orc o cps hv pos h) _ (-1) (by omega) i
    (isGreatest_self i hi) hno

/-! ## 4. `ren_cursor` -/

/-- `ren_cursor(s, p)` when the character `i` at or before column `p` is not the newline: a cell
    `c ≥ pos[i]` with `c + 1` the next occupied column to the right of `i` (the end column when `i`
    is displayed last), i.e. the last cell of `i` -/
theorem renCursorT_spec (s : Bytes) {pos : List Nat} {n : Nat} (h : ColTable pos n) (p : Int) (i : Nat)
    (hi : IsGreatest pos n (PrevP p true) i) (hnl : chrHd s i ≠ 10) :
    (pos.getD i 0 : Int) ≤ renCursorT s pos n p ∧ LastCellOf pos n i (renCursorT s pos n p) := by
  have hn : n ≤ pos.length := by rw [h.len]; omega
  rw [renCursorT_eq, posPrev_of_greatest pos n p true hn i hi, renOffT_col h i hi.1]
  have : (chrHd s i == 10) = false := by simpa using hnl
  rw [this]
  simp only [Bool.false_eq_true, if_false]
  exact cursorCell_char h i hi.1

/-- on the newline it steps back to the character `i'` displayed immediately to its left -/
theorem renCursorT_spec_nl (s : Bytes) {pos : List Nat} {n : Nat} (h : ColTable pos n) (p : Int) (i i' : Nat)
    (hi : IsGreatest pos n (PrevP p true) i) (hnl : chrHd s i = 10)
    (hi' : IsGreatest pos n (fun x => x < pos.getD i 0) i') :
    (pos.getD i' 0 : Int) ≤ renCursorT s pos n p ∧ LastCellOf pos n i' (renCursorT s pos n p) := by
  have hn : n ≤ pos.length := by rw [h.len]; omega
  rw [renCursorT_eq, posPrev_of_greatest pos n p true hn i hi, renOffT_col h i hi.1]
  have : (chrHd s i == 10) = true := by simpa using hnl
  rw [this]
  simp only [if_true]
  rw [posPrev_of_greatest pos n _ false hn i'
    (IsGreatest.congr (fun x => (prevP_false_nat (pos.getD i 0) x).symm) hi')]
  exact cursorCell_char h i' hi'.1

/-- ... and when the newline is displayed leftmost (the line `"\n"`): one before its column, clamped at 0 -/
theorem renCursorT_nl_first (s : Bytes) {pos : List Nat} {n : Nat} (h : ColTable pos n) (p : Int) (i : Nat)
    (hi : IsGreatest pos n (PrevP p true) i) (hnl : chrHd s i = 10)
    (hno : NoCol pos n (fun x => x < pos.getD i 0)) :
    renCursorT s pos n p = if pos.getD i 0 = 0 then 0 else (pos.getD i 0 : Int) - 1 := by
  have hn : n ≤ pos.length := by rw [h.len]; omega
  rw [renCursorT_eq, posPrev_of_greatest pos n p true hn i hi, renOffT_col h i hi.1]
  have : (chrHd s i == 10) = true := by simpa using hnl
  rw [this]
  simp only [if_true]
  rw [posPrev_of_none pos n _ false hn (NoCol.congr (fun x => (prevP_false_nat (pos.getD i 0) x).symm) hno)]
  exact cursorCell_neg_one hn i ⟨hi.1, trivial, fun j hj _ => by have := hno j hj; omega⟩

/-- no character at or before `p` (a negative column): one before the leftmost column, clamped at 0 -/
theorem renCursorT_none (s : Bytes) {pos : List Nat} {n : Nat} (hn : n ≤ pos.length) (p : Int)
    (hno : NoCol pos n (PrevP p true)) (m : Nat) (hm : IsLeast pos n (fun _ => True) m) :
    renCursorT s pos n p = if pos.getD m 0 = 0 then 0 else (pos.getD m 0 : Int) - 1 := by
  rw [renCursorT_eq, posPrev_of_none pos n p true hn hno,
    posPrev_of_none pos n (-1) false hn (fun j _ hP => (prevP_neg_one false _).mp hP)]
  simp only [ite_self]
  exact cursorCell_neg_one hn m hm

/-! ### tilings: the cursor cell is the last cell of the character's cell range -/

/-- in a tiled table the next occupied column after character `i` is `pos[i] + width` -/
theorem lastCellOf_tiled {cps pos : List Nat} (ht : Tiled cps pos)
    (i : Nat) (hi : i < cps.length) (c : Int) (hl : LastCellOf pos cps.length i c) :
    c + 1 = (pos.getD i 0 : Int) + (cellWidth (cps.getD i 0) (pos.getD i 0) : Int) := by
  have hwi := ht.width_pos i hi
  have tb := ht.succ i hi
  rcases hl with ⟨j, hj, he⟩ | ⟨hno, he⟩
  · have hlt : pos.getD i 0 < pos.getD j 0 := hj.2.1
    have h1 := ht.apart i j hi hj.1
    rcases tb with ⟨j', hj', he'⟩ | he'
    · have := hj.2.2 j' hj' (by omega)
      omega
    · have := ht.table.lt_end j hj.1
      omega
  · rcases tb with ⟨j', hj', he'⟩ | he'
    · exact absurd (show pos.getD i 0 < pos.getD j' 0 by omega) (hno j' hj')
    · omega

/-- in a tiled table, for every column `p` inside the cell range `[pos[i], pos[i] + width)` of a
    character `i` that is not the newline: `ren_off(p) = i` and `ren_cursor(p)` is the last cell of
    that range -/
theorem renCursorT_tiled (s : Bytes) {cps pos : List Nat} (ht : Tiled cps pos)
    (i : Nat) (hi : i < cps.length) (hnl : chrHd s i ≠ 10) (p : Int)
    (hp1 : (pos.getD i 0 : Int) ≤ p)
    (hp2 : p < (pos.getD i 0 : Int) + (cellWidth (cps.getD i 0) (pos.getD i 0) : Int)) :
    renOffT pos cps.length p = i ∧
    renCursorT s pos cps.length p =
      (pos.getD i 0 : Int) + (cellWidth (cps.getD i 0) (pos.getD i 0) : Int) - 1 := by
  have hg : IsGreatest pos cps.length (PrevP p true) i := by
    refine ⟨hi, by unfold PrevP; simpa using hp1, ?_⟩
    intro j hj hP
    have hP' : (pos.getD j 0 : Int) ≤ p := by unfold PrevP at hP; simpa using hP
    rcases ht.apart i j hi hj with h1 | h1
    · exact h1
    · omega
  refine ⟨renOffT_of_greatest ht.table p i hg, ?_⟩
  have := lastCellOf_tiled ht i hi _ (renCursorT_spec s ht.table p i hg hnl).2
  omega

/-- for `isTiling` tables (the judged invariant) -/
theorem renCursorT_tiling (s : Bytes) (cps pos : List Nat) (hv : ∀ c ∈ cps, ValidCp c)
    (h : isTiling cps pos = true) (i : Nat) (hi : i < cps.length) (hnl : chrHd s i ≠ 10) (p : Int)
    (hp1 : (pos.getD i 0 : Int) ≤ p)
    (hp2 : p < (pos.getD i 0 : Int) + (cellWidth (cps.getD i 0) (pos.getD i 0) : Int)) :
    renOffT pos cps.length p = i ∧
    renCursorT s pos cps.length p =
      (pos.getD i 0 : Int) + (cellWidth (cps.getD i 0) (pos.getD i 0) : Int) - 1 :=
  renCursorT_tiled s (tiling_tiled cps pos hv h) i hi hnl p hp1 hp2

/-- for the model's own tables: on a valid UTF-8 line, with the table `ren_position` computes
    (reordered or not), every column of the cell range of a character other than the newline maps
    back to that character, and the cursor is drawn on the last cell of the range -/
theorem renPosition_cursor (orc : Dir.Oracle) (o : Opts) (cps : List Nat) (hv : ∀ c ∈ cps, ValidCp c)
    (pos : List Nat) (h : renPosition orc o (encStr cps) = some pos)
    (i : Nat) (hi : i < cps.length) (hnl : cps.getD i 0 ≠ 10) (p : Int)
    (hp1 : (pos.getD i 0 : Int) ≤ p)
    (hp2 : p < (pos.getD i 0 : Int) + (cellWidth (cps.getD i 0) (pos.getD i 0) : Int)) :
    renOffT pos (ucSlen (encStr cps)) p = i ∧
    renCursorT (encStr cps) pos (ucSlen (encStr cps)) p =
      (pos.getD i 0 : Int) + (cellWidth (cps.getD i 0) (pos.getD i 0) : Int) - 1 := by
  rw [C16.slen_spec hv]
  exact renCursorT_tiled _ (renPosition_tiled orc o cps hv pos h) i hi
    (fun hc => hnl ((Lemmas.C07.chrHd_enc_eq_10 hv i hi).mp hc)) p hp1 hp2

/-! ### increasing tables -/

theorem lastCellOf_inc {pos : List Nat} {n : Nat} (h : StrictInc pos n) (i : Nat) (hi : i < n) (c : Int)
    (hl : LastCellOf pos n i c) : c + 1 = (pos.getD (i + 1) 0 : Int) := by
  rcases hl with ⟨j, hj, he⟩ | ⟨hno, he⟩
  · by_cases h1 : i + 1 < n
    · rw [he, IsLeast.unique (strictInc_colTable h) hj (inc_least h i h1)]
    · exact absurd hj.2.1 (inc_none_right h i (by omega) j hj.1)
  · by_cases h1 : i + 1 < n
    · exact absurd (inc_least h i h1).2.1 (hno (i + 1) h1)
    · rw [he, show i + 1 = n by omega]

/-- without reordering: the cursor of character `off` is the cell before the next entry of the table -/
theorem renCursorT_inc (s : Bytes) {pos : List Nat} {n : Nat} (h : StrictInc pos n) (off : Nat) (hoff : off < n)
    (hnl : chrHd s off ≠ 10) :
    renCursorT s pos n (renPosT pos n off : Nat) = (pos.getD (off + 1) 0 : Int) - 1 := by
  unfold renPosT
  rw [if_pos hoff]
  have := lastCellOf_inc h off hoff _
    (renCursorT_spec s (strictInc_colTable h) _ off (isGreatest_self off hoff) hnl).2
  omega

/-- ... and on the newline, the last cell of the character before it -/
theorem renCursorT_inc_nl (s : Bytes) {pos : List Nat} {n : Nat} (h : StrictInc pos n) (off : Nat)
    (hoff : off + 1 < n) (hnl : chrHd s (off + 1) = 10) :
    renCursorT s pos n (renPosT pos n (off + 1) : Nat) = (pos.getD (off + 1) 0 : Int) - 1 := by
  unfold renPosT
  rw [if_pos hoff]
  have := lastCellOf_inc h off (by omega) _
    (renCursorT_spec_nl s (strictInc_colTable h) _ (off + 1) off (isGreatest_self (off + 1) hoff) hnl
      (inc_greatest h off hoff)).2
  omega

/-! ## 5. `ren_noeol` then `ren_cursor`: never on the newline of a non-empty line -/

/-- for a buffer line `w ++ "\n"` with `w` non-empty, any offset `o ≥ 0`: `ren_noeol` yields a
    character that is not the newline, and the cursor cell computed from its column is the last cell
    of that character — so it is never a cell of the newline -/
theorem cursor_noeol (w : Bytes) (hw10 : 10 ∉ w) (hw0 : 0 ∉ w) (hne : w ≠ [])
    {pos : List Nat} (h : ColTable pos (ucSlen (w ++ [10]))) (o : Int) (ho : 0 ≤ o) :
    let ln := w ++ [10]
    let n := ucSlen ln
    let off := (renNoeol ln o).toNat
    let c := renCursorT ln pos n (renPosT pos n off : Nat)
    off < n ∧ chrHd ln off ≠ 10 ∧ (pos.getD off 0 : Int) ≤ c ∧ LastCellOf pos n off c := by
  intro ln n off c
  have hhd : Bytes.hd ln = Bytes.hd w := by
    cases w with
    | nil => exact absurd rfl hne
    | cons a t => rfl
  have hhd0 : Bytes.hd ln ≠ 0 := by rw [hhd]; exact Lemmas.C07.hd_ne_zero_of_not_mem w hw0 hne
  have hhd10 : Bytes.hd ln ≠ 10 := by
    rw [hhd]
    cases w with
    | nil => exact absurd rfl hne
    | cons a t =>
      intro he
      simp only [Bytes.hd_cons] at he
      exact hw10 (by rw [he]; simp)
  have hpos : 0 < n := Lemmas.C07.ucSlen_pos ln hhd0
  have h0 := Lemmas.C07.renNoeol_nonneg ln o ho
  have h1 := Lemmas.C07.renNoeol_lt ln o
  have hoff : off < n := by
    show (renNoeol ln o).toNat < ucSlen ln
    have : (n : Int) = ucSlen ln := rfl
    omega
  have hnl : chrHd ln off ≠ 10 := by
    by_cases hp : 0 < renNoeol ln o
    · exact Lemmas.C07.renNoeol_not_nl ln o (Lemmas.C07.wfLine_noNlNl ln ⟨w, rfl, hw10⟩) hp
    · have : off = 0 := by
        show (renNoeol ln o).toNat = 0
        omega
      rw [this, Lemmas.C07.chrHd_zero]; exact hhd10
  refine ⟨hoff, hnl, ?_⟩
  have hc : c = renCursorT ln pos n (pos.getD off 0 : Nat) := by
    show renCursorT ln pos n (renPosT pos n off : Nat) = _
    unfold renPosT
    rw [if_pos hoff]
  rw [hc]
  exact renCursorT_spec ln h _ off (isGreatest_self off hoff) hnl

/-- the same on the table the model computes, for any bytes `w` (valid UTF-8 or not) -/
theorem cursor_noeol_model (orc : Dir.Oracle) (o : Opts) (w : Bytes) (hw10 : 10 ∉ w) (hw0 : 0 ∉ w)
    (hne : w ≠ []) (pos : List Nat) (h : renPosition orc o (w ++ [10]) = some pos) (off : Int)
    (hoff : 0 ≤ off) :
    let ln := w ++ [10]
    let n := ucSlen ln
    let k := (renNoeol ln off).toNat
    let c := renCursorT ln pos n (renPosT pos n k : Nat)
    k < n ∧ chrHd ln k ≠ 10 ∧ (pos.getD k 0 : Int) ≤ c ∧ LastCellOf pos n k c :=
  cursor_noeol w hw10 hw0 hne
    (renPosition_colTable_bytes orc o (w ++ [10]) (by simp [hw0]) pos h) off hoff

/-- the cell ranges of two different characters of a tiled table are disjoint -/
theorem cells_disjoint {cps pos : List Nat} (ht : Tiled cps pos) (i k : Nat) (hi : i < cps.length)
    (hk : k < cps.length) (hik : i ≠ k) :
    pos.getD i 0 + cellWidth (cps.getD i 0) (pos.getD i 0) ≤ pos.getD k 0 ∨
    pos.getD k 0 + cellWidth (cps.getD k 0) (pos.getD k 0) ≤ pos.getD i 0 :=
  ht.toW.disjoint i k hi hk hik

/-- end to end, on the model's own table: for a non-empty buffer line `body ++ "\n"` (valid UTF-8)
    and any offset `off ≥ 0`, `ren_noeol` yields a character `k` of `body`, and
    `ren_cursor(ren_pos(k))` is the last cell of `k`'s cell range — which is not a cell of the newline -/
theorem cursor_never_on_newline (orc : Dir.Oracle) (o : Opts) (body : List Nat)
    (hv : ∀ c ∈ body, ValidCp c) (h10 : 10 ∉ body) (hne : body ≠ []) (pos : List Nat)
    (h : renPosition orc o (encStr (body ++ [10])) = some pos) (off : Int) (hoff : 0 ≤ off) :
    let cps := body ++ [10]
    let s := encStr cps
    let n := ucSlen s
    let k := (renNoeol s off).toNat
    let c := renCursorT s pos n (renPosT pos n k : Nat)
    let nl := body.length
    k < body.length ∧
    c = (pos.getD k 0 : Int) + (cellWidth (cps.getD k 0) (pos.getD k 0) : Int) - 1 ∧
    ¬ ((pos.getD nl 0 : Int) ≤ c ∧ c < (pos.getD nl 0 : Int) + (cellWidth 10 (pos.getD nl 0) : Int)) := by
  intro cps s n k c nl
  have hvc : ∀ c ∈ cps, ValidCp c := valid_line hv
  have hs : s = encStr body ++ [10] := by
    show encStr (body ++ [10]) = _
    rw [encStr_append]; rfl
  have hn : n = cps.length := C16.slen_spec hvc
  have hcl : cps.length = body.length + 1 := by simp [cps]
  have ht : Tiled cps pos := renPosition_tiled orc o cps hvc pos h
  have hwne : encStr body ≠ [] := by
    cases body with
    | nil => exact absurd rfl hne
    | cons a t =>
      rw [encStr_cons]
      intro he
      exact enc_ne_nil a (List.append_eq_nil_iff.mp he).1
  have hct : ColTable pos (ucSlen (encStr body ++ [10])) := by
    rw [← hs]; show ColTable pos n; rw [hn]; exact ht.table
  have key := cursor_noeol (encStr body) (Lemmas.C08.ten_notin_encStr h10) (not_mem_encStr_0 hv) hwne hct off hoff
  simp only [] at key
  rw [← hs] at key
  obtain ⟨k1, k2, _, k4⟩ := key
  have hk : k < cps.length := by rw [← hn]; exact k1
  have hknl : cps.getD k 0 ≠ 10 := fun hc => k2 ((Lemmas.C07.chrHd_enc_eq_10 hvc k hk).mpr hc)
  have hnlc : cps.getD nl 0 = 10 := by simp [cps, nl]
  have hkne : k ≠ nl := fun hc => hknl (by rw [hc]; exact hnlc)
  have hc : c + 1 = (pos.getD k 0 : Int) + (cellWidth (cps.getD k 0) (pos.getD k 0) : Int) := by
    apply lastCellOf_tiled ht k hk
    rw [← hn]; exact k4
  refine ⟨by omega, by omega, ?_⟩
  have hd := cells_disjoint ht k nl hk (by omega) hkne
  rw [hnlc] at hd
  have := ht.width_pos k hk
  omega

/-! ## 6. counterexamples and non-vacuity -/

/-- without distinct columns the offset -> column -> offset round trip fails (the last character
    sharing the column wins) -/
example : renOffT [0, 0, 1] 2 (renPosT [0, 0, 1] 2 0 : Nat) = 1 := by decide

/-- the invariant alone does not place the cursor inside a cell range: a table with a gap (not a
    tiling) puts the cursor of the 1-wide character at column 0 on column 4 -/
example : renCursorT [0x61, 0x62] [0, 5, 6] 2 0 = 4 := by decide

/-- on the empty line `"\n"` the cursor is on the newline's cell (there is no other) -/
example : renCursorT [10] [0, 1] 1 0 = 0 ∧ chrHd [10] 0 = 10 := by decide

/-- in a reordered table `ren_next(+1)` follows the visual order, not the logical one: on `"ab\n"`
    displayed as `ba`, from `b` (offset 1, column 0) it reaches `a` (offset 0); from `a` the next
    cell is the newline's, so it fails -/
example : renOffT [1, 0, 2, 3] 3 (renNextT [0x61, 0x62, 0x0a] [1, 0, 2, 3] 3 0 1) = 0 ∧
    renNextT [0x61, 0x62, 0x0a] [1, 0, 2, 3] 3 1 1 = -1 := by decide

/-- `pos_prev` / `pos_next` with `cur = 0` are strict -/
example : posPrev [0, 2, 4, 5] 3 2 true = 2 ∧ posPrev [0, 2, 4, 5] 3 2 false = 0 ∧
    posNext [0, 2, 4, 5] 3 2 true = 2 ∧ posNext [0, 2, 4, 5] 3 2 false = 4 ∧
    posPrev [0, 2, 4, 5] 3 0 false = -1 ∧ posNext [0, 2, 4, 5] 3 4 false = -1 := by decide

/-- a tab at column 0 then `a`: every column of the tab's range maps to the tab, cursor on its last cell -/
example : (List.range 8).all (fun p => renOffT [0, 8, 9] 2 (p : Nat) == 0 &&
    renCursorT [0x09, 0x61] [0, 8, 9] 2 (p : Nat) == 7) = true := by decide

/-- `"a\tb\n"` through the model: the table, and from any offset at or past the end `ren_noeol`
    then `ren_cursor` land on `b` (column 8), not on the newline (column 9) -/
example : renPosition (fun _ _ _ => none) {} (encStr [0x61, 0x09, 0x62, 10]) = some [0, 1, 8, 9, 10] ∧
    renCursorT (encStr [0x61, 0x09, 0x62, 10]) [0, 1, 8, 9, 10] 4
      (renPosT [0, 1, 8, 9, 10] 4 (renNoeol (encStr [0x61, 0x09, 0x62, 10]) 7).toNat : Nat) = 8 := by decide

end Neatvi.Props.C17b
