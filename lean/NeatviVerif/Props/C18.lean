import NeatviVerif.Lemmas.C18bNest
/-!
# C18  Bidi reordering is a permutation reversing exactly the opposite-direction runs; shaping

`dir_fix` is modelled over an abstract matcher (`Dir.Matcher`); the theorems hold for *every*
matcher (permutation) or for every matcher satisfying the in-range law `Lawful` (no trap,
termination, frame).  That the concrete matcher (`dir_match` over the regex sets of `dir_init`) has the law on the
slices of a line is proved in `Props/C18c.lean` (`lineMatcher_lawful_on`, `dirOracle_ok'`).  `Lawful` and the equations of `dirFix` stand in `Lemmas/C18Fix.lean`, below the
lemma files of C18b; the frame clause is read off the position map of C18b (`fix_idx`, `fixIdx_within`).
-/
namespace Neatvi.Props.C18
open Neatvi Neatvi.Uc Neatvi.Dir

/-! ### permutation -/

theorem reverse_perm {ord ord' : List Nat} {b e : Nat} (h : dirReverse ord b e = some ord') :
    ord'.Perm ord := by
  unfold dirReverse at h
  split at h
  · split at h
    · cases h
      have h1 : ((ord.drop b).take (e - b)).reverse.Perm ((ord.drop b).take (e - b)) := List.reverse_perm _
      have h2 : ord = ord.take b ++ (ord.drop b).take (e - b) ++ ord.drop e := by
        have : ord.drop e = (ord.drop b).drop (e - b) := by rw [List.drop_drop]; congr 1; omega
        rw [this, List.append_assoc, List.take_append_drop, List.take_append_drop]
      conv => rhs; rw [h2]
      exact (List.Perm.append_left _ h1).append_right _
    · cases h
  · cases h; exact List.Perm.refl _

theorem revIf_perm {c : Bool} {ord ord' : List Nat} {b e : Nat} (h : revIf c ord b e = some ord') :
    ord'.Perm ord := by
  unfold revIf at h
  split at h
  · exact reverse_perm h
  · cases h; exact List.Perm.refl _

/-- a line in which the matcher finds nothing keeps logical order -/
theorem no_match_identity (M : Matcher) (fuel : Nat) (ord : List Nat) (dir : Int) (b e : Nat)
    (h : M b e dir = some none) : dirFix M (fuel + 1) ord dir b e = some ord :=
  dirFix_none h fuel ord

/-- `dir_fix` only ever permutes: for any matcher whatsoever (swaps only) -/
theorem fix_perm (M : Matcher) : ∀ (fuel : Nat) (ord ord' : List Nat) (dir : Int) (b e : Nat),
    dirFix M fuel ord dir b e = some ord' → ord'.Perm ord := by
  intro fuel
  induction fuel with
  | zero =>
    intro ord ord' dir b e h
    simp only [dirFix] at h
    split at h
    · cases h
    · cases h; exact List.Perm.refl _
  | succ f ih =>
    intro ord ord' dir b e h
    by_cases hbe : b < e
    · cases hM : M b e dir with
      | none => simp only [dirFix, if_pos hbe, hM] at h; cases h
      | some r =>
        cases r with
        | none => rw [no_match_identity M f ord dir b e hM] at h; cases h; exact List.Perm.refl _
        | some m =>
          rw [dirFix_match hbe hM] at h
          obtain ⟨o1, h1, h⟩ := Option.bind_eq_some_iff.mp h
          obtain ⟨o2, h2, h⟩ := Option.bind_eq_some_iff.mp h
          obtain ⟨o3, h3, h⟩ := Option.bind_eq_some_iff.mp h
          have p3 : o3.Perm o2 := by
            split at h3
            · exact ih _ _ _ _ _ h3
            · cases h3; exact List.Perm.refl _
          exact ((ih _ _ _ _ _ h).trans p3).trans ((revIf_perm h2).trans (revIf_perm h1))
    · rw [dirFix_empty M _ ord dir hbe] at h; cases h; exact List.Perm.refl _

theorem setLast_range (n : Nat) (c : Bool) (k : Nat) : setLast (List.range n) c k = List.range n := by
  unfold setLast
  split
  · by_cases hkn : k < n
    · apply List.ext_getElem (by simp)
      intro i h1 h2
      rw [List.getElem_set]
      split
      · next heq => subst heq; simp
      · rfl
    · rw [List.set_eq_of_length_le (by simp; omega)]
  · rfl

theorem setLast_length (ord : List Nat) (c : Bool) (k : Nat) : (setLast ord c k).length = ord.length := by
  unfold setLast
  split
  · exact List.length_set
  · rfl

/-- the visual order computed for a line is a permutation of its characters -/
theorem reorder_perm (orc : Oracle) (xtd : Int) (s : Bytes) (n : Nat) (ord : List Nat)
    (h : dirReorder orc xtd s (List.range n) = some ord) : ord.Perm (List.range n) := by
  unfold dirReorder at h
  simp only [setLast_range] at h
  exact fix_perm _ _ _ _ _ _ _ h

/-! ### in-range matchers: no trap, termination, frame -/

/-- for an in-range matcher `dir_fix` never traps, terminates within `e - b` rounds, keeps the
    length and touches nothing outside `[b, e)` -/
theorem fix_frame (M : Matcher) (hM : Lawful M) : ∀ (fuel : Nat) (ord : List Nat) (dir : Int) (b e : Nat),
    e - b ≤ fuel → e ≤ ord.length →
    ∃ ord', dirFix M fuel ord dir b e = some ord' ∧ ord'.length = ord.length ∧
      ord'.take b = ord.take b ∧ ord'.drop e = ord.drop e := by
  intro fuel ord dir b e hf he
  exact C18b.fix_frame_on (hM.on e) fuel ord dir b e (Nat.le_refl e) hf he

/-- in a left-to-right context a (non-nested) right-to-left run is reversed in place and the
    scan continues after it; symmetric statement for the right-to-left context -/
theorem run_step (M : Matcher) (fuel : Nat) (ord : List Nat) (dir : Int) (b e : Nat) (m : DMatch)
    (hbe : b < e) (h : M b e dir = some (some m)) (hrec : m.cRec = false) :
    dirFix M (fuel + 1) ord dir b e =
      ((revIf (decide (dir < 0)) ord m.rBeg m.rEnd).bind fun o1 =>
        (revIf (decide (m.cDir < 0)) o1 m.cBeg m.cEnd).bind fun o2 =>
          dirFix M fuel o2 dir m.rEnd e) := by
  rw [dirFix_match hbe h]
  simp only [hrec, Bool.false_eq_true, if_false, Option.bind_some]

/-! ### shaping -/

/-- `find_achar` only returns rows of the table, for the code point asked -/
theorem findAchar_sound (t : List (Nat × Nat × Nat × Nat × Nat)) (c : Nat) :
    ∀ fuel l h a, findAcharF t c fuel l h = some a → a.c = c ∧ ∃ r ∈ t, a = acharOf r := by
  intro fuel
  induction fuel with
  | zero => intro l h a hh; simp [findAcharF] at hh
  | succ f ih =>
    intro l h a hh
    simp only [findAcharF] at hh
    split at hh
    · split at hh
      · cases hh
      · next r hr =>
        split at hh
        · next heq =>
          cases hh
          exact ⟨heq, r, List.mem_of_getElem? hr, rfl⟩
        · split at hh
          · exact ih _ _ _ hh
          · exact ih _ _ _ hh
    · cases hh

/-- and it finds every row of the (regenerated) table -/
theorem findAchar_complete : Gen.achars.all (fun r => findAchar r.1 == some (acharOf r)) = true := by
  decide +kernel

/-- the presentation form selected by the joining context -/
def pick (a : AChar) (jp jn : Bool) : Nat :=
  if jp && jn then a.m else if jp && !jn then a.f else if !jp && jn then a.i else a.c

/-- shaping never alters a character that is not in the letter table -/
theorem shape_other (cur prev next : Nat) (h : findAchar cur = none) : ucCshape cur prev next = cur := by
  simp [ucCshape, h]

/-- a letter of the table is replaced only by itself or by the form of *its own row* selected by
    whether the neighbours join -/
theorem shape_same_letter (cur prev next : Nat) (a : AChar) (h : findAchar cur = some a) :
    a.c = cur ∧ (∃ r ∈ Gen.achars, a = acharOf r) ∧
    (ucCshape cur prev next = pick a (canJoin prev cur) (canJoin cur next) ∨ ucCshape cur prev next = cur) := by
  have hs := findAchar_sound Gen.achars cur _ _ _ a h
  refine ⟨hs.1, hs.2, ?_⟩
  have key : ∀ x : Nat, (if (x != 0) = true then x else cur) = x ∨ (if (x != 0) = true then x else cur) = cur := by
    intro x; by_cases hx : (x != 0) = true
    · left; rw [if_pos hx]
    · right; rw [if_neg hx]
  simp only [ucCshape, h, pick]
  exact key _

/-- shaping vectors (that `uc_cput` of a shaped letter is well formed is `C16.put_enc`) -/
example : ucCshape 0x628 0x644 0x627 = 0xfe92 ∧ ucCshape 0x628 0 0x644 = 0xfe91 ∧ ucCshape 0x41 0x628 0x628 = 0x41 := by
  decide +kernel

example : dirFix (fun b e _ => if b == 0 && e == 4 then some (some ⟨1, 3, 1, 3, -1, false⟩) else some none)
    5 [0, 1, 2, 3] 1 0 4 = some [0, 2, 1, 3] := by decide

end Neatvi.Props.C18
