import NeatviVerif.Lemmas.C18bRuns
import NeatviVerif.Lemmas.C18bNest
import NeatviVerif.Props.C18
/-!
# C18b  The whole-line statement of bidi reordering

What `dir_fix` (model: `Dir.dirFix` over an abstract `Matcher`) makes of a line that contains several
runs.  Definitions used in the statements (in `Lemmas/C18bRev`, `C18bRuns`, `C18bNest`):

* `Scan M dir e b ms` / `matchesFrom M dir fuel b e = some ms`: `ms` are the successive top-level
  matches `M b e dir = m₁`, `M m₁.rEnd e dir = m₂`, … of the scan of `[b, e)`;
* `Chained e b ms`: every match lies in the slice searched for it (derived from `C18c.LawfulOn`, hence from
  `C18.Lawful`, by `scan_chained`; implies the ranges are disjoint and increasing, `chained_pairwise`);
* `revSlice ord b e` (total `dirReverse`), `mirror b e p` (its action on a position);
* `reverseRuns`, `reverseMatches`, `applyRuns neg`: the list-level results; `runIdx`, `stepIdx`,
  `fixIdx`: the position-level results (where the element at `p` comes from).

Theorems: `fix_runs` (both contexts), R1 `fix_runs_ltr`, `fix_runs_ltr_pos`; R2 `fix_runs_rtl`,
`fix_runs_rtl_pos`, `fix_runs_rtl_whole`; both contexts, group = match: `fix_runs_whole_pos`;
R3 `fix_step`, `fix_step_rec`, `fix_idx` (Lemmas/C18bNest), `fix_nested_pos`, `fixIdx_flat`;
R4 `dirMatch_shape`, `reorder_runs`, `reorder_runs_range`; R5 the `example`s at the end.

Finding recorded by R2: in a right-to-left context `dir_fix` first reverses the whole match and then
reverses the group *again when the group is right-to-left* (`cDir < 0`), applying the group's
offsets to the already reversed range; so unless the group is the whole match (or centred in it) the
second reversal acts on the mirror image of the group, not on the group.  All non-nested patterns
of `conf.h` have group = match (`dirMatch_shape`), where the net effect is: opposite-direction runs
are mirrored, same-direction runs stay (`fix_runs_whole_pos`).
-/
namespace Neatvi.Props.C18b
open Neatvi Neatvi.Dir Neatvi.Props.C18

/-- list-driven matcher for tests: the first listed match that fits in `[b, e)` -/
def listMatcher (ms : List DMatch) : Matcher := fun b e _ =>
  match ms.find? (fun m => decide (b ≤ m.rBeg) && decide (m.rEnd ≤ e)) with
  | some m => some (some m)
  | none => some none

/-- whole line, no nesting, any context direction: `dirFix` is `applyRuns` of the scanned matches -/
theorem fix_runs {M : Matcher} {dir : Int} {e b : Nat} {ms : List DMatch} (hs : Scan M dir e b ms) :
    ∀ (fuel : Nat) (ord : List Nat), Chained e b ms → (∀ m ∈ ms, m.cRec = false) →
      e ≤ ord.length → e - b ≤ fuel →
      dirFix M fuel ord dir b e = some (applyRuns (decide (dir < 0)) ord ms) := by
  induction hs with
  | done hbe =>
    intro fuel ord _ _ _ _
    cases fuel <;> simp [dirFix, hbe, applyRuns]
  | stop hbe hm =>
    intro fuel ord _ _ _ hf
    cases fuel with
    | zero => omega
    | succ f => exact no_match_identity M f ord dir _ _ hm
  | @next b m ms hbe hm _ ih =>
    intro fuel ord hc hflat he hf
    obtain ⟨h0, h1⟩ := hc
    cases fuel with
    | zero => omega
    | succ f =>
      rw [run_step M f ord dir b e m hbe hm (hflat m List.mem_cons_self), ← Option.bind_assoc,
        round_eq h0 he, Option.bind_some]
      have hlen := stepRev_length (neg := decide (dir < 0)) h0 he
      unfold InRange at h0
      exact ih f (stepRev (decide (dir < 0)) ord m) h1
        (fun m' hm' => hflat m' (List.mem_cons_of_mem _ hm')) (by rw [hlen]; exact he) (by omega)

/-- the index map of a chain, case by case: inside the range of a listed match it is that match's
    own map, elsewhere the identity -/
theorem runIdx_cases {neg : Bool} {e b : Nat} {ms : List DMatch} (hc : Chained e b ms) (p : Nat) :
    (∃ m ∈ ms, m.rBeg ≤ p ∧ p < m.rEnd ∧ runIdx neg ms p = stepIdx neg m p) ∨
    ((∀ m ∈ ms, ¬ (m.rBeg ≤ p ∧ p < m.rEnd)) ∧ runIdx neg ms p = p) := by
  by_cases h : ∃ m ∈ ms, m.rBeg ≤ p ∧ p < m.rEnd
  · obtain ⟨m, hm, h1, h2⟩ := h
    exact Or.inl ⟨m, hm, h1, h2, runIdx_mem hc m hm h1 h2⟩
  · have h' : ∀ m ∈ ms, ¬ (m.rBeg ≤ p ∧ p < m.rEnd) := fun m hm hp => h ⟨m, hm, hp⟩
    exact Or.inr ⟨h', runIdx_not_mem h'⟩

/-! ### R1: left-to-right context -/

/-- reverse, for each match whose group is right-to-left, exactly the slice `[cBeg, cEnd)` -/
def reverseRuns : List Nat → List DMatch → List Nat
  | ord, [] => ord
  | ord, m :: ms => reverseRuns (if m.cDir < 0 then revSlice ord m.cBeg m.cEnd else ord) ms

theorem applyRuns_ltr : ∀ (ms : List DMatch) (ord : List Nat), applyRuns false ord ms = reverseRuns ord ms
  | [], _ => rfl
  | m :: ms, ord => by
    simp only [applyRuns, reverseRuns, stepRev, revSliceIf, Bool.false_eq_true, if_false, decide_eq_true_eq]
    exact applyRuns_ltr ms _

/-- R1, list form: in a left-to-right context the scan of `[b, e)` by a lawful matcher whose
    successive matches `ms` are not nested reverses exactly the right-to-left groups -/
theorem fix_runs_ltr {M : Matcher} (hM : Lawful M) {dir : Int} (hdir : 0 ≤ dir) {e b : Nat}
    {ms : List DMatch} (hs : Scan M dir e b ms) (hflat : ∀ m ∈ ms, m.cRec = false)
    (fuel : Nat) (ord : List Nat) (he : e ≤ ord.length) (hf : e - b ≤ fuel) :
    dirFix M fuel ord dir b e = some (reverseRuns ord ms) := by
  rw [fix_runs hs fuel ord (scan_chained (hM.on e) (Nat.le_refl e) hs) hflat he hf, ← applyRuns_ltr]
  congr 2
  exact decide_eq_false (by omega)

/-- R1, position-wise: a position inside a right-to-left group holds the mirrored element of that
    group; every other position of the line keeps its element.  (The groups are pairwise disjoint
    and increasing: `scan_chained`, `chained_pairwise`.) -/
theorem fix_runs_ltr_pos {M : Matcher} (hM : Lawful M) {dir : Int} (hdir : 0 ≤ dir) {e b : Nat}
    {ms : List DMatch} (hs : Scan M dir e b ms) (hflat : ∀ m ∈ ms, m.cRec = false)
    (fuel : Nat) (ord : List Nat) (he : e ≤ ord.length) (hf : e - b ≤ fuel) :
    ∃ ord', dirFix M fuel ord dir b e = some ord' ∧ ord'.length = ord.length ∧
      (∀ m ∈ ms, m.cDir < 0 → ∀ p, m.cBeg ≤ p → p < m.cEnd →
        ord'[p]? = ord[m.cBeg + m.cEnd - 1 - p]?) ∧
      (∀ p, (∀ m ∈ ms, m.cDir < 0 → ¬ (m.cBeg ≤ p ∧ p < m.cEnd)) → ord'[p]? = ord[p]?) := by
  have hc := scan_chained (hM.on e) (Nat.le_refl e) hs
  have hneg : decide (dir < 0) = false := decide_eq_false (by omega)
  refine ⟨applyRuns false ord ms, ?_, applyRuns_length hc he, ?_, ?_⟩
  · rw [fix_runs hs fuel ord hc hflat he hf, hneg]
  · intro m hm hd p h1 h2
    have hr := chained_mem hc m hm
    unfold InRange at hr
    rw [applyRuns_getElem? hc he, runIdx_mem hc m hm (by omega) (by omega)]
    simp only [stepIdx, mirrorIf, hd, decide_true, if_true, Bool.false_eq_true, if_false]
    rw [mirror_in h1 h2]
  · intro p hp
    rw [applyRuns_getElem? hc he]
    rcases runIdx_cases (neg := false) hc p with ⟨m, hm, _, _, heq⟩ | ⟨_, heq⟩
    · rw [heq]
      simp only [stepIdx, mirrorIf, Bool.false_eq_true, if_false, decide_eq_true_eq]
      split
      · next hd => rw [mirror_out (hp m hm hd)]
      · rfl
    · rw [heq]

/-! ### R2: right-to-left context -/

/-- reverse each match range, then reverse the group again when its direction is right-to-left -/
def reverseMatches : List Nat → List DMatch → List Nat
  | ord, [] => ord
  | ord, m :: ms =>
    let o1 := revSlice ord m.rBeg m.rEnd
    reverseMatches (if m.cDir < 0 then revSlice o1 m.cBeg m.cEnd else o1) ms

theorem applyRuns_rtl : ∀ (ms : List DMatch) (ord : List Nat), applyRuns true ord ms = reverseMatches ord ms
  | [], _ => rfl
  | m :: ms, ord => by
    simp only [applyRuns, reverseMatches, stepRev, revSliceIf, if_true, decide_eq_true_eq]
    exact applyRuns_rtl ms _

/-- R2, list form -/
theorem fix_runs_rtl {M : Matcher} (hM : Lawful M) {dir : Int} (hdir : dir < 0) {e b : Nat}
    {ms : List DMatch} (hs : Scan M dir e b ms) (hflat : ∀ m ∈ ms, m.cRec = false)
    (fuel : Nat) (ord : List Nat) (he : e ≤ ord.length) (hf : e - b ≤ fuel) :
    dirFix M fuel ord dir b e = some (reverseMatches ord ms) := by
  rw [fix_runs hs fuel ord (scan_chained (hM.on e) (Nat.le_refl e) hs) hflat he hf, ← applyRuns_rtl]
  congr 2
  exact decide_eq_true hdir

/-- R2, position-wise: inside a match range the line is mirrored, except that a right-to-left
    group `[cBeg, cEnd)` is mirrored a second time (so it holds, in logical order, the elements of
    the mirror image of the group inside the range); positions outside all ranges keep their
    element.  NB it is the *right-to-left* group (`cDir < 0`) that is reversed back, as in `dir.c`. -/
theorem fix_runs_rtl_pos {M : Matcher} (hM : Lawful M) {dir : Int} (hdir : dir < 0) {e b : Nat}
    {ms : List DMatch} (hs : Scan M dir e b ms) (hflat : ∀ m ∈ ms, m.cRec = false)
    (fuel : Nat) (ord : List Nat) (he : e ≤ ord.length) (hf : e - b ≤ fuel) :
    ∃ ord', dirFix M fuel ord dir b e = some ord' ∧ ord'.length = ord.length ∧
      (∀ m ∈ ms, ∀ p, m.rBeg ≤ p → p < m.rEnd →
        ord'[p]? = if m.cDir < 0 ∧ m.cBeg ≤ p ∧ p < m.cEnd
          then ord[m.rBeg + m.rEnd - 1 - (m.cBeg + m.cEnd - 1 - p)]?
          else ord[m.rBeg + m.rEnd - 1 - p]?) ∧
      (∀ p, (∀ m ∈ ms, ¬ (m.rBeg ≤ p ∧ p < m.rEnd)) → ord'[p]? = ord[p]?) := by
  have hc := scan_chained (hM.on e) (Nat.le_refl e) hs
  have hneg : decide (dir < 0) = true := decide_eq_true hdir
  refine ⟨applyRuns true ord ms, ?_, applyRuns_length hc he, ?_, ?_⟩
  · rw [fix_runs hs fuel ord hc hflat he hf, hneg]
  · intro m hm p h1 h2
    have hr := chained_mem hc m hm
    unfold InRange at hr
    rw [applyRuns_getElem? hc he, runIdx_mem hc m hm h1 h2]
    simp only [stepIdx, mirrorIf, if_true, decide_eq_true_eq]
    by_cases hin : m.cDir < 0 ∧ m.cBeg ≤ p ∧ p < m.cEnd
    · rw [if_pos hin, if_pos hin.1, mirror_in hin.2.1 hin.2.2, mirror_in (by omega) (by omega)]
    · have : (if m.cDir < 0 then mirror m.cBeg m.cEnd p else p) = p := by
        split
        · next hd => exact mirror_out (fun h => hin ⟨hd, h⟩)
        · rfl
      rw [if_neg hin, this, mirror_in h1 h2]
  · intro p hp
    rw [applyRuns_getElem? hc he, runIdx_not_mem hp]

/-! ### both contexts at once when the group is the whole match (the shape of every non-nested
match of the concrete matcher): exactly the opposite-direction runs are mirrored -/

/-- the direction of the match is opposite to the direction of the context -/
def Opp (dir : Int) (m : DMatch) : Prop := (m.cDir < 0 ∧ 0 ≤ dir) ∨ (0 ≤ m.cDir ∧ dir < 0)

instance (dir : Int) (m : DMatch) : Decidable (Opp dir m) := by unfold Opp; infer_instance

theorem stepIdx_whole {dir : Int} {m : DMatch} (h1 : m.cBeg = m.rBeg) (h2 : m.cEnd = m.rEnd) (p : Nat) :
    stepIdx (decide (dir < 0)) m p = if Opp dir m then mirror m.rBeg m.rEnd p else p := by
  unfold stepIdx mirrorIf
  rw [h1, h2]
  by_cases hd : dir < 0 <;> by_cases hc : m.cDir < 0
  · have ho : ¬ Opp dir m := by unfold Opp; omega
    rw [if_neg ho]; simp [hd, hc, mirror_mirror]
  · have ho : Opp dir m := by unfold Opp; omega
    rw [if_pos ho]; simp [hd, hc]
  · have ho : Opp dir m := by unfold Opp; omega
    rw [if_pos ho]; simp [hd, hc]
  · have ho : ¬ Opp dir m := by unfold Opp; omega
    rw [if_neg ho]; simp [hd, hc]

/-- whole line, no nesting, groups = whole matches, either context: exactly the runs whose direction
    is opposite to the context are mirrored in place, every other position keeps its element.
    (`Chained` is a hypothesis here so that the statement applies to matchers that are in range only
    on the slices actually searched; for a `Lawful` matcher it follows from `scan_chained`.) -/
theorem fix_runs_whole_pos {M : Matcher} {dir : Int} {e b : Nat} {ms : List DMatch}
    (hs : Scan M dir e b ms) (hc : Chained e b ms) (hflat : ∀ m ∈ ms, m.cRec = false)
    (hwhole : ∀ m ∈ ms, m.cBeg = m.rBeg ∧ m.cEnd = m.rEnd)
    (fuel : Nat) (ord : List Nat) (he : e ≤ ord.length) (hf : e - b ≤ fuel) :
    ∃ ord', dirFix M fuel ord dir b e = some ord' ∧ ord'.length = ord.length ∧
      (∀ m ∈ ms, Opp dir m → ∀ p, m.rBeg ≤ p → p < m.rEnd → ord'[p]? = ord[m.rBeg + m.rEnd - 1 - p]?) ∧
      (∀ p, (∀ m ∈ ms, Opp dir m → ¬ (m.rBeg ≤ p ∧ p < m.rEnd)) → ord'[p]? = ord[p]?) := by
  refine ⟨_, fix_runs hs fuel ord hc hflat he hf, applyRuns_length hc he, ?_, ?_⟩
  · intro m hm ho p h1 h2
    rw [applyRuns_getElem? hc he, runIdx_mem hc m hm h1 h2,
      stepIdx_whole (hwhole m hm).1 (hwhole m hm).2, if_pos ho, mirror_in h1 h2]
  · intro p hp
    rw [applyRuns_getElem? hc he]
    rcases runIdx_cases (neg := decide (dir < 0)) hc p with ⟨m, hm, h1, h2, heq⟩ | ⟨_, heq⟩
    · rw [heq, stepIdx_whole (hwhole m hm).1 (hwhole m hm).2]
      split
      · next ho => exact absurd ⟨h1, h2⟩ (hp m hm ho)
      · rfl
    · rw [heq]

/-- R2, the usual shape of a non-nested match (group = whole match): a right-to-left run inside a
    right-to-left context stays in logical order, a left-to-right run is mirrored -/
theorem fix_runs_rtl_whole {M : Matcher} (hM : Lawful M) {dir : Int} (hdir : dir < 0) {e b : Nat}
    {ms : List DMatch} (hs : Scan M dir e b ms) (hflat : ∀ m ∈ ms, m.cRec = false)
    (hwhole : ∀ m ∈ ms, m.cBeg = m.rBeg ∧ m.cEnd = m.rEnd)
    (fuel : Nat) (ord : List Nat) (he : e ≤ ord.length) (hf : e - b ≤ fuel) :
    ∃ ord', dirFix M fuel ord dir b e = some ord' ∧ ord'.length = ord.length ∧
      (∀ m ∈ ms, 0 ≤ m.cDir → ∀ p, m.rBeg ≤ p → p < m.rEnd → ord'[p]? = ord[m.rBeg + m.rEnd - 1 - p]?) ∧
      (∀ p, (∀ m ∈ ms, 0 ≤ m.cDir → ¬ (m.rBeg ≤ p ∧ p < m.rEnd)) → ord'[p]? = ord[p]?) := by
  obtain ⟨ord', h1, h2, h3, h4⟩ := fix_runs_whole_pos hs (scan_chained (hM.on e) (Nat.le_refl e) hs) hflat hwhole fuel ord he hf
  have ho : ∀ m, Opp dir m ↔ 0 ≤ m.cDir := fun m => by unfold Opp; omega
  exact ⟨ord', h1, h2, fun m hm hd => h3 m hm ((ho m).mpr hd), fun p hp => h4 p fun m hm o => hp m hm ((ho m).mp o)⟩

/-! ### R4: `dirReorder` -/

/-- the matcher `dir_reorder` hands to `dir_fix` -/
def lineMatcher (orc : Oracle) (s : Bytes) : Matcher := fun b e c => dirMatch orc s (Uc.ucChop s) b e c

/-- number of characters of the line -/
def lineChars (s : Bytes) : Nat := (Uc.ucChop s).length - 1

/-- the last character is a newline -/
def lineNl (s : Bytes) : Bool :=
  decide (lineChars s > 0) && (match (Uc.ucChop s)[lineChars s - 1]? with
    | some o => Bytes.hd (s.drop o) == 10
    | none => false)

/-- end of the reordered slice: the newline is left out -/
def lineEnd (s : Bytes) : Nat := if lineNl s then lineChars s - 1 else lineChars s

theorem lineEnd_le (s : Bytes) : lineEnd s ≤ lineChars s := by
  unfold lineEnd
  split <;> omega

theorem dirReorder_eq (orc : Oracle) (xtd : Int) (s : Bytes) (ord : List Nat) :
    dirReorder orc xtd s ord =
      dirFix (lineMatcher orc s) (lineEnd s + 1) (setLast ord (lineNl s) (lineChars s - 1))
        (dirContext orc xtd s) 0 (lineEnd s) := rfl

/-- shape of what `dir_match` returns: the match starts at or after `b`; a non-nested match
    (`grp = 0`) has the whole match as its group -/
theorem dirMatch_shape {orc : Oracle} {s : Bytes} {chop : List Nat} {b e : Nat} {ctx : Int} {m : DMatch}
    (h : dirMatch orc s chop b e ctx = some (some m)) :
    b ≤ m.rBeg ∧ (m.cRec = false → m.cBeg = m.rBeg ∧ m.cEnd = m.rEnd) := by
  unfold dirMatch at h
  cases h1 : slice s chop b e with
  | none => rw [h1] at h; cases h
  | some str =>
    rw [h1] at h
    cases h2 : chop[e]? with
    | none => rw [h2] at h; cases h
    | some oe =>
      rw [h2] at h
      simp only [Option.bind_eq_bind, Option.bind_some] at h
      split at h
      · cases h
      · next found subs _ =>
        split at h
        · cases h
        · next x dir grp _ =>
          cases h
          refine ⟨Nat.le_add_right _ _, ?_⟩
          intro hrec
          have hg : grp = 0 := by
            have : ¬ grp > 0 := by simpa using hrec
            omega
          subst hg
          dsimp only
          constructor
          · split <;> rfl
          · split <;> rfl

/-- for the concrete matcher the chain condition reduces to: every match is non-empty and ends
    inside the line (what the regex engine guarantees for the non-empty patterns of `conf.h`) -/
theorem scan_line_chained {orc : Oracle} {s : Bytes} {dir : Int} {e b : Nat} {ms : List DMatch}
    (hs : Scan (lineMatcher orc s) dir e b ms) (hflat : ∀ m ∈ ms, m.cRec = false)
    (hne : ∀ m ∈ ms, m.rBeg < m.rEnd ∧ m.rEnd ≤ e) :
    Chained e b ms ∧ ∀ m ∈ ms, m.cBeg = m.rBeg ∧ m.cEnd = m.rEnd := by
  induction hs with
  | done _ => exact ⟨trivial, fun _ h => by cases h⟩
  | stop _ _ => exact ⟨trivial, fun _ h => by cases h⟩
  | @next b m ms hbe hm _ ih =>
    obtain ⟨i1, i2⟩ := ih (fun m' hm' => hflat m' (List.mem_cons_of_mem _ hm'))
      (fun m' hm' => hne m' (List.mem_cons_of_mem _ hm'))
    obtain ⟨s1, s2⟩ := dirMatch_shape hm
    obtain ⟨w1, w2⟩ := s2 (hflat m List.mem_cons_self)
    obtain ⟨n1, n2⟩ := hne m List.mem_cons_self
    refine ⟨⟨?_, i1⟩, ?_⟩
    · unfold InRange; omega
    · intro m' hm'
      rcases List.mem_cons.mp hm' with rfl | hm''
      · exact ⟨w1, w2⟩
      · exact i2 m' hm''

/-- R4: the visual order of a line in terms of the matches `dir_match` finds on it.  `ms` are the
    successive matches on `[0, lineEnd s)` in the line's context direction, none nested, each
    non-empty and inside the line.  Then `dir_reorder` does not trap and: every run whose direction is
    opposite to the context is mirrored in place, a final newline stays last, every other position
    keeps its entry. -/
theorem reorder_runs (orc : Oracle) (xtd : Int) (s : Bytes) (ord : List Nat) {ms : List DMatch}
    (hs : Scan (lineMatcher orc s) (dirContext orc xtd s) (lineEnd s) 0 ms)
    (hflat : ∀ m ∈ ms, m.cRec = false) (hne : ∀ m ∈ ms, m.rBeg < m.rEnd ∧ m.rEnd ≤ lineEnd s)
    (hlen : lineChars s ≤ ord.length) :
    ∃ ord', dirReorder orc xtd s ord = some ord' ∧ ord'.length = ord.length ∧
      (∀ m ∈ ms, Opp (dirContext orc xtd s) m → ∀ p, m.rBeg ≤ p → p < m.rEnd →
        ord'[p]? = ord[m.rBeg + m.rEnd - 1 - p]?) ∧
      (lineNl s = true → ord'[lineChars s - 1]? = some (lineChars s - 1)) ∧
      (∀ p, (lineNl s = true → p ≠ lineChars s - 1) →
        (∀ m ∈ ms, Opp (dirContext orc xtd s) m → ¬ (m.rBeg ≤ p ∧ p < m.rEnd)) → ord'[p]? = ord[p]?) := by
  obtain ⟨hc, hwhole⟩ := scan_line_chained hs hflat hne
  have hend := lineEnd_le s
  have hsl := setLast_length ord (lineNl s) (lineChars s - 1)
  obtain ⟨ord', h1, h2, h3, h4⟩ := fix_runs_whole_pos hs hc hflat hwhole (lineEnd s + 1)
    (setLast ord (lineNl s) (lineChars s - 1)) (by rw [hsl]; omega) (by omega)
  have hmem : ∀ m ∈ ms, ∀ p, m.rBeg ≤ p → p < m.rEnd → p < lineEnd s ∧ m.rBeg + m.rEnd - 1 - p < lineEnd s := by
    intro m hm p hp1 hp2
    have := (hne m hm).2
    omega
  have hget : ∀ q, (lineNl s = true → q ≠ lineChars s - 1) →
      (setLast ord (lineNl s) (lineChars s - 1))[q]? = ord[q]? := by
    intro q hq
    unfold setLast
    split
    · next hnl => rw [List.getElem?_set_ne (Ne.symm (hq hnl))]
    · rfl
  have hnlpos : lineNl s = true → lineChars s > 0 ∧ lineEnd s = lineChars s - 1 := by
    intro hnl
    refine ⟨?_, by unfold lineEnd; rw [if_pos hnl]⟩
    unfold lineNl at hnl
    simp only [Bool.and_eq_true, decide_eq_true_eq] at hnl
    exact hnl.1
  refine ⟨ord', by rw [dirReorder_eq]; exact h1, by rw [h2, hsl], ?_, ?_, ?_⟩
  · intro m hm ho p hp1 hp2
    rw [h3 m hm ho p hp1 hp2]
    apply hget
    intro hnl
    have := hmem m hm p hp1 hp2
    have := hnlpos hnl
    omega
  · intro hnl
    obtain ⟨k1, k2⟩ := hnlpos hnl
    rw [h4 _ (fun m hm _ hin => by have := hmem m hm _ hin.1 hin.2; omega)]
    unfold setLast
    rw [if_pos hnl, List.getElem?_set_self (by omega)]
  · intro p hp1 hp2
    rw [h4 p hp2]
    exact hget p hp1

/-- R4 for the identity input (`ord[i] = i`, as `ren.c` calls it): the visual order of the line.
    Position `p` of an opposite-direction run shows character `rBeg + rEnd - 1 - p`; every other
    position (the final newline included) shows character `p`. -/
theorem reorder_runs_range (orc : Oracle) (xtd : Int) (s : Bytes) {ms : List DMatch}
    (hs : Scan (lineMatcher orc s) (dirContext orc xtd s) (lineEnd s) 0 ms)
    (hflat : ∀ m ∈ ms, m.cRec = false) (hne : ∀ m ∈ ms, m.rBeg < m.rEnd ∧ m.rEnd ≤ lineEnd s) :
    ∃ ord', dirReorder orc xtd s (List.range (lineChars s)) = some ord' ∧ ord'.length = lineChars s ∧
      (∀ m ∈ ms, Opp (dirContext orc xtd s) m → ∀ p, m.rBeg ≤ p → p < m.rEnd →
        ord'[p]? = some (m.rBeg + m.rEnd - 1 - p)) ∧
      (∀ p, p < lineChars s →
        (∀ m ∈ ms, Opp (dirContext orc xtd s) m → ¬ (m.rBeg ≤ p ∧ p < m.rEnd)) → ord'[p]? = some p) := by
  have hend := lineEnd_le s
  obtain ⟨ord', h1, h2, h3, h4, h5⟩ := reorder_runs orc xtd s (List.range (lineChars s)) hs hflat hne (by simp)
  refine ⟨ord', h1, by simpa using h2, ?_, ?_⟩
  · intro m hm ho p hp1 hp2
    have := (hne m hm).2
    rw [h3 m hm ho p hp1 hp2, List.getElem?_range (by omega)]
  · intro p hp hout
    by_cases hnl : lineNl s = true ∧ p = lineChars s - 1
    · rw [hnl.2]; exact h4 hnl.1
    · rw [h5 p (fun h hp' => hnl ⟨h, hp'⟩) hout, List.getElem?_range hp]

/-- the same statements with the matches given by the function `matchesFrom` -/
theorem fix_runs_of_matchesFrom {M : Matcher} (hM : Lawful M) {dir : Int} {e b f : Nat} {ms : List DMatch}
    (hs : matchesFrom M dir f b e = some ms) (hflat : ∀ m ∈ ms, m.cRec = false)
    (fuel : Nat) (ord : List Nat) (he : e ≤ ord.length) (hf : e - b ≤ fuel) :
    dirFix M fuel ord dir b e = some (if dir < 0 then reverseMatches ord ms else reverseRuns ord ms) := by
  have hs' := scan_of_matchesFrom M dir f b e ms hs
  split
  · next hd => exact fix_runs_rtl hM hd hs' hflat fuel ord he hf
  · next hd => exact fix_runs_ltr hM (by omega) hs' hflat fuel ord he hf

/-! ### R3: nested groups -/

/-- R3, whole line with nested groups, position-wise along the top-level scan `ms` (nested or not):
    `dirFix` does not trap and keeps the length; a position inside the range of a scanned match holds
    the element selected by that match's two conditional mirrors (`stepIdx`) composed — when the match
    is nested — with the index map `fixIdx` of the recursive scan of its group in the group's own
    direction; a position outside all ranges keeps its element.  (`fix_idx` gives the same for the
    recursive scans, so the description unfolds to any depth; `fix_step_rec` is the list form of one
    nested round.) -/
theorem fix_nested_pos {M : Matcher} (hM : Lawful M) {dir : Int} {e b : Nat} {ms : List DMatch}
    (hs : Scan M dir e b ms) (fuel : Nat) (ord : List Nat) (he : e ≤ ord.length) (hf : e - b ≤ fuel) :
    ∃ ord', dirFix M fuel ord dir b e = some ord' ∧ ord'.length = ord.length ∧
      (∀ m ∈ ms, ∀ p, m.rBeg ≤ p → p < m.rEnd →
        ord'[p]? = ord[stepIdx (decide (dir < 0)) m
          (if m.cRec then fixIdx M fuel m.cDir (recBeg m) m.cEnd p else p)]?) ∧
      (∀ p, (∀ m ∈ ms, ¬ (m.rBeg ≤ p ∧ p < m.rEnd)) → ord'[p]? = ord[p]?) :=
  fix_nested_pos_on (hM.on e) (Nat.le_refl e) hs fuel ord he hf

/-- consistency of the two descriptions: without nesting the index map of `dirFix` is `runIdx` -/
theorem fixIdx_flat {M : Matcher} (hM : Lawful M) {dir : Int} {e b : Nat} {ms : List DMatch}
    (hs : Scan M dir e b ms) (hflat : ∀ m ∈ ms, m.cRec = false) (fuel : Nat) (hf : e - b ≤ fuel) (p : Nat) :
    fixIdx M fuel dir b e p = runIdx (decide (dir < 0)) ms p := by
  have hc := scan_chained (hM.on e) (Nat.le_refl e) hs
  rcases runIdx_cases (neg := decide (dir < 0)) hc p with ⟨m, hm, h1, h2, heq⟩ | ⟨hp, heq⟩
  · rw [heq, (fixIdx_scan (hM.on e) (Nat.le_refl e) hs fuel hf p).1 m hm h1 h2, hflat m hm]
    rfl
  · rw [heq, (fixIdx_scan (hM.on e) (Nat.le_refl e) hs fuel hf p).2 hp]

/-! ### R5: non-vacuity -/

/-- a list-driven matcher over well-formed matches is lawful -/
theorem listMatcher_lawful {l : List DMatch}
    (h : ∀ m ∈ l, m.rBeg < m.rEnd ∧ m.rBeg ≤ m.cBeg ∧ m.cBeg ≤ m.cEnd ∧ m.cEnd ≤ m.rEnd) :
    Lawful (listMatcher l) := by
  intro b e dir _
  unfold listMatcher
  cases hf : l.find? (fun m => decide (b ≤ m.rBeg) && decide (m.rEnd ≤ e)) with
  | none => exact ⟨none, rfl, fun m hm => by cases hm⟩
  | some m =>
    refine ⟨some m, rfl, ?_⟩
    intro m' hm'
    cases hm'
    have hp := List.find?_some hf
    have hmem := List.mem_of_find?_eq_some hf
    simp only [Bool.and_eq_true, decide_eq_true_eq] at hp
    have := h m hmem
    omega

/-- two right-to-left runs `[2,5)` and `[6,9)` in left-to-right text -/
def exLtr : List DMatch := [⟨2, 5, 2, 5, -1, false⟩, ⟨6, 9, 6, 9, -1, false⟩]

/-- a left-to-right run `[1,4)` and a right-to-left run `[5,8)` whose group is `[6,8)` -/
def exRtl : List DMatch := [⟨1, 4, 1, 4, 1, false⟩, ⟨5, 8, 6, 8, -1, false⟩]

/-- a nested match: range `[1,8)`, group `[3,7)` rescanned in direction `-1`, where `[4,6)` is a
    left-to-right run -/
def exNest : List DMatch := [⟨1, 8, 3, 7, -1, true⟩, ⟨4, 6, 4, 6, 1, false⟩]

example : Lawful (listMatcher exLtr) := listMatcher_lawful (by decide)
example : Lawful (listMatcher exRtl) := listMatcher_lawful (by decide)
example : Lawful (listMatcher exNest) := listMatcher_lawful (by decide)

example : Scan (listMatcher exLtr) 1 10 0 exLtr := scan_of_matchesFrom _ _ 10 _ _ _ (by decide)
example : Scan (listMatcher exRtl) (-1) 10 0 exRtl := scan_of_matchesFrom _ _ 10 _ _ _ (by decide)

example : dirFix (listMatcher exLtr) 10 (List.range 10) 1 0 10 = some [0, 1, 4, 3, 2, 5, 8, 7, 6, 9] := by decide
example : reverseRuns (List.range 10) exLtr = [0, 1, 4, 3, 2, 5, 8, 7, 6, 9] := by decide
example : (List.range 10).map (runIdx false exLtr) = [0, 1, 4, 3, 2, 5, 8, 7, 6, 9] := by decide

example : dirFix (listMatcher exRtl) 10 (List.range 10) (-1) 0 10 = some [0, 3, 2, 1, 4, 7, 5, 6, 8, 9] := by decide
example : reverseMatches (List.range 10) exRtl = [0, 3, 2, 1, 4, 7, 5, 6, 8, 9] := by decide
example : (List.range 10).map (runIdx true exRtl) = [0, 3, 2, 1, 4, 7, 5, 6, 8, 9] := by decide

/-- the theorem applied to the example: the result it promises is the one computed -/
example : dirFix (listMatcher exLtr) 10 (List.range 10) 1 0 10 = some (reverseRuns (List.range 10) exLtr) :=
  fix_runs_ltr (listMatcher_lawful (by decide)) (by decide)
    (scan_of_matchesFrom _ _ 10 _ _ _ (by decide)) (by decide) 10 _ (by decide) (by decide)

example : dirFix (listMatcher exRtl) 10 (List.range 10) (-1) 0 10 = some (reverseMatches (List.range 10) exRtl) :=
  fix_runs_rtl (listMatcher_lawful (by decide)) (by decide)
    (scan_of_matchesFrom _ _ 10 _ _ _ (by decide)) (by decide) 10 _ (by decide) (by decide)

/-- nested example: the index map predicts the computed order -/
example : dirFix (listMatcher exNest) 10 (List.range 10) 1 0 10 = some [0, 1, 2, 6, 4, 5, 3, 7, 8, 9] := by decide
example : (List.range 10).map (fixIdx (listMatcher exNest) 10 1 0 10) = [0, 1, 2, 6, 4, 5, 3, 7, 8, 9] := by decide
example : dirFix (listMatcher exNest) 10 (List.range 10) (-1) 0 10 = some [0, 7, 6, 2, 4, 3, 5, 1, 8, 9] := by decide
example : (List.range 10).map (fixIdx (listMatcher exNest) 10 (-1) 0 10) = [0, 7, 6, 2, 4, 3, 5, 1, 8, 9] := by decide

/-- a line `a ب ة b \n` with an oracle that reports the two Arabic letters as a right-to-left run
    (pattern 1 of `dirmarks`), left-to-right context -/
def exOrcL : Oracle := fun which str _ =>
  if which == 0 && decide (str.length ≥ 5) then some (1, [1, 5]) else none
def exLineL : Bytes := [97, 216, 168, 216, 169, 98, 10]

/-- a line `ب a b ة c \n` in a right-to-left context (`xtd = -2`) with the left-to-right run `a b`
    (pattern 2 of `dirmarks`) -/
def exOrcR : Oracle := fun which str _ =>
  if which == 1 && decide (str.length ≥ 5) then some (2, [2, 4]) else none
def exLineR : Bytes := [216, 168, 97, 98, 216, 169, 99, 10]

example : dirReorder exOrcL 1 exLineL (List.range 5) = some [0, 2, 1, 3, 4] := by decide +kernel
example : dirReorder exOrcR (-2) exLineR (List.range 6) = some [0, 2, 1, 3, 4, 5] := by decide +kernel

/-- the hypotheses of `reorder_runs` hold on the examples -/
example : Scan (lineMatcher exOrcL exLineL) (dirContext exOrcL 1 exLineL) (lineEnd exLineL) 0
    [⟨1, 3, 1, 3, -1, false⟩] := scan_of_matchesFrom _ _ 5 _ _ _ (by decide +kernel)
example : Scan (lineMatcher exOrcR exLineR) (dirContext exOrcR (-2) exLineR) (lineEnd exLineR) 0
    [⟨1, 3, 1, 3, 1, false⟩] := scan_of_matchesFrom _ _ 6 _ _ _ (by decide +kernel)
example : lineNl exLineL = true ∧ lineChars exLineL = 5 ∧ lineEnd exLineL = 4 ∧
    dirContext exOrcL 1 exLineL = 1 ∧ dirContext exOrcR (-2) exLineR = -1 := by decide +kernel

end Neatvi.Props.C18b
