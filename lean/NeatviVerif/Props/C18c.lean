import NeatviVerif.Props.C18b
import NeatviVerif.Lemmas.C18cUtf8
import NeatviVerif.Lemmas.C18cOn
import NeatviVerif.Lemmas.C11bUtf8
import NeatviVerif.Lemmas.C18cRset
import NeatviVerif.Lemmas.C18cFind
import NeatviVerif.Lemmas.C18cEval
import NeatviVerif.Model.Vi
/-!
# C18c  The range hypotheses of `C18b.reorder_runs`, from a law about the regex oracle — and the law
for the editor's own oracle

`C18b.reorder_runs` assumes that every match found on the line is non-empty and ends inside the line.
Here that is derived.

* L1 `SubsOk`, `OracleOk`, `OracleOk'`: the law about the oracle (`rset_find` on the two mark sets):
  table index valid, `0 ≤ so ≤ eo ≤ length`, every offset unset or inside `[so, eo]`, no group pair
  inverted, offsets on character boundaries of a valid UTF-8 subject; `OracleOk'` adds `so < eo`.
* L2 `dirMatch_valid`, `mkMatch_inRange`, `dirMatch_inRange`: on a valid UTF-8 line `dir_match` never
  traps and its record lies in the searched slice (helpers: `Lemmas/C18cUtf8`: `slice_spec`, `chop_get`,
  `ucOff_le_iff`, `ucOff_lt_iff`, `byteOff_strict`).
* L3 `LawfulOn`, `lineMatcher_lawful_chars`, `lineMatcher_lawful_on` (the lemmas of C18b are stated for matchers lawful
  on `[0, n]` and slices ending there: `C18b.scan_chained`, `fix_frame_on`, `fix_nested_pos_on`; `Lemmas/C18cOn`:
  `scan_exists_on`).
* L4 `reorder_runs_of_oracle`; also `line_scan_exists`, `reorder_total_of_oracle`,
  `reorder_nested_of_oracle`.
* L6 `toyOrc_ok` and the examples after it.
* L5 `dirOracle_range` (C11 / C11b), `dirOracle_nested` (C10, `Lemmas/C18cNested`,
  `Lemmas/C18cFind`), `dirOracle_ok`, `dirOracle_ok'`: the oracle built from the regex model
  (`Vi.dirOracle`) satisfies the law; `reorder_runs_dirOracle`, `reorder_total_dirOracle`: the end-to-end
  statements with no hypothesis about the oracle.  What is computed about the three sets of `dir_init`
  (shape of the trees, that they compile, the runs on the line of L6) is computed once per set:
  `lrSet_eval`, `rlSet_eval`, `cxSet_eval` (each parses its set once; `lrPats_valid`, `rlPats_valid` evaluate something
  else of the same strings: that they decode as UTF-8).
-/
namespace Neatvi.Props.C18c
open Neatvi Neatvi.Uc Neatvi.Spec Neatvi.Dir Neatvi.Props.C18 Neatvi.Props.C18b

/-! ### L1: the law -/

/-- entry `k` of the reported offsets as `dir_match` reads it (`-1` beyond the list) -/
def sub (subs : List Int) (k : Nat) : Int := subs.getD k (-1)

/-- what a reported match `(found, subs)` on the subject `str` has to satisfy -/
structure SubsOk (str : Bytes) (found : Nat) (subs : List Int) : Prop where
  /-- the pattern index is a row of the configured table (`conf_dirmark` answers) -/
  idx : found < Gen.dirmarks.length
  /-- the whole match: `0 ≤ so ≤ eo ≤ length` -/
  lo : 0 ≤ sub subs 0
  le : sub subs 0 ≤ sub subs 1
  hi : sub subs 1 ≤ (str.length : Int)
  /-- every offset is unset (negative; the engine writes `-1`) or lies inside the whole match -/
  inside : ∀ k, sub subs k < 0 ∨ (sub subs 0 ≤ sub subs k ∧ sub subs k ≤ sub subs 1)
  /-- a group that is set at both ends is not inverted -/
  grpLe : ∀ g, 0 ≤ sub subs (g * 2) → 0 ≤ sub subs (g * 2 + 1) → sub subs (g * 2) ≤ sub subs (g * 2 + 1)
  /-- on a valid UTF-8 subject every offset that is set is a character boundary -/
  bnd : ∀ cs, ValidStr cs → str = encStr cs → ∀ k, 0 ≤ sub subs k → IsBoundary cs (sub subs k).toNat

/-- the law about the two mark sets (`which = 0`: `dir_rslr`, `which = 1`: `dir_rsrl`) -/
def OracleOk (orc : Oracle) : Prop :=
  ∀ which str flg found subs, which ≤ 1 → orc which str flg = some (found, subs) → SubsOk str found subs

/-- … and reported matches are not empty.  For the configured bidi patterns (`dirmarks` in `conf.h`)
    this is a property of the patterns — each of them requires at least one character — that the
    theorems about the regex engine (C11: offsets in range, on boundaries) do not give for free; it is
    proved for the configured patterns in `dirOracle_nested` below. -/
def OracleOk' (orc : Oracle) : Prop :=
  OracleOk orc ∧
  ∀ which str flg found subs, which ≤ 1 → orc which str flg = some (found, subs) → sub subs 0 < sub subs 1

/-! ### L2: `dirMatch` on a valid line -/

/-- the match record `dir_match` builds from the offsets -/
def mkMatch (str : Bytes) (b : Nat) (subs : List Int) (dir : Int) (grp : Nat) : DMatch :=
  let rb := b + ucOff str (sub subs 0).toNat
  let re := b + ucOff str (sub subs 1).toNat
  ⟨rb, re,
   if sub subs (grp * 2) ≥ 0 then b + ucOff str (sub subs (grp * 2)).toNat else rb,
   if sub subs (grp * 2 + 1) ≥ 0 then b + ucOff str (sub subs (grp * 2 + 1)).toNat else re,
   dir, grp > 0⟩

/-- the flags `dir_match` passes -/
def matchFlags (s : Bytes) (b oe : Nat) : Nat :=
  (if b != 0 then RE_NOTBOL else 0) ||| (if Bytes.hd (s.drop oe) != 0 then RE_NOTEOL else 0)

/-- on a valid UTF-8 line `dir_match` asks the oracle about the encoding of the characters `[b, e)`
    and never leaves `chrs[]` (no law about the oracle needed) -/
theorem dirMatch_valid (orc : Oracle) {cs : List Nat} (hv : ValidStr cs) {b e : Nat} (hbe : b ≤ e)
    (he : e ≤ cs.length) (ctx : Int) :
    dirMatch orc (encStr cs) (ucChop (encStr cs)) b e ctx =
      match orc (if ctx < 0 then 1 else 0) (encStr ((cs.take e).drop b))
          (matchFlags (encStr cs) b (byteOff cs e)) with
      | none => some none
      | some (found, subs) =>
        match dirmark found with
        | none => none
        | some (_, dir, grp) => some (some (mkMatch (encStr ((cs.take e).drop b)) b subs dir grp)) := by
  unfold dirMatch
  rw [slice_spec hv hbe he, chop_get hv he]
  simp only [Option.bind_eq_bind, Option.bind_some]
  rfl

theorem dirmark_some {found : Nat} (h : found < Gen.dirmarks.length) : ∃ r, dirmark found = some r := by
  unfold dirmark
  rw [List.getElem?_eq_getElem h]
  exact ⟨_, rfl⟩

/-- the record built from lawful offsets on a valid subject of `n` characters lies in `[b, b + n]` -/
theorem mkMatch_inRange {ds : List Nat} (hv : ValidStr ds) {found : Nat} {subs : List Int}
    (hk : SubsOk (encStr ds) found subs) (b : Nat) (dir : Int) (grp : Nat) :
    let m := mkMatch (encStr ds) b subs dir grp
    b ≤ m.rBeg ∧ m.rBeg ≤ m.rEnd ∧ m.rEnd ≤ b + ds.length ∧
      m.rBeg ≤ m.cBeg ∧ m.cBeg ≤ m.cEnd ∧ m.cEnd ≤ m.rEnd ∧
      (m.rBeg < m.rEnd ↔ sub subs 0 < sub subs 1) := by
  have hb := hk.bnd ds hv rfl
  have b0 := hb 0 hk.lo
  have h1 : 0 ≤ sub subs 1 := Int.le_trans hk.lo hk.le
  have b1 := hb 1 h1
  have l1 := ucOff_le_length hv b1
  have m01 := ucOff_le_iff hv b0 b1
  have s01 := ucOff_lt_iff hv b0 b1
  have hle : (sub subs 0).toNat ≤ (sub subs 1).toNat := by have := hk.le; omega
  -- any set offset maps between the two ends
  have key : ∀ k, 0 ≤ sub subs k →
      ucOff (encStr ds) (sub subs 0).toNat ≤ ucOff (encStr ds) (sub subs k).toNat ∧
      ucOff (encStr ds) (sub subs k).toNat ≤ ucOff (encStr ds) (sub subs 1).toNat := by
    intro k hk0
    have bk := hb k hk0
    have := hk.inside k
    exact ⟨(ucOff_le_iff hv b0 bk).mpr (by omega), (ucOff_le_iff hv bk b1).mpr (by omega)⟩
  have hord := m01.mpr hle
  dsimp only [mkMatch]
  refine ⟨by omega, by omega, by omega, ?_, ?_, ?_, ?_⟩
  · split
    · next hg => have := key _ hg; omega
    · omega
  · by_cases hg : sub subs (grp * 2) ≥ 0 <;> by_cases hg' : sub subs (grp * 2 + 1) ≥ 0
    · rw [if_pos hg, if_pos hg']
      have := (ucOff_le_iff hv (hb _ hg) (hb _ hg')).mpr (by have := hk.grpLe grp hg hg'; omega)
      omega
    · rw [if_pos hg, if_neg hg']; have := key _ hg; omega
    · rw [if_neg hg, if_pos hg']; have := key _ hg'; omega
    · rw [if_neg hg, if_neg hg']; omega
  · split
    · next hg => have := key _ hg; omega
    · omega
  · have hlo := hk.lo
    have e : (sub subs 0).toNat < (sub subs 1).toNat ↔ sub subs 0 < sub subs 1 := by omega
    rw [← e, ← s01]
    omega

/-- **L2**.  For a valid UTF-8 line, `b ≤ e ≤` number of characters and a lawful oracle, `dir_match`
    does not trap, and a match it reports lies in the searched slice, its group inside it; it is
    non-empty exactly when the reported byte range is.  (`b < e` is what `dir_fix` guarantees; the
    statement holds for `b = e` too.) -/
theorem dirMatch_inRange {orc : Oracle} (ho : OracleOk orc) {cs : List Nat} (hv : ValidStr cs) {b e : Nat}
    (hbe : b ≤ e) (he : e ≤ cs.length) (ctx : Int) :
    ∃ r, dirMatch orc (encStr cs) (ucChop (encStr cs)) b e ctx = some r ∧
      ∀ m, r = some m →
        (b ≤ m.rBeg ∧ m.rBeg ≤ m.rEnd ∧ m.rEnd ≤ e ∧ m.rBeg ≤ m.cBeg ∧ m.cBeg ≤ m.cEnd ∧ m.cEnd ≤ m.rEnd) ∧
        ∃ found subs, orc (if ctx < 0 then 1 else 0) (encStr ((cs.take e).drop b))
            (matchFlags (encStr cs) b (byteOff cs e)) = some (found, subs) ∧
          (m.rBeg < m.rEnd ↔ sub subs 0 < sub subs 1) := by
  rw [dirMatch_valid orc hv hbe he ctx]
  cases ho' : orc (if ctx < 0 then 1 else 0) (encStr ((cs.take e).drop b))
      (matchFlags (encStr cs) b (byteOff cs e)) with
  | none => exact ⟨none, rfl, fun m hm => by cases hm⟩
  | some fs =>
    obtain ⟨found, subs⟩ := fs
    have hk : SubsOk _ found subs := ho _ _ _ found subs (by split <;> omega) ho'
    obtain ⟨⟨c, dir, grp⟩, hd⟩ := dirmark_some hk.idx
    simp only [hd]
    refine ⟨_, rfl, ?_⟩
    intro m hm
    cases hm
    have hlen : ((cs.take e).drop b).length = e - b := by
      rw [List.length_drop, List.length_take]; omega
    have := mkMatch_inRange (validStr_sub hv b e) hk b dir grp
    rw [hlen] at this
    dsimp only at this
    obtain ⟨h1, h2, h3, h4, h5, h6, h7⟩ := this
    exact ⟨⟨h1, h2, by omega, h4, h5, h6⟩, found, subs, rfl, h7⟩

/-! ### L3: the matcher of a line is lawful on the line -/

theorem lineChars_valid {cs : List Nat} (hv : ValidStr cs) : lineChars (encStr cs) = cs.length := by
  unfold lineChars; rw [chop_length hv]; rfl

/-- **L3**.  On a valid UTF-8 line the matcher `dir_reorder` hands to `dir_fix` is lawful on every
    slice of the line (in particular on `[0, lineEnd s)`). -/
theorem lineMatcher_lawful_chars {orc : Oracle} (ho : OracleOk' orc) {cs : List Nat} (hv : ValidStr cs) :
    LawfulOn (lineMatcher orc (encStr cs)) (lineChars (encStr cs)) := by
  intro b e dir hbe he
  rw [lineChars_valid hv] at he
  obtain ⟨r, hr, hlaw⟩ := dirMatch_inRange ho.1 hv (Nat.le_of_lt hbe) he dir
  refine ⟨r, hr, ?_⟩
  intro m hm
  obtain ⟨⟨h1, h2, h3, h4, h5, h6⟩, found, subs, hf, hne⟩ := hlaw m hm
  have := hne.mpr (ho.2 _ _ _ found subs (by split <;> omega) hf)
  exact ⟨h1, this, h3, h4, h5, h6⟩

theorem lineMatcher_lawful_on {orc : Oracle} (ho : OracleOk' orc) {cs : List Nat} (hv : ValidStr cs) :
    LawfulOn (lineMatcher orc (encStr cs)) (lineEnd (encStr cs)) :=
  lawfulOn_mono (lineMatcher_lawful_chars ho hv) (lineEnd_le _)

/-! ### L4 -/

/-- **L4**: `C18b.reorder_runs` with the range and non-emptiness hypotheses discharged from the law
    about the oracle, for a valid UTF-8 line. -/
theorem reorder_runs_of_oracle (orc : Oracle) (ho : OracleOk' orc) (xtd : Int) {cs : List Nat}
    (hv : ValidStr cs) (ord : List Nat) {ms : List DMatch}
    (hs : Scan (lineMatcher orc (encStr cs)) (dirContext orc xtd (encStr cs)) (lineEnd (encStr cs)) 0 ms)
    (hflat : ∀ m ∈ ms, m.cRec = false) (hlen : lineChars (encStr cs) ≤ ord.length) :
    ∃ ord', dirReorder orc xtd (encStr cs) ord = some ord' ∧ ord'.length = ord.length ∧
      (∀ m ∈ ms, Opp (dirContext orc xtd (encStr cs)) m → ∀ p, m.rBeg ≤ p → p < m.rEnd →
        ord'[p]? = ord[m.rBeg + m.rEnd - 1 - p]?) ∧
      (lineNl (encStr cs) = true → ord'[lineChars (encStr cs) - 1]? = some (lineChars (encStr cs) - 1)) ∧
      (∀ p, (lineNl (encStr cs) = true → p ≠ lineChars (encStr cs) - 1) →
        (∀ m ∈ ms, Opp (dirContext orc xtd (encStr cs)) m → ¬ (m.rBeg ≤ p ∧ p < m.rEnd)) →
        ord'[p]? = ord[p]?) := by
  have hc := scan_chained (lineMatcher_lawful_on ho hv) (Nat.le_refl _) hs
  refine reorder_runs orc xtd (encStr cs) ord hs hflat ?_ hlen
  intro m hm
  have := chained_mem hc m hm
  unfold InRange at this
  omega

/-- the scan that `reorder_runs_of_oracle` takes as a hypothesis always exists (and is unique,
    `C18b.scan_unique`) -/
theorem line_scan_exists (orc : Oracle) (ho : OracleOk' orc) (xtd : Int) {cs : List Nat} (hv : ValidStr cs) :
    ∃ ms, Scan (lineMatcher orc (encStr cs)) (dirContext orc xtd (encStr cs)) (lineEnd (encStr cs)) 0 ms :=
  scan_exists_on (lineMatcher_lawful_on ho hv) _ (Nat.le_refl _) 0

/-- with nested groups allowed: on a valid UTF-8 line and a lawful oracle `dir_reorder` never traps,
    keeps the length and leaves every position from `lineEnd` on as `setLast` made it (`C18.fix_frame`) -/
theorem reorder_total_of_oracle (orc : Oracle) (ho : OracleOk' orc) (xtd : Int) {cs : List Nat}
    (hv : ValidStr cs) (ord : List Nat) (hlen : lineChars (encStr cs) ≤ ord.length) :
    ∃ ord', dirReorder orc xtd (encStr cs) ord = some ord' ∧ ord'.length = ord.length ∧
      ord'.drop (lineEnd (encStr cs)) =
        (setLast ord (lineNl (encStr cs)) (lineChars (encStr cs) - 1)).drop (lineEnd (encStr cs)) := by
  have hsl := setLast_length ord (lineNl (encStr cs)) (lineChars (encStr cs) - 1)
  have hend := lineEnd_le (encStr cs)
  obtain ⟨ord', h1, h2, _, h4⟩ := fix_frame_on (lineMatcher_lawful_on ho hv) (lineEnd (encStr cs) + 1)
    (setLast ord (lineNl (encStr cs)) (lineChars (encStr cs) - 1)) (dirContext orc xtd (encStr cs))
    0 (lineEnd (encStr cs)) (Nat.le_refl _) (by omega) (by rw [hsl]; omega)
  exact ⟨ord', by rw [dirReorder_eq]; exact h1, by rw [h2, hsl], h4⟩

/-- `C18b.fix_nested_pos` for the line: position-wise description of `dir_reorder` along the top-level
    scan, nested groups allowed, no range hypothesis -/
theorem reorder_nested_of_oracle (orc : Oracle) (ho : OracleOk' orc) (xtd : Int) {cs : List Nat}
    (hv : ValidStr cs) (ord : List Nat) {ms : List DMatch}
    (hs : Scan (lineMatcher orc (encStr cs)) (dirContext orc xtd (encStr cs)) (lineEnd (encStr cs)) 0 ms)
    (hlen : lineChars (encStr cs) ≤ ord.length) :
    let s := encStr cs
    let ord0 := setLast ord (lineNl s) (lineChars s - 1)
    ∃ ord', dirReorder orc xtd s ord = some ord' ∧ ord'.length = ord.length ∧
      (∀ m ∈ ms, ∀ p, m.rBeg ≤ p → p < m.rEnd →
        ord'[p]? = ord0[stepIdx (decide (dirContext orc xtd s < 0)) m
          (if m.cRec then fixIdx (lineMatcher orc s) (lineEnd s + 1) m.cDir (recBeg m) m.cEnd p else p)]?) ∧
      (∀ p, (∀ m ∈ ms, ¬ (m.rBeg ≤ p ∧ p < m.rEnd)) → ord'[p]? = ord0[p]?) := by
  dsimp only
  have hsl := setLast_length ord (lineNl (encStr cs)) (lineChars (encStr cs) - 1)
  have hend := lineEnd_le (encStr cs)
  obtain ⟨ord', h1, h2, h3, h4⟩ := fix_nested_pos_on (lineMatcher_lawful_on ho hv) (Nat.le_refl _) hs
    (lineEnd (encStr cs) + 1) (setLast ord (lineNl (encStr cs)) (lineChars (encStr cs) - 1))
    (by rw [hsl]; omega) (by omega)
  exact ⟨ord', by rw [dirReorder_eq]; exact h1, by rw [h2, hsl], h3, h4⟩

/-! ### L6: non-vacuity -/

/-- the two notions of boundary are the same predicate -/
theorem isBoundary_iff (cs : List Nat) (k : Nat) : IsBoundary cs k ↔ C11b.Boundary cs k := Iff.rfl

theorem validStr_iff (cs : List Nat) : ValidStr cs ↔ C11b.Valid cs := Iff.rfl

/-- the line `a ب ة b \n` -/
def toyCps : List Nat := [0x61, 0x628, 0x629, 0x62, 10]

/-- a toy oracle: in the left-to-right set it knows the subject `a ب ة b` and reports the two Arabic
    letters (bytes `[1, 5)`) as a right-to-left run (row 1 of `dirmarks`); nothing else matches -/
def toyOrc : Oracle := fun which str _ =>
  if which == 0 && str == encStr [0x61, 0x628, 0x629, 0x62] then some (1, [1, 5]) else none

theorem toyOrc_ok : OracleOk' toyOrc := by
  have key : ∀ which str flg found subs, toyOrc which str flg = some (found, subs) →
      str = encStr [0x61, 0x628, 0x629, 0x62] ∧ found = 1 ∧ subs = [1, 5] := by
    intro which str flg found subs h
    unfold toyOrc at h
    split at h
    · next hc =>
      simp only [Bool.and_eq_true, beq_iff_eq] at hc
      cases h
      exact ⟨hc.2, rfl, rfl⟩
    · cases h
  constructor
  · intro which str flg found subs _ h
    obtain ⟨rfl, rfl, rfl⟩ := key _ _ _ _ _ h
    have hsub : ∀ k, sub [1, 5] (k + 2) = -1 := fun _ => rfl
    have hlit : ∀ cs, ValidStr cs → encStr [0x61, 0x628, 0x629, 0x62] = encStr cs → ∀ ls, C11b.Valid ls →
        (encStr [0x61, 0x628, 0x629, 0x62]).take (encStr ls).length = encStr ls →
        IsBoundary cs (encStr ls).length := by
      intro cs hv hs ls hl hm
      have := C11b.boundary_literal (cs := cs) (ls := ls) hv hl (C11b.boundary_zero cs)
        (by rw [List.drop_zero, ← hs]; exact hm)
      rwa [Nat.zero_add] at this
    refine ⟨by decide, by decide, by decide, by decide, ?_, ?_, ?_⟩
    · intro k
      match k with
      | 0 => right; decide
      | 1 => right; decide
      | k + 2 => left; rw [hsub]; decide
    · intro g
      match g with
      | 0 => intro _ _; decide
      | g + 1 => rw [show (g + 1) * 2 = g * 2 + 2 by omega, hsub]; intro h; exact absurd h (by decide)
    · intro cs hv hs k hk
      match k with
      | 0 => exact hlit cs hv hs [0x61] (by decide) (by decide)
      | 1 => exact hlit cs hv hs [0x61, 0x628, 0x629] (by decide) (by decide)
      | k + 2 => rw [hsub] at hk; exact absurd hk (by decide)
  · intro which str flg found subs _ h
    obtain ⟨rfl, rfl, rfl⟩ := key _ _ _ _ _ h
    decide

example : ValidStr toyCps := by decide
example : encStr toyCps = [97, 216, 168, 216, 169, 98, 10] := by decide
example : dirReorder toyOrc 1 (encStr toyCps) (List.range 5) = some [0, 2, 1, 3, 4] := by decide +kernel

/-- `reorder_runs_of_oracle` on the toy line, for any lawful oracle that sees the context as
    left-to-right and finds the Arabic run: positions 1 and 2 are exchanged, everything else stays -/
theorem toy_reorder {orc : Oracle} (ho : OracleOk' orc) (hctx : dirContext orc 1 (encStr toyCps) = 1)
    (hs : Scan (lineMatcher orc (encStr toyCps)) (dirContext orc 1 (encStr toyCps))
      (lineEnd (encStr toyCps)) 0 [⟨1, 3, 1, 3, -1, false⟩]) :
    ∃ ord', dirReorder orc 1 (encStr toyCps) (List.range 5) = some ord' ∧ ord'.length = 5 ∧
      ord'[0]? = some 0 ∧ ord'[1]? = some 2 ∧ ord'[2]? = some 1 ∧ ord'[3]? = some 3 ∧ ord'[4]? = some 4 := by
  have hnl : lineNl (encStr toyCps) = true ∧ lineChars (encStr toyCps) = 5 := by decide +kernel
  obtain ⟨ord', h1, h2, h3, h4, h5⟩ := reorder_runs_of_oracle orc ho 1 (cs := toyCps) (by decide)
    (List.range 5) hs (by decide) (by rw [hnl.2]; decide)
  rw [hctx] at h3 h5
  rw [hnl.2] at h4 h5
  have hopp : Opp 1 ⟨1, 3, 1, 3, -1, false⟩ := by decide
  refine ⟨ord', h1, by simpa using h2, ?_, ?_, ?_, ?_, ?_⟩
  · rw [h5 0 (fun _ => by decide) (fun m hm _ => by simp at hm; subst hm; decide)]; rfl
  · exact h3 _ List.mem_cons_self hopp 1 (by decide) (by decide)
  · exact h3 _ List.mem_cons_self hopp 2 (by decide) (by decide)
  · rw [h5 3 (fun _ => by decide) (fun m hm _ => by simp at hm; subst hm; decide)]; rfl
  · exact h4 hnl.1

/-- `reorder_runs_of_oracle` applies to the toy line: the hypotheses hold, and the conclusion says
    that positions 1 and 2 (the Arabic run) are exchanged -/
example : ∃ ord', dirReorder toyOrc 1 (encStr toyCps) (List.range 5) = some ord' ∧ ord'.length = 5 ∧
    ord'[1]? = some 2 ∧ ord'[2]? = some 1 ∧ ord'[0]? = some 0 ∧ ord'[3]? = some 3 ∧ ord'[4]? = some 4 := by
  obtain ⟨ord', h1, h2, a0, a1, a2, a3, a4⟩ := toy_reorder toyOrc_ok (by decide +kernel)
    (scan_of_matchesFrom _ _ 5 _ _ _ (by decide +kernel))
  exact ⟨ord', h1, h2, a1, a2, a0, a3, a4⟩

/-! ### L5: the concrete oracle `Vi.dirOracle` (the regex model on the sets compiled from `dirmarks`) -/

/-- the clauses of `SubsOk` that follow from C11 / C11b: the index, `0 ≤ so`, every offset `-1` or
    inside the subject, every set offset on a boundary -/
structure SubsRangeOk (str : Bytes) (found : Nat) (subs : List Int) : Prop where
  idx : found < Gen.dirmarks.length
  lo : 0 ≤ sub subs 0
  range : ∀ k, sub subs k = -1 ∨ (0 ≤ sub subs k ∧ sub subs k ≤ (str.length : Int))
  bnd : ∀ cs, ValidStr cs → str = encStr cs → ∀ k, 0 ≤ sub subs k → IsBoundary cs (sub subs k).toNat

/-- the clauses that are about the *order* of the offsets of nested groups -/
structure SubsNested (subs : List Int) : Prop where
  le : sub subs 0 ≤ sub subs 1
  inside : ∀ k, sub subs k < 0 ∨ (sub subs 0 ≤ sub subs k ∧ sub subs k ≤ sub subs 1)
  grpLe : ∀ g, 0 ≤ sub subs (g * 2) → 0 ≤ sub subs (g * 2 + 1) → sub subs (g * 2) ≤ sub subs (g * 2 + 1)

theorem subsOk_of {str : Bytes} {found : Nat} {subs : List Int} (h1 : SubsRangeOk str found subs)
    (h2 : SubsNested subs) : SubsOk str found subs :=
  ⟨h1.idx, h1.lo, h2.le, by rcases h1.range 1 with h | h <;> omega, h2.inside, h2.grpLe, h1.bnd⟩

/-- decoder used to exhibit the code points of the configured patterns -/
def decStr : Nat → Bytes → List Nat
  | 0, _ => []
  | f + 1, s =>
    match s with
    | [] => []
    | _ :: _ => let c := (ucCode s).getD 0; c :: decStr f (s.drop (enc c).length)

/-- the combined patterns `((p0)|(p1)|…)` of the two mark sets are valid UTF-8 -/
theorem lrPats_valid : ∃ ps, C11b.Valid ps ∧ encStr ps = Rset.combined lrPats :=
  ⟨decStr 4000 (Rset.combined lrPats), by decide +kernel⟩
theorem rlPats_valid : ∃ ps, C11b.Valid ps ∧ encStr ps = Rset.combined rlPats :=
  ⟨decStr 4000 (Rset.combined rlPats), by decide +kernel⟩

/-- a set made by `rset_make(.., 0)` from a pattern list whose combined text is valid UTF-8 -/
def GoodSet (rs : Rset.RSet) : Prop :=
  rs.n = Gen.dirmarks.length ∧ ∃ ps, C11b.Valid ps ∧ Regex.regcomp (encStr ps) 1 = some (some rs.prog)

theorem goodSet_of_make {pats : List (Option Bytes)} {rs : Rset.RSet} (hl : pats.length = Gen.dirmarks.length)
    (hv : ∃ ps, C11b.Valid ps ∧ encStr ps = Rset.combined pats) (h : Rset.make pats 0 = some (some rs)) :
    GoodSet rs := by
  obtain ⟨h1, h2⟩ := C12.make_some h
  obtain ⟨ps, hps, he⟩ := hv
  exact ⟨(congrArg Rset.RSet.n h2).trans hl, ps, hps, by rw [he]; exact h1⟩

theorem goodSet_find {rs : Rset.RSet} (hg : GoodSet rs) {str : Bytes} {flg nd ngrps : Nat} {set : Int}
    {out : List Int} {c : Nat} (h : Rset.find rs str 16 flg nd ngrps = some (set, out, c)) (hset : 0 ≤ set) :
    SubsRangeOk str set.toNat out := by
  obtain ⟨rflg, m, c', offs, hex, h1, h2, h3⟩ := find_offsets rs str 16 flg nd ngrps set out c h hset
  obtain ⟨hn, ps, hps, hc⟩ := hg
  refine ⟨by omega, h2 (by decide), ?_, ?_⟩
  · intro k
    exact h3 (InSubj str.length) (Or.inl rfl) (regexec_range _ _ _ _ _ _ _ _ _ hex) k
  · intro cs hv hs k hk
    subst hs
    have hb := (C11b.offsets_on_boundaries ps cs hps hv 1 rflg rs.grpcnt nd ngrps rs.prog hc m c' offs hex).2
    have := h3 (C11b.OffB cs) (Or.inl rfl) hb k
    rcases this with hneg | ⟨j, hj, hbj⟩
    · have : sub out k = -1 := hneg
      omega
    · have : sub out k = (j : Int) := hj
      rw [this, Int.toNat_natCast]
      exact hbj

/-- one kernel evaluation per set of `dir_init`: parsing the combined pattern is the dear part, so
    everything asked of a set is asked at once.  The left-to-right set: its tree has the shape
    `find_nested` asks for (the top-level alternatives are groups taken once, numbers 2, 4, 5, 7, none
    writes the marks of another, the group table of `rset_make` points at them), no alternative matches
    the empty string (on every path there is a bracket expression or `.` taken at least once), it
    compiles, and what it finds in the two slices `dir_fix` searches on the line of L6. -/
theorem lrSet_eval : setCheck Gen.NGRPS lrPats = true ∧ setConsumes lrPats = true ∧
    compiles lrPats = true ∧
    makeFindF 100 lrPats (encStr ((toyCps.take 4).drop 0)) 16 (matchFlags (encStr toyCps) 0 (byteOff toyCps 4)) =
      some (some (1, [1, 5] ++ List.replicate 30 (-1), 0)) ∧
    makeFindF 100 lrPats (encStr ((toyCps.take 4).drop 3)) 16 (matchFlags (encStr toyCps) 3 (byteOff toyCps 4)) =
      some (some (-1, [], 0)) := by
  decide +kernel

/-- the right-to-left set (group numbers 2, 4, 5, 7, 9) -/
theorem rlSet_eval : setCheck Gen.NGRPS rlPats = true ∧ setConsumes rlPats = true ∧
    compiles rlPats = true := by
  decide +kernel

/-- the context set, and what it finds on the line of L6 -/
theorem cxSet_eval : compiles cxPats = true ∧
    makeFindF 100 cxPats (encStr toyCps) 0 0 = some (some (1, [], 0)) := by
  decide +kernel

theorem dirSets_some : ∃ a b c, Vi.dirSets = some (a, b, c) := by
  obtain ⟨a, ha⟩ := make_of_compiles lrSet_eval.2.2.1
  obtain ⟨b, hb⟩ := make_of_compiles rlSet_eval.2.2
  obtain ⟨c, hc⟩ := make_of_compiles cxSet_eval.1
  exact ⟨a, b, c, dirSets_eq_some.mpr ⟨ha, hb, hc⟩⟩

/-- an answer of `Vi.dirOracle` on one of the two mark sets is an answer of `rset_find` with 16 group
    slots on the set made from the left-to-right or the right-to-left pattern list of `dirmarks` -/
theorem dirOracle_find {which : Nat} {str : Bytes} {flg found : Nat} {subs : List Int} (hw : which ≤ 1)
    (h : Vi.dirOracle which str flg = some (found, subs)) :
    ∃ pats rs set cuts, (pats = lrPats ∨ pats = rlPats) ∧ Rset.make pats 0 = some (some rs) ∧
      Rset.find rs str 16 flg Gen.NDEPT Gen.NGRPS = some (set, subs, cuts) ∧ 0 ≤ set ∧ found = set.toNat := by
  obtain ⟨a, b, c, hd⟩ := dirSets_some
  obtain ⟨ha, hb, _⟩ := dirSets_eq_some.mp hd
  rw [dirOracle_eq hd, if_neg (by simp; omega : ¬ (which == 2) = true)] at h
  split at h
  · next set grps cuts hf =>
    split at h
    · cases h
    · cases h
      by_cases h0 : which = 0
      · subst h0
        exact ⟨lrPats, a, set, cuts, Or.inl rfl, ha, hf, by omega, rfl⟩
      · have h1 : which = 1 := by omega
        subst h1
        exact ⟨rlPats, b, set, cuts, Or.inr rfl, hb, hf, by omega, rfl⟩
  · cases h

/-- **L5, the part that C11 / C11b give**: on every subject the oracle built from the regex model
    (`Vi.dirOracle`: `rset_find` on the sets compiled from `dirmarks`) reports a valid table index,
    `0 ≤ so`, offsets that are `-1` or inside the subject, and — on a valid UTF-8 subject — on
    character boundaries. -/
theorem dirOracle_range {which : Nat} {str : Bytes} {flg found : Nat} {subs : List Int} (hw : which ≤ 1)
    (h : Vi.dirOracle which str flg = some (found, subs)) : SubsRangeOk str found subs := by
  obtain ⟨pats, rs, set, cuts, hp, hmk, hf, hset, rfl⟩ := dirOracle_find hw h
  refine goodSet_find ?_ hf hset
  rcases hp with rfl | rfl
  · exact goodSet_of_make (List.length_map _) lrPats_valid hmk
  · exact goodSet_of_make (List.length_map _) rlPats_valid hmk

/-- **L5, the order clauses and non-emptiness** (from the declarative semantics `C10.Matches` of the
    regex VM, `C10.regexec_sound`): the whole-match offsets the concrete oracle reports are ordered, every
    other offset is unset or inside them, no group pair is inverted; and the match is never empty.  The
    latter is the property of the configured patterns announced at `OracleOk'`: checked on their parse
    trees (`setConsumes`) and transported through `C10.regexec_sound`. -/
theorem dirOracle_nested {which : Nat} {str : Bytes} {flg found : Nat} {subs : List Int} (hw : which ≤ 1)
    (h : Vi.dirOracle which str flg = some (found, subs)) : SubsNested subs ∧ sub subs 0 < sub subs 1 := by
  obtain ⟨pats, rs, set, cuts, hp, hmk, hf, hset, _⟩ := dirOracle_find hw h
  have hchk : setCheck Gen.NGRPS pats = true ∧ setConsumes pats = true := by
    rcases hp with rfl | rfl
    · exact ⟨lrSet_eval.1, lrSet_eval.2.1⟩
    · exact ⟨rlSet_eval.1, rlSet_eval.2.1⟩
  obtain ⟨h1, h2, h3, h4⟩ := find_nested hmk (by decide) (by decide) hchk.1 (by decide) hf hset
  exact ⟨⟨h1, h2, h3⟩, h4 hchk.2⟩

/-- **L5**: the oracle built from the regex model satisfies the law `OracleOk` — every clause of it,
    on every subject -/
theorem dirOracle_ok : OracleOk Vi.dirOracle :=
  fun _ _ _ _ _ hw h => subsOk_of (dirOracle_range hw h) (dirOracle_nested hw h).1

/-- … and `OracleOk'` -/
theorem dirOracle_ok' : OracleOk' Vi.dirOracle :=
  ⟨dirOracle_ok, fun _ _ _ _ _ hw h => (dirOracle_nested hw h).2⟩

/-- the end-to-end statement for the editor's own oracle: `reorder_runs_of_oracle` with `Vi.dirOracle`,
    no hypothesis about the oracle left -/
theorem reorder_runs_dirOracle (xtd : Int) {cs : List Nat} (hv : ValidStr cs) (ord : List Nat) {ms : List DMatch}
    (hs : Scan (lineMatcher Vi.dirOracle (encStr cs)) (dirContext Vi.dirOracle xtd (encStr cs))
      (lineEnd (encStr cs)) 0 ms)
    (hflat : ∀ m ∈ ms, m.cRec = false) (hlen : lineChars (encStr cs) ≤ ord.length) :
    ∃ ord', dirReorder Vi.dirOracle xtd (encStr cs) ord = some ord' ∧ ord'.length = ord.length ∧
      (∀ m ∈ ms, Opp (dirContext Vi.dirOracle xtd (encStr cs)) m → ∀ p, m.rBeg ≤ p → p < m.rEnd →
        ord'[p]? = ord[m.rBeg + m.rEnd - 1 - p]?) ∧
      (lineNl (encStr cs) = true → ord'[lineChars (encStr cs) - 1]? = some (lineChars (encStr cs) - 1)) ∧
      (∀ p, (lineNl (encStr cs) = true → p ≠ lineChars (encStr cs) - 1) →
        (∀ m ∈ ms, Opp (dirContext Vi.dirOracle xtd (encStr cs)) m → ¬ (m.rBeg ≤ p ∧ p < m.rEnd)) →
        ord'[p]? = ord[p]?) :=
  reorder_runs_of_oracle Vi.dirOracle dirOracle_ok' xtd hv ord hs hflat hlen

/-- the editor's `dir_reorder` never traps on a valid UTF-8 line (nested groups included) and keeps
    the length -/
theorem reorder_total_dirOracle (xtd : Int) {cs : List Nat} (hv : ValidStr cs) (ord : List Nat)
    (hlen : lineChars (encStr cs) ≤ ord.length) :
    ∃ ord', dirReorder Vi.dirOracle xtd (encStr cs) ord = some ord' ∧ ord'.length = ord.length := by
  obtain ⟨ord', h1, h2, _⟩ := reorder_total_of_oracle Vi.dirOracle dirOracle_ok' xtd hv ord hlen
  exact ⟨ord', h1, h2⟩

/-! ### non-vacuity for the concrete oracle -/

/-- the three sets of `dir_init` compile (otherwise `Vi.dirOracle` would never answer) -/
theorem dirSets_isSome : Vi.dirSets.isSome = true := by
  obtain ⟨a, b, c, h⟩ := dirSets_some
  rw [h]
  rfl

theorem dirMatch_of_some {orc : Oracle} {cs : List Nat} (hv : ValidStr cs) {b e : Nat} (hbe : b ≤ e)
    (he : e ≤ cs.length) (ctx : Int) {found : Nat} {subs : List Int} {c dir : Int} {grp : Nat}
    (ho : orc (if ctx < 0 then 1 else 0) (encStr ((cs.take e).drop b))
      (matchFlags (encStr cs) b (byteOff cs e)) = some (found, subs))
    (hd : dirmark found = some (c, dir, grp)) :
    lineMatcher orc (encStr cs) b e ctx = some (some (mkMatch (encStr ((cs.take e).drop b)) b subs dir grp)) := by
  unfold lineMatcher
  rw [dirMatch_valid orc hv hbe he ctx, ho]
  simp only [hd]

theorem dirMatch_of_none {orc : Oracle} {cs : List Nat} (hv : ValidStr cs) {b e : Nat} (hbe : b ≤ e)
    (he : e ≤ cs.length) (ctx : Int)
    (ho : orc (if ctx < 0 then 1 else 0) (encStr ((cs.take e).drop b))
      (matchFlags (encStr cs) b (byteOff cs e)) = none) :
    lineMatcher orc (encStr cs) b e ctx = some none := by
  unfold lineMatcher
  rw [dirMatch_valid orc hv hbe he ctx, ho]

/-- the editor's own oracle on the line `a ب ة b \n` of L6 (evaluated in the kernel through the
    fuel-bounded copy of the VM, `lrSet_eval` and `cxSet_eval`): the context is left-to-right, the two
    Arabic letters are found as a right-to-left run, nothing is found after it -/
theorem real_context : dirContext Vi.dirOracle 1 (encStr toyCps) = 1 := by
  obtain ⟨a, b, c, hd⟩ := dirSets_some
  have o : Vi.dirOracle 2 (encStr toyCps) 0 = some (1, []) :=
    dirOracle_of_find hd (makeFindF_sound (dirSets_eq_some.mp hd).2.2 cxSet_eval.2) rfl rfl
  unfold dirContext
  rw [o]
  decide

theorem real_scan : Scan (lineMatcher Vi.dirOracle (encStr toyCps)) (dirContext Vi.dirOracle 1 (encStr toyCps))
    (lineEnd (encStr toyCps)) 0 [⟨1, 3, 1, 3, -1, false⟩] := by
  have hv : ValidStr toyCps := by decide
  have he : lineEnd (encStr toyCps) = 4 := by decide +kernel
  rw [real_context, he]
  obtain ⟨a, b, c, hd⟩ := dirSets_some
  have ha := (dirSets_eq_some.mp hd).1
  -- in `[0, 4)` the left-to-right set finds row 1 of `dirmarks` at bytes `[1, 5)`, in `[3, 4)` nothing
  have m1 := dirMatch_of_some hv (b := 0) (e := 4) (by decide) (by decide) 1
    (dirOracle_of_find hd (makeFindF_sound ha lrSet_eval.2.2.2.1) rfl rfl) (c := 1) (dir := -1) (grp := 0) (by decide)
  have m2 := dirMatch_of_none hv (b := 3) (e := 4) (by decide) (by decide) 1
    (dirOracle_of_find hd (makeFindF_sound ha lrSet_eval.2.2.2.2) rfl rfl)
  have hm : mkMatch (encStr ((toyCps.take 4).drop 0)) 0 ([1, 5] ++ List.replicate 30 (-1)) (-1) 0 =
      ⟨1, 3, 1, 3, -1, false⟩ := by decide +kernel
  rw [hm] at m1
  exact Scan.next (by decide) m1 (Scan.stop (by decide) m2)

/-- `reorder_runs_dirOracle` on that line: the editor's `dir_reorder` returns an order in which
    positions 1 and 2 (the Arabic run) are exchanged and everything else stays -/
example : ∃ ord', dirReorder Vi.dirOracle 1 (encStr toyCps) (List.range 5) = some ord' ∧ ord'.length = 5 ∧
    ord'[0]? = some 0 ∧ ord'[1]? = some 2 ∧ ord'[2]? = some 1 ∧ ord'[3]? = some 3 ∧ ord'[4]? = some 4 :=
  toy_reorder dirOracle_ok' real_context real_scan

end Neatvi.Props.C18c
