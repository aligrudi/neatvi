import NeatviVerif.Lemmas.C19Fix
/-!
# C19: the text rows of the terminal show the window of the buffer a full repaint would draw

Everything is stated on the model `Model/Screen.lean`; "faithful" means `s = repaint ls xtop xleft rows`.

* `drawAgain_repaint`, `drawAgain_row`: `vi_drawagain`;
* `drawUpdate_repaint`: scrolling a faithful screen by `term_room` and drawing the exposed rows gives the
  faithful screen of the new top line, for all pairs of top lines and all window heights;
* `drawFix_repaint` (and `_window`, `_shrink`, `_delete`, `_insert`): the partial redraw after an edit is faithful,
  wherever the replaced range lies — all are cases of `Lemmas.C19.drawFix_repaint_of_shift`, stated for two
  buffers that agree up to a displacement; `drawFixOld_repaint`: the routine before the repair was faithful only
  under `fixOk`; `drawFixOld_stale_counterexample`, `drawFixOld_then_scroll_counterexample`: it was NOT when
  the range starts above the window, has more than one line, does not shrink, the new lines are fewer than the rows
  of the window and the range does not reach its bottom (`g~k`, `>k`, `<k` on the top row);
* `drawFix_preview`, `drawFix_preview_repaint`: the preview of `c` shows the collapsed buffer from `min xtop r1`;
* `epilogue_repaint_*`: the redraw decision at the end of a command; `drawFix_epilogue_repaint`: a whole
  `VC_OK` command;
* `drawUpdate_ops`, `drawAgain_ops`: the logged primitive operations replay to the same screens.
-/
namespace Neatvi.Props.C19
open Neatvi Neatvi.Mot Neatvi.Screen Neatvi.Lemmas.C19

/-! ### 1. basic algebra -/

theorem room_length (s : Scr) (r n : Int) : (room s r n).length = s.length :=
  Neatvi.Lemmas.C19.room_length s r n

theorem drawRow_length (s : Scr) (ls : Lines) (xtop xleft i : Int) :
    (drawRow s ls xtop xleft i).length = s.length :=
  Neatvi.Lemmas.C19.drawRow_length s ls xtop xleft i

theorem repaint_length (ls : Lines) (top left : Int) (rows : Nat) : (repaint ls top left rows).length = rows :=
  Neatvi.Lemmas.C19.repaint_length ls top left rows

theorem drawRows_length (s : Scr) (ls : Lines) (xtop xleft : Int) (is : List Int) :
    (drawRows s ls xtop xleft is).length = s.length :=
  Neatvi.Lemmas.C19.drawRows_length s ls xtop xleft is

theorem repaint_getElem (ls : Lines) (top left : Int) (rows k : Nat) (h : k < rows) :
    (repaint ls top left rows)[k]? = some (some (img ls left (top + (k : Int)))) :=
  Neatvi.Lemmas.C19.repaint_getElem ls top left rows k h

/-! ### 2. `vi_drawagain` -/

/-- any negative row means "all rows" -/
theorem drawAgain_neg (s : Scr) (ls : Lines) (xtop xleft row : Int) (h : row < 0) :
    drawAgain s ls xtop xleft row = repaint ls xtop xleft s.length := by
  rw [eq_repaint_iff]
  refine ⟨drawAgain_length .., fun k hk => ?_⟩
  rw [drawAgain_getElem?, if_pos ⟨hk, Or.inl h⟩]

/-- in particular `vi_drawagain(xcol, -1)` is the full repaint, whatever the screen showed -/
theorem drawAgain_repaint (s : Scr) (ls : Lines) (xtop xleft : Int) :
    drawAgain s ls xtop xleft (-1) = repaint ls xtop xleft s.length :=
  drawAgain_neg s ls xtop xleft (-1) (by omega)

/-- `vi_drawagain(xcol, row)` for a row of the window: that text row is redrawn, nothing else changes;
    for a row outside the window nothing changes -/
theorem drawAgain_row (s : Scr) (ls : Lines) (xtop xleft row : Int) (h0 : 0 ≤ row) :
    drawAgain s ls xtop xleft row =
      if xtop ≤ row ∧ row < xtop + (s.length : Int) then s.set (row - xtop).toNat (some (img ls xleft row))
      else s := by
  apply List.ext_getElem?
  intro k
  rw [drawAgain_getElem?]
  by_cases hw : xtop ≤ row ∧ row < xtop + (s.length : Int)
  · rw [if_pos hw, List.getElem?_set]
    by_cases hk : (row - xtop).toNat = k
    · have hc : k < s.length ∧ (row < 0 ∨ xtop + (k : Int) = row) := ⟨by omega, Or.inr (by omega)⟩
      rw [if_pos hc, if_pos hk, if_pos (by omega)]
      congr 3; omega
    · rw [if_neg hk, if_neg (by omega)]
  · rw [if_neg hw, if_neg (by omega)]

/-! ### 3. `vi_drawupdate`: scrolling -/

/-- scrolling by insert/delete-line and drawing only the exposed rows gives the full repaint of the
    new window, for every pair of old and new top lines -/
theorem drawUpdate_repaint (ls : Lines) (otop xtop xleft : Int) (rows : Nat) :
    drawUpdate (repaint ls otop xleft rows) ls otop xtop xleft = repaint ls xtop xleft rows := by
  rw [eq_repaint_iff]
  refine ⟨by rw [drawUpdate_length, repaint_length], fun k hk => ?_⟩
  -- what `term_room` leaves on row `k`; the rows it blanks are the ones drawn afterwards
  have hr := room_repaint_getElem? ls otop xleft 0 (otop - xtop) rows k (Int.le_refl 0) (by omega) hk
  unfold drawUpdate
  simp only [repaint_length]
  by_cases h : otop = xtop
  · rw [if_pos (beq_iff_eq.mpr h), h, repaint_getElem _ _ _ _ _ hk]
  · rw [if_neg (fun hh => h (beq_iff_eq.mp hh))]
    by_cases h2 : xtop > otop
    · rw [if_pos h2, drawRows_getElem?_iff _ _ _ _ _ _ _ (mem_rangeMap ..), room_length,
        repaint_length]
      by_cases h3 : k < rows ∧ xtop + (rows : Int) - min (xtop - otop) rows ≤ xtop + (k : Int) ∧
          xtop + (k : Int) < xtop + (rows : Int) - min (xtop - otop) rows + ((min (xtop - otop) rows).toNat : Int)
      · rw [if_pos h3]
      · rw [if_neg h3, hr, if_neg (by omega), if_pos (by omega), if_pos (by omega)]
        congr 3; omega
    · rw [if_neg h2, drawRows_getElem?_iff _ _ _ _ _ _ _ (mem_rangeMap ..), room_length,
        repaint_length]
      by_cases h3 : k < rows ∧ xtop ≤ xtop + (k : Int) ∧
          xtop + (k : Int) < xtop + ((min (otop - xtop) rows).toNat : Int)
      · rw [if_pos h3]
      · rw [if_neg h3, hr, if_neg (by omega), if_neg (by omega), if_neg (by omega)]
        congr 3; omega

/-- the same with the old screen as a hypothesis -/
theorem drawUpdate_repaint' (s : Scr) (ls : Lines) (otop xtop xleft : Int) (rows : Nat)
    (hs : s = repaint ls otop xleft rows) :
    drawUpdate s ls otop xtop xleft = repaint ls xtop xleft rows := by
  subst hs; exact drawUpdate_repaint ..

/-! ### 4. `vi_drawfix`: partial redraw after an edit -/

/-- the buffer after lines `r1..r2` were replaced by `mid` -/
def splice (old mid : Lines) (r1 r2 : Nat) : Lines := old.take r1 ++ mid ++ old.drop (r2 + 1)

/-- the repaired routine is the previous one (`drawFixOld`, in `Lemmas/C19Fix.lean`) behind the guard
    "the range starts above the window: draw every row" -/
theorem drawFix_eq_old (s : Scr) (ls : Lines) (xtop xleft r1 r2 n : Int) (p : Bool) :
    drawFix s ls xtop xleft r1 r2 n p =
      if r1 < (if p && r1 < xtop then r1 else xtop) then
        (repaint ls (if p && r1 < xtop then r1 else xtop) xleft s.length, if p && r1 < xtop then r1 else xtop)
      else drawFixOld s ls xtop xleft r1 r2 n p := by
  rw [drawFix_eq, drawRows_all]

theorem lineAt_splice_above (old mid : Lines) (r1 r2 : Nat) (hr : r1 ≤ old.length) (i : Int) (hi : i < (r1 : Int)) :
    lineAt (splice old mid r1 r2) i = lineAt old i :=
  lineAt_splice_lo old mid r1 (r2 + 1) hr i hi

theorem lineAt_splice_below (old mid : Lines) (r1 r2 : Nat) (hr : r1 ≤ old.length) (i : Int)
    (hi : (r1 : Int) + (mid.length : Int) ≤ i) :
    lineAt (splice old mid r1 r2) i = lineAt old (i - ((mid.length : Int) - ((r2 : Int) - (r1 : Int) + 1))) := by
  unfold splice
  rw [lineAt_splice_hi old mid r1 (r2 + 1) hr i hi]
  congr 1
  omega

/-- the partial-redraw theorem: after `lbuf_edit` replaced lines `r1..r2` by the `n` lines `mid`,
    `vi_drawfix(r1, r2, n, 0)` turns the repaint of the old buffer into the repaint of the new one and
    leaves `xtop` alone — wherever the range lies relative to the window (above, across the top, inside,
    across the bottom, below), for `mid` empty (`n = 0`), for `r2` beyond the last line, for zero rows. -/
theorem drawFix_repaint (old mid : Lines) (xtop xleft : Int) (rows r1 r2 : Nat)
    (h12 : r1 ≤ r2) (hr : r1 ≤ old.length) :
    drawFix (repaint old xtop xleft rows) (splice old mid r1 r2) xtop xleft r1 r2 mid.length false =
      (repaint (splice old mid r1 r2) xtop xleft rows, xtop) := by
  exact drawFix_repaint_of_shift old _ xtop xleft r1 r2 mid.length rows (by omega) (by omega)
    (lineAt_splice_above old mid r1 r2 hr) (lineAt_splice_below old mid r1 r2 hr)

/-- the range starts inside or below the window -/
theorem drawFix_repaint_window (old mid : Lines) (xtop xleft : Int) (rows r1 r2 : Nat)
    (h12 : r1 ≤ r2) (hr : r1 ≤ old.length) (_htop : xtop ≤ (r1 : Int)) :
    drawFix (repaint old xtop xleft rows) (splice old mid r1 r2) xtop xleft r1 r2 mid.length false =
      (repaint (splice old mid r1 r2) xtop xleft rows, xtop) :=
  drawFix_repaint old mid xtop xleft rows r1 r2 h12 hr

/-- fewer lines than before (`dd`, `dk`, `J`, `n = 0`) -/
theorem drawFix_repaint_shrink (old mid : Lines) (xtop xleft : Int) (rows r1 r2 : Nat)
    (h12 : r1 ≤ r2) (hr : r1 ≤ old.length) (_hdis : mid.length < r2 - r1 + 1) :
    drawFix (repaint old xtop xleft rows) (splice old mid r1 r2) xtop xleft r1 r2 mid.length false =
      (repaint (splice old mid r1 r2) xtop xleft rows, xtop) :=
  drawFix_repaint old mid xtop xleft rows r1 r2 h12 hr

/-- pure deletion of the lines `r1..r2` (`dd`, `dk`, `dj`) -/
theorem drawFix_repaint_delete (old : Lines) (xtop xleft : Int) (rows r1 r2 : Nat)
    (h12 : r1 ≤ r2) (hr : r1 ≤ old.length) :
    drawFix (repaint old xtop xleft rows) (old.take r1 ++ old.drop (r2 + 1)) xtop xleft r1 r2 0 false =
      (repaint (old.take r1 ++ old.drop (r2 + 1)) xtop xleft rows, xtop) := by
  have := drawFix_repaint old [] xtop xleft rows r1 r2 h12 hr
  simpa [splice] using this

/-- the usage of `P`, `p`: `ins` was inserted before line `r` (`lbuf_edit(xb, ins, r, r)`) and the
    caller passes `r1 = r2 = r`, `n = ins.length + 1` ("the line `r` became `n` lines"; `linecount` of a
    text of `k` lines is `k + 1`); `r` may be `old.length` (`p` on the last line) -/
theorem drawFix_repaint_insert (old ins : Lines) (xtop xleft : Int) (rows r : Nat)
    (hr : r ≤ old.length) :
    drawFix (repaint old xtop xleft rows) (old.take r ++ ins ++ old.drop r) xtop xleft r r
        ((ins.length : Int) + 1) false =
      (repaint (old.take r ++ ins ++ old.drop r) xtop xleft rows, xtop) := by
  apply drawFix_repaint_of_shift
  · omega
  · omega
  · intro i hi; exact lineAt_splice_lo old ins r r hr i hi
  · intro i hi
    rw [lineAt_splice_hi old ins r r hr i (by omega)]
    congr 1; omega

/-! #### the routine before the repair -/

/-- when the old `vi_drawfix(r1, r2, n, 0)` was right: the range starts in or below the window, or lines
    are lost, or it is a single line, or the new lines fill the window, or the range extends below it -/
def fixOk (xtop : Int) (rows r1 r2 n : Nat) : Prop :=
  xtop ≤ (r1 : Int) ∨ n < r2 - r1 + 1 ∨ r1 = r2 ∨ rows ≤ n ∨ xtop + (rows : Int) ≤ (r2 : Int)

theorem drawFixOld_repaint (old mid : Lines) (xtop xleft : Int) (rows r1 r2 : Nat)
    (h12 : r1 ≤ r2) (hr : r1 ≤ old.length) (hwin : fixOk xtop rows r1 r2 mid.length) :
    drawFixOld (repaint old xtop xleft rows) (splice old mid r1 r2) xtop xleft r1 r2 mid.length false =
      (repaint (splice old mid r1 r2) xtop xleft rows, xtop) := by
  apply Prod.ext
  · apply drawFixOld_repaint_of_shift old _ xtop xleft r1 r2 mid.length rows (by omega) (by omega)
      (lineAt_splice_above old mid r1 r2 hr) (lineAt_splice_below old mid r1 r2 hr)
    unfold fixOk at hwin
    omega
  · rfl

/-- DEFECT of the old `vi_drawfix`: a range that starts above the window and does not lose lines.
    Window: 3 rows, top line 1; lines 0..1 are replaced by 2 lines (`g~k`, `>k`, `<k` with the cursor on
    the top row of the window).  `r1` is clamped to `xtop` but the `n` new lines are all counted as
    visible: `term_room(1)` although `dis = 0`; rows 0..1 are drawn, row 2 keeps showing line 2 where
    line 3 belongs.  The repaired routine gives the repaint. -/
theorem drawFixOld_stale_counterexample :
    let old : Lines := [[0], [1], [2], [3], [4]]
    let mid : Lines := [[10], [11]]
    splice old mid 0 1 = [[10], [11], [2], [3], [4]] ∧
    (drawFixOld (repaint old 1 0 3) (splice old mid 0 1) 1 0 0 1 2 false).1 =
      [some (some [11], 0), some (some [2], 0), some (some [2], 0)] ∧
    repaint (splice old mid 0 1) 1 0 3 = [some (some [11], 0), some (some [2], 0), some (some [3], 0)] ∧
    (drawFix (repaint old 1 0 3) (splice old mid 0 1) 1 0 0 1 2 false).1 = repaint (splice old mid 0 1) 1 0 3 := by
  decide

/-- the same defect seen through a whole command: `>k` on the top row of a 4-row window at line 1 leaves
    the cursor on line 0, so that the epilogue scrolls (`vi_drawupdate(1)` with `xtop = 0`); the stale row
    survives: the bottom row shows line 2 twice where line 3 belongs -/
theorem drawFixOld_then_scroll_counterexample :
    let old : Lines := [[0], [1], [2], [3], [4], [5]]
    let new : Lines := splice old [[10], [11]] 0 1
    drawUpdate (drawFixOld (repaint old 1 0 4) new 1 0 0 1 2 false).1 new 1 0 0 =
      [some (some [10], 0), some (some [11], 0), some (some [2], 0), some (some [2], 0)] ∧
    repaint new 0 0 4 = [some (some [10], 0), some (some [11], 0), some (some [2], 0), some (some [3], 0)] := by
  decide

theorem drawFixOld_above_counterexample :
    let old : Lines := [[0], [1], [2], [3], [4]]
    (drawFixOld (repaint old 1 0 3) (splice old [[10], [11]] 0 1) 1 0 0 1 2 false).1 ≠
      repaint (splice old [[10], [11]] 0 1) 1 0 3 := by
  decide

/-- what the old routine was meant to satisfy: the statement that fails -/
def drawFixOld_repaint_full : Prop :=
  ∀ (old mid : Lines) (xtop xleft : Int) (rows r1 r2 : Nat), r1 ≤ r2 → r2 < old.length →
    drawFixOld (repaint old xtop xleft rows) (splice old mid r1 r2) xtop xleft r1 r2 mid.length false =
      (repaint (splice old mid r1 r2) xtop xleft rows, xtop)

theorem drawFixOld_repaint_full_false : ¬ drawFixOld_repaint_full := by
  intro h
  have := h [[0], [1], [2], [3], [4]] [[10], [11]] 1 0 3 0 1 (by decide) (by decide)
  revert this
  decide

/-! #### the preview of `c` -/

/-- `vi_drawfix(r1, r2, n, 1)` (the buffer is not yet changed): `xtop` becomes `min xtop r1`; the rows of
    lines up to `r1 + n - 1` show these lines and the rows below show the lines `-dis` further down, as
    if lines `r1 + n .. r2` were already deleted.  The call in `vi_change` has `n = 1` and
    `r1 ≤ xrow ≤ r2` with `xrow` visible, so that the hypotheses hold. -/
theorem drawFix_preview (ls : Lines) (xtop xleft r1 r2 n : Int) (rows : Nat)
    (h12 : r1 ≤ r2) (hn : 0 ≤ n) (hvis : r1 < xtop + (rows : Int))
    (hwin : xtop ≤ r1 ∨ n < r2 - r1 + 1 ∨ (rows : Int) ≤ n) :
    (drawFix (repaint ls xtop xleft rows) ls xtop xleft r1 r2 n true).2 = min xtop r1 ∧
    (drawFix (repaint ls xtop xleft rows) ls xtop xleft r1 r2 n true).1.length = rows ∧
    ∀ k, k < rows →
      (drawFix (repaint ls xtop xleft rows) ls xtop xleft r1 r2 n true).1[k]? =
        some (some (img ls xleft
          (if min xtop r1 + (k : Int) < r1 + n then min xtop r1 + (k : Int)
           else min xtop r1 + (k : Int) - (n - (r2 - r1 + 1))))) := by
  refine ⟨?_, by rw [drawFix_length, repaint_length], fun k hk =>
    drawFix_preview_getElem? ls xtop xleft r1 r2 n rows h12 hn hvis hwin k hk⟩
  rw [drawFix_snd]
  simp only [Bool.true_and, decide_eq_true_eq]
  split <;> omega

/-- the preview is the repaint of the collapsed buffer (lines `r1 + n .. r2` removed) from the new top -/
theorem drawFix_preview_repaint (ls : Lines) (xtop xleft : Int) (rows r1 r2 n : Nat)
    (h12 : r1 ≤ r2) (hlen : r1 + n ≤ ls.length) (hvis : (r1 : Int) < xtop + (rows : Int))
    (hwin : xtop ≤ (r1 : Int) ∨ n < r2 - r1 + 1 ∨ rows ≤ n) :
    drawFix (repaint ls xtop xleft rows) ls xtop xleft r1 r2 n true =
      (repaint (ls.take (r1 + n) ++ ls.drop (r2 + 1)) (min xtop r1) xleft rows, min xtop r1) := by
  obtain ⟨h2, hl, hk⟩ := drawFix_preview ls xtop xleft r1 r2 n rows (by omega) (by omega) hvis (by omega)
  apply Prod.ext
  · rw [eq_repaint_iff]
    refine ⟨hl, fun k hk' => ?_⟩
    rw [hk k hk']
    have hs := lineAt_splice_lo ls [] (r1 + n) (r2 + 1) hlen
    have hh := lineAt_splice_hi ls [] (r1 + n) (r2 + 1) hlen
    simp only [List.append_nil, List.length_nil] at hs hh
    split
    · exact (img_congr xleft (hs _ (by omega))).symm
    · refine (img_congr xleft ?_).symm
      rw [hh _ (by omega)]
      congr 1; omega
  · exact h2

/-- the case of `c`: one line stays -/
theorem drawFix_preview_change (ls : Lines) (xtop xleft : Int) (rows r1 r2 : Nat)
    (h12 : r1 ≤ r2) (hlen : r1 < ls.length) (hvis : (r1 : Int) < xtop + (rows : Int))
    (hwin : xtop ≤ (r1 : Int) ∨ r1 < r2) :
    drawFix (repaint ls xtop xleft rows) ls xtop xleft r1 r2 1 true =
      (repaint (ls.take (r1 + 1) ++ ls.drop (r2 + 1)) (min xtop r1) xleft rows, min xtop r1) :=
  drawFix_preview_repaint ls xtop xleft rows r1 r2 1 h12 (by omega) hvis (by omega)

/-- `drawFixOld_repaint_full` fails -/
theorem drawFixOld_repaint_counterexample : ¬ drawFixOld_repaint_full := drawFixOld_repaint_full_false

/-- without `hwin` the preview is wrong, before and after the repair (the guard never fires in preview
    mode, `drawFix_preview_eq`); it cannot arise from `vi_change`, where the cursor line is visible and
    inside `r1..r2`: one line above the window, nothing scrolls, only row 0 is drawn -/
theorem drawFixOld_preview_counterexample :
    let ls : Lines := [[0], [1], [2], [3], [4]]
    (drawFixOld (repaint ls 1 0 3) ls 1 0 0 0 1 true) =
      ([some (some [0], 0), some (some [2], 0), some (some [3], 0)], 0) ∧
    repaint ls 0 0 3 = [some (some [0], 0), some (some [1], 0), some (some [2], 0)] := by
  decide

theorem drawFix_preview_counterexample :
    let ls : Lines := [[0], [1], [2], [3], [4]]
    (drawFix (repaint ls 1 0 3) ls 1 0 0 0 1 true) =
      ([some (some [0], 0), some (some [2], 0), some (some [3], 0)], 0) ∧
    repaint ls 0 0 3 = [some (some [0], 0), some (some [1], 0), some (some [2], 0)] := by
  decide

/-! ### 5. the redraw decision at the end of a command -/

/-- (a) a window redraw (`VC_WIN` without `VC_ROW`) is the full repaint, whatever the screen showed -/
theorem epilogue_repaint_win (s : Scr) (ls : Lines) (otop oleft orow xtop xleft xrow : Int) :
    epilogue s ls true false otop oleft orow xtop xleft xrow = repaint ls xtop xleft s.length := by
  unfold epilogue
  simp only [Bool.true_or, Bool.false_and, if_true, Bool.false_eq_true, if_false]
  exact drawAgain_repaint ..

/-- (b) nothing but the position changed: scrolling from a faithful screen gives a faithful screen
    (`modRow` is only looked at under `modRowOrWin`) -/
theorem epilogue_repaint_scroll' (s : Scr) (ls : Lines) (modRow : Bool) (otop oleft orow xtop xleft xrow : Int)
    (rows : Nat) (hl : xleft = oleft) (hs : s = repaint ls otop oleft rows) :
    epilogue s ls false modRow otop oleft orow xtop xleft xrow = repaint ls xtop xleft rows := by
  subst hl hs
  unfold epilogue
  have h1 : (false || xleft != xleft) = false := by simp
  rw [h1]
  simp only [Bool.false_eq_true, if_false]
  split
  · exact drawUpdate_repaint ..
  · rename_i h
    simp only [bne_iff_ne, ne_eq, Decidable.not_not] at h
    rw [h]

theorem epilogue_repaint_scroll (ls : Lines) (otop oleft orow xtop xrow : Int) (rows : Nat) :
    epilogue (repaint ls otop oleft rows) ls false false otop oleft orow xtop oleft xrow =
      repaint ls xtop oleft rows :=
  epilogue_repaint_scroll' _ ls false otop oleft orow xtop oleft xrow rows rfl rfl

/-- (c) a horizontal scroll is a full repaint -/
theorem epilogue_repaint_left (s : Scr) (ls : Lines) (m1 m2 : Bool) (otop oleft orow xtop xleft xrow : Int)
    (hl : xleft ≠ oleft) :
    epilogue s ls m1 m2 otop oleft orow xtop xleft xrow = repaint ls xtop xleft s.length := by
  unfold epilogue
  have h1 : (xleft != oleft) = true := by simpa using hl
  have h2 : (xleft == oleft) = false := by simpa using hl
  simp only [h1, h2, Bool.or_true, if_true, Bool.and_false, Bool.false_and, Bool.false_eq_true, if_false]
  exact drawAgain_repaint ..

/-- (d) line-only update (`VC_ROW`, same `xtop` and `xleft`): the rows of the new and of the old cursor
    line are redrawn; if the buffer changed in these two lines only, the screen is faithful again -/
theorem epilogue_repaint_row (old new : Lines) (m1 : Bool) (xtop xleft orow xrow : Int) (rows : Nat)
    (hm : m1 = true)
    (hsame : ∀ i, i ≠ xrow → i ≠ orow → lineAt new i = lineAt old i) :
    epilogue (repaint old xtop xleft rows) new m1 true xtop xleft orow xtop xleft xrow =
      repaint new xtop xleft rows := by
  subst hm
  unfold epilogue
  simp only [Bool.true_or, if_true, Bool.true_and, beq_self_eq_true, Bool.and_self]
  rw [eq_repaint_iff]
  have key : ∀ k, k < rows → (drawAgain (repaint old xtop xleft rows) new xtop xleft xrow)[k]? =
      if xrow < 0 ∨ xtop + (k : Int) = xrow then some (some (img new xleft (xtop + (k : Int))))
      else some (some (img old xleft (xtop + (k : Int)))) := by
    intro k hk
    rw [drawAgain_getElem?, repaint_length, repaint_getElem _ _ _ _ _ hk]
    by_cases h : xrow < 0 ∨ xtop + (k : Int) = xrow
    · rw [if_pos ⟨hk, h⟩, if_pos h]
    · rw [if_neg (fun hh => h hh.2), if_neg h]
  split
  · rename_i hne
    simp only [bne_iff_ne, ne_eq] at hne
    refine ⟨by rw [drawAgain_length, drawAgain_length, repaint_length], fun k hk => ?_⟩
    rw [drawAgain_getElem?, drawAgain_length, repaint_length]
    by_cases h : orow < 0 ∨ xtop + (k : Int) = orow
    · rw [if_pos ⟨hk, h⟩]
    · rw [if_neg (fun hh => h hh.2), key k hk]
      split
      · rfl
      · exact (img_congr xleft (hsame _ (by omega) (by omega))).symm
  · rename_i heq
    simp only [bne_iff_ne, ne_eq, Decidable.not_not] at heq
    refine ⟨by rw [drawAgain_length, repaint_length], fun k hk => ?_⟩
    rw [key k hk]
    split
    · rfl
    · exact (img_congr xleft (hsame _ (by omega) (by omega))).symm

/-- a whole editing command that reports `VC_OK`: `vi_drawfix` and then the epilogue with
    `otop` := the `xtop` of the time of the fix, whatever `vi_wfix` chose as the new `xtop` -/
theorem drawFix_epilogue_repaint (old mid : Lines) (xtop xtop' xleft orow xrow : Int) (rows r1 r2 : Nat)
    (h12 : r1 ≤ r2) (hr : r1 ≤ old.length) :
    epilogue (drawFix (repaint old xtop xleft rows) (splice old mid r1 r2) xtop xleft r1 r2 mid.length false).1
        (splice old mid r1 r2) false false
        (drawFix (repaint old xtop xleft rows) (splice old mid r1 r2) xtop xleft r1 r2 mid.length false).2
        xleft orow xtop' xleft xrow =
      repaint (splice old mid r1 r2) xtop' xleft rows := by
  rw [drawFix_repaint old mid xtop xleft rows r1 r2 h12 hr]
  exact epilogue_repaint_scroll ..

/-! ### 6. the logged primitive operations describe the same updates -/

/-- the effect of one logged operation on the abstract terminal -/
def applyOp (ls : Lines) (xtop xleft : Int) (s : Scr) : Op → Scr
  | Op.room r n => room s r n
  | Op.row k => drawRow s ls xtop xleft (xtop + k)

theorem foldl_applyOp_rows (ls : Lines) (xtop xleft : Int) (f : Nat → Int) (g : Nat → Int) (l : List Nat) (s : Scr)
    (h : ∀ i, xtop + g i = f i) :
    (l.map (fun i => Op.row (g i))).foldl (applyOp ls xtop xleft) s = drawRows s ls xtop xleft (l.map f) := by
  unfold drawRows
  rw [List.foldl_map, List.foldl_map]
  congr 1
  funext s i
  simp only [applyOp, h]

theorem drawUpdate_ops (s : Scr) (ls : Lines) (otop xtop xleft : Int) :
    drawUpdate s ls otop xtop xleft = (drawUpdateOps s.length otop xtop).foldl (applyOp ls xtop xleft) s := by
  unfold drawUpdate drawUpdateOps
  simp only []
  split
  · rfl
  · rename_i h
    have h' : (otop - xtop != 0) = true := by
      simp only [beq_iff_eq] at h
      simp only [bne_iff_ne, ne_eq]; omega
    rw [if_pos h', List.foldl_append, List.foldl_cons, List.foldl_nil]
    simp only [applyOp]
    split
    · rw [foldl_applyOp_rows]; intro i; omega
    · rw [foldl_applyOp_rows]; intro i; omega

theorem drawAgain_ops (s : Scr) (ls : Lines) (xtop xleft row : Int) :
    drawAgain s ls xtop xleft row = (drawAgainOps s.length xtop row).foldl (applyOp ls xtop xleft) s := by
  unfold drawAgain drawAgainOps drawRows
  rw [List.foldl_map]
  congr 1
  funext s i
  simp only [applyOp]
  congr 1; omega

/-! ### 7. small concrete screens: 5 lines, 3 rows -/

section Examples
def ex5 : Lines := [[0], [1], [2], [3], [4]]

example : repaint ex5 1 0 3 = [some (some [1], 0), some (some [2], 0), some (some [3], 0)] := by decide
/- scrolling down by one, by two, by more than the window, and back up; past the end of the buffer -/
example : drawUpdate (repaint ex5 0 0 3) ex5 0 1 0 = repaint ex5 1 0 3 := by decide
example : drawUpdate (repaint ex5 0 0 3) ex5 0 2 0 = repaint ex5 2 0 3 := by decide
example : drawUpdate (repaint ex5 0 0 3) ex5 0 4 0 = [some (some [4], 0), some (none, 0), some (none, 0)] := by decide
example : drawUpdate (repaint ex5 4 0 3) ex5 4 0 0 = repaint ex5 0 0 3 := by decide
example : drawUpdate (repaint ex5 2 0 3) ex5 2 1 0 = repaint ex5 1 0 3 := by decide
example : drawUpdateOps 3 0 1 = [Op.room 0 (-1), Op.row 2] := by decide
example : drawUpdateOps 3 2 0 = [Op.room 0 2, Op.row 0, Op.row 1] := by decide
/- `dd` on line 1 with the window at 0: one row deleted, the rows from 1 on redrawn -/
example : drawFix (repaint ex5 0 0 3) [[0], [2], [3], [4]] 0 0 1 1 0 false = (repaint [[0], [2], [3], [4]] 0 0 3, 0) := by
  decide
/- `P` of two lines before line 1 (`n = 3`) -/
example : drawFix (repaint ex5 0 0 3) [[0], [8], [9], [1], [2], [3], [4]] 0 0 1 1 3 false =
    ([some (some [0], 0), some (some [8], 0), some (some [9], 0)], 0) := by decide
/- `J` of lines 1..2 with the window at 1 -/
example : drawFix (repaint ex5 1 0 3) [[0], [1, 2], [3], [4]] 1 0 1 2 1 false =
    ([some (some [1, 2], 0), some (some [3], 0), some (some [4], 0)], 1) := by decide
/- `dk` with the cursor on the top row of the window at 1: lines 0..1 go, the window shows 2.. of the old buffer -/
example : drawFix (repaint ex5 1 0 3) [[2], [3], [4]] 1 0 0 1 0 false = (repaint [[2], [3], [4]] 1 0 3, 1) := by decide
/- preview of `c` over lines 1..3 with the window at 0: rows 0..1 keep lines 0..1, row 2 shows line 4 -/
example : drawFix (repaint ex5 0 0 3) ex5 0 0 1 3 1 true =
    ([some (some [0], 0), some (some [1], 0), some (some [4], 0)], 0) := by decide
/- preview of `c` over lines 0..2 with the window at 1: the window moves to 0 -/
example : drawFix (repaint ex5 1 0 3) ex5 1 0 0 2 1 true =
    ([some (some [0], 0), some (some [3], 0), some (some [4], 0)], 0) := by decide
end Examples

end Neatvi.Props.C19
