import NeatviVerif.Lemmas.C19bOps
/-!
# C19b: the operations the harness logs for `vi_drawfix` are the operations `drawFix` performs

`drawFixOps rows xtop r1 r2 n preview` (in `Model/Screen.lean`) is the list the harness compares with the
log of the real routine: `Op.room r n` (cursor to text row `r`, `term_room(n)`) and `Op.row k` (text row
`k` redrawn), in order.

* `drawFix_ops`: without preview, replaying the list with `C19.applyOp` (where `Op.row k` draws the buffer
  row `xtop + k`) from the screen `s` gives the screen of `drawFix`; the guarded branch (`r1 < xtop`, every
  row redrawn) is included;
* with preview the rows of the first loop are drawn while `xtop` is shifted by `-dis`, so the buffer row
  behind `Op.row k` depends on the loop.  `drawFixOpsX` (in `Lemmas/C19bOps.lean`) is the list of pairs
  (operation, `xtop` in force) and `applyOpAt ls xleft s (Op.row k, xt) = drawRow s ls xt xleft (xt + k)`:
  - `drawFixOps_eq_map_fst` (there too): `drawFixOps = drawFixOpsX.map Prod.fst` — the screen rows the harness compares
    are those of the extended list, in order, the row insertion/deletion first;
  - `drawFix_opsX` (both modes), `drawFix_ops_preview`: `drawFix` is the fold of the extended list;
  - `drawFixOpsX_xtop`: the `xtop` in force is the `xtop` the routine leaves, or that minus `dis` (only
    with preview and `dis < 0`); `drawFixOpsX_false`: without preview it is the `xtop` of the call;
* `ops_rows_in_window` (`drawFixOps_rows_in_window`, `drawUpdateOps_rows_in_window`,
  `drawAgainOps_rows_in_window`): every `Op.row k` has `0 ≤ k < rows`; for `drawFixOps` this needs
  `0 < rows` and `0 ≤ n` (nothing on `r1`, `r2`), and both are necessary:
  `drawFixOps_row_outside_neg_n`, `drawFixOps_row_outside_zero_rows`; the other two need nothing.
  `drawFixOps_room_in_window`: the row of the `Op.room` is a text row as well.
-/
namespace Neatvi.Props.C19b
open Neatvi Neatvi.Mot Neatvi.Screen Neatvi.Lemmas.C19 Neatvi.Props.C19 Neatvi.Lemmas.C19b

/-- the effect of an extended operation -/
theorem applyOpAt_room (ls : Lines) (xleft : Int) (s : Scr) (r n xt : Int) :
    applyOpAt ls xleft s (Op.room r n, xt) = room s r n := rfl

theorem applyOpAt_row (ls : Lines) (xleft : Int) (s : Scr) (k xt : Int) :
    applyOpAt ls xleft s (Op.row k, xt) = drawRow s ls xt xleft (xt + k) := rfl

/-- with a fixed `xtop` the extended replay is the plain one -/
theorem applyOpAt_eq_applyOp (ls : Lines) (xtop xleft : Int) (s : Scr) (o : Op) :
    applyOpAt ls xleft s (o, xtop) = applyOp ls xtop xleft s o :=
  Neatvi.Lemmas.C19b.applyOpAt_eq_applyOp ls xtop xleft s o

/-- `vi_drawfix` in both modes is the replay of the extended list -/
theorem drawFix_opsX (s : Scr) (ls : Lines) (xtop xleft r1 r2 n : Int) (p : Bool) :
    (drawFix s ls xtop xleft r1 r2 n p).1 =
      (drawFixOpsX s.length xtop r1 r2 n p).foldl (applyOpAt ls xleft) s :=
  Neatvi.Lemmas.C19b.drawFix_opsX s ls xtop xleft r1 r2 n p

/-- `vi_drawfix(r1, r2, n, 1)`: the screen is the replay of the extended list, whose operations are the
    logged ones, and the `xtop` it leaves is `min xtop r1` -/
theorem drawFix_ops_preview (s : Scr) (ls : Lines) (xtop xleft r1 r2 n : Int) :
    (drawFix s ls xtop xleft r1 r2 n true).1 =
      (drawFixOpsX s.length xtop r1 r2 n true).foldl (applyOpAt ls xleft) s ∧
    (drawFixOpsX s.length xtop r1 r2 n true).map Prod.fst = drawFixOps s.length xtop r1 r2 n true ∧
    (drawFix s ls xtop xleft r1 r2 n true).2 = min xtop r1 := by
  refine ⟨drawFix_opsX .., (drawFixOps_eq_map_fst ..).symm, ?_⟩
  rw [drawFix_snd]
  simp only [Bool.true_and, decide_eq_true_eq]
  split <;> omega

/-- the `xtop` in force of an operation is the `xtop` the routine leaves (`drawFix_snd`), except in the
    first loop of a shrinking preview, where it is that `xtop` minus `dis = n - (r2 - r1 + 1)` -/
theorem drawFixOpsX_xtop (rows : Nat) (xtop r1 r2 n : Int) (p : Bool) (x : Op × Int)
    (hx : x ∈ drawFixOpsX rows xtop r1 r2 n p) :
    x.2 = (if p && r1 < xtop then r1 else xtop) ∨
    (p = true ∧ n - (r2 - r1 + 1) < 0 ∧ (∃ k, x.1 = Op.row k) ∧
      x.2 = (if p && r1 < xtop then r1 else xtop) - (n - (r2 - r1 + 1))) := by
  obtain ⟨t, c1, c2, d, rfl, _, _, rfl, h⟩ := mem_drawFixOpsX hx
  rcases h with ⟨_, _, _, rfl⟩ | ⟨_, rfl⟩ | ⟨_, hd, _, i, _, rfl⟩ | ⟨_, _, _, _, rfl⟩
  · exact Or.inl rfl
  · exact Or.inl rfl
  · cases p
    · left; simp
    · right
      refine ⟨rfl, hd, ⟨_, rfl⟩, ?_⟩
      simp only [if_true]; omega
  · exact Or.inl rfl

/-- without preview every operation is performed under the `xtop` of the call -/
theorem drawFixOpsX_false (rows : Nat) (xtop r1 r2 n : Int) :
    drawFixOpsX rows xtop r1 r2 n false = (drawFixOps rows xtop r1 r2 n false).map (fun o => (o, xtop)) := by
  rw [drawFixOps_eq_map_fst, List.map_map]
  refine (List.map_id _).symm.trans (List.map_congr_left fun x hx => ?_)
  rcases drawFixOpsX_xtop _ _ _ _ _ _ x hx with h | ⟨h, _⟩
  · exact Prod.ext rfl h
  · cases h

/-- `vi_drawfix(r1, r2, n, 0)`: the logged operations, replayed with the `xtop` of the call, give the
    screen of `drawFix`, for every screen, window and range (the guard `r1 < xtop` included) -/
theorem drawFix_ops (s : Scr) (ls : Lines) (xtop xleft r1 r2 n : Int) :
    (drawFix s ls xtop xleft r1 r2 n false).1 =
      (drawFixOps s.length xtop r1 r2 n false).foldl (applyOp ls xtop xleft) s := by
  rw [drawFix_opsX, drawFixOpsX_false, foldl_applyOpAt_const]

/-- the guarded branch on its own: the range starts above the window, the operations are the redraws of
    every text row and the result is the full repaint -/
theorem drawFix_ops_above (s : Scr) (ls : Lines) (xtop xleft r1 r2 n : Int) (h : r1 < xtop) :
    drawFixOps s.length xtop r1 r2 n false = (List.range s.length).map (fun (k : Nat) => Op.row (k : Int)) ∧
    (drawFixOps s.length xtop r1 r2 n false).foldl (applyOp ls xtop xleft) s = repaint ls xtop xleft s.length := by
  refine ⟨?_, ?_⟩
  · unfold drawFixOps
    simp only [Bool.false_and, Bool.false_eq_true, if_false]
    rw [if_pos h]
  · rw [← drawFix_ops, drawFix_eq_old]
    simp only [Bool.false_and, Bool.false_eq_true, if_false]
    rw [if_pos h]

/-- `vi_drawfix`: every redrawn row is a text row, if there is a window and the count of new lines is not
    negative; nothing is assumed about `r1`, `r2`, `xtop` or the mode -/
theorem drawFixOps_rows_in_window (rows : Nat) (xtop r1 r2 n : Int) (p : Bool)
    (hrows : 0 < rows) (hn : 0 ≤ n) (k : Int) (hk : Op.row k ∈ drawFixOps rows xtop r1 r2 n p) :
    0 ≤ k ∧ k < (rows : Int) := by
  rw [drawFixOps_eq_map_fst, List.mem_map] at hk
  obtain ⟨x, hx, hk⟩ := hk
  obtain ⟨t, c1, c2, d, _, rfl, _, _, h⟩ := mem_drawFixOpsX hx
  obtain ⟨ca, cb, _⟩ := clamp_spec r1 t rows hrows
  rcases h with ⟨_, _, _, rfl⟩ | ⟨_, rfl⟩ | ⟨_, _, _, i, _, rfl⟩ | ⟨_, i, _, _, rfl⟩ <;> cases hk <;> omega

/-- the row of the `term_room` of `vi_drawfix` is a text row -/
theorem drawFixOps_room_in_window (rows : Nat) (xtop r1 r2 n : Int) (p : Bool)
    (hrows : 0 < rows) (r a : Int) (hk : Op.room r a ∈ drawFixOps rows xtop r1 r2 n p) :
    0 ≤ r ∧ r < (rows : Int) := by
  rw [drawFixOps_eq_map_fst, List.mem_map] at hk
  obtain ⟨x, hx, hk⟩ := hk
  obtain ⟨t, c1, c2, d, _, rfl, _, _, h⟩ := mem_drawFixOpsX hx
  obtain ⟨ca, cb, _⟩ := clamp_spec r1 t rows hrows
  rcases h with ⟨_, _, _, rfl⟩ | ⟨_, rfl⟩ | ⟨_, _, _, i, _, rfl⟩ | ⟨_, i, _, _, rfl⟩ <;> cases hk
  omega

/-- `vi_drawupdate`: every redrawn row is a text row, for all arguments -/
theorem drawUpdateOps_rows_in_window (rows : Nat) (otop xtop : Int) (k : Int)
    (hk : Op.row k ∈ drawUpdateOps rows otop xtop) : 0 ≤ k ∧ k < (rows : Int) := by
  unfold drawUpdateOps at hk
  simp only [] at hk
  split at hk
  · cases hk
  · rw [List.mem_append] at hk
    rcases hk with hk | hk
    · split at hk
      · rw [List.mem_singleton] at hk; cases hk
      · cases hk
    · split at hk
      · rw [row_mem_rangeMap] at hk
        obtain ⟨i, hi, rfl⟩ := hk
        omega
      · rw [row_mem_rangeMap (fun i => (i : Int))] at hk
        obtain ⟨i, hi, rfl⟩ := hk
        omega

/-- `vi_drawagain`: every redrawn row is a text row, for all arguments -/
theorem drawAgainOps_rows_in_window (rows : Nat) (xtop row : Int) (k : Int)
    (hk : Op.row k ∈ drawAgainOps rows xtop row) : 0 ≤ k ∧ k < (rows : Int) := by
  unfold drawAgainOps at hk
  simp only [List.mem_map, List.mem_filter, List.mem_range, Op.row.injEq] at hk
  obtain ⟨_, ⟨⟨i, hi, rfl⟩, _⟩, rfl⟩ := hk
  omega

/-- the three routines together -/
theorem ops_rows_in_window (rows : Nat) (k : Int) :
    (∀ xtop r1 r2 n p, 0 < rows → 0 ≤ n → Op.row k ∈ drawFixOps rows xtop r1 r2 n p → 0 ≤ k ∧ k < (rows : Int)) ∧
    (∀ otop xtop, Op.row k ∈ drawUpdateOps rows otop xtop → 0 ≤ k ∧ k < (rows : Int)) ∧
    (∀ xtop row, Op.row k ∈ drawAgainOps rows xtop row → 0 ≤ k ∧ k < (rows : Int)) :=
  ⟨fun xtop r1 r2 n p h1 h2 h3 => drawFixOps_rows_in_window rows xtop r1 r2 n p h1 h2 k h3,
   fun otop xtop h => drawUpdateOps_rows_in_window rows otop xtop k h,
   fun xtop row h => drawAgainOps_rows_in_window rows xtop row k h⟩

/-- `0 ≤ n` is necessary: a negative count makes the first loop start above the window (the callers pass
    a line count, so this does not arise) -/
theorem drawFixOps_row_outside_neg_n :
    drawFixOps 3 0 0 0 (-1) false = [Op.room 0 (-2), Op.row (-1), Op.row 0, Op.row 1, Op.row 2] := by
  decide

/-- `0 < rows` is necessary: with no text rows the clamped `r1` is `xtop - 1` and the second loop names
    the row `-1` (`drawRow` ignores it; a terminal has at least one text row) -/
theorem drawFixOps_row_outside_zero_rows :
    drawFixOps 0 0 0 0 1 false = [Op.room (-1) 0, Op.row (-1)] := by
  decide

section Examples
/- `dk` on line 6 of a 7-row window at line 3: lines 5..6 go, `term_room(-2)` on row 2, rows 2..6 redrawn -/
example : drawFixOps 7 3 5 6 0 false = [Op.room 2 (-2), Op.row 2, Op.row 3, Op.row 4, Op.row 5, Op.row 6] := by
  decide
/- `P` of two lines before line 5 (`n = 3`): `term_room(2)` on row 2, rows 2..4 redrawn -/
example : drawFixOps 7 3 5 5 3 false = [Op.room 2 2, Op.row 2, Op.row 3, Op.row 4] := by
  decide
/- the range starts above the window: every row -/
example : drawFixOps 3 2 1 2 2 false = [Op.row 0, Op.row 1, Op.row 2] := by decide
/- preview of `c` over lines 1..3, window of 3 rows at 0: row 2 is drawn under `xtop = 2` (it shows line 4),
   row 1 under `xtop = 0` -/
example : drawFixOpsX 3 0 1 3 1 true = [(Op.room 1 (-1), 0), (Op.row 2, 2), (Op.row 1, 0)] := by decide
example : drawFixOps 3 0 1 3 1 true = [Op.room 1 (-1), Op.row 2, Op.row 1] := by decide
/- preview of `c` over lines 0..2 with the window at 1: the window moves to 0 -/
example : drawFixOpsX 3 1 0 2 1 true = [(Op.room 0 (-2), 0), (Op.row 1, 2), (Op.row 2, 2), (Op.row 0, 0)] := by decide
example : (drawFixOpsX 3 1 0 2 1 true).foldl (applyOpAt ex5 0) (repaint ex5 1 0 3) =
    [some (some [0], 0), some (some [3], 0), some (some [4], 0)] := by decide
end Examples

end Neatvi.Props.C19b
