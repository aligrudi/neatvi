import NeatviVerif.Props.C19d
/-!
# C19c  What a screen row shows: the window table `off[]` and the row of an ASCII line

`Render.renderRow orc o shape s0 cbeg cend` models `led_render` (led.c): the text of one screen
row for the line `s0` and the column window `[cbeg, cend)`.

* (T1) `offTable_spec` (and `offTable_spec_rtl` for the mirrored window of a right-to-left context):
  in a left-to-right context the table `off[]` holds character `i` at window column `k` exactly when
  column `cbeg + k` is one of the cells of `i` and *all* cells of `i` are inside the window — for any
  characters and any position table whose cell ranges are pairwise disjoint.  Both are readings of
  `Lemmas.C19c.offTable_spec_at`, which is stated for a window column and the visual column
  `led_pos` maps to it.  `offTable_spec_model` instantiates it on every table the model's
  `ren_position` computes for a valid UTF-8 line (`C19d.model_disjoint`), with the reference `cellWidth`.
* `ucSlen_ascii`, `chrs_ascii`, `renPositionFast_ascii`, `dirContext_nonneg`: when the layout is the
  identity and the context left-to-right.
* (T2) `renderRow_line_window`, `renderRow_ascii_window`, `renderRow_ascii_window_opts`: the
  row of a line of printable ASCII is the slice of the line that falls into the window, the
  newline showing as a blank — the case without tabs of `C19d.renderRow_tabs_window`.
* (T3) non-vacuity, and the corner of the empty string.

Nothing here is `_partial`.
-/
namespace Neatvi.Props.C19c
open Neatvi Neatvi.Uc Neatvi.Spec Neatvi.Ren Neatvi.Render Neatvi.Lemmas.C19c

theorem offTable_length (chs : List Bytes) (pos : List Nat) (ctx : Int) (cbeg cend : Int) :
    (offTable chs pos ctx cbeg cend).length = (cend - cbeg).toNat :=
  Lemmas.C19c.offTable_length chs pos ctx cbeg cend
theorem offTable_outside (chs : List Bytes) (pos : List Nat) (ctx : Int) (cbeg cend : Int) (k : Nat)
    (hk : (cend - cbeg).toNat ≤ k) : (offTable chs pos ctx cbeg cend).getD k none = none :=
  Lemmas.C19c.offTable_outside chs pos ctx cbeg cend k hk
theorem renPosition_ascii_fast (orc : Dir.Oracle) (o : Opts) (s : Bytes) (hs : ∀ b ∈ s, 0 < b ∧ b < 128)
    (ho : o.xorder = 0 ∨ o.xorder = 1) : renPosition orc o s = some (renPositionFast s) :=
  Lemmas.C19c.renPosition_low orc o s hs ho

/-- (T1) left-to-right context, cell ranges pairwise disjoint: window column `k` holds character
    `i` iff `cbeg + k` is a cell of `i` and every cell of `i` lies in `[cbeg, cend)` -/
theorem offTable_spec (chs : List Bytes) (pos : List Nat) (ctx : Int) (hctx : ctx ≥ 0) (cbeg cend : Int)
    (hwin : cbeg < cend)
    (hd : ∀ i j, i < chs.length → j < chs.length → i ≠ j →
      pos.getD i 0 + renCwid (chs.getD i []) (pos.getD i 0) ≤ pos.getD j 0 ∨
      pos.getD j 0 + renCwid (chs.getD j []) (pos.getD j 0) ≤ pos.getD i 0)
    (k : Nat) (hk : k < (cend - cbeg).toNat) (i : Nat) :
    (offTable chs pos ctx cbeg cend).getD k none = some i ↔
      i < chs.length ∧
      (pos.getD i 0 : Int) ≤ cbeg + k ∧
      cbeg + k < (pos.getD i 0 : Int) + (renCwid (chs.getD i []) (pos.getD i 0) : Int) ∧
      cbeg ≤ (pos.getD i 0 : Int) ∧
      (pos.getD i 0 : Int) + (renCwid (chs.getD i []) (pos.getD i 0) : Int) ≤ cend :=
  offTable_spec_at chs pos ctx cbeg cend hd k hk _ (ledPos_ltr hctx cbeg cend k) i

/-- (T1, mirrored) right-to-left context: window column `k` is screen column `cend - 1 - k`; it
    holds character `i` iff that column is a cell of `i` and every cell of `i` lies in `[cbeg, cend)` -/
theorem offTable_spec_rtl (chs : List Bytes) (pos : List Nat) (ctx : Int) (hctx : ctx < 0) (cbeg cend : Int)
    (hwin : cbeg < cend)
    (hd : ∀ i j, i < chs.length → j < chs.length → i ≠ j →
      pos.getD i 0 + renCwid (chs.getD i []) (pos.getD i 0) ≤ pos.getD j 0 ∨
      pos.getD j 0 + renCwid (chs.getD j []) (pos.getD j 0) ≤ pos.getD i 0)
    (k : Nat) (hk : k < (cend - cbeg).toNat) (i : Nat) :
    (offTable chs pos ctx cbeg cend).getD k none = some i ↔
      i < chs.length ∧
      (pos.getD i 0 : Int) ≤ cend - 1 - k ∧
      cend - 1 - k < (pos.getD i 0 : Int) + (renCwid (chs.getD i []) (pos.getD i 0) : Int) ∧
      cbeg ≤ (pos.getD i 0 : Int) ∧
      (pos.getD i 0 : Int) + (renCwid (chs.getD i []) (pos.getD i 0) : Int) ≤ cend :=
  offTable_spec_at chs pos ctx cbeg cend hd k hk _ (ledPos_rtl hctx cbeg cend k) i

/-- a window column holds at most one character, and only a character of the line -/
theorem offTable_lt (chs : List Bytes) (pos : List Nat) (ctx : Int) (hctx : ctx ≥ 0) (cbeg cend : Int)
    (hwin : cbeg < cend)
    (hd : ∀ i j, i < chs.length → j < chs.length → i ≠ j →
      pos.getD i 0 + renCwid (chs.getD i []) (pos.getD i 0) ≤ pos.getD j 0 ∨
      pos.getD j 0 + renCwid (chs.getD j []) (pos.getD j 0) ≤ pos.getD i 0)
    (k i : Nat) (h : (offTable chs pos ctx cbeg cend).getD k none = some i) : i < chs.length := by
  by_cases hk : k < (cend - cbeg).toNat
  · exact ((offTable_spec chs pos ctx hctx cbeg cend hwin hd k hk i).mp h).1
  · rw [offTable_outside _ _ _ _ _ _ (by omega)] at h
    cases h

/-- (T1 on the model's own tables) for a valid UTF-8 line and any table `ren_position` returns
    for it, in a left-to-right context the window table is exact, with the reference cell widths -/
theorem offTable_spec_model (orc : Dir.Oracle) (o : Opts) (cps : List Nat) (hv : ∀ c ∈ cps, ValidCp c)
    (pos : List Nat) (h : renPosition orc o (encStr cps) = some pos)
    (ctx : Int) (hctx : ctx ≥ 0) (cbeg cend : Int) (hwin : cbeg < cend)
    (k : Nat) (hk : k < (cend - cbeg).toNat) (i : Nat) :
    (offTable (chrs (encStr cps)) pos ctx cbeg cend).getD k none = some i ↔
      i < cps.length ∧
      (pos.getD i 0 : Int) ≤ cbeg + k ∧
      cbeg + k < (pos.getD i 0 : Int) + (cellWidth (cps.getD i 0) (pos.getD i 0) : Int) ∧
      cbeg ≤ (pos.getD i 0 : Int) ∧
      (pos.getD i 0 : Int) + (cellWidth (cps.getD i 0) (pos.getD i 0) : Int) ≤ cend := by
  rw [offTable_spec _ pos ctx hctx cbeg cend hwin (C19d.model_disjoint orc o _ (C17b.not_mem_encStr_0 hv) pos h) k hk i]
  exact Lemmas.C17b.width_iff hv i _ (fun w => (pos.getD i 0 : Int) ≤ cbeg + k ∧ cbeg + k < (pos.getD i 0 : Int) + (w : Int) ∧
    cbeg ≤ (pos.getD i 0 : Int) ∧ (pos.getD i 0 : Int) + (w : Int) ≤ cend)

/-- an ASCII line has as many characters as bytes -/
theorem ucSlen_ascii (s : Bytes) (hs : ∀ b ∈ s, 0 < b ∧ b < 128) : ucSlen s = s.length := ucSlen_low s hs

/-- the characters of an ASCII line are its one-byte suffixes -/
theorem chrs_ascii (s : Bytes) (hs : ∀ b ∈ s, 0 < b ∧ b < 128) :
    chrs s = (List.range s.length).map (fun k => s.drop k) := chrs_low s hs

/-- the left-to-right table of a line of printable ASCII (and newlines) is the identity -/
theorem renPositionFast_ascii (s : Bytes) (hs : LineBytes s) : renPositionFast s = List.range (s.length + 1) :=
  fast_line s hs

/-- the context is left-to-right when `td` is `+2`, or `0` on a line that starts with an ASCII byte -/
theorem dirContext_nonneg (orc : Dir.Oracle) (xtd : Int) (s : Bytes)
    (h : xtd ≥ 2 ∨ (xtd = 0 ∧ Bytes.hd s < 128)) : Dir.dirContext orc xtd s ≥ 0 :=
  Lemmas.C19c.dirContext_nonneg orc xtd s h

/-- without tabs, expanding them changes nothing but the newline -/
theorem tabExpand_line (s : Bytes) (hs : LineBytes s) (col : Nat) : Lemmas.C19d.tabExpand s col = s.map disp := by
  induction s generalizing col with
  | nil => rfl
  | cons b r ih =>
    have h9 : b ≠ 9 := fun h => by
      have := hs b List.mem_cons_self
      rw [h] at this
      cases this
    rw [Lemmas.C19d.tabExpand, if_neg h9, ih (fun x hx => hs x (List.mem_cons_of_mem _ hx)), List.map_cons]

/-- a non-empty line of printable ASCII bytes and newlines, identity layout, left-to-right
    context: the row is the slice `[cbeg, cend)` of the line, newlines shown as blanks (shorter
    when the line ends inside the window, empty when it ends before `cbeg`).  This is
    `C19d.renderRow_tabs_window` on a line without tabs, where no trailing blank is left out: the last
    column of the slice is occupied, by the newline if by nothing else -/
theorem renderRow_line_window (orc : Dir.Oracle) (o : Opts) (shape : Bool) (s0 : Bytes)
    (hs : LineBytes s0) (hne : s0 ≠ []) (cbeg cend : Int) (h0 : 0 ≤ cbeg) (hwin : cbeg < cend)
    (hpos : renPosition orc o s0 = some (renPositionFast s0))
    (hctx : Dir.dirContext orc o.xtd s0 ≥ 0) :
    renderRow orc o shape s0 cbeg cend =
      some (((s0.map disp).drop cbeg.toNat).take (cend - cbeg).toNat) := by
  have ht : Lemmas.C19d.TabBytes s0 := fun b hb => by
    unfold Lemmas.C19d.tabByte
    rw [hs b hb, Bool.or_true]
  rw [(C19d.renderRow_tabs_window orc o shape s0 ht hne cbeg cend h0 hwin hpos hctx).1, tabExpand_line s0 hs 0]
  refine congrArg some (List.take_of_length_le ?_)
  rw [List.length_take, List.length_drop, List.length_map]
  generalize hm : min (cend - cbeg).toNat (s0.length - cbeg.toNat) = m
  cases m with
  | zero => exact Nat.zero_le _
  | succ m =>
    -- column `m` of the window holds character `cbeg + m`
    have hlow : ∀ b ∈ s0, 0 < b ∧ b < 128 := fun b hb => lineByte_lt (hs b hb)
    have hlen : (chrs s0).length = s0.length := chrs_low_length s0 hlow
    have hP : ∀ i, i ≤ s0.length → (renPositionFast s0).getD i 0 = i := by
      intro i hi
      rw [fast_line s0 hs, List.getD_eq_getElem?_getD, List.getElem?_range (by omega)]
      rfl
    have hcw : ∀ i, i < s0.length → ∀ col, renCwid ((chrs s0).getD i []) col = 1 := by
      intro i hi col
      rw [chrs_low_getD s0 hlow i hi]
      exact renCwid_line _ (by rw [hd_drop_getD]; exact hs _ (getD_mem hi)) col
    have hd := C19d.fast_disjoint s0
    have hi : cbeg.toNat + m < s0.length := by omega
    have hcol := (offTable_spec (chrs s0) (renPositionFast s0) _ hctx cbeg cend hwin hd m (by omega)
      (cbeg.toNat + m)).mpr (by
        rw [hlen, hcw _ hi, hP _ (by omega)]
        exact ⟨hi, by omega, by omega, by omega, by omega⟩)
    apply Nat.le_trans _ (Lemmas.C19d.occ_le_shown _ cbeg cend)
    apply Nat.lt_of_not_le
    intro hle
    rw [Lemmas.C19d.occ_none_after _ m hle] at hcol
    cases hcol

theorem map_disp_line (w : Bytes) (hw : 10 ∉ w) : (w ++ [10]).map disp = w ++ [32] := by
  rw [List.map_append]
  congr 1
  induction w with
  | nil => rfl
  | cons a r ih =>
    rw [List.map_cons, ih (fun h => hw (by simp [h]))]
    congr 1
    unfold disp
    rw [if_neg (fun h => hw (by simp [h]))]

/-- (T2) the row of the buffer line `w ++ "\n"`, `w` printable ASCII, in the window `[cbeg, cend)`
    with `0 ≤ cbeg < cend`, identity layout and left-to-right context: exactly the slice of the line
    that falls into the window, the newline showing as a blank.  When the window reaches beyond the
    newline the row is shorter than the window (nothing is emitted after the last occupied column),
    and when `cbeg` is beyond the newline it is empty; `List.drop`/`List.take` say the same. -/
theorem renderRow_ascii_window (orc : Dir.Oracle) (o : Opts) (shape : Bool) (w : Bytes)
    (hw : ∀ b ∈ w, 32 ≤ b ∧ b ≤ 126) (cbeg cend : Int) (h0 : 0 ≤ cbeg) (hwin : cbeg < cend)
    (hpos : renPosition orc o (w ++ [10]) = some (renPositionFast (w ++ [10])))
    (hctx : Dir.dirContext orc o.xtd (w ++ [10]) ≥ 0) :
    renderRow orc o shape (w ++ [10]) cbeg cend =
      some (((w ++ [32]).drop cbeg.toNat).take (cend - cbeg).toNat) := by
  rw [renderRow_line_window orc o shape (w ++ [10]) (lineBytes_of_printable w hw) (by simp) cbeg cend h0 hwin
    hpos hctx]
  rw [map_disp_line w (fun h => by have := hw 10 h; omega)]

/-- (T2, closed form) the same with the hypotheses on the layout and the context discharged from
    the options: `xorder` 0 or 1 (no reordering of a line without multi-byte characters) and
    `td` `+2`, or `0` — for any regular-expression oracle -/
theorem renderRow_ascii_window_opts (orc : Dir.Oracle) (o : Opts) (shape : Bool) (w : Bytes)
    (hw : ∀ b ∈ w, 32 ≤ b ∧ b ≤ 126) (cbeg cend : Int) (h0 : 0 ≤ cbeg) (hwin : cbeg < cend)
    (ho : o.xorder = 0 ∨ o.xorder = 1) (htd : o.xtd ≥ 2 ∨ o.xtd = 0) :
    renderRow orc o shape (w ++ [10]) cbeg cend =
      some (((w ++ [32]).drop cbeg.toNat).take (cend - cbeg).toNat) := by
  have hs := lineBytes_of_printable w hw
  have hlow : ∀ b ∈ w ++ [10], 0 < b ∧ b < 128 := fun b hb => lineByte_lt (hs b hb)
  apply renderRow_ascii_window orc o shape w hw cbeg cend h0 hwin (renPosition_low orc o _ hlow ho)
  exact dirContext_nonneg_low orc o.xtd _ hlow htd

/-- "hello\n" -/
def hello : Bytes := [104, 101, 108, 108, 111, 10]
def opts : Opts := { xorder := 1, xlim := 256, xtd := 2 }

/-- the hypotheses of T2 hold of a concrete line, with the editor's own oracle -/
example : renPosition Vi.dirOracle opts hello = some (renPositionFast hello) ∧
    Dir.dirContext Vi.dirOracle opts.xtd hello ≥ 0 ∧
    (∀ b ∈ [104, 101, 108, 108, 111], 32 ≤ b ∧ b ≤ 126) := by decide

/-- the evaluations below in one statement: the kernel keeps what it has evaluated while it checks one
    declaration -/
theorem hello_checks :
    (renderRow Vi.dirOracle opts true hello 1 4 = some [101, 108, 108] ∧
     renderRow Vi.dirOracle opts true hello 0 80 = some [104, 101, 108, 108, 111, 32] ∧
     renderRow Vi.dirOracle opts true hello 5 80 = some [32] ∧
     renderRow Vi.dirOracle opts true hello 6 80 = some [] ∧
     renderRow Vi.dirOracle opts true hello 20 80 = some []) ∧
    (offTable (chrs hello) (renPositionFast hello) 1 1 4 = [some 1, some 2, some 3] ∧
     offTable (chrs hello) (renPositionFast hello) (-1) 1 4 = [some 3, some 2, some 1] ∧
     offTable (chrs [97, 9, 98, 10]) (renPositionFast [97, 9, 98, 10]) 1 0 4 = [some 0, none, none, none]) ∧
    renderRow Vi.dirOracle opts true [10] 0 80 = some [32] ∧
    renderRow Vi.dirOracle opts true [] 0 80 = some [32] := by
  decide +kernel

/-- a window that cuts the line on both sides -/
example : renderRow Vi.dirOracle opts true hello 1 4 = some [101, 108, 108] := hello_checks.1.1
example : renderRow Vi.dirOracle opts true hello 1 4 = some [101, 108, 108] :=
  renderRow_ascii_window_opts Vi.dirOracle opts true [104, 101, 108, 108, 111] (by decide) 1 4 (by decide) (by decide)
    (Or.inr rfl) (Or.inl (by decide))

/-- the whole line: the newline shows as a blank, nothing is emitted after it -/
example : renderRow Vi.dirOracle opts true hello 0 80 = some [104, 101, 108, 108, 111, 32] := hello_checks.1.2.1
/-- the window starts at the newline -/
example : renderRow Vi.dirOracle opts true hello 5 80 = some [32] := hello_checks.1.2.2.1
/-- the window starts beyond the end of the line -/
example : renderRow Vi.dirOracle opts true hello 6 80 = some [] := hello_checks.1.2.2.2.1
example : renderRow Vi.dirOracle opts true hello 20 80 = some [] := hello_checks.1.2.2.2.2
example : renderRow Vi.dirOracle opts true hello 20 80 = some [] :=
  renderRow_ascii_window_opts Vi.dirOracle opts true [104, 101, 108, 108, 111] (by decide) 20 80 (by decide) (by decide)
    (Or.inr rfl) (Or.inl (by decide))
/-- the empty buffer line -/
example : renderRow Vi.dirOracle opts true [10] 0 80 = some [32] := hello_checks.2.2.1

/-- the window table of the cut window: characters 1, 2, 3 -/
example : offTable (chrs hello) (renPositionFast hello) 1 1 4 = [some 1, some 2, some 3] := hello_checks.2.1.1
/-- the same window in a right-to-left context is mirrored -/
example : offTable (chrs hello) (renPositionFast hello) (-1) 1 4 = [some 3, some 2, some 1] := hello_checks.2.1.2.1
/-- a tab whose cells straddle the window edge is not entered (all of its cells must be inside):
    "a\tb\n" in the window [0, 4) -/
example : offTable (chrs [97, 9, 98, 10]) (renPositionFast [97, 9, 98, 10]) 1 0 4 = [some 0, none, none, none] :=
  hello_checks.2.1.2.2

/-- the corner `renderRow_line_window` excludes: the empty string (not a buffer line) has no
    occupied column, `clast` is 0, and the window that starts at column 0 still emits one blank -/
example : renderRow Vi.dirOracle opts true [] 0 80 = some [32] := hello_checks.2.2.2

end Neatvi.Props.C19c
