import NeatviVerif.Lemmas.C19dCells
import NeatviVerif.Lemmas.C19dTabs
import NeatviVerif.Props.C17b
import NeatviVerif.Model.Vi
/-!
# C19d  What a screen row shows, in general: the emission loop of `led_render`

`Lemmas/C19cOff.lean` characterises the window table `off[]` of `led_render` (`Props/C19c.lean`
states it for each direction).  Here the emission loop (`renderRow.emit`) is specified for *every*
table, hence for lines with tabs, wide characters, placeholders and reordered text; the row of a
line of printable ASCII in `Props/C19c.lean` is a special case.

Definitions (in `Lemmas/C19dRuns.lean`, `Lemmas/C19dEmit.lean`, `Lemmas/C19dCells.lean`; `showsAt` here in §3;
`tabExpand`, `vis`, `cellByte` for §4 in `Lemmas/C19dTabs.lean`):

* `runs l` — the maximal runs of equal consecutive entries of `l`, as `(value, length)`;
  characterised by `runs_expand`, `runs_pos`, `runs_adjNe`, `runs_unique` below.
* `occ off` — one more than the last occupied column of the table (0 if none);
  `shown off cbeg cend` — the number of window columns the row covers: `occ off`, except that with
  no occupied column `led_render`'s `clast` is 0 and the columns `cbeg ≤ c < cend` with `c ≤ 0` are
  covered (one blank for a window that starts at column 0).
* `items off cbeg cend := runs (off.take (shown off cbeg cend))` — what is emitted, in order, each
  item with the number of columns it stands for.
* `charText shape chs codes i n` — the text of character `i` over `n` columns (`translate`, else
  itself if printable, else `n` blanks); `runText` — `n` blanks for `(none, n)`, `charText` for
  `(some i, n)`; `rowRef chs codes shape off cbeg cend` — the concatenation over `items`.
* `glyphCells chs pos its` — the columns the items take on a screen where character `i` takes
  `ren_cwid` columns and a blank one; `showsAt … k` — what is at window column `k` then.

Results:

* §1 the runs of a list.
* §2 (E1) `emit_eq_rowRef`: the loop emits `rowRef`, for every table with one entry per window
  column — contiguity of equal entries is *not* needed; `renderRow_eq_rowRef`: hence `renderRow` is
  `rowRef` of the window table, for every line, oracle, option and context direction.
  `offTable_interval`: the columns holding one character are one stretch of `ren_cwid` columns
  (either direction), so (`items_once`) every character is emitted at most once.
* §3 (E2) `items_width`, `glyphCells_items`, `showsAt_items`: in the emitted row every character
  stands for exactly its `ren_cwid` columns, so on the screen every window column shows what the
  table holds there.  `showsAt_spec_at`, `renderRow_cells_at` say it for a window column `k` and the
  visual column `v` that `led_pos` maps to it; `showsAt_spec`, `renderRow_cells` are the left-to-right
  readings (`v = cbeg + k`), the mirrored ones are in `Props/C19e.lean`: column `k` shows character
  `i` iff `cbeg + k` is a cell of `i` and all cells of `i` are inside the window.
* §4 (E3) `renderRow_tabs_window`, `renderRow_tabs_window_opts`: for a line of tabs, printable
  ASCII and newlines the row is the window's slice of the tab-expanded line (`tabExpand`, in
  `Lemmas/C19dTabs.lean`) with the trailing blanks after the last occupied column left out.
* §5 (E4) non-vacuity.

Nothing here is `_partial`.
-/
namespace Neatvi.Props.C19d
open Neatvi Neatvi.Uc Neatvi.Spec Neatvi.Ren Neatvi.Render Neatvi.Lemmas.C19d Neatvi.Lemmas.C19c

/-! ## 1. the maximal runs of a list -/

/-- writing every run out over its length gives the list back -/
theorem runs_expand {α : Type} [DecidableEq α] (l : List α) : expand (runs l) = l := Lemmas.C19d.runs_expand l

/-- no run is empty -/
theorem runs_pos {α : Type} [DecidableEq α] (l : List α) : ∀ p ∈ runs l, 1 ≤ p.2 := Lemmas.C19d.runs_pos l

/-- neighbouring runs have different values -/
theorem runs_adjNe {α : Type} [DecidableEq α] (l : List α) : AdjNe (runs l) := Lemmas.C19d.runs_adjNe l

/-- and these three properties determine `runs` -/
theorem runs_unique {α : Type} [DecidableEq α] (rs : List (α × Nat)) (hpos : ∀ p ∈ rs, 1 ≤ p.2) (hadj : AdjNe rs) :
    runs (expand rs) = rs := Lemmas.C19d.runs_unique rs hpos hadj

/-- a run is a maximal stretch of equal entries: it starts at some index `a`, the entry before it
    and the entry after it (if any) are different -/
theorem runs_mem_spec {α : Type} [DecidableEq α] (L : List α) (v : α) (n : Nat) (h : (v, n) ∈ runs L) :
    ∃ a, 1 ≤ n ∧ a + n ≤ L.length ∧ (∀ j, j < n → L[a + j]? = some v) ∧
      (∀ a', a' + 1 = a → L[a']? ≠ some v) ∧ L[a + n]? ≠ some v := Lemmas.C19d.runs_mem_spec L v n h

/-! ## 2. (E1) the emission loop -/

/-- `occ off` is one more than the last occupied column: it is within the table, nothing is occupied
    from it on, and the column before it is occupied -/
theorem occ_spec (off : List (Option Nat)) :
    occ off ≤ off.length ∧ (∀ k, occ off ≤ k → off.getD k none = none) ∧
    (0 < occ off → (off.getD (occ off - 1) none).isSome = true) :=
  ⟨occ_le off, occ_none_after off, occ_last_some off⟩

/-- `clast` of `led_render` is the last occupied column, 0 when there is none -/
theorem lastCol_spec (off : List (Option Nat)) (cbeg : Int) :
    lastCol off cbeg off.length = if occ off = 0 then 0 else cbeg + (occ off : Int) - 1 :=
  lastCol_eq off cbeg off.length

/-- the number of covered columns: up to the last occupied one; with no occupied column, the
    columns of the window that are `≤ 0` -/
theorem shown_spec (off : List (Option Nat)) (cbeg cend : Int) :
    shown off cbeg cend = if occ off = 0 then (min cend 1 - cbeg).toNat else occ off := rfl

/-- with a window that starts at a positive column, exactly the columns up to the last occupied one -/
theorem shown_pos (off : List (Option Nat)) (cbeg cend : Int) (h : 0 < cbeg) : shown off cbeg cend = occ off := by
  unfold shown; split <;> omega

/-- with a window that starts at column 0 and no occupied column: one column (one blank) -/
theorem shown_zero (off : List (Option Nat)) (cend : Int) (h : 0 < cend) (h0 : occ off = 0) : shown off 0 cend = 1 := by
  unfold shown; rw [if_pos h0]; omega

/-- (E1) the loop of `led_render`, started as `led_render` starts it (at `cbeg`, with `clast` the last
    occupied column) emits exactly the reference row — for every table `off` with one entry per
    window column, whatever it holds -/
theorem emit_eq_rowRef (shape : Bool) (cbeg cend : Int) (chs : List Bytes) (codes : List Nat)
    (off : List (Option Nat)) (hlen : off.length = (cend - cbeg).toNat) :
    renderRow.emit shape cbeg cend chs codes off (lastCol off cbeg (cend - cbeg).toNat)
        ((cend - cbeg).toNat + 2) cbeg [] =
      rowRef chs codes shape off cbeg cend := by
  have hcl0 := lastCol_eq off cbeg off.length
  rw [hlen] at hcl0
  have hocc : occN off (cend - cbeg).toNat = occ off := by rw [← hlen]; rfl
  rw [hocc] at hcl0
  have hle := occ_le off
  have hmain := emit_runs shape cbeg cend chs codes off (lastCol off cbeg (cend - cbeg).toNat) (shown off cbeg cend)
    ?_ ?_ ?_ ?_ ((cend - cbeg).toNat + 2) 0 [] ?_
  · rw [Int.natCast_zero, Int.add_zero, List.drop_zero, List.nil_append] at hmain
    exact hmain
  · unfold shown; split <;> omega
  · unfold shown; split <;> omega
  · intro k hk
    by_cases h0 : occ off = 0
    · exact occ_none_after off k (by omega)
    · unfold shown at hk
      rw [if_neg h0] at hk
      exact occ_none_after off k hk
  · intro k hk
    rw [hcl0]
    unfold shown
    by_cases h0 : occ off = 0
    · rw [if_pos h0, if_pos h0]; omega
    · rw [if_neg h0, if_neg h0]; omega
  · have : shown off cbeg cend ≤ off.length := by unfold shown; split <;> omega
    omega

/-- (E1 on `renderRow`) for every line, oracle, options, context direction and window: the row is
    the reference row of the window table (and `renderRow` traps exactly when `ren_position` does) -/
theorem renderRow_eq_rowRef (orc : Dir.Oracle) (o : Opts) (shape : Bool) (s0 : Bytes) (cbeg cend : Int) :
    renderRow orc o shape s0 cbeg cend =
      (renPosition orc o s0).map (fun pos =>
        rowRef (chrs s0) ((chrs s0).map (fun c => (ucCode c).getD 0)) shape
          (offTable (chrs s0) pos (Dir.dirContext orc o.xtd s0) cbeg cend) cbeg cend) := by
  rw [renderRow_eq]
  exact congrArg (Option.map · _) (funext fun _ =>
    emit_eq_rowRef _ _ _ _ _ _ (Lemmas.C19c.offTable_length _ _ _ _ _))

/-- the reference row written out: the texts of the runs of the covered part of the table -/
theorem rowRef_eq (chs : List Bytes) (codes : List Nat) (shape : Bool) (off : List (Option Nat)) (cbeg cend : Int) :
    rowRef chs codes shape off cbeg cend =
      (runs (off.take (shown off cbeg cend))).flatMap (fun r =>
        match r with
        | (none, n) => List.replicate n 32
        | (some i, n) =>
          match translate shape chs codes i with
          | some t => t
          | none =>
            if ucIsPrint (Bytes.hd (chs.getD i [])) then
              (chs.getD i []).take (max 1 (ucLen (Bytes.hd (chs.getD i []))))
            else List.replicate n 32) := by
  unfold rowRef rowText items
  congr 1

/-- the window columns that hold character `i` are one stretch of `ren_cwid` columns (they are the
    images under `led_pos` of its cells, in either direction), and `i` lies inside the window -/
theorem offTable_interval (chs : List Bytes) (pos : List Nat) (ctx cbeg cend : Int) (hd : Props.C19e.Disjoint chs pos)
    (a i : Nat) (ha : (offTable chs pos ctx cbeg cend).getD a none = some i) :
    i < chs.length ∧ cbeg ≤ (pos.getD i 0 : Int) ∧
      (pos.getD i 0 : Int) + (renCwid (chs.getD i []) (pos.getD i 0) : Int) ≤ cend ∧
      ∃ a0, ∀ k, (offTable chs pos ctx cbeg cend).getD k none = some i ↔
        a0 ≤ k ∧ k < a0 + renCwid (chs.getD i []) (pos.getD i 0) := by
  have haw : a < (cend - cbeg).toNat := by
    apply Nat.lt_of_not_le
    intro hle
    rw [Lemmas.C19c.offTable_outside _ _ _ _ _ _ hle] at ha
    cases ha
  have hwin : cbeg < cend := by omega
  by_cases hctx : ctx ≥ 0
  · obtain ⟨hi, _, _, hb, he⟩ := (offTable_spec_at chs pos ctx cbeg cend hd a haw _ (ledPos_ltr hctx cbeg cend a) i).mp ha
    refine ⟨hi, hb, he, ((pos.getD i 0 : Int) - cbeg).toNat, fun k => ?_⟩
    by_cases hk : k < (cend - cbeg).toNat
    · rw [offTable_spec_at chs pos ctx cbeg cend hd k hk _ (ledPos_ltr hctx cbeg cend k) i]
      exact ⟨fun h => by omega, fun h => ⟨hi, by omega, by omega, hb, he⟩⟩
    · rw [Lemmas.C19c.offTable_outside _ _ _ _ _ _ (by omega)]
      exact ⟨nofun, fun h => by omega⟩
  · obtain ⟨hi, _, _, hb, he⟩ := (offTable_spec_at chs pos ctx cbeg cend hd a haw _ (ledPos_rtl (by omega) cbeg cend a) i).mp ha
    refine ⟨hi, hb, he,
      (cend - (pos.getD i 0 : Int) - (renCwid (chs.getD i []) (pos.getD i 0) : Int)).toNat, fun k => ?_⟩
    by_cases hk : k < (cend - cbeg).toNat
    · rw [offTable_spec_at chs pos ctx cbeg cend hd k hk _ (ledPos_rtl (by omega) cbeg cend k) i]
      exact ⟨fun h => by omega, fun h => ⟨hi, by omega, by omega, hb, he⟩⟩
    · rw [Lemmas.C19c.offTable_outside _ _ _ _ _ _ (by omega)]
      exact ⟨nofun, fun h => by omega⟩

/-- so the columns that hold one character are contiguous, and each run of `some i` in the table is
    all of character `i` -/
theorem offTable_contiguous (chs : List Bytes) (pos : List Nat) (ctx : Int) (cbeg cend : Int)
    (hd : Props.C19e.Disjoint chs pos) (k1 k k2 i : Nat) (h1 : k1 ≤ k) (h2 : k ≤ k2)
    (e1 : (offTable chs pos ctx cbeg cend).getD k1 none = some i)
    (e2 : (offTable chs pos ctx cbeg cend).getD k2 none = some i) :
    (offTable chs pos ctx cbeg cend).getD k none = some i := by
  obtain ⟨_, _, _, a0, h⟩ := offTable_interval chs pos ctx cbeg cend hd k1 i e1
  rw [h] at e1 e2 ⊢
  omega

/-- for any table: a value whose columns are contiguous is emitted at most once -/
theorem items_once_of_contiguous (off : List (Option Nat)) (cbeg cend : Int) (i : Nat)
    (hc : ∀ k1 k k2, k1 ≤ k → k ≤ k2 → off.getD k1 none = some i → off.getD k2 none = some i →
      off.getD k none = some i) :
    ((items off cbeg cend).filter (fun p => decide (p.1 = some i))).length ≤ 1 := by
  apply runs_count_le_one
  intro k1 k k2 h1 h2 e1 e2
  rw [getD_eq_some_iff, take_shown_getD] at e1 e2 ⊢
  exact hc k1 k k2 h1 h2 e1 e2

/-- hence every character is emitted at most once: among the emitted items at most one is
    character `i` — for disjoint cells, in either direction -/
theorem items_once (chs : List Bytes) (pos : List Nat) (ctx : Int) (cbeg cend : Int)
    (hd : ∀ i j, i < chs.length → j < chs.length → i ≠ j →
      pos.getD i 0 + renCwid (chs.getD i []) (pos.getD i 0) ≤ pos.getD j 0 ∨
      pos.getD j 0 + renCwid (chs.getD j []) (pos.getD j 0) ≤ pos.getD i 0) (i : Nat) :
    ((items (offTable chs pos ctx cbeg cend) cbeg cend).filter (fun p => decide (p.1 = some i))).length ≤ 1 :=
  items_once_of_contiguous _ cbeg cend i (offTable_contiguous chs pos ctx cbeg cend hd · · · i)

/-! ## 3. (E2) the cells of the emitted row -/

/-- what is at window column `k` of the screen after the items `its` are written from the left edge
    of the window, character `i` taking `ren_cwid` columns and a blank one column -/
def showsAt (chs : List Bytes) (pos : List Nat) (its : List (Option Nat × Nat)) (k : Nat) : Option Nat :=
  (glyphCells chs pos its).getD k none

/-- written out over the numbers of columns they stand for, the items are the covered part of the table -/
theorem expand_items (off : List (Option Nat)) (cbeg cend : Int) :
    expand (items off cbeg cend) = off.take (shown off cbeg cend) := Lemmas.C19d.runs_expand _

/-- disjoint cells, either direction: an emitted character is a character of the line whose cells
    are all inside the window, and the number of columns it stands for in the row is its own width
    `ren_cwid` -/
theorem items_width (chs : List Bytes) (pos : List Nat) (ctx cbeg cend : Int) (hd : Props.C19e.Disjoint chs pos)
    (i n : Nat) (h : (some i, n) ∈ items (offTable chs pos ctx cbeg cend) cbeg cend) :
    n = renCwid (chs.getD i []) (pos.getD i 0) ∧ i < chs.length ∧ cbeg ≤ (pos.getD i 0 : Int) ∧
      (pos.getD i 0 : Int) + (renCwid (chs.getD i []) (pos.getD i 0) : Int) ≤ cend := by
  unfold items at h
  obtain ⟨a, hn, _, h1, _, _⟩ := Lemmas.C19d.runs_mem_spec _ _ _ h
  have ha := h1 0 hn
  rw [Nat.add_zero, getD_eq_some_iff, take_shown_getD] at ha
  obtain ⟨hi, hb, he, a0, hint⟩ := offTable_interval chs pos ctx cbeg cend hd a i ha
  refine ⟨run_len_of_interval _ (some i) a0 _ (fun k => ?_) n h, hi, hb, he⟩
  rw [getD_eq_some_iff, take_shown_getD]
  exact hint k

theorem items_width_rtl (chs : List Bytes) (pos : List Nat) (ctx : Int) (_hctx : ctx < 0) (cbeg cend : Int)
    (_hwin : cbeg < cend)
    (hd : ∀ i j, i < chs.length → j < chs.length → i ≠ j →
      pos.getD i 0 + renCwid (chs.getD i []) (pos.getD i 0) ≤ pos.getD j 0 ∨
      pos.getD j 0 + renCwid (chs.getD j []) (pos.getD j 0) ≤ pos.getD i 0)
    (i n : Nat) (h : (some i, n) ∈ items (offTable chs pos ctx cbeg cend) cbeg cend) :
    n = renCwid (chs.getD i []) (pos.getD i 0) ∧ i < chs.length ∧ cbeg ≤ (pos.getD i 0 : Int) ∧
      (pos.getD i 0 : Int) + (renCwid (chs.getD i []) (pos.getD i 0) : Int) ≤ cend :=
  items_width chs pos ctx cbeg cend hd i n h

/-- hence, on the screen, the emitted items take exactly the covered columns of the table, each
    character over the columns the table gives it -/
theorem glyphCells_items (chs : List Bytes) (pos : List Nat) (ctx cbeg cend : Int) (hd : Props.C19e.Disjoint chs pos) :
    glyphCells chs pos (items (offTable chs pos ctx cbeg cend) cbeg cend) =
      (offTable chs pos ctx cbeg cend).take (shown (offTable chs pos ctx cbeg cend) cbeg cend) := by
  rw [glyphCells_eq_expand chs pos _ (fun i n h => (items_width chs pos ctx cbeg cend hd i n h).1),
    expand_items]

/-- and every window column shows what the table holds there -/
theorem showsAt_items (chs : List Bytes) (pos : List Nat) (ctx cbeg cend : Int) (hd : Props.C19e.Disjoint chs pos) (k : Nat) :
    showsAt chs pos (items (offTable chs pos ctx cbeg cend) cbeg cend) k =
      (offTable chs pos ctx cbeg cend).getD k none := by
  unfold showsAt
  rw [glyphCells_items chs pos ctx cbeg cend hd, take_shown_getD]

/-- (E2, column by column, either direction) window column `k` is the image under `led_pos` of one
    visual column `v`; after the row is written it shows character `i` iff `v` is a cell of `i` and
    every cell of `i` lies in `[cbeg, cend)`.  No bound on `k`: beyond the window both sides are false. -/
theorem showsAt_spec_at (chs : List Bytes) (pos : List Nat) (ctx cbeg cend : Int) (hd : Props.C19e.Disjoint chs pos)
    (k : Nat) (v : Int) (hv : ledPos ctx v cbeg cend = k) (i : Nat) :
    showsAt chs pos (items (offTable chs pos ctx cbeg cend) cbeg cend) k = some i ↔
      i < chs.length ∧
      (pos.getD i 0 : Int) ≤ v ∧
      v < (pos.getD i 0 : Int) + (renCwid (chs.getD i []) (pos.getD i 0) : Int) ∧
      cbeg ≤ (pos.getD i 0 : Int) ∧
      (pos.getD i 0 : Int) + (renCwid (chs.getD i []) (pos.getD i 0) : Int) ≤ cend := by
  rw [showsAt_items chs pos ctx cbeg cend hd]
  by_cases hk : k < (cend - cbeg).toNat
  · exact offTable_spec_at chs pos ctx cbeg cend hd k hk v hv i
  · rw [Lemmas.C19c.offTable_outside _ _ _ _ _ _ (by omega)]
    refine ⟨nofun, fun h => ?_⟩
    unfold ledPos at hv
    split at hv <;> omega

/-- (E2, column by column) left-to-right context, disjoint cells: after the row is written, window
    column `k` shows character `i` iff `cbeg + k` is a cell of `i` and every cell of `i` lies in
    `[cbeg, cend)`; every other column shows a blank or is not written -/
theorem showsAt_spec (chs : List Bytes) (pos : List Nat) (ctx : Int) (hctx : ctx ≥ 0) (cbeg cend : Int)
    (hwin : cbeg < cend)
    (hd : ∀ i j, i < chs.length → j < chs.length → i ≠ j →
      pos.getD i 0 + renCwid (chs.getD i []) (pos.getD i 0) ≤ pos.getD j 0 ∨
      pos.getD j 0 + renCwid (chs.getD j []) (pos.getD j 0) ≤ pos.getD i 0)
    (k i : Nat) :
    showsAt chs pos (items (offTable chs pos ctx cbeg cend) cbeg cend) k = some i ↔
      i < chs.length ∧
      (pos.getD i 0 : Int) ≤ cbeg + k ∧
      cbeg + k < (pos.getD i 0 : Int) + (renCwid (chs.getD i []) (pos.getD i 0) : Int) ∧
      cbeg ≤ (pos.getD i 0 : Int) ∧
      (pos.getD i 0 : Int) + (renCwid (chs.getD i []) (pos.getD i 0) : Int) ≤ cend :=
  showsAt_spec_at chs pos ctx cbeg cend hd k _ (ledPos_ltr hctx cbeg cend k) i

/-- the tables of `ren_position` — reordered or not, valid UTF-8 or not — have disjoint cells -/
theorem model_disjoint (orc : Dir.Oracle) (o : Opts) (s : Bytes) (hz : 0 ∉ s)
    (pos : List Nat) (h : renPosition orc o s = some pos) : Props.C19e.Disjoint (chrs s) pos :=
  (C17b.renPosition_tiledW orc o s hz pos h).disjoint

theorem fast_disjoint (s : Bytes) : Props.C19e.Disjoint (chrs s) (renPositionFast s) :=
  (Lemmas.C17b.fast_tiledW (chrs s)).disjoint

/-- (E2, either direction) the row of a valid UTF-8 line, for any table `ren_position` returns
    (reordered or not): the row is the reference row of the window table; its items take on the
    screen exactly the covered columns of the table; and window column `k`, the image under `led_pos`
    of the visual column `v`, shows character `i` iff `v` is one of the cells of `i` (reference widths
    `cellWidth`) and all cells of `i` are inside the window -/
theorem renderRow_cells_at (orc : Dir.Oracle) (o : Opts) (shape : Bool) (cps : List Nat) (hv : ∀ c ∈ cps, ValidCp c)
    (pos : List Nat) (hpos : renPosition orc o (encStr cps) = some pos) (cbeg cend : Int) :
    let chs := chrs (encStr cps)
    let off := offTable chs pos (Dir.dirContext orc o.xtd (encStr cps)) cbeg cend
    renderRow orc o shape (encStr cps) cbeg cend =
        some (rowRef chs (chs.map (fun c => (ucCode c).getD 0)) shape off cbeg cend) ∧
    glyphCells chs pos (items off cbeg cend) = off.take (shown off cbeg cend) ∧
    ∀ (k : Nat) (v : Int), ledPos (Dir.dirContext orc o.xtd (encStr cps)) v cbeg cend = k → ∀ i,
      showsAt chs pos (items off cbeg cend) k = some i ↔
        i < cps.length ∧
        (pos.getD i 0 : Int) ≤ v ∧
        v < (pos.getD i 0 : Int) + (cellWidth (cps.getD i 0) (pos.getD i 0) : Int) ∧
        cbeg ≤ (pos.getD i 0 : Int) ∧
        (pos.getD i 0 : Int) + (cellWidth (cps.getD i 0) (pos.getD i 0) : Int) ≤ cend := by
  intro chs off
  have hd := model_disjoint orc o _ (C17b.not_mem_encStr_0 hv) pos hpos
  refine ⟨?_, glyphCells_items chs pos _ cbeg cend hd, fun k v hk i => ?_⟩
  · rw [renderRow_eq_rowRef, hpos]; rfl
  · rw [showsAt_spec_at chs pos _ cbeg cend hd k v hk i]
    exact Lemmas.C17b.width_iff hv i _ (fun w => (pos.getD i 0 : Int) ≤ v ∧
      v < (pos.getD i 0 : Int) + (w : Int) ∧ cbeg ≤ (pos.getD i 0 : Int) ∧ (pos.getD i 0 : Int) + (w : Int) ≤ cend)

/-- (E2) the row of a valid UTF-8 line in a left-to-right context, for any table `ren_position`
    returns (reordered or not): the row is the reference row of the window table; its items take on
    the screen exactly the covered columns of the table; and, column by column, window column `k`
    shows character `i` iff column `cbeg + k` is one of the cells of `i` (reference widths
    `cellWidth`) and all cells of `i` are inside the window -/
theorem renderRow_cells (orc : Dir.Oracle) (o : Opts) (shape : Bool) (cps : List Nat) (hv : ∀ c ∈ cps, ValidCp c)
    (pos : List Nat) (hpos : renPosition orc o (encStr cps) = some pos)
    (hctx : Dir.dirContext orc o.xtd (encStr cps) ≥ 0) (cbeg cend : Int) (hwin : cbeg < cend) :
    let chs := chrs (encStr cps)
    let off := offTable chs pos (Dir.dirContext orc o.xtd (encStr cps)) cbeg cend
    renderRow orc o shape (encStr cps) cbeg cend =
        some (rowRef chs (chs.map (fun c => (ucCode c).getD 0)) shape off cbeg cend) ∧
    glyphCells chs pos (items off cbeg cend) = off.take (shown off cbeg cend) ∧
    ∀ k i, showsAt chs pos (items off cbeg cend) k = some i ↔
      i < cps.length ∧
      (pos.getD i 0 : Int) ≤ cbeg + k ∧
      cbeg + k < (pos.getD i 0 : Int) + (cellWidth (cps.getD i 0) (pos.getD i 0) : Int) ∧
      cbeg ≤ (pos.getD i 0 : Int) ∧
      (pos.getD i 0 : Int) + (cellWidth (cps.getD i 0) (pos.getD i 0) : Int) ≤ cend := by
  intro chs off
  obtain ⟨h1, h2, h3⟩ := renderRow_cells_at orc o shape cps hv pos hpos cbeg cend
  exact ⟨h1, h2, fun k i => h3 k _ (ledPos_ltr hctx cbeg cend k) i⟩

/-! ## 4. (E3) lines of printable ASCII, tabs and newlines -/

/-- (E3) a non-empty line of tabs, printable ASCII bytes and newlines, left-to-right layout and
    context, window `[cbeg, cend)` with `0 ≤ cbeg < cend`.  Let `slice` be the window's slice of the
    tab-expanded line (`tabExpand`: every tab written out as blanks up to the next multiple of 8,
    the newline as a blank).  The row is `slice` cut after the covered columns (`shown`: up to the
    last occupied column), and what is cut off is blank — so the row is the slice up to trailing
    blanks.  In particular a tab cut by the left edge of the window shows as blanks, and a tab cut
    by the right edge (after which there is nothing in the window) is not emitted at all. -/
theorem renderRow_tabs_window (orc : Dir.Oracle) (o : Opts) (shape : Bool) (s0 : Bytes)
    (hs : TabBytes s0) (hne : s0 ≠ []) (cbeg cend : Int) (h0 : 0 ≤ cbeg) (hwin : cbeg < cend)
    (hpos : renPosition orc o s0 = some (renPositionFast s0))
    (hctx : Dir.dirContext orc o.xtd s0 ≥ 0) :
    let slice := ((tabExpand s0 0).drop cbeg.toNat).take (cend - cbeg).toNat
    let off := offTable (chrs s0) (renPositionFast s0) (Dir.dirContext orc o.xtd s0) cbeg cend
    renderRow orc o shape s0 cbeg cend = some (slice.take (shown off cbeg cend)) ∧
    ∀ b ∈ slice.drop (shown off cbeg cend), b = 32 := by
  intro slice off
  have hsl : slice = ((tabExpand s0 0).drop cbeg.toNat).take (cend - cbeg).toNat := rfl
  have hoffdef : off = offTable (chrs s0) (renPositionFast s0) (Dir.dirContext orc o.xtd s0) cbeg cend := rfl
  clear_value slice off
  have hlow : ∀ b ∈ s0, 0 < b ∧ b < 128 := fun b hb => tabByte_lt (hs b hb)
  have hlen : (chrs s0).length = s0.length := chrs_low_length s0 hlow
  have hL : 0 < s0.length := List.length_pos_iff.mpr hne
  obtain ⟨hA, hB, hC⟩ := tab_layout s0 hs 0
  have hP : ∀ i, i < s0.length → (renPositionFast s0).getD i 0 = P s0 0 i := fast_getD s0 hs
  have hW : ∀ i, i < s0.length →
      renCwid ((chrs s0).getD i []) ((renPositionFast s0).getD i 0) = W s0 0 i := by
    intro i hi; rw [hP i hi]; rfl
  have hd := fast_disjoint s0
  obtain ⟨c, rfl⟩ : ∃ c : Nat, cbeg = (c : Int) := ⟨cbeg.toNat, by omega⟩
  have hc : (c : Int).toNat = c := Int.toNat_natCast c
  have hspec : ∀ k, k < (cend - (c : Int)).toNat → ∀ i, off.getD k none = some i ↔
      i < s0.length ∧ P s0 0 i ≤ c + k ∧ c + k < P s0 0 i + W s0 0 i ∧ c ≤ P s0 0 i ∧
        ((P s0 0 i + W s0 0 i : Nat) : Int) ≤ cend := by
    intro k hk i
    rw [hoffdef, offTable_spec_at (chrs s0) (renPositionFast s0) _ c cend hd k hk _ (ledPos_ltr hctx c cend k) i, hlen]
    constructor
    · rintro ⟨a, r⟩
      rw [hW i a, hP i a] at r
      exact ⟨a, by omega, by omega, by omega, by omega⟩
    · rintro ⟨a, r⟩
      rw [hW i a, hP i a]
      exact ⟨a, by omega, by omega, by omega, by omega⟩
  have hofflen : off.length = (cend - (c : Int)).toNat := by rw [hoffdef]; exact Lemmas.C19c.offTable_length _ _ _ _ _
  have hitems : ∀ i n, (some i, n) ∈ items off c cend → n = W s0 0 i ∧ i < s0.length := by
    intro i n h
    rw [hoffdef] at h
    obtain ⟨a, b, _, _⟩ := items_width (chrs s0) (renPositionFast s0) _ c cend hd i n h
    rw [hlen] at b
    rw [hW i b] at a
    exact ⟨a, b⟩
  generalize hw : (cend - (c : Int)).toNat = w at hspec hofflen hsl
  generalize hE : (tabExpand s0 0).length = E at hA hC
  -- every cell of the slice shows what the table says
  have hcell : ∀ k, k < w → c + k < E →
      (tabExpand s0 0)[c + k]? = some (cellByte s0 (off.getD k none)) := by
    intro k hk hkE
    obtain ⟨i, hi, c1, c2, c3⟩ := hC (c + k) (Nat.zero_le _) (by omega)
    rw [Nat.sub_zero] at c3
    rw [c3]
    congr 1
    cases hg : off.getD k none with
    | some j =>
      obtain ⟨hj, d1, d2, _, _⟩ := (hspec k hk j).mp hg
      have : i = j := by
        apply Nat.le_antisymm
        · apply Nat.le_of_not_lt
          intro h
          have := hB j i h hi
          omega
        · apply Nat.le_of_not_lt
          intro h
          have := hB i j h hj
          omega
      subst this
      rfl
    | none =>
      show vis (s0.getD i 0) = 32
      by_cases h9 : s0.getD i 0 = 9
      · rw [h9]; rfl
      · exfalso
        have h1 := (hA i hi).2.2.2 h9
        have := (hspec k hk i).mpr ⟨hi, by omega, by omega, by omega, by omega⟩
        rw [hg] at this
        cases this
  -- the covered columns are inside the slice
  have hsh_w : shown off c cend ≤ w := by rw [← hofflen]; exact shown_le off c cend (by omega)
  have hsh_E : shown off c cend ≤ E - c := by
    by_cases hocc : occ off = 0
    · have h00 := (hA 0 hL)
      unfold shown
      rw [if_pos hocc]
      omega
    · have hsome := occ_last_some off (by omega)
      have hle := occ_le off
      cases hg : off.getD (occ off - 1) none with
      | none => rw [hg] at hsome; cases hsome
      | some j =>
        obtain ⟨hj, _, d2, _, _⟩ := (hspec (occ off - 1) (by omega) j).mp hg
        have := (hA j hj).2.1
        unfold shown
        rw [if_neg hocc]
        omega
  -- the slice, as cells
  have hslice : slice = (off.take (min w (E - c))).map (cellByte s0) := by
    apply List.ext_getElem?
    intro k
    rw [hsl, hc, List.getElem?_take, List.getElem?_drop, List.getElem?_map, List.getElem?_take]
    by_cases hk : k < w
    · rw [if_pos hk]
      by_cases hkE : c + k < E
      · rw [if_pos (by omega), hcell k hk hkE, List.getD_eq_getElem?_getD,
          List.getElem?_eq_getElem (by omega)]
        rfl
      · rw [if_neg (by omega), List.getElem?_eq_none (by omega)]
        rfl
    · rw [if_neg hk, if_neg (by omega)]
      rfl
  -- the row, as cells
  have hrow : rowRef (chrs s0) ((chrs s0).map (fun c => (ucCode c).getD 0)) shape off c cend =
      (off.take (shown off c cend)).map (cellByte s0) := by
    unfold rowRef
    rw [rowText_cells shape _ _ s0 (items off c cend) ?_, expand_items]
    intro i n h
    obtain ⟨a, b⟩ := hitems i n h
    apply charText_tab shape s0 hs i n b
    intro h9
    rw [a]
    exact (hA i b).2.2.2 h9
  constructor
  · rw [renderRow_eq_rowRef, hpos]
    simp only [Option.map_some]
    rw [← hoffdef, hrow, hslice, ← List.map_take, List.take_take, Nat.min_eq_left (by omega)]
  · intro b hb
    rw [hslice, ← List.map_drop] at hb
    obtain ⟨x, hx, rfl⟩ := List.mem_map.mp hb
    obtain ⟨idx, hidx⟩ := List.getElem?_of_mem hx
    rw [List.getElem?_drop, List.getElem?_take] at hidx
    have hxn : x = none := by
      have hno := occ_none_after off (shown off c cend + idx) (by have := occ_le_shown off c cend; omega)
      rw [List.getD_eq_getElem?_getD] at hno
      split at hidx
      · rw [hidx] at hno; exact hno
      · cases hidx
    rw [hxn]; rfl

/-- (E3, closed form) the buffer line `w ++ "\n"`, `w` tabs and printable ASCII, `xorder` 0 or 1,
    `td` `+2` or `0`, any oracle: the row is the window's slice of the tab-expanded line with some
    trailing blanks left out -/
theorem renderRow_tabs_window_opts (orc : Dir.Oracle) (o : Opts) (shape : Bool) (w : Bytes)
    (hw : ∀ b ∈ w, b = 9 ∨ (32 ≤ b ∧ b ≤ 126)) (cbeg cend : Int) (h0 : 0 ≤ cbeg) (hwin : cbeg < cend)
    (ho : o.xorder = 0 ∨ o.xorder = 1) (htd : o.xtd ≥ 2 ∨ o.xtd = 0) :
    ∃ m row, renderRow orc o shape (w ++ [10]) cbeg cend = some row ∧
      row = (((tabExpand (w ++ [10]) 0).drop cbeg.toNat).take (cend - cbeg).toNat).take m ∧
      ∀ b ∈ (((tabExpand (w ++ [10]) 0).drop cbeg.toNat).take (cend - cbeg).toNat).drop m, b = 32 := by
  have hs : TabBytes (w ++ [10]) := by
    intro b hb
    rcases List.mem_append.mp hb with h | h
    · unfold tabByte lineByte
      have := hw b h
      simp only [Bool.or_eq_true, Bool.and_eq_true, beq_iff_eq, decide_eq_true_eq]
      omega
    · simp only [List.mem_singleton] at h
      subst h; rfl
  have hlow : ∀ b ∈ w ++ [10], 0 < b ∧ b < 128 := fun b hb => tabByte_lt (hs b hb)
  obtain ⟨h1, h2⟩ := renderRow_tabs_window orc o shape (w ++ [10]) hs (by simp) cbeg cend h0 hwin
    (renPosition_low orc o _ hlow ho) (dirContext_nonneg_low orc o.xtd _ hlow htd)
  exact ⟨_, _, h1, rfl, h2⟩

/-! ## 5. (E4) non-vacuity -/

/-- "a", a tab, U+4E2D (two cells), "b", newline -/
def cps : List Nat := [97, 9, 0x4E2D, 98, 10]
def ln : Bytes := [97, 9, 0xe4, 0xb8, 0xad, 98, 10]
/-- no reordering (`xorder` 0): the kernel can evaluate `ren_position` with the editor's oracle -/
def opts0 : Opts := { xorder := 0, xlim := 256, xtd := 2 }
/-- the usual options, with an oracle that never matches (the reordering path is taken, and the
    kernel can evaluate it; `#eval` gives the same table with `Vi.dirOracle`) -/
def opts : Opts := { xorder := 1, xlim := 256, xtd := 2 }
def noOrc : Dir.Oracle := fun _ _ _ => none

/-- the evaluations on `ln` below, window by window, in one statement: the kernel keeps what it has evaluated
    while it checks one declaration, so the width tables are walked for U+4E2D once for all of them -/
theorem ln_checks :
    (renPosition Vi.dirOracle opts0 (encStr cps) = some [0, 1, 8, 10, 11, 12] ∧
       Dir.dirContext Vi.dirOracle opts0.xtd (encStr cps) ≥ 0) ∧
    (renPosition noOrc opts (encStr cps) = some [0, 1, 8, 10, 11, 12] ∧
       Dir.dirContext noOrc opts.xtd (encStr cps) ≥ 0) ∧
    (renderRow Vi.dirOracle opts0 true ln 0 14 =
       some [97, 32, 32, 32, 32, 32, 32, 32, 0xe4, 0xb8, 0xad, 98, 32] ∧
     renderRow noOrc opts true ln 0 14 =
       some [97, 32, 32, 32, 32, 32, 32, 32, 0xe4, 0xb8, 0xad, 98, 32] ∧
     items (offTable (chrs ln) [0, 1, 8, 10, 11, 12] 1 0 14) 0 14 =
       [(some 0, 1), (some 1, 7), (some 2, 2), (some 3, 1), (some 4, 1)] ∧
     (List.range 14).map (showsAt (chrs ln) [0, 1, 8, 10, 11, 12]
       (items (offTable (chrs ln) [0, 1, 8, 10, 11, 12] 1 0 14) 0 14)) =
       [some 0, some 1, some 1, some 1, some 1, some 1, some 1, some 1, some 2, some 2, some 3, some 4, none, none]) ∧
    (offTable (chrs ln) [0, 1, 8, 10, 11, 12] 1 0 4 = [some 0, none, none, none] ∧
     renderRow Vi.dirOracle opts0 true ln 0 4 = some [97]) ∧
    (offTable (chrs ln) [0, 1, 8, 10, 11, 12] 1 2 14 =
       [none, none, none, none, none, none, some 2, some 2, some 3, some 4, none, none] ∧
     renderRow Vi.dirOracle opts0 true ln 2 14 =
       some [32, 32, 32, 32, 32, 32, 0xe4, 0xb8, 0xad, 98, 32] ∧
     items (offTable (chrs ln) [0, 1, 8, 10, 11, 12] 1 2 14) 2 14 =
       [(none, 6), (some 2, 2), (some 3, 1), (some 4, 1)]) ∧
    (renderRow Vi.dirOracle opts0 true ln 0 9 = some [97, 32, 32, 32, 32, 32, 32, 32] ∧
     items (offTable (chrs ln) [0, 1, 8, 10, 11, 12] 1 0 9) 0 9 = [(some 0, 1), (some 1, 7)]) ∧
    (renderRow Vi.dirOracle opts0 true ln 9 14 = some [32, 98, 32] ∧
     items (offTable (chrs ln) [0, 1, 8, 10, 11, 12] 1 9 14) 9 14 = [(none, 1), (some 3, 1), (some 4, 1)]) ∧
    renderRow Vi.dirOracle opts0 true ln 7 10 = some [32, 0xe4, 0xb8, 0xad] ∧
    renderRow Vi.dirOracle opts0 true ln 2 9 = some [] ∧
    items (offTable (chrs ln) [0, 1, 8, 10, 11, 12] (-1) 2 14) 2 14 =
      [(none, 2), (some 4, 1), (some 3, 1), (some 2, 2)] := by
  decide +kernel

/-- the hypotheses of `renderRow_cells` hold of this line; the tab takes columns 1–7, U+4E2D 8–9 -/
example : encStr cps = ln ∧ (∀ c ∈ cps, ValidCp c) := by decide
example : renPosition Vi.dirOracle opts0 (encStr cps) = some [0, 1, 8, 10, 11, 12] ∧
    Dir.dirContext Vi.dirOracle opts0.xtd (encStr cps) ≥ 0 :=
  ln_checks.1
example : renPosition noOrc opts (encStr cps) = some [0, 1, 8, 10, 11, 12] ∧
    Dir.dirContext noOrc opts.xtd (encStr cps) ≥ 0 :=
  ln_checks.2.1

/-- the whole line: the tab is seven blanks, the newline one -/
example : renderRow Vi.dirOracle opts0 true ln 0 14 =
    some [97, 32, 32, 32, 32, 32, 32, 32, 0xe4, 0xb8, 0xad, 98, 32] :=
  ln_checks.2.2.1.1
example : renderRow noOrc opts true ln 0 14 =
    some [97, 32, 32, 32, 32, 32, 32, 32, 0xe4, 0xb8, 0xad, 98, 32] :=
  ln_checks.2.2.1.2.1
example : items (offTable (chrs ln) [0, 1, 8, 10, 11, 12] 1 0 14) 0 14 =
    [(some 0, 1), (some 1, 7), (some 2, 2), (some 3, 1), (some 4, 1)] :=
  ln_checks.2.2.1.2.2.1
example : (List.range 14).map (showsAt (chrs ln) [0, 1, 8, 10, 11, 12]
      (items (offTable (chrs ln) [0, 1, 8, 10, 11, 12] 1 0 14) 0 14)) =
    [some 0, some 1, some 1, some 1, some 1, some 1, some 1, some 1, some 2, some 2, some 3, some 4, none, none] :=
  ln_checks.2.2.1.2.2.2
/-- through the theorem -/
example : renderRow Vi.dirOracle opts0 true (encStr cps) 0 14 =
    some (rowRef (chrs (encStr cps)) ((chrs (encStr cps)).map (fun c => (ucCode c).getD 0)) true
      (offTable (chrs (encStr cps)) [0, 1, 8, 10, 11, 12] (Dir.dirContext Vi.dirOracle opts0.xtd (encStr cps)) 0 14) 0 14) :=
  (renderRow_cells Vi.dirOracle opts0 true cps (by decide) [0, 1, 8, 10, 11, 12] ln_checks.1.1
    (by decide) 0 14 (by decide)).1

/-- the window `[0, 4)` cuts the tab on the right: the tab is not entered, nothing follows "a" -/
example : offTable (chrs ln) [0, 1, 8, 10, 11, 12] 1 0 4 = [some 0, none, none, none] := ln_checks.2.2.2.1.1
example : renderRow Vi.dirOracle opts0 true ln 0 4 = some [97] := ln_checks.2.2.2.1.2
/-- the window `[2, 14)` cuts the tab on the left: its six columns inside the window are blanks -/
example : offTable (chrs ln) [0, 1, 8, 10, 11, 12] 1 2 14 =
    [none, none, none, none, none, none, some 2, some 2, some 3, some 4, none, none] :=
  ln_checks.2.2.2.2.1.1
example : renderRow Vi.dirOracle opts0 true ln 2 14 =
    some [32, 32, 32, 32, 32, 32, 0xe4, 0xb8, 0xad, 98, 32] :=
  ln_checks.2.2.2.2.1.2.1
example : items (offTable (chrs ln) [0, 1, 8, 10, 11, 12] 1 2 14) 2 14 =
    [(none, 6), (some 2, 2), (some 3, 1), (some 4, 1)] :=
  ln_checks.2.2.2.2.1.2.2
/-- the window `[0, 9)` cuts U+4E2D on the right: it is not shown -/
example : renderRow Vi.dirOracle opts0 true ln 0 9 = some [97, 32, 32, 32, 32, 32, 32, 32] := ln_checks.2.2.2.2.2.1.1
example : items (offTable (chrs ln) [0, 1, 8, 10, 11, 12] 1 0 9) 0 9 = [(some 0, 1), (some 1, 7)] :=
  ln_checks.2.2.2.2.2.1.2
/-- the window `[9, 14)` cuts U+4E2D on the left: its column inside the window is a blank -/
example : renderRow Vi.dirOracle opts0 true ln 9 14 = some [32, 98, 32] := ln_checks.2.2.2.2.2.2.1.1
example : items (offTable (chrs ln) [0, 1, 8, 10, 11, 12] 1 9 14) 9 14 = [(none, 1), (some 3, 1), (some 4, 1)] :=
  ln_checks.2.2.2.2.2.2.1.2
/-- the window `[7, 10)`: the last column of the tab (cut, a blank) and U+4E2D -/
example : renderRow Vi.dirOracle opts0 true ln 7 10 = some [32, 0xe4, 0xb8, 0xad] := ln_checks.2.2.2.2.2.2.2.1
/-- the window `[2, 9)` cuts both: no column is occupied and, `cbeg` being positive, nothing is emitted -/
example : renderRow Vi.dirOracle opts0 true ln 2 9 = some [] := ln_checks.2.2.2.2.2.2.2.2.1
/-- the same in a right-to-left context: the window is mirrored -/
example : items (offTable (chrs ln) [0, 1, 8, 10, 11, 12] (-1) 2 14) 2 14 =
    [(none, 2), (some 4, 1), (some 3, 1), (some 2, 2)] :=
  ln_checks.2.2.2.2.2.2.2.2.2

/-- the corner `clast = 0`: a line that starts with a tab in the window `[0, 3)` — no column is
    occupied, `clast` is 0, and one blank is emitted for column 0 (`shown_zero`) -/
example : offTable (chrs [9, 10]) [0, 8, 9] 1 0 3 = [none, none, none] ∧
    shown (offTable (chrs [9, 10]) [0, 8, 9] 1 0 3) 0 3 = 1 ∧
    renderRow Vi.dirOracle opts0 true [9, 10] 0 3 = some [32] := by decide +kernel
/-- placeholders: U+200C shows as "-", a control character as U+FFFD -/
example : renderRow Vi.dirOracle opts0 true [97, 0xe2, 0x80, 0x8c, 98, 1, 10] 0 10 =
    some [97, 45, 98, 0xef, 0xbf, 0xbd, 32] := by
  decide +kernel

/-- (E3) "ab", a tab, "c", newline: the tab takes columns 2–7 -/
def tl : Bytes := [97, 98, 9, 99, 10]
example : tabExpand tl 0 = [97, 98, 32, 32, 32, 32, 32, 32, 99, 32] := by decide
example : TabBytes tl ∧ renPosition Vi.dirOracle opts tl = some (renPositionFast tl) ∧
    Dir.dirContext Vi.dirOracle opts.xtd tl ≥ 0 := by
  refine ⟨by unfold TabBytes; decide, by decide +kernel, by decide⟩
/-- the window `[1, 6)` cuts the tab on the right: "b", and the four blanks of the slice are left out -/
example : renderRow Vi.dirOracle opts true tl 1 6 = some [98] := by decide +kernel
example : renderRow Vi.dirOracle opts true tl 1 6 =
    some ((((tabExpand tl 0).drop 1).take 5).take
      (shown (offTable (chrs tl) (renPositionFast tl) (Dir.dirContext Vi.dirOracle opts.xtd tl) 1 6) 1 6)) :=
  (renderRow_tabs_window Vi.dirOracle opts true tl (by unfold TabBytes; decide) (by decide) 1 6 (by decide) (by decide)
    (by decide +kernel) (by decide)).1
/-- the window `[4, 10)` cuts the tab on the left: its four columns in the window are blanks -/
example : renderRow Vi.dirOracle opts true tl 4 10 = some [32, 32, 32, 32, 99, 32] := by decide +kernel
/-- the window `[0, 3)` of a line that starts with a tab: the slice is three blanks, the row one -/
example : renderRow Vi.dirOracle opts true [9, 10] 0 3 = some [32] ∧
    ((tabExpand [9, 10] 0).drop 0).take 3 = [32, 32, 32] := by decide +kernel
/-- the empty string (not a buffer line) is excluded from `renderRow_tabs_window`: the slice is empty
    but one blank is emitted -/
example : renderRow Vi.dirOracle opts true [] 0 3 = some [32] ∧ ((tabExpand [] 0).drop 0).take 3 = [] := by
  decide +kernel

end Neatvi.Props.C19d
