import NeatviVerif.Props.C19c
/-!
# C19e  What a screen row shows in a right-to-left context: the mirrored window

`Props/C19d.lean` specifies the emission loop of `led_render` for every table, expands the emitted
row to cells (`glyphCells_items`) and reads them column by column in a left-to-right context
(`showsAt_spec`, `renderRow_cells`).  Here are the mirrored readings: in a right-to-left context
(`Dir.dirContext … < 0`) `led_pos` maps visual column `p` to window cell `cend - 1 - p`.

(`Disjoint chs pos`, the hypothesis of most statements here, is declared in `Lemmas/C19cOff.lean`.)

* §1 (M1) `C19d.items_width` and `C19d.glyphCells_items` hold in either direction (the columns of
  a character are one stretch of the table, `C19d.offTable_interval`); `glyphCells_items_ltr` is the
  left-to-right reading.
* §2 (M2) `showsAt_spec_rtl`: window cell `k` shows character `i` iff `cend - 1 - k` is a cell of `i`
  and every cell of `i` lies in `[cbeg, cend)`.
* §3 (M3) `offTable_spec_model_rtl`, `renderRow_cells_rtl`: on the tables `ren_position` returns for
  a valid UTF-8 line, with the reference `cellWidth`.
* §4 (M4) `visCol`, `showsAt_spec_any`, `renderRow_shows`: the direction-free statement.
* §5 (M5) non-vacuity, with `td = -2` (forced right-to-left context).

Nothing here is `_partial`.
-/
namespace Neatvi.Props.C19e
open Neatvi Neatvi.Uc Neatvi.Spec Neatvi.Ren Neatvi.Render Neatvi.Lemmas.C19d Neatvi.Lemmas.C19c
open Neatvi.Props.C19d (showsAt)

/-! ## 1. (M1) the cells of the emitted items -/

/-- `C19d.glyphCells_items` holds in either direction; this is its left-to-right reading -/
theorem glyphCells_items_ltr (chs : List Bytes) (pos : List Nat) (ctx : Int) (hctx : ctx ≥ 0) (cbeg cend : Int)
    (hwin : cbeg < cend) (hd : Disjoint chs pos) :
    glyphCells chs pos (items (offTable chs pos ctx cbeg cend) cbeg cend) =
      (offTable chs pos ctx cbeg cend).take (shown (offTable chs pos ctx cbeg cend) cbeg cend) :=
  C19d.glyphCells_items chs pos ctx cbeg cend hd

/-! ## 2. (M2) cell by cell, mirrored -/

/-- (M2) right-to-left context, disjoint cells: after the row is written from the left edge of the
    window, window cell `k` shows character `i` iff the visual column `cend - 1 - k` is a cell of `i`
    and every cell of `i` lies in `[cbeg, cend)`; every other cell shows a blank or is not written.
    (As in `C19d.showsAt_spec` no bound on `k` is needed: beyond the covered cells both sides are
    false.) -/
theorem showsAt_spec_rtl (chs : List Bytes) (pos : List Nat) (ctx : Int) (hctx : ctx < 0) (cbeg cend : Int)
    (hwin : cbeg < cend) (hd : Disjoint chs pos) (k i : Nat) :
    showsAt chs pos (items (offTable chs pos ctx cbeg cend) cbeg cend) k = some i ↔
      i < chs.length ∧
      (pos.getD i 0 : Int) ≤ cend - 1 - k ∧
      cend - 1 - k < (pos.getD i 0 : Int) + (renCwid (chs.getD i []) (pos.getD i 0) : Int) ∧
      cbeg ≤ (pos.getD i 0 : Int) ∧
      (pos.getD i 0 : Int) + (renCwid (chs.getD i []) (pos.getD i 0) : Int) ≤ cend :=
  C19d.showsAt_spec_at chs pos ctx cbeg cend hd k _ (ledPos_rtl hctx cbeg cend k) i

/-- the form with the bound of the task statement, `k` below the covered cells -/
theorem showsAt_spec_rtl' (chs : List Bytes) (pos : List Nat) (ctx : Int) (hctx : ctx < 0) (cbeg cend : Int)
    (hwin : cbeg < cend) (hd : Disjoint chs pos) (k : Nat)
    (_hk : k < shown (offTable chs pos ctx cbeg cend) cbeg cend) (i : Nat) :
    showsAt chs pos (items (offTable chs pos ctx cbeg cend) cbeg cend) k = some i ↔
      i < chs.length ∧
      (pos.getD i 0 : Int) ≤ cend - 1 - k ∧
      cend - 1 - k < (pos.getD i 0 : Int) + (renCwid (chs.getD i []) (pos.getD i 0) : Int) ∧
      cbeg ≤ (pos.getD i 0 : Int) ∧
      (pos.getD i 0 : Int) + (renCwid (chs.getD i []) (pos.getD i 0) : Int) ≤ cend :=
  showsAt_spec_rtl chs pos ctx hctx cbeg cend hwin hd k i

/-- the list of cells has exactly `shown` entries: a cell below `shown` that shows no character shows a
    blank (it is written, as `none`); a cell from `shown` on is not written -/
theorem showsAt_written (chs : List Bytes) (pos : List Nat) (ctx : Int) (cbeg cend : Int) (hd : Disjoint chs pos) :
    (glyphCells chs pos (items (offTable chs pos ctx cbeg cend) cbeg cend)).length =
      shown (offTable chs pos ctx cbeg cend) cbeg cend := by
  rw [C19d.glyphCells_items chs pos ctx cbeg cend hd, List.length_take]
  have := shown_le (offTable chs pos ctx cbeg cend) cbeg cend (Lemmas.C19c.offTable_length _ _ _ _ _)
  omega

/-! ## 3. (M3) on the model's own tables -/

/-- (the right-to-left counterpart of `C19c.offTable_spec_model`) for a valid UTF-8 line and any
    table `ren_position` returns for it, in a right-to-left context the window table is exact and
    mirrored, with the reference cell widths -/
theorem offTable_spec_model_rtl (orc : Dir.Oracle) (o : Opts) (cps : List Nat) (hv : ∀ c ∈ cps, ValidCp c)
    (pos : List Nat) (h : renPosition orc o (encStr cps) = some pos)
    (ctx : Int) (hctx : ctx < 0) (cbeg cend : Int) (hwin : cbeg < cend)
    (k : Nat) (hk : k < (cend - cbeg).toNat) (i : Nat) :
    (offTable (chrs (encStr cps)) pos ctx cbeg cend).getD k none = some i ↔
      i < cps.length ∧
      (pos.getD i 0 : Int) ≤ cend - 1 - k ∧
      cend - 1 - k < (pos.getD i 0 : Int) + (cellWidth (cps.getD i 0) (pos.getD i 0) : Int) ∧
      cbeg ≤ (pos.getD i 0 : Int) ∧
      (pos.getD i 0 : Int) + (cellWidth (cps.getD i 0) (pos.getD i 0) : Int) ≤ cend := by
  rw [C19c.offTable_spec_rtl _ pos ctx hctx cbeg cend hwin (C19d.model_disjoint orc o _ (C17b.not_mem_encStr_0 hv) pos h) k hk i]
  exact Lemmas.C17b.width_iff hv i _ (fun w => (pos.getD i 0 : Int) ≤ cend - 1 - k ∧
    cend - 1 - k < (pos.getD i 0 : Int) + (w : Int) ∧ cbeg ≤ (pos.getD i 0 : Int) ∧ (pos.getD i 0 : Int) + (w : Int) ≤ cend)

/-- (M3) the row of a valid UTF-8 line in a right-to-left context, for any table `ren_position`
    returns (reordered or not): the row is the reference row of the window table; its items take on
    the screen exactly the covered columns of the table; and, cell by cell, window cell `k` shows
    character `i` iff the visual column `cend - 1 - k` is one of the cells of `i` (reference widths
    `cellWidth`) and all cells of `i` are inside the window -/
theorem renderRow_cells_rtl (orc : Dir.Oracle) (o : Opts) (shape : Bool) (cps : List Nat) (hv : ∀ c ∈ cps, ValidCp c)
    (pos : List Nat) (hpos : renPosition orc o (encStr cps) = some pos)
    (hctx : Dir.dirContext orc o.xtd (encStr cps) < 0) (cbeg cend : Int) (hwin : cbeg < cend) :
    let chs := chrs (encStr cps)
    let off := offTable chs pos (Dir.dirContext orc o.xtd (encStr cps)) cbeg cend
    renderRow orc o shape (encStr cps) cbeg cend =
        some (rowRef chs (chs.map (fun c => (ucCode c).getD 0)) shape off cbeg cend) ∧
    glyphCells chs pos (items off cbeg cend) = off.take (shown off cbeg cend) ∧
    ∀ k i, showsAt chs pos (items off cbeg cend) k = some i ↔
      i < cps.length ∧
      (pos.getD i 0 : Int) ≤ cend - 1 - k ∧
      cend - 1 - k < (pos.getD i 0 : Int) + (cellWidth (cps.getD i 0) (pos.getD i 0) : Int) ∧
      cbeg ≤ (pos.getD i 0 : Int) ∧
      (pos.getD i 0 : Int) + (cellWidth (cps.getD i 0) (pos.getD i 0) : Int) ≤ cend := by
  intro chs off
  obtain ⟨h1, h2, h3⟩ := C19d.renderRow_cells_at orc o shape cps hv pos hpos cbeg cend
  exact ⟨h1, h2, fun k i => h3 k _ (ledPos_rtl hctx cbeg cend k) i⟩

/-! ## 4. (M4) direction-free -/

/-- the visual column drawn at window cell `k`: `cbeg + k` in a left-to-right context, mirrored
    (`cend - 1 - k`) in a right-to-left one — the inverse of `led_pos` -/
def visCol (ctx : Int) (cbeg cend : Int) (k : Nat) : Int := if ctx ≥ 0 then cbeg + k else cend - 1 - k

/-- `visCol` inverts `ledPos` on the window -/
theorem ledPos_visCol (ctx : Int) (cbeg cend : Int) (k : Nat) :
    ledPos ctx (visCol ctx cbeg cend k) cbeg cend = k := by
  unfold ledPos visCol
  split <;> omega

theorem visCol_ledPos (ctx : Int) (cbeg cend : Int) (p : Int) (h : 0 ≤ ledPos ctx p cbeg cend) :
    visCol ctx cbeg cend (ledPos ctx p cbeg cend).toNat = p := by
  unfold ledPos visCol at *
  split <;> rename_i hc <;> simp only [hc, if_true, if_false] at h ⊢ <;> omega

/-- the cells of the window are the visual columns of the window -/
theorem visCol_mem (ctx : Int) (cbeg cend : Int) (k : Nat) (hk : k < (cend - cbeg).toNat) :
    cbeg ≤ visCol ctx cbeg cend k ∧ visCol ctx cbeg cend k < cend := by
  unfold visCol
  split <;> omega

/-- either direction, disjoint cells: window cell `k` of the table holds character `i` iff
    `visCol … k` is a cell of `i` and every cell of `i` lies in `[cbeg, cend)` -/
theorem offTable_spec_any (chs : List Bytes) (pos : List Nat) (ctx : Int) (cbeg cend : Int)
    (hwin : cbeg < cend) (hd : Disjoint chs pos) (k : Nat) (hk : k < (cend - cbeg).toNat) (i : Nat) :
    (offTable chs pos ctx cbeg cend).getD k none = some i ↔
      i < chs.length ∧
      (pos.getD i 0 : Int) ≤ visCol ctx cbeg cend k ∧
      visCol ctx cbeg cend k < (pos.getD i 0 : Int) + (renCwid (chs.getD i []) (pos.getD i 0) : Int) ∧
      cbeg ≤ (pos.getD i 0 : Int) ∧
      (pos.getD i 0 : Int) + (renCwid (chs.getD i []) (pos.getD i 0) : Int) ≤ cend := by
  exact Lemmas.C19c.offTable_spec_at chs pos ctx cbeg cend hd k hk _ (ledPos_visCol ctx cbeg cend k) i

/-- either direction, disjoint cells, cell by cell: window cell `k` shows character `i` iff
    `visCol … k` is a cell of `i` and every cell of `i` lies in `[cbeg, cend)` -/
theorem showsAt_spec_any (chs : List Bytes) (pos : List Nat) (ctx : Int) (cbeg cend : Int)
    (hwin : cbeg < cend) (hd : Disjoint chs pos) (k i : Nat) :
    showsAt chs pos (items (offTable chs pos ctx cbeg cend) cbeg cend) k = some i ↔
      i < chs.length ∧
      (pos.getD i 0 : Int) ≤ visCol ctx cbeg cend k ∧
      visCol ctx cbeg cend k < (pos.getD i 0 : Int) + (renCwid (chs.getD i []) (pos.getD i 0) : Int) ∧
      cbeg ≤ (pos.getD i 0 : Int) ∧
      (pos.getD i 0 : Int) + (renCwid (chs.getD i []) (pos.getD i 0) : Int) ≤ cend := by
  exact C19d.showsAt_spec_at chs pos ctx cbeg cend hd k _ (ledPos_visCol ctx cbeg cend k) i

/-- (M4) the row of a valid UTF-8 line, any oracle, options, context direction, and any table
    `ren_position` returns: the row is the reference row of the window table; the emitted items
    take exactly the `shown` covered cells; every covered cell `k` either shows a blank or shows a
    character, and it shows character `i` iff the visual column `visCol … k` is a cell of `i` and all
    cells of `i` lie in `[cbeg, cend)`; cells from `shown` on are not written -/
theorem renderRow_shows (orc : Dir.Oracle) (o : Opts) (shape : Bool) (cps : List Nat) (hv : ∀ c ∈ cps, ValidCp c)
    (pos : List Nat) (hpos : renPosition orc o (encStr cps) = some pos) (cbeg cend : Int) (hwin : cbeg < cend) :
    let ctx := Dir.dirContext orc o.xtd (encStr cps)
    let chs := chrs (encStr cps)
    let off := offTable chs pos ctx cbeg cend
    renderRow orc o shape (encStr cps) cbeg cend =
        some (rowRef chs (chs.map (fun c => (ucCode c).getD 0)) shape off cbeg cend) ∧
    (glyphCells chs pos (items off cbeg cend)).length = shown off cbeg cend ∧
    (∀ k, shown off cbeg cend ≤ k → ∀ i, showsAt chs pos (items off cbeg cend) k ≠ some i) ∧
    ∀ k, k < shown off cbeg cend → ∀ i, (showsAt chs pos (items off cbeg cend) k = some i ↔
      i < cps.length ∧
      (pos.getD i 0 : Int) ≤ visCol ctx cbeg cend k ∧
      visCol ctx cbeg cend k < (pos.getD i 0 : Int) + (cellWidth (cps.getD i 0) (pos.getD i 0) : Int) ∧
      cbeg ≤ (pos.getD i 0 : Int) ∧
      (pos.getD i 0 : Int) + (cellWidth (cps.getD i 0) (pos.getD i 0) : Int) ≤ cend) := by
  intro ctx chs off
  obtain ⟨h1, h2, h3⟩ := C19d.renderRow_cells_at orc o shape cps hv pos hpos cbeg cend
  have hl := showsAt_written chs pos ctx cbeg cend (C19d.model_disjoint orc o _ (C17b.not_mem_encStr_0 hv) pos hpos)
  refine ⟨h1, hl, fun k hk i h => ?_, fun k _ i => h3 k _ (ledPos_visCol ctx cbeg cend k) i⟩
  unfold showsAt at h
  rw [List.getD_eq_getElem?_getD, List.getElem?_eq_none (by rw [hl]; exact hk)] at h
  cases h

/-! ## 5. (M5) non-vacuity -/

open Neatvi.Props.C19d (cps ln noOrc)

/-- `td = -2`: the context is right-to-left whatever the line and the oracle; no reordering -/
def optsR0 : Opts := { xorder := 0, xlim := 256, xtd := -2 }
/-- the same with reordering on, for the oracle that never matches (the kernel can evaluate it) -/
def optsR : Opts := { xorder := 1, xlim := 256, xtd := -2 }
/-- the table of "a\t中b\n": the tab takes columns 1–7, U+4E2D 8–9 -/
def tab : List Nat := [0, 1, 8, 10, 11, 12]
/-- the table the editor's oracle gives the same line with `xorder = 1`, `td = -2`: reordered — "b" 0,
    U+4E2D 1–2, the tab 3–7, "a" 8, the newline 9.  Found by `#eval`; no theorem here ties it to
    `renPosition`, the statements below are about this table as given -/
def tabR : List Nat := [8, 3, 1, 0, 9, 10]

/-- what the cells of the window show, cell by cell -/
def cellsShown (pos : List Nat) (ctx cbeg cend : Int) : List (Option Nat) :=
  (List.range (cend - cbeg).toNat).map
    (showsAt (chrs ln) pos (items (offTable (chrs ln) pos ctx cbeg cend) cbeg cend))

/-- the evaluations on `ln` below for the window `[0, 14)` in one statement: the kernel keeps what it has
    evaluated while it checks one declaration, so the width tables are walked for U+4E2D once for all of them -/
theorem line_checks :
    (renPosition Vi.dirOracle optsR0 (encStr cps) = some tab ∧
       Dir.dirContext Vi.dirOracle optsR0.xtd (encStr cps) < 0) ∧
    (renPosition noOrc optsR (encStr cps) = some tab ∧
       Dir.dirContext noOrc optsR.xtd (encStr cps) < 0) ∧
    (renderRow Vi.dirOracle optsR0 true ln 0 14 =
       some [32, 32, 32, 98, 0xe4, 0xb8, 0xad, 32, 32, 32, 32, 32, 32, 32, 97]) ∧
    (renderRow noOrc optsR true ln 0 14 =
       some [32, 32, 32, 98, 0xe4, 0xb8, 0xad, 32, 32, 32, 32, 32, 32, 32, 97]) ∧
    (items (offTable (chrs ln) tab (-1) 0 14) 0 14 =
       [(none, 2), (some 4, 1), (some 3, 1), (some 2, 2), (some 1, 7), (some 0, 1)]) ∧
    (cellsShown tab (-1) 0 14 =
       [none, none, some 4, some 3, some 2, some 2, some 1, some 1, some 1, some 1, some 1, some 1, some 1, some 0]) ∧
    (cellsShown tab 1 0 14 =
       [some 0, some 1, some 1, some 1, some 1, some 1, some 1, some 1, some 2, some 2, some 3, some 4, none, none] ∧
       cellsShown tab (-1) 0 14 = (cellsShown tab 1 0 14).reverse) := by
  decide +kernel

/-- the hypotheses of `renderRow_cells_rtl` hold of this line -/
example : encStr cps = ln ∧ (∀ c ∈ cps, ValidCp c) := by decide
example : renPosition Vi.dirOracle optsR0 (encStr cps) = some tab ∧
    Dir.dirContext Vi.dirOracle optsR0.xtd (encStr cps) < 0 :=
  line_checks.1
example : renPosition noOrc optsR (encStr cps) = some tab ∧
    Dir.dirContext noOrc optsR.xtd (encStr cps) < 0 :=
  line_checks.2.1

/-- the whole line in `[0, 14)`: mirrored — two unoccupied cells, the newline, "b", U+4E2D, the tab, "a" -/
example : renderRow Vi.dirOracle optsR0 true ln 0 14 =
    some [32, 32, 32, 98, 0xe4, 0xb8, 0xad, 32, 32, 32, 32, 32, 32, 32, 97] :=
  line_checks.2.2.1
example : renderRow noOrc optsR true ln 0 14 =
    some [32, 32, 32, 98, 0xe4, 0xb8, 0xad, 32, 32, 32, 32, 32, 32, 32, 97] :=
  line_checks.2.2.2.1
example : items (offTable (chrs ln) tab (-1) 0 14) 0 14 =
    [(none, 2), (some 4, 1), (some 3, 1), (some 2, 2), (some 1, 7), (some 0, 1)] :=
  line_checks.2.2.2.2.1
example : cellsShown tab (-1) 0 14 =
    [none, none, some 4, some 3, some 2, some 2, some 1, some 1, some 1, some 1, some 1, some 1, some 1, some 0] :=
  line_checks.2.2.2.2.2.1
/-- ... the mirror image of the left-to-right one -/
example : cellsShown tab 1 0 14 =
    [some 0, some 1, some 1, some 1, some 1, some 1, some 1, some 1, some 2, some 2, some 3, some 4, none, none] ∧
    cellsShown tab (-1) 0 14 = (cellsShown tab 1 0 14).reverse :=
  line_checks.2.2.2.2.2.2

/-- through the theorem -/
example : renderRow Vi.dirOracle optsR0 true (encStr cps) 0 14 =
    some (rowRef (chrs (encStr cps)) ((chrs (encStr cps)).map (fun c => (ucCode c).getD 0)) true
      (offTable (chrs (encStr cps)) tab (Dir.dirContext Vi.dirOracle optsR0.xtd (encStr cps)) 0 14) 0 14) :=
  (renderRow_cells_rtl Vi.dirOracle optsR0 true cps (by decide) tab line_checks.1.1
    (by decide) 0 14 (by decide)).1
/-- window cell 4 (visual column 9) shows U+4E2D (character 2), by `renderRow_shows` -/
example : showsAt (chrs (encStr cps)) tab (items (offTable (chrs (encStr cps)) tab
      (Dir.dirContext Vi.dirOracle optsR0.xtd (encStr cps)) 0 14) 0 14) 4 = some 2 :=
  ((renderRow_shows Vi.dirOracle optsR0 true cps (by decide) tab line_checks.1.1 0 14 (by decide)).2.2.2
    4 (by decide +kernel) 2).mpr (by decide +kernel)
example : visCol (-1) 0 14 4 = 9 ∧ visCol 1 0 14 4 = 4 := by decide

/-- likewise for the windows that cut a character, and for the reordered table -/
theorem cut_checks :
    (cellsShown tab (-1) 0 4 = [none, none, none, some 0] ∧
       cellsShown tab 1 0 4 = [some 0, none, none, none] ∧
       renderRow Vi.dirOracle optsR0 true ln 0 4 = some [32, 32, 32, 97]) ∧
    (cellsShown tab (-1) 2 14 =
       [none, none, some 4, some 3, some 2, some 2, none, none, none, none, none, none] ∧
       cellsShown tab 1 2 14 =
       [none, none, none, none, none, none, some 2, some 2, some 3, some 4, none, none] ∧
       shown (offTable (chrs ln) tab (-1) 2 14) 2 14 = 6 ∧
       renderRow Vi.dirOracle optsR0 true ln 2 14 = some [32, 32, 32, 98, 0xe4, 0xb8, 0xad]) ∧
    (cellsShown tab (-1) 0 9 =
       [none, some 1, some 1, some 1, some 1, some 1, some 1, some 1, some 0] ∧
       cellsShown tab (-1) 0 9 = (cellsShown tab 1 0 9).reverse ∧
       renderRow Vi.dirOracle optsR0 true ln 0 9 = some [32, 32, 32, 32, 32, 32, 32, 32, 97]) ∧
    (cellsShown tab (-1) 9 14 = [none, none, some 4, some 3, none] ∧
       cellsShown tab (-1) 9 14 = (cellsShown tab 1 9 14).reverse ∧
       shown (offTable (chrs ln) tab (-1) 9 14) 9 14 = 4 ∧
       renderRow Vi.dirOracle optsR0 true ln 9 14 = some [32, 32, 32, 98]) ∧
    (cellsShown tab (-1) 7 10 = [some 2, some 2, none] ∧
       cellsShown tab 1 7 10 = [none, some 2, some 2] ∧
       renderRow Vi.dirOracle optsR0 true ln 7 10 = some [0xe4, 0xb8, 0xad]) ∧
    (cellsShown tab (-1) 1 10 =
       [some 2, some 2, some 1, some 1, some 1, some 1, some 1, some 1, some 1] ∧
       cellsShown tab (-1) 1 10 = (cellsShown tab 1 1 10).reverse ∧
       renderRow Vi.dirOracle optsR0 true ln 1 10 = some [0xe4, 0xb8, 0xad, 32, 32, 32, 32, 32, 32, 32]) ∧
    (cellsShown tab (-1) 2 9 = List.replicate 7 none ∧
       renderRow Vi.dirOracle optsR0 true ln 2 9 = some []) ∧
    (cellsShown tabR (-1) 0 14 =
       [none, none, none, none, some 4, some 0, some 1, some 1, some 1, some 1, some 1, some 2, some 2, some 3] ∧
       cellsShown tabR (-1) 0 14 = (cellsShown tabR 1 0 14).reverse ∧
       cellsShown tabR (-1) 4 9 = [some 0, none, none, none, none] ∧
       cellsShown tabR 1 4 9 = [none, none, none, none, some 0]) := by
  decide +kernel

/-- the window `[0, 4)` cuts the tab: it is not entered; "a" is drawn at the right edge -/
example : cellsShown tab (-1) 0 4 = [none, none, none, some 0] ∧
    cellsShown tab 1 0 4 = [some 0, none, none, none] ∧
    renderRow Vi.dirOracle optsR0 true ln 0 4 = some [32, 32, 32, 97] :=
  cut_checks.1
/-- the window `[2, 14)` cuts the tab at its low columns: in the mirrored window these are the last
    cells, after the last occupied one, so (unlike left-to-right, where they are six blanks) they
    are not written at all: six cells are covered -/
example : cellsShown tab (-1) 2 14 =
      [none, none, some 4, some 3, some 2, some 2, none, none, none, none, none, none] ∧
    cellsShown tab 1 2 14 =
      [none, none, none, none, none, none, some 2, some 2, some 3, some 4, none, none] ∧
    shown (offTable (chrs ln) tab (-1) 2 14) 2 14 = 6 ∧
    renderRow Vi.dirOracle optsR0 true ln 2 14 = some [32, 32, 32, 98, 0xe4, 0xb8, 0xad] :=
  cut_checks.2.1
/-- the window `[0, 9)` cuts U+4E2D (cells 8–9): its column inside the window, mirrored to cell 0, is a blank -/
example : cellsShown tab (-1) 0 9 =
      [none, some 1, some 1, some 1, some 1, some 1, some 1, some 1, some 0] ∧
    cellsShown tab (-1) 0 9 = (cellsShown tab 1 0 9).reverse ∧
    renderRow Vi.dirOracle optsR0 true ln 0 9 = some [32, 32, 32, 32, 32, 32, 32, 32, 97] :=
  cut_checks.2.2.1
/-- the window `[9, 14)` cuts U+4E2D at its second cell: that column is mirrored to the last cell,
    after the last occupied one, and is not written -/
example : cellsShown tab (-1) 9 14 = [none, none, some 4, some 3, none] ∧
    cellsShown tab (-1) 9 14 = (cellsShown tab 1 9 14).reverse ∧
    shown (offTable (chrs ln) tab (-1) 9 14) 9 14 = 4 ∧
    renderRow Vi.dirOracle optsR0 true ln 9 14 = some [32, 32, 32, 98] :=
  cut_checks.2.2.2.1
/-- the window `[7, 10)`: U+4E2D first, the last column of the tab (cut) after it, not written -/
example : cellsShown tab (-1) 7 10 = [some 2, some 2, none] ∧
    cellsShown tab 1 7 10 = [none, some 2, some 2] ∧
    renderRow Vi.dirOracle optsR0 true ln 7 10 = some [0xe4, 0xb8, 0xad] :=
  cut_checks.2.2.2.2.1
/-- the window `[1, 10)` holds the tab and U+4E2D whole: U+4E2D, then the seven blanks of the tab -/
example : cellsShown tab (-1) 1 10 =
      [some 2, some 2, some 1, some 1, some 1, some 1, some 1, some 1, some 1] ∧
    cellsShown tab (-1) 1 10 = (cellsShown tab 1 1 10).reverse ∧
    renderRow Vi.dirOracle optsR0 true ln 1 10 = some [0xe4, 0xb8, 0xad, 32, 32, 32, 32, 32, 32, 32] :=
  cut_checks.2.2.2.2.2.1
/-- the window `[2, 9)` cuts both: nothing is shown -/
example : cellsShown tab (-1) 2 9 = List.replicate 7 none ∧
    renderRow Vi.dirOracle optsR0 true ln 2 9 = some [] :=
  cut_checks.2.2.2.2.2.2.1

/-- the reordered table `tabR` (disjoint cells, so `showsAt_spec_rtl` applies): the window `[0, 14)`
    mirrored, and the window `[4, 9)` that cuts the tab (columns 3–7): only "a" (column 8) is shown -/
example : cellsShown tabR (-1) 0 14 =
    [none, none, none, none, some 4, some 0, some 1, some 1, some 1, some 1, some 1, some 2, some 2, some 3] ∧
    cellsShown tabR (-1) 0 14 = (cellsShown tabR 1 0 14).reverse ∧
    cellsShown tabR (-1) 4 9 = [some 0, none, none, none, none] ∧
    cellsShown tabR 1 4 9 = [none, none, none, none, some 0] :=
  cut_checks.2.2.2.2.2.2.2
theorem tabR_disjoint : Disjoint (chrs ln) tabR := by
  have hlen : (chrs ln).length = 5 := by decide +kernel
  have h : ∀ i, i < 5 → ∀ j, j < 5 → i ≠ j →
      tabR.getD i 0 + renCwid ((chrs ln).getD i []) (tabR.getD i 0) ≤ tabR.getD j 0 ∨
      tabR.getD j 0 + renCwid ((chrs ln).getD j []) (tabR.getD j 0) ≤ tabR.getD i 0 := by decide +kernel
  intro i j hi hj
  rw [hlen] at hi hj
  exact h i hi j hj
/-- through `showsAt_spec_rtl`, on the reordered table, window `[4, 9)`: cell 0 is visual column 8, "a" -/
example : showsAt (chrs ln) tabR (items (offTable (chrs ln) tabR (-1) 4 9) 4 9) 0 = some 0 :=
  (showsAt_spec_rtl (chrs ln) tabR (-1) (by decide) 4 9 (by decide) tabR_disjoint 0 0).mpr (by decide +kernel)
/-- ... and cell 1 (visual column 7, a column of the cut tab) does not show the tab -/
example : showsAt (chrs ln) tabR (items (offTable (chrs ln) tabR (-1) 4 9) 4 9) 1 ≠ some 1 := fun h =>
  absurd ((showsAt_spec_rtl (chrs ln) tabR (-1) (by decide) 4 9 (by decide) tabR_disjoint 1 1).mp h)
    (by decide +kernel)

end Neatvi.Props.C19e
