import NeatviVerif.Lemmas.C19fMain
/-!
# C19f  The horizontal window and the cursor cell

C19: "The terminal shows a true window of the buffer with the cursor on its character".  The row
window and the redraw algorithms are in `Props/C19*.lean`, what one rendered row shows in
`Props/C19c–e`.  Here: the *horizontal* window `[xleft, xleft + xcols)` and the cell the terminal
cursor is put on.

The end of an iteration of `vi()` (`Model/ViCmd.lean`, `viPost`; vi.c:1852–1858, 1895) is
```
vi_wfix();
if (mod) xcol = vi_off2col(xb, xrow, xoff);
if (xcol >= xleft + xcols) xleft = xcol - xcols / 2;
if (xcol < xleft) xleft = xcol < xcols ? 0 : xcol - xcols / 2;
...
term_pos(xrow - xtop, vi_pos(ln, ren_cursor(ln, xcol)));
```
The model has no terminal cursor; `Lemmas/C19fCursor.lean` defines it from the model's `ren_cursor`
and `led_pos`: `cursorCol s = ren_cursor(ln, xcol)`, `termCursor s = vi_pos(ln, cursorCol)`,
`colCell s = vi_pos(ln, xcol)`, and `rowShows s ln k` = what window cell `k` of the rendered row of
`ln` shows (`C19d.showsAt` on the window `[xleft, xleft + xcols)`).

* §1 `viPost_col_in_window` — after `viPost (some mod)` that does not quit, `xleft ≤ xcol < xleft +
  xcols`; `xleft` unchanged when `xcol` was already inside; `0 ≤ xleft` kept.  Three refutations of
  stronger forms (`…_is_false`): a negative `xcol` with `mod = 0`, a negative `xleft`, `xcols = 0`.
* §2 `cursor_on_character` — when `mod ≠ 0`, `xcol` is the lowest visual column of the cursor
  character; the terminal cursor is put on its highest one; when all its cells are inside the window
  both cells show that character (`C19e.showsAt_spec_any`); left-to-right and right-to-left contexts.
  `cursor_on_empty_line`; the recorded-as-new finding `wide_character_at_edge_finding`.
* §3 `sticky_column_finding` (the recorded finding, by evaluation) and
  `sticky_after_vertical_motion` (what holds in general after `j` / `k`).
* §4 `viStep_keeps_col_window`, `col_window_reachable`, `col_window_runModel`: the window holds after
  every iteration of every run.  `col_invariant_reachable_full` (with `0 ≤ xleft`) is stated here and
  derived from `ExKeepsLeft`, a statement about the ex layer (`col_invariant_reachable_of_ex`); `ExKeepsLeft`
  and with it the full invariant are proved in `Props/C19g.lean` (`ex_keeps_left`, `col_invariant_reachable`).
  `col_invariant_reachable_partial` (= `col_window_reachable`) is the part that does not need the ex layer.
-/
namespace Neatvi.Props.C19f
open Neatvi Neatvi.Uc Neatvi.Spec Neatvi.Ren Neatvi.Render Neatvi.Lbuf Neatvi.Ex Neatvi.Mot Neatvi.Vi
open Neatvi.Lemmas.C19f
open Neatvi.Lemmas.C17b (StrictInc)
open Neatvi.Props.C05c (iterate)

export Neatvi.Lemmas.C19f (postLeft postCol cursorCol curCtx viPos termCursor colCell rowShows ColWin Good Alive
  WfCps stickyOff initState LOk ExKeepsLeft GoodB)

/-! ## 1. the end of an iteration: the sticky column is inside the horizontal window -/

/-- **After the end of an iteration the sticky column is inside the window.**  For every state with
    a window of at least one column, every redraw class `mod`, with `mod ≠ 0` or a non-negative sticky
    column: if `viPost (some mod)` returns and the editor is not quitting then
    * `xleft ≤ xcol < xleft + xcols`, `0 ≤ xcol`, and the window width is unchanged;
    * `0 ≤ xleft` if it was so before;
    * no gratuitous horizontal scrolling: if the (new) sticky column is inside the *old* window,
      `xleft` is unchanged; in general `xleft = postLeft xcol xleft₀ xcols`
      (`Lemmas/C19fPost.lean`: `postLeft_moved` — the column ends up in the middle of the window, or
      the window returns to column 0);
    * the sticky column is the column of the cursor character when `mod ≠ 0`, the old one when
      `mod = 0`. -/
theorem viPost_col_in_window (s s' : VS) (mod : Nat) (hc : 0 < s.xcols) (hx : mod ≠ 0 ∨ 0 ≤ s.xcol)
    (h : viPost (some mod) s = Res.ok () s') (hq : s'.ed.xquit = false) :
    s'.ed.xleft ≤ s'.xcol ∧ s'.xcol < s'.ed.xleft + s'.xcols ∧ 0 ≤ s'.xcol ∧ s'.xcols = s.xcols ∧
    (0 ≤ s.ed.xleft → 0 ≤ s'.ed.xleft) ∧
    (s.ed.xleft ≤ s'.xcol → s'.xcol < s.ed.xleft + s.xcols → s'.ed.xleft = s.ed.xleft) ∧
    s'.ed.xleft = postLeft s'.xcol s.ed.xleft s.xcols ∧
    (mod ≠ 0 → s'.xcol = off2col s' s'.ed.xrow s'.ed.xoff) ∧ (mod = 0 → s'.xcol = s.xcol) :=
  Lemmas.C19f.viPost_col_in_window s s' mod hc hx h hq

/-- the hypotheses are satisfiable: `viPost (some 1)` on the buffer of the recorded finding with the
    cursor on the last `a` of the 120-character line returns, not quitting, with `xcol = 119`,
    `xleft = 79` -/
example : ∃ s', viPost (some 1) midSt = Res.ok () s' ∧ (s'.xcol, s'.ed.xleft, s'.xcols, s'.ed.xquit) = (119, 79, 80, false) := by
  obtain ⟨s', h, hv⟩ := postView_some 1 midSt _ midSt_post
  exact ⟨s', h, hv.symm⟩
/-- ... and the theorem applies to it -/
example (s' : VS) (h : viPost (some 1) midSt = Res.ok () s') (hq : s'.ed.xquit = false) :
    s'.ed.xleft ≤ s'.xcol ∧ s'.xcol < s'.ed.xleft + s'.xcols :=
  let t := viPost_col_in_window midSt s' 1 (by decide) (Or.inl (by decide)) h hq
  ⟨t.1, t.2.1⟩

/-- the conjecture without `mod ≠ 0 ∨ 0 ≤ xcol` is false: with `mod = 0`, `xcol = -1`, `xleft = 5` the
    end of the iteration sets `xleft = 0 > xcol` (`negSt`; no state of a run has a negative sticky
    column, `col_window_reachable`) -/
theorem viPost_window_any_xcol_is_false :
    ¬ (∀ (s s' : VS) (mod : Nat), 0 < s.xcols → viPost (some mod) s = Res.ok () s' → s'.ed.xquit = false →
        s'.ed.xleft ≤ s'.xcol) := by
  intro hall
  obtain ⟨s', hr, hv⟩ := postView_some 0 negSt _ negSt_post
  simp only [Prod.mk.injEq] at hv
  obtain ⟨v1, v2, _, v4⟩ := hv
  have := hall negSt s' 0 (by decide) hr v4.symm
  omega

/-- `0 ≤ xleft` is kept, not established: from `xleft = -100`, `xcol = 0` on 80 columns the end of the
    iteration sets `xleft = -40` (`farSt`) -/
theorem viPost_xleft_nonneg_any_xleft_is_false :
    ¬ (∀ (s s' : VS) (mod : Nat), 0 < s.xcols → 0 ≤ s.xcol → viPost (some mod) s = Res.ok () s' →
        s'.ed.xquit = false → 0 ≤ s'.ed.xleft) := by
  intro hall
  obtain ⟨s', hr, hv⟩ := postView_some 0 farSt _ farSt_post
  simp only [Prod.mk.injEq] at hv
  obtain ⟨_, v2, _, v4⟩ := hv
  have := hall farSt s' 0 (by decide) (by decide) hr v4.symm
  omega

/-- a window without columns contains no column (`zeroSt`) -/
theorem viPost_window_no_columns_is_false :
    ¬ (∀ (s s' : VS) (mod : Nat), mod ≠ 0 → viPost (some mod) s = Res.ok () s' → s'.ed.xquit = false →
        s'.xcol < s'.ed.xleft + s'.xcols) := by
  intro hall
  obtain ⟨s', hr, hv⟩ := postView_some 1 zeroSt _ zeroSt_post
  simp only [Prod.mk.injEq] at hv
  obtain ⟨v1, v2, v3, v4⟩ := hv
  have := hall zeroSt s' 1 (by decide) hr v4.symm
  omega

/-! ## 2. the cursor is on its character -/

/-- **The cursor cell shows the cursor character.**  After `viPost (some mod)`, `mod ≠ 0`, on a window
    of at least one column, not quitting, from a non-negative offset, when the line under the cursor
    is a buffer line `body ++ "\n"` of valid code points with a non-empty body.  With `off` the cursor
    offset, `pos` the model's `ren_position` table of the line (reordered or not) and `w` the
    reference cell width of the cursor character (`Spec.Layout.cellWidth`: 1, 2 for wide characters,
    up to 8 for a tab):
    1. the cursor is on a character of the body (never the newline);
    2. `xcol = vi_off2col(xrow, xoff) = pos[off]`: the lowest visual column of that character, `w ≥ 1`;
    3. every column of its cell range `[xcol, xcol + w)` maps back to it (`vi_col2off`), so `j`/`k`
       from here return to it (C17b `renCursorT_tiled`);
    4. `ren_cursor(xcol) = xcol + w - 1`: the terminal cursor is put on its *highest* visual column;
    5. `xcol` is inside the window and `vi_pos(xcol)` is a cell of the window;
    6. when all cells of the character are inside the window (`xcol + w ≤ xleft + xcols`): the rendered
       row (`C19e.showsAt_spec_any`, i.e. `renderRow_shows`) shows the cursor character both at the
       cell of `xcol` and at the cell of the terminal cursor, which is inside the window.  In a
       left-to-right context `xcol` is the character's leftmost cell and the terminal cursor its
       rightmost (`+ (w - 1)`); in a right-to-left context the window is mirrored (`led_pos`): `xcol`
       is the rightmost cell on the screen and the terminal cursor the leftmost (`- (w - 1)`). -/
theorem cursor_on_character (s s' : VS) (mod : Nat) (hmod : mod ≠ 0) (hc : 0 < s.xcols)
    (h : viPost (some mod) s = Res.ok () s') (hq : s'.ed.xquit = false) (h0 : 0 ≤ s.ed.xoff)
    (body : List Nat) (hv : ∀ c ∈ body, ValidCp c) (h10 : 10 ∉ body) (hne : body ≠ [])
    (hln : lineOf s' s'.ed.xrow = some (encStr (body ++ [10]))) :
    let cps := body ++ [10]
    let off := s'.ed.xoff.toNat
    let pos := posTab s' (encStr cps)
    let w : Int := cellWidth (cps.getD off 0) (pos.getD off 0)
    (s'.ed.xoff = (off : Int) ∧ off < body.length) ∧
    (s'.xcol = off2col s' s'.ed.xrow s'.ed.xoff ∧ s'.xcol = (pos.getD off 0 : Nat) ∧ 1 ≤ w) ∧
    (∀ p : Int, s'.xcol ≤ p → p < s'.xcol + w → col2off s' s'.ed.xrow p = (off : Nat)) ∧
    cursorCol s' = s'.xcol + w - 1 ∧
    (s'.ed.xleft ≤ s'.xcol ∧ s'.xcol < s'.ed.xleft + s'.xcols ∧ 0 ≤ colCell s' ∧ colCell s' < s'.xcols) ∧
    (s'.xcol + w ≤ s'.ed.xleft + s'.xcols →
      rowShows s' (encStr cps) (colCell s').toNat = some off ∧
      0 ≤ termCursor s' ∧ termCursor s' < s'.xcols ∧
      rowShows s' (encStr cps) (termCursor s').toNat = some off ∧
      (0 ≤ curCtx s' → termCursor s' = colCell s' + (w - 1)) ∧
      (curCtx s' < 0 → termCursor s' = colCell s' - (w - 1))) :=
  Lemmas.C19f.cursor_on_character s s' mod hmod hc h hq h0 body hv h10 hne hln

/-- the hypotheses are satisfiable (`midSt`: the long line of the finding, 120 `a`s; `hln` is
    `Lemmas.C19f.midSt_line`, checked by the kernel), and the theorem then yields the window -/
example (s' : VS) (h : viPost (some 1) midSt = Res.ok () s') (hq : s'.ed.xquit = false)
    (hln : lineOf s' s'.ed.xrow = some (encStr (List.replicate 120 97 ++ [10]))) :
    s'.ed.xleft ≤ s'.xcol ∧ s'.xcol < s'.ed.xleft + s'.xcols :=
  let t := cursor_on_character midSt s' 1 (by decide) (by decide) h hq (by decide) (List.replicate 120 97)
    longBody_valid longBody_no10 longBody_ne hln
  ⟨t.2.2.2.2.1.1, t.2.2.2.2.1.2.1⟩

/-- `rowShows` is about the row `led_render` draws: when `ren_position` succeeds the model's table is
    its result and the row is the reference row (`C19d.rowRef`) of the window table `rowShows` reads -/
theorem renderRow_of_posTab (s : VS) (ln : Bytes) (pos : List Nat) (shape : Bool)
    (h : renPosition dirOracle (renOpts s) ln = some pos) :
    posTab s ln = pos ∧
    renderRow dirOracle (renOpts s) shape ln s.ed.xleft (s.ed.xleft + s.xcols) =
      some (Lemmas.C19d.rowRef (chrs ln) ((chrs ln).map (fun c => (ucCode c).getD 0)) shape
        (offTable (chrs ln) (posTab s ln) (dirCtx s ln) s.ed.xleft (s.ed.xleft + s.xcols))
        s.ed.xleft (s.ed.xleft + s.xcols)) := by
  have hp : posTab s ln = pos := by unfold posTab; rw [h]; rfl
  refine ⟨hp, ?_⟩
  rw [Props.C19d.renderRow_eq_rowRef, h, hp]
  rfl

/-- the empty line `"\n"`: the cursor character is the newline, its column is 0 and `ren_cursor` is 0 -/
theorem cursor_on_empty_line (s : VS) (hln : lineOf s s.ed.xrow = some [10]) (ho : s.ed.xoff = 0) :
    off2col s s.ed.xrow s.ed.xoff = 0 ∧ (s.xcol = 0 → cursorCol s = 0) := by
  have hp : posTab s [10] = [0, 1] := by
    rw [Lemmas.C07d.posTab_fast s [10] (Or.inl (by decide))]
    decide
  constructor
  · unfold off2col
    rw [hln, ho]
    simp only [hp]
    decide
  · intro hx
    unfold cursorCol
    rw [hln]
    simp only [hp, hx]
    decide

/-- **finding (new): a wide cursor character that straddles the right edge of the window.**  Clause 6
    of `cursor_on_character` needs all cells of the character inside the window, and the window
    adjustment only puts its *first* column inside.  `aaaaaaaaa<TAB>b` on a 10-column window, keys
    `$h`: the cursor is on the tab (offset 9, columns 9–15), `xcol = 9`, `xleft = 0` — the column
    window holds — but `ren_cursor` is column 15, cell 15 of a 10-cell window (`term_pos` clamps it to
    the last column), and the row does not draw the tab at all (`led_render` drops a character that
    is not entirely inside): cell 9 shows nothing. -/
theorem wide_character_at_edge_finding :
    viewAfter 2 (tabSt [36, 104]) = some [0, 9, 9, 0, 15, 15, 9] ∧
    (match iterate 2 (tabSt [36, 104]) with
     | some s => decide (ColWin s) && decide (s.xcol = off2col s s.ed.xrow s.ed.xoff) &&
         decide (renderRow dirOracle (renOpts s) true tabLn s.ed.xleft (s.ed.xleft + s.xcols) =
           some [97, 97, 97, 97, 97, 97, 97, 97, 97]) &&
         decide (rowShows s tabLn 9 = none)
     | none => false) = true :=
  Lemmas.C19f.wide_character_at_edge_finding

/-! ## 3. the sticky column after a vertical motion -/

/-- **the recorded finding** (`sticky_column_keeps_xleft_beyond_the_cursor`), in the model, by
    evaluation: the file `"short\n" ++ 120 × "a" ++ "\n"` on 80 columns.  `viewAfter n s` lists
    `[xrow, xoff, xcol, xleft, ren_cursor(xcol), terminal cursor cell, cell of xcol]` after `n`
    iterations.  After `j$`: `[1, 119, 119, 79, 119, 40, 40]`.  After `j$k`: the cursor is on the `t`
    of `short` (offset 4, column 4), the sticky column is still 119 and `xleft` still 79 — the column
    window `xleft ≤ xcol < xleft + xcols` holds, of the sticky column — the column of the cursor
    character (4) is left of `xleft`, the row of the cursor line is drawn empty, no cell of the window
    shows a character of it, and the terminal cursor is computed as cell `4 - 79 = -75` (`term_pos`
    clamps it to column 0) while commands act on the `t`. -/
theorem sticky_column_finding :
    viewAfter 2 (exSt [106, 36, 107] 0 0) = some [1, 119, 119, 79, 119, 40, 40] ∧
    viewAfter 3 (exSt [106, 36, 107] 0 0) = some [0, 4, 119, 79, 4, -75, 40] ∧
    (match iterate 3 (exSt [106, 36, 107] 0 0) with
     | some s => decide (ColWin s) && decide (s.xcols = 80) && decide (s.ed.xquit = false) &&
         decide (lineOf s s.ed.xrow = some shortLn) &&
         decide (off2col s s.ed.xrow s.ed.xoff = 4) && decide (off2col s s.ed.xrow s.ed.xoff < s.ed.xleft) &&
         decide (renderRow dirOracle (renOpts s) true shortLn s.ed.xleft (s.ed.xleft + s.xcols) = some []) &&
         (List.range 80).all (fun k => rowShows s shortLn k == none)
     | none => false) = true :=
  Lemmas.C19f.sticky_column_finding

/-- **What holds after `j` / `k`.**  `motionTail` for `mv = 'j'` or `'k'` to a row `nrow` whose line is a
    buffer line `body ++ "\n"` (valid code points, non-empty body), followed by the end of the
    iteration, from a state that is not quitting.  With `pos` the table of the line, `off` the new
    cursor offset, `col = vi_off2col(xrow, xoff)` the column of the cursor character and `w` its width:
    * the sticky column is *unchanged*, the row is `nrow`, and `xleft` is adjusted to the sticky column
      (`postLeft xcol …`), not to `col`;
    * the cursor is on a character of the body, `col = pos[off]`;
    * whenever the sticky column falls on a cell of a character `i` of the body, the cursor is on `i`
      (so `col ≤ xcol < col + w`, with `col = xcol` exactly when `xcol` is the first cell of `i`) — for
      every table, reordered or not;
    * when the table increases with the offset (no reordering; e.g. `posTab_fast`: ASCII lines) and
      starts at or left of `xcol`: `col ≤ xcol`; if `xcol` is left of the end of the text
      (`pos[|body|]`, the newline's column) then `xcol` is a cell of the cursor character; otherwise —
      the line is not as wide as the sticky column, the case of the finding — the cursor is on the
      last character of the body and all of it is left of the sticky column (`col + w ≤ xcol`). -/
theorem sticky_after_vertical_motion (mv nrow noff : Int) (hjk : mv = 106 ∨ mv = 107) (s s2 s3 : VS) (c : Option Nat)
    (h1 : motionTail mv nrow noff s = Res.ok c s2) (h2 : viPost c s2 = Res.ok () s3)
    (hq : s.ed.xquit = false) (body : List Nat) (hv : ∀ c ∈ body, ValidCp c) (h10 : 10 ∉ body) (hne : body ≠ [])
    (hln : lineOf s nrow = some (encStr (body ++ [10]))) :
    let cps := body ++ [10]
    let pos := posTab s3 (encStr cps)
    let off := s3.ed.xoff.toNat
    let w : Int := cellWidth (cps.getD off 0) (pos.getD off 0)
    let col : Int := off2col s3 s3.ed.xrow s3.ed.xoff
    (s3.xcol = s.xcol ∧ s3.ed.xrow = nrow ∧ lineOf s3 nrow = some (encStr cps) ∧
      s3.ed.xleft = postLeft s.xcol s.ed.xleft s.xcols) ∧
    (s3.ed.xoff = (off : Int) ∧ off < body.length ∧ col = (pos.getD off 0 : Nat)) ∧
    (∀ i, i < body.length → (pos.getD i 0 : Nat) ≤ s3.xcol →
      s3.xcol < (pos.getD i 0 : Nat) + (cellWidth (cps.getD i 0) (pos.getD i 0) : Int) → off = i) ∧
    (StrictInc pos cps.length → (pos.getD 0 0 : Nat) ≤ s3.xcol →
      col ≤ s3.xcol ∧
      (s3.xcol < (pos.getD body.length 0 : Nat) → s3.xcol < col + w) ∧
      ((pos.getD body.length 0 : Nat) ≤ s3.xcol → off + 1 = body.length ∧ col + w ≤ s3.xcol)) :=
  Lemmas.C19f.sticky_after_vertical_motion mv nrow noff hjk s s2 s3 c h1 h2 hq body hv h10 hne hln

/-- the hypotheses are satisfiable: `k` from the state of the finding after `j$` (`stickySt`) to the
    line `short`; `motionTail` ends in `stickyMid`, and the end of the iteration returns -/
example : motionTail 107 0 0 stickySt = Res.ok (some 0) stickyMid ∧
    (∃ s3, viPost (some 0) stickyMid = Res.ok () s3) ∧ stickySt.ed.xquit = false ∧
    lineOf stickySt 0 = some (encStr (shortBody ++ [10])) := by
  refine ⟨motionTail_jk 107 0 0 (Or.inr rfl) stickySt, ?_, rfl, by rw [shortLn_enc]; rfl⟩
  obtain ⟨s3, h, _⟩ := postView_some 0 stickyMid _ stickyMid_post
  exact ⟨s3, h⟩
/-- ... and the theorem then says the sticky column is still 119 -/
example (s3 : VS) (h2 : viPost (some 0) stickyMid = Res.ok () s3) : s3.xcol = 119 :=
  (sticky_after_vertical_motion 107 0 0 (Or.inr rfl) stickySt stickyMid s3 (some 0)
    (motionTail_jk 107 0 0 (Or.inr rfl) stickySt) h2 rfl shortBody (by decide) (by decide) (by decide)
    (by rw [shortLn_enc]; rfl)).1.1

/-- **... and then the cursor is on its character.**  After `j` / `k` (hypotheses as above), if the
    sticky column falls on a cell of a character `i` of the body all of whose cells are inside the
    window: the cursor is on `i`, `ren_cursor(xcol)` is the highest visual column of `i`, and both the
    cell of the sticky column and the cell of the terminal cursor are cells of the window in which the
    rendered row shows `i`.  (The recorded finding is the other case: the sticky column beyond the
    text of the line.) -/
theorem sticky_cursor_on_character (mv nrow noff : Int) (hjk : mv = 106 ∨ mv = 107) (s s2 s3 : VS) (c : Option Nat)
    (h1 : motionTail mv nrow noff s = Res.ok c s2) (h2 : viPost c s2 = Res.ok () s3)
    (hq : s.ed.xquit = false) (hc : 0 < s.xcols)
    (body : List Nat) (hv : ∀ c ∈ body, ValidCp c) (h10 : 10 ∉ body) (hne : body ≠ [])
    (hln : lineOf s nrow = some (encStr (body ++ [10])))
    (i : Nat) (hi : i < body.length)
    (hp1 : ((posTab s3 (encStr (body ++ [10]))).getD i 0 : Nat) ≤ s3.xcol)
    (hp2 : s3.xcol < ((posTab s3 (encStr (body ++ [10]))).getD i 0 : Nat) +
      (cellWidth ((body ++ [10]).getD i 0) ((posTab s3 (encStr (body ++ [10]))).getD i 0) : Int))
    (hin1 : s3.ed.xleft ≤ ((posTab s3 (encStr (body ++ [10]))).getD i 0 : Nat))
    (hin2 : ((posTab s3 (encStr (body ++ [10]))).getD i 0 : Nat) +
      (cellWidth ((body ++ [10]).getD i 0) ((posTab s3 (encStr (body ++ [10]))).getD i 0) : Int) ≤
        s3.ed.xleft + s3.xcols) :
    s3.ed.xoff = (i : Nat) ∧
    cursorCol s3 = ((posTab s3 (encStr (body ++ [10]))).getD i 0 : Nat) +
      (cellWidth ((body ++ [10]).getD i 0) ((posTab s3 (encStr (body ++ [10]))).getD i 0) : Int) - 1 ∧
    0 ≤ colCell s3 ∧ colCell s3 < s3.xcols ∧ rowShows s3 (encStr (body ++ [10])) (colCell s3).toNat = some i ∧
    0 ≤ termCursor s3 ∧ termCursor s3 < s3.xcols ∧
    rowShows s3 (encStr (body ++ [10])) (termCursor s3).toNat = some i :=
  Lemmas.C19f.sticky_cursor_on_character mv nrow noff hjk s s2 s3 c h1 h2 hq hc body hv h10 hne hln i hi hp1 hp2 hin1 hin2

/-- the hypotheses are satisfiable: `k` from the fourth `a` of the long line (`xcol = 3`, `xleft = 0`,
    `nearSt`) to `short`; the facts about the final state are checked by the kernel (`nearMid_post`),
    and the theorem puts the cursor on the `r` (offset 3) and shows it in the cursor cell -/
example (s3 : VS) (h2 : viPost (some 0) nearMid = Res.ok () s3) :
    s3.ed.xoff = 3 ∧ rowShows s3 (encStr (shortBody ++ [10])) (termCursor s3).toNat = some 3 := by
  have e := nearMid_post
  rw [h2] at e
  simp only [Bool.and_eq_true, decide_eq_true_eq] at e
  obtain ⟨⟨⟨⟨e1, e2⟩, e3⟩, e4⟩, _⟩ := e
  have t := sticky_cursor_on_character 107 0 0 (Or.inr rfl) nearSt nearMid s3 (some 0)
    (motionTail_jk 107 0 0 (Or.inr rfl) nearSt) h2 rfl (by decide) shortBody (by decide) (by decide) (by decide)
    (by rw [shortLn_enc]; rfl) 3 (by decide) e1 e2 e3 e4
  exact ⟨t.1, t.2.2.2.2.2.2.2⟩

/-- a line of single-byte characters (or of more than 256 characters) is laid out left to right -/
theorem posTab_fast (s : VS) (ln : Bytes) (h : ucSlen ln = ln.length ∨ 256 < ucSlen ln) :
    posTab s ln = renPositionFast ln := Lemmas.C07d.posTab_fast s ln h

/-! ## 4. every state of a run -/

/-- **One iteration of the command loop keeps the column window.**  From a state with `Good c`
    (`xcols = c`, `0 ≤ xcol`, `0 ≤ vi_pcol`, the counts within their bounds — itself kept by every
    iteration, `good_viStep`; `Good c` is `GoodB false c`, `GoodB true c` adds `0 ≤ xcols` and `LOk`), `c > 0`, and `xleft ≤ xcol < xleft + xcols`: after `viStep`, unless the
    editor is then quitting, `xleft ≤ xcol < xleft + xcols` again.  Either the iteration ran the end of
    the loop body, which establishes it, or the command switch hit `continue` (a key `≤ 0`, an unknown
    command key), and then `xcol`, `xleft`, `xcols` are untouched (`nk_commandTail`). -/
theorem viStep_keeps_col_window (c : Int) (hc : 0 < c) (s s' : VS) (hg : Good c s) (hw : ColWin s)
    (h : viStep s = Res.ok () s') (hq : s'.ed.xquit = false) : ColWin s' ∧ Good c s' :=
  ⟨viStep_colWin c hc s s' hg hw h hq, good_viStep c s () s' hg h⟩

/-- `col_invariant_reachable_full`: the invariant of §1 *with* `0 ≤ xleft`, in every state of a run that
    starts with no negative `xleft`, current or saved in the buffer table (`LOk`).  It is derived here
    from `ExKeepsLeft` (next theorem), the statement that `ex_command` keeps `LOk` — `:e`, `:b`, `:n`
    save `xleft` into the buffer table and restore a saved one; that every saved value is `≥ 0` is an
    invariant of the whole table, carried through every command of `Model/ExCmd.lean` in
    `Lemmas/C19gEx.lean`: the theorem is `Props.C19g.col_invariant_reachable`. -/
def col_invariant_reachable_full : Prop := Lemmas.C19f.col_invariant_reachable_full

/-- everything at the vi level keeps `0 ≤ xleft` and the saved `left`s: the end of an iteration
    (`viPost_col_in_window`), the redraw of insert mode (`ledLeft`), the edits, marks, undo/redo (they
    replace the line buffer of the current entry only).  So the full invariant holds in every state of
    every run if the ex layer keeps `LOk` (it does: `Props.C19g.ex_keeps_left`). -/
theorem col_invariant_reachable_of_ex (hX : ExKeepsLeft) : col_invariant_reachable_full :=
  Lemmas.C19f.col_invariant_reachable_of_ex hX

/-- the underlying invariant: `LOk` (`0 ≤ xleft`, no negative saved `left`) in every state reached -/
theorem lOk_reachable (hX : ExKeepsLeft) (c : Int) (hc : 0 ≤ c) (n : Nat) (s₀ s : VS) (hg : Good c s₀)
    (hl : LOk s₀.ed) (h : iterate n s₀ = some s) : LOk s.ed :=
  Lemmas.C19f.lOk_reachable hX c hc n s₀ s hg hl h

/-- **The column window holds after every iteration of every run** (`col_invariant_reachable_partial`:
    everything of `col_invariant_reachable_full` but `0 ≤ xleft`).  From a state `s₀` with `Good c`,
    `c > 0`, and the sticky column inside the window, for every key stream (the keys are part of
    `s₀`) and every `n`: the state after `n` iterations of `viStep` (`C05c.iterate`), none of which
    left the editor quitting (`Alive`: the loop of `vi()` is `while (!xquit)`), has
    `xleft ≤ xcol < xleft + xcols` — and `Good c`, so `0 ≤ xcol` and the window width is still `c`. -/
theorem col_window_reachable (c : Int) (hc : 0 < c) (n : Nat) (s₀ s : VS) (hg : Good c s₀) (hw : ColWin s₀)
    (h : iterate n s₀ = some s) (ha : Alive n s₀) : ColWin s ∧ Good c s :=
  colWin_reachable c hc n s₀ s hg hw h ha

/-- the same under the name the conventions ask for -/
theorem col_invariant_reachable_partial (c : Int) (hc : 0 < c) (n : Nat) (s₀ s : VS) (hg : Good c s₀) (hw : ColWin s₀)
    (h : iterate n s₀ = some s) (ha : Alive n s₀) : ColWin s ∧ Good c s :=
  col_window_reachable c hc n s₀ s hg hw h ha

/-- the hypotheses are satisfiable: the run `j$k` of the finding — and the conclusion is the column
    window of the *sticky* column that `sticky_column_finding` shows is not the cursor's -/
example : ∃ s, iterate 3 (exSt [106, 36, 107] 0 0) = some s ∧ ColWin s := by
  cases h : iterate 3 (exSt [106, 36, 107] 0 0) with
  | none => have := ex_iterate_some; rw [h] at this; cases this
  | some s => exact ⟨s, rfl, (col_window_reachable 80 (by decide) 3 _ s ex_good ex_colWin h ex_alive).1⟩

/-- the initial state of `vi()` has `Good cols` ... -/
theorem good_viInit (ed : Ed) (keys : Bytes) (rows cols : Int) : Good cols (viInit ed keys rows cols) :=
  Lemmas.C19f.good_viInit ed keys rows cols

/-- ... and the column window when `xleft = 0`, there is at least one column, and the cursor line (if
    any) is laid out left to right from column 0 (single-byte characters only, or more than 256
    characters): `vi()` starts with `xcol = vi_off2col(xrow, 0)` and does *not* adjust `xleft` before
    the first command -/
theorem colWin_viInit (ed : Ed) (keys : Bytes) (rows cols : Int) (hc : 0 < cols) (hl : ed.xleft = 0)
    (hline : ∀ ln, lineOf (viInit ed keys rows cols) ed.xrow = some ln → ucSlen ln = ln.length ∨ 256 < ucSlen ln) :
    ColWin (viInit ed keys rows cols) := by
  have hx := viInit_xcol_zero ed keys rows cols hline
  unfold ColWin
  rw [hx]
  show ed.xleft ≤ 0 ∧ 0 < ed.xleft + cols
  omega

open Neatvi.Drive.ViD in
/-- **the driver's runs**: for every file, key sequence and window size with at least one column, if
    the state `vi()` starts in (`initState`: `ex_init`, then `viInit`) has the sticky column inside the
    window, then so has every state at a command boundary that `runModel` records (it iterates
    `viStep` until the keys run out, the model traps or `xquit` is set) -/
theorem col_window_runModel (file : Option Bytes) (keys : Bytes) (rows cols : Int) (run : Run) (hc : 0 < cols)
    (h : runModel file keys rows cols = some run)
    (h0 : ∀ s0, initState file keys rows cols = some s0 → ColWin s0) : ∀ s ∈ run.states, ColWin s := by
  obtain ⟨ed, hi, hr⟩ := Props.C05c.runModel_inv h
  exact fun t ht => (hr (P := fun s => Good cols s ∧ ColWin s)
    (fun s u s' hp h1 hq => ⟨good_viStep cols s u s' hp.1 h1, viStep_colWin cols hc s s' hp.1 hp.2 h1 hq⟩)
    ⟨Lemmas.C19f.good_viInit _ _ _ _, h0 _ hi⟩ t ht).2

end Neatvi.Props.C19f
