import NeatviVerif.Lemmas.C19gExamples
import NeatviVerif.Lemmas.C19gMotion
/-!
# C19g  The horizontal window over whole runs: the ex layer, the first screen, every command boundary

`Props/C19f.lean` proves the invariant `xleft ≤ xcol < xleft + xcols` of the command loop of `vi()`;
its `0 ≤ xleft` half rests there on the hypothesis `ExKeepsLeft` (the ex layer keeps "no negative `xleft`,
current or saved in `bufs[].left`"), and the window of the state `vi()` starts in is a hypothesis there.

* §1 **the ex layer and `xleft`** (`Lemmas/C19gFrame.lean`, `C19gEx.lean`).  The ex
  layer writes `xleft` only in `bufs_load()` — from the `left` saved for the buffer that becomes
  current, or 0 — and a saved `left` only in `bufs_save()` (from `xleft`) and `bufs_init()` (0).  So for
  every property `P` that 0 has, "`xleft` and every saved `left` have `P`" (`LP P`) is kept by every
  handler, command line, `ex_command`, round of `ex()`, `ex_init`: `runCmd_keeps` … `exInit_keeps`,
  by the walk of the dispatcher and the induction on the fuel of the mutual block of `Model/ExCmd.lean`
  in `Lemmas/ExStepTable.lean`, read through `Lemmas/ExRel.lean` (`lk_table`: the relation "keeps `LP P`" is kept by every step on
  the current buffer and by the operations on the buffer table).
  `P = (0 ≤ ·)` is `C19f.LOk`: `ex_keeps_left : ExKeepsLeft`.
* §2 `col_invariant_reachable`: `C19f.col_invariant_reachable_full` is a theorem.  `viStep_window`:
  what one iteration does to the window from *any* state.
* §3 **the state `vi()` starts in** (`initState`: `ex_init`, `viInit`), for every file, key sequence
  and window size: `xleft = 0` and every saved `left` is 0, `xoff = 0`, the sticky column is
  `vi_off2col(xrow, 0)`; the window holds iff that column is `< cols` (`initState_spec`) — `vi()` does
  not adjust `xleft` before the first command.  It is 0 for a line of single-byte characters or of
  more than 256 characters (`initial_window_partial`).  That it is 0 for *every* first line
  (`initial_window_full`) is not proved: it is a statement about `dir_reorder` with the configured
  bidi patterns (the first character of a line is never inside a reversed run when `td = 1`).
* §4 **every command boundary of every run** (`run_window`, `runModel_window`), with no hypothesis
  but `cols > 0`: `0 ≤ xcol`, `0 ≤ xleft`, no negative saved `left`, and the column window — or else
  nothing horizontal has moved since the start (only `continue` iterations so far, and the first
  column `≥ cols`).
* §5 **the cursor on its character along runs**: `state_cursor_on_character` (one state),
  `run_cursor_on_character` (iterations that reach the end of the loop body with `mod ≠ 0`, or
  with the sticky column on the cursor character), `run_motion_cursor_on_character` (every motion
  other than `j`, `k`, `|`), `run_sticky_after_vertical_motion`, `run_sticky_cursor_on_character`
  (`j` / `k`).
* §6 **before the first command** (`first_boundary`, `first_boundary_shows`): the terminal cursor is put
  on `vi_pos(xcol)`, the *first* cell of the first character, whereas after every command it is put
  on `vi_pos(ren_cursor(xcol))`, its last cell: `first_cursor_cell_finding` (`"\tabc\n"`: cell 0 at
  the start, cell 7 after `0`; observed on `/repo/vi` in a pty: `ESC[1;1H` at the start, `ESC[1;8H`
  after `0`).
-/
namespace Neatvi.Props.C19g
open Neatvi Neatvi.Uc Neatvi.Spec Neatvi.Ren Neatvi.Render Neatvi.Lbuf Neatvi.Ex Neatvi.Mot Neatvi.Vi
open Neatvi.Lemmas.C19f Neatvi.Lemmas.C19g
open Neatvi.Lemmas.C17b (StrictInc)
open Neatvi.Props.C05c (iterate)

export Neatvi.Lemmas.C19g (LP HasZero LK StepVia edTwo twoFile lview stepModOf)

/-! ## 1. the ex layer only copies `xleft` -/

/-- `LP P ed`: `xleft` has the property `P`, and so has the `left` saved for every buffer of the
    table -/
theorem lp_iff (P : Int → Prop) (ed : Ed) :
    LP P ed ↔ (P ed.xleft ∧ ∀ bf, some bf ∈ ed.bufs → P bf.left) := Iff.rfl

/-- `C19f.LOk` is the instance `P = (0 ≤ ·)` -/
theorem lOk_iff (ed : Ed) : LOk ed ↔ LP (fun x : Int => 0 ≤ x) ed := Iff.rfl

/-- **every `ec_*` handler keeps `LP P`**, for every property `P` of integers that 0 has, every fuel,
    whatever the arguments and the return code: `:e`, `:e!`, `:e #`, `:ew`, `:e +cmd` (`bufs_open`,
    `bufs_switch`), `:b` in all its forms (`bufs_switch`, `bufs_shift`, the fresh buffer of `:b !`,
    `:b ~`), `:q` / `:wq` / `:x` / `:xa` (`bufs_switch` to the first modified buffer), `:g`, `:@`, and
    the commands that work on the current buffer. -/
theorem runCmd_keeps (P : Int → Prop) [HasZero P] (f : Nat) (ed ed' : Ed) (hd : String) (loc cmd arg : Bytes)
    (txt : Option Bytes) (r : Int) (h : runCmd f ed hd loc cmd arg txt = some (r, ed')) (hl : LP P ed) : LP P ed' :=
  runCmd_lk_all h hl

/-- a command line `c1|c2|…` -/
theorem exExec_keeps (P : Int → Prop) [HasZero P] (f : Nat) (ed ed' : Ed) (ln : Bytes) (r : Int)
    (h : exExec f ed ln = some (r, ed')) (hl : LP P ed) : LP P ed' := exExec_lk h hl

/-- `ex_command` -/
theorem exCommand_keeps (P : Int → Prop) [HasZero P] (f : Nat) (ed ed' : Ed) (ln : Bytes) (r : Int)
    (h : exCommand f ed ln = some (r, ed')) (hl : LP P ed) : LP P ed' := exCommand_lk h hl

/-- `ec_edit`, also with a `+cmd` -/
theorem ecEdit_keeps (P : Int → Prop) [HasZero P] (f : Nat) (ed ed' : Ed) (cmd arg : Bytes) (r : Int)
    (h : ecEdit f ed cmd arg = some (r, ed')) (hl : LP P ed) : LP P ed' := ecEdit_lk_all h hl

/-- one round of the `ex()` loop -/
theorem exStep_keeps (P : Int → Prop) [HasZero P] (ed ed' : Ed) (r : Int)
    (h : exStep ed = some (r, ed')) (hl : LP P ed) : LP P ed' := exStep_lk h hl

/-- `ex_init` -/
theorem exInit_keeps (P : Int → Prop) [HasZero P] (ed ed' : Ed) (files : List Bytes) (r : Int)
    (h : exInit ed files = some (r, ed')) (hl : LP P ed) : LP P ed' := exInit_lk h hl

/-- `ex_command()` as the vi loop calls it — the `:` prompt and the shortcuts that build a command line
    (`ZZ`, `^^`, `^]`, `^T`, …) -/
theorem exCommandV_keeps (P : Int → Prop) [HasZero P] (ln : Bytes) (s s' : VS) (rc : Int)
    (h : exCommandV ln s = Res.ok rc s') (hl : LP P s.ed) : LP P s'.ed := by
  rcases Lemmas.C09.exCommandV_inv h with rfl | ⟨a, u, ed, he, rfl⟩
  · exact hl
  · exact exCommand_lk he hl

/-- the table operations themselves, for every argument: `bufs_switch(idx)` saves `xleft` into the
    entry left and loads the `left` of the entry reached (0 if the slot is empty); `bufs_open` creates
    an entry with `left = 0`; `bufs_shift` loads the `left` of the entry that becomes current -/
theorem table_ops_keep (P : Int → Prop) [HasZero P] (ed : Ed) (hl : LP P ed) :
    (∀ idx, LP P (ed.bufsSwitch idx)) ∧ (∀ p, LP P (ed.bufsOpen p).2) ∧ LP P ed.bufsShift :=
  ⟨fun idx => lk_bufsSwitch ed idx hl, fun p => lk_bufsOpen ed p hl, lk_bufsShift ed hl⟩

/-- **`ExKeepsLeft`**, the hypothesis `Props/C19f.lean` leaves open: `ex_command` (with the fuel the vi
    level gives it) keeps "no negative `xleft`, current or saved in the buffer table" -/
theorem ex_keeps_left : ExKeepsLeft := exKeepsLeft

/-- the hypotheses are satisfiable and the switch is not trivial: `edTwo` has "a" current with
    `xleft = 79` and "b" parked with `left = 5`; `:b 2` runs through `ex_command`
    (`Lemmas.C19g.edTwo_command`), after it `xleft = 5` and the table remembers 79 for "a"
    (`edTwo_after`) — and the theorem gives `LOk` of that state -/
example : LOk edTwo ∧ exCommand 64 edTwo [98, 32, 50] = some (0, ((edTwo.bufsSwitch 1).modifiedAt 0).2) ∧
    ((edTwo.bufsSwitch 1).modifiedAt 0).2.xleft = 5 ∧ LOk ((edTwo.bufsSwitch 1).modifiedAt 0).2 :=
  ⟨edTwo_lOk, edTwo_command, edTwo_xleft, ex_keeps_left _ _ _ _ edTwo_command edTwo_lOk⟩

/-- CONJECTURE (false): an ex command leaves `xleft` alone -/
def ex_keeps_xleft_value : Prop :=
  ∀ (ed ed' : Ed) (ln : Bytes) (rc : Int), exCommand 64 ed ln = some (rc, ed') → ed'.xleft = ed.xleft

/-- `:b 2` on `edTwo` takes `xleft` from 79 to 5: the ex layer restores the window of the buffer it
    switches to; what it keeps is every *property* of the `xleft` values that 0 has -/
theorem ex_keeps_xleft_value_is_false : ¬ ex_keeps_xleft_value := Lemmas.C19g.ex_keeps_xleft_value_is_false

/-! ## 2. the full invariant of the command loop -/

/-- **`C19f.col_invariant_reachable_full` holds**: from a state with `Good c`, `c > 0`, the sticky column
    inside the window and no negative `xleft`, current or saved, every state reached by iterating
    `viStep` while the editor is not quitting has `xleft ≤ xcol < xleft + xcols` and `0 ≤ xleft`. -/
theorem col_invariant_reachable : Lemmas.C19f.col_invariant_reachable_full := Lemmas.C19g.col_invariant_reachable

/-- the same, spelled out -/
theorem col_invariant_reachable_spelled (c : Int) (hc : 0 < c) (n : Nat) (s₀ s : VS) (hg : Good c s₀)
    (hw : ColWin s₀) (hl : LOk s₀.ed) (h : iterate n s₀ = some s) (ha : Alive n s₀) :
    s.ed.xleft ≤ s.xcol ∧ s.xcol < s.ed.xleft + s.xcols ∧ 0 ≤ s.ed.xleft :=
  let t := col_invariant_reachable c hc n s₀ s hg hw hl h ha
  ⟨t.1.1, t.1.2, t.2⟩

/-- no negative `xleft`, current or saved, in any state reached — quitting or not -/
theorem lOk_reachable (c : Int) (hc : 0 ≤ c) (n : Nat) (s₀ s : VS) (hg : Good c s₀) (hl : LOk s₀.ed)
    (h : iterate n s₀ = some s) : LOk s.ed :=
  Lemmas.C19f.lOk_reachable exKeepsLeft c hc n s₀ s hg hl h

/-- the hypotheses are satisfiable: the run `j$k` of the recorded finding (C19f) -/
example : ∃ s, iterate 3 (exSt [106, 36, 107] 0 0) = some s ∧ ColWin s ∧ 0 ≤ s.ed.xleft := by
  cases h : iterate 3 (exSt [106, 36, 107] 0 0) with
  | none => have := ex_iterate_some; rw [h] at this; cases this
  | some s =>
    have hl : LOk (exSt [106, 36, 107] 0 0).ed := by
      refine ⟨by decide, fun bf hbf => ?_⟩
      have hm : some bf ∈ [some ({ path := [], lb := { lines := [shortLn, longLn] } } : Buf)] := hbf
      rw [List.mem_singleton] at hm
      cases hm
      decide
    have t := col_invariant_reachable 80 (by decide) 3 _ s ex_good ex_colWin hl h ex_alive
    exact ⟨s, rfl, t.1, t.2⟩

/-- **one iteration and the window, from any state**: with `Good c`, `c > 0`, whether or not the window
    holds before — an iteration that reaches the end of the loop body (and does not leave the editor
    quitting) *establishes* `xleft ≤ xcol < xleft + xcols`; an iteration that hits `continue` (no key,
    an unknown command key) leaves `xcol`, `xcols`, `xleft`, `xtd`, `xquit` as they were
    (`hsnap`, C19f). -/
theorem viStep_window (c : Int) (hc : 0 < c) (s s' : VS) (hg : Good c s)
    (h : viStep s = Res.ok () s') (hq : s'.ed.xquit = false) : ColWin s' ∨ hsnap s' = hsnap s :=
  Lemmas.C19g.viStep_window c hc s s' hg h hq

/-! ## 3. the state `vi()` starts in -/

/-- **the state `vi()` starts in** (`C19f.initState`: `ex_init` on the empty table, with the file — if
    any — in the file system, then `viInit`), for every file, key sequence and window size:
    * `xleft = 0` and the `left` saved for every buffer of the table is 0 (`LP (· = 0)`), hence `LOk`;
    * `Good cols`: the window width is `cols`, `0 ≤ xcol`, `vi_pcol = 0`, both counts 0;
    * the cursor offset is 0 and the sticky column is `vi_off2col(xrow, 0)`, the column of the first
      character of the cursor line;
    * the column window `xleft ≤ xcol < xleft + xcols` holds iff that column is `< cols`: `vi()` does
      not adjust `xleft` before the first command. -/
theorem initState_spec (file : Option Bytes) (keys : Bytes) (rows cols : Int) (s0 : VS)
    (h : initState file keys rows cols = some s0) :
    LP (fun x : Int => x = 0) s0.ed ∧ LOk s0.ed ∧ Good cols s0 ∧ s0.xcols = cols ∧ s0.ed.xoff = 0 ∧
    s0.xcol = off2col s0 s0.ed.xrow s0.ed.xoff ∧ 0 ≤ s0.xcol ∧ (ColWin s0 ↔ s0.xcol < cols) :=
  Lemmas.C19g.initState_spec file keys rows cols s0 h

/-- the hypothesis is satisfiable: `ex_init` on a file with a 120-character line and the line `short`
    (`twoFile`), evaluated by the kernel through the stages of `ec_edit` -/
example : (initState (some twoFile) [36, 106, 107] 24 80).map lview = some ([0, 0, 0, 0], [0]) := two_init

/-- `initial_window_full`: the column window holds in the state `vi()` starts in, for every file and
    every window of at least one column.  **Not proved.**  By `initState_spec` it says that the first
    character of the cursor line is in a column `< cols`; it is in column 0 unless `dir_reorder` puts
    it inside a reversed run, which the configured patterns (`conf.h`: `dirmarks`, `dircontexts`)
    never do when `td = 1` — a right-to-left run starts with an Arabic letter, and a line that starts
    with one has a right-to-left *context*, in which that run is not reversed.  That argument is about
    the regular expressions of `conf.h` and is not formalised; an exhaustive evaluation of all lines
    of up to 5 characters over 14 representative characters (Latin, Arabic, ZWNJ, blank, tab, the
    punctuation of the patterns) found column 0 throughout.  `run_window` below does not need it. -/
def initial_window_full : Prop :=
  ∀ (file : Option Bytes) (keys : Bytes) (rows cols : Int), 0 < cols → ∀ s0,
    initState file keys rows cols = some s0 → ColWin s0

/-- what is proved of `initial_window_full`: the window holds from the start — the sticky column is
    0 — when the cursor line (if any) has single-byte characters only, or more than 256 characters
    (`ren_position` then lays it out left to right).  Missing: lines with multi-byte characters of at
    most 256 characters, for which `ren_position` consults the bidi patterns. -/
theorem initial_window_partial (file : Option Bytes) (keys : Bytes) (rows cols : Int) (hc : 0 < cols) (s0 : VS)
    (h : initState file keys rows cols = some s0)
    (hline : ∀ ln, lineOf s0 s0.ed.xrow = some ln → ucSlen ln = ln.length ∨ 256 < ucSlen ln) :
    s0.xcol = 0 ∧ ColWin s0 := by
  have hs := initState_spec file keys rows cols s0 h
  obtain ⟨ed0, rc, ed, hb, hx, he, rfl⟩ := initState_some file keys rows cols s0 h
  have h0 := viInit_xcol_zero ed keys (rows - 1) cols hline
  exact ⟨h0, hs.2.2.2.2.2.2.2.2 (by rw [h0]; exact hc)⟩

/-- the hypotheses are satisfiable: `twoFile` starts with a line of 120 `a`s (`two_ascii_check`, by the
    kernel), and the theorem gives the window of the state `vi()` starts in -/
example : ∃ s0, initState (some twoFile) [36, 106, 107] 24 80 = some s0 ∧ s0.xcol = 0 ∧ ColWin s0 := by
  have e := two_ascii_check
  cases h0 : initState (some twoFile) [36, 106, 107] 24 80 with
  | none => rw [h0] at e; cases e
  | some s0 =>
    rw [h0] at e
    simp only [] at e
    have t := initial_window_partial (some twoFile) [36, 106, 107] 24 80 (by decide) s0 h0 (fun ln hl => by
      rw [hl] at e
      simp only [Option.all_some, decide_eq_true_eq] at e
      exact Or.inl e)
    exact ⟨s0, rfl, t.1, t.2⟩

/-! ## 4. every command boundary of every run -/

/-- **every command boundary of every run of `vi()`**, for every file, key sequence, number of rows
    and `cols > 0` — no other hypothesis.  `s` is the state after `n` iterations of the command loop
    from the state `vi()` starts in, none of which left the editor quitting.  Then
    * the window is `cols` wide, `0 ≤ xcol`, `0 ≤ xleft`, and no buffer of the table has a negative
      saved `left`;
    * `xleft ≤ xcol < xleft + xcols` — or else every iteration so far hit `continue`, so that `xcol`
      and `xleft = 0` are still those `vi()` started with (so if the window does not hold,
      `xcol ≥ cols` and it did not hold at the start either);
    * in particular the window holds in every state if the first character of the first cursor line
      is in a column `< cols`. -/
theorem run_window (file : Option Bytes) (keys : Bytes) (rows cols : Int) (hc : 0 < cols) (s0 : VS)
    (hi : initState file keys rows cols = some s0) (n : Nat) (s : VS) (hn : iterate n s0 = some s)
    (ha : Alive n s0) :
    s.xcols = cols ∧ 0 ≤ s.xcol ∧ 0 ≤ s.ed.xleft ∧ (∀ bf, some bf ∈ s.ed.bufs → 0 ≤ bf.left) ∧
    (ColWin s ∨ (s.xcol = s0.xcol ∧ s.ed.xleft = 0)) ∧ (s0.xcol < cols → ColWin s) :=
  Lemmas.C19g.run_window file keys rows cols hc s0 hi n s hn ha

/-- the hypotheses are satisfiable: the run `$`, `j`, `k` on `twoFile`, evaluated by the kernel
    (`two_run`: `[xrow, xoff, xcol, xleft]` is `[0,0,0,0]`, `[0,119,119,79]`, `[1,4,119,79]`,
    `[0,119,119,79]`) -/
example : ∃ s0 s, initState (some twoFile) [36, 106, 107] 24 80 = some s0 ∧ iterate 2 s0 = some s ∧
    lview s = ([1, 4, 119, 79], [0]) :=
  let ⟨s0, _, s2, _, h0, _, h2, _, v2⟩ := two_states
  ⟨s0, s2, h0, h2, v2⟩

open Neatvi.Drive.ViD in
/-- **the driver's runs**: the same of every state `runModel` records (it iterates `viStep` from
    `initState` until the keys run out, the model traps or `xquit` is set) -/
theorem runModel_window (file : Option Bytes) (keys : Bytes) (rows cols : Int) (run : Run) (hc : 0 < cols)
    (h : runModel file keys rows cols = some run) :
    ∃ s0, initState file keys rows cols = some s0 ∧ ∀ s ∈ run.states,
      s.xcols = cols ∧ 0 ≤ s.xcol ∧ 0 ≤ s.ed.xleft ∧ (∀ bf, some bf ∈ s.ed.bufs → 0 ≤ bf.left) ∧
      (ColWin s ∨ (s.xcol = s0.xcol ∧ s.ed.xleft = 0)) ∧ (s0.xcol < cols → ColWin s) := by
  obtain ⟨s0, hi, hall⟩ := runModel_states file keys rows cols run hc h
  refine ⟨s0, hi, fun s hs => ?_⟩
  obtain ⟨hz, _, _, _, _, _, _, hw⟩ := initState_spec file keys rows cols s0 hi
  obtain ⟨a, b, c, d, e, f⟩ := runInv_spec cols s0 s (hall s hs)
  have hx0 : s0.ed.xleft = 0 := hz.1
  exact ⟨a, b, c, d, by rw [hx0] at e; exact e, fun h => f (hw.mpr h)⟩

open Neatvi.Drive.ViD in
/-- the hypothesis is satisfiable: the driver runs `$`, `j`, `k` on `twoFile` (`two_runModel_some`) -/
example : ∃ run, runModel (some twoFile) [36, 106, 107] 24 80 = some run ∧ ∀ s ∈ run.states, 0 ≤ s.ed.xleft := by
  cases h : runModel (some twoFile) [36, 106, 107] 24 80 with
  | none => have := two_runModel_some; rw [h] at this; cases this
  | some run =>
    obtain ⟨s0, _, hall⟩ := runModel_window (some twoFile) [36, 106, 107] 24 80 run (by decide) h
    exact ⟨run, rfl, fun s hs => (hall s hs).2.2.1⟩

/-! ## 5. the cursor on its character, along runs -/

/-- the phases of an iteration: `viPre` (prefixes, motion), `stepCont` (the cursor update of a motion
    or the command switch; `cont = none` is `continue`), `viPost cont` (the end of the loop body with
    redraw class `mod` when `cont = some mod`) -/
theorem stepVia_iff (s s' : VS) (cont : Option Nat) :
    StepVia s s' cont ↔ ∃ r s1 s2, viPre s = Res.ok r s1 ∧
      Lemmas.C07.stepCont r.1 r.2.1 r.2.2 s1 = Res.ok cont s2 ∧ viPost cont s2 = Res.ok () s' := Iff.rfl

/-- an iteration is one of these -/
theorem viStep_via (s s' : VS) : viStep s = Res.ok () s' ↔ ∃ cont, StepVia s s' cont :=
  Lemmas.C19g.viStep_via s s'

/-- **The cursor cell shows the cursor character — as a statement about one state.**  A state with
    a valid cursor (`C07.CursorValid`: the cursor rests on a character of an existing line), a
    non-negative offset, a window of at least one column containing the sticky column, whose sticky
    column is the column of the cursor character (`xcol = vi_off2col(xrow, xoff)`), on a buffer line
    `body ++ "\n"` of valid code points with a non-empty body.  With `w` the cell width of the cursor
    character: `xcol` is its lowest visual column; every column of `[xcol, xcol + w)` maps back to
    it; `ren_cursor(xcol) = xcol + w - 1`; the cell of `xcol` is a cell of the window; and **when all
    cells of the character are inside the window, the rendered row shows the character both in the
    cell of `xcol` and in the cell the terminal cursor is put on**, which is `w - 1` cells further in
    the direction of the context. -/
theorem state_cursor_on_character (s : VS) (hcv : Props.C07.CursorValid s) (hc : 0 < s.xcols) (hw : ColWin s)
    (h0 : 0 ≤ s.ed.xoff) (hx : s.xcol = off2col s s.ed.xrow s.ed.xoff)
    (body : List Nat) (hv : ∀ c ∈ body, ValidCp c) (h10 : 10 ∉ body) (hne : body ≠ [])
    (hln : lineOf s s.ed.xrow = some (encStr (body ++ [10]))) :
    let cps := body ++ [10]
    let off := s.ed.xoff.toNat
    let pos := posTab s (encStr cps)
    let w : Int := cellWidth (cps.getD off 0) (pos.getD off 0)
    (s.ed.xoff = (off : Int) ∧ off < body.length) ∧
    (s.xcol = (pos.getD off 0 : Nat) ∧ 1 ≤ w) ∧
    (∀ p : Int, s.xcol ≤ p → p < s.xcol + w → col2off s s.ed.xrow p = (off : Nat)) ∧
    cursorCol s = s.xcol + w - 1 ∧
    (0 ≤ colCell s ∧ colCell s < s.xcols) ∧
    (s.xcol + w ≤ s.ed.xleft + s.xcols →
      rowShows s (encStr cps) (colCell s).toNat = some off ∧
      0 ≤ termCursor s ∧ termCursor s < s.xcols ∧
      rowShows s (encStr cps) (termCursor s).toNat = some off ∧
      (0 ≤ curCtx s → termCursor s = colCell s + (w - 1)) ∧
      (curCtx s < 0 → termCursor s = colCell s - (w - 1))) :=
  Lemmas.C19g.state_cursor_on_character s hcv hc hw h0 hx body hv h10 hne hln

/-- after an iteration with redraw class `mod ≠ 0` that does not leave the editor quitting, the sticky
    column is the column of the cursor character -/
theorem sticky_column_on_cursor (s s' : VS) (mod : Nat) (hmod : mod ≠ 0) (h : StepVia s s' (some mod))
    (hq : s'.ed.xquit = false) : s'.xcol = off2col s' s'.ed.xrow s'.ed.xoff :=
  stepVia_onChar s s' mod hmod h hq

/-- **`cursor_on_character` at the command boundaries of every run.**  `s` is the state after `n`
    iterations from the state `vi()` starts in (any file, keys, rows; `cols > 0`); the next iteration
    reaches the end of the loop body with redraw class `mod` and ends in `s'`, not quitting, with a
    non-negative offset; `mod ≠ 0`, or the sticky column of `s'` is the column of its cursor
    character; the cursor line of `s'` is `body ++ "\n"` (valid code points, non-empty body).  Then
    `0 ≤ xleft`, the window is `cols` wide, and — with `off` the cursor offset, `pos` the position
    table, `w` the cell width of the cursor character —
    the cursor is on a character of the body; `xcol = vi_off2col(xrow, xoff) = pos[off]`; its cell range
    maps back to it; `ren_cursor(xcol) = xcol + w - 1`; `xleft ≤ xcol < xleft + xcols`; and **if all
    cells of the cursor character are inside the window, the window cell under the terminal cursor
    shows the cursor character** (and so does the cell of `xcol`; they are `w - 1` apart). -/
theorem run_cursor_on_character (file : Option Bytes) (keys : Bytes) (rows cols : Int) (hc : 0 < cols) (s0 : VS)
    (hi : initState file keys rows cols = some s0) (n : Nat) (s s' : VS) (hn : iterate n s0 = some s)
    (mod : Nat) (hstep : StepVia s s' (some mod)) (hq : s'.ed.xquit = false) (h0 : 0 ≤ s'.ed.xoff)
    (hx : mod ≠ 0 ∨ s'.xcol = off2col s' s'.ed.xrow s'.ed.xoff)
    (body : List Nat) (hv : ∀ c ∈ body, ValidCp c) (h10 : 10 ∉ body) (hne : body ≠ [])
    (hln : lineOf s' s'.ed.xrow = some (encStr (body ++ [10]))) :
    let cps := body ++ [10]
    let off := s'.ed.xoff.toNat
    let pos := posTab s' (encStr cps)
    let w : Int := cellWidth (cps.getD off 0) (pos.getD off 0)
    0 ≤ s'.ed.xleft ∧ s'.xcols = cols ∧
    (s'.ed.xoff = (off : Int) ∧ off < body.length) ∧
    (s'.xcol = off2col s' s'.ed.xrow s'.ed.xoff ∧ s'.xcol = (pos.getD off 0 : Nat) ∧ 1 ≤ w) ∧
    (∀ p : Int, s'.xcol ≤ p → p < s'.xcol + w → col2off s' s'.ed.xrow p = (off : Nat)) ∧
    cursorCol s' = s'.xcol + w - 1 ∧
    (s'.ed.xleft ≤ s'.xcol ∧ s'.xcol < s'.ed.xleft + s'.xcols ∧ 0 ≤ colCell s' ∧ colCell s' < s'.xcols) ∧
    (s'.xcol + w ≤ s'.ed.xleft + s'.xcols →
      rowShows s' (encStr cps) (colCell s').toNat = some off ∧
      0 ≤ termCursor s' ∧ termCursor s' < s'.xcols ∧
      rowShows s' (encStr cps) (termCursor s').toNat = some off ∧
      (0 ≤ curCtx s' → termCursor s' = colCell s' + (w - 1)) ∧
      (curCtx s' < 0 → termCursor s' = colCell s' - (w - 1))) :=
  stepVia_cursor_on_character cols hc s s' mod (run_goodT file keys rows cols hc s0 hi n s hn) hstep hq h0 hx
    body hv h10 hne hln

/-- the hypotheses are satisfiable: `x` as the first command on `twoFile` — the iteration reaches the
    end of the loop body with `mod ≠ 0`, not quitting, offset 0, on the line of 119 `a`s
    (`two_x_check`, by the kernel) — and the theorem then gives the window of the state after it -/
example : ∃ s0 s' mod, initState (some twoFile) [120] 24 80 = some s0 ∧ StepVia s0 s' (some mod) ∧ mod ≠ 0 ∧
    s'.ed.xleft ≤ s'.xcol ∧ s'.xcol < s'.ed.xleft + s'.xcols ∧ 0 ≤ s'.ed.xleft := by
  obtain ⟨s0, s', mod, h0, hv, hm, hq, hoff, hln⟩ := two_x_step
  have t := run_cursor_on_character (some twoFile) [120] 24 80 (by decide) s0 h0 0 s0 s' rfl mod hv hq hoff
    (Or.inl hm) (List.replicate 119 97)
    (by intro c hc; rw [List.eq_of_mem_replicate hc]; decide)
    (by intro h; have := List.eq_of_mem_replicate h; omega) (by simp) hln
  exact ⟨s0, s', mod, h0, hv, hm, t.2.2.2.2.2.2.1.1, t.2.2.2.2.2.2.1.2.1, t.1⟩

/-- the hypotheses of `state_cursor_on_character` are satisfiable: the state after `x` as the first command on `twoFile` (`two_x_check`)
    — its cursor is valid because the iteration ended with `vi_wfix()` (`C07.viPost_cursor_valid`), its
    sticky column is on the cursor because `mod ≠ 0`, the window and its width come from
    `run_cursor_on_character` -/
example : ∃ s' : VS, Props.C07.CursorValid s' ∧ 0 < s'.xcols ∧ ColWin s' ∧ 0 ≤ s'.ed.xoff ∧
    s'.xcol = off2col s' s'.ed.xrow s'.ed.xoff ∧
    lineOf s' s'.ed.xrow = some (encStr (List.replicate 119 97 ++ [10])) := by
  obtain ⟨s0, s', mod, h0, hv, hm, hq, hoff, hln⟩ := two_x_step
  have hcv : Props.C07.CursorValid s' := by
    obtain ⟨r, s1, s2, _, _, hpost⟩ := hv
    exact (Props.C07.viPost_cursor_valid mod s2 s' hpost).1
  have t := run_cursor_on_character (some twoFile) [120] 24 80 (by decide) s0 h0 0 s0 s' rfl mod hv hq hoff
    (Or.inl hm) (List.replicate 119 97)
    (by intro c hc; rw [List.eq_of_mem_replicate hc]; decide)
    (by intro h; have := List.eq_of_mem_replicate h; omega) (by simp) hln
  exact ⟨s', hcv, by rw [t.2.1]; decide, ⟨t.2.2.2.2.2.2.1.1, t.2.2.2.2.2.2.1.2.1⟩, hoff, t.2.2.2.1.1, hln⟩

/-- **... and after every horizontal motion.**  The redraw class of a motion is 0, but a motion other
    than `j`, `k`, `|` assigns `xcol = vi_off2col(xrow, xoff)` itself (vi.c:1560).  For the iteration of a
    state `s` of a run (not quitting) whose motion — what `viPre` returns — is `mv > 0`, not `j`, `k`, `|`,
    to a row `nrow` whose line is `body ++ "\n"` (valid code points, non-empty body): at the next
    command boundary the row is `nrow`, the offset is not negative, the sticky column is the column
    of the cursor character, and all conclusions of `run_cursor_on_character` hold — no hypothesis
    about the state after the iteration. -/
theorem run_motion_cursor_on_character (file : Option Bytes) (keys : Bytes) (rows cols : Int) (hc : 0 < cols)
    (s0 : VS) (hi : initState file keys rows cols = some s0) (n : Nat) (s s1 s' : VS) (hn : iterate n s0 = some s)
    (hq : s.ed.xquit = false) (mv nrow noff : Int) (hpos : 0 < mv) (h1 : mv ≠ 106) (h2 : mv ≠ 107) (h3 : mv ≠ 124)
    (hpre : viPre s = Res.ok (mv, nrow, noff) s1) (h : viStep s = Res.ok () s')
    (body : List Nat) (hv : ∀ c ∈ body, ValidCp c) (h10 : 10 ∉ body) (hne : body ≠ [])
    (hln : lineOf s nrow = some (encStr (body ++ [10]))) :
    let cps := body ++ [10]
    let off := s'.ed.xoff.toNat
    let pos := posTab s' (encStr cps)
    let w : Int := cellWidth (cps.getD off 0) (pos.getD off 0)
    (s'.ed.xrow = nrow ∧ s'.ed.xquit = false ∧ lineOf s' s'.ed.xrow = some (encStr cps)) ∧
    0 ≤ s'.ed.xleft ∧ s'.xcols = cols ∧
    (s'.ed.xoff = (off : Int) ∧ off < body.length) ∧
    (s'.xcol = off2col s' s'.ed.xrow s'.ed.xoff ∧ s'.xcol = (pos.getD off 0 : Nat) ∧ 1 ≤ w) ∧
    (∀ p : Int, s'.xcol ≤ p → p < s'.xcol + w → col2off s' s'.ed.xrow p = (off : Nat)) ∧
    cursorCol s' = s'.xcol + w - 1 ∧
    (s'.ed.xleft ≤ s'.xcol ∧ s'.xcol < s'.ed.xleft + s'.xcols ∧ 0 ≤ colCell s' ∧ colCell s' < s'.xcols) ∧
    (s'.xcol + w ≤ s'.ed.xleft + s'.xcols →
      rowShows s' (encStr cps) (colCell s').toNat = some off ∧
      0 ≤ termCursor s' ∧ termCursor s' < s'.xcols ∧
      rowShows s' (encStr cps) (termCursor s').toNat = some off ∧
      (0 ≤ curCtx s' → termCursor s' = colCell s' + (w - 1)) ∧
      (curCtx s' < 0 → termCursor s' = colCell s' - (w - 1))) := by
  intro cps off pos w
  obtain ⟨hvia, k1, k2, k3, k4, k5⟩ := stepVia_hmotion s s1 s' mv nrow noff hpos h1 h2 h3 hq hpre h _ hln
    (body_line body hv h10 hne).2.1
  exact ⟨⟨k3, k4, k5⟩, run_cursor_on_character file keys rows cols hc s0 hi n s s' hn 0 hvia k4 k2 (Or.inr k1)
    body hv h10 hne k5⟩

/-- the hypotheses are satisfiable: `$` as the first command on `twoFile` (`two_dollar_check`, by the
    kernel); the theorem puts the cursor on the last `a` (offset 119, column 119) inside the window -/
example : ∃ s0 s', initState (some twoFile) [36, 106, 107] 24 80 = some s0 ∧ viStep s0 = Res.ok () s' ∧
    s'.xcol = off2col s' s'.ed.xrow s'.ed.xoff ∧ s'.ed.xleft ≤ s'.xcol ∧ s'.xcol < s'.ed.xleft + s'.xcols := by
  obtain ⟨s0, s1, _, _, h0, h1, _⟩ := two_states
  have hs' : viStep s0 = Res.ok () s1 := viStep_of_iterate (n := 0) rfl h1
  have e := two_dollar_check
  rw [h0] at e
  simp only [Bool.and_eq_true, decide_eq_true_eq, Bool.not_eq_true'] at e
  obtain ⟨⟨hpre, hq⟩, hln⟩ := e
  obtain ⟨noff, sp, hp⟩ := pre_of_check hpre
  have t := run_motion_cursor_on_character (some twoFile) [36, 106, 107] 24 80 (by decide) s0 h0 0 s0 sp s1 rfl
    hq 36 0 noff (by decide) (by decide) (by decide) (by decide) hp hs' (List.replicate 120 97)
    (by intro c hc; rw [List.eq_of_mem_replicate hc]; decide)
    (by intro h; have := List.eq_of_mem_replicate h; omega) (by simp) hln
  exact ⟨s0, s1, h0, hs', t.2.2.2.2.1.1, t.2.2.2.2.2.2.2.1.1, t.2.2.2.2.2.2.2.1.2.1⟩

/-- **`j` / `k` at the command boundaries of every run**: the statement of
    `C19f.sticky_after_vertical_motion` for the iteration of a state `s` of a run (not quitting) whose
    motion — what `viPre` returns — is `j` or `k` to the row `nrow`, a buffer line `body ++ "\n"`.  About
    the state `s3` at the next command boundary: it is not quitting, has the column window (of the
    *sticky* column) and `0 ≤ xleft`; the sticky column is unchanged, the row is `nrow`, `xleft` is
    adjusted to the sticky column (`postLeft`); the cursor is on a character of the body; whenever the
    sticky column falls on a cell of a character of the body the cursor is on that character; and on
    a table that increases with the offset the cursor character is at or left of the sticky column —
    the last character of the line, entirely left of it, when the line is not as wide (the recorded
    finding `sticky_column_keeps_xleft_beyond_the_cursor`). -/
theorem run_sticky_after_vertical_motion (file : Option Bytes) (keys : Bytes) (rows cols : Int) (hc : 0 < cols)
    (s0 : VS) (hi : initState file keys rows cols = some s0) (n : Nat) (s s1 s3 : VS) (hn : iterate n s0 = some s)
    (hq : s.ed.xquit = false) (mv nrow noff : Int) (hjk : mv = 106 ∨ mv = 107)
    (hpre : viPre s = Res.ok (mv, nrow, noff) s1) (h : viStep s = Res.ok () s3)
    (body : List Nat) (hv : ∀ c ∈ body, ValidCp c) (h10 : 10 ∉ body) (hne : body ≠ [])
    (hln : lineOf s nrow = some (encStr (body ++ [10]))) :
    let cps := body ++ [10]
    let pos := posTab s3 (encStr cps)
    let off := s3.ed.xoff.toNat
    let w : Int := cellWidth (cps.getD off 0) (pos.getD off 0)
    let col : Int := off2col s3 s3.ed.xrow s3.ed.xoff
    (s3.ed.xquit = false ∧ ColWin s3 ∧ 0 ≤ s3.ed.xleft ∧ s3.xcols = cols) ∧
    (s3.xcol = s.xcol ∧ s3.ed.xrow = nrow ∧ lineOf s3 nrow = some (encStr cps) ∧
      s3.ed.xleft = postLeft s.xcol s.ed.xleft s.xcols) ∧
    (s3.ed.xoff = (off : Int) ∧ off < body.length ∧ col = (pos.getD off 0 : Nat)) ∧
    (∀ i, i < body.length → (pos.getD i 0 : Nat) ≤ s3.xcol →
      s3.xcol < (pos.getD i 0 : Nat) + (cellWidth (cps.getD i 0) (pos.getD i 0) : Int) → off = i) ∧
    (StrictInc pos cps.length → (pos.getD 0 0 : Nat) ≤ s3.xcol →
      col ≤ s3.xcol ∧
      (s3.xcol < (pos.getD body.length 0 : Nat) → s3.xcol < col + w) ∧
      ((pos.getD body.length 0 : Nat) ≤ s3.xcol → off + 1 = body.length ∧ col + w ≤ s3.xcol)) :=
  stepVia_sticky cols hc s s1 s3 mv nrow noff hjk (run_goodT file keys rows cols hc s0 hi n s hn) hq hpre h
    body hv h10 hne hln

/-- the hypotheses are satisfiable: the second command of the run `$`, `j`, `k` on `twoFile` is `j` to
    row 1, the line `short` (`two_j_check`, by the kernel); the theorem then says the sticky column
    is still that of the state before -/
example : ∃ s0 s s3, initState (some twoFile) [36, 106, 107] 24 80 = some s0 ∧ iterate 1 s0 = some s ∧
    viStep s = Res.ok () s3 ∧ s3.xcol = s.xcol ∧ s3.ed.xrow = 1 ∧ ColWin s3 := by
  obtain ⟨s0, s1, s2, _, h0, h1, h2, _⟩ := two_states
  have hs3 : viStep s1 = Res.ok () s2 := viStep_of_iterate h1 h2
  have e := two_j_check
  rw [h0] at e
  simp only [Option.bind_some, h1, Bool.and_eq_true, decide_eq_true_eq, Bool.not_eq_true'] at e
  obtain ⟨⟨hpre, hq⟩, hln⟩ := e
  obtain ⟨noff, sp, hp⟩ := pre_of_check hpre
  have t := run_sticky_after_vertical_motion (some twoFile) [36, 106, 107] 24 80 (by decide) s0 h0 1 s1 sp s2 h1
    hq 106 1 noff (Or.inl rfl) hp hs3 shortBody (by decide) (by decide) (by decide) hln
  exact ⟨s0, s1, s2, h0, h1, hs3, t.2.1.1, t.2.1.2.1, t.1.2.1⟩

/-- **... and then the cursor is on its character**: `C19f.sticky_cursor_on_character` for the iteration
    of a state of a run.  After `j` / `k`, if the sticky column falls on a cell of a character `i` of the
    body all of whose cells are inside the window: the cursor is on `i`, `ren_cursor(xcol)` is its
    highest visual column, and the rendered row shows `i` both in the cell of the sticky column and
    in the cell of the terminal cursor. -/
theorem run_sticky_cursor_on_character (file : Option Bytes) (keys : Bytes) (rows cols : Int) (hc : 0 < cols)
    (s0 : VS) (hi : initState file keys rows cols = some s0) (n : Nat) (s s1 s3 : VS) (hn : iterate n s0 = some s)
    (hq : s.ed.xquit = false) (mv nrow noff : Int) (hjk : mv = 106 ∨ mv = 107)
    (hpre : viPre s = Res.ok (mv, nrow, noff) s1) (h : viStep s = Res.ok () s3)
    (body : List Nat) (hv : ∀ c ∈ body, ValidCp c) (h10 : 10 ∉ body) (hne : body ≠ [])
    (hln : lineOf s nrow = some (encStr (body ++ [10])))
    (i : Nat) (hib : i < body.length)
    (hp1 : ((posTab s3 (encStr (body ++ [10]))).getD i 0 : Nat) ≤ s3.xcol)
    (hp2 : s3.xcol < ((posTab s3 (encStr (body ++ [10]))).getD i 0 : Nat) +
      (cellWidth ((body ++ [10]).getD i 0) ((posTab s3 (encStr (body ++ [10]))).getD i 0) : Int))
    (hin1 : s3.ed.xleft ≤ ((posTab s3 (encStr (body ++ [10]))).getD i 0 : Nat))
    (hin2 : ((posTab s3 (encStr (body ++ [10]))).getD i 0 : Nat) +
      (cellWidth ((body ++ [10]).getD i 0) ((posTab s3 (encStr (body ++ [10]))).getD i 0) : Int) ≤
        s3.ed.xleft + s3.xcols) :
    s3.ed.xoff = (i : Nat) ∧
    cursorCol s3 = ((posTab s3 (encStr (body ++ [10]))).getD i 0 : Nat) +
      (cellWidth ((body ++ [10]).getD i 0) ((posTab s3 (encStr (body ++ [10]))).getD i 0) : Int) - 1 ∧
    0 ≤ colCell s3 ∧ colCell s3 < s3.xcols ∧ rowShows s3 (encStr (body ++ [10])) (colCell s3).toNat = some i ∧
    0 ≤ termCursor s3 ∧ termCursor s3 < s3.xcols ∧
    rowShows s3 (encStr (body ++ [10])) (termCursor s3).toNat = some i :=
  stepVia_sticky_cursor cols hc s s1 s3 mv nrow noff hjk (run_goodT file keys rows cols hc s0 hi n s hn) hq hpre h
    body hv h10 hne hln i hib hp1 hp2 hin1 hin2

/-- the hypotheses are satisfiable: the run `l`, `l`, `l`, `j` on `twoFile` — the fourth command is `j` from
    column 3 (`near_check`, by the kernel: the hypotheses about the final state hold with `i = 3`);
    the theorem puts the cursor on the `r` of `short` and shows it in the cursor cell -/
example : ∃ s0 s s3, initState (some twoFile) [108, 108, 108, 106] 24 80 = some s0 ∧ iterate 3 s0 = some s ∧
    viStep s = Res.ok () s3 ∧ s3.ed.xoff = 3 ∧
    rowShows s3 (encStr (shortBody ++ [10])) (termCursor s3).toNat = some 3 := by
  have e := near_check
  cases h0 : initState (some twoFile) [108, 108, 108, 106] 24 80 with
  | none => rw [h0] at e; cases e
  | some s0 =>
    rw [h0] at e
    simp only [Option.bind_some] at e
    cases h1 : iterate 3 s0 with
    | none => rw [h1] at e; cases e
    | some s =>
      rw [h1] at e
      simp only [Bool.and_eq_true] at e
      obtain ⟨⟨⟨hpre, hq⟩, hln⟩, hfin⟩ := e
      obtain ⟨noff, s1, hp⟩ := pre_of_check hpre
      cases hv : viStep s with
      | ok u s3 =>
        rw [hv] at hfin
        simp only [Bool.and_eq_true, decide_eq_true_eq] at hfin
        obtain ⟨⟨⟨⟨e1, e2⟩, e3⟩, e4⟩, _⟩ := hfin
        have t := run_sticky_cursor_on_character (some twoFile) [108, 108, 108, 106] 24 80 (by decide) s0 h0 3 s s1 s3
          h1 (by simpa using hq) 106 1 noff (Or.inl rfl) hp hv shortBody (by decide) (by decide) (by decide)
          (of_decide_eq_true hln) 3 (by decide) e1 e2 e3 e4
        exact ⟨s0, s, s3, rfl, h1, hv, t.1, t.2.2.2.2.2.2.2⟩
      | eof => rw [hv] at hfin; cases hfin
      | trap => rw [hv] at hfin; cases hfin

/-! ## 6. before the first command -/

/-- **The first command boundary.**  `vi()` sets `xoff = 0`, `xcol = vi_off2col(xrow, 0)` and puts the
    terminal cursor on `vi_pos(xcol)` (vi.c:1524–1528) without adjusting `xleft` (which `ex_init` left 0)
    and without `ren_cursor`: in the state `vi()` starts in
    * `xleft = 0`, `xoff = 0`, the window is `cols` wide, `0 ≤ xcol = vi_off2col(xrow, xoff)`;
    * the column window holds iff `xcol < cols`;
    * the cell of the terminal cursor, `vi_pos(xcol)`, is `xcol` in a left-to-right context and
      `cols - 1 - xcol` in a right-to-left one;
    * `xcol = 0` when there is no cursor line (an empty buffer). -/
theorem first_boundary (file : Option Bytes) (keys : Bytes) (rows cols : Int) (s0 : VS)
    (hi : initState file keys rows cols = some s0) :
    s0.ed.xleft = 0 ∧ s0.ed.xoff = 0 ∧ s0.xcols = cols ∧ s0.xcol = off2col s0 s0.ed.xrow s0.ed.xoff ∧ 0 ≤ s0.xcol ∧
    (ColWin s0 ↔ s0.xcol < cols) ∧
    (0 ≤ curCtx s0 → colCell s0 = s0.xcol) ∧ (curCtx s0 < 0 → colCell s0 = cols - s0.xcol - 1) ∧
    (lineOf s0 s0.ed.xrow = none → s0.xcol = 0) :=
  Lemmas.C19g.first_boundary file keys rows cols s0 hi

/-- **What the first screen shows under the cursor.**  When the cursor line of the state `vi()` starts
    in is `body ++ "\n"` (valid code points, non-empty body), with `w` the cell width of its first
    character: `xcol` is that character's lowest visual column, `ren_cursor(xcol) = xcol + w - 1`, and
    if all its cells are inside the window (`xcol + w ≤ cols`) the rendered row shows it both in the
    cell `vi_pos(xcol)` the terminal cursor is *first* put on and in the cell `vi_pos(ren_cursor(xcol))`
    it is put on after every command; the two are `w - 1` cells apart. -/
theorem first_boundary_shows (file : Option Bytes) (keys : Bytes) (rows cols : Int) (hc : 0 < cols) (s0 : VS)
    (hi : initState file keys rows cols = some s0)
    (body : List Nat) (hv : ∀ c ∈ body, ValidCp c) (h10 : 10 ∉ body) (hne : body ≠ [])
    (hln : lineOf s0 s0.ed.xrow = some (encStr (body ++ [10]))) :
    let cps := body ++ [10]
    let pos := posTab s0 (encStr cps)
    let w : Int := cellWidth (cps.getD 0 0) (pos.getD 0 0)
    s0.xcol = (pos.getD 0 0 : Nat) ∧ 1 ≤ w ∧ cursorCol s0 = s0.xcol + w - 1 ∧
    (s0.xcol + w ≤ cols →
      0 ≤ colCell s0 ∧ colCell s0 < cols ∧ rowShows s0 (encStr cps) (colCell s0).toNat = some 0 ∧
      0 ≤ termCursor s0 ∧ termCursor s0 < cols ∧ rowShows s0 (encStr cps) (termCursor s0).toNat = some 0 ∧
      (0 ≤ curCtx s0 → termCursor s0 = colCell s0 + (w - 1)) ∧
      (curCtx s0 < 0 → termCursor s0 = colCell s0 - (w - 1))) := by
  intro cps pos w
  obtain ⟨hx0, h2, h1, h3, h4, _⟩ := first_boundary file keys rows cols s0 hi
  have hvc := (body_line body hv h10 hne).1
  have hlen : 0 < body.length := List.length_pos_iff.mpr hne
  have hlt : 0 < cps.length := by show 0 < (body ++ [10]).length; simp
  have hnl : cps.getD 0 0 ≠ 10 := (wfCps_of_body body hv h10 hne).inner 0 (by show 0 + 1 < (body ++ [10]).length; simp; omega)
  have hxo : s0.ed.xoff = ((0 : Nat) : Int) := by rw [h2]; rfl
  obtain ⟨c1, c2, _, c4⟩ := cursor_columns s0 cps hvc hln 0 hxo hlt hnl h3
  refine ⟨c1, (by show (1 : Int) ≤ ((cellWidth (cps.getD 0 0) (pos.getD 0 0) : Nat) : Int); exact_mod_cast c2), c4, fun hr => ?_⟩
  have key := cursor_cells s0 cps hvc (by rw [h1]; exact hc) hln 0 hxo hlt hnl h3 (by rw [hx0]; exact h4)
    (by rw [hx0, h1]; show s0.xcol + w ≤ 0 + cols; omega)
  simp only [] at key
  rw [h1] at key
  exact key

/-- the hypotheses are satisfiable: `"\tabc\n"` (`tab_line_check`); the theorem says the first character,
    the tab, starts in the sticky column and `ren_cursor` is `w - 1` columns further -/
example : ∃ s0, initState (some [9, 97, 98, 99, 10]) [48] 24 80 = some s0 ∧
    cursorCol s0 = s0.xcol + (cellWidth 9 ((posTab s0 (encStr ([9, 97, 98, 99] ++ [10]))).getD 0 0) : Int) - 1 := by
  have e := tab_line_check
  cases h0 : initState (some [9, 97, 98, 99, 10]) [48] 24 80 with
  | none => rw [h0] at e; cases e
  | some s0 =>
    rw [h0] at e
    simp only [decide_eq_true_eq] at e
    have t := first_boundary_shows (some [9, 97, 98, 99, 10]) [48] 24 80 (by decide) s0 h0 [9, 97, 98, 99]
      (by decide) (by decide) (by decide) e
    exact ⟨s0, rfl, t.2.2.1⟩

/-- CONJECTURE (false): the terminal cursor is first put where it is put after every command, on
    `vi_pos(ren_cursor(xcol))` -/
def first_cursor_is_command_cursor : Prop :=
  ∀ (file : Option Bytes) (keys : Bytes) (rows cols : Int) (s0 : VS),
    initState file keys rows cols = some s0 → colCell s0 = termCursor s0

/-- **finding (new, cosmetic): the first cursor position is the first cell of a wide first
    character.**  On the file `"\tabc\n"` (80 columns) `vi()` starts with `xcol = 0`; the tab takes
    columns 0–7 and `ren_cursor(0) = 7`.  Before the first command the terminal cursor is put on
    `vi_pos(0)`, cell 0 (vi.c:1528 does not call `ren_cursor`); after the command `0`, which changes
    nothing (`tab_checks`: the same `xcol`, `xoff`, `xleft`, `ren_cursor`), it is put on
    `vi_pos(ren_cursor(0))`, cell 7 (vi.c:1895) — 7 cells away.  Observed on `/repo/vi` in a pty:
    `ESC[1;1H` at the start, `ESC[1;8H` after `0`. -/
theorem first_cursor_cell_finding : ¬ first_cursor_is_command_cursor := Lemmas.C19g.first_cursor_cell_finding

/-- the same state in the model's terms (`view`: `[xrow, xoff, xcol, xleft, ren_cursor(xcol),
    vi_pos(ren_cursor(xcol)), vi_pos(xcol)]`), with `td = 0` so that the kernel decides the context of the
    line without the regex engine: at the start and after `0` the view is `[0, 0, 0, 0, 7, 7, 0]` -/
theorem first_cursor_cell_view :
    view tabInit = [0, 0, 0, 0, 7, 7, 0] ∧ viewAfter 1 tabInit = some [0, 0, 0, 0, 7, 7, 0] := tabInit_views

end Neatvi.Props.C19g
