import NeatviVerif.Lemmas.C20bTable
import NeatviVerif.Lemmas.C02Ex
import NeatviVerif.Lemmas.C20Dispatch
import NeatviVerif.Lemmas.C20cFrame
/-!
# C20b  The buffer table under `:b !` (delete), `:b ~` (renumber), `:b +`, `:b -`; buffer numbers are unique

Complements `Props/C20.lean` (switching).  All statements are about `runCmd … "ec_buffer"`,
`Ed.bufsShift`, `Ed.bufsOpen`, `Ed.bufsSwitch` as the model defines them.
-/
namespace Neatvi.Props.C20b
open Neatvi Neatvi.Lbuf Neatvi.Ex Neatvi.Props.C20 Neatvi.Lemmas.C20b

/-! ### `ec_buffer` with an argument, piece by piece -/

/-- the empty unnamed buffer `:b !` creates when no buffer is left -/
def freshBuf (ed : Ed) : Buf := { path := [], lb := Lbuf.make, id := ed.bufsCnt + 1 }

/-- `:b !` -/
def delEd (ed : Ed) : Ed :=
  if ed.bufsShift.cur.isNone then
    { ed.bufsShift with bufs := ed.bufsShift.bufs.set 0 (some (freshBuf ed.bufsShift)),
                        bufsCnt := ed.bufsShift.bufsCnt + 1 }
  else ed.bufsShift

/-- `:b ~` -/
def renumEd (ed : Ed) : Ed :=
  { ed with bufs := (ed.bufs.foldl renumStep ([], 0)).1, bufsCnt := (ed.bufs.foldl renumStep ([], 0)).2 }

/-- the number of the current buffer (0 when there is none) -/
def curId (ed : Ed) : Int := (ed.cur.map (·.id)).getD 0

/-- the number of the buffer in slot `i` -/
def _root_.Neatvi.Lemmas.C20c.idAt (ed : Ed) (i : Nat) : Option Int := (ed.bufs.getD i none).map (·.id)

/-- the slot `:b +` computes -/
def nextIdx (ed : Ed) : Int :=
  pickFold (Lemmas.C20c.idAt ed) (fun x => decide (x > curId ed)) (fun x y => decide (x < y)) ed.bufs.length

/-- the slot `:b -` computes -/
def prevIdx (ed : Ed) : Int :=
  pickFold (Lemmas.C20c.idAt ed) (fun x => decide (x < curId ed)) (fun x y => decide (x > y)) ed.bufs.length

/-- the end of `ec_buffer`: switch to slot `idx` if it holds a buffer and the unsaved-changes guard
    lets go; otherwise fail -/
def switchTo (ed : Ed) (cmd : Bytes) (idx : Int) : R Int :=
  if idx ≥ 0 && idx < ed.bufs.length && (ed.bufs.getD idx.toNat none).isSome then
    match bufferGuard ed cmd with
    | none => none
    | some (true, ed) => some (1, ed)
    | some (false, ed) => some (0, ed.bufsSwitch idx.toNat)
  else some (1, ed.show (strOf "no such buffer"))

/-- the slot `:b arg` selects (`arg` a number, `+`, `-` or an alias) -/
def bufIdx (ed : Ed) (arg : Bytes) : Int :=
  if isDigitC (arg.headD 0) then
    (match (List.range ed.bufs.length).find? (fun i => Lemmas.C20c.idAt ed i == some (exAtoi arg)) with
      | some i => i
      | none => ed.bufs.length)
  else if arg.headD 0 == 45 then prevIdx ed
  else if arg.headD 0 == 43 then nextIdx ed
  else match (List.range 3).find? (fun i => (strOf "%#^").getD i 0 == arg.headD 0) with
    | some i => i
    | none => -1

theorem ecBufferTail_eq (ed : Ed) (cmd arg : Bytes) :
    ecBufferTail ed cmd arg =
      if arg.headD 0 == 33 then some (0, delEd ed)
      else if arg.headD 0 == 126 then some (0, renumEd ed)
      else switchTo ed cmd (bufIdx ed arg) := by
  by_cases h33 : (arg.headD 0 == 33) = true
  · rw [if_pos h33]
    unfold ecBufferTail delEd freshBuf
    simp only [h33, if_true]
    split <;> rfl
  · rw [if_neg h33]
    by_cases h126 : (arg.headD 0 == 126) = true
    · rw [if_pos h126]
      unfold ecBufferTail renumEd
      simp only [h33, h126, Bool.false_eq_true, if_false, if_true]
      rfl
    · rw [if_neg h126]
      unfold ecBufferTail
      rw [if_neg h33, if_neg h126]
      rfl

theorem isEmpty_of_headD {arg : Bytes} {c : Nat} (h : arg.headD 0 = c) (hc : c ≠ 0) : arg.isEmpty = false := by
  cases arg with
  | nil => exact absurd h.symm hc
  | cons a l => rfl

/-- `:b !` is `delEd` -/
theorem runCmd_b_delete (f : Nat) (ed : Ed) (loc cmd arg : Bytes) (txt : Option Bytes) (h : arg.headD 0 = 33) :
    runCmd (f + 1) ed "ec_buffer" loc cmd arg txt = some (0, delEd ed) := by
  rw [runCmd_buffer f ed loc cmd arg txt (isEmpty_of_headD h (by decide)), ecBufferTail_eq, if_pos (by rw [h]; rfl)]

/-- `:b ~` is `renumEd` -/
theorem runCmd_b_renumber (f : Nat) (ed : Ed) (loc cmd arg : Bytes) (txt : Option Bytes) (h : arg.headD 0 = 126) :
    runCmd (f + 1) ed "ec_buffer" loc cmd arg txt = some (0, renumEd ed) := by
  rw [runCmd_buffer f ed loc cmd arg txt (isEmpty_of_headD h (by decide)), ecBufferTail_eq, if_neg (by rw [h]; decide),
    if_pos (by rw [h]; rfl)]

/-- `:b +` switches to `nextIdx` -/
theorem runCmd_b_next (f : Nat) (ed : Ed) (loc cmd arg : Bytes) (txt : Option Bytes) (h : arg.headD 0 = 43) :
    runCmd (f + 1) ed "ec_buffer" loc cmd arg txt = switchTo ed cmd (nextIdx ed) := by
  rw [runCmd_buffer f ed loc cmd arg txt (isEmpty_of_headD h (by decide)), ecBufferTail_eq, if_neg (by rw [h]; decide),
    if_neg (by rw [h]; decide)]
  unfold bufIdx
  rw [h]
  rfl

/-- `:b -` switches to `prevIdx` -/
theorem runCmd_b_prev (f : Nat) (ed : Ed) (loc cmd arg : Bytes) (txt : Option Bytes) (h : arg.headD 0 = 45) :
    runCmd (f + 1) ed "ec_buffer" loc cmd arg txt = switchTo ed cmd (prevIdx ed) := by
  rw [runCmd_buffer f ed loc cmd arg txt (isEmpty_of_headD h (by decide)), ecBufferTail_eq, if_neg (by rw [h]; decide),
    if_neg (by rw [h]; decide)]
  unfold bufIdx
  rw [h]
  rfl

/-! ### D1: `bufs_shift()` -/

theorem bufsLoad_frame (ed : Ed) :
    ed.bufsLoad.bufs = ed.bufs ∧ ed.bufsLoad.files = ed.files ∧ ed.bufsLoad.bufsCnt = ed.bufsCnt ∧
    ed.bufsLoad.regs = ed.regs.put 37 ((ed.cur.map (·.path)).getD []) 0 := by
  unfold Ed.bufsLoad
  split
  · next b h => rw [h]; exact ⟨rfl, rfl, rfl, rfl⟩
  · next h => rw [h]; exact ⟨rfl, rfl, rfl, rfl⟩

theorem bufsLoad_view_none (ed : Ed) (h : ed.cur = none) :
    ed.bufsLoad.cur = none ∧ ed.bufsLoad.xrow = 0 ∧ ed.bufsLoad.xoff = 0 ∧
    ed.bufsLoad.xtop = 0 ∧ ed.bufsLoad.xleft = 0 ∧ ed.bufsLoad.xtd = 0 := by
  unfold Ed.bufsLoad
  rw [h]
  exact ⟨h, rfl, rfl, rfl, rfl, rfl⟩

theorem bufsShift_bufs (ed : Ed) : ed.bufsShift.bufs = ed.bufs.drop 1 ++ [none] := by
  unfold Ed.bufsShift; rw [bufsLoad_bufs]

theorem bufsShift_getD (ed : Ed) (i : Nat) : ed.bufsShift.bufs.getD i none = ed.bufs.getD (i + 1) none := by
  rw [bufsShift_bufs, getD_shift]

theorem bufsShift_cur (ed : Ed) : ed.bufsShift.cur = ed.bufs.getD 1 none := by
  unfold Ed.cur; rw [bufsShift_getD]

/-- **D1.** `bufs_shift()`: the table keeps its length; slot `i` holds what slot `i + 1` held (for
    every `i`: the last slot becomes empty); the file system and the counter of buffer numbers are
    untouched; the editor's view is loaded by `bufs_load()` from the new slot 0 — the stored
    position of that buffer, or zeros when there is none; register `%` is set to its path.
    (The registers are *not* unchanged: `bufs_load()` sets `%`.) -/
theorem bufsShift_spec (ed : Ed) :
    ed.bufsShift = ({ ed with bufs := ed.bufs.drop 1 ++ [none] }).bufsLoad ∧
    (0 < ed.bufs.length → ed.bufsShift.bufs.length = ed.bufs.length) ∧
    (∀ i, ed.bufsShift.bufs.getD i none = ed.bufs.getD (i + 1) none) ∧
    ed.bufsShift.bufs.getD (ed.bufs.length - 1) none = none ∧
    ed.bufsShift.files = ed.files ∧ ed.bufsShift.bufsCnt = ed.bufsCnt ∧
    ed.bufsShift.regs = ed.regs.put 37 (((ed.bufs.getD 1 none).map (·.path)).getD []) 0 ∧
    (∀ b, ed.bufs.getD 1 none = some b →
      ed.bufsShift.cur = some b ∧ ed.bufsShift.xrow = b.row ∧ ed.bufsShift.xoff = b.off ∧
      ed.bufsShift.xtop = b.top ∧ ed.bufsShift.xleft = b.left ∧ ed.bufsShift.xtd = b.td) ∧
    (ed.bufs.getD 1 none = none →
      ed.bufsShift.cur = none ∧ ed.bufsShift.xrow = 0 ∧ ed.bufsShift.xoff = 0 ∧
      ed.bufsShift.xtop = 0 ∧ ed.bufsShift.xleft = 0 ∧ ed.bufsShift.xtd = 0) := by
  have hcur : ({ ed with bufs := ed.bufs.drop 1 ++ [none] } : Ed).cur = ed.bufs.getD 1 none := by
    show (ed.bufs.drop 1 ++ [none]).getD 0 none = _
    rw [getD_shift]
  obtain ⟨_, hf, hc, hr⟩ := bufsLoad_frame { ed with bufs := ed.bufs.drop 1 ++ [none] }
  refine ⟨rfl, ?_, bufsShift_getD ed, ?_, hf, hc, ?_, ?_, ?_⟩
  · intro h; rw [bufsShift_bufs]; exact length_shift _ h
  · rw [bufsShift_getD]
    simp only [List.getD_eq_getElem?_getD]
    rw [List.getElem?_eq_none (by omega)]; rfl
  · rw [← hcur]; exact hr
  · intro b hb
    exact bufsLoad_view _ b (hcur.trans hb)
  · intro hb
    exact bufsLoad_view_none _ (hcur.trans hb)

/-! ### D3: the invariants -/

/-- **D3.** the buffer numbers are within `1..bufsCnt` and pairwise different.  (The first conjunct,
    `0 ≤ bufsCnt`, is needed for the invariance: with an empty table and a negative counter the next
    number `bufsCnt + 1` would not be positive.) -/
def IdsOk (ed : Ed) : Prop :=
  0 ≤ ed.bufsCnt ∧
  (∀ i b, ed.bufs.getD i none = some b → 1 ≤ b.id ∧ b.id ≤ ed.bufsCnt) ∧
  (∀ i j bi bj, i ≠ j → ed.bufs.getD i none = some bi → ed.bufs.getD j none = some bj → bi.id ≠ bj.id)

theorem idsOk_iff (ed : Ed) : IdsOk ed ↔ IdsOkL ed.bufs ed.bufsCnt := Iff.rfl

/-- the occupied slots of the table form a prefix -/
def Packed (ed : Ed) : Prop :=
  ∀ i j, i ≤ j → (ed.bufs.getD j none).isSome = true → (ed.bufs.getD i none).isSome = true

theorem packed_iff (ed : Ed) : Packed ed ↔ PackedL ed.bufs := Iff.rfl

theorem getD_replicate_none (n i : Nat) : (List.replicate n (none : Option Buf)).getD i none = none := by
  simp only [List.getD_eq_getElem?_getD, List.getElem?_replicate]
  split <;> rfl

/-- the editor before the first `:e`: an empty table, counter 0 -/
theorem idsOk_init : IdsOk {} := by
  refine ⟨by decide, ?_, ?_⟩
  · intro i b hb; rw [show ({} : Ed).bufs = List.replicate Gen.NBUFS none from rfl, getD_replicate_none] at hb; cases hb
  · intro i j bi bj _ hb; rw [show ({} : Ed).bufs = List.replicate Gen.NBUFS none from rfl, getD_replicate_none] at hb; cases hb

theorem packed_init : Packed {} := by
  intro i j _ hb
  rw [show ({} : Ed).bufs = List.replicate Gen.NBUFS none from rfl, getD_replicate_none] at hb; cases hb

/-- `bufs_open(path)` keeps the numbers unique: the new buffer gets `bufsCnt + 1` -/
theorem idsOk_open (ed : Ed) (p : Bytes) (h : IdsOk ed) : IdsOk (ed.bufsOpen p).2 :=
  idsOkL_set_fresh ed.findRoom (newBuf ed p) rfl h

theorem idsOk_shift (ed : Ed) (h : IdsOk ed) : IdsOk ed.bufsShift := by
  rw [idsOk_iff, bufsShift_bufs, (bufsShift_spec ed).2.2.2.2.2.1]
  exact idsOkL_shift h

theorem packed_shift (ed : Ed) (h : Packed ed) : Packed ed.bufsShift := by
  rw [packed_iff, bufsShift_bufs]
  exact packedL_shift h

theorem leftBufs_id (ed : Ed) (i : Nat) (b : Buf) (h : (leftBufs ed).getD i none = some b) :
    ∃ b', ed.bufs.getD i none = some b' ∧ b'.id = b.id ∧ b'.path = b.path := by
  have hm := leftBufs_map ed (fun x => (x.id, x.path)) (fun _ => rfl) i
  rw [h] at hm
  cases hb : ed.bufs.getD i none with
  | none => rw [hb] at hm; cases hm
  | some b' =>
    rw [hb] at hm
    simp only [Option.map_some, Option.some.injEq, Prod.mk.injEq] at hm
    exact ⟨b', rfl, hm.1.symm, hm.2.symm⟩

theorem leftBufs_isSome (ed : Ed) (i : Nat) :
    ((leftBufs ed).getD i none).isSome = (ed.bufs.getD i none).isSome := by
  have := congrArg Option.isSome (leftBufs_map ed (fun _ => ()) (fun _ => rfl) i)
  simpa using this

theorem switchSrc_inj (idx i j : Nat) (h : switchSrc idx i = switchSrc idx j) : i = j := by
  unfold switchSrc at h
  split at h <;> split at h <;> (try split at h) <;> (try split at h) <;> omega

theorem switchSrc_le (idx j : Nat) (h : j ≤ idx) : switchSrc idx j ≤ idx := by
  unfold switchSrc; split
  · omega
  · omega

theorem bufsSwitch_bufsCnt (ed : Ed) (idx : Nat) : (ed.bufsSwitch idx).bufsCnt = ed.bufsCnt := by
  obtain ⟨_, _, _, _, _, _, _, e⟩ := bufsSwitch_frame ed idx
  rw [e]

/-- `bufs_switch(idx)` keeps the numbers unique -/
theorem idsOk_switch (ed : Ed) (idx : Nat) (h : IdsOk ed) :
    IdsOk (ed.bufsSwitch idx) := by
  rw [idsOk_iff, bufsSwitch_bufsCnt]
  refine idsOkL_transfer (switchSrc idx) (switchSrc_inj idx) (Int.le_refl _) ?_ h
  intro j b hb
  rw [switch_getD ed idx] at hb
  obtain ⟨b', hb', hid, _⟩ := leftBufs_id ed _ b hb
  exact ⟨b', hb', hid⟩

/-- `bufs_switch(idx)` to an occupied slot keeps the occupied slots a prefix -/
theorem packed_switch (ed : Ed) (idx : Nat) (hocc : (ed.bufs.getD idx none).isSome = true) (h : Packed ed) :
    Packed (ed.bufsSwitch idx) := by
  intro i j hij hj
  rw [switch_getD ed idx, leftBufs_isSome] at hj ⊢
  by_cases hi : i ≤ idx
  · exact h _ idx (switchSrc_le idx i hi) hocc
  · rw [switchSrc_gt idx i (by omega)]
    rw [switchSrc_gt idx j (by omega)] at hj
    exact h i j hij hj

/-- `bufs_open(path)` keeps the occupied slots a prefix: the room policy picks the first free slot -/
theorem packed_open (ed : Ed) (p : Bytes) (h : Packed ed) : Packed (ed.bufsOpen p).2 := by
  rw [packed_iff, (open_uses_free_slot ed p).2.1]
  refine packedL_set _ _ ?_ h
  intro j hj
  rcases room_policy ed with ⟨_, _, h3⟩ | ⟨h1, h3⟩
  · exact h3 j hj
  · exact h3 j (by omega)

/-! ### D2: `:b !` deletes the current buffer -/

theorem freshBuf_fields (ed : Ed) :
    (freshBuf ed).path = [] ∧ (freshBuf ed).lb = Lbuf.make ∧ (freshBuf ed).lb.lines = [] ∧
    (freshBuf ed).id = ed.bufsCnt + 1 ∧ (freshBuf ed).row = 0 ∧ (freshBuf ed).off = 0 ∧
    (freshBuf ed).top = 0 ∧ (freshBuf ed).left = 0 ∧ (freshBuf ed).mtime = -1 :=
  ⟨rfl, rfl, rfl, rfl, rfl, rfl, rfl, rfl, rfl⟩

theorem freshBuf_shift (ed : Ed) : freshBuf ed.bufsShift = freshBuf ed := by
  unfold freshBuf; rw [(bufsShift_spec ed).2.2.2.2.2.1]

theorem delEd_second (ed : Ed) (b1 : Buf) (h : ed.bufs.getD 1 none = some b1) : delEd ed = ed.bufsShift := by
  unfold delEd
  rw [bufsShift_cur, h]
  rfl

theorem delEd_last (ed : Ed) (h : ed.bufs.getD 1 none = none) :
    delEd ed = { ed.bufsShift with bufs := ed.bufsShift.bufs.set 0 (some (freshBuf ed)),
                                   bufsCnt := ed.bufsCnt + 1 } := by
  unfold delEd
  rw [bufsShift_cur, h, freshBuf_shift, (bufsShift_spec ed).2.2.2.2.2.1]
  rfl

theorem shift_set0_getD (ed : Ed) (b : Buf) (i : Nat) :
    (ed.bufsShift.bufs.set 0 (some b)).getD i none = if i = 0 then some b else ed.bufs.getD (i + 1) none := by
  rw [getD_set, bufsShift_getD]
  have : 0 < ed.bufsShift.bufs.length := by rw [bufsShift_bufs]; simp
  by_cases hi : i = 0
  · rw [if_pos ⟨hi, this⟩, if_pos hi]
  · rw [if_neg (fun h => hi h.1), if_neg hi]

/-- **D2.** `:b !` (argument starting with `!`): always succeeds, with status 0; nothing is written
    or removed on disk; the table keeps its length and every slot `i ≥ 1` holds the record slot
    `i + 1` held — the whole record: path, number, text, history, marks, stored position.

    * If there was a second buffer (slot 1), the result is `bufs_shift()`: that buffer is now in
      slot 0 and current, its stored position is the view; the counter of numbers is unchanged.
    * If slot 1 was empty, slot 0 gets a new buffer: unnamed, empty (`Lbuf.make`), with the fresh
      number `bufsCnt + 1`; the counter goes up by one; the view is zeroed.  When the occupied slots
      formed a prefix (`Packed`), this buffer is the only one. -/
theorem b_delete_spec (f : Nat) (ed : Ed) (loc cmd arg : Bytes) (txt : Option Bytes) (h : arg.headD 0 = 33) :
    ∃ ed', runCmd (f + 1) ed "ec_buffer" loc cmd arg txt = some (0, ed') ∧
      ed'.files = ed.files ∧
      (0 < ed.bufs.length → ed'.bufs.length = ed.bufs.length) ∧
      (∀ i, 0 < i → ed'.bufs.getD i none = ed.bufs.getD (i + 1) none) ∧
      (∀ b1, ed.bufs.getD 1 none = some b1 →
        ed' = ed.bufsShift ∧ ed'.bufs.getD 0 none = some b1 ∧ ed'.bufsCnt = ed.bufsCnt ∧
        ed'.xrow = b1.row ∧ ed'.xoff = b1.off ∧ ed'.xtop = b1.top ∧ ed'.xleft = b1.left ∧ ed'.xtd = b1.td) ∧
      (ed.bufs.getD 1 none = none →
        ed'.bufs.getD 0 none = some (freshBuf ed) ∧ ed'.bufsCnt = ed.bufsCnt + 1 ∧
        ed'.xrow = 0 ∧ ed'.xoff = 0 ∧ ed'.xtop = 0 ∧ ed'.xleft = 0 ∧ ed'.xtd = 0 ∧
        (Packed ed → ∀ i, 0 < i → ed'.bufs.getD i none = none)) := by
  refine ⟨delEd ed, runCmd_b_delete f ed loc cmd arg txt h, ?_⟩
  obtain ⟨_, hlen, hget, _, hfiles, hcnt, _, hsome, hnone⟩ := bufsShift_spec ed
  cases h1 : ed.bufs.getD 1 none with
  | some b1 =>
    rw [delEd_second ed b1 h1]
    obtain ⟨hc, v1, v2, v3, v4, v5⟩ := hsome b1 h1
    refine ⟨hfiles, hlen, fun i _ => hget i, ?_, ?_⟩
    rotate_left
    · intro hn; cases hn
    intro b hb
    cases hb
    exact ⟨rfl, by rw [hget 0]; exact h1, hcnt, v1, v2, v3, v4, v5⟩
  | none =>
    rw [delEd_last ed h1]
    obtain ⟨_, v1, v2, v3, v4, v5⟩ := hnone h1
    refine ⟨hfiles, ?_, ?_, ?_, fun _ => ⟨?_, rfl, v1, v2, v3, v4, v5, ?_⟩⟩
    · intro hl
      show (ed.bufsShift.bufs.set 0 _).length = _
      rw [List.length_set]; exact hlen hl
    · intro i hi
      show (ed.bufsShift.bufs.set 0 _).getD i none = _
      rw [shift_set0_getD, if_neg (by omega)]
    · intro b hb; cases hb
    · show (ed.bufsShift.bufs.set 0 _).getD 0 none = _
      rw [shift_set0_getD, if_pos rfl]
    · intro hp i hi
      show (ed.bufsShift.bufs.set 0 _).getD i none = _
      rw [shift_set0_getD, if_neg (by omega)]
      cases hx : ed.bufs.getD (i + 1) none with
      | none => rfl
      | some x =>
        have := hp 1 (i + 1) (by omega) (by rw [hx]; rfl)
        rw [h1] at this; cases this

theorem idsOk_delete (ed : Ed) (h : IdsOk ed) : IdsOk (delEd ed) := by
  cases h1 : ed.bufs.getD 1 none with
  | some b1 => rw [delEd_second ed b1 h1]; exact idsOk_shift ed h
  | none =>
    rw [delEd_last ed h1]
    have h2 := idsOk_shift ed h
    rw [idsOk_iff, (bufsShift_spec ed).2.2.2.2.2.1] at h2
    exact idsOkL_set_fresh 0 (freshBuf ed) rfl h2

theorem packed_delete (ed : Ed) (h : Packed ed) : Packed (delEd ed) := by
  cases h1 : ed.bufs.getD 1 none with
  | some b1 => rw [delEd_second ed b1 h1]; exact packed_shift ed h
  | none =>
    rw [delEd_last ed h1]
    exact packedL_set 0 _ (fun j hj => by omega) (packed_shift ed h)

/-! ### D4: `:b ~` renumbers -/

theorem renumEd_eq (ed : Ed) : renumEd ed = { ed with bufs := renumFrom 0 ed.bufs, bufsCnt := occ ed.bufs } := by
  unfold renumEd
  rw [renum_fold]
  simp

/-- **D4.** `:b ~` (argument starting with `~`): always succeeds, with status 0; only the table and
    the counter change; every slot keeps its buffer with everything but the number unchanged; the
    number of the buffer in slot `i` becomes the number of occupied slots among `0..i`; the counter
    becomes the number `occ` of occupied slots.  When the occupied slots form a prefix (`Packed`)
    these are exactly the slots `0..occ-1`, and slot `i` gets number `i + 1`: 1, 2, …, n. -/
theorem b_renumber_spec (f : Nat) (ed : Ed) (loc cmd arg : Bytes) (txt : Option Bytes) (h : arg.headD 0 = 126) :
    ∃ ed', runCmd (f + 1) ed "ec_buffer" loc cmd arg txt = some (0, ed') ∧
      ed' = { ed with bufs := ed'.bufs, bufsCnt := ed'.bufsCnt } ∧
      ed'.bufs.length = ed.bufs.length ∧
      ed'.bufsCnt = (occ ed.bufs : Nat) ∧
      (∀ i, ed'.bufs.getD i none =
        (ed.bufs.getD i none).map (fun x => { x with id := (occ (ed.bufs.take (i + 1)) : Nat) })) ∧
      (Packed ed → ∀ i, (ed.bufs.getD i none).isSome = true ↔ i < occ ed.bufs) ∧
      (Packed ed → ∀ i b, ed.bufs.getD i none = some b →
        ed'.bufs.getD i none = some { b with id := (i : Int) + 1 }) := by
  refine ⟨renumEd ed, runCmd_b_renumber f ed loc cmd arg txt h, ?_⟩
  rw [renumEd_eq]
  refine ⟨rfl, renumFrom_length _ _, rfl, ?_, fun hp i => packed_isSome_iff _ hp i, ?_⟩
  · intro i
    show (renumFrom 0 ed.bufs).getD i none = _
    rw [renumFrom_getD]
    simp
  · intro hp i b hb
    show (renumFrom 0 ed.bufs).getD i none = _
    rw [renumFrom_getD, hb, occ_take_packed ed.bufs i (fun j hj => hp j i hj (by rw [hb]; rfl))]
    simp

/-- `:b ~` establishes unique numbers, whatever they were before -/
theorem idsOk_renumber (ed : Ed) : IdsOk (renumEd ed) := by
  rw [renumEd_eq]; exact idsOkL_renum ed.bufs

theorem packed_renumber (ed : Ed) (h : Packed ed) : Packed (renumEd ed) := by
  rw [renumEd_eq]
  intro i j hij hj
  show ((renumFrom 0 ed.bufs).getD i none).isSome = true
  have hj' : ((renumFrom 0 ed.bufs).getD j none).isSome = true := hj
  rw [renumFrom_getD, Option.isSome_map] at hj' ⊢
  exact h i j hij hj'

/-! ### D5: `:b +` and `:b -` -/

/-- the unsaved-changes guard of `ec_buffer`, then the switch to slot `k` -/
def guardedSwitch (ed : Ed) (cmd : Bytes) (k : Nat) : R Int :=
  match bufferGuard ed cmd with
  | none => none
  | some (true, ed1) => some (1, ed1)
  | some (false, ed1) => some (0, ed1.bufsSwitch k)

theorem switchTo_neg (ed : Ed) (cmd : Bytes) :
    switchTo ed cmd (-1) = some (1, ed.show (strOf "no such buffer")) := by
  unfold switchTo
  simp

theorem switchTo_slot (ed : Ed) (cmd : Bytes) (k : Nat) (b : Buf) (hb : ed.bufs.getD k none = some b) :
    switchTo ed cmd (k : Int) = guardedSwitch ed cmd k := by
  have hk := (mem_of_getD _ _ _ hb).2
  unfold switchTo guardedSwitch
  simp only [Int.toNat_natCast, hb, Option.isSome_some, Bool.and_true]
  rw [if_pos (by simp; omega)]

/-- the failure message changes nothing but the message line -/
theorem show_frame (ed : Ed) (m : Bytes) :
    (ed.show m).bufs = ed.bufs ∧ (ed.show m).bufsCnt = ed.bufsCnt ∧ (ed.show m).files = ed.files ∧
    (ed.show m).xrow = ed.xrow ∧ (ed.show m).xoff = ed.xoff ∧ (ed.show m).xtop = ed.xtop ∧
    (ed.show m).xleft = ed.xleft ∧ (ed.show m).xtd = ed.xtd :=
  ⟨rfl, rfl, rfl, rfl, rfl, rfl, rfl, rfl⟩

theorem idOf_some (ed : Ed) (i : Nat) (x : Int) :
    Lemmas.C20c.idAt ed i = some x ↔ ∃ b, ed.bufs.getD i none = some b ∧ b.id = x := by
  unfold Lemmas.C20c.idAt
  cases ed.bufs.getD i none with
  | none => simp
  | some b => simp

/-- `pickFold_spec` on the table of `ed`, as `switchTo` uses the result: without a candidate the switch fails;
    otherwise it is the guarded switch to a slot holding a candidate that no other candidate beats -/
theorem switchTo_pick (ed : Ed) (cmd : Bytes) (P : Int → Bool) (R : Int → Int → Bool) (hirr : ∀ x, R x x = false)
    (htrans : ∀ x y z, R x y = true → R z y = false → R z x = false) :
    ((∀ i b, ed.bufs.getD i none = some b → P b.id = false) ∧
      switchTo ed cmd (pickFold (Lemmas.C20c.idAt ed) P R ed.bufs.length) = some (1, ed.show (strOf "no such buffer"))) ∨
    (∃ k b, ed.bufs.getD k none = some b ∧ P b.id = true ∧
      (∀ i b', ed.bufs.getD i none = some b' → P b'.id = true → R b'.id b.id = false) ∧
      switchTo ed cmd (pickFold (Lemmas.C20c.idAt ed) P R ed.bufs.length) = guardedSwitch ed cmd k) := by
  have hid : ∀ i b, ed.bufs.getD i none = some b → i < ed.bufs.length ∧ Lemmas.C20c.idAt ed i = some b.id :=
    fun i b hb => ⟨(mem_of_getD _ _ _ hb).2, (idOf_some ed i b.id).2 ⟨b, hb, rfl⟩⟩
  rcases pickFold_spec (Lemmas.C20c.idAt ed) P R hirr htrans ed.bufs.length with ⟨h1, h2⟩ | ⟨k, y, h1, _, hy, hpy, hbest⟩
  · rw [h1]
    exact Or.inl ⟨fun i b hb => h2 i b.id (hid i b hb).1 (hid i b hb).2, switchTo_neg ed cmd⟩
  · obtain ⟨b, hb, rfl⟩ := (idOf_some ed k y).1 hy
    rw [h1]
    exact Or.inr ⟨k, b, hb, hpy, fun i b' hb' hp => hbest i b'.id (hid i b' hb').1 (hid i b' hb').2 hp,
      switchTo_slot ed cmd k b hb⟩

/-- **D5, `:b +`** (argument starting with `+`), exactly what the model does, for every table:
    either no buffer has a number greater than the current one's (0 when there is no current
    buffer) and the command fails with status 1, the state unchanged but for the message
    "no such buffer"; or the command goes on (unsaved-changes guard, then `bufs_switch`) with a slot
    holding the buffer whose number is the least one greater than the current one's. -/
theorem b_next_spec (f : Nat) (ed : Ed) (loc cmd arg : Bytes) (txt : Option Bytes) (h : arg.headD 0 = 43) :
    ((∀ i b, ed.bufs.getD i none = some b → b.id ≤ curId ed) ∧
      runCmd (f + 1) ed "ec_buffer" loc cmd arg txt = some (1, ed.show (strOf "no such buffer"))) ∨
    (∃ k b, ed.bufs.getD k none = some b ∧ curId ed < b.id ∧
      (∀ i b', ed.bufs.getD i none = some b' → curId ed < b'.id → b.id ≤ b'.id) ∧
      runCmd (f + 1) ed "ec_buffer" loc cmd arg txt = guardedSwitch ed cmd k) := by
  rw [runCmd_b_next f ed loc cmd arg txt h]
  simpa [nextIdx] using switchTo_pick ed cmd (fun x => decide (x > curId ed)) (fun x y => decide (x < y))
    (fun x => by simp) (fun x y z h1 h2 => by simp at h1 h2 ⊢; omega)

/-- **D5, `:b -`** (argument starting with `-`): as `:b +`, with the greatest number smaller than
    the current one's -/
theorem b_prev_spec (f : Nat) (ed : Ed) (loc cmd arg : Bytes) (txt : Option Bytes) (h : arg.headD 0 = 45) :
    ((∀ i b, ed.bufs.getD i none = some b → curId ed ≤ b.id) ∧
      runCmd (f + 1) ed "ec_buffer" loc cmd arg txt = some (1, ed.show (strOf "no such buffer"))) ∨
    (∃ k b, ed.bufs.getD k none = some b ∧ b.id < curId ed ∧
      (∀ i b', ed.bufs.getD i none = some b' → b'.id < curId ed → b'.id ≤ b.id) ∧
      runCmd (f + 1) ed "ec_buffer" loc cmd arg txt = guardedSwitch ed cmd k) := by
  rw [runCmd_b_prev f ed loc cmd arg txt h]
  simpa [prevIdx] using switchTo_pick ed cmd (fun x => decide (x < curId ed)) (fun x y => decide (x > y))
    (fun x => by simp) (fun x y z h1 h2 => by simp at h1 h2 ⊢; omega)

/-- under `IdsOk`, `:b +` goes to THE buffer with the least number above the current one's: if slot
    `k` holds it, slot `k` is the one switched to -/
theorem b_next_reaches (f : Nat) (ed : Ed) (loc cmd arg : Bytes) (txt : Option Bytes) (h : arg.headD 0 = 43)
    (hok : IdsOk ed) (k : Nat) (b : Buf) (hb : ed.bufs.getD k none = some b) (hgt : curId ed < b.id)
    (hleast : ∀ i b', ed.bufs.getD i none = some b' → curId ed < b'.id → b.id ≤ b'.id) :
    runCmd (f + 1) ed "ec_buffer" loc cmd arg txt = guardedSwitch ed cmd k := by
  rcases b_next_spec f ed loc cmd arg txt h with ⟨h1, _⟩ | ⟨k', b', hb', hgt', hleast', hr⟩
  · have := h1 k b hb; omega
  · have h1 := hleast k' b' hb' hgt'
    have h2 := hleast' k b hb hgt
    by_cases hk : k' = k
    · rw [← hk]; exact hr
    · exact absurd (by omega) (hok.2.2 k' k b' b hk hb' hb)

/-- under `IdsOk`, `:b -` goes to THE buffer with the greatest number below the current one's -/
theorem b_prev_reaches (f : Nat) (ed : Ed) (loc cmd arg : Bytes) (txt : Option Bytes) (h : arg.headD 0 = 45)
    (hok : IdsOk ed) (k : Nat) (b : Buf) (hb : ed.bufs.getD k none = some b) (hlt : b.id < curId ed)
    (hmost : ∀ i b', ed.bufs.getD i none = some b' → b'.id < curId ed → b'.id ≤ b.id) :
    runCmd (f + 1) ed "ec_buffer" loc cmd arg txt = guardedSwitch ed cmd k := by
  rcases b_prev_spec f ed loc cmd arg txt h with ⟨h1, _⟩ | ⟨k', b', hb', hgt', hleast', hr⟩
  · have := h1 k b hb; omega
  · have h1 := hmost k' b' hb' hgt'
    have h2 := hleast' k b hb hlt
    by_cases hk : k' = k
    · rw [← hk]; exact hr
    · exact absurd (by omega) (hok.2.2 k' k b' b hk hb' hb)

/-! ### the unsaved-changes guard leaves the table's shape and numbers alone -/

/-- `bufs_modified(idx)`: the counter stays; the table changes in slot `idx` at most, and there
    only the sequence counter of the text (`lbuf_modified`) -/
theorem bufsModified_frame (ed ed' : Ed) (idx : Nat) (msg : Option Bytes) (r : Bool)
    (h : bufsModified ed idx msg = some (r, ed')) :
    ed'.bufsCnt = ed.bufsCnt ∧
    ((ed.bufs.getD idx none = none ∧ ed'.bufs = ed.bufs) ∨
     ∃ b, ed.bufs.getD idx none = some b ∧ ed'.bufs = ed.bufs.set idx (some { b with lb := (modified b.lb).2 })) := by
  rcases Lemmas.C20c.bufsModified_shape ed ed' idx msg r h with
    ⟨hb, rfl, _⟩ | ⟨b, hb, ⟨rfl, _⟩ | ⟨_, _, _, rfl⟩ | ⟨_, _, hio⟩⟩
  · exact ⟨rfl, Or.inl ⟨hb, rfl⟩⟩
  · exact ⟨rfl, Or.inr ⟨b, hb, rfl⟩⟩
  · exact ⟨by cases msg <;> rfl, Or.inr ⟨b, hb, by cases msg <;> rfl⟩⟩
  · exact ⟨hio.same.2, Or.inr ⟨b, hb, hio.same.1⟩⟩

/-- the guard of `ec_buffer` keeps the counter, the length of the table, every slot but slot 0, and
    in slot 0 everything but the sequence counter of the text -/
theorem bufferGuard_frame (ed ed1 : Ed) (cmd : Bytes) (r : Bool) (h : bufferGuard ed cmd = some (r, ed1)) :
    ed1.bufsCnt = ed.bufsCnt ∧ ed1.bufs.length = ed.bufs.length ∧
    (∀ i, 0 < i → ed1.bufs.getD i none = ed.bufs.getD i none) ∧
    (∀ i, (ed1.bufs.getD i none).map (fun b => (b.path, b.id, b.row, b.off, b.top, b.left, b.td, b.mtime, b.lb.lines)) =
          (ed.bufs.getD i none).map (fun b => (b.path, b.id, b.row, b.off, b.top, b.left, b.td, b.mtime, b.lb.lines))) := by
  unfold bufferGuard at h
  split at h
  · obtain ⟨hc, hcase⟩ := bufsModified_frame ed ed1 0 _ r h
    rcases hcase with ⟨_, he⟩ | ⟨b, hb, he⟩
    · rw [he]; exact ⟨hc, rfl, fun _ _ => rfl, fun _ => rfl⟩
    · rw [he]
      refine ⟨hc, List.length_set, fun i hi => getD_set_ne _ _ _ _ _ (by omega), fun i => ?_⟩
      rw [getD_set]
      split
      · next hi => rw [hi.1, hb]; rfl
      · rfl
  · cases h; exact ⟨rfl, rfl, fun _ _ => rfl, fun _ => rfl⟩

theorem idsOk_of_ids {ed ed' : Ed} (hcnt : ed'.bufsCnt = ed.bufsCnt)
    (hid : ∀ i, (ed'.bufs.getD i none).map (·.id) = (ed.bufs.getD i none).map (·.id))
    (h : IdsOk ed) : IdsOk ed' := by
  rw [idsOk_iff, hcnt]
  refine idsOkL_transfer id (fun _ _ e => e) (Int.le_refl _) ?_ h
  intro i b hb
  have := hid i
  rw [hb] at this
  cases hx : ed.bufs.getD i none with
  | none => rw [hx] at this; cases this
  | some b' =>
    rw [hx] at this
    simp only [Option.map_some, Option.some.injEq] at this
    exact ⟨b', hx, this.symm⟩

theorem packed_of_ids {ed ed' : Ed}
    (hid : ∀ i, (ed'.bufs.getD i none).map (·.id) = (ed.bufs.getD i none).map (·.id))
    (h : Packed ed) : Packed ed' := by
  intro i j hij hj
  have e1 := congrArg Option.isSome (hid i)
  have e2 := congrArg Option.isSome (hid j)
  simp only [Option.isSome_map] at e1 e2
  rw [e1]; rw [e2] at hj
  exact h i j hij hj

theorem bufferGuard_ids {ed ed1 : Ed} {cmd : Bytes} {r : Bool} (h : bufferGuard ed cmd = some (r, ed1)) (i : Nat) :
    (ed1.bufs.getD i none).map (·.id) = (ed.bufs.getD i none).map (·.id) := by
  have := congrArg (fun o => o.map (fun t : Bytes × Int × Int × Int × Int × Int × Int × Int × List Bytes => t.2.1))
    ((bufferGuard_frame ed ed1 cmd r h).2.2.2 i)
  simpa [Option.map_map, Function.comp_def] using this

theorem idsOk_guard (ed ed1 : Ed) (cmd : Bytes) (r : Bool) (h : bufferGuard ed cmd = some (r, ed1))
    (hok : IdsOk ed) : IdsOk ed1 :=
  idsOk_of_ids (bufferGuard_frame ed ed1 cmd r h).1 (bufferGuard_ids h) hok

theorem packed_guard (ed ed1 : Ed) (cmd : Bytes) (r : Bool) (h : bufferGuard ed cmd = some (r, ed1))
    (hp : Packed ed) : Packed ed1 :=
  packed_of_ids (bufferGuard_ids h) hp

theorem switch_reaches (ed : Ed) (idx : Nat) (b : Buf) (hb : ed.bufs.getD idx none = some b) :
    ∃ b', (ed.bufsSwitch idx).cur = some b' ∧ b'.id = b.id ∧ b'.path = b.path := by
  have h0 := switch_getD ed idx 0
  have hs := leftBufs_isSome ed idx
  rw [hb] at hs
  cases hl : (leftBufs ed).getD idx none with
  | none => rw [hl] at hs; cases hs
  | some b' =>
    obtain ⟨b'', hb'', hid, hp⟩ := leftBufs_id ed idx b' hl
    rw [hb] at hb''
    cases hb''
    refine ⟨b', ?_, hid.symm, hp.symm⟩
    show (ed.bufsSwitch idx).bufs.getD 0 none = _
    rw [h0]
    simpa [switchSrc] using hl

/-! ### D3, consequence: `:b N` reaches THE buffer with number `N` -/

theorem number_unique (ed : Ed) (hok : IdsOk ed) (i j : Nat) (bi bj : Buf)
    (hi : ed.bufs.getD i none = some bi) (hj : ed.bufs.getD j none = some bj) (hid : bi.id = bj.id) :
    i = j ∧ bi = bj := by
  by_cases hij : i = j
  · subst hij; rw [hi] at hj; cases hj; exact ⟨rfl, rfl⟩
  · exact absurd hid (hok.2.2 i j bi bj hij hi hj)

/-- **`b_number_unique`.** Under `IdsOk`, `:b N` (once the unsaved-changes guard has passed)
    switches to the slot of the buffer numbered `N`, wherever it is — there is exactly one such
    slot —, and the buffer that is current afterwards has number `N` and that buffer's path. -/
theorem b_number_unique (f : Nat) (ed ed1 : Ed) (loc cmd arg : Bytes) (txt : Option Bytes) (i : Nat) (b : Buf)
    (hok : IdsOk ed) (hd : isDigitC (arg.headD 0) = true)
    (hb : ed.bufs.getD i none = some b) (hid : b.id = exAtoi arg)
    (hguard : bufferGuard ed cmd = some (false, ed1)) :
    runCmd (f + 1) ed "ec_buffer" loc cmd arg txt = some (0, ed1.bufsSwitch i) ∧
    (∀ j b', ed.bufs.getD j none = some b' → b'.id = exAtoi arg → j = i ∧ b' = b) ∧
    (∃ b', (ed1.bufsSwitch i).cur = some b' ∧ b'.id = exAtoi arg ∧ b'.path = b.path) := by
  refine ⟨?_, ?_, ?_⟩
  · refine b_number f ed ed1 loc cmd arg txt i b hd hb hid ?_ hguard
    intro j b' hj hb' hid'
    have := (number_unique ed hok j i b' b hb' hb (by omega)).1
    omega
  · intro j b' hb' hid'
    exact number_unique ed hok j i b' b hb' hb (by omega)
  · have hv := (bufferGuard_frame ed ed1 cmd false hguard).2.2.2 i
    rw [hb] at hv
    cases hx : ed1.bufs.getD i none with
    | none => rw [hx] at hv; cases hv
    | some b1 =>
      rw [hx] at hv
      simp only [Option.map_some, Option.some.injEq, Prod.mk.injEq] at hv
      obtain ⟨b', hc, h1, h2⟩ := switch_reaches ed1 i b1 hx
      exact ⟨b', hc, by rw [h1, hv.2.1, hid], by rw [h2, hv.1]⟩

/-! ### D3: every `:b arg` keeps the invariants -/

/-- for an argument that starts with neither `!` nor `~`, `ec_buffer` ends in `switchTo` -/
theorem runCmd_b_switch (f : Nat) (ed : Ed) (loc cmd arg : Bytes) (txt : Option Bytes) (h0 : arg.isEmpty = false)
    (h33 : arg.headD 0 ≠ 33) (h126 : arg.headD 0 ≠ 126) :
    ∃ idx, runCmd (f + 1) ed "ec_buffer" loc cmd arg txt = switchTo ed cmd idx := by
  rw [runCmd_buffer f ed loc cmd arg txt h0]
  unfold ecBufferTail
  rw [if_neg (by simpa using h33), if_neg (by simpa using h126)]
  exact ⟨_, rfl⟩

theorem switchTo_invariants (ed ed' : Ed) (cmd : Bytes) (idx r : Int) (h : switchTo ed cmd idx = some (r, ed')) :
    (IdsOk ed → IdsOk ed') ∧ (Packed ed → Packed ed') := by
  unfold switchTo at h
  split at h
  · next hc =>
    simp only [Bool.and_eq_true, decide_eq_true_eq] at hc
    obtain ⟨⟨hge, hlt⟩, hsome⟩ := hc
    split at h
    · cases h
    · next ed1 hg =>
      cases h
      exact ⟨idsOk_guard ed _ cmd true hg, packed_guard ed _ cmd true hg⟩
    · next ed1 hg =>
      cases h
      obtain ⟨_, _, _, hv⟩ := bufferGuard_frame ed ed1 cmd false hg
      refine ⟨fun hok => idsOk_switch _ _ (idsOk_guard ed _ cmd false hg hok),
        fun hp => packed_switch _ _ ?_ (packed_guard ed _ cmd false hg hp)⟩
      have := congrArg Option.isSome (hv idx.toNat)
      simp only [Option.isSome_map] at this
      rw [this]; exact hsome
  · cases h
    exact ⟨fun hok => hok, fun hp => hp⟩

/-- **D3.** every `ec_buffer` command with an argument (`:b !`, `:b ~`, `:b +`, `:b -`, `:b N`,
    `:b %|#|^`, anything else), whatever its outcome, keeps the buffer numbers unique and within
    `1..bufsCnt`, and keeps the occupied slots a prefix -/
theorem ec_buffer_invariants (f : Nat) (ed ed' : Ed) (loc cmd arg : Bytes) (txt : Option Bytes) (r : Int)
    (h0 : arg.isEmpty = false) (h : runCmd (f + 1) ed "ec_buffer" loc cmd arg txt = some (r, ed')) :
    (IdsOk ed → IdsOk ed') ∧ (Packed ed → Packed ed') := by
  by_cases h33 : arg.headD 0 = 33
  · rw [runCmd_b_delete f ed loc cmd arg txt h33] at h
    cases h
    exact ⟨idsOk_delete ed, packed_delete ed⟩
  · by_cases h126 : arg.headD 0 = 126
    · rw [runCmd_b_renumber f ed loc cmd arg txt h126] at h
      cases h
      exact ⟨fun _ => idsOk_renumber ed, packed_renumber ed⟩
    · obtain ⟨idx, hs⟩ := runCmd_b_switch f ed loc cmd arg txt h0 h33 h126
      rw [hs] at h
      exact switchTo_invariants ed ed' cmd idx r h

/-! ### D3: opening a buffer the way `ec_edit` does (`bufs_open` then `bufs_switch` to the new slot) -/

theorem idsOk_open_switch (ed : Ed) (p : Bytes) (h : IdsOk ed) :
    IdsOk ((ed.bufsOpen p).2.bufsSwitch (ed.bufsOpen p).1) :=
  idsOk_switch _ _ (idsOk_open ed p h)

theorem packed_open_switch (ed : Ed) (p : Bytes) (hl : 0 < ed.bufs.length) (h : Packed ed) :
    Packed ((ed.bufsOpen p).2.bufsSwitch (ed.bufsOpen p).1) := by
  refine packed_switch _ _ ?_ (packed_open ed p h)
  show ((ed.bufsOpen p).2.bufs.getD ed.findRoom none).isSome = true
  rw [(open_uses_free_slot ed p).2.2.2.2.2.2.2 hl]
  rfl

/-- the first open from the initial editor (what `ex_init` does to the table) -/
theorem idsOk_first_open (p : Bytes) :
    IdsOk ((({} : Ed).bufsOpen p).2.bufsSwitch (({} : Ed).bufsOpen p).1) ∧
    Packed ((({} : Ed).bufsOpen p).2.bufsSwitch (({} : Ed).bufsOpen p).1) :=
  ⟨idsOk_open_switch _ p idsOk_init, packed_open_switch _ p (by decide) packed_init⟩

/-! ### D6: non-vacuity

`exEd` (from `Props/C20.lean`): three buffers "a", "b", "c" with numbers 1, 2, 3 in slots 0, 1, 2;
"a" is current. -/

theorem exEd_idsOk : IdsOk exEd := idsOkL_of_check _ _ (by decide +kernel)
theorem exEd_packed : Packed exEd := packedL_of_check _ (by decide +kernel)

/-- "c" current, then "a", "b" (after `bufs_switch(2)`) -/
def exEdC : Ed := exEd.bufsSwitch 2

/-- one buffer "a" with number 1 -/
def exOne : Ed :=
  { bufs := [some { path := [97], lb := { lines := [[120, 10]] }, id := 1 }] ++ List.replicate 15 none,
    bufsCnt := 1, xrow := 4, xoff := 1, files := [⟨[97], [120, 10], 7⟩] }

-- `:b !` with three buffers: "a" is gone, "b" (stored position 1/3) is current, "c" follows; the
-- numbers 2, 3 and the counter stay; the file system is untouched
example : runCmd 5 exEd "ec_buffer" [] [98] [33] none = some (0, delEd exEd) ∧
    ((delEd exEd).bufs.take 3).map exView =
      [some ([98], [[121, 10], [122, 10]], 1, 3, 2), some ([99], [], 7, 0, 3), none] ∧
    ((delEd exEd).bufs.length, (delEd exEd).bufsCnt, (delEd exEd).xrow, (delEd exEd).xoff) = (16, 3, 1, 3) ∧
    (delEd exEd).files = exEd.files := by
  refine ⟨runCmd_b_delete 4 exEd [] [98] [33] none rfl, ?_, ?_, ?_⟩ <;> decide +kernel

-- `:b !` with one buffer: an unnamed empty buffer with the fresh number 2 takes its place; the file
-- "a" stays on disk
example : runCmd 5 exOne "ec_buffer" [] [98] [33] none = some (0, delEd exOne) ∧
    ((delEd exOne).bufs.take 3).map exView = [some ([], [], 0, 0, 2), none, none] ∧
    ((delEd exOne).bufs.length, (delEd exOne).bufsCnt, (delEd exOne).xrow, (delEd exOne).xoff) = (16, 2, 0, 0) ∧
    (delEd exOne).files = exOne.files ∧
    ((delEd exOne).bufs.drop 1).all Option.isNone = true := by
  refine ⟨runCmd_b_delete 4 exOne [] [98] [33] none rfl, ?_, ?_, ?_, ?_⟩ <;> decide +kernel

-- `:b ~` after the deletion: "b", "c" get the numbers 1, 2 and the counter becomes 2; text and
-- stored positions stay
example : runCmd 5 (delEd exEd) "ec_buffer" [] [98] [126] none = some (0, renumEd (delEd exEd)) ∧
    ((renumEd (delEd exEd)).bufs.take 3).map exView =
      [some ([98], [[121, 10], [122, 10]], 1, 3, 1), some ([99], [], 7, 0, 2), none] ∧
    ((renumEd (delEd exEd)).bufs.length, (renumEd (delEd exEd)).bufsCnt) = (16, 2) := by
  refine ⟨runCmd_b_renumber 4 _ [] [98] [126] none rfl, ?_, ?_⟩ <;> decide +kernel

-- `:b +` from "a" (number 1) goes to slot 1 ("b", number 2); with option wa set the guard lets go
example : nextIdx exEd = 1 ∧ prevIdx exEd = -1 := by decide +kernel
example : (runCmd 5 { exEd with xwa := 1 } "ec_buffer" [] [98] [43] none).map
    (fun r => (r.1, r.2.cur.map (fun b => (b.path, b.id)), r.2.xrow, r.2.xoff)) = some (0, some ([98], 2), 1, 3) := by
  rw [runCmd_b_next 4 _ [] [98] [43] none rfl]; decide +kernel
-- `:b -` from "a": there is no smaller number — status 1, the table as it was
example : (runCmd 5 { exEd with xwa := 1 } "ec_buffer" [] [98] [45] none).map
    (fun r => (r.1, r.2.msg, (r.2.bufs.take 3).map exView == (exEd.bufs.take 3).map exView)) =
    some (1, strOf "no such buffer" ++ [10], true) := by
  rw [runCmd_b_prev 4 _ [] [98] [45] none rfl]; decide +kernel
-- with "c" (number 3) current and the table in the order c, a, b: `:b -` goes to "b" in slot 2 (the
-- greatest smaller number, not the nearest slot), `:b +` fails
example : nextIdx exEdC = -1 ∧ prevIdx exEdC = 2 := by decide +kernel
example : (runCmd 5 { exEdC with xwa := 1 } "ec_buffer" [] [98] [45] none).map
    (fun r => (r.1, r.2.cur.map (fun b => (b.path, b.id)))) = some (0, some ([98], 2)) := by
  rw [runCmd_b_prev 4 _ [] [98] [45] none rfl]; decide +kernel

-- the invariants travel: after a deletion, a renumbering, an open, a switch
example : IdsOk (delEd exEd) ∧ Packed (delEd exEd) := ⟨idsOk_delete _ exEd_idsOk, packed_delete _ exEd_packed⟩
example : IdsOk (renumEd (delEd exEd)) ∧ Packed (renumEd (delEd exEd)) :=
  ⟨idsOk_renumber _, packed_renumber _ (packed_delete _ exEd_packed)⟩
example : IdsOk (exEd.bufsOpen [100]).2 ∧ Packed (exEd.bufsOpen [100]).2 :=
  ⟨idsOk_open _ _ exEd_idsOk, packed_open _ _ exEd_packed⟩
example : IdsOk exEdC ∧ Packed exEdC :=
  ⟨idsOk_switch _ 2 exEd_idsOk, packed_switch _ 2 (by decide) exEd_packed⟩
-- a table that is not `IdsOk` (two buffers numbered 1) is told apart by the checker
example : checkIds [some { path := [97], lb := Lbuf.make, id := 1 }, some { path := [98], lb := Lbuf.make, id := 1 }] 1 = false := by
  decide +kernel

-- `ex_init` with one file name: one buffer, number 1, counter 1
example : (exInit {} [[97]]).map (fun r => decide (r.1 = 0) &&
    decide ((r.2.bufs.take 2).map (fun b => b.map (fun b => (b.path, b.id))) = [some ([97], 1), none]) &&
    decide (r.2.bufsCnt = 1) && checkIds r.2.bufs r.2.bufsCnt && checkPacked r.2.bufs) = some true := by
  rw [exInit, show ecEdit FUEL = ecEdit ((FUEL - 1) + 1) from rfl, ecEdit]; decide +kernel

end Neatvi.Props.C20b
