import NeatviVerif.Lemmas.C20cEx
import NeatviVerif.Lemmas.C20cQuit
import NeatviVerif.Lemmas.C20cList
import NeatviVerif.Lemmas.C20cVi
import NeatviVerif.Lemmas.C20cSolo
/-!
# C20c  Buffers over whole command histories: locality, the listing `:b`, `:q` with a dirty buffer,
  `:e` of an open path

`Props/C20.lean` and `Props/C20b.lean` give the one-step laws of the buffer table.  Here:

* (a) every form of `:b`, the listing included, keeps the table invariants; what the listing prints;
* (b) **locality** over whole runs: every ex command line, whatever it contains (`|`-lists, `:g`,
  `:@`, `:e +cmd`), is a sequence of *atomic table steps* (`Chain`); in such a run the state of a
  buffer at the end is linked to its state at the start through the steps taken *while it is
  current* (`own`, `Linked`) — nothing else touches it; and every command dispatched while it is
  current acts on it *as if the other buffers were not there* (`AsIfAlone`, `withTail`, `solo`);
* (c) `:q` with a dirty buffer anywhere in the table: the editor keeps running, the *first dirty
  buffer in table order* becomes current, no buffer changes;
* (d) `:e path` of an open path does not look at the file system — `:e!` neither.

Vocabulary (definitions in `Lemmas/C20c*.lean`):
`Loc ed ed'` — a step on the current buffer: every parked slot is *exactly* as it was;
`withTail L ed` — `ed` with the parked slots replaced by `L`; `solo ed` — `ed` with nothing parked
(but a stub naming the alternate file, which `#` in a file name reads);
`Quiet ed ed'` — nothing observable moved (sequence counters `useq` may have been bumped);
`obsAt ed i` — what is observed of the buffer in slot `i`: path, text, undo history, marks (the `Lb`
value with `useq` zeroed), position (the editor's view when current, the stored one when parked),
time stamp; the dirty flag is a function of it (`dirty_obsB`);
`TableOk ed` — 16 slots, unique numbers in `1..bufsCnt`, occupied slots a prefix.
-/
namespace Neatvi.Props.C20c
open Neatvi Neatvi.Lbuf Neatvi.Ex Neatvi.Vi Neatvi.Props.C20 Neatvi.Props.C20b Neatvi.Lemmas.C20c

/-! ## (a) every form of `:b` -/

/-- **`:b` without an argument** (the listing) returns 0, changes no buffer (up to sequence
    counters), no buffer number, no view, nothing but the table's counters and the output; it
    prints one line per buffer of the occupied prefix of the table, in table order (`listOut`:
    number in two columns, alias `%`/`#`/`^`, path, `*` if modified). -/
theorem b_list_spec (f : Nat) (ed : Ed) (loc cmd arg : Bytes) (txt : Option Bytes) (h : arg.isEmpty = true) :
    runCmd (f + 1) ed "ec_buffer" loc cmd arg txt = some (0, listEd ed) ∧
    Quiet ed (listEd ed) ∧ OutOnly ed (listEd ed) ∧
    (listEd ed).out = ed.out ++ listOut ed.bufs.length 0 ed.bufs :=
  ⟨runCmd_b_list f ed loc cmd arg txt h, quiet_listEd ed, by rw [listEd_eq]; exact listFrom_outOnly _ _ _,
    by rw [listEd_eq]; exact listFrom_out _ _ _⟩

/-- **every form of `:b`** — no argument, `!`, `~`, `+`, `-`, a number, an alias, anything else —
    keeps the buffer numbers unique and within `1..bufsCnt` and keeps the occupied slots a prefix,
    whatever its outcome.  (`C20b.ec_buffer_invariants` without its hypothesis on the argument.) -/
theorem ec_buffer_invariants_all (f : Nat) (ed ed' : Ed) (loc cmd arg : Bytes) (txt : Option Bytes) (r : Int)
    (h : runCmd (f + 1) ed "ec_buffer" loc cmd arg txt = some (r, ed')) :
    (IdsOk ed → IdsOk ed') ∧ (Packed ed → Packed ed') :=
  Lemmas.C20c.ec_buffer_invariants_all f ed ed' loc cmd arg txt r h

/-- the same with the length of the table -/
theorem ec_buffer_tableOk (f : Nat) (ed ed' : Ed) (loc cmd arg : Bytes) (txt : Option Bytes) (r : Int)
    (h : runCmd (f + 1) ed "ec_buffer" loc cmd arg txt = some (r, ed')) (hok : TableOk ed) : TableOk ed' :=
  buffer_T tableOk_closed f ed ed' loc cmd arg txt r h hok

-- the listing of three buffers "a" (modified), "b" (modified), "c" (clean)
example : listOut 16 0 exEdDirty.bufs = strOf " 1 % a *\n 2 # b *\n 3 ^ c  \n" := by decide +kernel
example : IdsOk (listEd exEd) ∧ Packed (listEd exEd) :=
  ⟨(ec_buffer_invariants_all 0 exEd _ [] [98] [] none 0 (runCmd_b_list 0 exEd [] [98] [] none rfl)).1 exEd_idsOk,
   (ec_buffer_invariants_all 0 exEd _ [] [98] [] none 0 (runCmd_b_list 0 exEd [] [98] [] none rfl)).2 exEd_packed⟩

/-- CONJECTURE (false): a command given while another buffer is current leaves the `Lb` value of
    a parked buffer *exactly* as it was. -/
def parked_lb_exact : Prop :=
  ∀ (ed ed' : Ed) (r : Int) (i : Nat), 0 < i → runCmd 1 ed "ec_buffer" [] [98] [] none = some (r, ed') →
    (ed'.bufs.getD i none).map (·.lb) = (ed.bufs.getD i none).map (·.lb)

/-- the listing bumps the sequence counter `useq` of every listed buffer (`lbuf_modified` does, and
    the listing calls it for the `*`): with "a", "b", "c" open, `:b` takes `useq` of the parked "b"
    from 1 to 2.  The same happens in `:q` (all slots) and in `:e newfile` (the slot `bufs_open` is
    going to take).  Hence the statements of this file are about `obsAt`: the record with `useq`
    zeroed.  Text, history, marks, dirty flag are untouched (`Quiet`). -/
theorem parked_lb_exact_is_false : ¬ parked_lb_exact := by
  intro h
  have := congrArg (fun o => o.map (fun lb : Lb => lb.useq))
    (h exEd (listEd exEd) 0 1 (by omega) (runCmd_b_list 0 exEd [] [98] [] none rfl))
  revert this
  decide +kernel

/-! ## (b) locality -/

/-- **one command, parked buffers.**  Every ex command other than `:e`, `:b`, `:q`/`:wq`/`:x`, `:g`/`:v`
    and `:@` (these work on the table or run other lines) is a local step: whatever it does — `:w`,
    `:w path`, `:r`, `:s`, `:d`, `:pu`, `:u`, `:redo`, `:!`, `:k`, `:se`, … — every parked buffer
    record is exactly what it was, slot 0 keeps its number. -/
theorem command_is_local (f : Nat) (ed ed' : Ed) (hd : String) (loc cmd arg : Bytes) (txt : Option Bytes) (r : Int)
    (hl : tableHandler hd = false) (h : runCmd (f + 1) ed hd loc cmd arg txt = some (r, ed')) : Loc ed ed' :=
  runCmd_local f ed ed' hd loc cmd arg txt r hl h

/-- `:w`-type commands do not change other buffers: `ec_write` is a local step -/
theorem write_is_local (ed ed' : Ed) (loc cmd arg : Bytes) (r : Int)
    (h : ecWrite ed loc cmd arg = some (r, ed')) : Loc ed ed' := loc_rel.ofLStep (Lemmas.ExStep.LStep.ecWrite h)

/-- what a local step leaves alone, slot by slot -/
theorem local_keeps_parked (ed ed' : Ed) (h : Loc ed ed') (i : Nat) (hi : 0 < i) :
    ed'.bufs.getD i none = ed.bufs.getD i none ∧ obsAt ed' i = obsAt ed i :=
  ⟨h.getD i hi, step_obs (ev := .loc) h i i rfl (fun _ => by omega)⟩

/-- **every command line is a sequence of atomic table steps**, for every line and every fuel:
    local steps (`loc`), dispatches of local commands (`cmd`), quiet steps, `bufs_switch`,
    `bufs_open`, `bufs_shift`, the fresh buffer of `:b !`, `:b ~` (`StepOk` says what each is) -/
theorem line_is_steps (f : Nat) (ed ed' : Ed) (ln : Bytes) (r : Int) (h : exExec f ed ln = some (r, ed')) :
    ∃ tr, Chain ed tr ed' := exExec_T steps_closed h

/-- the same for `ex_command` (a line, then `lbuf_modified` on the current buffer) -/
theorem command_is_steps (f : Nat) (ed ed' : Ed) (ln : Bytes) (r : Int) (h : exCommand f ed ln = some (r, ed')) :
    ∃ tr, Chain ed tr ed' := exCommand_T steps_closed h

/-- the same for a `:` command or a shortcut calling `ex_command` in vi mode -/
theorem vi_colon_is_steps (ln : Bytes) (s s' : VS) (rc : Int) (h : exCommandV ln s = Res.ok rc s') :
    ∃ tr, Chain s.ed tr s'.ed := exCommandV_T steps_closed ln s s' rc h

/-- the same for a whole script of command lines -/
theorem script_is_steps (f : Nat) (lines : List Bytes) (ed ed' : Ed) (h : runLines f ed lines = some ed') :
    ∃ tr, Chain ed tr ed' := runLines_T steps_closed f lines ed ed' h

/-- **one atomic step keeps what is observed of every record it does not delete** — the current
    one in a step acting on the current buffer (`isOwn`: a local step, a dispatched command) excepted: a switch moves records (storing the view of the buffer left,
    loading that of the buffer reached), a quiet step bumps counters, `bufs_open` and `bufs_shift`
    touch one slot, `:b ~` changes numbers only -/
theorem step_keeps_observation (ed ed' : Ed) (ev : Ev) (h : StepOk ed ev ed') (i j : Nat) (hm : ev.move i = some j)
    (hloc : ev.isOwn = true → i ≠ 0) : obsAt ed' j = obsAt ed i := step_obs h i j hm hloc

/-- a record disappears only when it is the current buffer and `:b !` deletes it, or when
    `bufs_open` takes its slot -/
theorem deleted_only_by (ev : Ev) (i : Nat) :
    ev.move i = none ↔ (ev = .shift ∧ i = 0) ∨ (ev = .fresh ∧ i = 0) ∨ ev = .opn i := move_none_iff ev i

/-- … and `bufs_open` takes an occupied slot only when all of the first 15 are occupied: it is then
    the last one (`C20.open_keeps_all`, `C20.open_full_evicts_last`) -/
theorem open_takes_last_only (ed : Ed) (p : Bytes) :
    (ed.findRoom < ed.bufs.length - 1 → ∀ j b, ed.bufs.getD j none = some b → (ed.bufsOpen p).2.bufs.getD j none = some b) ∧
    ((∀ j, j < ed.bufs.length - 1 → (ed.bufs.getD j none).isSome = true) → (ed.bufsOpen p).1 = ed.bufs.length - 1) :=
  ⟨open_keeps_all ed p, open_full_evicts_last ed p⟩

/-- **locality.**  Along a run (`Chain`), let the record that starts in slot `i` end in slot `j`
    (`track`).  Its observed state at the end is `Linked` to its observed state at the start through
    `own tr i` — the projection of the run onto this buffer: the local steps taken while it is
    current, each starting with the buffer exactly as the previous one left it.  Whatever happens
    while another buffer is current leaves it as it was. -/
theorem locality (tr : Trace) (ed ed' : Ed) (i j : Nat) (h : Chain ed tr ed') (ht : track tr i = some j) :
    Linked (obsAt ed i) (own tr i) (obsAt ed' j) := Lemmas.C20c.locality tr ed ed' i j h ht

/-- the steps of the projection are steps of the run acting on the current buffer (`Loc`: no parked
    buffer changes) -/
theorem projection_is_local (tr : Trace) (ed ed' : Ed) (h : Chain ed tr ed') (i : Nat) (s : Ed × Ev × Ed)
    (hs : s ∈ own tr i) : s ∈ tr ∧ s.2.1.isOwn = true ∧ Loc s.1 s.2.2 :=
  ⟨(own_mem tr i s hs).1, (own_mem tr i s hs).2, own_loc tr ed ed' h i s hs⟩

/-- **the parked buffers do not influence a local command.**  For every ex command other than `:e`,
    `:b`, `:q`/`:wq`/`:x`, `:g`/`:v`, `:@`: run with the parked slots replaced by any list `L` of
    buffers (naming the same alternate file — `#` in a file name reads that name), it returns the same
    value and leaves the same editor: current buffer, view, registers, options, files, output,
    messages; and `L` is still what is parked. -/
theorem parked_do_not_influence (L : List (Option Buf)) (f : Nat) (ed : Ed) (hA : Alt L ed) (hd : String)
    (loc cmd arg : Bytes) (txt : Option Bytes) (hl : tableHandler hd = false) :
    runCmd f (withTail L ed) hd loc cmd arg txt = tailR L (runCmd f ed hd loc cmd arg txt) :=
  runCmd_withTail_any L f ed hA hd loc cmd arg txt hl

/-- the same for a whole line of such commands (`c1|c2|…`; `localLine` is a check on the text of the
    line): a local step, the same with any other buffers parked, the same on the buffer alone -/
theorem local_line_alone (f : Nat) (ed ed' : Ed) (ln : Bytes) (r : Int) (hq : localLine ln = true)
    (h : exExec f ed ln = some (r, ed')) :
    Loc ed ed' ∧ (∀ L, Alt L ed → exExec f (withTail L ed) ln = some (r, withTail L ed')) ∧
    exExec f (solo ed) ln = some (r, solo ed') := by
  have hl := exExec_local f ed ed' ln r hq h
  refine ⟨hl, fun L hA => ?_, ?_⟩
  · rw [exExec_withTail L f ed ln hA hq, h]; rfl
  · unfold solo
    rw [exExec_withTail _ f ed ln (alt_altStub ed) hq, h, altStub_loc hl]
    rfl

/-- **every command dispatched while a buffer is current acts on it as if it were alone**: the
    `cmd` steps of the projection are dispatches `runCmd … = some (r, after)` that give the same
    result with any other parked buffers, and on the buffer alone (`solo`) -/
theorem own_commands_as_if_alone (tr : Trace) (ed ed' : Ed) (h : Chain ed tr ed') (i : Nat) (s : Ed × Ev × Ed)
    (hs : s ∈ own tr i) : AsIfAlone s :=
  stepOk_alone (chain_mem tr ed ed' h s (own_mem tr i s hs).1)

/-- the environment matters: what a buffer's own command does depends on the registers (the
    search pattern, the options, the files, …), which commands given while *other* buffers were
    current may have set.  Hence "running only its own commands on it" has to take the environment
    from the actual run: that is what `own` records (the whole editor before each step) and what
    `solo` keeps.  Witness: `:pu` with the unnamed register unset and set. -/
theorem own_commands_need_environment :
    (runCmd 1 exEd "ec_put" [] [112, 117] [] none).map (fun r => r.2.cur.map (fun b => b.lb.lines)) ≠
    (runCmd 1 { exEd with regs := exEd.regs.put 0 [113, 10] 1 } "ec_put" [] [112, 117] [] none).map
      (fun r => r.2.cur.map (fun b => b.lb.lines)) := by
  have h1 : (runCmd 1 exEd "ec_put" [] [112, 117] [] none).map (fun r => r.2.cur.map (fun b => b.lb.lines)) =
      some (some [[120, 10]]) := by
    rw [Lemmas.C20.runCmd_put]
    decide +kernel
  have h2 : (runCmd 1 { exEd with regs := exEd.regs.put 0 [113, 10] 1 } "ec_put" [] [112, 117] [] none).map
      (fun r => r.2.cur.map (fun b => b.lb.lines)) = some (some [[120, 10], [113, 10]]) := by
    rw [Lemmas.C20.runCmd_put]
    decide +kernel
  rw [h1, h2]
  decide

/-- a buffer that is never current during a local step of the run ends as it started -/
theorem untouched (tr : Trace) (ed ed' : Ed) (i j : Nat) (h : Chain ed tr ed') (ht : track tr i = some j)
    (hown : own tr i = []) : obsAt ed' j = obsAt ed i := Lemmas.C20c.untouched tr ed ed' i j h ht hown

/-- the number of a buffer travels with it, as long as `:b ~` is not used -/
theorem number_travels (tr : Trace) (ed ed' : Ed) (i j : Nat) (h : Chain ed tr ed') (ht : track tr i = some j)
    (hre : ∀ s ∈ tr, s.2.1 ≠ Ev.renum) : idAt ed' j = idAt ed i := track_idAt tr ed ed' i j h ht hre

/-- when a record does not survive the run, it is lost at one definite step: a deletion while it is
    current, or `bufs_open` taking its slot -/
theorem lost_at_one_step (tr : Trace) (i : Nat) (h : track tr i = none) :
    ∃ pre a ev b post k, tr = pre ++ (a, ev, b) :: post ∧ track pre i = some k ∧
      ((ev = .shift ∧ k = 0) ∨ (ev = .fresh ∧ k = 0) ∨ ev = .opn k) := by
  induction tr generalizing i with
  | nil => cases h
  | cons s tr ih =>
    obtain ⟨a, ev, b⟩ := s
    simp only [track] at h
    cases hm : ev.move i with
    | none => exact ⟨[], a, ev, b, tr, i, rfl, rfl, (move_none_iff ev i).1 hm⟩
    | some m =>
      rw [hm] at h
      simp only [Option.bind_some] at h
      obtain ⟨pre, a', ev', b', post, k, e, ht, hc⟩ := ih m h
      refine ⟨(a, ev, b) :: pre, a', ev', b', post, k, by rw [e]; rfl, ?_, hc⟩
      simp only [track, hm, Option.bind_some]
      exact ht

/-- **locality, by buffer number.**  On a well-formed table, along a run without `:b ~`: the buffer
    numbered `n`, if it survives, still has number `n`, sits in the slot the tracking says, and its
    state is linked to its initial state through its own steps alone. -/
theorem locality_by_number (tr : Trace) (ed ed' : Ed) (hok : TableOk ed) (hc : Chain ed tr ed')
    (hre : ∀ s ∈ tr, s.2.1 ≠ Ev.renum) (n : Int) (i j : Nat) (hs : slotOf ed n = some i)
    (ht : track tr i = some j) :
    slotOf ed' n = some j ∧ Linked (obsAt ed i) (own tr i) (obsAt ed' j) :=
  Lemmas.C20c.locality_by_number tr ed ed' hok hc hre n i j hs ht

/-- **locality for scripts.**  For every list of ex command lines run one after the other from any
    state, there is a decomposition of the run into atomic table steps such that every buffer's
    final state is linked to its initial state through the steps taken while it was current (its
    projection); each of these steps leaves every parked buffer exactly as it was, and each command
    among them acts on the buffer as if it were alone; and the table stays well-formed. -/
theorem script_locality (f : Nat) (lines : List Bytes) (ed ed' : Ed) (h : runLines f ed lines = some ed') :
    ∃ tr, Chain ed tr ed' ∧ (TableOk ed → TableOk ed') ∧
      (∀ i j, track tr i = some j → Linked (obsAt ed i) (own tr i) (obsAt ed' j)) ∧
      (∀ i s, s ∈ own tr i → Loc s.1 s.2.2 ∧ AsIfAlone s) := by
  obtain ⟨tr, hc⟩ := script_is_steps f lines ed ed' h
  exact ⟨tr, hc, chain_tableOk tr ed ed' hc, fun i j ht => Lemmas.C20c.locality tr ed ed' i j hc ht,
    fun i s hs => ⟨own_loc tr ed ed' hc i s hs, own_commands_as_if_alone tr ed ed' hc i s hs⟩⟩

/-- `:b !` removes the current buffer only: every other buffer is kept as it was, one slot nearer
    the front, with its number -/
theorem delete_keeps_others (ed : Ed) (i : Nat) (hi : 0 < i) (hocc : (ed.bufs.getD i none).isSome = true) :
    obsAt (delEd ed) (i - 1) = obsAt ed i ∧ idAt (delEd ed) (i - 1) = idAt ed i := by
  have hm : Ev.shift.move i = some (i - 1) := by simp [Ev.move]; omega
  rcases delEd_steps ed with ⟨_, hs⟩ | ⟨h1, hs1, hs2⟩
  · exact ⟨step_obs hs i (i - 1) hm (by intro h; cases h), step_idAt hs i (i - 1) hm (by intro h; cases h)⟩
  · have hi1 : i ≠ 1 := by intro h; subst h; rw [h1] at hocc; cases hocc
    have hm2 : Ev.fresh.move (i - 1) = some (i - 1) := by simp [Ev.move]; omega
    exact ⟨(step_obs hs2 (i - 1) (i - 1) hm2 (by intro h; cases h)).trans (step_obs hs1 i (i - 1) hm (by intro h; cases h)),
      (step_idAt hs2 (i - 1) (i - 1) hm2 (by intro h; cases h)).trans (step_idAt hs1 i (i - 1) hm (by intro h; cases h))⟩

/-- the dirty flag, the text, the path are read off what is observed -/
theorem observed_fields (ed : Ed) (i : Nat) (b : Buf) (h : ed.bufs.getD i none = some b) :
    ∃ o, obsAt ed i = some o ∧ (modified o.lb).1 = (modified b.lb).1 ∧ o.lb.lines = b.lb.lines ∧
      o.lb.hist = b.lb.hist ∧ o.lb.histU = b.lb.histU ∧ o.lb.mark = b.lb.mark ∧ o.path = b.path ∧
      o.mtime = b.mtime ∧ (0 < i → o.row = b.row ∧ o.off = b.off) ∧ (i = 0 → o.row = ed.xrow ∧ o.off = ed.xoff) := by
  refine ⟨obsB (viewed ed i b), by unfold obsAt; rw [h]; rfl, ?_⟩
  unfold viewed
  split
  · next h0 => exact ⟨rfl, rfl, rfl, rfl, rfl, rfl, rfl, fun hi => by omega, fun _ => ⟨rfl, rfl⟩⟩
  · next h0 => exact ⟨rfl, rfl, rfl, rfl, rfl, rfl, rfl, fun _ => ⟨rfl, rfl⟩, fun hi => absurd hi h0⟩

/-! ### the table of a running editor -/

/-- every reachable state — from an empty table through `ex_init`, command lines, `ex_command`,
    rounds of `ex()`, and arbitrary local steps — has a well-formed table: 16 slots, unique buffer
    numbers within `1..bufsCnt`, the occupied slots a prefix -/
theorem reachable_table_ok (ed : Ed) (h : Reach ed) : TableOk ed := by
  induction h with
  | init ed hb hc => exact tableOk_init ed hb hc
  | exInit _ h ih => exact exInit_T tableOk_closed h ih
  | exec _ h ih => exact exExec_T tableOk_closed h ih
  | command _ h ih => exact exCommand_T tableOk_closed h ih
  | step _ h ih => exact exStep_T tableOk_closed h ih
  | loc _ h ih => exact tableOk_loc h ih

/-- every command line keeps the table well-formed -/
theorem line_keeps_table_ok (f : Nat) (ed ed' : Ed) (ln : Bytes) (r : Int) (h : exExec f ed ln = some (r, ed'))
    (hok : TableOk ed) : TableOk ed' := exExec_T tableOk_closed h hok

/-! ### non-vacuity -/

-- a script runs: `:b 2`, `:ec hi`, `:b`, `:b !` on three buffers "a" (current), "b", "c"
example : runLines 2 edS scriptS = some edS4 := scriptS_runs
-- "a" is current again with its view 5/2, "c" parked, "b" gone; sequence counters have moved
example : (edS4.bufs.take 3).map exView = [some ([97], [[120, 10]], 5, 2, 1), some ([99], [], 7, 0, 3), none] ∧
    (edS4.xrow, edS4.xoff) = (5, 2) ∧
    (edS4.bufs.take 2).map (fun b => b.map (·.lb.useq)) = [some 3, some 2] ∧
    (edS.bufs.take 3).map (fun b => b.map (·.lb.useq)) = [some 1, some 1, some 1] := scriptS_result
example : TableOk edS := ⟨by decide, exEd_idsOk, exEd_packed⟩
example : Reach { exEd with bufs := List.replicate 16 none, bufsCnt := 0 } := Reach.init _ rfl rfl

-- a run written out: switch to "b", delete its first line, switch back to "a"
example : Chain edS chainE (edE.bufsSwitch 1) := chainE_ok
-- "a" (slot 0) ends in slot 0, "b" (slot 1) in slot 1, "c" stays in slot 2
example : track chainE 0 = some 0 ∧ track chainE 1 = some 1 ∧ track chainE 2 = some 2 := by decide
-- the projections: nothing for "a" and "c", the deletion for "b"
example : own chainE 0 = [] ∧ own chainE 2 = [] ∧ (own chainE 1).length = 1 := by
  refine ⟨by simp [own, chainE, Ev.move, Ev.isOwn], by simp [own, chainE, Ev.move, Ev.isOwn],
    by simp [own, chainE, Ev.move, Ev.isOwn]⟩
-- hence "a" and "c" are as they were …
example : obsAt (edE.bufsSwitch 1) 0 = obsAt edS 0 :=
  untouched chainE edS _ 0 0 chainE_ok (by decide) (by simp [own, chainE, Ev.move, Ev.isOwn])
-- … and "b" has lost its first line, remembers it for undo, is dirty, and rests on row 0
example : ((edE.bufsSwitch 1).bufs.getD 1 none).map (fun b => (b.path, b.lb.lines, b.lb.hist.length, (modified b.lb).1, b.row)) =
    some ([98], [[122, 10]], 1, true, 1) := by decide +kernel

-- the hypotheses of `parked_do_not_influence` and `local_line_alone` are satisfiable: `:pu` in an
-- editor whose unnamed register holds a line; the line `pu` is a local line and runs
example : Alt (altStub exEd) exEd ∧ tableHandler "ec_put" = false ∧ localLine [112, 117] = true :=
  ⟨alt_altStub exEd, by decide, by decide +kernel⟩
example : ∃ r ed', exExec 2 { exEd with regs := exEd.regs.put 0 [113, 10] 1 } [112, 117] = some (r, ed') := by
  have h : (runCmd 1 { exEd with regs := exEd.regs.put 0 [113, 10] 1 } "ec_put" [] [112, 117] [] none).isSome = true := by
    rw [Lemmas.C20.runCmd_put]
    decide +kernel
  obtain ⟨⟨r, ed1⟩, hr⟩ := Option.isSome_iff_exists.1 h
  refine ⟨r, ed1, Props.C06b.exExec_single 1 _ ed1 _ [112, 117] "ec_put" r (by decide) (by decide) (by decide +kernel) (by decide)
    (by decide +kernel) ?_⟩
  rw [show (Lemmas.C06b.parse1 [112, 117]).loc = [] by decide +kernel,
    show (Lemmas.C06b.parse1 [112, 117]).cmd = [112, 117] by decide +kernel,
    show (Lemmas.C06b.parse1 [112, 117]).arg = [] by decide +kernel]
  exact hr
-- a line with a table command is not a local line
example : localLine (strOf "pu|b 2") = false ∧ localLine (strOf "g/x/d") = false ∧ localLine (strOf "1,2d|u|w") = true := by
  decide +kernel

/-! ## (c) `:q` with a dirty buffer somewhere -/

/-- **`:q` refuses while any buffer is dirty and switches to the first dirty one.**  `:q` / `:quit`
    (no `!`, not `:wq`/`:x`/`:xa`), autowrite off; `j` the first slot in table order (0 = current,
    1 = alternate, …) holding a modified buffer.  Then: status 0, the editor keeps running (`xquit`
    unchanged), the message "buffer modified", the file system untouched, the table a rotation
    bringing slot `j` to the front; every buffer is observed exactly as before, in its new slot,
    with its number; the buffer made current is that of slot `j` (same number, same path, still
    modified). -/
theorem quit_refuses_any_dirty (f : Nat) (ed : Ed) (loc cmd arg : Bytes) (txt : Option Bytes)
    (hw : cmd.headD 0 ≠ 119 ∧ cmd.headD 0 ≠ 120) (hbang : hasBang cmd = false) (hall : cmd.contains 97 = false)
    (haw : ed.xaw = 0) (j : Nat) (bj : Buf) (hbj : ed.bufs.getD j none = some bj)
    (hdj : (modified bj.lb).1 = true)
    (hfirst : ∀ k b, k < j → ed.bufs.getD k none = some b → (modified b.lb).1 = false) :
    ∃ ed', runCmd (f + 1) ed "ec_quit" loc cmd arg txt = some (0, ed') ∧
      ed'.xquit = ed.xquit ∧ ed'.files = ed.files ∧
      ed'.msg = ed.msg ++ strOf "buffer modified" ++ [10] ∧
      (∀ i, obsAt ed' (if i = j then 0 else if i < j then i + 1 else i) = obsAt ed i) ∧
      (∀ i, idAt ed' (if i = j then 0 else if i < j then i + 1 else i) = idAt ed i) ∧
      ed'.bufs.length = ed.bufs.length ∧
      ∃ b', ed'.cur = some b' ∧ b'.id = bj.id ∧ b'.path = bj.path ∧ (modified b'.lb).1 = true := by
  obtain ⟨ed1, he, hq, ⟨bufs1, ht⟩⟩ := Lemmas.C20c.quit_first_dirty f ed loc cmd arg txt hw hbang hall haw j bj hbj hdj hfirst
  have hq2 : Quiet ed (ed1.show (strOf "buffer modified")) := hq.trans (quiet_show _ _)
  -- every record is seen as before in the slot it moved to; what is observed of it and its number are read off that
  have hsl : ∀ i, slotV ((ed1.show (strOf "buffer modified")).bufsSwitch j)
      (if i = j then 0 else if i < j then i + 1 else i) = slotV ed i := by
    intro i
    rw [switch_slotV]
    exact step_slotV (ev := .quiet) hq2 i i rfl (by intro h; cases h) (by intro h; cases h)
  have hobs : ∀ i, obsAt ((ed1.show (strOf "buffer modified")).bufsSwitch j)
      (if i = j then 0 else if i < j then i + 1 else i) = obsAt ed i := fun i => by rw [obsAt_slotV, obsAt_slotV, hsl]
  have hid : ∀ i, idAt ((ed1.show (strOf "buffer modified")).bufsSwitch j)
      (if i = j then 0 else if i < j then i + 1 else i) = idAt ed i := fun i => by rw [idAt_slotV, idAt_slotV, hsl]
  refine ⟨_, he, ?_, ?_, ?_, hobs, hid, ?_, ?_⟩
  · rw [Props.C20.switch_xquit, ht]; rfl
  · rw [switch_files, ht]; rfl
  · rw [bufsSwitch_msg, ht]; rfl
  · rw [switch_length _ _ (by rw [hq2.len]; exact (Lemmas.C02Ex.getD_some hbj).1), hq2.len]
  · have h0 := hobs j
    have h1 := hid j
    rw [if_pos rfl] at h0 h1
    unfold obsAt at h0
    unfold idAt at h1
    rw [hbj] at h0 h1
    cases hc : ((ed1.show (strOf "buffer modified")).bufsSwitch j).bufs.getD 0 none with
    | none => rw [hc] at h0; cases h0
    | some b' =>
      rw [hc] at h0 h1
      simp only [Option.map_some, Option.some.injEq] at h0 h1
      refine ⟨b', hc, h1, ?_, ?_⟩
      · have := congrArg Buf.path h0
        have e1 : ∀ (e : Ed) (i : Nat) (b : Buf), (obsB (viewed e i b)).path = b.path := by
          intro e i b; unfold viewed; split <;> rfl
        rw [e1, e1] at this; exact this
      · have := congrArg (fun b : Buf => (modified b.lb).1) h0
        simp only [dirty_obsB, dirty_viewed] at this
        rw [this]; exact hdj

/-- the exact state: the clean slots before `j` and slot `j` have their sequence counters bumped
    (`ed1`, which differs from `ed` in the table only), the message is shown, then `bufs_switch(j)` -/
theorem quit_first_dirty (f : Nat) (ed : Ed) (loc cmd arg : Bytes) (txt : Option Bytes)
    (hw : cmd.headD 0 ≠ 119 ∧ cmd.headD 0 ≠ 120) (hbang : hasBang cmd = false) (hall : cmd.contains 97 = false)
    (haw : ed.xaw = 0) (j : Nat) (bj : Buf) (hbj : ed.bufs.getD j none = some bj)
    (hdj : (modified bj.lb).1 = true)
    (hfirst : ∀ k b, k < j → ed.bufs.getD k none = some b → (modified b.lb).1 = false) :
    ∃ ed1, runCmd (f + 1) ed "ec_quit" loc cmd arg txt =
        some (0, (ed1.show (strOf "buffer modified")).bufsSwitch j) ∧
      Quiet ed ed1 ∧ TableOnly ed ed1 :=
  Lemmas.C20c.quit_first_dirty f ed loc cmd arg txt hw hbang hall haw j bj hbj hdj hfirst

/-- "a" clean and current, "b" and "c" modified -/
def edQ : Ed :=
  { exEd with bufs := [some { path := [97], lb := { lines := [[120, 10]] }, id := 1 },
             some { path := [98], lb := unsavedMark { lines := [[121, 10]] }, id := 2, row := 0, off := 1 },
             some { path := [99], lb := unsavedMark { lines := [] }, id := 3 }] ++ List.replicate 13 none }

-- `:q` there: the hypotheses hold with `j = 1`; the editor keeps running and "b" — the first dirty
-- buffer in table order, not "c" — is current afterwards
example : ∃ ed', runCmd 1 edQ "ec_quit" [] [113] [] none = some (0, ed') ∧ ed'.xquit = false ∧
    ∃ b', ed'.cur = some b' ∧ b'.id = 2 ∧ b'.path = [98] := by
  obtain ⟨ed', h1, h2, _, _, _, _, _, b', h3, h4, h5, _⟩ :=
    quit_refuses_any_dirty 0 edQ [] [113] [] none (by decide) (by decide) (by decide) rfl 1
      { path := [98], lb := unsavedMark { lines := [[121, 10]] }, id := 2, row := 0, off := 1 } rfl (by decide)
      (by
        intro k b hk hb
        have : k = 0 := by omega
        subst this
        have e : edQ.bufs.getD 0 none = some { path := [97], lb := { lines := [[120, 10]] }, id := 1 } := rfl
        rw [e] at hb; cases hb; decide)
  exact ⟨ed', h1, h2, b', h3, h4, h5⟩

/-! ## (d) `:e path` of an open path -/

/-- **`:e path` of a path that is open never looks at the file system** (autowrite off, no `+cmd`;
    `hg`: the unsaved-changes guard lets go, `hp`: the argument expands to `path`, `hf`: some slot
    holds a buffer of that path): the command is the switch to that slot; run with any other file
    system `fs` in place of the editor's it does the same and leaves `fs` as it is; the file system
    is untouched.  With `cmd = "e!"` the guard is void and the statement covers `:e!` as well: the
    `!` does not force a reload. -/
theorem reedit_open_path_no_reload (f : Nat) (ed ed1 ed2 : Ed) (cmd arg path : Bytes) (fs : List File)
    (haw : ed.xaw = 0)
    (hg : editGuard ed cmd = some (false, ed1))
    (hplus : (arg.dropWhile (· == 32)).headD 0 ≠ 43)
    (hp : pathExpand ed1 (arg.dropWhile (· == 32)) false = some (some path, ed2))
    (hne : path ≠ [])
    (hf : (ewPre ed2 cmd path).bufsFind path ≥ 0) :
    ecEdit (f + 1) ed cmd arg =
      some (0, (ewPre ed2 cmd path).bufsSwitch ((ewPre ed2 cmd path).bufsFind path).toNat) ∧
    ecEdit (f + 1) (withFiles fs ed) cmd arg =
      some (0, withFiles fs ((ewPre ed2 cmd path).bufsSwitch ((ewPre ed2 cmd path).bufsFind path).toNat)) ∧
    ((ewPre ed2 cmd path).bufsSwitch ((ewPre ed2 cmd path).bufsFind path).toNat).files = ed.files := by
  have hfiles1 : ed1.files = ed.files := (Lemmas.C02c.editGuard_sameTable ed ed1 cmd false haw hg).files
  have hfiles2 : ed2.files = ed1.files := (Lemmas.C02c.pathExpand_sameTable ed1 ed2 _ _ _ hp).files
  refine ⟨reopen_does_not_reread f ed ed1 ed2 cmd arg path hg hplus hp hne hf, ?_, ?_⟩
  · have hg' : editGuard (withFiles fs ed) cmd = some (false, withFiles fs ed1) := by
      unfold editGuard at hg ⊢
      have e1 : (withFiles fs ed).cur = ed.cur := rfl
      have e2 : (withFiles fs ed).xwa = ed.xwa := rfl
      rw [e1, e2]
      split
      · next hc =>
        rw [if_pos hc] at hg
        rw [bufsModified_withFiles fs ed 0 _ haw, hg]; rfl
      · next hc =>
        rw [if_neg hc] at hg
        cases hg; rfl
    have hp' : pathExpand (withFiles fs ed1) (arg.dropWhile (· == 32)) false = some (some path, withFiles fs ed2) := by
      rw [pathExpand_withFiles, hp]; rfl
    have hf' : (ewPre (withFiles fs ed2) cmd path).bufsFind path ≥ 0 := by
      rw [ewPre_withFiles]; exact hf
    have := reopen_does_not_reread f (withFiles fs ed) _ _ cmd arg path hg' hplus hp' hne hf'
    rw [this, ewPre_withFiles, bufsSwitch_withFiles]
    rfl
  · rw [reopen_files, hfiles2, hfiles1]

/-- CONJECTURE (false): `:e! path` re-reads the file of a buffer that is already open. -/
def e_bang_reloads : Prop :=
  ∀ (ed ed' : Ed) (r : Int) (path : Bytes) (fl : File), ed.findFile path = some fl → ed.bufsFind path ≥ 0 →
    ecEdit 5 ed [101, 33] path = some (r, ed') → ed'.cur.map (·.lb.lines) = some (splitLines fl.data)

/-- with "c" open and empty while the file "c" holds a line, `:e! c` switches to the buffer and
    leaves it empty (in the C code as in the model: `ec_edit` looks at the `!` for the guard only,
    and `bufs_find(path) >= 0` comes before any `open`).  Only `:e` / `:e!` *without a path*
    re-reads the current file. -/
theorem e_bang_reloads_is_false : ¬ e_bang_reloads := by
  intro h
  have hx : (ecEdit 5 exEd [101, 33] [99]).map (fun r => r.2.cur.map (fun b => b.lb.lines)) = some (some []) := by
    rw [ecEdit]; decide +kernel
  cases he : ecEdit 5 exEd [101, 33] [99] with
  | none => rw [he] at hx; cases hx
  | some x =>
    obtain ⟨r, ed'⟩ := x
    rw [he] at hx
    have := h exEd ed' r [99] ⟨[99], [113, 10], 44⟩ (by decide) (by decide) he
    simp only [Option.map_some, Option.some.injEq] at hx
    rw [hx] at this
    revert this
    decide

-- the hypotheses of `reedit_open_path_no_reload` hold for `:e! c` in `exEd` (where "c" is open)
example : editGuard exEd [101, 33] = some (false, exEd) ∧
    (([99] : Bytes).dropWhile (· == 32)).headD 0 ≠ 43 ∧
    (pathExpand exEd (([99] : Bytes).dropWhile (· == 32)) false).map (·.1) = some (some [99]) ∧
    (ewPre exEd [101, 33] [99]).bufsFind [99] ≥ 0 := by
  refine ⟨rfl, by decide, by decide +kernel, by decide +kernel⟩

end Neatvi.Props.C20c
